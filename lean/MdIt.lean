/-
  The library root: every `Gen`, `Model` and `Props` module, so that one `lake build MdIt` elaborates
  them in one environment and two declarations with the same full name in different modules show up as a
  clash.  The `Lemmas` modules come in through the `Props` modules that use them (the one at the end, which only
  an `Audit` module uses, is named here); the `Audit` modules
  (`#print axioms` per property) are leaves on top of `Props` and are built by name.
-/
import MdIt.Gen.Consts
import MdIt.Gen.Entities
import MdIt.Gen.Unicode
import MdIt.Gen.Punct
import MdIt.Model.Alt
import MdIt.Model.Block
import MdIt.Model.CodePair
import MdIt.Model.Entity
import MdIt.Model.ErasedSet
import MdIt.Model.HtmlDecode
import MdIt.Model.Html
import MdIt.Model.BlockH
import MdIt.Model.InlineH
import MdIt.Model.PipelineH
import MdIt.Model.Inline
import MdIt.Model.InlineOps
import MdIt.Model.Join
import MdIt.Model.Lines
import MdIt.Model.Link
import MdIt.Model.Nesting
import MdIt.Model.NodeRender
import MdIt.Model.ParserState
import MdIt.Model.Pipeline
import MdIt.Model.Refs
import MdIt.Model.Render
import MdIt.Model.Ruler
import MdIt.Model.SourceMap
import MdIt.Model.Tree
import MdIt.Model.Url
import MdIt.Props.Block
import MdIt.Props.C01
import MdIt.Props.C02
import MdIt.Props.C03
import MdIt.Props.C04
import MdIt.Props.C05
import MdIt.Props.C06
import MdIt.Props.C07
import MdIt.Props.C08
import MdIt.Props.C09
import MdIt.Props.C10
import MdIt.Props.C11
import MdIt.Props.C12
import MdIt.Props.C13
import MdIt.Props.C14
import MdIt.Props.C15
import MdIt.Props.C16
import MdIt.Props.C17
import MdIt.Props.C18
import MdIt.Props.C19
import MdIt.Props.C20
import MdIt.Props.CodePair
import MdIt.Props.HtmlDecode
import MdIt.Props.Inline
import MdIt.Props.NodeRender
import MdIt.Props.Pipeline
import MdIt.Props.LinksDoc
import MdIt.Props.GenC17
import MdIt.Props.GenC02
import MdIt.Props.C02Doc
import MdIt.Props.C14Doc
import MdIt.Props.C10Doc
import MdIt.Props.C05Doc
import MdIt.Props.C06List
import MdIt.Props.EmphDepth
import MdIt.Props.EmphDepthDoc
import MdIt.Props.BlockTotal
import MdIt.Props.DocTotal
import MdIt.Props.C12Doc
import MdIt.Props.C05Inline
import MdIt.Props.InlineTotal
import MdIt.Props.C12Ctx
import MdIt.Props.C10Sourcepos
import MdIt.Props.C05Rest
import MdIt.Props.MemoSafe
import MdIt.Props.C05Tabs
import MdIt.Props.DocTotal2
import MdIt.Props.C13Trace
import MdIt.Props.C11Nested
import MdIt.Props.C06ListBlank
import MdIt.Props.HrefConverse
import MdIt.Props.HrefNodup
import MdIt.Props.C17Set
import MdIt.Props.TotalTabs
import MdIt.Props.C11Span
import MdIt.Props.Html
import MdIt.Props.C16Doc
import MdIt.Props.BlockH
import MdIt.Props.C11SpanMulti
import MdIt.Props.GenHtml
import MdIt.Props.InlineH
import MdIt.Props.C13Doc
import MdIt.Props.C11SpanCtx
import MdIt.Props.GenTranslated
import MdIt.Props.PipelineH
import MdIt.Props.C16Block
import MdIt.Props.InlineHWindow
import MdIt.Lemmas.C05TabsBdSplice
