/-
  C06 — Container prefixing changes neither interpretation nor source mapping.

  "Prefixing every line of a tab-free document D with '> ' renders exactly as a blockquote element
   wrapped around the rendering of D, and placing D as continuation blocks of a loose list item (each
   line indented by the marker width) renders exactly as the list wrapper around the rendering of D.
   Under the block-quote transformation the tree below the quote is the tree of D with every source
   range shifted by exactly the inserted prefix bytes."

  Proved here, on the block-parser model `MdIt.Model.Block` (for ALL lines / texts).  Stated for their own sake,
  on a single line / a run of lines (the simulation does not go through them):

    entries     `quote_view` (+ `quote_view_shift`): the table entry of `"> " ++ l` after the block-quote
                rule's rewriting (`bqRewrite`) has the indent of `l`, the text of `l`, and
                `first_nonspace`, `line_end` moved by exactly the prefix bytes;
                `item_view`: the same for `l` indented by the marker width under `blk_indent = w`
    content     `viewPiece_item`, `get_lines_quote`, `get_lines_item`: `get_lines` returns the same content
                for D's lines and for the prefixed / indented lines (nothing of the prefix is copied, no tab
                is split)

  The mechanism behind `quote_commutes` is the container simulation `Li.Nest.Sim` of `Lemmas/C06Nest.lean` (one
  relation for both containers, preserved by every rule in real mode and by the tokenizer for every fuel; its
  look-ahead part is `testRules_same_view`, `Lemmas/BlockLook.lean`).  Here:

    quote       the block quote is the instance `quoteNest L` (`w = 2`, `d = 0`, one level): `prefixLines`, `sigma`,
                `shiftEntry`, `QRel`, `Tbl`, `Sim L s s'` written out with `Sim.nest` into the general relation,
                `Tbl.getLines`, `hr_sim`, `tokenize_sim`; the list item is `Lemmas/C06ListSim.lean`
    whole doc   `quote_commutes`: for a tab-free D (< 2 GiB) and a chain with the block-quote rule behind
                code/fence/hr/list/reference/heading only, `parseBlocks cfg D = ok (root, refs)` implies
                that, with one more level of nesting allowed, `prefixQuote D` parses to a root with one
                child, a block quote over all lines, whose children are `relocNodes sigma root.children`,
                with the same reference map; `sigma_spec`: byte `x` of line `i` ↦ byte `2 + x` of line `i`
                of the prefixed document.  Examples below it instantiate it (stock chain, a 16-line
                document in which all nine rules fire) and show that each hypothesis is needed
                (nesting limit, chain order, tabs).
  together with `Props/Block.lean`: `tokenize_progress` (the nested tokenizer hands the table back as
  it found it), `bqScan_spec` (the quote restores every entry it rewrote), `tokenize_mono` (more fuel
  does not change a result), `tokenize_exit`.
  The list half at whole-document level: `Props/C06List.lean`, `Props/C06ListBlank.lean`.
-/
import MdIt.Lemmas.C06Nest
import MdIt.Lemmas.BlockSingle
set_option linter.unusedSimpArgs false

namespace MdIt.Block
open MdIt.Lines (LineOffset NoTerm AllBlank lead mkOff)

/-! ## `quote_view` -/

theorem lead_cons_nonblank {c : Char} (l : List Char) (hc : Lines.isBlank c = false) : lead (c :: l) = [] := by
  simp [lead, List.takeWhile, hc]

/-- **`quote_view`.**  Let `l` be a tab-free, terminator-free line and let `"> " ++ l` sit in a source
    at byte `|P|`; `o` is the entry `generate_caches` makes for it.  The block-quote rule's rewriting
    (`bqRewrite`: `find_indent_of` from behind the `>`, minus the one optional space) yields the entry

        line_start = |P|, line_end = |P| + 2 + |l|, first_nonspace = |P| + 2 + #blanks(l),
        indent_nonspace = #blanks(l)

    i.e. — compared with the entry `mkOff p₀ (l, _)` of `l` itself at byte `p₀` of another text —
    the same indent, and `first_nonspace`, `line_end` moved by exactly `|P| + 2 − p₀` (the inserted
    prefix bytes up to and including this line's); `last_line_empty` iff `l` is blank. -/
theorem quote_view (P l Q t : List Char) (htab : '\t' ∉ l) :
    bqRewrite (P ++ ('>' :: ' ' :: l) ++ Q) (mkOff (Lines.byteLen P) ('>' :: ' ' :: l, t)) (' ' :: l)
      = .ok (⟨Lines.byteLen P, Lines.byteLen P + 2 + Lines.byteLen l,
               Lines.byteLen P + 2 + (lead l).length, ((lead l).length : Int)⟩,
             (lead l).length == Lines.byteLen l) := by
  have hlead : lead ('>' :: ' ' :: l) = [] := lead_cons_nonblank _ (by decide)
  have hsp := lead_spaces htab
  have hbl : Lines.byteLen ('>' :: ' ' :: l) = 2 + Lines.byteLen l := by
    simp [show '>'.utf8Size = 1 by decide, show ' '.utf8Size = 1 by decide]; omega
  have hsl : Lines.slice (P ++ ('>' :: ' ' :: l) ++ Q) (Lines.byteLen P)
      (Lines.byteLen P + Lines.byteLen ('>' :: ' ' :: l)) = .ok ('>' :: ' ' :: l) := Lines.slice_append _ _ _
  -- the text behind `>`: one space, the blanks of `l`, the rest of `l`
  have hfi := findIndent_tabfree ['>'] (' ' :: lead l) (l.dropWhile Lines.isBlank) (by decide)
    (by intro c hc; simp at hc; rcases hc with rfl | hc; rfl; exact hsp c hc)
    (by
      intro c r h hc
      have := Lines.head_dropWhile h
      rw [Lines.isBlank_iff.mpr hc] at this
      cases this)
  have hline : ['>'] ++ ' ' :: lead l ++ l.dropWhile Lines.isBlank = '>' :: ' ' :: l := by
    simp [Lines.lead_append_rest l]
  rw [hline] at hfi
  simp only [show Lines.byteLen ['>'] = 1 by decide, List.length_cons] at hfi
  unfold bqRewrite
  simp only [mkOff, hlead, List.length_nil, Nat.add_zero, hsl, liftL, ok_bind, psub,
    show Lines.byteLen P ≤ Lines.byteLen P + 1 by omega, if_true,
    show Lines.byteLen P + 1 - Lines.byteLen P = 1 by omega, hfi,
    show Lines.byteLen P ≤ Lines.byteLen P + Lines.byteLen ('>' :: ' ' :: l) by omega,
    bqOptSpace, show isBlank ' ' = true by decide, pure, Except.pure,
    show (1 : Nat) ≤ (lead l).length + 1 by omega]
  simp only [bind, Except.bind, hbl]
  have e1 : Lines.byteLen P + (2 + Lines.byteLen l) = Lines.byteLen P + 2 + Lines.byteLen l := by omega
  have e2 : 1 + ((lead l).length + 1) + Lines.byteLen P = Lines.byteLen P + 2 + (lead l).length := by omega
  have e3 : (lead l).length + 1 - 1 = (lead l).length := by omega
  have e4 : (1 + ((lead l).length + 1) == Lines.byteLen P + 2 + Lines.byteLen l - Lines.byteLen P)
      = ((lead l).length == Lines.byteLen l) := by
    rw [show Lines.byteLen P + 2 + Lines.byteLen l - Lines.byteLen P = 2 + Lines.byteLen l by omega]
    apply Bool.eq_iff_iff.mpr
    simp only [beq_iff_eq]
    omega
  rw [e1, e2, e3, e4]

def quoteEntry (P l : List Char) : LineOffset :=
  ⟨Lines.byteLen P, Lines.byteLen P + 2 + Lines.byteLen l, Lines.byteLen P + 2 + (lead l).length,
   ((lead l).length : Int)⟩

/-- …presents the view of `l`: the same text, the same indent, every byte position of the fresh entry
    `mkOff p₀ (l, _)` of `l` moved by `|P| + 2 − p₀`; the blanks in front of the text are the blanks
    of `l` behind the prefix `"> "` -/
theorem quote_view_shift (P l Q t' : List Char) (p0 : Nat) (htab : '\t' ∉ l) :
    (quoteEntry P l).firstNonspace + p0 = (mkOff p0 (l, t')).firstNonspace + (Lines.byteLen P + 2) ∧
    (quoteEntry P l).lineEnd + p0 = (mkOff p0 (l, t')).lineEnd + (Lines.byteLen P + 2) ∧
    (quoteEntry P l).indentNonspace = (mkOff p0 (l, t')).indentNonspace ∧
    Lines.lineText (P ++ ('>' :: ' ' :: l) ++ Q) (quoteEntry P l) = .ok (l.dropWhile Lines.isBlank) ∧
    Lines.lineWs (P ++ ('>' :: ' ' :: l) ++ Q) (quoteEntry P l) = .ok ('>' :: ' ' :: lead l) := by
  have hw : Lines.indentWidth (lead l) = (lead l).length :=
    indentWidth_tabfree _ (fun h => htab ((List.takeWhile_sublist _).subset h))
  have hl := Lines.lead_append_rest l
  have hbl := congrArg Lines.byteLen hl
  simp only [Lines.byteLen_append, Lines.byteLen_lead] at hbl
  refine ⟨by simp [quoteEntry, mkOff]; omega, by simp [quoteEntry, mkOff]; omega,
    by simp [quoteEntry, mkOff, hw], ?_, ?_⟩
  · refine Lines.slice_eq_ok_iff.mpr ⟨P ++ '>' :: ' ' :: lead l, Q, ?_, ?_, ?_⟩
    · conv => lhs; rw [← hl]
      simp [List.append_assoc]
    · simp [quoteEntry, Lines.byteLen_lead, show '>'.utf8Size = 1 by decide, show ' '.utf8Size = 1 by decide]
      omega
    · simp [quoteEntry]; omega
  · refine Lines.slice_eq_ok_iff.mpr ⟨P, l.dropWhile Lines.isBlank ++ Q, ?_, rfl, ?_⟩
    · conv => lhs; rw [← hl]
      simp [List.append_assoc]
    · simp [quoteEntry, Lines.byteLen_lead, show '>'.utf8Size = 1 by decide, show ' '.utf8Size = 1 by decide]
      omega

/-- `"> "` + three spaces + `é`, at byte 5 of a text: indent 3, text at byte 10, line end at byte 12 -/
example : bqRewrite (['x', 'y', 'z', 'w', '\n'] ++ ('>' :: ' ' :: [' ', ' ', ' ', 'é']) ++ ['\n'])
    (mkOff 5 ('>' :: ' ' :: [' ', ' ', ' ', 'é'], ['\n'])) (' ' :: [' ', ' ', ' ', 'é'])
    = .ok (⟨5, 12, 10, 3⟩, false) := by decide +kernel
/-- the hypothesis is needed: with a tab behind the prefix the indent is 2, not 4 (the tab stop is
    counted from the start of the line, `>` included) -/
example : bqRewrite ('>' :: ' ' :: ['\t', 'a']) (mkOff 0 ('>' :: ' ' :: ['\t', 'a'], [])) (' ' :: ['\t', 'a'])
    = .ok (⟨0, 4, 3, 2⟩, false) := by decide +kernel
example : (mkOff 0 (['\t', 'a'], [])).indentNonspace = 4 := by decide +kernel

/-! ## `item_view` -/

theorem dropWhile_replicate_append (w : Nat) (l : List Char) :
    (List.replicate w ' ' ++ l).dropWhile Lines.isBlank = l.dropWhile Lines.isBlank := by
  induction w with
  | zero => simp
  | succ n ih =>
    simp only [List.replicate_succ, List.cons_append]
    rw [List.dropWhile_cons_of_pos (by decide)]
    exact ih

theorem lead_replicate_append (w : Nat) (l : List Char) :
    lead (List.replicate w ' ' ++ l) = List.replicate w ' ' ++ lead l := by
  induction w with
  | zero => simp
  | succ n ih =>
    simp only [List.replicate_succ, List.cons_append, lead] at ih ⊢
    rw [List.takeWhile_cons_of_pos (by decide), ih]

/-- **`item_view`.**  A tab-free line `l` indented by the marker width `w` (a continuation line of a
    list item; the list rule does not rewrite it, it sets `blk_indent = w`): its fresh entry has
    `indent_nonspace − w = indent(l)` — `line_indent` subtracts `blk_indent` — the same text, and
    every byte position of the fresh entry of `l` moved by `|P| + w − p₀`. -/
theorem item_view (P l Q t t' : List Char) (w p0 : Nat) (htab : '\t' ∉ l) :
    let o := mkOff (Lines.byteLen P) (List.replicate w ' ' ++ l, t)
    o.firstNonspace + p0 = (mkOff p0 (l, t')).firstNonspace + (Lines.byteLen P + w) ∧
    o.lineEnd + p0 = (mkOff p0 (l, t')).lineEnd + (Lines.byteLen P + w) ∧
    o.indentNonspace - (w : Int) = (mkOff p0 (l, t')).indentNonspace ∧
    Lines.lineText (P ++ (List.replicate w ' ' ++ l) ++ Q) o = .ok (l.dropWhile Lines.isBlank) ∧
    Lines.lineWs (P ++ (List.replicate w ' ' ++ l) ++ Q) o = .ok (List.replicate w ' ' ++ lead l) := by
  intro o
  have hw : Lines.indentWidth (lead l) = (lead l).length :=
    indentWidth_tabfree _ (fun h => htab ((List.takeWhile_sublist _).subset h))
  have hw2 : Lines.indentWidth (List.replicate w ' ' ++ lead l) = w + (lead l).length := by
    rw [indentWidth_tabfree]
    · simp
    · intro h
      rcases List.mem_append.mp h with h | h
      · have := (List.mem_replicate.mp h).2; cases this
      · exact htab ((List.takeWhile_sublist _).subset h)
  have hv := Lines.mkOff_view P (List.replicate w ' ' ++ l) Q t
  simp only [Lines.view, Prod.mk.injEq] at hv
  have hdrop := dropWhile_replicate_append w l
  refine ⟨?_, ?_, ?_, ?_, ?_⟩
  · simp [o, mkOff, lead_replicate_append]; omega
  · simp [o, mkOff, Lines.byteLen_replicate_space]; omega
  · simp [o, mkOff, lead_replicate_append, hw2, hw]; omega
  · rw [← hdrop]; exact hv.2.1
  · rw [← lead_replicate_append]; exact hv.1

/-- two spaces + `" b"` at byte 4: indent 3 − 2 = 1, text at byte 7 -/
example : mkOff 4 (List.replicate 2 ' ' ++ [' ', 'b'], []) = ⟨4, 8, 7, 3⟩ := by decide +kernel

/-! ## `get_lines` under the two rewritings: the content of `D`'s lines is reproduced -/

/-- asking for `k ≤ |w|` columns of `a ++ w`, `w` spaces only: the cut falls `k` characters before
    the end, whatever `a` is (no tab of `a` is consulted, nothing is split) -/
theorem calcRight_spaces (a w : List Char) (hw : Spaces w) (k : Int) (hk : k ≤ w.length) :
    Lines.calcRightWs (a ++ w) k = (0, Lines.byteLen a + (w.length - k.toNat)) := by
  rw [calcRight_tabfree a w hw.tabfree k hk,
    Spaces.byteLen (fun c hc => hw c ((List.take_sublist _ _).subset hc)), List.length_take]
  congr 2; omega

/-- the piece `get_lines` copies for a line does not depend on what precedes the run of spaces in
    front of its text, as long as the request stays within that run: `"> " ++ w` (block quote) and
    `w` give the same piece -/
theorem viewPiece_prefix (a w t : List Char) (hw : Spaces w) (indent : Nat) (ind : Int)
    (hk : ind - Lines.usizeAsI32 indent ≤ w.length) :
    Lines.viewPiece indent (a ++ w, t, ind) = Lines.viewPiece indent (w, t, ind) :=
  viewPiece_tabfree a w t hw.tabfree indent ind hk

/-- the same when both the blanks and the request grow by `m` (list item: `m` spaces of marker
    width, `indent_nonspace` and the requested indent both `m` larger) -/
theorem viewPiece_item (m : Nat) (w t : List Char) (hw : Spaces w) (indent : Nat) (ind : Int)
    (hsmall : m + indent < 2147483648) (hk : ind - (indent : Int) ≤ w.length) :
    Lines.viewPiece (m + indent) (List.replicate m ' ' ++ w, t, ind + m) = Lines.viewPiece indent (w, t, ind) := by
  have e1 : Lines.usizeAsI32 (m + indent) = ((m + indent : Nat) : Int) := by
    simp [Lines.usizeAsI32]; omega
  have e2 : Lines.usizeAsI32 indent = (indent : Int) := by
    simp [Lines.usizeAsI32]; omega
  have hk1 : ind + (m : Int) - Lines.usizeAsI32 (m + indent) ≤ w.length := by rw [e1]; omega
  rw [viewPiece_prefix _ _ _ hw _ _ hk1]
  simp only [Lines.viewPiece, e1, e2]
  rw [show ind + (m : Int) - ((m + indent : Nat) : Int) = ind - (indent : Int) by omega]

/-- `get_lines` on two tables whose lines contribute the same pieces gives the same content -/
theorem get_lines_same_pieces (src₁ src₂ : List Char) (offs₁ offs₂ : List LineOffset)
    (b₁ b₂ indent₁ indent₂ : Nat) (keep : Bool) (vs₁ vs₂ : List (List Char × List Char × Int))
    (h₁ : ∀ j (h : j < vs₁.length), ∃ o, offs₁[b₁ + j]? = some o ∧ Lines.Shows src₁ o vs₁[j])
    (h₂ : ∀ j (h : j < vs₂.length), ∃ o, offs₂[b₂ + j]? = some o ∧ Lines.Shows src₂ o vs₂[j])
    (hp : vs₁.map (Lines.viewPiece indent₁) = vs₂.map (Lines.viewPiece indent₂)) :
    ∃ c m₁ m₂, Lines.getLines src₁ offs₁ b₁ (b₁ + vs₁.length) indent₁ keep = .ok (c, m₁) ∧
      Lines.getLines src₂ offs₂ b₂ (b₂ + vs₂.length) indent₂ keep = .ok (c, m₂) := by
  obtain ⟨m₁, e₁⟩ := Lines.get_lines_lf src₁ offs₁ b₁ indent₁ keep vs₁ h₁
  obtain ⟨m₂, e₂⟩ := Lines.get_lines_lf src₂ offs₂ b₂ indent₂ keep vs₂ h₂
  exact ⟨_, m₁, m₂, e₁, by rw [e₂, hp]⟩

/-- **block quote.**  If lines `b ..` of a table over `src₂` show, line by line, the view of the
    corresponding line of `src₁` with SOMETHING (`pre j`, e.g. `"> "`) in front of the blank run —
    same run of spaces, same text, same indent, as `quote_view` establishes — then every
    `get_lines` request that stays within the runs returns the same content on both. -/
theorem get_lines_quote (src₁ src₂ : List Char) (offs₁ offs₂ : List LineOffset) (b indent : Nat)
    (keep : Bool) (vs : List (List Char × List Char × Int)) (pre : Nat → List Char)
    (hsp : ∀ v ∈ vs, Spaces v.1 ∧ v.2.2 - Lines.usizeAsI32 indent ≤ v.1.length)
    (h₁ : ∀ j (h : j < vs.length), ∃ o, offs₁[b + j]? = some o ∧ Lines.Shows src₁ o vs[j])
    (h₂ : ∀ j (h : j < vs.length), ∃ o, offs₂[b + j]? = some o ∧
      Lines.Shows src₂ o (pre j ++ vs[j].1, vs[j].2.1, vs[j].2.2)) :
    ∃ c m₁ m₂, Lines.getLines src₁ offs₁ b (b + vs.length) indent keep = .ok (c, m₁) ∧
      Lines.getLines src₂ offs₂ b (b + vs.length) indent keep = .ok (c, m₂) := by
  let vs₂ := (List.range vs.length).map fun j => (pre j ++ (vs[j]?.getD ([], [], 0)).1,
    (vs[j]?.getD ([], [], 0)).2.1, (vs[j]?.getD ([], [], 0)).2.2)
  have hl : vs₂.length = vs.length := by simp [vs₂]
  have hget : ∀ j (h : j < vs.length), vs₂[j]'(by omega) = (pre j ++ vs[j].1, vs[j].2.1, vs[j].2.2) := by
    intro j h
    simp [vs₂, h]
  have := get_lines_same_pieces src₁ src₂ offs₁ offs₂ b b indent indent keep vs vs₂ h₁
    (by
      intro j h
      rw [hl] at h
      obtain ⟨o, ho, hs⟩ := h₂ j h
      exact ⟨o, ho, by rw [hget j h]; exact hs⟩)
    (by
      apply List.ext_getElem (by simp [hl])
      intro j hj1 hj2
      simp only [List.getElem_map]
      have hj : j < vs.length := by simpa using hj1
      rw [hget j hj]
      obtain ⟨h1, h2⟩ := hsp vs[j] (List.getElem_mem hj)
      exact (viewPiece_prefix (pre j) vs[j].1 vs[j].2.1 h1 indent vs[j].2.2 h2).symm)
  rw [hl] at this
  exact this

/-- **list item.**  The same for continuation lines of a list item: the lines of `src₂` (from
    `b₂` on) carry `m` more spaces in front, one `indent_nonspace` `m` larger, and are requested with
    an indent `m` larger (`blk_indent = m + …`). -/
theorem get_lines_item (src₁ src₂ : List Char) (offs₁ offs₂ : List LineOffset) (b₁ b₂ indent m : Nat)
    (keep : Bool) (vs : List (List Char × List Char × Int)) (hsmall : m + indent < 2147483648)
    (hsp : ∀ v ∈ vs, Spaces v.1 ∧ v.2.2 - (indent : Int) ≤ v.1.length)
    (h₁ : ∀ j (h : j < vs.length), ∃ o, offs₁[b₁ + j]? = some o ∧ Lines.Shows src₁ o vs[j])
    (h₂ : ∀ j (h : j < vs.length), ∃ o, offs₂[b₂ + j]? = some o ∧
      Lines.Shows src₂ o (List.replicate m ' ' ++ vs[j].1, vs[j].2.1, vs[j].2.2 + m)) :
    ∃ c m₁ m₂, Lines.getLines src₁ offs₁ b₁ (b₁ + vs.length) indent keep = .ok (c, m₁) ∧
      Lines.getLines src₂ offs₂ b₂ (b₂ + vs.length) (m + indent) keep = .ok (c, m₂) := by
  let vs₂ := vs.map fun v => (List.replicate m ' ' ++ v.1, v.2.1, v.2.2 + (m : Int))
  have hl : vs₂.length = vs.length := by simp [vs₂]
  have := get_lines_same_pieces src₁ src₂ offs₁ offs₂ b₁ b₂ indent (m + indent) keep vs vs₂ h₁
    (by
      intro j h
      rw [hl] at h
      obtain ⟨o, ho, hs⟩ := h₂ j h
      exact ⟨o, ho, by simpa [vs₂] using hs⟩)
    (by
      simp only [vs₂, List.map_map]
      apply List.map_congr_left
      intro v hv
      obtain ⟨h1, h2⟩ := hsp v hv
      exact (viewPiece_item m v.1 v.2.1 h1 indent v.2.2 hsmall h2).symm)
  rw [hl] at this
  exact this

/-- `"> a\n>   b"` against `"a\n  b"`: the table as the block-quote rule leaves it (`quote_view`) -/
example :
    Lines.getLines ['a', '\n', ' ', ' ', 'b'] (Lines.splitLines ['a', '\n', ' ', ' ', 'b']) 0 2 0 false
      = .ok (['a', '\n', ' ', ' ', 'b'], [(0, 0), (2, 2)]) ∧
    Lines.getLines ['>', ' ', 'a', '\n', '>', ' ', ' ', ' ', 'b'] [quoteEntry [] ['a'],
        quoteEntry ['>', ' ', 'a', '\n'] [' ', ' ', 'b']] 0 2 0 false
      = .ok (['a', '\n', ' ', ' ', 'b'], [(0, 2), (2, 6)]) := by decide +kernel

/-! ## the block quote as a container: the instance `quoteNest` of `Li.Nest` -/

/-- `"> "` in front of every line -/
def prefixLines (L : DLines) : DLines := L.map fun lt => ('>' :: ' ' :: lt.1, lt.2)

theorem prefixLines_length (L : DLines) : (prefixLines L).length = L.length := by simp [prefixLines]

theorem byteLen_gt_sp (l : List Char) : Lines.byteLen ('>' :: ' ' :: l) = 2 + Lines.byteLen l := by
  simp [show '>'.utf8Size = 1 by decide, show ' '.utf8Size = 1 by decide]; omega

theorem startOf_prefix (L : DLines) : ∀ i, i ≤ L.length → startOf (prefixLines L) i = startOf L i + 2 * i := by
  intro i
  induction i with
  | zero => intro _; simp [startOf_zero]
  | succ i ih =>
    intro h
    have hi : i < L.length := by omega
    rw [startOf_succ _ _ (by rw [prefixLines_length]; exact hi), startOf_succ _ _ hi, ih (by omega)]
    simp only [prefixLines, List.getElem_map, byteLen_gt_sp]
    omega

/-- the entry of line `i` in the nested run on the prefixed document, from the entry `o` of the run
    on `D`: line `i` starts `2 i` bytes later, its text and its end `2 i + 2` bytes later -/
def shiftEntry (i : Nat) (o : LineOffset) : LineOffset :=
  ⟨o.lineStart + 2 * i, o.lineEnd + 2 * i + 2, o.firstNonspace + 2 * i + 2, o.indentNonspace⟩

@[simp] theorem shiftEntry_indent (i : Nat) (o : LineOffset) : (shiftEntry i o).indentNonspace = o.indentNonspace := rfl

theorem shiftEntry_with (i : Nat) (o : LineOffset) (x : Int) (f : Nat) :
    shiftEntry i { o with indentNonspace := x, firstNonspace := f } =
      { shiftEntry i o with indentNonspace := x, firstNonspace := f + 2 * i + 2 } := rfl

/-- the state the block-quote rule reads its range from -/
abbrev finBq (s2 S1 : BState) (offs : List LineOffset) : BState :=
  { s2 with level := s2.level - 1, lineMax := S1.lineMax, offs := offs, blkIndent := S1.blkIndent }

/-- where byte `p` of the document lands in the prefixed document: `2 (i + 1)` further, `i` the line
    it belongs to (a line owns the bytes from its start up to and including the position of its end) -/
def sigmaGo : DLines → Nat → Nat → Nat
  | [], _, p => p
  | lt :: r, start, p =>
    if p ≤ start + Lines.byteLen lt.1 then p + 2
    else 2 + sigmaGo r (start + Lines.byteLen lt.1 + Lines.byteLen lt.2) p

def sigma (L : DLines) (p : Nat) : Nat := sigmaGo L 0 p

/-- the two tables -/
structure QRel (L : DLines) (offs offs' : List LineOffset) : Prop where
  len : offs.length = L.length
  ok : ∀ (i : Nat) (o : LineOffset), offs[i]? = some o → EntryOk L i o
  shift : ∀ i : Nat, offs'[i]? = (offs[i]?).map (shiftEntry i)

/-- the two states share a table relation: sources, tables, block indent -/
structure Tbl (L : DLines) (s s' : BState) : Prop where
  lines : LinesOk L
  src : s.src = Lines.flat L
  src' : s'.src = Lines.flat (prefixLines L)
  q : QRel L s.offs s'.offs
  blk : s'.blkIndent = s.blkIndent
  small : s.blkIndent ≤ Lines.byteLen (Lines.flat L) + 1

def sigma2 (L : DLines) (r : Nat × Nat) : Nat × Nat := (sigma L r.1, sigma L r.2)

/-- the mapping `get_lines` returns, relocated -/
def mapSigma (L : DLines) (m : List (Nat × Nat)) : List (Nat × Nat) := m.map fun kv => (kv.1, sigma L kv.2)

/-- the kinds of the two current nodes: equal — or, at the top of the two runs, `Root` on the `D` side and
    the block quote on the other (no rule distinguishes the two) -/
def KindRel (k k' : Kind) : Prop := k' = k ∨ (k = .root ∧ k' = .blockquote)

/-- the run on `D` (state `s`) and the nested run on the prefixed document (state `s'`) -/
structure Sim (L : DLines) (s s' : BState) : Prop where
  tbl : Tbl L s s'
  line : s'.line = s.line
  lineMax : s'.lineMax = s.lineMax
  tight : s'.tight = s.tight
  listIndent : s'.listIndent = s.listIndent
  level : s'.level = s.level + 1
  nodeKind : KindRel s.nodeKind s'.nodeKind
  children : s'.children = relocNodes (sigma L) s.children
  refs : s'.refs = s.refs


theorem prefixLines_eq (L : DLines) : prefixLines L = Li.indentLines (fun _ => ['>', ' ']) L := by
  apply List.ext_getElem (by simp [prefixLines])
  intro i h1 h2
  simp [prefixLines, Li.indentLines]

theorem sigmaGo_eq_tauGo : ∀ (L : DLines) (start p : Nat), sigmaGo L start p = Li.tauGo 2 L start p
  | [], _, _ => rfl
  | lt :: r, start, p => by simp only [sigmaGo, Li.tauGo, sigmaGo_eq_tauGo r]

theorem sigma_eq_tau (L : DLines) : sigma L = Li.tau 2 L := funext fun p => sigmaGo_eq_tauGo L 0 p

theorem shiftEntry_eq (i : Nat) : shiftEntry i = Li.shiftE 2 ((0 : Nat) : Int) i := by
  funext o
  simp [shiftEntry, Li.shiftE]

/-- `"> "` in front of every line; the block-quote rule raises the level once -/
abbrev quoteNest (L : DLines) : Li.Nest := ⟨⟨2, fun _ => ['>', ' '], L⟩, 1, .blockquote, rfl⟩

section accessors
variable {L : DLines} {s s' : BState}

/-- the relation of the block quote is the general one with no indent shift (`d = 0`) on a window that
    covers the whole table -/
theorem Tbl.nest (T : Tbl L s s') : Li.Nest.Tbl (quoteNest L) 0 0 s s' :=
  ⟨⟨fun _ => rfl, fun _ => (by decide : Lines.byteLen ['>', ' '] = 2), fun _ => (by decide : '\t' ∉ ['>', ' '])⟩, T.lines, T.src, by rw [T.src', prefixLines_eq],
   ⟨T.q.len, T.q.ok, fun i => ⟨((0 : Nat) : Int), by rw [T.q.shift i, shiftEntry_eq]⟩⟩,
   fun i _ _ => ⟨by rw [T.q.shift i, shiftEntry_eq], fun h => absurd h (Nat.lt_irrefl 0)⟩,
   T.blk, T.small, by have := T.lines.size; omega⟩

theorem Tbl.lineIndent (T : Tbl L s s') (n : Nat) : s'.lineIndent n = s.lineIndent n := by
  simp only [BState.lineIndent, Lines.lineIndent, T.q.shift n, T.blk]
  cases s.offs[n]? <;> rfl

theorem Tbl.getLine (T : Tbl L s s') (n : Nat) : s'.getLine n = s.getLine n := T.nest.getLine n

theorem Tbl.getMap (T : Tbl L s s') (a b : Nat) :
    s'.getMap a b = Except.map (sigma2 L) (s.getMap a b) := by
  have e : sigma2 L = Li.tau2 2 L := by funext r; simp only [sigma2, Li.tau2, sigma_eq_tau]
  rw [e]
  exact T.nest.getMap a b

/-- a table relation does not depend on the other fields -/
theorem Tbl.of_eq {t t' : BState} (T : Tbl L s s') (h1 : t.src = s.src) (h2 : t.offs = s.offs)
    (h3 : t.blkIndent = s.blkIndent) (h1' : t'.src = s'.src) (h2' : t'.offs = s'.offs)
    (h3' : t'.blkIndent = s'.blkIndent) : Tbl L t t' :=
  ⟨T.lines, by rw [h1, T.src], by rw [h1', T.src'], by rw [h2, h2']; exact T.q, by rw [h3, h3', T.blk],
   by rw [h3]; exact T.small⟩
end accessors

section getlines
variable {L : DLines} {s s' : BState}

theorem Tbl.getLines (T : Tbl L s s') (b e indent : Nat) (keep : Bool) (hi : 0 ≤ Lines.usizeAsI32 indent) :
    s'.getLines b e indent keep
      = Except.map (fun r => (r.1, mapSigma L r.2)) (s.getLines b e indent keep) := by
  have T' : Tbl L { s with lineMax := e } { s' with lineMax := e } := T.of_eq rfl rfl rfl rfl rfl rfl
  have hm : mapSigma L = Li.mapTau 2 L := by funext m; simp only [mapSigma, Li.mapTau, sigma_eq_tau]
  rw [hm]
  exact T'.nest.getLines' b e indent keep (Nat.zero_le _) (Nat.le_refl _) hi (by simp)
end getlines

section simbasics
variable {L : DLines} {s s' : BState}

/-- pushing related nodes, moving `line` alike -/
theorem Sim.push_line (S : Sim L s s') (n : BNode) (l : Nat) :
    Sim L { s.push n with line := l } { s'.push (relocNode (sigma L) n) with line := l } :=
  ⟨S.tbl.of_eq rfl rfl rfl rfl rfl rfl, rfl, S.lineMax, S.tight, S.listIndent, S.level, S.nodeKind,
   by simp [BState.push, S.children, relocNodes_append, relocNodes], S.refs⟩

theorem Sim.nest (S : Sim L s s') : Li.Nest.Sim (quoteNest L) 0 0 true s s' :=
  ⟨S.tbl.nest, S.line, S.lineMax, fun _ => S.tight, .inl (by rw [S.listIndent]; cases s.listIndent <;> rfl),
   S.level, S.nodeKind, by rw [S.children, sigma_eq_tau], S.refs⟩
end simbasics

section leaf
variable {L : DLines} {s s' : BState}

theorem hr_sim (S : Sim L s s') {b : Bool} {t : BState} (h : hrRule s false = .ok (b, t)) :
    ∃ t', hrRule s' false = .ok (b, t') ∧ Sim L t t' := by
  have hrel : Li.Nest.ORel (fun r r' => r'.1 = r.1 ∧ Sim L r.2 r'.2) (hrRule s false) (hrRule s' false) := by
    unfold hrRule
    rw [S.line, S.tbl.lineIndent, S.tbl.getLine, S.tbl.getMap]
    refine .bind_same fun ind _ => .ite (fun _ => .pure ⟨rfl, S⟩) fun _ => .bind_same fun line _ => ?_
    rcases line with _ | ⟨marker, rest⟩
    · exact .pure ⟨rfl, S⟩
    refine .ite (fun _ => .pure ⟨rfl, S⟩) fun _ => ?_
    cases hrCount marker rest 1 with
    | none => exact .pure ⟨rfl, S⟩
    | some cnt =>
      refine .ite (fun _ => .pure ⟨rfl, S⟩) fun _ => ?_
      rw [if_neg Bool.false_ne_true, if_neg Bool.false_ne_true]
      refine .bind_map fun r _ => .pure ⟨rfl, ?_⟩
      simp only [BState.push, S.line]
      exact S.push_line ⟨.hr _ _, some _, []⟩ _
  obtain ⟨⟨b', t'⟩, h', hb, St⟩ := hrel.run h
  cases hb
  exact ⟨t', h', St⟩
end leaf

/-- the nested tokenizers correspond -/
def TokSim (L : DLines) (tok tok' : Tok) : Prop :=
  ∀ s s' t, Sim L s s' → tok s = .ok t → ∃ t', tok' s' = .ok t' ∧ Sim L t t'

section tok
variable {L : DLines}

/-- the two configurations: the same chain and tables, one more level of nesting allowed -/
structure CfgRel (cfg cfg' : Cfg) : Prop where
  chain : cfg'.chain = cfg.chain
  nesting : cfg'.maxNesting = cfg.maxNesting + 1
  lookup : cfg'.lookup = cfg.lookup
  lower : cfg'.L = cfg.L
  upper : cfg'.U = cfg.U

/-- **the nested tokenizer on the prefixed document simulates the tokenizer on `D`**, for every fuel:
    the general simulation gives related final states, and both runs hand back the table, the block
    indent, `list_indent`, the level and the kind of the current node as they found them -/
theorem tokenize_sim {cfg cfg' : Cfg} (C : CfgRel cfg cfg') :
    ∀ fuel : Nat, TokSim L (tokenize cfg fuel) (tokenize cfg' fuel) := by
  intro fuel s s' t S h
  obtain ⟨t', h', G⟩ := Li.Nest.tokenize_sim (N := quoteNest L) ⟨C.chain, C.nesting, C.lookup, C.lower, C.upper⟩
    fuel _ _ _ _ _ _ S.nest (Nat.zero_le _) h
  have hf := (tokenize_tokSpec cfg fuel).frame _ _ h
  have hf' := (tokenize_tokSpec cfg' fuel).frame _ _ h'
  exact ⟨t', h', S.tbl.of_eq hf.src hf.offs hf.blkIndent hf'.src hf'.offs hf'.blkIndent, G.line,
    by rw [hf.lineMax, hf'.lineMax, S.lineMax], G.tight rfl, by rw [hf.listIndent, hf'.listIndent, S.listIndent],
    by rw [hf.level, hf'.level, S.level], by rw [hf.nodeKind, hf'.nodeKind]; exact S.nodeKind,
    by rw [G.children, sigma_eq_tau], G.refs⟩
end tok




/-! ## the line tables of `D` and of the prefixed document -/

open MdIt.Lines (IsTerminator)

theorem lineOf_append {l x : List Char} (hl : NoTerm l)
    (hx : x = [] ∨ ∃ c r, x = c :: r ∧ (c = '\n' ∨ c = '\r')) :
    Lines.lineOf (l ++ x) = l ∧ Lines.afterLine (l ++ x) = x := by
  induction l with
  | nil =>
    rcases hx with rfl | ⟨c, r, rfl, hc⟩
    · simp [Lines.lineOf, Lines.afterLine]
    · have : Lines.notTerm c = false := by
        rcases hc with rfl | rfl <;> decide
      simp [Lines.lineOf, Lines.afterLine, List.takeWhile, List.dropWhile, this]
  | cons c r ih =>
    have hc := hl c (by simp)
    have hn : Lines.notTerm c = true := Lines.notTerm_iff.mpr hc
    have := ih hl.tail
    simp only [Lines.lineOf, Lines.afterLine, List.cons_append, List.takeWhile, List.dropWhile, hn] at this ⊢
    simp [this.1, this.2]

theorem termOf_terminator {t x : List Char} (ht : IsTerminator t)
    (hx : ∀ c r, x = c :: r → c ≠ '\n') : Lines.termOf (t ++ x) = (t, x) := by
  rcases ht with rfl | rfl | rfl
  · simp [Lines.termOf]
  · simp only [Lines.termOf, List.cons_append, List.nil_append]
    rw [if_neg]
    rintro ⟨_, h⟩
    cases x with
    | nil => simp at h
    | cons c r => simp at h; exact hx c r rfl h
  · simp [Lines.termOf]

/-- the shape `Lines.linesT` guarantees (`linesT_shape`) -/
def LShape (L : DLines) : Prop :=
  ∀ (i : Nat) (lt : List Char × List Char), L[i]? = some lt →
    NoTerm lt.1 ∧ (IsTerminator lt.2 ∨ (lt.2 = [] ∧ i + 1 = L.length))

theorem LShape.tail {lt : List Char × List Char} {r : DLines} (h : LShape (lt :: r)) : LShape r := by
  intro i x hx
  have := h (i + 1) x (by simpa using hx)
  simpa using this

/-- a list of non-empty lines of that shape is the line decomposition of its concatenation -/
theorem linesT_flat_of_shape : ∀ (L : DLines), L ≠ [] → LShape L → (∀ lt ∈ L, lt.1 ≠ []) →
    Lines.linesT (Lines.flat L) = L
  | [], h, _, _ => absurd rfl h
  | [lt], _, hs, _ => by
    obtain ⟨hn, ht⟩ := hs 0 lt rfl
    have hx : lt.2 = [] ∨ ∃ c r, lt.2 = c :: r ∧ (c = '\n' ∨ c = '\r') := by
      rcases ht with ht | ⟨ht, _⟩
      · right
        rcases ht with h | h | h <;> simp [h]
      · left; exact ht
    have := lineOf_append hn hx
    rw [Lines.linesT]
    simp only [Lines.flat_cons, Lines.flat_nil, List.append_nil, this.1, this.2]
    have hterm : (Lines.termOf lt.2) = (lt.2, []) := by
      rcases ht with ht | ⟨ht, _⟩
      · have := termOf_terminator (x := []) ht (by simp)
        simpa using this
      · rw [ht]; rfl
    simp [hterm]
  | lt :: lt2 :: r, _, hs, hne => by
    obtain ⟨hn, ht⟩ := hs 0 lt rfl
    have ht' : IsTerminator lt.2 := by
      rcases ht with ht | ⟨_, h⟩
      · exact ht
      · simp at h
    have ih := linesT_flat_of_shape (lt2 :: r) (by simp) hs.tail (fun x hx => hne x (List.mem_cons_of_mem _ hx))
    -- what follows the terminator starts with a character of `lt2`'s (non-empty) line
    obtain ⟨hn2, _⟩ := hs 1 lt2 rfl
    have hne2 := hne lt2 (by simp)
    obtain ⟨c2, r2, hc2⟩ : ∃ c r, lt2.1 = c :: r := by
      cases h : lt2.1 with
      | nil => exact absurd h hne2
      | cons c r => exact ⟨c, r, rfl⟩
    have hc2n := hn2 c2 (by rw [hc2]; simp)
    have hX : ∀ c r', Lines.flat (lt2 :: r) = c :: r' → c ≠ '\n' := by
      intro c r' h
      simp only [Lines.flat_cons, hc2, List.cons_append, List.cons.injEq] at h
      rw [← h.1]; exact hc2n.1
    have hXne : Lines.flat (lt2 :: r) ≠ [] := by simp [hc2]
    have hx : (lt.2 ++ Lines.flat (lt2 :: r)) = [] ∨
        ∃ c r', lt.2 ++ Lines.flat (lt2 :: r) = c :: r' ∧ (c = '\n' ∨ c = '\r') := by
      right
      rcases ht' with h | h | h <;> simp [h]
    have hla := lineOf_append (x := lt.2 ++ Lines.flat (lt2 :: r)) hn hx
    have hterm := termOf_terminator ht' hX
    rw [Lines.linesT]
    simp only [Lines.flat_cons] at hla hterm ih hXne ⊢
    rw [show lt.1 ++ lt.2 ++ (lt2.1 ++ lt2.2 ++ Lines.flat r) = lt.1 ++ (lt.2 ++ (lt2.1 ++ lt2.2 ++ Lines.flat r)) by simp,
      hla.1, hla.2, hterm]
    simp only [hXne, if_false, ih]

section outer
variable {L : DLines}

theorem prefixLines_getElem (L : DLines) (i : Nat) (h : i < L.length) :
    (prefixLines L)[i]'(by rw [prefixLines_length]; exact h) = ('>' :: ' ' :: L[i].1, L[i].2) := by
  simp [prefixLines]

/-- the entry `generate_caches` makes for line `i` of a document given by its lines -/
def freshEntry (L : DLines) (i : Nat) : LineOffset :=
  match L[i]? with
  | some lt => mkOff (startOf L i) lt
  | none => ⟨0, 0, 0, 0⟩

theorem offsetsOf_entry (L : DLines) (i : Nat) (h : i < L.length) :
    (Lines.offsetsOf 0 L)[i]? = some (freshEntry L i) := by
  have hlen : i < (Lines.offsetsOf 0 L).length := by simpa using h
  obtain ⟨A, lt, B, hL, hA, ho⟩ := Lines.offsetsOf_getElem? (List.getElem?_eq_getElem hlen)
  rw [List.getElem?_eq_getElem hlen, ho]
  have hA' : A = L.take i := by
    rw [hL, ← hA]; simp
  have hlt : L[i]? = some lt := by rw [hL, ← hA]; simp
  simp [freshEntry, hlt, startOf, hA']

/-- the fresh entry of a line, shifted, is the entry `quote_view` computes for the prefixed line -/
theorem shift_fresh (hL : LinesOk L) (i : Nat) (h : i < L.length) :
    shiftEntry i (freshEntry L i)
      = ⟨startOf (prefixLines L) i, startOf (prefixLines L) i + 2 + Lines.byteLen L[i].1,
         startOf (prefixLines L) i + 2 + (lead L[i].1).length, ((lead L[i].1).length : Int)⟩ := by
  have htab : '\t' ∉ lead L[i].1 := fun hc =>
    hL.tabfree L[i] (List.getElem_mem h) ((List.takeWhile_sublist _).subset hc)
  simp only [freshEntry, List.getElem?_eq_getElem h, shiftEntry, mkOff, startOf_prefix L i (by omega),
    indentWidth_tabfree _ htab]
  congr 1 <;> omega

theorem entryOk_fresh (hL : LinesOk L) (i : Nat) (h : i < L.length) : EntryOk L i (freshEntry L i) := by
  have htab : '\t' ∉ lead L[i].1 := fun hc =>
    hL.tabfree L[i] (List.getElem_mem h) ((List.takeWhile_sublist _).subset hc)
  refine ⟨L[i].1, L[i].2, lead L[i].1, L[i].1.dropWhile Lines.isBlank, by simp [List.getElem?_eq_getElem h],
    (Lines.lead_append_rest _).symm, ?_, ?_, ?_, ?_⟩
  · simp [freshEntry, List.getElem?_eq_getElem h, mkOff]
  · simp [freshEntry, List.getElem?_eq_getElem h, mkOff, Lines.byteLen_lead]
  · have := congrArg Lines.byteLen (Lines.lead_append_rest L[i].1)
    simp only [Lines.byteLen_append] at this
    simp [freshEntry, List.getElem?_eq_getElem h, mkOff]
    omega
  · simp [freshEntry, List.getElem?_eq_getElem h, mkOff, indentWidth_tabfree _ htab]

/-- the state's table holds the fresh entries of the prefixed document from line `m` on -/
structure FreshFrom (L : DLines) (m : Nat) (s' : BState) : Prop where
  src : s'.src = Lines.flat (prefixLines L)
  lineMax : s'.lineMax = L.length
  blk : s'.blkIndent = 0
  len : s'.offs.length = L.length
  fresh : ∀ i, m ≤ i → i < L.length → s'.offs[i]? = some (freshEntry (prefixLines L) i)

/-- reading line `i` of the prefixed document through its fresh entry -/
theorem fresh_prefixed_reads (hL : LinesOk L) {m : Nat} {s' : BState} (F : FreshFrom L m s') {i : Nat}
    (hmi : m ≤ i) (hi : i < L.length) :
    s'.lineIndent i = .ok 0 ∧ s'.getLine i = .ok ('>' :: ' ' :: L[i].1) ∧
    s'.off i = .ok (freshEntry (prefixLines L) i) ∧
    ∃ le, bqRewrite s'.src (freshEntry (prefixLines L) i) (' ' :: L[i].1) = .ok (shiftEntry i (freshEntry L i), le) := by
  have hi' : i < (prefixLines L).length := by rw [prefixLines_length]; exact hi
  have ho := F.fresh i hmi hi
  have hent : freshEntry (prefixLines L) i = mkOff (startOf (prefixLines L) i) ('>' :: ' ' :: L[i].1, L[i].2) := by
    simp [freshEntry, List.getElem?_eq_getElem hi', prefixLines_getElem L i hi]
  have hsplit := flat_split (prefixLines L) i hi'
  rw [prefixLines_getElem L i hi] at hsplit
  simp only at hsplit
  have hview := Lines.mkOff_view (Lines.flat ((prefixLines L).take i)) ('>' :: ' ' :: L[i].1)
    (L[i].2 ++ Lines.flat ((prefixLines L).drop (i + 1))) L[i].2
  rw [← hsplit] at hview
  have hlead : lead ('>' :: ' ' :: L[i].1) = [] := lead_cons_nonblank _ (by decide)
  have hdrop : ('>' :: ' ' :: L[i].1).dropWhile Lines.isBlank = '>' :: ' ' :: L[i].1 := by
    simp [List.dropWhile, show Lines.isBlank '>' = false by decide]
  simp only [Lines.view, hlead, hdrop, Prod.mk.injEq] at hview
  have hst : Lines.byteLen (Lines.flat ((prefixLines L).take i)) = startOf (prefixLines L) i := rfl
  rw [hst, ← hent] at hview
  have htab : '\t' ∉ L[i].1 := hL.tabfree L[i] (List.getElem_mem hi)
  have hq := quote_view (Lines.flat ((prefixLines L).take i)) L[i].1
    (L[i].2 ++ Lines.flat ((prefixLines L).drop (i + 1))) L[i].2 htab
  rw [← hsplit, hst, ← hent] at hq
  refine ⟨?_, ?_, ?_, (lead L[i].1).length == Lines.byteLen L[i].1, ?_⟩
  · simp only [BState.lineIndent, Lines.lineIndent, ho, F.blk, liftL_ok', hview.2.2]
    simp [Lines.indentWidth, Lines.widthFrom]
  · have := hview.2.1
    unfold Lines.lineText at this
    simp only [BState.getLine, Lines.getLine, ho, F.src, this, liftL_ok']
  · simp [BState.off, ho]
  · rw [F.src, hq, shift_fresh hL i hi]

/-- the block-quote scan over the prefixed document takes every line: from line `m` on, each fresh
    entry becomes the shifted fresh entry of the same line of `D` -/
theorem bqScan_prefixed (hL : LinesOk L) {test' : Test} :
    ∀ (d m fuel : Nat) (s' : BState) (old : List LineOffset) (le : Bool), m + d = L.length → d < fuel →
      FreshFrom L m s' →
      ∃ old' S', bqScan test' fuel s' m old le = .ok (L.length, old', S') ∧ SameBut s' S' ∧
        (∀ i, i < m → S'.offs[i]? = s'.offs[i]?) ∧
        (∀ i, m ≤ i → i < L.length → S'.offs[i]? = some (shiftEntry i (freshEntry L i))) := by
  intro d
  induction d with
  | zero =>
    intro m fuel s' old le hm hf F
    obtain ⟨f, rfl⟩ : ∃ f, fuel = f + 1 := ⟨fuel - 1, by omega⟩
    refine ⟨old, s', ?_, SameBut.refl _, fun _ _ => rfl, fun i h1 h2 => by omega⟩
    simp only [bqScan]
    rw [if_pos (by rw [F.lineMax]; omega)]
    rw [show m = L.length by omega]
  | succ d ih =>
    intro m fuel s' old le hm hf F
    obtain ⟨f, rfl⟩ : ∃ f, fuel = f + 1 := ⟨fuel - 1, by omega⟩
    have hmL : m < L.length := by omega
    obtain ⟨hind, hline, hoff, le₂, hrw⟩ := fresh_prefixed_reads hL F (Nat.le_refl m) hmL
    have hmo : m < s'.offs.length := by rw [F.len]; exact hmL
    -- the state after rewriting line `m`
    have F2 : FreshFrom L (m + 1) { s' with offs := s'.offs.set m (shiftEntry m (freshEntry L m)) } :=
      ⟨F.src, F.lineMax, F.blk, by simp [F.len], fun i h1 h2 => by
        simp only [List.getElem?_set]
        rw [if_neg (by omega)]
        exact F.fresh i (by omega) h2⟩
    obtain ⟨old', S', hrec, hsb, hlt, hge⟩ := ih (m + 1) f _ (old ++ [freshEntry (prefixLines L) m]) le₂
      (by omega) (by omega) F2
    refine ⟨old', S', ?_, ?_, ?_, ?_⟩
    · simp only [bqScan]
      rw [if_neg (by rw [F.lineMax]; omega)]
      simp only [hind, hline, ok_bind, hoff, hrw, BState.setOff, hmo, if_true]
      first | exact hrec | (rw [if_pos (by simp)]; exact hrec) | (simp only [ok_bind]; exact hrec)
    · exact ⟨hsb.src, hsb.blkIndent, hsb.lineMax, hsb.tight, hsb.listIndent, hsb.level, hsb.nodeKind,
        hsb.children, hsb.refs, by rw [hsb.len]; simp⟩
    · intro i hi
      rw [hlt i (by omega)]
      simp only [List.getElem?_set]
      rw [if_neg (by omega)]
    · intro i h1 h2
      by_cases hmi : i = m
      · subst hmi
        rw [hlt i (by omega)]
        simp [hmo]
      · exact hge i (by omega) h2
end outer

/-! ## the outer run on the prefixed document -/

/-- the rules that may stand in front of the block-quote rule in the chain -/
def frontOk : RuleId → Bool
  | .code | .fence | .hr | .list | .reference | .heading => true
  | _ => false

/-- a front rule rejects a line that starts with `>` at indent 0 (outside any list) -/
theorem front_rejects {cfg : Cfg} {tok : Tok} {test : Test} {fuel : Nat} {r : RuleId} (hr : frontOk r = true)
    {s : BState} {rest : List Char} (hind : s.lineIndent s.line = .ok 0)
    (hline : s.getLine s.line = .ok ('>' :: rest)) (hli : s.listIndent = none) :
    runRule cfg tok test fuel r s false = .ok (false, s) := by
  cases r <;> simp [frontOk] at hr
  · simp [runRule, codeRule, hind, pure, Except.pure]
  · simp [runRule, fenceRule, hind, hline, pure, Except.pure]
  · simp [runRule, hrRule, hind, hline, pure, Except.pure]
  · simp [runRule, listRule, hind, hline, listSpecial, hli, detectMarker, skipOrdered, skipBullet, isDigit,
      pure, Except.pure]
  · simp [runRule, referenceRule, hind, hline, pure, Except.pure]
  · simp [runRule, headingRule, hind, hline, pure, Except.pure]

theorem splitLines_indent_nonneg (D : List Char) {i : Nat} {o : LineOffset}
    (h : (Lines.splitLines D)[i]? = some o) : 0 ≤ o.indentNonspace := by
  obtain ⟨A, lt, B, _, _, rfl, _⟩ := Lines.split_entry h
  simp [mkOff]

theorem tokenize_fresh_end {cfg : Cfg} {F : Nat} {D : List Char} {k : Kind} {refs : Refs.RefMap} {t : BState}
    (h : tokenize cfg F (BState.fresh D k refs) = .ok t) : t.line = (Lines.splitLines D).length := by
  obtain ⟨_, hup, _, hfr⟩ := tokenize_progress h
  have hle := hup (tableOk_fresh D k refs) (by simp [BState.fresh])
  have hlm : t.lineMax = (Lines.splitLines D).length := by rw [hfr.lineMax]; rfl
  rcases tokenize_exit h with hx | ⟨i, hi, hneg⟩
  · simp only [BState.fresh] at hle; omega
  · exfalso
    unfold BState.lineIndent Lines.lineIndent at hi
    rw [hfr.offs, hfr.blkIndent] at hi
    simp only [BState.fresh] at hi
    cases ho : (Lines.splitLines D)[t.line]? with
    | none => simp [ho, liftL] at hi
    | some o =>
      have := splitLines_indent_nonneg D ho
      simp [ho, liftL] at hi
      omega

/-- the document with `"> "` in front of every line (blank lines included; terminators kept) -/
def prefixQuote (D : List Char) : List Char := Lines.flat (prefixLines (Lines.linesT D))

theorem lshape_linesT (D : List Char) : LShape (Lines.linesT D) :=
  fun i lt h => Lines.linesT_shape D i lt h

theorem linesOk_linesT (D : List Char) (htab : '\t' ∉ D) (hsize : Lines.byteLen D + 8 < 2147483648) :
    LinesOk (Lines.linesT D) := by
  have hflat := Lines.linesT_flat D
  refine ⟨?_, ?_, ?_, by rw [hflat]; exact hsize⟩
  · intro lt hlt
    obtain ⟨i, hi⟩ := List.getElem?_of_mem hlt
    exact (lshape_linesT D i lt hi).1
  · intro lt hlt hc
    apply htab
    rw [← hflat]
    simp only [Lines.flat, List.mem_flatMap]
    exact ⟨lt, hlt, by simp [hc]⟩
  · intro i hi
    have hlt : i < (Lines.linesT D).length := by omega
    have := (lshape_linesT D i _ (List.getElem?_eq_getElem hlt)).2
    rcases this with h | ⟨_, h⟩
    · rcases h.byteLen with h | h <;> omega
    · omega

theorem lshape_prefix {L : DLines} (h : LShape L) : LShape (prefixLines L) := by
  intro i lt hi
  simp only [prefixLines, List.getElem?_map] at hi
  cases hL : L[i]? with
  | none => simp [hL] at hi
  | some x =>
    simp only [hL, Option.map_some, Option.some.injEq] at hi
    subst hi
    obtain ⟨h1, h2⟩ := h i x hL
    refine ⟨?_, by simpa [prefixLines] using h2⟩
    intro c hc
    simp at hc
    rcases hc with rfl | rfl | hc
    · decide
    · decide
    · exact h1 c hc

theorem linesT_prefixQuote (D : List Char) :
    Lines.linesT (prefixQuote D) = prefixLines (Lines.linesT D) := by
  unfold prefixQuote
  apply linesT_flat_of_shape
  · have := Lines.linesT_ne_nil D
    simp [prefixLines, this]
  · exact lshape_prefix (lshape_linesT D)
  · intro lt hlt
    simp only [prefixLines, List.mem_map] at hlt
    obtain ⟨x, _, rfl⟩ := hlt
    simp

theorem splitLines_prefixQuote (D : List Char) :
    Lines.splitLines (prefixQuote D) = Lines.offsetsOf 0 (prefixLines (Lines.linesT D)) := by
  rw [Lines.splitLines_eq, linesT_prefixQuote]

theorem byteLen_prefixQuote (D : List Char) :
    Lines.byteLen (prefixQuote D) = Lines.byteLen D + 2 * (Lines.linesT D).length := by
  have h := startOf_prefix (Lines.linesT D) (Lines.linesT D).length (Nat.le_refl _)
  unfold startOf at h
  rw [List.take_of_length_le (by rw [prefixLines_length]; exact Nat.le_refl _), List.take_of_length_le (Nat.le_refl _),
    Lines.linesT_flat] at h
  exact h

/-- the block-quote rule on the prefixed document, given the run on `D` -/
theorem blockquote_on_prefixed {cfg cfg' : Cfg} (C : CfgRel cfg cfg') (D : List Char) (htab : '\t' ∉ D)
    (hsize : Lines.byteLen D + 8 < 2147483648) {G : Nat} (hG : (Lines.linesT D).length < G + 1) {t : BState}
    (ht : tokenize cfg G (BState.fresh D .root []) = .ok t) :
    ∃ (t1 : BState) (r : Nat × Nat),
      blockquoteRule (tokenize cfg' G) (testRules cfg' G) (G + 1) (BState.fresh (prefixQuote D) .root []) false
        = .ok (true, t1) ∧
      t1.line = (Lines.linesT D).length ∧ t1.lineMax = (Lines.linesT D).length ∧ t1.nodeKind = .root ∧
      t1.refs = t.refs ∧
      t1.children = [⟨.blockquote, some r, relocNodes (sigma (Lines.linesT D)) t.children⟩] ∧
      Lines.getMap (Lines.splitLines (prefixQuote D)) 0 ((Lines.linesT D).length - 1) = .ok r := by
  obtain ⟨L, hLdef⟩ : ∃ L, L = Lines.linesT D := ⟨_, rfl⟩
  rw [← hLdef] at hG ⊢
  have hL : LinesOk L := by rw [hLdef]; exact linesOk_linesT D htab hsize
  have hflat : Lines.flat L = D := by rw [hLdef]; exact Lines.linesT_flat D
  have hn1 : 1 ≤ L.length := by
    have := Lines.linesT_ne_nil D
    rw [← hLdef] at this
    cases L with
    | nil => exact absurd rfl this
    | cons a b => simp
  obtain ⟨s0, hs0⟩ : ∃ s0, s0 = BState.fresh D .root [] := ⟨_, rfl⟩
  obtain ⟨s0', hs0'⟩ : ∃ s0', s0' = BState.fresh (prefixQuote D) .root [] := ⟨_, rfl⟩
  rw [← hs0] at ht
  rw [← hs0']
  -- the two fresh tables
  have hoffs0 : s0.offs = Lines.offsetsOf 0 L := by rw [hs0, hLdef]; exact Lines.splitLines_eq D
  have hoffs0' : s0'.offs = Lines.offsetsOf 0 (prefixLines L) := by
    rw [hs0', hLdef]; exact splitLines_prefixQuote D
  have hlen0 : s0.offs.length = L.length := by rw [hoffs0]; simp
  have hlen0' : s0'.offs.length = L.length := by rw [hoffs0']; simp [prefixLines_length]
  have hlm0 : s0.lineMax = L.length := by rw [← hlen0, hs0]; rfl
  have F0 : FreshFrom L 0 s0' :=
    ⟨by rw [hs0', hLdef]; rfl, by rw [← hlen0', hs0']; rfl, by rw [hs0']; rfl, hlen0', fun i _ hi => by
      rw [hoffs0']; exact offsetsOf_entry _ i (by rw [prefixLines_length]; exact hi)⟩
  -- the outer scan
  obtain ⟨old', S1', hscan, hsb, _, hge⟩ := bqScan_prefixed hL (test' := testRules cfg' G) L.length 0 (G + 1) s0' []
    false (by omega) hG F0
  -- the simulation
  have hq : QRel L s0.offs S1'.offs := by
    refine ⟨hlen0, ?_, ?_⟩
    · intro i o ho
      rw [hoffs0] at ho
      have hi : i < L.length := by
        have := (List.getElem?_eq_some_iff.mp ho).1; simpa using this
      rw [offsetsOf_entry L i hi] at ho
      cases ho
      exact entryOk_fresh hL i hi
    · intro i
      by_cases hi : i < L.length
      · rw [hge i (Nat.zero_le _) hi, hoffs0, offsetsOf_entry L i hi]; rfl
      · have h1 : S1'.offs[i]? = none := by
          apply List.getElem?_eq_none; rw [hsb.len, hlen0']; omega
        have h2 : s0.offs[i]? = none := by
          apply List.getElem?_eq_none; rw [hlen0]; omega
        rw [h1, h2]; rfl
  have S0 : Sim L s0 (nestBq S1' 0 L.length) := by
    refine ⟨⟨hL, by rw [hs0, hflat]; rfl, by simp only [nestBq]; rw [hsb.src]; exact F0.src, hq,
      by rw [hs0]; rfl, by rw [hs0]; exact Nat.zero_le _⟩, by rw [hs0]; rfl, ?_, ?_, ?_, ?_, .inr ⟨by rw [hs0]; rfl, rfl⟩,
      by rw [hs0]; rfl, ?_⟩
    · exact hlm0.symm
    · simp only [nestBq]; rw [hsb.tight, hs0', hs0]; rfl
    · simp only [nestBq]; rw [hsb.listIndent, hs0', hs0]; rfl
    · simp only [nestBq]; rw [hsb.level, hs0', hs0]; rfl
    · simp only [nestBq]; rw [hsb.refs, hs0', hs0]; rfl
  obtain ⟨t', htok', St⟩ := tokenize_sim (L := L) C G _ _ _ S0 ht
  -- reading line 0
  obtain ⟨hind0, hline0, _, _⟩ := fresh_prefixed_reads hL F0 (Nat.le_refl 0) (by omega)
  have hline00 : s0'.line = 0 := by rw [hs0']; rfl
  -- levels
  have hfrt := (tokenize_spec cfg G _ _ ht).frame
  have hfrt' := (tokenize_tokSpec cfg' G).frame _ _ htok'
  have hlvl : psub t'.level 1 = .ok (t'.level - 1) := psub_eq (by rw [St.level]; omega)
  -- the table is restored
  obtain ⟨_, _, _, _, _, add, hadd, hrest⟩ := bqScan_spec (testRules_pure cfg' G) _ _ _ _ _ _ _ _ hscan
  simp only [List.nil_append] at hadd
  have hrest' : restoreOffs t'.offs 0 old' = .ok s0'.offs := by
    rw [hfrt'.offs, hadd]; exact hrest
  -- the lines consumed
  have htl : t.line = L.length := by
    have h1 := tokenize_fresh_end (cfg := cfg) (F := G) (D := D) (k := .root) (refs := []) (t := t) (by rw [← hs0]; exact ht)
    rw [h1, ← hlen0, hs0]; rfl
  have hpl : psub t'.line 1 = .ok (L.length - 1) := by
    rw [St.line, htl]; exact psub_eq hn1
  -- the range
  obtain ⟨r, hr0⟩ : ∃ r, Lines.getMap s0'.offs 0 (L.length - 1) = .ok r := by
    have h0 : 0 < s0'.offs.length := by omega
    have h1 : L.length - 1 < s0'.offs.length := by omega
    refine ⟨(s0'.offs[0].firstNonspace, s0'.offs[L.length - 1].lineEnd), ?_⟩
    simp [Lines.getMap, List.getElem?_eq_getElem h0, List.getElem?_eq_getElem h1]
  have hr : BState.getMap (finBq t' S1' s0'.offs) 0 (L.length - 1) = .ok r := by
    simp [BState.getMap, finBq, hr0, liftL]
  have hrule : blockquoteRule (tokenize cfg' G) (testRules cfg' G) (G + 1) s0' false = .ok (true,
      { finBq t' S1' s0'.offs with nodeKind := S1'.nodeKind, children := S1'.children ++ [⟨t'.nodeKind, some r, t'.children⟩] }) := by
    clear hs0' hLdef hs0 hadd hrest hoffs0' hoffs0
    unfold blockquoteRule
    simp only [hline00, hind0, hline0]
    simp only [*, ok_bind, ↓reduceIte, ne_eq, not_true_eq_false, Bool.false_eq_true, pure, Except.pure]
    simp
  refine ⟨_, r, hrule, ?_, ?_, ?_, ?_, ?_, by rw [← hr0, hs0']; rfl⟩
  · simp [St.line, htl]
  · simp [hsb.lineMax, F0.lineMax]
  · simp [hsb.nodeKind, hs0']; rfl
  · simp [St.refs]
  · simp [hsb.children, hs0', St.children, hfrt'.nodeKind]
    rfl

/-- what `sigma` does, in terms of the two documents: byte `x` of line `i` of `D` (the position of the
    line's end included) lands on byte `2 + x` of line `i` of the prefixed document -/
theorem sigma_spec (D : List Char) (htab : '\t' ∉ D) (hsize : Lines.byteLen D + 8 < 2147483648) {i : Nat}
    (h : i < (Lines.linesT D).length) {x : Nat} (hx : x ≤ Lines.byteLen (Lines.linesT D)[i].1) :
    sigma (Lines.linesT D) (startOf (Lines.linesT D) i + x) = startOf (prefixLines (Lines.linesT D)) i + 2 + x := by
  rw [sigma_eq_tau, Li.tau_in_line 2 (linesOk_linesT D htab hsize) h hx, startOf_prefix _ _ (Nat.le_of_lt h)]

/-- **C06, block-quote half, whole document.**  `D` a tab-free document (shorter than 2 GiB), the chain
    of `cfg` contains the block-quote rule behind rules of `frontOk` only (code, fence, hr, list,
    reference, heading in any order and selection — in particular the shipped order); whatever may
    follow it.  If the block parser accepts `D`, then with one more level of nesting allowed it parses
    `"> "`-prefixed `D` to a root with exactly one child, a block quote, whose children are the
    children of `D`'s root with every position moved by the bytes inserted in front of it (`sigma`),
    and the reference definitions collected are the same. -/
theorem quote_commutes (cfg : Cfg) (D : List Char) (htab : '\t' ∉ D) (hsize : Lines.byteLen D + 8 < 2147483648)
    (pre post : List RuleId) (hchain : cfg.chain = pre ++ .blockquote :: post)
    (hpre : ∀ r ∈ pre, frontOk r = true) {root : BNode} {refs : Refs.RefMap}
    (h : parseBlocks cfg D = .ok (root, refs)) :
    ∃ r, Lines.getMap (Lines.splitLines (prefixQuote D)) 0 ((Lines.linesT D).length - 1) = .ok r ∧
      parseBlocks { cfg with maxNesting := cfg.maxNesting + 1 } (prefixQuote D) =
      .ok (⟨.root, some (0, Lines.byteLen (prefixQuote D)),
            [⟨.blockquote, some r, relocNodes (sigma (Lines.linesT D)) root.children⟩]⟩, refs) := by
  obtain ⟨cfg', hcfg'⟩ : ∃ c, c = { cfg with maxNesting := cfg.maxNesting + 1 } := ⟨_, rfl⟩
  have C : CfgRel cfg cfg' := by subst hcfg'; exact ⟨rfl, rfl, rfl, rfl, rfl⟩
  rw [← hcfg']
  unfold parseBlocks at h
  cases htk : tokenize cfg (fuelFor cfg D) (BState.fresh D .root []) with
  | error e => rw [htk] at h; cases h
  | ok s =>
    rw [htk] at h
    simp only [Except.ok.injEq, Prod.mk.injEq] at h
    obtain ⟨rfl, rfl⟩ := h
    have hn : (Lines.splitLines D).length = (Lines.linesT D).length := by rw [Lines.splitLines_eq]; simp
    have hn' : (Lines.splitLines (prefixQuote D)).length = (Lines.linesT D).length := by
      rw [splitLines_prefixQuote]; simp [prefixLines_length]
    have hn1 : 1 ≤ (Lines.linesT D).length := by
      have := Lines.linesT_ne_nil D
      cases hL : Lines.linesT D with
      | nil => exact absurd hL this
      | cons a b => simp
    obtain ⟨G, hG, hle, hGn⟩ : ∃ G, fuelFor cfg' (prefixQuote D) = G + 2 ∧ fuelFor cfg D ≤ G + 1 ∧
        (Lines.linesT D).length < G + 2 := by
      refine ⟨fuelFor cfg' (prefixQuote D) - 2, ?_, ?_, ?_⟩
      · unfold fuelFor; omega
      · unfold fuelFor
        rw [hn, hn', byteLen_prefixQuote, C.nesting]
        omega
      · unfold fuelFor
        rw [hn']
        omega
    have ht := tokenize_mono hle htk
    obtain ⟨t1, r, hrule, h1, h2, h3, h4, h5, h6⟩ := blockquote_on_prefixed C D htab hsize (G := G + 1) hGn ht
    refine ⟨r, h6, ?_⟩
    have hL := linesOk_linesT D htab hsize
    have F0 : FreshFrom (Lines.linesT D) 0 (BState.fresh (prefixQuote D) .root []) :=
      ⟨rfl, hn', rfl, hn', fun i _ hi => by
        show (Lines.splitLines (prefixQuote D))[i]? = _
        rw [splitLines_prefixQuote]; exact offsetsOf_entry _ i (by rw [prefixLines_length]; exact hi)⟩
    obtain ⟨hind0, hline0, hoff0, _⟩ := fresh_prefixed_reads hL F0 (Nat.le_refl 0) (by omega)
    have hne : (BState.fresh (prefixQuote D) .root []).isEmpty (BState.fresh (prefixQuote D) .root []).line = false := by
      have hi : 0 < (Lines.linesT D).length := hn1
      have hi' : 0 < (prefixLines (Lines.linesT D)).length := by rw [prefixLines_length]; exact hi
      have ho := F0.fresh 0 (Nat.le_refl 0) hi
      have hent : freshEntry (prefixLines (Lines.linesT D)) 0
          = mkOff (startOf (prefixLines (Lines.linesT D)) 0) ('>' :: ' ' :: (Lines.linesT D)[0].1, (Lines.linesT D)[0].2) := by
        simp [freshEntry, List.getElem?_eq_getElem hi', prefixLines_getElem (Lines.linesT D) 0 hi]
      show Lines.isEmpty (BState.fresh (prefixQuote D) .root []).offs 0 = false
      simp [Lines.isEmpty, ho, hent, mkOff, lead, Lines.isBlank]
      have : 0 < '>'.utf8Size := by decide
      omega
    rw [parseBlocks_single_at (by rw [C.nesting]; exact Nat.succ_pos _)
      (by show 0 < (Lines.splitLines (prefixQuote D)).length; rw [hn']; omega) hne hind0 (Int.le_refl 0) hG
      (by rw [C.chain, hchain]; exact runChain_reach (fun q hq => front_rejects (hpre q hq) hind0 hline0 rfl) hrule)
      (by rw [h1]; exact hn1) (by rw [h1, h2]) h3, h4, h5]

section qc_examples
/-- the ranges of the top-level blocks -/
def topRanges : Except Panic (BNode × Refs.RefMap) → Option (List (Option (Nat × Nat)))
  | .ok (root, _) => some (root.children.map (·.range))
  | .error _ => none

/-- the range of the single top-level block quote and the ranges of the blocks in it -/
def quoteRanges : Except Panic (BNode × Refs.RefMap) → Option (Option (Nat × Nat) × List (Option (Nat × Nat)))
  | .ok (⟨_, _, [⟨.blockquote, r, cs⟩]⟩, _) => some (r, cs.map (·.range))
  | _ => none

def okOf {α : Type} : Except Panic α → Bool
  | .ok _ => true
  | .error _ => false

/-- `"a\n\n- b\n  c\n"` -/
def qcDoc : List Char := ['a', '\n', '\n', '-', ' ', 'b', '\n', ' ', ' ', 'c', '\n']

/-- the hypotheses of `quote_commutes` hold for the stock chain and the sixteen-line document `exDoc`
    of `Props/Block.lean` (all nine rules fire in it), so does its conclusion -/
example : ∃ r root refs, parseBlocks exCfg exDoc = .ok (root, refs) ∧
    parseBlocks { exCfg with maxNesting := 101 } (prefixQuote exDoc) =
      .ok (⟨.root, some (0, Lines.byteLen (prefixQuote exDoc)),
            [⟨.blockquote, some r, relocNodes (sigma (Lines.linesT exDoc)) root.children⟩]⟩, refs) := by
  have hok : okOf (parseBlocks exCfg exDoc) = true := by decide +kernel
  cases h : parseBlocks exCfg exDoc with
  | error e => rw [h] at hok; cases hok
  | ok p =>
    obtain ⟨root, refs⟩ := p
    obtain ⟨r, _, hq⟩ := quote_commutes exCfg exDoc (by decide) (by decide +kernel) [.code, .fence] _ rfl (by decide) h
    exact ⟨r, root, refs, rfl, hq⟩

/-- `"a\n\n- b\n  c\n"` against `"> a\n> \n> - b\n>   c\n"`: paragraph `0..1` ↦ `2..3`, list `3..10` ↦ `9..18`
    (2, 4, 6, 8 bytes inserted in front of lines 0, 1, 2, 3) -/
example : prefixQuote qcDoc = ['>', ' ', 'a', '\n', '>', ' ', '\n', '>', ' ', '-', ' ', 'b', '\n', '>', ' ', ' ', ' ', 'c', '\n'] ∧
    topRanges (parseBlocks exCfg qcDoc) = some [some (0, 1), some (3, 10)] ∧
    quoteRanges (parseBlocks { exCfg with maxNesting := 101 } (prefixQuote qcDoc))
      = some (some (0, 18), [some (2, 3), some (9, 18)]) ∧
    sigma (Lines.linesT qcDoc) 0 = 2 ∧ sigma (Lines.linesT qcDoc) 1 = 3 ∧
    sigma (Lines.linesT qcDoc) 3 = 9 ∧ sigma (Lines.linesT qcDoc) 10 = 18 := by decide +kernel

/-- the extra level of nesting on the prefixed side is needed: at `max_nesting = 2` the paragraph of
    `"> a"` is parsed, the one of `"> > a"` is not (the inner quote stays empty) -/
example :
    quoteRanges (parseBlocks { exCfg with maxNesting := 2 } ['>', ' ', 'a']) = some (some (0, 3), [some (2, 3)]) ∧
    (match parseBlocks { exCfg with maxNesting := 2 } (prefixQuote ['>', ' ', 'a']) with
      | .ok (⟨_, _, [⟨.blockquote, _, [⟨.blockquote, _, cs⟩]⟩]⟩, _) => some cs.length
      | _ => none) = some 0 ∧
    (match parseBlocks { exCfg with maxNesting := 3 } (prefixQuote ['>', ' ', 'a']) with
      | .ok (⟨_, _, [⟨.blockquote, _, [⟨.blockquote, _, cs⟩]⟩]⟩, _) => some cs.length
      | _ => none) = some 1 := by decide +kernel

/-- the chain hypothesis is needed: with the paragraph rule in front of the block-quote rule the
    prefixed document is one paragraph -/
example :
    (match parseBlocks { exCfg with chain := [.paragraph, .blockquote] } (prefixQuote ['a']) with
      | .ok (⟨_, _, [⟨.paragraph, _, _⟩]⟩, _) => true
      | _ => false) = true := by decide +kernel

/-- tab-freeness is needed: `"\ta"` is an indented code block, `"> \ta"` a quote around a paragraph
    (the tab stop is counted from the start of the line, `"> "` included: indent 2) -/
example :
    (match parseBlocks exCfg ['\t', 'a'], parseBlocks { exCfg with maxNesting := 101 } (prefixQuote ['\t', 'a']) with
      | .ok (⟨_, _, [⟨.codeBlock _, _, _⟩]⟩, _), .ok (⟨_, _, [⟨.blockquote, _, [⟨.paragraph, _, _⟩]⟩]⟩, _) => true
      | _, _ => false) = true := by decide +kernel
end qc_examples

/-
Outside this file: "renders exactly as" — the inline pass and the renderer on top of the block tree
(`InlineRoot` content is equal on both sides, its mapping moved by `sigma`: `relocKind`); that composition is
not proved anywhere in the development.
-/

end MdIt.Block
