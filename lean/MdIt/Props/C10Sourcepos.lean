/-
  C10 at whole-document level WITH the sourcepos plugin (`cfg.sourcepos = true`): the HTML including
  the `data-sourcepos="l:c-l:c"` attributes under the three rewritings of the line endings.

  ALL INVARIANCE THEOREMS OF C10 AT DOCUMENT LEVEL, with what each assumes (every one: `'\r' ∉ src` for the two
  rewritings of LF, "src does not end with LF / CR" for the final LF).  sp = `cfg.sourcepos`; coh =
  `ChainCoherent` inline chain with the link and the image rule at most once (`hc`, `hone`); para = `hasPara`;
  small = `4 * |src| + 8 < 2^31`; ascii / solid = `C05R.AsciiMarkers` / `C05T.SolidMarkers` (single-byte emphasis
  markers other than LF / other than LF and space); inl = `hinl`, the inline pass does not panic on `src`.
  `<-` marks the statement with the fewest hypotheses of its group.

      theorem                               file          sp    configuration       source            further
   LF ↦ CR
      doc_cr_invariant                      C10Doc        off   every               every             hfuel (listed, not used)
      doc_cr_invariant_full                 DocTotal      off   every               every
      doc_cr_invariant_sp                   here          on    every               every
      doc_cr_invariant_all              <-  here          any   every               every
   final LF
      doc_final_newline_invariant           C10Doc        off   every               every             hfuel (listed, not used)
      doc_final_newline_invariant_full  <-  DocTotal      off   every               every
      doc_final_newline_invariant_sp        here          on    every               every             hin (rendered ranges inside src)
      doc_final_newline_invariant_sp_full   here          on    para, ascii         small, NoSplitTab
      …_sp_tabFree                          here          on    para, ascii         small, no tab
      doc_final_newline_invariant_sp_all <- here          on    para, solid         small
   LF ↦ CR LF
      doc_crlf_invariant                    C10Doc        off   every               every             hfuel (listed, not used), inl
      doc_crlf_invariant_full               DocTotal      off   every               every             inl
      doc_crlf_invariant_nodouble           DocTotal2     off   coh, para           small, NoSplitTab, DocNoDoubleTick
      doc_crlf_invariant_tabs               TotalTabs     off   coh, para, solid    small
      doc_crlf_invariant_sp_partial         here          on    every               every             inl, hix, hanch
      doc_crlf_invariant_sp_full            here          on    para, ascii         small, NoSplitTab inl
      …_sp_tabFree                          here          on    para, ascii         small, no tab     inl
      doc_crlf_invariant_sp_all             here          on    para, solid         small             inl
      doc_crlf_invariant_sp_tabs            TotalTabs     on    coh, para, solid    small
      doc_crlf_invariant_every          <-  TotalTabs     any   coh, para, solid    small
      doc_crlf_invariant_stock          <-  TotalTabs     any   `exCfg sp mn`       small
  (`_full` is "no fuel hypothesis" in Props/DocTotal.lean and "no hypothesis about ranges" here; `_all` is "every
  configuration" in `doc_cr_invariant_all` and "every source" in the `_sp_all` theorems.  With the raw-HTML
  plugin: `renderDocH_cr`, Props/PipelineH.lean; block level `parseBlocksH_cr` / `_crlf` / `_final_newline`,
  Props/BlockH.lean.)

  THIS FILE.
      doc_cr_invariant_sp             '\r' ∉ src →  renderDoc x cfg (lfToCr src) = renderDoc x cfg src
                                      NO further hypothesis; `doc_cr_invariant_all`: every `cfg`.
      doc_final_newline_invariant_sp  src does not end with LF / CR, and every node of the tree of `src`
                                      that RENDERS its attributes has its range inside `src`
                                      (`Inside`: start `< |src|`, end `≤ |src|`)
                                                 →  renderDoc x cfg (src ++ "\n") = renderDoc x cfg src
      doc_crlf_invariant_sp_partial   '\r' ∉ src, the inline pass does not panic on src (as without sourcepos), and
                                      (hix) every pair of inline runs is `InlineExact`, (hanch) no attribute-
                                      rendering node starts AT a line feed
                                                 →  renderDoc x cfg (lfToCrlf src) = renderDoc x cfg src
                                      The BLOCK half is unconditional: `Block.LX.parseBlocks_crlf_exact`
                                      (`Lemmas/C10SourceposSim*.lean`, the instance of the lock-step simulation of
                                      `Lemmas/C10Sim*.lean` whose offset relation only has to survive shifts INSIDE
                                      a line) relates the two block trees by `b = a + #LF before a`, for every
                                      range end point and every value of a per-line table.
  The two hypotheses about ranges (`hin`, `hanch`) and `hix` are checked by evaluation on examples, and
  DISCHARGED for every document in which no tab is split:
      doc_final_newline_invariant_sp_full   sourcepos on, src does not end with LF / CR, `hsmall` (i32 bound),
                                            `hpara` (paragraph rule), `hmk` (single-byte emphasis markers),
                                            `NoSplitTab cfg src`  →  renderDoc x cfg (src ++ "\n") = renderDoc x cfg src
      doc_crlf_invariant_sp_full            the same + '\r' ∉ src + the inline pass does not panic on src
                                                               →  renderDoc x cfg (lfToCrlf src) = renderDoc x cfg src
      …_tabFree                             with `'\t' ∉ src` in place of `NoSplitTab`
      doc_starts_on_bytes                   every attribute-rendering node starts at a byte that is not a LF
  (ingredients: `Block.parseBlocks_anchored`, `Block.LX.Y.parseBlocks_crlf_strict`, `C10SP.parseInline_exact`,
  `doc_placeholder_segs` / `tr_shift`, `doc_ranges_ok` of Props/C05Rest.lean), and for EVERY source,
  tabs split by containers included (`NoSplitTab` dropped; markers `C05T.SolidMarkers`):
      doc_final_newline_invariant_sp_all    sourcepos on, src does not end with LF / CR, `hsmall`, `hpara`, `hmk`
      doc_crlf_invariant_sp_all             the same + '\r' ∉ src + the inline pass does not panic on src
      doc_starts_on_bytes_all
  (ingredients: `doc_placeholder_segsT` / `tr_shiftT` / `tr_onByteT` / `mapT_shift`, `C10SP.parseInline_exactT`,
  `doc_ranges_ordered_all` of Props/C05Tabs.lean).

  What decides (the lemmas of `Lemmas/C10SourceposPos.lean`): `get_position(o)` is the state of a fold over
  the characters that start at an offset `≤ o` (`runSt`, Props/C15.lean); an offset that points AT a line terminator gets the
  position `(next line, column 0)` when the terminator is LF or a lone CR, but `(this line, last
  column + 1)` when it is the CR of a CR LF pair; an offset past the end is clamped to the last
  character.  Hence
    * LF ↦ CR changes no position at all (same offsets, one-byte terminators that both end the line);
    * a final LF changes the position of exactly the offsets `≥ |src|` (clamped before, `(L+1, 0)` after);
    * LF ↦ CR LF with offsets moved by the number of line feeds before them keeps the position of every
      range END (`get_positions` reads it at `end - 1`: for an end at a line start that is the LF in both
      texts) and of every range START that does not point at a line feed.
  Which nodes have ranges that touch a terminator or the end of the text?  The root (`(0, |src|+1)` after
  a final LF), `Softbreak` / `Hardbreak` (the range covers the terminator: `"a  \nb"` ↦ `Hardbreak (1, 4)`,
  `(1, 5)` with CR LF), and in configurations WITHOUT the paragraph rule the break at the end of every
  line (`Softbreak (1, 2)` for `"a"`, outside the text: the finding of Props/C05Doc.lean).  NONE of
  these values renders `node.attrs` (`Root::render` only renders the children, `Softbreak` is
  `fmt.cr()`, `Hardbreak` is `fmt.self_close("br", &[])` — an explicit EMPTY attribute list), so the
  HTML is invariant although the TREES (`data-sourcepos` entries of `node.attrs`) are not: the `spValues`
  examples below.
-/
import MdIt.Lemmas.C10SourceposDoc
import MdIt.Lemmas.C10SpFullFinal
import MdIt.Lemmas.C10SpFullInline
import MdIt.Lemmas.C10SpTabsFinal
import MdIt.Lemmas.C10SpTabsInline
import MdIt.Lemmas.KernelEval

namespace MdIt.Pipeline
open MdIt
open MdIt.Block.LE (FRel BRes BlocksRel NRel NRelL KRel MRel RgRel)
open MdIt.Lines (lfToCrlf lfToCr)
open MdIt.SourceMap (runSt mkMarks)

/-- **C10 with sourcepos, LF ↦ CR**: the HTML with its `data-sourcepos` attributes does not change.
    No hypothesis beyond `'\r' ∉ src`. -/
theorem doc_cr_invariant_sp (x : Bool) (cfg : DocCfg) (src : List Char) (hsp : cfg.sourcepos = true)
    (hcr : '\r' ∉ src) : renderDoc x cfg (lfToCr src) = renderDoc x cfg src :=
  renderDoc_of_blocks_eq_sp x cfg _ _ hsp
    (Block.LE.parseBlocks_cr cfg.blockCfg src hcr (.inr (Block.parseBlocks_fuel _ _)))
    (fun _ => true)
    (fun r _ => by simp only [posAttr, C10SP.runSt_lfToCr src hcr])
    (fun t _ => allN_true t)

/-- **C10, LF ↦ CR, every configuration** (with or without the sourcepos plugin) -/
theorem doc_cr_invariant_all (x : Bool) (cfg : DocCfg) (src : List Char) (hcr : '\r' ∉ src) :
    renderDoc x cfg (lfToCr src) = renderDoc x cfg src := by
  cases hsp : cfg.sourcepos with
  | false => exact doc_cr_invariant_full x cfg src hsp hcr
  | true => exact doc_cr_invariant_sp x cfg src hsp hcr


/-- **C10 with sourcepos, final newline**: if every node of the tree of `src` that renders its
    attributes (everything but `Root`, `Text`, `TextSpecial`, `Softbreak`, `Hardbreak`) has its range
    inside `src`, a final LF does not change the HTML with its `data-sourcepos` attributes. -/
theorem doc_final_newline_invariant_sp (x : Bool) (cfg : DocCfg) (src : List Char) (hsp : cfg.sourcepos = true)
    (hlast : src.getLast? ≠ some '\n' ∧ src.getLast? ≠ some '\r')
    (hin : ∀ t, parseDoc cfg src = .ok t → allN (rendered (insideB src)) t = true) :
    renderDoc x cfg (src ++ ['\n']) = renderDoc x cfg src :=
  renderDoc_of_blocks_eq_sp x cfg _ _ hsp
    (Block.LE.parseBlocks_final_newline cfg.blockCfg src hlast (.inr (Block.parseBlocks_fuel _ _)))
    (insideB src)
    (fun r h => by
      have hi : C10SP.Inside src r := by simpa [insideB] using h
      have h3 : C10SP.endOff r.2 + 1 ≤ SourceMap.byteLen src := by
        unfold C10SP.endOff; split <;> have := hi.1 <;> have := hi.2 <;> omega
      simp only [posAttr]
      rw [C10SP.runSt_append_left src ['\n'] 1 0 _ (by have := hi.1; omega) (.inl hlast.2),
        C10SP.runSt_append_left src ['\n'] 1 0 _ h3 (.inl hlast.2)])
    hin

/-! ## non-vacuity, necessity, and what is NOT invariant -/

/-- the document of `Props/C10Doc.lean`: all hypotheses hold (stock chain, sourcepos on) -/
theorem exDoc_inside : ∀ t, parseDoc (exCfg true 100) exDoc = .ok t → allN (rendered (insideB exDoc)) t = true := by
  intro t ht
  have : (parseDoc (exCfg true 100) exDoc).toOption.map (allN (rendered (insideB exDoc))) = some true := by
    unfold exDoc
    decide_lits
  rw [ht] at this
  simpa [Except.toOption] using this

example (x : Bool) : renderDoc x (exCfg true 100) (lfToCr exDoc) = renderDoc x (exCfg true 100) exDoc :=
  doc_cr_invariant_sp x _ _ rfl exDoc_hyps.1

example (x : Bool) : renderDoc x (exCfg true 100) (exDoc ++ ['\n']) = renderDoc x (exCfg true 100) exDoc :=
  doc_final_newline_invariant_sp x _ _ rfl exDoc_hyps.2.1 exDoc_inside

/-- the output in question carries positions (3 attributes: 130 characters instead of 55) -/
example : (renderDoc false (exCfg true 100) exDoc).toOption.map List.length = some 130 := by
  unfold exDoc
  decide_lits


mutual
/-- the `data-sourcepos` values of a tree, with the kind tag of the node, in document order -/
def spValues : Node → List (Tag × List Char)
  | ⟨k, _, a, cs⟩ => (a.filter (fun nv => nv.1 = NodeRender.aSourcepos)).map (fun nv => (k.tag, nv.2)) ++ spValuesList cs
def spValuesList : List Node → List (Tag × List Char)
  | [] => []
  | c :: cs => spValues c ++ spValuesList cs
end

/-- a configuration WITHOUT the paragraph rule (every line goes through the fallback of
    `BlockParser::tokenize`: content `line + "\n"`, one-entry table) -/
def noParaCfg : DocCfg := { exCfg true 100 with blockChain := [.hr] }

/-- **the TREES are not invariant, only the HTML is** — (1) the root after a final LF: its range ends
    behind the LF, `get_positions` reads the end at the LF, position `2:0` -/
example : (parseDoc (exCfg true 100) "a".toList).toOption.map spValues =
      some [(.root, "1:1-1:1".toList), (.p, "1:1-1:1".toList), (.T, "1:1-1:1".toList)] ∧
    (parseDoc (exCfg true 100) "a\n".toList).toOption.map spValues =
      some [(.root, "1:1-2:0".toList), (.p, "1:1-1:1".toList), (.T, "1:1-1:1".toList)] := by decide_lits

/-- (2) a hard break covers its line terminator; with the paragraph rule its range is translated line
    by line and ends at the START of the next line, so the end position is read at the LF in both texts
    (`2:0`) … -/
example : (parseDoc (exCfg true 100) "a  \nb".toList).toOption.map spValues =
      some [(.root, "1:1-2:1".toList), (.p, "1:1-2:1".toList), (.T, "1:1-1:1".toList), (.HB, "1:2-2:0".toList),
        (.T, "2:1-2:1".toList)] ∧
    (parseDoc (exCfg true 100) "a  \r\nb".toList).toOption.map spValues =
      some [(.root, "1:1-2:1".toList), (.p, "1:1-2:1".toList), (.T, "1:1-1:1".toList), (.HB, "1:2-2:0".toList),
        (.T, "2:1-2:1".toList)] := by decide_lits

/-- … but WITHOUT the paragraph rule the one-entry table of the fallback translates the end of the
    break to `line_end + 1`: the LF itself in the LF text (`2:0`), the CR of the pair in the CR LF text
    (`1:4`) — the attribute of the `Hardbreak` NODE differs; `Hardbreak::render` passes `&[]`, so the
    HTML does not -/
example : (parseDoc noParaCfg "a  \nb".toList).toOption.map spValues =
      some [(.root, "1:1-2:1".toList), (.T, "1:1-1:1".toList), (.HB, "1:2-2:0".toList),
        (.T, "2:1-2:1".toList), (.SB, "2:1-2:1".toList)] ∧
    (parseDoc noParaCfg "a  \r\nb".toList).toOption.map spValues =
      some [(.root, "1:1-2:1".toList), (.T, "1:1-1:1".toList), (.HB, "1:2-1:4".toList),
        (.T, "2:1-2:1".toList), (.SB, "2:1-2:1".toList)] ∧
    renderDoc false noParaCfg "a  \r\nb".toList = renderDoc false noParaCfg "a  \nb".toList := by decide_lits

/-- (3) the same configuration and a final LF: the `Softbreak (1, 2)` of `"a"` lies outside the text
    (clamped: `1:1-1:1`), in `"a\n"` it is the LF (`2:0-2:0`); `Inside` fails for it, but it renders no
    attributes, so `doc_final_newline_invariant_sp` applies -/
example : (parseDoc noParaCfg "a".toList).toOption.map spValues =
      some [(.root, "1:1-1:1".toList), (.T, "1:1-1:1".toList), (.SB, "1:1-1:1".toList)] ∧
    (parseDoc noParaCfg "a\n".toList).toOption.map spValues =
      some [(.root, "1:1-2:0".toList), (.T, "1:1-1:1".toList), (.SB, "2:0-2:0".toList)] ∧
    (parseDoc noParaCfg "a".toList).toOption.map (allN (rendered (insideB "a".toList))) = some true := by
  decide_lits

/-
  The hypothesis `hin` is discharged by `doc_final_newline_invariant_sp_full` for documents in which
  no tab is split: block nodes by `Block.parseBlocks_anchored` (non-empty ranges starting at a byte of their
  own; every configuration), inline nodes by the exact inline simulation, `b ≤ |src|` by `doc_ranges_ok`.
  It is NOT true of `Softbreak` / `Hardbreak` in configurations without the paragraph rule (example (3)),
  which is why it is restricted to the values that render attributes.
-/


/-! # LF ↦ CR LF (the lemmas are in `Lemmas/C10SourceposDoc.lean`) -/

/-- **C10 with sourcepos, LF ↦ CR LF (partial)**: the HTML with its `data-sourcepos` attributes does not
    change, PROVIDED (`hinl`, as in `doc_crlf_invariant`) the inline pass does not panic on `src`,
    (`hix`) every pair of inline runs of the two documents is `InlineExact` — the ranges of `CodeInline`,
    `Em` / `Strong` / `Strikethrough`, `Link`, `Image`, `Autolink` nodes move with their bytes —, and
    (`hanch`) no attribute-rendering node of the tree of `src` starts AT a line feed or has a range
    ending at 0.  The block half needs no hypothesis: `Block.LX.parseBlocks_crlf_exact`
    (`Lemmas/C10SourceposSim*.lean`) relates every block range and every value of a per-line table of
    the two block trees by `b = a + #LF before a`. -/
theorem doc_crlf_invariant_sp_partial (x : Bool) (cfg : DocCfg) (src : List Char) (hsp : cfg.sourcepos = true)
    (hcr : '\r' ∉ src)
    (hinl : ∀ e, parseDoc cfg src ≠ .error (.inline e))
    (hix : ∀ root₁ refs₁ root₂ refs₂, Block.parseBlocks cfg.blockCfg src = .ok (root₁, refs₁) →
      Block.parseBlocks cfg.blockCfg (lfToCrlf src) = .ok (root₂, refs₂) →
      PlN2 (InlineExact (cfg.inlineCfg refs₁) (shiftOf src)) root₁ root₂)
    (hanch : ∀ t, parseDoc cfg src = .ok t → allN (rendered (anchoredB src)) t = true) :
    renderDoc x cfg (lfToCrlf src) = renderDoc x cfg src :=
  doc_crlf_sp_of_blocks x cfg src hsp hcr (Block.LX.parseBlocks_crlf_exact cfg.blockCfg src hcr) hinl hix hanch

/-! ## non-vacuity: the hypotheses evaluated on a document -/

mutual
def beqN : Node → Node → Bool
  | ⟨k₁, r₁, a₁, c₁⟩, ⟨k₂, r₂, a₂, c₂⟩ => decide (k₁ = k₂) && decide (r₁ = r₂) && decide (a₁ = a₂) && beqL c₁ c₂
def beqL : List Node → List Node → Bool
  | [], [] => true
  | x :: xs, y :: ys => beqN x y && beqL xs ys
  | _, _ => false
end

mutual
theorem beqN_sound : ∀ (a b : Node), beqN a b = true → a = b
  | ⟨k₁, r₁, a₁, c₁⟩, ⟨k₂, r₂, a₂, c₂⟩, h => by
    simp only [beqN, Bool.and_eq_true, decide_eq_true_eq] at h
    obtain ⟨⟨⟨h1, h2⟩, h3⟩, h4⟩ := h
    rw [h1, h2, h3, beqL_sound c₁ c₂ h4]
theorem beqL_sound : ∀ (a b : List Node), beqL a b = true → a = b
  | [], [], _ => rfl
  | [], _ :: _, h => by simp [beqL] at h
  | _ :: _, [], h => by simp [beqL] at h
  | x :: xs, y :: ys, h => by
    simp only [beqL, Bool.and_eq_true] at h
    rw [beqN_sound x y h.1, beqL_sound xs ys h.2]
end

/-- `InlineExact`, evaluated -/
def inlineExactB (icfg : Inline.Cfg) (f : Nat → Nat) (c : List Char) (m₁ m₂ : InlineOps.Srcmap) : Bool :=
  match Inline.parseInline icfg c m₁, Inline.parseInline icfg c m₂ with
  | .ok ns₁, .ok ns₂ => beqL (rmapList id true (ofInlineList ns₂)) (rmapList f true (ofInlineList ns₁))
  | _, _ => true

theorem inlineExactB_sound {icfg : Inline.Cfg} {f : Nat → Nat} {c : List Char} {m₁ m₂ : InlineOps.Srcmap}
    (h : inlineExactB icfg f c m₁ m₂ = true) : InlineExact icfg f c m₁ m₂ := by
  intro ns₁ ns₂ h₁ h₂
  unfold inlineExactB at h
  rw [h₁, h₂] at h
  exact beqL_sound _ _ h

mutual
def plN2B (p : List Char → InlineOps.Srcmap → InlineOps.Srcmap → Bool) : Block.BNode → Block.BNode → Bool
  | ⟨_, _, c₁⟩, ⟨_, _, c₂⟩ => plL2B p c₁ c₂
def plL2B (p : List Char → InlineOps.Srcmap → InlineOps.Srcmap → Bool) : List Block.BNode → List Block.BNode → Bool
  | x :: xs, y :: ys =>
    (match x.kind, y.kind with
     | .inlineRoot c m₁, .inlineRoot _ m₂ => p c m₁ m₂
     | _, _ => plN2B p x y) && plL2B p xs ys
  | _, _ => true
end

mutual
theorem plN2B_sound {p : List Char → InlineOps.Srcmap → InlineOps.Srcmap → Bool}
    {P : List Char → InlineOps.Srcmap → InlineOps.Srcmap → Prop} (hp : ∀ c m₁ m₂, p c m₁ m₂ = true → P c m₁ m₂) :
    ∀ (a b : Block.BNode), plN2B p a b = true → PlN2 P a b
  | ⟨_, _, c₁⟩, ⟨_, _, c₂⟩, h => by
    simp only [plN2B] at h
    simp only [PlN2]
    exact plL2B_sound hp c₁ c₂ h
theorem plL2B_sound {p : List Char → InlineOps.Srcmap → InlineOps.Srcmap → Bool}
    {P : List Char → InlineOps.Srcmap → InlineOps.Srcmap → Prop} (hp : ∀ c m₁ m₂, p c m₁ m₂ = true → P c m₁ m₂) :
    ∀ (a b : List Block.BNode), plL2B p a b = true → PlL2 P a b
  | [], _, _ => by simp only [PlL2]
  | _ :: _, [], _ => by simp only [PlL2]
  | x :: xs, y :: ys, h => by
    simp only [plL2B, Bool.and_eq_true] at h
    simp only [PlL2]
    refine ⟨?_, plL2B_sound hp xs ys h.2⟩
    have h1 := h.1
    cases hx : x.kind with
    | inlineRoot c m₁ =>
      cases hy : y.kind with
      | inlineRoot c' m₂ =>
        rw [hx, hy] at h1
        exact hp _ _ _ h1
      | _ =>
        rw [hx, hy] at h1
        simp only at h1 ⊢
        exact plN2B_sound hp x y h1
    | _ =>
      rw [hx] at h1
      simp only at h1 ⊢
      exact plN2B_sound hp x y h1
end

/-- emphasis over a line break, a code span, a list item with a link on a continuation line -/
def exDoc2 : List Char := "*a\nb* `c`\n\n- x\n  [y](z)".toList

theorem exDoc2_hyps :
    '\r' ∉ exDoc2 ∧ (∀ e, parseDoc (exCfg true 100) exDoc2 ≠ .error (.inline e)) ∧
    (∀ root₁ refs₁ root₂ refs₂, Block.parseBlocks (exCfg true 100).blockCfg exDoc2 = .ok (root₁, refs₁) →
      Block.parseBlocks (exCfg true 100).blockCfg (lfToCrlf exDoc2) = .ok (root₂, refs₂) →
      PlN2 (InlineExact ((exCfg true 100).inlineCfg refs₁) (shiftOf exDoc2)) root₁ root₂) ∧
    (∀ t, parseDoc (exCfg true 100) exDoc2 = .ok t → allN (rendered (anchoredB exDoc2)) t = true) := by
  -- one evaluation of `parseDoc` on `exDoc2` serves the second and the fourth claim
  have hp : (parseDoc (exCfg true 100) exDoc2).toOption.map (allN (rendered (anchoredB exDoc2))) = some true := by
    unfold exDoc2
    decide_lits
  refine ⟨by unfold exDoc2; decide_lits, fun e he => (by rw [he] at hp; cases hp), ?_, ?_⟩
  · intro root₁ refs₁ root₂ refs₂ h₁ h₂
    have : (match Block.parseBlocks (exCfg true 100).blockCfg exDoc2,
        Block.parseBlocks (exCfg true 100).blockCfg (lfToCrlf exDoc2) with
      | .ok (r₁, rf₁), .ok (r₂, _) =>
        plN2B (inlineExactB ((exCfg true 100).inlineCfg rf₁) (shiftOf exDoc2)) r₁ r₂
      | _, _ => false) = true := by
      unfold exDoc2
      decide_lits
    rw [h₁, h₂] at this
    exact plN2B_sound (fun c m₁ m₂ h => inlineExactB_sound h) _ _ this
  · intro t ht
    rw [ht] at hp
    simpa [Except.toOption] using hp

example (x : Bool) : renderDoc x (exCfg true 100) (lfToCrlf exDoc2) = renderDoc x (exCfg true 100) exDoc2 :=
  doc_crlf_invariant_sp_partial x _ _ rfl exDoc2_hyps.1 exDoc2_hyps.2.1 exDoc2_hyps.2.2.1 exDoc2_hyps.2.2.2

/-- the instance is not trivial: seven positions, two of them on the second line of a node -/
example : (parseDoc (exCfg true 100) exDoc2).toOption.map (fun t => (spValues t).filter (fun p => p.1 ≠ .T ∧ p.1 ≠ .SB)) =
    some [(.root, "1:1-5:8".toList), (.p, "1:1-2:6".toList), (.E, "1:1-2:2".toList), (.C, "2:4-2:6".toList),
      (.ul, "4:1-5:8".toList), (.li, "4:1-5:8".toList), (.L, "5:3-5:8".toList)] := by
  unfold exDoc2
  decide_lits

/-
  `hix` and `hanch` are discharged by `doc_crlf_invariant_sp_full` for documents in which no tab is
  split; `hix` is FALSE for arbitrary tables and for break nodes (example (2) above, second half:
  `Hardbreak (1,4)` in both texts under the one-entry table), hence the restriction of `rmap … true` to the
  values that render attributes.  `hinl` remains (as in Props/C10Doc.lean).
-/


/-! # the full theorems (documents in which no tab is split)

  The hypotheses `hin`, `hanch`, `hix` discharged:
   * block nodes — `Block.parseBlocks_anchored` (`Lemmas/C10SpFullBlock*.lean`, every configuration, every
     source): every ranged node of the block tree has `a < b` and a character other than LF / CR starts at
     byte `a`; `Block.LX.Y.parseBlocks_crlf_strict`: the two block trees are related by `b = a + #LF before a`
     at every range end and every table value, placeholders pairwise with related TABLES;
   * tables — `doc_placeholder_segs` (`Lemmas/C10SpFullTables.lean`; C05Rest's `fa_Seg`): without split tab
     every per-line table is segmented line by line, so every position of the inline text is translated
     exactly (`tr_shift`) and a character other than LF to a byte that is not a line feed (`tr_onByte`);
   * inline nodes — the exact inline simulation `InlineExactThm` (`Lemmas/C10SpFullInline*.lean`): under two
     good tables with the same keys the ranges of `CodeInline` / `Em` / `Strong` / `Strikethrough` / `Link` /
     `Image` / `Autolink` nodes are the translations of ONE stretch of the inline text that starts at a
     character other than LF (`C10SP.SameSpan`);
   * `a ≤ b ≤ |src|` at every node — `doc_ranges_ok` (Props/C05Rest.lean).
  What remains: the size bound of the `i32` fields (`hsmall`), the paragraph rule (`hpara`; without it the
  fallback tables are not `get_lines` tables), single-byte emphasis markers other than LF (`hmk`, as in
  Props/C05Rest.lean), `NoSplitTab` (`hnv`; `'\t' ∉ src` suffices), and for CR LF the inline-no-panic
  hypothesis `hinl` of Props/C10Doc.lean. -/

/-- the exact inline simulation, for every inline configuration with single-byte non-LF emphasis markers -/
theorem inlineExactThm (icfg : Inline.Cfg) (hmk : C05R.AsciiMarkers icfg.chain) : InlineExactThm icfg :=
  C10SP.parseInline_exact' icfg hmk

/-- **every attribute-rendering node of the parsed tree** — every block node but the root, `CodeInline`,
    `Em` / `Strong` / `Strikethrough`, `Link`, `Image`, `Autolink` — **starts at a byte of the document
    that is not a line feed** (in a document in which no tab is split) -/
theorem doc_starts_on_bytes (cfg : DocCfg) (src : List Char) (hsp : cfg.sourcepos = true)
    (hsmall : 4 * Lines.byteLen src + 8 < 2147483648) (hpara : cfg.hasPara = true)
    (hmk : C05R.AsciiMarkers cfg.inlineChain) (hnv : NoSplitTab cfg src)
    {t : Node} (h : parseDoc cfg src = .ok t) :
    Every (fun n => n.kind.rendersAttrs = true → ∀ a b, n.range = some (a, b) → OnByteLf src a) t :=
  doc_anchored cfg src hsp (fun _ => inlineExactThm _ hmk) hsmall hpara hnv h

/-- **C10 with sourcepos, final newline, full**: in a document in which no tab is split a final LF does
    not change the HTML with its `data-sourcepos` attributes.  No hypothesis about ranges is left. -/
theorem doc_final_newline_invariant_sp_full (x : Bool) (cfg : DocCfg) (src : List Char)
    (hsp : cfg.sourcepos = true) (hlast : src.getLast? ≠ some '\n' ∧ src.getLast? ≠ some '\r')
    (hsmall : 4 * Lines.byteLen src + 8 < 2147483648) (hpara : cfg.hasPara = true)
    (hmk : C05R.AsciiMarkers cfg.inlineChain) (hnv : NoSplitTab cfg src) :
    renderDoc x cfg (src ++ ['\n']) = renderDoc x cfg src :=
  doc_final_newline_sp_of_inline x cfg src hsp hlast (fun _ => inlineExactThm _ hmk) hsmall hpara hmk hnv

/-- **C10 with sourcepos, LF ↦ CR LF, full**: in a CR-free document in which no tab is split, LF ↦ CR LF
    does not change the HTML with its `data-sourcepos` attributes — provided (`hinl`, as without the
    plugin) the inline pass does not panic on `src`.  No hypothesis about ranges or tables is left. -/
theorem doc_crlf_invariant_sp_full (x : Bool) (cfg : DocCfg) (src : List Char)
    (hsp : cfg.sourcepos = true) (hcr : '\r' ∉ src)
    (hinl : ∀ e, parseDoc cfg src ≠ .error (.inline e))
    (hsmall : 4 * Lines.byteLen src + 8 < 2147483648) (hpara : cfg.hasPara = true)
    (hmk : C05R.AsciiMarkers cfg.inlineChain) (hnv : NoSplitTab cfg src) :
    renderDoc x cfg (lfToCrlf src) = renderDoc x cfg src :=
  doc_crlf_sp_of_inline x cfg src hsp hcr hinl (fun _ => inlineExactThm _ hmk) hsmall hpara hmk hnv

/-- … for tab-free documents -/
theorem doc_final_newline_invariant_sp_tabFree (x : Bool) (cfg : DocCfg) (src : List Char)
    (hsp : cfg.sourcepos = true) (hlast : src.getLast? ≠ some '\n' ∧ src.getLast? ≠ some '\r')
    (hsmall : 4 * Lines.byteLen src + 8 < 2147483648) (hpara : cfg.hasPara = true)
    (hmk : C05R.AsciiMarkers cfg.inlineChain) (htab : '\t' ∉ src) :
    renderDoc x cfg (src ++ ['\n']) = renderDoc x cfg src :=
  doc_final_newline_invariant_sp_full x cfg src hsp hlast hsmall hpara hmk
    (noSplitTab_of_tabFree cfg src hsmall hpara htab)

theorem doc_crlf_invariant_sp_tabFree (x : Bool) (cfg : DocCfg) (src : List Char)
    (hsp : cfg.sourcepos = true) (hcr : '\r' ∉ src)
    (hinl : ∀ e, parseDoc cfg src ≠ .error (.inline e))
    (hsmall : 4 * Lines.byteLen src + 8 < 2147483648) (hpara : cfg.hasPara = true)
    (hmk : C05R.AsciiMarkers cfg.inlineChain) (htab : '\t' ∉ src) :
    renderDoc x cfg (lfToCrlf src) = renderDoc x cfg src :=
  doc_crlf_invariant_sp_full x cfg src hsp hcr hinl hsmall hpara hmk
    (noSplitTab_of_tabFree cfg src hsmall hpara htab)

/-! ## non-vacuity -/

/-- the hypotheses of the full theorems on `exDoc2` (emphasis over a line break, a code span, a link on
    the continuation line of a list item): nothing about ranges has to be evaluated -/
theorem exDoc2_full_hyps :
    4 * Lines.byteLen exDoc2 + 8 < 2147483648 ∧ (exCfg true 100).hasPara = true ∧
    C05R.AsciiMarkers (exCfg true 100).inlineChain ∧ '\t' ∉ exDoc2 ∧
    (exDoc2.getLast? ≠ some '\n' ∧ exDoc2.getLast? ≠ some '\r') :=
  ⟨by unfold exDoc2; decide_lits, by decide, exCfg_asciiMarkers true 100, by unfold exDoc2; decide_lits,
    by unfold exDoc2; decide_lits⟩

example (x : Bool) : renderDoc x (exCfg true 100) (lfToCrlf exDoc2) = renderDoc x (exCfg true 100) exDoc2 :=
  doc_crlf_invariant_sp_tabFree x _ _ rfl exDoc2_hyps.1 exDoc2_hyps.2.1 exDoc2_full_hyps.1
    exDoc2_full_hyps.2.1 exDoc2_full_hyps.2.2.1 exDoc2_full_hyps.2.2.2.1

example (x : Bool) : renderDoc x (exCfg true 100) (exDoc2 ++ ['\n']) = renderDoc x (exCfg true 100) exDoc2 :=
  doc_final_newline_invariant_sp_tabFree x _ _ rfl exDoc2_full_hyps.2.2.2.2 exDoc2_full_hyps.1
    exDoc2_full_hyps.2.1 exDoc2_full_hyps.2.2.1 exDoc2_full_hyps.2.2.2.1

/-- a document with a tab that is NOT split (inside a line): `NoSplitTab` by evaluation of the block pass -/
def exDoc3 : List Char := "a\t*b\nc*".toList

example (x : Bool) : renderDoc x (exCfg true 100) (exDoc3 ++ ['\n']) = renderDoc x (exCfg true 100) exDoc3 :=
  doc_final_newline_invariant_sp_full x _ _ rfl (by unfold exDoc3; decide_lits) (by unfold exDoc3; decide_lits)
    (by decide) (exCfg_asciiMarkers true 100) (noSplitTab_of_check _ _ (by unfold exDoc3; decide_lits))

/-! # ALL sources — split tabs included (no `NoSplitTab`)

  The table class of Props/C05Tabs.lean instead of `Inline.MapOK`:
   * `doc_placeholder_segsT` (`Lemmas/C10SpTabsTables.lean`): EVERY placeholder table is segmented by
     `C05T.tf_Seg` — real entries (a LF-free copy of source bytes) and virtual entries (a run of spaces of
     the inline text sitting on ONE source offset); `tr_shiftT`: EVERY position of the inline text is
     translated to `a` / `a + #LF before a` under the table / its shifted copy (inside a virtual segment
     both are the clamp); `tr_onByteT`: a character other than LF and space lies in a real segment;
     `mapT_shift`: the shifted table is `C05T.MapT`;
   * `C10SP.parseInline_exactT` (`Lemmas/C10SpTabsInline*.lean`): the exact inline simulation for `MapT`
     tables (attribute-rendering nodes start at their marker character, which is solid: `C10SP.SameSpanT`);
   * `a ≤ b ≤ |src|` at every node: `doc_ranges_ordered_all` (Props/C05Tabs.lean).
  The marker hypothesis becomes `C05T.SolidMarkers` (single byte, not LF, not space: `*`, `_`, `~`). -/

theorem inlineExactThmT (icfg : Inline.Cfg) (hmk : C05T.SolidMarkers icfg.chain) : InlineExactThmT icfg :=
  C10SP.parseInline_exactT' icfg hmk

/-- every attribute-rendering node of the parsed tree starts at a byte that is not a line feed — every source -/
theorem doc_starts_on_bytes_all (cfg : DocCfg) (src : List Char) (hsp : cfg.sourcepos = true)
    (hsmall : 4 * Lines.byteLen src + 8 < 2147483648) (hpara : cfg.hasPara = true)
    (hmk : C05T.SolidMarkers cfg.inlineChain) {t : Node} (h : parseDoc cfg src = .ok t) :
    Every (fun n => n.kind.rendersAttrs = true → ∀ a b, n.range = some (a, b) → OnByteLf src a) t :=
  doc_anchoredT cfg src hsp (fun _ => inlineExactThmT _ hmk) hsmall hpara h

/-- **C10 with sourcepos, final newline, EVERY source** (tabs split by containers included): a final LF does
    not change the HTML with its `data-sourcepos` attributes. -/
theorem doc_final_newline_invariant_sp_all (x : Bool) (cfg : DocCfg) (src : List Char)
    (hsp : cfg.sourcepos = true) (hlast : src.getLast? ≠ some '\n' ∧ src.getLast? ≠ some '\r')
    (hsmall : 4 * Lines.byteLen src + 8 < 2147483648) (hpara : cfg.hasPara = true)
    (hmk : C05T.SolidMarkers cfg.inlineChain) :
    renderDoc x cfg (src ++ ['\n']) = renderDoc x cfg src :=
  doc_final_newline_sp_of_inlineT x cfg src hsp hlast (fun _ => inlineExactThmT _ hmk) hsmall hpara hmk

/-- **C10 with sourcepos, LF ↦ CR LF, EVERY CR-free source** (tabs split by containers included), provided
    (`hinl`, as without the plugin) the inline pass does not panic on `src`. -/
theorem doc_crlf_invariant_sp_all (x : Bool) (cfg : DocCfg) (src : List Char)
    (hsp : cfg.sourcepos = true) (hcr : '\r' ∉ src)
    (hinl : ∀ e, parseDoc cfg src ≠ .error (.inline e))
    (hsmall : 4 * Lines.byteLen src + 8 < 2147483648) (hpara : cfg.hasPara = true)
    (hmk : C05T.SolidMarkers cfg.inlineChain) :
    renderDoc x cfg (lfToCrlf src) = renderDoc x cfg src :=
  doc_crlf_sp_of_inlineT x cfg src hsp hcr hinl (fun _ => inlineExactThmT _ hmk) hsmall hpara hmk

/-! ## non-vacuity: a document whose tab IS split -/

/-- the second paragraph of the list item starts with a tab that straddles the content column: its table has
    a virtual-space entry (`NoSplitTab` fails), the emphasis starts behind the virtual spaces -/
def exDocTab : List Char := "- a\n\n \t*b*\n  `c\n\td`".toList

/-- … it really is split: some placeholder table has two consecutive entries with the same source offset -/
example : (match Block.parseBlocks (exCfg true 100).blockCfg exDocTab with
    | .ok (root, _) => allNoVirtB root
    | .error _ => true) = false := by decide +kernel

theorem exDocTab_hyps :
    '\r' ∉ exDocTab ∧ (exDocTab.getLast? ≠ some '\n' ∧ exDocTab.getLast? ≠ some '\r') ∧
    4 * Lines.byteLen exDocTab + 8 < 2147483648 ∧ (exCfg true 100).hasPara = true ∧
    ∀ e, parseDoc (exCfg true 100) exDocTab ≠ .error (.inline e) :=
  ⟨by unfold exDocTab; decide_lits, by unfold exDocTab; decide_lits, by unfold exDocTab; decide_lits, by decide,
    not_inline_of (by unfold exDocTab; decide_lits)⟩

example (x : Bool) : renderDoc x (exCfg true 100) (lfToCrlf exDocTab) = renderDoc x (exCfg true 100) exDocTab :=
  doc_crlf_invariant_sp_all x _ _ rfl exDocTab_hyps.1 exDocTab_hyps.2.2.2.2 exDocTab_hyps.2.2.1
    exDocTab_hyps.2.2.2.1 (exCfg_solidMarkers true 100)

example (x : Bool) : renderDoc x (exCfg true 100) (exDocTab ++ ['\n']) = renderDoc x (exCfg true 100) exDocTab :=
  doc_final_newline_invariant_sp_all x _ _ rfl exDocTab_hyps.2.1 exDocTab_hyps.2.2.1
    exDocTab_hyps.2.2.2.1 (exCfg_solidMarkers true 100)

/-- the positions in question (the emphasis and the code span sit behind split tabs) -/
example : (parseDoc (exCfg true 100) exDocTab).toOption.map
      (fun t => (spValues t).filter (fun p => p.1 = .E ∨ p.1 = .C)) =
    some [(.E, "3:3-3:5".toList), (.C, "4:3-5:3".toList)] := by
  unfold exDocTab
  decide_lits

/-
  OPEN (what separates `doc_final_newline_invariant_sp_all` / `doc_crlf_invariant_sp_all` from
  hypothesis-free statements): `hinl` (CR LF only: equal inline PANICS under the two tables, as in
  Props/C10Doc.lean; discharged for coherent chains by `doc_crlf_invariant_sp_tabs`, Props/TotalTabs.lean),
  `hpara` (without the paragraph rule the fallback of `BlockParser::tokenize` makes
  one-entry tables whose content ends with a LF the table does not know — Props/C05Doc.lean finding —, not
  `get_lines` tables; the HTML is still invariant on the examples (2), (3) above), `hsmall` (the `i32` fields
  of the block state), `hmk` (`SolidMarkers`: the inline theorems of Props/C05Tabs.lean and the token invariant
  of the exact simulation need single-byte markers other than LF and space; necessary for LF:
  `C10SP.InlineWitness.lf_not_exact_aux`; with a multi-byte marker the inline model panics as soon as the rule
  fires, Props/C05Rest.lean).
-/

end MdIt.Pipeline
