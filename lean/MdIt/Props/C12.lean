/-
  C12 — Escapes and character references mean the same in every context.

  Path A = inline text (`EntityScanner`, `EscapeScanner`, the `tokenize` loop with the text scanner),
  path B = `unescape_all` (link destination, link title, reference definition, fence info string).
  All statements hold for EVERY entity table `lookup` (a parameter); the table lemmas at the end
  instantiate them with `Gen.Entities.table` (the `entities` crate as linked).

  Property theorems:
    agreement        `named_agree`, `numeric_agree`, `escape_agree`, `escape_literal_agree`
                     (+ `…_inline`: the whole chain `[text, escape, entity]`; `…_at`: at any position of a
                     longer source; `unescapeScan_named/_numeric/_escape`: path B followed by anything)
    no panic         `numeric_parse_total`, `valid_code_is_scalar`, `codeToChars_valid`,
                     `unescapeAllE_total`, `tokenizeTEE_total`, `matchUnescapeAllRe_prefix`
    literal sets     `escapable_is_ascii_punct`, `escapable_eq_unescapeClass`, `stopset_subset_punct`,
                     `escapable_length`
    shipped table    `entity_names_fit_syntax`, `table_no_hash`, `table_sorted`, `table_lookup_complete`,
                     `table_named_agree`, `table_numeric_agree`
    round trip       `escape_roundtrip`, `escape_roundtrip_TE`
    regex modelling  `runThenSemi_ok`, `runThenSemi_sound`, `runThenSemi_too_long`
    the class        `Denotes lookup R X` (`R` a named reference of the table, a numeric reference, an escape of one
                     of the 32 characters: the cases of the agreement theorems), `Denotes.unescape`, `Denotes.noTerm`

  Scope notes.
  * `\` + newline is a hard break in inline text and literal on path B (`escape_newline`); the property
    speaks of escapable punctuation only.
  * The round trip is stated for the inline loop.  That `escapeAllPunct s` is ONE paragraph whose inline
    content is `escapeAllPunct s` (no block construct starts with `\` or a non-punctuation character
    other than digits/blank; leading/trailing blanks are trimmed) is block-level and not modelled here.
-/
import MdIt.Model.Entity
import MdIt.Gen.Entities

namespace MdIt.Entity

/-! ## digits and the radix parse -/

theorem digitVal?_hex (c : Char) (h : isHexDigit c = true) :
    digitVal? 16 c = some (digitVal c) ∧ digitVal c < 16 := by
  simp [isHexDigit, isDigit] at h
  unfold digitVal? digitVal
  by_cases h1 : (48 ≤ c.toNat && c.toNat ≤ 57) = true
  · simp only [h1, if_true]; simp at h1; constructor
    · rw [if_pos (by omega)]
    · omega
  · by_cases h2 : (97 ≤ c.toNat && c.toNat ≤ 102) = true
    · simp only [h1, h2, if_true]; simp at h2; constructor
      · simp; omega
      · simp; omega
    · by_cases h3 : (65 ≤ c.toNat && c.toNat ≤ 70) = true
      · simp only [h1, h2, h3, if_true]; simp at h3; constructor
        · simp; omega
        · simp; omega
      · simp at h1 h2 h3; omega

theorem digitVal?_dec (c : Char) (h : isDigit c = true) :
    digitVal? 10 c = some (digitVal c) ∧ digitVal c < 10 := by
  unfold isDigit at h
  unfold digitVal? digitVal
  simp only [h, if_true]; simp at h; constructor
  · rw [if_pos (by omega)]
  · omega

theorem foldl_digits_cons (radix acc : Nat) (c : Char) (s : List Char) :
    List.foldl (fun acc c => acc * radix + digitVal c) acc (c :: s) =
    List.foldl (fun acc c => acc * radix + digitVal c) (acc * radix + digitVal c) s := rfl

theorem parseU32Loop_ok (radix : Nat) (s : List Char)
    (hd : ∀ c ∈ s, digitVal? radix c = some (digitVal c) ∧ digitVal c < radix) :
    ∀ acc, (acc + 1) * radix ^ s.length ≤ 4294967296 →
      parseU32Loop radix acc s = some (s.foldl (fun acc c => acc * radix + digitVal c) acc) := by
  induction s with
  | nil => intro acc _; simp [parseU32Loop]
  | cons c t ih =>
    intro acc hb
    have ⟨h1, h2⟩ := hd c (by simp)
    have hpos : 0 < radix ^ t.length := Nat.pow_pos (by omega)
    have hstep : (acc * radix + digitVal c + 1) * radix ^ t.length ≤ 4294967296 := by
      have : acc * radix + digitVal c + 1 ≤ (acc + 1) * radix := by
        rw [Nat.add_mul]; omega
      calc (acc * radix + digitVal c + 1) * radix ^ t.length
          ≤ ((acc + 1) * radix) * radix ^ t.length := Nat.mul_le_mul_right _ this
        _ = (acc + 1) * radix ^ (t.length + 1) := by rw [Nat.pow_succ, Nat.mul_assoc, Nat.mul_comm radix]
        _ ≤ 4294967296 := by simpa using hb
    have hlt : acc * radix + digitVal c < 4294967296 := by
      have : (acc * radix + digitVal c + 1) * 1 ≤ (acc * radix + digitVal c + 1) * radix ^ t.length :=
        Nat.mul_le_mul_left _ hpos
      omega
    simp only [parseU32Loop, h1, hlt, if_true, foldl_digits_cons]
    exact ih (fun c hc => hd c (by simp [hc])) _ hstep

/-- `from_str_radix` on a non-empty digit string short enough for `u32` -/
theorem parseU32_ok (radix : Nat) (s : List Char) (hne : s ≠ [])
    (hd : ∀ c ∈ s, digitVal? radix c = some (digitVal c) ∧ digitVal c < radix)
    (hb : radix ^ s.length ≤ 4294967296) :
    parseU32 radix s = some (digitsVal radix s) := by
  have hplus : ∀ c ∈ s, c ≠ '+' := by
    intro c hc he
    have := (hd c hc).1
    rw [he] at this
    simp [digitVal?] at this
  unfold parseU32 digitsVal
  split
  · exact absurd rfl hne
  · exact absurd rfl (hplus '+' (by simp))
  · exact absurd rfl (hplus '+' (by simp))
  · exact parseU32Loop_ok radix s hd 0 (by simpa using hb)

/-! ## valid codes are scalar values -/

theorem valid_code_is_scalar (code : Nat) (h : isValidEntityCode code = true) : code.isValidChar := by
  unfold isValidEntityCode at h
  -- only the first test (surrogates) and the last (out of range) matter
  have hs : ¬ (code ≥ 0xD800 && code ≤ 0xDFFF) = true := by
    intro hc; rw [if_pos hc] at h; cases h
  have hr : ¬ code > 0x10FFFF := by
    intro hc; simp only [hc, if_true, ite_self] at h; cases h
  simp only [ge_iff_le, Bool.and_eq_true, decide_eq_true_eq] at hs
  unfold Nat.isValidChar
  omega

theorem charFromU32_valid (code : Nat) (h : isValidEntityCode code = true) :
    charFromU32 code = some (Char.ofNat code) := by
  have hv := valid_code_is_scalar code h
  simp [charFromU32, hv, Char.ofNat]

/-- the character denoted really has the referenced code -/
theorem codeToChars_valid (code : Nat) (h : isValidEntityCode code = true) :
    codeToChars code = [Char.ofNat code] ∧ (Char.ofNat code).toNat = code := by
  have hv := valid_code_is_scalar code h
  refine ⟨by simp [codeToChars, h], ?_⟩
  simp [Char.ofNat, hv, Char.ofNatAux, Char.toNat]

/-! ## `splitRun`, `runThenSemi` -/

theorem splitRun_append (p : Char → Bool) (n rest : List Char) (hn : ∀ c ∈ n, p c = true)
    (hr : ∀ c ∈ rest.head?, p c = false) : splitRun p (n ++ rest) = (n, rest) := by
  induction n with
  | nil =>
    match rest, hr with
    | [], _ => simp [splitRun]
    | c :: r, hr => simp [splitRun, hr c (by simp)]
  | cons c t ih =>
    have := ih (fun x hx => hn x (by simp [hx]))
    simp [splitRun, hn c (by simp), this]

theorem splitRun_sound (p : Char → Bool) (s : List Char) :
    (∀ c ∈ (splitRun p s).1, p c = true) ∧ s = (splitRun p s).1 ++ (splitRun p s).2 ∧
    (∀ c ∈ (splitRun p s).2.head?, p c = false) := by
  induction s with
  | nil => simp [splitRun]
  | cons c t ih =>
    by_cases h : p c = true
    · simp only [splitRun, h, if_true]
      refine ⟨?_, ?_, ih.2.2⟩
      · intro x hx; simp at hx; rcases hx with rfl | hx; exact h; exact ih.1 x hx
      · simp; exact ih.2.1
    · simp [splitRun, h]

theorem runThenSemi_ok (p : Char → Bool) (max : Nat) (n rest : List Char) (hn : ∀ c ∈ n, p c = true)
    (hp : p ';' = false) (h1 : 1 ≤ n.length) (h2 : n.length ≤ max) :
    runThenSemi p max (n ++ ';' :: rest) = some (n, rest) := by
  have := splitRun_append p n (';' :: rest) hn (by simp [hp])
  simp [runThenSemi, this, h1, h2]

theorem runThenSemi_sound (p : Char → Bool) (max : Nat) (s run rest : List Char)
    (h : runThenSemi p max s = some (run, rest)) :
    (∀ c ∈ run, p c = true) ∧ 1 ≤ run.length ∧ run.length ≤ max ∧ s = run ++ ';' :: rest := by
  unfold runThenSemi at h
  have hs := splitRun_sound p s
  by_cases hl : (decide (1 ≤ (splitRun p s).1.length) && decide ((splitRun p s).1.length ≤ max)) = true
  · simp only [hl, if_true] at h
    split at h
    · rename_i r heq
      simp at h
      obtain ⟨rfl, rfl⟩ := h
      simp at hl
      refine ⟨hs.1, hl.1, hl.2, ?_⟩
      rw [← heq]; exact hs.2.1
    · cases h
  · simp only [hl] at h; cases h

/-- a run longer than the bound never matches, whatever follows (no help from backtracking) -/
theorem runThenSemi_too_long (p : Char → Bool) (max : Nat) (n rest : List Char)
    (hn : ∀ c ∈ n, p c = true) (hp : p ';' = false) (h : max < n.length) :
    runThenSemi p max (n ++ ';' :: rest) = none := by
  have := splitRun_append p n (';' :: rest) hn (by simp [hp])
  simp [runThenSemi, this]
  omega

/-! ## syntax of references -/

/-- capture 1 of a numeric reference: `x`/`X` + 1–6 hex digits, or 1–7 decimal digits -/
def numericBody : List Char → Bool
  | [] => false
  | c :: t =>
    if isX c then t.all isHexDigit && 1 ≤ t.length && t.length ≤ 6
    else (c :: t).all isDigit && (c :: t).length ≤ 7

/-- the name of a named reference (between `&` and `;`): ASCII letter + 1–31 ASCII alphanumerics -/
def namedSyntax : List Char → Bool
  | [] => false
  | c :: t => isAlpha c && t.all isAlnum && 1 ≤ t.length && t.length ≤ 31

theorem isX_not_digit (c : Char) (h : isX c = true) : isDigit c = false := by
  simp [isX] at h; rcases h with rfl | rfl <;> decide

theorem matchDigitalBody_ok (cap rest : List Char) (h : numericBody cap = true) :
    matchDigitalBody (cap ++ ';' :: rest) = some (cap, rest) := by
  match cap, h with
  | c :: t, h =>
    unfold numericBody at h
    by_cases hx : isX c = true
    · simp [hx] at h
      have := runThenSemi_ok isHexDigit 6 t rest h.1.1 (by decide) h.1.2 h.2
      simp [matchDigitalBody, hx, this]
    · simp [hx] at h
      have := runThenSemi_ok isDigit 7 (c :: t) rest (by simpa using h.1) (by decide) (by simp) (by simpa using h.2)
      simp at this
      simp [matchDigitalBody, hx, this]

theorem matchDigitalBody_sound (s cap rest : List Char) (h : matchDigitalBody s = some (cap, rest)) :
    numericBody cap = true ∧ s = cap ++ ';' :: rest := by
  match s, h with
  | c :: t, h =>
    unfold matchDigitalBody at h
    by_cases hx : isX c = true
    · simp only [hx, if_true] at h
      split at h
      · rename_i run rest' heq
        simp at h
        obtain ⟨rfl, rfl⟩ := h
        have := runThenSemi_sound _ _ _ _ _ heq
        simp [numericBody, hx, this.2.1, this.2.2.1]
        exact ⟨this.1, this.2.2.2⟩
      · cases h
    · simp only [hx] at h
      have := runThenSemi_sound _ _ _ _ _ h
      match cap, this with
      | [], this => simp at this
      | d :: u, this =>
        have hd : isDigit d = true := this.1 d (by simp)
        have hxd : isX d = false := by
          cases hh : isX d
          · rfl
          · rw [isX_not_digit d hh] at hd; cases hd
        refine ⟨?_, this.2.2.2⟩
        simp [numericBody, hxd]
        exact ⟨⟨hd, fun x hx => this.1 x (by simp [hx])⟩, by simpa using this.2.2.1⟩


/-! ## the numeric decode never panics -/

theorem entityCode_hex (c : Char) (t : List Char) (h : isX c = true) :
    entityCode (c :: t) = digitsVal 16 t := by simp [entityCode, h]

/-- **C12 (`numeric_parse_total`).** On every capture the numeric patterns can produce, both
    `from_str_radix(..).unwrap()` and `char::from_u32(..).unwrap()` succeed (≤ 6 hex / ≤ 7 decimal
    digits fit `u32`; a code accepted by `is_valid_entity_code` is a scalar value), and the result is
    the specification `decodeEntity`. -/
theorem numeric_parse_total (cap : List Char) (h : numericBody cap = true) :
    decodeEntityE cap = .ok (decodeEntity cap) := by
  match cap, h with
  | c :: t, h =>
    unfold numericBody at h
    have hcode : (if isX c then parseU32 16 t else parseU32 10 (c :: t)) = some (entityCode (c :: t)) := by
      by_cases hx : isX c = true
      · simp [hx] at h
        simp only [hx, if_true, entityCode]
        refine parseU32_ok 16 t ?_ (fun x hx => digitVal?_hex x (h.1.1 x hx)) ?_
        · intro he; rw [he] at h; simp at h
        · calc 16 ^ t.length ≤ 16 ^ 6 := Nat.pow_le_pow_right (by decide) h.2
            _ ≤ 4294967296 := by decide
      · simp [hx] at h
        simp only [hx, entityCode]
        refine parseU32_ok 10 (c :: t) (by simp) ?_ ?_
        · intro x hx'
          simp at hx'
          rcases hx' with rfl | hx'
          · exact digitVal?_dec x h.1.1
          · exact digitVal?_dec x (h.1.2 x hx')
        · calc 10 ^ (c :: t).length ≤ 10 ^ 7 := Nat.pow_le_pow_right (by decide) (by simpa using h.2)
            _ ≤ 4294967296 := by decide
    simp only [decodeEntityE, hcode, decodeEntity, codeToChars]
    by_cases hv : isValidEntityCode (entityCode (c :: t)) = true
    · simp [hv, charFromU32_valid _ hv]
    · simp [hv]

/-- `replace_entity_pattern` never panics, on any string and any table -/
theorem replaceEntityPatternE_total (lookup : List Char → Option (List Char)) (str : List Char) :
    replaceEntityPatternE lookup str = .ok (replaceEntityPattern lookup str) := by
  unfold replaceEntityPatternE replaceEntityPattern
  split
  · rfl
  · split
    · rename_i cap heq
      have hb : numericBody cap = true := by
        unfold matchDigitalTestRe at heq
        split at heq
        · rename_i cap' hm
          simp at heq; subst heq
          unfold matchDigitalRe at hm
          split at hm
          · exact (matchDigitalBody_sound _ _ _ hm).1
          · cases hm
        · cases heq
      simp [numeric_parse_total cap hb]
    · rfl

theorem replacementE_total (lookup : List Char → Option (List Char)) (m : ReMatch) :
    replacementE lookup m = .ok (replacement lookup m) := by
  unfold replacementE replacement
  split
  · rfl
  · rw [replaceEntityPatternE_total]
    split <;> simp_all

theorem unescapeScanE_total (lookup : List Char → Option (List Char)) (skip : Nat) (s : List Char) :
    unescapeScanE lookup skip s = .ok (unescapeScan lookup skip s) := by
  fun_induction unescapeScan lookup skip s with
  | case1 => simp [unescapeScanE]
  | case2 skip c r ih => simpa [unescapeScanE] using ih
  | case3 c r hm ih => simp [unescapeScanE, hm, ih]
  | case4 c r m hm ih => simp [unescapeScanE, hm, ih, replacementE_total]

/-- **C12 / C01.** `unescape_all` never panics (for every input and every table) and computes the
    total specification `unescapeAll`. -/
theorem unescapeAllE_total (lookup : List Char → Option (List Char)) (s : List Char) :
    unescapeAllE lookup s = .ok (unescapeAll lookup s) := by
  unfold unescapeAllE unescapeAll
  split
  · rfl
  · exact unescapeScanE_total lookup 0 s

/-! ## the regex matchers: matches are prefixes of the input -/

theorem matchEntityRe_sound (s whole rest : List Char) (h : matchEntityRe s = some (whole, rest)) :
    s = whole ++ rest ∧ ∃ c run, whole = '&' :: c :: (run ++ [';']) ∧ (isAlpha c = true ∨ c = '#') ∧
      (∀ x ∈ run, isAlnum x = true) ∧ 1 ≤ run.length ∧ run.length ≤ 31 := by
  unfold matchEntityRe at h
  split at h
  · rename_i c t
    split at h
    · rename_i hc
      split at h
      · rename_i run rest' heq
        simp at h
        obtain ⟨rfl, rfl⟩ := h
        have := runThenSemi_sound _ _ _ _ _ heq
        refine ⟨by simp [this.2.2.2], c, run, rfl, by simpa using hc, this.1, this.2.1, this.2.2.1⟩
      · cases h
    · cases h
  · cases h

/-- what `matchUnescapeAllRe` reports is a prefix of the input of length ≥ 2 starting with the
    current character: `unescapeScan`'s `m.whole.length - 1` is the number of FURTHER characters of
    the match and the subtraction never truncates. -/
theorem matchUnescapeAllRe_prefix (c : Char) (r : List Char) (m : ReMatch)
    (h : matchUnescapeAllRe (c :: r) = some m) :
    ∃ t rest, m.whole = c :: t ∧ t ≠ [] ∧ r = t ++ rest := by
  unfold matchUnescapeAllRe at h
  split at h
  · rename_i e he
    simp at h; subst h
    unfold matchEscapeRe at he
    split at he
    · rename_i c' t heq
      split at he
      · simp at he heq; subst he
        exact ⟨[c'], t, by simp [heq.1], by simp, by simp [heq.2]⟩
      · cases he
    · cases he
  · split at h
    · rename_i whole rest heq
      simp at h; subst h
      obtain ⟨hs, c', run, hw, _⟩ := matchEntityRe_sound _ _ _ heq
      subst hw
      simp at hs
      exact ⟨c' :: (run ++ [';']), rest, by simp [hs.1], by simp, by simp [hs.2]⟩
    · cases h

/-! ## scanning -/

theorem unescapeScan_skip (lookup : List Char → Option (List Char)) (a b : List Char) :
    unescapeScan lookup a.length (a ++ b) = unescapeScan lookup 0 b := by
  induction a with
  | nil => simp
  | cons c t ih => simpa [unescapeScan] using ih

theorem unescapeScan_nil (lookup : List Char → Option (List Char)) (k : Nat) :
    unescapeScan lookup k [] = [] := by
  cases k <;> simp [unescapeScan]

/-- a match at the head of the input is replaced and scanning resumes right after it -/
theorem unescapeScan_match (lookup : List Char → Option (List Char)) (c : Char) (t rest : List Char)
    (m : ReMatch) (hm : matchUnescapeAllRe (c :: (t ++ rest)) = some m) (hw : m.whole = c :: t) :
    unescapeScan lookup 0 (c :: (t ++ rest)) = replacement lookup m ++ unescapeScan lookup 0 rest := by
  simp [unescapeScan, hm, hw, unescapeScan_skip]

theorem unescapeScan_nomatch (lookup : List Char → Option (List Char)) (c : Char) (r : List Char)
    (hm : matchUnescapeAllRe (c :: r) = none) :
    unescapeScan lookup 0 (c :: r) = c :: unescapeScan lookup 0 r := by
  simp [unescapeScan, hm]

/-! ## named references -/

theorem isAlpha_isAlphaI (c : Char) (h : isAlpha c = true) : isAlphaI c = true := by simp [isAlphaI, h]
theorem isAlnum_isAlnumI (c : Char) (h : isAlnum c = true) : isAlnumI c = true := by
  simp [isAlnum] at h; rcases h with h | h <;> simp [isAlnumI, isAlphaI, h]

theorem namedSyntax_parts (n : List Char) (h : namedSyntax n = true) :
    ∃ c t, n = c :: t ∧ isAlpha c = true ∧ (∀ x ∈ t, isAlnum x = true) ∧ 1 ≤ t.length ∧ t.length ≤ 31 := by
  match n, h with
  | c :: t, h =>
    simp [namedSyntax] at h
    exact ⟨c, t, rfl, h.1.1.1, h.1.1.2, h.1.2, h.2⟩

theorem matchNamedRe_ok (n rest : List Char) (h : namedSyntax n = true) :
    matchNamedRe ('&' :: (n ++ ';' :: rest)) = some ('&' :: (n ++ [';']), rest) := by
  obtain ⟨c, t, rfl, hc, ht, h1, h2⟩ := namedSyntax_parts n h
  have := runThenSemi_ok isAlnumI 31 t rest (fun x hx => isAlnum_isAlnumI x (ht x hx)) (by decide) h1 h2
  simp [matchNamedRe, isAlpha_isAlphaI c hc, this]

theorem matchEntityRe_named (n rest : List Char) (h : namedSyntax n = true) :
    matchEntityRe ('&' :: (n ++ ';' :: rest)) = some ('&' :: (n ++ [';']), rest) := by
  obtain ⟨c, t, rfl, hc, ht, h1, h2⟩ := namedSyntax_parts n h
  have := runThenSemi_ok isAlnum 31 t rest ht (by decide) h1 h2
  simp [matchEntityRe, hc, this]

theorem matchEscapeRe_amp (s : List Char) : matchEscapeRe ('&' :: s) = none := by
  unfold matchEscapeRe
  split
  · rename_i heq; simp at heq
  · rfl

theorem slice?_all (s : List Char) : slice? s 0 s.length = some s := by simp [slice?]

theorem isAlpha_ne_hash (c : Char) (h : isAlpha c = true) : c ≠ '#' := by
  intro he; subst he; revert h; decide

/-- path A on a named reference followed by anything -/
theorem entityCore_named (lookup : List Char → Option (List Char)) (n rest cs : List Char)
    (hn : namedSyntax n = true) (hl : lookup ('&' :: (n ++ [';'])) = some cs) :
    entityCore lookup ('&' :: (n ++ ';' :: rest)) ('&' :: (n ++ ';' :: rest)) =
      .ok (some ⟨('&' :: (n ++ [';'])).length, cs, '&' :: (n ++ [';'])⟩) := by
  have hm := matchNamedRe_ok n rest hn
  obtain ⟨c, t, rfl, hc, -⟩ := namedSyntax_parts n hn
  have hne := isAlpha_ne_hash c hc
  simp only [entityCore, List.cons_append]
  split
  · rename_i heq; simp at heq
  · split
    · rename_i heq; simp at heq; exact absurd heq.1 hne
    · simp only [parseNamedEntity]
      simp only [List.cons_append] at hm
      rw [hm]
      simp only [List.cons_append] at hl
      simp [hl]

/-- path B on a named reference followed by anything -/
theorem unescapeScan_named (lookup : List Char → Option (List Char)) (n rest cs : List Char)
    (hn : namedSyntax n = true) (hl : lookup ('&' :: (n ++ [';'])) = some cs) :
    unescapeScan lookup 0 ('&' :: (n ++ ';' :: rest)) = cs ++ unescapeScan lookup 0 rest := by
  have hm : matchUnescapeAllRe ('&' :: ((n ++ [';']) ++ rest)) = some ⟨'&' :: (n ++ [';']), none⟩ := by
    simp [matchUnescapeAllRe, matchEscapeRe_amp, matchEntityRe_named n rest hn]
  rw [show n ++ ';' :: rest = (n ++ [';']) ++ rest by simp]
  rw [unescapeScan_match lookup '&' (n ++ [';']) rest _ hm rfl]
  simp [replacement, replaceEntityPattern, hl]

/-- **C12 (`named_agree`).** For every table, every name `n` with the syntax of a named reference
    (ASCII letter + 1–31 ASCII alphanumerics) that the table maps to `cs`: the inline rule at
    position 0 of `&n;` consumes all of it and produces content `cs`; the whole inline chain shows `cs`;
    `unescape_all("&n;") = cs`, without panic. -/
theorem named_agree (lookup : List Char → Option (List Char)) (n cs : List Char)
    (hn : namedSyntax n = true) (hl : lookup ('&' :: (n ++ [';'])) = some cs) :
    entityRule lookup ('&' :: (n ++ [';'])) 0 ('&' :: (n ++ [';'])).length =
        .ok (some ⟨('&' :: (n ++ [';'])).length, cs, '&' :: (n ++ [';'])⟩) ∧
    unescapeAllE lookup ('&' :: (n ++ [';'])) = .ok cs ∧
    unescapeAll lookup ('&' :: (n ++ [';'])) = cs := by
  have hB : unescapeAll lookup ('&' :: (n ++ [';'])) = cs := by
    have := unescapeScan_named lookup n [] cs hn hl
    simp [unescapeAll, this, unescapeScan_nil]
  refine ⟨?_, by rw [unescapeAllE_total, hB], hB⟩
  unfold entityRule
  rw [slice?_all]
  exact entityCore_named lookup n [] cs hn hl

/-! ## numeric references -/

theorem isHexDigit_isAlnum (c : Char) (h : isHexDigit c = true) : isAlnum c = true := by
  simp [isHexDigit, isDigit] at h
  simp [isAlnum, isAlpha, isDigit]
  omega

theorem isX_isAlnum (c : Char) (h : isX c = true) : isAlnum c = true := by
  simp [isX] at h; rcases h with rfl | rfl <;> decide

theorem numericBody_alnum (cap : List Char) (h : numericBody cap = true) :
    (∀ x ∈ cap, isAlnum x = true) ∧ 1 ≤ cap.length ∧ cap.length ≤ 7 := by
  match cap, h with
  | c :: t, h =>
    unfold numericBody at h
    by_cases hx : isX c = true
    · simp [hx] at h
      refine ⟨?_, by simp, by simp; omega⟩
      intro x hx'
      simp at hx'
      rcases hx' with rfl | hx'
      · exact isX_isAlnum x hx
      · exact isHexDigit_isAlnum x (h.1.1 x hx')
    · simp [hx] at h
      refine ⟨?_, by simp, by simpa using h.2⟩
      intro x hx'
      simp at hx'
      rcases hx' with rfl | hx'
      · simp [isAlnum, h.1.1]
      · simp [isAlnum, h.1.2 x hx']

theorem matchDigitalRe_ok (cap rest : List Char) (h : numericBody cap = true) :
    matchDigitalRe ('&' :: '#' :: (cap ++ ';' :: rest)) = some (cap, rest) := by
  simp [matchDigitalRe, matchDigitalBody_ok cap rest h]

theorem matchEntityRe_numeric (cap rest : List Char) (h : numericBody cap = true) :
    matchEntityRe ('&' :: '#' :: (cap ++ ';' :: rest)) = some ('&' :: '#' :: (cap ++ [';']), rest) := by
  obtain ⟨ha, h1, h2⟩ := numericBody_alnum cap h
  have := runThenSemi_ok isAlnum 31 cap rest ha (by decide) h1 (by omega)
  simp [matchEntityRe, this]

/-- path A on a numeric reference followed by anything -/
theorem entityCore_numeric (lookup : List Char → Option (List Char)) (cap rest : List Char)
    (h : numericBody cap = true) :
    entityCore lookup ('&' :: '#' :: (cap ++ ';' :: rest)) ('&' :: '#' :: (cap ++ ';' :: rest)) =
      .ok (some ⟨('&' :: '#' :: (cap ++ [';'])).length, decodeEntity cap, '&' :: '#' :: (cap ++ [';'])⟩) := by
  simp [entityCore, parseDigitalEntity, matchDigitalRe_ok cap rest h, numeric_parse_total cap h]

/-- path B on a numeric reference followed by anything -/
theorem unescapeScan_numeric (lookup : List Char → Option (List Char)) (cap rest : List Char)
    (h : numericBody cap = true) (hl : lookup ('&' :: '#' :: (cap ++ [';'])) = none) :
    unescapeScan lookup 0 ('&' :: '#' :: (cap ++ ';' :: rest)) =
      decodeEntity cap ++ unescapeScan lookup 0 rest := by
  have hm : matchUnescapeAllRe ('&' :: (('#' :: (cap ++ [';'])) ++ rest)) =
      some ⟨'&' :: '#' :: (cap ++ [';']), none⟩ := by
    have := matchEntityRe_numeric cap rest h
    simp [matchUnescapeAllRe, matchEscapeRe_amp] at this ⊢
    simp [this]
  rw [show '#' :: (cap ++ ';' :: rest) = ('#' :: (cap ++ [';'])) ++ rest by simp]
  rw [unescapeScan_match lookup '&' ('#' :: (cap ++ [';'])) rest _ hm rfl]
  have ht : matchDigitalTestRe ('&' :: '#' :: (cap ++ [';'])) = some cap := by
    simp [matchDigitalTestRe, matchDigitalRe_ok cap [] h]
  simp [replacement, replaceEntityPattern, hl, ht]

/-- **C12 (`numeric_agree`).** For every capture `cap` = `x`/`X` + 1–6 hex digits or 1–7 decimal digits,
    with `r = "&#" ++ cap ++ ";"`: the inline rule at position 0 consumes all of `r`, and its content,
    `unescape_all(r)` (no panic) and the specification agree: the character with that code if
    `is_valid_entity_code` accepts it (it is then a scalar value: `codeToChars_valid`), U+FFFD otherwise
    (code 0, surrogates, > 0x10FFFF, non-characters, controls).
    The table is only required not to contain names starting `&#` (`table_no_hash`). -/
theorem numeric_agree (lookup : List Char → Option (List Char)) (cap : List Char)
    (h : numericBody cap = true) (hl : ∀ s, lookup ('&' :: '#' :: s) = none) :
    entityRule lookup ('&' :: '#' :: (cap ++ [';'])) 0 ('&' :: '#' :: (cap ++ [';'])).length =
        .ok (some ⟨('&' :: '#' :: (cap ++ [';'])).length, codeToChars (entityCode cap),
          '&' :: '#' :: (cap ++ [';'])⟩) ∧
    unescapeAllE lookup ('&' :: '#' :: (cap ++ [';'])) = .ok (codeToChars (entityCode cap)) ∧
    unescapeAll lookup ('&' :: '#' :: (cap ++ [';'])) = codeToChars (entityCode cap) ∧
    codeToChars (entityCode cap) =
      (if isValidEntityCode (entityCode cap) then [Char.ofNat (entityCode cap)] else [Char.ofNat 0xFFFD]) := by
  have hB : unescapeAll lookup ('&' :: '#' :: (cap ++ [';'])) = codeToChars (entityCode cap) := by
    have := unescapeScan_numeric lookup cap [] h (hl _)
    simp [unescapeAll, this, unescapeScan_nil, decodeEntity]
  refine ⟨?_, by rw [unescapeAllE_total, hB], hB, rfl⟩
  unfold entityRule
  rw [slice?_all]
  exact entityCore_numeric lookup cap [] h

/-! ## backslash escapes -/

/-- the `match` arm of `escape.rs` and the class of `UNESCAPE_MD_RE` list the same characters -/
theorem escapable_eq_unescapeClass (c : Char) : c ∈ escapable ↔ c ∈ unescapeClass :=
  ⟨(by decide +kernel : ∀ c ∈ escapable, c ∈ unescapeClass) c,
    (by decide +kernel : ∀ c ∈ unescapeClass, c ∈ escapable) c⟩

theorem escapable_length : escapable.length = 32 ∧ escapable.Nodup ∧
    unescapeClass.length = 32 ∧ unescapeClass.Nodup ∧ textStop.length = 23 ∧ textStop.Nodup := by decide +kernel

theorem punctN_escapable : ∀ n < 128, isAsciiPunctN n = true → Char.ofNat n ∈ escapable := by decide +kernel

/-- **C12.** the escapable characters are exactly the 32 ASCII punctuation characters -/
theorem escapable_is_ascii_punct (c : Char) : c ∈ escapable ↔ isAsciiPunct c = true := by
  constructor
  · exact (by decide : ∀ c ∈ escapable, isAsciiPunct c = true) c
  · intro h
    have hlt : c.toNat < 128 := by
      simp [isAsciiPunct, isAsciiPunctN] at h; omega
    have := punctN_escapable c.toNat hlt h
    rwa [Char.ofNat_toNat] at this

/-- every stop character of the text scanner other than the newline is ASCII punctuation -/
theorem stopset_subset_punct : ∀ c ∈ textStop, c = '\n' ∨ isAsciiPunct c = true := by decide

theorem newline_not_escapable : '\n' ∉ escapable := by decide

theorem escapeCore_escapable (c : Char) (rest : List Char) (h : c ∈ escapable) :
    escapeCore ('\\' :: c :: rest) = .ok (some (.special ⟨2, [c], ['\\', c]⟩)) := by
  have hn : c ≠ '\n' := fun he => newline_not_escapable (he ▸ h)
  simp [escapeCore, hn, h]

theorem escapeCore_literal (c : Char) (rest : List Char) (h : c ∉ escapable) (hn : c ≠ '\n') :
    escapeCore ('\\' :: c :: rest) = .ok (some (.special ⟨2, ['\\', c], ['\\', c]⟩)) := by
  simp [escapeCore, hn, h]

theorem matchEscapeRe_escapable (c : Char) (rest : List Char) (h : c ∈ escapable) :
    matchEscapeRe ('\\' :: c :: rest) = some c := by
  simp [matchEscapeRe, (escapable_eq_unescapeClass c).1 h]

theorem matchEscapeRe_not (c : Char) (rest : List Char) (h : c ∉ escapable) :
    matchEscapeRe ('\\' :: c :: rest) = none := by
  have : c ∉ unescapeClass := fun hc => h ((escapable_eq_unescapeClass c).2 hc)
  simp [matchEscapeRe, this]

theorem matchEntityRe_backslash (s : List Char) : matchEntityRe ('\\' :: s) = none := by
  unfold matchEntityRe
  split
  · rename_i heq; simp at heq
  · rfl

theorem matchUnescapeAllRe_single (c : Char) : matchUnescapeAllRe [c] = none := by
  simp [matchUnescapeAllRe, matchEscapeRe, matchEntityRe]

/-- path B on an escape followed by anything -/
theorem unescapeScan_escape (lookup : List Char → Option (List Char)) (c : Char) (rest : List Char)
    (h : c ∈ escapable) :
    unescapeScan lookup 0 ('\\' :: c :: rest) = c :: unescapeScan lookup 0 rest := by
  have hm : matchUnescapeAllRe ('\\' :: ([c] ++ rest)) = some ⟨['\\', c], some c⟩ := by
    simp [matchUnescapeAllRe, matchEscapeRe_escapable c rest h]
  have := unescapeScan_match lookup '\\' [c] rest _ hm rfl
  simpa [replacement] using this

theorem contains_backslash (c : Char) : (['\\', c] : List Char).contains '\\' = true := by simp

/-- **C12 (`escape_agree`).** For each of the 32 escapable characters `c`: the inline rule on `\c`
    consumes both characters with content `c`, and `unescape_all("\c") = c`. -/
theorem escape_agree (lookup : List Char → Option (List Char)) (c : Char) (h : c ∈ escapable) :
    escapeRule ['\\', c] 0 2 = .ok (some (.special ⟨2, [c], ['\\', c]⟩)) ∧
    unescapeAllE lookup ['\\', c] = .ok [c] ∧
    unescapeAll lookup ['\\', c] = [c] := by
  have hB : unescapeAll lookup ['\\', c] = [c] := by
    simp [unescapeAll, unescapeScan_escape lookup c [] h, unescapeScan_nil]
  refine ⟨?_, by rw [unescapeAllE_total, hB], hB⟩
  have : slice? ['\\', c] 0 2 = some ['\\', c] := slice?_all ['\\', c]
  simp only [escapeRule, this]
  exact escapeCore_escapable c [] h

/-- **C12 (`escape_agree`, other characters).** For every other character `c` except the newline
    (which makes a hard break in inline text only) both paths leave `\c` literal. -/
theorem escape_literal_agree (lookup : List Char → Option (List Char)) (c : Char)
    (h : c ∉ escapable) (hn : c ≠ '\n') :
    escapeRule ['\\', c] 0 2 = .ok (some (.special ⟨2, ['\\', c], ['\\', c]⟩)) ∧
    unescapeAllE lookup ['\\', c] = .ok ['\\', c] ∧
    unescapeAll lookup ['\\', c] = ['\\', c] := by
  have hB : unescapeAll lookup ['\\', c] = ['\\', c] := by
    have h1 : matchUnescapeAllRe ['\\', c] = none := by
      simp [matchUnescapeAllRe, matchEscapeRe_not c [] h, matchEntityRe_backslash]
    simp [unescapeAll, unescapeScan_nomatch lookup _ _ h1,
      unescapeScan_nomatch lookup _ _ (matchUnescapeAllRe_single c), unescapeScan_nil]
  refine ⟨?_, by rw [unescapeAllE_total, hB], hB⟩
  have : slice? ['\\', c] 0 2 = some ['\\', c] := slice?_all ['\\', c]
  simp only [escapeRule, this]
  exact escapeCore_literal c [] h hn

/-- the one disagreement, outside the property: `\` + newline is a hard break in inline text and
    stays literal in attribute contexts -/
theorem escape_newline (lookup : List Char → Option (List Char)) :
    escapeRule ['\\', '\n'] 0 2 = .ok (some (.hardbreak 2)) ∧
    unescapeAll lookup ['\\', '\n'] = ['\\', '\n'] := by
  constructor
  · simp [escapeRule, slice?, escapeCore, splitRun]
  · have h1 : matchUnescapeAllRe ['\\', '\n'] = none := by decide
    simp [unescapeAll, unescapeScan_nomatch lookup _ _ h1,
      unescapeScan_nomatch lookup _ _ (matchUnescapeAllRe_single '\n'), unescapeScan_nil]

/-! ## the shipped table (`entities` crate as linked, names ending in `;`) -/

section Table
open MdIt.Gen.Entities

/-- `get_entity_from_str` over the generated table -/
def tableLookup : List Char → Option (List Char) := lookupIn table

theorem table_rows : table.length = 2125 := by decide +kernel

/-- a table name, as code points: ASCII only, `&` + named-reference syntax + `;` -/
def nameFits (name : List Nat) : Bool :=
  name.all (fun n => n < 128) &&
  match name.map Char.ofNat with
  | '&' :: rest => rest.getLast? == some ';' && namedSyntax rest.dropLast
  | _ => false

theorem names_fit_chunks :
    tableChunks.all (fun ch => ch.all (fun row =>
      nameFits row.1 && row.2.all (fun n => n.isValidChar))) = true := by
  decide +kernel

/-- **C12 (`entity_names_fit_syntax`).** Every one of the 2125 names of the table is ASCII and has the
    shape `&` + ASCII letter + 1–31 ASCII alphanumerics + `;` — the shape both `NAMED_RE` (path A) and
    `ENTITY_RE` (path B) accept — and every value consists of scalar values. So `named_agree` applies
    to every row (`table_named_agree`). -/
theorem entity_names_fit_syntax : ∀ row ∈ table,
    nameFits row.1 = true ∧ ∀ n ∈ row.2, n.isValidChar := by
  intro row hrow
  obtain ⟨ch, hch, hr⟩ := List.mem_flatten.1 hrow
  have := names_fit_chunks
  rw [List.all_eq_true] at this
  have := this ch hch
  rw [List.all_eq_true] at this
  have := this row hr
  simp at this
  exact ⟨this.1, fun n hn => this.2 n hn⟩

theorem ofNat_toNat_ascii : ∀ n < 128, (Char.ofNat n).toNat = n := by decide

theorem map_ofNat_toNat (l : List Nat) (h : ∀ n ∈ l, n < 128) :
    (l.map Char.ofNat).map Char.toNat = l := by
  induction l with
  | nil => rfl
  | cons a t ih =>
    simp only [List.map_cons, ofNat_toNat_ascii a (h a (by simp)), ih (fun n hn => h n (by simp [hn]))]

theorem nameFits_shape (name : List Nat) (h : nameFits name = true) :
    (name.map Char.ofNat).map Char.toNat = name ∧
    ∃ n, name.map Char.ofNat = '&' :: (n ++ [';']) ∧ namedSyntax n = true := by
  unfold nameFits at h
  simp only [Bool.and_eq_true] at h
  refine ⟨map_ofNat_toNat name (by simpa using h.1), ?_⟩
  have h2 := h.2
  split at h2
  · rename_i rest heq
    simp only [Bool.and_eq_true, beq_iff_eq] at h2
    obtain ⟨ys, hys⟩ := List.getLast?_eq_some_iff.1 h2.1
    refine ⟨ys, by rw [heq, hys], ?_⟩
    have h3 := h2.2
    rw [hys] at h3
    simpa using h3
  · cases h2

/-- fixed-width (40 code points) big-endian key of a name: numeric order = lexicographic order -/
def nameKey (name : List Nat) : Nat :=
  name.foldl (fun a n => a * 256 + n) 0 * 256 ^ (40 - name.length)

def increasing : Nat → List Nat → Bool
  | _, [] => true
  | lo, x :: r => lo < x && increasing x r

/-- the generated table is strictly sorted by name -/
theorem table_sorted : increasing 0 (table.map (fun row => nameKey row.1)) = true := by
  decide +kernel

theorem increasing_lt (lo : Nat) (l : List Nat) (h : increasing lo l = true) : ∀ x ∈ l, lo < x := by
  induction l generalizing lo with
  | nil => simp
  | cons a t ih =>
    simp [increasing] at h
    intro x hx
    simp at hx
    rcases hx with rfl | hx
    · exact h.1
    · exact Nat.lt_trans h.1 (ih a h.2 x hx)

theorem lookupNat_complete (t : List (List Nat × List Nat)) (lo : Nat)
    (h : increasing lo (t.map (fun row => nameKey row.1)) = true) :
    ∀ row ∈ t, lookupNat t row.1 = some row.2 := by
  induction t generalizing lo with
  | nil => simp
  | cons a t ih =>
    obtain ⟨k, v⟩ := a
    simp [increasing] at h
    intro row hrow
    simp at hrow
    rcases hrow with rfl | hrow
    · simp [lookupNat]
    · have hlt := increasing_lt _ _ h.2 (nameKey row.1) (List.mem_map.2 ⟨row, hrow, rfl⟩)
      have hne : ¬ k = row.1 := fun he => by rw [he] at hlt; exact Nat.lt_irrefl _ hlt
      simp [lookupNat, hne]
      exact ih _ h.2 row hrow

/-- **C12.** no name occurs twice: looking a row's name up yields that row's characters (so
    first-match here and last-insert-wins in the Rust `HashMap` are the same function) -/
theorem table_lookup_complete : ∀ row ∈ table, lookupNat table row.1 = some row.2 :=
  lookupNat_complete table 0 table_sorted

theorem lookupNat_some_mem (t : List (List Nat × List Nat)) (key v : List Nat)
    (h : lookupNat t key = some v) : (key, v) ∈ t := by
  induction t with
  | nil => simp [lookupNat] at h
  | cons a t ih =>
    obtain ⟨k, v'⟩ := a
    simp only [lookupNat] at h
    split at h
    · rename_i he; simp at he h; simp [he, h]
    · simp [ih h]

/-- a table whose names all have the shape `&` + LETTER + … has no name starting `&#` -/
theorem lookupIn_no_hash (t : List (List Nat × List Nat)) (ht : ∀ row ∈ t, nameFits row.1 = true)
    (s : List Char) : lookupIn t ('&' :: '#' :: s) = none := by
  unfold lookupIn
  split
  · rename_i v heq
    obtain ⟨-, n, hshape, hn⟩ := nameFits_shape _ (ht (_, v) (lookupNat_some_mem _ _ _ heq))
    obtain ⟨c, t, rfl, hc, -⟩ := namedSyntax_parts n hn
    simp only [List.map_cons, List.cons_append, List.cons.injEq] at hshape
    exact absurd hshape.2.1.symm (isAlpha_ne_hash c hc)
  · rfl

/-- **C12 (`table_no_hash`).** no table name starts with `&#`: the hypothesis of `numeric_agree` -/
theorem table_no_hash (s : List Char) : tableLookup ('&' :: '#' :: s) = none :=
  lookupIn_no_hash table (fun row hrow => (entity_names_fit_syntax row hrow).1) s

theorem table_lookup_row : ∀ row ∈ table,
    tableLookup (row.1.map Char.ofNat) = some (row.2.map Char.ofNat) := by
  intro row hrow
  obtain ⟨hmap, -⟩ := nameFits_shape row.1 (entity_names_fit_syntax row hrow).1
  simp [tableLookup, lookupIn, hmap, table_lookup_complete row hrow]

/-- **C12.** `named_agree` instantiated at every row of the shipped table: for each of the 2125 names,
    inline text and `unescape_all` produce exactly the row's characters. -/
theorem table_named_agree : ∀ row ∈ table,
    entityRule tableLookup (row.1.map Char.ofNat) 0 (row.1.map Char.ofNat).length =
      .ok (some ⟨(row.1.map Char.ofNat).length, row.2.map Char.ofNat, row.1.map Char.ofNat⟩) ∧
    unescapeAllE tableLookup (row.1.map Char.ofNat) = .ok (row.2.map Char.ofNat) ∧
    unescapeAll tableLookup (row.1.map Char.ofNat) = row.2.map Char.ofNat := by
  intro row hrow
  obtain ⟨-, n, hshape, hn⟩ := nameFits_shape row.1 (entity_names_fit_syntax row hrow).1
  have hl := table_lookup_row row hrow
  rw [hshape] at hl ⊢
  exact named_agree tableLookup n _ hn hl

/-- **C12.** `numeric_agree` for the shipped table (its hypothesis is `table_no_hash`) -/
theorem table_numeric_agree (cap : List Char) (h : numericBody cap = true) :
    entityRule tableLookup ('&' :: '#' :: (cap ++ [';'])) 0 ('&' :: '#' :: (cap ++ [';'])).length =
        .ok (some ⟨('&' :: '#' :: (cap ++ [';'])).length, codeToChars (entityCode cap),
          '&' :: '#' :: (cap ++ [';'])⟩) ∧
    unescapeAll tableLookup ('&' :: '#' :: (cap ++ [';'])) = codeToChars (entityCode cap) :=
  let r := numeric_agree tableLookup cap h table_no_hash
  ⟨r.1, r.2.2.1⟩

end Table

/-! ## escaping every punctuation character round-trips through the inline loop -/

/-- the text scanner's "not a stop character" -/
def nonStop (c : Char) : Bool := !textStop.contains c
def notPunct (c : Char) : Bool := !isAsciiPunct c

theorem nonStop_of_notPunct (c : Char) (h : isAsciiPunct c = false) (hn : c ≠ '\n') :
    nonStop c = true := by
  unfold nonStop
  cases hc : textStop.contains c
  · rfl
  · rcases stopset_subset_punct c (by simpa using hc) with h1 | h1
    · exact absurd h1 hn
    · rw [h] at h1; cases h1

theorem nonStop_backslash : nonStop '\\' = false := by decide

/-- in `escapeAllPunct s` the text scanner reads exactly the punctuation-free prefix of `s` -/
theorem splitRun_escaped (s : List Char) (hn : '\n' ∉ s) :
    splitRun nonStop (escapeAllPunct s) =
      ((splitRun notPunct s).1, escapeAllPunct (splitRun notPunct s).2) := by
  induction s with
  | nil => simp [escapeAllPunct, splitRun]
  | cons c t ih =>
    have ih := ih (fun h => hn (by simp [h]))
    by_cases hp : isAsciiPunct c = true
    · simp [escapeAllPunct, hp, splitRun, nonStop_backslash, notPunct]
    · have hp' : isAsciiPunct c = false := by simpa using hp
      have hc : c ≠ '\n' := fun he => hn (by simp [he])
      simp [escapeAllPunct, hp', splitRun, nonStop_of_notPunct c hp' hc, notPunct, ih]

theorem escapeAllPunct_append_notPunct (a s : List Char) (ha : ∀ c ∈ a, notPunct c = true) :
    escapeAllPunct (a ++ s) = a ++ escapeAllPunct s := by
  induction a with
  | nil => rfl
  | cons c t ih =>
    have hc : isAsciiPunct c = false := by simpa [notPunct] using ha c (by simp)
    simp [escapeAllPunct, hc, ih (fun x hx => ha x (by simp [hx]))]

theorem textRule_eq (s : List Char) :
    textRule s = if (splitRun nonStop s).1.length == 0 then .ok none
      else .ok (some ((splitRun nonStop s).1.length, [.text (splitRun nonStop s).1])) := rfl

/-- **C12 (`escape_roundtrip`).** For every string `s` without a newline and every rule chain that
    starts with the text scanner and the escape rule (ANY further rules `rest`): the inline loop on
    `escapeAllPunct s` never panics, never consults `rest` nor the one-character fallback — every stop
    character of the text scanner that occurs is a `\`, which the escape rule consumes together with
    the escaped character — and the pieces display exactly `s`. (`s.length` iterations suffice.) -/
theorem escape_roundtrip (rest : List Rule) (s : List Char) (hn : '\n' ∉ s) :
    ∀ fuel, s.length ≤ fuel →
      ∃ ps, inlineLoop ([textRule, escapeRuleR] ++ rest) fuel (escapeAllPunct s) = .ok ps ∧
        display ps = s ∧ ∀ p ∈ ps, (∃ t, p = .text t) ∨ (∃ c, p = .special [c] ['\\', c]) := by
  have key : ∀ n (s : List Char), s.length ≤ n → '\n' ∉ s → ∀ fuel, s.length ≤ fuel →
      ∃ ps, inlineLoop ([textRule, escapeRuleR] ++ rest) fuel (escapeAllPunct s) = .ok ps ∧
        display ps = s ∧ ∀ p ∈ ps, (∃ t, p = .text t) ∨ (∃ c, p = .special [c] ['\\', c]) := by
    intro n
    induction n with
    | zero =>
      intro s hs _ fuel _
      match s, hs with
      | [], _ => exact ⟨[], by cases fuel <;> simp [escapeAllPunct, inlineLoop], rfl, by simp⟩
    | succ n ih =>
      intro s hs hn fuel hf
      match s, hs, hn, hf with
      | [], _, _, _ => exact ⟨[], by cases fuel <;> simp [escapeAllPunct, inlineLoop], rfl, by simp⟩
      | c :: t, hs, hn, hf =>
        match fuel, hf with
        | f + 1, hf =>
          have hnt : '\n' ∉ t := fun h => hn (by simp [h])
          by_cases hp : isAsciiPunct c = true
          · -- `\c`: the text scanner stops at once, the escape rule takes both characters
            obtain ⟨ps, hps, hd, hk⟩ := ih t (by simpa using hs) hnt f (by simpa using hf)
            refine ⟨.special [c] ['\\', c] :: ps, ?_, by simp [display, Piece.display] at hd ⊢; exact hd, ?_⟩
            · have hesc : escapeAllPunct (c :: t) = '\\' :: c :: escapeAllPunct t := by
                simp [escapeAllPunct, hp]
              have ht : textRule ('\\' :: c :: escapeAllPunct t) = .ok none := by
                simp [textRule_eq, splitRun, nonStop_backslash]
              have he : escapeRuleR ('\\' :: c :: escapeAllPunct t) =
                  .ok (some (2, [.special [c] ['\\', c]])) := by
                simp [escapeRuleR, escapeCore_escapable c _ ((escapable_is_ascii_punct c).2 hp)]
              have hps' : inlineLoop (textRule :: escapeRuleR :: rest) f (escapeAllPunct t) = .ok ps := by
                simpa using hps
              rw [hesc]
              simp [inlineLoop, firstRule, ht, he, hps']
            · intro p hp'
              simp at hp'
              rcases hp' with rfl | hp'
              · exact Or.inr ⟨c, rfl⟩
              · exact hk p hp'
          · -- a punctuation-free run `a`, read by the text scanner in one go
            have hp' : isAsciiPunct c = false := by simpa using hp
            have hsound := splitRun_sound notPunct (c :: t)
            have hsplit := splitRun_escaped (c :: t) hn
            generalize ha : (splitRun notPunct (c :: t)).1 = a at hsound hsplit
            generalize hs' : (splitRun notPunct (c :: t)).2 = s' at hsound hsplit
            have hane : a ≠ [] := by
              intro he
              rw [← ha] at he
              simp [splitRun, notPunct, hp'] at he
            have hlen : (c :: t).length = a.length + s'.length := by
              rw [hsound.2.1]; simp
            have hapos : 0 < a.length := List.length_pos_iff.2 hane
            have hns' : '\n' ∉ s' := fun h => hn (by rw [hsound.2.1]; simp [h])
            obtain ⟨ps, hps, hd, hk⟩ := ih s' (by simp at hs hlen; omega) hns' f (by simp at hf hlen; omega)
            refine ⟨.text a :: ps, ?_, ?_, ?_⟩
            · have hesc : escapeAllPunct (c :: t) = a ++ escapeAllPunct s' := by
                rw [hsound.2.1]; exact escapeAllPunct_append_notPunct a s' hsound.1
              have ht : textRule (escapeAllPunct (c :: t)) = .ok (some (a.length, [.text a])) := by
                rw [textRule_eq, hsplit]
                have : (a.length == 0) = false := by simp; omega
                simp [this]
              have hne : ∃ x y, escapeAllPunct (c :: t) = x :: y := by
                simp [escapeAllPunct, hp']
              obtain ⟨x, y, hxy⟩ := hne
              have hdrop : (x :: y).drop a.length = escapeAllPunct s' := by
                rw [← hxy, hesc]; simp
              have hps' : inlineLoop (textRule :: escapeRuleR :: rest) f (escapeAllPunct s') = .ok ps := by
                simpa using hps
              rw [hxy] at ht ⊢
              simp only [inlineLoop, List.cons_append, List.nil_append, firstRule, ht, hdrop, hps']
            · simp [display, Piece.display] at hd ⊢
              rw [hd]; exact hsound.2.1.symm
            · intro p hp''
              simp at hp''
              rcases hp'' with rfl | hp''
              · exact Or.inl ⟨a, rfl⟩
              · exact hk p hp''
  exact key s.length s (Nat.le_refl _) hn

/-- the concrete chain `[text, escape, entity]` on the escaped string -/
theorem escape_roundtrip_TE (lookup : List Char → Option (List Char)) (s : List Char) (hn : '\n' ∉ s) :
    ∃ ps, tokenizeTEE lookup (escapeAllPunct s) = .ok ps ∧ display ps = s := by
  have hlen : s.length ≤ (escapeAllPunct s).length + 1 := by
    have : ∀ l : List Char, l.length ≤ (escapeAllPunct l).length := by
      intro l
      induction l with
      | nil => simp [escapeAllPunct]
      | cons c t ih => simp only [escapeAllPunct]; split <;> simp <;> omega
    have := this s; omega
  obtain ⟨ps, h1, h2, _⟩ := escape_roundtrip [entityRuleR lookup] s hn _ hlen
  exact ⟨ps, h1, h2⟩

/-! ## the whole inline chain on a single reference / escape -/

theorem textRule_stop (c : Char) (r : List Char) (h : nonStop c = false) : textRule (c :: r) = .ok none := by
  simp [textRule_eq, splitRun, h]

theorem escapeRuleR_other (c : Char) (r : List Char) (h : c ≠ '\\') : escapeRuleR (c :: r) = .ok none := by
  simp [escapeRuleR, escapeCore, h]

theorem inlineLoop_one (rules : List Rule) (s : List Char) (hs : s ≠ []) (len : Nat) (ps : List Piece)
    (h : firstRule rules s = .ok (some (len, ps))) (hl : s.length ≤ len) :
    inlineLoop rules (s.length + 1) s = .ok ps := by
  match s, hs with
  | c :: r, _ =>
    have : (c :: r).drop len = [] := List.drop_eq_nil_iff.2 hl
    simp only [inlineLoop, h, this]
    cases (c :: r).length <;> simp

/-- `named_agree` at the level of the parsed paragraph text: the chain `[text, escape, entity]` turns
    `&n;` into the single node `TextSpecial { content: cs, markup: "&n;" }` -/
theorem named_inline (lookup : List Char → Option (List Char)) (n cs : List Char)
    (hn : namedSyntax n = true) (hl : lookup ('&' :: (n ++ [';'])) = some cs) :
    tokenizeTEE lookup ('&' :: (n ++ [';'])) = .ok [.special cs ('&' :: (n ++ [';']))] := by
  have hc := entityCore_named lookup n [] cs hn hl
  apply inlineLoop_one _ _ (by simp) ('&' :: (n ++ [';'])).length
  · simp only [firstRule, textRule_stop '&' _ (by decide), escapeRuleR_other '&' _ (by decide),
      entityRuleR, hc]
  · exact Nat.le_refl _

/-- `numeric_agree` at the level of the parsed paragraph text -/
theorem numeric_inline (lookup : List Char → Option (List Char)) (cap : List Char)
    (h : numericBody cap = true) :
    tokenizeTEE lookup ('&' :: '#' :: (cap ++ [';'])) =
      .ok [.special (codeToChars (entityCode cap)) ('&' :: '#' :: (cap ++ [';']))] := by
  have hc := entityCore_numeric lookup cap [] h
  apply inlineLoop_one _ _ (by simp) ('&' :: '#' :: (cap ++ [';'])).length
  · simp only [firstRule, textRule_stop '&' _ (by decide), escapeRuleR_other '&' _ (by decide),
      entityRuleR, hc, decodeEntity]
  · exact Nat.le_refl _

/-- `escape_agree` at the level of the parsed paragraph text (both kinds of `c`) -/
theorem escape_inline (lookup : List Char → Option (List Char)) (c : Char) (hn : c ≠ '\n') :
    tokenizeTEE lookup ['\\', c] =
      .ok [.special (if c ∈ escapable then [c] else ['\\', c]) ['\\', c]] := by
  apply inlineLoop_one _ _ (by simp) 2
  · by_cases h : c ∈ escapable
    · simp [firstRule, textRule_stop '\\' _ (by decide), escapeRuleR, escapeCore_escapable c [] h, h]
    · simp [firstRule, textRule_stop '\\' _ (by decide), escapeRuleR, escapeCore_literal c [] h hn, h]
  · simp

/-! ## non-vacuity: the hypotheses are satisfiable, the statements say something on concrete inputs -/

section Examples

/-- a two-row table for the abstract theorems -/
private def lk : List Char → Option (List Char) :=
  lookupIn [([38, 97, 109, 112, 59], [38]), ([38, 110, 103, 69, 59], [8807, 824])]

private theorem lk_no_hash (s : List Char) : lk ('&' :: '#' :: s) = none := by
  simp [lk, lookupIn, lookupNat]

/-- `&amp;` through `named_agree` -/
example : entityRule lk ['&', 'a', 'm', 'p', ';'] 0 5 = .ok (some ⟨5, ['&'], ['&', 'a', 'm', 'p', ';']⟩) ∧
    unescapeAll lk ['&', 'a', 'm', 'p', ';'] = ['&'] :=
  let r := named_agree lk ['a', 'm', 'p'] ['&'] (by decide) (by decide)
  ⟨r.1, r.2.2⟩

/-- a two-character value (`&ngE;` = U+2267 U+0338) -/
example : unescapeAll lk ['&', 'n', 'g', 'E', ';'] = [Char.ofNat 8807, Char.ofNat 824] :=
  (named_agree lk ['n', 'g', 'E'] _ (by decide) (by decide)).2.2

/-- `&amp;` in the shipped table, through `table_named_agree` -/
example : unescapeAll tableLookup ['&', 'a', 'm', 'p', ';'] = ['&'] ∧
    entityRule tableLookup ['&', 'a', 'm', 'p', ';'] 0 5 = .ok (some ⟨5, ['&'], ['&', 'a', 'm', 'p', ';']⟩) := by
  have hmem : (([38, 97, 109, 112, 59], [38]) : List Nat × List Nat) ∈ Gen.Entities.table := by
    decide +kernel
  have := table_named_agree _ hmem
  exact ⟨this.2.2, this.1⟩

/-- `&#x41;` = `&#X41;` = `&#65;` = `&#0000065;` = "A" on both paths -/
example : unescapeAll lk ['&', '#', 'x', '4', '1', ';'] = ['A'] ∧
    unescapeAll lk ['&', '#', 'X', '4', '1', ';'] = ['A'] ∧
    unescapeAll lk ['&', '#', '6', '5', ';'] = ['A'] ∧
    unescapeAll lk ['&', '#', '0', '0', '0', '0', '0', '6', '5', ';'] = ['A'] ∧
    entityRule lk ['&', '#', 'x', '4', '1', ';'] 0 6 =
      .ok (some ⟨6, ['A'], ['&', '#', 'x', '4', '1', ';']⟩) :=
  ⟨(numeric_agree lk ['x', '4', '1'] (by decide) lk_no_hash).2.2.1,
   (numeric_agree lk ['X', '4', '1'] (by decide) lk_no_hash).2.2.1,
   (numeric_agree lk ['6', '5'] (by decide) lk_no_hash).2.2.1,
   (numeric_agree lk ['0', '0', '0', '0', '0', '6', '5'] (by decide) lk_no_hash).2.2.1,
   (numeric_agree lk ['x', '4', '1'] (by decide) lk_no_hash).1⟩

/-- `&#0;`, `&#xD800;`, `&#x110000;`, `&#xFFFE;`, `&#9999999;` all denote U+FFFD on both paths -/
example : unescapeAll lk ['&', '#', '0', ';'] = [Char.ofNat 0xFFFD] ∧
    unescapeAll lk ['&', '#', 'x', 'D', '8', '0', '0', ';'] = [Char.ofNat 0xFFFD] ∧
    unescapeAll lk ['&', '#', 'x', '1', '1', '0', '0', '0', '0', ';'] = [Char.ofNat 0xFFFD] ∧
    unescapeAll lk ['&', '#', 'x', 'F', 'F', 'F', 'E', ';'] = [Char.ofNat 0xFFFD] ∧
    unescapeAll lk ['&', '#', '9', '9', '9', '9', '9', '9', '9', ';'] = [Char.ofNat 0xFFFD] ∧
    entityRule lk ['&', '#', '0', ';'] 0 4 = .ok (some ⟨4, [Char.ofNat 0xFFFD], ['&', '#', '0', ';']⟩) :=
  ⟨(numeric_agree lk ['0'] (by decide) lk_no_hash).2.2.1,
   (numeric_agree lk ['x', 'D', '8', '0', '0'] (by decide) lk_no_hash).2.2.1,
   (numeric_agree lk ['x', '1', '1', '0', '0', '0', '0'] (by decide) lk_no_hash).2.2.1,
   (numeric_agree lk ['x', 'F', 'F', 'F', 'E'] (by decide) lk_no_hash).2.2.1,
   (numeric_agree lk ['9', '9', '9', '9', '9', '9', '9'] (by decide) lk_no_hash).2.2.1,
   (numeric_agree lk ['0'] (by decide) lk_no_hash).1⟩

/-- eight decimal / seven hex digits, a missing `;`, and a 33-character name are no references:
    both paths leave them alone (the greedy `{1,31}` cannot backtrack onto a `;`) -/
example : unescapeAll lk ['&', '#', '0', '0', '0', '0', '0', '0', '6', '5', ';'] =
      ['&', '#', '0', '0', '0', '0', '0', '0', '6', '5', ';'] ∧
    unescapeAll lk ['&', '#', '6', '5'] = ['&', '#', '6', '5'] := by
  constructor <;> decide

example : runThenSemi isAlnum 31 (List.replicate 32 'a' ++ [';']) = none :=
  runThenSemi_too_long isAlnum 31 (List.replicate 32 'a') [] (by simp; decide) (by decide) (by simp)

/-- `\*` and `\a` -/
example : escapeRule ['\\', '*'] 0 2 = .ok (some (.special ⟨2, ['*'], ['\\', '*']⟩)) ∧
    unescapeAll lk ['\\', '*'] = ['*'] :=
  let r := escape_agree lk '*' (by decide)
  ⟨r.1, r.2.2⟩

example : escapeRule ['\\', 'a'] 0 2 = .ok (some (.special ⟨2, ['\\', 'a'], ['\\', 'a']⟩)) ∧
    unescapeAll lk ['\\', 'a'] = ['\\', 'a'] :=
  let r := escape_literal_agree lk 'a' (by decide) (by decide)
  ⟨r.1, r.2.2⟩

/-- nesting is not re-scanned: `&amp;amp;` → `&amp;`; an escaped ampersand starts no reference -/
example : unescapeAll lk ['&', 'a', 'm', 'p', ';', 'a', 'm', 'p', ';'] = ['&', 'a', 'm', 'p', ';'] ∧
    unescapeAll lk ['\\', '&', 'a', 'm', 'p', ';'] = ['&', 'a', 'm', 'p', ';'] := by
  constructor <;> decide

/-- round trip of `a*b [c]_&amp;` -/
example : escapeAllPunct ['a', '*', 'b', ' ', '[', 'c', ']', '_', '&', 'a', 'm', 'p', ';'] =
    ['a', '\\', '*', 'b', ' ', '\\', '[', 'c', '\\', ']', '\\', '_', '\\', '&', 'a', 'm', 'p', '\\', ';'] := by decide +kernel

example : ∃ ps, tokenizeTEE lk
      ['a', '\\', '*', 'b', ' ', '\\', '[', 'c', '\\', ']', '\\', '_', '\\', '&', 'a', 'm', 'p', '\\', ';'] = .ok ps ∧
    display ps = ['a', '*', 'b', ' ', '[', 'c', ']', '_', '&', 'a', 'm', 'p', ';'] :=
  escape_roundtrip_TE lk ['a', '*', 'b', ' ', '[', 'c', ']', '_', '&', 'a', 'm', 'p', ';'] (by decide)

/-- without the escaping the same string does not round-trip (`&amp;` is decoded) -/
example : ∃ ps, tokenizeTEE lk ['&', 'a', 'm', 'p', ';'] = .ok ps ∧ display ps ≠ ['&', 'a', 'm', 'p', ';'] :=
  ⟨_, named_inline lk ['a', 'm', 'p'] ['&'] (by decide) (by decide), by decide⟩

/-- the hypothesis `'\n' ∉ s` of the round trip is needed: the newline is a stop character of the
    text scanner that is not punctuation, so `escapeAllPunct` leaves it for another rule -/
example : escapeAllPunct ['a', '\n', 'b'] = ['a', '\n', 'b'] ∧ nonStop '\n' = false := by decide

end Examples

/-! ## the inline chain `[text, escape, entity]` never panics and always terminates -/

theorem parseDigitalEntity_total (s : List Char) :
    ∃ r, parseDigitalEntity s = .ok r ∧ ∀ sp, r = some sp → 1 ≤ sp.len := by
  unfold parseDigitalEntity
  split
  · exact ⟨none, rfl, by simp⟩
  · rename_i cap rest heq
    have hb : numericBody cap = true := by
      unfold matchDigitalRe at heq
      split at heq
      · exact (matchDigitalBody_sound _ _ _ heq).1
      · cases heq
    simp only [numeric_parse_total cap hb]
    exact ⟨_, rfl, by intro sp h; simp at h; subst h; simp⟩

theorem parseNamedEntity_total (lookup : List Char → Option (List Char)) (s : List Char) :
    ∃ r, parseNamedEntity lookup s = .ok r ∧ ∀ sp, r = some sp → 1 ≤ sp.len := by
  unfold parseNamedEntity
  split
  · exact ⟨none, rfl, by simp⟩
  · rename_i whole rest heq
    have hw : 1 ≤ whole.length := by
      unfold matchNamedRe at heq
      split at heq
      · split at heq
        · split at heq
          · simp at heq; rw [← heq.1]; simp
          · cases heq
        · cases heq
      · cases heq
    split
    · exact ⟨none, rfl, by simp⟩
    · exact ⟨_, rfl, by intro sp h; simp at h; subst h; exact hw⟩

theorem entityCore_total (lookup : List Char → Option (List Char)) (window suffix : List Char)
    (hw : window ≠ []) :
    ∃ r, entityCore lookup window suffix = .ok r ∧ ∀ sp, r = some sp → 1 ≤ sp.len := by
  match window, hw with
  | c :: w, _ =>
    unfold entityCore
    simp only
    split
    · exact ⟨none, rfl, by simp⟩
    · split
      · exact parseDigitalEntity_total suffix
      · exact parseNamedEntity_total lookup suffix

theorem escapeCore_total (window : List Char) (hw : window ≠ []) :
    ∃ r, escapeCore window = .ok r ∧
      ∀ o, r = some o → (∃ len, o = .hardbreak len ∧ 2 ≤ len) ∨ (∃ sp, o = .special sp ∧ sp.len = 2) := by
  match window, hw with
  | c :: w, _ =>
    unfold escapeCore
    simp only
    split
    · exact ⟨none, rfl, by simp⟩
    · split
      · exact ⟨none, rfl, by simp⟩
      · split
        · exact ⟨_, rfl, by intro o h; simp at h; subst h; exact Or.inl ⟨_, rfl, by omega⟩⟩
        · exact ⟨_, rfl, by intro o h; simp at h; subst h; exact Or.inr ⟨_, rfl, rfl⟩⟩

/-- every rule of the chain answers without panic on non-empty input, and a `Some(len)` has `len ≥ 1` -/
theorem firstRule_TE_total (lookup : List Char → Option (List Char)) (s : List Char) (hs : s ≠ []) :
    ∃ r, firstRule [textRule, escapeRuleR, entityRuleR lookup] s = .ok r ∧
      ∀ len ps, r = some (len, ps) → 1 ≤ len := by
  simp only [firstRule]
  by_cases hrun : ((splitRun nonStop s).1.length == 0) = true
  · have ht : textRule s = .ok none := by rw [textRule_eq, if_pos hrun]
    simp only [ht]
    obtain ⟨r, hr, hlen⟩ := escapeCore_total s hs
    simp only [escapeRuleR, hr]
    match r, hlen with
    | some (.hardbreak len), hlen =>
      refine ⟨_, rfl, ?_⟩
      intro l ps h; simp at h
      rcases hlen _ rfl with ⟨len', h1, h2⟩ | ⟨sp, h1, _⟩
      · simp at h1; omega
      · cases h1
    | some (.special sp), hlen =>
      refine ⟨_, rfl, ?_⟩
      intro l ps h; simp at h
      rcases hlen _ rfl with ⟨len', h1, _⟩ | ⟨sp', h1, h2⟩
      · cases h1
      · simp at h1; subst h1; omega
    | none, _ =>
      obtain ⟨r, hr, hlen⟩ := entityCore_total lookup s s hs
      simp only [entityRuleR, hr]
      match r, hlen with
      | none, _ => exact ⟨none, rfl, by simp⟩
      | some sp, hlen =>
        refine ⟨_, rfl, ?_⟩
        intro l ps h; simp at h
        have := hlen sp rfl; omega
  · have ht : textRule s =
        .ok (some ((splitRun nonStop s).1.length, [.text (splitRun nonStop s).1])) := by
      rw [textRule_eq, if_neg hrun]
    simp only [ht]
    refine ⟨_, rfl, ?_⟩
    intro l ps h; simp at h hrun
    have : 0 < (splitRun nonStop s).1.length := List.length_pos_iff.2 hrun
    omega

/-- **C12 / C01.** On every input and every table the chain `[text, escape, entity]` runs to the end
    without panic (`chars.next().unwrap()`, the radix parse, `char::from_u32(..).unwrap()`), and
    `s.length` iterations suffice. -/
theorem tokenizeTEE_total (lookup : List Char → Option (List Char)) (s : List Char) :
    ∃ ps, tokenizeTEE lookup s = .ok ps := by
  have key : ∀ fuel (s : List Char), s.length ≤ fuel →
      ∃ ps, inlineLoop [textRule, escapeRuleR, entityRuleR lookup] fuel s = .ok ps := by
    intro fuel
    induction fuel with
    | zero => intro s hs; match s, hs with | [], _ => exact ⟨[], rfl⟩
    | succ f ih =>
      intro s hs
      match s, hs with
      | [], _ => exact ⟨[], rfl⟩
      | c :: r, hs =>
        obtain ⟨res, hres, hlen⟩ := firstRule_TE_total lookup (c :: r) (by simp)
        simp only [inlineLoop, hres]
        match res, hlen with
        | none, _ =>
          obtain ⟨ps, hps⟩ := ih r (by simpa using hs)
          rw [hps]; exact ⟨_, rfl⟩
        | some (len, ps'), hlen =>
          have h1 := hlen len ps' rfl
          obtain ⟨ps, hps⟩ := ih ((c :: r).drop len) (by simp at hs ⊢; omega)
          simp only [hps]; exact ⟨_, rfl⟩
  exact key _ s (Nat.le_succ _)

/-! ## the rules at an arbitrary position of a longer source -/

theorem slice?_suffix (pre suf : List Char) :
    slice? (pre ++ suf) pre.length (pre ++ suf).length = some suf := by
  simp [slice?]

/-- at top level (`pos_max` = end of the source) the rules depend on the rest of the input only -/
theorem entityRule_at (lookup : List Char → Option (List Char)) (pre suf : List Char) :
    entityRule lookup (pre ++ suf) pre.length (pre ++ suf).length = entityCore lookup suf suf := by
  simp only [entityRule, slice?_suffix]

theorem escapeRule_at (pre suf : List Char) :
    escapeRule (pre ++ suf) pre.length (pre ++ suf).length = escapeCore suf := by
  simp only [escapeRule, slice?_suffix]

/-- `named_agree`, path A, anywhere in a paragraph: whatever precedes and follows the reference -/
theorem named_agree_at (lookup : List Char → Option (List Char)) (pre n rest cs : List Char)
    (hn : namedSyntax n = true) (hl : lookup ('&' :: (n ++ [';'])) = some cs) :
    entityRule lookup (pre ++ '&' :: (n ++ ';' :: rest)) pre.length (pre ++ '&' :: (n ++ ';' :: rest)).length =
      .ok (some ⟨('&' :: (n ++ [';'])).length, cs, '&' :: (n ++ [';'])⟩) := by
  rw [entityRule_at]; exact entityCore_named lookup n rest cs hn hl

/-- `numeric_agree`, path A, anywhere in a paragraph -/
theorem numeric_agree_at (lookup : List Char → Option (List Char)) (pre cap rest : List Char)
    (h : numericBody cap = true) :
    entityRule lookup (pre ++ '&' :: '#' :: (cap ++ ';' :: rest)) pre.length
        (pre ++ '&' :: '#' :: (cap ++ ';' :: rest)).length =
      .ok (some ⟨('&' :: '#' :: (cap ++ [';'])).length, codeToChars (entityCode cap),
        '&' :: '#' :: (cap ++ [';'])⟩) := by
  rw [entityRule_at]; exact entityCore_numeric lookup cap rest h

/-- `escape_agree`, path A, anywhere in a paragraph -/
theorem escape_agree_at (pre rest : List Char) (c : Char) (h : c ∈ escapable) :
    escapeRule (pre ++ '\\' :: c :: rest) pre.length (pre ++ '\\' :: c :: rest).length =
      .ok (some (.special ⟨2, [c], ['\\', c]⟩)) := by
  rw [escapeRule_at]; exact escapeCore_escapable c rest h

/-! ## the class of the agreement theorems, as one relation -/

/-- `R` is a valid character reference or backslash escape, `X` the characters it denotes -/
inductive Denotes (lookup : List Char → Option (List Char)) : List Char → List Char → Prop
  /-- `&name;` with the syntax of a named reference, present in the table -/
  | named (n cs : List Char) (hn : namedSyntax n = true) (hl : lookup ('&' :: (n ++ [';'])) = some cs) :
      Denotes lookup ('&' :: (n ++ [';'])) cs
  /-- `&#…;` / `&#x…;`: the character with that code, U+FFFD if `is_valid_entity_code` rejects it -/
  | numeric (cap : List Char) (h : numericBody cap = true) :
      Denotes lookup ('&' :: '#' :: (cap ++ [';'])) (codeToChars (entityCode cap))
  /-- `\c` for one of the 32 escapable characters -/
  | escape (c : Char) (h : c ∈ escapable) : Denotes lookup ['\\', c] [c]

theorem isAlnum_plain {c : Char} (h : isAlnum c = true) : c ≠ '\n' ∧ c ≠ '\r' := by
  constructor <;> (intro he; subst he; revert h; decide)

theorem Denotes.noTerm {lookup : List Char → Option (List Char)} {R X : List Char}
    (h : Denotes lookup R X) : ∀ c ∈ R, c ≠ '\n' ∧ c ≠ '\r' := by
  cases h with
  | named n cs hn hl =>
    obtain ⟨c, t, rfl, hc, ht, _, _⟩ := namedSyntax_parts n hn
    intro x hx
    simp only [List.cons_append, List.mem_cons, List.mem_append, List.not_mem_nil, or_false] at hx
    rcases hx with rfl | rfl | hx | rfl
    · exact ⟨by decide, by decide⟩
    · exact isAlnum_plain (by simp [isAlnum, hc])
    · exact isAlnum_plain (ht x hx)
    · exact ⟨by decide, by decide⟩
  | numeric cap hcap =>
    obtain ⟨ha, _, _⟩ := numericBody_alnum cap hcap
    intro x hx
    simp only [List.mem_cons, List.mem_append, List.not_mem_nil, or_false] at hx
    rcases hx with rfl | rfl | hx | rfl
    · exact ⟨by decide, by decide⟩
    · exact ⟨by decide, by decide⟩
    · exact isAlnum_plain (ha x hx)
    · exact ⟨by decide, by decide⟩
  | escape c hc =>
    intro x hx
    simp only [List.mem_cons, List.not_mem_nil, or_false] at hx
    rcases hx with rfl | rfl
    · exact ⟨by decide, by decide⟩
    · exact ⟨fun he => by subst he; revert hc; decide, fun he => by subst he; revert hc; decide⟩

/-- path B on `R` followed by anything -/
theorem Denotes.unescape {lookup : List Char → Option (List Char)} {R X : List Char}
    (h : Denotes lookup R X) (hno : ∀ s, lookup ('&' :: '#' :: s) = none) (rest : List Char) :
    unescapeScan lookup 0 (R ++ rest) = X ++ unescapeScan lookup 0 rest := by
  cases h with
  | named n cs hn hl =>
    have := unescapeScan_named lookup n rest _ hn hl
    simpa using this
  | numeric cap hcap =>
    have := unescapeScan_numeric lookup cap rest hcap (hno _)
    simpa [decodeEntity] using this
  | escape c hc => exact unescapeScan_escape lookup c rest hc

end MdIt.Entity
