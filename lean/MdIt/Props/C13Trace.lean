/-
  C13 tied to SOURCE LINES.

  `Lemmas/C13TraceDefs.lean`  the instrumented reading `Block.Tr.tokenizeT` of the block tokenizer: the
                              model's state plus the list of the successful rule calls of the run
                              (rule, state before, state after), `docTrace cfg src : List (RuleId × Nat × Nat)`
  `Lemmas/C13TraceInv.lean`   its invariant `tokenize_calls` (`Thread`, `Lam`, `Good`)

  Here (namespace `MdIt.Block.Tr`, then `MdIt.Pipeline`):
    `tokenize_trace`               (1) the trace specification of the block pass: same state as the
                                   model; every entry a successful `ruleAt` call on a view of the source's
                                   lines; entries laminar in their line ranges (later entry behind the
                                   earlier one, or inside it if that is a container), so the calls of
                                   `reference` are strictly increasing in line — execution order =
                                   document order; the reference map threaded through exactly these calls
    `docTrace_laminar`             the same on the projection `docTrace` (rule, start line, end line)
    `defs_in_line_order`           (2) the `defs` of `parseBlocks_refs`: one per `reference` entry of
                                   the trace, in that order = sorted by start line, disjoint line
                                   ranges; each is `refParse` of the text `get_lines` cuts out of the
                                   source's lines `start .. n` through the container's view
    `doc_first_definition_by_line` (3) a use — anywhere in the document — gets destination and title of
                                   the matching definition with the SMALLEST START LINE
    `doc_first_definition_by_line_idem`   … matching = equal non-empty normal forms (idempotent `N`)
    `doc_two_definitions`          the template: a document that begins  D₁ ⏎ D₂ ⏎ ⏎ … : every use
                                   whose label matches D₁'s resolves to D₁ (whatever D₂ and the rest
                                   are; `Lemmas/C13TraceTemplate.lean`: `leading_definition_stored`)
    `two_definitions_quoted`, `two_definitions_item`   the same document `"> "`-prefixed / as the content
                                   of a bullet list item: the block pass collects the same map
  OPEN block at the end (exact line extent of a definition; generic labels; `parseDoc` in containers).
-/
import MdIt.Lemmas.C13TraceInv
import MdIt.Lemmas.C13TraceTemplate
import MdIt.Props.C06List
import MdIt.Lemmas.KernelEval

namespace MdIt.Block.Tr
open MdIt.Lines (LineOffset)
open MdIt.Block

/-! ## (1) the trace specification -/

/-- the laminarity relation on trace entries -/
def FollowsE (e₁ e₂ : RuleId × Nat × Nat) : Prop :=
  e₁.2.2 ≤ e₂.2.1 ∨ (isContainer e₁.1 = true ∧ e₁.2.1 ≤ e₂.2.1 ∧ e₂.2.2 ≤ e₁.2.2)

/-- **`tokenize_trace`.**  The instrumented tokenizer returns the state the model returns, and — on
    a state whose table shows lines of the source (`SOk`; the fresh state of `parseBlocks` does) —
    a list of calls such that
    * every call is a successful real-mode call `ruleAt cfg f rule pre false = .ok (true, post)` on a
      state over the same source whose table entry `k` cuts a piece out of source line `k`, it starts
      below `line_max` and ends at most there (`Good`);
    * the calls lie within `[s.line, s'.line]`, each consumes at least one line, and of any two the
      later one lies BEHIND the earlier one (`stop ≤ start`) or INSIDE it, the earlier one being a
      container (`blockquote` / `list`) — increasing line order within one container, containers
      nested by their own line ranges (`Lam`);
    * hence the calls of `reference` (or of any other non-container rule) have pairwise disjoint,
      strictly increasing line ranges: execution order = document (line) order;
    * the reference map goes from `s.refs` to `s'.refs` through the `reference` calls only, each
      performing ONE `Refs.addDef` of the definition it read off its lines (`Thread`, `IsDefAt`). -/
theorem tokenize_trace (cfg : Cfg) (fuel : Nat) (s s' : BState) (cs : Calls)
    (h : tokenizeT cfg fuel s = .ok (s', cs)) (hS : SOk s) (hle : s.line ≤ s.lineMax) :
    tokenize cfg fuel s = .ok s' ∧
    (∀ c ∈ cs, Good cfg s.src c) ∧
    Lam s.line s'.line cs ∧
    (∀ r, isContainer r = false →
      (cs.filter (fun c => c.rule = r)).Pairwise (fun c₁ c₂ => c₁.stop ≤ c₂.start)) ∧
    Thread cfg s.refs s'.refs cs := by
  obtain ⟨ht, rfl⟩ := tokenizeT_ok h
  have P := tokenize_calls cfg fuel s s' ht hS hle
  exact ⟨ht, P.good, P.lam, fun r hr => P.lam.sorted r hr, P.thread⟩

/-- a successful model run has an instrumented run (the converse of `tokenizeT_ok`) -/
theorem tokenizeT_of_ok {cfg : Cfg} {fuel : Nat} {s s' : BState} (h : tokenize cfg fuel s = .ok s') :
    tokenizeT cfg fuel s = .ok (s', engineCalls cfg fuel s) := by
  unfold tokenizeT; rw [h]

theorem parseBlocks_tok {cfg : Cfg} {src : List Char} {root : BNode} {refs : Refs.RefMap}
    (h : parseBlocks cfg src = .ok (root, refs)) :
    ∃ s', tokenize cfg (fuelFor cfg src) (BState.fresh src .root []) = .ok s' ∧ s'.refs = refs := by
  unfold parseBlocks at h
  split at h
  · cases h
  · rename_i s hs
    simp only [Except.ok.injEq, Prod.mk.injEq] at h
    exact ⟨s, hs, h.2⟩

theorem parseBlocks_calls {cfg : Cfg} {src : List Char} {root : BNode} {refs : Refs.RefMap}
    (h : parseBlocks cfg src = .ok (root, refs)) :
    ∃ n, n ≤ (Lines.splitLines src).length ∧ Seg cfg src [] refs 0 n (docCalls cfg src) := by
  obtain ⟨s', hs, rfl⟩ := parseBlocks_tok h
  have P := tokenize_calls cfg _ _ _ hs (sOk_fresh src .root []) (Nat.zero_le _)
  have hup := (tokenize_spec cfg _ _ _ hs).upper (tableOk_fresh src .root []) (Nat.zero_le _)
  exact ⟨s'.line, hup, P⟩

/-- **the trace of a document is laminar**: of two entries (rule, start, end) the later one lies behind
    the earlier one or inside it (then the earlier one is a container); every entry has
    `start < end ≤ number of lines` -/
theorem docTrace_laminar {cfg : Cfg} {src : List Char} {root : BNode} {refs : Refs.RefMap}
    (h : parseBlocks cfg src = .ok (root, refs)) :
    (docTrace cfg src).Pairwise FollowsE ∧
    ∀ e ∈ docTrace cfg src, e.2.1 < e.2.2 ∧ e.2.2 ≤ (Lines.splitLines src).length := by
  obtain ⟨n, hn, P⟩ := parseBlocks_calls h
  refine ⟨?_, ?_⟩
  · unfold docTrace traceOf
    rw [List.pairwise_map]
    exact P.lam.pw
  · intro e he
    unfold docTrace traceOf at he
    obtain ⟨c, hc, rfl⟩ := List.mem_map.mp he
    have hb := P.lam.bounds c hc
    exact ⟨hb.2.1, by simp only; omega⟩

/-! ## (2) the definitions of the document, by line -/

/-- a table that shows the lines of `src`: entry `k` has the `line_start` / `line_end` of line `k` of
    the source's own table, and cuts a line-feed-free piece `a ++ b` of that line out of the source
    with `first_nonspace` between `a` and `b` (`LineOk`) -/
def View (src : List Char) (offs : List LineOffset) : Prop :=
  offs.map geo = (Lines.splitLines src).map geo ∧
    ∀ (k : Nat) (o : LineOffset), offs[k]? = some o → LineOk src o

/-- **the definition `d` stands on the lines `a .. b - 1` of the source**: through some view of the
    source's lines (the table of the container the definition sits in — the source's own table at top
    level — and that container's block indent) `get_lines` cuts the text of the lines `a .. n - 1`
    (`n ≥ b`: up to where the paragraph-continuation scan stopped), namely the views of these lines
    (`Lines.Shows`: blanks and text of line `a + j`) joined by line feeds, and `refParse` of the
    trimmed text is `d` — label, destination, title — ending `b - a - 1` line feeds into the text;
    the label is not blank -/
def DefOnLines (cfg : Cfg) (src : List Char) (a b : Nat) (d : Refs.Def) : Prop :=
  ∃ (offs : List LineOffset) (blk n : Nat) (txt : List Char) (mp : List (Nat × Nat))
    (vs : List (List Char × List Char × Int)),
    View src offs ∧ a < b ∧ b ≤ n ∧ n ≤ offs.length ∧
    Lines.getLines src offs a n blk false = .ok (txt, mp) ∧
    vs.length = n - a ∧ (∀ j (hj : j < vs.length), ∃ o, offs[a + j]? = some o ∧ Lines.Shows src o vs[j]) ∧
    txt = Lines.joinLines false (vs.map (Lines.viewPiece blk)) ∧
    refParse cfg (trimStr txt) = .ok (some (d.label, d.entry.dest, d.entry.title, b - a - 1)) ∧
    cfg.N d.label ≠ []

theorem DefOnLines.isDef {cfg : Cfg} {src : List Char} {a b : Nat} {d : Refs.Def}
    (h : DefOnLines cfg src a b d) : IsDef cfg d := by
  obtain ⟨_, _, _, txt, _, _, _, _, _, _, _, _, _, _, hp, _⟩ := h
  exact ⟨_, _, hp⟩

theorem defOnLines_of_call {cfg : Cfg} {src : List Char} {c : Call} {d : Refs.Def}
    (hg : Good cfg src c) (hd : IsDefAt cfg c.pre c.post d) : DefOnLines cfg src c.start c.stop d := by
  obtain ⟨n, txt, mp, lines, hline, hn, hmax, hgl, hparse, hne⟩ := hd
  have hgl' := liftL_eq_ok hgl
  have hlt : c.pre.line < n := by omega
  have hlen : n ≤ c.pre.offs.length := by
    unfold Lines.getLines at hgl'
    rw [if_neg (by omega)] at hgl'
    exact Lines.getLinesGo_ok_len hgl' hlt
  obtain ⟨vs, hvl, hvs, _⟩ := views_of_tableOk hg.ok.table (n - c.pre.line) c.pre.line (by omega)
  obtain ⟨m', hm'⟩ := Lines.get_lines_lf c.pre.src c.pre.offs c.pre.line c.pre.blkIndent false vs hvs
  rw [hvl, show c.pre.line + (n - c.pre.line) = n by omega, hgl'] at hm'
  simp only [Except.ok.injEq, Prod.mk.injEq] at hm'
  have hsrc := hg.src
  subst hsrc
  have hview : View c.pre.src c.pre.offs := ⟨hg.ok.geo, hg.ok.table⟩
  have hlt' : c.start < c.stop := by show c.pre.line < c.post.line; omega
  have e : c.stop - c.start - 1 = lines := by
    show c.post.line - c.pre.line - 1 = lines; omega
  rw [← e] at hparse
  exact ⟨c.pre.offs, c.pre.blkIndent, n, txt, mp, vs, hview, hlt', hn, hlen, hgl', hvl, hvs, hm'.1,
    hparse, hne⟩

/-- the first hit of a search in a list sorted by `R` is `R`-below every other hit -/
theorem find?_first {α : Type} {R : α → α → Prop} {p : α → Bool} :
    ∀ {l : List α} {x : α}, l.Pairwise R → l.find? p = some x →
      x ∈ l ∧ p x = true ∧ ∀ y ∈ l, p y = true → y = x ∨ R x y
  | [], _, _, h => by simp at h
  | a :: r, x, hp, h => by
    rw [List.find?_cons] at h
    rw [List.pairwise_cons] at hp
    split at h
    · rename_i ha
      cases h
      refine ⟨by simp, ha, ?_⟩
      intro y hy _
      rcases List.mem_cons.mp hy with rfl | hy
      · exact .inl rfl
      · exact .inr (hp.1 y hy)
    · rename_i ha
      obtain ⟨h1, h2, h3⟩ := find?_first hp.2 h
      refine ⟨List.mem_cons_of_mem _ h1, h2, ?_⟩
      intro y hy hpy
      rcases List.mem_cons.mp hy with rfl | hy
      · rw [hpy] at ha; cases ha
      · exact h3 y hy hpy

/-- **`defs_in_line_order`.**  The `defs` of `parseBlocks_refs` by SOURCE LINE: there is a list `L`
    of (call, definition) with
    * its calls are exactly the `reference` entries of the document's trace, in trace order;
    * the final reference map is `Refs.buildMap` — insert under the normalised label if absent — over
      its definitions, in that order;
    * it is SORTED BY LINE with disjoint line ranges: of two members the earlier one ends
      (`stop`) at or before the line the later one starts on;
    * each definition stands on the lines `start .. stop - 1` of the source (`DefOnLines`: `refParse`
      of what `get_lines` reads of these lines through the view of its container), `stop` at most
      the number of lines. -/
theorem defs_in_line_order {cfg : Cfg} {src : List Char} {root : BNode} {refs : Refs.RefMap}
    (h : parseBlocks cfg src = .ok (root, refs)) :
    ∃ L : List (Call × Refs.Def),
      L.map Prod.fst = (docCalls cfg src).filter (fun c => c.rule = .reference) ∧
      refs = Refs.buildMap cfg.N (L.map Prod.snd) ∧
      L.Pairwise (fun x y => x.1.stop ≤ y.1.start) ∧
      ∀ x ∈ L, x.1.stop ≤ (Lines.splitLines src).length ∧ DefOnLines cfg src x.1.start x.1.stop x.2 := by
  obtain ⟨n, hn, P⟩ := parseBlocks_calls h
  obtain ⟨L, h1, h2, h3⟩ := P.thread.defs
  have hmem : ∀ x ∈ L, x.1 ∈ docCalls cfg src := by
    intro x hx
    have : x.1 ∈ L.map Prod.fst := List.mem_map_of_mem hx
    rw [h1] at this
    exact (List.mem_filter.mp this).1
  refine ⟨L, h1, h3, ?_, ?_⟩
  · have hs := P.lam.sorted .reference rfl
    rw [← h1, List.pairwise_map] at hs
    exact hs
  · intro x hx
    have hb := P.lam.bounds _ (hmem x hx)
    exact ⟨by omega, defOnLines_of_call (P.good _ (hmem x hx)) (h2 x hx).isDef⟩

theorem defs_trace_entries {cfg : Cfg} {src : List Char} (L : List (Call × Refs.Def))
    (h : L.map Prod.fst = (docCalls cfg src).filter (fun c => c.rule = .reference)) :
    L.map (fun x => (RuleId.reference, x.1.start, x.1.stop)) =
      (docTrace cfg src).filter (fun e => e.1 = .reference) := by
  unfold docTrace traceOf
  rw [List.filter_map]
  have : ((fun e : RuleId × Nat × Nat => decide (e.1 = RuleId.reference)) ∘
      fun c : Call => (c.rule, c.start, c.stop)) = fun c => decide (c.rule = .reference) := rfl
  rw [this, ← h, List.map_map]
  apply List.map_congr_left
  intro x hx
  have : x.1 ∈ L.map Prod.fst := List.mem_map_of_mem hx
  rw [h] at this
  have hr : x.1.rule = .reference := by simpa using (List.mem_filter.mp this).2
  simp [hr]

end MdIt.Block.Tr

/-! ## (3) the document: the matching definition with the smallest start line -/

namespace MdIt.Pipeline
open MdIt.Block.Tr (Call docCalls docTrace DefOnLines)

/-- what a reference use with label `label` finds in the document's reference map (the reference
    tail of `Inline.parseLinkRef` under `cfg.inlineCfg refs`: nothing if the map is absent) -/
def docLookup (cfg : DocCfg) (refs : Refs.RefMap) (label : List Nat) : Option Refs.Entry :=
  match (cfg.inlineCfg refs).refs with
  | none => none
  | some m => Refs.lookup (cfg.inlineCfg refs).normRef m label

theorem docLookup_eq (cfg : DocCfg) (defs : List Refs.Def) (label : List Nat) :
    docLookup cfg (Refs.buildMap cfg.blockCfg.N defs) label =
      (defs.find? (Refs.defHasKey cfg.blockCfg.N (cfg.blockCfg.N label))).map (·.entry) := by
  rw [← Refs.first_wins_raw]
  generalize Refs.buildMap cfg.blockCfg.N defs = refs
  show (match (if refs.isEmpty then none else some refs) with
        | none => none
        | some m => Refs.lookup (Refs.normalize cfg.L cfg.U) m label) = _
  split
  · rename_i hnone
    split at hnone
    · rename_i he
      have : refs = [] := by simpa using he
      rw [this]; rfl
    · cases hnone
  · rename_i m hsome
    split at hsome
    · cases hsome
    · cases hsome; rfl

/-- **`doc_first_definition_by_line` (C13 by source line).**  For every parsed document there is
    the list `L` of its link reference definitions, each with the `reference` call of the block pass
    that read it — exactly the `reference` entries of the document's trace, sorted by line, with
    disjoint line ranges, each definition standing on its lines of the source (`DefOnLines`) — such
    that a reference use with label `label`, ANYWHERE in the document (every `InlineRoot` is parsed
    under the one configuration `cfg.inlineCfg refs`: `doc_reference_position_irrelevant`), finds
    * nothing, if no definition of `L` has the key `N label` (stored key = label normalised twice,
      label not blank), and otherwise
    * destination and title of a definition `x ∈ L` with that key whose START LINE IS THE SMALLEST:
      every other definition with that key starts at or behind the line on which `x` ends. -/
theorem doc_first_definition_by_line (cfg : DocCfg) (src : List Char) (t : Node)
    (h : parseDoc cfg src = .ok t) :
    ∃ (root : Block.BNode) (refs : Refs.RefMap) (L : List (Call × Refs.Def)),
      Block.parseBlocks cfg.blockCfg src = .ok (root, refs) ∧
      L.map (fun x => (Block.RuleId.reference, x.1.start, x.1.stop)) =
        (docTrace cfg.blockCfg src).filter (fun e => e.1 = .reference) ∧
      L.Pairwise (fun x y => x.1.stop ≤ y.1.start) ∧
      (∀ x ∈ L, x.1.stop ≤ (Lines.splitLines src).length ∧
        DefOnLines cfg.blockCfg src x.1.start x.1.stop x.2) ∧
      ∀ label : List Nat,
        let hit := fun x : Call × Refs.Def => Refs.defHasKey cfg.blockCfg.N (cfg.blockCfg.N label) x.2
        match L.find? hit with
        | none => docLookup cfg refs label = none ∧ ∀ x ∈ L, hit x = false
        | some x => docLookup cfg refs label = some x.2.entry ∧ x ∈ L ∧ hit x = true ∧
            ∀ y ∈ L, hit y = true → y = x ∨ x.1.stop ≤ y.1.start := by
  unfold parseDoc at h
  split at h
  · cases h
  · rename_i root refs hb
    obtain ⟨L, h1, h2, h3, h4⟩ := Block.Tr.defs_in_line_order hb
    refine ⟨root, refs, L, hb, Block.Tr.defs_trace_entries L h1, h3, h4, ?_⟩
    intro label hit
    have hl := docLookup_eq cfg (L.map Prod.snd) label
    rw [← h2, List.find?_map] at hl
    have hcomp : (Refs.defHasKey cfg.blockCfg.N (cfg.blockCfg.N label) ∘ Prod.snd) = hit := rfl
    rw [hcomp] at hl
    split
    · rename_i hnone
      rw [hnone] at hl
      refine ⟨by simpa using hl, ?_⟩
      intro x hx
      have := List.find?_eq_none.mp hnone x hx
      simpa using this
    · rename_i x hsome
      rw [hsome] at hl
      obtain ⟨hx, hp, hmin⟩ := Block.Tr.find?_first h3 hsome
      exact ⟨by simpa using hl, hx, hp, hmin⟩

/-- … with an idempotent label normalisation (`Refs.normalize_idem`; the generated Unicode tables:
    `Refs.table_normalize_idem`) "has the key `N label`" is "has the same non-empty normal form":
    the use gets the entry of the definition with the SMALLEST START LINE among those whose
    normalised label equals the normalised label of the use -/
theorem doc_first_definition_by_line_idem (cfg : DocCfg)
    (hN : ∀ s, cfg.blockCfg.N (cfg.blockCfg.N s) = cfg.blockCfg.N s)
    (src : List Char) (t : Node) (h : parseDoc cfg src = .ok t) :
    ∃ (root : Block.BNode) (refs : Refs.RefMap) (L : List (Call × Refs.Def)),
      Block.parseBlocks cfg.blockCfg src = .ok (root, refs) ∧
      L.map (fun x => (Block.RuleId.reference, x.1.start, x.1.stop)) =
        (docTrace cfg.blockCfg src).filter (fun e => e.1 = .reference) ∧
      L.Pairwise (fun x y => x.1.stop ≤ y.1.start) ∧
      (∀ x ∈ L, x.1.stop ≤ (Lines.splitLines src).length ∧
        DefOnLines cfg.blockCfg src x.1.start x.1.stop x.2) ∧
      ∀ label : List Nat,
        let hit := fun x : Call × Refs.Def => Refs.labelMatches cfg.blockCfg.N label x.2
        match L.find? hit with
        | none => docLookup cfg refs label = none ∧ ∀ x ∈ L, hit x = false
        | some x => docLookup cfg refs label = some x.2.entry ∧ x ∈ L ∧ hit x = true ∧
            ∀ y ∈ L, hit y = true → y = x ∨ x.1.stop ≤ y.1.start := by
  obtain ⟨root, refs, L, hb, h1, h2, h3, h4⟩ := doc_first_definition_by_line cfg src t h
  refine ⟨root, refs, L, hb, h1, h2, h3, ?_⟩
  intro label
  have : Refs.defHasKey cfg.blockCfg.N (cfg.blockCfg.N label) = Refs.labelMatches cfg.blockCfg.N label := by
    funext d; simp [Refs.defHasKey, Refs.labelMatches, hN]
  have h5 := h4 label
  simp only [this] at h5
  exact h5

end MdIt.Pipeline

/-! ## examples: the hypotheses are satisfiable, what the trace looks like -/

namespace MdIt.Block.Tr

/-- the block view of `Pipeline.exCfg` (stock chain, ASCII case tables) -/
abbrev exB : Cfg := (Pipeline.exCfg false 100).blockCfg

theorem ok_of_isSome {ε α : Type} {x : Except ε α} (h : x.toOption.isSome = true) : ∃ a, x = .ok a :=
  MdIt.ok_of_isSome h

/-- a definition at top level, one in a quote, one in a quote in that quote, one (two lines: title on
    the second) in a list item, a second item, a use: the trace.  Containers come with the calls of
    their contents behind them, nested by line range; the `reference` entries read 0‥1, 1‥2, 2‥3, 4‥6 —
    increasing -/
def exNested : List Char := "[a]: /x\n> [A]: /y\n> > [c]: /w\n\n- [b]: /z\n  't'\n- q\n\n[a]".toList

theorem exNested_trace : docTrace exB exNested =
    [(.reference, 0, 1), (.blockquote, 1, 3), (.reference, 1, 2), (.blockquote, 2, 3), (.reference, 2, 3),
     (.list, 4, 8), (.reference, 4, 6), (.paragraph, 6, 7), (.paragraph, 8, 9)] := by
  unfold exNested
  decide_lits

example : docTrace exB exNested =
    [(.reference, 0, 1), (.blockquote, 1, 3), (.reference, 1, 2), (.blockquote, 2, 3), (.reference, 2, 3),
     (.list, 4, 8), (.reference, 4, 6), (.paragraph, 6, 7), (.paragraph, 8, 9)] := exNested_trace

theorem exNested_map : (parseBlocks exB exNested).toOption.map (·.2) =
    some [([65], ⟨[47, 120], none⟩), ([67], ⟨[47, 119], none⟩), ([66], ⟨[47, 122], some [116]⟩)] := by
  unfold exNested
  decide_lits

/-- … and its map: `[A]` lost against `[a]` (line 1 against line 0) -/
example : (parseBlocks exB exNested).toOption.map (·.2) =
    some [([65], ⟨[47, 120], none⟩), ([67], ⟨[47, 119], none⟩), ([66], ⟨[47, 122], some [116]⟩)] := exNested_map

/-- `defs_in_line_order` on that document: four definitions, on the lines the trace says -/
example : ∃ L : List (Call × Refs.Def),
    L.map (fun x => (RuleId.reference, x.1.start, x.1.stop)) =
      [(.reference, 0, 1), (.reference, 1, 2), (.reference, 2, 3), (.reference, 4, 6)] ∧
    L.Pairwise (fun x y => x.1.stop ≤ y.1.start) ∧
    ∀ x ∈ L, DefOnLines exB exNested x.1.start x.1.stop x.2 := by
  have hs : (parseBlocks exB exNested).toOption.isSome = true := by
    rw [← Option.isSome_map (f := (·.2)), exNested_map]; rfl
  obtain ⟨⟨root, refs⟩, h⟩ := ok_of_isSome hs
  obtain ⟨L, h1, _, h3, h4⟩ := defs_in_line_order h
  refine ⟨L, ?_, h3, fun x hx => (h4 x hx).2⟩
  rw [defs_trace_entries L h1, exNested_trace]
  decide

/-- a definition can not interrupt a paragraph: `[b]: /y` on line 2 is paragraph text, the trace has
    one `reference` entry -/
example : docTrace exB "[a]: /x\nfoo\n[b]: /y".toList = [(.reference, 0, 1), (.paragraph, 1, 3)] := by
  decide_lits

/-- a definition spread over five lines (label, destination and title each broken), then one more -/
example : docTrace exB "[a\nb]:\n/x\n'ti\ntle'\n[c]: /d".toList = [(.reference, 0, 5), (.reference, 5, 6)] := by
  decide_lits

/-- the lines READ may exceed the lines CONSUMED (`n > stop` in `DefOnLines`): the title candidate on
    line 1 is followed by garbage, the rule rolls back to the end of the destination and consumes
    line 0 only; line 1 becomes a paragraph.  Inside a block quote with line 1 a lazy continuation
    line this ends the QUOTE at line 1 (entry `(blockquote, 0, 1)`): the lazy line is re-read by the
    enclosing tokenizer and becomes a paragraph OUTSIDE the quote (same in the Rust) -/
example : docTrace exB "[a]: /x\n't' x".toList = [(.reference, 0, 1), (.paragraph, 1, 2)] := by
  decide_lits
example : docTrace exB "> [a]: /x\n't' x".toList =
    [(.blockquote, 0, 1), (.reference, 0, 1), (.paragraph, 1, 2)] := by decide_lits
/-- … while a well-formed title on the lazy line belongs to the definition in the quote -/
example : docTrace exB "> [a]: /x\n't'".toList = [(.blockquote, 0, 2), (.reference, 0, 2)] := by
  decide_lits

end MdIt.Block.Tr

namespace MdIt.Pipeline

/-- `doc_first_definition_by_line`: its hypothesis holds on a document with two matching definitions
    (different case) and a use; the use gets the one on line 0 -/
example : ∃ t, parseDoc (exCfg false 100) "[a]: /x\n[A]: /y\n\n[a]".toList = .ok t := by
  repeat rw [String.toList_ofList]
  exact Block.Tr.ok_of_isSome (by decide +kernel)

example : (Block.parseBlocks (exCfg false 100).blockCfg "[a]: /x\n[A]: /y\n\n[a]".toList).toOption.map
    (fun r => docLookup (exCfg false 100) r.2 [97]) = some (some ⟨[47, 120], none⟩) := by decide_lits

/-- the same with the definitions in a quote and in a list item, the use in front: line order decides -/
example : (Block.parseBlocks (exCfg false 100).blockCfg "[a]\n\n- [A]: /y\n\n> [a]: /x".toList).toOption.map
    (fun r => docLookup (exCfg false 100) r.2 [97]) = some (some ⟨[47, 121], none⟩) := by decide_lits

end MdIt.Pipeline

namespace MdIt.Block.Tr

/-- the two definition lines of the instances below: `[k]: /a`, `[K]: /b` -/
abbrev exD₁ : List Char := ['[', 'k', ']', ':', ' ', '/', 'a']
abbrev exD₂ : List Char := ['[', 'K', ']', ':', ' ', '/', 'b']

/-- what the reference rule reads at line 0 of `[k]: /a ⏎ [K]: /b ⏎ ⏎ …` -/
theorem exTwo_parse : refParse exB (trimStr ('[' :: (exD₁.tail ++ '\n' :: '[' :: exD₂.tail))) =
    .ok (some ([107], [47, 97], none, 0)) := C12D.ok_of_toOption (by decide +kernel)

end MdIt.Block.Tr

/-! ## the template: two adjacent definitions in front -/

namespace MdIt.Pipeline
open MdIt.Block (docOf)
open MdIt.Lines (NoTerm)

/-- **`doc_two_definitions`.**  A document that begins with two adjacent definition lines and a
    blank line,

          `[`rest₁ ⏎ `[`rest₂ ⏎ ⏎ R…        (e.g.  `[l]: /a ⏎ [l']: /b ⏎ ⏎ [use]`),

    `R ≠ []` ANY further lines (the last one not empty), the reference rule in the block chain
    behind rules that look at the first line only, `refParse` of the text `D₁ ⏎ D₂` the reference
    rule reads at line 0 yielding label `raw` (not blank), destination `href` and `title` with the
    definition ending on line 0: EVERY reference use of the document whose label has the normal form
    of the stored key of `D₁` — `N use = N (N raw)`, in particular `N use = N raw` for an idempotent
    `N` — finds `href` / `title` of the FIRST line, whatever the second line (a definition with
    the same label and another destination, say) and the rest of the document define. -/
theorem doc_two_definitions (cfg : DocCfg) (pre post : List Block.RuleId)
    (hchain : cfg.blockChain = pre ++ Block.RuleId.reference :: post)
    (hpre : Block.RuleId.paragraph ∉ pre) (hpre' : Block.RuleId.reference ∉ pre)
    (hpre'' : Block.RuleId.lheading ∉ pre) (hmax : 0 < cfg.maxNesting)
    (rest₁ rest₂ : List Char) (R : List (List Char)) (hR : R ≠ [])
    (hnt : ∀ l ∈ ('[' :: rest₁) :: ('[' :: rest₂) :: [] :: R, NoTerm l)
    (hlast : (('[' :: rest₁) :: ('[' :: rest₂) :: [] :: R).getLast? ≠ some [])
    (hq : Block.refQuick false rest₁ = true) (raw href : List Nat) (title : Option (List Nat))
    (hparse : Block.refParse cfg.blockCfg (Block.trimStr ('[' :: (rest₁ ++ '\n' :: '[' :: rest₂))) =
      .ok (some (raw, href, title, 0)))
    (hlab : (Refs.normalize cfg.L cfg.U raw).isEmpty = false)
    (t : Node) (h : parseDoc cfg (docOf (('[' :: rest₁) :: ('[' :: rest₂) :: [] :: R)) = .ok t) :
    ∃ (root : Block.BNode) (refs : Refs.RefMap),
      Block.parseBlocks cfg.blockCfg (docOf (('[' :: rest₁) :: ('[' :: rest₂) :: [] :: R)) = .ok (root, refs) ∧
      ∀ use : List Nat, cfg.blockCfg.N use = cfg.blockCfg.N (cfg.blockCfg.N raw) →
        docLookup cfg refs use = some ⟨href, title⟩ := by
  unfold parseDoc at h
  split at h
  · cases h
  · rename_i root refs hb
    refine ⟨root, refs, hb, ?_⟩
    have hget := Block.Tr.leading_definition_stored cfg.blockCfg pre post hchain hpre hpre' hpre'' hmax
      rest₁ rest₂ R hR hnt hlast hq raw href title hparse hlab root refs hb
    intro use huse
    have hne : refs.isEmpty = false := by
      cases refs with
      | nil => simp [Refs.RefMap.get] at hget
      | cons a r => rfl
    show (match (if refs.isEmpty then none else some refs) with
          | none => none
          | some m => Refs.lookup (Refs.normalize cfg.L cfg.U) m use) = _
    rw [hne]
    show refs.get (cfg.blockCfg.N use) = _
    rw [huse]
    exact hget

/-- the instance  `[k]: /a ⏎ [K]: /b ⏎ ⏎ [k]`  (labels equal up to case, destinations `/a` ≠ `/b`):
    every hypothesis of `doc_two_definitions` holds, the use resolves to `/a` -/
example : ∃ (root : Block.BNode) (refs : Refs.RefMap),
    Block.parseBlocks (exCfg false 100).blockCfg (docOf ["[k]: /a".toList, "[K]: /b".toList, [], "[k]".toList]) =
      .ok (root, refs) ∧
    docLookup (exCfg false 100) refs [107] = some ⟨[47, 97], none⟩ := by
  repeat rw [String.toList_ofList]
  obtain ⟨t, ht⟩ := Block.Tr.ok_of_isSome
    (x := parseDoc (exCfg false 100) (docOf [Block.Tr.exD₁, Block.Tr.exD₂, [], ['[', 'k', ']']])) (by decide +kernel)
  obtain ⟨root, refs, hb, hl⟩ := doc_two_definitions (exCfg false 100)
    [.code, .fence, .blockquote, .hr, .list] [.heading, .lheading, .paragraph] rfl (by decide) (by decide)
    (by decide) (by decide) Block.Tr.exD₁.tail Block.Tr.exD₂.tail [['[', 'k', ']']] (by decide)
    (by unfold NoTerm; decide +kernel) (by decide +kernel) (by decide +kernel) [107] [47, 97] none
    Block.Tr.exTwo_parse (by decide +kernel) t ht
  exact ⟨root, refs, hb, hl [107] (by decide +kernel)⟩

/-- … the same two definitions inside a block quote / a list item (by evaluation; the symbolic run
    inside containers is in the OPEN block): the first LINE wins there too -/
example : (Block.parseBlocks (exCfg false 100).blockCfg "> [k]: /a\n> [K]: /b\n\n[k]".toList).toOption.map
    (fun r => docLookup (exCfg false 100) r.2 [107]) = some (some ⟨[47, 97], none⟩) := by decide_lits
example : (Block.parseBlocks (exCfg false 100).blockCfg "- [k]: /a\n  [K]: /b\n\n[k]".toList).toOption.map
    (fun r => docLookup (exCfg false 100) r.2 [107]) = some (some ⟨[47, 97], none⟩) := by decide_lits
example : Block.Tr.docTrace (exCfg false 100).blockCfg "- [k]: /a\n  [K]: /b\n\n[k]".toList =
    [(.list, 0, 3), (.reference, 0, 1), (.reference, 1, 2), (.paragraph, 3, 4)] := by decide_lits

end MdIt.Pipeline

/-! ## … and inside a block quote / a list item -/

namespace MdIt.Block.Tr
open MdIt.Lines (NoTerm)

/-- the two-definition document `"> "`-prefixed line by line (`Block.prefixQuote`): by
    `Block.quote_commutes` the block pass collects the SAME map, so the definition of the first line
    wins inside the quote as well -/
theorem two_definitions_quoted (cfg : Cfg) (pre post : List RuleId)
    (hchain : cfg.chain = pre ++ RuleId.reference :: post)
    (hpre : RuleId.paragraph ∉ pre) (hpre' : RuleId.reference ∉ pre) (hpre'' : RuleId.lheading ∉ pre)
    (hmax : 0 < cfg.maxNesting)
    (rest₁ rest₂ : List Char) (R : List (List Char)) (hR : R ≠ [])
    (hnt : ∀ l ∈ ('[' :: rest₁) :: ('[' :: rest₂) :: [] :: R, NoTerm l)
    (hlast : (('[' :: rest₁) :: ('[' :: rest₂) :: [] :: R).getLast? ≠ some [])
    (hq : refQuick false rest₁ = true) (raw href : List Nat) (title : Option (List Nat))
    (hparse : refParse cfg (trimStr ('[' :: (rest₁ ++ '\n' :: '[' :: rest₂))) =
      .ok (some (raw, href, title, 0)))
    (hlab : (Refs.normalize cfg.L cfg.U raw).isEmpty = false)
    (htab : '\t' ∉ docOf (('[' :: rest₁) :: ('[' :: rest₂) :: [] :: R))
    (hsize : Lines.byteLen (docOf (('[' :: rest₁) :: ('[' :: rest₂) :: [] :: R)) + 8 < 2147483648)
    (preQ postQ : List RuleId) (hchainQ : cfg.chain = preQ ++ .blockquote :: postQ)
    (hpreQ : ∀ r ∈ preQ, frontOk r = true) (root : BNode) (refs : Refs.RefMap)
    (h : parseBlocks cfg (docOf (('[' :: rest₁) :: ('[' :: rest₂) :: [] :: R)) = .ok (root, refs)) :
    ∃ root', parseBlocks { cfg with maxNesting := cfg.maxNesting + 1 }
        (prefixQuote (docOf (('[' :: rest₁) :: ('[' :: rest₂) :: [] :: R))) = .ok (root', refs) ∧
      refs.get (cfg.N (cfg.N raw)) = some ⟨href, title⟩ := by
  obtain ⟨r, _, hq'⟩ := quote_commutes cfg _ htab hsize preQ postQ hchainQ hpreQ h
  exact ⟨_, hq', leading_definition_stored cfg pre post hchain hpre hpre' hpre'' hmax rest₁ rest₂ R hR hnt
    hlast hq raw href title hparse hlab root refs h⟩

/-- … and as the content of a bullet list item (`Li.itemDoc [c]`: first line behind `c␣`, the others
    indented by two columns; `Li.item_commutes_bullet`) -/
theorem two_definitions_item (cfg : Cfg) (pre post : List RuleId)
    (hchain : cfg.chain = pre ++ RuleId.reference :: post)
    (hpre : RuleId.paragraph ∉ pre) (hpre' : RuleId.reference ∉ pre) (hpre'' : RuleId.lheading ∉ pre)
    (hmax : 0 < cfg.maxNesting)
    (rest₁ rest₂ : List Char) (R : List (List Char)) (hR : R ≠ [])
    (hnt : ∀ l ∈ ('[' :: rest₁) :: ('[' :: rest₂) :: [] :: R, NoTerm l)
    (hlast : (('[' :: rest₁) :: ('[' :: rest₂) :: [] :: R).getLast? ≠ some [])
    (hq : refQuick false rest₁ = true) (raw href : List Nat) (title : Option (List Nat))
    (hparse : refParse cfg (trimStr ('[' :: (rest₁ ++ '\n' :: '[' :: rest₂))) =
      .ok (some (raw, href, title, 0)))
    (hlab : (Refs.normalize cfg.L cfg.U raw).isEmpty = false)
    {c : Char} (hc : c = '-' ∨ c = '*' ∨ c = '+')
    (htab : '\t' ∉ docOf (('[' :: rest₁) :: ('[' :: rest₂) :: [] :: R))
    (hsize : Lines.byteLen (docOf (('[' :: rest₁) :: ('[' :: rest₂) :: [] :: R)) + 10 < 2147483648)
    (hfirst : Li.FirstOk (Lines.linesT (docOf (('[' :: rest₁) :: ('[' :: rest₂) :: [] :: R))))
    (preL postL : List RuleId) (hchainL : cfg.chain = preL ++ .list :: postL)
    (hpreL : ∀ r ∈ preL, Li.frontOkL r = true)
    (hhr : .hr ∈ preL → ∀ l0 t0 rest,
      Lines.linesT (docOf (('[' :: rest₁) :: ('[' :: rest₂) :: [] :: R)) = (l0, t0) :: rest →
      hrLook 0 (c :: ' ' :: l0) = false)
    (root : BNode) (refs : Refs.RefMap)
    (h : parseBlocks cfg (docOf (('[' :: rest₁) :: ('[' :: rest₂) :: [] :: R)) = .ok (root, refs)) :
    ∃ root', parseBlocks { cfg with maxNesting := cfg.maxNesting + 2 }
        (Li.itemDoc [c] (docOf (('[' :: rest₁) :: ('[' :: rest₂) :: [] :: R))) = .ok (root', refs) ∧
      refs.get (cfg.N (cfg.N raw)) = some ⟨href, title⟩ := by
  obtain ⟨t, ht, rfl⟩ := parseBlocks_tok h
  obtain ⟨r, _, hq'⟩ := Li.item_commutes_bullet cfg hc _ htab hsize hfirst hmax preL postL hchainL hpreL hhr ht
  exact ⟨_, hq', leading_definition_stored cfg pre post hchain hpre hpre' hpre'' hmax rest₁ rest₂ R hR hnt
    hlast hq raw href title hparse hlab root t.refs h⟩

/-- `two_definitions_quoted` on  `[k]: /a ⏎ [K]: /b ⏎ ⏎ [k]`  under the stock chain: every hypothesis
    holds -/
example : ∃ root' refs,
    parseBlocks { exB with maxNesting := exB.maxNesting + 1 }
      (prefixQuote (docOf ["[k]: /a".toList, "[K]: /b".toList, [], "[k]".toList])) = .ok (root', refs) ∧
    refs.get (exB.N (exB.N [107])) = some ⟨[47, 97], none⟩ := by
  repeat rw [String.toList_ofList]
  obtain ⟨⟨root, refs⟩, h⟩ := ok_of_isSome
    (x := parseBlocks exB (docOf [exD₁, exD₂, [], ['[', 'k', ']']])) (by decide +kernel)
  obtain ⟨root', h1, h2⟩ := two_definitions_quoted exB
    [.code, .fence, .blockquote, .hr, .list] [.heading, .lheading, .paragraph] rfl (by decide) (by decide)
    (by decide) (by decide) exD₁.tail exD₂.tail [['[', 'k', ']']] (by decide)
    (by unfold NoTerm; decide +kernel) (by decide +kernel) (by decide +kernel) [107] [47, 97] none
    exTwo_parse (by decide +kernel) (by decide +kernel) (by decide +kernel)
    [.code, .fence] [.hr, .list, .reference, .heading, .lheading, .paragraph] rfl (by decide) root refs h
  exact ⟨root', refs, h1, h2⟩

end MdIt.Block.Tr

/-
OPEN: `defOnLines_exact` — `DefOnLines cfg src a b d` says `d = refParse (trim (text of the lines a ‥ n-1))`
with `b ≤ n`, `n` = the line where the paragraph-continuation scan of the reference rule stopped (the
text the rule really read; the example `[a]: /x ⏎ 't' x` shows `n = 2 > b = 1`).  The statement with
exactly the definition's own lines, `d = refParse (trim (text of the lines a ‥ b-1))`, needs
Missing lemma `refParse_local`:
  `refParse cfg (trimStr (t ++ '\n' :: u)) = .ok (some (l, dest, title, k)) → k = nl t →
   refParse cfg (trimStr t) = .ok (some (l, dest, title, k))`
i.e. locality of `labelScan`, `Link.parseLinkDestination`, `Link.parseLinkTitle`, `refTrail`: none of
them reads behind the line feed that ends the definition EXCEPT to decide the roll-back "title
candidate followed by garbage" — the lemma has to be stated per branch of `refTrail` (with a title on
the last line; without / rolled back), and needs prefix lemmas for the two `Link` scanners over
`Link.slice str pos len` that `Props/C04.lean` does not have.

OPEN: `doc_two_definitions_labels` — `doc_two_definitions` (and `two_definitions_quoted` / `_item`) take
what `refParse` makes of the text `D₁ ⏎ D₂` as a hypothesis (`hparse`; discharged by `decide +kernel` for
concrete labels, see the example).  For GENERIC labels `l`, `l'` (no `[`, `]`, `\`, line feed; not
blank) and `D₁ = [l]: /a`, `D₂ = [l']: /b` the hypothesis should be a theorem.
Missing lemma `refParse_simple`:
  `(∀ c ∈ l, c ∉ ['[', ']', '\\', '\n']) → refParse cfg ('[' :: l ++ "]: /a\n[".toList ++ u) =
     .ok (some (l.map Char.toNat, "/a", none, 0))`  for `u` without a quote / paren in front,
a symbolic evaluation of `Link.parseLinkDestination` / `Link.parseLinkTitle` at a position
`byteLen l + 4` of an unknown string (both are defined over byte positions of the whole string; the
available lemmas `Link.parseLinkDestination_…` in `Props/C04.lean` are about the result's alphabet,
not about its value).

OPEN: `two_definitions_in_containers_doc` — `two_definitions_quoted` / `_item` are at the level of
`parseBlocks` (same map under `Block.quote_commutes` / `Li.item_commutes_bullet`); the statement for
`parseDoc` of the prefixed document (`docLookup` of a use in the prefixed document) needs that
`parseDoc` succeeds on the prefixed document, i.e. the inline half of C06 (`Props/C06.lean` covers the
block pass only).
-/
