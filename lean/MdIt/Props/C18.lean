/-
  C18 — Image alt text is the full plain-text content of the description.

  Property theorems: `alt_is_display`, `alt_flatMap`, `alt_nothing_dropped`, `alt_length`,
  `alt_leaf_infix`, `alt_append`, `alt_nested_image`, `alt_container_transparent`,
  `altOld_drops` (negation witness for the pre-repair assembly).
  All statements are for every tree of inline nodes (no size / depth bound).
-/
import MdIt.Model.Alt
import MdIt.Lemmas.KernelEval

namespace MdIt.Alt

/-- the accumulator loop is a concatenation -/
theorem foldl_contrib (f : Inl → List Char) (l : List Inl) (acc : List Char) :
    l.foldl (fun a m => a ++ f m) acc = acc ++ l.flatMap f := by
  induction l generalizing acc with
  | nil => simp
  | cons x r ih => simp [ih, List.append_assoc]

/-- `alt` = concatenation of the contributions along the pre-order walk -/
theorem alt_flatMap (cs : List Inl) : altOf cs = (walkList cs).flatMap contrib := by
  unfold altOf altOfNode
  rw [foldl_contrib]
  simp [walk, contrib]

mutual
theorem walk_display (n : Inl) : (walk n).flatMap contrib = displayNode n := by
  cases n with
  | wrap k cs => simp [walk, contrib, displayNode, walkList_display cs]
  | _ => simp [walk, contrib, displayNode]
theorem walkList_display (cs : List Inl) : (walkList cs).flatMap contrib = display cs := by
  match cs with
  | [] => simp [walkList, display]
  | c :: r => simp [walkList, display, walk_display c, walkList_display r]
end

/-- **C18.** The alt text the image renderer assembles is exactly what the description displays as
inline text. -/
theorem alt_is_display (cs : List Inl) : altOf cs = display cs := by
  rw [alt_flatMap, walkList_display]

/-- the same for a walk started at any node (what a nested image's own `render` would assemble) -/
theorem altOfNode_display (n : Inl) : altOfNode n = displayNode n := by
  unfold altOfNode
  rw [foldl_contrib, walk_display]
  simp

/-! ## nothing is dropped -/

mutual
/-- the text-bearing leaves of a tree, in document order, by structural recursion -/
def leafTextsNode : Inl → List (List Char)
  | .text s => [s]
  | .special c => [c]
  | .soft => [['\n']]
  | .hard => [['\n']]
  | .wrap _ cs => leafTexts cs
def leafTexts : List Inl → List (List Char)
  | [] => []
  | c :: r => leafTextsNode c ++ leafTexts r
end

mutual
/-- number of characters carried by the text-bearing leaves -/
def textSizeNode : Inl → Nat
  | .text s => s.length
  | .special c => c.length
  | .soft => 1
  | .hard => 1
  | .wrap _ cs => textSize cs
def textSize : List Inl → Nat
  | [] => 0
  | c :: r => textSizeNode c + textSize r
end

mutual
theorem displayNode_leaves (n : Inl) : displayNode n = (leafTextsNode n).flatten := by
  cases n with
  | wrap k cs => simp [displayNode, leafTextsNode, display_leaves cs]
  | _ => simp [displayNode, leafTextsNode]
theorem display_leaves (cs : List Inl) : display cs = (leafTexts cs).flatten := by
  match cs with
  | [] => simp [display, leafTexts]
  | c :: r => simp [display, leafTexts, displayNode_leaves c, display_leaves r]
end

/-- **C18 (nothing dropped, in order).** The alt text is the concatenation of ALL text-bearing leaves
of the description, in document order. -/
theorem alt_nothing_dropped (cs : List Inl) : altOf cs = (leafTexts cs).flatten := by
  rw [alt_is_display, display_leaves]

mutual
theorem displayNode_length (n : Inl) : (displayNode n).length = textSizeNode n := by
  cases n with
  | wrap k cs => simp [displayNode, textSizeNode, display_length cs]
  | _ => simp [displayNode, textSizeNode]
theorem display_length (cs : List Inl) : (display cs).length = textSize cs := by
  match cs with
  | [] => simp [display, textSize]
  | c :: r => simp [display, textSize, displayNode_length c, display_length r]
end

/-- **C18 (length).** No character is lost: the alt text is as long as all leaf contents together. -/
theorem alt_length (cs : List Inl) : (altOf cs).length = textSize cs := by
  rw [alt_is_display, display_length]

/-- **C18 (every leaf present).** The content of every node the walk reaches — at any depth, under any
nesting of containers — occurs contiguously in the alt text. -/
theorem alt_leaf_infix (cs : List Inl) (n : Inl) (hn : n ∈ walkList cs) :
    contrib n <:+: altOf cs := by
  rw [alt_flatMap]
  obtain ⟨a, b, hab⟩ := List.append_of_mem hn
  rw [hab]
  exact ⟨a.flatMap contrib, b.flatMap contrib, by simp [List.append_assoc]⟩

/-! ## compositionality, nested images -/

theorem display_append (a b : List Inl) : display (a ++ b) = display a ++ display b := by
  induction a with
  | nil => simp [display]
  | cons x r ih => simp [display, ih, List.append_assoc]

theorem alt_append (a b : List Inl) : altOf (a ++ b) = altOf a ++ altOf b := by
  simp [alt_is_display, display_append]

/-- **C18 (nested image).** An image (or any other container) nested in the description contributes
exactly the alt text of its own description, at its place. -/
theorem alt_nested_image (k : Nat) (pre inner post : List Inl) :
    altOf (pre ++ .wrap k inner :: post) = altOf pre ++ altOf inner ++ altOf post := by
  simp [alt_is_display, display_append, display, displayNode, List.append_assoc]

/-- containers are transparent: flattening one level of nesting does not change the alt text -/
theorem alt_container_transparent (k : Nat) (pre inner post : List Inl) :
    altOf (pre ++ .wrap k inner :: post) = altOf (pre ++ inner ++ post) := by
  simp [alt_is_display, display_append, display, displayNode, List.append_assoc]

/-! ## non-vacuity and the pre-repair witness -/

/-- `![a \* *b&amp;c* ![`d`](y)␤e](x)`: every kind of node, nesting depth 3 -/
def sample : List Inl :=
  [.text ['a', ' '], .special ['*'], .text [' '],
   .wrap 1 [.text ['b'], .special ['&'], .text ['c']],
   .text [' '], .wrap 2 [.wrap 3 [.text ['d']]], .soft, .text ['e'], .hard]

example : altOf sample = "a * b&c d\ne\n".toList := by decide_lits
example : display sample = "a * b&c d\ne\n".toList := by decide_lits
example : textSize sample = 12 := by decide
example : Inl.special ['&'] ∈ walkList sample := by simp [sample, walkList, walk]

/-- **Pinned-tree finding (reproduced in the model).** The assembly that collects plain `Text` only
drops the escaped character: it is NOT the displayed text. -/
theorem altOld_drops :
    altOfOld [.text ['a', ' '], .special ['*'], .text [' ', 'b']] ≠
      display [.text ['a', ' '], .special ['*'], .text [' ', 'b']] := by decide

example : altOfOld [.text ['a', ' '], .special ['*'], .text [' ', 'b']] = "a  b".toList := by decide
example : altOf [.text ['a', ' '], .special ['*'], .text [' ', 'b']] = "a * b".toList := by decide

end MdIt.Alt
