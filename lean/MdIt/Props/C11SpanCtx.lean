/-
  C11, third context — code SPANS — at WHOLE-DOCUMENT level: the two contexts `Props/C11SpanMulti.lean` left OPEN.

  (The property is quoted in `Props/C11Span.lean`; here its quantifier "nesting inside block quotes and list items".)

  PART 1 — the MULTI-LINE span INSIDE containers (block quotes and list items, any nesting, any order).
    The document is `wrapAll w (docOf Ls)`: the lines `Ls` of `C11M.doc_span_multiline` (`SpanLines`: ONE top-level
    paragraph `pre ++ `ᵏ⁺¹ R `ᵏ⁺¹ ++ post`, the span opening on the first line and closing on the last), TAB-FREE,
    every line prefixed, per wrapper from the inside out, by `"> "` (block quote) or by the item's marker and a space
    on the first line / as many spaces on the others (bullet or ordered item) — `C11N.wrapAll`, `C11N.Wrapper`.
    Hypotheses as in `C11M.doc_span_raw_nested` (C06's): markers the rules recognise (`Wrapper.Ok`), the chain
    condition `ChainFor`, `depthCost w < max_nesting`, source below 2 GiB.
      `blocks_nested_lines`                 the block pass: the wrapper nodes around `Paragraph[InlineRoot]` (the bare
                                            placeholder when the innermost wrapper is a list item) with the SAME inline
                                            text `docOf Ls` and the table `lineTable Ls (wrapAllLines w Ls)` moved by
                                            `widthAll w`: one entry per line
      `nested_tr_line`, `nested_tr_spec`    what that table translates to: byte `x` of line `i` of the text is byte
                                            `widthAll w + x` of line `i` of the source, i.e. inline offset
                                            `+ (i + 1) · widthAll w`
      `doc_span_multiline_nested_sp`, `doc_span_multiline_nested`
                                            the tree, exactly: wrapper nodes around `Text pre`, ONE
                                            `CodeInline[Text (spanContent R)]`, `Text post`, every range translated
      `doc_span_multiline_render_nested_sp`, `doc_span_multiline_render_nested`
                                            `render` / `xrender`: the wrappers' HTML around
                                            `pre<code>` escaped content `</code>post`
      `doc_span_padded_lines_nested`, `doc_span_padded_lines_render_nested`
                                            the padded payload `t₁ ⏎ … ⏎ t_m` spelled out: content `t₁ ␠ … ␠ t_m`
    Quotes AND list items are covered, in any combination: C06's `quote_commutes` / `item_commutes_gen` hold for any
    tab-free document (`C11N.wrapAll_commutes`, Lemmas/C11Wrap.lean; the paragraph instance: Lemmas/C11SpanCtxBlock.lean).  The theorems are
    `C11M.lines_tree` / `lines_html` (Props/C11SpanMulti.lean) with the conditions on the wrappers spelled out.
    NOT covered: lazy continuation lines (`> a ``x⏎y```, no marker on line 2) — by evaluation in section 3.

  PART 2 — paragraph lines IN FRONT OF the opening line and BEHIND the closing line (section 4; `MidLines`,
    `doc_span_tree`, `doc_span_html`: Lemmas/C11SpanTree.lean, with the chain hypothesis `hnl` in place of `newline`
    second): the
    paragraph reads `A₁ ⏎ … ⏎ A_a `ᵏ⁺¹ R `ᵏ⁺¹ B₁ ⏎ … ⏎ B_b` with plain pieces `A_i`, `B_j` (`A_a`, `B₁` may be empty: the span
    may open at the start / close at the end of a line) and SOFT line breaks outside the span (`SoftOk`: no space
    in front of such a line feed, no blank behind it).  At top level AND inside any wrappers `w`:
      `parseInline_lines` (Lemmas/C11SpanInline.lean)   the inline parser: `Text`, `Softbreak`, …, ONE `CodeInline`, …
      `doc_span_midparagraph_nested_sp`, `doc_span_midparagraph_nested`, `doc_span_midparagraph`
                                            the tree, exactly (`midNodes`)
      `doc_span_midparagraph_render_nested_sp`, `doc_span_midparagraph_render_nested`, `doc_span_midparagraph_render`
                                            the rendering: every soft break outside the span is ONE line feed, every
                                            line ending inside it ONE space: `<p>` `A₁ ⏎ … A_a` `<code>` content `</code>`
                                            `B₁ ⏎ … B_b` `</p>` LF inside the wrappers' HTML
    NOT covered: HARD breaks in front of / behind the span (two spaces or a backslash in front of a line feed) and
    blanks at the start of a continuation line outside the span (the `newline` rule skips them) — OPEN at the end.
-/
import MdIt.Props.C11SpanMulti
import MdIt.Lemmas.KernelEval

namespace MdIt.C11X
open MdIt.Block MdIt.Block.Li MdIt.Pipeline MdIt.C11N MdIt.C11M
open MdIt.Lines (NoTerm lead)
open MdIt.Render (Event piece piecesFrom flatten solAfter attrsStr escapeHtml)
open MdIt.NodeRender (aSourcepos tP tCode tBlockquote tUl tOl tLi olAttrs)
open MdIt.C11S (PlainTxt QuietTick)

/-! ## 1. the multi-line span inside containers -/

section nested
variable (cfg : DocCfg) (Ls : List (List Char)) (pre R post : List Char) (k : Nat) (h : SpanLines Ls pre R post k)
  (htab : ∀ l ∈ Ls, '\t' ∉ l)
  (c1 c2 : List Inline.RuleId) (hic : cfg.inlineChain = .text :: (c1 ++ .backticks :: c2))
  (hq : ∀ r ∈ c1, QuietTick r)
  (bpre bpost : List Block.RuleId) (hbc : cfg.blockChain = bpre ++ .paragraph :: bpost) (hbp : .paragraph ∉ bpre)
  (w : List Wrapper) (hw : ∀ x ∈ w, x.Ok) (hch : ChainFor cfg.blockChain w)
  (hmn : depthCost w < cfg.maxNesting)
  (hsize : Lines.byteLen (wrapAll w (docOf Ls)) + 20 < 2147483648)

include h htab hbc hbp hw hch hmn hsize

omit hic hq in
/-- **the block pass**: the wrapper nodes around ONE paragraph over all the lines; the inline text is the text of the
    top-level paragraph (no prefix in it), the table has one entry per line -/
theorem blocks_nested_lines :
    parseBlocks cfg.blockCfg (wrapAll w (docOf Ls)) =
      .ok (⟨.root, some (0, Lines.byteLen (wrapAll w (docOf Ls))),
        wrapForest (Lines.byteLen (wrapAll w (docOf Ls))) w 0
          (paraLeaf (pre ++ rawSpan k R ++ post) (lineTable Ls (wrapAllLines w Ls)) 0 (widthAll w)
            (Lines.byteLen (wrapAll w (docOf Ls))) (tightOf w))⟩, []) := by
  rw [← h.doc]
  exact blocks_nested_para cfg Ls htab bpre bpost hbc hbp w hw hch hmn hsize h.first h.noTerm h.cont

omit hbc hbp hch hmn hsize hic hq in
/-- **the translation**: byte `x` of line `i` of the paragraph text (`(starts 0 Ls)[i]`: where line `i` starts in
    `docOf Ls`; `x ≤` the line's length, the position of the line's end included) comes from byte `widthAll w + x` of
    line `i` of the source … -/
theorem nested_tr_line (i : Nat) (hi : i < Ls.length) (x : Nat) (hx : x ≤ Lines.byteLen Ls[i]) :
    trOf (widthAll w) Ls (wrapAllLines w Ls) ((starts 0 Ls)[i]'(by rw [starts_length]; exact hi) + x) =
      (starts 0 (wrapAllLines w Ls))[i]'(by rw [starts_length, wrapAllLines_length]; exact hi) + widthAll w + x :=
  trOf_line (prefixed_wrapAllLines hw Ls) h.ne i hi x hx

omit hbc hbp hch hmn hsize hic hq in
/-- … that is: source offset = inline offset `+ (i + 1) · widthAll w` (the prefixes of the lines `0 … i`) -/
theorem nested_tr_spec (i : Nat) (hi : i < Ls.length) (x : Nat) (hx : x ≤ Lines.byteLen Ls[i]) :
    trOf (widthAll w) Ls (wrapAllLines w Ls) ((starts 0 Ls)[i]'(by rw [starts_length]; exact hi) + x) =
      (starts 0 Ls)[i]'(by rw [starts_length]; exact hi) + x + (i + 1) * widthAll w :=
  trOf_spec (prefixed_wrapAllLines hw Ls) h.ne i hi x hx

include hic hq

/-- **`doc_span_multiline_nested`, any `sourcepos`.**  The lines `Ls` of `C11M.doc_span_multiline_sp` (`SpanLines`),
    tab-free, inside any list `w` of wrappers — EVERY line prefixed by every wrapper —: the wrapper nodes (one per
    block quote, list + item per list wrapper, each over the whole source from its marker's column) around the
    `Paragraph` — or, innermost wrapper a list item, around nothing — over the SAME three inline nodes as at top
    level: `Text pre`, ONE `CodeInline` over the whole span (all its lines) whose single child is
    `Text (spanContent R)` (`C11M.strip_char`: every line ending ONE space, one pair of padding spaces removed; no
    prefix character in it), `Text post`.  Ranges: inline offsets through `trOf` (`nested_tr_spec`). -/
theorem doc_span_multiline_nested_sp :
    parseDoc cfg (wrapAll w (docOf Ls)) =
      .ok ⟨.blk .root, some (0, Lines.byteLen (wrapAll w (docOf Ls))),
        spAttrs cfg (wrapAll w (docOf Ls)) (0, Lines.byteLen (wrapAll w (docOf Ls))),
        wrapForestN (spAttrs cfg (wrapAll w (docOf Ls))) (Lines.byteLen (wrapAll w (docOf Ls))) w 0
          (spanLeaf (spAttrs cfg (wrapAll w (docOf Ls))) (widthAll w) (Lines.byteLen (wrapAll w (docOf Ls))) (tightOf w)
            (rawNodes (spAttrs cfg (wrapAll w (docOf Ls))) (trOf (widthAll w) Ls (wrapAllLines w Ls)) k pre R post))⟩ :=
  lines_tree cfg Ls pre R post k h c1 c2 hic hq bpre bpost hbc hbp w ⟨hw, hch, hmn, fun _ => ⟨htab, hsize⟩⟩

/-- **`doc_span_multiline_nested`** (no `sourcepos` plugin): the tree, exactly, no attributes anywhere -/
theorem doc_span_multiline_nested (hsp : cfg.sourcepos = false) :
    parseDoc cfg (wrapAll w (docOf Ls)) =
      .ok ⟨.blk .root, some (0, Lines.byteLen (wrapAll w (docOf Ls))), [],
        wrapForestN (fun _ => []) (Lines.byteLen (wrapAll w (docOf Ls))) w 0
          (spanLeaf (fun _ => []) (widthAll w) (Lines.byteLen (wrapAll w (docOf Ls))) (tightOf w)
            (rawNodes (fun _ => []) (trOf (widthAll w) Ls (wrapAllLines w Ls)) k pre R post))⟩ := by
  have := doc_span_multiline_nested_sp cfg Ls pre R post k h htab c1 c2 hic hq bpre bpost hbc hbp w hw hch hmn hsize
  rw [spAttrs_off hsp] at this
  exact this

theorem doc_span_multiline_render_nested_sp (x : Bool) :
    renderDoc x cfg (wrapAll w (docOf Ls)) =
      .ok (Render.replaceNul (spanHtmlA (spAttrs cfg (wrapAll w (docOf Ls))) (Lines.byteLen (wrapAll w (docOf Ls)))
        (openTag tP (spAttrs cfg (wrapAll w (docOf Ls)) (widthAll w, Lines.byteLen (wrapAll w (docOf Ls)))) ++
          inlHtml (spAttrs cfg (wrapAll w (docOf Ls)) (spanRange (trOf (widthAll w) Ls (wrapAllLines w Ls)) k pre R))
            pre (spanContent R) post ++ closeTag tP ++ ['\n'])
        (inlHtml (spAttrs cfg (wrapAll w (docOf Ls)) (spanRange (trOf (widthAll w) Ls (wrapAllLines w Ls)) k pre R))
          pre (spanContent R) post) w 0)) :=
  lines_html cfg Ls pre R post k h c1 c2 hic hq bpre bpost hbc hbp w ⟨hw, hch, hmn, fun _ => ⟨htab, hsize⟩⟩ x

/-- **`doc_span_multiline_render_nested`** (no `sourcepos` plugin), both serializers: the wrappers' HTML
    (`spanHtml w`: `<blockquote>` LF `<p>` … `</p>` LF `</blockquote>` LF; `<ul>` LF `<li>` … `</li>` LF `</ul>` LF, the
    paragraph tags dropped directly inside an item) around `pre` `<code>` content `</code>` `post` — ONE code element,
    content = `spanContent R`: the characters of `R`, every line ending turned into one space, one pair of padding
    spaces removed, exactly `& < > "` escaped, NUL replaced by U+FFFD; no prefix character, nothing interpreted -/
theorem doc_span_multiline_render_nested (hsp : cfg.sourcepos = false) (x : Bool) :
    renderDoc x cfg (wrapAll w (docOf Ls)) =
      .ok (spanHtml w (codeHtml (Render.nulStr pre) (Render.nulStr (spanContent R)) (Render.nulStr post))) :=
  plain_html cfg _ hsp x _ _ _ pre (spanContent R) post w _
    (doc_span_multiline_render_nested_sp cfg Ls pre R post k h htab c1 c2 hic hq bpre bpost hbc hbp w hw hch hmn hsize x)

end nested

/-! ## 2. the padded multi-line payload inside containers, spelled out -/

section payload
variable (cfg : DocCfg) (pre post : List Char) (k : Nat) (ts : List (List Char))
  (h : SpanLines (paddedLines pre k ts post) pre (' ' :: docOf ts ++ [' ']) post k)
  (htab : ∀ l ∈ paddedLines pre k ts post, '\t' ∉ l)
  (hts : ∀ t ∈ ts, NoTerm t) (hne : docOf ts ≠ [])
  (c1 c2 : List Inline.RuleId) (hic : cfg.inlineChain = .text :: (c1 ++ .backticks :: c2))
  (hq : ∀ r ∈ c1, QuietTick r)
  (bpre bpost : List Block.RuleId) (hbc : cfg.blockChain = bpre ++ .paragraph :: bpost) (hbp : .paragraph ∉ bpre)
  (w : List Wrapper) (hw : ∀ x ∈ w, x.Ok) (hch : ChainFor cfg.blockChain w)
  (hmn : depthCost w < cfg.maxNesting)
  (hsize : Lines.byteLen (wrapAll w (docOf (paddedLines pre k ts post))) + 20 < 2147483648)
  (hsp : cfg.sourcepos = false)
include h htab hts hne hic hq hbc hbp hw hch hmn hsize hsp

/-- **`doc_span_padded_lines_nested`** (no `sourcepos` plugin).  The lines
    `pre `ᵏ⁺¹ ␠ t₁ ⏎ t₂ ⏎ … ⏎ t_m ␠ `ᵏ⁺¹ post` (`C11M.paddedLines`, hypotheses `C11M.spanLines_padded`), tab-free, inside
    the wrappers `w`: the wrapper nodes around `Text pre`, ONE `CodeInline` node whose text child is `t₁ ␠ t₂ ␠ … ␠ t_m`
    (`spaced ts`: each line ending ONE space, every payload line whole, no prefix character), `Text post` -/
theorem doc_span_padded_lines_nested :
    parseDoc cfg (wrapAll w (docOf (paddedLines pre k ts post))) =
      .ok ⟨.blk .root, some (0, Lines.byteLen (wrapAll w (docOf (paddedLines pre k ts post)))), [],
        wrapForestN (fun _ => []) (Lines.byteLen (wrapAll w (docOf (paddedLines pre k ts post)))) w 0
          (spanLeaf (fun _ => []) (widthAll w) (Lines.byteLen (wrapAll w (docOf (paddedLines pre k ts post)))) (tightOf w)
            (txtR (fun _ => []) (trOf (widthAll w) (paddedLines pre k ts post) (wrapAllLines w (paddedLines pre k ts post)) 0,
                trOf (widthAll w) (paddedLines pre k ts post) (wrapAllLines w (paddedLines pre k ts post))
                  (Lines.byteLen pre)) pre ++
              [codeR (fun _ => []) k
                (spanRange (trOf (widthAll w) (paddedLines pre k ts post) (wrapAllLines w (paddedLines pre k ts post))) k pre
                  (' ' :: docOf ts ++ [' ']))
                (innerRange (trOf (widthAll w) (paddedLines pre k ts post) (wrapAllLines w (paddedLines pre k ts post))) k pre
                  (' ' :: docOf ts ++ [' ']))
                (spaced ts)] ++
              txtR (fun _ => [])
                (trOf (widthAll w) (paddedLines pre k ts post) (wrapAllLines w (paddedLines pre k ts post))
                  (Lines.byteLen pre + (2 * (k + 1) + Lines.byteLen (' ' :: docOf ts ++ [' ']))),
                 trOf (widthAll w) (paddedLines pre k ts post) (wrapAllLines w (paddedLines pre k ts post))
                  (Lines.byteLen pre + (2 * (k + 1) + Lines.byteLen (' ' :: docOf ts ++ [' '])) + Lines.byteLen post))
                post))⟩ := by
  have := doc_span_multiline_nested cfg _ pre _ post k h htab c1 c2 hic hq bpre bpost hbc hbp w hw hch hmn hsize hsp
  rw [this]
  simp only [rawNodes, (strip_lines ts hts hne).1]

/-- **`doc_span_padded_lines_render_nested`**, both serializers: the wrappers' HTML around
    `pre` `<code>` `t₁ ␠ t₂ ␠ … ␠ t_m` `</code>` `post`, with exactly `& < > "` escaped and NUL replaced by U+FFFD -/
theorem doc_span_padded_lines_render_nested (x : Bool) :
    renderDoc x cfg (wrapAll w (docOf (paddedLines pre k ts post))) =
      .ok (spanHtml w (codeHtml (Render.nulStr pre) (Render.nulStr (spaced ts)) (Render.nulStr post))) := by
  have := doc_span_multiline_render_nested cfg _ pre _ post k h htab c1 c2 hic hq bpre bpost hbc hbp w hw hch hmn
    hsize hsp x
  rw [(strip_lines ts hts hne).1] at this
  exact this

end payload

/-! ## 3. instances on the stock chains, and the limits -/

section examples

/-- the two-line paragraph ``a ``x ⏎ y <b>`` z``: `pre = "a "`, `R = "x⏎y <b>"`, `post = " z"` -/
def exLs2 : List (List Char) := ["a ``x".toList, "y <b>`` z".toList]
def exR2 : List Char := "x\ny <b>".toList

theorem exLines2 : SpanLines exLs2 "a ".toList exR2 " z".toList 1 := by
  unfold exLs2 exR2
  repeat rw [String.toList_ofList]
  exact ⟨⟨'a', _, _, rfl, by decide⟩, by decide +kernel, by decide +kernel, by decide +kernel, by decide, by decide,
      by decide, by decide +kernel⟩

/-- `doc_span_multiline_render_nested` applies: the two lines in a block quote, `> a ``x ⏎ > y <b>`` z` … -/
example (x : Bool) : renderDoc x (exCfg false 100) (wrapAll [.quote] (docOf exLs2)) =
    .ok (spanHtml [.quote] (codeHtml (Render.nulStr "a ".toList) (Render.nulStr (spanContent exR2)) (Render.nulStr " z".toList))) :=
  doc_span_multiline_render_nested (exCfg false 100) _ _ _ _ 1 exLines2 (by decide +kernel) [.newline, .escape] _ rfl
    quietTick_stock stockPre [] rfl (by decide) [.quote] (by decide) (chainFor_stock _) (by decide) (by decide +kernel) rfl x

/-- … and that is: the document, and the output — the line ending one space, `<b>` escaped, no `>` from the prefix -/
example : wrapAll [.quote] (docOf exLs2) = "> a ``x\n> y <b>`` z".toList ∧
    spanHtml [.quote] (codeHtml (Render.nulStr "a ".toList) (Render.nulStr (spanContent exR2)) (Render.nulStr " z".toList)) =
      "<blockquote>\n<p>a <code>x y &lt;b&gt;</code> z</p>\n</blockquote>\n".toList := by
  unfold exLs2 exR2
  decide_lits

/-- the span ``a ``x ⏎ y`` `` in a bullet item, `- a ``x ⏎ ␠␠y```: the paragraph tags are dropped (tight item) -/
def exLs3 : List (List Char) := ["a ``x".toList, "y``".toList]

theorem exLines3 : SpanLines exLs3 "a ".toList "x\ny".toList [] 1 := by
  unfold exLs3
  repeat rw [String.toList_ofList]
  exact ⟨⟨'a', _, _, rfl, by decide⟩, by decide +kernel, by decide +kernel, by decide +kernel, by decide, by decide,
      by decide, by decide +kernel⟩

example (x : Bool) : renderDoc x (exCfg false 100) (wrapAll [.bullet '-'] (docOf exLs3)) =
    .ok (spanHtml [.bullet '-'] (codeHtml (Render.nulStr "a ".toList) (Render.nulStr (spanContent "x\ny".toList)) (Render.nulStr []))) :=
  doc_span_multiline_render_nested (exCfg false 100) _ _ _ _ 1 exLines3 (by decide +kernel) [.newline, .escape] _ rfl
    quietTick_stock stockPre [] rfl (by decide) [.bullet '-'] (by decide) (chainFor_stock _) (by decide) (by decide +kernel) rfl x

example : wrapAll [.bullet '-'] (docOf exLs3) = "- a ``x\n  y``".toList ∧
    spanHtml [.bullet '-'] (codeHtml (Render.nulStr "a ".toList) (Render.nulStr (spanContent "x\ny".toList)) (Render.nulStr [])) =
      "<ul>\n<li>a <code>x y</code></li>\n</ul>\n".toList := by
  unfold exLs3
  decide_lits

/-- three levels — an ordered item in a block quote in a bullet item — around the three-line paragraph of
    `Props/C11SpanMulti.lean` (`exLs`): every line carries all three prefixes -/
example (x : Bool) :
    renderDoc x (exCfg false 100) (wrapAll [.bullet '-', .quote, .ordered ['1'] '.'] (docOf exLs)) =
      .ok (spanHtml [.bullet '-', .quote, .ordered ['1'] '.']
        (codeHtml (Render.nulStr "a ".toList) (Render.nulStr (spanContent exR)) (Render.nulStr " w".toList))) :=
  doc_span_multiline_render_nested (exCfg false 100) _ _ _ _ 1 exLines (by decide +kernel) [.newline, .escape] _ rfl
    quietTick_stock stockPre [] rfl (by decide) [.bullet '-', .quote, .ordered ['1'] '.'] (by decide) (chainFor_stock _)
    (by decide) (by decide +kernel) rfl x

example : wrapAll [.bullet '-', .quote, .ordered ['1'] '.'] (docOf exLs) =
      "- > 1. a ``x\n  >    y <b>\n  >    z`` w".toList ∧
    spanHtml [.bullet '-', .quote, .ordered ['1'] '.']
        (codeHtml (Render.nulStr "a ".toList) (Render.nulStr (spanContent exR)) (Render.nulStr " w".toList)) =
      "<ul>\n<li>\n<blockquote>\n<ol>\n<li>a <code>x y &lt;b&gt; z</code> w</li>\n</ol>\n</blockquote>\n</li>\n</ul>\n".toList := by
  decide_lits

/-- the PADDED payload of `Props/C11SpanMulti.lean` (`exTs`: three lines, the second indented and with trailing
    blanks, the third markup, an entity and emphasis) in an ordered item in a block quote:
    `doc_span_padded_lines_render_nested` applies -/
example (x : Bool) :
    renderDoc x (exCfg false 100)
        (wrapAll [.quote, .ordered ['7'] ')'] (docOf (paddedLines "a ".toList 1 exTs " w".toList))) =
      .ok (spanHtml [.quote, .ordered ['7'] ')']
        (codeHtml (Render.nulStr "a ".toList) (Render.nulStr (spaced exTs)) (Render.nulStr " w".toList))) :=
  doc_span_padded_lines_render_nested (exCfg false 100) _ _ 1 exTs exPadded.1
    (by unfold exTs; decide_lits) exPadded.2.1 exPadded.2.2 [.newline, .escape] _ rfl quietTick_stock stockPre [] rfl
    (by decide) [.quote, .ordered ['7'] ')'] (by decide +kernel) (chainFor_stock _) (by decide) (by decide +kernel) rfl x

example : wrapAll [.quote, .ordered ['7'] ')'] (docOf (paddedLines "a ".toList 1 exTs " w".toList)) =
      "> 7) a `` x\n>       y  \n>    <b>&amp;*z* `` w".toList ∧
    spanHtml [.quote, .ordered ['7'] ')']
        (codeHtml (Render.nulStr "a ".toList) (Render.nulStr (spaced exTs)) (Render.nulStr " w".toList)) =
      "<blockquote>\n<ol start=\"7\">\n<li>a <code>x    y   &lt;b&gt;&amp;amp;*z*</code> w</li>\n</ol>\n</blockquote>\n".toList := by
  decide_lits

/-- with the `sourcepos` plugin (`doc_span_multiline_render_nested_sp`; by evaluation here): the `CodeInline` node
    carries the position of the whole two-line span inside the quote, 1:5 – 2:9 -/
example : renderDoc false (exCfg true 100) (wrapAll [.quote] (docOf exLs2)) =
    .ok ("<blockquote data-sourcepos=\"1:1-2:11\">\n<p data-sourcepos=\"1:3-2:11\">a " ++
      "<code data-sourcepos=\"1:5-2:9\">x y &lt;b&gt;</code> z</p>\n</blockquote>\n").toList := by
  unfold exLs2
  rw [String.toList_append]
  decide_lits

/-- the translation on that document (`nested_tr_spec`): line 0 starts at 0, line 1 at 6 of the text
    (`a ``x⏎y <b>`` z`); offsets on line 0 move by 2, on line 1 by 4 -/
theorem exTr2 : starts 0 exLs2 = [0, 6] ∧
    (List.range 16).map (trOf 2 exLs2 (wrapAllLines [.quote] exLs2)) =
      [2, 3, 4, 5, 6, 7, 10, 11, 12, 13, 14, 15, 16, 17, 18, 19] := by
  unfold exLs2
  decide_lits

/-- the tree of `doc_span_multiline_nested` for `> a ``x ⏎ > y <b>`` z`: the span ranges over bytes 4 .. 17 of the
    source (both lines, the second line's `"> "` inside the range), the content over bytes 6 .. 15 — while the
    content itself, `x y <b>`, holds no prefix character -/
example : parseDoc (exCfg false 100) (wrapAll [.quote] (docOf exLs2)) =
    .ok ⟨.blk .root, some (0, 19), [],
      [⟨.blk .blockquote, some (0, 19), [],
        [⟨.blk .paragraph, some (2, 19), [],
          [⟨.inl (.text ['a', ' ']), some (2, 4), [], []⟩,
           ⟨.inl (.codeInline '`' 2), some (4, 17), [],
             [⟨.inl (.text ['x', ' ', 'y', ' ', '<', 'b', '>']), some (6, 15), [], []⟩]⟩,
           ⟨.inl (.text [' ', 'z']), some (17, 19), [], []⟩]⟩]⟩]⟩ := by
  have hE : Lines.byteLen (wrapAll [.quote] (docOf exLs2)) = 19 := by decide +kernel
  have h := doc_span_multiline_nested (exCfg false 100) _ _ _ _ 1 exLines2 (by decide +kernel) [.newline, .escape] _ rfl
    quietTick_stock stockPre [] rfl (by decide) [.quote] (by decide) (chainFor_stock _) (by decide)
    (by rw [hE]; decide) rfl
  have e0 : "a ".toList = ['a', ' '] ∧ " z".toList = [' ', 'z'] := by decide
  have e1 : Lines.byteLen ['a', ' '] = 2 ∧ Lines.byteLen exR2 = 7 ∧ Lines.byteLen [' ', 'z'] = 2 := by
    decide +kernel
  have e2 : spanContent exR2 = ['x', ' ', 'y', ' ', '<', 'b', '>'] ∧ padW exR2 = 0 := by decide +kernel
  have e3 := exTr2.2
  have t : ∀ a v, ((List.range 16).map (trOf 2 exLs2 (wrapAllLines [.quote] exLs2)))[a]? = some v →
      trOf 2 exLs2 (wrapAllLines [.quote] exLs2) a = v := by
    intro a v hv
    rw [List.getElem?_map] at hv
    cases hr : (List.range 16)[a]? with
    | none => rw [hr] at hv; cases hv
    | some b =>
      rw [hr] at hv
      have : b = a := by
        have := List.getElem?_eq_some_iff.mp hr
        obtain ⟨hlt, hb⟩ := this
        simpa using hb.symm
      subst this
      simpa using hv
  rw [e3] at t
  rw [h, hE, e0.1, e0.2]
  simp [rawNodes, txtR, codeR, spanRange, innerRange, e1.1, e1.2.1, e1.2.2, e2.1, e2.2, wrapForestN, spanLeaf, tightOf,
    stepTight, Wrapper.isQuote, widthAll, Wrapper.width, Wrapper.mk, Wrapper.dnodeL, Wrapper.kind,
    t 0 2 rfl, t 2 4 rfl, t 4 6 rfl, t 11 15 rfl, t 13 17 rfl, t 15 19 rfl]

example : starts 0 exLs2 = [0, 6] ∧
    (List.range 16).map (trOf 2 exLs2 (wrapAllLines [.quote] exLs2)) =
      [2, 3, 4, 5, 6, 7, 10, 11, 12, 13, 14, 15, 16, 17, 18, 19] := exTr2

/-- tabs are excluded by hypothesis (C06's simulation is for tab-free documents), and "character for character"
    does fail for one: a tab of which the quote marker's optional space takes one column (`>⇥y`) reaches the payload
    as the remaining two columns of SPACES; a tab behind the complete prefix stays a tab — by evaluation: -/
example : renderDoc false (exCfg false 100) "> a ``x\n>\ty``".toList =
      .ok "<blockquote>\n<p>a <code>x   y</code></p>\n</blockquote>\n".toList ∧
    renderDoc false (exCfg false 100) "> a ``x\n> \ty``".toList =
      .ok "<blockquote>\n<p>a <code>x \ty</code></p>\n</blockquote>\n".toList := by
  decide_lits

/-- NOT covered: lazy continuation lines (no marker on the second line).  By evaluation the result is the same
    paragraph — for a block quote and for a list item: -/
example : renderDoc false (exCfg false 100) "> a ``x\ny <b>`` z".toList =
      .ok "<blockquote>\n<p>a <code>x y &lt;b&gt;</code> z</p>\n</blockquote>\n".toList ∧
    renderDoc false (exCfg false 100) "- a ``x\ny``".toList = .ok "<ul>\n<li>a <code>x y</code></li>\n</ul>\n".toList := by
  decide_lits

/-- `ContLine` per line is needed inside containers too: a second line that opens a list ends paragraph and span -/
example : renderDoc false (exCfg false 100) "> a ``x\n> - y``".toList =
    .ok "<blockquote>\n<p>a ``x</p>\n<ul>\n<li>y``</li>\n</ul>\n</blockquote>\n".toList := by
  decide_lits

end examples

/-! ## 4. paragraph lines in front of the opening line and behind the closing line -/

section mid
variable (cfg : DocCfg) (Ls As Bs : List (List Char)) (R : List Char) (k : Nat) (h : MidLines Ls As R Bs k)
  (htab : ∀ l ∈ Ls, '\t' ∉ l)
  (c1 c2 : List Inline.RuleId) (hic : cfg.inlineChain = .text :: .newline :: (c1 ++ .backticks :: c2))
  (hq : ∀ r ∈ c1, QuietTick r)
  (bpre bpost : List Block.RuleId) (hbc : cfg.blockChain = bpre ++ .paragraph :: bpost) (hbp : .paragraph ∉ bpre)
  (w : List Wrapper) (hw : ∀ x ∈ w, x.Ok) (hch : ChainFor cfg.blockChain w)
  (hmn : depthCost w < cfg.maxNesting)
  (hsize : Lines.byteLen (wrapAll w (docOf Ls)) + 20 < 2147483648)
include h htab hic hq hbc hbp hw hch hmn hsize

/-- **`doc_span_midparagraph_nested`, any `sourcepos`.**  The lines `Ls` (`MidLines`: one paragraph
    `A₁ ⏎ … ⏎ A_a `ᵏ⁺¹ R `ᵏ⁺¹ B₁ ⏎ … ⏎ B_b`), tab-free, inside any wrappers `w`: the wrapper nodes around the `Paragraph`
    (around nothing when the innermost wrapper is a list item) over `midNodes`: `Text A₁`, `Softbreak`, …, `Text A_a`
    (none for an empty piece), ONE `CodeInline` over the whole span whose single child is `Text (spanContent R)`,
    `Text B₁`, `Softbreak`, …, `Text B_b`; a `Softbreak` ranges over its line feed; every range through `trOf`
    (`nested_tr_spec`). -/
theorem doc_span_midparagraph_nested_sp :
    parseDoc cfg (wrapAll w (docOf Ls)) =
      .ok ⟨.blk .root, some (0, Lines.byteLen (wrapAll w (docOf Ls))),
        spAttrs cfg (wrapAll w (docOf Ls)) (0, Lines.byteLen (wrapAll w (docOf Ls))),
        wrapForestN (spAttrs cfg (wrapAll w (docOf Ls))) (Lines.byteLen (wrapAll w (docOf Ls))) w 0
          (spanLeaf (spAttrs cfg (wrapAll w (docOf Ls))) (widthAll w) (Lines.byteLen (wrapAll w (docOf Ls))) (tightOf w)
            (midNodes (spAttrs cfg (wrapAll w (docOf Ls))) (trOf (widthAll w) Ls (wrapAllLines w Ls)) k As R Bs))⟩ :=
  doc_span_tree cfg Ls As Bs R k h (.newline :: c1) c2 hic (quietTick_newline hq) (fun _ => ⟨c1, rfl⟩) bpre bpost hbc hbp w ⟨hw, hch, hmn, fun _ => ⟨htab, hsize⟩⟩

/-- **`doc_span_midparagraph_nested`** (no `sourcepos` plugin): the tree, exactly, no attributes anywhere -/
theorem doc_span_midparagraph_nested (hsp : cfg.sourcepos = false) :
    parseDoc cfg (wrapAll w (docOf Ls)) =
      .ok ⟨.blk .root, some (0, Lines.byteLen (wrapAll w (docOf Ls))), [],
        wrapForestN (fun _ => []) (Lines.byteLen (wrapAll w (docOf Ls))) w 0
          (spanLeaf (fun _ => []) (widthAll w) (Lines.byteLen (wrapAll w (docOf Ls))) (tightOf w)
            (midNodes (fun _ => []) (trOf (widthAll w) Ls (wrapAllLines w Ls)) k As R Bs))⟩ := by
  have := doc_span_midparagraph_nested_sp cfg Ls As Bs R k h htab c1 c2 hic hq bpre bpost hbc hbp w hw hch hmn hsize
  rw [spAttrs_off hsp] at this
  exact this

theorem doc_span_midparagraph_render_nested_sp (x : Bool) :
    renderDoc x cfg (wrapAll w (docOf Ls)) =
      .ok (Render.replaceNul (spanHtmlA (spAttrs cfg (wrapAll w (docOf Ls))) (Lines.byteLen (wrapAll w (docOf Ls)))
        (openTag tP (spAttrs cfg (wrapAll w (docOf Ls)) (widthAll w, Lines.byteLen (wrapAll w (docOf Ls)))) ++
          inlHtml (spAttrs cfg (wrapAll w (docOf Ls))
              (spanRange (trOf (widthAll w) Ls (wrapAllLines w Ls)) k (docOf As) R))
            (docOf As) (spanContent R) (docOf Bs) ++ closeTag tP ++ ['\n'])
        (inlHtml (spAttrs cfg (wrapAll w (docOf Ls))
            (spanRange (trOf (widthAll w) Ls (wrapAllLines w Ls)) k (docOf As) R))
          (docOf As) (spanContent R) (docOf Bs)) w 0)) :=
  doc_span_html cfg Ls As Bs R k h (.newline :: c1) c2 hic (quietTick_newline hq) (fun _ => ⟨c1, rfl⟩) bpre bpost hbc hbp w ⟨hw, hch, hmn, fun _ => ⟨htab, hsize⟩⟩ x

/-- **`doc_span_midparagraph_render_nested`** (no `sourcepos` plugin), both serializers: the wrappers' HTML around
    the text in front — its soft breaks as line feeds —, `<code>` content `</code>`, the text behind: the source's
    line endings OUTSIDE the span stay line feeds, those INSIDE it are spaces (`spanContent R`) -/
theorem doc_span_midparagraph_render_nested (hsp : cfg.sourcepos = false) (x : Bool) :
    renderDoc x cfg (wrapAll w (docOf Ls)) =
      .ok (spanHtml w (codeHtml (Render.nulStr (docOf As)) (Render.nulStr (spanContent R)) (Render.nulStr (docOf Bs)))) :=
  plain_html cfg _ hsp x _ _ _ (docOf As) (spanContent R) (docOf Bs) w _
    (doc_span_midparagraph_render_nested_sp cfg Ls As Bs R k h htab c1 c2 hic hq bpre bpost hbc hbp w hw hch hmn hsize x)

end mid

section midtop
variable (cfg : DocCfg) (Ls As Bs : List (List Char)) (R : List Char) (k : Nat) (h : MidLines Ls As R Bs k)
  (c1 c2 : List Inline.RuleId) (hic : cfg.inlineChain = .text :: .newline :: (c1 ++ .backticks :: c2))
  (hq : ∀ r ∈ c1, QuietTick r)
  (bpre bpost : List Block.RuleId) (hbc : cfg.blockChain = bpre ++ .paragraph :: bpost) (hbp : .paragraph ∉ bpre)
  (hmn : 0 < cfg.maxNesting)
include h hic hq hbc hbp hmn

/-- **`doc_span_midparagraph`** (top level, tabs allowed, any `sourcepos`): `Root[Paragraph[midNodes]]`, root and
    paragraph over the whole source, every range the byte range in the source: `Text A₁`, `Softbreak` (over the line
    feed), …, `Text A_a`, ONE `CodeInline` over the whole span with the single child `Text (spanContent R)`, `Text B₁`,
    `Softbreak`, …, `Text B_b` -/
theorem doc_span_midparagraph :
    parseDoc cfg (docOf Ls) =
      .ok ⟨.blk .root, some (0, Lines.byteLen (docOf Ls)), spAttrs cfg (docOf Ls) (0, Lines.byteLen (docOf Ls)),
        [⟨.blk .paragraph, some (0, Lines.byteLen (docOf Ls)), spAttrs cfg (docOf Ls) (0, Lines.byteLen (docOf Ls)),
          midNodes (spAttrs cfg (docOf Ls)) (fun a => a) k As R Bs⟩]⟩ := by
  have := doc_span_tree cfg Ls As Bs R k h (.newline :: c1) c2 hic (quietTick_newline hq) (fun _ => ⟨c1, rfl⟩) bpre bpost hbc hbp [] (Nested.top hmn Ls)
  rw [trOf_top (by obtain ⟨c, r, rest, hL, -⟩ := h.first; rw [hL]; simp)] at this
  simpa [wrapForestN, spanLeaf, tightOf, wrapAll, widthAll] using this

/-- **`doc_span_midparagraph_render`** (top level, tabs allowed, no `sourcepos` plugin), both serializers:
    `<p>` `A₁ ⏎ … ⏎ A_a` `<code>` content `</code>` `B₁ ⏎ … ⏎ B_b` `</p>` LF — ONE paragraph, ONE code element; the line
    endings outside the span are line feeds, those inside it spaces; exactly `& < > "` escaped, NUL replaced -/
theorem doc_span_midparagraph_render (hsp : cfg.sourcepos = false) (x : Bool) :
    renderDoc x cfg (docOf Ls) =
      .ok ("<p>".toList ++
        codeHtml (Render.nulStr (docOf As)) (Render.nulStr (spanContent R)) (Render.nulStr (docOf Bs)) ++
        "</p>\n".toList) := by
  have := plain_html cfg _ hsp x _ _ _ (docOf As) (spanContent R) (docOf Bs) [] _
    (doc_span_html cfg Ls As Bs R k h (.newline :: c1) c2 hic (quietTick_newline hq) (fun _ => ⟨c1, rfl⟩) bpre bpost hbc hbp [] (Nested.top hmn Ls) x)
  simpa [spanHtml, wrapAll] using this

end midtop

/-! ## 5. instances of part 2, and the limits -/

section examples2

/-- the four-line paragraph `p q ⏎ a ``x ⏎ y <b>`` z ⏎ r s`: a line in front of the opening line, one behind the closing
    line; `As = ["p q", "a "]`, `R = "x⏎y <b>"`, `Bs = [" z", "r s"]` -/
def exLs4 : List (List Char) := ["p q".toList, "a ``x".toList, "y <b>`` z".toList, "r s".toList]
def exAs : List (List Char) := ["p q".toList, "a ".toList]
def exBs : List (List Char) := [" z".toList, "r s".toList]

theorem exMid : MidLines exLs4 exAs exR2 exBs 1 := by
  unfold exLs4 exAs exR2 exBs
  repeat rw [String.toList_ofList]
  exact ⟨⟨'p', _, _, rfl, by decide⟩, by decide +kernel, by decide +kernel, by decide +kernel, by decide, by decide,
      by decide +kernel, by decide +kernel, by decide +kernel, by decide +kernel, by decide +kernel, by decide +kernel⟩

/-- `doc_span_midparagraph_render` applies on the stock configuration (both serializers) … -/
example (x : Bool) : renderDoc x (exCfg false 100) (docOf exLs4) =
    .ok ("<p>".toList ++ codeHtml (Render.nulStr (docOf exAs)) (Render.nulStr (spanContent exR2))
      (Render.nulStr (docOf exBs)) ++ "</p>\n".toList) :=
  doc_span_midparagraph_render (exCfg false 100) _ _ _ _ 1 exMid [.escape] _ rfl
    (fun r hr => quietTick_stock r (List.mem_cons_of_mem _ hr)) stockPre [] rfl (by decide) (by decide) rfl x

/-- … and that is: the line endings OUTSIDE the span are line feeds, the one INSIDE it is a space -/
example : docOf exLs4 = "p q\na ``x\ny <b>`` z\nr s".toList ∧
    "<p>".toList ++ codeHtml (Render.nulStr (docOf exAs)) (Render.nulStr (spanContent exR2))
      (Render.nulStr (docOf exBs)) ++ "</p>\n".toList = "<p>p q\na <code>x y &lt;b&gt;</code> z\nr s</p>\n".toList := by
  unfold exLs4 exAs exR2 exBs
  decide_lits

/-- the span closing at the end of a line, `p ⏎ a``x`` ⏎ q`: the piece behind the span is empty
    (`As = ["p", "a"]`, `Bs = ["", "q"]`) -/
def exLs5 : List (List Char) := ["p".toList, "a``x``".toList, "q".toList]

theorem exMid2 : MidLines exLs5 ["p".toList, "a".toList] "x".toList [[], "q".toList] 1 := by
  unfold exLs5
  repeat rw [String.toList_ofList]
  exact ⟨⟨'p', _, _, rfl, by decide⟩, by decide +kernel, by decide +kernel, by decide +kernel, by decide, by decide,
      by decide +kernel, by decide +kernel, by decide +kernel, by decide +kernel, by decide +kernel, by decide +kernel⟩

example (x : Bool) : renderDoc x (exCfg false 100) (docOf exLs5) = .ok "<p>p\na<code>x</code>\nq</p>\n".toList := by
  have := doc_span_midparagraph_render (exCfg false 100) _ _ _ _ 1 exMid2 [.escape] _ rfl
    (fun r hr => quietTick_stock r (List.mem_cons_of_mem _ hr)) stockPre [] rfl (by decide) (by decide) rfl x
  rw [this]
  decide +kernel

/-- the tree of `doc_span_midparagraph` for that document (`p⏎a``x``⏎q`): `Text p`, `Softbreak` over byte 1 .. 2,
    `Text a`, the span over 3 .. 8 (content over 5 .. 6), `Softbreak` over 8 .. 9, `Text q` -/
example : parseDoc (exCfg false 100) (docOf exLs5) =
    .ok ⟨.blk .root, some (0, 10), [],
      [⟨.blk .paragraph, some (0, 10), [],
        [⟨.inl (.text ['p']), some (0, 1), [], []⟩,
         ⟨.inl .softbreak, some (1, 2), [], []⟩,
         ⟨.inl (.text ['a']), some (2, 3), [], []⟩,
         ⟨.inl (.codeInline '`' 2), some (3, 8), [], [⟨.inl (.text ['x']), some (5, 6), [], []⟩]⟩,
         ⟨.inl .softbreak, some (8, 9), [], []⟩,
         ⟨.inl (.text ['q']), some (9, 10), [], []⟩]⟩]⟩ := by
  have h := doc_span_midparagraph (exCfg false 100) _ _ _ _ 1 exMid2 [.escape] _ rfl
    (fun r hr => quietTick_stock r (List.mem_cons_of_mem _ hr)) stockPre [] rfl (by decide) (by decide)
  have hE : Lines.byteLen (docOf exLs5) = 10 := by decide +kernel
  have e1 : Lines.byteLen (docOf [['p'], ['a']]) = 3 ∧ 'p'.utf8Size = 1 ∧ 'a'.utf8Size = 1 ∧ 'x'.utf8Size = 1 ∧
      'q'.utf8Size = 1 := by decide +kernel
  have e2 : spanContent ['x'] = ['x'] ∧ padW ['x'] = 0 := by decide +kernel
  rw [h, hE, spAttrs_off rfl]
  simp [midNodes, linesR, sbR, txtR, codeR, spanRange, innerRange, e1.1, e1.2.1, e1.2.2.1, e1.2.2.2.1, e1.2.2.2.2,
    e2.1, e2.2, Lines.byteLen]

/-- inside containers (`doc_span_midparagraph_render_nested`): `> p q ⏎ > a ``x ⏎ > y <b>`` z ⏎ > r s` and the same in a
    bullet item -/
example (x : Bool) : renderDoc x (exCfg false 100) (wrapAll [.quote] (docOf exLs4)) =
      .ok "<blockquote>\n<p>p q\na <code>x y &lt;b&gt;</code> z\nr s</p>\n</blockquote>\n".toList ∧
    renderDoc x (exCfg false 100) (wrapAll [.bullet '-'] (docOf exLs4)) =
      .ok "<ul>\n<li>p q\na <code>x y &lt;b&gt;</code> z\nr s</li>\n</ul>\n".toList := by
  have h1 := doc_span_midparagraph_render_nested (exCfg false 100) _ _ _ _ 1 exMid (by decide +kernel) [.escape] _ rfl
    (fun r hr => quietTick_stock r (List.mem_cons_of_mem _ hr)) stockPre [] rfl (by decide) [.quote] (by decide)
    (chainFor_stock _) (by decide) (by decide +kernel) rfl x
  have h2 := doc_span_midparagraph_render_nested (exCfg false 100) _ _ _ _ 1 exMid (by decide +kernel) [.escape] _ rfl
    (fun r hr => quietTick_stock r (List.mem_cons_of_mem _ hr)) stockPre [] rfl (by decide) [.bullet '-'] (by decide)
    (chainFor_stock _) (by decide) (by decide +kernel) rfl x
  rw [h1, h2]
  decide_lits

example : wrapAll [.quote] (docOf exLs4) = "> p q\n> a ``x\n> y <b>`` z\n> r s".toList ∧
    wrapAll [.bullet '-'] (docOf exLs4) = "- p q\n  a ``x\n  y <b>`` z\n  r s".toList := by
  unfold exLs4
  decide_lits

/-- `SoftOk` is needed for the statement as it stands — OUTSIDE the span the line ending is not always a bare line
    feed: two spaces or a backslash in front of it make a HARD break (`<br>`, the spaces are dropped), one space is
    dropped, blanks behind it are skipped.  The span itself is not affected in any of these (by evaluation): -/
example : ¬ SoftOk ["p  ".toList, "a ".toList] ['`'] ∧ ¬ SoftOk ["p".toList, "  a ".toList] ['`'] ∧
    renderDoc false (exCfg false 100) "p  \na ``x\ny``".toList = .ok "<p>p<br>\na <code>x y</code></p>\n".toList ∧
    renderDoc false (exCfg false 100) "p\\\na ``x\ny``".toList = .ok "<p>p<br>\na <code>x y</code></p>\n".toList ∧
    renderDoc false (exCfg false 100) "p \na ``x\ny``".toList = .ok "<p>p\na <code>x y</code></p>\n".toList ∧
    renderDoc false (exCfg false 100) "p\n  a ``x\ny``".toList = .ok "<p>p\na <code>x y</code></p>\n".toList ∧
    renderDoc false (exCfg false 100) "a ``x\ny``  \nq".toList = .ok "<p>a <code>x y</code><br>\nq</p>\n".toList := by
  decide_lits

/-- a restriction of the STATEMENT (inherited from `Block.ContLine`, Lemmas/C11SpanMultiDefs.lean), not of the
    behaviour: a continuation line that starts with a backtick — the span on a line of its own, or the closing run
    at the start of a line — is not `ContLine` (a backtick is not `ParaFirst`: three of them open a fence), so
    `SpanLines` / `MidLines` do not cover it; by evaluation (model = crate) the paragraph and the span go on: -/
example : ¬ ContLine "``x``".toList ∧ ¬ ContLine "`` b".toList ∧
    renderDoc false (exCfg false 100) "p\n``x``\nq".toList = .ok "<p>p\n<code>x</code>\nq</p>\n".toList ∧
    renderDoc false (exCfg false 100) "a ``x\n`` b".toList = .ok "<p>a <code>x </code> b</p>\n".toList := by
  decide_lits

end examples2

/-
OPEN:
  1. LAZY continuation lines inside containers (`> a ``x⏎y```: no marker on line 2).  `wrapAll` prefixes every line;
     C06's `quote_commutes` / `item_commutes_gen` are about that document only.  Missing lemma: a C06-style
     simulation for the document in which some paragraph continuation lines lack the prefix (`bqScan` /
     `listLoop` reach them through `lazyScan` = the paragraph rule's `test_rules_at_line` with `blk_indent` of the
     container), giving the table entry `(p_j, start of line j)` WITHOUT `+ width` for those lines; the rest of the
     chain (`trOf_ok` on any well-formed table, `parseDoc_of_blocks_lines`) is table-agnostic.  By evaluation
     (section 3) the rendering is the same.
  2. HARD breaks and skipped blanks outside the span (`MidLines.softA/softB` exclude them): pieces ending with one
     or more spaces / a backslash in front of the line feed, continuation lines indented by 1–3 columns (or more)
     outside the span.  Missing lemma: `ruleNewline_soft` with `tailSize ≠ 0` (`trailingTextPop` shortening the text
     node: content and range end − tailSize; `Hardbreak` for `tailSize ≥ 2`) and with `(rest.takeWhile isSpTab).length
     ≠ 0` (the break's range then covers the blanks); `ruleEscape` on `\⏎`; then `Hardbreak` → `selfClose br; cr` in
     `out_linesE`.  The span's own node and content are unaffected (examples above).
  3. continuation lines that start with a backtick (fewer than three, so no fence): excluded by `Block.ContLine`
     (first non-blank character `ParaFirst`).  Missing lemma: `Block.Declines` (Lemmas/BlockDeclines.lean) of the fence
     rule for a line starting with one or two backticks followed by a non-backtick — only the fence
     rule looks at a backtick, and it wants three.
  4. tabs inside containers (`htab`): C06's simulations are for tab-free documents.  With a tab that the quote
     marker's optional space splits (`>⇥y`) the payload is NOT reproduced character for character (section 3).
-/

end MdIt.C11X
