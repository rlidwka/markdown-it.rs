/-
  C14 (inline-side mechanisms): "The tree returned by parsing contains only final node kinds — no
  parser-internal placeholder survives — … It never contains an empty text node or two adjacent text
  siblings."

  Proved here, for ALL inputs of the modelled functions:
    * `join_normal_form`      — after `fragments_join` a child vector has no `EmphMarker`, no empty
                                `Text` and no two adjacent `Text`s;
    * `join_content`          — `fragments_join` loses / reorders nothing of what is displayed;
    * `joinAll_normal_form`   — after `FragmentsJoin::run` (`walk_mut`) that holds at every node;
    * `push_no_adjacent`, `pop_no_adjacent` — the trailing-text operations keep "no empty text, no two
                                adjacent texts";
    * `splice_removes_inlineroot`, `walkNode_eq_loop` — `InlineParserRule`'s walk leaves no `InlineRoot`
                                at any depth; the index loop (terminating: measure `len - idx`) computes
                                the structural walk.
-/
import MdIt.Model.Join
import MdIt.Lemmas.KernelEval

namespace MdIt.C14
open MdIt.InlineOps MdIt.Join

/-! ## the normal form -/

def isMarker (n : INode) : Bool :=
  match n.kind with
  | .marker _ => true
  | _ => false

/-- no parser-internal `EmphMarker` -/
def NoMarker (l : List INode) : Prop := ∀ n ∈ l, isMarker n = false

/-- no `Text` with empty content -/
def NoEmptyText (l : List INode) : Prop := ∀ n ∈ l, n.isText = true → n.content ≠ []

/-- no two adjacent `Text` siblings -/
def NoAdjText : List INode → Prop
  | [] => True
  | x :: r => (∀ y, r.head? = some y → ¬ (x.isText = true ∧ y.isText = true)) ∧ NoAdjText r

structure NormalForm (l : List INode) : Prop where
  noMarker : NoMarker l
  noEmpty : NoEmptyText l
  noAdj : NoAdjText l

/-! ## pass 2 invariant: a text node that is directly followed by a text node is empty -/

def LeftEmpty : List INode → Prop
  | [] => True
  | x :: r =>
    (∀ y, r.head? = some y → x.isText = true → y.isText = true → x.content = []) ∧ LeftEmpty r

theorem head_mergeLoop (cur : INode) (rest : List INode) :
    ∃ h t, mergeLoop cur rest = h :: t ∧ h.isText = cur.isText := by
  cases rest with
  | nil => exact ⟨cur, [], rfl, rfl⟩
  | cons nxt rest =>
    simp only [mergeLoop]
    split
    · next hc =>
      simp only [Bool.and_eq_true] at hc
      exact ⟨_, _, rfl, by rw [hc.1]; exact hc.2⟩
    · exact ⟨_, _, rfl, rfl⟩

theorem leftEmpty_mergeLoop (cur : INode) (rest : List INode) : LeftEmpty (mergeLoop cur rest) := by
  induction rest generalizing cur with
  | nil => simp [mergeLoop, LeftEmpty]
  | cons nxt rest ih =>
    simp only [mergeLoop]
    split
    · exact ⟨fun _ _ _ _ => rfl, ih _⟩
    · next hc =>
      refine ⟨?_, ih _⟩
      obtain ⟨h, t, e, ht⟩ := head_mergeLoop nxt rest
      intro y hy h1 h2
      rw [e] at hy
      simp only [List.head?_cons, Option.some.injEq] at hy
      subst hy
      rw [ht] at h2
      simp [h1, h2] at hc

theorem leftEmpty_mergeAll (l : List INode) : LeftEmpty (mergeAll l) := by
  cases l with
  | nil => simp [mergeAll, LeftEmpty]
  | cons c r => exact leftEmpty_mergeLoop c r

theorem keep_of_not_text (n : INode) (h : n.isText = false) : keep n = true := by
  simp [keep, h]

/-- after a non-empty text that survives `retain`, the next survivor is not a text -/
theorem filter_head_after_text (x : INode) (r : List INode) (h : LeftEmpty (x :: r))
    (hx : x.isText = true) (hne : x.content ≠ []) :
    ∀ y, (r.filter keep).head? = some y → y.isText = false := by
  cases r with
  | nil => simp
  | cons y' r' =>
    have hy' : y'.isText = false := by
      cases hyt : y'.isText with
      | false => rfl
      | true => exact absurd (h.1 y' rfl hx hyt) hne
    intro y hy
    rw [List.filter_cons_of_pos (keep_of_not_text _ hy')] at hy
    simp only [List.head?_cons, Option.some.injEq] at hy
    subst hy; exact hy'

theorem noAdj_filter_of_leftEmpty (l : List INode) (h : LeftEmpty l) : NoAdjText (l.filter keep) := by
  induction l with
  | nil => simp [NoAdjText]
  | cons x r ih =>
    by_cases hk : keep x = true
    · rw [List.filter_cons_of_pos hk]
      refine ⟨?_, ih h.2⟩
      intro y hy hxy
      have hne : x.content ≠ [] := by
        intro hc
        simp [keep, hxy.1, hc] at hk
      have := filter_head_after_text x r h hxy.1 hne y hy
      rw [this] at hxy
      exact absurd hxy.2 (by simp)
    · rw [List.filter_cons_of_neg hk]
      exact ih h.2

/-! ## no marker survives pass 1 / pass 2 keeps kinds -/

theorem isMarker_markerToText (n : INode) : isMarker (markerToText n) = false := by
  unfold markerToText
  split
  · rfl
  · next h =>
    unfold isMarker
    split
    · next ch hk => exact absurd hk (h ch)
    · rfl

theorem noMarker_pass1 (cs : List INode) : NoMarker (pass1 cs) := by
  intro n hn
  simp only [pass1, List.mem_map] at hn
  obtain ⟨a, _, rfl⟩ := hn
  exact isMarker_markerToText a

theorem noMarker_mergeLoop (cur : INode) (rest : List INode) (h : NoMarker (cur :: rest)) :
    NoMarker (mergeLoop cur rest) := by
  induction rest generalizing cur with
  | nil => simpa [mergeLoop] using h
  | cons nxt rest ih =>
    have hcur := h cur (by simp)
    have hnxt := h nxt (by simp)
    have hrest : ∀ n ∈ rest, isMarker n = false := fun n hn => h n (by simp [hn])
    simp only [mergeLoop]
    split
    · intro n hn
      rcases List.mem_cons.mp hn with rfl | hn
      · exact hnxt
      · apply ih (merged cur nxt) _ n hn
        intro m hm
        rcases List.mem_cons.mp hm with rfl | hm
        · exact hcur
        · exact hrest m hm
    · intro n hn
      rcases List.mem_cons.mp hn with rfl | hn
      · exact hcur
      · apply ih nxt _ n hn
        intro m hm
        rcases List.mem_cons.mp hm with rfl | hm
        · exact hnxt
        · exact hrest m hm

theorem noMarker_mergeAll (l : List INode) (h : NoMarker l) : NoMarker (mergeAll l) := by
  cases l with
  | nil => simpa [mergeAll] using h
  | cons c r => exact noMarker_mergeLoop c r h

/-! ## `join_normal_form` -/

/-- **C14 / join_normal_form.**  For EVERY child vector — any mixture of texts (empty or not), markers
    (any `remaining`, 0 included) and other nodes, with or without source ranges — the result of
    `fragments_join` contains no marker, no empty text node and no two adjacent text nodes. -/
theorem join_normal_form (cs : List INode) : NormalForm (fragmentsJoin cs) := by
  rw [fragmentsJoin_eq, fragmentsJoinL]
  refine ⟨?_, ?_, ?_⟩
  · intro n hn
    exact noMarker_mergeAll _ (noMarker_pass1 cs) n (List.mem_filter.mp hn).1
  · intro n hn ht hc
    have := (List.mem_filter.mp hn).2
    simp [keep, ht, hc] at this
  · exact noAdj_filter_of_leftEmpty _ (leftEmpty_mergeAll _)

/-- rendering of a child vector for the examples: `T` text / `N` non-text, content, range -/
def summary (l : List INode) : String :=
  ";".intercalate (l.map (fun n =>
    (if n.isText then "T:" else "N:") ++ String.ofList n.content ++ ":" ++
      (match n.range with
       | some (a, b) => toString a ++ "-" ++ toString b
       | none => "none")))

def exText (s : String) (a b : Nat) : INode := INode.newText s.toList (some (a, b))
def exMarker (ch : Char) (r a b : Nat) : INode :=
  { kind := .marker ch, content := [], range := some (a, b), children := [], remaining := r }

/-- non-vacuity: a run `text, marker×2, empty text, marker×0, other, text, text` — three merges, two
    removals, nothing adjacent left -/
example :
    summary (fragmentsJoin [exText "a" 0 1, exMarker '*' 2 1 3, exText "" 3 3, exMarker '*' 0 3 3,
      INode.newOther 7 (some (3, 5)), exText "b" 5 6, exText "c" 6 7]) =
      "T:a**:0-3;N::3-5;T:bc:5-7" := by
  decide +kernel

/-! ## `join_content` -/

/-- what a child shows: the characters of a text, `remaining` copies of the marker character of a
    marker, and any other node as an opaque token (the node itself) -/
def displayNode (n : INode) : List (Char ⊕ INode) :=
  match n.kind with
  | .text => n.content.map Sum.inl
  | .marker ch => (markerText ch n.remaining).map Sum.inl
  | .other _ => [Sum.inr n]

def display (l : List INode) : List (Char ⊕ INode) := l.flatMap displayNode

theorem display_cons (n : INode) (l : List INode) : display (n :: l) = displayNode n ++ display l := by
  simp [display]

theorem isText_iff (n : INode) : n.isText = true ↔ n.kind = .text := by
  unfold INode.isText; split <;> simp_all

theorem displayNode_markerToText (n : INode) : displayNode (markerToText n) = displayNode n := by
  unfold markerToText
  split
  · next ch h => simp [displayNode, h]
  · rfl

theorem display_pass1 (cs : List INode) : display (pass1 cs) = display cs := by
  induction cs with
  | nil => rfl
  | cons c cs ih =>
    simp only [pass1, List.map_cons] at ih ⊢
    rw [display_cons, display_cons, ih, displayNode_markerToText]

theorem displayNode_emptied (n : INode) (h : n.isText = true) : displayNode (emptied n) = [] := by
  have := (isText_iff n).mp h
  simp [displayNode, emptied, this]

theorem displayNode_merged (a b : INode) (ha : a.isText = true) (hb : b.isText = true) :
    displayNode (merged a b) = displayNode a ++ displayNode b := by
  have h1 := (isText_iff a).mp ha
  have h2 := (isText_iff b).mp hb
  simp [displayNode, merged, h1, h2]

theorem display_mergeLoop (cur : INode) (rest : List INode) :
    display (mergeLoop cur rest) = display (cur :: rest) := by
  induction rest generalizing cur with
  | nil => rfl
  | cons nxt rest ih =>
    simp only [mergeLoop]
    split
    · next hc =>
      simp only [Bool.and_eq_true] at hc
      rw [display_cons, ih, display_cons, display_cons, display_cons,
        displayNode_emptied _ hc.2, displayNode_merged _ _ hc.1 hc.2]
      simp
    · rw [display_cons, ih]
      simp [display_cons]

theorem display_filter_keep (l : List INode) : display (l.filter keep) = display l := by
  induction l with
  | nil => rfl
  | cons x r ih =>
    by_cases hk : keep x = true
    · rw [List.filter_cons_of_pos hk, display_cons, display_cons, ih]
    · rw [List.filter_cons_of_neg hk, display_cons, ih]
      simp only [keep, Bool.not_eq_true', Bool.not_eq_false, Bool.and_eq_true,
        List.isEmpty_iff] at hk
      have := (isText_iff x).mp hk.1
      simp [displayNode, this, hk.2]

/-- **C14 / join_content.**  The concatenation of what the children show is preserved by
    `fragments_join`: no character is lost, duplicated or moved across another node. -/
theorem join_content (cs : List INode) : display (fragmentsJoin cs) = display cs := by
  rw [fragmentsJoin_eq, fragmentsJoinL, display_filter_keep]
  rw [← display_pass1 cs]
  cases pass1 cs with
  | nil => rfl
  | cons c r => exact display_mergeLoop c r

example :
    (display [exText "a" 0 1, exMarker '*' 2 1 3, exText "" 3 3, exText "b" 3 4]).length = 4 ∧
    (fragmentsJoin [exText "a" 0 1, exMarker '*' 2 1 3, exText "" 3 3, exText "b" 3 4]).length = 1 := by
  decide +kernel

/-! ## `joinAll_normal_form` -/

mutual
/-- the normal form holds for the children of every node of the tree -/
def AllNF : INode → Prop
  | ⟨_, _, _, cs, _⟩ => NormalForm cs ∧ AllNFList cs
def AllNFList : List INode → Prop
  | [] => True
  | c :: cs => AllNF c ∧ AllNFList cs
end

theorem AllNF_eq (n : INode) : AllNF n ↔ NormalForm n.children ∧ AllNFList n.children := by
  cases n; simp [AllNF]

theorem joinList_eq_map (l : List INode) : joinList l = l.map joinNode := by
  induction l with
  | nil => simp [joinList]
  | cons c cs ih => rw [joinList, ih]; rfl

theorem joinNode_kind (n : INode) : (joinNode n).kind = n.kind := by rw [joinNode]
theorem joinNode_content (n : INode) : (joinNode n).content = n.content := by rw [joinNode]
theorem joinNode_children (n : INode) :
    (joinNode n).children = joinList (fragmentsJoin n.children) := by rw [joinNode]

theorem joinNode_isText (n : INode) : (joinNode n).isText = n.isText := by
  simp [INode.isText, joinNode_kind]

theorem joinNode_isMarker (n : INode) : isMarker (joinNode n) = isMarker n := by
  simp [isMarker, joinNode_kind]

theorem noAdj_map_joinNode (l : List INode) (h : NoAdjText l) : NoAdjText (l.map joinNode) := by
  induction l with
  | nil => simp [NoAdjText]
  | cons x r ih =>
    refine ⟨?_, ih h.2⟩
    intro y hy
    cases r with
    | nil => simp at hy
    | cons y' r' =>
      simp only [List.map_cons, List.head?_cons, Option.some.injEq] at hy
      subst hy
      rw [joinNode_isText, joinNode_isText]
      exact h.1 y' rfl

/-- the walk changes only `children`, so the normal form of a sibling list is not disturbed by what
    happens below it -/
theorem normalForm_map_joinNode (l : List INode) (h : NormalForm l) : NormalForm (l.map joinNode) := by
  refine ⟨?_, ?_, noAdj_map_joinNode l h.noAdj⟩
  · intro n hn
    obtain ⟨a, ha, rfl⟩ := List.mem_map.mp hn
    rw [joinNode_isMarker]; exact h.noMarker a ha
  · intro n hn
    obtain ⟨a, ha, rfl⟩ := List.mem_map.mp hn
    rw [joinNode_isText, joinNode_content]; exact h.noEmpty a ha

theorem joinAll_aux (k : Nat) :
    (∀ n, size n ≤ k → AllNF (joinNode n)) ∧ (∀ l, sizeList l ≤ k → AllNFList (joinList l)) := by
  induction k with
  | zero =>
    constructor
    · intro n hn; rw [size_eq] at hn; omega
    · intro l hl
      cases l with
      | nil => simp [joinList, AllNFList]
      | cons c cs => simp only [sizeList] at hl; have := size_eq c; omega
  | succ k ih =>
    have hnode : ∀ n, size n ≤ k + 1 → AllNF (joinNode n) := by
      intro n hn
      rw [AllNF_eq, joinNode_children]
      constructor
      · rw [joinList_eq_map]
        exact normalForm_map_joinNode _ (join_normal_form _)
      · apply ih.2
        have := sizeList_fragmentsJoin_le n.children
        rw [size_eq] at hn; omega
    refine ⟨hnode, ?_⟩
    intro l hl
    induction l with
    | nil => simp [joinList, AllNFList]
    | cons c cs ihl =>
      rw [joinList]
      simp only [sizeList] at hl
      have := size_eq c
      exact ⟨hnode c (by omega), ihl (by omega)⟩

/-- **C14 / joinAll_normal_form.**  After `FragmentsJoin::run` every node of the tree has children
    in normal form: no marker, no empty text, no two adjacent texts — at every depth. -/
theorem joinAll_normal_form (root : INode) : AllNF (joinAll root) :=
  (joinAll_aux (size root)).1 root (Nat.le_refl _)

def exEm : INode :=
  { INode.newOther 1 none with children := [exText "x" 1 2, exMarker '_' 1 2 3, exText "" 3 3, exText "y" 3 4] }
def exRoot : INode :=
  { INode.newOther 0 none with children := [exText "a" 0 1, exMarker '_' 0 1 1, exEm, exMarker '_' 1 4 5, exText "b" 5 6] }

example :
    summary (joinAll exRoot).children = "T:a:0-1;N::none;T:_b:4-6" ∧
    (joinAll exRoot).children.map (fun n => summary n.children) = ["", "T:x_y:1-4", ""] := by
  decide +kernel

/-! ## trailing-text operations keep "no empty text, no two adjacent texts" -/

theorem popLast_spec (l : List INode) :
    (popLast l = none ∧ l = []) ∨ (∃ init last, popLast l = some (init, last) ∧ l = init ++ [last]) := by
  induction l with
  | nil => left; simp [popLast]
  | cons x r ih =>
    right
    cases r with
    | nil => exact ⟨[], x, rfl, rfl⟩
    | cons y r' =>
      rcases ih with ⟨_, h⟩ | ⟨init, last, h1, h2⟩
      · simp at h
      · exact ⟨x :: init, last, by simp [popLast, h1], by simp [h2]⟩

theorem noAdj_snoc (l : List INode) (x : INode) :
    NoAdjText (l ++ [x]) ↔
      NoAdjText l ∧ ∀ y, l.getLast? = some y → ¬ (y.isText = true ∧ x.isText = true) := by
  induction l with
  | nil => simp [NoAdjText]
  | cons a r ih =>
    cases r with
    | nil => simp [NoAdjText]
    | cons b r' =>
      have e : (a :: b :: r') ++ [x] = a :: ((b :: r') ++ [x]) := rfl
      rw [e]
      simp only [NoAdjText] at ih ⊢
      rw [ih]
      simp only [List.cons_append, List.head?_cons, Option.some.injEq, forall_eq',
        List.getLast?_cons_cons]
      constructor
      · rintro ⟨h1, ⟨h2, h3⟩, h4⟩; exact ⟨⟨h1, h2, h3⟩, h4⟩
      · rintro ⟨⟨h1, h2, h3⟩, h4⟩; exact ⟨h1, ⟨h2, h3⟩, h4⟩

theorem splitAtByte_spec (s : List Char) (n : Nat) (a b : List Char)
    (h : splitAtByte s n = some (a, b)) : s = a ++ b ∧ byteLen a = n := by
  revert h
  fun_induction splitAtByte s n generalizing a b
  case case1 | case3 => intro h; cases h; exact ⟨rfl, rfl⟩
  case case2 | case4 | case5 => intro h; cases h
  case case6 c r n _ hn a' b' hs ih =>
    intro h; cases h
    obtain ⟨e1, e2⟩ := ih a' b' hs
    exact ⟨by rw [e1]; rfl, by simp only [byteLen]; omega⟩

theorem byteLen_pos_ne_nil (s : List Char) (h : 0 < byteLen s) : s ≠ [] := by
  intro e; subst e; simp [byteLen] at h

/-- `&s[a..b]` selects `mid`: `s = p ++ mid ++ q` with `|p| = a`, `|p ++ mid| = b` -/
theorem slice_inv (s : List Char) (a b : Nat) (mid : List Char) (h : slice s a b = .ok mid) :
    ∃ p q, s = p ++ mid ++ q ∧ byteLen p = a ∧ a + byteLen mid = b := by
  revert h
  fun_cases slice s a b
  case case4 hab p tail hs1 mid' q hs2 =>
    intro h; cases h
    obtain ⟨e1, e2⟩ := splitAtByte_spec _ _ _ _ hs1
    obtain ⟨e3, e4⟩ := splitAtByte_spec _ _ _ _ hs2
    exact ⟨p, q, by rw [e1, e3, List.append_assoc], e2, by omega⟩
  all_goals intro h; cases h
theorem slice_len (s : List Char) (a b : Nat) (p : List Char) (h : slice s a b = .ok p) :
    byteLen p = b - a := by
  obtain ⟨_, _, _, _, h3⟩ := slice_inv s a b p h
  omega

/-- the two facts about a child vector this section is about -/
structure TextOK (l : List INode) : Prop where
  noEmpty : NoEmptyText l
  noAdj : NoAdjText l

theorem noEmpty_snoc (l : List INode) (x : INode) :
    NoEmptyText (l ++ [x]) ↔ NoEmptyText l ∧ (x.isText = true → x.content ≠ []) := by
  simp only [NoEmptyText, List.mem_append, List.mem_singleton]
  constructor
  · intro h; exact ⟨fun n hn => h n (Or.inl hn), h x (Or.inr rfl)⟩
  · rintro ⟨h1, h2⟩ n (hn | rfl)
    · exact h1 n hn
    · exact h2

theorem popLast_eq_some (l init : List INode) (last : INode) (h : popLast l = some (init, last)) :
    l = init ++ [last] := by
  rcases popLast_spec l with ⟨h', _⟩ | ⟨i, x, h', e⟩ <;> rw [h] at h' <;> cases h'
  exact e

theorem getMap_inv (m : Srcmap) (s e : Nat) (r : Nat × Nat) (h : getMap m s e = .ok r) :
    getSourcePosFor m s = .ok r.1 ∧ getSourcePosFor m e = .ok r.2 := by
  revert h
  fun_cases getMap m s e
  case case4 a ha b hb => intro h; cases h; exact ⟨ha, hb⟩
  all_goals intro h; cases h

theorem getLast?_snoc_isText (init : List INode) (last : INode) (h : ¬ last.isText = true) :
    ∀ y, (init ++ [last]).getLast? = some y → y.isText = false := by
  intro y hy
  rw [List.getLast?_concat] at hy
  cases hy
  exact Bool.eq_false_iff.mpr h

/-- the fresh-node branch of `trailing_text_push` -/
theorem pushFresh_ok (src : List Char) (m : Srcmap) (children : List INode) (start stop : Nat)
    (out : List INode)
    (h : (match slice src start stop with
        | .error e => Except.error e
        | .ok piece =>
          match getMap m start stop with
          | .error e => .error e
          | .ok r => .ok (children ++ [INode.newText piece (some r)])) = Except.ok out) :
    ∃ piece s e, slice src start stop = .ok piece ∧ getSourcePosFor m start = .ok s ∧
      getSourcePosFor m stop = .ok e ∧ out = children ++ [INode.newText piece (some (s, e))] := by
  split at h
  · cases h
  · next piece hp =>
    split at h
    · cases h
    · next r hr =>
      cases h
      exact ⟨piece, r.1, r.2, hp, (getMap_inv m _ _ r hr).1, (getMap_inv m _ _ r hr).2, rfl⟩

/-- what a successful `trailing_text_push(start, end)` returns: the trailing text node grown by
    `src[start..end]` (range end re-translated when it has a range), or, when the last child is not a
    text node, a fresh text node appended -/
theorem trailingTextPush_ok (src : List Char) (m : Srcmap) (children : List INode) (start stop : Nat)
    (out : List INode) (h : trailingTextPush src m children start stop = .ok out) :
    ∃ piece, slice src start stop = .ok piece ∧
      ((∃ init old, children = init ++ [old] ∧ old.isText = true ∧
          ((old.range = none ∧ out = init ++ [{ old with content := old.content ++ piece }]) ∨
            ∃ a b e, old.range = some (a, b) ∧ getSourcePosFor m stop = .ok e ∧
              out = init ++ [{ old with content := old.content ++ piece, range := some (a, e) }])) ∨
       ((∀ y, children.getLast? = some y → y.isText = false) ∧
          ∃ s e, getSourcePosFor m start = .ok s ∧ getSourcePosFor m stop = .ok e ∧
            out = children ++ [INode.newText piece (some (s, e))])) := by
  revert h
  fun_cases trailingTextPush src m children start stop
  case case1 fresh hp =>
    intro h
    obtain ⟨piece, s, e, h1, h2, h3, h4⟩ := pushFresh_ok src m children start stop out h
    rcases popLast_spec children with ⟨_, hnil⟩ | ⟨_, _, hp', _⟩
    · exact ⟨piece, h1, Or.inr ⟨by simp [hnil], s, e, h2, h3, h4⟩⟩
    · rw [hp] at hp'; cases hp'
  case case2 | case4 => intro h; cases h
  case case3 init old hp ht piece hs hr =>
    intro h; cases h
    exact ⟨piece, hs, Or.inl ⟨init, old, popLast_eq_some _ _ _ hp, ht, Or.inl ⟨hr, rfl⟩⟩⟩
  case case5 init old hp ht piece hs a b hr e he =>
    intro h; cases h
    exact ⟨piece, hs, Or.inl ⟨init, old, popLast_eq_some _ _ _ hp, ht, Or.inr ⟨a, b, e, hr, he, rfl⟩⟩⟩
  case case6 fresh init old hp ht =>
    intro h
    obtain ⟨piece, s, e, h1, h2, h3, h4⟩ := pushFresh_ok src m children start stop out h
    exact ⟨piece, h1, Or.inr ⟨popLast_eq_some _ _ _ hp ▸ getLast?_snoc_isText init old ht, s, e, h2, h3, h4⟩⟩
/-- **C14 / push_no_adjacent.**  `trailing_text_push(start, end)` with `start < end` on a child vector
    without empty texts and without adjacent texts yields such a vector again. -/
theorem push_no_adjacent (src : List Char) (m : Srcmap) (children : List INode) (start stop : Nat)
    (hok : TextOK children) (hlt : start < stop) (out : List INode)
    (h : trailingTextPush src m children start stop = .ok out) : TextOK out := by
  obtain ⟨piece, hp, ⟨init, old, rfl, ht, hcase⟩ | ⟨hlast, s, e, _, _, rfl⟩⟩ :=
    trailingTextPush_ok src m children start stop out h
  · -- the last child is a text: it grows
    have hne := (noEmpty_snoc init old).mp hok.noEmpty
    have hadj := (noAdj_snoc init old).mp hok.noAdj
    have grow : ∀ (last' : INode), last'.isText = old.isText →
        last'.content = old.content ++ piece → TextOK (init ++ [last']) := fun last' hk hc =>
      ⟨(noEmpty_snoc _ _).mpr ⟨hne.1, fun _ => by
          rw [hc]; intro e; exact hne.2 ht (List.append_eq_nil_iff.mp e).1⟩,
        (noAdj_snoc _ _).mpr ⟨hadj.1, fun y hy => hk ▸ hadj.2 y hy⟩⟩
    rcases hcase with ⟨_, rfl⟩ | ⟨a, b, e, _, _, rfl⟩
    · exact grow _ rfl rfl
    · exact grow _ rfl rfl
  · have hne : piece ≠ [] := byteLen_pos_ne_nil _ (by rw [slice_len _ _ _ _ hp]; omega)
    refine ⟨(noEmpty_snoc _ _).mpr ⟨hok.noEmpty, fun _ => hne⟩,
      (noAdj_snoc _ _).mpr ⟨hok.noAdj, fun y hy hc => ?_⟩⟩
    rw [hlast y hy] at hc
    exact absurd hc.1 (by simp)

theorem truncate_inv (s : List Char) (n : Nat) (a : List Char) (h : truncate s n = .ok a) :
    ∃ b, s = a ++ b ∧ byteLen a = n := by
  unfold truncate at h
  split at h
  · cases h
  · next a' b hs => cases h; exact ⟨b, splitAtByte_spec _ _ _ _ hs⟩

/-- what a successful `trailing_text_pop(count)` returns: the children unchanged (`count = 0`), the
    trailing text node removed (all of it popped), or that node with a non-empty prefix of its content
    (kind kept) -/
theorem trailingTextPop_ok (children : List INode) (count : Nat) (out : List INode)
    (h : trailingTextPop children count = .ok out) :
    out = children ∨ ∃ init last, children = init ++ [last] ∧
      (out = init ∨ ∃ last', out = init ++ [last'] ∧ last'.isText = last.isText ∧
        last'.content ≠ []) := by
  revert h
  fun_cases trailingTextPop children count
  case case1 => intro h; cases h; exact Or.inl rfl
  case case2 | case3 | case5 | case6 | case8 => intro h; cases h
  case case4 init last hp _ _ =>
    intro h; cases h; exact Or.inr ⟨_, last, popLast_eq_some _ _ _ hp, Or.inl rfl⟩
  case case7 init last hp _ _ _ pre htr _ | case9 init last hp _ _ _ pre htr _ _ _ _ =>
    intro h; cases h
    obtain ⟨suf, _, hpre⟩ := truncate_inv _ _ _ htr
    have hne : pre ≠ [] := byteLen_pos_ne_nil _ (by omega)
    exact Or.inr ⟨init, last, popLast_eq_some _ _ _ hp, Or.inr ⟨_, rfl, rfl, hne⟩⟩
/-- **C14 / pop_no_adjacent.**  `trailing_text_pop(count)` (which removes the node when nothing of it is
    left) keeps "no empty text, no two adjacent texts". -/
theorem pop_no_adjacent (children : List INode) (count : Nat) (hok : TextOK children)
    (out : List INode) (h : trailingTextPop children count = .ok out) : TextOK out := by
  obtain rfl | ⟨init, last, rfl, hout⟩ := trailingTextPop_ok children count out h
  · exact hok
  · have hne := (noEmpty_snoc init last).mp hok.noEmpty
    have hadj := (noAdj_snoc init last).mp hok.noAdj
    obtain rfl | ⟨last', rfl, hk, hc⟩ := hout
    · exact ⟨hne.1, hadj.1⟩
    · exact ⟨(noEmpty_snoc _ _).mpr ⟨hne.1, fun _ => hc⟩,
        (noAdj_snoc _ _).mpr ⟨hadj.1, fun y hy => hk ▸ hadj.2 y hy⟩⟩

def exShow (r : Except InlineOps.Panic (List INode)) : String :=
  match r with
  | .ok l => summary l
  | .error _ => "PANIC"

def exSrc : List Char := "ab  cd  ".toList

/-- non-vacuity: push (fresh), push (grows), push after an opaque node (fresh), pop (shrinks),
    pop (removes) -/
example :
    exShow (trailingTextPush exSrc [(0, 10)] [] 0 2) = "T:ab:10-12" ∧
    exShow (trailingTextPush exSrc [(0, 10)] [exText "ab" 10 12] 2 4) = "T:ab  :10-14" ∧
    exShow (trailingTextPush exSrc [(0, 10)] [INode.newOther 3 none] 4 8) = "N::none;T:cd  :14-18" ∧
    exShow (trailingTextPop [exText "ab  " 10 14] 2) = "T:ab:10-12" ∧
    exShow (trailingTextPop [INode.newOther 3 none, exText "  " 12 14] 2) = "N::none" := by
  unfold exSrc
  decide_lits

/-! ## `InlineParserRule`: no `InlineRoot` survives -/

mutual
/-- no `InlineRoot` placeholder at this node or anywhere below it -/
def NoRootDeep : BNode → Prop
  | ⟨r, _, cs⟩ => r = false ∧ NoRootDeepList cs
def NoRootDeepList : List BNode → Prop
  | [] => True
  | c :: cs => NoRootDeep c ∧ NoRootDeepList cs
end

theorem noRootDeepList_append (a b : List BNode) :
    NoRootDeepList (a ++ b) ↔ NoRootDeepList a ∧ NoRootDeepList b := by
  induction a with
  | nil => simp [NoRootDeepList]
  | cons x r ih => simp [NoRootDeepList, ih, and_assoc]

mutual
theorem walkNode_noRoot (parse : BNode → List BNode) (hp : ∀ c, NoRootDeepList (parse c)) :
    ∀ n : BNode, n.isRoot = false → NoRootDeep (walkNode parse n)
  | ⟨r, t, cs⟩, h => by
    simp only [walkNode, NoRootDeep]
    exact ⟨h, walkList_noRoot parse hp cs⟩
theorem walkList_noRoot (parse : BNode → List BNode) (hp : ∀ c, NoRootDeepList (parse c)) :
    ∀ l : List BNode, NoRootDeepList (walkList parse l)
  | [] => by simp [walkList, NoRootDeepList]
  | c :: cs => by
    simp only [walkList]
    split
    · exact (noRootDeepList_append _ _).mpr ⟨hp c, walkList_noRoot parse hp cs⟩
    · next h =>
      exact ⟨walkNode_noRoot parse hp c (by simpa using h), walkList_noRoot parse hp cs⟩
end

/-- **C14 / splice_removes_inlineroot.**  Whatever the inline parser returns for a placeholder — as
    long as it contains no placeholder itself — the tree produced by `InlineParserRule`'s walk from a
    non-placeholder root contains no placeholder at any depth (also inside list items, quotes, …: the
    walk descends into every non-placeholder child). -/
theorem splice_removes_inlineroot (parse : BNode → List BNode)
    (hp : ∀ c, NoRootDeepList (parse c)) (root : BNode) (hr : root.isRoot = false) :
    NoRootDeep (walkNode parse root) :=
  walkNode_noRoot parse hp root hr

/-- one step of the loop body, as a list: the spliced result, or the walked child -/
def step (parse : BNode → List BNode) (recur : BNode → BNode) (c : BNode) : List BNode :=
  if c.isRoot then parse c else [recur c]

/-- the index loop (whose termination Lean checked with the measure `len − idx`: `idx` advances by the
    spliced length, which may be 0, while the vector shrinks by one) leaves the first `idx` children
    alone and replaces every later one by its `step` -/
theorem spliceLoop_eq (parse : BNode → List BNode) (recur : BNode → BNode) (pre post : List BNode) :
    spliceLoop parse recur (pre ++ post) pre.length = pre ++ post.flatMap (step parse recur) := by
  induction post generalizing pre with
  | nil => rw [spliceLoop]; simp
  | cons c post ih =>
    rw [spliceLoop]
    have h : pre.length < (pre ++ c :: post).length := by simp
    have e : (pre ++ c :: post)[pre.length] = c := by simp
    simp only [h, dite_true, e]
    split
    · next hc =>
      have e2 : List.take pre.length (pre ++ c :: post) ++ parse c ++
          List.drop (pre.length + 1) (pre ++ c :: post) = (pre ++ parse c) ++ post := by
        simp
      rw [e2]
      have := ih (pre ++ parse c)
      simp only [List.length_append] at this
      rw [this]
      simp [step, hc]
    · next hc =>
      have e2 : (pre ++ c :: post).set pre.length (recur c) = (pre ++ [recur c]) ++ post := by
        simp
      rw [e2]
      have := ih (pre ++ [recur c])
      simp only [List.length_append, List.length_singleton] at this
      rw [this]
      simp [step, hc]

theorem walkList_eq_flatMap (parse : BNode → List BNode) (l : List BNode) :
    walkList parse l = l.flatMap (step parse (walkNode parse)) := by
  induction l with
  | nil => simp [walkList]
  | cons c cs ih =>
    simp only [walkList, List.flatMap_cons, step, ih]
    split <;> simp

/-- the structural walk IS the loop of the Rust: at every node, `children` after the walk is what the
    `while idx < node.children.len()` loop started at `idx = 0` leaves, with the recursive call on
    non-placeholder children being the walk itself -/
theorem walkNode_eq_loop (parse : BNode → List BNode) (n : BNode) :
    walkNode parse n = { n with children := spliceLoop parse (walkNode parse) n.children 0 } := by
  cases n with
  | mk r t cs =>
    simp only [walkNode]
    have := spliceLoop_eq parse (walkNode parse) [] cs
    simp only [List.nil_append, List.length_nil] at this
    rw [this, walkList_eq_flatMap]

def exLeaf (t : Nat) : BNode := ⟨false, t, []⟩
def exPh (t : Nat) : BNode := ⟨true, t, []⟩
/-- a placeholder with tag `t` parses to `t` leaves -/
def exParse : BNode → List BNode := fun c => (List.range c.tag).map (fun i => exLeaf (100 + i))
def exTree : BNode := ⟨false, 0, [exPh 2, ⟨false, 1, [exPh 0, exPh 0, exPh 1]⟩, exPh 0]⟩

mutual
def bnodeBeq : BNode → BNode → Bool
  | ⟨r, t, cs⟩, ⟨r', t', cs'⟩ => r == r' && t == t' && bnodeListBeq cs cs'
def bnodeListBeq : List BNode → List BNode → Bool
  | [], [] => true
  | a :: as, b :: bs => bnodeBeq a b && bnodeListBeq as bs
  | _, _ => false
end

/-- non-vacuity: a placeholder at depth 1 spliced to two nodes, two at depth 2 spliced to NOTHING
    (`idx` does not advance), one to one node; the loop and the structural walk agree -/
example :
    bnodeBeq (walkNode exParse exTree)
      ⟨false, 0, [exLeaf 100, exLeaf 101, ⟨false, 1, [exLeaf 100]⟩]⟩ = true ∧
    bnodeListBeq (spliceLoop exParse (walkNode exParse) exTree.children 0)
      [exLeaf 100, exLeaf 101, ⟨false, 1, [exLeaf 100]⟩] = true := by
  decide +kernel

end MdIt.C14
