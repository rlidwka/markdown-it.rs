/-
  C05 at whole-document level, the REMAINING clauses: character boundaries at inline nodes and text
  faithfulness — hence the complete property `RangesOk` of Props/C05Doc.lean — for every document in which
  NO TAB IS SPLIT (`NoSplitTab`: no per-line table of the block pass has a virtual-space entry), in
  particular for every tab-free document.

  Hypotheses: the `i32` size bound of `doc_block_ranges`; the paragraph rule in the block chain (necessary:
  witness in Props/C05Doc.lean); `NoSplitTab cfg src` (NECESSARY for the text clause: crate-confirmed witness
  below, a code span over a split tab — characters that have no bytes in the source cannot be selected by
  any range.  For validity, enclosure and character boundaries it is not necessary: `ranges_ordered_exTab`
  shows the ranges of the witness `exTab` that refuted the unrepaired crate, and Props/C05Tabs.lean proves
  these clauses for all sources); and `AsciiMarkers`: every emphasis-like rule of the inline chain has a single-byte marker other
  than the line feed (`*`, `_`, `~` in the shipped plugins; a limitation of the proof, not known to be
  necessary: with a multi-byte marker the model panics as soon as the rule fires, example below).
  The `Text` inside a code span is included in the text clause: its content is normalised (line feeds become
  spaces, one pair of padding spaces is stripped), its range is the stripped interior, and the clause is
  vacuous when a line break is inside.  `doc_special_markup` is not part of `RangesOk`.

  How it goes (Lemmas/C05Rest*.lean).  `Geo3` = `Geo2` + every line ends in front of a line break.
  `inlSpec3_pfullV`: for a table without virtual-space entry the inline text `get_lines` builds is, line by line, a copy of source bytes at the offsets
  its table names; across a line feed of the inline text the translated range holds a line break.
  `parseInline_fth`: the certificate of the inline parser in inline-text coordinates (`IC.parseInline_ic`),
  lowered through `Ctx`: range ends are translated character boundaries, every `Text` selects its content, an
  `EmphMarker` covers exactly its remaining delimiters, mergeable neighbours are ADJACENT.
  `afterBlocks_postOk`: the join pass merges adjacent texts to the hull, which selects the concatenation;
  texts of different paragraphs of a tight list item are separated by a line break, so the clause is vacuous
  for their hull.
-/
import MdIt.Lemmas.C05RestGeo
import MdIt.Lemmas.C05RestFaith
import MdIt.Lemmas.C05RestInline
import MdIt.Lemmas.C05RestSplice
import MdIt.Lemmas.KernelEval

namespace MdIt.Pipeline
open MdIt.InlineOps (getSourcePosFor Srcmap)
open MdIt.C05R

theorem nodeOk_of_ord_post {src : List Char} {n : Node} (h1 : NodeOrd src n) (h2 : PostOk src n) :
    NodeOk src n := by
  obtain ⟨a, b, hr, hab, hb, ho⟩ := h1
  obtain ⟨a', b', hr', ba, bb, ht, _⟩ := h2
  rw [hr] at hr'
  simp only [Option.some.injEq, Prod.mk.injEq] at hr'
  obtain ⟨rfl, rfl⟩ := hr'
  refine ⟨a, b, hr, hab, hb, ba.onBoundary, bb.onBoundary, ho, ?_⟩
  intro c hk w hw n1 n2
  exact ht c hk w ((cut_iff_lines src a b w).mp hw) ⟨n1, n2⟩


/-- for a placeholder whose table has no virtual-space entry, what the block pass establishes
    (`PFullV`) is what the splice walk needs (`PInlF`) -/
theorem pinlF_of_pfullV {src : List Char} (icfg : Inline.Cfg) (hmk : AsciiMarkers icfg.chain)
    (c : List Char) (m : Srcmap) (a b : Nat) (hab : a ≤ b) (hnv : C05I.NoVirt m)
    (h : Block.PFullV src c m a b) : PInlF icfg src c m a b := by
  obtain ⟨hp, hf, he⟩ := h
  refine ⟨he, ?_⟩
  intro ns hns
  obtain ⟨o1, o2⟩ := pinl_of_pmapF_nv icfg c m hnv a b hab hp ns hns
  refine ⟨o1, o2, ?_⟩
  obtain ⟨_, _, _, _, hok, _, _⟩ := hp
  exact parseInline_fth icfg ⟨hok hnv, hf hnv⟩ hmk hns

/-- **no tab of the document is split**: no per-line table the block pass hands to the inline
    parser has a virtual-space entry (two consecutive entries with the same source offset — what
    `get_lines` makes of a tab that straddles the content column of a container).  Holds for every
    tab-free document (`noSplitTab_of_tabFree`), and for documents whose tabs sit inside lines or
    end exactly at the content column. -/
def NoSplitTab (cfg : DocCfg) (src : List Char) : Prop :=
  ∀ root refs, Block.parseBlocks cfg.blockCfg src = .ok (root, refs) →
    Block.AllInl (fun _ m => C05I.NoVirt m) root

theorem noSplitTab_of_tabFree (cfg : DocCfg) (src : List Char)
    (hsmall : 4 * Lines.byteLen src + 8 < 2147483648) (hpara : cfg.hasPara = true)
    (htab : '\t' ∉ src) : NoSplitTab cfg src := by
  intro root refs hb
  exact (doc_placeholder_tables cfg src hsmall hpara hb).2.imp
    (fun c m ⟨a, b, h⟩ => h.2.2.2.2.2.1 htab)

/-- executable check of `C05I.NoVirt` -/
def noVirtB : List (Nat × Nat) → Bool
  | x :: y :: r => x.2 != y.2 && noVirtB (y :: r)
  | _ => true

theorem noVirtB_sound : ∀ (m : List (Nat × Nat)), noVirtB m = true → C05I.NoVirt m
  | [], _ => by intro i k1 v1 k2 v2 h1; simp at h1
  | [_], _ => by intro i k1 v1 k2 v2 h1 h2; cases i <;> simp at h2
  | x :: y :: r, h => by
    simp only [noVirtB, Bool.and_eq_true, bne_iff_ne, ne_eq] at h
    intro i k1 v1 k2 v2 h1 h2
    cases i with
    | zero =>
      simp only [List.getElem?_cons_zero, Option.some.injEq, Nat.zero_add, List.getElem?_cons_succ] at h1 h2
      subst h1 h2
      exact h.1
    | succ i =>
      simp only [List.getElem?_cons_succ] at h1 h2
      exact noVirtB_sound (y :: r) h.2 i k1 v1 k2 v2 h1 h2

mutual
/-- no placeholder of a block tree has a virtual-space entry in its table -/
def allNoVirtB : Block.BNode → Bool
  | ⟨k, _, cs⟩ => (match k with | .inlineRoot _ m => noVirtB m | _ => true) && allNoVirtBL cs
def allNoVirtBL : List Block.BNode → Bool
  | [] => true
  | c :: r => allNoVirtB c && allNoVirtBL r
end

mutual
theorem allNoVirtB_sound : ∀ (n : Block.BNode), allNoVirtB n = true →
    Block.AllInl (fun _ m => C05I.NoVirt m) n
  | ⟨k, r, cs⟩, h => by
    simp only [allNoVirtB, Bool.and_eq_true] at h
    refine .mk _ ?_ (allNoVirtBL_sound cs h.2)
    intro c m hk _
    simp only at hk
    subst hk
    exact noVirtB_sound m h.1
theorem allNoVirtBL_sound : ∀ (l : List Block.BNode), allNoVirtBL l = true →
    ∀ c ∈ l, Block.AllInl (fun _ m => C05I.NoVirt m) c
  | [], _ => by simp
  | x :: r, h => by
    simp only [allNoVirtBL, Bool.and_eq_true] at h
    intro c hc
    have hx := allNoVirtB_sound x h.1
    have hr := allNoVirtBL_sound r h.2
    rcases List.mem_cons.mp hc with e | hc
    · rw [e]; exact hx
    · exact hr c hc
end

/-- `NoSplitTab` by evaluation of the block pass -/
theorem noSplitTab_of_check (cfg : DocCfg) (src : List Char)
    (h : (match Block.parseBlocks cfg.blockCfg src with
          | .ok (root, _) => allNoVirtB root
          | .error _ => true) = true) : NoSplitTab cfg src := by
  intro root refs hb
  rw [hb] at h
  exact allNoVirtB_sound root h

/-- the common core: order / enclosure (`NodeOrd`) and boundaries / text clauses (`PostOk`) at every
    node of the parsed tree -/
theorem doc_ord_post (cfg : DocCfg) (src : List Char) (t : Node)
    (hsmall : 4 * Lines.byteLen src + 8 < 2147483648) (hpara : cfg.hasPara = true)
    (hmk : AsciiMarkers cfg.inlineChain) (hnv : NoSplitTab cfg src) (h : parseDoc cfg src = .ok t) :
    t.range = some (0, Lines.byteLen src) ∧ Every (fun n => NodeOrd src n ∧ PostOk src n) t :=
  parseDoc_assemble (PI := fun refs => PInlF (cfg.inlineCfg refs) src)
    (fun root refs hb =>
      (Block.parseBlocks_geo3 (cfg := cfg.blockCfg) hpara (Block.inlSpec3_pfullV src) hsmall hb).imp id
        fun hg => hg.imp_with (Q := fun _ m => C05I.NoVirt m)
          (fun c m a b hab hq hp => pinlF_of_pfullV _ hmk c m a b hab hq hp) (hnv root refs hb))
    (fun _ _ hr hg hn h => afterBlocks_postOk hr hg hn h) h

/-- **`doc_ranges_ok`** — C05, complete, for sources without split tab.  The root of the tree `parseDoc`
    returns is `(0, |src|)`, and EVERY node of it (block or inline level, at every depth, behind the
    splice walk, `FragmentsJoin` and `SyntaxPosRule`) carries a range `(a, b)` with `a ≤ b ≤ |src|`,
    both ends on character boundaries of `src`; the ranges of its children lie inside `[a, b]`, in
    source order, each starting at or behind the end of the previous one; and if the node is a
    `Text` whose range holds neither '\n' nor '\r', then `src[a..b]` is exactly its content. -/
theorem doc_ranges_ok (cfg : DocCfg) (src : List Char) (t : Node)
    (hsmall : 4 * Lines.byteLen src + 8 < 2147483648) (hpara : cfg.hasPara = true)
    (hmk : AsciiMarkers cfg.inlineChain) (hnv : NoSplitTab cfg src) (h : parseDoc cfg src = .ok t) :
    RangesOk src t := by
  obtain ⟨h1, h2⟩ := doc_ord_post cfg src t hsmall hpara hmk hnv h
  exact ⟨h1, h2.imp (fun _ hn => nodeOk_of_ord_post hn.1 hn.2)⟩

/-- **`doc_boundaries`**: both ends of the range of every node — inline nodes included —
    are character boundaries of the source. -/
theorem doc_boundaries (cfg : DocCfg) (src : List Char) (t : Node)
    (hsmall : 4 * Lines.byteLen src + 8 < 2147483648) (hpara : cfg.hasPara = true)
    (hmk : AsciiMarkers cfg.inlineChain) (hnv : NoSplitTab cfg src) (h : parseDoc cfg src = .ok t) :
    Every (fun n => ∃ a b, n.range = some (a, b) ∧ Lines.onBoundary src a = true ∧
      Lines.onBoundary src b = true) t :=
  (doc_ord_post cfg src t hsmall hpara hmk hnv h).2.imp (fun _ hn => by
    obtain ⟨a, b, hr, ba, bb, _⟩ := hn.2
    exact ⟨a, b, hr, ba.onBoundary, bb.onBoundary⟩)

/-- **`doc_text_faithful`**: every `Text` node of the finished tree — the one inside a code
    span included — whose range `(a, b)` selects a string without line break has exactly that
    string as its content. -/
theorem doc_text_faithful (cfg : DocCfg) (src : List Char) (t : Node)
    (hsmall : 4 * Lines.byteLen src + 8 < 2147483648) (hpara : cfg.hasPara = true)
    (hmk : AsciiMarkers cfg.inlineChain) (hnv : NoSplitTab cfg src) (h : parseDoc cfg src = .ok t) :
    Every (fun n => ∀ c, n.kind = .inl (.text c) → ∃ a b, n.range = some (a, b) ∧
      ∀ w, Lines.slice src a b = .ok w → '\n' ∉ w → '\r' ∉ w → w = c) t :=
  (doc_ord_post cfg src t hsmall hpara hmk hnv h).2.imp (fun _ hn => by
    obtain ⟨a, b, hr, _, _, ht, _⟩ := hn.2
    intro c hk
    exact ⟨a, b, hr, fun w hw n1 n2 => ht c hk w ((cut_iff_lines src a b w).mp hw) ⟨n1, n2⟩⟩)

/-- **`doc_special_markup`**: every `TextSpecial` node (backslash escape, entity reference) whose
    range selects a string without line break selects exactly its `markup`. -/
theorem doc_special_markup (cfg : DocCfg) (src : List Char) (t : Node)
    (hsmall : 4 * Lines.byteLen src + 8 < 2147483648) (hpara : cfg.hasPara = true)
    (hmk : AsciiMarkers cfg.inlineChain) (hnv : NoSplitTab cfg src) (h : parseDoc cfg src = .ok t) :
    Every (fun n => ∀ ct mu info, n.kind = .inl (.special ct mu info) → ∃ a b, n.range = some (a, b) ∧
      ∀ w, Lines.slice src a b = .ok w → '\n' ∉ w → '\r' ∉ w → w = mu) t :=
  (doc_ord_post cfg src t hsmall hpara hmk hnv h).2.imp (fun _ hn => by
    obtain ⟨a, b, hr, _, _, _, hs⟩ := hn.2
    intro ct mu info hk
    exact ⟨a, b, hr, fun w hw n1 n2 => hs ct mu info hk w ((cut_iff_lines src a b w).mp hw) ⟨n1, n2⟩⟩)

theorem doc_ranges_ok_tabFree (cfg : DocCfg) (src : List Char) (t : Node)
    (hsmall : 4 * Lines.byteLen src + 8 < 2147483648) (hpara : cfg.hasPara = true)
    (hmk : AsciiMarkers cfg.inlineChain) (htab : '\t' ∉ src) (h : parseDoc cfg src = .ok t) :
    RangesOk src t :=
  doc_ranges_ok cfg src t hsmall hpara hmk (noSplitTab_of_tabFree cfg src hsmall hpara htab) h

/-! ## non-vacuity and witnesses -/

/-- the shipped markers are single bytes, none is the line feed -/
theorem exCfg_asciiMarkers (sp : Bool) (mn : Nat) : AsciiMarkers (exCfg sp mn).inlineChain := by
  intro mk csw hmem
  simp only [exCfg, List.mem_cons, List.mem_nil_iff, or_false, reduceCtorEq, false_or,
    Inline.RuleId.emph.injEq] at hmem
  rcases hmem with ⟨rfl, _⟩ | ⟨rfl, _⟩ | ⟨rfl, _⟩ <;> exact ⟨by decide, by decide⟩

mutual
/-- the `Text` / `TextSpecial` nodes of a tree in pre-order: (content or markup, start, end) -/
def textsOf : Node → List (List Char × Nat × Nat)
  | ⟨k, r, _, cs⟩ =>
    (match k with
     | .inl (.text c) => [(c, (r.getD (0, 0)).1, (r.getD (0, 0)).2)]
     | .inl (.special _ mu _) => [(mu, (r.getD (0, 0)).1, (r.getD (0, 0)).2)]
     | _ => []) ++ textsOfL cs
def textsOfL : List Node → List (List Char × Nat × Nat)
  | [] => []
  | c :: r => textsOf c ++ textsOfL r
end

/-- the hypotheses of `doc_ranges_ok` are satisfiable (the document of Props/C05Inline.lean: a
    two-line quoted paragraph with emphasis and a code span) -/
example : ∃ t, parseDoc (exCfg false 100) exDoc6 = .ok t ∧ RangesOk exDoc6 t :=
  ok_and exDoc6_parses fun t ht =>
    doc_ranges_ok_tabFree _ _ t (by decide +kernel) (by decide) (exCfg_asciiMarkers _ _) (by decide) ht

/-- **tabs that are not split are covered**: a tab inside a paragraph line, a continuation line of a
    list item indented by a tab that ends exactly at the item's content column (`-   c`, column 4),
    a tab inside that line: no table has a virtual-space entry, `doc_ranges_ok` applies -/
def exDoc8 : List Char := "a\tb\n\n-   c\n\td\te".toList

example : NoSplitTab (exCfg false 100) exDoc8 := noSplitTab_of_check _ _ (by decide +kernel)

theorem exDoc8_texts : (parseDoc (exCfg false 100) exDoc8).toOption.map textsOf =
    some [("a\tb".toList, 0, 3), ("c".toList, 9, 10), ("d\te".toList, 12, 15)] := by
  unfold exDoc8
  decide_lits

example : ∃ t, parseDoc (exCfg false 100) exDoc8 = .ok t ∧ RangesOk exDoc8 t :=
  ok_and (ok_of_map exDoc8_texts) fun t hp =>
    doc_ranges_ok _ _ t (by decide +kernel) (by decide) (exCfg_asciiMarkers _ _)
      (noSplitTab_of_check _ _ (by decide +kernel)) hp

example : (parseDoc (exCfg false 100) exDoc8).toOption.map textsOf =
    some [("a\tb".toList, 0, 3), ("c".toList, 9, 10), ("d\te".toList, 12, 15)] := exDoc8_texts

/-- … whereas a tab that straddles the content column is split (`"- a\n\tb"`: column 2 inside the
    tab, table `[(0,2),(2,5),(4,5)]`) and the check fails -/
example : (match Block.parseBlocks (exCfg false 100).blockCfg "- a\n\tb".toList with
           | .ok (root, _) => allNoVirtB root
           | .error _ => true) = false := by decide +kernel

/-- what the text clause says on a document with a left-over delimiter (merged into the text by the
    join pass), an escape, an entity, a padded code span and a hard break inside a block quote:
    every listed string is `src[start..end]` -/
def exDoc7 : List Char := "> a*b \\* &amp;\n> `` c ``  \n> d".toList

example : (parseDoc (exCfg false 100) exDoc7).toOption.map textsOf =
    some [("a*b ".toList, 2, 6), ("\\*".toList, 6, 8), (" ".toList, 8, 9), ("&amp;".toList, 9, 14),
      ("c".toList, 20, 21), ("d".toList, 29, 30)] := by
  unfold exDoc7
  decide_lits

/-- **`NoSplitTab` is necessary for the text clause** (the witness of Props/C05Inline.lean; model and crate
    agree): behind a split tab the `Text` inside a code span holds virtual spaces that no source
    range can select — `"- `\n\ta `"` gives `Text "  a"` at `(5, 6)`, and `src[5..6] = "a"`. -/
example : ¬ RangesOk "- `\n\ta `".toList
    (match parseDoc (exCfg false 100) "- `\n\ta `".toList with
     | .ok t => t
     | .error _ => ⟨.blk .root, none, [], []⟩) := by
  intro ⟨_, he⟩
  -- root → list → item → code span → text
  have hd : (parseDoc (exCfg false 100) "- `\n\ta `".toList).toOption.map
      (fun t => t.children.flatMap fun l => l.children.flatMap fun i => i.children.flatMap fun c =>
        c.children.map fun x => (x.kind, x.range)) =
      some [(.inl (.text [' ', ' ', 'a']), some (5, 6))] := by decide +kernel
  obtain ⟨t, ht⟩ := ok_of_map hd
  rw [ht] at he hd
  simp only [Except.toOption, Option.map_some, Option.some.injEq] at hd
  have hm : ((Kind.inl (.text [' ', ' ', 'a']), some (5, 6)) : Kind × Option (Nat × Nat)) ∈
      (t.children.flatMap fun l => l.children.flatMap fun i => i.children.flatMap fun c =>
        c.children.map fun x => (x.kind, x.range)) := by rw [hd]; simp
  simp only [List.mem_flatMap, List.mem_map, Prod.mk.injEq] at hm
  obtain ⟨l, hl, i, hi, c, hc, x, hx, hk, hr⟩ := hm
  obtain ⟨a, b, hr', _, _, _, _, _, htxt⟩ := ((((he.child l hl).child i hi).child c hc).child x hx).here
  rw [hr] at hr'
  simp only [Option.some.injEq, Prod.mk.injEq] at hr'
  obtain ⟨rfl, rfl⟩ := hr'
  exact absurd (htxt _ hk ['a'] (by decide +kernel) (by decide) (by decide)) (by decide)

/-- a multi-byte emphasis marker (excluded by `AsciiMarkers`; outside the configurations the model
    follows the crate for: `Entity.textStop` is the stop set of the SHIPPED markers): when the rule
    fires it advances by the NUMBER of delimiters, the cursor lands inside the character and the
    next slice panics — no tree, so nothing to violate -/
example : (parseDoc { exCfg false 100 with inlineChain := [.emph 'é' true, .text] } "éa".toList).toOption.isNone = true := by
  decide +kernel

/-! ## the split tab inside a padded code span: the defect `fix:` "positions inside the virtual spaces
       of a split tab" repairs -/

/-- **REPAIRED FINDING (model and crate agreed before the fix, and agree after it; probe `md.parse`).**
    `"-    ` a\n\t\t`"` (12 bytes): the item's content column is 5, the continuation line's two
    tabs reach column 8, so `get_lines` replaces the second tab by THREE virtual spaces (content
    `"` a\n   `"`, table `[(0,5),(4,11),(7,11)]`).  The code span is padded (` a…␣`): `code_pair.rs`
    strips one byte at each end (`pos += 1; match_start -= 1`), and `match_start - 1 = 6` lies
    strictly inside the virtual segment `4..7`.  BEFORE the fix `get_source_pos_for` translated
    linearly there (`getSourcePosForRaw … 6 = 11 + 2 = 13`) although the whole segment sits on source
    byte 11: `CodeInline (5,12)` with child `Text "a   "` at `(7,13)`, `13 > 12 = |src|` — beyond the
    source, outside its parent, and with a trailing `é` inside a character.  The repaired function
    clamps to the source offset of the next table entry (`tr 6 = min 13 11 = 11`,
    `C05.translate_le_next`): the `Text` is `(7,11)`, inside its `CodeInline (5,12)`. -/
def exTab : List Char := "-    ` a\n\t\t`".toList

example : InlineOps.getSourcePosForRaw [(0, 5), (4, 11), (7, 11)] 6 = .ok 13 ∧
    InlineOps.getSourcePosFor [(0, 5), (4, 11), (7, 11)] 6 = .ok 11 := by decide +kernel

theorem exTab_flat : (parseDoc (exCfg false 100) exTab).toOption.map (flatN 0) =
    some [(0, 0, 12), (1, 0, 12), (2, 0, 12), (3, 5, 12), (4, 7, 11)] := by
  unfold exTab
  decide_lits

example : (parseDoc (exCfg false 100) exTab).toOption.map (flatN 0) =
    some [(0, 0, 12), (1, 0, 12), (2, 0, 12), (3, 5, 12), (4, 7, 11)] := exTab_flat

example : (parseDoc (exCfg false 100) "-    ` a\n\t\t`é".toList).toOption.map (flatN 0) =
      some [(0, 0, 14), (1, 0, 14), (2, 0, 14), (3, 5, 12), (4, 7, 11), (3, 12, 14)] ∧
    Lines.onBoundary "-    ` a\n\t\t`é".toList 11 = true := by decide_lits

/-- executable check of `OrderedD` -/
def orderedDB : Nat → Nat → List Node → Bool
  | lo, hi, [] => decide (lo ≤ hi)
  | lo, hi, n :: rest =>
    match n.range with
    | some (a, b) => decide (lo ≤ a) && decide (a ≤ b) && orderedDB b hi rest
    | none => false

theorem orderedDB_sound : ∀ (l : List Node) (lo hi : Nat), orderedDB lo hi l = true → OrderedD lo hi l
  | [], lo, hi, h => by simpa [orderedDB, OrderedD] using h
  | n :: rest, lo, hi, h => by
    simp only [orderedDB] at h
    split at h
    · next a b hr =>
      simp only [Bool.and_eq_true, decide_eq_true_eq] at h
      exact ⟨a, b, hr, h.1.1, h.1.2, orderedDB_sound rest b hi h.2⟩
    · cases h

mutual
/-- executable check of `Every (NodeOrd src)` (`len = |src|`) -/
def nodeOrdB (len : Nat) : Node → Bool
  | ⟨_, r, _, cs⟩ =>
    (match r with
     | some (a, b) => decide (a ≤ b) && decide (b ≤ len) && orderedDB a b cs
     | none => false) && nodeOrdBL len cs
def nodeOrdBL (len : Nat) : List Node → Bool
  | [] => true
  | c :: r => nodeOrdB len c && nodeOrdBL len r
end

mutual
theorem nodeOrdB_sound (src : List Char) : ∀ (n : Node), nodeOrdB (Lines.byteLen src) n = true →
    Every (NodeOrd src) n
  | ⟨k, r, at_, cs⟩, h => by
    simp only [nodeOrdB, Bool.and_eq_true] at h
    refine .mk _ ?_ (nodeOrdBL_sound src cs h.2)
    obtain ⟨h1, _⟩ := h
    split at h1
    · next a b =>
      simp only [Bool.and_eq_true, decide_eq_true_eq] at h1
      exact ⟨a, b, rfl, h1.1.1, h1.1.2, orderedDB_sound cs a b h1.2⟩
    · cases h1
theorem nodeOrdBL_sound (src : List Char) : ∀ (l : List Node), nodeOrdBL (Lines.byteLen src) l = true →
    ∀ c ∈ l, Every (NodeOrd src) c
  | [], _ => by simp
  | x :: r, h => by
    simp only [nodeOrdBL, Bool.and_eq_true] at h
    intro c hc
    have hx := nodeOrdB_sound src x h.1
    have hr := nodeOrdBL_sound src r h.2
    rcases List.mem_cons.mp hc with e | hc
    · rw [e]; exact hx
    · exact hr c hc
end

/-- on the split-tab document every node has a valid range inside the source, its children inside it, in
    order — the `Text` `(7,11)` inside its `CodeInline` `(5,12)`, `11 ≤ 12 = |src|` (the unrepaired crate
    refuted this) -/
theorem ranges_ordered_exTab : ∀ t, parseDoc (exCfg false 100) exTab = .ok t →
    t.range = some (0, Lines.byteLen exTab) ∧ Every (NodeOrd exTab) t := by
  intro t ht
  have hd : (parseDoc (exCfg false 100) exTab).toOption.map
      (fun t => (t.range, nodeOrdB (Lines.byteLen exTab) t)) = some (some (0, 12), true) := by
    decide +kernel
  rw [ht] at hd
  simp only [Except.toOption, Option.map_some, Option.some.injEq, Prod.mk.injEq] at hd
  exact ⟨hd.1, nodeOrdB_sound exTab t hd.2⟩

/-- non-vacuity: the document parses -/
example : (parseDoc (exCfg false 100) exTab).toOption.isSome = true := by
  obtain ⟨t, ht⟩ := ok_of_map exTab_flat
  rw [ht]; rfl

/-- the same with the multi-byte character behind the span: no range end inside a character -/
example : (parseDoc (exCfg false 100) "-    ` a\n\t\t`é".toList).toOption.map
      (nodeOrdB (Lines.byteLen "-    ` a\n\t\t`é".toList)) = some true := by decide_lits


end MdIt.Pipeline
