/-
  Composition of the C10 line-ending theorems with the whole-pipeline totality of `Props/MemoSafe.lean`:
  for documents covered by `doc_total_nodouble` the residual hypothesis of the CR LF theorems ("the inline
  pass of the LF document does not panic") is discharged, so that NO hypothesis about panics is left.
-/
import MdIt.Props.DocTotal
import MdIt.Props.MemoSafe

namespace MdIt.Pipeline
open MdIt
open MdIt.Lines (lfToCrlf lfToCr)

theorem no_inline_panic_nodouble (cfg : DocCfg) (src : List Char)
    (hc : Inline.ChainCoherent (cfg.inlineCfg []) = true)
    (hone : cfg.inlineChain.count .link ≤ 1 ∧ cfg.inlineChain.count .image ≤ 1)
    (hsmall : 4 * Lines.byteLen src + 8 < 2147483648) (hpara : cfg.hasPara = true)
    (hnv : NoSplitTab cfg src) (hnd : DocNoDoubleTick cfg src) :
    ∀ e, parseDoc cfg src ≠ .error (.inline e) := by
  intro e h
  obtain ⟨⟨t, ht⟩, _⟩ := doc_total_nodouble cfg src hc hone hsmall hpara hnv hnd
  rw [ht] at h; cases h

/-- **C10, LF ↦ CR LF, without any hypothesis about panics** (sourcepos off): every coherent configuration
    (the stock chain with strikethrough included) with the paragraph rule, every CR-free source without a
    split tab whose paragraph contents have no two adjacent backticks. -/
theorem doc_crlf_invariant_nodouble (x : Bool) (cfg : DocCfg) (src : List Char)
    (hsp : cfg.sourcepos = false) (hcr : '\r' ∉ src)
    (hc : Inline.ChainCoherent (cfg.inlineCfg []) = true)
    (hone : cfg.inlineChain.count .link ≤ 1 ∧ cfg.inlineChain.count .image ≤ 1)
    (hsmall : 4 * Lines.byteLen src + 8 < 2147483648) (hpara : cfg.hasPara = true)
    (hnv : NoSplitTab cfg src) (hnd : DocNoDoubleTick cfg src) :
    renderDoc x cfg (lfToCrlf src) = renderDoc x cfg src :=
  doc_crlf_invariant_full x cfg src hsp hcr (no_inline_panic_nodouble cfg src hc hone hsmall hpara hnv hnd)

end MdIt.Pipeline
