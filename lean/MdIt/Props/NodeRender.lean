/-
  C03 / C19 at tree level: what the `render` methods of the shipped node kinds issue.

  Everything is stated for ALL trees (any shape, any depth, any payload strings, any attribute
  values) and every entity table `lookup`.  Hypotheses talk about the nodes that are actually
  rendered (`visited t`); `visited_subset_nodes` turns them into hypotheses about every node.

  Main theorems
    render_total, render_panic_exact, render_never_unescape_panic      (C01-style totality)
    render_no_raw, html_nodes_are_the_only_raw, raw_iff_html           (C03: `text_raw` only from html kinds)
    render_vocab, render_balanced, render_void_only                    (C03: vocabulary, nesting)
    safe_output, safe_output_lt                                        (C03 at tree level, both modes)
    render_children_in_order (= render_deterministic), render_frame    (C19: faithful order)
    fence_class, image_alt_is_display                                  (payload assembly)
-/
import MdIt.Props.C03
import MdIt.Props.C12
import MdIt.Props.C13
import MdIt.Props.C18
import MdIt.Model.NodeRender
import MdIt.Gen.Unicode
import MdIt.Lemmas.KernelEval

namespace MdIt.NodeRender
open MdIt.Render

/-! ## 0. small facts about the helpers -/

/-- the model's white-space test is the generated `char::is_whitespace` table -/
theorem isWs_table (c : Char) : isWs c = MdIt.Gen.Unicode.whiteSpace.contains c.toNat :=
  MdIt.Refs.isWs_table c.toNat

/-- the language name contains no white space … -/
theorem firstWord_no_ws (s : List Char) : ∀ c ∈ firstWord s, isWs c = false := by
  intro c hc
  have h := List.all_eq_true.mp (List.all_takeWhile (l := s.dropWhile isWs) (p := fun c => !isWs c)) c hc
  simpa using h

/-- … is preceded by white space only and followed by white space or nothing -/
theorem firstWord_spec (s : List Char) :
    ∃ pre post, s = pre ++ firstWord s ++ post ∧ (∀ c ∈ pre, isWs c = true) ∧
      (∀ c, post.head? = some c → isWs c = true) := by
  refine ⟨s.takeWhile isWs, (s.dropWhile isWs).dropWhile (fun c => !isWs c), ?_, ?_, ?_⟩
  · unfold firstWord
    rw [List.append_assoc, List.takeWhile_append_dropWhile, List.takeWhile_append_dropWhile]
  · intro c hc
    exact List.all_eq_true.mp (List.all_takeWhile (l := s) (p := isWs)) c hc
  · intro c hc
    have := List.head?_dropWhile_not (fun c => !isWs c) (s.dropWhile isWs)
    rw [hc] at this
    simpa using this

/-- **`unescape_all` never panics here** (`Props/C12.lean`), so the class attribute is
    `lang_prefix ++ first word of the unescaped info`, present iff that word is non-empty. -/
theorem fence_class (lookup : List Char → Option (List Char))
    (attrs : List (List Char × List Char)) (info langPrefix : List Char) :
    fenceAttrs lookup attrs info langPrefix =
      .ok (if firstWord (MdIt.Entity.unescapeAll lookup info) = [] then attrs
           else attrs ++ [(aClass, langPrefix ++ firstWord (MdIt.Entity.unescapeAll lookup info))]) := by
  unfold fenceAttrs
  rw [MdIt.Entity.unescapeAllE_total]
  cases h : firstWord (MdIt.Entity.unescapeAll lookup info) <;> simp [h]

/-! ## 1. one frame per node: `pre-events ; contents ; post-events` -/

/-- The events a node's own `render` code issues before and after `fmt.contents(&node.children)`
    (`[]` after, for the kinds that do not call it).  It reads the node's OWN kind payload and
    `attrs`; the one exception is `Image`, whose `alt` is assembled from the subtree and is passed
    in as `alt`. -/
def frameOf (lookup : List Char → Option (List Char)) (k : Kind)
    (attrs : List (List Char × List Char)) (alt : List Char) :
    Except Panic (List Event × List Event) :=
  match k with
  | .root => .ok ([], [])
  | .paragraph => .ok ([.cr, .open tP attrs], [.close tP, .cr])
  | .atx level =>
    match tagAt atxTags level with
    | .error e => .error e
    | .ok tag => .ok ([.cr, .open tag attrs], [.close tag, .cr])
  | .setext level =>
    match tagAt setextTags level with
    | .error e => .error e
    | .ok tag => .ok ([.cr, .open tag attrs], [.close tag, .cr])
  | .hr => .ok ([.cr, .selfClose tHr attrs, .cr], [])
  | .codeBlock content =>
    .ok ([.cr, .open tPre [], .open tCode attrs, .text content, .close tCode, .close tPre, .cr], [])
  | .codeFence info content langPrefix =>
    match fenceAttrs lookup attrs info langPrefix with
    | .error e => .error e
    | .ok attrs' =>
      .ok ([.cr, .open tPre [], .open tCode attrs', .text content, .close tCode, .close tPre, .cr], [])
  | .blockquote => .ok ([.cr, .open tBlockquote attrs, .cr], [.cr, .close tBlockquote, .cr])
  | .orderedList start => .ok ([.cr, .open tOl (olAttrs attrs start), .cr], [.cr, .close tOl, .cr])
  | .bulletList => .ok ([.cr, .open tUl attrs, .cr], [.cr, .close tUl, .cr])
  | .listItem => .ok ([.open tLi attrs], [.close tLi, .cr])
  | .text s => .ok ([.text s], [])
  | .special content => .ok ([.text content], [])
  | .softbreak => .ok ([.cr], [])
  | .hardbreak => .ok ([.selfClose tBr [], .cr], [])
  | .codeInline => .ok ([.open tCode attrs], [.close tCode])
  | .em => .ok ([.open tEm attrs], [.close tEm])
  | .strong => .ok ([.open tStrong attrs], [.close tStrong])
  | .strike => .ok ([.open tS attrs], [.close tS])
  | .link url title => .ok ([.open tA (linkAttrs attrs url title)], [.close tA])
  | .image url title => .ok ([.selfClose tImg (imageAttrs attrs url alt title)], [])
  | .autolink url => .ok ([.open tA (attrs ++ [(aHref, url)])], [.close tA])
  | .htmlBlock content => .ok ([.cr, .raw content, .cr], [])
  | .htmlInline content => .ok ([.raw content], [])
  | .placeholder => .error .unimplemented

/-- only `Image` looks below itself -/
theorem frameOf_alt_irrelevant (lookup : List Char → Option (List Char)) (k : Kind)
    (attrs : List (List Char × List Char)) (alt alt' : List Char)
    (hk : ∀ url title, k ≠ .image url title) :
    frameOf lookup k attrs alt = frameOf lookup k attrs alt' := by
  cases k <;> first | rfl | exact absurd rfl (hk _ _)

/-- what `fmt.contents(&node.children)` contributes: the children's events for a kind that calls
    it, nothing for a kind that does not -/
def bodyOf (lookup : List Char → Option (List Char)) (n : Node) : Except Panic (List Event) :=
  if n.kind.isContainer then renderList lookup n.children else .ok []

/-- **C19 (frame).** Every node renders as `pre ++ contents ++ post`; the frame is computed
    before the children are rendered (a panic of the node's own code precedes theirs). -/
theorem render_frame (lookup : List Char → Option (List Char)) (n : Node) :
    render lookup n =
      match frameOf lookup n.kind n.attrs (imageAlt n.children) with
      | .error e => .error e
      | .ok (p, s) =>
        match bodyOf lookup n with
        | .error e => .error e
        | .ok b => .ok (p ++ b ++ s) := by
  obtain ⟨k, a, cs⟩ := n
  cases k <;> simp only [render, frameOf, bodyOf, wrap, Kind.isContainer, if_true]
  all_goals first
    | rfl
    | (cases renderList lookup cs <;> simp; done)
    | (cases tagAt atxTags _ <;> simp <;> cases renderList lookup cs <;> simp; done)
    | (cases tagAt setextTags _ <;> simp <;> cases renderList lookup cs <;> simp; done)
    | (cases fenceAttrs lookup a _ _ <;> simp; done)

theorem render_ok_frame {lookup : List Char → Option (List Char)} {n : Node} {evs : List Event}
    (h : render lookup n = .ok evs) :
    ∃ p s b, frameOf lookup n.kind n.attrs (imageAlt n.children) = .ok (p, s) ∧
      bodyOf lookup n = .ok b ∧ evs = p ++ b ++ s := by
  rw [render_frame] at h
  split at h
  · simp at h
  · rename_i p s hf
    split at h
    · simp at h
    · rename_i b hb
      exact ⟨p, s, b, hf, hb, by simpa using h.symm⟩

/-! ## 2. the induction principle every tree-level statement below goes through -/

section Induction
variable (lookup : List Char → Option (List Char))
variable (Q : Node → Prop) (P : List Node → List Event → Prop)
variable (hnil : P [] [])
variable (happ : ∀ v₁ a v₂ b, P v₁ a → P v₂ b → P (v₁ ++ v₂) (a ++ b))
variable (hframe : ∀ (n : Node) (p s : List Event) (vb : List Node) (b : List Event), Q n →
    frameOf lookup n.kind n.attrs (imageAlt n.children) = .ok (p, s) → P vb b →
    P (n :: vb) (p ++ b ++ s))
include hnil happ hframe

set_option linter.unusedSectionVars false

mutual
theorem render_ind_node (n : Node) (hq : ∀ m ∈ visited n, Q m) (evs : List Event)
    (h : render lookup n = .ok evs) : P (visited n) evs := by
  match n with
  | ⟨k, a, cs⟩ =>
    obtain ⟨p, s, b, hf, hb, rfl⟩ := render_ok_frame h
    have hself : Q ⟨k, a, cs⟩ := hq _ (by simp [visited])
    unfold bodyOf at hb
    unfold visited
    by_cases hc : k.isContainer = true
    · simp only [hc, if_true] at hb ⊢
      have hq' : ∀ m ∈ visitedList cs, Q m := fun m hm => hq m (by simp [visited, hc, hm])
      exact hframe _ p s _ b hself hf (render_ind_list cs hq' b hb)
    · simp only [hc] at hb ⊢
      simp only [Bool.false_eq_true, if_false] at hb ⊢
      cases hb
      exact hframe _ p s [] [] hself hf hnil
theorem render_ind_list (cs : List Node) (hq : ∀ m ∈ visitedList cs, Q m) (evs : List Event)
    (h : renderList lookup cs = .ok evs) : P (visitedList cs) evs := by
  match cs with
  | [] =>
    simp only [renderList] at h
    cases h
    exact hnil
  | n :: r =>
    simp only [renderList] at h
    split at h
    · simp at h
    · rename_i a ha
      split at h
      · simp at h
      · rename_i b hb
        cases h
        unfold visitedList
        exact happ _ _ _ _
          (render_ind_node n (fun m hm => hq m (by simp [visitedList, hm])) a ha)
          (render_ind_list r (fun m hm => hq m (by simp [visitedList, hm])) b hb)
end
end Induction

/-! ## 3. the frame without its partial parts -/

/-- `TAG[level - 1]` as a total function (only used where `tagAt` succeeds) -/
def headingTag (tags : List (List Char)) (level : Nat) : List Char := tags.getD (level - 1) tH1

/-- the attribute list of a fence's `<code>` (`fence_class`) -/
def fenceAttrsT (lookup : List Char → Option (List Char)) (attrs : List (List Char × List Char))
    (info langPrefix : List Char) : List (List Char × List Char) :=
  if firstWord (MdIt.Entity.unescapeAll lookup info) = [] then attrs
  else attrs ++ [(aClass, langPrefix ++ firstWord (MdIt.Entity.unescapeAll lookup info))]

/-- `frameOf` for a node whose own code does not panic -/
def frameT (lookup : List Char → Option (List Char)) (k : Kind)
    (attrs : List (List Char × List Char)) (alt : List Char) : List Event × List Event :=
  match k with
  | .root => ([], [])
  | .paragraph => ([.cr, .open tP attrs], [.close tP, .cr])
  | .atx level =>
    ([.cr, .open (headingTag atxTags level) attrs], [.close (headingTag atxTags level), .cr])
  | .setext level =>
    ([.cr, .open (headingTag setextTags level) attrs], [.close (headingTag setextTags level), .cr])
  | .hr => ([.cr, .selfClose tHr attrs, .cr], [])
  | .codeBlock content =>
    ([.cr, .open tPre [], .open tCode attrs, .text content, .close tCode, .close tPre, .cr], [])
  | .codeFence info content langPrefix =>
    ([.cr, .open tPre [], .open tCode (fenceAttrsT lookup attrs info langPrefix), .text content,
      .close tCode, .close tPre, .cr], [])
  | .blockquote => ([.cr, .open tBlockquote attrs, .cr], [.cr, .close tBlockquote, .cr])
  | .orderedList start => ([.cr, .open tOl (olAttrs attrs start), .cr], [.cr, .close tOl, .cr])
  | .bulletList => ([.cr, .open tUl attrs, .cr], [.cr, .close tUl, .cr])
  | .listItem => ([.open tLi attrs], [.close tLi, .cr])
  | .text s => ([.text s], [])
  | .special content => ([.text content], [])
  | .softbreak => ([.cr], [])
  | .hardbreak => ([.selfClose tBr [], .cr], [])
  | .codeInline => ([.open tCode attrs], [.close tCode])
  | .em => ([.open tEm attrs], [.close tEm])
  | .strong => ([.open tStrong attrs], [.close tStrong])
  | .strike => ([.open tS attrs], [.close tS])
  | .link url title => ([.open tA (linkAttrs attrs url title)], [.close tA])
  | .image url title => ([.selfClose tImg (imageAttrs attrs url alt title)], [])
  | .autolink url => ([.open tA (attrs ++ [(aHref, url)])], [.close tA])
  | .htmlBlock content => ([.cr, .raw content, .cr], [])
  | .htmlInline content => ([.raw content], [])
  | .placeholder => ([], [])

theorem tagAt_eq (tags : List (List Char)) (level : Nat) :
    tagAt tags level =
      if 1 ≤ level ∧ level ≤ tags.length then .ok (headingTag tags level) else .error .index := by
  unfold tagAt headingTag
  by_cases h0 : level = 0
  · simp [h0]
  · by_cases hl : level ≤ tags.length
    · have hlt : level - 1 < tags.length := by omega
      have h1 : 1 ≤ level := by omega
      simp [h0, hl, h1, List.getElem?_eq_getElem hlt, List.getD_eq_getElem?_getD]
    · have hge : tags.length ≤ level - 1 := by omega
      simp [h0, hl, List.getElem?_eq_none hge]

/-- **The node's own code panics exactly when `Kind.panic?` says so, with that panic; otherwise
    its frame is `frameT`.**  (`unescape_all` contributes no panic: `Entity.unescapeAllE_total`.) -/
theorem frameOf_eq (lookup : List Char → Option (List Char)) (k : Kind)
    (attrs : List (List Char × List Char)) (alt : List Char) :
    frameOf lookup k attrs alt =
      match k.panic? with
      | some e => .error e
      | none => .ok (frameT lookup k attrs alt) := by
  cases k with
  | atx level =>
    simp only [frameOf, tagAt_eq, Kind.panic?, frameT]
    have : atxTags.length = 6 := rfl
    rw [this]
    by_cases hl : 1 ≤ level ∧ level ≤ 6 <;> simp [hl]
  | setext level =>
    simp only [frameOf, tagAt_eq, Kind.panic?, frameT]
    have : setextTags.length = 2 := rfl
    rw [this]
    by_cases hl : 1 ≤ level ∧ level ≤ 2 <;> simp [hl]
  | codeFence info content langPrefix =>
    simp only [frameOf, fence_class, Kind.panic?, frameT, fenceAttrsT]
  | _ => rfl

/-- `Except` → the panic, if any -/
def toPanic? {α : Type} : Except Panic α → Option Panic
  | .error e => some e
  | .ok _ => none

/-- the first panic along a list of nodes in invocation order -/
def firstPanic (l : List Node) : Option Panic := l.findSome? (fun m => m.kind.panic?)

mutual
theorem render_toPanic (lookup : List Char → Option (List Char)) (n : Node) :
    toPanic? (render lookup n) = firstPanic (visited n) := by
  match n with
  | ⟨k, a, cs⟩ =>
    rw [render_frame, frameOf_eq]
    unfold visited firstPanic bodyOf
    simp only [List.findSome?_cons]
    cases hp : k.panic? with
    | some e => simp [toPanic?]
    | none =>
      simp only []
      by_cases hc : k.isContainer = true
      · simp only [hc, if_true]
        have ih := renderList_toPanic lookup cs
        unfold firstPanic at ih
        rw [← ih]
        cases renderList lookup cs <;> simp [toPanic?]
      · simp [hc, toPanic?]
theorem renderList_toPanic (lookup : List Char → Option (List Char)) (cs : List Node) :
    toPanic? (renderList lookup cs) = firstPanic (visitedList cs) := by
  match cs with
  | [] => simp [renderList, visitedList, firstPanic, toPanic?]
  | n :: r =>
    have ih1 := render_toPanic lookup n
    have ih2 := renderList_toPanic lookup r
    unfold firstPanic at ih1 ih2 ⊢
    unfold visitedList
    rw [List.findSome?_append, ← ih1, ← ih2]
    simp only [renderList]
    cases render lookup n with
    | error e => simp [toPanic?]
    | ok a => cases renderList lookup r <;> simp [toPanic?]
end

/-! ## 4. `render_total` -/

/-- every node that gets rendered has a heading level its tag table covers and is no placeholder -/
def Renderable (t : Node) : Prop := ∀ m ∈ visited t, m.kind.panic? = none

instance (t : Node) : Decidable (Renderable t) := by unfold Renderable; infer_instance

theorem Kind.panic?_eq_none_iff (k : Kind) :
    k.panic? = none ↔
      (∀ l, k = .atx l → 1 ≤ l ∧ l ≤ 6) ∧ (∀ l, k = .setext l → 1 ≤ l ∧ l ≤ 2) ∧ k ≠ .placeholder := by
  cases k <;> simp [Kind.panic?]

/-- **`render_total`.** Rendering succeeds exactly on `Renderable` trees: every ATX level rendered
    is in `1..6`, every setext level in `1..2`, and no placeholder is rendered — for every tree,
    payload and entity table. -/
theorem render_total (lookup : List Char → Option (List Char)) (t : Node) :
    (∃ evs, render lookup t = .ok evs) ↔ Renderable t := by
  have h := render_toPanic lookup t
  unfold Renderable
  constructor
  · rintro ⟨evs, he⟩
    rw [he] at h
    have h' : firstPanic (visited t) = none := h.symm
    unfold firstPanic at h'
    exact List.findSome?_eq_none_iff.mp h'
  · intro hr
    have h' : firstPanic (visited t) = none := List.findSome?_eq_none_iff.mpr hr
    rw [h'] at h
    cases hr' : render lookup t with
    | ok evs => exact ⟨evs, rfl⟩
    | error e => rw [hr'] at h; simp [toPanic?] at h

/-- **Exact panic.** Rendering panics with `e` iff the FIRST node, in invocation order, whose own
    code panics, panics with `e` (out-of-range heading ↦ `index`, placeholder ↦ `unimplemented`). -/
theorem render_panic_exact (lookup : List Char → Option (List Char)) (t : Node) (e : Panic) :
    render lookup t = .error e ↔ firstPanic (visited t) = some e := by
  rw [← render_toPanic lookup t]
  cases render lookup t <;> simp [toPanic?]

/-- no tree makes `unescape_all` panic -/
theorem render_never_unescape_panic (lookup : List Char → Option (List Char)) (t : Node)
    (e : MdIt.Entity.Panic) : render lookup t ≠ .error (.unescape e) := by
  intro h
  have := (render_panic_exact lookup t _).mp h
  unfold firstPanic at this
  obtain ⟨m, _, hm⟩ := List.exists_of_findSome?_eq_some this
  cases hk : m.kind <;> simp [hk, Kind.panic?] at hm
  all_goals (split at hm <;> simp at hm)

theorem render_ok_frameT {lookup : List Char → Option (List Char)} {n : Node} {evs : List Event}
    (h : render lookup n = .ok evs) :
    ∃ b, bodyOf lookup n = .ok b ∧
      evs = (frameT lookup n.kind n.attrs (imageAlt n.children)).1 ++ b ++
            (frameT lookup n.kind n.attrs (imageAlt n.children)).2 := by
  obtain ⟨p, s, b, hf, hb, rfl⟩ := render_ok_frame h
  rw [frameOf_eq] at hf
  split at hf
  · simp at hf
  · simp only [Except.ok.injEq] at hf
    exact ⟨b, hb, by rw [hf]⟩

/-- the induction principle, with the total frame -/
theorem render_induction (lookup : List Char → Option (List Char))
    (Q : Node → Prop) (P : List Node → List Event → Prop)
    (hnil : P [] [])
    (happ : ∀ v₁ a v₂ b, P v₁ a → P v₂ b → P (v₁ ++ v₂) (a ++ b))
    (hframe : ∀ (n : Node) (vb : List Node) (b : List Event), Q n → n.kind.panic? = none → P vb b →
      P (n :: vb) ((frameT lookup n.kind n.attrs (imageAlt n.children)).1 ++ b ++
                   (frameT lookup n.kind n.attrs (imageAlt n.children)).2))
    (t : Node) (hq : ∀ m ∈ visited t, Q m) (evs : List Event) (h : render lookup t = .ok evs) :
    P (visited t) evs := by
  refine render_ind_node lookup Q P hnil happ ?_ t hq evs h
  intro n p s vb b hqn hf hp
  rw [frameOf_eq] at hf
  split at hf
  · simp at hf
  · rename_i hk
    simp only [Except.ok.injEq] at hf
    have := hframe n vb b hqn hk hp
    rw [hf] at this
    exact this

/-- every trait call of a rendering lies in the frame of a visited node -/
theorem render_origin (lookup : List Char → Option (List Char)) (t : Node) (evs : List Event)
    (h : render lookup t = .ok evs) :
    ∀ e ∈ evs, ∃ m ∈ visited t, e ∈ (frameT lookup m.kind m.attrs (imageAlt m.children)).1 ++
      (frameT lookup m.kind m.attrs (imageAlt m.children)).2 := by
  refine render_induction lookup (fun _ => True)
    (fun vs evs => ∀ e ∈ evs, ∃ m ∈ vs, e ∈ (frameT lookup m.kind m.attrs (imageAlt m.children)).1 ++
      (frameT lookup m.kind m.attrs (imageAlt m.children)).2)
    (by simp) ?_ ?_ t (fun _ _ => trivial) evs h
  · intro _ a _ b h₁ h₂ e he
    rcases List.mem_append.mp he with he | he
    · obtain ⟨m, hm, r⟩ := h₁ e he
      exact ⟨m, List.mem_append_left _ hm, r⟩
    · obtain ⟨m, hm, r⟩ := h₂ e he
      exact ⟨m, List.mem_append_right _ hm, r⟩
  · intro n _ b _ _ hb e he
    rcases List.mem_append.mp he with he | he
    · rcases List.mem_append.mp he with he | he
      · exact ⟨n, List.mem_cons_self, List.mem_append_left _ he⟩
      · obtain ⟨m, hm, r⟩ := hb e he
        exact ⟨m, List.mem_cons_of_mem _ hm, r⟩
    · exact ⟨n, List.mem_cons_self, List.mem_append_right _ he⟩

/-- … so a claim about every single trait call is one about frames -/
theorem render_all {E : Event → Prop} {Q : Node → Prop} (lookup : List Char → Option (List Char))
    (hframe : ∀ n, Q n → ∀ e ∈ (frameT lookup n.kind n.attrs (imageAlt n.children)).1 ++
      (frameT lookup n.kind n.attrs (imageAlt n.children)).2, E e)
    (t : Node) (hq : ∀ m ∈ visited t, Q m) (evs : List Event) (h : render lookup t = .ok evs) :
    ∀ e ∈ evs, E e := fun e he =>
  let ⟨m, hm, hf⟩ := render_origin lookup t evs h e he
  hframe m (hq m hm) e hf

/-! ## 5. `render_no_raw`, `html_nodes_are_the_only_raw` -/

/-- no rendered node comes from the raw-HTML plugin -/
def HtmlFree (t : Node) : Prop := ∀ m ∈ visited t, m.kind.isHtml = false

instance (t : Node) : Decidable (HtmlFree t) := by unfold HtmlFree; infer_instance

/-- the payloads of the `text_raw` calls, in order -/
def rawsOf : List Event → List (List Char)
  | [] => []
  | .raw s :: r => s :: rawsOf r
  | _ :: r => rawsOf r

/-- what an html node hands to `text_raw` -/
def Kind.htmlContent? : Kind → Option (List Char)
  | .htmlBlock c => some c
  | .htmlInline c => some c
  | _ => none

theorem rawsOf_append (a b : List Event) : rawsOf (a ++ b) = rawsOf a ++ rawsOf b := by
  induction a with
  | nil => rfl
  | cons e r ih => cases e <;> simp [rawsOf, ih]

theorem mem_rawsOf (evs : List Event) (s : List Char) : s ∈ rawsOf evs ↔ Event.raw s ∈ evs := by
  induction evs with
  | nil => simp [rawsOf]
  | cons e r ih => cases e <;> simp [rawsOf, ih]

theorem frameT_raws (lookup : List Char → Option (List Char)) (k : Kind)
    (attrs : List (List Char × List Char)) (alt : List Char) :
    rawsOf (frameT lookup k attrs alt).1 = k.htmlContent?.toList ∧
    rawsOf (frameT lookup k attrs alt).2 = [] := by
  cases k <;> simp [frameT, rawsOf, Kind.htmlContent?]

/-- **`html_nodes_are_the_only_raw`.** The `text_raw` calls of a rendering are, in order and with
    their payloads, exactly the contents of the `HtmlBlock` / `HtmlInline` nodes that get rendered
    (an html node under an `Image` is not rendered and contributes nothing; an html node with empty
    content still issues its — empty — call). -/
theorem html_nodes_are_the_only_raw (lookup : List Char → Option (List Char)) (t : Node)
    (evs : List Event) (h : render lookup t = .ok evs) :
    rawsOf evs = (visited t).filterMap (fun m => m.kind.htmlContent?) := by
  refine render_induction lookup (fun _ => True)
    (fun v e => rawsOf e = v.filterMap (fun m => m.kind.htmlContent?)) rfl ?_ ?_ t (fun _ _ => trivial) evs h
  · intro v₁ a v₂ b h₁ h₂
    rw [rawsOf_append, List.filterMap_append, h₁, h₂]
  · intro n vb b _ _ hb
    have := frameT_raws lookup n.kind n.attrs (imageAlt n.children)
    rw [rawsOf_append, rawsOf_append, this.1, this.2, hb, List.filterMap_cons]
    cases n.kind.htmlContent? <;> simp

theorem Kind.isHtml_iff (k : Kind) : k.isHtml = true ↔ ∃ c, k.htmlContent? = some c := by
  cases k <;> simp [Kind.isHtml, Kind.htmlContent?]

theorem raw_iff_html (lookup : List Char → Option (List Char)) (t : Node) (evs : List Event)
    (h : render lookup t = .ok evs) :
    (∃ s, Event.raw s ∈ evs) ↔ ∃ m ∈ visited t, m.kind.isHtml = true := by
  have hr := html_nodes_are_the_only_raw lookup t evs h
  constructor
  · rintro ⟨s, hs⟩
    rw [← mem_rawsOf, hr, List.mem_filterMap] at hs
    obtain ⟨m, hm, hc⟩ := hs
    exact ⟨m, hm, (Kind.isHtml_iff _).mpr ⟨s, hc⟩⟩
  · rintro ⟨m, hm, hk⟩
    obtain ⟨c, hc⟩ := (Kind.isHtml_iff _).mp hk
    refine ⟨c, ?_⟩
    rw [← mem_rawsOf, hr, List.mem_filterMap]
    exact ⟨m, hm, hc⟩

/-- **`render_no_raw`.** Without html nodes no `Event.raw` is issued. -/
theorem render_no_raw (lookup : List Char → Option (List Char)) (t : Node) (hf : HtmlFree t)
    (evs : List Event) (h : render lookup t = .ok evs) : ∀ s, Event.raw s ∉ evs := by
  intro s hs
  obtain ⟨m, hm, hk⟩ := (raw_iff_html lookup t evs h).mp ⟨s, hs⟩
  rw [hf m hm] at hk
  exact absurd hk (by simp)

/-! ## 6. `render_vocab` -/

def shippedTags : List (List Char) :=
  [tP, tBlockquote, tUl, tOl, tLi, tPre, tCode, tH1, tH2, tH3, tH4, tH5, tH6, tHr, tEm, tStrong, tS,
   tA, tImg, tBr]

/-- the attribute names each element may carry: what its `render` pushes, plus `data-sourcepos`
    where the Rust passes `node.attrs` (`pre` and `br` get `&[]`) -/
def attrsFor (t : List Char) : List (List Char) :=
  if t = tOl then [aStart, aSourcepos]
  else if t = tCode then [aClass, aSourcepos]
  else if t = tA then [aHref, aTitle, aSourcepos]
  else if t = tImg then [aSrc, aAlt, aTitle, aSourcepos]
  else if t = tPre ∨ t = tBr then []
  else [aSourcepos]

def allAttrNames : List (List Char) := [aStart, aClass, aHref, aTitle, aSrc, aAlt, aSourcepos]

theorem attrsFor_subset (t n : List Char) (h : n ∈ attrsFor t) : n ∈ allAttrNames := by
  unfold attrsFor at h
  repeat' split at h
  all_goals simp only [List.mem_cons, List.not_mem_nil, or_false] at h
  all_goals first
    | exact absurd h id
    | (rcases h with rfl | rfl | rfl | rfl <;> decide)
    | (rcases h with rfl | rfl | rfl <;> decide)
    | (rcases h with rfl | rfl <;> decide)
    | (rcases h with rfl <;> decide)

/-- the fixed table element ↦ allowed attribute names -/
def shippedVocab : Vocab where
  tag t := t ∈ shippedTags
  attr t n := t ∈ shippedTags ∧ n ∈ attrsFor t
  tag_ok := by
    have : ∀ t ∈ shippedTags, NameOK t := by decide
    exact this
  attr_ok := by
    intro t n h
    have : ∀ n ∈ allAttrNames, NameOK n := by decide
    exact this n (attrsFor_subset t n h.2)

/-- every `node.attrs` entry of a rendered node was pushed by the `sourcepos` plugin (or there is none) -/
def AttrsSourcepos (t : Node) : Prop := ∀ m ∈ visited t, ∀ nv ∈ m.attrs, nv.1 = aSourcepos

instance (t : Node) : Decidable (AttrsSourcepos t) := by unfold AttrsSourcepos; infer_instance

theorem eventOK_open (t : List Char) (a : List (List Char × List Char)) (ht : t ∈ shippedTags)
    (ha : ∀ nv ∈ a, nv.1 ∈ attrsFor t) : EventOK shippedVocab (.open t a) :=
  ⟨ht, fun nv h => ⟨ht, ha nv h⟩⟩

theorem eventOK_selfClose (t : List Char) (a : List (List Char × List Char)) (ht : t ∈ shippedTags)
    (ha : ∀ nv ∈ a, nv.1 ∈ attrsFor t) : EventOK shippedVocab (.selfClose t a) :=
  ⟨ht, fun nv h => ⟨ht, ha nv h⟩⟩

theorem headingTag_mem (tags : List (List Char)) (level : Nat) :
    headingTag tags level ∈ tH1 :: tags := by
  unfold headingTag
  rw [List.getD_eq_getElem?_getD]
  cases h : tags[level - 1]? with
  | none => simp
  | some t => simp [List.mem_of_getElem? h]

/-- a property of `tH1` and of every tag of the table holds of `TAG[level - 1]` -/
theorem headingTag_of_all {P : List Char → Prop} {tags : List (List Char)}
    (h : ∀ t ∈ tH1 :: tags, P t) (level : Nat) : P (headingTag tags level) :=
  h _ (headingTag_mem tags level)

theorem atx_tags_ok : ∀ t ∈ tH1 :: atxTags, t ∈ shippedTags ∧ aSourcepos ∈ attrsFor t := by decide

theorem setext_tags_ok : ∀ t ∈ tH1 :: setextTags, t ∈ shippedTags ∧ aSourcepos ∈ attrsFor t := by
  decide

/-- attribute lists built from `node.attrs` by pushing literal names -/
theorem names_sp {attrs : List (List Char × List Char)} (ha : ∀ nv ∈ attrs, nv.1 = aSourcepos)
    {t : List Char} (ht : aSourcepos ∈ attrsFor t) : ∀ nv ∈ attrs, nv.1 ∈ attrsFor t := by
  intro nv h; rw [ha nv h]; exact ht

theorem names_push {attrs : List (List Char × List Char)} {allowed : List (List Char)}
    (h : ∀ nv ∈ attrs, nv.1 ∈ allowed) (n v : List Char) (hn : n ∈ allowed) :
    ∀ nv ∈ attrs ++ [(n, v)], nv.1 ∈ allowed := by
  intro nv hnv
  rcases List.mem_append.mp hnv with h' | h'
  · exact h nv h'
  · simp only [List.mem_singleton] at h'; subst h'; exact hn

theorem names_pushTitle {attrs : List (List Char × List Char)} {allowed : List (List Char)}
    (h : ∀ nv ∈ attrs, nv.1 ∈ allowed) (title : Option (List Char)) (hn : aTitle ∈ allowed) :
    ∀ nv ∈ pushTitle attrs title, nv.1 ∈ allowed := by
  cases title with
  | none => exact h
  | some t => exact names_push h _ _ hn

theorem all_nil {P : Event → Prop} : ∀ e ∈ ([] : List Event), P e := by simp

theorem all_cons {P : Event → Prop} {e : Event} {l : List Event} (h : P e) (hl : ∀ x ∈ l, P x) :
    ∀ x ∈ e :: l, P x := by
  intro x hx
  rcases List.mem_cons.mp hx with rfl | hx
  · exact h
  · exact hl x hx

theorem fenceAttrsT_names (lookup : List Char → Option (List Char))
    {attrs : List (List Char × List Char)} (ha : ∀ nv ∈ attrs, nv.1 = aSourcepos)
    (info lp : List Char) : ∀ nv ∈ fenceAttrsT lookup attrs info lp, nv.1 ∈ attrsFor tCode := by
  unfold fenceAttrsT
  split
  · exact names_sp ha (by decide)
  · exact names_push (names_sp ha (by decide)) _ _ (by decide)

theorem olAttrs_names {attrs : List (List Char × List Char)} (ha : ∀ nv ∈ attrs, nv.1 = aSourcepos)
    (start : Nat) : ∀ nv ∈ olAttrs attrs start, nv.1 ∈ attrsFor tOl := by
  unfold olAttrs
  split
  · exact names_push (names_sp ha (by decide)) _ _ (by decide)
  · exact names_sp ha (by decide)

theorem linkAttrs_names {attrs : List (List Char × List Char)} (ha : ∀ nv ∈ attrs, nv.1 = aSourcepos)
    (url : List Char) (title : Option (List Char)) :
    ∀ nv ∈ linkAttrs attrs url title, nv.1 ∈ attrsFor tA :=
  names_pushTitle (names_push (names_sp ha (by decide)) _ _ (by decide)) _ (by decide)

theorem autolinkAttrs_names {attrs : List (List Char × List Char)}
    (ha : ∀ nv ∈ attrs, nv.1 = aSourcepos) (url : List Char) :
    ∀ nv ∈ attrs ++ [(aHref, url)], nv.1 ∈ attrsFor tA :=
  names_push (names_sp ha (by decide)) _ _ (by decide)

theorem imageAttrs_names {attrs : List (List Char × List Char)} (ha : ∀ nv ∈ attrs, nv.1 = aSourcepos)
    (url alt : List Char) (title : Option (List Char)) :
    ∀ nv ∈ imageAttrs attrs url alt title, nv.1 ∈ attrsFor tImg :=
  names_pushTitle
    (names_push (names_push (names_sp ha (by decide)) _ _ (by decide)) _ _ (by decide)) _ (by decide)

theorem frameT_vocab (lookup : List Char → Option (List Char)) (k : Kind)
    (attrs : List (List Char × List Char)) (alt : List Char) (hk : k.isHtml = false)
    (ha : ∀ nv ∈ attrs, nv.1 = aSourcepos) :
    ∀ e ∈ (frameT lookup k attrs alt).1 ++ (frameT lookup k attrs alt).2,
      EventOK shippedVocab e := by
  have hcr : EventOK shippedVocab .cr := trivial
  have htx : ∀ s, EventOK shippedVocab (.text s) := fun _ => trivial
  have hcl : ∀ t, t ∈ shippedTags → EventOK shippedVocab (.close t) := fun _ h => h
  have sp : ∀ t, aSourcepos ∈ attrsFor t → ∀ nv ∈ attrs, nv.1 ∈ attrsFor t := fun _ => names_sp ha
  have hno : ∀ t, ∀ nv ∈ ([] : List (List Char × List Char)), nv.1 ∈ attrsFor t := by simp
  cases k
  case htmlBlock c => simp [Kind.isHtml] at hk
  case htmlInline c => simp [Kind.isHtml] at hk
  all_goals simp only [frameT, List.cons_append, List.nil_append, List.append_nil]
  all_goals repeat' (first | exact all_nil | refine all_cons ?_ ?_)
  all_goals first
    | exact hcr
    | exact htx _
    | exact hcl _ (headingTag_of_all atx_tags_ok _).1
    | exact hcl _ (headingTag_of_all setext_tags_ok _).1
    | exact hcl _ (by decide)
    | exact eventOK_open _ _ (headingTag_of_all atx_tags_ok _).1 (sp _ (headingTag_of_all atx_tags_ok _).2)
    | exact eventOK_open _ _ (headingTag_of_all setext_tags_ok _).1
        (sp _ (headingTag_of_all setext_tags_ok _).2)
    | exact eventOK_open _ _ (by decide) (hno _)
    | exact eventOK_selfClose _ _ (by decide) (hno _)
    | exact eventOK_open _ _ (by decide) (sp _ (by decide))
    | exact eventOK_selfClose _ _ (by decide) (sp _ (by decide))
    | exact eventOK_open _ _ (by decide) (fenceAttrsT_names lookup ha _ _)
    | exact eventOK_open _ _ (by decide) (olAttrs_names ha _)
    | exact eventOK_open _ _ (by decide) (linkAttrs_names ha _ _)
    | exact eventOK_open _ _ (by decide) (autolinkAttrs_names ha _)
    | exact eventOK_selfClose _ _ (by decide) (imageAttrs_names ha _ _ _)

/-- **`render_vocab`.** Without html nodes and with `node.attrs` coming from the `sourcepos` plugin
    only, every trait call names an element of the fixed table and carries only that element's
    attribute names — whatever the payload strings and attribute values are. -/
theorem render_vocab (lookup : List Char → Option (List Char)) (t : Node) (hf : HtmlFree t)
    (ha : AttrsSourcepos t) (evs : List Event) (h : render lookup t = .ok evs) :
    ∀ e ∈ evs, EventOK shippedVocab e :=
  render_all lookup (Q := fun m => m.kind.isHtml = false ∧ ∀ nv ∈ m.attrs, nv.1 = aSourcepos)
    (fun n hq => frameT_vocab lookup n.kind n.attrs (imageAlt n.children) hq.1 hq.2) t
    (fun m hm => ⟨hf m hm, ha m hm⟩) evs h

/-! ## 7. `render_balanced` -/

/-- the element names closed by a post-frame -/
def closesOf : List Event → List (List Char)
  | [] => []
  | .close t :: r => t :: closesOf r
  | _ :: r => closesOf r

theorem frameT_stack (lookup : List Char → Option (List Char)) (k : Kind)
    (attrs : List (List Char × List Char)) (alt : List Char) :
    (∀ st, balStack st (frameT lookup k attrs alt).1 =
      some (closesOf (frameT lookup k attrs alt).2 ++ st)) ∧
    (∀ st, balStack (closesOf (frameT lookup k attrs alt).2 ++ st) (frameT lookup k attrs alt).2 =
      some st) := by
  cases k <;> simp [frameT, balStack, closesOf]

theorem balanced_frame (p s b : List Event) (ts : List (List Char))
    (hp : ∀ st, balStack st p = some (ts ++ st)) (hs : ∀ st, balStack (ts ++ st) s = some st)
    (hb : Balanced b) : Balanced (p ++ b ++ s) := by
  unfold Balanced at *
  have hb' := balStack_frame [] [] ts b hb
  simp only [List.nil_append] at hb'
  have hs' := hs []
  simp only [List.append_nil] at hs'
  rw [balStack_append, balStack_append, hp []]
  simp [hb', hs']

/-- **`render_balanced`.** Whatever a tree renders to is properly nested and completely closed
    (no hypothesis on the tree beyond rendering without panic). -/
theorem render_balanced (lookup : List Char → Option (List Char)) (t : Node) (evs : List Event)
    (h : render lookup t = .ok evs) : Balanced evs := by
  refine render_induction lookup (fun _ => True) (fun _ evs => Balanced evs) Balanced.nil ?_ ?_ t
    (fun _ _ => trivial) evs h
  · intro _ a _ b h₁ h₂; exact h₁.append h₂
  · intro n _ b _ _ hb
    have := frameT_stack lookup n.kind n.attrs (imageAlt n.children)
    exact balanced_frame _ _ b _ this.1 this.2 hb

/-- the statement as asked: for `Renderable` trees there IS a rendering and it is balanced -/
theorem render_balanced' (lookup : List Char → Option (List Char)) (t : Node) (hr : Renderable t) :
    ∃ evs, render lookup t = .ok evs ∧ Balanced evs := by
  obtain ⟨evs, h⟩ := (render_total lookup t).mpr hr
  exact ⟨evs, h, render_balanced lookup t evs h⟩

def voidTags : List (List Char) := [tHr, tImg, tBr]

/-- which way an event may use an element name -/
def VoidOK : Event → Prop
  | .open t _ => t ∉ voidTags
  | .close t => t ∉ voidTags
  | .selfClose t _ => t ∈ voidTags
  | _ => True

theorem frameT_void (lookup : List Char → Option (List Char)) (k : Kind)
    (attrs : List (List Char × List Char)) (alt : List Char) :
    ∀ e ∈ (frameT lookup k attrs alt).1 ++ (frameT lookup k attrs alt).2, VoidOK e := by
  have hatx : ∀ t ∈ tH1 :: atxTags, t ∉ voidTags := by decide
  have hset : ∀ t ∈ tH1 :: setextTags, t ∉ voidTags := by decide
  cases k
  all_goals simp only [frameT, List.cons_append, List.nil_append, List.append_nil]
  all_goals repeat' (first | exact all_nil | refine all_cons ?_ ?_)
  all_goals first
    | exact trivial
    | exact headingTag_of_all hatx _
    | exact headingTag_of_all hset _
    | (show _ ∉ voidTags; decide)
    | (show _ ∈ voidTags; decide)

/-- **Self-closing only for `hr` / `img` / `br`**, and those three are never opened or closed. -/
theorem render_void_only (lookup : List Char → Option (List Char)) (t : Node) (evs : List Event)
    (h : render lookup t = .ok evs) : ∀ e ∈ evs, VoidOK e :=
  render_all lookup (Q := fun _ => True)
    (fun n _ => frameT_void lookup n.kind n.attrs (imageAlt n.children)) t (fun _ _ => trivial) evs h

/-! ## 8. `safe_output`: C03 at tree level -/

/-- **`safe_output` (C03 for trees).** A tree that renders without panic, has no html node among
    the rendered ones and whose `attrs` come from the `sourcepos` plugin serialises — in HTML and
    in XHTML mode, for every payload string — to the flattening of a `WellFormed` piece list over
    the fixed vocabulary, one piece per trait call.  Hence, on the returned string: every `<` is the
    first and every `>` the last character of a tag piece of a known element with known attributes,
    every `"` is an attribute-value quote, every `&` starts one of `&amp; &lt; &gt; &quot;`, tag pieces
    are properly nested and closed.  No payload can inject an element, an attribute or a quote. -/
theorem safe_output (lookup : List Char → Option (List Char)) (t : Node) (hr : Renderable t)
    (hf : HtmlFree t) (ha : AttrsSourcepos t) :
    ∃ evs, render lookup t = .ok evs ∧ ∀ x : Bool,
      renderHtml lookup x t = .ok (serialize x evs) ∧
      ∃ ps, serialize x evs = flattenP ps ∧ ps.length = evs.length ∧ WellFormed shippedVocab ps ∧
        ((flattenP ps).length = (rolesP ps).length ∧
          ∀ (i : Nat) (c : Char), (flattenP ps)[i]? = some c →
            ∃ r, (rolesP ps)[i]? = some r ∧ Agree c r) ∧
        (∀ i, (flattenP ps)[i]? = some '<' →
          ∃ pre p post, ps = pre ++ p :: post ∧ p.isTag = true ∧ i = (flattenP pre).length) ∧
        (∀ i, (flattenP ps)[i]? = some '>' →
          ∃ pre p post, ps = pre ++ p :: post ∧ p.isTag = true ∧
            i + 1 = (flattenP pre).length + p.str.length) ∧
        (∀ i, (flattenP ps)[i]? = some '&' → StartsEntity ((flattenP ps).drop i)) := by
  obtain ⟨evs, h⟩ := (render_total lookup t).mpr hr
  refine ⟨evs, h, fun x => ⟨by simp [renderHtml, h], ?_⟩⟩
  have hv := render_vocab lookup t hf ha evs h
  have hb := render_balanced lookup t evs h
  obtain ⟨ps, hser, hlen, hwf⟩ := serialize_wellformed_final shippedVocab x evs hv hb
  exact ⟨ps, hser, hlen, hwf, delims_exact shippedVocab ps hwf.1,
    lt_only_in_tags shippedVocab ps hwf.1, gt_only_in_tags shippedVocab ps hwf.1,
    amp_only_entities shippedVocab ps hwf.1⟩

/-- the headline on the string `Node::render()` / `Node::xrender()` returns -/
theorem safe_output_lt (lookup : List Char → Option (List Char)) (t : Node) (hr : Renderable t)
    (hf : HtmlFree t) (ha : AttrsSourcepos t) (x : Bool) :
    ∃ out ps, renderHtml lookup x t = .ok out ∧ out = flattenP ps ∧ WellFormed shippedVocab ps ∧
      ∀ i, out[i]? = some '<' →
        ∃ pre p post, ps = pre ++ p :: post ∧ p.isTag = true ∧ i = (flattenP pre).length := by
  obtain ⟨evs, _, hx⟩ := safe_output lookup t hr hf ha
  obtain ⟨hh, ps, hser, _, hwf, _, hlt, _, _⟩ := hx x
  exact ⟨_, ps, hh, hser, hwf, fun i hi => hlt i (by rw [← hser]; exact hi)⟩

/-- **C19 at tree level.** `Node::render()` / `Node::xrender()` return exactly the concatenation of
    one piece per trait call the tree issues, in call order (then NUL ↦ U+FFFD) — with or without
    html nodes, for every tree that renders. -/
theorem render_html_events (lookup : List Char → Option (List Char)) (x : Bool) (t : Node)
    (evs : List Event) (h : render lookup t = .ok evs) :
    renderHtml lookup x t = .ok (replaceNul (flatten (pieces x evs))) ∧
    (pieces x evs).length = evs.length := by
  refine ⟨?_, pieces_length x evs⟩
  simp [renderHtml, h, serialize_events]

/-! ## 9. order: `render_children_in_order` / `render_deterministic` -/

/-- the events of a result (`[]` for a panic) -/
def evsOf : Except Panic (List Event) → List Event
  | .ok e => e
  | .error _ => []

/-- `fmt.contents`: every child rendered, in order, nothing in between -/
theorem renderList_ok (lookup : List Char → Option (List Char)) (cs : List Node) (b : List Event)
    (h : renderList lookup cs = .ok b) :
    (∀ c ∈ cs, ∃ e, render lookup c = .ok e) ∧
    b = cs.flatMap (fun c => evsOf (render lookup c)) := by
  induction cs generalizing b with
  | nil => simp only [renderList] at h; cases h; simp
  | cons n r ih =>
    simp only [renderList] at h
    split at h
    · simp at h
    · rename_i a ha
      split at h
      · simp at h
      · rename_i b' hb'
        cases h
        obtain ⟨h1, h2⟩ := ih b' hb'
        refine ⟨?_, ?_⟩
        · intro c hc
          rcases List.mem_cons.mp hc with rfl | hc
          · exact ⟨a, ha⟩
          · exact h1 c hc
        · rw [List.flatMap_cons, ha, ← h2]; rfl

/-- **`render_children_in_order`.** A node that calls `fmt.contents` renders as its own
    pre-events, then the renderings of ALL its children in order, then its own post-events; a node
    that does not, as its own events alone.  The frame `frameT` reads only the node's own payload
    and `attrs` (`frameOf_alt_irrelevant`; `Image` also reads the alt text of its subtree). -/
theorem render_children_in_order (lookup : List Char → Option (List Char)) (n : Node)
    (evs : List Event) (h : render lookup n = .ok evs) :
    (n.kind.isContainer = true →
      (∀ c ∈ n.children, ∃ e, render lookup c = .ok e) ∧
      evs = (frameT lookup n.kind n.attrs (imageAlt n.children)).1 ++
            n.children.flatMap (fun c => evsOf (render lookup c)) ++
            (frameT lookup n.kind n.attrs (imageAlt n.children)).2) ∧
    (n.kind.isContainer = false →
      evs = (frameT lookup n.kind n.attrs (imageAlt n.children)).1 ++
            (frameT lookup n.kind n.attrs (imageAlt n.children)).2) := by
  obtain ⟨b, hb, rfl⟩ := render_ok_frameT h
  unfold bodyOf at hb
  constructor
  · intro hc
    simp only [hc, if_true] at hb
    obtain ⟨h1, h2⟩ := renderList_ok lookup _ b hb
    exact ⟨h1, by rw [← h2]⟩
  · intro hc
    simp only [hc, Bool.false_eq_true, if_false] at hb
    cases hb
    simp

/-- **`render_deterministic`.** The rendering of a node is a function of its kind payload, its
    `attrs`, the renderings of its children — and, for `Image`, the alt text of its subtree;
    nothing else (no position, no sibling, no state) enters. -/
theorem render_deterministic (lookup : List Char → Option (List Char)) (n n' : Node)
    (hk : n.kind = n'.kind) (ha : n.attrs = n'.attrs)
    (halt : imageAlt n.children = imageAlt n'.children)
    (hc : renderList lookup n.children = renderList lookup n'.children) :
    render lookup n = render lookup n' := by
  rw [render_frame, render_frame]
  unfold bodyOf
  rw [hk, ha, halt, hc]

/-! ## 10. the alt text `Image::render` assembles -/

/-- what the closure of `Image::render` appends for one visited node -/
def ownAlt : Kind → List Char
  | .text s => s
  | .special c => c
  | .softbreak => ['\n']
  | .hardbreak => ['\n']
  | _ => []

mutual
/-- the walk, written directly on `Node`: the node's own contribution, then its children in order -/
def altText : Node → List Char
  | ⟨k, _, cs⟩ => ownAlt k ++ altTextList cs
def altTextList : List Node → List Char
  | [] => []
  | n :: r => altText n ++ altTextList r
end

theorem displayNode_leafWith (leaf : MdIt.Alt.Inl) (l : List MdIt.Alt.Inl)
    (hleaf : ∀ k cs, leaf ≠ .wrap k cs) :
    MdIt.Alt.displayNode (leafWith leaf l) = MdIt.Alt.displayNode leaf ++ MdIt.Alt.display l := by
  cases l with
  | nil => simp [leafWith, MdIt.Alt.display]
  | cons a r =>
    cases leaf with
    | wrap k cs => exact absurd rfl (hleaf k cs)
    | _ => simp [leafWith, MdIt.Alt.displayNode, MdIt.Alt.display]

mutual
theorem display_toInl (n : Node) : MdIt.Alt.displayNode (toInl n) = altText n := by
  match n with
  | ⟨k, a, cs⟩ =>
    have ih := display_toInlList cs
    -- the four leaf kinds go through `leafWith`, every other kind is a `wrap` or contributes nothing
    cases k
    all_goals first
      | (rw [toInl, displayNode_leafWith _ _ (by intro _ _ h; cases h), ih]
         simp [altText, ownAlt, MdIt.Alt.displayNode])
      | simp [toInl, altText, ownAlt, MdIt.Alt.displayNode, ih]
theorem display_toInlList (cs : List Node) :
    MdIt.Alt.display (toInlList cs) = altTextList cs := by
  match cs with
  | [] => simp [toInlList, MdIt.Alt.display, altTextList]
  | n :: r =>
    simp [toInlList, MdIt.Alt.display, altTextList, display_toInl n, display_toInlList r]
end

/-- **C18 through the real tree type.** The `alt` attribute is what the description displays:
    all `Text` / `TextSpecial` contents and one `\n` per break of the whole subtree, in document
    order — whatever kinds (nested images, html, placeholders) sit in between. -/
theorem image_alt_is_display (cs : List Node) : imageAlt cs = altTextList cs := by
  unfold imageAlt
  rw [MdIt.Alt.alt_is_display, display_toInlList]

mutual
theorem altText_nodes (n : Node) : altText n = (nodes n).flatMap (fun m => ownAlt m.kind) := by
  match n with
  | ⟨k, a, cs⟩ => simp [altText, nodes, altTextList_nodes cs]
theorem altTextList_nodes (cs : List Node) :
    altTextList cs = (nodesList cs).flatMap (fun m => ownAlt m.kind) := by
  match cs with
  | [] => simp [altTextList, nodesList]
  | n :: r => simp [altTextList, nodesList, altText_nodes n, altTextList_nodes r]
end

/-- literally the Rust: `node.walk` visits every node below the image in pre-order and the closure
    appends `ownAlt` of each -/
theorem image_alt_walk (cs : List Node) :
    imageAlt cs = (nodesList cs).flatMap (fun m => ownAlt m.kind) := by
  rw [image_alt_is_display, altTextList_nodes]

/-! ## 11. hypotheses on every node imply the hypotheses on the rendered ones -/

mutual
theorem visited_subset_nodes (n : Node) : ∀ m ∈ visited n, m ∈ nodes n := by
  match n with
  | ⟨k, a, cs⟩ =>
    intro m hm
    unfold visited at hm
    unfold nodes
    rcases List.mem_cons.mp hm with rfl | hm
    · simp
    · by_cases hc : k.isContainer = true
      · simp only [hc, if_true] at hm
        exact List.mem_cons_of_mem _ (visitedList_subset_nodesList cs m hm)
      · simp [hc] at hm
theorem visitedList_subset_nodesList (cs : List Node) : ∀ m ∈ visitedList cs, m ∈ nodesList cs := by
  match cs with
  | [] => simp [visitedList]
  | n :: r =>
    intro m hm
    unfold visitedList at hm
    unfold nodesList
    rcases List.mem_append.mp hm with hm | hm
    · exact List.mem_append_left _ (visited_subset_nodes n m hm)
    · exact List.mem_append_right _ (visitedList_subset_nodesList r m hm)
end

theorem hyps_of_all_nodes (t : Node)
    (hl : ∀ m ∈ nodes t, (∀ l, m.kind = .atx l → 1 ≤ l ∧ l ≤ 6) ∧
      (∀ l, m.kind = .setext l → 1 ≤ l ∧ l ≤ 2) ∧ m.kind ≠ .placeholder)
    (hh : ∀ m ∈ nodes t, (∀ c, m.kind ≠ .htmlBlock c) ∧ (∀ c, m.kind ≠ .htmlInline c))
    (ha : ∀ m ∈ nodes t, ∀ nv ∈ m.attrs, nv.1 = aSourcepos) :
    Renderable t ∧ HtmlFree t ∧ AttrsSourcepos t := by
  refine ⟨?_, ?_, ?_⟩
  · intro m hm
    exact (Kind.panic?_eq_none_iff _).mpr (hl m (visited_subset_nodes t m hm))
  · intro m hm
    obtain ⟨hb, hi⟩ := hh m (visited_subset_nodes t m hm)
    cases hk : m.kind with
    | htmlBlock c => exact absurd hk (hb c)
    | htmlInline c => exact absurd hk (hi c)
    | _ => rfl
  · intro m hm
    exact ha m (visited_subset_nodes t m hm)

/-! ## 12. non-vacuity: every kind once, hostile payloads; and why the hypotheses are needed -/

deriving instance DecidableEq for Except

/-- a one-row entity table: `&quot;` -/
def lkDemo : List Char → Option (List Char) :=
  MdIt.Entity.lookupIn [([38, 113, 117, 111, 116, 59], [34])]

def tx (s : String) : Node := ⟨.text s.toList, [], []⟩

/-- Every shipped kind once (the same tree the `noderender` stream builds as `every_kind()`):
    `"><script>` in a heading, NUL in text, quotes in url / title / alt / info, an escape and a
    character reference in the fence info behind a no-break space, an html node UNDER an image
    (never rendered), a `data-sourcepos` attribute. -/
def docAll : Node :=
  ⟨.root, [], [
    ⟨.atx 1, [(aSourcepos, "1:1-1:3".toList)], [tx "\"><script>"]⟩,
    ⟨.setext 2, [], [tx "a\x00b"]⟩,
    ⟨.paragraph, [], [
      ⟨.em, [], [tx "e"]⟩, ⟨.strong, [], [tx "s"]⟩, ⟨.strike, [], [tx "d"]⟩,
      ⟨.special "<".toList, [], []⟩, ⟨.softbreak, [], []⟩, ⟨.hardbreak, [], []⟩,
      ⟨.codeInline, [], [tx "<c>"]⟩,
      ⟨.link "/u\"x".toList (some "t\"<".toList), [], [tx "l"]⟩,
      ⟨.image "/i".toList (some "\" onerror=\"x".toList), [],
        [tx "a\"", ⟨.em, [], [tx "<b>"]⟩, ⟨.hardbreak, [], []⟩, ⟨.htmlInline "<i>".toList, [], []⟩]⟩,
      ⟨.autolink "http://x/?a&b".toList, [], [tx "http://x/?a&b"]⟩]⟩,
    ⟨.hr, [], []⟩,
    ⟨.codeBlock "<pre>\n".toList, [], []⟩,
    ⟨.codeFence " r&quot;\\\"s　t".toList "x\n".toList "language-".toList, [], []⟩,
    ⟨.blockquote, [], [
      ⟨.orderedList 7, [], [⟨.listItem, [], [tx "i"]⟩]⟩,
      ⟨.bulletList, [], [⟨.listItem, [], []⟩]⟩]⟩]⟩

-- the hypotheses of `safe_output` hold for it …
example : Renderable docAll ∧ HtmlFree docAll ∧ AttrsSourcepos docAll := by decide +kernel
-- … so `safe_output` applies to it, hostile payloads and all
example := safe_output lkDemo docAll (by decide) (by decide) (by decide)
-- … although an html node occurs in the tree (below the image): `HtmlFree` is about rendered nodes
example : ∃ m ∈ nodes docAll, m.kind.isHtml = true := by decide

-- and this is what it renders to (byte-identical to the Rust `xrender()` / `render()` of that tree;
-- the expected string is cut into short literals because `String.toList` of a literal costs the
-- kernel time that grows faster than its length)
def docAllXhtml : List Char :=
  "<h1 data-sourcepos=\"".toList ++ "1:1-1:3\">&quot;&gt;&".toList ++ "lt;script&gt;</h1>\n<".toList ++
  "h2>a�b</h2>\n<p><em>e".toList ++ "</em><strong>s</stro".toList ++ "ng><s>d</s>&lt;\n<br ".toList ++
  "/>\n<code>&lt;c&gt;</".toList ++ "code><a href=\"/u&quo".toList ++ "t;x\" title=\"t&quot;&".toList ++
  "lt;\">l</a><img src=\"".toList ++ "/i\" alt=\"a&quot;&lt;".toList ++ "b&gt;\n\" title=\"&quot".toList ++
  "; onerror=&quot;x\" /".toList ++ "><a href=\"http://x/?".toList ++ "a&amp;b\">http://x/?a".toList ++
  "&amp;b</a></p>\n<hr /".toList ++ ">\n<pre><code>&lt;pre".toList ++ "&gt;\n</code></pre>\n<".toList ++
  "pre><code class=\"lan".toList ++ "guage-r&quot;&quot;s".toList ++ "\">x\n</code></pre>\n<b".toList ++
  "lockquote>\n<ol start".toList ++ "=\"7\">\n<li>i</li>\n</o".toList ++ "l>\n<ul>\n<li></li>\n</".toList ++
  "ul>\n</blockquote>\n".toList

example : renderHtml lkDemo true docAll = .ok docAllXhtml := by
  -- evaluated through the per-event pieces (`serialize_events`): linear, unlike the buffer fold
  have h : (render lkDemo docAll).map (fun evs => replaceNul (flatten (pieces true evs))) =
      .ok docAllXhtml := by
    unfold docAllXhtml
    decide_lits
  unfold renderHtml
  cases hr : render lkDemo docAll with
  | error e => rw [hr] at h; simp [Except.map] at h
  | ok evs =>
    rw [hr] at h
    simp only [Except.map, Except.ok.injEq] at h
    simp only [serialize_events, h]

example : (render lkDemo docAll).toOption.map List.length = some 79 := by decide +kernel

/-- html nodes that ARE rendered -/
def docHtml : Node :=
  ⟨.root, [], [⟨.htmlBlock "<div onclick=x>\n".toList, [], []⟩,
    ⟨.paragraph, [], [tx "a", ⟨.htmlInline "<script>".toList, [], []⟩, ⟨.htmlInline [], [], []⟩]⟩]⟩

example : ¬ HtmlFree docHtml := by decide
example : render lkDemo docHtml = .ok
    [.cr, .raw "<div onclick=x>\n".toList, .cr, .cr, .open tP [], .text ['a'],
     .raw "<script>".toList, .raw [], .close tP, .cr] := by decide +kernel
example : (render lkDemo docHtml).toOption.map rawsOf =
    some ["<div onclick=x>\n".toList, "<script>".toList, []] := by decide +kernel
example : renderHtml lkDemo false docHtml =
    .ok "<div onclick=x>\n<p>a<script></p>\n".toList := by decide_lits

-- panics: exact kind, first one in invocation order wins, unrendered subtrees do not matter
example : render lkDemo ⟨.root, [], [⟨.atx 7, [], []⟩]⟩ = .error .index := by decide
example : render lkDemo ⟨.root, [], [⟨.atx 0, [], [⟨.placeholder, [], []⟩]⟩]⟩ = .error .index := by
  decide
example : render lkDemo ⟨.root, [], [⟨.setext 3, [], []⟩]⟩ = .error .index := by decide
example : render lkDemo ⟨.root, [], [tx "a", ⟨.placeholder, [], []⟩, ⟨.atx 9, [], []⟩]⟩ =
    .error .unimplemented := by decide
example : ¬ Renderable ⟨.root, [], [⟨.paragraph, [], [⟨.placeholder, [], []⟩]⟩]⟩ := by decide
-- a placeholder under an image or under a text node is never rendered
example : render lkDemo ⟨.image [] none, [], [⟨.placeholder, [], [tx "x"]⟩]⟩ =
    .ok [.selfClose tImg [(aSrc, []), (aAlt, ['x'])]] := by decide
example : Renderable ⟨.text ['a'], [], [⟨.placeholder, [], []⟩]⟩ := by decide

-- fence language: Unicode white space delimits, escapes and references are decoded first
example : fenceAttrsT lkDemo [] "   a&quot;b\\*\tc".toList ['l', '-'] =
    [(aClass, "l-a\"b*".toList)] := by decide_lits
example : fenceAttrsT lkDemo [] " 　".toList ['l', '-'] = [] := by decide +kernel
-- ordered list: `start` only when it is not 1
example : olAttrs [] 1 = [] ∧ olAttrs [] 0 = [(aStart, ['0'])] ∧
    olAttrs [] 4294967295 = [(aStart, "4294967295".toList)] := by decide_lits

/-- `AttrsSourcepos` is needed: `node.attrs` names are written after `escape_html` only, which does
    not stop blanks or `=`.  (They are `&'static str`s chosen by plugins, never input.) -/
example : renderHtml lkDemo false ⟨.paragraph, [("x onclick=alert(1) y".toList, [])], []⟩ =
    .ok "<p x onclick=alert(1) y=\"\"></p>\n".toList := by decide_lits

end MdIt.NodeRender
