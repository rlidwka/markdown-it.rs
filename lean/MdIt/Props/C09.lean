/-
  C09 — Rule ordering honours every constraint, is canonical, rejects cycles loudly.

  All theorems are about `compile false` (the repaired lookup: `idhash.get(v)` in the `Before`/`After`
  arms) and quantify over ALL rule lists: no bound on the number of rules, marks, aliases or
  constraints.  `compile true` (pinned tree, phantom `idhash` entries) is only used for the negation
  witness `phantom_require_accepted`.
-/
import MdIt.Lemmas.Ruler

namespace MdIt.Ruler
open Relation (TransGen)

/-! ## Specification (read off the items only — no mutable graph, no `idhash`) -/

/-- `edge rs i j`: item `i` must run before item `j` — item `i` says `before m` for a mark (or alias)
    `m` of item `j`, or item `j` says `after m` for a mark (or alias) `m` of item `i`. -/
def edge (rs : List RuleItem) (i j : Nat) : Prop :=
  ∃ a b, rs[i]? = some a ∧ rs[j]? = some b ∧
    ((∃ m, Cons.before m ∈ a.cons ∧ m ∈ b.marks) ∨ (∃ m, Cons.after m ∈ b.cons ∧ m ∈ a.marks))

/-- executable `edge` -/
def edgeB (rs : List RuleItem) (i j : Nat) : Bool :=
  match rs[i]?, rs[j]? with
  | some a, some b =>
    a.cons.any (fun c => match c with | .before m => b.marks.contains m | _ => false) ||
    b.cons.any (fun c => match c with | .after m => a.marks.contains m | _ => false)
  | _, _ => false

theorem edgeB_iff (rs : List RuleItem) (i j : Nat) : edgeB rs i j = true ↔ edge rs i j := by
  fun_cases edgeB rs i j
  case case1 a b hj hi =>
    rw [Bool.or_eq_true, List.any_eq_true, List.any_eq_true]
    constructor
    · rintro (⟨c, hc, h⟩ | ⟨c, hc, h⟩) <;> cases c <;> first | cases h | skip
      · exact ⟨a, b, hi, hj, Or.inl ⟨_, hc, List.contains_iff_mem.1 h⟩⟩
      · exact ⟨a, b, hi, hj, Or.inr ⟨_, hc, List.contains_iff_mem.1 h⟩⟩
    · rintro ⟨a', b', ha, hb, h⟩
      cases hi.symm.trans ha
      cases hj.symm.trans hb
      rcases h with ⟨m, hc, h⟩ | ⟨m, hc, h⟩
      · exact Or.inl ⟨.before m, hc, List.contains_iff_mem.2 h⟩
      · exact Or.inr ⟨.after m, hc, List.contains_iff_mem.2 h⟩
  case case2 hno =>
    exact ⟨nofun, fun ⟨a, b, ha, hb, _⟩ => (hno a b ha hb).elim⟩

instance (rs : List RuleItem) (i j : Nat) : Decidable (edge rs i j) :=
  decidable_of_iff _ (edgeB_iff rs i j)

theorem edge_lt {rs : List RuleItem} {i j : Nat} (h : edge rs i j) : i < rs.length ∧ j < rs.length := by
  obtain ⟨a, b, hi, hj, _⟩ := h
  exact ⟨(List.getElem?_eq_some_iff.1 hi).1, (List.getElem?_eq_some_iff.1 hj).1⟩

def prioAt (rs : List RuleItem) (i : Nat) : Option Prio := (rs[i]?).map (·.prio)

/-- indices `< k` of priority class `p`, in insertion order -/
def classIdx (rs : List RuleItem) (p : Prio) (k : Nat) : List Nat :=
  (List.range k).filter (fun i => prioAt rs i == some p)

/-- the ranking: all `before_all` items, then the normal ones, then the `after_all` ones,
    each class in insertion order -/
def rankOrder (rs : List RuleItem) : List Nat :=
  classIdx rs .beforeAll rs.length ++ classIdx rs .normal rs.length ++ classIdx rs .afterAll rs.length

/-- `j` is unplaced and every `edge`-predecessor of `j` is placed -/
def ready (rs : List RuleItem) (placed : List Nat) (j : Nat) : Bool :=
  !placed.contains j && (List.range rs.length).all (fun i => !edgeB rs i j || placed.contains i)

/-- `k` more rounds of "append the rank-least ready item"; `none` when no item is ready -/
def greedyLoop (rs : List RuleItem) : Nat → List Nat → Option (List Nat)
  | 0, placed => some placed
  | k + 1, placed =>
    match (rankOrder rs).find? (ready rs placed) with
    | none => none
    | some j => greedyLoop rs k (placed ++ [j])

/-- the canonical order: repeatedly take the highest-ranked unplaced item whose predecessors are all placed -/
def greedy (rs : List RuleItem) : Option (List Nat) := greedyLoop rs rs.length []

/-- every `require m` names a mark (or alias) held by some item -/
def RequiresPresent (rs : List RuleItem) : Prop :=
  ∀ it ∈ rs, ∀ m, Cons.require m ∈ it.cons → ∃ jt ∈ rs, m ∈ jt.marks

/-- no non-empty `edge`-path from an item to itself -/
def Acyclic (rs : List RuleItem) : Prop := ∀ i, ¬ TransGen (edge rs) i i

/-- `result_idx` honours every constraint -/
def Respects (rs : List RuleItem) (r : List Nat) : Prop :=
  ∀ i j, edge rs i j → j ∈ r → i ∈ r ∧ r.idxOf i < r.idxOf j

theorem ready_iff (rs : List RuleItem) (placed : List Nat) (j : Nat) :
    ready rs placed j = true ↔ j ∉ placed ∧ ∀ i, edge rs i j → i ∈ placed := by
  unfold ready
  simp only [Bool.and_eq_true, Bool.not_eq_true', List.all_eq_true, List.mem_range, Bool.or_eq_true,
    List.contains_eq_mem, decide_eq_false_iff_not, decide_eq_true_eq]
  constructor
  · rintro ⟨h1, h2⟩
    refine ⟨h1, fun i he => ?_⟩
    rcases h2 i (edge_lt he).1 with h | h
    · have := (edgeB_iff rs i j).2 he; simp [this] at h
    · exact h
  · rintro ⟨h1, h2⟩
    refine ⟨h1, fun i _ => ?_⟩
    by_cases he : edgeB rs i j = true
    · exact Or.inr (h2 i ((edgeB_iff rs i j).1 he))
    · exact Or.inl (by simpa using he)

/-! ## First loop: `deps_order` and `idhash` -/

theorem classIdx_succ (rs : List RuleItem) (p : Prio) (k : Nat) :
    classIdx rs p (k + 1) = classIdx rs p k ++ (if prioAt rs k = some p then [k] else []) := by
  unfold classIdx
  rw [List.range_succ, List.filter_append]
  by_cases h : prioAt rs k = some p <;> simp [h]

theorem mem_classIdx (rs : List RuleItem) (p : Prio) (k i : Nat) :
    i ∈ classIdx rs p k ↔ i < k ∧ prioAt rs i = some p := by
  simp [classIdx]

/-- `idhash` after the first `k` items: holders of `m` are exactly the items `< k` with `m` among
    their marks, and there is no empty entry -/
def IdOK (rs : List RuleItem) (k : Nat) (h : IdHash) : Prop :=
  ∀ m, (∀ x, x ∈ Hd h m ↔ x < k ∧ ∃ d, rs[x]? = some d ∧ m ∈ d.marks) ∧ idGet h m ≠ some []

structure PrepInv (rs : List RuleItem) (k : Nat) (st : Prep) : Prop where
  order : st.order = classIdx rs .beforeAll k ++ classIdx rs .normal k ++ classIdx rs .afterAll k
  bLen : st.bLen = (classIdx rs .beforeAll k).length
  aLen : st.aLen = (classIdx rs .afterAll k).length
  idok : IdOK rs k st.idhash

theorem IdOK_step (rs : List RuleItem) (k : Nat) (h : IdHash) (dep : RuleItem)
    (hk : rs[k]? = some dep) (hok : IdOK rs k h) :
    IdOK rs (k + 1) (dep.marks.foldl (fun h m => idPush h m k) h) := by
  intro m
  obtain ⟨h1, h2⟩ := idPush_foldl dep.marks k h m
  obtain ⟨o1, o2⟩ := hok m
  refine ⟨fun x => ?_, h2 o2⟩
  rw [h1, o1]
  constructor
  · rintro (⟨hx, d, hd, hm⟩ | ⟨rfl, hm⟩)
    · exact ⟨by omega, d, hd, hm⟩
    · exact ⟨by omega, dep, hk, hm⟩
  · rintro ⟨hx, d, hd, hm⟩
    by_cases hxk : x = k
    · subst hxk; rw [hk] at hd; cases hd; exact Or.inr ⟨rfl, hm⟩
    · exact Or.inl ⟨by omega, d, hd, hm⟩

theorem prepStep_spec (rs : List RuleItem) (k : Nat) (st : Prep) (dep : RuleItem)
    (hk : rs[k]? = some dep) (inv : PrepInv rs k st) :
    ∃ st', prepStep st k dep = .ok st' ∧ PrepInv rs (k + 1) st' := by
  obtain ⟨order, bLen, aLen, idhash⟩ := st
  obtain ⟨ho, hb, ha, hid⟩ := inv
  dsimp only at ho hb ha hid
  subst ho hb ha
  have hidok := IdOK_step rs k idhash dep hk hid
  -- item `k` joins its own class, the other two classes are unchanged
  have hcls : ∀ p, classIdx rs p (k + 1) = classIdx rs p k ++ (if dep.prio = p then [k] else []) := by
    intro p
    rw [classIdx_succ, prioAt, hk]
    simp
  unfold prepStep
  cases hprio : dep.prio with
  | normal =>
    rw [hprio] at hcls
    dsimp only
    rw [if_pos (by rw [List.length_append]; exact Nat.le_add_left ..), insertAt?_sub]
    exact ⟨_, rfl, by simp [hcls], by simp [hcls], by simp [hcls], hidok⟩
  | beforeAll =>
    rw [hprio] at hcls
    dsimp only
    rw [List.append_assoc, insertAt?_append]
    exact ⟨_, rfl, by simp [hcls], by simp [hcls], by simp [hcls], hidok⟩
  | afterAll =>
    rw [hprio] at hcls
    have h3 := insertAt?_append (classIdx rs .beforeAll k ++ classIdx rs .normal k ++
      classIdx rs .afterAll k) [] k
    rw [List.append_nil] at h3
    dsimp only
    rw [h3]
    exact ⟨_, rfl, by simp [hcls], by simp [hcls], by simp [hcls], hidok⟩

theorem prepGo_spec (rs : List RuleItem) :
    ∀ (rest pre : List RuleItem) (st : Prep), rs = pre ++ rest → PrepInv rs pre.length st →
      ∃ st', prepGo pre.length rest st = .ok st' ∧ PrepInv rs rs.length st' := by
  intro rest
  induction rest with
  | nil =>
    intro pre st hrs inv
    refine ⟨st, by simp [prepGo], ?_⟩
    simpa [hrs] using inv
  | cons dep rest ih =>
    intro pre st hrs inv
    have hk : rs[pre.length]? = some dep := by simp [hrs]
    obtain ⟨st1, h1, inv1⟩ := prepStep_spec rs pre.length st dep hk inv
    obtain ⟨st2, h2, inv2⟩ := ih (pre ++ [dep]) st1 (by simp [hrs]) (by simpa using inv1)
    refine ⟨st2, ?_, inv2⟩
    simp only [prepGo, h1]
    simpa using h2

theorem prepare_spec (rs : List RuleItem) :
    ∃ p, prepare rs = .ok p ∧ p.order = rankOrder rs ∧ IdOK rs rs.length p.idhash := by
  obtain ⟨p, h1, inv⟩ := prepGo_spec rs rs [] ⟨[], 0, 0, []⟩ (by simp)
    ⟨by simp [classIdx], by simp [classIdx], by simp [classIdx], by intro m; simp [Hd, idGet]⟩
  exact ⟨p, h1, inv.order, inv.idok⟩

/-- **C09 (`deps_order_spec`).** The three `insert` formulas (`len - afterall_len`, `beforeall_len`,
    `len`) never panic and produce exactly: all `before_all` items, then the normal ones, then the
    `after_all` ones, each class in insertion order. -/
theorem deps_order_spec (rs : List RuleItem) : depsOrder rs = .ok (rankOrder rs) := by
  obtain ⟨p, h1, h2, _⟩ := prepare_spec rs
  simp [depsOrder, h1, h2]

theorem mem_rankOrder (rs : List RuleItem) (i : Nat) : i ∈ rankOrder rs ↔ i < rs.length := by
  simp only [rankOrder, List.mem_append, mem_classIdx]
  constructor
  · rintro ((h | h) | h) <;> exact h.1
  · intro h
    have : prioAt rs i = some (rs[i]).prio := by simp [prioAt, h]
    cases hp : (rs[i]).prio <;> simp [this, hp, h]

/-! ## Second loop: the dependency graph and the `Require` checks (repaired lookup) -/

/-- the second loop's work list: `(idx, deps[idx], constraint)` in evaluation order -/
def work (rs : List RuleItem) (order : List Nat) : List (Nat × RuleItem × Cons) :=
  order.flatMap (fun idx =>
    match rs[idx]? with
    | some dep => dep.cons.map (fun c => (idx, dep, c))
    | none => [])

def consStep (ph : Bool) (st : IdHash × Graph) (p : Nat × RuleItem × Cons) :
    Except CompileErr (IdHash × Graph) :=
  applyCons ph p.2.1 p.1 st p.2.2

theorem buildGraph_eq_work (ph : Bool) (rs : List RuleItem) (order : List Nat)
    (hlt : ∀ i ∈ order, i < rs.length) (st : IdHash × Graph) :
    buildGraph ph rs order st = foldE (consStep ph) st (work rs order) := by
  induction order generalizing st with
  | nil => simp [buildGraph, work, foldE]
  | cons idx order ih =>
    obtain ⟨dep, hidx⟩ : ∃ dep, rs[idx]? = some dep :=
      ⟨rs[idx]'(hlt idx (by simp)), List.getElem?_eq_getElem _⟩
    have hw : work rs (idx :: order) =
        dep.cons.map (fun c => (idx, dep, c)) ++ work rs order := by
      simp [work, hidx]
    rw [hw, foldE_append, foldE_map]
    simp only [buildGraph, foldE, itemStep, hidx]
    have hf : (fun s a => consStep ph s (idx, dep, a)) = applyCons ph dep idx := rfl
    rw [hf]
    cases foldE (applyCons ph dep idx) st dep.cons with
    | error e => rfl
    | ok t => exact ih (fun i hi => hlt i (by simp [hi])) t

theorem mem_work (rs : List RuleItem) (order : List Nat) (i : Nat) (dep : RuleItem) (c : Cons) :
    (i, dep, c) ∈ work rs order ↔ i ∈ order ∧ rs[i]? = some dep ∧ c ∈ dep.cons := by
  simp only [work, List.mem_flatMap]
  constructor
  · rintro ⟨idx, hidx, hm⟩
    cases h : rs[idx]? with
    | none => rw [h] at hm; cases hm
    | some d =>
      rw [h] at hm
      obtain ⟨c', hc', heq⟩ := List.mem_map.1 hm
      cases heq
      exact ⟨hidx, h, hc'⟩
  · rintro ⟨hi, hd, hc⟩
    exact ⟨i, hi, by rw [hd]; exact List.mem_map.2 ⟨c, hc, rfl⟩⟩

/-- the graph insertions `(pos, x)`, i.e. `deps_graph[pos].insert(x)`, that a work item performs -/
def inserts (h : IdHash) (p : Nat × RuleItem × Cons) : List (Nat × Nat) :=
  match p.2.2 with
  | .before v => (Hd h v).map (fun d => (d, p.1))
  | .after v => (Hd h v).map (fun d => (p.1, d))
  | .require _ => []

/-- the `assert!(idhash.contains_key(v))` of a work item (if it has one) holds -/
def Present (h : IdHash) (p : Nat × RuleItem × Cons) : Prop :=
  ∀ v, p.2.2 = .require v → (idGet h v).isSome = true

theorem mem_inserts (h : IdHash) (i : Nat) (dep : RuleItem) (c : Cons) (j x : Nat) :
    (j, x) ∈ inserts h (i, dep, c) ↔
      (∃ v, c = .before v ∧ x = i ∧ j ∈ Hd h v) ∨ (∃ v, c = .after v ∧ j = i ∧ x ∈ Hd h v) := by
  cases c with
  | before v =>
    simp only [inserts, List.mem_map, Prod.mk.injEq]
    constructor
    · rintro ⟨d, hd, rfl, rfl⟩; exact Or.inl ⟨v, rfl, rfl, hd⟩
    · rintro (⟨_, hv, rfl, hj⟩ | ⟨_, hv, _⟩) <;> cases hv
      exact ⟨j, hj, rfl, rfl⟩
  | after v =>
    simp only [inserts, List.mem_map, Prod.mk.injEq]
    constructor
    · rintro ⟨d, hd, rfl, rfl⟩; exact Or.inr ⟨v, rfl, rfl, hd⟩
    · rintro (⟨_, hv, _⟩ | ⟨_, hv, rfl, hx⟩) <;> cases hv
      exact ⟨x, hx, rfl, rfl⟩
  | require v => simp [inserts]

/-- with the repaired lookup a work item whose requirement is met only inserts into the graph -/
theorem consStep_present (h : IdHash) (g : Graph) (p : Nat × RuleItem × Cons) (hp : Present h p) :
    consStep false (h, g) p =
      match foldE (fun g q => graphInsert g q.1 q.2) g (inserts h p) with
      | .error e => .error e
      | .ok g' => .ok (h, g') := by
  obtain ⟨i, dep, c⟩ := p
  cases c with
  | before v => simp only [inserts, foldE_map]; rfl
  | after v => simp only [inserts, foldE_map]; rfl
  | require v => simp [consStep, applyCons, inserts, foldE, hp v rfl]

theorem foldE_consStep (h : IdHash) (W : List (Nat × RuleItem × Cons)) (hall : ∀ p ∈ W, Present h p)
    (g : Graph) :
    foldE (consStep false) (h, g) W =
      match foldE (fun g q => graphInsert g q.1 q.2) g (W.flatMap (inserts h)) with
      | .error e => .error e
      | .ok g' => .ok (h, g') := by
  induction W generalizing g with
  | nil => rfl
  | cons p W ih =>
    rw [List.flatMap_cons, foldE_append]
    simp only [foldE]
    rw [consStep_present h g p (hall p (by simp))]
    cases foldE (fun g q => graphInsert g q.1 q.2) g (inserts h p) with
    | error e => rfl
    | ok g' => exact ih (fun q hq => hall q (by simp [hq])) g'

/-- work items whose requirements are all met run through, `idhash` is untouched and the graph
    holds exactly their insertions -/
theorem work_run (rs : List RuleItem) (h : IdHash) (hid : IdOK rs rs.length h)
    (W : List (Nat × RuleItem × Cons)) (hlt : ∀ p ∈ W, p.1 < rs.length) (hall : ∀ p ∈ W, Present h p) :
    ∃ g, foldE (consStep false) (h, List.replicate rs.length []) W = .ok (h, g) ∧
      g.length = rs.length ∧ ∀ j x, G g j x ↔ ∃ p ∈ W, (j, x) ∈ inserts h p := by
  obtain ⟨g, e, hl, hG⟩ := foldE_graphInsert_spec (W.flatMap (inserts h)) (List.replicate rs.length [])
    (fun q hq => by
      obtain ⟨⟨i, dep, c⟩, hp, hq⟩ := List.mem_flatMap.1 hq
      rw [List.length_replicate]
      rcases (mem_inserts h i dep c q.1 q.2).1 hq with ⟨v, _, _, hj⟩ | ⟨v, _, hj, _⟩
      · exact (((hid v).1 q.1).1 hj).1
      · rw [hj]; exact hlt _ hp)
  refine ⟨g, by rw [foldE_consStep h W hall, e], by simpa using hl, fun j x => ?_⟩
  rw [hG, List.mem_flatMap]
  exact or_iff_right (not_G_replicate _ j x)

/-- the panic of a failed `assert!(idhash.contains_key(v), …)` -/
def missingErr (dep : RuleItem) (v : Nat) : CompileErr :=
  match dep.marks.head? with
  | none => .internal
  | some r => .missing r v

theorem consStep_absent (h : IdHash) (st : IdHash × Graph) (i : Nat) (dep : RuleItem) (v : Nat)
    (h1 : st.1 = h) (habs : (idGet h v).isSome = false) :
    consStep false st (i, dep, .require v) = .error (missingErr dep v) := by
  simp only [consStep, applyCons, missingErr]
  rw [h1, habs]
  cases dep.marks.head? <;> simp

theorem IdOK_isSome (rs : List RuleItem) (h : IdHash) (hid : IdOK rs rs.length h) (v : Nat) :
    (idGet h v).isSome = true ↔ ∃ jt ∈ rs, v ∈ jt.marks := by
  obtain ⟨h1, h2⟩ := hid v
  constructor
  · intro hs
    cases hg : idGet h v with
    | none => simp [hg] at hs
    | some l =>
      cases l with
      | nil => exact absurd hg h2
      | cons x l =>
        have : x ∈ Hd h v := by simp [Hd, hg]
        obtain ⟨_, d, hd, hm⟩ := (h1 x).1 this
        exact ⟨d, List.mem_of_getElem? hd, hm⟩
  · rintro ⟨jt, hjt, hm⟩
    obtain ⟨x, hx, rfl⟩ := List.getElem_of_mem hjt
    have : x ∈ Hd h v := (h1 x).2 ⟨hx, _, List.getElem?_eq_getElem hx, hm⟩
    cases hg : idGet h v with
    | none => simp [Hd, hg] at this
    | some l => rfl

theorem work_allPresent_iff (rs : List RuleItem) (h : IdHash) (hid : IdOK rs rs.length h)
    (order : List Nat) (hord : ∀ i, i ∈ order ↔ i < rs.length) :
    (∀ p ∈ work rs order, Present h p) ↔ RequiresPresent rs := by
  constructor
  · intro hw it hit m hm
    obtain ⟨x, hx, rfl⟩ := List.getElem_of_mem hit
    have := hw (x, rs[x], .require m)
      ((mem_work rs order x _ _).2 ⟨(hord x).2 hx, List.getElem?_eq_getElem hx, hm⟩) m rfl
    exact (IdOK_isSome rs h hid m).1 this
  · intro hrp p hp v hv
    obtain ⟨i, dep, c⟩ := p
    simp only at hv; subst hv
    obtain ⟨_, hd, hc⟩ := (mem_work rs order i dep _).1 hp
    exact (IdOK_isSome rs h hid v).2 (hrp dep (List.mem_of_getElem? hd) v hc)

theorem work_edge (rs : List RuleItem) (h : IdHash) (hid : IdOK rs rs.length h)
    (order : List Nat) (hord : ∀ i, i ∈ order ↔ i < rs.length) (j x : Nat) :
    (∃ p ∈ work rs order, (j, x) ∈ inserts h p) ↔ edge rs x j := by
  constructor
  · rintro ⟨⟨i, dep, c⟩, hp, hP⟩
    obtain ⟨_, hd, hc⟩ := (mem_work rs order i dep c).1 hp
    rcases (mem_inserts h i dep c j x).1 hP with ⟨v, rfl, rfl, hj⟩ | ⟨v, rfl, rfl, hx⟩
    · obtain ⟨_, d, hd', hm⟩ := ((hid v).1 j).1 hj
      exact ⟨dep, d, hd, hd', Or.inl ⟨v, hc, hm⟩⟩
    · obtain ⟨_, d, hd', hm⟩ := ((hid v).1 x).1 hx
      exact ⟨d, dep, hd', hd, Or.inr ⟨v, hc, hm⟩⟩
  · rintro ⟨a, b, ha, hb, (⟨m, hc, hm⟩ | ⟨m, hc, hm⟩)⟩
    · have hxl := (List.getElem?_eq_some_iff.1 ha).1
      have hjl := (List.getElem?_eq_some_iff.1 hb).1
      exact ⟨(x, a, .before m), (mem_work rs order x a _).2 ⟨(hord x).2 hxl, ha, hc⟩,
        (mem_inserts ..).2 (Or.inl ⟨m, rfl, rfl, ((hid m).1 j).2 ⟨hjl, b, hb, hm⟩⟩)⟩
    · have hxl := (List.getElem?_eq_some_iff.1 ha).1
      have hjl := (List.getElem?_eq_some_iff.1 hb).1
      exact ⟨(j, b, .after m), (mem_work rs order j b _).2 ⟨(hord j).2 hjl, hb, hc⟩,
        (mem_inserts ..).2 (Or.inr ⟨m, rfl, rfl, ((hid m).1 x).2 ⟨hxl, a, ha, hm⟩⟩)⟩

theorem work_lt (rs : List RuleItem) (order : List Nat) (p : Nat × RuleItem × Cons)
    (hp : p ∈ work rs order) : p.1 < rs.length := by
  obtain ⟨i, dep, c⟩ := p
  exact (List.getElem?_eq_some_iff.1 ((mem_work rs order i dep c).1 hp).2.1).1

/-- The second loop: either every requirement names a held mark, it succeeds, `idhash` is unchanged
    and the graph is the static relation; or it stops with the `missing dependency` panic of the first
    requirement (in evaluation order) whose mark nobody holds. -/
theorem buildGraph_cases (rs : List RuleItem) (h : IdHash) (hid : IdOK rs rs.length h)
    (order : List Nat) (hord : ∀ i, i ∈ order ↔ i < rs.length) :
    (RequiresPresent rs ∧ ∃ g, buildGraph false rs order (h, List.replicate rs.length []) = .ok (h, g) ∧
      g.length = rs.length ∧ ∀ j x, G g j x ↔ edge rs x j) ∨
    (¬ RequiresPresent rs ∧ ∃ (i : Nat) (dep : RuleItem) (v : Nat), rs[i]? = some dep ∧
      Cons.require v ∈ dep.cons ∧ (¬ ∃ jt ∈ rs, v ∈ jt.marks) ∧
      buildGraph false rs order (h, List.replicate rs.length []) = .error (missingErr dep v) ∧
      ∃ pre post, work rs order = pre ++ (i, dep, .require v) :: post ∧
        ∀ q ∈ pre, ∀ w, q.2.2 = .require w → ∃ jt ∈ rs, w ∈ jt.marks) := by
  rw [buildGraph_eq_work false rs order (fun i hi => (hord i).1 hi)]
  rcases first_failure (Present h) (work rs order) with hall | ⟨pre, ⟨i, dep, c⟩, post, hl, hpre, ha⟩
  · obtain ⟨g, e, hlen, hG⟩ := work_run rs h hid _ (work_lt rs order) hall
    exact Or.inl ⟨(work_allPresent_iff rs h hid order hord).1 hall, g, e, hlen,
      fun j x => by rw [hG, work_edge rs h hid order hord]⟩
  · have hsub : ∀ q, q ∈ pre → q ∈ work rs order := fun q hq => hl ▸ List.mem_append_left _ hq
    have hmem : (i, dep, c) ∈ work rs order := hl ▸ List.mem_append_right _ (List.mem_cons_self ..)
    obtain ⟨v, rfl, habs⟩ : ∃ v, c = .require v ∧ (idGet h v).isSome = false :=
      Classical.byContradiction fun hne => ha fun v hv => by
        cases hs : (idGet h v).isSome with
        | true => rfl
        | false => exact absurd ⟨v, hv, hs⟩ hne
    obtain ⟨_, hd, hc⟩ := (mem_work rs order i dep _).1 hmem
    obtain ⟨g, e, _, _⟩ := work_run rs h hid pre
      (fun q hq => work_lt rs order q (hsub q hq)) hpre
    have hmiss : ¬ ∃ jt ∈ rs, v ∈ jt.marks := fun hex => by
      rw [(IdOK_isSome rs h hid v).2 hex] at habs; cases habs
    refine Or.inr ⟨fun hrp => hmiss (hrp dep (List.mem_of_getElem? hd) v hc), i, dep, v, hd, hc, hmiss,
      ?_, pre, post, hl, fun q hq w hw => (IdOK_isSome rs h hid w).1 (hpre q hq w hw)⟩
    rw [hl, foldE_append, e]
    simp only [foldE, consStep_absent h (h, g) i dep v rfl habs]

/-! ## Third loop: selection -/

/-- loop invariant of `'outer: while deps_remaining > 0` -/
structure SelInv (rs : List RuleItem) (g : Graph) (ins : List Bool) (rem : Nat) (res : List Nat) :
    Prop where
  glen : g.length = rs.length
  ilen : ins.length = rs.length
  ins_eq : ∀ i, i < rs.length → ins[i]? = some (decide (i ∈ res))
  nodup : res.Nodup
  lt : ∀ i ∈ res, i < rs.length
  count : rem + res.length = rs.length
  graph : ∀ j x, G g j x ↔ edge rs x j ∧ x ∉ res
  resp : Respects rs res

theorem scan_spec (rs : List RuleItem) (g : Graph) (ins : List Bool) (rem : Nat) (res : List Nat)
    (inv : SelInv rs g ins rem res) (l : List Nat) (hl : ∀ i ∈ l, i < rs.length) :
    scan ins g l = .ok (l.find? (ready rs res)) := by
  fun_induction scan ins g l
  case case1 => rfl
  case case2 idx rest hins =>
    rw [inv.ins_eq idx (hl idx (List.mem_cons_self ..))] at hins; cases hins
  case case4 idx rest _ hg =>
    have := List.getElem?_eq_none_iff.1 hg
    rw [inv.glen] at this
    exact absurd (hl idx (List.mem_cons_self ..)) (Nat.not_lt.2 this)
  case case3 idx rest hins ih =>
    -- already placed
    rw [inv.ins_eq idx (hl idx (List.mem_cons_self ..))] at hins
    have hr : ready rs res idx = false := Bool.eq_false_iff.2 fun h =>
      ((ready_iff rs res idx).1 h).1 (of_decide_eq_true (Option.some.inj hins))
    rw [List.find?_cons, hr]
    exact ih fun i hi => hl i (List.mem_cons_of_mem _ hi)
  case case5 idx rest hins hg =>
    -- unplaced, `deps_graph[idx]` empty: every predecessor is placed
    rw [inv.ins_eq idx (hl idx (List.mem_cons_self ..))] at hins
    have hr : ready rs res idx = true :=
      (ready_iff rs res idx).2 ⟨of_decide_eq_false (Option.some.inj hins), fun i he =>
        Classical.byContradiction fun hi => by
          obtain ⟨s, h1, h2⟩ := (inv.graph idx i).2 ⟨he, hi⟩
          rw [hg] at h1; cases h1; cases h2⟩
    rw [List.find?_cons, hr]
  case case6 idx rest _ y s' hg ih =>
    -- `deps_graph[idx]` holds an unplaced predecessor
    have hr : ready rs res idx = false := Bool.eq_false_iff.2 fun h => by
      obtain ⟨he, hny⟩ := (inv.graph idx y).1 ⟨_, hg, List.mem_cons_self ..⟩
      exact hny (((ready_iff rs res idx).1 h).2 y he)
    rw [List.find?_cons, hr]
    exact ih fun i hi => hl i (List.mem_cons_of_mem _ hi)

theorem SelInv_step (rs : List RuleItem) (g : Graph) (ins : List Bool) (k : Nat) (res : List Nat)
    (inv : SelInv rs g ins (k + 1) res) (idx : Nat) (hidx : idx < rs.length)
    (hready : ready rs res idx = true) :
    SelInv rs (graphRemove g idx) (ins.set idx true) k (res ++ [idx]) := by
  obtain ⟨hnm, hpred⟩ := (ready_iff rs res idx).1 hready
  have hmem : ∀ i, i ∈ res ++ [idx] ↔ i ∈ res ∨ i = idx := fun i => by
    rw [List.mem_append, List.mem_singleton]
  have hold : ∀ a ∈ res, (res ++ [idx]).idxOf a = res.idxOf a := fun a ha => by
    rw [List.idxOf_append, if_pos ha]
  refine ⟨(List.length_map _).trans inv.glen, List.length_set.trans inv.ilen, fun i hi => ?_, ?_,
    fun i hi => ?_, ?_, fun j x => ?_, fun i j he hj => ?_⟩
  · rw [List.getElem?_set]
    by_cases h : idx = i
    · subst h; simp [inv.ilen, hi]
    · have h' : ¬ i = idx := fun e => h e.symm
      simp [h, h', inv.ins_eq i hi]
  · rw [List.nodup_append]
    exact ⟨inv.nodup, by simp, fun a ha b hb => by
      rw [List.mem_singleton.1 hb]; exact fun e => hnm (e ▸ ha)⟩
  · rcases (hmem i).1 hi with hi | rfl
    · exact inv.lt i hi
    · exact hidx
  · rw [List.length_append, List.length_singleton]
    have := inv.count
    omega
  · rw [G_graphRemove, inv.graph, hmem, not_or, and_assoc]
  · rcases (hmem j).1 hj with hj | rfl
    · obtain ⟨hi, hlt⟩ := inv.resp i j he hj
      exact ⟨(hmem i).2 (Or.inl hi), by rw [hold i hi, hold j hj]; exact hlt⟩
    · have hi := hpred i he
      refine ⟨(hmem i).2 (Or.inl hi), ?_⟩
      rw [hold i hi, List.idxOf_append, if_neg hnm]
      exact Nat.lt_of_lt_of_le (List.idxOf_lt_length_of_mem hi) (Nat.le_add_left ..)

/-- stuck ⇒ cycle: when no unplaced item is dependency-free, the static relation has a cycle -/
theorem stuck_cycle (rs : List RuleItem) (g : Graph) (ins : List Bool) (k : Nat) (res : List Nat)
    (inv : SelInv rs g ins (k + 1) res)
    (hnone : (rankOrder rs).find? (ready rs res) = none) : ¬ Acyclic rs := by
  intro hac
  -- some item is unplaced
  have hex : ∃ u, u < rs.length ∧ u ∉ res := by
    apply Classical.byContradiction
    intro hne
    have hsub : List.range rs.length ⊆ res := by
      intro u hu
      apply Classical.byContradiction
      intro hnu
      exact hne ⟨u, List.mem_range.1 hu, hnu⟩
    have h1 := List.nodup_range.length_le_of_subset hsub
    rw [List.length_range] at h1
    have h2 := inv.count
    omega
  obtain ⟨u, hu, hnu⟩ := hex
  let U := (List.range rs.length).filter (fun j => decide (j ∉ res))
  have hmemU : ∀ j, j ∈ U ↔ j < rs.length ∧ j ∉ res := by
    intro j; simp [U]
  obtain ⟨m, hm, hmin⟩ := exists_minimal (edge rs) hac U u ((hmemU u).2 ⟨hu, hnu⟩)
  obtain ⟨hml, hmr⟩ := (hmemU m).1 hm
  have hready : ready rs res m = true := by
    rw [ready_iff]
    refine ⟨hmr, fun i he => Classical.byContradiction fun hi => ?_⟩
    exact hmin i ((hmemU i).2 ⟨(edge_lt he).1, hi⟩) he
  rw [List.find?_eq_none] at hnone
  exact hnone m ((mem_rankOrder rs m).2 hml) hready

/-- what a finished selection loop guarantees -/
structure Final (rs : List RuleItem) (r : List Nat) : Prop where
  nodup : r.Nodup
  lt : ∀ i ∈ r, i < rs.length
  length : r.length = rs.length
  resp : Respects rs r

theorem selectLoop_spec (rs : List RuleItem) :
    ∀ (rem : Nat) (g : Graph) (ins : List Bool) (res : List Nat), SelInv rs g ins rem res →
      (∃ r, selectLoop (rankOrder rs) g ins rem res = .ok r ∧ greedyLoop rs rem res = some r ∧
        Final rs r) ∨
      (selectLoop (rankOrder rs) g ins rem res = .error .cyclic ∧ greedyLoop rs rem res = none ∧
        ¬ Acyclic rs) := by
  intro rem
  induction rem with
  | zero =>
    intro g ins res inv
    refine Or.inl ⟨res, by simp [selectLoop], by simp [greedyLoop], inv.nodup, inv.lt, ?_, inv.resp⟩
    have := inv.count; omega
  | succ k ih =>
    intro g ins res inv
    have hscan := scan_spec rs g ins (k + 1) res inv (rankOrder rs)
      (fun i hi => (mem_rankOrder rs i).1 hi)
    simp only [selectLoop, greedyLoop, hscan]
    cases hf : (rankOrder rs).find? (ready rs res) with
    | none => exact Or.inr ⟨rfl, rfl, stuck_cycle rs g ins k res inv hf⟩
    | some idx =>
      have hmem := List.mem_of_find?_eq_some hf
      have hready := List.find?_some hf
      have hidx := (mem_rankOrder rs idx).1 hmem
      exact ih _ _ _ (SelInv_step rs g ins k res inv idx hidx hready)

theorem SelInv_init (rs : List RuleItem) (g : Graph) (hlen : g.length = rs.length)
    (hG : ∀ j x, G g j x ↔ edge rs x j) :
    SelInv rs g (List.replicate rs.length false) rs.length [] := by
  refine ⟨hlen, by simp, ?_, by simp, by simp, by simp, by simpa using hG, ?_⟩
  · intro i hi; simp [hi]
  · intro i j _ hj; simp at hj

theorem Final.mem {rs : List RuleItem} {r : List Nat} (hf : Final rs r) (c : Nat)
    (hc : c < rs.length) : c ∈ r := by
  apply Classical.byContradiction
  intro hnc
  have hnd : (c :: r).Nodup := List.nodup_cons.2 ⟨hnc, hf.nodup⟩
  have hsub : (c :: r) ⊆ List.range rs.length := by
    intro x hx
    rcases List.mem_cons.1 hx with rfl | hx
    · exact List.mem_range.2 hc
    · exact List.mem_range.2 (hf.lt x hx)
  have h1 := hnd.length_le_of_subset hsub
  rw [List.length_cons, List.length_range, hf.length] at h1
  omega

theorem Final.perm {rs : List RuleItem} {r : List Nat} (hf : Final rs r) :
    r.Perm (List.range rs.length) :=
  (List.perm_ext_iff_of_nodup hf.nodup List.nodup_range).2 fun a =>
    ⟨fun h => List.mem_range.2 (hf.lt a h), fun h => hf.mem a (List.mem_range.1 h)⟩

theorem Respects.transGen {rs : List RuleItem} {r : List Nat} (hr : Respects rs r) {a b : Nat}
    (h : TransGen (edge rs) a b) (hb : b ∈ r) : a ∈ r ∧ r.idxOf a < r.idxOf b := by
  induction h with
  | single he => exact hr _ _ he hb
  | tail _ he ih =>
    obtain ⟨h1, h2⟩ := hr _ _ he hb
    obtain ⟨h3, h4⟩ := ih h1
    exact ⟨h3, by omega⟩

theorem Final.acyclic {rs : List RuleItem} {r : List Nat} (hf : Final rs r) : Acyclic rs := by
  intro c hc
  have hlt : c < rs.length := by
    cases hc with
    | single he => exact (edge_lt he).2
    | tail _ he => exact (edge_lt he).2
  have := (hf.resp.transGen hc (hf.mem c hlt)).2
  omega

/-! ## The whole of `compile` -/

/-- Complete case analysis of `compile false`: exactly one of
    (1) every requirement present, the constraint relation acyclic: the answer is the canonical order;
    (2) every requirement present, the relation cyclic: `cyclic`;
    (3) some requirement absent: the `missing dependency` panic for such a requirement. -/
theorem compile_cases (rs : List RuleItem) :
    (RequiresPresent rs ∧ ∃ r, compile false rs = .ok r ∧ greedy rs = some r ∧ Final rs r) ∨
    (RequiresPresent rs ∧ compile false rs = .error .cyclic ∧ greedy rs = none ∧ ¬ Acyclic rs) ∨
    (¬ RequiresPresent rs ∧ ∃ (i : Nat) (dep : RuleItem) (v : Nat), rs[i]? = some dep ∧
      Cons.require v ∈ dep.cons ∧ (¬ ∃ jt ∈ rs, v ∈ jt.marks) ∧
      compile false rs = .error (missingErr dep v) ∧
      ∃ pre post, work rs (rankOrder rs) = pre ++ (i, dep, .require v) :: post ∧
        ∀ q ∈ pre, ∀ w, q.2.2 = .require w → ∃ jt ∈ rs, w ∈ jt.marks) := by
  obtain ⟨p, hp, hord, hid⟩ := prepare_spec rs
  have hmem : ∀ i, i ∈ p.order ↔ i < rs.length := by rw [hord]; exact mem_rankOrder rs
  rcases buildGraph_cases rs p.idhash hid p.order hmem with
    ⟨hrp, g, hb, hlen, hG⟩ | ⟨hrp, i, dep, v, h1, h2, h3, hb, h5⟩
  · have hc : compile false rs =
        selectLoop (rankOrder rs) g (List.replicate rs.length false) rs.length [] := by
      simp only [compile, hp, hb]; rw [hord]
    rcases selectLoop_spec rs rs.length g _ [] (SelInv_init rs g hlen hG) with
      ⟨r, h1, h2, h3⟩ | ⟨h1, h2, h3⟩
    · exact Or.inl ⟨hrp, r, by rw [hc, h1], h2, h3⟩
    · exact Or.inr (Or.inl ⟨hrp, by rw [hc, h1], h2, h3⟩)
  · rw [hord] at h5
    exact Or.inr (Or.inr ⟨hrp, i, dep, v, h1, h2, h3, by simp only [compile, hp, hb], h5⟩)

/-- the doc-comment example of `ruler.rs` (`[ hello, world! ]`), marks numbered
    hello=0 world=1 open_bracket=2 close_bracket=3 comma=4 bang=5 -/
def docRules : List RuleItem :=
  [ ⟨[0], .normal, []⟩,                              -- hello
    ⟨[1], .normal, []⟩,                              -- world
    ⟨[2], .normal, [.before 0]⟩,                     -- open_bracket.before(hello)
    ⟨[3], .normal, [.after 1]⟩,                      -- close_bracket.after(world)
    ⟨[4], .normal, [.after 0, .before 1]⟩,           -- comma.after(hello).before(world)
    ⟨[5], .beforeAll, [.require 1, .after 1]⟩ ]      -- bang.require(world).after(world).before_all()

/-- open_bracket, hello, comma, world, bang, close_bracket -/
theorem docRules_order : compile false docRules = .ok [2, 0, 4, 1, 5, 3] := by rfl

/-- a successful `compile` is the first of the three cases -/
theorem compile_ok {rs : List RuleItem} {r : List Nat} (h : compile false rs = .ok r) :
    RequiresPresent rs ∧ greedy rs = some r ∧ Final rs r := by
  rcases compile_cases rs with ⟨hrp, r', h1, hg, hf⟩ | ⟨_, h1, _⟩ | ⟨_, _, _, _, _, _, _, h1, _⟩
  · rw [h1] at h; cases h; exact ⟨hrp, hg, hf⟩
  · rw [h1] at h; cases h
  · rw [h1] at h; cases h

/-- with every requirement present only the first two cases remain -/
theorem compile_present {rs : List RuleItem} (hrp : RequiresPresent rs) :
    (∃ r, compile false rs = .ok r ∧ greedy rs = some r ∧ Final rs r) ∨
    (compile false rs = .error .cyclic ∧ greedy rs = none ∧ ¬ Acyclic rs) := by
  rcases compile_cases rs with ⟨_, h⟩ | ⟨_, h⟩ | ⟨hn, _⟩
  · exact Or.inl h
  · exact Or.inr h
  · exact absurd hrp hn

/-- **C09 (`compile_perm`).** The execution order is a permutation of the rules: never partial,
    never a duplicate. -/
theorem compile_perm (rs : List RuleItem) (r : List Nat) (h : compile false rs = .ok r) :
    r.Perm (List.range rs.length) :=
  (compile_ok h).2.2.perm

example : ∃ r, compile false docRules = .ok r ∧ r.Perm (List.range docRules.length) :=
  ⟨_, docRules_order, compile_perm _ _ docRules_order⟩

/-- **C09 (`compile_respects`).** Every `before` / `after` constraint, direct or through an alias,
    is honoured by the execution order. -/
theorem compile_respects (rs : List RuleItem) (r : List Nat) (h : compile false rs = .ok r)
    (i j : Nat) (he : edge rs i j) : r.idxOf i < r.idxOf j :=
  ((compile_ok h).2.2.resp i j he ((compile_ok h).2.2.mem j (edge_lt he).2)).2

-- comma (4) must come after hello (0) and before world (1): both are `edge`s, so the theorem applies
example : edge docRules 0 4 ∧ edge docRules 4 1 ∧ edge docRules 2 0 ∧ edge docRules 1 5 := by decide

/-- **C09 (`compile_greedy`).** The order is the canonical one: the one obtained from the static
    relation by repeatedly taking the highest-ranked (before-all, then normal, then after-all;
    insertion order inside a class) unplaced rule whose predecessors are all placed. -/
theorem compile_greedy (rs : List RuleItem) (r : List Nat) (h : compile false rs = .ok r) :
    greedy rs = some r :=
  (compile_ok h).2.1

/-- stronger form: when every requirement is present, `compile` IS the specification function -/
theorem compile_eq_greedy (rs : List RuleItem) (hrp : RequiresPresent rs) :
    compile false rs = match greedy rs with
      | some r => .ok r
      | none => .error .cyclic := by
  rcases compile_present hrp with ⟨r, h1, hg, _⟩ | ⟨h1, hg, _⟩ <;> rw [h1, hg]

/-- declarative reading of `greedy`: at every position, the item placed there is the first one in
    rank order that is unplaced and has all its `edge`-predecessors among the items placed before -/
def IsGreedy (rs : List RuleItem) (r : List Nat) : Prop :=
  ∀ pre j post, r = pre ++ j :: post → (rankOrder rs).find? (ready rs pre) = some j

theorem greedyLoop_decl (rs : List RuleItem) (k : Nat) (placed r : List Nat)
    (h : greedyLoop rs k placed = some r) :
    ∃ suf, r = placed ++ suf ∧ ∀ pre j post, r = pre ++ j :: post → placed.length ≤ pre.length →
      (rankOrder rs).find? (ready rs pre) = some j := by
  revert h
  fun_induction greedyLoop rs k placed
  case case1 placed =>
    intro h; cases h
    refine ⟨[], (List.append_nil _).symm, fun pre j post he hle => ?_⟩
    have := congrArg List.length he
    rw [List.length_append, List.length_cons] at this; omega
  case case2 => intro h; cases h
  case case3 k placed j0 hf ih =>
    intro h
    obtain ⟨suf, hr, hdecl⟩ := ih h
    refine ⟨j0 :: suf, by rw [hr, List.append_assoc]; rfl, fun pre j post he hle => ?_⟩
    by_cases hlen : pre.length = placed.length
    · have he' : placed ++ j0 :: suf = pre ++ j :: post := by rw [← he, hr, List.append_assoc]; rfl
      obtain ⟨h1, h2⟩ := List.append_inj he' hlen.symm
      cases h2; subst h1; exact hf
    · exact hdecl pre j post he (by rw [List.length_append, List.length_singleton]; omega)

theorem compile_isGreedy (rs : List RuleItem) (r : List Nat) (h : compile false rs = .ok r) :
    IsGreedy rs r := by
  have hg := compile_greedy rs r h
  obtain ⟨_, _, hdecl⟩ := greedyLoop_decl rs rs.length [] r hg
  exact fun pre j post he => hdecl pre j post he (by simp)

example : greedy docRules = some [2, 0, 4, 1, 5, 3] := by decide +kernel

/-- **C09 (missing requirement is loud).** If some `require m` names a mark that no rule holds, the
    result is the `missing dependency` panic for such a requirement — namely the first one in
    evaluation order (`work`: items in rank order, constraints in the order written) — never an order.
    (`missingErr dep v = .missing dep.marks[0] v`; items built by `Ruler::add` always have a mark.) -/
theorem compile_missing (rs : List RuleItem) (h : ¬ RequiresPresent rs) :
    ∃ (i : Nat) (dep : RuleItem) (v : Nat), rs[i]? = some dep ∧ Cons.require v ∈ dep.cons ∧
      (¬ ∃ jt ∈ rs, v ∈ jt.marks) ∧ compile false rs = .error (missingErr dep v) ∧
      ∃ pre post, work rs (rankOrder rs) = pre ++ (i, dep, .require v) :: post ∧
        ∀ q ∈ pre, ∀ w, q.2.2 = .require w → ∃ jt ∈ rs, w ∈ jt.marks := by
  rcases compile_cases rs with ⟨hrp, _⟩ | ⟨hrp, _⟩ | ⟨_, h3⟩
  · exact absurd hrp h
  · exact absurd hrp h
  · exact h3

/-- with a first mark on every item (always true for rules built through the API) the panic is
    `missing dependency: {marks[0]} requires {v}` -/
theorem compile_missing' (rs : List RuleItem) (hm : ∀ it ∈ rs, it.marks ≠ [])
    (h : ¬ RequiresPresent rs) :
    ∃ (dep : RuleItem) (r v : Nat), dep ∈ rs ∧ dep.marks.head? = some r ∧
      Cons.require v ∈ dep.cons ∧ (¬ ∃ jt ∈ rs, v ∈ jt.marks) ∧
      compile false rs = .error (.missing r v) := by
  obtain ⟨i, dep, v, h1, h2, h3, h4, _⟩ := compile_missing rs h
  have hdep := List.mem_of_getElem? h1
  cases hmk : dep.marks with
  | nil => exact absurd hmk (hm dep hdep)
  | cons r t =>
    refine ⟨dep, r, v, hdep, by simp [hmk], h2, h3, ?_⟩
    rw [h4]; simp [missingErr, hmk]

/-- unit test `missing_require`: A; B.require(A); C.require(Z)  (A=0 B=1 C=2 Z=25) -/
def missingRules : List RuleItem :=
  [⟨[0], .normal, []⟩, ⟨[1], .normal, [.require 0]⟩, ⟨[2], .normal, [.require 25]⟩]

example : ¬ RequiresPresent missingRules := by
  intro h
  obtain ⟨jt, hjt, hm⟩ := h ⟨[2], .normal, [.require 25]⟩ (by simp [missingRules]) 25 (by simp)
  simp [missingRules] at hjt
  rcases hjt with rfl | rfl | rfl <;> simp at hm

example : compile false missingRules = .error (.missing 2 25) := by rfl

/-- **C09 (cycle is loud).** A cyclic constraint set is never answered by an order. -/
theorem compile_cyclic (rs : List RuleItem) (h : ¬ Acyclic rs) (r : List Nat) :
    compile false rs ≠ .ok r :=
  fun hc => h (compile_ok hc).2.2.acyclic

/-- more precisely: the `cyclic dependency` panic, unless a missing requirement is reported first -/
theorem compile_cyclic' (rs : List RuleItem) (hrp : RequiresPresent rs) (h : ¬ Acyclic rs) :
    compile false rs = .error .cyclic := by
  rcases compile_present hrp with ⟨r, _, _, hf⟩ | ⟨h1, _⟩
  · exact absurd hf.acyclic h
  · exact h1

/-- unit test `cyclic_dependency`: A.after(B); B.after(C); C.after(A) -/
def cyclicRules : List RuleItem :=
  [⟨[0], .normal, [.after 1]⟩, ⟨[1], .normal, [.after 2]⟩, ⟨[2], .normal, [.after 0]⟩]

example : ¬ Acyclic cyclicRules := fun h =>
  h 0 (.tail (.tail (.single (by decide : edge cyclicRules 0 2)) (by decide : edge cyclicRules 2 1))
    (by decide : edge cyclicRules 1 0))

example : compile false cyclicRules = .error .cyclic := by rfl

/-- unit test `cyclic_dependency_debug` (%=0 A=1 B=2 C=3 D=4 E=5 F=6) -/
def cyclicRulesDebug : List RuleItem :=
  [⟨[0], .normal, [.after 4]⟩, ⟨[1], .normal, [.after 2]⟩, ⟨[5], .normal, [.after 6]⟩,
   ⟨[3], .normal, [.after 4]⟩, ⟨[2], .normal, [.after 3]⟩, ⟨[4], .normal, [.after 5]⟩,
   ⟨[6], .normal, [.after 1]⟩]

example : compile false cyclicRulesDebug = .error .cyclic := by rfl

/-- **C09 (`compile_ok_iff`).** `compile` answers with an order exactly when every requirement names
    a held mark and the constraint relation has no cycle; otherwise it panics (`compile_missing`,
    `compile_cyclic'`).  (⇐ is the "stuck ⇒ cycle" direction: `stuck_cycle`.) -/
theorem compile_ok_iff (rs : List RuleItem) :
    (∃ r, compile false rs = .ok r) ↔ RequiresPresent rs ∧ Acyclic rs := by
  refine ⟨fun ⟨r, h⟩ => ⟨(compile_ok h).1, (compile_ok h).2.2.acyclic⟩, fun ⟨hrp, hac⟩ => ?_⟩
  rcases compile_present hrp with ⟨r, h1, _⟩ | ⟨_, _, hcyc⟩
  · exact ⟨r, h1⟩
  · exact absurd hac hcyc

example : RequiresPresent docRules ∧ Acyclic docRules :=
  (compile_ok_iff docRules).1 ⟨_, docRules_order⟩

/-- **C09 (`compile_total`).** None of the `unwrap`s, `Vec::insert`s or the `usize` subtraction in
    `compile` can panic: the only panics are the two intended ones. -/
theorem compile_total (rs : List RuleItem) (hm : ∀ it ∈ rs, it.marks ≠ []) :
    compile false rs ≠ .error .internal := by
  intro hc
  by_cases hrp : RequiresPresent rs
  · rcases compile_present hrp with ⟨r, h1, _⟩ | ⟨h1, _⟩ <;> rw [h1] at hc <;> cases hc
  · obtain ⟨dep, r, v, _, _, _, _, h1⟩ := compile_missing' rs hm hrp
    rw [h1] at hc; cases hc

example : ∀ it ∈ docRules, it.marks ≠ [] := by decide

/-- "the order is the same on every use": `compile` is a function of the rule list alone
    (no hash-iteration order is observable in the model; the cache is C08's subject). -/
theorem compile_deterministic (rs rs' : List RuleItem) (h : rs = rs') :
    compile false rs = compile false rs' := by rw [h]

/-! ### the other doc-comment examples -/

/-- `before`: a; b.before(a)  →  b a -/
example : compile false [⟨[0], .normal, []⟩, ⟨[1], .normal, [.before 0]⟩] = .ok [1, 0] := by rfl

/-- `before_all`: a; c.after(a); b.after(a).before_all()  →  a b c -/
example : compile false [⟨[0], .normal, []⟩, ⟨[2], .normal, [.after 0]⟩,
    ⟨[1], .beforeAll, [.after 0]⟩] = .ok [0, 2, 1] := by rfl

/-- `alias`: b.alias(BorC); c.alias(BorC); a.before(BorC)  →  a b c -/
example : compile false [⟨[1, 9], .normal, []⟩, ⟨[2, 9], .normal, []⟩,
    ⟨[0], .normal, [.before 9]⟩] = .ok [2, 0, 1] := by rfl

/-! ### negation witness on the pinned tree (`phantom = true`) -/

/-- `A.before(Z); B.require(Z)` with no holder of `Z` (A=0 B=1 Z=25) -/
def phantomRules : List RuleItem :=
  [⟨[0], .normal, [.before 25]⟩, ⟨[1], .normal, [.require 25]⟩]

/-- Pinned tree: `idhash.entry(Z).or_default()` in the `Before` arm leaves a phantom empty entry, the
    later `Require(Z)` is accepted although no rule holds `Z` — an order instead of the panic. -/
theorem phantom_require_accepted : compile true phantomRules = .ok [0, 1] := by rfl

/-- Repaired lookup: the same rules panic as documented. -/
theorem phantom_require_repaired : compile false phantomRules = .error (.missing 1 25) := by rfl

/-- and on the pinned tree the outcome depends on evaluation order: the same requirement written on
    the earlier rule panics -/
example : compile true [⟨[0], .normal, [.require 25]⟩, ⟨[1], .normal, [.before 25]⟩] =
    .error (.missing 0 25) := by rfl

/-! ### history API: every item has a first mark -/

def Ruler.WF (r : Ruler) : Prop := ∀ it ∈ r.deps, it.marks ≠ []

theorem modifyLast_forall (P : RuleItem → Prop) (f : RuleItem → RuleItem)
    (hf : ∀ d, P d → P (f d)) (l : List RuleItem) (hl : ∀ d ∈ l, P d) :
    ∀ d ∈ Ruler.modifyLast f l, P d := by
  induction l with
  | nil => simp [Ruler.modifyLast]
  | cons a t ih =>
    cases t with
    | nil => simp [Ruler.modifyLast]; exact hf a (hl a (by simp))
    | cons b t =>
      intro d hd
      simp only [Ruler.modifyLast, List.mem_cons] at hd
      rcases hd with rfl | hd
      · exact hl _ (by simp)
      · exact ih (fun d hd => hl d (by simp [hd])) d (by simpa using hd)

theorem Ruler.WF_new : Ruler.new.WF := by simp [Ruler.WF, Ruler.new]

theorem Ruler.WF_add (r : Ruler) (m : Nat) (h : r.WF) : (r.add m).WF := by
  intro it hit
  simp only [Ruler.add, List.mem_append, List.mem_singleton] at hit
  rcases hit with hit | rfl
  · exact h it hit
  · simp

theorem Ruler.WF_remove (r : Ruler) (m : Nat) (h : r.WF) : (r.remove m).WF := by
  intro it hit
  simp only [Ruler.remove, List.mem_filter] at hit
  exact h it hit.1

theorem Ruler.WF_builder (r : Ruler) (m : Nat) (h : r.WF) :
    (r.before m).WF ∧ (r.after m).WF ∧ (r.require m).WF ∧ (r.alias m).WF ∧ r.beforeAll.WF ∧
      r.afterAll.WF := by
  refine ⟨?_, ?_, ?_, ?_, ?_, ?_⟩ <;>
    exact modifyLast_forall (fun d => d.marks ≠ []) _ (fun d hd => by simp at hd ⊢ <;> exact hd) _ h

/-- for every ruler built through the API, `iter()` on a cold cache never hits an unintended panic -/
theorem Ruler.compile_total (r : Ruler) (h : r.WF) : r.compile ≠ .error .internal :=
  MdIt.Ruler.compile_total r.deps h

end MdIt.Ruler
