/-
  PROPERTY C16 OVER A WHOLE RUN OF THE BLOCK PARSER.

  "Look-ahead never contradicts, alters or replaces real parsing.  Whenever a rule reports in look-ahead
  mode that its construct starts at a position, parsing at that position produces that construct with the
  same extent, and the look-ahead itself leaves the tree untouched.  A custom block rule that follows the
  documented contract (in look-ahead mode it may advance the current line but creates nothing) is invoked
  for real at every line it claimed, whatever container precedes it, so no line of the source is silently
  skipped."

  `Props/Block.lean`, `Props/BlockH.lean` prove this RULE BY RULE, on ONE state ("silent true ⇒ real not
  false", `testRulesH_true_real`).  In a run that is not enough: `test_rules_at_line` is called by the
  paragraph / lheading / reference rule on the lines BEHIND the current one, by the list rule and the
  blockquote rule, after `state.line` was moved there; the real chain arrives at those lines LATER, in
  another state (a paragraph pushed, `tight` recomputed, a reference added, the budget one higher).  There
  is no memo on the block side.  This file states C16 for the run — for every engine `E : Eng ι` that
  meets `Eng.OK` (`Lemmas/C16BlockEng.lean`):
      `engH cfg chain`    — EVERY chain over the ten shipped rules (`engH_ok`, no hypothesis; the nine
                            html-free rules are the chains without `.html`: `parseBlocksH_conservative`);
      `engX X cfg chain`  — the ten rules and ONE ABSTRACT CUSTOM RULE `X` anywhere in the chain, under
                            `CustomOK X` (`engX_ok`).

  THE RUN (`Lemmas/C16BlockRun.lean`, `Lemmas/C16BlockReach.lean`).  `tokStepG` = one iteration of the loop
  of `BlockParser::tokenize` (`tokLoopG_succ`: faithful); `RunsChain mn s sE`: the iteration at `s` runs
  the chain, on `sE` (`tokStepG_runs`); `Declined run pre sE false` + `chain = pre ++ i :: post`: the chain
  arrives at member `i` (`runChainG_declined`); `lazyScan_stop` / `SweepStop test s l`: the scan of the
  paragraph-like rules stopped at `l` because the call `test_rules_at_line` on `{ s with line := l }`
  answered yes (the other two reasons: end / blank line, setext underline); `Reach E F s0 f k he s`: the
  loop of a frame (top frame, and every block quote frame: `BqEnter`, `reach_quote_called`) stands at `s`;
  `frameTrace`, `quoteEntry` list them (`frameTrace_reach`, `quoteEntry_sound`).

  SECTIONS.
    1. `block_lookahead_quiet_run` — every look-ahead call, from ANY state at any budget (in particular
       every call of the run): the sweep hands back the state with at most `line` changed; the scan of
       the paragraph-like rules and the list's termination test hand back the very state (they restore
       `line`: `lazyScan`'s `s2 := { s1 with line := oldLine }`, `listContinue`'s `{ s with line :=
       oldLine }`, the statement of the C16 finding about `list.rs` in known_findings.txt).
       `block_lookahead_quiet_run_shipped`: without a custom rule the sweep itself returns the very state.
    2. `paragraph_end_is_real_start` (+ `_run`: along `Reach`) — where the paragraph ends because the sweep
       said yes at `l`, the next iteration of the loop stands at `l`, at a state that is the sweep's state
       except for tree / `tight` / reference map (`Honoured.agrees`; what look-ahead reads:
       `runRuleH_silent_congr`, `runRuleH_silent_indep`), and the real chain there ACCEPTS, with the first
       member that said yes or with an earlier member that declines in look-ahead mode and accepts in real
       mode (`Honoured.first_yes`) — unless the line is outdented (inside a list item only), where the
       item's frame ends AT `l` (`Honoured.outdented`).  `preempting_rule`: the only shipped rules that
       can take the line in front of the claimant are list (empty item / ordered item not starting at 1
       do not interrupt a paragraph), reference, lheading, paragraph (never yes in look-ahead) and html
       (start condition 7) — not hr / heading / fence / blockquote (`real_implies_silent_*`), not code.
       `honoured_of_sweep` is the caller-independent core (any yes of the sweep, any later state that
       differs in tree / `tight` / references only).
    3. the other two scans: `lazyScan_false_of_true`, `lheading_declines_at_sweep_stop`,
       `lheading_end_is_real_start`; `reference_ok`, `reference_end_is_real_start`.
    4. list item termination: `list_end_is_real_start` (generic), `list_end_is_real_start_shipped` (every
       chain over the ten rules, no side condition), with `Lemmas/C16BlockList.lean`
       (`runRuleH_silent_congr2`: every rule but the list rule reads neither node kind nor level;
       `list_in_list`; `listLoop_exit`, `listRule_ok`).
    5. lazy continuation of a block quote: `quote_end_is_real_start` (generic, frame condition as a
       hypothesis), `quote_end_is_real_start_shipped` (every ten-rule chain, every depth and `blk_indent`),
       with `Lemmas/C16BlockQuote.lean` (`runRuleH_silent_congr3`: look-ahead reads only the row `line` of
       the table; `bqScan_exit`, `ScanInv`, `blockquote_scans`).
    6. the custom-rule clause: `custom_rule_invoked_at_claimed_line`, `custom_rule_invoked_first` (behind a
       paragraph), `custom_rule_after_list`, `custom_rule_after_quote`.
    7. non-vacuity: `decide +kernel` instances on "a\n# h\nb" (ALL hypotheses of 2 discharged),
       "a\n- x\n> y", "- a\nb\n***", "> a\n# h", and a concrete style-A rule (`bangRule`, `bangRule_ok`,
       `bangRule_reads2`, `bangRule_reads3`: it meets every hypothesis on `X`) behind a paragraph, a list
       and a block quote.

  LEFT AS HYPOTHESES.
    (a) list, `engX`: the level condition `s1.level < max_nesting` (needs `TokSpec` of the `engX`
        tokenizer, i.e. the frame lemmas of `Props/Block.lean` under `TestQuiet` instead of `TestPure`);
        the custom rule needs `hX2` (its look-ahead reads neither node kind nor level).
    (b) quote: the quote's tokenizer consumed all lines of the quote (`s1.line = nl`; it may stop earlier at
        a lazy line), the line is not blank and not outdented; for `engX` the frame condition
        `Frame sE s1` and `hX3`.
    (c) `Reach` does not descend into list items (the `listLoop` iteration relation); the theorems are
        stated for every state, so they hold in those frames — only the listing stops there.
-/
import MdIt.Lemmas.C16BlockReach
import MdIt.Lemmas.C16BlockList
import MdIt.Lemmas.C16BlockQuote

namespace MdIt.BlockH.C16
open MdIt.Block
open MdIt.Lines (LineOffset)

variable {ι : Type} {E : Eng ι}

/-! ## 1. look-ahead is quiet -/

/-- **C16, every look-ahead call of a run leaves the state untouched.**  For every engine whose members
    meet the contract (every chain over the ten shipped rules: `engH_ok`; with a custom rule:
    `engX_ok`), every budget `f` and EVERY state `s` — in particular every call the run makes —:
    `test_rules_at_line` hands back `s` with at most `line` changed (tree, reference map, line table,
    `blk_indent`, `line_max`, `level`, `tight`, `list_indent`, the node under construction: untouched), and
    the three kinds of callers of the model put `line` back:
      * `lazyScan` (paragraph / lheading / reference): `s2 := { s1 with line := oldLine }` — the scan
        returns the very state it was given (`lazyScan_stop`);
      * `listContinue` (list item termination): `{ s with line := oldLine }`;
      * `bqScan` (lazy continuation): `line` is dead there — `blockquoteRule` sets `line := startLine`
        for the nested tokenizer. -/
theorem block_lookahead_quiet_run (hE : E.OK) (f : Nat) :
    (∀ s b s', E.test f s = .ok (b, s') → { s' with line := s.line } = s) ∧
    (∀ setext fuel s n l lvl s', lazyScan (E.test f) setext fuel s n = .ok (l, lvl, s') → s' = s) ∧
    (∀ ordered mc s n o s', listContinue (E.test f) ordered mc s n = .ok (o, s') → s' = s) := by
  exact ⟨hE.test_quiet f,
    fun setext fuel s n l lvl s' h => (lazyScan_stop (hE.test_quiet f) setext _ _ _ _ _ _ h).1,
    fun ordered mc s n o s' h => listContinue_same (hE.test_quiet f) h⟩

/-- the same for the shipped rules, any chain: the sweep returns the very state (no custom rule moves
    `line`) -/
theorem block_lookahead_quiet_run_shipped (cfg : Cfg) (chain : List RuleIdH) (f : Nat) (s : BState)
    (b : Bool) (s' : BState) (h : testRulesH cfg chain f s = .ok (b, s')) : s' = s :=
  testRulesH_pure cfg chain f s (b, s') h

/-! ## 2. the paragraph rule: the look-ahead yes is honoured by the next iteration -/

/-- **what "honoured" means.**  `t` is the state on which `test_rules_at_line` answered yes (at line
    `t.line`), `u` the state at which the tokenizer loop of the same frame stands next:
    * `agrees` — `u` is `t` except for the tree under construction, `tight` and the reference map: the
      same line, line table, `blk_indent`, `line_max`, `level`, `list_indent`, node kind, source;
    * `ind`/`outdented`/`runs` — the line is less than 4 columns in; when it is outdented (`line_indent
      < 0`, only inside a list item) the frame ends AT that line (the enclosing list goes on there), when
      it is not, the loop runs the real chain at `u` itself (no blank line is skipped, the nesting limit
      does not cut in);
    * `first_yes` — the yes of the sweep came from a member `j`, the first one to say yes (`pre`
      declined); and whenever the real chain at `u` returns, it ACCEPTS — never the fallback, never a
      second paragraph for want of a taker —, with `j` itself or with a member of `pre` (one that
      declines in look-ahead mode and accepts in real mode). -/
structure Honoured (E : Eng ι) (f : Nat) (t u : BState) : Prop where
  agrees : ∃ c b m, u = upd t c b m
  ind : ∃ ind, u.lineIndent u.line = .ok ind ∧ ind < 4
  outdented : ∀ ind, u.lineIndent u.line = .ok ind → ind < 0 →
    ∀ he, tokStepG E.cfg.maxNesting E.chain (E.rule f) he u = .ok (.done u)
  runs : ∀ ind, u.lineIndent u.line = .ok ind → 0 ≤ ind → RunsChain E.cfg.maxNesting u u
  first_yes : ∃ pre j post t1, E.chain = pre ++ j :: post ∧ Declined (E.rule f) pre t true ∧
    E.rule f j t true = .ok (true, t1) ∧
    ∀ b' u', runChainG (E.rule f) E.chain u false = .ok (b', u') →
      b' = true ∧ ∃ pre' j' post', E.chain = pre' ++ j' :: post' ∧ Declined (E.rule f) pre' u false ∧
        E.rule f j' u false = .ok (true, u') ∧ pre'.length ≤ pre.length ∧
        ((pre' = pre ∧ j' = j) ∨ (j' ∈ pre ∧ E.rule f j' u true = .ok (false, u)))

/-- the engine of the agreement: a yes of the sweep the rules of loop level `f` call (`E.test f`), on an
    existing non-blank line less than 4 columns in and below the nesting limit, is honoured at every state
    that differs from the sweep's only in tree / `tight` / reference map -/
theorem honoured_of_sweep (hE : E.OK) {f : Nat} {t t1 : BState} (hyes : E.test f t = .ok (true, t1))
    (hl : t.line < t.lineMax) (hne : t.isEmpty t.line = false) (hlv : t.level < E.cfg.maxNesting)
    (hind : ∃ ind, t.lineIndent t.line = .ok ind ∧ ind < 4) (c : List BNode) (b : Bool) (m : Refs.RefMap) :
    Honoured E f t (upd t c b m) := by
  obtain ⟨ind, hi, hi4⟩ := hind
  have hnext := next_iteration (chain := E.chain) (run := E.rule f) (u := upd t c b m) (mn := E.cfg.maxNesting)
    hl hne hlv (ind := ind) hi
  refine ⟨⟨c, b, m, rfl⟩, ⟨ind, hi, hi4⟩, ?_, ?_, ?_⟩
  · intro ind' h' hneg he
    have : ind' = ind := by
      have h2 : (upd t c b m).lineIndent (upd t c b m).line = .ok ind := hi
      rw [h2] at h'; cases h'; rfl
    subst this
    exact hnext.2 hneg he
  · intro ind' h' h0
    have : ind' = ind := by
      have h2 : (upd t c b m).lineIndent (upd t c b m).line = .ok ind := hi
      rw [h2] at h'; cases h'; rfl
    subst this
    exact hnext.1 h0
  · -- the sweep, as a run of the rules of loop level `f`
    obtain ⟨g, rfl⟩ : ∃ g, f = g + 1 := by
      cases f with
      | zero => rw [E.test_zero] at hyes; cases hyes
      | succ g => exact ⟨g, rfl⟩
    rw [E.test_succ] at hyes
    have hyes' : runChainG (E.rule (g + 1)) E.chain t true = .ok (true, t1) := by
      rw [← runChainG_silent_ext (fun i s => hE.silent_indep g (g + 1) i s)]; exact hyes
    obtain ⟨pre, j, post, hch, hd, hj⟩ := chain_true_split (hE.silent_no (g + 1)) E.chain hyes'
    refine ⟨pre, j, post, t1, hch, hd, hj, ?_⟩
    intro b' u' hreal
    -- the members say at `u` what they say at `t`
    have hju : E.rule (g + 1) j (upd t c b m) true = .ok (true, upd t1 c b m) := by
      rw [hE.silent_congr, hj]; rfl
    rw [hch] at hreal
    obtain ⟨hb, pre', j', post', he, hd', hj', hlen, hor⟩ :=
      chain_agree (hE.false_same (g + 1)) (hE.silent_real (g + 1)) pre j post hju hreal
    refine ⟨hb, pre', j', post', by rw [hch, he], hd', hj', hlen, ?_⟩
    rcases hor with h | hm
    · exact .inl h
    · refine .inr ⟨hm, ?_⟩
      rw [hE.silent_congr, hd j' hm]; rfl


/-- the real chain, having gone through a declining prefix, returns what the member behind it returns
    when that member accepts -/
theorem chain_accepts_at {run : ι → BState → Bool → Res} {pre post : List ι} {i : ι} {s s1 : BState}
    (hd : Declined run pre s false) (hp : run i s false = .ok (true, s1)) :
    runChainG run (pre ++ i :: post) s false = .ok (true, s1) := by
  rw [runChainG_declined hd]
  simp only [runChainG, hp]

/-- **C16, the core agreement: where the paragraph ends because look-ahead said yes, real parsing starts
    a block.**  The tokenizer loop (any frame, any depth: `s` is arbitrary) runs the chain on `sE`, the
    members in front of the paragraph rule decline, the paragraph rule runs.  Then it accepts, its scan
    stops at some line `l` and pushes one `Paragraph`; and IF THE SCAN STOPPED BECAUSE THE SWEEP ANSWERED
    YES AT `l` (`SweepStop`: the call `test_rules_at_line` on `{ sE with line := l }`), then
    * this iteration of the loop ends with "go round again" at the state `u` = the sweep's state
      `{ sE with line := l }` with the paragraph pushed and `tight` recomputed — the NEXT ITERATION STANDS
      AT LINE `l`;
    * the yes is `Honoured` there (see the structure): same line table entries, `blk_indent`, `line_max`,
      `level` …, and the real chain at `l` accepts with the first member that said yes in the sweep, or
      with an earlier member that declines in look-ahead mode and accepts in real mode. -/
theorem paragraph_end_is_real_start (hE : E.OK) {f : Nat} (he : Bool) {s sE : BState} {pre post : List ι} {i : ι}
    {b : Bool} {s1 : BState}
    (hR : RunsChain E.cfg.maxNesting s sE) (hc : E.chain = pre ++ i :: post)
    (hd : Declined (E.rule f) pre sE false) (hi : E.base i = some .paragraph)
    (hp : E.rule f i sE false = .ok (b, s1)) :
    ∃ l lvl p, lazyScan (E.test f) false (f + 1) sE sE.line = .ok (l, lvl, sE) ∧ p.kind = .paragraph ∧
      b = true ∧ s1 = upd { sE with line := l } (sE.children ++ [p]) sE.tight sE.refs ∧
      (SweepStop (E.test f) sE l →
        tokStepG E.cfg.maxNesting E.chain (E.rule f) he s =
          .ok (.next (he || sE.isEmpty (l - 1)) (upd { sE with line := l } (sE.children ++ [p]) (!he) sE.refs)) ∧
        Honoured E f { sE with line := l } (upd { sE with line := l } (sE.children ++ [p]) (!he) sE.refs)) := by
  have hq := hE.test_quiet f
  rw [E.rule_base f i _ hi] at hp
  obtain ⟨rfl, l, lvl, r, content, mapping, hs, rfl⟩ := paragraph_ok hq hp
  refine ⟨l, lvl, _, hs, rfl, rfl, rfl, ?_⟩
  intro hstop
  have hlt := (lazyScan_stop hq false _ _ _ _ _ _ hs).2.1
  rw [← E.rule_base f i _ hi] at hp
  have hch := chain_accepts_at (post := post) hd hp
  rw [← hc] at hch
  refine ⟨(step_after_accept hR hch hstop.nonblank _).mpr ⟨hlt, rfl⟩, ?_⟩
  obtain ⟨t1, hyes⟩ := hstop.yes
  exact honoured_of_sweep hE hyes hstop.lt hstop.nonblank hR.lvl hstop.ind _ _ _


/-- the first member that says yes is unique -/
theorem first_yes_unique {run : ι → BState → Bool → Res} {s : BState} :
    ∀ (pre pre2 : List ι) {j j2 : ι} {post post2 : List ι} {a a2 : BState},
      pre ++ j :: post = pre2 ++ j2 :: post2 → Declined run pre s true → Declined run pre2 s true →
      run j s true = .ok (true, a) → run j2 s true = .ok (true, a2) → pre = pre2 ∧ j = j2 := by
  intro pre
  induction pre with
  | nil =>
    intro pre2 j j2 post post2 a a2 he _ hd2 hj hj2
    cases pre2 with
    | nil => simp only [List.nil_append, List.cons.injEq] at he; exact ⟨rfl, he.1⟩
    | cons p pre2 =>
      simp only [List.nil_append, List.cons_append, List.cons.injEq] at he
      have := hd2 p (List.mem_cons_self ..)
      rw [← he.1, hj] at this
      cases this
  | cons q pre ih =>
    intro pre2 j j2 post post2 a a2 he hd hd2 hj hj2
    cases pre2 with
    | nil =>
      simp only [List.nil_append, List.cons_append, List.cons.injEq] at he
      have := hd q (List.mem_cons_self ..)
      rw [he.1, hj2] at this
      cases this
    | cons p pre2 =>
      simp only [List.cons_append, List.cons.injEq] at he
      obtain ⟨h1, h2⟩ := ih pre2 he.2 (fun k hk => hd k (List.mem_cons_of_mem _ hk))
        (fun k hk => hd2 k (List.mem_cons_of_mem _ hk)) hj hj2
      exact ⟨by rw [he.1, h1], h2⟩

/-- **which shipped rules can take a line in front of the member that claimed it**: a cmark rule that
    declines in look-ahead mode and accepts in real mode on a line less than 4 columns in is the list
    rule (it does not interrupt a paragraph with an empty item or an ordered item not starting at 1),
    or one of reference / lheading / paragraph (they never say yes in look-ahead mode).  Not hr, heading,
    fence, blockquote (their look-ahead is complete), not code (needs 4 columns). -/
theorem preempting_rule (E : Eng ι) {f : Nat} {j : ι} {r : RuleId} {u u' : BState}
    (hb : E.base j = some r) (hs : E.rule f j u true = .ok (false, u))
    (hr : E.rule f j u false = .ok (true, u')) (hi : ∃ ind, u.lineIndent u.line = .ok ind ∧ ind < 4) :
    r = .list ∨ r = .reference ∨ r = .lheading ∨ r = .paragraph := by
  rw [E.rule_base f j r hb] at hs hr
  cases r with
  | code =>
    exfalso
    obtain ⟨ind, hi, h4⟩ := hi
    simp only [runRule] at hr
    unfold codeRule at hr
    simp only [Bool.false_eq_true, if_false, hi, ok_bind] at hr
    rw [if_pos h4] at hr
    cases hr
  | fence => simp only [runRule] at hs hr; rw [real_implies_silent_fence hr] at hs; cases hs
  | blockquote => simp only [runRule] at hs hr; rw [real_implies_silent_blockquote hr] at hs; cases hs
  | hr => simp only [runRule] at hs hr; rw [real_implies_silent_hr hr] at hs; cases hs
  | heading => simp only [runRule] at hs hr; rw [real_implies_silent_heading hr] at hs; cases hs
  | list => exact .inl rfl
  | reference => exact .inr (.inl rfl)
  | lheading => exact .inr (.inr (.inl rfl))
  | paragraph => exact .inr (.inr (.inr rfl))

/-- **the agreement along the run**: `paragraph_end_is_real_start` at a state of the run — the state at
    which the next iteration stands is again a state of the run (`Reach`), in the same frame -/
theorem paragraph_end_is_real_start_run (hE : E.OK) {F : Nat} {s0 : BState} {f k : Nat} {he : Bool}
    {s sE : BState} {pre post : List ι} {i : ι} {b : Bool} {s1 : BState}
    (hreach : Reach E F s0 f (k + 1) he s)
    (hR : RunsChain E.cfg.maxNesting s sE) (hc : E.chain = pre ++ i :: post)
    (hd : Declined (E.rule f) pre sE false) (hi : E.base i = some .paragraph)
    (hp : E.rule f i sE false = .ok (b, s1)) :
    ∃ l lvl, ∃ p : BNode, lazyScan (E.test f) false (f + 1) sE sE.line = .ok (l, lvl, sE) ∧ p.kind = .paragraph ∧
      (SweepStop (E.test f) sE l →
        ∃ he' u, Reach E F s0 f k he' u ∧ u.line = l ∧ Honoured E f { sE with line := l } u) := by
  obtain ⟨l, lvl, p, hs, hk, _, _, hmain⟩ := paragraph_end_is_real_start hE he hR hc hd hi hp
  refine ⟨l, lvl, p, hs, hk, fun hstop => ?_⟩
  obtain ⟨hstep, hH⟩ := hmain hstop
  exact ⟨_, _, .step hreach hstep, rfl, hH⟩

/-! ## 3. the lheading and the reference rule as callers of the sweep -/

theorem setextCheck_false (s : BState) (ind : Int) (n : Nat) : setextCheck false s ind n = .ok 0 := by
  simp [setextCheck, pure, Except.pure]

/-- a scan WITH the underline test that found no underline is the scan WITHOUT it: where the lheading
    rule's scan stops by the sweep, the paragraph rule's scan stops too -/
theorem lazyScan_false_of_true {test : Test} :
    ∀ (fuel : Nat) (s : BState) (n l : Nat) (s' : BState),
      lazyScan test true fuel s n = .ok (l, 0, s') → lazyScan test false fuel s n = .ok (l, 0, s') := by
  intro fuel
  induction fuel with
  | zero => intro s n l s' h; simp [lazyScan] at h
  | succ f ih =>
    intro s n l s' h
    rw [lazyScan]
    rcases lazyScan_ok h with ⟨hc, rfl, _, rfl⟩ | ⟨ind, hc, hind, hq⟩
    · exact if_pos hc
    rw [if_neg hc, hind, ok_bind]
    rcases hq with ⟨h4, h⟩ | ⟨lv, h4, hsx, hq⟩
    · rw [if_pos h4]; exact ih _ _ _ _ h
    rw [if_neg (Int.not_le.mpr h4), setextCheck_false, ok_bind, if_neg (by simp)]
    rcases hq with ⟨hl, _, h0, _⟩ | ⟨o, _, ho, hq⟩
    · exact absurd h0.symm hl
    rw [ho, ok_bind]
    rcases hq with ⟨hneg, h⟩ | ⟨t, S, hneg, htest, hq⟩
    · rw [if_pos hneg]; exact ih _ _ _ _ h
    rw [if_neg (Int.not_lt.mpr hneg), htest, ok_bind]
    rcases hq with ⟨rfl, rfl, _, rfl⟩ | ⟨rfl, h⟩
    · rfl
    · exact ih _ _ _ _ h

/-- where its scan stops by the sweep (no underline found), the lheading rule declines and leaves the
    state alone -/
theorem lheading_declines_at_sweep_stop {test : Test} {fuel : Nat} {s : BState} {l : Nat} {b : Bool} {s1 : BState}
    (hs : lazyScan test true fuel s s.line = .ok (l, 0, s))
    (h : lheadingRule test fuel s false = .ok (b, s1)) : b = false ∧ s1 = s := by
  rcases lheadingRule_ok h with
    ⟨rfl, rfl | ⟨nl, hs'⟩⟩ | ⟨_, _, level, _, _, _, _, _, _, _, hs', hne, _⟩
  · exact ⟨rfl, rfl⟩
  · cases hs.symm.trans hs'
    exact ⟨rfl, rfl⟩
  · cases hs.symm.trans hs'
    exact absurd rfl hne

/-- what the reference rule does when it accepts, under a quiet sweep: the state is the old one at
    `start_line + lines + 1`, with another reference map -/
theorem reference_ok {cfg : Cfg} {test : Test} (ht : TestQuiet test) {fuel : Nat} {s s' : BState}
    (h : referenceRule cfg test fuel s false = .ok (true, s')) :
    ∃ l lvl lines m, lazyScan test false fuel s s.line = .ok (l, lvl, s) ∧
      s' = upd { s with line := s.line + lines + 1 } s.children s.tight m := by
  rcases referenceRule_ok h with
    ⟨hb, _⟩ | ⟨_, _, l, lvl, S, _, _, _, _, _, lines, _, _, _, _, _, hs, _, _, _, _, rfl⟩
  · cases hb
  obtain ⟨rfl, _, _⟩ := lazyScan_stop ht false _ _ _ _ _ _ hs
  exact ⟨l, lvl, lines, _, hs, rfl⟩


/-- **C16, the reference rule as a caller of the sweep.**  A reference definition that ends exactly where
    its scan stopped because the sweep said yes at `l`: this iteration ends with "go round again" at the
    sweep's state with the new reference map, and the yes is `Honoured` there.  (A definition that uses
    fewer lines than were scanned leaves the loop at an earlier line; the remaining lines are scanned
    again by the next paragraph-like rule.) -/
theorem reference_end_is_real_start (hE : E.OK) {f : Nat} (he : Bool) {s sE : BState} {pre post : List ι} {i : ι}
    {s1 : BState}
    (hR : RunsChain E.cfg.maxNesting s sE) (hc : E.chain = pre ++ i :: post)
    (hd : Declined (E.rule f) pre sE false) (hi : E.base i = some .reference)
    (hp : E.rule f i sE false = .ok (true, s1)) :
    ∃ l lvl lines m, lazyScan (E.test f) false (f + 1) sE sE.line = .ok (l, lvl, sE) ∧
      s1 = upd { sE with line := sE.line + lines + 1 } sE.children sE.tight m ∧
      (SweepStop (E.test f) sE l → sE.line + lines + 1 = l →
        tokStepG E.cfg.maxNesting E.chain (E.rule f) he s =
          .ok (.next (he || sE.isEmpty (l - 1)) (upd { sE with line := l } sE.children (!he) m)) ∧
        Honoured E f { sE with line := l } (upd { sE with line := l } sE.children (!he) m)) := by
  have hq := hE.test_quiet f
  have hp0 := hp
  rw [E.rule_base f i _ hi] at hp
  obtain ⟨l, lvl, lines, m, hs, hs1⟩ := reference_ok hq hp
  refine ⟨l, lvl, lines, m, hs, hs1, ?_⟩
  intro hstop hl
  rw [hs1, hl] at hp0
  have hch := chain_accepts_at (post := post) hd hp0
  rw [← hc] at hch
  refine ⟨(step_after_accept hR hch hstop.nonblank _).mpr ⟨show sE.line < l by omega, rfl⟩, ?_⟩
  obtain ⟨t1, hyes⟩ := hstop.yes
  exact honoured_of_sweep hE hyes hstop.lt hstop.nonblank hR.lvl hstop.ind _ _ _

/-- **C16, the lheading rule as a caller of the sweep.**  The chain arrives at the lheading rule, its
    scan (with the underline test) stops at `l` because the sweep said yes (no underline: level 0).
    Then the lheading rule DECLINES and leaves the state alone; the scan of the paragraph rule (without
    the underline test) stops at the same `l` for the same reason; and when the members between the two
    decline, the paragraph rule takes the lines, the next iteration stands at `l` and the yes is
    `Honoured` there — `paragraph_end_is_real_start` for the chain prefix `pre ++ i :: mid`. -/
theorem lheading_end_is_real_start (hE : E.OK) {f : Nat} (he : Bool) {s sE : BState}
    {pre mid post : List ι} {i ip : ι} {l : Nat} {b0 : Bool} {s0 : BState}
    (hR : RunsChain E.cfg.maxNesting s sE) (hc : E.chain = pre ++ i :: (mid ++ ip :: post))
    (hd : Declined (E.rule f) pre sE false) (hi : E.base i = some .lheading)
    (hscan : lazyScan (E.test f) true (f + 1) sE sE.line = .ok (l, 0, sE))
    (hstop : SweepStop (E.test f) sE l)
    (hl : E.rule f i sE false = .ok (b0, s0)) :
    b0 = false ∧ s0 = sE ∧ lazyScan (E.test f) false (f + 1) sE sE.line = .ok (l, 0, sE) ∧
    (Declined (E.rule f) mid sE false → E.base ip = some .paragraph →
      ∀ b s1, E.rule f ip sE false = .ok (b, s1) →
        ∃ p : BNode, p.kind = .paragraph ∧
          tokStepG E.cfg.maxNesting E.chain (E.rule f) he s =
            .ok (.next (he || sE.isEmpty (l - 1)) (upd { sE with line := l } (sE.children ++ [p]) (!he) sE.refs)) ∧
          Honoured E f { sE with line := l } (upd { sE with line := l } (sE.children ++ [p]) (!he) sE.refs)) := by
  have hl0 := hl
  rw [E.rule_base f i _ hi] at hl
  obtain ⟨rfl, rfl⟩ := lheading_declines_at_sweep_stop hscan hl
  have hpar := lazyScan_false_of_true _ _ _ _ _ hscan
  refine ⟨rfl, rfl, hpar, ?_⟩
  intro hmid hip b s1 hp
  have hd' : Declined (E.rule f) (pre ++ i :: mid) s0 false := by
    intro j hj
    rcases List.mem_append.mp hj with h | h
    · exact hd j h
    · rcases List.mem_cons.mp h with rfl | h
      · exact hl0
      · exact hmid j h
  have hc' : E.chain = (pre ++ i :: mid) ++ ip :: post := by rw [hc]; simp
  obtain ⟨l', lvl, p, hs, hk, _, _, hmain⟩ := paragraph_end_is_real_start hE he hR hc' hd' hip hp
  rw [hpar] at hs
  simp only [Except.ok.injEq, Prod.mk.injEq] at hs
  obtain ⟨rfl, _, _⟩ := hs
  exact ⟨p, hk, hmain hstop⟩

/-! ## 4. the list rule: item termination -/

/-- the item loop stopped at `sL` BECAUSE THE SWEEP ANSWERED YES THERE: `listContinue` reached its call
    `test_rules_at_line` on `sL` itself (existing line, `0 ≤ line_indent < 4`) and the answer was `true` -/
structure ListStop (test : Test) (sL : BState) : Prop where
  lt : sL.line < sL.lineMax
  nonblank : sL.isEmpty sL.line = false
  ind : ∃ ind, sL.lineIndent sL.line = .ok ind ∧ 0 ≤ ind ∧ ind < 4
  yes : ∃ t1, test sL = .ok (true, t1)

/-- `s` with `tight` recomputed (what the loop does after every accepted block) -/
def retight (s : BState) (b : Bool) : BState := { s with tight := b }


/-- **C16, the list rule as a caller of the sweep (item termination).**  The loop runs the chain on `sE`,
    the members in front of the list rule decline, the list rule accepts and returns `s1`.  Then `s1` is
    the state `sL` at which the item loop stopped (node kind: the list's; the loop stopped at the end of
    the frame or by `listContinue` ON `sL`) with level / node kind restored and the list pushed.  And IF
    THE LIST STOPPED BECAUSE THE SWEEP SAID YES AT `sL` (`ListStop`) and the level is below the nesting
    limit (always, for the shipped rules: `list_end_is_real_start_shipped`), the yes came from a first
    member `j` — NOT the list rule: inside a list it never says yes —, and whenever this iteration
    returns, the loop goes round again at `retight s1 (!he)`, AT THE LINE OF THE SWEEP, runs the real
    chain there, and whenever that returns it ACCEPTED, with `j` or with a member in front of `j`. -/
theorem list_end_is_real_start (hE : E.OK) (h2 : E.OK2) {f : Nat} (he : Bool) {s sE : BState}
    {pre post : List ι} {i : ι} {s1 : BState}
    (hR : RunsChain E.cfg.maxNesting s sE) (hc : E.chain = pre ++ i :: post)
    (hd : Declined (E.rule f) pre sE false) (hi : E.base i = some .list)
    (hp : E.rule f i sE false = .ok (true, s1)) :
    ∃ ordered mc sL, isListKind sL.nodeKind = true ∧
      ((¬ sL.line < sL.lineMax) ∨ listContinue (E.test f) ordered mc sL sL.line = .ok (none, sL)) ∧
      (∃ c k lv, s1 = upd2 sL c sL.tight sL.refs k lv) ∧
      (ListStop (E.test f) sL → s1.level < E.cfg.maxNesting →
        ∃ pre0 j post0 t1, E.chain = pre0 ++ j :: post0 ∧ Declined (E.rule f) pre0 sL true ∧
          E.rule f j sL true = .ok (true, t1) ∧ E.base j ≠ some .list ∧
          ∀ r, tokStepG E.cfg.maxNesting E.chain (E.rule f) he s = .ok r →
            r = .next (he || s1.isEmpty (s1.line - 1)) (retight s1 (!he)) ∧
            (retight s1 (!he)).line = sL.line ∧
            RunsChain E.cfg.maxNesting (retight s1 (!he)) (retight s1 (!he)) ∧
            ∀ b' u', runChainG (E.rule f) E.chain (retight s1 (!he)) false = .ok (b', u') →
              b' = true ∧ ∃ pre' j' post', E.chain = pre' ++ j' :: post' ∧
                Declined (E.rule f) pre' (retight s1 (!he)) false ∧
                E.rule f j' (retight s1 (!he)) false = .ok (true, u') ∧
                ((pre' = pre0 ∧ j' = j) ∨ j' ∈ pre0)) := by
  have hq := hE.test_quiet f
  have hp0 := hp
  rw [E.rule_base f i _ hi] at hp
  simp only [runRule] at hp
  obtain ⟨ordered, mc, sL, lvl, node, hk, hex, rfl⟩ := listRule_ok hq hp
  refine ⟨ordered, mc, sL, hk, hex, ⟨_, _, _, by cases sL; rfl⟩, ?_⟩
  intro hstop hlv
  obtain ⟨t1, hyes⟩ := hstop.yes
  obtain ⟨g, rfl⟩ : ∃ g, f = g + 1 := by
    cases f with
    | zero => rw [E.test_zero] at hyes; cases hyes
    | succ g => exact ⟨g, rfl⟩
  rw [E.test_succ] at hyes
  have hyes' : runChainG (E.rule (g + 1)) E.chain sL true = .ok (true, t1) := by
    rw [← runChainG_silent_ext (fun i s => hE.silent_indep g (g + 1) i s)]; exact hyes
  obtain ⟨pre0, j, post0, hch0, hd0, hj⟩ := chain_true_split (hE.silent_no (g + 1)) E.chain hyes'
  have hjl : E.base j ≠ some .list := by
    intro h
    have := list_in_list E (f := g + 1) h hk
    rw [hj] at this; cases this
  refine ⟨pre0, j, post0, t1, hch0, hd0, hj, hjl, ?_⟩
  intro r hr
  have hchain := chain_accepts_at (post := post) hd hp0
  rw [← hc] at hchain
  have hr' := ((step_after_accept hR hchain hstop.nonblank r).mp hr).2
  obtain ⟨ind, hind, h0, _⟩ := hstop.ind
  have hnext := (next_iteration (chain := E.chain) (run := E.rule (g + 1))
    (u := retight { sL with level := lvl, nodeKind := sE.nodeKind, children := sE.children ++ [node] } (!he))
    (mn := E.cfg.maxNesting) hstop.lt hstop.nonblank hlv (ind := ind) hind).1 h0
  refine ⟨hr', rfl, hnext, ?_⟩
  intro b' u' hreal
  have hu : retight { sL with level := lvl, nodeKind := sE.nodeKind, children := sE.children ++ [node] } (!he)
      = upd2 sL (sE.children ++ [node]) (!he) sL.refs sE.nodeKind lvl := by cases sL; rfl
  have hju : E.rule (g + 1) j (upd2 sL (sE.children ++ [node]) (!he) sL.refs sE.nodeKind lvl) true
      = .ok (true, upd2 t1 (sE.children ++ [node]) (!he) sL.refs sE.nodeKind lvl) := by
    rw [h2 _ _ _ _ _ _ _ _ hjl, hj]; rfl
  rw [hch0, hu] at hreal
  obtain ⟨hb, pre', j', post', he', hd', hj', _, hor⟩ :=
    chain_agree (hE.false_same (g + 1)) (hE.silent_real (g + 1)) pre0 j post0 hju hreal
  rw [hu]
  exact ⟨hb, pre', j', post', by rw [hch0, he'], hd', hj', hor⟩


/-- for the shipped rules (any chain over the ten) the level condition of `list_end_is_real_start` always
    holds: the list rule hands back the level it found (`ruleAtH_progress`) -/
theorem list_level_shipped {cfg : Cfg} {chain : List RuleIdH} {f : Nat} {i : RuleIdH} {s sE s1 : BState}
    (hR : RunsChain cfg.maxNesting s sE) (hp : (engH cfg chain).rule f i sE false = .ok (true, s1)) :
    s1.level < cfg.maxNesting := by
  have h := (ruleAtH_progress (cfg := cfg) (chain := chain) (fuel := f) (r := i) hp hR.ltE hR.ind).2.2
  rw [h.level]; exact hR.lvl

/-- **list item termination, shipped rules**: `list_end_is_real_start` for every chain over the ten shipped
    rules, with no side condition left but the stop reason -/
theorem list_end_is_real_start_shipped (cfg : Cfg) (chain : List RuleIdH) {f : Nat} (he : Bool) {s sE : BState}
    {pre post : List RuleIdH} {s1 : BState}
    (hR : RunsChain cfg.maxNesting s sE) (hc : chain = pre ++ .base .list :: post)
    (hd : Declined ((engH cfg chain).rule f) pre sE false)
    (hp : (engH cfg chain).rule f (.base .list) sE false = .ok (true, s1)) :
    ∃ ordered mc sL, isListKind sL.nodeKind = true ∧
      ((¬ sL.line < sL.lineMax) ∨ listContinue ((engH cfg chain).test f) ordered mc sL sL.line = .ok (none, sL)) ∧
      (ListStop ((engH cfg chain).test f) sL →
        ∀ r, tokStepG cfg.maxNesting chain ((engH cfg chain).rule f) he s = .ok r →
          r = .next (he || s1.isEmpty (s1.line - 1)) (retight s1 (!he)) ∧
          (retight s1 (!he)).line = sL.line ∧
          RunsChain cfg.maxNesting (retight s1 (!he)) (retight s1 (!he)) ∧
          ∀ b' u', runChainG ((engH cfg chain).rule f) chain (retight s1 (!he)) false = .ok (b', u') → b' = true) := by
  obtain ⟨ordered, mc, sL, hk, hex, _, hmain⟩ :=
    list_end_is_real_start (E := engH cfg chain) (engH_ok cfg chain) (engH_ok2 cfg chain) he hR hc hd rfl hp
  refine ⟨ordered, mc, sL, hk, hex, ?_⟩
  intro hstop r hr
  obtain ⟨_, _, _, _, _, _, _, _, hall⟩ := hmain hstop (list_level_shipped hR hp)
  obtain ⟨h1, h2, h3, h4⟩ := hall r hr
  exact ⟨h1, h2, h3, fun b' u' h => (h4 b' u' h).1⟩

/-! ## 5. the blockquote rule: the lazy-continuation test -/


/-- **C16, the blockquote rule as a caller of the sweep (lazy continuation).**  The loop runs the chain on
    `sE`, the members in front of the blockquote rule decline, the blockquote rule accepts and returns
    `s1`, having handed the frame back as it found it (`Frame sE s1`: the rows it rewrote are restored —
    for the shipped rules always: `quote_end_is_real_start_shipped`).  Then it ran `bqScan` from `sE`, the
    scan ended by the sweep or without it (`bqScan_exit`), and IF THE SCAN STOPPED AT `nl` BECAUSE THE SWEEP
    SAID YES on `{ sB with line := nl }` (`sB`: the scan's state — `sE` except for the rows in front of
    `nl`) and the quote's tokenizer consumed all lines of the quote (`s1.line = nl`; it may stop earlier,
    at a lazy line not taken by a paragraph — then the loop stands there first), then the yes came from a
    first member `j`, and whenever this iteration returns, the loop goes round again at
    `retight s1 (!he)` — AT LINE `nl`, a state that agrees with the sweep's on everything look-ahead reads
    (row `nl` of the table: restored; `blk_indent`, `line_max`, level, node kind, `list_indent`, source) —,
    runs the real chain there, and whenever that returns it ACCEPTED, with `j` or a member in front of it. -/
theorem quote_end_is_real_start (hE : E.OK) (h3 : E.OK3) {f : Nat} (he : Bool) {s sE : BState}
    {pre post : List ι} {i : ι} {s1 : BState}
    (hR : RunsChain E.cfg.maxNesting s sE) (hc : E.chain = pre ++ i :: post)
    (hd : Declined (E.rule f) pre sE false) (hi : E.base i = some .blockquote)
    (hp : E.rule f i sE false = .ok (true, s1)) (hF : Frame sE s1) :
    ∃ nl old sB', bqScan (E.test f) (f + 1) sE sE.line [] false = .ok (nl, old, sB') ∧
      (BqSweepExit (E.test f) sE nl sB' ∨
        (¬ nl < sE.lineMax ∨ (∃ sB2, ScanInv sE nl sB2 ∧ sB' = sB2 ∧ (sB2.getLine nl = .ok [] ∨ True)))) ∧
      ∀ sB t1, ScanInv sE nl sB → E.test f { sB with line := nl } = .ok (true, t1) → nl < sE.lineMax →
        s1.line = nl → s1.isEmpty s1.line = false → (∃ ind, s1.lineIndent s1.line = .ok ind ∧ 0 ≤ ind) →
        ∃ pre0 j post0 t1', E.chain = pre0 ++ j :: post0 ∧
          Declined (E.rule f) pre0 { sB with line := nl } true ∧
          E.rule f j { sB with line := nl } true = .ok (true, t1') ∧
          ∀ r, tokStepG E.cfg.maxNesting E.chain (E.rule f) he s = .ok r →
            r = .next (he || s1.isEmpty (s1.line - 1)) (retight s1 (!he)) ∧
            RunsChain E.cfg.maxNesting (retight s1 (!he)) (retight s1 (!he)) ∧
            ∀ b' u', runChainG (E.rule f) E.chain (retight s1 (!he)) false = .ok (b', u') →
              b' = true ∧ ∃ pre' j' post', E.chain = pre' ++ j' :: post' ∧
                Declined (E.rule f) pre' (retight s1 (!he)) false ∧
                E.rule f j' (retight s1 (!he)) false = .ok (true, u') ∧
                ((pre' = pre0 ∧ j' = j) ∨ j' ∈ pre0) := by
  have hq := hE.test_quiet f
  have hp0 := hp
  rw [E.rule_base f i _ hi] at hp
  simp only [runRule] at hp
  obtain ⟨nl, old, sB', hscan⟩ := blockquote_scans hp
  refine ⟨nl, old, sB', hscan, (bqScan_exit hq _ sE _ _ _ _ _ _ _ hscan (ScanInv.refl _ _)).imp_right
    (.imp_right fun hinv => ⟨sB', hinv, rfl, .inr trivial⟩), ?_⟩
  intro sB t1 hinv hyes hlt hline hne hind
  obtain ⟨g, rfl⟩ : ∃ g, f = g + 1 := by
    cases f with
    | zero => rw [E.test_zero] at hyes; cases hyes
    | succ g => exact ⟨g, rfl⟩
  rw [E.test_succ] at hyes
  have hyes' : runChainG (E.rule (g + 1)) E.chain { sB with line := nl } true = .ok (true, t1) := by
    rw [← runChainG_silent_ext (fun i s => hE.silent_indep g (g + 1) i s)]; exact hyes
  obtain ⟨pre0, j, post0, hch0, hd0, hj⟩ := chain_true_split (hE.silent_no (g + 1)) E.chain hyes'
  refine ⟨pre0, j, post0, t1, hch0, hd0, hj, ?_⟩
  intro r hr
  have hchain := chain_accepts_at (post := post) hd hp0
  rw [← hc] at hchain
  have hr' := ((step_after_accept hR hchain hne r).mp hr).2
  obtain ⟨ind, hi1, h0⟩ := hind
  have hl1 : (retight s1 (!he)).line < (retight s1 (!he)).lineMax := by
    show s1.line < s1.lineMax
    rw [hline, hF.lineMax]; exact hlt
  have hlv : (retight s1 (!he)).level < E.cfg.maxNesting := by
    show s1.level < _
    rw [hF.level]; exact hR.lvl
  have hnext := (next_iteration (chain := E.chain) (run := E.rule (g + 1)) (u := retight s1 (!he))
    (mn := E.cfg.maxNesting) hl1 hne hlv (ind := ind) hi1).1 h0
  refine ⟨hr', hnext, ?_⟩
  intro b' u' hreal
  have hu : retight s1 (!he) = upd3 { sB with line := nl } sE.offs s1.children (!he) s1.refs := by
    obtain ⟨f1, f2, f3, f4, f5, f6, f7⟩ := hF
    obtain ⟨g1, g2, g3, g4, g5, g6, g7, g8, g9, g10⟩ := hinv.same
    cases s1; cases sB
    simp only [retight, upd3] at *
    subst_vars
    rfl
  have hrow : sE.offs[({ sB with line := nl } : BState).line]? = ({ sB with line := nl } : BState).offs[({ sB with line := nl } : BState).line]? :=
    (hinv.rows nl (Nat.le_refl _)).symm
  have hju : E.rule (g + 1) j (upd3 { sB with line := nl } sE.offs s1.children (!he) s1.refs) true
      = .ok (true, upd3 t1 sE.offs s1.children (!he) s1.refs) := by
    rw [h3 _ _ _ _ _ _ _ hrow, hj]; rfl
  rw [hch0, hu] at hreal
  obtain ⟨hb, pre', j', post', he', hd', hj', _, hor⟩ :=
    chain_agree (hE.false_same (g + 1)) (hE.silent_real (g + 1)) pre0 j post0 hju hreal
  rw [hu]
  exact ⟨hb, pre', j', post', by rw [hch0, he'], hd', hj', hor⟩


/-- **lazy-continuation test, shipped rules**: for every chain over the ten shipped rules the blockquote
    rule hands the frame back (`ruleAtH_progress`), so `quote_end_is_real_start` holds with no side condition
    but the stop reason, at every depth and every `blk_indent` -/
theorem quote_end_is_real_start_shipped (cfg : Cfg) (chain : List RuleIdH) {f : Nat} (he : Bool) {s sE : BState}
    {pre post : List RuleIdH} {s1 : BState}
    (hR : RunsChain cfg.maxNesting s sE) (hc : chain = pre ++ .base .blockquote :: post)
    (hd : Declined ((engH cfg chain).rule f) pre sE false)
    (hp : (engH cfg chain).rule f (.base .blockquote) sE false = .ok (true, s1)) :
    Frame sE s1 ∧
    ∃ nl old sB', bqScan ((engH cfg chain).test f) (f + 1) sE sE.line [] false = .ok (nl, old, sB') ∧
      ∀ sB t1, ScanInv sE nl sB → (engH cfg chain).test f { sB with line := nl } = .ok (true, t1) →
        nl < sE.lineMax → s1.line = nl → s1.isEmpty s1.line = false →
        (∃ ind, s1.lineIndent s1.line = .ok ind ∧ 0 ≤ ind) →
        ∀ r, tokStepG cfg.maxNesting chain ((engH cfg chain).rule f) he s = .ok r →
          r = .next (he || s1.isEmpty (s1.line - 1)) (retight s1 (!he)) ∧
          RunsChain cfg.maxNesting (retight s1 (!he)) (retight s1 (!he)) ∧
          ∀ b' u', runChainG ((engH cfg chain).rule f) chain (retight s1 (!he)) false = .ok (b', u') → b' = true := by
  have hF : Frame sE s1 :=
    (ruleAtH_progress (cfg := cfg) (chain := chain) (fuel := f) (r := .base .blockquote) hp hR.ltE hR.ind).2.2
  refine ⟨hF, ?_⟩
  obtain ⟨nl, old, sB', hscan, _, hmain⟩ :=
    quote_end_is_real_start (E := engH cfg chain) (engH_ok cfg chain) (engH_ok3 cfg chain) he hR hc hd rfl hp hF
  refine ⟨nl, old, sB', hscan, ?_⟩
  intro sB t1 hinv hyes hlt hline hne hind r hr
  obtain ⟨_, _, _, _, _, _, _, hall⟩ := hmain sB t1 hinv hyes hlt hline hne hind
  obtain ⟨h1, h2, h4⟩ := hall r hr
  exact ⟨h1, h2, fun b' u' h => (h4 b' u' h).1⟩

/-! ## 6. the custom-rule clause -/

/-- **C16, a custom block rule that follows the documented contract is invoked for real at every line it
    claimed.**  The chain: the ten shipped rules and ONE abstract custom rule `X`, anywhere, any order.
    `X` meets `CustomOK` (look-ahead: a verdict, may advance `line` — style A, `examples/ferris` —,
    creates nothing; the two modes agree; the verdict does not read the tree).  The loop runs the chain
    on `sE`, the paragraph rule's scan stops at `l` because the sweep said yes, AND THAT YES CAME FROM `X`
    (the members `pre0` in front of it declined in look-ahead mode).  Then the next iteration of the loop
    stands at `l` (the callers restored `line`, whatever `X` did to it), and when the line is not
    outdented and the real chain there returns, it accepted, and
      * `X` WAS RUN IN REAL MODE on that state and accepted — or
      * a shipped member IN FRONT of `X` took the line: one that declined in look-ahead mode at the very
        state and accepted in real mode — necessarily the html rule (start condition 7), the list rule
        (empty item / ordered item not starting at 1), or reference / lheading / paragraph placed in
        front of `X` (they never answer yes in look-ahead mode).
    In particular (`custom_rule_invoked_first`) with `X` in front of those five rules — e.g. first in
    the chain, `md.block.add_rule::<X>().before_all()` — `X` is always invoked for real. -/
theorem custom_rule_invoked_at_claimed_line {X : BState → Bool → Res} (hX : CustomOK X) (cfg : Cfg)
    (chain : List RuleIdX) {f : Nat} (he : Bool) {s sE : BState} {pre post : List RuleIdX} {i : RuleIdX}
    {b : Bool} {s1 : BState}
    (hR : RunsChain cfg.maxNesting s sE) (hc : chain = pre ++ i :: post)
    (hd : Declined ((engX X cfg chain).rule f) pre sE false) (hi : i = .std (.base .paragraph))
    (hp : (engX X cfg chain).rule f i sE false = .ok (b, s1)) :
    ∃ l p, p.kind = .paragraph ∧ s1 = upd { sE with line := l } (sE.children ++ [p]) sE.tight sE.refs ∧
      ∀ pre0 post0 t1, SweepStop ((engX X cfg chain).test f) sE l →
        chain = pre0 ++ .custom :: post0 →
        Declined ((engX X cfg chain).rule f) pre0 { sE with line := l } true →
        X { sE with line := l } true = .ok (true, t1) →
        let u := upd { sE with line := l } (sE.children ++ [p]) (!he) sE.refs
        tokStepG cfg.maxNesting chain ((engX X cfg chain).rule f) he s = .ok (.next (he || sE.isEmpty (l - 1)) u) ∧
        ∀ ind, u.lineIndent l = .ok ind → 0 ≤ ind →
          RunsChain cfg.maxNesting u u ∧
          ∀ b' u', runChainG ((engX X cfg chain).rule f) chain u false = .ok (b', u') →
            b' = true ∧
            (X u false = .ok (true, u') ∨
             ∃ j ∈ pre0, (engX X cfg chain).rule f j u true = .ok (false, u) ∧
               (engX X cfg chain).rule f j u false = .ok (true, u') ∧
               (j = .std .html ∨ j = .std (.base .list) ∨ j = .std (.base .reference) ∨
                j = .std (.base .lheading) ∨ j = .std (.base .paragraph))) := by
  subst hi
  have hE := engX_ok hX cfg chain
  obtain ⟨l, lvl, p, hs, hk, rfl, rfl, hmain⟩ :=
    paragraph_end_is_real_start (E := engX X cfg chain) hE he hR hc hd rfl hp
  refine ⟨l, p, hk, rfl, ?_⟩
  intro pre0 post0 t1 hstop hc0 hd0 hx
  obtain ⟨hstep, hH⟩ := hmain hstop
  refine ⟨hstep, ?_⟩
  intro ind hind h0
  refine ⟨hH.runs ind hind h0, ?_⟩
  intro b' u' hreal
  obtain ⟨pre1, j1, post1, t1', hc1, hd1, hj1, hall⟩ := hH.first_yes
  have hx' : (engX X cfg chain).rule f .custom { sE with line := l } true = .ok (true, t1) := hx
  obtain ⟨rfl, rfl⟩ := first_yes_unique pre0 pre1 (hc0.symm.trans hc1) hd0 hd1 hx' hj1
  obtain ⟨hb, pre', j', post', _, _, hj', _, hor⟩ := hall b' u' hreal
  refine ⟨hb, ?_⟩
  rcases hor with ⟨_, rfl⟩ | ⟨hm, hsil⟩
  · exact .inl hj'
  · refine .inr ⟨j', hm, hsil, hj', ?_⟩
    cases j' with
    | custom =>
      exfalso
      have h2 := hd0 .custom hm
      rw [hx'] at h2; cases h2
    | std j' =>
      cases j' with
      | html => exact .inl rfl
      | base r =>
        have := preempting_rule (engX X cfg chain) (j := .std (.base r)) (r := r) rfl hsil hj' hH.ind
        rcases this with rfl | rfl | rfl | rfl
        · exact .inr (.inl rfl)
        · exact .inr (.inr (.inl rfl))
        · exact .inr (.inr (.inr (.inl rfl)))
        · exact .inr (.inr (.inr (.inr rfl)))


/-- `X` in front of the five rules that can take a claimed line (e.g. first in the chain): it is ALWAYS
    run for real, and accepts, at the line it claimed -/
theorem custom_rule_invoked_first {X : BState → Bool → Res} (hX : CustomOK X) (cfg : Cfg)
    (chain : List RuleIdX) {f : Nat} (he : Bool) {s sE : BState} {pre post : List RuleIdX}
    {b : Bool} {s1 : BState}
    (hR : RunsChain cfg.maxNesting s sE) (hc : chain = pre ++ .std (.base .paragraph) :: post)
    (hd : Declined ((engX X cfg chain).rule f) pre sE false)
    (hp : (engX X cfg chain).rule f (.std (.base .paragraph)) sE false = .ok (b, s1))
    {pre0 post0 : List RuleIdX} (hc0 : chain = pre0 ++ .custom :: post0)
    (hfront : ∀ j ∈ pre0, j = .std (.base .code) ∨ j = .std (.base .fence) ∨ j = .std (.base .blockquote) ∨
      j = .std (.base .hr) ∨ j = .std (.base .heading)) :
    ∃ l p, s1 = upd { sE with line := l } (sE.children ++ [p]) sE.tight sE.refs ∧
      ∀ t1, SweepStop ((engX X cfg chain).test f) sE l →
        Declined ((engX X cfg chain).rule f) pre0 { sE with line := l } true →
        X { sE with line := l } true = .ok (true, t1) →
        ∀ ind, (upd { sE with line := l } (sE.children ++ [p]) (!he) sE.refs).lineIndent l = .ok ind → 0 ≤ ind →
          ∀ b' u', runChainG ((engX X cfg chain).rule f) chain
              (upd { sE with line := l } (sE.children ++ [p]) (!he) sE.refs) false = .ok (b', u') →
            X (upd { sE with line := l } (sE.children ++ [p]) (!he) sE.refs) false = .ok (true, u') := by
  obtain ⟨l, p, _, hs1, hall⟩ := custom_rule_invoked_at_claimed_line hX cfg chain he hR hc hd rfl hp
  refine ⟨l, p, hs1, ?_⟩
  intro t1 hstop hd0 hx ind hind h0 b' u' hreal
  obtain ⟨_, hrun⟩ := hall pre0 post0 t1 hstop hc0 hd0 hx
  obtain ⟨_, hor⟩ := (hrun ind hind h0).2 b' u' hreal
  rcases hor with h | ⟨j, hm, _, _, hj⟩
  · exact h
  · exfalso
    rcases hfront j hm with rfl | rfl | rfl | rfl | rfl <;> simp at hj

/-- **C16, a custom rule directly behind a list is invoked for real.**  The
    chain: the ten shipped rules and the custom rule `X` (`CustomOK X`, and its look-ahead reads neither
    node kind nor level: `hX2`).  The list rule accepted and its item loop stopped at `sL` because the
    sweep said yes, AND THAT YES CAME FROM `X` (`pre0` declined; `X` may have advanced `line` — style A:
    `listContinue` put it back).  Then, whenever this iteration returns, the loop stands next AT THE LINE
    `X` CLAIMED and runs the real chain there; and whenever that returns it accepted — `X` WAS RUN IN REAL
    MODE and accepted, or a member in front of `X` took the line. -/
theorem custom_rule_after_list {X : BState → Bool → Res} (hX : CustomOK X)
    (hX2 : ∀ s c b m k lv, X (upd2 s c b m k lv) true = Except.map (mp2 c b m k lv) (X s true))
    (cfg : Cfg) (chain : List RuleIdX) {f : Nat} (he : Bool) {s sE : BState} {pre post : List RuleIdX}
    {s1 : BState}
    (hR : RunsChain cfg.maxNesting s sE) (hc : chain = pre ++ .std (.base .list) :: post)
    (hd : Declined ((engX X cfg chain).rule f) pre sE false)
    (hp : (engX X cfg chain).rule f (.std (.base .list)) sE false = .ok (true, s1))
    (hlv : s1.level < cfg.maxNesting) :
    ∃ ordered mc sL,
      ((¬ sL.line < sL.lineMax) ∨ listContinue ((engX X cfg chain).test f) ordered mc sL sL.line = .ok (none, sL)) ∧
      ∀ pre0 post0 t1, ListStop ((engX X cfg chain).test f) sL → chain = pre0 ++ .custom :: post0 →
        Declined ((engX X cfg chain).rule f) pre0 sL true → X sL true = .ok (true, t1) →
        ∀ r, tokStepG cfg.maxNesting chain ((engX X cfg chain).rule f) he s = .ok r →
          r = .next (he || s1.isEmpty (s1.line - 1)) (retight s1 (!he)) ∧
          (retight s1 (!he)).line = sL.line ∧
          RunsChain cfg.maxNesting (retight s1 (!he)) (retight s1 (!he)) ∧
          ∀ b' u', runChainG ((engX X cfg chain).rule f) chain (retight s1 (!he)) false = .ok (b', u') →
            b' = true ∧
            (X (retight s1 (!he)) false = .ok (true, u') ∨
             ∃ j ∈ pre0, (engX X cfg chain).rule f j (retight s1 (!he)) false = .ok (true, u')) := by
  obtain ⟨ordered, mc, sL, _, hex, _, hmain⟩ :=
    list_end_is_real_start (E := engX X cfg chain) (engX_ok hX cfg chain) (engX_ok2 hX2 cfg chain) he hR hc hd rfl hp
  refine ⟨ordered, mc, sL, hex, ?_⟩
  intro pre0 post0 t1 hstop hc0 hd0 hx r hr
  obtain ⟨pre1, j1, post1, t1', hc1, hd1, hj1, _, hall⟩ := hmain hstop hlv
  have hx' : (engX X cfg chain).rule f .custom sL true = .ok (true, t1) := hx
  obtain ⟨rfl, rfl⟩ := first_yes_unique pre0 pre1 (hc0.symm.trans hc1) hd0 hd1 hx' hj1
  obtain ⟨h1, h2, h3, h4⟩ := hall r hr
  refine ⟨h1, h2, h3, ?_⟩
  intro b' u' hreal
  obtain ⟨hb, pre', j', post', _, _, hj', hor⟩ := h4 b' u' hreal
  refine ⟨hb, ?_⟩
  rcases hor with ⟨_, rfl⟩ | hm
  · exact .inl hj'
  · exact .inr ⟨j', hm, hj'⟩

/-- **a custom rule directly behind a block quote is invoked for real**: the quote's lazy-continuation
    test got its yes from `X` (style A allowed: `line` is dead in `bqScan`, the rule resets it); under
    `CustomOK X`, `hX3` (the look-ahead of `X` reads only the row `line` of the table) and the frame
    condition, the loop stands next at the claimed line, and whenever the real chain there returns it
    accepted, with `X` run for real or with a member in front of `X` -/
theorem custom_rule_after_quote {X : BState → Bool → Res} (hX : CustomOK X)
    (hX3 : ∀ s o c b m, o[s.line]? = s.offs[s.line]? → X (upd3 s o c b m) true = Except.map (mp3 o c b m) (X s true))
    (cfg : Cfg) (chain : List RuleIdX) {f : Nat} (he : Bool) {s sE : BState} {pre post : List RuleIdX}
    {s1 : BState}
    (hR : RunsChain cfg.maxNesting s sE) (hc : chain = pre ++ .std (.base .blockquote) :: post)
    (hd : Declined ((engX X cfg chain).rule f) pre sE false)
    (hp : (engX X cfg chain).rule f (.std (.base .blockquote)) sE false = .ok (true, s1)) (hF : Frame sE s1) :
    ∃ nl old sB', bqScan ((engX X cfg chain).test f) (f + 1) sE sE.line [] false = .ok (nl, old, sB') ∧
      ∀ sB t1 pre0 post0, ScanInv sE nl sB → nl < sE.lineMax → chain = pre0 ++ .custom :: post0 →
        Declined ((engX X cfg chain).rule f) pre0 { sB with line := nl } true →
        X { sB with line := nl } true = .ok (true, t1) →
        (engX X cfg chain).test f { sB with line := nl } = .ok (true, t1) →
        s1.line = nl → s1.isEmpty s1.line = false → (∃ ind, s1.lineIndent s1.line = .ok ind ∧ 0 ≤ ind) →
        ∀ r, tokStepG cfg.maxNesting chain ((engX X cfg chain).rule f) he s = .ok r →
          r = .next (he || s1.isEmpty (s1.line - 1)) (retight s1 (!he)) ∧
          RunsChain cfg.maxNesting (retight s1 (!he)) (retight s1 (!he)) ∧
          ∀ b' u', runChainG ((engX X cfg chain).rule f) chain (retight s1 (!he)) false = .ok (b', u') →
            b' = true ∧
            (X (retight s1 (!he)) false = .ok (true, u') ∨
             ∃ j ∈ pre0, (engX X cfg chain).rule f j (retight s1 (!he)) false = .ok (true, u')) := by
  have hE := engX_ok hX cfg chain
  obtain ⟨nl, old, sB', hscan, _, hmain⟩ :=
    quote_end_is_real_start (E := engX X cfg chain) hE (engX_ok3 hX3 cfg chain) he hR hc hd rfl hp hF
  refine ⟨nl, old, sB', hscan, ?_⟩
  intro sB t1 pre0 post0 hinv hlt hc0 hd0 hx hyes hline hne hind r hr
  have hx' : (engX X cfg chain).rule f .custom { sB with line := nl } true = .ok (true, t1) := hx
  obtain ⟨pre1, j1, post1, t1', hc1, hd1, hj1, hall⟩ := hmain sB t1 hinv hyes hlt hline hne hind
  obtain ⟨rfl, rfl⟩ := first_yes_unique pre0 pre1 (hc0.symm.trans hc1) hd0 hd1 hx' hj1
  obtain ⟨h1, h2, h4⟩ := hall r hr
  refine ⟨h1, h2, ?_⟩
  intro b' u' hreal
  obtain ⟨hb, pre', j', post', _, _, hj', hor⟩ := h4 b' u' hreal
  refine ⟨hb, ?_⟩
  rcases hor with ⟨_, rfl⟩ | hm
  · exact .inl hj'
  · exact .inr ⟨j', hm, hj'⟩

/-! ## 7. non-vacuity -/


def verdict : Res → Option Bool
  | .ok (b, _) => some b
  | .error _ => none

def scanView : Except Panic (Nat × Nat × BState) → Option (Nat × Nat)
  | .ok (l, lvl, _) => some (l, lvl)
  | .error _ => none

theorem verdict_ok {r : Res} {b : Bool} (h : verdict r = some b) : ∃ s', r = .ok (b, s') := by
  unfold verdict at h
  split at h
  · simp only [Option.some.injEq] at h; subst h; exact ⟨_, rfl⟩
  · cases h

theorem declined_of_verdicts {ι : Type} {run : ι → BState → Bool → Res}
    (hfs : ∀ i s s', run i s false = .ok (false, s') → s' = s) {pre : List ι} {s : BState}
    (h : ∀ j ∈ pre, verdict (run j s false) = some false) : Declined run pre s false := by
  intro j hj
  obtain ⟨s', hs⟩ := verdict_ok (h j hj)
  rw [hs, hfs _ _ _ hs]

/-- a decidable form of `SweepStop` -/
def sweepStopB (test : Test) (s : BState) (l : Nat) : Bool :=
  decide (l < s.lineMax) && !s.isEmpty l &&
  (match s.lineIndent l with | .ok ind => decide (ind < 4) | .error _ => false) &&
  (match s.off l with | .ok o => decide (0 ≤ o.indentNonspace) | .error _ => false) &&
  (match test { s with line := l } with | .ok (true, _) => true | _ => false)

theorem sweepStop_of_B {test : Test} {s : BState} {l : Nat} (h : sweepStopB test s l = true) :
    SweepStop test s l := by
  unfold sweepStopB at h
  simp only [Bool.and_eq_true, decide_eq_true_eq, Bool.not_eq_true'] at h
  obtain ⟨⟨⟨⟨h1, h2⟩, h3⟩, h4⟩, h5⟩ := h
  refine ⟨h1, h2, ?_, ?_, ?_⟩
  · split at h3
    · exact ⟨_, ‹_›, by simpa using h3⟩
    · cases h3
  · split at h4
    · exact ⟨_, ‹_›, by simpa using h4⟩
    · cases h4
  · split at h5
    · exact ⟨_, ‹_›⟩
    · cases h5

/-- the stock configuration (ten rules), `max_nesting = 100` -/
abbrev exE : Eng RuleIdH := engH (cfgOfH 100 stockH).base stockH

abbrev exS (src : String) : BState := BState.fresh src.toList .root []

/-- the lines at which the loop of the top frame stands, and the verdicts -/
def topLines (src : String) (F : Nat) : List Nat :=
  (frameTrace exE F (F + 1) false (exS src)).map (fun x => x.2.2.line)

-- "a\n# h\nb": the top loop stands at lines 0, 1, 2 (and 3 = `line_max`, where it ends) — the paragraph ends at line 1 because the sweep
-- (the heading rule) said yes there; the next iteration stands at 1 and the heading rule accepts
example : topLines "a\n# h\nb" 6 = [0, 1, 2, 3] ∧
    scanView (lazyScan (exE.test 6) false 7 (exS "a\n# h\nb") 0) = some (1, 0) ∧
    sweepStopB (exE.test 6) (exS "a\n# h\nb") 1 = true ∧
    rootKinds (parseBlocksH (cfgOfH 100 stockH) "a\n# h\nb".toList) = some [.paragraph, .atx 1, .paragraph] := by
  decide +kernel

-- "a\n- x\n> y": the list interrupts the paragraph at line 1 (sweep: the list rule), the quote
-- terminates the list at line 2 (`listContinue`: the sweep says yes — the blockquote rule)
example : topLines "a\n- x\n> y" 6 = [0, 1, 2, 3] ∧
    sweepStopB (exE.test 6) (exS "a\n- x\n> y") 1 = true ∧
    verdict (exE.test 6 { exS "a\n- x\n> y" with line := 2 }) = some true ∧
    rootKinds (parseBlocksH (cfgOfH 100 stockH) "a\n- x\n> y".toList)
      = some [.paragraph, .bulletList '-', .blockquote] := by
  decide +kernel

-- "- a\nb\n***": inside the item the paragraph runs over the lazy line 1 and ends at line 2 by the
-- sweep (hr) — an OUTDENTED line: the item's frame ends there (`Honoured.outdented`), the list asks the
-- sweep again (`listContinue`), and the top loop stands at line 2, where the hr rule accepts
example : topLines "- a\nb\n***" 6 = [0, 2, 3] ∧
    rootKinds (parseBlocksH (cfgOfH 100 stockH) "- a\nb\n***".toList) = some [.bulletList '-', .hr '*' 3] := by
  decide +kernel


/-- a NON-stock order: lheading in front of heading -/
def chainP : List RuleIdH := [.base .lheading, .base .heading, .base .paragraph]
abbrev exP : Eng RuleIdH := engH (cfgOfH 100 chainP).base chainP

def kindsOf : Except Panic BState → Option (List Kind)
  | .ok s => some (s.children.map (·.kind))
  | .error _ => none

-- (NOT reachable through the shipped `add` functions: `lheading::add` registers `.after_all()`, so heading
-- always precedes lheading — the crate with lheading added first still gives `<h1>h</h1><p>===</p>` —; this
-- order needs raw `add_rule`.)
-- the "earlier member" alternative of `Honoured.first_yes` is REAL.  "a\n# h\n===" with lheading in front
-- of heading: the paragraph ends at line 1 because the HEADING rule said yes in the sweep (lheading
-- never says yes in look-ahead mode); at line 1 the real chain accepts with LHEADING ("# h" becomes the
-- text of a setext heading) — the heading rule that claimed the line is not run.  With the stock order
-- (heading in front of lheading) the claimant wins.
example : sweepStopB (exP.test 6) (exS "a\n# h\n===") 1 = true ∧
    verdict (exP.rule 6 (.base .lheading) { exS "a\n# h\n===" with line := 1 } true) = some false ∧
    verdict (exP.rule 6 (.base .lheading) { exS "a\n# h\n===" with line := 1 } false) = some true ∧
    kindsOf (exP.tok 7 (exS "a\n# h\n===")) = some [.paragraph, .setext 1 '='] ∧
    kindsOf (exE.tok 7 (exS "a\n# h\n===")) = some [.paragraph, .atx 1, .paragraph] := by
  decide +kernel

/-- a decidable form of `RunsChain mn u u` -/
def runsB (mn : Nat) (u : BState) : Bool :=
  decide (u.line < u.lineMax) && !u.isEmpty u.line && decide (u.level < mn) &&
  (match u.lineIndent u.line with | .ok ind => decide (0 ≤ ind) | .error _ => false)

theorem runsChain_of_B {mn : Nat} {u : BState} (h : runsB mn u = true) : RunsChain mn u u := by
  unfold runsB at h
  simp only [Bool.and_eq_true, decide_eq_true_eq, Bool.not_eq_true'] at h
  obtain ⟨⟨⟨h1, h2⟩, h3⟩, h4⟩ := h
  split at h4
  · rename_i ind hi
    exact (next_iteration (chain := ([] : List Unit)) (run := fun _ s _ => .ok (false, s)) h1 h2 h3 hi).1
      (by simpa using h4)
  · cases h4

/-- **the hypotheses of `paragraph_end_is_real_start_run` are satisfiable** — "a\n# h\nb", stock chain: the
    loop of the top frame stands at the start, the eight rules in front of the paragraph rule decline,
    the paragraph rule's scan stops at line 1 because the sweep said yes; hence the loop stands next at a
    state of the run at line 1 at which the yes is honoured -/
example : ∃ he' u, Reach exE 6 (exS "a\n# h\nb") 6 6 he' u ∧ u.line = 1 ∧
    Honoured exE 6 { exS "a\n# h\nb" with line := 1 } u := by
  have hE := engH_ok (cfgOfH 100 stockH).base stockH
  have hc : exE.chain = [.base .code, .base .fence, .base .blockquote, .base .hr, .base .list,
      .base .reference, .html, .base .heading, .base .lheading] ++ RuleIdH.base .paragraph :: [] := rfl
  have hR : RunsChain exE.cfg.maxNesting (exS "a\n# h\nb") (exS "a\n# h\nb") :=
    runsChain_of_B (by decide +kernel)
  have hd := declined_of_verdicts (run := exE.rule 6) (hE.false_same 6)
    (pre := [.base .code, .base .fence, .base .blockquote, .base .hr, .base .list,
      .base .reference, .html, .base .heading, .base .lheading]) (s := exS "a\n# h\nb") (by decide +kernel)
  obtain ⟨s1, hp⟩ := verdict_ok (r := exE.rule 6 (.base .paragraph) (exS "a\n# h\nb") false) (b := true)
    (by decide +kernel)
  obtain ⟨l, lvl, p, hs, _, hmain⟩ := paragraph_end_is_real_start_run hE (.init) hR hc hd rfl hp
  have hl : l = 1 := by
    have h1 : scanView (lazyScan (exE.test 6) false 7 (exS "a\n# h\nb") 0) = some (1, 0) := by decide +kernel
    have h2 : lazyScan (exE.test 6) false 7 (exS "a\n# h\nb") 0 = .ok (l, lvl, exS "a\n# h\nb") := hs
    rw [h2] at h1
    simp only [scanView, Option.some.injEq, Prod.mk.injEq] at h1
    exact h1.1
  subst hl
  exact hmain (sweepStop_of_B (by decide +kernel))

/-! ### a concrete custom rule of style A (advances `line` in look-ahead mode, like `examples/ferris`) -/

/-- a line starting with `!` is a block of its own; look-ahead: `state.line += 1; true`, nothing created -/
def bangRule (s : BState) (silent : Bool) : Res :=
  match s.getLine s.line with
  | .error e => .error e
  | .ok l =>
    if l.head? = some '!' then
      (if silent then .ok (true, { s with line := s.line + 1 })
       else .ok (true, { s.push ⟨.hr '!' 1, none, []⟩ with line := s.line + 1 }))
    else .ok (false, s)

theorem bangRule_inv {s s' : BState} {silent b : Bool} (h : bangRule s silent = .ok (b, s')) :
    ∃ l, s.getLine s.line = .ok l ∧
      ((l.head? ≠ some '!' ∧ b = false ∧ s' = s) ∨
       (l.head? = some '!' ∧ b = true ∧
        s' = if silent then { s with line := s.line + 1 }
             else { s.push ⟨.hr '!' 1, none, []⟩ with line := s.line + 1 })) := by
  unfold bangRule at h
  cases hl : s.getLine s.line with
  | error e => simp only [hl] at h; cases h
  | ok l =>
    simp only [hl] at h
    refine ⟨l, rfl, ?_⟩
    by_cases hh : l.head? = some '!'
    · rw [if_pos hh] at h
      cases silent <;> cases h <;> exact .inr ⟨hh, rfl, rfl⟩
    · rw [if_neg hh] at h
      cases h
      exact .inl ⟨hh, rfl, rfl⟩

theorem bangRule_ok : CustomOK bangRule where
  silent_no := by
    intro s s' h
    obtain ⟨_, _, ⟨_, _, rfl⟩ | ⟨_, hb, _⟩⟩ := bangRule_inv h
    · rfl
    · cases hb
  silent_yes := by
    intro s s' h
    obtain ⟨_, _, ⟨_, hb, _⟩ | ⟨_, _, rfl⟩⟩ := bangRule_inv h
    · cases hb
    · cases s; rfl
  real_no := by
    intro s s' h
    obtain ⟨_, _, ⟨_, _, rfl⟩ | ⟨_, hb, _⟩⟩ := bangRule_inv h
    · rfl
    · cases hb
  agree := by
    intro s s1 s2 b h1 h2
    obtain ⟨l, hl, ⟨_, hb, _⟩ | ⟨hh, _, _⟩⟩ := bangRule_inv h1
    · cases hb
    obtain ⟨l', hl', ⟨hn, _, _⟩ | ⟨_, hb, _⟩⟩ := bangRule_inv h2
    · cases hl.symm.trans hl'
      exact absurd hh hn
    · exact hb
  reads := by
    intro s c b m
    unfold bangRule
    simp only [upd_getLine, upd_line]
    repeat' (first | rfl | split)

/-- `!`-rule first, then the ten shipped rules -/
def chainX : List RuleIdX := .custom :: stockH.map .std

abbrev exX : Eng RuleIdX := engX bangRule (cfgOfH 100 stockH).base chainX

-- "a\n!x\nb": the paragraph ends at line 1 because the sweep's yes came from the custom rule — which
-- left `line` at 2 —; the scan restored `line`, the next iteration stands at 1 and the custom rule is
-- run for real there.  "- a\n!x": the same behind a list (`listContinue` restores `line`)
example : sweepStopB (exX.test 6) (exS "a\n!x\nb") 1 = true ∧
    (match bangRule { exS "a\n!x\nb" with line := 1 } true with | .ok (b, s) => some (b, s.line) | _ => none)
      = some (true, 2) ∧
    kindsOf (exX.tok 7 (exS "a\n!x\nb")) = some [.paragraph, .hr '!' 1, .paragraph] ∧
    kindsOf (exX.tok 7 (exS "- a\n!x")) = some [.bulletList '-', .hr '!' 1] ∧
    kindsOf (exX.tok 7 (exS "> a\n!x\n")) = some [.blockquote, .hr '!' 1] := by
  decide +kernel

/-- the concrete style-A rule `bangRule` meets the extra hypothesis of `custom_rule_after_list` -/
theorem bangRule_reads2 (s c b m k lv) :
    bangRule (upd2 s c b m k lv) true = Except.map (mp2 c b m k lv) (bangRule s true) := by
  unfold bangRule
  simp only [upd2_getLine, upd2_line]
  repeat' (first | rfl | split)

-- "- a\n!x" (`!`-rule first, then the ten shipped rules): inside the list the termination test asks the
-- sweep at line 1, the `!`-rule says yes (and moves `line` to 2), `listContinue` puts `line` back, the
-- list ends, the top loop stands at line 1 and the `!`-rule is run for real
example :
    (frameTrace exX 6 7 false (exS "- a\n!x")).map (fun x => x.2.2.line) = [0, 1, 2] ∧
    kindsOf (exX.tok 7 (exS "- a\n!x")) = some [.bulletList '-', .hr '!' 1] := by
  decide +kernel

/-- the concrete style-A rule `bangRule` meets `hX3` -/
theorem bangRule_reads3 (s : BState) (o c b m) (h : o[s.line]? = s.offs[s.line]?) :
    bangRule (upd3 s o c b m) true = Except.map (mp3 o c b m) (bangRule s true) := by
  unfold bangRule
  rw [SameRow.getLine (sameRow_upd3 h c b m)]
  simp only [upd3_line]
  repeat' (first | rfl | split)

-- "> a\n# h": the lazy-continuation test at line 1 gets a yes (heading), the quote ends, the top loop
-- stands at line 1 and the heading rule accepts; "> a\n!x": the same with the style-A custom rule
example :
    (frameTrace exE 6 7 false (exS "> a\n# h")).map (fun x => x.2.2.line) = [0, 1, 2] ∧
    kindsOf (exE.tok 7 (exS "> a\n# h")) = some [.blockquote, .atx 1] ∧
    (frameTrace exX 6 7 false (exS "> a\n!x")).map (fun x => x.2.2.line) = [0, 1, 2] ∧
    kindsOf (exX.tok 7 (exS "> a\n!x")) = some [.blockquote, .hr '!' 1] := by
  decide +kernel

end MdIt.BlockH.C16
