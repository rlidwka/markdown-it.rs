/-
  C11 — code content is opaque and reproduced verbatim: the code-span part.

  `span_verbatim`      : `` `ⁿ ␠ T ␠ `ⁿ `` at position 0, fresh cache: one node spanning everything,
                         content = `T` with '\n' ↦ ' '.
  `span_raw_ctx`       : the general span `` mᵏ⁺¹ R mᵏ⁺¹ `` (`RawOk`: `R` not empty, no marker at either end, no run of
                         `k + 1` markers; padded or not) anywhere in a paragraph (`pre ++ span ++ W ++ Z`), called
                         with ANY cache satisfying the invariant the rule maintains (`CacheInv`, preserved by
                         every call — `cacheInv_run`), any `pos_max` at or after the closer.
  `span_verbatim_ctx`  : the padded case `R = ␠ T ␠`.
  `no_early_close`, `strip_exact` : the two lemmas behind it.
  `span_opaque`        : for EVERY successful real-mode call on every source and cache, the content is
                         `unpad (normalise (src[pos+L .. pos+len-L]))` — a function of the characters
                         between the delimiters only; nothing inside is interpreted.
-/
import MdIt.Props.CodePair
namespace MdIt.CodePair

theorem infix_cons_ne {m c : Char} {n : Nat} {T : List Char} (hn : 0 < n) (hc : m ≠ c)
    (h : List.replicate n m <:+: c :: T) : List.replicate n m <:+: T := by
  obtain ⟨a, b, hab⟩ := h
  cases a with
  | nil =>
    obtain ⟨k, rfl⟩ : ∃ k, n = k + 1 := ⟨n - 1, by omega⟩
    simp [List.replicate_succ] at hab
    exact absurd hab.1 hc
  | cons d a =>
    simp at hab
    exact ⟨a, b, by simpa using hab.2⟩

theorem infix_concat_ne {m c : Char} {n : Nat} {T : List Char} (hn : 0 < n) (hc : m ≠ c)
    (h : List.replicate n m <:+: T ++ [c]) : List.replicate n m <:+: T := by
  have h' : (List.replicate n m).reverse <:+: (T ++ [c]).reverse := List.reverse_infix.mpr h
  rw [List.reverse_replicate, List.reverse_append] at h'
  have := infix_cons_ne hn hc h'
  rw [← List.reverse_replicate] at this
  exact List.reverse_infix.mp this

/-- **no early close.** If `T` has no run of `n` markers (every marker run in `T` is shorter than
    `n`), neither has `␠ T ␠`: the padding spaces cannot create or lengthen a run, whatever `T`
    starts or ends with. -/
theorem no_early_close {m : Char} {n : Nat} {T : List Char} (hn : 0 < n) (hm : m ≠ ' ')
    (h : ¬ List.replicate n m <:+: T) : ¬ List.replicate n m <:+: ' ' :: T ++ [' '] := by
  intro hi
  apply h
  have := infix_concat_ne (T := ' ' :: T) hn hm (by simpa using hi)
  exact infix_cons_ne hn hm this

/-- **strip exact.** From `␠ U ␠` with `U` non-empty exactly the one padding pair is removed —
    also when `U` itself starts and/or ends with spaces, or consists of spaces only. -/
theorem strip_exact (U : List Char) (hU : U ≠ []) :
    padded (' ' :: U ++ [' ']) = true ∧ unpad (' ' :: U ++ [' ']) = U := by
  have hsp : (' ' : Char).utf8Size = 1 := by decide
  have hp : padded (' ' :: U ++ [' ']) = true := by
    unfold padded
    have hpos : 0 < byteLen U := by
      cases U with
      | nil => exact absurd rfl hU
      | cons d t => have := Char.utf8Size_pos d; simp [byteLen]; omega
    simp [byteLen, byteLen_append, hsp]
    refine ⟨?_, by omega⟩
    rw [show ' ' :: (U ++ [' ']) = (' ' :: U) ++ [' '] by simp, List.getLast?_concat]
  exact ⟨hp, unpad_eq hp⟩

/-- without content between the padding spaces nothing is stripped (`` `  ` `` keeps both) -/
example : padded [' ', ' '] = false ∧ unpad [' ', ' '] = [' ', ' '] := by decide +kernel

theorem normalise_append (a b : List Char) : normalise (a ++ b) = normalise a ++ normalise b := by
  simp [normalise]

theorem normalise_ne_nil {T : List Char} (h : T ≠ []) : normalise T ≠ [] := by
  cases T with
  | nil => exact absurd rfl h
  | cons c t => simp [normalise]


/-- the loop started in front of `M0 ++ [e] ++ mᵏ⁺¹ ++ W` (`e ≠ m`, no run of `k + 1` markers in `M0`,
    `W` not starting with the marker) stops at that run -/
theorem span_scan_any (v : Variant) (m : Char) (hm1 : m.utf8Size = 1) (e : Char) (hm : m ≠ e)
    (src : List Char) (pos p posMax k : Nat) (X0 W Z : List Char) (hW : W.head? ≠ some m) :
    ∀ (M0 X1 : List Char) (matchEnd : Nat) (c : Cache),
      ¬ List.replicate (k + 1) m <:+: M0 →
      Frame src pos p posMax matchEnd X0 X1 (M0 ++ [e] ++ List.replicate (k + 1) m ++ W) Z →
      ∃ c', scan v m src pos posMax (k + 1) p false matchEnd c =
        .ok (some ⟨matchEnd + byteLen (M0 ++ [e]) + (k + 1) - pos,
              some (nodeOf pos p (matchEnd + byteLen (M0 ++ [e])) (matchEnd + byteLen (M0 ++ [e]) + (k + 1))
                (k + 1) (X1 ++ (M0 ++ [e])))⟩, c') := by
  intro M0
  induction M0 using runs_induction (m := m) with
  | nomark M0 hM0 =>
    intro X1 matchEnd c _ f
    have hA : m ∉ M0 ++ [e] := by simp [hM0, hm]
    rw [f.scan_step v hm1 hA hW, if_pos rfl, if_neg (by simp)]
    exact ⟨c, rfl⟩
  | hit A j T hA hT ih =>
    intro X1 matchEnd c hni f
    have hjk : j + 1 ≠ k + 1 := by
      intro e'; apply hni; rw [e']; exact ⟨A, T, rfl⟩
    have hT' : (T ++ [e] ++ List.replicate (k + 1) m ++ W).head? ≠ some m := by
      cases T with
      | nil => simp; exact fun e' => hm e'.symm
      | cons t T => simpa using hT
    have f' : Frame src pos p posMax matchEnd X0 X1
        (A ++ List.replicate (j + 1) m ++ (T ++ [e] ++ List.replicate (k + 1) m ++ W)) Z := by
      have e' : A ++ List.replicate (j + 1) m ++ T ++ [e] ++ List.replicate (k + 1) m ++ W =
          A ++ List.replicate (j + 1) m ++ (T ++ [e] ++ List.replicate (k + 1) m ++ W) := by simp
      rw [← e']; exact f
    rw [f'.scan_step v hm1 hA hT', if_neg hjk]
    have hni' : ¬ List.replicate (k + 1) m <:+: T := by
      intro ⟨a, b, hab⟩
      apply hni
      exact ⟨A ++ List.replicate (j + 1) m ++ a, b, by rw [← hab]; simp⟩
    obtain ⟨c', hc'⟩ := ih (X1 ++ A ++ List.replicate (j + 1) m) _ _ hni' (f'.next hm1)
    refine ⟨c', ?_⟩
    rw [hc']
    have e1 : matchEnd + byteLen A + (j + 1) + byteLen (T ++ [e]) =
        matchEnd + byteLen (A ++ List.replicate (j + 1) m ++ T ++ [e]) := by
      simp only [byteLen_append, byteLen_replicate hm1]; omega
    have e2 : X1 ++ A ++ List.replicate (j + 1) m ++ (T ++ [e]) =
        X1 ++ (A ++ List.replicate (j + 1) m ++ T ++ [e]) := by simp
    rw [e1, e2]

theorem span_scan (v : Variant) (m : Char) (hm1 : m.utf8Size = 1) (hm : m ≠ ' ') (src : List Char)
    (pos p posMax k : Nat) (X0 W Z : List Char) (hW : W.head? ≠ some m) :
    ∀ (M0 X1 : List Char) (matchEnd : Nat) (c : Cache),
      ¬ List.replicate (k + 1) m <:+: M0 →
      Frame src pos p posMax matchEnd X0 X1 (M0 ++ [' '] ++ List.replicate (k + 1) m ++ W) Z →
      ∃ c', scan v m src pos posMax (k + 1) p false matchEnd c =
        .ok (some ⟨matchEnd + byteLen M0 + 1 + (k + 1) - pos,
              some (nodeOf pos p (matchEnd + byteLen M0 + 1) (matchEnd + byteLen M0 + 1 + (k + 1))
                (k + 1) (X1 ++ M0 ++ [' ']))⟩, c') := by
  intro M0 X1 matchEnd c hni f
  have hb : byteLen (M0 ++ [' ']) = byteLen M0 + 1 := by
    rw [byteLen_append]; rfl
  have h := span_scan_any v m hm1 ' ' hm src pos p posMax k X0 W Z hW M0 X1 matchEnd c hni f
  rwa [hb, ← List.append_assoc] at h


theorem nodeOf_padded (pos p ms me n : Nat) (T : List Char) (hT : T ≠ []) :
    nodeOf pos p ms me n (' ' :: T ++ [' ']) = ⟨n, pos, me, p + 1, ms - 1, normalise T⟩ := by
  have hn : normalise (' ' :: T ++ [' ']) = ' ' :: normalise T ++ [' '] := by
    simp [normalise]
  obtain ⟨h1, h2⟩ := strip_exact (normalise T) (normalise_ne_nil hT)
  unfold nodeOf
  rw [hn, h2, if_pos h1, if_pos h1]

/-- the content between the runs: not empty, no marker at either end, no run of `k + 1` markers -/
structure RawOk (m : Char) (k : Nat) (R : List Char) : Prop where
  ne : R ≠ []
  head : R.head? ≠ some m
  last : R.getLast? ≠ some m
  runs : ¬ List.replicate (k + 1) m <:+: R

/-- **the code-span rule on the general span** `pre ++ mᵏ⁺¹ R mᵏ⁺¹ ++ W ++ Z` (`RawOk m k R`), called in real
    mode at the opener: `Some(len)` with `len` the whole span; the node is `nodeOf …  R` — content
    `unpad (normalise R)`, inner range moved inwards by one byte on either side iff the padding pair goes. -/
theorem span_raw_ctx (m : Char) (hm1 : m.utf8Size = 1)
    (pre R W Z : List Char) (k : Nat) (hR : RawOk m k R)
    (hW : W.head? ≠ some m) (prev : Bool) (c : Cache)
    (hinv : CacheInv m (pre ++ (List.replicate (k + 1) m ++ R ++ List.replicate (k + 1) m) ++ W ++ Z) c)
    (hins : c.insideFailed.contains (byteLen pre) = false)
    (hcut : byteLen pre + (2 * (k + 1) + byteLen R) + byteLen W = c.scannedTo ∨
      NoCut m (pre ++ (List.replicate (k + 1) m ++ R ++ List.replicate (k + 1) m) ++ W ++ Z)
        (byteLen pre + (2 * (k + 1) + byteLen R) + byteLen W)) :
    ∃ c', run Variant.current m
        (pre ++ (List.replicate (k + 1) m ++ R ++ List.replicate (k + 1) m) ++ W ++ Z)
        (byteLen pre) (byteLen pre + (2 * (k + 1) + byteLen R) + byteLen W) prev false c =
      .ok (some ⟨2 * (k + 1) + byteLen R,
        some (nodeOf (byteLen pre) (byteLen pre + (k + 1)) (byteLen pre + (k + 1) + byteLen R)
          (byteLen pre + (2 * (k + 1) + byteLen R)) (k + 1) R)⟩, c') := by
  have hrep := byteLen_replicate hm1
  obtain ⟨M0, e, hMe⟩ : ∃ M0 e, R = M0 ++ [e] := by
    rcases List.eq_nil_or_concat R with h | ⟨i, l, h⟩
    · exact absurd h hR.ne
    · exact ⟨i, l, by simpa using h⟩
  have hme : m ≠ e := by
    intro h
    apply hR.last
    rw [hMe, List.getLast?_concat, h]
  have hniM : ¬ List.replicate (k + 1) m <:+: M0 := by
    intro ⟨a, b, hab⟩
    apply hR.runs
    exact ⟨a, b ++ [e], by rw [hMe, ← hab]; simp⟩
  generalize hsrc : pre ++ (List.replicate (k + 1) m ++ R ++ List.replicate (k + 1) m) ++ W ++ Z = src at hinv hcut ⊢
  generalize hpm : byteLen pre + (2 * (k + 1) + byteLen R) + byteLen W = posMax at hcut ⊢
  let rest := List.replicate k m ++ (R ++ List.replicate (k + 1) m ++ W)
  have hu : slice src (byteLen pre) posMax = some (m :: rest) := by
    have := slice_mid pre (m :: rest) Z
    have e1 : src = pre ++ (m :: rest) ++ Z := by
      rw [← hsrc]; simp [rest, List.replicate_succ]
    have e2 : byteLen pre + byteLen (m :: rest) = posMax := by
      rw [← hpm]; simp [rest, byteLen, byteLen_append, hrep, hm1]; omega
    rw [e1, ← e2]; exact this
  have hrl : runLen m rest = k := by
    apply runLen_replicate
    cases R with
    | nil => exact absurd rfl hR.ne
    | cons d t => simpa using hR.head
  have key : ∀ d : Cache, d.scanned = false → d.insideFailed.contains (byteLen pre) = false →
      ∃ c', run Variant.current m src (byteLen pre) posMax prev false d =
        .ok (some ⟨2 * (k + 1) + byteLen R,
          some (nodeOf (byteLen pre) (byteLen pre + (k + 1)) (byteLen pre + (k + 1) + byteLen R)
            (byteLen pre + (2 * (k + 1) + byteLen R)) (k + 1) R)⟩, c') := by
    intro d hd hdi
    rw [run_marker Variant.current m prev false d hu, if_neg (by simp [Variant.current]),
      if_neg (fun h => by rw [hdi] at h; exact Bool.false_ne_true h.2),
      if_neg (by simp [consultable, hd]), hrl]
    have f : Frame src (byteLen pre) (byteLen pre + 1 + k) posMax (byteLen pre + 1 + k)
        (pre ++ List.replicate (k + 1) m) []
        (M0 ++ [e] ++ List.replicate (k + 1) m ++ W) Z := by
      refine ⟨?_, ?_, ?_, ?_, by omega⟩
      · rw [← hsrc, hMe]; simp
      · rw [byteLen_append, hrep]; omega
      · simp [byteLen]
      · rw [← hpm, hMe]; simp only [byteLen_append, hrep]; omega
    obtain ⟨c', hc'⟩ := span_scan_any Variant.current m hm1 e hme src (byteLen pre) (byteLen pre + 1 + k)
      posMax k (pre ++ List.replicate (k + 1) m) W Z hW M0 [] (byteLen pre + 1 + k) d hniM f
    refine ⟨c', ?_⟩
    rw [show 1 + k = k + 1 by omega, hc', ← hMe, List.nil_append]
    have e_len : byteLen pre + 1 + k + byteLen R + (k + 1) - byteLen pre = 2 * (k + 1) + byteLen R := by omega
    have e_end : byteLen pre + 1 + k + byteLen R + (k + 1) = byteLen pre + (2 * (k + 1) + byteLen R) := by omega
    have e_p : byteLen pre + 1 + k = byteLen pre + (k + 1) := by omega
    rw [e_len, e_end, e_p]
  obtain ⟨c0, hc0⟩ := key { c with scanned := false } rfl hins
  have ht := cache_transparent Variant.current rfl rfl m hm1 src (byteLen pre) posMax prev false c hinv hcut
  rw [hc0] at ht
  cases hrun : run Variant.current m src (byteLen pre) posMax prev false c with
  | error e => rw [hrun] at ht; cases ht
  | ok x =>
    rw [hrun] at ht
    obtain ⟨r, c'⟩ := x
    have hr : (r, c').1 = ((some ⟨2 * (k + 1) + byteLen R,
        some (nodeOf (byteLen pre) (byteLen pre + (k + 1)) (byteLen pre + (k + 1) + byteLen R)
          (byteLen pre + (2 * (k + 1) + byteLen R)) (k + 1) R)⟩ : Option Outcome), c0).1 := by
      injection ht
    simp only at hr
    exact ⟨c', by rw [hr]⟩

/-- **C11 (code span, in context).** Let the paragraph be `pre ++ mᵏ⁺¹ ␠ T ␠ mᵏ⁺¹ ++ W ++ Z`
    with `T` non-empty, no run of `k+1` markers inside `T` (every run in `T` is shorter than the
    delimiters — or longer runs are absent: only "no run of exactly-or-more `k+1`" is used), and
    `W` (the text up to `pos_max`) not starting with the marker. Call the rule in real mode at the
    opener with ANY cache `c` that satisfies the invariant maintained by the rule (`cacheInv_run`),
    does not list the position as inside a failed run, and whose table is applicable
    (`pos_max = scanned_to` or `pos_max` not cutting a run). Then it answers `Some(len)` with `len`
    the whole span, and the node's single text is `T` with every `'\n'` turned into `' '`:
    nothing else in `T` is touched, the one padding pair is removed. -/
theorem span_verbatim_ctx (m : Char) (hm1 : m.utf8Size = 1) (hm : m ≠ ' ')
    (pre T W Z : List Char) (k : Nat) (hT : T ≠ []) (hruns : ¬ List.replicate (k + 1) m <:+: T)
    (hW : W.head? ≠ some m) (prev : Bool) (c : Cache)
    (hinv : CacheInv m (pre ++ (List.replicate (k + 1) m ++ [' '] ++ T ++ [' '] ++
      List.replicate (k + 1) m) ++ W ++ Z) c)
    (hins : c.insideFailed.contains (byteLen pre) = false)
    (hcut : byteLen pre + (2 * (k + 1) + 2 + byteLen T) + byteLen W = c.scannedTo ∨
      NoCut m (pre ++ (List.replicate (k + 1) m ++ [' '] ++ T ++ [' '] ++
        List.replicate (k + 1) m) ++ W ++ Z) (byteLen pre + (2 * (k + 1) + 2 + byteLen T) + byteLen W)) :
    ∃ c', run Variant.current m
        (pre ++ (List.replicate (k + 1) m ++ [' '] ++ T ++ [' '] ++ List.replicate (k + 1) m) ++ W ++ Z)
        (byteLen pre) (byteLen pre + (2 * (k + 1) + 2 + byteLen T) + byteLen W) prev false c =
      .ok (some ⟨2 * (k + 1) + 2 + byteLen T,
        some ⟨k + 1, byteLen pre, byteLen pre + (2 * (k + 1) + 2 + byteLen T),
          byteLen pre + (k + 1) + 1, byteLen pre + (k + 1) + 1 + byteLen T, normalise T⟩⟩, c') := by
  have hR : RawOk m k (' ' :: T ++ [' ']) :=
    ⟨by simp, by simpa using hm.symm, by rw [List.getLast?_concat]; simpa using hm.symm,
      no_early_close (Nat.succ_pos k) hm hruns⟩
  have hb : byteLen (' ' :: T ++ [' ']) = byteLen T + 2 := by
    simp only [List.cons_append, byteLen, byteLen_append, show ' '.utf8Size = 1 by decide]; omega
  have e : List.replicate (k + 1) m ++ [' '] ++ T ++ [' '] ++ List.replicate (k + 1) m =
      List.replicate (k + 1) m ++ (' ' :: T ++ [' ']) ++ List.replicate (k + 1) m := by simp
  have e1 : 2 * (k + 1) + 2 + byteLen T = 2 * (k + 1) + (byteLen T + 2) := by omega
  rw [e] at hinv hcut ⊢
  rw [e1, ← hb] at hcut ⊢
  obtain ⟨c', hc'⟩ := span_raw_ctx m hm1 pre _ W Z k hR hW prev c hinv hins hcut
  refine ⟨c', ?_⟩
  rw [hc', nodeOf_padded _ _ _ _ _ T hT, hb]
  have e2 : byteLen pre + (k + 1) + (byteLen T + 2) - 1 = byteLen pre + (k + 1) + 1 + byteLen T := by omega
  rw [e2]


theorem noCut_end (m : Char) (src : List Char) : NoCut m src (byteLen src) := by
  rintro ⟨_, _, h⟩
  have := charAt_append_add src [] 0
  rw [List.append_nil, Nat.add_zero, charAt_zero] at this
  rw [this] at h; cases h

/-- **C11 (code span).** For every non-empty `T` and every `n ≥ 1` such that `T` contains no run
    of `n` backticks (i.e. `n` exceeds every backtick run in `T`), the rule run in real mode with a
    fresh cache at position 0 of `` `ⁿ ␠ T ␠ `ⁿ `` (`pos_max` = the whole length; the old `prev`
    flag is irrelevant) returns `Some(whole length)` and one node covering everything whose text
    is `T` with line endings turned into spaces — character for character otherwise: backticks
    (shorter runs), backslashes, `&…;`, `<…>`, `*`, `[`, multi-byte characters are all just content.
    `T ≠ []` is necessary: for `T = []` the content is the two spaces (`strip_exact`'s example). -/
theorem span_verbatim (T : List Char) (n : Nat) (hn : 0 < n) (hT : T ≠ [])
    (hruns : ¬ List.replicate n '`' <:+: T) (prev : Bool) :
    byteLen (List.replicate n '`' ++ [' '] ++ T ++ [' '] ++ List.replicate n '`') =
      2 * n + 2 + byteLen T ∧
    ∃ c', run Variant.current '`' (List.replicate n '`' ++ [' '] ++ T ++ [' '] ++ List.replicate n '`')
        0 (2 * n + 2 + byteLen T) prev false Cache.empty =
      .ok (some ⟨2 * n + 2 + byteLen T,
        some ⟨n, 0, 2 * n + 2 + byteLen T, n + 1, n + 1 + byteLen T, normalise T⟩⟩, c') := by
  obtain ⟨k, rfl⟩ : ∃ k, n = k + 1 := ⟨n - 1, by omega⟩
  have hsp : (' ' : Char).utf8Size = 1 := by decide
  have hlen : byteLen (List.replicate (k + 1) '`' ++ [' '] ++ T ++ [' '] ++ List.replicate (k + 1) '`') =
      2 * (k + 1) + 2 + byteLen T := by
    simp only [byteLen_append, byteLen_replicate backtick_size, byteLen, hsp]; omega
  refine ⟨hlen, ?_⟩
  have hcut : NoCut '`' ([] ++ (List.replicate (k + 1) '`' ++ [' '] ++ T ++ [' '] ++
      List.replicate (k + 1) '`') ++ [] ++ []) (byteLen ([] : List Char) + (2 * (k + 1) + 2 + byteLen T) + byteLen ([] : List Char)) := by
    have := noCut_end '`' (List.replicate (k + 1) '`' ++ [' '] ++ T ++ [' '] ++ List.replicate (k + 1) '`')
    rw [hlen] at this
    simpa [byteLen] using this
  have := span_verbatim_ctx '`' backtick_size (by decide) [] T [] [] k hT hruns (by simp) prev
    Cache.empty (CacheInv.empty _ _) rfl (Or.inr hcut)
  simpa [byteLen] using this

/-- **C11 (opacity).** Whatever the source, the cache, the position and `pos_max`: when a
    real-mode call succeeds, the node's text is `unpad (normalise raw)` where `raw` is exactly the
    slice of `src` between the opening and the closing run — a fixed function of those characters
    (map `'\n' ↦ ' '`, then drop one padding pair if present). No character of `raw` is
    interpreted, and nothing outside `raw` influences the content. -/
theorem span_opaque (v : Variant) (m : Char) (hm1 : m.utf8Size = 1) (src : List Char)
    (pos posMax : Nat) (prev : Bool) (c : Cache) (len : Nat) (nd : Node) (c' : Cache)
    (h : run v m src pos posMax prev false c = .ok (some ⟨len, some nd⟩, c')) :
    ∃ raw, slice src (pos + nd.markerLen) (pos + len - nd.markerLen) = some raw ∧
      nd.content = unpad (normalise raw) ∧ nd.rangeStart = pos ∧ nd.rangeEnd = pos + len ∧
      2 * nd.markerLen ≤ len ∧
      (nd.innerStart, nd.innerEnd) =
        if padded (normalise raw) = true then (pos + nd.markerLen + 1, pos + len - nd.markerLen - 1)
        else (pos + nd.markerLen, pos + len - nd.markerLen) := by
  obtain ⟨rest, ms, R, _, hms, _, hsl, ho⟩ := run_some hm1 h
  simp only [Bool.false_eq_true, if_false, Outcome.mk.injEq, Option.some.injEq] at ho
  obtain ⟨hlen, hnd⟩ := ho
  subst hnd
  have e1 : pos + (1 + runLen m rest) = pos + 1 + runLen m rest := by omega
  have e2 : pos + len - (1 + runLen m rest) = ms := by omega
  refine ⟨R, ?_, rfl, rfl, ?_, ?_, ?_⟩
  · simp only [nodeOf]; rw [e1, e2]; exact hsl
  · simp only [nodeOf]; omega
  · simp only [nodeOf]; omega
  · simp only [nodeOf]
    split
    · rw [e1, e2]
    · rw [e1, e2]

/-- backticks (runs of 1 < 2), a newline, an entity look-alike, an escape look-alike, markup,
    multi-byte characters: `T = "a`b\n&amp; \* <i> é€𝄞`"` inside double backticks -/
example : ∃ c', run Variant.current '`'
    (List.replicate 2 '`' ++ [' '] ++
      ['a', '`', 'b', '\n', '&', 'a', 'm', 'p', ';', ' ', '\\', '*', ' ', '<', 'i', '>', ' ', 'é', '€', '𝄞', '`']
      ++ [' '] ++ List.replicate 2 '`') 0 (2 * 2 + 2 + 27) false false Cache.empty =
    .ok (some ⟨33, some ⟨2, 0, 33, 3, 30,
      ['a', '`', 'b', ' ', '&', 'a', 'm', 'p', ';', ' ', '\\', '*', ' ', '<', 'i', '>', ' ', 'é', '€', '𝄞', '`']⟩⟩, c') := by
  have := (span_verbatim
    ['a', '`', 'b', '\n', '&', 'a', 'm', 'p', ';', ' ', '\\', '*', ' ', '<', 'i', '>', ' ', 'é', '€', '𝄞', '`']
    2 (by decide) (by decide) (by decide) false).2
  have hb : byteLen ['a', '`', 'b', '\n', '&', 'a', 'm', 'p', ';', ' ', '\\', '*', ' ', '<', 'i', '>', ' ', 'é', '€', '𝄞', '`'] = 27 := by
    decide +kernel
  rw [hb] at this
  exact this

/-- `T` that itself starts and ends with spaces keeps them (only one pair goes) -/
example : ∃ c', run Variant.current '`' (List.replicate 1 '`' ++ [' '] ++ [' ', 'x', ' '] ++ [' '] ++ List.replicate 1 '`')
    0 (2 * 1 + 2 + byteLen [' ', 'x', ' ']) true false Cache.empty =
    .ok (some ⟨2 * 1 + 2 + byteLen [' ', 'x', ' '],
      some ⟨1, 0, 2 * 1 + 2 + byteLen [' ', 'x', ' '], 1 + 1, 1 + 1 + byteLen [' ', 'x', ' '], normalise [' ', 'x', ' ']⟩⟩, c') :=
  (span_verbatim [' ', 'x', ' '] 1 (by decide) (by decide) (by decide) true).2

/-- the hypothesis on runs is needed: a run of exactly `n` inside `T` closes early -/
example : verdictOf (run Variant.current '`' ['`', ' ', 'a', '`', 'b', ' ', '`'] 0 7 false false Cache.empty)
    = some (some 4) := by decide +kernel

/-- in context, with a cache that has been through look-ahead and a failed longer opener
    (the situation of the repaired defects): `pre = "``` "`, span `` ` x ` ``, then `" ``"` -/
example : verdicts (runSeq Variant.current '`'
    ['`', '`', '`', ' ', '`', ' ', 'x', ' ', '`', ' ', '`', '`']
    [⟨0, 12, false, true⟩, ⟨10, 12, false, true⟩, ⟨0, 12, false, false⟩, ⟨1, 12, false, false⟩,
     ⟨2, 12, false, false⟩, ⟨4, 12, false, false⟩] Cache.empty)
    = some [none, none, none, none, none, some 5] := by decide +kernel

end MdIt.CodePair
