/-
  C05 at whole-document level for ALL sources — tabs split by a container or not — after `fix:`
  "positions inside the virtual spaces of a split tab" (`get_source_pos_for` clamped to the source
  offset of the next table entry; Props/C05.lean `translate_mono_all`).  Props/C05Inline.lean
  (`doc_ranges_ordered`) is the tab-free case, Props/C05Rest.lean (`doc_ranges_ok`) the case of no split tab.

  Hypotheses: the `i32` size bound of `doc_block_ranges`, the paragraph rule in the block chain (necessary:
  witness in Props/C05Doc.lean), `C05T.SolidMarkers cfg.inlineChain` (every emphasis-like rule has a
  single-byte marker other than line feed and space: `*`, `_`, `~` in the shipped plugins).
  `doc_ranges_ok_all` is C05 complete with the one inherent exemption: `NodeOkX` is `NodeOk` of
  Props/C05Doc.lean with the text clause stated at the PARENT for its `Text` children and switched off when
  the parent is a code span (a code span keeps the virtual spaces of a split tab as content, characters
  without bytes in the source: crate-confirmed witness in Props/C05Rest.lean, known finding
  `text-faithful-split-tab`).  The other theorems are read off it.

  How it goes (Lemmas/C05Tabs*.lean).  `MapT`: the translation is monotone everywhere and a shift on every
  stretch that starts with a solid character and holds no line feed; the two places where the range
  arithmetic happens in SOURCE coordinates, the trailing-space pop of the newline rule and the marker cuts of
  the delimiter matching, sit on such stretches.  `VirtSp`: the virtual-space entries of a `get_lines` table
  are spaces at line starts of the inline text.  `PFthV`: for ANY `get_lines` table boundaries translate to
  boundaries, solid stretches are copies of source bytes, line feeds translate to line breaks.  The inline
  parser is walked ONCE, in inline-text coordinates, keeping the certificate `IC.ICF` (Lemmas/InlineCert.lean);
  its images in source coordinates are projections (`IC.ICF.fiv`, `.bi`, `.riv`: Lemmas/C05TabsCert.lean).
  What makes `FIV` true: no `Text` outside a code span ever holds a virtual space unless it holds a line feed
  as well — a new text starts at a solid character, or behind one on the same line: every rule ends its span
  with a solid character (`codeCloserOK`, `linkCloserOK`) or, the two break rules, in front of a non-blank.
-/
import MdIt.Lemmas.C05TabsShift
import MdIt.Lemmas.C05TabsTable
import MdIt.Lemmas.C05TabsRanges
import MdIt.Lemmas.C05TabsFaith
import MdIt.Lemmas.C05TabsText
import MdIt.Lemmas.C05TabsClosers
import MdIt.Lemmas.C05TabsTextSplice
import MdIt.Lemmas.KernelEval

namespace MdIt.Pipeline
open MdIt.InlineOps (getSourcePosFor Srcmap)
open MdIt.C05T

/-- what the block pass establishes of a placeholder for ANY source (`PTabs`) is what the splice
    walk needs (`PInl`) -/
theorem pinl_of_ptabs {src : List Char} (icfg : Inline.Cfg) (hmk : SolidMarkers icfg.chain)
    (c : List Char) (m : Srcmap) (a b : Nat) (hab : a ≤ b) (h : Block.PTabs src c m a b) :
    PInl icfg c m a b := by
  obtain ⟨⟨hw, hv, hk, _, _, _, hlow⟩, hup, hvs⟩ := h
  have hm : MapT c m := mapT_of_virt hw hv hk hvs
  by_cases hlt : (Inline.trimSrc c).1 < (Inline.trimSrc c).2
  · refine pinl_of_mapT icfg hm hmk ?_
    intro pos x h1 h2 hx
    refine ⟨hlow hlt pos x h1 hx, hup pos x ?_ hx⟩
    have := Inline.trimSrc_le c
    rw [C05I.linesLen_eq]
    omega
  · intro ns hns
    have := Inline.parseInline_empty_window icfg c m (by omega) hns
    subst this
    exact ⟨hab, trivial⟩

theorem mapT_of_ptabs {src : List Char} {c : List Char} {m : Srcmap} {a b : Nat}
    (h : Block.PTabs src c m a b) : MapT c m := by
  obtain ⟨⟨hw, hv, hk, _⟩, _, hvs⟩ := h
  exact mapT_of_virt hw hv hk hvs

/-! ## the text clause for all sources, code spans exempted -/

/-- `PTabsF` is what the splice walk needs for the text clause (`PInlFV`) -/
theorem pinlFV_of_ptabsF {src : List Char} (icfg : Inline.Cfg) (hmk : SolidMarkers icfg.chain)
    (c : List Char) (m : Srcmap) (a b : Nat) (hab : a ≤ b) (h : Block.PTabsF src c m a b) :
    PInlFV icfg src c m a b := by
  refine ⟨h.2.2, ?_⟩
  intro ns hns
  obtain ⟨o1, o2⟩ := pinl_of_ptabs icfg hmk c m a b hab h.1 ns hns
  exact ⟨o1, o2, parseInline_fthV icfg ⟨mapT_of_ptabs h.1, h.2.1⟩ hmk hns⟩

/-- the block pass, for all sources: every placeholder satisfies the claim `PInlFV` the passes behind it
    consume -/
theorem blocks_pinlFV (cfg : DocCfg) (src : List Char) (hsmall : 4 * Lines.byteLen src + 8 < 2147483648)
    (hpara : cfg.hasPara = true) (hmk : SolidMarkers cfg.inlineChain) (root : Block.BNode)
    (refs : Refs.RefMap) (hb : Block.parseBlocks cfg.blockCfg src = .ok (root, refs)) :
    root.range = some (0, Lines.byteLen src) ∧ Block.RangedB (PInlFV (cfg.inlineCfg refs) src) src root :=
  (Block.parseBlocks_geo3 (cfg := cfg.blockCfg) hpara (Block.inlSpec3_ptabsF src) hsmall hb).imp id
    (Block.RangedB.imp fun c m a b hab hp => pinlFV_of_ptabsF _ hmk c m a b hab hp)

/-- **`doc_ranges_ok_all`** — C05 for ALL sources, with the one inherent exemption.  The root of
    the parsed tree is `(0, |src|)`, and at EVERY node (block or inline, any depth, behind splice
    walk, `FragmentsJoin` and `SyntaxPosRule`): the range `(a, b)` has `a ≤ b ≤ |src|`, both ends on
    character boundaries, the children's ranges inside `[a, b]` in source order without overlap;
    and every `Text` whose parent is NOT a code span and whose range holds neither '\n' nor '\r'
    selects exactly its content.  (The `Text` inside a code span may hold the virtual spaces of a
    split tab, which have no bytes in the source: known finding `text-faithful-split-tab`.) -/
theorem doc_ranges_ok_all (cfg : DocCfg) (src : List Char) (t : Node)
    (hsmall : 4 * Lines.byteLen src + 8 < 2147483648) (hpara : cfg.hasPara = true)
    (hmk : SolidMarkers cfg.inlineChain) (h : parseDoc cfg src = .ok t) :
    t.range = some (0, Lines.byteLen src) ∧ Every (NodeOkX src) t :=
  parseDoc_assemble (blocks_pinlFV cfg src hsmall hpara hmk)
    (fun _ _ hr hg hn h => afterBlocks_nodeOkX hr hg hn h) h

theorem _root_.MdIt.C05T.NodeOkX.nodeOrd {src : List Char} {n : Node} (h : NodeOkX src n) :
    NodeOrd src n := by
  obtain ⟨a, b, hr, hab, hb, _, _, ho, _⟩ := h
  exact ⟨a, b, hr, hab, hb, ho⟩

/-- **`doc_ranges_ordered_all`** — validity, enclosure and order at EVERY node for ALL sources.
    Paragraph rule configured, `i32` size bound, solid single-byte emphasis markers: the root of
    the parsed tree is `(0, |src|)` and every node of it — block or inline, at every depth — has a
    range `(a, b)`, `a ≤ b ≤ |src|`, with the ranges of its children inside `[a, b]`, in source
    order, each starting at or behind the end of the previous one. -/
theorem doc_ranges_ordered_all (cfg : DocCfg) (src : List Char) (t : Node)
    (hsmall : 4 * Lines.byteLen src + 8 < 2147483648) (hpara : cfg.hasPara = true)
    (hmk : SolidMarkers cfg.inlineChain) (h : parseDoc cfg src = .ok t) :
    t.range = some (0, Lines.byteLen src) ∧ Every (NodeOrd src) t :=
  (doc_ranges_ok_all cfg src t hsmall hpara hmk h).imp id (Every.imp fun _ => NodeOkX.nodeOrd)

/-- every child lies within its parent, spelled out, for all sources -/
theorem doc_child_within_all (cfg : DocCfg) (src : List Char) (t : Node)
    (hsmall : 4 * Lines.byteLen src + 8 < 2147483648) (hpara : cfg.hasPara = true)
    (hmk : SolidMarkers cfg.inlineChain) (h : parseDoc cfg src = .ok t) :
    Every (fun n => ∃ a b, n.range = some (a, b) ∧ a ≤ b ∧ b ≤ Lines.byteLen src ∧
      ∀ c ∈ n.children, ∃ a' b', c.range = some (a', b') ∧ a ≤ a' ∧ a' ≤ b' ∧ b' ≤ b) t := by
  have := (doc_ranges_ordered_all cfg src t hsmall hpara hmk h).2
  clear h
  induction this with
  | mk n hn _ ih =>
    obtain ⟨a, b, h1, h2, h3, h4⟩ := hn
    exact .mk n ⟨a, b, h1, h2, h3, h4.mem⟩ ih

/-- **`doc_boundaries_all`** — for ALL sources: at every node of the parsed tree the range
    `(a, b)` has `a ≤ b ≤ |src|`, BOTH ENDS ON CHARACTER BOUNDARIES of `src`, the children inside in
    source order (`NodeOrd`), inline nodes included, tabs split or not. -/
theorem doc_boundaries_all (cfg : DocCfg) (src : List Char) (t : Node)
    (hsmall : 4 * Lines.byteLen src + 8 < 2147483648) (hpara : cfg.hasPara = true)
    (hmk : SolidMarkers cfg.inlineChain) (h : parseDoc cfg src = .ok t) :
    t.range = some (0, Lines.byteLen src) ∧
    Every (fun n => NodeOrd src n ∧ ∃ a b, n.range = some (a, b) ∧ Lines.onBoundary src a = true ∧
      Lines.onBoundary src b = true) t :=
  (doc_ranges_ok_all cfg src t hsmall hpara hmk h).imp id (Every.imp fun _ hn =>
    ⟨hn.nodeOrd, by obtain ⟨a, b, hr, _, _, ha, hb, _⟩ := hn; exact ⟨a, b, hr, ha, hb⟩⟩)

/-- **`doc_text_faithful_all`**: for ALL sources, every `Text` child `x` of every node `n` that is
    not a code span, whose range `(a, b)` selects a string without line break, has exactly that
    string as its content. -/
theorem doc_text_faithful_all (cfg : DocCfg) (src : List Char) (t : Node)
    (hsmall : 4 * Lines.byteLen src + 8 < 2147483648) (hpara : cfg.hasPara = true)
    (hmk : SolidMarkers cfg.inlineChain) (h : parseDoc cfg src = .ok t) :
    Every (fun n => isCodeK n.kind = false → ∀ x ∈ n.children, ∀ c, x.kind = .inl (.text c) →
      ∃ a b, x.range = some (a, b) ∧
        ∀ w, Lines.slice src a b = .ok w → '\n' ∉ w → '\r' ∉ w → w = c) t :=
  (doc_ranges_ok_all cfg src t hsmall hpara hmk h).2.imp (fun _ hn => by
    obtain ⟨_, _, _, _, _, _, _, _, ht⟩ := hn
    exact ht)

/-- the markup clause at every node of a `PostV` tree -/
theorem special_of_postV {src : List Char} (n : Node) : ∀ ex, PostV src ex n →
    Every (fun n => ∀ ct mu info, n.kind = .inl (.special ct mu info) → ∃ a b, n.range = some (a, b) ∧
      ∀ w, Lines.slice src a b = .ok w → '\n' ∉ w → '\r' ∉ w → w = mu) n := by
  induction n using node_induct with
  | step n ih =>
    intro ex hp
    rw [ts_postV_iff] at hp
    obtain ⟨⟨a, b, hr, _, _, _, hs⟩, hch⟩ := hp
    refine .mk n ?_ fun c hc => ih c hc _ (hch c hc)
    intro ct mu info hk
    exact ⟨a, b, hr, fun w hw n1 n2 =>
      hs ct mu info hk w ((C05R.cut_iff_lines src a b w).mp hw) ⟨n1, n2⟩⟩

/-- **`doc_special_markup_all`**: for ALL sources, every `TextSpecial` node (backslash escape, entity
    reference) whose range selects a string without line break selects exactly its `markup`. -/
theorem doc_special_markup_all (cfg : DocCfg) (src : List Char) (t : Node)
    (hsmall : 4 * Lines.byteLen src + 8 < 2147483648) (hpara : cfg.hasPara = true)
    (hmk : SolidMarkers cfg.inlineChain) (h : parseDoc cfg src = .ok t) :
    Every (fun n => ∀ ct mu info, n.kind = .inl (.special ct mu info) → ∃ a b, n.range = some (a, b) ∧
      ∀ w, Lines.slice src a b = .ok w → '\n' ∉ w → '\r' ∉ w → w = mu) t :=
  parseDoc_assemble (blocks_pinlFV cfg src hsmall hpara hmk)
    (fun _ _ hr hg hn h => special_of_postV t false (ts_afterBlocks_post hr hg hn h)) h

/-! ## non-vacuity and witnesses -/

/-- the shipped markers are solid single bytes -/
theorem exCfg_solidMarkers (sp : Bool) (mn : Nat) : SolidMarkers (exCfg sp mn).inlineChain := by
  intro mk csw hmem
  simp only [exCfg, List.mem_cons, List.mem_nil_iff, or_false, reduceCtorEq, false_or,
    Inline.RuleId.emph.injEq] at hmem
  rcases hmem with ⟨rfl, _⟩ | ⟨rfl, _⟩ | ⟨rfl, _⟩ <;> exact ⟨by decide, by decide, by decide⟩

/-- the theorem applies to the split-tab documents that refuted the unrepaired crate -/
example : ∃ t, parseDoc (exCfg false 100) exTab = .ok t ∧ t.range = some (0, 12) ∧
    Every (NodeOrd exTab) t :=
  ok_and (ok_of_map exTab_flat) fun t hp =>
    doc_ranges_ordered_all _ _ t (by decide +kernel) (by decide) (exCfg_solidMarkers _ _) hp

/-- boundaries on the document whose unrepaired tree had a range end inside the `é` -/
example : ∃ t, parseDoc (exCfg false 100) "-    ` a\n\t\t`é".toList = .ok t ∧
    Every (fun n => NodeOrd "-    ` a\n\t\t`é".toList n ∧ ∃ a b, n.range = some (a, b) ∧
      Lines.onBoundary "-    ` a\n\t\t`é".toList a = true ∧
      Lines.onBoundary "-    ` a\n\t\t`é".toList b = true) t :=
  ok_and (ok_of_isSome (by decide_lits)) fun t hp =>
    (doc_boundaries_all _ _ t (by decide_lits) (by decide) (exCfg_solidMarkers _ _) hp).2

/-- the complete property on a list item whose two continuation lines start with a SPLIT tab
    (content column 2, the tab reaches column 4: two virtual spaces per line), with emphasis, a
    hard break, an escape and texts that start with a space: every listed string is
    `src[start..end]` -/
def exDoc9 : List Char := "- a\n\t*b* c  \n\t\\* d".toList

theorem exDoc9_texts : (parseDoc (exCfg false 100) exDoc9).toOption.map textsOf =
    some [("a".toList, 2, 3), ("b".toList, 6, 7), (" c".toList, 8, 10), ("\\*".toList, 14, 16),
      (" d".toList, 16, 18)] := by
  unfold exDoc9
  decide_lits

example : (parseDoc (exCfg false 100) exDoc9).toOption.map textsOf =
    some [("a".toList, 2, 3), ("b".toList, 6, 7), (" c".toList, 8, 10), ("\\*".toList, 14, 16),
      (" d".toList, 16, 18)] := exDoc9_texts

/-- the tabs of `exDoc9` ARE split (table `[(0,2),(2,5),(4,5),(12,14),(14,14)]`): `doc_ranges_ok` of
    Props/C05Rest.lean does not apply -/
example : (Block.parseBlocks (exCfg false 100).blockCfg exDoc9).toOption.map (fun r => inlOf r.1) =
      some [("a\n  *b* c  \n  \\* d".toList, [(0, 2), (2, 5), (4, 5), (12, 14), (14, 14)])] ∧
    (match Block.parseBlocks (exCfg false 100).blockCfg exDoc9 with
     | .ok (root, _) => allNoVirtB root
     | .error _ => true) = false := by
  unfold exDoc9
  decide_lits

example : ∃ t, parseDoc (exCfg false 100) exDoc9 = .ok t ∧ Every (NodeOkX exDoc9) t :=
  ok_and (ok_of_map exDoc9_texts) fun t hp =>
    (doc_ranges_ok_all _ _ t (by decide +kernel) (by decide) (exCfg_solidMarkers _ _) hp).2

/-- … and on the witness of the exemption (Props/C05Rest.lean): the `Text "  a"` at `(5, 6)` under
    the code span of `"- `\n\ta `"` does not select its content — `NodeOkX` does not claim it -/
example : ∃ t, parseDoc (exCfg false 100) "- `\n\ta `".toList = .ok t ∧
    Every (NodeOkX "- `\n\ta `".toList) t :=
  ok_and (ok_of_isSome (by decide_lits)) fun t hp =>
    (doc_ranges_ok_all _ _ t (by decide_lits) (by decide) (exCfg_solidMarkers _ _) hp).2

/-
  `SolidMarkers` is needed by the invariants (`FthNV`: an `EmphMarker` covers exactly `replicate remaining mk`;
  a multi-byte marker leaves the cursor inside a character and the parse panics; a '\n' marker behind a
  container prefix and a ' ' marker on virtual spaces break the exact selection — inline-level witnesses in
  Lemmas/C05RestInline.lean, C05TabsText.lean).  At DOCUMENT level no counterexample is known (with
  `.emph ' '` the left-over delimiters are merged by the join pass into a text that holds the line feed);
  removing the hypothesis would need a weaker marker clause (`Sel` instead of the exact `Cut`) in the
  delimiter matching.
-/

end MdIt.Pipeline
