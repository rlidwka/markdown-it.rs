/-
  C04, last mile — the URL the BROWSER obtains from `href="…"` / `src="…"` is the URL that was validated.

  `Props/C04.lean` shows that the URL handed to the renderer is not dangerous.  The renderer then
  writes `escape_html(url)` into a double-quoted attribute, and the browser decodes every character
  reference of the attribute value (`Model/HtmlDecode.lean: browserDecode` — decimal, hexadecimal,
  named, numeric ones also without the `;`), not only the four entities `escape_html` produces.

    1. `decode_escaped`   on the language `Escaped` of `escape_html` outputs (`Props/C03.lean`) the
                          browser's full decoder coincides with the four-entity decoder `unescape`
    2. `decode_escape`    hence `browserDecode named (escapeHtml s) = s` for EVERY string `s` and EVERY
                          entity table `named` in which `&amp; &lt; &gt; &quot;` mean `& < > "`
    3. `attr_value_seen`  the value between the quotes of ` name="…"` contains no quote and decodes to
                          the attribute value the renderer was given
    4. `browser_sees_validated_url`, `browser_safe_inline`, `browser_safe_ref`,
       `browser_safe_autolink`, `browser_safe_inline_tail`
                          composition with `validate_sound` / `pipeline_safe*` /
                          `rejected_stays_literal`: what the browser decodes is not `dangerous`
    5. `numVal_fits`      the `Err` arm of `u32::from_str_radix` that the model leaves out is dead
    6. `decode_not_injective_without_escape`, `seeded_lead_amp_raw`, `seeded_keep_refs`
                          the escaping is needed, and the two seeded regressions of the escaping
                          layer are refuted by a concrete destination that passes every check of
                          `Props/C04.lean`
-/
import MdIt.Props.C03
import MdIt.Props.C04
import MdIt.Props.C12
import MdIt.Model.HtmlDecode
import MdIt.Model.Entity
import MdIt.Gen.Entities
import MdIt.Lemmas.KernelEval

namespace MdIt.HtmlDecode
open MdIt.Render (escapeHtml escapeChar Escaped unescape Plain attrStr)
open MdIt.Link (Visible validateLink dangerous inlineDest refDest autolinkDest normalizeLink)

/-- the hypothesis on the entity table: the four names `escape_html` writes have their HTML meaning
    (names are looked up with the `&` and the `;`, as `browserDecode` asks for them) -/
structure FourEntities (named : List Char → Option (List Char)) : Prop where
  amp : named ['&', 'a', 'm', 'p', ';'] = some ['&']
  lt : named ['&', 'l', 't', ';'] = some ['<']
  gt : named ['&', 'g', 't', ';'] = some ['>']
  quot : named ['&', 'q', 'u', 'o', 't', ';'] = some ['"']

/-! ## 1. one step of the decoder on each shape of escaped data -/

theorem decodeFrom_plain (named : List Char → Option (List Char)) (c : Char) (r : List Char)
    (hc : c ≠ '&') : decodeFrom named 0 (c :: r) = c :: decodeFrom named 0 r := by
  simp [decodeFrom, hc]

theorem decodeFrom_skip (named : List Char → Option (List Char)) (a l : List Char) :
    decodeFrom named a.length (a ++ l) = decodeFrom named 0 l := by
  induction a with
  | nil => rfl
  | cons c a ih => simpa [decodeFrom] using ih

/-- a named reference `&n;` whose name the decoder reads whole and finds in the table -/
theorem decodeFrom_named {named : List Char → Option (List Char)} (n : List Char) {cs : List Char}
    (l : List Char) (hnum : numericRef (n ++ ';' :: l) = none)
    (htake : takeUpTo isAlnum 33 (n ++ ';' :: l) = n) (hne : n ≠ [])
    (hn : named ('&' :: (n ++ [';'])) = some cs) :
    decodeFrom named 0 ('&' :: (n ++ ';' :: l)) = cs ++ decodeFrom named 0 l := by
  have h2 : namedRef named (n ++ ';' :: l) = some (cs, n.length + 1) := by
    simp [namedRef, htake, hne, hn]
  have hskip := decodeFrom_skip named (n ++ [';']) l
  simp only [List.length_append, List.length_singleton, List.append_assoc, List.singleton_append]
    at hskip
  simp [decodeFrom, hnum, h2, hskip]

/-! ## 2. the round trip -/

/-- **On escaped data the browser's decoder is the four-entity decoder.**  Every `&` of an
    `Escaped` string starts `&amp;` `&lt;` `&gt;` `&quot;` (`Escaped.amp_entity`), the decoder
    resolves exactly that entity, and what follows is again `Escaped` — so no other reference
    (numeric, semicolon-less, named) is ever recognised, whatever the table contains. -/
theorem decode_escaped {named : List Char → Option (List Char)} (h : FourEntities named)
    {l : List Char} (hl : Escaped l) : browserDecode named l = unescape l := by
  unfold browserDecode
  induction hl with
  | nil => rfl
  | plain c l hc _ ih => rw [decodeFrom_plain named c l hc.1, Render.unescape_plain c l hc.1, ih]
  | amp l _ ih =>
    refine (decodeFrom_named ['a', 'm', 'p'] l rfl rfl (by simp) h.amp).trans ?_
    rw [ih]; simp [unescape]
  | lt l _ ih =>
    refine (decodeFrom_named ['l', 't'] l rfl rfl (by simp) h.lt).trans ?_
    rw [ih]; simp [unescape]
  | gt l _ ih =>
    refine (decodeFrom_named ['g', 't'] l rfl rfl (by simp) h.gt).trans ?_
    rw [ih]; simp [unescape]
  | quot l _ ih =>
    refine (decodeFrom_named ['q', 'u', 'o', 't'] l rfl rfl (by simp) h.quot).trans ?_
    rw [ih]; simp [unescape]

/-- **C04 (the browser undoes `escape_html`, and nothing more).**  For EVERY entity table in which
    the four names have their HTML meaning and EVERY string `s`: decoding all character references
    of `escape_html(s)` as a browser does gives `s` back. -/
theorem decode_escape {named : List Char → Option (List Char)} (h : FourEntities named)
    (s : List Char) : browserDecode named (escapeHtml s) = s := by
  rw [decode_escaped h (Render.escape_sound s).1, (Render.escape_sound s).2.2.2]

/-- two attribute values written by the renderer that a browser reads as the same string come
    from the same string -/
theorem decode_escape_injective {named : List Char → Option (List Char)} (h : FourEntities named)
    (s t : List Char)
    (e : browserDecode named (escapeHtml s) = browserDecode named (escapeHtml t)) : s = t := by
  rwa [decode_escape h, decode_escape h] at e

/-- **The attribute as written.**  ` name="V"` as `make_attr` writes it: `V` contains no `"` (the
    tokenizer's "attribute value (double-quoted) state" ends exactly at the closing quote the
    renderer wrote) and the browser decodes `V` to the value the renderer was given. -/
theorem attr_value_seen {named : List Char → Option (List Char)} (h : FourEntities named)
    (nv : List Char × List Char) :
    ∃ V, attrStr nv = ' ' :: (escapeHtml nv.1 ++ ('=' :: '"' :: (V ++ ['"']))) ∧ '"' ∉ V ∧
      browserDecode named V = nv.2 :=
  ⟨escapeHtml nv.2, rfl, fun hm => ((Render.escape_sound nv.2).2.1 _ hm).2.2 rfl,
    decode_escape h nv.2⟩

/-! ## 3. bytes ↔ characters for a normalised URL

`normalize_link` returns a `String` whose bytes are all in 33..126 (`normalized_alphabet`); as a
sequence of `char`s it is `u.map Char.ofNat`, and `Link.utf8` goes back. -/

/-- the `String` with the (ASCII) bytes `u`, as characters -/
def asChars (u : List Nat) : List Char := u.map Char.ofNat

theorem utf8Char_ofNat_ascii : ∀ n < 128, Link.utf8Char (Char.ofNat n) = [n] := by decide +kernel

theorem utf8_asChars (u : List Nat) (hu : ∀ b ∈ u, b < 128) : Link.utf8 (asChars u) = u := by
  induction u with
  | nil => rfl
  | cons b r ih =>
    have e : asChars (b :: r) = Char.ofNat b :: asChars r := rfl
    rw [e, Link.utf8_cons, utf8Char_ofNat_ascii b (hu b (by simp)),
      ih (fun c hc => hu c (by simp [hc]))]
    rfl

theorem utf8_asChars_visible (u : List Nat) (hu : Visible u) : Link.utf8 (asChars u) = u :=
  utf8_asChars u (fun b hb => by have := hu b hb; omega)

/-! ## 4. what the browser sees is what was validated -/

/-- **C04 (browser view).** A URL over the normalised alphabet that `validate_link` accepts, written
    by the renderer into a double-quoted attribute and decoded by the browser — every kind of
    character reference — is the same URL again, byte for byte, and therefore not dangerous. -/
theorem browser_sees_validated_url {named : List Char → Option (List Char)} (h : FourEntities named)
    (u : List Nat) (hu : Visible u) (hv : validateLink u = true) :
    browserDecode named (escapeHtml (asChars u)) = asChars u ∧
    Link.utf8 (browserDecode named (escapeHtml (asChars u))) = u ∧
    dangerous (Link.utf8 (browserDecode named (escapeHtml (asChars u)))) = false := by
  have e := decode_escape h (asChars u)
  rw [e, utf8_asChars_visible u hu]
  exact ⟨rfl, rfl, Link.validate_sound u hu hv⟩

/-- the same from the conclusion of a pipeline: `u` came out of `normalize_link` and is not
    dangerous ⇒ neither is what the browser decodes from the attribute -/
theorem browser_view_of_safe {named : List Char → Option (List Char)} (h : FourEntities named)
    (u : List Nat) (hu : Visible u) (hs : dangerous u = false) :
    dangerous (Link.utf8 (browserDecode named (escapeHtml (asChars u)))) = false := by
  rw [decode_escape h, utf8_asChars_visible u hu]; exact hs

theorem inlineDest_visible (dec : List Char → List Char) (raw : List Char) (u : List Nat)
    (hd : inlineDest dec raw = some u) : Visible u := by
  unfold inlineDest at hd
  simp only at hd
  split at hd
  · cases hd; exact Link.normalized_alphabet_chars _
  · cases hd

theorem autolinkDest_visible (isAutolink : Bool) (url : List Char) (u : List Nat)
    (hd : autolinkDest isAutolink url = some u) : Visible u := by
  unfold autolinkDest at hd
  cases isAutolink <;> simp only [Bool.false_eq_true, if_false, if_true] at hd <;> split at hd
  · cases hd; exact Link.normalized_alphabet_chars _
  · cases hd
  · cases hd; exact Link.normalized_alphabet_chars _
  · cases hd

/-- **C04 (inline links and images, browser view).** Whatever the raw destination and whatever the
    markdown-level decoder does: the destination a browser obtains from the rendered `href` / `src`
    attribute of an accepted inline link is not dangerous. -/
theorem browser_safe_inline {named : List Char → Option (List Char)} (h : FourEntities named)
    (dec : List Char → List Char) (raw : List Char) (u : List Nat)
    (hd : inlineDest dec raw = some u) :
    dangerous (Link.utf8 (browserDecode named (escapeHtml (asChars u)))) = false :=
  browser_view_of_safe h u (inlineDest_visible dec raw u hd) (Link.pipeline_safe dec raw u hd)

/-- **C04 (reference definitions, browser view).** -/
theorem browser_safe_ref {named : List Char → Option (List Char)} (h : FourEntities named)
    (dec : List Char → List Char) (raw : List Char) (u : List Nat)
    (hd : refDest dec raw = some u) :
    dangerous (Link.utf8 (browserDecode named (escapeHtml (asChars u)))) = false :=
  browser_view_of_safe h u (inlineDest_visible dec raw u hd) (Link.pipeline_safe_ref dec raw u hd)

/-- **C04 (autolinks, browser view)**, URL form and e-mail form. -/
theorem browser_safe_autolink {named : List Char → Option (List Char)} (h : FourEntities named)
    (isAutolink : Bool) (url : List Char) (u : List Nat)
    (hd : autolinkDest isAutolink url = some u) :
    dangerous (Link.utf8 (browserDecode named (escapeHtml (asChars u)))) = false :=
  browser_view_of_safe h u (autolinkDest_visible isAutolink url u hd)
    (Link.pipeline_safe_autolink isAutolink url u hd)

/-- every `href` returned by the inline branch of `parse_link` went through `inlineDest` -/
theorem inlineTail_href_from_pipeline (dec : List Char → List Char) (src : List Char)
    (pos max : Nat) (l : Link.InlineLink) (u : List Nat)
    (hp : Link.parseInlineTail dec src pos max = .ok (some l)) (hu : l.href = some u) :
    ∃ raw, inlineDest dec raw = some u := by
  unfold Link.parseInlineTail at hp
  split at hp
  · cases hp
  · split at hp
    · simp only at hp
      split at hp
      · cases hp
      · rename_i dest _
        split at hp
        · cases hp
        · rename_i href title p4 hstage
          split at hp
          · cases hp
          · simp only [Except.ok.injEq, Option.some.injEq] at hp
            subst hp
            simp only at hu
            subst hu
            cases dest with
            | none => simp at hstage
            | some res =>
              simp only at hstage
              unfold Link.inlineAfterDest at hstage
              split at hstage
              · rename_i u' hacc
                have := Link.titlePart_href dec src max res.pos (some u') _ _ _ hstage
                cases this
                exact ⟨res.raw, hacc⟩
              · have := Link.titlePart_href dec src max _ none _ _ _ hstage
                cases this
          · cases hp
    · cases hp

/-- **C04 (the inline branch of `parse_link`, browser view).** The `href` of every link the inline
    branch returns, as a browser decodes it from the rendered attribute, is not dangerous. -/
theorem browser_safe_inline_tail {named : List Char → Option (List Char)} (h : FourEntities named)
    (dec : List Char → List Char) (src : List Char) (pos max : Nat) (l : Link.InlineLink)
    (u : List Nat) (hp : Link.parseInlineTail dec src pos max = .ok (some l))
    (hu : l.href = some u) :
    dangerous (Link.utf8 (browserDecode named (escapeHtml (asChars u)))) = false := by
  obtain ⟨raw, hraw⟩ := inlineTail_href_from_pipeline dec src pos max l u hp hu
  exact browser_safe_inline h dec raw u hraw

/-! ## 5. the dead `Err` arm of `u32::from_str_radix` -/

theorem takeUpTo_length (p : Char → Bool) (n : Nat) (l : List Char) :
    (takeUpTo p n l).length ≤ n := by
  induction n generalizing l with
  | zero => simp [takeUpTo]
  | succ n ih =>
    cases l with
    | nil => simp [takeUpTo]
    | cons c r =>
      simp only [takeUpTo]
      split
      · simp only [List.length_cons]; have := ih r; omega
      · simp

theorem takeUpTo_all (p : Char → Bool) (n : Nat) (l : List Char) :
    ∀ c ∈ takeUpTo p n l, p c = true := by
  induction n generalizing l with
  | zero => simp [takeUpTo]
  | succ n ih =>
    cases l with
    | nil => simp [takeUpTo]
    | cons c r =>
      simp only [takeUpTo]
      split
      · intro d hd
        rcases List.mem_cons.mp hd with rfl | hd
        · assumption
        · exact ih r d hd
      · simp

theorem digitVal_dec (c : Char) (h : isDec c = true) : digitVal c < 10 := by
  simp only [isDec, Bool.and_eq_true, decide_eq_true_eq] at h
  unfold digitVal
  simp only
  split <;> omega

theorem digitVal_hex (c : Char) (h : isHex c = true) : digitVal c < 16 := by
  simp only [isHex, isDec, Bool.or_eq_true, Bool.and_eq_true, decide_eq_true_eq] at h
  unfold digitVal
  simp only
  split
  · omega
  · split <;> omega

theorem foldl_digits_lt (radix : Nat) (ds : List Char) (a : Nat)
    (hd : ∀ c ∈ ds, digitVal c < radix) :
    ds.foldl (fun a c => a * radix + digitVal c) a < (a + 1) * radix ^ ds.length := by
  induction ds generalizing a with
  | nil => simp
  | cons c r ih =>
    have hc := hd c (by simp)
    have := ih (a * radix + digitVal c) (fun d hd' => hd d (by simp [hd']))
    simp only [List.foldl_cons, List.length_cons]
    calc _ < (a * radix + digitVal c + 1) * radix ^ r.length := this
      _ ≤ ((a + 1) * radix) * radix ^ r.length := by
        apply Nat.mul_le_mul_right
        rw [Nat.add_mul]; omega
      _ = (a + 1) * radix ^ (r.length + 1) := by rw [Nat.pow_succ, Nat.mul_assoc, Nat.mul_comm radix]

/-- **the number the oracle parses always fits in a `u32`** (its `Err` arm is dead): at most 8 digits
    of the radix — decimal < 10⁸, hexadecimal < 16⁸ = 2³² -/
theorem numVal_fits (l : List Char) :
    numVal 10 (takeUpTo isDec 8 l) < 2 ^ 32 ∧ numVal 16 (takeUpTo isHex 8 l) < 2 ^ 32 := by
  constructor
  · have h1 := foldl_digits_lt 10 (takeUpTo isDec 8 l) 0
      (fun c hc => digitVal_dec c (takeUpTo_all _ _ _ c hc))
    have h2 := takeUpTo_length isDec 8 l
    have : 10 ^ (takeUpTo isDec 8 l).length ≤ 10 ^ 8 := Nat.pow_le_pow_right (by omega) h2
    unfold numVal; omega
  · have h1 := foldl_digits_lt 16 (takeUpTo isHex 8 l) 0
      (fun c hc => digitVal_hex c (takeUpTo_all _ _ _ c hc))
    have h2 := takeUpTo_length isHex 8 l
    have : 16 ^ (takeUpTo isHex 8 l).length ≤ 16 ^ 8 := Nat.pow_le_pow_right (by omega) h2
    unfold numVal; omega

/-! ## 6. non-vacuity, and why the escaping is needed -/

/-- a small table: the four entities and `&colon;` -/
def named5 (n : List Char) : Option (List Char) :=
  if n = ['&', 'a', 'm', 'p', ';'] then some ['&']
  else if n = ['&', 'l', 't', ';'] then some ['<']
  else if n = ['&', 'g', 't', ';'] then some ['>']
  else if n = ['&', 'q', 'u', 'o', 't', ';'] then some ['"']
  else if n = ['&', 'c', 'o', 'l', 'o', 'n', ';'] then some [':']
  else none

theorem named5_four : FourEntities named5 := ⟨rfl, rfl, rfl, rfl⟩

/-- the hypothesis of `decode_escape` holds of the table the crate is linked with
    (`entities::ENTITIES`, generated into `Gen/Entities.lean`) -/
theorem table_four : FourEntities (Entity.lookupIn Gen.Entities.table) := by
  -- the four rows are in chunks 9, 20, 16, 26 of the table, and no name occurs twice
  have row : ∀ ch ∈ Gen.Entities.tableChunks, ∀ r ∈ ch,
      Entity.lookupIn Gen.Entities.table (r.1.map Char.ofNat) = some (r.2.map Char.ofNat) :=
    fun ch hch r hr => Entity.table_lookup_row r (List.mem_flatten.2 ⟨ch, hch, hr⟩)
  exact ⟨row Gen.Entities.table_9 (by decide +kernel) ([38, 97, 109, 112, 59], [38]) (by decide +kernel),
    row Gen.Entities.table_20 (by decide +kernel) ([38, 108, 116, 59], [60]) (by decide +kernel),
    row Gen.Entities.table_16 (by decide +kernel) ([38, 103, 116, 59], [62]) (by decide +kernel),
    row Gen.Entities.table_26 (by decide +kernel) ([38, 113, 117, 111, 116, 59], [34]) (by decide +kernel)⟩

/-- `decode_escape` on hostile text: an attribute-breaking quote, a reference look-alike, a bare `&` -/
example : escapeHtml "\"&#106;&colon;&<".toList = "&quot;&amp;#106;&amp;colon;&amp;&lt;".toList ∧
    browserDecode named5 "&quot;&amp;#106;&amp;colon;&amp;&lt;".toList = "\"&#106;&colon;&<".toList := by
  decide_lits

/-- the decoder does decode all three kinds, with and without the semicolon, and stops after 8 digits -/
example : browserDecode named5 "&#106;&#106&#x6a;&#X6A&colon;&colon&nosuch;&".toList =
    "jjjj:&colon&nosuch;&".toList := by decide_lits
example : browserDecode named5 "&#00000106;&#000000106;".toList = "j\n6;".toList := by decide_lits
example : browserDecode named5 "&#0;&#xD800;&#x110000;&#99999999;".toList = "\uFFFD\uFFFD\uFFFD\uFFFD".toList := by
  decide_lits

/-- the numeric branches do not consult the table at all -/
theorem numeric_any_table (named : List Char → Option (List Char)) :
    browserDecode named "&#106;avascript:x".toList = "javascript:x".toList := by
  simp [browserDecode, decodeFrom, numericRef, takeUpTo, isDec, numVal, digitVal, scalar]

/-- `javascript:x` -/
def jsX : List Nat := [106, 97, 118, 97, 115, 99, 114, 105, 112, 116, 58, 120]

/-- `&#106;avascript:x` — over the normalised alphabet, accepted by `validate_link`, harmless -/
def ampJsX : List Nat := [38, 35, 49, 48, 54, 59, 97, 118, 97, 115, 99, 114, 105, 112, 116, 58, 120]

/-- **The escaping is needed: the browser's decoder is not injective on unescaped values.**
    Written WITHOUT `escape_html`, the harmless, validated destination `&#106;avascript:x` is read by
    the browser as `javascript:x` — the same string it reads from the value `javascript:x` — in each
    spelling of the reference (decimal, no semicolon, hexadecimal), and `javascript&colon;x` likewise. -/
theorem decode_not_injective_without_escape :
    browserDecode named5 "&#106;avascript:x".toList = "javascript:x".toList ∧
    browserDecode named5 "&#106avascript:x".toList = "javascript:x".toList ∧
    browserDecode named5 "&#x6a;avascript:x".toList = "javascript:x".toList ∧
    browserDecode named5 "&#X6A;avascript:x".toList = "javascript:x".toList ∧
    browserDecode named5 "javascript&colon;x".toList = "javascript:x".toList ∧
    browserDecode named5 "javascript:x".toList = "javascript:x".toList ∧
    "&#106;avascript:x".toList ≠ "javascript:x".toList ∧
    asChars ampJsX = "&#106;avascript:x".toList ∧
    Visible ampJsX ∧ validateLink ampJsX = true ∧ dangerous ampJsX = false ∧
    Link.utf8 (browserDecode named5 (asChars ampJsX)) = jsX ∧ dangerous jsX = true ∧
    Link.utf8 (browserDecode named5 (escapeHtml (asChars ampJsX))) = ampJsX := by
  decide +kernel

/-- the witness is reachable: `[a](\&#106;avascript:x)` / `[a](&amp;#106;avascript:x)` — the
    markdown-level decoder yields the text `&#106;avascript:x`, which the inline pipeline accepts
    unchanged (every character is in the safe set of `normalize_link`) -/
theorem ampJsX_accepted :
    inlineDest (fun _ => "&#106;avascript:x".toList) [] = some ampJsX ∧
    refDest (fun _ => "&#106;avascript:x".toList) [] = some ampJsX ∧
    autolinkDest true "&#106;avascript:x".toList = some ampJsX := by
  have e : Link.utf8 "&#106;avascript:x".toList = ampJsX := by decide
  have n : normalizeLink ampJsX = ampJsX := Link.normalize_safe_id ampJsX (by decide +kernel)
  refine ⟨?_, ?_, ?_⟩
  · unfold inlineDest; simp only [e, n]; decide
  · unfold refDest; simp only [e, n]; decide
  · unfold autolinkDest; simp only [if_true, e, n]; decide

/-- seeded regression 1: an `escape_html` that writes a LEADING `&` of the value verbatim -/
def escapeLeadRaw : List Char → List Char
  | '&' :: r => '&' :: escapeHtml r
  | s => escapeHtml s

/-- a reference-shaped continuation: `#` digits `;`, `#x` hex digits `;`, or a name and `;` -/
def looksLikeRef (r : List Char) : Bool :=
  match r with
  | '#' :: c :: t =>
    let hex : Bool := c == 'x' || c == 'X'
    let body := if hex then t else c :: t
    let ds := takeUpTo (if hex then isHex else isDec) 8 body
    !ds.isEmpty && body[ds.length]? = some ';'
  | _ =>
    let nm := takeUpTo isAlnum 33 r
    !nm.isEmpty && r[nm.length]? = some ';'

/-- seeded regression 2: "keep well-formed references" — `&` is written verbatim when a
    reference-shaped text follows (`&amp;#106;` would be "over-escaping"), escaped otherwise -/
def escapeKeepRefs : List Char → List Char
  | [] => []
  | c :: r => (if c = '&' ∧ looksLikeRef r = true then ['&'] else escapeChar c) ++ escapeKeepRefs r

/-- **Seeded shape 1 refuted.** On the accepted destination `&#106;avascript:x` the variant writes
    `href="&#106;avascript:x"`, which the browser reads as `javascript:x`; the real `escape_html`
    writes `href="&amp;#106;avascript:x"`, read back as the harmless original.  (On values that do
    not start with `&` the variant is `escape_html`.) -/
theorem seeded_lead_amp_raw :
    escapeLeadRaw (asChars ampJsX) = "&#106;avascript:x".toList ∧
    dangerous (Link.utf8 (browserDecode named5 (escapeLeadRaw (asChars ampJsX)))) = true ∧
    escapeHtml (asChars ampJsX) = "&amp;#106;avascript:x".toList ∧
    dangerous (Link.utf8 (browserDecode named5 (escapeHtml (asChars ampJsX)))) = false ∧
    escapeLeadRaw "a&\"".toList = escapeHtml "a&\"".toList := by
  decide +kernel

/-- **Seeded shape 2 refuted.** "Keeping well-formed references" writes the same dangerous
    attribute for `&#106;avascript:x` and for `javascript&colon;x`, while bare `&` is still
    escaped — the policy looks right on ordinary text and is wrong exactly on references. -/
theorem seeded_keep_refs :
    escapeKeepRefs (asChars ampJsX) = "&#106;avascript:x".toList ∧
    dangerous (Link.utf8 (browserDecode named5 (escapeKeepRefs (asChars ampJsX)))) = true ∧
    dangerous (Link.utf8 (browserDecode named5 (escapeKeepRefs "javascript&colon;x".toList))) = true ∧
    dangerous (Link.utf8 (browserDecode named5 (escapeHtml "javascript&colon;x".toList))) = false ∧
    escapeKeepRefs "a&b&\"".toList = escapeHtml "a&b&\"".toList := by
  decide +kernel

theorem ampJsX_valid : Visible ampJsX ∧ validateLink ampJsX = true := by decide

/-- `browser_sees_validated_url` and the pipeline theorems are not vacuous: the witness above
    satisfies their hypotheses, and so does an ordinary URL with `&` in its query -/
example : Visible ampJsX ∧ validateLink ampJsX = true := ampJsX_valid

/-- `http://x?a=1&b=2` -/
def httpQuery : List Nat := [104, 116, 116, 112, 58, 47, 47, 120, 63, 97, 61, 49, 38, 98, 61, 50]

example : Visible httpQuery ∧ validateLink httpQuery = true ∧
    escapeHtml (asChars httpQuery) = "http://x?a=1&amp;b=2".toList ∧
    browserDecode named5 (escapeHtml (asChars httpQuery)) = asChars httpQuery := by decide_lits

example : dangerous (Link.utf8 (browserDecode (Entity.lookupIn Gen.Entities.table)
    (escapeHtml (asChars ampJsX)))) = false :=
  (browser_sees_validated_url table_four ampJsX ampJsX_valid.1 ampJsX_valid.2).2.2

/-- `browser_safe_inline` instantiated on the reachable witness -/
example : dangerous (Link.utf8 (browserDecode named5 (escapeHtml (asChars ampJsX)))) = false :=
  browser_safe_inline named5_four _ _ _ ampJsX_accepted.1

end MdIt.HtmlDecode
