/-
  C11, third context — code SPANS — at WHOLE-DOCUMENT level: MULTI-LINE spans and the UNPADDED form.

  `Props/C11Span.lean` (which quotes the property) proves it for ONE-line paragraphs `pre ++ `ᵏ⁺¹ ␠ T ␠ `ᵏ⁺¹ ++ post` (the
  padded form), where the clause "line endings turned into spaces" is void.  Here:

  THE SPAN `` `ᵏ⁺¹ R `ᵏ⁺¹ `` (`rawSpan k R`): `R` is ANY text that is not empty, neither begins nor ends with a
  backtick and holds no run of `k + 1` backticks (`CodePair.RawOk`) — padded or not, with line feeds or not.
  THE CONTENT of the `CodeInline` node's one text child is `spanContent R` (`strip_char`, section 1):
      R' := R with every LF replaced by ONE space            (`CodePair.normalise`; nothing else changes: a
                                                              continuation line's indentation and blanks in front
                                                              of the LF stay, CommonMark strips the former)
      content = if R' starts with ' ' and ends with ' ' and |R'| > 2 bytes then R' without first and last char
                else R'                                       (`CodePair.padded` / `unpad`, the code's
                                                              `starts_with(' ') && ends_with(' ') && len() > 2`)
  — also for `R'` consisting of spaces only (three or more; the last example of Props/C11Span.lean).

  PROPERTY theorems
    `strip_char`, `padW_char`, `strip_unpadded`, `normalise_docOf`, `strip_lines`, `strip_padded` (Lemmas/C11SpanInline.lean)
                                                           what the content is (section 1)
    `doc_span_multiline_sp`, `doc_span_multiline`          the document `docOf Ls` — lines `Ls`, `n ≥ 1` of them,
                                                           forming ONE top-level paragraph (`SpanLines`: first
                                                           character `ParaFirst`, every further line `ContLine`) that
                                                           reads `pre ++ `ᵏ⁺¹ R `ᵏ⁺¹ ++ post` with `pre`, `post` plain:
                                                           the span opens on the first line and closes on the last —
                                                           the tree, exactly (kinds, payloads, every range, attributes):
                                                           `Root[Paragraph[Text pre, CodeInline[Text (spanContent R)],
                                                           Text post]]`; every range is the byte range in the source
    `doc_span_multiline_render_sp`, `doc_span_multiline_render`
                                                           `render` / `xrender`, exactly: `<p>pre<code>` escaped content
                                                           `</code>post</p>` LF
    `spanLines_padded`, `doc_span_padded_lines`, `doc_span_padded_lines_render`
                                                           the padded payload `T = t₁ ⏎ … ⏎ t_m` spelled out
                                                           (`paddedLines pre k ts post`): hypotheses on the pieces;
                                                           the content is `t₁ ␠ t₂ ␠ … ␠ t_m` (`spaced ts`), its range
                                                           the bytes of the payload
    `doc_span_raw_sp`, `doc_span_raw`, `doc_span_raw_render_sp`, `doc_span_raw_render`
                                                           ONE-line paragraphs with the general span, top level
    `doc_span_unpadded`, `doc_span_unpadded_render`        … `R` not both starting and ending with a space: the content
                                                           is `R`, the text child ranges over all of `R`
    `doc_span_raw_nested_sp`, `doc_span_raw_nested`, `doc_span_raw_render_nested_sp`, `doc_span_raw_render_nested`
                                                           the one-line paragraph inside any wrappers (block quotes,
                                                           list items), as in `Props/C11Span.lean`
  All of them are `C11X.doc_span_tree` / `C11X.doc_span_html` (Lemmas/C11SpanTree.lean) with ONE piece on either side
  of the span (`lines_tree`, `lines_html`: `SpanLines.toMid`, for any wrappers; `RawLine.toLines` for a paragraph of
  one line); at top level the table `Block.idTable 0 Ls` translates every offset to itself (`C11X.trOf_top`), for a
  paragraph of one line inside wrappers by their width (`C11X.trOf_one`).  Behind them: `CodePair.span_raw_ctx`
  (Props/C11.lean), `C11X.parseInline_lines` (Lemmas/C11SpanInline.lean), `Block.parseBlocks_lines`
  (Lemmas/C11SpanMultiPara.lean: `lazyScan` over the continuation lines in `lheading` and `paragraph`, every rule
  silent on a `ContLine`), `C11X.parseDoc_of_blocks_lines` / `renderDoc_of_blocks_lines` (Lemmas/C11SpanDoc.lean).

  What the model (= the crate, checked on every example of section 6) does with a multi-line span:
    * the block structure comes first: the lines of the span are paragraph continuation lines; a line that a block
      rule claims in look-ahead (`- y`, `===`, a fence, a blank line) ends the paragraph and the span with it
      (witnesses in section 6) — hence the hypothesis `ContLine` per line;
    * where the paragraph goes on, EVERY line ending inside the span becomes ONE space and nothing else changes:
      a continuation line's indentation stays in the content (CommonMark strips it), blanks in front of the line
      feed stay (no hard break inside a span), a line indented by 4 or more columns is payload whatever it holds;
    * the stripping test runs AFTER that, so a line feed directly behind the opening run / in front of the closing
      run counts as a padding space.

  The multi-line paragraph inside containers, and paragraphs with further lines in front of the opening line /
  behind the closing line (soft breaks in `pre` / `post`): `Props/C11SpanCtx.lean`.
-/
import MdIt.Props.C11Span
import MdIt.Lemmas.KernelEval

namespace MdIt.C11M
open MdIt.Block MdIt.Block.Li MdIt.Pipeline MdIt.C11N
open MdIt.Lines (NoTerm lead)
open MdIt.Render (Event piece piecesFrom flatten solAfter attrsStr escapeHtml)
open MdIt.NodeRender (aSourcepos tP tCode tBlockquote tUl tOl tLi olAttrs)
open MdIt.C11S (PlainTxt QuietTick)

/-! ## 1. the content: the exact stripping rule -/

/-- **`strip_char`**: the text of the code node, from the characters `R` between the backtick runs.  With
    `R' = normalise R` (`R` with every line feed replaced by one space): if `R'` starts with a space, ends with
    a space and is longer than 2 bytes, `R'` without its first and its last character; otherwise `R'`. -/
theorem strip_char (R : List Char) :
    spanContent R =
      if (CodePair.normalise R).head? = some ' ' ∧ (CodePair.normalise R).getLast? = some ' ' ∧
          2 < Lines.byteLen (CodePair.normalise R)
      then (CodePair.normalise R).tail.dropLast else CodePair.normalise R := by
  unfold spanContent CodePair.unpad CodePair.padded
  simp only [Bool.and_eq_true, beq_iff_eq, decide_eq_true_eq, and_assoc, C05I.linesLen_eq, Inline.codeByteLen_eq]

/-- … and the width of the padding taken off either end of the text child's range: 1 in the first case, else 0 -/
theorem padW_char (R : List Char) :
    padW R =
      if (CodePair.normalise R).head? = some ' ' ∧ (CodePair.normalise R).getLast? = some ' ' ∧
          2 < Lines.byteLen (CodePair.normalise R)
      then 1 else 0 := by
  unfold padW CodePair.padded
  simp only [Bool.and_eq_true, beq_iff_eq, decide_eq_true_eq, and_assoc, C05I.linesLen_eq, Inline.codeByteLen_eq]

/-- the unpadded form on one line (`R` does not both begin and end with a space): nothing is stripped, nothing
    changes — the content is `R` -/
theorem strip_unpadded (R : List Char) (hl : NoTerm R) (hu : ¬ (R.head? = some ' ' ∧ R.getLast? = some ' ')) :
    spanContent R = R ∧ padW R = 0 := by
  have hn := C11N.normalise_line hl
  rw [strip_char, padW_char, hn]
  exact ⟨by rw [if_neg (fun h => hu ⟨h.1, h.2.1⟩)], by rw [if_neg (fun h => hu ⟨h.1, h.2.1⟩)]⟩

/-- the payload lines `t₁ … t_m` joined by ONE space each -/
def spaced : List (List Char) → List Char
  | [] => []
  | [t] => t
  | t :: u :: r => t ++ ' ' :: spaced (u :: r)

/-- **line endings are turned into spaces**: `normalise` of the lines joined by LF is the lines joined by a space —
    every line whole, indentation and trailing blanks included -/
theorem normalise_docOf : ∀ (ts : List (List Char)), (∀ t ∈ ts, NoTerm t) →
    CodePair.normalise (docOf ts) = spaced ts
  | [], _ => rfl
  | [t], h => by
    simpa [docOf, Lines.joinLines, spaced] using C11N.normalise_line (h t (by simp))
  | t :: u :: r, h => by
    have ih := normalise_docOf (u :: r) (fun x hx => h x (List.mem_cons_of_mem _ hx))
    have ht := C11N.normalise_line (h t (by simp))
    simp only [docOf, Lines.joinLines, spaced] at ih ⊢
    rw [CodePair.normalise_append, ht]
    simp only [CodePair.normalise, List.map_cons, if_true] at ih ⊢
    rw [ih]

/-- the padded multi-line payload `␠ t₁ ⏎ t₂ ⏎ … ⏎ t_m ␠`: the content is `t₁ ␠ t₂ ␠ … ␠ t_m` -/
theorem strip_lines (ts : List (List Char)) (hts : ∀ t ∈ ts, NoTerm t) (hne : docOf ts ≠ []) :
    spanContent (' ' :: docOf ts ++ [' ']) = spaced ts ∧ padW (' ' :: docOf ts ++ [' ']) = 1 := by
  have := strip_padded (docOf ts) hne
  rw [normalise_docOf ts hts] at this
  exact this

/-- three spaces lose one pair; two spaces stay; a content that only
    starts with a space keeps it; a line feed at either end counts as a space -/
example : spanContent [' ', ' ', ' '] = [' '] ∧ spanContent [' ', ' '] = [' ', ' '] ∧
    spanContent [' ', 'x'] = [' ', 'x'] ∧ spanContent ['\n', 'x', '\n'] = ['x'] ∧
    spanContent [' ', 'x', ' ', ' '] = ['x', ' '] := by decide +kernel

/-! ## 2. a span over the lines of ONE paragraph, inside any wrappers (none: top level) -/

section core
variable (cfg : DocCfg) (Ls : List (List Char)) (pre R post : List Char) (k : Nat) (h : SpanLines Ls pre R post k)
  (c1 c2 : List Inline.RuleId) (hic : cfg.inlineChain = .text :: (c1 ++ .backticks :: c2))
  (hq : ∀ r ∈ c1, QuietTick r)
  (bpre bpost : List Block.RuleId) (hbc : cfg.blockChain = bpre ++ .paragraph :: bpost) (hbp : .paragraph ∉ bpre)
  (w : List Wrapper) (hn : C11X.Nested cfg w Ls)
include h hic hq hbc hbp hn

/-- the document tree: the wrapper nodes around the paragraph (or, tight, around nothing) over `Text pre`,
    `CodeInline[Text (spanContent R)]`, `Text post` — `C11X.doc_span_tree` with one piece on either side -/
theorem lines_tree :
    parseDoc cfg (wrapAll w (docOf Ls)) =
      .ok ⟨.blk .root, some (0, Lines.byteLen (wrapAll w (docOf Ls))),
        spAttrs cfg (wrapAll w (docOf Ls)) (0, Lines.byteLen (wrapAll w (docOf Ls))),
        wrapForestN (spAttrs cfg (wrapAll w (docOf Ls))) (Lines.byteLen (wrapAll w (docOf Ls))) w 0
          (spanLeaf (spAttrs cfg (wrapAll w (docOf Ls))) (widthAll w) (Lines.byteLen (wrapAll w (docOf Ls))) (tightOf w)
            (rawNodes (spAttrs cfg (wrapAll w (docOf Ls))) (C11X.trOf (widthAll w) Ls (wrapAllLines w Ls)) k pre R post))⟩ := by
  rw [← C11X.midNodes_single]
  exact C11X.doc_span_tree cfg Ls [pre] [post] R k h.toMid c1 c2 hic hq (by simp) bpre bpost hbc hbp w hn

theorem lines_html (x : Bool) :
    renderDoc x cfg (wrapAll w (docOf Ls)) =
      .ok (Render.replaceNul (spanHtmlA (spAttrs cfg (wrapAll w (docOf Ls))) (Lines.byteLen (wrapAll w (docOf Ls)))
        (openTag tP (spAttrs cfg (wrapAll w (docOf Ls)) (widthAll w, Lines.byteLen (wrapAll w (docOf Ls)))) ++
          inlHtml (spAttrs cfg (wrapAll w (docOf Ls)) (spanRange (C11X.trOf (widthAll w) Ls (wrapAllLines w Ls)) k pre R))
            pre (spanContent R) post ++ closeTag tP ++ ['\n'])
        (inlHtml (spAttrs cfg (wrapAll w (docOf Ls)) (spanRange (C11X.trOf (widthAll w) Ls (wrapAllLines w Ls)) k pre R))
          pre (spanContent R) post) w 0)) := by
  have := C11X.doc_span_html cfg Ls [pre] [post] R k h.toMid c1 c2 hic hq (by simp) bpre bpost hbc hbp w hn x
  rwa [docOf_one, docOf_one] at this

end core

/-! ## 3. ONE-line paragraphs with the general span (`RawLine`: Lemmas/C11SpanTree.lean) -/

instance (m : Char) (k : Nat) (R : List Char) : Decidable (CodePair.RawOk m k R) :=
  if h : R ≠ [] ∧ R.head? ≠ some m ∧ R.getLast? ≠ some m ∧ ¬ List.replicate (k + 1) m <:+: R then
    isTrue ⟨h.1, h.2.1, h.2.2.1, h.2.2.2⟩
  else isFalse (fun r => h ⟨r.ne, r.head, r.last, r.runs⟩)

/-- the children of the paragraph when nothing is stripped: the text child holds `R` and ranges over all of `R` -/
theorem rawNodes_unpadded (att : Nat × Nat → List (List Char × List Char)) (tr : Nat → Nat) (k : Nat)
    (pre R post : List Char) (hl : NoTerm R) (hu : ¬ (R.head? = some ' ' ∧ R.getLast? = some ' ')) :
    rawNodes att tr k pre R post =
      txtR att (tr 0, tr (Lines.byteLen pre)) pre ++
        [codeR att k (spanRange tr k pre R)
          (tr (Lines.byteLen pre + (k + 1)), tr (Lines.byteLen pre + (k + 1) + Lines.byteLen R)) R] ++
        txtR att (tr (Lines.byteLen pre + (2 * (k + 1) + Lines.byteLen R)),
          tr (Lines.byteLen pre + (2 * (k + 1) + Lines.byteLen R) + Lines.byteLen post)) post := by
  obtain ⟨h1, h2⟩ := strip_unpadded R hl hu
  simp only [rawNodes, innerRange, h1, h2, Nat.add_zero, Nat.sub_zero]

section top
variable (cfg : DocCfg) (pre R post : List Char) (k : Nat) (h : RawLine pre R post k)
  (c1 c2 : List Inline.RuleId) (hic : cfg.inlineChain = .text :: (c1 ++ .backticks :: c2))
  (hq : ∀ r ∈ c1, QuietTick r)
  (bpre bpost : List Block.RuleId) (hbc : cfg.blockChain = bpre ++ .paragraph :: bpost) (hbp : .paragraph ∉ bpre)
  (hmn : 0 < cfg.maxNesting)
include h hic hq hbc hbp hmn

/-- **`doc_span_raw`, any `sourcepos`** (top level).  The one-line document `pre ++ `ᵏ⁺¹ R `ᵏ⁺¹ ++ post` (`RawLine`)
    parses to `Root[Paragraph[…]]`, root and paragraph over the whole source, the paragraph's children
    (`rawNodes`, ranges = byte ranges): the `Text` node of `pre`, ONE `CodeInline` node over the whole span (marker
    `` ` ``, length `k + 1`) whose single child is the `Text` node holding `spanContent R` (`strip_char`) over the
    bytes of `R` — without the first and the last one when the padding pair is stripped —, the `Text` node of
    `post`.  Attributes: those of `SyntaxPosRule` (`spAttrs`) on every node. -/
theorem doc_span_raw_sp :
    parseDoc cfg (pre ++ rawSpan k R ++ post) =
      .ok ⟨.blk .root, some (0, Lines.byteLen (pre ++ rawSpan k R ++ post)),
        spAttrs cfg (pre ++ rawSpan k R ++ post) (0, Lines.byteLen (pre ++ rawSpan k R ++ post)),
        [⟨.blk .paragraph, some (0, Lines.byteLen (pre ++ rawSpan k R ++ post)),
          spAttrs cfg (pre ++ rawSpan k R ++ post) (0, Lines.byteLen (pre ++ rawSpan k R ++ post)),
          rawNodes (spAttrs cfg (pre ++ rawSpan k R ++ post)) (fun a => a) k pre R post⟩]⟩ := by
  have := lines_tree cfg _ pre R post k h.toLines c1 c2 hic hq bpre bpost hbc hbp [] (C11X.Nested.top hmn _)
  rw [C11X.trOf_top (by simp)] at this
  simpa [wrapForestN, spanLeaf, tightOf, wrapAll, widthAll, docOf_one] using this

/-- **`doc_span_raw`** (top level, no `sourcepos` plugin): the tree, exactly, no attributes anywhere -/
theorem doc_span_raw (hsp : cfg.sourcepos = false) :
    parseDoc cfg (pre ++ rawSpan k R ++ post) =
      .ok ⟨.blk .root, some (0, Lines.byteLen (pre ++ rawSpan k R ++ post)), [],
        [⟨.blk .paragraph, some (0, Lines.byteLen (pre ++ rawSpan k R ++ post)), [],
          rawNodes (fun _ => []) (fun a => a) k pre R post⟩]⟩ := by
  have := doc_span_raw_sp cfg pre R post k h c1 c2 hic hq bpre bpost hbc hbp hmn
  rw [spAttrs_off hsp] at this
  exact this

/-- **`doc_span_raw_render`, any `sourcepos`** (top level): `<p ATTRS>`, escaped `pre`, `<code ATTRS>`, escaped
    content, `</code>`, escaped `post`, `</p>`, LF; then the serializer's NUL replacement -/
theorem doc_span_raw_render_sp (x : Bool) :
    renderDoc x cfg (pre ++ rawSpan k R ++ post) =
      .ok (Render.replaceNul
        (openTag tP (spAttrs cfg (pre ++ rawSpan k R ++ post) (0, Lines.byteLen (pre ++ rawSpan k R ++ post))) ++
          inlHtml (spAttrs cfg (pre ++ rawSpan k R ++ post) (spanRange (fun a => a) k pre R)) pre (spanContent R) post ++
          closeTag tP ++ ['\n'])) := by
  have := lines_html cfg _ pre R post k h.toLines c1 c2 hic hq bpre bpost hbc hbp [] (C11X.Nested.top hmn _) x
  rw [C11X.trOf_top (by simp)] at this
  simpa [spanHtmlA, wrapAll, widthAll, docOf_one] using this

/-- **`doc_span_raw_render`** (top level, no `sourcepos` plugin), both serializers: the output is `<p>` `pre` `<code>`
    content `</code>` `post` `</p>` LF with exactly `& < > "` escaped and NUL replaced by U+FFFD; the content is
    `spanContent R` — `R` character for character but for the stripping rule of `strip_char` -/
theorem doc_span_raw_render (hsp : cfg.sourcepos = false) (x : Bool) :
    renderDoc x cfg (pre ++ rawSpan k R ++ post) =
      .ok ("<p>".toList ++ codeHtml (Render.nulStr pre) (Render.nulStr (spanContent R)) (Render.nulStr post) ++
        "</p>\n".toList) := by
  have := plain_html cfg _ hsp x _ _ _ pre (spanContent R) post [] _
    (lines_html cfg _ pre R post k h.toLines c1 c2 hic hq bpre bpost hbc hbp [] (C11X.Nested.top hmn _) x)
  simpa [spanHtml, wrapAll, docOf_one] using this

/-- **`doc_span_unpadded`** (top level, no `sourcepos` plugin): `R` does not both begin and end with a space — no
    stripping: the `CodeInline` node's text child is `R` itself, over exactly the bytes of `R` -/
theorem doc_span_unpadded (hsp : cfg.sourcepos = false) (hu : ¬ (R.head? = some ' ' ∧ R.getLast? = some ' ')) :
    parseDoc cfg (pre ++ rawSpan k R ++ post) =
      .ok ⟨.blk .root, some (0, Lines.byteLen (pre ++ rawSpan k R ++ post)), [],
        [⟨.blk .paragraph, some (0, Lines.byteLen (pre ++ rawSpan k R ++ post)), [],
          txtR (fun _ => []) (0, Lines.byteLen pre) pre ++
          [codeR (fun _ => []) k (Lines.byteLen pre, Lines.byteLen pre + (2 * (k + 1) + Lines.byteLen R))
            (Lines.byteLen pre + (k + 1), Lines.byteLen pre + (k + 1) + Lines.byteLen R) R] ++
          txtR (fun _ => []) (Lines.byteLen pre + (2 * (k + 1) + Lines.byteLen R),
            Lines.byteLen pre + (2 * (k + 1) + Lines.byteLen R) + Lines.byteLen post) post⟩]⟩ := by
  have := doc_span_raw cfg pre R post k h c1 c2 hic hq bpre bpost hbc hbp hmn hsp
  rw [rawNodes_unpadded _ _ k pre R post h.line hu] at this
  exact this

/-- **`doc_span_unpadded_render`**: `<p>pre<code>R</code>post</p>` LF — `R` character for character, escaped -/
theorem doc_span_unpadded_render (hsp : cfg.sourcepos = false) (hu : ¬ (R.head? = some ' ' ∧ R.getLast? = some ' '))
    (x : Bool) :
    renderDoc x cfg (pre ++ rawSpan k R ++ post) =
      .ok ("<p>".toList ++ codeHtml (Render.nulStr pre) (Render.nulStr R) (Render.nulStr post) ++ "</p>\n".toList) := by
  have := doc_span_raw_render cfg pre R post k h c1 c2 hic hq bpre bpost hbc hbp hmn hsp x
  rw [(strip_unpadded R h.line hu).1] at this
  exact this

end top

section nested
variable (cfg : DocCfg) (pre R post : List Char) (k : Nat) (h : RawLine pre R post k)
  (htab : '\t' ∉ pre ++ rawSpan k R ++ post)
  (c1 c2 : List Inline.RuleId) (hic : cfg.inlineChain = .text :: (c1 ++ .backticks :: c2))
  (hq : ∀ r ∈ c1, QuietTick r)
  (bpre bpost : List Block.RuleId) (hbc : cfg.blockChain = bpre ++ .paragraph :: bpost) (hbp : .paragraph ∉ bpre)
  (w : List Wrapper) (hw : ∀ x ∈ w, x.Ok) (hch : ChainFor cfg.blockChain w)
  (hmn : depthCost w < cfg.maxNesting)
  (hsize : Lines.byteLen (wrapAll w (pre ++ rawSpan k R ++ post)) + 20 < 2147483648)
include h htab hic hq hbc hbp hw hch hmn hsize

/-- **`doc_span_raw_nested`, any `sourcepos`.**  The line of `doc_span_raw_sp`, TAB-FREE, inside any list `w` of
    wrappers (as in `C11N.doc_span_verbatim_nested_sp`): the wrapper nodes around the `Paragraph` — or, innermost
    wrapper a list item, around nothing — over the SAME three inline nodes, ranges moved by the width of the
    prefixes (`a ↦ widthAll w + a`). -/
theorem doc_span_raw_nested_sp :
    parseDoc cfg (wrapAll w (pre ++ rawSpan k R ++ post)) =
      .ok ⟨.blk .root, some (0, Lines.byteLen (wrapAll w (pre ++ rawSpan k R ++ post))),
        spAttrs cfg (wrapAll w (pre ++ rawSpan k R ++ post)) (0, Lines.byteLen (wrapAll w (pre ++ rawSpan k R ++ post))),
        wrapForestN (spAttrs cfg (wrapAll w (pre ++ rawSpan k R ++ post)))
          (Lines.byteLen (wrapAll w (pre ++ rawSpan k R ++ post))) w 0
          (spanLeaf (spAttrs cfg (wrapAll w (pre ++ rawSpan k R ++ post))) (widthAll w)
            (Lines.byteLen (wrapAll w (pre ++ rawSpan k R ++ post))) (tightOf w)
            (rawNodes (spAttrs cfg (wrapAll w (pre ++ rawSpan k R ++ post))) (fun a => widthAll w + a) k pre R post))⟩ := by
  have := lines_tree cfg _ pre R post k h.toLines c1 c2 hic hq bpre bpost hbc hbp w
    ⟨hw, hch, hmn, fun _ => ⟨by simpa using htab, by rwa [docOf_one]⟩⟩
  rwa [docOf_one, C11X.trOf_one] at this

/-- **`doc_span_raw_nested`** (no `sourcepos` plugin): the tree, exactly, no attributes anywhere -/
theorem doc_span_raw_nested (hsp : cfg.sourcepos = false) :
    parseDoc cfg (wrapAll w (pre ++ rawSpan k R ++ post)) =
      .ok ⟨.blk .root, some (0, Lines.byteLen (wrapAll w (pre ++ rawSpan k R ++ post))), [],
        wrapForestN (fun _ => []) (Lines.byteLen (wrapAll w (pre ++ rawSpan k R ++ post))) w 0
          (spanLeaf (fun _ => []) (widthAll w) (Lines.byteLen (wrapAll w (pre ++ rawSpan k R ++ post))) (tightOf w)
            (rawNodes (fun _ => []) (fun a => widthAll w + a) k pre R post))⟩ := by
  have := doc_span_raw_nested_sp cfg pre R post k h htab c1 c2 hic hq bpre bpost hbc hbp w hw hch hmn hsize
  rw [spAttrs_off hsp] at this
  exact this

theorem doc_span_raw_render_nested_sp (x : Bool) :
    renderDoc x cfg (wrapAll w (pre ++ rawSpan k R ++ post)) =
      .ok (Render.replaceNul (spanHtmlA (spAttrs cfg (wrapAll w (pre ++ rawSpan k R ++ post)))
        (Lines.byteLen (wrapAll w (pre ++ rawSpan k R ++ post)))
        (openTag tP (spAttrs cfg (wrapAll w (pre ++ rawSpan k R ++ post))
            (widthAll w, Lines.byteLen (wrapAll w (pre ++ rawSpan k R ++ post)))) ++
          inlHtml (spAttrs cfg (wrapAll w (pre ++ rawSpan k R ++ post)) (spanRange (fun a => widthAll w + a) k pre R))
            pre (spanContent R) post ++ closeTag tP ++ ['\n'])
        (inlHtml (spAttrs cfg (wrapAll w (pre ++ rawSpan k R ++ post)) (spanRange (fun a => widthAll w + a) k pre R))
          pre (spanContent R) post) w 0)) := by
  have := lines_html cfg _ pre R post k h.toLines c1 c2 hic hq bpre bpost hbc hbp w
    ⟨hw, hch, hmn, fun _ => ⟨by simpa using htab, by rwa [docOf_one]⟩⟩ x
  rwa [docOf_one, C11X.trOf_one] at this

/-- **`doc_span_raw_render_nested`** (no `sourcepos` plugin), both serializers: the wrappers' HTML (`spanHtml`)
    around `pre` `<code>` content `</code>` `post` -/
theorem doc_span_raw_render_nested (hsp : cfg.sourcepos = false) (x : Bool) :
    renderDoc x cfg (wrapAll w (pre ++ rawSpan k R ++ post)) =
      .ok (spanHtml w (codeHtml (Render.nulStr pre) (Render.nulStr (spanContent R)) (Render.nulStr post))) :=
  plain_html cfg _ hsp x _ _ _ pre (spanContent R) post w _
    (doc_span_raw_render_nested_sp cfg pre R post k h htab c1 c2 hic hq bpre bpost hbc hbp w hw hch hmn hsize x)

end nested

/-! ## 4. MULTI-line paragraphs (`SpanLines`: Lemmas/C11SpanTree.lean) -/

section multi
variable (cfg : DocCfg) (Ls : List (List Char)) (pre R post : List Char) (k : Nat) (h : SpanLines Ls pre R post k)
  (c1 c2 : List Inline.RuleId) (hic : cfg.inlineChain = .text :: (c1 ++ .backticks :: c2))
  (hq : ∀ r ∈ c1, QuietTick r)
  (bpre bpost : List Block.RuleId) (hbc : cfg.blockChain = bpre ++ .paragraph :: bpost) (hbp : .paragraph ∉ bpre)
  (hmn : 0 < cfg.maxNesting)
include h hic hq hbc hbp hmn

/-- **`doc_span_multiline`, any `sourcepos`.**  The document `docOf Ls` (`SpanLines`: `n ≥ 1` lines forming one
    top-level paragraph `pre ++ `ᵏ⁺¹ R `ᵏ⁺¹ ++ post`, the span opening on the first line and closing on the last) parses
    to `Root[Paragraph[…]]`, root and paragraph over the whole source; the paragraph's children (`rawNodes`, every
    range the byte range in the source): the `Text` node of `pre`, ONE `CodeInline` node over the whole span — all
    its lines — whose single child is the `Text` node holding `spanContent R`: `R` with every line feed turned
    into ONE space (nothing else: indentation of continuation lines and blanks in front of a line feed stay) and
    one pair of padding spaces removed (`strip_char`); the `Text` node of `post`. -/
theorem doc_span_multiline_sp :
    parseDoc cfg (docOf Ls) =
      .ok ⟨.blk .root, some (0, Lines.byteLen (docOf Ls)), spAttrs cfg (docOf Ls) (0, Lines.byteLen (docOf Ls)),
        [⟨.blk .paragraph, some (0, Lines.byteLen (docOf Ls)), spAttrs cfg (docOf Ls) (0, Lines.byteLen (docOf Ls)),
          rawNodes (spAttrs cfg (docOf Ls)) (fun a => a) k pre R post⟩]⟩ := by
  have := lines_tree cfg Ls pre R post k h c1 c2 hic hq bpre bpost hbc hbp [] (C11X.Nested.top hmn _)
  rw [C11X.trOf_top h.ne] at this
  simpa [wrapForestN, spanLeaf, tightOf, wrapAll, widthAll] using this

/-- **`doc_span_multiline`** (no `sourcepos` plugin): the tree, exactly, no attributes anywhere -/
theorem doc_span_multiline (hsp : cfg.sourcepos = false) :
    parseDoc cfg (docOf Ls) =
      .ok ⟨.blk .root, some (0, Lines.byteLen (docOf Ls)), [],
        [⟨.blk .paragraph, some (0, Lines.byteLen (docOf Ls)), [],
          rawNodes (fun _ => []) (fun a => a) k pre R post⟩]⟩ := by
  have := doc_span_multiline_sp cfg Ls pre R post k h c1 c2 hic hq bpre bpost hbc hbp hmn
  rw [spAttrs_off hsp] at this
  exact this

/-- **`doc_span_multiline_render`, any `sourcepos`**: `<p ATTRS>`, escaped `pre`, `<code ATTRS>`, escaped content,
    `</code>`, escaped `post`, `</p>`, LF; then the serializer's NUL replacement -/
theorem doc_span_multiline_render_sp (x : Bool) :
    renderDoc x cfg (docOf Ls) =
      .ok (Render.replaceNul
        (openTag tP (spAttrs cfg (docOf Ls) (0, Lines.byteLen (docOf Ls))) ++
          inlHtml (spAttrs cfg (docOf Ls) (spanRange (fun a => a) k pre R)) pre (spanContent R) post ++
          closeTag tP ++ ['\n'])) := by
  have := lines_html cfg Ls pre R post k h c1 c2 hic hq bpre bpost hbc hbp [] (C11X.Nested.top hmn _) x
  rw [C11X.trOf_top h.ne] at this
  simpa [spanHtmlA, wrapAll, widthAll] using this

/-- **`doc_span_multiline_render`** (no `sourcepos` plugin), both serializers: the output is `<p>` `pre` `<code>`
    content `</code>` `post` `</p>` LF — ONE paragraph, ONE code element —, content = `spanContent R`: the characters
    of `R`, every line ending turned into one space, one pair of padding spaces removed; exactly `& < > "` escaped,
    NUL replaced by U+FFFD; nothing inside is interpreted -/
theorem doc_span_multiline_render (hsp : cfg.sourcepos = false) (x : Bool) :
    renderDoc x cfg (docOf Ls) =
      .ok ("<p>".toList ++ codeHtml (Render.nulStr pre) (Render.nulStr (spanContent R)) (Render.nulStr post) ++
        "</p>\n".toList) := by
  have := plain_html cfg _ hsp x _ _ _ pre (spanContent R) post [] _
    (lines_html cfg Ls pre R post k h c1 c2 hic hq bpre bpost hbc hbp [] (C11X.Nested.top hmn _) x)
  simpa [spanHtml, wrapAll] using this

end multi

/-! ## 5. the padded multi-line payload, spelled out -/

/-- `a` in front of the first of the lines `ts`, `b` behind the last -/
def glue (a : List Char) : List (List Char) → List Char → List (List Char)
  | [], b => [a ++ b]
  | [t], b => [a ++ t ++ b]
  | t :: u :: r, b => (a ++ t) :: glue [] (u :: r) b

theorem glue_ne_nil (a : List Char) (ts : List (List Char)) (b : List Char) : glue a ts b ≠ [] := by
  match ts with
  | [] => simp [glue]
  | [t] => simp [glue]
  | t :: u :: r => simp [glue]

theorem docOf_cons_ne (x : List Char) {L : List (List Char)} (hL : L ≠ []) :
    docOf (x :: L) = x ++ '\n' :: docOf L := by
  cases L with
  | nil => exact absurd rfl hL
  | cons y ys => rfl

theorem docOf_glue : ∀ (ts : List (List Char)) (a b : List Char), docOf (glue a ts b) = a ++ docOf ts ++ b
  | [], a, b => by simp [glue, docOf, Lines.joinLines]
  | [t], a, b => by simp [glue, docOf, Lines.joinLines]
  | t :: u :: r, a, b => by
    have ih := docOf_glue (u :: r) [] b
    rw [glue, docOf_cons_ne _ (glue_ne_nil _ _ _), ih, docOf_cons_ne t (by simp)]
    simp

theorem noTerm_glue : ∀ (ts : List (List Char)) (a b : List Char), NoTerm a → NoTerm b → (∀ t ∈ ts, NoTerm t) →
    ∀ l ∈ glue a ts b, NoTerm l
  | [], a, b, ha, hb, _, l, hl => by
    simp only [glue, List.mem_singleton] at hl; subst hl; exact noTerm_append ha hb
  | [t], a, b, ha, hb, ht, l, hl => by
    simp only [glue, List.mem_singleton] at hl; subst hl
    exact noTerm_append (noTerm_append ha (ht t (by simp))) hb
  | t :: u :: r, a, b, ha, hb, ht, l, hl => by
    simp only [glue, List.mem_cons] at hl
    rcases hl with rfl | hl
    · exact noTerm_append ha (ht t (by simp))
    · exact noTerm_glue (u :: r) [] b (by intro c hc; simp at hc) hb
        (fun x hx => ht x (List.mem_cons_of_mem _ hx)) l (by simpa [glue] using hl)

/-- the lines of the document `pre `ᵏ⁺¹ ␠ t₁ ⏎ t₂ ⏎ … ⏎ t_m ␠ `ᵏ⁺¹ post`: the padded span over the payload lines `ts` -/
def paddedLines (pre : List Char) (k : Nat) (ts : List (List Char)) (post : List Char) : List (List Char) :=
  glue (pre ++ ticks k ++ [' ']) ts (' ' :: ticks k ++ post)

theorem docOf_paddedLines (pre : List Char) (k : Nat) (ts : List (List Char)) (post : List Char) :
    docOf (paddedLines pre k ts post) = pre ++ rawSpan k (' ' :: docOf ts ++ [' ']) ++ post := by
  rw [paddedLines, docOf_glue]
  simp [rawSpan]

/-- a run of `m` cannot cross a character `c ≠ m` -/
theorem infix_split {m c : Char} {n : Nat} (hn : 0 < n) (hc : c ≠ m) {a b : List Char}
    (h : List.replicate n m <:+: a ++ c :: b) : List.replicate n m <:+: a ∨ List.replicate n m <:+: b := by
  obtain ⟨p, q, hpq⟩ := h
  obtain ⟨j, rfl⟩ : ∃ j, n = j + 1 := ⟨n - 1, by omega⟩
  rw [List.append_assoc] at hpq
  rcases List.append_eq_append_iff.mp hpq with ⟨a', ha, hr⟩ | ⟨c', hp, hr⟩
  · rcases List.append_eq_append_iff.mp hr with ⟨a'', ha', _⟩ | ⟨c', hrep, hr'⟩
    · left; exact ⟨p, a'', by rw [ha, ha']; simp⟩
    · cases c' with
      | nil => left; exact ⟨p, [], by rw [ha, hrep]; simp⟩
      | cons d t =>
        simp only [List.cons_append, List.cons.injEq] at hr'
        have : c ∈ List.replicate (j + 1) m := by rw [hrep, hr'.1]; simp
        exact absurd (List.mem_replicate.mp this).2 hc
  · cases c' with
    | nil =>
      simp only [List.nil_append, List.replicate_succ, List.cons_append, List.cons.injEq] at hr
      exact absurd hr.1 hc
    | cons d t =>
      simp only [List.cons_append, List.cons.injEq] at hr
      right; exact ⟨t, q, by rw [hr.2]; simp⟩

/-- no line of `ts` holds a run of `n` markers: neither does the joined payload (a run cannot cross a line feed) -/
theorem runs_docOf {m : Char} {n : Nat} (hn : 0 < n) (hm : m ≠ '\n') :
    ∀ (ts : List (List Char)), (∀ t ∈ ts, ¬ List.replicate n m <:+: t) → ¬ List.replicate n m <:+: docOf ts
  | [], _ => by
    intro ⟨p, q, h⟩
    obtain ⟨k, rfl⟩ : ∃ k, n = k + 1 := ⟨n - 1, by omega⟩
    simp [docOf, Lines.joinLines, List.replicate_succ] at h
  | [t], h => by simpa [docOf, Lines.joinLines] using h t (by simp)
  | t :: u :: r, h => by
    intro hi
    simp only [docOf, Lines.joinLines] at hi
    rcases infix_split hn (Ne.symm hm) hi with h1 | h1
    · exact h t (by simp) h1
    · exact runs_docOf hn hm (u :: r) (fun x hx => h x (List.mem_cons_of_mem _ hx)) h1
/-- the hypotheses of `doc_span_multiline` for the padded payload `ts`, from hypotheses on the pieces -/
theorem spanLines_padded (pre post : List Char) (k : Nat) (ts : List (List Char))
    (hfirst : ∃ c r, pre = c :: r ∧ ParaFirst c) (hpre : PlainTxt pre) (hpost : PlainTxt post)
    (hpreCR : '\r' ∉ pre) (hpostCR : '\r' ∉ post) (hend : ∀ c ∈ post.getLast?, Inline.isSpTab c = false)
    (hts : ∀ t ∈ ts, NoTerm t) (hne : docOf ts ≠ []) (hruns : ∀ t ∈ ts, ¬ List.replicate (k + 1) '`' <:+: t)
    (hcont : ∀ l ∈ (paddedLines pre k ts post).tail, ContLine l) :
    SpanLines (paddedLines pre k ts post) pre (' ' :: docOf ts ++ [' ']) post k := by
  have hsp : NoTerm [' '] := by intro c hc; simp at hc; subst hc; decide
  refine ⟨?_, ?_, hcont, docOf_paddedLines pre k ts post, hpre, hpost, hend, ?_⟩
  · obtain ⟨c, r, hp, hc⟩ := hfirst
    subst hp
    match ts with
    | [] => exact ⟨c, _, [], by simp only [paddedLines, glue, List.cons_append]; rfl, hc⟩
    | [t] => exact ⟨c, _, [], by simp only [paddedLines, glue, List.cons_append]; rfl, hc⟩
    | t :: u :: r' => exact ⟨c, _, _, by simp only [paddedLines, glue, List.cons_append]; rfl, hc⟩
  · exact noTerm_glue ts _ _ (noTerm_append (noTerm_append (noTerm_plain hpre hpreCR) (noTerm_ticks k)) hsp)
      (noTerm_append (noTerm_append hsp (noTerm_ticks k)) (noTerm_plain hpost hpostCR)) hts
  · refine ⟨by simp, by simp, ?_, ?_⟩
    · rw [show ' ' :: docOf ts ++ [' '] = (' ' :: docOf ts) ++ [' '] by simp, List.getLast?_concat]; simp
    · exact CodePair.no_early_close (by omega) (by decide) (runs_docOf (by omega) (by decide) ts hruns)

section payload
variable (cfg : DocCfg) (pre post : List Char) (k : Nat) (ts : List (List Char))
  (h : SpanLines (paddedLines pre k ts post) pre (' ' :: docOf ts ++ [' ']) post k)
  (hts : ∀ t ∈ ts, NoTerm t) (hne : docOf ts ≠ [])
  (c1 c2 : List Inline.RuleId) (hic : cfg.inlineChain = .text :: (c1 ++ .backticks :: c2))
  (hq : ∀ r ∈ c1, QuietTick r)
  (bpre bpost : List Block.RuleId) (hbc : cfg.blockChain = bpre ++ .paragraph :: bpost) (hbp : .paragraph ∉ bpre)
  (hmn : 0 < cfg.maxNesting) (hsp : cfg.sourcepos = false)
include h hts hne hic hq hbc hbp hmn hsp

/-- **`doc_span_padded_lines`** (no `sourcepos` plugin).  The document
    `pre `ᵏ⁺¹ ␠ t₁ ⏎ t₂ ⏎ … ⏎ t_m ␠ `ᵏ⁺¹ post` (`paddedLines`, hypotheses `spanLines_padded`): ONE paragraph, ONE
    `CodeInline` node over the whole span whose text child is `t₁ ␠ t₂ ␠ … ␠ t_m` (`spaced ts`: each line ending
    turned into ONE space, every line whole — indentation and trailing blanks included) over exactly the bytes
    of the payload (between the padding spaces) -/
theorem doc_span_padded_lines :
    parseDoc cfg (docOf (paddedLines pre k ts post)) =
      .ok ⟨.blk .root, some (0, Lines.byteLen (docOf (paddedLines pre k ts post))), [],
        [⟨.blk .paragraph, some (0, Lines.byteLen (docOf (paddedLines pre k ts post))), [],
          txtR (fun _ => []) (0, Lines.byteLen pre) pre ++
          [codeR (fun _ => []) k
            (Lines.byteLen pre, Lines.byteLen pre + (2 * (k + 1) + (Lines.byteLen (docOf ts) + 2)))
            (Lines.byteLen pre + (k + 1) + 1, Lines.byteLen pre + (k + 1) + 1 + Lines.byteLen (docOf ts))
            (spaced ts)] ++
          txtR (fun _ => []) (Lines.byteLen pre + (2 * (k + 1) + (Lines.byteLen (docOf ts) + 2)),
            Lines.byteLen pre + (2 * (k + 1) + (Lines.byteLen (docOf ts) + 2)) + Lines.byteLen post) post⟩]⟩ := by
  have := doc_span_multiline cfg _ pre _ post k h c1 c2 hic hq bpre bpost hbc hbp hmn hsp
  obtain ⟨h1, h2⟩ := strip_lines ts hts hne
  have hb : Lines.byteLen (' ' :: docOf ts ++ [' ']) = Lines.byteLen (docOf ts) + 2 := by
    simp only [C05I.linesLen_eq, InlineOps.byteLen, C05.byteLen_append, show ' '.utf8Size = 1 by decide]
    omega
  have he : Lines.byteLen pre + (k + 1) + (Lines.byteLen (docOf ts) + 2) - 1 =
      Lines.byteLen pre + (k + 1) + 1 + Lines.byteLen (docOf ts) := by omega
  simp only [rawNodes, spanRange, innerRange, h1, h2, hb, he] at this
  exact this

/-- **`doc_span_padded_lines_render`**, both serializers: `<p>` `pre` `<code>` `t₁ ␠ t₂ ␠ … ␠ t_m` `</code>` `post` `</p>`
    LF, with exactly `& < > "` escaped and NUL replaced by U+FFFD -/
theorem doc_span_padded_lines_render (x : Bool) :
    renderDoc x cfg (docOf (paddedLines pre k ts post)) =
      .ok ("<p>".toList ++ codeHtml (Render.nulStr pre) (Render.nulStr (spaced ts)) (Render.nulStr post) ++
        "</p>\n".toList) := by
  have := doc_span_multiline_render cfg _ pre _ post k h c1 c2 hic hq bpre bpost hbc hbp hmn hsp x
  rw [(strip_lines ts hts hne).1] at this
  exact this

end payload

/-! ## 6. instances on the stock chains, and the necessity of the hypotheses -/

section examples

/-- the payloads of the examples -/
def exR : List Char := "x\ny <b>\nz".toList
def exR1 : List Char := "x ` <i>".toList

def stockPre : List Block.RuleId := [.code, .fence, .blockquote, .hr, .list, .reference, .heading, .lheading]

/-- the three-line document ``a ``x ⏎ y <b> ⏎ z`` w`` (unpadded): `pre = "a "`, `R = "x⏎y <b>⏎z"`, `post = " w"` -/
def exLs : List (List Char) := ["a ``x".toList, "y <b>".toList, "z`` w".toList]

theorem exLines : SpanLines exLs "a ".toList exR " w".toList 1 := by
  unfold exLs exR
  repeat rw [String.toList_ofList]
  exact ⟨⟨'a', _, _, rfl, by decide⟩, by decide +kernel, by decide +kernel, by decide +kernel, by decide, by decide,
      by decide, by decide +kernel⟩

/-- `doc_span_multiline_render` applies on the stock configuration (both serializers) … -/
example (x : Bool) : renderDoc x (exCfg false 100) (docOf exLs) =
    .ok ("<p>".toList ++ codeHtml (Render.nulStr "a ".toList) (Render.nulStr (spanContent exR))
      (Render.nulStr " w".toList) ++ "</p>\n".toList) :=
  doc_span_multiline_render (exCfg false 100) _ _ _ _ 1 exLines [.newline, .escape] _ rfl quietTick_stock
    stockPre [] rfl (by decide) (by decide) rfl x

/-- … and that is: the document, and the output — each line ending one space, `<b>` escaped, nothing interpreted -/
example : docOf exLs = "a ``x\ny <b>\nz`` w".toList ∧
    "<p>".toList ++ codeHtml (Render.nulStr "a ".toList) (Render.nulStr (spanContent exR))
      (Render.nulStr " w".toList) ++ "</p>\n".toList = "<p>a <code>x y &lt;b&gt; z</code> w</p>\n".toList := by
  unfold exLs exR
  decide_lits

/-- the tree of `doc_span_multiline`: `Root[Paragraph[Text "a ", CodeInline[Text "x y <b> z"], Text " w"]]` — the
    span over bytes 2 .. 15 (three lines), the content over bytes 4 .. 13 -/
example : parseDoc (exCfg false 100) (docOf exLs) =
    .ok ⟨.blk .root, some (0, 17), [],
      [⟨.blk .paragraph, some (0, 17), [],
        [⟨.inl (.text ['a', ' ']), some (0, 2), [], []⟩,
         ⟨.inl (.codeInline '`' 2), some (2, 15), [],
           [⟨.inl (.text ['x', ' ', 'y', ' ', '<', 'b', '>', ' ', 'z']), some (4, 13), [], []⟩]⟩,
         ⟨.inl (.text [' ', 'w']), some (15, 17), [], []⟩]⟩]⟩ := by
  have h := doc_span_multiline (exCfg false 100) _ _ _ _ 1 exLines [.newline, .escape] _ rfl quietTick_stock
    stockPre [] rfl (by decide) (by decide) rfl
  have hE : Lines.byteLen (docOf exLs) = 17 := by decide +kernel
  have e0 : "a ".toList = ['a', ' '] ∧ " w".toList = [' ', 'w'] := by decide
  have e1 : Lines.byteLen ['a', ' '] = 2 ∧ Lines.byteLen exR = 9 ∧ Lines.byteLen [' ', 'w'] = 2 := by
    decide +kernel
  have e2 : spanContent exR = ['x', ' ', 'y', ' ', '<', 'b', '>', ' ', 'z'] ∧
      padW exR = 0 := by decide +kernel
  rw [h, hE, e0.1, e0.2]
  simp [rawNodes, txtR, codeR, spanRange, innerRange, e1.1, e1.2.1, e1.2.2, e2.1, e2.2]

/-- the PADDED payload over three lines, the second one indented and with trailing blanks, the third one markup,
    an entity and emphasis: `doc_span_padded_lines_render` applies — the continuation line's indentation and the
    blanks in front of the line feed STAY in the content (CommonMark strips the indentation) -/
def exTs : List (List Char) := ["x".toList, "   y  ".toList, "<b>&amp;*z*".toList]

/-- the hypotheses of `doc_span_padded_lines` and its companions hold for the payload `exTs` between `a ` and ` w` -/
theorem exPadded : SpanLines (paddedLines "a ".toList 1 exTs " w".toList) "a ".toList (' ' :: docOf exTs ++ [' '])
      " w".toList 1 ∧ (∀ t ∈ exTs, NoTerm t) ∧ docOf exTs ≠ [] := by
  unfold exTs
  repeat rw [String.toList_ofList]
  exact ⟨spanLines_padded _ _ 1 _ ⟨'a', _, rfl, by decide⟩ (by decide) (by decide) (by decide) (by decide) (by decide)
    (by decide +kernel) (by decide +kernel) (by decide +kernel) (by decide +kernel), by decide +kernel, by decide +kernel⟩

example (x : Bool) : renderDoc x (exCfg false 100) (docOf (paddedLines "a ".toList 1 exTs " w".toList)) =
    .ok ("<p>".toList ++ codeHtml (Render.nulStr "a ".toList) (Render.nulStr (spaced exTs)) (Render.nulStr " w".toList) ++
      "</p>\n".toList) :=
  doc_span_padded_lines_render (exCfg false 100) _ _ 1 exTs exPadded.1 exPadded.2.1 exPadded.2.2
    [.newline, .escape] _ rfl quietTick_stock stockPre [] rfl (by decide) (by decide) rfl x

example : docOf (paddedLines "a ".toList 1 exTs " w".toList) = "a `` x\n   y  \n<b>&amp;*z* `` w".toList ∧
    "<p>".toList ++ codeHtml (Render.nulStr "a ".toList) (Render.nulStr (spaced exTs)) (Render.nulStr " w".toList) ++
      "</p>\n".toList = "<p>a <code>x    y   &lt;b&gt;&amp;amp;*z*</code> w</p>\n".toList := by
  unfold exTs
  decide_lits

/-- a continuation line indented by 4 columns or more continues the paragraph whatever it starts with
    (`ContLine`, first alternative): `- y` behind five blanks is payload -/
example : ContLine "     - y``".toList ∧
    renderDoc false (exCfg false 100) "a ``x\n     - y``".toList = .ok "<p>a <code>x      - y</code></p>\n".toList := by
  decide_lits

/-- `ContLine` is needed, per line: a continuation line that starts a list item (`- y`), is a setext underline
    (`===`), opens a fence, or is blank ENDS the paragraph — and with it the span: the backtick runs are literal
    text, the "payload" is interpreted (the model; the crate agrees) -/
example : ¬ ContLine "- y``".toList ∧ ¬ ContLine "===".toList ∧ ¬ ContLine "```".toList ∧ ¬ ContLine " ".toList ∧
    renderDoc false (exCfg false 100) "a ``x\n- y``".toList = .ok "<p>a ``x</p>\n<ul>\n<li>y``</li>\n</ul>\n".toList ∧
    renderDoc false (exCfg false 100) "a ``x\n===\ny``".toList = .ok "<h1>a ``x</h1>\n<p>y``</p>\n".toList ∧
    renderDoc false (exCfg false 100) "a ``x\n```\ny``".toList =
      .ok "<p>a ``x</p>\n<pre><code>y``\n</code></pre>\n".toList ∧
    renderDoc false (exCfg false 100) "a ``x\n \ny``".toList = .ok "<p>a ``x</p>\n<p>y``</p>\n".toList := by
  decide_lits

/-- … while `=y` (not an underline) and a line indented by up to three columns continue it -/
example : ContLine "=y``".toList ∧ ContLine "   y``".toList ∧
    renderDoc false (exCfg false 100) "a ``x\n=y``".toList = .ok "<p>a <code>x =y</code></p>\n".toList := by
  decide_lits

/-- ONE line, UNPADDED: `doc_span_unpadded_render` applies — `` a ``x ` <i>`` b `` -/
theorem exRaw : RawLine "a ".toList exR1 " b".toList 1 := by
  unfold exR1
  repeat rw [String.toList_ofList]
  exact ⟨⟨'a', _, rfl, by decide⟩, by decide, by decide, by decide, by decide, by decide, by decide +kernel, by decide⟩

example (x : Bool) : renderDoc x (exCfg false 100) ("a ".toList ++ rawSpan 1 exR1 ++ " b".toList) =
    .ok ("<p>".toList ++ codeHtml (Render.nulStr "a ".toList) (Render.nulStr exR1) (Render.nulStr " b".toList) ++
      "</p>\n".toList) :=
  doc_span_unpadded_render (exCfg false 100) _ _ _ 1 exRaw [.newline, .escape] _ rfl quietTick_stock
    stockPre [] rfl (by decide) (by decide) rfl (by decide) x

example : "a ".toList ++ rawSpan 1 exR1 ++ " b".toList = "a ``x ` <i>`` b".toList ∧
    "<p>".toList ++ codeHtml (Render.nulStr "a ".toList) (Render.nulStr exR1) (Render.nulStr " b".toList) ++
      "</p>\n".toList = "<p>a <code>x ` &lt;i&gt;</code> b</p>\n".toList := by
  unfold exR1
  decide_lits

/-- the tree of `doc_span_unpadded`: the text child ranges over all of `R` (bytes 4 .. 11) -/
example : parseDoc (exCfg false 100) ("a ".toList ++ rawSpan 1 exR1 ++ " b".toList) =
    .ok ⟨.blk .root, some (0, 15), [],
      [⟨.blk .paragraph, some (0, 15), [],
        [⟨.inl (.text ['a', ' ']), some (0, 2), [], []⟩,
         ⟨.inl (.codeInline '`' 2), some (2, 13), [], [⟨.inl (.text exR1), some (4, 11), [], []⟩]⟩,
         ⟨.inl (.text [' ', 'b']), some (13, 15), [], []⟩]⟩]⟩ := by
  have h := doc_span_unpadded (exCfg false 100) _ _ _ 1 exRaw [.newline, .escape] _ rfl quietTick_stock
    stockPre [] rfl (by decide) (by decide) rfl (by decide)
  have hE : Lines.byteLen ("a ".toList ++ rawSpan 1 exR1 ++ " b".toList) = 15 := by decide +kernel
  have e0 : "a ".toList = ['a', ' '] ∧ " b".toList = [' ', 'b'] := by decide
  have e1 : Lines.byteLen ['a', ' '] = 2 ∧ Lines.byteLen exR1 = 7 ∧ Lines.byteLen [' ', 'b'] = 2 := by
    decide +kernel
  rw [h, hE, e0.1, e0.2]
  simp [txtR, codeR, e1.1, e1.2.1, e1.2.2]

/-- the stripping rule on one line (`doc_span_raw_render`): a space at one end only stays (`` ` x` ``), a pair goes
    (`` ` x ` ``), only ONE pair goes (`` `  x  ` ``), two spaces stay, THREE spaces lose a pair -/
example : renderDoc false (exCfg false 100) "a ` x` b".toList = .ok "<p>a <code> x</code> b</p>\n".toList ∧
    renderDoc false (exCfg false 100) "a ` x ` b".toList = .ok "<p>a <code>x</code> b</p>\n".toList ∧
    renderDoc false (exCfg false 100) "a `  x  ` b".toList = .ok "<p>a <code> x </code> b</p>\n".toList ∧
    renderDoc false (exCfg false 100) "a `  ` b".toList = .ok "<p>a <code>  </code> b</p>\n".toList ∧
    renderDoc false (exCfg false 100) "a `   ` b".toList = .ok "<p>a <code> </code> b</p>\n".toList := by
  decide_lits

/-- … and these are instances of the theorem: `R = "   "` is `RawOk`, its content is one space -/
example (x : Bool) : renderDoc x (exCfg false 100) ("a ".toList ++ rawSpan 0 "   ".toList ++ " b".toList) =
    .ok ("<p>".toList ++ codeHtml (Render.nulStr "a ".toList) (Render.nulStr (spanContent "   ".toList))
      (Render.nulStr " b".toList) ++ "</p>\n".toList) ∧ spanContent "   ".toList = [' '] :=
  ⟨doc_span_raw_render (exCfg false 100) _ _ _ 0
    ⟨⟨'a', _, rfl, by decide⟩, by decide, by decide, by decide, by decide, by decide, by decide +kernel, by decide⟩
    [.newline, .escape] _ rfl quietTick_stock stockPre [] rfl (by decide) (by decide) rfl x, by decide +kernel⟩

/-- a line feed at either end of the content counts as a space for the stripping test (LF → space comes first):
    `` `⏎x⏎` `` gives `x` -/
example : renderDoc false (exCfg false 100) "a `\nx\n` b".toList = .ok "<p>a <code>x</code> b</p>\n".toList ∧
    renderDoc false (exCfg false 100) "a `\nx` b".toList = .ok "<p>a <code> x</code> b</p>\n".toList := by
  decide_lits

/-- `doc_span_raw_render_nested` applies: the unpadded span in a bullet item in a block quote -/
example (x : Bool) :
    renderDoc x (exCfg false 100) (wrapAll [.quote, .bullet '-'] ("a ".toList ++ rawSpan 1 exR1 ++ " b".toList)) =
      .ok (spanHtml [.quote, .bullet '-']
        (codeHtml (Render.nulStr "a ".toList) (Render.nulStr (spanContent exR1)) (Render.nulStr " b".toList))) :=
  doc_span_raw_render_nested (exCfg false 100) _ _ _ 1 exRaw (by decide +kernel) [.newline, .escape] _ rfl quietTick_stock
    stockPre [] rfl (by decide) [.quote, .bullet '-'] (by decide) (chainFor_stock _) (by decide) (by decide +kernel) rfl x

example : wrapAll [.quote, .bullet '-'] ("a ".toList ++ rawSpan 1 exR1 ++ " b".toList) =
      "> - a ``x ` <i>`` b".toList ∧
    spanHtml [.quote, .bullet '-']
      (codeHtml (Render.nulStr "a ".toList) (Render.nulStr (spanContent exR1)) (Render.nulStr " b".toList)) =
      "<blockquote>\n<ul>\n<li>a <code>x ` &lt;i&gt;</code> b</li>\n</ul>\n</blockquote>\n".toList := by
  unfold exR1
  decide_lits

/-- `RawOk` is needed: a content that begins with a backtick makes the opening run longer (no closer of that
    length: no span), a run of `k + 1` backticks inside closes early -/
example : ¬ CodePair.RawOk '`' 1 "`x".toList ∧ ¬ CodePair.RawOk '`' 1 "x``y".toList ∧
    renderDoc false (exCfg false 100) ("a ".toList ++ rawSpan 1 "`x".toList ++ " b".toList) = .ok "<p>a ```x`` b</p>\n".toList ∧
    renderDoc false (exCfg false 100) ("a ".toList ++ rawSpan 1 "x``y".toList ++ " b".toList) =
      .ok "<p>a <code>x</code>y`` b</p>\n".toList := by
  decide_lits

/-- with the `sourcepos` plugin (`doc_span_multiline_render_sp`): the `CodeInline` node carries the position of the
    whole three-line span, 1:3 – 3:3 -/
example : renderDoc false (exCfg true 100) (docOf exLs) =
    .ok ("<p data-sourcepos=\"1:1-3:5\">a <code data-sourcepos=\"1:3-3:3\">x y &lt;b&gt; z</code> w</p>\n").toList := by
  unfold exLs
  decide_lits

/-- no blank at the end of the last line (`postEnd`) is a restriction of the statement, not of the behaviour: the
    inline parser's `trim_src` drops it -/
example : renderDoc false (exCfg false 100) "a ``x
y`` w ".toList = .ok "<p>a <code>x y</code> w</p>
".toList := by
  decide +kernel

/-- multi-line spans inside containers (`lines_tree` with wrappers; statements: Props/C11SpanCtx.lean), by evaluation:
    the prefixes are gone before the inline parser runs; a lazy continuation line — not covered — works too -/
example : renderDoc false (exCfg false 100) "> a ``x\n> y``".toList =
      .ok "<blockquote>\n<p>a <code>x y</code></p>\n</blockquote>\n".toList ∧
    renderDoc false (exCfg false 100) "> a ``x\ny``".toList =
      .ok "<blockquote>\n<p>a <code>x y</code></p>\n</blockquote>\n".toList ∧
    renderDoc false (exCfg false 100) "- a ``x\n  y``".toList = .ok "<ul>\n<li>a <code>x y</code></li>\n</ul>\n".toList := by
  decide_lits

end examples

end MdIt.C11M
