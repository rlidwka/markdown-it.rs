/-
  C10 — Output independent of line-ending convention and final newline.

  Every block rule reads the source only through the per-line offset table (`splitLines`, model of
  `BlockState::generate_caches`) and through `get_lines`; the theorems below are about those two, for
  ALL texts (no size bounds).

  Property theorems (all in namespace `MdIt.Lines`):
    table      `split_offsets_valid` (+ `offsets_increasing`), `split_views`, `views_no_terminator`,
               `split_crlf`, `split_cr`, `split_final_newline`
    get_lines  `get_lines_lf`, `get_lines_no_cr`, `get_lines_of_views`, `get_lines_total`,
               `get_lines_faithful` (content + mapping), `is_empty_of_view`,
               on the parser's own table: `get_lines_split`, `get_lines_split_no_cr`,
               `get_lines_same_views`, `get_lines_crlf`, `get_lines_cr`, `get_lines_final_newline`
    helpers    in `Lemmas/Lines.lean` sections 6 and 7: `calc_right_bounds` (`calc_right_le`,
               `calc_right_onBoundary`, `cut_right_total`), `cut_zero`, `cut_prefix`, `cut_full_indent`,
               `cut_four` (`cut_four_text`), `rfindAndCount_tab_mod`, `find_indent_spec`,
               `find_indent_total`, `find_indent_bounds`
  and, as `example`s, every unit test at the bottom of `utils.rs`.
  The composition over whole documents (rendered output unchanged under LF ↦ CR LF, LF ↦ CR and an
  appended final LF) is `Props/C10Doc.lean`: `doc_crlf_invariant`, `doc_cr_invariant`,
  `doc_final_newline_invariant`; with source positions `Props/C10Sourcepos.lean`.
-/
import MdIt.Lemmas.Lines

namespace MdIt.Lines

/-! ## The offset table is well formed -/

/-- What `split_offsets_valid` asserts of a table `offs` for the text `src`. -/
structure OffsetsValid (src : List Char) (offs : List LineOffset) : Prop where
  /-- there is at least one line (also for the empty document) -/
  nonempty : 1 ≤ offs.length
  /-- the first line starts at byte 0 -/
  first : ∀ o, offs[0]? = some o → o.lineStart = 0
  /-- `line_start ≤ first_nonspace ≤ line_end ≤ |src|` -/
  ordered : ∀ o ∈ offs,
    o.lineStart ≤ o.firstNonspace ∧ o.firstNonspace ≤ o.lineEnd ∧ o.lineEnd ≤ byteLen src
  /-- all three offsets are char boundaries -/
  boundary : ∀ o ∈ offs, onBoundary src o.lineStart = true ∧ onBoundary src o.firstNonspace = true ∧
    onBoundary src o.lineEnd = true
  /-- so neither view slice can panic -/
  views_ok : ∀ o ∈ offs, ∃ w t, lineWs src o = .ok w ∧ lineText src o = .ok t
  /-- consecutive lines are separated by exactly one terminator (1 or 2 bytes) -/
  consecutive : ∀ i o o', offs[i]? = some o → offs[i + 1]? = some o' →
    (o'.lineStart = o.lineEnd + 1 ∨ o'.lineStart = o.lineEnd + 2) ∧
    ∃ t, IsTerminator t ∧ slice src o.lineEnd o'.lineStart = .ok t
  /-- after the last line there is at most one terminator, then the text ends -/
  last : ∀ o, offs[offs.length - 1]? = some o →
    ∃ t, (t = [] ∨ IsTerminator t) ∧ slice src o.lineEnd (byteLen src) = .ok t

theorem IsTerminator.byteLen {t : List Char} (h : IsTerminator t) : byteLen t = 1 ∨ byteLen t = 2 := by
  rcases h with rfl | rfl | rfl
  · left; decide
  · left; decide
  · right; decide

/-- facts about the `i`-th entry of the table of `src`, read off the decomposition of `src` -/
theorem split_entry {src : List Char} {i : Nat} {o : LineOffset} (h : (splitLines src)[i]? = some o) :
    ∃ A lt B, linesT src = A ++ lt :: B ∧ A.length = i ∧ o = mkOff (byteLen (flat A)) lt ∧
      src = flat A ++ lt.1 ++ (lt.2 ++ flat B) ∧ NoTerm lt.1 ∧
      (IsTerminator lt.2 ∨ (lt.2 = [] ∧ B = [])) := by
  rw [splitLines_eq] at h
  obtain ⟨A, lt, B, hL, hA, ho⟩ := offsetsOf_getElem? h
  refine ⟨A, lt, B, hL, hA, by simpa using ho, ?_, ?_⟩
  · conv => lhs; rw [← linesT_flat src, hL]
    simp [List.append_assoc]
  · have hi : (linesT src)[i]? = some lt := by
      rw [hL, ← hA]; simp
    obtain ⟨h1, h2⟩ := linesT_shape src i lt hi
    refine ⟨h1, ?_⟩
    rcases h2 with h2 | ⟨h2, h3⟩
    · exact .inl h2
    · right
      refine ⟨h2, ?_⟩
      rw [hL] at h3
      simp at h3
      have : B.length = 0 := by omega
      exact List.eq_nil_of_length_eq_zero this

/-- `split_offsets_valid`: the table built by `generate_caches` is well formed for every text. -/
theorem split_offsets_valid (src : List Char) : OffsetsValid src (splitLines src) := by
  have hlen : (splitLines src).length = (linesT src).length := by
    rw [splitLines_eq, offsetsOf_length]
  have hviews : ∀ o ∈ splitLines src, ∃ w t, lineWs src o = .ok w ∧ lineText src o = .ok t := by
    intro o ho
    obtain ⟨i, hi⟩ := List.getElem?_of_mem ho
    obtain ⟨A, lt, B, _, _, rfl, hsrc, _, _⟩ := split_entry hi
    have := mkOff_view (flat A) lt.1 (lt.2 ++ flat B) lt.2
    rw [← hsrc] at this
    exact ⟨_, _, congrArg Prod.fst this, congrArg (·.2.1) this⟩
  -- the order and boundary clauses only say that the two view slices succeed
  refine ⟨?_, ?_, ?_, ?_, hviews, ?_, ?_⟩
  · rw [hlen]
    exact List.length_pos_iff.mpr (linesT_ne_nil src)
  · intro o ho
    obtain ⟨A, lt, B, _, hA, rfl, _⟩ := split_entry ho
    rw [List.eq_nil_of_length_eq_zero hA]
    rfl
  · intro o ho
    obtain ⟨w, t, hw, ht⟩ := hviews o ho
    exact ⟨(slice_ok_bounds hw).1, (slice_ok_bounds ht).1, (slice_ok_bounds ht).2.1⟩
  · intro o ho
    obtain ⟨w, t, hw, ht⟩ := hviews o ho
    exact ⟨(slice_ok_bounds hw).2.2.1, (slice_ok_bounds hw).2.2.2, (slice_ok_bounds ht).2.2.2⟩
  · intro i o o' hi hi'
    obtain ⟨A, lt, B, hL, hA, rfl, hsrc, _, hterm⟩ := split_entry hi
    obtain ⟨A', lt', B', hL', hA', rfl, _, _, _⟩ := split_entry hi'
    have hAB : A ++ [lt] = A' ∧ B = lt' :: B' :=
      List.append_inj (by rw [← hL']; simp [hL]) (by simp [hA, hA'])
    have hB : B ≠ [] := by rw [hAB.2]; exact List.cons_ne_nil _ _
    have ht : IsTerminator lt.2 := by
      rcases hterm with h | ⟨_, h⟩
      · exact h
      · exact absurd h hB
    have hstart : (mkOff (byteLen (flat A')) lt').lineStart
        = (mkOff (byteLen (flat A)) lt).lineEnd + byteLen lt.2 := by
      simp [mkOff, ← hAB.1, Nat.add_assoc]
    refine ⟨?_, lt.2, ht, ?_⟩
    · rw [hstart]
      rcases ht.byteLen with h | h <;> rw [h]
      · exact .inl rfl
      · exact .inr rfl
    · rw [hstart]
      exact slice_eq_ok_iff.mpr ⟨flat A ++ lt.1, flat B, by rw [hsrc]; simp [List.append_assoc],
        by simp [mkOff], rfl⟩
  · intro o ho
    obtain ⟨A, lt, B, hL, hA, rfl, hsrc, _, hterm⟩ := split_entry ho
    have hB : B = [] := List.eq_nil_of_length_eq_zero (by
      have := congrArg List.length hL
      rw [List.length_append, List.length_cons] at this
      omega)
    subst hB
    refine ⟨lt.2, hterm.symm.imp And.left id, slice_eq_ok_iff.mpr ⟨flat A ++ lt.1, [], ?_, ?_, ?_⟩⟩
    · rw [hsrc]; simp
    · simp [mkOff]
    · rw [hsrc]; simp [mkOff, Nat.add_assoc]

/-- lines are in strictly increasing order: a line ends before any later line starts -/
theorem offsets_increasing {src : List Char} {offs : List LineOffset} (hv : OffsetsValid src offs) :
    ∀ (i j : Nat) (o o' : LineOffset), i < j → offs[i]? = some o → offs[j]? = some o' →
      o.lineEnd < o'.lineStart := by
  intro i j
  induction j with
  | zero => intro _ _ h; omega
  | succ j ih =>
    intro o o' hij hi hj
    have hjlt : j < offs.length := by
      have := (List.getElem?_eq_some_iff.mp hj).1; omega
    have hjget : offs[j]? = some offs[j] := List.getElem?_eq_getElem hjlt
    have hc := (hv.consecutive j offs[j] o' hjget hj).1
    by_cases hEq : i = j
    · subst hEq
      rw [hjget] at hi; cases hi
      omega
    · have := ih o offs[j] (by omega) hi hjget
      have ho := hv.ordered offs[j] (List.getElem_mem hjlt)
      omega

/-- `"a\r\nb\rc\n"` -/
example : splitLines ['a', '\r', '\n', 'b', '\r', 'c', '\n']
    = [⟨0, 1, 0, 0⟩, ⟨3, 4, 3, 0⟩, ⟨5, 6, 5, 0⟩] := by decide +kernel
/-- the example of the `LineOffset` documentation: `" \t foo"` has indent 5 -/
example : splitLines [' ', '\t', ' ', 'f', 'o', 'o'] = [⟨0, 6, 3, 5⟩] := by decide +kernel
example : splitLines [] = [⟨0, 0, 0, 0⟩] := by decide +kernel
example : (splitLines ['a', '\n']).length = 1 ∧ (splitLines ['a', '\n', '\n']).length = 2 := by decide +kernel
/-- a blank after the first non-blank is ordinary text; multi-byte text counts in bytes -/
example : splitLines ['é', ' ', '\t', '€', '\r', ' ', '😀'] = [⟨0, 7, 0, 0⟩, ⟨8, 13, 9, 1⟩] := by decide +kernel

/-! ## The views are a function of the text between terminators -/

/-- a specification triple as the (never failing) view it describes -/
def okView (x : List Char × List Char × Nat) :
    Except Panic (List Char) × Except Panic (List Char) × Int :=
  (.ok x.1, .ok x.2.1, (x.2.2 : Int))

/-- `split_views`: the views of the table of `src` are exactly the specification `specLines src`:
    pieces between terminators (LF | CR not followed by LF | CR LF), minus one final empty piece,
    each cut into (leading blanks, rest) with the tab-expanded width of the blanks as indent. -/
theorem split_views (src : List Char) : views src = (specLines src).map okView := by
  unfold views specLines
  rw [splitLines_eq, ← linesT_fst]
  have := offsetsOf_views [] [] (linesT src)
  simp only [byteLen_nil, List.nil_append, List.append_nil, linesT_flat] at this
  rw [this, List.map_map, List.map_map]
  rfl

/-- `"a\r\n \tb\r\rc\n"`: CRLF is one terminator, CR CR two, the final LF opens no line -/
example : specLines ['a', '\r', '\n', ' ', '\t', 'b', '\r', '\r', 'c', '\n']
    = [([], ['a'], 0), ([' ', '\t'], ['b'], 4), ([], [], 0), ([], ['c'], 0)] := by decide +kernel

/-- no line of the specification contains LF or CR -/
theorem specLines_noTerm {src : List Char} {x : List Char × List Char × Nat} (h : x ∈ specLines src) :
    NoTerm x.1 ∧ NoTerm x.2.1 := by
  obtain ⟨p, hp, rfl⟩ := List.mem_map.mp h
  rw [← linesT_fst] at hp
  obtain ⟨lt, hlt, rfl⟩ := List.mem_map.mp hp
  obtain ⟨i, hi⟩ := List.getElem?_of_mem hlt
  have hnt := (linesT_shape src i lt hi).1
  exact ⟨fun c hc => hnt c ((List.takeWhile_sublist _).subset hc),
    fun c hc => hnt c ((List.dropWhile_sublist _).subset hc)⟩

/-- no view contains LF or CR -/
theorem views_no_terminator (src : List Char) :
    ∀ v ∈ views src, ∃ w t, v.1 = .ok w ∧ v.2.1 = .ok t ∧
      (∀ c ∈ w, c ≠ '\n' ∧ c ≠ '\r') ∧ (∀ c ∈ t, c ≠ '\n' ∧ c ≠ '\r') := by
  intro v hv
  rw [split_views] at hv
  obtain ⟨x, hx, rfl⟩ := List.mem_map.mp hv
  exact ⟨_, _, rfl, rfl, specLines_noTerm hx⟩

/-! ## Line-ending convention and final newline -/

/-- the views are a function of the lines -/
theorem views_of_lines {s₁ s₂ : List Char} (h : (linesT s₁).map Prod.fst = (linesT s₂).map Prod.fst) :
    views s₁ = views s₂ := by
  rw [split_views, split_views, specLines, specLines, ← linesT_fst, ← linesT_fst, h]

/-- `split_crlf`: for a text without CR, replacing every LF by CR LF changes no view
    (same number of lines, same blanks, same texts, same indents). -/
theorem split_crlf (src : List Char) (h : '\r' ∉ src) : views (lfToCrlf src) = views src :=
  views_of_lines (by rw [linesT_lfToCrlf h, reTerm_fst])

/-- `split_cr`: the same for LF ↦ bare CR. -/
theorem split_cr (src : List Char) (h : '\r' ∉ src) : views (lfToCr src) = views src :=
  views_of_lines (by rw [linesT_lfToCr h, reTerm_fst])

example : views (lfToCrlf ['a', '\n', ' ', '\t', 'b', '\n']) = views ['a', '\n', ' ', '\t', 'b', '\n'] :=
  split_crlf _ (by decide)
example : (views ['a', '\n', ' ', '\t', 'b', '\n']).length = 2 := by decide +kernel
/-- the hypothesis is needed: a CR in front of an LF would merge with it -/
example : (views (lfToCr ['a', '\r', '\n'])).length ≠ (views ['a', '\r', '\n']).length := by
  decide +kernel

/-- `split_final_newline`: for a text that does not end with a line terminator, appending one LF
    changes no view. -/
theorem split_final_newline (src : List Char)
    (h : src.getLast? ≠ some '\n' ∧ src.getLast? ≠ some '\r') :
    views (src ++ ['\n']) = views src :=
  views_of_lines (by rw [linesT_snoc_lf h, reTerm_fst])

example : views (['a', '\n', 'b'] ++ ['\n']) = views ['a', '\n', 'b'] :=
  split_final_newline _ (by decide)
/-- the hypothesis is needed: a second final LF does open a line -/
example : (views (['a', '\n'] ++ ['\n'])).length ≠ (views ['a', '\n']).length := by decide +kernel
/-- the empty document and a lone LF look the same -/
example : views ([] ++ ['\n']) = views [] := split_final_newline _ (by decide)

/-! ## `get_lines` reads the source through the views only, and joins with LF only -/

/-- the suffix of `w` that starts at the first char boundary `≥ n` (total; equals `&w[n..]` whenever
    that does not panic — `CodePair.dropB` is the partial `&w[n..]`) -/
def dropB : List Char → Nat → List Char
  | [], _ => []
  | c :: r, n => if n = 0 then c :: r else dropB r (n - c.utf8Size)

theorem dropB_of_dropBytes {w w' : List Char} {n : Nat} (h : dropBytes w n = some w') :
    dropB w n = w' := by
  fun_induction dropBytes w n with
  | case1 => cases h; rfl
  | case2 => cases h
  | case3 c r => cases h; rfl
  | case4 => cases h
  | case5 c r n hn _ ih => rw [dropB, if_neg hn]; exact ih h

theorem dropB_suffix (w : List Char) (n : Nat) : dropB w n <:+ w := by
  induction w generalizing n with
  | nil => simp [dropB]
  | cons c r ih =>
    simp only [dropB]
    split
    · exact List.suffix_refl _
    · exact (ih _).trans (List.suffix_cons c r)

/-- what one line contributes to the result of `get_lines`, as a function of its VIEW
    `(blanks, text, indent_nonspace)` and of the `indent` argument: some spaces (the rest of a split
    tab), a suffix of the blanks, the text -/
def viewPiece (indent : Nat) (v : List Char × List Char × Int) : List Char :=
  let r := calcRightWs v.1 (v.2.2 - usizeAsI32 indent)
  List.replicate r.1 ' ' ++ dropB v.1 r.2 ++ v.2.1

/-- pieces joined by LF, plus one final LF iff `keep` (and there is at least one piece) -/
def joinLines (keep : Bool) : List (List Char) → List Char
  | [] => []
  | [x] => if keep then x ++ ['\n'] else x
  | x :: y :: r => x ++ '\n' :: joinLines keep (y :: r)

/-- line `o` of the table shows the view `v` -/
def Shows (src : List Char) (o : LineOffset) (v : List Char × List Char × Int) : Prop :=
  lineWs src o = .ok v.1 ∧ lineText src o = .ok v.2.1 ∧ o.indentNonspace = v.2.2

/-- the mapping `get_lines` builds for lines showing the views `ovs`, the first of them starting at
    byte `outPos` of the content: per line one entry `(start in content, start in source)`, and a
    second one `(start in content + virtual spaces, SAME source position)` when a tab was split -/
def mapOf (indent : Nat) : Nat → List (LineOffset × (List Char × List Char × Int)) → List (Nat × Nat)
  | _, [] => []
  | outPos, (o, v) :: r =>
    let c := calcRightWs v.1 (v.2.2 - usizeAsI32 indent)
    ((outPos, o.lineStart + c.2) ::
      (if c.1 > 0 then [(outPos + c.1, o.lineStart + c.2)] else []))
    ++ mapOf indent (outPos + byteLen (viewPiece indent v) + 1) r

/-- per line: the bytes copied from the source (everything after the virtual spaces) are the same
    bytes in the content, at the positions the mapping names -/
def Faithful (src content : List Char) (indent : Nat) :
    Nat → List (LineOffset × (List Char × List Char × Int)) → Prop
  | _, [] => True
  | outPos, (o, v) :: r =>
    let c := calcRightWs v.1 (v.2.2 - usizeAsI32 indent)
    let t := dropB v.1 c.2 ++ v.2.1
    slice src (o.lineStart + c.2) o.lineEnd = .ok t ∧
    slice content (outPos + c.1) (outPos + c.1 + byteLen t) = .ok t ∧
    Faithful src content indent (outPos + byteLen (viewPiece indent v) + 1) r

theorem byteLen_replicate_space (n : Nat) : byteLen (List.replicate n ' ') = n :=
  byteLen_replicate (by decide) n

theorem mapOf_cons (indent outPos : Nat) (ov : LineOffset × (List Char × List Char × Int))
    (r : List (LineOffset × (List Char × List Char × Int))) :
    mapOf indent outPos (ov :: r)
      = mapOf indent outPos [ov] ++ mapOf indent (outPos + byteLen (viewPiece indent ov.2) + 1) r := by
  simp [mapOf]

theorem joinLines_cons_eq (keep : Bool) (x : List Char) (xs : List (List Char)) :
    joinLines keep (x :: xs)
      = x ++ (if 0 < xs.length || keep then ['\n'] else []) ++ joinLines keep xs := by
  cases xs <;> cases keep <;> simp [joinLines]

/-- the second slice of an iteration of `get_lines`, from the two view slices -/
theorem slice_from_view {src : List Char} {o : LineOffset} {w t : List Char}
    (hw : lineWs src o = .ok w) (ht : lineText src o = .ok t) (k : Int) :
    slice src (o.lineStart + (calcRightWs w k).2) o.lineEnd = .ok (dropB w (calcRightWs w k).2 ++ t) := by
  obtain ⟨w0, w', hww, hb⟩ := calc_right_bounds w k
  have hd : dropB w (calcRightWs w k).2 = w' := by
    apply dropB_of_dropBytes
    rw [← hb]; conv => lhs; rw [hww]
    exact dropBytes_append w0 w'
  obtain ⟨p, q, hsrc, hp, hfn⟩ := slice_eq_ok_iff.mp hw
  obtain ⟨p2, q2, hsrc2, hp2, hle⟩ := slice_eq_ok_iff.mp ht
  -- the text starts where the blanks end: `p2 = p ++ w`
  have h2 := append_inj_byteLen (p := p ++ w) (p' := p2) (r := q) (r' := t ++ q2)
    (by rw [← hsrc, hsrc2, List.append_assoc]) (by rw [byteLen_append, hp, hfn, hp2])
  have hbw : byteLen w = byteLen w0 + byteLen w' := by rw [← byteLen_append, ← hww]
  rw [hd]
  refine slice_eq_ok_iff.mpr ⟨p ++ w0, q2, ?_, ?_, ?_⟩
  · rw [hsrc, h2.2, hww]; simp only [List.append_assoc]
  · rw [byteLen_append, hp, hb]
  · rw [← hle, ← hfn, hbw, hb, byteLen_append]; simp only [Nat.add_assoc]

/-- one iteration of the `while` loop of `get_lines`, on a line that shows the view `v` -/
theorem getLinesGo_step {src : List Char} {offs : List LineOffset} {end_ indent : Nat} {keep : Bool}
    {line : Nat} {o : LineOffset} {v : List Char × List Char × Int}
    (hlt : line < end_) (ho : offs[line]? = some o) (hs : Shows src o v)
    (result : List Char) (mapping : List (Nat × Nat)) :
    getLinesGo src offs end_ indent keep line result mapping
      = getLinesGo src offs end_ indent keep (line + 1)
          (result ++ viewPiece indent v ++ if line + 1 < end_ || keep then ['\n'] else [])
          (mapping ++ mapOf indent (byteLen result) [(o, v)]) := by
  obtain ⟨hw, ht, hi⟩ := hs
  rw [getLinesGo, if_pos hlt]
  simp only [ho, show slice src o.lineStart o.firstNonspace = .ok v.1 from hw, hi,
    slice_from_view hw ht]
  refine congr (congrArg _ ?_) ?_
  · split <;> simp [viewPiece]
  · split <;> simp [mapOf, byteLen_replicate_space, *]

theorem getLinesGo_full (src : List Char) (offs : List LineOffset) (indent : Nat) (keep : Bool)
    (ovs : List (LineOffset × (List Char × List Char × Int))) :
    ∀ (line : Nat) (result : List Char) (mapping : List (Nat × Nat)),
      (∀ j (h : j < ovs.length), offs[line + j]? = some ovs[j].1 ∧ Shows src ovs[j].1 ovs[j].2) →
      getLinesGo src offs (line + ovs.length) indent keep line result mapping
        = .ok (result ++ joinLines keep (ovs.map fun ov => viewPiece indent ov.2),
               mapping ++ mapOf indent (byteLen result) ovs) := by
  induction ovs with
  | nil =>
    intro line result mapping _
    rw [getLinesGo]
    simp [joinLines, mapOf]
  | cons ov ovs' ih =>
    intro line result mapping hv
    have h0 : offs[line]? = some ov.1 ∧ Shows src ov.1 ov.2 := hv 0 (by simp)
    have hlt : line < line + 1 + ovs'.length := Nat.lt_add_right _ (Nat.lt_succ_self _)
    have hv' : ∀ j (h : j < ovs'.length),
        offs[line + 1 + j]? = some ovs'[j].1 ∧ Shows src ovs'[j].1 ovs'[j].2 := by
      intro j h
      rw [Nat.add_right_comm]
      exact hv (j + 1) (Nat.succ_lt_succ h)
    rw [List.length_cons,
      show line + (ovs'.length + 1) = line + 1 + ovs'.length from (Nat.add_right_comm line 1 _).symm,
      getLinesGo_step hlt h0.1 h0.2, ih _ _ _ hv',
      mapOf_cons indent (byteLen result) ov ovs', List.map_cons, joinLines_cons_eq]
    cases ovs' with
    | nil => simp [mapOf]
    | cons a b => simp [Nat.add_assoc, show '\n'.utf8Size = 1 by decide]

/-- `get_lines_lf`: if lines `begin .. end` of the table show the views `vs`, then `get_lines` does
    not panic and its content is, per line, some spaces + a suffix of the line's blanks + the line's
    text (i.e. a suffix of the line's bytes that ends at `line_end`), joined by LF, plus a final LF iff
    `keep_last_lf`: nothing at or after `line_end` is ever copied, and the content depends on the
    source only through the views. -/
theorem get_lines_lf (src : List Char) (offs : List LineOffset) (begin_ indent : Nat) (keep : Bool)
    (vs : List (List Char × List Char × Int))
    (hv : ∀ j (h : j < vs.length), ∃ o, offs[begin_ + j]? = some o ∧ Shows src o vs[j]) :
    ∃ m, getLines src offs begin_ (begin_ + vs.length) indent keep
      = .ok (joinLines keep (vs.map (viewPiece indent)), m) := by
  -- the offsets are the ones of the table: `getLinesGo_full` on `offs[begin ..]` zipped with the views
  have hlen : vs.length ≤ (offs.drop begin_).length := by
    rw [List.length_drop]
    cases hn : vs.length with
    | zero => omega
    | succ n =>
      obtain ⟨o, ho, _⟩ := hv n (by omega)
      have := (List.getElem?_eq_some_iff.mp ho).1
      omega
  have hz : ((offs.drop begin_).zip vs).length = vs.length := by rw [List.length_zip]; omega
  have := getLinesGo_full src offs indent keep ((offs.drop begin_).zip vs) begin_ [] [] (by
    intro j h
    rw [hz] at h
    obtain ⟨o, ho, hs⟩ := hv j h
    have e : ((offs.drop begin_).zip vs)[j].1 = o := by
      rw [List.getElem_zip]; simp only [List.getElem_drop]
      exact (List.getElem?_eq_some_iff.mp ho).2
    rw [e, List.getElem_zip]; exact ⟨ho, hs⟩)
  have hm : ((offs.drop begin_).zip vs).map (fun ov => viewPiece indent ov.2) = vs.map (viewPiece indent) := by
    conv => rhs; rw [← List.map_snd_zip hlen, List.map_map]
    rfl
  unfold getLines
  rw [if_neg (by omega)]
  rw [hz, hm] at this
  exact ⟨_, by rw [this]; rfl⟩

/-- `get_lines_of_views`: equal views ⇒ equal content, whatever the two sources and tables are
    (LF / CRLF / CR variants of a document in particular). -/
theorem get_lines_of_views (src₁ src₂ : List Char) (offs₁ offs₂ : List LineOffset)
    (begin_ indent : Nat) (keep : Bool) (vs : List (List Char × List Char × Int))
    (h₁ : ∀ j (h : j < vs.length), ∃ o, offs₁[begin_ + j]? = some o ∧ Shows src₁ o vs[j])
    (h₂ : ∀ j (h : j < vs.length), ∃ o, offs₂[begin_ + j]? = some o ∧ Shows src₂ o vs[j]) :
    ∃ c m₁ m₂, getLines src₁ offs₁ begin_ (begin_ + vs.length) indent keep = .ok (c, m₁) ∧
      getLines src₂ offs₂ begin_ (begin_ + vs.length) indent keep = .ok (c, m₂) := by
  obtain ⟨m₁, e₁⟩ := get_lines_lf src₁ offs₁ begin_ indent keep vs h₁
  obtain ⟨m₂, e₂⟩ := get_lines_lf src₂ offs₂ begin_ indent keep vs h₂
  exact ⟨_, m₁, m₂, e₁, e₂⟩

theorem faithful_of_join (src : List Char) (indent : Nat) (keep : Bool)
    (ovs : List (LineOffset × (List Char × List Char × Int)))
    (hs : ∀ ov ∈ ovs, Shows src ov.1 ov.2) :
    ∀ (pre : List Char),
      Faithful src (pre ++ joinLines keep (ovs.map fun ov => viewPiece indent ov.2)) indent
        (byteLen pre) ovs := by
  induction ovs with
  | nil => intro pre; trivial
  | cons ov ovs' ih =>
    intro pre
    obtain ⟨hw, ht, hi⟩ := hs ov (by simp)
    rw [List.map_cons, joinLines_cons_eq]
    refine ⟨slice_from_view hw ht _, ?_, ?_⟩
    · exact slice_eq_ok_iff.mpr
        ⟨pre ++ List.replicate (calcRightWs ov.2.1 (ov.2.2.2 - usizeAsI32 indent)).1 ' ',
        (if 0 < (ovs'.map fun ov => viewPiece indent ov.2).length || keep then ['\n'] else []) ++
          joinLines keep (ovs'.map fun ov => viewPiece indent ov.2),
        by simp only [viewPiece, List.append_assoc], by simp [byteLen_replicate_space], rfl⟩
    · cases ovs' with
      | nil => trivial
      | cons ov2 ovs'' =>
        have := ih (fun ov h => hs ov (List.mem_cons_of_mem _ h))
          (pre ++ viewPiece indent ov.2 ++ ['\n'])
        simpa [Nat.add_assoc, show '\n'.utf8Size = 1 by decide] using this

/-- `get_lines`, content AND mapping, for lines `begin ..` showing the views `ovs`; and every byte
    copied from the source sits in the content where the mapping says (`Faithful`).  The first entry
    of a line with a split tab maps the first VIRTUAL space to the same source byte as the text after
    the spaces — the spaces have no bytes of their own in the source. -/
theorem get_lines_faithful (src : List Char) (offs : List LineOffset) (begin_ indent : Nat)
    (keep : Bool) (ovs : List (LineOffset × (List Char × List Char × Int)))
    (hv : ∀ j (h : j < ovs.length), offs[begin_ + j]? = some ovs[j].1 ∧ Shows src ovs[j].1 ovs[j].2) :
    ∃ content, getLines src offs begin_ (begin_ + ovs.length) indent keep
        = .ok (content, mapOf indent 0 ovs) ∧
      content = joinLines keep (ovs.map fun ov => viewPiece indent ov.2) ∧
      Faithful src content indent 0 ovs := by
  refine ⟨_, ?_, rfl, ?_⟩
  · unfold getLines
    rw [if_neg (by omega)]
    have := getLinesGo_full src offs indent keep ovs begin_ [] [] hv
    simpa using this
  · have hs : ∀ ov ∈ ovs, Shows src ov.1 ov.2 := by
      intro ov hov
      obtain ⟨j, hj, rfl⟩ := List.getElem_of_mem hov
      exact (hv j hj).2
    have := faithful_of_join src indent keep ovs hs []
    simpa using this

/-- `"- a\n\n \tb"`, line 2 at indent 2 (the list item's content column): the tab is split, the two
    virtual spaces and the `b` after them all map to source byte 7 (the `b`), inside the 8-byte input -/
example : getLines ['-', ' ', 'a', '\n', '\n', ' ', '\t', 'b']
      (splitLines ['-', ' ', 'a', '\n', '\n', ' ', '\t', 'b']) 2 3 2 false
    = .ok ([' ', ' ', 'b'], mapOf 2 0 [(⟨5, 8, 7, 4⟩, ([' ', '\t'], ['b'], 4))]) := by decide +kernel
example : mapOf 2 0 [(⟨5, 8, 7, 4⟩, ([' ', '\t'], ['b'], 4))] = [(0, 7), (2, 7)] := by decide +kernel

theorem mem_joinLines {keep : Bool} {ps : List (List Char)} {c : Char} (h : c ∈ joinLines keep ps) :
    c = '\n' ∨ ∃ p ∈ ps, c ∈ p := by
  induction ps with
  | nil => simp [joinLines] at h
  | cons x r ih =>
    rw [joinLines_cons_eq, List.mem_append, List.mem_append] at h
    rcases h with (h | h) | h
    · exact .inr ⟨x, List.mem_cons_self, h⟩
    · split at h <;> simp at h
      exact .inl h
    · exact (ih h).imp id fun ⟨p, hp, hc⟩ => ⟨p, List.mem_cons_of_mem _ hp, hc⟩

theorem mem_viewPiece {indent : Nat} {v : List Char × List Char × Int} {c : Char}
    (h : c ∈ viewPiece indent v) : c = ' ' ∨ c ∈ v.1 ∨ c ∈ v.2.1 := by
  simp only [viewPiece, List.mem_append, List.mem_replicate] at h
  rcases h with (h | h) | h
  · exact .inl h.2
  · exact .inr (.inl ((dropB_suffix _ _).subset h))
  · exact .inr (.inr h)

/-- `get_lines_no_cr`: if no view of the lines read contains a CR, the content contains no CR
    (a character of the content is a joining LF or a character of a view: `mem_joinLines`). -/
theorem get_lines_no_cr (indent : Nat) (keep : Bool) (vs : List (List Char × List Char × Int))
    (hcr : ∀ v ∈ vs, '\r' ∉ v.1 ∧ '\r' ∉ v.2.1) :
    '\r' ∉ joinLines keep (vs.map (viewPiece indent)) := by
  intro h
  rcases mem_joinLines h with h | ⟨p, hp, hc⟩
  · cases h
  · obtain ⟨v, hv, rfl⟩ := List.mem_map.mp hp
    rcases mem_viewPiece hc with h | h | h
    · cases h
    · exact (hcr v hv).1 h
    · exact (hcr v hv).2 h

/-- `get_lines_total`: on ANY table (also one rewritten by containers) whose lines `begin .. end` exist
    and satisfy `line_start ≤ first_nonspace ≤ line_end` on char boundaries, `get_lines` does not
    panic. -/
theorem get_lines_total (src : List Char) (offs : List LineOffset) (begin_ end_ indent : Nat)
    (keep : Bool) (hbe : begin_ ≤ end_) (hlen : end_ ≤ offs.length)
    (hinv : ∀ k (h : k < offs.length), begin_ ≤ k → k < end_ →
      offs[k].lineStart ≤ offs[k].firstNonspace ∧ offs[k].firstNonspace ≤ offs[k].lineEnd ∧
      onBoundary src offs[k].lineStart = true ∧ onBoundary src offs[k].firstNonspace = true ∧
      onBoundary src offs[k].lineEnd = true) :
    ∃ r, getLines src offs begin_ end_ indent keep = .ok r := by
  have loop : ∀ n line result mapping, begin_ ≤ line → line + n = end_ →
      ∃ r, getLinesGo src offs end_ indent keep line result mapping = .ok r := by
    intro n
    induction n with
    | zero =>
      intro line result mapping _ he
      rw [getLinesGo, if_neg (he ▸ Nat.lt_irrefl line)]
      exact ⟨_, rfl⟩
    | succ n ih =>
      intro line result mapping hb he
      subst he
      have hlt : line < line + (n + 1) := Nat.lt_add_of_pos_right (Nat.succ_pos n)
      have hk : line < offs.length := Nat.lt_of_lt_of_le hlt hlen
      obtain ⟨h1, h2, h3, h4, h5⟩ := hinv line hk hb hlt
      obtain ⟨w, hw⟩ := slice_ok_of_boundaries h1 h3 h4
      obtain ⟨t, ht⟩ := slice_ok_of_boundaries h2 h4 h5
      rw [getLinesGo_step (v := (w, t, _)) hlt (List.getElem?_eq_getElem hk) ⟨hw, ht, rfl⟩]
      exact ih _ _ _ (Nat.le_succ_of_le hb) (Nat.add_right_comm line 1 n)
  unfold getLines
  rw [if_neg (Nat.not_lt.mpr hbe)]
  exact loop (end_ - begin_) begin_ [] [] (Nat.le_refl _) (Nat.add_sub_cancel' hbe)

/-- a table as the block-quote rule leaves it for `"> a\n>\tb"` (first_nonspace / indent_nonspace moved
    behind the markers): the hypotheses of `get_lines_total` hold, the tab is split into two spaces -/
example : getLines ['>', ' ', 'a', '\n', '>', '\t', 'b'] [⟨0, 3, 2, 2⟩, ⟨4, 7, 6, 4⟩] 0 2 2 false
    = .ok (['a', '\n', ' ', ' ', 'b'], [(0, 2), (2, 6), (4, 6)]) := by decide +kernel
example : ∃ r, getLines ['>', ' ', 'a', '\n', '>', '\t', 'b'] [⟨0, 3, 2, 2⟩, ⟨4, 7, 6, 4⟩] 0 2 2 false = .ok r :=
  get_lines_total _ _ 0 2 2 false (by decide) (by decide) (by decide)
/-- …and `get_lines` does panic on a table that breaks them (first_nonspace inside `é`) -/
example : getLines ['é', 'a'] [⟨0, 3, 1, 0⟩] 0 1 0 false = .error .slice := by decide +kernel

/-- `is_empty` is a function of the view: a line is empty iff its text is -/
theorem is_empty_of_view {src : List Char} {o : LineOffset} {t : List Char}
    (h : lineText src o = .ok t) : (o.firstNonspace ≥ o.lineEnd) ↔ t = [] := by
  obtain ⟨p, q, _, _, hle⟩ := slice_eq_ok_iff.mp h
  constructor
  · intro hge
    exact byteLen_eq_zero (by omega)
  · rintro rfl
    simp at hle; omega

/-! ### …instantiated on the table of `generate_caches` -/

/-- the views of `src` as plain triples -/
def vsOf (src : List Char) : List (List Char × List Char × Int) :=
  (specLines src).map fun x => (x.1, x.2.1, (x.2.2 : Int))

theorem vsOf_length (src : List Char) : (vsOf src).length = (splitLines src).length := by
  have := congrArg List.length (split_views src)
  simp [views] at this
  simp [vsOf, this]

theorem split_shows (src : List Char) (j : Nat) (h : j < (vsOf src).length) :
    ∃ o, (splitLines src)[j]? = some o ∧ Shows src o (vsOf src)[j] := by
  have hl := vsOf_length src
  have hj : j < (splitLines src).length := by omega
  refine ⟨(splitLines src)[j], List.getElem?_eq_getElem hj, ?_⟩
  have := congrArg (fun l => l[j]?) (split_views src)
  simp only [views, List.getElem?_map, List.getElem?_eq_getElem hj, Option.map_some] at this
  have hj' : j < (specLines src).length := by simpa [vsOf] using h
  rw [List.getElem?_eq_getElem hj'] at this
  simp only [Option.map_some, Option.some.injEq, view, okView, Prod.mk.injEq] at this
  simp only [Shows, vsOf, List.getElem_map]
  exact this

theorem okView_injective : Function.Injective okView := by
  intro a b h
  simp only [okView, Prod.mk.injEq, Except.ok.injEq, Int.natCast_inj] at h
  exact Prod.ext h.1 (Prod.ext h.2.1 h.2.2)

theorem vsOf_eq_of_views {s₁ s₂ : List Char} (h : views s₁ = views s₂) : vsOf s₁ = vsOf s₂ := by
  rw [split_views, split_views] at h
  have := map_inj_of_injective okView_injective h
  simp [vsOf, this]

/-- On the table of a text, every range of lines can be read, and the content is the join of the
    pieces computed from the SPECIFICATION views `specLines src` — in particular it contains no CR,
    and no LF other than the joining ones. -/
theorem get_lines_split (src : List Char) (begin_ end_ indent : Nat) (keep : Bool)
    (hbe : begin_ ≤ end_) (hlen : end_ ≤ (splitLines src).length) :
    ∃ m, getLines src (splitLines src) begin_ end_ indent keep
      = .ok (joinLines keep ((((vsOf src).drop begin_).take (end_ - begin_)).map (viewPiece indent)), m) := by
  have hl := vsOf_length src
  have hlen' : (((vsOf src).drop begin_).take (end_ - begin_)).length = end_ - begin_ := by
    rw [List.length_take, List.length_drop, hl]; omega
  have := get_lines_lf src (splitLines src) begin_ indent keep
    (((vsOf src).drop begin_).take (end_ - begin_)) (fun j hj => by
      rw [hlen'] at hj
      obtain ⟨o, ho, hs⟩ := split_shows src (begin_ + j) (by omega)
      exact ⟨o, ho, by rwa [List.getElem_take, List.getElem_drop]⟩)
  rwa [hlen', Nat.add_sub_cancel' hbe] at this

theorem vsOf_no_terminator (src : List Char) :
    ∀ v ∈ vsOf src, (∀ c ∈ v.1, c ≠ '\n' ∧ c ≠ '\r') ∧ (∀ c ∈ v.2.1, c ≠ '\n' ∧ c ≠ '\r') := by
  intro v hv
  obtain ⟨x, hx, rfl⟩ := List.mem_map.mp hv
  exact specLines_noTerm hx

/-- a successful `get_lines` read only lines that exist -/
theorem getLinesGo_ok_len {src : List Char} {offs : List LineOffset} {end_ indent : Nat} {keep : Bool}
    {line : Nat} {result : List Char} {mapping : List (Nat × Nat)} {r : List Char × List (Nat × Nat)}
    (h : getLinesGo src offs end_ indent keep line result mapping = .ok r) (hlt : line < end_) :
    end_ ≤ offs.length := by
  fun_induction getLinesGo src offs end_ indent keep line result mapping with
  | case1 => cases h
  | case2 => cases h
  | case3 => cases h
  | case4 line =>
    rename_i ih
    have hl := (List.getElem?_eq_some_iff.mp ‹offs[_]? = some _›).1
    by_cases h1 : line + 1 < end_
    · exact ih h h1
    · omega
  | case5 _ _ _ hn => exact absurd hlt hn

/-- no CR can reach a node payload built by `get_lines` from the parser's own table -/
theorem get_lines_split_no_cr (src : List Char) (begin_ end_ indent : Nat) (keep : Bool)
    (c : List Char) (m : List (Nat × Nat))
    (h : getLines src (splitLines src) begin_ end_ indent keep = .ok (c, m)) : '\r' ∉ c := by
  unfold getLines at h
  split at h
  · cases h
  · rename_i hbe
    by_cases hlt : begin_ < end_
    · -- a line beyond the table would be an index panic
      obtain ⟨m', hm'⟩ := get_lines_split src begin_ end_ indent keep (Nat.le_of_lt hlt)
        (getLinesGo_ok_len h hlt)
      unfold getLines at hm'
      rw [if_neg hbe, h] at hm'
      cases hm'
      apply get_lines_no_cr
      intro v hv
      have := vsOf_no_terminator src v
        ((List.drop_sublist _ _).subset ((List.take_sublist _ _).subset hv))
      exact ⟨fun hc => (this.1 _ hc).2 rfl, fun hc => (this.2 _ hc).2 rfl⟩
    · -- empty range: the loop does not run
      rw [getLinesGo, if_neg hlt] at h
      cases h
      exact List.not_mem_nil

/-- The mechanism behind C10: two texts with the same views (e.g. the LF, CR LF and CR variants of a
    document, or a document with and without its final line ending) yield the same content for every
    range of lines, every `indent` and both values of `keep_last_lf`. -/
theorem get_lines_same_views (s₁ s₂ : List Char) (hviews : views s₁ = views s₂)
    (begin_ end_ indent : Nat) (keep : Bool) (hbe : begin_ ≤ end_)
    (hlen : end_ ≤ (splitLines s₁).length) :
    ∃ c m₁ m₂, getLines s₁ (splitLines s₁) begin_ end_ indent keep = .ok (c, m₁) ∧
      getLines s₂ (splitLines s₂) begin_ end_ indent keep = .ok (c, m₂) := by
  have hl : (splitLines s₂).length = (splitLines s₁).length := by
    have := congrArg List.length hviews
    simpa [views] using this.symm
  obtain ⟨m₁, e₁⟩ := get_lines_split s₁ begin_ end_ indent keep hbe hlen
  obtain ⟨m₂, e₂⟩ := get_lines_split s₂ begin_ end_ indent keep hbe (by omega)
  rw [← vsOf_eq_of_views hviews] at e₂
  exact ⟨_, m₁, m₂, e₁, e₂⟩

/-- `"a\n\tb"` versus `"a\r\n\tb"`: same content (mapping differs: the second line starts one byte
    later) -/
example :
    getLines ['a', '\n', '\t', 'b'] (splitLines ['a', '\n', '\t', 'b']) 0 2 2 true
      = .ok (['a', '\n', ' ', ' ', 'b', '\n'], [(0, 0), (2, 3), (4, 3)]) ∧
    getLines ['a', '\r', '\n', '\t', 'b'] (splitLines ['a', '\r', '\n', '\t', 'b']) 0 2 2 true
      = .ok (['a', '\n', ' ', ' ', 'b', '\n'], [(0, 0), (2, 4), (4, 4)]) := by decide +kernel

/-- LF ↦ CR LF leaves every `get_lines` content unchanged -/
theorem get_lines_crlf (src : List Char) (h : '\r' ∉ src) (begin_ end_ indent : Nat) (keep : Bool)
    (hbe : begin_ ≤ end_) (hlen : end_ ≤ (splitLines src).length) :
    ∃ c m₁ m₂, getLines src (splitLines src) begin_ end_ indent keep = .ok (c, m₁) ∧
      getLines (lfToCrlf src) (splitLines (lfToCrlf src)) begin_ end_ indent keep = .ok (c, m₂) :=
  get_lines_same_views src (lfToCrlf src) (split_crlf src h).symm begin_ end_ indent keep hbe hlen

/-- LF ↦ CR leaves every `get_lines` content unchanged -/
theorem get_lines_cr (src : List Char) (h : '\r' ∉ src) (begin_ end_ indent : Nat) (keep : Bool)
    (hbe : begin_ ≤ end_) (hlen : end_ ≤ (splitLines src).length) :
    ∃ c m₁ m₂, getLines src (splitLines src) begin_ end_ indent keep = .ok (c, m₁) ∧
      getLines (lfToCr src) (splitLines (lfToCr src)) begin_ end_ indent keep = .ok (c, m₂) :=
  get_lines_same_views src (lfToCr src) (split_cr src h).symm begin_ end_ indent keep hbe hlen

/-- one appended final LF leaves every `get_lines` content unchanged -/
theorem get_lines_final_newline (src : List Char)
    (h : src.getLast? ≠ some '\n' ∧ src.getLast? ≠ some '\r') (begin_ end_ indent : Nat) (keep : Bool)
    (hbe : begin_ ≤ end_) (hlen : end_ ≤ (splitLines src).length) :
    ∃ c m₁ m₂, getLines src (splitLines src) begin_ end_ indent keep = .ok (c, m₁) ∧
      getLines (src ++ ['\n']) (splitLines (src ++ ['\n'])) begin_ end_ indent keep = .ok (c, m₂) :=
  get_lines_same_views src (src ++ ['\n']) (split_final_newline src h).symm begin_ end_ indent keep
    hbe hlen

/-- `"- a\n\n \tb\n"`, lines 0..3, indent 2: the tab of line 2 is split (one virtual space), and the
    mapping has two entries for that line -/
example : getLines ['-', ' ', 'a', '\n', '\n', ' ', '\t', 'b', '\n']
      (splitLines ['-', ' ', 'a', '\n', '\n', ' ', '\t', 'b', '\n']) 0 3 2 true
    = .ok (['-', ' ', 'a', '\n', '\n', ' ', ' ', 'b', '\n'], [(0, 0), (4, 4), (5, 7), (7, 7)]) := by
  decide +kernel

/-! ### The unit tests at the bottom of `utils.rs`, replayed on the model -/

section unit_tests
local notation "ok!" => Except.ok (ε := Panic)

-- rfind_and_count_test
example : rfindAndCount [] 'b' = 0 := by decide
example : rfindAndCount ['a', 'b', 'c', 'd', 'e'] 'e' = 0 := by decide
example : rfindAndCount ['a', 'b', 'c', 'd', 'e'] 'b' = 3 := by decide
example : rfindAndCount ['a', 'b', 'c', 'd', 'e'] 'z' = 5 := by decide +kernel
example : rfindAndCount ['a', 'b', 'c', 'ε', 'π'] 'b' = 3 := by decide
-- find_indent_of_simple_test
example : findIndentOf ['a'] 0 = ok! (0, 0) := by decide +kernel
example : findIndentOf [' ', 'a'] 0 = ok! (1, 1) := by decide +kernel
example : findIndentOf [' ', ' ', ' ', 'a'] 0 = ok! (3, 3) := by decide +kernel
example : findIndentOf [' ', ' ', ' ', ' '] 0 = ok! (4, 4) := by decide +kernel
example : findIndentOf ['\t', 'a'] 0 = ok! (4, 1) := by decide +kernel
example : findIndentOf [' ', '\t', 'a'] 0 = ok! (4, 2) := by decide +kernel
example : findIndentOf [' ', ' ', '\t', 'a'] 0 = ok! (4, 3) := by decide +kernel
example : findIndentOf [' ', ' ', ' ', '\t', 'a'] 0 = ok! (4, 4) := by decide +kernel
example : findIndentOf [' ', ' ', ' ', ' ', '\t', 'a'] 0 = ok! (8, 5) := by decide +kernel
-- find_indent_of_with_offset
example : findIndentOf [' ', ' ', ' ', 'a'] 2 = ok! (1, 3) := by decide +kernel
example : findIndentOf [' ', ' ', ' ', ' ', 'a'] 2 = ok! (2, 4) := by decide +kernel
example : findIndentOf [' ', ' ', '\t', 'a'] 2 = ok! (2, 3) := by decide +kernel
example : findIndentOf [' ', ' ', ' ', '\t', 'a'] 2 = ok! (2, 4) := by decide +kernel
example : findIndentOf [' ', ' ', ' ', ' ', '\t', 'a'] 2 = ok! (6, 5) := by decide +kernel
example : findIndentOf [' ', ' ', ' ', ' ', ' ', '\t', 'a'] 2 = ok! (6, 6) := by decide +kernel
-- find_indent_of_tabs_test
example : findIndentOf [' ', ' ', '\t', ' ', '\t', 'a'] 1 = ok! (7, 5) := by decide +kernel
example : findIndentOf [' ', ' ', '\t', ' ', '\t', 'a'] 2 = ok! (6, 5) := by decide +kernel
example : findIndentOf [' ', ' ', '\t', ' ', '\t', 'a'] 3 = ok! (4, 5) := by decide +kernel
example : findIndentOf [' ', ' ', '\t', ' ', '\t', 'a'] 4 = ok! (3, 5) := by decide +kernel
-- off a boundary / beyond the end: panic
example : findIndentOf ['é', ' '] 1 = .error .slice := by decide
example : findIndentOf ['a'] 2 = .error .slice := by decide
-- cut_ws_simple
example : cutRightWs ['a', 'b', 'c'] (-1) = ok! [] := by decide +kernel
example : cutRightWs ['a', 'b', 'c'] 0 = ok! [] := by decide +kernel
example : cutRightWs ['a', 'b', 'c'] 1 = ok! ['c'] := by decide +kernel
example : cutRightWs ['a', 'b', 'c'] 2 = ok! ['b', 'c'] := by decide +kernel
example : cutRightWs ['a', 'b', 'c'] 3 = ok! ['a', 'b', 'c'] := by decide +kernel
example : cutRightWs ['a', 'b', 'c'] 4 = ok! ['a', 'b', 'c'] := by decide +kernel
-- cut_ws_unicode
example : cutRightWs ['α', 'β', 'γ', 'δ'] 1 = ok! ['δ'] := by decide +kernel
example : cutRightWs ['α', 'β', 'γ', 'δ', ' '] 3 = ok! ['γ', 'δ', ' '] := by decide +kernel
-- cut_ws_expands_partial_tabs
example : cutRightWs ['\t'] 1 = ok! [' '] := by decide +kernel
example : cutRightWs ['\t'] 2 = ok! [' ', ' '] := by decide +kernel
example : cutRightWs ['\t'] 3 = ok! [' ', ' ', ' '] := by decide +kernel
example : cutRightWs ['\t', '\t', '\t'] 5 = ok! [' ', '\t'] := by decide +kernel
example : cutRightWs ['\t', '\t', '\t'] 7 = ok! [' ', ' ', ' ', '\t'] := by decide +kernel
-- cut_ws_retains_full_tabs
example : cutRightWs ['\t', '\t', '\t'] 4 = ok! ['\t'] := by decide +kernel
example : cutRightWs ['\t', '\t', '\t'] 8 = ok! ['\t', '\t'] := by decide +kernel
-- cut_ws_proper_tabstops
example : cutRightWs ['a', '\t'] 1 = ok! [' '] := by decide +kernel
example : cutRightWs ['a', '\t'] 2 = ok! [' ', ' '] := by decide +kernel
example : cutRightWs ['a', '\t'] 3 = ok! ['\t'] := by decide +kernel
example : cutRightWs ['a', 'b', '\t'] 3 = ok! ['b', '\t'] := by decide +kernel
example : cutRightWs ['a', 'b', 'c', '\t'] 3 = ok! ['b', 'c', '\t'] := by decide +kernel
-- cut_ws_proper_tabstops_nested
example : cutRightWs ['a', '\t', 'b', '\t'] 2 = ok! [' ', ' '] := by decide +kernel
example : cutRightWs ['a', '\t', 'b', '\t'] 3 = ok! ['\t'] := by decide +kernel
example : cutRightWs ['a', '\t', 'b', '\t'] 4 = ok! ['b', '\t'] := by decide +kernel
example : cutRightWs ['a', '\t', 'b', '\t'] 5 = ok! [' ', 'b', '\t'] := by decide +kernel
example : cutRightWs ['a', '\t', 'b', '\t'] 6 = ok! [' ', ' ', 'b', '\t'] := by decide +kernel
example : cutRightWs ['a', '\t', 'b', '\t'] 7 = ok! ['\t', 'b', '\t'] := by decide +kernel
example : cutRightWs ['a', '\t', 'b', '\t'] 8 = ok! ['a', '\t', 'b', '\t'] := by decide +kernel
-- cut_ws_different_tabstops_nested  ("abc\tde\tf\tg")
example : cutRightWs ['a', 'b', 'c', '\t', 'd', 'e', '\t', 'f', '\t', 'g'] 3 = ok! [' ', ' ', 'g'] := by decide +kernel
example : cutRightWs ['a', 'b', 'c', '\t', 'd', 'e', '\t', 'f', '\t', 'g'] 4 = ok! ['\t', 'g'] := by decide +kernel
example : cutRightWs ['a', 'b', 'c', '\t', 'd', 'e', '\t', 'f', '\t', 'g'] 5 = ok! ['f', '\t', 'g'] := by decide +kernel
example : cutRightWs ['a', 'b', 'c', '\t', 'd', 'e', '\t', 'f', '\t', 'g'] 6 = ok! [' ', 'f', '\t', 'g'] := by decide +kernel
example : cutRightWs ['a', 'b', 'c', '\t', 'd', 'e', '\t', 'f', '\t', 'g'] 7 = ok! ['\t', 'f', '\t', 'g'] := by decide +kernel
example : cutRightWs ['a', 'b', 'c', '\t', 'd', 'e', '\t', 'f', '\t', 'g'] 9
    = ok! ['d', 'e', '\t', 'f', '\t', 'g'] := by decide +kernel
example : cutRightWs ['a', 'b', 'c', '\t', 'd', 'e', '\t', 'f', '\t', 'g'] 10
    = ok! ['\t', 'd', 'e', '\t', 'f', '\t', 'g'] := by decide +kernel
-- the doc-tests
example : calcRightWs ['\t', '\t'] 6 = (2, 1) := by decide +kernel
example : cutRightWs ['\t', '\t'] 6 = ok! [' ', ' ', '\t'] := by decide +kernel
example : findIndentOf ['\t', 'f', 'o', 'o'] 0 = ok! (4, 1) := by decide +kernel
end unit_tests

end MdIt.Lines
