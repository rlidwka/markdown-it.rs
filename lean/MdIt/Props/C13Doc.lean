/-
  C13 at DOCUMENT level: "a reference-style link resolves EXACTLY WHEN a definition with a matching
  label exists anywhere in the document; the first in document order supplies destination and title;
  definitions produce no output" — the USE side (`Inline.parseLinkRef` / `linkRule`) tied to the
  DEFINITION side (`Props/LinksDoc.lean`, `Props/C13Trace.lean`).

  Lemma files: `Lemmas/C13DocInline.lean` (rules that decline, `ChainOK`, look-ahead over plain text, label
  walk), `Lemmas/C13DocUse.lean` (`parseLink_use`: `parse_link` on `[T]`, `[T][]`, `[T][L]`),
  `Lemmas/C13DocRun.lean` (the tokenizer iterations).

  THE CLASS.  A use is `useOf T e` = `[T]` (`e = none`), `[T][]` (`e = some []`), `[T][L]` (`e = some L`)
  with `T ≠ []` and `T`, `L` PLAIN: no character of the text rule's stop set
  `\n ! # $ % & * + - : < = > @ [ \ ] ^ _ ` { } ~` (`C11S.PlainTxt`; spaces, letters of any script, digits,
  `. , ; ' " ( ) / ?` are plain).  The chain is any `ChainOK` chain: `ChainCoherent` (`Props/InlineTotal`),
  contains the text rule, the link rule exactly once, `]` is not an emphasis marker; `max_nesting ≥ 2`.

  Property theorems
    `use_resolves_ok`, `use_resolves_text`, `use_resolves_iff`   (1) inline: `parseInline` of a use is ONE
                      `Link` node with url / title = the entry `Refs.lookup (normalize label)` finds, its one
                      child the link text — or, when the lookup fails, ONE literal `Text` node; "is a link
                      node" ⇔ "the lookup succeeds"
    `doc_use_resolves_iff`   the same under the inline configuration of a document (`cfg.inlineCfg refs`)
    `doc_resolves_iff`       (2) document: for every parsed document, with `L` = its definitions BY SOURCE
                      LINE (`C13Trace`: exactly the `reference` entries of the trace, sorted by line,
                      `DefOnLines`, in whatever container): the returned tree is the block tree with every
                      placeholder replaced by its inline run (then the join / sourcepos passes), and the inline
                      run of every use STRING (at any offset) is ONE `Link` — url / title of the matching
                      definition with the SMALLEST LINE — when `L.find?` finds a definition whose label has the
                      same non-empty normal form, ONE literal text node when there is none (a `match` on
                      `L.find?`, both branches with their side of the equivalence)
    `doc_resolves_in_tree`   the same read off the RETURNED tree, for every use PARAGRAPH of the block tree
                      (`BWithin`, wherever it stands); definitions leave no node (`doc_definitions_no_node`)
    `doc_resolves_case_ws`   (3) real Unicode tables: a use spelled with other case / other white space than
                      a definition resolves (to that definition or an earlier matching one)
  OPEN block at the end.
-/
import MdIt.Lemmas.C13DocRun
import MdIt.Props.C13Trace
import MdIt.Props.MemoSafe
import MdIt.Lemmas.KernelEval

namespace MdIt.C13D
open MdIt.Inline
open MdIt.InlineOps (Srcmap getSourcePosFor getMap byteLen slice)
open MdIt.C05 (byteLen_append slice_ok_iff)
open MdIt.C11S (PlainTxt trimSrc_ends)
open MdIt.Inline.C12 (tokLoop_step tokLoop_done)

/-! ## (1) the inline parser on a use -/

theorem useOf_last (T : List Char) (e : Option (List Char)) : (useOf T e).getLast? = some ']' := by
  cases e with
  | none => exact List.getLast?_eq_some_iff.mpr ⟨'[' :: T, by simp [useOf, tailOf]⟩
  | some l => exact List.getLast?_eq_some_iff.mpr ⟨'[' :: (T ++ ']' :: '[' :: l), by simp [useOf, tailOf]⟩

/-- byte-length arithmetic -/
macro "bl" : tactic =>
  `(tactic| (simp only [byteLen_append, byteLen_cons, byteLen_nil, sz_open, sz_close, byteLen_tailOf,
      List.nil_append, List.cons_append] at *; omega))

theorem init_use (T : List Char) (e : Option (List Char)) (x : Nat) :
    IState.init (useOf T e) [(0, x)] =
      ⟨useOf T e, [(0, x)], 0, byteLen (useOf T e), 0, 0, [], CodePair.Cache.empty, [], []⟩ := by
  have := trimSrc_ends (useOf T e) '[' ']' _ rfl (useOf_last T e) (by decide) (by decide)
  simp [IState.init, this]

theorem topFuel_ge (cfg : Cfg) (hmn : 2 ≤ cfg.maxNesting) (T : List Char) (e : Option (List Char)) :
    9 ≤ topFuel cfg (useOf T e) := by
  unfold topFuel
  calc 9 ≤ 3 * 4 := by omega
    _ ≤ (byteLen (useOf T e) + 2) * (cfg.maxNesting + 2) :=
        Nat.mul_le_mul (by rw [byteLen_useOf]; omega) (by omega)

/-- **`use_resolves_ok`.**  The lookup of the selected label succeeds: the use is ONE `Link` node over
    the whole use, url and title those of the entry, its single child the text node of the link text. -/
theorem use_resolves_ok {cfg : Cfg} (h : ChainOK cfg) (hmn : 2 ≤ cfg.maxNesting) (x : Nat)
    (T : List Char) (e : Option (List Char)) (hne : T ≠ []) (hT : PlainTxt T) (he : PlainTxt (e.getD []))
    (r : Refs.Entry) (hlook : look cfg (labelOf T e) = some r) :
    parseInline cfg (useOf T e) [(0, x)] = .ok [linkNode x T e r] := by
  obtain ⟨F, hF⟩ : ∃ F, topFuel cfg (useOf T e) = F + 3 :=
    ⟨topFuel cfg (useOf T e) - 3, by have := topFuel_ge cfg hmn T e; omega⟩
  obtain ⟨cache', hstep⟩ := tokStep_link_ok h hmn F x T e CodePair.Cache.empty hne hT he r hlook
  unfold parseInline tokenize
  rw [init_use, hF]
  have hpos : 0 < byteLen (useOf T e) := by rw [byteLen_useOf]; omega
  rw [tokLoop_step cfg (F + 2) _ (by exact hpos) hstep, tokLoop_done cfg _ _ (by simp)]

/-- the tokenizer from a top state that has read `pre`, when the rest is turned into text step by step -/
theorem finish_text (cfg : Cfg) (F : Nat) {st : IState} {c : List Char} {x : Nat}
    (ht : Top st c x c) : tokLoop cfg F (byteLen c) st = .ok st ∧ st.children = txt x c :=
  ⟨tokLoop_done cfg F _ (by rw [ht.pos]; omega), ht.children⟩

/-- the memo entries the look-ahead over `[T][L2]` can make: those of the use, and those of `[L2]` read
    as a use of its own -/
theorem mem_entries_two (T L2 : List Char) (v k : Nat)
    (hv : (k, v) ∈ Entries 0 T (some L2) ++ Entries (byteLen T + 2) L2 none) :
    (k = 1 ∧ v = 1 + byteLen T) ∨ (k = byteLen T + 3 ∧ v = byteLen T + 3 + byteLen L2) ∨
    (k = byteLen T + 2 + byteLen L2 + 3 ∧ v = byteLen T + 2 + byteLen L2 + 3 + 0) := by
  simp only [Entries, List.mem_append, List.mem_cons, Prod.mk.injEq, List.mem_nil_iff, or_false,
    Option.getD_some, Option.getD_none, byteLen_nil] at hv
  rcases hv with (hv | hv) | hv | hv <;> omega

/-- a bracket pair `[P]` in front of the top-frame position whose reading as a reference use finds no
    definition goes to the pending text: the link rule declines on `[`, the text rule takes `P` (when
    there is any), `]` belongs to no rule -/
theorem tokLoop_pair_text {cfg : Cfg} (h : ChainOK cfg) (hmn : 0 < cfg.maxNesting) (G : Nat) {st : IState}
    {c : List Char} {x : Nat} {pre : List Char} (ht : Top st c x pre) (P : List Char)
    (e : Option (List Char)) (hc : c = pre ++ useOf P e) (hP : PlainTxt P) (he : PlainTxt (e.getD []))
    (hlook : look cfg (labelOf P e) = none) (S : List (Nat × Nat)) (hcache : CacheIn S st.cache)
    (hsub : ∀ p ∈ Entries (byteLen pre) P e, p ∈ S)
    (hf1 : ∀ v, (byteLen pre + 1, v) ∈ S → v = byteLen pre + 1 + byteLen P)
    (hf2 : ∀ v, (byteLen pre + byteLen P + 3, v) ∈ S →
      v = byteLen pre + byteLen P + 3 + byteLen (e.getD [])) :
    ∃ G' st', G ≤ G' ∧ tokLoop cfg (G + 3) (byteLen c) st = tokLoop cfg G' (byteLen c) st' ∧
      Top st' c x (pre ++ ['['] ++ P ++ [']']) ∧ CacheIn S st'.cache := by
  have hqc : ∀ id ∈ cfg.chain, Quiet id ']' := fun id hid => quiet_close h hid
  have hlen : byteLen c = byteLen pre + (byteLen P + 2 + byteLen (tailOf e)) := by
    rw [hc, byteLen_append, byteLen_useOf]
  obtain ⟨s1, h1, t1, c1⟩ := tokStep_link_fail h hmn (fun s => tokLoop cfg (G + 2) s.posMax s) G ht P e hc hP he
    hlook S hcache hsub hf1 hf2
  rw [tokLoop_step cfg (G + 2) _ (by rw [ht.pos]; omega) h1]
  by_cases hne : P = []
  · subst hne
    obtain ⟨s2, h2, t2, e2⟩ := tokStep_char (cfg := cfg) (fun s => skipToken cfg (G + 1) s)
      (fun s => tokLoop cfg (G + 1) s.posMax s) (G + 1) t1 ']' (tailOf e) (by rw [hc]; simp [useOf]) hqc
    rw [tokLoop_step cfg (G + 1) _ (by have := t1.pos; bl) h2]
    exact ⟨G + 1, s2, Nat.le_succ G, rfl, by simpa using t2, by rw [e2]; exact c1⟩
  · obtain ⟨s2, h2, t2, e2⟩ := tokStep_text h hmn (fun s => skipToken cfg (G + 1) s)
      (fun s => tokLoop cfg (G + 1) s.posMax s) (G + 1) t1 P (']' :: tailOf e) (by rw [hc]; simp [useOf]) hne hP
      (by intro ch hch; simp at hch; subst hch; decide)
    rw [tokLoop_step cfg (G + 1) _ (by have := t1.pos; bl) h2]
    obtain ⟨s3, h3, t3, e3⟩ := tokStep_char (cfg := cfg) (fun s => skipToken cfg G s)
      (fun s => tokLoop cfg G s.posMax s) G t2 ']' (tailOf e) (by rw [hc]; simp [useOf]) hqc
    rw [tokLoop_step cfg G _ (by have := t2.pos; bl) h3]
    exact ⟨G, s3, Nat.le_refl G, rfl, t3, by rw [e3, e2]; exact c1⟩

/-- **`use_resolves_text`.**  The lookup of the selected label fails (for the collapsed form `[T][]`
    also the lookup of the empty label, which no document map contains): no link — the use is ONE
    text node carrying the use literally. -/
theorem use_resolves_text {cfg : Cfg} (h : ChainOK cfg) (hmn : 2 ≤ cfg.maxNesting) (x : Nat)
    (T : List Char) (e : Option (List Char)) (hne : T ≠ []) (hT : PlainTxt T) (he : PlainTxt (e.getD []))
    (hlook : look cfg (labelOf T e) = none) (hempty : e = some [] → look cfg [] = none) :
    parseInline cfg (useOf T e) [(0, x)] =
      .ok [Node.newText (useOf T e) (some (x, x + byteLen (useOf T e)))] := by
  have hmn0 : 0 < cfg.maxNesting := by omega
  obtain ⟨F, hF⟩ : ∃ F, topFuel cfg (useOf T e) = F + 9 :=
    ⟨topFuel cfg (useOf T e) - 9, by have := topFuel_ge cfg hmn T e; omega⟩
  obtain ⟨c, hcdef⟩ : ∃ c, c = useOf T e := ⟨_, rfl⟩
  have hgoal : ∀ (G : Nat) (st : IState), Top st c x c →
      (tokLoop cfg G (byteLen c) st).map (·.children) = .ok (txt x c) := by
    intro G st ht
    rw [(finish_text cfg G ht).1]; simp [Except.map, ht.children]
  have hfinal : txt x c = [Node.newText (useOf T e) (some (x, x + byteLen (useOf T e)))] := by
    rw [hcdef]; simp [txt, useOf]
  suffices hs : (tokLoop cfg (F + 9) (byteLen c) ⟨c, [(0, x)], 0, byteLen c, 0, 0, [], CodePair.Cache.empty, [], []⟩).map
      (·.children) = .ok (txt x c) by
    unfold parseInline tokenize
    rw [init_use, hF, ← hcdef]
    rw [← hcdef] at hfinal
    cases hr : tokLoop cfg (F + 9) (byteLen c) ⟨c, [(0, x)], 0, byteLen c, 0, 0, [], CodePair.Cache.empty, [], []⟩ with
    | error er => rw [hr] at hs; simp [Except.map] at hs
    | ok s => rw [hr] at hs; simp only [Except.map, Except.ok.injEq] at hs; simp only [hs, hfinal]
  have ht0 : Top (⟨c, [(0, x)], 0, byteLen c, 0, 0, [], CodePair.Cache.empty, [], []⟩ : IState) c x [] :=
    ⟨⟨rfl, rfl⟩, rfl, rfl, rfl, rfl⟩
  cases e with
  | none =>
    obtain ⟨G', s3, _, hstep, t3, _⟩ := tokLoop_pair_text h hmn0 (F + 6) ht0 T none (by rw [hcdef]; rfl) hT he
      hlook (Entries 0 T none) (cacheIn_nil _) (fun p hp => hp)
      (entries_fun 0 T none).1 (entries_fun 0 T none).2
    rw [show tokLoop cfg (F + 9) (byteLen c) _ = _ from hstep]
    have hc3 : [] ++ ['['] ++ T ++ [']'] = c := by rw [hcdef]; simp [useOf, tailOf]
    rw [hc3] at t3
    exact hgoal _ _ t3
  | some L2 =>
    have hL2 : PlainTxt L2 := he
    have hS := mem_entries_two T L2
    obtain ⟨G1, s3, hG1, hstep1, t3, c3⟩ := tokLoop_pair_text h hmn0 (F + 6) ht0 T (some L2)
      (by rw [hcdef]; rfl) hT he hlook
      (Entries 0 T (some L2) ++ Entries (byteLen T + 2) L2 none) (cacheIn_nil _)
      (fun p hp => List.mem_append_left _ hp)
      (by intro v hv; have := hS v _ hv; simp only [byteLen_nil] at this ⊢; omega)
      (by intro v hv; have := hS v _ hv; simp only [byteLen_nil, Option.getD_some] at this ⊢; omega)
    rw [show tokLoop cfg (F + 9) (byteLen c) _ = _ from hstep1]
    obtain ⟨G2, rfl⟩ : ∃ G2, G1 = G2 + 3 := ⟨G1 - 3, by omega⟩
    -- the second pair, tried as a shortcut use of its own
    have hlen3 : byteLen ([] ++ ['['] ++ T ++ [']']) = byteLen T + 2 := by bl
    have hlook2 : look cfg (labelOf L2 none) = none := by
      cases L2 with
      | nil => exact hempty rfl
      | cons l0 L2' => exact hlook
    obtain ⟨G3, s6, _, hstep2, t6, _⟩ := tokLoop_pair_text h hmn0 G2 t3 L2 none
      (by rw [hcdef]; simp [useOf, tailOf]) hL2 (by intro ch hch; simp at hch) hlook2
      (Entries 0 T (some L2) ++ Entries (byteLen T + 2) L2 none) c3
      (by rw [hlen3]; exact fun p hp => List.mem_append_right _ hp)
      (by rw [hlen3]; intro v hv; have := hS v _ hv; omega)
      (by rw [hlen3]; intro v hv; have := hS v _ hv; simp only [Option.getD_none, byteLen_nil] at this ⊢; omega)
    rw [hstep2]
    have hc6 : [] ++ ['['] ++ T ++ [']'] ++ ['['] ++ L2 ++ [']'] = c := by rw [hcdef]; simp [useOf, tailOf]
    rw [hc6] at t6
    exact hgoal _ _ t6

/-- is the list one `Link` node -/
def isLink : List Node → Bool
  | [⟨.link _ _, _, _⟩] => true
  | _ => false

/-- **`use_resolves_iff` (C13 "resolves exactly when", inline side).**  For every `ChainOK` chain,
    `max_nesting ≥ 2`, every reference map and normalisation, every use `[T]` / `[T][]` / `[T][L]` with
    plain non-empty text and plain label: the inline parser returns, and what it returns is ONE `Link`
    node exactly when `Refs.lookup normRef refs (selected label)` succeeds — then with that entry's
    destination and title — and ONE literal text node otherwise. -/
theorem use_resolves_iff {cfg : Cfg} (h : ChainOK cfg) (hmn : 2 ≤ cfg.maxNesting) (x : Nat)
    (T : List Char) (e : Option (List Char)) (hne : T ≠ []) (hT : PlainTxt T) (he : PlainTxt (e.getD []))
    (hempty : e = some [] → look cfg [] = none) :
    ∃ ns, parseInline cfg (useOf T e) [(0, x)] = .ok ns ∧
      (isLink ns = true ↔ (look cfg (labelOf T e)).isSome = true) ∧
      (∀ r, look cfg (labelOf T e) = some r → ns = [linkNode x T e r]) ∧
      (look cfg (labelOf T e) = none →
        ns = [Node.newText (useOf T e) (some (x, x + byteLen (useOf T e)))]) := by
  cases hl : look cfg (labelOf T e) with
  | none =>
    refine ⟨_, use_resolves_text h hmn x T e hne hT he hl hempty, ?_, ?_, fun _ => rfl⟩
    · simp [isLink, Node.newText]
    · intro r hr; cases hr
  | some r =>
    refine ⟨_, use_resolves_ok h hmn x T e hne hT he r hl, ?_, ?_, ?_⟩
    · simp [isLink, linkNode]
    · intro r' hr'; cases hr'; rfl
    · intro hn; cases hn

end MdIt.C13D

/-! ## (2) the document -/

namespace MdIt.Pipeline
open MdIt.Block.Tr (Call docCalls docTrace DefOnLines)
open MdIt.C13D (ChainOK useOf labelOf look linkNode isLink)
open MdIt.C11S (PlainTxt)
open MdIt.InlineOps (byteLen)

/-- `ChainOK` is a property of the inline chain alone -/
theorem chainOK_refs {cfg : DocCfg} (h : ChainOK (cfg.inlineCfg [])) (refs : Refs.RefMap) :
    ChainOK (cfg.inlineCfg refs) := ⟨h.coh, h.text, h.link, h.close⟩

theorem look_doc (cfg : DocCfg) (refs : Refs.RefMap) (label : List Nat) :
    look (cfg.inlineCfg refs) label = docLookup cfg refs label := rfl

theorem normalize_nil (L U : Nat → List Nat) : Refs.normalize L U [] = [] := by
  simp [Refs.normalize, Refs.trimWs, Refs.trimEnd, Refs.trimStart, Refs.collapseWs, Refs.lowerStr, Refs.upperStr]

/-- **`doc_use_resolves_iff` (1, under a document's configuration).**  `refs` a reference map without an
    entry for the empty label (every map the block pass builds: `doc_resolves_iff`): the inline parser
    under `cfg.inlineCfg refs` turns a use into ONE `Link` node exactly when `docLookup` finds the
    selected label — url and title are the entry's — and into one literal text node otherwise. -/
theorem doc_use_resolves_iff (cfg : DocCfg) (hok : ChainOK (cfg.inlineCfg [])) (hmn : 2 ≤ cfg.maxNesting)
    (refs : Refs.RefMap) (hnil : docLookup cfg refs [] = none) (x : Nat)
    (T : List Char) (e : Option (List Char)) (hne : T ≠ []) (hT : PlainTxt T) (he : PlainTxt (e.getD [])) :
    ∃ ns, Inline.parseInline (cfg.inlineCfg refs) (useOf T e) [(0, x)] = .ok ns ∧
      (isLink ns = true ↔ (docLookup cfg refs (labelOf T e)).isSome = true) ∧
      (∀ r, docLookup cfg refs (labelOf T e) = some r → ns = [linkNode x T e r]) ∧
      (docLookup cfg refs (labelOf T e) = none →
        ns = [Inline.Node.newText (useOf T e) (some (x, x + byteLen (useOf T e)))]) :=
  C13D.use_resolves_iff (chainOK_refs hok refs) hmn x T e hne hT he (fun _ => hnil)

/-- a paragraph whose content is the placeholder is spliced as the paragraph over the inline run -/
theorem spliceWith_paragraph (f : List Char → List (Nat × Nat) → List Node) (r : Option (Nat × Nat))
    (content : List Char) (mapping : List (Nat × Nat)) :
    spliceWith f ⟨.paragraph, r, [⟨.inlineRoot content mapping, none, []⟩]⟩ =
      ⟨.blk .paragraph, r, [], f content mapping⟩ := by
  simp [spliceWith, spliceWithList]

/-- **`doc_resolves_iff` (C13 for documents: "resolves exactly when").**  For every parsed document
    (any block chain, any `ChainOK` inline chain, `max_nesting ≥ 2`, idempotent label normalisation —
    `Refs.normalize_idem`, in particular the generated Unicode tables) there are the block tree `root`,
    the final map `refs` and the list `L` of the document's link reference definitions BY SOURCE LINE
    — exactly the `reference` entries of the trace, sorted by line with disjoint line ranges, each
    standing on its lines of the source through the view of ITS CONTAINER (`DefOnLines`: top level,
    block quote, list item, any nesting) — such that
    * the tree is `root` with every placeholder replaced by the inline run under the ONE configuration
      `cfg.inlineCfg refs` (`spliceWith`, then the join / sourcepos passes): definitions contribute no
      node (`Block.reference_no_node`), a use paragraph becomes `Paragraph [inlineRun …]`
      (`spliceWith_paragraph`) wherever it stands — before or after the definitions;
    * for EVERY use `[T]`, `[T][]`, `[T][l]` of the plain class, at any offset `x`:
      - NO definition of `L` has a label with the same non-empty normal form ⇒ the run is one literal
        text node (no link);
      - otherwise the run is ONE `Link` node whose url / title are those of the matching definition
        `y ∈ L` with the SMALLEST LINE (every other matching definition starts at or behind the line
        where `y` ends). -/
theorem doc_resolves_iff (cfg : DocCfg) (hok : ChainOK (cfg.inlineCfg [])) (hmn : 2 ≤ cfg.maxNesting)
    (hN : ∀ s, cfg.blockCfg.N (cfg.blockCfg.N s) = cfg.blockCfg.N s)
    (src : List Char) (t : Node) (h : parseDoc cfg src = .ok t) :
    ∃ (root : Block.BNode) (refs : Refs.RefMap) (L : List (Call × Refs.Def)),
      Block.parseBlocks cfg.blockCfg src = .ok (root, refs) ∧
      L.map (fun x => (Block.RuleId.reference, x.1.start, x.1.stop)) =
        (docTrace cfg.blockCfg src).filter (fun e => e.1 = .reference) ∧
      L.Pairwise (fun x y => x.1.stop ≤ y.1.start) ∧
      (∀ x ∈ L, x.1.stop ≤ (Lines.splitLines src).length ∧
        DefOnLines cfg.blockCfg src x.1.start x.1.stop x.2) ∧
      postPasses cfg src (spliceWith (inlineRun (cfg.inlineCfg refs)) root) = .ok t ∧
      ∀ (x : Nat) (T : List Char) (e : Option (List Char)), T ≠ [] → PlainTxt T → PlainTxt (e.getD []) →
        let hit := fun y : Call × Refs.Def => Refs.labelMatches cfg.blockCfg.N (labelOf T e) y.2
        match L.find? hit with
        | none =>
          inlineRun (cfg.inlineCfg refs) (useOf T e) [(0, x)] =
            ofInlineList [Inline.Node.newText (useOf T e) (some (x, x + byteLen (useOf T e)))] ∧
          ∀ y ∈ L, hit y = false
        | some y =>
          inlineRun (cfg.inlineCfg refs) (useOf T e) [(0, x)] = ofInlineList [linkNode x T e y.2.entry] ∧
          y ∈ L ∧ hit y = true ∧ ∀ z ∈ L, hit z = true → z = y ∨ y.1.stop ≤ z.1.start := by
  obtain ⟨root, refs, L, hb, h1, h2, h3, h4⟩ := doc_first_definition_by_line_idem cfg hN src t h
  obtain ⟨root', refs', defs, icfg, hb', _, _, hicfg, _, hpost, _⟩ :=
    doc_reference_position_irrelevant cfg src t h
  rw [hb] at hb'
  simp only [Except.ok.injEq, Prod.mk.injEq] at hb'
  obtain ⟨rfl, rfl⟩ := hb'
  subst hicfg
  refine ⟨root, refs, L, hb, h1, h2, h3, hpost, ?_⟩
  -- the empty label is in no document map
  have hnil : docLookup cfg refs [] = none := by
    have h5 := h4 []
    simp only at h5
    split at h5
    · exact h5.1
    · rename_i y _
      have hy := h5.2.2.1
      have hn : cfg.blockCfg.N [] = [] := normalize_nil cfg.L cfg.U
      simp only [Refs.labelMatches, hn, Bool.and_eq_true, Bool.not_eq_true', beq_iff_eq] at hy
      rw [hy.2] at hy
      simp at hy
  intro x T e hne hT he hit
  have h5 := h4 (labelOf T e)
  simp only at h5
  obtain ⟨ns, hns, _, hsome, hnone⟩ := doc_use_resolves_iff cfg hok hmn refs hnil x T e hne hT he
  split
  · rename_i hf
    rw [hf] at h5
    refine ⟨?_, h5.2⟩
    unfold inlineRun
    rw [hns, hnone h5.1]
  · rename_i y hf
    rw [hf] at h5
    refine ⟨?_, h5.2⟩
    unfold inlineRun
    rw [hns, hsome _ h5.1]

/-- **`doc_resolves_case_ws` (3: matching ignores case and white-space runs).**  With the real Unicode
    tables (`Refs.Lt`, `Refs.Ut`): if `x ∈ L` is a definition with a non-blank label and a use's label `l`
    is a case variant (lower-cased, upper-cased or equal) of a text `l'` that differs from the
    definition's label only in white-space runs / leading / trailing white space (`Refs.WsEquiv`), then
    the use — wherever it stands in the document — IS a `Link`: to `x`, or to a matching definition on
    an earlier line. -/
theorem doc_resolves_case_ws (cfg : DocCfg) (hL : cfg.L = Refs.Lt) (hU : cfg.U = Refs.Ut)
    (hok : ChainOK (cfg.inlineCfg [])) (hmn : 2 ≤ cfg.maxNesting)
    (src : List Char) (t : Node) (h : parseDoc cfg src = .ok t) :
    ∃ (root : Block.BNode) (refs : Refs.RefMap) (L : List (Call × Refs.Def)),
      Block.parseBlocks cfg.blockCfg src = .ok (root, refs) ∧
      L.map (fun x => (Block.RuleId.reference, x.1.start, x.1.stop)) =
        (docTrace cfg.blockCfg src).filter (fun e => e.1 = .reference) ∧
      postPasses cfg src (spliceWith (inlineRun (cfg.inlineCfg refs)) root) = .ok t ∧
      ∀ d ∈ L, Refs.Nt d.2.label ≠ [] →
      ∀ (x : Nat) (T : List Char) (e : Option (List Char)), T ≠ [] → PlainTxt T → PlainTxt (e.getD []) →
      ∀ l' : List Nat, Refs.WsEquiv d.2.label l' →
        (labelOf T e = Refs.lowerStr Refs.Lt l' ∨ labelOf T e = Refs.upperStr Refs.Ut l' ∨ labelOf T e = l') →
        ∃ y ∈ L, inlineRun (cfg.inlineCfg refs) (useOf T e) [(0, x)] = ofInlineList [linkNode x T e y.2.entry] ∧
          Refs.Nt y.2.label = Refs.Nt d.2.label ∧ (y = d ∨ y.1.stop ≤ d.1.start) := by
  have hNeq : cfg.blockCfg.N = Refs.Nt := by
    show Refs.normalize cfg.L cfg.U = Refs.normalize Refs.Lt Refs.Ut
    rw [hL, hU]
  obtain ⟨root, refs, L, hb, h1, _, _, hpost, h5⟩ := doc_resolves_iff cfg hok hmn
    (by rw [hNeq]; exact Refs.table_normalize_idem) src t h
  refine ⟨root, refs, L, hb, h1, hpost, ?_⟩
  intro d hd hdne x T e hne hT he l' hws hl
  have hmatch : Refs.Nt d.2.label = Refs.Nt (labelOf T e) := by
    have e1 : Refs.Nt d.2.label = Refs.Nt l' := Refs.norm_ws_invariant Refs.Lt Refs.Ut hws
    rcases hl with hl | hl | hl
    · rw [hl, e1, (Refs.table_norm_case_invariant l').1]
    · rw [hl, e1, (Refs.table_norm_case_invariant l').2]
    · rw [hl, e1]
  have hhit : Refs.labelMatches cfg.blockCfg.N (labelOf T e) d.2 = true := by
    rw [hNeq]
    simp only [Refs.labelMatches, Bool.and_eq_true, Bool.not_eq_true', beq_iff_eq]
    exact ⟨by simpa using hdne, hmatch⟩
  have h6 := h5 x T e hne hT he
  simp only at h6
  split at h6
  · exact absurd hhit (by rw [h6.2 d hd]; simp)
  · rename_i y _
    refine ⟨y, h6.2.1, h6.1, ?_, h6.2.2.2 d hd hhit |>.imp Eq.symm id⟩
    have hy := h6.2.2.1
    rw [hNeq] at hy
    simp only [Refs.labelMatches, Bool.and_eq_true, Bool.not_eq_true', beq_iff_eq] at hy
    rw [hy.2, hmatch]

end MdIt.Pipeline

/-! ## examples: the hypotheses are satisfiable, and necessary -/

namespace MdIt.Pipeline
open MdIt.C13D (ChainOK useOf labelOf look linkNode isLink cps)
open MdIt.C11S (PlainTxt)

theorem exCfg_chainOK (sp : Bool) (mn : Nat) : ChainOK ((exCfg sp mn).inlineCfg []) :=
  ⟨(exCfg_stock sp mn).1,
   by show Inline.RuleId.text ∈ ((exCfg false 0).inlineCfg []).chain; decide,
   by show ((exCfg false 0).inlineCfg []).chain.count .link = 1; decide,
   by show ']' ∉ ((exCfg false 0).inlineCfg []).emphMarkers; decide⟩

/-- `use_resolves_iff` / `doc_use_resolves_iff` instantiated: `[foo  BAR][]` under a map with the key
    `FOO BAR` is one link node -/
example : ∃ ns, Inline.parseInline ((exCfg false 100).inlineCfg [([70, 79, 79, 32, 66, 65, 82], ⟨[47, 117], none⟩)])
      (useOf "foo  BAR".toList (some [])) [(0, 7)] = .ok ns ∧ isLink ns = true ∧
      ns = [linkNode 7 "foo  BAR".toList (some []) ⟨[47, 117], none⟩] := by
  obtain ⟨ns, h1, h2, h3, _⟩ := doc_use_resolves_iff (exCfg false 100) (exCfg_chainOK _ _) (by decide)
    [([70, 79, 79, 32, 66, 65, 82], ⟨[47, 117], none⟩)] (by decide +kernel) 7 "foo  BAR".toList (some [])
    (by decide) (by unfold PlainTxt; decide) (by unfold PlainTxt; decide)
  exact ⟨ns, h1, h2.mpr (by decide +kernel), h3 _ (by decide +kernel)⟩

/-- the use in front, a definition in a block quote and a later one at top level —
    the quote's (first by line) wins; a use without definition stays text -/
example : (parseDoc (exCfg false 100) "[foo]\n\n> [FOO]: /a\n\n[foo]: /b".toList).toOption.map urlsOf =
    some [[47, 97]] := by decide_lits
example : (parseDoc (exCfg false 100) "[x]\n\n[y]: /u".toList).toOption.map urlsOf = some [] := by
  decide_lits
/-- definition in a list item, with title, collapsed use behind it; full use in front of it -/
example : (parseDoc (exCfg false 100) "[t][Foo]\n\n- [foo]: /a 'T'\n\n[FOO][]".toList).toOption.map urlsOf =
    some [[47, 97], [47, 97]] := by decide_lits
/-- case and white space: `[foo  BAR]` against `[FOO bar]: /u` -/
example : (parseDoc (exCfg false 100) "[foo  BAR]\n\n[FOO bar]: /u".toList).toOption.map urlsOf =
    some [[47, 117]] := by decide_lits
/-- … and with the real Unicode tables the two labels have the same normal form -/
example : Refs.Nt (cps "foo  BAR".toList) = Refs.Nt (cps "FOO bar".toList) ∧
    Refs.Nt (cps "FOO bar".toList) ≠ [] := by
  simp only [Refs.Nt_fast]; decide +kernel
/-- the full form does NOT fall back to the text: `[foo][bar]` with only `foo` defined is text -/
example : (parseDoc (exCfg false 100) "[foo][bar]\n\n[foo]: /a".toList).toOption.map urlsOf = some [] := by
  decide_lits
/-- necessity: a definition inside a fenced block is not a definition … -/
example : (parseDoc (exCfg false 100) "[x]\n\n```\n[x]: /u\n```".toList).toOption.map urlsOf = some [] := by
  decide_lits
/-- … nor is one in an indented code block, nor one that interrupts a paragraph -/
example : (parseDoc (exCfg false 100) "[x]\n\n    [x]: /u".toList).toOption.map urlsOf = some [] := by
  decide_lits
example : (parseDoc (exCfg false 100) "[x]\n[x]: /u".toList).toOption.map urlsOf = some [] := by
  decide_lits
/-- necessity of the plain class: a `]` in the text ends the label early (`[a]b]` uses the label `a`) -/
example : ¬ PlainTxt "a]b".toList ∧
    (parseDoc (exCfg false 100) "[a]b]\n\n[a]: /u".toList).toOption.map urlsOf = some [[47, 117]] := by
  refine ⟨by unfold PlainTxt; decide, by decide +kernel⟩
/-- … and `[a]b]: /v` is not a definition (the `]` of a label must be followed by `:`): it is a paragraph
    whose `[a]` resolves as well -/
example : (parseDoc (exCfg false 100) "[a]b]\n\n[a]: /u\n\n[a]b]: /v".toList).toOption.map urlsOf =
    some [[47, 117], [47, 117]] := by decide_lits
/-- necessity of `max_nesting ≥ 1` for links at all: at nesting limit 0 nothing resolves -/
example : (parseDoc (exCfg false 0) "[x]\n\n[x]: /u".toList).toOption.map urlsOf = some [] := by
  decide_lits
/-- necessity of "`]` is not an emphasis marker": with `]` as a marker the closing bracket is taken by
    the emphasis rule — the text-node shape of `use_resolves_text` fails (two nodes, not one) -/
example : (match Inline.parseInline { (exCfg false 100).inlineCfg [] with
      chain := [.text, .link, .emph ']' true] } "[x]".toList [(0, 0)] with
    | .ok ns => ns.length | .error _ => 0) = 2 := by decide +kernel

end MdIt.Pipeline

/-! ## (2') the tree `parseDoc` RETURNS: through the join and sourcepos passes -/

namespace MdIt.Pipeline
open MdIt.Block.Tr (Call docCalls docTrace DefOnLines)
open MdIt.C13D (ChainOK useOf labelOf look linkNode isLink)
open MdIt.C11S (PlainTxt)
open MdIt.InlineOps (byteLen)

/-- `n` is `t` or a block node below it in the BLOCK tree (no placeholder on the way) -/
inductive BWithin : Block.BNode → Block.BNode → Prop
  | self (t : Block.BNode) : BWithin t t
  | under {n c t : Block.BNode} : c ∈ t.children → (∀ ct mp, c.kind ≠ .inlineRoot ct mp) → BWithin n c →
      BWithin n t

theorem mem_spliceWithList (f : List Char → List (Nat × Nat) → List Node) :
    ∀ (cs : List Block.BNode) (c : Block.BNode), c ∈ cs → (∀ ct mp, c.kind ≠ .inlineRoot ct mp) →
      spliceWith f c ∈ spliceWithList f cs
  | [], _, h, _ => by cases h
  | d :: rest, c, h, hk => by
    rw [spliceWithList]
    rcases List.mem_cons.mp h with rfl | h'
    · split
      · rename_i ct mp heq; exact absurd heq (hk ct mp)
      · exact List.mem_cons_self
    · have ih := mem_spliceWithList f rest c h' hk
      split
      · exact List.mem_append_right _ ih
      · exact List.mem_cons_of_mem _ ih

theorem BWithin.splice (f : List Char → List (Nat × Nat) → List Node) {p root : Block.BNode}
    (h : BWithin p root) : SWithin (spliceWith f p) (spliceWith f root) := by
  induction h with
  | self => exact .self _
  | @under c t hc hk _ ih =>
    refine .under (c := spliceWith f c) ?_ ?_ ih
    · cases t with
      | mk k r cs => simp only [spliceWith]; exact mem_spliceWithList f cs c hc hk
    · cases c with
      | mk k r cs => simp only [spliceWith]; exact solid_blk _ _ _ _

theorem joinNode_text_child (k : Kind) (r r2 : Option (Nat × Nat)) (a a2 : List (List Char × List Char))
    (s : List Char) (hs : s ≠ []) :
    joinNode ⟨k, r, a, [⟨.inl (.text s), r2, a2, []⟩]⟩ = ⟨k, r, a, [⟨.inl (.text s), r2, a2, []⟩]⟩ :=
  joinNode_one rfl (by simpa [keep, Node.isText, Node.content] using hs) (joinNode_fix rfl (by simp))

theorem joinNode_link_child (k : Kind) (r r2 r3 : Option (Nat × Nat)) (a a2 a3 : List (List Char × List Char))
    (u : List Nat) (ti : Option (List Char)) (s : List Char) (hs : s ≠ []) :
    joinNode ⟨k, r, a, [⟨.inl (.link u ti), r2, a2, [⟨.inl (.text s), r3, a3, []⟩]⟩]⟩ =
      ⟨k, r, a, [⟨.inl (.link u ti), r2, a2, [⟨.inl (.text s), r3, a3, []⟩]⟩]⟩ :=
  joinNode_one rfl rfl (joinNode_text_child _ _ _ _ _ s hs)

/-- a node on a `Solid` path of the spliced tree that the join pass leaves alone is in the tree the join and
    sourcepos passes return, as it is or with the attributes of the sourcepos pass -/
theorem postPasses_fixed {cfg : DocCfg} {src : List Char} {t0 t n : Node} (h : postPasses cfg src t0 = .ok t)
    (hw : SWithin n t0) (hj : joinNode n = n) :
    Within n t ∨ Within (mapAttrs (spF src (SourceMap.mkMarks src)) n) t := by
  have hw1 : Within n (if cfg.hasJoin = true then joinNode t0 else t0) := by
    split
    · exact hj ▸ hw.join.within
    · exact hw.within
  rcases finish_ok h with ⟨hs, rfl⟩ | ⟨_, rfl⟩
  · unfold postPasses at h
    simp only [hs, if_true] at h
    obtain ⟨n', h1, h2⟩ := hw1.sourcepos _ h
    exact .inr (sourceposNode_eq_mapAttrs h1 ▸ h2)
  · exact .inl hw1

/-- **`postPasses_link`.**  A paragraph over ONE `Link` node
    over ONE non-empty text node, on a `Solid` path of the spliced tree, is in the tree the join and
    sourcepos passes return — kinds (url, title, text), ranges and child structure unchanged; only the
    `data-sourcepos` attributes (if that pass is on) are new. -/
theorem postPasses_link (cfg : DocCfg) (src : List Char) (t0 t : Node) (h : postPasses cfg src t0 = .ok t)
    (r r2 r3 : Option (Nat × Nat)) (u : List Nat) (ti : Option (List Char)) (s : List Char) (hs : s ≠ [])
    (hw : SWithin ⟨.blk .paragraph, r, [], [⟨.inl (.link u ti), r2, [], [⟨.inl (.text s), r3, [], []⟩]⟩]⟩ t0) :
    ∃ a1 a2 a3, Within ⟨.blk .paragraph, r, a1, [⟨.inl (.link u ti), r2, a2, [⟨.inl (.text s), r3, a3, []⟩]⟩]⟩ t :=
  (postPasses_fixed h hw (joinNode_link_child _ _ _ _ _ _ _ _ _ s hs)).elim (fun h2 => ⟨_, _, _, h2⟩)
    fun h2 => ⟨_, _, _, h2⟩

/-- the same for the unresolved use: a paragraph over ONE non-empty text node -/
theorem postPasses_text (cfg : DocCfg) (src : List Char) (t0 t : Node) (h : postPasses cfg src t0 = .ok t)
    (r r2 : Option (Nat × Nat)) (s : List Char) (hs : s ≠ [])
    (hw : SWithin ⟨.blk .paragraph, r, [], [⟨.inl (.text s), r2, [], []⟩]⟩ t0) :
    ∃ a1 a2, Within ⟨.blk .paragraph, r, a1, [⟨.inl (.text s), r2, a2, []⟩]⟩ t :=
  (postPasses_fixed h hw (joinNode_text_child _ _ _ _ _ s hs)).elim (fun h2 => ⟨_, _, h2⟩) fun h2 => ⟨_, _, h2⟩

/-- **`doc_resolves_in_tree` (C13 on the tree `parseDoc` RETURNS).**
    Hypotheses and `L` as in `doc_resolves_iff`.  For every use paragraph of the block tree — a
    `Paragraph` node (range `r`) over the placeholder of a plain use `[T]` / `[T][]` / `[T][l]`, anywhere
    in the block tree (`BWithin`: top level, in quotes, in list items, before or behind any definition) —
    the RETURNED tree `t` (after the join and sourcepos passes) contains the paragraph with that range and
    * no definition of `L` matches ⇒ its only child is the text node with the use, literally;
    * otherwise its only child is the `Link` node whose url / title are those of the matching definition
      with the SMALLEST LINE, over the one text node `T`.
    (Only the `data-sourcepos` attribute lists `a₁ a₂ a₃` depend on the configuration.) -/
theorem doc_resolves_in_tree (cfg : DocCfg) (hok : ChainOK (cfg.inlineCfg [])) (hmn : 2 ≤ cfg.maxNesting)
    (hN : ∀ s, cfg.blockCfg.N (cfg.blockCfg.N s) = cfg.blockCfg.N s)
    (src : List Char) (t : Node) (h : parseDoc cfg src = .ok t) :
    ∃ (root : Block.BNode) (refs : Refs.RefMap) (L : List (Call × Refs.Def)),
      Block.parseBlocks cfg.blockCfg src = .ok (root, refs) ∧
      L.map (fun x => (Block.RuleId.reference, x.1.start, x.1.stop)) =
        (docTrace cfg.blockCfg src).filter (fun e => e.1 = .reference) ∧
      L.Pairwise (fun x y => x.1.stop ≤ y.1.start) ∧
      (∀ x ∈ L, x.1.stop ≤ (Lines.splitLines src).length ∧
        DefOnLines cfg.blockCfg src x.1.start x.1.stop x.2) ∧
      ∀ (x : Nat) (T : List Char) (e : Option (List Char)) (r : Option (Nat × Nat)),
        T ≠ [] → PlainTxt T → PlainTxt (e.getD []) →
        BWithin ⟨.paragraph, r, [⟨.inlineRoot (useOf T e) [(0, x)], none, []⟩]⟩ root →
        let hit := fun y : Call × Refs.Def => Refs.labelMatches cfg.blockCfg.N (labelOf T e) y.2
        match L.find? hit with
        | none =>
          (∃ a1 a2, Within ⟨.blk .paragraph, r, a1,
            [⟨.inl (.text (useOf T e)), some (x, x + byteLen (useOf T e)), a2, []⟩]⟩ t) ∧
          ∀ y ∈ L, hit y = false
        | some y =>
          (∃ a1 a2 a3, Within ⟨.blk .paragraph, r, a1,
            [⟨.inl (.link y.2.entry.dest (y.2.entry.title.map (fun ti => ti.map Char.ofNat))),
              some (x, x + byteLen (useOf T e)), a2,
              [⟨.inl (.text T), some (x + 1, x + (1 + byteLen T)), a3, []⟩]⟩]⟩ t) ∧
          y ∈ L ∧ hit y = true ∧ ∀ z ∈ L, hit z = true → z = y ∨ y.1.stop ≤ z.1.start := by
  obtain ⟨root, refs, L, hb, h1, h2, h3, hpost, h5⟩ := doc_resolves_iff cfg hok hmn hN src t h
  refine ⟨root, refs, L, hb, h1, h2, h3, ?_⟩
  intro x T e r hne hT he hbw hit
  have h6 := h5 x T e hne hT he
  have hsw := hbw.splice (inlineRun (cfg.inlineCfg refs))
  rw [spliceWith_paragraph] at hsw
  simp only at h6
  have huse : useOf T e ≠ [] := by simp [useOf]
  split at h6
  · rename_i hf
    simp only [hit, hf]
    refine ⟨?_, h6.2⟩
    rw [h6.1] at hsw
    simp only [ofInlineList, ofInline, Inline.Node.newText] at hsw
    exact postPasses_text cfg src _ t hpost _ _ _ huse hsw
  · rename_i y hf
    simp only [hit, hf]
    refine ⟨?_, h6.2⟩
    rw [h6.1] at hsw
    simp only [ofInlineList, ofInline, linkNode, Inline.Node.newText] at hsw
    exact postPasses_link cfg src _ t hpost _ _ _ _ _ _ hne hsw

open MdIt.NodeRender (tA linkAttrs) in
open MdIt.HtmlDecode (asChars) in
/-- **the resolved use is rendered as an `a` element with that url and title**: a `Link` child of a node
    of a parsed tree (the paragraph of `doc_resolves_in_tree`) renders as the trait calls
    `open("a", attrs ++ [href = url] ++ [title = …]?)`, its children, `close("a")`, the url safe
    (`doc_link_render`); `doc_href_output` writes the tag piece ` href="escape_html url"`. -/
theorem resolved_use_renders (cfg : DocCfg) (src : List Char) (t : Node) (h : parseDoc cfg src = .ok t)
    (p c : Node) (hp : Within p t) (hc : c ∈ p.children) (u : List Nat) (ti : Option (List Char))
    (hk : c.kind = .inl (.link u ti)) :
    SafeUrl u ∧ ∃ body, NodeRender.render cfg.entity (toRender cfg.langPrefix c) =
      .ok ([.open tA (linkAttrs c.attrs (asChars u) ti)] ++ body ++ [.close tA]) :=
  (doc_link_render cfg src t h c ((Within.under hc (.self _)).trans hp)).1 u ti hk

/-! ## "definitions themselves produce no output" -/

/-- **`doc_definitions_no_node` (tree level).**  Every call of the reference rule the block pass of a
    document makes — each definition of `doc_resolves_iff`'s `L` is read by exactly one of them — leaves
    the children and the kind of the node under construction as they were: a definition contributes NO
    node to the block tree, hence none to the tree `parseDoc` returns and nothing to the output. -/
theorem doc_definitions_no_node {cfg : Block.Cfg} {src : List Char} {root : Block.BNode} {refs : Refs.RefMap}
    (h : Block.parseBlocks cfg src = .ok (root, refs)) :
    ∀ c ∈ docCalls cfg src, c.rule = .reference →
      c.post.children = c.pre.children ∧ c.post.nodeKind = c.pre.nodeKind := by
  obtain ⟨n, _, P⟩ := Block.Tr.parseBlocks_calls h
  intro c hc hr
  obtain ⟨f, hf⟩ := (P.good c hc).fired
  rw [hr] at hf
  exact Block.reference_no_node hf

/-- documents consisting ONLY of definitions (adjacent, blank-separated, in a quote, in a list item,
    with titles, multi-line) render to the empty string / to empty containers -/
example : renderDoc false (exCfg false 100) "[a]: /u\n[b]: /v 't'\n\n[c]:\n  <w> \"x\"".toList = .ok [] := by
  decide_lits
example : renderDoc false (exCfg false 100) "[foo  BAR]: /u\n".toList = .ok [] := by decide_lits
example : renderDoc false (exCfg false 100) "> [a]: /u".toList = .ok "<blockquote>\n</blockquote>\n".toList := by
  decide_lits
/-- the rendered form of the one-paragraph-plus-definition document -/
example : renderDoc false (exCfg false 100) "[foo  BAR]\n\n[FOO bar]: /u \"t&\"".toList =
    .ok "<p><a href=\"/u\" title=\"t&amp;\">foo  BAR</a></p>\n".toList := by decide_lits
/-- `BWithin` is satisfiable: a paragraph child of the root -/
example (p : Block.BNode) (hp : p.kind = .paragraph) (r : Option (Nat × Nat)) (rest : List Block.BNode) :
    BWithin p ⟨.root, r, p :: rest⟩ :=
  .under (by simp) (by intro ct mp h; rw [hp] at h; cases h) (.self _)

end MdIt.Pipeline

/-
OPEN (on concrete strings each of these is an evaluation: the examples above):
 * `doc_resolves_family`: for the source-shaped family — one-line definitions `[Lᵢ]: dᵢ "tᵢ"`, each optionally behind
   `> ` or `- `, blank-separated, and one use paragraph — the list `L` of `doc_resolves_iff` is `[(Lᵢ, dᵢ, tᵢ)]ᵢ` in
   line order;
 * `doc_definitions_no_output`, `doc_use_rendered`: a document of such definitions renders to `""`, and
   `[T]\n\n[L]: /u "t"` to `<p><a href="/u" title="t">T</a></p>\n` (`doc_definitions_no_node` is the tree-level form).
 All need `Block.refParse` on a definition line with GENERIC label, destination and title, i.e. the VALUES of
 `Link.parseLinkDestination` / `Link.parseLinkTitle` at a byte position of an unknown string (`Props/C04.lean` has
 their grammars and converses); the first needs in addition one `reference` call per definition line of the block
 tokenizer (`Lemmas/C13TraceTemplate.lean` does the first line).  Prefix-locality of the scanners
 (`defOnLines_exact`): OPEN block of `Props/C13Trace.lean`.
-/
