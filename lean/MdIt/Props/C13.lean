/-
  C13 — Reference links resolve by normalised label; first definition wins.

  `N = normalize L U` throughout; the case tables `L U` are arbitrary unless a theorem name starts
  with `table_`, in which case they are the tables generated from the Rust std that is linked.

  Property theorems
    white space : `isWs_table`, `collapseWs_ws`, `collapseWs_nonws`, `wsNorm_lead`, `wsNorm_trail`,
                  `wsNorm_run`, `norm_ws_invariant`, `wsNorm_eq_iff` (exactness), `wsNorm_idem`
    case        : `norm_flatMap`, `norm_case_invariant_lower`, `norm_case_invariant_upper`,
                  `norm_case_invariant_mixed`, `normalize_idem`, `sigma_irrelevant`, `norm_sigma`
                  — all GIVEN the closure conditions `Closure L U`
    tables      : `table_compat_lower`, `table_compat_upper`, `table_closure_lower`,
                  `table_closure_upper`, `table_closure` (the conditions HOLD for the linked std, checked
                  row by row by the kernel), `table_sigma`, `table_sigma_irrelevant`, `table_norm_sigma`,
                  `table_norm_case_invariant`, `table_normalize_idem`
    map         : `first_wins_raw`, `first_wins`, `resolves_iff`, `later_defs_irrelevant`,
                  `empty_label_rejected`, `selectLabel_spec`, `resolve_forms`,
                  `table_first_wins`, `table_resolves_iff`, `table_resolves_variant`

  This file is about the map alone.  That `ReferenceScanner` pushes no node is `Block.reference_no_node`,
  that definitions inside block quotes / list items go to the ONE map in the order the block pass
  meets them `Block.refs_first_wins` / `Block.parseBlocks_refs` (`Props/LinksDoc.lean`); the inline pass
  runs on the finished map by the shape of `Pipeline.parseDoc` (`afterBlocks`), and
  `Pipeline.doc_resolves_iff` (`Props/C13Doc.lean`) is "resolves exactly when" for whole documents.
-/
import MdIt.Model.Refs
import MdIt.Gen.Unicode

namespace MdIt.Refs

/-! ## white space -/

/-- the model's white-space test is the generated `char::is_whitespace` table -/
theorem isWs_table (c : Nat) : isWs c = MdIt.Gen.Unicode.whiteSpace.contains c := by
  have h₁ : (9 ≤ c ∧ c ≤ 13) ↔ (c = 9 ∨ c = 10 ∨ c = 11 ∨ c = 12 ∨ c = 13) := by omega
  have h₂ : (8192 ≤ c ∧ c ≤ 8202) ↔ (c = 8192 ∨ c = 8193 ∨ c = 8194 ∨ c = 8195 ∨ c = 8196 ∨
      c = 8197 ∨ c = 8198 ∨ c = 8199 ∨ c = 8200 ∨ c = 8201 ∨ c = 8202) := by omega
  rw [Bool.eq_iff_iff]
  simp only [isWs, MdIt.Gen.Unicode.whiteSpace, List.contains_eq_mem, List.mem_cons,
    List.not_mem_nil, Bool.or_eq_true, Bool.and_eq_true, decide_eq_true_eq, beq_iff_eq, h₁, h₂,
    or_assoc, or_false]

/-- every character is white space -/
def allWs (s : List Nat) : Bool := s.all isWs

/-- trim + collapse: the white-space part of `normalize_reference` -/
def wsNorm (s : List Nat) : List Nat := collapseWs (trimWs s)

theorem normalize_eq (L U : Nat → List Nat) (s : List Nat) :
    normalize L U s = upperStr U (lowerStr L (wsNorm s)) := rfl

theorem collapseWs_nonws (c : Nat) (r : List Nat) (h : isWs c = false) :
    collapseWs (c :: r) = c :: collapseWs r := by
  simp [collapseWs, h]

/-- **maximal run → one space.** A white-space character swallows the whole run that follows it. -/
theorem collapseWs_ws (c : Nat) (r : List Nat) (h : isWs c = true) :
    collapseWs (c :: r) = 32 :: collapseWs (r.dropWhile isWs) := by
  induction r generalizing c with
  | nil => simp [collapseWs, h, startsWs]
  | cons d r ih =>
    by_cases hd : isWs d = true
    · rw [collapseWs]; simp only [h, startsWs, hd, if_true]
      rw [ih d hd]; simp [List.dropWhile, hd]
    · simp only [Bool.not_eq_true] at hd
      rw [collapseWs]; simp [h, startsWs, hd, List.dropWhile]

theorem dropWhile_allWs_append (w b : List Nat) (hw : allWs w = true) :
    (w ++ b).dropWhile isWs = b.dropWhile isWs := by
  induction w with
  | nil => rfl
  | cons c w ih =>
    simp [allWs] at hw
    simp [hw.1]
    exact ih (by simp [allWs]; exact hw.2)

theorem collapseWs_run (w b : List Nat) (hw : allWs w = true) (hne : w ≠ []) :
    collapseWs (w ++ b) = 32 :: collapseWs (b.dropWhile isWs) := by
  match w, hne with
  | c :: w', _ =>
    simp [allWs] at hw
    rw [List.cons_append, collapseWs_ws _ _ hw.1, dropWhile_allWs_append]
    simp [allWs]; exact hw.2

theorem startsWs_append (a x : List Nat) (ha : a ≠ []) : startsWs (a ++ x) = startsWs a := by
  match a, ha with
  | c :: a', _ => rfl

/-- the collapse of `a ++ x` depends on `x` only through its collapse and its first character class -/
theorem collapseWs_append_congr (a x y : List Nat) (hs : startsWs x = startsWs y)
    (hc : collapseWs x = collapseWs y) : collapseWs (a ++ x) = collapseWs (a ++ y) := by
  induction a with
  | nil => simpa
  | cons c a ih =>
    have hst : startsWs (a ++ x) = startsWs (a ++ y) := by
      cases a with
      | nil => simpa
      | cons d a' => rfl
    simp [collapseWs, ih, hst]

/-- replacing a non-empty white-space run by another leaves the collapse unchanged -/
theorem collapseWs_replace_run (a w₁ w₂ b : List Nat) (h₁ : allWs w₁ = true) (n₁ : w₁ ≠ [])
    (h₂ : allWs w₂ = true) (n₂ : w₂ ≠ []) :
    collapseWs (a ++ (w₁ ++ b)) = collapseWs (a ++ (w₂ ++ b)) := by
  apply collapseWs_append_congr
  · rw [startsWs_append _ _ n₁, startsWs_append _ _ n₂]
    match w₁, w₂, n₁, n₂ with
    | c :: _, d :: _, _, _ =>
      simp [allWs] at h₁ h₂
      simp [startsWs, h₁.1, h₂.1]
  · rw [collapseWs_run _ _ h₁ n₁, collapseWs_run _ _ h₂ n₂]

/-! ### trimming -/

theorem allWs_append (a b : List Nat) : allWs (a ++ b) = (allWs a && allWs b) := by
  simp [allWs]

theorem allWs_reverse (a : List Nat) : allWs a.reverse = allWs a := by
  simp [allWs]

theorem dropWhile_allWs (w : List Nat) (hw : allWs w = true) : w.dropWhile isWs = [] := by
  have := dropWhile_allWs_append w [] hw
  simpa using this

theorem dropWhile_append_of_not_all (a x : List Nat) (ha : allWs a = false) :
    (a ++ x).dropWhile isWs = a.dropWhile isWs ++ x := by
  induction a with
  | nil => simp [allWs] at ha
  | cons c a ih =>
    by_cases hc : isWs c = true
    · have : allWs a = false := by
        simp [allWs, hc] at ha ⊢; exact ha
      simp [List.dropWhile, hc, ih this]
    · simp only [Bool.not_eq_true] at hc
      simp [List.dropWhile, hc]

theorem trimEnd_append_allWs (s w : List Nat) (hw : allWs w = true) :
    trimEnd (s ++ w) = trimEnd s := by
  unfold trimEnd
  rw [List.reverse_append, dropWhile_allWs_append _ _ (by rw [allWs_reverse]; exact hw)]

theorem trimEnd_append_of_not_all (x b : List Nat) (hb : allWs b = false) :
    trimEnd (x ++ b) = x ++ trimEnd b := by
  unfold trimEnd
  rw [List.reverse_append, dropWhile_append_of_not_all _ _ (by rw [allWs_reverse]; exact hb)]
  simp

theorem trimEnd_allWs (w : List Nat) (hw : allWs w = true) : trimEnd w = [] := by
  unfold trimEnd
  rw [dropWhile_allWs _ (by rw [allWs_reverse]; exact hw)]; rfl

theorem trimWs_allWs (w : List Nat) (hw : allWs w = true) : trimWs w = [] := by
  unfold trimWs trimStart; rw [dropWhile_allWs w hw]; rfl

/-- **leading white space is ignored** -/
theorem wsNorm_lead (w s : List Nat) (hw : allWs w = true) : wsNorm (w ++ s) = wsNorm s := by
  unfold wsNorm trimWs trimStart; rw [dropWhile_allWs_append w s hw]

theorem trimWs_trail (s w : List Nat) (hw : allWs w = true) : trimWs (s ++ w) = trimWs s := by
  unfold trimWs trimStart
  by_cases hs : allWs s = true
  · rw [dropWhile_allWs s hs, dropWhile_allWs (s ++ w) (by rw [allWs_append, hs, hw]; rfl)]
  · simp only [Bool.not_eq_true] at hs
    rw [dropWhile_append_of_not_all s w hs, trimEnd_append_allWs _ _ hw]

/-- **trailing white space is ignored** -/
theorem wsNorm_trail (s w : List Nat) (hw : allWs w = true) : wsNorm (s ++ w) = wsNorm s := by
  unfold wsNorm; rw [trimWs_trail s w hw]

/-- **any non-empty white-space run may be replaced by any other** -/
theorem wsNorm_run (a w₁ w₂ b : List Nat) (h₁ : allWs w₁ = true) (n₁ : w₁ ≠ [])
    (h₂ : allWs w₂ = true) (n₂ : w₂ ≠ []) :
    wsNorm (a ++ (w₁ ++ b)) = wsNorm (a ++ (w₂ ++ b)) := by
  by_cases ha : allWs a = true
  · -- everything up to `b` is leading white space
    rw [← List.append_assoc, ← List.append_assoc,
      wsNorm_lead (a ++ w₁) b (by rw [allWs_append, ha, h₁]; rfl),
      wsNorm_lead (a ++ w₂) b (by rw [allWs_append, ha, h₂]; rfl)]
  · simp only [Bool.not_eq_true] at ha
    by_cases hb : allWs b = true
    · -- everything after `a` is trailing white space
      rw [wsNorm_trail a (w₁ ++ b) (by rw [allWs_append, hb, h₁]; rfl),
        wsNorm_trail a (w₂ ++ b) (by rw [allWs_append, hb, h₂]; rfl)]
    · simp only [Bool.not_eq_true] at hb
      have key : ∀ w, trimWs (a ++ (w ++ b)) = trimStart a ++ (w ++ trimEnd b) := by
        intro w
        unfold trimWs trimStart
        rw [dropWhile_append_of_not_all a _ ha, ← List.append_assoc (a.dropWhile isWs) w b,
          trimEnd_append_of_not_all _ b hb, List.append_assoc]
      unfold wsNorm
      rw [key w₁, key w₂]
      exact collapseWs_replace_run _ _ _ _ h₁ n₁ h₂ n₂

/-- Two spellings differ only in white space: leading / trailing white space added or removed, or a
non-empty run of white space replaced by another non-empty run (closed under symmetry and
transitivity). -/
inductive WsEquiv : List Nat → List Nat → Prop
  | refl (a : List Nat) : WsEquiv a a
  | symm {a b : List Nat} : WsEquiv a b → WsEquiv b a
  | trans {a b c : List Nat} : WsEquiv a b → WsEquiv b c → WsEquiv a c
  | lead (w s : List Nat) : allWs w = true → WsEquiv (w ++ s) s
  | trail (s w : List Nat) : allWs w = true → WsEquiv (s ++ w) s
  | run (a w₁ w₂ b : List Nat) : allWs w₁ = true → w₁ ≠ [] → allWs w₂ = true → w₂ ≠ [] →
      WsEquiv (a ++ (w₁ ++ b)) (a ++ (w₂ ++ b))

theorem wsNorm_of_WsEquiv {a b : List Nat} (h : WsEquiv a b) : wsNorm a = wsNorm b := by
  induction h with
  | refl => rfl
  | symm _ ih => exact ih.symm
  | trans _ _ ih₁ ih₂ => exact ih₁.trans ih₂
  | lead w s hw => exact wsNorm_lead w s hw
  | trail s w hw => exact wsNorm_trail s w hw
  | run a w₁ w₂ b h₁ n₁ h₂ n₂ => exact wsNorm_run a w₁ w₂ b h₁ n₁ h₂ n₂

/-- **C13 (white space).** Matching collapses runs of white space and ignores it at the ends: labels
that differ only in white space have the same normal form, whatever the case tables. -/
theorem norm_ws_invariant (L U : Nat → List Nat) {a b : List Nat} (h : WsEquiv a b) :
    normalize L U a = normalize L U b := by
  rw [normalize_eq, normalize_eq, wsNorm_of_WsEquiv h]

/-- non-vacuity: `"  foo \t\n bar\u{a0}"` and `"foo\u{3000}bar"` -/
example : WsEquiv [32, 32, 102, 111, 111, 32, 9, 10, 32, 98, 97, 114, 160]
    [102, 111, 111, 12288, 98, 97, 114] :=
  .trans (.lead [32, 32] _ (by decide))
    (.trans (.trail [102, 111, 111, 32, 9, 10, 32, 98, 97, 114] [160] (by decide))
      (.run [102, 111, 111] [32, 9, 10, 32] [12288] [98, 97, 114] (by decide) (by decide) (by decide) (by decide)))

/-! ### completeness: `WsEquiv` is exactly "same white-space normal form" -/

theorem allWs_takeWhile (s : List Nat) : allWs (s.takeWhile isWs) = true := by
  induction s with
  | nil => rfl
  | cons c r ih =>
    by_cases hc : isWs c = true
    · simp only [List.takeWhile, hc]; simp only [allWs, List.all_cons, hc, Bool.true_and]; exact ih
    · simp only [Bool.not_eq_true] at hc
      simp [List.takeWhile, hc, allWs]

theorem WsEquiv_trimWs (s : List Nat) : WsEquiv s (trimWs s) := by
  have h1 : WsEquiv s (trimStart s) := by
    have := WsEquiv.lead (s.takeWhile isWs) (s.dropWhile isWs) (allWs_takeWhile s)
    rwa [List.takeWhile_append_dropWhile] at this
  have h2 : ∀ t : List Nat, WsEquiv t (trimEnd t) := by
    intro t
    have := WsEquiv.trail (trimEnd t) (t.reverse.takeWhile isWs).reverse
      (by rw [allWs_reverse]; exact allWs_takeWhile _)
    have e : trimEnd t ++ (t.reverse.takeWhile isWs).reverse = t := by
      unfold trimEnd
      rw [← List.reverse_append, List.takeWhile_append_dropWhile, List.reverse_reverse]
    rwa [e] at this
  exact h1.trans (h2 _)

theorem WsEquiv_collapseWs (a x : List Nat) : WsEquiv (a ++ x) (a ++ collapseWs x) := by
  induction x generalizing a with
  | nil => exact .refl _
  | cons c r ih =>
    by_cases hc : isWs c = true
    · cases r with
      | nil =>
        simp only [collapseWs, hc, startsWs, if_true]
        have := WsEquiv.run a [c] [32] [] (by simp [allWs, hc]) (by simp) (by decide) (by simp)
        simpa using this
      | cons d r' =>
        by_cases hd : isWs d = true
        · have e : collapseWs (c :: d :: r') = collapseWs (d :: r') := by
            rw [collapseWs]; simp [hc, startsWs, hd]
          rw [e]
          have := WsEquiv.run a [c, d] [d] r' (by simp [allWs, hc, hd]) (by simp)
            (by simp [allWs, hd]) (by simp)
          exact (by simpa using this : WsEquiv (a ++ c :: d :: r') (a ++ d :: r')).trans (ih a)
        · simp only [Bool.not_eq_true] at hd
          have e : collapseWs (c :: d :: r') = 32 :: collapseWs (d :: r') := by
            rw [collapseWs]; simp [hc, startsWs, hd]
          rw [e]
          have h1 := WsEquiv.run a [c] [32] (d :: r') (by simp [allWs, hc]) (by simp) (by decide)
            (by simp)
          have h2 := ih (a ++ [32])
          simp only [List.append_assoc, List.singleton_append] at h1 h2
          exact h1.trans h2
    · simp only [Bool.not_eq_true] at hc
      rw [collapseWs_nonws c r hc]
      have := ih (a ++ [c])
      simpa using this

theorem WsEquiv_wsNorm (s : List Nat) : WsEquiv s (wsNorm s) := by
  have := WsEquiv_collapseWs [] (trimWs s)
  simp only [List.nil_append] at this
  exact (WsEquiv_trimWs s).trans this

/-- **C13 (white space, exact).** Two labels have the same white-space normal form exactly when they
differ only by the white-space edits of `WsEquiv`. -/
theorem wsNorm_eq_iff (a b : List Nat) : wsNorm a = wsNorm b ↔ WsEquiv a b := by
  constructor
  · intro h
    have h1 := WsEquiv_wsNorm a
    rw [h] at h1
    exact h1.trans (WsEquiv_wsNorm b).symm
  · exact wsNorm_of_WsEquiv

/-! ### the white-space normal form is stable (needed because definitions are normalised twice) -/

/-- does the string end with a white-space character -/
def endsWs (s : List Nat) : Bool := startsWs s.reverse

theorem trimStart_of_not_startsWs (s : List Nat) (h : startsWs s = false) : trimStart s = s := by
  cases s with
  | nil => rfl
  | cons c r => simp [startsWs] at h; simp [trimStart, List.dropWhile, h]

theorem trimEnd_of_not_endsWs (s : List Nat) (h : endsWs s = false) : trimEnd s = s := by
  unfold trimEnd
  have := trimStart_of_not_startsWs s.reverse h
  unfold trimStart at this
  rw [this]; simp

theorem startsWs_dropWhile (s : List Nat) : startsWs (s.dropWhile isWs) = false := by
  induction s with
  | nil => rfl
  | cons c r ih =>
    by_cases hc : isWs c = true
    · simp [List.dropWhile, hc, ih]
    · simp only [Bool.not_eq_true] at hc
      simp [List.dropWhile, hc, startsWs]

theorem startsWs_collapseWs (s : List Nat) : startsWs (collapseWs s) = startsWs s := by
  cases s with
  | nil => rfl
  | cons c r =>
    by_cases hc : isWs c = true
    · rw [collapseWs_ws c r hc]; simp [startsWs, hc]; decide
    · simp only [Bool.not_eq_true] at hc
      rw [collapseWs_nonws c r hc]; rfl

theorem collapseWs_idem (s : List Nat) : collapseWs (collapseWs s) = collapseWs s := by
  induction s with
  | nil => rfl
  | cons c r ih =>
    by_cases hc : isWs c = true
    · by_cases hr : startsWs r = true
      · have : collapseWs (c :: r) = collapseWs r := by simp [collapseWs, hc, hr]
        rw [this, ih]
      · simp only [Bool.not_eq_true] at hr
        have : collapseWs (c :: r) = 32 :: collapseWs r := by simp [collapseWs, hc, hr]
        rw [this]
        have h32 : isWs 32 = true := by decide
        have hs : startsWs (collapseWs r) = false := by rw [startsWs_collapseWs, hr]
        simp [collapseWs, h32, hs, ih]
    · simp only [Bool.not_eq_true] at hc
      rw [collapseWs_nonws c r hc, collapseWs_nonws c _ hc, ih]

theorem collapseWs_snoc (s : List Nat) (c : Nat) :
    collapseWs (s ++ [c]) =
      if isWs c then (if endsWs s then collapseWs s else collapseWs s ++ [32])
      else collapseWs s ++ [c] := by
  induction s with
  | nil => by_cases hc : isWs c = true <;> simp_all [collapseWs, startsWs, endsWs]
  | cons d s ih =>
    have hst : startsWs (s ++ [c]) = if s = [] then isWs c else startsWs s := by
      cases s <;> simp [startsWs]
    have hend : endsWs (d :: s) = if s = [] then isWs d else endsWs s := by
      unfold endsWs
      cases hs : s.reverse with
      | nil => simp at hs; simp [hs, startsWs]
      | cons x t =>
        have : s ≠ [] := by intro h; simp [h] at hs
        simp [hs, this, startsWs]
    rw [List.cons_append, collapseWs, ih, hst, hend]
    by_cases hs : s = []
    · subst hs
      by_cases hc : isWs c = true <;> by_cases hd : isWs d = true <;>
        simp_all [collapseWs, startsWs, endsWs]
    · by_cases hc : isWs c = true <;> by_cases hd : isWs d = true <;>
        by_cases h1 : startsWs s = true <;> by_cases h2 : endsWs s = true <;>
        simp_all [collapseWs]

theorem endsWs_collapseWs (s : List Nat) : endsWs (collapseWs s) = endsWs s := by
  generalize hn : s.length = n
  induction n generalizing s with
  | zero => simp at hn; subst hn; rfl
  | succ n ih' =>
    rcases List.eq_nil_or_concat s with rfl | ⟨t, c, rfl⟩
    · rfl
    rw [List.concat_eq_append] at hn ⊢
    have ih := ih' t (by simp at hn; omega)
    revert ih; generalize t = s; intro ih
    have hE : ∀ (t : List Nat) (x : Nat), endsWs (t ++ [x]) = isWs x := by
      intro t x; simp [endsWs, startsWs]
    rw [collapseWs_snoc, hE]
    by_cases hc : isWs c = true
    · by_cases he : endsWs s = true
      · simp [hc, he, ih]
      · simp only [Bool.not_eq_true] at he
        simp [hc, he, hE]; decide
    · simp only [Bool.not_eq_true] at hc
      simp [hc, hE]

theorem endsWs_trimEnd (s : List Nat) : endsWs (trimEnd s) = false := by
  simp [endsWs, trimEnd, startsWs_dropWhile]

theorem startsWs_trimWs (s : List Nat) : startsWs (trimWs s) = false := by
  unfold trimWs
  have h0 := startsWs_dropWhile s
  change startsWs (trimStart s) = false at h0
  generalize trimStart s = t at h0
  by_cases ht : allWs t = true
  · rw [trimEnd_allWs t ht]; rfl
  · simp only [Bool.not_eq_true] at ht
    -- `t` starts with a non-white-space character, which `trimEnd` keeps
    cases t with
    | nil => rfl
    | cons c r =>
      simp [startsWs] at h0
      by_cases hr : allWs r = true
      · have : trimEnd (c :: r) = [c] := by
          have := trimEnd_append_allWs [c] r hr
          simp at this; rw [this]; simp [trimEnd, h0]
        rw [this]; simp [startsWs, h0]
      · simp only [Bool.not_eq_true] at hr
        have := trimEnd_append_of_not_all [c] r hr
        simp at this; rw [this]; simp [startsWs, h0]

theorem trimWs_fixed (s : List Nat) (h₁ : startsWs s = false) (h₂ : endsWs s = false) :
    trimWs s = s := by
  unfold trimWs; rw [trimStart_of_not_startsWs s h₁, trimEnd_of_not_endsWs s h₂]

/-- the white-space normal form is a fixed point of white-space normalisation -/
theorem wsNorm_idem (s : List Nat) : wsNorm (wsNorm s) = wsNorm s := by
  unfold wsNorm
  rw [trimWs_fixed (collapseWs (trimWs s))
    (by rw [startsWs_collapseWs, startsWs_trimWs]) (by rw [endsWs_collapseWs]; exact endsWs_trimEnd _),
    collapseWs_idem]

/-! ## case -/

/-- A character map respects the white-space structure: it fixes white-space characters and sends
every other character to a NON-EMPTY string without white space.  (True of both `char::to_lowercase`
and `char::to_uppercase`, see `table_compat_lower` / `table_compat_upper`.) -/
structure WsCompat (f : Nat → List Nat) : Prop where
  ws : ∀ c, isWs c = true → f c = [c]
  nonws : ∀ c, isWs c = false → f c ≠ [] ∧ ∀ d ∈ f c, isWs d = false

theorem WsCompat.reverse {f : Nat → List Nat} (hf : WsCompat f) :
    WsCompat (List.reverse ∘ f) where
  ws c hc := by simp [hf.ws c hc]
  nonws c hc := by
    obtain ⟨h1, h2⟩ := hf.nonws c hc
    exact ⟨by simpa using h1, by intro d hd; exact h2 d (by simpa using hd)⟩

theorem dropWhile_flatMap {f : Nat → List Nat} (hf : WsCompat f) (s : List Nat) :
    (s.flatMap f).dropWhile isWs = (s.dropWhile isWs).flatMap f := by
  induction s with
  | nil => rfl
  | cons c r ih =>
    by_cases hc : isWs c = true
    · simp [List.flatMap_cons, hf.ws c hc, List.dropWhile, hc, ih]
    · simp only [Bool.not_eq_true] at hc
      obtain ⟨h1, h2⟩ := hf.nonws c hc
      rw [List.flatMap_cons]
      cases hfc : f c with
      | nil => exact absurd hfc h1
      | cons d ds =>
        have hd : isWs d = false := h2 d (by simp [hfc])
        simp [List.dropWhile, hd, hc, hfc]

theorem trimEnd_flatMap {f : Nat → List Nat} (hf : WsCompat f) (s : List Nat) :
    trimEnd (s.flatMap f) = (trimEnd s).flatMap f := by
  unfold trimEnd
  rw [List.reverse_flatMap, dropWhile_flatMap hf.reverse, List.reverse_flatMap]
  simp [Function.comp_def]

theorem startsWs_flatMap {f : Nat → List Nat} (hf : WsCompat f) (s : List Nat) :
    startsWs (s.flatMap f) = startsWs s := by
  cases s with
  | nil => rfl
  | cons c r =>
    by_cases hc : isWs c = true
    · simp [List.flatMap_cons, hf.ws c hc, startsWs, hc]
    · simp only [Bool.not_eq_true] at hc
      obtain ⟨h1, h2⟩ := hf.nonws c hc
      rw [List.flatMap_cons]
      cases hfc : f c with
      | nil => exact absurd hfc h1
      | cons d ds =>
        have hd : isWs d = false := h2 d (by simp [hfc])
        simp [startsWs, hd, hc]

theorem collapseWs_nonws_append (x y : List Nat) (hx : ∀ d ∈ x, isWs d = false) :
    collapseWs (x ++ y) = x ++ collapseWs y := by
  induction x with
  | nil => rfl
  | cons d x ih =>
    rw [List.cons_append, collapseWs_nonws d _ (hx d (by simp)), ih (fun e he => hx e (by simp [he]))]
    rfl

theorem collapseWs_flatMap {f : Nat → List Nat} (hf : WsCompat f) (s : List Nat) :
    collapseWs (s.flatMap f) = (collapseWs s).flatMap f := by
  induction s with
  | nil => rfl
  | cons c r ih =>
    have h32 : f 32 = [32] := hf.ws 32 (by decide)
    by_cases hc : isWs c = true
    · rw [List.flatMap_cons, hf.ws c hc]
      simp only [List.singleton_append]
      rw [collapseWs, collapseWs]
      simp only [hc, if_true, startsWs_flatMap hf r]
      by_cases hr : startsWs r = true
      · simp [hr, ih]
      · simp only [Bool.not_eq_true] at hr
        simp [hr, ih, List.flatMap_cons, h32]
    · simp only [Bool.not_eq_true] at hc
      obtain ⟨_, h2⟩ := hf.nonws c hc
      rw [List.flatMap_cons, collapseWs_nonws_append _ _ h2, ih, collapseWs_nonws c r hc,
        List.flatMap_cons]

theorem wsNorm_flatMap {f : Nat → List Nat} (hf : WsCompat f) (s : List Nat) :
    wsNorm (s.flatMap f) = (wsNorm s).flatMap f := by
  unfold wsNorm trimWs trimStart
  rw [dropWhile_flatMap hf, trimEnd_flatMap hf, collapseWs_flatMap hf]

theorem upperStr_append (U : Nat → List Nat) (a b : List Nat) :
    upperStr U (a ++ b) = upperStr U a ++ upperStr U b := by simp [upperStr]

theorem lowerStr_append (L : Nat → List Nat) (a b : List Nat) :
    lowerStr L (a ++ b) = lowerStr L a ++ lowerStr L b := by simp [lowerStr]

/-- a per-character identity `up (low (f c)) = up (low [c])` lifts to strings -/
theorem upper_lower_flatMap (L U f : Nat → List Nat)
    (hc : ∀ c, upperStr U (lowerStr L (f c)) = upperStr U (L c)) (s : List Nat) :
    upperStr U (lowerStr L (s.flatMap f)) = upperStr U (lowerStr L s) := by
  induction s with
  | nil => rfl
  | cons c r ih =>
    rw [List.flatMap_cons, lowerStr_append, upperStr_append, hc, ih]
    simp [lowerStr, upperStr]

/-- **C13 (case, general form).** Re-spelling every character `c` of a label by any string `f c` that
the tables identify with `c` does not change the normal form. -/
theorem norm_flatMap (L U f : Nat → List Nat) (hf : WsCompat f)
    (hc : ∀ c, upperStr U (lowerStr L (f c)) = upperStr U (L c)) (s : List Nat) :
    normalize L U (s.flatMap f) = normalize L U s := by
  rw [normalize_eq, normalize_eq, wsNorm_flatMap hf, upper_lower_flatMap L U f hc]

/-- The closure conditions on a pair of case tables under which `upper ∘ lower` is a case fold. -/
structure Closure (L U : Nat → List Nat) : Prop where
  compatL : WsCompat L
  compatU : WsCompat U
  /-- lower-casing the lower-cased spelling changes nothing that upper-casing can see -/
  lower : ∀ c, upperStr U (lowerStr L (L c)) = upperStr U (L c)
  /-- the upper-cased spelling lower-cases to something that upper-cases like the lower-cased one -/
  upper : ∀ c, upperStr U (lowerStr L (U c)) = upperStr U (L c)

/-- **C13 (case).** The lower-cased spelling of a label has the same normal form. -/
theorem norm_case_invariant_lower {L U : Nat → List Nat} (h : Closure L U) (s : List Nat) :
    normalize L U (lowerStr L s) = normalize L U s :=
  norm_flatMap L U L h.compatL h.lower s

/-- **C13 (case).** The upper-cased spelling of a label has the same normal form. -/
theorem norm_case_invariant_upper {L U : Nat → List Nat} (h : Closure L U) (s : List Nat) :
    normalize L U (upperStr U s) = normalize L U s :=
  norm_flatMap L U U h.compatU h.upper s

/-- **C13 (case, mixed).** Every character may independently be kept, lower-cased or upper-cased. -/
theorem norm_case_invariant_mixed {L U : Nat → List Nat} (h : Closure L U) (f : Nat → List Nat)
    (hf : ∀ c, f c = [c] ∨ f c = L c ∨ f c = U c) (s : List Nat) :
    normalize L U (s.flatMap f) = normalize L U s := by
  have hid : WsCompat (fun c => [c]) := ⟨fun _ _ => rfl, fun c hc => ⟨by simp, by simp [hc]⟩⟩
  apply norm_flatMap
  · constructor
    · intro c hc
      rcases hf c with h' | h' | h' <;> rw [h']
      · exact h.compatL.ws c hc
      · exact h.compatU.ws c hc
    · intro c hc
      rcases hf c with h' | h' | h' <;> rw [h']
      · exact hid.nonws c hc
      · exact h.compatL.nonws c hc
      · exact h.compatU.nonws c hc
  · intro c
    rcases hf c with h' | h' | h' <;> rw [h']
    · simp [lowerStr]
    · exact h.lower c
    · exact h.upper c

/-- **The normal form is a fixed point** — needed because `ReferenceScanner` stores
`ReferenceMapKey::new(normalize_reference(label))`, i.e. normalises definitions TWICE while uses are
normalised once. -/
theorem normalize_idem {L U : Nat → List Nat} (h : Closure L U) (s : List Nat) :
    normalize L U (normalize L U s) = normalize L U s := by
  have h1 : normalize L U (normalize L U s) = normalize L U (lowerStr L (wsNorm s)) :=
    norm_case_invariant_upper h _
  have h2 := norm_case_invariant_lower h (wsNorm s)
  rw [h1, h2, normalize_eq, normalize_eq, wsNorm_idem]

/-! ### final sigma -/

/-- final sigma ↦ sigma -/
def sig (c : Nat) : Nat := if c = 0x3C2 then 0x3C3 else c

/-- **Final sigma is irrelevant.** Two lower-cased strings that differ only in the choice between σ
(U+03C3) and ς (U+03C2) — in particular Rust's contextual `str::to_lowercase` and the per-character
`lowerStr` — upper-case to the same string, as soon as the table has `U ς = U σ`. -/
theorem sigma_irrelevant (U : Nat → List Nat) (hU : U 0x3C2 = U 0x3C3) (t x : List Nat)
    (h : t.map sig = x.map sig) : upperStr U t = upperStr U x := by
  have key : ∀ y : List Nat, upperStr U y = upperStr U (y.map sig) := by
    intro y
    induction y with
    | nil => rfl
    | cons c r ih =>
      have : U (sig c) = U c := by
        unfold sig; split
        · next hc => rw [hc, hU]
        · rfl
      simp only [upperStr] at ih ⊢
      simp [List.flatMap_cons, this, ih]
  rw [key t, key x, h]

/-- a label spelled with ς where another has σ has the same normal form -/
theorem norm_sigma (L U : Nat → List Nat) (hws : isWs 0x3C2 = false)
    (h : upperStr U (L 0x3C3) = upperStr U (L 0x3C2)) (s : List Nat) :
    normalize L U (s.map sig) = normalize L U s := by
  have hm : s.map sig = s.flatMap (fun c => [sig c]) := by
    induction s with
    | nil => rfl
    | cons c r ih => simp [List.flatMap_cons, ih]
  rw [hm]
  apply norm_flatMap
  · constructor
    · intro c hc
      have : c ≠ 0x3C2 := by intro h'; rw [h'] at hc; simp [hws] at hc
      simp [sig, this]
    · intro c hc
      refine ⟨by simp, ?_⟩
      intro d hd
      simp at hd; subst hd
      unfold sig; split
      · decide
      · exact hc
  · intro c
    unfold sig; split
    · next hc => subst hc; simpa [lowerStr] using h
    · simp [lowerStr]

/-! ## the map: first definition wins -/

theorem get_insertFirst (m : RefMap) (k : List Nat) (e : Entry) (k' : List Nat) :
    (insertFirst m k e).get k' = (m.get k').or (if k' = k then some e else none) := by
  unfold insertFirst
  cases h : m.get k with
  | some x =>
    by_cases hk : k' = k
    · subst hk; simp [h]
    · simp [hk]
  | none =>
    simp only [RefMap.get, List.lookup_append]
    by_cases hk : k' = k
    · subst hk; simp [List.lookup]
    · have : (k' == k) = false := by simpa using hk
      simp [List.lookup, this, hk]

/-- is `d` an accepted definition whose STORED key (normalised twice) is `k` -/
def defHasKey (N : List Nat → List Nat) (k : List Nat) (d : Def) : Bool :=
  !(N d.label).isEmpty && N (N d.label) == k

theorem get_addDef (N : List Nat → List Nat) (m : RefMap) (d : Def) (k : List Nat) :
    (addDef N m d).get k = (m.get k).or (if defHasKey N k d then some d.entry else none) := by
  unfold addDef defHasKey
  by_cases he : (N d.label).isEmpty = true
  · simp [he]
  · simp only [Bool.not_eq_true] at he
    simp only [he, Bool.false_eq_true, if_false, get_insertFirst, Bool.not_false, Bool.true_and,
      beq_iff_eq]
    by_cases hk : k = N (N d.label)
    · simp [hk]
    · have : ¬ N (N d.label) = k := fun h => hk h.symm
      simp [hk, this]

theorem get_foldl_addDef (N : List Nat → List Nat) (defs : List Def) (m : RefMap) (k : List Nat) :
    (defs.foldl (addDef N) m).get k
      = (m.get k).or ((defs.find? (defHasKey N k)).map (·.entry)) := by
  induction defs generalizing m with
  | nil => simp
  | cons d r ih =>
    rw [List.foldl_cons, ih, get_addDef, List.find?_cons]
    by_cases hd : defHasKey N k d = true
    · simp [hd]
    · simp only [Bool.not_eq_true] at hd
      simp [hd]

/-- **C13 (first wins), as the code computes it** — no assumption on `N`.  The stored key is
`N (N label)` (definitions are normalised twice), the lookup key `N l`. -/
theorem first_wins_raw (N : List Nat → List Nat) (defs : List Def) (l : List Nat) :
    lookup N (buildMap N defs) l = (defs.find? (defHasKey N (N l))).map (·.entry) := by
  unfold lookup buildMap
  rw [get_foldl_addDef]
  simp [RefMap.get, List.lookup]

/-- does the (non-empty) normal form of `d`'s label equal that of `l` -/
def labelMatches (N : List Nat → List Nat) (l : List Nat) (d : Def) : Bool :=
  !(N d.label).isEmpty && N d.label == N l

/-- **C13 (first wins).** For every idempotent normalisation `N`: a use with label `l` gets the entry
of the FIRST definition in document order whose label has a non-empty normal form equal to that of
`l`, and nothing if there is no such definition. -/
theorem first_wins (N : List Nat → List Nat) (hN : ∀ s, N (N s) = N s) (defs : List Def)
    (l : List Nat) :
    lookup N (buildMap N defs) l = (defs.find? (labelMatches N l)).map (·.entry) := by
  rw [first_wins_raw]
  have : defHasKey N (N l) = labelMatches N l := by
    funext d; simp [defHasKey, labelMatches, hN]
  rw [this]

/-- **C13 (resolves exactly when a matching definition exists)** — anywhere in the list of
definitions, i.e. before or after the use: the map is complete before any lookup. -/
theorem resolves_iff (N : List Nat → List Nat) (hN : ∀ s, N (N s) = N s) (defs : List Def)
    (l : List Nat) :
    (lookup N (buildMap N defs) l).isSome = true ↔ ∃ d ∈ defs, N d.label ≠ [] ∧ N d.label = N l := by
  rw [first_wins N hN]
  simp [labelMatches, List.find?_isSome]

/-- definitions whose label normalises to the empty string are not definitions at all -/
theorem empty_label_rejected (N : List Nat → List Nat) (m : RefMap) (d : Def)
    (h : N d.label = []) : addDef N m d = m := by
  simp [addDef, h]

/-- a later definition never changes what an earlier matching one supplies -/
theorem later_defs_irrelevant (N : List Nat → List Nat) (hN : ∀ s, N (N s) = N s)
    (defs more : List Def) (l : List Nat) (e : Entry)
    (h : lookup N (buildMap N defs) l = some e) :
    lookup N (buildMap N (defs ++ more)) l = some e := by
  rw [first_wins N hN] at h ⊢
  rw [List.find?_append]
  cases hf : defs.find? (labelMatches N l) with
  | none => simp [hf] at h
  | some d => simpa [hf] using h

/-- label selection of `parse_link` -/
theorem selectLabel_spec (text : List Nat) :
    selectLabel text none = text ∧ selectLabel text (some []) = text ∧
    ∀ l, l ≠ [] → selectLabel text (some l) = l := by
  refine ⟨rfl, rfl, ?_⟩
  intro l hl
  cases l with
  | nil => exact absurd rfl hl
  | cons c r => rfl

/-- **C13 for the three forms of use**: shortcut `[text]`, collapsed `[text][]`, full `[text][label]` -/
theorem resolve_forms (N : List Nat → List Nat) (hN : ∀ s, N (N s) = N s) (defs : List Def)
    (text l : List Nat) (hl : l ≠ []) :
    resolve N (buildMap N defs) text none = (defs.find? (labelMatches N text)).map (·.entry) ∧
    resolve N (buildMap N defs) text (some []) = (defs.find? (labelMatches N text)).map (·.entry) ∧
    resolve N (buildMap N defs) text (some l) = (defs.find? (labelMatches N l)).map (·.entry) := by
  obtain ⟨h1, h2, h3⟩ := selectLabel_spec text
  refine ⟨?_, ?_, ?_⟩ <;> unfold resolve
  · rw [h1, first_wins N hN]
  · rw [h2, first_wins N hN]
  · rw [h3 l hl, first_wins N hN]

/-- non-vacuity of `first_wins` with a toy normalisation (ASCII upper-casing of `a`): three
definitions, the second and third match, the second wins -/
example :
    let N : List Nat → List Nat := fun s => s.map (fun c => if c = 97 then 65 else c)
    lookup N (buildMap N [⟨[98], ⟨[1], none⟩⟩, ⟨[65], ⟨[2], none⟩⟩, ⟨[97], ⟨[3], none⟩⟩, ⟨[], ⟨[4], none⟩⟩]) [97]
      = some ⟨[2], none⟩ := by decide

/-! ## the generated tables -/

/-- `char::to_lowercase` of the linked std -/
def Lt : Nat → List Nat := tableMap MdIt.Gen.Unicode.lowerTable
/-- `char::to_uppercase` of the linked std -/
def Ut : Nat → List Nat := tableMap MdIt.Gen.Unicode.upperTable
/-- `normalize_reference` over the generated tables -/
def Nt : List Nat → List Nat := normalize Lt Ut

theorem lookup_mem (t : List (Nat × List Nat)) (c : Nat) (v : List Nat)
    (h : t.lookup c = some v) : (c, v) ∈ t := by
  induction t with
  | nil => simp [List.lookup] at h
  | cons r t ih =>
    obtain ⟨k, w⟩ := r
    by_cases hk : c = k
    · subst hk; simp [List.lookup] at h; simp [h]
    · have : (c == k) = false := by simpa using hk
      simp [List.lookup, this] at h
      exact List.mem_cons_of_mem _ (ih h)

/-- **Rows not in a table are the identity**, so a per-character condition on `tableMap t` reduces to
the identity case (for characters without a row) plus a check of the table rows. -/
theorem tableMap_forall (t : List (Nat × List Nat)) (P : Nat → List Nat → Prop)
    (hid : ∀ c, t.lookup c = none → P c [c]) (hrows : ∀ r ∈ t, P r.1 r.2) :
    ∀ c, P c (tableMap t c) := by
  intro c
  unfold tableMap
  cases h : t.lookup c with
  | none => exact hid c h
  | some v => exact hrows (c, v) (lookup_mem t c v h)

/-! ### a faster evaluator for the kernel

`List.lookup` over a 1 500-row table costs the kernel ~1 500 steps per character.  The generated
tables come in 64-row chunks sorted by code point; `chunkedLookup` first selects the chunk by its last
key.  `chunkedLookup_eq` proves it equal to the linear lookup for every "banded" list of chunks, and
`bandedB` is checked by the kernel for the two tables. -/

def look : List (Nat × List Nat) → Nat → Option (List Nat)
  | [], _ => none
  | (k, v) :: t, c => bif Nat.beq c k then some v else look t c

def chunkedLookup : List (Nat × List (Nat × List Nat)) → Nat → Option (List Nat)
  | [], _ => none
  | (b, ch) :: rest, c => bif Nat.ble c b then look ch c else chunkedLookup rest c

def fastMap (bands : List (Nat × List (Nat × List Nat))) (c : Nat) : List Nat :=
  match chunkedLookup bands c with
  | some v => v
  | none => [c]

/-- every key of a chunk lies in `[lo, b]`, and the next chunk starts above `b` -/
def bandedB (lo : Nat) : List (Nat × List (Nat × List Nat)) → Bool
  | [] => true
  | (b, ch) :: rest => Nat.ble lo (b + 1) && ch.all (fun r => Nat.ble lo r.1 && Nat.ble r.1 b) && bandedB (b + 1) rest

theorem look_eq (t : List (Nat × List Nat)) (c : Nat) : look t c = t.lookup c := by
  induction t with
  | nil => rfl
  | cons r t ih =>
    obtain ⟨k, v⟩ := r
    by_cases hk : c = k
    · subst hk; simp [look, List.lookup]
    · have h1 : Nat.beq c k = false := by
        cases h : Nat.beq c k with
        | false => rfl
        | true => exact absurd (Nat.eq_of_beq_eq_true h) hk
      have h2 : (c == k) = false := by simpa using hk
      simp [look, List.lookup, h1, h2, ih]

theorem lookup_none_of_keys (t : List (Nat × List Nat)) (c : Nat) (h : ∀ r ∈ t, r.1 ≠ c) :
    t.lookup c = none := by
  induction t with
  | nil => rfl
  | cons r t ih =>
    obtain ⟨k, v⟩ := r
    have hk : (c == k) = false := by
      have := h (k, v) (by simp); simpa using fun h' => this h'.symm
    simp only [List.lookup, hk]
    exact ih (fun r hr => h r (by simp [hr]))

theorem banded_keys_ge (lo : Nat) (bands : List (Nat × List (Nat × List Nat)))
    (h : bandedB lo bands = true) : ∀ r ∈ (bands.map (·.2)).flatten, lo ≤ r.1 := by
  induction bands generalizing lo with
  | nil => simp
  | cons x rest ih =>
    obtain ⟨b, ch⟩ := x
    simp only [bandedB, Bool.and_eq_true, List.all_eq_true, Nat.ble_eq] at h
    obtain ⟨⟨hlo, hch⟩, hrest⟩ := h
    intro r hr
    simp only [List.map_cons, List.flatten_cons, List.mem_append] at hr
    rcases hr with hr | hr
    · exact (hch r hr).1
    · have := ih (b + 1) hrest r hr
      omega

theorem chunkedLookup_eq (lo : Nat) (bands : List (Nat × List (Nat × List Nat)))
    (h : bandedB lo bands = true) (c : Nat) :
    chunkedLookup bands c = (bands.map (·.2)).flatten.lookup c := by
  induction bands generalizing lo with
  | nil => rfl
  | cons x rest ih =>
    obtain ⟨b, ch⟩ := x
    have h' := h
    simp only [bandedB, Bool.and_eq_true, List.all_eq_true, Nat.ble_eq] at h'
    obtain ⟨⟨_, hch⟩, hrest⟩ := h'
    simp only [chunkedLookup, List.map_cons, List.flatten_cons, List.lookup_append]
    by_cases hc : c ≤ b
    · have hb : Nat.ble c b = true := by simpa using hc
      have hnone : (rest.map (·.2)).flatten.lookup c = none := by
        apply lookup_none_of_keys
        intro r hr
        have := banded_keys_ge (b + 1) rest hrest r hr
        omega
      simp [hb, look_eq, hnone]
    · have hb : Nat.ble c b = false := by
        cases hx : Nat.ble c b with
        | false => rfl
        | true => exact absurd (Nat.le_of_ble_eq_true hx) hc
      have hnone : ch.lookup c = none := by
        apply lookup_none_of_keys
        intro r hr
        have := (hch r hr).2
        omega
      simp [hb, hnone, ih (b + 1) hrest]

theorem fastMap_eq (lo : Nat) (bands : List (Nat × List (Nat × List Nat)))
    (h : bandedB lo bands = true) :
    fastMap bands = tableMap (bands.map (·.2)).flatten := by
  funext c
  unfold fastMap tableMap
  rw [chunkedLookup_eq lo bands h]
  cases List.lookup c (bands.map (·.2)).flatten <;> rfl

/- the chunks of the generated tables with the last key of each (GENERATED from `Gen/Unicode.lean`
by reading off the last row of every chunk; `lowerBands_chunks` / `lowerBands_banded` check it) -/
def lowerBands : List (Nat × List (Nat × List Nat)) := [
  (270, MdIt.Gen.Unicode.lowerTable_0),
  (398, MdIt.Gen.Unicode.lowerTable_1),
  (520, MdIt.Gen.Unicode.lowerTable_2),
  (932, MdIt.Gen.Unicode.lowerTable_3),
  (1060, MdIt.Gen.Unicode.lowerTable_4),
  (1232, MdIt.Gen.Unicode.lowerTable_5),
  (1345, MdIt.Gen.Unicode.lowerTable_6),
  (5026, MdIt.Gen.Unicode.lowerTable_7),
  (5090, MdIt.Gen.Unicode.lowerTable_8),
  (7357, MdIt.Gen.Unicode.lowerTable_9),
  (7802, MdIt.Gen.Unicode.lowerTable_10),
  (7945, MdIt.Gen.Unicode.lowerTable_11),
  (8105, MdIt.Gen.Unicode.lowerTable_12),
  (9410, MdIt.Gen.Unicode.lowerTable_13),
  (11363, MdIt.Gen.Unicode.lowerTable_14),
  (11501, MdIt.Gen.Unicode.lowerTable_15),
  (42838, MdIt.Gen.Unicode.lowerTable_16),
  (42968, MdIt.Gen.Unicode.lowerTable_17),
  (66594, MdIt.Gen.Unicode.lowerTable_18),
  (66951, MdIt.Gen.Unicode.lowerTable_19),
  (68944, MdIt.Gen.Unicode.lowerTable_20),
  (93770, MdIt.Gen.Unicode.lowerTable_21),
  (125201, MdIt.Gen.Unicode.lowerTable_22),
  (125217, MdIt.Gen.Unicode.lowerTable_23)]

def upperBands : List (Nat × List (Nat × List Nat)) := [
  (265, MdIt.Gen.Unicode.upperTable_0),
  (396, MdIt.Gen.Unicode.upperTable_1),
  (541, MdIt.Gen.Unicode.upperTable_2),
  (893, MdIt.Gen.Unicode.upperTable_3),
  (1075, MdIt.Gen.Unicode.upperTable_4),
  (1167, MdIt.Gen.Unicode.upperTable_5),
  (1295, MdIt.Gen.Unicode.upperTable_6),
  (4312, MdIt.Gen.Unicode.upperTable_7),
  (7695, MdIt.Gen.Unicode.upperTable_8),
  (7823, MdIt.Gen.Unicode.upperTable_9),
  (7942, MdIt.Gen.Unicode.upperTable_10),
  (8068, MdIt.Gen.Unicode.upperTable_11),
  (8151, MdIt.Gen.Unicode.upperTable_12),
  (11317, MdIt.Gen.Unicode.upperTable_13),
  (11419, MdIt.Gen.Unicode.upperTable_14),
  (11544, MdIt.Gen.Unicode.upperTable_15),
  (42811, MdIt.Gen.Unicode.upperTable_16),
  (42969, MdIt.Gen.Unicode.upperTable_17),
  (43948, MdIt.Gen.Unicode.upperTable_18),
  (66606, MdIt.Gen.Unicode.upperTable_19),
  (66806, MdIt.Gen.Unicode.upperTable_20),
  (68823, MdIt.Gen.Unicode.upperTable_21),
  (71886, MdIt.Gen.Unicode.upperTable_22),
  (93897, MdIt.Gen.Unicode.upperTable_23),
  (125251, MdIt.Gen.Unicode.upperTable_24)]

theorem lowerBands_chunks : lowerBands.map (·.2) = MdIt.Gen.Unicode.lowerTableChunks := rfl
theorem upperBands_chunks : upperBands.map (·.2) = MdIt.Gen.Unicode.upperTableChunks := rfl
theorem lowerBands_banded : bandedB 0 lowerBands = true := by decide +kernel
theorem upperBands_banded : bandedB 0 upperBands = true := by decide +kernel

def LtF : Nat → List Nat := fastMap lowerBands
def UtF : Nat → List Nat := fastMap upperBands

theorem LtF_eq : LtF = Lt := by
  unfold LtF Lt
  rw [fastMap_eq 0 lowerBands lowerBands_banded, lowerBands_chunks]; rfl

theorem UtF_eq : UtF = Ut := by
  unfold UtF Ut
  rw [fastMap_eq 0 upperBands upperBands_banded, upperBands_chunks]; rfl

/-- the kernel evaluates `Nt` through the chunked tables -/
theorem Nt_fast (s : List Nat) : Nt s = normalize LtF UtF s := by rw [LtF_eq, UtF_eq]; rfl

/-! ### row checks

A function defined by structural recursion reaches the kernel as `brecOn`, and `≤` / `==` on `Nat` as
`decide` of a proposition; unfolding those costs the kernel several times what the comparison itself
does.  The row checks therefore run on copies of `isWs` and `fastMap` written with the recursors and
`Nat.ble` / `Nat.beq` directly (one ι-step per list cell), proved equal to the originals. -/

def isWsK (c : Nat) : Bool :=
  (Nat.ble 9 c && Nat.ble c 13) || Nat.beq c 32 || Nat.beq c 133 || Nat.beq c 160 || Nat.beq c 5760 ||
  (Nat.ble 8192 c && Nat.ble c 8202) || Nat.beq c 8232 || Nat.beq c 8233 || Nat.beq c 8239 ||
  Nat.beq c 8287 || Nat.beq c 12288

theorem isWsK_eq (c : Nat) : isWsK c = isWs c := by
  rw [Bool.eq_iff_iff]
  simp only [isWsK, isWs, Bool.or_eq_true, Bool.and_eq_true, Nat.ble_eq, Nat.beq_eq,
    decide_eq_true_eq, beq_iff_eq]

noncomputable def lookK (c : Nat) (t : List (Nat × List Nat)) : Option (List Nat) :=
  List.rec none (fun r _ ih => Bool.rec (motive := fun _ => Option (List Nat)) ih (some r.2) (Nat.beq c r.1)) t

noncomputable def chunkedK (c : Nat) (bands : List (Nat × List (Nat × List Nat))) :
    Option (List Nat) :=
  List.rec none
    (fun x _ ih => Bool.rec (motive := fun _ => Option (List Nat)) ih (lookK c x.2) (Nat.ble c x.1)) bands

noncomputable def mapK (bands : List (Nat × List (Nat × List Nat))) (c : Nat) : List Nat :=
  (chunkedK c bands).getD [c]

theorem lookK_eq (c : Nat) (t : List (Nat × List Nat)) : lookK c t = look t c := by
  induction t with
  | nil => rfl
  | cons r t ih =>
    show (Bool.rec (lookK c t) (some r.2) (Nat.beq c r.1) : Option (List Nat)) = _
    rw [ih, look]; cases Nat.beq c r.1 <;> rfl

theorem chunkedK_eq (c : Nat) (bands : List (Nat × List (Nat × List Nat))) :
    chunkedK c bands = chunkedLookup bands c := by
  induction bands with
  | nil => rfl
  | cons x rest ih =>
    show (Bool.rec (chunkedK c rest) (lookK c x.2) (Nat.ble c x.1) : Option (List Nat)) = _
    rw [ih, lookK_eq, chunkedLookup]; cases Nat.ble c x.1 <;> rfl

theorem mapK_eq (bands : List (Nat × List (Nat × List Nat))) : mapK bands = fastMap bands := by
  funext c
  unfold mapK fastMap
  rw [chunkedK_eq]; cases chunkedLookup bands c <;> rfl

/-- white-space compatibility of a row -/
def rowCompat (r : Nat × List Nat) : Bool :=
  !isWsK r.1 && !r.2.isEmpty && r.2.all (fun d => !isWsK d)

/-- closure condition `lower` for the row `c ↦ v` of the lower-case table: `up (low v) = up v` -/
def rowLower (L U : Nat → List Nat) (r : Nat × List Nat) : Bool :=
  let lv := lowerStr L r.2
  lv == r.2 || upperStr U lv == upperStr U r.2

/-- closure condition `upper` for the row `c ↦ v` of the upper-case table: `up (low v) = up (L c)` -/
def rowUpper (L U : Nat → List Nat) (r : Nat × List Nat) : Bool :=
  let lv := lowerStr L r.2
  let lc := L r.1
  lv == lc || upperStr U lv == upperStr U lc

/-- the two checks over the chunked tables (runnable); the kernel runs them over `mapK` (`rowF_K`) -/
def rowLowerF : Nat × List Nat → Bool := rowLower LtF UtF
def rowUpperF : Nat × List Nat → Bool := rowUpper LtF UtF

theorem rowF_K : rowLowerF = rowLower (mapK lowerBands) (mapK upperBands) ∧
    rowUpperF = rowUpper (mapK lowerBands) (mapK upperBands) := by
  rw [mapK_eq, mapK_eq]; exact ⟨rfl, rfl⟩

theorem rowLowerF_spec (r : Nat × List Nat) (h : rowLowerF r = true) :
    upperStr Ut (lowerStr Lt r.2) = upperStr Ut r.2 := by
  simp only [rowLowerF, rowLower, LtF_eq, UtF_eq, Bool.or_eq_true, beq_iff_eq] at h
  rcases h with h | h
  · rw [h]
  · exact h

theorem rowUpperF_spec (r : Nat × List Nat) (h : rowUpperF r = true) :
    upperStr Ut (lowerStr Lt r.2) = upperStr Ut (Lt r.1) := by
  simp only [rowUpperF, rowUpper, LtF_eq, UtF_eq, Bool.or_eq_true, beq_iff_eq] at h
  rcases h with h | h
  · rw [h]
  · exact h

theorem lowerCompat_rows : MdIt.Gen.Unicode.lowerTable.all rowCompat = true := by decide +kernel
theorem upperCompat_rows : MdIt.Gen.Unicode.upperTable.all rowCompat = true := by decide +kernel

theorem lowerRows : MdIt.Gen.Unicode.lowerTable.all rowLowerF = true := by rw [rowF_K.1]; decide +kernel
theorem upperRows : MdIt.Gen.Unicode.upperTable.all rowUpperF = true := by rw [rowF_K.2]; decide +kernel

/-! ### the closure conditions hold for the tables of the linked std -/

theorem table_compat (t : List (Nat × List Nat)) (h : t.all rowCompat = true) :
    WsCompat (tableMap t) := by
  have key := tableMap_forall t
    (fun c v => (isWs c = true → v = [c]) ∧ (isWs c = false → v ≠ [] ∧ ∀ d ∈ v, isWs d = false))
    (by intro c _; exact ⟨fun _ => rfl, fun hc => ⟨by simp, by simp [hc]⟩⟩)
    (by
      intro r hr
      simp only [List.all_eq_true] at h
      have := h r hr
      simp only [rowCompat, isWsK_eq, Bool.and_eq_true, Bool.not_eq_true', List.all_eq_true,
        List.isEmpty_eq_false_iff] at this
      obtain ⟨⟨h1, h2⟩, h3⟩ := this
      exact ⟨fun hc => (by rw [h1] at hc; cases hc), fun _ => ⟨h2, h3⟩⟩)
  exact ⟨fun c hc => (key c).1 hc, fun c hc => (key c).2 hc⟩

theorem table_compat_lower : WsCompat Lt := table_compat _ lowerCompat_rows
theorem table_compat_upper : WsCompat Ut := table_compat _ upperCompat_rows

/-- **closure (lower) for the generated tables**: for every scalar value `c`,
`to_upper(to_lower(to_lower(c))) = to_upper(to_lower(c))` -/
theorem table_closure_lower : ∀ c, upperStr Ut (lowerStr Lt (Lt c)) = upperStr Ut (Lt c) := by
  apply tableMap_forall MdIt.Gen.Unicode.lowerTable
    (fun _ v => upperStr Ut (lowerStr Lt v) = upperStr Ut v)
  · intro c hc
    have : Lt c = [c] := by simp [Lt, tableMap, hc]
    simp [lowerStr, this]
  · intro r hr
    exact rowLowerF_spec r (List.all_eq_true.mp lowerRows r hr)

/-- **closure (upper) for the generated tables**: for every scalar value `c`,
`to_upper(to_lower(to_upper(c))) = to_upper(to_lower(c))` -/
theorem table_closure_upper : ∀ c, upperStr Ut (lowerStr Lt (Ut c)) = upperStr Ut (Lt c) := by
  apply tableMap_forall MdIt.Gen.Unicode.upperTable
    (fun c v => upperStr Ut (lowerStr Lt v) = upperStr Ut (Lt c))
  · intro c _
    simp [lowerStr]
  · intro r hr
    exact rowUpperF_spec r (List.all_eq_true.mp upperRows r hr)

/-- the case tables of the linked Rust std satisfy every closure condition -/
theorem table_closure : Closure Lt Ut :=
  ⟨table_compat_lower, table_compat_upper, table_closure_lower, table_closure_upper⟩

/-- **C13 (case) for the real tables.** -/
theorem table_norm_case_invariant (s : List Nat) :
    Nt (lowerStr Lt s) = Nt s ∧ Nt (upperStr Ut s) = Nt s :=
  ⟨norm_case_invariant_lower table_closure s, norm_case_invariant_upper table_closure s⟩

/-- **double normalisation of definitions is harmless for the real tables** -/
theorem table_normalize_idem (s : List Nat) : Nt (Nt s) = Nt s := normalize_idem table_closure s

/-- the rows the final-sigma argument needs: Σ ↦ σ, and both sigmas upper-case to Σ -/
theorem table_sigma : Lt 0x3A3 = [0x3C3] ∧ Ut 0x3C2 = [0x3A3] ∧ Ut 0x3C3 = [0x3A3] ∧
    Lt 0x3C2 = [0x3C2] ∧ Lt 0x3C3 = [0x3C3] := by
  rw [← LtF_eq, ← UtF_eq]; decide +kernel

/-- **final sigma for the real tables**: whatever `str::to_lowercase` chooses for each Σ, the result of
`normalize_reference` is the model's -/
theorem table_sigma_irrelevant (t x : List Nat) (h : t.map sig = x.map sig) :
    upperStr Ut t = upperStr Ut x :=
  sigma_irrelevant Ut (by rw [table_sigma.2.1, table_sigma.2.2.1]) t x h

theorem table_norm_sigma (s : List Nat) : Nt (s.map sig) = Nt s :=
  norm_sigma Lt Ut (by decide)
    (by rw [table_sigma.2.2.2.1, table_sigma.2.2.2.2]; simp [upperStr, table_sigma.2.1, table_sigma.2.2.1]) s

/-- **C13 for the real tables**: first matching definition in document order, matching by `Nt` -/
theorem table_first_wins (defs : List Def) (l : List Nat) :
    lookup Nt (buildMap Nt defs) l = (defs.find? (labelMatches Nt l)).map (·.entry) :=
  first_wins Nt table_normalize_idem defs l

theorem table_resolves_iff (defs : List Def) (l : List Nat) :
    (lookup Nt (buildMap Nt defs) l).isSome = true ↔
      ∃ d ∈ defs, Nt d.label ≠ [] ∧ Nt d.label = Nt l :=
  resolves_iff Nt table_normalize_idem defs l

/-- **a use spelled with different case and different white space still resolves** -/
theorem table_resolves_variant (defs : List Def) (d : Def) (hd : d ∈ defs) (hne : Nt d.label ≠ [])
    (l l' : List Nat) (hws : WsEquiv d.label l')
    (hl : l = lowerStr Lt l' ∨ l = upperStr Ut l' ∨ l = l') :
    (lookup Nt (buildMap Nt defs) l).isSome = true := by
  rw [table_resolves_iff]
  refine ⟨d, hd, hne, ?_⟩
  have h1 : Nt d.label = Nt l' := norm_ws_invariant Lt Ut hws
  rcases hl with rfl | rfl | rfl
  · rw [h1, (table_norm_case_invariant l').1]
  · rw [h1, (table_norm_case_invariant l').2]
  · exact h1

/-! ### non-vacuity on the real tables -/

/-- ß, SS, ss, ẞ (U+1E9E) all match -/
example : Nt [0xDF] = [0x53, 0x53] ∧ Nt [0x53, 0x53] = [0x53, 0x53] ∧ Nt [0x73, 0x73] = [0x53, 0x53] ∧
    Nt [0x1E9E] = [0x53, 0x53] := by
  simp only [Nt_fast]; decide +kernel

/-- Σ, σ, ς all match -/
example : Nt [0x3A3] = [0x3A3] ∧ Nt [0x3C3] = [0x3A3] ∧ Nt [0x3C2] = [0x3A3] := by
  simp only [Nt_fast]; decide +kernel

/-- Kelvin sign U+212A, `k`, `K`; Angstrom sign U+212B, `å`, `Å`; the four thetas of the source comment -/
example : Nt [0x212A] = [0x4B] ∧ Nt [0x6B] = [0x4B] ∧ Nt [0x4B] = [0x4B] ∧
    Nt [0x212B] = Nt [0xE5] ∧ Nt [0xC5] = Nt [0xE5] ∧
    Nt [0x398, 0x3F4, 0x3B8, 0x3D1] = [0x398, 0x398, 0x398, 0x398] := by
  simp only [Nt_fast]; decide +kernel

/-- the ligature ﬃ (U+FB03) matches `FFI`; İ (U+0130) expands to `I` + U+0307;
the Turkic dotless ı (U+0131) is identified with `i` / `I` -/
example : Nt [0xFB03] = [0x46, 0x46, 0x49] ∧ Nt [0x130] = [0x49, 0x307] ∧ Nt [0x131] = Nt [0x69] := by
  simp only [Nt_fast]; decide +kernel

/-- white space and case together: `"  Foo \t\n bÄr\u{a0}"` and `"FOO\u{3000}Bär"` -/
example : Nt [32, 32, 70, 111, 111, 32, 9, 10, 32, 98, 0xC4, 114, 160]
    = Nt [70, 79, 79, 12288, 66, 0xE4, 114] := by
  simp only [Nt_fast]; decide +kernel

/-- but different letters do not match, and an all-white-space label normalises to nothing -/
example : Nt [0x61] ≠ Nt [0x62] ∧ Nt [32, 9, 160] = [] := by
  simp only [Nt_fast]; decide +kernel

end MdIt.Refs
