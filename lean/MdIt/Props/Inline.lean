/-
  The complete inline parser (html-free configurations): property theorems about the executable
  model `MdIt.Inline` (`Model/Inline.lean`), which the stream `inline` checks against the real
  parser.  Serves C16 (look-ahead vs real parsing), C01 (progress / termination of both tokenizer
  loops), C05 (inline ranges), C14 (no placeholder, text normal form), C04 (destinations).

  1. PROGRESS
     `inline_rule_progress_<rule>` (text, newline, escape, entity, backticks, autolink, emph):
        under `InlineInv` the rule does not panic and `some len ⇒ 1 ≤ len`, `pos + len ≤ posMax`
        on a character boundary.  Extra hypotheses, each shown necessary by an example:
        newline (real mode) — `TrailOK`; entity — `EntStop` (its regexes ignore `pos_max`);
        emph — single-byte marker (the delimiter matching itself: `scanAndMatch_total`,
        `Lemmas/InlineEmphTotal.lean`).
     `inline_rule_progress_link` — link / image, any `skip` / `tok` meeting their contracts;
     `inline_rule_bounds_link` — its extent is a boundary `≤ posMax` (any fuel, no hypothesis).
     `tokenize_progress` — one loop iteration (`tokStep`) strictly increases `pos` (or fails with a Rust
        panic).
     `fuel_suffices`, `parseInline_fuel` — `tokenize` never returns `Panic.fuel` with fuel
        `≥ (posMax - pos + 2) * (maxNesting - level + 1)`; the driver's `topFuel` is enough.
  2. LOOK-AHEAD
     `silent_real_<rule>` (text, newline, escape, entity, autolink, backticks, link, image):
        silent `some n` ⇒ real mode answers `some n'` with the same extent.
     `silent_rule_quiet` — a look-ahead call of ANY rule (link and image included) leaves children,
        `OpenersBottom`, pos, posMax, level, linkLevel, src, srcmap unchanged; what may change is
        the memo and the code-span cache.  `skip_token_quiet` the same for `skip_token`.  (The part
        `Frame ∧ Quiet` holds at every fuel without hypothesis: `runRule_silent_calm`, `skipToken_calm`,
        `Lemmas/InlineCalm.lean`.)
     `skip_token_memo_hit`, `skip_token_memo_entry`, `memo_level_dependent` — the memo.
  3. OUTPUT OF `finish`
     `no_placeholder_after_finish` — no `EmphMarker` at any depth, and the text normal form of C14
        at every depth: with an emphasis-like rule from `C14.join_normal_form` (`allNF_joinAllN`),
        without one from `C14.push_no_adjacent` / `pop_no_adjacent` along the run (`text_induction`).
     `link_url_from_pipeline`, `fromPipeline_safe` — every emitted url is the empty default, an
        accepted result of the inline / autolink pipeline, or a stored reference destination.
  4. RANGES
     `inline_children_ordered`, `finish_children_ordered` — ordered, non-overlapping sibling ranges
        inside `[tr pos₀, tr posEnd]` for some `posEnd`, every node well ranged (children inside parents,
        recursively), for well-formed monotone tables whose keys are line starts (`MapOK`);
        per rule: `rule<X>_ranges` (`Lemmas/InlineRanges`, `5`, `6`), emphasis: `scanAndMatch_ranges`.

  NO PANIC is elsewhere: `ruleEmph_total`, `scanAndMatch_total` (`Lemmas/InlineEmphTotal.lean`) — the delimiter
  matching does not panic; `parseInline_no_panic_flat` (`Props/InlineTotal.lean`) — the whole inline parser
  returns a tree (no Rust panic, no fuel panic) for every chain without the link / image rules.

  No panic of the WHOLE tokenizer WITH the link / image rules is `parseInline_total`
  (`Props/MemoSafe.lean`), for chains that are `ChainCoherent` and hold the link and the image rule at most once.
  What it needs beyond this file: memoised positions of `skip_token` are boundaries `≤` the CURRENT
  `posMax`, although the memo is shared between frames with different `posMax`.
  `skip_token_memo_sound` of DESIGN.md in the strong form "a memo hit equals a fresh look-ahead run
  from the current state" is FALSE in general (`memo_level_dependent`: the verdict depends on `level`);
  the form that holds is `skip_token_memo_entry`.
-/
import MdIt.Lemmas.InlineFuel
import MdIt.Lemmas.InlineVals2
import MdIt.Lemmas.InlineRanges6
import MdIt.Lemmas.InlineLinkEnd
import MdIt.Lemmas.InlineText2
import MdIt.Lemmas.InlineNoPanic
import MdIt.Lemmas.KernelEval

namespace MdIt.Inline
open MdIt.InlineOps (Srcmap getSourcePosFor getMap byteLen slice)
open MdIt.C05 (WFMap)

/-! ## 1. progress -/

/-- **Progress of one tokenizer iteration** (`tokStep`, the body of the loop of `tokenize`).  With the real
    `skip_token` / `tokenize` at fuel `f` as callees: the iteration never runs out of fuel, and when it returns, `pos` has strictly
    increased while src, srcmap, posMax, level, linkLevel are as before. -/
theorem tokenize_progress (cfg : Cfg) (f : Nat) (st : IState) (hm : MemoInv st)
    (hf : need (st.posMax - st.pos) (cfg.maxNesting - st.level) ≤ f + 1) :
    tokStep cfg (fun s => skipToken cfg f s) (fun s => tokLoop cfg f s.posMax s) f st ≠ .error .fuel ∧
    ∀ st', tokStep cfg (fun s => skipToken cfg f s) (fun s => tokLoop cfg f s.posMax s) f st = .ok st' →
      Frame st st' ∧ MemoInv st' ∧ st.pos < st'.pos := by
  have hge := need_ge (st.posMax - st.pos) (cfg.maxNesting - st.level)
  apply tokStep_spec (L := st.posMax - st.pos) f st
  · intro hlev s hms hl hp hlt hw
    have := need_ge' (st.posMax - st.pos) (d := cfg.maxNesting - st.level) (by omega)
    exact (contracts cfg f).1 s hms (by rw [hp]; exact hlt) (by rw [hp, hl]; omega)
  · intro hlev s hms hl hw
    apply (contracts cfg f).2 s hms
    rw [hl]
    have e : cfg.maxNesting - st.level = (cfg.maxNesting - (st.level + 1)) + 1 := by omega
    rw [e, need] at hf
    exact Nat.le_trans (need_mono hw _) (by omega)
  · exact hm
  · omega
  · omega

/-- **Fuel suffices.**  `tokenize` does not run out of fuel. -/
theorem fuel_suffices (cfg : Cfg) (fuel : Nat) (st : IState) (hm : MemoInv st)
    (hf : (st.posMax - st.pos + 2) * (cfg.maxNesting - st.level + 1) ≤ fuel) :
    tokenize cfg fuel st ≠ .error .fuel ∧
    ∀ st', tokenize cfg fuel st = .ok st' → Frame st st' ∧ MemoInv st' := by
  have h := (contracts cfg fuel).2 st hm (by rw [need_eq]; exact hf)
  exact ⟨h.noFuel, h.ok⟩

theorem trimSrc_le (src : List Char) : (trimSrc src).2 ≤ byteLen src := by
  unfold trimSrc; simp only; omega

/-- the fuel the driver hands to the top-level call is enough: `parseInline` never answers
    `Panic.fuel` -/
theorem parseInline_fuel (cfg : Cfg) (content : List Char) (mapping : Srcmap) :
    parseInline cfg content mapping ≠ .error .fuel := by
  have hinit : MemoInv (IState.init content mapping) := by
    intro k v h; simp [IState.init] at h
  have h := (contracts cfg (topFuel cfg content)).2 (IState.init content mapping) hinit
    (need_le_topFuel cfg content _ (by
      have := trimSrc_le content
      simp only [IState.init]; omega) _ (by omega))
  unfold parseInline tokenize
  intro hc
  split at hc
  · next e he => simp only [Except.error.injEq] at hc; subst hc; exact h.noFuel he
  · simp at hc

/-- progress of the link / image rule against callees that meet their contracts: no fuel panic;
    a successful call leads the tokenizer strictly forward -/
theorem inline_rule_progress_link {cfg : Cfg} {skip tok : IState → Except Panic IState} {L : Nat}
    (fuel : Nat) (st : IState) (silent : Bool) (image : Bool)
    (hskip : SkipHyp skip st.level st.posMax L)
    (htok : silent = false → TokHyp tok (st.level + 1) L)
    (hm : MemoInv st) (hn : st.posMax - st.pos + 1 ≤ fuel) (hL : st.posMax - st.pos ≤ L + 1) :
    RuleSpec st silent (runRule cfg skip tok fuel (if image then .image else .link) st silent) := by
  cases image
  · exact runRule_spec hskip fuel .link st silent htok hm rfl rfl hn hL
  · exact runRule_spec hskip fuel .image st silent htok hm rfl rfl hn hL

/-- **the extent of the link / image rule**: in either mode, with the real `skip_token` below it and
    at any fuel, the position the tokenizer continues from after a successful call (`pos' + len`;
    real mode leaves `pos'` at the label end) is a character boundary `≤ posMax`; together with
    `inline_rule_progress_link` (`pos < pos' + len`) this is the progress statement of the other
    rules.  No hypothesis on the state: the scan itself ends on `)` / `]` it has sliced. -/
theorem inline_rule_bounds_link (cfg : Cfg) (f : Nat) (st : IState) (silent : Bool) (image : Bool)
    {len : Nat} {st' : IState}
    (h : ruleAt cfg f (if image then .image else .link) st silent = .ok (some len, st')) :
    st'.pos + len ≤ st.posMax ∧ Boundary st.src (st'.pos + len) := by
  unfold ruleAt runRule at h
  cases image
  · rcases ruleLink_ok h with ⟨h0, _⟩ | ⟨_, _, h⟩
    · cases h0
    · exact linkRule_bounds (skipToken_calm cfg f) h
  · rcases ruleImage_ok h with ⟨h0, _⟩ | ⟨_, _, h⟩
    · cases h0
    · exact linkRule_bounds (skipToken_calm cfg f) h

/-! ## 2. look-ahead -/

/-- **A look-ahead call leaves the tree and the positions alone** — any rule, with the real
    `skip_token` below it: children, `OpenersBottom`, pos, posMax, level, linkLevel, src, srcmap are
    unchanged (what may change: the memo `cache` and the code-span cache `backticks`).  `MemoInv st` and the
    fuel bound are needed for `st'.pos = st.pos` and `MemoInv st'` only. -/
theorem silent_rule_quiet (cfg : Cfg) (f : Nat) (id : RuleId) (st : IState) (hm : MemoInv st)
    (hf : (st.posMax - st.pos) + (cfg.maxNesting - st.level) + 2 ≤ f)
    {o : Option Nat} {st' : IState} (h : ruleAt cfg f id st true = .ok (o, st')) :
    Frame st st' ∧ Quiet st st' ∧ st'.pos = st.pos ∧ MemoInv st' := by
  have hs : SkipHyp (fun s => skipToken cfg f s) st.level st.posMax (st.posMax - st.pos) := by
    intro s hms hl hp hlt hw
    exact (contracts cfg f).1 s hms (by rw [hp]; exact hlt) (by rw [hp, hl]; omega)
  have hr := runRule_spec (cfg := cfg) (tok := fun s => tokLoop cfg f s.posMax s) hs f id st true
    (by intro h; simp at h) hm rfl rfl (by omega) (by omega)
  obtain ⟨a, b, c, _, _⟩ := hr.ok o st' h
  exact ⟨a, (c rfl).1, (c rfl).2, b⟩

/-- the same for `skip_token`: only `pos` (forward), the memo and the code-span cache change (the three
    hypotheses are needed for `st.pos < st'.pos` and `MemoInv st'` only) -/
theorem skip_token_quiet (cfg : Cfg) (f : Nat) (st : IState) (hm : MemoInv st)
    (hlt : st.pos < st.posMax) (hf : (st.posMax - st.pos) + (cfg.maxNesting - st.level) + 2 ≤ f)
    {st' : IState} (h : skipToken cfg f st = .ok st') :
    Frame st st' ∧ Quiet st st' ∧ st.pos < st'.pos ∧ MemoInv st' := by
  obtain ⟨a, b, c, d⟩ := ((contracts cfg f).1 st hm hlt hf).ok st' h
  exact ⟨a, b, d, c⟩

/-! ### link / image: the look-ahead verdict is the real extent -/

/-- **silent = real (the generic link rule).**  Both modes run the same `parse_link`; look-ahead
    answers `end - pos`, real mode answers `end - pos'` with `pos'` where the nested tokenizer run
    left `state.pos`: the tokenizer lands on the same `end` either way. -/
theorem silent_real_linkRule {cfg : Cfg} {skip tok : IState → Except Panic IState} {fuel : Nat}
    {mk : List Nat → Option (List Char) → Val} {en : Bool} {offset : Nat} {st : IState}
    {n : Nat} {st1 : IState}
    (hs : linkRule cfg skip tok fuel mk en offset st true = .ok (some n, st1)) :
    st1.pos = st.pos ∧
    ∀ o st2, linkRule cfg skip tok fuel mk en offset st false = .ok (o, st2) →
      ∃ n', o = some n' ∧ st2.pos + n' = st.pos + n := by
  cases hp : parseLink cfg skip fuel st (st.pos + offset) en with
  | error e => rw [linkRule_error hp] at hs; cases hs
  | ok r =>
    obtain ⟨_ | res, sp⟩ := r
    · rw [linkRule_none hp] at hs; cases hs
    · rw [linkRule_silent hp] at hs
      split at hs
      · cases hs
      · cases hs
        refine ⟨parseLink_pos hp, fun o st2 hr => ?_⟩
        rw [linkRule_real hp] at hr
        split at hr
        · cases hr
        · obtain ⟨_, hle, rfl, _, _, rfl⟩ := linkClose_ok hr
          have := parseLink_pos hp
          exact ⟨_, rfl, by simp only; omega⟩

theorem silent_real_link {cfg : Cfg} {skip tok : IState → Except Panic IState} {fuel : Nat}
    {st : IState} {n : Nat} {st1 : IState}
    (hs : ruleLink cfg skip tok fuel st true = .ok (some n, st1)) :
    st1.pos = st.pos ∧
    ∀ o st2, ruleLink cfg skip tok fuel st false = .ok (o, st2) →
      ∃ n', o = some n' ∧ st2.pos + n' = st.pos + n := by
  rcases ruleLink_ok hs with ⟨h0, _⟩ | ⟨_, hw, hs⟩
  · cases h0
  · rw [ruleLink_eq hw]; exact silent_real_linkRule hs

theorem silent_real_image {cfg : Cfg} {skip tok : IState → Except Panic IState} {fuel : Nat}
    {st : IState} {n : Nat} {st1 : IState}
    (hs : ruleImage cfg skip tok fuel st true = .ok (some n, st1)) :
    st1.pos = st.pos ∧
    ∀ o st2, ruleImage cfg skip tok fuel st false = .ok (o, st2) →
      ∃ n', o = some n' ∧ st2.pos + n' = st.pos + n := by
  rcases ruleImage_ok hs with ⟨h0, _⟩ | ⟨_, hw, hs⟩
  · cases h0
  · rw [ruleImage_eq hw]; exact silent_real_linkRule hs

/-! ### the memo of `skip_token` -/

/-- a memo hit returns the stored position and changes nothing else -/
theorem skip_token_memo_hit (cfg : Cfg) (f : Nat) (st : IState) (x : Nat)
    (h : st.cache.lookup st.pos = some x) :
    skipToken cfg (f + 1) st = .ok { st with pos := x } := by
  unfold skipToken; rw [h]

/-- **What the memo stores.**  On a miss below the nesting limit, `skip_token` answers exactly the
    extent the un-memoised look-ahead run of the chain produced from this state (`skipStep`), and
    the entry it adds is `pos ↦` that position: a memoised extent is the extent an un-memoised
    silent run returned — AT THE STATE IT WAS MADE IN (same `posMax`, same `level`). -/
theorem skip_token_memo_entry (cfg : Cfg) (f : Nat) (st st' : IState)
    (hmiss : st.cache.lookup st.pos = none) (hlev : st.level < cfg.maxNesting)
    (h : skipToken cfg (f + 1) st = .ok st') :
    skipStep cfg (fun s => skipToken cfg f s) (fun s => tokLoop cfg f s.posMax s) f st = .ok st' ∧
    st'.cache.lookup st.pos = some st'.pos := by
  unfold skipToken at h
  rw [hmiss] at h
  simp only [hlev, if_true] at h
  refine ⟨h, ?_⟩
  unfold skipStep at h
  simp only at h
  split at h
  · simp at h
  · simp only [Except.ok.injEq] at h; subst h; simp [cacheInsert, List.lookup]
  · split at h
    · simp at h
    · simp only [Except.ok.injEq] at h; subst h; simp [cacheInsert, List.lookup]

/-! ## 3. the output of `finish` -/

/-- the value is not the parser-internal placeholder `EmphMarker` -/
def NotMarker : Val → Prop
  | .emphMarker _ _ _ _ _ => False
  | _ => True

theorem allValsList_erase (n : Node) : C14.AllNF (erase n) → AllValsList NotMarker n.children := by
  induction n using node_induct with
  | step n ih =>
    intro h
    rw [C14.AllNF_eq, erase_children] at h
    obtain ⟨hnf, hall⟩ := h
    rw [allValsList_iff]
    intro c hc
    rw [AllVals_eq]
    refine ⟨?_, ih c hc ((allNFList_erase _).mp hall c hc)⟩
    have := hnf.noMarker (erase c) (by rw [eraseList_eq_map]; exact List.mem_map_of_mem hc)
    rw [erase_isMarker] at this
    cases hv : c.val <;> simp_all [NotMarker]

theorem notMarker_good (cfg : Cfg) (h : cfg.hasEmph = false) : GoodP cfg NotMarker := by
  have hno : ∀ mk csw, RuleId.emph mk csw ∉ cfg.chain := by
    intro mk csw hmem
    unfold Cfg.hasEmph at h
    rw [List.any_eq_false] at h
    have := h _ hmem
    simp [RuleId.isEmph] at this
  exact ⟨fun _ => trivial, fun _ _ _ => trivial, trivial, trivial, fun _ _ => trivial,
    fun _ _ _ _ => trivial, fun _ _ _ => trivial, fun _ _ _ => trivial,
    fun mk csw hm => absurd hm (hno mk csw), fun _ _ _ _ => trivial,
    fun _ _ _ _ _ _ h => h⟩

theorem parseInline_vals (cfg : Cfg) {P : Val → Prop} (g : GoodP cfg P) {content : List Char}
    {mapping : Srcmap} {cs : List Node} (h : parseInline cfg content mapping = .ok cs) :
    AllValsList P cs :=
  parseInline_kept (keeps_vals g) h

theorem normalForm_of {l : List Node} (hv : AllValsList NotMarker l) (ht : TOK l) :
    C14.NormalForm (eraseList l) := by
  refine ⟨?_, ht.noEmpty, ht.noAdj⟩
  intro n hn
  rw [eraseList_eq_map] at hn
  obtain ⟨a, ha, rfl⟩ := List.mem_map.mp hn
  have := ((AllVals_eq NotMarker a).mp ((allValsList_iff _ _).mp hv a ha)).1
  rw [erase_isMarker]
  cases hval : a.val <;> simp_all [NotMarker]

theorem allNF_of (n : Node) : AllVals NotMarker n → DeepTOK n → C14.AllNF (erase n) := by
  induction n using node_induct with
  | step n ih =>
    intro hv ht
    rw [C14.AllNF_eq, erase_children, allNFList_erase]
    rw [AllVals_eq] at hv
    rw [DeepTOK_eq] at ht
    exact ⟨normalForm_of hv.2 ht.1, fun x hx =>
      ih x hx ((allValsList_iff _ _).mp hv.2 x hx) ((deepTOKList_iff _).mp ht.2 x hx)⟩

/-- **No placeholder after `finish`; text normal form.**  The output of the inline parser + post
    pass contains no `EmphMarker` at any depth, and every sibling list of the output, at every
    depth, is in the text normal form of C14 — no marker, no empty `Text`, no two adjacent `Text`s.
    With an emphasis-like rule configured this is `C14.join_normal_form` for `FragmentsJoin::run`
    (through the projection `erase`); without one no join runs and the raw tokenizer output is
    already in normal form (`C14.push_no_adjacent`, `C14.pop_no_adjacent` along the run). -/
theorem no_placeholder_after_finish (cfg : Cfg) {content : List Char} {mapping : Srcmap}
    {cs : List Node} (h : parseFinish cfg content mapping = .ok cs) :
    AllValsList NotMarker cs ∧ C14.NormalForm (eraseList cs) ∧ C14.AllNFList (eraseList cs) := by
  unfold parseFinish at h
  split at h
  · simp at h
  · next cs0 hp =>
    simp only [Except.ok.injEq] at h; subst h
    unfold finish
    cases he : cfg.hasEmph with
    | true =>
      simp only [if_true]
      have hnf := allNF_joinAllN (rootOf cs0)
      refine ⟨allValsList_erase _ hnf, ?_⟩
      rw [C14.AllNF_eq, erase_children] at hnf
      exact hnf
    | false =>
      simp only [Bool.false_eq_true, if_false]
      have hv := parseInline_vals cfg (notMarker_good cfg he) hp
      have hne : ∀ id ∈ cfg.chain, id.isEmph = false := by
        intro id hid
        unfold Cfg.hasEmph at he
        rw [List.any_eq_false] at he
        have := he id hid
        simpa using this
      have ht : TOK cs0 ∧ DeepTOKList cs0 := by
        unfold parseInline tokenize at hp
        split at hp
        · simp at hp
        · next st hst =>
          simp only [Except.ok.injEq] at hp; subst hp
          exact text_induction cfg hne _ _ _ _ hst ⟨tok_nil, trivial⟩
      have hroot : C14.AllNF (erase (rootOf cs0)) :=
        allNF_of _ (by rw [AllVals_eq]; exact ⟨trivial, hv⟩)
          (by rw [DeepTOK_eq]; exact ht)
      rw [C14.AllNF_eq, erase_children] at hroot
      exact ⟨hv, hroot⟩

/-- where an emitted url comes from: the empty default, the inline pipeline, the autolink
    pipeline, or the reference map -/
def FromPipeline (cfg : Cfg) (u : List Nat) : Prop :=
  u = [] ∨ (∃ raw, Link.inlineDest (Entity.unescapeAll cfg.entity) raw = some u) ∨
  (∃ b url, Link.autolinkDest b url = some u) ∨
  (∃ m k e, cfg.refs = some m ∧ (k, e) ∈ m ∧ e.dest = u)

/-- the url of a link / image / autolink value comes out of a pipeline -/
def UrlP (cfg : Cfg) : Val → Prop
  | .link u _ => FromPipeline cfg u
  | .image u _ => FromPipeline cfg u
  | .autolink u => FromPipeline cfg u
  | _ => True

theorem hrefOK_fromPipeline {cfg : Cfg} {href : Option (List Nat)} (h : HrefOK cfg href) :
    FromPipeline cfg (href.getD []) := by
  rcases h with rfl | ⟨raw, hraw⟩ | ⟨m, k, e, hm, hmem, rfl⟩
  · left; rfl
  · cases href with
    | none => left; rfl
    | some u => right; left; exact ⟨raw, hraw⟩
  · right; right; right; exact ⟨m, k, e, hm, hmem, rfl⟩

theorem urlP_good (cfg : Cfg) : GoodP cfg (UrlP cfg) :=
  ⟨fun _ => trivial, fun _ _ _ => trivial, trivial, trivial, fun _ _ => trivial,
   fun b url u h => Or.inr (Or.inr (Or.inl ⟨b, url, h⟩)),
   fun _ _ h => hrefOK_fromPipeline h, fun _ _ h => hrefOK_fromPipeline h,
   fun _ _ _ _ _ _ _ => trivial, fun _ _ _ _ => trivial, fun _ _ _ _ _ _ _ => trivial⟩

/-- **Every emitted destination went through a pipeline.**  In the output of the inline parser +
    post pass, every `Link` / `Image` / `Autolink` url, at any depth, is the empty default, an
    ACCEPTED result of `Link.inlineDest` (decode → `normalize_link` → `validate_link`), an accepted
    result of `Link.autolinkDest`, or a destination stored in the reference map. -/
theorem link_url_from_pipeline (cfg : Cfg) {content : List Char} {mapping : Srcmap}
    {cs : List Node} (h : parseFinish cfg content mapping = .ok cs) : AllValsList (UrlP cfg) cs := by
  unfold parseFinish at h
  split at h
  · simp at h
  · next cs0 hp =>
    simp only [Except.ok.injEq] at h; subst h
    have h0 := parseInline_vals cfg (urlP_good cfg) hp
    unfold finish
    split
    · have : AllVals (UrlP cfg) (rootOf cs0) := by rw [AllVals_eq]; exact ⟨trivial, h0⟩
      have := joinAllN_vals (fun _ => trivial) this
      rw [AllVals_eq] at this; exact this.2
    · exact h0

/-- what the pipelines guarantee (`C04`): the url is `normalize_link` of something and passed
    `validate_link`; hence no browser treats it as `javascript:` / `vbscript:` / `file:` / a
    non-image `data:` url -/
theorem fromPipeline_safe {cfg : Cfg} {u : List Nat} (h : FromPipeline cfg u)
    (hrefs : ∀ m k e, cfg.refs = some m → (k, e) ∈ m →
      (∃ s, e.dest = Link.normalizeLink s) ∧ Link.validateLink e.dest = true ∧
        Link.dangerous e.dest = false) :
    (∃ s, u = Link.normalizeLink s) ∧ Link.validateLink u = true ∧ Link.dangerous u = false := by
  rcases h with rfl | ⟨raw, hraw⟩ | ⟨b, url, hurl⟩ | ⟨m, k, e, hm, hmem, rfl⟩
  · exact ⟨⟨[], by decide +kernel⟩, by decide +kernel, by decide +kernel⟩
  · refine ⟨?_, ?_, Link.pipeline_safe _ _ _ hraw⟩
    · unfold Link.inlineDest at hraw
      simp only at hraw
      split at hraw
      · simp only [Option.some.injEq] at hraw; exact ⟨_, hraw.symm⟩
      · simp at hraw
    · unfold Link.inlineDest at hraw
      simp only at hraw
      split at hraw
      · next hv => simp only [Option.some.injEq] at hraw; rw [← hraw]; exact hv
      · simp at hraw
  · refine ⟨?_, ?_, Link.pipeline_safe_autolink _ _ _ hurl⟩
    · unfold Link.autolinkDest at hurl
      cases b <;> simp only [Bool.false_eq_true, if_false, if_true] at hurl <;> split at hurl
      · simp only [Option.some.injEq] at hurl; exact ⟨_, hurl.symm⟩
      · simp at hurl
      · simp only [Option.some.injEq] at hurl; exact ⟨_, hurl.symm⟩
      · simp at hurl
    · unfold Link.autolinkDest at hurl
      cases b <;> simp only [Bool.false_eq_true, if_false, if_true] at hurl <;> split at hurl
      · next hv => simp only [Option.some.injEq] at hurl; rw [← hurl]; exact hv
      · simp at hurl
      · next hv => simp only [Option.some.injEq] at hurl; rw [← hurl]; exact hv
      · simp at hurl
  · exact hrefs m k e hm hmem

/-! ## 4. source ranges -/

/-- **The children the inline parser produces have ordered, non-overlapping ranges.**
    For a per-line table that is well formed, monotone (`C05.MonoMap`, so `C05.translate_mono`
    applies) and whose keys are line starts of the inline text (`KeysAfterLF`): the children list
    `tokenize` builds lies, in order and without overlap, inside `[tr pos₀, tr posEnd]`, where
    `pos₀` is where `trim_src` put the cursor and `posEnd` is SOME position (the proof takes the one where
    the loop stopped; the statement does not say which); and every node
    is well ranged — its own children lie inside its range, ordered, recursively (wrappers made by
    the delimiter matching, link / image labels, code-span and autolink texts).  No fuel bound and
    no no-panic hypothesis is needed: the statement is about every successful run. -/
theorem inline_children_ordered (cfg : Cfg) {content : List Char} {mapping : Srcmap}
    (hm : MapOK content mapping) {cs : List Node} (h : parseInline cfg content mapping = .ok cs) :
    ∃ lo hi posEnd, getSourcePosFor mapping (trimSrc content).1 = .ok lo ∧
      getSourcePosFor mapping posEnd = .ok hi ∧ OrderedN lo hi cs ∧ WellRangedList cs := by
  unfold parseInline tokenize at h
  split at h
  · simp at h
  · next st hst =>
    simp only [Except.ok.injEq] at h; subst h
    obtain ⟨lo, hlo⟩ := C05.translate_total mapping hm.wf (trimSrc content).1
    have hinit : RInv lo (IState.init content mapping) :=
      ⟨⟨lo, hlo, Nat.le_refl _⟩, trivial, markersOK_nil, by intro init last hcs; simp [IState.init] at hcs⟩
    obtain ⟨hs, hmm, hri⟩ := ranges_induction cfg _ _ lo _ _ hm hst hinit
    obtain ⟨hi, hhi, hord⟩ := hri.ord
    have e1 : st.srcmap = mapping := hmm
    rw [e1] at hhi
    exact ⟨lo, hi, st.pos, hlo, hhi, hord, hri.deep⟩

/-- the same for the output of `finish` (the post pass keeps order and enclosure) -/
theorem finish_children_ordered (cfg : Cfg) {content : List Char} {mapping : Srcmap}
    (hm : MapOK content mapping) {cs : List Node} (h : parseFinish cfg content mapping = .ok cs) :
    ∃ lo hi posEnd, getSourcePosFor mapping (trimSrc content).1 = .ok lo ∧
      getSourcePosFor mapping posEnd = .ok hi ∧ OrderedN lo hi cs ∧ WellRangedList cs := by
  unfold parseFinish at h
  split at h
  · simp at h
  · next cs0 hp =>
    simp only [Except.ok.injEq] at h; subst h
    obtain ⟨lo, hi, pe, h1, h2, h3, h4⟩ := inline_children_ordered cfg hm hp
    refine ⟨lo, hi, pe, h1, h2, ?_⟩
    unfold finish
    split
    · exact od_finish_join ⟨h3, h4⟩
    · exact ⟨h3, h4⟩

/-! ## non-vacuity examples -/

/-- a small configuration for examples: every rule, `*` emphasis, no tables -/
def exCfg (maxNesting : Nat) : Cfg :=
  { maxNesting := maxNesting,
    chain := [.text, .newline, .escape, .backticks, .emph '*' true, .link, .linkEnd, .image,
              .autolink, .entity],
    fns := fun m i => if m = '*' then (if i = 0 then some .em else if i = 1 then some .strong else none) else none,
    refs := none, normRef := id,
    entity := fun s => if s = "&amp;".toList then some ['&'] else none,
    isWhite := fun c => c == ' ' || c == '\n', isPunctChar := fun _ => false }

def exSrc : List Char := "a&amp;\n`c` <xx:y> \\* *e*".toList

/-- `exSrc` with the cursor at byte `pos` (all characters are single bytes) -/
def exSt (pos : Nat) : IState := { IState.init exSrc [(0, 0)] with pos := pos }

theorem exInv : InlineInv (exSt 1) := by
  refine ⟨by decide +kernel, ⟨exSrc.take 1, exSrc.drop 1, by decide +kernel, by decide +kernel⟩,
    ⟨exSrc, [], by decide +kernel, by decide +kernel⟩, ⟨⟨0, [], rfl⟩, by decide +kernel⟩⟩

def verdict (r : SRes) : Except RPanic (Option Nat) :=
  match r with
  | .ok (o, _) => .ok o
  | .error e => .error e

-- every `inline_rule_progress_<rule>` / `silent_real_<rule>` has instances with a `some` verdict:
example : verdict (ruleText (exSt 0) true) = .ok (some 1) ∧ verdict (ruleText (exSt 0) false) = .ok (some 1) := by
  decide +kernel
example : verdict (ruleEntity (exCfg 100) (exSt 1) true) = .ok (some 5) ∧
    verdict (ruleEntity (exCfg 100) (exSt 1) false) = .ok (some 5) := by decide +kernel
example : verdict (ruleNewline (exSt 6) true) = .ok (some 1) ∧ verdict (ruleNewline (exSt 6) false) = .ok (some 1) := by
  decide +kernel
example : verdict (ruleBackticks (exSt 7) true) = .ok (some 3) ∧
    verdict (ruleBackticks (exSt 7) false) = .ok (some 3) := by decide +kernel
example : verdict (ruleAutolink (exSt 11) true) = .ok (some 6) ∧
    verdict (ruleAutolink (exSt 11) false) = .ok (some 6) := by decide +kernel
example : verdict (ruleEscape (exSt 18) true) = .ok (some 2) ∧ verdict (ruleEscape (exSt 18) false) = .ok (some 2) := by
  decide +kernel
example : verdict (ruleEmph (exCfg 100) '*' true (exSt 21) true) = .ok none ∧
    verdict (ruleEmph (exCfg 100) '*' true (exSt 21) false) = .ok (some 1) := by decide +kernel
-- `EntStop` holds for the example (`posMax` is the end of the text) …
example : EntStop (exSt 1).src (exSt 1).posMax := by
  intro pre c post hs hl
  have h1 : byteLen (exSt 1).src = 24 := by decide +kernel
  have h2 : (exSt 1).posMax = 24 := by decide +kernel
  have := congrArg byteLen hs
  rw [C05.byteLen_append, hl, h1, h2] at this
  have := Char.utf8Size_pos c
  simp only [byteLen] at *; omega
-- … and is needed: with `posMax` inside the reference the rule answers an extent beyond it
example : verdict (ruleEntity (exCfg 100) { exSt 1 with posMax := 3 } true) = .ok (some 5) := by
  decide +kernel
-- `TrailOK` is needed by the newline rule in real mode: a trailing text whose range end is
-- smaller than the number of blanks to cut makes `map_end - count` underflow
example : verdict (ruleNewline { exSt 6 with children := [Node.newText "x   ".toList (some (0, 2))] } false)
    = .error .underflow := by decide +kernel

-- `MapOK` is satisfiable for a two-line text (second line behind a block-quote marker in the
-- source), and the produced ranges are what `inline_children_ordered` says:
theorem exMapOK : MapOK "a *b*\nc".toList [(0, 0), (6, 8)] := by
  refine ⟨⟨⟨0, _, rfl⟩, by decide⟩, ?_, ?_⟩
  · intro i k1 v1 k2 v2 h1 h2
    match i, h1, h2 with
    | 0, h1, h2 =>
      simp only [List.getElem?_cons_zero, List.getElem?_cons_succ, Option.some.injEq, Prod.mk.injEq] at h1 h2
      omega
    | 1, h1, h2 => simp at h2
    | n + 2, h1, h2 => simp at h1
  · intro i k v h hk
    match i, h with
    | 0, h => simp only [List.getElem?_cons_zero, Option.some.injEq, Prod.mk.injEq] at h; omega
    | 1, h =>
      simp only [List.getElem?_cons_succ, List.getElem?_cons_zero, Option.some.injEq, Prod.mk.injEq] at h
      obtain ⟨rfl, rfl⟩ := h
      exact ⟨"a *b*".toList, "c".toList, by decide, by decide +kernel⟩
    | n + 2, h => simp at h

example : (match parseInline (exCfg 100) "a *b*\nc".toList [(0, 0), (6, 8)] with
    | .ok cs => cs.map (fun n => (n.range, n.children.map (·.range)))
    | .error _ => []) =
    [(some (0, 2), []), (some (2, 5), [some (3, 4)]), (some (5, 8), []), (some (8, 9), [])] := by
  decide +kernel

/-- the projection of a result to its node values (for examples) -/
def vals (r : Except Panic (List Node)) : Except Panic (List Val) :=
  match r with
  | .ok cs => .ok (cs.map (·.val))
  | .error e => .error e

-- `parseInline` on a text with several constructs (so `no_placeholder_after_finish`,
-- `link_url_from_pipeline`, `fuel_suffices` are about non-trivial runs):
example : vals (parseInline (exCfg 100) "*a* [b](/u) <xx:y>".toList [(0, 0)]) =
    .ok [.wrap .em '*', .text [' '], .link [47, 117] none, .text [' '], .autolink [120, 120, 58, 121]] := by
  decide_lits

/-- **The memo of `skip_token` is keyed by position only, but what it stores depends on `level`.**
    `[[a](b)](c)` with `max_nesting = 1`: the look-ahead for the outer label reaches `[` at 1 at
    level 1, whose own label scan calls `skip_token` at position 2 OVER the limit: that call jumps to
    `pos_max` and memoises `2 ↦ 11`.  When the tokenizer later stands at 1 (level 0) and asks
    again, the entry answers `11` where an un-memoised run at level 0 answers `3` — so the link
    `[a](b)`, which IS recognised on its own with the same limit, is not recognised here. -/
theorem memo_level_dependent :
    -- the entry is made at level 1 (over the limit) …
    (skipToken (exCfg 1) 40 { IState.init "[[a](b)](c)".toList [(0, 0)] with pos := 2, level := 1 }).map
        (fun s => (s.pos, s.cache)) = .ok (11, [(2, 11)]) ∧
    -- … answers at level 0 …
    (skipToken (exCfg 1) 40 { IState.init "[[a](b)](c)".toList [(0, 0)] with pos := 2, cache := [(2, 11)] }).map
        (fun s => s.pos) = .ok 11 ∧
    -- … where the un-memoised look-ahead says 3
    (skipToken (exCfg 1) 40 { IState.init "[[a](b)](c)".toList [(0, 0)] with pos := 2 }).map
        (fun s => s.pos) = .ok 3 ∧
    -- end to end: the whole input stays text, the inner link alone is a link
    vals (parseInline (exCfg 1) "[[a](b)](c)".toList [(0, 0)]) = .ok [.text "[[a](b)](c)".toList] ∧
    vals (parseInline (exCfg 1) "[a](b)".toList [(0, 0)]) = .ok [.link [98] none] ∧
    vals (parseInline (exCfg 2) "[[a](b)](c)".toList [(0, 0)]) =
      .ok [.text ['['], .link [98] none, .text "](c)".toList] := by
  decide +kernel

end MdIt.Inline
