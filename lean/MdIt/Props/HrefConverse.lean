/-
  C04 / C03, the converse of `Props/LinksDoc.doc_href_output`: what a
  BROWSER reads off the string `renderDoc` returns is exactly what the renderer was given.

  `Props/LinksDoc.doc_href_output` goes from the trait calls to the string (every `href` / `src`
  attribute of every call is written ` href="escape_html u"`, `u` safe).  Here the other direction:
  the string is handed to a model of the HTML5 tokenizer (`Lemmas/HrefConverseTok.lean`: `htmlTokens`,
  `parseAttrs`; WHATWG §13.2.5 state by state, character references left raw), which reads the calls back:

  Serializer level (namespace `MdIt.HtmlTok`) — for ANY event list over a readable vocabulary:
    `tokens_of_safe`, `tokens_of_events`   the token stream of the serialisation is one tag token per
                             `open` / `close` / `self_close` call, carrying exactly that call's
                             attribute list (names and values as `escape_html` wrote them), and one
                             character token per character of the text pieces; the tokenizer ends in
                             the data state and never reaches a state outside the model
    (`Lemmas/HrefConverseBound.lean`: `parseAttrs_attrsStr`, `attr_boundaries`, `tag_piece_occurrence`)
  Whole documents (namespace `MdIt.Pipeline`) — for every configuration and every source:
    `doc_tokens_exact`       … for the string `renderDoc` returns
    `doc_attrs_exact`        tag piece by tag piece: `parseAttrs` gives back exactly the attribute list
                             of the call that produced it; every `href` / `src` among them is a
                             `SafeUrl`; names come from the fixed table
    `doc_no_smuggled_href`   stated on the token stream alone: EVERY attribute named `href` / `src` of
                             EVERY tag token the browser sees in the output holds `escape_html u` for a
                             `SafeUrl` `u`, which the browser decodes to `u` — not dangerous; every
                             other attribute name is one of the fixed literals of that element
    `doc_href_occurrences`   by POSITION: every occurrence of ` href=` / ` src=` inside a tag piece
                             either starts that call's `href` / `src` attribute (value a `SafeUrl`)
                             or lies wholly between the quotes of ONE attribute value of that call
                             (where a `"` of the payload appears as `&quot;`)
  `doc_attr_names_nodup` / `doc_tokens_nodup` (no tag token carries two attributes of the same name, so the
  tokenizer's duplicate-attribute rule `dropDupNames` drops nothing) are proved in `Props/HrefNodup.lean`.
-/
import MdIt.Props.LinksDoc
import MdIt.Lemmas.HrefConverseBound
import MdIt.Lemmas.KernelEval

set_option autoImplicit false

/-! # serializer level -/

namespace MdIt.HtmlTok
open MdIt.Render

/-- a vocabulary the tokenizer reads back unchanged: element names start with an ASCII lower case
    letter, all names are non-empty and free of white space, `/`, `>`, `=`, upper case, U+0000 -/
structure LowVocab (V : Vocab) : Prop where
  tag : ∀ t, V.tag t → TagNameTok t
  attr : ∀ t n, V.attr t n → n ≠ [] ∧ NameTok n

theorem mem_pattrsStr {a : List (List Char × List Char)} {nv : List Char × List Char} (h : nv ∈ a)
    {c : Char} (hc : c ∈ nv.2) : c ∈ pattrsStr a := by
  induction a with
  | nil => simp at h
  | cons x r ih =>
    rcases List.mem_cons.mp h with rfl | h
    · simp [pattrsStr, hc]
    · have := ih h
      simp [pattrsStr, this]

theorem safe_pieceTok {V : Vocab} (hV : LowVocab V) (p : Piece) (hp : SafePiece V p)
    (hnul : '\x00' ∉ p.str) : PieceTok p := by
  have hattrs : ∀ (n : List Char) (a : List (List Char × List Char)),
      (∀ nv ∈ a, V.attr n nv.1 ∧ Escaped nv.2) → '\x00' ∉ pattrsStr a → ∀ nv ∈ a, AttrTok nv := by
    intro n a ha hn nv hnv
    obtain ⟨h1, h2⟩ := ha nv hnv
    refine ⟨(hV.attr n _ h1).1, (hV.attr n _ h1).2, ?_⟩
    intro c hc
    refine ⟨(h2.no_delim c hc).2.2, ?_⟩
    rintro rfl
    exact hn (mem_pattrsStr hnv hc)
  cases p with
  | «open» n a =>
    refine ⟨hV.tag n hp.1, hattrs n a hp.2 ?_⟩
    intro hm; apply hnul; simp [Piece.str, hm]
  | close n => exact hV.tag n hp
  | void n a slash =>
    refine ⟨hV.tag n hp.1, hattrs n a hp.2 ?_⟩
    intro hm; apply hnul; simp [Piece.str, hm]
  | chars s => exact fun c hc => (Escaped.no_delim hp c hc).1

theorem mem_flattenP {ps : List Piece} {p : Piece} (h : p ∈ ps) {c : Char} (hc : c ∈ p.str) :
    c ∈ flattenP ps := by
  induction ps with
  | nil => simp at h
  | cons q r ih =>
    rcases List.mem_cons.mp h with rfl | h
    · simp [hc]
    · simp [ih h]

/-- **`tokens_of_safe`.**  A string of the safe output language of C03 over a readable vocabulary,
    without U+0000, is tokenized into exactly its pieces. -/
theorem tokens_of_safe {V : Vocab} (hV : LowVocab V) (ps : List Piece) (hs : Safe V ps)
    (hnul : '\x00' ∉ flattenP ps) : htmlTokens (flattenP ps) = (toksP ps, .data) :=
  tokens_of_pieces ps (fun p hp =>
    safe_pieceTok hV p (hs p hp) (fun hm => hnul (mem_flattenP hp hm)))

/-- the tag tokens of a stream, in order -/
def tagsOf : List Tok → List Tag
  | [] => []
  | .tag t :: r => t :: tagsOf r
  | .char _ :: r => tagsOf r

/-- the tag token a trait call stands for: the call's element name and ITS attribute list, each
    name and value through `escape_html`; `self_close` sets the flag in XHTML mode -/
def evTag (x : Bool) : Event → Option Tag
  | .open t a => some ⟨false, t, escAttrs a, false⟩
  | .close t => some ⟨true, t, [], false⟩
  | .selfClose t a => some ⟨false, t, escAttrs a, x⟩
  | _ => none

theorem tagsOf_append (a b : List Tok) : tagsOf (a ++ b) = tagsOf a ++ tagsOf b := by
  induction a with
  | nil => rfl
  | cons t r ih => cases t <;> simp [tagsOf, ih]

theorem tagsOf_chars (s : List Char) : tagsOf (s.map .char) = [] := by
  induction s with
  | nil => rfl
  | cons c r ih => simp [tagsOf, ih]

theorem tagsOf_piecesOfFrom (x sol : Bool) (evs : List Event) :
    tagsOf (toksP (piecesOfFrom x sol evs)) = evs.filterMap (evTag x) := by
  induction evs generalizing sol with
  | nil => rfl
  | cons e r ih =>
    simp only [piecesOfFrom, toksP, tagsOf_append, ih]
    cases e <;> simp [pieceOf, tokOf, tagsOf, evTag, tagsOf_chars, List.filterMap_cons]

/-- **`tokens_of_events`.**  For every event list without `raw` whose element and attribute names
    come from a readable vocabulary — whatever the text payloads and attribute VALUES are — the
    tokenizer reads the returned string (HTML or XHTML) back as the pieces of the calls (U+0000 ↦
    U+FFFD in the payloads): it ends in the data state, and its tag tokens are, in order, exactly the
    `open` / `close` / `self_close` calls with exactly their attribute lists. -/
theorem tokens_of_events {V : Vocab} (hV : LowVocab V) (x : Bool) (evs : List Event)
    (h : ∀ e ∈ evs, EventOK V e) :
    htmlTokens (serialize x evs) = (toksP (piecesOf x (evs.map nulEvent)), .data) ∧
    tagsOf (htmlTokens (serialize x evs)).1 = (evs.map nulEvent).filterMap (evTag x) := by
  have h' : ∀ e ∈ evs.map nulEvent, EventOK V e := by
    intro e he
    obtain ⟨e', he', rfl⟩ := List.mem_map.mp he
    exact nulEvent_ok V e' (h e' he')
  have hs := (serialize_safe V x _ h').2.2
  have hser : serialize x evs = flattenP (piecesOf x (evs.map nulEvent)) := by
    rw [serialize_nul_payload, serializeRaw_piecesOf]
  have hnul : '\x00' ∉ flattenP (piecesOf x (evs.map nulEvent)) := by
    rw [← hser]; exact no_nul x evs
  have key := tokens_of_safe hV _ hs hnul
  rw [← hser] at key
  refine ⟨key, ?_⟩
  rw [key]
  exact tagsOf_piecesOfFrom x true _

/-- the hostile event list of `Props/C03` (a quote and `onclick=` in an `href`, markup in a `src`,
    an entity look-alike and a NUL in an `alt`, `<script>` in text), as a browser tokenizes it -/
example : htmlTokens (serialize true demoEvents) =
    ([.tag ⟨false, ['p'], [], false⟩,
      .tag ⟨false, ['a'], [("href".toList, "&quot; onclick=&quot;x".toList)], false⟩] ++
      "&lt;script&gt;&quot;&amp;".toList.map .char ++
     [.tag ⟨true, ['a'], [], false⟩,
      .tag ⟨false, "img".toList,
        [("src".toList, "x&quot;&gt;&lt;b".toList), ("alt".toList, "&amp;lt;\uFFFD".toList)], true⟩,
      .tag ⟨true, ['p'], [], false⟩, .char '\n'], .data) := by decide_lits

/-- the hypotheses are needed: a name with a blank is read as two attributes; `raw` opens anything -/
example : tagsOf (htmlTokens (serialize false [.open ['a'] [("x onclick=alert(1) y".toList, [])]])).1 =
    [⟨false, ['a'], [(['x'], []), ("onclick".toList, "alert(1)".toList), (['y'], [])], false⟩] := by
  decide_lits
example : tagsOf (htmlTokens (serialize false [.raw "<script>".toList])).1 =
    [⟨false, "script".toList, [], false⟩] := by decide_lits


/-! ### occurrences of ` name=` in what `make_attrs` writes -/

/-- **`attrsStr_boundaries`** (`attr_boundaries` on the serializer's own attribute part).  For an
    attribute list whose names are written verbatim and hold no blank and no `=` (values ARBITRARY),
    every occurrence of ` name=` in `make_attrs`' output either starts an attribute of the list
    called `name`, or lies wholly between the quotes of ONE attribute — inside `escape_html` of its
    value. -/
theorem attrsStr_boundaries (n : List Char) (hn : ' ' ∉ n ∧ '=' ∉ n ∧ '"' ∉ n)
    (attrs : List (List Char × List Char))
    (hnames : ∀ nv ∈ attrs, escapeHtml nv.1 = nv.1 ∧ ' ' ∉ nv.1 ∧ '=' ∉ nv.1)
    (pre post : List Char) (h : attrsStr attrs = pre ++ (' ' :: (n ++ ['='])) ++ post) :
    (∃ a1 v a2, attrs = a1 ++ (n, v) :: a2 ∧ pre = attrsStr a1 ∧
      post = '"' :: (escapeHtml v ++ '"' :: attrsStr a2)) ∨
    (∃ a1 nv a2 v1 v2, attrs = a1 ++ nv :: a2 ∧
      escapeHtml nv.2 = v1 ++ (' ' :: (n ++ ['='])) ++ v2 ∧
      pre = attrsStr a1 ++ (' ' :: (nv.1 ++ ('=' :: '"' :: v1))) ∧
      post = v2 ++ '"' :: attrsStr a2) := by
  rw [← pattrsStr_escAttrs] at h
  have hesc : ∀ nv ∈ escAttrs attrs, ' ' ∉ nv.1 ∧ '=' ∉ nv.1 ∧ '"' ∉ nv.2 := by
    intro nv hnv
    obtain ⟨nv0, h0, rfl⟩ := List.mem_map.mp hnv
    obtain ⟨e, h1, h2⟩ := hnames nv0 h0
    simp only
    rw [e]
    exact ⟨h1, h2, fun hm => ((escapeHtml_escaped nv0.2).no_delim _ hm).2.2 rfl⟩
  rcases attr_boundaries n hn (escAttrs attrs) hesc pre post h with
    ⟨a1, v, a2, e1, e2, e3⟩ | ⟨a1, nm, v1, v2, a2, e1, e2, e3⟩
  · obtain ⟨l1, l2, rfl, rfl, hl2⟩ := List.map_eq_append_iff.mp e1
    obtain ⟨nv, l3, rfl, hnv, rfl⟩ := List.map_eq_cons_iff.mp hl2
    simp only [Prod.mk.injEq] at hnv
    have hname : nv.1 = n := by
      rw [← (hnames nv (by simp)).1]; exact hnv.1
    refine .inl ⟨l1, nv.2, l3, ?_, ?_, ?_⟩
    · rw [← hname]
    · rw [e2]; exact pattrsStr_escAttrs l1
    · rw [e3, ← hnv.2]
      have := pattrsStr_escAttrs l3
      unfold escAttrs at this
      rw [this]
  · obtain ⟨l1, l2, rfl, rfl, hl2⟩ := List.map_eq_append_iff.mp e1
    obtain ⟨nv, l3, rfl, hnv, rfl⟩ := List.map_eq_cons_iff.mp hl2
    simp only [Prod.mk.injEq] at hnv
    have h1 := pattrsStr_escAttrs l1
    have h3 := pattrsStr_escAttrs l3
    unfold escAttrs at h1 h3
    refine .inr ⟨l1, nv, l3, v1, v2, rfl, hnv.2, ?_, ?_⟩
    · rw [e2, h1, ← hnv.1, (hnames nv (by simp)).1]
    · rw [e3, h3]

/-- **`tag_piece_boundaries`.**  The same for a whole tag piece `<tag attrs>` / `<tag attrs />`:
    an occurrence of ` name=` ANYWHERE in the piece is the start of the call's attribute `name`, or
    lies strictly inside one quoted, escaped value. -/
theorem tag_piece_boundaries (n : List Char) (hn : ' ' ∉ n ∧ '=' ∉ n ∧ '"' ∉ n)
    (tag : List Char) (htag : ' ' ∉ tag) (attrs : List (List Char × List Char))
    (hnames : ∀ nv ∈ attrs, escapeHtml nv.1 = nv.1 ∧ ' ' ∉ nv.1 ∧ '=' ∉ nv.1)
    (close : List Char) (hclose : close = ['>'] ∨ close = [' ', '/', '>'])
    (pre post : List Char)
    (h : '<' :: (tag ++ (attrsStr attrs ++ close)) = pre ++ (' ' :: (n ++ ['='])) ++ post) :
    (∃ a1 v a2, attrs = a1 ++ (n, v) :: a2 ∧ pre = '<' :: (tag ++ attrsStr a1) ∧
      post = '"' :: (escapeHtml v ++ '"' :: (attrsStr a2 ++ close))) ∨
    (∃ a1 nv a2 v1 v2, attrs = a1 ++ nv :: a2 ∧
      escapeHtml nv.2 = v1 ++ (' ' :: (n ++ ['='])) ++ v2 ∧
      pre = '<' :: (tag ++ (attrsStr a1 ++ (' ' :: (nv.1 ++ ('=' :: '"' :: v1))))) ∧
      post = v2 ++ '"' :: (attrsStr a2 ++ close)) := by
  rw [← pattrsStr_escAttrs] at h
  obtain ⟨pre', post', rfl, rfl, h'⟩ := tag_piece_occurrence n tag htag _ close hclose pre post h
  rw [pattrsStr_escAttrs] at h'
  rcases attrsStr_boundaries n hn attrs hnames pre' post' h' with
    ⟨a1, v, a2, e1, e2, e3⟩ | ⟨a1, nv, a2, v1, v2, e1, e2, e3, e4⟩
  · exact .inl ⟨a1, v, a2, e1, by rw [e2], by rw [e3]; simp⟩
  · exact .inr ⟨a1, nv, a2, v1, v2, e1, e2, by rw [e3], by rw [e4]; simp⟩

/-- a title that tries to smuggle an `href`: the occurrence is there, INSIDE the quoted value, and
    the payload's quotes are `&quot;` -/
example : attrsStr [("href".toList, "/u".toList), ("title".toList, "x\" href=\"javascript:x".toList)] =
    " href=\"/u\" title=\"x&quot; href=&quot;javascript:x\"".toList := by decide_lits

end MdIt.HtmlTok

/-! # whole documents -/

namespace MdIt.Pipeline
open MdIt.HtmlTok
open MdIt.Render (Event escapeHtml attrStr attrsStr escAttrs EventOK nulEvent serialize piecesOf
  pieces flatten)
open MdIt.NodeRender (shippedVocab shippedTags attrsFor allAttrNames aHref aSrc aTitle aAlt aSourcepos)
open MdIt.HtmlDecode (asChars browserDecode FourEntities)

/-- decidable form of `TagNameTok` -/
def tagNameOk : List Char → Bool
  | [] => false
  | c :: r => isLower c && r.all nameChar

theorem tagNameOk_spec {n : List Char} (h : tagNameOk n = true) : TagNameTok n := by
  cases n with
  | nil => simp [tagNameOk] at h
  | cons c r =>
    simp only [tagNameOk, Bool.and_eq_true, List.all_eq_true] at h
    exact ⟨c, r, rfl, h.1, h.2⟩

theorem shippedTags_ok : ∀ t ∈ shippedTags, tagNameOk t = true := by decide
theorem allAttrNames_ok : ∀ n ∈ allAttrNames, n ≠ [] ∧ NameTok n := by decide

/-- the shipped table — `p blockquote ul ol li pre code h1 … h6 hr em strong s a img br`, attributes
    `start class href title src alt data-sourcepos` — is readable -/
theorem shippedVocab_low : LowVocab shippedVocab where
  tag := fun t ht => tagNameOk_spec (shippedTags_ok t ht)
  attr := fun t n h => allAttrNames_ok n (NodeRender.attrsFor_subset t n h.2)

/-- **`doc_tokens_exact`.**  For EVERY configuration and EVERY source the parser accepts, in HTML
    and in XHTML mode: the HTML5 tokenizer, run over the returned string, ends in the data state
    without ever leaving the modelled states (no comment, no DOCTYPE, no bogus comment, no
    unfinished tag), and its token stream is exactly the pieces of the rendering's trait calls
    `evs` (payloads with U+0000 ↦ U+FFFD): its TAG tokens are, in order, one per `open` / `close` /
    `self_close` call — that call's element name and exactly that call's attribute list, names and
    values as `escape_html` wrote them (`evTag`) — everything else is character tokens. -/
theorem doc_tokens_exact (cfg : DocCfg) (src : List Char) (t : Node) (h : parseDoc cfg src = .ok t) :
    ∃ evs, renderEvents cfg t = .ok evs ∧ ∀ x : Bool,
      renderDoc x cfg src = .ok (serialize x evs) ∧
      htmlTokens (serialize x evs) = (toksP (piecesOf x (evs.map nulEvent)), .data) ∧
      tagsOf (htmlTokens (serialize x evs)).1 = (evs.map nulEvent).filterMap (evTag x) := by
  obtain ⟨evs, hev, hx, hv, _⟩ := doc_events cfg src t h
  exact ⟨evs, hev, fun x => ⟨hx x, tokens_of_events shippedVocab_low x evs hv⟩⟩

theorem mem_filterMap_evTag {x : Bool} {evs : List Event} {tg : HtmlTok.Tag}
    (h : tg ∈ evs.filterMap (evTag x)) :
    (tg.isEnd = true ∧ tg.attrs = [] ∧ Event.close tg.name ∈ evs) ∨
    (tg.isEnd = false ∧ ∃ a, tg.attrs = escAttrs a ∧
      (Event.open tg.name a ∈ evs ∨ Event.selfClose tg.name a ∈ evs)) := by
  obtain ⟨e, he, hte⟩ := List.mem_filterMap.mp h
  cases e with
  | «open» n a => simp only [evTag, Option.some.injEq] at hte; subst hte; exact .inr ⟨rfl, a, rfl, .inl he⟩
  | close n => simp only [evTag, Option.some.injEq] at hte; subst hte; exact .inl ⟨rfl, rfl, he⟩
  | selfClose n a =>
    simp only [evTag, Option.some.injEq] at hte; subst hte; exact .inr ⟨rfl, a, rfl, .inr he⟩
  | _ => simp [evTag] at hte

theorem mem_tagsOf {toks : List Tok} {tg : HtmlTok.Tag} : Tok.tag tg ∈ toks ↔ tg ∈ tagsOf toks := by
  induction toks with
  | nil => simp [tagsOf]
  | cons t r ih => cases t <;> simp [tagsOf, ih]

theorem allAttrNames_shape : ∀ n ∈ allAttrNames, escapeHtml n = n ∧ ' ' ∉ n ∧ '=' ∉ n := by decide

theorem attrsFor_plain {t n : List Char} (h : n ∈ attrsFor t) : escapeHtml n = n :=
  (allAttrNames_shape n (NodeRender.attrsFor_subset t n h)).1

/-- **`doc_no_smuggled_href`.**  Stated on what the browser sees, for EVERY configuration, EVERY
    source and both output modes: tokenizing the returned string ends in the data state, and for
    EVERY tag token of the stream
    * its name is one of the twenty shipped element names; an end tag has no attribute;
    * EVERY attribute name is one of the literals that element may carry (`attrsFor`: `href title
      data-sourcepos` for `a`, `src alt title data-sourcepos` for `img`, …) — no input-chosen name,
      no `onclick`, whatever titles, alts, info strings and texts the document contains;
    * EVERY attribute named `href` or `src` has the raw value `escape_html u` for a `SafeUrl` `u`
      (an output of `normalize_link`, visible ASCII, accepted by `validate_link`), which a browser
      decoding all character references turns back into `u`, byte for byte, and `u` is not a
      `javascript:` / `vbscript:` / `file:` / non-image `data:` url.
    No attribute value, attribute name or text can make the browser see a second `href`. -/
theorem doc_no_smuggled_href (x : Bool) (cfg : DocCfg) (src : List Char) (out : List Char)
    (h : renderDoc x cfg src = .ok out) :
    (htmlTokens out).2 = .data ∧
    ∀ tg : HtmlTok.Tag, Tok.tag tg ∈ (htmlTokens out).1 →
      tg.name ∈ shippedTags ∧ (tg.isEnd = true → tg.attrs = []) ∧
      (∀ nv ∈ tg.attrs, nv.1 ∈ attrsFor tg.name) ∧
      ∀ nv ∈ tg.attrs, (nv.1 = aHref ∨ nv.1 = aSrc) →
        ∃ u, SafeUrl u ∧ nv.2 = escapeHtml (asChars u) ∧ '"' ∉ nv.2 ∧
          ∀ named, FourEntities named →
            browserDecode named nv.2 = asChars u ∧
            Link.utf8 (browserDecode named nv.2) = u ∧
            Link.dangerous (Link.utf8 (browserDecode named nv.2)) = false := by
  cases hp : parseDoc cfg src with
  | error e => simp [renderDoc, hp] at h
  | ok t =>
    obtain ⟨evs, _, hx, hv, hvn, hun⟩ := doc_events_nul cfg src t hp
    rw [hx x] at h
    cases h
    obtain ⟨htok, htags⟩ := tokens_of_events shippedVocab_low x evs hv
    refine ⟨by rw [htok], ?_⟩
    intro tg htg
    rw [mem_tagsOf, htags] at htg
    rcases mem_filterMap_evTag htg with ⟨hend, hattrs, hmem⟩ | ⟨hend, a, hattrs, hmem⟩
    · have hok : EventOK shippedVocab (.close tg.name) := hvn _ hmem
      refine ⟨hok, fun _ => hattrs, ?_, ?_⟩ <;> (rw [hattrs]; simp)
    · have hok : tg.name ∈ shippedTags ∧ ∀ nv ∈ a, nv.1 ∈ attrsFor tg.name := by
        rcases hmem with hm | hm
        · have := hvn _ hm; exact ⟨this.1, fun nv hnv => (this.2 nv hnv).2⟩
        · have := hvn _ hm; exact ⟨this.1, fun nv hnv => (this.2 nv hnv).2⟩
      have hurl : ∀ nv ∈ a, UrlAttr nv := by
        rcases hmem with hm | hm
        · exact hun _ hm
        · exact hun _ hm
      refine ⟨hok.1, ?_, ?_, ?_⟩
      · intro he; rw [hend] at he; cases he
      · intro nv hnv
        rw [hattrs] at hnv
        obtain ⟨nv0, h0, rfl⟩ := List.mem_map.mp hnv
        simp only
        rw [attrsFor_plain (hok.2 nv0 h0)]
        exact hok.2 nv0 h0
      · intro nv hnv hname
        rw [hattrs] at hnv
        obtain ⟨nv0, h0, rfl⟩ := List.mem_map.mp hnv
        simp only at hname ⊢
        rw [attrsFor_plain (hok.2 nv0 h0)] at hname
        obtain ⟨u, hs, hval⟩ := hurl nv0 h0 hname
        obtain ⟨_, h2, h3⟩ := safeUrl_attr hs nv0.1
        rw [hval]
        exact ⟨u, hs, rfl, h2, h3⟩


/-! ## tag piece by tag piece -/

theorem shippedTags_no_blank : ∀ t ∈ shippedTags, ' ' ∉ t := by decide

/-- **`doc_attrs_exact`.**  For every configuration, every source and both modes, the returned
    string is the concatenation of one piece per trait call (`evs'`: the rendering's calls with
    U+0000 ↦ U+FFFD in the payloads), and for EVERY tag piece with attributes — the piece of an
    `open` / `self_close` call `(tag, attrs)`:
    * it is `<tag` ++ `make_attrs attrs` ++ `>` or ` />`;
    * the browser's attribute parser, reading `make_attrs attrs` left to right, recovers EXACTLY the
      call's attribute list — same length, same order, every name verbatim, every value as
      `escape_html` wrote it (`escAttrs`), whatever the values contain;
    * `tag` is a shipped element and every name one of its literals (written verbatim);
    * every `href` / `src` value among them is a `SafeUrl`. -/
theorem doc_attrs_exact (x : Bool) (cfg : DocCfg) (src : List Char) (out : List Char)
    (h : renderDoc x cfg src = .ok out) :
    ∃ evs' : List Event, out = flatten (pieces x evs') ∧
      ∃ hlen : (pieces x evs').length = evs'.length,
      ∀ (i : Nat) (hi : i < evs'.length) (tag : List Char) (attrs : List (List Char × List Char)),
        (evs'[i] = .open tag attrs ∨ evs'[i] = .selfClose tag attrs) →
        ∃ close, (close = ['>'] ∨ close = [' ', '/', '>']) ∧
          (pieces x evs')[i]'(by rw [hlen]; exact hi) = '<' :: (tag ++ (attrsStr attrs ++ close)) ∧
          parseAttrs (attrsStr attrs) = some (escAttrs attrs) ∧
          (escAttrs attrs).map (·.1) = attrs.map (·.1) ∧
          tag ∈ shippedTags ∧ (∀ nv ∈ attrs, nv.1 ∈ attrsFor tag) ∧
          ∀ nv ∈ attrs, (nv.1 = aHref ∨ nv.1 = aSrc) → ∃ u, SafeUrl u ∧ nv.2 = asChars u := by
  obtain ⟨evs', hout, hlen, hall⟩ := doc_tag_pieces x cfg src out h
  refine ⟨evs', hout, hlen, ?_⟩
  intro i hi tag attrs hshape
  obtain ⟨close, hclose, hpiece, htag, hnames, hurl, hnul⟩ := hall i hi tag attrs hshape
  refine ⟨close, hclose, hpiece, ?_, ?_, htag, hnames, fun nv hnv hn => hurl nv hnv hn⟩
  · apply parseAttrs_attrsStr
    intro nv hnv
    have := allAttrNames_ok nv.1 (NodeRender.attrsFor_subset tag _ (hnames nv hnv))
    exact ⟨this.1, this.2, hnul nv hnv⟩
  · unfold escAttrs
    rw [List.map_map]
    apply List.map_congr_left
    intro nv hnv
    exact attrsFor_plain (hnames nv hnv)

/-- **`doc_href_occurrences`** (an
    occurrence MAY lie inside a quoted value — that is where a hostile title's ` href=` ends up).
    For every configuration, source and mode, in EVERY tag piece of the returned string, EVERY
    occurrence of the six characters ` href=` or the five characters ` src=` (more generally of
    ` name=` for any word `name` without blank, `=`, `"`) is of exactly one of two kinds:
    * it STARTS the call's attribute of that name: before it stand `<tag` and the attributes
      preceding it, after it `"`, the escaped value, `"` and the remaining attributes — and for
      `href` / `src` that value is a `SafeUrl`;
    * it lies wholly INSIDE the quoted value of one attribute `nv` of the call, i.e. inside
      `escape_html nv.2`, which contains no `"` (a quote of the payload is `&quot;` there): the
      browser's double-quoted-value state reads over it. -/
theorem doc_href_occurrences (x : Bool) (cfg : DocCfg) (src : List Char) (out : List Char)
    (h : renderDoc x cfg src = .ok out) :
    ∃ evs' : List Event, out = flatten (pieces x evs') ∧
      ∃ hlen : (pieces x evs').length = evs'.length,
      ∀ (i : Nat) (hi : i < evs'.length) (tag : List Char) (attrs : List (List Char × List Char)),
        (evs'[i] = .open tag attrs ∨ evs'[i] = .selfClose tag attrs) →
        ∀ (n : List Char), ' ' ∉ n ∧ '=' ∉ n ∧ '"' ∉ n → ∀ (pre post : List Char),
          (pieces x evs')[i]'(by rw [hlen]; exact hi) = pre ++ (' ' :: (n ++ ['='])) ++ post →
          (∃ a1 v a2 close, attrs = a1 ++ (n, v) :: a2 ∧ pre = '<' :: (tag ++ attrsStr a1) ∧
            post = '"' :: (escapeHtml v ++ '"' :: (attrsStr a2 ++ close)) ∧
            ((n = aHref ∨ n = aSrc) → ∃ u, SafeUrl u ∧ v = asChars u)) ∨
          (∃ a1 nv a2 v1 v2 close, attrs = a1 ++ nv :: a2 ∧
            escapeHtml nv.2 = v1 ++ (' ' :: (n ++ ['='])) ++ v2 ∧ '"' ∉ escapeHtml nv.2 ∧
            pre = '<' :: (tag ++ (attrsStr a1 ++ (' ' :: (nv.1 ++ ('=' :: '"' :: v1))))) ∧
            post = v2 ++ '"' :: (attrsStr a2 ++ close)) := by
  obtain ⟨evs', hout, hlen, hall⟩ := doc_tag_pieces x cfg src out h
  refine ⟨evs', hout, hlen, ?_⟩
  intro i hi tag attrs hshape n hn pre post hocc
  obtain ⟨close, hclose, hpiece, htag, hnames, hurl, _⟩ := hall i hi tag attrs hshape
  rw [hpiece] at hocc
  have hnm : ∀ nv ∈ attrs, escapeHtml nv.1 = nv.1 ∧ ' ' ∉ nv.1 ∧ '=' ∉ nv.1 := fun nv hnv =>
    allAttrNames_shape nv.1 (NodeRender.attrsFor_subset tag _ (hnames nv hnv))
  rcases tag_piece_boundaries n hn tag (shippedTags_no_blank tag htag) attrs hnm close hclose pre post
      hocc with ⟨a1, v, a2, e1, e2, e3⟩ | ⟨a1, nv, a2, v1, v2, e1, e2, e3, e4⟩
  · refine .inl ⟨a1, v, a2, close, e1, e2, e3, ?_⟩
    intro hname
    exact hurl (n, v) (by rw [e1]; simp) hname
  · exact .inr ⟨a1, nv, a2, v1, v2, close, e1, e2,
      fun hm => ((Render.escapeHtml_escaped nv.2).no_delim _ hm).2.2 rfl, e3, e4⟩

end MdIt.Pipeline
