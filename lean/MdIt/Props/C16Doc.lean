/-
  PROPERTY C16 OVER A WHOLE RUN OF THE INLINE PARSER.

  "Look-ahead never contradicts, alters or replaces real parsing.  Whenever a rule reports in look-ahead
  mode that its construct starts at a position, parsing at that position produces that construct with the
  same extent, and the look-ahead itself leaves the tree untouched."

  `Props/C16.lean`, `Props/Inline.lean`, `Props/Block.lean`, `Props/CodePair.lean` prove this RULE BY RULE
  ("silent = real on the same state").  In a run of `md.inline.parse` that is not enough: look-ahead
  (`skip_token`, memoised in `state.cache`) runs from the label walks of the link / image rule — at a bumped
  level, under the `pos_max` of the top frame —, and the real tokenizer arrives at the memoised positions
  later, in another state: inside the nested label frame, with a smaller `pos_max`, a larger memo and a
  larger code-span cache.  This file states C16 for the run, for EVERY `ChainCoherent` chain (link / image
  at most once each), every content, every `MapOK` offset table, every `max_nesting`, every reference map:

  THE RUN.  `Reach cfg content mapping f s` (`Lemmas/C16DocRun.lean`): the `while state.pos < end` loop of
  `InlineParser::tokenize` stands at the state `s`, with `f` iterations of fuel left, somewhere in the run
  of `parseInline cfg content mapping` — generated by: the initial state; one loop iteration (`tokStep`);
  the entry into a nested label frame (`Enters`: the real chain `Arrives` at the link / image rule, its
  `parse_link` finds a label, the rule hands `nestedState st1 res` to `tokenize`).  Faithfulness:
  `tokLoop_succ`, `arrives_called`, `enters_called` (a panic of an entered frame IS the panic of the step);
  the executable `trace` below lists reached states (`trace_reach`).

  THEOREMS.
    1. `lookahead_quiet_run` — every look-ahead call (the memoised `skip_token`, a label walk `parse_link`,
       a rule in look-ahead mode), from ANY state at any fuel — in particular every such call of the run —,
       leaves `children` (the tree), `bottoms`, the text, the table, `pos_max`, `level`, `link_level` as they
       were; walks and rules also restore `pos`.  Only the memo and the code-span cache change.
       `declined_quiet_run`: behind the real rules of the run that decline after their look-ahead the
       text, `pos_max` and `pos` are as they were.
    2. `lookahead_real_agree_nested` — in every nested label frame the real tokenizer enters, at every
       state at which rules run, the memo HAS an entry `pos ↦ v`, it ends inside the frame, and the real
       step ends at `v` — or is the emphasis rule taking a run of its marker, every character of which is
       a unit entry `k+i ↦ k+i+1` of the memo (look-ahead answers `None` for emphasis by design: its extent
       there is the single character).  `lookahead_real_agree_nested_link`: a link / image the real rule
       of a nested frame produces ends where the memo entry says, and its label walk was a pure replay
       (returned the very state it was given).  `reach_frame_shape`: what "nested frame" means.
    3. `memo_entries_are_lookahead_steps` — at every reached state every memo entry `k ↦ v` is the result of
       one look-ahead run of the chain (`skipStep`) from a state at `k` under the `pos_max` of the top
       frame, or an over-the-limit entry `v = pos_max(top)`.
       `lookahead_real_agree_top_partial` — the top frame: the invariants are kept, every frame entered
       from it satisfies the nested invariant.  The top-frame analogue of 2 is `lookahead_real_agree_top`
       (section "the TOP frame" at the end of the file), with `reach_top_ifp`, the document-level
       corollaries and instances.
    4. `incoherent_lookahead_real_disagree` — the necessity witness: for the NON-coherent chain
       `witnessCfg` (emphasis on the backtick in front of the code-span rule) look-ahead and real parsing
       tile the text differently, in the top frame and in the nested frame, and the run panics.
    5. non-vacuity: `decide +kernel` instances on "[a `b` *c*](u) `d`", "[x [y](v) z](u)", "[a **b**](u)";
       `reach_total` / `reach_step_ok` — every reached loop returns, so at a reached state inside its frame
       the real step DOES return a state (the `∀ s'` of 2 is never vacuous).
    6. `doc_lookahead_real_agree` / `doc_lookahead_real_agree_stock` — document level: 2 and `reach_total` at
       every inline placeholder of the block tree of `Pipeline.parseDoc` (stock configuration: every
       tab-free source within the `i32` size bound).
-/
import MdIt.Lemmas.C16DocTop
import MdIt.Lemmas.MemoSafeLamESDoc

namespace MdIt.Inline.ES.C16Doc
open MdIt.Inline
open MdIt.InlineOps (Srcmap slice)

/-! ## look-ahead is quiet (1), the nested label frames (2) -/

/-- a rule in look-ahead mode restores `state.pos` (unconditionally) -/
theorem runRule_silent_pos {cfg : Cfg} {skip tok : IState → Except Panic IState}
    {fuel : Nat} {id : RuleId} {st : IState} {o : Option Nat} {st' : IState}
    (h : runRule cfg skip tok fuel id st true = .ok (o, st')) : st'.pos = st.pos := by
  by_cases hf : id.isFlat = true
  · exact (runRule_flat_simple hf h).pos
  · have hlr : ∀ mk en offset, linkRule cfg skip tok fuel mk en offset st true = .ok (o, st') →
        st'.pos = st.pos := fun mk en offset h => by
      obtain ⟨r0, hp, _, _⟩ := linkRule_silent_inv h
      exact parseLink_pos hp
    cases id with
    | link =>
      rcases ruleLink_ok h with ⟨_, rfl⟩ | ⟨_, _, h⟩
      · rfl
      · exact hlr _ _ _ h
    | image =>
      rcases ruleImage_ok h with ⟨_, rfl⟩ | ⟨_, _, h⟩
      · rfl
      · exact hlr _ _ _ h
    | _ => simp [RuleId.isFlat] at hf

/-- **C16, look-ahead leaves the tree untouched — every look-ahead call of a run.**
    For every chain (no hypothesis), every fuel `f`, from EVERY state `s`:
    * the memoised `skip_token` (`skipToken cfg f`) returns a state with the same `children` (the tree
      under construction), `bottoms`, `src`, `srcmap`, `pos_max`, `level`, `link_level` (`Calm`) — only
      `pos` (its answer), the memo `cache` and the code-span cache `backticks` may differ;
    * a label walk `parse_link` over it does the same and restores `pos`;
    * a rule of the chain run in look-ahead mode (`silent = true`) does the same and restores `pos`.
    Every look-ahead of a run of `parseInline` is one of these calls (the real link / image rule looks
    ahead with `parse_link` only, `skip_token` runs the chain with `silent = true` only), so along the
    whole run look-ahead changes nothing but the two caches. -/
theorem lookahead_quiet_run (cfg : Cfg) (f : Nat) :
    (∀ s s', skipToken cfg f s = .ok s' → Calm s s') ∧
    (∀ n s p en r s', parseLink cfg (fun s => skipToken cfg f s) n s p en = .ok (r, s') →
      Calm s s' ∧ s'.pos = s.pos) ∧
    (∀ n id s o s', runRule cfg (fun s => skipToken cfg f s) (fun s => tokLoop cfg f s.posMax s) n id s
      true = .ok (o, s') → Calm s s' ∧ s'.pos = s.pos) :=
  ⟨fun s s' h => skipToken_calm cfg f s s' h,
   fun _ _ _ _ _ _ h => ⟨parseLink_calm (skipToken_calm cfg f) h, parseLink_pos h⟩,
   fun _ _ _ _ _ h => ⟨runRule_silent_calm (skipToken_calm cfg f) h, runRule_silent_pos h⟩⟩

section
variable {cfg : Cfg} {content : List Char} {mapping : Srcmap}

/-- **what the frames of a run are.**  A reached state below the nesting limit reads the content; its
    frame is the top frame (`pos_max` is the top `pos_max`), or a nested label frame: it ends before the
    top `pos_max`, at a `]` -/
theorem reach_frame_shape (hc : ChainCoherent cfg = true)
    (hone : cfg.chain.count .link ≤ 1 ∧ cfg.chain.count .image ≤ 1) (hm : MapOK content mapping)
    {f : Nat} {s : IState} (hR : Reach cfg content mapping f s) (hl : s.level < cfg.maxNesting) :
    s.src = content ∧
    (s.posMax = topEnd content mapping ∨
      (s.posMax < topEnd content mapping ∧
        ∃ r, slice content s.posMax (topEnd content mapping) = .ok (']' :: r))) := by
  rcases reach_inv hc hone hm f s hR hl with T | N
  · exact ⟨T.inv.hsrc, .inl T.inv.hmax⟩
  · exact ⟨N.hsrc, .inr ⟨N.top_lt, N.cut⟩⟩

/-- **C16 for the run, nested label frames: the real step ends where look-ahead said.**
    Let `s` be a state of the run of `parseInline cfg content mapping` (`Reach`) in a NESTED label frame
    (`pos_max` is not the top `pos_max`), at which rules run (below the nesting limit, `pos < pos_max`).
    Then the `skip_token` memo HAS an entry `s.pos ↦ v` — look-ahead has been here —, the entry ends inside
    the frame (`s.pos < v ≤ s.posMax`), and whenever the real step from `s` returns (`tokStep` over the
    model's callees, at any fuel `g`) it `Agrees` with the entry: it ends at `v`, or it is the emphasis
    rule of the chain taking a run of `n` of its marker inside the frame, each character of which is a
    unit entry `s.pos + i ↦ s.pos + i + 1` of the memo.  The step leaves the memo alone. -/
theorem lookahead_real_agree_nested (hc : ChainCoherent cfg = true)
    (hone : cfg.chain.count .link ≤ 1 ∧ cfg.chain.count .image ≤ 1) (hm : MapOK content mapping)
    {f : Nat} {s : IState} (hR : Reach cfg content mapping f s)
    (hnest : s.posMax ≠ topEnd content mapping) (hl : s.level < cfg.maxNesting)
    (hlt : s.pos < s.posMax) :
    ∃ v, s.cache.lookup s.pos = some v ∧ s.pos < v ∧ v ≤ s.posMax ∧
      ∀ g s', tokStep cfg (fun s => skipToken cfg g s) (fun s => tokLoop cfg g s.posMax s) g s = .ok s' →
        Agrees cfg content s.cache s.pos s.posMax v s'.pos ∧ s'.cache = s.cache := by
  have H := hyps_all (content := content) (mapping := mapping) hc hone
  rcases reach_inv hc hone hm f s hR hl with T | N
  · exact absurd T.inv.hmax hnest
  · obtain ⟨v, h1, h2, h3, _, _⟩ := nested_agree H (callees_of H 0 (nested_eq H 0)) N hl hlt
    refine ⟨v, h1, h2, h3, ?_⟩
    intro g s' hs
    obtain ⟨v', h1', _, _, hS, _⟩ := nested_agree H (callees_of H g (nested_eq H g)) N hl hlt
    have : v' = v := by rw [h1] at h1'; exact (Option.some.inj h1').symm
    subst this
    exact ⟨(hS s' hs).1, (hS s' hs).2.1⟩

/-- **C16 for the run, nested label frames: the link / image the real rule produces.**
    In the situation of `lookahead_real_agree_nested`, when the real chain arrives at the link / image
    rule at the state `x` and its `parse_link` finds a label (result `res`, state `st1`): the walk was a
    pure replay of the memo — it returned the very state it was given, `st1 = x`, not even the memo
    grew —, and the construct ends where the memo entry of the position says, `res.endPos = v`. -/
theorem lookahead_real_agree_nested_link (hc : ChainCoherent cfg = true)
    (hone : cfg.chain.count .link ≤ 1 ∧ cfg.chain.count .image ≤ 1) (hm : MapOK content mapping)
    {f : Nat} {s : IState} (hR : Reach cfg content mapping f s)
    (hnest : s.posMax ≠ topEnd content mapping) (hl : s.level < cfg.maxNesting)
    (hlt : s.pos < s.posMax) {g : Nat} {id : RuleId} {x : IState} {offset : Nat} {en : Bool}
    {res : LinkRes} {st1 : IState}
    (hA : Arrives (fun id s => runRule cfg (fun s => skipToken cfg g s)
      (fun s => tokLoop cfg g s.posMax s) g id s false) cfg.chain s id x)
    (hshape : LinkShape id offset en x)
    (hp : parseLink cfg (fun s => skipToken cfg g s) g x (x.pos + offset) en = .ok (some res, st1)) :
    st1 = x ∧ s.cache.lookup s.pos = some res.endPos := by
  have H := hyps_all (content := content) (mapping := mapping) hc hone
  rcases reach_inv hc hone hm f s hR hl with T | N
  · exact absurd T.inv.hmax hnest
  · obtain ⟨v, h1, _, _, _, hE⟩ := nested_agree H (callees_of H g (nested_eq H g)) N hl hlt
    obtain ⟨e1, e2, _⟩ := hE id x offset en res st1 hA hshape hp
    exact ⟨e1, by rw [e2]; exact h1⟩

/-- **behind the real rules of the run that decline the text, `pos_max` and the position are as they
    were** (top frame and nested frames, below the nesting limit): `x` is the state at which the real
    chain arrives at a rule, `s` the state of the loop — whatever look-ahead the declining rules in front
    of it did -/
theorem declined_quiet_run (hc : ChainCoherent cfg = true)
    (hone : cfg.chain.count .link ≤ 1 ∧ cfg.chain.count .image ≤ 1) (hm : MapOK content mapping)
    {f : Nat} {s : IState} (hR : Reach cfg content mapping f s) (hl : s.level < cfg.maxNesting)
    (hlt : s.pos < s.posMax) {g : Nat} {id : RuleId} {x : IState}
    (hA : Arrives (fun id s => runRule cfg (fun s => skipToken cfg g s)
      (fun s => tokLoop cfg g s.posMax s) g id s false) cfg.chain s id x) :
    x.src = s.src ∧ x.posMax = s.posMax ∧ x.pos = s.pos := by
  have H := hyps_all (content := content) (mapping := mapping) hc hone
  rcases reach_inv hc hone hm f s hR hl with T | N
  · obtain ⟨_, a, b, c⟩ := top_arrives false hc hone T hlt
      (by simpa only [skipTokenG_false, tokLoopG_false] using hA)
    exact ⟨c, b, a⟩
  · -- a nested frame: the state is paired with the witness at the same position
    obtain ⟨v, ch, rest, skip0, tok0, f0, _, _, _, _, arr⟩ :=
      NestKit.nested_arrives (nestKit_loop H) (callees_of H g (nested_eq H g)).toKit N hlt
    obtain ⟨w, _, _, P2, _⟩ := arr id x hA
    exact ⟨P2.n.hsrc.trans N.hsrc.symm, P2.xmax, P2.xpos⟩

/-- **every reached loop state is really run, and runs to completion**: the loop from a reached state,
    with the fuel it has, returns (no panic, fuel suffices) — so the `∀ s'` of the agreement theorems is
    never vacuous: at a reached state with `pos < pos_max` the real step does return a state -/
theorem reach_total (hc : ChainCoherent cfg = true)
    (hone : cfg.chain.count .link ≤ 1 ∧ cfg.chain.count .image ≤ 1) (hm : MapOK content mapping) :
    ∀ f s, Reach cfg content mapping f s → ∃ r, tokLoop cfg f s.posMax s = .ok r := by
  intro f s hR
  induction hR with
  | init =>
    obtain ⟨cs, hcs⟩ := ES.parseInline_total cfg hc hone hm
    unfold parseInline tokenize at hcs
    split at hcs
    · simp at hcs
    · next st hst => exact ⟨st, hst⟩
  | step hR' hlt hstep ih =>
    rename_i f s s'
    obtain ⟨r, hr⟩ := ih
    rw [tokLoop_succ cfg f s.posMax s hlt, hstep] at hr
    have hpm := (step_frame hc hone (reach_inv hc hone hm _ _ hR') hlt hstep).1
    exact ⟨r, by rw [hpm]; exact hr⟩
  | enter hR' hlt hl hE ih =>
    rename_i f s y
    obtain ⟨r, hr⟩ := ih
    cases hy : tokLoop cfg f y.posMax y with
    | ok r' => exact ⟨r', rfl⟩
    | error e =>
      rw [tokLoop_succ cfg f s.posMax s hlt, enters_called hE hl hy] at hr
      simp at hr

/-- at a reached state inside its frame the real step returns a state -/
theorem reach_step_ok (hc : ChainCoherent cfg = true)
    (hone : cfg.chain.count .link ≤ 1 ∧ cfg.chain.count .image ≤ 1) (hm : MapOK content mapping)
    {f : Nat} {s : IState} (hR : Reach cfg content mapping (f + 1) s) (hlt : s.pos < s.posMax) :
    ∃ s', tokStep cfg (fun s => skipToken cfg f s) (fun s => tokLoop cfg f s.posMax s) f s = .ok s' := by
  obtain ⟨r, hr⟩ := reach_total hc hone hm _ _ hR
  rw [tokLoop_succ cfg f s.posMax s hlt] at hr
  split at hr
  · simp at hr
  · next s' hs => exact ⟨s', hs⟩

/-! ## the memo, and the top frame (3) -/

/-- **every memo entry of the run is a look-ahead step.**  At every reached state below the nesting
    limit, every entry `k ↦ v` of the `skip_token` memo ends inside the top frame, and is an over-the-limit
    entry `v = pos_max(top)` ("too much nesting, skip until the end of the paragraph") or the answer of ONE
    look-ahead run of the chain: `skipStep` from a state `st0` on the content, under the top `pos_max`, at
    `k`, behind a memo miss, which answered `v` (over look-ahead callees `skip0` that are quiet) -/
theorem memo_entries_are_lookahead_steps (hc : ChainCoherent cfg = true)
    (hone : cfg.chain.count .link ≤ 1 ∧ cfg.chain.count .image ≤ 1) (hm : MapOK content mapping)
    {f : Nat} {s : IState} (hR : Reach cfg content mapping f s) (hl : s.level < cfg.maxNesting)
    {k v : Nat} (hkv : (k, v) ∈ s.cache) :
    k < v ∧ v ≤ topEnd content mapping ∧
    (v = topEnd content mapping ∨
      ∃ (skip0 tok0 : IState → Except Panic IState) (f0 : Nat) (st0 st0' : IState), CalmFn skip0 ∧
        st0.src = content ∧ st0.posMax = topEnd content mapping ∧ st0.pos = k ∧
        st0.cache.lookup k = none ∧ skipStep cfg skip0 tok0 f0 st0 = .ok st0' ∧ st0'.pos = v) := by
  have unpack : ∀ m, Just cfg (BE cfg) content (topEnd content mapping) m k v →
      v ≤ topEnd content mapping ∧
      ∃ (skip0 tok0 : IState → Except Panic IState) (f0 : Nat) (st0 st0' : IState), CalmFn skip0 ∧
        st0.src = content ∧ st0.posMax = topEnd content mapping ∧ st0.pos = k ∧
        st0.cache.lookup k = none ∧ skipStep cfg skip0 tok0 f0 st0 = .ok st0' ∧ st0'.pos = v := by
    intro m hJ
    obtain ⟨skip0, tok0, f0, st0, st0', a1, a2, a3, a4, a5, a6, a7, a8, a9, a10, a11, a12, _⟩ := hJ
    have hle := ((skipStep_T (cfg := cfg) (tok := tok0) a1 a2 f0 st0 a4 a8).ok st0' a11).2.2.1
    refine ⟨by rw [← a12, ← a6]; exact hle, skip0, tok0, f0, st0, st0', a1, a5, a6, a7, a10, a11, a12⟩
  rcases reach_inv hc hone hm f s hR hl with T | N
  · have hlt := (T.memo k v hkv).1
    rcases T.inv.just k v hkv with h | h
    · exact ⟨hlt, Nat.le_of_eq h, .inl h⟩
    · exact ⟨hlt, (unpack _ h).1, .inr (unpack _ h).2⟩
  · have hlt := (N.ctx.memo k v hkv).1
    rcases N.ctx.just k v hkv with h | h
    · exact ⟨hlt, Nat.le_of_eq h, .inl h⟩
    · exact ⟨hlt, (unpack _ h).1, .inr (unpack _ h).2⟩

/-- **the top frame: a closed memo, steps stay in it, entered frames are nested.**  At a state `s` of the
    TOP frame of the run at which rules run:
    the memo is closed under the frame (every entry ends at or before `pos_max`, so no memo hit can send
    a label walk beyond it); one real step leads to a state of the top frame again, at the same `level`;
    and every nested label frame the step enters is a frame `lookahead_real_agree_nested` speaks about
    (it ends before the top `pos_max`: the label walk that found it ended at its `]`). -/
theorem lookahead_real_agree_top_partial (hc : ChainCoherent cfg = true)
    (hone : cfg.chain.count .link ≤ 1 ∧ cfg.chain.count .image ≤ 1) (hm : MapOK content mapping)
    {f : Nat} {s : IState} (hR : Reach cfg content mapping f s)
    (htop : s.posMax = topEnd content mapping) (hl : s.level < cfg.maxNesting)
    (hlt : s.pos < s.posMax) :
    (∀ k v, (k, v) ∈ s.cache → v ≤ s.posMax) ∧
    (∀ g s', tokStep cfg (fun s => skipToken cfg g s) (fun s => tokLoop cfg g s.posMax s) g s = .ok s' →
      s'.posMax = s.posMax ∧ s'.level = s.level ∧ s.pos < s'.pos ∧ s'.pos ≤ s'.posMax) ∧
    (∀ g y, Enters cfg g s y → y.posMax < topEnd content mapping ∧ s.pos < y.pos ∧
      ∃ r, slice content y.posMax (topEnd content mapping) = .ok (']' :: r)) := by
  rcases reach_inv hc hone hm f s hR hl with T | N
  · refine ⟨fun k v hkv => by rw [T.inv.hmax]; exact T.inv.le k v hkv, ?_, ?_⟩
    · intro g s' hs
      obtain ⟨T', hlev, hpos⟩ := top_step (mapping := mapping) hc hone T hl hlt hs
      obtain ⟨lo', hg'⟩ := T'.good
      exact ⟨by rw [T'.inv.hmax, T.inv.hmax], hlev, hpos, hg'.le⟩
    · intro g y hE
      have N := top_enters (mapping := mapping) hc hone T hlt hE
      refine ⟨N.top_lt, ?_, N.cut⟩
      obtain ⟨id, x, offset, en, res, st1, hA, hshape, hp, rfl⟩ := hE
      have hx := (declined_quiet_run hc hone hm hR hl hlt hA).2.2
      have : res.labelStart = x.pos + offset + 1 := parseLink_labelStart hp
      show s.pos < res.labelStart
      omega
  · have := N.top_lt
    omega

/-
  `lookahead_real_agree_top` (at the end of this file) excludes entries that end at the top `pos_max`
  (`overlimit_entry_disagrees` below: an over-the-limit entry `k ↦ topEnd` made at a bumped level is NOT
  what the real step at level `0` does — harmless in the top frame, where the only reader of such an entry
  is a label walk, which it makes fail), and its emphasis disjunct says `v = k + 1` for the entry at the
  start of the run only (`AgreesTop`): the unit entries of the FURTHER characters of the run are a fact
  about label walks (`marker_units` needs the walk that the nested frame invariant carries; the top frame
  carries none).
-/

end

/-! ## the executable trace of a run -/

/-- one observation: the frame end and level of a state at which the loop stands, its position, the
    memo entry of the position, and where the real step from it ends (`none`: the step panics) -/
structure Obs where
  frameEnd : Nat
  level : Nat
  pos : Nat
  entry : Option Nat
  realEnd : Option Nat
  deriving Repr, DecidableEq

/-- the nested frame the rule `id` enters from `st`, if it is the link / image rule at its marker and its
    `parse_link` finds a label -/
def linkEntry (cfg : Cfg) (f : Nat) (id : RuleId) (st : IState) : List IState :=
  match id, st.window with
  | .link, .ok ('[' :: _) =>
    match parseLink cfg (fun s => skipToken cfg f s) f st (st.pos + 0) false with
    | .ok (some res, st1) => [nestedState st1 res]
    | _ => []
  | .image, .ok ('!' :: '[' :: _) =>
    match parseLink cfg (fun s => skipToken cfg f s) f st (st.pos + 1) true with
    | .ok (some res, st1) => [nestedState st1 res]
    | _ => []
  | _, _ => []

/-- the nested frames the real chain `rules` enters from `st` -/
def entered (cfg : Cfg) (f : Nat) : List RuleId → IState → List IState
  | [], _ => []
  | id :: rs, st =>
    linkEntry cfg f id st ++
    match runRule cfg (fun s => skipToken cfg f s) (fun s => tokLoop cfg f s.posMax s) f id st false with
    | .ok (none, st') => entered cfg f rs st'
    | _ => []

def obsOf (cfg : Cfg) (f : Nat) (s : IState) : Obs :=
  ⟨s.posMax, s.level, s.pos, s.cache.lookup s.pos,
    match tokStep cfg (fun s => skipToken cfg f s) (fun s => tokLoop cfg f s.posMax s) f s with
    | .ok s' => some s'.pos
    | .error _ => none⟩

/-- the observations of the loop at `s` with fuel `f`, the frames it enters included (depth first) -/
def trace (cfg : Cfg) : Nat → IState → List Obs
  | 0, _ => []
  | f + 1, s =>
    if s.pos < s.posMax then
      obsOf cfg f s ::
        ((if s.level < cfg.maxNesting then (entered cfg f cfg.chain s).flatMap (fun y => trace cfg f y)
          else []) ++
         (match tokStep cfg (fun s => skipToken cfg f s) (fun s => tokLoop cfg f s.posMax s) f s with
          | .ok s' => trace cfg f s'
          | .error _ => []))
    else []

/-- the observations of the run of `parseInline cfg content [(0, 0)]` -/
def runTrace (cfg : Cfg) (content : List Char) : List Obs :=
  trace cfg (topFuel cfg content) (IState.init content [(0, 0)])

theorem linkEntry_enters {cfg : Cfg} {f : Nat} {id : RuleId} {st y : IState}
    (h : y ∈ linkEntry cfg f id st) :
    ∃ offset en res st1, LinkShape id offset en st ∧
      parseLink cfg (fun s => skipToken cfg f s) f st (st.pos + offset) en = .ok (some res, st1) ∧
      y = nestedState st1 res := by
  unfold linkEntry at h
  split at h
  · next r hw =>
    split at h
    · next res st1 hp =>
      simp only [List.mem_singleton] at h
      exact ⟨0, false, res, st1, .inl ⟨rfl, rfl, rfl, r, hw⟩, hp, h⟩
    · simp at h
  · next r hw =>
    split at h
    · next res st1 hp =>
      simp only [List.mem_singleton] at h
      exact ⟨1, true, res, st1, .inr ⟨rfl, rfl, rfl, r, hw⟩, hp, h⟩
    · simp at h
  · simp at h

theorem entered_enters {cfg : Cfg} {f : Nat} : ∀ (rules : List RuleId) (st y : IState),
    y ∈ entered cfg f rules st →
    ∃ id x offset en res st1,
      Arrives (fun id s => runRule cfg (fun s => skipToken cfg f s) (fun s => tokLoop cfg f s.posMax s) f
        id s false) rules st id x ∧
      LinkShape id offset en x ∧
      parseLink cfg (fun s => skipToken cfg f s) f x (x.pos + offset) en = .ok (some res, st1) ∧
      y = nestedState st1 res := by
  intro rules
  induction rules with
  | nil => intro st y h; simp [entered] at h
  | cons id rs ih =>
    intro st y h
    unfold entered at h
    rcases List.mem_append.mp h with h1 | h2
    · obtain ⟨offset, en, res, st1, a, b, c⟩ := linkEntry_enters h1
      exact ⟨id, st, offset, en, res, st1, Arrives.here _ _ _, a, b, c⟩
    · split at h2
      · next st' hrun =>
        obtain ⟨id', x, offset, en, res, st1, a, b, c, d⟩ := ih st' y h2
        exact ⟨id', x, offset, en, res, st1, Arrives.next hrun a, b, c, d⟩
      · simp at h2

/-- **the executable trace lists reached states**: every observation of `trace cfg f s`, for a reached
    `s`, is the observation `obsOf cfg g s0` of a state `s0` of the run at which the loop iterates -/
theorem trace_reach {cfg : Cfg} {content : List Char} {mapping : Srcmap} :
    ∀ (f : Nat) (s : IState), Reach cfg content mapping f s → ∀ o ∈ trace cfg f s,
      ∃ g s0, Reach cfg content mapping (g + 1) s0 ∧ s0.pos < s0.posMax ∧ o = obsOf cfg g s0 := by
  intro f
  induction f with
  | zero => intro s _ o h; simp [trace] at h
  | succ f ih =>
    intro s hR o h
    unfold trace at h
    split at h
    · next hlt =>
      rcases List.mem_cons.mp h with h | h
      · exact ⟨f, s, hR, hlt, h⟩
      · rcases List.mem_append.mp h with h | h
        · split at h
          · next hl =>
            obtain ⟨y, hy, ho⟩ := List.mem_flatMap.mp h
            obtain ⟨id, x, offset, en, res, st1, a, b, c, d⟩ := entered_enters _ _ _ hy
            exact ih y (Reach.enter hR hlt hl ⟨id, x, offset, en, res, st1, a, b, c, d⟩) o ho
          · simp at h
        · split at h
          · next s' hs => exact ih s' (Reach.step hR hlt hs) o h
          · simp at h
    · simp at h

/-- the observations of `runTrace` are observations of states of the run -/
theorem runTrace_reach {cfg : Cfg} {content : List Char} {o : Obs} (h : o ∈ runTrace cfg content) :
    ∃ g s0, Reach cfg content [(0, 0)] (g + 1) s0 ∧ s0.pos < s0.posMax ∧ o = obsOf cfg g s0 :=
  trace_reach _ _ Reach.init o h

/-! ## the necessity witness (4), non-vacuity (5) -/

/-- **non-vacuity of `lookahead_real_agree_nested`** on "[a `b` *c*](u) `d`" (chain with `*` emphasis,
    code spans, links): the whole trace.  Top frame `[0, 18)`: no memo entry at the positions the top
    tokenizer reaches (`0`: the link, ends at `14`; then the blank and the code span `d`).  Nested label
    frame `[1, 10)` at level 1: at EVERY position the memo has an entry and the real step ends there —
    the text `a `, the code span `1 + 2 ↦ 6`, the blank, the emphasis markers (unit entries), `c`. -/
theorem nested_agree_instance :
    runTrace (exCfg 100) "[a `b` *c*](u) `d`".toList =
      [⟨18, 0, 0, none, some 14⟩,
       ⟨10, 1, 1, some 3, some 3⟩, ⟨10, 1, 3, some 6, some 6⟩, ⟨10, 1, 6, some 7, some 7⟩,
       ⟨10, 1, 7, some 8, some 8⟩, ⟨10, 1, 8, some 9, some 9⟩, ⟨10, 1, 9, some 10, some 10⟩,
       ⟨18, 0, 14, none, some 15⟩, ⟨18, 0, 15, none, some 18⟩] := by
  decide +kernel

/-- the hypotheses of `lookahead_real_agree_nested` are satisfiable: a state of that run, in the nested
    frame `[1, 10)`, at the code span (position `3`, memo entry `3 ↦ 6`) -/
example : ∃ g s, Reach (exCfg 100) "[a `b` *c*](u) `d`".toList [(0, 0)] (g + 1) s ∧
    s.posMax ≠ topEnd "[a `b` *c*](u) `d`".toList [(0, 0)] ∧ s.level < (exCfg 100).maxNesting ∧
    s.pos < s.posMax ∧ s.pos = 3 ∧ s.cache.lookup s.pos = some 6 := by
  obtain ⟨g, s, hR, hlt, ho⟩ := runTrace_reach (cfg := exCfg 100)
    (content := "[a `b` *c*](u) `d`".toList) (o := ⟨10, 1, 3, some 6, some 6⟩)
    (by rw [nested_agree_instance]; decide)
  have h1 : s.posMax = 10 := (congrArg Obs.frameEnd ho).symm
  have h2 : s.level = 1 := (congrArg Obs.level ho).symm
  have h3 : s.pos = 3 := (congrArg Obs.pos ho).symm
  have h4 : s.cache.lookup s.pos = some 6 := (congrArg Obs.entry ho).symm
  refine ⟨g, s, hR, ?_, ?_, hlt, h3, h4⟩
  · rw [h1]; decide
  · rw [h2]; decide

/-- the emphasis disjunct of `Agrees` is needed: on "[a **b**](u)" (stock chain) the real emphasis rule
    at `3` takes the run `**` (ends at `5`), the memo has the unit entries `3 ↦ 4`, `4 ↦ 5` of look-ahead -/
theorem emphasis_run_instance :
    runTrace (stockCfg 100) "[a **b**](u)".toList =
      [⟨12, 0, 0, none, some 12⟩, ⟨8, 1, 1, some 3, some 3⟩, ⟨8, 1, 3, some 4, some 5⟩,
       ⟨8, 1, 5, some 6, some 6⟩, ⟨8, 1, 6, some 7, some 8⟩] := by
  decide +kernel

/-- **an instance of `lookahead_real_agree_top`** on "[x [y](v) z](u)": the outer bracket is no link
    (links do not nest), its label walk memoised `1 ↦ 3` and the inner link `3 ↦ 9`; the top-frame
    tokenizer reaches both afterwards and the real link rule produces the inner link with the same end
    `9`; inside its label `[4, 5)` the entry `4 ↦ 5` is followed -/
theorem top_agree_instance :
    runTrace (exCfg 100) "[x [y](v) z](u)".toList =
      [⟨15, 0, 0, none, some 1⟩, ⟨15, 0, 1, some 3, some 3⟩, ⟨15, 0, 3, some 9, some 9⟩,
       ⟨5, 1, 4, some 5, some 5⟩, ⟨15, 0, 9, none, some 11⟩, ⟨15, 0, 11, none, some 12⟩,
       ⟨15, 0, 12, none, some 15⟩] := by
  decide +kernel

/-- why `lookahead_real_agree_top` excludes entries that end at the top `pos_max`: with
    `max_nesting = 1` on "[[a](b)](c)" the look-ahead at the bumped level made the over-the-limit entry
    `2 ↦ 11`; the real step at `2` (level `0`) is the one character `[` -/
theorem overlimit_entry_disagrees :
    (⟨11, 0, 2, some 11, some 3⟩ : Obs) ∈ runTrace (exCfg 1) "[[a](b)](c)".toList := by
  decide +kernel

/-- **THE NECESSITY WITNESS: without `ChainCoherent` look-ahead and real parsing disagree.**
    `witnessCfg` registers an emphasis pair on the backtick IN FRONT OF the code-span rule; the chain is
    not coherent (the code-span rule fires at the marker).  On "[`[a`[`](u) `":
    * top frame, position `1`: look-ahead said "code span `1 ↦ 5`" (the emphasis rule answers `None` in
      look-ahead mode by design, the code-span rule behind it answers), real parsing produces the
      emphasis delimiter, `1 ↦ 2` — the two tile the text differently;
    * so the real tokenizer arrives at `2`, inside the look-ahead's code span, where look-ahead never was
      (no entry), and the real link rule there finds the label `[3, 7)`;
    * nested frame `[3, 7)`: at `4` the entry says `7`, the real step ends at `5`; at `5` the entry `5 ↦ 6`
      sends the label walk of the link rule to `6`, whose entry `6 ↦ 13` lies beyond the frame end `7`:
      the step panics (`witness_panics`: slice `src[13..7]`), and so does the whole run.
    With the coherent order (code spans first) every observation agrees. -/
theorem incoherent_lookahead_real_disagree :
    ChainCoherent witnessCfg = false ∧
    runTrace witnessCfg witness =
      [⟨13, 0, 0, none, some 1⟩, ⟨13, 0, 1, some 5, some 2⟩, ⟨13, 0, 2, none, none⟩,
       ⟨7, 1, 3, some 4, some 4⟩, ⟨7, 1, 4, some 7, some 5⟩, ⟨7, 1, 5, some 6, none⟩] ∧
    (runTrace { witnessCfg with chain := [.backticks, .emph '`' true, .link] } witness).all
      (fun o => o.entry = none ∨ o.entry = o.realEnd) = true := by
  decide +kernel

end MdIt.Inline.ES.C16Doc

/-! ## the whole document (6) -/

namespace MdIt.Pipeline
open MdIt MdIt.Inline MdIt.Inline.ES.C16Doc

/-- **C16 for the run, at document level.**  For every document configuration whose inline chain is
    coherent (link / image at most once), every source (size bound of the `i32` offsets, paragraph rule, no
    tab split by a container indent): at EVERY inline placeholder of the block tree of the document —
    content `c`, offset table `m`, parsed by `parseInline (cfg.inlineCfg refs) c m` in `parseDoc` — the
    run-level statements hold: `lookahead_real_agree_nested` (in every nested label frame the real step
    ends where the memo entry says, or is an emphasis run over unit entries) and `reach_total` (every
    reached loop returns) -/
theorem doc_lookahead_real_agree (cfg : DocCfg) (src : List Char)
    (hc : Inline.ChainCoherent (cfg.inlineCfg []) = true)
    (hone : cfg.inlineChain.count .link ≤ 1 ∧ cfg.inlineChain.count .image ≤ 1)
    (hsmall : 4 * Lines.byteLen src + 8 < 2147483648) (hpara : cfg.hasPara = true)
    (hnv : NoSplitTab cfg src) {root : Block.BNode} {refs : Refs.RefMap}
    (hb : Block.parseBlocks cfg.blockCfg src = .ok (root, refs)) :
    Block.AllInl (fun c m => ∀ f s, Reach (cfg.inlineCfg refs) c m f s →
      (∃ r, tokLoop (cfg.inlineCfg refs) f s.posMax s = .ok r) ∧
      (s.posMax ≠ topEnd c m → s.level < (cfg.inlineCfg refs).maxNesting → s.pos < s.posMax →
        ∃ v, s.cache.lookup s.pos = some v ∧ s.pos < v ∧ v ≤ s.posMax ∧
          ∀ g s', tokStep (cfg.inlineCfg refs) (fun s => skipToken (cfg.inlineCfg refs) g s)
              (fun s => tokLoop (cfg.inlineCfg refs) g s.posMax s) g s = .ok s' →
            Agrees (cfg.inlineCfg refs) c s.cache s.pos s.posMax v s'.pos ∧ s'.cache = s.cache)) root :=
  (doc_tables_mapOK cfg src hsmall hpara hnv hb).imp (fun _ _ hm f s hR =>
    ⟨reach_total (cfg := cfg.inlineCfg refs) hc hone hm f s hR,
     fun hn hl hlt => lookahead_real_agree_nested (cfg := cfg.inlineCfg refs) hc hone hm hR hn hl hlt⟩)

/-- the stock configuration with strikethrough (`exCfg`), any `max_nesting`, sourcepos on or off, meets the
    hypotheses of the document-level theorems on every source without tab within the size bound -/
theorem exCfg_run_hyps (sp : Bool) (mn : Nat) (src : List Char) (htab : '\t' ∉ src)
    (hsmall : 4 * Lines.byteLen src + 8 < 2147483648) :
    Inline.ChainCoherent ((exCfg sp mn).inlineCfg []) = true ∧
    ((exCfg sp mn).inlineChain.count .link ≤ 1 ∧ (exCfg sp mn).inlineChain.count .image ≤ 1) ∧
    (exCfg sp mn).hasPara = true ∧ NoSplitTab (exCfg sp mn) src := by
  obtain ⟨hc, hone, hpara⟩ := exCfg_stock sp mn
  exact ⟨hc, hone, hpara, noSplitTab_of_tabFree (exCfg sp mn) src hsmall hpara htab⟩

/-- … for the stock configuration with strikethrough (`exCfg`), any `max_nesting`, sourcepos on or off,
    every source without tab within the size bound -/
theorem doc_lookahead_real_agree_stock (sp : Bool) (mn : Nat) (src : List Char) (htab : '\t' ∉ src)
    (hsmall : 4 * Lines.byteLen src + 8 < 2147483648) {root : Block.BNode} {refs : Refs.RefMap}
    (hb : Block.parseBlocks (exCfg sp mn).blockCfg src = .ok (root, refs)) :
    Block.AllInl (fun c m => ∀ f s, Reach ((exCfg sp mn).inlineCfg refs) c m f s →
      (∃ r, tokLoop ((exCfg sp mn).inlineCfg refs) f s.posMax s = .ok r) ∧
      (s.posMax ≠ topEnd c m → s.level < ((exCfg sp mn).inlineCfg refs).maxNesting → s.pos < s.posMax →
        ∃ v, s.cache.lookup s.pos = some v ∧ s.pos < v ∧ v ≤ s.posMax ∧
          ∀ g s', tokStep ((exCfg sp mn).inlineCfg refs)
              (fun s => skipToken ((exCfg sp mn).inlineCfg refs) g s)
              (fun s => tokLoop ((exCfg sp mn).inlineCfg refs) g s.posMax s) g s = .ok s' →
            Agrees ((exCfg sp mn).inlineCfg refs) c s.cache s.pos s.posMax v s'.pos ∧
              s'.cache = s.cache)) root :=
  have ⟨hc, hone, hpara, hnv⟩ := exCfg_run_hyps sp mn src htab hsmall
  doc_lookahead_real_agree (exCfg sp mn) src hc hone hsmall hpara hnv hb

/-- the hypothesis `hb` of the document-level theorems is always satisfiable: the block pass is total;
    and `parseDoc` is the inline pass over the placeholders of that very block tree -/
example (sp : Bool) (mn : Nat) (src : List Char) :
    ∃ root refs, Block.parseBlocks (exCfg sp mn).blockCfg src = .ok (root, refs) ∧
      parseDoc (exCfg sp mn) src = afterBlocks (exCfg sp mn) src root refs :=
  parseDoc_blocks_ok (exCfg sp mn) src

end MdIt.Pipeline

/-! ## the TOP frame -/

namespace MdIt.Inline.ES.C16Doc
open MdIt.Inline
open MdIt.InlineOps (Srcmap)

section
variable {cfg : Cfg} {content : List Char} {mapping : Srcmap}

/-- **the code-span cache is consistent at every state of the top frame**: a reached state of the top
    frame, below the nesting limit, whose position is strictly inside a backtick run behind a non-escaped
    character (`IFP`: only the one-character fall-back at a backtick leads there) has that position in
    `inside_failed` — so the real code-span rule declines there exactly as the look-ahead did -/
theorem reach_top_ifp (hc : ChainCoherent cfg = true)
    (hone : cfg.chain.count .link ≤ 1 ∧ cfg.chain.count .image ≤ 1) (hm : MapOK content mapping)
    (hbt : RuleId.backticks ∈ cfg.chain) {f : Nat} {s : IState} (hR : Reach cfg content mapping f s)
    (htop : s.posMax = topEnd content mapping) (hl : s.level < cfg.maxNesting) : IFP cfg s :=
  reach_ifp hc hone hm hbt hR hl htop

/-- **C16 for the run, TOP frame: the real step ends where look-ahead said.**
    Let `s` be a state of the run of `parseInline cfg content mapping` (`Reach`) in the TOP frame
    (`pos_max` is the top `pos_max`), at which rules run (below the nesting limit, `pos < pos_max`), and
    let the `skip_token` memo have an entry `s.pos ↦ v` that ends before the top `pos_max` (an entry made
    by a label walk from an outer `[` or `![` that the top-frame tokenizer reaches afterwards — e.g. a
    link, image or code span that look-ahead accepted from the outer bracket; entries that end AT the top
    `pos_max` may be over-the-limit entries, `overlimit_entry_disagrees`).  Then whenever the real step
    from `s` returns (`tokStep` over the model's callees, at any fuel `g`) it `AgreesTop` with the entry:
    it ends at `v` — the construct is produced with the extent look-ahead reported —, or it is the
    emphasis rule of the chain taking a run of `n` of its marker, and then the entry is the unit entry
    `v = s.pos + 1` (look-ahead answers `None` for emphasis by design).  The step leaves the memo alone. -/
theorem lookahead_real_agree_top (hc : ChainCoherent cfg = true)
    (hone : cfg.chain.count .link ≤ 1 ∧ cfg.chain.count .image ≤ 1) (hm : MapOK content mapping)
    {f : Nat} {s : IState} (hR : Reach cfg content mapping f s)
    (htop : s.posMax = topEnd content mapping) (hl : s.level < cfg.maxNesting)
    (hlt : s.pos < s.posMax) {v : Nat} (hlk : s.cache.lookup s.pos = some v)
    (hv : v < topEnd content mapping) :
    ∀ g s', tokStep cfg (fun s => skipToken cfg g s) (fun s => tokLoop cfg g s.posMax s) g s = .ok s' →
      AgreesTop cfg content s.pos (topEnd content mapping) v s'.pos ∧ s'.cache = s.cache :=
  top_agree_run hc hone hm hR htop hl hlt hlk hv

end

/-- **non-vacuity of `lookahead_real_agree_top`, with a code span and emphasis runs** on "[a `b` **c**"
    (stock chain; the bracket is never closed, so its label walk memoised the whole rest and failed):
    every state of the top frame behind the bracket has an entry, the code span `3 ↦ 6` is produced with
    the same end, the emphasis runs at `7` and `10` are the `AgreesTop` disjunct (unit entry, run of 2) -/
theorem top_agree_codespan_instance :
    runTrace (stockCfg 100) "[a `b` **c**".toList =
      [⟨12, 0, 0, none, some 1⟩, ⟨12, 0, 1, some 3, some 3⟩, ⟨12, 0, 3, some 6, some 6⟩,
       ⟨12, 0, 6, some 7, some 7⟩, ⟨12, 0, 7, some 8, some 9⟩, ⟨12, 0, 9, some 10, some 10⟩,
       ⟨12, 0, 10, some 11, some 12⟩] := by
  decide +kernel

/-- the hypotheses of `lookahead_real_agree_top` are satisfiable: the state of the run on
    "[x [y](v) z](u)" in the top frame at the inner link (position `3`, memo entry `3 ↦ 9 < 15`) -/
example : ∃ g s, Reach (exCfg 100) "[x [y](v) z](u)".toList [(0, 0)] (g + 1) s ∧
    s.posMax = topEnd "[x [y](v) z](u)".toList [(0, 0)] ∧ s.level < (exCfg 100).maxNesting ∧
    s.pos < s.posMax ∧ s.pos = 3 ∧ s.cache.lookup s.pos = some 9 ∧
    9 < topEnd "[x [y](v) z](u)".toList [(0, 0)] := by
  obtain ⟨g, s, hR, hlt, ho⟩ := runTrace_reach (cfg := exCfg 100)
    (content := "[x [y](v) z](u)".toList) (o := ⟨15, 0, 3, some 9, some 9⟩)
    (by rw [top_agree_instance]; decide)
  have h1 : s.posMax = 15 := (congrArg Obs.frameEnd ho).symm
  have h2 : s.level = 0 := (congrArg Obs.level ho).symm
  have h3 : s.pos = 3 := (congrArg Obs.pos ho).symm
  have h4 : s.cache.lookup s.pos = some 9 := (congrArg Obs.entry ho).symm
  refine ⟨g, s, hR, ?_, ?_, hlt, h3, h4, by decide⟩
  · rw [h1]; decide
  · rw [h2]; decide

end MdIt.Inline.ES.C16Doc

namespace MdIt.Pipeline
open MdIt MdIt.Inline MdIt.Inline.ES.C16Doc

/-- **C16 for the run, top frame, at document level**: `lookahead_real_agree_top` at EVERY inline
    placeholder of the block tree of the document (hypotheses as `doc_lookahead_real_agree`) -/
theorem doc_lookahead_real_agree_top (cfg : DocCfg) (src : List Char)
    (hc : Inline.ChainCoherent (cfg.inlineCfg []) = true)
    (hone : cfg.inlineChain.count .link ≤ 1 ∧ cfg.inlineChain.count .image ≤ 1)
    (hsmall : 4 * Lines.byteLen src + 8 < 2147483648) (hpara : cfg.hasPara = true)
    (hnv : NoSplitTab cfg src) {root : Block.BNode} {refs : Refs.RefMap}
    (hb : Block.parseBlocks cfg.blockCfg src = .ok (root, refs)) :
    Block.AllInl (fun c m => ∀ f s v, Reach (cfg.inlineCfg refs) c m f s →
      s.posMax = topEnd c m → s.level < (cfg.inlineCfg refs).maxNesting → s.pos < s.posMax →
      s.cache.lookup s.pos = some v → v < topEnd c m →
      ∀ g s', tokStep (cfg.inlineCfg refs) (fun s => skipToken (cfg.inlineCfg refs) g s)
          (fun s => tokLoop (cfg.inlineCfg refs) g s.posMax s) g s = .ok s' →
        AgreesTop (cfg.inlineCfg refs) c s.pos (topEnd c m) v s'.pos ∧ s'.cache = s.cache) root :=
  (doc_tables_mapOK cfg src hsmall hpara hnv hb).imp (fun _ _ hm _ _ _ hR htop hl hlt hlk hv =>
    lookahead_real_agree_top (cfg := cfg.inlineCfg refs) hc hone hm hR htop hl hlt hlk hv)

/-- … for the stock configuration with strikethrough (`exCfg`), any `max_nesting`, sourcepos on or off,
    every source without tab within the size bound -/
theorem doc_lookahead_real_agree_top_stock (sp : Bool) (mn : Nat) (src : List Char) (htab : '\t' ∉ src)
    (hsmall : 4 * Lines.byteLen src + 8 < 2147483648) {root : Block.BNode} {refs : Refs.RefMap}
    (hb : Block.parseBlocks (exCfg sp mn).blockCfg src = .ok (root, refs)) :
    Block.AllInl (fun c m => ∀ f s v, Reach ((exCfg sp mn).inlineCfg refs) c m f s →
      s.posMax = topEnd c m → s.level < ((exCfg sp mn).inlineCfg refs).maxNesting → s.pos < s.posMax →
      s.cache.lookup s.pos = some v → v < topEnd c m →
      ∀ g s', tokStep ((exCfg sp mn).inlineCfg refs)
          (fun s => skipToken ((exCfg sp mn).inlineCfg refs) g s)
          (fun s => tokLoop ((exCfg sp mn).inlineCfg refs) g s.posMax s) g s = .ok s' →
        AgreesTop ((exCfg sp mn).inlineCfg refs) c s.pos (topEnd c m) v s'.pos ∧
          s'.cache = s.cache) root :=
  have ⟨hc, hone, hpara, hnv⟩ := exCfg_run_hyps sp mn src htab hsmall
  doc_lookahead_real_agree_top (exCfg sp mn) src hc hone hsmall hpara hnv hb

end MdIt.Pipeline
