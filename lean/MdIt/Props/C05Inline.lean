/-
  C05 at whole-document level, the INLINE half for tab-free sources: `doc_ranges_ordered` (`NodeOrd` = `NodeOk`
  of Props/C05Doc.lean without the character-boundary and text clauses) and, for EVERY source,
  `doc_placeholder_tables`.  Character boundaries, the text clause and the sources with tabs are
  Props/C05Rest.lean and Props/C05Tabs.lean.

  FINDINGS (about the proof interfaces; no new defect of the crate):
   * the claim about placeholder tables does not follow from `Block.Geo` (the interface `Block.InlSpec`):
     `Block.Geo` is too weak (the two witness `example`s of Lemmas/C05InlineTables.lean); hence `Geo2`.
   * with a split tab the `get_lines` table is not `Inline.MapOK`: all positions of the virtual spaces are
     translated to the tab's byte (`"-    a\n\t\tb"`: content `"a\n   b"`, table `[(0,5),(2,9),(5,9)]`,
     `tr 4 = 9`; the affine translation of the unrepaired crate gave `11 > 10 = |src|`, harmless there only
     because no inline rule ever stops inside leading blanks of a continuation line — the newline rule skips
     them).  Props/C05Tabs.lean has the virtual-space-aware version.
  EVIDENCE: a fuzz of the real crate (400 000 random documents of 3–16 characters over
     `- space tab a LF ` * > 1 . # b \ & [ ] ( ) é`, half of the blanks tabs) found no violation of
     range validity, enclosure, order or character boundaries at any node.
  FINDING (crate, confirmed by probe): clause 3 of C05 (text faithfulness) fails for the `Text` inside
     a code span that continues over a line whose tab is split by a container: ``"- `\n\ta `"`` →
     `Text "  a"` at `(5,6)`, `src[5..6] = "a"` (witness `example` near the end).
-/
import MdIt.Lemmas.C05InlineGeo
import MdIt.Lemmas.C05InlineExit
import MdIt.Lemmas.C05InlineSplice
import MdIt.Lemmas.KernelEval

namespace MdIt.Block

/-! ## changing the claim about placeholders -/

/-- a claim holds at every placeholder of a block tree -/
inductive AllInl (Q : List Char → List (Nat × Nat) → Prop) : BNode → Prop
  | mk (n : BNode) : (∀ c m, n.kind = .inlineRoot c m → n.range = none → Q c m) →
    (∀ c ∈ n.children, AllInl Q c) → AllInl Q n

theorem AllInl.here {Q : List Char → List (Nat × Nat) → Prop} {n : BNode} (h : AllInl Q n) :
    ∀ c m, n.kind = .inlineRoot c m → n.range = none → Q c m := by
  cases h; assumption
theorem AllInl.child {Q : List Char → List (Nat × Nat) → Prop} {n : BNode} (h : AllInl Q n) :
    ∀ c ∈ n.children, AllInl Q c := by
  cases h; assumption

theorem AllInl.imp {Q Q' : List Char → List (Nat × Nat) → Prop} (hQ : ∀ c m, Q c m → Q' c m) {n : BNode}
    (h : AllInl Q n) : AllInl Q' n := by
  induction h with
  | mk n h1 _ ih => exact .mk n (fun c m hk hr => hQ c m (h1 c m hk hr)) ih

theorem orderedB_inl {P : InlP} {Q : List Char → List (Nat × Nat) → Prop}
    (hPQ : ∀ c m a b, P c m a b → Q c m) :
    ∀ {l : List BNode} {lo hi : Nat}, OrderedB P lo hi l →
      ∀ n ∈ l, ∀ c m, n.kind = .inlineRoot c m → n.range = none → Q c m
  | [], _, _, _ => by simp
  | x :: r, _, _, ⟨a, b, hs, _, _, h3⟩ => by
    intro n hn c m hk hr
    rcases List.mem_cons.mp hn with rfl | hn
    · unfold SpanB at hs
      rw [hr] at hs
      obtain ⟨c', m', h1, _, h2⟩ := hs
      rw [hk] at h1
      cases h1
      exact hPQ _ _ _ _ h2
    · exact orderedB_inl hPQ h3 n hn c m hk hr

/-- every placeholder below a ranged node satisfies what `P` says of it -/
theorem RangedB.allInl {P : InlP} {Q : List Char → List (Nat × Nat) → Prop} {src : List Char}
    (hPQ : ∀ c m a b, P c m a b → Q c m) {n : BNode} (h : RangedB P src n)
    (hself : ∀ c m, n.kind = .inlineRoot c m → n.range = none → Q c m) : AllInl Q n := by
  induction h with
  | mk n h1 h2 h3 ih =>
    refine .mk n hself (fun k hk => ih k hk ?_)
    intro c m hkind hrange
    cases hr : n.range with
    | none =>
      obtain ⟨_, _, _, hc⟩ := h2 hr
      rw [hc] at hk; simp at hk
    | some r =>
      obtain ⟨a, b⟩ := r
      obtain ⟨_, _, _, ho⟩ := h1 a b hr
      exact orderedB_inl hPQ ho k hk c m hkind hrange

/-- changing the claim about placeholders, using a fact `Q` known of every placeholder -/
theorem OrderedB.imp_with {P P' : InlP} {Q : List Char → List (Nat × Nat) → Prop}
    (hPQ : ∀ c m a b, a ≤ b → Q c m → P c m a b → P' c m a b) :
    ∀ {l : List BNode} {lo hi : Nat}, OrderedB P lo hi l →
      (∀ x ∈ l, ∀ c m, x.kind = .inlineRoot c m → x.range = none → Q c m) → OrderedB P' lo hi l
  | [], _, _, h, _ => h
  | x :: r, _, _, ⟨a, b, hs, h1, h2, h3⟩, hq => by
    refine ⟨a, b, ?_, h1, h2, OrderedB.imp_with hPQ h3 (fun y hy => hq y (List.mem_cons_of_mem _ hy))⟩
    unfold SpanB at hs ⊢
    split
    · next rr hr => rw [hr] at hs; exact hs
    · next hr =>
      rw [hr] at hs
      obtain ⟨c, m, k1, k2, k3⟩ := hs
      exact ⟨c, m, k1, k2, hPQ c m a b h2 (hq x (by simp) c m k1 hr) k3⟩

theorem RangedB.imp_with {P P' : InlP} {Q : List Char → List (Nat × Nat) → Prop} {src : List Char}
    (hPQ : ∀ c m a b, a ≤ b → Q c m → P c m a b → P' c m a b) {n : BNode} (h : RangedB P src n)
    (hq : AllInl Q n) : RangedB P' src n := by
  induction h with
  | mk n h1 h2 _ ih =>
    refine .mk n (fun a b hr => ?_) h2 (fun c hc => ih c hc (hq.child c hc))
    obtain ⟨q1, q2, q3, q4⟩ := h1 a b hr
    exact ⟨q1, q2, q3, q4.imp_with hPQ (fun x hx => (hq.child x hx).here)⟩

theorem RangedB.imp {P Q : InlP} {src : List Char} (hPQ : ∀ c m a b, a ≤ b → P c m a b → Q c m a b)
    {n : BNode} (h : RangedB P src n) : RangedB Q src n :=
  h.imp_with (Q := fun _ _ => True) (fun c m a b hab _ => hPQ c m a b hab)
    (h.allInl (fun _ _ _ _ _ => trivial) fun _ _ _ _ => trivial)

end MdIt.Block

namespace MdIt.Inline
open MdIt.InlineOps (getSourcePosFor Srcmap)

/-- an empty window (`trim_src` of an all-blank text): the tokenizer makes no node -/
theorem parseInline_empty_window (cfg : Cfg) (c : List Char) (m : Srcmap)
    (h : (trimSrc c).2 ≤ (trimSrc c).1) {cs : List Node} (hp : parseInline cfg c m = .ok cs) :
    cs = [] := by
  unfold parseInline tokenize at hp
  unfold tokLoop at hp
  have : ¬ (IState.init c m).pos < (IState.init c m).posMax := by
    show ¬ (trimSrc c).1 < (trimSrc c).2
    omega
  rw [if_neg this] at hp
  simp only [Except.ok.injEq] at hp
  rw [← hp]
  rfl

end MdIt.Inline

namespace MdIt.Pipeline
open MdIt.InlineOps (getSourcePosFor Srcmap)

theorem allInl_and {Q1 Q2 Q3 : List Char → List (Nat × Nat) → Prop}
    (h : ∀ c m, Q1 c m → Q2 c m → Q3 c m) {n : Block.BNode} (h1 : Block.AllInl Q1 n)
    (h2 : Block.AllInl Q2 n) : Block.AllInl Q3 n := by
  induction h1 with
  | mk n a _ ih =>
    cases h2 with
    | mk _ a2 b2 =>
      exact .mk n (fun c m hk hr => h c m (a c m hk hr) (a2 c m hk hr)) (fun c hc => ih c hc (b2 c hc))

/-- what the block pass establishes of a placeholder (`PMapF`) whose table has no virtual-space entry is what
    the splice walk needs (`PInl`) -/
theorem pinl_of_pmapF_nv {src : List Char} (icfg : Inline.Cfg) (c : List Char) (m : Srcmap)
    (hnv : C05I.NoVirt m) (a b : Nat) (hab : a ≤ b) (h : Block.PMapF src c m a b) :
    PInl icfg c m a b := by
  obtain ⟨hw, _, _, hup, hok, _, hlow⟩ := h
  have hm := hok hnv
  by_cases hlt : (Inline.trimSrc c).1 < (Inline.trimSrc c).2
  · refine Inline.pinl_of_mapOK icfg hm ?_
    intro pos x h1 h2 hx
    refine ⟨hlow hlt pos x h1 hx, hup pos x ?_ ?_ hx⟩
    · have := Inline.trimSrc_le c
      rw [C05I.linesLen_eq]
      omega
    · intro i k1 v1 k2 v2 e1 e2 _ _
      exact .inl (hm.mono i k1 v1 k2 v2 e1 e2)
  · intro ns hns
    have := Inline.parseInline_empty_window icfg c m (by omega) hns
    subst this
    exact ⟨hab, trivial⟩

/-- … in particular in a tab-free document -/
theorem pinl_of_pmapF {src : List Char} (htab : '\t' ∉ src) (icfg : Inline.Cfg) (c : List Char)
    (m : Srcmap) (a b : Nat) (hab : a ≤ b) (h : Block.PMapF src c m a b) : PInl icfg c m a b :=
  pinl_of_pmapF_nv icfg c m (h.2.2.2.2.2.1 htab) a b hab h

/-- **`doc_placeholder_tables`.**  Every source, tabs included: the block tree satisfies the
    geometric invariant with the full claim `PMapF src` at every placeholder. -/
theorem doc_placeholder_tables (cfg : DocCfg) (src : List Char)
    (hsmall : 4 * Lines.byteLen src + 8 < 2147483648) (hpara : cfg.hasPara = true)
    {root : Block.BNode} {refs : Refs.RefMap} (hb : Block.parseBlocks cfg.blockCfg src = .ok (root, refs)) :
    Block.RangedB (Block.PMapF src) src root ∧
      Block.AllInl (fun c m => ∃ a b, Block.PMapF src c m a b) root := by
  obtain ⟨hr, hg⟩ := Block.parseBlocks_geo2 (cfg := cfg.blockCfg) hpara (Block.inlSpec2_pmapF src) hsmall hb
  refine ⟨hg, hg.allInl (fun c m a b h => ⟨a, b, h⟩) ?_⟩
  intro c m _ hnone
  rw [hr] at hnone
  cases hnone

/-- **`doc_ranges_ordered`** (`RangesOk` without the character-boundary and the text-faithfulness
    clauses at inline nodes).  Tab-free source, paragraph rule configured,
    `i32` size bound: the root of the parsed tree is `(0, |src|)` and every node of it — block or
    inline, at every depth — has a range `(a, b)`, `a ≤ b ≤ |src|`, with the ranges of its children
    inside `[a, b]`, in source order, each starting at or behind the end of the previous one. -/
theorem doc_ranges_ordered (cfg : DocCfg) (src : List Char) (t : Node)
    (hsmall : 4 * Lines.byteLen src + 8 < 2147483648) (hpara : cfg.hasPara = true)
    (htab : '\t' ∉ src) (h : parseDoc cfg src = .ok t) :
    t.range = some (0, Lines.byteLen src) ∧ Every (NodeOrd src) t :=
  parseDoc_assemble (PI := fun refs => PInl (cfg.inlineCfg refs))
    (fun _ _ hb =>
      (Block.parseBlocks_geo2 (cfg := cfg.blockCfg) hpara (Block.inlSpec2_pmapF src) hsmall hb).imp id
        (Block.RangedB.imp fun c m a b hab hp => pinl_of_pmapF htab _ c m a b hab hp))
    (fun _ _ hr hg hn h => afterBlocks_nodeOrd hr hg hn h) h

/-- every inline-level and block-level child lies within its parent, spelled out -/
theorem doc_child_within (cfg : DocCfg) (src : List Char) (t : Node)
    (hsmall : 4 * Lines.byteLen src + 8 < 2147483648) (hpara : cfg.hasPara = true)
    (htab : '\t' ∉ src) (h : parseDoc cfg src = .ok t) :
    Every (fun n => ∃ a b, n.range = some (a, b) ∧ a ≤ b ∧ b ≤ Lines.byteLen src ∧
      ∀ c ∈ n.children, ∃ a' b', c.range = some (a', b') ∧ a ≤ a' ∧ a' ≤ b' ∧ b' ≤ b) t := by
  have := (doc_ranges_ordered cfg src t hsmall hpara htab h).2
  clear h
  induction this with
  | mk n hn _ ih =>
    obtain ⟨a, b, h1, h2, h3, h4⟩ := hn
    exact .mk n ⟨a, b, h1, h2, h3, h4.mem⟩ ih

/-! ## non-vacuity and witnesses -/

mutual
/-- a document tree in pre-order: (depth, start, end) -/
def flatN (d : Nat) : Node → List (Nat × Nat × Nat)
  | ⟨_, r, _, cs⟩ => (d, (r.getD (0, 0)).1, (r.getD (0, 0)).2) :: flatNL (d + 1) cs
def flatNL (d : Nat) : List Node → List (Nat × Nat × Nat)
  | [] => []
  | c :: r => flatN d c ++ flatNL d r
end

mutual
/-- the placeholders of a block tree -/
def inlOf : Block.BNode → List (List Char × List (Nat × Nat))
  | ⟨k, _, cs⟩ => (match k with | .inlineRoot c m => [(c, m)] | _ => []) ++ inlOfL cs
def inlOfL : List Block.BNode → List (List Char × List (Nat × Nat))
  | [] => []
  | c :: r => inlOf c ++ inlOfL r
end

/-- a two-line quoted paragraph with emphasis and a code span -/
def exDoc6 : List Char := "> *a*\n> b `c`".toList

/-- root, quote, paragraph, Em (its text inside), softbreak, text, code span (its text inside) -/
theorem exDoc6_flat : (parseDoc (exCfg false 100) exDoc6).toOption.map (flatN 0) =
    some [(0, 0, 13), (1, 0, 13), (2, 2, 13), (3, 2, 5), (4, 3, 4), (3, 5, 8), (3, 8, 10), (3, 10, 13),
      (4, 11, 12)] := by
  unfold exDoc6
  decide_lits

example : (parseDoc (exCfg false 100) exDoc6).toOption.map (flatN 0) =
    some [(0, 0, 13), (1, 0, 13), (2, 2, 13), (3, 2, 5), (4, 3, 4), (3, 5, 8), (3, 8, 10), (3, 10, 13),
      (4, 11, 12)] := exDoc6_flat

theorem exDoc6_parses : ∃ t, parseDoc (exCfg false 100) exDoc6 = .ok t := ok_of_map exDoc6_flat

/-- the hypotheses of `doc_ranges_ordered` are satisfiable -/
example : ∃ t, parseDoc (exCfg false 100) exDoc6 = .ok t ∧ t.range = some (0, 13) ∧
    Every (NodeOrd exDoc6) t :=
  ok_and exDoc6_parses fun t ht => doc_ranges_ordered _ _ t (by decide +kernel) (by decide) (by decide) ht

/-- `hpara` is necessary (the witness of Props/C05Doc.lean): without the paragraph rule the fallback
    makes a `Softbreak (1, 2)` under `Root (0, 1)` — beyond the source.  (`htab` is a limitation of this
    file's proof, not necessary: `doc_ranges_ordered_all` of Props/C05Tabs.lean.) -/
example : (parseDoc { exCfg false 100 with blockChain := [.hr], inlineChain := [.text, .newline] }
      "a".toList).toOption.map (flatN 0) = some [(0, 0, 1), (1, 0, 1), (1, 1, 2)] := by decide +kernel

/-- **the split tab**: `"-    a\n\t\tb"` (item content at column 5, the continuation line two tabs =
    column 8: three columns remain of the second tab).  The paragraph's content is `"a\n   b"` with
    the table `[(0,5),(2,9),(5,9)]`: the three virtual spaces and the `b` are all mapped to byte 9;
    not `MapOK` (`MonoMap` fails at the virtual entry, key 5 is not behind a line feed).  Before the
    `fix:` "positions inside the virtual spaces of a split tab" the position strictly inside the
    virtual spaces was translated beyond the 10-byte source (`getSourcePosForRaw … 4 = 11`); the
    repaired `get_source_pos_for` clamps it to the tab's byte (`tr 4 = 9`, `C05.translate_le_next`).
    The tree is in order — text `(5,6)`, softbreak `(6,9)`, text `(9,10)` — either way: the newline
    rule skips the leading blanks of the continuation line, no node boundary falls strictly inside
    them here (it does inside a code span: Props/C05Rest.lean). -/
example : (Block.parseBlocks (exCfg false 100).blockCfg "-    a\n\t\tb".toList).toOption.map (fun r => inlOf r.1) =
    some [("a\n   b".toList, [(0, 5), (2, 9), (5, 9)])] := by decide_lits
example : InlineOps.getSourcePosForRaw [(0, 5), (2, 9), (5, 9)] 4 = .ok 11 ∧
    InlineOps.getSourcePosFor [(0, 5), (2, 9), (5, 9)] 4 = .ok 9 ∧
    InlineOps.getSourcePosFor [(0, 5), (2, 9), (5, 9)] 5 = .ok 9 := by decide +kernel
example : (parseDoc (exCfg false 100) "-    a\n\t\tb".toList).toOption.map (flatN 0) =
    some [(0, 0, 10), (1, 0, 10), (2, 0, 10), (3, 5, 6), (3, 6, 9), (3, 9, 10)] := by decide_lits

/-- **Witness: the text clause of `RangesOk` FAILS with a split tab inside a code span** (model and
    crate agree: `md.parse("- `\n\ta `")` gives `CodeInline (2,8)` with the child `Text "  a"` at
    `(5,6)`, and `src[5..6] = "a"`).  The item's content column is 2, the continuation line's tab
    reaches column 4: `get_lines` replaces it by two virtual spaces, which the code span keeps
    (interior blanks of a code span are content; the newline rule, which skips them elsewhere, does
    not run inside the span).  The range `(5,6)` holds no line break — the line feed became the
    stripped leading space —, so clause 3 of C05 ("a plain text node whose range lies on one line
    selects exactly its own text") is violated: characters that have no bytes in the source cannot
    be selected by any range.  Hence `doc_text_faithful` (Props/C05Rest.lean) excludes split tabs and
    `doc_text_faithful_all` (Props/C05Tabs.lean) exempts the `Text` inside `CodeInline`. -/
example : (parseDoc (exCfg false 100) "- `\n\ta `".toList).toOption.map
      (fun t => t.children.flatMap fun l => l.children.flatMap fun i => i.children.flatMap fun c =>
        c.children.map fun x => (x.kind, x.range)) =
    some [(.inl (.text [' ', ' ', 'a']), some (5, 6))] ∧
    Lines.slice "- `\n\ta `".toList 5 6 = .ok ['a'] := by decide +kernel

end MdIt.Pipeline
