/-
  C11, third context — code SPANS — at WHOLE-DOCUMENT level, at top level and inside block quotes / list items.

  Property C11: "text enclosed in a backtick span longer than every backtick run in it reappears in the output
  character for character — HTML-escaped, line endings turned into spaces and one pair of padding spaces removed;
  nothing inside is interpreted as markdown, character reference or escape."

  The documents: ONE line `l = pre ++ spanOf k T ++ post` where `spanOf k T` is `` `ᵏ⁺¹ ␠ T ␠ `ᵏ⁺¹ `` (the PADDED
  form), `T` ANY non-empty text without line terminator and without a run of `k + 1` backticks (`<`, `&`, `*`, `\`,
  `[`, entities, shorter backtick runs, multi-byte characters … all allowed), `pre` / `post` plain text (no
  character of the text rule's stop set, `SpanLine`), `pre` starting with a character no block rule but `paragraph`
  claims (`Block.ParaFirst`), no blank at the end of the line.  Configuration: any block chain with `paragraph`
  in it (whatever stands in front), any inline chain `text :: c1 ++ backticks :: c2` with `c1` free of an emphasis
  rule for the backtick and of a second `backticks` (`C11S.QuietTick`), join pass or not, `sourcepos` or not.

  PROPERTY theorems
    `doc_span_verbatim_sp`, `doc_span_verbatim`                 top level: the tree, exactly (kinds, payloads, every
                                                                range, attributes): `Root[Paragraph[Text pre,
                                                                CodeInline[Text T], Text post]]`
    `doc_span_render_sp`, `doc_span_render`                     `render` / `xrender`, exactly:
                                                                `<p>pre<code>T</code>post</p>` LF, escaped
    `doc_span_verbatim_nested_sp`, `doc_span_verbatim_nested`   the same inside any wrappers `w` (`wrapAll w l`)
    `doc_span_render_nested_sp`, `doc_span_render_nested`       `spanHtml w (…)`: the wrappers' HTML around the
                                                                paragraph — or, when the innermost wrapper is a list
                                                                item (`tightOf w`), `<li>` + inline HTML + `</li>`
  All of them are `C11X.doc_span_tree` / `C11X.doc_span_html` (Lemmas/C11SpanTree.lean: a span anywhere in a
  paragraph inside any wrappers, `[]` for top level) at `R = ␠ T ␠` on a paragraph of one line (`padded_tree`,
  `padded_html`: `SpanLine.toRaw`, `C11N.rawNodes_padded`, the table translates by `widthAll w`: `C11X.trOf_one`).

  What "one pair of padding spaces removed" means in the model (= the Rust, `code_pair.rs`): the content between the
  backtick runs, after LF → space, loses its first and last character iff it starts with a space, ends with a
  space and is longer than 2 bytes (`CodePair.padded`).  For `␠ T ␠` with `T ≠ []` that is always the case, so
  exactly the padding pair goes and `T` stays whole — also when `T` itself begins / ends with spaces, and ALSO
  when `T` consists of spaces only (CommonMark keeps an all-space content unstripped: see the last example).
  Only the padded form is covered here; the unpadded form `` `ᵏ⁺¹ R `ᵏ⁺¹ `` is in `Props/C11SpanMulti.lean`.

  Restrictions, each with a witness below where it is necessary:
    * `pre`, `post` plain (`[` or a backtick in `pre` can swallow the span);
    * no blank at the end of the line (hypothesis of `C11X.parseInline_lines`: `trim_src` takes nothing) — a trailing
      blank is dropped from the output, otherwise harmless (witness);
    * ONE line, hence no line ending inside `T` (`T' = T`): `SpanLine` asks for `NoTerm T`;
    * inside containers: the line is TAB-FREE (C06's restriction) and `depthCost w < max_nesting`.
  Spans running over several lines of a paragraph: `Props/C11SpanMulti.lean`, `Props/C11SpanCtx.lean`; behaviour by
  evaluation in the last example of section 4 (LF → space, continuation-line indentation KEPT, a line of `T` that
  starts a block ends the paragraph).
-/
import MdIt.Props.C11Nested
import MdIt.Lemmas.C11SpanTree
import MdIt.Lemmas.KernelEval

namespace MdIt.C11N
open MdIt.Block MdIt.Block.Li MdIt.Pipeline
open MdIt.Lines (NoTerm lead)
open MdIt.Render (Event piece piecesFrom flatten solAfter attrsStr escapeHtml)
open MdIt.NodeRender (aSourcepos tP tCode tBlockquote tUl tOl tLi olAttrs)
open MdIt.C11S (spanOf PlainTxt textNodes codeNode QuietTick)

instance (s : List Char) : Decidable (PlainTxt s) := by unfold PlainTxt; infer_instance
instance (s : List Char) : Decidable (NoTerm s) := by unfold NoTerm; infer_instance

/-! ## 1. the padded span on one line, inside any wrappers (none: top level) -/

section core
variable (cfg : DocCfg) (pre T post : List Char) (k : Nat) (h : SpanLine pre T post k)
  (c1 c2 : List Inline.RuleId) (hic : cfg.inlineChain = .text :: (c1 ++ .backticks :: c2))
  (hq : ∀ r ∈ c1, QuietTick r)
  (bpre bpost : List Block.RuleId) (hbc : cfg.blockChain = bpre ++ .paragraph :: bpost) (hbp : .paragraph ∉ bpre)
  (w : List Wrapper) (hn : C11X.Nested cfg w [pre ++ spanOf k T ++ post])
include h hic hq hbc hbp hn

/-- the document tree: the wrapper nodes around the paragraph (or, tight, around nothing) over `Text pre`,
    `CodeInline[Text T]`, `Text post` — `C11X.doc_span_tree` at `R = ␠ T ␠` -/
theorem padded_tree :
    parseDoc cfg (wrapAll w (pre ++ spanOf k T ++ post)) =
      .ok ⟨.blk .root, some (0, Lines.byteLen (wrapAll w (pre ++ spanOf k T ++ post))),
        spAttrs cfg (wrapAll w (pre ++ spanOf k T ++ post)) (0, Lines.byteLen (wrapAll w (pre ++ spanOf k T ++ post))),
        wrapForestN (spAttrs cfg (wrapAll w (pre ++ spanOf k T ++ post)))
          (Lines.byteLen (wrapAll w (pre ++ spanOf k T ++ post))) w 0
          (spanLeaf (spAttrs cfg (wrapAll w (pre ++ spanOf k T ++ post))) (widthAll w)
            (Lines.byteLen (wrapAll w (pre ++ spanOf k T ++ post))) (tightOf w)
            (spanNodes (spAttrs cfg (wrapAll w (pre ++ spanOf k T ++ post))) (widthAll w) k pre T post))⟩ := by
  rw [C11M.spanOf_eq_rawSpan] at hn ⊢
  have := C11X.doc_span_tree cfg _ [pre] [post] _ k h.toRaw.toLines.toMid c1 c2 hic hq (by simp) bpre bpost hbc hbp w hn
  rwa [docOf_one, C11X.trOf_one, C11X.midNodes_single, rawNodes_padded _ _ k pre T post h.ne] at this

theorem padded_html (x : Bool) :
    renderDoc x cfg (wrapAll w (pre ++ spanOf k T ++ post)) =
      .ok (Render.replaceNul (spanHtmlA (spAttrs cfg (wrapAll w (pre ++ spanOf k T ++ post)))
        (Lines.byteLen (wrapAll w (pre ++ spanOf k T ++ post)))
        (openTag tP (spAttrs cfg (wrapAll w (pre ++ spanOf k T ++ post))
            (widthAll w, Lines.byteLen (wrapAll w (pre ++ spanOf k T ++ post)))) ++
          inlHtml (spAttrs cfg (wrapAll w (pre ++ spanOf k T ++ post))
            (widthAll w + Lines.byteLen pre, widthAll w + (Lines.byteLen pre + (2 * (k + 1) + 2 + Lines.byteLen T))))
            pre T post ++ closeTag tP ++ ['\n'])
        (inlHtml (spAttrs cfg (wrapAll w (pre ++ spanOf k T ++ post))
            (widthAll w + Lines.byteLen pre, widthAll w + (Lines.byteLen pre + (2 * (k + 1) + 2 + Lines.byteLen T))))
          pre T post) w 0)) := by
  rw [C11M.spanOf_eq_rawSpan] at hn ⊢
  have := C11X.doc_span_html cfg _ [pre] [post] _ k h.toRaw.toLines.toMid c1 c2 hic hq (by simp) bpre bpost hbc hbp w hn x
  rwa [docOf_one, docOf_one, docOf_one, C11X.trOf_one, (C11M.strip_padded T h.ne).1, normalise_line h.line,
    C11M.spanRange, linesLen_padded,
    show 2 * (k + 1) + (Lines.byteLen T + 2) = 2 * (k + 1) + 2 + Lines.byteLen T by omega] at this

end core

/-! ## 2. the plain HTML (no `sourcepos` plugin) -/

/-- the inline HTML: `pre`, `<code>`, `T`, `</code>`, `post`, with exactly `& < > "` escaped -/
def codeHtml (pre T post : List Char) : List Char :=
  escapeHtml pre ++ "<code>".toList ++ escapeHtml T ++ "</code>".toList ++ escapeHtml post

/-- the HTML of the wrapped one-line paragraph with inline HTML `inl`: the wrappers' tags (`Wrapper.html`:
    `<blockquote>` LF … `</blockquote>` LF, `<ul>` LF `<li>` LF … `</li>` LF `</ul>` LF, `<ol …>` likewise) around
    `<p>inl</p>` LF — except that a list item DIRECTLY around the paragraph is tight: `<li>inl</li>` LF, no `<p>`,
    no LF behind `<li>` (`Wrapper.htmlTight`) -/
def spanHtml : List Wrapper → List Char → List Char
  | [], inl => "<p>".toList ++ inl ++ "</p>\n".toList
  | [x], inl => if x.isQuote then x.html [] ("<p>".toList ++ inl ++ "</p>\n".toList) else x.htmlTight [] inl
  | x :: y :: ws, inl => x.html [] (spanHtml (y :: ws) inl)

theorem inlHtml_nil (pre T post : List Char) : inlHtml [] pre T post = codeHtml pre T post := by
  simp [inlHtml, codeHtml, openTag, closeTag, tCode, attrsStr]

theorem para_nil (inl : List Char) :
    openTag tP [] ++ inl ++ closeTag tP ++ ['\n'] = "<p>".toList ++ inl ++ "</p>\n".toList := by
  simp [openTag, closeTag, tP, attrsStr]

theorem spanHtmlA_nil (E : Nat) (inl : List Char) : ∀ (ws : List Wrapper) (off : Nat),
    spanHtmlA (fun _ => []) E (openTag tP [] ++ inl ++ closeTag tP ++ ['\n']) inl ws off = spanHtml ws inl
  | [], _ => para_nil inl
  | [x], _ => by simp only [spanHtmlA, spanHtml, para_nil]
  | x :: y :: ws, off => by
    simp only [spanHtmlA, spanHtml, spanHtmlA_nil E inl (y :: ws)]

theorem nulStr_htmlTight (x : Wrapper) (inner : List Char) :
    Render.nulStr (x.htmlTight [] inner) = x.htmlTight [] (Render.nulStr inner) := by
  obtain ⟨hq, hu, ho, hl⟩ := noNul_tags
  have hn : NoNul (attrsStr []) := noNul_nil
  have hnl : Render.nulStr ['\n'] = ['\n'] := nulStr_noNul (NoNul.cons (by decide) noNul_nil)
  cases x with
  | quote =>
    simp only [Wrapper.htmlTight, nulStr_append, nulStr_noNul (noNul_openTag hq hn), nulStr_noNul (noNul_closeTag hq), hnl]
  | bullet c =>
    simp only [Wrapper.htmlTight, nulStr_append, nulStr_noNul (noNul_openTag hu hn), nulStr_noNul (noNul_closeTag hu),
      nulStr_noNul (noNul_openTag hl hn), nulStr_noNul (noNul_closeTag hl), hnl]
  | ordered ds dl =>
    simp only [Wrapper.htmlTight, nulStr_append, nulStr_noNul (noNul_openTag ho (noNul_olAttrs _)),
      nulStr_noNul (noNul_closeTag ho), nulStr_noNul (noNul_openTag hl hn), nulStr_noNul (noNul_closeTag hl), hnl]

theorem nulStr_para (inl : List Char) :
    Render.nulStr ("<p>".toList ++ inl ++ "</p>\n".toList) = "<p>".toList ++ Render.nulStr inl ++ "</p>\n".toList := by
  rw [nulStr_append, nulStr_append, nulStr_noNul (s := "<p>".toList) (by unfold NoNul; decide),
    nulStr_noNul (s := "</p>\n".toList) (by unfold NoNul; decide)]

theorem nulStr_spanHtml : ∀ (ws : List Wrapper) (inl : List Char),
    Render.nulStr (spanHtml ws inl) = spanHtml ws (Render.nulStr inl)
  | [], inl => nulStr_para inl
  | [x], inl => by
    simp only [spanHtml]
    split
    · rw [nulStr_html, nulStr_para]
    · rw [nulStr_htmlTight]
  | x :: y :: ws, inl => by simp only [spanHtml, nulStr_html, nulStr_spanHtml (y :: ws)]

theorem nulStr_codeHtml (pre T post : List Char) :
    Render.nulStr (codeHtml pre T post) = codeHtml (Render.nulStr pre) (Render.nulStr T) (Render.nulStr post) := by
  simp only [codeHtml, nulStr_append, Render.escapeHtml_nul,
    nulStr_noNul (s := "<code>".toList) (by unfold NoNul; decide),
    nulStr_noNul (s := "</code>".toList) (by unfold NoNul; decide)]

theorem plain_html (cfg : DocCfg) (src : List Char) (hsp : cfg.sourcepos = false) (x : Bool) (E W : Nat)
    (rg : Nat × Nat) (pre C post : List Char) (w : List Wrapper) (res : Except Pipeline.Panic (List Char))
    (h : res = .ok (Render.replaceNul (spanHtmlA (spAttrs cfg src) E
        (openTag tP (spAttrs cfg src (W, E)) ++ inlHtml (spAttrs cfg src rg) pre C post ++ closeTag tP ++ ['\n'])
        (inlHtml (spAttrs cfg src rg) pre C post) w 0))) :
    res = .ok (spanHtml w (codeHtml (Render.nulStr pre) (Render.nulStr C) (Render.nulStr post))) := by
  rw [spAttrs_off hsp] at h
  simp only [inlHtml_nil, spanHtmlA_nil, Render.replaceNul_eq_nulStr, nulStr_spanHtml, nulStr_codeHtml] at h
  exact h

/-! ## 3. the property theorems -/

/-- the block column (`C11X.blocks_para`) on `C11N.spanLine` in a quote in a bullet item on the stock chain: the
    placeholder inside the containers holds the whole line as inline text, its table moved by the 4 bytes of the
    prefixes; the innermost wrapper is the quote, so the paragraph stays -/
example : parseBlocks (exCfg false 100).blockCfg "- > a<`` `*x` ``>b".toList =
    .ok (⟨.root, some (0, 18),
      [⟨.bulletList '-', some (0, 18), [⟨.listItem, some (0, 18),
        [⟨.blockquote, some (2, 18),
          paraLeaf spanLine [(0, 0)] 0 4 18 false⟩]⟩]⟩]⟩, []) := by
  have e1 : wrapAll [.bullet '-', .quote] (docOf [spanLine]) = "- > a<`` `*x` ``>b".toList := by
    unfold spanLine; decide_lits
  have e2 : Lines.byteLen "- > a<`` `*x` ``>b".toList = 18 := by decide_lits
  have h := C11X.blocks_para (exCfg false 100) [spanLine] ⟨'a', _, [], rfl, by decide⟩
    (by unfold spanLine; decide_lits) (by simp)
    [.code, .fence, .blockquote, .hr, .list, .reference, .heading, .lheading] [] rfl (by decide)
    [.bullet '-', .quote] ⟨by decide, chainFor_stock _, by decide,
      fun _ => ⟨by unfold spanLine; decide_lits, by rw [e1, e2]; decide⟩⟩
  rw [e1, e2, docOf_one, wrapAllLines_single] at h
  exact h

section top
variable (cfg : DocCfg) (pre T post : List Char) (k : Nat) (h : SpanLine pre T post k)
  (c1 c2 : List Inline.RuleId) (hic : cfg.inlineChain = .text :: (c1 ++ .backticks :: c2))
  (hq : ∀ r ∈ c1, QuietTick r)
  (bpre bpost : List Block.RuleId) (hbc : cfg.blockChain = bpre ++ .paragraph :: bpost) (hbp : .paragraph ∉ bpre)
  (hmn : 0 < cfg.maxNesting)
include h hic hq hbc hbp hmn

/-- **`doc_span_verbatim`, any `sourcepos`** (top level).  The one-line document `pre ++ `ᵏ⁺¹ ␠ T ␠ `ᵏ⁺¹ ++ post`
    (`SpanLine`; tabs allowed) parses to `Root[Paragraph[…]]`, root and paragraph over the whole source, the
    paragraph's children (`spanNodes`): the `Text` node of `pre` (bytes `0 .. |pre|`), ONE `CodeInline` node over
    the whole span (marker `` ` ``, length `k + 1`) whose single child is the `Text` node holding `T` — character
    for character — over exactly the bytes of `T`, the `Text` node of `post` (if `post ≠ []`) up to the end.
    Attributes: those of `SyntaxPosRule` (`spAttrs`) on every node. -/
theorem doc_span_verbatim_sp :
    parseDoc cfg (pre ++ spanOf k T ++ post) =
      .ok ⟨.blk .root, some (0, Lines.byteLen (pre ++ spanOf k T ++ post)),
        spAttrs cfg (pre ++ spanOf k T ++ post) (0, Lines.byteLen (pre ++ spanOf k T ++ post)),
        [⟨.blk .paragraph, some (0, Lines.byteLen (pre ++ spanOf k T ++ post)),
          spAttrs cfg (pre ++ spanOf k T ++ post) (0, Lines.byteLen (pre ++ spanOf k T ++ post)),
          spanNodes (spAttrs cfg (pre ++ spanOf k T ++ post)) 0 k pre T post⟩]⟩ := by
  have := padded_tree cfg pre T post k h c1 c2 hic hq bpre bpost hbc hbp [] (C11X.Nested.top hmn _)
  simpa [wrapForestN, spanLeaf, tightOf, wrapAll, widthAll] using this

/-- **`doc_span_verbatim`** (top level, no `sourcepos` plugin): the tree, exactly, no attributes anywhere -/
theorem doc_span_verbatim (hsp : cfg.sourcepos = false) :
    parseDoc cfg (pre ++ spanOf k T ++ post) =
      .ok ⟨.blk .root, some (0, Lines.byteLen (pre ++ spanOf k T ++ post)), [],
        [⟨.blk .paragraph, some (0, Lines.byteLen (pre ++ spanOf k T ++ post)), [],
          spanNodes (fun _ => []) 0 k pre T post⟩]⟩ := by
  have := doc_span_verbatim_sp cfg pre T post k h c1 c2 hic hq bpre bpost hbc hbp hmn
  rw [spAttrs_off hsp] at this
  exact this

/-- **`doc_span_render`, any `sourcepos`** (top level): `<p ATTRS>`, escaped `pre`, `<code ATTRS>`, escaped `T`,
    `</code>`, escaped `post`, `</p>`, LF; then the serializer's NUL replacement -/
theorem doc_span_render_sp (x : Bool) :
    renderDoc x cfg (pre ++ spanOf k T ++ post) =
      .ok (Render.replaceNul
        (openTag tP (spAttrs cfg (pre ++ spanOf k T ++ post) (0, Lines.byteLen (pre ++ spanOf k T ++ post))) ++
          inlHtml (spAttrs cfg (pre ++ spanOf k T ++ post)
            (Lines.byteLen pre, Lines.byteLen pre + (2 * (k + 1) + 2 + Lines.byteLen T))) pre T post ++
          closeTag tP ++ ['\n'])) := by
  have := padded_html cfg pre T post k h c1 c2 hic hq bpre bpost hbc hbp [] (C11X.Nested.top hmn _) x
  simpa [spanHtmlA, wrapAll, widthAll] using this

/-- **`doc_span_render`** (top level, no `sourcepos` plugin), both serializers: the output is
    `<p>` `pre` `<code>` `T` `</code>` `post` `</p>` LF — `pre`, `T`, `post` character for character, with exactly
    `& < > "` escaped and NUL replaced by U+FFFD; nothing inside `T` is interpreted -/
theorem doc_span_render (hsp : cfg.sourcepos = false) (x : Bool) :
    renderDoc x cfg (pre ++ spanOf k T ++ post) =
      .ok ("<p>".toList ++ codeHtml (Render.nulStr pre) (Render.nulStr T) (Render.nulStr post) ++ "</p>\n".toList) := by
  have := plain_html cfg _ hsp x _ _ _ pre T post [] _
    (padded_html cfg pre T post k h c1 c2 hic hq bpre bpost hbc hbp [] (C11X.Nested.top hmn _) x)
  simpa [spanHtml, wrapAll] using this

end top

section nested
variable (cfg : DocCfg) (pre T post : List Char) (k : Nat) (h : SpanLine pre T post k)
  (htab : '\t' ∉ pre ++ spanOf k T ++ post)
  (c1 c2 : List Inline.RuleId) (hic : cfg.inlineChain = .text :: (c1 ++ .backticks :: c2))
  (hq : ∀ r ∈ c1, QuietTick r)
  (bpre bpost : List Block.RuleId) (hbc : cfg.blockChain = bpre ++ .paragraph :: bpost) (hbp : .paragraph ∉ bpre)
  (w : List Wrapper) (hw : ∀ x ∈ w, x.Ok) (hch : ChainFor cfg.blockChain w)
  (hmn : depthCost w < cfg.maxNesting)
  (hsize : Lines.byteLen (wrapAll w (pre ++ spanOf k T ++ post)) + 20 < 2147483648)
include h htab hic hq hbc hbp hw hch hmn hsize

/-- **`doc_span_verbatim_nested`, any `sourcepos`.**  The line of `doc_span_verbatim_sp`, TAB-FREE, inside any
    list `w` of wrappers (block quotes, bullet items, ordered items; `Wrapper.Ok`, C06's chain condition
    `ChainFor`, `depthCost w < max_nesting`, below 2 GiB): the tree is the chain of wrapper nodes (`wrapForestN`:
    one `Blockquote` per quote, a list with ONE `ListItem` per list wrapper, each from its marker's column to the
    end of the source) around the `Paragraph` (from behind the prefixes, `widthAll w`, to the end) — or, when the
    innermost wrapper is a list item (`tightOf w`), around nothing: `mark_tight_paragraphs` has unwrapped the
    paragraph — over the SAME three inline nodes as at top level, ranges moved by the width of the prefixes. -/
theorem doc_span_verbatim_nested_sp :
    parseDoc cfg (wrapAll w (pre ++ spanOf k T ++ post)) =
      .ok ⟨.blk .root, some (0, Lines.byteLen (wrapAll w (pre ++ spanOf k T ++ post))),
        spAttrs cfg (wrapAll w (pre ++ spanOf k T ++ post)) (0, Lines.byteLen (wrapAll w (pre ++ spanOf k T ++ post))),
        wrapForestN (spAttrs cfg (wrapAll w (pre ++ spanOf k T ++ post)))
          (Lines.byteLen (wrapAll w (pre ++ spanOf k T ++ post))) w 0
          (spanLeaf (spAttrs cfg (wrapAll w (pre ++ spanOf k T ++ post))) (widthAll w)
            (Lines.byteLen (wrapAll w (pre ++ spanOf k T ++ post))) (tightOf w)
            (spanNodes (spAttrs cfg (wrapAll w (pre ++ spanOf k T ++ post))) (widthAll w) k pre T post))⟩ :=
  padded_tree cfg pre T post k h c1 c2 hic hq bpre bpost hbc hbp w
    ⟨hw, hch, hmn, fun _ => ⟨by simpa using htab, by rwa [docOf_one]⟩⟩

/-- **`doc_span_verbatim_nested`** (no `sourcepos` plugin): the tree, exactly, no attributes anywhere -/
theorem doc_span_verbatim_nested (hsp : cfg.sourcepos = false) :
    parseDoc cfg (wrapAll w (pre ++ spanOf k T ++ post)) =
      .ok ⟨.blk .root, some (0, Lines.byteLen (wrapAll w (pre ++ spanOf k T ++ post))), [],
        wrapForestN (fun _ => []) (Lines.byteLen (wrapAll w (pre ++ spanOf k T ++ post))) w 0
          (spanLeaf (fun _ => []) (widthAll w) (Lines.byteLen (wrapAll w (pre ++ spanOf k T ++ post))) (tightOf w)
            (spanNodes (fun _ => []) (widthAll w) k pre T post))⟩ := by
  have := doc_span_verbatim_nested_sp cfg pre T post k h htab c1 c2 hic hq bpre bpost hbc hbp w hw hch hmn hsize
  rw [spAttrs_off hsp] at this
  exact this

/-- **`doc_span_render_nested`, any `sourcepos`**: the wrappers' tags with their attributes (`spanHtmlA`) around
    the paragraph / the tight item; then the serializer's NUL replacement -/
theorem doc_span_render_nested_sp (x : Bool) :
    renderDoc x cfg (wrapAll w (pre ++ spanOf k T ++ post)) =
      .ok (Render.replaceNul (spanHtmlA (spAttrs cfg (wrapAll w (pre ++ spanOf k T ++ post)))
        (Lines.byteLen (wrapAll w (pre ++ spanOf k T ++ post)))
        (openTag tP (spAttrs cfg (wrapAll w (pre ++ spanOf k T ++ post))
            (widthAll w, Lines.byteLen (wrapAll w (pre ++ spanOf k T ++ post)))) ++
          inlHtml (spAttrs cfg (wrapAll w (pre ++ spanOf k T ++ post))
            (widthAll w + Lines.byteLen pre, widthAll w + (Lines.byteLen pre + (2 * (k + 1) + 2 + Lines.byteLen T))))
            pre T post ++ closeTag tP ++ ['\n'])
        (inlHtml (spAttrs cfg (wrapAll w (pre ++ spanOf k T ++ post))
            (widthAll w + Lines.byteLen pre, widthAll w + (Lines.byteLen pre + (2 * (k + 1) + 2 + Lines.byteLen T))))
          pre T post) w 0)) :=
  padded_html cfg pre T post k h c1 c2 hic hq bpre bpost hbc hbp w
    ⟨hw, hch, hmn, fun _ => ⟨by simpa using htab, by rwa [docOf_one]⟩⟩ x

/-- **`doc_span_render_nested`** (no `sourcepos` plugin), both serializers: the output is the wrappers' HTML
    (`spanHtml`: around `<p>` … `</p>` LF, or — innermost wrapper a list item — `<li>` … `</li>`) around
    `pre` `<code>` `T` `</code>` `post`: character for character, with exactly `& < > "` escaped and NUL replaced
    by U+FFFD.  Nothing inside `T` is interpreted, nothing of `T` appears anywhere else. -/
theorem doc_span_render_nested (hsp : cfg.sourcepos = false) (x : Bool) :
    renderDoc x cfg (wrapAll w (pre ++ spanOf k T ++ post)) =
      .ok (spanHtml w (codeHtml (Render.nulStr pre) (Render.nulStr T) (Render.nulStr post))) :=
  plain_html cfg _ hsp x _ _ _ pre T post w _
    (doc_span_render_nested_sp cfg pre T post k h htab c1 c2 hic hq bpre bpost hbc hbp w hw hch hmn hsize x)

end nested

/-! ## 4. instances on the stock chains, and the necessity of the hypotheses -/

section examples

/-- `newline`, `escape` — what stands between `text` and `backticks` in the stock inline chain — are quiet at a backtick -/
theorem quietTick_stock : ∀ r ∈ [Inline.RuleId.newline, .escape], QuietTick r := by
  intro r hr
  simp only [List.mem_cons, List.not_mem_nil, or_false] at hr
  rcases hr with rfl | rfl <;> exact ⟨(by intro e; cases e), (by intro csw e; cases e)⟩

/-- the payload `<b>&amp;*x*\[` — markup, an entity, emphasis, an escape, a bracket — between `a ` and ` b`, two backticks -/
def exT : List Char := ['<', 'b', '>', '&', 'a', 'm', 'p', ';', '*', 'x', '*', '\\', '[']

theorem exLine : SpanLine ['a', ' '] exT [' ', 'b'] 1 :=
  ⟨⟨'a', [' '], rfl, by decide⟩, by decide, by decide, by decide, by decide, by decide, by decide, by decide, by decide⟩

/-- the line, spelled out -/
example : ['a', ' '] ++ spanOf 1 exT ++ [' ', 'b'] = "a `` <b>&amp;*x*\\[ `` b".toList := by decide_lits

/-- `doc_span_render` applies on the stock configuration (both serializers) … -/
example (x : Bool) : renderDoc x (exCfg false 100) (['a', ' '] ++ spanOf 1 exT ++ [' ', 'b']) =
    .ok ("<p>".toList ++ codeHtml (Render.nulStr ['a', ' ']) (Render.nulStr exT) (Render.nulStr [' ', 'b']) ++
      "</p>\n".toList) :=
  doc_span_render (exCfg false 100) _ _ _ 1 exLine [.newline, .escape] _ rfl quietTick_stock
    [.code, .fence, .blockquote, .hr, .list, .reference, .heading, .lheading] [] rfl (by decide) (by decide) rfl x

/-- … and that is this string: the payload verbatim, `< > &` escaped, nothing interpreted -/
example : "<p>".toList ++ codeHtml (Render.nulStr ['a', ' ']) (Render.nulStr exT) (Render.nulStr [' ', 'b']) ++ "</p>\n".toList =
    "<p>a <code>&lt;b&gt;&amp;amp;*x*\\[</code> b</p>\n".toList := by decide_lits

/-- the tree of `doc_span_verbatim`: `Root[Paragraph[Text "a ", CodeInline[Text T], Text " b"]]` — the span over
    bytes 2 .. 21, `T` over bytes 5 .. 18 -/
example : parseDoc (exCfg false 100) (['a', ' '] ++ spanOf 1 exT ++ [' ', 'b']) =
    .ok ⟨.blk .root, some (0, 23), [],
      [⟨.blk .paragraph, some (0, 23), [],
        [⟨.inl (.text ['a', ' ']), some (0, 2), [], []⟩,
         ⟨.inl (.codeInline '`' 2), some (2, 21), [], [⟨.inl (.text exT), some (5, 18), [], []⟩]⟩,
         ⟨.inl (.text [' ', 'b']), some (21, 23), [], []⟩]⟩]⟩ := by
  have h := doc_span_verbatim (exCfg false 100) _ _ _ 1 exLine [.newline, .escape] _ rfl quietTick_stock
    [.code, .fence, .blockquote, .hr, .list, .reference, .heading, .lheading] [] rfl (by decide) (by decide) rfl
  have hE : Lines.byteLen (['a', ' '] ++ spanOf 1 exT ++ [' ', 'b']) = 23 := by decide +kernel
  have hn : spanNodes (fun _ => []) 0 1 ['a', ' '] exT [' ', 'b'] =
      [⟨.inl (.text ['a', ' ']), some (0, 2), [], []⟩,
       ⟨.inl (.codeInline '`' 2), some (2, 21), [], [⟨.inl (.text exT), some (5, 18), [], []⟩]⟩,
       ⟨.inl (.text [' ', 'b']), some (21, 23), [], []⟩] := by
    have e1 : Lines.byteLen ['a', ' '] = 2 := by decide +kernel
    have e2 : Lines.byteLen exT = 13 := by decide +kernel
    have e3 : Lines.byteLen [' ', 'b'] = 2 := by decide +kernel
    have e4 : CodePair.normalise exT = exT := by decide +kernel
    simp [spanNodes, txtN, codeN, e1, e2, e3, e4]
  rw [h, hE, hn]

/-- `doc_span_render_nested` applies: a bullet item in a block quote — the innermost wrapper is the item, so it is
    TIGHT (`<li>` directly around the inline HTML) … -/
example (x : Bool) :
    renderDoc x (exCfg false 100) (wrapAll [.quote, .bullet '-'] (['a', ' '] ++ spanOf 1 exT ++ [' ', 'b'])) =
      .ok (spanHtml [.quote, .bullet '-']
        (codeHtml (Render.nulStr ['a', ' ']) (Render.nulStr exT) (Render.nulStr [' ', 'b']))) :=
  doc_span_render_nested (exCfg false 100) _ _ _ 1 exLine (by decide +kernel) [.newline, .escape] _ rfl quietTick_stock
    [.code, .fence, .blockquote, .hr, .list, .reference, .heading, .lheading] [] rfl (by decide)
    [.quote, .bullet '-'] (by decide) (chainFor_stock _) (by decide) (by decide +kernel) rfl x

/-- … the document and the output, spelled out -/
example : wrapAll [.quote, .bullet '-'] (['a', ' '] ++ spanOf 1 exT ++ [' ', 'b']) =
      "> - a `` <b>&amp;*x*\\[ `` b".toList ∧
    spanHtml [.quote, .bullet '-'] (codeHtml (Render.nulStr ['a', ' ']) (Render.nulStr exT) (Render.nulStr [' ', 'b'])) =
      "<blockquote>\n<ul>\n<li>a <code>&lt;b&gt;&amp;amp;*x*\\[</code> b</li>\n</ul>\n</blockquote>\n".toList := by
  decide_lits

/-- the other way round — a block quote in an ordered item: the paragraph stays -/
example (x : Bool) :
    renderDoc x (exCfg false 100) (wrapAll [.ordered ['7'] ')', .quote] (['a', ' '] ++ spanOf 1 exT ++ [' ', 'b'])) =
      .ok (spanHtml [.ordered ['7'] ')', .quote]
        (codeHtml (Render.nulStr ['a', ' ']) (Render.nulStr exT) (Render.nulStr [' ', 'b']))) :=
  doc_span_render_nested (exCfg false 100) _ _ _ 1 exLine (by decide +kernel) [.newline, .escape] _ rfl quietTick_stock
    [.code, .fence, .blockquote, .hr, .list, .reference, .heading, .lheading] [] rfl (by decide)
    [.ordered ['7'] ')', .quote] (by decide) (chainFor_stock _) (by decide) (by decide +kernel) rfl x

example : wrapAll [.ordered ['7'] ')', .quote] (['a', ' '] ++ spanOf 1 exT ++ [' ', 'b']) =
      "7) > a `` <b>&amp;*x*\\[ `` b".toList ∧
    spanHtml [.ordered ['7'] ')', .quote] (codeHtml (Render.nulStr ['a', ' ']) (Render.nulStr exT) (Render.nulStr [' ', 'b'])) =
      ("<ol start=\"7\">\n<li>\n<blockquote>\n<p>a <code>&lt;b&gt;&amp;amp;*x*\\[</code> b</p>\n</blockquote>\n" ++
        "</li>\n</ol>\n").toList := by
  rw [String.toList_append]
  decide_lits

/-- the same by evaluation, and with the `sourcepos` plugin (`doc_span_render_nested_sp`): the `CodeInline` node
    carries the position of the whole span -/
example : renderDoc false (exCfg false 100) "> - a `` <b> `` b".toList =
      .ok "<blockquote>\n<ul>\n<li>a <code>&lt;b&gt;</code> b</li>\n</ul>\n</blockquote>\n".toList ∧
    renderDoc false (exCfg true 100) "> - a `` <b> `` b".toList =
      .ok ("<blockquote data-sourcepos=\"1:1-1:17\">\n<ul data-sourcepos=\"1:3-1:17\">\n<li data-sourcepos=\"1:3-1:17\">" ++
        "a <code data-sourcepos=\"1:7-1:15\">&lt;b&gt;</code> b</li>\n</ul>\n</blockquote>\n").toList := by
  rw [String.toList_append]
  decide_lits

/-- `T` may begin and end with spaces (only the padding pair goes), hold tabs and multi-byte characters (top level) -/
example (x : Bool) : renderDoc x (exCfg false 100) (['a'] ++ spanOf 0 [' ', 'é', '\t', '€', ' '] ++ []) =
    .ok ("<p>".toList ++ codeHtml (Render.nulStr ['a']) (Render.nulStr [' ', 'é', '\t', '€', ' ']) (Render.nulStr []) ++
      "</p>\n".toList) :=
  doc_span_render (exCfg false 100) _ _ _ 0
    ⟨⟨'a', [], rfl, by decide⟩, by decide, by decide, by decide, by decide, by decide, by decide, by decide, by decide⟩
    [.newline, .escape] _ rfl quietTick_stock
    [.code, .fence, .blockquote, .hr, .list, .reference, .heading, .lheading] [] rfl (by decide) (by decide) rfl x

example : ['a'] ++ spanOf 0 [' ', 'é', '\t', '€', ' '] ++ [] = "a`  é\t€  `".toList ∧
    "<p>".toList ++ codeHtml (Render.nulStr ['a']) (Render.nulStr [' ', 'é', '\t', '€', ' ']) (Render.nulStr []) ++
      "</p>\n".toList = "<p>a<code> é\t€ </code></p>\n".toList := by decide_lits

/-- what the model (= the crate, checked) does with an ALL-SPACE content of three or more spaces: `T = ␠` in the
    padded form is `` `␠␠␠` ``; the theorem applies and one pair of spaces goes — `<code> </code>`.  (CommonMark:
    a content consisting entirely of spaces is NOT stripped, `<code>   </code>`; the Rust tests
    `starts_with(' ') && ends_with(' ') && len() > 2`.)  Two spaces stay two. -/
example : SpanLine ['a', ' '] [' '] [] 0 ∧ ['a', ' '] ++ spanOf 0 [' '] ++ [] = "a `   `".toList ∧
    renderDoc false (exCfg false 100) "a `   `".toList = .ok "<p>a <code> </code></p>\n".toList ∧
    renderDoc false (exCfg false 100) "a `  `".toList = .ok "<p>a <code>  </code></p>\n".toList := by
  repeat rw [String.toList_ofList]
  refine ⟨⟨⟨'a', [' '], rfl, by decide⟩, by decide, by decide, by decide, by decide, by decide, by decide, by decide,
    by decide⟩, by decide +kernel, by decide +kernel, by decide +kernel⟩

/-- `pre` plain is needed: a backtick run in `pre` pairs with the opener (`T` lands outside the code), a backslash
    at the end of `pre` escapes the opener's first backtick -/
example : ¬ PlainTxt "a `` ".toList ∧ ¬ PlainTxt "a\\".toList ∧
    renderDoc false (exCfg false 100) ("a `` ".toList ++ spanOf 1 ['x'] ++ " b".toList) =
      .ok "<p>a <code> </code> x `` b</p>\n".toList ∧
    renderDoc false (exCfg false 100) ("a\\".toList ++ spanOf 1 ['x'] ++ []) = .ok "<p>a`` x ``</p>\n".toList := by
  decide_lits

/-- … and a `[` in `pre` can put the span into a link (the content is still verbatim, the tree is another) -/
example : ¬ PlainTxt "a [".toList ∧
    renderDoc false (exCfg false 100) ("a [".toList ++ spanOf 1 ['x'] ++ "](u)".toList) =
      .ok "<p>a <a href=\"u\"><code>x</code></a></p>\n".toList := by decide_lits

/-- `T` free of runs of `k + 1` backticks is needed: the first such run closes the span -/
example : List.replicate 2 '`' <:+: "x``y".toList ∧
    renderDoc false (exCfg false 100) ("a ".toList ++ spanOf 1 "x``y".toList ++ " b".toList) =
      .ok "<p>a <code> x</code>y `` b</p>\n".toList := by
  repeat rw [String.toList_ofList]
  refine ⟨⟨['x'], ['y'], by decide⟩, by decide +kernel⟩

/-- the first character: a digit (with `.` and a blank) makes the line a list item, not a paragraph -/
example : ¬ ParaFirst '1' ∧
    renderDoc false (exCfg false 100) ("1. ".toList ++ spanOf 1 ['x'] ++ []) = .ok "<ol>\n<li><code>x</code></li>\n</ol>\n".toList := by
  decide_lits

/-- no blank at the end of the line (`postEnd`) is a restriction of the statement, not of the behaviour: the
    trailing blank is dropped by the inline parser's `trim_src`, everything else is as in the theorem -/
example : renderDoc false (exCfg false 100) ("a ".toList ++ spanOf 1 ['x'] ++ " b ".toList) =
    .ok "<p>a <code>x</code> b</p>\n".toList := by decide_lits

/-- `depthCost w < max_nesting` is needed: quote + item cost 3 -/
example : renderDoc false (exCfg false 3) (wrapAll [.quote, .bullet '-'] ("a ".toList ++ spanOf 1 ['x'] ++ [])) =
      .ok "<blockquote>\n<ul>\n<li></li>\n</ul>\n</blockquote>\n".toList ∧
    renderDoc false (exCfg false 4) (wrapAll [.quote, .bullet '-'] ("a ".toList ++ spanOf 1 ['x'] ++ [])) =
      .ok "<blockquote>\n<ul>\n<li>a <code>x</code></li>\n</ul>\n</blockquote>\n".toList := by
  decide_lits

/-- the chain condition `QuietTick` is needed: an emphasis rule for the backtick in front of `backticks` takes the run -/
example : ¬ QuietTick (.emph '`' true) ∧
    renderDoc false { exCfg false 100 with inlineChain := [.text, .emph '`' true, .backticks] }
      ("a ".toList ++ spanOf 1 ['x'] ++ []) = .ok "<p>a `` x ``</p>\n".toList := by
  refine ⟨fun h => h.2 true rfl, by decide +kernel⟩

/-- MULTI-LINE spans (not covered by the theorems above; by evaluation, the crate agrees).  The block structure
    comes first: the span's lines are paragraph continuation lines, so a line of `T` that starts a block (`- y`)
    ends the paragraph and the span with it — a multi-line statement needs "no line of `T` interrupts a paragraph".
    Where the paragraph goes on, every LF becomes a space and NOTHING else changes: the continuation line's
    indentation stays (`x␠␠␠␠y`; CommonMark strips it), trailing blanks in front of the LF stay (no hard break);
    inside a block quote the `> ` prefixes are gone before the inline parser runs. -/
example : renderDoc false (exCfg false 100) "a `` x\n   y ``".toList = .ok "<p>a <code>x    y</code></p>\n".toList ∧
    renderDoc false (exCfg false 100) "a `` x  \ny ``".toList = .ok "<p>a <code>x   y</code></p>\n".toList ∧
    renderDoc false (exCfg false 100) "a `` x\n- y ``".toList =
      .ok "<p>a `` x</p>\n<ul>\n<li>y ``</li>\n</ul>\n".toList ∧
    renderDoc false (exCfg false 100) "> a `` x\n> y ``".toList =
      .ok "<blockquote>\n<p>a <code>x y</code></p>\n</blockquote>\n".toList := by
  decide_lits

end examples

end MdIt.C11N
