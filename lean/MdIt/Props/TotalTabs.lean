/-
  C01 (parse + render never panic) for ALL sources: the whole-pipeline totality theorems of
  Props/MemoSafe.lean without their "no tab" / `NoSplitTab` hypothesis.

  Why they have it: the inline totality theorems (`Inline.parseInline_total`,
  `Inline.parseInline_total_noesctick`) are proved for `Inline.MapOK` per-line tables; the `get_lines`
  table of a paragraph whose continuation line starts with a tab SPLIT by a container indent has a
  virtual-space entry (a key that does not follow a line feed, two entries with the same source offset)
  and is only `C05T.MapT`.

  How it is avoided — a TRANSFER, not a second no-panic proof.  The one-entry table `[(0, 0)]` is `MapOK`
  for every text (`Inline.mapOK_single`), so inline totality applies to it for every text.  The control
  flow of the inline parser never reads the table (positions, the `skip_token` memo, the code-span cache,
  the rule that fires, the tree shape and every node value are the same under any two tables); the table
  only feeds node RANGES, and ranges are read by partial operations at two places only: `map_end - count`
  in `trailing_text_pop` (newline rule) and `e - marker_len` in the delimiter matching
  (`get_map`'s `debug_assert!(start <= end)` compares INLINE offsets).  Lemmas/TotalTabsSim.lean and
  Lemmas/TotalTabsSim2.lean run the two parses in lock step (relation `Inline.IRel false` of
  Lemmas/C10DocInlineRel.lean, strict: side 2 must return `ok`); side 2 is safe at the two places by the
  frame invariant `C05T.RIv`, an image of the certificate of Lemmas/InlineCert*.lean that holds for every
  `MapT` table (`Inline.TT.parseInline_simT`).

  Property theorems.
  Inline (namespace `MdIt.Inline`):
    `parseInline_transfer_mapT`     success under ANY table transfers to every `MapT` table, same tree up
                                    to ranges;
    `parseInline_total_mapT`        generic in the black box: total on `[(0,0)]` for the texts in `P`
                                    ⇒ total on every `MapT` table for the texts in `P`;
    `parseInline_total_mapT_all`    every `ChainCoherent` chain (link / image once), solid markers: total
                                    on EVERY `MapT` table, every text;
    `parseInline_total_mapT_noesctick`  the instance for texts without backslash-backtick-backtick
                                    (`CS.parseInline_total_noesc` as the black box); a special case of
                                    `_all`.
    `solidMarkers_of_coherent`, `parseInline_total_mapT_chain`: for chains that list the text rule and
                                    the newline rule, `SolidMarkers` follows from `ChainCoherent`;
    `solidMarkers_needed`           … and it cannot be dropped in general at inline level: coherent chain
                                    with marker ' ', `MapT` table, the run panics (crate-confirmed).
  Whole document (namespace `MdIt.Pipeline`), NO hypothesis about tabs:
    `doc_total_tabs_of_single`      generic in the black box (no text hypothesis);
    `doc_total_tabs_of_single_noesc` generic in the black box (texts without backslash-backtick-backtick);
    `doc_total_coherent_tabs`       every configuration with the paragraph rule, a coherent inline chain
                                    (link / image once) and solid emphasis markers: EVERY source within
                                    the `i32` bound parses and renders;
    `doc_total_coherent_tabs_chain` … without the marker hypothesis when the chain lists the text rule and
                                    the newline rule;
    `doc_total_noesctick_all`       the special case with `NoEscTickTick src`;
    `doc_total_stock_every`         the stock configuration with strikethrough: EVERY source within the
                                    `i32` bound — C01 for the shipped configuration, complete;
    `doc_total_stock_tabs`          the stock configuration with `NoEscTickTick src` (a special case of
                                    `doc_total_stock_every`);
    `no_inline_panic_tabs`, `doc_crlf_invariant_tabs` (sourcepos off), `doc_crlf_invariant_sp_tabs`
    (sourcepos on), `doc_crlf_invariant_every`, `doc_crlf_invariant_stock`: C10 LF ↦ CR LF without the
    inline-no-panic hypothesis and without any tab hypothesis.
-/
import MdIt.Lemmas.TotalTabsSim2
import MdIt.Lemmas.TotalTabsDoc
import MdIt.Lemmas.C05TabsRanges
import MdIt.Props.MemoSafe
import MdIt.Props.DocTotal2
import MdIt.Props.C10Sourcepos
import MdIt.Lemmas.KernelEval

namespace MdIt.Inline
open MdIt.InlineOps (Srcmap getSourcePosFor getMap byteLen slice)
open MdIt.C05T (MapT SolidMarkers)

/-- **the transfer**: if `md.inline.parse` returns under SOME per-line table `m₁`, it returns under
    every table `m₂` that is `MapT` for the text (every `get_lines` table is: `C05T.mapT_of_virt`) —
    provided the emphasis markers are solid single bytes — and the two results are the same tree up to
    ranges (`LRel false`: same values, same shape). -/
theorem parseInline_transfer_mapT (cfg : Cfg) (hmk : SolidMarkers cfg.chain) {c : List Char}
    {m₁ m₂ : Srcmap} (hm : MapT c m₂) {ns₁ : List Node} (h₁ : parseInline cfg c m₁ = .ok ns₁) :
    ∃ ns₂, parseInline cfg c m₂ = .ok ns₂ ∧ LRel false ns₁ ns₂ := by
  have := TT.parseInline_simT cfg hmk c hm h₁
  cases h2 : parseInline cfg c m₂ with
  | ok ns₂ => rw [h2] at this; exact ⟨ns₂, rfl, this⟩
  | error e => rw [h2] at this; cases this

/-- **inline totality on `MapT` tables, generic in the black box**: if the inline parser is total on
    the one-entry table `[(0, 0)]` for every text in `P`, it is total on every `MapT` table for every
    text in `P`. -/
theorem parseInline_total_mapT (cfg : Cfg) (P : List Char → Prop)
    (Htot : ∀ c, P c → ∃ cs, parseInline cfg c [(0, 0)] = .ok cs)
    (hmk : SolidMarkers cfg.chain) {c : List Char} {m : Srcmap} (hm : MapT c m) (hp : P c) :
    ∃ cs, parseInline cfg c m = .ok cs := by
  obtain ⟨cs₁, h₁⟩ := Htot c hp
  obtain ⟨cs₂, h₂, _⟩ := parseInline_transfer_mapT cfg hmk hm h₁
  exact ⟨cs₂, h₂⟩

/-- **C01, inline pass, every `get_lines` table**: for every `ChainCoherent` chain (link / image rule at
    most once each) with solid emphasis markers, EVERY content and every `MapT` table — split tabs
    included — `md.inline.parse` returns a tree. -/
theorem parseInline_total_mapT_all (cfg : Cfg) (hc : ChainCoherent cfg = true)
    (hone : cfg.chain.count .link ≤ 1 ∧ cfg.chain.count .image ≤ 1)
    (hmk : SolidMarkers cfg.chain) {c : List Char} {m : Srcmap} (hm : MapT c m) :
    ∃ cs, parseInline cfg c m = .ok cs :=
  parseInline_total_mapT cfg (fun _ => True)
    (fun c _ => parseInline_total cfg hc hone (mapOK_single c)) hmk hm trivial

/-- the instance for contents without backslash-backtick-backtick (`CS.parseInline_total_noesc`) -/
theorem parseInline_total_mapT_noesctick (cfg : Cfg) (hc : ChainCoherent cfg = true)
    (hone : cfg.chain.count .link ≤ 1 ∧ cfg.chain.count .image ≤ 1)
    (hmk : SolidMarkers cfg.chain) {c : List Char} {m : Srcmap} (hm : MapT c m)
    (hne : CS.NoEscTickTick c) : ∃ cs, parseInline cfg c m = .ok cs :=
  parseInline_total_mapT cfg CS.NoEscTickTick
    (fun c hp => parseInline_total_noesctick cfg hc hone (mapOK_single c) hp) hmk hm hne

/-- in a `ChainCoherent` chain that lists the text rule and the newline rule (every shipped chain does),
    the emphasis markers are solid: the text rule answers at a space, the newline rule at a line feed -/
theorem solidMarkers_of_coherent (cfg : Cfg) (hc : ChainCoherent cfg = true)
    (htext : RuleId.text ∈ cfg.chain) (hnl : RuleId.newline ∈ cfg.chain) : SolidMarkers cfg.chain := by
  intro mk csw hmem
  have hmm : mk ∈ cfg.emphMarkers := by
    unfold Cfg.emphMarkers
    exact List.mem_filterMap.mpr ⟨_, hmem, rfl⟩
  unfold ChainCoherent at hc
  have h1 := List.all_eq_true.mp hc mk hmm
  simp only [Bool.and_eq_true, beq_iff_eq] at h1
  obtain ⟨hsz, hall⟩ := h1
  have h2 := List.all_eq_true.mp hall
  refine ⟨hsz, ?_, ?_⟩
  · intro e
    have := h2 _ hnl
    simp [RuleId.firesAt, e] at this
  · intro e
    have := h2 _ htext
    subst e
    revert this
    decide

/-- `parseInline_total_mapT_all` for chains with the text rule and the newline rule: coherence alone -/
theorem parseInline_total_mapT_chain (cfg : Cfg) (hc : ChainCoherent cfg = true)
    (hone : cfg.chain.count .link ≤ 1 ∧ cfg.chain.count .image ≤ 1)
    (htext : RuleId.text ∈ cfg.chain) (hnl : RuleId.newline ∈ cfg.chain)
    {c : List Char} {m : Srcmap} (hm : MapT c m) :
    ∃ cs, parseInline cfg c m = .ok cs :=
  parseInline_total_mapT_all cfg hc hone (solidMarkers_of_coherent cfg hc htext hnl) hm

/-- the table of Lemmas/C05TabsRanges.lean (`"a  \n   b *c*"` with three virtual spaces in front of
    `b`) is `MapT` but NOT `MapOK`: the entries `(4, 11)`, `(7, 11)` have the same source offset -/
example : MapT "a  \n   b *c*".toList [(0, 5), (4, 11), (7, 11)] ∧
    ¬ MapOK "a  \n   b *c*".toList [(0, 5), (4, 11), (7, 11)] := by
  refine ⟨C05T.tv_exTab_mapT, fun h => ?_⟩
  have := h.mono 1 4 11 7 11 rfl rfl
  omega

/-- … and the theorem applies to it (stock chain with strikethrough, any `max_nesting`): hard break with
    trailing-text pop, emphasis behind the virtual spaces -/
example (n : Nat) : ∃ cs, parseInline (stockCfg n) "a  \n   b *c*".toList [(0, 5), (4, 11), (7, 11)] = .ok cs :=
  parseInline_total_mapT_chain (stockCfg n)
    (by show ChainCoherent (stockCfg 0) = true; decide +kernel)
    (by show (stockCfg 0).chain.count .link ≤ 1 ∧ (stockCfg 0).chain.count .image ≤ 1; decide)
    (by show RuleId.text ∈ (stockCfg 0).chain; decide) (by show RuleId.newline ∈ (stockCfg 0).chain; decide)
    C05T.tv_exTab_mapT

/-- `MapT` is needed (some hypothesis on the table is): under a table whose values DEcrease the hard
    break's `map_end - count` underflows, although the run under `[(0, 0)]` succeeds -/
example :
    (∃ cs, parseInline (stockCfg 100) "x  \ny".toList [(0, 0)] = .ok cs) ∧
    Pipeline.errOf (parseInline (stockCfg 100) "x  \ny".toList [(0, 0), (1, 0), (2, 0), (3, 0)]) =
      some (.rust .underflow) := by
  refine ⟨parseInline_total_stock 100 _, ?_⟩
  decide +kernel

/-! ### `SolidMarkers` is needed at inline level -/

/-- a chain whose only rule is an emphasis pair on the SPACE character (coherent: no rule answers at a
    space in look-ahead mode) -/
def spCfg : Cfg :=
  { exCfg 100 with
    chain := [.emph ' ' true]
    fns := fun _ i => if i = 0 then some .em else if i = 1 then some .strong else none }

/-- a text whose second line starts with three spaces … -/
def spC : List Char := ['x', '\n', ' ', ' ', ' ', 'b', ' ', ' ', 'c', ' ', 'd']

/-- … which the table declares to be VIRTUAL (the cut part of a split tab: both entries at source
    offset 2) -/
def spM : Srcmap := [(0, 0), (2, 2), (5, 2)]

theorem spM_mapT : MapT spC spM := by
  refine C05T.mapT_of_virt ⟨⟨_, _, rfl⟩, by decide⟩ ?_ ?_ ⟨?_, ?_⟩
  · intro i k1 v1 k2 v2 h1 h2
    match i with
    | 0 => simp [spM] at h1 h2; omega
    | 1 => simp [spM] at h1 h2; omega
    | n + 2 => simp [spM] at h2
  · intro i k v h
    match i with
    | 0 =>
      simp [spM] at h
      obtain ⟨rfl, rfl⟩ := h
      exact .inl ⟨['x'], [' ', ' ', ' ', 'b', ' ', ' ', 'c', ' ', 'd'], rfl, by decide⟩
    | 1 =>
      simp [spM] at h
      obtain ⟨rfl, rfl⟩ := h
      exact .inr ⟨2, rfl⟩
    | n + 2 => simp [spM] at h
  · intro i k0 v k h0 h1 p hp hp'
    match i with
    | 0 => simp [spM] at h0 h1; omega
    | 1 =>
      simp [spM] at h0 h1
      obtain ⟨rfl, rfl⟩ := h0
      obtain ⟨rfl, _⟩ := h1
      have : p = 2 ∨ p = 3 ∨ p = 4 := by omega
      rcases this with rfl | rfl | rfl
      · exact ⟨['x', '\n'], [' ', ' ', 'b', ' ', ' ', 'c', ' ', 'd'], rfl, by decide⟩
      · exact ⟨['x', '\n', ' '], [' ', 'b', ' ', ' ', 'c', ' ', 'd'], rfl, by decide⟩
      · exact ⟨['x', '\n', ' ', ' '], ['b', ' ', ' ', 'c', ' ', 'd'], rfl, by decide⟩
    | n + 2 => simp [spM] at h1
  · intro i k0 v k h0 h1
    match i with
    | 0 => simp [spM] at h0 h1; omega
    | 1 =>
      simp [spM] at h0 h1
      obtain ⟨rfl, rfl⟩ := h0
      exact .inr ⟨['x'], [' ', ' ', ' ', 'b', ' ', ' ', 'c', ' ', 'd'], rfl, by decide⟩
    | n + 2 => simp [spM] at h1

/-- **`SolidMarkers` cannot be dropped from `parseInline_transfer_mapT` / `parseInline_total_mapT_all`**:
    a `ChainCoherent` chain with the marker ' ', a `MapT` table — the run of three VIRTUAL spaces becomes an
    `EmphMarker` with the empty range `(2, 2)`; the closer `"  "` cuts two delimiters off it (`2 - 2`), the
    closer `" "` one more: `0 - 1` underflows.  Under `[(0, 0)]` the same run returns.  CRATE-CONFIRMED
    (`md.inline.parse("x\n   b  c d", vec![(0,0),(2,2),(5,2)], ..)` with `emph_pair::add_with::<' ', 1|2, true>`
    on `MarkdownIt::new()`: "attempt to subtract with overflow"; under `vec![(0,0)]` it returns
    `Text(0,2) Em(2,10) Text(10,11)`, the ranges of the model).  (At DOCUMENT level
    the virtual spaces of a split tab sit at source offset ≥ 4, more than the three delimiters that can
    be cut: no document-level witness is known.) -/
theorem solidMarkers_needed :
    ChainCoherent spCfg = true ∧ MapT spC spM ∧
    (∃ cs, parseInline spCfg spC [(0, 0)] = .ok cs) ∧
    Pipeline.errOf (parseInline spCfg spC spM) = some (.rust .underflow) := by
  refine ⟨by decide +kernel, spM_mapT, ?_, by decide +kernel⟩
  have h : Pipeline.isOk (parseInline spCfg spC [(0, 0)]) = true := by decide +kernel
  cases hp : parseInline spCfg spC [(0, 0)] with
  | ok cs => exact ⟨cs, rfl⟩
  | error e => rw [hp] at h; cases h

end MdIt.Inline

namespace MdIt.Pipeline
open MdIt
open MdIt.Lines (lfToCrlf lfToCr)
open MdIt.C05T (MapT SolidMarkers)

/-- the whole pipeline is total as soon as the inline parser is total on `MapT` tables (no hypothesis on
    the text; `doc_total_of_inline_mapT` of Lemmas/TotalTabsDoc.lean without `NoEscTickTick`) -/
theorem doc_total_of_inline_mapT_all (cfg : DocCfg) (src : List Char)
    (hsmall : 4 * Lines.byteLen src + 8 < 2147483648) (hpara : cfg.hasPara = true)
    (H : ∀ (refs : Refs.RefMap) (c : List Char) (m : InlineOps.Srcmap), MapT c m →
      ∃ cs, Inline.parseInline (cfg.inlineCfg refs) c m = .ok cs) :
    (∃ t, parseDoc cfg src = .ok t) ∧ ∀ x, ∃ html, renderDoc x cfg src = .ok html :=
  doc_total_of_inline_mapT' cfg src hsmall hpara (P := fun _ => True)
    (fun _ _ hb => allInl_and (fun _ _ _ _ => trivial) (doc_tables_mapT cfg src hsmall hpara hb)
      (doc_tables_mapT cfg src hsmall hpara hb))
    (fun refs c m hm _ => H refs c m hm)

/-- **whole-pipeline totality for ALL sources, generic in the inline black box** (no text hypothesis):
    if the inline parser of the configuration is total on the one-entry table `[(0, 0)]`, then for every
    source within the `i32` bound — tabs split by containers or not — `md.parse` returns a tree and
    `render` / `xrender` return a string. -/
theorem doc_total_tabs_of_single (cfg : DocCfg) (src : List Char)
    (hsmall : 4 * Lines.byteLen src + 8 < 2147483648) (hpara : cfg.hasPara = true)
    (hmk : SolidMarkers cfg.inlineChain)
    (Htot : ∀ (refs : Refs.RefMap) (c : List Char),
      ∃ cs, Inline.parseInline (cfg.inlineCfg refs) c [(0, 0)] = .ok cs) :
    (∃ t, parseDoc cfg src = .ok t) ∧ ∀ x, ∃ html, renderDoc x cfg src = .ok html :=
  doc_total_of_inline_mapT_all cfg src hsmall hpara (fun refs _ _ hm =>
    Inline.parseInline_total_mapT (cfg.inlineCfg refs) (fun _ => True) (fun c _ => Htot refs c) hmk hm
      trivial)

/-- … generic in a black box for texts without backslash-backtick-backtick -/
theorem doc_total_tabs_of_single_noesc (cfg : DocCfg) (src : List Char)
    (hsmall : 4 * Lines.byteLen src + 8 < 2147483648) (hpara : cfg.hasPara = true)
    (hmk : SolidMarkers cfg.inlineChain) (hne : Inline.CS.NoEscTickTick src)
    (Htot : ∀ (refs : Refs.RefMap) (c : List Char), Inline.CS.NoEscTickTick c →
      ∃ cs, Inline.parseInline (cfg.inlineCfg refs) c [(0, 0)] = .ok cs) :
    (∃ t, parseDoc cfg src = .ok t) ∧ ∀ x, ∃ html, renderDoc x cfg src = .ok html :=
  doc_total_of_inline_mapT cfg src hsmall hpara hne (fun refs _ _ hm hp =>
    Inline.parseInline_total_mapT (cfg.inlineCfg refs) Inline.CS.NoEscTickTick (Htot refs) hmk hm hp)

/-- **C01, whole pipeline, EVERY source** (within the `i32` bound): for every configuration with the
    paragraph rule whose inline chain is `ChainCoherent` (link / image rule at most once each) with solid
    single-byte emphasis markers, `md.parse(src)` returns a tree and `render` / `xrender` return a string.
    `doc_total_coherent_all` of Props/MemoSafe.lean without `NoSplitTab`. -/
theorem doc_total_coherent_tabs (cfg : DocCfg) (src : List Char)
    (hc : Inline.ChainCoherent (cfg.inlineCfg []) = true)
    (hone : cfg.inlineChain.count .link ≤ 1 ∧ cfg.inlineChain.count .image ≤ 1)
    (hsmall : 4 * Lines.byteLen src + 8 < 2147483648) (hpara : cfg.hasPara = true)
    (hmk : SolidMarkers cfg.inlineChain) :
    (∃ t, parseDoc cfg src = .ok t) ∧ ∀ x, ∃ html, renderDoc x cfg src = .ok html :=
  doc_total_tabs_of_single cfg src hsmall hpara hmk (fun refs c =>
    Inline.parseInline_total (cfg.inlineCfg refs) hc hone (Inline.mapOK_single c))

/-- … for chains with the text rule and the newline rule (every shipped chain): coherence alone, no
    separate hypothesis on the markers -/
theorem doc_total_coherent_tabs_chain (cfg : DocCfg) (src : List Char)
    (hc : Inline.ChainCoherent (cfg.inlineCfg []) = true)
    (hone : cfg.inlineChain.count .link ≤ 1 ∧ cfg.inlineChain.count .image ≤ 1)
    (htext : Inline.RuleId.text ∈ cfg.inlineChain) (hnl : Inline.RuleId.newline ∈ cfg.inlineChain)
    (hsmall : 4 * Lines.byteLen src + 8 < 2147483648) (hpara : cfg.hasPara = true) :
    (∃ t, parseDoc cfg src = .ok t) ∧ ∀ x, ∃ html, renderDoc x cfg src = .ok html :=
  doc_total_coherent_tabs cfg src hc hone hsmall hpara
    (Inline.solidMarkers_of_coherent (cfg.inlineCfg []) hc htext hnl)

/-- the instance for sources without backslash-backtick-backtick
    (`doc_total_src_noesc` of Props/MemoSafe.lean without `'\t' ∉ src`); subsumed by
    `doc_total_coherent_tabs` -/
theorem doc_total_noesctick_all (cfg : DocCfg) (src : List Char)
    (hc : Inline.ChainCoherent (cfg.inlineCfg []) = true)
    (hone : cfg.inlineChain.count .link ≤ 1 ∧ cfg.inlineChain.count .image ≤ 1)
    (hsmall : 4 * Lines.byteLen src + 8 < 2147483648) (hpara : cfg.hasPara = true)
    (hmk : SolidMarkers cfg.inlineChain) (hne : Inline.CS.NoEscTickTick src) :
    (∃ t, parseDoc cfg src = .ok t) ∧ ∀ x, ∃ html, renderDoc x cfg src = .ok html :=
  doc_total_tabs_of_single_noesc cfg src hsmall hpara hmk hne (fun refs c hp =>
    Inline.parseInline_total_noesctick (cfg.inlineCfg refs) hc hone (Inline.mapOK_single c) hp)

/-- **C01 for the STOCK configuration with strikethrough, COMPLETE** (`exCfg`: CommonMark block and
    inline chains, `*`, `_`, `~~`), any `max_nesting`, sourcepos on or off: `md.parse(src)` returns a tree
    and `render` / `xrender` return a string for EVERY source within the `i32` size bound — no hypothesis
    about tabs, backticks, or the run. -/
theorem doc_total_stock_every (sp : Bool) (mn : Nat) (src : List Char)
    (hsmall : 4 * Lines.byteLen src + 8 < 2147483648) :
    (∃ t, parseDoc (exCfg sp mn) src = .ok t) ∧ ∀ x, ∃ html, renderDoc x (exCfg sp mn) src = .ok html :=
  doc_total_coherent_tabs (exCfg sp mn) src (exCfg_stock sp mn).1 (exCfg_stock sp mn).2.1 hsmall
    (exCfg_stock sp mn).2.2 (exCfg_solidMarkers sp mn)

/-- the statement of `doc_total_stock` (Props/MemoSafe.lean) without `'\t' ∉ src` -/
theorem doc_total_stock_tabs (sp : Bool) (mn : Nat) (src : List Char)
    (hsmall : 4 * Lines.byteLen src + 8 < 2147483648) (hne : Inline.CS.NoEscTickTick src) :
    (∃ t, parseDoc (exCfg sp mn) src = .ok t) ∧ ∀ x, ∃ html, renderDoc x (exCfg sp mn) src = .ok html :=
  doc_total_noesctick_all (exCfg sp mn) src (exCfg_stock sp mn).1 (exCfg_stock sp mn).2.1 hsmall
    (exCfg_stock sp mn).2.2 (exCfg_solidMarkers sp mn) hne

/-! ## C10: LF ↦ CR LF without the inline-no-panic hypothesis, all sources -/

/-- `parseDoc` reports no inline panic, whatever the tabs -/
theorem no_inline_panic_tabs (cfg : DocCfg) (src : List Char)
    (hc : Inline.ChainCoherent (cfg.inlineCfg []) = true)
    (hone : cfg.inlineChain.count .link ≤ 1 ∧ cfg.inlineChain.count .image ≤ 1)
    (hsmall : 4 * Lines.byteLen src + 8 < 2147483648) (hpara : cfg.hasPara = true)
    (hmk : SolidMarkers cfg.inlineChain) :
    ∀ e, parseDoc cfg src ≠ .error (.inline e) := by
  intro e h
  obtain ⟨⟨t, ht⟩, _⟩ := doc_total_coherent_tabs cfg src hc hone hsmall hpara hmk
  rw [ht] at h; cases h

/-- **C10, LF ↦ CR LF, sourcepos off, no hypothesis about panics or tabs** -/
theorem doc_crlf_invariant_tabs (x : Bool) (cfg : DocCfg) (src : List Char)
    (hsp : cfg.sourcepos = false) (hcr : '\r' ∉ src)
    (hc : Inline.ChainCoherent (cfg.inlineCfg []) = true)
    (hone : cfg.inlineChain.count .link ≤ 1 ∧ cfg.inlineChain.count .image ≤ 1)
    (hsmall : 4 * Lines.byteLen src + 8 < 2147483648) (hpara : cfg.hasPara = true)
    (hmk : SolidMarkers cfg.inlineChain) :
    renderDoc x cfg (lfToCrlf src) = renderDoc x cfg src :=
  doc_crlf_invariant_full x cfg src hsp hcr (no_inline_panic_tabs cfg src hc hone hsmall hpara hmk)

/-- **C10, LF ↦ CR LF, sourcepos ON, no hypothesis about panics or tabs**: the HTML with its
    `data-sourcepos` attributes is the same (`doc_crlf_invariant_sp_all` of Props/C10Sourcepos.lean with
    `hinl` discharged) -/
theorem doc_crlf_invariant_sp_tabs (x : Bool) (cfg : DocCfg) (src : List Char)
    (hsp : cfg.sourcepos = true) (hcr : '\r' ∉ src)
    (hc : Inline.ChainCoherent (cfg.inlineCfg []) = true)
    (hone : cfg.inlineChain.count .link ≤ 1 ∧ cfg.inlineChain.count .image ≤ 1)
    (hsmall : 4 * Lines.byteLen src + 8 < 2147483648) (hpara : cfg.hasPara = true)
    (hmk : SolidMarkers cfg.inlineChain) :
    renderDoc x cfg (lfToCrlf src) = renderDoc x cfg src :=
  doc_crlf_invariant_sp_all x cfg src hsp hcr (no_inline_panic_tabs cfg src hc hone hsmall hpara hmk)
    hsmall hpara hmk

/-- **C10, LF ↦ CR LF, every coherent configuration, with or without the sourcepos plugin, every
    CR-free source within the `i32` bound** -/
theorem doc_crlf_invariant_every (x : Bool) (cfg : DocCfg) (src : List Char) (hcr : '\r' ∉ src)
    (hc : Inline.ChainCoherent (cfg.inlineCfg []) = true)
    (hone : cfg.inlineChain.count .link ≤ 1 ∧ cfg.inlineChain.count .image ≤ 1)
    (hsmall : 4 * Lines.byteLen src + 8 < 2147483648) (hpara : cfg.hasPara = true)
    (hmk : SolidMarkers cfg.inlineChain) :
    renderDoc x cfg (lfToCrlf src) = renderDoc x cfg src := by
  cases hsp : cfg.sourcepos with
  | false => exact doc_crlf_invariant_tabs x cfg src hsp hcr hc hone hsmall hpara hmk
  | true => exact doc_crlf_invariant_sp_tabs x cfg src hsp hcr hc hone hsmall hpara hmk

/-- … for the stock configuration with strikethrough: every CR-free source within the `i32` bound -/
theorem doc_crlf_invariant_stock (x sp : Bool) (mn : Nat) (src : List Char) (hcr : '\r' ∉ src)
    (hsmall : 4 * Lines.byteLen src + 8 < 2147483648) :
    renderDoc x (exCfg sp mn) (lfToCrlf src) = renderDoc x (exCfg sp mn) src :=
  doc_crlf_invariant_every x (exCfg sp mn) src hcr (exCfg_stock sp mn).1 (exCfg_stock sp mn).2.1 hsmall
    (exCfg_stock sp mn).2.2 (exCfg_solidMarkers sp mn)

/-! ## non-vacuity -/

/-- a list item whose second paragraph starts with a SPLIT tab (content column 2, the tab reaches
    column 4): emphasis behind the virtual spaces, a hard break (trailing-text pop in source
    coordinates), a continuation line behind another split tab -/
def tabDoc : List Char := "- a\n\n \t*b*  \n\tc".toList

/-- its tab IS split: a placeholder table has a virtual-space entry, so `NoSplitTab` fails and
    `doc_total_coherent_all` of Props/MemoSafe.lean does not apply -/
example : (match Block.parseBlocks (exCfg true 100).blockCfg tabDoc with
    | .ok (root, _) => allNoVirtB root
    | .error _ => true) = false := by decide +kernel

/-- the theorem applies (nothing is evaluated but the size of the document) -/
example : (∃ t, parseDoc (exCfg true 100) tabDoc = .ok t) ∧
    ∀ x, ∃ html, renderDoc x (exCfg true 100) tabDoc = .ok html :=
  doc_total_stock_every true 100 tabDoc (by unfold tabDoc; decide_lits)

/-- … in agreement with kernel evaluation of the model -/
example : (parseDoc (exCfg true 100) tabDoc).toOption.isSome = true ∧
    (renderDoc false (exCfg true 100) tabDoc).toOption.isSome = true := by
  unfold tabDoc
  decide_lits

/-- a hard break in front of a split-tab paragraph, a code span and an emphasis across split tabs — every
    `max_nesting`, sourcepos on or off -/
example (sp : Bool) (mn : Nat) :
    ((∃ t, parseDoc (exCfg sp mn) "- a  \n\n \tb  \nc".toList = .ok t) ∧
      ∀ x, ∃ html, renderDoc x (exCfg sp mn) "- a  \n\n \tb  \nc".toList = .ok html) ∧
    ((∃ t, parseDoc (exCfg sp mn) "-    ` a\n\t\t`".toList = .ok t) ∧
      ∀ x, ∃ html, renderDoc x (exCfg sp mn) "-    ` a\n\t\t`".toList = .ok html) ∧
    ((∃ t, parseDoc (exCfg sp mn) "- *a\n\t b*  \n\tc".toList = .ok t) ∧
      ∀ x, ∃ html, renderDoc x (exCfg sp mn) "- *a\n\t b*  \n\tc".toList = .ok html) :=
  ⟨doc_total_stock_every sp mn _ (by decide_lits), doc_total_stock_every sp mn _ (by decide_lits),
    doc_total_stock_every sp mn _ (by decide_lits)⟩

/-- `doc_total_stock_tabs` on a source with a split tab and no backslash-backtick-backtick -/
example : (∃ t, parseDoc (exCfg false 100) tabDoc = .ok t) ∧
    ∀ x, ∃ html, renderDoc x (exCfg false 100) tabDoc = .ok html :=
  doc_total_stock_tabs false 100 tabDoc (by unfold tabDoc; decide_lits) (by unfold tabDoc; decide_lits)

/-- C10 on the split-tab document, sourcepos on and off, nothing about the run evaluated -/
example (x sp : Bool) :
    renderDoc x (exCfg sp 100) (lfToCrlf tabDoc) = renderDoc x (exCfg sp 100) tabDoc :=
  doc_crlf_invariant_stock x sp 100 tabDoc (by unfold tabDoc; decide_lits) (by unfold tabDoc; decide_lits)

/-
  OPEN / what is left of C01 at whole-document level after this file.

  * NOTHING is open for the shipped configurations: `doc_total_stock_every` has the `i32` size bound as
    its only hypothesis (the crate's line offsets are `i32`; `4 * |src| + 8 < 2^31`).
  * `SolidMarkers` (every emphasis-like marker is a single byte other than line feed and space) is needed
    by the frame invariant of side 2 (`IC.Markers`, `IC.markers_of_solid`: the run of markers must start
    with a solid character for the translation to be a shift on it).  It is not implied by `ChainCoherent` (a chain
    without the text rule may use ' ' as a marker).  Whether a ' ' marker on the virtual spaces of a split
    tab can make `e - marker_len` underflow at document level is not known (a marker run inside virtual
    spaces has a range of length 0, but the underflow needs a source offset smaller than the marker
    length, i.e. a split tab in the first three bytes of the document, where a container prefix sits).
  * `hone` (link / image rule at most once) and `ChainCoherent` are inherited from
    `Inline.parseInline_total`; `hpara` (the paragraph rule) from the block-level geometry theorems.
-/

end MdIt.Pipeline
