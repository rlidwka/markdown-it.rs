/-
  C01, inline pass: `md.inline.parse` never panics for coherent chains.

  THE THEOREM.  `parseInline_total`: for every chain that is `ChainCoherent` and lists the link rule and
  the image rule at most once each, for every content, every `max_nesting`, every reference map and every
  `MapOK` offset table, the inline parser returns a tree.  It is proved as an EQUALITY: the run of the
  guarded tokenizer of `Props/InlineTotal.lean` (the model's tokenizer with one extra test: a `skip_token`
  memo hit whose stored end lies beyond the current `pos_max` stops the run) IS the model's run
  (`ES.parseInlineG_eq_all`).  The guarded run never returns a Rust panic and the model run never runs out
  of fuel (`parseInline_total_of_eq`), so the model returns a tree.  `memoSafe_of_coherent` is the same
  fact in the terms of `Props/InlineTotal.lean`: the guard never trips.

  WHICH STATEMENT IS THE GENERAL ONE.
    inline pass, `MapOK` table                        `parseInline_total` (proof: `ES.parseInline_total`,
                                                      `Lemmas/MemoSafeLamESFinal.lean`)
    whole document, no tab split by a container
    indent (`NoSplitTab`)                             `doc_total_coherent` (`Lemmas/MemoSafeLamESDoc.lean`)
    whole document, every source                      `doc_total_coherent_tabs` (`Props/TotalTabs.lean`)
  Every other `parseInline_total_*` / `doc_total_*` theorem of this file, of
  `Lemmas/MemoSafeLamESFinal.lean`, `Lemmas/MemoSafeLamESDoc.lean` and `Props/TotalTabs.lean` is an
  instance of one of the three:
    * the configuration is the stock one with strikethrough (`parseInline_total_stock`,
      `doc_total_stock_all`, `doc_total_stock_notab`, `doc_total_stock_every`), or the chain lists the text
      and the newline rule, which gives `SolidMarkers` (`doc_total_coherent_tabs_chain`);
    * `NoSplitTab` is discharged by "no tab in the source" (`doc_total_coherent_src`, `doc_total_src_all`);
    * the same statement under a second name (`doc_total_coherent_all` = `doc_total_coherent`,
      `doc_total_src_all` = `doc_total_coherent_src`, `doc_total_stock_notab` = `doc_total_stock_all`);
    * the statement has a further hypothesis on the chain (no code-span rule, no image rule) or on the
      text (`NoDoubleTick`: no two adjacent backticks; `NoEscTickTick`: no backslash-backtick-backtick)
      which its proof does not use: `parseInline_total_coherent_link` / `_coherent_nocode` /
      `_coherent_nodouble`, `parseInline_total_noesctick` (and `parseInline_total_link`, `_nocode`,
      `_nodouble`, `CS.parseInline_total_noesc` behind them), `doc_total_nocode`, `doc_total_nodouble`,
      `doc_total_src`, `doc_total_noesctick`, `doc_total_src_noesc`, `doc_total_stock`,
      `doc_total_stock_nodouble`, and in `Props/TotalTabs.lean` the `_noesc*` / `doc_total_stock_tabs`
      statements.  They are special cases, kept as theorems of their own.

  HOW THE PROOF HANGS TOGETHER.  Every memo entry is made by look-ahead that starts in the TOP frame,
  under the top `pos_max`; inside a link label the memo is constant and the real tokenizer walks along the
  entries of the label walk that found the label: a nested label frame never has a memo MISS (brute-force
  check on an instrumented native copy: 0 exceptions in 11 million runs of coherent chains).  So there are
  two halves, top frame and nested frames, each an equality "guarded run = model run", over groundwork that
  holds for every chain, every `max_nesting` and every content:

   A. LOOK-AHEAD INSIDE A CLOSED FRAME (`Lemmas/MemoSafeDef.lean`, `MemoSafeClosed.lean`).
      Look-ahead code (`skip_token`, the label walks, every rule in look-ahead mode) runs inside ONE
      frame: `pos_max` never changes and every memo entry it adds ends at or before `pos_max`.  So a
      frame whose memo is `Closed cache lo posMax` (every entry that STARTS in `[lo, posMax)` ENDS
      `≤ posMax`) stays closed, and inside it the guarded look-ahead IS the model's look-ahead:
      `lookahead_guard_free` (= `skip_guard_free`), `parseLink_guard_free`; memo growth contract
      `skip_grow` / `parseLink_guard_grow` (`Grow`: old answers stay, keys below the walk untouched, new
      entries end `≤ pos_max`, the visited position is recorded).  The top frame starts with the empty
      memo, which is closed; a nested frame `[labelStart, labelEnd)` is closed iff the entry test
      `Closed cache labelStart labelEnd` holds.  BESIDE the proof of the theorem (which takes from it only
      `nested_good`: the nested state of the link rule is good again), `Lemmas/MemoSafeEntry.lean` makes
      that a statement about whole runs: the ENTRY-CHECKED tokenizer `tokLoopE` is the MODEL tokenizer (no
      guard on memo hits) plus that one test at each nested `tokenize` call; `entry_total`: a completed
      entry-checked run IS a completed guarded run with the same final state; `entrySafe_memoSafe`,
      `parseInline_total_of_entrySafe`.  The entry check is STRICTLY stronger than the memo check: for the
      incoherent witness chain, ``[`[a`a`](u) ` `` enters the label `[3,7)` with the crossing entry
      `6 ↦ 13`, which the label run never looks up.

   B. REPLAY OF LABEL WALKS (`Lemmas/MemoSafeWalk.lean`, `MemoSafeLabel.lean`, `MemoSafeLamWalk.lean`).
      `pwalk` = the label walk on the memo ALONE (no rule runs).
      `labelLoop_replay`  — where `pwalk` ends with a verdict, `labelLoop` over the model's or the
                            guarded `skip_token`, at ANY nesting level, returns that verdict at that
                            position and changes nothing (the memo does not grow);
      `labelLoop_records` — a completed `labelLoop` leaves a memo on which, and on every extension
                            of which, `pwalk` from the same start gives the same verdict;
      `pwalk_mono`, `pwalk_shrink_found`, `pwalk_frame` — more memo / smaller `pos_max`: under
                            `pos_max =` the label end it found, the walk is replayed up to that end
                            (no position without entry, no entry beyond `pos_max`);
      `pwalk_level_le`, `pwalk_below` — a walk over the same entries at a lower bracket level stops no
                            later (strictly lower: strictly earlier);
      `parseLink_records`, `parseLink_path`, `parseLink_frame_replay`, `nested_walk_replay` — after a
                            successful `parse_link` (inline OR reference form, second label walk
                            included) the label walk is recorded, the memo has a path
                            `labelStart → … → labelEnd`, and inside the nested frame the walk from
                            `labelStart` is a pure replay.

   C. WINDOW INDEPENDENCE (`Lemmas/MemoSafeWindow.lean`, `MemoSafeWindow2.lean`): the look-ahead verdict
      of every rule without look-ahead recursion does not change when `pos_max` shrinks from `M` to
      `M'`, as long as the verdict ends `≤ M'` and the character at `M'` is `]` (or `M' = M`):
      `ruleText_window`, `ruleNewline_window`, `ruleEscape_window`, `ruleAutolink_window`,
      `ruleEntity_window`, `ruleBackticks_window` (code-span cache: any `CacheInv` cache),
      `parseInlineTail_window` (the `(dest "title")` tail; needs only boundaries, and `Link.DecOk` of
      the decoder — `decOk_unescapeAll`).  Shown necessary by an example there: the `]` at `M'` for the
      text, newline, escape, entity and code-span rules, "the verdict ends `≤ M'`" for the autolink rule and
      the tail, `DecOk` (`tail_window_needs_decOk`); not `EntStop`, `CacheInv`, nor that `M'` cuts no
      backtick run.  Packaged for `runRule`: `runRule_flat_window`.

   D. WHAT `ChainCoherent` MEANS (`Lemmas/MemoSafeFires.lean`): `silent_declines` — `RuleId.firesAt` is
      sound (a rule declines in look-ahead mode at a first character not in its list); `coherent_marker`
      — for a coherent chain no rule fires at an emphasis marker, so the look-ahead token there is the
      single character (`pos ↦ pos + 1`; `just_unit`, `Lemmas/MemoSafeLamChain.lean`, is where the proof
      uses it: a real delimiter run covers single-character entries).  `chain_declines_at_marker` and
      `skipStep_unit_at_marker` say the same of the chain and of one `skip_token` step, as theorems of
      their own.

   E. THE ENTRY AT A `[` (`Lemmas/MemoSafeRec.lean`): `skipStep_records_link` — the entry a look-ahead
      step makes at a `[` is the single character, or the memo records (for ever) a label walk from
      `pos + 1` that finds a `]` strictly inside the entry.  Two consequences stated for their own sake
      (the proof compares `parse_link` calls in G instead): `parseLinkLabel_replay` — the real link rule
      re-finds that label end in every frame with a smaller `pos_max` that contains it, at any level, on
      less fuel, by memo hits only, returning the state it was given; `parseLink_replay_inline` — a
      successful inline-form `parse_link` is replayed IDENTICALLY (same label, destination, title, end)
      in every such frame (B + C).

   F. TOP FRAME (`Lemmas/MemoSafeLamTopKit.lean`).  The invariant of top-frame states says: same text,
      the top `pos_max`, every memo entry ends `≤ pos_max` — so the frame is `Closed` and A applies — and
      carries its WITNESS `Just`: the `skipStep` call that made it, or it is an entry made over the
      nesting limit.  That all look-ahead and the real chain keep it, and that in the top frame the
      guarded tokenizer is the model's, is proved once over the closure properties `TopKit` of an
      invariant `T` (it reads text, `pos_max`, memo and code-span cache only, survives the code-span
      rule, a new memo entry justified by the step that made it, and a nested label run): `top_total`,
      `parseInlineG_eq` — IF at every state satisfying a predicate `P` the guarded nested run equals the
      model's and leaves the memo alone (`TokEq`), and every nested frame entered from the top frame
      satisfies `P` (`Entry`), THEN guarded parser = model parser.
      `TopKit` has three instances (`topKit`, in the `…Final` file of each namespace), which differ in what
      the code-span comparison of G needs:
        `Inline.TopInv` (`MemoSafeLamDef.lean`)   no invariant on `inside_failed`: enough for chains
                                                  without the code-span rule and for contents without
                                                  two adjacent backticks (`backL2_of_noDouble`);
        `CS.TopInv` (`MemoSafeLamCSDef.lean`)     `MK`: every unit memo entry whose end is strictly
                                                  inside a backtick run is marked in the CURRENT
                                                  `inside_failed`; `IFP`: a look-ahead or nested real
                                                  state strictly inside a run has its position marked;
                                                  `NoCut`: the `pos_max` of a code-span call cuts no run.
                                                  Enough for contents without backslash-backtick-backtick
                                                  (`EndHyp`: there the unit step at a backtick is the
                                                  only token that ends strictly inside a run);
        `ES.TopInv` (`MemoSafeLamESDef.lean`)     in addition `EPc`: a state at which rules run is never
                                                  at an ESCAPED character (`esc`: odd number of
                                                  backslashes right before); `NL`: no mark of
                                                  `inside_failed` sits right behind an escaped character;
                                                  `IFP` only for positions whose previous character is
                                                  not escaped.  Every content.
      `parseInline_total` rests on the `ES` instance alone; `ES` uses definitions and rule-level lemmas of
      the other two, not their conclusions (`parseInline_total_of_nestHyps`, `CS.nestHyps_noesc`,
      `CS.parseInline_total_of_nested`), which are the same equality under the weaker invariants.

   G. PER-RULE COMPARISON (called L2 in the `MemoSafeLam*` files) between the witness state of a memo entry
      (look-ahead, top `pos_max`) and a nested real state at the same position (smaller `pos_max`, different
      tree / caches): `flat_L2` (text, newline, escape, autolink, entity), `real_silent_verdict`,
      `real_declines`, `emph_real_L2` (`MemoSafeLamFlat.lean`); `back_L2`, `back_L2_none`, `run_cache_indep`
      (`MemoSafeLamBack.lean`, code spans across caches); `parseLinkL2_core`, `parseLinkL2_link`,
      `just_link_call`, `parseLinkL2_image` (`MemoSafeLamLink.lean`): the real link / image rule's
      `parse_link` in a nested frame — inline form, full / collapsed / shortcut reference form, and every
      FAILING case — over any `skip_token` that follows memo hits, at any fuel, is one fixed result that
      leaves the state alone and, unless out of fuel, is the witness's result (`just_link_call`: the witness
      of a link TOKEN of the memo exposes its `parse_link` call; this is where "link / image rule at most
      once" is used). `back_L2` needs the two caches to agree on `inside_failed.contains pos`.  That holds
      at every position not strictly inside a backtick run (`inside_agree_of_not_interior`); strictly inside
      a run (reached after a failed opener, or behind an escaped backtick) it is a fact about the HISTORY of
      the shared cache — `back_L2_needs_inside` shows the statement false for arbitrary reachable caches —
      and is what `MK` / `IFP` record.  A position `k` behind `\`` with a backtick at `k` is strictly inside
      a run as far as the characters go, but the code-span rule treats it as a run start, and `k` must NOT
      be marked in either cache: no rule call ever happens AT the escaped backtick `k - 1` (`EPc`; in nested
      frames that is the memo path, in the top frame a parity argument along the run of backslashes in
      front: the real tokenizer and every label walk enter a backslash run at its first character), so
      nothing marks `k` (`NL`, `land_unmarked`).  Brute-force checks of these invariants on the instrumented
      native copy: `IFP`, `MK`; the escape landing (0 exceptions in 5 million runs); `EPc`, `NL`.

   H. NESTED FRAMES (`Lemmas/MemoSafeLamDef.lean`, `MemoSafeLamChain.lean`, `MemoSafeLamFrameKit.lean`,
      `MemoSafeLamNest.lean`, `…CSNest`, `…ESNest`).  `NF`, the
      invariant of nested states: constant memo with witnesses, the `]` at the frame end, and `Outer`:
      the position lies on a label walk over the memo that finds the frame end.  `nested_eq` — from the
      statements of G (bundled as `NestHyps`), by induction on the fuel: every state satisfying `NF` has
      guarded nested run = model nested run, with the memo unchanged (`chain_L2`: the real chain at a
      position takes the step the witness of its memo entry took; `outer_marker_run`: a real delimiter
      run walks over single-character entries; `over_limit`: frames at `level ≥ max_nesting` run no
      rule).  The argument is written once, in `MemoSafeLamFrameKit.lean`, over the closure properties of
      the invariant (`NestKit`, `NestKit.Frame`, `NestKit.Loop`); the `NF` of each of the three namespaces
      is an instance (`nestKit`, `nestKit_loop`).  `NF.enter`, `entryP_NF`: a nested frame entered from the
      top frame (or from a nested frame) satisfies `NF`.

  LAMINARITY (L3) — NEITHER PROVED NOR NEEDED.  Conjecture: for a coherent chain the memo is `Laminar`
  (no two entries cross: `k ≤ k' < v → v' ≤ v`) whenever the real link rule enters a nested frame.  It
  would give the entry condition of A directly: `closed_of_path` — over a laminar memo a memo path
  `a → … → b` is `Closed m a b`; with B, `frame_entry_closed_of_laminar`.  Evidence (instrumented native
  copy; coherent chains incl. the stock one; `max_nesting` 1, 2, 3, 4, 100; three reference maps): the
  final memo of every run is laminar and every nested frame starts closed in 45 million runs —
  exhaustive over `[]()!a` to length 7, over `[]!a(` to length 8, over ``[]a` `` to length 8, random over
  ``[]()!a`*\ `` (length 14) and ``[]!a` `` (length 12).  Without coherence it FAILS while the memo check
  still passes: `laminar_needs_coherence` (emphasis on `[` in front of the link rule: the real delimiter
  run steps INTO a look-ahead link token; the memo ends up crossing, yet no hit lies beyond `pos_max`).

  What is not covered: at the end of the file.
-/
import MdIt.Lemmas.MemoSafeLabel
import MdIt.Lemmas.MemoSafeEntry
import MdIt.Lemmas.MemoSafeRec
import MdIt.Lemmas.MemoSafeWindow
import MdIt.Lemmas.MemoSafeWindow2
import MdIt.Lemmas.MemoSafeLamFinal
import MdIt.Lemmas.MemoSafeLamDoc
import MdIt.Lemmas.MemoSafeLamBack2
import MdIt.Lemmas.MemoSafeLamESDoc
import MdIt.Props.InlineTotal
import MdIt.Lemmas.KernelEval

namespace MdIt.Inline
open MdIt.InlineOps (Srcmap)

/-! ## the theorem -/

/-- **C01, inline pass: `md.inline.parse` never panics for coherent chains.**
    For every chain that is `ChainCoherent` (decidable: every emphasis marker is a single byte at which
    no rule of the chain answers in look-ahead mode — true of the stock chain with strikethrough and of
    every shipped configuration) and lists the link rule and the image rule at most once each, for EVERY
    content (any runs of backticks, escaped backticks anywhere), every `max_nesting` (0 included), every
    reference map and every `MapOK` offset table, the inline parser returns a tree.
    `Props/InlineTotal.lean` states it without `hone`; see "What is not covered" at the end. -/
theorem parseInline_total (cfg : Cfg) (hc : ChainCoherent cfg = true)
    (hone : cfg.chain.count .link ≤ 1 ∧ cfg.chain.count .image ≤ 1) {content : List Char}
    {mapping : Srcmap} (hm : MapOK content mapping) :
    ∃ cs, parseInline cfg content mapping = .ok cs :=
  ES.parseInline_total cfg hc hone hm

/-- … in the terms of `Props/InlineTotal.lean`: the memo check passes, i.e. the guard of the guarded
    tokenizer (a `skip_token` memo hit beyond the current `pos_max`) never trips -/
theorem memoSafe_of_coherent (cfg : Cfg) (hc : ChainCoherent cfg = true)
    (hone : cfg.chain.count .link ≤ 1 ∧ cfg.chain.count .image ≤ 1) {content : List Char}
    {mapping : Srcmap} (hm : MapOK content mapping) : memoSafe cfg content mapping = true := by
  obtain ⟨cs, hcs⟩ := parseInline_total cfg hc hone hm
  unfold memoSafe
  rw [ES.parseInlineG_eq_all cfg hc hone hm, hcs]

theorem stockCfg_coherent (n : Nat) : ChainCoherent (stockCfg n) = true := by
  show ChainCoherent (stockCfg 0) = true; decide +kernel

theorem stockCfg_once (n : Nat) :
    (stockCfg n).chain.count .link ≤ 1 ∧ (stockCfg n).chain.count .image ≤ 1 := by
  show (stockCfg 0).chain.count .link ≤ 1 ∧ (stockCfg 0).chain.count .image ≤ 1; decide

-- the hypotheses hold for the STOCK chain with strikethrough, whatever `max_nesting`
example : ChainCoherent (stockCfg 100) = true ∧
    (stockCfg 100).chain.count .link ≤ 1 ∧ (stockCfg 100).chain.count .image ≤ 1 :=
  ⟨stockCfg_coherent 100, stockCfg_once 100⟩

/-- the STOCK chain with strikethrough: EVERY one-line content parses, whatever `max_nesting` -/
theorem parseInline_total_stock (n : Nat) (content : List Char) :
    ∃ cs, parseInline (stockCfg n) content [(0, 0)] = .ok cs :=
  parseInline_total (stockCfg n) (stockCfg_coherent n) (stockCfg_once n) (mapOK_single content)

-- backslash-backtick-backtick (the text on which the escape rule's token ends strictly inside a run of
-- backticks), at the top and inside a link label, below and at the nesting limit: kernel evaluation
-- agrees with the theorem (text + code span, link + text, …)
example : ¬ CS.NoEscTickTick "\\``a``".toList ∧ ¬ CS.NoEscTickTick "[x \\``a`` `b](u) ``".toList := by
  decide_lits
example : (match parseInline (stockCfg 100) "\\``a``".toList [(0, 0)] with
    | .ok cs => cs.length | .error _ => 0) = 2 := by decide +kernel
example : (match parseInline (stockCfg 100) "[x \\``a`` `b](u) ``".toList [(0, 0)] with
    | .ok cs => cs.length | .error _ => 0) = 2 := by decide +kernel
example : (match parseInline (stockCfg 0) "[x \\``a`` `b](u) ``".toList [(0, 0)] with
    | .ok cs => cs.length | .error _ => 0) = 1 := by decide +kernel
example : ∃ cs, parseInline (stockCfg 100) "[x \\``a`` `b](u) ``".toList [(0, 0)] = .ok cs :=
  parseInline_total_stock 100 _
-- `ChainCoherent` is necessary: `witness_panics` (`Props/InlineTotal.lean`) — and the witness chain is not coherent
example : ChainCoherent witnessCfg = false := by decide +kernel

/-! ## look-ahead inside a closed frame -/

/-- **Inside a closed frame the guard never trips in look-ahead code**: from every state under `LInv`
    whose memo is closed on `[lo, posMax)` with `lo ≤ pos`, the guarded `skip_token` returns exactly
    what the model's `skip_token` returns, and every entry it adds ends at or before `posMax` (so the
    frame stays closed).  Every chain, every fuel, every nesting level. -/
theorem lookahead_guard_free (cfg : Cfg) (fuel : Nat) (st : IState) (lo : Nat) (hi : LInv st)
    (hlt : st.pos < st.posMax) (hc : Closed st.cache lo st.posMax) (hlo : lo ≤ st.pos) :
    skipTokenG cfg true fuel st = skipToken cfg fuel st ∧
    ∀ st', skipTokenG cfg true fuel st = .ok st' →
      Closed st'.cache lo st.posMax ∧ st'.cache.lookup st.pos = some st'.pos ∧
      LookupMono st.cache st'.cache := by
  obtain ⟨h1, h2⟩ := skip_guard_free cfg fuel st lo hi hlt hc hlo
  refine ⟨h1, ?_⟩
  intro st' h
  obtain ⟨g, r⟩ := skip_grow cfg fuel st hi hlt st' h
  exact ⟨hc.of_new (h2 st' h), r, g.mono⟩

/-! ## the nested frame replays the label walk -/

/-- **the nested frame replays the label walk**: after a successful `parse_link` (guarded
    `skip_token`; on closed frames that is the model's) every state of the nested frame — `pos_max`
    the label end, ANY level, any extension of the memo — walks from the label start over recorded
    entries only and stops at the label end on the empty window: `labelLoop` answers "not found" there
    and leaves the state alone. -/
theorem nested_walk_replay (cfg : Cfg) (f fuel F : Nat) (g : Bool) (st : IState) (pos : Nat) (en : Bool)
    (hi : LInv st) (hb : Boundary st.src (pos + 1)) (hle : pos + 1 ≤ st.posMax)
    {res : LinkRes} {st' : IState}
    (h : parseLink cfg (fun s => skipTokenG cfg true f s) fuel st pos en = .ok (some res, st'))
    (s : IState) (hsrc : s.src = st.src) (hmax : s.posMax = res.labelEnd) (hpos : s.pos = res.labelStart)
    (hext : LookupMono st'.cache s.cache) (hfw : MemoInv s) :
    labelLoop (fun x => skipTokenG cfg g (F + 1) x) en fuel 1 s =
      .ok (some false, { s with pos := res.labelEnd }) := by
  apply labelLoop_replay (followsHits_guarded cfg g F) en fuel 1 s
  rw [hsrc, hmax, hpos]
  exact parseLink_frame_replay (skipTokenG_calm cfg true f) (skipTokenG_T cfg f) (skip_grow cfg f)
    fuel st pos en hi hb hle h hext hfw

-- `pwalk` on a recorded walk: `[a [b] c]`-like memo over "a[b]c]": entries of single characters, the
-- walk from 0 at level 1 passes the inner brackets and finds the `]` at 5
example : pwalk "a[b]c]".toList 6 [(0, 1), (1, 2), (2, 3), (3, 4), (4, 5)] false 10 1 0
    = .done (some true) 5 := by decide +kernel
-- … the nested frame (`pos_max = 5`): replayed to the end, "not found" on the empty window
example : pwalk "a[b]c]".toList 5 [(0, 1), (1, 2), (2, 3), (3, 4), (4, 5)] false 10 1 0
    = .done (some false) 5 := by decide +kernel
-- … an entry beyond `pos_max` (what the guard is about) and a position without entry are reported
example : pwalk "a[b]c]".toList 5 [(0, 1), (1, 6)] false 10 1 0 = .beyond 1 6 := by decide +kernel
example : pwalk "a[b]c]".toList 6 [(0, 1)] false 10 1 0 = .miss 1 := by decide +kernel

/-! ## window independence of the rules without look-ahead recursion, as `runRule` sees them -/

/-- **window independence of the flat rules** (everything but link / image), in look-ahead mode: the
    verdict at `pos` under `pos_max = M` that ends at or before `M'` is the verdict under
    `pos_max = M'`, when the character at `M'` is `]` or `M' = M` (`WinHyp`).  Entity needs `EntStop`
    (its regexes ignore `pos_max`), code spans a sound closer table and no marker run cut by the outer
    `pos_max`; emphasis and `linkEnd` never answer in look-ahead mode. -/
theorem runRule_flat_window {cfg : Cfg} {skip tok : IState → Except Panic IState} {fuel : Nat}
    (id : RuleId) (hflat : id.isFlat = true) {st : IState} {M' : Nat} (h : WinHyp st M')
    (hstop : EntStop st.src st.posMax) (hinv : CodePair.CacheInv '`' st.src st.backticks)
    (hnc : st.posMax = st.backticks.scannedTo ∨ CodePair.NoCut '`' st.src st.posMax) (n : Nat) :
    ((∃ s1, runRule cfg skip tok fuel id st true = .ok (some n, s1)) ∧ st.pos + n ≤ M') ↔
      (∃ s2, runRule cfg skip tok fuel id (st.shrink M') true = .ok (some n, s2)) := by
  cases id with
  | text => simp only [runRule, liftR_ok]; exact ruleText_window h n
  | newline => simp only [runRule, liftR_ok]; exact ruleNewline_window h n
  | escape => simp only [runRule, liftR_ok]; exact ruleEscape_window h n
  | backticks => simp only [runRule, liftR_ok]; exact ruleBackticks_window h hinv hnc n
  | emph mk csw => simp [runRule, liftR_ok, ruleEmph_silent]
  | link => simp [RuleId.isFlat] at hflat
  | image => simp [RuleId.isFlat] at hflat
  | linkEnd => simp [runRule]
  | autolink => simp only [runRule, liftR_ok]; exact ruleAutolink_window h n
  | entity => simp only [runRule, liftR_ok]; exact ruleEntity_window cfg h hstop n

/-! ## the entry check -/

/-- the chain from the entry check to totality, for coherent chains (`ChainCoherent` supplies the
    single-byte markers the no-panic theorems need) -/
theorem parseInline_total_of_entrySafe_coherent (cfg : Cfg) (hc : ChainCoherent cfg = true)
    {content : List Char} {mapping : Srcmap} (hm : MapOK content mapping)
    (h : entrySafe cfg content mapping = true) : ∃ cs, parseInline cfg content mapping = .ok cs :=
  parseInline_total_of_entrySafe cfg (coherent_hsz hc) hm h

-- the entry check on runs with nested frames (stock chain; `max_nesting = 2`: look-ahead over the limit)
example : entrySafe (stockCfg 100) "![a [b](c) *d*](e) [a][a] [x".toList [(0, 0)] = true := by
  decide_lits
example : entrySafe (stockCfg 2) "[[[a](b)](c)](d) `[`".toList [(0, 0)] = true := by decide_lits
-- it fails on the witness of `Props/InlineTotal.lean` (the label `[3,7)` is entered with `6 ↦ 13`)
example : entrySafe witnessCfg witness [(0, 0)] = false := entrySafe_witness.1

-- the look-ahead token of the stock chain at `*` is the single character (entry `0 ↦ 1`)
example : (match skipToken (stockCfg 100) 5 (IState.init "*a*".toList [(0, 0)]) with
    | .ok s => some (s.pos, s.cache) | .error _ => none) = some (1, [(0, 1)]) := by decide +kernel
-- the entry at the `[` of "[a](b) c" covers the link (`0 ↦ 6`), the label walk `1 ↦ 2` is in the memo
example : (match skipToken (stockCfg 100) 9 (IState.init "[a](b) c".toList [(0, 0)]) with
    | .ok s => some (s.pos, s.cache) | .error _ => none) = some (6, [(0, 6), (1, 2)]) := by decide +kernel

/-! ## special cases with hypotheses on the chain or the text

    Each is `parseInline_total`; the hypotheses `hnb`, `hni`, `hnd`, `hne` are not used. -/

/-- `parseInline_total` for chains without the code-span rule and without the image rule; `hnb` is not
    used, `hni` only gives `count .image ≤ 1` -/
theorem parseInline_total_coherent_link (cfg : Cfg) (hc : ChainCoherent cfg = true)
    (hnb : RuleId.backticks ∉ cfg.chain) (hni : RuleId.image ∉ cfg.chain)
    (hone : cfg.chain.count .link ≤ 1) {content : List Char} {mapping : Srcmap}
    (hm : MapOK content mapping) : ∃ cs, parseInline cfg content mapping = .ok cs :=
  parseInline_total_link cfg hc hnb hni hone hm

/-- a chain the theorem covers: everything of the stock chain but code spans and images -/
def linkCfg (maxNesting : Nat) : Cfg :=
  { stockCfg maxNesting with
    chain := [.text, .newline, .escape, .emph '~' true, .emph '*' true, .emph '_' false, .link,
              .autolink, .entity] }

example : ChainCoherent (linkCfg 100) = true ∧ RuleId.backticks ∉ (linkCfg 100).chain ∧
    RuleId.image ∉ (linkCfg 100).chain ∧ (linkCfg 100).chain.count .link ≤ 1 := by decide +kernel

-- … hence every one-line content parses, whatever `max_nesting` (no `decide` on the content)
example (n : Nat) (content : List Char) : ∃ cs, parseInline (linkCfg n) content [(0, 0)] = .ok cs :=
  parseInline_total_coherent_link (linkCfg n)
    (by show ChainCoherent (linkCfg 0) = true; decide +kernel)
    (by show RuleId.backticks ∉ (linkCfg 0).chain; decide)
    (by show RuleId.image ∉ (linkCfg 0).chain; decide)
    (by show (linkCfg 0).chain.count .link ≤ 1; decide)
    (mapOK_single content)

/-- `parseInline_total` for chains without the code-span rule; `hnb` is not used -/
theorem parseInline_total_coherent_nocode (cfg : Cfg) (hc : ChainCoherent cfg = true)
    (hnb : RuleId.backticks ∉ cfg.chain)
    (hone : cfg.chain.count .link ≤ 1 ∧ cfg.chain.count .image ≤ 1) {content : List Char}
    {mapping : Srcmap} (hm : MapOK content mapping) : ∃ cs, parseInline cfg content mapping = .ok cs :=
  parseInline_total_nocode cfg hc hnb hone hm

/-- `parseInline_total` on contents without two adjacent backticks; `hnd` is not used -/
theorem parseInline_total_coherent_nodouble (cfg : Cfg) (hc : ChainCoherent cfg = true)
    (hone : cfg.chain.count .link ≤ 1 ∧ cfg.chain.count .image ≤ 1) {content : List Char}
    {mapping : Srcmap} (hm : MapOK content mapping) (hnd : NoDoubleTick content) :
    ∃ cs, parseInline cfg content mapping = .ok cs :=
  parseInline_total_nodouble cfg hc hone hm hnd

-- the STOCK chain with strikethrough: every one-line content without "``" parses, whatever `max_nesting`
example (n : Nat) (content : List Char) (hnd : NoDoubleTick content) :
    ∃ cs, parseInline (stockCfg n) content [(0, 0)] = .ok cs :=
  parseInline_total_coherent_nodouble (stockCfg n) (stockCfg_coherent n) (stockCfg_once n)
    (mapOK_single content) hnd

example : NoDoubleTick "[a `b` ![c](d)](e) `f`".toList ∧ ¬ NoDoubleTick "a ``b`` c".toList := by
  decide_lits

/-- `parseInline_total` on contents without backslash-backtick-backtick; `hne` is not used -/
theorem parseInline_total_noesctick (cfg : Cfg) (hc : ChainCoherent cfg = true)
    (hone : cfg.chain.count .link ≤ 1 ∧ cfg.chain.count .image ≤ 1) {content : List Char}
    {mapping : Srcmap} (hm : MapOK content mapping) (hne : CS.NoEscTickTick content) :
    ∃ cs, parseInline cfg content mapping = .ok cs :=
  CS.parseInline_total_noesc cfg hc hone hm hne

-- the STOCK chain with strikethrough: every one-line content without "\``" parses, whatever `max_nesting`
example (n : Nat) (content : List Char) (hne : CS.NoEscTickTick content) :
    ∃ cs, parseInline (stockCfg n) content [(0, 0)] = .ok cs :=
  parseInline_total_noesctick (stockCfg n) (stockCfg_coherent n) (stockCfg_once n)
    (mapOK_single content) hne

example : CS.NoEscTickTick "a ``b ` c`` [```d```](e) \\` f".toList ∧
    ¬ CS.NoEscTickTick "a \\``b`".toList := by decide_lits

/-! ## laminarity of the memo: the conjecture (L3), its consequence, and why it needs coherence -/

/-- **a nested frame starts closed when the memo `parse_link` returns is laminar** -/
theorem frame_entry_closed_of_laminar (cfg : Cfg) (f fuel : Nat) (st : IState) (pos : Nat) (en : Bool)
    (hi : LInv st) (hb : Boundary st.src (pos + 1)) (hle : pos + 1 ≤ st.posMax)
    {res : LinkRes} {st' : IState}
    (h : parseLink cfg (fun s => skipTokenG cfg true f s) fuel st pos en = .ok (some res, st'))
    (hlam : Laminar st'.cache) : Closed st'.cache res.labelStart res.labelEnd :=
  parseLink_entry_closed_G cfg f fuel st pos en hi hb hle h hlam

/-- executable `Laminar` -/
def laminarB (m : List (Nat × Nat)) : Bool :=
  m.all fun e => m.all fun e' => !(decide (e.1 ≤ e'.1) && decide (e'.1 < e.2)) || decide (e'.2 ≤ e.2)

theorem laminarB_iff (m : List (Nat × Nat)) : laminarB m = true ↔ Laminar m := by
  unfold laminarB Laminar
  simp only [List.all_eq_true, Bool.or_eq_true, Bool.not_eq_true', Bool.and_eq_false_iff,
    decide_eq_false_iff_not, decide_eq_true_eq, Prod.forall]
  constructor
  · intro h k v k' v' h1 h2 h3 h4
    rcases h k v h1 k' v' h2 with (h5 | h5) | h5
    · exact absurd h3 h5
    · exact absurd h4 h5
    · exact h5
  · intro h k v h1 k' v' h2
    by_cases h3 : k ≤ k'
    · by_cases h4 : k' < v
      · exact .inr (h k v k' v' h1 h2 h3 h4)
      · exact .inl (.inr h4)
    · exact .inl (.inl h3)

/-- the memo at the end of the guarded run -/
def finalMemo (cfg : Cfg) (content : List Char) (mapping : Srcmap) : Option (List (Nat × Nat)) :=
  match tokLoopG cfg true (topFuel cfg content) (IState.init content mapping).posMax
      (IState.init content mapping) with
  | .ok st => some st.cache
  | .error _ => none

theorem finalMemo_none {cfg : Cfg} {content : List Char} {mapping : Srcmap}
    (h : memoSafe cfg content mapping = false) : finalMemo cfg content mapping = none := by
  unfold memoSafe parseInlineG at h
  unfold finalMemo
  split <;> simp_all

-- the memo of a run of the stock chain with nested image / link labels, a failed link, a reference
-- link and look-ahead over the nesting limit is laminar
example : (finalMemo (stockCfg 100) "![a [b](c) *d*](e) [a][a] [x".toList [(0, 0)]).map laminarB
    = some true := by decide_lits
example : (finalMemo (stockCfg 2) "[[[a](b)](c)](d) `[`".toList [(0, 0)]).map laminarB
    = some true := by decide_lits

/-- the configuration of `laminar_needs_coherence`: emphasis on `[`, the link rule in the chain -/
def crossCfg : Cfg := { exCfg 1 with chain := [.escape, .image, .link, .emph '[' true] }

/-- **(L3) needs coherence, and is not necessary for `memoSafe`**: with an emphasis pair on `[` (a
    character at which the link rule answers in look-ahead mode: not `ChainCoherent`) the real
    delimiter run `[[` steps INTO the look-ahead link token `1 ↦ 10`; the walk of the link at 4 then
    leaves `7 ↦ 14`, which crosses it.  The memo check still passes (no hit beyond `pos_max`). -/
theorem laminar_needs_coherence :
    ChainCoherent crossCfg = false ∧
    (finalMemo crossCfg "[[]([![*])(\\*)".toList [(0, 0)]).map laminarB = some false ∧
    memoSafe crossCfg "[[]([![*])(\\*)".toList [(0, 0)] = true := by decide +kernel

-- the witness of `Props/InlineTotal.lean` (guard trips): the guarded run does not complete
example : finalMemo witnessCfg witness [(0, 0)] = none := finalMemo_none witness_panics.2.1

-- a laminar memo with a path is closed; a crossing one is not
example : laminarB [(0, 1), (1, 5), (2, 3), (3, 4)] = true ∧ laminarB [(1, 5), (2, 7)] = false := by
  decide +kernel

end MdIt.Inline

/-! ## whole document -/

namespace MdIt.Pipeline
open MdIt

/-- `doc_total_coherent` (`Lemmas/MemoSafeLamESDoc.lean`) under a second name: C01 for the whole
    pipeline — for every configuration with the paragraph rule whose inline chain is `ChainCoherent` (link /
    image rule at most once each), every source within the `i32` size bound in which no tab is split by a
    container indent (`NoSplitTab`), `md.parse(src)` returns a tree and `render` / `xrender` return a
    string. -/
theorem doc_total_coherent_all (cfg : DocCfg) (src : List Char)
    (hc : Inline.ChainCoherent (cfg.inlineCfg []) = true)
    (hone : cfg.inlineChain.count .link ≤ 1 ∧ cfg.inlineChain.count .image ≤ 1)
    (hsmall : 4 * Lines.byteLen src + 8 < 2147483648) (hpara : cfg.hasPara = true)
    (hnv : NoSplitTab cfg src) :
    (∃ t, parseDoc cfg src = .ok t) ∧ ∀ x, ∃ html, renderDoc x cfg src = .ok html :=
  doc_total_coherent cfg src hc hone hsmall hpara hnv

/-- `doc_total_coherent_src` under a second name: `NoSplitTab` follows from "no tab in the source" -/
theorem doc_total_src_all (cfg : DocCfg) (src : List Char)
    (hc : Inline.ChainCoherent (cfg.inlineCfg []) = true)
    (hone : cfg.inlineChain.count .link ≤ 1 ∧ cfg.inlineChain.count .image ≤ 1)
    (hsmall : 4 * Lines.byteLen src + 8 < 2147483648) (hpara : cfg.hasPara = true)
    (htab : '\t' ∉ src) :
    (∃ t, parseDoc cfg src = .ok t) ∧ ∀ x, ∃ html, renderDoc x cfg src = .ok html :=
  doc_total_coherent_src cfg src hc hone hsmall hpara htab

/-- `doc_total_stock_all` with the hypotheses in another order: the instance of `doc_total_src_all` at
    the stock configuration with strikethrough (`exCfg`: CommonMark block and inline chains, `*`, `_`,
    `~~`), any `max_nesting`, sourcepos on or off -/
theorem doc_total_stock_notab (sp : Bool) (mn : Nat) (src : List Char)
    (hsmall : 4 * Lines.byteLen src + 8 < 2147483648) (htab : '\t' ∉ src) :
    (∃ t, parseDoc (exCfg sp mn) src = .ok t) ∧ ∀ x, ∃ html, renderDoc x (exCfg sp mn) src = .ok html :=
  doc_total_stock_all sp mn src htab hsmall

-- the stock configuration with strikethrough (`exCfg`): coherent, link / image once each
example : Inline.ChainCoherent ((exCfg false 100).inlineCfg []) = true ∧
    (exCfg false 100).inlineChain.count .link ≤ 1 ∧ (exCfg false 100).inlineChain.count .image ≤ 1 :=
  ⟨(exCfg_stock false 100).1, (exCfg_stock false 100).2.1⟩

/-- a document with backslash-backtick-backtick in a quoted paragraph, in a link label of a list item and
    in a heading -/
def memoDoc3 : List Char :=
  "> \\``a`` ![b [c](d)](e) [x]\n\n- *e* ~~s~~ [f \\``g ` h``](i) ```j```\n\n# \\\\\\``k``\n\n[x]: /u".toList

example : ¬ Inline.CS.NoEscTickTick memoDoc3 := by
  unfold memoDoc3
  decide_lits

example : (∃ t, parseDoc (exCfg true 100) memoDoc3 = .ok t) ∧
    ∀ x, ∃ html, renderDoc x (exCfg true 100) memoDoc3 = .ok html := by
  unfold memoDoc3
  rw [String.toList_ofList]
  exact doc_total_stock_notab true 100 _ (by decide +kernel) (by decide +kernel)

-- `max_nesting = 0` is covered too
example : (∃ t, parseDoc (exCfg false 0) memoDoc3 = .ok t) ∧
    ∀ x, ∃ html, renderDoc x (exCfg false 0) memoDoc3 = .ok html := by
  unfold memoDoc3
  rw [String.toList_ofList]
  exact doc_total_stock_notab false 0 _ (by decide +kernel) (by decide +kernel)

/-! ### special cases with a hypothesis on the text that is not used -/

/-- a document for the example: block quote, list, nested image / link labels, emphasis,
    strikethrough, a single-backtick code span, a reference definition -/
def memoDoc : List Char := "> ![a [b](c)](d) [x]\n\n- *e* ~~s~~ [f `g`](h)\n\n[x]: /u".toList

/-- **`doc_total_nodouble` on the stock chain with strikethrough**: `md.parse` / `render` / `xrender`
    return, by the THEOREM (the inline runs are not evaluated: only the block pass is, for the two
    hypotheses on the paragraph contents and tables) -/
example : (∃ t, parseDoc (exCfg false 100) memoDoc = .ok t) ∧
    ∀ x, ∃ html, renderDoc x (exCfg false 100) memoDoc = .ok html := by
  unfold memoDoc
  rw [String.toList_ofList]
  exact doc_total_nodouble (exCfg false 100) _ (by decide +kernel) (by decide +kernel) (by decide +kernel)
    (by decide +kernel) (noSplitTab_of_check _ _ (by decide +kernel))
    (docNoDoubleTick_of_check _ _ (by decide +kernel))

/-- `doc_total_stock_all` with the hypothesis `hne` (no backslash-backtick-backtick), which is not used -/
theorem doc_total_stock (sp : Bool) (mn : Nat) (src : List Char)
    (hsmall : 4 * Lines.byteLen src + 8 < 2147483648) (htab : '\t' ∉ src)
    (hne : Inline.CS.NoEscTickTick src) :
    (∃ t, parseDoc (exCfg sp mn) src = .ok t) ∧ ∀ x, ∃ html, renderDoc x (exCfg sp mn) src = .ok html :=
  doc_total_stock_all sp mn src htab hsmall

/-- `doc_total_stock_all` with the hypothesis `hnd` (no two adjacent backticks), which is not used -/
theorem doc_total_stock_nodouble (sp : Bool) (mn : Nat) (src : List Char)
    (hsmall : 4 * Lines.byteLen src + 8 < 2147483648) (htab : '\t' ∉ src)
    (hnd : Inline.NoDoubleTick src) :
    (∃ t, parseDoc (exCfg sp mn) src = .ok t) ∧ ∀ x, ∃ html, renderDoc x (exCfg sp mn) src = .ok html :=
  doc_total_stock_all sp mn src htab hsmall

/-- a document with multi-backtick code spans -/
def memoDoc2 : List Char :=
  "> ![a [b](c)](d) [x]\n\n- *e* ~~s~~ [f ``g ` h``](i) ```j``` \\` k\n\n[x]: /u".toList

example : (∃ t, parseDoc (exCfg true 100) memoDoc2 = .ok t) ∧
    ∀ x, ∃ html, renderDoc x (exCfg true 100) memoDoc2 = .ok html := by
  unfold memoDoc2
  rw [String.toList_ofList]
  exact doc_total_stock true 100 _ (by decide +kernel) (by decide +kernel) (by decide +kernel)

/-
  WHAT IS NOT COVERED.

  Inline pass (`parseInline_total`):
   * non-coherent custom chains: the panic is REAL (`witness_panics` of `Props/InlineTotal.lean`, model
     and crate);
   * chains that list the link rule or the image rule TWICE (`hone`; no shipped configuration does; the
     statement of `Props/InlineTotal.lean` has no such hypothesis).  `just_link_call` identifies the witness
     of a link token with THE link rule of the chain; no counterexample is known;
   * laminarity of the memo (L3 of the header) is a conjecture.

  Whole document: `doc_total_coherent_all` has the hypothesis `NoSplitTab cfg src` — a tab of a paragraph
  line that a container indent (list item, block quote) splits into virtual spaces gives a per-paragraph
  offset table outside `MapOK`; `doc_total_src_all` / `doc_total_stock_notab` discharge it for sources
  without any tab.  `Props/TotalTabs.lean` removes it (`doc_total_coherent_tabs`, `doc_total_stock_every`).
  The size bound is the crate's `i32` arithmetic; the paragraph rule is part of every shipped block chain.
-/

end MdIt.Pipeline
