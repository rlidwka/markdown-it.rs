/-
  C01 (never panics) for the WHOLE inline pass of the model — link and image rules included.

  RESULT.  The one thing that can make the inline pass panic is a memo hit of `skip_token`
  (`state.cache`, position ↦ end position, shared by all frames of one inline run) whose stored end
  lies BEYOND the `pos_max` of the frame that reads it.  Precisely:

    * `guarded_no_panic` / `parseInlineG_no_panic` — the tokenizer with a GUARDED memo
      (`Lemmas/InlineTotalDef.lean`: the model's `tokLoop` / `skipToken` with one extra test — a memo
      hit with `pos_max < stored end` stops the run) NEVER returns a Rust panic: every chain (link /
      image anywhere, any order, repetitions), every `max_nesting`, every reference map, every
      content with a `MapOK` table; emphasis markers single bytes.
      All slicing, `unwrap`, subtraction, `get_map` of every rule in both modes, of both loops, of the
      label look-ahead and of the nested label run are covered.
    * `parseInlineG_agree` (`Lemmas/InlineTotalMono.lean`) — the guarded run and the model run give the
      SAME result unless the guard trips.
    * `parseInline_no_panic_flat` — a chain without the link / image rules never consults the memo: the
      inline parser returns a tree.
    * `parseInline_panic_memo_only` — hence: if `parseInline` panics, the guard trips.
    * `parseInline_total_of_memoSafe` — `parseInline` returns a tree whenever the executable check
      `memoSafe cfg content mapping` (= the guarded run completes) holds; `decide +kernel` evaluates it.
    * whole document (namespace `MdIt.Pipeline`): `doc_total_of_inline` — `md.parse` returns a tree and
      both renderers return a string whenever every `md.inline.parse` call of the document returns
      (block pass, splice walk, join, sourcepos, serializers are total); `doc_total_of_memoSafe`,
      `doc_total_of_docMemoSafe` — … whenever every inline run passes the memo check (`docMemoSafe`,
      executable; no hypothesis on the per-paragraph tables is needed in this direction: `MapOK` is
      only used to show that the GUARDED run cannot panic).

  FINDING (`witness_panics`): `parseInline_total` for ALL chains is FALSE.  With an emphasis pair on
  the marker '`' placed BEFORE the code-span rule, ``[`[a`[`](u) ` `` panics (`slice`), in the model
  and in the real crate (`begin > end (13 > 7)` at `full_link.rs:135`, default `max_nesting`):
  look-ahead mode never runs the emphasis rule, so the look-ahead tiling has the code span
  `` `[a` `` where real mode takes the single backtick as a delimiter run and ENTERS the span; the
  link at 2 then gets the label `[3,7)` although the memo (made by the look-ahead from 0) holds
  `6 ↦ 13`, and the label run reads it under `pos_max = 7`.

  COHERENT CHAINS: `memoSafe` holds for EVERY content when the chain is `ChainCoherent`
  (`Lemmas/InlineTotalDef.lean`; decidable: every emphasis marker is a single byte at which no rule of the
  chain answers in look-ahead mode — true of every shipped configuration: markers `*`, `_`, `~`).
  `Props/MemoSafe.lean` proves it for chains that list the link rule and the image rule at most once
  each (`Inline.parseInline_total`, `Inline.memoSafe_of_coherent`): inside a link label the real tokenizer
  walks along the memo entries of the label walk that found the label, and at each of them takes the step
  the look-ahead took when it made the entry — this is where `ChainCoherent` enters.  For chains that
  repeat the link or the image rule it is open.  Evidence for the statement as it stands here: 0 guard
  trips in 159 million guarded runs of a native instrumented copy (exhaustive over `[]()!a` up to length 8
  and over ``[]!a(` `` up to length 7, random over ``[]()!a`*\ `` up to length 16; `max_nesting` 1, 2, 3,
  4, 100; six chains incl. emphasis on `[`, `!`, `]`; three reference maps, one with an entry for the
  EMPTY label).
-/
import MdIt.Lemmas.InlineTotalLoop
import MdIt.Props.DocTotal
import MdIt.Lemmas.KernelEval

namespace MdIt.Inline
open MdIt.InlineOps (Srcmap slice)
open MdIt.C05 (WFMap MonoMap)

/-! ## the guarded tokenizer never panics -/

/-- **No Rust panic of the guarded tokenizer**, from every good state (`Good`, `Lemmas/InlineNoPanic`:
    window on boundaries, `MapOK` table, `EntStop`, range invariant, `OpenersBottom` tables of length 6)
    with a sound memo (`MemoB`: jumps go forward and end on boundaries), at every fuel: the result is a
    state — again good, same frame — or the non-Rust outcome (`Panic.fuel`: out of fuel, or the guard
    tripped). -/
theorem guarded_no_panic (cfg : Cfg)
    (hsz : ∀ mk csw, RuleId.emph mk csw ∈ cfg.chain → mk.utf8Size = 1) (fuel : Nat) {lo : Nat}
    (st : IState) (hg : Good lo st) (hm : MemoB st) :
    NoRust (tokLoopG cfg true fuel st.posMax st) ∧
    ∀ st', tokLoopG cfg true fuel st.posMax st = .ok st' → Frame st st' ∧ MemoB st' ∧ Good lo st' :=
  ⟨((guarded_total cfg hsz fuel).2 lo st hg hm).noRust, ((guarded_total cfg hsz fuel).2 lo st hg hm).ok⟩

/-- the same for the guarded `skip_token` (look-ahead): from every state whose window lies in the text
    on boundaries (`LInv`) -/
theorem guarded_skip_no_panic (cfg : Cfg)
    (hsz : ∀ mk csw, RuleId.emph mk csw ∈ cfg.chain → mk.utf8Size = 1) (fuel : Nat)
    (st : IState) (hi : LInv st) (hlt : st.pos < st.posMax) :
    NoRust (skipTokenG cfg true fuel st) ∧
    ∀ st', skipTokenG cfg true fuel st = .ok st' →
      MemoB st' ∧ st.pos < st'.pos ∧ st'.pos ≤ st.posMax ∧ Boundary st.src st'.pos :=
  ⟨((guarded_total cfg hsz fuel).1 st hi hlt).noRust, ((guarded_total cfg hsz fuel).1 st hi hlt).ok⟩

theorem memoB_init (content : List Char) (mapping : Srcmap) : MemoB (IState.init content mapping) := by
  intro k v h; simp [IState.init] at h

/-- **The guarded inline parser never panics.** -/
theorem parseInlineG_no_panic (cfg : Cfg)
    (hsz : ∀ mk csw, RuleId.emph mk csw ∈ cfg.chain → mk.utf8Size = 1) {content : List Char}
    {mapping : Srcmap} (hm : MapOK content mapping) : NoRust (parseInlineG cfg content mapping) := by
  obtain ⟨lo, _, hg⟩ := init_good hm
  have h := (guarded_no_panic cfg hsz (topFuel cfg content) _ hg (memoB_init content mapping)).1
  unfold parseInlineG
  split
  · next e he =>
    intro p hp
    simp only [Except.error.injEq] at hp; subst hp
    exact h p he
  · exact NoRust.ok _

/-- **The inline parser does not panic** for every chain without the link and image rules (text,
    newline, escape, entity, code spans, autolinks, emphasis-like pairs with single-byte markers, in
    any order; any `max_nesting`) on every content whose per-line table is `MapOK`: `parseInline`
    returns a tree (no Rust panic, no fuel panic).  Such a chain never calls `skip_token`, so the
    guarded tokenizer is the model's (`tokLoopG_flat`): it cannot panic (`parseInlineG_no_panic`:
    `inline_rule_progress_<rule>`, `ruleEmph_total` for the delimiter matching, the range invariant, which
    provides `TrailOK` for the newline rule, and `EntStop` at the trimmed end) and does not run out of
    fuel (`parseInline_fuel`).  With the link / image rules the memo of `skip_token` must in addition
    hold positions `≤` the CURRENT `posMax`: `ES.parseInline_total`. -/
theorem parseInline_no_panic_flat (cfg : Cfg)
    (hsz : ∀ mk csw, RuleId.emph mk csw ∈ cfg.chain → mk.utf8Size = 1)
    (hflat : ∀ id ∈ cfg.chain, id.isFlat = true) {content : List Char} {mapping : Srcmap}
    (hm : MapOK content mapping) : ∃ cs, parseInline cfg content mapping = .ok cs := by
  have hG : parseInlineG cfg content mapping = parseInline cfg content mapping := by
    unfold parseInlineG parseInline tokenize; rw [tokLoopG_flat hflat]; rfl
  cases h : parseInline cfg content mapping with
  | ok cs => exact ⟨cs, rfl⟩
  | error e =>
    cases e with
    | fuel => exact absurd h (parseInline_fuel cfg content mapping)
    | rust p => exact absurd (hG.trans h) (parseInlineG_no_panic cfg hsz hm p)

/-- **Every panic of the inline pass is a memo hit beyond `pos_max`**: if the model's inline parser
    panics, the guarded run does not complete (it cannot panic, and it agrees with the model run
    unless the guard trips). -/
theorem parseInline_panic_memo_only (cfg : Cfg)
    (hsz : ∀ mk csw, RuleId.emph mk csw ∈ cfg.chain → mk.utf8Size = 1) {content : List Char}
    {mapping : Srcmap} (hm : MapOK content mapping) {p : RPanic}
    (h : parseInline cfg content mapping = .error (.rust p)) :
    parseInlineG cfg content mapping = .error .fuel ∧ memoSafe cfg content mapping = false := by
  have hg : parseInlineG cfg content mapping = .error .fuel := by
    rcases parseInlineG_agree cfg content mapping with heq | hf
    · exact absurd (heq.trans h) (parseInlineG_no_panic cfg hsz hm p)
    · exact hf
  exact ⟨hg, by unfold memoSafe; rw [hg]⟩

/-- **`parseInline` is total whenever the memo check passes.** -/
theorem parseInline_total_of_memoSafe (cfg : Cfg) {content : List Char} {mapping : Srcmap}
    (hs : memoSafe cfg content mapping = true) : ∃ cs, parseInline cfg content mapping = .ok cs := by
  unfold memoSafe at hs
  split at hs
  · next cs hcs => exact ⟨cs, parseInlineG_ok hcs⟩
  · simp at hs

/-- the model run completes, or the memo check fails (under the hypotheses under which the guarded run
    cannot panic) -/
theorem parseInline_ok_or_guard (cfg : Cfg)
    (hsz : ∀ mk csw, RuleId.emph mk csw ∈ cfg.chain → mk.utf8Size = 1) {content : List Char}
    {mapping : Srcmap} (hm : MapOK content mapping) :
    (∃ cs, parseInline cfg content mapping = .ok cs) ∨ memoSafe cfg content mapping = false := by
  cases h : parseInline cfg content mapping with
  | ok cs => exact .inl ⟨cs, rfl⟩
  | error e =>
    cases e with
    | fuel => exact absurd h (parseInline_fuel cfg content mapping)
    | rust p => exact .inr (parseInline_panic_memo_only cfg hsz hm h).2

/-! ## examples -/

/-- one-line contents: the table `[(0, 0)]` is `MapOK` -/
theorem mapOK_single (content : List Char) : MapOK content [(0, 0)] := by
  refine ⟨⟨⟨0, _, rfl⟩, by decide⟩, ?_, ?_⟩
  · intro i k1 v1 k2 v2 h1 h2
    match i, h1, h2 with
    | 0, h1, h2 => simp at h2
    | n + 1, h1, h2 => simp at h1
  · intro i k v h hk
    match i, h with
    | 0, h => simp only [List.getElem?_cons_zero, Option.some.injEq, Prod.mk.injEq] at h; omega
    | n + 1, h => simp at h

/-- the stock CommonMark chain with strikethrough -/
def stockCfg (maxNesting : Nat) : Cfg :=
  { exCfg maxNesting with
    chain := [.text, .newline, .escape, .backticks, .emph '~' true, .emph '*' true, .emph '_' false,
              .link, .image, .autolink, .entity],
    fns := fun m i =>
      if m = '~' then (if i = 1 then some .strike else none)
      else if i = 0 then some .em else if i = 1 then some .strong else none,
    refs := some [([97], { dest := [120], title := none })] }

/-- the configuration of the finding: an emphasis pair on '`' in front of the code-span rule -/
def witnessCfg : Cfg := { exCfg 100 with chain := [.emph '`' true, .backticks, .link] }

def witness : List Char := "[`[a`[`](u) `".toList

-- every shipped marker set is coherent; the witness configuration is not
example : ChainCoherent (stockCfg 100) = true ∧ ChainCoherent (exCfg 100) = true ∧
    ChainCoherent witnessCfg = false := by decide +kernel

-- `parseInline_no_panic_flat` applies to a chain with emphasis, code spans, entities, … :
example : ∃ cs, parseInline { exCfg 100 with chain := [.text, .newline, .escape, .backticks,
      .emph '*' true, .autolink, .entity] } "a *b*\nc".toList [(0, 0), (6, 8)] = .ok cs := by
  apply parseInline_no_panic_flat _ _ _ exMapOK
  · intro mk csw h
    simp only [List.mem_cons, RuleId.emph.injEq, reduceCtorEq, List.mem_nil_iff, or_false, false_or] at h
    rw [h.1]; decide
  · intro id h
    simp only [List.mem_cons, List.mem_nil_iff, or_false] at h
    rcases h with rfl | rfl | rfl | rfl | rfl | rfl | rfl <;> rfl

/-- **FINDING: the inline pass panics** on the witness (slice `src[13..7]` in the label loop of the
    link rule at 5, after the memo hit `6 ↦ 13` under `pos_max = 7`); real crate:
    `begin > end (13 > 7) when slicing` at `src/generics/inline/full_link.rs:135`.  The memo check
    fails on it; with the emphasis rule BEHIND the code-span rule the same text parses. -/
theorem witness_panics :
    vals (parseInline witnessCfg witness [(0, 0)]) = .error (.rust .slice) ∧
    memoSafe witnessCfg witness [(0, 0)] = false ∧
    memoSafe { witnessCfg with chain := [.backticks, .emph '`' true, .link] } witness [(0, 0)] = true := by
  unfold witness; decide_lits

-- the hypotheses of `parseInlineG_no_panic` / `parseInline_panic_memo_only` hold for the witness
example : parseInlineG witnessCfg witness [(0, 0)] = .error .fuel :=
  (parseInline_panic_memo_only witnessCfg
    (by
      intro mk csw h
      simp only [witnessCfg, List.mem_cons, RuleId.emph.injEq, reduceCtorEq, List.mem_nil_iff,
        or_false] at h
      rw [h.1]; decide)
    (mapOK_single _) (by
      have := witness_panics.1
      unfold vals at this
      split at this
      · simp at this
      · next e he => simp only [Except.error.injEq] at this; rw [he, this])).1

-- `parseInline_total_of_memoSafe` on non-trivial runs of the stock chain: nested image / link /
-- reference labels, look-ahead over the nesting limit (`max_nesting = 2`), code spans, emphasis
example : memoSafe (stockCfg 100) "![a [b](c) *d*](e) [a][a]".toList [(0, 0)] = true := by decide_lits
theorem memoSafe_nested : memoSafe (stockCfg 2) "[[[a](b)](c)](d) `[`".toList [(0, 0)] = true := by
  decide_lits
example : memoSafe (stockCfg 2) "[[[a](b)](c)](d) `[`".toList [(0, 0)] = true := memoSafe_nested
example : ∃ cs, parseInline (stockCfg 2) "[[[a](b)](c)](d) `[`".toList [(0, 0)] = .ok cs :=
  parseInline_total_of_memoSafe _ memoSafe_nested

/-
  THE STATEMENT FOR COHERENT CHAINS (header): `memoSafe cfg content mapping = true` for every `ChainCoherent`
  chain and every `MapOK` table, hence `∃ cs, parseInline cfg content mapping = .ok cs` by
  `parseInline_total_of_memoSafe` (`ChainCoherent` gives the `hsz` of the theorems above).  The clause "the
  code-span rule does not answer at a marker" of `ChainCoherent` is necessary (`witness_panics`: the same
  character opens and closes a code span, so a walk started inside a look-ahead span can run over its
  end); for the other clauses (`[`, `!`, `<`, `\\`, `&`, non-stop characters) no counterexample is known —
  they keep the real tokenizer on the look-ahead tiling, which the proof uses.
-/

end MdIt.Inline

/-! ## whole document -/

namespace MdIt.Pipeline
open MdIt

mutual
/-- every `InlineRoot` placeholder of a block tree satisfies `P content mapping` -/
def Placeholders (P : List Char → List (Nat × Nat) → Prop) : Block.BNode → Prop
  | ⟨k, _, cs⟩ =>
    (match k with
     | .inlineRoot content mapping => P content mapping
     | _ => True) ∧ PlaceholdersList P cs
def PlaceholdersList (P : List Char → List (Nat × Nat) → Prop) : List Block.BNode → Prop
  | [] => True
  | c :: cs => Placeholders P c ∧ PlaceholdersList P cs
end

mutual
theorem Placeholders.imp {P Q : List Char → List (Nat × Nat) → Prop} (hpq : ∀ c m, P c m → Q c m)
    {b : Block.BNode} (h : Placeholders P b) : Placeholders Q b := by
  match b with
  | ⟨k, r, cs⟩ =>
    simp only [Placeholders] at h ⊢
    refine ⟨?_, PlaceholdersList.imp hpq h.2⟩
    cases k <;> first | trivial | exact hpq _ _ h.1
theorem PlaceholdersList.imp {P Q : List Char → List (Nat × Nat) → Prop} (hpq : ∀ c m, P c m → Q c m)
    {l : List Block.BNode} (h : PlaceholdersList P l) : PlaceholdersList Q l := by
  match l with
  | [] => simp [PlaceholdersList]
  | c :: cs =>
    simp only [PlaceholdersList] at h ⊢
    exact ⟨Placeholders.imp hpq h.1, PlaceholdersList.imp hpq h.2⟩
end

section
open MdIt.PipelineH (spliceNodeG spliceListG)

mutual
theorem spliceNodeG_total {parse : List Char → InlineOps.Srcmap → Except Inline.Panic (List Inline.Node)}
    (b : Block.BNode) (h : Placeholders (fun c m => ∃ cs, parse c m = .ok cs) b) :
    ∃ t, spliceNodeG parse b = .ok t := by
  match b with
  | ⟨k, r, cs⟩ =>
    simp only [Placeholders] at h
    obtain ⟨cs', hcs⟩ := spliceListG_total cs h.2
    have : spliceNodeG parse ⟨k, r, cs⟩ = .ok ⟨.blk k, r, [], cs'⟩ := by simp only [spliceNodeG, hcs]
    exact ⟨_, this⟩
theorem spliceListG_total {parse : List Char → InlineOps.Srcmap → Except Inline.Panic (List Inline.Node)}
    (cs : List Block.BNode) (h : PlaceholdersList (fun c m => ∃ cs, parse c m = .ok cs) cs) :
    ∃ out, spliceListG parse cs = .ok out := by
  match cs with
  | [] => exact ⟨[], by simp [spliceListG]⟩
  | c :: rest =>
    simp only [PlaceholdersList] at h
    obtain ⟨rest', hrest⟩ := spliceListG_total rest h.2
    match c, h.1 with
    | ⟨k, r, ccs⟩, hc =>
      simp only [Placeholders] at hc
      by_cases hk : ∃ content mapping, k = .inlineRoot content mapping
      · obtain ⟨content, mapping, rfl⟩ := hk
        obtain ⟨ns, hns⟩ := hc.1
        have : spliceListG parse (⟨.inlineRoot content mapping, r, ccs⟩ :: rest)
            = .ok (ofInlineList ns ++ rest') := by simp only [spliceListG, hns, hrest]
        exact ⟨_, this⟩
      · obtain ⟨c', hc'⟩ := spliceNodeG_total (parse := parse) ⟨k, r, ccs⟩
          (by simp only [Placeholders]; exact hc)
        have : spliceListG parse (⟨k, r, ccs⟩ :: rest) = .ok (c' :: rest') := by
          simp only [spliceListG]
          split
          · exact absurd ⟨_, _, rfl⟩ hk
          · simp only [hc', hrest]
        exact ⟨_, this⟩
end

end

theorem spliceNode_total {icfg : Inline.Cfg} (b : Block.BNode)
    (h : Placeholders (fun c m => ∃ cs, Inline.parseInline icfg c m = .ok cs) b) :
    ∃ t, spliceNode icfg b = .ok t := by
  rw [← spliceNodeG_parseInline]; exact spliceNodeG_total b h

theorem spliceList_total {icfg : Inline.Cfg} (cs : List Block.BNode)
    (h : PlaceholdersList (fun c m => ∃ cs, Inline.parseInline icfg c m = .ok cs) cs) :
    ∃ out, spliceList icfg cs = .ok out := by
  rw [← spliceListG_parseInline]; exact spliceListG_total cs h

/-- **C01 for the whole pipeline, relative to the inline runs**: if every `md.inline.parse` call the
    document makes returns a tree, `md.parse(src)` returns a tree and both renderers return a string —
    for every configuration and every source (block pass: `Block.parseBlocks_total`; splice walk, join
    pass, sourcepos pass, serializers: `Props/Pipeline.lean`). -/
theorem doc_total_of_inline (cfg : DocCfg) (src : List Char)
    (h : ∀ root refs, Block.parseBlocks cfg.blockCfg src = .ok (root, refs) →
      Placeholders (fun c m => ∃ cs, Inline.parseInline (cfg.inlineCfg refs) c m = .ok cs) root) :
    (∃ t, parseDoc cfg src = .ok t) ∧ ∀ x, ∃ html, renderDoc x cfg src = .ok html := by
  obtain ⟨root, refs, hb, hp⟩ := parseDoc_blocks_ok cfg src
  obtain ⟨t0, ht0⟩ := spliceNode_total root (h root refs hb)
  have hdoc : ∃ t, parseDoc cfg src = .ok t := by
    rw [hp]
    unfold afterBlocks
    rw [ht0]
    simp only
    split
    · exact sourceposNode_total src _
    · exact ⟨_, rfl⟩
  refine ⟨hdoc, ?_⟩
  obtain ⟨t, ht⟩ := hdoc
  obtain ⟨evs, _, _, hr⟩ := doc_render_total cfg src t ht
  exact fun x => ⟨_, hr x⟩

/-- **the whole pipeline is total whenever every inline run passes the memo check**
    (`Inline.memoSafe`, executable): no table hypothesis is needed for this direction. -/
theorem doc_total_of_memoSafe (cfg : DocCfg) (src : List Char)
    (h : ∀ root refs, Block.parseBlocks cfg.blockCfg src = .ok (root, refs) →
      Placeholders (fun c m => Inline.memoSafe (cfg.inlineCfg refs) c m = true) root) :
    (∃ t, parseDoc cfg src = .ok t) ∧ ∀ x, ∃ html, renderDoc x cfg src = .ok html := by
  apply doc_total_of_inline
  intro root refs hb
  exact (h root refs hb).imp (fun c m hm => Inline.parseInline_total_of_memoSafe _ hm)

/-! ### the hypothesis as an executable check, and an instance -/

mutual
def placeholdersB (p : List Char → List (Nat × Nat) → Bool) : Block.BNode → Bool
  | ⟨k, _, cs⟩ =>
    (match k with
     | .inlineRoot content mapping => p content mapping
     | _ => true) && placeholdersListB p cs
def placeholdersListB (p : List Char → List (Nat × Nat) → Bool) : List Block.BNode → Bool
  | [] => true
  | c :: cs => placeholdersB p c && placeholdersListB p cs
end

mutual
theorem placeholdersB_sound {p : List Char → List (Nat × Nat) → Bool} (b : Block.BNode)
    (h : placeholdersB p b = true) : Placeholders (fun c m => p c m = true) b := by
  match b with
  | ⟨k, r, cs⟩ =>
    simp only [placeholdersB, Bool.and_eq_true] at h
    simp only [Placeholders]
    refine ⟨?_, placeholdersListB_sound cs h.2⟩
    cases k <;> first | trivial | exact h.1
theorem placeholdersListB_sound {p : List Char → List (Nat × Nat) → Bool} (l : List Block.BNode)
    (h : placeholdersListB p l = true) : PlaceholdersList (fun c m => p c m = true) l := by
  match l with
  | [] => simp [PlaceholdersList]
  | c :: cs =>
    simp only [placeholdersListB, Bool.and_eq_true] at h
    simp only [PlaceholdersList]
    exact ⟨placeholdersB_sound c h.1, placeholdersListB_sound cs h.2⟩
end

/-- the memo check of a whole document: every inline run of the document passes `memoSafe` -/
def docMemoSafe (cfg : DocCfg) (src : List Char) : Bool :=
  match Block.parseBlocks cfg.blockCfg src with
  | .error _ => false
  | .ok (root, refs) => placeholdersB (fun c m => Inline.memoSafe (cfg.inlineCfg refs) c m) root

/-- **`md.parse` / `render` / `xrender` are total on every document that passes the memo check** -/
theorem doc_total_of_docMemoSafe (cfg : DocCfg) (src : List Char) (h : docMemoSafe cfg src = true) :
    (∃ t, parseDoc cfg src = .ok t) ∧ ∀ x, ∃ html, renderDoc x cfg src = .ok html := by
  apply doc_total_of_memoSafe
  intro root refs hb
  unfold docMemoSafe at h
  rw [hb] at h
  exact placeholdersB_sound root h

-- an instance: nested image / link labels, a reference link, a block quote and a list around them
theorem docMemoSafe_nested :
    docMemoSafe (exCfg false 100) "> ![a [b](c)](d) [x]\n\n- *e* [f `g`](h)\n\n[x]: /u".toList = true := by
  decide_lits
example : docMemoSafe (exCfg false 100) "> ![a [b](c)](d) [x]\n\n- *e* [f `g`](h)\n\n[x]: /u".toList = true :=
  docMemoSafe_nested
example : ∀ x, ∃ html, renderDoc x (exCfg false 100)
    "> ![a [b](c)](d) [x]\n\n- *e* [f `g`](h)\n\n[x]: /u".toList = .ok html :=
  (doc_total_of_docMemoSafe _ _ docMemoSafe_nested).2

end MdIt.Pipeline
