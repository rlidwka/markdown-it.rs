/-
  C10 at WHOLE-DOCUMENT level — the rendered HTML does not depend on the line-ending convention nor
  on a final newline (configurations without the sourcepos plugin).

      doc_cr_invariant             '\r' ∉ src  →  renderDoc x cfg (lfToCr src)   = renderDoc x cfg src
      doc_final_newline_invariant  src does not end with LF / CR
                                               →  renderDoc x cfg (src ++ "\n")  = renderDoc x cfg src
      doc_crlf_invariant           '\r' ∉ src  →  renderDoc x cfg (lfToCrlf src) = renderDoc x cfg src
                                   (+ the inline parser does not panic on `src`, see below)

  for every `DocCfg` with `sourcepos = false`, every chain, both `x` (`render` / `xrender`), ALL texts
  (no size bound), as EQUATIONS BETWEEN RESULTS: equal HTML or equal panics.

  How (files `MdIt/Lemmas/C10Doc*.lean`):
   (L1) block slice — `parseBlocks_rel`: a lock-step simulation of two runs of the block parser on two
        sources whose line lists are `StartRel ρ` (the same lines; line starts related by a
        translation-invariant `ρ`: `=` for LF ↦ CR and for the final newline — nothing moves —, `≤` for
        LF ↦ CR LF, `True` for arbitrary sources with the same views): `SRel` on states (tables entrywise
        `ERel`: same bytes of the line, same relative `first_nonspace`, same indent), all nine rules
        (each proved once over `Rels` in `MdIt/Lemmas/C10Sim*.lean` and read off for `LE`: `hr_sim`
        `heading_sim` `code_sim` `fence_sim` `paragraph_sim` `lheading_sim` `reference_sim`
        `blockquote_sim` `list_sim`), `tokLoop_sim`, `engine_sim` for every pair of
        fuels `f₁ ≤ f₂`, in the form `FRel`: same panic, or related results (trees `NRelL ρ`: equal kinds
        and payloads, `InlineRoot` contents EQUAL, per-line tables with equal keys and `ρ`-related
        values, ranges `ρ`-related), or side 1 out of fuel.  The `debug_assert!` of `code.rs` compares
        offsets of different lines: excluded on both sides by the monotonicity of the table (`IncT`).
        Instances `parseBlocks_cr`, `parseBlocks_final_newline` (`ρ` is `=`: the SAME tree below the root,
        ranges and tables included), `parseBlocks_crlf`, and `parseBlocks_same_views` (hypothesis (L1) of
        `doc_line_ending_reduction`, `Props/Pipeline.lean`).
   (L2) inline slice — `inline_range_free`: `InlineRangeFree icfg` for EVERY `icfg` and ANY two tables
        (successful runs differ in ranges only), and `inline_ok_transfer`: same keys and pointwise larger
        values ⇒ the second run does not panic when the first does not (the only places where a SOURCE
        offset decides anything are the two underflow guards `map_end - count` of `trailing_text_pop` and
        `end - marker_len` of the delimiter matching; larger offsets pass them a fortiori).
   composition — for `=` the two documents reach the inline pass with IDENTICAL placeholders, so nothing
        about the inline parser is needed and panics are equal too (`renderDoc_of_blocks_eq`; the root's
        range differs for the final newline: `render_ranges_irrelevant`); for `≤`
        `spliceList_ok_transfer` + `doc_line_ending_reduction`.

  Hypotheses of the three theorems:
   * `hfuel : cfg.maxNesting ≤ |src| ∨ parseBlocks cfg.blockCfg src ≠ .error .fuel` — a statement about
     the MODEL's fuel, not about the Rust: `fuelFor` depends on `|src|` (`min max_nesting |src|`), which
     the rewritings change.  Its second alternative always holds (`Block.parseBlocks_fuel`,
     `Lemmas/BlockTotalFuel.lean`): the proofs below never use `hfuel` (`parseBlocks_res` discharges the
     fuel alternative by that theorem), the statements keep it as they were given out; `Props/DocTotal.lean`
     states the three theorems without it (`doc_cr_invariant_full`, `doc_final_newline_invariant_full`,
     `doc_crlf_invariant_full`).
   * `doc_crlf_invariant` only: `hinl : ∀ e, parseDoc cfg src ≠ .error (.inline e)` — if the inline
     parser panics on the LF document, nothing is claimed (the CR LF document is then NOT known to
     panic alike: a panic of `map_end - count` depends on absolute offsets, which CR LF increases).
     `Props/TotalTabs.lean` discharges it for coherent chains (`doc_crlf_invariant_every`).
   * `hsp : cfg.sourcepos = false` — with the plugin the statements are those of `Props/C10Sourcepos.lean`.
-/
import MdIt.Lemmas.C10DocEngine
import MdIt.Lemmas.C10SourceposSimLines
import MdIt.Lemmas.BlockTotalFuel
import MdIt.Lemmas.C10DocInline
import MdIt.Lemmas.KernelEval

namespace MdIt.Block.LE
open MdIt.Lines (LineOffset linesT lfToCrlf lfToCr)

/-- what `parseBlocks_rel` says of two successful block passes: a root of the same kind, children
    equal up to `ρ`-related source offsets, the same reference map -/
def BlocksRel (ρ : Nat → Nat → Prop) (r₁ r₂ : BNode × Refs.RefMap) : Prop :=
  r₁.1.kind = r₂.1.kind ∧ NRelL ρ r₁.1.children r₂.1.children ∧ r₁.2 = r₂.2

/-- **the block pass in lock step.**  Two sources whose line lists are `StartRel` (same lines, line
    starts `ρ`-related), the second parsed with at least as much fuel: unless the first run exhausts
    its fuel, both panic alike or return `BlocksRel` results. -/
theorem parseBlocks_rel {ρ : Nat → Nat → Prop} (hs : Shift ρ) (cfg : Cfg) {s₁ s₂ : List Char}
    (h : StartRel ρ 0 0 (linesT s₁) (linesT s₂)) (hf : fuelFor cfg s₁ ≤ fuelFor cfg s₂) :
    FRel (BlocksRel ρ) (parseBlocks cfg s₁) (parseBlocks cfg s₂) :=
  frel_mono (LX.Sim.parseBlocks_rel cfg (ctx_of hs s₁ s₂).sim (h.lx hs) hf)
    fun _ _ hr => ⟨hr.1, LX.nrelL_iff.mp hr.2.1, hr.2.2⟩

theorem fuelFor_le (cfg : Cfg) {s₁ s₂ : List Char} {ρ : Nat → Nat → Prop}
    (h : StartRel ρ 0 0 (linesT s₁) (linesT s₂)) (hb : Lines.byteLen s₁ ≤ Lines.byteLen s₂) :
    fuelFor cfg s₁ ≤ fuelFor cfg s₂ :=
  fuelFor_mono cfg h.length hb

/-- the outcome of two block passes: related results or the same panic (the model's fuel panic
    included) -/
def BRes (ρ : Nat → Nat → Prop) (p₁ p₂ : Except Panic (BNode × Refs.RefMap)) : Prop :=
  (∃ a b, p₁ = .ok a ∧ p₂ = .ok b ∧ BlocksRel ρ a b) ∨ (∃ e, p₁ = .error e ∧ p₂ = .error e)

/-- **the block pass, symmetric form**: related results or the same panic (`parseBlocks` never runs out of fuel:
    `Block.parseBlocks_fuel`) -/
theorem parseBlocks_res {ρ : Nat → Nat → Prop} (hs : Shift ρ) (cfg : Cfg) {s₁ s₂ : List Char}
    (h : StartRel ρ 0 0 (linesT s₁) (linesT s₂)) (hb : Lines.byteLen s₁ ≤ Lines.byteLen s₂) :
    BRes ρ (parseBlocks cfg s₁) (parseBlocks cfg s₂) :=
  Or.resolve_left (parseBlocks_rel hs cfg h (fuelFor_le cfg h hb)) (parseBlocks_fuel cfg s₁)

theorem parseBlocks_crlf (cfg : Cfg) (src : List Char) (h : '\r' ∉ src)
    (hfuel : cfg.maxNesting ≤ Lines.byteLen src ∨ parseBlocks cfg src ≠ .error .fuel) :
    BRes (· ≤ ·) (parseBlocks cfg src) (parseBlocks cfg (lfToCrlf src)) :=
  parseBlocks_res shift_le cfg (linesT_crlf h) (byteLen_lfToCrlf src)

/-- LF ↦ CR at the block level: the same tree, ranges and per-line tables included -/
theorem parseBlocks_cr (cfg : Cfg) (src : List Char) (h : '\r' ∉ src)
    (hfuel : cfg.maxNesting ≤ Lines.byteLen src ∨ parseBlocks cfg src ≠ .error .fuel) :
    BRes Eq (parseBlocks cfg src) (parseBlocks cfg (lfToCr src)) :=
  parseBlocks_res shift_eq cfg (linesT_cr h) (by rw [byteLen_lfToCr]; exact Nat.le_refl _)

/-- a final LF at the block level: the same tree below the root -/
theorem parseBlocks_final_newline (cfg : Cfg) (src : List Char)
    (h : src.getLast? ≠ some '\n' ∧ src.getLast? ≠ some '\r')
    (hfuel : cfg.maxNesting ≤ Lines.byteLen src ∨ parseBlocks cfg src ≠ .error .fuel) :
    BRes Eq (parseBlocks cfg src) (parseBlocks cfg (src ++ ['\n'])) :=
  parseBlocks_res shift_eq cfg (linesT_final h) (by simp)

theorem decompose_injective : Function.Injective Lines.decompose := by
  intro a b h
  simp only [Lines.decompose, Prod.mk.injEq] at h
  rw [← List.takeWhile_append_dropWhile (p := Lines.isBlank) (l := a),
    ← List.takeWhile_append_dropWhile (p := Lines.isBlank) (l := b), h.1, h.2.1]

theorem lines_of_views {s₁ s₂ : List Char} (h : Lines.views s₁ = Lines.views s₂) :
    (linesT s₁).map Prod.fst = (linesT s₂).map Prod.fst := by
  rw [Lines.split_views, Lines.split_views] at h
  have h2 := Lines.map_inj_of_injective Lines.okView_injective h
  unfold Lines.specLines at h2
  have h3 := Lines.map_inj_of_injective decompose_injective h2
  rw [Lines.linesT_fst, Lines.linesT_fst, h3]

theorem startRel_true : ∀ (L₁ L₂ : List (List Char × List Char)) (st₁ st₂ : Nat),
    L₁.map Prod.fst = L₂.map Prod.fst → StartRel (fun _ _ => True) st₁ st₂ L₁ L₂
  | [], [], _, _, _ => trivial
  | [], _ :: _, _, _, h => by simp at h
  | _ :: _, [], _, _, h => by simp at h
  | x :: r₁, y :: r₂, _, _, h => by
    simp only [List.map_cons, List.cons.injEq] at h
    exact ⟨h.1, trivial, startRel_true r₁ r₂ _ _ h.2⟩

/-- two sources with the same views, at the block level (no relation between the offsets) -/
theorem parseBlocks_views (cfg : Cfg) (s₁ s₂ : List Char) (h : Lines.views s₁ = Lines.views s₂)
    (hf : fuelFor cfg s₁ ≤ fuelFor cfg s₂) :
    FRel (BlocksRel (fun _ _ => True)) (parseBlocks cfg s₁) (parseBlocks cfg s₂) :=
  parseBlocks_rel shift_true cfg (startRel_true _ _ 0 0 (lines_of_views h)) hf

end MdIt.Block.LE

namespace MdIt.Pipeline
open MdIt.Block.LE (FRel BRes BlocksRel NRel NRelL KRel MRel RgRel)
open MdIt.Lines (lfToCrlf lfToCr)

theorem eraseK_of_krel {ρ : Nat → Nat → Prop} {k₁ k₂ : Block.Kind} (h : KRel ρ k₁ k₂) : eraseK k₁ = eraseK k₂ := by
  rcases h with rfl | ⟨c, m₁, m₂, rfl, rfl, _⟩ <;> rfl

mutual
theorem eraseB_of_nrel {ρ : Nat → Nat → Prop} {n₁ n₂ : Block.BNode} (h : NRel ρ n₁ n₂) : eraseB n₁ = eraseB n₂ := by
  match n₁, n₂ with
  | ⟨k₁, r₁, c₁⟩, ⟨k₂, r₂, c₂⟩ =>
    simp only [NRel] at h
    simp only [eraseB, eraseK_of_krel h.1, eraseBList_of_nrelL h.2.2]
theorem eraseBList_of_nrelL {ρ : Nat → Nat → Prop} {a b : List Block.BNode} (h : NRelL ρ a b) :
    eraseBList a = eraseBList b := by
  match a, b with
  | [], [] => rfl
  | [], _ :: _ => simp only [NRelL] at h
  | _ :: _, [] => simp only [NRelL] at h
  | x :: xs, y :: ys =>
    obtain ⟨h1, h2⟩ := h.cons_inv
    simp only [eraseBList, eraseB_of_nrel h1, eraseBList_of_nrelL h2]
end

/-- **hypothesis (L1) of `doc_line_ending_reduction` (`Props/Pipeline.lean`)**: two sources with the same views give block
    trees equal after erasing ranges and `InlineRoot` tables, the same reference map, or the same
    panic — the second parsed with at least as much fuel, the first not exhausting its own (both
    automatic when the sources have the same number of bytes; the model's fuel depends on `|src|`). -/
theorem parseBlocks_same_views (cfg : Block.Cfg) (s₁ s₂ : List Char) (h : Lines.views s₁ = Lines.views s₂)
    (hf : Block.fuelFor cfg s₁ ≤ Block.fuelFor cfg s₂) (hne : Block.parseBlocks cfg s₁ ≠ .error .fuel) :
    match Block.parseBlocks cfg s₁, Block.parseBlocks cfg s₂ with
    | .ok (r₁, refs₁), .ok (r₂, refs₂) => eraseB r₁ = eraseB r₂ ∧ refs₁ = refs₂
    | .error e₁, .error e₂ => e₁ = e₂
    | _, _ => False := by
  rcases Block.LE.parseBlocks_views cfg s₁ s₂ h hf with h0 | ⟨a, b, h1, h2, hk, hc, hr⟩ | ⟨e, h1, h2⟩
  · exact absurd h0 hne
  · obtain ⟨⟨k₁, r₁, c₁⟩, refs₁⟩ := a
    obtain ⟨⟨k₂, r₂, c₂⟩, refs₂⟩ := b
    simp only at hk hc hr
    subst hk hr
    rw [h1, h2]
    simp only [eraseB, eraseBList_of_nrelL hc, and_self]
  · rw [h1, h2]

/-- `render` / `xrender` of a parse result -/
def renderOf (x : Bool) (cfg : DocCfg) (r : Except Panic Node) : Except Panic (List Char) :=
  match r with
  | .error e => .error e
  | .ok t =>
    match renderEvents cfg t with
    | .error e => .error e
    | .ok evs => .ok (Render.serialize x evs)

theorem renderDoc_eq_renderOf (x : Bool) (cfg : DocCfg) (src : List Char) :
    renderDoc x cfg src = renderOf x cfg (parseDoc cfg src) := by
  unfold renderDoc renderOf
  cases parseDoc cfg src <;> rfl

/-- the core chain behind the block pass, when the two block trees agree below the root -/
theorem afterBlocks_root_range (x : Bool) (cfg : DocCfg) (hsp : cfg.sourcepos = false) (s₁ s₂ : List Char)
    (k : Block.Kind) (r₁ r₂ : Option (Nat × Nat)) (cs : List Block.BNode) (refs : Refs.RefMap) :
    renderOf x cfg (afterBlocks cfg s₁ ⟨k, r₁, cs⟩ refs) = renderOf x cfg (afterBlocks cfg s₂ ⟨k, r₂, cs⟩ refs) := by
  simp only [afterBlocks, hsp, spliceNode, Bool.false_eq_true, if_false]
  cases spliceList (cfg.inlineCfg refs) cs with
  | error e => rfl
  | ok cs' =>
    simp only [renderOf]
    have he : eraseRanges (⟨.blk k, r₁, [], cs'⟩ : Node) = eraseRanges ⟨.blk k, r₂, [], cs'⟩ := by
      simp only [eraseRanges]
    by_cases hj : cfg.hasJoin = true
    · simp only [hj, if_true]
      rw [render_ranges_irrelevant cfg (joinNode ⟨.blk k, r₁, [], cs'⟩) (joinNode ⟨.blk k, r₂, [], cs'⟩)
        (by rw [erase_joinNode, erase_joinNode, he])]
    · have hj' : cfg.hasJoin = false := by simpa using hj
      simp only [hj', Bool.false_eq_true, if_false]
      rw [render_ranges_irrelevant cfg _ _ he]

/-- two sources whose block passes agree up to the root's range render alike (`sourcepos` off) -/
theorem renderDoc_of_blocks_eq (x : Bool) (cfg : DocCfg) (s₁ s₂ : List Char) (hsp : cfg.sourcepos = false)
    (h : BRes Eq (Block.parseBlocks cfg.blockCfg s₁) (Block.parseBlocks cfg.blockCfg s₂)) :
    renderDoc x cfg s₂ = renderDoc x cfg s₁ := by
  rcases h with ⟨a, b, h1, h2, hk, hc, hr⟩ | ⟨e, h1, h2⟩
  · obtain ⟨⟨k₁, r₁, c₁⟩, refs₁⟩ := a
    obtain ⟨⟨k₂, r₂, c₂⟩, refs₂⟩ := b
    simp only at hk hc hr
    subst hk hr
    have := Block.LE.NRelL.eq hc; subst this
    rw [renderDoc_eq_renderOf, renderDoc_eq_renderOf]
    unfold parseDoc
    rw [h1, h2]
    exact afterBlocks_root_range x cfg hsp s₂ s₁ k₁ r₂ r₁ c₁ refs₁
  · unfold renderDoc parseDoc
    rw [h1, h2]

/-- **LF ↦ CR does not change the rendered HTML.** -/
theorem doc_cr_invariant (x : Bool) (cfg : DocCfg) (src : List Char) (hsp : cfg.sourcepos = false)
    (hcr : '\r' ∉ src)
    (hfuel : cfg.maxNesting ≤ Lines.byteLen src ∨ Block.parseBlocks cfg.blockCfg src ≠ .error .fuel) :
    renderDoc x cfg (lfToCr src) = renderDoc x cfg src :=
  renderDoc_of_blocks_eq x cfg _ _ hsp (Block.LE.parseBlocks_cr cfg.blockCfg src hcr hfuel)

/-- **A final newline does not change the rendered HTML.** -/
theorem doc_final_newline_invariant (x : Bool) (cfg : DocCfg) (src : List Char) (hsp : cfg.sourcepos = false)
    (hlast : src.getLast? ≠ some '\n' ∧ src.getLast? ≠ some '\r')
    (hfuel : cfg.maxNesting ≤ Lines.byteLen src ∨ Block.parseBlocks cfg.blockCfg src ≠ .error .fuel) :
    renderDoc x cfg (src ++ ['\n']) = renderDoc x cfg src :=
  renderDoc_of_blocks_eq x cfg _ _ hsp (Block.LE.parseBlocks_final_newline cfg.blockCfg src hlast hfuel)

end MdIt.Pipeline

namespace MdIt.Pipeline
open MdIt.Block.LE (FRel BRes BlocksRel NRel NRelL KRel MRel RgRel)
open MdIt.Lines (lfToCrlf lfToCr)

/-! ## LF ↦ CR LF: the inline pass on tables whose values moved right -/

theorem mle_of_mrel : ∀ {m₁ m₂ : List (Nat × Nat)}, MRel (· ≤ ·) m₁ m₂ → MLe m₁ m₂
  | [], [], _ => ⟨rfl, fun i _ _ _ _ h => by simp at h⟩
  | [], _ :: _, h => h.elim
  | _ :: _, [], h => h.elim
  | (k₁, v₁) :: r₁, (k₂, v₂) :: r₂, h => by
    obtain ⟨hk, hv, hr⟩ := h
    obtain ⟨ih1, ih2⟩ := mle_of_mrel hr
    simp only at hk hv
    refine ⟨by simp [hk, ih1], ?_⟩
    intro i a b c d h1 h2
    cases i with
    | zero => simp at h1 h2; omega
    | succ i =>
      simp only [List.getElem?_cons_succ] at h1 h2
      exact ih2 i a b c d h1 h2

theorem spliceNode_error {icfg : Inline.Cfg} : ∀ (b : Block.BNode) (e : Panic),
    spliceNode icfg b = .error e → ∃ e', e = .inline e' :=
  fun b e h => spliceNode_panic b e h

/-- the splice walk can only fail in the inline parser -/
theorem spliceList_error {icfg : Inline.Cfg} : ∀ (cs : List Block.BNode) (e : Panic),
    spliceList icfg cs = .error e → ∃ e', e = .inline e' :=
  fun cs e h => spliceList_panic cs e h

mutual
/-- no panic of the splice walk on the LF side ⇒ none on the side whose tables moved right -/
theorem spliceNode_ok_transfer {icfg : Inline.Cfg} : ∀ (b₁ b₂ : Block.BNode) (t₁ : Node),
    NRel (· ≤ ·) b₁ b₂ → spliceNode icfg b₁ = .ok t₁ → ∃ t₂, spliceNode icfg b₂ = .ok t₂
  | ⟨k₁, r₁, c₁⟩, ⟨k₂, r₂, c₂⟩, t₁, hn, h => by
    simp only [NRel] at hn
    simp only [spliceNode] at h ⊢
    split at h
    · cases h
    · rename_i o₁ ho₁
      obtain ⟨o₂, ho₂⟩ := spliceList_ok_transfer c₁ c₂ o₁ hn.2.2 ho₁
      rw [ho₂]
      exact ⟨_, rfl⟩
theorem spliceList_ok_transfer {icfg : Inline.Cfg} : ∀ (c₁ c₂ : List Block.BNode) (o₁ : List Node),
    NRelL (· ≤ ·) c₁ c₂ → spliceList icfg c₁ = .ok o₁ → ∃ o₂, spliceList icfg c₂ = .ok o₂
  | [], [], _, _, _ => ⟨[], rfl⟩
  | [], _ :: _, _, hn, _ => by simp only [NRelL] at hn
  | _ :: _, [], _, hn, _ => by simp only [NRelL] at hn
  | x :: xs, y :: ys, o₁, hn, h => by
    obtain ⟨hxy, hrest⟩ := hn.cons_inv
    have hk := hxy.kind
    simp only [spliceList] at h
    split at h
    · -- an `InlineRoot` on side 1
      rename_i content m₁ hk₁
      split at h
      · cases h
      · rename_i ns₁ hns₁
        split at h
        · cases h
        · rename_i q₁ hq₁
          obtain ⟨q₂, hq₂⟩ := spliceList_ok_transfer xs ys q₁ hrest hq₁
          have hy : ∃ m₂, y.kind = .inlineRoot content m₂ ∧ MLe m₁ m₂ := by
            rw [hk₁] at hk
            rcases hk with hk | ⟨c, a, b, h1, h2, hm⟩
            · exact ⟨m₁, hk.symm, mle_of_mrel (by
                clear hns₁ hk₁ hk
                induction m₁ with
                | nil => trivial
                | cons p r ih => exact ⟨rfl, Nat.le_refl _, ih⟩)⟩
            · cases h1
              exact ⟨b, h2, mle_of_mrel hm⟩
          obtain ⟨m₂, hy, hm⟩ := hy
          obtain ⟨ns₂, hns₂⟩ := inline_ok_transfer icfg content m₁ m₂ hm ns₁ hns₁
          simp only [spliceList, hy, hns₂, hq₂]
          exact ⟨_, rfl⟩
    · -- anything else: the same kind on side 2
      rename_i hne₁
      have hy : y.kind = x.kind := hk.eq_of_not_inline (fun c m e => hne₁ c m e)
      split at h
      · cases h
      · rename_i t₁ ht₁
        split at h
        · cases h
        · rename_i q₁ hq₁
          obtain ⟨t₂, ht₂⟩ := spliceNode_ok_transfer x y t₁ hxy ht₁
          obtain ⟨q₂, hq₂⟩ := spliceList_ok_transfer xs ys q₁ hrest hq₁
          simp only [spliceList]
          split
          · rename_i c m hyk
            rw [hy] at hyk
            exact absurd hyk (hne₁ c m)
          · rw [ht₂, hq₂]
            exact ⟨_, rfl⟩
end

/-- **LF ↦ CR LF does not change the rendered HTML**, provided the inline parser does not panic on
    the LF document. -/
theorem doc_crlf_invariant (x : Bool) (cfg : DocCfg) (src : List Char) (hsp : cfg.sourcepos = false)
    (hcr : '\r' ∉ src)
    (hfuel : cfg.maxNesting ≤ Lines.byteLen src ∨ Block.parseBlocks cfg.blockCfg src ≠ .error .fuel)
    (hinl : ∀ e, parseDoc cfg src ≠ .error (.inline e)) :
    renderDoc x cfg (lfToCrlf src) = renderDoc x cfg src := by
  rcases Block.LE.parseBlocks_crlf cfg.blockCfg src hcr hfuel with ⟨a, b, h1, h2, hk, hc, hr⟩ | ⟨e, h1, h2⟩
  · obtain ⟨⟨k₁, r₁, c₁⟩, refs₁⟩ := a
    obtain ⟨⟨k₂, r₂, c₂⟩, refs₂⟩ := b
    simp only at hk hc hr
    subst hk hr
    -- the LF side parses
    have hp₁ : ∃ t₁, parseDoc cfg src = .ok t₁ ∧ ∃ u₁, spliceList (cfg.inlineCfg refs₁) c₁ = .ok u₁ := by
      have hin := hinl
      unfold parseDoc at hin ⊢
      rw [h1] at hin ⊢
      simp only [afterBlocks, hsp, spliceNode, Bool.false_eq_true, if_false] at hin ⊢
      cases hs : spliceList (cfg.inlineCfg refs₁) c₁ with
      | error e =>
        exfalso
        obtain ⟨e', rfl⟩ := spliceList_error c₁ e hs
        rw [hs] at hin
        exact hin e' rfl
      | ok u₁ => exact ⟨_, rfl, u₁, rfl⟩
    obtain ⟨t₁, ht₁, u₁, hu₁⟩ := hp₁
    -- hence the CR LF side
    obtain ⟨u₂, hu₂⟩ := spliceList_ok_transfer c₁ c₂ u₁ hc hu₁
    have hp₂ : ∃ t₂, parseDoc cfg (lfToCrlf src) = .ok t₂ := by
      unfold parseDoc
      rw [h2]
      simp only [afterBlocks, hsp, spliceNode, hu₂, Bool.false_eq_true, if_false]
      exact ⟨_, rfl⟩
    obtain ⟨t₂, ht₂⟩ := hp₂
    have hblk : eraseB ⟨k₁, r₁, c₁⟩ = eraseB ⟨k₁, r₂, c₂⟩ := by
      simp only [eraseB, eraseBList_of_nrelL hc]
    exact (doc_line_ending_reduction cfg src (lfToCrlf src) hsp _ _ refs₁ h1 h2 hblk
      (inline_range_free _) t₁ t₂ ht₁ ht₂ x).symm
  · unfold renderDoc parseDoc
    rw [h1, h2]

/-! ## non-vacuity, and the hypotheses that can be shown necessary -/

theorem not_inline_of {cfg : DocCfg} {src : List Char} (h : (parseDoc cfg src).toOption.isSome = true) :
    ∀ e, parseDoc cfg src ≠ .error (.inline e) := by
  intro e he; rw [he] at h; cases h

/-- a list item with a hard break, a tab-indented continuation line, an unclosed fence (the document
    of the evaluated instance at the end of `Props/Pipeline.lean`) -/
def exDoc : List Char := "- a  \n\tb\n```\nc".toList

/-- all hypotheses of the three theorems hold of `exDoc` (stock chain, `max_nesting = 100`) … -/
theorem exDoc_hyps :
    '\r' ∉ exDoc ∧ (exDoc.getLast? ≠ some '\n' ∧ exDoc.getLast? ≠ some '\r') ∧
    ((exCfg false 100).maxNesting ≤ Lines.byteLen exDoc ∨
      Block.parseBlocks (exCfg false 100).blockCfg exDoc ≠ .error .fuel) ∧
    ∀ e, parseDoc (exCfg false 100) exDoc ≠ .error (.inline e) :=
  ⟨by unfold exDoc; decide_lits, by unfold exDoc; decide_lits, .inr (Block.parseBlocks_fuel _ _),
    not_inline_of (by unfold exDoc; decide_lits)⟩

/-- … and a document of at least `max_nesting` bytes needs no evaluation for the fuel hypothesis -/
example (x : Bool) (src : List Char) (h : '\r' ∉ src) (hlen : 100 ≤ Lines.byteLen src) :
    renderDoc x (exCfg false 100) (lfToCr src) = renderDoc x (exCfg false 100) src :=
  doc_cr_invariant x _ _ rfl h (.inl hlen)

/-- … so the theorems apply to it (the rewritten texts are what one expects) -/
example : lfToCrlf exDoc = "- a  \r\n\tb\r\n```\r\nc".toList ∧ lfToCr exDoc = "- a  \r\tb\r```\rc".toList := by
  decide_lits

example (x : Bool) : renderDoc x (exCfg false 100) (lfToCrlf exDoc) = renderDoc x (exCfg false 100) exDoc :=
  doc_crlf_invariant x _ _ rfl exDoc_hyps.1 exDoc_hyps.2.2.1 exDoc_hyps.2.2.2

example (x : Bool) : renderDoc x (exCfg false 100) (lfToCr exDoc) = renderDoc x (exCfg false 100) exDoc :=
  doc_cr_invariant x _ _ rfl exDoc_hyps.1 exDoc_hyps.2.2.1

example (x : Bool) : renderDoc x (exCfg false 100) (exDoc ++ ['\n']) = renderDoc x (exCfg false 100) exDoc :=
  doc_final_newline_invariant x _ _ rfl exDoc_hyps.2.1 exDoc_hyps.2.2.1

/-- the output in question is not trivial -/
example : (renderDoc false (exCfg false 100) exDoc).toOption.map List.length = some 55 := by
  unfold exDoc
  decide_lits

/-- `'\r' ∉ src` is needed: in `"a\r\nb"` the LF belongs to a CR LF; rewriting it gives CR CR LF, two
    terminators, and the paragraph falls apart -/
example : renderDoc false (exCfg false 100) (lfToCrlf "a\r\nb".toList) ≠
    renderDoc false (exCfg false 100) "a\r\nb".toList := by decide +kernel

/-- "does not end with a terminator" is needed: a second final LF is a blank line, which an unclosed
    fence keeps (``"```\na\n"`` ↦ `a\n`, with one more LF ↦ `a\n\n`) -/
example : renderDoc false (exCfg false 100) ("```\na\n".toList ++ ['\n']) ≠
    renderDoc false (exCfg false 100) "```\na\n".toList := by decide +kernel

/-- the block trees of the LF and the CR document are IDENTICAL below the root, ranges and per-line
    tables included; those of the CR LF document differ from them in offsets (here: the range of the
    second paragraph) -/
example : (Block.parseBlocks (exCfg false 100).blockCfg "a\n\nb".toList).toOption.map (fun r => r.1.children.map (·.range)) =
      some [some (0, 1), some (3, 4)] ∧
    (Block.parseBlocks (exCfg false 100).blockCfg "a\r\rb".toList).toOption.map (fun r => r.1.children.map (·.range)) =
      some [some (0, 1), some (3, 4)] ∧
    (Block.parseBlocks (exCfg false 100).blockCfg "a\r\n\r\nb".toList).toOption.map (fun r => r.1.children.map (·.range)) =
      some [some (0, 1), some (5, 6)] := by decide_lits

/-
  OPEN (what separates `doc_crlf_invariant` from a hypothesis-free statement): `hinl` — equal PANICS of the
  inline parser on the two per-line tables,
      parseInline icfg content m₁ = .error e → parseInline icfg content m₂ = .error e
  for the tables `get_lines` makes of the LF / CR LF documents (same keys, values of the second larger).
  FALSE for arbitrary such tables: `"x  \ny"` panics (`map_end - count`, underflow) under
  `[(0,0),(1,0),(2,0),(3,0)]` and not under `[(0,0),(1,1),(2,2),(3,3)]` (`Lemmas/C10DocInline.lean`,
  examples).  Proved instead: the one-directional `inline_ok_transfer`, and for coherent chains that neither
  run panics at all (`Props/TotalTabs.lean`).
-/

end MdIt.Pipeline
