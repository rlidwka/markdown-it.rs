/-
  C12 at WHOLE-DOCUMENT level, the remaining contexts of "context agreement"
  (`Props/C12Doc.lean` has (a) paragraph text and (e) fence info string):

    (c) link title         `reference_in_title`        `md.parse("[x](/u \"" ++ R ++ "\")")`
                           `reference_in_title_any`    … and the forms `'R'`, `(R)`
    (b) link destination   `reference_in_destination`  `md.parse("[x](</" ++ R ++ ">)")`
                           `reference_in_bare_destination`            `"[x](/" ++ R ++ ")"`
    (d) reference definition `reference_in_definition` `md.parse("[k]: </" ++ R ++ "> \"" ++ R ++ "\"\n\n[k]")`
        images             `reference_in_image`        `![x](/u "R")`, `![x](</R>)`
    all five contexts      `contexts_agree`

  for EVERY `R` with `Entity.Denotes cfg.entity R X` (named reference of the table, numeric reference
  incl. the invalid codes that give U+FFFD, backslash escape of one of the 32 characters).  The trees are
        Root[Paragraph[Link{url: "/u", title: Some(X)}[Text "x"]]]
        Root[Paragraph[Link{url: normalize_link("/" ++ X), title: None}[Text "x"]]]
        Root[Paragraph[Link{url: normalize_link("/" ++ X), title: Some(X)}[Text "k"]]]
  with the SAME `X` that `reference_in_paragraph` shows in paragraph text and `reference_in_fence_info`
  puts into the fence's class.  NO exception inside the class: the candidates `\"` / `&quot;` in a
  `"`-quoted title, `\'`, `\(`, `\)` in the other title forms, `\>` `\<` `&lt;` `&gt;` inside `<…>`,
  `\(` `\)` in a bare destination, references that produce a blank, a line feed or U+FFFD all agree
  (the scanners' own backslash case skips exactly the escaped character, no reference contains a
  character the scanners react to, and decoding happens after scanning); each was run on the real
  crate (examples at the end).  `validate_link` never rejects: the decoded destination starts with
  `/` (`Link.C12X.validate_slash`).

  The symbolic runs are in `Lemmas/C12CtxInline.lean` (link / image rule: label loop with
  `skip_token`, nested tokenizer, `afterLabel`), `Lemmas/C12CtxLink.lean` (the `Link` scanners over a
  symbolic `R`, `refParse` on the definition line), `Lemmas/C12CtxBlock.lean` / `C12CtxBlockDef.lean`
  (block pass on a one-line source that starts with `[`, and on definition ⏎ ⏎ use).  The emphasis
  matcher is never unfolded.
-/
import MdIt.Props.C12Doc
import MdIt.Lemmas.C12CtxInline
import MdIt.Lemmas.C12CtxLink
import MdIt.Lemmas.C12CtxBlock
import MdIt.Lemmas.C12CtxBlockDef
import MdIt.Lemmas.KernelEval

namespace MdIt.Pipeline
open MdIt.Entity (Denotes)

/-! ## the shape of the tree -/

/-- `t` is exactly `Root[Paragraph[v[Text lab]]]` for an inline value `v` — ranges and attributes
    (the `data-sourcepos` of `SyntaxPosRule`) aside -/
def IsInlDoc (t : Node) (v : Inline.Val) (lab : List Char) : Prop :=
  ∃ rr ra pr pa lr la xr xa,
    t = ⟨.blk .root, rr, ra, [⟨.blk .paragraph, pr, pa,
          [⟨.inl v, lr, la, [⟨.inl (.text lab), xr, xa, []⟩]⟩]⟩]⟩

/-- `Root[Paragraph[Link{url, title}[Text lab]]]` -/
abbrev IsLinkDoc (t : Node) (url : List Nat) (title : Option (List Char)) (lab : List Char) : Prop :=
  IsInlDoc t (.link url title) lab

/-- `Root[Paragraph[Image{url, title}[Text lab]]]` -/
abbrev IsImageDoc (t : Node) (url : List Nat) (title : Option (List Char)) (lab : List Char) : Prop :=
  IsInlDoc t (.image url title) lab

theorem IsInlDoc.kindsPre {t : Node} {v : Inline.Val} {lab : List Char} (h : IsInlDoc t v lab) :
    kindsPre t = [.blk .root, .blk .paragraph, .inl v, .inl (.text lab)] := by
  obtain ⟨rr, ra, pr, pa, lr, la, xr, xa, rfl⟩ := h
  simp [Pipeline.kindsPre, kindsPreList]

/-- the passes behind the block pass (splice walk, `FragmentsJoin`, `SyntaxPosRule`) on
    `Root[Paragraph[InlineRoot]]` when the inline parser makes `[v[Text lab]]` (`v` a `Link` or an
    `Image`) of the content -/
theorem afterBlocks_inlDoc (cfg : DocCfg) (src content : List Char) (mapping : List (Nat × Nat))
    (refs : Refs.RefMap) (rr pr : Option (Nat × Nat)) (v : Inline.Val)
    (hv : (∃ u ti, v = .link u ti) ∨ (∃ u ti, v = .image u ti))
    (lab : List Char) (r r' : Nat × Nat) (hlab : lab ≠ [])
    (hin : Inline.parseInline (cfg.inlineCfg refs) content mapping =
      .ok [⟨v, some r, [Inline.Node.newText lab (some r')]⟩]) :
    ∃ t, afterBlocks cfg src
        ⟨.root, rr, [⟨.paragraph, pr, [⟨.inlineRoot content mapping, none, []⟩]⟩]⟩ refs = .ok t ∧
      IsInlDoc t v lab := by
  let x : Node := ⟨.inl (.text lab), some r', [], []⟩
  let l : Node := ⟨.inl v, some r, [], [x]⟩
  let p : Node := ⟨.blk .paragraph, pr, [], [l]⟩
  let t0 : Node := ⟨.blk .root, rr, [], [p]⟩
  have hsplice : spliceNode (cfg.inlineCfg refs)
      ⟨.root, rr, [⟨.paragraph, pr, [⟨.inlineRoot content mapping, none, []⟩]⟩]⟩ = .ok t0 := by
    simp [spliceNode, spliceList, hin, ofInlineList, ofInline, Inline.Node.newText, t0, p, l, x]
  have hjoin : joinNode t0 = t0 :=
    joinNode_one rfl rfl (joinNode_one (by rcases hv with ⟨u, ti, rfl⟩ | ⟨u, ti, rfl⟩ <;> rfl)
      (by rcases hv with ⟨u, ti, rfl⟩ | ⟨u, ti, rfl⟩ <;> rfl)
      (joinNode_one rfl (by simpa [keep, Node.isText, Node.content] using hlab) (joinNode_childless rfl)))
  unfold afterBlocks
  simp only [hsplice]
  obtain ⟨t, ht⟩ := finish_total cfg.hasJoin cfg.sourcepos src t0
  refine ⟨t, ht, ?_⟩
  rcases finish_ok ht with ⟨_, rfl⟩ | ⟨_, rfl⟩ <;> rw [hjoin, ite_self] <;> exact ⟨_, _, _, _, _, _, _, _, rfl⟩

/-! ## the configurations -/

/-- the configurations of (b) and (c): `max_nesting > 0`; the paragraph rule is in the block chain
    (ANY other block rules, any order); the text scanner and the link rule are in the inline chain
    (ANY other html-free inline rules, any order — the escape and entity rules are NOT needed: the
    link machinery decodes through `unescape_all`); emphasis-like rules have ASCII punctuation
    markers other than `[`.  Any entity table, case tables, `sourcepos` on or off. -/
structure LinkCfg (cfg : DocCfg) : Prop where
  nest : 0 < cfg.maxNesting
  para : Block.RuleId.paragraph ∈ cfg.blockChain
  inl : Inline.C12X.LinkChain cfg.inlineChain

/-- the same for images: the image rule in the inline chain, no emphasis-like rule on `!` -/
structure ImageCfg (cfg : DocCfg) : Prop where
  nest : 0 < cfg.maxNesting
  para : Block.RuleId.paragraph ∈ cfg.blockChain
  inl : Inline.C12X.ImageChain cfg.inlineChain

theorem labelChar_x : Inline.C12X.LabelChar 'x' := ⟨by decide, by decide⟩
theorem labelChar_k : Inline.C12X.LabelChar 'k' := ⟨by decide, by decide⟩

/-- a source `[c]` ++ tail on ONE line (no terminator, not a reference definition) whose inline tail
    `Link.parseInlineTail` accepts up to the end: `Root[Paragraph[Link{href, title}[Text c]]]` -/
theorem parseDoc_inline_link (cfg : DocCfg) (hcfg : LinkCfg cfg) (c : Char) (T : List Char)
    (hlc : Inline.C12X.LabelChar c) (hnt : Lines.NoTerm ('[' :: c :: ']' :: T))
    (hq : Block.refQuick false (c :: ']' :: T) = false)
    (hlast : ∀ x ∈ ('[' :: c :: ']' :: T).getLast?, Inline.isSpTab x = false)
    (href : Option (List Nat)) (title : Option (List Char))
    (htail : Link.parseInlineTail (Entity.unescapeAll cfg.entity) (['[', c, ']'] ++ T)
      (Link.byteLen ['[', c, ']']) (Link.byteLen (['[', c, ']'] ++ T)) =
        .ok (some ⟨href, title, Link.byteLen (['[', c, ']'] ++ T)⟩)) :
    ∃ t, parseDoc cfg ('[' :: c :: ']' :: T) = .ok t ∧ IsLinkDoc t (href.getD []) title [c] := by
  have hblock := Block.C12X.parseBlocks_bracket_line cfg.blockCfg hcfg.para hcfg.nest (c :: ']' :: T) hnt hq
  obtain ⟨r, r', hin⟩ := Inline.C12X.parseInline_bracket (cfg := cfg.inlineCfg []) hcfg.inl hcfg.nest c T hlc
    hlast [(0, 0)] Inline.C12.wf_single href title
    (fun skip fuel st1 h1 h2 => by
      have := Inline.C12X.afterLabel_inline (cfg.inlineCfg []) skip fuel st1 [] c T href title h1 h2 htail
      simpa [InlineOps.byteLen] using this)
  unfold parseDoc
  rw [hblock]
  exact afterBlocks_inlDoc cfg _ _ _ [] _ _ _ (.inl ⟨_, _, rfl⟩) [c] r r' (by simp) hin

/-- the same with `!` in front: `Root[Paragraph[Image{href, title}[Text c]]]` -/
theorem parseDoc_inline_image (cfg : DocCfg) (hcfg : ImageCfg cfg) (c : Char) (T : List Char)
    (hlc : Inline.C12X.LabelChar c) (hnt : Lines.NoTerm ('!' :: '[' :: c :: ']' :: T))
    (hlast : ∀ x ∈ ('!' :: '[' :: c :: ']' :: T).getLast?, Inline.isSpTab x = false)
    (href : Option (List Nat)) (title : Option (List Char))
    (htail : Link.parseInlineTail (Entity.unescapeAll cfg.entity) (['!', '[', c, ']'] ++ T)
      (Link.byteLen ['!', '[', c, ']']) (Link.byteLen (['!', '[', c, ']'] ++ T)) =
        .ok (some ⟨href, title, Link.byteLen (['!', '[', c, ']'] ++ T)⟩)) :
    ∃ t, parseDoc cfg ('!' :: '[' :: c :: ']' :: T) = .ok t ∧ IsImageDoc t (href.getD []) title [c] := by
  have hplain : Block.C12.Plain [] ('!' :: '[' :: c :: ']' :: T) :=
    ⟨(by intro c hc; cases hc), (by decide), hnt,
      ⟨'!', '[' :: c :: ']' :: T, rfl, (by decide), fun _ => ⟨(by decide), (by decide)⟩⟩,
      (by simp [Block.skipOrdered, Block.isDigit])⟩
  have hblock := Block.C12.parseBlocks_one_line cfg.blockCfg hcfg.para hcfg.nest [] _ hplain
  have hb : InlineOps.byteLen ['!'] = 1 := by decide
  obtain ⟨r, r', hin⟩ := Inline.C12X.parseInline_image (cfg := cfg.inlineCfg []) hcfg.inl hcfg.nest c T hlc
    hlast [(0, 0)] Inline.C12.wf_single href title
    (fun skip fuel st1 h1 h2 => by
      have := Inline.C12X.afterLabel_inline (cfg.inlineCfg []) skip fuel st1 ['!'] c T href title h1 h2 htail
      rw [hb] at this
      simpa using this)
  unfold parseDoc
  rw [show '!' :: '[' :: c :: ']' :: T = [] ++ '!' :: '[' :: c :: ']' :: T from rfl, hblock]
  exact afterBlocks_inlDoc cfg _ _ _ [] _ _ _ (.inr ⟨_, _, rfl⟩) [c] r r' (by simp) hin

/-! ## templates: no line terminator, no blank at the end -/

theorem noTerm_mid {lookup : List Char → Option (List Char)} {R X : List Char} (h : Denotes lookup R X)
    (A B : List Char) (hA : Lines.NoTerm A) (hB : Lines.NoTerm B) : Lines.NoTerm (A ++ (R ++ B)) := by
  intro c hc
  rcases List.mem_append.mp hc with h1 | h1
  · exact hA c h1
  · rcases List.mem_append.mp h1 with h2 | h2
    · exact h.noTerm c h2
    · exact hB c h2

/-- a line `A R B )` around a reference: no terminator inside, no blank at the end -/
theorem mid_line {lookup : List Char → Option (List Char)} {R X : List Char} (h : Denotes lookup R X)
    (A B : List Char) (hA : Lines.NoTerm A) (hB : Lines.NoTerm B) :
    Lines.NoTerm (A ++ (R ++ (B ++ [')']))) ∧
      ∀ x ∈ (A ++ (R ++ (B ++ [')']))).getLast?, Inline.isSpTab x = false := by
  refine ⟨noTerm_mid h A _ hA fun c hc => ?_, fun x hx => ?_⟩
  · rcases List.mem_append.mp hc with h1 | h1
    · exact hB c h1
    · rw [List.mem_singleton.mp h1]; exact ⟨by decide, by decide⟩
  · rw [← List.append_assoc, ← List.append_assoc, List.getLast?_concat] at hx
    cases hx; decide

/-! ## (c) the link title -/

/-- **C12 (c), whole document, the three title forms `"…"`, `'…'`, `(…)`.**  For every valid
    reference or escape `R` denoting `X` (the table holding no name that starts `&#`) and each
    delimiter pair `(o, m)`: `md.parse("[x](/u " ++ o ++ R ++ m ++ ")")` does not panic and is
    `Root[Paragraph[Link { url: "/u", title: Some(X) }[Text "x"]]]` — the title is the characters `R`
    denotes in paragraph text.  No exception: the escapes of the delimiters themselves (`\"`, `\'`,
    `\(`, `\)`) and the references that decode to them give the delimiter character as title. -/
theorem reference_in_title_any (cfg : DocCfg) (hcfg : LinkCfg cfg) (R X : List Char)
    (h : Denotes cfg.entity R X) (hno : ∀ s, cfg.entity ('&' :: '#' :: s) = none) (o m : Char)
    (hom : (o = '"' ∧ m = '"') ∨ (o = '\'' ∧ m = '\'') ∨ (o = '(' ∧ m = ')')) :
    ∃ t, parseDoc cfg ('[' :: 'x' :: ']' :: '(' :: '/' :: 'u' :: ' ' :: o :: (R ++ [m, ')'])) = .ok t ∧
      IsLinkDoc t [47, 117] (some X) ['x'] := by
  obtain ⟨hnt, hlast⟩ := mid_line h ['[', 'x', ']', '(', '/', 'u', ' ', o] [m]
    (by rcases hom with ⟨rfl, _⟩ | ⟨rfl, _⟩ | ⟨rfl, _⟩ <;> (unfold Lines.NoTerm; decide))
    (by rcases hom with ⟨_, rfl⟩ | ⟨_, rfl⟩ | ⟨_, rfl⟩ <;> (unfold Lines.NoTerm; decide))
  exact parseDoc_inline_link cfg hcfg 'x' _ labelChar_x hnt (by simp [Block.refQuick]) hlast
    (some [47, 117]) (some X) (Link.C12X.parseInlineTail_title_any h hno o m hom ['[', 'x', ']'])

/-- **C12 (c), whole document.**  For every valid reference or escape `R` denoting `X` (the table
    holding no name that starts `&#`): `md.parse("[x](/u \"" ++ R ++ "\")")` does not panic and is
    `Root[Paragraph[Link { url: "/u", title: Some(X) }[Text "x"]]]` — the title is the characters `R`
    denotes in paragraph text (`reference_in_paragraph`).  No exception: `R = \"`, `&quot;` give the
    title `"`. -/
theorem reference_in_title (cfg : DocCfg) (hcfg : LinkCfg cfg) (R X : List Char)
    (h : Denotes cfg.entity R X) (hno : ∀ s, cfg.entity ('&' :: '#' :: s) = none) :
    ∃ t, parseDoc cfg ('[' :: 'x' :: ']' :: '(' :: '/' :: 'u' :: ' ' :: '"' :: (R ++ ['"', ')'])) = .ok t ∧
      IsLinkDoc t [47, 117] (some X) ['x'] :=
  reference_in_title_any cfg hcfg R X h hno '"' '"' (.inl ⟨rfl, rfl⟩)

/-! ## (b) the link destination -/

/-- **C12 (b), whole document.**  For every valid reference or escape `R` denoting `X`:
    `md.parse("[x](</" ++ R ++ ">)")` does not panic and is
    `Root[Paragraph[Link { url: normalize_link("/" ++ X), title: None }[Text "x"]]]`.
    `validate_link` cannot reject this url (it starts with `/`, so no scheme can be formed:
    `Link.C12X.validate_slash`), whatever `X` is; `\<`, `\>`, `&lt;`, `&gt;`, blanks and line feeds
    produced by references end up percent-encoded by `normalize_link`, none ends the destination. -/
theorem reference_in_destination (cfg : DocCfg) (hcfg : LinkCfg cfg) (R X : List Char)
    (h : Denotes cfg.entity R X) (hno : ∀ s, cfg.entity ('&' :: '#' :: s) = none) :
    ∃ t, parseDoc cfg ('[' :: 'x' :: ']' :: '(' :: '<' :: '/' :: (R ++ ['>', ')'])) = .ok t ∧
      IsLinkDoc t (Link.normalizeLink (Link.utf8 ('/' :: X))) none ['x'] := by
  obtain ⟨hnt, hlast⟩ := mid_line h ['[', 'x', ']', '(', '<', '/'] ['>'] (by unfold Lines.NoTerm; decide)
    (by unfold Lines.NoTerm; decide)
  exact parseDoc_inline_link cfg hcfg 'x' _ labelChar_x hnt (by simp [Block.refQuick]) hlast
    (some (Link.normalizeLink (Link.utf8 ('/' :: X)))) none
    (Link.C12X.parseInlineTail_dest h hno ['[', 'x', ']'])

/-- **C12 (b), the bare form.**  `md.parse("[x](/" ++ R ++ ")")` is the same tree: the bare
    destination scanner runs over `R` as a unit (`\(`, `\)` do not change its parenthesis count, no
    reference contains a blank, a control character or a parenthesis). -/
theorem reference_in_bare_destination (cfg : DocCfg) (hcfg : LinkCfg cfg) (R X : List Char)
    (h : Denotes cfg.entity R X) (hno : ∀ s, cfg.entity ('&' :: '#' :: s) = none) :
    ∃ t, parseDoc cfg ('[' :: 'x' :: ']' :: '(' :: '/' :: (R ++ [')'])) = .ok t ∧
      IsLinkDoc t (Link.normalizeLink (Link.utf8 ('/' :: X))) none ['x'] := by
  obtain ⟨hnt, hlast⟩ := mid_line h ['[', 'x', ']', '(', '/'] [] (by unfold Lines.NoTerm; decide)
    (by unfold Lines.NoTerm; decide)
  exact parseDoc_inline_link cfg hcfg 'x' _ labelChar_x hnt (by simp [Block.refQuick]) hlast
    (some (Link.normalizeLink (Link.utf8 ('/' :: X)))) none
    (Link.C12X.parseInlineTail_bare h hno ['[', 'x', ']'])

/-! ## the same two contexts of an image -/

/-- **C12 (b) + (c) for images.**  `md.parse("![x](/u \"" ++ R ++ "\")")` is
    `Root[Paragraph[Image { url: "/u", title: Some(X) }[Text "x"]]]` and
    `md.parse("![x](</" ++ R ++ ">)")` is
    `Root[Paragraph[Image { url: normalize_link("/" ++ X), title: None }[Text "x"]]]`
    (`LinkPrefixScanner<'!', true>` runs the same `parse_link`, one byte further right). -/
theorem reference_in_image (cfg : DocCfg) (hcfg : ImageCfg cfg) (R X : List Char)
    (h : Denotes cfg.entity R X) (hno : ∀ s, cfg.entity ('&' :: '#' :: s) = none) :
    (∃ t, parseDoc cfg ('!' :: '[' :: 'x' :: ']' :: '(' :: '/' :: 'u' :: ' ' :: '"' :: (R ++ ['"', ')'])) = .ok t ∧
      IsImageDoc t [47, 117] (some X) ['x']) ∧
    (∃ t, parseDoc cfg ('!' :: '[' :: 'x' :: ']' :: '(' :: '<' :: '/' :: (R ++ ['>', ')'])) = .ok t ∧
      IsImageDoc t (Link.normalizeLink (Link.utf8 ('/' :: X))) none ['x']) := by
  constructor
  · obtain ⟨hnt, hlast⟩ := mid_line h ['!', '[', 'x', ']', '(', '/', 'u', ' ', '"'] ['"']
      (by unfold Lines.NoTerm; decide) (by unfold Lines.NoTerm; decide)
    exact parseDoc_inline_image cfg hcfg 'x' _ labelChar_x hnt hlast (some [47, 117]) (some X)
      (Link.C12X.parseInlineTail_title h hno ['!', '[', 'x', ']'])
  · obtain ⟨hnt, hlast⟩ := mid_line h ['!', '[', 'x', ']', '(', '<', '/'] ['>']
      (by unfold Lines.NoTerm; decide) (by unfold Lines.NoTerm; decide)
    exact parseDoc_inline_image cfg hcfg 'x' _ labelChar_x hnt hlast
      (some (Link.normalizeLink (Link.utf8 ('/' :: X)))) none
      (Link.C12X.parseInlineTail_dest h hno ['!', '[', 'x', ']'])

/-! ## (d) the reference definition -/

/-- the configurations of (d): those of (b) / (c); the reference rule is in the block chain in front
    of the paragraph rule; and the label `k` has a non-empty normal form that is a fixed point of
    `normalize_reference` under the configuration's case tables (the definition's key is normalised
    TWICE, the use's once — `Refs.normalize_idem` gives the fixed point for all tables with the closure
    conditions of `Props/C13.lean`, in particular for the real ones: `realTables_key`) -/
structure DefCfg (cfg : DocCfg) : Prop where
  link : LinkCfg cfg
  chain : ∃ pre post, cfg.blockChain = pre ++ Block.RuleId.reference :: post ∧
    Block.RuleId.paragraph ∉ pre ∧ Block.RuleId.reference ∉ pre
  keyNE : (Refs.normalize cfg.L cfg.U [107]).isEmpty = false
  keyIdem : Refs.normalize cfg.L cfg.U (Refs.normalize cfg.L cfg.U [107]) = Refs.normalize cfg.L cfg.U [107]

theorem map_ofNat_toNat (X : List Char) : (X.map Char.toNat).map Char.ofNat = X := by
  induction X with
  | nil => rfl
  | cons c t ih => simp only [List.map_cons, Char.ofNat_toNat, ih]

/-- **C12 (d), whole document.**  For every valid reference or escape `R` denoting `X`:
    `md.parse("[k]: </" ++ R ++ "> \"" ++ R ++ "\"\n\n[k]")` does not panic and is
    `Root[Paragraph[Link { url: normalize_link("/" ++ X), title: Some(X) }[Text "k"]]]` — no node for
    the definition; url and title are those of the inline forms (`reference_in_destination`,
    `reference_in_title`), i.e. the characters `R` denotes in paragraph text. -/
theorem reference_in_definition (cfg : DocCfg) (hcfg : DefCfg cfg) (R X : List Char)
    (h : Denotes cfg.entity R X) (hno : ∀ s, cfg.entity ('&' :: '#' :: s) = none) :
    ∃ t, parseDoc cfg ('[' :: 'k' :: ']' :: ':' :: ' ' :: '<' :: '/' ::
        (R ++ '>' :: ' ' :: '"' :: (R ++ ['"', '\n', '\n', '[', 'k', ']']))) = .ok t ∧
      IsLinkDoc t (Link.normalizeLink (Link.utf8 ('/' :: X))) (some X) ['k'] := by
  obtain ⟨pre, post, hchain, hpre, hpre'⟩ := hcfg.chain
  have hsrc : '[' :: 'k' :: ']' :: ':' :: ' ' :: '<' :: '/' ::
      (R ++ '>' :: ' ' :: '"' :: (R ++ ['"', '\n', '\n', '[', 'k', ']'])) =
      Link.C12X.defLine R ++ ['\n', '\n', '[', 'k', ']'] := by
    simp [Link.C12X.defLine]
  have hblock := Block.C12D.parseBlocks_def_use cfg.blockCfg pre post hchain hpre hpre' hcfg.link.para
    hcfg.link.nest (Link.C12X.defLine R) (Link.C12X.defLine R).tail rfl (Link.C12X.defLine_noTerm h)
    (Link.C12X.defLine_quick R) (Link.C12X.defLine_trim R) [107]
    (Link.normalizeLink (Link.utf8 ('/' :: X))) (some (X.map Char.toNat))
    (Link.C12X.refParse_defLine cfg.blockCfg h hno) hcfg.keyNE
  let key := Refs.normalize cfg.L cfg.U [107]
  let e : Refs.Entry := ⟨Link.normalizeLink (Link.utf8 ('/' :: X)), some (X.map Char.toNat)⟩
  have hrefs : (cfg.inlineCfg [(Refs.normalize cfg.L cfg.U key, e)]).refs =
      some [(Refs.normalize cfg.L cfg.U key, e)] := rfl
  have hlook : Refs.lookup (cfg.inlineCfg [(Refs.normalize cfg.L cfg.U key, e)]).normRef
      [(Refs.normalize cfg.L cfg.U key, e)] [('k' : Char).toNat] = some e := by
    show List.lookup key [(Refs.normalize cfg.L cfg.U key, e)] = some e
    rw [show Refs.normalize cfg.L cfg.U key = key from hcfg.keyIdem]
    simp [List.lookup]
  obtain ⟨r, r', hin⟩ := Inline.C12X.parseInline_bracket
    (cfg := cfg.inlineCfg [(Refs.normalize cfg.L cfg.U key, e)]) hcfg.link.inl hcfg.link.nest 'k' []
    labelChar_k (by intro x hx; simp at hx; subst hx; decide)
    [(0, Lines.byteLen (Link.C12X.defLine R) + 2)] ⟨⟨_, [], rfl⟩, by simp⟩ (some e.dest)
    (e.title.map (fun t => t.map Char.ofNat))
    (fun skip fuel st1 h1 h2 => Inline.C12X.afterLabel_ref _ skip fuel st1 'k' _ e h1 h2 hrefs hlook)
  have htitle : e.title.map (fun t => t.map Char.ofNat) = some X := by
    simp only [e, Option.map_some, map_ofNat_toNat]
  rw [htitle] at hin
  rw [hsrc]
  unfold parseDoc
  rw [hblock]
  exact afterBlocks_inlDoc cfg _ _ _ _ _ _ _ (.inl ⟨_, _, rfl⟩) ['k'] r r' (by simp) hin

/-! ## all five contexts together -/

/-- **C12, context agreement, whole document, all five contexts.**  For a configuration in the three
    classes (stock `cmark` is: `exCfg_agree`, `exCfg_fence`, `exCfg_def`) and every valid reference or
    escape `R` denoting `X`, `md.parse` shows the SAME `X`
      (a) in paragraph text, (b) in a link destination (behind `normalize_link`), (c) in a link
      title, (d) in destination and title of a reference definition, (e) in a fence info string. -/
theorem contexts_agree (cfg : DocCfg) (ha : AgreeCfg cfg) (hf : FenceCfg cfg) (hd : DefCfg cfg)
    (R X : List Char) (h : Denotes cfg.entity R X) (hno : ∀ s, cfg.entity ('&' :: '#' :: s) = none) :
    (∃ t, parseDoc cfg ('a' :: (R ++ ['b'])) = .ok t ∧ docAlt t = 'a' :: (X ++ ['b'])) ∧
    (∃ t, parseDoc cfg ('[' :: 'x' :: ']' :: '(' :: '<' :: '/' :: (R ++ ['>', ')'])) = .ok t ∧
      IsLinkDoc t (Link.normalizeLink (Link.utf8 ('/' :: X))) none ['x']) ∧
    (∃ t, parseDoc cfg ('[' :: 'x' :: ']' :: '(' :: '/' :: 'u' :: ' ' :: '"' :: (R ++ ['"', ')'])) = .ok t ∧
      IsLinkDoc t [47, 117] (some X) ['x']) ∧
    (∃ t, parseDoc cfg ('[' :: 'k' :: ']' :: ':' :: ' ' :: '<' :: '/' ::
        (R ++ '>' :: ' ' :: '"' :: (R ++ ['"', '\n', '\n', '[', 'k', ']']))) = .ok t ∧
      IsLinkDoc t (Link.normalizeLink (Link.utf8 ('/' :: X))) (some X) ['k']) ∧
    (∃ t f, parseDoc cfg ('~' :: '~' :: '~' :: ' ' :: R) = .ok t ∧ t.children = [f] ∧
      f.kind = .blk (.codeFence (' ' :: R) '~' 3 []) ∧
      Entity.unescapeAll cfg.entity (' ' :: R) = ' ' :: X) := by
  refine ⟨?_, reference_in_destination cfg hd.link R X h hno, reference_in_title cfg hd.link R X h hno,
    reference_in_definition cfg hd R X h hno, ?_⟩
  · obtain ⟨t, h1, _, h3⟩ := reference_in_paragraph cfg ha R X h
    exact ⟨t, h1, h3⟩
  · obtain ⟨t, f, h1, _, h3, h4, _, h6, _⟩ := reference_in_fence_info cfg hf R X h hno
    exact ⟨t, f, h1, h3, h4, h6⟩

/-! ## examples: the hypotheses are satisfiable; each one is necessary; the candidate exceptions
    agree (every witness below was run on the real crate: same urls / titles) -/

section Examples

def linkOf : Kind → Option (List Nat × Option (List Char))
  | .inl (.link u t) => some (u, t)
  | _ => none

/-- url and title of every `Link` of a tree, in pre-order -/
def linksOf (t : Node) : List (List Nat × Option (List Char)) := (kindsPre t).filterMap linkOf

theorem IsLinkDoc.links {t : Node} {url : List Nat} {title : Option (List Char)} {lab : List Char}
    (h : IsLinkDoc t url title lab) :
    linksOf t = [(url, title)] ∧ tags t = [.root, .p, .L, .T] ∧ docAlt t = lab := by
  refine ⟨by rw [linksOf, h.kindsPre]; rfl, ?_, by simp [docAlt_kindsPre, h.kindsPre, Kind.ownAlt]⟩
  obtain ⟨rr, ra, pr, pa, lr, la, xr, xa, rfl⟩ := h
  simp [tags, tagsList, Kind.tag]

/-- the stock configuration of `Props/Pipeline.lean` is in both classes, for every `max_nesting > 0`
    (1 included: the label is then tokenised by the loop's one-character fall-back), with and
    without `sourcepos` -/
theorem exCfg_link (sp : Bool) (mn : Nat) (h : 0 < mn) : LinkCfg (exCfg sp mn) := by
  refine ⟨h, by simp [exCfg], ⟨by simp [exCfg], by simp [exCfg], ?_⟩⟩
  intro mk csw hm
  rcases exCfg_emph sp mn mk csw hm with rfl | rfl | rfl <;> decide

theorem exCfg_def (sp : Bool) (mn : Nat) (h : 0 < mn) : DefCfg (exCfg sp mn) := by
  have hL : (exCfg sp mn).L = (exCfg true 0).L := rfl
  have hU : (exCfg sp mn).U = (exCfg true 0).U := rfl
  refine ⟨exCfg_link sp mn h,
    ⟨[.code, .fence, .blockquote, .hr, .list], [.heading, .lheading, .paragraph], rfl, by decide, by decide⟩,
    ?_, ?_⟩
  · rw [hL, hU]; decide
  · rw [hL, hU]; decide

theorem exCfg_image (sp : Bool) (mn : Nat) (h : 0 < mn) : ImageCfg (exCfg sp mn) := by
  refine ⟨h, by simp [exCfg], ⟨by simp [exCfg], by simp [exCfg], ?_⟩⟩
  intro mk csw hm
  rcases exCfg_emph sp mn mk csw hm with rfl | rfl | rfl <;> decide

/-- the key conditions of `DefCfg` hold for the case tables of the linked Rust std -/
theorem realTables_key :
    (Refs.normalize Refs.Lt Refs.Ut [107]).isEmpty = false ∧
    Refs.normalize Refs.Lt Refs.Ut (Refs.normalize Refs.Lt Refs.Ut [107]) =
      Refs.normalize Refs.Lt Refs.Ut [107] :=
  ⟨by decide +kernel, Refs.table_normalize_idem _⟩

/-- the stock `cmark` rule chains (block and inline, in the order of `Props/Pipeline.lean: exCfg`)
    with the SHIPPED tables: the entity table of the `entities` crate, the case tables of the linked
    Rust std; any `max_nesting > 0`, `sourcepos`, `lang_prefix`, emphasis nodes -/
structure StockCfg (cfg : DocCfg) : Prop where
  nest : 0 < cfg.maxNesting
  block : cfg.blockChain = (exCfg true 1).blockChain
  inline : cfg.inlineChain = (exCfg true 1).inlineChain
  entity : cfg.entity = Entity.tableLookup
  L : cfg.L = Refs.Lt
  U : cfg.U = Refs.Ut

/-- **C12, context agreement for the stock configuration with the shipped tables**: no hypothesis
    left but `R` being a valid reference of the shipped table / numeric reference / escape -/
theorem stock_contexts_agree (cfg : DocCfg) (hs : StockCfg cfg) (R X : List Char)
    (h : Denotes Entity.tableLookup R X) :
    (∃ t, parseDoc cfg ('a' :: (R ++ ['b'])) = .ok t ∧ docAlt t = 'a' :: (X ++ ['b'])) ∧
    (∃ t, parseDoc cfg ('[' :: 'x' :: ']' :: '(' :: '<' :: '/' :: (R ++ ['>', ')'])) = .ok t ∧
      IsLinkDoc t (Link.normalizeLink (Link.utf8 ('/' :: X))) none ['x']) ∧
    (∃ t, parseDoc cfg ('[' :: 'x' :: ']' :: '(' :: '/' :: 'u' :: ' ' :: '"' :: (R ++ ['"', ')'])) = .ok t ∧
      IsLinkDoc t [47, 117] (some X) ['x']) ∧
    (∃ t, parseDoc cfg ('[' :: 'k' :: ']' :: ':' :: ' ' :: '<' :: '/' ::
        (R ++ '>' :: ' ' :: '"' :: (R ++ ['"', '\n', '\n', '[', 'k', ']']))) = .ok t ∧
      IsLinkDoc t (Link.normalizeLink (Link.utf8 ('/' :: X))) (some X) ['k']) ∧
    (∃ t f, parseDoc cfg ('~' :: '~' :: '~' :: ' ' :: R) = .ok t ∧ t.children = [f] ∧
      f.kind = .blk (.codeFence (' ' :: R) '~' 3 []) ∧
      Entity.unescapeAll cfg.entity (' ' :: R) = ' ' :: X) := by
  have ea := exCfg_agree true 1 (by decide)
  have ed := exCfg_def true 1 (by decide)
  have ha : AgreeCfg cfg :=
    ⟨⟨hs.nest, hs.block ▸ ea.rt.para, hs.inline ▸ ea.rt.inl⟩, hs.inline ▸ ea.entity, hs.inline ▸ ea.amp⟩
  have hf : FenceCfg cfg := ⟨hs.nest, hs.block ▸ (exCfg_fence true 1 (by decide)).chain⟩
  have hd : DefCfg cfg :=
    ⟨⟨hs.nest, hs.block ▸ ed.link.para, hs.inline ▸ ed.link.inl⟩, hs.block ▸ ed.chain,
      by rw [hs.L, hs.U]; exact realTables_key.1, by rw [hs.L, hs.U]; exact realTables_key.2⟩
  exact contexts_agree cfg ha hf hd R X (hs.entity ▸ h) (by rw [hs.entity]; exact Entity.table_no_hash)

/-- the stock configuration with the shipped tables -/
def stockEx : DocCfg := { exCfg true 100 with entity := Entity.tableLookup, L := Refs.Lt, U := Refs.Ut }

theorem stockEx_stock : StockCfg stockEx := ⟨by decide, rfl, rfl, rfl, rfl, rfl⟩

/-- `&quot;` — the prime candidate for an exception inside a `"`-quoted title — denotes `"` in the
    shipped table, and the theorem gives the title `"` (and `"` in the four other contexts) -/
example : ∃ t, parseDoc stockEx "[x](/u \"&quot;\")".toList = .ok t ∧ IsLinkDoc t [47, 117] (some ['"']) ['x'] := by
  rw [String.toList_ofList]
  have h := stock_contexts_agree stockEx stockEx_stock ['&', 'q', 'u', 'o', 't', ';'] ['"']
    (.named ['q', 'u', 'o', 't'] ['"'] (by decide) HtmlDecode.table_four.quot)
  exact h.2.2.1

/-- a minimal configuration (two block rules in the "wrong" textual order is fine as long as the
    reference rule comes first; two inline rules) is in the classes as well -/
example : DefCfg { exCfg true 1 with blockChain := [.reference, .paragraph], inlineChain := [.link, .text] } :=
  ⟨⟨by decide, by decide, ⟨by decide, by decide, by intro mk csw hm; simp at hm⟩⟩,
    ⟨[], [.paragraph], rfl, by decide, by decide⟩, by decide, by decide⟩

/-- (b), (c), (d) on `&amp;` through the theorems -/
example (sp : Bool) : ∃ t, parseDoc (exCfg sp 100) "[x](/u \"&amp;\")".toList = .ok t ∧
    linksOf t = [("/u".toList.map Char.toNat, some ['&'])] := by
  rw [String.toList_ofList]
  obtain ⟨t, h1, h2⟩ := reference_in_title _ (exCfg_link sp 100 (by decide)) _ _
    (exCfg_amp sp 100) (exCfg_no_hash sp 100)
  exact ⟨t, h1, h2.links.1⟩

example (sp : Bool) : ∃ t, parseDoc (exCfg sp 100) "[x](</&amp;>)".toList = .ok t ∧
    linksOf t = [("/&".toList.map Char.toNat, none)] := by
  rw [String.toList_ofList]
  obtain ⟨t, h1, h2⟩ := reference_in_destination _ (exCfg_link sp 100 (by decide)) _ _
    (exCfg_amp sp 100) (exCfg_no_hash sp 100)
  exact ⟨t, h1, by rw [h2.links.1]; decide +kernel⟩

example (sp : Bool) : ∃ t, parseDoc (exCfg sp 100) "[k]: </&amp;> \"&amp;\"\n\n[k]".toList = .ok t ∧
    linksOf t = [("/&".toList.map Char.toNat, some ['&'])] := by
  rw [String.toList_ofList]
  obtain ⟨t, h1, h2⟩ := reference_in_definition _ (exCfg_def sp 100 (by decide)) _ _
    (exCfg_amp sp 100) (exCfg_no_hash sp 100)
  exact ⟨t, h1, by rw [h2.links.1]; decide +kernel⟩

/-- by evaluation: the numeric reference `&#65;` and the escape `\*` in the three contexts -/
example : (parseDoc (exCfg true 100) "[x](/u \"&#65;\\*\")".toList).toOption.map (fun t => (tags t, linksOf t)) =
    some ([.root, .p, .L, .T], [("/u".toList.map Char.toNat, some "A*".toList)]) := by decide_lits
example : (parseDoc (exCfg true 100) "[x](</&#65;\\*>)".toList).toOption.map (fun t => (tags t, linksOf t)) =
    some ([.root, .p, .L, .T], [("/A*".toList.map Char.toNat, none)]) := by decide_lits
example : (parseDoc (exCfg false 100) "[k]: </&#65;> \"\\*\"\n\n[k]".toList).toOption.map
      (fun t => (tags t, linksOf t)) =
    some ([.root, .p, .L, .T], [("/A".toList.map Char.toNat, some "*".toList)]) := by decide_lits

/-- `max_nesting = 1`: the same tree -/
example : (parseDoc (exCfg false 1) "[x](/u \"\\*\")".toList).toOption.map (fun t => (tags t, linksOf t)) =
    some ([.root, .p, .L, .T], [("/u".toList.map Char.toNat, some "*".toList)]) := by decide_lits

/-- THE CANDIDATE EXCEPTIONS AGREE.  `\"` and `&#34;` (`"`) inside a `"`-quoted title;
    `\>`, `\<`, `&#62;`, `&#60;` inside `<…>`; a reference that produces a blank (`&#32;`) or a line
    feed (`&#10;`) in a destination: the scanner never sees the decoded character, the url is the
    percent-encoded `"/" ++ X`.  (Real crate: titles `&quot;`, hrefs `/%3E` `/%3C` `/%3E` `/%3C`
    `/%20` `/%0A`.) -/
example : (parseDoc (exCfg false 100) "[x](/u \"\\\"&#34;\")".toList).toOption.map linksOf =
    some [("/u".toList.map Char.toNat, some "\"\"".toList)] := by decide_lits
example : (parseDoc (exCfg false 100) "[x](</\\>\\<&#62;&#60;>)".toList).toOption.map linksOf =
    some [("/%3E%3C%3E%3C".toList.map Char.toNat, none)] := by decide_lits
example : (parseDoc (exCfg false 100) "[x](</&#32;&#10;>)".toList).toOption.map linksOf =
    some [("/%20%0A".toList.map Char.toNat, none)] := by decide_lits

/-- the other forms: `'…'` and `(…)` titles with the escapes of their own delimiters, the bare
    destination with `\(` `\)` (no effect on the parenthesis count) and a reference to a blank.
    (Real crate: titles `'`, `)`, `(`; hrefs `/()`, `/%20`.) -/
example : (parseDoc (exCfg false 100) "[x](/u '\\'&#39;')".toList).toOption.map linksOf =
    some [("/u".toList.map Char.toNat, some "''".toList)] := by decide_lits
example : (parseDoc (exCfg false 100) "[x](/u (\\)\\(&#40;))".toList).toOption.map linksOf =
    some [("/u".toList.map Char.toNat, some ")((".toList)] := by decide_lits
example : (parseDoc (exCfg false 100) "[x](/\\(\\)&#32;)".toList).toOption.map linksOf =
    some [("/()%20".toList.map Char.toNat, none)] := by decide_lits

/-- through the theorems: the `(…)` title with `R = \)`, the bare destination with `R = \(` -/
example (sp : Bool) : ∃ t, parseDoc (exCfg sp 100) "[x](/u (\\)))".toList = .ok t ∧
    IsLinkDoc t [47, 117] (some [')']) ['x'] := by
  repeat rw [String.toList_ofList]
  exact reference_in_title_any _ (exCfg_link sp 100 (by decide)) _ _ (.escape ')' (by decide))
    (exCfg_no_hash sp 100) '(' ')' (.inr (.inr ⟨rfl, rfl⟩))
example (sp : Bool) : ∃ t, parseDoc (exCfg sp 100) "[x](/\\()".toList = .ok t ∧
    linksOf t = [("/(".toList.map Char.toNat, none)] := by
  obtain ⟨t, h1, h2⟩ := reference_in_bare_destination _ (exCfg_link sp 100 (by decide)) _ _
    (.escape '(' (by decide)) (exCfg_no_hash sp 100)
  exact ⟨t, h1, by rw [h2.links.1]; decide +kernel⟩

/-- images: through the theorem on `&amp;`, and by evaluation -/
example (sp : Bool) : ∃ t, parseDoc (exCfg sp 100) "![x](/u \"&amp;\")".toList = .ok t ∧
    IsImageDoc t [47, 117] (some ['&']) ['x'] := by
  rw [String.toList_ofList]
  exact (reference_in_image _ (exCfg_image sp 100 (by decide)) _ _
    (exCfg_amp sp 100) (exCfg_no_hash sp 100)).1
example : (parseDoc (exCfg true 100) "![x](</\\>&#65;>)".toList).toOption.map (fun t => (tags t, kindsPre t)) =
    some ([.root, .p, .I, .T], [.blk .root, .blk .paragraph,
      .inl (.image ("/%3EA".toList.map Char.toNat) none), .inl (.text ['x'])]) := by decide_lits

/-- OUTSIDE the class (a name the table does not hold, a missing `;`): literal in title and
    destination — as in paragraph text and the info string (`Props/C12Doc.lean`) -/
example : (parseDoc (exCfg false 100) "[x](</&zz;> \"&zz;&#65\")".toList).toOption.map linksOf =
    some [("/&zz;".toList.map Char.toNat, some "&zz;&#65".toList)] := by decide_lits

/-- NECESSARY `0 < max_nesting` -/
example : (parseDoc (exCfg false 0) "[x](/u \"t\")".toList).toOption.map tags = some [.root] := by
  decide_lits

/-- NECESSARY the link rule: without it the text is literal -/
example : (parseDoc { exCfg false 100 with inlineChain := [.text, .escape, .entity] }
      "[x](/u \"t\")".toList).toOption.map (fun t => (tags t, docAlt t)) =
    some ([.root, .p, .T], "[x](/u \"t\")".toList) := by decide_lits

/-- NECESSARY "no emphasis-like rule on `[`": such a (custom) rule listed before the link rule takes
    the bracket -/
example : (parseDoc { exCfg false 100 with inlineChain := [.emph '[' true, .text, .link] }
      "[x](/u \"t\")".toList).toOption.map linksOf = some [] := by decide_lits

/-- NECESSARY for (d) "reference rule before paragraph rule": otherwise the definition line is
    paragraph text and `[k]` resolves to nothing -/
example : (parseDoc { exCfg false 100 with blockChain := [.paragraph, .reference] }
      "[k]: </a> \"t\"\n\n[k]".toList).toOption.map (fun t => (tags t, linksOf t)) =
    some ([.root, .p, .T, .p, .T], []) := by decide_lits

/-- NECESSARY for (d) the fixed-point condition on the key: with case tables under which the normal
    form of `k` is not a fixed point (`k ↦ K`, `K ↦ L` on upper-casing, nothing on lower-casing) the
    definition is stored under `N(N("k")) = "L"`, the use looks up `N("k") = "K"`: no link -/
example : (parseDoc { exCfg false 100 with L := fun c => [c],
                                           U := fun c => if c = 107 then [75] else if c = 75 then [76] else [c] }
      "[k]: </a> \"t\"\n\n[k]".toList).toOption.map (fun t => (tags t, linksOf t)) =
    some ([.root, .p, .T], []) := by decide_lits

end Examples

end MdIt.Pipeline
