/-
  C06, LIST half, whole document — the blank-first-line case on its own.

  `Props/C06List.lean` proves `item_commutes_gen2` under `FirstOk2` (the first line of `D` is non-blank at
  indent 0 or ≥ 4, OR it is blank and the second line is non-blank or absent) and `item_commutes_gen2_parse`.  Here:

    `item_commutes_blank`  the blank case: `linesT D = (l0, t0) :: (l1, t1) :: rest`, `l0` blank, `l1`
                           non-blank (`"\na"` ↦ `"- \n  a"`); bullet / ordered instances
  Needed (witness below): two blank lines at the start make the item EMPTY (`"\n\na"` ↦ `"- \n  \n  a"` is an
  empty item followed by a paragraph).
-/
import MdIt.Props.C06List
set_option linter.unusedSimpArgs false

namespace MdIt.Block.Li
open MdIt.Lines (LineOffset NoTerm AllBlank lead mkOff IsTerminator)

section outer2
variable {mk : List Char}

/-! ### the blank first line on its own -/

theorem all_of_dropWhile_nil (p : Char → Bool) : ∀ (l : List Char), l.dropWhile p = [] → ∀ x ∈ l, p x = true
  | [], _, x, hx => by simp at hx
  | c :: r, h, x, hx => by
    simp only [List.dropWhile_cons] at h
    split at h
    · rename_i hc
      rcases List.mem_cons.mp hx with rfl | hx
      · exact hc
      · exact all_of_dropWhile_nil p r h x hx
    · cases h

theorem hrCount_blank {marker : Char} (hm : marker ≠ ' ' ∧ marker ≠ '\t') :
    ∀ (l : List Char) (cnt : Nat), (∀ x ∈ l, Lines.isBlank x = true) → hrCount marker l cnt = some cnt
  | [], _, _ => rfl
  | c :: r, cnt, h => by
    have hc := h c (by simp)
    simp only [Lines.isBlank, Bool.or_eq_true, decide_eq_true_eq] at hc
    have h1 : ¬ c = marker := by rintro rfl; rcases hc with rfl | rfl; exact hm.1 rfl; exact hm.2 rfl
    have h2 : ¬ (c ≠ ' ' ∧ c ≠ '\t') := by rintro ⟨a, b⟩; rcases hc with rfl | rfl; exact a rfl; exact b rfl
    simp only [hrCount, h1, h2, if_false]
    exact hrCount_blank hm r cnt (fun x hx => h x (List.mem_cons_of_mem _ hx))

/-- a marker character and blanks only: not a thematic break -/
theorem hrLook_blank {mk : List Char} (hmk : MkOk mk) {l0 : List Char} (hb : l0.dropWhile Lines.isBlank = [])
    (hone : ∀ c r, mk = c :: r → ∀ x ∈ r, x ≠ c) :
    hrLook 0 (mk ++ ' ' :: l0) = false := by
  cases hm : mk with
  | nil => exact absurd hm hmk.ne
  | cons c r =>
    have hall : ∀ x ∈ l0, Lines.isBlank x = true := all_of_dropWhile_nil _ l0 hb
    have hcp := hmk.plain c (by rw [hm]; simp)
    simp only [List.cons_append, hrLook, show ¬ ((0 : Int) ≥ 4) by omega, if_false]
    split
    · rfl
    · -- `c` is one of `*`, `-`, `_`: the rest of the marker (if any) stops the count or does not contain `c`
      cases r with
      | nil =>
        have : hrCount c ([] ++ ' ' :: l0) 1 = some 1 :=
          hrCount_blank ⟨hcp.1, hcp.2.1⟩ (' ' :: l0) 1 (fun x hx => by
            rcases List.mem_cons.mp hx with rfl | hx
            · decide
            · exact hall x hx)
        rw [this]; rfl
      | cons d r' =>
        -- a second marker character that is neither `c` nor blank: the count fails
        have hd := hmk.plain d (by rw [hm]; simp)
        have hdc : d ≠ c := hone c (d :: r') hm d (by simp)
        simp only [List.cons_append, hrCount, hdc, if_false, ne_eq, hd.1, hd.2.1, not_false_eq_true, and_self, if_true]

/-- **C06, list half, blank first line.**  The first line of `D` is blank (blanks only — spaces, `D` being
    tab-free), the second line exists and is not blank; otherwise as `item_commutes_gen2`: any marker the
    list rule recognises, no condition on `max_nesting`, and no thematic-break condition when the marker is a
    single character or has a second character different from the first (the marker line is the marker and
    blanks).  `"\na"` ↦ `"- \n  a"`. -/
theorem item_commutes_blank (cfg : Cfg) (hmk : MkOk mk) {mv : Option Nat} {mc : Char}
    (hdet : ∀ rest, detectMarker (mk ++ ' ' :: rest) = .ok (some (mk.length, mv)))
    (hmc : ∀ rest, markerCharOf (mk ++ ' ' :: rest) mk.length = .ok mc)
    (hc0 : ∀ c r, mk = c :: r → c ≠ '~' ∧ c ≠ '`' ∧ c ≠ '>' ∧ c ≠ '#' ∧ c ≠ '[')
    (hone : ∀ c r, mk = c :: r → ∀ x ∈ r, x ≠ c)
    (D : List Char) (htab : '\t' ∉ D) (hsize : Lines.byteLen D + mk.length + 9 < 2147483648)
    {l0 t0 l1 t1 : List Char} {rest : DLines} (hL : Lines.linesT D = (l0, t0) :: (l1, t1) :: rest)
    (hb0 : l0.dropWhile Lines.isBlank = []) (hnb1 : l1.dropWhile Lines.isBlank ≠ [])
    (pre post : List RuleId) (hchain : cfg.chain = pre ++ .list :: post)
    (hpre : ∀ r ∈ pre, frontOkL r = true)
    {t : BState} (h : tokenize cfg (fuelFor cfg D) (BState.fresh D .root []) = .ok t) :
    ∃ r, Lines.getMap (Lines.splitLines (itemDoc mk D)) 0 ((Lines.linesT D).length - 1) = .ok r ∧
      parseBlocks { cfg with maxNesting := cfg.maxNesting + 2 } (itemDoc mk D) =
      .ok (⟨.root, some (0, Lines.byteLen (itemDoc mk D)),
            [⟨kindOf mv mc, some r, [⟨.listItem, some r,
              if t.tight then markTight (relocNodes (tau (mk.length + 1) (Lines.linesT D)) t.children)
              else relocNodes (tau (mk.length + 1) (Lines.linesT D)) t.children⟩]⟩]⟩, t.refs) :=
  item_commutes_gen2 cfg hmk hdet hmc hc0 D htab hsize
    ⟨l0, t0, _, hL, .inr ⟨hb0, .inr ⟨l1, t1, rest, rfl, hnb1⟩⟩⟩ pre post hchain hpre
    (fun _ l0' t0' rest' hl => by
      rw [hL] at hl
      simp only [List.cons.injEq, Prod.mk.injEq] at hl
      rw [← hl.1.1]
      exact hrLook_blank hmk hb0 hone) h

theorem item_commutes_blank_bullet (cfg : Cfg) {c : Char} (hc : c = '-' ∨ c = '*' ∨ c = '+')
    (D : List Char) (htab : '\t' ∉ D) (hsize : Lines.byteLen D + 10 < 2147483648)
    {l0 t0 l1 t1 : List Char} {rest : DLines} (hL : Lines.linesT D = (l0, t0) :: (l1, t1) :: rest)
    (hb0 : l0.dropWhile Lines.isBlank = []) (hnb1 : l1.dropWhile Lines.isBlank ≠ [])
    (pre post : List RuleId) (hchain : cfg.chain = pre ++ .list :: post)
    (hpre : ∀ r ∈ pre, frontOkL r = true)
    {t : BState} (h : tokenize cfg (fuelFor cfg D) (BState.fresh D .root []) = .ok t) :
    ∃ r, Lines.getMap (Lines.splitLines (itemDoc [c] D)) 0 ((Lines.linesT D).length - 1) = .ok r ∧
      parseBlocks { cfg with maxNesting := cfg.maxNesting + 2 } (itemDoc [c] D) =
      .ok (⟨.root, some (0, Lines.byteLen (itemDoc [c] D)),
            [⟨.bulletList c, some r, [⟨.listItem, some r,
              if t.tight then markTight (relocNodes (tau 2 (Lines.linesT D)) t.children)
              else relocNodes (tau 2 (Lines.linesT D)) t.children⟩]⟩]⟩, t.refs) :=
  item_commutes_blank cfg (mkOk_bullet hc) (detect_bullet hc) (markerChar_bullet hc)
    (fun x r hx => by
      simp at hx
      obtain ⟨rfl, _⟩ := hx
      rcases hc with rfl | rfl | rfl <;> decide)
    (fun x r hx y hy => by
      simp at hx
      rw [hx.2] at hy; simp at hy)
    D htab (by simpa using hsize) hL hb0 hnb1 pre post hchain hpre h

theorem item_commutes_blank_ordered (cfg : Cfg) {ds : List Char} {dl : Char} (hm : OrdMk ds dl)
    (D : List Char) (htab : '\t' ∉ D) (hsize : Lines.byteLen D + 20 < 2147483648)
    {l0 t0 l1 t1 : List Char} {rest : DLines} (hL : Lines.linesT D = (l0, t0) :: (l1, t1) :: rest)
    (hb0 : l0.dropWhile Lines.isBlank = []) (hnb1 : l1.dropWhile Lines.isBlank ≠ [])
    (pre post : List RuleId) (hchain : cfg.chain = pre ++ .list :: post)
    (hpre : ∀ r ∈ pre, frontOkL r = true)
    {t : BState} (h : tokenize cfg (fuelFor cfg D) (BState.fresh D .root []) = .ok t) :
    ∃ r, Lines.getMap (Lines.splitLines (itemDoc (ds ++ [dl]) D)) 0 ((Lines.linesT D).length - 1) = .ok r ∧
      parseBlocks { cfg with maxNesting := cfg.maxNesting + 2 } (itemDoc (ds ++ [dl]) D) =
      .ok (⟨.root, some (0, Lines.byteLen (itemDoc (ds ++ [dl]) D)),
            [⟨.orderedList (ordValue ds) dl, some r, [⟨.listItem, some r,
              if t.tight then markTight (relocNodes (tau ((ds ++ [dl]).length + 1) (Lines.linesT D)) t.children)
              else relocNodes (tau ((ds ++ [dl]).length + 1) (Lines.linesT D)) t.children⟩]⟩]⟩, t.refs) := by
  have hlen := hm.len
  have hfirst : FirstOk2 (Lines.linesT D) := ⟨l0, t0, _, hL, .inr ⟨hb0, .inr ⟨l1, t1, rest, rfl, hnb1⟩⟩⟩
  exact item_commutes_gen2 cfg (mkOk_ordered hm) (detect_ordered hm) (markerChar_ordered hm) (ordMk_plain hm)
    D htab (by simp only [List.length_append, List.length_singleton]; omega) hfirst pre post hchain hpre
    (fun _ l0 _ _ _ => ordMk_not_hr hm l0) h

end outer2

/-! ### examples: the hypotheses are satisfiable, and the exclusion of two blank lines is needed -/

section examples2

/-- `"\na\n\nb"`: a blank line, a paragraph, a blank line, a paragraph -/
def blDoc : List Char := ['\n', 'a', '\n', '\n', 'b']

/-- the hypotheses of `item_commutes_blank_bullet` hold for the stock chain and `blDoc` (the run ends loose),
    so does its conclusion -/
example : ∃ t r, tokenize exCfg (fuelFor exCfg blDoc) (BState.fresh blDoc .root []) = .ok t ∧ t.tight = false ∧
    parseBlocks { exCfg with maxNesting := 102 } (itemDoc ['-'] blDoc) =
      .ok (⟨.root, some (0, Lines.byteLen (itemDoc ['-'] blDoc)),
            [⟨.bulletList '-', some r, [⟨.listItem, some r,
                relocNodes (tau 2 (Lines.linesT blDoc)) t.children⟩]⟩]⟩, t.refs) := by
  have hok : (match tokenize exCfg (fuelFor exCfg blDoc) (BState.fresh blDoc .root []) with
      | .ok t => !t.tight | .error _ => false) = true := by decide +kernel
  cases h : tokenize exCfg (fuelFor exCfg blDoc) (BState.fresh blDoc .root []) with
  | error e => rw [h] at hok; cases hok
  | ok t =>
    rw [h] at hok
    have htg : t.tight = false := by simpa using hok
    obtain ⟨r, _, hq⟩ := item_commutes_blank_bullet exCfg (c := '-') (.inl rfl) blDoc (by decide) (by decide +kernel)
      (l0 := []) (t0 := ['\n']) (l1 := ['a']) (t1 := ['\n']) (rest := [([], ['\n']), (['b'], [])])
      (by decide +kernel) (by decide) (by decide)
      [.code, .fence, .blockquote, .hr] _ rfl (by decide) h
    rw [htg] at hq
    exact ⟨t, r, rfl, htg, hq⟩

/-- `"\na\n\nb"` against `"- \n  a\n  \n  b"`: paragraphs `1..2` ↦ `5..6`, `4..5` ↦ `12..13`
    (2, 4, 6, 8 bytes inserted in front of lines 0, 1, 2, 3) -/
example : itemDoc ['-'] blDoc = ['-', ' ', '\n', ' ', ' ', 'a', '\n', ' ', ' ', '\n', ' ', ' ', 'b'] ∧
    topView (parseBlocks exCfg blDoc) = some [(true, some (1, 2)), (true, some (4, 5))] ∧
    itemView (parseBlocks { exCfg with maxNesting := 102 } (itemDoc ['-'] blDoc))
      = some [(false, some (0, 13)), (false, some (0, 13)), (true, some (5, 6)), (true, some (12, 13))] ∧
    tau 2 (Lines.linesT blDoc) 1 = 5 ∧ tau 2 (Lines.linesT blDoc) 2 = 6 ∧
    tau 2 (Lines.linesT blDoc) 4 = 12 ∧ tau 2 (Lines.linesT blDoc) 5 = 13 := by decide +kernel

/-- a first line of blanks, a second line at indent 1 (`"  \n a"` ↦ `"-   \n   a"`): `FirstOk2` holds, the
    content indent of the item is 2 whatever the blanks behind the marker (tight: the paragraph is unwrapped) -/
example : FirstOk2 (Lines.linesT [' ', ' ', '\n', ' ', 'a']) ∧
    topView (parseBlocks exCfg [' ', ' ', '\n', ' ', 'a']) = some [(true, some (4, 5))] ∧
    itemView (parseBlocks { exCfg with maxNesting := 102 } (itemDoc ['-'] [' ', ' ', '\n', ' ', 'a']))
      = some [(false, some (0, 9)), (false, some (0, 9)), (false, none)] := by
  refine ⟨⟨[' ', ' '], ['\n'], [([' ', 'a'], [])], by decide +kernel, .inr ⟨by decide, .inr ⟨_, _, _, rfl, by decide⟩⟩⟩,
    by decide +kernel, by decide +kernel⟩

/-- the empty document (`""` ↦ `"- "`): `FirstOk2` holds (a blank line followed by nothing), both sides are
    empty — the `tight` flags of the two runs differ (`false` / `true`) and it does not matter -/
example : FirstOk2 (Lines.linesT []) ∧ topView (parseBlocks exCfg []) = some [] ∧
    itemView (parseBlocks { exCfg with maxNesting := 102 } (itemDoc ['-'] []))
      = some [(false, some (0, 2)), (false, some (0, 2))] := by
  refine ⟨⟨[], [], [], by decide +kernel, .inr ⟨by decide, .inl rfl⟩⟩, by decide +kernel, by decide +kernel⟩

/-- no condition on `max_nesting`: at `max_nesting = 0` the run on `"a"` parses no block, and at
    `max_nesting = 2` the item of `"- a"` is empty -/
example : topView (parseBlocks { exCfg with maxNesting := 0 } ['a']) = some [] ∧
    itemView (parseBlocks { exCfg with maxNesting := 2 } (itemDoc ['-'] ['a']))
      = some [(false, some (0, 3)), (false, some (0, 3))] := by decide +kernel

/-- two blank lines at the start must stay excluded: `"\n\na"` violates `FirstOk2`, and `"- \n  \n  a"` is
    an EMPTY item followed by a paragraph (the empty-item workaround: `reached_end && is_empty(line + 1)`) -/
example : ¬ FirstOk2 (Lines.linesT ['\n', '\n', 'a']) ∧
    topCount (parseBlocks exCfg ['\n', '\n', 'a']) = some 1 ∧
    topCount (parseBlocks { exCfg with maxNesting := 102 } (itemDoc ['-'] ['\n', '\n', 'a'])) = some 2 := by
  refine ⟨?_, by decide +kernel, by decide +kernel⟩
  rintro ⟨l0, t0, rest, hl, h⟩
  have h1 : Lines.linesT ['\n', '\n', 'a'] = [([], ['\n']), ([], ['\n']), (['a'], [])] := by decide +kernel
  rw [h1] at hl
  simp only [List.cons.injEq, Prod.mk.injEq] at hl
  obtain ⟨⟨rfl, rfl⟩, rfl⟩ := hl
  rcases h with ⟨hnb, _⟩ | ⟨_, hr | ⟨l1, t1, rest', hr, hnb⟩⟩
  · exact hnb rfl
  · cases hr
  · simp only [List.cons.injEq, Prod.mk.injEq] at hr
    obtain ⟨⟨rfl, rfl⟩, rfl⟩ := hr
    exact hnb rfl

end examples2

end MdIt.Block.Li
