/-
  Property C02 on the REAL parser models (`Model/Block.lean`, `Model/Inline.lean`,
  `Model/Pipeline.lean`): for every nesting limit `N = max_nesting`, every configuration of the model
  and every source, the depth of the tree `parseDoc` builds — not counting the emphasis wrappers
  `Em` / `Strong` / `Strikethrough`, whose nesting the delimiter matcher limits on its own (at level `l` at
  most `max_nesting - l` of them: `Props/EmphDepth.lean`, `Props/EmphDepthDoc.lean`) — and the nesting of the recursive calls the two
  tokenizers need are bounded by a function of `N` alone.  (`Props/C02.lean` proves the same for the
  abstract recursion skeleton `Model/Nesting.lean`; the constants found here agree with it.)

  Weighted depth `wdepth cb ci t`: a block node weighs `cb`, an inline node `ci`, an emphasis
  wrapper 0.  For every `cfg`, `src`, `t` with `parseDoc cfg src = .ok t` (N = `cfg.maxNesting`):

    1 `doc_block_depth`    `blockDepth t = wdepth 1 0 t ≤ N + 2`     (`= 1` for `N = 0`)
                           root, ≤ N − 1 quotes, a list and its (empty) item: the list rule raises the
                           level twice but only the TOKENIZER checks it, so at level `N − 1` a list and
                           an item are still created and only the item's body is refused
    2 `doc_inline_depth`   `inlineDepth t = wdepth 0 1 t ≤ N + 1`    links / images nest through
                           `state.level`; at the limit only text is produced
    3 `doc_depth_bounded`  `depthNoEmph t = wdepth 1 1 t ≤ 2 N + 2`  (`= 1` for `N = 0`) — NOT
                           `(N + 2) + (N + 1)`: the deepest block chain ends in an empty item
      tightness: `decide +kernel` examples reaching `N + 2`, `N + 1`, `2 N + 2` for N = 1, 2, 3;
      with the wrappers counted `depth` exceeds `2 N + 2` (`emph_exceeds`), by a bounded amount
    4 recursion (`Lemmas/C02DocCalls.lean`, restated here): `block_call_depth`,
      `inline_call_depth` — see there.

  Intermediate results of independent use: `Block.parseBlocks_depth` (`Lemmas/C02DocBlock.lean`),
  `Inline.depth_induction`, `parseInline_depth` (`Lemmas/C02DocInline.lean`); `DepthOf`: the splice walk,
  the join pass and the sourcepos pass for any depth measure (the plain depth of `Props/EmphDepthDoc.lean`
  is a second instance).
-/
import MdIt.Props.Pipeline
import MdIt.Lemmas.C02DocBlock
import MdIt.Lemmas.C02DocInline
import MdIt.Lemmas.C02DocCalls
import MdIt.Lemmas.KernelEval

namespace MdIt.Inline

theorem parseInline_depth (cfg : Cfg) {content : List Char} {mapping : InlineOps.Srcmap}
    {ns : List Node} (h : parseInline cfg content mapping = .ok ns) :
    idepthList ns ≤ cfg.maxNesting + 1 := by
  unfold parseInline at h
  split at h
  · cases h
  · next st hst =>
    simp only [Except.ok.injEq] at h; subst h
    unfold tokenize at hst
    exact ((depth_induction cfg _ _ _ _ hst).2 (cfg.maxNesting + 1)
      (by simp [IState.init]) (by simp [IState.init, DL])).list

end MdIt.Inline

namespace MdIt.Pipeline
open MdIt.Block (bdepth bdepthList bdepth_eq)
open MdIt.Inline (idepth idepthList)

/-! ## the depth measures on document trees -/

/-- weight of a node: block node `cb`, inline node `ci`, emphasis wrapper 0 -/
def Kind.weight (cb ci : Nat) : Kind → Nat
  | .blk _ => cb
  | .inl (.wrap _ _) => 0
  | .inl _ => ci

mutual
def wdepth (cb ci : Nat) : Node → Nat
  | ⟨k, _, _, cs⟩ => k.weight cb ci + wdepthList cb ci cs
def wdepthList (cb ci : Nat) : List Node → Nat
  | [] => 0
  | c :: cs => max (wdepth cb ci c) (wdepthList cb ci cs)
end

mutual
/-- plain depth: every node counts, the root included (a bare root has depth 1) -/
def depth : Node → Nat
  | ⟨_, _, _, cs⟩ => 1 + depthList cs
def depthList : List Node → Nat
  | [] => 0
  | c :: cs => max (depth c) (depthList cs)
end

/-- depth not counting emphasis wrappers -/
abbrev depthNoEmph (t : Node) : Nat := wdepth 1 1 t
/-- depth of the block part: only block nodes count -/
abbrev blockDepth (t : Node) : Nat := wdepth 1 0 t
/-- depth of the inline part not counting emphasis wrappers: only inline nodes count -/
abbrev inlineDepth (t : Node) : Nat := wdepth 0 1 t

theorem wdepth_eq (cb ci : Nat) (n : Node) :
    wdepth cb ci n = n.kind.weight cb ci + wdepthList cb ci n.children := by
  cases n; simp [wdepth]

/-! ## the walks, for any depth measure

  `wdepth cb ci` and the plain `depth` are measures of one kind: a node weighs `w` of its value above its
  deepest child.  The three walks of `parseDoc` are taken once for such a measure. -/

/-- `d` on nodes and `dl` on sibling lists measure depth with node weight `w` -/
structure DepthOf (w : Kind → Nat) (d : Node → Nat) (dl : List Node → Nat) : Prop where
  node : ∀ n, d n = w n.kind + dl n.children
  nil : dl [] = 0
  cons : ∀ c cs, dl (c :: cs) = max (d c) (dl cs)

/-- what `fragments_join` keeps has the children of a node that was there and a value that weighs no more -/
def JoinLe (w : Kind → Nat) : Prop :=
  ∀ cs x, x ∈ fragmentsJoin cs → ∃ c ∈ cs, x.children = c.children ∧ w x.kind ≤ w c.kind

theorem wdepth_depthOf (cb ci : Nat) : DepthOf (Kind.weight cb ci) (wdepth cb ci) (wdepthList cb ci) :=
  ⟨wdepth_eq cb ci, by simp [wdepthList], fun _ _ => by simp [wdepthList]⟩

namespace DepthOf
open MdIt.PipelineH (spliceNodeG spliceListG)
variable {w : Kind → Nat} {d : Node → Nat} {dl : List Node → Nat} (m : DepthOf w d dl)
  {parse : List Char → InlineOps.Srcmap → Except Inline.Panic (List Inline.Node)}
include m

theorem le_iff (B : Nat) (cs : List Node) : dl cs ≤ B ↔ ∀ c ∈ cs, d c ≤ B := by
  induction cs with
  | nil => simp [m.nil]
  | cons c cs ih => simp [m.cons, Nat.max_le, ih]

theorem le_of_mem {c : Node} {cs : List Node} (h : c ∈ cs) : d c ≤ dl cs :=
  (m.le_iff _ cs).mp (Nat.le_refl _) c h

theorem append (a b : List Node) : dl (a ++ b) = max (dl a) (dl b) := by
  induction a with
  | nil => rw [List.nil_append, m.nil, Nat.zero_max]
  | cons c cs ih => rw [List.cons_append, m.cons, m.cons, ih, Nat.max_assoc]

/-! ### step 1: the splice walk — the depth of the spliced tree is the depth of the block tree in which every
    placeholder weighs as much as the deepest list of children the inline parser can return -/

mutual
theorem splice_node {cb I : Nat} (hw : ∀ k, w (.blk k) = cb)
    (hI : ∀ content mapping ns, parse content mapping = .ok ns → dl (ofInlineList ns) ≤ I)
    (b : Block.BNode) (hk : b.kind.isInl = false) (t : Node) (h : spliceNodeG parse b = .ok t) :
    d t ≤ bdepth cb I b := by
  match b with
  | ⟨k, r, cs⟩ =>
    obtain ⟨cs', hcs, rfl⟩ := spliceNodeG_ok h
    rw [m.node, bdepth_eq]
    simp only at hk
    simp only [hk, Bool.false_eq_true, ↓reduceIte, hw]
    have := splice_list hw hI cs cs' hcs
    omega
theorem splice_list {cb I : Nat} (hw : ∀ k, w (.blk k) = cb)
    (hI : ∀ content mapping ns, parse content mapping = .ok ns → dl (ofInlineList ns) ≤ I)
    (cs : List Block.BNode) (out : List Node) (h : spliceListG parse cs = .ok out) :
    dl out ≤ bdepthList cb I cs := by
  match cs with
  | [] => rw [spliceListG_nil h, m.nil]; exact Nat.zero_le _
  | c :: rest =>
    obtain ⟨rest', hr, hc⟩ := spliceListG_cons_ok h
    have h3 := splice_list hw hI rest rest' hr
    simp only [bdepthList]
    rcases hc with ⟨content, mapping, ns, hck, hns, rfl⟩ | ⟨hne, c', hc', rfl⟩
    · rw [m.append]
      have h2 := hI _ _ _ hns
      have h4 : bdepth cb I c = I := by rw [bdepth_eq, hck]; rfl
      omega
    · rw [m.cons]
      have h1 := splice_node hw hI c (isInl_of_not hne) c' hc'
      omega
end

/-! ### step 2: the join pass never deepens anything -/

theorem join (hl : JoinLe w)
    (n : Node) : d (joinNode n) ≤ d n := by
  induction n using joinNode_induct with
  | step n ih =>
    rw [m.node, m.node n, joinNode_kind, joinNode_children]
    have : dl ((fragmentsJoin n.children).map joinNode) ≤ dl n.children := by
      rw [m.le_iff]
      intro y hy
      obtain ⟨x, hx, rfl⟩ := List.mem_map.mp hy
      obtain ⟨c, hc, hch, hwt⟩ := hl _ x hx
      have hxc : d x ≤ d c := by rw [m.node x, m.node c, hch]; omega
      exact Nat.le_trans (ih x hx) (Nat.le_trans hxc (m.le_of_mem hc))
    omega

/-! ### step 3: the sourcepos pass only touches attributes -/

mutual
theorem mapAttrs_node (f : Option (Nat × Nat) → List (List Char × List Char) → List (List Char × List Char))
    (t : Node) : d (mapAttrs f t) = d t := by
  match t with
  | ⟨k, r, a, cs⟩ => rw [mapAttrs, m.node, m.node ⟨k, r, a, cs⟩, mapAttrs_list f cs]
theorem mapAttrs_list (f : Option (Nat × Nat) → List (List Char × List Char) → List (List Char × List Char))
    (cs : List Node) : dl (mapAttrsList f cs) = dl cs := by
  match cs with
  | [] => rfl
  | c :: r => rw [mapAttrsList, m.cons, m.cons, mapAttrs_node f c, mapAttrs_list f r]
end

theorem sourcepos_node {src : List Char} {marks : List SourceMap.Mark} (t t' : Node)
    (h : sourceposNode src marks t = .ok t') : d t' = d t := by
  rw [sourceposNode_eq_mapAttrs h, m.mapAttrs_node]

theorem sourcepos_list {src : List Char} {marks : List SourceMap.Mark}
    (cs cs' : List Node) (h : sourceposList src marks cs = .ok cs') : dl cs' = dl cs := by
  rw [sourceposList_eq_mapAttrs h, m.mapAttrs_list]

/-- the depth of the document is at most the depth of its block tree with every placeholder weighing what
    the inline parser can return -/
theorem parseDoc_le {cfg : DocCfg} {src : List Char} {t : Node} {cb I : Nat} (hw : ∀ k, w (.blk k) = cb)
    (hl : JoinLe w)
    (hI : ∀ refs content mapping ns, Inline.parseInline (cfg.inlineCfg refs) content mapping = .ok ns →
      dl (ofInlineList ns) ≤ I)
    (h : parseDoc cfg src = .ok t) :
    ∃ root refs, Block.parseBlocks cfg.blockCfg src = .ok (root, refs) ∧ d t ≤ bdepth cb I root := by
  obtain ⟨root, refs, t0, hb, hs, hf⟩ := parseDoc_ok h
  refine ⟨root, refs, hb, ?_⟩
  have hroot : root.kind.isInl = false := by rw [(Block.parseBlocks_wf hb).1]; rfl
  have h0 := m.splice_node hw (hI refs) root hroot t0 hs
  have h1 : d (if cfg.hasJoin then joinNode t0 else t0) ≤ d t0 := by
    split
    · exact m.join hl t0
    · exact Nat.le_refl _
  rcases finish_ok hf with ⟨_, rfl⟩ | ⟨_, rfl⟩
  · rw [m.mapAttrs_node]; exact Nat.le_trans h1 h0
  · exact Nat.le_trans h1 h0

end DepthOf

/-! ## the weighted depths: what the inline parser returns -/

theorem weight_inl (cb ci : Nat) (v : Inline.Val) : (Kind.inl v).weight cb ci = ci * v.wcost := by
  cases v <;> simp [Kind.weight, Inline.Val.wcost]

mutual
theorem ofInline_wdepth (cb ci : Nat) (n : Inline.Node) :
    wdepth cb ci (ofInline n) ≤ ci * idepth n := by
  match n with
  | ⟨v, r, cs⟩ =>
    unfold ofInline
    rw [wdepth_eq]
    simp only [idepth, weight_inl, Nat.mul_add]
    have := ofInlineList_wdepth cb ci cs
    omega
theorem ofInlineList_wdepth (cb ci : Nat) (cs : List Inline.Node) :
    wdepthList cb ci (ofInlineList cs) ≤ ci * idepthList cs := by
  match cs with
  | [] => simp [ofInlineList, wdepthList]
  | c :: r =>
    simp only [ofInlineList, wdepthList, idepthList]
    have h1 := ofInline_wdepth cb ci c
    have h2 := ofInlineList_wdepth cb ci r
    have h3 : ci * idepth c ≤ ci * max (idepth c) (idepthList r) :=
      Nat.mul_le_mul_left _ (Nat.le_max_left _ _)
    have h4 : ci * idepthList r ≤ ci * max (idepth c) (idepthList r) :=
      Nat.mul_le_mul_left _ (Nat.le_max_right _ _)
    omega
end

/-- `I` bounds the weighted depth (`ci` per level) of every list of children the inline parser returns under `icfg` -/
def InlineBound (icfg : Inline.Cfg) (ci I : Nat) : Prop :=
  ∀ content mapping ns, Inline.parseInline icfg content mapping = .ok ns → ci * idepthList ns ≤ I

theorem InlineBound.list {icfg : Inline.Cfg} {cb ci I : Nat} (hI : InlineBound icfg ci I)
    (content : List Char) (mapping : InlineOps.Srcmap) (ns : List Inline.Node)
    (h : Inline.parseInline icfg content mapping = .ok ns) : wdepthList cb ci (ofInlineList ns) ≤ I :=
  Nat.le_trans (ofInlineList_wdepth cb ci ns) (hI content mapping ns h)

theorem spliceList_wdepth {icfg : Inline.Cfg} {cb ci I : Nat} (hI : InlineBound icfg ci I)
    (cs : List Block.BNode) (out : List Node) (h : spliceList icfg cs = .ok out) :
    wdepthList cb ci out ≤ bdepthList cb I cs :=
  (wdepth_depthOf cb ci).splice_list (fun _ => rfl) hI.list cs out (by rw [spliceListG_parseInline]; exact h)

/-! ## the weighted depths: `fragments_join` makes values no heavier -/

/-- `c'` is `c` with, possibly, a lighter value: what `fragments_join` does to a child it keeps — the clause of
    `JoinLe (Kind.weight cb ci)`, which `fragmentsJoin_lighter cb ci` proves as it stands -/
def Lighter (cb ci : Nat) (c c' : Node) : Prop :=
  c'.children = c.children ∧ c'.kind.weight cb ci ≤ c.kind.weight cb ci

theorem isText_weight {cb ci : Nat} {n : Node} (h : n.isText = true) : n.kind.weight cb ci = ci := by
  unfold Node.isText at h
  split at h
  · next heq => rw [heq]; rfl
  · cases h

theorem isMarker_weight {cb ci : Nat} {k : Kind} (h : k.isMarker = true) : k.weight cb ci = ci := by
  unfold Kind.isMarker at h
  split at h
  · rfl
  · cases h

theorem TextFor.lighter {cb ci : Nat} {c c' : Node} (h : TextFor c c') : Lighter cb ci c c' := by
  refine ⟨h.1, ?_⟩
  rcases h.2.2 with rfl | ⟨ht, hc | hc⟩
  · exact Nat.le_refl _
  · rw [isText_weight ht, isText_weight hc]; exact Nat.le_refl _
  · rw [isText_weight ht, isMarker_weight hc]; exact Nat.le_refl _

theorem fragmentsJoin_lighter (cb ci : Nat) (cs : List Node) :
    ∀ x ∈ fragmentsJoin cs, ∃ c ∈ cs, Lighter cb ci c x := fun x hx =>
  let ⟨c, hc, h, _⟩ := fragmentsJoin_textFor cs x hx
  ⟨c, hc, h.lighter⟩

theorem joinNode_wdepth (cb ci : Nat) (n : Node) : wdepth cb ci (joinNode n) ≤ wdepth cb ci n :=
  (wdepth_depthOf cb ci).join (fragmentsJoin_lighter cb ci) n

theorem sourceposList_wdepth {cb ci : Nat} {src : List Char} {marks : List SourceMap.Mark}
    (cs cs' : List Node) (h : sourceposList src marks cs = .ok cs') :
    wdepthList cb ci cs' = wdepthList cb ci cs :=
  (wdepth_depthOf cb ci).sourcepos_list cs cs' h

theorem parseDoc_wdepth {cfg : DocCfg} {src : List Char} {t : Node} (cb ci I : Nat)
    (hI : ∀ refs, InlineBound (cfg.inlineCfg refs) ci I) (h : parseDoc cfg src = .ok t) :
    ∃ root refs, Block.parseBlocks cfg.blockCfg src = .ok (root, refs) ∧
      wdepth cb ci t ≤ bdepth cb I root :=
  (wdepth_depthOf cb ci).parseDoc_le (fun _ => rfl) (fragmentsJoin_lighter cb ci) (fun refs => (hI refs).list) h

mutual
theorem bdepth_zero_le (I : Nat) (b : Block.BNode) : bdepth 0 I b ≤ I := by
  match b with
  | ⟨k, r, cs⟩ =>
    rw [bdepth_eq]
    simp only
    split
    · exact Nat.le_refl _
    · have := bdepthList_zero_le I cs; omega
theorem bdepthList_zero_le (I : Nat) (cs : List Block.BNode) : bdepthList 0 I cs ≤ I := by
  match cs with
  | [] => simp [bdepthList]
  | c :: r =>
    simp only [bdepthList]
    have := bdepth_zero_le I c
    have := bdepthList_zero_le I r
    omega
end

theorem inlineBound_one (cfg : DocCfg) (refs : Refs.RefMap) :
    InlineBound (cfg.inlineCfg refs) 1 (cfg.maxNesting + 1) := by
  intro content mapping ns h
  have := Inline.parseInline_depth _ h
  simp only [DocCfg.inlineCfg] at this
  omega

theorem inlineBound_zero (cfg : DocCfg) (refs : Refs.RefMap) : InlineBound (cfg.inlineCfg refs) 0 0 := by
  intro content mapping ns h; simp

/-! ## the property theorems -/

/-- **`doc_block_depth`.**  The block part of every parsed document (root, block quotes, lists,
    items, leaf blocks; inline nodes not counted) has depth `≤ max_nesting + 2`, the root included
    (`1` when `max_nesting = 0`: the tokenizer refuses at once).  The bound is reached
    (`depth_tight_2`; `- a` for `N = 1` below): the list rule raises `state.level` once for the list and once for the
    item body, but only the tokenizer tests it, so at level `N − 1` a list and an (empty) item are
    still created. -/
theorem doc_block_depth (cfg : DocCfg) (src : List Char) (t : Node) (h : parseDoc cfg src = .ok t) :
    blockDepth t ≤ (if cfg.maxNesting = 0 then 1 else cfg.maxNesting + 2) := by
  obtain ⟨root, refs, hb, hle⟩ := parseDoc_wdepth 1 0 0 (inlineBound_zero cfg) h
  have : bdepth 1 0 root ≤ (if cfg.maxNesting = 0 then 1 else cfg.maxNesting + 1 + 1) :=
    Block.parseBlocks_depth (I := 0) (J := 1) (Nat.le_refl _) (Nat.zero_le _) hb
  unfold blockDepth
  by_cases h0 : cfg.maxNesting = 0
  · rw [if_pos h0] at this ⊢; omega
  · rw [if_neg h0] at this ⊢; omega

/-- **`doc_inline_depth`.**  In the inline part of every parsed document the depth NOT counting
    emphasis wrappers is `≤ max_nesting + 1`: links and images nest through `state.level`, code spans
    and autolinks (one `Text` child) are only made below the limit, at the limit only text is. -/
theorem doc_inline_depth (cfg : DocCfg) (src : List Char) (t : Node) (h : parseDoc cfg src = .ok t) :
    inlineDepth t ≤ cfg.maxNesting + 1 := by
  obtain ⟨root, refs, _, hle⟩ := parseDoc_wdepth 0 1 (cfg.maxNesting + 1) (inlineBound_one cfg) h
  exact Nat.le_trans hle (bdepth_zero_le _ root)

/-- **`doc_depth_bounded`.**  The depth of every parsed document, the root included and emphasis
    wrappers not counted, is `≤ 2 · max_nesting + 2` (`1` when `max_nesting = 0`) — a function of the
    limit alone.  (Not the sum `(N + 2) + (N + 1)` of 1 and 2: the deepest block chain ends in an
    item without content.)  Reached for every small `N` tried (`depth_tight_2`, `depth_tight_3`); with the wrappers
    counted the bound `2 N + 2` fails (`emph_exceeds`), by an amount that `max_nesting` bounds
    (`emph_limited`, `Props/EmphDepth.lean`). -/
theorem doc_depth_bounded (cfg : DocCfg) (src : List Char) (t : Node) (h : parseDoc cfg src = .ok t) :
    depthNoEmph t ≤ (if cfg.maxNesting = 0 then 1 else 2 * cfg.maxNesting + 2) := by
  obtain ⟨root, refs, hb, hle⟩ := parseDoc_wdepth 1 1 (cfg.maxNesting + 1) (inlineBound_one cfg) h
  have : bdepth 1 (cfg.maxNesting + 1) root ≤
      (if cfg.maxNesting = 0 then 1 else cfg.maxNesting + 1 + (cfg.maxNesting + 1)) :=
    Block.parseBlocks_depth (I := cfg.maxNesting + 1) (J := cfg.maxNesting + 1)
      (by omega) (Nat.le_refl _) hb
  unfold depthNoEmph
  by_cases h0 : cfg.maxNesting = 0
  · rw [if_pos h0] at this ⊢; omega
  · rw [if_neg h0] at this ⊢; omega

/-- the uniform form: `≤ 2 N + 2` for every `N` -/
theorem doc_depth_bounded' (cfg : DocCfg) (src : List Char) (t : Node) (h : parseDoc cfg src = .ok t) :
    depthNoEmph t ≤ 2 * cfg.maxNesting + 2 := by
  have := doc_depth_bounded cfg src t h
  split at this <;> omega

/-! ## examples: non-vacuity, tightness, the emphasis wrappers

  Every document below was also run through the real crate (`md.max_nesting = N`, cmark + strikethrough):
  same trees, same plain depths (the fourth component of `measures`). -/

/-- the three measures and the plain depth of a parse result -/
def measures (r : Except Panic Node) : Option (Nat × Nat × Nat × Nat) :=
  match r with
  | .ok t => some (blockDepth t, inlineDepth t, depthNoEmph t, depth t)
  | .error _ => none

/-- N = 1: `- a` is root / list / item — the item body is refused: block depth `N + 2 = 3` -/
example : measures (parseDoc (exCfg false 1) "- a".toList) = some (3, 0, 3, 3) := by decide_lits

/-- N = 1: a link in a paragraph: inline depth `N + 1 = 2`, whole depth `2 N + 2 = 4` -/
example : measures (parseDoc (exCfg false 1) "[a](b)".toList) = some (2, 2, 4, 4) := by decide_lits

/-- N = 2: quote / paragraph / image / image / text: `2 N + 2 = 6`; block depth of `> - a` is
    `N + 2 = 4`; inline depth `N + 1 = 3` -/
theorem depth_tight_2 :
    measures (parseDoc (exCfg false 2) ">![![a](b)](c)".toList) = some (3, 3, 6, 6) ∧
    measures (parseDoc (exCfg false 2) ">- a".toList) = some (4, 0, 4, 4) := by decide_lits

/-- N = 3: two quotes, paragraph, three nested images, text: `2 N + 2 = 8` -/
theorem depth_tight_3 :
    measures (parseDoc (exCfg false 3) ">>![![![a](b)](c)](d)".toList) = some (4, 4, 8, 8) := by
  decide_lits

/-- beyond the limit nothing deeper is built: the same document under N = 2 and N = 1 -/
example : measures (parseDoc (exCfg false 2) ">>![![![a](b)](c)](d)".toList) = some (3, 0, 3, 3) ∧
    measures (parseDoc (exCfg false 1) ">>![![![a](b)](c)](d)".toList) = some (2, 0, 2, 2) := by
  decide_lits

/-- **the former known finding** (`emph-depth`), after the `fix:` that limits emphasis nesting by
    `max_nesting` (`scan_and_match_delimiters`: `state.level + inner_depth >= max_nesting` ⇒ break):
    with `max_nesting = 1` this document used to reach plain depth 7 (four nested wrappers); now one
    wrapper level fits (`room = max_nesting - level = 1`) and the plain depth is 4. -/
theorem emph_limited :
    measures (parseDoc (exCfg false 1) "*a **b _c ~~d~~_***".toList) = some (2, 1, 3, 4) ∧
    measures (parseDoc (exCfg false 2) "*a **b _c ~~d~~_***".toList) = some (2, 1, 3, 5) := by
  decide_lits

/-- with the wrappers counted the bound `2 N + 2` still FAILS — but by a bounded amount: per level
    `l` at most `max_nesting - l` wrappers are nested (`Props/EmphDepth.lean`:
    `inline_emph_depth_bounded`, `inline_tree_depth_bounded`: the inline part of a tree has height
    `≤ 1 + N (N + 3) / 2`).  `N = 1`: root / paragraph / em / link / text = 5 > 4;
    `N = 2`: root / quote / paragraph / em / em / image / em / link / text = 9 > 6. -/
theorem emph_exceeds :
    measures (parseDoc (exCfg false 1) "*[a](b)*".toList) = some (2, 2, 4, 5) ∧
    measures (parseDoc (exCfg false 2) ">*a *b ![*c [t](u) c*](i) b* a*".toList) = some (3, 3, 6, 9) := by
  decide_lits

/-- the hypotheses of the three theorems are satisfiable -/
example : ∃ t, parseDoc (exCfg true 3) ">>![![![a](b)](c)](d)".toList = .ok t ∧ depthNoEmph t ≤ 8 := by
  have h : (parseDoc (exCfg true 3) ">>![![![a](b)](c)](d)".toList).toOption.isSome = true := by
    decide_lits
  cases hp : parseDoc (exCfg true 3) ">>![![![a](b)](c)](d)".toList with
  | ok t => exact ⟨t, rfl, doc_depth_bounded' _ _ t hp⟩
  | error e => rw [hp] at h; cases h

/-! ## 4. recursion: the nesting of tokenizer calls is bounded by the limit

  (`Lemmas/C02DocCalls.lean`.)  The level discipline — every recursive call site passes a strictly
  larger level, every entry is guarded by `level < N` — is the content of
  `Block.blockquote_monoL` / `Block.list_monoL` / `Block.tokLoop_monoL` and
  `Inline.linkRule_congr` / `Inline.skipStep_congr` / `Inline.tokStep_congr`; its consequence for
  the evaluation is stated with the budgeted twins `Block.tokD`, `Inline.tokLoopD` /
  `Inline.skipTokenD`, whose second counter is spent by NESTED calls only. -/

/-- the block pass run with a budget of `d` simultaneously active tokenizer calls -/
def parseBlocksD (cfg : Block.Cfg) (d : Nat) (src : List Char) : Except Block.Panic (Block.BNode × Refs.RefMap) :=
  match Block.tokD cfg d (Block.fuelFor cfg src) (Block.BState.fresh src .root []) with
  | .error e => .error e
  | .ok s => .ok (⟨s.nodeKind, some (0, Lines.byteLen src), s.children⟩, s.refs)

/-- one inline run with a budget of `d` simultaneously active `tokenize` / `skip_token` calls -/
def parseInlineD (cfg : Inline.Cfg) (d : Nat) (content : List Char) (mapping : InlineOps.Srcmap) :
    Except Inline.Panic (List Inline.Node) :=
  match Inline.tokLoopD cfg d (Inline.topFuel cfg content) (Inline.IState.init content mapping).posMax
      (Inline.IState.init content mapping) with
  | .error e => .error e
  | .ok st => .ok st.children

/-- **`block_recursion_bounded`.**  Every result of the block pass is obtained with at most
    `max_nesting + 1` simultaneously active tokenizer calls, whatever the input (the general form,
    for a tokenizer entered at any level: `Block.block_call_depth`). -/
theorem block_recursion_bounded (cfg : Block.Cfg) (src : List Char) (r : Block.BNode × Refs.RefMap)
    (h : Block.parseBlocks cfg src = .ok r) : parseBlocksD cfg (cfg.maxNesting + 1) src = .ok r := by
  unfold Block.parseBlocks at h
  unfold parseBlocksD
  split at h
  · cases h
  · next s hs => rw [Block.parseBlocks_call_depth hs]; exact h

/-- **`inline_recursion_bounded`.**  Every inline run computes — result or panic — exactly what it
    computes with at most `max_nesting + 2` simultaneously active `tokenize` / `skip_token` calls,
    whatever the input (general form: `Inline.inline_call_depth`). -/
theorem inline_recursion_bounded (cfg : Inline.Cfg) (content : List Char) (mapping : InlineOps.Srcmap) :
    parseInlineD cfg (cfg.maxNesting + 2) content mapping = Inline.parseInline cfg content mapping := by
  unfold parseInlineD Inline.parseInline
  rw [Inline.tokenize_call_depth]
  rfl

/-- does the run end in the model's out-of-budget error -/
def outOfBudget {ε α : Type} (isFuel : ε → Bool) : Except ε α → Bool
  | .error e => isFuel e
  | .ok _ => false

def blockFuel : Block.Panic → Bool
  | .fuel => true
  | _ => false

def inlineFuel : Inline.Panic → Bool
  | .fuel => true
  | _ => false

/-- the two budgets are tight: `N` tokenizer calls do not suffice for `N` nested quotes, `N + 1`
    inline calls do not suffice for `N + 1` nested brackets (N = 2) -/
theorem recursion_tight :
    outOfBudget blockFuel (parseBlocksD (exCfg false 2).blockCfg 3 ">>a".toList) = false ∧
    outOfBudget blockFuel (parseBlocksD (exCfg false 2).blockCfg 2 ">>a".toList) = true ∧
    outOfBudget inlineFuel (parseInlineD ((exCfg false 2).inlineCfg []) 4 "[[[a]]](b)".toList [(0, 0)]) = false ∧
    outOfBudget inlineFuel (parseInlineD ((exCfg false 2).inlineCfg []) 3 "[[[a]]](b)".toList [(0, 0)]) = true := by
  decide_lits

/-
  OPEN: tightness for EVERY limit.  `depth_tight_2/3`, `recursion_tight` and the examples reach the
  four bounds for N = 1, 2, 3 by evaluation; the general statement
      ∀ N ≥ 1, ∃ src t, parseDoc (exCfg false N) src = .ok t ∧ depthNoEmph t = 2 * N + 2
  (witness: N − 1 `>`, then N nested `![`…`](u)` around one letter) needs a symbolic run of both
  tokenizers on a parametric document — missing lemma: `parseInline` on `"![" ^ k ++ "a" ++ "](u)" ^ k`
  returns `k` nested images for `k ≤ N` (label look-ahead succeeds exactly when the bracket depth
  stays below the limit; for `k = N + 1` the whole construct degrades to ONE text node, see the
  example "beyond the limit nothing deeper is built").
  OPEN (minor): `Block.block_call_depth` is stated for successful runs (`.ok`); that a PANIC of the
  real tokenizer is reproduced by the budgeted twin as well (full equality, as proved for the inline
  side) needs the error-preserving version of the `*_mono` lemmas of `Props/Block.lean` §11.
-/

end MdIt.Pipeline
