/-
  C12 at WHOLE-DOCUMENT level: statements about `MdIt.Pipeline.parseDoc` (`md.parse(src)`).
  `Props/C12.lean` proves the mechanism level over `Model/Entity.lean`; here the same facts are
  carried through the block parser, the splice walk, the inline parser, the join pass and the
  sourcepos pass.

  ROUND TRIP ("backslash-escaping every ASCII punctuation character of an arbitrary
  single-line string yields a paragraph that displays exactly that string").

    `escape_roundtrip_doc`          for EVERY `s` without LF / CR, non-empty, neither starting nor
                                    ending with a space or tab:  `parseDoc cfg (escapeAllPunct s)` is
                                    `Root[Paragraph[leaves]]`, the leaves are `Text` nodes and the
                                    `TextSpecial` nodes of backslash escapes, and they display `s`.
    `escape_roundtrip_doc_blanks`   the general form: `s = w ++ m ++ w'` with `w`, `w'` runs of
                                    spaces / tabs, `w` narrower than 4 columns: the paragraph
                                    displays `m` (the paragraph trims the blanks).
    Exact class, each exclusion with a witness (`example`s at the end of the section, checked against the
    crate):  LF / CR (second line; CR is shown as LF),  empty or all-blank `s` (no paragraph),
    leading blanks of width ≥ 4 incl. one tab (indented code block),  leading / trailing blanks in
    general (trimmed).  NUL, other control characters, non-ASCII characters, Unicode white space and
    interior tabs need no exclusion.
    Exact configuration class (`RoundTripCfg`): `max_nesting > 0`; the paragraph rule is in the block
    chain (ANY other block rules, any order); the text scanner and the escape rule are in the inline
    chain (ANY other html-free inline rules, any order), emphasis-like rules have ASCII punctuation
    markers other than `\`.  Any entity table, case tables, `sourcepos` on or off.

  CONTEXT AGREEMENT: see the section header below.
-/
import MdIt.Lemmas.C12DocInline
import MdIt.Lemmas.C12DocBlock
import MdIt.Props.LinksDoc
import MdIt.Lemmas.KernelEval

namespace MdIt.Pipeline
open MdIt.Entity (escapeAllPunct isAsciiPunct)
open MdIt.Lines (NoTerm AllBlank indentWidth)

/-! # the round trip -/

/-! ## the escaped line is a plain line for the block parser -/

theorem escapeAllPunct_append (a b : List Char) :
    escapeAllPunct (a ++ b) = escapeAllPunct a ++ escapeAllPunct b := by
  induction a with
  | nil => rfl
  | cons c t ih => simp only [List.cons_append, escapeAllPunct]; split <;> simp [ih]

theorem escapeAllPunct_blank (w : List Char) (hw : AllBlank w) : escapeAllPunct w = w := by
  induction w with
  | nil => rfl
  | cons c t ih =>
    have : isAsciiPunct c = false := by rcases hw c (by simp) with rfl | rfl <;> decide
    simp [escapeAllPunct, this, ih hw.tail]

theorem ordLoop_escaped (t w' : List Char) (hw' : AllBlank w') :
    ∀ pos, Block.ordLoop (escapeAllPunct t ++ w') pos = none := by
  induction t with
  | nil =>
    intro pos
    cases w' with
    | nil => rfl
    | cons b r =>
      rcases hw' b (by simp) with rfl | rfl <;> simp [escapeAllPunct, Block.ordLoop, Block.isDigit]
  | cons c t ih =>
    intro pos
    by_cases hp : isAsciiPunct c = true
    · simp [escapeAllPunct, hp, Block.ordLoop, Block.isDigit]
    · have hp' : isAsciiPunct c = false := by simpa using hp
      have h1 : c ≠ ')' := by intro h; subst h; revert hp'; decide
      have h2 : c ≠ '.' := by intro h; subst h; revert hp'; decide
      have hesc : escapeAllPunct (c :: t) = c :: escapeAllPunct t := by simp [escapeAllPunct, hp']
      rw [hesc, List.cons_append]
      simp only [Block.ordLoop]
      split
      · split
        · rfl
        · exact ih _
      · simp [h1, h2]

theorem skipOrdered_escaped (m w' : List Char) (hw' : AllBlank w') :
    Block.skipOrdered (escapeAllPunct m ++ w') = none := by
  cases m with
  | nil =>
    cases w' with
    | nil => rfl
    | cons b r =>
      rcases hw' b (by simp) with rfl | rfl <;> simp [escapeAllPunct, Block.skipOrdered, Block.isDigit]
  | cons c t =>
    by_cases hp : isAsciiPunct c = true
    · simp [escapeAllPunct, hp, Block.skipOrdered, Block.isDigit]
    · have hp' : isAsciiPunct c = false := by simpa using hp
      have hesc : escapeAllPunct (c :: t) = c :: escapeAllPunct t := by simp [escapeAllPunct, hp']
      rw [hesc, List.cons_append]
      simp only [Block.skipOrdered, ordLoop_escaped t w' hw' 1]
      split <;> rfl

/-- the line  blanks ++ escapeAllPunct m ++ blanks  is `Plain` -/
theorem plain_escaped (w m w' : List Char) (hw : AllBlank w) (hwidth : indentWidth w < 4)
    (hw' : AllBlank w') (hne : m ≠ []) (hh : ∀ c ∈ m.head?, c ≠ ' ' ∧ c ≠ '\t') (hnt : NoTerm m) :
    Block.C12.Plain w (escapeAllPunct m ++ w') := by
  refine ⟨hw, hwidth, ?_, ?_, skipOrdered_escaped m w' hw'⟩
  · intro c hc
    rcases List.mem_append.mp hc with h | h
    · have : ∀ (l : List Char), NoTerm l → NoTerm (escapeAllPunct l) := by
        intro l
        induction l with
        | nil => intro _ c hc; simp [escapeAllPunct] at hc
        | cons d t ih =>
          intro hl c hc
          simp only [escapeAllPunct] at hc
          split at hc
          · simp only [List.mem_cons] at hc
            rcases hc with rfl | rfl | hc
            · decide
            · exact hl _ (by simp)
            · exact ih hl.tail c hc
          · simp only [List.mem_cons] at hc
            rcases hc with rfl | hc
            · exact hl _ (by simp)
            · exact ih hl.tail c hc
      exact this m hnt c h
    · exact hw'.noTerm c h
  · obtain ⟨c, t, rfl⟩ := List.exists_cons_of_ne_nil hne
    have hc := hh c (by simp)
    by_cases hp : isAsciiPunct c = true
    · exact ⟨'\\', c :: (escapeAllPunct t ++ w'), by simp [escapeAllPunct, hp], by decide,
        fun _ => ⟨by decide, by decide⟩⟩
    · have hp' : isAsciiPunct c = false := by simpa using hp
      have key : ∀ d : Char, isAsciiPunct d = true → c ≠ d := by
        intro d hd h; subst h; rw [hp'] at hd; cases hd
      refine ⟨c, escapeAllPunct t ++ w', by simp [escapeAllPunct, hp'], ?_,
        fun _ => ⟨key _ (by decide), key _ (by decide)⟩⟩
      simp only [List.mem_cons, List.not_mem_nil, or_false, not_or]
      exact ⟨hc.1, hc.2, key _ (by decide), key _ (by decide), key _ (by decide), key _ (by decide),
        key _ (by decide), key _ (by decide), key _ (by decide)⟩

/-! ## what the tree looks like -/

/-- a childless `Text`, or the childless `TextSpecial` a backslash escape of an escapable character
    makes (`content` = the character, `markup` = `\` + the character, `info` = `"escape"`) -/
def EscLeaf (c : Node) : Prop :=
  c.children = [] ∧
  ((∃ x, c.kind = .inl (.text x)) ∨ (∃ ch, c.kind = .inl (.special [ch] ['\\', ch] Inline.infoEscape)))

/-- `t` is `Root[Paragraph[leaves]]`, the leaves are `EscLeaf`s, and what they display as plain text
    (`docAltList`: `Text.content` / `TextSpecial.content` in order, `Props/LinksDoc.lean`) is `m` -/
def ShowsPara (t : Node) (m : List Char) : Prop :=
  t.kind = .blk .root ∧
  ∃ p, t.children = [p] ∧ p.kind = .blk .paragraph ∧ (∀ c ∈ p.children, EscLeaf c) ∧
    docAltList p.children = m

theorem docAlt_leaf (n : Node) (h : n.children = []) : docAlt n = n.kind.ownAlt := by
  obtain ⟨k, r, a, cs⟩ := n
  simp only at h; subst h
  simp [docAlt, docAltList]

theorem ofInlineList_leaves (ns : List Inline.Node) (h : ∀ n ∈ ns, Inline.C12.TS n) :
    (∀ c ∈ ofInlineList ns, EscLeaf c) ∧ docAltList (ofInlineList ns) = Inline.C12.showList ns := by
  induction ns with
  | nil => simp [ofInlineList, docAltList, Inline.C12.showList]
  | cons n r ih =>
    obtain ⟨ih1, ih2⟩ := ih (fun x hx => h x (by simp [hx]))
    obtain ⟨v, rg, cs⟩ := n
    obtain ⟨hc, hv⟩ := h ⟨v, rg, cs⟩ (by simp)
    simp only at hc hv; subst hc
    have hleaf : EscLeaf (ofInline ⟨v, rg, []⟩) := by
      simp only [ofInline, ofInlineList, EscLeaf, true_and]
      rcases hv with ⟨x, rfl⟩ | ⟨ch, rfl⟩
      · exact .inl ⟨x, rfl⟩
      · exact .inr ⟨ch, rfl⟩
    constructor
    · intro c hc
      simp only [ofInlineList, List.mem_cons] at hc
      rcases hc with rfl | hc
      · exact hleaf
      · exact ih1 c hc
    · simp only [ofInlineList, docAltList, ih2]
      rw [docAlt_leaf _ hleaf.1]
      rcases hv with ⟨x, rfl⟩ | ⟨ch, rfl⟩ <;>
        simp [ofInline, Kind.ownAlt, Inline.C12.showList, Inline.C12.showNode]

/-! ## the join pass on such leaves -/

theorem Node.isText_iff (c : Node) : c.isText = true ↔ ∃ x, c.kind = .inl (.text x) := by
  unfold Node.isText
  constructor
  · intro ht
    split at ht
    · exact ⟨_, by assumption⟩
    · cases ht
  · rintro ⟨x, hx⟩; rw [hx]

theorem EscLeaf.markerToText {c : Node} (h : EscLeaf c) : markerToText c = c := by
  unfold Pipeline.markerToText
  rcases h.2 with ⟨x, hx⟩ | ⟨ch, hx⟩ <;> rw [hx]

theorem pass1_leaves (cs : List Node) (h : ∀ c ∈ cs, EscLeaf c) : pass1 cs = cs := by
  unfold pass1
  induction cs with
  | nil => rfl
  | cons c r ih =>
    simp only [List.map_cons, (h c (by simp)).markerToText, ih (fun x hx => h x (by simp [hx]))]

theorem docAlt_text {c : Node} (h : EscLeaf c) (ht : c.isText = true) : docAlt c = c.content := by
  obtain ⟨x, hx⟩ := c.isText_iff.mp ht
  rw [docAlt_leaf c h.1, hx]
  simp [Kind.ownAlt, Node.content, hx]

theorem mergeLoop_leaves (rest : List Node) : ∀ (cur : Node), EscLeaf cur → (∀ c ∈ rest, EscLeaf c) →
    (∀ x ∈ mergeLoop cur rest, EscLeaf x) ∧
      docAltList (mergeLoop cur rest) = docAlt cur ++ docAltList rest := by
  induction rest with
  | nil =>
    intro cur hc _
    simp only [mergeLoop, docAltList, List.mem_singleton, forall_eq, List.append_nil, and_true]
    exact hc
  | cons nxt rest ih =>
    intro cur hc hr
    have hn := hr nxt (by simp)
    have hr' : ∀ c ∈ rest, EscLeaf c := fun c hc => hr c (by simp [hc])
    simp only [mergeLoop]
    split
    · next htt =>
      simp only [Bool.and_eq_true] at htt
      have hm : EscLeaf (merged cur nxt) := ⟨hc.1, .inl ⟨_, rfl⟩⟩
      have he : EscLeaf (emptied nxt) := ⟨hn.1, .inl ⟨_, rfl⟩⟩
      obtain ⟨i1, i2⟩ := ih (merged cur nxt) hm hr'
      constructor
      · intro x hx
        rcases List.mem_cons.mp hx with rfl | hx
        · exact he
        · exact i1 x hx
      · simp only [docAltList, i2]
        rw [docAlt_leaf _ he.1, docAlt_leaf _ hm.1, docAlt_text hc htt.1, docAlt_text hn htt.2]
        simp [emptied, merged, Kind.ownAlt]
    · obtain ⟨i1, i2⟩ := ih nxt hn hr'
      constructor
      · intro x hx
        rcases List.mem_cons.mp hx with rfl | hx
        · exact hc
        · exact i1 x hx
      · simp only [docAltList, i2]

theorem filter_keep_leaves (l : List Node) (h : ∀ c ∈ l, EscLeaf c) :
    docAltList (l.filter keep) = docAltList l := by
  induction l with
  | nil => rfl
  | cons c r ih =>
    have ih := ih (fun x hx => h x (by simp [hx]))
    have hc := h c (by simp)
    simp only [List.filter_cons]
    split
    · simp only [docAltList, ih]
    · next hk =>
      simp only [keep, Bool.not_eq_true, Bool.not_eq_false', Bool.and_eq_true] at hk
      rw [ih]
      simp only [docAltList]
      rw [docAlt_text hc hk.1]
      have : c.content = [] := by simpa using hk.2
      rw [this]; rfl

/-- `fragments_join` on a vector of such leaves: still such leaves, same display -/
theorem fragmentsJoin_leaves (cs : List Node) (h : ∀ c ∈ cs, EscLeaf c) :
    (∀ c ∈ fragmentsJoin cs, EscLeaf c) ∧ docAltList (fragmentsJoin cs) = docAltList cs := by
  unfold fragmentsJoin
  rw [pass1_leaves cs h]
  cases cs with
  | nil => simp [mergeAll]
  | cons c r =>
    obtain ⟨i1, i2⟩ := mergeLoop_leaves r c (h c (by simp)) (fun x hx => h x (by simp [hx]))
    simp only [mergeAll]
    constructor
    · intro x hx; exact i1 x (List.mem_filter.mp hx).1
    · rw [filter_keep_leaves _ i1, i2]; rfl

theorem joinNode_leaf {c : Node} (h : EscLeaf c) : joinNode c = c := joinNode_childless h.1

theorem joinList_leaves (cs : List Node) (h : ∀ c ∈ cs, EscLeaf c) : joinList cs = cs := by
  rw [joinList_eq_map]
  induction cs with
  | nil => rfl
  | cons c r ih =>
    simp only [List.map_cons, joinNode_leaf (h c (by simp)), ih (fun x hx => h x (by simp [hx]))]

/-- `FragmentsJoin::run` keeps `Root[Paragraph[leaves]]` and what it displays -/
theorem joinNode_showsPara {t : Node} {m : List Char} (h : ShowsPara t m) : ShowsPara (joinNode t) m := by
  obtain ⟨hk, p, hc, hpk, hl, hd⟩ := h
  obtain ⟨i1, i2⟩ := fragmentsJoin_leaves p.children hl
  have hfj : fragmentsJoin [p] = [p] := by
    have h1 : Pipeline.markerToText p = p := by unfold Pipeline.markerToText; rw [hpk]
    have h2 : p.isText = false := by unfold Node.isText; rw [hpk]
    simp [fragmentsJoin, pass1, h1, mergeAll, mergeLoop, keep, h2]
  refine ⟨by rw [joinNode_kind]; exact hk, joinNode p, ?_, by rw [joinNode_kind]; exact hpk, ?_, ?_⟩
  · rw [joinNode_eq, hc, hfj, joinList_eq_map]; rfl
  · rw [joinNode_eq, joinList_leaves _ i1]; exact i1
  · rw [joinNode_eq, joinList_leaves _ i1]; exact i2.trans hd

/-! ## the sourcepos pass on such a tree -/

mutual
theorem docAlt_kindsPre (t : Node) : docAlt t = (kindsPre t).flatMap Kind.ownAlt := by
  match t with
  | ⟨k, r, a, cs⟩ => simp only [docAlt, kindsPre, List.flatMap_cons, docAltList_kindsPre cs]
theorem docAltList_kindsPre (cs : List Node) : docAltList cs = (kindsPreList cs).flatMap Kind.ownAlt := by
  match cs with
  | [] => rfl
  | c :: r =>
    simp only [docAltList, kindsPreList, List.flatMap_append, docAlt_kindsPre c, docAltList_kindsPre r]
end

theorem showsPara_mapAttrs (f : Option (Nat × Nat) → List (List Char × List Char) → List (List Char × List Char))
    {t : Node} {m : List Char} (h : ShowsPara t m) : ShowsPara (mapAttrs f t) m := by
  obtain ⟨hk, p, hc, hpk, hl, hd⟩ := h
  refine ⟨by simp [hk], mapAttrs f p, by simp [hc], by simp [hpk], ?_, ?_⟩
  · intro c hc
    rw [mapAttrs_children] at hc
    obtain ⟨c0, h0, rfl⟩ := List.mem_map.mp hc
    have := hl c0 h0
    exact ⟨by simp [this.1], by simpa using this.2⟩
  · rw [mapAttrs_children, ← mapAttrsList_eq_map, docAltList_kindsPre, kindsPreList_mapAttrs, ← docAltList_kindsPre]
    exact hd

/-- the configurations the round trip holds for (examples below: each condition but the text scanner's presence is
    necessary; the punctuation condition on the markers is sufficient) -/
structure RoundTripCfg (cfg : DocCfg) : Prop where
  /-- `md.max_nesting > 0` (with 0 the block tokenizer skips the whole document) -/
  nest : 0 < cfg.maxNesting
  /-- the paragraph rule is in the block chain (any other rules, any order) -/
  para : Block.RuleId.paragraph ∈ cfg.blockChain
  /-- text scanner and escape rule are in the inline chain (any other rules, any order); emphasis
      markers are ASCII punctuation other than `\` -/
  inl : Inline.C12.ChainOK cfg.inlineChain

theorem isSpTab_iff (c : Char) : Inline.isSpTab c = true ↔ (c = ' ' ∨ c = '\t') := by
  simp [Inline.isSpTab]

theorem linesByteLen_eq (l : List Char) : Lines.byteLen l = InlineOps.byteLen l :=
  (congrFun C05.byteLen_eq_lines l).symm

/-- **C12, round trip, whole document (general form).**  `s = w ++ m ++ w'` where `w`, `w'` are runs
    of spaces / tabs, `w` less than 4 columns wide, and `m` is a non-empty text without LF / CR that
    neither starts nor ends with a space or tab.  Then `md.parse` of `s` with a backslash before every
    ASCII punctuation character does not panic and returns `Root[Paragraph[leaves]]` whose leaves —
    `Text` nodes and the `TextSpecial` nodes of the escapes — display exactly `m`. -/
theorem escape_roundtrip_doc_blanks (cfg : DocCfg) (hcfg : RoundTripCfg cfg) (w m w' : List Char)
    (hw : AllBlank w) (hwidth : indentWidth w < 4) (hw' : AllBlank w') (hne : m ≠ [])
    (hh : ∀ c ∈ m.head?, c ≠ ' ' ∧ c ≠ '\t') (hl : ∀ c ∈ m.getLast?, c ≠ ' ' ∧ c ≠ '\t')
    (hnt : NoTerm m) :
    ∃ t, parseDoc cfg (escapeAllPunct (w ++ m ++ w')) = .ok t ∧ ShowsPara t m := by
  have hsrc : escapeAllPunct (w ++ m ++ w') = w ++ (escapeAllPunct m ++ w') := by
    rw [escapeAllPunct_append, escapeAllPunct_append, escapeAllPunct_blank w hw,
      escapeAllPunct_blank w' hw', List.append_assoc]
  have hplain := plain_escaped w m w' hw hwidth hw' hne hh hnt
  have hblock := Block.C12.parseBlocks_one_line cfg.blockCfg hcfg.para hcfg.nest w _ hplain
  have nb : ∀ c : Char, (c ≠ ' ' ∧ c ≠ '\t') → Inline.isSpTab c = false := by
    intro c hc
    cases h : Inline.isSpTab c
    · rfl
    · rcases (isSpTab_iff c).mp h with rfl | rfl
      · exact absurd rfl hc.1
      · exact absurd rfl hc.2
  obtain ⟨ns, hns, hts, hshow⟩ := Inline.C12.parseInline_escaped (cfg := cfg.inlineCfg []) hcfg.inl hcfg.nest
    w m w' [(0, 0)] Inline.C12.wf_single (fun c hc => (isSpTab_iff c).mpr (hw c hc))
    (fun c hc => (isSpTab_iff c).mpr (hw' c hc)) hne (fun c hc => nb c (hh c hc))
    (fun c hc => nb c (hl c hc)) (fun h => (hnt _ h).1 rfl)
  obtain ⟨l1, l2⟩ := ofInlineList_leaves ns hts
  -- the tree behind the splice walk
  have hsplice : spliceNode (cfg.inlineCfg [])
      ⟨.root, some (0, Lines.byteLen (w ++ (escapeAllPunct m ++ w'))),
        [Block.C12.oneParagraph w (escapeAllPunct m ++ w')]⟩ =
      .ok ⟨.blk .root, some (0, Lines.byteLen (w ++ (escapeAllPunct m ++ w'))), [],
        [⟨.blk .paragraph, some (w.length, Lines.byteLen (w ++ (escapeAllPunct m ++ w'))), [],
          ofInlineList ns⟩]⟩ := by
    have hns' : Inline.parseInline (cfg.inlineCfg []) (w ++ (escapeAllPunct m ++ w')) [(0, 0)] = .ok ns := by
      rw [← List.append_assoc]; exact hns
    simp [spliceNode, spliceList, Block.C12.oneParagraph, hns']
  have hshape : ShowsPara ⟨.blk .root, some (0, Lines.byteLen (w ++ (escapeAllPunct m ++ w'))), [],
        [⟨.blk .paragraph, some (w.length, Lines.byteLen (w ++ (escapeAllPunct m ++ w'))), [],
          ofInlineList ns⟩]⟩ m :=
    ⟨rfl, _, rfl, rfl, l1, by rw [l2, hshow]⟩
  unfold parseDoc
  rw [hsrc, hblock]
  simp only [afterBlocks, hsplice]
  refine (finish_total cfg.hasJoin cfg.sourcepos _ _).elim fun t ht => ⟨t, ht, ?_⟩
  rcases finish_ok ht with ⟨_, rfl⟩ | ⟨_, rfl⟩
  · refine showsPara_mapAttrs _ ?_
    split
    · exact joinNode_showsPara hshape
    · exact hshape
  · split
    · exact joinNode_showsPara hshape
    · exact hshape

/-- **C12, round trip, whole document.**  For EVERY non-empty string `s` without LF / CR that neither
    starts nor ends with a space or tab (any other character allowed: controls, NUL, non-ASCII,
    interior blanks and tabs): parsing `s` with a backslash before every ASCII punctuation character
    gives one paragraph that displays exactly `s`. -/
theorem escape_roundtrip_doc (cfg : DocCfg) (hcfg : RoundTripCfg cfg) (s : List Char) (hne : s ≠ [])
    (hh : ∀ c ∈ s.head?, c ≠ ' ' ∧ c ≠ '\t') (hl : ∀ c ∈ s.getLast?, c ≠ ' ' ∧ c ≠ '\t')
    (hnt : ∀ c ∈ s, c ≠ '\n' ∧ c ≠ '\r') :
    ∃ t, parseDoc cfg (escapeAllPunct s) = .ok t ∧ ShowsPara t s := by
  have := escape_roundtrip_doc_blanks cfg hcfg [] s [] (by intro c hc; cases hc) (by decide)
    (by intro c hc; cases hc) hne hh hl hnt
  simpa using this

/-! ## examples: the hypotheses are satisfiable; each one is necessary
    (every witness below was run on the real crate: same trees) -/

section Examples

theorem exCfg_emph (sp : Bool) (mn : Nat) (mk : Char) (csw : Bool)
    (hm : Inline.RuleId.emph mk csw ∈ (exCfg sp mn).inlineChain) : mk = '*' ∨ mk = '_' ∨ mk = '~' := by
  simp [exCfg] at hm
  rcases hm with ⟨rfl, _⟩ | ⟨rfl, _⟩ | ⟨rfl, _⟩ <;> simp

/-- the stock configuration of `Props/Pipeline.lean` (nine block rules, the twelve html-free inline
    rules in stock order, `*` `_` `~` markers) is in the class, with and without `sourcepos` -/
theorem exCfg_roundTrip (sp : Bool) (mn : Nat) (h : 0 < mn) : RoundTripCfg (exCfg sp mn) := by
  refine ⟨h, by simp [exCfg], ⟨by simp [exCfg], by simp [exCfg], ?_⟩⟩
  intro mk csw hm
  rcases exCfg_emph sp mn mk csw hm with rfl | rfl | rfl <;> decide

/-- a chain in another order, without most rules, is in the class as well -/
example : RoundTripCfg { exCfg true 1 with blockChain := [.paragraph, .list],
                                           inlineChain := [.entity, .escape, .link, .text] } :=
  ⟨by decide, by decide, ⟨by decide, by decide, by intro mk csw hm; simp at hm⟩⟩

/-- `1) #a_*` ↦ `1\) \#a\_\*` -/
example : escapeAllPunct "1) #a_*".toList = "1\\) \\#a\\_\\*".toList := by decide_lits

/-- the theorem on `1) #a_*` (an ordered-list marker, a heading marker, emphasis delimiters) -/
example (sp : Bool) : ∃ t, parseDoc (exCfg sp 100) (escapeAllPunct "1) #a_*".toList) = .ok t ∧
    ShowsPara t "1) #a_*".toList :=
  escape_roundtrip_doc _ (exCfg_roundTrip sp 100 (by decide)) _ (by decide) (by decide) (by decide)
    (by decide)

/-- … and by evaluation: `Root[Paragraph[T X T X T X X]]`, displaying the string -/
example : (parseDoc (exCfg true 100) (escapeAllPunct "1) #a_*".toList)).toOption.map
      (fun t => (tags t, docAlt t)) =
    some ([.root, .p, .T, .X, .T, .X, .T, .X, .X], "1) #a_*".toList) := by decide +kernel

/-- without the escaping the same string is an ordered list -/
example : (parseDoc (exCfg true 100) "1) #a_*".toList).toOption.map tags =
    some [.root, .ol, .li, .T] := by decide +kernel

/-- the general form: two leading blanks, three trailing ones (a tab among them) are trimmed -/
example : ∃ t, parseDoc (exCfg false 100) (escapeAllPunct "  -a\t b \t ".toList) = .ok t ∧
    ShowsPara t "-a\t b".toList := by
  repeat rw [String.toList_ofList]
  exact escape_roundtrip_doc_blanks _ (exCfg_roundTrip false 100 (by decide)) "  ".toList "-a\t b".toList
    " \t ".toList (by unfold Lines.AllBlank; decide) (by decide) (by unfold Lines.AllBlank; decide)
    (by decide) (by decide) (by decide) (by unfold Lines.NoTerm; decide)

/-- NECESSARY `0 < max_nesting`: with `max_nesting = 0` the block tokenizer skips the document -/
example : (parseDoc (exCfg false 0) ['a']).toOption.map tags = some [.root] := by decide +kernel

/-- NECESSARY the paragraph rule: without it the tokenizer's fall-back hangs the line PLUS a line feed
    directly under the root: `Root[Text "a", Softbreak]` -/
example : (parseDoc { exCfg false 100 with blockChain := [.code, .hr] } ['a']).toOption.map
      (fun t => (tags t, docAlt t)) = some ([.root, .T, .SB], ['a', '\n']) := by decide +kernel

/-- NECESSARY the escape rule: without it the backslash is displayed -/
example : (parseDoc { exCfg false 100 with inlineChain := [.text, .entity] } ['\\', '*']).toOption.map docAlt =
    some ['\\', '*'] := by decide +kernel

/-- NECESSARY `mk ≠ '\\'` for emphasis-like rules listed before the escape rule: a (custom) pair rule
    with marker `\` takes the backslash.  (That the other markers are ASCII punctuation is what keeps
    them away from unescaped text; it is sufficient, and true of the shipped `*`, `_`, `~`.) -/
example : (parseDoc { exCfg false 100 with inlineChain := [.emph '\\' true, .text, .escape] }
      ['\\', '*']).toOption.map docAlt = some ['\\', '*'] := by decide +kernel

/-- NECESSARY width < 4 of the leading blanks: four spaces, a tab, space + tab give an indented code
    block (nothing is displayed) -/
example : (parseDoc (exCfg false 100) "    a".toList).toOption.map tags = some [.root, .code] ∧
    (parseDoc (exCfg false 100) "\ta".toList).toOption.map tags = some [.root, .code] ∧
    (parseDoc (exCfg false 100) " \ta".toList).toOption.map tags = some [.root, .code] := by
  decide +kernel

/-- NECESSARY no blanks at the ends (for displaying `s` itself): they are trimmed -/
example : (parseDoc (exCfg false 100) "   a \t".toList).toOption.map (fun t => (tags t, docAlt t)) =
    some ([.root, .p, .T], ['a']) := by decide +kernel

/-- NECESSARY `s ≠ []` / not all blank: no paragraph at all -/
example : (parseDoc (exCfg false 100) []).toOption.map tags = some [.root] ∧
    (parseDoc (exCfg false 100) "  ".toList).toOption.map tags = some [.root] := by decide +kernel

/-- NECESSARY no CR: a lone CR is a line ending — two lines, displayed with a LF between them -/
example : (parseDoc (exCfg false 100) "a\rb".toList).toOption.map (fun t => (tags t, docAlt t)) =
    some ([.root, .p, .T, .SB, .T], "a\nb".toList) := by decide +kernel

/-- NOT excluded: NUL, DEL, vertical tab / form feed, U+00A0 and U+2028 at the ends, a 10-digit number
    followed by a dot (no list marker: more than 9 digits — and the dot is escaped anyway) -/
example : ∃ t, parseDoc (exCfg true 100)
      (escapeAllPunct [Char.ofNat 0, Char.ofNat 0x2028, '1', '2', '3', '4', '5', '6', '7', '8', '9', '0', '.',
        Char.ofNat 0x7f, Char.ofNat 0xb, Char.ofNat 0xa0]) = .ok t ∧
    ShowsPara t [Char.ofNat 0, Char.ofNat 0x2028, '1', '2', '3', '4', '5', '6', '7', '8', '9', '0', '.',
        Char.ofNat 0x7f, Char.ofNat 0xb, Char.ofNat 0xa0] :=
  escape_roundtrip_doc _ (exCfg_roundTrip true 100 (by decide)) _ (by decide) (by decide) (by decide)
    (by decide)

end Examples

/-! # context agreement

  A valid reference or escape `R` with the characters `X` it denotes is `Entity.Denotes lookup R X` (`Props/C12.lean`)
  (named reference present in the table, numeric reference, escape of one of the 32 escapable
  characters: exactly the cases of `named_agree`, `numeric_agree`, `escape_agree` of `Props/C12.lean`).

    `reference_in_paragraph`   (a) `md.parse("a" ++ R ++ "b")` is
                               `Root[Paragraph[Text "a", TextSpecial{content: X, markup: R}, Text "b"]]`
                               and displays `"a" ++ X ++ "b"`
    `reference_in_fence_info`  (e) `md.parse("~~~ " ++ R)` is `Root[CodeFence{info: " " ++ R}]`,
                               `unescape_all` of that info is `" " ++ X`, and — when `X` is a non-empty
                               word without white space — the `class` attribute `CodeFence::render`
                               computes is `lang_prefix ++ X`
    so the SAME `X` is shown in paragraph text and named in the fence's class.
  The other contexts — (b) link destination, (c) link title, (d) reference definition, images — and all five
  together (`contexts_agree`) are in `Props/C12Ctx.lean`.
-/

end MdIt.Pipeline

namespace MdIt.Pipeline
open MdIt.Entity (Denotes)

/-- the configurations of part (a): those of the round trip, with the entity rule in the inline chain
    and no emphasis-like rule on `&` -/
structure AgreeCfg (cfg : DocCfg) : Prop where
  rt : RoundTripCfg cfg
  entity : Inline.RuleId.entity ∈ cfg.inlineChain
  amp : ∀ mk csw, Inline.RuleId.emph mk csw ∈ cfg.inlineChain → mk ≠ '&'

/-- the `info` field of the `TextSpecial` node: which rule made it -/
def infoOf (R : List Char) : List Char :=
  if R.head? = some '&' then Inline.infoEntity else Inline.infoEscape

/-- the inline parser on `"a" ++ R ++ "b"` -/
theorem parseInline_reference {icfg : Inline.Cfg} (hc : Inline.C12.ChainOK icfg.chain) (hmax : 0 < icfg.maxNesting)
    (hent : Inline.RuleId.entity ∈ icfg.chain)
    (hamp : ∀ mk csw, Inline.RuleId.emph mk csw ∈ icfg.chain → mk ≠ '&')
    (R X : List Char) (h : Denotes icfg.entity R X) :
    ∃ r1 r2 r3, Inline.parseInline icfg ('a' :: (R ++ ['b'])) [(0, 0)] =
      .ok [Inline.Node.newText ['a'] (some r1), Inline.Node.leaf (.special X R (infoOf R)) (some r2),
           Inline.Node.newText ['b'] (some r3)] := by
  have hqamp : Inline.C12.Only icfg.chain .entity '&' := Inline.C12.only_own (by simp) hamp
  have hentity : ∀ (R' : List Char), R = '&' :: R' →
      Entity.entityCore icfg.entity (R ++ ['b']) (R ++ ['b']) = .ok (some ⟨R.length, X, R⟩) →
      ∃ r1 r2 r3, Inline.parseInline icfg ('a' :: (R ++ ['b'])) [(0, 0)] =
        .ok [Inline.Node.newText ['a'] (some r1), Inline.Node.leaf (.special X R (infoOf R)) (some r2),
             Inline.Node.newText ['b'] (some r3)] := by
    intro R' hR hcore
    have hinfo : infoOf R = Inline.infoEntity := by simp [infoOf, hR]
    rw [hinfo]
    exact Inline.C12.parseInline_aRb hc hmax R X Inline.infoEntity .entity '&' R' hR (by decide) hent hqamp
      (fun skip tok fuel st hsrc hpos hpm rg hrg =>
        Inline.C12.fire_entity icfg skip tok fuel st ['a'] R ['b'] X R' hR hcore hsrc hpos hpm rg hrg)
  cases h with
  | named n cs hn hl =>
    refine hentity (n ++ [';']) rfl ?_
    have := Entity.entityCore_named icfg.entity n ['b'] _ hn hl
    simpa using this
  | numeric cap hcap =>
    refine hentity ('#' :: (cap ++ [';'])) rfl ?_
    have := Entity.entityCore_numeric icfg.entity cap ['b'] hcap
    simpa [Entity.decodeEntity] using this
  | escape c hcesc =>
    have hinfo : infoOf ['\\', c] = Inline.infoEscape := by simp [infoOf]
    rw [hinfo]
    exact Inline.C12.parseInline_aRb hc hmax ['\\', c] [c] Inline.infoEscape .escape '\\' [c] rfl (by decide)
      hc.escape (Inline.C12.trigger_backslash hc)
      (fun skip tok fuel st hsrc hpos hpm rg hrg =>
        Inline.C12.fire_escape icfg skip tok fuel st c ['b'] hcesc
          (Inline.C12.window_of_src (B := []) (by rw [hsrc]; simp) hpos hpm) rg hrg)

/-- **C12 (a), whole document.**  For every valid reference or escape `R` denoting `X`:
    `md.parse("a" ++ R ++ "b")` does not panic; its node values in pre-order (`kindsPre`: nesting, ranges and
    attributes forgotten) are `Root, Paragraph, Text "a", TextSpecial { content: X, markup: R, info }, Text "b"`
    (`info` = `"entity"` / `"escape"`), and as plain text it displays `"a" ++ X ++ "b"`. -/
theorem reference_in_paragraph (cfg : DocCfg) (hcfg : AgreeCfg cfg) (R X : List Char)
    (h : Denotes cfg.entity R X) :
    ∃ t, parseDoc cfg ('a' :: (R ++ ['b'])) = .ok t ∧
      kindsPre t = [.blk .root, .blk .paragraph, .inl (.text ['a']), .inl (.special X R (infoOf R)),
        .inl (.text ['b'])] ∧
      docAlt t = 'a' :: (X ++ ['b']) := by
  have hplain : Block.C12.Plain [] ('a' :: (R ++ ['b'])) := by
    refine ⟨(by intro c hc; cases hc), (by decide), ?_,
      ⟨'a', R ++ ['b'], rfl, (by decide), fun _ => ⟨(by decide), (by decide)⟩⟩,
      (by simp [Block.skipOrdered, Block.isDigit])⟩
    intro c hc
    simp only [List.mem_cons, List.mem_append, List.not_mem_nil, or_false] at hc
    rcases hc with rfl | hc | rfl
    · exact ⟨by decide, by decide⟩
    · exact h.noTerm c hc
    · exact ⟨by decide, by decide⟩
  have hblock := Block.C12.parseBlocks_one_line cfg.blockCfg hcfg.rt.para hcfg.rt.nest [] _ hplain
  obtain ⟨r1, r2, r3, hin⟩ := parseInline_reference (icfg := cfg.inlineCfg []) hcfg.rt.inl hcfg.rt.nest
    hcfg.entity hcfg.amp R X h
  have hdisp : ∀ t : Node, kindsPre t = [.blk .root, .blk .paragraph, .inl (.text ['a']),
      .inl (.special X R (infoOf R)), .inl (.text ['b'])] → docAlt t = 'a' :: (X ++ ['b']) := by
    intro t ht
    rw [docAlt_kindsPre, ht]
    simp [Kind.ownAlt]
  -- the tree behind the splice walk
  let kids : List Node := [⟨.inl (.text ['a']), some r1, [], []⟩,
    ⟨.inl (.special X R (infoOf R)), some r2, [], []⟩, ⟨.inl (.text ['b']), some r3, [], []⟩]
  let para : Node := ⟨.blk .paragraph, some (0, Lines.byteLen ('a' :: (R ++ ['b']))), [], kids⟩
  let t0 : Node := ⟨.blk .root, some (0, Lines.byteLen ('a' :: (R ++ ['b']))), [], [para]⟩
  have hsplice : spliceNode (cfg.inlineCfg [])
      ⟨.root, some (0, Lines.byteLen ([] ++ 'a' :: (R ++ ['b']))),
        [Block.C12.oneParagraph [] ('a' :: (R ++ ['b']))]⟩ = .ok t0 := by
    simp [spliceNode, spliceList, Block.C12.oneParagraph, hin, ofInlineList, ofInline, Inline.Node.newText,
      Inline.Node.leaf, t0, para, kids]
  have hk0 : kindsPre t0 = [.blk .root, .blk .paragraph, .inl (.text ['a']),
      .inl (.special X R (infoOf R)), .inl (.text ['b'])] := by
    simp [t0, para, kids, kindsPre, kindsPreList]
  have hjoin : joinNode t0 = t0 :=
    joinNode_one rfl rfl (joinNode_fix
      (by simp [para, kids, fragmentsJoin, pass1, Pipeline.markerToText, mergeAll, mergeLoop, keep, Node.isText,
        Node.content])
      (by simp [para, kids, joinNode_childless]))
  unfold parseDoc
  rw [show 'a' :: (R ++ ['b']) = [] ++ 'a' :: (R ++ ['b']) from rfl, hblock]
  simp only [afterBlocks, hsplice]
  obtain ⟨t, ht⟩ := finish_total cfg.hasJoin cfg.sourcepos ([] ++ 'a' :: (R ++ ['b'])) t0
  have hk : kindsPre t = kindsPre t0 := by
    rcases finish_ok ht with ⟨_, rfl⟩ | ⟨_, rfl⟩ <;> simp only [hjoin, ite_self, kindsPre_mapAttrs]
  exact ⟨t, ht, hk.trans hk0, hdisp t (hk.trans hk0)⟩

/-! ## (e) the fence info string -/

/-- the configurations of part (e): `max_nesting > 0`, the fence rule is in the block chain and comes
    before the paragraph rule (`pre` = the rules in front of its first occurrence) -/
structure FenceCfg (cfg : DocCfg) : Prop where
  nest : 0 < cfg.maxNesting
  chain : ∃ pre post, cfg.blockChain = pre ++ Block.RuleId.fence :: post ∧
    Block.RuleId.paragraph ∉ pre ∧ Block.RuleId.fence ∉ pre

theorem takeWhile_all {α : Type} (p : α → Bool) (l : List α) (h : ∀ x ∈ l, p x = true) :
    l.takeWhile p = l := by
  induction l with
  | nil => rfl
  | cons c r ih => simp [h c (by simp), ih (fun x hx => h x (by simp [hx]))]

theorem firstWord_word (X : List Char) (hne : X ≠ []) (hws : ∀ c ∈ X, NodeRender.isWs c = false) :
    NodeRender.firstWord (' ' :: X) = X := by
  obtain ⟨c, t, rfl⟩ := List.exists_cons_of_ne_nil hne
  have h1 : NodeRender.isWs ' ' = true := by decide
  have h2 := hws c (by simp)
  unfold NodeRender.firstWord
  simp only [List.dropWhile_cons, h1, if_true, h2]
  exact takeWhile_all _ _ (fun x hx => by simp [hws x hx])

/-- **C12 (e), whole document.**  For every valid reference or escape `R` denoting `X` (the table
    holding no name that starts `&#`: `table_no_hash`): `md.parse("~~~ " ++ R)` does not panic and is
    `Root[CodeFence { info: " " ++ R, marker: '~', marker_len: 3, content: "" }]`; `unescape_all` of that
    info string is `" " ++ X` — the characters `R` denotes in paragraph text (`reference_in_paragraph`) —
    and when `X` is a non-empty word without white space the attribute list `CodeFence::render` hands
    to `<code>` is the node's own plus `class = lang_prefix ++ X`. -/
theorem reference_in_fence_info (cfg : DocCfg) (hcfg : FenceCfg cfg) (R X : List Char)
    (h : Denotes cfg.entity R X) (hno : ∀ s, cfg.entity ('&' :: '#' :: s) = none) :
    ∃ t f, parseDoc cfg ('~' :: '~' :: '~' :: ' ' :: R) = .ok t ∧ t.kind = .blk .root ∧
      t.children = [f] ∧ f.kind = .blk (.codeFence (' ' :: R) '~' 3 []) ∧ f.children = [] ∧
      Entity.unescapeAll cfg.entity (' ' :: R) = ' ' :: X ∧
      (X ≠ [] → (∀ c ∈ X, NodeRender.isWs c = false) →
        NodeRender.fenceAttrs cfg.entity f.attrs (' ' :: R) cfg.langPrefix =
          .ok (f.attrs ++ [(NodeRender.aClass, cfg.langPrefix ++ X)])) := by
  obtain ⟨pre, post, hchain, hpre, hnf⟩ := hcfg.chain
  -- `unescape_all(" " ++ R)`
  have hun : Entity.unescapeAll cfg.entity (' ' :: R) = ' ' :: X := by
    have hR : ∃ c0 R', R = c0 :: R' ∧ (c0 = '&' ∨ c0 = '\\') := by
      cases h with
      | named n cs hn hl => exact ⟨_, _, rfl, .inl rfl⟩
      | numeric cap hcap => exact ⟨_, _, rfl, .inl rfl⟩
      | escape c hc => exact ⟨_, _, rfl, .inr rfl⟩
    obtain ⟨c0, R', hR, hc0⟩ := hR
    have hcont : (!(' ' :: R).contains '\\' && !(' ' :: R).contains '&') = false := by
      rcases hc0 with rfl | rfl <;> simp [hR]
    have hnm : Entity.matchUnescapeAllRe (' ' :: R) = none := by
      simp [Entity.matchUnescapeAllRe, Entity.matchEscapeRe, Entity.matchEntityRe]
    have := h.unescape hno []
    rw [List.append_nil, Entity.unescapeScan_nil, List.append_nil] at this
    unfold Entity.unescapeAll
    rw [hcont]
    simp only [Bool.false_eq_true, if_false]
    rw [Entity.unescapeScan_nomatch _ _ _ hnm, this]
  have hattrs : ∀ attrs, X ≠ [] → (∀ c ∈ X, NodeRender.isWs c = false) →
      NodeRender.fenceAttrs cfg.entity attrs (' ' :: R) cfg.langPrefix =
        .ok (attrs ++ [(NodeRender.aClass, cfg.langPrefix ++ X)]) := by
    intro attrs hne hws
    rw [NodeRender.fence_class, hun, firstWord_word X hne hws, if_neg hne]
  -- the block pass
  have hplain : Block.C12.PlainG true [] ('~' :: '~' :: '~' :: ' ' :: R) := by
    refine ⟨(by intro c hc; cases hc), (by decide), ?_,
      ⟨'~', '~' :: '~' :: ' ' :: R, rfl, (by decide), fun hh => by cases hh⟩,
      (by simp [Block.skipOrdered, Block.isDigit])⟩
    intro c hc
    simp only [List.mem_cons] at hc
    rcases hc with rfl | rfl | rfl | rfl | hc
    · exact ⟨by decide, by decide⟩
    · exact ⟨by decide, by decide⟩
    · exact ⟨by decide, by decide⟩
    · exact ⟨by decide, by decide⟩
    · exact h.noTerm c hc
  have hblock := Block.C12.parseBlocks_fence_line cfg.blockCfg pre post hchain hpre hnf hcfg.nest []
    ('~' :: '~' :: '~' :: ' ' :: R) hplain (' ' :: R) rfl (by intro c hc; simp at hc; subst hc; decide)
  let fk : Kind := .blk (.codeFence (' ' :: R) '~' 3 [])
  let rg : Option (Nat × Nat) := some (0, Lines.byteLen ('~' :: '~' :: '~' :: ' ' :: R))
  let f0 : Node := ⟨fk, rg, [], []⟩
  let t0 : Node := ⟨.blk .root, rg, [], [f0]⟩
  have hsplice : spliceNode (cfg.inlineCfg [])
      ⟨.root, some (0, Lines.byteLen ([] ++ '~' :: '~' :: '~' :: ' ' :: R)),
        [Block.C12.oneFence [] ('~' :: '~' :: '~' :: ' ' :: R) (' ' :: R)]⟩ = .ok t0 := by
    simp [spliceNode, spliceList, Block.C12.oneFence, t0, f0, fk, rg]
  have hjoin : joinNode t0 = t0 := joinNode_one rfl rfl (joinNode_childless rfl)
  unfold parseDoc
  rw [show '~' :: '~' :: '~' :: ' ' :: R = [] ++ '~' :: '~' :: '~' :: ' ' :: R from rfl, hblock]
  simp only [afterBlocks, hsplice, hjoin, ite_self]
  by_cases hsp : cfg.sourcepos = true
  · simp only [hsp, if_true]
    simp only [t0, f0, sourceposNode, sourceposList, sourceposAttrs_eq]
    exact ⟨_, _, rfl, rfl, rfl, rfl, rfl, hun, hattrs _⟩
  · simp only [hsp]
    exact ⟨t0, f0, rfl, rfl, rfl, rfl, rfl, hun, hattrs _⟩

/-! ## examples for the context agreement -/

section Examples2

theorem exCfg_agree (sp : Bool) (mn : Nat) (h : 0 < mn) : AgreeCfg (exCfg sp mn) := by
  refine ⟨exCfg_roundTrip sp mn h, by simp [exCfg], ?_⟩
  intro mk csw hm
  rcases exCfg_emph sp mn mk csw hm with rfl | rfl | rfl <;> decide

theorem exCfg_fence (sp : Bool) (mn : Nat) (h : 0 < mn) : FenceCfg (exCfg sp mn) :=
  ⟨h, [.code], [.blockquote, .hr, .list, .reference, .heading, .lheading, .paragraph], rfl,
    by decide, by decide⟩

theorem exCfg_no_hash (sp : Bool) (mn : Nat) (s : List Char) : (exCfg sp mn).entity ('&' :: '#' :: s) = none := by
  simp [exCfg]

theorem exCfg_amp (sp : Bool) (mn : Nat) : Denotes (exCfg sp mn).entity ['&', 'a', 'm', 'p', ';'] ['&'] :=
  .named ['a', 'm', 'p'] ['&'] (by decide) (by cases sp <;> rfl)

/-- `&amp;`, `&#x41;`, `&#0;` (→ U+FFFD) and `\*` are in the class -/
example (sp : Bool) : Denotes (exCfg sp 100).entity "&amp;".toList ['&'] := exCfg_amp sp 100
example (lk : List Char → Option (List Char)) : Denotes lk "&#x41;".toList ['A'] :=
  .numeric "x41".toList (by decide)
example (lk : List Char → Option (List Char)) : Denotes lk "&#0;".toList [Char.ofNat 0xFFFD] :=
  .numeric "0".toList (by decide)
example (lk : List Char → Option (List Char)) : Denotes lk "\\*".toList ['*'] := .escape '*' (by decide)

/-- (a) and (e) on `&amp;`: the paragraph shows `a&b`, the fence's class is `l-&` (`lang_prefix` of the
    example configuration is `l-`) -/
example (sp : Bool) : ∃ t, parseDoc (exCfg sp 100) "a&amp;b".toList = .ok t ∧ docAlt t = "a&b".toList := by
  repeat rw [String.toList_ofList]
  obtain ⟨t, h1, _, h3⟩ := reference_in_paragraph _ (exCfg_agree sp 100 (by decide)) _ _
    (exCfg_amp sp 100)
  exact ⟨t, h1, h3⟩

example (sp : Bool) : ∃ t f, parseDoc (exCfg sp 100) "~~~ &amp;".toList = .ok t ∧ t.children = [f] ∧
    NodeRender.fenceAttrs (exCfg sp 100).entity f.attrs " &amp;".toList ['l', '-'] =
      .ok (f.attrs ++ [(NodeRender.aClass, "l-&".toList)]) := by
  repeat rw [String.toList_ofList]
  obtain ⟨t, f, h1, _, h3, _, _, _, h7⟩ := reference_in_fence_info _ (exCfg_fence sp 100 (by decide)) _ _
    (exCfg_amp sp 100) (exCfg_no_hash sp 100)
  exact ⟨t, f, h1, h3, h7 (by decide) (by decide)⟩

/-- by evaluation, with the numeric reference `&#x41;` and the escape `\*` -/
example : (parseDoc (exCfg true 100) "a&#x41;b".toList).toOption.map (fun t => (tags t, docAlt t)) =
    some ([.root, .p, .T, .X, .T], "aAb".toList) := by decide +kernel
example : (renderDoc false (exCfg false 100) "~~~ &#x41;\\*".toList) =
    .ok "<pre><code class=\"l-A*\"></code></pre>\n".toList := by decide_lits

/-- NECESSARY for (e) "fence before paragraph": with the paragraph rule first the line is a paragraph -/
example : (parseDoc { exCfg false 100 with blockChain := [.paragraph, .fence] } "~~~ x".toList).toOption.map tags =
    some [.root, .p, .T] := by decide +kernel

/-- NECESSARY for (a) "no emphasis-like rule on `&`": such a (custom) rule takes the ampersand -/
example : (parseDoc { exCfg false 100 with inlineChain := [.emph '&' true, .text, .escape, .entity] }
      "a&amp;b".toList).toOption.map docAlt = some "a&amp;b".toList := by decide_lits

/-- OUTSIDE the class: a reference the table does not hold, a code with 8 digits, a missing `;` stay
    literal in paragraph text AND in the info string (both paths leave them alone) -/
example : (parseDoc (exCfg false 100) "a&zz;&#00000065;&#65b".toList).toOption.map docAlt =
      some "a&zz;&#00000065;&#65b".toList ∧
    Entity.unescapeAll (exCfg false 100).entity " &zz;&#00000065;&#65".toList = " &zz;&#00000065;&#65".toList := by
  decide_lits

end Examples2
end MdIt.Pipeline
