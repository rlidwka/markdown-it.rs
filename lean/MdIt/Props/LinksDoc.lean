/-
  C04, C13, C18 at WHOLE-DOCUMENT level: theorems about `MdIt.Pipeline.parseDoc` / `renderDoc`
  (`Model/Pipeline.lean`, checked against `md.parse(src)` / `.render()` by the stream `pipeline`),
  composed from the slices `Props/C04` (validator), `Props/Inline` (`parseInline_vals`, `HrefOK`),
  `Props/Block` (`FlatStep` of section 7, `listLoop_rel`, `tokLoop_keeps`), `Props/Pipeline` (`Every`,
  `parseDoc_ok`, `passes_every` with `joinStable_of_kr` / `attrBlind_of_kr`),
  `Props/NodeRender` (`render_origin`, `image_alt_is_display`), `Props/C13`, `Props/C18`,
  `Props/HtmlDecode`.  Every statement is for ALL configurations of the model (any subset / order of
  the nine block and ten html-free inline rules, any `max_nesting`, any case tables and entity
  table, with and without `sourcepos`) and ALL sources, conditional only on `parseDoc … = .ok t`.

  Part A (namespace `MdIt.Block`) — the reference map is an invariant of the block tokenizer:
    `reference_step`         the reference rule, real mode: children and kind untouched; the map is
                             unchanged or got exactly one `Refs.addDef` of the definition it parsed
    `tokenize_refs`          every tokenizer call (any depth) only `Extends` the map: a fold of
                             `Refs.addDef` over definitions the rule parsed (`IsDef`), in order
    `reference_no_node`      C13: the rule pushes no node
    `refs_first_wins`, `rule_first_wins`   C13: a present key keeps its entry (tokenizer / one rule)
    `parseBlocks_refs`       the final map is `Refs.buildMap N defs` (fold from the EMPTY map)
    `parseBlocks_refs_good`  C04 (i): every stored destination is `normalize_link` of something and
                             was accepted by `validate_link`
  Part B (namespace `MdIt.Pipeline`):
    `parseDoc_every_kind`    a predicate on node VALUES that the inline rules establish survives the
                             splice, join and sourcepos passes (C04 (iii))
    `doc_urls_safe`(`'`)     C04: every Link / Image / Autolink url anywhere in the tree is `SafeUrl`
    `doc_href_safe`          C04, output side: every `href` / `src` attribute of every trait call of
                             the rendering is such a url; how it is written; what the browser decodes
    `doc_href_output`        the same on the returned string: it is the concatenation of the pieces,
                             a tag piece is `<tag` attributes `>`, each `href` / `src` among them is
                             ` href="escape_html u"` with `u` safe
    `doc_link_render`        … and these are exactly the nodes' urls (`a` elements)
    `doc_reference_position_irrelevant`, `doc_reference_first_match`, `doc_reference_real_tables`
                             C13: ONE inline configuration, built from the FINAL map, for every
                             `InlineRoot`; a use resolves to the first matching definition of the
                             whole document
    `doc_image_alt`, `doc_img_events`   C18: the `alt` of every Image node / every `img` call is the
                             Alt model's `display` of the description = `docAltList`
  Continued in `Props/C13Trace.lean` (`defs` by source lines) and `Props/HrefConverse.lean` (occurrences of
  `href=` by position): see the end of the file.
-/
import MdIt.Props.Pipeline
import MdIt.Props.C04
import MdIt.Props.C13
import MdIt.Props.C18
import MdIt.Props.HtmlDecode
import MdIt.Lemmas.KernelEval

/-! # Part A: the reference map the block pass builds -/

namespace MdIt.Block
open MdIt.Lines (LineOffset)

/-- `normalize_reference` of a block configuration -/
def Cfg.N (cfg : Cfg) : List Nat → List Nat := Refs.normalize cfg.L cfg.U

/-- a destination the reference rule stores: an output of `normalize_link` that `validate_link`
    accepted -/
def GoodDest (u : List Nat) : Prop :=
  (∃ cs : List Char, u = Link.normalizeLink (Link.utf8 cs)) ∧ Link.validateLink u = true

/-- `d` is a definition the reference rule read off some text: label, destination and title are
    what `refParse` (everything in `ReferenceScanner::run` behind `get_lines(..).trim()`) returned -/
def IsDef (cfg : Cfg) (d : Refs.Def) : Prop :=
  ∃ str lines, refParse cfg str = .ok (some (d.label, d.entry.dest, d.entry.title, lines))

/-- `m'` is `m` after a sequence of definitions was met, in order: the fold of `Refs.addDef`
    (= "insert under the twice-normalised label if absent and the label is not blank") -/
def Extends (cfg : Cfg) (m m' : Refs.RefMap) : Prop :=
  ∃ defs : List Refs.Def, (∀ d ∈ defs, IsDef cfg d) ∧ m' = defs.foldl (Refs.addDef cfg.N) m

theorem Extends.refl (cfg : Cfg) (m : Refs.RefMap) : Extends cfg m m := ⟨[], by simp, rfl⟩

theorem Extends.trans {cfg : Cfg} {a b c : Refs.RefMap} (h1 : Extends cfg a b) (h2 : Extends cfg b c) :
    Extends cfg a c := by
  obtain ⟨d1, g1, rfl⟩ := h1
  obtain ⟨d2, g2, rfl⟩ := h2
  refine ⟨d1 ++ d2, ?_, by rw [List.foldl_append]⟩
  intro d hd
  rcases List.mem_append.mp hd with h | h
  · exact g1 d h
  · exact g2 d h

/-- the relation between the state a rule / tokenizer call gets and the one it hands back -/
def KeepsRefs (cfg : Cfg) (s s' : BState) : Prop := Extends cfg s.refs s'.refs

/-- only the two reference maps matter -/
theorem KeepsRefs.congr {cfg : Cfg} {a b s s' : BState} (h : KeepsRefs cfg a b) (h1 : s.refs = a.refs)
    (h2 : s'.refs = b.refs) : KeepsRefs cfg s s' := by
  unfold KeepsRefs; rw [h1, h2]; exact h

theorem KeepsRefs.of_eq {cfg : Cfg} {s s' : BState} (h : s'.refs = s.refs) : KeepsRefs cfg s s' :=
  KeepsRefs.congr (Extends.refl cfg s.refs : KeepsRefs cfg s s) rfl h

theorem hr_refs {s s' : BState} {b : Bool} (h : hrRule s false = .ok (b, s')) : s'.refs = s.refs :=
  (hrRule_step (cfg := default) h).refs_eq (by simp)

theorem heading_refs {s s' : BState} {b : Bool} (h : headingRule s false = .ok (b, s')) :
    s'.refs = s.refs :=
  (headingRule_step (cfg := default) h).refs_eq (by simp)

theorem paragraph_refs {test : Test} (ht : TestPure test) {fuel : Nat} {s s' : BState} {b : Bool}
    (h : paragraphRule test fuel s false = .ok (b, s')) : s'.refs = s.refs :=
  (paragraphRule_step (cfg := default) ht h).refs_eq (by simp)

theorem lheading_refs {test : Test} (ht : TestPure test) {fuel : Nat} {s s' : BState} {b : Bool}
    (h : lheadingRule test fuel s false = .ok (b, s')) : s'.refs = s.refs :=
  (lheadingRule_step (cfg := default) ht h).refs_eq (by simp)

/-- the destination `refParse` hands out is `normalize_link` of the decoded raw destination, and
    `validate_link` accepted it (`if !validate_link(&href) { return false; }`) -/
theorem refParse_good {cfg : Cfg} {str : List Char} {raw href : List Nat} {title : Option (List Nat)}
    {lines : Nat} (h : refParse cfg str = .ok (some (raw, href, title, lines))) : GoodDest href := by
  obtain ⟨_, _, _, _, _, _, _, res, _, _, _, _, _, _, -, -, -, -, -, rfl, hv, -⟩ := refParse_ok h
  exact ⟨⟨_, rfl⟩, hv⟩

theorem IsDef.good {cfg : Cfg} {d : Refs.Def} (h : IsDef cfg d) : GoodDest d.entry.dest := by
  obtain ⟨str, lines, h⟩ := h
  exact refParse_good h

/-- **The reference rule.**  In real mode it never touches `children` (`reference_no_node`), and it
    either leaves the map alone or performs exactly one `Refs.addDef` with the definition it parsed. -/
theorem reference_step {cfg : Cfg} {test : Test} (ht : TestPure test) {fuel : Nat}
    {s s' : BState} {b : Bool} (h : referenceRule cfg test fuel s false = .ok (b, s')) :
    s'.children = s.children ∧ s'.nodeKind = s.nodeKind ∧
    (s'.refs = s.refs ∨
      ∃ d : Refs.Def, IsDef cfg d ∧ b = true ∧ s'.refs = Refs.addDef cfg.N s.refs d) := by
  cases referenceRule_step ht h with
  | decline => exact ⟨rfl, rfl, .inl rfl⟩
  | push _ _ _ _ hr => exact absurd rfl hr
  | define str raw href title lines _ hparse hne =>
    exact ⟨rfl, rfl, .inr ⟨⟨raw, ⟨href, title⟩⟩, ⟨str, lines, hparse⟩, rfl, by simp [Refs.addDef, Cfg.N, hne]⟩⟩

theorem FlatStep.refs {cfg : Cfg} {r : RuleId} {s s' : BState} {b : Bool} (h : FlatStep cfg r s b s') :
    KeepsRefs cfg s s' := by
  cases h with
  | decline => exact .of_eq rfl
  | push => exact .of_eq rfl
  | define str raw href title lines _ hparse hne =>
    refine ⟨[⟨raw, ⟨href, title⟩⟩], fun d hd => ?_, by simp [Refs.addDef, Cfg.N, hne]⟩
    cases List.mem_singleton.mp hd
    exact ⟨str, lines, hparse⟩

/-- the nested tokenizer only extends the map -/
def TokRefs (cfg : Cfg) (tok : Tok) : Prop := ∀ s s', tok s = .ok s' → KeepsRefs cfg s s'

theorem blockquote_refs {cfg : Cfg} {tok : Tok} {test : Test} (hsh : TokRefs cfg tok)
    (ht : TestPure test) {fuel : Nat} {s s' : BState} {b : Bool}
    (h : blockquoteRule tok test fuel s false = .ok (b, s')) : KeepsRefs cfg s s' := by
  rcases blockquoteRule_ok h with ⟨_, rfl⟩ |
    ⟨_, _, _, _, _, _, _, ⟨hs, _⟩ | ⟨_, _, _, S, S2, _, _, hscan, htok, _, _, _, _, rfl⟩⟩
  · exact .of_eq rfl
  · cases hs
  · exact (hsh _ _ htok).congr (bqScan_spec ht _ _ _ _ _ _ _ _ hscan).1.refs.symm rfl

theorem listItem_refs {cfg : Cfg} {tok : Tok} (hsh : TokRefs cfg tok) {S S' : BState}
    {m pos : Nat} {pee tight pee' tight' : Bool}
    (h : listItem tok S m pos pee tight = .ok (S', tight', pee')) : KeepsRefs cfg S S' := by
  obtain ⟨_, _, _, _, S3, _, _, _, _, _, hbody, _, _, _, _, _, _, rfl⟩ := listItem_ok h
  rcases listItemBody_ok hbody with ⟨_, _, rfl⟩ | ⟨_, S2, htok, _, rfl⟩
  · exact .of_eq rfl
  · have key := hsh _ _ htok
    exact key

theorem list_refs {cfg : Cfg} {tok : Tok} {test : Test} (hsh : TokRefs cfg tok)
    (ht : TestPure test) {fuel : Nat} {s s' : BState} {b : Bool}
    (h : listRule tok test fuel s false = .ok (b, s')) : KeepsRefs cfg s s' := by
  rcases listRule_ok h with ⟨_, rfl⟩ | ⟨_, _, _, _, _, _, _, _, _, _, _, _, _,
    ⟨hs, _⟩ | ⟨_, _, _, _, S, _, _, _, hloop, _, _, _, _, rfl⟩⟩
  · exact .of_eq rfl
  · cases hs
  · have key := listLoop_rel (R := KeepsRefs cfg) (fun _ => Extends.refl _ _) Extends.trans ht
      (fun _ _ _ _ _ _ _ _ hit => listItem_refs hsh hit) _ _ _ _ _ _ _ _ _ hloop
    exact key

theorem runRule_refs {cfg : Cfg} {tok : Tok} {test : Test} (hsh : TokRefs cfg tok) (ht : TestPure test)
    (fuel : Nat) (r : RuleId) {s s' : BState} {b : Bool}
    (h : runRule cfg tok test fuel r s false = .ok (b, s')) : KeepsRefs cfg s s' := by
  rcases r.nests_cases with rfl | rfl | ⟨hq, hli⟩
  · exact blockquote_refs hsh ht h
  · exact list_refs hsh ht h
  · exact (flatRule_step ht h hq hli).refs

theorem afterChain_refs {ok : Bool} {s s' : BState} {prev : Nat}
    (h : afterChain ok s prev = .ok s') : s'.refs = s.refs := by
  rcases afterChain_ok h with ⟨_, _, rfl⟩ | ⟨_, _, _, _, _, rfl⟩ <;> rfl

theorem tokLoop_refs {cfg : Cfg} {run : RuleId → BState → Bool → Res}
    (hsh : ∀ r s b s', run r s false = .ok (b, s') → KeepsRefs cfg s s') :
    ∀ (fuel : Nat) (he : Bool) (s s' : BState), tokLoop cfg run fuel he s = .ok s' → KeepsRefs cfg s s' := by
  refine tokLoop_keeps (K := KeepsRefs cfg) (fun _ _ _ _ => Extends.refl _ _) (fun _ _ _ => Extends.trans) ?_
  intro s ok S1 S2 _ _ _ hchain hafter
  have h1 := runChain_rel (R := KeepsRefs cfg) (fun _ => Extends.refl _ _) Extends.trans hsh _ _ _ _ hchain
  exact h1.congr rfl (afterChain_refs hafter)

/-- **The block tokenizer only ever extends the reference map, by validated definitions, in the
    order it meets them** — at any nesting depth (the nested tokenizer calls of block quotes and list
    items work on the same map). -/
theorem tokenize_refs (cfg : Cfg) : ∀ fuel : Nat, TokRefs cfg (tokenize cfg fuel) :=
  tokenize_keeps fun _ ih _ ht _ _ h => tokLoop_refs (fun r _ _ _ h => runRule_refs ih ht _ r h) _ _ _ _ h

/-! ### what follows for the map -/

theorem mem_insertFirst {m : Refs.RefMap} {k : List Nat} {e : Refs.Entry} {x : List Nat × Refs.Entry}
    (h : x ∈ Refs.insertFirst m k e) : x ∈ m ∨ x = (k, e) := by
  unfold Refs.insertFirst at h
  split at h
  · exact .inl h
  · rcases List.mem_append.mp h with h | h
    · exact .inl h
    · simp at h; exact .inr h

theorem mem_addDef {N : List Nat → List Nat} {m : Refs.RefMap} {d : Refs.Def}
    {x : List Nat × Refs.Entry} (h : x ∈ Refs.addDef N m d) :
    x ∈ m ∨ (x = (N (N d.label), d.entry) ∧ N d.label ≠ []) := by
  unfold Refs.addDef at h
  simp only at h
  split at h
  · exact .inl h
  · rename_i hne
    rcases mem_insertFirst h with h | h
    · exact .inl h
    · exact .inr ⟨h, by simpa using hne⟩

theorem mem_foldl_addDef {N : List Nat → List Nat} (defs : List Refs.Def) (m : Refs.RefMap)
    {x : List Nat × Refs.Entry} (h : x ∈ defs.foldl (Refs.addDef N) m) :
    x ∈ m ∨ ∃ d ∈ defs, x = (N (N d.label), d.entry) ∧ N d.label ≠ [] := by
  induction defs generalizing m with
  | nil => exact .inl h
  | cons d r ih =>
    rcases ih _ h with h | ⟨d', hd', hx⟩
    · rcases mem_addDef h with h | h
      · exact .inl h
      · exact .inr ⟨d, by simp, h⟩
    · exact .inr ⟨d', by simp [hd'], hx⟩

/-- an entry of the extended map is an old one or the entry of one of the definitions met -/
theorem Extends.entries {cfg : Cfg} {m m' : Refs.RefMap} (h : Extends cfg m m') {k : List Nat}
    {e : Refs.Entry} (hm : (k, e) ∈ m') :
    (k, e) ∈ m ∨ ∃ d, IsDef cfg d ∧ k = cfg.N (cfg.N d.label) ∧ e = d.entry ∧ cfg.N d.label ≠ [] := by
  obtain ⟨defs, hd, rfl⟩ := h
  rcases mem_foldl_addDef defs m hm with h | ⟨d, hdm, hx, hne⟩
  · exact .inl h
  · simp only [Prod.mk.injEq] at hx
    exact .inr ⟨d, hd d hdm, hx.1, hx.2, hne⟩

/-- **first definition wins, as an invariant**: once a key is present, its entry never changes -/
theorem Extends.get_stable {cfg : Cfg} {m m' : Refs.RefMap} (h : Extends cfg m m') {k : List Nat}
    {e : Refs.Entry} (hk : m.get k = some e) : m'.get k = some e := by
  obtain ⟨defs, _, rfl⟩ := h
  rw [Refs.get_foldl_addDef, hk]
  rfl

theorem Extends.good {cfg : Cfg} {m m' : Refs.RefMap} (h : Extends cfg m m')
    (hm : ∀ k e, (k, e) ∈ m → GoodDest e.dest) : ∀ k e, (k, e) ∈ m' → GoodDest e.dest := by
  intro k e hke
  rcases h.entries hke with h | ⟨d, hd, _, rfl, _⟩
  · exact hm k e h
  · exact hd.good

/-- C13: the reference rule pushes no node: when it runs in real mode —
    whether it accepts a definition or not — the children (and the kind) of the node under
    construction are what they were. -/
theorem reference_no_node {cfg : Cfg} {fuel : Nat} {s s' : BState} {b : Bool}
    (h : ruleAt cfg fuel .reference s false = .ok (b, s')) :
    s'.children = s.children ∧ s'.nodeKind = s.nodeKind := by
  simp only [ruleAt, runRule] at h
  have := reference_step (testRules_pure cfg fuel) h
  exact ⟨this.1, this.2.1⟩

/-- C13, first definition wins (invariant of the block tokenizer, nested containers included): a call
    of the tokenizer — at any depth — changes the map only by `Refs.addDef` steps for definitions
    the reference rule parsed, in the order it met them; hence a key that is present keeps its
    entry, and every entry is validated if the old ones were. -/
theorem refs_first_wins {cfg : Cfg} {fuel : Nat} {s s' : BState} (h : tokenize cfg fuel s = .ok s') :
    (∃ defs : List Refs.Def, (∀ d ∈ defs, IsDef cfg d) ∧ s'.refs = defs.foldl (Refs.addDef cfg.N) s.refs) ∧
    (∀ k e, s.refs.get k = some e → s'.refs.get k = some e) := by
  have := tokenize_refs cfg fuel s s' h
  exact ⟨this, fun k e hk => this.get_stable hk⟩

/-- the same for one rule of the chain, as the tokenizer calls it -/
theorem rule_first_wins {cfg : Cfg} {fuel : Nat} {r : RuleId} {s s' : BState} {b : Bool}
    (h : ruleAt cfg fuel r s false = .ok (b, s')) :
    ∀ k e, s.refs.get k = some e → s'.refs.get k = some e := by
  have := runRule_refs (tokenize_refs cfg fuel) (testRules_pure cfg fuel) _ r h
  exact fun k e hk => this.get_stable hk

/-- **The map `parseBlocks` returns** is `Refs.buildMap` — the fold "insert under the
    twice-normalised label if absent" from the EMPTY map — over the definitions the reference rule
    parsed, in the order the block pass met them (nested containers included). -/
theorem parseBlocks_refs {cfg : Cfg} {src : List Char} {root : BNode} {refs : Refs.RefMap}
    (h : parseBlocks cfg src = .ok (root, refs)) :
    ∃ defs : List Refs.Def, (∀ d ∈ defs, IsDef cfg d) ∧ refs = Refs.buildMap cfg.N defs := by
  obtain ⟨s, hs, -, rfl⟩ := parseBlocks_ok h
  exact tokenize_refs cfg _ _ _ hs

/-- **(i) of `doc_urls_safe`.**  Every destination in the reference map of a document is an output
    of `normalize_link` that `validate_link` accepted. -/
theorem parseBlocks_refs_good {cfg : Cfg} {src : List Char} {root : BNode} {refs : Refs.RefMap}
    (h : parseBlocks cfg src = .ok (root, refs)) : ∀ k e, (k, e) ∈ refs → GoodDest e.dest := by
  obtain ⟨defs, hd, rfl⟩ := parseBlocks_refs h
  exact Extends.good ⟨defs, hd, rfl⟩ (fun _ _ hm => by simp at hm)

end MdIt.Block

/-! # Part B: the document -/

namespace MdIt.Pipeline
open MdIt.NodeRender (aSourcepos aHref aSrc aAlt aTitle)

/-! ## a predicate on node VALUES through the three passes -/

section KindPred
variable (Q : Kind → Prop)

theorem ofInline_everyK (n : Inline.Node) (h : Inline.AllVals (fun v => Q (.inl v)) n) :
    Every (fun m => Q m.kind) (ofInline n) :=
  ofInline_every_of (fun _ _ _ hv _ => hv) n h

theorem spliceList_everyK {icfg : Inline.Cfg} (hb : ∀ b, Q (.blk b))
    (hg : Inline.GoodP icfg (fun v => Q (.inl v))) (cs : List Block.BNode) (out : List Node)
    (h : spliceList icfg cs = .ok out) : ∀ c ∈ out, Every (fun m => Q m.kind) c :=
  spliceList_every_of (B := fun _ => True) (fun _ _ _ _ _ => trivial)
    (fun _ _ _ ns _ _ hns => ofInlineList_every_of (fun _ _ _ hv _ => hv) ns (Inline.parseInline_vals _ hg hns))
    (fun _ _ _ _ _ _ => hb _) cs (fun _ _ => trivial) out (by rw [spliceListG_parseInline]; exact h)

theorem sourceposList_everyK {src : List Char} {marks : List SourceMap.Mark} (cs cs' : List Node)
    (he : ∀ c ∈ cs, Every (fun m => Q m.kind) c) (h : sourceposList src marks cs = .ok cs') :
    ∀ c ∈ cs', Every (fun m => Q m.kind) c :=
  sourceposList_every_of (fun _ hn => hn) he h

/-- **(iii): the passes behind the inline runs do not touch node values** (except that the join pass
    makes `Text`s).  A predicate on values that holds of every block value, of every `Text` and of
    whatever the configured inline rules create under the document's reference map (`Inline.GoodP`)
    holds at every node of the parsed tree. -/
theorem parseDoc_every_kind {cfg : DocCfg} {src : List Char} {t : Node} (h : parseDoc cfg src = .ok t)
    (hb : ∀ b, Q (.blk b)) (htext : ∀ c, Q (.inl (.text c)))
    (hg : ∀ root refs, Block.parseBlocks cfg.blockCfg src = .ok (root, refs) →
      Inline.GoodP (cfg.inlineCfg refs) (fun v => Q (.inl v))) :
    Every (fun m => Q m.kind) t := by
  obtain ⟨root, refs, t0, hbk, hs, hf⟩ := parseDoc_ok h
  have hcongr : ∀ a b : Node, a.kind = b.kind → a.range = b.range → Q a.kind → Q b.kind :=
    fun _ _ hk _ ha => hk ▸ ha
  refine passes_every (B := fun _ => True) hs hf (Block.parseBlocks_wf hbk).1 (fun _ _ _ _ _ => trivial) trivial
    (fun _ _ _ ns _ _ hns =>
      ofInlineList_every_of (fun _ _ _ hv _ => hv) ns (Inline.parseInline_vals _ (hg root refs hbk) hns))
    (fun _ _ _ _ _ _ => hb _) (fun _ => joinStable_of_kr hcongr ?_) (fun _ => attrBlind_of_kr hcongr)
  intro x hx
  unfold Node.isText at hx
  split at hx
  · next c heq => rw [heq]; exact htext c
  · cases hx

end KindPred

/-! ## C04 at document level: `doc_urls_safe` -/

/-- what is guaranteed of a url stored in a parsed tree -/
structure SafeUrl (u : List Nat) : Prop where
  /-- it is an output of `normalize_link` -/
  normalized : ∃ cs : List Char, u = Link.normalizeLink (Link.utf8 cs)
  /-- hence over the safe alphabet: every byte is visible ASCII, 33..126 — no control character, no
      blank, nothing a browser strips or decodes before it looks for the scheme -/
  visible : Link.Visible u
  /-- `validate_link` accepted it -/
  valid : Link.validateLink u = true
  /-- hence no browser treats it as `javascript:` / `vbscript:` / `file:` or as a `data:` url other
      than an image of type gif / png / jpeg / webp -/
  harmless : Link.dangerous u = false

theorem SafeUrl.of_good {u : List Nat} (h : Block.GoodDest u) : SafeUrl u := by
  obtain ⟨⟨cs, rfl⟩, hv⟩ := h
  have hvis := Link.normalized_alphabet_chars cs
  exact ⟨⟨cs, rfl⟩, hvis, hv, Link.validate_sound _ hvis hv⟩

/-- the url of a `Link` / `Image` / `Autolink` value -/
def Kind.url? : Kind → Option (List Nat)
  | .inl (.link u _) => some u
  | .inl (.image u _) => some u
  | .inl (.autolink u) => some u
  | _ => none

/-- **(ii)**: what an inline rule stores is the empty default, an accepted result of one of the two
    pipelines, or a destination of the reference map -/
theorem goodDest_of_fromPipeline {icfg : Inline.Cfg} {u : List Nat} (h : Inline.FromPipeline icfg u)
    (hrefs : ∀ m k e, icfg.refs = some m → (k, e) ∈ m → Block.GoodDest e.dest) :
    Block.GoodDest u := by
  rcases h with rfl | ⟨raw, hraw⟩ | ⟨b, url, hurl⟩ | ⟨m, k, e, hm, hmem, rfl⟩
  · exact ⟨⟨[], by decide +kernel⟩, by decide +kernel⟩
  · unfold Link.inlineDest at hraw
    simp only at hraw
    split at hraw
    · next hv => cases hraw; exact ⟨⟨_, rfl⟩, hv⟩
    · cases hraw
  · unfold Link.autolinkDest at hurl
    cases b <;> simp only [Bool.false_eq_true, if_false, if_true] at hurl <;> split at hurl
    · next hv => cases hurl; exact ⟨⟨_, rfl⟩, hv⟩
    · cases hurl
    · next hv => cases hurl; exact ⟨⟨_, rfl⟩, hv⟩
    · cases hurl
  · exact hrefs m k e hm hmem

theorem inlineCfg_refs {cfg : DocCfg} {refs m : Refs.RefMap} (h : (cfg.inlineCfg refs).refs = some m) :
    m = refs := by
  unfold DocCfg.inlineCfg at h
  simp only at h
  split at h
  · cases h
  · cases h; rfl

/-- the property of node values `doc_urls_safe` is about -/
def UrlSafeK (k : Kind) : Prop := ∀ u, k.url? = some u → SafeUrl u

theorem urlSafeK_good {cfg : DocCfg} {refs : Refs.RefMap}
    (hrefs : ∀ k e, (k, e) ∈ refs → Block.GoodDest e.dest) :
    Inline.GoodP (cfg.inlineCfg refs) (fun v => UrlSafeK (.inl v)) := by
  have key : ∀ u, Inline.FromPipeline (cfg.inlineCfg refs) u → SafeUrl u := fun u h =>
    .of_good (goodDest_of_fromPipeline h (fun m k e hm hke => by
      rw [inlineCfg_refs hm] at hke; exact hrefs k e hke))
  have triv : ∀ v : Inline.Val, Kind.url? (.inl v) = none → UrlSafeK (.inl v) := by
    intro v hv u hu; rw [hv] at hu; cases hu
  refine ⟨fun _ => triv _ rfl, fun _ _ _ => triv _ rfl, triv _ rfl, triv _ rfl, fun _ _ => triv _ rfl,
    ?_, ?_, ?_, fun _ _ _ _ _ _ _ => triv _ rfl, fun _ _ _ _ => triv _ rfl,
    fun _ _ _ _ _ _ _ => triv _ rfl⟩
  · intro b url u h u' hu'
    simp only [Kind.url?, Option.some.injEq] at hu'
    subst hu'
    exact key _ (Or.inr (Or.inr (Or.inl ⟨b, url, h⟩)))
  · intro href t h u' hu'
    simp only [Kind.url?, Option.some.injEq] at hu'
    subst hu'
    exact key _ (Inline.hrefOK_fromPipeline h)
  · intro href t h u' hu'
    simp only [Kind.url?, Option.some.injEq] at hu'
    subst hu'
    exact key _ (Inline.hrefOK_fromPipeline h)

/-- **`doc_urls_safe` (C04 for documents).**  For EVERY configuration of the model and EVERY source
    the parser accepts: every `Link`, `Image` and `Autolink` node ANYWHERE in the tree (`Every`: at
    any depth, inside block quotes, list items, emphasis, link texts, image descriptions) carries
    a url that is an output of `normalize_link`, lies over the visible-ASCII alphabet, was accepted
    by `validate_link`, and is therefore (`Link.validate_sound`) not a `javascript:` / `vbscript:` /
    `file:` url nor a `data:` url other than the four image types — whether it was written inline,
    as an autolink, or came from a reference definition anywhere in the document.
    (i) `Block.parseBlocks_refs_good`: the reference map holds validated destinations only (an
    invariant of the block tokenizer); (ii) `Inline.parseInline_vals` with `urlSafeK_good`: each
    inline run stores the empty default, a pipeline result or an entry of that map; (iii)
    `parseDoc_every_kind`: splice, join and sourcepos passes leave the values alone. -/
theorem doc_urls_safe (cfg : DocCfg) (src : List Char) (t : Node) (h : parseDoc cfg src = .ok t) :
    Every (fun n => ∀ u, n.kind.url? = some u → SafeUrl u) t :=
  parseDoc_every_kind UrlSafeK h (fun b u hu => by cases hu) (fun c u hu => by cases hu)
    (fun _ _ hb => urlSafeK_good (Block.parseBlocks_refs_good hb))

/-- the same, node by node -/
theorem doc_urls_safe' (cfg : DocCfg) (src : List Char) (t : Node) (h : parseDoc cfg src = .ok t)
    (n : Node) (hn : Within n t) :
    (∀ u title, n.kind = .inl (.link u title) → SafeUrl u) ∧
    (∀ u title, n.kind = .inl (.image u title) → SafeUrl u) ∧
    (∀ u, n.kind = .inl (.autolink u) → SafeUrl u) := by
  have := (doc_urls_safe cfg src t h).within hn
  refine ⟨fun u title hk => this u ?_, fun u title hk => this u ?_, fun u hk => this u ?_⟩ <;>
    rw [hk] <;> rfl

/-! ## C04 at document level: `doc_href_safe` -/

open MdIt.HtmlDecode (asChars browserDecode FourEntities)
open MdIt.Render (Event escapeHtml attrStr)

/-- on ASCII the general UTF-8 decoder of `toRender` is `map Char.ofNat` -/
theorem utf8Decode_ascii (u : List Nat) (hu : ∀ b ∈ u, b < 128) : utf8Decode u = asChars u := by
  unfold utf8Decode asChars
  induction u with
  | nil => rfl
  | cons b r ih =>
    have hb : b < 0x80 := hu b (by simp)
    simp only [utf8Go, List.map_cons, if_pos hb]
    rw [ih (fun c hc => hu c (by simp [hc]))]

theorem SafeUrl.decode {u : List Nat} (h : SafeUrl u) : utf8Decode u = asChars u :=
  utf8Decode_ascii u (fun b hb => by have := h.visible b hb; omega)

/-- the url a `Link` / `Image` / `Autolink` render value carries (a `String`) -/
def rurl? : NodeRender.Kind → Option (List Char)
  | .link u _ => some u
  | .image u _ => some u
  | .autolink u => some u
  | _ => none

/-- an attribute of a trait call: if it is `href` or `src`, its value is a safe url (as characters) -/
def UrlAttr (nv : List Char × List Char) : Prop :=
  (nv.1 = aHref ∨ nv.1 = aSrc) → ∃ u, SafeUrl u ∧ nv.2 = asChars u

def EvUrls : Event → Prop
  | .open _ attrs => ∀ nv ∈ attrs, UrlAttr nv
  | .selfClose _ attrs => ∀ nv ∈ attrs, UrlAttr nv
  | _ => True

theorem urlAttr_other {nv : List Char × List Char} (h1 : nv.1 ≠ aHref) (h2 : nv.1 ≠ aSrc) : UrlAttr nv := by
  intro h; rcases h with h | h
  · exact absurd h h1
  · exact absurd h h2

theorem urlAttrs_sp {attrs : List (List Char × List Char)} (ha : ∀ nv ∈ attrs, nv.1 = aSourcepos) :
    ∀ nv ∈ attrs, UrlAttr nv := by
  intro nv hnv
  refine urlAttr_other ?_ ?_ <;> rw [ha nv hnv] <;> decide

theorem urlAttrs_push {attrs : List (List Char × List Char)} (h : ∀ nv ∈ attrs, UrlAttr nv)
    {x : List Char × List Char} (hx : UrlAttr x) : ∀ nv ∈ attrs ++ [x], UrlAttr nv := by
  intro nv hnv
  rcases List.mem_append.mp hnv with h' | h'
  · exact h nv h'
  · simp only [List.mem_singleton] at h'; subst h'; exact hx

theorem urlAttrs_pushTitle {attrs : List (List Char × List Char)} (h : ∀ nv ∈ attrs, UrlAttr nv)
    (title : Option (List Char)) : ∀ nv ∈ NodeRender.pushTitle attrs title, UrlAttr nv := by
  cases title with
  | none => exact h
  | some t =>
    exact urlAttrs_push h (urlAttr_other (show aTitle ≠ aHref by decide) (show aTitle ≠ aSrc by decide))

theorem urlAttr_url (n : List Char) {u : List Nat} (hs : SafeUrl u) : UrlAttr (n, asChars u) :=
  fun _ => ⟨u, hs, rfl⟩

open MdIt.NodeRender in
theorem frameT_urls (lookup : List Char → Option (List Char)) (k : NodeRender.Kind)
    (attrs : List (List Char × List Char)) (alt : List Char)
    (ha : ∀ nv ∈ attrs, nv.1 = aSourcepos)
    (hu : ∀ url, rurl? k = some url → ∃ u, SafeUrl u ∧ url = asChars u) :
    ∀ e ∈ (frameT lookup k attrs alt).1 ++ (frameT lookup k attrs alt).2, EvUrls e := by
  have sp := urlAttrs_sp ha
  have hno : ∀ nv ∈ ([] : List (List Char × List Char)), UrlAttr nv := by simp
  have hother : ∀ n v, n ≠ aHref → n ≠ aSrc → UrlAttr (n, v) := fun n v h1 h2 => urlAttr_other h1 h2
  cases k
  case link url title =>
    obtain ⟨u, hs, rfl⟩ := hu url rfl
    simp only [frameT, List.cons_append, List.nil_append]
    refine all_cons ?_ (all_cons trivial all_nil)
    exact urlAttrs_pushTitle (urlAttrs_push sp (urlAttr_url _ hs)) _
  case image url title =>
    obtain ⟨u, hs, rfl⟩ := hu url rfl
    simp only [frameT, List.append_nil]
    refine all_cons ?_ all_nil
    exact urlAttrs_pushTitle
      (urlAttrs_push (urlAttrs_push sp (urlAttr_url _ hs)) (hother _ _ (by decide) (by decide))) _
  case autolink url =>
    obtain ⟨u, hs, rfl⟩ := hu url rfl
    simp only [frameT, List.cons_append, List.nil_append]
    refine all_cons ?_ (all_cons trivial all_nil)
    exact urlAttrs_push sp (urlAttr_url _ hs)
  case codeFence info content lp =>
    simp only [frameT, List.append_nil]
    repeat' (first | exact all_nil | refine all_cons ?_ ?_)
    all_goals first
      | exact trivial
      | exact hno
      | (unfold fenceAttrsT; split
         · exact sp
         · exact urlAttrs_push sp (hother _ _ (by decide) (by decide)))
  case orderedList start =>
    simp only [frameT, List.cons_append, List.nil_append]
    repeat' (first | exact all_nil | refine all_cons ?_ ?_)
    all_goals first
      | exact trivial
      | (unfold olAttrs; split
         · exact urlAttrs_push sp (hother _ _ (by decide) (by decide))
         · exact sp)
  all_goals simp only [frameT, List.cons_append, List.nil_append, List.append_nil]
  all_goals repeat' (first | exact all_nil | refine all_cons ?_ ?_)
  all_goals first
    | exact trivial
    | exact sp
    | exact hno

/-- what the browser makes of an `href` / `src` attribute the renderer wrote for a safe url -/
theorem safeUrl_attr {u : List Nat} (hs : SafeUrl u) (name : List Char) :
    attrStr (name, asChars u) =
      ' ' :: (escapeHtml name ++ ('=' :: '"' :: (escapeHtml (asChars u) ++ ['"']))) ∧
    '"' ∉ escapeHtml (asChars u) ∧
    ∀ named, FourEntities named →
      browserDecode named (escapeHtml (asChars u)) = asChars u ∧
      Link.utf8 (browserDecode named (escapeHtml (asChars u))) = u ∧
      Link.dangerous (Link.utf8 (browserDecode named (escapeHtml (asChars u)))) = false := by
  refine ⟨rfl, fun hm => ((Render.escape_sound (asChars u)).2.1 _ hm).2.2 rfl, fun named h => ?_⟩
  exact HtmlDecode.browser_sees_validated_url h u hs.visible hs.valid

theorem doc_render_nodes {cfg : DocCfg} {src : List Char} {t : Node} (h : parseDoc cfg src = .ok t) :
    ∀ m ∈ NodeRender.nodes (toRender cfg.langPrefix t),
      (∀ nv ∈ m.attrs, nv.1 = aSourcepos) ∧
      (∀ url, rurl? m.kind = some url → ∃ u, SafeUrl u ∧ url = asChars u) := by
  intro m hm
  obtain ⟨n, hw, rfl⟩ := toRender_nodes_within _ t m hm
  have hfin := ((parseDoc_final h).1.within hw).1
  have hsafe := (doc_urls_safe cfg src t h).within hw
  rw [toRender_eq]
  refine ⟨hfin, ?_⟩
  intro url hurl
  simp only at hurl
  cases hk : n.kind with
  | blk b => rw [hk] at hurl; cases b <;> simp [Kind.toRender, rurl?] at hurl
  | inl v =>
    rw [hk] at hurl hsafe
    cases v with
    | wrap w mk => cases w <;> simp [Kind.toRender, rurl?] at hurl
    | _ =>
      first
      | simp [Kind.toRender, rurl?] at hurl; done
      | (simp only [Kind.toRender, rurl?, Option.some.injEq] at hurl
         have hs := hsafe _ rfl
         exact ⟨_, hs, by rw [← hurl, hs.decode]⟩)

/-- every trait call of the rendering writes, for `href` and `src`, a `SafeUrl` of the tree -/
theorem doc_evUrls {cfg : DocCfg} {src : List Char} {t : Node} (h : parseDoc cfg src = .ok t)
    {evs : List Event} (he : NodeRender.render cfg.entity (toRender cfg.langPrefix t) = .ok evs) :
    ∀ e ∈ evs, EvUrls e :=
  NodeRender.render_all cfg.entity (Q := fun m => (∀ nv ∈ m.attrs, nv.1 = aSourcepos) ∧
      (∀ url, rurl? m.kind = some url → ∃ u, SafeUrl u ∧ url = asChars u))
    (fun n hq => frameT_urls cfg.entity n.kind n.attrs (NodeRender.imageAlt n.children) hq.1 hq.2)
    (toRender cfg.langPrefix t)
    (fun m hm => doc_render_nodes h m (NodeRender.visited_subset_nodes _ m hm)) evs he

/-- **`doc_href_safe` (C04 for documents, the output side).**  For every configuration and every
    source the parser accepts, rendering succeeds (`doc_render_total`) and in the sequence of trait
    calls the rendering issues — of which the returned HTML / XHTML string is the serialisation,
    one piece per call (`Render.serialize_events`) — EVERY `href` and EVERY `src` attribute, of any
    element, has as its value a `SafeUrl` `u` of the tree, as characters.  The serializer writes it as
    ` href="escape_html(u)"` (`Render.attrStr`), the written value contains no `"`, and a browser that
    decodes every character reference in it (`HtmlDecode.browserDecode`, any entity table with the
    four names) gets `u` back byte for byte — which is not dangerous
    (`HtmlDecode.browser_sees_validated_url`). -/
theorem doc_href_safe (cfg : DocCfg) (src : List Char) (t : Node) (h : parseDoc cfg src = .ok t) :
    ∃ evs, renderEvents cfg t = .ok evs ∧ (∀ x, renderDoc x cfg src = .ok (Render.serialize x evs)) ∧
      ∀ e ∈ evs, ∀ tag attrs, (e = .open tag attrs ∨ e = .selfClose tag attrs) →
        ∀ nv ∈ attrs, (nv.1 = aHref ∨ nv.1 = aSrc) →
          ∃ u, SafeUrl u ∧ nv.2 = asChars u ∧
            attrStr nv = ' ' :: (nv.1 ++ ('=' :: '"' :: (escapeHtml (asChars u) ++ ['"']))) ∧
            '"' ∉ escapeHtml (asChars u) ∧
            ∀ named, FourEntities named →
              browserDecode named (escapeHtml (asChars u)) = asChars u ∧
              Link.utf8 (browserDecode named (escapeHtml (asChars u))) = u ∧
              Link.dangerous (Link.utf8 (browserDecode named (escapeHtml (asChars u)))) = false := by
  obtain ⟨evs, he, hev, hx⟩ := doc_render_total cfg src t h
  refine ⟨evs, hev, hx, ?_⟩
  intro e he0 tag attrs hshape nv hnv hname
  have hE := doc_evUrls h he e he0
  have hattr : UrlAttr nv := by
    rcases hshape with rfl | rfl
    · exact hE nv hnv
    · exact hE nv hnv
  obtain ⟨u, hs, hval⟩ := hattr hname
  have hesc : escapeHtml nv.1 = nv.1 := by
    rcases hname with e | e <;> rw [e] <;> decide
  obtain ⟨h1, h2, h3⟩ := safeUrl_attr hs nv.1
  refine ⟨u, hs, hval, ?_, h2, h3⟩
  have : nv = (nv.1, asChars u) := by rw [← hval]
  rw [this, h1, hesc]

/-! ### the same on the returned string -/

theorem ascii_ne_nul : ∀ b < 127, 32 < b → Char.ofNat b ≠ '\x00' := by decide +kernel

theorem nulStr_asChars {u : List Nat} (hu : Link.Visible u) : Render.nulStr (asChars u) = asChars u := by
  unfold Render.nulStr asChars
  rw [List.map_map]
  apply List.map_congr_left
  intro b hb
  have := hu b hb
  simp [Render.nulChar, ascii_ne_nul b this.2 this.1]

theorem attrsStr_mem {attrs : List (List Char × List Char)} {nv : List Char × List Char}
    (h : nv ∈ attrs) : ∃ pre post, Render.attrsStr attrs = pre ++ attrStr nv ++ post := by
  induction attrs with
  | nil => simp at h
  | cons a r ih =>
    rcases List.mem_cons.mp h with rfl | h
    · exact ⟨[], Render.attrsStr r, by simp [Render.attrsStr]⟩
    · obtain ⟨pre, post, e⟩ := ih h
      exact ⟨attrStr a ++ pre, post, by simp [Render.attrsStr, e]⟩

/-- the NUL replacement of the final `String` conversion leaves a safe `href` / `src` attribute alone -/
theorem evUrls_nul {e : Event} (h : EvUrls e) : EvUrls (Render.nulEvent e) := by
  have key : ∀ attrs : List (List Char × List Char), (∀ nv ∈ attrs, UrlAttr nv) →
      ∀ nv ∈ Render.nulAttrs attrs, UrlAttr nv := by
    intro attrs ha nv hnv
    unfold Render.nulAttrs at hnv
    obtain ⟨nv0, h0, rfl⟩ := List.mem_map.mp hnv
    intro hname
    simp only at hname
    by_cases h1 : nv0.1 = aHref ∨ nv0.1 = aSrc
    · obtain ⟨u, hs, hv⟩ := ha nv0 h0 h1
      exact ⟨u, hs, by simp only; rw [hv, nulStr_asChars hs.visible]⟩
    · -- a name that BECOMES `href` / `src` by the replacement: impossible (neither contains U+FFFD)
      exfalso
      apply h1
      have hn : ∀ (s t : List Char), '\uFFFD' ∉ t → '\x00' ∉ t → Render.nulStr s = t → s = t := by
        intro s
        induction s with
        | nil => intro t _ _ h; exact h
        | cons c r ih =>
          intro t h1 h2 h
          cases t with
          | nil => simp [Render.nulStr] at h
          | cons d t' =>
            simp only [Render.nulStr, List.map_cons, List.cons.injEq] at h
            have hd1 : d ≠ '\uFFFD' := fun e => h1 (by simp [e])
            have hd2 : d ≠ '\x00' := fun e => h2 (by simp [e])
            have hc : c = d := by
              have := h.1
              unfold Render.nulChar at this
              split at this
              · exact absurd this.symm hd1
              · exact this
            rw [hc, ih t' (fun hm => h1 (List.mem_cons_of_mem _ hm))
              (fun hm => h2 (List.mem_cons_of_mem _ hm)) h.2]
      rcases hname with hname | hname
      · exact .inl (hn _ _ (by decide) (by decide) hname)
      · exact .inr (hn _ _ (by decide) (by decide) hname)
  cases e with
  | «open» t a => exact key a h
  | selfClose t a => exact key a h
  | _ => trivial

section TagPieces
open MdIt.Render (EventOK nulEvent serialize pieces flatten attrsStr)
open MdIt.NodeRender (shippedVocab shippedTags attrsFor)

/-- the calls of a parsed document: over the shipped vocabulary, and every `href` / `src` safe -/
theorem doc_events (cfg : DocCfg) (src : List Char) (t : Node) (h : parseDoc cfg src = .ok t) :
    ∃ evs, renderEvents cfg t = .ok evs ∧ (∀ x, renderDoc x cfg src = .ok (serialize x evs)) ∧
      (∀ e ∈ evs, EventOK shippedVocab e) ∧ (∀ e ∈ evs, EvUrls e) := by
  obtain ⟨evs, he, hev, hx⟩ := doc_render_total cfg src t h
  obtain ⟨_, hf, ha⟩ := final_hyps cfg.langPrefix t (parseDoc_final h).1
  exact ⟨evs, hev, hx, NodeRender.render_vocab cfg.entity _ hf ha evs he, doc_evUrls h he⟩

/-- … and the same for the calls with U+0000 ↦ U+FFFD in the payloads, of which the returned string
    is the plain concatenation -/
theorem doc_events_nul (cfg : DocCfg) (src : List Char) (t : Node) (h : parseDoc cfg src = .ok t) :
    ∃ evs, renderEvents cfg t = .ok evs ∧ (∀ x, renderDoc x cfg src = .ok (serialize x evs)) ∧
      (∀ e ∈ evs, EventOK shippedVocab e) ∧
      (∀ e ∈ evs.map nulEvent, EventOK shippedVocab e) ∧ (∀ e ∈ evs.map nulEvent, EvUrls e) := by
  obtain ⟨evs, hev, hx, hv, hu⟩ := doc_events cfg src t h
  refine ⟨evs, hev, hx, hv, ?_, ?_⟩
  · intro e he
    obtain ⟨e', he', rfl⟩ := List.mem_map.mp he
    exact Render.nulEvent_ok _ e' (hv e' he')
  · intro e he
    obtain ⟨e', he', rfl⟩ := List.mem_map.mp he
    exact evUrls_nul (hu e' he')

theorem nulStr_no_nul (s : List Char) : '\x00' ∉ Render.nulStr s := by
  intro h
  obtain ⟨c, _, hc⟩ := List.mem_map.mp h
  unfold Render.nulChar at hc
  split at hc
  · exact absurd hc (by decide)
  · exact absurd hc ‹_›

/-- the frame of `doc_href_output` and of `doc_attrs_exact`, `doc_href_occurrences` (`Props/HrefConverse.lean`): the
    returned string is the concatenation of one piece per call of `evs'`; the piece of an `open` / `self_close` call
    is `<tag` ++ `make_attrs` of ITS attributes ++ `>` (` />`), the element is a shipped one, the names are that
    element's literals, `href` / `src` values are safe urls, no value holds U+0000 -/
theorem doc_tag_pieces (x : Bool) (cfg : DocCfg) (src : List Char) (out : List Char)
    (h : renderDoc x cfg src = .ok out) :
    ∃ evs' : List Event, out = flatten (pieces x evs') ∧
      ∃ hlen : (pieces x evs').length = evs'.length,
      ∀ (i : Nat) (hi : i < evs'.length) (tag : List Char) (attrs : List (List Char × List Char)),
        (evs'[i] = .open tag attrs ∨ evs'[i] = .selfClose tag attrs) →
        ∃ close, (close = ['>'] ∨ close = [' ', '/', '>']) ∧
          (pieces x evs')[i]'(by rw [hlen]; exact hi) = '<' :: (tag ++ (attrsStr attrs ++ close)) ∧
          tag ∈ shippedTags ∧ (∀ nv ∈ attrs, nv.1 ∈ attrsFor tag) ∧
          (∀ nv ∈ attrs, UrlAttr nv) ∧ (∀ nv ∈ attrs, '\x00' ∉ nv.2) := by
  cases hp : parseDoc cfg src with
  | error e => simp [renderDoc, hp] at h
  | ok t =>
    obtain ⟨evs, _, hx, _, hvn, hun⟩ := doc_events_nul cfg src t hp
    rw [hx x] at h
    cases h
    refine ⟨evs.map nulEvent, ?_, Render.pieces_length _ _, ?_⟩
    · rw [Render.serialize_nul_payload, Render.serializeRaw_events]
    · intro i hi tag attrs hshape
      have hmem : (evs.map nulEvent)[i] ∈ evs.map nulEvent := List.getElem_mem hi
      have hok := hvn _ hmem
      have hurl := hun _ hmem
      have hpiece := Render.pieces_getElem x (evs.map nulEvent) i hi
      have hnul : ∀ nv ∈ attrs, '\x00' ∉ nv.2 := by
        obtain ⟨e0, _, he0⟩ := List.mem_map.mp hmem
        have key : ∀ a0 : List (List Char × List Char), ∀ nv ∈ Render.nulAttrs a0, '\x00' ∉ nv.2 := by
          intro a0 nv hnv
          obtain ⟨nv0, _, rfl⟩ := List.mem_map.mp hnv
          exact nulStr_no_nul _
        rcases hshape with e | e <;> rw [e] at he0 <;> cases e0 <;>
          simp only [Render.nulEvent, Event.open.injEq, Event.selfClose.injEq, reduceCtorEq] at he0
        all_goals (obtain ⟨_, rfl⟩ := he0; exact key _)
      rcases hshape with e | e
      · rw [e] at hok hurl
        refine ⟨['>'], .inl rfl, by rw [hpiece, e]; rfl, hok.1, fun nv hnv => (hok.2 nv hnv).2,
          hurl, hnul⟩
      · rw [e] at hok hurl
        refine ⟨(if x then [' ', '/'] else []) ++ ['>'], ?_, by rw [hpiece, e]; rfl, hok.1,
          fun nv hnv => (hok.2 nv hnv).2, hurl, hnul⟩
        cases x
        · exact .inl rfl
        · exact .inr rfl

end TagPieces

/-- **`doc_href_output`: C04 on the returned string.**  Whatever `renderDoc` returns (HTML or XHTML)
    is the concatenation of one piece per trait call of a sequence `evs'` (the rendering's calls
    with U+0000 → U+FFFD in the payloads: `Render.serialize_nul_payload`); the piece of every `open`
    / `self_close` call is `<tag` ++ attributes ++ `>` (` />`), and every `href` / `src` attribute
    among them is written ` href="escape_html(u)"` for a `SafeUrl` `u`.  (That `<`, `>`, `"` occur in
    the string ONLY at these structural places is `doc_safe_output`.) -/
theorem doc_href_output (x : Bool) (cfg : DocCfg) (src : List Char) (out : List Char)
    (h : renderDoc x cfg src = .ok out) :
    ∃ evs' : List Event, out = Render.flatten (Render.pieces x evs') ∧
      ∃ hlen : (Render.pieces x evs').length = evs'.length,
      ∀ (i : Nat) (hi : i < evs'.length) (tag : List Char) (attrs : List (List Char × List Char)),
        (evs'[i] = .open tag attrs ∨ evs'[i] = .selfClose tag attrs) →
        ∃ close, (Render.pieces x evs')[i]'(by rw [hlen]; exact hi) =
            '<' :: (tag ++ (Render.attrsStr attrs ++ close)) ∧
          ∀ nv ∈ attrs, (nv.1 = aHref ∨ nv.1 = aSrc) →
            ∃ u pre post, SafeUrl u ∧
              Render.attrsStr attrs =
                pre ++ (' ' :: (nv.1 ++ ('=' :: '"' :: (escapeHtml (asChars u) ++ ['"'])))) ++ post := by
  obtain ⟨evs', ho, hlen, hall⟩ := doc_tag_pieces x cfg src out h
  refine ⟨evs', ho, hlen, fun i hi tag attrs hshape => ?_⟩
  obtain ⟨close, _, hc, _, _, hattrs, _⟩ := hall i hi tag attrs hshape
  refine ⟨close, hc, fun nv hnv hname => ?_⟩
  obtain ⟨u, hs, hv⟩ := hattrs nv hnv hname
  obtain ⟨pre, post, e⟩ := attrsStr_mem hnv
  have hesc : escapeHtml nv.1 = nv.1 := by rcases hname with e | e <;> rw [e] <;> decide
  refine ⟨u, pre, post, hs, ?_⟩
  rw [e]
  have : nv = (nv.1, asChars u) := by rw [← hv]
  rw [this, (safeUrl_attr hs nv.1).1, hesc]

/-! ## C13 at document level: `doc_reference_position_irrelevant` -/

/-- one inline run as a total function (`[]` where the run panics: then `parseDoc` has no result) -/
def inlineRun (icfg : Inline.Cfg) (content : List Char) (mapping : List (Nat × Nat)) : List Node :=
  match Inline.parseInline icfg content mapping with
  | .ok ns => ofInlineList ns
  | .error _ => []

mutual
/-- the block tree with every `InlineRoot`, at any depth, replaced by `f content mapping` -/
def spliceWith (f : List Char → List (Nat × Nat) → List Node) : Block.BNode → Node
  | ⟨k, r, cs⟩ => ⟨.blk k, r, [], spliceWithList f cs⟩
termination_by structural b => b
def spliceWithList (f : List Char → List (Nat × Nat) → List Node) : List Block.BNode → List Node
  | [] => []
  | c :: rest =>
    match c.kind with
    | .inlineRoot content mapping => f content mapping ++ spliceWithList f rest
    | _ => spliceWith f c :: spliceWithList f rest
termination_by structural l => l
end

mutual
/-- the `(content, mapping)` of every `InlineRoot` below the node, in document order -/
def inlineRoots : Block.BNode → List (List Char × List (Nat × Nat))
  | ⟨_, _, cs⟩ => inlineRootsList cs
termination_by structural b => b
def inlineRootsList : List Block.BNode → List (List Char × List (Nat × Nat))
  | [] => []
  | c :: rest =>
    match c.kind with
    | .inlineRoot content mapping => (content, mapping) :: inlineRootsList rest
    | _ => inlineRoots c ++ inlineRootsList rest
termination_by structural l => l
end

mutual
/-- the splice walk is a function of the block tree and ONE inline configuration: every
    placeholder, wherever it sits, is replaced by the result of `Inline.parseInline icfg` — and
    every one of these runs succeeded -/
theorem spliceNode_spec {icfg : Inline.Cfg} (b : Block.BNode) (t : Node)
    (h : spliceNode icfg b = .ok t) :
    t = spliceWith (inlineRun icfg) b ∧
    ∀ cm ∈ inlineRoots b, ∃ ns, Inline.parseInline icfg cm.1 cm.2 = .ok ns := by
  match b with
  | ⟨k, r, cs⟩ =>
    rw [← spliceNodeG_parseInline] at h
    obtain ⟨cs', hcs, rfl⟩ := spliceNodeG_ok h
    rw [spliceListG_parseInline] at hcs
    obtain ⟨h1, h2⟩ := spliceList_spec cs cs' hcs
    simp only [spliceWith, inlineRoots]
    exact ⟨by rw [h1], h2⟩
theorem spliceList_spec {icfg : Inline.Cfg} (cs : List Block.BNode) (out : List Node)
    (h : spliceList icfg cs = .ok out) :
    out = spliceWithList (inlineRun icfg) cs ∧
    ∀ cm ∈ inlineRootsList cs, ∃ ns, Inline.parseInline icfg cm.1 cm.2 = .ok ns := by
  match cs with
  | [] => simp [spliceList] at h; subst h; simp [spliceWithList, inlineRootsList]
  | c :: rest =>
    rw [← spliceListG_parseInline] at h
    obtain ⟨rest', hr, hc⟩ := spliceListG_cons_ok h
    rw [spliceListG_parseInline] at hr
    obtain ⟨h1, h2⟩ := spliceList_spec rest rest' hr
    rcases hc with ⟨content, mapping, ns, hk, hns, rfl⟩ | ⟨hne, c', hc, rfl⟩
    · simp only [spliceWithList, inlineRootsList, hk]
      refine ⟨by rw [h1, inlineRun, hns], ?_⟩
      intro cm hcm
      rcases List.mem_cons.mp hcm with rfl | hcm
      · exact ⟨ns, hns⟩
      · exact h2 cm hcm
    · rw [spliceNodeG_parseInline] at hc
      obtain ⟨h3, h4⟩ := spliceNode_spec c c' hc
      have e1 : spliceWithList (inlineRun icfg) (c :: rest) =
          spliceWith (inlineRun icfg) c :: spliceWithList (inlineRun icfg) rest := by
        rw [spliceWithList]
        split
        · rename_i content mapping hk; exact absurd ⟨content, mapping, hk⟩ hne
        · rfl
      have e2 : inlineRootsList (c :: rest) = inlineRoots c ++ inlineRootsList rest := by
        rw [inlineRootsList]
        split
        · rename_i content mapping hk; exact absurd ⟨content, mapping, hk⟩ hne
        · rfl
      rw [e1, e2]
      refine ⟨by rw [h1, h3], ?_⟩
      intro cm hcm
      rcases List.mem_append.mp hcm with hcm | hcm
      · exact h4 cm hcm
      · exact h2 cm hcm
end

/-- the passes behind the splice walk, as a function of the configuration: `finish cfg.hasJoin cfg.sourcepos`
    (`postPasses_eq`, by definition) — what is proved about `finish` (`Lemmas/DocPasses.lean`) is proved about it -/
def postPasses (cfg : DocCfg) (src : List Char) (t0 : Node) : Except Panic Node :=
  let t := if cfg.hasJoin then joinNode t0 else t0
  if cfg.sourcepos then sourceposNode src (SourceMap.mkMarks src) t else .ok t

theorem postPasses_eq (cfg : DocCfg) (src : List Char) (t0 : Node) :
    postPasses cfg src t0 = finish cfg.hasJoin cfg.sourcepos src t0 := rfl

/-- **`doc_reference_position_irrelevant` (C13 for documents).**  For every parsed document there
    are the block tree `root`, the FINAL reference map `refs` of the block pass and the list `defs`
    of ALL definitions the reference rule parsed, in the order the block pass met them (nested
    containers included), such that
    * `refs = Refs.buildMap N defs`: the fold "insert under the normalised label if absent" from the
      empty map (`Block.parseBlocks_refs`) — definitions leave nothing else behind
      (`Block.reference_no_node`);
    * the inline configuration `icfg = cfg.inlineCfg refs` is ONE value, built from that final map,
      and EVERY `InlineRoot` of the document — at any depth, before or after any definition — is
      parsed under it: each of these runs succeeded and the tree is the block tree with each
      placeholder replaced by the result of `Inline.parseInline icfg` (`spliceWith`), followed by
      the join / sourcepos passes;
    * under `icfg` a reference use with label `l` (`Inline.parseLinkRef`: `Refs.lookup icfg.normRef`
      in `icfg.refs`, nothing if the map is absent) resolves to the entry of the FIRST definition of
      the whole document whose stored key is `N l`, and to nothing if there is none
      (`Refs.first_wins_raw`) — the position of the use relative to the definition does not occur. -/
theorem doc_reference_position_irrelevant (cfg : DocCfg) (src : List Char) (t : Node)
    (h : parseDoc cfg src = .ok t) :
    ∃ (root : Block.BNode) (refs : Refs.RefMap) (defs : List Refs.Def) (icfg : Inline.Cfg),
      Block.parseBlocks cfg.blockCfg src = .ok (root, refs) ∧
      (∀ d ∈ defs, Block.IsDef cfg.blockCfg d) ∧ refs = Refs.buildMap cfg.blockCfg.N defs ∧
      icfg = cfg.inlineCfg refs ∧
      (∀ cm ∈ inlineRoots root, ∃ ns, Inline.parseInline icfg cm.1 cm.2 = .ok ns) ∧
      postPasses cfg src (spliceWith (inlineRun icfg) root) = .ok t ∧
      ∀ label : List Nat,
        (match icfg.refs with
         | none => none
         | some m => Refs.lookup icfg.normRef m label) =
        (defs.find? (Refs.defHasKey cfg.blockCfg.N (cfg.blockCfg.N label))).map (·.entry) := by
  obtain ⟨root, refs, t0, hb, hs, hf⟩ := parseDoc_ok h
  obtain ⟨defs, hd, hrefs⟩ := Block.parseBlocks_refs hb
  rw [spliceNodeG_parseInline] at hs
  obtain ⟨h1, h2⟩ := spliceNode_spec root t0 hs
  refine ⟨root, refs, defs, cfg.inlineCfg refs, hb, hd, hrefs, rfl, h2, by rw [← h1]; exact hf, ?_⟩
  intro label
  have hfw := Refs.first_wins_raw cfg.blockCfg.N defs label
  rw [← hrefs] at hfw
  rw [← hfw]
  show (match (if refs.isEmpty then none else some refs) with
        | none => none
        | some m => Refs.lookup (Refs.normalize cfg.L cfg.U) m label) = _
  split
  · rename_i hnone
    split at hnone
    · rename_i he
      have : refs = [] := by simpa using he
      rw [this]; rfl
    · cases hnone
  · rename_i m hsome
    split at hsome
    · cases hsome
    · cases hsome; rfl

/-- with an idempotent label normalisation (`Refs.normalize_idem`: any case tables closed under
    `Refs.Closure`, in particular the generated Unicode tables, `Refs.table_normalize_idem`) the
    stored key is the normal form itself: a use resolves to the first definition of the document
    whose label has the same non-empty normal form -/
theorem doc_reference_first_match (cfg : DocCfg)
    (hN : ∀ s, cfg.blockCfg.N (cfg.blockCfg.N s) = cfg.blockCfg.N s) (defs : List Refs.Def)
    (label : List Nat) :
    (defs.find? (Refs.defHasKey cfg.blockCfg.N (cfg.blockCfg.N label))).map (·.entry) =
      (defs.find? (Refs.labelMatches cfg.blockCfg.N label)).map (·.entry) := by
  rw [← Refs.first_wins_raw, Refs.first_wins _ hN]

/-- **C13 for documents with the real Unicode case tables** (`Refs.Lt` / `Refs.Ut`, the generated
    tables of `char::to_lowercase` / `to_uppercase`): every reference use of the document — before
    or after the definition, in whatever container — resolves to the entry of the FIRST definition
    of the document whose label has the same non-empty normal form, and to nothing if there is
    none. -/
theorem doc_reference_real_tables (cfg : DocCfg) (hL : cfg.L = Refs.Lt) (hU : cfg.U = Refs.Ut)
    (src : List Char) (t : Node) (h : parseDoc cfg src = .ok t) :
    ∃ (root : Block.BNode) (refs : Refs.RefMap) (defs : List Refs.Def),
      Block.parseBlocks cfg.blockCfg src = .ok (root, refs) ∧
      (∀ d ∈ defs, Block.IsDef cfg.blockCfg d) ∧
      ∀ label : List Nat,
        (match (cfg.inlineCfg refs).refs with
         | none => none
         | some m => Refs.lookup (cfg.inlineCfg refs).normRef m label) =
        (defs.find? (Refs.labelMatches Refs.Nt label)).map (·.entry) := by
  obtain ⟨root, refs, defs, icfg, hb, hd, _, rfl, _, _, hl⟩ :=
    doc_reference_position_irrelevant cfg src t h
  refine ⟨root, refs, defs, hb, hd, fun label => ?_⟩
  have hN : cfg.blockCfg.N = Refs.Nt := by
    show Refs.normalize cfg.L cfg.U = Refs.normalize Refs.Lt Refs.Ut
    rw [hL, hU]
  rw [hl label, doc_reference_first_match cfg (by rw [hN]; exact Refs.table_normalize_idem) defs label, hN]

/-! ## C18 at document level: `doc_image_alt` -/

/-- what a node value contributes to the alt text of an image it sits in: `Text` and `TextSpecial`
    their content, both breaks a line feed, everything else nothing of its own -/
def Kind.ownAlt : Kind → List Char
  | .inl (.text c) => c
  | .inl (.special c _ _) => c
  | .inl .softbreak => ['\n']
  | .inl .hardbreak => ['\n']
  | _ => []

mutual
/-- what a subtree of the document displays as plain text -/
def docAlt : Node → List Char
  | ⟨k, _, _, cs⟩ => k.ownAlt ++ docAltList cs
termination_by structural n => n
def docAltList : List Node → List Char
  | [] => []
  | c :: cs => docAlt c ++ docAltList cs
termination_by structural l => l
end

theorem ownAlt_toRender (lp : List Char) (k : Kind) : NodeRender.ownAlt (k.toRender lp) = k.ownAlt := by
  cases k with
  | blk b => cases b <;> rfl
  | inl v =>
    cases v with
    | wrap w m => cases w <;> rfl
    | _ => rfl

mutual
theorem altText_toRender (lp : List Char) (n : Node) : NodeRender.altText (toRender lp n) = docAlt n := by
  match n with
  | ⟨k, r, a, cs⟩ =>
    simp only [toRender, NodeRender.altText, docAlt, ownAlt_toRender, altTextList_toRender lp cs]
theorem altTextList_toRender (lp : List Char) (cs : List Node) :
    NodeRender.altTextList (toRenderList lp cs) = docAltList cs := by
  match cs with
  | [] => simp only [toRenderList, NodeRender.altTextList, docAltList]
  | c :: r =>
    simp only [toRenderList, NodeRender.altTextList, docAltList, altText_toRender lp c,
      altTextList_toRender lp r]
end

open MdIt.NodeRender (tImg imageAttrs) in
/-- **`doc_image_alt` (C18 for documents).**  For every `Image` node ANYWHERE in a parsed tree (also
    one nested in another image's description or in a link text): its `render` issues exactly one
    trait call, `self_close("img", attrs)`, whose attribute list is the node's own attributes, then
    `src` (the safe url), then `alt`, then the title; the `alt` value is what the render model
    assembles by the walk of `Image::render` (`NodeRender.imageAlt`) on the projected children,
    which IS the Alt model on the converted children — `Alt.altOf (toInlList ..)` by definition,
    `= Alt.display (toInlList ..)` by `Alt.alt_is_display` (C18) — and equals `docAltList`, the plain
    text the description displays, computed directly on the document tree: every `Text` and
    `TextSpecial` content and one line feed per break, in document order, at any depth. -/
theorem doc_image_alt (cfg : DocCfg) (src : List Char) (t : Node) (h : parseDoc cfg src = .ok t)
    (n : Node) (hn : Within n t) (u : List Nat) (title : Option (List Char))
    (hk : n.kind = .inl (.image u title)) :
    let cs' := toRenderList cfg.langPrefix n.children
    NodeRender.render cfg.entity (toRender cfg.langPrefix n) =
        .ok [.selfClose tImg (imageAttrs n.attrs (asChars u) (docAltList n.children) title)] ∧
      (aAlt, docAltList n.children) ∈ imageAttrs n.attrs (asChars u) (docAltList n.children) title ∧
      (∀ nv ∈ imageAttrs n.attrs (asChars u) (docAltList n.children) title, nv.1 = aAlt →
        nv.2 = docAltList n.children) ∧
      NodeRender.imageAlt cs' = MdIt.Alt.altOf (NodeRender.toInlList cs') ∧
      MdIt.Alt.altOf (NodeRender.toInlList cs') = MdIt.Alt.display (NodeRender.toInlList cs') ∧
      MdIt.Alt.display (NodeRender.toInlList cs') = docAltList n.children := by
  intro cs'
  have hs : SafeUrl u := ((doc_urls_safe' cfg src t h n hn).2.1) u title hk
  have hfin := ((parseDoc_final h).1.within hn).1
  have halt : NodeRender.imageAlt cs' = docAltList n.children := by
    rw [NodeRender.image_alt_is_display, altTextList_toRender]
  have hdisp : MdIt.Alt.display (NodeRender.toInlList cs') = docAltList n.children := by
    rw [NodeRender.display_toInlList, altTextList_toRender]
  refine ⟨?_, ?_, ?_, rfl, MdIt.Alt.alt_is_display _, hdisp⟩
  · rw [toRender_eq, hk]
    simp only [Kind.toRender, NodeRender.render]
    rw [hs.decode, halt]
  · unfold NodeRender.imageAttrs
    cases title with
    | none => simp [NodeRender.pushTitle]
    | some tt => simp [NodeRender.pushTitle]
  · intro nv hnv hname
    unfold NodeRender.imageAttrs at hnv
    have hmem : nv ∈ (n.attrs ++ [(aSrc, asChars u)]) ++ [(aAlt, docAltList n.children)] ∨
        nv.1 = aTitle := by
      cases title with
      | none => exact .inl hnv
      | some tt =>
        simp only [NodeRender.pushTitle] at hnv
        rcases List.mem_append.mp hnv with h' | h'
        · exact .inl h'
        · simp only [List.mem_singleton] at h'; subst h'; exact .inr rfl
    rcases hmem with hmem | hmem
    · rcases List.mem_append.mp hmem with h' | h'
      · rcases List.mem_append.mp h' with h'' | h''
        · have := hfin nv h''
          rw [this] at hname
          exact absurd hname (by decide)
        · simp only [List.mem_singleton] at h''; subst h''
          exact absurd hname (show aSrc ≠ aAlt by decide)
      · simp only [List.mem_singleton] at h'; subst h'; rfl
    · rw [hmem] at hname
      exact absurd hname (by decide)

open MdIt.NodeRender (tImg tA imageAttrs linkAttrs) in
/-- **the `href` / `src` values are EXACTLY the urls of the tree**: a `Link` node anywhere in a parsed
    tree renders as `open("a", node.attrs ++ [href = u] ++ [title])`, its children, `close("a")`; an
    `Autolink` as `open("a", node.attrs ++ [href = u])`, children, `close("a")` (for `Image` see
    `doc_image_alt`) — `u` being the node's (safe) url as characters, unchanged. -/
theorem doc_link_render (cfg : DocCfg) (src : List Char) (t : Node) (h : parseDoc cfg src = .ok t)
    (n : Node) (hn : Within n t) :
    (∀ u title, n.kind = .inl (.link u title) → SafeUrl u ∧ ∃ body,
      NodeRender.render cfg.entity (toRender cfg.langPrefix n) =
        .ok ([.open tA (linkAttrs n.attrs (asChars u) title)] ++ body ++ [.close tA])) ∧
    (∀ u, n.kind = .inl (.autolink u) → SafeUrl u ∧ ∃ body,
      NodeRender.render cfg.entity (toRender cfg.langPrefix n) =
        .ok ([.open tA (n.attrs ++ [(aHref, asChars u)])] ++ body ++ [.close tA])) := by
  have hsafe := doc_urls_safe' cfg src t h n hn
  have hren := (final_hyps cfg.langPrefix n ((parseDoc_final h).1.sub hn)).1
  obtain ⟨evs, hevs⟩ := (NodeRender.render_total cfg.entity _).mpr hren
  obtain ⟨b, _, hb⟩ := NodeRender.render_ok_frameT hevs
  rw [toRender_eq] at hb
  constructor
  · intro u title hk
    have hs := hsafe.1 u title hk
    refine ⟨hs, b, ?_⟩
    rw [hevs, hb, hk]
    simp only [Kind.toRender, NodeRender.frameT, hs.decode]
  · intro u hk
    have hs := hsafe.2.2 u hk
    refine ⟨hs, b, ?_⟩
    rw [hevs, hb, hk]
    simp only [Kind.toRender, NodeRender.frameT, hs.decode]

open MdIt.NodeRender (tImg tHr tBr imageAttrs) in
/-- every `img` element of the rendered document is the rendering of an `Image` node of the tree:
    with that node's url as `src` and the displayed text of ITS description as `alt` -/
theorem doc_img_events (cfg : DocCfg) (src : List Char) (t : Node) (h : parseDoc cfg src = .ok t) :
    ∃ evs, renderEvents cfg t = .ok evs ∧ (∀ x, renderDoc x cfg src = .ok (Render.serialize x evs)) ∧
      ∀ attrs, Event.selfClose tImg attrs ∈ evs →
        ∃ n u title, Within n t ∧ n.kind = .inl (.image u title) ∧ SafeUrl u ∧
          attrs = imageAttrs n.attrs (asChars u) (docAltList n.children) title := by
  obtain ⟨evs, he, hev, hx⟩ := doc_render_total cfg src t h
  refine ⟨evs, hev, hx, ?_⟩
  intro attrs hmem
  obtain ⟨m, hm, hf⟩ := NodeRender.render_origin cfg.entity _ evs he _ hmem
  obtain ⟨n, hw, rfl⟩ := toRender_nodes_within _ t m (NodeRender.visited_subset_nodes _ m hm)
  rw [toRender_eq] at hf
  cases hk : n.kind with
  | blk b => rw [hk] at hf; cases b <;> simp [Kind.toRender, NodeRender.frameT, tImg, tHr, tBr] at hf
  | inl v =>
    rw [hk] at hf
    cases v with
    | image u ttl =>
      simp only [Kind.toRender, NodeRender.frameT, List.append_nil, List.mem_singleton,
        Event.selfClose.injEq, true_and] at hf
      have hs : SafeUrl u := (doc_urls_safe' cfg src t h n hw).2.1 u ttl hk
      refine ⟨n, u, ttl, hw, hk, hs, ?_⟩
      rw [hf, hs.decode, NodeRender.image_alt_is_display, altTextList_toRender]
    | wrap w mk => cases w <;> simp [Kind.toRender, NodeRender.frameT, tImg, tHr, tBr] at hf
    | _ => simp [Kind.toRender, NodeRender.frameT, tImg, tHr, tBr] at hf

/-! ## non-vacuity, and what the hypotheses / the validation are needed for -/

mutual
/-- the urls of a tree in pre-order (for examples) -/
def urlsOf : Node → List (List Nat)
  | ⟨k, _, _, cs⟩ => (match k.url? with | some u => [u] | none => []) ++ urlsOfList cs
def urlsOfList : List Node → List (List Nat)
  | [] => []
  | c :: cs => urlsOf c ++ urlsOfList cs
end

/-- an ASCII string as bytes (for examples) -/
def bytesOf (s : String) : List Nat := s.toList.map Char.toNat

/-- the block pass on three definitions, two of them in containers, one duplicate (`[R]` after
    `[r]`: the first wins, the key is the normalised label), one with angle brackets and a title -/
example : (Block.parseBlocks (exCfg false 100).blockCfg "[r]: /a\n> [R]: /b\n\n- [s]: <c> 't'".toList).toOption.map (·.2) =
    some [([82], ⟨[47, 97], none⟩), ([83], ⟨[99], some [116]⟩)] := by decide_lits

/-- reference link, autolink and image: the three url-carrying kinds, one url from the map -/
example : (parseDoc (exCfg false 100) "[r]: /u\n\n[r] <xx:y> ![i](/w)".toList).toOption.map urlsOf =
    some [[47, 117], [120, 120, 58, 121], [47, 119]] := by decide_lits

/-- `doc_urls_safe` / `doc_href_safe` / `doc_reference_position_irrelevant` on the document of
    `Props/Pipeline` with every inline kind (a definition, a reference use, link, image, autolink) -/
example : ∃ t, parseDoc (exCfg true 100) exInlines = .ok t ∧
    Every (fun n => ∀ u, n.kind.url? = some u → SafeUrl u) t := by
  obtain ⟨t, ht⟩ := exInlines_parses
  exact ⟨t, ht, doc_urls_safe _ _ t ht⟩

example : ∃ t evs, parseDoc (exCfg true 100) exInlines = .ok t ∧ renderEvents (exCfg true 100) t = .ok evs := by
  obtain ⟨t, ht⟩ := exInlines_parses
  obtain ⟨evs, he, _⟩ := doc_href_safe _ _ t ht
  exact ⟨t, evs, ht, he⟩

/-- the hypotheses of `doc_reference_position_irrelevant` and `doc_img_events` hold on that document
    (it has a definition, a use, and an image) -/
example : ∃ root refs defs, Block.parseBlocks (exCfg true 100).blockCfg exInlines = .ok (root, refs) ∧
    refs = Refs.buildMap (exCfg true 100).blockCfg.N defs := by
  obtain ⟨t, ht⟩ := exInlines_parses
  obtain ⟨root, refs, defs, _, hb, _, hr, _⟩ := doc_reference_position_irrelevant _ _ t ht
  exact ⟨root, refs, defs, hb, hr⟩

example : ∃ evs, ∀ x, renderDoc x (exCfg true 100) exInlines = .ok (Render.serialize x evs) := by
  obtain ⟨t, ht⟩ := exInlines_parses
  obtain ⟨evs, _, hx, _⟩ := doc_img_events _ _ t ht
  exact ⟨evs, hx⟩

/-- a use BEFORE its definition, the definition inside a block quote, a later duplicate at top
    level: the use resolves to the first definition in document order -/
example : (parseDoc (exCfg false 100) "[r]\n\n> [r]: /a\n\n[R]: /b".toList).toOption.map urlsOf =
    some [[47, 97]] := by decide_lits

/-- use before = use after -/
example : (renderDoc false (exCfg false 100) "[r]\n\n[r]: /a".toList).toOption.map (·.take 22) =
    (renderDoc false (exCfg false 100) "[r]: /a\n\n[r]".toList).toOption.map (·.take 22) := by decide_lits

/-- **why the validation is needed** (the theorem has no hypothesis to drop; this is the step its
    proof rests on): the four destinations below ARE dangerous, and none of them reaches the tree —
    neither inline, nor as an autolink, nor through a definition (which then is no definition: it
    stays a paragraph, `[r]` stays text) -/
example : (parseDoc (exCfg false 100) "[a](javascript:x) <vbscript:x> ![i](data:text/html,x)".toList).toOption.map urlsOf =
    some [] := by decide_lits
example : (parseDoc (exCfg false 100) "[r]: file:x\n\n[r]".toList).toOption.map urlsOf = some [] := by
  decide_lits
example : Link.dangerous (bytesOf "javascript:x") = true ∧
    Link.dangerous (bytesOf "vbscript:x") = true ∧
    Link.dangerous (bytesOf "data:text/html,x") = true ∧
    Link.dangerous (bytesOf "file:x") = true := by decide +kernel
/-- … while an image `data:` url of an allowed type, and a scheme that merely CONTAINS a bad one, pass -/
example : (parseDoc (exCfg false 100) "![j](data:image/png;,x) [b](x:javascript:y)".toList).toOption.map urlsOf =
    some [bytesOf "data:image/png;,x", bytesOf "x:javascript:y"] := by
  decide_lits

/-- `SafeUrl` is not vacuous, and `validate_link` alone would not be enough for `harmless`: off the
    normalised alphabet (a raw TAB inside the scheme, which a browser strips) the validator accepts
    a url a browser runs as `javascript:` — the `visible` clause is what excludes it -/
example : SafeUrl (bytesOf "http://x?a=1&b=2") :=
  .of_good ⟨⟨"http://x?a=1&b=2".toList, by decide +kernel⟩, by decide +kernel⟩
example : Link.validateLink Link.exJavaTab = true ∧ Link.dangerous Link.exJavaTab = true ∧
    ¬ Link.Visible Link.exJavaTab := by decide +kernel

/-- `doc_image_alt`: emphasis, a nested image and a soft break inside a description -/
example : renderDoc false (exCfg false 100) "![a *b* ![d](e)\nf](g)".toList =
    .ok "<p><img src=\"g\" alt=\"a b d\nf\"></p>\n".toList := by decide_lits

/-- a definition's url and title, with source positions: the definition itself leaves no output -/
example : renderDoc false (exCfg true 100) "[r]: /u 't'\n[r]".toList =
    .ok ("<p data-sourcepos=\"2:1-2:3\"><a data-sourcepos=\"2:1-2:3\" ".toList ++
         "href=\"/u\" title=\"t\">r</a></p>\n".toList) := by decide_lits

/-
  Further: `Props/C13Trace.lean` ties the list `defs` of `doc_reference_position_irrelevant` to the SOURCE LINES
  (`defs_in_line_order`); the converse of `doc_href_output` by position is `doc_href_occurrences`
  (`Props/HrefConverse.lean`).
-/

end MdIt.Pipeline
