/-
  C08 — The rules in effect are determined solely by the sequence of configuration calls, not by
  when documents were parsed (or the parser `Debug`-printed) in between.

  Model: `MdIt/Model/ParserState.lean`.  All theorems about `resets = true` (the code on disk) hold for
  every history, every document and every pure pipeline `run`; `resets = false` (the pinned tree) only
  appears in the negation witnesses at the end.  Built on `Props/C09.lean` (`compile_total`, `compile_perm`).
-/
import MdIt.Model.ParserState
import MdIt.Props.C09

namespace MdIt.ParserState
open MdIt.Ruler (RuleItem Cons Prio CompileErr foldE)

/-! ## Configuration, coherence, the cache-free specification -/

/-- the configuration: what the `&mut self` calls write -/
structure Config where
  block : MdIt.Ruler.Ruler
  inline : MdIt.Ruler.Ruler
  core : MdIt.Ruler.Ruler
  textCharmap : Charmap
  deriving DecidableEq

def PState.cfg (s : PState) : Config := ⟨s.block, s.inline, s.core, s.textCharmap⟩

/-- a freshly configured parser: this configuration, nothing cached -/
def Config.cold (c : Config) : PState := ⟨c.block, c.inline, c.core, c.textCharmap, none, none, none, none⟩

/-- every filled cache equals the function of the CURRENT configuration it caches -/
def Coherent (s : PState) : Prop :=
  (∀ c, s.cBlock = some c → compileRuler s.block = .ok c) ∧
  (∀ c, s.cInline = some c → compileRuler s.inline = .ok c) ∧
  (∀ c, s.cCore = some c → compileRuler s.core = .ok c) ∧
  (∀ t, s.textImpl = some t → t = chooseTextImpl (cmKeys s.textCharmap))

/-- the effect of one call on the configuration (none for `has_rule`, `parse`, `Debug`) -/
def cfgNext (c : Config) : Op → Config
  | .addBlock id sp => { c with block := addItem c.block (sp.item id) }
  | .removeBlock id => { c with block := c.block.remove id }
  | .addInline id m sp =>
    { c with textCharmap := if m ≠ 0 then cmPush c.textCharmap m id else c.textCharmap
             inline := addItem c.inline (sp.item id) }
  | .removeInline id m =>
    { c with textCharmap := if m ≠ 0 then cmRetain c.textCharmap m id else c.textCharmap
             inline := c.inline.remove id }
  | .addCore id sp => { c with core := addItem c.core (sp.item id) }
  | .removeCore id => { c with core := c.core.remove id }
  | _ => c

def cfgRun (c : Config) : List Op → Config
  | [] => c
  | op :: rest => cfgRun (cfgNext c op) rest

/-- the pipeline-visible part of a `Walk` -/
structure WalkP where
  rootsReady : Bool
  block : Option (List Nat)
  inline : Option (List Nat)
  text : Option TextImpl
  deriving DecidableEq

def Walk.proj (w : Walk) : WalkP := ⟨w.rootsReady, w.block, w.inline, w.text⟩

/-- `coreRule` without caches: every read is a fresh computation from the configuration -/
def coreRuleP (c : Config) (doc : Doc) (w : WalkP) (rule : Nat) : Except CompileErr WalkP :=
  if rule = idBlockParser then
    if doc.usesBlock then
      match compileRuler c.block with
      | .error e => .error e
      | .ok cb => .ok { w with rootsReady := true, block := some cb.vals }
    else .ok w
  else if rule = idInlineParser then
    if w.rootsReady && doc.usesInline then
      match compileRuler c.inline with
      | .error e => .error e
      | .ok ci =>
        if ci.vals.contains idTextScanner then
          .ok { w with inline := some ci.vals, text := some (chooseTextImpl (cmKeys c.textCharmap)) }
        else .ok { w with inline := some ci.vals }
    else .ok w
  else .ok w

/-- **the specification**: what a parse reads, as a function of the configuration and the document
    alone (no cache, no history) -/
def effP (c : Config) (doc : Doc) : Except CompileErr Effective :=
  match compileRuler c.core with
  | .error e => .error e
  | .ok cc =>
    match foldE (coreRuleP c doc) ⟨false, none, none, none⟩ cc.vals with
    | .error e => .error e
    | .ok w => .ok ⟨cc.vals, w.block, w.inline, w.text⟩

/-- the specified answer of `parse doc` on a parser with configuration `c` -/
def outP {ρ : Type} (run : Effective → Doc → ρ) (c : Config) (doc : Doc) : Out ρ :=
  match effP c doc with
  | .error e => .panicked e
  | .ok eff => .parsed (run eff doc)

/-! ## The mechanism: configuration calls empty the caches they invalidate -/

/-- **C08 (`add_resets`).** Every `add_rule` leaves the chain cache of its ruler empty, and an inline
    `add_rule` also the text scanner table. -/
theorem add_resets (s : PState) (id m : Nat) (sp : Spec) :
    (next true s (.addBlock id sp)).cBlock = none ∧
    (next true s (.addCore id sp)).cCore = none ∧
    (next true s (.addInline id m sp)).cInline = none ∧
    (next true s (.addInline id m sp)).textImpl = none := by
  simp [next, addBlock, addCore, addInline, resetText]

/-- **C08 (`remove_resets`).** Every `remove_rule` leaves the chain cache of its ruler empty, and an
    inline `remove_rule` also the text scanner table. -/
theorem remove_resets (s : PState) (id m : Nat) :
    (next true s (.removeBlock id)).cBlock = none ∧
    (next true s (.removeCore id)).cCore = none ∧
    (next true s (.removeInline id m)).cInline = none ∧
    (next true s (.removeInline id m)).textImpl = none := by
  simp [next, removeBlock, removeCore, removeInline, resetText, removeCell]

/-- …and touches no other cache and no other ruler: the other cells stay as they were. -/
theorem config_op_frame (s : PState) (id m : Nat) (sp : Spec) :
    (next true s (.addBlock id sp)).cInline = s.cInline ∧ (next true s (.addBlock id sp)).cCore = s.cCore ∧
    (next true s (.addBlock id sp)).textImpl = s.textImpl ∧
    (next true s (.removeBlock id)).cInline = s.cInline ∧ (next true s (.removeBlock id)).cCore = s.cCore ∧
    (next true s (.removeBlock id)).textImpl = s.textImpl ∧
    (next true s (.addCore id sp)).cInline = s.cInline ∧ (next true s (.addCore id sp)).cBlock = s.cBlock ∧
    (next true s (.addCore id sp)).textImpl = s.textImpl ∧
    (next true s (.removeCore id)).cInline = s.cInline ∧ (next true s (.removeCore id)).cBlock = s.cBlock ∧
    (next true s (.removeCore id)).textImpl = s.textImpl ∧
    (next true s (.addInline id m sp)).cBlock = s.cBlock ∧ (next true s (.addInline id m sp)).cCore = s.cCore ∧
    (next true s (.removeInline id m)).cBlock = s.cBlock ∧ (next true s (.removeInline id m)).cCore = s.cCore := by
  simp [next, addBlock, removeBlock, addCore, removeCore, addInline, removeInline]

/-! ## `get_or_init` on a coherent cell -/

theorem getOrInit_coherent (r : MdIt.Ruler.Ruler) (cell : Option Compiled)
    (h : ∀ c, cell = some c → compileRuler r = .ok c) :
    getOrInit r cell = match compileRuler r with
      | .error e => .error e
      | .ok c => .ok (some c, c) := by
  cases cell with
  | none => rfl
  | some c => simp [getOrInit, h c rfl]

theorem cfg_eq_iff (s t : PState) :
    s.cfg = t.cfg ↔ s.block = t.block ∧ s.inline = t.inline ∧ s.core = t.core ∧
      s.textCharmap = t.textCharmap := by
  simp [PState.cfg]

/-! ## `parse` on a coherent state -/

/-- a run over the cached state against the cache-free run `r`: the state reached (normally or by a
    panic) is coherent with configuration `c`, and `r` has the same outcome -/
def Sim (c : Config) : Except (PState × CompileErr) Walk → Except CompileErr WalkP → Prop
  | .ok w2, r => Coherent w2.s ∧ w2.s.cfg = c ∧ r = .ok w2.proj
  | .error (s2, e), r => Coherent s2 ∧ s2.cfg = c ∧ r = .error e

/-- one core rule on a coherent walk reads exactly what the cache-free `coreRuleP` computes.
    Both sides are unfolded together, so each branch closes by `rfl` once the cell read is replaced
    by the compilation it caches. -/
theorem coreRule_spec (doc : Doc) (w : Walk) (rule : Nat) (hc : Coherent w.s) :
    Sim w.s.cfg (coreRule doc w rule) (coreRuleP w.s.cfg doc w.proj rule) := by
  obtain ⟨hb, hi, hco, ht⟩ := hc
  unfold coreRule coreRuleP
  simp only [PState.cfg]
  by_cases h1 : rule = idBlockParser
  · rw [if_pos h1, if_pos h1]
    by_cases h2 : doc.usesBlock = true
    · rw [if_pos h2, if_pos h2, getOrInit_coherent _ _ hb]
      cases hcb : compileRuler w.s.block with
      | error e => exact ⟨⟨hb, hi, hco, ht⟩, rfl, rfl⟩
      | ok cb => exact ⟨⟨fun c h => by cases h; exact hcb, hi, hco, ht⟩, rfl, rfl⟩
    · rw [if_neg h2, if_neg h2]
      exact ⟨⟨hb, hi, hco, ht⟩, rfl, rfl⟩
  · rw [if_neg h1, if_neg h1]
    by_cases h3 : rule = idInlineParser
    · rw [if_pos h3, if_pos h3]
      by_cases h4 : (w.rootsReady && doc.usesInline) = true
      · rw [if_pos h4, if_pos (show (w.proj.rootsReady && doc.usesInline) = true from h4),
          getOrInit_coherent _ _ hi]
        cases hci : compileRuler w.s.inline with
        | error e => exact ⟨⟨hb, hi, hco, ht⟩, rfl, rfl⟩
        | ok ci =>
          have hi' : ∀ c, some ci = some c → compileRuler w.s.inline = .ok c :=
            fun c hcc => by cases hcc; exact hci
          by_cases h5 : ci.vals.contains idTextScanner = true
          · simp only [if_pos h5]
            have htext : textGetOrInit { w.s with cInline := some ci } =
                chooseTextImpl (cmKeys w.s.textCharmap) := by
              unfold textGetOrInit
              cases htx : w.s.textImpl with
              | none => rfl
              | some t0 => exact ht t0 htx
            rw [htext]
            exact ⟨⟨hb, hi', hco, fun t htt => by cases htt; rfl⟩, rfl, rfl⟩
          · simp only [if_neg h5]
            exact ⟨⟨hb, hi', hco, ht⟩, rfl, rfl⟩
      · rw [if_neg h4, if_neg (show ¬ (w.proj.rootsReady && doc.usesInline) = true from h4)]
        exact ⟨⟨hb, hi, hco, ht⟩, rfl, rfl⟩
    · rw [if_neg h3, if_neg h3]
      exact ⟨⟨hb, hi, hco, ht⟩, rfl, rfl⟩

theorem fold_spec (doc : Doc) (l : List Nat) :
    ∀ w : Walk, Coherent w.s →
      Sim w.s.cfg (foldE (coreRule doc) w l) (foldE (coreRuleP w.s.cfg doc) w.proj l) := by
  induction l with
  | nil => intro w hc; exact ⟨hc, rfl, rfl⟩
  | cons a l ih =>
    intro w hc
    have hs := coreRule_spec doc w a hc
    simp only [foldE]
    revert hs
    cases coreRule doc w a with
    | error p => rintro ⟨h1, h2, h3⟩; rw [h3]; exact ⟨h1, h2, rfl⟩
    | ok w2 => rintro ⟨h1, h2, h3⟩; rw [h3, ← h2]; exact ih w2 h1

/-- **`parse` on a coherent parser**: it stays coherent, the configuration is untouched, and what the
    pipeline reads is the cache-free specification `effP` of the configuration. -/
theorem parseEff_spec (s : PState) (doc : Doc) (hc : Coherent s) :
    Coherent (parseEff s doc).1 ∧ (parseEff s doc).1.cfg = s.cfg ∧ (parseEff s doc).2 = effP s.cfg doc := by
  obtain ⟨hb, hi, hco, ht⟩ := hc
  unfold parseEff effP
  rw [getOrInit_coherent _ _ hco, show s.cfg.core = s.core from rfl]
  cases hcc : compileRuler s.core with
  | error e => exact ⟨⟨hb, hi, hco, ht⟩, rfl, rfl⟩
  | ok cc =>
    have hf : Sim s.cfg (foldE (coreRule doc) ⟨{ s with cCore := some cc }, false, none, none, none⟩ cc.vals)
        (foldE (coreRuleP s.cfg doc) ⟨false, none, none, none⟩ cc.vals) :=
      fold_spec doc cc.vals ⟨{ s with cCore := some cc }, false, none, none, none⟩
        ⟨hb, hi, fun c h => by cases h; exact hcc, ht⟩
    dsimp only
    revert hf
    cases foldE (coreRule doc) ⟨{ s with cCore := some cc }, false, none, none, none⟩ cc.vals with
    | error p => rintro ⟨g1, g2, g3⟩; exact ⟨g1, g2, by rw [g3]⟩
    | ok w3 => rintro ⟨g1, g2, g3⟩; exact ⟨g1, g2, by rw [g3]; rfl⟩

/-! ## What is in a compiled chain -/

theorem map_of_mapM? {α β : Type} {f : α → Option β} {l : List α} {r : List β}
    (h : mapM? f l = some r) : l.map f = r.map some := by
  revert r
  fun_induction mapM? f l
  case case1 => intro r h; cases h; rfl
  case case2 | case3 => intro r h; cases h
  case case4 a l b hfa r' hm ih => intro r h; cases h; rw [List.map_cons, hfa, ih hm]; rfl

theorem mapM?_total {α β : Type} {f : α → Option β} {l : List α}
    (h : ∀ a ∈ l, ∃ b, f a = some b) : ∃ r, mapM? f l = some r := by
  induction l with
  | nil => exact ⟨[], rfl⟩
  | cons a l ih =>
    obtain ⟨b, hb⟩ := h a (by simp)
    obtain ⟨r, hr⟩ := ih (fun x hx => h x (by simp [hx]))
    exact ⟨b :: r, by simp [mapM?, hb, hr]⟩

theorem compileRuler_ok {r : MdIt.Ruler.Ruler} {c : Compiled} (h : compileRuler r = .ok c) :
    r.compile = .ok c.idx ∧ mapM? (firstMark? r.deps) c.idx = some c.vals := by
  revert h
  fun_cases compileRuler r
  case case1 | case2 => intro h; cases h
  case case3 idx hc vals hm => intro h; cases h; exact ⟨hc, hm⟩

theorem firstMark?_eq_some {deps : List RuleItem} {i v : Nat} :
    firstMark? deps i = some v ↔ ∃ d, deps[i]? = some d ∧ d.marks.head? = some v := by
  unfold firstMark?
  cases deps[i]? <;> simp

theorem compileRuler_vals_sub {r : MdIt.Ruler.Ruler} {c : Compiled} (h : compileRuler r = .ok c) :
    ∀ v ∈ c.vals, ∃ it ∈ r.deps, it.marks.head? = some v := by
  intro v hv
  have hmem : some v ∈ c.idx.map (firstMark? r.deps) := by
    rw [map_of_mapM? (compileRuler_ok h).2]; exact List.mem_map_of_mem hv
  obtain ⟨i, _, hi⟩ := List.mem_map.1 hmem
  obtain ⟨d, hd, hh⟩ := firstMark?_eq_some.1 hi
  exact ⟨d, List.mem_of_getElem? hd, hh⟩

/-- every item of the ruler has its payload in the compiled chain (`compile_perm` of C09) -/
theorem compileRuler_vals_sup {r : MdIt.Ruler.Ruler} {c : Compiled} (h : compileRuler r = .ok c) :
    ∀ it ∈ r.deps, ∀ v, it.marks.head? = some v → v ∈ c.vals := by
  intro it hit v hv
  obtain ⟨hc, hm⟩ := compileRuler_ok h
  obtain ⟨i, hi, rfl⟩ := List.getElem_of_mem hit
  have hmem : i ∈ c.idx :=
    (MdIt.Ruler.compile_perm r.deps c.idx hc).symm.subset (List.mem_range.2 hi)
  have : some v ∈ c.vals.map some := by
    rw [← map_of_mapM? hm, ← firstMark?_eq_some.2 ⟨_, List.getElem?_eq_getElem hi, hv⟩]
    exact List.mem_map_of_mem hmem
  simpa using this

theorem firstMark?_total (r : MdIt.Ruler.Ruler) (hw : r.WF) (idx : List Nat)
    (hc : r.compile = .ok idx) : ∀ i ∈ idx, ∃ m, firstMark? r.deps i = some m := by
  intro i hi
  have hlt : i < r.deps.length :=
    List.mem_range.1 ((MdIt.Ruler.compile_perm r.deps idx hc).subset hi)
  have hne := hw r.deps[i] (List.getElem_mem hlt)
  cases hm : r.deps[i].marks with
  | nil => exact absurd hm hne
  | cons m t => exact ⟨m, firstMark?_eq_some.2 ⟨_, List.getElem?_eq_getElem hlt, by rw [hm]; rfl⟩⟩

theorem compileRuler_total (r : MdIt.Ruler.Ruler) (hw : r.WF) : compileRuler r ≠ .error .internal := by
  unfold compileRuler
  cases hc : r.compile with
  | error e =>
    intro h
    simp only [Except.error.injEq] at h
    exact MdIt.Ruler.Ruler.compile_total r hw (by rw [hc, h])
  | ok idx =>
    obtain ⟨vals, hv⟩ := mapM?_total (firstMark?_total r hw idx hc)
    simp [hv]

/-! ## The three rulers -/

inductive Kind where
  | block | inline | core
  deriving DecidableEq, Repr

def Config.ruler (c : Config) : Kind → MdIt.Ruler.Ruler
  | .block => c.block
  | .inline => c.inline
  | .core => c.core

/-- every item of every ruler has a first mark (the `marks.get(0).unwrap()` of `compile` and `Debug`) -/
def Config.WF (c : Config) : Prop := ∀ k, (c.ruler k).WF

/-! ## `Debug` on a coherent state -/

/-- `impl Debug for Ruler` on a coherent cell: the cell stays coherent, and on a well-formed ruler
    neither of the two `unwrap`s fails -/
theorem debugRuler_spec (r : MdIt.Ruler.Ruler) (cell : Option Compiled)
    (h : ∀ c, cell = some c → compileRuler r = .ok c) :
    match debugRuler r cell with
    | .ok (cell', _) => ∀ c, cell' = some c → compileRuler r = .ok c
    | .error e => r.WF → e ≠ .internal := by
  unfold debugRuler
  rw [getOrInit_coherent _ _ h]
  cases hc : compileRuler r with
  | error e => exact fun hw he => compileRuler_total r hw (he ▸ hc)
  | ok c0 =>
    dsimp only
    cases hm : mapM? (fun i => (firstMark? r.deps i).map (fun m => (i, m))) c0.idx with
    | some v => exact fun c hcc => by cases hcc; rfl
    | none =>
      intro hw _
      obtain ⟨v, hv⟩ := mapM?_total (f := fun i => (firstMark? r.deps i).map (fun m => (i, m)))
        (fun i hi => by
          obtain ⟨m, hm⟩ := firstMark?_total r hw c0.idx (compileRuler_ok hc).1 i hi
          exact ⟨(i, m), by simp [hm]⟩)
      rw [hm] at hv; cases hv

/-- `Debug` on a coherent parser keeps it coherent, leaves the configuration alone, and can only
    re-raise a documented `compile` panic when every item has a first mark -/
theorem debugFmt_spec (s : PState) (hc : Coherent s) :
    Coherent (debugFmt s).1 ∧ (debugFmt s).1.cfg = s.cfg ∧
      (s.cfg.WF → (debugFmt s).2 ≠ .error .internal) := by
  obtain ⟨hb, hi, hco, ht⟩ := hc
  unfold debugFmt
  have h1 := debugRuler_spec s.block s.cBlock hb
  revert h1
  cases debugRuler s.block s.cBlock with
  | error e => exact fun h1 => ⟨⟨hb, hi, hco, ht⟩, rfl, fun hw he => h1 (hw .block) (Except.error.inj he)⟩
  | ok p1 =>
    intro hb'
    have h2 := debugRuler_spec s.inline s.cInline hi
    dsimp only
    revert h2
    cases debugRuler s.inline s.cInline with
    | error e => exact fun h2 => ⟨⟨hb', hi, hco, ht⟩, rfl, fun hw he => h2 (hw .inline) (Except.error.inj he)⟩
    | ok p2 =>
      intro hi'
      have h3 := debugRuler_spec s.core s.cCore hco
      dsimp only
      revert h3
      cases debugRuler s.core s.cCore with
      | error e => exact fun h3 => ⟨⟨hb', hi', hco, ht⟩, rfl, fun hw he => h3 (hw .core) (Except.error.inj he)⟩
      | ok p3 => exact fun hco' => ⟨⟨hb', hi', hco', ht⟩, rfl, fun _ he => by cases he⟩

/-! ## Every call preserves coherence; the configuration evolves by `cfgNext` -/

/-- a configuration call keeps coherence because it empties exactly the cells whose ruler (or marker
    map) it writes (`add_resets`, `remove_resets`) -/
theorem next_coherent (s : PState) (op : Op) (hc : Coherent s) : Coherent (next true s op) := by
  obtain ⟨hb, hi, hco, ht⟩ := hc
  cases op with
  | parse doc => exact (parseEff_spec s doc ⟨hb, hi, hco, ht⟩).1
  | debugFmt => exact (debugFmt_spec s ⟨hb, hi, hco, ht⟩).1
  | hasBlock id => exact ⟨hb, hi, hco, ht⟩
  | hasInline id => exact ⟨hb, hi, hco, ht⟩
  | hasCore id => exact ⟨hb, hi, hco, ht⟩
  | addBlock id sp => exact ⟨(fun c h => by cases h), hi, hco, ht⟩
  | removeBlock id => exact ⟨(fun c h => by cases h), hi, hco, ht⟩
  | addCore id sp => exact ⟨hb, hi, (fun c h => by cases h), ht⟩
  | removeCore id => exact ⟨hb, hi, (fun c h => by cases h), ht⟩
  | addInline id m sp => exact ⟨hb, (fun c h => by cases h), hco, (fun t h => by cases h)⟩
  | removeInline id m => exact ⟨hb, (fun c h => by cases h), hco, (fun t h => by cases h)⟩

theorem next_cfg (s : PState) (op : Op) (hc : Coherent s) :
    (next true s op).cfg = cfgNext s.cfg op := by
  cases op with
  | parse doc => exact (parseEff_spec s doc hc).2.1
  | debugFmt => exact (debugFmt_spec s hc).2.1
  | _ => rfl

/-! ## Histories -/

theorem init_coherent : Coherent init :=
  ⟨nofun, nofun, nofun, nofun⟩

/-- the invariant of a history: the caches stay coherent, and the configuration is what the
    configuration calls alone build -/
theorem runOps_spec (ops : List Op) :
    ∀ s, Coherent s → Coherent (runOps true s ops) ∧ (runOps true s ops).cfg = cfgRun s.cfg ops := by
  induction ops with
  | nil => intro s h; exact ⟨h, rfl⟩
  | cons op rest ih =>
    intro s h
    have := ih _ (next_coherent s op h)
    rw [next_cfg s op h] at this
    exact this

/-- **C08 (`coherent_reachable`).** After ANY history of add / remove / has / parse / `Debug` calls
    on `MarkdownIt::new()`, every filled cache holds what its configuration currently determines. -/
theorem coherent_reachable (ops : List Op) : Coherent (runOps true init ops) :=
  (runOps_spec ops init init_coherent).1

theorem cfgRun_inv (P : Config → Prop) (ops : List Op)
    (step : ∀ c, ∀ op ∈ ops, P c → P (cfgNext c op)) : ∀ c, P c → P (cfgRun c ops) := by
  induction ops with
  | nil => exact fun c h => h
  | cons op rest ih =>
    exact fun c h => ih (fun c o ho => step c o (by simp [ho])) _ (step c op (by simp) h)

theorem cfgNext_nonconfig (c : Config) (op : Op) (h : op.isConfig = false) : cfgNext c op = c := by
  cases op <;> first | rfl | cases h

theorem cfgRun_nonconfig (obs : List Op) (hobs : ∀ op ∈ obs, op.isConfig = false) (c : Config) :
    cfgRun c obs = c :=
  cfgRun_inv (· = c) obs (fun _ op hop h => by rw [h, cfgNext_nonconfig c op (hobs op hop)]) c rfl

theorem cfgRun_filter (keep : Op → Bool) (hk : ∀ op, op.isConfig = true → keep op = true)
    (ops : List Op) : ∀ c, cfgRun c (ops.filter keep) = cfgRun c ops := by
  induction ops with
  | nil => intro c; rfl
  | cons op rest ih =>
    intro c
    by_cases h : keep op = true
    · simp only [List.filter_cons, h, if_true, cfgRun]; exact ih _
    · have hnc : op.isConfig = false := by
        cases hc : op.isConfig with
        | false => rfl
        | true => exact absurd (hk op hc) h
      simp only [List.filter_cons, h, cfgRun, cfgNext_nonconfig c op hnc]
      exact ih c

theorem cfgRun_append (a b : List Op) : ∀ c, cfgRun c (a ++ b) = cfgRun (cfgRun c a) b := by
  induction a with
  | nil => intro c; rfl
  | cons op rest ih => intro c; exact ih _

theorem runOps_append (resets : Bool) (a b : List Op) :
    ∀ s, runOps resets s (a ++ b) = runOps resets (runOps resets s a) b := by
  induction a with
  | nil => intro s; rfl
  | cons op rest ih => intro s; simp only [List.cons_append, runOps]; exact ih _

section Run
variable {ρ : Type} (run : Effective → Doc → ρ)

theorem trace_snoc (resets : Bool) (ops : List Op) (op : Op) :
    ∀ s, trace resets run s (ops ++ [op]) =
      trace resets run s ops ++ [out run (runOps resets s ops) op] := by
  induction ops with
  | nil => intro s; rfl
  | cons o rest ih => intro s; simp only [List.cons_append, trace, runOps, ih]

theorem lastOut_snoc (resets : Bool) (ops : List Op) (op : Op) :
    lastOut resets run (ops ++ [op]) = some (out run (runOps resets init ops) op) := by
  simp [lastOut, trace_snoc]

theorem parse_out_spec (s : PState) (doc : Doc) (hc : Coherent s) :
    out run s (.parse doc) = outP run s.cfg doc := by
  simp only [out, outP, (parseEff_spec s doc hc).2.2]
  cases effP s.cfg doc <;> rfl

/-- **the answer of a `parse` after any history** is the specification applied to the configuration
    that the configuration calls of the history build — the other calls do not enter. -/
theorem history_parse_spec (ops : List Op) (doc : Doc) :
    lastOut true run (ops ++ [.parse doc]) = some (outP run (cfgRun init.cfg ops) doc) := by
  obtain ⟨hc, hcfg⟩ := runOps_spec ops init init_coherent
  rw [lastOut_snoc, parse_out_spec run _ doc hc, hcfg]

/-- general form: any sub-history that keeps all the configuration calls gives the same final parse -/
theorem nonconfig_irrelevant (keep : Op → Bool) (hk : ∀ op, op.isConfig = true → keep op = true)
    (ops : List Op) (doc : Doc) :
    lastOut true run (ops ++ [.parse doc]) = lastOut true run (ops.filter keep ++ [.parse doc]) := by
  rw [history_parse_spec, history_parse_spec, cfgRun_filter keep hk]

/-- **C08 (`parses_irrelevant`) — the property verbatim.** Deleting the intermediate `parse` calls
    from any history of add-rule, remove-rule, has-rule, `Debug` and parse calls does not change the
    result (tree / HTML / panic) of the final parse. -/
theorem parses_irrelevant (ops : List Op) (doc : Doc) :
    lastOut true run (ops ++ [.parse doc]) =
      lastOut true run (ops.filter (fun op => !op.isParse) ++ [.parse doc]) :=
  nonconfig_irrelevant run _ (fun op h => by cases op <;> simp_all [Op.isConfig, Op.isParse]) ops doc

/-- likewise for the `Debug` calls (which fill the chain caches as a side effect) and `has_rule` -/
theorem observations_irrelevant (ops : List Op) (doc : Doc) :
    lastOut true run (ops ++ [.parse doc]) =
      lastOut true run (ops.filter Op.isConfig ++ [.parse doc]) :=
  nonconfig_irrelevant run _ (fun _ h => h) ops doc

end Run

/-! ## What a parse reads, by ruler -/

/-- the chain of kind `k` that the parse has read (`none`: that chain was not consulted) -/
def Effective.chain (e : Effective) : Kind → Option (List Nat)
  | .block => e.block
  | .inline => e.inline
  | .core => some e.core

/-- the `add_rule` calls: ruler and pushed item -/
def Op.adds : Op → Option (Kind × RuleItem)
  | .addBlock id sp => some (.block, sp.item id)
  | .addInline id _ sp => some (.inline, sp.item id)
  | .addCore id sp => some (.core, sp.item id)
  | _ => none

/-- the `add_rule` calls: ruler and rule identity -/
def Op.addsId : Op → Option (Kind × Nat)
  | .addBlock id _ => some (.block, id)
  | .addInline id _ _ => some (.inline, id)
  | .addCore id _ => some (.core, id)
  | _ => none

/-- the `remove_rule` calls: ruler and removed mark -/
def Op.removes : Op → Option (Kind × Nat)
  | .removeBlock id => some (.block, id)
  | .removeInline id _ => some (.inline, id)
  | .removeCore id => some (.core, id)
  | _ => none

def WalkInv (c : Config) (w : WalkP) : Prop :=
  (∀ ch, w.block = some ch → ∃ cc, compileRuler c.block = .ok cc ∧ ch = cc.vals) ∧
  (∀ ch, w.inline = some ch → ∃ cc, compileRuler c.inline = .ok cc ∧ ch = cc.vals) ∧
  (∀ t, w.text = some t → t = chooseTextImpl (cmKeys c.textCharmap))

/-- one cache-free step: what it records was read off the configuration, and its only panics are
    those of compiling one of the rulers -/
theorem coreRuleP_step (c : Config) (doc : Doc) (w : WalkP) (rule : Nat) :
    match coreRuleP c doc w rule with
    | .ok w' => WalkInv c w → WalkInv c w'
    | .error e => ∃ k, compileRuler (c.ruler k) = .error e := by
  fun_cases coreRuleP c doc w rule
  -- `BlockParserRule` reads the block chain: compile panic / compiled
  case case1 _ _ e hc => exact ⟨.block, hc⟩
  case case2 _ _ cb hc => exact fun ⟨_, h2, h3⟩ => ⟨fun ch hch => ⟨cb, hc, by cases hch; rfl⟩, h2, h3⟩
  -- `InlineParserRule` reads the inline chain: compile panic / compiled with / without the text scanner
  case case4 _ _ _ e hc => exact ⟨.inline, hc⟩
  case case5 _ _ _ ci hc _ =>
    exact fun ⟨h1, _, _⟩ => ⟨h1, fun ch hch => ⟨ci, hc, by cases hch; rfl⟩, fun t htt => by cases htt; rfl⟩
  case case6 _ _ _ ci hc _ =>
    exact fun ⟨h1, _, h3⟩ => ⟨h1, fun ch hch => ⟨ci, hc, by cases hch; rfl⟩, h3⟩
  -- nothing is read
  case case3 | case7 | case8 => exact id

theorem effP_ok {c : Config} {doc : Doc} {eff : Effective} (h : effP c doc = .ok eff) :
    ∃ cc w, compileRuler c.core = .ok cc ∧ WalkInv c w ∧ eff = ⟨cc.vals, w.block, w.inline, w.text⟩ := by
  revert h
  fun_cases effP c doc
  case case1 | case2 => intro h; cases h
  case case3 cc hc w hf =>
    intro h; cases h
    refine ⟨cc, w, hc, ?_, rfl⟩
    refine MdIt.Ruler.foldE_inv (coreRuleP c doc) (fun _ w => WalkInv c w) cc.vals _ w hf
      ⟨nofun, nofun, nofun⟩ (fun _ a t t' _ hI hft => ?_)
    have := coreRuleP_step c doc t a
    rw [hft] at this
    exact this hI

/-- every chain a parse reads is the compiled chain of the corresponding ruler of the configuration -/
theorem effP_chain {c : Config} {doc : Doc} {eff : Effective} (h : effP c doc = .ok eff)
    (k : Kind) (ch : List Nat) (hk : eff.chain k = some ch) :
    ∃ cc, compileRuler (c.ruler k) = .ok cc ∧ ch = cc.vals := by
  obtain ⟨cc, w, hc, ⟨h1, h2, _⟩, rfl⟩ := effP_ok h
  cases k with
  | block => exact h1 ch hk
  | inline => exact h2 ch hk
  | core => cases hk; exact ⟨cc, hc, rfl⟩

/-- the scanner table a parse reads is `choose_text_impl` of the current marker map -/
theorem effP_text {c : Config} {doc : Doc} {eff : Effective} (h : effP c doc = .ok eff)
    (t : TextImpl) (ht : eff.text = some t) : t = chooseTextImpl (cmKeys c.textCharmap) := by
  obtain ⟨cc, w, _, ⟨_, _, h3⟩, rfl⟩ := effP_ok h
  exact h3 t ht

/-- a panic of the specification is the panic of compiling one of the three rulers -/
theorem effP_error {c : Config} {doc : Doc} {e : CompileErr} (h : effP c doc = .error e) :
    ∃ k, compileRuler (c.ruler k) = .error e := by
  revert h
  fun_cases effP c doc
  case case1 e' hc => intro h; cases h; exact ⟨.core, hc⟩
  case case2 cc _ e' hf =>
    intro h; cases h
    obtain ⟨_, a, _, t, _, _, hstep⟩ := MdIt.Ruler.foldE_error _ _ _ _ hf
    have := coreRuleP_step c doc t a
    rw [hstep] at this
    exact this
  case case3 => intro h; cases h

theorem lastEff_eq (ops : List Op) (doc : Doc) :
    lastEff true ops doc = effP (cfgRun init.cfg ops) doc := by
  obtain ⟨hc, hcfg⟩ := runOps_spec ops init init_coherent
  unfold lastEff
  rw [(parseEff_spec _ doc hc).2.2, hcfg]

/-! ## What a configuration call does to one ruler -/

theorem cfgNext_adds (c : Config) (op : Op) (k : Kind) (it : RuleItem) (h : op.adds = some (k, it)) :
    (cfgNext c op).ruler k = addItem (c.ruler k) it := by
  cases op <;> cases h <;> rfl

theorem cfgNext_removes (c : Config) (op : Op) (k : Kind) (m : Nat) (h : op.removes = some (k, m)) :
    (cfgNext c op).ruler k = (c.ruler k).remove m := by
  cases op <;> cases h <;> rfl

/-- a property of ruler `k` survives a call if it survives the push and the removal the call may be;
    every other call leaves ruler `k` alone -/
theorem cfgNext_ruler_inv (P : MdIt.Ruler.Ruler → Prop) (c : Config) (op : Op) (k : Kind)
    (h : P (c.ruler k)) (hadd : ∀ it, op.adds = some (k, it) → P (addItem (c.ruler k) it))
    (hrem : ∀ m, op.removes = some (k, m) → P ((c.ruler k).remove m)) :
    P ((cfgNext c op).ruler k) := by
  cases op <;> cases k <;> first | exact h | exact hadd _ rfl | exact hrem _ rfl

theorem adds_addsId {op : Op} {k : Kind} {it : RuleItem} (h : op.adds = some (k, it)) :
    ∃ id, it.marks.head? = some id ∧ op.addsId = some (k, id) := by
  cases op <;> cases h <;> exact ⟨_, rfl, rfl⟩

/-! ## A removed rule never fires again -/

/-- no item of the ruler carries the payload `id` -/
def NoHead (id : Nat) (r : MdIt.Ruler.Ruler) : Prop := ∀ it ∈ r.deps, it.marks.head? ≠ some id

theorem noHead_remove (r : MdIt.Ruler.Ruler) (id : Nat) : NoHead id (r.remove id) := by
  intro it hit hh
  simp only [MdIt.Ruler.Ruler.remove, List.mem_filter] at hit
  have : id ∈ it.marks := List.mem_of_mem_head? hh
  simp [this] at hit

theorem cfgNext_noHead (c : Config) (op : Op) (k : Kind) (id : Nat) (h : NoHead id (c.ruler k))
    (hno : op.addsId ≠ some (k, id)) : NoHead id ((cfgNext c op).ruler k) := by
  refine cfgNext_ruler_inv (NoHead id) c op k h (fun it ha x hx => ?_)
    (fun m _ x hx => h x (List.mem_filter.1 hx).1)
  rcases List.mem_append.1 hx with hx | hx
  · exact h x hx
  · obtain ⟨id', hh, hid⟩ := adds_addsId ha
    cases List.mem_singleton.1 hx
    rw [hh]
    exact fun e => hno (by rw [hid, Option.some.inj e])

/-- **C08 (`removed_never_fires`).** After `remove_rule::<id>()` on a ruler (block, inline or core),
    as long as `id` is not added to that ruler again, NO later parse — whatever was parsed, printed or
    configured before or after the removal — has `id` in the chain it executes. -/
theorem removed_never_fires (k : Kind) (id : Nat) (ops1 ops2 : List Op) (rem : Op) (doc : Doc)
    (eff : Effective) (hrem : rem.removes = some (k, id))
    (hno : ∀ op ∈ ops2, op.addsId ≠ some (k, id))
    (h : lastEff true (ops1 ++ rem :: ops2) doc = .ok eff) :
    ∀ ch, eff.chain k = some ch → id ∉ ch := by
  intro ch hch hmem
  rw [lastEff_eq, cfgRun_append] at h
  obtain ⟨cc, hcc, rfl⟩ := effP_chain h k ch hch
  obtain ⟨it, hit, hh⟩ := compileRuler_vals_sub hcc id hmem
  refine cfgRun_inv (fun c => NoHead id (c.ruler k)) ops2
    (fun c op hop hc => cfgNext_noHead c op k id hc (hno op hop)) _ ?_ it hit hh
  rw [cfgNext_removes _ rem k id hrem]
  exact noHead_remove _ _

/-! ## A rule added later fires -/

theorem cfgNext_keeps (c : Config) (op : Op) (k : Kind) (it : RuleItem) (h : it ∈ (c.ruler k).deps)
    (hno : ∀ m, op.removes = some (k, m) → m ∉ it.marks) : it ∈ ((cfgNext c op).ruler k).deps :=
  cfgNext_ruler_inv (fun r => it ∈ r.deps) c op k h (fun _ _ => List.mem_append_left _ h)
    (fun m hm => List.mem_filter.2 ⟨h, by simpa using hno m hm⟩)

/-- **C08 (`added_fires`, chain part).** After `add_rule` pushed the item `it` on a ruler, as long as
    none of its marks is removed from that ruler, EVERY later parse that consults this ruler executes
    a chain containing the rule — also when documents were parsed before the addition. -/
theorem added_in_chain (k : Kind) (it : RuleItem) (ops1 ops2 : List Op) (add : Op) (doc : Doc)
    (eff : Effective) (hadd : add.adds = some (k, it))
    (hno : ∀ op ∈ ops2, ∀ m, op.removes = some (k, m) → m ∉ it.marks)
    (h : lastEff true (ops1 ++ add :: ops2) doc = .ok eff) :
    ∀ ch, eff.chain k = some ch → ∀ v, it.marks.head? = some v → v ∈ ch := by
  intro ch hch v hv
  rw [lastEff_eq, cfgRun_append] at h
  obtain ⟨cc, hcc, rfl⟩ := effP_chain h k ch hch
  refine compileRuler_vals_sup hcc it ?_ v hv
  refine cfgRun_inv (fun c => it ∈ (c.ruler k).deps) ops2
    (fun c op hop hc => cfgNext_keeps c op k it hc (hno op hop)) _ ?_
  rw [cfgNext_adds _ add k it hadd]
  exact List.mem_append_right _ (List.mem_singleton_self it)

/-! ### the marker map only grows -/

theorem mem_cmKeys_cmPush (cm : Charmap) (m id k : Nat) :
    k ∈ cmKeys (cmPush cm m id) ↔ k ∈ cmKeys cm ∨ k = m := by
  fun_induction cmPush cm m id
  case case1 => simp [cmKeys]
  case case2 v t m _ =>
    exact ⟨Or.inl, fun h' => h'.elim (fun x => x) fun e => List.mem_cons.2 (Or.inl e)⟩
  case case3 a v t m _ h ih =>
    simp only [cmKeys, List.map_cons, List.mem_cons] at ih ⊢
    rw [ih, or_assoc]

theorem mem_cmKeys_cmInsert (cm : Charmap) (m k : Nat) (v : List Nat) :
    k ∈ cmKeys (cmInsert cm m v) ↔ k ∈ cmKeys cm ∨ k = m := by
  fun_induction cmInsert cm m v
  case case1 => simp [cmKeys]
  case case2 w t m _ =>
    exact ⟨Or.inl, fun h' => h'.elim (fun x => x) fun e => List.mem_cons.2 (Or.inl e)⟩
  case case3 a w t m _ h ih =>
    simp only [cmKeys, List.map_cons, List.mem_cons] at ih ⊢
    rw [ih, or_assoc]

theorem mem_cmKeys_cmTake (cm : Charmap) (m k : Nat) (h : k ∈ cmKeys cm) (hne : k ≠ m) :
    k ∈ cmKeys (cmTake cm m).2 := by
  induction cm with
  | nil => simp [cmKeys] at h
  | cons p t ih =>
    obtain ⟨a, w⟩ := p
    simp only [cmKeys, List.map_cons, List.mem_cons] at h
    simp only [cmTake]
    by_cases ha : a = m
    · subst ha
      simp only [if_true]
      rcases h with h | h
      · exact absurd h hne
      · exact h
    · simp only [ha, if_false, cmKeys, List.map_cons, List.mem_cons]
      rcases h with h | h
      · exact Or.inl h
      · exact Or.inr (ih h)

/-- `remove_rule` never deletes a key of `text_charmap` (it re-inserts the possibly empty vector) -/
theorem mem_cmKeys_cmRetain (cm : Charmap) (m id k : Nat) (h : k ∈ cmKeys cm) :
    k ∈ cmKeys (cmRetain cm m id) := by
  unfold cmRetain
  rw [mem_cmKeys_cmInsert]
  by_cases hk : k = m
  · exact Or.inr hk
  · exact Or.inl (mem_cmKeys_cmTake cm m k h hk)

theorem cfgNext_keys_mono (c : Config) (op : Op) (k : Nat) (h : k ∈ cmKeys c.textCharmap) :
    k ∈ cmKeys (cfgNext c op).textCharmap := by
  cases op with
  | addInline i m sp =>
    simp only [cfgNext]
    split
    · exact (mem_cmKeys_cmPush _ _ _ _).2 (Or.inl h)
    · exact h
  | removeInline i m =>
    simp only [cfgNext]
    split
    · exact mem_cmKeys_cmRetain _ _ _ _ h
    · exact h
  | _ => exact h

theorem mem_insertSorted (x y : Nat) (l : List Nat) : y ∈ insertSorted x l ↔ y = x ∨ y ∈ l := by
  induction l with
  | nil => simp [insertSorted]
  | cons a l ih =>
    simp only [insertSorted]
    split
    · simp
    · simp [ih, or_left_comm]

theorem mem_sortNat (y : Nat) (l : List Nat) : y ∈ sortNat l ↔ y ∈ l := by
  induction l with
  | nil => simp [sortNat]
  | cons a l ih => simp [sortNat, mem_insertSorted, ih]

/-- a stop character of the scanner table chosen for a key set containing `m`: `m` stops the text scan -/
def Stops (t : TextImpl) (m : Nat) : Prop :=
  match t with
  | .punct => m ∈ punctSet
  | .regex st => m ∈ st

theorem chooseTextImpl_stops (keys : List Nat) (m : Nat) (h : m ∈ keys) :
    Stops (chooseTextImpl keys) m := by
  unfold chooseTextImpl
  by_cases hall : keys.all (fun k => punctSet.contains k) = true
  · simp only [hall, if_true, Stops]
    have := List.all_eq_true.1 hall m h
    simpa using this
  · simp only [hall, Stops]
    exact (mem_sortNat m keys).2 h

/-- the stop set is EXACTLY the key set when the regex scanner is chosen -/
theorem chooseTextImpl_regex (keys st : List Nat) (h : chooseTextImpl keys = .regex st) :
    ∀ m, m ∈ st ↔ m ∈ keys := by
  unfold chooseTextImpl at h
  by_cases hall : keys.all (fun k => punctSet.contains k) = true
  · rw [if_pos hall] at h; cases h
  · rw [if_neg hall] at h
    cases h
    exact fun m => mem_sortNat m keys

/-- **C08 (`added_fires`, marker part).** After an inline `add_rule` with marker `m ≠ '\0'`, every
    later parse that enters the text scanner uses a table in which `m` is a stop character — a member
    of the regex's stop set when the regex scanner is chosen (so also for non-punctuation markers such
    as `'x'` or `'é'`), one of the 23 fixed characters when `SkipPunct` is chosen.  (No hypothesis about
    later removals: `remove_rule` keeps the key, so the character stays a stop character.) -/
theorem added_marker_stops (id m : Nat) (sp : Spec) (ops1 ops2 : List Op) (doc : Doc)
    (eff : Effective) (hm : m ≠ 0)
    (h : lastEff true (ops1 ++ .addInline id m sp :: ops2) doc = .ok eff) :
    ∀ t, eff.text = some t → Stops t m := by
  intro t ht
  rw [lastEff_eq, cfgRun_append] at h
  rw [effP_text h t ht]
  apply chooseTextImpl_stops
  refine cfgRun_inv (fun c => m ∈ cmKeys c.textCharmap) ops2
    (fun c op _ hc => cfgNext_keys_mono c op m hc) _ ?_
  simp only [cfgNext, if_pos hm]
  exact (mem_cmKeys_cmPush _ _ _ _).2 (Or.inr rfl)

/-- **C08 (`added_fires`).** An inline rule added at any point of a history — in particular after
    documents have been parsed — is, for every later parse and as long as it is not removed, in the
    inline chain that the parse executes, and its marker is a stop character of the text scanner
    table that the parse uses: the rule is tried at every occurrence of its marker. -/
theorem added_fires (id m : Nat) (sp : Spec) (ops1 ops2 : List Op) (doc : Doc) (eff : Effective)
    (hm : m ≠ 0)
    (hno : ∀ op ∈ ops2, ∀ i mk, op = .removeInline i mk → i ≠ id ∧ i ∉ sp.aliases)
    (h : lastEff true (ops1 ++ .addInline id m sp :: ops2) doc = .ok eff) :
    (∀ ch, eff.inline = some ch → id ∈ ch) ∧ (∀ t, eff.text = some t → Stops t m) := by
  refine ⟨fun ch hch => ?_, added_marker_stops id m sp ops1 ops2 doc eff hm h⟩
  refine added_in_chain .inline (sp.item id) ops1 ops2 _ doc eff rfl ?_ h ch hch id rfl
  intro op hop mk hrm
  cases op <;> simp [Op.removes] at hrm
  subst hrm
  obtain ⟨h1, h2⟩ := hno _ hop _ _ rfl
  simp [Spec.item, h1, h2]


/-! ## No unintended panic: the `unwrap`s of `compile` and of `impl Debug for Ruler` -/

theorem cfgNext_WF (c : Config) (op : Op) (h : c.WF) : (cfgNext c op).WF := fun k =>
  cfgNext_ruler_inv MdIt.Ruler.Ruler.WF c op k (h k)
    (fun it ha x hx => by
      rcases List.mem_append.1 hx with hx | hx
      · exact h k x hx
      · obtain ⟨id, hh, _⟩ := adds_addsId ha
        cases List.mem_singleton.1 hx
        exact fun e => by rw [e] at hh; cases hh)
    (fun m _ => MdIt.Ruler.Ruler.WF_remove _ m (h k))

theorem init_WF : init.cfg.WF := by
  intro k it hit
  cases k <;> simp [init, PState.cfg, Config.ruler] at hit
  · subst hit; simp
  · rcases hit with rfl | rfl <;> simp

/-- **`parse` never panics unintentionally**: after any history, the only panics a parse can unwind
    with are the two documented ones of `Ruler::compile` (`missing dependency`, `cyclic dependency`) —
    never an `unwrap` on `None`, an out-of-range `Vec::insert` or a `usize` underflow. -/
theorem parse_total (ops : List Op) (doc : Doc) : lastEff true ops doc ≠ .error .internal := by
  rw [lastEff_eq]
  intro h
  obtain ⟨k, hk⟩ := effP_error h
  exact compileRuler_total _ (cfgRun_inv Config.WF ops (fun c op _ => cfgNext_WF c op) _ init_WF k) hk

/-- **C08 (`debugFmt_total`).** After any history on the repaired tree, `format!("{:?}", md)` never
    hits the `deps.get(idx).unwrap()` / `marks.get(0).unwrap()` of `impl Debug for Ruler`
    (contrast `pinned_debug_panics`); it can only re-raise a documented `compile` panic. -/
theorem debugFmt_total (ops : List Op) : (debugFmt (runOps true init ops)).2 ≠ .error .internal := by
  obtain ⟨hc, hcfg⟩ := runOps_spec ops init init_coherent
  refine (debugFmt_spec _ hc).2.2 ?_
  rw [hcfg]
  exact cfgRun_inv Config.WF ops (fun c op _ => cfgNext_WF c op) _ init_WF

/-! ## Non-vacuity: concrete histories -/

deriving instance DecidableEq for Except

instance (t : TextImpl) (m : Nat) : Decidable (Stops t m) := by
  unfold Stops; cases t <;> exact inferInstance

/-- `"a xx b"`: reaches the block chain, the inline chain and the text scanner -/
def docText : Doc := ⟨true, true, 1⟩
/-- the empty source: reaches nothing but the core chain -/
def docBlank : Doc := ⟨false, false, 0⟩

/-- a history with parses before, between and after configuration calls; ids as in the `pstate`
    stream (block `@` rule 1, inline pair rules 10 `'x'`, 11 `'('`, 13 `'+'`, core stamp rule 20) -/
def sampleHistory : List Op :=
  [.parse docText, .addInline 10 120 {}, .addBlock 1 {}, .parse docBlank, .debugFmt,
   .addInline 11 40 { cons := [.before 10] }, .removeBlock 1, .parse docText, .addCore 20 {},
   .removeInline 10 120, .hasInline 10]

theorem sampleHistory_eff : lastEff true sampleHistory docText =
    .ok ⟨[900, 901, 20], some [], some [902, 11], some (.regex [40, 120])⟩ := by decide +kernel

example : lastEff true sampleHistory docText =
    .ok ⟨[900, 901, 20], some [], some [902, 11], some (.regex [40, 120])⟩ := sampleHistory_eff

-- `parses_irrelevant` / `observations_irrelevant` on it: the stripped history really is shorter, and
-- both sides really are a successful parse reading the chains above
example : sampleHistory.filter (fun op => !op.isParse) =
    [.addInline 10 120 {}, .addBlock 1 {}, .debugFmt, .addInline 11 40 { cons := [.before 10] },
     .removeBlock 1, .addCore 20 {}, .removeInline 10 120, .hasInline 10] := by decide

example : lastEff true (sampleHistory.filter Op.isConfig) docText =
    .ok ⟨[900, 901, 20], some [], some [902, 11], some (.regex [40, 120])⟩ := by decide +kernel

-- `coherent_reachable` is not about empty caches only: after the history every cache is filled
example : (runOps true init (sampleHistory ++ [.parse docText])).cBlock = some ⟨[], []⟩ ∧
    (runOps true init (sampleHistory ++ [.parse docText])).cInline = some ⟨[0, 1], [902, 11]⟩ ∧
    (runOps true init (sampleHistory ++ [.parse docText])).cCore = some ⟨[0, 1, 2], [900, 901, 20]⟩ ∧
    (runOps true init (sampleHistory ++ [.parse docText])).textImpl = some (.regex [40, 120]) := by decide +kernel

-- `removed_never_fires`: hypotheses hold for the removal of inline rule 10 in `sampleHistory`
example : ∃ ops1 ops2, sampleHistory = ops1 ++ Op.removeInline 10 120 :: ops2 ∧
    (∀ op ∈ ops2, op.addsId ≠ some (Kind.inline, 10)) ∧
    ∃ eff, lastEff true sampleHistory docText = .ok eff ∧ eff.chain .inline = some [902, 11] :=
  ⟨sampleHistory.take 9, [.hasInline 10], by decide, by decide, _, sampleHistory_eff, by decide⟩

-- `added_fires`: rule 11 (marker `'('`, not a punctuation stop) added after two parses
example : ∃ ops1 ops2, sampleHistory = ops1 ++ Op.addInline 11 40 { cons := [.before 10] } :: ops2 ∧
    (∀ op ∈ ops2, ∀ i mk, op = Op.removeInline i mk → i ≠ 11 ∧ i ∉ ([] : List Nat)) ∧
    ∃ eff, lastEff true sampleHistory docText = .ok eff ∧ eff.inline = some [902, 11] ∧
      eff.text = some (.regex [40, 120]) ∧ ¬ Stops .punct 40 :=
  ⟨sampleHistory.take 5, sampleHistory.drop 6, by decide,
    (by intro op hop i mk h; subst h; simp [sampleHistory] at hop; obtain ⟨rfl, _⟩ := hop; decide),
    _, sampleHistory_eff, by decide, by decide, by decide⟩

-- a panicking compile is not cached: the `missing dependency` panic of the first parse does not
-- prevent the second parse (after the dependency has been added) from succeeding
example : lastEff true [.addInline 10 120 { cons := [.require 11] }] docText = .error (.missing 10 11) ∧
    lastEff true [.addInline 10 120 { cons := [.require 11] }, .parse docText, .addInline 11 40 {}] docText =
      .ok ⟨[900, 901], some [], some [902, 10, 11], some (.regex [40, 120])⟩ := by decide +kernel

-- the "empty vector stays" quirk: removing a rule that was never added makes its marker a stop character
example : lastEff true [.removeInline 10 120] docText =
    .ok ⟨[900, 901], some [], some [902], some (.regex [120])⟩ := by decide

/-! ## Negation witnesses: the pinned tree (`resets = false`) -/

/-- `[add_rule::<B1>, parse, remove_rule::<B1>]` then `parse`: the pinned `Ruler::remove` keeps the
    compiled chain, the removed block rule 1 still runs… -/
theorem pinned_removed_rule_still_fires :
    lastEff false [.addBlock 1 {}, .parse docText, .removeBlock 1] docText =
      .ok ⟨[900, 901], some [1], some [902], some .punct⟩ := by decide

/-- …while the same history without the intermediate parse runs the empty block chain. -/
theorem pinned_removed_rule_reference :
    lastEff false ([Op.addBlock 1 {}, .parse docText, .removeBlock 1].filter (fun op => !op.isParse)) docText =
      .ok ⟨[900, 901], some [], some [902], some .punct⟩ := by decide

/-- `[parse]`, `add_rule::<I7>` (marker `'x'`), `parse`: the pinned inline `add_rule` keeps `text_impl`;
    the scanner still is `SkipPunct`, `'x'` is no stop character, the new rule is never tried… -/
theorem pinned_added_rule_never_fires :
    lastEff false [.parse docText, .addInline 7 120 {}] docText =
      .ok ⟨[900, 901], some [], some [902, 7], some .punct⟩ := by decide

/-- …while without the first parse the scanner stops at `'x'`. -/
theorem pinned_added_rule_reference :
    lastEff false ([Op.parse docText, .addInline 7 120 {}].filter (fun op => !op.isParse)) docText =
      .ok ⟨[900, 901], some [], some [902, 7], some (.regex [120])⟩ := by decide

section Pinned
variable {ρ : Type} (run : Effective → Doc → ρ)

theorem lastOut_parse_eq (resets : Bool) (ops : List Op) (doc : Doc) :
    lastOut resets run (ops ++ [.parse doc]) =
      some (match lastEff resets ops doc with
        | .error e => .panicked e
        | .ok eff => .parsed (run eff doc)) := by
  rw [lastOut_snoc]; rfl

/-- **`parses_irrelevant` FAILS on the pinned tree** (history `[addBlock 1, parse, removeBlock 1, parse]`)
    for every pipeline that can tell the two block chains apart. -/
theorem pinned_violates_parses_irrelevant_remove
    (hrun : run ⟨[900, 901], some [1], some [902], some .punct⟩ docText ≠
            run ⟨[900, 901], some [], some [902], some .punct⟩ docText) :
    lastOut false run ([.addBlock 1 {}, .parse docText, .removeBlock 1] ++ [.parse docText]) ≠
      lastOut false run ([Op.addBlock 1 {}, .parse docText, .removeBlock 1].filter (fun op => !op.isParse)
        ++ [.parse docText]) := by
  rw [lastOut_parse_eq, lastOut_parse_eq, pinned_removed_rule_still_fires, pinned_removed_rule_reference]
  intro h
  simp only [Option.some.injEq, Out.parsed.injEq] at h
  exact hrun h

/-- **`parses_irrelevant` FAILS on the pinned tree** (history `[parse, addInline 7 'x', parse]`)
    for every pipeline that can tell the two scanner tables apart. -/
theorem pinned_violates_parses_irrelevant_add
    (hrun : run ⟨[900, 901], some [], some [902, 7], some .punct⟩ docText ≠
            run ⟨[900, 901], some [], some [902, 7], some (.regex [120])⟩ docText) :
    lastOut false run ([.parse docText, .addInline 7 120 {}] ++ [.parse docText]) ≠
      lastOut false run ([Op.parse docText, .addInline 7 120 {}].filter (fun op => !op.isParse)
        ++ [.parse docText]) := by
  rw [lastOut_parse_eq, lastOut_parse_eq, pinned_added_rule_never_fires, pinned_added_rule_reference]
  intro h
  simp only [Option.some.injEq, Out.parsed.injEq] at h
  exact hrun h

end Pinned

/-- a pipeline that is injective in the chains it reads exists (the identity), so the two theorems
    above are not vacuous -/
example :
    lastOut false (fun e d => (e, d)) ([.addBlock 1 {}, .parse docText, .removeBlock 1] ++ [.parse docText]) ≠
      lastOut false (fun e d => (e, d)) ([Op.addBlock 1 {}, .parse docText, .removeBlock 1].filter
        (fun op => !op.isParse) ++ [.parse docText]) :=
  pinned_violates_parses_irrelevant_remove _ (by decide)

example :
    lastOut false (fun e d => (e, d)) ([.parse docText, .addInline 7 120 {}] ++ [.parse docText]) ≠
      lastOut false (fun e d => (e, d)) ([Op.parse docText, .addInline 7 120 {}].filter
        (fun op => !op.isParse) ++ [.parse docText]) :=
  pinned_violates_parses_irrelevant_add _ (by decide)

/-- on the pinned tree the reachable state is NOT coherent… -/
theorem pinned_not_coherent :
    ¬ Coherent (runOps false init [.addBlock 1 {}, .parse docText, .removeBlock 1]) := by
  intro h
  have := h.1 ⟨[0], [1]⟩ (by decide)
  revert this
  decide

/-- …and `{:?}` of the parser then panics in `impl Debug for Ruler` (`ruler.rs:218`,
    `self.deps.get(*idx).unwrap()` with a stale index). -/
theorem pinned_debug_panics :
    (debugFmt (runOps false init [.addBlock 1 {}, .parse docText, .removeBlock 1])).2 =
      .error .internal := by decide

end MdIt.ParserState
