/-
  C06, LIST half, whole document.

  "…placing D as continuation blocks of a list item (each line indented by the marker width) renders
   exactly as the list wrapper around the rendering of D."

  `itemDoc mk D`: the marker `mk` and one space in front of the first line of the tab-free document `D`,
  `|mk| + 1` spaces in front of every other line (blank lines included).  `item_commutes_*`: the block
  parse of `itemDoc mk D` (two more levels of nesting allowed) is a root with ONE child, a list (bullet or
  ordered, by the marker) over all lines, with ONE item over all lines, whose children are the top-level
  blocks of `D` with every position moved by the bytes inserted in front of it (`tau`; `tau_spec`:
  byte `x` of line `i` ↦ byte `w + x` of line `i`) — with the paragraphs unwrapped (`mark_tight_paragraphs`)
  exactly when the run on `D` ends `tight` (no blank line between its blocks); the reference map is that
  of `D`.  The simulation behind it is the general one of `MdIt/Props/C06.lean` (`Li.Nest`), instantiated in
  `MdIt/Lemmas/C06ListSim.lean`.

  `item_commutes_gen2` (any marker the list rule recognises; the first line of `D` non-blank at indent 0 or ≥ 4,
  or blank and followed by a non-blank line or by nothing: `FirstOk2`), `item_commutes_gen` (non-blank first
  line, `FirstOk`: a corollary), `item_commutes_bullet` (`-`, `*`, `+`), `item_commutes_ordered` (1–9 digits
  and `.` / `)`), `item_commutes_gen_parse` (in terms of `parseBlocks`).

  Why a blank first line is no exception: behind the marker the item's first line is blank
  (`reached_end_of_line`), the content indent is `|mk| + 1` whatever the number of blanks, the rewritten entry
  of line 0 is the shifted entry of `D`'s line 0 (both empty), the empty-item workaround
  (`reached_end && is_empty(next_line + 1)`) does not fire, and the nested tokenizer skips line 0 on both
  sides.  The `tight` flags of the two runs differ at the start (`true` in the item, `false` at the top of
  `D`); `tokenize_sim_any`: at the end either they agree or no block was parsed, and then the item is empty on
  both sides.

  Hypotheses, each needed (witnesses at the end of this file and of `Props/C06ListBlank.lean`) except
  `0 < max_nesting` in `item_commutes_gen` (at `max_nesting = 0` both items are empty; the proof does not use
  it): tab-free; the first line of `D` as above (with 1–3 columns the item's content indent grows and the
  following lines fall out of the item; an item that starts with two blank lines is empty); the rules in
  front of the list rule in the chain are among code, fence, blockquote, hr, reference, heading, and the
  marker line is not a thematic break (`- - -`, `* * *`, `- --`); nesting limit + 2; size below 2³¹.
-/
import MdIt.Props.C06
import MdIt.Lemmas.C06ListSim
set_option linter.unusedSimpArgs false

namespace MdIt.Block.Li
open MdIt.Lines (LineOffset NoTerm AllBlank lead mkOff IsTerminator)

/-! ### the document -/

/-- what the characters of a list marker satisfy: one byte each, neither blank nor a line terminator -/
structure MkOk (mk : List Char) : Prop where
  ne : mk ≠ []
  ascii : ∀ c ∈ mk, c.utf8Size = 1
  plain : ∀ c ∈ mk, c ≠ ' ' ∧ c ≠ '\t' ∧ c ≠ '\n' ∧ c ≠ '\r'

/-- the prefix of line `i`: the marker and a space on line 0, spaces elsewhere -/
def preAt (mk : List Char) (i : Nat) : List Char :=
  if i = 0 then mk ++ [' '] else List.replicate (mk.length + 1) ' '

/-- `D` as the content of one list item with marker `mk` -/
def itemDoc (mk D : List Char) : List Char := Lines.flat (indentLines (preAt mk) (Lines.linesT D))

theorem MkOk.bytes {mk : List Char} (h : MkOk mk) : Lines.byteLen mk = mk.length := Lines.byteLen_ascii mk h.ascii

theorem preOk_preAt {mk : List Char} (h : MkOk mk) : PreOk (mk.length + 1) (preAt mk) := by
  refine ⟨?_, ?_, ?_⟩
  · intro i; unfold preAt; split <;> simp
  · intro i; unfold preAt; split
    · simp [h.bytes, show ' '.utf8Size = 1 by decide]
    · exact Lines.byteLen_replicate_space _
  · intro i hc; unfold preAt at hc; split at hc
    · simp at hc
      exact (h.plain _ hc).2.1 rfl
    · have := (List.mem_replicate.mp hc).2; cases this

theorem noTerm_preAt {mk : List Char} (h : MkOk mk) (i : Nat) : NoTerm (preAt mk i) := by
  intro c hc
  unfold preAt at hc
  split at hc
  · simp at hc
    rcases hc with hc | rfl
    · exact ⟨(h.plain _ hc).2.2.1, (h.plain _ hc).2.2.2⟩
    · decide
  · have := (List.mem_replicate.mp hc).2; subst this; decide

theorem lshape_indent {pre : Nat → List Char} (hpre : ∀ i, NoTerm (pre i)) {L : DLines} (h : LShape L) :
    LShape (indentLines pre L) := by
  intro i lt hi
  have hlen : i < L.length := by
    have := (List.getElem?_eq_some_iff.mp hi).1
    simpa using this
  have hget := indentLines_getElem pre L i hlen
  have : lt = (pre i ++ L[i].1, L[i].2) := by
    rw [← hget]; exact ((List.getElem?_eq_some_iff.mp hi).2).symm
  subst this
  obtain ⟨h1, h2⟩ := h i L[i] (List.getElem?_eq_getElem hlen)
  refine ⟨?_, by simpa using h2⟩
  intro c hc
  rcases List.mem_append.mp hc with hc | hc
  · exact hpre i c hc
  · exact h1 c hc

theorem linesT_itemDoc {mk : List Char} (h : MkOk mk) (D : List Char) :
    Lines.linesT (itemDoc mk D) = indentLines (preAt mk) (Lines.linesT D) := by
  unfold itemDoc
  apply linesT_flat_of_shape
  · have := Lines.linesT_ne_nil D
    intro hc
    have hl := congrArg List.length hc
    simp at hl
    exact this hl
  · exact lshape_indent (noTerm_preAt h) (lshape_linesT D)
  · intro lt hlt
    obtain ⟨i, hi⟩ := List.getElem?_of_mem hlt
    have hlen : i < (Lines.linesT D).length := by
      have := (List.getElem?_eq_some_iff.mp hi).1
      simpa using this
    have hget := indentLines_getElem (preAt mk) (Lines.linesT D) i hlen
    have : lt = (preAt mk i ++ (Lines.linesT D)[i].1, (Lines.linesT D)[i].2) := by
      rw [← hget]; exact ((List.getElem?_eq_some_iff.mp hi).2).symm
    subst this
    have hpl := (preOk_preAt h).len i
    intro hc
    have hl := congrArg List.length hc
    simp only [List.length_append, List.length_nil] at hl
    omega

theorem splitLines_itemDoc {mk : List Char} (h : MkOk mk) (D : List Char) :
    Lines.splitLines (itemDoc mk D) = Lines.offsetsOf 0 (indentLines (preAt mk) (Lines.linesT D)) := by
  rw [Lines.splitLines_eq, linesT_itemDoc h]

theorem byteLen_itemDoc {mk : List Char} (h : MkOk mk) (D : List Char) :
    Lines.byteLen (itemDoc mk D) = Lines.byteLen D + (mk.length + 1) * (Lines.linesT D).length := by
  have h := startOf_indent (preOk_preAt h) (Lines.linesT D) (Lines.linesT D).length (Nat.le_refl _)
  unfold startOf at h
  rw [List.take_of_length_le (by rw [indentLines_length]; exact Nat.le_refl _), List.take_of_length_le (Nat.le_refl _),
    Lines.linesT_flat] at h
  exact h

/-! ### the fresh table of the prefixed document -/

section fresh
variable {mk : List Char} {L : DLines}

theorem indent_fresh_entry (hmk : MkOk mk) (i : Nat) (h : i < L.length) :
    freshEntry (indentLines (preAt mk) L) i
      = mkOff (startOf L i + (mk.length + 1) * i) (preAt mk i ++ L[i].1, L[i].2) := by
  have hi' : i < (indentLines (preAt mk) L).length := by rw [indentLines_length]; exact h
  simp only [freshEntry, List.getElem?_eq_getElem hi', indentLines_getElem (preAt mk) L i h,
    startOf_indent (preOk_preAt hmk) L i (Nat.le_of_lt h)]

/-- lines behind the first: the fresh entry of the indented line is the shifted fresh entry of the line -/
theorem fresh_shift (hmk : MkOk mk) (hL : LinesOk L) (i : Nat) (hi0 : 0 < i) (h : i < L.length) :
    freshEntry (indentLines (preAt mk) L) i
      = shiftE (mk.length + 1) ((mk.length + 1 : Nat) : Int) i (freshEntry L i) := by
  have htab : '\t' ∉ lead L[i].1 := fun hc =>
    hL.tabfree L[i] (List.getElem_mem h) ((List.takeWhile_sublist _).subset hc)
  have htab2 : '\t' ∉ List.replicate (mk.length + 1) ' ' ++ lead L[i].1 := by
    intro hc
    rcases List.mem_append.mp hc with hc | hc
    · have := (List.mem_replicate.mp hc).2; cases this
    · exact htab hc
  rw [indent_fresh_entry hmk i h]
  have hp : preAt mk i = List.replicate (mk.length + 1) ' ' := by unfold preAt; rw [if_neg (by omega)]
  simp only [hp, freshEntry, List.getElem?_eq_getElem h, shiftE, mkOff, lead_replicate_append, indentWidth_tabfree _ htab,
    indentWidth_tabfree _ htab2, Lines.byteLen_append, Lines.byteLen_replicate_space, List.length_append,
    List.length_replicate]
  congr 1 <;> (try push_cast) <;> omega

theorem lead_mk_line (hmk : MkOk mk) (l : List Char) : lead (mk ++ ' ' :: l) = [] := by
  cases hm : mk with
  | nil => exact absurd hm hmk.ne
  | cons c r =>
    have hc := hmk.plain c (by rw [hm]; simp)
    apply lead_cons_nonblank
    simp only [Lines.isBlank, Bool.or_eq_false_iff, decide_eq_false_iff_not]
    exact ⟨hc.1, hc.2.1⟩

/-- the first line: indent 0, the text starts at byte 0 -/
theorem fresh_first (hmk : MkOk mk) (h : 0 < L.length) :
    freshEntry (indentLines (preAt mk) L) 0 = ⟨0, mk.length + 1 + Lines.byteLen L[0].1, 0, 0⟩ := by
  rw [indent_fresh_entry hmk 0 h]
  have hp : preAt mk 0 = mk ++ [' '] := by unfold preAt; rw [if_pos rfl]
  simp only [hp, mkOff, startOf_zero, List.append_assoc, List.singleton_append, lead_mk_line hmk, Lines.byteLen_append,
    hmk.bytes, Lines.byteLen_cons, show ' '.utf8Size = 1 by decide]
  simp [Lines.indentWidth, Lines.widthFrom]
  omega

/-- the first line of `D`: not blank, indented by 0 or by at least 4 columns -/
def FirstOk (L : DLines) : Prop :=
  ∃ l0 t0 rest, L = (l0, t0) :: rest ∧ l0.dropWhile Lines.isBlank ≠ [] ∧
    ((lead l0).length = 0 ∨ 4 ≤ (lead l0).length)

theorem head_dropWhile_blank (l : List Char) : ∀ c r, l.dropWhile Lines.isBlank = c :: r → ¬ (c = ' ' ∨ c = '\t') := by
  intro c r h hc
  have := Lines.head_dropWhile h
  rcases hc with rfl | rfl <;> simp [Lines.isBlank] at this

theorem slice_first_line (hmk : MkOk mk) {L : DLines} {l0 t0 : List Char} {rest : DLines} (hL0 : L = (l0, t0) :: rest) :
    Lines.slice (Lines.flat (indentLines (preAt mk) L)) 0 (mk.length + 1 + Lines.byteLen l0)
      = .ok (mk ++ ' ' :: l0) := by
  have h0 : 0 < L.length := by rw [hL0]; simp
  have hg0 : L[0] = (l0, t0) := by simp [hL0]
  have hi' : 0 < (indentLines (preAt mk) L).length := by rw [indentLines_length]; exact h0
  have hp : preAt mk 0 = mk ++ [' '] := by unfold preAt; rw [if_pos rfl]
  have hline0 := indentLines_getElem (preAt mk) L 0 h0
  rw [hg0] at hline0
  have hline : ((indentLines (preAt mk) L)[0]'hi').1 = mk ++ ' ' :: l0 := by
    rw [hline0, hp]; simp
  have := slice_in_line (indentLines (preAt mk) L) 0 hi' [] (mk ++ ' ' :: l0) [] (by rw [hline]; simp)
  simp only [startOf_zero, Lines.byteLen_nil, Nat.add_zero, Nat.zero_add, Lines.byteLen_append, hmk.bytes,
    Lines.byteLen_cons, show ' '.utf8Size = 1 by decide] at this
  rw [← this]; congr 1; omega

/-- the marker line: the fresh entry of line 0 of `D`, the blanks `find_indent_of` skips behind the marker, and
    the bytes of the line -/
theorem first_line_facts (hmk : MkOk mk) (hL : LinesOk L) {l0 t0 : List Char} {rest : DLines}
    (hL0 : L = (l0, t0) :: rest) :
    freshEntry L 0 = ⟨0, Lines.byteLen l0, (lead l0).length, ((lead l0).length : Int)⟩ ∧
    Lines.findIndentOf (mk ++ ' ' :: l0) mk.length
      = .ok ((' ' :: lead l0).length, mk.length + (' ' :: lead l0).length) ∧
    Lines.byteLen l0 = (lead l0).length + Lines.byteLen (l0.dropWhile Lines.isBlank) := by
  have h0 : 0 < L.length := by rw [hL0]; simp
  have hg0 : L[0] = (l0, t0) := by simp [hL0]
  have htab : '\t' ∉ l0 := by
    have := hL.tabfree L[0] (List.getElem_mem h0)
    rw [hg0] at this; exact this
  have hsplit : mk ++ ' ' :: l0 = mk ++ (' ' :: lead l0) ++ l0.dropWhile Lines.isBlank := by
    conv => lhs; rw [← Lines.lead_append_rest l0]
    simp
  have hsp : Spaces (' ' :: lead l0) := by
    intro c hc
    rcases List.mem_cons.mp hc with rfl | hc
    · rfl
    · exact lead_spaces htab c hc
  have hfi := findIndent_tabfree mk (' ' :: lead l0) (l0.dropWhile Lines.isBlank) (fun hc => (hmk.plain _ hc).2.1 rfl) hsp
    (head_dropWhile_blank l0)
  rw [← hsplit, hmk.bytes] at hfi
  refine ⟨?_, hfi, ?_⟩
  · have htl : '\t' ∉ lead l0 := fun hc => htab ((List.takeWhile_sublist _).subset hc)
    simp [freshEntry, List.getElem?_eq_getElem h0, startOf_zero, hg0, mkOff, indentWidth_tabfree _ htl]
  · have := congrArg Lines.byteLen (Lines.lead_append_rest l0)
    simp only [Lines.byteLen_append, Lines.byteLen_lead] at this
    omega

theorem itemRewrite_first (hmk : MkOk mk) (hL : LinesOk L) {l0 t0 : List Char} {rest : DLines}
    (hL0 : L = (l0, t0) :: rest) (hnb : l0.dropWhile Lines.isBlank ≠ [])
    (hind : (lead l0).length = 0 ∨ 4 ≤ (lead l0).length) :
    itemRewrite (Lines.flat (indentLines (preAt mk) L))
        ⟨0, mk.length + 1 + Lines.byteLen l0, 0, 0⟩ mk.length
      = .ok (shiftE (mk.length + 1) ((mk.length + 1 : Nat) : Int) 0 (freshEntry L 0), mk.length + 1, false) := by
  obtain ⟨hfresh, hfi, hbl⟩ := first_line_facts hmk hL hL0
  have hsl := slice_first_line hmk hL0
  have hrest : 1 ≤ Lines.byteLen (l0.dropWhile Lines.isBlank) := by
    cases hd : l0.dropWhile Lines.isBlank with
    | nil => exact absurd hd hnb
    | cons c r => have := Lines.utf8Size_pos' c; simp; omega
  have hne : (mk.length + (' ' :: lead l0).length == mk.length + 1 + Lines.byteLen l0) = false := by
    apply Bool.eq_false_iff.mpr
    simp only [ne_eq, beq_iff_eq, List.length_cons]
    omega
  unfold itemRewrite
  simp only [show ¬ ((0 : Int) < 0) by omega, if_false, hsl, liftL_ok', ok_bind, psub_eq (Nat.zero_le _), Nat.add_zero,
    Nat.sub_zero, hfi, hne, Bool.false_eq_true, pure, Except.pure, hfresh, shiftE]
  have hia : (if (' ' :: lead l0).length > 4 then 1 else (' ' :: lead l0).length) = 1 := by
    simp only [List.length_cons]
    rcases hind with h | h
    · rw [if_neg (by omega)]; omega
    · rw [if_pos (by omega)]
  simp only [hne, Bool.false_eq_true, if_false, hia, Except.ok.injEq, Prod.mk.injEq, and_true]
  simp only [List.length_cons, Int.toNat_zero]
  refine ⟨?_, by omega⟩
  congr 1 <;> (try push_cast) <;> omega

/-- the exact condition on the start of `D`: a non-blank first line at indent 0 or ≥ 4, or a blank first line
    followed by a non-blank line or by nothing -/
def FirstOk2 (L : DLines) : Prop :=
  ∃ l0 t0 rest, L = (l0, t0) :: rest ∧
    ((l0.dropWhile Lines.isBlank ≠ [] ∧ ((lead l0).length = 0 ∨ 4 ≤ (lead l0).length)) ∨
     (l0.dropWhile Lines.isBlank = [] ∧
       (rest = [] ∨ ∃ l1 t1 rest', rest = (l1, t1) :: rest' ∧ l1.dropWhile Lines.isBlank ≠ [])))

theorem FirstOk.to2 (h : FirstOk L) : FirstOk2 L := by
  obtain ⟨l0, t0, rest, h1, h2, h3⟩ := h
  exact ⟨l0, t0, rest, h1, .inl ⟨h2, h3⟩⟩

/-- a blank first line: behind the marker the line ends (`reached_end_of_line`), the content indent is
    `|mk| + 1` whatever the number of blanks -/
theorem itemRewrite_first_blank (hmk : MkOk mk) (hL : LinesOk L) {l0 t0 : List Char} {rest : DLines}
    (hL0 : L = (l0, t0) :: rest) (hb : l0.dropWhile Lines.isBlank = []) :
    itemRewrite (Lines.flat (indentLines (preAt mk) L))
        ⟨0, mk.length + 1 + Lines.byteLen l0, 0, 0⟩ mk.length
      = .ok (shiftE (mk.length + 1) ((mk.length + 1 : Nat) : Int) 0 (freshEntry L 0), mk.length + 1, true) := by
  obtain ⟨hfresh, hfi, hbl⟩ := first_line_facts hmk hL hL0
  have hsl := slice_first_line hmk hL0
  rw [hb, Lines.byteLen_nil, Nat.add_zero] at hbl
  have heq : (mk.length + (' ' :: lead l0).length == mk.length + 1 + Lines.byteLen l0) = true := by
    simp only [beq_iff_eq, List.length_cons]
    omega
  unfold itemRewrite
  simp only [show ¬ ((0 : Int) < 0) by omega, if_false, hsl, liftL_ok', ok_bind, psub_eq (Nat.zero_le _), Nat.add_zero,
    Nat.sub_zero, hfi, heq, if_true, pure, Except.pure, hfresh, shiftE, Except.ok.injEq, Prod.mk.injEq, and_true]
  simp only [List.length_cons, Int.toNat_zero]
  refine ⟨?_, by omega⟩
  congr 1 <;> (try push_cast) <;> omega

/-- line 1 of the prefixed document is not empty when line 1 of `D` is absent or not blank -/
theorem second_not_empty (hmk : MkOk mk) (hL : LinesOk L) {l0 t0 : List Char} {rest : DLines}
    (hL0 : L = (l0, t0) :: rest)
    (h : rest = [] ∨ ∃ l1 t1 rest', rest = (l1, t1) :: rest' ∧ l1.dropWhile Lines.isBlank ≠ []) :
    Lines.isEmpty (Lines.offsetsOf 0 (indentLines (preAt mk) L)) 1 = false := by
  rcases h with rfl | ⟨l1, t1, rest', rfl, hnb⟩
  · have : (Lines.offsetsOf 0 (indentLines (preAt mk) L))[1]? = none := by
      apply List.getElem?_eq_none; rw [hL0]; simp
    simp [Lines.isEmpty, this]
  · have h1 : 1 < L.length := by rw [hL0]; simp
    have hg1 : L[1] = (l1, t1) := by simp [hL0]
    have he := offsetsOf_entry (indentLines (preAt mk) L) 1 (by rw [indentLines_length]; exact h1)
    rw [fresh_shift hmk hL 1 (by omega) h1] at he
    have hbl : Lines.byteLen l1 = (lead l1).length + Lines.byteLen (l1.dropWhile Lines.isBlank) := by
      have := congrArg Lines.byteLen (Lines.lead_append_rest l1)
      simp only [Lines.byteLen_append, Lines.byteLen_lead] at this
      omega
    have hrest : 1 ≤ Lines.byteLen (l1.dropWhile Lines.isBlank) := by
      cases hd : l1.dropWhile Lines.isBlank with
      | nil => exact absurd hd hnb
      | cons c r => have := Lines.utf8Size_pos' c; simp; omega
    simp only [Lines.isEmpty, he, shiftE, freshEntry, List.getElem?_eq_getElem h1, hg1, mkOff,
      decide_eq_false_iff_not, ge_iff_le, Nat.not_le]
    omega

/-- what the list rule computes on the marker line, under `FirstOk2` -/
theorem first_rewrite (hmk : MkOk mk) (hL : LinesOk L) (hf : FirstOk2 L) :
    ∃ l0 t0 rest, L = (l0, t0) :: rest ∧ ∃ re : Bool,
      itemRewrite (Lines.flat (indentLines (preAt mk) L)) ⟨0, mk.length + 1 + Lines.byteLen l0, 0, 0⟩ mk.length
        = .ok (shiftE (mk.length + 1) ((mk.length + 1 : Nat) : Int) 0 (freshEntry L 0), mk.length + 1, re) ∧
      (re = true → Lines.isEmpty (Lines.offsetsOf 0 (indentLines (preAt mk) L)) 1 = false) := by
  obtain ⟨l0, t0, rest, hL0, h⟩ := hf
  refine ⟨l0, t0, rest, hL0, ?_⟩
  rcases h with ⟨hnb, hind⟩ | ⟨hb, hsec⟩
  · exact ⟨false, itemRewrite_first hmk hL hL0 hnb hind, fun h => by cases h⟩
  · exact ⟨true, itemRewrite_first_blank hmk hL hL0 hb, fun _ => second_not_empty hmk hL hL0 hsec⟩

end fresh

/-! ### symbolic execution of the list rule on a one-item list -/

section exec

/-- one list item whose body is handed to the nested tokenizer (`reached_end_of_line` allowed, provided
    the empty-item workaround does not fire) -/
theorem listItem_exec {tok : Tok} {A : BState} {m pos : Nat} {pee tight re : Bool} {o o₂ : LineOffset} {indent : Nat}
    (ho : A.off m = .ok o) (hrw : itemRewrite A.src o pos = .ok (o₂, indent, re))
    (hre : re = true → Lines.isEmpty (A.offs.set m o₂) (m + 1) = false) {t' : BState}
    (htok : tok { src := A.src, offs := A.offs.set m o₂, blkIndent := indent, line := m, lineMax := A.lineMax,
                  tight := true, listIndent := some A.blkIndent, level := A.level + 1, nodeKind := .listItem,
                  children := [], refs := A.refs } = .ok t')
    (hlv : t'.level = A.level + 1) (hli : t'.listIndent = some A.blkIndent) (hoffs : t'.offs = A.offs.set m o₂)
    (hln : m + 1 ≤ t'.line) {r : Nat × Nat} (hr : Lines.getMap A.offs m (t'.line - 1) = .ok r) :
    ∃ pee', listItem tok A m pos pee tight =
      .ok ({ t' with level := A.level, blkIndent := A.blkIndent, listIndent := A.listIndent, offs := A.offs,
                     tight := A.tight, nodeKind := A.nodeKind,
                     children := A.children ++ [⟨t'.nodeKind, some r, t'.children⟩] },
           (if ¬ t'.tight ∨ pee then false else tight), pee') := by
  have hm : m < A.offs.length := off_lt ho
  have hself : (A.offs.set m o₂).set m o = A.offs := by
    rw [List.set_set]
    have := (List.getElem?_eq_some_iff.mp (off_ok ho)).2
    rw [← this]; exact List.set_getElem_self _
  have hcond : ¬ (re = true ∧ Lines.isEmpty (A.offs.set m o₂) (m + 1) = true) := by
    rintro ⟨h1, h2⟩
    rw [hre h1] at h2; cases h2
  unfold listItem listItemBody prevEmptyEndOf
  simp only [ho, hrw, ok_bind, BState.setOff, hm, if_true, BState.isEmpty, hcond, if_false, htok, hlv,
    psub_eq (Nat.le_add_left 1 A.level), Nat.add_sub_cancel, hli, hoffs, List.length_set, hself,
    psub_eq (show m ≤ t'.line by omega), psub_eq (show 1 ≤ t'.line by omega), pure, Except.pure]
  split
  · simp only [ok_bind, BState.getMap, hr, liftL_ok']
    exact ⟨_, rfl⟩
  · simp only [ok_bind, BState.getMap, hr, liftL_ok']
    exact ⟨_, rfl⟩

/-- the list loop over a list of one item that ends at `line_max` -/
theorem listLoop_exec {tok : Tok} {test : Test} {ordered : Bool} {mc : Char} {fuel : Nat} {A A8 : BState}
    {m pos : Nat} {pee tight tg pee' : Bool} (hlt : m < A.lineMax)
    (hitem : listItem tok A m pos pee tight = .ok (A8, tg, pee')) (hend : A8.line ≥ A8.lineMax) :
    listLoop tok test ordered mc (fuel + 1) A m pos pee tight = .ok (A8.line, tg, A8) := by
  simp only [listLoop, hlt, not_true_eq_false, if_false, hitem, ok_bind, listContinue, if_pos hend, pure, Except.pure]

/-- the node value of a list, from what `detectMarker` / `markerCharOf` return -/
def kindOf (mv : Option Nat) (mc : Char) : Kind :=
  match mv with
  | some v => .orderedList v mc
  | none => .bulletList mc

/-- the list rule in real mode over a list of one item -/
theorem listRule_exec {tok : Tok} {test : Test} {fuel : Nat} {A0 A8 : BState} {cur : List Char} {pos : Nat}
    {mv : Option Nat} {mc : Char} {n : Nat} {tg : Bool} {item : BNode} {r : Nat × Nat}
    (hind : A0.lineIndent A0.line = .ok 0) (hsp : listSpecial A0 = .ok false)
    (hcur : A0.getLine A0.line = .ok cur) (hdet : detectMarker cur = .ok (some (pos, mv)))
    (hmc : markerCharOf cur pos = .ok mc)
    (hloop : listLoop tok test mv.isSome mc fuel
      { A0 with nodeKind := kindOf mv mc, children := [], level := A0.level + 1 } A0.line pos false true
        = .ok (n, tg, A8))
    (hch : A8.children = [item]) (hik : item.kind = .listItem) (hlv : A8.level = A0.level + 1) (hn : 1 ≤ n)
    (hr : A8.getMap A0.line (n - 1) = .ok r) :
    listRule tok test fuel A0 false =
      .ok (true, { A8 with level := A0.level, nodeKind := A0.nodeKind,
                           children := A0.children ++ [⟨A8.nodeKind, some r,
                             if tg then [{ item with children := markTight item.children }] else [item]⟩] }) := by
  unfold kindOf at hloop
  unfold listRule
  cases mv with
  | none =>
    simp only [Option.isSome_none] at hloop
    simp only [Bool.false_eq_true, false_and, if_false, hind, ok_bind, hsp, hcur, hdet, emptyItemCheck, pure, Except.pure,
      hmc, Bool.false_and, show ¬ ((0 : Int) ≥ 4) by omega, decide_false, Option.isSome_none, hloop, hch, hlv,
      psub_eq (Nat.le_add_left 1 A0.level), Nat.add_sub_cancel, psub_eq hn, hr]
    cases tg with
    | true => simp only [if_true, tightenItems, hik, ne_eq, not_true_eq_false, if_false, ok_bind]
    | false => simp only [Bool.false_eq_true, if_false, ok_bind]
  | some v =>
    simp only [Option.isSome_some] at hloop
    simp only [Bool.false_eq_true, false_and, if_false, hind, ok_bind, hsp, hcur, hdet, emptyItemCheck, pure, Except.pure,
      hmc, Bool.false_and, show ¬ ((0 : Int) ≥ 4) by omega, decide_false, Option.isSome_some, hloop, hch, hlv,
      psub_eq (Nat.le_add_left 1 A0.level), Nat.add_sub_cancel, psub_eq hn, hr]
    cases tg with
    | true => simp only [if_true, tightenItems, hik, ne_eq, not_true_eq_false, if_false, ok_bind]
    | false => simp only [Bool.false_eq_true, if_false, ok_bind]

end exec

/-! ### the outer run on the prefixed document -/

section outer
variable {mk : List Char}

/-- the list rule on the prefixed document, given the run on `D` and what the rule computes on the marker line -/
theorem list_on_prefixed2 {cfg cfg' : Cfg} (R : CfgRel cfg cfg') (hmk : MkOk mk) (D : List Char)
    (htab : '\t' ∉ D) (hsize : Lines.byteLen D + mk.length + 9 < 2147483648)
    {l0 t0 : List Char} {rest : DLines} (hL0' : Lines.linesT D = (l0, t0) :: rest) {re : Bool}
    (hrw' : itemRewrite (Lines.flat (indentLines (preAt mk) (Lines.linesT D)))
        ⟨0, mk.length + 1 + Lines.byteLen l0, 0, 0⟩ mk.length
      = .ok (shiftE (mk.length + 1) ((mk.length + 1 : Nat) : Int) 0 (freshEntry (Lines.linesT D) 0), mk.length + 1, re))
    (hre' : re = true → Lines.isEmpty (Lines.offsetsOf 0 (indentLines (preAt mk) (Lines.linesT D))) 1 = false)
    {mv : Option Nat} {mc : Char}
    (hdet : ∀ rest, detectMarker (mk ++ ' ' :: rest) = .ok (some (mk.length, mv)))
    (hmc : ∀ rest, markerCharOf (mk ++ ' ' :: rest) mk.length = .ok mc)
    {G : Nat} {t : BState} (ht : tokenize cfg G (BState.fresh D .root []) = .ok t) :
    ∃ (t1 : BState) (r : Nat × Nat),
      listRule (tokenize cfg' G) (testRules cfg' G) (G + 1) (BState.fresh (itemDoc mk D) .root []) false
        = .ok (true, t1) ∧
      t1.line = (Lines.linesT D).length ∧ t1.lineMax = (Lines.linesT D).length ∧ t1.nodeKind = .root ∧
      t1.refs = t.refs ∧
      t1.children = [⟨kindOf mv mc, some r, [⟨.listItem, some r,
          if t.tight then markTight (relocNodes (tau (mk.length + 1) (Lines.linesT D)) t.children)
          else relocNodes (tau (mk.length + 1) (Lines.linesT D)) t.children⟩]⟩] ∧
      Lines.getMap (Lines.splitLines (itemDoc mk D)) 0 ((Lines.linesT D).length - 1) = .ok r := by
  obtain ⟨L, hLdef⟩ : ∃ L, L = Lines.linesT D := ⟨_, rfl⟩
  rw [← hLdef] at hL0' hrw' hre' ⊢
  have hL : LinesOk L := by rw [hLdef]; exact linesOk_linesT D htab (by omega)
  have hflat : Lines.flat L = D := by rw [hLdef]; exact Lines.linesT_flat D
  have hL0 := hL0'
  have hn1 : 1 ≤ L.length := by rw [hL0]; simp
  have hg0 : L[0] = (l0, t0) := by simp [hL0]
  obtain ⟨C, hC⟩ : ∃ C : Ctx, C = ⟨mk.length + 1, preAt mk, L⟩ := ⟨_, rfl⟩
  obtain ⟨s0, hs0⟩ : ∃ s0, s0 = BState.fresh D .root [] := ⟨_, rfl⟩
  obtain ⟨A0, hA0⟩ : ∃ A0, A0 = BState.fresh (itemDoc mk D) .root [] := ⟨_, rfl⟩
  rw [← hs0] at ht
  rw [← hA0]
  -- the two fresh tables
  have hoffs0 : s0.offs = Lines.offsetsOf 0 L := by rw [hs0, hLdef]; exact Lines.splitLines_eq D
  have hoffsA : A0.offs = Lines.offsetsOf 0 (indentLines (preAt mk) L) := by
    rw [hA0, hLdef]; exact splitLines_itemDoc hmk D
  have hlen0 : s0.offs.length = L.length := by rw [hoffs0]; simp
  have hlenA : A0.offs.length = L.length := by rw [hoffsA]; simp
  have hlm0 : s0.lineMax = L.length := by rw [← hlen0, hs0]; rfl
  have hlmA : A0.lineMax = L.length := by rw [← hlenA, hA0]; rfl
  have hsrcA : A0.src = Lines.flat (indentLines (preAt mk) L) := by rw [hA0, hLdef]; rfl
  have hA0line : A0.line = 0 := by rw [hA0]; rfl
  have hA0blk : A0.blkIndent = 0 := by rw [hA0]; rfl
  have hA0lvl : A0.level = 0 := by rw [hA0]; rfl
  have hA0li : A0.listIndent = none := by rw [hA0]; rfl
  have hA0k : A0.nodeKind = .root := by rw [hA0]; rfl
  have hA0c : A0.children = [] := by rw [hA0]; rfl
  have hA0r : A0.refs = [] := by rw [hA0]; rfl
  have hA0t : A0.tight = false := by rw [hA0]; rfl
  have hentA : ∀ i, i < L.length → A0.offs[i]? = some (freshEntry (indentLines (preAt mk) L) i) := fun i hi => by
    rw [hoffsA]; exact offsetsOf_entry _ i (by rw [indentLines_length]; exact hi)
  have hent0 : ∀ i, i < L.length → s0.offs[i]? = some (freshEntry L i) := fun i hi => by
    rw [hoffs0]; exact offsetsOf_entry _ i hi
  have hfirstE : freshEntry (indentLines (preAt mk) L) 0 = ⟨0, mk.length + 1 + Lines.byteLen l0, 0, 0⟩ := by
    have := fresh_first (L := L) hmk (by omega)
    rw [hg0] at this; exact this
  -- reading line 0
  have hoffA0 : A0.off 0 = .ok ⟨0, mk.length + 1 + Lines.byteLen l0, 0, 0⟩ := by
    simp [BState.off, hentA 0 (by omega), hfirstE]
  have hindA : A0.lineIndent A0.line = .ok 0 := by
    simp [BState.lineIndent, Lines.lineIndent, hA0line, hentA 0 (by omega), hfirstE, hA0blk, liftL]
  have hcurA : A0.getLine A0.line = .ok (mk ++ ' ' :: l0) := by
    simp only [BState.getLine, Lines.getLine, hA0line, hentA 0 (by omega), hfirstE, hsrcA, slice_first_line hmk hL0,
      liftL_ok']
  have hspA : listSpecial A0 = .ok false := by simp [listSpecial, hA0li, pure, Except.pure]
  -- the item's first line
  have hrw := hrw'
  rw [← hsrcA] at hrw
  obtain ⟨E0, hE0⟩ : ∃ E0, E0 = shiftE (mk.length + 1) ((mk.length + 1 : Nat) : Int) 0 (freshEntry L 0) := ⟨_, rfl⟩
  rw [← hE0] at hrw
  -- the state handed to the nested tokenizer
  obtain ⟨B, hB⟩ : ∃ B : BState, B = (⟨A0.src, A0.offs.set 0 E0, mk.length + 1, 0, A0.lineMax, true, some A0.blkIndent,
      A0.level + 1 + 1, .listItem, [], A0.refs⟩ : BState) := ⟨_, rfl⟩
  have hwin : Win (mk.length + 1) (mk.length + 1) 0 L.length s0.offs B.offs := by
    intro i _ hi
    refine ⟨?_, fun _ o ho => ?_⟩
    · rw [hent0 i hi, hB]
      simp only [Option.map_some]
      by_cases hi0 : i = 0
      · subst hi0
        simp only [List.getElem?_set, if_true, hlenA, hE0]
        rw [if_pos (by omega)]
      · simp only [List.getElem?_set, if_neg (Ne.symm hi0)]
        rw [hentA i hi, fresh_shift hmk hL i (by omega) hi]
    · rw [hent0 i hi] at ho
      cases ho
      simp [freshEntry, List.getElem?_eq_getElem hi, mkOff]
  have hq_ok : ∀ (i : Nat) (o : LineOffset), s0.offs[i]? = some o → EntryOk L i o := by
    intro i o ho
    have hi : i < L.length := by
      have := (List.getElem?_eq_some_iff.mp ho).1; omega
    rw [hent0 i hi] at ho
    cases ho
    exact entryOk_fresh hL i hi
  have hq_geo : ∀ i : Nat, ∃ di : Int, B.offs[i]? = (s0.offs[i]?).map (shiftE (mk.length + 1) di i) := by
    intro i
    by_cases hi : i < L.length
    · exact ⟨((mk.length + 1 : Nat) : Int), (hwin i (Nat.zero_le _) hi).1⟩
    · refine ⟨0, ?_⟩
      have h1 : B.offs[i]? = none := by
        apply List.getElem?_eq_none; rw [hB]; simp only [List.length_set]; omega
      have h2 : s0.offs[i]? = none := by
        apply List.getElem?_eq_none; omega
      rw [h1, h2]; rfl
  have T0 : Tbl C 0 (mk.length + 1) s0 B := by
    subst hC
    exact { pre := preOk_preAt hmk, lines := hL, src := by rw [hs0, hflat]; rfl, src' := by rw [hB]; exact hsrcA,
            q := ⟨hlen0, hq_ok, hq_geo⟩, win := by rw [hlm0]; exact hwin,
            blk := by rw [hB, hs0]; simp [BState.fresh],
            small := by rw [hs0]; exact Nat.zero_le _, dsmall := Nat.le_refl _,
            wsize := by simp only; rw [hflat]; omega }
  have hs0li : s0.listIndent = none := by rw [hs0]; rfl
  have hs0blk : s0.blkIndent = 0 := by rw [hs0]; rfl
  have hs0line : s0.line = 0 := by rw [hs0]; rfl
  have S0 : Sim C 0 (mk.length + 1) false s0 B :=
    { tbl := T0, line := by rw [hB, hs0line], lineMax := by rw [hB]; simp only; rw [hlmA, hlm0],
      tight := (fun h => by cases h),
      listIndent := .inr (.inr ⟨hs0blk, hs0li, by rw [hB]; simp only; rw [hA0blk]⟩),
      level := by rw [hB]; simp only; rw [hA0lvl, hs0]; rfl,
      nodeKind := .inr ⟨by rw [hs0]; rfl, by rw [hB]⟩,
      children := by rw [hB, hs0]; rfl, refs := by rw [hB]; simp only; rw [hA0r, hs0]; rfl }
  -- the nested run
  obtain ⟨t', htok', St, hor⟩ := tokenize_sim_any (C := C) R S0 (Nat.zero_le _) ht
  have hfr' := (tokenize_tokSpec cfg' G).frame _ _ htok'
  -- the lines consumed
  have htl : t.line = L.length := by
    have h1 := tokenize_fresh_end (cfg := cfg) (F := G) (D := D) (k := .root) (refs := []) (t := t) (by rw [← hs0]; exact ht)
    rw [h1, ← hlen0, hs0]; rfl
  have ht'l : t'.line = L.length := by rw [St.line, htl]
  -- the range
  obtain ⟨r, hr0⟩ : ∃ r, Lines.getMap A0.offs 0 (L.length - 1) = .ok r := by
    have h0 : 0 < A0.offs.length := by omega
    have h1 : L.length - 1 < A0.offs.length := by omega
    refine ⟨(A0.offs[0].firstNonspace, A0.offs[L.length - 1].lineEnd), ?_⟩
    simp [Lines.getMap, List.getElem?_eq_getElem h0, List.getElem?_eq_getElem h1]
  -- the item
  obtain ⟨A1, hA1⟩ : ∃ A1 : BState, A1 = { A0 with nodeKind := kindOf mv mc, children := [], level := A0.level + 1 } := ⟨_, rfl⟩
  have htokB : tokenize cfg' G (⟨A1.src, A1.offs.set 0 E0, mk.length + 1, 0, A1.lineMax, true, some A1.blkIndent,
      A1.level + 1, .listItem, [], A1.refs⟩ : BState) = .ok t' := by
    rw [hA1]; rw [hB] at htok'; exact htok'
  obtain ⟨pee', hitem⟩ := listItem_exec (re := re) (tok := tokenize cfg' G) (A := A1) (m := 0) (pos := mk.length) (pee := false)
    (tight := true) (o₂ := E0) (indent := mk.length + 1) (t' := t') (r := r)
    (by rw [hA1]; exact hoffA0) (by rw [hA1]; exact hrw)
    (fun h => by
      rw [hA1]; simp only
      have := hre' h
      rw [← hoffsA] at this
      simp only [Lines.isEmpty, List.getElem?_set, show ¬ (0 = 0 + 1) by omega, if_false] at this ⊢
      exact this) htokB
    (by rw [hfr'.level, hB, hA1]) (by rw [hfr'.listIndent, hB, hA1]) (by rw [hfr'.offs, hB, hA1])
    (by omega) (by rw [ht'l, hA1]; exact hr0)
  -- the loop
  have hloop := listLoop_exec (test := testRules cfg' G) (ordered := mv.isSome) (mc := mc) (fuel := G)
    (show 0 < A1.lineMax by rw [hA1]; simp only; omega) hitem
    (by simp only [ge_iff_le]; rw [hfr'.lineMax, ht'l, hB]; simp only; omega)
  simp only at hloop
  rw [ht'l] at hloop
  -- the rule
  have hrule := listRule_exec (tok := tokenize cfg' G) (test := testRules cfg' G) (fuel := G + 1) (A0 := A0)
    (pos := mk.length) (mv := mv) (mc := mc) (n := L.length) (r := r)
    (item := ⟨t'.nodeKind, some r, t'.children⟩) hindA hspA hcurA (hdet l0) (hmc l0)
    (by rw [hA1] at hloop; simp only [hA0line] at hloop ⊢; exact hloop)
    rfl (by simp only; rw [hfr'.nodeKind, hB]) rfl hn1
    (by simp only [BState.getMap, hA0line, hr0, liftL_ok'])
  refine ⟨_, r, hrule, ?_, ?_, ?_, ?_, ?_, ?_⟩
  · simp only [ht'l]
  · simp only; rw [hfr'.lineMax, hB]; exact hlmA
  · simp only [hA0k]
  · simp only [St.refs]
  · have hs0c : s0.children = [] := by rw [hs0]; rfl
    rcases hor with htt | hcc
    · simp only [hA0c, List.nil_append, hA1, St.children, hfr'.nodeKind, hB, htt]
      subst hC
      cases t.tight <;> simp
    · rw [hs0c] at hcc
      simp only [hA0c, List.nil_append, hA1, St.children, hfr'.nodeKind, hB, hcc]
      cases t'.tight <;> cases t.tight <;> simp [relocNodes, markTight]
  · rw [← hr0, hA0]; rfl

/-- reading line 0 of the prefixed document in the fresh state -/
theorem fresh_item_reads (hmk : MkOk mk) (D : List Char) {l0 t0 : List Char} {rest : DLines}
    (hL0 : Lines.linesT D = (l0, t0) :: rest) :
    (BState.fresh (itemDoc mk D) .root []).lineIndent 0 = .ok 0 ∧
    (BState.fresh (itemDoc mk D) .root []).getLine 0 = .ok (mk ++ ' ' :: l0) ∧
    (BState.fresh (itemDoc mk D) .root []).isEmpty 0 = false := by
  obtain ⟨L, hLdef⟩ : ∃ L, L = Lines.linesT D := ⟨_, rfl⟩
  rw [← hLdef] at hL0
  have hn1 : 1 ≤ L.length := by rw [hL0]; simp
  have hg0 : L[0] = (l0, t0) := by simp [hL0]
  obtain ⟨A0, hA0⟩ : ∃ A0, A0 = BState.fresh (itemDoc mk D) .root [] := ⟨_, rfl⟩
  rw [← hA0]
  have hoffsA : A0.offs = Lines.offsetsOf 0 (indentLines (preAt mk) L) := by
    rw [hA0, hLdef]; exact splitLines_itemDoc hmk D
  have hsrcA : A0.src = Lines.flat (indentLines (preAt mk) L) := by rw [hA0, hLdef]; rfl
  have hA0blk : A0.blkIndent = 0 := by rw [hA0]; rfl
  have hentA : A0.offs[0]? = some (freshEntry (indentLines (preAt mk) L) 0) := by
    rw [hoffsA]; exact offsetsOf_entry _ 0 (by rw [indentLines_length]; omega)
  have hfirstE : freshEntry (indentLines (preAt mk) L) 0 = ⟨0, mk.length + 1 + Lines.byteLen l0, 0, 0⟩ := by
    have := fresh_first (L := L) hmk (by omega)
    rw [hg0] at this; exact this
  refine ⟨?_, ?_, ?_⟩
  · simp [BState.lineIndent, Lines.lineIndent, hentA, hfirstE, hA0blk, liftL]
  · simp only [BState.getLine, Lines.getLine, hentA, hfirstE, hsrcA, slice_first_line hmk hL0, liftL_ok']
  · simp [BState.isEmpty, Lines.isEmpty, hentA, hfirstE]

/-- the rules that may stand in front of the list rule in the chain -/
def frontOkL : RuleId → Bool
  | .code | .fence | .blockquote | .hr | .reference | .heading => true
  | _ => false

/-- the verdict of the thematic-break rule in look-ahead mode, as a function of the line's indent and text -/
def _root_.MdIt.Block.hrLook (ind : Int) (line : List Char) : Bool :=
  if ind ≥ 4 then false else
  match line with
  | [] => false
  | marker :: rest =>
    if ¬ (marker = '*' ∨ marker = '-' ∨ marker = '_') then false else
    match hrCount marker rest 1 with
    | none => false
    | some cnt => !decide (cnt < 3)

/-- the thematic-break rule in real mode rejects a line that its look-ahead rejects -/
theorem hr_rejects {s : BState} {line : List Char} (hind : s.lineIndent s.line = .ok 0)
    (hline : s.getLine s.line = .ok line) (h : hrLook 0 line = false) : hrRule s false = .ok (false, s) := by
  unfold hrRule
  simp only [hind, ok_bind, show ¬ ((0 : Int) ≥ 4) by omega, if_false, hline]
  unfold hrLook at h
  simp only [show ¬ ((0 : Int) ≥ 4) by omega, if_false] at h
  cases line with
  | nil => rfl
  | cons m rest =>
    simp only at h ⊢
    split
    · rfl
    · rw [if_neg ‹_›] at h
      split
      · rfl
      · rename_i cnt hc
        rw [hc] at h
        simp only [Bool.not_eq_false', decide_eq_true_eq] at h
        rw [if_pos h]
        rfl

/-- a front rule rejects a line that starts with a list-marker character at indent 0 (and is not a
    thematic break) -/
theorem front_rejects_L {cfg : Cfg} {tok : Tok} {test : Test} {fuel : Nat} {r : RuleId} (hr : frontOkL r = true)
    {s : BState} {c : Char} {rest : List Char} (hind : s.lineIndent s.line = .ok 0)
    (hline : s.getLine s.line = .ok (c :: rest))
    (hc : c ≠ '~' ∧ c ≠ '`' ∧ c ≠ '>' ∧ c ≠ '#' ∧ c ≠ '[') (hhr : r = .hr → hrLook 0 (c :: rest) = false) :
    runRule cfg tok test fuel r s false = .ok (false, s) := by
  cases r <;> simp [frontOkL] at hr
  · simp [runRule, codeRule, hind, pure, Except.pure]
  · simp [runRule, fenceRule, hind, hline, pure, Except.pure, hc.1, hc.2.1]
  · simp [runRule, blockquoteRule, hind, hline, pure, Except.pure, hc.2.2.1]
  · exact hr_rejects hind hline (hhr rfl)
  · simp [runRule, referenceRule, hind, hline, pure, Except.pure, hc.2.2.2.2]
  · simp [runRule, headingRule, hind, hline, pure, Except.pure, hc.2.2.2.1]

theorem runChain_front_L {run : RuleId → BState → Bool → Res} {s : BState} :
    ∀ (pre : List RuleId) (post : List RuleId), (∀ r ∈ pre, run r s false = .ok (false, s)) →
      runChain run (pre ++ post) s false = runChain run post s false := by
  intro pre
  induction pre with
  | nil => intro post _; rfl
  | cons r rs ih =>
    intro post h
    simp only [List.cons_append, runChain, h r (by simp)]
    exact ih post (fun x hx => h x (List.mem_cons_of_mem _ hx))

/-- what `tau` does, in terms of the two documents: byte `x` of line `i` of `D` (the position of the line's
    end included) lands on byte `w + x` of line `i` of the prefixed document -/
theorem tau_spec (hmk : MkOk mk) (D : List Char) (htab : '\t' ∉ D) (hsize : Lines.byteLen D + 8 < 2147483648) {i : Nat}
    (h : i < (Lines.linesT D).length) {x : Nat} (hx : x ≤ Lines.byteLen (Lines.linesT D)[i].1) :
    tau (mk.length + 1) (Lines.linesT D) (startOf (Lines.linesT D) i + x)
      = startOf (indentLines (preAt mk) (Lines.linesT D)) i + (mk.length + 1) + x := by
  rw [tau_in_line _ (linesOk_linesT D htab hsize) h hx, startOf_indent (preOk_preAt hmk) _ _ (Nat.le_of_lt h)]

/-- **C06, list half, whole document** (general marker, exact first-line condition).  `D` a tab-free document
    whose first line is non-blank at indent 0 or ≥ 4 — or blank, and then followed by a non-blank line or by
    nothing (`FirstOk2`); `mk` a marker the list rule recognises (`hdet`, `hmc`:
    `detectMarker` / `markerCharOf` on a line `mk ++ " " ++ …`), made of one-byte non-blank characters, not
    starting with a character another front rule reacts to; the chain of `cfg` has the list rule behind
    rules of `frontOkL` only, and if the thematic-break rule is among them the marker line is not a
    thematic break.  If the block tokenizer accepts `D` (final state `t`), then with two more levels of
    nesting allowed `itemDoc mk D` parses to a root with exactly one child, a list of the marker's kind
    with exactly one item, both over all lines, whose children are the blocks of `D` with every position
    moved by `tau` — paragraphs unwrapped exactly when the run on `D` ended `tight` — and the reference
    definitions collected are the same. -/
theorem item_commutes_gen2 (cfg : Cfg) (hmk : MkOk mk) {mv : Option Nat} {mc : Char}
    (hdet : ∀ rest, detectMarker (mk ++ ' ' :: rest) = .ok (some (mk.length, mv)))
    (hmc : ∀ rest, markerCharOf (mk ++ ' ' :: rest) mk.length = .ok mc)
    (hc0 : ∀ c r, mk = c :: r → c ≠ '~' ∧ c ≠ '`' ∧ c ≠ '>' ∧ c ≠ '#' ∧ c ≠ '[')
    (D : List Char) (htab : '\t' ∉ D) (hsize : Lines.byteLen D + mk.length + 9 < 2147483648)
    (hfirst : FirstOk2 (Lines.linesT D))
    (pre post : List RuleId) (hchain : cfg.chain = pre ++ .list :: post)
    (hpre : ∀ r ∈ pre, frontOkL r = true)
    (hhr : .hr ∈ pre → ∀ l0 t0 rest, Lines.linesT D = (l0, t0) :: rest → hrLook 0 (mk ++ ' ' :: l0) = false)
    {t : BState} (h : tokenize cfg (fuelFor cfg D) (BState.fresh D .root []) = .ok t) :
    ∃ r, Lines.getMap (Lines.splitLines (itemDoc mk D)) 0 ((Lines.linesT D).length - 1) = .ok r ∧
      parseBlocks { cfg with maxNesting := cfg.maxNesting + 2 } (itemDoc mk D) =
      .ok (⟨.root, some (0, Lines.byteLen (itemDoc mk D)),
            [⟨kindOf mv mc, some r, [⟨.listItem, some r,
              if t.tight then markTight (relocNodes (tau (mk.length + 1) (Lines.linesT D)) t.children)
              else relocNodes (tau (mk.length + 1) (Lines.linesT D)) t.children⟩]⟩]⟩, t.refs) := by
  obtain ⟨cfg', hcfg'⟩ : ∃ c, c = { cfg with maxNesting := cfg.maxNesting + 2 } := ⟨_, rfl⟩
  have R : CfgRel cfg cfg' := by subst hcfg'; exact ⟨rfl, rfl, rfl, rfl, rfl⟩
  rw [← hcfg']
  have hn : (Lines.splitLines D).length = (Lines.linesT D).length := by rw [Lines.splitLines_eq]; simp
  have hn' : (Lines.splitLines (itemDoc mk D)).length = (Lines.linesT D).length := by
    rw [splitLines_itemDoc hmk]; simp
  have hLok := linesOk_linesT D htab (by omega)
  obtain ⟨l0, t0, rest, hL0, re, hrwF, hreF⟩ := first_rewrite hmk hLok hfirst
  have hn1 : 1 ≤ (Lines.linesT D).length := by rw [hL0]; simp
  have hmk1 : 1 ≤ mk.length := by
    cases hm : mk with
    | nil => exact absurd hm hmk.ne
    | cons c r => simp
  obtain ⟨G, hG, hle, hGn⟩ : ∃ G, fuelFor cfg' (itemDoc mk D) = G + 2 ∧ fuelFor cfg D ≤ G + 1 ∧
      (Lines.linesT D).length < G + 2 := by
    refine ⟨fuelFor cfg' (itemDoc mk D) - 2, ?_, ?_, ?_⟩
    · unfold fuelFor; omega
    · unfold fuelFor
      rw [hn, hn', byteLen_itemDoc hmk, R.nesting]
      have : 2 ≤ (mk.length + 1) * (Lines.linesT D).length := by
        calc 2 = 2 * 1 := rfl
          _ ≤ (mk.length + 1) * (Lines.linesT D).length := Nat.mul_le_mul (by omega) hn1
      omega
    · unfold fuelFor
      rw [hn']
      omega
  have ht := tokenize_mono hle h
  obtain ⟨t1, r, hrule, h1, h2, h3, h4, h5, h6⟩ := list_on_prefixed2 R hmk D htab hsize hL0 hrwF hreF hdet hmc (G := G + 1) ht
  refine ⟨r, h6, ?_⟩
  obtain ⟨hind0, hline0, hne0⟩ := fresh_item_reads hmk D hL0
  obtain ⟨c0, r0, hc0r⟩ : ∃ c r, mk = c :: r := by
    cases hm : mk with
    | nil => exact absurd hm hmk.ne
    | cons c r => exact ⟨c, r, rfl⟩
  have hline0' : (BState.fresh (itemDoc mk D) .root []).getLine 0 = .ok (c0 :: (r0 ++ ' ' :: l0)) := by
    rw [hline0, hc0r]; rfl
  rw [parseBlocks_single_at (by rw [R.nesting]; exact Nat.succ_pos _)
    (by show 0 < (Lines.splitLines (itemDoc mk D)).length; rw [hn']; omega) hne0 hind0 (Int.le_refl 0) hG
    (by
      rw [R.chain, hchain]
      exact runChain_reach (fun q hq => front_rejects_L (hpre q hq) hind0 hline0' (hc0 c0 r0 hc0r) (fun hrr => by
        subst hrr
        have := hhr hq l0 t0 rest hL0
        rw [hc0r] at this; exact this)) hrule)
    (by rw [h1]; exact hn1) (by rw [h1, h2]) h3, h4, h5]

set_option linter.unusedVariables false in
/-- `item_commutes_gen2` for a first line that is not blank (`FirstOk`); `hnest` is not used -/
theorem item_commutes_gen (cfg : Cfg) (hmk : MkOk mk) {mv : Option Nat} {mc : Char}
    (hdet : ∀ rest, detectMarker (mk ++ ' ' :: rest) = .ok (some (mk.length, mv)))
    (hmc : ∀ rest, markerCharOf (mk ++ ' ' :: rest) mk.length = .ok mc)
    (hc0 : ∀ c r, mk = c :: r → c ≠ '~' ∧ c ≠ '`' ∧ c ≠ '>' ∧ c ≠ '#' ∧ c ≠ '[')
    (D : List Char) (htab : '\t' ∉ D) (hsize : Lines.byteLen D + mk.length + 9 < 2147483648)
    (hfirst : FirstOk (Lines.linesT D)) (hnest : 0 < cfg.maxNesting)
    (pre post : List RuleId) (hchain : cfg.chain = pre ++ .list :: post)
    (hpre : ∀ r ∈ pre, frontOkL r = true)
    (hhr : .hr ∈ pre → ∀ l0 t0 rest, Lines.linesT D = (l0, t0) :: rest → hrLook 0 (mk ++ ' ' :: l0) = false)
    {t : BState} (h : tokenize cfg (fuelFor cfg D) (BState.fresh D .root []) = .ok t) :
    ∃ r, Lines.getMap (Lines.splitLines (itemDoc mk D)) 0 ((Lines.linesT D).length - 1) = .ok r ∧
      parseBlocks { cfg with maxNesting := cfg.maxNesting + 2 } (itemDoc mk D) =
      .ok (⟨.root, some (0, Lines.byteLen (itemDoc mk D)),
            [⟨kindOf mv mc, some r, [⟨.listItem, some r,
              if t.tight then markTight (relocNodes (tau (mk.length + 1) (Lines.linesT D)) t.children)
              else relocNodes (tau (mk.length + 1) (Lines.linesT D)) t.children⟩]⟩]⟩, t.refs) :=
  item_commutes_gen2 cfg hmk hdet hmc hc0 D htab hsize hfirst.to2 pre post hchain hpre hhr h

/-- `item_commutes_gen2` in terms of `parseBlocks` alone: `tg` is the `tight` flag the run on `D` ends with -/
theorem item_commutes_gen2_parse (cfg : Cfg) (hmk : MkOk mk) {mv : Option Nat} {mc : Char}
    (hdet : ∀ rest, detectMarker (mk ++ ' ' :: rest) = .ok (some (mk.length, mv)))
    (hmc : ∀ rest, markerCharOf (mk ++ ' ' :: rest) mk.length = .ok mc)
    (hc0 : ∀ c r, mk = c :: r → c ≠ '~' ∧ c ≠ '`' ∧ c ≠ '>' ∧ c ≠ '#' ∧ c ≠ '[')
    (D : List Char) (htab : '\t' ∉ D) (hsize : Lines.byteLen D + mk.length + 9 < 2147483648)
    (hfirst : FirstOk2 (Lines.linesT D))
    (pre post : List RuleId) (hchain : cfg.chain = pre ++ .list :: post)
    (hpre : ∀ r ∈ pre, frontOkL r = true)
    (hhr : .hr ∈ pre → ∀ l0 t0 rest, Lines.linesT D = (l0, t0) :: rest → hrLook 0 (mk ++ ' ' :: l0) = false)
    {root : BNode} {refs : Refs.RefMap} (h : parseBlocks cfg D = .ok (root, refs)) :
    ∃ (tg : Bool) (r : Nat × Nat),
      Lines.getMap (Lines.splitLines (itemDoc mk D)) 0 ((Lines.linesT D).length - 1) = .ok r ∧
      parseBlocks { cfg with maxNesting := cfg.maxNesting + 2 } (itemDoc mk D) =
      .ok (⟨.root, some (0, Lines.byteLen (itemDoc mk D)),
            [⟨kindOf mv mc, some r, [⟨.listItem, some r,
              if tg then markTight (relocNodes (tau (mk.length + 1) (Lines.linesT D)) root.children)
              else relocNodes (tau (mk.length + 1) (Lines.linesT D)) root.children⟩]⟩]⟩, refs) := by
  unfold parseBlocks at h
  cases htk : tokenize cfg (fuelFor cfg D) (BState.fresh D .root []) with
  | error e => rw [htk] at h; cases h
  | ok t =>
    rw [htk] at h
    simp only [Except.ok.injEq, Prod.mk.injEq] at h
    obtain ⟨rfl, rfl⟩ := h
    obtain ⟨r, h1, h2⟩ := item_commutes_gen2 cfg hmk hdet hmc hc0 D htab hsize hfirst pre post hchain hpre hhr htk
    exact ⟨t.tight, r, h1, h2⟩

end outer

set_option linter.unusedVariables false in
/-- `item_commutes_gen` in terms of `parseBlocks` alone; `hnest` is not used -/
theorem item_commutes_gen_parse {mk : List Char} (cfg : Cfg) (hmk : MkOk mk) {mv : Option Nat} {mc : Char}
    (hdet : ∀ rest, detectMarker (mk ++ ' ' :: rest) = .ok (some (mk.length, mv)))
    (hmc : ∀ rest, markerCharOf (mk ++ ' ' :: rest) mk.length = .ok mc)
    (hc0 : ∀ c r, mk = c :: r → c ≠ '~' ∧ c ≠ '`' ∧ c ≠ '>' ∧ c ≠ '#' ∧ c ≠ '[')
    (D : List Char) (htab : '\t' ∉ D) (hsize : Lines.byteLen D + mk.length + 9 < 2147483648)
    (hfirst : FirstOk (Lines.linesT D)) (hnest : 0 < cfg.maxNesting)
    (pre post : List RuleId) (hchain : cfg.chain = pre ++ .list :: post)
    (hpre : ∀ r ∈ pre, frontOkL r = true)
    (hhr : .hr ∈ pre → ∀ l0 t0 rest, Lines.linesT D = (l0, t0) :: rest → hrLook 0 (mk ++ ' ' :: l0) = false)
    {root : BNode} {refs : Refs.RefMap} (h : parseBlocks cfg D = .ok (root, refs)) :
    ∃ (tg : Bool) (r : Nat × Nat),
      Lines.getMap (Lines.splitLines (itemDoc mk D)) 0 ((Lines.linesT D).length - 1) = .ok r ∧
      parseBlocks { cfg with maxNesting := cfg.maxNesting + 2 } (itemDoc mk D) =
      .ok (⟨.root, some (0, Lines.byteLen (itemDoc mk D)),
            [⟨kindOf mv mc, some r, [⟨.listItem, some r,
              if tg then markTight (relocNodes (tau (mk.length + 1) (Lines.linesT D)) root.children)
              else relocNodes (tau (mk.length + 1) (Lines.linesT D)) root.children⟩]⟩]⟩, refs) :=
  item_commutes_gen2_parse cfg hmk hdet hmc hc0 D htab hsize hfirst.to2 pre post hchain hpre hhr h

/-! ### bullet markers -/

section bullet

theorem mkOk_bullet {c : Char} (hc : c = '-' ∨ c = '*' ∨ c = '+') : MkOk [c] := by
  refine ⟨by simp, ?_, ?_⟩
  · intro x hx; simp at hx; subst hx; rcases hc with rfl | rfl | rfl <;> decide
  · intro x hx; simp at hx; subst hx; rcases hc with rfl | rfl | rfl <;> decide

theorem detect_bullet {c : Char} (hc : c = '-' ∨ c = '*' ∨ c = '+') (rest : List Char) :
    detectMarker ([c] ++ ' ' :: rest) = .ok (some (([c] : List Char).length, none)) := by
  rcases hc with rfl | rfl | rfl <;>
    simp [detectMarker, skipOrdered, skipBullet, isDigit, isBlank, pure, Except.pure]

theorem markerChar_bullet {c : Char} (hc : c = '-' ∨ c = '*' ∨ c = '+') (rest : List Char) :
    markerCharOf ([c] ++ ' ' :: rest) ([c] : List Char).length = .ok c := by
  have hs : Lines.slice ([c] ++ ' ' :: rest) 0 1 = .ok [c] :=
    Lines.slice_eq_ok_iff.mpr ⟨[], ' ' :: rest, rfl, rfl, by
      rcases hc with rfl | rfl | rfl <;> decide⟩
  unfold markerCharOf
  simp only [List.length_singleton, hs, liftL_ok', ok_bind]
  rfl

/-- **C06, list half, bullet markers.**  `c` one of `-`, `*`, `+`; `D` a tab-free document (below 2 GiB)
    whose first line is not blank and is indented by 0 or ≥ 4 columns; the list rule stands in the chain
    behind rules of `frontOkL` only (code, fence, blockquote, hr, reference, heading: any selection and
    order, in particular the shipped one) and, if the thematic-break rule is among them, `c ++ " " ++`
    (first line of `D`) is not a thematic break; `max_nesting ≥ 1`.  If the block tokenizer accepts `D`
    with final state `t`, then with two more levels of nesting allowed `itemDoc [c] D` parses to
    `Root [ BulletList c [ ListItem (blocks of D, moved by tau) ] ]`, list and item over all lines, the
    paragraphs unwrapped iff `t.tight`; same reference map. -/
theorem item_commutes_bullet (cfg : Cfg) {c : Char} (hc : c = '-' ∨ c = '*' ∨ c = '+')
    (D : List Char) (htab : '\t' ∉ D) (hsize : Lines.byteLen D + 10 < 2147483648)
    (hfirst : FirstOk (Lines.linesT D)) (hnest : 0 < cfg.maxNesting)
    (pre post : List RuleId) (hchain : cfg.chain = pre ++ .list :: post)
    (hpre : ∀ r ∈ pre, frontOkL r = true)
    (hhr : .hr ∈ pre → ∀ l0 t0 rest, Lines.linesT D = (l0, t0) :: rest → hrLook 0 (c :: ' ' :: l0) = false)
    {t : BState} (h : tokenize cfg (fuelFor cfg D) (BState.fresh D .root []) = .ok t) :
    ∃ r, Lines.getMap (Lines.splitLines (itemDoc [c] D)) 0 ((Lines.linesT D).length - 1) = .ok r ∧
      parseBlocks { cfg with maxNesting := cfg.maxNesting + 2 } (itemDoc [c] D) =
      .ok (⟨.root, some (0, Lines.byteLen (itemDoc [c] D)),
            [⟨.bulletList c, some r, [⟨.listItem, some r,
              if t.tight then markTight (relocNodes (tau 2 (Lines.linesT D)) t.children)
              else relocNodes (tau 2 (Lines.linesT D)) t.children⟩]⟩]⟩, t.refs) :=
  item_commutes_gen cfg (mkOk_bullet hc) (detect_bullet hc) (markerChar_bullet hc)
    (fun x r hx => by
      simp at hx
      obtain ⟨rfl, _⟩ := hx
      rcases hc with rfl | rfl | rfl <;> decide)
    D htab (by simpa using hsize) hfirst hnest pre post hchain hpre hhr h

end bullet

/-! ### ordered markers -/

section ordered

/-- an ordered list marker: 1–9 ASCII digits and `.` or `)` -/
structure OrdMk (ds : List Char) (dl : Char) : Prop where
  ne : ds ≠ []
  len : ds.length ≤ 9
  digits : ∀ c ∈ ds, isDigit c = true
  delim : dl = '.' ∨ dl = ')'

/-- the number the digits spell -/
def ordValue (ds : List Char) : Nat := ds.foldl (fun acc c => acc * 10 + (c.toNat - 48)) 0

theorem digit_plain {c : Char} (h : isDigit c = true) :
    c ≠ ' ' ∧ c ≠ '\t' ∧ c ≠ '\n' ∧ c ≠ '\r' ∧ c ≠ '~' ∧ c ≠ '`' ∧ c ≠ '>' ∧ c ≠ '#' ∧ c ≠ '[' ∧ c ≠ ')' ∧ c ≠ '.' := by
  simp only [isDigit, Bool.and_eq_true, decide_eq_true_eq] at h
  refine ⟨?_, ?_, ?_, ?_, ?_, ?_, ?_, ?_, ?_, ?_, ?_⟩ <;> (intro hc; subst hc; revert h; decide)

theorem mkOk_ordered {ds : List Char} {dl : Char} (h : OrdMk ds dl) : MkOk (ds ++ [dl]) := by
  refine ⟨by simp, ?_, ?_⟩
  · intro x hx
    rcases List.mem_append.mp hx with hx | hx
    · exact isDigit_size (h.digits x hx)
    · simp at hx; subst hx; rcases h.delim with rfl | rfl <;> decide
  · intro x hx
    rcases List.mem_append.mp hx with hx | hx
    · have := digit_plain (h.digits x hx); exact ⟨this.1, this.2.1, this.2.2.1, this.2.2.2.1⟩
    · simp at hx; subst hx; rcases h.delim with rfl | rfl <;> decide

theorem ordLoop_digits {dl : Char} (hdl : dl = '.' ∨ dl = ')') (tail : List Char) :
    ∀ (ds : List Char) (pos : Nat), (∀ c ∈ ds, isDigit c = true) → pos + ds.length < 10 →
      ordLoop (ds ++ dl :: tail) pos = some (pos + ds.length + 1, tail)
  | [], pos, _, _ => by
    have hnd : isDigit dl = false := by rcases hdl with rfl | rfl <;> decide
    simp only [List.nil_append, ordLoop, hnd, Bool.false_eq_true, if_false, List.length_nil, Nat.add_zero]
    rw [if_pos (by rcases hdl with rfl | rfl <;> simp)]
  | c :: r, pos, hd, hl => by
    have hc := hd c (by simp)
    simp only [List.cons_append, ordLoop, hc, if_true]
    simp only [List.length_cons] at hl
    rw [if_neg (by omega), ordLoop_digits hdl tail r (pos + 1) (fun x hx => hd x (List.mem_cons_of_mem _ hx)) (by omega)]
    simp only [List.length_cons]
    congr 2
    omega

theorem skipOrdered_marker_line {ds : List Char} {dl : Char} (h : OrdMk ds dl) (rest : List Char) :
    skipOrdered ((ds ++ [dl]) ++ ' ' :: rest) = some (ds ++ [dl]).length := by
  cases hds : ds with
  | nil => exact absurd hds h.ne
  | cons c r =>
    have hd : ∀ x ∈ c :: r, isDigit x = true := by rw [← hds]; exact h.digits
    have hl : (c :: r).length ≤ 9 := by rw [← hds]; exact h.len
    simp only [List.length_cons] at hl
    have := ordLoop_digits h.delim (' ' :: rest) r 1 (fun x hx => hd x (List.mem_cons_of_mem _ hx)) (by omega)
    simp only [List.cons_append, List.append_assoc, List.singleton_append, List.nil_append, skipOrdered, hd c (by simp),
      if_true, this, isBlank, decide_true, Bool.true_or, List.length_cons, List.length_append, List.length_nil]
    congr 1
    omega

theorem ordValue_lt : ∀ (ds : List Char) (acc : Nat), (∀ c ∈ ds, isDigit c = true) →
    ds.foldl (fun a c => a * 10 + (c.toNat - 48)) acc < (acc + 1) * 10 ^ ds.length
  | [], acc, _ => by simp
  | c :: r, acc, hd => by
    have hc := hd c (by simp)
    simp only [isDigit, Bool.and_eq_true, decide_eq_true_eq] at hc
    have := ordValue_lt r (acc * 10 + (c.toNat - 48)) (fun x hx => hd x (List.mem_cons_of_mem _ hx))
    simp only [List.foldl_cons, List.length_cons]
    calc _ < (acc * 10 + (c.toNat - 48) + 1) * 10 ^ r.length := this
      _ ≤ ((acc + 1) * 10) * 10 ^ r.length := Nat.mul_le_mul_right _ (by omega)
      _ = (acc + 1) * 10 ^ (r.length + 1) := by rw [Nat.pow_succ, Nat.mul_assoc, Nat.mul_comm 10]

theorem parseU32_digits {ds : List Char} {dl : Char} (h : OrdMk ds dl) : parseU32 ds = .ok (ordValue ds) := by
  unfold parseU32
  have h1 : ds.isEmpty = false := by
    cases hds : ds with
    | nil => exact absurd hds h.ne
    | cons c r => rfl
  have h2 : ds.all isDigit = true := List.all_eq_true.mpr h.digits
  have h3 : ordValue ds < 4294967296 := by
    have := ordValue_lt ds 0 h.digits
    have hp : 10 ^ ds.length ≤ 10 ^ 9 := Nat.pow_le_pow_right (by omega) h.len
    unfold ordValue
    omega
  simp only [h1, h2, Bool.false_eq_true, not_true_eq_false, or_self, if_false]
  unfold ordValue at h3 ⊢
  rw [if_pos h3]

theorem detect_ordered {ds : List Char} {dl : Char} (h : OrdMk ds dl) (rest : List Char) :
    detectMarker ((ds ++ [dl]) ++ ' ' :: rest) = .ok (some ((ds ++ [dl]).length, some (ordValue ds))) := by
  have hb : Lines.byteLen ds = ds.length := Lines.byteLen_ascii ds (fun c hc => isDigit_size (h.digits c hc))
  have hs : Lines.slice ((ds ++ [dl]) ++ ' ' :: rest) 0 ds.length = .ok ds :=
    Lines.slice_eq_ok_iff.mpr ⟨[], dl :: ' ' :: rest, by simp, rfl, by rw [hb]; omega⟩
  unfold detectMarker
  simp only [skipOrdered_marker_line h rest, List.length_append, List.length_singleton, psub_eq (Nat.le_add_left 1 _),
    Nat.add_sub_cancel, ok_bind, hs, liftL_ok', parseU32_digits h, pure, Except.pure]

theorem markerChar_ordered {ds : List Char} {dl : Char} (h : OrdMk ds dl) (rest : List Char) :
    markerCharOf ((ds ++ [dl]) ++ ' ' :: rest) (ds ++ [dl]).length = .ok dl := by
  have hb : Lines.byteLen (ds ++ [dl]) = (ds ++ [dl]).length := (mkOk_ordered h).bytes
  have hs : Lines.slice ((ds ++ [dl]) ++ ' ' :: rest) 0 (ds ++ [dl]).length = .ok (ds ++ [dl]) :=
    Lines.slice_eq_ok_iff.mpr ⟨[], ' ' :: rest, by simp, rfl, by rw [hb]; omega⟩
  unfold markerCharOf
  simp only [hs, liftL_ok', ok_bind, List.getLast?_append, List.getLast?_singleton, Option.some_or]
  rfl

theorem ordMk_cons {ds : List Char} {dl : Char} (hm : OrdMk ds dl) : ∃ c r, ds = c :: r ∧ isDigit c = true := by
  cases hds : ds with
  | nil => exact absurd hds hm.ne
  | cons c r => exact ⟨c, r, rfl, hm.digits c (by rw [hds]; simp)⟩

/-- an ordered marker starts with a digit, to which no other front rule reacts -/
theorem ordMk_plain {ds : List Char} {dl : Char} (hm : OrdMk ds dl) (x : Char) (r : List Char)
    (hx : ds ++ [dl] = x :: r) : x ≠ '~' ∧ x ≠ '`' ∧ x ≠ '>' ∧ x ≠ '#' ∧ x ≠ '[' := by
  obtain ⟨c0, r0, rfl, hd0⟩ := ordMk_cons hm
  simp only [List.cons_append, List.cons.injEq] at hx
  rw [← hx.1]
  have := digit_plain hd0
  exact ⟨this.2.2.2.2.1, this.2.2.2.2.2.1, this.2.2.2.2.2.2.1, this.2.2.2.2.2.2.2.1, this.2.2.2.2.2.2.2.2.1⟩

/-- … and its line is not a thematic break -/
theorem ordMk_not_hr {ds : List Char} {dl : Char} (hm : OrdMk ds dl) (l0 : List Char) :
    hrLook 0 ((ds ++ [dl]) ++ ' ' :: l0) = false := by
  obtain ⟨c0, r0, rfl, hd0⟩ := ordMk_cons hm
  simp only [List.cons_append, hrLook, show ¬ ((0 : Int) ≥ 4) by omega, if_false]
  simp only [isDigit, Bool.and_eq_true, decide_eq_true_eq] at hd0
  rw [if_pos]
  rintro (rfl | rfl | rfl) <;> revert hd0 <;> decide

/-- **C06, list half, ordered markers.**  `ds` 1–9 ASCII digits, `dl` one of `.`, `)`; hypotheses as for
    bullets (no thematic-break condition: a marker line starts with a digit).  The list is
    `OrderedList (value of ds) dl`, the byte map is `tau (|ds| + 2)`. -/
theorem item_commutes_ordered (cfg : Cfg) {ds : List Char} {dl : Char} (hm : OrdMk ds dl)
    (D : List Char) (htab : '\t' ∉ D) (hsize : Lines.byteLen D + 20 < 2147483648)
    (hfirst : FirstOk (Lines.linesT D)) (hnest : 0 < cfg.maxNesting)
    (pre post : List RuleId) (hchain : cfg.chain = pre ++ .list :: post)
    (hpre : ∀ r ∈ pre, frontOkL r = true)
    {t : BState} (h : tokenize cfg (fuelFor cfg D) (BState.fresh D .root []) = .ok t) :
    ∃ r, Lines.getMap (Lines.splitLines (itemDoc (ds ++ [dl]) D)) 0 ((Lines.linesT D).length - 1) = .ok r ∧
      parseBlocks { cfg with maxNesting := cfg.maxNesting + 2 } (itemDoc (ds ++ [dl]) D) =
      .ok (⟨.root, some (0, Lines.byteLen (itemDoc (ds ++ [dl]) D)),
            [⟨.orderedList (ordValue ds) dl, some r, [⟨.listItem, some r,
              if t.tight then markTight (relocNodes (tau ((ds ++ [dl]).length + 1) (Lines.linesT D)) t.children)
              else relocNodes (tau ((ds ++ [dl]).length + 1) (Lines.linesT D)) t.children⟩]⟩]⟩, t.refs) := by
  have hlen := hm.len
  exact item_commutes_gen cfg (mkOk_ordered hm) (detect_ordered hm) (markerChar_ordered hm) (ordMk_plain hm)
    D htab (by simp only [List.length_append, List.length_singleton]; omega) hfirst hnest pre post hchain hpre
    (fun _ l0 _ _ _ => ordMk_not_hr hm l0) h

end ordered

/-! ### examples: the hypotheses are satisfiable, and each is needed -/

section examples

/-- is the node a paragraph, and its range -/
def blockView (c : BNode) : Bool × Option (Nat × Nat) := (decide (c.kind = .paragraph), c.range)

/-- the top-level blocks -/
def topView : Except Panic (BNode × Refs.RefMap) → Option (List (Bool × Option (Nat × Nat)))
  | .ok (root, _) => some (root.children.map blockView)
  | .error _ => none

/-- a root with one bullet list with one item: the range of the list, the range of the item, then the
    blocks in the item -/
def itemView : Except Panic (BNode × Refs.RefMap) → Option (List (Bool × Option (Nat × Nat)))
  | .ok (⟨_, _, [⟨.bulletList _, r1, [⟨.listItem, r2, cs⟩]⟩]⟩, _) => some ((false, r1) :: (false, r2) :: cs.map blockView)
  | _ => none

/-- number of top-level blocks -/
def topCount : Except Panic (BNode × Refs.RefMap) → Option Nat
  | .ok (root, _) => some root.children.length
  | .error _ => none

/-- `"a\n\n- b\n"` -/
def liDoc : List Char := ['a', '\n', '\n', '-', ' ', 'b', '\n']

theorem hhr_of_first {D : List Char} {c : Char} {l0' t0' : List Char} {rest' : DLines}
    (h : Lines.linesT D = (l0', t0') :: rest') (hh : hrLook 0 (c :: ' ' :: l0') = false) :
    ∀ l0 t0 rest, Lines.linesT D = (l0, t0) :: rest → hrLook 0 (c :: ' ' :: l0) = false := by
  intro l0 t0 rest hl
  rw [h] at hl
  simp only [List.cons.injEq, Prod.mk.injEq] at hl
  rw [← hl.1.1]; exact hh

/-- `item_commutes_ordered` applies to the marker `12)` and `liDoc`; the list is `OrderedList 12 ')'`, every
    line moves by 4 more bytes: paragraph `0..1` ↦ `4..5`, list `3..6` ↦ `15..18` -/
example : OrdMk ['1', '2'] ')' ∧ ordValue ['1', '2'] = 12 ∧
    itemDoc (['1', '2'] ++ [')']) liDoc
      = ['1', '2', ')', ' ', 'a', '\n', ' ', ' ', ' ', ' ', '\n', ' ', ' ', ' ', ' ', '-', ' ', 'b', '\n'] ∧
    (match parseBlocks { exCfg with maxNesting := 102 } (itemDoc (['1', '2'] ++ [')']) liDoc) with
      | .ok (⟨_, _, [⟨.orderedList 12 ')', r1, [⟨.listItem, r2, cs⟩]⟩]⟩, _) => some ((false, r1) :: (false, r2) :: cs.map blockView)
      | _ => none) = some [(false, some (0, 18)), (false, some (0, 18)), (true, some (4, 5)), (false, some (15, 18))] := by
  refine ⟨⟨by decide, by decide, by decide, by decide⟩, by decide, by decide +kernel, by decide +kernel⟩

/-- the hypotheses of `item_commutes_bullet` hold for the stock chain and `liDoc` (a paragraph, a blank
    line, a nested list: the run ends loose), so does its conclusion -/
example : ∃ t r, tokenize exCfg (fuelFor exCfg liDoc) (BState.fresh liDoc .root []) = .ok t ∧ t.tight = false ∧
    parseBlocks { exCfg with maxNesting := 102 } (itemDoc ['-'] liDoc) =
      .ok (⟨.root, some (0, Lines.byteLen (itemDoc ['-'] liDoc)),
            [⟨.bulletList '-', some r, [⟨.listItem, some r,
                relocNodes (tau 2 (Lines.linesT liDoc)) t.children⟩]⟩]⟩, t.refs) := by
  have hok : (match tokenize exCfg (fuelFor exCfg liDoc) (BState.fresh liDoc .root []) with
      | .ok t => !t.tight | .error _ => false) = true := by decide +kernel
  cases h : tokenize exCfg (fuelFor exCfg liDoc) (BState.fresh liDoc .root []) with
  | error e => rw [h] at hok; cases hok
  | ok t =>
    rw [h] at hok
    have htg : t.tight = false := by simpa using hok
    obtain ⟨r, _, hq⟩ := item_commutes_bullet exCfg (c := '-') (.inl rfl) liDoc (by decide) (by decide +kernel)
      ⟨['a'], ['\n'], (Lines.linesT liDoc).tail, by decide +kernel, by decide, by decide⟩ (by decide)
      [.code, .fence, .blockquote, .hr] _ rfl (by decide)
      (fun _ => hhr_of_first (l0' := ['a']) (t0' := ['\n']) (rest' := (Lines.linesT liDoc).tail) (by decide +kernel)
        (by decide +kernel)) h
    rw [htg] at hq
    exact ⟨t, r, rfl, htg, hq⟩

/-- `"a\n\n- b\n"` against `"- a\n  \n  - b\n"`: paragraph `0..1` ↦ `2..3`, list `3..6` ↦ `9..12`
    (2, 4, 6 bytes inserted in front of lines 0, 1, 2); loose, the paragraph stays a paragraph -/
example : itemDoc ['-'] liDoc = ['-', ' ', 'a', '\n', ' ', ' ', '\n', ' ', ' ', '-', ' ', 'b', '\n'] ∧
    topView (parseBlocks exCfg liDoc) = some [(true, some (0, 1)), (false, some (3, 6))] ∧
    itemView (parseBlocks { exCfg with maxNesting := 102 } (itemDoc ['-'] liDoc))
      = some [(false, some (0, 12)), (false, some (0, 12)), (true, some (2, 3)), (false, some (9, 12))] ∧
    tau 2 (Lines.linesT liDoc) 0 = 2 ∧ tau 2 (Lines.linesT liDoc) 1 = 3 ∧
    tau 2 (Lines.linesT liDoc) 3 = 9 ∧ tau 2 (Lines.linesT liDoc) 6 = 12 := by decide +kernel

/-- a tight run (`"a\n# b"`, no blank line): the paragraph is unwrapped (`mark_tight_paragraphs`), its
    inline root (no range) stands in the item; the heading `2..5` ↦ `6..9` -/
example :
    topView (parseBlocks exCfg ['a', '\n', '#', ' ', 'b']) = some [(true, some (0, 1)), (false, some (2, 5))] ∧
    itemView (parseBlocks { exCfg with maxNesting := 102 } (itemDoc ['-'] ['a', '\n', '#', ' ', 'b']))
      = some [(false, some (0, 9)), (false, some (0, 9)), (false, none), (false, some (6, 9))] := by decide +kernel

/-- two more levels of nesting are needed: at `max_nesting = 1` the paragraph of `"a"` is parsed; in
    `"- a"` the item stays empty at `max_nesting = 2` and holds the block at `max_nesting = 3` -/
example :
    topCount (parseBlocks { exCfg with maxNesting := 1 } ['a']) = some 1 ∧
    itemView (parseBlocks { exCfg with maxNesting := 2 } (itemDoc ['-'] ['a'])) = some [(false, some (0, 3)), (false, some (0, 3))] ∧
    itemView (parseBlocks { exCfg with maxNesting := 3 } (itemDoc ['-'] ['a']))
      = some [(false, some (0, 3)), (false, some (0, 3)), (false, none)] := by decide +kernel

/-- the first line must not be indented by 1–3 columns: `" a\n# b"` is a paragraph and a heading, but in
    `"-  a\n  # b"` the item's content indent is 3 and the heading (indent 2) falls out of the list -/
example :
    topCount (parseBlocks exCfg [' ', 'a', '\n', '#', ' ', 'b']) = some 2 ∧
    ¬ FirstOk (Lines.linesT [' ', 'a', '\n', '#', ' ', 'b']) ∧
    topCount (parseBlocks { exCfg with maxNesting := 102 } (itemDoc ['-'] [' ', 'a', '\n', '#', ' ', 'b'])) = some 2 := by
  refine ⟨by decide +kernel, ?_, by decide +kernel⟩
  rintro ⟨l0, t0, rest, hl, _, hi⟩
  have h1 : Lines.linesT [' ', 'a', '\n', '#', ' ', 'b'] = [([' ', 'a'], ['\n']), (['#', ' ', 'b'], [])] := by decide +kernel
  rw [h1] at hl
  simp only [List.cons.injEq, Prod.mk.injEq] at hl
  rw [← hl.1.1] at hi
  revert hi
  decide

/-- a blank first line must not be followed by another blank line: an item that starts with two blank lines is empty
    (`"\n\na"` ↦ `"- \n  \n  a"`: an empty item and a paragraph behind the list) -/
example :
    topCount (parseBlocks exCfg ['\n', '\n', 'a']) = some 1 ∧
    topCount (parseBlocks { exCfg with maxNesting := 102 } (itemDoc ['-'] ['\n', '\n', 'a'])) = some 2 := by
  decide +kernel

/-- the marker line must not be a thematic break: `"- -"` is a list, `"- - -"` a thematic break — and so
    is `"- --"` (from `"--"`) -/
example :
    hrLook 0 ('-' :: ' ' :: ['-', ' ', '-']) = true ∧ hrLook 0 ('-' :: ' ' :: ['-', '-']) = true ∧
    itemView (parseBlocks { exCfg with maxNesting := 102 } (itemDoc ['-'] ['-', ' ', '-'])) = none ∧
    (match parseBlocks { exCfg with maxNesting := 102 } (itemDoc ['-'] ['-', '-']) with
      | .ok (⟨_, _, [⟨.hr _ _, _, _⟩]⟩, _) => true
      | _ => false) = true := by decide +kernel

/-- the chain hypothesis is needed: with the paragraph rule in front of the list rule the prefixed document
    is one paragraph -/
example :
    (match parseBlocks { exCfg with maxNesting := 102, chain := [.paragraph, .list] } (itemDoc ['-'] ['a']) with
      | .ok (⟨_, _, [⟨.paragraph, _, _⟩]⟩, _) => true
      | _ => false) = true := by decide +kernel

/-- tab-freeness is needed: `"\ta"` is an indented code block, in `"- \ta"` the tab stop is counted from the
    start of the line (indent 2 behind the marker): a paragraph -/
example :
    (match parseBlocks exCfg ['\t', 'a'], parseBlocks { exCfg with maxNesting := 102 } (itemDoc ['-'] ['\t', 'a']) with
      | .ok (⟨_, _, [⟨.codeBlock _, _, _⟩]⟩, _), .ok (⟨_, _, [⟨.bulletList _, _, [⟨.listItem, _, [⟨.inlineRoot _ _, _, _⟩]⟩]⟩]⟩, _) => true
      | _, _ => false) = true := by decide +kernel

end examples

/-
Outside this file: "renders exactly as": the inline pass and the renderer on top of the block tree
(`InlineRoot` content equal on both sides, mapping moved by `tau`: `relocKind`) — not proved anywhere in the
development, as for the block-quote half.
-/

end MdIt.Block.Li
