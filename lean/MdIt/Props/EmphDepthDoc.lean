/-
  Property C02 WITHOUT its exception, at document level: since emphasis nesting is limited by
  `max_nesting` (`Props/EmphDepth.lean`), the PLAIN depth of the tree `parseDoc` builds — every node
  counted, the emphasis wrappers `Em` / `Strong` / `Strikethrough` included — is bounded by a
  function of `N = max_nesting` alone:

      `depth t ≤ N + 1 + depthBound N = (N + 1) (N + 4) / 2`      (`= 1` for `N = 0`)

  `N + 1` block nodes above a paragraph's inline content (`Block.parseBlocks_depth`, Lemmas/C02DocBlock),
  `depthBound N = 1 + N (N + 3) / 2` for the inline tree (`inline_tree_depth_bounded`).  The bound is
  reached for `N = 1` (5) and `N = 2` (9) (`full_depth_tight`).  `Props/C02Doc.lean` proves the
  linear bound `2 N + 2` for the depth NOT counting the wrappers; this file reuses its block-side
  lemma, its `Lighter` analysis of `fragments_join` and its walks (`DepthOf`), of which the plain depth is
  the instance with every weight 1.
-/
import MdIt.Props.C02Doc
import MdIt.Props.EmphDepth
import MdIt.Lemmas.KernelEval

namespace MdIt.Pipeline
open MdIt.Block (bdepth bdepthList bdepth_eq)
open MdIt.EmphDepth (treeDepth treeDepthList depthBound)

theorem depth_eq (n : Node) : depth n = 1 + depthList n.children := by
  cases n; simp [depth]

theorem depth_depthOf : DepthOf (fun _ => 1) depth depthList :=
  ⟨depth_eq, by simp [depthList], fun _ _ => by simp [depthList]⟩

/-! ## the plain depth as an instance of the walks of `Props/C02Doc.lean` -/

mutual
theorem ofInline_depth (n : Inline.Node) : depth (ofInline n) = treeDepth n := by
  match n with
  | ⟨v, r, cs⟩ =>
    unfold ofInline
    rw [depth_eq]
    simp only [treeDepth]
    have := ofInlineList_depth cs
    omega
theorem ofInlineList_depth (cs : List Inline.Node) : depthList (ofInlineList cs) = treeDepthList cs := by
  match cs with
  | [] => simp [ofInlineList, depthList, treeDepthList]
  | c :: r =>
    simp only [ofInlineList, depthList, treeDepthList]
    rw [ofInline_depth c, ofInlineList_depth r]
end

/-- every list of children the inline parser returns has height `≤ I` -/
def InlineHeight (icfg : Inline.Cfg) (I : Nat) : Prop :=
  ∀ content mapping ns, Inline.parseInline icfg content mapping = .ok ns → treeDepthList ns ≤ I

theorem InlineHeight.list {icfg : Inline.Cfg} {I : Nat} (hI : InlineHeight icfg I)
    (content : List Char) (mapping : InlineOps.Srcmap) (ns : List Inline.Node)
    (h : Inline.parseInline icfg content mapping = .ok ns) : depthList (ofInlineList ns) ≤ I := by
  rw [ofInlineList_depth]; exact hI content mapping ns h

theorem spliceNode_depth {icfg : Inline.Cfg} {I : Nat} (hI : InlineHeight icfg I)
    (b : Block.BNode) (hk : b.kind.isInl = false) (t : Node) (h : spliceNode icfg b = .ok t) :
    depth t ≤ bdepth 1 I b :=
  depth_depthOf.splice_node (fun _ => rfl) hI.list b hk t (by rw [spliceNodeG_parseInline]; exact h)

theorem spliceList_depth {icfg : Inline.Cfg} {I : Nat} (hI : InlineHeight icfg I)
    (cs : List Block.BNode) (out : List Node) (h : spliceList icfg cs = .ok out) :
    depthList out ≤ bdepthList 1 I cs :=
  depth_depthOf.splice_list (fun _ => rfl) hI.list cs out (by rw [spliceListG_parseInline]; exact h)

theorem joinLe_one : JoinLe (fun _ => 1) := fun cs x hx =>
  let ⟨c, hc, hr, _⟩ := fragmentsJoin_textFor cs x hx
  ⟨c, hc, hr.1, Nat.le_refl _⟩

theorem joinNode_depth (n : Node) : depth (joinNode n) ≤ depth n :=
  depth_depthOf.join joinLe_one n

theorem sourceposNode_depth {src : List Char} {marks : List SourceMap.Mark} (t t' : Node)
    (h : sourceposNode src marks t = .ok t') : depth t' = depth t :=
  depth_depthOf.sourcepos_node t t' h

theorem sourceposList_depth {src : List Char} {marks : List SourceMap.Mark}
    (cs cs' : List Node) (h : sourceposList src marks cs = .ok cs') : depthList cs' = depthList cs :=
  depth_depthOf.sourcepos_list cs cs' h

theorem parseDoc_depth {cfg : DocCfg} {src : List Char} {t : Node} (I : Nat)
    (hI : ∀ refs, InlineHeight (cfg.inlineCfg refs) I) (h : parseDoc cfg src = .ok t) :
    ∃ root refs, Block.parseBlocks cfg.blockCfg src = .ok (root, refs) ∧ depth t ≤ bdepth 1 I root :=
  depth_depthOf.parseDoc_le (fun _ => rfl) joinLe_one (fun refs => (hI refs).list) h

theorem inlineHeight_bound (cfg : DocCfg) (refs : Refs.RefMap) :
    InlineHeight (cfg.inlineCfg refs) (depthBound cfg.maxNesting) := by
  intro content mapping ns h
  have := EmphDepth.inline_tree_depth_bounded h
  simp only [DocCfg.inlineCfg] at this
  exact (EmphDepth.treeDepthList_le_iff _ _).mpr this

/-- `(N + 1) (N + 4) / 2` as `N + 1 + depthBound N` -/
def fullDepthBound (N : Nat) : Nat := N + 1 + depthBound N

theorem fullDepthBound_closed (N : Nat) : 2 * fullDepthBound N = (N + 1) * (N + 4) := by
  have := EmphDepth.depthBound_closed N
  unfold fullDepthBound
  simp only [Nat.add_mul, Nat.mul_add, Nat.one_mul, Nat.mul_one]
  omega

/-- **`doc_full_depth_bounded`: C02 without the emphasis exception.**  The depth of every parsed
    document — the root and EVERY node counted, emphasis wrappers included — is at most
    `fullDepthBound N = N + 1 + depthBound N = (N + 1) (N + 4) / 2` for `N = max_nesting` (`1` when
    `N = 0`): a function of the limit alone.  So every recursive pass over the tree (render, drop,
    `walk`) nests at most that deep.  Reached for `N = 1, 2` (`full_depth_tight`). -/
theorem doc_full_depth_bounded (cfg : DocCfg) (src : List Char) (t : Node) (h : parseDoc cfg src = .ok t) :
    depth t ≤ (if cfg.maxNesting = 0 then 1 else fullDepthBound cfg.maxNesting) := by
  obtain ⟨root, refs, hb, hle⟩ := parseDoc_depth (depthBound cfg.maxNesting) (inlineHeight_bound cfg) h
  have hpos : 1 ≤ depthBound cfg.maxNesting := by
    have := EmphDepth.baseBound_pos cfg.maxNesting
    unfold depthBound; omega
  have : bdepth 1 (depthBound cfg.maxNesting) root ≤
      (if cfg.maxNesting = 0 then 1 else cfg.maxNesting + 1 + depthBound cfg.maxNesting) :=
    Block.parseBlocks_depth (I := depthBound cfg.maxNesting) (J := depthBound cfg.maxNesting)
      hpos (Nat.le_refl _) hb
  unfold fullDepthBound
  by_cases h0 : cfg.maxNesting = 0
  · rw [if_pos h0] at this ⊢; omega
  · rw [if_neg h0] at this ⊢; omega

/-- the uniform form -/
theorem doc_full_depth_bounded' (cfg : DocCfg) (src : List Char) (t : Node) (h : parseDoc cfg src = .ok t) :
    2 * depth t ≤ (cfg.maxNesting + 1) * (cfg.maxNesting + 4) := by
  have h1 := doc_full_depth_bounded cfg src t h
  have h2 := fullDepthBound_closed cfg.maxNesting
  have h3 : 1 ≤ fullDepthBound cfg.maxNesting := by unfold fullDepthBound; omega
  split at h1 <;> omega

/-! ## examples -/

/-- the bound is reached: `N = 1`: root / paragraph / em / link / text = 5;
    `N = 2`: root / quote / paragraph / em / em / image / em / link / text = 9 -/
theorem full_depth_tight :
    fullDepthBound 1 = 5 ∧ fullDepthBound 2 = 9 ∧
    (parseDoc (exCfg false 1) "*[a](b)*".toList).toOption.map depth = some 5 ∧
    (parseDoc (exCfg false 2) ">*a *b ![*c [t](u) c*](i) b* a*".toList).toOption.map depth = some 9 := by
  -- the two documents of `emph_exceeds`, whose fourth measure is the plain depth
  have key : ∀ (r : Except Panic Node) (a b c d : Nat), measures r = some (a, b, c, d) →
      r.toOption.map depth = some d := by
    intro r a b c d h
    cases r with
    | error e => cases h
    | ok t => simp only [measures, Option.some.injEq, Prod.mk.injEq] at h; simp [Except.toOption, h.2.2.2]
  exact ⟨by decide +kernel, by decide +kernel, key _ _ _ _ _ emph_exceeds.1, key _ _ _ _ _ emph_exceeds.2⟩

-- deeper emphasis stays text: the document whose depth grew with its length before the fix
-- (`'*a ' × k ++ 'a* ' × k`) now has the same depth for every `k ≥ N`
example : (parseDoc (exCfg false 2) "*a *a *a *a a* a* a* a*".toList).toOption.map depth = some 5 ∧
    (parseDoc (exCfg false 2) "*a *a a* a*".toList).toOption.map depth = some 5 ∧
    (parseDoc (exCfg false 2) "*a a*".toList).toOption.map depth = some 4 := by
  decide_lits

-- the default limit
example : fullDepthBound 100 = 5252 := by decide +kernel

end MdIt.Pipeline
