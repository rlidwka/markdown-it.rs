/-
  C05 at whole-document level, the block side: the source ranges of the BLOCK nodes of the tree `parseDoc`
  returns (`Model/Pipeline.lean`; html-free configurations, any subset / order of the nine cmark block
  rules and the inline rules, any `max_nesting`, with and without `sourcepos`).

  `doc_root_range`, `doc_block_skeleton` (splice walk, `FragmentsJoin` and `SyntaxPosRule` neither move, add,
  drop nor re-range a block node) and `doc_block_ranges`, whose hypothesis `4·|src| + 8 < 2³¹` is there because
  `indent_nonspace` / `blk_indent` are `i32` in the Rust and `get_lines` casts `indent as i32`
  (`Lines.usizeAsI32`).  `rangesOk_bskel` is sanity of the statement: `doc_block_ranges` is exactly the
  projection of the complete property `RangesOk` to the block skeleton.  The block-pass theorem behind them,
  `parseBlocks_geo`, is the walk over the nine rules of Lemmas/C05InlineGeo.lean with the hypotheses of the
  claim about placeholders weakened.

  FINDING (witness `example` near the end, confirmed on the crate): without the paragraph rule the
  no-paragraph fallback of `BlockParser::tokenize` produces inline ranges OUTSIDE the source:
  `md.parse("a")` (block rules: `hr` only; inline: text, newline) → `Softbreak (1, 2)` under
  `Root (0, 1)`; with CR LF the softbreak covers the `\r` only.
  The complete property for every node, inline level included, is STATED here (`NodeOk`, `RangesOk`) and
  proved in `doc_ranges_ok` (Props/C05Rest.lean: sources without split tab) and `doc_ranges_ok_all`
  (Props/C05Tabs.lean: all sources, the `Text` under a code span exempted).
-/
import MdIt.Lemmas.C05InlineGeo
import MdIt.Lemmas.KernelEval

namespace MdIt.Block
open MdIt.Lines (LineOffset)

theorem parseBlocks_geo {P : InlP} {cfg : Cfg} (hP : InlSpec cfg.hasPara P) {src : List Char} {root : BNode}
    {refs : Refs.RefMap} (hsmall : 4 * Lines.byteLen src + 8 < 2147483648)
    (h : parseBlocks cfg src = .ok (root, refs)) :
    root.range = some (0, Lines.byteLen src) ∧ RangedB P src root :=
  parseBlocks_geoI (hP.toI src) hsmall h

end MdIt.Block

namespace MdIt.Pipeline
open MdIt.Block (Bd)

/-- a tree of source ranges -/
structure RT where
  range : Option (Nat × Nat)
  kids : List RT
  deriving Repr

def Node.isBlk (n : Node) : Bool :=
  match n.kind with
  | .blk _ => true
  | .inl _ => false

mutual
/-- the BLOCK skeleton of a document node: its range, and the skeletons of its block-level children,
    in order (inline-level children are skipped) -/
def bskel : Node → RT
  | ⟨_, r, _, cs⟩ => ⟨r, bskelList cs⟩
def bskelList : List Node → List RT
  | [] => []
  | c :: cs => if c.isBlk then bskel c :: bskelList cs else bskelList cs
end

def isInlKind : Block.Kind → Bool
  | .inlineRoot _ _ => true
  | _ => false

mutual
/-- the same of a node of the block pass: placeholders are skipped -/
def bskelB : Block.BNode → RT
  | ⟨_, r, cs⟩ => ⟨r, bskelBList cs⟩
def bskelBList : List Block.BNode → List RT
  | [] => []
  | c :: cs => if isInlKind c.kind then bskelBList cs else bskelB c :: bskelBList cs
end

theorem bskel_eq (n : Node) : bskel n = ⟨n.range, bskelList n.children⟩ := by cases n; simp [bskel]
theorem bskelB_eq (n : Block.BNode) : bskelB n = ⟨n.range, bskelBList n.children⟩ := by cases n; simp [bskelB]

theorem bskelList_append (a b : List Node) : bskelList (a ++ b) = bskelList a ++ bskelList b := by
  induction a with
  | nil => simp [bskelList]
  | cons c r ih => simp only [List.cons_append, bskelList]; split <;> simp [ih]

mutual
theorem ofInline_isBlk (n : Inline.Node) : (ofInline n).isBlk = false := by
  cases n; simp [ofInline, Node.isBlk]
theorem bskelList_ofInlineList (cs : List Inline.Node) : bskelList (ofInlineList cs) = [] := by
  match cs with
  | [] => simp [ofInlineList, bskelList]
  | c :: r =>
    simp only [ofInlineList, bskelList, ofInline_isBlk]
    exact bskelList_ofInlineList r
end

section
open MdIt.PipelineH (spliceNodeG spliceListG)
variable {parse : List Char → InlineOps.Srcmap → Except Inline.Panic (List Inline.Node)}

mutual
theorem spliceNodeG_bskel (b : Block.BNode) (t : Node) (h : spliceNodeG parse b = .ok t) :
    bskel t = bskelB b := by
  match b with
  | ⟨k, r, cs⟩ =>
    obtain ⟨cs', hcs, rfl⟩ := spliceNodeG_ok h
    simp only [bskel, bskelB]
    rw [spliceListG_bskel cs cs' hcs]
theorem spliceListG_bskel (cs : List Block.BNode) (out : List Node)
    (h : spliceListG parse cs = .ok out) : bskelList out = bskelBList cs := by
  match cs with
  | [] => rw [spliceListG_nil h]; rfl
  | c :: rest =>
    obtain ⟨rest', hrest, hc⟩ := spliceListG_cons_ok h
    have ih := spliceListG_bskel rest rest' hrest
    rcases hc with ⟨content, mapping, ns, hk, _, rfl⟩ | ⟨hk, c', hc', rfl⟩
    · rw [bskelList_append, bskelList_ofInlineList, List.nil_append, ih]
      simp [bskelBList, hk, isInlKind]
    · have hck : c'.isBlk = true := by unfold Node.isBlk; rw [spliceNodeG_kind hc']
      have hnk : isInlKind c.kind = false := by
        cases hkk : c.kind <;> simp [isInlKind]
        exact hk ⟨_, _, hkk⟩
      simp only [bskelList, bskelBList, hck, hnk, if_true, Bool.false_eq_true, if_false]
      rw [spliceNodeG_bskel c c' hc', ih]
end
end

theorem spliceList_bskel {icfg : Inline.Cfg} (cs : List Block.BNode) (out : List Node)
    (h : spliceList icfg cs = .ok out) : bskelList out = bskelBList cs :=
  spliceListG_bskel cs out (by rw [spliceListG_parseInline]; exact h)

theorem isBlk_of_isText {n : Node} (h : n.isText = true) : n.isBlk = false := by
  unfold Node.isText at h
  unfold Node.isBlk
  split at h
  · next heq => rw [heq]
  · cases h

theorem bskelList_cons_inl {c : Node} (h : c.isBlk = false) (r : List Node) :
    bskelList (c :: r) = bskelList r := by simp [bskelList, h]

theorem bskelList_mergeLoop (cur : Node) (rest : List Node) :
    bskelList (mergeLoop cur rest) = bskelList (cur :: rest) := by
  induction rest generalizing cur with
  | nil => simp [mergeLoop]
  | cons nxt rest ih =>
    simp only [mergeLoop]
    split
    · next htt =>
      simp only [Bool.and_eq_true] at htt
      have h1 : (emptied nxt).isBlk = false := rfl
      have h2 : (merged cur nxt).isBlk = false := rfl
      rw [bskelList_cons_inl h1, ih, bskelList_cons_inl h2, bskelList_cons_inl (isBlk_of_isText htt.1),
        bskelList_cons_inl (isBlk_of_isText htt.2)]
    · simp only [bskelList, ih]

theorem markerToText_blk (c : Node) (h : c.isBlk = true) : markerToText c = c := by
  unfold markerToText
  split
  · next heq => unfold Node.isBlk at h; rw [heq] at h; cases h
  · rfl

theorem markerToText_isBlk (c : Node) : (markerToText c).isBlk = c.isBlk := by
  unfold markerToText
  split
  · next heq => unfold Node.isBlk; rw [heq]
  · rfl

theorem bskelList_pass1 (cs : List Node) : bskelList (pass1 cs) = bskelList cs := by
  induction cs with
  | nil => rfl
  | cons c r ih =>
    simp only [pass1, List.map_cons, bskelList, markerToText_isBlk] at ih ⊢
    split
    · next hb => rw [markerToText_blk c hb, ih]
    · exact ih

theorem bskelList_filter_keep (l : List Node) : bskelList (l.filter keep) = bskelList l := by
  induction l with
  | nil => rfl
  | cons c r ih =>
    simp only [List.filter_cons]
    split
    · simp only [bskelList, ih]
    · next hk =>
      have : c.isText = true := by
        unfold keep at hk
        cases ht : c.isText with
        | true => rfl
        | false => simp [ht] at hk
      rw [bskelList_cons_inl (isBlk_of_isText this), ih]

theorem bskelList_fragmentsJoin (cs : List Node) : bskelList (fragmentsJoin cs) = bskelList cs := by
  unfold fragmentsJoin
  rw [bskelList_filter_keep, ← bskelList_pass1 cs]
  cases pass1 cs with
  | nil => rfl
  | cons c r => simp only [mergeAll]; exact bskelList_mergeLoop c r

theorem joinNode_isBlk (n : Node) : (joinNode n).isBlk = n.isBlk := by
  unfold Node.isBlk; rw [joinNode_kind]

theorem bskelList_map_join (l : List Node) (h : ∀ c ∈ l, bskel (joinNode c) = bskel c) :
    bskelList (l.map joinNode) = bskelList l := by
  induction l with
  | nil => rfl
  | cons c r ih =>
    simp only [List.map_cons, bskelList, joinNode_isBlk]
    rw [h c (by simp), ih (fun x hx => h x (List.mem_cons_of_mem _ hx))]

theorem joinNode_bskel (n : Node) : bskel (joinNode n) = bskel n := by
  induction n using joinNode_induct with
  | step n ih =>
    rw [bskel_eq, bskel_eq n, joinNode_range, joinNode_children, bskelList_map_join _ ih,
      bskelList_fragmentsJoin]

section
variable (f : Option (Nat × Nat) → List (List Char × List Char) → List (List Char × List Char))

mutual
theorem mapAttrs_bskel (t : Node) : bskel (mapAttrs f t) = bskel t := by
  match t with
  | ⟨k, r, a, cs⟩ => simp only [mapAttrs, bskel, mapAttrsList_bskel cs]
theorem mapAttrsList_bskel (cs : List Node) : bskelList (mapAttrsList f cs) = bskelList cs := by
  match cs with
  | [] => rfl
  | c :: r =>
    have : (mapAttrs f c).isBlk = c.isBlk := by unfold Node.isBlk; rw [mapAttrs_kind]
    simp only [mapAttrsList, bskelList, this, mapAttrs_bskel c, mapAttrsList_bskel r]
end
end

theorem sourceposList_bskel {src : List Char} {marks : List SourceMap.Mark} (cs cs' : List Node)
    (h : sourceposList src marks cs = .ok cs') : bskelList cs' = bskelList cs := by
  rw [sourceposList_eq_mapAttrs h, mapAttrsList_bskel]

/-! ## ranged skeletons -/

/-- consecutive ranges inside `[lo, hi]`: every tree has a range `(a, b)`, `a ≤ b`, and starts at
    or behind the end of its left neighbour -/
def OrderedRT : Nat → Nat → List RT → Prop
  | lo, hi, [] => lo ≤ hi
  | lo, hi, n :: rest => ∃ a b, n.range = some (a, b) ∧ lo ≤ a ∧ a ≤ b ∧ OrderedRT b hi rest

/-- C05 on a tree of ranges: every node has a range `(a, b)` with `a ≤ b ≤ |src|`, both on character
    boundaries of `src`; the ranges of its children lie inside `[a, b]`, in order, without overlap;
    recursively -/
inductive RangedRT (src : List Char) : RT → Prop
  | mk (n : RT) (a b : Nat) : n.range = some (a, b) → a ≤ b → b ≤ Lines.byteLen src →
    Lines.onBoundary src a = true → Lines.onBoundary src b = true → OrderedRT a b n.kids →
    (∀ c ∈ n.kids, RangedRT src c) → RangedRT src n

theorem OrderedRT.widen {lo hi lo' hi' : Nat} {l : List RT} (h : OrderedRT lo hi l)
    (h1 : lo' ≤ lo) (h2 : hi ≤ hi') : OrderedRT lo' hi' l := by
  induction l generalizing lo lo' with
  | nil => simp only [OrderedRT] at h ⊢; omega
  | cons x r ih =>
    obtain ⟨a, b, q1, q2, q3, q4⟩ := h
    exact ⟨a, b, q1, by omega, q3, ih q4 (Nat.le_refl _)⟩

theorem isInlKind_iff {k : Block.Kind} : isInlKind k = true ↔ ∃ c m, k = .inlineRoot c m := by
  cases k <;> simp [isInlKind]

mutual
theorem rangedRT_node {P : Block.InlP} {src : List Char} (b : Block.BNode) (h : Block.RangedB P src b)
    (a z : Nat) (hr : b.range = some (a, z)) : RangedRT src (bskelB b) := by
  match b with
  | ⟨k, r, cs⟩ =>
    obtain ⟨h1, h2, h3, h4⟩ := h.at a z hr
    obtain ⟨l1, l2⟩ := rangedRT_list cs a z h4 h.child
    exact .mk _ a z (by simp only [bskelB]; exact hr) h1 h3.le h2.onBoundary h3.onBoundary
      (by simp only [bskelB]; exact l1) (by simp only [bskelB]; exact l2)
theorem rangedRT_list {P : Block.InlP} {src : List Char} (cs : List Block.BNode) (lo hi : Nat)
    (ho : Block.OrderedB P lo hi cs) (hd : ∀ c ∈ cs, Block.RangedB P src c) :
    OrderedRT lo hi (bskelBList cs) ∧ ∀ x ∈ bskelBList cs, RangedRT src x := by
  match cs with
  | [] => exact ⟨ho, by simp [bskelBList]⟩
  | c :: rest =>
    obtain ⟨a, b, hsp, h1, h2, h3⟩ := ho
    obtain ⟨i1, i2⟩ := rangedRT_list rest b hi h3 (fun x hx => hd x (List.mem_cons_of_mem _ hx))
    simp only [bskelBList]
    split
    · exact ⟨i1.widen (by omega) (Nat.le_refl _), i2⟩
    · next hk =>
      have hrange := Block.spanB_kind hsp (fun c' m hc => hk (isInlKind_iff.mpr ⟨c', m, hc⟩))
      have hn := rangedRT_node c (hd c (by simp)) a b hrange
      refine ⟨⟨a, b, by rw [bskelB_eq]; exact hrange, h1, h2, i1⟩, ?_⟩
      intro x hx
      rcases List.mem_cons.mp hx with rfl | hx
      · exact hn
      · exact i2 x hx
end

/-- the block skeleton of the parsed tree is the skeleton of the tree of the block pass: the splice
    walk, the join pass and the sourcepos pass neither move, add nor drop a block node, nor touch a
    block range -/
theorem doc_block_skeleton {cfg : DocCfg} {src : List Char} {t : Node} (h : parseDoc cfg src = .ok t) :
    ∃ root refs, Block.parseBlocks cfg.blockCfg src = .ok (root, refs) ∧ bskel t = bskelB root := by
  obtain ⟨root, refs, t0, hb, hs, hf⟩ := parseDoc_ok h
  refine ⟨root, refs, hb, ?_⟩
  have h1 : bskel (if cfg.hasJoin = true then joinNode t0 else t0) = bskelB root := by
    split
    · rw [joinNode_bskel, spliceNodeG_bskel root t0 hs]
    · exact spliceNodeG_bskel root t0 hs
  rcases finish_ok hf with ⟨-, rfl⟩ | ⟨-, rfl⟩
  · rw [mapAttrs_bskel, h1]
  · exact h1

/-- **`doc_root_range`.**  The root of every parsed tree carries the range `(0, |src|)`. -/
theorem doc_root_range (cfg : DocCfg) (src : List Char) (t : Node) (h : parseDoc cfg src = .ok t) :
    t.range = some (0, Lines.byteLen src) := by
  obtain ⟨root, refs, hb, hsk⟩ := doc_block_skeleton h
  have h1 : root.range = some (0, Lines.byteLen src) := by
    unfold Block.parseBlocks at hb
    split at hb
    · cases hb
    · cases hb; rfl
  rw [bskel_eq, bskelB_eq] at hsk
  have := congrArg RT.range hsk
  simp only at this
  rw [this, h1]

/-- the trivial claim about placeholders (the block-level theorem needs none) -/
def PTriv : Block.InlP := fun _ _ _ _ => True

theorem inlSpec_triv (para : Bool) : Block.InlSpec para PTriv :=
  ⟨fun _ _ _ _ _ _ _ _ _ _ _ _ => trivial, fun _ _ _ _ _ _ _ _ _ _ => trivial, fun _ _ _ _ _ _ _ => trivial⟩

/-- **`doc_block_ranges`.**  In the tree `parseDoc` returns, every BLOCK node carries a range `(a, b)`
    with `a ≤ b ≤ |src|` on character boundaries of the source; the ranges of its block-level
    children lie inside `[a, b]`, each starting at or behind the end of the previous one; at every
    depth.  (`bskel t` is the tree of the block nodes of `t` with their ranges; inline-level nodes are
    the subject of `doc_ranges_ordered` of Props/C05Inline.lean and its successors.)  The size bound is the one the `i32` fields
    `indent_nonspace` / `blk_indent` of the Rust force (`Lines.usizeAsI32` is exact below it). -/
theorem doc_block_ranges (cfg : DocCfg) (src : List Char) (t : Node)
    (hsmall : 4 * Lines.byteLen src + 8 < 2147483648) (h : parseDoc cfg src = .ok t) :
    RangedRT src (bskel t) := by
  obtain ⟨root, refs, hb, hsk⟩ := doc_block_skeleton h
  obtain ⟨hr, hg⟩ := Block.parseBlocks_geo (inlSpec_triv _) hsmall hb
  rw [hsk]
  exact rangedRT_node root hg _ _ hr

theorem OrderedRT.le {lo hi : Nat} {l : List RT} (h : OrderedRT lo hi l) : lo ≤ hi := by
  induction l generalizing lo with
  | nil => exact h
  | cons n r ih =>
    obtain ⟨a, b, _, h2, h3, h4⟩ := h
    have := ih h4; omega

theorem OrderedRT.mem {lo hi : Nat} {l : List RT} (h : OrderedRT lo hi l) :
    ∀ c ∈ l, ∃ a b, c.range = some (a, b) ∧ lo ≤ a ∧ a ≤ b ∧ b ≤ hi := by
  induction l generalizing lo with
  | nil => simp
  | cons n r ih =>
    obtain ⟨a, b, h1, h2, h3, h4⟩ := h
    intro c hc
    rcases List.mem_cons.mp hc with rfl | hc
    · exact ⟨a, b, h1, h2, h3, h4.le⟩
    · obtain ⟨a', b', q1, q2, q3, q4⟩ := ih h4 c hc
      exact ⟨a', b', q1, by omega, q3, q4⟩

theorem RangedRT.child_within {src : List Char} {n : RT} (h : RangedRT src n) :
    ∃ a b, n.range = some (a, b) ∧ ∀ c ∈ n.kids, ∃ a' b', c.range = some (a', b') ∧ a ≤ a' ∧ a' ≤ b' ∧ b' ≤ b := by
  cases h with
  | mk _ a b hr _ _ _ _ ho _ => exact ⟨a, b, hr, ho.mem⟩

/-! ## the complete property, on the document tree -/

/-- consecutive ranges inside `[lo, hi]` -/
def OrderedD : Nat → Nat → List Node → Prop
  | lo, hi, [] => lo ≤ hi
  | lo, hi, n :: rest => ∃ a b, n.range = some (a, b) ∧ lo ≤ a ∧ a ≤ b ∧ OrderedD b hi rest

/-- C05 at one node: a valid range on character boundaries, the children inside it in source order
    without overlap, and a `Text` whose range holds no line break selects its content -/
def NodeOk (src : List Char) (n : Node) : Prop :=
  ∃ a b, n.range = some (a, b) ∧ a ≤ b ∧ b ≤ Lines.byteLen src ∧
    Lines.onBoundary src a = true ∧ Lines.onBoundary src b = true ∧ OrderedD a b n.children ∧
    ∀ c, n.kind = .inl (.text c) → ∀ w, Lines.slice src a b = .ok w → '\n' ∉ w → '\r' ∉ w → w = c

/-- **C05**, complete: the root covers the source, every node is `NodeOk` -/
def RangesOk (src : List Char) (t : Node) : Prop :=
  t.range = some (0, Lines.byteLen src) ∧ Every (NodeOk src) t

theorem OrderedD.widen {lo hi lo' hi' : Nat} {l : List Node} (h : OrderedD lo hi l)
    (h1 : lo' ≤ lo) (h2 : hi ≤ hi') : OrderedD lo' hi' l := by
  induction l generalizing lo lo' with
  | nil => simp only [OrderedD] at h ⊢; omega
  | cons x r ih =>
    obtain ⟨a, b, q1, q2, q3, q4⟩ := h
    exact ⟨a, b, q1, by omega, q3, ih q4 (Nat.le_refl _)⟩

mutual
/-- the block-level theorem is the projection of the complete property to the block skeleton -/
theorem rangesOk_bskel {src : List Char} (n : Node) (h : Every (NodeOk src) n) : RangedRT src (bskel n) := by
  match n with
  | ⟨k, r, at_, cs⟩ =>
    obtain ⟨a, b, hr, h1, h2, h3, h4, h5, _⟩ := h.here
    obtain ⟨l1, l2⟩ := rangesOk_bskelList cs a b h5 h.child
    exact .mk _ a b (by simp only [bskel]; exact hr) h1 h2 h3 h4 (by simp only [bskel]; exact l1)
      (by simp only [bskel]; exact l2)
theorem rangesOk_bskelList {src : List Char} (cs : List Node) (lo hi : Nat) (ho : OrderedD lo hi cs)
    (hd : ∀ c ∈ cs, Every (NodeOk src) c) :
    OrderedRT lo hi (bskelList cs) ∧ ∀ x ∈ bskelList cs, RangedRT src x := by
  match cs with
  | [] => exact ⟨ho, by simp [bskelList]⟩
  | c :: rest =>
    obtain ⟨a, b, hr, h1, h2, h3⟩ := ho
    obtain ⟨i1, i2⟩ := rangesOk_bskelList rest b hi h3 (fun x hx => hd x (List.mem_cons_of_mem _ hx))
    simp only [bskelList]
    split
    · have hn := rangesOk_bskel c (hd c (by simp))
      refine ⟨⟨a, b, by rw [bskel_eq]; exact hr, h1, h2, i1⟩, ?_⟩
      intro x hx
      rcases List.mem_cons.mp hx with rfl | hx
      · exact hn
      · exact i2 x hx
    · exact ⟨i1.widen (by omega) (Nat.le_refl _), i2⟩
end

/-! ## non-vacuity and witnesses -/

mutual
/-- a skeleton in pre-order: (depth, start, end) -/
def flatRT (d : Nat) : RT → List (Nat × Nat × Nat)
  | ⟨r, ks⟩ => (d, (r.getD (0, 0)).1, (r.getD (0, 0)).2) :: flatRTList (d + 1) ks
def flatRTList (d : Nat) : List RT → List (Nat × Nat × Nat)
  | [] => []
  | k :: ks => flatRT d k ++ flatRTList d ks
end

/-- a quote holding a two-line list item, then an indented code block -/
def exDoc5 : List Char := "> - a\n>   b\n\n    code".toList

example : (parseDoc (exCfg false 100) exDoc5).toOption.map (·.range) = some (some (0, 21)) := by
  unfold exDoc5
  decide_lits

/-- root, quote, list, item (its tight paragraph is dissolved), code block -/
theorem exDoc5_flat : (parseDoc (exCfg false 100) exDoc5).toOption.map (fun t => flatRT 0 (bskel t)) =
    some [(0, 0, 21), (1, 0, 11), (2, 2, 11), (3, 2, 11), (1, 17, 21)] := by
  unfold exDoc5
  decide_lits

example : (parseDoc (exCfg false 100) exDoc5).toOption.map (fun t => flatRT 0 (bskel t)) =
    some [(0, 0, 21), (1, 0, 11), (2, 2, 11), (3, 2, 11), (1, 17, 21)] := exDoc5_flat

theorem exDoc5_parses : ∃ t, parseDoc (exCfg false 100) exDoc5 = .ok t := ok_of_map exDoc5_flat

/-- the hypotheses of `doc_root_range` / `doc_block_ranges` are satisfiable -/
example : ∃ t, parseDoc (exCfg false 100) exDoc5 = .ok t ∧ t.range = some (0, 21) ∧ RangedRT exDoc5 (bskel t) :=
  ok_and exDoc5_parses fun t ht => ⟨doc_root_range _ _ t ht, doc_block_ranges _ _ t (by decide +kernel) ht⟩

/-- the delicate starts: an indented code block on the first line of a list item keeps the one
    column beyond the item's content column (`-` + 6 blanks: starts at byte 6, behind the marker), and
    behind a quote marker and two tabs (the second tab is split into virtual spaces) it starts at the
    first non-blank -/
example : (parseDoc (exCfg false 100) "-      code\n".toList).toOption.map (fun t => flatRT 0 (bskel t)) =
    some [(0, 0, 12), (1, 0, 11), (2, 0, 11), (3, 6, 11)] := by decide_lits
example : (parseDoc (exCfg false 100) ">\t\tcode".toList).toOption.map (fun t => flatRT 0 (bskel t)) =
    some [(0, 0, 7), (1, 0, 7), (2, 3, 7)] := by decide +kernel

/-- the split tab of `"- a\n\n \tb"` (the repaired `get_lines` mapping): the second paragraph and its
    text are `(7, 8)`, inside the 8-byte input -/
example : (parseDoc (exCfg false 100) "- a\n\n \tb".toList).toOption.map (fun t => flatRT 0 (bskel t)) =
    some [(0, 0, 8), (1, 0, 8), (2, 0, 8), (3, 2, 3), (3, 7, 8)] := by decide +kernel

/-- **Witness: the no-paragraph fallback violates C05** (model and crate agree: `md.parse("a")` with
    only the `hr` block rule and the `newline` inline rule gives `Softbreak` at `(1, 2)` under
    `Root (0, 1)`).  The fallback hands the inline parser `line + "\n"` mapped at `first_nonspace`,
    so the line feed is translated to `line_end .. line_end + 1`: beyond the source for a last line
    without terminator, and onto the `\r` only of a CR LF.  The theorems about inline-level ranges therefore
    need the paragraph rule in the chain (`DocCfg.hasPara`), which makes the fallback dead code. -/
example : (parseDoc { exCfg false 100 with blockChain := [.hr], inlineChain := [.text, .newline] }
      "a".toList).toOption.map (fun t => (t.range, t.children.map (fun c => (c.kind, c.range)))) =
    some (some (0, 1), [(.inl (.text ['a']), some (0, 1)), (.inl .softbreak, some (1, 2))]) := by
  decide +kernel

example : (parseDoc { exCfg false 100 with blockChain := [.hr], inlineChain := [.text, .newline] }
      "a\r\nb".toList).toOption.map (fun t => t.children.map (fun c => c.range)) =
    some [some (0, 1), some (1, 2), some (3, 4), some (4, 5)] := by decide +kernel

end MdIt.Pipeline
