/-
  C07 — Parsing is a pure function of parser configuration and input: a parser that has already
  parsed any sequence of documents answers every new document exactly like a freshly built parser with
  the same configuration, and the same text parsed twice gives the same answer.

  Model: `MdIt/Model/ParserState.lean`.  Everything a parse keeps in `&MarkdownIt` beyond the call are
  the four caches (`compiled` × 3, `text_impl`); link reference definitions (`Root.env`), the
  per-paragraph inline caches and the emphasis bounds are local values of the pipeline `run`.  The
  theorems hold for every pure `run : Effective → Doc → ρ` (tree + HTML + anything else computed from
  the chains read and the document).  The machinery (`Coherent`, `effP`, `parseEff_spec`) is in
  `Props/C08.lean`.
-/
import MdIt.Props.C08

namespace MdIt.ParserState
open MdIt.Ruler (RuleItem Cons Prio CompileErr foldE)

/-! ## `parse` (and `Debug`) never write the configuration — in ANY state, coherent or not -/

/-- the state carried by a result (normal or panicking) has configuration `c` -/
def CfgKept (c : Config) : Except (PState × CompileErr) Walk → Prop
  | .ok w2 => w2.s.cfg = c
  | .error (s2, _) => s2.cfg = c

theorem coreRule_cfg (doc : Doc) (w : Walk) (rule : Nat) : CfgKept w.s.cfg (coreRule doc w rule) := by
  fun_cases coreRule doc w rule <;> rfl

theorem fold_cfg (doc : Doc) (l : List Nat) :
    ∀ w : Walk, CfgKept w.s.cfg (foldE (coreRule doc) w l) := by
  induction l with
  | nil => intro w; rfl
  | cons a l ih =>
    intro w
    have h1 := coreRule_cfg doc w a
    simp only [foldE]
    cases h : coreRule doc w a with
    | error p => rw [h] at h1; exact h1
    | ok w2 =>
      rw [h] at h1
      have h2 := ih w2
      rw [show w2.s.cfg = w.s.cfg from h1] at h2
      exact h2

theorem parseEff_cfg (s : PState) (doc : Doc) : (parseEff s doc).1.cfg = s.cfg := by
  unfold parseEff
  cases hg : getOrInit s.core s.cCore with
  | error e => rfl
  | ok p =>
    obtain ⟨cell, c⟩ := p
    have := fold_cfg doc c.vals ⟨{ s with cCore := cell }, false, none, none, none⟩
    simp only
    cases h' : foldE (coreRule doc) ⟨{ s with cCore := cell }, false, none, none, none⟩ c.vals with
    | error p => rw [h'] at this; exact this
    | ok w => rw [h'] at this; exact this

/-- **C07 (`parse_preserves_config`).** A `parse` call leaves the three rule lists and the marker map
    exactly as they were, whatever the state of the caches (also on the pinned tree). -/
theorem parse_preserves_config (resets : Bool) (s : PState) (doc : Doc) :
    (next resets s (.parse doc)).cfg = s.cfg := parseEff_cfg s doc

-- non-vacuity: the state does change (caches get filled) while the configuration does not
example : next true init (.parse ⟨true, true, 1⟩) ≠ init ∧
    (next true init (.parse ⟨true, true, 1⟩)).cfg = init.cfg := by decide

/-- **C07 (`parse_preserves_coherent`).** What a `parse` call leaves in the caches is a function of
    the configuration only: every cell it fills holds `compile(deps)` / `choose_text_impl(keys)` of the
    current configuration — nothing derived from the document, so nothing of the document can reach
    the next one through `&MarkdownIt`. -/
theorem parse_preserves_coherent (s : PState) (doc : Doc) (h : Coherent s) :
    Coherent (next true s (.parse doc)) := (parseEff_spec s doc h).1

/-- two coherent parsers with the same configuration agree on every cell that both have filled -/
theorem coherent_cells_agree {s1 s2 : PState} (c1 : Coherent s1) (c2 : Coherent s2)
    (e : s1.cfg = s2.cfg) :
    (∀ a b, s1.cBlock = some a → s2.cBlock = some b → a = b) ∧
    (∀ a b, s1.cInline = some a → s2.cInline = some b → a = b) ∧
    (∀ a b, s1.cCore = some a → s2.cCore = some b → a = b) ∧
    (∀ a b, s1.textImpl = some a → s2.textImpl = some b → a = b) := by
  obtain ⟨hb, hi, hc, ht⟩ := (cfg_eq_iff s1 s2).1 e
  refine ⟨fun a b ha hb' => ?_, fun a b ha hb' => ?_, fun a b ha hb' => ?_, fun a b ha hb' => ?_⟩
  · have := c1.1 a ha; rw [hb, c2.1 b hb'] at this; cases this; rfl
  · have := c1.2.1 a ha; rw [hi, c2.2.1 b hb'] at this; cases this; rfl
  · have := c1.2.2.1 a ha; rw [hc, c2.2.2.1 b hb'] at this; cases this; rfl
  · rw [c1.2.2.2 a ha, c2.2.2.2 b hb', ht]

/-- the only trace a document leaves is WHICH cells are filled; the filled contents are the same for
    every document -/
theorem parse_cache_contents_doc_independent (s : PState) (d1 d2 : Doc) (h : Coherent s) :
    let s1 := next true s (.parse d1)
    let s2 := next true s (.parse d2)
    (∀ a b, s1.cBlock = some a → s2.cBlock = some b → a = b) ∧
    (∀ a b, s1.cInline = some a → s2.cInline = some b → a = b) ∧
    (∀ a b, s1.cCore = some a → s2.cCore = some b → a = b) ∧
    (∀ a b, s1.textImpl = some a → s2.textImpl = some b → a = b) :=
  coherent_cells_agree (parse_preserves_coherent s d1 h) (parse_preserves_coherent s d2 h)
    ((parse_preserves_config true s d1).trans (parse_preserves_config true s d2).symm)

section Run
variable {ρ : Type} (run : Effective → Doc → ρ)

theorem cfgRun_parses (docs : List Doc) (c : Config) : cfgRun c (docs.map Op.parse) = c :=
  cfgRun_nonconfig _ (fun op h => by obtain ⟨d, _, rfl⟩ := List.mem_map.1 h; rfl) c

/-- **C07 (`fresh_equiv`).** For every history `cfgOps` (the configuration of the parser — any calls,
    in fact), every sequence `docs` of documents parsed afterwards and every new document `doc`: the
    parser that has parsed `docs` answers `doc` exactly as the parser built by the same calls that has
    parsed nothing — same tree, same HTML, same panic. -/
theorem fresh_equiv (cfgOps : List Op) (docs : List Doc) (doc : Doc) :
    lastOut true run (cfgOps ++ docs.map Op.parse ++ [.parse doc]) =
      lastOut true run (cfgOps ++ [.parse doc]) := by
  rw [history_parse_spec, history_parse_spec, cfgRun_append, cfgRun_parses]

/-- the same with the fresh parser taken literally: a new state with that configuration and all four
    caches empty (`Config.cold`) -/
theorem fresh_equiv_cold (cfgOps : List Op) (docs : List Doc) (doc : Doc) :
    lastOut true run (cfgOps ++ docs.map Op.parse ++ [.parse doc]) =
      some (out run (cfgRun init.cfg cfgOps).cold (.parse doc)) := by
  rw [history_parse_spec, cfgRun_append, cfgRun_parses]
  have hc : Coherent (cfgRun init.cfg cfgOps).cold := ⟨nofun, nofun, nofun, nofun⟩
  rw [parse_out_spec run _ doc hc]
  rfl

/-- …and as a function: the answer is `run` applied to what the configuration alone determines -/
theorem fresh_equiv_spec (cfgOps : List Op) (docs : List Doc) (doc : Doc) :
    lastOut true run (cfgOps ++ docs.map Op.parse ++ [.parse doc]) =
      some (outP run (cfgRun init.cfg cfgOps) doc) := by
  rw [history_parse_spec, cfgRun_append, cfgRun_parses]

/-- interleaved `Debug` prints and `has_rule` queries do not matter either -/
theorem fresh_equiv_observed (cfgOps obs : List Op) (hobs : ∀ op ∈ obs, op.isConfig = false) (doc : Doc) :
    lastOut true run (cfgOps ++ obs ++ [.parse doc]) = lastOut true run (cfgOps ++ [.parse doc]) := by
  rw [history_parse_spec, history_parse_spec, cfgRun_append, cfgRun_nonconfig obs hobs]

/-- **C07 (`parse_deterministic`).** Parsing the same text twice in a row gives identical answers. -/
theorem parse_deterministic (ops : List Op) (doc : Doc) :
    lastOut true run (ops ++ [.parse doc]) = lastOut true run (ops ++ [.parse doc] ++ [.parse doc]) := by
  have := fresh_equiv run ops [doc] doc
  simpa using this.symm

/-- …and so does parsing it again at any later time, as long as the configuration is not touched. -/
theorem parse_deterministic_later (ops : List Op) (docs : List Doc) (doc : Doc) :
    lastOut true run (ops ++ [.parse doc]) =
      lastOut true run (ops ++ (Op.parse doc :: docs.map Op.parse) ++ [.parse doc]) := by
  have := fresh_equiv run ops (doc :: docs) doc
  simpa using this.symm

/-- state-level form: on any reachable (indeed any coherent) parser, the answer to `doc` before and
    after parsing an arbitrary other document is the same -/
theorem parse_after_parse (s : PState) (h : Coherent s) (other doc : Doc) :
    out run (next true s (.parse other)) (.parse doc) = out run s (.parse doc) := by
  rw [parse_out_spec run _ doc (parse_preserves_coherent s other h), parse_out_spec run _ doc h,
    parse_preserves_config]

end Run

/-- a configured parser: block rule 1, inline rules 10 (`'x'`) and 11 (`'('`, placed before 10), core rule 20 -/
def sampleConfig : List Op :=
  [.addBlock 1 {}, .addInline 10 120 {}, .addInline 11 40 { cons := [.before 10] }, .addCore 20 {}]

/-- three documents that initialise the caches in three different ways: blank (core chain only),
    block-only, full -/
def sampleDocs : List Doc := [⟨false, false, 0⟩, ⟨true, false, 2⟩, ⟨true, true, 1⟩]

-- the used parser really is in a different state than the fresh one (all four caches filled) …
example : runOps true init (sampleConfig ++ sampleDocs.map Op.parse) ≠ runOps true init sampleConfig ∧
    (runOps true init (sampleConfig ++ sampleDocs.map Op.parse)).textImpl = some (.regex [40, 120]) ∧
    (runOps true init sampleConfig).textImpl = none := by decide +kernel

-- … and both sides of `fresh_equiv` are a successful parse reading non-trivial chains
example : lastEff true (sampleConfig ++ sampleDocs.map Op.parse) ⟨true, true, 7⟩ =
    .ok ⟨[900, 901, 20], some [1], some [902, 11, 10], some (.regex [40, 120])⟩ ∧
    lastEff true sampleConfig ⟨true, true, 7⟩ =
    .ok ⟨[900, 901, 20], some [1], some [902, 11, 10], some (.regex [40, 120])⟩ := by decide +kernel

-- with the identity pipeline the common answer can be displayed
example : lastOut true (fun e d => (e, d)) (sampleConfig ++ sampleDocs.map Op.parse ++ [.parse ⟨true, true, 7⟩]) =
    some (.parsed (⟨[900, 901, 20], some [1], some [902, 11, 10], some (.regex [40, 120])⟩, ⟨true, true, 7⟩)) := by decide +kernel

-- a configuration whose chain cannot be compiled: used and fresh parser panic alike, every time
example : lastOut true (fun e d => (e, d)) ([.addCore 20 { cons := [.require 21] }] ++
      [Op.parse ⟨true, true, 1⟩, .parse ⟨false, false, 0⟩] ++ [.parse ⟨true, true, 7⟩]) =
    some (.panicked (.missing 20 21)) := by decide

end MdIt.ParserState
