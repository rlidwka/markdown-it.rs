/-
  The whole document pipeline (html-free configurations): property theorems about the composed
  model `MdIt.Pipeline` (`Model/Pipeline.lean`), which the stream `pipeline` checks against
  `md.parse(src)` / `.render()` / `.xrender()` of the real parser (the 652 spec inputs are part of
  the stream).  Everything is COMPOSED from the theorems of the slices
  (`Props/Block`, `Props/Inline`, `Props/NodeRender`, `Props/C03`, `Props/C15`); every statement is
  for ALL configurations of the model (any subset / order of the nine cmark block rules and the ten
  html-free inline rules, any `max_nesting`, with and without `sourcepos`) and ALL sources, and is
  conditional only on `parseDoc` returning `.ok` (absence of panics of the block pass and of the
  inline runs is C01's composition; the pipeline itself adds none: `parseDoc_panic`).

  Part A (namespace `MdIt.Block`) — one more invariant of the block parser, by recursion over the
  grammar of the trees the tokenizer builds (`Lemmas/BlockGrammar.lean`: `Emits`, `parseBlocks_emits`):
    `parseBlocks_wf`        every tree `parseBlocks` returns is `WFB` at every node: ATX level in 1..6,
                            setext level in 1..2, heading / paragraph = exactly one childless
                            `InlineRoot`, leaf kinds childless, lists = items only, items under lists
                            only, `Root` nowhere below the top, and — with the paragraph rule in the
                            chain — no bare `InlineRoot` under `Root` / `Blockquote`
                            (`runChain_para`: the no-paragraph fallback is then dead code)
  Part B (namespace `MdIt.Pipeline`):
    `spliceNode_every_of`   ONE induction over the splice walk, for arbitrary predicates and an arbitrary
                            placeholder parser (`PipelineH.spliceNodeG`), so that the pipeline with the raw-HTML
                            plugin (`Props/PipelineH.lean`) uses the same lemmas; the join pass and the sourcepos
                            pass are in `Lemmas/DocPasses.lean` (`joinNode_every_of`, `sourceposNode_every_of`,
                            `finish_every`, `finish_stable`); every invariant below is an instance
                            (`parseDoc_ok`: what `parseDoc` is made of).  An invariant the join pass CHANGES
                            (`Spliced join` to `Final`, `LocN _ join false` to `LocN _ false join`) goes through
                            `finish_every` (`final_of_passes`, `wf_of_passes`); a predicate that is the same in
                            front of and behind the passes through `passes_every` (`Props/LinksDoc`,
                            `Props/PipelineH`).  Lemmas named `…G…`, `…_every_of`, `…_of`, `spliceNode_spliced`,
                            `spliceNode_wf` are over `spliceNodeG parse`; `spliceList_every`, `spliceNode_wf'`,
                            `spliceList_wf` and the `…_congr` / `…_spec` ones over `spliceNode icfg`
    `parseDoc_final`        the tree invariant: every node `Final` (attributes = `data-sourcepos` only;
                            no `InlineRoot`: `spliceNode_spliced`; no `EmphMarker`: `joinNode_every` /
                            `Inline.notMarker_good`; heading levels in range), rooted at `Root`
    `parseDoc_panic`, `renderDoc_panic`   the only panics of `src ↦ tree ↦ html` are those of the block
                            pass and of the inline runs (`sourceposNode_total` from `SourceMap.getPositions_spec`,
                            `doc_render_total`)
    1 `doc_output_html_free`   `HtmlFree` ∧ `AttrsSourcepos` of the projection to `NodeRender.Node`
    2 `doc_output_renderable`  `Renderable`, with NO condition on the configuration;
      `doc_render_total`       hence `render` / `xrender` never panic on a parsed tree
    3 `doc_safe_output`(`'`)   C03 for documents: both renderings are in the safe output language
                            `SafeHtml` (`NodeRender.safe_output` + 1 + 2)
    4 `doc_deterministic`, `doc_pure`, `doc_refs_local`, `inline_state_local`   C07 for documents
    5 `doc_tree_wf`            C14 for documents: `WF` (`LocK` at every node) — no placeholder, `Root`
                            on top only, lists / items, inline nodes in their places, block leaves
                            childless, text normal form when the join pass runs
                            (`fragmentsJoin_nf` = the proof of `C14.join_normal_form` on this node type)
    6 `doc_sourcepos_spec`     C15 for documents: the one attribute of a ranged node is `data-sourcepos` with the
                            positions of the SPECIFICATION of C15 for its byte range
    7 `render_ranges_irrelevant`, `doc_line_ending_reduction`   C10 for documents, reduced to two
                            congruence lemmas of the block and the inline slice
    the last section opens with the example material the later document modules share (`exCfg`, `Tag` / `tags`,
    `exBlocks`, `exInlines`, `exInlines_parses`)
  The two clauses of C14 that `doc_tree_wf` leaves out are `doc_inline_leaves` and
  `doc_text_nf_nojoin` (`Props/C14Doc.lean`); the two congruence lemmas of C10 are
  `parseBlocks_same_views` (`Props/C10Doc.lean`) and `inline_range_free` (`Lemmas/C10DocInline.lean`),
  the invariance itself `doc_cr_invariant_full`, `doc_crlf_invariant_full`,
  `doc_final_newline_invariant_full` (`Props/DocTotal.lean`).
-/
import MdIt.Lemmas.BlockGrammar
import MdIt.Props.Inline
import MdIt.Props.NodeRender
import MdIt.Props.C15
import MdIt.Lemmas.DocPasses
import MdIt.Model.PipelineH
import MdIt.Lemmas.KernelEval

/-! # Part A: the block tree is well formed -/

namespace MdIt.Block
open MdIt.Lines (LineOffset)

/-- the children of a paragraph / heading: exactly one `InlineRoot` placeholder, without range and
    without children -/
def OneInl (cs : List BNode) : Prop := ∃ t m, cs = [⟨.inlineRoot t m, none, []⟩]

/-- may the node sit directly under `Root` / `Blockquote`: no list item; and with the paragraph rule
    in the chain (`para`) no bare `InlineRoot` (the no-paragraph fallback never runs) -/
def TopKid (para : Bool) (c : BNode) : Prop :=
  c.kind ≠ .listItem ∧ (para = true → ∀ t m, c.kind ≠ .inlineRoot t m)

/-- the local condition on a node of kind `k` with children `cs` -/
def LocB (para : Bool) (k : Kind) (cs : List BNode) : Prop :=
  (∀ c ∈ cs, c.kind ≠ .root) ∧
  (match k with
   | .atx l => (1 ≤ l ∧ l ≤ 6) ∧ OneInl cs
   | .setext l _ => (1 ≤ l ∧ l ≤ 2) ∧ OneInl cs
   | .paragraph => OneInl cs
   | .hr _ _ => cs = []
   | .codeBlock _ => cs = []
   | .codeFence _ _ _ _ => cs = []
   | .inlineRoot _ _ => cs = []
   | .bulletList _ => ∀ c ∈ cs, c.kind = .listItem
   | .orderedList _ _ => ∀ c ∈ cs, c.kind = .listItem
   | .listItem => ∀ c ∈ cs, c.kind ≠ .listItem
   | .root => ∀ c ∈ cs, TopKid para c
   | .blockquote => ∀ c ∈ cs, TopKid para c)

/-- the condition holds at every node of the tree -/
inductive WFB (para : Bool) : BNode → Prop
  | mk (n : BNode) : LocB para n.kind n.children → (∀ c ∈ n.children, WFB para c) → WFB para n

theorem WFB.at {para : Bool} {n : BNode} (h : WFB para n) : LocB para n.kind n.children := by
  cases h; assumption
theorem WFB.child {para : Bool} {n : BNode} (h : WFB para n) : ∀ c ∈ n.children, WFB para c := by
  cases h; assumption

/-- the list shape is one of the clauses: list items are exactly the children of lists -/
theorem WFB.shaped {para : Bool} {n : BNode} (h : WFB para n) : Shaped n := by
  induction h with
  | mk n hloc _ ih =>
    have hk := hloc.2
    refine .mk n ⟨fun hl => ?_, fun c hc hi => ?_⟩ ih
    · rcases isListKind_cases hl with ⟨m, e⟩ | ⟨st, m, e⟩ <;> rw [e] at hk <;> exact hk
    · -- a kind that is not a list kind has no list item among its children
      have hno : ¬ ∀ c ∈ n.children, c.kind ≠ .listItem := fun h => h c hc hi
      have one : OneInl n.children → ∀ c ∈ n.children, c.kind ≠ .listItem := by
        rintro ⟨t, m, e⟩ c hc
        rw [e] at hc
        cases List.mem_singleton.mp hc
        simp
      have none : n.children = [] → ∀ c ∈ n.children, c.kind ≠ .listItem := fun e c hc => by
        rw [e] at hc; cases hc
      cases hkind : n.kind <;> rw [hkind] at hk
      case bulletList | orderedList => rfl
      case atx | setext => exact absurd (one hk.2) hno
      case paragraph => exact absurd (one hk) hno
      case listItem => exact absurd hk hno
      case root | blockquote => exact absurd (fun c hc => (hk c hc).1) hno
      all_goals exact absurd (none hk) hno

/-- a node the tokenizer may push into `Root` / `Blockquote` / a list item under construction -/
structure GoodB (para : Bool) (c : BNode) : Prop where
  notRoot : c.kind ≠ .root
  top : TopKid para c
  wf : WFB para c

def AllGoodB (para : Bool) (cs : List BNode) : Prop := ∀ c ∈ cs, GoodB para c

theorem AllGoodB.nil {para : Bool} : AllGoodB para [] := fun _ h => by simp at h

theorem AllGoodB.push {para : Bool} {cs : List BNode} {n : BNode} (h : AllGoodB para cs)
    (hn : GoodB para n) : AllGoodB para (cs ++ [n]) := by
  intro c hc
  rcases List.mem_append.mp hc with h1 | h1
  · exact h c h1
  · simp at h1; subst h1; exact hn

theorem wfb_inl {para : Bool} (t : List Char) (m : List (Nat × Nat)) :
    WFB para ⟨.inlineRoot t m, none, []⟩ :=
  .mk _ ⟨by simp, rfl⟩ (by simp)

theorem wfb_container {para : Bool} {k : Kind} {r : Option (Nat × Nat)} {cs : List BNode}
    (hk : k = .root ∨ k = .blockquote) (h : AllGoodB para cs) : WFB para ⟨k, r, cs⟩ := by
  refine .mk _ ⟨fun c hc => (h c hc).notRoot, ?_⟩ (fun c hc => (h c hc).wf)
  rcases hk with rfl | rfl <;> exact fun c hc => (h c hc).top

theorem good_leafB {para : Bool} (k : Kind) (r : Option (Nat × Nat))
    (hk : (∃ a b, k = .hr a b) ∨ (∃ c, k = .codeBlock c) ∨ (∃ a b c d, k = .codeFence a b c d)) :
    GoodB para ⟨k, r, []⟩ := by
  rcases hk with ⟨a, b, rfl⟩ | ⟨c, rfl⟩ | ⟨a, b, c, d, rfl⟩
  all_goals exact ⟨by simp, ⟨by simp, fun _ => by simp⟩, .mk _ ⟨by simp, rfl⟩ (by simp)⟩

theorem good_textB {para : Bool} (k : Kind) (r : Option (Nat × Nat)) (t : List Char) (m : List (Nat × Nat))
    (hk : k = .paragraph ∨ (∃ l, k = .atx l ∧ 1 ≤ l ∧ l ≤ 6) ∨ (∃ l c, k = .setext l c ∧ 1 ≤ l ∧ l ≤ 2)) :
    GoodB para ⟨k, r, [⟨.inlineRoot t m, none, []⟩]⟩ := by
  have hkids : ∀ c ∈ [(⟨.inlineRoot t m, none, []⟩ : BNode)], WFB para c := by
    intro c hc; simp at hc; subst hc; exact wfb_inl t m
  rcases hk with rfl | ⟨l, rfl, h1, h2⟩ | ⟨l, c, rfl, h1, h2⟩
  · exact ⟨by simp, ⟨by simp, fun _ => by simp⟩, .mk _ ⟨by simp, ⟨t, m, rfl⟩⟩ hkids⟩
  · exact ⟨by simp, ⟨by simp, fun _ => by simp⟩, .mk _ ⟨by simp, ⟨h1, h2⟩, ⟨t, m, rfl⟩⟩ hkids⟩
  · exact ⟨by simp, ⟨by simp, fun _ => by simp⟩, .mk _ ⟨by simp, ⟨h1, h2⟩, ⟨t, m, rfl⟩⟩ hkids⟩

/-- the fallback placeholder (only without the paragraph rule) -/
theorem good_inlB (t : List Char) (m : List (Nat × Nat)) : GoodB false ⟨.inlineRoot t m, none, []⟩ :=
  ⟨by simp, ⟨by simp, fun h => by cases h⟩, wfb_inl t m⟩

/-! ### what the grammar generates is well formed (`Lemmas/BlockGrammar.lean`) -/

theorem LeafNode.goodB {para : Bool} {n : BNode} (h : LeafNode n) : GoodB para n := by
  cases h with
  | hr m c r => exact good_leafB _ _ (.inl ⟨_, _, rfl⟩)
  | code c r => exact good_leafB _ _ (.inr (.inl ⟨_, rfl⟩))
  | fence i m l c r => exact good_leafB _ _ (.inr (.inr ⟨_, _, _, _, rfl⟩))
  | atx l r t m h1 h2 => exact good_textB _ _ _ _ (.inr (.inl ⟨l, rfl, h1, h2⟩))
  | setext l c r t m h1 h2 => exact good_textB _ _ _ _ (.inr (.inr ⟨l, c, rfl, h1, h2⟩))
  | paragraph r t m => exact good_textB _ _ _ _ (.inl rfl)

theorem GoodB.quote {para : Bool} {r : Option (Nat × Nat)} {cs : List BNode} (h : AllGoodB para cs) :
    GoodB para ⟨.blockquote, r, cs⟩ :=
  ⟨by simp, ⟨by simp, fun _ => by simp⟩, wfb_container (.inr rfl) h⟩

/-- may sit directly under a list item: what the tokenizer pushed, or the placeholder of a
    paragraph that `mark_tight_paragraphs` dissolved -/
def ItemKid (para : Bool) (c : BNode) : Prop := c.kind ≠ .listItem ∧ c.kind ≠ .root ∧ WFB para c

theorem wfb_item {para : Bool} {r : Option (Nat × Nat)} {cs : List BNode}
    (h : ∀ c ∈ cs, ItemKid para c) : WFB para ⟨.listItem, r, cs⟩ :=
  .mk _ ⟨fun c hc => (h c hc).2.1, fun c hc => (h c hc).1⟩ (fun c hc => (h c hc).2.2)

theorem wfb_item_of_good {para : Bool} {r : Option (Nat × Nat)} {cs : List BNode} (h : AllGoodB para cs) :
    WFB para ⟨.listItem, r, cs⟩ :=
  wfb_item fun c hc => ⟨(h c hc).top.1, (h c hc).notRoot, (h c hc).wf⟩

theorem markTight_kids {para : Bool} (cs : List BNode) (h : ∀ c ∈ cs, ItemKid para c) :
    ∀ c ∈ markTight cs, ItemKid para c := by
  intro c hc
  rcases mem_markTight hc with h1 | ⟨p, hp, hk, h1⟩
  · exact h c h1
  · have hloc := (h p hp).2.2.at
    rw [hk] at hloc
    obtain ⟨t, m, hcs⟩ := hloc.2
    rw [hcs] at h1
    cases List.mem_singleton.mp h1
    exact ⟨by simp, by simp, wfb_inl t m⟩

theorem tightenItem_wfb {para : Bool} {c : BNode} (hk : c.kind = .listItem) (h : WFB para c) :
    WFB para (tightenItem c) := by
  have hloc := h.at
  rw [hk] at hloc
  show WFB para ⟨c.kind, c.range, markTight c.children⟩
  rw [hk]
  exact wfb_item (markTight_kids _ fun y hy => ⟨hloc.2 y hy, hloc.1 y hy, h.child y hy⟩)

theorem GoodB.list {para : Bool} {k : Kind} {r : Option (Nat × Nat)} {tight : Bool} {items : List BNode}
    (hk : isListKind k = true) (h : ∀ c ∈ items, c.kind = .listItem ∧ WFB para c) :
    GoodB para ⟨k, r, if tight then items.map tightenItem else items⟩ := by
  have hcs := forall_tightened (tight := tight) h fun _ c hc => ⟨(h c hc).1, tightenItem_wfb (h c hc).1 (h c hc).2⟩
  rcases isListKind_cases hk with ⟨m, rfl⟩ | ⟨st, m, rfl⟩ <;>
    exact ⟨by simp, ⟨by simp, fun _ => by simp⟩,
      .mk _ ⟨fun c hc => by rw [(hcs c hc).1]; simp, fun c hc => (hcs c hc).1⟩ fun c hc => (hcs c hc).2⟩

mutual
theorem Emits.goodB {G : Gram} : ∀ {L : Nat} {n : BNode}, Emits G L n → GoodB G.para n
  | _, _, .leaf _ hn => hn.goodB
  | _, _, .bare _ hp => hp ▸ good_inlB _ _
  | _, _, .quote _ hcs => .quote fun c hc => (hcs c hc).goodB
  | _, _, .list _ hk hit => .list hk fun c hc => (hit c hc).wfb
theorem EmitsItem.wfb {G : Gram} : ∀ {L : Nat} {t : Bool} {c : BNode}, EmitsItem G L t c →
    c.kind = .listItem ∧ WFB G.para c
  | _, _, _, .mk hcs _ => ⟨rfl, wfb_item_of_good fun y hy => (hcs y hy).goodB⟩
end

/-! ### the same by induction over the rules, for a nested tokenizer that is only known to keep its children good

  Nothing below `tokenize_wf` rests on these three: they say, rule by rule and for the loop, what the recursion
  over the grammar says of whole trees, for call-backs of which no more is known than `TokWF`. -/

def KeepsGoodB (para : Bool) (s s' : BState) : Prop := AllGoodB para s.children → AllGoodB para s'.children

def TokWF (para : Bool) (tok : Tok) : Prop := ∀ s s', tok s = .ok s' → KeepsGoodB para s s'

theorem listItemBody_wf {para : Bool} {tok : Tok} (hsh : TokWF para tok) {S2 S3 : BState} {m : Nat} {re : Bool}
    (h : listItemBody tok S2 m re = .ok S3) : KeepsGoodB para S2 S3 := by
  rcases listItemBody_ok h with ⟨-, -, rfl⟩ | ⟨-, S, htok, -, rfl⟩
  · exact fun hg => hg
  · exact fun hg => hsh { S2 with line := m, level := S2.level + 1 } S htok hg

theorem runRule_wf {para : Bool} {cfg : Cfg} {tok : Tok} {test : Test} (hk : TokSpec tok)
    (hsh : TokWF para tok) (ht : TestPure test) (fuel : Nat) (r : RuleId) {s s' : BState} {b : Bool}
    (h : runRule cfg tok test fuel r s false = .ok (b, s')) (hl : s.line < s.lineMax) :
    KeepsGoodB para s s' := by
  intro hg
  have hkids : ∀ {SN S2 : BState}, tok SN = .ok S2 → SN.children = [] → AllGoodB para S2.children :=
    fun htok hnil => hsh _ _ htok (hnil ▸ AllGoodB.nil)
  rcases r.nests_cases with rfl | rfl | ⟨hq, hli⟩
  · rcases blockquote_children hk ht h with ⟨-, rfl⟩ | ⟨SN, S2, r, -, htok, hnil, -, hc⟩
    · exact hg
    · exact hc ▸ hg.push (.quote (hkids htok hnil))
  · rcases list_children hk ht h with ⟨-, rfl⟩ | ⟨k, r, tight, items, -, hkind, hrun, hc⟩
    · exact hg
    refine hc ▸ hg.push (.list hkind fun c hc => ?_)
    obtain ⟨r, cs, rfl, rfl | ⟨SN, S2, htok, hnil, -, -, rfl⟩⟩ := hrun c hc
    · exact ⟨rfl, wfb_item_of_good AllGoodB.nil⟩
    · exact ⟨rfl, wfb_item_of_good (hkids htok hnil)⟩
  · rcases flatRule_children ht h hq hli with ⟨-, hc⟩ | ⟨n, -, hc, hn, -, -⟩
    · exact hc ▸ hg
    · exact hc ▸ hg.push hn.goodB

theorem tokLoop_wf {para : Bool} {cfg : Cfg} {run : RuleId → BState → Bool → Res} (hr : RunSpec run)
    (hsh : ∀ r s b s', run r s false = .ok (b, s') → s.line < s.lineMax → KeepsGoodB para s s')
    (hpara : para = true → ∀ s b s', runChain run cfg.chain s false = .ok (b, s') → b = true) :
    ∀ (fuel : Nat) (he : Bool) (s s' : BState), tokLoop cfg run fuel he s = .ok s' → KeepsGoodB para s s' := by
  refine tokLoop_keeps (K := KeepsGoodB para) (fun _ _ _ _ hg => hg) (fun _ _ _ h1 h2 hg => h2 (h1 hg)) ?_
  intro s ok S1 S2 hl _ _ hchain hafter hg
  -- the rule that claims the line ran on the state the chain was entered with
  have h1 : AllGoodB para S1.children := by
    rcases runChain_ok hr.false_same _ hchain with ⟨-, rfl⟩ | ⟨r, -, -, hrule⟩
    · exact hg
    · exact hsh _ _ _ _ hrule hl hg
  rcases afterChain_ok hafter with ⟨_, _, rfl⟩ | ⟨_, _, hok, _, _, rfl⟩
  · exact h1
  · cases para with
    | false => exact h1.push (good_inlB _ _)
    | true => exact absurd (hpara rfl _ _ _ hchain) (by rw [hok]; exact Bool.false_ne_true)

/-- the tokenizer pushes only well-formed nodes that may sit under `Root` / `Blockquote` -/
theorem tokenize_wf (cfg : Cfg) : ∀ fuel : Nat, TokWF cfg.hasPara (tokenize cfg fuel) :=
  fun fuel s s' h => ((tokenize_emits cfg fuel).1 s s' h).all fun _ hc => hc.goodB

/-- Every tree the block parser returns is well formed (`WFB`, at every
    node): the top is `Root` and `Root` occurs nowhere else; an ATX heading has a level in `1..6`, a
    setext heading a level in `1..2` (so `TAG[level - 1]` of their `render` is in range); a paragraph
    / heading has exactly one child, an `InlineRoot` placeholder without children; thematic breaks,
    code blocks, fences and placeholders are childless; lists contain list items only and list items
    occur under lists only; and when the paragraph rule is in the chain no bare `InlineRoot` sits
    under `Root` / `Blockquote` (only under paragraphs, headings and — tight lists — list items). -/
theorem parseBlocks_wf {cfg : Cfg} {src : List Char} {root : BNode} {refs : Refs.RefMap}
    (h : parseBlocks cfg src = .ok (root, refs)) : root.kind = .root ∧ WFB cfg.hasPara root := by
  obtain ⟨cs, rfl, hcs⟩ := parseBlocks_emits h
  exact ⟨rfl, wfb_container (.inl rfl) fun c hc => (hcs c hc).goodB⟩

/-- In every tree the block parser returns, a list node (`BulletList` /
    `OrderedList`) has only `ListItem` children, and a `ListItem` occurs only as a child of a list node
    (`Shaped`: `ShapeAt` holds at every node).  In particular the `debug_assert!(child.is::<ListItem>())`
    of the list rule cannot fire, and `mark_tight_paragraphs` never moves a list item out of its list. -/
theorem list_shape {cfg : Cfg} {src : List Char} {root : BNode} {refs : Refs.RefMap}
    (h : parseBlocks cfg src = .ok (root, refs)) : Shaped root :=
  (parseBlocks_wf h).2.shaped

end MdIt.Block

/-! # Part B: the document pipeline -/

namespace MdIt.Pipeline
open MdIt.NodeRender (aSourcepos)

/-! ## the kinds of the final tree -/

/-- a block value as `render` needs it: no `InlineRoot` placeholder, heading levels inside the
    `TAG` tables -/
def BlkOK : Block.Kind → Prop
  | .atx l => 1 ≤ l ∧ l ≤ 6
  | .setext l _ => 1 ≤ l ∧ l ≤ 2
  | .inlineRoot _ _ => False
  | _ => True

/-- a final value: a block value that is `BlkOK`, or an inline value that is not the `EmphMarker`
    placeholder (`markers = true`: placeholders still allowed — the tree before `FragmentsJoin`) -/
def KindOK (markers : Bool) : Kind → Prop
  | .blk k => BlkOK k
  | k => k.isMarker = true → markers = true

theorem BlkOK_of_loc {para : Bool} {k : Block.Kind} {cs : List Block.BNode} (h : Block.LocB para k cs)
    (hk : ∀ t m, k ≠ .inlineRoot t m) : BlkOK k := by
  cases k <;> simp only [BlkOK]
  case atx l => exact h.2.1
  case setext l c => exact h.2.1
  case inlineRoot t m => exact absurd rfl (hk t m)

/-! ## the passes: the splice walk -/

/-- what the inline parser's values satisfy: without an emphasis-like rule no `EmphMarker` is ever
    created (`Inline.notMarker_good`) -/
def ValOK (icfg : Inline.Cfg) (v : Inline.Val) : Prop := icfg.hasEmph = false → Inline.NotMarker v

theorem valOK_good (icfg : Inline.Cfg) : Inline.GoodP icfg (ValOK icfg) := by
  have hno : icfg.hasEmph = false → ∀ mk csw, Inline.RuleId.emph mk csw ∉ icfg.chain := by
    intro h mk csw hmem
    unfold Inline.Cfg.hasEmph at h
    rw [List.any_eq_false] at h
    have := h _ hmem
    simp [Inline.RuleId.isEmph] at this
  exact ⟨fun _ _ => trivial, fun _ _ _ _ => trivial, fun _ => trivial, fun _ => trivial,
    fun _ _ _ => trivial, fun _ _ _ _ _ => trivial, fun _ _ _ _ => trivial, fun _ _ _ _ => trivial,
    fun mk csw hm _ _ _ _ he => absurd hm (hno he mk csw), fun _ _ _ _ _ => trivial,
    fun _ _ _ _ _ _ h => h⟩

/-- the condition on a node after the splice walk: no attribute yet, a final value except that
    `EmphMarker`s may be there when an emphasis-like rule is configured -/
def Spliced (markers : Bool) (n : Node) : Prop := n.attrs = [] ∧ KindOK markers n.kind

mutual
theorem ofInline_every_of {R : Inline.Val → Prop} {P : Node → Prop}
    (step : ∀ v r cs, R v → (∀ c ∈ ofInlineList cs, Every P c) → P ⟨.inl v, r, [], ofInlineList cs⟩)
    (n : Inline.Node) (h : Inline.AllVals R n) : Every P (ofInline n) := by
  match n with
  | ⟨v, r, cs⟩ =>
    rw [Inline.AllVals_eq] at h
    have hk := ofInlineList_every_of step cs h.2
    unfold ofInline
    exact .mk _ (step v r cs h.1 hk) hk
theorem ofInlineList_every_of {R : Inline.Val → Prop} {P : Node → Prop}
    (step : ∀ v r cs, R v → (∀ c ∈ ofInlineList cs, Every P c) → P ⟨.inl v, r, [], ofInlineList cs⟩)
    (cs : List Inline.Node) (h : Inline.AllValsList R cs) : ∀ c ∈ ofInlineList cs, Every P c := by
  match cs with
  | [] => simp [ofInlineList]
  | c :: r =>
    simp only [Inline.AllValsList] at h
    intro x hx
    simp only [ofInlineList, List.mem_cons] at hx
    rcases hx with rfl | hx
    · exact ofInline_every_of step c h.1
    · exact ofInlineList_every_of step r h.2 x hx
end

theorem kindOK_val {icfg : Inline.Cfg} {v : Inline.Val} (hv : ValOK icfg v) :
    KindOK icfg.hasEmph (.inl v) := by
  cases v <;> simp only [KindOK, Kind.isMarker] <;> try (intro hc; cases hc)
  cases he : icfg.hasEmph with
  | true => rfl
  | false => exact absurd (hv he) (by simp [Inline.NotMarker])

theorem ofInline_every {icfg : Inline.Cfg} (n : Inline.Node) (h : Inline.AllVals (ValOK icfg) n) :
    Every (Spliced icfg.hasEmph) (ofInline n) :=
  ofInline_every_of (fun _ _ _ hv _ => ⟨rfl, kindOK_val hv⟩) n h

theorem ofInlineList_every {icfg : Inline.Cfg} (cs : List Inline.Node)
    (h : Inline.AllValsList (ValOK icfg) cs) :
    ∀ c ∈ ofInlineList cs, Every (Spliced icfg.hasEmph) c :=
  ofInlineList_every_of (fun _ _ _ hv _ => ⟨rfl, kindOK_val hv⟩) cs h

/-- is the block value the `InlineRoot` placeholder (as a proposition with the payload at hand; the Boolean is
    `Block.Kind.isInl`: `isInl_of_not`) -/
def IsInl (k : Block.Kind) : Prop := ∃ t m, k = .inlineRoot t m

theorem isInl_of_not {k : Block.Kind} (h : ¬ IsInl k) : k.isInl = false := by
  cases k <;> first | rfl | exact absurd ⟨_, _, rfl⟩ h

theorem notInl_root {b : Block.BNode} (h : b.kind = .root) : ¬ IsInl b.kind := by
  rw [h]; rintro ⟨_, _, e⟩; cases e

/-! The splice walk is taken over an arbitrary placeholder parser (`PipelineH.spliceNodeG parse`): the walk
    of `Model/Pipeline.lean` is the instance `Inline.parseInline icfg`, the walk with the raw-HTML plugin
    the instance `InlineH.parseInlineH icfg`. -/
section Splice
open MdIt.PipelineH (spliceNodeG spliceListG)
variable {parse : List Char → InlineOps.Srcmap → Except Inline.Panic (List Inline.Node)}

mutual
theorem spliceNodeG_parseInline (icfg : Inline.Cfg) (b : Block.BNode) :
    spliceNodeG (Inline.parseInline icfg) b = spliceNode icfg b := by
  match b with
  | ⟨k, r, cs⟩ =>
    simp only [spliceNodeG, spliceNode, spliceListG_parseInline icfg cs]
    cases spliceList icfg cs <;> rfl
theorem spliceListG_parseInline (icfg : Inline.Cfg) (cs : List Block.BNode) :
    spliceListG (Inline.parseInline icfg) cs = spliceList icfg cs := by
  match cs with
  | [] => simp only [spliceListG, spliceList]
  | c :: rest =>
    simp only [spliceListG, spliceList, spliceNodeG_parseInline icfg c, spliceListG_parseInline icfg rest]
    cases hk : c.kind <;> (try (rename_i content mapping; cases Inline.parseInline icfg content mapping)) <;>
      cases spliceList icfg rest <;> cases spliceNode icfg c <;> rfl
end

theorem spliceNodeG_ok {b : Block.BNode} {t : Node} (h : spliceNodeG parse b = .ok t) :
    ∃ cs', spliceListG parse b.children = .ok cs' ∧ t = ⟨.blk b.kind, b.range, [], cs'⟩ := by
  obtain ⟨k, r, cs⟩ := b
  simp only [spliceNodeG] at h
  split at h
  · cases h
  · next cs' hcs => cases h; exact ⟨cs', hcs, rfl⟩

theorem spliceNodeG_kind {b : Block.BNode} {t : Node} (h : spliceNodeG parse b = .ok t) :
    t.kind = .blk b.kind := by
  obtain ⟨_, _, rfl⟩ := spliceNodeG_ok h; rfl

theorem spliceNodeG_range {b : Block.BNode} {t : Node} (h : spliceNodeG parse b = .ok t) :
    t.range = b.range := by
  obtain ⟨_, _, rfl⟩ := spliceNodeG_ok h; rfl

theorem spliceListG_nil {out : List Node} (h : spliceListG parse [] = .ok out) : out = [] := by
  simp [spliceListG] at h; exact h

theorem spliceListG_cons_ok {c : Block.BNode} {rest : List Block.BNode} {out : List Node}
    (h : spliceListG parse (c :: rest) = .ok out) :
    ∃ rest', spliceListG parse rest = .ok rest' ∧
      ((∃ content mapping ns, c.kind = .inlineRoot content mapping ∧ parse content mapping = .ok ns ∧
          out = ofInlineList ns ++ rest') ∨
       (¬ IsInl c.kind ∧ ∃ c', spliceNodeG parse c = .ok c' ∧ out = c' :: rest')) := by
  simp only [spliceListG] at h
  split at h
  · next content mapping hk =>
    split at h
    · cases h
    · next ns hns =>
      split at h
      · cases h
      · next rest' hr => cases h; exact ⟨rest', hr, .inl ⟨content, mapping, ns, hk, hns, rfl⟩⟩
  · next hne =>
    split at h
    · cases h
    · next c' hc =>
      split at h
      · cases h
      · next rest' hr => cases h; exact ⟨rest', hr, .inr ⟨fun ⟨t, m, e⟩ => hne t m e, c', hc, rfl⟩⟩

mutual
/-- **The splice walk, for an arbitrary predicate.**  `B` is what is known of the block tree, closed under the
    children of the nodes that are walked (a placeholder's own children are dropped); `P` holds at every node of the
    result if it holds at every node `parse` returns for a placeholder and at every walked block node over its
    spliced children. -/
theorem spliceNode_every_of {B : Block.BNode → Prop} {P : Node → Prop}
    (hB : ∀ b, B b → ¬ IsInl b.kind → ∀ c ∈ b.children, B c)
    (hinl : ∀ c content mapping ns, B c → c.kind = .inlineRoot content mapping →
      parse content mapping = .ok ns → ∀ x ∈ ofInlineList ns, Every P x)
    (hblk : ∀ b cs', B b → ¬ IsInl b.kind → spliceListG parse b.children = .ok cs' →
      (∀ x ∈ cs', Every P x) → P ⟨.blk b.kind, b.range, [], cs'⟩)
    (b : Block.BNode) (hb : B b) (hk : ¬ IsInl b.kind) (t : Node) (h : spliceNodeG parse b = .ok t) :
    Every P t := by
  match b with
  | ⟨k, r, cs⟩ =>
    obtain ⟨cs', hcs, rfl⟩ := spliceNodeG_ok h
    have hkids := spliceList_every_of hB hinl hblk cs (hB _ hb hk) cs' hcs
    exact .mk _ (hblk _ cs' hb hk hcs hkids) hkids
theorem spliceList_every_of {B : Block.BNode → Prop} {P : Node → Prop}
    (hB : ∀ b, B b → ¬ IsInl b.kind → ∀ c ∈ b.children, B c)
    (hinl : ∀ c content mapping ns, B c → c.kind = .inlineRoot content mapping →
      parse content mapping = .ok ns → ∀ x ∈ ofInlineList ns, Every P x)
    (hblk : ∀ b cs', B b → ¬ IsInl b.kind → spliceListG parse b.children = .ok cs' →
      (∀ x ∈ cs', Every P x) → P ⟨.blk b.kind, b.range, [], cs'⟩)
    (cs : List Block.BNode) (hcs : ∀ c ∈ cs, B c) (out : List Node) (h : spliceListG parse cs = .ok out) :
    ∀ x ∈ out, Every P x := by
  match cs with
  | [] => rw [spliceListG_nil h]; simp
  | c :: rest =>
    obtain ⟨rest', hr, hc⟩ := spliceListG_cons_ok h
    have ih := spliceList_every_of hB hinl hblk rest (fun x hx => hcs x (List.mem_cons_of_mem _ hx)) rest' hr
    have hc0 := hcs c (List.mem_cons_self ..)
    intro x hx
    rcases hc with ⟨content, mapping, ns, hk, hns, rfl⟩ | ⟨hk, c', hc', rfl⟩
    · rcases List.mem_append.mp hx with h1 | h1
      · exact hinl c content mapping ns hc0 hk hns x h1
      · exact ih x h1
    · rcases List.mem_cons.mp hx with rfl | h1
      · exact spliceNode_every_of hB hinl hblk c hc0 hk _ hc'
      · exact ih x h1
end

theorem parseInline_spliced (icfg : Inline.Cfg) {c : List Char} {m : InlineOps.Srcmap} {ns : List Inline.Node}
    (h : Inline.parseInline icfg c m = .ok ns) : ∀ x ∈ ofInlineList ns, Every (Spliced icfg.hasEmph) x :=
  ofInlineList_every ns (Inline.parseInline_vals icfg (valOK_good icfg) h)

theorem spliceNode_spliced {para markers : Bool}
    (hp : ∀ c m ns, parse c m = .ok ns → ∀ x ∈ ofInlineList ns, Every (Spliced markers) x)
    {b : Block.BNode} {t : Node} (hw : Block.WFB para b) (hk : ¬ IsInl b.kind)
    (h : spliceNodeG parse b = .ok t) : Every (Spliced markers) t :=
  spliceNode_every_of (fun _ h _ => h.child) (fun _ c m ns _ _ hns => hp c m ns hns)
    (fun _ _ hw hk _ _ => ⟨rfl, BlkOK_of_loc hw.at (fun t m e => hk ⟨t, m, e⟩)⟩) b hw hk t h

mutual
theorem spliceNodeG_panic (b : Block.BNode) (e : Panic) (h : spliceNodeG parse b = .error e) :
    ∃ p, e = .inline p := by
  match b with
  | ⟨k, r, cs⟩ =>
    simp only [spliceNodeG] at h
    split at h
    · rename_i e' he'; cases h; exact spliceListG_panic cs _ he'
    · cases h
theorem spliceListG_panic (cs : List Block.BNode) (e : Panic) (h : spliceListG parse cs = .error e) :
    ∃ p, e = .inline p := by
  match cs with
  | [] => simp [spliceListG] at h
  | c :: rest =>
    simp only [spliceListG] at h
    split at h
    · split at h
      · cases h; exact ⟨_, rfl⟩
      · split at h
        · rename_i e' he'; cases h; exact spliceListG_panic rest _ he'
        · cases h
    · split at h
      · rename_i e' he'; cases h; exact spliceNodeG_panic c _ he'
      · split at h
        · rename_i e' he'; cases h; exact spliceListG_panic rest _ he'
        · cases h
end

theorem spliceNode_panic {icfg : Inline.Cfg} (b : Block.BNode) (e : Panic)
    (h : spliceNode icfg b = .error e) : ∃ p, e = .inline p :=
  spliceNodeG_panic b e (by rw [spliceNodeG_parseInline]; exact h)

theorem spliceList_panic {icfg : Inline.Cfg} (cs : List Block.BNode) (e : Panic)
    (h : spliceList icfg cs = .error e) : ∃ p, e = .inline p :=
  spliceListG_panic cs e (by rw [spliceListG_parseInline]; exact h)

theorem spliceList_every {para : Bool} {icfg : Inline.Cfg} (cs : List Block.BNode)
    (hw : ∀ c ∈ cs, Block.WFB para c) (out : List Node) (h : spliceList icfg cs = .ok out) :
    ∀ c ∈ out, Every (Spliced icfg.hasEmph) c :=
  spliceList_every_of (fun _ h _ => h.child) (fun _ _ _ _ _ _ hns => parseInline_spliced icfg hns)
    (fun _ _ hw hk _ _ => ⟨rfl, BlkOK_of_loc hw.at (fun t m e => hk ⟨t, m, e⟩)⟩) cs hw out
    (by rw [spliceListG_parseInline]; exact h)

end Splice

/-! ## the passes: `FragmentsJoin` -/

theorem kindOK_text (markers : Bool) {n : Node} (h : n.isText = true) : KindOK markers n.kind := by
  have := isMarker_of_isText h
  cases hk : n.kind with
  | blk k => unfold Node.isText at h; rw [hk] at h; simp at h
  | inl v => rw [hk] at this; simp only [KindOK]; intro hc; rw [hc] at this; cases this

/-- after `FragmentsJoin::run` no `EmphMarker` is left anywhere in the document -/
theorem joinNode_every {n : Node} (he : Every (Spliced true) n) (hm : n.kind.isMarker = false) :
    Every (Spliced false) (joinNode n) := by
  refine joinNode_every_of (fun c x hr ht _ hc => ⟨by rw [hr.2.1]; exact hc.1, kindOK_text true ht⟩) ?_ he hm
  intro n he hm
  refine ⟨by rw [joinNode_eq]; exact he.here.1, ?_⟩
  rw [joinNode_kind]
  have := he.here.2
  cases hk : n.kind with
  | blk b => rw [hk] at this; exact this
  | inl v => simp only [KindOK]; intro hc; rw [hk] at hm; rw [hm] at hc; cases hc

theorem joinIf_spliced {join : Bool} {t0 : Node} (he : Every (Spliced join) t0)
    (hm : t0.kind.isMarker = false) : Every (Spliced false) (if join = true then joinNode t0 else t0) := by
  cases join with
  | true => exact joinNode_every he hm
  | false => exact he

/-! ## the passes: `SyntaxPosRule` -/

/-- the condition on a node of the tree `parseDoc` returns: every attribute is a `data-sourcepos`,
    the value is final -/
def Final (n : Node) : Prop := (∀ nv ∈ n.attrs, nv.1 = aSourcepos) ∧ KindOK false n.kind

theorem Spliced.final {n : Node} (h : Spliced false n) : Final n :=
  ⟨by rw [h.1]; simp, h.2⟩

/-- the callback never panics (`C15.getPositions_spec`) and pushes exactly the positions of the
    specification of C15 -/
theorem sourceposAttrs_eq (src : List Char) (range : Option (Nat × Nat))
    (attrs : List (List Char × List Char)) :
    sourceposAttrs src (SourceMap.mkMarks src) range attrs =
      .ok (match range with
           | none => attrs
           | some r => attrs ++ [(aSourcepos, sourceposValue (SourceMap.specRange src r))]) := by
  unfold sourceposAttrs
  cases range with
  | none => rfl
  | some r => obtain ⟨a, b⟩ := r; simp only [SourceMap.getPositions_spec]

theorem sourceposAttrs_names {src : List Char} {marks : List SourceMap.Mark} {range : Option (Nat × Nat)}
    {a a' : List (List Char × List Char)} (h : sourceposAttrs src marks range a = .ok a')
    (ha : ∀ nv ∈ a, nv.1 = aSourcepos) : ∀ nv ∈ a', nv.1 = aSourcepos := by
  unfold sourceposAttrs at h
  split at h
  · cases h; exact ha
  · split at h
    · cases h
    · cases h
      intro nv hnv
      rcases List.mem_append.mp hnv with h1 | h1
      · exact ha nv h1
      · simp at h1; subst h1; rfl

theorem spF_names {src : List Char} {marks : List SourceMap.Mark} {r : Option (Nat × Nat)}
    {a : List (List Char × List Char)} (ha : ∀ nv ∈ a, nv.1 = aSourcepos) :
    ∀ nv ∈ spF src marks r a, nv.1 = aSourcepos := by
  unfold spF
  split
  · next h => exact sourceposAttrs_names h ha
  · exact ha

theorem final_sourcepos {src : List Char} {marks : List SourceMap.Mark} (n : Node) (hn : Final n) :
    Final ⟨n.kind, n.range, spF src marks n.range n.attrs, n.children.map (mapAttrs (spF src marks))⟩ :=
  ⟨spF_names hn.1, hn.2⟩

theorem sourceposNode_every {src : List Char} {marks : List SourceMap.Mark} (t t' : Node)
    (he : Every Final t) (h : sourceposNode src marks t = .ok t') : Every Final t' ∧ t'.kind = t.kind :=
  ⟨sourceposNode_every_of final_sourcepos he h, by rw [sourceposNode_eq_mapAttrs h, mapAttrs_kind]⟩

theorem sourceposList_every {src : List Char} {marks : List SourceMap.Mark} (cs cs' : List Node)
    (he : ∀ c ∈ cs, Every Final c) (h : sourceposList src marks cs = .ok cs') :
    ∀ c ∈ cs', Every Final c :=
  sourceposList_every_of final_sourcepos he h

/-- `SyntaxPosRule` never panics -/
theorem sourceposNode_total (src : List Char) (t : Node) :
    ∃ t', sourceposNode src (SourceMap.mkMarks src) t = .ok t' :=
  ⟨_, sourceposNode_of_attrs (sourceposAttrs_eq src) t⟩

theorem sourceposList_total (src : List Char) (cs : List Node) :
    ∃ cs', sourceposList src (SourceMap.mkMarks src) cs = .ok cs' :=
  ⟨_, sourceposList_of_attrs (sourceposAttrs_eq src) cs⟩

/-! ## the projection to `NodeRender.Node` -/

mutual
theorem toRender_nodes_within (lp : List Char) (t : Node) :
    ∀ m ∈ NodeRender.nodes (toRender lp t), ∃ n, Within n t ∧ m = toRender lp n := by
  match t with
  | ⟨k, r, a, cs⟩ =>
    intro m hm
    simp only [toRender, NodeRender.nodes, List.mem_cons] at hm
    rcases hm with rfl | hm
    · exact ⟨⟨k, r, a, cs⟩, .self _, by simp only [toRender]⟩
    · obtain ⟨n, c, hc, hw, e⟩ := toRenderList_nodes_within lp cs m hm
      exact ⟨n, .under hc hw, e⟩
theorem toRenderList_nodes_within (lp : List Char) (cs : List Node) :
    ∀ m ∈ NodeRender.nodesList (toRenderList lp cs), ∃ n c, c ∈ cs ∧ Within n c ∧ m = toRender lp n := by
  match cs with
  | [] => simp [toRenderList, NodeRender.nodesList]
  | c :: r =>
    intro m hm
    simp only [toRenderList, NodeRender.nodesList, List.mem_append] at hm
    rcases hm with hm | hm
    · obtain ⟨n, hw, e⟩ := toRender_nodes_within lp c m hm
      exact ⟨n, c, by simp, hw, e⟩
    · obtain ⟨n, c', hc', hw, e⟩ := toRenderList_nodes_within lp r m hm
      exact ⟨n, c', List.mem_cons_of_mem _ hc', hw, e⟩
end

theorem toRender_eq (lp : List Char) (n : Node) :
    toRender lp n = ⟨n.kind.toRender lp, n.attrs, toRenderList lp n.children⟩ := by
  cases n; simp only [toRender]

theorem toRenderList_nodes (lp : List Char) (cs : List Node) (he : ∀ c ∈ cs, Every Final c) :
    ∀ m ∈ NodeRender.nodesList (toRenderList lp cs), ∃ k, m.kind = Kind.toRender lp k ∧ KindOK false k ∧
      ∀ nv ∈ m.attrs, nv.1 = aSourcepos := by
  intro m hm
  obtain ⟨n, c, hc, hw, rfl⟩ := toRenderList_nodes_within lp cs m hm
  rw [toRender_eq]
  exact ⟨n.kind, rfl, ((he c hc).within hw).2, ((he c hc).within hw).1⟩

/-- the model has no html kinds: no value projects to `HtmlBlock` / `HtmlInline` -/
theorem toRender_not_html (lp : List Char) (k : Kind) :
    (∀ c, Kind.toRender lp k ≠ .htmlBlock c) ∧ (∀ c, Kind.toRender lp k ≠ .htmlInline c) := by
  constructor <;> intro c h
  all_goals (
    cases k with
    | blk b => cases b <;> simp [Kind.toRender] at h
    | inl v =>
      cases v with
      | wrap w m => cases w <;> simp [Kind.toRender] at h
      | _ => simp [Kind.toRender] at h)

theorem toRender_level (lp : List Char) (k : Kind) (hk : KindOK false k) :
    (∀ l, Kind.toRender lp k = .atx l → 1 ≤ l ∧ l ≤ 6) ∧
    (∀ l, Kind.toRender lp k = .setext l → 1 ≤ l ∧ l ≤ 2) ∧ Kind.toRender lp k ≠ .placeholder := by
  cases k with
  | blk b =>
    cases b <;> simp only [Kind.toRender, KindOK, BlkOK] at hk ⊢ <;> simp
    all_goals (first | exact hk | (intro l e; subst e; exact hk))
  | inl v =>
    cases v with
    | wrap w m => cases w <;> simp [Kind.toRender]
    | emphMarker m l r o c => simp [KindOK, Kind.isMarker] at hk
    | _ => simp [Kind.toRender]

/-- **From the tree invariant to the three hypotheses of `NodeRender.safe_output`.** -/
theorem final_hyps (lp : List Char) (t : Node) (he : Every Final t) :
    NodeRender.Renderable (toRender lp t) ∧ NodeRender.HtmlFree (toRender lp t) ∧
      NodeRender.AttrsSourcepos (toRender lp t) := by
  apply NodeRender.hyps_of_all_nodes
  all_goals
    intro m hm
    obtain ⟨n, hw, rfl⟩ := toRender_nodes_within lp t m hm
    rw [toRender_eq]
  · exact toRender_level lp n.kind (he.within hw).2
  · exact toRender_not_html lp n.kind
  · exact (he.within hw).1

/-! ## the tree `parseDoc` returns -/

theorem hasEmph_inlineCfg (cfg : DocCfg) (refs : Refs.RefMap) : (cfg.inlineCfg refs).hasEmph = cfg.hasJoin := rfl

theorem finish_total (join sp : Bool) (src : List Char) (t0 : Node) : ∃ t, finish join sp src t0 = .ok t := by
  cases sp with
  | true => exact sourceposNode_total src _
  | false => exact ⟨_, rfl⟩

theorem finish_no_panic (join sp : Bool) (src : List Char) (t0 : Node) {e : Panic} :
    finish join sp src t0 ≠ .error e := fun h => by
  obtain ⟨t, ht⟩ := finish_total join sp src t0
  rw [ht] at h
  cases h

section Doc
open MdIt.PipelineH (spliceNodeG)
variable {parse : List Char → InlineOps.Srcmap → Except Inline.Panic (List Inline.Node)}

/-- the tree invariant, from what the block pass (`WFB`) and the placeholder parser (`Spliced`)
    guarantee: no `InlineRoot` (the walk replaces every one; the analogue of `C14.splice_removes_inlineroot`),
    no `EmphMarker` (`joinNode_every` when the join pass runs), heading levels in range -/
theorem final_of_passes {para join sp : Bool} {src : List Char} {root : Block.BNode} {t0 t : Node}
    (hroot : root.kind = .root) (hwf : Block.WFB para root)
    (hp : ∀ c m ns, parse c m = .ok ns → ∀ x ∈ ofInlineList ns, Every (Spliced join) x)
    (hs : spliceNodeG parse root = .ok t0) (hf : finish join sp src t0 = .ok t) :
    Every Final t ∧ t.kind = .blk .root ∧ t.range = root.range := by
  have hk0 : t0.kind = .blk .root := by rw [spliceNodeG_kind hs, hroot]
  have he1 := joinIf_spliced (spliceNode_spliced hp hwf (notInl_root hroot) hs) (by rw [hk0]; rfl)
  obtain ⟨h1, h2, h3⟩ := finish_every (Q := Final) hf he1
    (fun _ n hn => final_sourcepos n hn.final) (fun _ _ => Spliced.final)
  exact ⟨h1, h2.trans hk0, h3.trans (spliceNodeG_range hs)⟩

theorem parseDoc_ok {cfg : DocCfg} {src : List Char} {t : Node} (h : parseDoc cfg src = .ok t) :
    ∃ root refs t0, Block.parseBlocks cfg.blockCfg src = .ok (root, refs) ∧
      spliceNodeG (Inline.parseInline (cfg.inlineCfg refs)) root = .ok t0 ∧
      finish cfg.hasJoin cfg.sourcepos src t0 = .ok t := by
  unfold parseDoc at h
  split at h
  · cases h
  · next root refs hb =>
    obtain ⟨t0, hs, hf⟩ := afterBlocks_ok h
    exact ⟨root, refs, t0, hb, by rw [spliceNodeG_parseInline]; exact hs, hf⟩

open MdIt.PipelineH (spliceListG) in
/-- `Every P` of a parsed document, for either pipeline (`parseDoc_ok` / `PipelineH.parseDocH_ok` give `hs`, `hf`)
    and a predicate that is the same in front of and behind the passes -/
theorem passes_every {B : Block.BNode → Prop} {P : Node → Prop} {join sp : Bool} {src : List Char}
    {root : Block.BNode} {t0 t : Node} (hs : spliceNodeG parse root = .ok t0)
    (hf : finish join sp src t0 = .ok t) (hroot : root.kind = .root)
    (hB : ∀ b, B b → ¬ IsInl b.kind → ∀ c ∈ b.children, B c) (hb : B root)
    (hinl : ∀ c content mapping ns, B c → c.kind = .inlineRoot content mapping →
      parse content mapping = .ok ns → ∀ x ∈ ofInlineList ns, Every P x)
    (hblk : ∀ b cs', B b → ¬ IsInl b.kind → spliceListG parse b.children = .ok cs' →
      (∀ x ∈ cs', Every P x) → P ⟨.blk b.kind, b.range, [], cs'⟩)
    (hj : join = true → JoinStable P) (ha : sp = true → AttrBlind P) : Every P t :=
  finish_stable hj ha hf (spliceNode_every_of hB hinl hblk root hb (notInl_root hroot) t0 hs)

end Doc

/-- **The invariant of the parsed tree.**  Whatever `parseDoc` returns is rooted at `Root` and every
    node of it, at any depth, is `Final`: its attributes are all `data-sourcepos` and its value is
    final — no `InlineRoot`, no `EmphMarker` (`joinNode_every` when an emphasis-like rule is configured,
    `Inline.notMarker_good` when none is: then no rule creates one), ATX levels in `1..6`, setext levels in
    `1..2` (`Block.parseBlocks_wf`).
    For EVERY configuration (any chains, any `max_nesting`, with or without `sourcepos`). -/
theorem parseDoc_final {cfg : DocCfg} {src : List Char} {t : Node} (h : parseDoc cfg src = .ok t) :
    Every Final t ∧ t.kind = .blk .root := by
  obtain ⟨root, refs, t0, hb, hs, hf⟩ := parseDoc_ok h
  obtain ⟨hroot, hwf⟩ := Block.parseBlocks_wf hb
  have := final_of_passes hroot hwf (fun _ _ _ => parseInline_spliced (cfg.inlineCfg refs)) hs hf
  exact ⟨this.1, this.2.1⟩

/-- the core chain behind the block pass can only fail in one of the inline runs: the splice walk, the join
    pass and `SyntaxPosRule` add no panic (`C15.getPositions_spec`) -/
theorem afterBlocks_panic {cfg : DocCfg} {src : List Char} {root : Block.BNode} {refs : Refs.RefMap}
    {e : Panic} (h : afterBlocks cfg src root refs = .error e) : ∃ p, e = .inline p := by
  unfold afterBlocks at h
  split at h
  · next e' he' => cases h; exact spliceNode_panic _ _ he'
  · exact absurd h (finish_no_panic cfg.hasJoin cfg.sourcepos src _)

/-- a panic of `parseDoc` is a panic of the block pass or of one of the inline runs -/
theorem parseDoc_panic {cfg : DocCfg} {src : List Char} {e : Panic} (h : parseDoc cfg src = .error e) :
    (∃ p, e = .block p) ∨ (∃ p, e = .inline p) := by
  unfold parseDoc at h
  split at h
  · cases h; exact .inl ⟨_, rfl⟩
  · exact .inr (afterBlocks_panic h)

/-! ## 1. `doc_output_html_free` -/

/-- **`doc_output_html_free`.**  For every configuration of the model (html-free by construction:
    its chains range over the nine cmark block rules and the ten html-free inline rules, in any
    subset and order) and every source: the parsed tree has no `HtmlBlock` / `HtmlInline` node (the
    parser model cannot create one), and the only attribute any node carries is `data-sourcepos`
    (`ol start`, `code class`, `a href title`, `img src alt title` are produced inside `render`). -/
theorem doc_output_html_free (cfg : DocCfg) (src : List Char) (t : Node) (h : parseDoc cfg src = .ok t) :
    NodeRender.HtmlFree (toRender cfg.langPrefix t) ∧ NodeRender.AttrsSourcepos (toRender cfg.langPrefix t) :=
  have := final_hyps cfg.langPrefix t (parseDoc_final h).1
  ⟨this.2.1, this.2.2⟩

/-! ## 2. `doc_output_renderable`, `doc_render_total` -/

/-- **`doc_output_renderable`.**  NO condition on the configuration is needed: for every chain pair,
    every `max_nesting`, with or without `sourcepos`, the parsed tree is `Renderable` — every ATX level
    is in `1..6` and every setext level in `1..2` (block model: `Block.parseBlocks_wf`), every
    `InlineRoot` has been replaced (`spliceNode_spliced`), and no `EmphMarker` is left: WITH an
    emphasis-like rule `FragmentsJoin` is in the core chain and turns every one into text
    (`joinNode_every`; cf. `Inline.no_placeholder_after_finish`), WITHOUT one there is no join pass and
    no marker is ever created (`Inline.notMarker_good`). -/
theorem doc_output_renderable (cfg : DocCfg) (src : List Char) (t : Node) (h : parseDoc cfg src = .ok t) :
    NodeRender.Renderable (toRender cfg.langPrefix t) :=
  (final_hyps cfg.langPrefix t (parseDoc_final h).1).1

/-- **`doc_render_total`.**  `render` / `xrender` of a parsed tree never panic: no
    `unimplemented!` (placeholder), no `TAG[level - 1]` out of range, no panic in `unescape_all`. -/
theorem doc_render_total (cfg : DocCfg) (src : List Char) (t : Node) (h : parseDoc cfg src = .ok t) :
    ∃ evs, NodeRender.render cfg.entity (toRender cfg.langPrefix t) = .ok evs ∧
      renderEvents cfg t = .ok evs ∧ ∀ x, renderDoc x cfg src = .ok (Render.serialize x evs) := by
  obtain ⟨evs, he⟩ := (NodeRender.render_total cfg.entity _).mpr (doc_output_renderable cfg src t h)
  refine ⟨evs, he, by simp [renderEvents, he], fun x => ?_⟩
  simp [renderDoc, h, renderEvents, he]

/-- the only panics of the whole pipeline `src ↦ html` are those of the block pass and of the
    inline runs -/
theorem renderDoc_panic {x : Bool} {cfg : DocCfg} {src : List Char} {e : Panic}
    (h : renderDoc x cfg src = .error e) : (∃ p, e = .block p) ∨ (∃ p, e = .inline p) := by
  unfold renderDoc at h
  split at h
  · rename_i e' he'; cases h; exact parseDoc_panic he'
  · rename_i t ht
    obtain ⟨evs, _, he, _⟩ := doc_render_total cfg src t ht
    rw [he] at h
    cases h

/-! ## 3. `doc_safe_output` (C03 at document level) -/

open MdIt.Render in
/-- the safe output language of C03, as a predicate on the returned string: it is the flattening
    of a `WellFormed` piece list over the fixed vocabulary `NodeRender.shippedVocab` (known elements,
    per-element attribute names, properly nested and closed), every character agrees with the role
    its position has, every `<` is the first and every `>` the last character of a tag piece, every
    `&` starts one of `&amp; &lt; &gt; &quot;` -/
def SafeHtml (out : List Char) : Prop :=
  ∃ ps, out = flattenP ps ∧ WellFormed NodeRender.shippedVocab ps ∧
    ((flattenP ps).length = (rolesP ps).length ∧
      ∀ (i : Nat) (c : Char), (flattenP ps)[i]? = some c → ∃ r, (rolesP ps)[i]? = some r ∧ Agree c r) ∧
    (∀ i, (flattenP ps)[i]? = some '<' →
      ∃ pre p post, ps = pre ++ p :: post ∧ p.isTag = true ∧ i = (flattenP pre).length) ∧
    (∀ i, (flattenP ps)[i]? = some '>' →
      ∃ pre p post, ps = pre ++ p :: post ∧ p.isTag = true ∧
        i + 1 = (flattenP pre).length + p.str.length) ∧
    (∀ i, (flattenP ps)[i]? = some '&' → StartsEntity ((flattenP ps).drop i))

/-- **`doc_safe_output` (C03 for documents).**  For EVERY configuration of the model (any subset /
    order of the html-free rules, any `max_nesting`, with and without `data-sourcepos`) and EVERY
    source the parser model accepts: rendering does not panic and, in HTML and in XHTML mode, the
    returned string is in the safe output language `SafeHtml` — by `NodeRender.safe_output`, whose
    three hypotheses are `doc_output_renderable` and `doc_output_html_free`.  No input can inject an
    element, an attribute or an unescaped quote. -/
theorem doc_safe_output (cfg : DocCfg) (src : List Char) (t : Node) (h : parseDoc cfg src = .ok t) :
    ∀ x : Bool, ∃ out, renderDoc x cfg src = .ok out ∧ SafeHtml out := by
  obtain ⟨hr, hf, ha⟩ := final_hyps cfg.langPrefix t (parseDoc_final h).1
  obtain ⟨evs, he, hx⟩ := NodeRender.safe_output cfg.entity _ hr hf ha
  intro x
  obtain ⟨_, ps, hser, _, hwf, h1, h2, h3, h4⟩ := hx x
  refine ⟨Render.serialize x evs, ?_, ps, hser, hwf, h1, h2, h3, h4⟩
  simp [renderDoc, h, renderEvents, he]

/-- the same without mentioning the tree: whenever `renderDoc` returns, what it returns is safe -/
theorem doc_safe_output' (x : Bool) (cfg : DocCfg) (src : List Char) (out : List Char)
    (h : renderDoc x cfg src = .ok out) : SafeHtml out := by
  cases hp : parseDoc cfg src with
  | error e => simp [renderDoc, hp] at h
  | ok t =>
    obtain ⟨out', h1, h2⟩ := doc_safe_output cfg src t hp x
    rw [h] at h1
    cases h1
    exact h2

/-! ## 4. `doc_deterministic`, `doc_pure` (C07 at document level) -/

/-- **`doc_deterministic`.**  Tree and HTML are functions of `(cfg, src)`: two runs agree. -/
theorem doc_deterministic (cfg : DocCfg) (src : List Char) (x : Bool)
    (r₁ r₂ : Except Panic Node) (h₁ h₂ : Except Panic (List Char))
    (e₁ : parseDoc cfg src = r₁) (e₂ : parseDoc cfg src = r₂)
    (f₁ : renderDoc x cfg src = h₁) (f₂ : renderDoc x cfg src = h₂) : r₁ = r₂ ∧ h₁ = h₂ :=
  ⟨e₁.symm.trans e₂, f₁.symm.trans f₂⟩

/-- **`doc_pure`.**  One parser value, any history: the result for `src` in a sequence of documents
    parsed one after the other with the same configuration is the result of a fresh parse — whatever
    was parsed before (`before`) or is parsed afterwards.  (`parseDoc` has no state argument and no
    result besides the tree, so the sequence IS `map`.  That the chains `cfg` holds — the lazily
    compiled `Ruler`s and the text scanner's stop set — are themselves functions of the plugin
    configuration only is `Props/C07`, `Props/C08`, `Props/C09`.) -/
theorem doc_pure (cfg : DocCfg) (before after : List (List Char)) (src : List Char) (x : Bool) :
    ((before ++ src :: after).map (parseDoc cfg))[before.length]? = some (parseDoc cfg src) ∧
    ((before ++ src :: after).map (renderDoc x cfg))[before.length]? = some (renderDoc x cfg src) := by
  simp

/-- **The per-document state is local (block pass).**  The reference map the inline runs of a
    document consult is the one its own block pass built, starting from the EMPTY map of
    `BlockState::new` on a fresh `Root` (`root_env` is created in `MarkdownIt::parse`): no definition
    of another document can be seen. -/
theorem doc_refs_local (cfg : DocCfg) (src : List Char) :
    (Block.BState.fresh src .root []).refs = [] ∧
    parseDoc cfg src =
      match Block.tokenize cfg.blockCfg (Block.fuelFor cfg.blockCfg src) (Block.BState.fresh src .root []) with
      | .error e => .error (.block e)
      | .ok s => afterBlocks cfg src ⟨s.nodeKind, some (0, Lines.byteLen src), s.children⟩ s.refs := by
  refine ⟨rfl, ?_⟩
  unfold parseDoc Block.parseBlocks
  split <;> rename_i h <;> split at h <;> simp_all

/-- **The per-paragraph state is local (inline pass).**  Every `InlineRoot` is parsed from a fresh
    `InlineState`: empty `skip_token` memo, empty code-span cache, no `OpenersBottom`, no children,
    level 0 — nothing of another paragraph (or document) is visible to it. -/
theorem inline_state_local (icfg : Inline.Cfg) (content : List Char) (mapping : InlineOps.Srcmap) :
    (Inline.IState.init content mapping).cache = [] ∧
    (Inline.IState.init content mapping).backticks = CodePair.Cache.empty ∧
    (Inline.IState.init content mapping).bottoms = [] ∧
    (Inline.IState.init content mapping).children = [] ∧
    (Inline.IState.init content mapping).level = 0 ∧
    Inline.parseInline icfg content mapping =
      match Inline.tokenize icfg (Inline.topFuel icfg content) (Inline.IState.init content mapping) with
      | .error e => .error e
      | .ok st => .ok st.children :=
  ⟨rfl, rfl, rfl, rfl, rfl, rfl⟩

/-! ## 5. `doc_tree_wf` (C14 at document level) -/

def Kind.isList : Kind → Bool
  | .blk (.bulletList _) => true
  | .blk (.orderedList _ _) => true
  | _ => false

/-- the leaf blocks with inline content -/
def Kind.isTextBlock : Kind → Bool
  | .blk .paragraph => true
  | .blk (.atx _) => true
  | .blk (.setext _ _) => true
  | _ => false

/-- the leaf blocks without children -/
def Kind.isBlockLeaf : Kind → Bool
  | .blk (.hr _ _) => true
  | .blk (.codeBlock _) => true
  | .blk (.codeFence _ _ _ _) => true
  | _ => false

def Kind.isInlineRoot : Kind → Bool
  | .blk (.inlineRoot _ _) => true
  | _ => false

def Kind.isTextK : Kind → Bool
  | .inl (.text _) => true
  | _ => false

/-- no `Text` with empty content among the siblings -/
def NoEmptyTextK (ks : List Kind) : Prop := Kind.inl (.text []) ∉ ks

/-- no two adjacent `Text` siblings -/
def NoAdjTextK : List Kind → Prop
  | [] => True
  | k :: r => (∀ k', r.head? = some k' → ¬ (k.isTextK = true ∧ k'.isTextK = true)) ∧ NoAdjTextK r

/-- **The local well-formedness condition of C14** on a node of kind `k` whose children have the
    kinds `ks` (in order).  `para`: the paragraph rule is configured (the quantifier of C14);
    `markers`: `EmphMarker`s are still allowed (the tree before `FragmentsJoin`); `nf`: the text normal
    form is claimed. -/
structure LocK (para markers nf : Bool) (k : Kind) (ks : List Kind) : Prop where
  /-- no `InlineRoot` placeholder -/
  noInlRoot : k.isInlineRoot = false
  /-- no `EmphMarker` placeholder -/
  noMarker : k.isMarker = true → markers = true
  /-- `Root` is nobody's child -/
  noRoot : Kind.blk .root ∉ ks
  /-- lists contain list items only -/
  listKids : k.isList = true → ∀ c ∈ ks, c = .blk .listItem
  /-- list items occur under lists only -/
  itemParent : Kind.blk .listItem ∈ ks → k.isList = true
  /-- inline nodes occur only under paragraphs / headings, (tight) list items and inline nodes -/
  inlinePlace : para = true → ∀ c ∈ ks, c.isInline = true →
    k.isTextBlock = true ∨ k = .blk .listItem ∨ k.isInline = true
  /-- an inline node has inline children only -/
  inlineKids : k.isInline = true → ∀ c ∈ ks, c.isInline = true
  /-- a paragraph / heading has inline children only -/
  textBlockKids : k.isTextBlock = true → ∀ c ∈ ks, c.isInline = true
  /-- thematic breaks, code blocks and fences are childless -/
  blockLeaf : k.isBlockLeaf = true → ks = []
  /-- no empty `Text`, no two adjacent `Text`s -/
  textNF : nf = true → NoEmptyTextK ks ∧ NoAdjTextK ks

def LocN (para markers nf : Bool) (n : Node) : Prop := LocK para markers nf n.kind (kinds n.children)

/-- the well-formedness predicate of C14 on a document tree: `Root` on top, `LocK` at every node -/
def WF (para nf : Bool) (t : Node) : Prop := t.kind = .blk .root ∧ Every (LocN para false nf) t
/-! ### `LocN` behind the splice walk -/

theorem locK_inline {para markers : Bool} {k : Kind} {ks : List Kind} (hk : k.isInline = true)
    (hm : k.isMarker = true → markers = true) (hks : ∀ c ∈ ks, c.isInline = true) :
    LocK para markers false k ks := by
  cases k with
  | blk b => cases hk
  | inl v =>
    refine ⟨rfl, hm, ?_, ?_, ?_, ?_, fun _ => hks, ?_, ?_, ?_⟩
    · intro h; cases hks _ h
    · intro h; cases h
    · intro h; cases hks _ h
    · intro _ _ _ _; exact .inr (.inr rfl)
    · intro h; cases h
    · intro h; cases h
    · intro h; cases h

mutual
theorem ofInline_kind (n : Inline.Node) : (ofInline n).kind = .inl n.val := by
  match n with
  | ⟨v, r, cs⟩ => rfl
theorem ofInlineList_inline (cs : List Inline.Node) : ∀ c ∈ ofInlineList cs, c.kind.isInline = true := by
  match cs with
  | [] => simp [ofInlineList]
  | c :: r =>
    intro x hx
    simp only [ofInlineList, List.mem_cons] at hx
    rcases hx with rfl | hx
    · rw [ofInline_kind]; rfl
    · exact ofInlineList_inline r x hx
end

theorem kinds_inline {cs : List Node} (h : ∀ c ∈ cs, c.kind.isInline = true) :
    ∀ k ∈ kinds cs, k.isInline = true := by
  intro k hk
  obtain ⟨c, hc, rfl⟩ := mem_kinds.mp hk
  exact h c hc

theorem ofInline_wf {para : Bool} {icfg : Inline.Cfg} (n : Inline.Node)
    (h : Inline.AllVals (ValOK icfg) n) : Every (LocN para icfg.hasEmph false) (ofInline n) :=
  ofInline_every_of (fun _ _ cs hv _ => locK_inline rfl (by simpa [KindOK] using kindOK_val hv)
    (kinds_inline (ofInlineList_inline cs))) n h

theorem ofInlineList_wf {para : Bool} {icfg : Inline.Cfg} (cs : List Inline.Node)
    (h : Inline.AllValsList (ValOK icfg) cs) :
    ∀ c ∈ ofInlineList cs, Every (LocN para icfg.hasEmph false) c :=
  ofInlineList_every_of (fun _ _ cs hv _ => locK_inline rfl (by simpa [KindOK] using kindOK_val hv)
    (kinds_inline (ofInlineList_inline cs))) cs h

section SpliceWF
open MdIt.PipelineH (spliceNodeG spliceListG)
variable {parse : List Char → InlineOps.Srcmap → Except Inline.Panic (List Inline.Node)}

theorem spliceNode_kind {icfg : Inline.Cfg} {b : Block.BNode} {t : Node} (h : spliceNode icfg b = .ok t) :
    t.kind = .blk b.kind :=
  spliceNodeG_kind (by rw [spliceNodeG_parseInline]; exact h)

theorem spliceList_kinds : ∀ (cs : List Block.BNode) (out : List Node),
    spliceListG parse cs = .ok out → ∀ k' ∈ kinds out,
      (k'.isInline = true ∧ ∃ c ∈ cs, IsInl c.kind) ∨ (∃ c ∈ cs, k' = .blk c.kind ∧ ¬ IsInl c.kind)
  | [], out, h => by rw [spliceListG_nil h]; simp [kinds]
  | c :: rest, out, h => by
    obtain ⟨rest', hr, hc⟩ := spliceListG_cons_ok h
    intro k' hk'
    obtain ⟨x, hx, rfl⟩ := mem_kinds.mp hk'
    have tail : x ∈ rest' → (x.kind.isInline = true ∧ ∃ c' ∈ c :: rest, IsInl c'.kind) ∨
        (∃ c' ∈ c :: rest, x.kind = .blk c'.kind ∧ ¬ IsInl c'.kind) := by
      intro h1
      rcases spliceList_kinds rest rest' hr x.kind (mem_kinds.mpr ⟨x, h1, rfl⟩) with
        ⟨hi, c', hc', hci⟩ | ⟨c', hc', hk, hci⟩
      · exact .inl ⟨hi, c', List.mem_cons_of_mem _ hc', hci⟩
      · exact .inr ⟨c', List.mem_cons_of_mem _ hc', hk, hci⟩
    rcases hc with ⟨content, mapping, ns, hk, hns, rfl⟩ | ⟨hk, c', hc', rfl⟩
    · rcases List.mem_append.mp hx with h1 | h1
      · exact .inl ⟨ofInlineList_inline ns x h1, c, by simp, ⟨content, mapping, hk⟩⟩
      · exact tail h1
    · rcases List.mem_cons.mp hx with rfl | h1
      · exact .inr ⟨c, by simp, spliceNodeG_kind hc', hk⟩
      · exact tail h1

theorem oneInl_all {cs : List Block.BNode} (h : Block.OneInl cs) : ∀ c ∈ cs, IsInl c.kind := by
  obtain ⟨t, m, rfl⟩ := h
  intro c hc
  simp at hc
  subst hc
  exact ⟨t, m, rfl⟩

theorem locK_block {para markers : Bool} {k : Block.Kind} {cs : List Block.BNode} {ks : List Kind}
    (hloc : Block.LocB para k cs) (hk : ¬ IsInl k) (hnil : cs = [] → ks = [])
    (hks : ∀ k' ∈ ks, (k'.isInline = true ∧ ∃ c ∈ cs, IsInl c.kind) ∨
      (∃ c ∈ cs, k' = .blk c.kind ∧ ¬ IsInl c.kind)) :
    LocK para markers false (.blk k) ks := by
  have noItemInl : ∀ c ∈ cs, c.kind = .listItem → ¬ IsInl c.kind := by
    intro c _ e ⟨t, m, e'⟩; rw [e] at e'; cases e'
  -- a list item among the new kinds comes from a list item among the old children
  have item_src : Kind.blk .listItem ∈ ks → ∃ c ∈ cs, c.kind = .listItem := by
    intro h
    rcases hks _ h with ⟨hi, _⟩ | ⟨c, hc, e, _⟩
    · cases hi
    · exact ⟨c, hc, by injection e with e; exact e.symm⟩
  -- an inline kind among the new kinds comes from a placeholder among the old children
  have inl_src : ∀ k' ∈ ks, k'.isInline = true → ∃ c ∈ cs, IsInl c.kind := by
    intro k' hk' hi
    rcases hks _ hk' with ⟨_, h⟩ | ⟨c, _, e, _⟩
    · exact h
    · rw [e] at hi; cases hi
  refine ⟨?_, (by intro h; cases h), ?_, ?_, ?_, ?_, (by intro h; cases h), ?_, ?_, (by intro h; cases h)⟩
  · cases k <;> first | rfl | exact absurd ⟨_, _, rfl⟩ hk
  · intro h
    rcases hks _ h with ⟨hi, _⟩ | ⟨c, hc, e, _⟩
    · cases hi
    · injection e with e; exact hloc.1 c hc e.symm
  · intro hl k' hk'
    have hall : ∀ c ∈ cs, c.kind = .listItem := by
      cases k <;> simp [Kind.isList] at hl <;> exact hloc.2
    rcases hks _ hk' with ⟨_, c, hc, hci⟩ | ⟨c, hc, e, _⟩
    · exact absurd hci (noItemInl c hc (hall c hc))
    · rw [e, hall c hc]
  · intro h
    obtain ⟨c, hc, hci⟩ := item_src h
    cases k
    case bulletList => rfl
    case orderedList => rfl
    case atx l => exact absurd (oneInl_all hloc.2.2 c hc) (noItemInl c hc hci)
    case setext l m => exact absurd (oneInl_all hloc.2.2 c hc) (noItemInl c hc hci)
    case paragraph => exact absurd (oneInl_all hloc.2 c hc) (noItemInl c hc hci)
    case hr => have := hloc.2; simp only at this; rw [this] at hc; cases hc
    case codeBlock => have := hloc.2; simp only at this; rw [this] at hc; cases hc
    case codeFence => have := hloc.2; simp only at this; rw [this] at hc; cases hc
    case inlineRoot => exact absurd ⟨_, _, rfl⟩ hk
    case listItem => exact absurd hci (hloc.2 c hc)
    case root => exact absurd hci (hloc.2 c hc).1
    case blockquote => exact absurd hci (hloc.2 c hc).1
  · intro hp k' hk' hi
    obtain ⟨c, hc, t, m, hci⟩ := inl_src k' hk' hi
    cases k
    case atx => exact .inl rfl
    case setext => exact .inl rfl
    case paragraph => exact .inl rfl
    case listItem => exact .inr (.inl rfl)
    case bulletList => have := hloc.2 c hc; rw [hci] at this; cases this
    case orderedList => have := hloc.2 c hc; rw [hci] at this; cases this
    case hr => have := hloc.2; simp only at this; rw [this] at hc; cases hc
    case codeBlock => have := hloc.2; simp only at this; rw [this] at hc; cases hc
    case codeFence => have := hloc.2; simp only at this; rw [this] at hc; cases hc
    case inlineRoot => exact absurd ⟨_, _, rfl⟩ hk
    case root => exact absurd hci ((hloc.2 c hc).2 hp t m)
    case blockquote => exact absurd hci ((hloc.2 c hc).2 hp t m)
  · intro htb k' hk'
    have hall : ∀ c ∈ cs, IsInl c.kind := by
      cases k <;> simp [Kind.isTextBlock] at htb
      · exact oneInl_all hloc.2
      · exact oneInl_all hloc.2.2
      · exact oneInl_all hloc.2.2
    rcases hks _ hk' with ⟨hi, _⟩ | ⟨c, hc, _, hci⟩
    · exact hi
    · exact absurd (hall c hc) hci
  · intro hl
    apply hnil
    cases k <;> simp [Kind.isBlockLeaf] at hl <;> exact hloc.2

theorem locN_blk {para markers : Bool} {b : Block.BNode} {cs' : List Node} (hw : Block.WFB para b)
    (hk : ¬ IsInl b.kind) (hcs : spliceListG parse b.children = .ok cs') :
    LocN para markers false ⟨.blk b.kind, b.range, [], cs'⟩ :=
  locK_block hw.at hk (fun e => by rw [e] at hcs; exact congrArg kinds (spliceListG_nil hcs))
    (spliceList_kinds _ cs' hcs)

theorem spliceList_wf_of {para markers : Bool}
    (hp : ∀ c m ns, parse c m = .ok ns → ∀ x ∈ ofInlineList ns, Every (LocN para markers false) x)
    (cs : List Block.BNode) (hw : ∀ c ∈ cs, Block.WFB para c) (out : List Node)
    (h : spliceListG parse cs = .ok out) : ∀ c ∈ out, Every (LocN para markers false) c :=
  spliceList_every_of (fun _ h _ => h.child) (fun _ c m ns _ _ hns => hp c m ns hns)
    (fun _ _ hw hk hcs _ => locN_blk hw hk hcs) cs hw out h

theorem spliceNode_wf {para markers : Bool}
    (hp : ∀ c m ns, parse c m = .ok ns → ∀ x ∈ ofInlineList ns, Every (LocN para markers false) x)
    {b : Block.BNode} {t : Node} (hw : Block.WFB para b) (hk : ¬ IsInl b.kind)
    (h : spliceNodeG parse b = .ok t) : Every (LocN para markers false) t := by
  obtain ⟨cs', hcs, rfl⟩ := spliceNodeG_ok h
  exact .mk _ (locN_blk hw hk hcs) (spliceList_wf_of hp _ hw.child _ hcs)

theorem parseInline_wf {para : Bool} (icfg : Inline.Cfg) {c : List Char} {m : InlineOps.Srcmap}
    {ns : List Inline.Node} (h : Inline.parseInline icfg c m = .ok ns) :
    ∀ x ∈ ofInlineList ns, Every (LocN para icfg.hasEmph false) x :=
  ofInlineList_wf ns (Inline.parseInline_vals icfg (valOK_good icfg) h)

theorem spliceNode_wf' {para : Bool} {icfg : Inline.Cfg} (b : Block.BNode) (hw : Block.WFB para b)
    (hk : ¬ IsInl b.kind) (t : Node) (h : spliceNode icfg b = .ok t) :
    Every (LocN para icfg.hasEmph false) t :=
  spliceNode_wf (fun _ _ _ => parseInline_wf icfg) hw hk (by rw [spliceNodeG_parseInline]; exact h)

theorem spliceList_wf {para : Bool} {icfg : Inline.Cfg} (cs : List Block.BNode)
    (hw : ∀ c ∈ cs, Block.WFB para c) (out : List Node) (h : spliceList icfg cs = .ok out) :
    ∀ c ∈ out, Every (LocN para icfg.hasEmph false) c :=
  spliceList_wf_of (fun _ _ _ => parseInline_wf icfg) cs hw out (by rw [spliceListG_parseInline]; exact h)

end SpliceWF

/-! ### `LocN` behind `FragmentsJoin`: the text normal form -/

theorem isText_eq (n : Node) : n.isText = n.kind.isTextK := by
  unfold Node.isText Kind.isTextK
  split <;> simp_all

/-- pass 2 invariant: a text node that is directly followed by a text node is empty -/
def LeftEmpty : List Node → Prop
  | [] => True
  | x :: r => (∀ y, r.head? = some y → x.isText = true → y.isText = true → x.content = []) ∧ LeftEmpty r

theorem head_mergeLoop (cur : Node) (rest : List Node) :
    ∃ h t, mergeLoop cur rest = h :: t ∧ h.isText = cur.isText := by
  cases rest with
  | nil => exact ⟨cur, [], rfl, rfl⟩
  | cons nxt rest =>
    simp only [mergeLoop]
    split
    · next hc =>
      simp only [Bool.and_eq_true] at hc
      exact ⟨_, _, rfl, by rw [hc.1]; rfl⟩
    · exact ⟨_, _, rfl, rfl⟩

theorem leftEmpty_mergeLoop (cur : Node) (rest : List Node) : LeftEmpty (mergeLoop cur rest) := by
  induction rest generalizing cur with
  | nil => simp [mergeLoop, LeftEmpty]
  | cons nxt rest ih =>
    simp only [mergeLoop]
    split
    · exact ⟨fun _ _ _ _ => rfl, ih _⟩
    · next hc =>
      refine ⟨?_, ih _⟩
      obtain ⟨h, t, e, ht⟩ := head_mergeLoop nxt rest
      intro y hy h1 h2
      rw [e] at hy
      simp only [List.head?_cons, Option.some.injEq] at hy
      subst hy
      rw [ht] at h2
      simp [h1, h2] at hc

theorem leftEmpty_mergeAll (l : List Node) : LeftEmpty (mergeAll l) := by
  cases l with
  | nil => simp [mergeAll, LeftEmpty]
  | cons c r => exact leftEmpty_mergeLoop c r

theorem keep_of_not_text (n : Node) (h : n.isText = false) : keep n = true := by
  simp [keep, h]

theorem filter_head_after_text (x : Node) (r : List Node) (h : LeftEmpty (x :: r))
    (hx : x.isText = true) (hne : x.content ≠ []) :
    ∀ y, (r.filter keep).head? = some y → y.isText = false := by
  cases r with
  | nil => simp
  | cons y' r' =>
    have hy' : y'.isText = false := by
      cases hyt : y'.isText with
      | false => rfl
      | true => exact absurd (h.1 y' rfl hx hyt) hne
    intro y hy
    rw [List.filter_cons_of_pos (keep_of_not_text _ hy')] at hy
    simp only [List.head?_cons, Option.some.injEq] at hy
    subst hy; exact hy'

theorem kinds_head? (l : List Node) : (kinds l).head? = l.head?.map (·.kind) := by
  cases l <;> rfl

theorem noAdj_filter_of_leftEmpty (l : List Node) (h : LeftEmpty l) : NoAdjTextK (kinds (l.filter keep)) := by
  induction l with
  | nil => simp [kinds, NoAdjTextK]
  | cons x r ih =>
    by_cases hk : keep x = true
    · rw [List.filter_cons_of_pos hk]
      refine ⟨?_, ih h.2⟩
      intro k' hk' hxy
      change (kinds (r.filter keep)).head? = some k' at hk'
      rw [kinds_head?] at hk'
      cases hh : (r.filter keep).head? with
      | none => rw [hh] at hk'; cases hk'
      | some y =>
        rw [hh] at hk'
        simp only [Option.map_some, Option.some.injEq] at hk'
        subst hk'
        rw [← isText_eq, ← isText_eq] at hxy
        have hne : x.content ≠ [] := by
          intro hc
          simp [keep, hxy.1, hc] at hk
        have := filter_head_after_text x r h hxy.1 hne y hh
        rw [this] at hxy
        exact absurd hxy.2 (by simp)
    · rw [List.filter_cons_of_neg hk]
      exact ih h.2

theorem noEmpty_filter (l : List Node) : NoEmptyTextK (kinds (l.filter keep)) := by
  intro h
  obtain ⟨c, hc, hk⟩ := mem_kinds.mp h
  have := (List.mem_filter.mp hc).2
  simp [keep, Node.isText, Node.content, hk] at this

/-- **the text normal form after `fragments_join`** (the proof of `C14.join_normal_form`, on the
    document's node type): among the children it leaves there is no empty `Text` and there are no two
    adjacent `Text`s -/
theorem fragmentsJoin_nf (cs : List Node) :
    NoEmptyTextK (kinds (fragmentsJoin cs)) ∧ NoAdjTextK (kinds (fragmentsJoin cs)) :=
  ⟨noEmpty_filter _, noAdj_filter_of_leftEmpty _ (leftEmpty_mergeAll _)⟩

theorem fragmentsJoin_nil : fragmentsJoin [] = [] := rfl

/-! ### `LocN` behind `FragmentsJoin`: the other conditions -/

theorem locN_text {para : Bool} {c x : Node} (h : LocN para true false c) (hr : TextFor c x)
    (et : x.isText = true) : LocN para true false x := by
  have ei : c.kind.isInline = true := by
    rcases hr.retext.2.2 with rfl | ⟨_, e⟩
    · exact isInline_of_isText et
    · exact e
  unfold LocN at h ⊢
  rw [hr.1]
  rw [isText_eq] at et
  have hkids := h.inlineKids ei
  cases hk : x.kind with
  | blk b => rw [hk] at et; cases et
  | inl v =>
    refine ⟨rfl, fun _ => rfl, h.noRoot, ?_, fun hi => ?_, fun _ _ _ _ => .inr (.inr rfl),
      fun _ => hkids, ?_, ?_, ?_⟩
    all_goals first | (intro hl; cases hl) | cases hkids _ hi

theorem locK_join {para : Bool} {k : Kind} {cs fj : List Node} (h : LocK para true false k (kinds cs))
    (hm : k.isMarker = false) (hnil : cs = [] → fj = [])
    (hrel : ∀ x ∈ fj, ∃ c ∈ cs, Retext c x)
    (hnf : NoEmptyTextK (kinds fj) ∧ NoAdjTextK (kinds fj)) :
    LocK para false true k (kinds fj) := by
  -- the kind of a kept child: the old kind, or an inline kind instead of an inline kind
  have src : ∀ k' ∈ kinds fj, ∃ k0 ∈ kinds cs, k' = k0 ∨ (k'.isInline = true ∧ k0.isInline = true) := by
    intro k' hk'
    obtain ⟨x, hx, rfl⟩ := mem_kinds.mp hk'
    obtain ⟨c, hc, hr⟩ := hrel x hx
    refine ⟨c.kind, mem_kinds.mpr ⟨c, hc, rfl⟩, ?_⟩
    rcases hr.2.2 with rfl | ⟨et, ei⟩
    · exact .inl rfl
    · exact .inr ⟨isInline_of_isText et, ei⟩
  refine ⟨h.noInlRoot, (by intro hc; rw [hm] at hc; cases hc), ?_, ?_, ?_, ?_, ?_, ?_, ?_, fun _ => hnf⟩
  · intro hr
    obtain ⟨k0, hk0, e | ⟨ei, _⟩⟩ := src _ hr
    · rw [← e] at hk0; exact h.noRoot hk0
    · cases ei
  · intro hl k' hk'
    obtain ⟨k0, hk0, e | ⟨_, ei⟩⟩ := src _ hk'
    · rw [e]; exact h.listKids hl k0 hk0
    · rw [h.listKids hl k0 hk0] at ei; cases ei
  · intro hi
    obtain ⟨k0, hk0, e | ⟨ei, _⟩⟩ := src _ hi
    · rw [← e] at hk0; exact h.itemParent hk0
    · cases ei
  · intro hp k' hk' hi
    obtain ⟨k0, hk0, e | ⟨_, ei⟩⟩ := src _ hk'
    · exact h.inlinePlace hp k0 hk0 (by rw [← e]; exact hi)
    · exact h.inlinePlace hp k0 hk0 ei
  · intro hi k' hk'
    obtain ⟨k0, hk0, e | ⟨ei, _⟩⟩ := src _ hk'
    · rw [e]; exact h.inlineKids hi k0 hk0
    · exact ei
  · intro hi k' hk'
    obtain ⟨k0, hk0, e | ⟨ei, _⟩⟩ := src _ hk'
    · rw [e]; exact h.textBlockKids hi k0 hk0
    · exact ei
  · intro hl
    have : cs = [] := by
      have := h.blockLeaf hl
      cases cs with
      | nil => rfl
      | cons c r => simp [kinds] at this
    rw [hnil this]; rfl

theorem kinds_map_joinNode (l : List Node) : kinds (l.map joinNode) = kinds l := kinds_map joinNode_kind l

theorem joinNode_wf {para : Bool} {n : Node} (he : Every (LocN para true false) n)
    (hm : n.kind.isMarker = false) : Every (LocN para false true) (joinNode n) := by
  refine joinNode_every_of (fun c x hr ht _ hc => locN_text hc hr ht) ?_ he hm
  intro n he hm
  unfold LocN
  rw [joinNode_eq, joinList_eq_map]
  simp only
  rw [kinds_map_joinNode]
  exact locK_join he.here hm (fun e => by rw [e]; rfl)
    (fun x hx => by obtain ⟨c, hc, hr, _⟩ := fragmentsJoin_mem n.children x hx; exact ⟨c, hc, hr⟩)
    (fragmentsJoin_nf _)

theorem joinNode_wf_aux {para : Bool} (k : Nat) : ∀ n : Node, nsize n ≤ k →
    Every (LocN para true false) n → n.kind.isMarker = false →
    Every (LocN para false true) (joinNode n) :=
  fun _ _ he hm => joinNode_wf he hm

theorem joinIf_wf {para join : Bool} {t0 : Node} (he : Every (LocN para join false) t0)
    (hm : t0.kind.isMarker = false) :
    Every (LocN para false join) (if join = true then joinNode t0 else t0) := by
  cases join with
  | true => exact joinNode_wf he hm
  | false => exact he

/-! ### `LocN` behind `SyntaxPosRule`: it changes no kind -/

theorem locN_sourcepos {a b c : Bool} (n : Node) (a' : List (List Char × List Char)) (cs' : List Node)
    (hn : LocN a b c n) (hk : kinds cs' = kinds n.children) : LocN a b c ⟨n.kind, n.range, a', cs'⟩ := by
  unfold LocN at hn ⊢
  simp only
  rw [hk]
  exact hn

theorem locN_attrBlind (a b c : Bool) : AttrBlind (LocN a b c) :=
  fun f n hn => locN_sourcepos n _ _ hn (kinds_map (mapAttrs_kind f) _)

theorem sourceposNode_wf {a b c : Bool} {src : List Char} {marks : List SourceMap.Mark} (t t' : Node)
    (he : Every (LocN a b c) t) (h : sourceposNode src marks t = .ok t') :
    Every (LocN a b c) t' ∧ t'.kind = t.kind :=
  ⟨sourceposNode_every_of (locN_attrBlind a b c _) he h, by rw [sourceposNode_eq_mapAttrs h, mapAttrs_kind]⟩

theorem sourceposList_wf {a b c : Bool} {src : List Char} {marks : List SourceMap.Mark} (cs cs' : List Node)
    (he : ∀ x ∈ cs, Every (LocN a b c) x) (h : sourceposList src marks cs = .ok cs') :
    (∀ x ∈ cs', Every (LocN a b c) x) ∧ kinds cs' = kinds cs :=
  ⟨sourceposList_every_of (locN_attrBlind a b c _) he h,
    by rw [sourceposList_eq_map h]; exact kinds_map (mapAttrs_kind _) cs⟩

/-! ### `doc_tree_wf` -/

/-- is the default block rule (the paragraph rule) configured -/
def DocCfg.hasPara (cfg : DocCfg) : Bool := cfg.blockChain.contains .paragraph

/-- C14 from what the block pass (`WFB`) and the placeholder parser (`LocN` of what it returns) guarantee -/
theorem wf_of_passes {parse : List Char → InlineOps.Srcmap → Except Inline.Panic (List Inline.Node)}
    {para join sp : Bool} {src : List Char} {root : Block.BNode} {t0 t : Node}
    (hroot : root.kind = .root) (hwf : Block.WFB para root)
    (hp : ∀ c m ns, parse c m = .ok ns → ∀ x ∈ ofInlineList ns, Every (LocN para join false) x)
    (hs : PipelineH.spliceNodeG parse root = .ok t0) (hf : finish join sp src t0 = .ok t) :
    Every (LocN para false join) t :=
  (finish_every hf
    (joinIf_wf (spliceNode_wf hp hwf (notInl_root hroot) hs) (by rw [spliceNodeG_kind hs, hroot]; rfl))
    (fun _ => locN_attrBlind _ _ _ _) (fun _ _ hn => hn)).1

/-- **`doc_tree_wf` (C14 for documents).**  The tree `parseDoc` returns is `WF`: rooted at `Root`, and
    at EVERY node, at any depth (`LocK`):
      * no parser-internal placeholder: no `InlineRoot` (`spliceList_wf_of`, cf.
        `C14.splice_removes_inlineroot`), no `EmphMarker` (`joinNode_wf`, `Inline.notMarker_good`);
      * `Root` occurs nowhere below the top;
      * a list has list items only, a list item occurs under a list only (cf. `Block.list_shape`);
      * an inline node has inline children only; a paragraph / heading has inline children only;
        thematic breaks, code blocks and fences are childless;
      * when the paragraph rule is configured (`cfg.hasPara`, the quantifier of C14): inline nodes
        occur only under paragraphs / headings, list items (tight lists) and inline nodes;
      * when an emphasis-like rule is configured (`cfg.hasJoin`: `FragmentsJoin` runs): no sibling
        list contains an empty `Text` or two adjacent `Text`s (`fragmentsJoin_nf`, the proof of
        `C14.join_normal_form`).
    For every configuration and every source; with or without `sourcepos`. -/
theorem doc_tree_wf (cfg : DocCfg) (src : List Char) (t : Node) (h : parseDoc cfg src = .ok t) :
    WF cfg.hasPara cfg.hasJoin t := by
  obtain ⟨root, refs, t0, hb, hs, hf⟩ := parseDoc_ok h
  obtain ⟨hroot, hwf⟩ := Block.parseBlocks_wf hb
  exact ⟨(parseDoc_final h).2,
    wf_of_passes hroot hwf (fun _ _ _ => parseInline_wf (cfg.inlineCfg refs)) hs hf⟩

/-
  `doc_tree_wf` does not say that the INLINE leaf kinds are childless (`Inline.vals_induction` /
  `parseInline_vals` speak of the values only): that is `doc_inline_leaves` (`Props/C14Doc.lean`).
  Nor does it give the text normal form when no emphasis-like rule is configured (`cfg.hasJoin = false`,
  no join pass): that is `doc_text_nf_nojoin` (same file), which needs the paragraph rule last in the
  chain: tight lists put the texts of DIFFERENT `InlineRoot`s side by side under the item, and only
  two paragraphs are always separated by a blank line.  Without paragraph rule AND without join pass
  the clause is false (example at the end of this file).
-/

/-! ## 6. `doc_sourcepos_spec` (C15 at document level): what `data-sourcepos` says -/

/-- the stages of `parseDoc`: a tree `t0` without attributes (after splice and join), then
    `SyntaxPosRule` on it (or nothing) -/
theorem parseDoc_stages {cfg : DocCfg} {src : List Char} {t : Node} (h : parseDoc cfg src = .ok t) :
    ∃ t0, Every (Spliced false) t0 ∧
      (if cfg.sourcepos = true then sourceposNode src (SourceMap.mkMarks src) t0 = .ok t else t = t0) := by
  obtain ⟨root, refs, t0, hb, hs, hf⟩ := parseDoc_ok h
  obtain ⟨hroot, hwf⟩ := Block.parseBlocks_wf hb
  refine ⟨_, joinIf_spliced (join := cfg.hasJoin) (spliceNode_spliced (fun _ _ _ => parseInline_spliced (cfg.inlineCfg refs)) hwf
    (notInl_root hroot) hs) (by rw [spliceNodeG_kind hs, hroot]; rfl), ?_⟩
  unfold finish at hf
  simp only at hf
  split at hf
  · simp only [*, if_true]
  · cases hf; simp only [*]; simp

/-- the attribute list of a node of a parsed tree under `sourcepos`: exactly one `data-sourcepos`,
    holding the positions the SPECIFICATION of C15 (`SourceMap.specRange`: lines and columns counted on
    the text, CR LF once) assigns to the node's byte range — none for a node without range -/
def SpAttr (src : List Char) (n : Node) : Prop :=
  n.attrs = match n.range with
    | none => []
    | some r => [(aSourcepos, sourceposValue (SourceMap.specRange src r))]

theorem spAttr_sourcepos (src : List Char) (n : Node) (hn : Spliced false n) :
    SpAttr src ⟨n.kind, n.range, spF src (SourceMap.mkMarks src) n.range n.attrs,
      n.children.map (mapAttrs (spF src (SourceMap.mkMarks src)))⟩ := by
  unfold SpAttr spF
  rw [sourceposAttrs_eq, hn.1]
  cases n.range <;> simp

theorem sourceposNode_spec (src : List Char) (t t' : Node) (he : Every (Spliced false) t)
    (h : sourceposNode src (SourceMap.mkMarks src) t = .ok t') : Every (SpAttr src) t' :=
  sourceposNode_every_of (spAttr_sourcepos src) he h

theorem sourceposList_spec (src : List Char) (cs cs' : List Node) (he : ∀ c ∈ cs, Every (Spliced false) c)
    (h : sourceposList src (SourceMap.mkMarks src) cs = .ok cs') : ∀ c ∈ cs', Every (SpAttr src) c :=
  sourceposList_every_of (spAttr_sourcepos src) he h

/-- **`doc_sourcepos_spec` (C15 for documents).**  With `sourcepos`, every node of the parsed tree that
    has a range carries exactly one attribute, `data-sourcepos="l1:c1-l2:c2"`, where the four numbers
    are what the specification of C15 computes from the text for that byte range
    (`C15.getPositions_spec`); a node without range carries none.  Without `sourcepos` no node
    carries any attribute. -/
theorem doc_sourcepos_spec (cfg : DocCfg) (src : List Char) (t : Node) (h : parseDoc cfg src = .ok t) :
    if cfg.sourcepos = true then Every (SpAttr src) t else Every (fun n => n.attrs = []) t := by
  obtain ⟨t0, he, hs⟩ := parseDoc_stages h
  split
  · rename_i hsp
    simp only [hsp, if_true] at hs
    exact sourceposNode_spec src t0 t he hs
  · rename_i hsp
    simp only [hsp] at hs
    subst hs
    exact he.imp (fun n hn => hn.1)

/-! ## 7. line endings (C10 at document level): the reduction to two congruence lemmas -/

mutual
/-- the tree without its source ranges -/
def eraseRanges : Node → Node
  | ⟨k, _, a, cs⟩ => ⟨k, none, a, eraseRangesList cs⟩
def eraseRangesList : List Node → List Node
  | [] => []
  | c :: cs => eraseRanges c :: eraseRangesList cs
end

theorem eraseRanges_eq (n : Node) :
    eraseRanges n = { n with range := none, children := eraseRangesList n.children } := by
  cases n; simp [eraseRanges]

theorem eraseRangesList_eq_map (l : List Node) : eraseRangesList l = l.map eraseRanges := by
  induction l with
  | nil => rfl
  | cons c cs ih => simp [eraseRangesList, ih]

mutual
theorem toRender_erase (lp : List Char) (t : Node) : toRender lp (eraseRanges t) = toRender lp t := by
  match t with
  | ⟨k, r, a, cs⟩ => simp only [eraseRanges, toRender, toRenderList_erase lp cs]
theorem toRenderList_erase (lp : List Char) (cs : List Node) :
    toRenderList lp (eraseRangesList cs) = toRenderList lp cs := by
  match cs with
  | [] => rfl
  | c :: r => simp only [eraseRangesList, toRenderList, toRender_erase lp c, toRenderList_erase lp r]
end

/-- **Rendering does not read source ranges**: two trees that differ in ranges only render alike
    (the ranges reach the output only through the `data-sourcepos` attributes `SyntaxPosRule` makes
    of them). -/
theorem render_ranges_irrelevant (cfg : DocCfg) (t t' : Node) (h : eraseRanges t = eraseRanges t') :
    renderEvents cfg t = renderEvents cfg t' := by
  unfold renderEvents
  rw [← toRender_erase cfg.langPrefix t, h, toRender_erase]

/-! ### the join pass commutes with erasing ranges -/

theorem erase_isText (n : Node) : (eraseRanges n).isText = n.isText := by
  rw [eraseRanges_eq]; rfl

theorem erase_content (n : Node) : (eraseRanges n).content = n.content := by
  rw [eraseRanges_eq]; rfl

theorem erase_markerToText (n : Node) : eraseRanges (markerToText n) = markerToText (eraseRanges n) := by
  obtain ⟨k, r, a, cs⟩ := n
  unfold markerToText
  simp only [eraseRanges]
  split <;> simp_all [eraseRanges]

theorem erase_emptied (n : Node) : eraseRanges (emptied n) = emptied (eraseRanges n) := by
  obtain ⟨k, r, a, cs⟩ := n
  simp [emptied, eraseRanges]

theorem erase_merged (a b : Node) : eraseRanges (merged a b) = merged (eraseRanges a) (eraseRanges b) := by
  obtain ⟨k, r, at_, cs⟩ := a
  obtain ⟨k', r', at', cs'⟩ := b
  simp [merged, eraseRanges, Node.content]

theorem joinHom_eraseRanges : JoinHom eraseRanges where
  isText := erase_isText
  content := erase_content
  marker := erase_markerToText
  emptied n _ := erase_emptied n
  merged a b _ _ := erase_merged a b
  children n cs := by rw [eraseRanges_eq, eraseRanges_eq n, eraseRangesList_eq_map]

theorem nsize_erase_aux (k : Nat) : ∀ n : Node, nsize n ≤ k → nsize (eraseRanges n) = nsize n := by
  intro n h
  clear h
  induction n using node_induct with
  | step n ih =>
    rw [eraseRanges_eq, nsize_eq, nsize_eq n, eraseRangesList_eq_map]
    simp only
    congr 1
    generalize n.children = l at ih
    induction l with
    | nil => rfl
    | cons c r ihl =>
      simp only [List.map_cons, nsizeList]
      rw [ih c List.mem_cons_self, ihl fun x hx => ih x (List.mem_cons_of_mem _ hx)]

/-- `FragmentsJoin` commutes with erasing the ranges: it reads ranges only to compute ranges -/
theorem erase_joinNode (n : Node) : eraseRanges (joinNode n) = joinNode (eraseRanges n) :=
  joinHom_eraseRanges.joinNode n

/-! ### the splice walk respects "equal up to ranges and mappings" -/

/-- a block value without the per-line table of an `InlineRoot` -/
def eraseK : Block.Kind → Block.Kind
  | .inlineRoot c _ => .inlineRoot c []
  | k => k

mutual
/-- the block tree without source ranges and `InlineRoot` mappings -/
def eraseB : Block.BNode → Block.BNode
  | ⟨k, _, cs⟩ => ⟨eraseK k, none, eraseBList cs⟩
def eraseBList : List Block.BNode → List Block.BNode
  | [] => []
  | c :: cs => eraseB c :: eraseBList cs
end

/-- **(L2)** what is needed of the inline slice: for one text, the children `md.inline.parse`
    returns under two per-line tables differ in their ranges only -/
def InlineRangeFree (icfg : Inline.Cfg) : Prop :=
  ∀ (content : List Char) (m₁ m₂ : InlineOps.Srcmap) (ns₁ ns₂ : List Inline.Node),
    Inline.parseInline icfg content m₁ = .ok ns₁ → Inline.parseInline icfg content m₂ = .ok ns₂ →
    eraseRangesList (ofInlineList ns₁) = eraseRangesList (ofInlineList ns₂)

theorem eraseRangesList_append (a b : List Node) :
    eraseRangesList (a ++ b) = eraseRangesList a ++ eraseRangesList b := by
  simp [eraseRangesList_eq_map]

theorem eraseK_inl {k : Block.Kind} {c : List Char} {m : List (Nat × Nat)}
    (h : eraseK k = .inlineRoot c m) : m = [] ∧ ∃ m', k = .inlineRoot c m' := by
  cases k <;> simp [eraseK] at h
  obtain ⟨rfl, rfl⟩ := h
  exact ⟨rfl, _, rfl⟩

theorem eraseK_other {k k' : Block.Kind} (hk : ∀ c m, k ≠ .inlineRoot c m) (h : eraseK k = eraseK k') :
    k' = k := by
  cases k <;> cases k' <;> simp [eraseK] at h ⊢ <;> first | exact absurd rfl (hk _ _) | simp_all

mutual
theorem spliceNode_congr {icfg : Inline.Cfg} (hinl : InlineRangeFree icfg) (b₁ b₂ : Block.BNode)
    (t₁ t₂ : Node) (he : eraseB b₁ = eraseB b₂) (hk : ∀ c m, b₁.kind ≠ .inlineRoot c m)
    (h₁ : spliceNode icfg b₁ = .ok t₁) (h₂ : spliceNode icfg b₂ = .ok t₂) :
    eraseRanges t₁ = eraseRanges t₂ := by
  match b₁, b₂ with
  | ⟨k₁, r₁, cs₁⟩, ⟨k₂, r₂, cs₂⟩ =>
    simp only [eraseB, Block.BNode.mk.injEq] at he
    have hkk := eraseK_other hk he.1
    rw [← spliceNodeG_parseInline] at h₁ h₂
    obtain ⟨o₁, ho₁, rfl⟩ := spliceNodeG_ok h₁
    obtain ⟨o₂, ho₂, rfl⟩ := spliceNodeG_ok h₂
    rw [spliceListG_parseInline] at ho₁ ho₂
    simp only [eraseRanges, hkk, spliceList_congr hinl cs₁ cs₂ o₁ o₂ he.2.2 ho₁ ho₂]
theorem spliceList_congr {icfg : Inline.Cfg} (hinl : InlineRangeFree icfg) (cs₁ cs₂ : List Block.BNode)
    (o₁ o₂ : List Node) (he : eraseBList cs₁ = eraseBList cs₂)
    (h₁ : spliceList icfg cs₁ = .ok o₁) (h₂ : spliceList icfg cs₂ = .ok o₂) :
    eraseRangesList o₁ = eraseRangesList o₂ := by
  match cs₁, cs₂ with
  | [], [] => simp [spliceList] at h₁ h₂; subst h₁ h₂; rfl
  | [], _ :: _ => simp [eraseBList] at he
  | _ :: _, [] => simp [eraseBList] at he
  | c₁ :: r₁, c₂ :: r₂ =>
    simp only [eraseBList, List.cons.injEq] at he
    obtain ⟨hc, hr⟩ := he
    have hkinds : eraseK c₁.kind = eraseK c₂.kind := by
      obtain ⟨k₁, x₁, y₁⟩ := c₁
      obtain ⟨k₂, x₂, y₂⟩ := c₂
      simp only [eraseB, Block.BNode.mk.injEq] at hc
      exact hc.1
    rw [← spliceListG_parseInline] at h₁ h₂
    obtain ⟨q₁, hq₁, A₁⟩ := spliceListG_cons_ok h₁
    obtain ⟨q₂, hq₂, A₂⟩ := spliceListG_cons_ok h₂
    rw [spliceListG_parseInline] at hq₁ hq₂
    have ih := spliceList_congr hinl r₁ r₂ q₁ q₂ hr hq₁ hq₂
    rcases A₁ with ⟨content, m₁, ns₁, hk₁, hns₁, rfl⟩ | ⟨hne₁, t₁, ht₁, rfl⟩
    · -- an `InlineRoot` on the left, hence on the right, with the same text
      rw [hk₁] at hkinds
      obtain ⟨_, m₂, hk₂⟩ := eraseK_inl hkinds.symm
      rcases A₂ with ⟨_, _, ns₂, hk₂', hns₂, rfl⟩ | ⟨hne₂, _, _, _⟩
      · rw [hk₂] at hk₂'
        cases hk₂'
        rw [eraseRangesList_append, eraseRangesList_append, hinl content m₁ m₂ ns₁ ns₂ hns₁ hns₂, ih]
      · exact absurd ⟨_, _, hk₂⟩ hne₂
    · -- any other child on the left, hence the same kind on the right
      have hk₂ : c₂.kind = c₁.kind := eraseK_other (fun c m e => hne₁ ⟨c, m, e⟩) hkinds
      rcases A₂ with ⟨content, m₂, _, hk₂', _, _⟩ | ⟨_, t₂, ht₂, rfl⟩
      · exact absurd ⟨content, m₂, hk₂ ▸ hk₂'⟩ hne₁
      · rw [spliceNodeG_parseInline] at ht₁ ht₂
        simp only [eraseRangesList]
        rw [spliceNode_congr hinl c₁ c₂ t₁ t₂ hc (fun c m e => hne₁ ⟨c, m, e⟩) ht₁ ht₂, ih]
end

/-! ### the reduction -/

/-- **`doc_line_ending_reduction`.**  Two sources whose block passes return the same reference map and
    trees that are equal up to source ranges and `InlineRoot` line tables (`eraseB`) — this is what
    (L1), the congruence of the block tokenizer under "same views", has to deliver for
    `src` / `lfToCrlf src` / `lfToCr src` / `src ++ "\n"` — render to the same HTML in both modes when
    `sourcepos` is off, provided the inline parser's output depends on the line table through its
    ranges only (L2, `InlineRangeFree`).  The splice walk (`spliceNode_congr`), `FragmentsJoin`
    (`erase_joinNode`) and the renderer (`render_ranges_irrelevant`) are covered here. -/
theorem doc_line_ending_reduction (cfg : DocCfg) (s₁ s₂ : List Char) (hsp : cfg.sourcepos = false)
    (r₁ r₂ : Block.BNode) (refs : Refs.RefMap)
    (hb₁ : Block.parseBlocks cfg.blockCfg s₁ = .ok (r₁, refs))
    (hb₂ : Block.parseBlocks cfg.blockCfg s₂ = .ok (r₂, refs))
    (hblk : eraseB r₁ = eraseB r₂) (hinl : InlineRangeFree (cfg.inlineCfg refs))
    (t₁ t₂ : Node) (h₁ : parseDoc cfg s₁ = .ok t₁) (h₂ : parseDoc cfg s₂ = .ok t₂) (x : Bool) :
    renderDoc x cfg s₁ = renderDoc x cfg s₂ := by
  have hroot := (Block.parseBlocks_wf hb₁).1
  have key : eraseRanges t₁ = eraseRanges t₂ := by
    obtain ⟨_, _, u₁, hb₁', hu₁, hf₁⟩ := parseDoc_ok h₁
    obtain ⟨_, _, u₂, hb₂', hu₂, hf₂⟩ := parseDoc_ok h₂
    rw [hb₁] at hb₁'
    rw [hb₂] at hb₂'
    cases hb₁'; cases hb₂'
    rw [spliceNodeG_parseInline] at hu₁ hu₂
    have hu := spliceNode_congr hinl r₁ r₂ u₁ u₂ hblk (by rw [hroot]; simp) hu₁ hu₂
    rw [hsp] at hf₁ hf₂
    cases hf₁; cases hf₂
    split
    · rw [erase_joinNode, erase_joinNode, hu]
    · exact hu
  unfold renderDoc
  rw [h₁, h₂]
  simp only [render_ranges_irrelevant cfg t₁ t₂ key]

/-
  The two hypotheses of `doc_line_ending_reduction` are theorems: `hblk` from `parseBlocks_same_views`
  (`Props/C10Doc.lean`, a lock-step simulation of the block tokenizer on two sources with equal
  views), `hinl` is `inline_range_free` (`Lemmas/C10DocInline.lean`).  Ranges never decide control flow
  in the inline parser, but they decide PANICS (`trailing_text_pop`: `map_end - count`; `matchInner`:
  `end - marker_len`; `get_map`'s `debug_assert!`), which is why `doc_crlf_invariant_full`
  (`Props/DocTotal.lean`) keeps a no-inline-panic hypothesis and `doc_cr_invariant_full` /
  `doc_final_newline_invariant_full` (byte offsets unchanged) keep none.
-/

/-! ## non-vacuity: documents with every block and inline kind, through `parseDoc` / `renderDoc` -/

/-! ### shared by the later document modules: the configuration `exCfg`, the payload-free view `Tag` / `tags` of a
    tree, the documents `exBlocks` and `exInlines`, equality of results decidable, `exInlines_tags`,
    `exInlines_parses` -/

/-- a configuration for examples: every html-free rule in the stock order, `*` `_` emphasis and `~~`
    strikethrough, one-row entity table, ASCII case tables -/
def exCfg (sp : Bool) (mn : Nat) : DocCfg :=
  { maxNesting := mn,
    blockChain := [.code, .fence, .blockquote, .hr, .list, .reference, .heading, .lheading, .paragraph],
    inlineChain := [.text, .newline, .escape, .backticks, .emph '*' true, .emph '_' false, .link, .linkEnd,
                    .image, .autolink, .entity, .emph '~' true],
    fns := fun m i => if m = '*' ∨ m = '_' then (if i = 0 then some .em else if i = 1 then some .strong else none)
                      else if m = '~' then (if i = 1 then some .strike else none) else none,
    sourcepos := sp, langPrefix := ['l', '-'],
    entity := fun s => if s = ['&', 'a', 'm', 'p', ';'] then some ['&'] else none,
    L := fun c => [if 65 ≤ c ∧ c ≤ 90 then c + 32 else c],
    U := fun c => [if 97 ≤ c ∧ c ≤ 122 then c - 32 else c],
    isWhite := fun c => Refs.isWs c.toNat, isPunctChar := fun _ => false }

/-- node kinds without payload (for examples) -/
inductive Tag where
  | root | p | bq | ul | ol | li | code | fence | hr | h | sh | inl | T | X | SB | HB | C | E | S | K | L | I | A | M
  deriving DecidableEq, Repr

def Kind.tag : Kind → Tag
  | .blk .root => .root | .blk .paragraph => .p | .blk .blockquote => .bq | .blk (.bulletList _) => .ul
  | .blk (.orderedList _ _) => .ol | .blk .listItem => .li | .blk (.codeBlock _) => .code
  | .blk (.codeFence _ _ _ _) => .fence | .blk (.hr _ _) => .hr | .blk (.atx _) => .h | .blk (.setext _ _) => .sh
  | .blk (.inlineRoot _ _) => .inl | .inl (.text _) => .T | .inl (.special _ _ _) => .X | .inl .softbreak => .SB
  | .inl .hardbreak => .HB | .inl (.codeInline _ _) => .C | .inl (.wrap .em _) => .E | .inl (.wrap .strong _) => .S
  | .inl (.wrap .strike _) => .K | .inl (.link _ _) => .L | .inl (.image _ _) => .I | .inl (.autolink _) => .A
  | .inl (.emphMarker _ _ _ _ _) => .M

mutual
/-- the kinds of a tree in pre-order -/
def tags : Node → List Tag
  | ⟨k, _, _, cs⟩ => Kind.tag k :: tagsList cs
def tagsList : List Node → List Tag
  | [] => []
  | c :: cs => tags c ++ tagsList cs
end

/-- every block kind: ATX and setext heading, quote with paragraph, tight bullet and ordered list,
    thematic break, indented code, fence with info -/
def exBlocks : List Char :=
  "# h\n\na\n=\n\n> q\n\n- i\n\n1. o\n\n***\n\n    c\n\n```r\nf\n```\n".toList

/-- every inline kind: reference definition + use, em, strong, strikethrough, code span, link, image,
    autolink, character reference, escape, hard and soft break, a delimiter that stays text -/
def exInlines : List Char :=
  "[r]: /u\n\n*e* **s** ~~k~~ `c` [l](/v) ![i](/w) <xx:y> &amp; \\* a  \nb\nc [r] *".toList

deriving instance DecidableEq for Except

theorem exInlines_tags : (parseDoc (exCfg true 100) exInlines).toOption.map tags =
    some [.root, .p, .E, .T, .T, .S, .T, .T, .K, .T, .T, .C, .T, .T, .L, .T, .T, .I, .T, .T, .A, .T, .T,
          .X, .T, .X, .T, .HB, .T, .SB, .T, .L, .T, .T] := by
  unfold exInlines
  decide_lits

/-- the hypothesis of the `doc_*` theorems is satisfiable -/
theorem exInlines_parses : ∃ t, parseDoc (exCfg true 100) exInlines = .ok t := by
  have h := exInlines_tags
  cases hp : parseDoc (exCfg true 100) exInlines with
  | ok t => exact ⟨t, rfl⟩
  | error e => rw [hp] at h; cases h

/-! ### the examples -/

example : (parseDoc (exCfg true 100) exBlocks).toOption.map tags =
    some [.root, .h, .T, .sh, .T, .bq, .p, .T, .ul, .li, .T, .ol, .li, .T, .hr, .code, .fence] := by
  unfold exBlocks
  decide_lits

example : (parseDoc (exCfg true 100) exInlines).toOption.map tags =
    some [.root, .p, .E, .T, .T, .S, .T, .T, .K, .T, .T, .C, .T, .T, .L, .T, .T, .I, .T, .T, .A, .T, .T,
          .X, .T, .X, .T, .HB, .T, .SB, .T, .L, .T, .T] :=
  exInlines_tags

example : (renderDoc false (exCfg false 100) exBlocks).toOption.map List.length = some 173 := by
  unfold exBlocks
  decide_lits
example : (renderDoc true (exCfg true 100) exInlines).toOption.map List.length = some 405 := by
  unfold exInlines
  decide_lits

/-- a hostile destination and title, with source positions: every delimiter of the payload leaves
    escaped (`"` in the url is percent-encoded by `normalize_link`) -/
example : renderDoc false (exCfg true 100) "[a](<\"> \"<b>&\")".toList =
    .ok ("<p data-sourcepos=\"1:1-1:15\">".toList ++ "<a data-sourcepos=\"1:1-1:15\" ".toList ++
         "href=\"%22\" title=\"".toList ++ "&lt;b&gt;&amp;\">a</a></p>\n".toList) := by
  decide_lits

example : ∀ x : Bool, ∃ out, renderDoc x (exCfg true 100) exInlines = .ok out ∧ SafeHtml out := by
  obtain ⟨t, ht⟩ := exInlines_parses
  exact doc_safe_output _ _ t ht

example : WF true true (match parseDoc (exCfg true 100) exInlines with | .ok t => t | .error _ => ⟨.blk .root, none, [], []⟩) := by
  obtain ⟨t, ht⟩ := exInlines_parses
  rw [ht]
  exact doc_tree_wf _ _ t ht

/-- `data-sourcepos` of the nodes of `"a\r\n*é* b"` (a CR LF counts once, `é` is one column) -/
example : (parseDoc (exCfg true 100) "a\r\n*é* b".toList).toOption.map
      (fun t => (t.attrs.map (·.2)) :: t.children.map (fun p => p.attrs.map (·.2))) =
    some [["1:1-2:5".toList], ["1:1-2:5".toList]] := by decide_lits

/-- `max_nesting = 0`: the block tokenizer gives up at once; the document is empty, not a panic -/
example : renderDoc false (exCfg false 0) "> *a*".toList = .ok [] := by decide +kernel

/-- without the paragraph rule the no-paragraph fallback pushes bare `InlineRoot`s under `Root`: the
    splice walk replaces them all the same, and `FragmentsJoin` merges texts of DIFFERENT lines that
    have become siblings under `Root` … -/
example : (parseDoc { exCfg false 100 with blockChain := [.hr], inlineChain := [.text, .emph '*' true] }
      "a\nb\n***".toList).toOption.map (fun t => t.children.map (fun c => (c.kind, c.range))) =
    some [(.inl (.text ['a', '\n', 'b', '\n']), some (0, 4)), (.blk (.hr '*' 3), some (4, 7))] := by
  decide +kernel

/-- … while without an emphasis-like rule (no join pass) they stay two adjacent `Text` siblings: the
    text normal form of C14 needs the paragraph rule (its quantifier) or the join pass -/
example : (parseDoc { exCfg false 100 with blockChain := [.hr], inlineChain := [.text] }
      "a\nb\n***".toList).toOption.map (fun t => t.children.map (fun c => (c.kind, c.range))) =
    some [(.inl (.text ['a', '\n']), some (0, 2)), (.inl (.text ['b', '\n']), some (2, 4)),
          (.blk (.hr '*' 3), some (4, 7))] := by
  decide +kernel

/-- C10 on one document, by evaluation: LF, CR LF, CR and a final
    line ending, in a list item behind a tab, with a fence and a hard break -/
example : let c := exCfg false 100
    renderDoc false c "- a  \n\tb\n```\nc".toList = renderDoc false c "- a  \r\n\tb\r\n```\r\nc".toList ∧
    renderDoc false c "- a  \n\tb\n```\nc".toList = renderDoc false c "- a  \r\tb\r```\rc".toList ∧
    renderDoc false c "- a  \n\tb\n```\nc".toList = renderDoc false c "- a  \n\tb\n```\nc\n".toList := by
  decide_lits

end MdIt.Pipeline
