/-
  Code-span rule (`generics/inline/code_pair.rs`): theorems other properties import.

  C01: `codepair_no_panic`, `runSeq_no_panic` (every source, EVERY cache value, every valid call /
       call sequence), `codepair_progress`, `codepair_old_panics` (pinned code), `multibyte_marker_panics`.
  C16: `codepair_silent_real` (unconditional, every variant), `CacheInv` + `cacheInv_run` /
       `cacheInv_runSeq` (invariant preserved by every call, no discipline), `cache_sound`,
       `cache_transparent`, `runSeq_transparent` (the closer table never changes an answer; only
       hypothesis: no `pos_max` cuts a marker run — `cut_posmax_needs_hypothesis` shows it is needed),
       `inside_hit`, `InsideInv` + `insideInv_run` (what `inside_failed` guarantees),
       negation witnesses for the earlier code: `old_lookahead_poisons_cache` (A),
       `old_table_not_monotone` (B), `old_guard_reads_tree` (C).
  The loop: `Frame` (where the loop stands in the source), `Frame.scan_step` / `Frame.scan_end` (one
       turn), `runs_induction`, and THE loop lemma `scan_spec`: in a frame the loop returns
       `scanResult … hit (upd c.max) c`, where `hit` (the closer, if any) and `upd` (what happens to
       the closer table) depend on the text alone, neither on `silent` nor on the cache;
       `scan_total`, `scan_some`, `scan_none`, `scan_verdict_indep` are read off it.
  A call: `run_branch` lists how a call behind an opener evaluates, the same in both modes (`Branch`);
       `run_effect` what a successful call answered and did to the cache (`Effect`: declined /
       answered from the table / closer found / loop ran to the end), `run_some` the closer behind a
       `Some`.  Also used by `Props/C11.lean`: `nodeOf`, `unpad`.
  All statements are for every source string, every cache value and every call, no size bounds.
-/
import MdIt.Model.CodePair
import MdIt.Lemmas.Lines
namespace MdIt.CodePair

/-! ## byte slices: the ones of `Model/Lines` (`Lemmas/Lines.lean` section 1) -/

theorem byteLen_eq_lines : byteLen = Lines.byteLen := by
  funext s
  induction s with
  | nil => rfl
  | cons c r ih => simp only [byteLen, Lines.byteLen, ih]

theorem byteLen_append (a b : List Char) : byteLen (a ++ b) = byteLen a + byteLen b := by
  rw [byteLen_eq_lines]; exact Lines.byteLen_append a b

theorem byteLen_replicate {m : Char} (hm : m.utf8Size = 1) (k : Nat) :
    byteLen (List.replicate k m) = k := by
  rw [byteLen_eq_lines]; exact Lines.byteLen_replicate hm k

theorem dropB_zero (l : List Char) : dropB l 0 = some l := by cases l <;> rfl

theorem dropB_cons (c : Char) (r : List Char) (n : Nat) (h : 0 < n) :
    dropB (c :: r) n = if c.utf8Size ≤ n then dropB r (n - c.utf8Size) else none := by
  cases n with
  | zero => omega
  | succ n => rfl

theorem takeB_cons (c : Char) (r : List Char) (n : Nat) (h : 0 < n) :
    takeB (c :: r) n = if c.utf8Size ≤ n then (takeB r (n - c.utf8Size)).map (c :: ·) else none := by
  cases n with
  | zero => omega
  | succ n => rfl

theorem dropB_eq_lines (s : List Char) (n : Nat) : dropB s n = Lines.dropBytes s n := by
  fun_induction Lines.dropBytes s n with
  | case1 => rfl
  | case2 n h => cases n with | zero => exact absurd rfl h | succ n => rfl
  | case3 c r => exact dropB_zero _
  | case4 c r n h0 hlt => rw [dropB_cons _ _ _ (by omega), if_neg (by omega)]
  | case5 c r n h0 hge ih => rw [dropB_cons _ _ _ (by omega), if_pos (by omega), ih]

theorem takeB_eq_lines (s : List Char) (n : Nat) : takeB s n = Lines.takeBytes s n := by
  fun_induction Lines.takeBytes s n with
  | case1 => rfl
  | case2 n h => cases n with | zero => exact absurd rfl h | succ n => rfl
  | case3 c r => exact takeB_zero _
  | case4 c r n h0 hlt => rw [takeB_cons _ _ _ (by omega), if_neg (by omega)]
  | case5 c r n h0 hge ht ih => rw [takeB_cons _ _ _ (by omega), if_pos (by omega), ih, ht]; rfl
  | case6 c r n h0 hge t ht ih => rw [takeB_cons _ _ _ (by omega), if_pos (by omega), ih, ht]; rfl

theorem slice_eq_some_iff_lines {s u : List Char} {a b : Nat} :
    slice s a b = some u ↔ Lines.slice s a b = .ok u := by
  unfold slice Lines.slice
  rw [dropB_eq_lines]
  by_cases hab : a ≤ b
  · rw [if_pos hab, if_neg (by omega)]
    cases Lines.dropBytes s a with
    | none => simp
    | some t =>
      simp only [Option.bind_some, takeB_eq_lines]
      cases Lines.takeBytes t (b - a) <;> simp
  · rw [if_neg hab, if_pos (by omega)]; simp

theorem dropB_append_add (x r : List Char) (j : Nat) :
    dropB (x ++ r) (byteLen x + j) = dropB r j := by
  rw [dropB_eq_lines, dropB_eq_lines, byteLen_eq_lines]; exact Lines.dropBytes_append_left x r j

theorem dropB_append (x r : List Char) : dropB (x ++ r) (byteLen x) = some r := by
  rw [dropB_eq_lines, byteLen_eq_lines]; exact Lines.dropBytes_append x r

theorem slice_mid (x m z : List Char) :
    slice (x ++ m ++ z) (byteLen x) (byteLen x + byteLen m) = some m := by
  rw [byteLen_eq_lines]; exact slice_eq_some_iff_lines.mpr (Lines.slice_append x m z)

theorem dropB_some {s : List Char} {n : Nat} {t : List Char} (h : dropB s n = some t) :
    ∃ a, s = a ++ t ∧ byteLen a = n := by
  rw [dropB_eq_lines] at h; rw [byteLen_eq_lines]; exact Lines.dropBytes_eq_some h

theorem slice_some {s : List Char} {a b : Nat} {u : List Char} (h : slice s a b = some u) :
    ∃ x z, s = x ++ u ++ z ∧ byteLen x = a ∧ a + byteLen u = b := by
  rw [byteLen_eq_lines]; exact Lines.slice_eq_ok_iff.mp (slice_eq_some_iff_lines.mp h)

theorem isBoundary_eq_lines (s : List Char) (n : Nat) : isBoundary s n = Lines.onBoundary s n := by
  unfold isBoundary Lines.onBoundary; rw [dropB_eq_lines]

theorem findB_none {m : Char} {s : List Char} (h : m ∉ s) : findB m s = none := by
  induction s with
  | nil => rfl
  | cons c r ih =>
    simp at h
    simp [findB, ih h.2, Ne.symm h.1]

theorem findB_append {m : Char} (a r : List Char) (h : m ∉ a) :
    findB m (a ++ m :: r) = some (byteLen a) := by
  induction a with
  | nil => simp [findB, byteLen]
  | cons c a ih =>
    simp at h
    simp [findB, ih h.2, Ne.symm h.1, byteLen]; omega

theorem runLen_replicate {m : Char} (k : Nat) (t : List Char) (h : t.head? ≠ some m) :
    runLen m (List.replicate k m ++ t) = k := by
  induction k with
  | zero =>
    cases t with
    | nil => rfl
    | cons c t => simp at h; simp [runLen, h]
  | succ k ih => simp [List.replicate_succ, runLen, ih]

theorem runLen_split (m : Char) (r : List Char) :
    ∃ t, r = List.replicate (runLen m r) m ++ t ∧ t.head? ≠ some m := by
  induction r with
  | nil => exact ⟨[], by simp [runLen]⟩
  | cons c r ih =>
    by_cases hc : c = m
    · obtain ⟨t, ht, hh⟩ := ih
      refine ⟨t, ?_, hh⟩
      simp only [runLen, hc, if_true, List.replicate_succ, List.cons_append]
      rw [← ht]
    · exact ⟨c :: r, by simp [runLen, hc], by simp [hc]⟩

theorem first_occurrence {m : Char} {l : List Char} (h : m ∈ l) :
    ∃ a r, l = a ++ m :: r ∧ m ∉ a := by
  induction l with
  | nil => cases h
  | cons c l ih =>
    by_cases hc : c = m
    · exact ⟨[], l, by simp [hc], by simp⟩
    · have : m ∈ l := by simp at h; rcases h with h | h; exact absurd h.symm hc; exact h
      obtain ⟨a, r, hl, ha⟩ := ih this
      exact ⟨c :: a, r, by simp [hl], by simp [ha, Ne.symm hc]⟩

/-- induction along the scan loop: a string is marker-free, or is `A ++ mᵏ⁺¹ ++ T` with `A`
    marker-free and `T` not starting with the marker -/
theorem runs_induction {m : Char} {P : List Char → Prop}
    (nomark : ∀ M, m ∉ M → P M)
    (hit : ∀ A k T, m ∉ A → T.head? ≠ some m → P T → P (A ++ List.replicate (k + 1) m ++ T)) :
    ∀ M, P M := by
  have key : ∀ n (M : List Char), M.length ≤ n → P M := by
    intro n
    induction n with
    | zero =>
      intro M h
      have : M = [] := by cases M with | nil => rfl | cons _ _ => simp at h
      subst this; exact nomark [] (by simp)
    | succ n ih =>
      intro M h
      by_cases hm : m ∈ M
      · obtain ⟨a, r, hl, ha⟩ := first_occurrence hm
        obtain ⟨t, ht, hh⟩ := runLen_split m r
        have e : M = a ++ List.replicate (runLen m r + 1) m ++ t := by
          rw [hl, List.replicate_succ, List.append_assoc, List.cons_append, ← ht]
        rw [e]
        apply hit a _ t ha hh
        apply ih
        have : M.length = a.length + (runLen m r + 1) + t.length := by rw [e]; simp; omega
        omega
      · exact nomark M hm
  exact fun M => key M.length M (Nat.le_refl _)


theorem grow_eq (mx : List Nat) (n : Nat) :
    grow mx n = mx ++ List.replicate (n + 1 - mx.length) 0 := by
  fun_induction grow mx n with
  | case1 mx h ih =>
    rw [ih]
    have : n + 1 - mx.length = (n + 1 - (mx ++ [0]).length) + 1 := by simp; omega
    rw [this, List.replicate_succ]; simp
  | case2 mx h =>
    have : n + 1 - mx.length = 0 := by omega
    simp [this]

theorem grow_length (mx : List Nat) (n : Nat) : n < (grow mx n).length := by
  rw [grow_eq]; simp; omega

theorem grow_getD (mx : List Nat) (n i : Nat) : (grow mx n).getD i 0 = mx.getD i 0 := by
  rw [grow_eq]
  simp only [List.getD_eq_getElem?_getD, List.getElem?_append]
  split
  · rfl
  · rename_i h
    rw [List.getElem?_eq_none (by omega : mx.length ≤ i)]
    simp [List.getElem?_replicate]
    split <;> rfl

theorem record_spec (b : Bool) (mx : List Nat) (l s : Nat) :
    ∃ mx', record b mx l s = .ok mx' ∧
      ∀ i, mx'.getD i 0 =
        if i = l then (if b = true ∧ s ≤ mx.getD l 0 then mx.getD l 0 else s) else mx.getD i 0 := by
  have hl := grow_length mx l
  have hset : ∀ i, ((grow mx l).set l s).getD i 0 = if i = l then s else mx.getD i 0 := by
    intro i
    simp only [List.getD_eq_getElem?_getD, List.getElem?_set]
    by_cases h : l = i
    · subst h; simp [hl]
    · have h' : ¬ i = l := fun e => h e.symm
      simp only [h, h', if_false]
      rw [← List.getD_eq_getElem?_getD, grow_getD, List.getD_eq_getElem?_getD]
  have hget : (grow mx l)[l]? = some (mx.getD l 0) := by
    have := grow_getD mx l l
    simp only [List.getD_eq_getElem?_getD] at this
    rw [List.getElem?_eq_getElem hl] at this ⊢
    simp at this; simp [this]
  unfold record
  cases b with
  | false =>
    refine ⟨(grow mx l).set l s, by simp [setIdx, hl], ?_⟩
    intro i; rw [hset]; simp
  | true =>
    generalize hg : mx.getD l 0 = g at hget ⊢
    simp only [hget, if_true]
    by_cases hlt : g < s
    · refine ⟨(grow mx l).set l s, ?_, ?_⟩
      · simp only [if_pos hlt, setIdx, if_pos hl]
      · intro i; rw [hset]
        by_cases h : i = l
        · rw [if_pos h, if_pos h, if_neg (by omega)]
        · rw [if_neg h, if_neg h]
    · refine ⟨grow mx l, ?_, ?_⟩
      · simp only [if_neg hlt]
      · intro i; rw [grow_getD]
        by_cases h : i = l
        · rw [if_pos h, if_pos ⟨trivial, by omega⟩, h, hg]
        · rw [if_neg h]

/-- the table after `record` (which never fails, `record_spec`) -/
def recorded (b : Bool) (mx : List Nat) (l s : Nat) : List Nat :=
  match record b mx l s with
  | .ok mx' => mx'
  | .error _ => mx

theorem record_recorded (b : Bool) (mx : List Nat) (l s : Nat) :
    record b mx l s = .ok (recorded b mx l s) := by
  obtain ⟨mx', h, _⟩ := record_spec b mx l s
  rw [recorded, h]

theorem recorded_mono (mx : List Nat) (l s : Nat) :
    (∀ i, mx.getD i 0 ≤ (recorded true mx l s).getD i 0) ∧ s ≤ (recorded true mx l s).getD l 0 := by
  obtain ⟨mx', h, hspec⟩ := record_spec true mx l s
  rw [recorded, h]
  constructor
  · intro i
    rw [hspec i]
    by_cases hi : i = l
    · subst hi
      rw [if_pos rfl]
      by_cases hh : s ≤ mx.getD i 0
      · rw [if_pos ⟨rfl, hh⟩]; exact Nat.le_refl _
      · rw [if_neg (fun x => hh x.2)]; omega
    · rw [if_neg hi]; exact Nat.le_refl _
  · rw [hspec l, if_pos rfl]
    by_cases hh : s ≤ mx.getD l 0
    · rw [if_pos ⟨rfl, hh⟩]; exact hh
    · rw [if_neg (fun x => hh x.2)]; exact Nat.le_refl _

/-! ## unfolding the scan loop inside a frame `src = X ++ M ++ Z` -/

theorem scan_nomarker (v : Variant) (m : Char) {src X M Z : List Char} {matchEnd posMax : Nat}
    (pos n p : Nat) (silent : Bool) (c : Cache)
    (hsrc : src = X ++ M ++ Z) (hX : byteLen X = matchEnd) (hP : posMax = matchEnd + byteLen M)
    (hM : m ∉ M) :
    scan v m src pos posMax n p silent matchEnd c =
      .ok (none, markInside v pos p (complete v pos posMax c)) := by
  have hs : slice src matchEnd posMax = some M := by
    rw [hsrc, ← hX, hP, ← hX]; exact slice_mid X M Z
  rw [scan]
  split
  · rename_i h; rw [hs] at h; cases h
  · rename_i s h
    rw [hs] at h; cases h
    split
    · rfl
    · rename_i off hf; rw [findB_none hM] at hf; cases hf

theorem scan_hit (v : Variant) (m : Char) (hm1 : m.utf8Size = 1)
    {src X A T Z : List Char} {k matchEnd posMax : Nat}
    (pos n p : Nat) (silent : Bool) (c : Cache)
    (hsrc : src = X ++ (A ++ List.replicate (k + 1) m ++ T) ++ Z) (hX : byteLen X = matchEnd)
    (hP : posMax = matchEnd + byteLen A + (k + 1) + byteLen T)
    (hA : m ∉ A) (hT : T.head? ≠ some m) :
    scan v m src pos posMax n p silent matchEnd c =
      if k + 1 = n then
        if matchEnd + byteLen A + (k + 1) < pos then .error .underflow
        else if silent = true then
          .ok (some ⟨matchEnd + byteLen A + (k + 1) - pos, none⟩, c)
        else
          match mkNode src pos p (matchEnd + byteLen A) (matchEnd + byteLen A + (k + 1)) n with
          | .error e => .error e
          | .ok nd => .ok (some ⟨matchEnd + byteLen A + (k + 1) - pos, some nd⟩, c)
      else
        match record v.monotone c.max (k + 1) (matchEnd + byteLen A) with
        | .error e => .error e
        | .ok mx =>
          scan v m src pos posMax n p silent (matchEnd + byteLen A + (k + 1)) { c with max := mx } := by
  have hrep := byteLen_replicate hm1
  have hs : slice src matchEnd posMax = some (A ++ List.replicate (k + 1) m ++ T) := by
    have := slice_mid X (A ++ List.replicate (k + 1) m ++ T) Z
    rw [hsrc, ← hX, hP, ← hX]
    simp only [byteLen_append, hrep] at this ⊢
    have e : byteLen X + byteLen A + (k + 1) + byteLen T = byteLen X + (byteLen A + (k + 1) + byteLen T) := by omega
    rw [e]; exact this
  have hf : findB m (A ++ List.replicate (k + 1) m ++ T) = some (byteLen A) := by
    rw [List.replicate_succ, List.append_assoc, List.cons_append]
    exact findB_append A _ hA
  have hs2 : slice src (matchEnd + byteLen A + 1) posMax = some (List.replicate k m ++ T) := by
    have := slice_mid (X ++ A ++ [m]) (List.replicate k m ++ T) Z
    have e1 : src = X ++ A ++ [m] ++ (List.replicate k m ++ T) ++ Z := by
      rw [hsrc, List.replicate_succ]; simp
    rw [e1, hP, ← hX]
    simp only [byteLen_append, hrep, byteLen, hm1] at this ⊢
    have e : byteLen X + byteLen A + (k + 1) + byteLen T = byteLen X + byteLen A + (1 + 0) + (k + byteLen T) := by omega
    rw [e]; exact this
  have hr : runLen m (List.replicate k m ++ T) = k := runLen_replicate k T hT
  rw [scan]
  split
  · rename_i h; rw [hs] at h; cases h
  · rename_i s h
    rw [hs] at h; cases h
    split
    · rename_i hf'; rw [hf] at hf'; cases hf'
    · rename_i off hf'
      rw [hf] at hf'; cases hf'
      simp only [hs2, hr]
      have e : 1 + k = k + 1 := by omega
      simp only [e]
      rfl


theorem byteLen_normalise (l : List Char) : byteLen (normalise l) = byteLen l := by
  induction l with
  | nil => rfl
  | cons c r ih =>
    unfold normalise at ih ⊢
    simp only [List.map_cons, byteLen, ih]
    split
    · rename_i h; subst h; rfl
    · rfl

/-- the padding-stripped content: `content[1..content.len() - 1]` when the test succeeds -/
def unpad (content : List Char) : List Char :=
  if padded content = true then content.tail.dropLast else content

theorem padded_split {content : List Char} (h : padded content = true) :
    ∃ mid, content = ' ' :: mid ++ [' '] ∧ mid ≠ [] := by
  unfold padded at h
  simp only [Bool.and_eq_true, beq_iff_eq, decide_eq_true_eq] at h
  obtain ⟨⟨hh, hl⟩, hlen⟩ := h
  have hsp : (' ' : Char).utf8Size = 1 := by decide
  obtain ⟨ys, hys⟩ := List.getLast?_eq_some_iff.mp hl
  subst hys
  cases ys with
  | nil => simp [byteLen, hsp] at hlen
  | cons y ys =>
    simp at hh; subst hh
    refine ⟨ys, rfl, ?_⟩
    intro e; subst e
    simp [byteLen, hsp] at hlen

theorem slice_inner (mid : List Char) :
    slice (' ' :: mid ++ [' ']) 1 (byteLen (' ' :: mid ++ [' ']) - 1) = some mid := by
  have hsp : (' ' : Char).utf8Size = 1 := by decide
  have := slice_mid [' '] mid [' ']
  simp only [byteLen, hsp, byteLen_append, List.cons_append, List.nil_append] at this ⊢
  have e : 1 + (byteLen mid + (1 + 0)) - 1 = 1 + 0 + byteLen mid := by omega
  rw [e]; exact this

theorem unpad_eq {mid : List Char} (h : padded (' ' :: mid ++ [' ']) = true) :
    unpad (' ' :: mid ++ [' ']) = mid := by
  unfold unpad
  rw [if_pos h]
  simp

/-- the node built in real mode -/
def nodeOf (pos p ms me n : Nat) (raw : List Char) : Node :=
  { markerLen := n, rangeStart := pos, rangeEnd := me,
    innerStart := if padded (normalise raw) = true then p + 1 else p,
    innerEnd := if padded (normalise raw) = true then ms - 1 else ms,
    content := unpad (normalise raw) }

theorem mkNode_eq {src X0 R Z' : List Char} {pos p ms me n : Nat}
    (hsrc : src = X0 ++ R ++ Z') (hp : byteLen X0 = p) (hms : ms = p + byteLen R)
    (hpos : pos ≤ p) (hme : ms ≤ me) :
    mkNode src pos p ms me n = .ok (nodeOf pos p ms me n R) := by
  have hs : slice src p ms = some R := by rw [hsrc, hms, ← hp]; exact slice_mid X0 R Z'
  unfold mkNode
  simp only [hs]
  by_cases hpad : padded (normalise R) = true
  · obtain ⟨mid, hmid, hne⟩ := padded_split hpad
    have hb := byteLen_normalise R
    have hsp : (' ' : Char).utf8Size = 1 := by decide
    have hlen : byteLen R = 2 + byteLen mid := by
      rw [← hb, hmid]; simp [byteLen, byteLen_append, hsp]; omega
    have hmpos : 0 < byteLen mid := by
      cases mid with
      | nil => exact absurd rfl hne
      | cons d t => have := Char.utf8Size_pos d; simp [byteLen]; omega
    simp only [hpad, if_true]
    rw [hmid, slice_inner]
    simp only
    rw [if_neg (by omega)]
    unfold finishNode nodeOf
    rw [if_pos (by omega), if_pos (by omega)]
    simp only [hpad, if_true]
    rw [hmid, unpad_eq (hmid ▸ hpad)]
  · simp only [hpad]
    unfold finishNode nodeOf
    simp only [Bool.false_eq_true, if_false]
    rw [if_pos (by omega), if_pos (by omega)]
    simp [unpad, hpad]


/-- the situation of the scan loop: `src = X0 ++ X1 ++ M ++ Z` with `X0` ending where the Rust
    variable `pos` (`p`) points, `X0 ++ X1` where `match_end` points, `M` the rest up to `pos_max` -/
structure Frame (src : List Char) (pos p posMax matchEnd : Nat) (X0 X1 M Z : List Char) : Prop where
  hsrc : src = X0 ++ X1 ++ M ++ Z
  hp : byteLen X0 = p
  hme : matchEnd = p + byteLen X1
  hpm : posMax = matchEnd + byteLen M
  hpos : pos ≤ p

theorem Frame.next {m : Char} (hm1 : m.utf8Size = 1) {src : List Char} {pos p posMax matchEnd : Nat}
    {X0 X1 A T Z : List Char} {k : Nat}
    (f : Frame src pos p posMax matchEnd X0 X1 (A ++ List.replicate (k + 1) m ++ T) Z) :
    Frame src pos p posMax (matchEnd + byteLen A + (k + 1)) X0
      (X1 ++ A ++ List.replicate (k + 1) m) T Z := by
  have hr := byteLen_replicate hm1 (k + 1)
  refine ⟨?_, f.hp, ?_, ?_, f.hpos⟩
  · rw [f.hsrc]; simp
  · rw [f.hme]; simp only [byteLen_append, hr]; omega
  · rw [f.hpm]; simp only [byteLen_append, hr]; omega

theorem Frame.hit_args {m : Char} (hm1 : m.utf8Size = 1) {src : List Char}
    {pos p posMax matchEnd : Nat} {X0 X1 A T Z : List Char} {k : Nat}
    (f : Frame src pos p posMax matchEnd X0 X1 (A ++ List.replicate (k + 1) m ++ T) Z) :
    src = (X0 ++ X1) ++ (A ++ List.replicate (k + 1) m ++ T) ++ Z ∧ byteLen (X0 ++ X1) = matchEnd ∧
      posMax = matchEnd + byteLen A + (k + 1) + byteLen T := by
  have hr := byteLen_replicate hm1 (k + 1)
  refine ⟨f.hsrc, ?_, ?_⟩
  · rw [byteLen_append, f.hp, f.hme]
  · rw [f.hpm]; simp only [byteLen_append, hr]; omega

theorem Frame.mkNode {m : Char} {src : List Char}
    {pos p posMax matchEnd : Nat} {X0 X1 A T Z : List Char} {k : Nat} (n : Nat)
    (f : Frame src pos p posMax matchEnd X0 X1 (A ++ List.replicate (k + 1) m ++ T) Z) :
    mkNode src pos p (matchEnd + byteLen A) (matchEnd + byteLen A + (k + 1)) n =
      .ok (nodeOf pos p (matchEnd + byteLen A) (matchEnd + byteLen A + (k + 1)) n (X1 ++ A)) := by
  apply mkNode_eq (X0 := X0) (R := X1 ++ A) (Z' := List.replicate (k + 1) m ++ T ++ Z)
  · rw [f.hsrc]; simp
  · exact f.hp
  · rw [f.hme, byteLen_append]; omega
  · exact f.hpos
  · omega

theorem Frame.len {src : List Char} {pos p posMax matchEnd : Nat} {X0 X1 M Z : List Char}
    (f : Frame src pos p posMax matchEnd X0 X1 M Z) : byteLen (X0 ++ X1) = matchEnd := by
  rw [byteLen_append, f.hp, f.hme]

theorem Frame.scan_end (v : Variant) {m : Char} {src : List Char} {pos p posMax matchEnd : Nat}
    {X0 X1 M Z : List Char} (f : Frame src pos p posMax matchEnd X0 X1 M Z) (hM : m ∉ M)
    (n : Nat) (silent : Bool) (c : Cache) :
    scan v m src pos posMax n p silent matchEnd c =
      .ok (none, markInside v pos p (complete v pos posMax c)) :=
  scan_nomarker v m pos n p silent c f.hsrc f.len f.hpm hM

/-- one turn of the loop in a frame whose rest is `A ++ mᵏ⁺¹ ++ T`: the run closes the span if it
    has the opener's length, otherwise it is recorded and the loop goes on in the next frame;
    nothing in the turn can panic -/
theorem Frame.scan_step (v : Variant) {m : Char} (hm1 : m.utf8Size = 1) {src : List Char}
    {pos p posMax matchEnd : Nat} {X0 X1 A T Z : List Char} {k : Nat}
    (f : Frame src pos p posMax matchEnd X0 X1 (A ++ List.replicate (k + 1) m ++ T) Z)
    (hA : m ∉ A) (hT : T.head? ≠ some m) (n : Nat) (silent : Bool) (c : Cache) :
    scan v m src pos posMax n p silent matchEnd c =
      if k + 1 = n then
        .ok (some ⟨matchEnd + byteLen A + (k + 1) - pos,
          if silent = true then none
          else some (nodeOf pos p (matchEnd + byteLen A) (matchEnd + byteLen A + (k + 1)) n (X1 ++ A))⟩, c)
      else scan v m src pos posMax n p silent (matchEnd + byteLen A + (k + 1))
        { c with max := recorded v.monotone c.max (k + 1) (matchEnd + byteLen A) } := by
  obtain ⟨h1, h2, h3⟩ := f.hit_args hm1
  have hge : ¬ matchEnd + byteLen A + (k + 1) < pos := by have := f.hme; have := f.hpos; omega
  rw [scan_hit v m hm1 pos n p silent c h1 h2 h3 hA hT, if_neg hge, f.mkNode n, record_recorded]
  cases silent <;> rfl

/-- the character starting at byte offset `i` (`none` at the end or inside a character) -/
def charAt (src : List Char) (i : Nat) : Option Char := (dropB src i).bind List.head?

theorem charAt_append_add (x r : List Char) (j : Nat) :
    charAt (x ++ r) (byteLen x + j) = charAt r j := by
  unfold charAt; rw [dropB_append_add]

theorem charAt_zero (r : List Char) : charAt r 0 = r.head? := by
  unfold charAt; rw [dropB_zero]; rfl

theorem charAt_replicate {m : Char} (hm1 : m.utf8Size = 1) (k j : Nat) (t : List Char) (h : j < k) :
    charAt (List.replicate k m ++ t) j = some m := by
  have e : List.replicate k m = List.replicate j m ++ List.replicate (k - j) m := by
    rw [List.replicate_append_replicate]; congr 1; omega
  have hr := byteLen_replicate hm1 j
  have key := charAt_append_add (List.replicate j m) (List.replicate (k - j) m ++ t) 0
  rw [hr, Nat.add_zero, charAt_zero] at key
  rw [e, List.append_assoc, key]
  have : k - j = (k - j - 1) + 1 := by omega
  rw [this, List.replicate_succ]; rfl

theorem charAt_mem (a r : List Char) (j : Nat) (h : j < byteLen a) (c : Char)
    (hc : charAt (a ++ r) j = some c) : c ∈ a := by
  induction a generalizing j with
  | nil => simp [byteLen] at h
  | cons d a ih =>
    cases j with
    | zero => rw [charAt_zero] at hc; simp at hc; simp [hc]
    | succ j =>
      unfold charAt at hc
      rw [List.cons_append, dropB_cons _ _ _ (by omega)] at hc
      split at hc
      · have : c ∈ a := ih (j + 1 - d.utf8Size) (by simp [byteLen] at h; omega) hc
        simp [this]
      · simp at hc

/-- the byte before the end of a character `a` is the start of a character only if `a` is one
    byte wide, and then that character is `a` -/
theorem charAt_before (y : List Char) (a : Char) (r : List Char) (c : Char)
    (h : charAt (y ++ a :: r) (byteLen y + a.utf8Size - 1) = some c) : c = a := by
  have hp := Char.utf8Size_pos a
  have e : byteLen y + a.utf8Size - 1 = byteLen y + (a.utf8Size - 1) := by omega
  rw [e, charAt_append_add] at h
  by_cases h1 : a.utf8Size = 1
  · rw [h1, charAt_zero] at h; simp at h; exact h.symm
  · unfold charAt at h
    rw [dropB_cons _ _ _ (by omega), if_neg (by omega)] at h
    simp at h

/-- a maximal run of `l` markers starts at byte `s` of `src[..posMax]` -/
def IsRun (m : Char) (src : List Char) (posMax s l : Nat) : Prop :=
  0 < l ∧ s + l ≤ posMax ∧ (∀ i, s ≤ i → i < s + l → charAt src i = some m) ∧
    ¬ (s + l < posMax ∧ charAt src (s + l) = some m) ∧
    ¬ (0 < s ∧ charAt src (s - 1) = some m)

theorem Frame.isRun {m : Char} (hm1 : m.utf8Size = 1) {src : List Char}
    {pos p posMax matchEnd : Nat} {X0 X1 A T Z : List Char} {k : Nat}
    (f : Frame src pos p posMax matchEnd X0 X1 (A ++ List.replicate (k + 1) m ++ T) Z)
    (hA : m ∉ A) (hT : T.head? ≠ some m)
    (hM : (A ++ List.replicate (k + 1) m ++ T).head? ≠ some m) :
    IsRun m src posMax (matchEnd + byteLen A) (k + 1) := by
  obtain ⟨h1, h2, h3⟩ := f.hit_args hm1
  have hsrc : src = (X0 ++ X1 ++ A) ++ (List.replicate (k + 1) m ++ (T ++ Z)) := by rw [h1]; simp
  have hlen : byteLen (X0 ++ X1 ++ A) = matchEnd + byteLen A := by
    rw [byteLen_append, h2]
  refine ⟨by omega, by omega, ?_, ?_, ?_⟩
  · intro i hi1 hi2
    have e : i = byteLen (X0 ++ X1 ++ A) + (i - (matchEnd + byteLen A)) := by omega
    rw [hsrc, e, charAt_append_add]
    exact charAt_replicate hm1 _ _ _ (by omega)
  · rintro ⟨hlt, hc⟩
    have hsrc' : src = (X0 ++ X1 ++ A ++ List.replicate (k + 1) m) ++ (T ++ Z) := by rw [h1]; simp
    have hlen' : byteLen (X0 ++ X1 ++ A ++ List.replicate (k + 1) m) = matchEnd + byteLen A + (k + 1) := by
      rw [byteLen_append, hlen, byteLen_replicate hm1]
    have e : matchEnd + byteLen A + (k + 1) = byteLen (X0 ++ X1 ++ A ++ List.replicate (k + 1) m) + 0 := by omega
    rw [hsrc', e, charAt_append_add, charAt_zero] at hc
    cases T with
    | nil => simp [byteLen] at h3; omega
    | cons t T => simp at hc hT; exact hT hc
  · rintro ⟨_, hc⟩
    obtain ⟨ys, hys⟩ : ∃ ys, A = ys ++ [A.getLast (by
        intro e; subst e; simp [List.replicate_succ] at hM)] :=
      ⟨A.dropLast, (List.dropLast_concat_getLast _).symm⟩
    generalize A.getLast _ = a at hys
    have ha : a ≠ m := by
      intro e; apply hA; rw [hys, e]; simp
    have hsrc2 : src = (X0 ++ X1 ++ ys) ++ a :: (List.replicate (k + 1) m ++ (T ++ Z)) := by
      rw [hsrc, hys]; simp
    have hb : matchEnd + byteLen A - 1 = byteLen (X0 ++ X1 ++ ys) + a.utf8Size - 1 := by
      rw [byteLen_append, h2, hys, byteLen_append]; simp [byteLen]; omega
    rw [hb, hsrc2] at hc
    exact ha (charAt_before _ _ _ _ hc).symm


theorem Frame.content_slice {m : Char} {src : List Char}
    {pos p posMax matchEnd : Nat} {X0 X1 A T Z : List Char} {k : Nat}
    (f : Frame src pos p posMax matchEnd X0 X1 (A ++ List.replicate (k + 1) m ++ T) Z) :
    slice src p (matchEnd + byteLen A) = some (X1 ++ A) := by
  have := slice_mid X0 (X1 ++ A) (List.replicate (k + 1) m ++ T ++ Z)
  rw [f.hp, byteLen_append] at this
  have e : src = X0 ++ (X1 ++ A) ++ (List.replicate (k + 1) m ++ T ++ Z) := by rw [f.hsrc]; simp
  rw [e, f.hme]
  have e2 : p + byteLen X1 + byteLen A = p + (byteLen X1 + byteLen A) := by omega
  rw [e2]; exact this

theorem head_of_hit {m : Char} {A T : List Char} {k : Nat}
    (hM : (A ++ List.replicate (k + 1) m ++ T).head? ≠ some m) : A ≠ [] := by
  intro e; subst e; simp [List.replicate_succ] at hM

/-- the answer of the loop and the cache it leaves, from `hit` = (byte where the closer starts, text
    between opener and closer) and `mx` = the closer table afterwards -/
def scanResult (v : Variant) (pos p posMax n : Nat) (silent : Bool) (hit : Option (Nat × List Char))
    (mx : List Nat) (c : Cache) : Option Outcome × Cache :=
  match hit with
  | some (ms, R) =>
    (some ⟨ms + n - pos, if silent = true then none else some (nodeOf pos p ms (ms + n) n R)⟩,
      { c with max := mx })
  | none => (none, markInside v pos p (complete v pos posMax { c with max := mx }))

/-- what `hit` and `upd` of `scan_spec` say about the maximal runs from `matchEnd` on: the closer
    is such a run of the opener's length; without a closer no such run has that length, and every
    one of them is recorded in the table (monotone variant) -/
def ScanFacts (v : Variant) (m : Char) (src : List Char) (p posMax n matchEnd : Nat)
    (hit : Option (Nat × List Char)) (upd : List Nat → List Nat) : Prop :=
  match hit with
  | some (ms, R) => matchEnd ≤ ms ∧ IsRun m src posMax ms n ∧ slice src p ms = some R
  | none => ∀ s l, IsRun m src posMax s l → matchEnd ≤ s →
      l ≠ n ∧ (v.monotone = true → ∀ mx, s ≤ (upd mx).getD l 0)

/-- **the loop in a frame**: it never panics, and what it answers (`hit`) and does to the closer
    table (`upd`) is the same in both modes and for every cache; the table only grows in the
    monotone variant -/
theorem scan_spec (v : Variant) (m : Char) (hm1 : m.utf8Size = 1) (src : List Char)
    (pos p posMax n : Nat) (X0 Z : List Char) :
    ∀ (M X1 : List Char) (matchEnd : Nat), Frame src pos p posMax matchEnd X0 X1 M Z →
      ∃ (hit : Option (Nat × List Char)) (upd : List Nat → List Nat),
        (∀ silent c, scan v m src pos posMax n p silent matchEnd c =
          .ok (scanResult v pos p posMax n silent hit (upd c.max) c)) ∧
        (v.monotone = true → ∀ mx i, mx.getD i 0 ≤ (upd mx).getD i 0) ∧
        (M.head? ≠ some m → ScanFacts v m src p posMax n matchEnd hit upd) := by
  intro M
  induction M using runs_induction (m := m) with
  | nomark M hM =>
    intro X1 matchEnd f
    refine ⟨none, id, fun silent c => f.scan_end v hM n silent c, fun _ _ _ => Nat.le_refl _, fun _ => ?_⟩
    -- a run from `matchEnd` on would put a marker into `M`
    intro s l ⟨hl, hle, hall, _, _⟩ hs
    exfalso
    have hc := hall s (Nat.le_refl _) (by omega)
    have e : s = byteLen (X0 ++ X1) + (s - matchEnd) := by have := f.len; omega
    have hsrc : src = (X0 ++ X1) ++ (M ++ Z) := by rw [f.hsrc]; simp
    rw [hsrc, e, charAt_append_add] at hc
    exact hM (charAt_mem M Z _ (by have := f.hpm; omega) m hc)
  | hit A k T hA hT ih =>
    intro X1 matchEnd f
    by_cases hk : k + 1 = n
    · subst hk
      refine ⟨some (matchEnd + byteLen A, X1 ++ A), id, fun silent c => ?_, fun _ _ _ => Nat.le_refl _,
        fun hM => ⟨Nat.le_add_right _ _, f.isRun hm1 hA hT hM, f.content_slice⟩⟩
      rw [f.scan_step v hm1 hA hT, if_pos rfl]; rfl
    · obtain ⟨hit, upd, hrun, hmono, hfacts⟩ := ih _ _ (f.next hm1)
      refine ⟨hit, fun mx => upd (recorded v.monotone mx (k + 1) (matchEnd + byteLen A)),
        fun silent c => ?_, fun hv mx i => ?_, fun hM => ?_⟩
      · rw [f.scan_step v hm1 hA hT, if_neg hk, hrun]
        cases hit <;> rfl
      · rw [hv]
        exact Nat.le_trans ((recorded_mono _ _ _).1 i) (hmono hv _ i)
      · have hf := hfacts hT
        cases hit with
        | some x => exact ⟨by have := hf.1; omega, hf.2⟩
        | none =>
          -- a run from `matchEnd` on lies in `A` (impossible), is the run stepped over, or lies behind it
          intro s l hr hs
          obtain ⟨hl, hle, hall, hright, hleft⟩ := hr
          obtain ⟨_, _, fall, fright, _⟩ := f.isRun hm1 hA hT hM
          have h2 := f.len
          have hsrc : src = (X0 ++ X1) ++ (A ++ (List.replicate (k + 1) m ++ T ++ Z)) := by
            rw [f.hsrc]; simp
          by_cases c1 : s < matchEnd + byteLen A
          · exfalso
            have hc := hall s (Nat.le_refl _) (by omega)
            have e : s = byteLen (X0 ++ X1) + (s - matchEnd) := by omega
            rw [hsrc, e, charAt_append_add] at hc
            exact hA (charAt_mem A _ _ (by omega) m hc)
          · by_cases c2 : s = matchEnd + byteLen A
            · have hlk : l = k + 1 := by
                by_cases c3 : l < k + 1
                · exfalso; exact hright ⟨by omega, fall (s + l) (by omega) (by omega)⟩
                · by_cases c4 : k + 1 < l
                  · exfalso
                    exact fright ⟨by omega, hall (matchEnd + byteLen A + (k + 1)) (by omega) (by omega)⟩
                  · omega
              subst hlk
              refine ⟨hk, fun hv mx => ?_⟩
              show s ≤ (upd (recorded v.monotone mx (k + 1) (matchEnd + byteLen A))).getD (k + 1) 0
              have h1 := hmono hv (recorded v.monotone mx (k + 1) (matchEnd + byteLen A)) (k + 1)
              rw [hv] at h1 ⊢
              have := (recorded_mono mx (k + 1) (matchEnd + byteLen A)).2
              omega
            · by_cases c5 : s < matchEnd + byteLen A + (k + 1)
              · exfalso
                exact hleft ⟨by omega, fall (s - 1) (by omega) (by omega)⟩
              · obtain ⟨g1, g2⟩ := hf s l ⟨hl, hle, hall, hright, hleft⟩ (by omega)
                exact ⟨g1, fun hv mx => g2 hv _⟩

theorem scan_total (v : Variant) (m : Char) (hm1 : m.utf8Size = 1) (src : List Char)
    (pos p posMax n : Nat) (silent : Bool) (X0 Z : List Char) :
    ∀ (M X1 : List Char) (matchEnd : Nat) (c : Cache),
      Frame src pos p posMax matchEnd X0 X1 M Z →
      ∃ r, scan v m src pos posMax n p silent matchEnd c = .ok r := by
  intro M X1 matchEnd c f
  obtain ⟨hit, upd, h, _⟩ := scan_spec v m hm1 src pos p posMax n X0 Z M X1 matchEnd f
  exact ⟨_, h silent c⟩

/-- the loop found a closer: it is a maximal run of the opener's length, the verdict and the node
    are as computed from it, and only the table changed (growing, in the monotone variant) -/
theorem scan_some (v : Variant) (m : Char) (hm1 : m.utf8Size = 1) (src : List Char)
    (pos p posMax n : Nat) (silent : Bool) (X0 Z : List Char) :
    ∀ (M X1 : List Char) (matchEnd : Nat) (c : Cache) (o : Outcome) (c' : Cache),
      Frame src pos p posMax matchEnd X0 X1 M Z → M.head? ≠ some m →
      scan v m src pos posMax n p silent matchEnd c = .ok (some o, c') →
      ∃ ms R, matchEnd ≤ ms ∧ IsRun m src posMax ms n ∧ slice src p ms = some R ∧
        o = ⟨ms + n - pos, if silent = true then none else some (nodeOf pos p ms (ms + n) n R)⟩ ∧
        c' = { c with max := c'.max } ∧
        (v.monotone = true → ∀ i, c.max.getD i 0 ≤ c'.max.getD i 0) := by
  intro M X1 matchEnd c o c' f hM h
  obtain ⟨hit, upd, hrun, hmono, hfacts⟩ := scan_spec v m hm1 src pos p posMax n X0 Z M X1 matchEnd f
  rw [hrun] at h
  cases hit with
  | none => cases h
  | some x =>
    obtain ⟨ms, R⟩ := x
    cases h
    obtain ⟨h1, h2, h3⟩ := hfacts hM
    exact ⟨ms, R, h1, h2, h3, rfl, rfl, fun hv i => hmono hv _ i⟩

/-- the loop ran to the end: no maximal run from `match_end` on has the opener's length, every
    one of them is recorded in the table (monotone variant), and the cache is updated as in
    `complete` / `markInside` -/
theorem scan_none (v : Variant) (m : Char) (hm1 : m.utf8Size = 1) (src : List Char)
    (pos p posMax n : Nat) (silent : Bool) (X0 Z : List Char) :
    ∀ (M X1 : List Char) (matchEnd : Nat) (c c' : Cache),
      Frame src pos p posMax matchEnd X0 X1 M Z → M.head? ≠ some m →
      scan v m src pos posMax n p silent matchEnd c = .ok (none, c') →
      ∃ mx, c' = markInside v pos p (complete v pos posMax { c with max := mx }) ∧
        (v.monotone = true → ∀ i, c.max.getD i 0 ≤ mx.getD i 0) ∧
        (∀ s l, IsRun m src posMax s l → matchEnd ≤ s →
          l ≠ n ∧ (v.monotone = true → s ≤ mx.getD l 0)) := by
  intro M X1 matchEnd c c' f hM h
  obtain ⟨hit, upd, hrun, hmono, hfacts⟩ := scan_spec v m hm1 src pos p posMax n X0 Z M X1 matchEnd f
  rw [hrun] at h
  cases hit with
  | some x => cases h
  | none =>
    cases h
    exact ⟨upd c.max, rfl, fun hv i => hmono hv _ i, fun s l hr hs =>
      ⟨(hfacts hM s l hr hs).1, fun hv => (hfacts hM s l hr hs).2 hv _⟩⟩

theorem scan_verdict_indep (v : Variant) (m : Char) (hm1 : m.utf8Size = 1) (src : List Char)
    (pos p posMax n : Nat) (silent : Bool) (X0 Z : List Char) :
    ∀ (M X1 : List Char) (matchEnd : Nat) (c d : Cache),
      Frame src pos p posMax matchEnd X0 X1 M Z →
      (scan v m src pos posMax n p silent matchEnd c).map Prod.fst =
        (scan v m src pos posMax n p silent matchEnd d).map Prod.fst := by
  intro M X1 matchEnd c d f
  obtain ⟨hit, upd, h, _⟩ := scan_spec v m hm1 src pos p posMax n X0 Z M X1 matchEnd f
  rw [h, h]; cases hit <;> rfl

/-! ## the rule once the first character is known -/

theorem run_marker (v : Variant) (m : Char) {src : List Char} {pos posMax : Nat} (prev silent : Bool)
    (c : Cache) {rest : List Char} (h : slice src pos posMax = some (m :: rest)) :
    run v m src pos posMax prev silent c =
      if v.inside = false ∧ prev = true then .ok (none, c)
      else if v.inside = true ∧ c.insideFailed.contains pos = true then .ok (none, c)
      else if consultable v pos posMax c = true then
        match lookup v.checked c.max (1 + runLen m rest) with
        | .error e => .error e
        | .ok x =>
          if x ≤ pos then .ok (none, markInside v pos (pos + 1 + runLen m rest) c)
          else scan v m src pos posMax (1 + runLen m rest) (pos + 1 + runLen m rest)
                 silent (pos + 1 + runLen m rest) c
      else scan v m src pos posMax (1 + runLen m rest) (pos + 1 + runLen m rest)
             silent (pos + 1 + runLen m rest) c := by
  unfold run
  simp only [h, ne_eq, not_true_eq_false, ite_false]
  rfl

theorem run_other (v : Variant) (m : Char) {src : List Char} {pos posMax : Nat} (prev silent : Bool)
    (c : Cache) {ch : Char} {rest : List Char} (h : slice src pos posMax = some (ch :: rest))
    (hch : ch ≠ m) : run v m src pos posMax prev silent c = .ok (none, c) := by
  unfold run
  simp only [h, hch, ne_eq, not_false_eq_true, ite_true]

/-- **how a call on a window that starts with the marker evaluates**, the same in both modes: two
    ways to answer `None` at once, the closer table consulted (its unchecked read may panic, or it
    answers `None`), or the loop -/
inductive Branch (v : Variant) (m : Char) (src : List Char) (pos posMax : Nat) (prev : Bool)
    (c : Cache) (rest : List Char) : Prop
  | guard : v.inside = false → prev = true →
      (∀ silent, run v m src pos posMax prev silent c = .ok (none, c)) →
      Branch v m src pos posMax prev c rest
  | inside : v.inside = true → c.insideFailed.contains pos = true →
      (∀ silent, run v m src pos posMax prev silent c = .ok (none, c)) →
      Branch v m src pos posMax prev c rest
  | tablePanic (e : Panic) : consultable v pos posMax c = true →
      lookup v.checked c.max (1 + runLen m rest) = .error e →
      (∀ silent, run v m src pos posMax prev silent c = .error e) →
      Branch v m src pos posMax prev c rest
  | table (x : Nat) : ¬ (v.inside = false ∧ prev = true) →
      ¬ (v.inside = true ∧ c.insideFailed.contains pos = true) →
      consultable v pos posMax c = true → lookup v.checked c.max (1 + runLen m rest) = .ok x →
      x ≤ pos →
      (∀ silent, run v m src pos posMax prev silent c =
        .ok (none, markInside v pos (pos + 1 + runLen m rest) c)) →
      Branch v m src pos posMax prev c rest
  | loop : ¬ (v.inside = false ∧ prev = true) →
      ¬ (v.inside = true ∧ c.insideFailed.contains pos = true) →
      (∀ silent, run v m src pos posMax prev silent c =
        scan v m src pos posMax (1 + runLen m rest) (pos + 1 + runLen m rest) silent
          (pos + 1 + runLen m rest) c) →
      Branch v m src pos posMax prev c rest

theorem run_branch (v : Variant) (m : Char) {src : List Char} {pos posMax : Nat} (prev : Bool)
    (c : Cache) {rest : List Char} (hu : slice src pos posMax = some (m :: rest)) :
    Branch v m src pos posMax prev c rest := by
  by_cases hg : v.inside = false ∧ prev = true
  · exact .guard hg.1 hg.2 fun silent => by rw [run_marker v m prev silent c hu, if_pos hg]
  by_cases hi : v.inside = true ∧ c.insideFailed.contains pos = true
  · exact .inside hi.1 hi.2 fun silent => by rw [run_marker v m prev silent c hu, if_neg hg, if_pos hi]
  by_cases hc : consultable v pos posMax c = true
  · cases hl : lookup v.checked c.max (1 + runLen m rest) with
    | error e =>
      exact .tablePanic e hc hl fun silent => by
        rw [run_marker v m prev silent c hu, if_neg hg, if_neg hi, if_pos hc, hl]
    | ok x =>
      by_cases hx : x ≤ pos
      · exact .table x hg hi hc hl hx fun silent => by
          rw [run_marker v m prev silent c hu, if_neg hg, if_neg hi, if_pos hc, hl]
          exact if_pos hx
      · exact .loop hg hi fun silent => by
          rw [run_marker v m prev silent c hu, if_neg hg, if_neg hi, if_pos hc, hl]
          exact if_neg hx
  · exact .loop hg hi fun silent => by
      rw [run_marker v m prev silent c hu, if_neg hg, if_neg hi, if_neg hc]

theorem run_eq_scan (v : Variant) (m : Char) {src : List Char} {pos posMax : Nat} (prev silent : Bool)
    (c : Cache) {rest : List Char} (hu : slice src pos posMax = some (m :: rest))
    (hg : ¬ (v.inside = false ∧ prev = true))
    (hi : ¬ (v.inside = true ∧ c.insideFailed.contains pos = true))
    (hc : consultable v pos posMax c = false) :
    run v m src pos posMax prev silent c =
      scan v m src pos posMax (1 + runLen m rest) (pos + 1 + runLen m rest) silent
        (pos + 1 + runLen m rest) c := by
  rw [run_marker v m prev silent c hu, if_neg hg, if_neg hi, if_neg (by rw [hc]; exact Bool.false_ne_true)]

theorem boundary_slice {src : List Char} {a b : Nat} (ha : isBoundary src a = true)
    (hb : isBoundary src b = true) (hab : a ≤ b) : ∃ u, slice src a b = some u := by
  rw [isBoundary_eq_lines] at ha hb
  obtain ⟨u, hu⟩ := Lines.slice_ok_of_boundaries hab ha hb
  exact ⟨u, slice_eq_some_iff_lines.mpr hu⟩

theorem slice_boundary {src : List Char} {a b : Nat} {u : List Char} (h : slice src a b = some u) :
    isBoundary src a = true ∧ isBoundary src b = true := by
  rw [isBoundary_eq_lines, isBoundary_eq_lines]
  exact (Lines.slice_ok_bounds (slice_eq_some_iff_lines.mp h)).2.2

theorem isBoundary_append (x r : List Char) : isBoundary (x ++ r) (byteLen x) = true := by
  unfold isBoundary; rw [dropB_append]; rfl

/-- entry into the loop: after the opener run `mᵏ⁺¹` at `pos` the scan starts in a frame whose
    rest `T` does not begin with the marker -/
theorem run_frame {m : Char} (hm1 : m.utf8Size = 1) {src : List Char} {pos posMax : Nat}
    {rest : List Char} (h : slice src pos posMax = some (m :: rest)) :
    ∃ x T Z, rest = List.replicate (runLen m rest) m ++ T ∧ T.head? ≠ some m ∧ byteLen x = pos ∧
      src = x ++ List.replicate (runLen m rest + 1) m ++ T ++ Z ∧
      Frame src pos (pos + 1 + runLen m rest) posMax (pos + 1 + runLen m rest)
        (x ++ List.replicate (runLen m rest + 1) m) [] T Z := by
  obtain ⟨x, Z, hs, hx, hu⟩ := slice_some h
  obtain ⟨T, hT, hh⟩ := runLen_split m rest
  have hr := byteLen_replicate hm1
  have e : src = x ++ List.replicate (runLen m rest + 1) m ++ T ++ Z := by
    rw [hs, List.replicate_succ]
    conv => lhs; rw [hT]
    simp
  refine ⟨x, T, Z, hT, hh, hx, e, e ▸ ?_, ?_, ?_, ?_, ?_⟩
  · simp
  · rw [byteLen_append, hr, hx]; omega
  · simp [byteLen]
  · rw [← hu, hT]; simp only [byteLen, byteLen_append, hr, hm1]
    rw [← hT]; omega
  · omega

/-- **C01 (code span rule).** With the bounds-aware table read, for EVERY source, EVERY cache
    value (reachable or not) and every invocation with `pos < pos_max` on char boundaries the
    rule returns normally: no slice off a boundary, no `unwrap` on an empty iterator, no table
    index out of range, no subtraction underflow, no failed `debug_assert!`; and the loop
    terminates (`scan` is defined by well-founded recursion on `pos_max - match_end`). -/
theorem codepair_no_panic (v : Variant) (hv : v.checked = true) (m : Char) (hm1 : m.utf8Size = 1)
    (src : List Char) (pos posMax : Nat) (prev silent : Bool) (c : Cache)
    (hb1 : isBoundary src pos = true) (hb2 : isBoundary src posMax = true) (hlt : pos < posMax) :
    ∃ r, run v m src pos posMax prev silent c = .ok r := by
  obtain ⟨u, hu⟩ := boundary_slice hb1 hb2 (Nat.le_of_lt hlt)
  obtain ⟨_, _, _, hx, hul⟩ := slice_some hu
  cases u with
  | nil => simp [byteLen] at hul; omega
  | cons ch rest =>
    by_cases hch : ch = m
    · subst hch
      cases run_branch v ch prev c hu with
      | guard _ _ he => exact ⟨_, he silent⟩
      | inside _ _ he => exact ⟨_, he silent⟩
      | table _ _ _ _ _ _ he => exact ⟨_, he silent⟩
      | tablePanic e _ hl _ => simp [lookup, hv] at hl
      | loop _ _ he =>
        obtain ⟨x, T, Z, _, _, _, _, f⟩ := run_frame hm1 hu
        rw [he]
        exact scan_total v ch hm1 src pos _ posMax _ silent _ Z T [] _ c f
    · exact ⟨_, run_other v m prev silent c hu hch⟩

/-- a call the parser may make: `pos < pos_max`, both on char boundaries of `src` -/
def Call.Valid (src : List Char) (k : Call) : Prop :=
  isBoundary src k.pos = true ∧ isBoundary src k.posMax = true ∧ k.pos < k.posMax

/-- **C01.** Any sequence of valid calls — any positions, any mixture of `pos_max` values,
    silent or real, in any order — against one cache, from ANY initial cache: no call panics. -/
theorem runSeq_no_panic (v : Variant) (hv : v.checked = true) (m : Char) (hm1 : m.utf8Size = 1)
    (src : List Char) (calls : List Call) (hc : ∀ k ∈ calls, k.Valid src) (c : Cache) :
    ∃ r, runSeq v m src calls c = .ok r := by
  induction calls generalizing c with
  | nil => exact ⟨_, rfl⟩
  | cons k ks ih =>
    obtain ⟨h1, h2, h3⟩ := hc k (by simp)
    obtain ⟨⟨r, c'⟩, hr⟩ := codepair_no_panic v hv m hm1 src k.pos k.posMax k.prevIsMarker k.silent c h1 h2 h3
    obtain ⟨⟨rs, c''⟩, hrs⟩ := ih (fun k' hk' => hc k' (by simp [hk'])) c'
    exact ⟨(r :: rs, c''), by simp [runSeq, runCall, hr, hrs]⟩


/-- forget the node: verdict (`None` / `Some(len)`) and cache -/
def strip (r : Option Outcome × Cache) : Option Nat × Cache := (r.1.map (·.len), r.2)

/-- **C16 (code span rule).** From the same arguments and the same cache, look-ahead mode and
    real mode give the same verdict, the same extent and leave the same cache — for every source,
    every cache, every position and `pos_max` (if the call panics, it panics in both modes):
    `silent` only suppresses the construction of the node. Holds for every variant of the rule. -/
theorem codepair_silent_real (v : Variant) (m : Char) (hm1 : m.utf8Size = 1) (src : List Char)
    (pos posMax : Nat) (prev : Bool) (c : Cache) :
    (run v m src pos posMax prev true c).map strip =
      (run v m src pos posMax prev false c).map strip := by
  cases hu : slice src pos posMax with
  | none => unfold run; rw [hu]
  | some u =>
    cases u with
    | nil => unfold run; rw [hu]
    | cons ch rest =>
      by_cases hch : ch = m
      · subst hch
        cases run_branch v ch prev c hu with
        | guard _ _ he => rw [he, he]
        | inside _ _ he => rw [he, he]
        | tablePanic _ _ _ he => rw [he, he]
        | table _ _ _ _ _ _ he => rw [he, he]
        | loop _ _ he =>
          -- where the loop runs, the two modes differ in the node only
          obtain ⟨x, T, Z, _, _, _, _, f⟩ := run_frame hm1 hu
          obtain ⟨hit, upd, hs, _⟩ :=
            scan_spec v ch hm1 src pos _ posMax (1 + runLen ch rest) _ Z T [] _ f
          rw [he, he, hs, hs]; cases hit <;> rfl
      · rw [run_other v m prev true c hu hch, run_other v m prev false c hu hch]

theorem run_ok_window {v : Variant} {m : Char} {src : List Char} {pos posMax : Nat} {prev silent : Bool}
    {c : Cache} {r : Option Outcome} {c' : Cache}
    (h : run v m src pos posMax prev silent c = .ok (r, c')) :
    ∃ ch rest, slice src pos posMax = some (ch :: rest) ∧ (ch = m ∨ (ch ≠ m ∧ r = none ∧ c' = c)) := by
  cases hu : slice src pos posMax with
  | none => simp [run, hu] at h
  | some u =>
    cases u with
    | nil => simp [run, hu] at h
    | cons ch rest =>
      refine ⟨ch, rest, rfl, ?_⟩
      by_cases hch : ch = m
      · exact .inl hch
      · rw [run_other v m prev silent c hu hch] at h
        cases h; exact .inr ⟨hch, rfl, rfl⟩

theorem opener_chars {m : Char} (hm1 : m.utf8Size = 1) {src x T Z : List Char} {k pos : Nat}
    (hsrc : src = x ++ List.replicate (k + 1) m ++ T ++ Z) (hx : byteLen x = pos) :
    ∀ i, pos ≤ i → i < pos + (k + 1) → charAt src i = some m := by
  intro i h1 h2
  have e : i = byteLen x + (i - pos) := by omega
  rw [hsrc, e, List.append_assoc, List.append_assoc, charAt_append_add]
  exact charAt_replicate hm1 _ _ _ (by omega)

theorem opener_marks {m : Char} (hm1 : m.utf8Size = 1) {src : List Char} {pos posMax : Nat}
    {rest : List Char} (hu : slice src pos posMax = some (m :: rest)) :
    ∀ i, pos ≤ i → i < pos + 1 + runLen m rest → charAt src i = some m := by
  obtain ⟨x, T, Z, _, _, hx, hsrc, _⟩ := run_frame hm1 hu
  intro i h1 h2
  exact opener_chars hm1 hsrc hx i h1 (by omega)

/-- **what a successful call answered and did to the cache**: it declined
    without touching the cache (another character, the old guard, a remembered position); the closer
    table answered; the loop found the closer at `ms`; the loop ran to the end.  In the last two cases
    `mx` is the closer table the loop leaves. -/
inductive Effect (v : Variant) (m : Char) (src : List Char) (pos posMax : Nat) (silent : Bool)
    (c : Cache) : Option Outcome → Cache → Prop
  | declined : (∀ rest, slice src pos posMax = some (m :: rest) →
        (v.inside = false ∨ c.insideFailed.contains pos = true)) →
      Effect v m src pos posMax silent c none c
  | table (rest : List Char) : slice src pos posMax = some (m :: rest) →
      ¬ (v.inside = true ∧ c.insideFailed.contains pos = true) →
      Effect v m src pos posMax silent c none (markInside v pos (pos + 1 + runLen m rest) c)
  | hit (rest : List Char) (ms : Nat) (R : List Char) (mx : List Nat) :
      slice src pos posMax = some (m :: rest) →
      ¬ (v.inside = true ∧ c.insideFailed.contains pos = true) →
      pos + 1 + runLen m rest ≤ ms → IsRun m src posMax ms (1 + runLen m rest) →
      slice src (pos + 1 + runLen m rest) ms = some R →
      (v.monotone = true → ∀ i, c.max.getD i 0 ≤ mx.getD i 0) →
      Effect v m src pos posMax silent c
        (some ⟨ms + (1 + runLen m rest) - pos, if silent = true then none else
          some (nodeOf pos (pos + 1 + runLen m rest) ms (ms + (1 + runLen m rest)) (1 + runLen m rest) R)⟩)
        { c with max := mx }
  | miss (rest : List Char) (mx : List Nat) : slice src pos posMax = some (m :: rest) →
      ¬ (v.inside = true ∧ c.insideFailed.contains pos = true) →
      (v.monotone = true → ∀ i, c.max.getD i 0 ≤ mx.getD i 0) →
      (∀ s l, IsRun m src posMax s l → pos + 1 + runLen m rest ≤ s →
        l ≠ 1 + runLen m rest ∧ (v.monotone = true → s ≤ mx.getD l 0)) →
      Effect v m src pos posMax silent c none
        (markInside v pos (pos + 1 + runLen m rest) (complete v pos posMax { c with max := mx }))

theorem run_effect {v : Variant} {m : Char} (hm1 : m.utf8Size = 1) {src : List Char}
    {pos posMax : Nat} {prev silent : Bool} {c : Cache} {r : Option Outcome} {c' : Cache}
    (h : run v m src pos posMax prev silent c = .ok (r, c')) : Effect v m src pos posMax silent c r c' := by
  obtain ⟨ch, rest, hu, hch | ⟨hch, rfl, rfl⟩⟩ := run_ok_window h
  case inr => exact .declined fun rest' hu' => by rw [hu] at hu'; cases hu'; exact absurd rfl hch
  subst hch
  cases run_branch v ch prev c hu with
  | guard h1 _ he => rw [he] at h; cases h; exact .declined fun _ _ => .inl h1
  | inside _ h2 he => rw [he] at h; cases h; exact .declined fun _ _ => .inr h2
  | tablePanic _ _ _ he => rw [he] at h; cases h
  | table x _ hni _ _ _ he => rw [he] at h; cases h; exact .table rest hu hni
  | loop _ hni he =>
    have hs := h
    rw [he] at hs
    obtain ⟨x, T, Z, _, hT, _, _, f⟩ := run_frame hm1 hu
    obtain ⟨hit, upd, hrun, hmono, hfacts⟩ :=
      scan_spec v ch hm1 src pos _ posMax (1 + runLen ch rest) _ Z T [] _ f
    rw [hrun] at hs
    have hf := hfacts hT
    cases hit with
    | some y =>
      obtain ⟨ms, R⟩ := y
      cases hs
      exact .hit rest ms R _ hu hni hf.1 hf.2.1 hf.2.2 (fun hv i => hmono hv _ i)
    | none =>
      cases hs
      exact .miss rest _ hu hni (fun hv i => hmono hv _ i)
        (fun s l hr hs => ⟨(hf s l hr hs).1, fun hv => (hf s l hr hs).2 hv _⟩)

theorem run_some {v : Variant} {m : Char} (hm1 : m.utf8Size = 1) {src : List Char}
    {pos posMax : Nat} {prev silent : Bool} {c : Cache} {o : Outcome} {c' : Cache}
    (h : run v m src pos posMax prev silent c = .ok (some o, c')) :
    ∃ rest ms R, slice src pos posMax = some (m :: rest) ∧ pos + 1 + runLen m rest ≤ ms ∧
      IsRun m src posMax ms (1 + runLen m rest) ∧
      slice src (pos + 1 + runLen m rest) ms = some R ∧
      o = ⟨ms + (1 + runLen m rest) - pos, if silent = true then none else
        some (nodeOf pos (pos + 1 + runLen m rest) ms (ms + (1 + runLen m rest)) (1 + runLen m rest) R)⟩ := by
  generalize hr : some o = r at h
  cases run_effect hm1 h with
  | declined _ => cases hr
  | table _ _ _ => cases hr
  | miss _ _ _ _ _ _ => cases hr
  | hit rest ms R mx hu _ hms hrun hsl _ => cases hr; exact ⟨rest, ms, R, hu, hms, hrun, hsl, rfl⟩

theorem charAt_boundary {src : List Char} {i : Nat} {ch : Char} (h : charAt src i = some ch) :
    isBoundary src (i + ch.utf8Size) = true := by
  unfold charAt at h
  cases hd : dropB src i with
  | none => simp [hd] at h
  | some t =>
    cases t with
    | nil => simp [hd] at h
    | cons d t =>
      simp [hd] at h; subst h
      obtain ⟨x, hx, hxl⟩ := dropB_some hd
      have : i + d.utf8Size = byteLen (x ++ [d]) := by simp [byteLen_append, byteLen, hxl]
      rw [this, hx, show x ++ d :: t = (x ++ [d]) ++ t by simp]
      exact isBoundary_append _ _

/-- **C01 (progress).** `Some(len)` ⇒ the construct spans at least the opener and the closer
    (`len ≥ 2`), stays inside `pos_max`, and `pos + len` is a char boundary — so the inline loop's
    measure `pos_max - pos` decreases and the next slice is legal. Every variant, every cache. -/
theorem codepair_progress (v : Variant) (m : Char) (hm1 : m.utf8Size = 1) (src : List Char)
    (pos posMax : Nat) (prev silent : Bool) (c : Cache) (o : Outcome) (c' : Cache)
    (h : run v m src pos posMax prev silent c = .ok (some o, c')) :
    2 ≤ o.len ∧ pos + o.len ≤ posMax ∧ isBoundary src (pos + o.len) = true := by
  obtain ⟨rest, ms, R, _, hms, ⟨hl, hle, hall, _, _⟩, _, rfl⟩ := run_some hm1 h
  have hb := charAt_boundary (hall (ms + (1 + runLen m rest) - 1) (by omega) (by omega))
  rw [hm1] at hb
  simp only
  refine ⟨by omega, by omega, ?_⟩
  have e : pos + (ms + (1 + runLen m rest) - pos) = ms + (1 + runLen m rest) - 1 + 1 := by omega
  rw [e]; exact hb

/-! ## the closer table is sound -/

/-- **Cache invariant.** Once `scanned`, every maximal marker run — maximal as seen with
    `pos_max = scanned_to` — that starts after `scanned_from` is recorded: the entry for its
    length is at or beyond its start. -/
def CacheInv (m : Char) (src : List Char) (c : Cache) : Prop :=
  c.scanned = true →
    ∀ s l, IsRun m src c.scannedTo s l → c.scannedFrom < s → s ≤ c.max.getD l 0

/-- `pos_max = q` does not cut a marker run in two -/
def NoCut (m : Char) (src : List Char) (q : Nat) : Prop :=
  ¬ (0 < q ∧ charAt src (q - 1) = some m ∧ charAt src q = some m)

theorem CacheInv.empty (m : Char) (src : List Char) : CacheInv m src Cache.empty := by
  intro h; cases h

theorem CacheInv.of_eq {m : Char} {src : List Char} {c c' : Cache} (h : CacheInv m src c)
    (h1 : c'.scanned = c.scanned) (h2 : c'.scannedFrom = c.scannedFrom)
    (h3 : c'.scannedTo = c.scannedTo) (h4 : ∀ i, c.max.getD i 0 ≤ c'.max.getD i 0) :
    CacheInv m src c' := by
  intro hs s l hr hf
  rw [h3] at hr; rw [h2] at hf
  exact Nat.le_trans (h (h1 ▸ hs) s l hr hf) (h4 l)

theorem markInside_fields (v : Variant) (a b : Nat) (c : Cache) :
    (markInside v a b c).scanned = c.scanned ∧ (markInside v a b c).scannedFrom = c.scannedFrom ∧
    (markInside v a b c).scannedTo = c.scannedTo ∧ (markInside v a b c).max = c.max := by
  unfold markInside; split <;> simp

theorem CacheInv.markInside {m : Char} {src : List Char} {c : Cache} (h : CacheInv m src c)
    (v : Variant) (a b : Nat) : CacheInv m src (markInside v a b c) := by
  obtain ⟨h1, h2, h3, h4⟩ := markInside_fields v a b c
  exact h.of_eq h1 h2 h3 (fun i => by rw [h4]; exact Nat.le_refl _)

/-- **The invariant is preserved by every call**: any position, any `pos_max`, silent or real,
    from any cache satisfying it (in particular along every call sequence from the empty cache). -/
theorem cacheInv_run (v : Variant) (hr : v.ranged = true) (hmo : v.monotone = true) (m : Char)
    (hm1 : m.utf8Size = 1) (src : List Char) (pos posMax : Nat) (prev silent : Bool) (c : Cache)
    (r : Option Outcome) (c' : Cache) (hinv : CacheInv m src c)
    (h : run v m src pos posMax prev silent c = .ok (r, c')) : CacheInv m src c' := by
  cases run_effect hm1 h with
  | declined _ => exact hinv
  | table rest _ _ => exact hinv.markInside _ _ _
  | hit rest ms R mx _ _ _ _ _ hmono => exact hinv.of_eq rfl rfl rfl (hmono hmo)
  | miss rest mx hu _ hmono hruns =>
    apply CacheInv.markInside
    unfold complete
    rw [if_pos hr]
    split
    · -- a run behind `scanned_from = pos` starts behind the opener run, where the loop has been
      intro _ s l hrun hf
      simp only at hrun hf
      by_cases hs1 : pos + 1 + runLen m rest ≤ s
      · exact (hruns s l hrun hs1).2 hmo
      · exact absurd ⟨by omega, opener_marks hm1 hu (s - 1) (by omega) (by omega)⟩ hrun.2.2.2.2
    · exact hinv.of_eq rfl rfl rfl (hmono hmo)

/-- … hence by every call sequence -/
theorem cacheInv_runSeq (v : Variant) (hr : v.ranged = true) (hmo : v.monotone = true) (m : Char)
    (hm1 : m.utf8Size = 1) (src : List Char) (calls : List Call) (c : Cache)
    (rs : List (Option Outcome)) (c' : Cache) (hinv : CacheInv m src c)
    (h : runSeq v m src calls c = .ok (rs, c')) : CacheInv m src c' := by
  induction calls generalizing c rs with
  | nil => simp [runSeq] at h; rw [← h.2]; exact hinv
  | cons k ks ih =>
    unfold runSeq runCall at h
    cases h1 : run v m src k.pos k.posMax k.prevIsMarker k.silent c with
    | error e => simp [h1] at h
    | ok x =>
      obtain ⟨r, c1⟩ := x
      simp only [h1] at h
      cases h2 : runSeq v m src ks c1 with
      | error e => simp [h2] at h
      | ok y =>
        obtain ⟨rs', c2⟩ := y
        simp only [h2, Except.ok.injEq, Prod.mk.injEq] at h
        obtain ⟨_, hc⟩ := h
        subst hc
        exact ih c1 rs' (cacheInv_run v hr hmo m hm1 src _ _ _ _ c r c1 hinv h1) h2

theorem IsRun.extend {m : Char} {src : List Char} {q q' s l : Nat} (h : IsRun m src q s l)
    (hq : q ≤ q') (hcut : q = q' ∨ NoCut m src q) : IsRun m src q' s l := by
  obtain ⟨hl, hle, hall, hright, hleft⟩ := h
  refine ⟨hl, by omega, hall, ?_, hleft⟩
  rintro ⟨h1, h2⟩
  by_cases hlt : s + l < q
  · exact hright ⟨hlt, h2⟩
  · have e : s + l = q := by omega
    rcases hcut with hcut | hcut
    · omega
    · apply hcut
      refine ⟨by omega, ?_, e ▸ h2⟩
      exact hall (q - 1) (by omega) (by omega)

/-- **The closer table never changes the verdict.** Under the invariant, whenever the consult
    branch answers `None` — the cache is `scanned`, `scanned_from ≤ pos`, `pos_max ≤ scanned_to`
    and the entry for the opener's length is `≤ pos` — the loop itself, run from the same
    `(pos, pos_max)` on ANY cache `c0`, finds no closer either. The only hypothesis about
    `pos_max`: it equals `scanned_to` or does not cut a marker run in two. -/
theorem cache_sound (v : Variant) (hr : v.ranged = true) (m : Char) (hm1 : m.utf8Size = 1)
    (src : List Char) (pos posMax : Nat) (c : Cache) (rest : List Char)
    (hinv : CacheInv m src c) (hu : slice src pos posMax = some (m :: rest))
    (hcons : consultable v pos posMax c = true)
    (hx : c.max.getD (1 + runLen m rest) 0 ≤ pos)
    (hcut : posMax = c.scannedTo ∨ NoCut m src posMax) (silent : Bool) (c0 : Cache) :
    ∃ c1, scan v m src pos posMax (1 + runLen m rest) (pos + 1 + runLen m rest) silent
        (pos + 1 + runLen m rest) c0 = .ok (none, c1) := by
  obtain ⟨x, T, Z, _, hT, _, _, f⟩ := run_frame hm1 hu
  obtain ⟨hit, upd, hs, _, hfacts⟩ :=
    scan_spec v m hm1 src pos _ posMax (1 + runLen m rest) _ Z T [] _ f
  rw [hs]
  cases hit with
  | none => exact ⟨_, rfl⟩
  | some y =>
    exfalso
    obtain ⟨ms, R⟩ := y
    obtain ⟨hms, hrun, _⟩ := hfacts hT
    unfold consultable at hcons
    simp only [hr, Bool.not_true, Bool.false_or, Bool.and_eq_true, decide_eq_true_eq] at hcons
    obtain ⟨hsc, hfrom, hto⟩ := hcons
    have := hinv hsc ms _ (hrun.extend hto hcut) (by omega)
    omega

theorem insideFailed_done (v : Variant) (pos p posMax : Nat) (c : Cache) :
    (markInside v pos p (complete v pos posMax c)).insideFailed = (markInside v pos p c).insideFailed := by
  unfold markInside complete
  split <;> split <;> (try split) <;> rfl

/-- a call at a position recorded in `inside_failed` answers `None` in both modes and leaves
    the cache untouched -/
theorem inside_hit (v : Variant) (hi : v.inside = true) (m : Char) (src : List Char)
    (pos posMax : Nat) (prev silent : Bool) (c : Cache) (r : Option Outcome) (c' : Cache)
    (hmem : c.insideFailed.contains pos = true)
    (h : run v m src pos posMax prev silent c = .ok (r, c')) : r = none ∧ c' = c := by
  obtain ⟨ch, rest, hu, hch | ⟨_, hr, hc⟩⟩ := run_ok_window h
  · subst hch
    cases run_branch v ch prev c hu with
    | guard _ _ he => rw [he] at h; cases h; exact ⟨rfl, rfl⟩
    | inside _ _ he => rw [he] at h; cases h; exact ⟨rfl, rfl⟩
    | tablePanic _ _ _ he => rw [he] at h; cases h
    | table _ _ hn _ _ _ _ => exact absurd ⟨hi, hmem⟩ hn
    | loop _ hn _ => exact absurd ⟨hi, hmem⟩ hn
  · exact ⟨hr, hc⟩

/-- every remembered position lies strictly inside a marker run: a marker before it and at it -/
def InsideInv (m : Char) (src : List Char) (c : Cache) : Prop :=
  ∀ q ∈ c.insideFailed, 0 < q ∧ charAt src (q - 1) = some m ∧ charAt src q = some m

theorem InsideInv.empty (m : Char) (src : List Char) : InsideInv m src Cache.empty := by
  intro q hq; cases hq

theorem mem_interior {a b q : Nat} : q ∈ interior a b ↔ a < q ∧ q < b := by
  unfold interior
  rw [List.mem_range'_1]; omega


theorem InsideInv.markInside {m : Char} (hm1 : m.utf8Size = 1) {src : List Char} {pos posMax : Nat}
    {rest : List Char} (hu : slice src pos posMax = some (m :: rest))
    {c : Cache} (h : InsideInv m src c) (v : Variant) :
    InsideInv m src (markInside v pos (pos + 1 + runLen m rest) c) ∧
      ∀ q ∈ (markInside v pos (pos + 1 + runLen m rest) c).insideFailed,
        q ∈ c.insideFailed ∨ (pos < q ∧ charAt src pos = some m) := by
  have hc := opener_marks hm1 hu
  unfold MdIt.CodePair.markInside
  split
  · constructor
    · intro q hq
      rcases List.mem_append.mp hq with hq | hq
      · exact h q hq
      · rw [mem_interior] at hq
        exact ⟨by omega, hc (q - 1) (by omega) (by omega), hc q (by omega) (by omega)⟩
    · intro q hq
      exact (List.mem_append.mp hq).imp id
        (fun hq => ⟨(mem_interior.mp hq).1, hc pos (Nat.le_refl _) (by omega)⟩)
  · exact ⟨h, fun q hq => .inl hq⟩

/-- positions are only ever recorded strictly inside a marker run, by a call that answered
    `None`: `InsideInv` is preserved by every call, and a call answering `Some` records nothing -/
theorem insideInv_run (v : Variant) (m : Char) (hm1 : m.utf8Size = 1) (src : List Char)
    (pos posMax : Nat) (prev silent : Bool) (c : Cache) (r : Option Outcome) (c' : Cache)
    (hinv : InsideInv m src c) (h : run v m src pos posMax prev silent c = .ok (r, c')) :
    InsideInv m src c' ∧ (r ≠ none → c'.insideFailed = c.insideFailed) ∧
      (∀ q ∈ c'.insideFailed, q ∈ c.insideFailed ∨ (r = none ∧ pos < q ∧ charAt src pos = some m)) := by
  cases run_effect hm1 h with
  | declined _ => exact ⟨hinv, fun _ => rfl, fun q hq => Or.inl hq⟩
  | hit _ _ _ _ _ _ _ _ _ _ => exact ⟨hinv, fun _ => rfl, fun q hq => Or.inl hq⟩
  | table rest hu _ =>
    obtain ⟨hmi, hnew⟩ := hinv.markInside hm1 hu v
    exact ⟨hmi, fun hne => absurd rfl hne, fun q hq => (hnew q hq).imp id (fun h => ⟨rfl, h⟩)⟩
  | miss rest mx hu _ _ _ =>
    obtain ⟨hmi, hnew⟩ := hinv.markInside hm1 hu v
    have e : (markInside v pos (pos + 1 + runLen m rest)
        (complete v pos posMax { c with max := mx })).insideFailed =
        (markInside v pos (pos + 1 + runLen m rest) c).insideFailed := by
      rw [insideFailed_done]
      unfold markInside; split <;> rfl
    exact ⟨fun q hq => hmi q (e ▸ hq), fun hne => absurd rfl hne,
      fun q hq => (hnew q (e ▸ hq)).imp id (fun h => ⟨rfl, h⟩)⟩

/-! ## call sequences: the closer table is transparent -/

theorem map_eq_cases {ε α β : Type} {f : α → β} {x y : Except ε α} (h : x.map f = y.map f) :
    (∃ e, x = .error e ∧ y = .error e) ∨ ∃ a b, x = .ok a ∧ y = .ok b ∧ f a = f b := by
  cases x with
  | error e => cases y with
    | error e' => cases h; exact .inl ⟨_, rfl, rfl⟩
    | ok b => cases h
  | ok a => cases y with
    | error e' => cases h
    | ok b => exact .inr ⟨a, b, rfl, rfl, Except.ok.inj h⟩

/-- answer and `inside_failed` after the call -/
def proj (x : Option Outcome × Cache) : Option Outcome × List Nat := (x.1, x.2.insideFailed)

theorem scan_proj_indep (v : Variant) (m : Char) (hm1 : m.utf8Size = 1) (src : List Char)
    (pos p posMax n : Nat) (silent : Bool) (X0 Z : List Char) :
    ∀ (M X1 : List Char) (matchEnd : Nat) (c d : Cache),
      Frame src pos p posMax matchEnd X0 X1 M Z → c.insideFailed = d.insideFailed →
      (scan v m src pos posMax n p silent matchEnd c).map proj =
        (scan v m src pos posMax n p silent matchEnd d).map proj := by
  intro M X1 matchEnd c d f hcd
  obtain ⟨hit, upd, h, _⟩ := scan_spec v m hm1 src pos p posMax n X0 Z M X1 matchEnd f
  rw [h, h]
  show Except.ok _ = Except.ok _
  cases hit with
  | some x => simp [proj, scanResult, hcd]
  | none =>
    simp only [proj, scanResult, insideFailed_done]
    unfold markInside; split <;> simp [hcd]

/-- one step of the simulation: the real cache `c` (satisfying the invariant) against ANY cache
    `d` with the same `inside_failed` whose table is switched off -/
theorem run_sim (v : Variant) (hr : v.ranged = true) (hck : v.checked = true) (m : Char)
    (hm1 : m.utf8Size = 1) (src : List Char) (pos posMax : Nat) (prev silent : Bool) (c d : Cache)
    (hinv : CacheInv m src c) (hd : d.scanned = false) (hcd : c.insideFailed = d.insideFailed)
    (hcut : posMax = c.scannedTo ∨ NoCut m src posMax) :
    (run v m src pos posMax prev silent c).map proj =
      (run v m src pos posMax prev silent d).map proj := by
  cases hu : slice src pos posMax with
  | none => simp [run, hu]
  | some u =>
    cases u with
    | nil => simp [run, hu]
    | cons ch rest =>
      by_cases hch : ch = m
      · subst hch
        obtain ⟨x, T, Z, _, hT, _, _, f⟩ := run_frame hm1 hu
        have hnc : consultable v pos posMax d = false := by simp [consultable, hd]
        cases run_branch v ch prev c hu with
        | guard h1 h2 he =>
          rw [he, run_marker v ch prev silent d hu, if_pos ⟨h1, h2⟩]
          show Except.ok _ = Except.ok _
          simp [proj, hcd]
        | inside h1 h2 he =>
          rw [he, run_marker v ch prev silent d hu, if_neg (by simp [h1]), if_pos ⟨h1, hcd ▸ h2⟩]
          show Except.ok _ = Except.ok _
          simp [proj, hcd]
        | tablePanic e _ hl _ => simp [lookup, hck] at hl
        | table y hg hi hcons hl hx he =>
          -- the table answers `None`: so does the loop on `d`, with the same marks
          simp only [lookup, hck, if_true, Except.ok.injEq] at hl
          subst hl
          obtain ⟨c1, hc1⟩ := cache_sound v hr ch hm1 src pos posMax c rest hinv hu hcons hx hcut
            silent d
          obtain ⟨mx, hc1', _, _⟩ := scan_none v ch hm1 src pos _ posMax _ silent _ Z T [] _
            d c1 f hT hc1
          rw [he, run_eq_scan v ch prev silent d hu hg (hcd ▸ hi) hnc, hc1]
          show Except.ok _ = Except.ok _
          simp only [proj, hc1', insideFailed_done]
          unfold markInside; split <;> simp [hcd]
        | loop hg hi he =>
          rw [he, run_eq_scan v ch prev silent d hu hg (hcd ▸ hi) hnc]
          exact scan_proj_indep v ch hm1 src pos _ posMax (1 + runLen ch rest) silent _ Z T [] _ c d f hcd
      · rw [run_other v m prev silent c hu hch, run_other v m prev silent d hu hch]
        show Except.ok _ = Except.ok _
        simp [proj, hcd]

/-- **Cache transparency (one call).** Under the invariant the answer of the rule — verdict,
    extent and, in real mode, the node — is the answer the rule gives with the closer table
    switched off (`scanned := false`): the table only saves work. -/
theorem cache_transparent (v : Variant) (hr : v.ranged = true) (hck : v.checked = true) (m : Char)
    (hm1 : m.utf8Size = 1) (src : List Char) (pos posMax : Nat) (prev silent : Bool) (c : Cache)
    (hinv : CacheInv m src c) (hcut : posMax = c.scannedTo ∨ NoCut m src posMax) :
    (run v m src pos posMax prev silent c).map Prod.fst =
      (run v m src pos posMax prev silent { c with scanned := false }).map Prod.fst := by
  have h := run_sim v hr hck m hm1 src pos posMax prev silent c { c with scanned := false } hinv rfl rfl hcut
  revert h
  cases run v m src pos posMax prev silent c <;>
    cases run v m src pos posMax prev silent { c with scanned := false } <;>
    (intro h; have h' := congrArg (Except.map Prod.fst) h; exact h')

/-- the reference semantics: the same calls, the closer table switched off before every call
    (`inside_failed` is kept — it is part of the rule's meaning, not a cache) -/
def runSeqNoTable (v : Variant) (m : Char) (src : List Char) :
    List Call → Cache → Except Panic (List (Option Outcome) × Cache)
  | [], c => .ok ([], c)
  | k :: ks, c =>
    match runCall v m src k { c with scanned := false } with
    | .error e => .error e
    | .ok (r, c') =>
      match runSeqNoTable v m src ks c' with
      | .error e => .error e
      | .ok (rs, c'') => .ok (r :: rs, c'')

/-- **Cache transparency (sequences).** For ANY interleaving of calls — any positions, silent or
    real, any mixture of `pos_max` values, in any order — against one cache, started from any
    cache satisfying the invariant (e.g. the empty one): every call answers exactly what the rule
    without closer table answers (verdict, extent and node). The only hypothesis: no `pos_max`
    cuts a marker run in two. -/
theorem runSeq_transparent (v : Variant) (hr : v.ranged = true) (hmo : v.monotone = true)
    (hck : v.checked = true) (m : Char) (hm1 : m.utf8Size = 1) (src : List Char)
    (calls : List Call) (hcut : ∀ k ∈ calls, NoCut m src k.posMax) (c d : Cache)
    (hinv : CacheInv m src c) (hcd : c.insideFailed = d.insideFailed) :
    (runSeq v m src calls c).map Prod.fst = (runSeqNoTable v m src calls d).map Prod.fst := by
  induction calls generalizing c d with
  | nil => rfl
  | cons k ks ih =>
    have hstep := run_sim v hr hck m hm1 src k.pos k.posMax k.prevIsMarker k.silent c
      { d with scanned := false } hinv rfl hcd (Or.inr (hcut k (by simp)))
    unfold runSeq runSeqNoTable runCall
    rcases map_eq_cases hstep with ⟨e, h1, h2⟩ | ⟨⟨r, c'⟩, ⟨r', d'⟩, h1, h2, hp⟩
    · rw [h1, h2]
    · rw [h1, h2]
      simp only [proj, Prod.mk.injEq] at hp
      obtain ⟨hrr, hcd'⟩ := hp
      subst hrr
      have hinv' := cacheInv_run v hr hmo m hm1 src k.pos k.posMax k.prevIsMarker k.silent c r c' hinv h1
      rcases map_eq_cases (ih (fun k' hk' => hcut k' (by simp [hk'])) c' d' hinv' hcd') with
        ⟨e, h3, h4⟩ | ⟨z, z', h3, h4, hz⟩
      · simp only [h3, h4]
      · simp only [h3, h4]
        show Except.ok _ = Except.ok _
        simp [hz]


/-! ## witnesses: the earlier code, and the one hypothesis that is needed -/

/-- the verdicts (`None` / `Some(len)`) of a sequence; `none` if some call panicked -/
def verdicts (r : Except Panic (List (Option Outcome) × Cache)) : Option (List (Option Nat)) :=
  match r with
  | .ok x => some (x.1.map (fun o => o.map (·.len)))
  | .error _ => none

def panicOf {α : Type} (r : Except Panic α) : Option Panic :=
  match r with
  | .ok _ => none
  | .error e => some e

def finalCache (r : Except Panic (List (Option Outcome) × Cache)) : Option Cache :=
  match r with
  | .ok x => some x.2
  | .error _ => none

/-- `` [` `` as the parser drives the rule on it: the link rule's label look-ahead calls the rule
    silently at the backtick (no closer: `scanned := true`, table still empty), then the inline
    loop calls it for real at the same place and the old lookup `max[1]` indexes an empty `Vec`. -/
theorem codepair_old_panics :
    panicOf (runSeq Variant.pinned '`' ['[', '`']
      [⟨1, 2, false, true⟩, ⟨1, 2, false, false⟩] Cache.empty) = some .index := by decide +kernel

/-- the same sequence on the current code -/
example : verdicts (runSeq Variant.current '`' ['[', '`']
    [⟨1, 2, false, true⟩, ⟨1, 2, false, false⟩] Cache.empty) = some [none, none] := by decide +kernel

/-- (A) `` [`a` ` `` before the `scanned_from/scanned_to` repair: look-ahead at 1 says `Some(3)`,
    look-ahead at 5 finds nothing and marks the paragraph scanned with an empty table, and the
    real call at 1 is then answered `None` from the table. -/
theorem old_lookahead_poisons_cache :
    verdicts (runSeq ⟨true, false, false, false⟩ '`' ['[', '`', 'a', '`', ' ', '`']
      [⟨1, 6, false, true⟩, ⟨5, 6, false, true⟩, ⟨1, 6, false, false⟩] Cache.empty)
      = some [some 3, none, none] := by decide +kernel

example : verdicts (runSeq Variant.current '`' ['[', '`', 'a', '`', ' ', '`']
    [⟨1, 6, false, true⟩, ⟨5, 6, false, true⟩, ⟨1, 6, false, false⟩] Cache.empty)
    = some [some 3, none, some 3] := by decide +kernel

/-- (B) ```` ``` `a``b` ``c`` ```` with the non-monotone table update, plain left-to-right real
    calls (the calls at 1 and 2 are stopped by the old trailing-text guard): the scan from the
    opener at 4 overwrites the entry for length 2 (14, written by the complete scan from 0) with
    6, and the 2-tick opener at 11 is answered `None` although its closer is at 14. -/
theorem old_table_not_monotone :
    verdicts (runSeq ⟨true, false, false, false⟩ '`'
      ['`', '`', '`', ' ', '`', 'a', '`', '`', 'b', '`', ' ', '`', '`', 'c', '`', '`']
      [⟨0, 16, false, false⟩, ⟨1, 16, true, false⟩, ⟨2, 16, true, false⟩, ⟨4, 16, false, false⟩,
       ⟨11, 16, false, false⟩] Cache.empty)
      = some [none, none, none, some 6, none] := by decide +kernel

example : verdicts (runSeq Variant.current '`'
    ['`', '`', '`', ' ', '`', 'a', '`', '`', 'b', '`', ' ', '`', '`', 'c', '`', '`']
    [⟨0, 16, false, false⟩, ⟨1, 16, true, false⟩, ⟨2, 16, true, false⟩, ⟨4, 16, false, false⟩,
     ⟨11, 16, false, false⟩] Cache.empty)
    = some [none, none, none, some 6, some 5] := by decide +kernel

/-- (C) ``[``a]`](x)`` with the trailing-text guard: the label look-ahead (tree untouched, so
    `prev = false`) fails at 1, then claims a span of extent 4 at 2; the real call at 2 (nested
    label tokenizer, `pos_max = 6`, the tree now ends in a backtick) answers `None`. -/
theorem old_guard_reads_tree :
    verdicts (runSeq ⟨true, true, true, false⟩ '`'
      ['[', '`', '`', 'a', ']', '`', ']', '(', 'x', ')']
      [⟨1, 10, false, true⟩, ⟨2, 10, false, true⟩, ⟨2, 6, true, false⟩] Cache.empty)
      = some [none, some 4, none] := by decide +kernel

example : verdicts (runSeq Variant.current '`'
    ['[', '`', '`', 'a', ']', '`', ']', '(', 'x', ')']
    [⟨1, 10, false, true⟩, ⟨2, 10, false, true⟩, ⟨2, 6, true, false⟩] Cache.empty)
    = some [none, none, none] := by decide +kernel

/-- The hypothesis of `cache_sound` / `runSeq_transparent` cannot be dropped: with a `pos_max`
    that cuts a marker run (here 5, inside the run 3..6 of ``` ``a``` ```), the current code answers
    `None` from the table although the rule without table finds the (truncated) closer. -/
theorem cut_posmax_needs_hypothesis :
    verdicts (runSeq Variant.current '`' ['`', '`', 'a', '`', '`', '`']
      [⟨0, 6, false, true⟩, ⟨0, 5, false, true⟩] Cache.empty) = some [none, none] ∧
    verdicts (runSeqNoTable Variant.current '`' ['`', '`', 'a', '`', '`', '`']
      [⟨0, 6, false, true⟩, ⟨0, 5, false, true⟩] Cache.empty) = some [none, some 5] ∧
    ¬ NoCut '`' ['`', '`', 'a', '`', '`', '`'] 5 := by
  refine ⟨by decide +kernel, by decide +kernel, ?_⟩
  intro h; apply h
  refine ⟨by decide, by decide +kernel, by decide +kernel⟩

/-- small `pos_max` first, large afterwards (the order a nested label tokenizer followed by the
    rest of the line produces): the range test keeps the table of the small scan from answering
    for the large one -/
example : verdicts (runSeq Variant.current '`' ['`', 'a', ' ', '`', 'b', '`']
    [⟨0, 2, false, true⟩, ⟨3, 6, false, false⟩, ⟨0, 6, false, false⟩] Cache.empty)
    = some [none, some 3, some 4] := by decide +kernel

/-- before the range repair the same sequence loses the span at 0 -/
example : verdicts (runSeq ⟨true, false, true, true⟩ '`' ['`', 'a', ' ', '`', 'b', '`']
    [⟨0, 2, false, true⟩, ⟨3, 6, false, false⟩, ⟨0, 6, false, false⟩] Cache.empty)
    = some [none, none, none] := by decide +kernel

/-- non-vacuity of `cache_sound`: a reachable cache (after a silent sweep over
    ```` ``` `a` ```` ) that is `scanned`, satisfies the invariant by `cacheInv_runSeq`, and answers
    the real call at 0 from the table -/
example :
    ∃ c, finalCache (runSeq Variant.current '`' ['`', '`', '`', ' ', '`', 'a', '`']
        [⟨0, 7, false, true⟩, ⟨4, 7, false, true⟩] Cache.empty) = some c ∧
      c.scanned = true ∧ consultable Variant.current 0 7 c = true ∧ c.max.getD 3 0 ≤ 0 ∧
      CacheInv '`' ['`', '`', '`', ' ', '`', 'a', '`'] c := by
  have hf : finalCache (runSeq Variant.current '`' ['`', '`', '`', ' ', '`', 'a', '`']
      [⟨0, 7, false, true⟩, ⟨4, 7, false, true⟩] Cache.empty) = some ⟨true, 0, 7, [0, 6], [1, 2]⟩ := by
    decide +kernel
  refine ⟨⟨true, 0, 7, [0, 6], [1, 2]⟩, hf, rfl, by decide, by decide, ?_⟩
  cases h : runSeq Variant.current '`' ['`', '`', '`', ' ', '`', 'a', '`']
      [⟨0, 7, false, true⟩, ⟨4, 7, false, true⟩] Cache.empty with
  | error e => rw [h] at hf; cases hf
  | ok x =>
    obtain ⟨rs, c⟩ := x
    rw [h] at hf
    simp only [finalCache, Option.some.injEq] at hf
    subst hf
    exact cacheInv_runSeq _ rfl rfl '`' (by decide) _ _ _ _ _ (CacheInv.empty _ _) h


/-- the marker of the shipped instance is one byte wide -/
theorem backtick_size : ('`' : Char).utf8Size = 1 := by decide

def verdictOf (r : Except Panic (Option Outcome × Cache)) : Option (Option Nat) :=
  match r with
  | .ok x => some (x.1.map (·.len))
  | .error _ => none

/-- `codepair_no_panic` on a multi-byte source (`é` 2 bytes, `€` 3 bytes) and an arbitrary,
    unreachable cache value -/
example : ∃ r, run Variant.current '`' ['é', '`', '€', '`'] 2 7 false false ⟨true, 9, 3, [5], [7]⟩ = .ok r :=
  codepair_no_panic _ rfl _ backtick_size _ _ _ _ _ _ (by decide +kernel) (by decide +kernel) (by decide)

/-- its hypotheses are needed: `pos` inside `é`, `pos = pos_max`, `pos_max` beyond the end -/
example : panicOf (run Variant.current '`' ['é', '`', '€', '`'] 1 7 false false Cache.empty) = some .slice ∧
    panicOf (run Variant.current '`' ['é', '`', '€', '`'] 2 2 false false Cache.empty) = some .unwrap ∧
    panicOf (run Variant.current '`' ['é', '`', '€', '`'] 2 8 false false Cache.empty) = some .slice := by
  decide +kernel

/-- `codepair_progress`: the call it speaks about exists (`Some(5)`: 1 + 3 + 1 bytes) -/
example : verdictOf (run Variant.current '`' ['é', '`', '€', '`'] 2 7 false true Cache.empty) = some (some 5) := by
  decide +kernel

example (o : Outcome) (c' : Cache)
    (h : run Variant.current '`' ['é', '`', '€', '`'] 2 7 false true Cache.empty = .ok (some o, c')) :
    2 ≤ o.len ∧ 2 + o.len ≤ 7 ∧ isBoundary ['é', '`', '€', '`'] (2 + o.len) = true :=
  codepair_progress _ _ backtick_size _ _ _ _ _ _ _ _ h

/-- `runSeq_transparent` on a sequence mixing three `pos_max` values, none cutting a run -/
example : (runSeq Variant.current '`' ['`', 'a', ']', '`', 'b', '`']
      [⟨0, 6, false, true⟩, ⟨0, 2, false, false⟩, ⟨3, 6, false, false⟩, ⟨0, 3, false, true⟩] Cache.empty).map Prod.fst =
    (runSeqNoTable Variant.current '`' ['`', 'a', ']', '`', 'b', '`']
      [⟨0, 6, false, true⟩, ⟨0, 2, false, false⟩, ⟨3, 6, false, false⟩, ⟨0, 3, false, true⟩] Cache.empty).map Prod.fst := by
  apply runSeq_transparent _ rfl rfl rfl _ backtick_size _ _ _ _ _ (CacheInv.empty _ _) rfl
  intro k hk
  simp only [List.mem_cons, List.not_mem_nil, or_false] at hk
  rcases hk with rfl | rfl | rfl | rfl <;> (intro h; revert h; decide +kernel)


/-- The hypothesis `m.utf8Size = 1` of all theorems above is necessary, and the Rust agrees: the
    generic `add_with::<MARKER, _>` advances by ONE byte per marker character, so with a two-byte
    marker (`§`) the very first slice after the opener is off a char boundary. Confirmed on the
    real crate: `add_with::<'§', false>` panics on `"§a§"`, `"§"`, `"a§"`
    ("start byte index 1 is not a char boundary"). -/
theorem multibyte_marker_panics :
    panicOf (run Variant.current '§' ['§', 'a', '§'] 0 5 false false Cache.empty) = some .slice ∧
    panicOf (run Variant.current '§' ['§'] 0 2 false true Cache.empty) = some .slice := by
  decide +kernel

end MdIt.CodePair

