/-
  C01 for the WHOLE block pass of the model: `parseBlocks` never panics and never runs out of fuel.

      parseBlocks_total : ∀ cfg src, ∃ root refs, parseBlocks cfg src = .ok (root, refs)

  for EVERY configuration (any chain over the nine rule ids, in any order, with or without the
  paragraph rule; any `maxNesting`, including 0; any entity / case tables) and EVERY source.  No
  size bound is needed: the model computes with unbounded `Nat` / `Int`, and is exact for the Rust
  as long as offsets fit `i32`, i.e. for `byteLen src < 2^31` (`Model/Lines.lean`, header) — that
  bound is a hypothesis of the model-to-code correspondence, not of this theorem.

  Every Rust operation that can panic is a partial operation of the model (`Model/Block.lean`,
  `Panic`): `.index` (`line_offsets[i]`, `mapping[0]`), `.slice` (`&s[a..b]`), `.assert`
  (`debug_assert!` of `get_lines` / `get_map_from_offsets` / `mark_tight_paragraphs`), `.unwrap`
  (`parse::<u32>()`, `next_back()`, `list_indent`), `.sub` (unsigned subtraction), `.cast`
  (`indent_nonspace as usize` in `list.rs`), `.progress` (`assert!(state.line > prev_line)`), and
  `.fuel` (the model's own).  None fires.

  Route (each module header says what it contributes): the state invariant `BInv` and `NoPanic`
  (`Lemmas/BlockTotalCore.lean`), where the errors of a rule come from (`BlockTotalErr.lean` and the rule
  files `BlockTotalLeaf`, `…Ref`, `…RefRule`, `…Quote`, `…List`), chain, loop and the induction on the fuel
  (`BlockTotalEngine.lean`), the measure that the fuel of `parseBlocks` bounds (`BlockTotalFuel.lean`).
-/
import MdIt.Lemmas.BlockTotalFuel

namespace MdIt.Block
open MdIt.Lines (LineOffset)

/-- a computation that fails at most with `.fuel`, and not with `.fuel`, returns -/
theorem NoPanic.total {α : Type} {x : Except Panic α} (hnp : NoPanic x) (hnf : x ≠ .error .fuel) :
    ∃ a, x = .ok a := by
  cases h : x with
  | ok a => exact ⟨a, rfl⟩
  | error e => cases hnp e h; exact absurd h hnf

/-- a rule that returns keeps the invariant: it hands the state back (look-ahead; `false` in real mode) or keeps
    the frame (`true` in real mode) -/
theorem rule_total {run : BState → Bool → Res} {s : BState} {silent : Bool} (hI : BInv s)
    (hpure : ∀ b s', run s true = .ok (b, s') → s' = s) (hsame : ∀ s', run s false = .ok (false, s') → s' = s)
    (hadv : ∀ s', run s false = .ok (true, s') → Frame s s') (hnp : NoPanic (run s silent))
    (hnf : run s silent ≠ .error .fuel) : ∃ b s', run s silent = .ok (b, s') ∧ BInv s' := by
  obtain ⟨⟨b, s'⟩, h⟩ := hnp.total hnf
  refine ⟨b, s', h, ?_⟩
  cases silent with
  | true => rw [hpure b s' h]; exact hI
  | false =>
    cases b with
    | false => rw [hsame s' h]; exact hI
    | true => exact hI.of_frame (hadv s' h)

/-- the nine rules, in both modes, with total call-backs: no panic on an existing line (real mode:
    at a non-negative indent) of a state that satisfies the invariant -/
theorem rulesNP (cfg : Cfg) : RulesNP cfg := by
  intro tok test fuel hk ht hto hko r s silent hI hl hi
  cases r <;> simp only [runRule]
  · exact code_np hI hl
  · exact fence_np hI hl
  · exact blockquote_np hk ht hto hko hI hl hi
  · exact hr_np hI hl
  · exact list_np hk ht hto hko hI hl hi
  · exact reference_np ht hto hI hl
  · exact heading_np hI hl
  · exact lheading_np ht hto hI hl
  · exact paragraph_np ht hto hI hl

/-- `parseBlocks` fails at most with `.fuel` … -/
theorem parseBlocks_noPanic (cfg : Cfg) (src : List Char) : NoPanic (parseBlocks cfg src) :=
  fun e h => (engine_np (rulesNP cfg) _).1 _ (bInv_fresh src .root []) e (parseBlocks_err h)

/-- **C01, block pass**: for every configuration and every source the block pass of the model
    returns a tree and a reference map — no partial operation fires, the fuel is never exhausted. -/
theorem parseBlocks_total (cfg : Cfg) (src : List Char) :
    ∃ root refs, parseBlocks cfg src = .ok (root, refs) := by
  obtain ⟨r, h⟩ := (parseBlocks_noPanic cfg src).total (parseBlocks_fuel cfg src)
  exact ⟨r.1, r.2, h⟩

/-- `parseBlocks_total` as it transfers to the crate.  The hypothesis `_h` is NOT used by the proof and
    adds nothing to the statement about the model, whose offsets are unbounded `Int` / `Nat`; it is the
    condition of the CORRESPONDENCE: the crate keeps line offsets in `i32`, so model and code agree
    only for sources below `2 ^ 31` bytes, and only there does totality of the model say that the
    block pass of the crate does not panic. -/
theorem parseBlocks_total_i32 (cfg : Cfg) (src : List Char) (_h : Lines.byteLen src < 2 ^ 31) :
    ∃ root refs, parseBlocks cfg src = .ok (root, refs) := parseBlocks_total cfg src

/-- the tokenizer on ANY state that satisfies the invariant, with enough fuel (`need`,
    `BlockTotalFuel.lean`): total, and it hands the invariant back -/
theorem tokenize_total (cfg : Cfg) (f : Nat) (s : BState) (hI : BInv s) (hf : need cfg s ≤ f) :
    ∃ s', tokenize cfg f s = .ok s' ∧ BInv s' := by
  obtain ⟨s', h⟩ := NoPanic.total ((engine_np (rulesNP cfg) f).1 s hI) (tokenize_nf cfg f s hf)
  exact ⟨s', h, hI.of_frame (tokenize_spec cfg f s s' h).frame⟩

/-- the look-ahead `test_rules_at_line` on any existing line of a state that satisfies the invariant:
    total at every positive budget (it neither loops nor nests), and it returns the state it was given -/
theorem testRules_total (cfg : Cfg) (f : Nat) (s : BState) (hI : BInv s) (hl : s.line < s.lineMax) :
    ∃ b, testRules cfg (f + 1) s = .ok (b, s) := by
  obtain ⟨r, h⟩ := NoPanic.total ((engine_np (rulesNP cfg) (f + 1)).2 s hI hl) (testRules_nf cfg f s)
  exact ⟨r.1, by rw [h, ← testRules_pure cfg (f + 1) s r h]⟩

/-- a single rule as the tokenizer at budget `fuel + 1` runs it (`ruleAt`), in either mode, on an
    existing line at a non-negative indent, below the nesting limit and within the fuel budget:
    total, and the invariant is preserved -/
theorem ruleAt_total (cfg : Cfg) (fuel : Nat) (r : RuleId) (s : BState) (silent : Bool)
    (hI : BInv s) (hl : s.line < s.lineMax) (hi : IndentOk s) (hlv : s.level < cfg.maxNesting)
    (hf : need cfg s ≤ fuel + 1) (h1 : 1 ≤ fuel) :
    ∃ b s', ruleAt cfg fuel r s silent = .ok (b, s') ∧ BInv s' := by
  obtain ⟨g, rfl⟩ : ∃ g, fuel = g + 1 := ⟨fuel - 1, by omega⟩
  have hk := tokenize_tokSpec cfg (g + 1)
  have ht := testRules_pure cfg (g + 1)
  have hspec := runRule_spec (cfg := cfg) hk ht (g + 1 + 1)
  refine rule_total (run := ruleAt cfg (g + 1) r) hI (fun _ _ => silent_pure_rule) (hspec.false_same r s)
    (fun s' h => (hspec.advanced r s s' h hl hi).frame)
    (rulesNP cfg _ _ _ hk ht (engine_np (rulesNP cfg) _).2 (engine_np (rulesNP cfg) _).1 r s silent hI hl
      fun _ => hi) ?_
  refine runRule_nf hk ht (fun s => testRules_nf cfg g s) (tokenize_nf cfg (g + 1)) r hl ?_ hi hf hlv
  unfold need at hf; omega

/-! ## instances (by evaluation) on the inputs where one would look for a panic first -/

section examples

def cfgOf (n : Nat) (chain : List RuleId) : Cfg :=
  { maxNesting := n, chain := chain, lookup := fun _ => none, L := fun c => [c], U := fun c => [c] }

def stock : List RuleId := [.code, .fence, .blockquote, .hr, .list, .reference, .heading, .lheading, .paragraph]

/-- number of children of the root, `none` on a panic -/
def rootLen : Except Panic (BNode × Refs.RefMap) → Option Nat
  | .ok (n, _) => some n.children.length
  | .error _ => none

-- a tab split by a quote marker
example : rootLen (parseBlocks (cfgOf 100 stock) ['>', ' ', 'a', '\n', '>', '\t', 'b']) = some 1 := by decide +kernel
-- a chain without the paragraph rule (the fallback of `tokenize` pushes the lines as they are)
example : rootLen (parseBlocks (cfgOf 100 [.code, .fence, .blockquote, .hr, .list, .reference, .heading, .lheading])
    ['a', '\n', 'b', '\n', '>', ' ', 'c', '\n', 'd']) = some 4 := by decide +kernel
-- the empty chain
example : rootLen (parseBlocks (cfgOf 100 []) ['a', '\n', '\n', 'b']) = some 2 := by decide +kernel
-- `max_nesting = 0`: no rule runs at all — and the whole document is dropped
example : rootLen (parseBlocks (cfgOf 0 stock) ['>', ' ', 'a', '\n', '-', ' ', 'b']) = some 0 := by decide +kernel
-- `max_nesting = 1`: the inner quote is cut
example : rootLen (parseBlocks (cfgOf 1 stock) ['>', ' ', '>', ' ', 'a']) = some 1 := by decide +kernel
-- only line endings
example : rootLen (parseBlocks (cfgOf 100 stock) ['\n', '\r', '\n', '\r', '\n']) = some 0 := by decide +kernel
-- a list marker at the very end of the source (after a paragraph: setext underline; after an item: empty item)
example : rootLen (parseBlocks (cfgOf 100 stock) ['a', '\n', '-']) = some 1 := by decide +kernel
example : rootLen (parseBlocks (cfgOf 100 stock) ['-', ' ', 'a', '\n', '-']) = some 1 := by decide +kernel
-- 9 digits: an ordered list starting at 123456789 (`parse::<u32>` succeeds); 10 digits: a paragraph
example : (parseBlocks (cfgOf 100 stock) ['1', '2', '3', '4', '5', '6', '7', '8', '9', '.', ' ', 'a']).toOption.map
    (fun r => r.1.children.map (·.kind)) = some [.orderedList 123456789 '.'] := by decide +kernel
example : (parseBlocks (cfgOf 100 stock) ['1', '2', '3', '4', '5', '6', '7', '8', '9', '0', '.', ' ', 'a']).toOption.map
    (fun r => r.1.children.map (·.kind)) = some [.paragraph] := by decide +kernel
-- a reference definition behind a quote marker and a tab, multi-byte text
example : rootLen (parseBlocks (cfgOf 100 stock) ['>', '\t', '[', 'é', ']', ':', ' ', 'x', '\n', '>', ' ', 'é', ']', ':', ' ', 'y'])
    = some 1 := by decide +kernel

end examples

/-
  FINDINGS (no reachable panic; three things worth knowing).

   1. `refParse` (reference.rs) skips the first character of the trimmed text blindly
      (`chars.next(); // skip '['`) and later slices `&str[1..label_end]`: on a text whose first
      character is multi-byte it panics (`refParse exCfg "é]: x" = .error .slice`, kept as an example
      in `Lemmas/BlockTotalRef.lean`; `refParse_error`: this is its ONLY panic).  Unreachable from the
      rule: it has checked that the line starts with `[`, and everything `get_lines` can put in front
      of it is one byte wide (`BInv.ascii` — blanks and container markers).  The invariant that makes
      this safe is not local to reference.rs.
   2. `max_nesting = 0` makes `tokenize` skip to `line_max` before any rule runs: EVERY document
      parses to an empty root (real crate: `md.max_nesting = 0; md.parse("plain").render() == ""`);
      with `max_nesting = 1`, `"> > a"` renders `<blockquote>\n</blockquote>\n` — content beyond the
      limit is dropped silently, not kept as text.  No panic, and `need` is smallest there.
   3. The rules are NOT individually panic-free on arbitrary states: the block-quote rule in real mode
      at a line with a negative `line_indent` underflows `state.line - 1` / trips
      `debug_assert!(start_line <= end_line)` (`Lemmas/BlockTotalQuote.lean`, two `decide +kernel`
      witnesses on artificial states), and the list rule would hit `indent_nonspace as usize` with a
      negative value.  `tokenize` checks `line_indent(line) < 0` before it runs the chain, and the list
      loop re-checks it before every further item — the hypothesis `IndentOk` of `RunNP` is exactly
      that check.  A custom caller that runs a container rule elsewhere has to repeat it.
-/

end MdIt.Block
