/-
  C01 for the block pass WITH the raw-HTML block rule in the chain (`MdIt/Model/BlockH.lean`,
  validated against the real parser by the stream `blockh`).

    (a) `parseBlocksH_conservative`, `parseBlocksH_conservative'`
            for a chain without `.html`, `parseBlocksH` IS `Block.parseBlocks` (so every whole-document
            theorem about html-free configurations is a theorem about `parseBlocksH` on such chains);
            `engineH_conservative`: tokenizer and look-ahead agree at every fuel.
    (b) `parseBlocksH_total`
            for EVERY chain over the ten rules (any order, repetitions, with or without the paragraph
            rule, with or without html), every `max_nesting`, every table, every source: a tree and
            a reference map — no partial operation fires, the fuel is never exhausted.
            `parseBlocksH_fuel`, `parseBlocksH_noPanic`; `tokenizeH_total` / `testRulesH_total` /
            `ruleAtH_total` on any state that satisfies `BInv`.
    (c) `tokenizeH_progress`, `ruleAtH_progress`, `tokenizeH_progress_assert`
            the `assert!(state.line > prev_line, "block rule didn't increment state.line")` of
            `BlockParser::tokenize` cannot fire with the html rule in the chain.
    (d) `silent_implies_real_ruleH`, `testRulesH_true_real`
            look-ahead agreement: when `test_rules_at_line` answers `true` (some rule of the ten —
            possibly the html rule, through `html_block_silent_real` — would terminate the paragraph /
            lazy continuation / list), the real-mode chain at that line accepts too.
        `list_shapeH` (`Lemmas/PipelineH.lean`, a clause of `parseBlocksH_wf`) : `list_shape` survives.
        `fence_not_html` : the fence rule (the only producer of `codeFence` nodes) never pushes a node that
            decodes as an html block — the encoding of the html node is unambiguous.

  How the lemmas of the nine rules reach the ten-rule engine: header of `MdIt/Lemmas/BlockH.lean`.

    (e) `parseBlocksH_cr` (an EQUATION), `parseBlocksH_crlf`, `parseBlocksH_final_newline`,
        `parseBlocksH_views`: C10 at the block level with html, without the fuel hypothesis that the
        html-free versions (`Block.LE.parseBlocks_cr` …) still list and do not use.
-/
import MdIt.Lemmas.BlockH
import MdIt.Lemmas.BlockHLE
import MdIt.Props.C10Doc
import MdIt.Lemmas.KernelEval

namespace MdIt.BlockH
open MdIt.Block
open MdIt.Lines (LineOffset)

/-! ## (a) conservativity -/

theorem tokenizeH_conservative (cfg : Cfg) (f : Nat) : tokenizeH cfg (cfg.chain.map .base) f = tokenize cfg f := by
  simp only [tokenizeH, tokenize, engineH_conservative]

theorem testRulesH_conservative (cfg : Cfg) (f : Nat) : testRulesH cfg (cfg.chain.map .base) f = testRules cfg f := by
  simp only [testRulesH, testRules, engineH_conservative]

/-- **conservativity**: an html-free configuration, read as a ten-rule configuration, parses every
    source exactly as `Block.parseBlocks` does (same tree, same reference map, same error if any) -/
theorem parseBlocksH_conservative (cfg : Cfg) (src : List Char) :
    parseBlocksH (CfgH.ofCfg cfg) src = parseBlocks cfg src := by
  unfold parseBlocksH parseBlocks
  rw [base_ofCfg]
  show (match tokenizeH cfg (cfg.chain.map .base) _ _ with | .error e => _ | .ok s => _) = _
  rw [tokenizeH_conservative]
  cases tokenize cfg (fuelFor cfg src) (BState.fresh src .root []) <;> rfl

/-- the same from the other side: a ten-rule configuration whose chain does not contain the html rule -/
theorem parseBlocksH_conservative' (cfg : CfgH) (h : RuleIdH.html ∉ cfg.chain) (src : List Char) :
    parseBlocksH cfg src = parseBlocks cfg.base src := by
  have hc : cfg.chain = cfg.base.chain.map .base := (map_base_filterMap cfg.chain h).symm
  unfold parseBlocksH parseBlocks
  rw [hc, tokenizeH_conservative]
  cases tokenize cfg.base (fuelFor cfg.base src) (BState.fresh src .root []) <;> rfl

/-! ## (b) totality -/

/-- **`parseBlocksH` never runs out of fuel** -/
theorem parseBlocksH_fuel (cfg : CfgH) (src : List Char) : parseBlocksH cfg src ≠ .error .fuel := by
  exact fun h => tokenizeH_nf cfg.base cfg.chain _ _ (need_fresh cfg.base src .root []) (parseBlocksH_err h)

/-- `parseBlocksH` fails at most with `.fuel` … -/
theorem parseBlocksH_noPanic (cfg : CfgH) (src : List Char) : NoPanic (parseBlocksH cfg src) := by
  exact fun e h => (engineH_np cfg.base cfg.chain _).1 _ (bInv_fresh src .root []) _ (parseBlocksH_err h)

/-- **C01, block pass with raw HTML**: for every configuration over the ten shipped block rules and
    every source the block pass returns a tree and a reference map — no partial operation fires
    (indexing, slicing, `unwrap`, unsigned subtraction, `debug_assert!`, the progress `assert!`), and
    the model's fuel is never exhausted. -/
theorem parseBlocksH_total (cfg : CfgH) (src : List Char) :
    ∃ root refs, parseBlocksH cfg src = .ok (root, refs) := by
  obtain ⟨r, h⟩ := (parseBlocksH_noPanic cfg src).total (parseBlocksH_fuel cfg src)
  exact ⟨r.1, r.2, h⟩

/-- the same with the bound under which the model is exact for the Rust (`i32` offsets) spelled out -/
theorem parseBlocksH_total_i32 (cfg : CfgH) (src : List Char) (_h : Lines.byteLen src < 2 ^ 31) :
    ∃ root refs, parseBlocksH cfg src = .ok (root, refs) := parseBlocksH_total cfg src

/-- the tokenizer on ANY state that satisfies the invariant, with enough fuel: total, and it hands
    the invariant back -/
theorem tokenizeH_total (cfg : Cfg) (chain : List RuleIdH) (f : Nat) (s : BState) (hI : BInv s)
    (hf : need cfg s ≤ f) : ∃ s', tokenizeH cfg chain f s = .ok s' ∧ BInv s' := by
  obtain ⟨s', h⟩ := NoPanic.total ((engineH_np cfg chain f).1 s hI) (tokenizeH_nf cfg chain f s hf)
  exact ⟨s', h, hI.of_frame (tokenizeH_spec cfg chain f s s' h).frame⟩

/-- the look-ahead on any existing line of a state that satisfies the invariant: total at every
    positive budget, and it returns the state it was given -/
theorem testRulesH_total (cfg : Cfg) (chain : List RuleIdH) (f : Nat) (s : BState) (hI : BInv s)
    (hl : s.line < s.lineMax) : ∃ b, testRulesH cfg chain (f + 1) s = .ok (b, s) := by
  obtain ⟨r, h⟩ := NoPanic.total ((engineH_np cfg chain (f + 1)).2 s hI hl) (testRulesH_nf cfg chain f s)
  exact ⟨r.1, by rw [h, ← testRulesH_pure cfg chain (f + 1) s r h]⟩

/-- a single rule of the ten as the tokenizer at budget `fuel + 1` runs it, in either mode, on an
    existing line at a non-negative indent, below the nesting limit and within the fuel budget: total,
    and the invariant is preserved -/
theorem ruleAtH_total (cfg : Cfg) (chain : List RuleIdH) (fuel : Nat) (r : RuleIdH) (s : BState) (silent : Bool)
    (hI : BInv s) (hl : s.line < s.lineMax) (hi : IndentOk s) (hlv : s.level < cfg.maxNesting)
    (hf : need cfg s ≤ fuel + 1) (h1 : 1 ≤ fuel) :
    ∃ b s', ruleAtH cfg chain fuel r s silent = .ok (b, s') ∧ BInv s' := by
  obtain ⟨g, rfl⟩ : ∃ g, fuel = g + 1 := ⟨fuel - 1, by omega⟩
  have hk := tokenizeH_tokSpec cfg chain (g + 1)
  have ht := testRulesH_pure cfg chain (g + 1)
  have hspec := runRuleH_spec (cfg := cfg) hk ht (g + 1 + 1)
  refine rule_total (run := ruleAtH cfg chain (g + 1) r) hI (fun _ _ => silent_pure_ruleH) (hspec.false_same r s)
    (fun s' h => (hspec.advanced r s s' h hl hi).frame)
    (runRuleH_np (cfg := cfg) (fuel := g + 1 + 1) hk ht (engineH_np cfg chain _).2 (engineH_np cfg chain _).1
      r s silent hI hl fun _ => hi) ?_
  refine runRuleH_nf hk ht (fun s => testRulesH_nf cfg chain g s) (tokenizeH_nf cfg chain (g + 1)) r hl ?_ hi hf hlv
  unfold need at hf; omega

/-! ## (c) progress -/

/-- `tokenizeH_progress`: the tokenizer never moves `line` backwards, moves it strictly forward when it
    starts on a blank line or on a line at a non-negative indent, ends with `line ≤ line_max` (on a
    table that satisfies the invariant), and hands back the frame as it found it -/
theorem tokenizeH_progress {cfg : Cfg} {chain : List RuleIdH} {fuel : Nat} {s s' : BState}
    (h : tokenizeH cfg chain fuel s = .ok s') :
    s.line ≤ s'.line ∧ (TableOk s → s.line ≤ s.lineMax → s'.line ≤ s.lineMax) ∧
    (s.line < s.lineMax → (s.isEmpty s.line = true ∨ IndentOk s) → s.line < s'.line) ∧ Frame s s' :=
  have := tokenizeH_spec cfg chain fuel s s' h
  ⟨this.mono, this.upper, this.strict, this.frame⟩

/-- a rule of the ten exactly as the tokenizer runs it: whenever it answers `true` at a line the
    tokenizer would try it on, `line` has moved strictly forward and not beyond `line_max` (`false` leaves
    the state untouched: `ruleAtH_false_same`) -/
theorem ruleAtH_progress {cfg : Cfg} {chain : List RuleIdH} {fuel : Nat} {r : RuleIdH} {s s' : BState}
    (h : ruleAtH cfg chain fuel r s false = .ok (true, s')) (hl : s.line < s.lineMax) (hi : IndentOk s) :
    s.line < s'.line ∧ (TableOk s → s'.line ≤ s.lineMax) ∧ Frame s s' :=
  have := (runRuleH_spec (cfg := cfg) (tokenizeH_tokSpec cfg chain fuel) (testRulesH_pure cfg chain fuel)
    (fuel + 1)).advanced r s s' h hl hi
  ⟨this.lt, this.le, this.frame⟩

theorem ruleAtH_false_same {cfg : Cfg} {chain : List RuleIdH} {fuel : Nat} {r : RuleIdH} {s s' : BState}
    (h : ruleAtH cfg chain fuel r s false = .ok (false, s')) : s' = s :=
  (runRuleH_spec (cfg := cfg) (tokenizeH_tokSpec cfg chain fuel) (testRulesH_pure cfg chain fuel)
    (fuel + 1)).false_same r s s' h

/-- the progress `assert!` of `BlockParser::tokenize` cannot fire: on a state that satisfies the
    invariant, at ANY fuel, the tokenizer never answers `.progress` (nor any other panic class) -/
theorem tokenizeH_progress_assert (cfg : Cfg) (chain : List RuleIdH) (f : Nat) (s : BState) (hI : BInv s) :
    tokenizeH cfg chain f s ≠ .error .progress := by
  intro h
  have := (engineH_np cfg chain f).1 s hI _ h
  cases this

/-! ## (d) look-ahead agreement; shape; the encoding -/

/-- silent `true` ⇒ real mode does not answer `false`, for each of the ten rules -/
theorem silent_implies_real_ruleH {cfg : Cfg} {tok : Tok} {test : Test} {fuel : Nat} {r : RuleIdH}
    {s s1 s2 : BState} {b : Bool} (hs : runRuleH cfg tok test fuel r s true = .ok (true, s1))
    (hr : runRuleH cfg tok test fuel r s false = .ok (b, s2)) : b = true := by
  cases r with
  | base r => exact silent_implies_real_rule hs hr
  | html =>
    obtain ⟨_, _, hes, _⟩ := htmlRule_ok hs
    obtain ⟨_, _, her, _⟩ := htmlRule_ok hr
    exact Html.html_block_silent_real hes _ _ _ her

theorem runChainG_true_real {run : RuleIdH → BState → Bool → Res} (hr : RunSpecG run)
    (hp : ∀ r s b s', run r s true = .ok (b, s') → s' = s)
    (hsr : ∀ r s s1 s2 b, run r s true = .ok (true, s1) → run r s false = .ok (b, s2) → b = true)
    (chain : List RuleIdH) (s s1 s2 : BState) (b : Bool) (hs : runChainG run chain s true = .ok (true, s1))
    (hreal : runChainG run chain s false = .ok (b, s2)) : b = true := by
  -- the rule that fires in silent mode
  rcases runChainG_ok (fun r s s' h => hp r s false s' h) chain hs with ⟨⟨⟩, -⟩ | ⟨r, hmem, -, hfire⟩
  rcases runChainG_first hr.false_same chain s with ⟨hall, -⟩ | ⟨-, r', -, -, -, h1, h2⟩
  · -- it cannot decline in real mode
    exact absurd (hsr r s s1 s false hfire (hall r hmem)) (by simp)
  · rw [h1] at hreal
    cases b with
    | false => exact absurd hreal (h2 _)
    | true => rfl

/-- **look-ahead agreement**: when `test_rules_at_line` (the ten-rule chain in silent mode) answers
    `true` at a line, the chain in real mode — as the tokenizer at the same budget runs it — accepts
    that line too: the tokenizer does not fall through to the no-paragraph fallback there. -/
theorem testRulesH_true_real {cfg : Cfg} {chain : List RuleIdH} {f : Nat} {s s1 s2 : BState} {b : Bool}
    (hs : testRulesH cfg chain (f + 1) s = .ok (true, s1))
    (hr : runChainG (ruleAtH cfg chain f) chain s false = .ok (b, s2)) : b = true := by
  simp only [testRulesH, engineH] at hs
  exact runChainG_true_real
    (runRuleH_spec (cfg := cfg) (tokenizeH_tokSpec cfg chain f) (testRulesH_pure cfg chain f) (f + 1))
    (fun r s b s' h => silent_pure_ruleH h) (fun r s s1 s2 b h1 h2 => silent_implies_real_ruleH h1 h2)
    chain s s1 s2 b hs hr

/-- the encoding of the html node is faithful on the side of the fence rule: a node pushed by
    `fenceRule` never decodes as an html block (its marker is `~` or a back-tick) -/
theorem fence_not_html {s s' : BState} {b : Bool} (h : fenceRule s false = .ok (b, s')) :
    ∀ n ∈ s'.children, htmlContent? n.kind ≠ none → n ∈ s.children := by
  intro n hn hh
  rcases fenceRule_ok h with ⟨_, rfl⟩ |
    ⟨_, _, _, _, _, _, _, hm, _, _, _, _, ⟨hs, _⟩ | ⟨_, _, _, _, _, _, _, _, _, _, _, _, rfl⟩⟩
  · exact hn
  · cases hs
  · simp only [BState.push, List.mem_append, List.mem_singleton] at hn
    rcases hn with hn | rfl
    · exact hn
    · exfalso
      apply hh
      rcases hm with rfl | rfl <;> simp [htmlContent?]

/-! ## instances (by evaluation) -/

section examples

def cfgOfH (n : Nat) (chain : List RuleIdH) : CfgH :=
  { maxNesting := n, chain := chain, lookup := fun _ => none, L := fun c => [c], U := fun c => [c] }

/-- the ten rules in the order `cmark::add`, `html::add` registers them -/
def stockH : List RuleIdH :=
  [.base .code, .base .fence, .base .blockquote, .base .hr, .base .list, .base .reference, .html,
   .base .heading, .base .lheading, .base .paragraph]

/-- kind, range and (decoded html content, range) of the children, for the children of the root -/
structure NodeView where
  kind : Kind
  range : Option (Nat × Nat)
  kids : List (Option (List Char) × Option (Nat × Nat))
  deriving DecidableEq

def rootView : Except Panic (BNode × Refs.RefMap) → Option (List NodeView)
  | .ok (r, _) => some (r.children.map (fun n => ⟨n.kind, n.range, n.children.map (fun c => (htmlContent? c.kind, c.range))⟩))
  | .error _ => none

/-- kinds of the children of the root, html blocks as `codeFence [] '<' 0 content` -/
def rootKinds : Except Panic (BNode × Refs.RefMap) → Option (List Kind)
  | .ok (n, _) => some (n.children.map (·.kind))
  | .error _ => none

-- "a\n<div>\n*x*\n\n> <pre>\n> y": the html start interrupts the paragraph (look-ahead through the
-- html member), the block runs to the blank line; the `<pre>` block lives inside the quote
example : rootView (parseBlocksH (cfgOfH 100 stockH) "a\n<div>\n*x*\n\n> <pre>\n> y".toList) =
    some [⟨.paragraph, some (0, 1), [(none, none)]⟩,
          ⟨htmlKind "<div>\n*x*\n".toList, some (2, 11), []⟩,
          ⟨.blockquote, some (13, 24), [(some "<pre>\ny\n".toList, some (15, 24))]⟩] := by decide_lits
-- "<!--\n- x": an unclosed comment swallows the list
example : rootKinds (parseBlocksH (cfgOfH 100 stockH) "<!--\n- x".toList) = some [htmlKind "<!--\n- x\n".toList] := by
  decide_lits
-- the same source without the html rule (conservativity side): paragraph + list
example : rootKinds (parseBlocksH (cfgOfH 100 (stockH.filter (· ≠ .html))) "<!--\n- x".toList)
    = some [.paragraph, .bulletList '-'] := by decide_lits
-- sequence 7 (a complete tag alone on its line) opens a block but does not interrupt a paragraph
example : rootKinds (parseBlocksH (cfgOfH 100 stockH) "a\n<a>\n\n<a>\nb".toList)
    = some [.paragraph, htmlKind "<a>\nb\n".toList] := by decide_lits
-- the html rule alone, no paragraph rule: the fallback pushes the other lines
example : rootKinds (parseBlocksH (cfgOfH 100 [.html]) "x\n<?php\n?>\ny".toList)
    = some [.inlineRoot "x\n".toList [(0, 0)], htmlKind "<?php\n?>\n".toList, .inlineRoot "y\n".toList [(0, 11)]] := by
  decide_lits
-- html inside a list item inside a quote at `max_nesting = 1`: the quote is cut, nothing panics
example : rootKinds (parseBlocksH (cfgOfH 1 stockH) "> - <div>\n<div>".toList)
    = some [.blockquote, htmlKind "<div>\n".toList] := by decide_lits
-- `testRulesH_true_real`, hypotheses satisfiable: the look-ahead accepts line 1 of "a\n<div>"
example : ((testRulesH (cfgOfH 100 stockH).base stockH 3
    { BState.fresh "a\n<div>".toList .root [] with line := 1 }).toOption.map (·.1)) = some true := by decide_lits

end examples

/-! ## (e) line endings: CR, CR LF, a final newline, equal views (C10 at the block level, with html) -/

section lineEndings
open MdIt.Block.LE
open MdIt.Lines (linesT lfToCrlf lfToCr)

/-- **the ten-rule block pass in lock step** (the analogue of `Block.LE.parseBlocks_rel`) -/
theorem parseBlocksH_rel {ρ : Nat → Nat → Prop} (hs : Shift ρ) (cfg : CfgH) {s₁ s₂ : List Char}
    (h : StartRel ρ 0 0 (linesT s₁) (linesT s₂)) (hf : fuelFor cfg.base s₁ ≤ fuelFor cfg.base s₂) :
    FRel (BlocksRel ρ) (parseBlocksH cfg s₁) (parseBlocksH cfg s₂) := by
  unfold parseBlocksH
  rcases tokenizeH_sim cfg.base cfg.chain (ctx_of hs s₁ s₂) hf (srel_fresh hs h .root []) with
    h | ⟨a, b, h1, h2, S⟩ | ⟨e, h1, h2⟩
  · rw [h]; exact frel_fuel _
  · rw [h1, h2]; exact frel_ok ⟨S.nodeKind.symm, S.children, S.refs.symm⟩
  · rw [h1, h2]; exact frel_err _

/-- two sources with `StartRel` line lists: BOTH block passes succeed (`parseBlocksH_total`) and the
    results are related.  What is left of the fuel is the comparison `hf` of the two starting budgets (side 2
    may run longer); the hypothesis `hfuel` of `Block.LE.parseBlocks_cr` is gone. -/
theorem parseBlocksH_related {ρ : Nat → Nat → Prop} (hs : Shift ρ) (cfg : CfgH) {s₁ s₂ : List Char}
    (h : StartRel ρ 0 0 (linesT s₁) (linesT s₂)) (hf : fuelFor cfg.base s₁ ≤ fuelFor cfg.base s₂) :
    ∃ a b, parseBlocksH cfg s₁ = .ok a ∧ parseBlocksH cfg s₂ = .ok b ∧ BlocksRel ρ a b := by
  rcases parseBlocksH_rel hs cfg h hf with hA | hok | ⟨e, h1, _⟩
  · exact absurd hA (parseBlocksH_fuel cfg s₁)
  · exact hok
  · obtain ⟨r, m, ht⟩ := parseBlocksH_total cfg s₁
    rw [h1] at ht; cases ht

/-- **LF ↦ CR LF**: the same tree up to source offsets that only grow (kinds, payloads, html and
    `InlineRoot` contents EQUAL; ranges and per-line tables `≤`), the same reference map -/
theorem parseBlocksH_crlf (cfg : CfgH) (src : List Char) (h : '\r' ∉ src) :
    ∃ a b, parseBlocksH cfg src = .ok a ∧ parseBlocksH cfg (lfToCrlf src) = .ok b ∧ BlocksRel (· ≤ ·) a b :=
  have hS := linesT_crlf h
  parseBlocksH_related shift_le cfg hS (fuelFor_le cfg.base hS (byteLen_lfToCrlf src))

/-- **LF ↦ CR**: the SAME result — tree (ranges and per-line tables included) and reference map -/
theorem parseBlocksH_cr (cfg : CfgH) (src : List Char) (h : '\r' ∉ src) :
    parseBlocksH cfg (lfToCr src) = parseBlocksH cfg src := by
  have hS := linesT_cr h
  obtain ⟨a, b, h1, h2, hk, hc, hr⟩ := parseBlocksH_related shift_eq cfg hS
    (fuelFor_le cfg.base hS (by rw [byteLen_lfToCr]; exact Nat.le_refl _))
  have hrange : a.1.range = b.1.range := by
    obtain ⟨_, -, ea, -⟩ := parseBlocksH_ok (root := a.1) (refs := a.2) h1
    obtain ⟨_, -, eb, -⟩ := parseBlocksH_ok (root := b.1) (refs := b.2) h2
    rw [ea, eb, byteLen_lfToCr]
  rw [h1, h2]
  obtain ⟨⟨ka, ra, ca⟩, ma⟩ := a
  obtain ⟨⟨kb, rb, cb⟩, mb⟩ := b
  simp only at hk hc hr hrange
  rw [hk, NRelL.eq hc, hr, hrange]

/-- **a final newline**: the same children of the root (ranges and tables included) and the same
    reference map (the root's own range is `(0, |src|)`, one byte longer) -/
theorem parseBlocksH_final_newline (cfg : CfgH) (src : List Char)
    (h : src.getLast? ≠ some '\n' ∧ src.getLast? ≠ some '\r') :
    ∃ a b, parseBlocksH cfg src = .ok a ∧ parseBlocksH cfg (src ++ ['\n']) = .ok b ∧
      a.1.kind = b.1.kind ∧ a.1.children = b.1.children ∧ a.2 = b.2 := by
  have hS := linesT_final h
  obtain ⟨a, b, h1, h2, hk, hc, hr⟩ := parseBlocksH_related shift_eq cfg hS (fuelFor_le cfg.base hS (by simp))
  exact ⟨a, b, h1, h2, hk, NRelL.eq hc, hr⟩

/-- **equal views** (the same lines, whatever the terminators and offsets): the same tree up to
    source offsets, the same reference map -/
theorem parseBlocksH_views (cfg : CfgH) (s₁ s₂ : List Char) (h : Lines.views s₁ = Lines.views s₂)
    (hf : fuelFor cfg.base s₁ ≤ fuelFor cfg.base s₂) :
    ∃ a b, parseBlocksH cfg s₁ = .ok a ∧ parseBlocksH cfg s₂ = .ok b ∧ BlocksRel (fun _ _ => True) a b :=
  parseBlocksH_related shift_true cfg (startRel_true _ _ 0 0 (lines_of_views h)) hf

-- non-vacuity: an html block interrupting a paragraph and one inside a quote, CR LF / CR vs LF
example : rootKinds (parseBlocksH (cfgOfH 100 stockH) "a\r\n<div>\r\n\r\n> <pre>".toList)
    = rootKinds (parseBlocksH (cfgOfH 100 stockH) "a\n<div>\n\n> <pre>".toList) ∧
    rootKinds (parseBlocksH (cfgOfH 100 stockH) "a\r<div>\r\r> <pre>".toList)
    = some [.paragraph, htmlKind "<div>\n".toList, .blockquote] ∧
    lfToCr "a\n<div>\n\n> <pre>".toList = "a\r<div>\r\r> <pre>".toList := by
  decide_lits

end lineEndings

end MdIt.BlockH
