/-
  The whole document pipeline WITH the raw-HTML plugin (`MdIt/Model/PipelineH.lean`, validated against
  the real crate by the differential stream `pipelineh`): property theorems.

  (a) CONSERVATIVITY.  `parseDocH_conservative`, `parseDocH_conservative'`, `renderDocH_conservative`,
      `renderDocH_conservative'`: for a configuration without the two html rules the model IS
      `Pipeline.parseDoc` / `Pipeline.renderDoc` — every whole-document theorem about html-free
      configurations (`Props/Pipeline.lean`, `Props/DocTotal.lean`, C03 / C05 / C10 / C13 / C14 …) is a
      theorem about `parseDocH` / `renderDocH` on such configurations.
  (b) ONLY AN INLINE RUN CAN PANIC.  `parseDocH_panic_inline_only`, `renderDocH_panic_inline_only`:
      for EVERY configuration over the extended enumerations (html rules anywhere, either or both),
      every `max_nesting`, every source, with or without sourcepos, a panic of `src ↦ tree` and of
      `src ↦ html` (both serializers) is a panic of one of the `md.inline.parse` calls: the block pass is
      total (`BlockH.parseBlocksH_total`), splice / join / sourcepos are total, and the parsed tree is
      `Renderable` (`parseDocH_final`, `docH_render_total`: ATX / setext levels in range —
      `parseBlocksH_wf`, the well-formedness of the block tree lifted to the ten-rule engine —, no
      placeholder left — `parseInlineH_vals`, the value invariant lifted to the extended inline chain).
  (c) `renderDocH_raw_only_from_html`: every `raw` event of the rendering is the content of an html
      node of the rendered tree; with both html rules off there is none (`renderEventsH_no_raw`).
  (d) `docH_total_of_inline` (total relative to the inline runs), `docH_total_of_docMemoSafeH` (executable check,
      any chain), `doc_totalH_flat_of_tables`, `docH_tables_mapOK` (placeholder tables well formed: the geometric
      invariant lifted to the ten-rule engine), `doc_totalH_flat` (tab-free sources, placeholder contents within the
      inline size bound), `doc_totalH_flat_src` (hypotheses on the source only: `docH_content_len`).
  (e) `parseDocH_cr`, `renderDocH_cr`: LF ↦ CR invariance (sourcepos off), an equation.
  (f) C14 with html: `doc_tree_wfH` (`Pipeline.WF` of the parsed tree), `doc_html_placesH` (where html nodes
      occur), `doc_inline_leavesH` (inline leaf kinds are childless).
  (g) C05 with html: `docH_root_range`, `docH_block_ranges` / `docH_html_block_ranges` (every block-level node has
      a range inside the source), `docH_html_inline_ranges` (flat chains), `docH_html_inline_ranges_memoSafe`
      (any chain, under the executable memo check).
-/
import MdIt.Props.BlockH
import MdIt.Props.InlineH
import MdIt.Props.DocTotal
import MdIt.Props.InlineTotal
import MdIt.Lemmas.PipelineH
import MdIt.Lemmas.PipelineHGeo
import MdIt.Lemmas.Placeholders
import MdIt.Model.PipelineH
import MdIt.Lemmas.PipelineHLen
import MdIt.Lemmas.PipelineHShape
import MdIt.Lemmas.PipelineHRanges
import MdIt.Props.C14Doc
import MdIt.Lemmas.KernelEval

namespace MdIt.PipelineH
open MdIt.Pipeline

/-! ## (a) conservativity -/

theorem spliceListG_parseInline (icfg : Inline.Cfg) (cs : List Block.BNode) :
    spliceListG (Inline.parseInline icfg) cs = spliceList icfg cs :=
  Pipeline.spliceListG_parseInline icfg cs

theorem spliceListG_panic {parse : List Char → InlineOps.Srcmap → Except Inline.Panic (List Inline.Node)}
    (cs : List Block.BNode) (e : Panic) (h : spliceListG parse cs = .error e) : ∃ p, e = .inline p :=
  Pipeline.spliceListG_panic cs e h

theorem spliceListG_every {para markers : Bool}
    {parse : List Char → InlineOps.Srcmap → Except Inline.Panic (List Inline.Node)}
    (hp : ∀ c m ns, parse c m = .ok ns → ∀ x ∈ ofInlineList ns, Every (Spliced markers) x)
    (cs : List Block.BNode)
    (hw : ∀ c ∈ cs, Block.WFB para c) (out : List Node) (h : spliceListG parse cs = .ok out) :
    ∀ c ∈ out, Every (Spliced markers) c :=
  spliceList_every_of (fun _ h _ => h.child) (fun _ c m ns _ _ hns => hp c m ns hns)
    (fun _ _ hw hk _ _ => ⟨rfl, BlkOK_of_loc hw.at (fun t m e => hk ⟨t, m, e⟩)⟩) cs hw out h

theorem spliceListG_wf {para markers : Bool}
    {parse : List Char → InlineOps.Srcmap → Except Inline.Panic (List Inline.Node)}
    (hp : ∀ c m ns, parse c m = .ok ns → ∀ x ∈ ofInlineList ns, Every (LocN para markers false) x)
    (cs : List Block.BNode)
    (hw : ∀ c ∈ cs, Block.WFB para c) (out : List Node) (h : spliceListG parse cs = .ok out) :
    ∀ c ∈ out, Every (LocN para markers false) c :=
  spliceList_wf_of hp cs hw out h

theorem spliceListG_shape {parse : List Char → InlineOps.Srcmap → Except Inline.Panic (List Inline.Node)}
    (hp : ∀ c m ns, parse c m = .ok ns → Inline.AllShapeList ns)
    (cs : List Block.BNode) (out : List Node)
    (h : spliceListG parse cs = .ok out) : ∀ c ∈ out, Every ShapeD c :=
  spliceList_every_of (B := fun _ => True) (fun _ _ _ _ _ => trivial)
    (fun _ c m ns _ _ hns => ofInlineList_shape ns (hp c m ns hns))
    (fun _ _ _ _ _ _ => shapeD_blk _ _ _ _) cs (fun _ _ => trivial) out h

theorem kindToRenderH_ff (lp : List Char) (k : Kind) : kindToRenderH false false lp k = k.toRender lp := by
  cases k <;> rfl

mutual
theorem toRenderH_ff (lp : List Char) (t : Node) : toRenderH false false lp t = toRender lp t := by
  match t with
  | ⟨k, r, a, cs⟩ => simp only [toRenderH, toRender, kindToRenderH_ff, toRenderListH_ff lp cs]
theorem toRenderListH_ff (lp : List Char) (cs : List Node) :
    toRenderListH false false lp cs = toRenderList lp cs := by
  match cs with
  | [] => simp only [toRenderListH, toRenderList]
  | c :: r => simp only [toRenderListH, toRenderList, toRenderH_ff lp c, toRenderListH_ff lp r]
end

theorem any_isEmphH_map (l : List Inline.RuleId) :
    (l.map InlineH.RuleIdH.base).any isEmphH = l.any Inline.RuleId.isEmph := by
  induction l with
  | nil => rfl
  | cons r rs ih => simp only [List.map_cons, List.any_cons, ih, isEmphH]

theorem hasJoin_ofCfg (cfg : DocCfg) : (DocCfgH.ofCfg cfg).hasJoin = cfg.hasJoin :=
  any_isEmphH_map cfg.inlineChain

theorem htmlBlock_ofCfg (cfg : DocCfg) : (DocCfgH.ofCfg cfg).htmlBlock = false := by
  simp [DocCfgH.htmlBlock, DocCfgH.ofCfg]

theorem htmlInline_ofCfg (cfg : DocCfg) : (DocCfgH.ofCfg cfg).htmlInline = false := by
  simp [DocCfgH.htmlInline, DocCfgH.ofCfg]

theorem afterBlocksH_conservative (cfg : DocCfg) (src : List Char) (root : Block.BNode) (refs : Refs.RefMap) :
    afterBlocksH (DocCfgH.ofCfg cfg) src root refs = afterBlocks cfg src root refs := by
  unfold afterBlocksH afterBlocks
  have hp : InlineH.parseInlineH ((DocCfgH.ofCfg cfg).inlineCfg refs) = Inline.parseInline (cfg.inlineCfg refs) := by
    funext content mapping
    exact InlineH.parseInlineH_conservative (cfg.inlineCfg refs) content mapping
  rw [hp, spliceNodeG_parseInline, hasJoin_ofCfg]
  rfl

/-- **(a) conservativity, parse**: an html-free configuration, read as a configuration over the
    extended enumerations, parses every source exactly as `Pipeline.parseDoc` does (same tree with
    ranges and attributes, same panic if any) -/
theorem parseDocH_conservative (cfg : DocCfg) (src : List Char) :
    parseDocH (DocCfgH.ofCfg cfg) src = parseDoc cfg src := by
  unfold parseDocH parseDoc
  have hb : BlockH.parseBlocksH (DocCfgH.ofCfg cfg).blockCfg src = Block.parseBlocks cfg.blockCfg src :=
    BlockH.parseBlocksH_conservative cfg.blockCfg src
  rw [hb]
  cases Block.parseBlocks cfg.blockCfg src with
  | error e => rfl
  | ok w => obtain ⟨root, refs⟩ := w; exact afterBlocksH_conservative cfg src root refs

/-- **(a) conservativity, render**: … and renders it exactly as `Pipeline.renderDoc` does, in both
    serializers -/
theorem renderDocH_conservative (x : Bool) (cfg : DocCfg) (src : List Char) :
    renderDocH x (DocCfgH.ofCfg cfg) src = renderDoc x cfg src := by
  unfold renderDocH renderDoc
  rw [parseDocH_conservative]
  cases parseDoc cfg src with
  | error e => rfl
  | ok t =>
    have : renderEventsH (DocCfgH.ofCfg cfg) t = renderEvents cfg t := by
      unfold renderEventsH renderEvents
      rw [htmlBlock_ofCfg, htmlInline_ofCfg, toRenderH_ff]
      rfl
    simp only [this]
    cases renderEvents cfg t <;> rfl

theorem bmap_filterMap : ∀ (l : List InlineH.RuleIdH), InlineH.RuleIdH.html ∉ l →
    (l.filterMap InlineH.RuleIdH.base?).map .base = l
  | [], _ => rfl
  | .base r :: rs, h => by
    simp only [List.filterMap_cons, InlineH.RuleIdH.base?, List.map_cons]
    rw [bmap_filterMap rs (fun hm => h (List.mem_cons_of_mem _ hm))]
  | .html :: _, h => absurd (List.mem_cons_self ..) h

theorem ofCfg_base (cfg : DocCfgH) (hb : BlockH.RuleIdH.html ∉ cfg.blockChain)
    (hi : InlineH.RuleIdH.html ∉ cfg.inlineChain) : DocCfgH.ofCfg cfg.base = cfg := by
  cases cfg
  simp only [DocCfgH.ofCfg, DocCfgH.base] at *
  rw [BlockH.map_base_filterMap _ hb, bmap_filterMap _ hi]

/-- **(a)** the same from the side of a `DocCfgH` whose chains do not contain the html rules -/
theorem parseDocH_conservative' (cfg : DocCfgH) (hb : BlockH.RuleIdH.html ∉ cfg.blockChain)
    (hi : InlineH.RuleIdH.html ∉ cfg.inlineChain) (src : List Char) :
    parseDocH cfg src = parseDoc cfg.base src := by
  rw [← parseDocH_conservative, ofCfg_base cfg hb hi]

theorem renderDocH_conservative' (x : Bool) (cfg : DocCfgH) (hb : BlockH.RuleIdH.html ∉ cfg.blockChain)
    (hi : InlineH.RuleIdH.html ∉ cfg.inlineChain) (src : List Char) :
    renderDocH x cfg src = renderDoc x cfg.base src := by
  rw [← renderDocH_conservative, ofCfg_base cfg hb hi]

/-! ## (b) only an inline run can panic -/

theorem any_isEmph_filterMap (l : List InlineH.RuleIdH) :
    (l.filterMap InlineH.RuleIdH.base?).any Inline.RuleId.isEmph = l.any isEmphH := by
  induction l with
  | nil => rfl
  | cons r rs ih =>
    cases r with
    | base r => simp only [List.filterMap_cons, InlineH.RuleIdH.base?, List.any_cons, ih, isEmphH]
    | html => simp only [List.filterMap_cons, InlineH.RuleIdH.base?, List.any_cons, ih, isEmphH, Bool.false_or]

theorem hasEmph_inlineCfgH (cfg : DocCfgH) (refs : Refs.RefMap) :
    (cfg.inlineCfg refs).base.hasEmph = cfg.hasJoin := any_isEmph_filterMap cfg.inlineChain

theorem parseInlineH_spliced (cfg : DocCfgH) (refs : Refs.RefMap) (c : List Char) (m : InlineOps.Srcmap)
    (ns : List Inline.Node) (h : InlineH.parseInlineH (cfg.inlineCfg refs) c m = .ok ns) :
    ∀ x ∈ ofInlineList ns, Every (Spliced cfg.hasJoin) x := by
  have hv := InlineH.parseInlineH_vals (cfg.inlineCfg refs) (valOK_good (cfg.inlineCfg refs).base) h
  have := ofInlineList_every ns hv
  rw [hasEmph_inlineCfgH] at this
  exact this

theorem parseDocH_ok {cfg : DocCfgH} {src : List Char} {t : Node} (h : parseDocH cfg src = .ok t) :
    ∃ root refs t0, BlockH.parseBlocksH cfg.blockCfg src = .ok (root, refs) ∧
      spliceNodeG (InlineH.parseInlineH (cfg.inlineCfg refs)) root = .ok t0 ∧
      finish cfg.hasJoin cfg.sourcepos src t0 = .ok t := by
  unfold parseDocH at h
  split at h
  · cases h
  · rename_i root refs hb
    unfold afterBlocksH at h
    split at h
    · cases h
    · rename_i t0 hs
      exact ⟨root, refs, t0, hb, hs, h⟩
/-- **The invariant of the parsed tree, with the html plugin** (`Pipeline.parseDoc_final`): whatever
    `parseDocH` returns is rooted at `Root` and every node of it is `Final` — its attributes are all
    `data-sourcepos`, its value is no `InlineRoot`, no `EmphMarker`, ATX levels in `1..6`, setext levels
    in `1..2`.  For EVERY configuration over the extended enumerations. -/
theorem parseDocH_final {cfg : DocCfgH} {src : List Char} {t : Node} (h : parseDocH cfg src = .ok t) :
    Every Final t ∧ t.kind = .blk .root := by
  obtain ⟨root, refs, t0, hb, hs, hf⟩ := parseDocH_ok h
  obtain ⟨hroot, hwf⟩ := BlockH.parseBlocksH_wf hb
  have := final_of_passes hroot hwf (parseInlineH_spliced cfg refs) hs hf
  exact ⟨this.1, this.2.1⟩

/-- **(b), parse**: for every configuration (html rules anywhere, either or both) and every source,
    `parseDocH` either returns a tree or fails inside one of the `md.inline.parse` calls: the block
    pass with the html rule is total, the splice walk, the join pass and `SyntaxPosRule` add no panic. -/
theorem parseDocH_panic_inline_only {cfg : DocCfgH} {src : List Char} {e : Panic}
    (h : parseDocH cfg src = .error e) : ∃ p, e = .inline p := by
  obtain ⟨root, refs, hb⟩ := BlockH.parseBlocksH_total cfg.blockCfg src
  unfold parseDocH at h
  rw [hb] at h
  simp only at h
  unfold afterBlocksH at h
  split at h
  · next e' he' => cases h; exact spliceNodeG_panic _ _ he'
  · exact absurd h (finish_no_panic cfg.hasJoin cfg.sourcepos src _)

theorem parseDocH_blocks_ok (cfg : DocCfgH) (src : List Char) :
    ∃ root refs, BlockH.parseBlocksH cfg.blockCfg src = .ok (root, refs) ∧
      parseDocH cfg src = afterBlocksH cfg src root refs := by
  obtain ⟨root, refs, hb⟩ := BlockH.parseBlocksH_total cfg.blockCfg src
  exact ⟨root, refs, hb, by unfold parseDocH; rw [hb]⟩

/-! ### the projection: every node of the rendered tree comes from a node of the document -/

mutual
/-- every node of a document tree, pre-order -/
def dnodes : Node → List Node
  | ⟨k, r, a, cs⟩ => ⟨k, r, a, cs⟩ :: dnodesList cs
def dnodesList : List Node → List Node
  | [] => []
  | c :: cs => dnodes c ++ dnodesList cs
end

theorem mem_dnodesList {n : Node} {cs : List Node} (h : n ∈ dnodesList cs) : ∃ c ∈ cs, n ∈ dnodes c := by
  induction cs with
  | nil => cases h
  | cons c r ih =>
    rcases List.mem_append.mp (by simpa only [dnodesList] using h) with h | h
    · exact ⟨c, List.mem_cons_self, h⟩
    · exact (ih h).imp fun x hx => ⟨List.mem_cons_of_mem _ hx.1, hx.2⟩

/-- the members of `dnodes t` are nodes `Within` `t` -/
theorem within_of_mem_dnodes {n : Node} (t : Node) : n ∈ dnodes t → Within n t := by
  induction t using node_induct with
  | step t ih =>
    intro hn
    rw [show dnodes t = t :: dnodesList t.children by cases t; rfl, List.mem_cons] at hn
    refine hn.elim (fun e => e ▸ .self _) fun hn => ?_
    obtain ⟨c, hc, hn⟩ := mem_dnodesList hn
    exact .under hc (ih c hc hn)

theorem every_dnodes {P : Node → Prop} (t : Node) (h : Every P t) : ∀ n ∈ dnodes t, P n :=
  fun _ hn => h.within (within_of_mem_dnodes t hn)

mutual
theorem toRenderH_nodes (hb hi : Bool) (lp : List Char) (t : Node) :
    ∀ m ∈ NodeRender.nodes (toRenderH hb hi lp t), ∃ n ∈ dnodes t,
      m.kind = kindToRenderH hb hi lp n.kind ∧ m.attrs = n.attrs := by
  match t with
  | ⟨k, r, a, cs⟩ =>
    intro m hm
    simp only [toRenderH, NodeRender.nodes, List.mem_cons] at hm
    rcases hm with rfl | hm
    · exact ⟨⟨k, r, a, cs⟩, by simp [dnodes], rfl, rfl⟩
    · obtain ⟨n, hn, h1⟩ := toRenderListH_nodes hb hi lp cs m hm
      exact ⟨n, by simp only [dnodes, List.mem_cons]; exact .inr hn, h1⟩
theorem toRenderListH_nodes (hb hi : Bool) (lp : List Char) (cs : List Node) :
    ∀ m ∈ NodeRender.nodesList (toRenderListH hb hi lp cs), ∃ n ∈ dnodesList cs,
      m.kind = kindToRenderH hb hi lp n.kind ∧ m.attrs = n.attrs := by
  match cs with
  | [] => simp [toRenderListH, NodeRender.nodesList]
  | c :: r =>
    intro m hm
    simp only [toRenderListH, NodeRender.nodesList, List.mem_append] at hm
    rcases hm with hm | hm
    · obtain ⟨n, hn, h1⟩ := toRenderH_nodes hb hi lp c m hm
      exact ⟨n, by simp only [dnodesList, List.mem_append]; exact .inl hn, h1⟩
    · obtain ⟨n, hn, h1⟩ := toRenderListH_nodes hb hi lp r m hm
      exact ⟨n, by simp only [dnodesList, List.mem_append]; exact .inr hn, h1⟩
end

theorem kindToRenderH_cases (hb hi : Bool) (lp : List Char) (k : Kind) :
    (hb = true ∧ ∃ b c, k = .blk b ∧ BlockH.htmlContent? b = some c ∧ kindToRenderH hb hi lp k = .htmlBlock c) ∨
    (hi = true ∧ ∃ v c, k = .inl v ∧ InlineH.htmlContent? v = some c ∧ kindToRenderH hb hi lp k = .htmlInline c) ∨
    kindToRenderH hb hi lp k = k.toRender lp := by
  cases k with
  | blk b =>
    cases hb with
    | false => exact .inr (.inr rfl)
    | true =>
      cases hc : BlockH.htmlContent? b with
      | none => refine .inr (.inr ?_); simp only [kindToRenderH, hc]
      | some c => refine .inl ⟨rfl, b, c, rfl, hc, ?_⟩; simp only [kindToRenderH, hc]
  | inl v =>
    cases hi with
    | false => exact .inr (.inr rfl)
    | true =>
      cases hc : InlineH.htmlContent? v with
      | none => refine .inr (.inr ?_); simp only [kindToRenderH, hc]
      | some c => refine .inr (.inl ⟨rfl, v, c, rfl, hc, ?_⟩); simp only [kindToRenderH, hc]

theorem kindToRenderH_panic (hb hi : Bool) (lp : List Char) (k : Kind) (hk : KindOK false k) :
    (kindToRenderH hb hi lp k).panic? = none := by
  rcases kindToRenderH_cases hb hi lp k with ⟨_, b, c, _, _, e⟩ | ⟨_, v, c, _, _, e⟩ | e
  · rw [e]; rfl
  · rw [e]; rfl
  · rw [e]; exact (NodeRender.Kind.panic?_eq_none_iff _).mpr (toRender_level lp k hk)

theorem final_renderableH (hb hi : Bool) (lp : List Char) (t : Node) (he : Every Final t) :
    NodeRender.Renderable (toRenderH hb hi lp t) ∧ NodeRender.AttrsSourcepos (toRenderH hb hi lp t) := by
  constructor
  · intro m hm
    obtain ⟨n, hn, hk, _⟩ := toRenderH_nodes hb hi lp t m (NodeRender.visited_subset_nodes _ m hm)
    rw [hk]
    exact kindToRenderH_panic hb hi lp n.kind (every_dnodes t he n hn).2
  · intro m hm
    obtain ⟨n, hn, _, ha⟩ := toRenderH_nodes hb hi lp t m (NodeRender.visited_subset_nodes _ m hm)
    rw [ha]
    exact (every_dnodes t he n hn).1

/-- **`docH_render_total`**: `render` / `xrender` of a tree parsed with the html plugin never panic -/
theorem docH_render_total (cfg : DocCfgH) (src : List Char) (t : Node) (h : parseDocH cfg src = .ok t) :
    ∃ evs, renderEventsH cfg t = .ok evs ∧ ∀ x, renderDocH x cfg src = .ok (Render.serialize x evs) := by
  obtain ⟨evs, he⟩ := (NodeRender.render_total cfg.entity _).mpr
    (final_renderableH cfg.htmlBlock cfg.htmlInline cfg.langPrefix t (parseDocH_final h).1).1
  refine ⟨evs, by simp [renderEventsH, he], fun x => ?_⟩
  simp [renderDocH, h, renderEventsH, he]

/-- **(b), render**: a panic of `src ↦ html` (either serializer) with raw HTML enabled is a panic of
    one of the inline runs -/
theorem renderDocH_panic_inline_only {x : Bool} {cfg : DocCfgH} {src : List Char} {e : Panic}
    (h : renderDocH x cfg src = .error e) : ∃ p, e = .inline p := by
  cases hp : parseDocH cfg src with
  | error e' =>
    have : renderDocH x cfg src = .error e' := by simp [renderDocH, hp]
    rw [this] at h; cases h
    exact parseDocH_panic_inline_only hp
  | ok t =>
    obtain ⟨evs, _, hr⟩ := docH_render_total cfg src t hp
    rw [hr x] at h; cases h

/-! ## (c) every `raw` event comes from an html node -/

/-- **(c)**: every `text_raw` call of the rendering of a document tree hands over the content of an
    html node of that tree, and of the kind whose rule is loaded: an `HtmlBlock` (only when the html
    block rule is in the block chain) or an `HtmlInline` (only when the html inline rule is in the
    inline chain).  For ANY tree (not only parsed ones). -/
theorem renderEventsH_raw_only_from_html (cfg : DocCfgH) (t : Node) (evs : List Render.Event)
    (h : renderEventsH cfg t = .ok evs) (s : List Char) (hs : Render.Event.raw s ∈ evs) :
    ∃ n ∈ dnodes t,
      (cfg.htmlBlock = true ∧ ∃ b, n.kind = .blk b ∧ BlockH.htmlContent? b = some s) ∨
      (cfg.htmlInline = true ∧ ∃ v, n.kind = .inl v ∧ InlineH.htmlContent? v = some s) := by
  unfold renderEventsH at h
  split at h
  · cases h
  · rename_i evs' he
    cases h
    have hr := NodeRender.html_nodes_are_the_only_raw cfg.entity _ evs he
    rw [← NodeRender.mem_rawsOf, hr, List.mem_filterMap] at hs
    obtain ⟨m, hm, hc⟩ := hs
    obtain ⟨n, hn, hk, _⟩ := toRenderH_nodes _ _ _ t m (NodeRender.visited_subset_nodes _ m hm)
    refine ⟨n, hn, ?_⟩
    rw [hk] at hc
    rcases kindToRenderH_cases cfg.htmlBlock cfg.htmlInline cfg.langPrefix n.kind with
      ⟨h1, b, c, e1, e2, e3⟩ | ⟨h1, v, c, e1, e2, e3⟩ | e
    · rw [e3] at hc
      simp only [NodeRender.Kind.htmlContent?, Option.some.injEq] at hc
      exact .inl ⟨h1, b, e1, hc ▸ e2⟩
    · rw [e3] at hc
      simp only [NodeRender.Kind.htmlContent?, Option.some.injEq] at hc
      exact .inr ⟨h1, v, e1, hc ▸ e2⟩
    · rw [e] at hc
      have := toRender_not_html cfg.langPrefix n.kind
      cases hk' : Kind.toRender cfg.langPrefix n.kind <;> rw [hk'] at hc <;>
        simp [NodeRender.Kind.htmlContent?] at hc
      · exact absurd hk' (this.1 _)
      · exact absurd hk' (this.2 _)

/-- **(c), whole pipeline** -/
theorem renderDocH_raw_only_from_html (cfg : DocCfgH) (src : List Char) (t : Node) (evs : List Render.Event)
    (_hp : parseDocH cfg src = .ok t) (h : renderEventsH cfg t = .ok evs) (s : List Char)
    (hs : Render.Event.raw s ∈ evs) :
    ∃ n ∈ dnodes t,
      (cfg.htmlBlock = true ∧ ∃ b, n.kind = .blk b ∧ BlockH.htmlContent? b = some s) ∨
      (cfg.htmlInline = true ∧ ∃ v, n.kind = .inl v ∧ InlineH.htmlContent? v = some s) :=
  renderEventsH_raw_only_from_html cfg t evs h s hs

/-- **(c), plugin off**: without the two html rules the rendering issues no `text_raw` call at all —
    the C03 statement about html-free configurations is untouched -/
theorem renderEventsH_no_raw (cfg : DocCfgH) (hb : cfg.htmlBlock = false) (hi : cfg.htmlInline = false)
    (t : Node) (evs : List Render.Event) (h : renderEventsH cfg t = .ok evs) :
    ∀ s, Render.Event.raw s ∉ evs := by
  intro s hs
  obtain ⟨n, _, ⟨h1, _⟩ | ⟨h1, _⟩⟩ := renderEventsH_raw_only_from_html cfg t evs h s hs
  · rw [hb] at h1; cases h1
  · rw [hi] at h1; cases h1

/-! ## (d) totality

    `docH_total_of_inline`: the whole pipeline with the html plugin is total RELATIVE to the inline runs.
    `docH_total_of_docMemoSafeH`: … hence on every document that passes the executable memo check
    (`InlineH.memoSafeH`; any chain, link / image included).
    `doc_totalH_flat_of_tables`: for every configuration whose inline chain has neither the link nor the
    image rule (html anywhere, emphasis markers single bytes) every source whose placeholder tables are
    `MapOK` and whose placeholder contents are within `SizeOK` parses and renders in both serializers.

    `docH_tables_mapOK`: the table hypothesis DISCHARGED for tab-free sources: `Pipeline.doc_placeholder_tables`
    lifts to the ten-rule block engine (`Lemmas/PipelineHGeo.lean`: `Block.tokLoop_geoI` is generic in the
    runner and applies through `BlockH.tokLoopG_eq`, the nine rules' lemmas verbatim, the html rule by
    `html_geo` — the proof text of `Block.fence_geo`; placeholders have no range by the grammar of block trees).
    `doc_totalH_flat`: paragraph rule, raw HTML on, no link / image rule, tab-free source within the `i32` bound
    of the block side: total in both serializers when every placeholder content is within the size bound of the
    inline side (`hlen`).  `doc_totalH_flat_src` discharges `hlen` from the source: the content of a placeholder is
    no longer than the source (`BlockH.parseBlocksH_content_len`), so `4 * |src| + 8 < 2^31` and
    `max_nesting ≤ 2^30` give the bound.  The html-free flat theorem (`Inline.parseInline_no_panic_flat`) needs no
    size bound: the bound is new with `link_level`. -/

theorem spliceListG_total {parse : List Char → InlineOps.Srcmap → Except Inline.Panic (List Inline.Node)}
    (cs : List Block.BNode) (h : PlaceholdersList (fun c m => ∃ cs, parse c m = .ok cs) cs) :
    ∃ out, spliceListG parse cs = .ok out :=
  Pipeline.spliceListG_total cs h

/-- **(d), relative to the inline runs**: if every `md.inline.parse` call the document makes returns a
    tree, `md.parse(src)` returns a tree and both renderers return a string — every configuration with the
    html plugin, every source -/
theorem docH_total_of_inline (cfg : DocCfgH) (src : List Char)
    (h : ∀ root refs, BlockH.parseBlocksH cfg.blockCfg src = .ok (root, refs) →
      Placeholders (fun c m => ∃ cs, InlineH.parseInlineH (cfg.inlineCfg refs) c m = .ok cs) root) :
    (∃ t, parseDocH cfg src = .ok t) ∧ ∀ x, ∃ html, renderDocH x cfg src = .ok html := by
  obtain ⟨root, refs, hb, hp⟩ := parseDocH_blocks_ok cfg src
  obtain ⟨t0, ht0⟩ := spliceNodeG_total root (h root refs hb)
  have hdoc : ∃ t, parseDocH cfg src = .ok t := by
    rw [hp]
    unfold afterBlocksH
    rw [ht0]
    exact finish_total cfg.hasJoin cfg.sourcepos src t0
  refine ⟨hdoc, ?_⟩
  obtain ⟨t, ht⟩ := hdoc
  obtain ⟨evs, _, hr⟩ := docH_render_total cfg src t ht
  exact fun x => ⟨_, hr x⟩

/-- the memo check of a whole document with the html plugin: every inline run passes `InlineH.memoSafeH` -/
def docMemoSafeH (cfg : DocCfgH) (src : List Char) : Bool :=
  match BlockH.parseBlocksH cfg.blockCfg src with
  | .error _ => false
  | .ok (root, refs) => placeholdersB (fun c m => InlineH.memoSafeH (cfg.inlineCfg refs) c m) root

/-- **`md.parse` / `render` / `xrender` with the html plugin are total on every document that passes the
    memo check** (any chain: link, image, html, …; an executable hypothesis) -/
theorem docH_total_of_docMemoSafeH (cfg : DocCfgH) (src : List Char) (h : docMemoSafeH cfg src = true) :
    (∃ t, parseDocH cfg src = .ok t) ∧ ∀ x, ∃ html, renderDocH x cfg src = .ok html := by
  apply docH_total_of_inline
  intro root refs hb
  unfold docMemoSafeH at h
  rw [hb] at h
  exact (placeholdersB_sound root h).imp (fun c m hm => InlineH.parseInlineH_total_of_memoSafeH _ hm)

/-- **(d) `doc_totalH_flat`, relative to the placeholder tables**: raw HTML on (or off), an inline chain
    without the link and the image rule, emphasis markers single bytes: every source whose placeholders
    have well-formed tables (`Inline.MapOK`) and contents within the size bound of the inline side
    (`2 * |content| + max_nesting < 2^31 - 1`) parses and renders in both serializers without panic. -/
theorem doc_totalH_flat_of_tables (cfg : DocCfgH) (src : List Char)
    (hfl : InlineH.RuleIdH.base .link ∉ cfg.inlineChain ∧ InlineH.RuleIdH.base .image ∉ cfg.inlineChain)
    (hsz : ∀ mk csw, InlineH.RuleIdH.base (.emph mk csw) ∈ cfg.inlineChain → mk.utf8Size = 1)
    (htab : ∀ root refs, BlockH.parseBlocksH cfg.blockCfg src = .ok (root, refs) →
      Placeholders (fun c m => Inline.MapOK c m ∧ 2 * InlineOps.byteLen c + cfg.maxNesting < 2 ^ 31 - 1) root) :
    (∃ t, parseDocH cfg src = .ok t) ∧ ∀ x, ∃ html, renderDocH x cfg src = .ok html := by
  apply docH_total_of_inline
  intro root refs hb
  exact (htab root refs hb).imp (fun c m hm =>
    InlineH.parseInlineH_total_flat (cfg.inlineCfg refs) hfl hsz hm.1 hm.2)


theorem docH_tables_mapOK (cfg : DocCfgH) (src : List Char)
    (hsmall : 4 * Lines.byteLen src + 8 < 2147483648) (hpara : BlockH.hasParaH cfg.blockChain = true)
    (htab : '\t' ∉ src) {root : Block.BNode} {refs : Refs.RefMap}
    (hb : BlockH.parseBlocksH cfg.blockCfg src = .ok (root, refs)) :
    Block.AllInl (fun c m => Inline.MapOK c m) root :=
  (BlockH.parseBlocksH_placeholder_tables cfg.blockCfg src hsmall hpara hb).2.imp
    (fun _ _ ⟨_, _, h⟩ => h.2.2.2.2.1 (h.2.2.2.2.2.1 htab))

/-- **(d) `doc_totalH_flat`**: every configuration with the paragraph rule, raw HTML on (block and / or
    inline rule anywhere in the chains), an inline chain without the link and the image rule, emphasis
    markers single bytes, any `max_nesting`, sourcepos on or off: every TAB-FREE source within the `i32`
    bound of the block side whose placeholder contents are within the size bound of the inline side
    (`hlen`; discharged in `doc_totalH_flat_src`) parses and renders in both serializers without panic. -/
theorem doc_totalH_flat (cfg : DocCfgH) (src : List Char)
    (hfl : InlineH.RuleIdH.base .link ∉ cfg.inlineChain ∧ InlineH.RuleIdH.base .image ∉ cfg.inlineChain)
    (hsz : ∀ mk csw, InlineH.RuleIdH.base (.emph mk csw) ∈ cfg.inlineChain → mk.utf8Size = 1)
    (hpara : BlockH.hasParaH cfg.blockChain = true)
    (hsmall : 4 * Lines.byteLen src + 8 < 2147483648) (htab : '\t' ∉ src)
    (hlen : ∀ root refs, BlockH.parseBlocksH cfg.blockCfg src = .ok (root, refs) →
      Block.AllInl (fun c _ => 2 * InlineOps.byteLen c + cfg.maxNesting < 2 ^ 31 - 1) root) :
    (∃ t, parseDocH cfg src = .ok t) ∧ ∀ x, ∃ html, renderDocH x cfg src = .ok html := by
  apply doc_totalH_flat_of_tables cfg src hfl hsz
  intro root refs hb
  have hall := allInl_and (Q3 := fun c m => Inline.MapOK c m ∧ 2 * InlineOps.byteLen c + cfg.maxNesting < 2 ^ 31 - 1)
    (fun _ _ h1 h2 => ⟨h1, h2⟩) (docH_tables_mapOK cfg src hsmall hpara htab hb) (hlen root refs hb)
  exact placeholders_of_allInl hall (BlockH.parseBlocksH_inlNoRange hb)

/-! ## (e) line endings -/

open MdIt.Lines (lfToCr) in
/-- **(e) LF ↦ CR, parse** (sourcepos off): the SAME tree, ranges included — an equation, for every
    configuration with the html plugin, no fuel / panic hypothesis (`BlockH.parseBlocksH_cr`) -/
theorem parseDocH_cr (cfg : DocCfgH) (src : List Char) (hsp : cfg.sourcepos = false) (hcr : '\r' ∉ src) :
    parseDocH cfg (lfToCr src) = parseDocH cfg src := by
  unfold parseDocH
  rw [BlockH.parseBlocksH_cr cfg.blockCfg src hcr]
  cases BlockH.parseBlocksH cfg.blockCfg src with
  | error e => rfl
  | ok w =>
    obtain ⟨root, refs⟩ := w
    simp only [afterBlocksH, hsp]
    rfl

open MdIt.Lines (lfToCr) in
/-- **(e) LF ↦ CR, render**: the same output in both serializers -/
theorem renderDocH_cr (x : Bool) (cfg : DocCfgH) (src : List Char) (hsp : cfg.sourcepos = false)
    (hcr : '\r' ∉ src) : renderDocH x cfg (lfToCr src) = renderDocH x cfg src := by
  unfold renderDocH
  rw [parseDocH_cr cfg src hsp hcr]

/-! ## non-vacuity examples (by evaluation) -/

section examples

/-- `Pipeline.exCfg` (all of cmark, `*` `_` `~~`) + both html rules where `cmark::add`, `html::add` put
    them: `html_block` in front of the heading rule, `html_inline` behind the cmark inline rules -/
def exCfgH (sp : Bool) (mn : Nat) : DocCfgH :=
  { DocCfgH.ofCfg (exCfg sp mn) with
    blockChain := BlockH.stockH
    inlineChain := (exCfg sp mn).inlineChain.map .base ++ [.html] }

/-- the same without the link and the image rule (the flat case of (d)) -/
def exFlatH (sp : Bool) (mn : Nat) : DocCfgH :=
  { exCfgH sp mn with
    inlineChain := [.base .text, .base .newline, .base .escape, .base .backticks, .base (.emph '*' true),
                    .base (.emph '_' false), .base .autolink, .base .entity, .base (.emph '~' true), .html] }

def exDoc : List Char := "a <b>c</b>\n\n<div>\n*x*\n</div>\n\n> <!-- c -->".toList

deriving instance DecidableEq for Except

-- the example document: inline tags in a paragraph, an html block (no emphasis inside), a comment
-- block inside a quote; `render` and `xrender`
example : renderDocH false (exCfgH false 100) exDoc =
    .ok "<p>a <b>c</b></p>\n<div>\n*x*\n</div>\n<blockquote>\n<!-- c -->\n</blockquote>\n".toList := by
  unfold exDoc
  decide_lits
example : renderDocH true (exCfgH true 100) "<hr>\n\n***\na<br>\nb".toList =
    .ok "<hr>\n<hr data-sourcepos=\"3:1-3:3\" />\n<p data-sourcepos=\"4:1-5:1\">a<br>\nb</p>\n".toList := by
  decide_lits
-- only the block rule / only the inline rule / neither (conservativity side: escaped text)
example : renderDocH false { exCfgH false 100 with inlineChain := (exCfg false 100).inlineChain.map .base } exDoc =
    .ok "<p>a &lt;b&gt;c&lt;/b&gt;</p>\n<div>\n*x*\n</div>\n<blockquote>\n<!-- c -->\n</blockquote>\n".toList := by
  unfold exDoc
  decide_lits
example : renderDocH false { exCfgH false 100 with blockChain := (exCfg false 100).blockChain.map .base } exDoc =
    .ok "<p>a <b>c</b></p>\n<p><div>\n<em>x</em>\n</div></p>\n<blockquote>\n<p><!-- c --></p>\n</blockquote>\n".toList := by
  unfold exDoc
  decide_lits
example : renderDocH false (DocCfgH.ofCfg (exCfg false 100)) "a <b>c</b>\n\n<div>".toList =
    renderDoc false (exCfg false 100) "a <b>c</b>\n\n<div>".toList ∧
    renderDoc false (exCfg false 100) "a <b>c</b>\n\n<div>".toList =
      .ok "<p>a &lt;b&gt;c&lt;/b&gt;</p>\n<p>&lt;div&gt;</p>\n".toList :=
  ⟨renderDocH_conservative _ _ _, by decide_lits⟩
-- (b)/(d): the document passes the memo check, so parse and both renderings are total (with link rules)
theorem exDoc_memoSafe : docMemoSafeH (exCfgH true 100) exDoc = true := by
  unfold exDoc
  decide_lits
example : docMemoSafeH (exCfgH true 100) exDoc = true := exDoc_memoSafe
example : ∀ x, ∃ html, renderDocH x (exCfgH true 100) exDoc = .ok html :=
  (docH_total_of_docMemoSafeH _ _ exDoc_memoSafe).2
-- a tag inside a link label, a link inside `<a>`…`</a>`: still total
example : docMemoSafeH (exCfgH false 100) "[a <b c=\"]\"> d](u) <a>[x](v)</a>\n\n- <pre>\n  y".toList = true := by
  decide_lits
-- (d) flat: the hypotheses of `doc_totalH_flat_of_tables` on the chain side hold for `exFlatH`
example : (InlineH.RuleIdH.base .link ∉ (exFlatH false 100).inlineChain ∧
    InlineH.RuleIdH.base .image ∉ (exFlatH false 100).inlineChain) ∧
    ∀ mk csw, InlineH.RuleIdH.base (.emph mk csw) ∈ (exFlatH false 100).inlineChain → mk.utf8Size = 1 := by
  refine ⟨by decide, ?_⟩
  intro mk csw h
  simp only [exFlatH, List.mem_cons, InlineH.RuleIdH.base.injEq, Inline.RuleId.emph.injEq, reduceCtorEq,
    false_or, or_false, List.not_mem_nil] at h
  rcases h with ⟨rfl, _⟩ | ⟨rfl, _⟩ | ⟨rfl, _⟩ <;> decide
example : renderDocH false (exFlatH false 100) exDoc =
    .ok "<p>a <b>c</b></p>\n<div>\n*x*\n</div>\n<blockquote>\n<!-- c -->\n</blockquote>\n".toList := by
  unfold exDoc
  decide_lits
-- `doc_totalH_flat` on the example: every hypothesis holds (the residual `hlen` by evaluation)
example : BlockH.hasParaH (exFlatH false 100).blockChain = true ∧ '\t' ∉ exDoc ∧
    4 * Lines.byteLen exDoc + 8 < 2147483648 ∧
    (match BlockH.parseBlocksH (exFlatH false 100).blockCfg exDoc with
     | .ok (root, _) => placeholdersB (fun c _ => decide (2 * InlineOps.byteLen c + 100 < 2 ^ 31 - 1)) root
     | .error _ => false) = true := by
  unfold exDoc
  decide_lits

-- (c): the raw events of the example are the three html contents, in order
example : (match parseDocH (exCfgH false 100) exDoc with
    | .ok t => (match renderEventsH (exCfgH false 100) t with
                | .ok evs => some (NodeRender.rawsOf evs) | .error _ => none)
    | .error _ => none) =
    some ["<b>".toList, "</b>".toList, "<div>\n*x*\n</div>\n".toList, "<!-- c -->\n".toList] := by
  decide +kernel
-- (e): CR line endings
example : renderDocH false (exCfgH false 100) (Lines.lfToCr exDoc) = renderDocH false (exCfgH false 100) exDoc := by
  unfold exDoc
  rw [String.toList_ofList]
  exact renderDocH_cr _ _ _ rfl (by decide)
example : Lines.lfToCr exDoc = "a <b>c</b>\r\r<div>\r*x*\r</div>\r\r> <!-- c -->".toList := by
  unfold exDoc
  decide_lits
-- the join pass does not merge text ACROSS an html node, and leaves the node alone ("a*<b>*c": both `*`
-- become text again, one on each side of the tag)
example : (match parseDocH (exCfgH false 100) "a*<b>*c".toList with
    | .ok t => t.children.map (fun p => p.children.map (fun n => n.kind))
    | .error _ => []) =
    [[.inl (.text "a*".toList), .inl (InlineH.htmlVal "<b>".toList), .inl (.text "*c".toList)]] := by
  decide +kernel

end examples


/-! ## (d) continued: `doc_totalH_flat` with hypotheses on the SOURCE only -/

/-- **(d) `doc_totalH_flat_src`** — `doc_totalH_flat` without its residual hypothesis: every configuration
    with the paragraph rule, raw HTML on (block and / or inline rule anywhere), an inline chain without the
    link and the image rule, emphasis markers single bytes, `max_nesting ≤ 2^30`, sourcepos on or off: EVERY
    tab-free source with `4 * |src| + 8 < 2^31` parses and renders in both serializers without panic.
    (The content of every placeholder is no longer than the source: `BlockH.parseBlocksH_content_len`.) -/
theorem doc_totalH_flat_src (cfg : DocCfgH) (src : List Char)
    (hfl : InlineH.RuleIdH.base .link ∉ cfg.inlineChain ∧ InlineH.RuleIdH.base .image ∉ cfg.inlineChain)
    (hsz : ∀ mk csw, InlineH.RuleIdH.base (.emph mk csw) ∈ cfg.inlineChain → mk.utf8Size = 1)
    (hpara : BlockH.hasParaH cfg.blockChain = true) (hmn : cfg.maxNesting ≤ 1073741824)
    (hsmall : 4 * Lines.byteLen src + 8 < 2147483648) (htab : '\t' ∉ src) :
    (∃ t, parseDocH cfg src = .ok t) ∧ ∀ x, ∃ html, renderDocH x cfg src = .ok html := by
  refine doc_totalH_flat cfg src hfl hsz hpara hsmall htab ?_
  intro root refs hb
  refine (BlockH.parseBlocksH_content_len cfg.blockCfg src hsmall hpara htab hb).imp ?_
  intro c _ h
  rw [C05I.linesLen_eq c] at h
  show 2 * InlineOps.byteLen c + cfg.maxNesting < 2147483647
  omega

/-- the content bound itself, at document level -/
theorem docH_content_len (cfg : DocCfgH) (src : List Char)
    (hsmall : 4 * Lines.byteLen src + 8 < 2147483648) (hpara : BlockH.hasParaH cfg.blockChain = true)
    (htab : '\t' ∉ src) {root : Block.BNode} {refs : Refs.RefMap}
    (hb : BlockH.parseBlocksH cfg.blockCfg src = .ok (root, refs)) :
    Block.AllInl (fun c _ => Lines.byteLen c ≤ Lines.byteLen src) root :=
  BlockH.parseBlocksH_content_len cfg.blockCfg src hsmall hpara htab hb

-- non-vacuity: the flat configuration on the example document, every hypothesis by evaluation
example : (∃ t, parseDocH (exFlatH true 100) exDoc = .ok t) ∧
    ∀ x, ∃ html, renderDocH x (exFlatH true 100) exDoc = .ok html := by
  unfold exDoc
  rw [String.toList_ofList]
  refine doc_totalH_flat_src _ _ (by decide) ?_ (by decide) (by decide) (by decide +kernel) (by decide +kernel)
  intro mk csw h
  simp only [exFlatH, List.mem_cons, InlineH.RuleIdH.base.injEq, Inline.RuleId.emph.injEq, reduceCtorEq,
    false_or, or_false, List.not_mem_nil] at h
  rcases h with ⟨rfl, _⟩ | ⟨rfl, _⟩ | ⟨rfl, _⟩ <;> decide

/-! ## (f) C14 with html: the parsed tree is well formed -/

theorem parseInlineH_wf (para : Bool) (cfg : DocCfgH) (refs : Refs.RefMap) (c : List Char) (m : InlineOps.Srcmap)
    (ns : List Inline.Node) (h : InlineH.parseInlineH (cfg.inlineCfg refs) c m = .ok ns) :
    ∀ x ∈ ofInlineList ns, Every (LocN para cfg.hasJoin false) x := by
  have hv := InlineH.parseInlineH_vals (cfg.inlineCfg refs) (valOK_good (cfg.inlineCfg refs).base) h
  have := ofInlineList_wf (para := para) ns hv
  rw [hasEmph_inlineCfgH] at this
  exact this

/-- **`doc_tree_wfH` (C14 with the html plugin).**  For EVERY configuration over the extended enumerations
    and every source, the tree `parseDocH` returns satisfies the well-formedness predicate of C14
    (`Pipeline.WF`, `LocK` at every node): `Root` on top only; no `InlineRoot`, no `EmphMarker`; lists hold
    list items only, items sit under lists only; an inline node has inline children only, a paragraph /
    heading has inline children only; thematic breaks, code blocks, fences — and HTML BLOCKS, which are
    encoded as fences — are childless; with the paragraph rule inline nodes — HTML INLINE nodes included —
    occur only under paragraphs / headings, (tight) list items and inline nodes; with a join pass no empty
    `Text` and no two adjacent `Text`s in any sibling list. -/
theorem doc_tree_wfH (cfg : DocCfgH) (src : List Char) (t : Node) (h : parseDocH cfg src = .ok t) :
    WF (BlockH.hasParaH cfg.blockChain) cfg.hasJoin t := by
  obtain ⟨root, refs, t0, hb, hs, hf⟩ := parseDocH_ok h
  obtain ⟨hroot, hwf⟩ := BlockH.parseBlocksH_wf hb
  exact ⟨(parseDocH_final h).2, wf_of_passes hroot hwf (parseInlineH_wf _ cfg refs) hs hf⟩

/-- is the value an (encoded) `HtmlBlock` -/
def Kind.isHtmlBlock : Kind → Bool
  | .blk b => (BlockH.htmlContent? b).isSome
  | .inl _ => false

/-- is the value an (encoded) `HtmlInline` -/
def Kind.isHtmlInline : Kind → Bool
  | .inl v => (InlineH.htmlContent? v).isSome
  | .blk _ => false

theorem isBlockLeaf_of_htmlBlock {k : Kind} (h : Kind.isHtmlBlock k = true) : k.isBlockLeaf = true := by
  cases k with
  | inl v => cases h
  | blk b =>
    cases b <;> simp [Kind.isHtmlBlock, BlockH.htmlContent?] at h
    rfl

theorem isInline_of_htmlInline {k : Kind} (h : Kind.isHtmlInline k = true) : k.isInline = true := by
  cases k with
  | inl v => rfl
  | blk b => cases h

/-- **the html nodes in the tree** (corollary of `doc_tree_wfH`): at every node `n` of the parsed tree —
    an `HtmlBlock` is childless; an `HtmlBlock` child never sits under an inline node or a paragraph /
    heading (block positions only); with the paragraph rule an `HtmlInline` child sits under a paragraph /
    heading, a (tight) list item or an inline node (inline positions only). -/
theorem doc_html_placesH (cfg : DocCfgH) (src : List Char) (t : Node) (h : parseDocH cfg src = .ok t) :
    Every (fun n =>
      (Kind.isHtmlBlock n.kind = true → n.children = []) ∧
      (∀ c ∈ n.children, Kind.isHtmlBlock c.kind = true → n.kind.isInline = false ∧ n.kind.isTextBlock = false) ∧
      (BlockH.hasParaH cfg.blockChain = true → ∀ c ∈ n.children, Kind.isHtmlInline c.kind = true →
        n.kind.isTextBlock = true ∨ n.kind = .blk .listItem ∨ n.kind.isInline = true)) t := by
  refine (doc_tree_wfH cfg src t h).2.imp ?_
  intro n hl
  have hl : LocK _ _ _ n.kind (kinds n.children) := hl
  refine ⟨?_, ?_, ?_⟩
  · intro hb
    have := hl.blockLeaf (isBlockLeaf_of_htmlBlock hb)
    simpa [kinds] using this
  · intro c hc hb
    have hci : c.kind.isInline = false := by
      cases hk : c.kind with
      | inl v => rw [hk] at hb; cases hb
      | blk b => rfl
    constructor
    · cases hn : n.kind.isInline with
      | false => rfl
      | true =>
        have := hl.inlineKids hn c.kind (mem_kinds.mpr ⟨c, hc, rfl⟩)
        rw [hci] at this; cases this
    · cases hn : n.kind.isTextBlock with
      | false => rfl
      | true =>
        have := hl.textBlockKids hn c.kind (mem_kinds.mpr ⟨c, hc, rfl⟩)
        rw [hci] at this; cases this
  · intro hp c hc hi
    exact hl.inlinePlace hp c.kind (mem_kinds.mpr ⟨c, hc, rfl⟩) (isInline_of_htmlInline hi)

/-- **`doc_inline_leavesH`**: in the tree `parseDocH` returns, at every node: `Text`, `TextSpecial` — hence
    `HtmlInline` —, `Softbreak`, `Hardbreak` are childless; `CodeInline` / `Autolink` have exactly one
    child, a childless non-empty `Text`.  Every configuration with the html plugin, every source. -/
theorem doc_inline_leavesH (cfg : DocCfgH) (src : List Char) (t : Node) (h : parseDocH cfg src = .ok t) :
    Every ShapeD t := by
  obtain ⟨root, refs, t0, hb, hs, hf⟩ := parseDocH_ok h
  exact passes_every (B := fun _ => True) hs hf (BlockH.parseBlocksH_wf hb).1 (fun _ _ _ _ _ => trivial) trivial
    (fun _ _ _ ns _ _ hns => ofInlineList_shape ns (InlineH.parseInlineH_shapes _ hns))
    (fun _ _ _ _ _ _ => shapeD_blk _ _ _ _) (fun _ => shapeD_joinStable) (fun _ => shapeD_attrBlind)

/-- **`doc_tree_wf_fullH` (C14 with the html plugin, complete predicate).**  For every configuration with the
    paragraph rule and a join pass (an emphasis-like rule), html rules anywhere: every tree `parseDocH` returns
    satisfies `Pipeline.WFFull` — `WF true true` (no placeholder, `Root` on top only, lists / items, inline
    nodes in their places, block leaves — html blocks included — childless, no empty `Text`, no two adjacent
    `Text`s) and `Every ShapeD` (inline leaves — html inline included — childless, `CodeInline` / `Autolink`
    exactly one non-empty `Text`).  (Without a join pass: `doc_tree_wfH` + `doc_inline_leavesH`; the text
    normal form then needs `Block.ParaLast` and `Props/C14Doc.doc_text_nf_nojoin` for the ten-rule engine,
    not lifted.) -/
theorem doc_tree_wf_fullH (cfg : DocCfgH) (src : List Char) (t : Node) (h : parseDocH cfg src = .ok t)
    (hp : BlockH.hasParaH cfg.blockChain = true) (hj : cfg.hasJoin = true) : WFFull t := by
  refine ⟨?_, doc_inline_leavesH cfg src t h⟩
  have := doc_tree_wfH cfg src t h
  rw [hp, hj] at this
  exact this

theorem isInlineLeaf_of_htmlInline {k : Kind} (h : Kind.isHtmlInline k = true) : k.isInlineLeaf = true := by
  cases k with
  | blk b => cases h
  | inl v => cases v <;> simp [Kind.isHtmlInline, InlineH.htmlContent?] at h <;> rfl

/-- **html nodes are leaves**: in every tree `parseDocH` returns a node that decodes as `HtmlBlock` or as
    `HtmlInline` has no children -/
theorem doc_html_leavesH (cfg : DocCfgH) (src : List Char) (t : Node) (h : parseDocH cfg src = .ok t) :
    Every (fun n => (Kind.isHtmlBlock n.kind = true ∨ Kind.isHtmlInline n.kind = true) → n.children = []) t := by
  refine (every_and (doc_html_placesH cfg src t h) (doc_inline_leavesH cfg src t h)).imp ?_
  rintro n ⟨⟨h1, _⟩, h2⟩ (hb | hi)
  · exact h1 hb
  · exact h2.1 (isInlineLeaf_of_htmlInline hi)

-- non-vacuity: the example document, stock configuration with the html rules (paragraph rule, join pass)
example : BlockH.hasParaH (exCfgH true 100).blockChain = true ∧ (exCfgH true 100).hasJoin = true ∧
    (parseDocH (exCfgH true 100) exDoc).toOption.isSome = true := by
  obtain ⟨t, ht⟩ := (docH_total_of_docMemoSafeH _ _ exDoc_memoSafe).1
  exact ⟨by decide, by decide, by rw [ht]; rfl⟩

/-! ## (g) C05 with html: the root range -/

theorem parseBlocksH_root_range {cfg : BlockH.CfgH} {src : List Char} {root : Block.BNode} {refs : Refs.RefMap}
    (h : BlockH.parseBlocksH cfg src = .ok (root, refs)) : root.range = some (0, Lines.byteLen src) := by
  unfold BlockH.parseBlocksH at h
  split at h
  · cases h
  · simp only [Except.ok.injEq, Prod.mk.injEq] at h
    obtain ⟨rfl, _⟩ := h
    rfl

/-- **`docH_root_range`**: the root of every tree `parseDocH` returns covers the whole source, `(0, |src|)` —
    every configuration with the html plugin, every source -/
theorem docH_root_range (cfg : DocCfgH) (src : List Char) (t : Node) (h : parseDocH cfg src = .ok t) :
    t.range = some (0, Lines.byteLen src) := by
  obtain ⟨root, refs, t0, hb, hs, hf⟩ := parseDocH_ok h
  obtain ⟨hroot, hwf⟩ := BlockH.parseBlocksH_wf hb
  rw [(final_of_passes hroot hwf (parseInlineH_spliced cfg refs) hs hf).2.2]
  exact parseBlocksH_root_range hb


/-! ## C05 with html: every `HtmlBlock` node has a proper range inside the source -/

/-- a node predicate that only reads the value and the range, and holds of every inline node -/
structure KR (P : Node → Prop) : Prop where
  congr : ∀ a b : Node, a.kind = b.kind → a.range = b.range → P a → P b
  inl : ∀ (n : Node) (v : Inline.Val), n.kind = .inl v → P n

theorem KR.text {P : Node → Prop} (h : KR P) {n : Node} (ht : n.isText = true) : P n := by
  cases hk : n.kind with
  | blk b => unfold Node.isText at ht; rw [hk] at ht; simp at ht
  | inl v => exact h.inl n v hk

theorem ofInlineList_kr {P : Node → Prop} (h : KR P) (cs : List Inline.Node) :
    ∀ c ∈ ofInlineList cs, Every P c :=
  ofInlineList_every_of (R := fun _ => True) (fun v _ _ _ _ => h.inl _ v rfl) cs
    ((Inline.allValsList_iff _ cs).mpr fun n _ => Inline.allVals_true n)

theorem ofInline_kr {P : Node → Prop} (h : KR P) (n : Inline.Node) : Every P (ofInline n) :=
  ofInlineList_kr h [n] (ofInline n) (by simp [ofInlineList])

/-- a block-level node that is no placeholder has a proper range that ends inside the source -/
def BlkRanged (L : Nat) (n : Node) : Prop :=
  ∀ b, n.kind = .blk b → (∀ c m, b ≠ .inlineRoot c m) → ∃ x y, n.range = some (x, y) ∧ x ≤ y ∧ y ≤ L

theorem kr_blkRanged (L : Nat) : KR (BlkRanged L) :=
  ⟨fun a b hk hr h => by unfold BlkRanged at *; rw [← hk, ← hr]; exact h,
   fun n v hk b hb => by rw [hk] at hb; cases hb⟩

theorem blkRanged_of_rangedB {Pm : Block.InlP} {src : List Char} (b : Block.BNode) (cs' : List Node)
    (hw : Block.RangedB Pm src b) : BlkRanged (Lines.byteLen src) ⟨.blk b.kind, b.range, [], cs'⟩ := by
  obtain ⟨k, r, cs⟩ := b
  intro b hb hne
  simp only [Kind.blk.injEq] at hb
  subst hb
  cases r with
  | none =>
    have hnone : ∃ c m, k = Block.Kind.inlineRoot c m ∧ cs = [] := by
      cases hw with
      | mk _ _ h2 _ => exact h2 rfl
    obtain ⟨c, m, e, _⟩ := hnone
    exact absurd e (hne c m)
  | some ab =>
    obtain ⟨x, y⟩ := ab
    obtain ⟨h1, _, h3, _⟩ := hw.at x y rfl
    exact ⟨x, y, rfl, h1, h3.le⟩

theorem spliceListG_blkRanged {Pm : Block.InlP} {src : List Char}
    {parse : List Char → InlineOps.Srcmap → Except Inline.Panic (List Inline.Node)}
    (cs : List Block.BNode) (hw : ∀ c ∈ cs, Block.RangedB Pm src c) (out : List Node)
    (h : spliceListG parse cs = .ok out) : ∀ c ∈ out, Every (BlkRanged (Lines.byteLen src)) c :=
  spliceList_every_of (fun _ h _ => h.child)
    (fun _ _ _ ns _ _ _ => ofInlineList_kr (kr_blkRanged (Lines.byteLen src)) ns)
    (fun b cs' hw _ _ _ => blkRanged_of_rangedB b cs' hw) cs hw out h

theorem sourceposList_kq {P : Node → Prop} (hcongr : ∀ a b : Node, a.kind = b.kind → a.range = b.range → P a → P b)
    {src : List Char} {marks : List SourceMap.Mark}
    (cs cs' : List Node) (he : ∀ c ∈ cs, Every P c) (h : sourceposList src marks cs = .ok cs') :
    ∀ c ∈ cs', Every P c :=
  sourceposList_every_of (fun n hn => hcongr n _ rfl rfl hn) he h

theorem sourceposList_kr {P : Node → Prop} (hP : KR P) {src : List Char} {marks : List SourceMap.Mark}
    (cs cs' : List Node) (he : ∀ c ∈ cs, Every P c) (h : sourceposList src marks cs = .ok cs') :
    ∀ c ∈ cs', Every P c :=
  sourceposList_kq hP.congr cs cs' he h

/-- **`docH_block_ranges`**: paragraph rule in the ten-rule chain, `i32` bound of the block side: in the tree
    `parseDocH` returns EVERY block-level node (html blocks included) has a range `(x, y)` with
    `x ≤ y ≤ |src|` -/
theorem docH_block_ranges (cfg : DocCfgH) (src : List Char) (t : Node)
    (hsmall : 4 * Lines.byteLen src + 8 < 2147483648) (hpara : BlockH.hasParaH cfg.blockChain = true)
    (h : parseDocH cfg src = .ok t) : Every (BlkRanged (Lines.byteLen src)) t := by
  obtain ⟨root, refs, t0, hb, hs, hf⟩ := parseDocH_ok h
  have K := kr_blkRanged (Lines.byteLen src)
  exact passes_every hs hf (BlockH.parseBlocksH_wf hb).1 (fun _ h _ => h.child)
    (BlockH.parseBlocksH_placeholder_tables cfg.blockCfg src hsmall hpara hb).1
    (fun _ _ _ ns _ _ _ => ofInlineList_kr K ns) (fun b cs' hw _ _ _ => blkRanged_of_rangedB b cs' hw)
    (fun _ => joinStable_of_kr K.congr fun _ => K.text) (fun _ => attrBlind_of_kr K.congr)

/-- **every `HtmlBlock` node has a range inside the source** (corollary) -/
theorem docH_html_block_ranges (cfg : DocCfgH) (src : List Char) (t : Node)
    (hsmall : 4 * Lines.byteLen src + 8 < 2147483648) (hpara : BlockH.hasParaH cfg.blockChain = true)
    (h : parseDocH cfg src = .ok t) :
    Every (fun n => Kind.isHtmlBlock n.kind = true →
      ∃ x y, n.range = some (x, y) ∧ x ≤ y ∧ y ≤ Lines.byteLen src) t := by
  refine (docH_block_ranges cfg src t hsmall hpara h).imp ?_
  intro n hn hb
  cases hk : n.kind with
  | inl v => rw [hk] at hb; cases hb
  | blk b =>
    refine hn b hk ?_
    intro c m e
    rw [hk, e] at hb
    simp [Kind.isHtmlBlock, BlockH.htmlContent?] at hb

/-! ## C05 with html: every `HtmlInline` node has a proper range inside the source -/

/-- an `HtmlInline` node has a proper range that ends inside the source -/
def HtmlInlineRanged (L : Nat) (n : Node) : Prop :=
  Kind.isHtmlInline n.kind = true → ∃ x y, n.range = some (x, y) ∧ x ≤ y ∧ y ≤ L

/-- the same on a node of the inline parser -/
def HIR (L : Nat) (d : Inline.Node) : Prop :=
  (InlineH.htmlContent? d.val).isSome = true → ∃ x y, d.range = some (x, y) ∧ x ≤ y ∧ y ≤ L

theorem desc_cons {d c : Inline.Node} {r : List Inline.Node} (h : InlineH.Desc d r) : InlineH.Desc d (c :: r) := by
  cases h with
  | top hm => exact .top (List.mem_cons_of_mem _ hm)
  | under hm hd => exact .under (List.mem_cons_of_mem _ hm) hd

mutual
theorem ofInline_hir {L : Nat} (n : Inline.Node) (h0 : HIR L n) (h : ∀ d, InlineH.Desc d n.children → HIR L d) :
    Every (HtmlInlineRanged L) (ofInline n) := by
  match n with
  | ⟨v, r, cs⟩ =>
    unfold ofInline
    exact .mk _ h0 (ofInlineList_hir cs h)
theorem ofInlineList_hir {L : Nat} (cs : List Inline.Node) (h : ∀ d, InlineH.Desc d cs → HIR L d) :
    ∀ c ∈ ofInlineList cs, Every (HtmlInlineRanged L) c := by
  match cs with
  | [] => simp [ofInlineList]
  | c :: r =>
    intro x hx
    simp only [ofInlineList, List.mem_cons] at hx
    rcases hx with rfl | hx
    · exact ofInline_hir c (h c (.top (by simp))) (fun d hd => h d (.under (List.mem_cons_self ..) hd))
    · exact ofInlineList_hir r (fun d hd => h d (desc_cons hd)) x hx
end

theorem spliceListG_every_of {Q : Node → Prop}
    {parse : List Char → InlineOps.Srcmap → Except Inline.Panic (List Inline.Node)}
    (hB : ∀ k r cs, Q ⟨.blk k, r, [], cs⟩) (cs : List Block.BNode)
    (h : PlaceholdersList (fun c m => ∀ ns, parse c m = .ok ns → ∀ x ∈ ofInlineList ns, Every Q x) cs)
    (out : List Node) (ht : spliceListG parse cs = .ok out) : ∀ c ∈ out, Every Q c :=
  spliceList_every_of (fun _ h _ => h.child) (fun _ _ _ ns hc hk hns => hc.here hk ns hns)
    (fun _ _ _ _ _ _ => hB _ _ _) cs (placeholdersList_mem h) out ht

theorem hir_congr (L : Nat) : ∀ a b : Node, a.kind = b.kind → a.range = b.range →
    HtmlInlineRanged L a → HtmlInlineRanged L b := by
  intro a b hk hr h
  unfold HtmlInlineRanged at *
  rw [← hk, ← hr]; exact h

theorem hir_text (L : Nat) : ∀ n : Node, n.isText = true → HtmlInlineRanged L n := by
  intro n ht hh
  cases hk : n.kind with
  | blk b => rw [hk] at hh; cases hh
  | inl v =>
    unfold Node.isText at ht
    rw [hk] at ht hh
    cases v <;> simp at ht
    simp [Kind.isHtmlInline, InlineH.htmlContent?] at hh

/-- one paragraph: with a `MapOK` table that maps the content into the source, within the size bound, and the
    memo check passed, every `HtmlInline` node the inline run hands to the splice walk is ranged -/
theorem parseInlineH_hir (icfg : InlineH.CfgH) (L : Nat)
    (hsz : ∀ mk csw, InlineH.RuleIdH.base (.emph mk csw) ∈ icfg.chain → mk.utf8Size = 1)
    {c : List Char} {m : InlineOps.Srcmap} (hm : Inline.MapOK c m) (hup : C05I.UpToAll c m L)
    (hsize : 2 * InlineOps.byteLen c + icfg.maxNesting < 2 ^ 31 - 1)
    (hs : InlineH.memoSafeH icfg c m = true) (ns : List Inline.Node)
    (h : InlineH.parseInlineH icfg c m = .ok ns) : ∀ x ∈ ofInlineList ns, Every (HtmlInlineRanged L) x := by
  obtain ⟨lo, hi, _, hhi, hd⟩ := InlineH.parseInlineH_ranges_window_raw icfg hsz hm hsize hs h
  have hle : hi ≤ L := hup _ _ (by rw [C05I.linesLen_eq]; exact Inline.trimSrc_le c) hhi
  refine ofInlineList_hir ns ?_
  intro d hdd _
  obtain ⟨a, b, e, _, h2, h3⟩ := hd d hdd
  exact ⟨a, b, e, h2, by omega⟩

theorem docH_html_inline_ranges_of (cfg : DocCfgH) (src : List Char) (t : Node)
    (hp : ∀ root refs, BlockH.parseBlocksH cfg.blockCfg src = .ok (root, refs) →
      Placeholders (fun c m => ∀ ns, InlineH.parseInlineH (cfg.inlineCfg refs) c m = .ok ns →
        ∀ x ∈ ofInlineList ns, Every (HtmlInlineRanged (Lines.byteLen src)) x) root)
    (h : parseDocH cfg src = .ok t) : Every (HtmlInlineRanged (Lines.byteLen src)) t := by
  obtain ⟨root, refs, t0, hb, hs, hf⟩ := parseDocH_ok h
  exact passes_every hs hf (BlockH.parseBlocksH_wf hb).1 (fun _ h _ => h.child) (hp root refs hb)
    (fun _ _ _ ns hc hk hns => hc.here hk ns hns) (fun _ _ _ _ _ _ hh => by cases hh)
    (fun _ => joinStable_of_kr (hir_congr _) (hir_text _)) (fun _ => attrBlind_of_kr (hir_congr _))

theorem docH_placeholder_facts (cfg : DocCfgH) (src : List Char)
    (hpara : BlockH.hasParaH cfg.blockChain = true) (hmn : cfg.maxNesting ≤ 1073741824)
    (hsmall : 4 * Lines.byteLen src + 8 < 2147483648) (htab : '\t' ∉ src)
    {root : Block.BNode} {refs : Refs.RefMap} (hb : BlockH.parseBlocksH cfg.blockCfg src = .ok (root, refs)) :
    Block.AllInl (fun c m => Inline.MapOK c m ∧ C05I.UpToAll c m (Lines.byteLen src) ∧
      2 * InlineOps.byteLen c + cfg.maxNesting < 2 ^ 31 - 1) root := by
  have h1 := docH_tables_mapOK cfg src hsmall hpara htab hb
  have h2 := BlockH.parseBlocksH_upToAll cfg.blockCfg src hsmall hpara hb
  have h3 := BlockH.parseBlocksH_content_len cfg.blockCfg src hsmall hpara htab hb
  have h23 := allInl_and (Q3 := fun c m => C05I.UpToAll c m (Lines.byteLen src) ∧
      2 * InlineOps.byteLen c + cfg.maxNesting < 2 ^ 31 - 1)
    (fun c _ hu hl => ⟨hu, by
      rw [C05I.linesLen_eq c] at hl
      show 2 * InlineOps.byteLen c + cfg.maxNesting < 2147483647
      omega⟩) h2 h3
  exact allInl_and (fun _ _ a b => ⟨a, b⟩) h1 h23

/-- **`docH_html_inline_ranges` (flat chains, unconditional).**  Paragraph rule, html rules anywhere, an inline
    chain without the link and the image rule, emphasis markers single bytes, `max_nesting ≤ 2^30`: in the tree
    `parseDocH` returns for a tab-free source with `4 * |src| + 8 < 2^31`, every `HtmlInline` node — at any depth —
    has a range `(x, y)` with `x ≤ y ≤ |src|`. -/
theorem docH_html_inline_ranges (cfg : DocCfgH) (src : List Char) (t : Node)
    (hfl : InlineH.RuleIdH.base .link ∉ cfg.inlineChain ∧ InlineH.RuleIdH.base .image ∉ cfg.inlineChain)
    (hsz : ∀ mk csw, InlineH.RuleIdH.base (.emph mk csw) ∈ cfg.inlineChain → mk.utf8Size = 1)
    (hpara : BlockH.hasParaH cfg.blockChain = true) (hmn : cfg.maxNesting ≤ 1073741824)
    (hsmall : 4 * Lines.byteLen src + 8 < 2147483648) (htab : '\t' ∉ src)
    (h : parseDocH cfg src = .ok t) : Every (HtmlInlineRanged (Lines.byteLen src)) t := by
  refine docH_html_inline_ranges_of cfg src t ?_ h
  intro root refs hb
  have hall : Block.AllInl (fun c m => ∀ ns, InlineH.parseInlineH (cfg.inlineCfg refs) c m = .ok ns →
        ∀ x ∈ ofInlineList ns, Every (HtmlInlineRanged (Lines.byteLen src)) x) root :=
    (docH_placeholder_facts cfg src hpara hmn hsmall htab hb).imp
      (fun c m ⟨hm, hu, hs⟩ ns hns =>
        parseInlineH_hir (cfg.inlineCfg refs) _ hsz hm hu hs
          (InlineH.memoSafeH_flat (cfg.inlineCfg refs) hfl hsz hm hs) ns hns)
  exact placeholders_of_allInl hall (BlockH.parseBlocksH_inlNoRange hb)

/-- **`docH_html_inline_ranges_memoSafe` (any chain, under the executable memo check).**  The same for EVERY
    inline chain (link, image, html, …) on every document that passes `docMemoSafeH`. -/
theorem docH_html_inline_ranges_memoSafe (cfg : DocCfgH) (src : List Char) (t : Node)
    (hsz : ∀ mk csw, InlineH.RuleIdH.base (.emph mk csw) ∈ cfg.inlineChain → mk.utf8Size = 1)
    (hpara : BlockH.hasParaH cfg.blockChain = true) (hmn : cfg.maxNesting ≤ 1073741824)
    (hsmall : 4 * Lines.byteLen src + 8 < 2147483648) (htab : '\t' ∉ src)
    (hsafe : docMemoSafeH cfg src = true)
    (h : parseDocH cfg src = .ok t) : Every (HtmlInlineRanged (Lines.byteLen src)) t := by
  refine docH_html_inline_ranges_of cfg src t ?_ h
  intro root refs hb
  unfold docMemoSafeH at hsafe
  rw [hb] at hsafe
  have hms := placeholdersB_sound root hsafe
  have hfacts := placeholders_of_allInl
    (docH_placeholder_facts cfg src hpara hmn hsmall htab hb) (BlockH.parseBlocksH_inlNoRange hb)
  exact placeholders_and (fun c m ⟨hm, hu, hs⟩ hsafe' ns hns =>
    parseInlineH_hir (cfg.inlineCfg refs) _ hsz hm hu hs hsafe' ns hns) hfacts hms

-- non-vacuity: the two tags of the example document, flat configuration: ranges `[2,5]`, `[6,10]` of 43 bytes
example : (match parseDocH (exFlatH false 100) exDoc with
    | .ok t => (dnodes t).filterMap (fun n => if Kind.isHtmlInline n.kind then some n.range else none)
    | .error _ => []) = [some (2, 5), some (6, 10)] := by decide +kernel

end MdIt.PipelineH
