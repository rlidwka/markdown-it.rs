/-
  C19 — the serializer is faithful to renderer events.

  All statements quantify over every event list (every tag, attribute list and payload string,
  including hostile / empty / NUL-containing ones) and both serializer modes.
-/
import MdIt.Model.Render
import MdIt.Lemmas.KernelEval

namespace MdIt.Render

/-! ### `escape_html`, character by character -/

theorem escapeChar_of_plain {c : Char} (h : c ≠ '&' ∧ c ≠ '<' ∧ c ≠ '>' ∧ c ≠ '"') :
    escapeChar c = [c] := by
  simp [escapeChar, h]

theorem escapeChar_cases (c : Char) :
    c = '&' ∧ escapeChar c = ['&', 'a', 'm', 'p', ';'] ∨
    c = '<' ∧ escapeChar c = ['&', 'l', 't', ';'] ∨
    c = '>' ∧ escapeChar c = ['&', 'g', 't', ';'] ∨
    c = '"' ∧ escapeChar c = ['&', 'q', 'u', 'o', 't', ';'] ∨
    (c ≠ '&' ∧ c ≠ '<' ∧ c ≠ '>' ∧ c ≠ '"') ∧ escapeChar c = [c] := by
  by_cases h1 : c = '&'
  · exact .inl ⟨h1, by rw [h1]; rfl⟩
  by_cases h2 : c = '<'
  · exact .inr (.inl ⟨h2, by rw [h2]; rfl⟩)
  by_cases h3 : c = '>'
  · exact .inr (.inr (.inl ⟨h3, by rw [h3]; rfl⟩))
  by_cases h4 : c = '"'
  · exact .inr (.inr (.inr (.inl ⟨h4, by rw [h4]; rfl⟩)))
  exact .inr (.inr (.inr (.inr ⟨⟨h1, h2, h3, h4⟩, escapeChar_of_plain ⟨h1, h2, h3, h4⟩⟩)))

/-! ### flatten / summary helpers -/

@[simp] theorem flatten_nil : flatten [] = [] := rfl
@[simp] theorem flatten_cons (p : List Char) (r : List (List Char)) :
    flatten (p :: r) = p ++ flatten r := rfl

theorem flatten_append (a b : List (List Char)) : flatten (a ++ b) = flatten a ++ flatten b := by
  induction a with
  | nil => rfl
  | cons p r ih => simp [ih]

/-- `solAfter` is an action of the free monoid -/
theorem solAfter_append (s : Bool) (p q : List Char) :
    solAfter s (p ++ q) = solAfter (solAfter s p) q := by
  unfold solAfter
  cases hq : q.getLast? with
  | none =>
    have : q = [] := by simpa using hq
    subst this; simp
  | some c => simp [List.getLast?_append, hq]

/-- the summary of a buffer is what `solAfter` computes from the empty buffer's summary -/
theorem atSol_eq_solAfter (buf : List Char) : atSol buf = solAfter true buf := rfl

/-- the summary of `buf ++ p` depends only on the summary of `buf` and on `p` -/
theorem atSol_append (buf p : List Char) : atSol (buf ++ p) = solAfter (atSol buf) p :=
  solAfter_append true buf p

@[simp] theorem atSol_nil : atSol [] = true := rfl

theorem makeAttrs_eq (buf : List Char) (attrs : List (List Char × List Char)) :
    makeAttrs buf attrs = buf ++ attrsStr attrs := by
  induction attrs generalizing buf with
  | nil => simp [makeAttrs, attrsStr]
  | cons nv r ih =>
    have : makeAttrs buf (nv :: r) = makeAttrs (makeAttr buf nv.1 nv.2) r := rfl
    rw [this, ih]
    simp [makeAttr, attrsStr, attrStr]

/-- one trait call appends exactly the event's piece, chosen from the buffer summary alone -/
theorem serializeBuf_eq (x : Bool) (buf : List Char) (e : Event) :
    serializeBuf x buf e = buf ++ piece x (atSol buf) e := by
  cases e with
  | «open» t a => simp [serializeBuf, piece, makeAttrs_eq]
  | close t => simp [serializeBuf, piece]
  | selfClose t a => cases x <;> simp [serializeBuf, piece, makeAttrs_eq]
  | text s => rfl
  | raw s => rfl
  | cr =>
    unfold serializeBuf piece atSol
    cases buf.getLast? with
    | none => simp
    | some c => by_cases hc : c = '\n' <;> simp [hc]

theorem foldl_serializeBuf (x : Bool) (buf : List Char) (evs : List Event) :
    evs.foldl (serializeBuf x) buf = buf ++ flatten (piecesFrom x (atSol buf) evs) := by
  induction evs generalizing buf with
  | nil => simp [piecesFrom]
  | cons e r ih =>
    simp only [List.foldl_cons, piecesFrom, flatten_cons]
    rw [ih, serializeBuf_eq, atSol_append, List.append_assoc]

/-! ### `serialize_events` -/

theorem serializeRaw_events (x : Bool) (evs : List Event) :
    serializeRaw x evs = flatten (pieces x evs) := by
  simpa [serializeRaw, pieces] using foldl_serializeBuf x [] evs

/-- **C19 (faithfulness).** The built-in serializer emits exactly the concatenation of the
    per-event pieces, in event order, followed by the NUL replacement. -/
theorem serialize_events (x : Bool) (evs : List Event) :
    serialize x evs = replaceNul (flatten (pieces x evs)) := by
  rw [serialize, serializeRaw_events]

theorem piecesFrom_length (x sol : Bool) (evs : List Event) :
    (piecesFrom x sol evs).length = evs.length := by
  induction evs generalizing sol with
  | nil => rfl
  | cons e r ih => simp [piecesFrom, ih]

theorem pieces_length (x : Bool) (evs : List Event) : (pieces x evs).length = evs.length :=
  piecesFrom_length x true evs

theorem piecesFrom_append (x sol : Bool) (a b : List Event) :
    piecesFrom x sol (a ++ b) =
      piecesFrom x sol a ++ piecesFrom x (solAfter sol (flatten (piecesFrom x sol a))) b := by
  induction a generalizing sol with
  | nil => simp [piecesFrom, solAfter]
  | cons e r ih =>
    simp only [List.cons_append, piecesFrom, flatten_cons, ih]
    rw [solAfter_append]

/-- The `i`-th piece is the piece of the `i`-th event, the `cr` decision being taken on what
    the events before it produced: `""` iff that is empty or ends in `'\n'`. -/
theorem pieces_getElem (x : Bool) (evs : List Event) (i : Nat) (h : i < evs.length) :
    (pieces x evs)[i]'(by rw [pieces_length]; exact h) =
      piece x (atSol (serializeRaw x (evs.take i))) evs[i] := by
  have hsplit : evs = evs.take i ++ evs[i] :: evs.drop (i + 1) := by simp
  have hlen : (piecesFrom x true (evs.take i)).length = i := by
    rw [piecesFrom_length]; simp; omega
  have key : pieces x evs = piecesFrom x true (evs.take i) ++
      piecesFrom x (solAfter true (flatten (piecesFrom x true (evs.take i))))
        (evs[i] :: evs.drop (i + 1)) := by
    conv => lhs; rw [pieces, hsplit]
    exact piecesFrom_append x true _ _
  have hs : atSol (serializeRaw x (evs.take i)) =
      solAfter true (flatten (piecesFrom x true (evs.take i))) := by
    rw [serializeRaw_events, pieces, atSol_eq_solAfter]
  simp only [key, hs]
  rw [List.getElem_append_right (by omega)]
  simp [hlen, piecesFrom]

theorem atSol_iff (b : List Char) : atSol b = true ↔ (b = [] ∨ b.getLast? = some '\n') := by
  unfold atSol
  cases hb : b.getLast? with
  | none =>
    have : b = [] := by simpa using hb
    simp [this]
  | some c =>
    have : b ≠ [] := by intro h0; simp [h0] at hb
    simp [this]

/-- the `cr` rule, spelled out: the piece of a `cr` event is `""` iff everything emitted before it
    is empty or ends in `'\n'`, and `"\n"` otherwise -/
theorem pieces_cr (x : Bool) (evs : List Event) (i : Nat) (h : i < evs.length)
    (hcr : evs[i] = .cr) :
    let before := serializeRaw x (evs.take i)
    let p := (pieces x evs)[i]'(by rw [pieces_length]; exact h)
    (p = [] ↔ (before = [] ∨ before.getLast? = some '\n')) ∧
    (p ≠ [] → p = ['\n']) := by
  simp only [pieces_getElem _ _ _ h, hcr, piece, ← atSol_iff]
  cases atSol (serializeRaw x (evs.take i)) <;> simp

/-- **C19 (fold law).** Serialising `a ++ b` is serialising `a` and then feeding the events of `b`
    one by one into the resulting buffer: no reordering, no look-ahead. -/
theorem serialize_append (x : Bool) (a b : List Event) :
    serializeRaw x (a ++ b) = b.foldl (serializeBuf x) (serializeRaw x a) := by
  simp [serializeRaw, List.foldl_append]

/-- consequence: the prefix output is a prefix of the whole output -/
theorem serializeRaw_prefix (x : Bool) (a b : List Event) :
    ∃ rest, serializeRaw x (a ++ b) = serializeRaw x a ++ rest := by
  rw [serialize_append, foldl_serializeBuf]
  exact ⟨_, rfl⟩

/-! ### `cr` is modelled on chars; the Rust looks at the last *byte* -/

/-- single-byte chars encode as themselves; every multi-byte encoding ends in a continuation byte
    `0x80..0xBF` -/
theorem utf8Bytes_getLast? (c : Char) :
    (utf8Bytes c).getLast? = some (if c.toNat < 0x80 then c.toNat else 0x80 + c.toNat % 64) := by
  unfold utf8Bytes; simp only []
  split
  · rfl
  · split
    · rfl
    · split <;> rfl

theorem utf8Bytes_ne_nil (c : Char) : utf8Bytes c ≠ [] := by
  intro h
  simpa [h] using utf8Bytes_getLast? c

/-- last byte of one encoded char is `0x0A` iff the char is `'\n'` -/
theorem utf8Bytes_last (c : Char) : (utf8Bytes c).getLast? = some 10 ↔ c = '\n' := by
  rw [utf8Bytes_getLast?]
  constructor
  · intro h
    have hv : c.toNat = 10 := by
      split at h
      · simpa using h
      · simp at h; omega
    rw [← Char.ofNat_toNat c, hv]
  · rintro rfl; decide

theorem getLast?_append_ne_nil {α : Type} (l l' : List α) (h : l' ≠ []) :
    (l ++ l').getLast? = l'.getLast? := by
  rw [List.getLast?_append]
  cases h' : l'.getLast? with
  | none => exact absurd (by simpa using h') h
  | some c => rfl

theorem utf8_getLast? (buf : List Char) :
    (utf8 buf).getLast? = buf.getLast?.bind (fun c => (utf8Bytes c).getLast?) := by
  induction buf with
  | nil => rfl
  | cons c r ih =>
    simp only [utf8]
    cases r with
    | nil => simp [utf8]
    | cons d r' =>
      have hne : utf8 (d :: r') ≠ [] := by
        simp [utf8, utf8Bytes_ne_nil]
      rw [getLast?_append_ne_nil _ _ hne, ih]
      simp [List.getLast?_cons_cons]

/-- **Byte/char agreement for `cr`.** `self.result.as_bytes().last()` is `None` exactly when the
    buffer is empty and `Some(b'\n')` exactly when the last char is `'\n'`; so the char-level
    test in `serializeBuf` is the Rust test. -/
theorem lastByte_lf_iff (buf : List Char) :
    (lastByte? buf = none ↔ buf = []) ∧
    (lastByte? buf = some 10 ↔ buf.getLast? = some '\n') := by
  unfold lastByte?
  rw [utf8_getLast?]
  constructor
  · cases h : buf.getLast? with
    | none => simpa using h
    | some c =>
      have : buf ≠ [] := by intro hb; simp [hb] at h
      simp [this, utf8Bytes_ne_nil]
  · cases h : buf.getLast? with
    | none => simp
    | some c => simp [utf8Bytes_last]

/-- `cr` stated on bytes, literally as in the Rust -/
theorem serializeBuf_cr_bytes (x : Bool) (buf : List Char) :
    serializeBuf x buf .cr =
      match lastByte? buf with
      | none => buf
      | some b => if b = 10 then buf else buf ++ ['\n'] := by
  have ⟨h1, h2⟩ := lastByte_lf_iff buf
  unfold serializeBuf
  cases hb : buf.getLast? with
  | none =>
    have : buf = [] := by simpa using hb
    simp [h1.mpr this]
  | some c =>
    cases hl : lastByte? buf with
    | none => have := h1.mp hl; simp [this] at hb
    | some b =>
      have hiff : b = 10 ↔ c = '\n' := by simpa [hl, hb] using h2
      simp [hiff]

/-! ### `xhtml_diff` -/

/-- what XHTML mode does to the HTML piece of an event: insert `" /"` before the final `>` of a
    `selfClose` piece, nothing anywhere else -/
def xhtmlOf (e : Event) (p : List Char) : List Char :=
  match e with
  | .selfClose _ _ => p.dropLast ++ [' ', '/', '>']
  | _ => p

/-- a `selfClose` piece ends in `>` in both modes; the modes differ in what stands before it -/
theorem piece_selfClose (x sol : Bool) (t : List Char) (a : List (List Char × List Char)) :
    piece x sol (.selfClose t a) =
      ('<' :: (t ++ attrsStr a)) ++ (if x then [' ', '/'] else []) ++ ['>'] := by
  simp [piece]

theorem solAfter_concat (s : Bool) (p : List Char) (c : Char) :
    solAfter s (p ++ [c]) = decide (c = '\n') := by
  simp [solAfter]

theorem piece_xhtml (sol : Bool) (e : Event) :
    piece true sol e = xhtmlOf e (piece false sol e) := by
  cases e with
  | selfClose t a =>
    simp only [piece_selfClose, xhtmlOf, List.dropLast_concat]
    simp
  | _ => rfl

/-- both modes produce buffers with the same summary after every event -/
theorem solAfter_xhtml (sol : Bool) (e : Event) :
    solAfter sol (piece true sol e) = solAfter sol (piece false sol e) := by
  cases e with
  | selfClose t a => rw [piece_selfClose, piece_selfClose, solAfter_concat, solAfter_concat]
  | _ => rfl

theorem piecesFrom_xhtml (sol : Bool) (evs : List Event) :
    piecesFrom true sol evs = List.zipWith xhtmlOf evs (piecesFrom false sol evs) := by
  induction evs generalizing sol with
  | nil => rfl
  | cons e r ih =>
    simp only [piecesFrom, List.zipWith_cons_cons]
    rw [solAfter_xhtml, ih, piece_xhtml]

/-- **C19 (XHTML vs HTML).** Same number of pieces; position by position the XHTML piece is the
    HTML piece, except at `selfClose` events where `" /"` is inserted before the final `>`
    (the HTML piece there is `<tag attrs>`, so this is `<tag attrs />`). In particular every `cr`
    takes the same decision in both modes. -/
theorem xhtml_diff (evs : List Event) :
    (pieces true evs).length = evs.length ∧ (pieces false evs).length = evs.length ∧
    pieces true evs = List.zipWith xhtmlOf evs (pieces false evs) ∧
    ∀ (i : Nat) (h : i < evs.length),
      let pt := (pieces true evs)[i]'(by rw [pieces_length]; exact h)
      let pf := (pieces false evs)[i]'(by rw [pieces_length]; exact h)
      match evs[i] with
      | .selfClose t a =>
          pf = '<' :: (t ++ (attrsStr a ++ ['>'])) ∧
          pt = '<' :: (t ++ (attrsStr a ++ [' ', '/', '>']))
      | _ => pt = pf := by
  refine ⟨pieces_length _ _, pieces_length _ _, piecesFrom_xhtml true evs, ?_⟩
  intro i h
  have hpt : (pieces true evs)[i]'(by rw [pieces_length]; exact h) =
      xhtmlOf evs[i] ((pieces false evs)[i]'(by rw [pieces_length]; exact h)) := by
    simp only [pieces, piecesFrom_xhtml, List.getElem_zipWith]
  simp only [hpt, pieces_getElem false evs i h, ← piece_xhtml]
  cases evs[i] <;> simp [piece]

/-- the `cr` decisions coincide, spelled out -/
theorem xhtml_cr_same (evs : List Event) (i : Nat) (h : i < evs.length) (hcr : evs[i] = .cr) :
    (pieces true evs)[i]'(by rw [pieces_length]; exact h) =
    (pieces false evs)[i]'(by rw [pieces_length]; exact h) := by
  have := (xhtml_diff evs).2.2.2 i h
  simp only [hcr] at this
  exact this

/-! ### `no_nul` -/

theorem replaceNul_eq_map (s : List Char) :
    replaceNul s = s.map (fun c => if c = '\x00' then '\uFFFD' else c) := by
  unfold replaceNul
  split
  · rfl
  · rename_i h
    have h' : ∀ c ∈ s, c ≠ '\x00' := by
      intro c hc hz; subst hz; exact h (by simpa using hc)
    symm
    conv => rhs; rw [← List.map_id s]
    apply List.map_congr_left
    intro c hc
    simp [h' c hc]

theorem replaceNul_no_nul (s : List Char) : '\x00' ∉ replaceNul s := by
  rw [replaceNul_eq_map]
  intro h
  rw [List.mem_map] at h
  obtain ⟨c, _, hc⟩ := h
  split at hc
  · exact absurd hc (by decide)
  · rename_i hne; exact hne hc

/-- **C19 (NUL).** The final string never contains U+0000. -/
theorem no_nul (x : Bool) (evs : List Event) : '\x00' ∉ serialize x evs :=
  replaceNul_no_nul _

theorem replaceNul_length (s : List Char) : (replaceNul s).length = s.length := by
  rw [replaceNul_eq_map]; simp

/-- the replacement is positional: it touches NULs only, every other char (in particular every
    delimiter `< > " &` and every `'\n'`) stays where it is -/
theorem replaceNul_getElem (s : List Char) (i : Nat) (h : i < s.length) :
    (replaceNul s)[i]'(by rw [replaceNul_length]; exact h) =
      if s[i] = '\x00' then '\uFFFD' else s[i] := by
  simp [replaceNul_eq_map]

/-! ### the NUL replacement commutes with serialisation -/

/-- the per-char replacement -/
def nulChar (c : Char) : Char := if c = '\x00' then '\uFFFD' else c

def nulStr (s : List Char) : List Char := s.map nulChar

def nulAttrs (a : List (List Char × List Char)) : List (List Char × List Char) :=
  a.map (fun nv => (nulStr nv.1, nulStr nv.2))

/-- replace NUL in every string an event carries -/
def nulEvent : Event → Event
  | .open t a => .open (nulStr t) (nulAttrs a)
  | .close t => .close (nulStr t)
  | .selfClose t a => .selfClose (nulStr t) (nulAttrs a)
  | .text s => .text (nulStr s)
  | .raw s => .raw (nulStr s)
  | .cr => .cr

theorem replaceNul_eq_nulStr (s : List Char) : replaceNul s = nulStr s := replaceNul_eq_map s

theorem nulStr_cons (c : Char) (s : List Char) : nulStr (c :: s) = nulChar c :: nulStr s := rfl

theorem nulStr_append (a b : List Char) : nulStr (a ++ b) = nulStr a ++ nulStr b :=
  List.map_append

theorem nulChar_eq_iff (c d : Char) (hd : d ≠ '\x00') (hd' : d ≠ '\uFFFD') :
    nulChar c = d ↔ c = d := by
  unfold nulChar
  split
  · rename_i h; subst h
    constructor
    · intro h; exact absurd h.symm hd'
    · intro h; exact absurd h.symm hd
  · rfl

theorem escapeChar_nul (c : Char) : escapeChar (nulChar c) = nulStr (escapeChar c) := by
  rcases escapeChar_cases c with ⟨rfl, -⟩ | ⟨rfl, -⟩ | ⟨rfl, -⟩ | ⟨rfl, -⟩ | ⟨hp, h⟩
  · rfl
  · rfl
  · rfl
  · rfl
  · rw [h]
    apply escapeChar_of_plain
    unfold nulChar
    split
    · decide
    · exact hp

theorem escapeHtml_nul (s : List Char) : escapeHtml (nulStr s) = nulStr (escapeHtml s) := by
  induction s with
  | nil => rfl
  | cons c r ih =>
    rw [nulStr_cons, escapeHtml, escapeHtml, ih, escapeChar_nul, nulStr_append]

theorem attrsStr_nul (a : List (List Char × List Char)) :
    attrsStr (nulAttrs a) = nulStr (attrsStr a) := by
  induction a with
  | nil => rfl
  | cons nv r ih =>
    have : nulAttrs (nv :: r) = (nulStr nv.1, nulStr nv.2) :: nulAttrs r := rfl
    rw [this, attrsStr, attrsStr, ih]
    simp only [attrStr, escapeHtml_nul, nulStr_append, nulStr_cons]
    rfl

theorem piece_nul (x sol : Bool) (e : Event) :
    piece x sol (nulEvent e) = nulStr (piece x sol e) := by
  cases e with
  | text s => exact escapeHtml_nul s
  | raw s => rfl
  | cr => cases sol <;> rfl
  | selfClose t a =>
    simp only [nulEvent, piece, attrsStr_nul, nulStr_append, nulStr_cons]
    cases x <;> rfl
  | _ =>
    simp only [nulEvent, piece, attrsStr_nul, nulStr_append, nulStr_cons]
    rfl

theorem solAfter_nul (sol : Bool) (p : List Char) : solAfter sol (nulStr p) = solAfter sol p := by
  unfold solAfter nulStr
  rw [List.getLast?_map]
  cases p.getLast? with
  | none => rfl
  | some c =>
    simp only [Option.map_some]
    have := nulChar_eq_iff c '\n' (by decide) (by decide)
    simp [this]

theorem piecesFrom_nul (x sol : Bool) (evs : List Event) :
    piecesFrom x sol (evs.map nulEvent) = (piecesFrom x sol evs).map nulStr := by
  induction evs generalizing sol with
  | nil => rfl
  | cons e r ih =>
    simp only [List.map_cons, piecesFrom, piece_nul, solAfter_nul, ih]

theorem flatten_map_nul (ps : List (List Char)) : flatten (ps.map nulStr) = nulStr (flatten ps) := by
  induction ps with
  | nil => rfl
  | cons p r ih => rw [List.map_cons, flatten_cons, flatten_cons, ih, nulStr_append]

/-- **C19 (NUL, second half).** The result equals the *unpatched* serialisation of the events with
    U+0000 replaced by U+FFFD in every payload: doing the replacement once at the end is the same
    as doing it on the way in (no `cr` decision, no escape and no delimiter depends on it). -/
theorem serialize_nul_payload (x : Bool) (evs : List Event) :
    serialize x evs = serializeRaw x (evs.map nulEvent) := by
  rw [serialize, replaceNul_eq_nulStr, serializeRaw_events, serializeRaw_events, pieces, pieces,
    piecesFrom_nul, flatten_map_nul]

/-! ### non-vacuity -/

-- hostile payloads, NULs, LF-terminated text before `cr`, leading and doubled `cr`
example :
    serialize true
      [.cr, .open ['p'] [], .text ['a', '<', '\x00', '\n'], .cr, .cr,
       .selfClose ['b', 'r'] [(['x'], ['"'])], .close ['p'], .cr, .raw ['<', 'i', '>'], .cr]
    = "<p>a&lt;�\n<br x=\"&quot;\" /></p>\n<i>\n".toList := by decide_lits

example :
    pieces false [.cr, .text ['a'], .cr, .cr, .selfClose ['b', 'r'] [], .raw ['\n'], .cr]
    = [[], ['a'], ['\n'], [], ['<', 'b', 'r', '>'], ['\n'], []] := by decide

example :
    pieces true [.cr, .text ['a'], .cr, .cr, .selfClose ['b', 'r'] [], .raw ['\n'], .cr]
    = [[], ['a'], ['\n'], [], ['<', 'b', 'r', ' ', '/', '>'], ['\n'], []] := by decide

-- a multi-byte char whose scalar value ends in 0x0A (U+010A) is not a line feed, on bytes either
example : lastByte? ['Ċ'] = some 0x8A ∧ lastByte? ['a', '\n'] = some 10 := by decide

end MdIt.Render
