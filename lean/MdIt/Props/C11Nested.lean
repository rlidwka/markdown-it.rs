/-
  C11 at DOCUMENT level INSIDE CONTAINERS: fenced and indented code nested in block quotes and list items
  is reproduced verbatim by the whole pipeline.

  Property C11: "Any text placed inside a fenced block whose fence is longer than every fence run in the
  text, or indented by four spaces (with non-blank first and last line), or enclosed in a backtick span
  longer than every backtick run in it, reappears in the output character for character …  Quantifier:
  all texts T × the three code contexts × NESTING INSIDE BLOCK QUOTES AND LIST ITEMS."

  Rule level: `Block.fence_verbatim`, `Block.indented_verbatim`, `CodePair.span_verbatim(_ctx)`.
  Top-level documents: `MdIt/Lemmas/C14DocVerbatim.lean` (`doc_fence_verbatim`, `doc_indented_verbatim`, …).
  HERE: the same documents wrapped in any list `w : List Wrapper` of containers (`Wrapper.quote`,
  `.bullet c`, `.ordered ds dl`; `wrapAll w D` applies them from the inside out with `Block.prefixQuote` /
  `Li.itemDoc`), by induction on `w` over C06's `quote_commutes` / `item_commutes_gen`
  (`MdIt/Lemmas/C11Wrap.lean`: `wrap1_commutes`, `wrapAll_commutes`, `parseBlocks_nested`), then through the core chain
  (`MdIt/Lemmas/C11Forest.lean`, `afterBlocks_wrapTree`), the renderer (`render_wrapNode`) and the serializer
  (`MdIt/Lemmas/C11Forest.lean`: `Blocky`, `blocky_wrapEvents`, `serialize_blocky`).

  PROPERTY theorems (any `DocCfg` that satisfies the top-level hypotheses for the payload and C06's chain
  condition for the wrappers used — `ChainFor` —, `depthCost w < max_nesting` with cost 1 per quote and 2
  per list, the wrapped source below 2 GiB):
    `doc_fence_verbatim_nested_sp`, `doc_fence_verbatim_nested`        the tree, exactly (kinds, payload, ranges,
                                                                    attributes): wrappers around ONE `CodeFence`
    `doc_fence_render_nested_sp`, `doc_fence_render_nested`            `render` / `xrender`, exactly
    `doc_indented_verbatim_nested_sp`, `doc_indented_verbatim_nested`  … around ONE `CodeBlock`
    `doc_indented_render_nested_sp`, `doc_indented_render_nested`      `render` / `xrender`, exactly
  Restrictions beyond the top-level theorems, each with a witness in section 7:
    * the payload is TAB-FREE (C06's hypothesis: a tab's width depends on the column the prefix moves it
      to; see the last example of section 7); payload tabs are covered at top level only;
    * indented code in a bullet item: the marker line must not be a thematic break (`HrFree`;
      `-     ---` is `<hr>`), needed only if the `hr` rule stands in front of the list rule (it does in the
      stock chain); no such condition for fences (a fence line holds a backtick or tilde);
    * `depthCost w < max_nesting`.
  Code SPANS (section 8): the block half — `doc_para_blocks_nested`: a one-line paragraph inside `w` keeps its
  inline text (the placeholder `InlineRoot` holds the same `c`, table moved by the prefixes); the inline half and
  the document theorems (`doc_span_verbatim_nested`, `doc_span_render_nested`) are in `MdIt/Props/C11Span.lean`.
-/
import MdIt.Lemmas.C11NestedPara
import MdIt.Lemmas.C11Forest
import MdIt.Lemmas.KernelEval

namespace MdIt.C11N
open MdIt.Block MdIt.Block.Li MdIt.Pipeline
open MdIt.Lines (NoTerm lead)
open MdIt.Render (Event piece piecesFrom flatten solAfter attrsStr escapeHtml)
open MdIt.NodeRender (aSourcepos tPre tCode tBlockquote tUl tOl tLi olAttrs)

/-! ## 1. the core chain behind the block pass, on the wrapper tree -/

/-- the wrapper's nodes in the document tree, all with attributes `a` -/
def Wrapper.dnode (x : Wrapper) (a : List (List Char × List Char)) (r : Nat × Nat) (child : Node) : Node :=
  if x.isQuote then ⟨.blk x.kind, some r, a, [child]⟩
  else ⟨.blk x.kind, some r, a, [⟨.blk .listItem, some r, a, [child]⟩]⟩

/-- the document tree of the wrapped document (below the root): `wrapTree` with the attributes
    `att range` on every node -/
def wrapNode (att : Nat × Nat → List (List Char × List Char)) (k : Block.Kind) (s0 E : Nat) :
    List Wrapper → Nat → Node
  | [], off => ⟨.blk k, some (off + s0, E), att (off + s0, E), []⟩
  | x :: ws, off => x.dnode (att (off, E)) (off, E) (wrapNode att k s0 E ws (off + x.width))

theorem wrapForestN_leaf (att : Nat × Nat → List (List Char × List Char)) (k : Block.Kind) (s0 E : Nat) :
    ∀ (ws : List Wrapper) (off : Nat),
      wrapForestN att E ws off [⟨.blk k, some (off + widthAll ws + s0, E), att (off + widthAll ws + s0, E), []⟩] =
        [wrapNode att k s0 E ws off]
  | [], off => by simp [wrapForestN, wrapNode, widthAll]
  | x :: ws, off => by
    have ih := wrapForestN_leaf att k s0 E ws (off + x.width)
    rw [show off + widthAll (x :: ws) + s0 = off + x.width + widthAll ws + s0 by simp only [widthAll]; omega]
    simp only [wrapForestN, wrapNode, ih, Wrapper.dnodeL, Wrapper.dnode]

theorem afterBlocks_wrapTree (cfg : DocCfg) (src : List Char) (k : Block.Kind) (hk : ∀ c m, k ≠ .inlineRoot c m)
    (s0 E : Nat) (w : List Wrapper) (rg : Nat × Nat) (refs : Refs.RefMap) :
    afterBlocks cfg src ⟨.root, some rg, [wrapTree k s0 E w 0]⟩ refs =
      .ok ⟨.blk .root, some rg, spAttrs cfg src rg, [wrapNode (spAttrs cfg src) k s0 E w 0]⟩ := by
  rw [← wrapForest_leaf, ← wrapForestN_leaf]
  refine afterBlocks_forest cfg src rg refs _ _ _
    (splice_wrapForest _ E _ [⟨.blk k, some (0 + widthAll w + s0, E), [], []⟩] ?_ w 0)
    (joinFix_wrapForestN _ E _ (joinFix_blk _ k rfl (joinNode_childless rfl)) w 0) ?_ ?_
  · cases k <;> first | exact absurd rfl (hk _ _) | simp [spliceList, spliceNode]
  · intro hs; rw [spAttrs_off hs]
  · intro hs
    rw [spAttrs_on hs]
    rw [mapAttrs_wrapForestN]
    simp [mapAttrs_eq, spG]

/-! ## 2. the renderer on the wrapper tree -/

theorem render_wrapNode (lookup : List Char → Option (List Char)) (lp : List Char)
    (att : Nat × Nat → List (List Char × List Char)) (k : Block.Kind) (s0 E : Nat) (leaf : Nat → List Event)
    (hleaf : ∀ off, NodeRender.render lookup (toRender lp ⟨.blk k, some (off + s0, E), att (off + s0, E), []⟩) =
      .ok (leaf off)) :
    ∀ (ws : List Wrapper) (off : Nat),
      NodeRender.render lookup (toRender lp (wrapNode att k s0 E ws off)) = .ok (wrapEvents att E leaf ws off)
  | [], off => hleaf off
  | x :: ws, off => by
    have ih := render_wrapNode lookup lp att k s0 E leaf hleaf ws (off + x.width)
    cases x <;>
      simp [wrapNode, Wrapper.dnode, Wrapper.isQuote, Wrapper.kind, toRender, toRenderList, Kind.toRender,
        NodeRender.render, NodeRender.renderList, NodeRender.wrap, ih, wrapEvents, Wrapper.events]

theorem renderEvents_root (cfg : DocCfg) (rg : Option (Nat × Nat)) (a0 : List (List Char × List Char)) (c : Node)
    (evs : List Event) (h : NodeRender.render cfg.entity (toRender cfg.langPrefix c) = .ok evs) :
    renderEvents cfg ⟨.blk .root, rg, a0, [c]⟩ = .ok evs := by
  simp [renderEvents, toRender, toRenderList, Kind.toRender, NodeRender.render, NodeRender.renderList, h]

/-! ## 3. a document `Root[wrapTree]`, rendered -/

theorem render_of_tree (x : Bool) (cfg : DocCfg) (src : List Char) (rg : Option (Nat × Nat))
    (a0 : List (List Char × List Char)) (att : Nat × Nat → List (List Char × List Char)) (k : Block.Kind)
    (s0 E : Nat) (w : List Wrapper) (content : List Char)
    (hleaf : ∀ r a, NodeRender.render cfg.entity (toRender cfg.langPrefix ⟨.blk k, r, a, []⟩) =
      .ok [.cr, .open tPre [], .open tCode a, .text content, .close tCode, .close tPre, .cr])
    (hp : parseDoc cfg src = .ok ⟨.blk .root, rg, a0, [wrapNode att k s0 E w 0]⟩) :
    renderDoc x cfg src =
      .ok (Render.replaceNul (wrapHtmlA att E (fun off => preCode (att (off + s0, E)) content) w 0)) := by
  have hev := render_wrapNode cfg.entity cfg.langPrefix att k s0 E
    (fun off => [.cr, .open tPre [], .open tCode (att (off + s0, E)), .text content, .close tCode, .close tPre, .cr])
    (fun off => hleaf _ _) w 0
  have hb := blocky_wrapEvents x att E _ _ (fun off => blocky_leaf x (att (off + s0, E)) content) w 0
  unfold renderDoc
  rw [hp]
  simp only [renderEvents_root cfg rg a0 _ _ hev, serialize_blocky hb]

theorem leaf_fence (cfg : DocCfg) (m : Char) (n : Nat) (content : List Char) (r : Option (Nat × Nat))
    (a : List (List Char × List Char)) :
    NodeRender.render cfg.entity (toRender cfg.langPrefix ⟨.blk (.codeFence [] m n content), r, a, []⟩) =
      .ok [.cr, .open tPre [], .open tCode a, .text content, .close tCode, .close tPre, .cr] := by
  simp [toRender, toRenderList, Kind.toRender, NodeRender.render, NodeRender.fenceAttrs, Entity.unescapeAllE,
    NodeRender.firstWord]

theorem leaf_code (cfg : DocCfg) (content : List Char) (r : Option (Nat × Nat)) (a : List (List Char × List Char)) :
    NodeRender.render cfg.entity (toRender cfg.langPrefix ⟨.blk (.codeBlock content), r, a, []⟩) =
      .ok [.cr, .open tPre [], .open tCode a, .text content, .close tCode, .close tPre, .cr] := by
  simp [toRender, toRenderList, Kind.toRender, NodeRender.render]

/-! ## 4. fenced code inside containers -/

theorem good_fence {m : Char} (hm : m = '`' ∨ m = '~') {n : Nat} (hn : 3 ≤ n) {T : List (List Char)}
    (hT : ∀ l ∈ T, NoTerm l) (htab : ∀ l ∈ T, '\t' ∉ l) : Good (fenceLine m n :: T ++ [fenceLine m n]) := by
  have hon := onDoc_fence hm hn hT .root []
  refine ⟨hon.ne, hon.noTerm, hon.last, ?_⟩
  have hf : '\t' ∉ fenceLine m n := by
    intro hc
    have := (List.mem_replicate.mp hc).2
    rcases hm with rfl | rfl <;> cases this
  intro l hl
  simp only [List.cons_append, List.mem_cons, List.mem_append, List.mem_nil_iff, or_false] at hl
  rcases hl with rfl | hl | rfl
  · exact hf
  · exact htab l hl
  · exact hf

theorem firstLineOk_fence {m : Char} (hm : m = '`' ∨ m = '~') {n : Nat} (hn : 3 ≤ n) : FirstLineOk (fenceLine m n) := by
  have hmb : Lines.isBlank m = false := by rcases hm with rfl | rfl <;> decide
  obtain ⟨j, rfl⟩ : ∃ j, n = j + 1 := ⟨n - 1, by omega⟩
  simp only [fenceLine, List.replicate_succ, FirstLineOk]
  have := lead_nonblank_cons (List.replicate j m) hmb
  exact ⟨by rw [this.2]; simp, .inl (by rw [this.1]; rfl)⟩

theorem hrFree_fence {m : Char} (hm : m = '`' ∨ m = '~') {n : Nat} (hn : 3 ≤ n) (w : List Wrapper) :
    HrFree w (fenceLine m n) :=
  hrFree_of_mem (x := m) (List.mem_replicate.mpr ⟨by omega, rfl⟩) (by rcases hm with rfl | rfl <;> decide) w

section fence
variable (m : Char) (hm : m = '`' ∨ m = '~') (n : Nat) (hn : 3 ≤ n) (T : List (List Char))
  (hT : ∀ l ∈ T, NoTerm l) (htab : ∀ l ∈ T, '\t' ∉ l) (hclose : ∀ l ∈ T, closes m n l = false)
  (cfg : DocCfg) (hmem : .fence ∈ cfg.blockChain)
  (hpre : ∀ r ∈ cfg.blockChain.takeWhile (· ≠ .fence), QuietOnFence r)
  (w : List Wrapper) (hw : ∀ x ∈ w, x.Ok) (hch : ChainFor cfg.blockChain w)
  (hmn : depthCost w < cfg.maxNesting)
  (hsize : Lines.byteLen (wrapAll w (fenceDoc m n T)) + 20 < 2147483648)
include hm hn hT htab hclose hmem hpre hw hch hmn hsize

theorem parseBlocks_fence_nested :
    parseBlocks cfg.blockCfg (wrapAll w (fenceDoc m n T)) =
      .ok (⟨.root, some (0, Lines.byteLen (wrapAll w (fenceDoc m n T))),
            [wrapTree (.codeFence [] m n (T.flatMap (· ++ ['\n']))) 0 (Lines.byteLen (wrapAll w (fenceDoc m n T))) w 0]⟩,
           []) := by
  have g := good_fence hm hn hT htab
  have hdoc : wrapAll w (fenceDoc m n T) = docOf (wrapAllLines w (fenceLine m n :: T ++ [fenceLine m n])) :=
    wrapAll_docOf hw g
  rw [hdoc] at hsize ⊢
  have hbase := Block.parseBlocks_fence m hm n hn T hT hclose
    (cfg := { cfg.blockCfg with maxNesting := cfg.maxNesting - depthCost w })
    (MdIt.Pipeline.split_at_first .fence _ hmem) hpre (by show 0 < cfg.maxNesting - depthCost w; omega)
  have := parseBlocks_nested { cfg.blockCfg with maxNesting := cfg.maxNesting - depthCost w }
    (by show 0 < cfg.maxNesting - depthCost w; omega) (.codeFence [] m n (T.flatMap (· ++ ['\n'])))
    (by intro h; cases h) (fun _ => rfl) 0 (fenceLine m n) (T ++ [fenceLine m n]) g (firstLineOk_fence hm hn)
    (Nat.zero_le _) hbase w hw hch (fun _ => hrFree_fence hm hn w) hsize
  rw [blockCfg_nest cfg _ hmn] at this
  exact this

/-- **`doc_fence_verbatim_nested`, any `sourcepos`.**  `T` as in `doc_fence_verbatim` and TAB-FREE, `w` any
    list of wrappers (block quotes, bullet items `-` `*` `+`, ordered items of 1–9 digits with `.` / `)`),
    the chain conditions of C06 for the wrappers used (`ChainFor`), `depthCost w < max_nesting` (1 per
    quote, 2 per list), below 2 GiB: the fenced document wrapped in `w` (`wrapAll`: `"> "` in front of every
    line per quote; marker + space in front of the first line and as many spaces in front of the others per
    item) parses to the root over the chain of wrapper nodes (`wrapNode`: one `Blockquote` per quote, a list
    with ONE `ListItem` per list wrapper, every node with exactly one child and spanning from its marker's
    column on line 0 to the end of the source) around exactly ONE `CodeFence`: empty info string, the
    content is `T` — every line whole, each followed by one LF —, no children, from behind the prefixes of
    line 0 to the end of the source.  Attributes: those of `SyntaxPosRule` (`spAttrs`). -/
theorem doc_fence_verbatim_nested_sp :
    parseDoc cfg (wrapAll w (fenceDoc m n T)) =
      .ok ⟨.blk .root, some (0, Lines.byteLen (wrapAll w (fenceDoc m n T))),
           spAttrs cfg (wrapAll w (fenceDoc m n T)) (0, Lines.byteLen (wrapAll w (fenceDoc m n T))),
           [wrapNode (spAttrs cfg (wrapAll w (fenceDoc m n T))) (.codeFence [] m n (T.flatMap (· ++ ['\n']))) 0
              (Lines.byteLen (wrapAll w (fenceDoc m n T))) w 0]⟩ := by
  have hb := parseBlocks_fence_nested m hm n hn T hT htab hclose cfg hmem hpre w hw hch hmn hsize
  unfold parseDoc
  rw [hb]
  exact afterBlocks_wrapTree cfg _ _ (by intro c mp h; cases h) _ _ _ _ _

/-- **`doc_fence_verbatim_nested`** (no `sourcepos` plugin): the tree, exactly, no attributes anywhere -/
theorem doc_fence_verbatim_nested (hsp : cfg.sourcepos = false) :
    parseDoc cfg (wrapAll w (fenceDoc m n T)) =
      .ok ⟨.blk .root, some (0, Lines.byteLen (wrapAll w (fenceDoc m n T))), [],
           [wrapNode (fun _ => []) (.codeFence [] m n (T.flatMap (· ++ ['\n']))) 0
              (Lines.byteLen (wrapAll w (fenceDoc m n T))) w 0]⟩ := by
  have h := doc_fence_verbatim_nested_sp m hm n hn T hT htab hclose cfg hmem hpre w hw hch hmn hsize
  rw [spAttrs_off hsp] at h
  exact h

/-- **`doc_fence_render_nested`, any `sourcepos`**: `render` / `xrender` give the wrappers' tags
    (`wrapHtmlA`: per quote `<blockquote ATTRS>` LF … `</blockquote>` LF, per item `<ul ATTRS>` LF `<li ATTRS>` LF …
    `</li>` LF `</ul>` LF, `<ol …>` likewise) around `<pre><code ATTRS>`, the escaped content, `</code></pre>`, LF;
    then the serializer's NUL replacement.  Nothing of `T` appears anywhere else. -/
theorem doc_fence_render_nested_sp (x : Bool) :
    renderDoc x cfg (wrapAll w (fenceDoc m n T)) =
      .ok (Render.replaceNul (wrapHtmlA (spAttrs cfg (wrapAll w (fenceDoc m n T)))
        (Lines.byteLen (wrapAll w (fenceDoc m n T)))
        (fun off => preCode (spAttrs cfg (wrapAll w (fenceDoc m n T))
          (off + 0, Lines.byteLen (wrapAll w (fenceDoc m n T)))) (T.flatMap (· ++ ['\n']))) w 0)) :=
  render_of_tree x cfg _ _ _ _ _ 0 _ w _ (fun r a => leaf_fence cfg m n _ r a)
    (doc_fence_verbatim_nested_sp m hm n hn T hT htab hclose cfg hmem hpre w hw hch hmn hsize)

/-- **`doc_fence_render_nested`** (no `sourcepos` plugin): the output is the wrappers' HTML (`wrapHtml`)
    around `<pre><code>`, the content of the fence — `T`, every line followed by one LF — with exactly
    `& < > "` escaped and NUL replaced by U+FFFD, `</code></pre>` and one LF. -/
theorem doc_fence_render_nested (hsp : cfg.sourcepos = false) (x : Bool) :
    renderDoc x cfg (wrapAll w (fenceDoc m n T)) =
      .ok (wrapHtml w ("<pre><code>".toList ++ escapeHtml (Render.nulStr (T.flatMap (· ++ ['\n']))) ++
        "</code></pre>\n".toList)) := by
  have h := doc_fence_render_nested_sp m hm n hn T hT htab hclose cfg hmem hpre w hw hch hmn hsize x
  rw [spAttrs_off hsp, wrapHtmlA_nil, Render.replaceNul_eq_nulStr, nulStr_wrapHtml, nulStr_preCode_nil] at h
  exact h

end fence

/-! ## 5. indented code inside containers -/

theorem good_code {T : List (List Char)} (hne : T ≠ []) (hT : ∀ l ∈ T, NoTerm l) (htab : ∀ l ∈ T, '\t' ∉ l) :
    Good (T.map (four ++ ·)) := by
  have hon := onDoc_code hne hT .root []
  refine ⟨hon.ne, hon.noTerm, hon.last, ?_⟩
  intro l hl
  obtain ⟨t, ht, rfl⟩ := List.mem_map.mp hl
  intro hc
  rcases List.mem_append.mp hc with h | h
  · simp [four] at h
  · exact htab t ht h

section code
variable (T : List (List Char)) (hne : T ≠ []) (hT : ∀ l ∈ T, NoTerm l) (htab : ∀ l ∈ T, '\t' ∉ l)
  (hfirstT : ∀ h : 0 < T.length, T[0].dropWhile Lines.isBlank ≠ [])
  (hlastT : ∀ h : 0 < T.length, (T[T.length - 1]'(by omega)).dropWhile Lines.isBlank ≠ [])
  (cfg : DocCfg) (hmem : .code ∈ cfg.blockChain)
  (hpre : ∀ r ∈ cfg.blockChain.takeWhile (· ≠ .code), QuietOnCode r)
  (w : List Wrapper) (hw : ∀ x ∈ w, x.Ok) (hch : ChainFor cfg.blockChain w)
  (hhr : .hr ∈ cfg.blockChain.takeWhile (· ≠ .list) → ∀ h : 0 < T.length, HrFree w (four ++ T[0]))
  (hmn : depthCost w < cfg.maxNesting)
  (hsize : Lines.byteLen (wrapAll w (indentedDoc T)) + 20 < 2147483648)
include hne hT htab hfirstT hlastT hmem hpre hw hch hhr hmn hsize

theorem parseBlocks_code_nested :
    parseBlocks cfg.blockCfg (wrapAll w (indentedDoc T)) =
      .ok (⟨.root, some (0, Lines.byteLen (wrapAll w (indentedDoc T))),
            [wrapTree (.codeBlock (docOf T ++ ['\n'])) 4 (Lines.byteLen (wrapAll w (indentedDoc T))) w 0]⟩, []) := by
  have g := good_code hne hT htab
  have hdoc : wrapAll w (indentedDoc T) = docOf (wrapAllLines w (T.map (four ++ ·))) := wrapAll_docOf hw g
  rw [hdoc] at hsize ⊢
  have hbase := Block.parseBlocks_code T hne hT hfirstT hlastT
    (cfg := { cfg.blockCfg with maxNesting := cfg.maxNesting - depthCost w })
    (MdIt.Pipeline.split_at_first .code _ hmem) hpre (by show 0 < cfg.maxNesting - depthCost w; omega)
  cases T with
  | nil => exact absurd rfl hne
  | cons t0 tr =>
    have hpos : 0 < (t0 :: tr).length := by simp
    have hf : FirstLineOk (four ++ t0) := by
      refine ⟨by rw [dropWhile_four]; exact hfirstT hpos, .inr ?_⟩
      rw [lead_four]; simp [four]
    simp only [List.map_cons] at g hbase hsize ⊢
    have := parseBlocks_nested { cfg.blockCfg with maxNesting := cfg.maxNesting - depthCost w }
      (by show 0 < cfg.maxNesting - depthCost w; omega) (.codeBlock (docOf (t0 :: tr) ++ ['\n']))
      (by intro h; cases h) (fun _ => rfl) 4 (four ++ t0) (tr.map (four ++ ·)) g hf
      (by simp [four, show ' '.utf8Size = 1 by decide]; omega) hbase w hw hch (fun h => hhr h hpos) hsize
    rw [blockCfg_nest cfg _ hmn] at this
    exact this

/-- **`doc_indented_verbatim_nested`, any `sourcepos`.**  `T` as in `doc_indented_verbatim` (non-empty,
    terminator-free lines, first and last not blank) and TAB-FREE; wrappers, chain, nesting and size as in
    `doc_fence_verbatim_nested_sp`; and, if the thematic-break rule stands in front of the list rule, no
    bullet's marker line is a thematic break (`HrFree`: `-     ---` IS one).  The document made of the lines
    of `T`, each behind four spaces, wrapped in `w`, parses to the root over the chain of wrapper nodes
    around exactly ONE `CodeBlock` whose content is `T` joined by LF plus one final LF, from 4 bytes behind
    the prefixes of line 0 to the end of the source. -/
theorem doc_indented_verbatim_nested_sp :
    parseDoc cfg (wrapAll w (indentedDoc T)) =
      .ok ⟨.blk .root, some (0, Lines.byteLen (wrapAll w (indentedDoc T))),
           spAttrs cfg (wrapAll w (indentedDoc T)) (0, Lines.byteLen (wrapAll w (indentedDoc T))),
           [wrapNode (spAttrs cfg (wrapAll w (indentedDoc T))) (.codeBlock (docOf T ++ ['\n'])) 4
              (Lines.byteLen (wrapAll w (indentedDoc T))) w 0]⟩ := by
  have hb := parseBlocks_code_nested T hne hT htab hfirstT hlastT cfg hmem hpre w hw hch hhr hmn hsize
  unfold parseDoc
  rw [hb]
  exact afterBlocks_wrapTree cfg _ _ (by intro c mp h; cases h) _ _ _ _ _

/-- **`doc_indented_verbatim_nested`** (no `sourcepos` plugin): the tree, exactly -/
theorem doc_indented_verbatim_nested (hsp : cfg.sourcepos = false) :
    parseDoc cfg (wrapAll w (indentedDoc T)) =
      .ok ⟨.blk .root, some (0, Lines.byteLen (wrapAll w (indentedDoc T))), [],
           [wrapNode (fun _ => []) (.codeBlock (docOf T ++ ['\n'])) 4
              (Lines.byteLen (wrapAll w (indentedDoc T))) w 0]⟩ := by
  have h := doc_indented_verbatim_nested_sp T hne hT htab hfirstT hlastT cfg hmem hpre w hw hch hhr hmn hsize
  rw [spAttrs_off hsp] at h
  exact h

theorem doc_indented_render_nested_sp (x : Bool) :
    renderDoc x cfg (wrapAll w (indentedDoc T)) =
      .ok (Render.replaceNul (wrapHtmlA (spAttrs cfg (wrapAll w (indentedDoc T)))
        (Lines.byteLen (wrapAll w (indentedDoc T)))
        (fun off => preCode (spAttrs cfg (wrapAll w (indentedDoc T))
          (off + 4, Lines.byteLen (wrapAll w (indentedDoc T)))) (docOf T ++ ['\n'])) w 0)) :=
  render_of_tree x cfg _ _ _ _ _ 4 _ w _ (fun r a => leaf_code cfg _ r a)
    (doc_indented_verbatim_nested_sp T hne hT htab hfirstT hlastT cfg hmem hpre w hw hch hhr hmn hsize)

/-- **`doc_indented_render_nested`** (no `sourcepos` plugin): the wrappers' HTML around `<pre><code>`, the
    lines of `T` joined by LF plus one final LF with exactly `& < > "` escaped and NUL replaced by U+FFFD,
    `</code></pre>`, LF -/
theorem doc_indented_render_nested (hsp : cfg.sourcepos = false) (x : Bool) :
    renderDoc x cfg (wrapAll w (indentedDoc T)) =
      .ok (wrapHtml w ("<pre><code>".toList ++ escapeHtml (Render.nulStr (docOf T ++ ['\n'])) ++
        "</code></pre>\n".toList)) := by
  have h := doc_indented_render_nested_sp T hne hT htab hfirstT hlastT cfg hmem hpre w hw hch hhr hmn hsize x
  rw [spAttrs_off hsp, wrapHtmlA_nil, Render.replaceNul_eq_nulStr, nulStr_wrapHtml, nulStr_preCode_nil] at h
  exact h

end code


/-! ## 6. instances: the stock chain, decidability of the side conditions -/

instance (ds : List Char) (dl : Char) : Decidable (OrdMk ds dl) :=
  decidable_of_iff (ds ≠ [] ∧ ds.length ≤ 9 ∧ (∀ c ∈ ds, isDigit c = true) ∧ (dl = '.' ∨ dl = ')'))
    ⟨fun ⟨a, b, c, d⟩ => ⟨a, b, c, d⟩, fun h => ⟨h.ne, h.len, h.digits, h.delim⟩⟩

instance (x : Wrapper) : Decidable x.Ok := by
  cases x <;> unfold Wrapper.Ok <;> infer_instance

/-- the shipped block chain satisfies the chain condition for every wrapper list -/
theorem chainFor_stock (w : List Wrapper) :
    ChainFor [.code, .fence, .blockquote, .hr, .list, .reference, .heading, .lheading, .paragraph] w :=
  ⟨fun _ => ⟨by decide, by decide⟩, fun _ => ⟨by decide, by decide⟩⟩

/-- a convenient form of the thematic-break condition: the first payload line holds a character that is
    neither blank nor one of `-`, `*`, `_` -/
theorem hrFree_four {t0 : List Char} {c : Char} (hc : c ∈ t0)
    (hx : c ≠ ' ' ∧ c ≠ '\t' ∧ c ≠ '-' ∧ c ≠ '*' ∧ c ≠ '_') (w : List Wrapper) : HrFree w (four ++ t0) :=
  hrFree_of_mem (List.mem_append_right _ hc) hx w

/-! ## 7. examples, and the necessity of the hypotheses -/

section examples

/-- the wrapped document, spelled out: `a<b` fenced, in a bullet item, in a block quote -/
example : wrapAll [.quote, .bullet '-'] (fenceDoc '`' 3 [['a', '<', 'b']]) = "> - ```\n>   a<b\n>   ```".toList := by
  decide_lits

/-- the HTML of the three kinds of wrapper -/
example : wrapHtml [.quote] ['X', '\n'] = "<blockquote>\nX\n</blockquote>\n".toList ∧
    wrapHtml [.bullet '*'] ['X', '\n'] = "<ul>\n<li>\nX\n</li>\n</ul>\n".toList ∧
    wrapHtml [.ordered ['1'] '.'] ['X', '\n'] = "<ol>\n<li>\nX\n</li>\n</ol>\n".toList ∧
    wrapHtml [.ordered ['1', '2'] ')'] ['X', '\n'] = "<ol start=\"12\">\n<li>\nX\n</li>\n</ol>\n".toList ∧
    wrapHtml [.quote, .bullet '-'] ['X', '\n'] =
      "<blockquote>\n<ul>\n<li>\nX\n</li>\n</ul>\n</blockquote>\n".toList := by
  decide_lits

/-- `doc_fence_render_nested` applies on the stock chain: two wrapper levels (quote around bullet item),
    payload `a<b`, a line of two backticks, an empty line -/
example (x : Bool) :
    renderDoc x (exCfg false 100) (wrapAll [.quote, .bullet '-'] (fenceDoc '`' 3 [['a', '<', 'b'], ['`', '`'], []])) =
      .ok (wrapHtml [.quote, .bullet '-'] ("<pre><code>".toList ++
        escapeHtml (Render.nulStr "a<b\n``\n\n".toList) ++ "</code></pre>\n".toList)) :=
  doc_fence_render_nested '`' (.inl rfl) 3 (by omega) _ (by decide) (by decide) (by decide) (exCfg false 100)
    (by decide) (by decide) [.quote, .bullet '-'] (by decide) (chainFor_stock _) (by decide) (by decide +kernel) rfl x

/-- the same by evaluation: the exact string -/
example : renderDoc false (exCfg false 100) "> - ```\n>   a<b\n>   ```".toList =
    .ok "<blockquote>\n<ul>\n<li>\n<pre><code>a&lt;b\n</code></pre>\n</li>\n</ul>\n</blockquote>\n".toList := by
  decide_lits

/-- with the `sourcepos` plugin (`doc_fence_render_nested_sp`): every wrapper node spans from its marker on
    line 1 to the end of the source, the fence starts behind both prefixes -/
example : renderDoc false (exCfg true 100) "> - ```\n>   a<b\n>   ```".toList =
    .ok ("<blockquote data-sourcepos=\"1:1-3:7\">\n<ul data-sourcepos=\"1:3-3:7\">\n<li data-sourcepos=\"1:3-3:7\">\n" ++
      "<pre><code data-sourcepos=\"1:5-3:7\">a&lt;b\n</code></pre>\n</li>\n</ul>\n</blockquote>\n").toList := by
  rw [String.toList_append]
  decide_lits

/-- the tree of `doc_fence_verbatim_nested`: `Root[Blockquote[BulletList[ListItem[CodeFence]]]]`, the wrapper
    nodes from bytes 0 / 2 / 2, the fence from byte 4, all to byte 23 (the end of the source) -/
example : parseDoc (exCfg false 100) (wrapAll [.quote, .bullet '-'] (fenceDoc '`' 3 [['a', '<', 'b']])) =
    .ok ⟨.blk .root, some (0, 23), [],
      [⟨.blk .blockquote, some (0, 23), [],
        [⟨.blk (.bulletList '-'), some (2, 23), [],
          [⟨.blk .listItem, some (2, 23), [],
            [⟨.blk (.codeFence [] '`' 3 ['a', '<', 'b', '\n']), some (4, 23), [], []⟩]⟩]⟩]⟩]⟩ := by
  have hE : Lines.byteLen (wrapAll [.quote, .bullet '-'] (fenceDoc '`' 3 [['a', '<', 'b']])) = 23 := by decide +kernel
  have h := doc_fence_verbatim_nested '`' (.inl rfl) 3 (by omega) [['a', '<', 'b']] (by decide) (by decide) (by decide)
    (exCfg false 100) (by decide) (by decide) [.quote, .bullet '-'] (by decide) (chainFor_stock _) (by decide)
    (by rw [hE]; decide) rfl
  rw [h, hE]
  rfl

/-- `doc_indented_render_nested` applies: an ordered item (`12)`, `<ol start="12">`) around a block quote,
    payload `a<`, an empty line, `b` -/
example (x : Bool) :
    renderDoc x (exCfg false 100) (wrapAll [.ordered ['1', '2'] ')', .quote] (indentedDoc [['a', '<'], [], ['b']])) =
      .ok (wrapHtml [.ordered ['1', '2'] ')', .quote] ("<pre><code>".toList ++
        escapeHtml (Render.nulStr "a<\n\nb\n".toList) ++ "</code></pre>\n".toList)) :=
  doc_indented_render_nested [['a', '<'], [], ['b']] (by decide) (by decide) (by decide) (by decide) (by decide)
    (exCfg false 100) (by decide) (by decide) [.ordered ['1', '2'] ')', .quote] (by decide) (chainFor_stock _)
    (fun _ _ => hrFree_four (c := 'a') (by simp) (by decide) _) (by decide) (by decide +kernel) rfl x

example : wrapAll [.ordered ['1', '2'] ')', .quote] (indentedDoc [['a', '<'], [], ['b']]) =
    "12) >     a<\n    >     \n    >     b".toList := by decide_lits

example : renderDoc false (exCfg false 100) "12) >     a<\n    >     \n    >     b".toList =
    .ok "<ol start=\"12\">\n<li>\n<blockquote>\n<pre><code>a&lt;\n\nb\n</code></pre>\n</blockquote>\n</li>\n</ol>\n".toList := by
  decide_lits

/-- `depthCost w < max_nesting` is needed: quote + item cost 3; at `max_nesting = 3` the item stays empty, at 4
    the code is there -/
example : renderDoc false (exCfg false 3) "> - ```\n>   a<b\n>   ```".toList =
      .ok "<blockquote>\n<ul>\n<li></li>\n</ul>\n</blockquote>\n".toList ∧
    renderDoc false (exCfg false 4) "> - ```\n>   a<b\n>   ```".toList =
      .ok "<blockquote>\n<ul>\n<li>\n<pre><code>a&lt;b\n</code></pre>\n</li>\n</ul>\n</blockquote>\n".toList := by
  decide_lits

/-- the thematic-break condition is needed for INDENTED code in a bullet item (`hr` stands in front of
    `list` in the stock chain): the payload `---` behind four spaces in a `-` item is a thematic break — so
    is the payload `-` in two nested `-` items —, while in a `*` item it is code -/
example : wrapAll [.bullet '-'] (indentedDoc [['-', '-', '-']]) = "-     ---".toList ∧
    ¬ HrFree [.bullet '-'] (four ++ ['-', '-', '-']) ∧
    renderDoc false (exCfg false 100) "-     ---".toList = .ok "<hr>\n".toList ∧
    wrapAll [.bullet '-', .bullet '-'] (indentedDoc [['-']]) = "- -     -".toList ∧
    renderDoc false (exCfg false 100) "- -     -".toList = .ok "<hr>\n".toList ∧
    renderDoc false (exCfg false 100) "*     ---".toList =
      .ok "<ul>\n<li>\n<pre><code>---\n</code></pre>\n</li>\n</ul>\n".toList := by
  repeat rw [String.toList_ofList]
  refine ⟨by decide +kernel, ?_, by decide +kernel, by decide +kernel, by decide +kernel, by decide +kernel⟩
  intro h
  have h1 : hrLook 0 ('-' :: ' ' :: (four ++ ['-', '-', '-'])) = false := h.1
  have h2 : hrLook 0 ('-' :: ' ' :: (four ++ ['-', '-', '-'])) = true := by decide +kernel
  rw [h1] at h2
  cases h2

/-- `Wrapper.Ok` is needed: a ten-digit number is not a list marker (the fence becomes a code SPAN in a
    paragraph), nor is `_` a bullet -/
example : ¬ (Wrapper.ordered "1234567890".toList '.').Ok ∧ ¬ (Wrapper.bullet '_').Ok ∧
    renderDoc false (exCfg false 100) (wrapAll [.ordered "1234567890".toList '.'] (fenceDoc '`' 3 [['a']])) =
      .ok "<p>1234567890. <code>            a            </code></p>\n".toList ∧
    renderDoc false (exCfg false 100) (wrapAll [.bullet '_'] (fenceDoc '`' 3 [['a']])) =
      .ok "<p>_ ```\na</p>\n<pre><code></code></pre>\n".toList := by
  decide_lits

/-- the chain condition is needed: with the paragraph rule in front of the block-quote rule the wrapped
    document is three paragraphs (the quote rule, still in the chain, interrupts each) -/
example : renderDoc false { exCfg false 100 with blockChain := [.fence, .paragraph, .blockquote] } "> ~~~\n> a\n> ~~~".toList =
    .ok "<p>&gt; ~~~</p>\n<p>&gt; a</p>\n<p>&gt; ~~~</p>\n".toList := by decide_lits

/-- … and the thematic-break condition is needed ONLY when `hr` stands in front of `list`: with `list` first,
    `-     ---` is an item around the code `---` -/
example : renderDoc false { exCfg false 100 with blockChain := [.code, .fence, .list, .hr] } "-     ---".toList =
    .ok "<ul>\n<li>\n<pre><code>---\n</code></pre>\n</li>\n</ul>\n".toList := by decide_lits

/-- TAB-FREENESS is a restriction of the proof, not known to be necessary for these documents: a payload tab stands
    behind the fence's / the code block's own indentation, which the wrapper prefixes extend by spaces only, so it
    is never split.  The general statement needs C06's simulations with `'\t' ∉ lead l` in place of `'\t' ∉ l`
    (`quote_view` / `item_view` only expand tabs of the LEADING blanks).  Instances by evaluation: -/
example : renderDoc false (exCfg false 100) (wrapAll [.quote] (fenceDoc '`' 3 [[' ', '\t', 'a']])) =
      .ok "<blockquote>\n<pre><code> \ta\n</code></pre>\n</blockquote>\n".toList ∧
    renderDoc false (exCfg false 100) (wrapAll [.bullet '-'] (indentedDoc [['a'], ['\t', 'a']])) =
      .ok "<ul>\n<li>\n<pre><code>a\n\ta\n</code></pre>\n</li>\n</ul>\n".toList ∧
    renderDoc false (exCfg false 100) (wrapAll [.ordered ['1'] '.'] (indentedDoc [['\t', 'a']])) =
      .ok "<ol>\n<li>\n<pre><code>\ta\n</code></pre>\n</li>\n</ol>\n".toList := by
  decide_lits

end examples


/-! ## 8. code SPANS inside containers: the block half -/

section span

/-- `parseBlocks_para_nested` in terms of the document configuration: a one-line paragraph document `l` (tab-free,
    no terminator, starting with a non-blank character; block parse `Root[Paragraph[InlineRoot c m]]`, the run ending
    `tight`) wrapped in `w` has the block tree `wrapForest w` around the paragraph — or, exactly when the innermost
    wrapper is a list item (`tightOf w`), around the bare placeholder — whose inline text is the SAME `c`, per-line
    table moved by the prefixes' width. -/
theorem doc_para_blocks_nested (cfg : DocCfg) (c : List Char) (m : List (Nat × Nat)) (a : Nat) (l : List Char)
    (g : Good [l]) (hf : FirstLineOk l) (ha : a ≤ Lines.byteLen l) (hm : ∀ kv ∈ m, kv.2 ≤ Lines.byteLen l)
    (w : List Wrapper) (hw : ∀ x ∈ w, x.Ok) (hch : ChainFor cfg.blockChain w)
    (hhr : .hr ∈ cfg.blockChain.takeWhile (· ≠ .list) → HrFree w l)
    (hmn : depthCost w < cfg.maxNesting)
    (hsize : Lines.byteLen (wrapAll w l) + 20 < 2147483648)
    (hbase : parseBlocks { cfg.blockCfg with maxNesting := cfg.maxNesting - depthCost w } l =
      .ok (⟨.root, some (0, Lines.byteLen l), [⟨.paragraph, some (a, Lines.byteLen l), [⟨.inlineRoot c m, none, []⟩]⟩]⟩, []))
    (htight : ∀ t, tokenize { cfg.blockCfg with maxNesting := cfg.maxNesting - depthCost w }
      (fuelFor { cfg.blockCfg with maxNesting := cfg.maxNesting - depthCost w } l) (BState.fresh l .root []) = .ok t →
        t.tight = true) :
    wrapAll w l = firstLine w l ∧
    parseBlocks cfg.blockCfg (wrapAll w l) =
      .ok (⟨.root, some (0, Lines.byteLen (wrapAll w l)),
            wrapForest (Lines.byteLen (wrapAll w l)) w 0
              (paraLeaf c m a (widthAll w) (Lines.byteLen (wrapAll w l)) (tightOf w))⟩, []) := by
  have hdoc : wrapAll w l = firstLine w l := by
    have := wrapAll_docOf hw g
    rwa [wrapAllLines_single, docOf_one, docOf_one] at this
  refine ⟨hdoc, ?_⟩
  rw [hdoc] at hsize ⊢
  have := parseBlocks_para_nested { cfg.blockCfg with maxNesting := cfg.maxNesting - depthCost w }
    (by show 0 < cfg.maxNesting - depthCost w; omega) c m a l g hf ha hm (by rw [docOf_one]; exact hbase)
    (by rw [docOf_one]; exact htight) w hw hch hhr (by rw [docOf_one]; exact hsize)
  rw [blockCfg_nest cfg _ hmn] at this
  simpa only [docOf_one] using this

mutual
/-- structural equality of block trees, as a Boolean (`BNode` has no `DecidableEq`) -/
def beqN : BNode → BNode → Bool
  | ⟨k1, r1, c1⟩, ⟨k2, r2, c2⟩ => decide (k1 = k2) && decide (r1 = r2) && beqL c1 c2
def beqL : List BNode → List BNode → Bool
  | [], [] => true
  | a :: as, b :: bs => beqN a b && beqL as bs
  | _, _ => false
end

mutual
theorem beqN_sound : ∀ (a b : BNode), beqN a b = true → a = b
  | ⟨k1, r1, c1⟩, ⟨k2, r2, c2⟩, h => by
    simp only [beqN, Bool.and_eq_true, decide_eq_true_eq] at h
    obtain ⟨⟨rfl, rfl⟩, h3⟩ := h
    rw [beqL_sound c1 c2 h3]
theorem beqL_sound : ∀ (a b : List BNode), beqL a b = true → a = b
  | [], [], _ => rfl
  | a :: as, b :: bs, h => by
    simp only [beqL, Bool.and_eq_true] at h
    rw [beqN_sound a b h.1, beqL_sound as bs h.2]
  | [], _ :: _, h => by simp [beqL] at h
  | _ :: _, [], h => by simp [beqL] at h
end

/-- the line `` a<`` `*x` ``>b `` — a code span (two backticks, content `` `*x` ``) between other text -/
def spanLine : List Char := "a<`` `*x` ``>b".toList

/-- what the whole pipeline does with that line in a quote in a bullet item (by evaluation; the block tree:
    the example behind `padded_html` in Props/C11Span.lean): the span's content, backtick and star included, verbatim -/
example : renderDoc false (exCfg false 100) "- > a<`` `*x` ``>b".toList =
    .ok "<ul>\n<li>\n<blockquote>\n<p>a&lt;<code>`*x`</code>&gt;b</p>\n</blockquote>\n</li>\n</ul>\n".toList := by
  decide_lits

end span

end MdIt.C11N
