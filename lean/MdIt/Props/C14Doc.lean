/-
  C14 at whole-document level, completed — the two clauses `Props/Pipeline.doc_tree_wf` left OPEN —
  and C11 at document level.  Everything is about the composed model `MdIt.Pipeline` (`parseDoc`,
  `renderDoc`), for ALL sources, any `max_nesting`, with and without `sourcepos`.

  1 `doc_inline_leaves`     at every node of every parsed tree: `Text`, `TextSpecial`, `Softbreak`,
                            `Hardbreak` are childless; `CodeInline` / `Autolink` have exactly one child, a
                            childless NON-EMPTY `Text` (`ShapeD`).  Every configuration.
                            Route: node-SHAPE induction through the inline tokenizer
                            (`Lemmas/C14DocShape.lean`: `Inline.shape_induction`, `parseInline_shapes` —
                            every pushed node has its shape, `trailing_text_push / pop` and the delimiter
                            matching — `replaceAt`, wrapping the tail into `Em` / `Strong` — preserve
                            shapes), then the splice walk (`spliceNode_shape`), `FragmentsJoin`
                            (`shapeD_joinStable`: a kept child keeps its children and its kind, or is a leaf
                            `Text` made of a leaf `Text` / `EmphMarker`: `TextFor`; the single non-empty text of
                            a code span survives the `retain`), `SyntaxPosRule` (`shapeD_attrBlind`), composed by
                            `finish_stable`.
  2 `doc_text_nf_nojoin`    the text normal form (no empty `Text`, no two adjacent `Text`s, every sibling
                            list) when NO emphasis-like rule is configured (no join pass), provided the
                            paragraph rule is the LAST block rule (`Block.ParaLast`; every configuration
                            built from the shipped plugins: `paragraph::add` says `after_all()`).
                            Inline side: `Inline.text_induction` (`C14.push_no_adjacent`,
                            `pop_no_adjacent`) on the document's node type (`ofInline_nfat`).  Block side
                            (`Lemmas/C14DocBlock.lean`): no two `InlineRoot` placeholders are adjacent
                            siblings (`Block.parseBlocks_noAdjInl`) — they could only meet under an item of
                            a tight list, and `state.tight` at the end of an item excludes two adjacent
                            paragraphs (`Block.tokenize_tight`).
    `not_wf_without_paraLast`  the hypothesis cannot be dropped: chain `[list, paragraph, hr]`, source
                            `"- a\n  ***"` ↦ a tight item with the adjacent texts `a`, `***` (model by
                            `decide +kernel`; the real crate agrees: `md.block.add_rule::<ListScanner>()`,
                            `::<ParagraphScanner>()`, `::<HrScanner>()` in this order, no emphasis ↦
                            `ListItem[Text "a", Text "***"]`; with the emphasis plugin ↦ `Text "a***"`; with
                            `paragraph::add` in ANY position the rule stays last and the item is
                            `[Text "a", ThematicBreak]`).
  3 `doc_tree_wf_full`      `WFFull` = `WF true true` ∧ `Every ShapeD`: the COMPLETE predicate of C14, for
                            every configuration with the paragraph rule and (a join pass or `ParaLast`).
  4 C11 for documents (`Lemmas/C14DocVerbatim.lean`, re-exported by the import):
    `doc_fence_verbatim(_sp,_mem)`, `doc_fence_render(_sp,_mem)`, `doc_indented_verbatim(_sp,_mem)`,
    `doc_indented_render(_sp,_mem)` — the fence / indented-code documents of `Block.fence_verbatim` /
    `indented_verbatim` through `parseDoc` and `renderDoc`: the tree is exactly `Root[CodeFence]` /
    `Root[CodeBlock]` with the payload lines as content (ranges exact), the output exactly
    `<pre><code>` ++ `escape_html` content ++ `</code></pre>\n`.

  Remark: `ParaLast` is sufficient and is what real
  configurations satisfy, but it is not the weakest hypothesis for (2) — e.g. a chain without the
  list rule, or with only never-silent rules (`code`, `reference`, `lheading`) behind the paragraph rule,
  has the normal form as well; the weakest condition is "no rule that can answer `true` in silent
  mode stands behind the first paragraph rule, or there is no list rule".
-/
import MdIt.Props.Pipeline
import MdIt.Lemmas.C14DocShape
import MdIt.Lemmas.C14DocBlock
import MdIt.Lemmas.C14DocVerbatim
import MdIt.Lemmas.KernelEval

namespace MdIt.Pipeline
open MdIt.NodeRender (aSourcepos)

/-! ## 1. `doc_inline_leaves` -/

/-- the inline leaf kinds of C14: `Text`, `TextSpecial`, `Softbreak`, `Hardbreak` (and the
    parser-internal `EmphMarker`, which no final tree contains: `parseDoc_final`) -/
def Kind.isInlineLeaf : Kind → Bool
  | .inl (.text _) => true
  | .inl (.special _ _ _) => true
  | .inl .softbreak => true
  | .inl .hardbreak => true
  | .inl (.emphMarker _ _ _ _ _) => true
  | _ => false

/-- the inline kinds whose single child is the text they show: `CodeInline`, `Autolink` -/
def Kind.isOneText : Kind → Bool
  | .inl (.codeInline _ _) => true
  | .inl (.autolink _) => true
  | _ => false

/-- exactly one child: a childless, non-empty `Text` -/
def OneText (cs : List Node) : Prop := ∃ c r a, c ≠ [] ∧ cs = [⟨.inl (.text c), r, a, []⟩]

/-- the shape condition of C14 on one node -/
def ShapeD (n : Node) : Prop :=
  (n.kind.isInlineLeaf = true → n.children = []) ∧ (n.kind.isOneText = true → OneText n.children)

theorem leaf_not_oneText {k : Kind} (h : k.isInlineLeaf = true) : k.isOneText = false := by
  cases k with
  | blk b => rfl
  | inl v => cases v <;> first | rfl | cases h

theorem shapeD_blk (b : Block.Kind) (r : Option (Nat × Nat)) (a : List (List Char × List Char))
    (cs : List Node) : ShapeD ⟨.blk b, r, a, cs⟩ :=
  ⟨fun h => (by cases h), fun h => (by cases h)⟩

/-! ### step 1: the splice walk -/

mutual
theorem ofInline_shape (n : Inline.Node) (h : Inline.AllShape n) : Every ShapeD (ofInline n) := by
  match n with
  | ⟨v, r, cs⟩ =>
    rw [Inline.AllShape_eq] at h
    obtain ⟨h1, h2⟩ := h
    simp only at h1 h2
    unfold ofInline
    refine .mk _ ?_ (ofInlineList_shape cs h2)
    cases v <;> simp only [Inline.ShapeOK] at h1
    all_goals first
      | (subst h1; exact ⟨fun _ => rfl, fun hc => (by cases hc)⟩)
      | (obtain ⟨c, r', hc, rfl⟩ := h1
         exact ⟨fun hc => (by cases hc), fun _ => ⟨c, r', [], hc, by simp [ofInlineList, ofInline]⟩⟩)
      | exact ⟨fun hc => (by cases hc), fun hc => (by cases hc)⟩
theorem ofInlineList_shape (cs : List Inline.Node) (h : Inline.AllShapeList cs) :
    ∀ c ∈ ofInlineList cs, Every ShapeD c := by
  match cs with
  | [] => simp [ofInlineList]
  | c :: r =>
    simp only [Inline.AllShapeList] at h
    intro x hx
    simp only [ofInlineList, List.mem_cons] at hx
    rcases hx with rfl | hx
    · exact ofInline_shape c h.1
    · exact ofInlineList_shape r h.2 x hx
end

theorem spliceNode_shape {icfg : Inline.Cfg} {b : Block.BNode} (hk : ¬ IsInl b.kind) {t : Node}
    (h : PipelineH.spliceNodeG (Inline.parseInline icfg) b = .ok t) : Every ShapeD t :=
  spliceNode_every_of (B := fun _ => True) (fun _ _ _ _ _ => trivial)
    (fun _ _ _ ns _ _ hns => ofInlineList_shape ns (Inline.parseInline_shapes icfg hns))
    (fun _ _ _ _ _ _ => shapeD_blk _ _ _ _) b trivial hk t h

theorem spliceList_shape {icfg : Inline.Cfg} (cs : List Block.BNode) (out : List Node)
    (h : spliceList icfg cs = .ok out) : ∀ c ∈ out, Every ShapeD c :=
  spliceList_every_of (B := fun _ => True) (fun _ _ _ _ _ => trivial)
    (fun _ _ _ ns _ _ hns => ofInlineList_shape ns (Inline.parseInline_shapes icfg hns))
    (fun _ _ _ _ _ _ => shapeD_blk _ _ _ _) cs (fun _ _ => trivial) out
    (by rw [spliceListG_parseInline]; exact h)

/-! ### step 2: `FragmentsJoin` keeps the shapes -/

theorem leaf_of_isText {n : Node} (h : n.isText = true) : n.kind.isInlineLeaf = true := by
  unfold Node.isText at h
  split at h
  · next heq => rw [heq]; rfl
  · cases h

theorem leaf_of_isMarker {k : Kind} (h : k.isMarker = true) : k.isInlineLeaf = true := by
  unfold Kind.isMarker at h
  split at h
  · rfl
  · cases h

theorem shapeD_textFor {c x : Node} (h : ShapeD c) (hr : TextFor c x) : ShapeD x := by
  rcases hr.2.2 with rfl | ⟨ht, hc⟩
  · exact h
  · have hl : c.kind.isInlineLeaf = true := hc.elim leaf_of_isText leaf_of_isMarker
    unfold ShapeD
    rw [hr.1]
    exact ⟨fun _ => h.1 hl, fun ho => by rw [leaf_not_oneText (leaf_of_isText ht)] at ho; cases ho⟩

theorem fragmentsJoin_oneText {cs : List Node} (h : OneText cs) : (fragmentsJoin cs).map joinNode = cs := by
  obtain ⟨c, r, a, hc, rfl⟩ := h
  have hk : keep ⟨.inl (.text c), r, a, []⟩ = true := by
    cases c with
    | nil => exact absurd rfl hc
    | cons x xs => rfl
  simp [fragmentsJoin, pass1, markerToText, mergeAll, mergeLoop, hk, joinNode_childless]

theorem shapeD_joinStable : JoinStable ShapeD where
  keep := keep_of_textFor fun _ _ hr _ _ hc => shapeD_textFor hc hr
  node n he := by
    rw [ShapeD, joinNode_kind, joinNode_children]
    exact ⟨fun hl => by rw [he.here.1 hl]; rfl,
      fun ho => by rw [fragmentsJoin_oneText (he.here.2 ho)]; exact he.here.2 ho⟩

theorem joinNode_shape_aux (k : Nat) : ∀ n : Node, nsize n ≤ k → Every ShapeD n →
    Every ShapeD (joinNode n) :=
  fun _ _ he => shapeD_joinStable.every he

/-! ### step 3: `SyntaxPosRule` keeps the shapes -/

theorem shapeD_attrBlind : AttrBlind ShapeD := by
  intro f n hn
  refine ⟨fun hl => by simp [hn.1 hl], fun ho => ?_⟩
  obtain ⟨c, r, a, hc, e⟩ := hn.2 ho
  exact ⟨c, r, f r a, hc, by simp [e, mapAttrs, mapAttrsList]⟩

theorem sourceposNode_shape {src : List Char} {marks : List SourceMap.Mark} (t t' : Node)
    (he : Every ShapeD t) (h : sourceposNode src marks t = .ok t') :
    Every ShapeD t' ∧ t'.kind = t.kind ∧ t'.range = t.range ∧ (t.children = [] → t'.children = []) := by
  obtain rfl := sourceposNode_eq_mapAttrs h
  exact ⟨mapAttrs_every _ (shapeD_attrBlind _) he, mapAttrs_kind _ t, mapAttrs_range _ t, fun e => by simp [e]⟩

theorem sourceposList_shape {src : List Char} {marks : List SourceMap.Mark} (cs cs' : List Node)
    (he : ∀ x ∈ cs, Every ShapeD x) (h : sourceposList src marks cs = .ok cs') :
    (∀ x ∈ cs', Every ShapeD x) ∧
    (∀ x r, cs = x :: r → ∃ x' r', cs' = x' :: r' ∧ (r = [] → r' = []) ∧ x'.kind = x.kind ∧
      x'.range = x.range ∧ (x.children = [] → x'.children = [])) := by
  refine ⟨sourceposList_every_of (shapeD_attrBlind _) he h, fun x r e => ?_⟩
  rw [sourceposList_eq_map h, e]
  exact ⟨_, _, List.map_cons, fun e => by simp [e], mapAttrs_kind _ x, mapAttrs_range _ x, fun e => by simp [e]⟩

/-! ### `doc_inline_leaves` -/

/-- **`doc_inline_leaves` (C14, "leaf kinds have no children", the inline part).**  In the tree
    `parseDoc` returns, at EVERY node: `Text`, `TextSpecial`, `Softbreak`, `Hardbreak` are childless;
    `CodeInline` and `Autolink` have exactly one child, a childless non-empty `Text`.  For every
    configuration (emphasis-like rules included or not, any chains, any `max_nesting`, with or without
    `sourcepos`) and every source.  (The block leaves are `LocK.blockLeaf` of `doc_tree_wf`.) -/
theorem doc_inline_leaves (cfg : DocCfg) (src : List Char) (t : Node) (h : parseDoc cfg src = .ok t) :
    Every ShapeD t := by
  obtain ⟨root, refs, t0, hb, hs, hf⟩ := parseDoc_ok h
  exact finish_stable (fun _ => shapeD_joinStable) (fun _ => shapeD_attrBlind) hf
    (spliceNode_shape (notInl_root (Block.parseBlocks_wf hb).1) hs)

/-! ## 2. `doc_text_nf_nojoin` -/

/-- the text normal form of one sibling list: no empty `Text`, no two adjacent `Text`s -/
def NFat (n : Node) : Prop := NoEmptyTextK (kinds n.children) ∧ NoAdjTextK (kinds n.children)

theorem every_and {P Q : Node → Prop} : ∀ {n : Node}, Every P n → Every Q n → Every (fun x => P x ∧ Q x) n :=
  Every.and

theorem locN_nf {para markers : Bool} {n : Node} (h : LocN para markers false n) (hn : NFat n) :
    LocN para markers true n :=
  ⟨h.noInlRoot, h.noMarker, h.noRoot, h.listKids, h.itemParent, h.inlinePlace, h.inlineKids,
    h.textBlockKids, h.blockLeaf, fun _ => hn⟩

/-! ### the inline side: `Inline.text_induction` on the document's node type -/

theorem parseInline_tok {icfg : Inline.Cfg} (hne : icfg.hasEmph = false) {content : List Char}
    {mapping : InlineOps.Srcmap} {ns : List Inline.Node}
    (h : Inline.parseInline icfg content mapping = .ok ns) : Inline.TOK ns ∧ Inline.DeepTOKList ns := by
  have hne' : ∀ id ∈ icfg.chain, id.isEmph = false := by
    unfold Inline.Cfg.hasEmph at hne
    rw [List.any_eq_false] at hne
    intro id hid
    simpa using hne id hid
  unfold Inline.parseInline Inline.tokenize at h
  split at h
  · simp at h
  · next st hst =>
    simp only [Except.ok.injEq] at h; subst h
    exact Inline.text_induction icfg hne' _ _ _ _ hst ⟨Inline.tok_nil, trivial⟩

theorem kinds_ofInlineList (l : List Inline.Node) :
    kinds (ofInlineList l) = l.map (fun n => Kind.inl n.val) := by
  induction l with
  | nil => rfl
  | cons c r ih =>
    simp only [ofInlineList, kinds, List.map_cons] at ih ⊢
    rw [ih, ofInline_kind]

theorem isTextK_inl (n : Inline.Node) : (Kind.inl n.val).isTextK = n.isText := by
  unfold Kind.isTextK Inline.Node.isText
  cases n.val <;> rfl

theorem noEmptyK_of_tok {l : List Inline.Node} (h : Inline.TOK l) : NoEmptyTextK (kinds (ofInlineList l)) := by
  rw [kinds_ofInlineList]
  intro hm
  obtain ⟨n, hn, hk⟩ := List.mem_map.mp hm
  have h1 := h.noEmpty (Inline.erase n) (by rw [Inline.eraseList_eq_map]; exact List.mem_map.mpr ⟨n, hn, rfl⟩)
  rw [Inline.erase_isText, Inline.erase_content] at h1
  injection hk with hk
  have : n.isText = true := by unfold Inline.Node.isText; rw [hk]
  have := h1 this
  unfold Inline.Node.content at this
  rw [hk] at this
  exact this rfl

theorem noAdjK_of_noAdj : ∀ (l : List Inline.Node), C14.NoAdjText (Inline.eraseList l) →
    NoAdjTextK (l.map (fun n => Kind.inl n.val))
  | [], _ => trivial
  | x :: r, h => by
    simp only [Inline.eraseList, C14.NoAdjText] at h
    refine ⟨?_, noAdjK_of_noAdj r h.2⟩
    intro k' hk' hc
    cases r with
    | nil => simp at hk'
    | cons y r' =>
      simp only [List.map_cons, List.head?_cons, Option.some.injEq] at hk'
      subst hk'
      rw [isTextK_inl, isTextK_inl] at hc
      refine h.1 (Inline.erase y) (by simp [Inline.eraseList]) ?_
      rw [Inline.erase_isText, Inline.erase_isText]
      exact hc

theorem nfat_of_tok {l : List Inline.Node} (h : Inline.TOK l) :
    NoEmptyTextK (kinds (ofInlineList l)) ∧ NoAdjTextK (kinds (ofInlineList l)) :=
  ⟨noEmptyK_of_tok h, by rw [kinds_ofInlineList]; exact noAdjK_of_noAdj l h.noAdj⟩

mutual
theorem ofInline_nfat (n : Inline.Node) (h : Inline.DeepTOK n) : Every NFat (ofInline n) := by
  match n with
  | ⟨v, r, cs⟩ =>
    rw [Inline.DeepTOK_eq] at h
    unfold ofInline
    exact .mk _ (nfat_of_tok h.1) (ofInlineList_nfat cs h.2)
theorem ofInlineList_nfat (cs : List Inline.Node) (h : Inline.DeepTOKList cs) :
    ∀ c ∈ ofInlineList cs, Every NFat c := by
  match cs with
  | [] => simp [ofInlineList]
  | c :: r =>
    simp only [Inline.DeepTOKList] at h
    intro x hx
    simp only [ofInlineList, List.mem_cons] at hx
    rcases hx with rfl | hx
    · exact ofInline_nfat c h.1
    · exact ofInlineList_nfat r h.2 x hx
end

/-! ### the splice walk over a block tree without adjacent placeholders -/

/-- the first element (if any) is not a `Text` -/
def HeadNotText (ks : List Kind) : Prop := ∀ k, ks.head? = some k → k.isTextK = false

theorem noAdjK_append : ∀ (a b : List Kind), NoAdjTextK a → NoAdjTextK b → HeadNotText b → NoAdjTextK (a ++ b)
  | [], b, _, hb, _ => hb
  | x :: r, b, ha, hb, hh => by
    refine ⟨?_, noAdjK_append r b ha.2 hb hh⟩
    intro k' hk' hc
    cases r with
    | nil =>
      rw [hh k' hk'] at hc
      exact absurd hc.2 (by simp)
    | cons y r' =>
      exact ha.1 k' (by simpa using hk') hc

theorem noEmptyK_append {a b : List Kind} (ha : NoEmptyTextK a) (hb : NoEmptyTextK b) : NoEmptyTextK (a ++ b) := by
  intro h
  rcases List.mem_append.mp h with h | h
  · exact ha h
  · exact hb h

theorem kinds_append (a b : List Node) : kinds (a ++ b) = kinds a ++ kinds b := by simp [kinds]

section
open MdIt.PipelineH (spliceNodeG spliceListG)
variable {parse : List Char → InlineOps.Srcmap → Except Inline.Panic (List Inline.Node)}

/-- the sibling list the splice walk makes of a list without adjacent placeholders is in text normal form when
    what every inline run returns is: the texts of different placeholders never meet -/
theorem spliceListG_nf
    (hp : ∀ c m ns, parse c m = .ok ns →
      NoEmptyTextK (kinds (ofInlineList ns)) ∧ NoAdjTextK (kinds (ofInlineList ns)))
    (cs : List Block.BNode) (hna : Block.NoAdj Block.BNode.isInl cs) (out : List Node)
    (h : spliceListG parse cs = .ok out) :
    NoEmptyTextK (kinds out) ∧ NoAdjTextK (kinds out) ∧
      (∀ c r, cs = c :: r → c.isInl = false → HeadNotText (kinds out)) := by
  induction cs generalizing out with
  | nil =>
    rw [spliceListG_nil h]
    exact ⟨by simp [kinds, NoEmptyTextK], trivial, fun c r e => by cases e⟩
  | cons c rest ih =>
    obtain ⟨rest', hr, hc⟩ := spliceListG_cons_ok h
    obtain ⟨i2, i3, i4⟩ := ih hna.2 rest' hr
    rcases hc with ⟨content, mapping, ns, hck, hns, rfl⟩ | ⟨hne, c', hc', rfl⟩
    · have ht := hp _ _ _ hns
      have hcinl : c.isInl = true := by unfold Block.BNode.isInl; rw [hck]
      -- the next sibling is not a placeholder: what follows the inline nodes is a block node
      have hhead : HeadNotText (kinds rest') := by
        cases rest with
        | nil => rw [spliceListG_nil hr]; intro k hk; simp [kinds] at hk
        | cons y r' =>
          refine i4 y r' rfl ?_
          cases hy : y.isInl with
          | false => rfl
          | true => exact absurd ⟨hcinl, hy⟩ (hna.1 y rfl)
      refine ⟨?_, ?_, ?_⟩
      · rw [kinds_append]; exact noEmptyK_append ht.1 i2
      · rw [kinds_append]; exact noAdjK_append _ _ ht.2 i3 hhead
      · intro c0 r0 e hc0
        simp only [List.cons.injEq] at e
        rw [← e.1, hcinl] at hc0
        cases hc0
    · have hk := spliceNodeG_kind hc'
      have hnt : c'.kind.isTextK = false := by rw [hk]; rfl
      refine ⟨?_, ⟨?_, i3⟩, ?_⟩
      · intro hm
        simp only [kinds, List.map_cons, List.mem_cons] at hm
        rcases hm with e | e
        · rw [hk] at e; cases e
        · exact i2 e
      · intro k' _ hc'
        rw [hnt] at hc'
        exact absurd hc'.1 (by simp)
      · intro c0 r0 _ _ k hk'
        simp only [kinds, List.map_cons, List.head?_cons, Option.some.injEq] at hk'
        rw [← hk']; exact hnt

end

theorem spliceList_nfat {icfg : Inline.Cfg} (hne : icfg.hasEmph = false) (cs : List Block.BNode)
    (hna : Block.NoAdj Block.BNode.isInl cs) (hn : ∀ c ∈ cs, Block.NAI c) (out : List Node)
    (h : spliceList icfg cs = .ok out) :
    (∀ x ∈ out, Every NFat x) ∧ NoEmptyTextK (kinds out) ∧ NoAdjTextK (kinds out) ∧
      (∀ c r, cs = c :: r → c.isInl = false → HeadNotText (kinds out)) := by
  rw [← spliceListG_parseInline] at h
  have hp := fun c m ns (hns : Inline.parseInline icfg c m = .ok ns) => nfat_of_tok (parseInline_tok hne hns).1
  refine ⟨?_, spliceListG_nf hp cs hna out h⟩
  refine spliceList_every_of (B := Block.NAI) (fun _ hb _ => hb.child)
    (fun _ _ _ ns _ _ hns => ofInlineList_nfat ns (parseInline_tok hne hns).2) ?_ cs hn out h
  intro b cs' hb _ hcs _
  obtain ⟨h2, h3, _⟩ := spliceListG_nf hp b.children hb.at cs' hcs
  exact ⟨h2, h3⟩

theorem spliceNode_nfat {icfg : Inline.Cfg} (hne : icfg.hasEmph = false) (b : Block.BNode) (hb : Block.NAI b)
    (t : Node) (h : spliceNode icfg b = .ok t) : Every NFat t := by
  rw [← spliceNodeG_parseInline] at h
  obtain ⟨cs', hcs, rfl⟩ := spliceNodeG_ok h
  rw [spliceListG_parseInline] at hcs
  obtain ⟨h1, h2, h3, _⟩ := spliceList_nfat hne b.children hb.at hb.child cs' hcs
  exact .mk _ ⟨h2, h3⟩ h1

/-! ### `doc_text_nf_nojoin` -/

theorem hasPara_of_paraLast {cfg : DocCfg} (h : Block.ParaLast cfg.blockChain) : cfg.hasPara = true := by
  obtain ⟨pre, hch, _⟩ := h
  simp [DocCfg.hasPara, hch]

/-- **`doc_text_nf_nojoin` (C14, the text normal form WITHOUT a join pass).**  When no emphasis-like
    inline rule is configured (`cfg.hasJoin = false`: `FragmentsJoin` is not in the core chain) and the
    paragraph rule is the last rule of the block chain (`Block.ParaLast`: what `after_all()` in
    `paragraph::add` makes of every plugin order), the tree `parseDoc` returns is `WF` WITH the text
    normal form: at every node, at any depth, no sibling list contains an empty `Text` or two adjacent
    `Text`s.  Inline side: every `Text` is made by `trailing_text_push`, which merges into a preceding
    `Text` (`Inline.text_induction`, `C14.push_no_adjacent` / `pop_no_adjacent`; the text inside a code
    span / autolink is non-empty).  Block side: no two `InlineRoot` placeholders are adjacent siblings
    (`Block.parseBlocks_noAdjInl`), so the texts of different paragraphs never meet.  For every
    source, any `max_nesting`, with or without `sourcepos`. -/
theorem doc_text_nf_nojoin (cfg : DocCfg) (src : List Char) (t : Node) (h : parseDoc cfg src = .ok t)
    (hj : cfg.hasJoin = false) (hp : Block.ParaLast cfg.blockChain) : WF true true t := by
  refine ⟨(parseDoc_final h).2, ?_⟩
  have hpara : cfg.hasPara = true := hasPara_of_paraLast hp
  obtain ⟨root, refs, t0, hb, hs, hf⟩ := parseDoc_ok h
  rw [spliceNodeG_parseInline] at hs
  obtain ⟨hroot, hwf⟩ := Block.parseBlocks_wf hb
  have he0 := spliceNode_wf' root hwf (notInl_root hroot) t0 hs
  have hn0 := spliceNode_nfat (by rw [hasEmph_inlineCfg]; exact hj) root (Block.parseBlocks_noAdjInl hb hp) t0 hs
  rw [hasEmph_inlineCfg, hj, show cfg.blockCfg.hasPara = true from hpara] at he0
  have h1 : Every (LocN true false true) t0 :=
    Every.imp (fun n hn => locN_nf hn.1 hn.2) (every_and he0 hn0)
  exact (finish_every hf (by rw [hj]; exact h1) (fun _ => locN_attrBlind _ _ _ _) (fun _ _ hn => hn)).1

/-! ## 3. `doc_tree_wf_full` -/

/-- the complete well-formedness predicate of property C14 on a document tree: `WF` with the
    paragraph-rule clauses and the text normal form (`LocK true false true` at every node, `Root` on
    top), and the inline leaf shapes (`ShapeD` at every node) -/
def WFFull (t : Node) : Prop := WF true true t ∧ Every ShapeD t

/-- **`doc_tree_wf_full` (C14 for documents, complete).**  For every configuration that contains the
    paragraph rule, and in which an emphasis-like rule is configured (then `FragmentsJoin` runs) OR the
    paragraph rule is the last block rule (true of every configuration built from the shipped plugins:
    `paragraph::add` registers it `after_all()`), every tree `parseDoc` returns satisfies the COMPLETE
    predicate of C14: no parser-internal placeholder, `Root` on top only, lists / items, inline nodes
    in their places, block AND inline leaves childless (`CodeInline` / `Autolink`: exactly one non-empty
    `Text`), no empty `Text`, no two adjacent `Text`s — at every node, at any depth.  The disjunction
    is necessary: see `not_wf_without_paraLast` below. -/
theorem doc_tree_wf_full (cfg : DocCfg) (src : List Char) (t : Node) (h : parseDoc cfg src = .ok t)
    (hp : cfg.hasPara = true) (hj : cfg.hasJoin = true ∨ Block.ParaLast cfg.blockChain) : WFFull t := by
  refine ⟨?_, doc_inline_leaves cfg src t h⟩
  cases hjoin : cfg.hasJoin with
  | true =>
    have := doc_tree_wf cfg src t h
    rw [hp, hjoin] at this
    exact this
  | false =>
    rcases hj with hj | hj
    · rw [hjoin] at hj; cases hj
    · exact doc_text_nf_nojoin cfg src t h hjoin hj


/-! ## examples: non-vacuity, and the hypotheses are necessary -/

/-- `exCfg` without emphasis-like rules (no join pass), with the block chain `bc` -/
def exNoJoin (bc : List Block.RuleId) : DocCfg :=
  { exCfg false 100 with
      blockChain := bc
      inlineChain := [.text, .newline, .escape, .backticks, .link, .linkEnd, .image, .autolink, .entity] }

/-- the stock block chain (paragraph rule last) -/
def stockBlocks : List Block.RuleId :=
  [.code, .fence, .blockquote, .hr, .list, .reference, .heading, .lheading, .paragraph]

theorem stock_paraLast : Block.ParaLast stockBlocks :=
  ⟨[.code, .fence, .blockquote, .hr, .list, .reference, .heading, .lheading], rfl, by decide⟩

/-- a tight list whose item holds a paragraph, a thematic break and a second paragraph; a code span, an
    autolink, a character reference, an escape, a hard break ending in spaces that are popped -/
def exTight : List Char := "- a\n  ***\n  `c` <xx:y> &amp; \\* b  \n  d".toList

theorem exTight_tags : (parseDoc (exNoJoin stockBlocks) exTight).toOption.map tags =
    some [.root, .ul, .li, .T, .hr, .C, .T, .T, .A, .T, .T, .X, .T, .X, .T, .HB, .T] := by
  unfold exTight
  decide_lits

example : (parseDoc (exNoJoin stockBlocks) exTight).toOption.map tags =
    some [.root, .ul, .li, .T, .hr, .C, .T, .T, .A, .T, .T, .X, .T, .X, .T, .HB, .T] :=
  exTight_tags

theorem exTight_parses : ∃ t, parseDoc (exNoJoin stockBlocks) exTight = .ok t := by
  have h := exTight_tags
  cases hp : parseDoc (exNoJoin stockBlocks) exTight with
  | ok t => exact ⟨t, rfl⟩
  | error e => rw [hp] at h; cases h

/-- the hypotheses of `doc_text_nf_nojoin` / `doc_tree_wf_full` are satisfiable on it (no join pass,
    paragraph rule last) -/
example : ∃ t, parseDoc (exNoJoin stockBlocks) exTight = .ok t ∧ WFFull t := by
  obtain ⟨t, ht⟩ := exTight_parses
  exact ⟨t, ht, doc_tree_wf_full _ _ t ht rfl (.inr stock_paraLast)⟩

/-- … and with the join pass, whatever the block chain is -/
example : ∃ t, parseDoc { exCfg true 100 with blockChain := [.list, .paragraph, .hr] } exTight = .ok t ∧
    WFFull t := by
  have h : (parseDoc { exCfg true 100 with blockChain := [.list, .paragraph, .hr] } exTight).toOption.isSome
      = true := by
    unfold exTight
    decide_lits
  cases hp : parseDoc { exCfg true 100 with blockChain := [.list, .paragraph, .hr] } exTight with
  | ok t => exact ⟨t, rfl, doc_tree_wf_full _ _ t hp rfl (.inl rfl)⟩
  | error e => rw [hp] at h; cases h

/-! ### the paragraph rule must be last (when there is no join pass) -/

/-- two adjacent `Text` kinds -/
def adjK : List Kind → Bool
  | k :: k' :: r => (k.isTextK && k'.isTextK) || adjK (k' :: r)
  | _ => false

mutual
/-- some node of the tree has two adjacent `Text` children -/
def anyAdj : Node → Bool
  | ⟨_, _, _, cs⟩ => adjK (kinds cs) || anyAdjList cs
def anyAdjList : List Node → Bool
  | [] => false
  | c :: cs => anyAdj c || anyAdjList cs
end

theorem adjK_false : ∀ (ks : List Kind), NoAdjTextK ks → adjK ks = false
  | [], _ => rfl
  | [_], _ => rfl
  | k :: k' :: r, h => by
    have h1 := h.1 k' rfl
    have h2 := adjK_false (k' :: r) h.2
    simp only [adjK, h2, Bool.or_false]
    cases hk : k.isTextK <;> cases hk' : k'.isTextK <;> simp_all

mutual
theorem anyAdj_false (n : Node) (h : Every (LocN true false true) n) : anyAdj n = false := by
  match n with
  | ⟨k, r, a, cs⟩ =>
    have h1 := adjK_false _ (h.here.textNF rfl).2
    have h2 := anyAdjList_false cs h.child
    simp only at h1
    simp [anyAdj, h1, h2]
theorem anyAdjList_false (cs : List Node) (h : ∀ c ∈ cs, Every (LocN true false true) c) :
    anyAdjList cs = false := by
  match cs with
  | [] => rfl
  | c :: r =>
    have h1 := anyAdj_false c (h c (by simp))
    have h2 := anyAdjList_false r (fun x hx => h x (List.mem_cons_of_mem _ hx))
    simp [anyAdjList, h1, h2]
end

/-- the block chain `[list, paragraph, hr]`: the paragraph rule is configured but NOT last -/
example : (parseDoc (exNoJoin [.list, .paragraph, .hr]) "- a\n  ***".toList).toOption.map tags =
    some [.root, .ul, .li, .T, .T] := by decide_lits

/-- **the hypothesis `ParaLast` is necessary.**  Without a join pass and with the paragraph rule in
    front of the thematic-break rule, `"- a\n  ***"` parses to a TIGHT list item with two adjacent
    `Text` children `a`, `***`: the look-ahead (`hr` fires silently on `***`) ends the first paragraph,
    but in real mode the paragraph rule comes first and claims the line as a SECOND paragraph, no blank
    line in between, so the list stays tight and `mark_tight_paragraphs` puts the two placeholders side
    by side.  (With the join pass the two texts are merged: previous example.)  Not reachable with the
    shipped plugins alone — `paragraph::add` registers the rule `after_all()` — but with
    `md.block.add_rule::<ParagraphScanner>()` called directly; confirmed on the real crate. -/
theorem not_wf_without_paraLast :
    ∃ t, parseDoc (exNoJoin [.list, .paragraph, .hr]) "- a\n  ***".toList = .ok t ∧
      (exNoJoin [.list, .paragraph, .hr]).hasPara = true ∧ ¬ WF true true t := by
  have h : (parseDoc (exNoJoin [.list, .paragraph, .hr]) "- a\n  ***".toList).toOption.map anyAdj
      = some true := by decide +kernel
  cases hp : parseDoc (exNoJoin [.list, .paragraph, .hr]) "- a\n  ***".toList with
  | error e => rw [hp] at h; cases h
  | ok t =>
    refine ⟨t, rfl, rfl, fun hw => ?_⟩
    rw [hp] at h
    simp only [Except.toOption, Option.map_some, Option.some.injEq] at h
    rw [anyAdj_false t hw.2] at h
    cases h

end MdIt.Pipeline
