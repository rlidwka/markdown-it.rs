/-
  C15 — Byte offsets convert to exact line:column positions.

  Code model and specification: `MdIt/Model/SourceMap.lean` (the specification section there does not
  mention the code).  Helper development: `MdIt/Lemmas/SourceMap.lean`.
  Every theorem quantifies over every text `src : List Char` and every byte offset `o : Nat`
  (character starts, bytes strictly inside a multi-byte character, offsets past the end).
-/
import MdIt.Lemmas.SourceMap
import MdIt.Lemmas.KernelEval

namespace MdIt.SourceMap

/-- The mark vector starts with `(0, 1, 0)` and its offsets are strictly increasing
    (so the binary search is well defined and every conforming `binary_search_by` agrees on it,
    see `bsearch_unique`). -/
theorem marks_sorted (src : List Char) :
    (mkMarks src).head? = some ⟨0, 1, 0⟩ ∧
    (mkMarks src).Pairwise (fun m m' => m.offset < m'.offset) :=
  ⟨by rw [mkMarks_eq]; rfl, mkMarks_pairwise src⟩

/-- Every mark sits on a character boundary of the text (`src[mark.offset..]` cannot panic). -/
theorem marks_on_boundary (src : List Char) (m : Mark) (hm : m ∈ mkMarks src) :
    ∃ tail, sliceFrom src m.offset = some tail := by
  obtain ⟨a, b, hab, ho, _⟩ := mkMarks_sound src m hm
  exact ⟨b, by rw [hab, ho]; exact sliceFrom_append a b⟩

/-- Every mark records the specification's own counts at its offset `p`:
    line = 1 + #{ j < p | line ending at j }, column = #{ characters starting at k < p after the last
    line ending below p }. -/
theorem marks_sound (src : List Char) (m : Mark) (hm : m ∈ mkMarks src) :
    m.line = 1 + (List.range m.offset).countP (lineEnd src) ∧
    m.column = (List.range m.offset).countP
      (fun k => startsAt src k && (List.range m.offset).all fun j => j < k || !lineEnd src j) := by
  obtain ⟨a, b, _, ho, hst⟩ := mkMarks_sound src m hm
  rw [← ho, runSt_eq_counts] at hst
  have h1 := congrArg Prod.fst hst
  have h2 := congrArg Prod.snd hst
  simp only [ite_self, Nat.zero_add] at h1 h2
  exact ⟨h1, h2⟩

/-- a line ending at byte `j`, exhibited as a split of the text -/
theorem lineEnd_split (src : List Char) (j : Nat) (h : lineEnd src j = true) :
    ∃ a ch b, src = a ++ ch :: b ∧ byteLen a = j ∧ isEnd ch b.head? := by
  induction src generalizing j with
  | nil => simp [lineEnd_nil] at h
  | cons ch r ih =>
    by_cases h0 : j = 0
    · subst h0
      rw [lineEnd_cons_zero] at h
      exact ⟨[], ch, r, rfl, rfl, by simpa using h⟩
    · by_cases h1 : j < ch.utf8Size
      · rw [lineEnd_cons_mid ch r j (by omega) h1] at h; exact absurd h (by simp)
      · obtain ⟨k, rfl⟩ : ∃ k, j = ch.utf8Size + k := ⟨j - ch.utf8Size, by omega⟩
        rw [lineEnd_cons_add] at h
        obtain ⟨a, c, b, hab, hl, he⟩ := ih k h
        exact ⟨ch :: a, c, b, by simp [hab], by simp [byteLen, hl], he⟩

/-- The byte after every line ending carries a mark (every line start is a mark), so the mark
    found for `o + 1` is never separated from `o` by a line ending. -/
theorem marks_cover (src : List Char) (j : Nat) (h : lineEnd src j = true) :
    ∃ m ∈ mkMarks src, m.offset = j + 1 := by
  obtain ⟨a, ch, b, hab, hl, he⟩ := lineEnd_split src j h
  obtain ⟨m, hm, ho⟩ := mkMarks_cover a ch b he
  exact ⟨m, by rw [hab]; exact hm, by omega⟩

/-- THE property: for every text and every byte offset, `get_position` does not panic and returns
    exactly the line and the column of the direct (counting) definition. -/
theorem getPosition_spec (src : List Char) (o : Nat) :
    getPosition src (mkMarks src) o = .ok (specLine src o, specCol src o) := by
  have hs := mkMarks_pairwise src
  have hkeys : ((mkMarks src).map (·.offset)).Pairwise (· < ·) := List.pairwise_map.mpr hs
  have h0 : ∃ h : 0 < ((mkMarks src).map (·.offset)).length,
      ((mkMarks src).map (·.offset))[0] ≤ o + 1 := by
    rw [mkMarks_eq]; exact ⟨by simp, by simp⟩
  obtain ⟨f, hf, hlt, hle, hmax⟩ :=
    foundOf_bsearch ((mkMarks src).map (·.offset)) (o + 1) hkeys h0
  have hfl : f < (mkMarks src).length := by simpa using hlt
  have hmo : ((mkMarks src).map (·.offset))[f] = ((mkMarks src)[f]).offset := by simp
  rw [hmo] at hle
  obtain ⟨a, b, hab, hoff, hst⟩ := mkMarks_sound src ((mkMarks src)[f]) (List.getElem_mem _)
  -- between the mark found and the offset there is no line ending
  have hno : noEnd b (o + 1 - ((mkMarks src)[f]).offset) := by
    refine Classical.byContradiction fun hc => ?_
    obtain ⟨x, ch, y, hxy, hx, hend⟩ := exists_end_of_not_noEnd _ _ hc
    have hsrc : src = (a ++ x) ++ ch :: y := by simp [hab, hxy]
    obtain ⟨m', hm', ho'⟩ := mkMarks_cover (a ++ x) ch y hend
    rw [← hsrc] at hm'
    obtain ⟨j, hj, hjm⟩ := List.mem_iff_getElem.mp hm'
    rw [byteLen_append] at ho'
    have hkj : ((mkMarks src).map (·.offset))[j]'(by simpa using hj) = m'.offset := by
      simp [hjm]
    by_cases hjf : f < j
    · have := hmax j (by simpa using hj) hjf
      omega
    · have := sorted_mono hkeys (by simpa using hj) hlt (by omega : j ≤ f)
      omega
  -- run the code
  unfold getPosition
  simp only [hf, List.getElem?_eq_getElem hfl]
  have hsl : sliceFrom src ((mkMarks src)[f]).offset = some b := by
    rw [hoff]; conv => lhs; rw [hab]
    exact sliceFrom_append a b
  simp only [hsl]
  rw [spec_is_fold, colLoop_eq]
  -- the fold from the mark to the offset only counts characters
  have hrun := runSt_append 1 0 a b (o + 1) (by omega)
  rw [← hab] at hrun
  rw [← hoff] at hst hrun
  rw [← hst] at hrun
  rw [hrun, runSt_noEnd _ _ _ _ hno]
  simp

/-- `get_position` never panics: no `usize` underflow in `x - 1`, `marks[found]` in range,
    `src[mark.offset..]` on a character boundary. -/
theorem getPosition_total (src : List Char) (o : Nat) :
    ∃ p, getPosition src (mkMarks src) o = .ok p :=
  ⟨_, getPosition_spec src o⟩

/-- Ranges (`SourcePos::get_positions`): start position of byte `start`, end position of byte
    `end − 1` (of byte 0 when `end = 0`). -/
theorem getPositions_spec (src : List Char) (s e : Nat) :
    getPositions src (mkMarks src) (s, e) = .ok (specRange src (s, e)) := by
  have he : (if e > 0 then e - 1 else e) = e - 1 := by split <;> omega
  simp only [getPositions, getPosition_spec, he]
  rfl

/-! ## Reading aids for the specification -/

/-- position of the last line ending strictly below `n` (the `last(o')` of the informal statement,
    with `n = o' + 1`) -/
def lastEndBelow (src : List Char) : Nat → Option Nat
  | 0 => none
  | n + 1 => if lineEnd src n then some n else lastEndBelow src n

/-- `afterLastEnd src o k` says exactly: `k` is greater than the position of the last line ending
    `≤ o` (or there is none). -/
theorem afterLastEnd_iff_lastEnd (src : List Char) (o k : Nat) :
    afterLastEnd src o k = true ↔
      match lastEndBelow src (o + 1) with
      | none => True
      | some j => j < k := by
  rw [afterLastEnd_eq, noEndFrom_iff]
  generalize o + 1 = n
  induction n with
  | zero => simp [lastEndBelow]
  | succ n ih =>
    unfold lastEndBelow
    by_cases h : lineEnd src n = true
    · simp only [h, if_true]
      constructor
      · intro hh
        refine Classical.byContradiction fun hc => ?_
        have := hh n (by omega) (by omega)
        simp [h] at this
      · intro hh j hj hk
        omega
    · rw [if_neg h, ← ih]
      constructor
      · intro hh j hj hk; exact hh j (by omega) hk
      · intro hh j hj hk
        by_cases hjn : j = n
        · subst hjn; simpa using h
        · exact hh j (by omega) hk

/-- the clamp only matters for the cost of the count: past the end nothing starts and nothing ends,
    so every offset `≥ |src| − 1` has the position of the last byte -/
theorem spec_past_end (src : List Char) (o : Nat) (h : byteLen src - 1 ≤ o) :
    (specLine src o, specCol src o) = (specLine src (byteLen src - 1), specCol src (byteLen src - 1)) := by
  have e : clamp src o = clamp src (byteLen src - 1) := by unfold clamp; omega
  simp only [specLine, specCol, e]

/-- the empty text: every offset is reported as `(1, 0)` -/
theorem spec_empty (o : Nat) : (specLine [] o, specCol [] o) = (1, 0) := by
  rw [spec_is_fold]; rfl

/-! ## Non-vacuity: the specification on hand-checked texts, and the four unit tests of
    `sourcemap.rs` run on the code model (evaluated by the kernel: `decide +kernel`). -/

/-- evaluation helper: the code returned exactly `p` (a panic is `false`) -/
def posIs (r : Except Panic (Nat × Nat)) (p : Nat × Nat) : Bool :=
  match r with
  | .ok q => q == p
  | .error _ => false

/-- evaluation helper: `get_positions(..).0 == p` -/
def startIs (r : Except Panic ((Nat × Nat) × (Nat × Nat))) (p : Nat × Nat) : Bool :=
  match r with
  | .ok q => q.1 == p
  | .error _ => false

/-- the specification itself on `"a\r\nb"`: the CR of a CRLF is an ordinary character of line 1
    (column 2), the LF ends the line (reported as line 2, column 0), past the end is clamped -/
example : (List.range 6).map (fun o => (specLine ['a', '\r', '\n', 'b'] o, specCol ['a', '\r', '\n', 'b'] o))
    = [(1, 1), (1, 2), (2, 0), (2, 1), (2, 1), (2, 1)] := by decide +kernel

/-- `"\r\r\n\n"`: lone CR, CRLF (counted once, at its LF), LF -/
example : (List.range 4).map (fun o => (specLine ['\r', '\r', '\n', '\n'] o, specCol ['\r', '\r', '\n', '\n'] o))
    = [(2, 0), (2, 1), (3, 0), (4, 0)] := by decide +kernel

/-- `"aé€\nß"` (1+2+3+1+2 bytes): an offset strictly inside a multi-byte character is reported as
    that character -/
example : (List.range 9).map (fun o => (specLine ['a', 'é', '€', '\n', 'ß'] o, specCol ['a', 'é', '€', '\n', 'ß'] o))
    = [(1, 1), (1, 2), (1, 2), (1, 3), (1, 3), (1, 3), (2, 0), (2, 1), (2, 1)] := by decide +kernel

/-- `getPosition_spec` instantiated on a 40-character line (two checkpoints are crossed) -/
example : getPosition (List.replicate 40 'x') (mkMarks (List.replicate 40 'x')) 37 = .ok (1, 38) := by
  rw [getPosition_spec]; exact congrArg _ (by decide +kernel)

/-- checkpoints are really there: a 40-character line has marks at columns 0, 16, 32 -/
example : mkMarks (List.replicate 40 'x') = [⟨0, 1, 0⟩, ⟨16, 1, 16⟩, ⟨32, 1, 32⟩] := by
  decide +kernel

def testNoLinebreaks : List Char := "qwertyuiopasdfghjklzxcvbnmQWERTYUIOPASDFGHJKLZXCVBNM".toList
def testUnicode : List Char := "!ΑαΒβΓγΔδΕεΖζΗηΘθΙιΚκΛλΜμΝνΞξΟοΠπΡρΣσςΤτΥυΦφΧχΨψΩω".toList
def testManyLinebreaks : List Char := "\n\n\n\n\n\n123".toList

/-- unit test `no_linebreaks` -/
example : ∀ i, i < 20 →
    startIs (getPositions testNoLinebreaks (mkMarks testNoLinebreaks) (i, 0)) (1, i + 1) = true := by
  unfold testNoLinebreaks
  decide_lits

/-- unit test `unicode` -/
example : startIs (getPositions testUnicode (mkMarks testUnicode) (0, 0)) (1, 1) = true ∧
    ∀ i, i < 20 → 1 ≤ i →
      startIs (getPositions testUnicode (mkMarks testUnicode) (i, 0)) (1, (i - 1) / 2 + 2) = true := by
  unfold testUnicode
  decide_lits

/-- unit test `many_linebreaks` -/
example : (∀ i, i < 6 →
      startIs (getPositions testManyLinebreaks (mkMarks testManyLinebreaks) (i, 0)) (i + 2, 0) = true) ∧
    startIs (getPositions testManyLinebreaks (mkMarks testManyLinebreaks) (7, 0)) (7, 2) = true ∧
    startIs (getPositions testManyLinebreaks (mkMarks testManyLinebreaks) (8, 0)) (7, 3) = true := by
  unfold testManyLinebreaks
  decide_lits

/-- unit test `after_end` -/
example :
    startIs (getPositions "123".toList (mkMarks "123".toList) (100, 0)) (1, 3) = true ∧
    startIs (getPositions "123\n".toList (mkMarks "123\n".toList) (100, 0)) (2, 0) = true ∧
    startIs (getPositions "123\n456".toList (mkMarks "123\n456".toList) (100, 0)) (2, 3) = true := by
  decide +kernel

/-- `getPositions_spec` on the crate's doc example `"# hello"`, node `[0, 7)`: `1:1-1:7` -/
example : getPositions "# hello".toList (mkMarks "# hello".toList) (0, 7) = .ok ((1, 1), (1, 7)) := by
  rw [getPositions_spec]; exact congrArg _ (by decide +kernel)

end MdIt.SourceMap
