/-
  C02 — the nesting limit bounds tree depth and recursion.

  Model: `MdIt/Model/Nesting.lean` (call trees admitted by the guards, parameterised by
  `N = max_nesting` and by the table `Sites` of level increments at the five recursive call sites).

  Every theorem takes the site table `s` with the hypothesis `s.raising = true`
  (`0 < quote`, `0 < listOuter + listItem`, `0 < linkLabel`, `0 < skipRule`); the tie to the source
  is the one-line obligation `currentSites.raising = true` / `Gen.Consts.levelSites = currentSites`.

  What the skeleton leaves out: its admissible runs put NO limit on emphasis matches, so in it
  `'*a ' × n ++ 'a*' × n` has depth n + 2 whatever `max_nesting` is (`emphasis_unbounded`,
  `full_statement_false`: statements about `Nesting`, not about the crate), and the depth bound of
  this file, `depth_bounded_partial`, does not count emphasis wrappers.  The crate's delimiter matcher
  does stop at `level + emphasis depth ≥ max_nesting` (commit 8078f5b, finding class `emph-depth`);
  its runs are a subset of the skeleton's, so the upper bounds here hold of it, and the bound with
  emphasis counted is proved on the real parser model: `Pipeline.doc_full_depth_bounded`
  (`Props/EmphDepthDoc.lean`).

  Property theorems (all for EVERY limit `N`, every admissible run, every raising table):
    currentSites_raising, sites_toList            the tie to the source (one `decide` each)
    over_limit_degrades (_block / _inline / _skip)
    block_frames_bounded   ≤ N + 1      inline_frames_bounded ≤ N + 2     recursion_bounded ≤ N + 2
    parse_stack_bounded    ≤ 2·N + 3    (walk_recursive frames of the inline pass included)
    depth_bounded_partial  ≤ 2·N + 2    (…_weak: 3·N + 1 if a list costs one level only)
    depth_oracle_bound     ≤ 4·N + 16   (the harness oracle's bound)
    block_frames_tight, recursion_tight, depth_tight, parse_stack_tight, limit_zero
    tree_depth, walk_render_drop_recursion, walk_of_run,
    depth_excess_is_emphasis, walk_bounded_up_to_emphasis
    sites_needed, sites_needed_depth, bounded_iff_raising
    emphasis_unbounded, full_statement_false        (the skeleton alone does not bound emphasis depth)
    trace_bounded, trace_prefix_bounded, trace_of_run   (the driver's trace checker)
-/
import MdIt.Model.Nesting

namespace MdIt.Nesting

variable {s : Sites} {N : Nat}

theorem Sites.raising_iff (s : Sites) :
    s.raising = true ↔
      0 < s.quote ∧ 0 < s.listOuter + s.listItem ∧ 0 < s.linkLabel ∧ 0 < s.skipRule := by
  simp [Sites.raising, and_assoc]

/-- the tie to the source: all five sites of the code on disk raise the level -/
theorem currentSites_raising : currentSites.raising = true := by decide

/-- a table read off the source (`Gen.Consts.levelSites : List Nat`) that equals
`currentSites.toList` IS `currentSites`; so the obligation is
`Gen.Consts.levelSites = currentSites.toList := by decide`. -/
theorem sites_toList (s : Sites) (h : s.toList = currentSites.toList) : s = currentSites := by
  cases s
  simp [Sites.toList, currentSites] at h ⊢
  omega

example : Sites.ofList currentSites.toList = some currentSites := by decide

/-! That obligation is `gen_levelSites`, `gen_sites_raising` of `Props/GenC02.lean`. -/

/-! ## Over the limit nothing nests -/

/-- **C02 (degradation, block).** A block tokenizer entered at `level ≥ N` fires no rule at all:
the rest of its range is skipped. -/
theorem over_limit_degrades_block (s : Sites) (N L : Nat) (hL : N ≤ L) (fs : List Blk)
    (h : Blk.okL s N L fs = true) : fs = [] := by
  cases fs with
  | nil => rfl
  | cons f fs =>
    cases f <;> simp_all [Blk.okL, Blk.ok] <;> omega

/-- **C02 (degradation, inline).** An inline tokenizer entered at `level ≥ N` produces text only
(no link, no image, no emphasis, no look-ahead). -/
theorem over_limit_degrades_inline (s : Sites) (N L : Nat) (hL : N ≤ L) (fs : List Inl)
    (h : Inl.okL s N L fs = true) : ∀ f ∈ fs, f = Inl.text := by
  induction fs with
  | nil => simp
  | cons f fs ih =>
    simp only [Inl.okL, Bool.and_eq_true] at h
    intro g hg
    simp only [List.mem_cons] at hg
    rcases hg with rfl | hg
    · cases g <;> simp_all [Inl.ok] <;> omega
    · exact ih h.2 g hg

/-- **C02 (degradation, look-ahead).** `skip_token` entered at `level ≥ N` calls no rule. -/
theorem over_limit_degrades_skip (s : Sites) (N L : Nat) (hL : N ≤ L) (t : Skip)
    (h : Skip.ok s N L t = true) : t = Skip.tok [] := by
  cases t with
  | tok nested => cases nested <;> simp_all [Skip.ok] <;> omega

/-- **C02 (degradation).** Constructs nested beyond the limit degrade to plain text or are
skipped: at `level ≥ N` a block tokenizer produces nothing, an inline tokenizer text only, and
`skip_token` calls no rule. -/
theorem over_limit_degrades (s : Sites) (N L : Nat) (hL : N ≤ L) :
    (∀ fs, Blk.okL s N L fs = true → fs = []) ∧
    (∀ fs, Inl.okL s N L fs = true → ∀ f ∈ fs, f = Inl.text) ∧
    (∀ t, Skip.ok s N L t = true → t = Skip.tok []) :=
  ⟨over_limit_degrades_block s N L hL, over_limit_degrades_inline s N L hL,
    over_limit_degrades_skip s N L hL⟩

/-- non-vacuity: a tokenizer AT the limit is entered by admissible runs (its frame exists, it is
just empty): 3 quotes under limit 3, the innermost tokenizer runs at level 3 -/
example : Doc.ok currentSites 3 [.quote [.quote [.quote []]]] = true ∧
    Doc.ok currentSites 3 [.quote [.quote [.quote [.leaf]]]] = false := by decide +kernel

/-! ## Frames -/

mutual
theorem Skip.frames_le (hs : 0 < s.skipRule) :
    ∀ (t : Skip) (L : Nat), Skip.ok s N L t = true → Skip.frames t ≤ (N - L) + 1
  | .tok nested, L, h => by
    simp only [Skip.ok, Bool.and_eq_true, Bool.or_eq_true, decide_eq_true_eq] at h
    have ih := Skip.framesL_le hs nested (L + s.skipRule) h.2
    simp only [Skip.frames]
    rcases h.1 with h1 | h1
    · cases nested <;> simp_all [Skip.framesL]
    · omega
theorem Skip.framesL_le (hs : 0 < s.skipRule) :
    ∀ (ts : List Skip) (L : Nat), Skip.chainOk s N L ts = true → Skip.framesL ts ≤ (N - L) + 1
  | [], _, _ => by simp [Skip.framesL]
  | t :: ts, L, h => by
    simp only [Skip.chainOk, Bool.and_eq_true] at h
    have := Skip.frames_le hs t L h.1
    have := Skip.framesL_le hs ts L h.2
    simp only [Skip.framesL]; omega
end

mutual
theorem Inl.nested_le (hs : 0 < s.skipRule) (hl : 0 < s.linkLabel) :
    ∀ (f : Inl) (L : Nat), Inl.ok s N L f = true → Inl.nested f ≤ (N - L) + 1
  | .text, _, _ => by simp [Inl.nested]
  | .link la label, L, h => by
    simp only [Inl.ok, Bool.and_eq_true, decide_eq_true_eq] at h
    have := Skip.framesL_le hs la L h.1.2
    have := Inl.nestedL_le hs hl label (L + s.linkLabel) h.2
    simp only [Inl.nested]; omega
  | .emph w, L, h => by
    simp only [Inl.ok, Bool.and_eq_true, decide_eq_true_eq] at h
    have := Inl.nestedL_le hs hl w L h.2
    simp only [Inl.nested]; omega
  | .failed la, L, h => by
    simp only [Inl.ok, Bool.and_eq_true, decide_eq_true_eq] at h
    have := Skip.framesL_le hs la L h.2
    simp only [Inl.nested]; omega
theorem Inl.nestedL_le (hs : 0 < s.skipRule) (hl : 0 < s.linkLabel) :
    ∀ (fs : List Inl) (L : Nat), Inl.okL s N L fs = true → Inl.nestedL fs ≤ (N - L) + 1
  | [], _, _ => by simp [Inl.nestedL]
  | f :: fs, L, h => by
    simp only [Inl.okL, Bool.and_eq_true] at h
    have := Inl.nested_le hs hl f L h.1
    have := Inl.nestedL_le hs hl fs L h.2
    simp only [Inl.nestedL]; omega
end

/-- frames of one inline parse (fresh state, level 0) -/
theorem Inl.frames_le (hs : 0 < s.skipRule) (hl : 0 < s.linkLabel) (c : List Inl)
    (h : Inl.okL s N 0 c = true) : Inl.frames c ≤ N + 2 := by
  have := Inl.nestedL_le hs hl c 0 h
  simp only [Inl.frames]; omega

mutual
theorem Blk.nested_le (hq : 0 < s.quote) (hi : 0 < s.listOuter + s.listItem) :
    ∀ (f : Blk) (L : Nat), Blk.ok s N L f = true → Blk.nested f ≤ N - L
  | .leaf, _, _ => by simp [Blk.nested]
  | .para _, _, _ => by simp [Blk.nested]
  | .quote body, L, h => by
    simp only [Blk.ok, Bool.and_eq_true, decide_eq_true_eq] at h
    have := Blk.nestedL_le hq hi body (L + s.quote) h.2
    simp only [Blk.nested]; omega
  | .list items, L, h => by
    simp only [Blk.ok, Bool.and_eq_true, decide_eq_true_eq] at h
    have := Blk.nestedItems_le hq hi items (L + s.listOuter) h.2
    simp only [Blk.nested]; omega
  | .item _, _, h => by simp [Blk.ok] at h
theorem Blk.nestedL_le (hq : 0 < s.quote) (hi : 0 < s.listOuter + s.listItem) :
    ∀ (fs : List Blk) (L : Nat), Blk.okL s N L fs = true → Blk.nestedL fs ≤ N - L
  | [], _, _ => by simp [Blk.nestedL]
  | f :: fs, L, h => by
    simp only [Blk.okL, Bool.and_eq_true] at h
    have := Blk.nested_le hq hi f L h.1
    have := Blk.nestedL_le hq hi fs L h.2
    simp only [Blk.nestedL]; omega
theorem Blk.nestedItems_le (hq : 0 < s.quote) (hi : 0 < s.listOuter + s.listItem) :
    ∀ (items : List Blk) (L : Nat), Blk.itemsOk s N L items = true →
      Blk.nestedL items ≤ 1 + (N - (L + s.listItem))
  | [], _, _ => by simp [Blk.nestedL]
  | .item body :: r, L, h => by
    simp only [Blk.itemsOk, Bool.and_eq_true] at h
    have := Blk.nestedL_le hq hi body (L + s.listItem) h.1
    have := Blk.nestedItems_le hq hi r L h.2
    simp only [Blk.nestedL, Blk.nested]; omega
  | .leaf :: _, _, h => by simp [Blk.itemsOk] at h
  | .para _ :: _, _, h => by simp [Blk.itemsOk] at h
  | .quote _ :: _, _, h => by simp [Blk.itemsOk] at h
  | .list _ :: _, _, h => by simp [Blk.itemsOk] at h
end

/-! ## Heights (tree depth, inline-pass stack): one induction, several budgets -/

/-- a budget `g level` for `Blk.height w X`: what a block tokenizer frame running at `level` may
produce, given that inline content is worth at most `K` -/
structure Budget (s : Sites) (N w K : Nat) (g : Nat → Nat) : Prop where
  para : ∀ L, L < N → w + K ≤ g L
  quote : ∀ L, L < N → w + g (L + s.quote) ≤ g L
  list : ∀ L, L < N → w + (w + g (L + s.listOuter + s.listItem)) ≤ g L

section
variable {w K : Nat} {X : List Inl → Nat} {g : Nat → Nat}

mutual
theorem Blk.height_le (hX : ∀ c, Inl.okL s N 0 c = true → X c ≤ K) (hg : Budget s N w K g) :
    ∀ (f : Blk) (L : Nat), Blk.ok s N L f = true → Blk.height w X f ≤ g L
  | .leaf, L, h => by
    simp only [Blk.ok, decide_eq_true_eq] at h
    have := hg.para L h
    simp only [Blk.height]; omega
  | .para c, L, h => by
    simp only [Blk.ok, Bool.and_eq_true, decide_eq_true_eq] at h
    have := hg.para L h.1
    have := hX c h.2
    simp only [Blk.height]; omega
  | .quote body, L, h => by
    simp only [Blk.ok, Bool.and_eq_true, decide_eq_true_eq] at h
    have := Blk.heightL_le hX hg body (L + s.quote) h.2
    have := hg.quote L h.1
    simp only [Blk.height]; omega
  | .list items, L, h => by
    simp only [Blk.ok, Bool.and_eq_true, decide_eq_true_eq] at h
    have := Blk.heightItems_le hX hg items (L + s.listOuter) h.2
    have := hg.list L h.1
    simp only [Blk.height]; omega
  | .item _, _, h => by simp [Blk.ok] at h
theorem Blk.heightL_le (hX : ∀ c, Inl.okL s N 0 c = true → X c ≤ K) (hg : Budget s N w K g) :
    ∀ (fs : List Blk) (L : Nat), Blk.okL s N L fs = true → Blk.heightL w X fs ≤ g L
  | [], _, _ => by simp [Blk.heightL]
  | f :: fs, L, h => by
    simp only [Blk.okL, Bool.and_eq_true] at h
    have := Blk.height_le hX hg f L h.1
    have := Blk.heightL_le hX hg fs L h.2
    simp only [Blk.heightL]; omega
theorem Blk.heightItems_le (hX : ∀ c, Inl.okL s N 0 c = true → X c ≤ K) (hg : Budget s N w K g) :
    ∀ (items : List Blk) (L : Nat), Blk.itemsOk s N L items = true →
      Blk.heightL w X items ≤ w + g (L + s.listItem)
  | [], _, _ => by simp [Blk.heightL]
  | .item body :: r, L, h => by
    simp only [Blk.itemsOk, Bool.and_eq_true] at h
    have := Blk.heightL_le hX hg body (L + s.listItem) h.1
    have := Blk.heightItems_le hX hg r L h.2
    simp only [Blk.heightL, Blk.height]; omega
  | .leaf :: _, _, h => by simp [Blk.itemsOk] at h
  | .para _ :: _, _, h => by simp [Blk.itemsOk] at h
  | .quote _ :: _, _, h => by simp [Blk.itemsOk] at h
  | .list _ :: _, _, h => by simp [Blk.itemsOk] at h
end
end

/-- budget when a list costs at least two levels (the code: `listOuter = listItem = 1`): one level
per block node, so `N - level` nodes, then a leaf worth `w + K` -/
theorem budget_tight (hq : 0 < s.quote) (hi : 2 ≤ s.listOuter + s.listItem) (w K : Nat)
    (hw : w ≤ 1) (hK : w ≤ K) :
    Budget s N w K (fun L => if L < N then (N - L) + K else 0) where
  para := by intro L hL; rw [if_pos hL]; omega
  quote := by intro L hL; rw [if_pos hL]; split <;> omega
  list := by intro L hL; rw [if_pos hL]; split <;> omega

/-- budget when a list is only known to cost one level: two block nodes per level -/
theorem budget_weak (hq : 0 < s.quote) (hi : 0 < s.listOuter + s.listItem) (w K : Nat)
    (hw : w ≤ 1) (hK : w ≤ K) :
    Budget s N w K (fun L => if L < N then 2 * (N - L) - 1 + K else 0) where
  para := by intro L hL; rw [if_pos hL]; omega
  quote := by intro L hL; rw [if_pos hL]; split <;> omega
  list := by intro L hL; rw [if_pos hL]; split <;> omega

/-- constant budget for weight-0 heights -/
theorem budget_const (K : Nat) : Budget s N 0 K (fun _ => K) where
  para := by intro L _; omega
  quote := by intro L _; omega
  list := by intro L _; omega

/-- block part of a run of the code (a list costs two levels): a path has at most `N` block nodes
above inline content worth `K` -/
theorem Doc.height_le_tight {X : List Inl → Nat} {K : Nat} (hq : 0 < s.quote)
    (hi : 2 ≤ s.listOuter + s.listItem) (hK : 1 ≤ K)
    (hX : ∀ c, Inl.okL s N 0 c = true → X c ≤ K) (d : Doc) (h : Doc.ok s N d = true) :
    Blk.heightL 1 X d ≤ N + K := by
  have := Blk.heightL_le hX (budget_tight hq hi 1 K (Nat.le_refl 1) hK) d 0 h
  simp only [Nat.sub_zero] at this
  split at this <;> omega

/-- the same when a list may cost a single level for its two nodes: at most `2·N - 1` block
nodes -/
theorem Doc.height_le_weak {X : List Inl → Nat} {K : Nat} (hq : 0 < s.quote)
    (hi : 0 < s.listOuter + s.listItem) (hK : 1 ≤ K)
    (hX : ∀ c, Inl.okL s N 0 c = true → X c ≤ K) (d : Doc) (h : Doc.ok s N d = true) :
    Blk.heightL 1 X d + 1 ≤ 2 * N + K := by
  have := Blk.heightL_le hX (budget_weak hq hi 1 K (Nat.le_refl 1) hK) d 0 h
  simp only [Nat.sub_zero] at this
  split at this <;> omega

/-! ## Inline tree depth -/

mutual
theorem Inl.depth_le (hl : 0 < s.linkLabel) :
    ∀ (f : Inl) (L : Nat), Inl.ok s N L f = true → Inl.depth false f ≤ (N - L) + 1
  | .text, _, _ => by simp [Inl.depth]
  | .link _ label, L, h => by
    simp only [Inl.ok, Bool.and_eq_true, decide_eq_true_eq] at h
    have := Inl.depthL_le hl label (L + s.linkLabel) h.2
    simp only [Inl.depth]; omega
  | .emph w, L, h => by
    simp only [Inl.ok, Bool.and_eq_true, decide_eq_true_eq] at h
    have := Inl.depthL_le hl w L h.2
    simp only [Inl.depth]; simp; omega
  | .failed _, _, _ => by simp [Inl.depth]
theorem Inl.depthL_le (hl : 0 < s.linkLabel) :
    ∀ (fs : List Inl) (L : Nat), Inl.okL s N L fs = true → Inl.depthL false fs ≤ (N - L) + 1
  | [], _, _ => by simp [Inl.depthL]
  | f :: fs, L, h => by
    simp only [Inl.okL, Bool.and_eq_true] at h
    have := Inl.depth_le hl f L h.1
    have := Inl.depthL_le hl fs L h.2
    simp only [Inl.depthL]; omega
end

/-- inline content of a paragraph (fresh state, level 0), emphasis wrappers not counted -/
theorem Inl.depthL_le_zero (hl : 0 < s.linkLabel) (c : List Inl) (h : Inl.okL s N 0 c = true) :
    Inl.depthL false c ≤ N + 1 :=
  Inl.depthL_le hl c 0 h

/-! ## The property theorems: recursion -/

/-- **C02 (block pass).** At most `N + 1` block `tokenize` frames are ever active at once. -/
theorem block_frames_bounded (s : Sites) (hs : s.raising = true) (N : Nat) (d : Doc)
    (h : Doc.ok s N d = true) : Doc.blockFrames d ≤ N + 1 := by
  obtain ⟨hq, hi, _, _⟩ := (Sites.raising_iff s).1 hs
  have := Blk.nestedL_le hq hi d 0 h
  simp only [Doc.blockFrames]; omega

/-- **C02 (inline pass).** At most `N + 2` inline `tokenize` + `skip_token` frames are ever active
at once (tokenizers at levels `0..k`, look-ahead frames at levels `k..N`: both recursions consume
the same counter). -/
theorem inline_frames_bounded (s : Sites) (hs : s.raising = true) (N : Nat) (d : Doc)
    (h : Doc.ok s N d = true) : Doc.inlineFrames d ≤ N + 2 := by
  obtain ⟨_, _, hl, hk⟩ := (Sites.raising_iff s).1 hs
  exact Blk.heightL_le (fun c hc => Inl.frames_le hk hl c hc) (budget_const (N + 2)) d 0 h

/-- **C02 (recursion).** The recursion gauge — simultaneously active `tokenize` / `skip_token`
frames — never exceeds `max_nesting + 2`, whatever the input. -/
theorem recursion_bounded (s : Sites) (hs : s.raising = true) (N : Nat) (d : Doc)
    (h : Doc.ok s N d = true) : Doc.frames d ≤ N + 2 := by
  have := block_frames_bounded s hs N d h
  have := inline_frames_bounded s hs N d h
  simp only [Doc.frames]; omega

/-- **C02 (recursion, whole parse).** Counting also the `walk_recursive` frames of the core rule
that runs the inline pass: at most `2·N + 3` frames (`N - 1` containers + paragraph + root, then
`N + 2` inline frames). -/
theorem parse_stack_bounded (s : Sites) (hs : s.raising = true)
    (hi : 2 ≤ s.listOuter + s.listItem) (N : Nat) (d : Doc) (h : Doc.ok s N d = true) :
    Doc.parseStack d ≤ 2 * N + 3 := by
  obtain ⟨hq, _, hl, hk⟩ := (Sites.raising_iff s).1 hs
  have h1 := block_frames_bounded s hs N d h
  have h2 := Doc.height_le_tight hq hi (K := N + 2) (by omega) (Inl.frames_le hk hl) d h
  simp only [Doc.parseStack, Doc.passStack, Blk.passStackL]
  omega

/-- the same for any raising table: `3·N + 2` -/
theorem parse_stack_bounded_weak (s : Sites) (hs : s.raising = true) (N : Nat) (d : Doc)
    (h : Doc.ok s N d = true) : Doc.parseStack d ≤ 3 * N + 2 := by
  obtain ⟨hq, hi, hl, hk⟩ := (Sites.raising_iff s).1 hs
  have h1 := block_frames_bounded s hs N d h
  have h2 := Doc.height_le_weak hq hi (K := N + 2) (by omega) (Inl.frames_le hk hl) d h
  simp only [Doc.parseStack, Doc.passStack, Blk.passStackL]
  omega

/-! ## The property theorems: tree depth -/

/-- **C02 (tree depth, partial).** Partial in that `treeDepthNoEmph` skips emphasis wrappers, which the
skeleton does not limit; every node counted, the bound is `Pipeline.doc_full_depth_bounded`
(`Props/EmphDepthDoc.lean`, on the parser model).  Root + at most `N - 1`
containers + paragraph + at most `N` nested links/images + text: `2·N + 2`. -/
theorem depth_bounded_partial (s : Sites) (hs : s.raising = true)
    (hi : 2 ≤ s.listOuter + s.listItem) (N : Nat) (d : Doc) (h : Doc.ok s N d = true) :
    Doc.treeDepthNoEmph d ≤ 2 * N + 2 := by
  obtain ⟨hq, _, hl, _⟩ := (Sites.raising_iff s).1 hs
  have h2 := Doc.height_le_tight hq hi (K := N + 1) (by omega) (Inl.depthL_le_zero hl) d h
  simp only [Doc.treeDepthNoEmph, Blk.depthL]
  omega

/-- the same for any raising table (a list may then cost a single level for two nodes):
`3·N + 1` -/
theorem depth_bounded_partial_weak (s : Sites) (hs : s.raising = true) (N : Nat) (d : Doc)
    (h : Doc.ok s N d = true) : Doc.treeDepthNoEmph d ≤ 3 * N + 1 := by
  obtain ⟨hq, hi, hl, _⟩ := (Sites.raising_iff s).1 hs
  have h2 := Doc.height_le_weak hq hi (K := N + 1) (by omega) (Inl.depthL_le_zero hl) d h
  simp only [Doc.treeDepthNoEmph, Blk.depthL]
  omega

/-- the bound used by the harness oracle (`4·N + 16`) follows, for the code on disk -/
theorem depth_oracle_bound (N : Nat) (d : Doc) (h : Doc.ok currentSites N d = true) :
    Doc.treeDepthNoEmph d ≤ 4 * N + 16 := by
  have := depth_bounded_partial currentSites currentSites_raising (by decide) N d h
  omega

/-! ## The produced tree and structural traversals -/

mutual
theorem Inl.tree_depth : ∀ f : Inl, Rose.depth (Inl.tree f) = Inl.depth true f
  | .text => by simp [Inl.tree, Rose.depth, Rose.depthL, Inl.depth]
  | .link _ label => by simp [Inl.tree, Rose.depth, Inl.depth, Inl.treeL_depth label]
  | .emph w => by simp [Inl.tree, Rose.depth, Inl.depth, Inl.treeL_depth w]
  | .failed _ => by simp [Inl.tree, Rose.depth, Rose.depthL, Inl.depth]
theorem Inl.treeL_depth : ∀ fs : List Inl, Rose.depthL (Inl.treeL fs) = Inl.depthL true fs
  | [] => by simp [Inl.treeL, Rose.depthL, Inl.depthL]
  | f :: fs => by simp [Inl.treeL, Rose.depthL, Inl.depthL, Inl.tree_depth f, Inl.treeL_depth fs]
end

mutual
theorem Blk.tree_depth : ∀ f : Blk, Rose.depth (Blk.tree f) = Blk.height 1 (Inl.depthL true) f
  | .leaf => by simp [Blk.tree, Rose.depth, Rose.depthL, Blk.height]
  | .para c => by simp [Blk.tree, Rose.depth, Blk.height, Inl.treeL_depth c]
  | .quote body => by simp [Blk.tree, Rose.depth, Blk.height, Blk.treeL_depth body, Blk.depthL]
  | .list items => by simp [Blk.tree, Rose.depth, Blk.height, Blk.treeL_depth items, Blk.depthL]
  | .item body => by simp [Blk.tree, Rose.depth, Blk.height, Blk.treeL_depth body, Blk.depthL]
theorem Blk.treeL_depth : ∀ fs : List Blk, Rose.depthL (Blk.treeL fs) = Blk.depthL true fs
  | [] => by simp [Blk.treeL, Rose.depthL, Blk.depthL, Blk.heightL]
  | f :: fs => by
    have := Blk.treeL_depth fs
    simp only [Blk.depthL] at this
    simp [Blk.treeL, Rose.depthL, Blk.depthL, Blk.heightL, Blk.tree_depth f, this]
end

/-- `Doc.treeDepth` is the depth of the tree the run produces -/
theorem tree_depth (d : Doc) : Rose.depth (Doc.tree d) = Doc.treeDepth d := by
  simp [Doc.tree, Rose.depth, Doc.treeDepth, Blk.treeL_depth]

/-- `evs` is balanced and has at most `n` calls of its own open at once -/
def Calls (evs : List Bool) (n : Nat) : Prop :=
  ∀ (r : List Bool) (cur mx : Nat), cur ≤ mx →
    callDepthFrom (evs ++ r) cur mx = callDepthFrom r cur (max mx (cur + n))

theorem Calls.nil : Calls [] 0 := by
  intro r cur mx h
  rw [Nat.add_zero, Nat.max_eq_left h, List.nil_append]

theorem Calls.append {a b : List Bool} {n m : Nat} (ha : Calls a n) (hb : Calls b m) :
    Calls (a ++ b) (max n m) := by
  intro r cur mx h
  rw [List.append_assoc, ha _ cur mx h, hb r cur _ (Nat.le_trans h (Nat.le_max_left ..)),
    Nat.max_assoc, Nat.add_max_add_left]

theorem Calls.frame {body : List Bool} {n : Nat} (hb : Calls body n) :
    Calls (true :: (body ++ [false])) (1 + n) := by
  intro r cur mx h
  simp only [List.cons_append, List.append_assoc, callDepthFrom]
  rw [hb _ _ _ (Nat.le_max_right ..)]
  simp only [List.nil_append, callDepthFrom, Nat.add_sub_cancel]
  rw [Nat.max_assoc, Nat.max_eq_right (Nat.le_add_right ..), Nat.add_assoc]

mutual
theorem Rose.walk_calls : ∀ t : Rose, Calls (Rose.walk t) (Rose.depth t)
  | .node cs => by
    simp only [Rose.walk, Rose.depth]
    exact (Rose.walkL_calls cs).frame
theorem Rose.walkL_calls : ∀ cs : List Rose, Calls (Rose.walkL cs) (Rose.depthL cs)
  | [] => Calls.nil
  | c :: cs => by
    simp only [Rose.walkL, Rose.depthL]
    exact (Rose.walk_calls c).append (Rose.walkL_calls cs)
end

theorem Rose.walkL_depthFrom : ∀ (cs : List Rose) (r : List Bool) (cur mx : Nat), cur ≤ mx →
    callDepthFrom (Rose.walkL cs ++ r) cur mx = callDepthFrom r cur (max mx (cur + Rose.depthL cs)) :=
  fun cs => Rose.walkL_calls cs

/-- **C02 (walk / render / drop).** The recursion depth of a structural traversal of a tree
(`Node::walk`, `walk_mut`, `render` via `contents`, the drop glue) is the depth of the tree: bounding
the tree bounds them, and an unbounded tree makes all of them unbounded. -/
theorem walk_render_drop_recursion (t : Rose) : callDepth (Rose.walk t) = Rose.depth t := by
  have := Rose.walk_calls t [] 0 0 (Nat.le_refl 0)
  simpa [callDepth, callDepthFrom] using this

/-- for the tree a run produces: walk recursion = `treeDepth` -/
theorem walk_of_run (d : Doc) : callDepth (Rose.walk (Doc.tree d)) = Doc.treeDepth d := by
  rw [walk_render_drop_recursion, tree_depth]

/-! ### every level beyond the bound is an emphasis wrapper -/

mutual
theorem Inl.depth_split : ∀ f : Inl, Inl.depth true f ≤ Inl.depth false f + Inl.emphDepth f
  | .text => by simp [Inl.depth]
  | .link _ label => by
    have := Inl.depthL_split label
    simp only [Inl.depth, Inl.emphDepth]; omega
  | .emph w => by
    have := Inl.depthL_split w
    simp only [Inl.depth, Inl.emphDepth]; simp; omega
  | .failed _ => by simp [Inl.depth]
theorem Inl.depthL_split :
    ∀ fs : List Inl, Inl.depthL true fs ≤ Inl.depthL false fs + Inl.emphDepthL fs
  | [] => by simp [Inl.depthL]
  | f :: fs => by
    have := Inl.depth_split f
    have := Inl.depthL_split fs
    simp only [Inl.depthL, Inl.emphDepthL]; omega
end

mutual
theorem Blk.height_split {X Y Z : List Inl → Nat} (h : ∀ c, X c ≤ Y c + Z c) (w : Nat) :
    ∀ f : Blk, Blk.height w X f ≤ Blk.height w Y f + Blk.height 0 Z f
  | .leaf => by simp [Blk.height]
  | .para c => by have := h c; simp only [Blk.height]; omega
  | .quote body => by have := Blk.heightL_split h w body; simp only [Blk.height]; omega
  | .list items => by have := Blk.heightL_split h w items; simp only [Blk.height]; omega
  | .item body => by have := Blk.heightL_split h w body; simp only [Blk.height]; omega
theorem Blk.heightL_split {X Y Z : List Inl → Nat} (h : ∀ c, X c ≤ Y c + Z c) (w : Nat) :
    ∀ fs : List Blk, Blk.heightL w X fs ≤ Blk.heightL w Y fs + Blk.heightL 0 Z fs
  | [] => by simp [Blk.heightL]
  | f :: fs => by
    have := Blk.height_split h w f
    have := Blk.heightL_split h w fs
    simp only [Blk.heightL]; omega
end

/-- the tree is deeper than the emphasis-free depth by at most the number of nested emphasis
wrappers -/
theorem depth_excess_is_emphasis (d : Doc) :
    Doc.treeDepth d ≤ Doc.treeDepthNoEmph d + Doc.emphDepth d := by
  have := Blk.heightL_split (X := Inl.depthL true) (Y := Inl.depthL false) (Z := Inl.emphDepthL)
    Inl.depthL_split 1 d
  simp only [Doc.treeDepth, Doc.treeDepthNoEmph, Doc.emphDepth, Blk.depthL]; omega

/-- **C02 (walk / render / drop, partial).** For the tree produced by an admissible run the
recursion of `walk` / `render` / drop is at most `2·N + 2` PLUS the number of nested emphasis
wrappers — the part the SKELETON does not control (see `emphasis_unbounded`; the repaired code bounds
it too: `Props/EmphDepth.lean`). -/
theorem walk_bounded_up_to_emphasis (s : Sites) (hs : s.raising = true)
    (hi : 2 ≤ s.listOuter + s.listItem) (N : Nat) (d : Doc) (h : Doc.ok s N d = true) :
    callDepth (Rose.walk (Doc.tree d)) ≤ 2 * N + 2 + Doc.emphDepth d := by
  have := depth_bounded_partial s hs hi N d h
  have := depth_excess_is_emphasis d
  rw [walk_of_run]; omega

/-! ## Witness families -/

/-- `n` nested block quotes around `inner` (`'>' × n`) -/
def quoteNest : Nat → List Blk → List Blk
  | 0, inner => inner
  | n + 1, inner => [.quote (quoteNest n inner)]

/-- `n` nested one-item lists around `inner` (`'- ' × n`) -/
def listNest : Nat → List Blk → List Blk
  | 0, inner => inner
  | n + 1, inner => [.list [.item (listNest n inner)]]

/-- `n` nested links around `inner` (`'[' × n ++ 'a' ++ '](x)' × n`), look-ahead not shown -/
def linkNest : Nat → List Inl → List Inl
  | 0, inner => inner
  | n + 1, inner => [.link [] (linkNest n inner)]

/-- a look-ahead that recurses `n` deep (`'[' × n`) -/
def skipNest : Nat → List Skip
  | 0 => []
  | n + 1 => [.tok (skipNest n)]

/-- `n` nested emphasis wrappers around `inner` (`'*a ' × n ++ 'a*' × n`) -/
def emphNest : Nat → List Inl → List Inl
  | 0, inner => inner
  | n + 1, inner => [.emph (emphNest n inner)]

theorem quoteNest_nested (n : Nat) (inner : List Blk) :
    Blk.nestedL (quoteNest n inner) = n + Blk.nestedL inner := by
  induction n with
  | zero => simp [quoteNest]
  | succ n ih => simp [quoteNest, Blk.nestedL, Blk.nested, ih]; omega

theorem quoteNest_height (w : Nat) (X : List Inl → Nat) (n : Nat) (inner : List Blk) :
    Blk.heightL w X (quoteNest n inner) = n * w + Blk.heightL w X inner := by
  induction n with
  | zero => simp [quoteNest]
  | succ n ih => simp [quoteNest, Blk.heightL, Blk.height, ih, Nat.add_mul]; omega

theorem listNest_nested (n : Nat) (inner : List Blk) :
    Blk.nestedL (listNest n inner) = n + Blk.nestedL inner := by
  induction n with
  | zero => simp [listNest]
  | succ n ih => simp [listNest, Blk.nestedL, Blk.nested, ih]; omega

theorem listNest_height (w : Nat) (X : List Inl → Nat) (n : Nat) (inner : List Blk) :
    Blk.heightL w X (listNest n inner) = n * (w + w) + Blk.heightL w X inner := by
  induction n with
  | zero => simp [listNest]
  | succ n ih => simp [listNest, Blk.heightL, Blk.height, ih, Nat.add_mul]; omega

theorem linkNest_nested (n : Nat) (inner : List Inl) :
    Inl.nestedL (linkNest n inner) = n + Inl.nestedL inner := by
  induction n with
  | zero => simp [linkNest]
  | succ n ih => simp [linkNest, Inl.nestedL, Inl.nested, Skip.framesL, ih]; omega

theorem linkNest_depth (e : Bool) (n : Nat) (inner : List Inl) :
    Inl.depthL e (linkNest n inner) = n + Inl.depthL e inner := by
  induction n with
  | zero => simp [linkNest]
  | succ n ih => simp [linkNest, Inl.depthL, Inl.depth, ih]; omega

theorem skipNest_frames (n : Nat) : Skip.framesL (skipNest n) = n := by
  induction n with
  | zero => simp [skipNest, Skip.framesL]
  | succ n ih => simp [skipNest, Skip.framesL, Skip.frames, ih]; omega

theorem emphNest_depth_true (n : Nat) (inner : List Inl) :
    Inl.depthL true (emphNest n inner) = n + Inl.depthL true inner := by
  induction n with
  | zero => simp [emphNest]
  | succ n ih => simp [emphNest, Inl.depthL, Inl.depth, ih]; omega

theorem emphNest_depth_false (n : Nat) (inner : List Inl) :
    Inl.depthL false (emphNest n inner) = Inl.depthL false inner := by
  induction n with
  | zero => simp [emphNest]
  | succ n ih => simp [emphNest, Inl.depthL, Inl.depth, ih]

theorem emphNest_nested (n : Nat) (inner : List Inl) :
    Inl.nestedL (emphNest n inner) = Inl.nestedL inner := by
  induction n with
  | zero => simp [emphNest]
  | succ n ih => simp [emphNest, Inl.nestedL, Inl.nested, ih]

/-! admissibility of the families when the site does NOT raise the level -/

theorem quoteNest_ok_zero (hq : s.quote = 0) (L : Nat) (hL : L < N) (n : Nat) (inner : List Blk)
    (h : Blk.okL s N L inner = true) : Blk.okL s N L (quoteNest n inner) = true := by
  induction n with
  | zero => simpa [quoteNest]
  | succ n ih => simp [quoteNest, Blk.okL, Blk.ok, hq, hL, ih]

theorem listNest_ok_zero (ho : s.listOuter = 0) (hi : s.listItem = 0) (L : Nat) (hL : L < N)
    (n : Nat) (inner : List Blk) (h : Blk.okL s N L inner = true) :
    Blk.okL s N L (listNest n inner) = true := by
  induction n with
  | zero => simpa [listNest]
  | succ n ih => simp [listNest, Blk.okL, Blk.ok, Blk.itemsOk, ho, hi, hL, ih]

theorem linkNest_ok_zero (hl : s.linkLabel = 0) (L : Nat) (hL : L < N) (n : Nat)
    (inner : List Inl) (h : Inl.okL s N L inner = true) :
    Inl.okL s N L (linkNest n inner) = true := by
  induction n with
  | zero => simpa [linkNest]
  | succ n ih => simp [linkNest, Inl.okL, Inl.ok, Skip.chainOk, hl, hL, ih]

theorem skipNest_ok_zero (hk : s.skipRule = 0) (L : Nat) (hL : L < N) (n : Nat) :
    Skip.chainOk s N L (skipNest n) = true := by
  induction n with
  | zero => simp [skipNest, Skip.chainOk]
  | succ n ih => simp [skipNest, Skip.chainOk, Skip.ok, hk, hL, ih]

theorem emphNest_ok (L : Nat) (hL : L < N) (n : Nat) (inner : List Inl)
    (h : Inl.okL s N L inner = true) : Inl.okL s N L (emphNest n inner) = true := by
  induction n with
  | zero => simpa [emphNest]
  | succ n ih => simp [emphNest, Inl.okL, Inl.ok, hL, ih]

/-! ## Each raising site is necessary -/

/-- **C02 (the sites are needed — detects a reverted repair).** If any of the four conditions of
`raising` fails — the quote site, the list sites together, the link-label site or the
`skip_token` site applies no increment — then for every limit `N ≥ 1` the number of simultaneously
active frames is unbounded: for every `B` some admissible run exceeds it. -/
theorem sites_needed (s : Sites) (hs : s.raising = false) (N : Nat) (hN : 0 < N) (B : Nat) :
    ∃ d : Doc, Doc.ok s N d = true ∧ B < Doc.frames d := by
  have hs' : ¬ (0 < s.quote ∧ 0 < s.listOuter + s.listItem ∧ 0 < s.linkLabel ∧ 0 < s.skipRule) :=
    fun h => by simp [(Sites.raising_iff s).2 h] at hs
  by_cases hq : s.quote = 0
  · refine ⟨quoteNest B [], quoteNest_ok_zero hq 0 hN B [] (by simp [Blk.okL]), ?_⟩
    simp only [Doc.frames, Doc.blockFrames, quoteNest_nested, Blk.nestedL]; omega
  by_cases hi : s.listOuter + s.listItem = 0
  · refine ⟨listNest B [], listNest_ok_zero (by omega) (by omega) 0 hN B [] (by simp [Blk.okL]), ?_⟩
    simp only [Doc.frames, Doc.blockFrames, listNest_nested, Blk.nestedL]; omega
  by_cases hl : s.linkLabel = 0
  · refine ⟨[.para (linkNest B [])], ?_, ?_⟩
    · simp [Doc.ok, Blk.okL, Blk.ok, hN, linkNest_ok_zero hl 0 hN B [] (by simp [Inl.okL])]
    · simp only [Doc.frames, Doc.inlineFrames, Blk.inlFramesL, Blk.heightL, Blk.height, Inl.frames,
        linkNest_nested, Inl.nestedL]; omega
  · have hk : s.skipRule = 0 := by omega
    refine ⟨[.para [.failed (skipNest B)]], ?_, ?_⟩
    · simp [Doc.ok, Blk.okL, Blk.ok, Inl.okL, Inl.ok, hN, skipNest_ok_zero hk 0 hN B]
    · simp only [Doc.frames, Doc.inlineFrames, Blk.inlFramesL, Blk.heightL, Blk.height, Inl.frames,
        Inl.nestedL, Inl.nested, skipNest_frames]; omega

/-- the three sites that build tree nodes are also needed for the depth bound -/
theorem sites_needed_depth (s : Sites)
    (hs : s.quote = 0 ∨ s.listOuter + s.listItem = 0 ∨ s.linkLabel = 0) (N : Nat) (hN : 0 < N)
    (B : Nat) : ∃ d : Doc, Doc.ok s N d = true ∧ B < Doc.treeDepthNoEmph d := by
  rcases hs with hq | hi | hl
  · refine ⟨quoteNest B [], quoteNest_ok_zero hq 0 hN B [] (by simp [Blk.okL]), ?_⟩
    simp only [Doc.treeDepthNoEmph, Blk.depthL, quoteNest_height]; omega
  · refine ⟨listNest B [], listNest_ok_zero (by omega) (by omega) 0 hN B [] (by simp [Blk.okL]), ?_⟩
    simp only [Doc.treeDepthNoEmph, Blk.depthL, listNest_height]; omega
  · refine ⟨[.para (linkNest B [])], ?_, ?_⟩
    · simp [Doc.ok, Blk.okL, Blk.ok, hN, linkNest_ok_zero hl 0 hN B [] (by simp [Inl.okL])]
    · simp only [Doc.treeDepthNoEmph, Blk.depthL, Blk.heightL, Blk.height, linkNest_depth]; omega

/-- **C02 (exact characterisation).** The recursion gauge is bounded for every limit exactly when
every site raises the level. -/
theorem bounded_iff_raising (s : Sites) :
    s.raising = true ↔ ∀ N, ∃ B, ∀ d : Doc, Doc.ok s N d = true → Doc.frames d ≤ B := by
  constructor
  · intro hs N
    exact ⟨N + 2, recursion_bounded s hs N⟩
  · intro h
    cases hr : s.raising with
    | true => rfl
    | false =>
      obtain ⟨B, hB⟩ := h 1
      obtain ⟨d, hd, hlt⟩ := sites_needed s hr 1 (by omega) B
      have := hB d hd
      omega

/-! ## Emphasis in the SKELETON is not bounded by the limit

`Inl.ok` checks the nodes wrapped by an emphasis match at the SAME level, whereas the crate's delimiter matcher stops at
`level + emphasis depth ≥ max_nesting` (commit 8078f5b).  The runs of the code are therefore a SUBSET
of the skeleton's: every upper bound proved above applies to the code, the two negative theorems
below say something about the skeleton only.  With emphasis counted the bound is proved on the parser
models: `inline_emph_depth_bounded` (`Props/EmphDepth.lean`), `doc_full_depth_bounded`
(`Props/EmphDepthDoc.lean`). -/

/-- **C02 — the skeleton `Nesting` does not bound emphasis depth.** For every limit `N ≥ 1` and every bound `B`
there is an admissible run, made of emphasis matches only, whose tree is deeper than `B`; it needs
ONE tokenizer frame and its emphasis-free depth is 3 (root, paragraph, text).
(For `N = 0` no inline rule runs at all, so there is no emphasis either.) -/
theorem emphasis_unbounded (s : Sites) (N : Nat) (hN : 0 < N) (B : Nat) :
    ∃ d : Doc, Doc.ok s N d = true ∧ B < Doc.treeDepth d ∧ Doc.frames d = 1 ∧
      Doc.treeDepthNoEmph d = 3 ∧ Doc.treeDepth d = Doc.emphDepth d + 3 := by
  refine ⟨[.para (emphNest B [.text])], ?_, ?_, ?_, ?_, ?_⟩
  · simp [Doc.ok, Blk.okL, Blk.ok, hN, emphNest_ok 0 hN B [.text] (by simp [Inl.okL, Inl.ok])]
  · simp only [Doc.treeDepth, Blk.depthL, Blk.heightL, Blk.height, emphNest_depth_true]; omega
  · simp [Doc.frames, Doc.blockFrames, Doc.inlineFrames, Blk.inlFramesL, Blk.nestedL, Blk.nested,
      Blk.heightL, Blk.height, Inl.frames, emphNest_nested, Inl.nestedL, Inl.nested]
  · simp [Doc.treeDepthNoEmph, Blk.depthL, Blk.heightL, Blk.height, emphNest_depth_false,
      Inl.depthL, Inl.depth]
  · have : ∀ n, Inl.emphDepthL (emphNest n [.text]) = n := by
      intro n
      induction n with
      | zero => simp [emphNest, Inl.emphDepthL, Inl.emphDepth]
      | succ n ih => simp [emphNest, Inl.emphDepthL, Inl.emphDepth, ih]; omega
    simp [Doc.treeDepth, Doc.emphDepth, Blk.depthL, Blk.heightL, Blk.height, emphNest_depth_true,
      this, Inl.depthL, Inl.depth]; omega

/-- **C02 — "tree depth, every node counted, is bounded by a function of the limit" is false of the
    skeleton** (for every site table): a call tree admitted by the five level guards alone can be
    arbitrarily deep.  Of the crate, whose matcher has a sixth guard, the statement is true
    (`Pipeline.doc_full_depth_bounded`). -/
theorem full_statement_false (s : Sites) :
    ¬ ∃ c₁ c₂ : Nat, ∀ (N : Nat) (d : Doc), Doc.ok s N d = true → Doc.treeDepth d ≤ c₁ * N + c₂ := by
  rintro ⟨c₁, c₂, h⟩
  obtain ⟨d, hd, hlt, -⟩ := emphasis_unbounded s 1 (by omega) (c₁ * 1 + c₂)
  have := h 1 d hd
  omega

/-! ## The constants are tight (code on disk) -/

theorem quoteNest_ok_cur (n : Nat) : ∀ (L : Nat) (inner : List Blk), L + n ≤ N →
    Blk.okL currentSites N (L + n) inner = true →
    Blk.okL currentSites N L (quoteNest n inner) = true := by
  induction n with
  | zero => intro L inner _ h; simpa [quoteNest] using h
  | succ n ih =>
    intro L inner hL h
    have h' : Blk.okL currentSites N (L + 1 + n) inner = true := by
      rw [show L + 1 + n = L + (n + 1) by omega]; exact h
    have := ih (L + 1) inner (by omega) h'
    have hlt : L < N := by omega
    simp [quoteNest, Blk.okL, Blk.ok, currentSites, hlt] at this ⊢
    exact this

theorem linkNest_ok_cur (n : Nat) : ∀ (L : Nat) (inner : List Inl), L + n ≤ N →
    Inl.okL currentSites N (L + n) inner = true →
    Inl.okL currentSites N L (linkNest n inner) = true := by
  induction n with
  | zero => intro L inner _ h; simpa [linkNest] using h
  | succ n ih =>
    intro L inner hL h
    have h' : Inl.okL currentSites N (L + 1 + n) inner = true := by
      rw [show L + 1 + n = L + (n + 1) by omega]; exact h
    have := ih (L + 1) inner (by omega) h'
    have hlt : L < N := by omega
    simp [linkNest, Inl.okL, Inl.ok, Skip.chainOk, currentSites, hlt] at this ⊢
    exact this

theorem skipNest_ok_cur (n : Nat) : ∀ (L : Nat), L + n ≤ N + 1 →
    Skip.chainOk currentSites N L (skipNest n) = true := by
  induction n with
  | zero => intro L _; simp [skipNest, Skip.chainOk]
  | succ n ih =>
    intro L hL
    have := ih (L + 1) (by omega)
    cases n with
    | zero => simp [skipNest, Skip.chainOk, Skip.ok]
    | succ m =>
      have hlt : L < N := by omega
      simp [skipNest, Skip.chainOk, Skip.ok, currentSites, hlt] at this ⊢
      exact this

/-- `block_frames_bounded` is tight: `'>' × N` -/
theorem block_frames_tight (N : Nat) :
    ∃ d : Doc, Doc.ok currentSites N d = true ∧ Doc.blockFrames d = N + 1 := by
  refine ⟨quoteNest N [], quoteNest_ok_cur N 0 [] (by omega) (by simp [Blk.okL]), ?_⟩
  simp [Doc.blockFrames, quoteNest_nested, Blk.nestedL]; omega

/-- `recursion_bounded` is tight for `N ≥ 1`: a paragraph of `'[' × (N+1)` -/
theorem recursion_tight (N : Nat) (hN : 0 < N) :
    ∃ d : Doc, Doc.ok currentSites N d = true ∧ Doc.frames d = N + 2 := by
  refine ⟨[.para [.failed (skipNest (N + 1))]], ?_, ?_⟩
  · have := skipNest_ok_cur (N := N) (N + 1) 0 (by omega)
    simp [Doc.ok, Blk.okL, Blk.ok, Inl.okL, Inl.ok, hN, this]
  · simp only [Doc.frames, Doc.blockFrames, Doc.inlineFrames, Blk.inlFramesL, Blk.heightL,
      Blk.height, Inl.frames, Inl.nestedL, Inl.nested, skipNest_frames, Blk.nestedL, Blk.nested]
    omega

/-- `depth_bounded_partial` is tight for `N ≥ 1`: `N - 1` quotes, a paragraph, `N` nested links -/
theorem depth_tight (N : Nat) (hN : 0 < N) :
    ∃ d : Doc, Doc.ok currentSites N d = true ∧ Doc.treeDepthNoEmph d = 2 * N + 2 := by
  refine ⟨quoteNest (N - 1) [.para (linkNest N [.text])], ?_, ?_⟩
  · apply quoteNest_ok_cur (N := N) (N - 1) 0 _ (by omega)
    have h1 : N - 1 < N := by omega
    have := linkNest_ok_cur (N := N) N 0 [.text] (by omega) (by simp [Inl.okL, Inl.ok])
    simp [Blk.okL, Blk.ok, h1, this]
  · simp only [Doc.treeDepthNoEmph, Blk.depthL, quoteNest_height, Blk.heightL, Blk.height,
      linkNest_depth, Inl.depthL, Inl.depth]
    omega

/-- `parse_stack_bounded` is tight for `N ≥ 1` -/
theorem parse_stack_tight (N : Nat) (hN : 0 < N) :
    ∃ d : Doc, Doc.ok currentSites N d = true ∧ Doc.parseStack d = 2 * N + 3 := by
  refine ⟨quoteNest (N - 1) [.para [.failed (skipNest (N + 1))]], ?_, ?_⟩
  · apply quoteNest_ok_cur (N := N) (N - 1) 0 _ (by omega)
    have h1 : N - 1 < N := by omega
    have := skipNest_ok_cur (N := N) (N + 1) 0 (by omega)
    simp [Blk.okL, Blk.ok, Inl.okL, Inl.ok, h1, hN, this]
  · simp only [Doc.parseStack, Doc.blockFrames, Doc.passStack, Blk.passStackL, quoteNest_height,
      quoteNest_nested, Blk.heightL, Blk.height, Inl.frames, Inl.nestedL, Inl.nested,
      skipNest_frames, Blk.nestedL, Blk.nested]
    omega

/-- with limit 0 nothing is parsed at all: one frame, a bare root -/
theorem limit_zero (s : Sites) (d : Doc) (h : Doc.ok s 0 d = true) :
    d = [] ∧ Doc.frames [] = 1 ∧ Doc.treeDepth [] = 1 :=
  ⟨over_limit_degrades_block s 0 0 (Nat.le_refl 0) d h, by decide, by decide⟩

/-! ## Non-vacuity: concrete runs -/

/-- `> - > [a [b](x) c](y) *e*` : a quote in a list in a quote; a link in a link label whose
look-ahead recursed once; an emphasis match -/
def exRun : Doc :=
  [.quote [.list [.item [.quote
    [.para [.link [.tok [.tok []]] [.text, .link [.tok []] [.text], .text], .emph [.text]]]]]]]

example : Doc.ok currentSites 5 exRun = true := by decide +kernel
example : Doc.ok currentSites 4 exRun = false := by decide   -- paragraph would sit at level 4
example : Doc.blockFrames exRun = 4 := by decide
example : Doc.inlineFrames exRun = 3 := by decide +kernel
example : Doc.frames exRun = 4 ∧ Doc.frames exRun ≤ 5 + 2 := by decide +kernel
example : Doc.parseStack exRun = 9 ∧ Doc.parseStack exRun ≤ 2 * 5 + 3 := by decide +kernel
example : Doc.treeDepthNoEmph exRun = 9 ∧ Doc.treeDepthNoEmph exRun ≤ 2 * 5 + 2 := by decide +kernel
example : Doc.treeDepth exRun = 9 ∧ Doc.emphDepth exRun = 1 := by decide +kernel
example : callDepth (Rose.walk (Doc.tree exRun)) = 9 := by decide +kernel

/-- the pre-repair table (`⟨0,0,0,0,0⟩`) admits 7 nested quotes under limit 1 … -/
example : Doc.ok ⟨0, 0, 0, 0, 0⟩ 1 (quoteNest 7 []) = true ∧ Doc.frames (quoteNest 7 []) = 8 := by
  decide +kernel
/-- … the code on disk does not -/
example : Doc.ok currentSites 1 (quoteNest 7 []) = false := by decide
/-- reverting a single site is detected -/
example : (⟨1, 1, 1, 0, 1⟩ : Sites).raising = false ∧ (⟨1, 1, 1, 1, 0⟩ : Sites).raising = false ∧
    (⟨0, 1, 1, 1, 1⟩ : Sites).raising = false ∧ (⟨1, 0, 0, 1, 1⟩ : Sites).raising = false := by
  decide +kernel
/-- … except that one of the two list sites alone would suffice for boundedness -/
example : (⟨1, 0, 1, 1, 1⟩ : Sites).raising = true ∧ (⟨1, 1, 0, 1, 1⟩ : Sites).raising = true := by
  decide

/-- emphasis: 6 wrappers under limit 1, one frame, depth 9 -/
example : Doc.ok currentSites 1 [.para (emphNest 6 [.text])] = true ∧
    Doc.treeDepth [.para (emphNest 6 [.text])] = 9 ∧
    Doc.treeDepthNoEmph [.para (emphNest 6 [.text])] = 3 ∧
    Doc.frames [.para (emphNest 6 [.text])] = 1 := by decide +kernel

/-- tight runs for limit 3 -/
example : Doc.ok currentSites 3 (quoteNest 2 [.para (linkNest 3 [.text])]) = true ∧
    Doc.treeDepthNoEmph (quoteNest 2 [.para (linkNest 3 [.text])]) = 8 := by decide +kernel
example : Doc.ok currentSites 3 [.para [.failed (skipNest 4)]] = true ∧
    Doc.frames [.para [.failed (skipNest 4)]] = 5 := by decide +kernel
example : Doc.ok currentSites 3 [.para [.failed (skipNest 5)]] = false := by decide

/-! ## Frame traces: every accepted trace is bounded -/

/-- invariant of the frame stack of an accepted trace: a frame at level `L` sits at most
`min L N + 1` deep (`+ 2` for a `skip_token` frame) -/
def stackInv (N : Nat) : List (Kind × Nat) → Prop
  | [] => True
  | (k, L) :: rest =>
    rest.length + 1 ≤ min L N + (if k = Kind.skip then 2 else 1) ∧ stackInv N rest

theorem stackInv_length {st : List (Kind × Nat)} (h : stackInv N st) : st.length ≤ N + 2 := by
  cases st with
  | nil => simp
  | cons a rest =>
    obtain ⟨k, L⟩ := a
    simp only [stackInv] at h
    have := h.1
    simp only [List.length_cons]
    split at this <;> omega

theorem stackInv_push (hs : s.raising = true) {st : List (Kind × Nat)} {k : Kind} {L : Nat}
    (hst : stackInv N st) (h : enterCheck s N st k L = .ok ()) : stackInv N ((k, L) :: st) := by
  obtain ⟨hq, hi, hl, hk⟩ := (Sites.raising_iff s).1 hs
  revert h
  -- the admitted frames: a root; below a frame at `pL < N` one at a larger level, or the first
  -- `skip_token` frame at the level of its inline tokenizer
  fun_cases enterCheck s N st k L <;> intro h <;> cases h
  case case1 h0 => exact ⟨by simp only [List.length_nil, if_neg h0.2]; omega, trivial⟩
  all_goals
    refine ⟨?_, hst⟩
    have := hst.1
    simp only [List.length_cons, reduceCtorEq, ↓reduceIte] at this ⊢
    omega

theorem runTrace_le (hs : s.raising = true) : ∀ (evs : List Event) (st : List (Kind × Nat))
    (mx m o : Nat), stackInv N st → mx ≤ N + 2 → runTrace s N evs st mx = .ok (m, o) →
    m ≤ N + 2 := by
  intro evs
  induction evs with
  | nil =>
    intro st mx m o _ hmx h
    simp [runTrace] at h; omega
  | cons e evs ih =>
    intro st mx m o hst hmx h
    cases e with
    | exit =>
      cases st with
      | nil => simp [runTrace] at h
      | cons a rest =>
        simp only [runTrace] at h
        exact ih rest mx m o hst.2 hmx h
    | enter k L =>
      simp only [runTrace] at h
      split at h
      · cases h
      · rename_i hc
        have hinv := stackInv_push hs hst hc
        have := stackInv_length hinv
        simp only [List.length_cons] at this
        exact ih _ _ m o hinv (by omega) h

/-- **C02 (trace checker, soundness).** A gauge trace accepted by `checkTrace` never has more than
`N + 2` simultaneously active frames — the driver's `bad:bound` answer is unreachable. -/
theorem trace_bounded (s : Sites) (hs : s.raising = true) (N : Nat) (evs : List Event) (m : Nat)
    (h : checkTrace s N evs = .ok m) : m ≤ N + 2 := by
  unfold checkTrace at h
  split at h
  · rename_i m' hr
    cases h
    exact runTrace_le hs evs [] 0 m 0 trivial (by omega) hr
  · cases h
  · cases h

/-- the same for a truncated trace -/
theorem trace_prefix_bounded (s : Sites) (hs : s.raising = true) (N : Nat) (evs : List Event)
    (m : Nat) (h : checkTracePrefix s N evs = .ok m) : m ≤ N + 2 := by
  unfold checkTracePrefix at h
  split at h
  · rename_i m' o hr
    cases h
    exact runTrace_le hs evs [] 0 m o trivial (by omega) hr
  · cases h

/-! ## Frame traces: the trace of an admissible run is accepted -/

/-- `evs`, replayed on top of the stack `st`, is accepted, leaves `st` as it found it and has at
most `n` frames of its own open at once -/
def Runs (s : Sites) (N : Nat) (evs : List Event) (st : List (Kind × Nat)) (n : Nat) : Prop :=
  ∀ (mx : Nat) (r : List Event), st.length ≤ mx →
    runTrace s N (evs ++ r) st mx = runTrace s N r st (max mx (st.length + n))

theorem Runs.nil (st : List (Kind × Nat)) : Runs s N [] st 0 := by
  intro mx r h
  rw [Nat.add_zero, Nat.max_eq_left h, List.nil_append]

theorem Runs.append {a b : List Event} {st : List (Kind × Nat)} {n m : Nat}
    (ha : Runs s N a st n) (hb : Runs s N b st m) : Runs s N (a ++ b) st (max n m) := by
  intro mx r h
  rw [List.append_assoc, ha mx _ h, hb _ r (Nat.le_trans h (Nat.le_max_left ..)), Nat.max_assoc,
    Nat.add_max_add_left]

/-- a nested call: the frame is admitted on top of `st`, its body runs on top of it -/
theorem runTrace_frame {k : Kind} {L : Nat} {st : List (Kind × Nat)} {body : List Event} {n : Nat}
    (hc : enterCheck s N st k L = .ok ()) (hb : Runs s N body ((k, L) :: st) n) (mx : Nat)
    (r : List Event) :
    runTrace s N (.enter k L :: (body ++ [.exit]) ++ r) st mx =
      runTrace s N r st (max mx (st.length + (1 + n))) := by
  simp only [List.cons_append, List.append_assoc, runTrace, hc]
  rw [hb _ _ (by simp only [List.length_cons]; omega)]
  simp only [List.nil_append, runTrace, List.length_cons]
  rw [Nat.max_assoc, Nat.max_eq_right (Nat.le_add_right ..), Nat.add_assoc]

theorem Runs.frame {k : Kind} {L : Nat} {st : List (Kind × Nat)} {body : List Event} {n : Nat}
    (hc : enterCheck s N st k L = .ok ()) (hb : Runs s N body ((k, L) :: st) n) :
    Runs s N (.enter k L :: (body ++ [.exit])) st (1 + n) :=
  fun mx r _ => runTrace_frame hc hb mx r

theorem enterCheck_root {k : Kind} (hk : k ≠ .skip) : enterCheck s N [] k 0 = .ok () := by
  simp [enterCheck, hk]

theorem enterCheck_skip_skip {L : Nat} (hL : L < N) (st : List (Kind × Nat)) :
    enterCheck s N ((Kind.skip, L) :: st) .skip (L + s.skipRule) = .ok () := by
  simp [enterCheck]; omega

theorem enterCheck_inline_skip {L : Nat} (hL : L < N) (st : List (Kind × Nat)) :
    enterCheck s N ((Kind.inline, L) :: st) .skip L = .ok () := by
  simp [enterCheck]; omega

theorem enterCheck_inline_inline {L : Nat} (hL : L < N) (st : List (Kind × Nat)) :
    enterCheck s N ((Kind.inline, L) :: st) .inline (L + s.linkLabel) = .ok () := by
  simp [enterCheck]; omega

theorem enterCheck_block_quote {L : Nat} (hL : L < N) (st : List (Kind × Nat)) :
    enterCheck s N ((Kind.block, L) :: st) .block (L + s.quote) = .ok () := by
  simp [enterCheck]; omega

theorem enterCheck_block_item {L : Nat} (hL : L < N) (st : List (Kind × Nat)) :
    enterCheck s N ((Kind.block, L) :: st) .block (L + s.listOuter + s.listItem) = .ok () := by
  simp [enterCheck]; omega

mutual
theorem Skip.run_trace : ∀ (t : Skip) (L : Nat) (st : List (Kind × Nat)) (mx : Nat)
    (r : List Event), Skip.ok s N L t = true → enterCheck s N st .skip L = .ok () →
    runTrace s N (Skip.trace s L t ++ r) st mx =
      runTrace s N r st (max mx (st.length + Skip.frames t))
  | .tok nested, L, st, mx, r, h, hc => by
    simp only [Skip.ok, Bool.and_eq_true, Bool.or_eq_true, decide_eq_true_eq] at h
    simp only [Skip.trace, Skip.frames]
    refine runTrace_frame hc (Skip.runsL nested _ _ h.2 fun hne => ?_) mx r
    rcases h.1 with h1 | h1
    · cases nested <;> simp_all
    · exact enterCheck_skip_skip h1 st
theorem Skip.runsL : ∀ (ts : List Skip) (L : Nat) (st : List (Kind × Nat)),
    Skip.chainOk s N L ts = true → (ts ≠ [] → enterCheck s N st .skip L = .ok ()) →
    Runs s N (Skip.traceL s L ts) st (Skip.framesL ts)
  | [], _, st, _, _ => Runs.nil st
  | t :: ts, L, st, h, hc => by
    simp only [Skip.chainOk, Bool.and_eq_true] at h
    have hc' := hc (List.cons_ne_nil t ts)
    simp only [Skip.traceL, Skip.framesL]
    exact Runs.append (fun mx r _ => Skip.run_trace t L st mx r h.1 hc')
      (Skip.runsL ts L st h.2 fun _ => hc')
end

mutual
theorem Inl.runs : ∀ (f : Inl) (L : Nat) (st : List (Kind × Nat)), Inl.ok s N L f = true →
    Runs s N (Inl.trace s L f) ((Kind.inline, L) :: st) (Inl.nested f)
  | .text, L, st, _ => Runs.nil _
  | .link la label, L, st, h => by
    simp only [Inl.ok, Bool.and_eq_true, decide_eq_true_eq] at h
    simp only [Inl.trace, Inl.nested]
    exact (Skip.runsL la L _ h.1.2 fun _ => enterCheck_inline_skip h.1.1 st).append
      (Runs.frame (enterCheck_inline_inline h.1.1 st) (Inl.runsL label _ _ h.2))
  | .emph w, L, st, h => by
    simp only [Inl.ok, Bool.and_eq_true, decide_eq_true_eq] at h
    simp only [Inl.trace, Inl.nested]
    exact Inl.runsL w L st h.2
  | .failed la, L, st, h => by
    simp only [Inl.ok, Bool.and_eq_true, decide_eq_true_eq] at h
    simp only [Inl.trace, Inl.nested]
    exact Skip.runsL la L _ h.2 fun _ => enterCheck_inline_skip h.1 st
theorem Inl.runsL : ∀ (fs : List Inl) (L : Nat) (st : List (Kind × Nat)),
    Inl.okL s N L fs = true →
    Runs s N (Inl.traceL s L fs) ((Kind.inline, L) :: st) (Inl.nestedL fs)
  | [], _, _, _ => Runs.nil _
  | f :: fs, L, st, h => by
    simp only [Inl.okL, Bool.and_eq_true] at h
    simp only [Inl.traceL, Inl.nestedL]
    exact (Inl.runs f L st h.1).append (Inl.runsL fs L st h.2)
end

theorem Inl.run_trace : ∀ (f : Inl) (L : Nat) (st : List (Kind × Nat)) (mx : Nat)
    (r : List Event), Inl.ok s N L f = true → st.length + 1 ≤ mx →
    runTrace s N (Inl.trace s L f ++ r) ((Kind.inline, L) :: st) mx =
      runTrace s N r ((Kind.inline, L) :: st) (max mx (st.length + 1 + Inl.nested f)) :=
  fun f L st mx r h hmx => Inl.runs f L st h mx r hmx

mutual
theorem Blk.runs : ∀ (f : Blk) (L : Nat) (st : List (Kind × Nat)), Blk.ok s N L f = true →
    Runs s N (Blk.trace s L f) ((Kind.block, L) :: st) (Blk.nested f)
  | .leaf, _, _, _ => Runs.nil _
  | .para _, _, _, _ => Runs.nil _
  | .quote body, L, st, h => by
    simp only [Blk.ok, Bool.and_eq_true, decide_eq_true_eq] at h
    simp only [Blk.trace, Blk.nested]
    exact Runs.frame (enterCheck_block_quote h.1 st) (Blk.runsL body _ _ h.2)
  | .list items, L, st, h => by
    simp only [Blk.ok, Bool.and_eq_true, decide_eq_true_eq] at h
    simp only [Blk.trace, Blk.nested]
    exact Blk.runsItems items L st h.1 h.2
  | .item _, _, _, h => by simp [Blk.ok] at h
theorem Blk.runsL : ∀ (fs : List Blk) (L : Nat) (st : List (Kind × Nat)),
    Blk.okL s N L fs = true →
    Runs s N (Blk.traceL s L fs) ((Kind.block, L) :: st) (Blk.nestedL fs)
  | [], _, _, _ => Runs.nil _
  | f :: fs, L, st, h => by
    simp only [Blk.okL, Bool.and_eq_true] at h
    simp only [Blk.traceL, Blk.nestedL]
    exact (Blk.runs f L st h.1).append (Blk.runsL fs L st h.2)
theorem Blk.runsItems : ∀ (items : List Blk) (L : Nat) (st : List (Kind × Nat)), L < N →
    Blk.itemsOk s N (L + s.listOuter) items = true →
    Runs s N (Blk.traceL s (L + s.listOuter) items) ((Kind.block, L) :: st) (Blk.nestedL items)
  | [], _, _, _, _ => Runs.nil _
  | .item body :: rest, L, st, hL, h => by
    simp only [Blk.itemsOk, Bool.and_eq_true] at h
    simp only [Blk.traceL, Blk.trace, Blk.nestedL, Blk.nested]
    exact (Runs.frame (enterCheck_block_item hL st) (Blk.runsL body _ _ h.1)).append
      (Blk.runsItems rest L st hL h.2)
  | .leaf :: _, _, _, _, h => by simp [Blk.itemsOk] at h
  | .para _ :: _, _, _, _, h => by simp [Blk.itemsOk] at h
  | .quote _ :: _, _, _, _, h => by simp [Blk.itemsOk] at h
  | .list _ :: _, _, _, _, h => by simp [Blk.itemsOk] at h
end

theorem Blk.run_trace : ∀ (f : Blk) (L : Nat) (st : List (Kind × Nat)) (mx : Nat)
    (r : List Event), Blk.ok s N L f = true → st.length + 1 ≤ mx →
    runTrace s N (Blk.trace s L f ++ r) ((Kind.block, L) :: st) mx =
      runTrace s N r ((Kind.block, L) :: st) (max mx (st.length + 1 + Blk.nested f)) :=
  fun f L st mx r h hmx => Blk.runs f L st h mx r hmx

theorem Blk.run_traceItems : ∀ (items : List Blk) (L : Nat) (st : List (Kind × Nat)) (mx : Nat)
    (r : List Event), L < N → Blk.itemsOk s N (L + s.listOuter) items = true → st.length + 1 ≤ mx →
    runTrace s N (Blk.traceL s (L + s.listOuter) items ++ r) ((Kind.block, L) :: st) mx =
      runTrace s N r ((Kind.block, L) :: st) (max mx (st.length + 1 + Blk.nestedL items)) :=
  fun items L st mx r hL h hmx => Blk.runsItems items L st hL h mx r hmx

mutual
/-- the inline pass: one `inline.parse` call (fresh state, empty stack) per paragraph -/
theorem Blk.runs_inl : ∀ (f : Blk) (L : Nat), Blk.ok s N L f = true →
    Runs s N (Blk.inlTrace s f) [] (Blk.height 0 Inl.frames f)
  | .leaf, _, _ => Runs.nil _
  | .para c, L, h => by
    simp only [Blk.ok, Bool.and_eq_true, decide_eq_true_eq] at h
    simp only [Blk.inlTrace, Blk.height, Nat.zero_add, Inl.frames]
    exact Runs.frame (enterCheck_root (by decide)) (Inl.runsL c 0 [] h.2)
  | .quote body, L, h => by
    simp only [Blk.ok, Bool.and_eq_true, decide_eq_true_eq] at h
    simp only [Blk.inlTrace, Blk.height, Nat.zero_add]
    exact Blk.runs_inlL body _ h.2
  | .list items, L, h => by
    simp only [Blk.ok, Bool.and_eq_true, decide_eq_true_eq] at h
    simp only [Blk.inlTrace, Blk.height, Nat.zero_add]
    exact Blk.runs_inlItems items _ h.2
  | .item _, _, h => by simp [Blk.ok] at h
theorem Blk.runs_inlL : ∀ (fs : List Blk) (L : Nat), Blk.okL s N L fs = true →
    Runs s N (Blk.inlTraceL s fs) [] (Blk.heightL 0 Inl.frames fs)
  | [], _, _ => Runs.nil _
  | f :: fs, L, h => by
    simp only [Blk.okL, Bool.and_eq_true] at h
    simp only [Blk.inlTraceL, Blk.heightL]
    exact (Blk.runs_inl f L h.1).append (Blk.runs_inlL fs L h.2)
theorem Blk.runs_inlItems : ∀ (items : List Blk) (L : Nat), Blk.itemsOk s N L items = true →
    Runs s N (Blk.inlTraceL s items) [] (Blk.heightL 0 Inl.frames items)
  | [], _, _ => Runs.nil _
  | .item body :: rest, L, h => by
    simp only [Blk.itemsOk, Bool.and_eq_true] at h
    simp only [Blk.inlTraceL, Blk.inlTrace, Blk.heightL, Blk.height, Nat.zero_add]
    exact (Blk.runs_inlL body _ h.1).append (Blk.runs_inlItems rest L h.2)
  | .leaf :: _, _, h => by simp [Blk.itemsOk] at h
  | .para _ :: _, _, h => by simp [Blk.itemsOk] at h
  | .quote _ :: _, _, h => by simp [Blk.itemsOk] at h
  | .list _ :: _, _, h => by simp [Blk.itemsOk] at h
end

theorem Blk.run_inlTrace : ∀ (f : Blk) (L : Nat) (mx : Nat) (r : List Event),
    Blk.ok s N L f = true →
    runTrace s N (Blk.inlTrace s f ++ r) [] mx =
      runTrace s N r [] (max mx (Blk.height 0 Inl.frames f)) := by
  intro f L mx r h
  simpa only [List.length_nil, Nat.zero_add] using Blk.runs_inl f L h mx r (Nat.zero_le _)

theorem Blk.run_inlTraceItems : ∀ (items : List Blk) (L : Nat) (mx : Nat) (r : List Event),
    Blk.itemsOk s N L items = true →
    runTrace s N (Blk.inlTraceL s items ++ r) [] mx =
      runTrace s N r [] (max mx (Blk.heightL 0 Inl.frames items)) := by
  intro items L mx r h
  simpa only [List.length_nil, Nat.zero_add] using Blk.runs_inlItems items L h mx r (Nat.zero_le _)

/-- **C02 (the trace checker agrees with the model).** The recursion-gauge trace of every
admissible run is accepted by `checkTrace`, and the reported maximum is the model's `frames`. -/
theorem trace_of_run (s : Sites) (N : Nat) (d : Doc) (h : Doc.ok s N d = true) :
    checkTrace s N (Doc.trace s d) = .ok (Doc.frames d) := by
  have := (Runs.frame (enterCheck_root (by decide)) (Blk.runsL d 0 [] h)).append
    (Blk.runs_inlL d 0 h) 0 [] (Nat.le_refl 0)
  simp only [List.append_nil] at this
  simp only [checkTrace, Doc.trace, this, runTrace, List.length_nil, Doc.frames, Doc.blockFrames,
    Doc.inlineFrames, Blk.inlFramesL]
  congr 1; omega


instance traceResultDecEq : DecidableEq (Except TraceErr Nat)
  | .ok a, .ok b =>
    if h : a = b then isTrue (by rw [h]) else isFalse (by intro h'; cases h'; exact h rfl)
  | .error a, .error b =>
    if h : a = b then isTrue (by rw [h]) else isFalse (by intro h'; cases h'; exact h rfl)
  | .ok _, .error _ => isFalse (by intro h; cases h)
  | .error _, .ok _ => isFalse (by intro h; cases h)

example : checkTrace currentSites 5 (Doc.trace currentSites exRun) = .ok 4 := by decide +kernel
/-- a pre-repair trace (`'>' × 3`, nothing raises the level) is rejected under the current table -/
example : checkTrace currentSites 5
    [.enter .block 0, .enter .block 0, .enter .block 0, .exit, .exit, .exit] = .error .level := by
  decide
/-- a truncated trace: rejected as complete, accepted as prefix -/
example : checkTrace currentSites 5 [.enter .block 0, .enter .block 1, .exit] = .error .unbalanced ∧
    checkTracePrefix currentSites 5 [.enter .block 0, .enter .block 1, .exit] = .ok 2 := by decide +kernel
/-- a nested call from a frame at the limit is rejected -/
example : checkTrace currentSites 1
    [.enter .block 0, .enter .block 1, .enter .block 2, .exit, .exit, .exit] = .error .guard := by
  decide

end MdIt.Nesting
