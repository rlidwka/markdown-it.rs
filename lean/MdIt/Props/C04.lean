/-
  C04 — dangerous URL schemes are never emitted.

  Chain of the argument (all statements for ALL inputs, no size bounds):
    1. `normalized_alphabet`   every byte of `normalize_link s` is visible ASCII 33..126 (from C17)
    2. `preprocess_id`         on that alphabet the browser's pre-processing (strip C0/space at the
                               ends, drop TAB/LF/CR) is the identity — the browser sees what was validated
    3. `validate_sound`        on that alphabet `validate_link u` ⇒ `¬ dangerous u`;
       `validate_exact`        in fact `validate_link u = !dangerous u` there
    4. `pipeline_safe`, `pipeline_safe_ref`, `pipeline_safe_autolink`
                               the three call sites decode → normalise → validate, so whatever comes out
                               is not dangerous, for EVERY raw text and EVERY decoding function
    5. `rejected_stays_literal` the inline branch of `parse_link` never returns a link whose destination
                               was rejected (needs two facts about the decoder, `DecOk`)
  plus what is rejected (`validate_rejects*`), and the destination / title parsers
  (`dest_spec`, `dest_pos_bounds`, `dest_no_ctrl`, `dest_lines_zero_sound`, `title_delims`,
  `title_lines_exact`; conversely the scanners accept every token string of their grammar: `AngleToks.scan`,
  `BareToks.scan`, `TitleToks.scan`, `dest_of_angle`, `dest_of_bare`, `title_of_toks`), totality / exact panic conditions
  (`dest_total`, `dest_panics_iff`, `title_total`, `title_panics_iff`, `tail_total`).
  The full list of property theorems is `Audit/C04.lean`.
-/
import MdIt.Props.C17
import MdIt.Model.Link
import MdIt.Lemmas.Lines

namespace MdIt.Link
open MdIt.Url

/-! ## the safe set of `normalize_link` is the shipped constant (tied to the source in `Props/GenC17.lean`) -/

theorem safeChars_eq : safeChars = shippedSafe := rfl

theorem linkSafe_eq : linkSafe = defaultSafe := rfl

/-! ## UTF-8 -/

theorem toNat_lt (c : Char) : c.toNat < 1114112 := by
  have := c.valid
  simp only [Char.toNat, UInt32.isValidChar, Nat.isValidChar] at *
  omega

/-- a lead byte `l + n / k`, where `n / k` ranges over `m` values -/
theorem lead_byte {n k m l : Nat} (h : n < k * m) (hl : 128 ≤ l) (hm : l + m ≤ 256) :
    128 ≤ l + n / k ∧ l + n / k < 256 := by
  have := Nat.div_lt_of_lt_mul h
  exact ⟨Nat.le_trans hl (Nat.le_add_right _ _), by omega⟩

/-- a byte of `utf8Char c` is `c` itself when `c` is ASCII, and otherwise (lead or continuation
    byte) at least 0x80 -/
theorem utf8Char_mem (c : Char) (b : Nat) (hb : b ∈ utf8Char c) :
    (c.toNat < 128 ∧ b = c.toNat) ∨ (128 ≤ b ∧ b < 256) := by
  have cont : ∀ x, 128 ≤ 0x80 + x % 64 ∧ 0x80 + x % 64 < 256 := fun x => by omega
  unfold utf8Char at hb
  by_cases h1 : c.toNat < 0x80
  · rw [if_pos h1, List.mem_singleton] at hb; exact Or.inl ⟨h1, hb⟩
  · rw [if_neg h1] at hb
    right
    by_cases h2 : c.toNat < 0x800
    · rw [if_pos h2] at hb
      simp only [List.mem_cons, List.not_mem_nil, or_false] at hb
      rcases hb with rfl | rfl
      · exact lead_byte (m := 32) h2 (by decide) (by decide)
      · exact cont _
    · rw [if_neg h2] at hb
      by_cases h3 : c.toNat < 0x10000
      · rw [if_pos h3] at hb
        simp only [List.mem_cons, List.not_mem_nil, or_false] at hb
        rcases hb with rfl | rfl | rfl
        · exact lead_byte (m := 16) h3 (by decide) (by decide)
        · exact cont _
        · exact cont _
      · rw [if_neg h3] at hb
        simp only [List.mem_cons, List.not_mem_nil, or_false] at hb
        rcases hb with rfl | rfl | rfl | rfl
        · exact lead_byte (m := 8) (Nat.lt_trans (toNat_lt c) (by decide)) (by decide) (by decide)
        · exact cont _
        · exact cont _
        · exact cont _

theorem utf8Char_bytes (c : Char) : ∀ b ∈ utf8Char c, b < 256 := by
  intro b hb
  rcases utf8Char_mem c b hb with h | h <;> omega

theorem utf8_bytes (s : List Char) : Bytes (utf8 s) := by
  intro b hb
  simp only [utf8, List.mem_flatMap] at hb
  obtain ⟨c, _, hc⟩ := hb
  exact utf8Char_bytes c b hc

theorem utf8Char_length (c : Char) : (utf8Char c).length = clen c := by
  unfold utf8Char clen
  by_cases h1 : c.toNat < 0x80
  · simp only [if_pos h1]; rfl
  · by_cases h2 : c.toNat < 0x800
    · simp only [if_neg h1, if_pos h2]; rfl
    · by_cases h3 : c.toNat < 0x10000
      · simp only [if_neg h1, if_neg h2, if_pos h3]; rfl
      · simp only [if_neg h1, if_neg h2, if_neg h3]; rfl

/-! ## `normalized_alphabet`, `preprocess_id` -/

/-- visible ASCII: 33..126 -/
def Visible (u : List Nat) : Prop := ∀ b ∈ u, 32 < b ∧ b < 127

instance (u : List Nat) : Decidable (Visible u) := by unfold Visible; infer_instance

/-- **C04 (alphabet).** Every byte of `normalize_link s` is in 33..126. -/
theorem normalized_alphabet (s : List Nat) (hs : Bytes s) : Visible (normalizeLink s) := by
  unfold normalizeLink
  rw [linkSafe_eq]
  exact encode_default_visible true s hs

theorem normalized_alphabet_chars (cs : List Char) : Visible (normalizeLink (utf8 cs)) :=
  normalized_alphabet _ (utf8_bytes cs)

theorem stripLead_id (u : List Nat) (hu : Visible u) : stripLead u = u := by
  cases u with
  | nil => rfl
  | cons b r =>
    have := hu b (by simp)
    simp only [stripLead]
    rw [if_neg (by omega)]

theorem Visible.reverse {u : List Nat} (hu : Visible u) : Visible u.reverse :=
  fun b hb => hu b (by simpa using hb)

theorem stripTrail_id (u : List Nat) (hu : Visible u) : stripTrail u = u := by
  unfold stripTrail
  rw [stripLead_id _ hu.reverse, List.reverse_reverse]

/-- **C04 (the browser sees the normalised URL verbatim).** WHATWG pre-processing (strip leading /
    trailing C0-or-space, remove TAB / LF / CR) is the identity on visible ASCII. -/
theorem preprocess_id (u : List Nat) (hu : Visible u) : preprocess u = u := by
  unfold preprocess
  rw [stripLead_id u hu, stripTrail_id u hu, List.filter_eq_self]
  intro b hb
  have := hu b hb
  simp [isTabNl]
  omega

/-! ## matchers vs. the browser's scheme extraction -/

theorem lower_58 : lower 58 = 58 := by decide

theorem startsCI_append_left (p q u : List Nat) (h : startsCI (p ++ q) u = true) :
    startsCI p u = true := by
  induction p generalizing u with
  | nil => simp [startsCI]
  | cons a p ih =>
    cases u with
    | nil => simp [startsCI] at h
    | cons b r =>
      simp only [List.cons_append, startsCI, Bool.and_eq_true] at h ⊢
      exact ⟨h.1, ih r h.2⟩

/-- lower-cased first byte of the subject -/
def headLower : List Nat → Option Nat
  | [] => none
  | b :: _ => some (lower b)

theorem startsCI_head (a : Nat) (p u : List Nat) (h : startsCI (a :: p) u = true) :
    headLower u = some a := by
  cases u with
  | nil => simp [startsCI] at h
  | cons b r =>
    simp only [startsCI, Bool.and_eq_true, beq_iff_eq] at h
    simp [headLower, h.1]

theorem schemeRest_starts (r s : List Nat) (h : schemeRest r = some s) :
    startsCI (s ++ [58]) r = true := by
  fun_induction schemeRest r generalizing s
  case case1 | case4 => cases h
  case case2 b r hb => cases h; simp [startsCI, beq_iff_eq.1 hb, lower_58]
  case case3 b r _ _ ih =>
    obtain ⟨s', hs', rfl⟩ := Option.map_eq_some_iff.1 h
    simp [startsCI, ih s' hs']

/-- the scheme the browser extracts (plus `:`) is a case-insensitive prefix of the
    pre-processed URL -/
theorem browserScheme_starts (u s : List Nat) (h : browserScheme u = some s) :
    startsCI (s ++ [58]) (preprocess u) = true := by
  revert h
  fun_cases browserScheme u
  case case2 b r hp _ =>
    intro h
    obtain ⟨s', hs', rfl⟩ := Option.map_eq_some_iff.1 h
    simp [hp, startsCI, schemeRest_starts r s' hs']
  all_goals intro h; cases h

/-- every alternative of `GOOD_DATA_RE` extends the alternative `data:` of `BAD_PROTO_RE` -/
theorem goodData_data (u : List Nat) (h : goodData u = true) : startsCI (sData ++ [58]) u = true := by
  have e : ∀ t, sData ++ sColonImage ++ t = (sData ++ [58]) ++ ([105, 109, 97, 103, 101, 47] ++ t) :=
    fun _ => rfl
  simp only [goodData, Bool.or_eq_true, e] at h
  rcases h with ((h | h) | h) | h <;> exact startsCI_append_left _ _ u h

theorem goodData_head (u : List Nat) (h : goodData u = true) : headLower u = some 100 :=
  startsCI_head 100 _ u (goodData_data u h)

theorem goodData_bad (u : List Nat) (h : goodData u = true) : badProto u = true := by
  simp only [badProto, goodData_data u h, Bool.or_true]

/-! ## the validator is exact on the normalised alphabet -/

def LowerLetters (s : List Nat) : Prop := ∀ c ∈ s, 97 ≤ c ∧ c ≤ 122

instance (s : List Nat) : Decidable (LowerLetters s) := by unfold LowerLetters; infer_instance

theorem lower_eq_58 (b : Nat) (h : lower b = 58) : b = 58 := by
  unfold lower at h; split at h <;> omega

theorem lower_letter (b c : Nat) (h : lower b = c) (hc : 97 ≤ c ∧ c ≤ 122) :
    isAlpha b = true ∧ b ≠ 58 := by
  unfold lower at h
  simp only [isAlpha, Bool.or_eq_true, Bool.and_eq_true, decide_eq_true_eq]
  split at h <;> omega

theorem starts_schemeRest (s r : List Nat) (hs : LowerLetters s)
    (h : startsCI (s ++ [58]) r = true) : schemeRest r = some s := by
  induction s generalizing r with
  | nil =>
    cases r with
    | nil => simp [startsCI] at h
    | cons b r' =>
      simp only [List.nil_append, startsCI, Bool.and_true, beq_iff_eq] at h
      simp [schemeRest, lower_eq_58 b h]
  | cons c s ih =>
    cases r with
    | nil => simp [startsCI] at h
    | cons b r' =>
      simp only [List.cons_append, startsCI, Bool.and_eq_true, beq_iff_eq] at h
      have hl := lower_letter b c h.1 (hs c (by simp))
      have := ih r' (fun x hx => hs x (by simp [hx])) h.2
      simp [schemeRest, hl.2, isSchemeChar, hl.1, this, h.1]

/-- a URL over the normalised alphabet that starts (in any letter case) with `<letters>:` has
    exactly that scheme for the browser -/
theorem starts_browserScheme (c : Nat) (s u : List Nat) (hs : LowerLetters (c :: s))
    (hu : Visible u) (h : startsCI (c :: s ++ [58]) u = true) : browserScheme u = some (c :: s) := by
  unfold browserScheme
  rw [preprocess_id u hu]
  cases u with
  | nil => simp [startsCI] at h
  | cons b r =>
    simp only [List.cons_append, startsCI, Bool.and_eq_true, beq_iff_eq] at h
    have hl := lower_letter b c h.1 (hs c (by simp))
    have := starts_schemeRest s r (fun x hx => hs x (by simp [hx])) h.2
    simp [hl.1, this, h.1]

/-- the four schemes of `BAD_PROTO_RE` -/
def badSchemes : List (List Nat) := [sVbscript, sJavascript, sFile, sData]

/-- on the normalised alphabet the alternative `s:` of `BAD_PROTO_RE` matches exactly when the
    browser extracts the scheme `s` -/
theorem starts_eq_scheme (u : List Nat) (hu : Visible u) :
    ∀ s ∈ badSchemes, startsCI (s ++ [58]) u = (browserScheme u == some s) := by
  have key : ∀ c s, LowerLetters (c :: s) →
      startsCI (c :: s ++ [58]) u = (browserScheme u == some (c :: s)) := fun c s hs =>
    Bool.eq_iff_iff.2 ⟨fun h => beq_iff_eq.2 (starts_browserScheme c s u hs hu h),
      fun h => preprocess_id u hu ▸ browserScheme_starts u _ (beq_iff_eq.1 h)⟩
  intro s hs
  simp only [badSchemes, List.mem_cons, List.not_mem_nil, or_false] at hs
  rcases hs with rfl | rfl | rfl | rfl <;> exact key _ _ (by decide)

/-- **C04 (the validator is exact).** On the normalised alphabet `validate_link` rejects a URL if
    AND ONLY IF a browser would treat it as one of the dangerous kinds. -/
theorem validate_exact (u : List Nat) (hu : Visible u) : validateLink u = !dangerous u := by
  have e := starts_eq_scheme u hu
  have hg := fun h => (e sData (by decide)).symm.trans (goodData_data u h)
  unfold validateLink dangerous badProto
  rw [preprocess_id u hu, e sVbscript (by decide), e sJavascript (by decide), e sFile (by decide),
    e sData (by decide)]
  cases hb : browserScheme u with
  | none => rfl
  | some s =>
    simp only [Option.some_beq_some]
    cases hgd : goodData u with
    | false => simp [Bool.or_comm]
    | true =>
      -- the data-image exception: the scheme is `data`, and the exception is the model's own test
      rw [hb] at hg
      obtain rfl : s = sData := by simpa using hg hgd
      decide

/-- **C04 (validator soundness).** On visible ASCII — the alphabet of `normalize_link` — a URL
    accepted by `validate_link` is not one a browser would run as `javascript:` / `vbscript:`, open
    as `file:`, or load as a non-image `data:` URL. -/
theorem validate_sound (u : List Nat) (hu : Visible u) (hv : validateLink u = true) :
    dangerous u = false := by
  rw [validate_exact u hu] at hv; simpa using hv

/-! ## the pipelines -/

/-- the step shared by the three call sites: a URL over the normalised alphabet that passes
    `validate_link` is not dangerous -/
theorem accepted_safe {v u : List Nat} (hv : Visible v)
    (h : (if validateLink v then some v else none) = some u) : dangerous u = false := by
  split at h
  · cases h; exact validate_sound _ hv ‹_›
  · cases h

/-- **C04 (inline links and images).** Whatever the raw destination text and whatever the decoding
    of escapes / character references does to it, a destination that `parse_link` accepts is not
    dangerous. -/
theorem pipeline_safe (dec : List Char → List Char) (raw : List Char) (u : List Nat)
    (h : inlineDest dec raw = some u) : dangerous u = false :=
  accepted_safe (normalized_alphabet_chars _) h

/-- **C04 (reference definitions).** -/
theorem pipeline_safe_ref (dec : List Char → List Char) (raw : List Char) (u : List Nat)
    (h : refDest dec raw = some u) : dangerous u = false :=
  accepted_safe (normalized_alphabet_chars _) h

/-- **C04 (autolinks)**, both the URL form and the e-mail form (`mailto:` prepended). -/
theorem pipeline_safe_autolink (isAutolink : Bool) (url : List Char) (u : List Nat)
    (h : autolinkDest isAutolink url = some u) : dangerous u = false := by
  cases isAutolink <;> exact accepted_safe (normalized_alphabet_chars _) h

/-- the destination parser composed with the inline pipeline: an `href` that comes out is safe -/
theorem inlineHref_safe (dec : List Char → List Char) (str : List Char) (pos max p : Nat)
    (u : List Nat) (h : inlineHref dec str pos max = .ok (some (p, some u))) :
    dangerous u = false := by
  revert h
  fun_cases inlineHref dec str pos max
  case case3 res _ u' hu' => intro h; cases h; exact pipeline_safe dec res.raw u hu'
  all_goals intro h; cases h

/-! ## what the validator rejects -/

/-- **C04 (what is rejected).** A URL that starts, in any letter case, with `vbscript:`,
    `javascript:`, `file:` or `data:` is rejected unless the data-image exception applies. -/
theorem validate_rejects (s u : List Nat) (hs : s ∈ badSchemes)
    (h : startsCI (s ++ [58]) u = true) (hg : goodData u = false) : validateLink u = false := by
  have hb : badProto u = true := by
    simp only [badSchemes, List.mem_cons, List.not_mem_nil, or_false] at hs
    rcases hs with rfl | rfl | rfl | rfl <;> simp [badProto, h]
  simp [validateLink, hb, hg]

theorem startsCI_map_lower (pre rest : List Nat) : startsCI (pre.map lower) (pre ++ rest) = true := by
  induction pre with
  | nil => simp [startsCI]
  | cons b r ih => simp [startsCI, ih]

/-- the exception needs the scheme `data`: for the other three there is no way out -/
theorem goodData_needs_data (s u : List Nat) (hs : s ∈ [sVbscript, sJavascript, sFile])
    (h : startsCI (s ++ [58]) u = true) : goodData u = false := by
  cases hg : goodData u with
  | false => rfl
  | true =>
    have hd := goodData_head u hg
    simp only [List.mem_cons, List.not_mem_nil, or_false] at hs
    rcases hs with rfl | rfl | rfl
    · have := startsCI_head 118 _ u h; rw [hd] at this; cases this
    · have := startsCI_head 106 _ u h; rw [hd] at this; cases this
    · have := startsCI_head 102 _ u h; rw [hd] at this; cases this

/-- **C04 (letter case does not help).** Every spelling `pre` of `vbscript:` / `javascript:` /
    `file:` in any mix of upper and lower case, followed by anything at all, is rejected. -/
theorem validate_rejects_spelling (s pre rest : List Nat) (hs : s ∈ [sVbscript, sJavascript, sFile])
    (hpre : pre.map lower = s ++ [58]) : validateLink (pre ++ rest) = false := by
  have h : startsCI (s ++ [58]) (pre ++ rest) = true := hpre ▸ startsCI_map_lower pre rest
  refine validate_rejects s _ ?_ h (goodData_needs_data s _ hs h)
  simp only [List.mem_cons, List.not_mem_nil, or_false] at hs
  rcases hs with rfl | rfl | rfl <;> simp [badSchemes]

/-- a `data:` URL in any letter case is rejected unless it continues `image/gif;`, `image/png;`,
    `image/jpeg;` or `image/webp;` (again in any letter case) -/
theorem validate_rejects_data (pre rest : List Nat) (hpre : pre.map lower = sData ++ [58])
    (hg : goodData (pre ++ rest) = false) : validateLink (pre ++ rest) = false :=
  validate_rejects sData _ (by simp [badSchemes]) (hpre ▸ startsCI_map_lower pre rest) hg

/-! ### concrete URLs (bytes written out; the comment gives the text) -/

section Examples

/-- all bytes safe and no `%`: `normalize_link` leaves the string alone -/
theorem normalize_safe_id (u : List Nat) (h : ∀ b ∈ u, b < 128 ∧ linkSafe b = true) :
    normalizeLink u = u := by
  unfold normalizeLink
  apply fix_on_EncK
  induction u with
  | nil => exact EncK.nil
  | cons b r ih =>
    have hb := h b (by simp)
    refine EncK.lit b r hb.1 hb.2 ?_ (ih (fun c hc => h c (by simp [hc])))
    rintro ⟨rfl, _⟩
    rw [linkSafe_eq, default_no_pct] at hb
    cases hb.2

/-- `javascript:alert(1)` -/
def exJs : List Nat := [106, 97, 118, 97, 115, 99, 114, 105, 112, 116, 58, 97, 108, 101, 114, 116, 40, 49, 41]
/-- `JaVaScRiPt:x` -/
def exJsMixed : List Nat := [74, 97, 86, 97, 83, 99, 82, 105, 80, 116, 58, 120]
/-- `data:text/html,x` -/
def exDataHtml : List Nat := [100, 97, 116, 97, 58, 116, 101, 120, 116, 47, 104, 116, 109, 108, 44, 120]
/-- `data:image/png;base64,xx` -/
def exDataPng : List Nat :=
  [100, 97, 116, 97, 58, 105, 109, 97, 103, 101, 47, 112, 110, 103, 59, 98, 97, 115, 101, 54, 52, 44, 120, 120]
/-- `data:image/svg+xml;base64,xx` -/
def exDataSvg : List Nat :=
  [100, 97, 116, 97, 58, 105, 109, 97, 103, 101, 47, 115, 118, 103, 43, 120, 109, 108, 59, 98, 97, 115, 101, 54, 52, 44, 120, 120]
/-- `http://x` -/
def exHttp : List Nat := [104, 116, 116, 112, 58, 47, 47, 120]
/-- `java%09script:x` — what `java<TAB>script:x` (e.g. written `java&Tab;script:x`) normalises to -/
def exJavaPctTab : List Nat := [106, 97, 118, 97, 37, 48, 57, 115, 99, 114, 105, 112, 116, 58, 120]
/-- `java<TAB>script:x`, NOT normalised -/
def exJavaTab : List Nat := [106, 97, 118, 97, 9, 115, 99, 114, 105, 112, 116, 58, 120]

example : validateLink exJs = false := by decide +kernel
example : validateLink exJsMixed = false := by decide +kernel
example : validateLink exDataHtml = false := by decide +kernel
example : validateLink exDataSvg = false := by decide +kernel
example : dangerous exJs = true ∧ dangerous exJsMixed = true ∧ dangerous exDataHtml = true ∧
    dangerous exDataSvg = true := by decide +kernel
example : validateLink exDataPng = true ∧ dangerous exDataPng = false := by decide +kernel
example : validateLink exHttp = true ∧ dangerous exHttp = false := by decide +kernel
example : validateLink exJavaPctTab = true ∧ dangerous exJavaPctTab = false := by decide +kernel
example : browserScheme exJsMixed = some sJavascript := by decide +kernel
example : browserScheme exJavaPctTab = none := by decide +kernel

/-- the hypothesis `Visible u` of `validate_sound` is needed: on a string that has NOT been
    normalised the validator alone is unsound — the browser drops the TAB. (No call site does
    this; `normalize_link` turns the TAB into `%09` first.) -/
example : validateLink exJavaTab = true ∧ dangerous exJavaTab = true := by decide +kernel

/-- `validate_sound` / `validate_exact` are not vacuous: their hypothesis holds of these -/
example : Visible exDataPng ∧ Visible exJs ∧ Visible exJavaPctTab := by decide +kernel

/-- `validate_rejects_spelling` instantiated: `JaVaScRiPt:` + anything -/
example (rest : List Nat) : validateLink ([74, 97, 86, 97, 83, 99, 82, 105, 80, 116, 58] ++ rest) = false :=
  validate_rejects_spelling sJavascript _ rest (by decide) (by decide)

/-- the pipelines on concrete text.  `[a](javascript:alert(1))`: rejected -/
example : inlineDest id ['j', 'a', 'v', 'a', 's', 'c', 'r', 'i', 'p', 't', ':', 'a', 'l', 'e', 'r', 't', '(', '1', ')'] = none := by
  have : utf8 (id ['j', 'a', 'v', 'a', 's', 'c', 'r', 'i', 'p', 't', ':', 'a', 'l', 'e', 'r', 't', '(', '1', ')']) = exJs := by
    decide
  unfold inlineDest
  rw [this, normalize_safe_id exJs (by decide +kernel)]
  decide

/-- `[a](&#x6a;avascript:x)` with a decoder that resolves the reference: rejected all the same
    (the decoder is arbitrary in `pipeline_safe`; this one is the constant function) -/
example (raw : List Char) : inlineDest (fun _ => ['j', 'a', 'v', 'a', 's', 'c', 'r', 'i', 'p', 't', ':', 'x']) raw = none := by
  have : utf8 ['j', 'a', 'v', 'a', 's', 'c', 'r', 'i', 'p', 't', ':', 'x'] =
      [106, 97, 118, 97, 115, 99, 114, 105, 112, 116, 58, 120] := by decide
  unfold inlineDest
  simp only [this]
  rw [normalize_safe_id _ (by decide +kernel)]
  decide

/-- `[a]: http://x`: accepted (so the pipeline theorems are not vacuous) -/
example : refDest id ['h', 't', 't', 'p', ':', '/', '/', 'x'] = some exHttp := by
  have : utf8 (id ['h', 't', 't', 'p', ':', '/', '/', 'x']) = exHttp := by decide
  unfold refDest
  rw [this, normalize_safe_id exHttp (by decide +kernel)]
  decide

/-- e-mail autolink `<a@b>` → `mailto:a@b`, accepted -/
example : autolinkDest false ['a', '@', 'b'] = some [109, 97, 105, 108, 116, 111, 58, 97, 64, 98] := by
  have : utf8 (sMailto ++ ['a', '@', 'b']) = [109, 97, 105, 108, 116, 111, 58, 97, 64, 98] := by decide
  unfold autolinkDest
  simp only [Bool.false_eq_true, if_false, this]
  rw [normalize_safe_id _ (by decide +kernel)]
  decide

/-- autolink `<javascript:x>`: rejected -/
example : autolinkDest true ['j', 'a', 'v', 'a', 's', 'c', 'r', 'i', 'p', 't', ':', 'x'] = none := by
  have : utf8 ['j', 'a', 'v', 'a', 's', 'c', 'r', 'i', 'p', 't', ':', 'x'] =
      [106, 97, 118, 97, 115, 99, 114, 105, 112, 116, 58, 120] := by decide
  unfold autolinkDest
  simp only [if_true, this]
  rw [normalize_safe_id _ (by decide +kernel)]
  decide

end Examples

/-! ## byte-offset slicing -/

/-- `Link`'s own `len_utf8` is `Char.utf8Size` -/
theorem clen_eq (c : Char) : clen c = c.utf8Size := by
  unfold clen Char.utf8Size
  simp only [UInt32.le_iff_toNat_le, UInt32.toNat_ofNatLT, Char.toNat]
  repeat' split
  all_goals omega

theorem clen_pos (c : Char) : 0 < clen c := by
  rw [clen_eq]; exact Char.utf8Size_pos c

/-! byte slices: the ones of `Model/Lines` (`Lemmas/Lines.lean` section 1) -/

theorem byteLen_eq_lines : byteLen = Lines.byteLen := by
  funext s
  induction s with
  | nil => rfl
  | cons c r ih => simp only [byteLen, Lines.byteLen, ih, clen_eq]

theorem byteLen_append (a b : List Char) : byteLen (a ++ b) = byteLen a + byteLen b := by
  rw [byteLen_eq_lines]; exact Lines.byteLen_append a b

theorem dropBytes_eq_lines (s : List Char) (n : Nat) : dropBytes s n = Lines.dropBytes s n := by
  fun_induction Lines.dropBytes s n with
  | case1 => rfl
  | case2 n h => simp [dropBytes, h]
  | case3 c r => simp [dropBytes]
  | case4 c r n h0 hlt => simp only [dropBytes, clen_eq]; rw [if_neg h0, if_neg (by omega)]
  | case5 c r n h0 hge ih => simp only [dropBytes, clen_eq]; rw [if_neg h0, if_pos (by omega), ih]

theorem takeBytes_eq_lines (s : List Char) (n : Nat) : takeBytes s n = Lines.takeBytes s n := by
  fun_induction Lines.takeBytes s n with
  | case1 => rfl
  | case2 n h => simp [takeBytes, h]
  | case3 c r => simp [takeBytes]
  | case4 c r n h0 hlt => simp only [takeBytes, clen_eq]; rw [if_neg h0, if_neg (by omega)]
  | case5 c r n h0 hge ht ih => simp only [takeBytes, clen_eq]; rw [if_neg h0, if_pos (by omega), ih, ht]; rfl
  | case6 c r n h0 hge t ht ih => simp only [takeBytes, clen_eq]; rw [if_neg h0, if_pos (by omega), ih, ht]; rfl

theorem slice_ok_iff_lines {s t : List Char} {a b : Nat} :
    slice s a b = .ok t ↔ Lines.slice s a b = .ok t := by
  unfold slice Lines.slice
  rw [dropBytes_eq_lines]
  by_cases hab : a ≤ b
  · rw [if_pos hab, if_neg (by omega)]
    cases Lines.dropBytes s a with
    | none => simp
    | some r =>
      simp only [takeBytes_eq_lines]
      cases Lines.takeBytes r (b - a) <;> simp
  · rw [if_neg hab, if_pos (by omega)]; simp

/-- `&s[a..b]` succeeds with `t` exactly when `t` sits in `s` between byte offsets `a` and `b` -/
theorem slice_ok_iff (s t : List Char) (a b : Nat) :
    slice s a b = .ok t ↔ ∃ pre post, s = pre ++ t ++ post ∧ byteLen pre = a ∧ b = a + byteLen t := by
  rw [slice_ok_iff_lines, Lines.slice_eq_ok_iff, byteLen_eq_lines]
  exact ⟨fun ⟨p, q, h1, h2, h3⟩ => ⟨p, q, h1, h2, h3.symm⟩, fun ⟨p, q, h1, h2, h3⟩ => ⟨p, q, h1, h2, h3.symm⟩⟩

/-- byte offset `p` is a character boundary of `s` (`s.is_char_boundary(p)`, `p ≤ s.len()`) -/
def Boundary (s : List Char) (p : Nat) : Prop := ∃ pre post, s = pre ++ post ∧ byteLen pre = p

/-- cutting a window: when `s[a..m]` reads `x ++ y`, the offset behind `x` is a character boundary
    inside the window, and the window splits there into `x` and `y` -/
theorem slice_cut {s x y : List Char} {a m : Nat} (h : slice s a m = .ok (x ++ y)) :
    slice s a (a + byteLen x) = .ok x ∧ slice s (a + byteLen x) m = .ok y ∧
      a + byteLen x ≤ m ∧ Boundary s (a + byteLen x) := by
  obtain ⟨p, q, rfl, ha, hb⟩ := (slice_ok_iff _ _ _ _).1 h
  rw [byteLen_append] at hb
  have hpx : byteLen (p ++ x) = a + byteLen x := by rw [byteLen_append, ha]
  have hs : p ++ (x ++ y) ++ q = p ++ x ++ (y ++ q) := by simp only [List.append_assoc]
  exact ⟨(slice_ok_iff _ _ _ _).2 ⟨p, y ++ q, hs, ha, rfl⟩,
    (slice_ok_iff _ _ _ _).2 ⟨p ++ x, q, by simp only [List.append_assoc], hpx, by omega⟩,
    by omega, p ++ x, y ++ q, hs, hpx⟩

theorem byteLen_wrap (o m : Char) (raw : List Char) (ho : clen o = 1) (hm : clen m = 1) :
    byteLen (o :: raw ++ [m]) = byteLen raw + 2 := by
  simp only [List.cons_append, byteLen, byteLen_append, ho, hm]; omega

/-! ## `parse_link_destination` -/

/-- the text between `<` and `>`: backslash + any character but the line feed, or a character
    other than line feed, `<`, `>`, backslash -/
inductive AngleToks : List Char → Prop
  | nil : AngleToks []
  | esc (x : Char) (r : List Char) : x ≠ '\n' → AngleToks r → AngleToks ('\\' :: x :: r)
  | plain (c : Char) (r : List Char) : c ≠ '\n' → c ≠ '<' → c ≠ '>' → c ≠ '\\' → AngleToks r →
      AngleToks (c :: r)

/-- a bare destination, with the parenthesis depth before and after: backslash + any character
    that is not a space or a control character; `(` up to depth 32; `)` only at depth > 0; any other character that is not a
    space, a control character (≤ 0x20 or 0x7F), a backslash or a parenthesis -/
inductive BareToks : Nat → List Char → Nat → Prop
  | nil (l : Nat) : BareToks l [] l
  | esc (l l' : Nat) (x : Char) (r : List Char) : isBareStop x = false → BareToks l r l' →
      BareToks l ('\\' :: x :: r) l'
  | opn (l l' : Nat) (r : List Char) : l + 1 ≤ 32 → BareToks (l + 1) r l' → BareToks l ('(' :: r) l'
  | cls (l l' : Nat) (r : List Char) : l ≠ 0 → BareToks (l - 1) r l' → BareToks l (')' :: r) l'
  | plain (l l' : Nat) (c : Char) (r : List Char) : isBareStop c = false → c ≠ '\\' → c ≠ '(' →
      c ≠ ')' → BareToks l r l' → BareToks l (c :: r) l'

/-- why the bare scan stopped where it did (depth `l` at that point) -/
def BareEnd (l : Nat) (suf : List Char) : Prop :=
  suf = [] ∨ (∃ c r, suf = c :: r ∧ isBareStop c = true) ∨ suf = ['\\'] ∨
  (∃ x r, suf = '\\' :: x :: r ∧ isBareStop x = true) ∨ (l = 0 ∧ ∃ r, suf = ')' :: r)

theorem clen_bs : clen '\\' = 1 := by decide
theorem clen_lp : clen '(' = 1 := by decide
theorem clen_rp : clen ')' = 1 := by decide
theorem clen_lt : clen '<' = 1 := by decide
theorem clen_gt : clen '>' = 1 := by decide
theorem clen_nl : clen '\n' = 1 := by decide

theorem angleLoop_spec (cs : List Char) (p0 pos : Nat) (h : angleLoop cs p0 = some pos) :
    ∃ pre suf, cs = pre ++ '>' :: suf ∧ pos = p0 + byteLen pre ∧ AngleToks pre := by
  fun_induction angleLoop cs p0 with
  | case1 => cases h
  | case2 => cases h
  | case3 cs n _ =>
    cases h
    exact ⟨[], cs, rfl, by simp [byteLen], .nil⟩
  | case4 => cases h
  | case5 => cases h
  | case6 n x cs hx _ _ ih =>
    obtain ⟨pre, suf, rfl, hp, ht⟩ := ih h
    exact ⟨'\\' :: x :: pre, suf, rfl, by simp [byteLen, clen_bs]; omega, .esc x pre hx ht⟩
  | case7 c cs n hc1 hc2 hc3 ih =>
    obtain ⟨pre, suf, rfl, hp, ht⟩ := ih h
    simp only [not_or] at hc1
    exact ⟨c :: pre, suf, rfl, by simp [byteLen]; omega, .plain c pre hc1.1 hc1.2 hc2 hc3 ht⟩

theorem bareLoop_spec (cs : List Char) (p0 l0 pos l : Nat) (h : bareLoop cs p0 l0 = some (pos, l)) :
    ∃ pre suf, cs = pre ++ suf ∧ pos = p0 + byteLen pre ∧ BareToks l0 pre l ∧ BareEnd l suf := by
  fun_induction bareLoop cs p0 l0 with
  | case1 p lv => cases h; exact ⟨[], [], rfl, by simp [byteLen], .nil _, Or.inl rfl⟩
  | case2 c cs p lv hc =>
    cases h; exact ⟨[], c :: cs, rfl, by simp [byteLen], .nil _, Or.inr (Or.inl ⟨c, cs, rfl, hc⟩)⟩
  | case3 p lv _ =>
    cases h; exact ⟨[], ['\\'], rfl, by simp [byteLen], .nil _, Or.inr (Or.inr (Or.inl rfl))⟩
  | case4 p lv x cs hx _ =>
    cases h
    exact ⟨[], '\\' :: x :: cs, rfl, by simp [byteLen], .nil _,
      Or.inr (Or.inr (Or.inr (Or.inl ⟨x, cs, rfl, hx⟩)))⟩
  | case5 p lv x cs hx _ ih =>
    obtain ⟨pre, suf, rfl, hp, ht, he⟩ := ih h
    exact ⟨'\\' :: x :: pre, suf, rfl, by simp [byteLen, clen_bs]; omega,
      .esc _ _ x pre (by simpa using hx) ht, he⟩
  | case6 => cases h
  | case7 cs p lv hl _ _ ih =>
    obtain ⟨pre, suf, rfl, hp, ht, he⟩ := ih h
    exact ⟨'(' :: pre, suf, rfl, by simp [byteLen, clen_lp]; omega, .opn _ _ pre (by omega) ht, he⟩
  | case8 cs p _ _ _ =>
    cases h
    exact ⟨[], ')' :: cs, rfl, by simp [byteLen], .nil _,
      Or.inr (Or.inr (Or.inr (Or.inr ⟨rfl, cs, rfl⟩)))⟩
  | case9 cs p lv hl _ _ _ ih =>
    obtain ⟨pre, suf, rfl, hp, ht, he⟩ := ih h
    exact ⟨')' :: pre, suf, rfl, by simp [byteLen, clen_rp]; omega, .cls _ _ pre hl ht, he⟩
  | case10 c cs p lv h1 h2 h3 h4 ih =>
    obtain ⟨pre, suf, rfl, hp, ht, he⟩ := ih h
    exact ⟨c :: pre, suf, rfl, by simp [byteLen]; omega,
      .plain _ _ c pre (by simpa using h1) h2 h3 h4 ht, he⟩

theorem isBareStop_space : isBareStop ' ' = true := by decide
theorem isBareStop_bs : isBareStop '\\' = false := by decide
theorem isBareStop_lp : isBareStop '(' = false := by decide
theorem isBareStop_rp : isBareStop ')' = false := by decide

/-! the converse of `angleLoop_spec` / `bareLoop_spec`: the scanners accept every token string, so each scanner is
   characterised by its grammar -/

theorem AngleToks.scan {pre : List Char} (h : AngleToks pre) (suf : List Char) (p0 : Nat) :
    angleLoop (pre ++ '>' :: suf) p0 = some (p0 + byteLen pre) := by
  induction h generalizing p0 with
  | nil => rw [List.nil_append, angleLoop.eq_def]; simp [byteLen]
  | esc x r hx _ ih =>
    rw [List.cons_append, List.cons_append, angleLoop]
    simp only [hx, if_false, ih, byteLen, clen_bs]
    simp; omega
  | plain c r h1 h2 h3 h4 _ ih =>
    rw [List.cons_append, angleLoop.eq_def]
    simp only [h1, h2, h3, h4, false_or, if_false, ih, byteLen]
    simp; omega

theorem BareEnd.scan {l : Nat} {suf : List Char} (h : BareEnd l suf) (p0 : Nat) :
    bareLoop suf p0 l = some (p0, l) := by
  rcases h with rfl | ⟨c, r, rfl, hc⟩ | rfl | ⟨x, r, rfl, hx⟩ | ⟨rfl, r, rfl⟩
  · rfl
  · rw [bareLoop.eq_def]; simp [hc]
  · rw [bareLoop.eq_def]; simp [isBareStop_bs]
  · rw [bareLoop.eq_def]; simp [isBareStop_bs, hx]
  · rw [bareLoop.eq_def]; simp [isBareStop_rp]

theorem BareToks.scan {l l' : Nat} {pre : List Char} (h : BareToks l pre l') {suf : List Char}
    (he : BareEnd l' suf) (p0 : Nat) :
    bareLoop (pre ++ suf) p0 l = some (p0 + byteLen pre, l') := by
  induction h generalizing p0 with
  | nil l => simpa [byteLen] using he.scan p0
  | esc l l' x r hx _ ih =>
    rw [List.cons_append, List.cons_append, bareLoop.eq_def]
    simp only [isBareStop_bs, Bool.false_eq_true, if_false, if_true, hx, ih he, byteLen, clen_bs]
    simp; omega
  | opn l l' r hl _ ih =>
    rw [List.cons_append, bareLoop.eq_def]
    simp only [isBareStop_lp, Bool.false_eq_true, if_false, show ¬ ('(' = '\\') by decide, if_true,
      show ¬ (l + 1 > 32) by omega, ih he, byteLen, clen_lp]
    simp; omega
  | cls l l' r hl _ ih =>
    rw [List.cons_append, bareLoop.eq_def]
    simp only [isBareStop_rp, Bool.false_eq_true, if_false, show ¬ (')' = '\\') by decide,
      show ¬ (')' = '(') by decide, if_true, hl, ih he, byteLen, clen_rp]
    simp; omega
  | plain l l' c r h0 h1 h2 h3 _ ih =>
    rw [List.cons_append, bareLoop.eq_def]
    simp only [h0, Bool.false_eq_true, if_false, h1, h2, h3, ih he, byteLen]
    simp; omega

/-- the slice taken after a successful `<…>` scan is in range and is the scanned text -/
theorem dest_angle_inner (str rest : List Char) (start max pos : Nat)
    (h1 : slice str start max = .ok ('<' :: rest)) (h2 : angleLoop rest (start + 1) = some pos) :
    ∃ raw suf, rest = raw ++ '>' :: suf ∧ pos = start + 1 + byteLen raw ∧ AngleToks raw ∧
      slice str (start + 1) pos = .ok raw := by
  obtain ⟨raw, suf, rfl, hp, ht⟩ := angleLoop_spec _ _ _ h2
  have h : slice str (start + 1) max = .ok (raw ++ '>' :: suf) := (slice_cut (x := ['<']) h1).2.1
  exact ⟨raw, suf, rfl, hp, ht, hp ▸ (slice_cut h).1⟩

/-- the slice taken after a bare scan is in range and is the scanned text -/
theorem dest_bare_inner (str chars : List Char) (start max pos l : Nat)
    (h1 : slice str start max = .ok chars) (h2 : bareLoop chars start 0 = some (pos, l)) :
    ∃ raw suf, chars = raw ++ suf ∧ pos = start + byteLen raw ∧ BareToks 0 raw l ∧ BareEnd l suf ∧
      slice str start pos = .ok raw := by
  obtain ⟨raw, suf, rfl, hp, ht, he⟩ := bareLoop_spec _ _ _ _ _ h2
  exact ⟨raw, suf, rfl, hp, ht, he, hp ▸ (slice_cut h1).1⟩

/-- On a valid window `parse_link_destination` does not panic (the slices taken after the scan are
    always in range), and a destination it returns consumed, from `start`, either `<raw>` with `raw`
    free of line feeds and of unescaped angle brackets, or a bare `raw` with balanced unescaped
    parentheses (depth ≤ 32) that stops for one of the listed reasons; `lines` is 0. -/
theorem dest_ok (str chars : List Char) (start max : Nat) (hs : slice str start max = .ok chars) :
    parseLinkDestination str start max = .ok none ∨
    ∃ f, parseLinkDestination str start max = .ok (some f) ∧ f.lines = 0 ∧
      ((∃ suf, chars = '<' :: f.raw ++ '>' :: suf ∧ f.pos = start + byteLen f.raw + 2 ∧
          AngleToks f.raw ∧ slice str start f.pos = .ok ('<' :: f.raw ++ ['>'])) ∨
       (∃ suf, chars = f.raw ++ suf ∧ (∀ r, chars ≠ '<' :: r) ∧ f.pos = start + byteLen f.raw ∧
          BareToks 0 f.raw 0 ∧ BareEnd 0 suf ∧ slice str start f.pos = .ok f.raw)) := by
  fun_cases parseLinkDestination str start max
  case case1 e he => rw [hs] at he; cases he
  case case2 => exact Or.inl rfl
  case case3 rest pos h2 e he h1 =>
    obtain ⟨_, _, _, _, _, hsl⟩ := dest_angle_inner str rest start max pos h1 h2
    rw [hsl] at he; cases he
  case case4 rest pos h2 raw' hr h1 =>
    obtain ⟨raw, suf, rfl, hp, ht, hsl⟩ := dest_angle_inner str rest start max pos h1 h2
    rw [hsl] at hr; cases hr
    rw [hs] at h1; cases h1
    have hpos : pos + 1 = start + byteLen ('<' :: raw' ++ ['>']) := by
      rw [byteLen_wrap _ _ _ clen_lt clen_gt]; omega
    refine Or.inr ⟨_, rfl, rfl, Or.inl ⟨suf, rfl, by simp only; omega, ht, ?_⟩⟩
    show slice str start (pos + 1) = _
    rw [hpos]
    exact (slice_cut (x := '<' :: raw' ++ ['>']) (y := suf) (by rw [List.append_assoc]; exact hs)).1
  case case5 raw h1 h2 _ => rw [h2]; exact Or.inl rfl
  case case6 raw h1 pos l h2 hl _ => rw [h2]; exact Or.inl (if_pos hl)
  case case7 chars' h1 pos l h2 hl e he _ =>
    obtain ⟨_, _, _, _, _, _, hsl⟩ := dest_bare_inner str chars' start max pos l h1 h2
    rw [hsl] at he; cases he
  case case8 chars' h1 pos l h2 hl raw' hr hne =>
    rw [hs] at h1; cases h1
    obtain rfl : l = 0 := Decidable.not_not.1 hl
    obtain ⟨raw, suf, rfl, hp, ht, he, hsl⟩ := dest_bare_inner str chars start max pos 0 hs h2
    rw [hsl] at hr; cases hr
    rw [h2]
    simp only [hsl]
    exact Or.inr ⟨_, rfl, rfl, Or.inr ⟨suf, rfl, fun r hr => hne r hr, hp, ht, he, hsl⟩⟩

/-- **`parse_link_destination` never panics on a valid window**: the only panic is the first
    slicing `str[start..max]`; the slices taken after the scan are always in range. -/
theorem dest_total (str chars : List Char) (start max : Nat) (h : slice str start max = .ok chars) :
    ∃ r, parseLinkDestination str start max = .ok r := by
  rcases dest_ok str chars start max h with h | ⟨f, h, _⟩ <;> exact ⟨_, h⟩

theorem dest_panics_iff (str : List Char) (start max : Nat) :
    parseLinkDestination str start max = .error .slice ↔ slice str start max = .error .slice := by
  constructor
  · intro h
    cases hs : slice str start max with
    | error e => cases e; rfl
    | ok chars =>
      obtain ⟨r, hr⟩ := dest_total str chars start max hs
      rw [hr] at h; cases h
  · intro h
    unfold parseLinkDestination
    simp [h]

/-- **C04 (destination parser, shape of a result).** A successful parse consumed, from `start`,
    either `<raw>` with `raw` free of line feeds and of unescaped angle brackets, or a bare `raw`
    with balanced unescaped parentheses (depth ≤ 32) that stops for one of the listed reasons;
    `lines` is 0. -/
theorem dest_spec (str : List Char) (start max : Nat) (f : Frag)
    (h : parseLinkDestination str start max = .ok (some f)) :
    f.lines = 0 ∧ ∃ chars, slice str start max = .ok chars ∧
      ((∃ suf, chars = '<' :: f.raw ++ '>' :: suf ∧ f.pos = start + byteLen f.raw + 2 ∧
          AngleToks f.raw ∧ slice str start f.pos = .ok ('<' :: f.raw ++ ['>'])) ∨
       (∃ suf, chars = f.raw ++ suf ∧ (∀ r, chars ≠ '<' :: r) ∧ f.pos = start + byteLen f.raw ∧
          BareToks 0 f.raw 0 ∧ BareEnd 0 suf ∧ slice str start f.pos = .ok f.raw)) := by
  cases hs : slice str start max with
  | error e => cases e; rw [(dest_panics_iff str start max).2 hs] at h; cases h
  | ok chars =>
    rcases dest_ok str chars start max hs with h0 | ⟨f', hf, hl, hc⟩
    · rw [h0] at h; cases h
    · rw [hf] at h; cases h
      exact ⟨hl, chars, rfl, hc⟩

/-- what a successful parse consumed: a prefix `x` of the window, `pos` just behind it -/
theorem dest_consumed (str : List Char) (start max : Nat) (f : Frag)
    (h : parseLinkDestination str start max = .ok (some f)) :
    ∃ x suf, slice str start max = .ok (x ++ suf) ∧ f.pos = start + byteLen x := by
  obtain ⟨_, chars, hs, hc⟩ := dest_spec str start max f h
  rcases hc with ⟨suf, rfl, hp, _, _⟩ | ⟨suf, rfl, _, hp, _, _, _⟩
  · refine ⟨'<' :: f.raw ++ ['>'], suf, by simpa using hs, ?_⟩
    rw [hp, byteLen_wrap _ _ _ clen_lt clen_gt]; omega
  · exact ⟨f.raw, suf, hs, hp⟩

/-- **C04 (`dest_pos_bounds`).** `start ≤ pos ≤ max` and `pos` is a character boundary of `str`
    (so the callers' `str[pos..]` cannot panic). -/
theorem dest_pos_bounds (str : List Char) (start max : Nat) (f : Frag)
    (h : parseLinkDestination str start max = .ok (some f)) :
    start ≤ f.pos ∧ f.pos ≤ max ∧ Boundary str f.pos := by
  obtain ⟨x, suf, hs, hp⟩ := dest_consumed str start max f h
  exact ⟨by omega, hp ▸ (slice_cut hs).2.2⟩


/-- a bare destination contains no space and no control character at all — every character of it,
    also one directly after a backslash, has a code > 0x20 and ≠ 0x7F -/
theorem BareToks.no_ctrl {l l' : Nat} {raw : List Char} (h : BareToks l raw l') :
    ∀ c ∈ raw, isBareStop c = false := by
  induction h with
  | nil => exact fun _ hc => nomatch hc
  | esc _ _ x r hx _ ih => exact List.forall_mem_cons.2 ⟨isBareStop_bs, List.forall_mem_cons.2 ⟨hx, ih⟩⟩
  | opn _ _ r _ _ ih => exact List.forall_mem_cons.2 ⟨isBareStop_lp, ih⟩
  | cls _ _ r _ _ ih => exact List.forall_mem_cons.2 ⟨isBareStop_rp, ih⟩
  | plain _ _ c r hc _ _ _ _ ih => exact List.forall_mem_cons.2 ⟨hc, ih⟩

theorem BareToks.no_space {l l' : Nat} {raw : List Char} (h : BareToks l raw l') : ' ' ∉ raw := by
  intro hm
  have := h.no_ctrl ' ' hm
  rw [isBareStop_space] at this; cases this

theorem isBareStop_nl : isBareStop '\n' = true := by decide

theorem BareToks.no_lf {l l' : Nat} {raw : List Char} (h : BareToks l raw l') : '\n' ∉ raw := by
  intro hm
  have := h.no_ctrl '\n' hm
  rw [isBareStop_nl] at this; cases this

/-- byte view: a character that is not a stop character has no UTF-8 byte ≤ 0x20 and no 0x7F -/
theorem utf8Char_no_ctrl (c : Char) (hc : isBareStop c = false) :
    ∀ b ∈ utf8Char c, 32 < b ∧ b ≠ 127 := by
  simp only [isBareStop, Bool.or_eq_false_iff, decide_eq_false_iff_not, beq_eq_false_iff_ne] at hc
  intro b hb
  rcases utf8Char_mem c b hb with h | h <;> omega

theorem AngleToks.no_lf {raw : List Char} (h : AngleToks raw) : '\n' ∉ raw := by
  induction h with
  | nil => simp
  | esc x r hx _ ih =>
    simp only [List.mem_cons, not_or]
    exact ⟨by decide, fun e => hx e.symm, ih⟩
  | plain c r h1 _ _ _ _ ih =>
    simp only [List.mem_cons, not_or]
    exact ⟨fun e => h1 e.symm, ih⟩

/-- **C04 (`dest_no_ctrl`, strong form).** For a bare destination: the raw slice contains NO byte
    ≤ 0x20 and no 0x7F (hence no blank, no line ending, no control character, escaped or not);
    unescaped parentheses are balanced and never close below depth 0 (`BareToks 0 raw 0`). -/
theorem dest_no_ctrl (str : List Char) (start max : Nat) (f : Frag)
    (h : parseLinkDestination str start max = .ok (some f))
    (hb : ∀ chars, slice str start max = .ok chars → ∀ r, chars ≠ '<' :: r) :
    BareToks 0 f.raw 0 ∧ (∀ c ∈ f.raw, isBareStop c = false) ∧
      ∀ b ∈ utf8 f.raw, 32 < b ∧ b ≠ 127 := by
  obtain ⟨_, chars, hs, hc⟩ := dest_spec str start max f h
  rcases hc with ⟨suf, rfl, _⟩ | ⟨suf, _, _, _, ht, _, _⟩
  · exact absurd rfl (hb _ hs _)
  · refine ⟨ht, ht.no_ctrl, ?_⟩
    intro b hbm
    simp only [utf8, List.mem_flatMap] at hbm
    obtain ⟨c, hc, hbc⟩ := hbm
    exact utf8Char_no_ctrl c (ht.no_ctrl c hc) b hbc

/-- **C04 (`dest_lines_zero_sound`).** The raw slice of a successful destination — either form —
    contains no line feed, so the `lines: 0` it reports is exact.  (The reference-definition rule
    adds `res.lines` to find the end of the definition.) -/
theorem dest_lines_zero_sound (str : List Char) (start max : Nat) (f : Frag)
    (h : parseLinkDestination str start max = .ok (some f)) :
    f.lines = 0 ∧ '\n' ∉ f.raw ∧ f.lines = f.raw.count '\n' := by
  obtain ⟨hl, chars, hs, hc⟩ := dest_spec str start max f h
  have hno : '\n' ∉ f.raw := by
    rcases hc with ⟨_, _, _, ht, _⟩ | ⟨_, _, _, _, ht, _, _⟩
    · exact ht.no_lf
    · exact ht.no_lf
  exact ⟨hl, hno, by rw [hl, List.count_eq_zero.2 hno]⟩

/-! ## `parse_link_title` -/

/-- title text for closing marker `m`, with the number of line feeds the scanner counts:
    a line feed; backslash + any character (a line feed there is counted too); any other character
    except the marker, and except `(` in a `(…)` title -/
inductive TitleToks (m : Char) : List Char → Nat → Prop
  | nil : TitleToks m [] 0
  | nl (r : List Char) (n : Nat) : TitleToks m r n → TitleToks m ('\n' :: r) (n + 1)
  | esc (x : Char) (r : List Char) (n : Nat) : TitleToks m r n →
      TitleToks m ('\\' :: x :: r) (if x = '\n' then n + 1 else n)
  | plain (c : Char) (r : List Char) (n : Nat) : c ≠ m → ¬ (c = '(' ∧ m = ')') → c ≠ '\n' →
      c ≠ '\\' → TitleToks m r n → TitleToks m (c :: r) n

theorem titleLoop_spec (m : Char) (cs : List Char) (p0 l0 pos l : Nat)
    (h : titleLoop m cs p0 l0 = some (pos, l)) :
    ∃ pre suf n, cs = pre ++ m :: suf ∧ pos = p0 + byteLen pre ∧ l = l0 + n ∧ TitleToks m pre n := by
  fun_induction titleLoop m cs p0 l0 with
  | case1 => cases h
  | case2 cs p lv => cases h; exact ⟨[], cs, 0, rfl, by simp [byteLen], rfl, .nil⟩
  | case3 => cases h
  | case4 cs p lv _ _ ih =>
    obtain ⟨pre, suf, n, rfl, hp, hl, ht⟩ := ih h
    exact ⟨'\n' :: pre, suf, n + 1, rfl, by simp [byteLen, clen_nl]; omega, by omega, .nl pre n ht⟩
  | case5 => cases h
  | case6 p lv x cs _ _ _ ih =>
    obtain ⟨pre, suf, n, rfl, hp, hl, ht⟩ := ih h
    refine ⟨'\\' :: x :: pre, suf, _, rfl, by simp [byteLen, clen_bs]; omega, ?_, .esc x pre n ht⟩
    by_cases hx : x = '\n' <;> simp only [hx, if_true, if_false] at hl ⊢ <;> omega
  | case7 c cs p lv h1 h2 h3 h4 ih =>
    obtain ⟨pre, suf, n, rfl, hp, hl, ht⟩ := ih h
    exact ⟨c :: pre, suf, n, rfl, by simp [byteLen]; omega, hl, .plain c pre n h1 h2 h3 h4 ht⟩

/-- the converse of `titleLoop_spec` -/
theorem TitleToks.scan {m : Char} {pre : List Char} {n : Nat} (h : TitleToks m pre n) (hm : m ≠ '\n')
    (hm' : m ≠ '\\') (suf : List Char) (p0 l0 : Nat) :
    titleLoop m (pre ++ m :: suf) p0 l0 = some (p0 + byteLen pre, l0 + n) := by
  have e1 : ¬ ('\n' = '(' ∧ m = ')') := fun h => by cases h.1
  have e2 : ¬ ('\\' = '(' ∧ m = ')') := fun h => by cases h.1
  have e3 : ¬ ('\\' = '\n') := by decide
  induction h generalizing p0 l0 with
  | nil => rw [List.nil_append, titleLoop.eq_def]; simp [byteLen]
  | nl r n _ ih =>
    rw [List.cons_append, titleLoop.eq_def]
    simp only [hm.symm, if_false, e1, if_true, ih, byteLen, clen_nl]
    simp; omega
  | esc x r n _ ih =>
    rw [List.cons_append, List.cons_append, titleLoop.eq_def]
    simp only [hm'.symm, if_false, e2, e3, if_true, ih, byteLen, clen_bs]
    by_cases hx : x = '\n' <;> simp [hx] <;> omega
  | plain c r n h1 h2 h3 h4 _ ih =>
    rw [List.cons_append, titleLoop.eq_def]
    simp only [h1, h2, h3, h4, if_false, ih, byteLen]
    simp; omega

theorem titleMarker_some (o m : Char) (h : titleMarker o = some m) :
    (o = '"' ∧ m = '"') ∨ (o = '\'' ∧ m = '\'') ∨ (o = '(' ∧ m = ')') := by
  revert h
  fun_cases titleMarker o
  case case1 ho => intro h; cases h; exact Or.inl ⟨ho, rfl⟩
  case case2 _ ho => intro h; cases h; exact Or.inr (Or.inl ⟨ho, rfl⟩)
  case case3 _ _ ho => intro h; cases h; exact Or.inr (Or.inr ⟨ho, rfl⟩)
  case case4 => intro h; cases h

theorem titleMarker_clen (o m : Char) (h : titleMarker o = some m) : clen o = 1 ∧ clen m = 1 := by
  rcases titleMarker_some o m h with ⟨rfl, rfl⟩ | ⟨rfl, rfl⟩ | ⟨rfl, rfl⟩ <;> decide

theorem title_inner (str rest : List Char) (o m : Char) (start max pos l : Nat)
    (hm : titleMarker o = some m) (h1 : slice str start max = .ok (o :: rest))
    (h2 : titleLoop m rest (start + 1) 0 = some (pos, l)) :
    ∃ raw suf, rest = raw ++ m :: suf ∧ pos = start + 1 + byteLen raw ∧ TitleToks m raw l ∧
      slice str (start + 1) pos = .ok raw := by
  obtain ⟨raw, suf, n, rfl, hp, hl, ht⟩ := titleLoop_spec _ _ _ _ _ _ h2
  have h := (slice_cut (x := [o]) h1).2.1
  simp only [byteLen, (titleMarker_clen o m hm).1] at h
  exact ⟨raw, suf, rfl, hp, (show l = n by omega) ▸ ht, hp ▸ (slice_cut h).1⟩

/-- On a valid window `parse_link_title` does not panic, and a title it returns consumed, from
    `start`, exactly `o raw m` where `(o, m)` is one of `"…"`, `'…'`, `(…)`; `raw` has no unescaped
    `m` (nor an unescaped `(` in the parenthesised form); `pos` is just behind the closing marker,
    within `max`, on a character boundary. -/
theorem title_ok (str chars : List Char) (start max : Nat) (hs : slice str start max = .ok chars) :
    parseLinkTitle str start max = .ok none ∨
    ∃ f, parseLinkTitle str start max = .ok (some f) ∧
      ∃ o m suf, titleMarker o = some m ∧ chars = o :: f.raw ++ m :: suf ∧
        f.pos = start + byteLen f.raw + 2 ∧ TitleToks m f.raw f.lines ∧
        slice str start f.pos = .ok (o :: f.raw ++ [m]) ∧ f.pos ≤ max ∧ Boundary str f.pos := by
  fun_cases parseLinkTitle str start max
  case case1 e he => rw [hs] at he; cases he
  case case2 | case3 | case4 => exact Or.inl rfl
  case case5 o rest m hm pos l h2 e he h1 =>
    obtain ⟨_, _, _, _, _, hsl⟩ := title_inner str rest o m start max pos l hm h1 h2
    rw [hsl] at he; cases he
  case case6 o rest m hm pos l h2 raw' hr h1 =>
    obtain ⟨raw, suf, rfl, hp, ht, hsl⟩ := title_inner str rest o m start max pos l hm h1 h2
    rw [hsl] at hr; cases hr
    rw [hs] at h1; cases h1
    have hc := titleMarker_clen o m hm
    have hpos : pos + 1 = start + byteLen (o :: raw' ++ [m]) := by
      rw [byteLen_wrap _ _ _ hc.1 hc.2]; omega
    have hcut := slice_cut (x := o :: raw' ++ [m]) (y := suf) (by rw [List.append_assoc]; exact hs)
    rw [← hpos] at hcut
    exact Or.inr ⟨_, rfl, o, m, suf, hm, rfl, by simp only; omega, ht, hcut.1, hcut.2.2⟩

/-- **`parse_link_title` never panics on a valid window.** -/
theorem title_total (str chars : List Char) (start max : Nat) (h : slice str start max = .ok chars) :
    ∃ r, parseLinkTitle str start max = .ok r := by
  rcases title_ok str chars start max h with h | ⟨f, h, _⟩ <;> exact ⟨_, h⟩

theorem title_panics_iff (str : List Char) (start max : Nat) :
    parseLinkTitle str start max = .error .slice ↔ slice str start max = .error .slice := by
  constructor
  · intro h
    cases hs : slice str start max with
    | error e => cases e; rfl
    | ok chars =>
      obtain ⟨r, hr⟩ := title_total str chars start max hs
      rw [hr] at h; cases h
  · intro h
    unfold parseLinkTitle
    simp [h]

/-- **C04 (`title_delims`).** A successful title parse consumed, from `start`, exactly
    `o raw m` where `(o, m)` is one of `"…"`, `'…'`, `(…)`; `raw` has no unescaped `m` (nor an
    unescaped `(` in the parenthesised form); `pos` is just behind the closing marker, within
    `max`, on a character boundary; `lines` counts the line feeds of `raw` (`TitleToks.lines_eq`). -/
theorem title_delims (str : List Char) (start max : Nat) (f : Frag)
    (h : parseLinkTitle str start max = .ok (some f)) :
    ∃ o m suf, titleMarker o = some m ∧ slice str start max = .ok (o :: f.raw ++ m :: suf) ∧
      f.pos = start + byteLen f.raw + 2 ∧ TitleToks m f.raw f.lines ∧
      slice str start f.pos = .ok (o :: f.raw ++ [m]) ∧ f.pos ≤ max ∧ Boundary str f.pos := by
  cases hs : slice str start max with
  | error e => cases e; rw [(title_panics_iff str start max).2 hs] at h; cases h
  | ok chars =>
    rcases title_ok str chars start max hs with h0 | ⟨f', hf, o, m, suf, hm, rfl, rest⟩
    · rw [h0] at h; cases h
    · rw [hf] at h; cases h
      exact ⟨o, m, suf, hm, rfl, rest⟩

theorem TitleToks.lines_eq {m : Char} {raw : List Char} {n : Nat} (h : TitleToks m raw n) :
    n = raw.count '\n' := by
  induction h with
  | nil => simp
  | nl r n _ ih => simp [ih]
  | esc x r n _ ih =>
    rw [List.count_cons, List.count_cons, ← ih]
    have h1 : ('\\' == '\n') = false := by decide
    by_cases hx : x = '\n'
    · subst hx; simp
    · have h2 : (x == '\n') = false := by simpa using hx
      simp [h1, h2, hx]
  | plain c r n _ _ h3 _ _ ih =>
    have h2 : (c == '\n') = false := by simpa using h3
    rw [List.count_cons, ← ih]; simp [h2]

/-- **C04 (`title_lines_exact`).** `lines` of a successful title parse is the number of line feeds
    in the raw title (the reference-definition rule adds it to find the end of the definition). -/
theorem title_lines_exact (str : List Char) (start max : Nat) (f : Frag)
    (h : parseLinkTitle str start max = .ok (some f)) : f.lines = f.raw.count '\n' := by
  obtain ⟨_, _, _, _, _, _, ht, _⟩ := title_delims str start max f h
  exact ht.lines_eq

/-! ## a rejected destination never yields an inline link -/

/-- what the theorems below need to know about the decoder (`unescape_all`): it maps the empty
    text to the empty text, and it leaves a leading `"`, `'` or `(` in place (none of them is a
    backslash or an ampersand, the only characters at which the decoder's pattern can match). -/
structure DecOk (dec : List Char → List Char) : Prop where
  nil : dec [] = []
  opener : ∀ o m r, titleMarker o = some m → ∃ r', dec (o :: r) = o :: r'

theorem inlineDest_nil (dec : List Char → List Char) (hdec : DecOk dec) :
    inlineDest dec [] = some [] := by
  unfold inlineDest
  simp only [hdec.nil, utf8, List.flatMap_nil, normalizeLink, encodeL]
  rfl

theorem utf8_cons (c : Char) (r : List Char) : utf8 (c :: r) = utf8Char c ++ utf8 r := by
  simp [utf8]

/-- every alternative of `BAD_PROTO_RE` starts with a letter -/
theorem badProto_first (b : Nat) (t : List Nat) (h : badProto (b :: t) = true) :
    lower b = 118 ∨ lower b = 106 ∨ lower b = 102 ∨ lower b = 100 := by
  simp only [badProto, sVbscript, sJavascript, sFile, sData, List.cons_append, startsCI,
    Bool.or_eq_true, Bool.and_eq_true, beq_iff_eq] at h
  rcases h with ((h | h) | h) | h
  · exact Or.inl h.1
  · exact Or.inr (Or.inl h.1)
  · exact Or.inr (Or.inr (Or.inl h.1))
  · exact Or.inr (Or.inr (Or.inr h.1))

/-- a destination that starts with a title opener is never rejected: the normalised URL starts with
    the opener's byte or with `%`, not with a letter -/
theorem inlineDest_opener (dec : List Char → List Char) (hdec : DecOk dec) (o m : Char)
    (r : List Char) (hm : titleMarker o = some m) : inlineDest dec (o :: r) ≠ none := by
  obtain ⟨r', hr⟩ := hdec.opener o m r hm
  have ho : ∃ b, utf8Char o = [b] ∧ (b = 34 ∨ b = 39 ∨ b = 40) := by
    rcases titleMarker_some o m hm with ⟨rfl, _⟩ | ⟨rfl, _⟩ | ⟨rfl, _⟩
    · exact ⟨34, by decide, by decide⟩
    · exact ⟨39, by decide, by decide⟩
    · exact ⟨40, by decide, by decide⟩
  obtain ⟨b, ho, hb⟩ := ho
  have hbad : badProto (normalizeLink (utf8 (dec (o :: r)))) = false := by
    rw [hr, utf8_cons, ho, normalizeLink, List.singleton_append, ← Bool.not_eq_true]
    intro h
    obtain ⟨t, e | e⟩ := encodeL_head linkSafe b (utf8 r') <;> rw [e] at h <;>
      have := badProto_first _ _ h
    · rcases hb with rfl | rfl | rfl <;> exact absurd this (by decide)
    · exact absurd this (by decide)
  simp only [inlineDest, validateLink, hbad, Bool.not_false, Bool.true_or, if_true]
  exact Option.some_ne_none _

theorem isWs_stop (c : Char) (h : isWs c = true) : isBareStop c = true := by
  simp only [isWs, Bool.or_eq_true, beq_iff_eq] at h
  rcases h with (rfl | rfl) | rfl <;> decide

/-- a non-empty bare destination starts with a character that is neither a blank nor `)` -/
theorem bare_head (raw : List Char) (h : BareToks 0 raw 0) (hne : raw ≠ []) :
    ∃ c r, raw = c :: r ∧ isWs c = false ∧ c ≠ ')' := by
  cases h with
  | nil => exact absurd rfl hne
  | esc _ _ x r _ _ => exact ⟨'\\', x :: r, rfl, by decide, by decide⟩
  | opn _ _ r _ _ => exact ⟨'(', r, rfl, by decide, by decide⟩
  | cls _ _ r h0 _ => exact absurd rfl h0
  | plain _ _ c r hc _ _ h4 _ =>
    refine ⟨c, r, rfl, ?_, h4⟩
    cases hw : isWs c with
    | false => rfl
    | true => rw [isWs_stop c hw] at hc; cases hc

theorem slice_drop (src pre suf : List Char) (a max : Nat) (h : slice src a max = .ok (pre ++ suf)) :
    slice src (a + byteLen pre) max = .ok suf :=
  (slice_cut h).2.1

/-! ### the two parsers on a token string: the converses of `dest_spec` / `title_delims` -/

/-- `parse_link_destination` on a window `<raw>…` with `raw` a token string: the converse of the first case of
    `dest_spec` -/
theorem dest_of_angle {str raw suf : List Char} {start max : Nat} (h : AngleToks raw)
    (hs : slice str start max = .ok ('<' :: (raw ++ '>' :: suf))) :
    parseLinkDestination str start max = .ok (some ⟨start + 1 + byteLen raw + 1, 0, raw⟩) := by
  have S1 := slice_drop str ['<'] _ start max hs
  obtain ⟨S2, -, -, -⟩ := slice_cut (x := raw) (y := '>' :: suf) S1
  unfold parseLinkDestination
  rw [hs]
  simp only [h.scan suf (start + 1)]
  rw [show start + byteLen ['<'] = start + 1 from rfl] at S2
  simp only [S2]

/-- … with a bare token string that ends for one of the scanner's reasons: the converse of the second case -/
theorem dest_of_bare {str raw suf : List Char} {start max : Nat} (h : BareToks 0 raw 0) (he : BareEnd 0 suf)
    (hlt : ∀ r, raw ++ suf ≠ '<' :: r) (hs : slice str start max = .ok (raw ++ suf)) :
    parseLinkDestination str start max = .ok (some ⟨start + byteLen raw, 0, raw⟩) := by
  obtain ⟨S2, -, -, -⟩ := slice_cut hs
  have hscan := h.scan he start
  unfold parseLinkDestination
  rw [hs]
  dsimp only
  generalize raw ++ suf = chars at hlt hscan
  split
  · rename_i rest; exact absurd rfl (hlt rest)
  · simp only [hscan, S2]; rfl

/-- `parse_link_title` on a window `o raw m …`: the converse of `title_delims` -/
theorem title_of_toks {str raw suf : List Char} {o m : Char} {n start max : Nat}
    (hom : titleMarker o = some m) (h : TitleToks m raw n)
    (hs : slice str start max = .ok (o :: (raw ++ m :: suf))) :
    parseLinkTitle str start max = .ok (some ⟨start + 1 + byteLen raw + 1, n, raw⟩) := by
  have hc := titleMarker_clen o m hom
  have hmm : m ≠ '\n' ∧ m ≠ '\\' := by
    rcases titleMarker_some o m hom with ⟨_, rfl⟩ | ⟨_, rfl⟩ | ⟨_, rfl⟩ <;> exact ⟨by decide, by decide⟩
  have S1 := slice_drop str [o] _ start max hs
  rw [show start + byteLen [o] = start + 1 by simp [byteLen, hc.1]] at S1
  obtain ⟨S2, -, -, -⟩ := slice_cut (x := raw) (y := m :: suf) S1
  unfold parseLinkTitle
  rw [hs]
  simp only [hom, h.scan hmm.1 hmm.2 suf (start + 1) 0, S2, Nat.zero_add]

/-- a destination that starts with `)` is the empty bare destination -/
theorem dest_of_rparen (src r : List Char) (p max : Nat) (h : slice src p max = .ok (')' :: r)) :
    parseLinkDestination src p max = .ok (some ⟨p, 0, []⟩) :=
  dest_of_bare (raw := []) (.nil 0) (.inr (.inr (.inr (.inr ⟨rfl, r, rfl⟩)))) (by intro r' h'; cases h') h

/-- the window of a successfully parsed destination starts with `<` or with the first character of
    a non-empty bare destination, unless the bare destination is empty -/
theorem dest_window_head (src : List Char) (p max : Nat) (res : Frag)
    (hd : parseLinkDestination src p max = .ok (some res)) :
    ∃ chars, slice src p max = .ok chars ∧
      ((∃ r, chars = '<' :: r) ∨ res.raw = [] ∨
        (∃ c r suf, res.raw = c :: r ∧ chars = c :: r ++ suf ∧ isWs c = false ∧ c ≠ ')' ∧ c ≠ '<')) := by
  obtain ⟨_, chars, hs, hc⟩ := dest_spec src p max res hd
  refine ⟨chars, hs, ?_⟩
  rcases hc with ⟨suf, rfl, _⟩ | ⟨suf, hch, hne, _, ht, _, _⟩
  · exact Or.inl ⟨_, rfl⟩
  · by_cases hraw : res.raw = []
    · exact Or.inr (Or.inl hraw)
    · obtain ⟨c, r, hr, hw, hp⟩ := bare_head res.raw ht hraw
      refine Or.inr (Or.inr ⟨c, r, suf, hr, by rw [hch, hr], hw, hp, ?_⟩)
      rintro rfl
      exact hne (r ++ suf) (by rw [hch, hr]; rfl)

theorem skipWs_nonws (c : Char) (r : List Char) (p : Nat) (h : isWs c = false) :
    skipWs (c :: r) p = p := by
  simp [skipWs, h]

/-- the title part hands the `href` through unchanged -/
theorem titlePart_href (dec : List Char → List Char) (src : List Char) (max p : Nat)
    (href h' : Option (List Nat)) (title : Option (List Char)) (p4 : Nat)
    (hst : inlineTitlePart dec src max href p = .ok (h', title, p4)) : h' = href := by
  revert hst
  fun_cases inlineTitlePart dec src max href p
  case case3 | case5 => intro hst; injection hst with hst; injection hst with hst; exact hst.symm
  all_goals intro hst; cases hst

/-- after an ACCEPTED destination the stage reports that `href` -/
theorem afterDest_accepted (dec : List Char → List Char) (src : List Char) (p max : Nat) (res : Frag)
    (u : List Nat) (hacc : inlineDest dec res.raw = some u) (href : Option (List Nat))
    (title : Option (List Char)) (p4 : Nat)
    (hst : inlineAfterDest dec src p max res = .ok (href, title, p4)) : href = some u := by
  unfold inlineAfterDest at hst
  simp only [hacc] at hst
  exact titlePart_href dec src max res.pos (some u) href title p4 hst

/-- after a REJECTED destination the scan cannot reach a closing `)` -/
theorem afterDest_rejected (dec : List Char → List Char) (hdec : DecOk dec) (src : List Char)
    (p max : Nat) (res : Frag) (hd : parseLinkDestination src p max = .ok (some res))
    (hrej : inlineDest dec res.raw = none) (href : Option (List Nat)) (title : Option (List Char))
    (p4 : Nat) (hst : inlineAfterDest dec src p max res = .ok (href, title, p4)) (r : List Char)
    (hfin : slice src p4 max = .ok (')' :: r)) : False := by
  obtain ⟨chars, hs, hhead⟩ := dest_window_head src p max res hd
  -- the window starts with a non-blank character `c0` that is not `)`, and, in the bare form,
  -- is the first character of the raw destination
  have hc0 : ∃ c0 rest, chars = c0 :: rest ∧ isWs c0 = false ∧ c0 ≠ ')' ∧
      (c0 = '<' ∨ ∃ r', res.raw = c0 :: r') := by
    rcases hhead with ⟨r', rfl⟩ | hnil | ⟨c, r', suf, hr, hch, hw, hp, _⟩
    · exact ⟨'<', r', rfl, by decide, by decide, Or.inl rfl⟩
    · rw [hnil, inlineDest_nil dec hdec] at hrej; cases hrej
    · exact ⟨c, r' ++ suf, by simpa using hch, hw, hp, Or.inr ⟨r', hr⟩⟩
  obtain ⟨c0, rest, rfl, hw, hp, hform⟩ := hc0
  unfold inlineAfterDest at hst
  simp only [hrej] at hst
  unfold inlineTitlePart at hst
  simp only [hs, skipWs_nonws c0 rest p hw] at hst
  cases ht : parseLinkTitle src p max with
  | error e => simp [ht] at hst
  | ok topt =>
    cases topt with
    | none =>
      simp only [ht, Except.ok.injEq, Prod.mk.injEq] at hst
      obtain ⟨_, _, rfl⟩ := hst
      rw [hs] at hfin
      cases hfin
      exact hp rfl
    | some t =>
      obtain ⟨o, m, suf, hm, hsl, _⟩ := title_delims src p max t ht
      rw [hs] at hsl
      simp only [Except.ok.injEq, List.cons_append, List.cons.injEq] at hsl
      obtain ⟨rfl, _⟩ := hsl
      rcases hform with rfl | ⟨r', hr'⟩
      · have hlt : titleMarker '<' = none := by decide
        rw [hlt] at hm; cases hm
      · rw [hr'] at hrej
        exact inlineDest_opener dec hdec c0 m r' hm hrej

/-- **C04 (a rejected destination stays literal text; every inline link has a safe `href`).**
    Whenever `parse_link` returns from its inline branch `[label](dest "title")`, the destination
    was ACCEPTED: `href` is `Some(u)` with `u` not dangerous.  In particular a construct whose
    destination is rejected is not turned into a link by this branch (what remains is the
    reference lookup for `[label]`, whose destination went through `refDest`). -/
theorem rejected_stays_literal (dec : List Char → List Char) (hdec : DecOk dec) (src : List Char)
    (pos max : Nat) (l : InlineLink) (h : parseInlineTail dec src pos max = .ok (some l)) :
    ∃ u, l.href = some u ∧ dangerous u = false := by
  revert h
  fun_cases parseInlineTail dec src pos max
  case case5 rest p1 dest hd stage href title p4 hst r hfin _ =>
    intro h; cases h
    clear_value p1
    cases dest with
    | none =>
      have hst : Except.ok (none, none, p1) = Except.ok (href, title, p4) := hst
      cases hst
      rw [dest_of_rparen src r p1 max hfin] at hd; cases hd
    | some res =>
      have hst : inlineAfterDest dec src p1 max res = .ok (href, title, p4) := hst
      cases hacc : inlineDest dec res.raw with
      | some u =>
        exact ⟨u, afterDest_accepted dec src p1 max res u hacc href title p4 hst,
          pipeline_safe dec res.raw u hacc⟩
      | none =>
        exact (afterDest_rejected dec hdec src p1 max res hd hacc href title p4 hst r hfin).elim
  all_goals intro h; cases h

/-! ## the inline branch never panics on a valid window -/

/-- `p` is a position from which `src[p..max]` can be taken -/
def InWin (src : List Char) (max p : Nat) : Prop := ∃ t, slice src p max = .ok t

theorem isWs_clen (c : Char) (h : isWs c = true) : clen c = 1 := by
  simp only [isWs, Bool.or_eq_true, beq_iff_eq] at h
  rcases h with (rfl | rfl) | rfl <;> decide

theorem skipWs_spec (cs : List Char) (p : Nat) :
    ∃ pre suf, cs = pre ++ suf ∧ skipWs cs p = p + byteLen pre := by
  induction cs generalizing p with
  | nil => exact ⟨[], [], rfl, by simp [skipWs, byteLen]⟩
  | cons c cs ih =>
    cases hw : isWs c with
    | false => exact ⟨[], c :: cs, rfl, by simp [skipWs, hw, byteLen]⟩
    | true =>
      obtain ⟨pre, suf, rfl, hp⟩ := ih (p + 1)
      exact ⟨c :: pre, suf, rfl, by simp [skipWs, hw, hp, byteLen, isWs_clen c hw]; omega⟩

theorem inwin_skipWs (src cs : List Char) (max p : Nat) (h : slice src p max = .ok cs) :
    InWin src max (skipWs cs p) := by
  obtain ⟨pre, suf, rfl, hp⟩ := skipWs_spec cs p
  exact ⟨suf, hp ▸ slice_drop src pre suf p max h⟩

theorem inwin_dest (src : List Char) (p max : Nat) (res : Frag)
    (h : parseLinkDestination src p max = .ok (some res)) : InWin src max res.pos := by
  obtain ⟨x, suf, hs, hp⟩ := dest_consumed src p max res h
  exact ⟨suf, hp ▸ (slice_cut hs).2.1⟩

theorem inwin_title (src : List Char) (p max : Nat) (t : Frag)
    (h : parseLinkTitle src p max = .ok (some t)) : InWin src max t.pos := by
  obtain ⟨o, m, suf, hm, hs, hp, _⟩ := title_delims src p max t h
  have hc := titleMarker_clen o m hm
  have := (slice_cut (x := o :: t.raw ++ [m]) (y := suf) (by simpa using hs)).2.1
  rw [byteLen_wrap _ _ _ hc.1 hc.2, ← Nat.add_assoc, ← hp] at this
  exact ⟨suf, this⟩

theorem titlePart_total (dec : List Char → List Char) (src : List Char) (max : Nat)
    (href : Option (List Nat)) (p : Nat) (hp : InWin src max p) :
    ∃ title p4, inlineTitlePart dec src max href p = .ok (href, title, p4) ∧ InWin src max p4 := by
  obtain ⟨chars, hs⟩ := hp
  unfold inlineTitlePart
  simp only [hs]
  have hw := inwin_skipWs src chars max p hs
  generalize skipWs chars p = p3 at hw ⊢
  obtain ⟨c3, hs3⟩ := hw
  obtain ⟨tr, ht⟩ := title_total src c3 p3 max hs3
  simp only [ht]
  cases tr with
  | none => exact ⟨_, _, rfl, c3, hs3⟩
  | some t =>
    obtain ⟨c4, hs4⟩ := inwin_title src p3 max t ht
    simp only [hs4]
    exact ⟨_, _, rfl, inwin_skipWs src c4 max t.pos hs4⟩

theorem afterDest_total (dec : List Char → List Char) (src : List Char) (p max : Nat) (res : Frag)
    (hp : InWin src max p) (hd : parseLinkDestination src p max = .ok (some res)) :
    ∃ href title p4, inlineAfterDest dec src p max res = .ok (href, title, p4) ∧
      InWin src max p4 := by
  unfold inlineAfterDest
  split
  · exact ⟨_, titlePart_total dec src max _ res.pos (inwin_dest src p max res hd)⟩
  · exact ⟨_, titlePart_total dec src max _ p hp⟩

/-- **the inline branch of `parse_link` never panics**: if the first slicing `src[pos..max]` is in
    range (which the caller guarantees), so is every later one. -/
theorem tail_total (dec : List Char → List Char) (src chars : List Char) (pos max : Nat)
    (h : slice src pos max = .ok chars) : ∃ r, parseInlineTail dec src pos max = .ok r := by
  unfold parseInlineTail
  simp only [h]
  split
  · rename_i rest
    have hrest : slice src (pos + 1) max = .ok rest := by
      have := slice_drop src ['('] rest pos max (by simpa using h)
      simpa [byteLen, clen_lp] using this
    have hw := inwin_skipWs src rest max (pos + 1) hrest
    generalize skipWs rest (pos + 1) = p1 at hw ⊢
    obtain ⟨c1, hs1⟩ := hw
    obtain ⟨dr, hd⟩ := dest_total src c1 p1 max hs1
    simp only [hd]
    cases dr with
    | none =>
      simp only [hs1]
      split
      · rename_i heq; cases heq
      · exact ⟨_, rfl⟩
      · exact ⟨_, rfl⟩
    | some res =>
      obtain ⟨href, title, p4, hst, c4, hs4⟩ := afterDest_total dec src p1 max res ⟨c1, hs1⟩ hd
      simp only [hst, hs4]
      split
      · rename_i heq; cases heq
      · exact ⟨_, rfl⟩
      · exact ⟨_, rfl⟩
  · exact ⟨_, rfl⟩

/-! ### the parsers on concrete text (non-vacuity of the theorems above) -/

section ParserExamples

/-- decidable equality of parser results, for the `decide`d examples only -/
def resultDecEq {α : Type} [DecidableEq α] (a b : Except Panic α) : Decidable (a = b) := inferInstance

local instance {α : Type} [DecidableEq α] : DecidableEq (Except Panic α) := resultDecEq

/-- `<a b>) x` from 0: angle form, raw `a b`, `pos` behind the `>` -/
example : parseLinkDestination ['<', 'a', ' ', 'b', '>', ')', ' ', 'x'] 0 8 =
    .ok (some ⟨5, 0, ['a', ' ', 'b']⟩) := by decide +kernel

/-- `[a](/u(r)l "t")` from 4: bare form, stops at the space -/
example : parseLinkDestination
    ['[', 'a', ']', '(', '/', 'u', '(', 'r', ')', 'l', ' ', '"', 't', '"', ')'] 4 15 =
    .ok (some ⟨10, 0, ['/', 'u', '(', 'r', ')', 'l']⟩) := by decide +kernel

/-- `é)`: two-byte character, bare form stops at the unbalanced `)` at byte 2 -/
example : parseLinkDestination ['é', ')'] 0 3 = .ok (some ⟨2, 0, ['é']⟩) := by decide +kernel

/-- … and `start = 1` is inside `é`: the Rust slicing panics, the model says so -/
example : parseLinkDestination ['é', ')'] 1 3 = .error .slice := by decide
example : parseLinkDestination ['a'] 0 2 = .error .slice := by decide
example : parseLinkDestination ['a', 'b'] 2 1 = .error .slice := by decide

/-- 32 nested parentheses are accepted, 33 are not -/
example : parseLinkDestination (List.replicate 32 '(' ++ List.replicate 32 ')') 0 64 =
    .ok (some ⟨64, 0, List.replicate 32 '(' ++ List.replicate 32 ')'⟩) := by decide +kernel
example : parseLinkDestination (List.replicate 33 '(' ++ List.replicate 33 ')') 0 66 = .ok none := by decide +kernel

/-- unbalanced `(`: no destination -/
example : parseLinkDestination ['(', 'a'] 0 2 = .ok none := by decide +kernel

/-- `b\<TAB>c)` and `b\ c)`: a backslash does not escape a blank or a control character, the
    destination ends BEFORE the backslash (`dest_no_ctrl`); `b\)c)` keeps the escaped `)` -/
example : parseLinkDestination ['b', '\\', '\t', 'c', ')'] 0 5 = .ok (some ⟨1, 0, ['b']⟩) := by decide +kernel
example : parseLinkDestination ['b', '\\', ' ', 'c', ')'] 0 5 = .ok (some ⟨1, 0, ['b']⟩) := by decide +kernel
example : parseLinkDestination ['b', '\\', '\n', 'c', ')'] 0 5 = .ok (some ⟨1, 0, ['b']⟩) := by decide +kernel
example : parseLinkDestination ['b', '\\', ')', 'c', ')'] 0 5 =
    .ok (some ⟨4, 0, ['b', '\\', ')', 'c']⟩) := by decide +kernel

/-- `<b\<LF>c>` and `<b<LF>c>`: no line feed inside `<…>`, escaped or not
    (`dest_lines_zero_sound`); `<b\>c>` keeps the escaped `>` -/
example : parseLinkDestination ['<', 'b', '\\', '\n', 'c', '>'] 0 6 = .ok none := by decide +kernel
example : parseLinkDestination ['<', 'b', '\n', 'c', '>'] 0 5 = .ok none := by decide +kernel
example : parseLinkDestination ['<', 'b', '\\', '>', 'c', '>'] 0 6 =
    .ok (some ⟨6, 0, ['b', '\\', '>', 'c']⟩) := by decide +kernel

/-- titles: the three delimiter pairs -/
example : parseLinkTitle ['"', 't', '"', ')'] 0 4 = .ok (some ⟨3, 0, ['t']⟩) := by decide +kernel
example : parseLinkTitle ['\'', 't', '"', '\'', ')'] 0 5 = .ok (some ⟨4, 0, ['t', '"']⟩) := by decide +kernel
example : parseLinkTitle ['(', 't', '\\', ')', ')', ')'] 0 6 = .ok (some ⟨5, 0, ['t', '\\', ')']⟩) := by
  decide +kernel
example : parseLinkTitle ['(', 't', '(', ')'] 0 4 = .ok none := by decide +kernel
example : parseLinkTitle ['"', 't'] 0 2 = .ok none := by decide +kernel
example : parseLinkTitle ['x', '"'] 0 2 = .ok none := by decide +kernel

/-- a plain line feed is counted … -/
example : parseLinkTitle ['"', 'a', '\n', 'b', '"'] 0 5 = .ok (some ⟨5, 1, ['a', '\n', 'b']⟩) := by
  decide +kernel

/-- … and so is a line feed behind a backslash (`title_lines_exact`: `lines` = number of line
    feeds in the raw title) -/
example : parseLinkTitle ['"', 'a', '\\', '\n', 'b', '"'] 0 6 =
    .ok (some ⟨6, 1, ['a', '\\', '\n', 'b']⟩) := by decide +kernel
example : List.count '\n' ['a', '\\', '\n', 'b'] = 1 := by decide +kernel

/-- negation witness: the title loop as it was before commit 5a0c4fb reports `lines = 0` for the
    same text — `title_lines_exact` fails for it (`reference.rs` then ended the definition one
    line early: `[a]: /u "foo\<LF>bar"` stored the two-line title AND re-read `bar"` as a paragraph) -/
example : titleLoopPinned '"' ['a', '\\', '\n', 'b', '"'] 1 0 = some (5, 0) := by decide +kernel
example : titleLoop '"' ['a', '\\', '\n', 'b', '"'] 1 0 = some (5, 1) := by decide +kernel

/-- `DecOk` is satisfiable (the identity decoder); `unescape_all` satisfies it because neither a
    title opener nor the empty text contains a backslash or an ampersand -/
example : DecOk id := ⟨rfl, fun _ _ r _ => ⟨r, rfl⟩⟩

/-- `[a](javascript:x)`, `[a](<JAVASCRIPT:x>)`, `[a](data:text/html,x "t")`: the inline form fails -/
example : parseInlineTail id ['(', 'j', 'a', 'v', 'a', 's', 'c', 'r', 'i', 'p', 't', ':', 'x', ')'] 0 14 =
    .ok none := by decide +kernel
example : parseInlineTail id ['(', '<', 'J', 'A', 'V', 'A', 'S', 'C', 'R', 'I', 'P', 'T', ':', 'x', '>', ')'] 0 16 =
    .ok none := by decide +kernel
example : parseInlineTail id
    ['(', 'd', 'a', 't', 'a', ':', 't', 'e', 'x', 't', '/', 'h', 't', 'm', 'l', ',', 'x', ' ', '"', 't', '"', ')'] 0 22 =
    .ok none := by decide +kernel

/-- `[a]( /u "t" )`: link to `/u` with title `t`, ends behind the `)` (so `rejected_stays_literal`
    is not vacuous) -/
example : parseInlineTail id ['(', ' ', '/', 'u', ' ', '"', 't', '"', ' ', ')'] 0 10 =
    .ok (some ⟨some [47, 117], some ['t'], 10⟩) := by decide +kernel

/-- `[a]()`: empty destination, accepted -/
example : parseInlineTail id ['(', ')'] 0 2 = .ok (some ⟨some [], none, 2⟩) := by decide +kernel

/-- quirk: a title directly behind a `<…>` destination, without a blank, is accepted -/
example : parseInlineTail id ['(', '<', 'b', '>', '"', 't', '"', ')'] 0 8 =
    .ok (some ⟨some [98], some ['t'], 8⟩) := by decide +kernel

end ParserExamples

end MdIt.Link
