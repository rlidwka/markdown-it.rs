/-
  Theorems about the block-parser model `MdIt.Model.Block` that other property files cite
  (C01 progress / termination, C16 look-ahead, C11 code content, C14 list shape).

  Conventions.  The rules that call back into the parser are parameterised by the nested tokenizer
  `tok` and the look-ahead `test` (see the model); the theorems about them assume

      TestPure test   the look-ahead returns the state it was given          (`testRules_pure`)
      TokSpec tok     every run hands the frame back and moves `line` forward, within `line_max`

  `tokenize_spec` proves the four facts of `TokSpec` of the tokenizer itself, by induction on the fuel,
  in the form `TokPost s s'` (the same facts about ONE run: `TokSpec.of_post`, `tokenize_tokSpec`;
  `tokenize_progress` is the conjunction written out), so that the `tokenize_*`, `testRules_*` and
  `ruleAt_*` theorems are unconditional.  Every statement is conditional on the
  model returning `.ok …` (absence of panics is C01's composition), for ALL sources, configurations,
  chains and fuels.

  Section index:
    1  tactics / monad lemmas
    2  `<rule>_ok`: what a successful run of a rule or scan went through; `runChainG_first`: the first
       rule of a chain that does not decline (stated for `BlockH.runChainG`, the chain over any type of
       rule ids of `Model/BlockH.lean`; the chain of the nine rules is `runChain_eq_G`,
       `Lemmas/ExceptRel.lean`)
    3  `silent_pure_<rule>`, `testRules_pure`
    4  `silent_implies_real_<rule>`
    5  `lazyScan_spec`; a container that answers `false` leaves the state alone
    6  `Frame`; the table invariant (`LineOk`, `TableOk`, `tableOk_fresh`, what the containers' rewriting
       of an entry keeps); `TokSpec`, `Advanced`
    7  progress: the scans (`codeScan_spec`, `fenceScan_spec`, `bqScan_spec`), the containers
       (`blockquote_advanced`, `list_advanced`), line-feed counting for the reference rule (`nl`, `Pref`,
       `refParse_lines`, `getLines_nl`); `FlatStep`: what a real-mode run of one of the seven rules that
       do not nest does to the state (`flatRule_step`)
    8  `tokenize_progress` (`tokLoop_spec`, `tokenize_spec`), `block_rule_progress_<rule>`
    9  non-vacuity examples
   10  C11: `fence_verbatim`, `indented_verbatim`
   11  what a container pushes in real mode (`blockquote_children`, `list_children`), `tokLoop_keeps`;
       C14: `Shaped` (`list_shape` is in `Props/Pipeline.lean` part A)
   12  fuel monotonicity (`tokenize_mono`), also restricted to levels (`*_monoL`)
   13  `tokenize_exit`
-/
import MdIt.Model.Block
import MdIt.Lemmas.ExceptRel
import MdIt.Props.C10
import MdIt.Props.C04

namespace MdIt

/-! Results of `Except` read off their `toOption`, which is what a non-vacuity example evaluates. -/

theorem ok_of_isSome {ε α : Type} {x : Except ε α} (h : x.toOption.isSome = true) : ∃ t, x = .ok t := by
  cases x with
  | ok t => exact ⟨t, rfl⟩
  | error e => cases h

theorem ok_of_map {ε α β : Type} {x : Except ε α} {f : α → β} {y : β} (h : x.toOption.map f = some y) :
    ∃ t, x = .ok t := by
  cases x with
  | ok t => exact ⟨t, rfl⟩
  | error e => cases h

theorem ok_and {ε α : Type} {x : Except ε α} {P : α → Prop} (h : ∃ t, x = .ok t)
    (hP : ∀ t, x = .ok t → P t) : ∃ t, x = .ok t ∧ P t :=
  h.elim fun t ht => ⟨t, ht, hP t ht⟩

theorem Block.C12D.ok_of_toOption {ε α : Type} {x : Except ε α} {a : α} (h : x.toOption = some a) : x = .ok a := by
  cases x with
  | error e => simp [Except.toOption] at h
  | ok b => simp [Except.toOption] at h; rw [h]

end MdIt

namespace MdIt.Block
open MdIt.Lines (LineOffset)

/-! ## 1. tactics -/

theorem bind_ok {α β : Type} {x : Except Panic α} {f : α → Except Panic β} {b : β} :
    (x >>= f) = .ok b ↔ ∃ a, x = .ok a ∧ f a = .ok b := by
  cases x with
  | error e => simp [bind, Except.bind]
  | ok a => simp [bind, Except.bind]

theorem pure_ok {α : Type} {a b : α} : (pure a : Except Panic α) = .ok b ↔ a = b := by
  simp [pure, Except.pure]

theorem map_ok {α β : Type} {x : Except Panic α} {f : α → β} {b : β} :
    (f <$> x) = .ok b ↔ ∃ a, x = .ok a ∧ f a = b := by
  cases x with
  | error e => simp [Functor.map, Except.map]
  | ok a => simp [Functor.map, Except.map]

@[simp] theorem ok_bind {α β : Type} (a : α) (f : α → Except Panic β) : (Except.ok a >>= f) = f a := rfl

theorem ite_ok {α : Type} {c : Prop} [Decidable c] {x y : Except Panic α} {b : α}
    (h : (if c then x else y) = .ok b) : (c ∧ x = .ok b) ∨ (¬c ∧ y = .ok b) := by
  by_cases hc : c
  · exact .inl ⟨hc, by rwa [if_pos hc] at h⟩
  · exact .inr ⟨hc, by rwa [if_neg hc] at h⟩

/-- take a hypothesis `h : <do-block> = .ok r` apart: one goal per successful path, with one
    hypothesis per `←`, per branch condition and per `match`.  For the short string helpers (`refTitle`,
    `refTrail`, `refParse`, `detectMarker`), where every path is wanted at once; a rule or a scan is walked
    statement by statement instead (section 2): on a long `do` block every `split` re-simplifies the whole
    hypothesis. -/
syntax "crack " ident : tactic
macro_rules
| `(tactic| crack $h:ident) => `(tactic|
  repeat' (first
    | contradiction
    | (simp only [bind_ok, map_ok, pure_ok, reduceCtorEq, Prod.mk.injEq, Bool.false_eq_true, Bool.true_eq_false,
        false_and, and_false, true_and, and_true, if_false, if_true, Except.ok.injEq] at $h:ident)
    | (rcases $h:ident with ⟨_, _, $h:ident⟩)
    | (refine Or.elim (ite_ok $h:ident) ?_ ?_ <;> clear $h:ident <;> rintro ⟨_, $h:ident⟩)
    | split at $h:ident))

theorem liftL_eq_ok {α : Type} {x : Except Lines.Panic α} {a : α} (h : liftL x = .ok a) : x = .ok a := by
  cases x with
  | error e => cases e <;> simp [liftL] at h
  | ok v => simp [liftL] at h; rw [h]

theorem liftK_ok {α : Type} {x : Except Link.Panic α} {a : α} (h : liftK x = .ok a) : x = .ok a := by
  cases x with
  | error e => cases e; simp [liftK] at h
  | ok v => simp [liftK] at h; rw [h]

theorem psub_ok {a b c : Nat} (h : psub a b = .ok c) : b ≤ a ∧ c = a - b := by
  unfold psub at h
  split at h
  · simp at h; exact ⟨by assumption, h.symm⟩
  · cases h

theorem psub_eq {a b : Nat} (h : b ≤ a) : psub a b = .ok (a - b) := by simp [psub, h]

theorem isDigit_size {c : Char} (h : isDigit c = true) : c.utf8Size = 1 := by
  simp only [isDigit, Bool.and_eq_true, decide_eq_true_eq] at h
  have : c.val.toNat ≤ 57 := h.2
  rw [Char.utf8Size_eq_one_iff, UInt32.le_iff_toNat_le]
  simp
  omega

theorem usizeAsI32_small {n : Nat} (h : n < 2147483648) : Lines.usizeAsI32 n = (n : Int) := by
  simp [Lines.usizeAsI32]; omega

theorem getMap_ok5 {s : BState} {a b : Nat} {r : Nat × Nat} (h : s.getMap a b = .ok r) :
    a ≤ b ∧ ∃ oa ob, s.offs[a]? = some oa ∧ s.offs[b]? = some ob ∧ r = (oa.firstNonspace, ob.lineEnd) := by
  unfold BState.getMap Lines.getMap at h
  split at h
  · simp [liftL] at h
  · split at h
    · rename_i oa ob ha hb
      simp [liftL] at h
      exact ⟨by omega, oa, ob, ha, hb, h.symm⟩
    · simp [liftL] at h

theorem getMap_ok {s : BState} {a b : Nat} {r : Nat × Nat} (h : s.getMap a b = .ok r) :
    ∃ oa ob, s.offs[a]? = some oa ∧ s.offs[b]? = some ob ∧ r = (oa.firstNonspace, ob.lineEnd) :=
  (getMap_ok5 h).2

theorem set_line_back (s : BState) (n : Nat) : { { s with line := n } with line := s.line } = s := by
  cases s; rfl

theorem setOff_ok {s s' : BState} {i : Nat} {o : LineOffset} (h : s.setOff i o = .ok s') :
    i < s.offs.length ∧ s' = { s with offs := s.offs.set i o } := by
  unfold BState.setOff at h
  split at h
  · simp at h; exact ⟨by assumption, h.symm⟩
  · cases h

theorem off_ok {s : BState} {i : Nat} {o : LineOffset} (h : s.off i = .ok o) :
    s.offs[i]? = some o := by
  unfold BState.off at h
  split at h
  · simp at h; simp_all
  · cases h

/-! ## 2. what a successful run of each rule went through

  One lemma per rule and per scan: from `… = .ok …` to the reads that succeeded (with their values),
  the branch taken and the resulting state.  They are proved by walking down the `do` block one
  statement at a time (`bind_ok`, `ite_ok`, case analysis on the matched value), which touches only
  the head of the term.  Whatever is said of ONE successful run (purity, frames, progress, what is
  pushed: sections 3, 5, 7, 11) starts from the rule's lemma here.  A statement that has the rule in
  its CONCLUSION — the real run behind a silent `true` (section 4), the same run with other call-backs
  or more fuel (section 12), the value of a rule on a given document (section 10), and outside this
  file look-ahead congruence and the error lemmas `<rule>_err` — unfolds the rule and walks its text
  on the goal instead: an inversion lemma gives facts about a run that succeeded, not the shape of a
  run still to be made. -/

theorem declined_ok {s s' : BState} {b : Bool} (h : (pure (false, s) : Res) = .ok (b, s')) :
    b = false ∧ s' = s := by
  cases h; exact ⟨rfl, rfl⟩

theorem hrRule_ok {s s' : BState} {silent b : Bool} (h : hrRule s silent = .ok (b, s')) :
    (b = false ∧ s' = s) ∨
    ∃ ind marker rest cnt, s.lineIndent s.line = .ok ind ∧ ind < 4 ∧
      s.getLine s.line = .ok (marker :: rest) ∧ (marker = '*' ∨ marker = '-' ∨ marker = '_') ∧
      hrCount marker rest 1 = some cnt ∧ 3 ≤ cnt ∧ b = true ∧
      ((silent = true ∧ s' = s) ∨
       (silent = false ∧ ∃ r, s.getMap s.line s.line = .ok r ∧
          s' = { s.push ⟨.hr marker cnt, some r, []⟩ with line := s.line + 1 })) := by
  unfold hrRule at h
  obtain ⟨ind, hind, h⟩ := bind_ok.mp h
  rcases ite_ok h with ⟨_, h⟩ | ⟨hlt, h⟩
  · exact .inl (declined_ok h)
  obtain ⟨line, hline, h⟩ := bind_ok.mp h
  rcases line with _ | ⟨marker, rest⟩
  · exact .inl (declined_ok h)
  rcases ite_ok h with ⟨_, h⟩ | ⟨hm, h⟩
  · exact .inl (declined_ok h)
  generalize hc : hrCount marker rest 1 = c at h
  rcases c with _ | cnt
  · exact .inl (declined_ok h)
  rcases ite_ok h with ⟨_, h⟩ | ⟨h3, h⟩
  · exact .inl (declined_ok h)
  refine .inr ⟨ind, marker, rest, cnt, hind, Int.not_le.mp hlt, hline, Decidable.not_not.mp hm, hc,
    Nat.not_lt.mp h3, ?_⟩
  rcases ite_ok h with ⟨hs, h⟩ | ⟨hs, h⟩
  · cases h; exact ⟨rfl, .inl ⟨hs, rfl⟩⟩
  obtain ⟨r, hr, h⟩ := bind_ok.mp h
  cases h
  exact ⟨rfl, .inr ⟨Bool.eq_false_iff.mpr hs, r, hr, rfl⟩⟩

theorem headingRule_ok {s s' : BState} {silent b : Bool} (h : headingRule s silent = .ok (b, s')) :
    (b = false ∧ s' = s) ∨
    ∃ ind line level textPos rest, s.lineIndent s.line = .ok ind ∧ ind < 4 ∧
      s.getLine s.line = .ok line ∧ line.head? = some '#' ∧
      atxOpen line 0 = some (level, textPos, rest) ∧ b = true ∧
      ((silent = true ∧ s' = s) ∨
       (silent = false ∧ ∃ content o r,
          liftL (Lines.slice line textPos (atxTextMax line rest textPos)) = .ok content ∧
          s.off s.line = .ok o ∧ s.getMap s.line s.line = .ok r ∧
          s' = { s.push ⟨.atx level, some r,
                   [⟨.inlineRoot content [(0, o.firstNonspace + textPos)], none, []⟩]⟩
                 with line := s.line + 1 })) := by
  unfold headingRule at h
  obtain ⟨ind, hind, h⟩ := bind_ok.mp h
  rcases ite_ok h with ⟨_, h⟩ | ⟨hlt, h⟩
  · exact .inl (declined_ok h)
  obtain ⟨line, hline, h⟩ := bind_ok.mp h
  rcases ite_ok h with ⟨_, h⟩ | ⟨hhead, h⟩
  · exact .inl (declined_ok h)
  generalize ha : atxOpen line 0 = a at h
  rcases a with _ | ⟨level, textPos, rest⟩
  · exact .inl (declined_ok h)
  refine .inr ⟨ind, line, level, textPos, rest, hind, Int.not_le.mp hlt, hline,
    Decidable.not_not.mp hhead, ha, ?_⟩
  rcases ite_ok h with ⟨hs, h⟩ | ⟨hs, h⟩
  · cases h; exact ⟨rfl, .inl ⟨hs, rfl⟩⟩
  obtain ⟨content, hcontent, h⟩ := bind_ok.mp h
  obtain ⟨o, ho, h⟩ := bind_ok.mp h
  obtain ⟨r, hr, h⟩ := bind_ok.mp h
  cases h
  exact ⟨rfl, .inr ⟨Bool.eq_false_iff.mpr hs, content, o, r, hcontent, ho, hr, rfl⟩⟩

theorem codeRule_ok {s s' : BState} {silent b : Bool} (h : codeRule s silent = .ok (b, s')) :
    (b = false ∧ s' = s) ∨
    ∃ ind last content m0 ms o, silent = false ∧ s.lineIndent s.line = .ok ind ∧ 4 ≤ ind ∧
      codeScan s (s.line + 1) (s.line + 1) = .ok last ∧
      s.getLines s.line last (4 + s.blkIndent) false = .ok (content, m0 :: ms) ∧
      1 ≤ last ∧ s.off (last - 1) = .ok o ∧ m0.2 ≤ o.lineEnd ∧ b = true ∧
      s' = ({ s with line := last }).push ⟨.codeBlock (content ++ ['\n']), some (m0.2, o.lineEnd), []⟩ := by
  unfold codeRule at h
  rcases ite_ok h with ⟨_, h⟩ | ⟨hs, h⟩
  · exact .inl (declined_ok h)
  obtain ⟨ind, hind, h⟩ := bind_ok.mp h
  rcases ite_ok h with ⟨_, h⟩ | ⟨hge, h⟩
  · exact .inl (declined_ok h)
  obtain ⟨last, hlast, h⟩ := bind_ok.mp h
  obtain ⟨⟨content, mapping⟩, hgl, h⟩ := bind_ok.mp h
  rcases mapping with _ | ⟨m0, ms⟩
  · cases h
  obtain ⟨l1, hl1, h⟩ := bind_ok.mp h
  obtain ⟨o, ho, h⟩ := bind_ok.mp h
  rcases ite_ok h with ⟨_, h⟩ | ⟨hle, h⟩
  · cases h
  cases h
  obtain ⟨h1, rfl⟩ := psub_ok hl1
  exact .inr ⟨ind, last, content, m0, ms, o, Bool.eq_false_iff.mpr hs, hind, Int.not_lt.mp hge, hlast, hgl,
    h1, ho, Nat.not_lt.mp hle, rfl, rfl⟩

theorem fenceRule_ok {s s' : BState} {silent b : Bool} (h : fenceRule s silent = .ok (b, s')) :
    (b = false ∧ s' = s) ∨
    ∃ ind marker rest params, s.lineIndent s.line = .ok ind ∧ ind < 4 ∧
      s.getLine s.line = .ok (marker :: rest) ∧ (marker = '~' ∨ marker = '`') ∧
      3 ≤ 1 + countRun marker rest ∧
      liftL (Lines.slice (marker :: rest) (1 + countRun marker rest) (Lines.byteLen (marker :: rest)))
        = .ok params ∧
      ¬ (marker = '`' ∧ params.contains marker = true) ∧ b = true ∧
      ((silent = true ∧ s' = s) ∨
       (silent = false ∧ ∃ nextLine haveEnd o content mapping r,
          fenceScan s marker (1 + countRun marker rest) s.line = .ok (nextLine, haveEnd) ∧
          s.off s.line = .ok o ∧
          s.getLines (s.line + 1) nextLine (i32AsUsize o.indentNonspace) true = .ok (content, mapping) ∧
          (if haveEnd then 0 else 1) ≤ nextLine ∧
          s.getMap s.line (nextLine - (if haveEnd then 0 else 1)) = .ok r ∧
          s' = { s.push ⟨.codeFence params marker (1 + countRun marker rest) content, some r, []⟩
                 with line := nextLine + (if haveEnd then 1 else 0) })) := by
  unfold fenceRule at h
  obtain ⟨ind, hind, h⟩ := bind_ok.mp h
  rcases ite_ok h with ⟨_, h⟩ | ⟨hlt, h⟩
  · exact .inl (declined_ok h)
  obtain ⟨line, hline, h⟩ := bind_ok.mp h
  rcases line with _ | ⟨marker, rest⟩
  · exact .inl (declined_ok h)
  rcases ite_ok h with ⟨_, h⟩ | ⟨hm, h⟩
  · exact .inl (declined_ok h)
  rcases ite_ok h with ⟨_, h⟩ | ⟨h3, h⟩
  · exact .inl (declined_ok h)
  obtain ⟨params, hparams, h⟩ := bind_ok.mp h
  rcases ite_ok h with ⟨_, h⟩ | ⟨hbt, h⟩
  · exact .inl (declined_ok h)
  refine .inr ⟨ind, marker, rest, params, hind, Int.not_le.mp hlt, hline, Decidable.not_not.mp hm,
    Nat.not_lt.mp h3, hparams, hbt, ?_⟩
  rcases ite_ok h with ⟨hs, h⟩ | ⟨hs, h⟩
  · cases h; exact ⟨rfl, .inl ⟨hs, rfl⟩⟩
  obtain ⟨⟨nextLine, haveEnd⟩, hscan, h⟩ := bind_ok.mp h
  obtain ⟨o, ho, h⟩ := bind_ok.mp h
  obtain ⟨⟨content, mapping⟩, hgl, h⟩ := bind_ok.mp h
  obtain ⟨e, he, h⟩ := bind_ok.mp h
  obtain ⟨r, hr, h⟩ := bind_ok.mp h
  cases h
  obtain ⟨h1, rfl⟩ := psub_ok he
  exact ⟨rfl, .inr ⟨Bool.eq_false_iff.mpr hs, nextLine, haveEnd, o, content, mapping, r, hscan, ho, hgl,
    h1, hr, rfl⟩⟩

theorem paragraphRule_ok {test : Test} {fuel : Nat} {s s' : BState} {silent b : Bool}
    (h : paragraphRule test fuel s silent = .ok (b, s')) :
    (silent = true ∧ b = false ∧ s' = s) ∨
    ∃ nextLine lvl S content mapping r, silent = false ∧
      lazyScan test false fuel s s.line = .ok (nextLine, lvl, S) ∧
      S.getLines s.line nextLine S.blkIndent false = .ok (content, mapping) ∧ 1 ≤ nextLine ∧
      S.getMap s.line (nextLine - 1) = .ok r ∧ b = true ∧
      s' = ({ S with line := nextLine }).push
             ⟨.paragraph, some r, [⟨.inlineRoot content mapping, none, []⟩]⟩ := by
  unfold paragraphRule at h
  rcases ite_ok h with ⟨hs, h⟩ | ⟨hs, h⟩
  · exact .inl ⟨hs, declined_ok h⟩
  obtain ⟨⟨nextLine, lvl, S⟩, hscan, h⟩ := bind_ok.mp h
  obtain ⟨⟨content, mapping⟩, hgl, h⟩ := bind_ok.mp h
  obtain ⟨e, he, h⟩ := bind_ok.mp h
  obtain ⟨r, hr, h⟩ := bind_ok.mp h
  cases h
  obtain ⟨h1, rfl⟩ := psub_ok he
  exact .inr ⟨nextLine, lvl, S, content, mapping, r, Bool.eq_false_iff.mpr hs, hscan, hgl, h1, hr, rfl, rfl⟩

theorem lheadingRule_ok {test : Test} {fuel : Nat} {s s' : BState} {silent b : Bool}
    (h : lheadingRule test fuel s silent = .ok (b, s')) :
    (b = false ∧ (s' = s ∨ ∃ nextLine, lazyScan test true fuel s s.line = .ok (nextLine, 0, s'))) ∨
    ∃ ind nextLine level S content mapping r, silent = false ∧ s.lineIndent s.line = .ok ind ∧ ind < 4 ∧
      lazyScan test true fuel s s.line = .ok (nextLine, level, S) ∧ level ≠ 0 ∧
      S.getLines s.line nextLine S.blkIndent false = .ok (content, mapping) ∧
      S.getMap s.line nextLine = .ok r ∧ b = true ∧
      s' = ({ S with line := nextLine + 1 }).push
             ⟨.setext level (if level = 2 then '-' else '='), some r,
              [⟨.inlineRoot content mapping, none, []⟩]⟩ := by
  unfold lheadingRule at h
  rcases ite_ok h with ⟨_, h⟩ | ⟨hs, h⟩
  · exact .inl ⟨(declined_ok h).1, .inl (declined_ok h).2⟩
  obtain ⟨ind, hind, h⟩ := bind_ok.mp h
  rcases ite_ok h with ⟨_, h⟩ | ⟨hlt, h⟩
  · exact .inl ⟨(declined_ok h).1, .inl (declined_ok h).2⟩
  obtain ⟨⟨nextLine, level, S⟩, hscan, h⟩ := bind_ok.mp h
  rcases ite_ok h with ⟨h0, h⟩ | ⟨h0, h⟩
  · obtain ⟨rfl, rfl⟩ := declined_ok h
    exact .inl ⟨rfl, .inr ⟨nextLine, h0 ▸ hscan⟩⟩
  obtain ⟨⟨content, mapping⟩, hgl, h⟩ := bind_ok.mp h
  obtain ⟨e, he, h⟩ := bind_ok.mp h
  obtain ⟨r, hr, h⟩ := bind_ok.mp h
  cases h
  rw [(psub_ok he).2] at hr
  exact .inr ⟨ind, nextLine, level, S, content, mapping, r, Bool.eq_false_iff.mpr hs, hind,
    Int.not_le.mp hlt, hscan, h0, hgl, hr, rfl, rfl⟩

/-- what a successful `refParse` that found a definition went through: the label `[…]:` (scanned from
    behind the first character), blanks, a destination behind them that `validate_link` accepts, blanks,
    the optional title, the check of the rest of the line, and the final slice of the label text -/
theorem refParse_ok {cfg : Cfg} {str : List Char} {raw href : List Nat} {title : Option (List Nat)}
    {lines : Nat} (h : refParse cfg str = .ok (some (raw, href, title, lines))) :
    ∃ c0 t labelEnd l1 rest2 p1 l2 res tail p3 l3 rt t' rawc, str = c0 :: t ∧
      labelScan false t (Link.clen c0) 0 = some (labelEnd, l1, ':' :: rest2) ∧
      wsScan rest2 (labelEnd + 2) l1 = (p1, l2) ∧
      Link.parseLinkDestination str p1 (Link.byteLen str) = .ok (some res) ∧ p1 ≠ res.pos ∧
      href = Link.normalizeLink (Link.utf8 (Entity.unescapeAll cfg.lookup res.raw)) ∧
      Link.validateLink href = true ∧
      Link.slice str res.pos (Link.byteLen str) = .ok tail ∧
      wsScan tail res.pos (l2 + res.lines) = (p3, l3) ∧
      refTitle cfg str (Link.byteLen str) res.pos p3 l3 res.pos (l2 + res.lines) = .ok rt ∧
      refTrail str (Link.byteLen str) rt.1 rt.2.1 rt.2.2 res.pos (l2 + res.lines) = .ok (some (t', lines)) ∧
      Link.slice str 1 labelEnd = .ok rawc ∧ raw = rawc.map Char.toNat ∧
      title = t'.map (·.map Char.toNat) := by
  unfold refParse at h
  rcases str with _ | ⟨c0, t⟩
  · cases h
  generalize hlab : labelScan false (c0 :: t).tail _ 0 = lab at h
  rcases lab with _ | ⟨labelEnd, l1, rest⟩
  · cases h
  dsimp only at h
  -- `match rest with | ':' :: rest2 => … | _ => pure none`
  split at h
  · rename_i rest2
    generalize hws1 : wsScan rest2 (labelEnd + 2) l1 = w1 at h
    obtain ⟨p1, l2⟩ := w1
    obtain ⟨dest, hdest, h⟩ := bind_ok.mp h
    rcases dest with _ | res
    · cases h
    rcases ite_ok h with ⟨_, h⟩ | ⟨hne, h⟩
    · cases h
    rcases ite_ok h with ⟨_, h⟩ | ⟨hval, h⟩
    · cases h
    obtain ⟨tail, htail, h⟩ := bind_ok.mp h
    generalize hws2 : wsScan tail res.pos (l2 + res.lines) = w2 at h
    obtain ⟨p3, l3⟩ := w2
    obtain ⟨rt, htitle, h⟩ := bind_ok.mp h
    obtain ⟨fin, htrail, h⟩ := bind_ok.mp h
    rcases fin with _ | ⟨t', l5⟩
    · cases h
    obtain ⟨rawc, hraw, h⟩ := bind_ok.mp h
    cases h
    exact ⟨c0, t, labelEnd, l1, rest2, p1, l2, res, tail, p3, l3, rt, t', rawc, rfl, hlab, hws1, liftK_ok hdest, hne,
      rfl, Decidable.not_not.mp hval, liftK_ok htail, hws2, htitle, htrail, liftK_ok hraw, rfl, rfl⟩
  · cases h

theorem referenceRule_ok {cfg : Cfg} {test : Test} {fuel : Nat} {s s' : BState} {silent b : Bool}
    (h : referenceRule cfg test fuel s silent = .ok (b, s')) :
    (b = false ∧
      (s' = s ∨ ∃ nextLine lvl, lazyScan test false fuel s s.line = .ok (nextLine, lvl, s'))) ∨
    ∃ ind rest nextLine lvl S str mapping raw href title lines, silent = false ∧
      s.lineIndent s.line = .ok ind ∧ ind < 4 ∧ s.getLine s.line = .ok ('[' :: rest) ∧
      refQuick false rest = true ∧ lazyScan test false fuel s s.line = .ok (nextLine, lvl, S) ∧
      S.getLines s.line nextLine S.blkIndent false = .ok (str, mapping) ∧
      refParse cfg (trimStr str) = .ok (some (raw, href, title, lines)) ∧
      ¬ (Refs.normalize cfg.L cfg.U raw).isEmpty = true ∧ b = true ∧
      s' = { S with refs := Refs.insertFirst S.refs
                      (Refs.normalize cfg.L cfg.U (Refs.normalize cfg.L cfg.U raw)) ⟨href, title⟩,
                    line := s.line + lines + 1 } := by
  unfold referenceRule at h
  rcases ite_ok h with ⟨_, h⟩ | ⟨hs, h⟩
  · exact .inl ⟨(declined_ok h).1, .inl (declined_ok h).2⟩
  obtain ⟨ind, hind, h⟩ := bind_ok.mp h
  rcases ite_ok h with ⟨_, h⟩ | ⟨hlt, h⟩
  · exact .inl ⟨(declined_ok h).1, .inl (declined_ok h).2⟩
  obtain ⟨line, hline, h⟩ := bind_ok.mp h
  rcases line with _ | ⟨c, rest⟩
  · exact .inl ⟨(declined_ok h).1, .inl (declined_ok h).2⟩
  rcases ite_ok h with ⟨_, h⟩ | ⟨hc, h⟩
  · exact .inl ⟨(declined_ok h).1, .inl (declined_ok h).2⟩
  rcases ite_ok h with ⟨_, h⟩ | ⟨hq, h⟩
  · exact .inl ⟨(declined_ok h).1, .inl (declined_ok h).2⟩
  obtain ⟨⟨nextLine, lvl, S⟩, hscan, h⟩ := bind_ok.mp h
  obtain ⟨⟨str, mapping⟩, hgl, h⟩ := bind_ok.mp h
  obtain ⟨parsed, hparse, h⟩ := bind_ok.mp h
  rcases parsed with _ | ⟨raw, href, title, lines⟩
  · obtain ⟨rfl, rfl⟩ := declined_ok h
    exact .inl ⟨rfl, .inr ⟨nextLine, lvl, hscan⟩⟩
  rcases ite_ok h with ⟨_, h⟩ | ⟨hne, h⟩
  · obtain ⟨rfl, rfl⟩ := declined_ok h
    exact .inl ⟨rfl, .inr ⟨nextLine, lvl, hscan⟩⟩
  cases h
  cases Decidable.not_not.mp hc
  exact .inr ⟨ind, rest, nextLine, lvl, S, str, mapping, raw, href, title, lines, Bool.eq_false_iff.mpr hs,
    hind, Int.not_le.mp hlt, hline, Decidable.not_not.mp hq, hscan, hgl, hparse, hne, rfl, rfl⟩

theorem lazyScan_ok {test : Test} {setext : Bool} {fuel : Nat} {s s' : BState} {n n' lvl : Nat}
    (h : lazyScan test setext (fuel + 1) s n = .ok (n', lvl, s')) :
    ((n + 1 ≥ s.lineMax ∨ s.isEmpty (n + 1) = true) ∧ n' = n + 1 ∧ lvl = 0 ∧ s' = s) ∨
    ∃ ind, ¬ (n + 1 ≥ s.lineMax ∨ s.isEmpty (n + 1) = true) ∧ s.lineIndent (n + 1) = .ok ind ∧
      ((4 ≤ ind ∧ lazyScan test setext fuel s (n + 1) = .ok (n', lvl, s')) ∨
       ∃ l, ind < 4 ∧ setextCheck setext s ind (n + 1) = .ok l ∧
         ((l ≠ 0 ∧ n' = n + 1 ∧ lvl = l ∧ s' = s) ∨
          ∃ o, l = 0 ∧ s.off (n + 1) = .ok o ∧
            ((o.indentNonspace < 0 ∧ lazyScan test setext fuel s (n + 1) = .ok (n', lvl, s')) ∨
             ∃ t S, 0 ≤ o.indentNonspace ∧ test { s with line := n + 1 } = .ok (t, S) ∧
               ((t = true ∧ n' = n + 1 ∧ lvl = 0 ∧ s' = { S with line := s.line }) ∨
                (t = false ∧
                 lazyScan test setext fuel { S with line := s.line } (n + 1) = .ok (n', lvl, s')))))) := by
  unfold lazyScan at h
  rcases ite_ok h with ⟨hstop, h⟩ | ⟨hstop, h⟩
  · cases h; exact .inl ⟨hstop, rfl, rfl, rfl⟩
  obtain ⟨ind, hind, h⟩ := bind_ok.mp h
  refine .inr ⟨ind, hstop, hind, ?_⟩
  rcases ite_ok h with ⟨h4, h⟩ | ⟨h4, h⟩
  · exact .inl ⟨h4, h⟩
  obtain ⟨l, hl, h⟩ := bind_ok.mp h
  refine .inr ⟨l, Int.not_le.mp h4, hl, ?_⟩
  rcases ite_ok h with ⟨hl0, h⟩ | ⟨hl0, h⟩
  · cases h; exact .inl ⟨hl0, rfl, rfl, rfl⟩
  obtain ⟨o, ho, h⟩ := bind_ok.mp h
  refine .inr ⟨o, Decidable.not_not.mp hl0, ho, ?_⟩
  rcases ite_ok h with ⟨hneg, h⟩ | ⟨hneg, h⟩
  · exact .inl ⟨hneg, h⟩
  obtain ⟨⟨t, S⟩, ht, h⟩ := bind_ok.mp h
  refine .inr ⟨t, S, Int.not_lt.mp hneg, ht, ?_⟩
  rcases ite_ok h with ⟨hb, h⟩ | ⟨hb, h⟩
  · cases h; exact .inl ⟨hb, rfl, rfl, rfl⟩
  · exact .inr ⟨Bool.eq_false_iff.mpr hb, h⟩

theorem bqScan_ok {test : Test} {fuel : Nat} {s s' : BState} {m n : Nat} {old old' : List LineOffset}
    {le : Bool} (h : bqScan test (fuel + 1) s m old le = .ok (n, old', s')) :
    (¬ m < s.lineMax ∧ n = m ∧ old' = old ∧ s' = s) ∨
    ∃ ind line, m < s.lineMax ∧ s.lineIndent m = .ok ind ∧ s.getLine m = .ok line ∧
      ((line = [] ∧ n = m ∧ old' = old ∧ s' = s) ∨
       ∃ c rest, line = c :: rest ∧
         ((c = '>' ∧ 0 ≤ ind ∧ ∃ o o' le' S, s.off m = .ok o ∧ bqRewrite s.src o rest = .ok (o', le') ∧
             s.setOff m o' = .ok S ∧ bqScan test fuel S (m + 1) (old ++ [o]) le' = .ok (n, old', s')) ∨
          (¬ (c = '>' ∧ 0 ≤ ind) ∧
            ((le = true ∧ n = m ∧ old' = old ∧ s' = s) ∨
             ∃ t S, le = false ∧ test { s with line := m } = .ok (t, S) ∧
               ((t = true ∧ S.blkIndent = 0 ∧ n = m ∧ old' = old ∧ s' = S) ∨
                (t = true ∧ S.blkIndent ≠ 0 ∧ ∃ o, S.off m = .ok o ∧
                   S.setOff m { o with indentNonspace := o.indentNonspace - (S.blkIndent : Int) } = .ok s' ∧
                   n = m ∧ old' = old ++ [o]) ∨
                (t = false ∧ ∃ o S1, S.off m = .ok o ∧
                   S.setOff m { o with indentNonspace := -1 } = .ok S1 ∧
                   bqScan test fuel S1 (m + 1) (old ++ [o]) le = .ok (n, old', s'))))))) := by
  unfold bqScan at h
  rcases ite_ok h with ⟨hm, h⟩ | ⟨hm, h⟩
  · cases h; exact .inl ⟨hm, rfl, rfl, rfl⟩
  obtain ⟨ind, hind, h⟩ := bind_ok.mp h
  obtain ⟨line, hline, h⟩ := bind_ok.mp h
  refine .inr ⟨ind, line, Decidable.not_not.mp hm, hind, hline, ?_⟩
  rcases line with _ | ⟨c, rest⟩
  · cases h; exact .inl ⟨rfl, rfl, rfl, rfl⟩
  refine .inr ⟨c, rest, rfl, ?_⟩
  rcases ite_ok h with ⟨hq, h⟩ | ⟨hq, h⟩
  · obtain ⟨o, ho, h⟩ := bind_ok.mp h
    obtain ⟨⟨o', le'⟩, hrw, h⟩ := bind_ok.mp h
    obtain ⟨S, hS, h⟩ := bind_ok.mp h
    exact .inl ⟨hq.1, by simpa using hq.2, o, o', le', S, ho, hrw, hS, h⟩
  refine .inr ⟨by simpa using hq, ?_⟩
  rcases ite_ok h with ⟨hle, h⟩ | ⟨hle, h⟩
  · cases h; exact .inl ⟨hle, rfl, rfl, rfl⟩
  obtain ⟨⟨t, S⟩, ht, h⟩ := bind_ok.mp h
  refine .inr ⟨t, S, Bool.eq_false_iff.mpr hle, ht, ?_⟩
  rcases ite_ok h with ⟨hb, h⟩ | ⟨hb, h⟩
  · rcases ite_ok h with ⟨hbi, h⟩ | ⟨hbi, h⟩
    · obtain ⟨o, ho, h⟩ := bind_ok.mp h
      obtain ⟨S1, hS1, h⟩ := bind_ok.mp h
      cases h
      exact .inr (.inl ⟨hb, hbi, o, ho, hS1, rfl, rfl⟩)
    · cases h; exact .inl ⟨hb, Decidable.not_not.mp hbi, rfl, rfl, rfl⟩
  · obtain ⟨o, ho, h⟩ := bind_ok.mp h
    obtain ⟨S1, hS1, h⟩ := bind_ok.mp h
    exact .inr (.inr ⟨Bool.eq_false_iff.mpr hb, o, S1, ho, hS1, h⟩)

theorem blockquoteRule_ok {tok : Tok} {test : Test} {fuel : Nat} {s s' : BState} {silent b : Bool}
    (h : blockquoteRule tok test fuel s silent = .ok (b, s')) :
    (b = false ∧ s' = s) ∨
    ∃ ind line, s.lineIndent s.line = .ok ind ∧ ind < 4 ∧ s.getLine s.line = .ok line ∧
      line.head? = some '>' ∧ b = true ∧
      ((silent = true ∧ s' = s) ∨
       (silent = false ∧ ∃ nextLine old S S2 offs r,
          bqScan test fuel s s.line [] false = .ok (nextLine, old, S) ∧
          tok { S with blkIndent := 0, nodeKind := .blockquote, children := [], line := s.line,
                       lineMax := nextLine, level := S.level + 1 } = .ok S2 ∧
          1 ≤ S2.level ∧ restoreOffs S2.offs s.line old = .ok offs ∧ 1 ≤ S2.line ∧
          BState.getMap { S2 with offs := offs } s.line (S2.line - 1) = .ok r ∧
          s' = { S2 with level := S2.level - 1, lineMax := S.lineMax, offs := offs,
                         blkIndent := S.blkIndent, nodeKind := S.nodeKind,
                         children := S.children ++ [⟨S2.nodeKind, some r, S2.children⟩] })) := by
  unfold blockquoteRule at h
  obtain ⟨ind, hind, h⟩ := bind_ok.mp h
  rcases ite_ok h with ⟨_, h⟩ | ⟨hlt, h⟩
  · exact .inl (declined_ok h)
  obtain ⟨line, hline, h⟩ := bind_ok.mp h
  rcases ite_ok h with ⟨_, h⟩ | ⟨hhead, h⟩
  · exact .inl (declined_ok h)
  refine .inr ⟨ind, line, hind, Int.not_le.mp hlt, hline, Decidable.not_not.mp hhead, ?_⟩
  rcases ite_ok h with ⟨hs, h⟩ | ⟨hs, h⟩
  · cases h; exact ⟨rfl, .inl ⟨hs, rfl⟩⟩
  obtain ⟨⟨nextLine, old, S⟩, hscan, h⟩ := bind_ok.mp h
  obtain ⟨S2, htok, h⟩ := bind_ok.mp h
  obtain ⟨lvl, hlvl, h⟩ := bind_ok.mp h
  obtain ⟨offs, hoffs, h⟩ := bind_ok.mp h
  obtain ⟨e, he, h⟩ := bind_ok.mp h
  obtain ⟨r, hr, h⟩ := bind_ok.mp h
  cases h
  rw [(psub_ok he).2] at hr
  rw [(psub_ok hlvl).2]
  exact ⟨rfl, .inr ⟨Bool.eq_false_iff.mpr hs, nextLine, old, S, S2, offs, r, hscan, htok, (psub_ok hlvl).1,
    hoffs, (psub_ok he).1, hr, rfl⟩⟩

theorem bqOptSpace_ok {rest : List Char} {ind ia : Nat} (h : bqOptSpace rest ind = .ok ia) :
    ia ≤ ind ∧ ind ≤ ia + 1 := by
  unfold bqOptSpace at h
  rcases rest with _ | ⟨d, _⟩
  · cases pure_ok.mp h; omega
  · rcases ite_ok h with ⟨-, hp⟩ | ⟨-, hp⟩
    · obtain ⟨_, rfl⟩ := psub_ok hp; omega
    · cases pure_ok.mp hp; omega

theorem bqRewrite_inv {src : List Char} {o o' : LineOffset} {rest : List Char} {le : Bool}
    (h : bqRewrite src o rest = .ok (o', le)) :
    ∃ ltxt ind fn ia, Lines.slice src o.lineStart o.lineEnd = .ok ltxt ∧
      o.lineStart ≤ o.firstNonspace + 1 ∧
      Lines.findIndentOf ltxt (o.firstNonspace + 1 - o.lineStart) = .ok (ind, fn) ∧
      o.lineStart ≤ o.lineEnd ∧ bqOptSpace rest ind = .ok ia ∧
      o' = { o with indentNonspace := (ia : Int), firstNonspace := fn + o.lineStart } ∧
      le = (fn == o.lineEnd - o.lineStart) := by
  unfold bqRewrite at h
  obtain ⟨ltxt, hlt, h⟩ := bind_ok.mp h
  obtain ⟨rel, hrel, h⟩ := bind_ok.mp h
  obtain ⟨⟨ind, fn⟩, hf, h⟩ := bind_ok.mp h
  obtain ⟨len, hlen, h⟩ := bind_ok.mp h
  obtain ⟨ia, hia, h⟩ := bind_ok.mp h
  cases h
  obtain ⟨hle, rfl⟩ := psub_ok hrel
  obtain ⟨hle2, rfl⟩ := psub_ok hlen
  exact ⟨ltxt, ind, fn, ia, liftL_eq_ok hlt, hle, liftL_eq_ok hf, hle2, hia, rfl, rfl⟩

/-- `bqRewrite_inv` without `last_line_empty`, the optional space as its two bounds -/
theorem bqRewrite_ok {src : List Char} {o o' : LineOffset} {rest : List Char} {le : Bool}
    (h : bqRewrite src o rest = .ok (o', le)) :
    ∃ ltxt ind fn ia, Lines.slice src o.lineStart o.lineEnd = .ok ltxt ∧
      o.lineStart ≤ o.firstNonspace + 1 ∧
      Lines.findIndentOf ltxt (o.firstNonspace + 1 - o.lineStart) = .ok (ind, fn) ∧
      ia ≤ ind ∧ ind ≤ ia + 1 ∧
      o' = { o with indentNonspace := (ia : Int), firstNonspace := fn + o.lineStart } := by
  obtain ⟨ltxt, ind, fn, ia, hlt, hle, hf, -, hia, ho, -⟩ := bqRewrite_inv h
  exact ⟨ltxt, ind, fn, ia, hlt, hle, hf, (bqOptSpace_ok hia).1, (bqOptSpace_ok hia).2, ho⟩

/-- a marker found by `detectMarker` was found by one of the two marker parsers -/
theorem detectMarker_ok {cur : List Char} {p : Nat} {v : Option Nat}
    (h : detectMarker cur = .ok (some (p, v))) : skipOrdered cur = some p ∨ skipBullet cur = some p := by
  unfold detectMarker at h
  crack h
  · exact .inl ‹_›
  · exact .inr ‹_›

theorem itemRewrite_ok {src : List Char} {o o' : LineOffset} {pos indent : Nat} {re : Bool}
    (h : itemRewrite src o pos = .ok (o', indent, re)) :
    ∃ ltxt ind fn, 0 ≤ o.indentNonspace ∧ Lines.slice src o.lineStart o.lineEnd = .ok ltxt ∧
      o.lineStart ≤ pos + o.firstNonspace ∧ o.lineStart ≤ o.lineEnd ∧
      Lines.findIndentOf ltxt (pos + o.firstNonspace - o.lineStart) = .ok (ind, fn) ∧
      re = (fn == o.lineEnd - o.lineStart) ∧
      indent = o.indentNonspace.toNat + pos + (if re then 1 else if ind > 4 then 1 else ind) ∧
      o' = { o with firstNonspace := fn + o.lineStart,
                    indentNonspace := ((o.indentNonspace.toNat + pos + ind : Nat) : Int) } := by
  unfold itemRewrite at h
  rcases ite_ok h with ⟨-, h⟩ | ⟨hneg, h⟩
  · cases h
  obtain ⟨ltxt, hlt, h⟩ := bind_ok.mp h
  obtain ⟨rel, hrel, h⟩ := bind_ok.mp h
  obtain ⟨⟨ind, fn⟩, hf, h⟩ := bind_ok.mp h
  obtain ⟨len, hlen, h⟩ := bind_ok.mp h
  cases h
  obtain ⟨hle, rfl⟩ := psub_ok hrel
  obtain ⟨hle2, rfl⟩ := psub_ok hlen
  exact ⟨ltxt, ind, fn, Int.not_lt.mp hneg, liftL_eq_ok hlt, hle, hle2, liftL_eq_ok hf, rfl, rfl, rfl⟩

theorem listItemBody_ok {tok : Tok} {s s' : BState} {m : Nat} {re : Bool}
    (h : listItemBody tok s m re = .ok s') :
    (re = true ∧ s.isEmpty (m + 1) = true ∧
      s' = { s with line := if s.line + 2 < s.lineMax then s.line + 2 else s.lineMax }) ∨
    (¬ (re = true ∧ s.isEmpty (m + 1) = true) ∧ ∃ S2,
      tok { s with line := m, level := s.level + 1 } = .ok S2 ∧ 1 ≤ S2.level ∧
      s' = { S2 with level := S2.level - 1 }) := by
  unfold listItemBody at h
  rcases ite_ok h with ⟨hc, h⟩ | ⟨hc, h⟩
  · cases h; exact .inl ⟨hc.1, hc.2, rfl⟩
  obtain ⟨S2, htok, h⟩ := bind_ok.mp h
  obtain ⟨lvl, hlvl, h⟩ := bind_ok.mp h
  cases h
  rw [(psub_ok hlvl).2]
  exact .inr ⟨hc, S2, htok, (psub_ok hlvl).1, rfl⟩

theorem listItem_ok {tok : Tok} {s s' : BState} {m pos : Nat} {pee tight pee' tight' : Bool}
    (h : listItem tok s m pos pee tight = .ok (s', tight', pee')) :
    ∃ o o' indent re S3 li r, s.off m = .ok o ∧ itemRewrite s.src o pos = .ok (o', indent, re) ∧
      m < s.offs.length ∧
      listItemBody tok { s with nodeKind := .listItem, children := [], listIndent := some s.blkIndent,
                                blkIndent := indent, tight := true, offs := s.offs.set m o' } m re
        = .ok S3 ∧
      tight' = (if ¬ S3.tight ∨ pee then false else tight) ∧ prevEmptyEndOf S3 m = .ok pee' ∧
      S3.listIndent = some li ∧ m < S3.offs.length ∧ 1 ≤ S3.line ∧
      BState.getMap { S3 with offs := S3.offs.set m o } m (S3.line - 1) = .ok r ∧
      s' = { S3 with blkIndent := li, listIndent := s.listIndent, offs := S3.offs.set m o,
                     tight := s.tight, nodeKind := s.nodeKind,
                     children := s.children ++ [⟨S3.nodeKind, some r, S3.children⟩] } := by
  unfold listItem at h
  obtain ⟨o, ho, h⟩ := bind_ok.mp h
  obtain ⟨⟨o', indent, re⟩, hrw, h⟩ := bind_ok.mp h
  obtain ⟨S2, hS2, h⟩ := bind_ok.mp h
  obtain ⟨S3, hbody, h⟩ := bind_ok.mp h
  obtain ⟨pe, hpe, h⟩ := bind_ok.mp h
  generalize hli : S3.listIndent = li at h
  rcases li with _ | li
  · cases h
  obtain ⟨S5, hS5, h⟩ := bind_ok.mp h
  obtain ⟨e, he, h⟩ := bind_ok.mp h
  obtain ⟨r, hr, h⟩ := bind_ok.mp h
  cases h
  rw [(setOff_ok hS2).2] at hbody
  rw [(psub_ok he).2, (setOff_ok hS5).2] at hr
  rw [(setOff_ok hS5).2]
  exact ⟨o, o', indent, re, S3, li, r, ho, hrw, (setOff_ok hS2).1, hbody, rfl, hpe, hli, (setOff_ok hS5).1,
    by simpa [(setOff_ok hS5).2] using (psub_ok he).1, hr, rfl⟩

theorem listContinue_ok {test : Test} {ordered : Bool} {mc : Char} {s s' : BState} {n : Nat}
    {c : Option Nat} (h : listContinue test ordered mc s n = .ok (c, s')) :
    (c = none ∧ (s' = s ∨ ∃ t S, test s = .ok (t, S) ∧ s' = { S with line := s.line })) ∨
    ∃ ind S cur p, n < s.lineMax ∧ s.lineIndent n = .ok ind ∧ 0 ≤ ind ∧ ind < 4 ∧
      test s = .ok (false, S) ∧ S.getLine s.line = .ok cur ∧
      (if ordered then skipOrdered cur else skipBullet cur) = some p ∧ markerCharOf cur p = .ok mc ∧
      c = some p ∧ s' = { S with line := s.line } := by
  unfold listContinue at h
  rcases ite_ok h with ⟨_, h⟩ | ⟨hn, h⟩
  · cases h; exact .inl ⟨rfl, .inl rfl⟩
  obtain ⟨ind, hind, h⟩ := bind_ok.mp h
  rcases ite_ok h with ⟨_, h⟩ | ⟨h0, h⟩
  · cases h; exact .inl ⟨rfl, .inl rfl⟩
  rcases ite_ok h with ⟨_, h⟩ | ⟨h4, h⟩
  · cases h; exact .inl ⟨rfl, .inl rfl⟩
  obtain ⟨⟨t, S⟩, ht, h⟩ := bind_ok.mp h
  rcases ite_ok h with ⟨_, h⟩ | ⟨hterm, h⟩
  · cases h; exact .inl ⟨rfl, .inr ⟨t, S, ht, rfl⟩⟩
  obtain ⟨cur, hcur, h⟩ := bind_ok.mp h
  generalize hp : (if ordered = true then skipOrdered cur else skipBullet cur) = q at h
  rcases q with _ | p
  · cases h; exact .inl ⟨rfl, .inr ⟨t, S, ht, rfl⟩⟩
  obtain ⟨mc', hmc, h⟩ := bind_ok.mp h
  rcases ite_ok h with ⟨_, h⟩ | ⟨heq, h⟩
  · cases h; exact .inl ⟨rfl, .inr ⟨t, S, ht, rfl⟩⟩
  cases h
  cases Decidable.not_not.mp heq
  cases Bool.eq_false_iff.mpr hterm
  exact .inr ⟨ind, S, cur, p, Nat.not_le.mp hn, hind, Int.not_lt.mp h0, Int.not_le.mp h4, ht, hcur, hp, hmc,
    rfl, rfl⟩

theorem listLoop_ok {tok : Tok} {test : Test} {ordered : Bool} {mc : Char} {fuel : Nat} {s s' : BState}
    {m pos n : Nat} {pee tight tight' : Bool}
    (h : listLoop tok test ordered mc (fuel + 1) s m pos pee tight = .ok (n, tight', s')) :
    (¬ m < s.lineMax ∧ n = m ∧ tight' = tight ∧ s' = s) ∨
    ∃ S1 t1 p1 c S2, m < s.lineMax ∧ listItem tok s m pos pee tight = .ok (S1, t1, p1) ∧
      listContinue test ordered mc S1 S1.line = .ok (c, S2) ∧
      ((c = none ∧ n = S1.line ∧ tight' = t1 ∧ s' = S2) ∨
       ∃ p, c = some p ∧
         listLoop tok test ordered mc fuel S2 S1.line p p1 t1 = .ok (n, tight', s')) := by
  unfold listLoop at h
  rcases ite_ok h with ⟨hm, h⟩ | ⟨hm, h⟩
  · cases h; exact .inl ⟨hm, rfl, rfl, rfl⟩
  obtain ⟨⟨S1, t1, p1⟩, hitem, h⟩ := bind_ok.mp h
  obtain ⟨⟨c, S2⟩, hcont, h⟩ := bind_ok.mp h
  refine .inr ⟨S1, t1, p1, c, S2, Decidable.not_not.mp hm, hitem, hcont, ?_⟩
  rcases c with _ | p
  · cases h; exact .inl ⟨rfl, rfl, rfl, rfl⟩
  · exact .inr ⟨p, rfl, h⟩

theorem listRule_ok {tok : Tok} {test : Test} {fuel : Nat} {s s' : BState} {silent b : Bool}
    (h : listRule tok test fuel s silent = .ok (b, s')) :
    (b = false ∧ s' = s) ∨
    ∃ ind cur pos mv, ¬ (silent = true ∧ isListKind s.nodeKind = true) ∧
      s.lineIndent s.line = .ok ind ∧ ind < 4 ∧ listSpecial s = .ok false ∧
      s.getLine s.line = .ok cur ∧ detectMarker cur = .ok (some (pos, mv)) ∧
      (silent = true → 0 ≤ ind → ∀ v, mv = some v → v = 1) ∧
      emptyItemCheck (decide (silent = true ∧ ind ≥ 0)) cur pos = .ok false ∧ b = true ∧
      ((silent = true ∧ s' = s) ∨
       (silent = false ∧ ∃ mc n tight S cs r, markerCharOf cur pos = .ok mc ∧
          listLoop tok test mv.isSome mc fuel
            { s with nodeKind := (match mv with | some v => .orderedList v mc | none => .bulletList mc),
                     children := [], level := s.level + 1 } s.line pos false true
            = .ok (n, tight, S) ∧
          (if tight then tightenItems S.children else pure S.children) = .ok cs ∧
          1 ≤ S.level ∧ 1 ≤ n ∧ S.getMap s.line (n - 1) = .ok r ∧
          s' = { S with level := S.level - 1, nodeKind := s.nodeKind,
                        children := s.children ++ [⟨S.nodeKind, some r, cs⟩] })) := by
  unfold listRule at h
  rcases ite_ok h with ⟨_, h⟩ | ⟨hkind, h⟩
  · exact .inl (declined_ok h)
  obtain ⟨ind, hind, h⟩ := bind_ok.mp h
  rcases ite_ok h with ⟨_, h⟩ | ⟨hlt, h⟩
  · exact .inl (declined_ok h)
  obtain ⟨special, hsp, h⟩ := bind_ok.mp h
  rcases ite_ok h with ⟨_, h⟩ | ⟨hspf, h⟩
  · exact .inl (declined_ok h)
  obtain ⟨cur, hcur, h⟩ := bind_ok.mp h
  obtain ⟨det, hdet, h⟩ := bind_ok.mp h
  rcases det with _ | ⟨pos, mv⟩
  · exact .inl (declined_ok h)
  rcases ite_ok h with ⟨_, h⟩ | ⟨hbad, h⟩
  · exact .inl (declined_ok h)
  obtain ⟨empty, hemp, h⟩ := bind_ok.mp h
  rcases ite_ok h with ⟨_, h⟩ | ⟨hempf, h⟩
  · exact .inl (declined_ok h)
  rw [Bool.eq_false_iff.mpr hspf] at hsp
  rw [Bool.eq_false_iff.mpr hempf] at hemp
  have hstart : silent = true → 0 ≤ ind → ∀ v, mv = some v → v = 1 := by
    intro hs h0 v hv
    subst hv
    simpa [hs, h0] using hbad
  refine .inr ⟨ind, cur, pos, mv, hkind, hind, Int.not_le.mp hlt, hsp, hcur, hdet, hstart, hemp, ?_⟩
  rcases ite_ok h with ⟨hs, h⟩ | ⟨hs, h⟩
  · cases h; exact ⟨rfl, .inl ⟨hs, rfl⟩⟩
  obtain ⟨mc, hmc, h⟩ := bind_ok.mp h
  obtain ⟨⟨n, tight, S⟩, hloop, h⟩ := bind_ok.mp h
  obtain ⟨cs, hcs, h⟩ := bind_ok.mp h
  obtain ⟨lvl, hlvl, h⟩ := bind_ok.mp h
  obtain ⟨e, he, h⟩ := bind_ok.mp h
  obtain ⟨r, hr, h⟩ := bind_ok.mp h
  cases h
  rw [(psub_ok he).2] at hr
  rw [(psub_ok hlvl).2]
  exact ⟨rfl, .inr ⟨Bool.eq_false_iff.mpr hs, mc, n, tight, S, cs, r, hmc, hloop, hcs, (psub_ok hlvl).1,
    (psub_ok he).1, hr, rfl⟩⟩

theorem afterChain_ok {ok : Bool} {s s' : BState} {prev : Nat} (h : afterChain ok s prev = .ok s') :
    (ok = true ∧ prev < s.line ∧ s' = s) ∨
    ∃ l o, ok = false ∧ s.getLine s.line = .ok l ∧ s.off s.line = .ok o ∧
      s' = { s.push ⟨.inlineRoot (l ++ ['\n']) [(0, o.firstNonspace)], none, []⟩ with line := s.line + 1 } := by
  unfold afterChain at h
  rcases ite_ok h with ⟨hok, h⟩ | ⟨hok, h⟩
  · rcases ite_ok h with ⟨hlt, h⟩ | ⟨_, h⟩
    · cases h; exact .inl ⟨hok, hlt, rfl⟩
    · cases h
  obtain ⟨l, hl, h⟩ := bind_ok.mp h
  obtain ⟨o, ho, h⟩ := bind_ok.mp h
  cases h
  exact .inr ⟨l, o, Bool.eq_false_iff.mpr hok, hl, ho, rfl⟩

theorem tokLoop_ok {cfg : Cfg} {run : RuleId → BState → Bool → Res} {fuel : Nat} {he : Bool}
    {s s' : BState} (h : tokLoop cfg run (fuel + 1) he s = .ok s') :
    (¬ s.line < s.lineMax ∧ s' = s) ∨
    ∃ l, s.line < s.lineMax ∧ l = Lines.skipEmptyLines s.offs s.lineMax s.line ∧
      ((l ≥ s.lineMax ∧ s' = { s with line := l }) ∨
       ∃ ind, l < s.lineMax ∧ s.lineIndent l = .ok ind ∧
         ((ind < 0 ∧ s' = { s with line := l }) ∨
          (0 ≤ ind ∧ s.level ≥ cfg.maxNesting ∧ s' = { s with line := s.lineMax }) ∨
          ∃ ok S1 S2 he' S3, 0 ≤ ind ∧ s.level < cfg.maxNesting ∧
            runChain run cfg.chain { s with line := l } false = .ok (ok, S1) ∧
            afterChain ok S1 l = .ok S2 ∧ 1 ≤ S2.line ∧ tokLoop cfg run fuel he' S3 = .ok s' ∧
            ((S2.line < S2.lineMax ∧ S2.isEmpty S2.line = true ∧ he' = true ∧
                S3 = { S2 with tight := !he, line := S2.line + 1 }) ∨
             (¬ (S2.line < S2.lineMax ∧ S2.isEmpty S2.line = true) ∧
                he' = (he || S2.isEmpty (S2.line - 1)) ∧ S3 = { S2 with tight := !he })))) := by
  unfold tokLoop at h
  rcases ite_ok h with ⟨hl, h⟩ | ⟨hl, h⟩
  · cases h; exact .inl ⟨hl, rfl⟩
  refine .inr ⟨_, Decidable.not_not.mp hl, rfl, ?_⟩
  rcases ite_ok h with ⟨hge, h⟩ | ⟨hge, h⟩
  · cases h; exact .inl ⟨hge, rfl⟩
  obtain ⟨ind, hind, h⟩ := bind_ok.mp h
  refine .inr ⟨ind, Nat.not_le.mp hge, hind, ?_⟩
  rcases ite_ok h with ⟨hneg, h⟩ | ⟨hneg, h⟩
  · cases h; exact .inl ⟨hneg, rfl⟩
  rcases ite_ok h with ⟨hlev, h⟩ | ⟨hlev, h⟩
  · cases h; exact .inr (.inl ⟨Int.not_lt.mp hneg, hlev, rfl⟩)
  obtain ⟨⟨ok, S1⟩, hchain, h⟩ := bind_ok.mp h
  obtain ⟨S2, hafter, h⟩ := bind_ok.mp h
  obtain ⟨l1, hl1, h⟩ := bind_ok.mp h
  rw [(psub_ok hl1).2] at h
  rcases ite_ok h with ⟨hc, h⟩ | ⟨hc, h⟩
  · exact .inr (.inr ⟨ok, S1, S2, _, _, Int.not_lt.mp hneg, Nat.not_le.mp hlev, hchain, hafter,
      (psub_ok hl1).1, h, .inl ⟨hc.1, hc.2, rfl, rfl⟩⟩)
  · exact .inr (.inr ⟨ok, S1, S2, _, _, Int.not_lt.mp hneg, Nat.not_le.mp hlev, hchain, hafter,
      (psub_ok hl1).1, h, .inr ⟨hc, rfl, rfl⟩⟩)

/-- a chain goes through a prefix that declines and hands the state back, and runs the rest on that state -/
theorem runChainG_declined {ι : Type} {run : ι → BState → Bool → Res} {pre : List ι} {s : BState}
    {silent : Bool} (h : ∀ j ∈ pre, run j s silent = .ok (false, s)) (post : List ι) :
    BlockH.runChainG run (pre ++ post) s silent = BlockH.runChainG run post s silent := by
  induction pre with
  | nil => rfl
  | cons p pre ih =>
    simp only [List.cons_append, BlockH.runChainG, h p List.mem_cons_self]
    exact ih fun j hj => h j (List.mem_cons_of_mem _ hj)

/-- The first rule of a chain that does not decline, for any type of rule ids (`BlockH.runChainG`; the
    chain of the nine rules is the instance `runChain_eq_G`): every rule declines and hands the state
    back, or the chain splits at a rule in front of which every rule declines, and answers what that
    rule answers — `true`, or a panic. -/
theorem runChainG_first {ι : Type} {run : ι → BState → Bool → Res} {silent : Bool}
    (hsame : ∀ r s s', run r s silent = .ok (false, s') → s' = s) (chain : List ι) (s : BState) :
    ((∀ r ∈ chain, run r s silent = .ok (false, s)) ∧ BlockH.runChainG run chain s silent = .ok (false, s)) ∨
    ∃ pre r post, chain = pre ++ r :: post ∧ (∀ q ∈ pre, run q s silent = .ok (false, s)) ∧
      BlockH.runChainG run chain s silent = run r s silent ∧ ∀ s', run r s silent ≠ .ok (false, s') := by
  induction chain with
  | nil => exact .inl ⟨nofun, rfl⟩
  | cons r rs ih =>
    simp only [BlockH.runChainG]
    cases hr : run r s silent with
    | error e => exact .inr ⟨[], r, rs, rfl, nofun, by rw [hr], fun _ h => nomatch hr.symm.trans h⟩
    | ok w =>
      obtain ⟨b, s1⟩ := w
      cases b with
      | true => exact .inr ⟨[], r, rs, rfl, nofun, by rw [hr], fun _ h => nomatch hr.symm.trans h⟩
      | false =>
        cases hsame _ _ _ hr
        rcases ih with ⟨h1, h2⟩ | ⟨pre, r', post, rfl, hp, h1, h2⟩
        · exact .inl ⟨fun q hq => (List.mem_cons.mp hq).elim (· ▸ hr) (h1 q), h2⟩
        · exact .inr ⟨r :: pre, r', post, rfl, fun q hq => (List.mem_cons.mp hq).elim (· ▸ hr) (hp q), h1, h2⟩

theorem runChainG_ok {ι : Type} {run : ι → BState → Bool → Res} {silent : Bool}
    (hsame : ∀ r s s', run r s silent = .ok (false, s') → s' = s) (chain : List ι) {s s' : BState} {b : Bool}
    (h : BlockH.runChainG run chain s silent = .ok (b, s')) :
    (b = false ∧ s' = s) ∨ ∃ r ∈ chain, b = true ∧ run r s silent = .ok (true, s') := by
  rcases runChainG_first hsame chain s with ⟨-, h0⟩ | ⟨pre, r, post, rfl, -, h1, h2⟩
  · cases h0.symm.trans h
    exact .inl ⟨rfl, rfl⟩
  · rw [h1] at h
    cases b with
    | false => exact absurd h (h2 _)
    | true => exact .inr ⟨r, List.mem_append_right pre List.mem_cons_self, rfl, h⟩

theorem runChain_ok {run : RuleId → BState → Bool → Res} {silent : Bool}
    (hsame : ∀ r s s', run r s silent = .ok (false, s') → s' = s) :
    ∀ (chain : List RuleId) {s s' : BState} {b : Bool}, runChain run chain s silent = .ok (b, s') →
      (b = false ∧ s' = s) ∨ ∃ r ∈ chain, b = true ∧ run r s silent = .ok (true, s') :=
  fun chain _ _ _ h => runChainG_ok hsame chain (runChain_eq_G run chain _ _ ▸ h)

/-! ## 3. silent mode is pure -/

/-- the four rules that never fire in silent mode -/
theorem silent_false_code {s : BState} : codeRule s true = .ok (false, s) := rfl
theorem silent_false_paragraph {test : Test} {fuel : Nat} {s : BState} :
    paragraphRule test fuel s true = .ok (false, s) := rfl
theorem silent_false_lheading {test : Test} {fuel : Nat} {s : BState} :
    lheadingRule test fuel s true = .ok (false, s) := rfl
theorem silent_false_reference {cfg : Cfg} {test : Test} {fuel : Nat} {s : BState} :
    referenceRule cfg test fuel s true = .ok (false, s) := rfl

theorem silent_pure_hr {s s' : BState} {b : Bool} (h : hrRule s true = .ok (b, s')) : s' = s := by
  obtain ⟨-, h⟩ | ⟨_, _, _, _, -, -, -, -, -, -, -, ⟨-, h⟩ | ⟨⟨⟩, -⟩⟩ := hrRule_ok h <;> exact h

theorem silent_pure_heading {s s' : BState} {b : Bool} (h : headingRule s true = .ok (b, s')) :
    s' = s := by
  obtain ⟨-, h⟩ | ⟨_, _, _, _, _, -, -, -, -, -, -, ⟨-, h⟩ | ⟨⟨⟩, -⟩⟩ := headingRule_ok h <;> exact h

theorem silent_pure_code {s s' : BState} {b : Bool} (h : codeRule s true = .ok (b, s')) : s' = s := by
  cases silent_false_code.symm.trans h
  rfl

theorem silent_pure_fence {s s' : BState} {b : Bool} (h : fenceRule s true = .ok (b, s')) : s' = s := by
  obtain ⟨-, h⟩ | ⟨_, _, _, _, -, -, -, -, -, -, -, -, ⟨-, h⟩ | ⟨⟨⟩, -⟩⟩ := fenceRule_ok h <;> exact h

theorem silent_pure_paragraph {test : Test} {fuel : Nat} {s s' : BState} {b : Bool}
    (h : paragraphRule test fuel s true = .ok (b, s')) : s' = s := by
  cases silent_false_paragraph.symm.trans h
  rfl

theorem silent_pure_lheading {test : Test} {fuel : Nat} {s s' : BState} {b : Bool}
    (h : lheadingRule test fuel s true = .ok (b, s')) : s' = s := by
  cases silent_false_lheading.symm.trans h
  rfl

theorem silent_pure_reference {cfg : Cfg} {test : Test} {fuel : Nat} {s s' : BState} {b : Bool}
    (h : referenceRule cfg test fuel s true = .ok (b, s')) : s' = s := by
  cases silent_false_reference.symm.trans h
  rfl

theorem silent_pure_blockquote {tok : Tok} {test : Test} {fuel : Nat} {s s' : BState} {b : Bool}
    (h : blockquoteRule tok test fuel s true = .ok (b, s')) : s' = s := by
  obtain ⟨-, h⟩ | ⟨_, _, -, -, -, -, -, ⟨-, h⟩ | ⟨⟨⟩, -⟩⟩ := blockquoteRule_ok h <;> exact h

theorem silent_pure_list {tok : Tok} {test : Test} {fuel : Nat} {s s' : BState} {b : Bool}
    (h : listRule tok test fuel s true = .ok (b, s')) : s' = s := by
  obtain ⟨-, h⟩ | ⟨_, _, _, _, -, -, -, -, -, -, -, -, -, ⟨-, h⟩ | ⟨⟨⟩, -⟩⟩ := listRule_ok h <;> exact h

/-- every rule of the chain, whatever the call-backs are -/
theorem silent_pure_rule {cfg : Cfg} {tok : Tok} {test : Test} {fuel : Nat} {r : RuleId}
    {s s' : BState} {b : Bool} (h : runRule cfg tok test fuel r s true = .ok (b, s')) : s' = s := by
  cases r <;> simp only [runRule] at h
  · exact silent_pure_code h
  · exact silent_pure_fence h
  · exact silent_pure_blockquote h
  · exact silent_pure_hr h
  · exact silent_pure_list h
  · exact silent_pure_reference h
  · exact silent_pure_heading h
  · exact silent_pure_lheading h
  · exact silent_pure_paragraph h

/-- the look-ahead returns the state it was given -/
def TestPure (test : Test) : Prop := ∀ s r, test s = .ok r → r.2 = s

theorem runChain_silent_pure {run : RuleId → BState → Bool → Res}
    (hrun : ∀ r s b s', run r s true = .ok (b, s') → s' = s) :
    ∀ (chain : List RuleId) (s : BState) (b : Bool) (s' : BState),
      runChain run chain s true = .ok (b, s') → s' = s := by
  intro chain s b s' h
  rcases runChain_ok (fun r s s' h => hrun r s false s' h) chain h with ⟨-, hs⟩ | ⟨r, -, -, hrule⟩
  · exact hs
  · exact hrun _ _ _ _ hrule

/-- `test_rules_at_line` of the shipped rules changes nothing (not even `state.line`) -/
theorem testRules_pure (cfg : Cfg) (fuel : Nat) : TestPure (testRules cfg fuel) := by
  intro s ⟨b, s'⟩ h
  cases fuel with
  | zero => simp [testRules, engine] at h
  | succ f =>
    simp only [testRules, engine] at h
    exact runChain_silent_pure (fun r s b s' h => silent_pure_rule h) _ _ _ _ h

/-! ## 4. silent `true` ⇒ real mode does not answer `false`

  (`code`, `paragraph`, `lheading`, `reference` never answer `true` in silent mode: `silent_false_*`.)
  The real-mode run starts with the same checks on the same state; the list rule has two more checks
  in silent mode (a list interrupting a paragraph must start with 1 and must not be empty), none
  less. -/

theorem silent_implies_real_hr {s s1 s2 : BState} {b : Bool}
    (hs : hrRule s true = .ok (true, s1)) (hr : hrRule s false = .ok (b, s2)) : b = true := by
  obtain ⟨⟨⟩, -⟩ | ⟨ind, marker, rest, cnt, hind, h4, hline, hm, hc, h3, -, -⟩ := hrRule_ok hs
  unfold hrRule at hr
  simp only [hind, hline, hc, ok_bind, Int.not_le.mpr h4, hm, Nat.not_lt.mpr h3, not_true_eq_false,
    Bool.false_eq_true, ↓reduceIte] at hr
  obtain ⟨_, -, hr⟩ := bind_ok.mp hr
  cases hr
  rfl

theorem silent_implies_real_heading {s s1 s2 : BState} {b : Bool}
    (hs : headingRule s true = .ok (true, s1)) (hr : headingRule s false = .ok (b, s2)) : b = true := by
  obtain ⟨⟨⟩, -⟩ | ⟨ind, line, level, textPos, rest, hind, h4, hline, hhead, ha, -, -⟩ := headingRule_ok hs
  unfold headingRule at hr
  simp only [hind, hline, ha, ok_bind, Int.not_le.mpr h4, hhead, ne_eq, not_true_eq_false,
    Bool.false_eq_true, ↓reduceIte] at hr
  obtain ⟨_, -, hr⟩ := bind_ok.mp hr
  obtain ⟨_, -, hr⟩ := bind_ok.mp hr
  obtain ⟨_, -, hr⟩ := bind_ok.mp hr
  cases hr
  rfl

theorem silent_implies_real_fence {s s1 s2 : BState} {b : Bool}
    (hs : fenceRule s true = .ok (true, s1)) (hr : fenceRule s false = .ok (b, s2)) : b = true := by
  obtain ⟨⟨⟩, -⟩ | ⟨ind, marker, rest, params, hind, h4, hline, hm, h3, hparams, hbt, -, -⟩ := fenceRule_ok hs
  unfold fenceRule at hr
  simp only [hind, hline, hparams, ok_bind, Int.not_le.mpr h4, hm, Nat.not_lt.mpr h3, hbt,
    not_true_eq_false, Bool.false_eq_true, ↓reduceIte] at hr
  obtain ⟨⟨_, _⟩, -, hr⟩ := bind_ok.mp hr
  obtain ⟨_, -, hr⟩ := bind_ok.mp hr
  obtain ⟨⟨_, _⟩, -, hr⟩ := bind_ok.mp hr
  obtain ⟨_, -, hr⟩ := bind_ok.mp hr
  obtain ⟨_, -, hr⟩ := bind_ok.mp hr
  cases hr
  rfl

theorem silent_implies_real_blockquote {tok : Tok} {test : Test} {fuel : Nat} {s s1 s2 : BState}
    {b : Bool} (hs : blockquoteRule tok test fuel s true = .ok (true, s1))
    (hr : blockquoteRule tok test fuel s false = .ok (b, s2)) : b = true := by
  obtain ⟨⟨⟩, -⟩ | ⟨ind, line, hind, h4, hline, hhead, -, -⟩ := blockquoteRule_ok hs
  unfold blockquoteRule at hr
  simp only [hind, hline, ok_bind, Int.not_le.mpr h4, hhead, ne_eq, not_true_eq_false,
    Bool.false_eq_true, ↓reduceIte] at hr
  obtain ⟨⟨_, _, _⟩, -, hr⟩ := bind_ok.mp hr
  obtain ⟨_, -, hr⟩ := bind_ok.mp hr
  obtain ⟨_, -, hr⟩ := bind_ok.mp hr
  obtain ⟨_, -, hr⟩ := bind_ok.mp hr
  obtain ⟨_, -, hr⟩ := bind_ok.mp hr
  obtain ⟨_, -, hr⟩ := bind_ok.mp hr
  cases hr
  rfl

theorem silent_implies_real_list {tok : Tok} {test : Test} {fuel : Nat} {s s1 s2 : BState} {b : Bool}
    (hs : listRule tok test fuel s true = .ok (true, s1))
    (hr : listRule tok test fuel s false = .ok (b, s2)) : b = true := by
  obtain ⟨⟨⟩, -⟩ | ⟨ind, cur, pos, mv, -, hind, h4, hsp, hcur, hdet, -, -, -, -⟩ := listRule_ok hs
  unfold listRule at hr
  simp only [hind, hsp, hcur, hdet, ok_bind, Int.not_le.mpr h4, emptyItemCheck, Bool.false_eq_true,
    false_and, decide_false, Bool.false_and, ↓reduceIte, pure, Except.pure] at hr
  obtain ⟨_, -, hr⟩ := bind_ok.mp hr
  obtain ⟨⟨_, _, _⟩, -, hr⟩ := bind_ok.mp hr
  obtain ⟨_, -, hr⟩ := bind_ok.mp hr
  obtain ⟨_, -, hr⟩ := bind_ok.mp hr
  obtain ⟨_, -, hr⟩ := bind_ok.mp hr
  obtain ⟨_, -, hr⟩ := bind_ok.mp hr
  cases hr
  rfl

/-- the same for a rule as the chain runs it -/
theorem silent_implies_real_rule {cfg : Cfg} {tok : Tok} {test : Test} {fuel : Nat} {r : RuleId}
    {s s1 s2 : BState} {b : Bool} (hs : runRule cfg tok test fuel r s true = .ok (true, s1))
    (hr : runRule cfg tok test fuel r s false = .ok (b, s2)) : b = true := by
  cases r <;> simp only [runRule] at hs hr
  · simp [silent_false_code] at hs
  · exact silent_implies_real_fence hs hr
  · exact silent_implies_real_blockquote hs hr
  · exact silent_implies_real_hr hs hr
  · exact silent_implies_real_list hs hr
  · simp [silent_false_reference] at hs
  · exact silent_implies_real_heading hs hr
  · simp [silent_false_lheading] at hs
  · simp [silent_false_paragraph] at hs

/-! ## 5. the paragraph scan hands the state back; a container that answers `false` leaves the state alone -/

theorem lazyScan_spec {test : Test} (ht : TestPure test) {setext : Bool} {fuel : Nat} {s s' : BState}
    {n m lvl : Nat} (h : lazyScan test setext fuel s n = .ok (m, lvl, s')) :
    s' = s ∧ n < m ∧ (n < s.lineMax → m ≤ s.lineMax) ∧ (lvl ≠ 0 → m < s.lineMax) := by
  induction fuel generalizing s n with
  | zero => cases h
  | succ f ih =>
    obtain ⟨-, rfl, rfl, rfl⟩ | ⟨ind, hgo, -, hcases⟩ := lazyScan_ok h
    · exact ⟨rfl, Nat.lt_succ_self _, fun h => h, fun h => absurd rfl h⟩
    have hlt : n + 1 < s.lineMax := Nat.not_le.mp fun h => hgo (.inl h)
    -- the scan goes on behind line `n + 1`
    have step : lazyScan test setext f s (n + 1) = .ok (m, lvl, s') →
        s' = s ∧ n < m ∧ (n < s.lineMax → m ≤ s.lineMax) ∧ (lvl ≠ 0 → m < s.lineMax) := by
      intro hrec
      obtain ⟨h1, h2, h3, h4⟩ := ih hrec
      exact ⟨h1, Nat.lt_of_succ_lt h2, fun _ => h3 hlt, h4⟩
    have stop : n < n + 1 ∧ (n < s.lineMax → n + 1 ≤ s.lineMax) :=
      ⟨Nat.lt_succ_self _, fun _ => Nat.le_of_lt hlt⟩
    rcases hcases with ⟨-, hrec⟩ | ⟨l, -, -, ⟨-, rfl, rfl, rfl⟩ | ⟨o, -, -, ⟨-, hrec⟩ |
      ⟨t, S, -, htest, ⟨-, rfl, rfl, rfl⟩ | ⟨-, hrec⟩⟩⟩⟩
    · exact step hrec
    · exact ⟨rfl, stop.1, stop.2, fun _ => hlt⟩
    · exact step hrec
    · cases (ht _ _ htest : S = { s with line := n + 1 })
      exact ⟨set_line_back s _, stop.1, stop.2, fun h => absurd rfl h⟩
    · cases (ht _ _ htest : S = { s with line := n + 1 })
      rw [set_line_back] at hrec
      exact step hrec

theorem real_false_same_blockquote {tok : Tok} {test : Test} {fuel : Nat} {s s' : BState}
    (h : blockquoteRule tok test fuel s false = .ok (false, s')) : s' = s := by
  obtain ⟨-, h⟩ | ⟨_, _, -, -, -, -, ⟨⟩, -⟩ := blockquoteRule_ok h
  exact h

theorem real_false_same_list {tok : Tok} {test : Test} {fuel : Nat} {s s' : BState}
    (h : listRule tok test fuel s false = .ok (false, s')) : s' = s := by
  obtain ⟨-, h⟩ | ⟨_, _, _, _, -, -, -, -, -, -, -, -, ⟨⟩, -⟩ := listRule_ok h
  exact h

/-- the paragraph rule never answers `false` in real mode -/
theorem real_true_paragraph {test : Test} {fuel : Nat} {s s' : BState} {b : Bool}
    (h : paragraphRule test fuel s false = .ok (b, s')) : b = true := by
  obtain ⟨⟨⟩, -⟩ | ⟨_, _, _, _, _, _, -, -, -, -, -, hb, -⟩ := paragraphRule_ok h
  exact hb

/-! ## 6. what no rule changes; what the nested tokenizer must satisfy -/

/-- the part of the state that every rule and every tokenizer call hands back as it found it
    (containers rewrite `offs`, `blkIndent`, `lineMax`, `listIndent`, `level`, `node` — and restore) -/
structure Frame (s s' : BState) : Prop where
  src : s'.src = s.src
  offs : s'.offs = s.offs
  lineMax : s'.lineMax = s.lineMax
  blkIndent : s'.blkIndent = s.blkIndent
  listIndent : s'.listIndent = s.listIndent
  level : s'.level = s.level
  nodeKind : s'.nodeKind = s.nodeKind

theorem Frame.refl (s : BState) : Frame s s := ⟨rfl, rfl, rfl, rfl, rfl, rfl, rfl⟩

theorem Frame.trans {a b c : BState} (h1 : Frame a b) (h2 : Frame b c) : Frame a c :=
  ⟨h2.src.trans h1.src, h2.offs.trans h1.offs, h2.lineMax.trans h1.lineMax,
   h2.blkIndent.trans h1.blkIndent, h2.listIndent.trans h1.listIndent, h2.level.trans h1.level,
   h2.nodeKind.trans h1.nodeKind⟩

/-! ### the table invariant -/

/-- an entry of the line table cuts a line-feed-free line `a ++ b` out of the source, with
    `first_nonspace` at the boundary between `a` and `b` -/
def LineOk (src : List Char) (o : LineOffset) : Prop :=
  ∃ p a b q, src = p ++ a ++ b ++ q ∧ Lines.byteLen p = o.lineStart ∧
    o.firstNonspace = o.lineStart + Lines.byteLen a ∧
    o.lineEnd = o.lineStart + Lines.byteLen a + Lines.byteLen b ∧ '\n' ∉ a ∧ '\n' ∉ b

/-- every entry of the table is `LineOk` (containers move `first_nonspace` only along the line) -/
def TableOk (s : BState) : Prop := ∀ (k : Nat) (o : LineOffset), s.offs[k]? = some o → LineOk s.src o

theorem TableOk.of_frame {s s' : BState} (h : TableOk s) (hf : Frame s s') : TableOk s' := by
  intro k o ho
  rw [hf.offs] at ho
  rw [hf.src]
  exact h k o ho

/-- the rewriting both containers perform: `first_nonspace := line_start + fn` with `fn` returned by
    `find_indent_of(&src[line_start..line_end], rel)`; `indent_nonspace` is arbitrary -/
theorem lineOk_rewrite {src : List Char} {o : LineOffset} (h : LineOk src o) {ltxt : List Char}
    (hl' : Lines.slice src o.lineStart o.lineEnd = .ok ltxt) {rel ind fn : Nat}
    (hf' : Lines.findIndentOf ltxt rel = .ok (ind, fn)) (x : Int) :
    LineOk src { o with firstNonspace := fn + o.lineStart, indentNonspace := x } := by
  obtain ⟨p, a, b, q, hsrc, hp, hfn, hle, ha, hb⟩ := h
  -- `ltxt = a ++ b`
  have hab : Lines.slice src o.lineStart o.lineEnd = .ok (a ++ b) := by
    refine Lines.slice_eq_ok_iff.mpr ⟨p, q, by rw [hsrc]; simp, hp, ?_⟩
    simp; omega
  rw [hab] at hl'
  cases hl'
  obtain ⟨_, _, hbd, _, _⟩ := Lines.find_indent_bounds _ _ _ _ hf'
  obtain ⟨a', b', hab', hfa⟩ := Lines.onBoundary_iff.mp hbd
  have hmem : ∀ c, c ∈ a' ∨ c ∈ b' → c ∈ a ∨ c ∈ b := by
    intro c hc
    have : c ∈ a ++ b := by rw [hab']; simpa using hc
    simpa using this
  refine ⟨p, a', b', q, ?_, hp, ?_, ?_, ?_, ?_⟩
  · rw [hsrc]; simp only [List.append_assoc]; rw [← List.append_assoc a b, hab']; simp
  · simp; omega
  · have := congrArg Lines.byteLen hab'
    simp at this ⊢; omega
  · intro hc; rcases hmem _ (.inl hc) with h | h; exact ha h; exact hb h
  · intro hc; rcases hmem _ (.inr hc) with h | h; exact ha h; exact hb h

theorem TableOk.setOff {s s' : BState} {m : Nat} {x : LineOffset} (h : TableOk s)
    (hs : s.setOff m x = .ok s') (hx : LineOk s.src x) : TableOk s' := by
  obtain ⟨hm, rfl⟩ := setOff_ok hs
  intro k o ho
  simp only [List.getElem?_set] at ho
  split at ho
  · simp at ho; subst ho; exact hx
  · exact h k o ho

/-- changing `indent_nonspace` only -/
theorem LineOk.indent {src : List Char} {o : LineOffset} (h : LineOk src o) (x : Int) :
    LineOk src { o with indentNonspace := x } := h

/-- the table of a fresh state -/
theorem tableOk_fresh (src : List Char) (k : Kind) (refs : Refs.RefMap) :
    TableOk (BState.fresh src k refs) := by
  intro i o ho
  simp only [BState.fresh] at ho ⊢
  obtain ⟨A, lt, B, _, _, rfl, hsrc, hnt, _⟩ := Lines.split_entry ho
  have hl := Lines.lead_append_rest lt.1
  refine ⟨Lines.flat A, Lines.lead lt.1, lt.1.dropWhile Lines.isBlank, lt.2 ++ Lines.flat B, ?_, ?_, ?_, ?_, ?_, ?_⟩
  · conv => lhs; rw [hsrc, ← hl]
    simp [List.append_assoc]
  · simp [Lines.mkOff]
  · simp [Lines.mkOff, Lines.byteLen_lead]
  · have := congrArg Lines.byteLen hl
    simp [Lines.byteLen_lead] at this
    simp [Lines.mkOff, Lines.byteLen_lead]; omega
  · intro hc
    exact (hnt _ ((List.takeWhile_sublist _).subset hc)).1 rfl
  · intro hc
    exact (hnt _ ((List.dropWhile_sublist _).subset hc)).1 rfl

/-- the block-quote rewriting of an entry keeps it `LineOk` and leaves a non-negative indent -/
theorem bqRewrite_spec {src : List Char} {o o' : LineOffset} {rest : List Char} {le : Bool}
    (h : bqRewrite src o rest = .ok (o', le)) :
    (LineOk src o → LineOk src o') ∧ 0 ≤ o'.indentNonspace := by
  obtain ⟨ltxt, ind, fn, ia, hlt, -, hf, -, -, rfl⟩ := bqRewrite_ok h
  exact ⟨fun hl => lineOk_rewrite hl hlt hf _, by simp⟩

/-- the list-item rewriting of an entry keeps it `LineOk`; the item's first line is then blank or at
    a non-negative indent relative to the item's content indent -/
theorem itemRewrite_spec {src : List Char} {o o' : LineOffset} {pos indent : Nat} {re : Bool}
    (h : itemRewrite src o pos = .ok (o', indent, re)) :
    (LineOk src o → LineOk src o') ∧
    (o'.firstNonspace ≥ o'.lineEnd ∨ (indent : Int) ≤ o'.indentNonspace) := by
  obtain ⟨ltxt, ind, fn, -, hlt, -, hle, hf, rfl, rfl, rfl⟩ := itemRewrite_ok h
  refine ⟨fun hl => lineOk_rewrite hl hlt hf _, ?_⟩
  by_cases hre : (fn == o.lineEnd - o.lineStart) = true
  · left
    simp at hre
    simp [hre]; omega
  · right
    have h4 : (if ind > 4 then 1 else ind) ≤ ind := by split <;> omega
    simp only [hre, if_false, Bool.false_eq_true]
    generalize (if ind > 4 then 1 else ind) = k at h4
    omega

/-- `0 ≤ line_indent(line)`, the condition under which the tokenizer runs the chain -/
def IndentOk (s : BState) : Prop := ∃ i, s.lineIndent s.line = .ok i ∧ 0 ≤ i

/-- what the theorems about the container rules need of the nested tokenizer -/
structure TokSpec (tok : Tok) : Prop where
  frame : ∀ s s', tok s = .ok s' → Frame s s'
  mono : ∀ s s', tok s = .ok s' → s.line ≤ s'.line
  upper : ∀ s s', tok s = .ok s' → TableOk s → s.line ≤ s.lineMax → s'.line ≤ s.lineMax
  strict : ∀ s s', tok s = .ok s' → s.line < s.lineMax →
    (s.isEmpty s.line = true ∨ IndentOk s) → s.line < s'.line

/-- a rule answered `true` in real mode: the frame is intact, `line` moved forward and (on a table
    that satisfies the invariant) not beyond `line_max` -/
structure Advanced (s s' : BState) : Prop where
  frame : Frame s s'
  lt : s.line < s'.line
  le : TableOk s → s'.line ≤ s.lineMax

/-! ## 7. progress of the nine rules; what the seven rules that do not nest do -/

theorem codeScan_spec (s : BState) (n last r : Nat) (h : codeScan s n last = .ok r) (hn : last ≤ n) :
    last ≤ r ∧ (last ≤ s.lineMax → r ≤ s.lineMax) := by
  fun_induction codeScan s n last <;> simp_all <;> omega

theorem fenceScan_spec (s : BState) (marker : Char) (len n : Nat) (a : Nat) (b : Bool)
    (h : fenceScan s marker len n = .ok (a, b)) (hn : n < s.lineMax) :
    n < a ∧ a ≤ s.lineMax ∧ (b = true → a < s.lineMax) := by
  fun_induction fenceScan s marker len n
  -- a read failed; or the scan stops at the next line; or it goes on behind the next line
  all_goals first
    | (cases h; done)
    | (cases h; exact ⟨Nat.lt_succ_self _, by omega, fun hb => by first | omega | cases hb⟩)
    | (rename_i ih; obtain ⟨h1, h2, h3⟩ := ih h (by omega); exact ⟨by omega, h2, h3⟩)

/-! ### block quote -/

theorem restoreOffs_set_comm (j : Nat) (x : LineOffset) :
    ∀ (add l : List LineOffset) (i : Nat) (r : List LineOffset), j < i →
      restoreOffs l i add = .ok r → restoreOffs (l.set j x) i add = .ok (r.set j x) := by
  intro add
  induction add with
  | nil => intro l i r _ h; simp [restoreOffs] at h ⊢; rw [h]
  | cons o add ih =>
    intro l i r hj h
    simp only [restoreOffs, List.length_set] at h ⊢
    split at h
    · rename_i hi
      rw [if_pos hi, List.set_comm _ _ (by omega)]
      exact ih _ _ _ (by omega) h
    · cases h

/-- everything but `offs` and `line` is the same -/
structure SameBut (s s' : BState) : Prop where
  src : s'.src = s.src
  blkIndent : s'.blkIndent = s.blkIndent
  lineMax : s'.lineMax = s.lineMax
  tight : s'.tight = s.tight
  listIndent : s'.listIndent = s.listIndent
  level : s'.level = s.level
  nodeKind : s'.nodeKind = s.nodeKind
  children : s'.children = s.children
  refs : s'.refs = s.refs
  len : s'.offs.length = s.offs.length

theorem SameBut.refl (s : BState) : SameBut s s := ⟨rfl, rfl, rfl, rfl, rfl, rfl, rfl, rfl, rfl, rfl⟩
theorem SameBut.trans {a b c : BState} (h1 : SameBut a b) (h2 : SameBut b c) : SameBut a c :=
  ⟨h2.src.trans h1.src, h2.blkIndent.trans h1.blkIndent, h2.lineMax.trans h1.lineMax,
   h2.tight.trans h1.tight, h2.listIndent.trans h1.listIndent, h2.level.trans h1.level,
   h2.nodeKind.trans h1.nodeKind, h2.children.trans h1.children, h2.refs.trans h1.refs,
   h2.len.trans h1.len⟩

theorem sameBut_setOff {s s' : BState} {i : Nat} {o : LineOffset} (h : s.setOff i o = .ok s') :
    SameBut s s' := by
  obtain ⟨_, rfl⟩ := setOff_ok h
  exact ⟨rfl, rfl, rfl, rfl, rfl, rfl, rfl, rfl, rfl, by simp⟩

theorem sameBut_line (s : BState) (n : Nat) : SameBut s { s with line := n } :=
  ⟨rfl, rfl, rfl, rfl, rfl, rfl, rfl, rfl, rfl, rfl⟩

/-- one entry saved, one entry rewritten, the rest of the scan restorable ⇒ the whole restorable -/
theorem restore_step {offs offs' : List LineOffset} {m : Nat} {o x : LineOffset} {add : List LineOffset}
    (ho : offs[m]? = some o) (hlen : offs'.length = offs.length)
    (h : restoreOffs offs' (m + 1) add = .ok (offs.set m x)) :
    restoreOffs offs' m (o :: add) = .ok offs := by
  have hm : m < offs.length := (List.getElem?_eq_some_iff.mp ho).1
  simp only [restoreOffs]
  rw [if_pos (by omega)]
  have := restoreOffs_set_comm m o add offs' (m + 1) _ (by omega) h
  rw [this, List.set_set]
  congr 1
  have := (List.getElem?_eq_some_iff.mp ho).2
  rw [← this]
  exact List.set_getElem_self _

/-- what a block-quote scan from line `m` with saved entries `old` returns: only `offs` and `line` differ,
    `m ≤ n` (and `n ≤ lineMax` when `m` is), the entries below `m` are untouched, the table invariant
    survives, and what was added to `old` restores the table from line `m` on -/
def BqPost (S : BState) (m : Nat) (old : List LineOffset) (n : Nat) (old' : List LineOffset)
    (S' : BState) : Prop :=
  SameBut S S' ∧ m ≤ n ∧ (m ≤ S.lineMax → n ≤ S.lineMax) ∧
    (∀ i, i < m → S'.offs[i]? = S.offs[i]?) ∧ (TableOk S → TableOk S') ∧
    ∃ add, old' = old ++ add ∧ restoreOffs S'.offs m add = .ok S.offs

theorem bq_stop (S : BState) (m : Nat) (old : List LineOffset) : BqPost S m old m old S :=
  ⟨SameBut.refl _, Nat.le_refl _, fun h => h, fun _ _ => rfl, fun h => h, [], by simp, rfl⟩

/-- line `m` is saved and rewritten, the scan goes on behind it -/
theorem bq_step {S S1 S' : BState} {m n : Nat} {o x : LineOffset} {old old' : List LineOffset}
    (hset : S.setOff m x = .ok S1) (ho : S.off m = .ok o) (hlt : m < S.lineMax)
    (hx : TableOk S → LineOk S.src x)
    (ih : BqPost S1 (m + 1) (old ++ [o]) n old' S') : BqPost S m old n old' S' := by
  obtain ⟨h1, h2, h3, h4, h7, add, h5, h6⟩ := ih
  have h7' : TableOk S → TableOk S' := fun h => h7 (h.setOff hset (hx h))
  have hsb := sameBut_setOff hset
  obtain ⟨hm, rfl⟩ := setOff_ok hset
  have ho := off_ok ho
  refine ⟨hsb.trans h1, by omega, fun _ => h3 (by simp; omega), ?_, h7', o :: add, by simp [h5], ?_⟩
  · intro i hi
    rw [h4 i (by omega)]
    simp [List.getElem?_set]; omega
  · exact restore_step ho (by simpa using h1.len) h6

/-- the scan stops at line `m`, which is saved and rewritten (a terminating rule under a non-zero
    block indent) -/
theorem bq_last {S S1 : BState} {m : Nat} {o x : LineOffset} {old : List LineOffset}
    (hset : S.setOff m x = .ok S1) (ho : S.off m = .ok o) (hx : TableOk S → LineOk S.src x) :
    BqPost S m old m (old ++ [o]) S1 := by
  have hsb := sameBut_setOff hset
  have h7 : TableOk S → TableOk S1 := fun h => h.setOff hset (hx h)
  obtain ⟨hm, rfl⟩ := setOff_ok hset
  have ho := off_ok ho
  refine ⟨hsb, Nat.le_refl _, fun h => h, ?_, h7, [o], rfl, ?_⟩
  · intro i hi
    simp [List.getElem?_set]; omega
  · exact restore_step (x := x) ho (by simp) (by simp [restoreOffs])

theorem BqPost.of_line {S : BState} {k m n : Nat} {old old' : List LineOffset} {S' : BState}
    (h : BqPost { S with line := k } m old n old' S') : BqPost S m old n old' S' := by
  obtain ⟨h1, h2, h3, h4, h5⟩ := h
  exact ⟨(sameBut_line S k).trans h1, h2, h3, h4, h5⟩

theorem bqScan_spec {test : Test} (ht : TestPure test) :
    ∀ (fuel : Nat) (S : BState) (m : Nat) (old : List LineOffset) (le : Bool)
      (n : Nat) (old' : List LineOffset) (S' : BState),
      bqScan test fuel S m old le = .ok (n, old', S') → BqPost S m old n old' S' := by
  intro fuel
  induction fuel with
  | zero => intro S m old le n old' S' h; cases h
  | succ f ih =>
    intro S m old le n old' S' h
    obtain ⟨-, rfl, rfl, rfl⟩ | ⟨ind, line, hlt, -, -, hc⟩ := bqScan_ok h
    · exact bq_stop _ _ _
    rcases hc with ⟨-, rfl, rfl, rfl⟩ | ⟨c, rest, -, ⟨-, -, o, o', le', S1, ho, hrw, hS1, hrec⟩ |
      ⟨-, ⟨-, rfl, rfl, rfl⟩ | ⟨t, S1, -, htest, hc⟩⟩⟩
    · exact bq_stop _ _ _
    · exact bq_step hS1 ho hlt (fun hT => (bqRewrite_spec hrw).1 (hT _ _ (off_ok ho)))
        (ih _ _ _ _ _ _ _ hrec)
    · exact bq_stop _ _ _
    · cases (ht _ _ htest : S1 = { S with line := m })
      refine BqPost.of_line (k := m) ?_
      rcases hc with ⟨-, -, rfl, rfl, rfl⟩ | ⟨-, -, o, ho, hset, rfl, rfl⟩ | ⟨-, o, S2, ho, hset, hrec⟩
      · exact bq_stop _ _ _
      · -- a terminating rule, `blk_indent ≠ 0`
        exact bq_last hset ho (fun hT => (hT _ _ (off_ok ho)).indent _)
      · exact bq_step hset ho hlt (fun hT => (hT _ _ (off_ok ho)).indent _) (ih _ _ _ _ _ _ _ hrec)

/-- the first line of a quote (`>` at a non-negative indent) takes the `>` arm: its entry is saved and
    rewritten, the scan goes on behind it -/
theorem bqScan_head {test : Test} {fuel : Nat} {S : BState} {m : Nat} {old : List LineOffset} {le : Bool}
    {n : Nat} {old' : List LineOffset} {S' : BState} (h : bqScan test fuel S m old le = .ok (n, old', S'))
    (hlt : m < S.lineMax) {i : Int} (hi : S.lineIndent m = .ok i) (hi0 : 0 ≤ i) {line : List Char}
    (hline : S.getLine m = .ok line) (hhead : line.head? = some '>') :
    ∃ f rest o o' le' S1, fuel = f + 1 ∧ line = '>' :: rest ∧ S.off m = .ok o ∧
      bqRewrite S.src o rest = .ok (o', le') ∧ S.setOff m o' = .ok S1 ∧
      bqScan test f S1 (m + 1) (old ++ [o]) le' = .ok (n, old', S') := by
  cases fuel with
  | zero => cases h
  | succ f =>
    obtain ⟨hge, -⟩ | ⟨ind, line', -, hind, hline', hc⟩ := bqScan_ok h
    · exact absurd hlt hge
    cases hi.symm.trans hind
    cases hline.symm.trans hline'
    rcases hc with ⟨rfl, -⟩ | ⟨c, rest, rfl, ⟨rfl, -, o, o', le', S1, ho, hrw, hS1, hrec⟩ | ⟨hno, -⟩⟩
    · cases hhead
    · exact ⟨f, rest, o, o', le', S1, rfl, rfl, ho, hrw, hS1, hrec⟩
    · exact absurd ⟨by simpa using hhead, hi0⟩ hno

/-- … so the scan gets past it and leaves a non-negative `indent_nonspace` there -/
theorem bqScan_first {test : Test} (ht : TestPure test) {fuel : Nat} {S : BState} {m : Nat}
    {old : List LineOffset} {le : Bool} {n : Nat} {old' : List LineOffset} {S' : BState}
    (h : bqScan test fuel S m old le = .ok (n, old', S')) (hlt : m < S.lineMax)
    {i : Int} (hi : S.lineIndent m = .ok i) (hi0 : 0 ≤ i) {line : List Char}
    (hline : S.getLine m = .ok line) (hhead : line.head? = some '>') :
    m < n ∧ ∃ o, S'.offs[m]? = some o ∧ 0 ≤ o.indentNonspace := by
  obtain ⟨f, rest, o, o', le', S1, -, -, -, hrw, hS1, hrec⟩ := bqScan_head h hlt hi hi0 hline hhead
  obtain ⟨hm, rfl⟩ := setOff_ok hS1
  obtain ⟨_, h2, _, h4, _, _⟩ := bqScan_spec ht _ _ _ _ _ _ _ _ hrec
  refine ⟨by omega, ?_⟩
  rw [h4 m (by omega)]
  simp [hm]
  exact (bqRewrite_spec hrw).2

theorem lineIndent_of_off {s : BState} {m : Nat} {o : LineOffset} (h : s.offs[m]? = some o) :
    s.lineIndent m = .ok (o.indentNonspace - (s.blkIndent : Int)) := by
  simp [BState.lineIndent, Lines.lineIndent, h, liftL]

theorem blockquote_advanced {tok : Tok} {test : Test} (hk : TokSpec tok) (ht : TestPure test)
    {fuel : Nat} {s s' : BState} (h : blockquoteRule tok test fuel s false = .ok (true, s'))
    (hl : s.line < s.lineMax) (hi : IndentOk s) : Advanced s s' := by
  obtain ⟨i, hi, hi0⟩ := hi
  obtain ⟨⟨⟩, -⟩ | ⟨_, line, -, -, hline, hhead, -, ⟨⟨⟩, -⟩ |
    ⟨-, n, old, S, S2, offs, r, hscan, htok, hlvl, hoffs, -, -, rfl⟩⟩ := blockquoteRule_ok h
  obtain ⟨hsb, hmn, hup, -, hT, add, hadd, hrest⟩ := bqScan_spec ht _ _ _ _ _ _ _ _ hscan
  obtain ⟨hlt, o, ho, ho0⟩ := bqScan_first ht hscan hl hi hi0 hline hhead
  have hfr := hk.frame _ _ htok
  have hstrict := hk.strict _ _ htok hlt (Or.inr ⟨_, lineIndent_of_off ho, by simpa using ho0⟩)
  have hupper := fun h => hk.upper _ _ htok h hmn
  cases (List.nil_append add).symm.trans hadd.symm
  rw [show S2.offs = S.offs from hfr.offs, hrest] at hoffs
  cases hoffs
  refine ⟨⟨hfr.src.trans hsb.src, rfl, hsb.lineMax, hsb.blkIndent, hfr.listIndent.trans hsb.listIndent, ?_,
    hsb.nodeKind⟩, hstrict, fun hTs => Nat.le_trans (hupper (hT hTs)) (hup (Nat.le_of_lt hl))⟩
  show S2.level - 1 = s.level
  rw [show S2.level = S.level + 1 from hfr.level, hsb.level]
  rfl

/-! ### list -/

theorem listItemBody_frame {tok : Tok} (hk : TokSpec tok) {s s' : BState} {m : Nat} {re : Bool}
    (h : listItemBody tok s m re = .ok s') : Frame s s' := by
  obtain ⟨-, -, rfl⟩ | ⟨-, S2, htok, -, rfl⟩ := listItemBody_ok h
  · exact ⟨rfl, rfl, rfl, rfl, rfl, rfl, rfl⟩
  · have hf := hk.frame _ _ htok
    exact ⟨hf.src, hf.offs, hf.lineMax, hf.blkIndent, hf.listIndent,
      by rw [show S2.level = s.level + 1 from hf.level]; rfl, hf.nodeKind⟩

theorem listItem_frame {tok : Tok} (hk : TokSpec tok) {s s' : BState} {m pos : Nat}
    {pee tight pee' tight' : Bool} (h : listItem tok s m pos pee tight = .ok (s', tight', pee')) :
    Frame s s' := by
  obtain ⟨o, o', indent, re, S3, li, r, ho, -, hm, hbody, -, -, hli, -, -, -, rfl⟩ := listItem_ok h
  have hf := listItemBody_frame hk hbody
  have hli' : some li = some s.blkIndent := hli.symm.trans hf.listIndent
  refine ⟨hf.src, ?_, hf.lineMax, Option.some.inj hli', rfl, hf.level, rfl⟩
  show S3.offs.set m o = s.offs
  rw [hf.offs]
  show (s.offs.set m o').set m o = s.offs
  rw [List.set_set, ← (List.getElem?_eq_some_iff.mp (off_ok ho)).2]
  exact List.set_getElem_self _

theorem listItemBody_spec {tok : Tok} (hk : TokSpec tok) {S2 S3 : BState} {m : Nat} {reachedEnd : Bool}
    (h : listItemBody tok S2 m reachedEnd = .ok S3) (hline : S2.line = m) (hlt : m < S2.lineMax)
    (hcond : S2.isEmpty m = true ∨ IndentOk { S2 with line := m }) :
    Frame S2 S3 ∧ m < S3.line ∧ (TableOk S2 → S3.line ≤ S2.lineMax) := by
  refine ⟨listItemBody_frame hk h, ?_⟩
  obtain ⟨-, -, rfl⟩ | ⟨-, S, htok, -, rfl⟩ := listItemBody_ok h
  · subst hline
    show S2.line < (if S2.line + 2 < S2.lineMax then S2.line + 2 else S2.lineMax) ∧
      (_ → (if S2.line + 2 < S2.lineMax then S2.line + 2 else S2.lineMax) ≤ S2.lineMax)
    split <;> omega
  · exact ⟨hk.strict _ _ htok hlt hcond,
      fun hT => hk.upper { S2 with line := m, level := S2.level + 1 } S htok hT (Nat.le_of_lt hlt)⟩

theorem isEmpty_of_off {s : BState} {m : Nat} {o : LineOffset} (h : s.offs[m]? = some o)
    (he : o.firstNonspace ≥ o.lineEnd) : s.isEmpty m = true := by
  simp [BState.isEmpty, Lines.isEmpty, h, he]

theorem item_cond {S2 : BState} {m : Nat} {x : LineOffset} (hx : S2.offs[m]? = some x)
    (h : x.firstNonspace ≥ x.lineEnd ∨ (S2.blkIndent : Int) ≤ x.indentNonspace) :
    S2.isEmpty m = true ∨ IndentOk { S2 with line := m } := by
  rcases h with h | h
  · left; exact isEmpty_of_off hx h
  · right
    exact ⟨_, lineIndent_of_off (s := { S2 with line := m }) hx, by simp; omega⟩

theorem listItem_spec {tok : Tok} (hk : TokSpec tok) {S S' : BState} {m pos : Nat} {pee tight pee' tight' : Bool}
    (h : listItem tok S m pos pee tight = .ok (S', tight', pee')) (hline : S.line = m)
    (hlt : m < S.lineMax) :
    Frame S S' ∧ m < S'.line ∧ (TableOk S → S'.line ≤ S.lineMax) := by
  refine ⟨listItem_frame hk h, ?_⟩
  obtain ⟨o, o', indent, re, S3, li, r, ho, hrw, hm, hbody, -, -, -, -, -, -, rfl⟩ := listItem_ok h
  obtain ⟨hok, hc⟩ := itemRewrite_spec hrw
  -- the item's first line in the nested state: empty, or at a non-negative indent
  obtain ⟨-, hlt', hle'⟩ := listItemBody_spec hk hbody hline hlt
    (item_cond (x := o') (by simp [hm]) hc)
  refine ⟨hlt', fun hT => hle' fun k x hx => ?_⟩
  rw [List.getElem?_set] at hx
  split at hx
  · simp only [Option.some.injEq] at hx
    subst hx
    exact hok (hT _ _ (off_ok ho))
  · exact hT k x hx

theorem listContinue_spec {test : Test} (ht : TestPure test) {ordered : Bool} {mc : Char}
    {S S' : BState} {n : Nat} {c : Option Nat} (h : listContinue test ordered mc S n = .ok (c, S')) :
    S' = S ∧ (c ≠ none → n < S.lineMax) := by
  obtain ⟨rfl, rfl | ⟨t, S1, htest, rfl⟩⟩ | ⟨ind, S1, cur, p, hn, -, -, -, htest, -, -, -, rfl, rfl⟩ :=
    listContinue_ok h
  · exact ⟨rfl, fun h => absurd rfl h⟩
  · cases (ht _ _ htest : S1 = S)
    exact ⟨rfl, fun h => absurd rfl h⟩
  · cases (ht _ _ htest : S1 = S)
    exact ⟨rfl, fun _ => hn⟩

theorem listLoop_spec {tok : Tok} {test : Test} (hk : TokSpec tok) (ht : TestPure test)
    {ordered : Bool} {mc : Char} :
    ∀ (fuel : Nat) (S : BState) (m pos : Nat) (pee tight : Bool) (n : Nat) (tight' : Bool) (S' : BState),
      listLoop tok test ordered mc fuel S m pos pee tight = .ok (n, tight', S') →
      S.line = m → m < S.lineMax →
      Frame S S' ∧ S'.line = n ∧ m < n ∧ (TableOk S → n ≤ S.lineMax) := by
  intro fuel
  induction fuel with
  | zero => intro S m pos pee tight n tight' S' h; cases h
  | succ f ih =>
    intro S m pos pee tight n tight' S' h hline hlt
    obtain ⟨hge, -, -, -⟩ | ⟨S1, t1, p1, c, S2, -, hitem, hcont, hc⟩ := listLoop_ok h
    · exact absurd hlt hge
    obtain ⟨hfr, h1, h2⟩ := listItem_spec hk hitem hline hlt
    obtain ⟨rfl, hc2⟩ := listContinue_spec ht hcont
    rcases hc with ⟨-, rfl, -, rfl⟩ | ⟨p, rfl, hrec⟩
    · exact ⟨hfr, rfl, h1, h2⟩
    · obtain ⟨hfr2, h3, h4, h5⟩ := ih _ _ _ _ _ _ _ _ hrec rfl (hc2 (by simp))
      exact ⟨hfr.trans hfr2, h3, Nat.lt_trans h1 h4, fun hT => hfr.lineMax ▸ h5 (hT.of_frame hfr)⟩

theorem list_advanced {tok : Tok} {test : Test} (hk : TokSpec tok) (ht : TestPure test)
    {fuel : Nat} {s s' : BState} (h : listRule tok test fuel s false = .ok (true, s'))
    (hl : s.line < s.lineMax) : Advanced s s' := by
  obtain ⟨⟨⟩, -⟩ | ⟨_, _, _, _, -, -, -, -, -, -, -, -, -, ⟨⟨⟩, -⟩ |
    ⟨-, mc, n, t, S, cs, r, -, hloop, -, -, -, -, rfl⟩⟩ := listRule_ok h
  obtain ⟨hfr, h1, h2, h3⟩ := listLoop_spec hk ht _ _ _ _ _ _ _ _ _ hloop rfl hl
  have hlevel : S.level - 1 = s.level := by
    rw [show S.level = s.level + 1 from hfr.level]; rfl
  exact ⟨⟨hfr.src, hfr.offs, hfr.lineMax, hfr.blkIndent, hfr.listIndent, hlevel, rfl⟩, h1 ▸ h2,
    fun hT => h1 ▸ h3 (fun k o ho => hT k o ho)⟩

/-! ### reference: `state.line = start_line + lines + 1` stays within the lines read -/

/-- number of line feeds -/
def nl (l : List Char) : Nat := l.count '\n'

@[simp] theorem nl_nil : nl [] = 0 := rfl
@[simp] theorem nl_append (a b : List Char) : nl (a ++ b) = nl a + nl b := by simp [nl]
theorem nl_cons (c : Char) (r : List Char) : nl (c :: r) = (if c = '\n' then 1 else 0) + nl r := by
  simp only [nl, List.count_cons]
  by_cases h : c = '\n' <;> simp [h] <;> omega

/-- of two prefixes of a text the one that is shorter in bytes is a prefix of the other -/
theorem prefix_of_le : ∀ (p p' q q' : List Char), p ++ q = p' ++ q' →
    Link.byteLen p ≤ Link.byteLen p' → ∃ u, p' = p ++ u := by
  intro p
  induction p with
  | nil => intro p' _ _ _ _; exact ⟨p', rfl⟩
  | cons c t ih =>
    intro p' q q' h hl
    cases p' with
    | nil => have := Link.clen_pos c; simp [Link.byteLen] at hl; omega
    | cons c' t' =>
      simp only [List.cons_append, List.cons.injEq] at h
      obtain ⟨rfl, h⟩ := h
      obtain ⟨u, hu⟩ := ih t' q q' h (by simp [Link.byteLen] at hl; omega)
      exact ⟨u, by simp [hu]⟩

/-- "`l` line feeds have been counted, all of them before byte `p` of `str`" -/
def Pref (str : List Char) (p l : Nat) : Prop :=
  ∃ pre suf, str = pre ++ suf ∧ Link.byteLen pre = p ∧ l ≤ nl pre

theorem Pref.le_total {str : List Char} {p l : Nat} (h : Pref str p l) : l ≤ nl str := by
  obtain ⟨pre, suf, rfl, _, hl⟩ := h
  simp; omega

/-- moving the position forward to another boundary keeps the count valid -/
theorem Pref.forward {str : List Char} {p l p' : Nat} (h : Pref str p l) (hp : p ≤ p')
    (hb : Link.Boundary str p') : Pref str p' l := by
  obtain ⟨pre, suf, rfl, hpl, hl⟩ := h
  obtain ⟨pre', post', hs, hpl'⟩ := hb
  obtain ⟨u, rfl⟩ := prefix_of_le pre pre' suf post' hs (by omega)
  exact ⟨pre ++ u, post', hs, hpl', by simp; omega⟩

/-- counting the line feeds of a slice that starts at the position -/
theorem Pref.slice {str : List Char} {p l p' : Nat} {mid : List Char} (h : Pref str p l)
    (hs : Link.slice str p p' = .ok mid) : Pref str p' (l + nl mid) := by
  obtain ⟨pre, suf, hstr, hpl, hl⟩ := h
  obtain ⟨pre', post, hstr', ha, hb⟩ := (Link.slice_ok_iff _ _ _ _).1 hs
  have h1 : pre ++ suf = pre' ++ (mid ++ post) := by rw [← hstr, hstr']; simp
  obtain ⟨u, hu⟩ := prefix_of_le pre pre' suf (mid ++ post) h1 (by omega)
  have hu0 : u = [] := by
    have := congrArg Link.byteLen hu
    simp [Link.byteLen_append] at this
    cases u with
    | nil => rfl
    | cons c r => have := Link.clen_pos c; simp [Link.byteLen] at *; omega
  subst hu0
  simp at hu
  subst hu
  exact ⟨pre' ++ mid, post, by rw [hstr'], by simp [Link.byteLen_append]; omega, by simp; omega⟩

theorem clen_sp : Link.clen ' ' = 1 := by decide
theorem clen_tab : Link.clen '\t' = 1 := by decide
theorem clen_rb : Link.clen ']' = 1 := by decide
theorem clen_colon : Link.clen ':' = 1 := by decide

/-- what the label scan read: the text `u` in front of the closing `]`; the position has advanced by
    its bytes and the count by its line feeds -/
theorem labelScan_read : ∀ (rest : List Char) (esc : Bool) (pos lines le l' : Nat) (rest' : List Char),
    labelScan esc rest pos lines = some (le, l', rest') →
    ∃ u, rest = u ++ ']' :: rest' ∧ le = pos + Link.byteLen u ∧ l' = lines + nl u := by
  intro rest
  induction rest with
  | nil => intro esc pos lines le l' rest' h; simp [labelScan] at h
  | cons c r ih =>
    intro esc pos lines le l' rest' h
    -- `c` is consumed and the scan goes on behind it
    have step : ∀ esc' lines', lines' = lines + (if c = '\n' then 1 else 0) →
        labelScan esc' r (pos + Link.clen c) lines' = some (le, l', rest') →
        ∃ u, c :: r = u ++ ']' :: rest' ∧ le = pos + Link.byteLen u ∧ l' = lines + nl u := by
      intro esc' lines' hl' h'
      obtain ⟨u, hu, hle, hl⟩ := ih _ _ _ _ _ _ h'
      exact ⟨c :: u, by simp [hu], by simp [Link.byteLen]; omega, by rw [hl, hl', nl_cons, Nat.add_assoc]⟩
    simp only [labelScan] at h
    split at h
    · exact step _ _ (by split <;> rfl) h
    · split at h
      · cases h
      · split at h
        · rename_i hc
          simp at h
          obtain ⟨rfl, rfl, rfl⟩ := h
          subst hc
          exact ⟨[], rfl, by simp [Link.byteLen], rfl⟩
        · split at h
          · rename_i hc
            subst hc
            exact step false (lines + 1) (by simp) (by simpa [Link.clen_nl] using h)
          · rename_i hnl
            split at h
            · rename_i hc
              subst hc
              exact step true lines (by simp) (by simpa [Link.clen_bs] using h)
            · exact step false lines (by simp [hnl]) h

/-- what the blank scan read: a prefix `w` of the text; the position has advanced by its bytes and the
    count by its line feeds -/
theorem wsScan_read : ∀ (rest : List Char) (pos lines : Nat),
    ∃ w suf, rest = w ++ suf ∧ wsScan rest pos lines = (pos + Link.byteLen w, lines + nl w) := by
  intro rest
  induction rest with
  | nil => intro pos lines; exact ⟨[], [], rfl, by simp [wsScan, Link.byteLen]⟩
  | cons c r ih =>
    intro pos lines
    simp only [wsScan]
    split
    · rename_i hc
      have hcl : Link.clen c = 1 := by rcases hc with rfl | rfl <;> decide
      have hnl : c ≠ '\n' := by rcases hc with rfl | rfl <;> decide
      obtain ⟨w, suf, hr, e⟩ := ih (pos + 1) lines
      exact ⟨c :: w, suf, by simp [hr], by rw [e]; simp [Link.byteLen, hcl, nl_cons, hnl]; omega⟩
    · split
      · rename_i hc
        subst hc
        obtain ⟨w, suf, hr, e⟩ := ih (pos + 1) (lines + 1)
        exact ⟨'\n' :: w, suf, by simp [hr], by rw [e]; simp [Link.byteLen, Link.clen_nl, nl_cons]; omega⟩
      · exact ⟨[], c :: r, rfl, by simp [Link.byteLen]⟩

/-- the label scan, started behind the prefix `pre` of `str` with a count that `pre` accounts for -/
theorem labelScan_pref (str : List Char) {rest : List Char} {esc : Bool} {pos lines le l' : Nat}
    {rest' : List Char} (h : labelScan esc rest pos lines = some (le, l', rest')) {pre : List Char}
    (hstr : str = pre ++ rest) (hp : Link.byteLen pre = pos) (hl : lines ≤ nl pre) :
    ∃ pre', str = pre' ++ ']' :: rest' ∧ Link.byteLen pre' = le ∧ l' ≤ nl pre' := by
  obtain ⟨u, rfl, rfl, rfl⟩ := labelScan_read _ _ _ _ _ _ _ h
  exact ⟨pre ++ u, by simp [hstr], by simp [Link.byteLen_append, hp], by simp; omega⟩

/-- the same for the blank scan -/
theorem wsScan_pref (str : List Char) {rest : List Char} {pos lines pos' l' : Nat}
    (h : wsScan rest pos lines = (pos', l')) {pre post : List Char} (hstr : str = pre ++ rest ++ post)
    (hp : Link.byteLen pre = pos) (hl : lines ≤ nl pre) : pos ≤ pos' ∧ Pref str pos' l' := by
  obtain ⟨w, suf, rfl, e⟩ := wsScan_read rest pos lines
  cases e.symm.trans h
  exact ⟨Nat.le_add_right _ _, pre ++ w, suf ++ post, by simp [hstr], by simp [Link.byteLen_append, hp],
    by simp; omega⟩

theorem Pref.weaken {str : List Char} {p l l' : Nat} (h : Pref str p l) (hl : l' ≤ l) : Pref str p l' := by
  obtain ⟨pre, suf, h1, h2, h3⟩ := h
  exact ⟨pre, suf, h1, h2, by omega⟩

/-- the count is below the line feeds of THE prefix that ends at the position -/
theorem Pref.at {str : List Char} {p l : Nat} (h : Pref str p l) {pre suf : List Char}
    (hs : str = pre ++ suf) (hp : Link.byteLen pre = p) : l ≤ nl pre := by
  obtain ⟨pre', suf', hs', hp', hl⟩ := h
  obtain ⟨u, hu⟩ := prefix_of_le pre' pre suf' suf (by rw [← hs', hs]) (by omega)
  subst hu
  simp; omega

theorem refTitle_pref {cfg : Cfg} {str : List Char} {start pos lines dp dl : Nat}
    {r : Option (List Char) × Nat × Nat}
    (h : refTitle cfg str (Link.byteLen str) start pos lines dp dl = .ok r)
    (h1 : Pref str pos lines) (h2 : Pref str dp dl) : Pref str r.2.1 r.2.2 := by
  unfold refTitle at h
  crack h
  · rename_i res ht
    obtain ⟨o, m, suf, _, _, _, htoks, hsl, _, _⟩ := Link.title_delims _ _ _ _ (liftK_ok ht)
    have := h1.slice hsl
    refine this.weaken ?_
    rw [htoks.lines_eq]
    simp [nl, List.count_cons, List.count_append]
    omega
  · exact h2
  · exact h1

theorem refTrail_lines {str : List Char} {len : Nat} {title t' : Option (List Char)} {pos lines dp dl l' : Nat}
    (h : refTrail str len title pos lines dp dl = .ok (some (t', l'))) : l' = lines ∨ l' = dl := by
  unfold refTrail at h
  crack h
  all_goals simp_all

theorem refParse_lines {cfg : Cfg} {str : List Char} {raw href : List Nat} {title : Option (List Nat)}
    {lines : Nat} (h : refParse cfg str = .ok (some (raw, href, title, lines))) : lines ≤ nl str := by
  obtain ⟨c0, t, le, l1, rest2, p1, l2, res, tail, p3, l3, rt, t', rawc, rfl, hlabel, hws1, hdest, -, -, -, hsl2,
    hws2, htitle, htrail, -, -, -⟩ := refParse_ok h
  -- the label: `l1` line feeds, all in front of its end
  obtain ⟨pre1, hstr1, hp1, hl1⟩ := labelScan_pref (c0 :: t) hlabel (pre := [c0]) rfl
    (by simp [Link.byteLen]) (by omega)
  -- the blanks behind `]:`
  obtain ⟨hp2, hpref2⟩ := wsScan_pref (c0 :: t) hws1 (pre := pre1 ++ [']', ':']) (post := [])
    (by simp [hstr1]) (by simp [Link.byteLen_append, Link.byteLen, clen_rb, clen_colon]; omega)
    (by simp; omega)
  -- the destination
  obtain ⟨hge, _, hbd⟩ := Link.dest_pos_bounds _ _ _ _ hdest
  have hl0 := (Link.dest_spec _ _ _ _ hdest).1
  have hprefD : Pref (c0 :: t) res.pos (l2 + res.lines) := by
    rw [hl0]; exact hpref2.forward hge hbd
  -- the blanks behind it, the title
  obtain ⟨preD, postD, hstrD, hpD, hlenD⟩ := (Link.slice_ok_iff _ _ _ _).1 hsl2
  obtain ⟨_, hpref3⟩ := wsScan_pref (c0 :: t) hws2 (pre := preD) (post := postD) hstrD hpD
    (hprefD.at (suf := tail ++ postD) (by rw [hstrD]; simp) hpD)
  have hpref4 := refTitle_pref htitle hpref3 hprefD
  -- the count handed out is the one behind the title, or the one behind the destination
  rcases refTrail_lines htrail with h | h
  · rw [h]; exact hpref4.le_total
  · rw [h]; exact hprefD.le_total

theorem nl_eq_zero {l : List Char} (h : '\n' ∉ l) : nl l = 0 := by
  simp [nl, List.count_eq_zero, h]

theorem nl_trimStr (x : List Char) : nl (trimStr x) ≤ nl x := by
  unfold trimStr nl
  rw [List.count_reverse]
  refine Nat.le_trans ((List.dropWhile_sublist _).count_le _) ?_
  rw [List.count_reverse]
  exact (List.dropWhile_sublist _).count_le _

theorem nl_joinLines_false : ∀ (ps : List (List Char)), (∀ p ∈ ps, '\n' ∉ p) →
    nl (Lines.joinLines false ps) = ps.length - 1
  | [], _ => by simp [Lines.joinLines]
  | [x], h => by simp [Lines.joinLines, nl_eq_zero (h x (by simp))]
  | x :: y :: r, h => by
    have ih := nl_joinLines_false (y :: r) (fun p hp => h p (List.mem_cons_of_mem _ hp))
    simp only [Lines.joinLines, nl_append, nl_cons, if_true, ih, nl_eq_zero (h x (by simp))]
    simp
    omega

theorem shows_of_lineOk {src : List Char} {o : LineOffset} (h : LineOk src o) :
    ∃ v : List Char × List Char × Int, Lines.Shows src o v ∧ '\n' ∉ v.1 ∧ '\n' ∉ v.2.1 := by
  obtain ⟨p, a, b, q, hsrc, hp, hfn, hle, ha, hb⟩ := h
  refine ⟨(a, b, o.indentNonspace), ⟨?_, ?_, rfl⟩, ha, hb⟩
  · exact Lines.slice_eq_ok_iff.mpr ⟨p, b ++ q, by rw [hsrc]; simp, hp, by simp only; omega⟩
  · exact Lines.slice_eq_ok_iff.mpr ⟨p ++ a, q, by rw [hsrc], by simp; omega, by simp only; omega⟩

theorem views_of_tableOk {src : List Char} {offs : List LineOffset}
    (hT : ∀ (k : Nat) (o : LineOffset), offs[k]? = some o → LineOk src o) :
    ∀ (n b : Nat), b + n ≤ offs.length →
      ∃ vs : List (List Char × List Char × Int), vs.length = n ∧
        (∀ j (h : j < vs.length), ∃ o, offs[b + j]? = some o ∧ Lines.Shows src o vs[j]) ∧
        ∀ v ∈ vs, '\n' ∉ v.1 ∧ '\n' ∉ v.2.1 := by
  intro n
  induction n with
  | zero => intro b _; exact ⟨[], rfl, fun j h => by simp at h, by simp⟩
  | succ n ih =>
    intro b hb
    have hk : b < offs.length := by omega
    obtain ⟨v, hv, hv1, hv2⟩ := shows_of_lineOk (hT b offs[b] (List.getElem?_eq_getElem hk))
    obtain ⟨vs, hvl, hvs, hnl⟩ := ih (b + 1) (by omega)
    refine ⟨v :: vs, by simp [hvl], ?_, ?_⟩
    · intro j hj
      cases j with
      | zero => exact ⟨offs[b], by simp, hv⟩
      | succ j =>
        obtain ⟨o, ho, hs⟩ := hvs j (by simp at hj; omega)
        exact ⟨o, by rw [← ho]; congr 1; omega, by simpa using hs⟩
    · intro w hw
      simp at hw
      rcases hw with rfl | hw
      · exact ⟨hv1, hv2⟩
      · exact hnl w hw

/-- on a table that satisfies the invariant, `get_lines(begin, end, _, false)` contains exactly
    `end - begin - 1` line feeds (the joining ones) -/
theorem getLines_nl {s : BState} (hT : TableOk s) {b e indent : Nat} {c : List Char} {m : List (Nat × Nat)}
    (h : s.getLines b e indent false = .ok (c, m)) : nl c = e - b - 1 := by
  have h' : Lines.getLines s.src s.offs b e indent false = .ok (c, m) := liftL_eq_ok h
  have hbe : b ≤ e := by
    unfold Lines.getLines at h'
    split at h'
    · cases h'
    · omega
  by_cases hlt : b < e
  · have hlen : e ≤ s.offs.length := by
      unfold Lines.getLines at h'
      rw [if_neg (by omega)] at h'
      exact Lines.getLinesGo_ok_len h' hlt
    obtain ⟨vs, hvl, hvs, hnl⟩ := views_of_tableOk hT (e - b) b (by omega)
    obtain ⟨m', hm'⟩ := Lines.get_lines_lf s.src s.offs b indent false vs hvs
    rw [hvl, show b + (e - b) = e by omega, h'] at hm'
    simp only [Except.ok.injEq, Prod.mk.injEq] at hm'
    rw [hm'.1, nl_joinLines_false]
    · simp [hvl]
    · intro p hp
      obtain ⟨v, hv, rfl⟩ := List.mem_map.mp hp
      intro hc
      rcases Lines.mem_viewPiece hc with h | h | h
      · cases h
      · exact (hnl v hv).1 h
      · exact (hnl v hv).2 h
  · have : b = e := by omega
    subst this
    unfold Lines.getLines at h'
    rw [if_neg (by omega), Lines.getLinesGo, if_neg (by omega)] at h'
    cases h'
    simp

/-! ### the seven rules that do not nest: one step relation

  In real mode such a rule hands the state back, or moves `line` forward and pushes one leaf, or (the
  reference rule) moves `line` forward and inserts the definition it parsed.  `FlatStep` says so with
  the result state written out as an update of the state the rule got; what the other sections and
  files need of these rules (frame, progress, `false` ⇒ same state, the node pushed, the map) is read
  off it. -/

theorem atxOpen_level : ∀ (l : List Char) (lv : Nat) (r : Nat × Nat × List Char),
    atxOpen l lv = some r → lv ≤ 6 → lv ≤ r.1 ∧ r.1 ≤ 6
  | [], lv, r, h, hl => by simp [atxOpen] at h; subst h; exact ⟨Nat.le_refl _, hl⟩
  | c :: rest, lv, r, h, hl => by
    simp only [atxOpen] at h
    split at h
    · split at h
      · cases h
      · have := atxOpen_level rest (lv + 1) r h (by omega)
        omega
    · split at h
      · simp at h; subst h; exact ⟨Nat.le_refl _, hl⟩
      · cases h

theorem atxOpen_hash {line : List Char} {r : Nat × Nat × List Char} (hh : line.head? = some '#')
    (h : atxOpen line 0 = some r) : 1 ≤ r.1 ∧ r.1 ≤ 6 := by
  cases line with
  | nil => simp at hh
  | cons c rest =>
    simp only [List.head?_cons, Option.some.injEq] at hh
    subst hh
    simp only [atxOpen, if_true] at h
    split at h
    · cases h
    · have := atxOpen_level rest 1 r h (by omega)
      omega

theorem underlineLevel_le (l : List Char) : underlineLevel l ≤ 2 := by
  unfold underlineLevel
  repeat' split
  all_goals omega

theorem setextCheck_le {setext : Bool} {s : BState} {ind : Int} {n l : Nat}
    (h : setextCheck setext s ind n = .ok l) : l ≤ 2 := by
  unfold setextCheck at h
  rcases ite_ok h with ⟨_, h⟩ | ⟨_, h⟩
  · obtain ⟨line, _, h⟩ := bind_ok.mp h
    cases h
    exact underlineLevel_le _
  · cases h
    exact Nat.zero_le _

theorem lazyScan_level {test : Test} (setext : Bool) :
    ∀ (fuel : Nat) (s : BState) (n n' lvl : Nat) (s' : BState),
      lazyScan test setext fuel s n = .ok (n', lvl, s') → lvl ≤ 2 := by
  intro fuel
  induction fuel with
  | zero => intro s n n' lvl s' h; simp [lazyScan] at h
  | succ f ih =>
    intro s n n' lvl s' h
    rcases lazyScan_ok h with ⟨_, _, rfl, _⟩ | ⟨ind, _, _, ⟨_, h⟩ | ⟨l, _, hl, ⟨_, _, rfl, _⟩ |
      ⟨o, _, _, ⟨_, h⟩ | ⟨t, S, _, _, ⟨_, _, rfl, _⟩ | ⟨_, h⟩⟩⟩⟩⟩
    · exact Nat.zero_le _
    · exact ih _ _ _ _ _ h
    · exact setextCheck_le hl
    · exact ih _ _ _ _ _ h
    · exact Nat.zero_le _
    · exact ih _ _ _ _ _ h

/-- is the value the `InlineRoot` placeholder -/
def Kind.isInl : Kind → Bool
  | .inlineRoot _ _ => true
  | _ => false

/-- the nodes the leaf rules push: a childless thematic break / code block / fence, or a heading /
    paragraph over its one `InlineRoot` placeholder; heading levels inside the `TAG` tables of `render` -/
inductive LeafNode : BNode → Prop
  | hr (m : Char) (c : Nat) (r : Nat × Nat) : LeafNode ⟨.hr m c, some r, []⟩
  | code (c : List Char) (r : Nat × Nat) : LeafNode ⟨.codeBlock c, some r, []⟩
  | fence (i : List Char) (m : Char) (l : Nat) (c : List Char) (r : Nat × Nat) :
      LeafNode ⟨.codeFence i m l c, some r, []⟩
  | atx (l : Nat) (r : Nat × Nat) (t : List Char) (m : List (Nat × Nat)) : 1 ≤ l → l ≤ 6 →
      LeafNode ⟨.atx l, some r, [⟨.inlineRoot t m, none, []⟩]⟩
  | setext (l : Nat) (c : Char) (r : Nat × Nat) (t : List Char) (m : List (Nat × Nat)) : 1 ≤ l → l ≤ 2 →
      LeafNode ⟨.setext l c, some r, [⟨.inlineRoot t m, none, []⟩]⟩
  | paragraph (r : Nat × Nat) (t : List Char) (m : List (Nat × Nat)) :
      LeafNode ⟨.paragraph, some r, [⟨.inlineRoot t m, none, []⟩]⟩

theorem LeafNode.shape {n : BNode} (h : LeafNode n) :
    ∃ k rg cs, n = ⟨k, some rg, cs⟩ ∧ k.isInl = false ∧
      (cs = [] ∨ ∃ t m, cs = [⟨.inlineRoot t m, none, []⟩]) := by
  cases h
  all_goals first
    | exact ⟨_, _, _, rfl, rfl, .inl rfl⟩
    | exact ⟨_, _, _, rfl, rfl, .inr ⟨_, _, rfl⟩⟩

/-- a real-mode run of rule `r` (not a container) from `s` with verdict `b` ends in `s'` -/
inductive FlatStep (cfg : Cfg) (r : RuleId) (s : BState) : Bool → BState → Prop
  | decline : FlatStep cfg r s false s
  | push (n : BNode) (l : Nat) : LeafNode n → (n.kind = .paragraph ↔ r = .paragraph) → r ≠ .reference →
      (s.line < s.lineMax → s.line < l ∧ l ≤ s.lineMax) →
      FlatStep cfg r s true { s with line := l, children := s.children ++ [n] }
  /-- `ReferenceMapKey::new(label)` normalises the normalised label once more; `lines` counts the line
      feeds of the definition, which lie inside the text of the lines read -/
  | define (str : List Char) (raw href : List Nat) (title : Option (List Nat)) (lines : Nat) : r = .reference →
      refParse cfg str = .ok (some (raw, href, title, lines)) →
      (Refs.normalize cfg.L cfg.U raw).isEmpty = false →
      (s.line < s.lineMax → TableOk s → s.line + lines + 1 ≤ s.lineMax) →
      FlatStep cfg r s true
        { s with line := s.line + lines + 1,
                 refs := Refs.insertFirst s.refs (Refs.normalize cfg.L cfg.U (Refs.normalize cfg.L cfg.U raw))
                           ⟨href, title⟩ }

theorem hrRule_step {cfg : Cfg} {s s' : BState} {b : Bool} (h : hrRule s false = .ok (b, s')) :
    FlatStep cfg .hr s b s' := by
  rcases hrRule_ok h with ⟨rfl, rfl⟩ | ⟨_, _, _, _, -, -, -, -, -, -, rfl, ⟨⟨⟩, -⟩ | ⟨-, _, -, rfl⟩⟩
  · exact .decline
  · exact .push _ _ (.hr _ _ _) (by simp) (by simp) fun hlt => ⟨Nat.lt_succ_self _, hlt⟩

theorem headingRule_step {cfg : Cfg} {s s' : BState} {b : Bool} (h : headingRule s false = .ok (b, s')) :
    FlatStep cfg .heading s b s' := by
  rcases headingRule_ok h with ⟨rfl, rfl⟩ | ⟨_, _, _, _, _, -, -, -, hh, ha, rfl, ⟨⟨⟩, -⟩ |
    ⟨-, _, _, _, -, -, -, rfl⟩⟩
  · exact .decline
  · have hlv := atxOpen_hash hh ha
    exact .push _ _ (.atx _ _ _ _ hlv.1 hlv.2) (by simp) (by simp) fun hlt => ⟨Nat.lt_succ_self _, hlt⟩

theorem codeRule_step {cfg : Cfg} {s s' : BState} {b : Bool} (h : codeRule s false = .ok (b, s')) :
    FlatStep cfg .code s b s' := by
  rcases codeRule_ok h with ⟨rfl, rfl⟩ | ⟨_, last, _, _, _, _, -, -, -, hscan, -, -, -, -, rfl, rfl⟩
  · exact .decline
  · have := codeScan_spec _ _ _ _ hscan (Nat.le_refl _)
    exact .push _ last (.code _ _) (by simp) (by simp) fun hlt => ⟨this.1, this.2 hlt⟩

theorem fenceRule_step {cfg : Cfg} {s s' : BState} {b : Bool} (h : fenceRule s false = .ok (b, s')) :
    FlatStep cfg .fence s b s' := by
  rcases fenceRule_ok h with ⟨rfl, rfl⟩ | ⟨_, _, _, _, -, -, -, -, -, -, -, rfl, ⟨⟨⟩, -⟩ |
    ⟨-, n, he, _, _, _, _, hscan, -, -, -, -, rfl⟩⟩
  · exact .decline
  · refine .push _ _ (.fence _ _ _ _ _) (by simp) (by simp) fun hlt => ?_
    obtain ⟨h1, h2, h3⟩ := fenceScan_spec _ _ _ _ _ _ hscan hlt
    refine ⟨Nat.lt_of_lt_of_le h1 (Nat.le_add_right _ _), ?_⟩
    cases he
    · exact h2
    · exact h3 rfl

theorem paragraphRule_step {cfg : Cfg} {test : Test} (ht : TestPure test) {fuel : Nat} {s s' : BState}
    {b : Bool} (h : paragraphRule test fuel s false = .ok (b, s')) : FlatStep cfg .paragraph s b s' := by
  rcases paragraphRule_ok h with ⟨⟨⟩, -⟩ | ⟨n, _, S, _, _, _, -, hs, -, -, -, rfl, rfl⟩
  obtain ⟨h1, h2, h3, -⟩ := lazyScan_spec ht hs
  cases (h1 : S = s)
  exact .push _ n (.paragraph _ _ _) (by simp) (by simp) fun hlt => ⟨h2, h3 hlt⟩

theorem lheadingRule_step {cfg : Cfg} {test : Test} (ht : TestPure test) {fuel : Nat} {s s' : BState}
    {b : Bool} (h : lheadingRule test fuel s false = .ok (b, s')) : FlatStep cfg .lheading s b s' := by
  rcases lheadingRule_ok h with ⟨rfl, rfl | ⟨_, hs⟩⟩ |
    ⟨_, n, level, S, _, _, _, -, -, -, hs, h0, -, -, rfl, rfl⟩
  · exact .decline
  · cases (lazyScan_spec ht hs).1
    exact .decline
  · obtain ⟨h1, h2, -, h4⟩ := lazyScan_spec ht hs
    cases (h1 : S = s)
    have hlv := lazyScan_level true _ _ _ _ _ _ hs
    exact .push _ (n + 1) (.setext _ _ _ _ _ (by omega) hlv) (by simp) (by simp)
      fun _ => ⟨Nat.lt_succ_of_lt h2, h4 h0⟩

theorem referenceRule_step {cfg : Cfg} {test : Test} (ht : TestPure test) {fuel : Nat} {s s' : BState}
    {b : Bool} (h : referenceRule cfg test fuel s false = .ok (b, s')) : FlatStep cfg .reference s b s' := by
  rcases referenceRule_ok h with ⟨rfl, rfl | ⟨_, _, hs⟩⟩ |
    ⟨_, _, n, _, S, str, _, raw, href, title, lines, -, -, -, -, -, hs, hgl, hparse, hne, rfl, rfl⟩
  · exact .decline
  · cases (lazyScan_spec ht hs).1
    exact .decline
  · obtain ⟨h1, -, h3, -⟩ := lazyScan_spec ht hs
    cases (h1 : S = s)
    refine .define _ raw href title lines rfl hparse (by simpa using hne) fun hlt hT => ?_
    -- the text of the lines read holds one line feed less than lines
    have := getLines_nl hT hgl
    have := refParse_lines hparse
    have := nl_trimStr str
    have := h3 hlt
    omega

/-- the two rules that nest, and the seven that do not (`FlatStep`): the case split of every lemma about what a
    rule of the chain does in real mode -/
theorem RuleId.nests_cases (r : RuleId) : r = .blockquote ∨ r = .list ∨ (r ≠ .blockquote ∧ r ≠ .list) := by
  cases r <;> simp

theorem flatRule_step {cfg : Cfg} {tok : Tok} {test : Test} (ht : TestPure test) {fuel : Nat}
    {r : RuleId} {s s' : BState} {b : Bool} (h : runRule cfg tok test fuel r s false = .ok (b, s'))
    (hq : r ≠ .blockquote) (hl : r ≠ .list) : FlatStep cfg r s b s' := by
  cases r
  · exact codeRule_step h
  · exact fenceRule_step h
  · exact absurd rfl hq
  · exact hrRule_step h
  · exact absurd rfl hl
  · exact referenceRule_step ht h
  · exact headingRule_step h
  · exact lheadingRule_step ht h
  · exact paragraphRule_step ht h

theorem FlatStep.frame {cfg : Cfg} {r : RuleId} {s s' : BState} {b : Bool} (h : FlatStep cfg r s b s') :
    Frame s s' := by
  cases h <;> exact ⟨rfl, rfl, rfl, rfl, rfl, rfl, rfl⟩

theorem FlatStep.false_same {cfg : Cfg} {r : RuleId} {s s' : BState} (h : FlatStep cfg r s false s') :
    s' = s := by
  cases h; rfl

/-- the upper bound is unconditional except for the reference rule -/
theorem FlatStep.progress {cfg : Cfg} {r : RuleId} {s s' : BState} (h : FlatStep cfg r s true s')
    (hl : s.line < s.lineMax) (hT : r = .reference → TableOk s) :
    s.line < s'.line ∧ s'.line ≤ s.lineMax := by
  cases h with
  | push n l _ _ _ h1 => exact h1 hl
  | define _ _ _ _ lines hr _ _ h2 => exact ⟨Nat.lt_succ_of_le (Nat.le_add_right _ _), h2 hl (hT hr)⟩

theorem FlatStep.advanced {cfg : Cfg} {r : RuleId} {s s' : BState} (h : FlatStep cfg r s true s')
    (hl : s.line < s.lineMax) : Advanced s s' := by
  refine ⟨h.frame, ?_, fun hT => ?_⟩
  · cases h with
    | push n l _ _ _ h1 => exact (h1 hl).1
    | define => exact Nat.lt_succ_of_le (Nat.le_add_right _ _)
  · exact (h.progress hl fun _ => hT).2

theorem flatRule_children {cfg : Cfg} {tok : Tok} {test : Test} (ht : TestPure test) {fuel : Nat}
    {r : RuleId} {s s' : BState} {b : Bool} (h : runRule cfg tok test fuel r s false = .ok (b, s'))
    (hq : r ≠ .blockquote) (hl : r ≠ .list) :
    ((b = false ∨ r = .reference) ∧ s'.children = s.children) ∨
    ∃ n, b = true ∧ s'.children = s.children ++ [n] ∧ LeafNode n ∧
      (n.kind = .paragraph ↔ r = .paragraph) ∧ r ≠ .reference := by
  cases flatRule_step ht h hq hl with
  | decline => exact .inl ⟨.inl rfl, rfl⟩
  | push n l hn hp hr _ => exact .inr ⟨n, rfl, rfl, hn, hp, hr⟩
  | define _ _ _ _ _ hr _ _ _ => exact .inl ⟨.inr hr, rfl⟩

/-! per-rule forms: a rule that takes no call-back, or no configuration, is a member of every chain, so any
    configuration will do -/

instance : Inhabited Cfg := ⟨⟨0, [], fun _ => none, fun _ => [], fun _ => []⟩⟩

theorem FlatStep.refs_eq {cfg : Cfg} {r : RuleId} {s s' : BState} {b : Bool} (h : FlatStep cfg r s b s')
    (hr : r ≠ .reference) : s'.refs = s.refs := by
  cases h with
  | decline => rfl
  | push => rfl
  | define _ _ _ _ _ e => exact absurd e hr

theorem code_refs {s s' : BState} {b : Bool} (h : codeRule s false = .ok (b, s')) : s'.refs = s.refs :=
  (codeRule_step (cfg := default) h).refs_eq (by simp)

theorem fence_refs {s s' : BState} {b : Bool} (h : fenceRule s false = .ok (b, s')) : s'.refs = s.refs :=
  (fenceRule_step (cfg := default) h).refs_eq (by simp)

theorem real_false_same_hr {s s' : BState} (h : hrRule s false = .ok (false, s')) : s' = s :=
  (hrRule_step (cfg := default) h).false_same

theorem real_false_same_heading {s s' : BState} (h : headingRule s false = .ok (false, s')) : s' = s :=
  (headingRule_step (cfg := default) h).false_same

theorem real_false_same_code {s s' : BState} (h : codeRule s false = .ok (false, s')) : s' = s :=
  (codeRule_step (cfg := default) h).false_same

theorem real_false_same_fence {s s' : BState} (h : fenceRule s false = .ok (false, s')) : s' = s :=
  (fenceRule_step (cfg := default) h).false_same

theorem real_false_same_lheading {test : Test} (ht : TestPure test) {fuel : Nat} {s s' : BState}
    (h : lheadingRule test fuel s false = .ok (false, s')) : s' = s :=
  (lheadingRule_step (cfg := default) ht h).false_same

theorem real_false_same_reference {cfg : Cfg} {test : Test} (ht : TestPure test) {fuel : Nat}
    {s s' : BState} (h : referenceRule cfg test fuel s false = .ok (false, s')) : s' = s :=
  (referenceRule_step ht h).false_same

theorem code_advanced {s s' : BState} (h : codeRule s false = .ok (true, s')) (hl : s.line < s.lineMax) :
    Advanced s s' :=
  (codeRule_step (cfg := default) h).advanced hl

theorem fence_advanced {s s' : BState} (h : fenceRule s false = .ok (true, s')) (hl : s.line < s.lineMax) :
    Advanced s s' :=
  (fenceRule_step (cfg := default) h).advanced hl

theorem reference_advanced {cfg : Cfg} {test : Test} (ht : TestPure test) {fuel : Nat} {s s' : BState}
    (h : referenceRule cfg test fuel s false = .ok (true, s')) (hl : s.line < s.lineMax) :
    Advanced s s' :=
  (referenceRule_step ht h).advanced hl

/-! ## 8. the tokenizer -/

theorem skipEmpty_spec (offs : List LineOffset) (lineMax line : Nat) :
    line ≤ Lines.skipEmptyLines offs lineMax line ∧
    (line ≤ lineMax → Lines.skipEmptyLines offs lineMax line ≤ lineMax) ∧
    (Lines.isEmpty offs line = false → Lines.skipEmptyLines offs lineMax line = line) ∧
    (Lines.isEmpty offs line = true → line ≠ lineMax → line < Lines.skipEmptyLines offs lineMax line) := by
  fun_induction Lines.skipEmptyLines offs lineMax line with
  | case1 line h ih =>
    refine ⟨by omega, fun _ => ih.2.1 (by omega), fun hf => by simp [h.2] at hf, fun _ _ => by omega⟩
  | case2 line h =>
    refine ⟨Nat.le_refl _, fun h => h, fun _ => rfl, fun he hne => absurd ⟨hne, he⟩ h⟩

/-- what the tokenizer needs of the chain it runs -/
structure RunSpec (run : RuleId → BState → Bool → Res) : Prop where
  false_same : ∀ r s s', run r s false = .ok (false, s') → s' = s
  advanced : ∀ r s s', run r s false = .ok (true, s') → s.line < s.lineMax → IndentOk s → Advanced s s'

theorem runChain_real {run : RuleId → BState → Bool → Res} (hr : RunSpec run) :
    ∀ (chain : List RuleId) (s : BState) (b : Bool) (s' : BState),
      runChain run chain s false = .ok (b, s') →
      (b = false → s' = s) ∧ (b = true → s.line < s.lineMax → IndentOk s → Advanced s s') := by
  intro chain s b s' h
  rcases runChain_ok hr.false_same chain h with ⟨rfl, rfl⟩ | ⟨r, -, rfl, hrule⟩
  · exact ⟨fun _ => rfl, fun h => Bool.noConfusion h⟩
  · exact ⟨fun h => Bool.noConfusion h, fun _ => hr.advanced _ _ _ hrule⟩

theorem afterChain_spec {ok : Bool} {s s' : BState} {prev : Nat} (h : afterChain ok s prev = .ok s') :
    Frame s s' ∧ (ok = true → s' = s ∧ prev < s.line) ∧ (ok = false → s'.line = s.line + 1) := by
  obtain ⟨rfl, hlt, rfl⟩ | ⟨l, o, rfl, -, -, rfl⟩ := afterChain_ok h
  · exact ⟨Frame.refl _, fun _ => ⟨rfl, hlt⟩, fun h => Bool.noConfusion h⟩
  · exact ⟨⟨rfl, rfl, rfl, rfl, rfl, rfl, rfl⟩, fun h => Bool.noConfusion h, fun _ => rfl⟩

/-- the four facts of `TokSpec` about one run from `s` to `s'` -/
structure TokPost (s s' : BState) : Prop where
  frame : Frame s s'
  mono : s.line ≤ s'.line
  upper : TableOk s → s.line ≤ s.lineMax → s'.line ≤ s.lineMax
  strict : s.line < s.lineMax → (s.isEmpty s.line = true ∨ IndentOk s) → s.line < s'.line

/-- one iteration of the tokenizer loop in which the chain runs -/
theorem tok_iter {run : RuleId → BState → Bool → Res} (hr : RunSpec run) {chain : List RuleId}
    {s1 : BState} {w : Bool × BState} {s3 : BState} {prev : Nat} (hp : prev = s1.line)
    (hlt : s1.line < s1.lineMax) (hi : IndentOk s1)
    (hc : runChain run chain s1 false = .ok w) (ha : afterChain w.1 w.2 prev = .ok s3) :
    Frame s1 s3 ∧ s1.line < s3.line ∧ (TableOk s1 → s3.line ≤ s1.lineMax) := by
  subst hp
  obtain ⟨b, s2⟩ := w
  obtain ⟨h1, h2⟩ := runChain_real hr _ _ _ _ hc
  obtain ⟨hf, h3, h4⟩ := afterChain_spec ha
  cases b with
  | true =>
    obtain ⟨rfl, _⟩ := h3 rfl
    have := h2 rfl hlt hi
    exact ⟨this.frame, this.lt, this.le⟩
  | false =>
    have := h1 rfl
    subst this
    have := h4 rfl
    exact ⟨hf, by simp at this; omega, fun _ => by simp at this; omega⟩

theorem frame_line_tight (s : BState) (l : Nat) (t : Bool) : Frame s { s with line := l, tight := t } :=
  ⟨rfl, rfl, rfl, rfl, rfl, rfl, rfl⟩

/-- gluing: skip blank lines, one iteration, the optional blank line behind it, the rest of the loop -/
theorem TokPost.glue {s s1 s3 s4 s' : BState} (h01 : Frame s s1) (hl1 : s.line ≤ s1.line)
    (h13 : Frame s1 s3) (hlt : s1.line < s3.line) (hle : TableOk s1 → s3.line ≤ s1.lineMax)
    (h34 : Frame s3 s4) (hl4 : s3.line ≤ s4.line) (hl4' : s3.line ≤ s3.lineMax → s4.line ≤ s3.lineMax)
    (ih : TokPost s4 s') : TokPost s s' := by
  have hf := (h01.trans h13).trans h34
  refine ⟨hf.trans ih.frame, ?_, ?_, ?_⟩
  · have := ih.mono; omega
  · intro hT _
    have h1 := hle (hT.of_frame h01)
    have h2 := hl4' (by rw [h13.lineMax]; exact h1)
    have := ih.upper (hT.of_frame hf) (by rw [h34.lineMax]; exact h2)
    rw [hf.lineMax] at this
    exact this
  · intro _ _
    have := ih.mono; omega

theorem tokLoop_spec {cfg : Cfg} {run : RuleId → BState → Bool → Res} (hr : RunSpec run) :
    ∀ (fuel : Nat) (he : Bool) (s s' : BState), tokLoop cfg run fuel he s = .ok s' → TokPost s s' := by
  intro fuel
  induction fuel with
  | zero => intro he s s' h; cases h
  | succ f ih =>
    intro he s s' h
    obtain ⟨hge, rfl⟩ | ⟨l, hlt, hl, hc⟩ := tokLoop_ok h
    · exact ⟨Frame.refl _, Nat.le_refl _, fun _ h => h, fun h => absurd h hge⟩
    obtain ⟨hs1, hs2, hs3, hs4⟩ := skipEmpty_spec s.offs s.lineMax s.line
    rw [← hl] at hs1 hs2 hs3 hs4
    have hempty : (s.isEmpty s.line = true ∨ IndentOk s) → s.line < l ∨ (l = s.line ∧ IndentOk s) := by
      intro hc
      by_cases he : Lines.isEmpty s.offs s.line = true
      · exact .inl (hs4 he (Nat.ne_of_lt hlt))
      · simp only [Bool.not_eq_true] at he
        rcases hc with hc | hc
        · simp [BState.isEmpty, he] at hc
        · exact .inr ⟨hs3 he, hc⟩
    rcases hc with ⟨hge, rfl⟩ | ⟨ind, hl', hind, ⟨hneg, rfl⟩ | ⟨h0, hlev, rfl⟩ |
      ⟨ok, S1, S2, he', S3, h0, hlev, hchain, hafter, -, hrec, hS3⟩⟩
    · exact ⟨frame_line_tight s l s.tight, hs1, fun _ h => hs2 h, fun _ _ => Nat.lt_of_lt_of_le hlt hge⟩
    · refine ⟨frame_line_tight s l s.tight, hs1, fun _ h => hs2 h, fun _ hc => ?_⟩
      rcases hempty hc with h | ⟨rfl, i, hi, hi0⟩
      · exact h
      · cases hind.symm.trans hi
        omega
    · exact ⟨frame_line_tight s s.lineMax s.tight, Nat.le_of_lt hlt, fun _ _ => Nat.le_refl _,
        fun _ _ => hlt⟩
    · obtain ⟨h13, hlt3, hle3⟩ := tok_iter hr (s1 := { s with line := l }) rfl hl' ⟨_, hind, h0⟩
        hchain hafter
      have h34 : Frame S2 S3 ∧ S2.line ≤ S3.line ∧ (S2.line ≤ S2.lineMax → S3.line ≤ S2.lineMax) := by
        rcases hS3 with ⟨h1, -, -, rfl⟩ | ⟨-, -, rfl⟩
        · exact ⟨frame_line_tight _ _ _, Nat.le_succ _, fun _ => h1⟩
        · exact ⟨frame_line_tight _ _ _, Nat.le_refl _, fun h => h⟩
      exact TokPost.glue (frame_line_tight s l s.tight) hs1 h13 hlt3 hle3 h34.1 h34.2.1 h34.2.2
        (ih _ _ _ hrec)

theorem runRule_spec {cfg : Cfg} {tok : Tok} {test : Test} (hk : TokSpec tok) (ht : TestPure test)
    (fuel : Nat) : RunSpec (runRule cfg tok test fuel) := by
  constructor
  · intro r s s' h
    rcases r.nests_cases with rfl | rfl | ⟨hq, hli⟩
    · exact real_false_same_blockquote h
    · exact real_false_same_list h
    · exact (flatRule_step ht h hq hli).false_same
  · intro r s s' h hl hi
    rcases r.nests_cases with rfl | rfl | ⟨hq, hli⟩
    · exact blockquote_advanced hk ht h hl hi
    · exact list_advanced hk ht h hl
    · exact (flatRule_step ht h hq hli).advanced hl

theorem TokSpec.of_post {tok : Tok} (h : ∀ s s', tok s = .ok s' → TokPost s s') : TokSpec tok :=
  ⟨fun s s' e => (h s s' e).frame, fun s s' e => (h s s' e).mono, fun s s' e => (h s s' e).upper,
   fun s s' e => (h s s' e).strict⟩

/-- the tokenizer at a positive budget: its loop over the rules as that budget runs them (`ruleAt`) -/
theorem tokenize_succ (cfg : Cfg) (f : Nat) :
    tokenize cfg (f + 1) = tokLoop cfg (ruleAt cfg f) (f + 1) false := rfl

theorem tokenize_spec (cfg : Cfg) :
    ∀ (fuel : Nat) (s s' : BState), tokenize cfg fuel s = .ok s' → TokPost s s' := by
  intro fuel
  induction fuel with
  | zero => intro s s' h; simp [tokenize, engine] at h
  | succ f ih =>
    intro s s' h
    rw [tokenize_succ] at h
    exact tokLoop_spec (runRule_spec (TokSpec.of_post ih) (testRules_pure cfg f) _) _ _ _ _ h

theorem tokenize_tokSpec (cfg : Cfg) (fuel : Nat) : TokSpec (tokenize cfg fuel) :=
  TokSpec.of_post (tokenize_spec cfg fuel)

/-- what a successful `parseBlocks` went through: one tokenizer run on the fresh state, which hands the
    node under construction back as `Root` -/
theorem parseBlocks_ok {cfg : Cfg} {src : List Char} {root : BNode} {refs : Refs.RefMap}
    (h : parseBlocks cfg src = .ok (root, refs)) :
    ∃ s, tokenize cfg (fuelFor cfg src) (BState.fresh src .root []) = .ok s ∧
      root = ⟨.root, some (0, Lines.byteLen src), s.children⟩ ∧ refs = s.refs := by
  unfold parseBlocks at h
  split at h
  · cases h
  · next s hs =>
    cases h
    refine ⟨s, hs, ?_, rfl⟩
    rw [(tokenize_spec cfg _ _ _ hs).frame.nodeKind]
    rfl

/-- a panic of `parseBlocks` is a panic of its one tokenizer run -/
theorem parseBlocks_err {cfg : Cfg} {src : List Char} {e : Panic} (h : parseBlocks cfg src = .error e) :
    tokenize cfg (fuelFor cfg src) (BState.fresh src .root []) = .error e := by
  unfold parseBlocks at h
  split at h
  · next e' he => cases h; exact he
  · cases h

/-- The tokenizer never moves `line` backwards, moves it strictly forward when it
    starts on a blank line or on a line at a non-negative indent, ends with `line ≤ line_max` (on a
    table that satisfies the invariant), and hands back the frame (`src`, the offset table, `line_max`,
    `blk_indent`, `list_indent`, `level`, the kind of the current node) as it found it. -/
theorem tokenize_progress {cfg : Cfg} {fuel : Nat} {s s' : BState} (h : tokenize cfg fuel s = .ok s') :
    s.line ≤ s'.line ∧ (TableOk s → s.line ≤ s.lineMax → s'.line ≤ s.lineMax) ∧
    (s.line < s.lineMax → (s.isEmpty s.line = true ∨ IndentOk s) → s.line < s'.line) ∧ Frame s s' :=
  have := tokenize_spec cfg fuel s s' h
  ⟨this.mono, this.upper, this.strict, this.frame⟩

/-- a rule exactly as the tokenizer at budget `fuel + 1` runs it (`ruleAt`): whenever it answers
    `true` at a line the tokenizer would try it on, `line` has moved strictly forward — the
    `assert!(state.line > prev_line)` of `BlockParser::tokenize` cannot fire — and not beyond
    `line_max` (`false` leaves the state untouched: `ruleAt_false_same`). -/
theorem ruleAt_progress {cfg : Cfg} {fuel : Nat} {r : RuleId} {s s' : BState}
    (h : ruleAt cfg fuel r s false = .ok (true, s')) (hl : s.line < s.lineMax) (hi : IndentOk s) :
    s.line < s'.line ∧ (TableOk s → s'.line ≤ s.lineMax) ∧ Frame s s' :=
  have := (runRule_spec (tokenize_tokSpec cfg fuel) (testRules_pure cfg fuel) (fuel + 1)).advanced r s s' h hl hi
  ⟨this.lt, this.le, this.frame⟩

theorem ruleAt_false_same {cfg : Cfg} {fuel : Nat} {r : RuleId} {s s' : BState}
    (h : ruleAt cfg fuel r s false = .ok (false, s')) : s' = s :=
  (runRule_spec (tokenize_tokSpec cfg fuel) (testRules_pure cfg fuel) (fuel + 1)).false_same r s s' h

/-! ### the nine `block_rule_progress_<rule>`

  `.ok (true, s')` in real mode at a line below `line_max` ⇒ `s.line < s'.line ∧ s'.line ≤ s.lineMax`.
  The container rules and the three paragraph-like rules are parameterised by the call-backs; their
  hypotheses are discharged by `tokenize_tokSpec` / `testRules_pure` (see `ruleAt_progress`).  The
  block-quote rule needs the indent of its first line to be non-negative (the tokenizer breaks
  before running any rule otherwise); the upper bound of the container rules and of the reference
  rule needs the table invariant `TableOk` (true of `BlockState::new`: `tableOk_fresh`, and kept by the
  containers' rewriting). -/

theorem block_rule_progress_hr {s s' : BState} (h : hrRule s false = .ok (true, s'))
    (hl : s.line < s.lineMax) : s.line < s'.line ∧ s'.line ≤ s.lineMax :=
  (hrRule_step (cfg := default) h).progress hl (by simp)

theorem block_rule_progress_heading {s s' : BState} (h : headingRule s false = .ok (true, s'))
    (hl : s.line < s.lineMax) : s.line < s'.line ∧ s'.line ≤ s.lineMax :=
  (headingRule_step (cfg := default) h).progress hl (by simp)

theorem block_rule_progress_code {s s' : BState} (h : codeRule s false = .ok (true, s'))
    (hl : s.line < s.lineMax) : s.line < s'.line ∧ s'.line ≤ s.lineMax :=
  (codeRule_step (cfg := default) h).progress hl (by simp)

theorem block_rule_progress_fence {s s' : BState} (h : fenceRule s false = .ok (true, s'))
    (hl : s.line < s.lineMax) : s.line < s'.line ∧ s'.line ≤ s.lineMax :=
  (fenceRule_step (cfg := default) h).progress hl (by simp)

theorem block_rule_progress_paragraph {test : Test} (ht : TestPure test) {fuel : Nat} {s s' : BState}
    (h : paragraphRule test fuel s false = .ok (true, s')) (hl : s.line < s.lineMax) :
    s.line < s'.line ∧ s'.line ≤ s.lineMax :=
  (paragraphRule_step (cfg := default) ht h).progress hl (by simp)

theorem block_rule_progress_lheading {test : Test} (ht : TestPure test) {fuel : Nat} {s s' : BState}
    (h : lheadingRule test fuel s false = .ok (true, s')) (hl : s.line < s.lineMax) :
    s.line < s'.line ∧ s'.line ≤ s.lineMax :=
  (lheadingRule_step (cfg := default) ht h).progress hl (by simp)

theorem block_rule_progress_reference {cfg : Cfg} {test : Test} (ht : TestPure test) {fuel : Nat}
    {s s' : BState} (h : referenceRule cfg test fuel s false = .ok (true, s'))
    (hl : s.line < s.lineMax) (hT : TableOk s) : s.line < s'.line ∧ s'.line ≤ s.lineMax :=
  (referenceRule_step ht h).progress hl fun _ => hT

theorem block_rule_progress_blockquote {tok : Tok} {test : Test} (hk : TokSpec tok) (ht : TestPure test)
    {fuel : Nat} {s s' : BState} (h : blockquoteRule tok test fuel s false = .ok (true, s'))
    (hl : s.line < s.lineMax) (hi : IndentOk s) (hT : TableOk s) :
    s.line < s'.line ∧ s'.line ≤ s.lineMax :=
  ⟨(blockquote_advanced hk ht h hl hi).lt, (blockquote_advanced hk ht h hl hi).le hT⟩

theorem block_rule_progress_list {tok : Tok} {test : Test} (hk : TokSpec tok) (ht : TestPure test)
    {fuel : Nat} {s s' : BState} (h : listRule tok test fuel s false = .ok (true, s'))
    (hl : s.line < s.lineMax) (hT : TableOk s) : s.line < s'.line ∧ s'.line ≤ s.lineMax :=
  ⟨(list_advanced hk ht h hl).lt, (list_advanced hk ht h hl).le hT⟩

/-! ## 9. non-vacuity: the hypotheses of the theorems above hold on concrete runs -/

/-- a configuration for examples: the nine rules in stock order, no entities, identity case tables -/
def exCfg : Cfg :=
  { maxNesting := 100,
    chain := [.code, .fence, .blockquote, .hr, .list, .reference, .heading, .lheading, .paragraph],
    lookup := fun _ => none, L := fun c => [c], U := fun c => [c] }

/-- verdict and `line` of a result -/
def verdictLine : Res → Option (Bool × Nat)
  | .ok (b, s) => some (b, s.line)
  | .error _ => none

def lineOf : Except Panic BState → Option Nat
  | .ok s => some s.line
  | .error _ => none

section examples
/-- `"a\n***\n# h\n    c\n```\nf\n```\n> q\nlazy\n- i\n- j\n\n[r]: /u\nt\n===\np"` -/
def exDoc : List Char :=
  ['a', '\n', '*', '*', '*', '\n', '#', ' ', 'h', '\n', ' ', ' ', ' ', ' ', 'c', '\n',
   '`', '`', '`', '\n', 'f', '\n', '`', '`', '`', '\n', '>', ' ', 'q', '\n', 'l', 'a', 'z', 'y', '\n',
   '-', ' ', 'i', '\n', '-', ' ', 'j', '\n', '\n', '[', 'r', ']', ':', ' ', '/', 'u', '\n',
   't', '\n', '=', '=', '=', '\n', 'p']

def exAt (line : Nat) : BState := { BState.fresh exDoc .root [] with line := line }

-- each of the nine rules answers `true` in real mode somewhere in `exDoc` and moves `line` forward
-- (hypotheses of `block_rule_progress_*` / `ruleAt_progress`), …
example : verdictLine (ruleAt exCfg 20 .paragraph (exAt 0) false) = some (true, 1) := by decide +kernel
example : verdictLine (ruleAt exCfg 20 .hr (exAt 1) false) = some (true, 2) := by decide +kernel
example : verdictLine (ruleAt exCfg 20 .heading (exAt 2) false) = some (true, 3) := by decide +kernel
example : verdictLine (ruleAt exCfg 20 .code (exAt 3) false) = some (true, 4) := by decide +kernel
example : verdictLine (ruleAt exCfg 20 .fence (exAt 4) false) = some (true, 7) := by decide +kernel
example : verdictLine (ruleAt exCfg 20 .blockquote (exAt 7) false) = some (true, 9) := by decide +kernel
example : verdictLine (ruleAt exCfg 20 .list (exAt 9) false) = some (true, 12) := by decide +kernel
example : verdictLine (ruleAt exCfg 20 .reference (exAt 12) false) = some (true, 13) := by decide +kernel
example : verdictLine (ruleAt exCfg 20 .lheading (exAt 13) false) = some (true, 15) := by decide +kernel
-- … the five that have a silent mode answer `true` there too, without moving (`silent_pure_*`,
-- `silent_implies_real_*`), …
example : verdictLine (ruleAt exCfg 20 .hr (exAt 1) true) = some (true, 1) := by decide +kernel
example : verdictLine (ruleAt exCfg 20 .heading (exAt 2) true) = some (true, 2) := by decide +kernel
example : verdictLine (ruleAt exCfg 20 .fence (exAt 4) true) = some (true, 4) := by decide +kernel
example : verdictLine (ruleAt exCfg 20 .blockquote (exAt 7) true) = some (true, 7) := by decide +kernel
example : verdictLine (ruleAt exCfg 20 .list (exAt 9) true) = some (true, 9) := by decide +kernel
-- … a rule that answers `false` (`real_false_same_*`), the list rule's extra silent-mode condition
-- (`"2. x"` cannot interrupt a paragraph, but is a list in real mode), …
example : verdictLine (ruleAt exCfg 20 .hr (exAt 0) false) = some (false, 0) := by decide +kernel
example : verdictLine (listRule (tokenize exCfg 8) (testRules exCfg 8) 9
    (BState.fresh ['2', '.', ' ', 'x'] .root []) true) = some (false, 0) := by decide +kernel
example : verdictLine (listRule (tokenize exCfg 8) (testRules exCfg 8) 9
    (BState.fresh ['2', '.', ' ', 'x'] .root []) false) = some (true, 1) := by decide +kernel
-- … and the tokenizer runs to `line_max` (`tokenize_progress`, `tableOk_fresh`).
example : lineOf (tokenize exCfg 30 (BState.fresh exDoc .root [])) = some 16 := by decide +kernel
example : (BState.fresh exDoc .root []).lineMax = 16 := by decide +kernel
end examples

/-! ## 10. C11: fenced and indented code is copied verbatim -/

open MdIt.Lines (NoTerm lead)

/-- a document given by its lines: joined by LF, no final terminator -/
abbrev docOf (Ls : List (List Char)) : List Char := Lines.joinLines false Ls

theorem pieces_docOf : ∀ (Ls : List (List Char)), Ls ≠ [] → (∀ l ∈ Ls, NoTerm l) →
    Lines.pieces (docOf Ls) = Ls
  | [], h, _ => absurd rfl h
  | [x], _, hn => by
    have := Lines.pieces_noTerm_append x (hn x (by simp)) []
    simp only [List.append_nil] at this
    simp [docOf, Lines.joinLines, this, Lines.pieces_nil, Lines.consHead_foldr]
  | x :: y :: r, _, hn => by
    have ih := pieces_docOf (y :: r) (by simp) (fun l hl => hn l (List.mem_cons_of_mem _ hl))
    have := Lines.pieces_noTerm_append x (hn x (by simp)) ('\n' :: docOf (y :: r))
    simp only [docOf, Lines.joinLines] at this ih ⊢
    rw [this, Lines.pieces_lf, ih, Lines.consHead_foldr]
    simp

theorem dropFinalEmpty_of_last : ∀ (Ls : List (List Char)), Ls.getLast? ≠ some [] →
    Lines.dropFinalEmpty Ls = Ls
  | [], _ => rfl
  | [p], _ => rfl
  | p :: q :: r, h => by
    have ih := dropFinalEmpty_of_last (q :: r) (by simpa [List.getLast?_cons_cons] using h)
    simp only [Lines.dropFinalEmpty]
    split
    · rename_i hc
      obtain ⟨rfl, rfl⟩ := hc
      simp [List.getLast?_cons_cons] at h
    · rw [ih]

/-- the line table of a document whose last line is not empty: one entry per line, showing
    (leading blanks, rest, tab-expanded width of the blanks) -/
theorem docOf_shows (Ls : List (List Char)) (hne : Ls ≠ []) (hn : ∀ l ∈ Ls, NoTerm l)
    (hlast : Ls.getLast? ≠ some []) :
    (Lines.splitLines (docOf Ls)).length = Ls.length ∧
    ∀ j (h : j < Ls.length), ∃ o, (Lines.splitLines (docOf Ls))[j]? = some o ∧
      Lines.Shows (docOf Ls) o (lead Ls[j], Ls[j].dropWhile Lines.isBlank,
        (Lines.indentWidth (lead Ls[j]) : Int)) := by
  have hspec : Lines.specLines (docOf Ls) = Ls.map Lines.decompose := by
    unfold Lines.specLines
    rw [pieces_docOf Ls hne hn, dropFinalEmpty_of_last Ls hlast]
  have hvs : Lines.vsOf (docOf Ls) = Ls.map fun l => (lead l, l.dropWhile Lines.isBlank,
      (Lines.indentWidth (lead l) : Int)) := by
    unfold Lines.vsOf
    rw [hspec, List.map_map]
    rfl
  have hlen := Lines.vsOf_length (docOf Ls)
  rw [hvs] at hlen
  refine ⟨by simpa using hlen.symm, ?_⟩
  intro j hj
  obtain ⟨o, ho, hs⟩ := Lines.split_shows (docOf Ls) j (by rw [hvs]; simpa using hj)
  refine ⟨o, ho, ?_⟩
  simp only [hvs, List.getElem_map] at hs
  exact hs

/-- a state over the document `docOf Ls` with the table of `BlockState::new` and `blk_indent = 0` -/
structure OnDoc (Ls : List (List Char)) (s : BState) : Prop where
  src : s.src = docOf Ls
  offs : s.offs = Lines.splitLines (docOf Ls)
  blk : s.blkIndent = 0
  ne : Ls ≠ []
  noTerm : ∀ l ∈ Ls, NoTerm l
  last : Ls.getLast? ≠ some []

theorem OnDoc.fresh {Ls : List (List Char)} (hne : Ls ≠ []) (hn : ∀ l ∈ Ls, NoTerm l)
    (hlast : Ls.getLast? ≠ some []) (k : Kind) (refs : Refs.RefMap) :
    OnDoc Ls (BState.fresh (docOf Ls) k refs) := ⟨rfl, rfl, rfl, hne, hn, hlast⟩

theorem OnDoc.entry {Ls : List (List Char)} {s : BState} (h : OnDoc Ls s) {j : Nat} (hj : j < Ls.length) :
    ∃ o, s.offs[j]? = some o ∧ Lines.Shows s.src o (lead Ls[j], Ls[j].dropWhile Lines.isBlank,
      (Lines.indentWidth (lead Ls[j]) : Int)) := by
  rw [h.src, h.offs]
  exact (docOf_shows Ls h.ne h.noTerm h.last).2 j hj

theorem OnDoc.lineIndent {Ls : List (List Char)} {s : BState} (h : OnDoc Ls s) {j : Nat} (hj : j < Ls.length) :
    s.lineIndent j = .ok (Lines.indentWidth (lead Ls[j]) : Int) := by
  obtain ⟨o, ho, _, _, hi⟩ := h.entry hj
  simp [BState.lineIndent, Lines.lineIndent, ho, liftL, h.blk, hi]

theorem OnDoc.getLine {Ls : List (List Char)} {s : BState} (h : OnDoc Ls s) {j : Nat} (hj : j < Ls.length) :
    s.getLine j = .ok (Ls[j].dropWhile Lines.isBlank) := by
  obtain ⟨o, ho, _, ht, _⟩ := h.entry hj
  unfold Lines.lineText at ht
  simp [BState.getLine, Lines.getLine, ho, liftL, ht]

theorem OnDoc.isEmpty {Ls : List (List Char)} {s : BState} (h : OnDoc Ls s) {j : Nat} (hj : j < Ls.length) :
    s.isEmpty j = decide (Ls[j].dropWhile Lines.isBlank = []) := by
  obtain ⟨o, ho, _, ht, _⟩ := h.entry hj
  have := Lines.is_empty_of_view ht
  simp only [BState.isEmpty, Lines.isEmpty, ho]
  by_cases he : Ls[j].dropWhile Lines.isBlank = []
  · simp [he, this.mpr he]
  · simp only [he, decide_false, decide_eq_false_iff_not]
    exact fun hc => he (this.mp hc)

theorem OnDoc.length {Ls : List (List Char)} {s : BState} (h : OnDoc Ls s) : s.offs.length = Ls.length := by
  rw [h.offs]; exact (docOf_shows Ls h.ne h.noTerm h.last).1

/-- `get_lines` on such a state: per line the piece computed from its view, joined by LF -/
theorem OnDoc.getLines {Ls : List (List Char)} {s : BState} (h : OnDoc Ls s) (b e indent : Nat) (keep : Bool)
    (hbe : b ≤ e) (he : e ≤ Ls.length) :
    ∃ m, s.getLines b e indent keep = .ok (Lines.joinLines keep
      (((Ls.drop b).take (e - b)).map fun l => Lines.viewPiece indent
        (lead l, l.dropWhile Lines.isBlank, (Lines.indentWidth (lead l) : Int))), m) := by
  let vs := ((Ls.drop b).take (e - b)).map fun l =>
    ((lead l, l.dropWhile Lines.isBlank, (Lines.indentWidth (lead l) : Int)) : List Char × List Char × Int)
  have hvl : vs.length = e - b := by simp [vs]; omega
  obtain ⟨m, hm⟩ := Lines.get_lines_lf s.src s.offs b indent keep vs (by
    intro j hj
    rw [hvl] at hj
    obtain ⟨o, ho, hs⟩ := h.entry (j := b + j) (by omega)
    refine ⟨o, ho, ?_⟩
    simpa [vs, List.getElem_take, List.getElem_drop] using hs)
  rw [hvl, show b + (e - b) = e by omega] at hm
  refine ⟨m, ?_⟩
  simp only [BState.getLines, hm, liftL, vs, List.map_map]
  rfl

/-- asking for no de-indentation (`indent = 0`) copies a line whole: blanks (tabs included) and text -/
theorem viewPiece_zero (l : List Char) :
    Lines.viewPiece 0 (lead l, l.dropWhile Lines.isBlank, (Lines.indentWidth (lead l) : Int)) = l := by
  have h := Lines.cut_full_indent (lead l)
  have e : Lines.usizeAsI32 0 = 0 := by decide
  simp only [Lines.viewPiece, e, Int.sub_zero, h, List.replicate_zero, List.nil_append]
  simp [Lines.dropB_of_dropBytes (Lines.dropBytes_zero _), Lines.lead_append_rest]

/-- the fence line `mⁿ` -/
abbrev fenceLine (m : Char) (n : Nat) : List Char := List.replicate n m

/-- `l` would close a fence opened by `mⁿ`: after at most three columns of blanks, at least `n`
    markers, then blanks only -/
def closes (m : Char) (n : Nat) (l : List Char) : Bool :=
  match l.dropWhile Lines.isBlank with
  | [] => false
  | c :: rest =>
    decide (c = m) && decide (Lines.indentWidth (lead l) < 4) && decide (n ≤ 1 + countRun m rest) &&
      (rest.drop (countRun m rest)).all isBlank

theorem countRun_replicate (m : Char) (k : Nat) : countRun m (List.replicate k m) = k := by
  induction k with
  | zero => rfl
  | succ k ih => simp [List.replicate_succ, countRun, ih]; omega

theorem joinLines_true (ps : List (List Char)) :
    Lines.joinLines true ps = ps.flatMap (· ++ ['\n']) := by
  induction ps with
  | nil => rfl
  | cons x r ih =>
    cases r with
    | nil => simp [Lines.joinLines]
    | cons y r' => simp only [Lines.joinLines, List.flatMap_cons] at ih ⊢; rw [ih]; simp

theorem slice_end (l : List Char) : Lines.slice l (Lines.byteLen l) (Lines.byteLen l) = .ok [] :=
  Lines.slice_eq_ok_iff.mpr ⟨l, [], by simp, rfl, by simp⟩

theorem lead_nonblank_cons {c : Char} (l : List Char) (hc : Lines.isBlank c = false) :
    lead (c :: l) = [] ∧ (c :: l).dropWhile Lines.isBlank = c :: l := by
  simp [lead, List.takeWhile, List.dropWhile, hc]

section fence
variable {m : Char} {n : Nat} {T : List (List Char)} {s : BState}

theorem fenceScan_verbatim (hm : m = '`' ∨ m = '~') (hn : 3 ≤ n)
    (hs : OnDoc (fenceLine m n :: T ++ [fenceLine m n]) s) (hmax : s.lineMax = T.length + 2)
    (hclose : ∀ l ∈ T, closes m n l = false) :
    ∀ (d j : Nat), j + d = T.length → fenceScan s m n j = .ok (T.length + 1, true) := by
  have hmb : Lines.isBlank m = false := by rcases hm with rfl | rfl <;> decide
  intro d
  induction d with
  | zero =>
    intro j hj
    have hj' : j + 1 < (fenceLine m n :: T ++ [fenceLine m n]).length := by simp; omega
    have hL : (fenceLine m n :: T ++ [fenceLine m n])[j + 1] = fenceLine m n := by
      simp [show j = T.length by omega]
    obtain ⟨k, rfl⟩ : ∃ k, n = k + 1 := ⟨n - 1, by omega⟩
    have h1 := hs.getLine hj'
    have h2 := hs.lineIndent hj'
    rw [hL] at h1 h2
    simp only [fenceLine, List.replicate_succ] at h1 h2
    rw [(lead_nonblank_cons _ hmb).2] at h1
    rw [(lead_nonblank_cons _ hmb).1] at h2
    rw [fenceScan]
    simp only [hmax, h1, h2]
    rw [if_neg (by omega)]
    simp [countRun_replicate, Lines.indentWidth, Lines.widthFrom]
    rw [if_neg (by omega)]
    simp; omega
  | succ d ih =>
    intro j hj
    have hj' : j + 1 < (fenceLine m n :: T ++ [fenceLine m n]).length := by simp; omega
    have hjT : j < T.length := by omega
    have hL : (fenceLine m n :: T ++ [fenceLine m n])[j + 1] = T[j] := by
      simp [List.getElem_append_left hjT]
    have h1 := hs.getLine hj'
    have h2 := hs.lineIndent hj'
    rw [hL] at h1 h2
    have hc := hclose T[j] (List.getElem_mem hjT)
    rw [fenceScan]
    simp only [hmax, h1, h2]
    rw [if_neg (by omega)]
    have hrec := ih (j + 1) (by omega)
    unfold closes at hc
    cases hd : T[j].dropWhile Lines.isBlank with
    | nil => simp [hrec]
    | cons c rest =>
      rw [hd] at hc
      simp only [Bool.and_eq_false_iff, decide_eq_false_iff_not] at hc
      have hnn : ¬ ((Lines.indentWidth (lead T[j]) : Int) < 0) := by omega
      simp only [hnn, and_false, if_false, hrec]
      by_cases hcm : c = m
      · subst hcm
        simp only [ne_eq, not_true_eq_false, if_false]
        split
        · rfl
        · split
          · rfl
          · rename_i h4 hlen
            rcases hc with ((hc | hc) | hc) | hc
            · exact absurd rfl hc
            · exact absurd (by omega) hc
            · exact absurd (by omega) hc
            · simp [hc]
      · simp [hcm]
end fence

theorem noTerm_fenceLine {m : Char} (hm : m = '`' ∨ m = '~') (n : Nat) : NoTerm (fenceLine m n) := by
  intro c hc
  have := (List.mem_replicate.mp hc).2
  subst this
  rcases hm with rfl | rfl <;> decide

theorem byteLen_fenceLine {m : Char} (hm : m = '`' ∨ m = '~') (n : Nat) : Lines.byteLen (fenceLine m n) = n :=
  Lines.byteLen_replicate (by rcases hm with rfl | rfl <;> decide) n

/-- `T` is any list of terminator-free lines none of which would close the
    fence (`closes m n l = false`: no line of `T` consists of at most three columns of blanks, `n` or
    more markers and then blanks only).  On the document `mⁿ`, `T`, `mⁿ` (one per line) the fence
    rule answers `true`, consumes every line, and the content of the node is `T` — every line whole,
    leading blanks and tabs included, each followed by one LF (`""` for empty `T`); the info string
    is empty. -/
theorem fence_verbatim (m : Char) (hm : m = '`' ∨ m = '~') (n : Nat) (hn : 3 ≤ n) (T : List (List Char))
    (hT : ∀ l ∈ T, NoTerm l) (hclose : ∀ l ∈ T, closes m n l = false) (k : Kind) (refs : Refs.RefMap) :
    ∃ s' r, fenceRule (BState.fresh (docOf (fenceLine m n :: T ++ [fenceLine m n])) k refs) false
        = .ok (true, s') ∧ s'.line = T.length + 2 ∧ s'.line = s'.lineMax ∧
      s'.children = [⟨.codeFence [] m n (T.flatMap (· ++ ['\n'])), some r, []⟩] := by
  have hmb : Lines.isBlank m = false := by rcases hm with rfl | rfl <;> decide
  obtain ⟨Ls, hLs⟩ : ∃ Ls, Ls = fenceLine m n :: T ++ [fenceLine m n] := ⟨_, rfl⟩
  rw [← hLs]
  have hne : Ls ≠ [] := by simp [hLs]
  have hnt : ∀ l ∈ Ls, NoTerm l := by
    intro l hl
    simp only [hLs, List.cons_append, List.mem_cons, List.mem_append, List.mem_nil_iff, or_false] at hl
    rcases hl with rfl | hl | rfl
    · exact noTerm_fenceLine hm n
    · exact hT l hl
    · exact noTerm_fenceLine hm n
  have hlast : Ls.getLast? ≠ some [] := by
    have : Ls.getLast? = some (fenceLine m n) := by
      rw [hLs, show fenceLine m n :: T ++ [fenceLine m n] = (fenceLine m n :: T) ++ [fenceLine m n] by simp]
      exact List.getLast?_concat
    rw [this]
    intro hc
    have := congrArg List.length (Option.some.inj hc)
    simp at this; omega
  obtain ⟨s, hs⟩ : ∃ s, s = BState.fresh (docOf Ls) k refs := ⟨_, rfl⟩
  rw [← hs]
  have hon : OnDoc Ls s := by rw [hs]; exact OnDoc.fresh hne hnt hlast k refs
  have hlen : Ls.length = T.length + 2 := by simp [hLs]
  have hmax : s.lineMax = T.length + 2 := by
    have := hon.length
    simp only [hs, BState.fresh] at this ⊢
    omega
  have h0 : 0 < Ls.length := by omega
  have hL0 : Ls[0] = fenceLine m n := by simp [hLs]
  obtain ⟨j, rfl⟩ : ∃ j, n = j + 1 := ⟨n - 1, by omega⟩
  have hgl := hon.getLine h0
  have hli := hon.lineIndent h0
  rw [hL0] at hgl hli
  simp only [fenceLine, List.replicate_succ] at hgl hli
  rw [(lead_nonblank_cons _ hmb).2] at hgl
  rw [(lead_nonblank_cons _ hmb).1] at hli
  have hscan := fenceScan_verbatim hm hn (hLs ▸ hon) hmax hclose T.length 0 (by omega)
  obtain ⟨o0, ho0, _, _, hi0⟩ := hon.entry h0
  rw [hL0] at hi0
  simp only [fenceLine, List.replicate_succ, (lead_nonblank_cons _ hmb).1] at hi0
  have hoff : s.off 0 = .ok o0 := by simp [BState.off, ho0]
  obtain ⟨mp, hget⟩ := hon.getLines 1 (T.length + 1) 0 true (by omega) (by omega)
  have hpieces : ((Ls.drop 1).take (T.length + 1 - 1)) = T := by simp [hLs]
  rw [hpieces] at hget
  simp only [viewPiece_zero, List.map_id', joinLines_true] at hget
  have hlast' : T.length + 1 < Ls.length := by omega
  obtain ⟨oe, hoe, _⟩ := hon.entry hlast'
  have hmap : s.getMap 0 (T.length + 1) = .ok (o0.firstNonspace, oe.lineEnd) := by
    simp [BState.getMap, Lines.getMap, ho0, hoe, liftL]
  have hbl : Lines.byteLen (m :: List.replicate j m) = j + 1 := by
    have := byteLen_fenceLine hm (j + 1)
    simpa [fenceLine, List.replicate_succ] using this
  have hsl : liftL (Lines.slice (m :: List.replicate j m) (1 + countRun m (List.replicate j m))
      (Lines.byteLen (m :: List.replicate j m))) = .ok [] := by
    rw [countRun_replicate, hbl, show 1 + j = j + 1 by omega]
    have := slice_end (m :: List.replicate j m)
    rw [hbl] at this
    simp [this, liftL]
  have hs0 : s.line = 0 := by rw [hs]; rfl
  have hrule : fenceRule s false = .ok (true,
      { s.push ⟨.codeFence [] m (j + 1) (T.flatMap (· ++ ['\n'])), some (o0.firstNonspace, oe.lineEnd), []⟩
        with line := T.length + 1 + 1 }) := by
    unfold fenceRule
    simp only [hs0, hli, hgl, ok_bind]
    rw [if_neg (by simp [Lines.indentWidth, Lines.widthFrom])]
    have hcr : 1 + countRun m (List.replicate j m) = j + 1 := by rw [countRun_replicate]; omega
    rw [hcr] at hsl ⊢
    rw [if_neg (by rcases hm with rfl | rfl <;> simp)]
    rw [if_neg (by omega)]
    simp only [hsl, ok_bind]
    rw [if_neg (by simp)]
    simp only [Bool.false_eq_true, if_false, hscan, ok_bind, hoff, hi0, i32AsUsize, Lines.indentWidth,
      Lines.widthFrom, List.foldl_nil, show ((0 : Nat) : Int) ≥ 0 by omega, if_true, Int.toNat_natCast,
      hget, psub, Nat.zero_le, Nat.sub_zero, hmap]
    rfl
  refine ⟨_, (o0.firstNonspace, oe.lineEnd), hrule, rfl, ?_, ?_⟩
  · simp [BState.push, hmax]
  · simp [BState.push, hs, BState.fresh]

/-! ### indented code -/

/-- four spaces -/
abbrev four : List Char := [' ', ' ', ' ', ' ']

theorem lead_four (l : List Char) : lead (four ++ l) = four ++ lead l := by
  simp [lead, four, List.takeWhile, show Lines.isBlank ' ' = true by decide]

theorem dropWhile_four (l : List Char) : (four ++ l).dropWhile Lines.isBlank = l.dropWhile Lines.isBlank := by
  simp [four, List.dropWhile, show Lines.isBlank ' ' = true by decide]

/-- asking to strip four columns from a line that starts with four spaces returns the rest of the
    line whole (tabs in it are on tab stops: none is split) -/
theorem viewPiece_four (l : List Char) :
    Lines.viewPiece 4 (lead (four ++ l), (four ++ l).dropWhile Lines.isBlank,
      (Lines.indentWidth (lead (four ++ l)) : Int)) = l := by
  rw [lead_four, dropWhile_four]
  have h := Lines.cut_four (lead l)
  have e : Lines.usizeAsI32 4 = 4 := by decide
  simp only [Lines.viewPiece, e]
  rw [show four ++ lead l = [' ', ' ', ' ', ' '] ++ lead l from rfl, h]
  have hd : Lines.dropBytes ([' ', ' ', ' ', ' '] ++ lead l) 4 = some (lead l) := by
    have := Lines.dropBytes_append [' ', ' ', ' ', ' '] (lead l)
    rwa [show Lines.byteLen [' ', ' ', ' ', ' '] = 4 by decide] at this
  have hd' := Lines.dropB_of_dropBytes hd
  simp only [List.cons_append, List.nil_append] at hd' ⊢
  simp [hd', Lines.lead_append_rest]

section code
variable {T : List (List Char)} {s : BState}

theorem codeScan_verbatim (hs : OnDoc (T.map (four ++ ·)) s) (hmax : s.lineMax = T.length)
    (hlastT : ∀ h : 0 < T.length, (T[T.length - 1]'(by omega)).dropWhile Lines.isBlank ≠ []) :
    ∀ (d j last : Nat), j + d = T.length → (d = 0 → last = T.length) →
      codeScan s j last = .ok T.length := by
  intro d
  induction d with
  | zero =>
    intro j last hj hl
    rw [codeScan, if_neg (by omega), hl rfl]
  | succ d ih =>
    intro j last hj hl
    have hjT : j < T.length := by omega
    have hj' : j < (T.map (four ++ ·)).length := by simpa using hjT
    have hL : (T.map (four ++ ·))[j] = four ++ T[j] := by simp
    have he := hs.isEmpty hj'
    have hi := hs.lineIndent hj'
    rw [hL, dropWhile_four] at he
    rw [hL, lead_four] at hi
    rw [codeScan, if_pos (by omega)]
    by_cases hb : T[j].dropWhile Lines.isBlank = []
    · rw [he]
      simp only [hb, decide_true, if_true]
      refine ih (j + 1) last (by omega) ?_
      intro hd
      exfalso
      have : j = T.length - 1 := by omega
      subst this
      exact hlastT (by omega) hb
    · rw [he]
      simp only [hb, decide_false, Bool.false_eq_true, if_false, hi]
      have hge : 4 ≤ Lines.indentWidth (four ++ lead T[j]) := by
        rw [Lines.indentWidth_append]
        exact Lines.widthFrom_ge _ _
      rw [if_pos (by omega)]
      exact ih (j + 1) (j + 1) (by omega) (fun _ => by omega)
end code

/-- `T` is a non-empty list of terminator-free lines whose last line is
    not blank (nor is the first, when the tokenizer runs the rule: it skips blank lines first; the rule
    itself does not need that).  On the document made of the lines of `T`, each behind four spaces, the
    indented-code rule (at the start of the document) answers `true`, consumes every line, and the
    content of the node is `T` joined by LF plus one final LF — interior blank lines, tabs and further
    indentation included. -/
theorem indented_verbatim (T : List (List Char)) (hne : T ≠ []) (hT : ∀ l ∈ T, NoTerm l)
    (hlastT : ∀ h : 0 < T.length, (T[T.length - 1]'(by omega)).dropWhile Lines.isBlank ≠ [])
    (k : Kind) (refs : Refs.RefMap) :
    ∃ s' r, codeRule (BState.fresh (docOf (T.map (four ++ ·))) k refs) false = .ok (true, s') ∧
      s'.line = T.length ∧ s'.line = s'.lineMax ∧
      s'.children = [⟨.codeBlock (docOf T ++ ['\n']), some r, []⟩] := by
  have hpos : 0 < T.length := List.length_pos_iff.mpr hne
  obtain ⟨Ls, hLs⟩ : ∃ Ls, Ls = T.map (four ++ ·) := ⟨_, rfl⟩
  rw [← hLs]
  have hLne : Ls ≠ [] := by simp [hLs, hne]
  have hnt : ∀ l ∈ Ls, NoTerm l := by
    intro l hl
    rw [hLs] at hl
    obtain ⟨t, ht, rfl⟩ := List.mem_map.mp hl
    intro c hc
    rcases List.mem_append.mp hc with h | h
    · simp [four] at h; subst h; decide
    · exact hT t ht c h
  have hlast : Ls.getLast? ≠ some [] := by
    intro hc
    have hm := List.mem_of_getLast? hc
    rw [hLs] at hm
    obtain ⟨t, _, ht⟩ := List.mem_map.mp hm
    simp [four] at ht
  obtain ⟨s, hs⟩ : ∃ s, s = BState.fresh (docOf Ls) k refs := ⟨_, rfl⟩
  rw [← hs]
  have hon : OnDoc Ls s := by rw [hs]; exact OnDoc.fresh hLne hnt hlast k refs
  have hlen : Ls.length = T.length := by simp [hLs]
  have holen := hon.length
  have hmax : s.lineMax = T.length := by
    simp only [hs, BState.fresh] at holen ⊢
    omega
  have h0 : 0 < Ls.length := by omega
  have hL0 : Ls[0] = four ++ T[0] := by simp [hLs]
  have hli := hon.lineIndent h0
  rw [hL0, lead_four] at hli
  have hge : 4 ≤ Lines.indentWidth (four ++ lead T[0]) := by
    rw [Lines.indentWidth_append]; exact Lines.widthFrom_ge _ _
  have hscan := codeScan_verbatim (hLs ▸ hon) hmax hlastT (T.length - 1) 1 1 (by omega) (by omega)
  -- the lines read, with their entries
  obtain ⟨ovs, hovs⟩ : ∃ ovs, ovs = s.offs.zip (Ls.map fun l =>
    ((lead l, l.dropWhile Lines.isBlank, (Lines.indentWidth (lead l) : Int)) : List Char × List Char × Int)) := ⟨_, rfl⟩
  have hol : ovs.length = T.length := by simp [hovs, holen, hlen]
  have hov : ∀ j (h : j < ovs.length), s.offs[0 + j]? = some ovs[j].1 ∧ Lines.Shows s.src ovs[j].1 ovs[j].2 := by
    intro j hj
    have hjL : j < Ls.length := by omega
    obtain ⟨o, ho, hsh⟩ := hon.entry hjL
    have hjo : j < s.offs.length := by omega
    have e1 : ovs[j] = (s.offs[j], (lead Ls[j], Ls[j].dropWhile Lines.isBlank,
        (Lines.indentWidth (lead Ls[j]) : Int))) := by
      simp [hovs, List.getElem_zip]
    have e2 : s.offs[j] = o := by
      have := List.getElem?_eq_getElem hjo
      rw [ho] at this
      exact (Option.some.inj this).symm
    rw [e1, e2]
    exact ⟨by simpa using ho, hsh⟩
  obtain ⟨content, hgl, hcontent, _⟩ := Lines.get_lines_faithful s.src s.offs 0 4 false ovs hov
  rw [Nat.zero_add, hol] at hgl
  -- content
  have hc : content = docOf T := by
    rw [hcontent]
    have : (ovs.map fun ov => Lines.viewPiece 4 ov.2) = T := by
      apply List.ext_getElem (by simp [hol])
      intro j h1 h2
      have hjL : j < Ls.length := by omega
      have hjo : j < s.offs.length := by omega
      simp only [List.getElem_map, hovs, List.getElem_zip]
      rw [show Ls[j] = four ++ T[j] by simp [hLs]]
      exact viewPiece_four T[j]
    rw [this]
  -- the first mapping entry, the last line
  obtain ⟨ov0, ovr, hcons⟩ : ∃ a r, ovs = a :: r := by
    cases ovs with
    | nil => simp at hol; omega
    | cons a r => exact ⟨a, r, rfl⟩
  have hov0 := hov 0 (by omega)
  simp only [hcons, List.getElem_cons_zero, Nat.add_zero] at hov0
  have hv0 : ov0.2 = (four ++ lead T[0], T[0].dropWhile Lines.isBlank,
      (Lines.indentWidth (four ++ lead T[0]) : Int)) := by
    have : ovs[0]'(by omega) = ov0 := by simp [hcons]
    rw [← this]
    have hjo : 0 < s.offs.length := by omega
    simp only [hovs, List.getElem_zip, List.getElem_map]
    rw [hL0, lead_four, dropWhile_four]
  have hvalid := Lines.split_offsets_valid (docOf Ls)
  have hst0 : ov0.1.lineStart = 0 := by
    apply hvalid.first
    have := hov0.1
    rw [hon.offs] at this
    exact this
  have hlastj : T.length - 1 < Ls.length := by omega
  obtain ⟨oe, hoe, hwe, _, _⟩ := hon.entry hlastj
  have hoeoff : s.off (T.length - 1) = .ok oe := by simp [BState.off, hoe]
  have hoe4 : 4 ≤ oe.lineEnd := by
    have hord := hvalid.ordered oe (by rw [← hon.offs]; exact List.mem_of_getElem? hoe)
    obtain ⟨p, q, _, hp, hq⟩ := Lines.slice_eq_ok_iff.mp (by unfold Lines.lineWs at hwe; exact hwe)
    rw [show Ls[T.length - 1] = four ++ T[T.length - 1] by simp [hLs], lead_four] at hq
    simp [four, show ' '.utf8Size = 1 by decide] at hq
    omega
  have hmap0 : Lines.mapOf 4 0 ovs = (0, 4) :: (Lines.mapOf 4 0 ovs).tail := by
    rw [hcons]
    simp only [Lines.mapOf, hv0]
    have hcf := Lines.cut_four (lead T[0])
    have e : Lines.usizeAsI32 4 = 4 := by decide
    rw [show four ++ lead T[0] = [' ', ' ', ' ', ' '] ++ lead T[0] from rfl, e, hcf, hst0]
    simp
  have hrule : codeRule s false = .ok (true,
      ({ s with line := T.length }).push ⟨.codeBlock (docOf T ++ ['\n']), some (4, oe.lineEnd), []⟩) := by
    unfold codeRule
    have hs0 : s.line = 0 := by rw [hs]; rfl
    have hblk : s.blkIndent = 0 := hon.blk
    simp only [Bool.false_eq_true, if_false, hs0, hli, ok_bind]
    rw [if_neg (by omega)]
    simp only [Nat.zero_add, hscan, ok_bind, show 4 + s.blkIndent = 4 by omega]
    have hgl' : BState.getLines { s with line := T.length } 0 T.length 4 false
        = .ok (content, Lines.mapOf 4 0 ovs) := by
      simp [BState.getLines, hgl, liftL]
    rw [hgl']
    simp only [ok_bind]
    rw [hmap0]
    simp only [psub, show 1 ≤ T.length by omega, if_true, ok_bind]
    have hoff' : BState.off { s with line := T.length } (T.length - 1) = .ok oe := hoeoff
    rw [hoff']
    simp only [ok_bind]
    rw [if_neg (by omega), hc]
    rfl
  refine ⟨_, (4, oe.lineEnd), hrule, rfl, ?_, ?_⟩
  · simp [BState.push, hmax]
  · simp [BState.push, hs, BState.fresh]

instance (l : List Char) : Decidable (NoTerm l) := by unfold NoTerm; infer_instance

/-- three backticks; two spaces + `a`, two backticks (too short to close), tab + `b`; three backticks -/
example : ∃ s' r, fenceRule (BState.fresh (docOf (fenceLine '`' 3 ::
      [[' ', ' ', 'a'], ['`', '`'], ['\t', 'b']] ++ [fenceLine '`' 3])) .root []) false = .ok (true, s') ∧
    s'.line = 5 ∧ s'.line = s'.lineMax ∧
    s'.children = [⟨.codeFence [] '`' 3 [' ', ' ', 'a', '\n', '`', '`', '\n', '\t', 'b', '\n'], some r, []⟩] :=
  fence_verbatim '`' (.inl rfl) 3 (by omega) _ (by decide) (by decide) .root []
/-- the precondition is needed: a line of three markers closes the fence -/
example : closes '`' 3 [' ', '`', '`', '`', ' '] = true := by decide
/-- `a`, an empty line, tab + `b`, each behind four spaces -/
example : ∃ s' r, codeRule (BState.fresh (docOf ([['a'], [], ['\t', 'b']].map (four ++ ·))) .root []) false
      = .ok (true, s') ∧ s'.line = 3 ∧ s'.line = s'.lineMax ∧
    s'.children = [⟨.codeBlock (['a', '\n', '\n', '\t', 'b'] ++ ['\n']), some r, []⟩] :=
  indented_verbatim [['a'], [], ['\t', 'b']] (by decide) (by decide) (by decide) .root []

/-! ## 11. what a container pushes in real mode; the loops; the shape predicate of C14

  What the two container rules do, in real mode, to the node under construction
  (`state.node.children`), read off the inversion lemmas of section 2, and the inductions (over the
  chain, the list loop, the tokenizer loop) that carry a relation between the state a call gets and
  the state it returns through a whole `tokenize` call.  With `flatRule_children` (section 7) they are
  what `Lemmas/BlockGrammar.lean` turns into the grammar of block trees; the invariants of state and
  ranges (`Props/C05Doc`, `Props/LinksDoc` part A) instantiate the loop inductions directly.
-/

/-! ### `mark_tight_paragraphs` -/

/-- what `mark_tight_paragraphs` leaves: the nodes that were there, and the children of the paragraphs -/
theorem mem_markTight {c : BNode} : ∀ {cs : List BNode}, c ∈ markTight cs →
    c ∈ cs ∨ ∃ p ∈ cs, p.kind = .paragraph ∧ c ∈ p.children
  | [], h => by cases h
  | n :: r, h => by
    simp only [markTight] at h
    split at h
    · next hp =>
      rcases List.mem_append.mp h with h1 | h1
      · exact .inr ⟨n, List.mem_cons_self, hp, h1⟩
      · rcases mem_markTight h1 with h2 | ⟨p, hp', h2⟩
        · exact .inl (List.mem_cons_of_mem _ h2)
        · exact .inr ⟨p, List.mem_cons_of_mem _ hp', h2⟩
    · rcases List.mem_cons.mp h with rfl | h1
      · exact .inl List.mem_cons_self
      · rcases mem_markTight h1 with h2 | ⟨p, hp', h2⟩
        · exact .inl (List.mem_cons_of_mem _ h2)
        · exact .inr ⟨p, List.mem_cons_of_mem _ hp', h2⟩

/-- `mark_tight_paragraphs` on one item -/
def tightenItem (c : BNode) : BNode := { c with children := markTight c.children }

/-- the tightening of a list succeeds on list items only, and applies `mark_tight_paragraphs` to the
    children of each -/
theorem tightenItems_ok : ∀ {cs cs' : List BNode}, tightenItems cs = .ok cs' →
    (∀ c ∈ cs, c.kind = .listItem) ∧ cs' = cs.map tightenItem
  | [], cs', h => by cases h; exact ⟨fun _ hc => (by cases hc), rfl⟩
  | c :: r, cs', h => by
    simp only [tightenItems] at h
    split at h
    · cases h
    · next hk =>
      split at h
      · cases h
      · next r' hr =>
        cases h
        obtain ⟨h1, rfl⟩ := tightenItems_ok hr
        refine ⟨fun x hx => ?_, rfl⟩
        rcases List.mem_cons.mp hx with rfl | hx
        · exact Decidable.not_not.mp hk
        · exact h1 x hx

/-- the children of a list node: the items, after `mark_tight_paragraphs` when the list is tight -/
theorem forall_tightened {Q : BNode → Prop} {tight : Bool} {items : List BNode} (h : ∀ c ∈ items, Q c)
    (ht : tight = true → ∀ c ∈ items, Q (tightenItem c)) :
    ∀ c ∈ (if tight then items.map tightenItem else items), Q c := by
  cases tight
  · exact h
  · intro x hx
    obtain ⟨c, hc, rfl⟩ := List.mem_map.mp hx
    exact ht rfl c hc

/-! ### the two containers -/

theorem blockquote_children {tok : Tok} {test : Test} (hk : TokSpec tok) (ht : TestPure test)
    {fuel : Nat} {s s' : BState} {b : Bool} (h : blockquoteRule tok test fuel s false = .ok (b, s')) :
    (b = false ∧ s' = s) ∨
    ∃ SN S2 r, b = true ∧ tok SN = .ok S2 ∧ SN.children = [] ∧ SN.level = s.level + 1 ∧
      s'.children = s.children ++ [⟨.blockquote, some r, S2.children⟩] := by
  rcases blockquoteRule_ok h with ⟨hb, rfl⟩ | ⟨_, _, -, -, -, -, hb, ⟨⟨⟩, -⟩ |
    ⟨-, _, _, S, S2, _, r, hscan, htok, -, -, -, -, rfl⟩⟩
  · exact .inl ⟨hb, rfl⟩
  · have hsb := (bqScan_spec ht _ _ _ _ _ _ _ _ hscan).1
    refine .inr ⟨_, S2, r, hb, htok, rfl, ?_, ?_⟩
    · show S.level + 1 = _
      rw [hsb.level]
    · show S.children ++ _ = _
      rw [hsb.children, (hk.frame _ _ htok).nodeKind]

/-- a `ListItem` node as `listItem` builds it in a list at level `L`: empty (the empty-item
    workaround), or over what the nested tokenizer, started on an empty child vector at level
    `L + 1`, returned; `t` is the `tight` flag of the list after the item -/
def ItemRun (tok : Tok) (L : Nat) (t : Bool) (c : BNode) : Prop :=
  ∃ r cs, c = ⟨.listItem, some r, cs⟩ ∧
    (cs = [] ∨ ∃ SN S2, tok SN = .ok S2 ∧ SN.children = [] ∧ SN.level = L + 1 ∧
      (t = true → S2.tight = true) ∧ cs = S2.children)

theorem ItemRun.mono {tok : Tok} {L : Nat} {t t' : Bool} {c : BNode} (h : ItemRun tok L t c)
    (ht : t' = true → t = true) : ItemRun tok L t' c := by
  obtain ⟨r, cs, hc, rfl | ⟨SN, S2, h1, h2, h3, h4, h5⟩⟩ := h
  · exact ⟨r, _, hc, .inl rfl⟩
  · exact ⟨r, cs, hc, .inr ⟨SN, S2, h1, h2, h3, fun e => h4 (ht e), h5⟩⟩

theorem listItem_children {tok : Tok} (hk : TokSpec tok) {S S' : BState} {m pos : Nat}
    {pee tight pee' tight' : Bool} (h : listItem tok S m pos pee tight = .ok (S', tight', pee')) :
    S'.level = S.level ∧ S'.nodeKind = S.nodeKind ∧ (tight' = true → tight = true) ∧
    ∃ c, S'.children = S.children ++ [c] ∧ ItemRun tok S.level tight' c := by
  obtain ⟨o, o', indent, re, S3, li, r, -, -, -, hbody, htight, -, -, -, -, -, rfl⟩ := listItem_ok h
  have hmono : tight' = true → S3.tight = true ∧ tight = true := by
    intro e
    rw [e] at htight
    split at htight
    · cases htight
    · next hc =>
      simp only [not_or, Bool.not_eq_true] at hc
      exact ⟨by simpa using hc.1, htight.symm⟩
  rcases listItemBody_ok hbody with ⟨-, -, rfl⟩ | ⟨-, S2, htok, hl2, rfl⟩
  · exact ⟨rfl, rfl, fun e => (hmono e).2, _, rfl, r, [], rfl, .inl rfl⟩
  · have hf := hk.frame _ _ htok
    refine ⟨?_, rfl, fun e => (hmono e).2, _, rfl, r, S2.children, ?_, .inr ⟨_, S2, htok, rfl, rfl,
      fun e => (hmono e).1, rfl⟩⟩
    · show S2.level - 1 = _
      rw [hf.level]
      rfl
    · show (⟨S2.nodeKind, _, _⟩ : BNode) = _
      rw [hf.nodeKind]

theorem listLoop_children {tok : Tok} {test : Test} (hk : TokSpec tok) (ht : TestPure test)
    {ordered : Bool} {mc : Char} :
    ∀ (fuel : Nat) (S : BState) (m pos : Nat) (pee tight : Bool) (n : Nat) (tight' : Bool) (S' : BState),
      listLoop tok test ordered mc fuel S m pos pee tight = .ok (n, tight', S') →
      S'.level = S.level ∧ S'.nodeKind = S.nodeKind ∧ (tight' = true → tight = true) ∧
      ∃ items, S'.children = S.children ++ items ∧ ∀ c ∈ items, ItemRun tok S.level tight' c := by
  intro fuel
  induction fuel with
  | zero => intro S m pos pee tight n tight' S' h; simp [listLoop] at h
  | succ f ih =>
    intro S m pos pee tight n tight' S' h
    rcases listLoop_ok h with ⟨-, -, rfl, rfl⟩ | ⟨S1, t1, p1, c, S2, -, hitem, hcont, hrest⟩
    · exact ⟨rfl, rfl, id, [], (List.append_nil _).symm, fun _ hc => by cases hc⟩
    obtain ⟨hl1, hk1, ht1, c1, hc1, hrun1⟩ := listItem_children hk hitem
    cases (listContinue_spec ht hcont).1
    rcases hrest with ⟨-, -, rfl, rfl⟩ | ⟨p, -, hloop⟩
    · refine ⟨hl1, hk1, ht1, [c1], hc1, fun x hx => ?_⟩
      cases List.mem_singleton.mp hx
      exact hrun1
    · obtain ⟨hl2, hk2, ht2, items, hc2, hrun2⟩ := ih _ _ _ _ _ _ _ _ hloop
      refine ⟨hl2.trans hl1, hk2.trans hk1, fun e => ht1 (ht2 e), c1 :: items, ?_, fun x hx => ?_⟩
      · rw [hc2, hc1, List.append_assoc]
        rfl
      · rcases List.mem_cons.mp hx with rfl | hx
        · exact hrun1.mono ht2
        · rw [← hl1]
          exact hrun2 x hx

theorem isListKind_cases {k : Kind} (h : isListKind k = true) :
    (∃ m, k = .bulletList m) ∨ ∃ st m, k = .orderedList st m := by
  cases k <;> first | exact .inl ⟨_, rfl⟩ | exact .inr ⟨_, _, rfl⟩ | cases h

theorem isInl_of_isListKind {k : Kind} (h : isListKind k = true) : k.isInl = false := by
  rcases isListKind_cases h with ⟨m, rfl⟩ | ⟨st, m, rfl⟩ <;> rfl

theorem list_children {tok : Tok} {test : Test} (hk : TokSpec tok) (ht : TestPure test) {fuel : Nat}
    {s s' : BState} {b : Bool} (h : listRule tok test fuel s false = .ok (b, s')) :
    (b = false ∧ s' = s) ∨
    ∃ k r tight items, b = true ∧ isListKind k = true ∧
      (∀ c ∈ items, ItemRun tok (s.level + 1) tight c) ∧
      s'.children = s.children ++ [⟨k, some r, if tight then items.map tightenItem else items⟩] := by
  rcases listRule_ok h with ⟨hb, rfl⟩ | ⟨_, _, _, mv, -, -, -, -, -, -, -, -, hb, ⟨⟨⟩, -⟩ |
    ⟨-, _, _, tight, S, cs, r, -, hloop, hcs, -, -, -, rfl⟩⟩
  · exact .inl ⟨hb, rfl⟩
  · obtain ⟨-, hkind, -, items, hch, hrun⟩ := listLoop_children hk ht _ _ _ _ _ _ _ _ _ hloop
    rw [show S.children = items from hch] at hcs
    have hcs' : cs = if tight then items.map tightenItem else items := by
      cases tight
      · exact (pure_ok.mp hcs).symm
      · exact (tightenItems_ok hcs).2
    refine .inr ⟨S.nodeKind, r, tight, items, hb, ?_, hrun, hcs' ▸ rfl⟩
    rw [hkind]
    cases mv <;> rfl

/-! ### the chain, the list loop, the tokenizer loop -/

theorem runChain_rel {R : BState → BState → Prop} (hrefl : ∀ s, R s s)
    (htrans : ∀ {a b c}, R a b → R b c → R a c) {run : RuleId → BState → Bool → Res}
    (hrule : ∀ r s b s', run r s false = .ok (b, s') → R s s') :
    ∀ (chain : List RuleId) (s : BState) (b : Bool) (s' : BState),
      runChain run chain s false = .ok (b, s') → R s s' := by
  intro chain
  induction chain with
  | nil => intro s b s' h; simp [runChain] at h; rw [← h.2]; exact hrefl s
  | cons r rs ih =>
    intro s b s' h
    simp only [runChain] at h
    split at h
    · cases h
    · rename_i s1 h1
      cases h
      exact hrule _ _ _ _ h1
    · rename_i s1 h1
      exact htrans (hrule _ _ _ _ h1) (ih _ _ _ h)

theorem listLoop_rel {R : BState → BState → Prop} (hrefl : ∀ s, R s s)
    (htrans : ∀ {a b c}, R a b → R b c → R a c) {tok : Tok} {test : Test} (ht : TestPure test)
    {ordered : Bool} {mc : Char}
    (hitem : ∀ S m pos pee tight S' t' p', listItem tok S m pos pee tight = .ok (S', t', p') → R S S') :
    ∀ (fuel : Nat) (S : BState) (m pos : Nat) (pee tight : Bool) (n : Nat) (tight' : Bool) (S' : BState),
      listLoop tok test ordered mc fuel S m pos pee tight = .ok (n, tight', S') → R S S' := by
  intro fuel
  induction fuel with
  | zero => intro S m pos pee tight n tight' S' h; simp [listLoop] at h
  | succ f ih =>
    intro S m pos pee tight n tight' S' h
    rcases listLoop_ok h with ⟨_, _, _, rfl⟩ |
      ⟨S1, _, _, _, S2, _, hit, hc, ⟨_, _, _, rfl⟩ | ⟨_, _, hloop⟩⟩
    · exact hrefl _
    · obtain rfl := (listContinue_spec ht hc).1
      exact hitem _ _ _ _ _ _ _ _ hit
    · obtain rfl := (listContinue_spec ht hc).1
      exact htrans (hitem _ _ _ _ _ _ _ _ hit) (ih _ _ _ _ _ _ _ _ hloop)

theorem tokLoop_keeps {cfg : Cfg} {run : RuleId → BState → Bool → Res} {K : BState → BState → Prop}
    (hset : ∀ (s : BState) (l : Nat) (t : Bool), s.line ≤ l → K s { s with line := l, tight := t })
    (htrans : ∀ a b c, K a b → K b c → K a c)
    (hiter : ∀ (s : BState) (ok : Bool) (S1 S2 : BState), s.line < s.lineMax → IndentOk s →
      s.level < cfg.maxNesting → runChain run cfg.chain s false = .ok (ok, S1) →
      afterChain ok S1 s.line = .ok S2 → K s S2) :
    ∀ (fuel : Nat) (he : Bool) (s s' : BState), tokLoop cfg run fuel he s = .ok s' → K s s' := by
  intro fuel
  induction fuel with
  | zero => intro he s s' h; simp [tokLoop] at h
  | succ f ih =>
    intro he s s' h
    have hs1 := (skipEmpty_spec s.offs s.lineMax s.line).1
    rcases tokLoop_ok h with ⟨-, rfl⟩ | ⟨l, hlt, rfl, hcase⟩
    · exact hset s' s'.line s'.tight (Nat.le_refl _)
    rcases hcase with ⟨-, rfl⟩ | ⟨ind, hl, hind, ⟨-, rfl⟩ | ⟨-, -, rfl⟩ |
      ⟨ok, S1, S2, he', S3, h0, hlev, hchain, hafter, -, hloop, hS3⟩⟩
    · exact hset s _ s.tight hs1
    · exact hset s _ s.tight hs1
    · exact hset s _ s.tight (Nat.le_of_lt hlt)
    · have h1 := hset s _ s.tight hs1
      have h2 := hiter { s with line := Lines.skipEmptyLines s.offs s.lineMax s.line } ok S1 S2 hl
        ⟨ind, hind, h0⟩ hlev hchain hafter
      have h3 : K S2 S3 := by
        rcases hS3 with ⟨-, -, -, rfl⟩ | ⟨-, -, rfl⟩
        · exact hset S2 _ _ (Nat.le_succ _)
        · exact hset S2 S2.line _ (Nat.le_refl _)
      exact htrans _ _ _ (htrans _ _ _ (htrans _ _ _ h1 h2) h3) (ih _ _ _ hloop)

/-- the induction over the budget of the engine: the tokenizer satisfies what its loop satisfies
    once the tokenizer one budget lower does -/
theorem tokenize_keeps {cfg : Cfg} {K : BState → BState → Prop}
    (hloop : ∀ f, (∀ s s', tokenize cfg f s = .ok s' → K s s') → TokSpec (tokenize cfg f) →
      TestPure (testRules cfg f) → ∀ s s',
        tokLoop cfg (runRule cfg (tokenize cfg f) (testRules cfg f) (f + 1)) (f + 1) false s = .ok s' →
        K s s') :
    ∀ (fuel : Nat) (s s' : BState), tokenize cfg fuel s = .ok s' → K s s' := by
  intro fuel
  induction fuel with
  | zero => intro s s' h; cases h
  | succ f ih => exact hloop f ih (tokenize_tokSpec cfg f) (testRules_pure cfg f)

/-! ### `Shaped`: list items are exactly the children of lists -/

/-- the local condition on a node of kind `k` with children `cs`: a list has only list items as
    children, and a list item has a list as parent -/
def ShapeAt (k : Kind) (cs : List BNode) : Prop :=
  (isListKind k = true → ∀ c ∈ cs, c.kind = .listItem) ∧
  (∀ c ∈ cs, c.kind = .listItem → isListKind k = true)

/-- the condition holds at every node of the tree -/
inductive Shaped : BNode → Prop
  | mk (n : BNode) : ShapeAt n.kind n.children → (∀ c ∈ n.children, Shaped c) → Shaped n

theorem Shaped.at {n : BNode} (h : Shaped n) : ShapeAt n.kind n.children := by cases h; assumption
theorem Shaped.child {n : BNode} (h : Shaped n) : ∀ c ∈ n.children, Shaped c := by cases h; assumption

/-- the two halves of `ShapeAt`, for any node `n` of a parsed tree reached through `Shaped.child` -/
theorem Shaped.list_children {n : BNode} (h : Shaped n) (hk : isListKind n.kind = true) :
    ∀ c ∈ n.children, c.kind = .listItem := h.at.1 hk

theorem Shaped.item_parent {n : BNode} (h : Shaped n) {c : BNode} (hc : c ∈ n.children)
    (hi : c.kind = .listItem) : isListKind n.kind = true := h.at.2 c hc hi

/-- `"- a\n- b\n\n1. c"`: two lists, three items, nothing else is an item -/
example : (parseBlocks exCfg ['-', ' ', 'a', '\n', '-', ' ', 'b', '\n', '\n', '1', '.', ' ', 'c']).toOption.map
      (fun p => p.1.children.map fun n => (n.kind, n.children.map (·.kind)))
    = some [(.bulletList '-', [.listItem, .listItem]), (.orderedList 1 '.', [.listItem])] := by
  decide +kernel

/-! ## 12. more fuel never changes a result

  The nested tokenizer may change only above the level of the state (`ExtAbove`: a rule run at
  `state.level = l` calls it at levels `> l` only), the look-ahead anywhere, the fuel may grow.  Each
  lemma walks down the two `do` blocks side by side: they differ in the calls back into the parser
  only. -/

/-- `y` answers whatever `x` answers -/
def OkLe {α : Type} (x y : Except Panic α) : Prop := ∀ a, x = .ok a → y = .ok a

theorem OkLe.refl {α : Type} (x : Except Panic α) : OkLe x x := fun _ h => h

theorem OkLe.bind {α β : Type} {x y : Except Panic α} {f g : α → Except Panic β} (h1 : OkLe x y)
    (h2 : ∀ a, x = .ok a → OkLe (f a) (g a)) : OkLe (x >>= f) (y >>= g) := by
  intro b h
  obtain ⟨a, ha, hb⟩ := bind_ok.mp h
  exact bind_ok.mpr ⟨a, h1 a ha, h2 a ha b hb⟩

/-- the same first statement, then continuations that are related on its result -/
theorem OkLe.after {α β : Type} {x : Except Panic α} {f g : α → Except Panic β}
    (h : ∀ a, x = .ok a → OkLe (f a) (g a)) : OkLe (x >>= f) (x >>= g) := .bind (.refl x) h

theorem OkLe.ite {α : Type} {c : Prop} [Decidable c] {x x' y y' : Except Panic α}
    (h1 : c → OkLe x x') (h2 : ¬ c → OkLe y y') : OkLe (if c then x else y) (if c then x' else y') := by
  split
  · exact h1 ‹c›
  · exact h2 ‹¬ c›

/-- the same early exit, then related continuations -/
theorem OkLe.orElse {α : Type} {c : Prop} [Decidable c] {x y y' : Except Panic α}
    (h : ¬ c → OkLe y y') : OkLe (if c then x else y) (if c then x else y') := .ite (fun _ => .refl x) h

/-- `f'` answers whatever `f` answers -/
def Ext {α β : Type} (f f' : α → Except Panic β) : Prop := ∀ a, OkLe (f a) (f' a)

/-- `tok'` answers whatever `tok` answers on states above level `L` -/
def ExtAbove (L : Nat) (tok tok' : Tok) : Prop := ∀ a, L < a.level → OkLe (tok a) (tok' a)

theorem lazyScan_mono {test test' : Test} (ht : Ext test test') (setext : Bool) :
    ∀ (fuel fuel' : Nat) (s : BState) (n : Nat), fuel ≤ fuel' →
      OkLe (lazyScan test setext fuel s n) (lazyScan test' setext fuel' s n) := by
  intro fuel
  induction fuel with
  | zero => intro fuel' s n _ r h; cases h
  | succ f ih =>
    intro fuel' s n hf
    obtain ⟨f', rfl⟩ : ∃ f', fuel' = f' + 1 := ⟨fuel' - 1, by omega⟩
    unfold lazyScan
    refine .orElse fun _ => .after fun ind _ => .ite (fun _ => ih f' s _ (by omega)) fun _ => ?_
    refine .after fun lvl _ => .orElse fun _ => .after fun o _ => ?_
    refine .ite (fun _ => ih f' s _ (by omega)) fun _ => .bind (ht _) fun r _ => ?_
    exact .orElse fun _ => ih f' _ _ (by omega)

theorem bqScan_mono {test test' : Test} (ht : Ext test test') :
    ∀ (fuel fuel' : Nat) (s : BState) (m : Nat) (old : List LineOffset) (le : Bool), fuel ≤ fuel' →
      OkLe (bqScan test fuel s m old le) (bqScan test' fuel' s m old le) := by
  intro fuel
  induction fuel with
  | zero => intro fuel' s m old le _ r h; cases h
  | succ f ih =>
    intro fuel' s m old le hf
    obtain ⟨f', rfl⟩ : ∃ f', fuel' = f' + 1 := ⟨fuel' - 1, by omega⟩
    unfold bqScan
    refine .orElse fun _ => .after fun ind _ => .after fun line _ => ?_
    rcases line with _ | ⟨c, rest⟩
    · exact .refl _
    refine .ite (fun _ => .after fun o _ => .after fun rw _ => .after fun S _ => ih f' _ _ _ _ (by omega))
      fun _ => .orElse fun _ => .bind (ht _) fun r _ => ?_
    exact .ite (fun _ => .refl _) fun _ => .after fun o _ => .after fun S _ => ih f' _ _ _ _ (by omega)

theorem paragraph_mono {test test' : Test} (ht : Ext test test') {fuel fuel' : Nat} (hf : fuel ≤ fuel')
    {s : BState} {b : Bool} : OkLe (paragraphRule test fuel s b) (paragraphRule test' fuel' s b) := by
  unfold paragraphRule
  exact .orElse fun _ => .bind (lazyScan_mono ht false _ _ _ _ hf) fun _ _ => .refl _

theorem lheading_mono {test test' : Test} (ht : Ext test test') {fuel fuel' : Nat} (hf : fuel ≤ fuel')
    {s : BState} {b : Bool} : OkLe (lheadingRule test fuel s b) (lheadingRule test' fuel' s b) := by
  unfold lheadingRule
  exact .orElse fun _ => .after fun _ _ => .orElse fun _ =>
    .bind (lazyScan_mono ht true _ _ _ _ hf) fun _ _ => .refl _

theorem reference_mono {cfg : Cfg} {test test' : Test} (ht : Ext test test') {fuel fuel' : Nat}
    (hf : fuel ≤ fuel') {s : BState} {b : Bool} :
    OkLe (referenceRule cfg test fuel s b) (referenceRule cfg test' fuel' s b) := by
  unfold referenceRule
  refine .orElse fun _ => .after fun _ _ => .orElse fun _ => .after fun line _ => ?_
  rcases line with _ | ⟨c, rest⟩
  · exact .refl _
  · exact .orElse fun _ => .orElse fun _ => .bind (lazyScan_mono ht false _ _ _ _ hf) fun _ _ => .refl _

theorem blockquote_monoL {tok tok' : Tok} {test test' : Test} (htp : TestPure test) {s : BState}
    (hk : ExtAbove s.level tok tok') (ht : Ext test test') {fuel fuel' : Nat} (hf : fuel ≤ fuel')
    {b : Bool} : OkLe (blockquoteRule tok test fuel s b) (blockquoteRule tok' test' fuel' s b) := by
  unfold blockquoteRule
  refine .after fun _ _ => .orElse fun _ => .after fun _ _ => .orElse fun _ => .orElse fun _ => ?_
  refine .bind (bqScan_mono ht _ _ _ _ _ _ hf) fun ⟨n, old, S⟩ hscan => .bind (hk _ ?_) fun _ _ => .refl _
  exact Nat.lt_succ_of_le (Nat.le_of_eq (bqScan_spec htp _ _ _ _ _ _ _ _ hscan).1.level.symm)

theorem listItem_mono {tok tok' : Tok} {L : Nat} (hk : ExtAbove L tok tok') {s : BState}
    (hL : L ≤ s.level) {m pos : Nat} {pee tight : Bool} :
    OkLe (listItem tok s m pos pee tight) (listItem tok' s m pos pee tight) := by
  unfold listItem
  refine .after fun o _ => .after fun ⟨o', indent, re⟩ _ => .after fun S2 hS2 => ?_
  refine .bind ?_ fun _ _ => .refl _
  unfold listItemBody
  refine .orElse fun _ => .bind (hk _ ?_) fun _ _ => .refl _
  rw [(setOff_ok hS2).2]
  exact Nat.lt_succ_of_le hL

theorem listContinue_mono {test test' : Test} (ht : Ext test test') {ordered : Bool} {mc : Char}
    {s : BState} {n : Nat} :
    OkLe (listContinue test ordered mc s n) (listContinue test' ordered mc s n) := by
  unfold listContinue
  exact .orElse fun _ => .after fun _ _ => .orElse fun _ => .orElse fun _ => .bind (ht s) fun _ _ => .refl _

theorem listLoop_mono {tok tok' : Tok} {test test' : Test} {L : Nat} (hsp : TokSpec tok)
    (htp : TestPure test) (hk : ExtAbove L tok tok') (ht : Ext test test') {ordered : Bool} {mc : Char} :
    ∀ (fuel fuel' : Nat) (s : BState) (m pos : Nat) (pee tight : Bool), fuel ≤ fuel' → L ≤ s.level →
      OkLe (listLoop tok test ordered mc fuel s m pos pee tight)
        (listLoop tok' test' ordered mc fuel' s m pos pee tight) := by
  intro fuel
  induction fuel with
  | zero => intro fuel' s m pos pee tight _ _ r h; cases h
  | succ f ih =>
    intro fuel' s m pos pee tight hf hL
    obtain ⟨f', rfl⟩ : ∃ f', fuel' = f' + 1 := ⟨fuel' - 1, by omega⟩
    unfold listLoop
    refine .orElse fun _ => .bind (listItem_mono hk hL) fun ⟨S1, t1, p1⟩ hitem =>
      .bind (listContinue_mono ht) fun ⟨c, S2⟩ hcont => ?_
    rcases c with _ | p
    · exact .refl _
    · refine ih f' _ _ _ _ _ (by omega) ?_
      rw [(listContinue_spec htp hcont).1, (listItem_frame hsp hitem).level]
      exact hL

theorem list_monoL {tok tok' : Tok} {test test' : Test} (hsp : TokSpec tok) (htp : TestPure test)
    {s : BState} (hk : ExtAbove s.level tok tok') (ht : Ext test test') {fuel fuel' : Nat}
    (hf : fuel ≤ fuel') {b : Bool} :
    OkLe (listRule tok test fuel s b) (listRule tok' test' fuel' s b) := by
  unfold listRule
  refine .orElse fun _ => .after fun _ _ => .orElse fun _ => .after fun _ _ => .orElse fun _ =>
    .after fun _ _ => .after fun det _ => ?_
  rcases det with _ | ⟨pos, mv⟩
  · exact .refl _
  refine .orElse fun _ => .after fun _ _ => .orElse fun _ => .orElse fun _ => .after fun _ _ => ?_
  exact .bind (listLoop_mono hsp htp hk ht _ _ _ _ _ _ _ hf (Nat.le_succ _)) fun _ _ => .refl _

theorem runRule_mono {cfg : Cfg} {tok tok' : Tok} {test test' : Test} (hsp : TokSpec tok)
    (htp : TestPure test) (ht : Ext test test') {fuel fuel' : Nat} (hf : fuel ≤ fuel') (r : RuleId)
    {s : BState} (hk : ExtAbove s.level tok tok') {b : Bool} :
    OkLe (runRule cfg tok test fuel r s b) (runRule cfg tok' test' fuel' r s b) := by
  cases r <;> simp only [runRule]
  · exact .refl _
  · exact .refl _
  · exact blockquote_monoL htp hk ht hf
  · exact .refl _
  · exact list_monoL hsp htp hk ht hf
  · exact reference_mono ht hf
  · exact .refl _
  · exact lheading_mono ht hf
  · exact paragraph_mono ht hf

/-- the chain at `s`: until a rule answers `true` every rule is run at `s` itself -/
theorem runChain_mono {run run' : RuleId → BState → Bool → Res} {b : Bool}
    (hsame : ∀ r s s', run r s b = .ok (false, s') → s' = s) (s : BState)
    (hrun : ∀ r, OkLe (run r s b) (run' r s b)) :
    ∀ chain : List RuleId, OkLe (runChain run chain s b) (runChain run' chain s b) := by
  intro chain
  induction chain with
  | nil => exact .refl _
  | cons r rs ih =>
    intro x h
    simp only [runChain] at h ⊢
    split at h
    · cases h
    · rename_i s1 h1
      rw [hrun _ _ h1]; exact h
    · rename_i s1 h1
      rw [hrun _ _ h1]
      cases hsame _ _ _ h1
      exact ih _ h

/-- the tokenizer loop entered at level `L`: only the behaviour of the chain on states of level `L`
    (below the limit, on a line of the window) matters -/
theorem tokLoop_monoL {cfg : Cfg} {run run' : RuleId → BState → Bool → Res} (hr : RunSpec run) {L : Nat}
    (hrun : ∀ r s, s.level = L → L < cfg.maxNesting → s.line < s.lineMax →
      OkLe (run r s false) (run' r s false)) :
    ∀ (fuel fuel' : Nat) (he : Bool) (s : BState), fuel ≤ fuel' → s.level = L →
      OkLe (tokLoop cfg run fuel he s) (tokLoop cfg run' fuel' he s) := by
  intro fuel
  induction fuel with
  | zero => intro fuel' he s _ _ r h; cases h
  | succ f ih =>
    intro fuel' he s hf hL
    obtain ⟨f', rfl⟩ : ∃ f', fuel' = f' + 1 := ⟨fuel' - 1, by omega⟩
    unfold tokLoop
    generalize Lines.skipEmptyLines s.offs s.lineMax s.line = l
    refine .orElse fun _ => .orElse fun hge => .after fun ind hind => .orElse fun hneg =>
      .orElse fun hlev => ?_
    have hlt : l < s.lineMax := Nat.not_le.mp hge
    have hlv : L < cfg.maxNesting := hL ▸ Nat.not_le.mp hlev
    refine .bind (runChain_mono hr.false_same { s with line := l } (fun r => hrun r _ hL hlv hlt) _)
      fun ⟨ok, S1⟩ hchain => .after fun S2 hafter => .after fun _ _ => ?_
    have hlevel : S2.level = L :=
      (tok_iter hr rfl hlt ⟨ind, hind, Int.not_lt.mp hneg⟩ hchain hafter).1.level.trans hL
    exact .ite (fun _ => ih f' _ _ (by omega) hlevel) fun _ => ih f' _ _ (by omega) hlevel

/-- **fuel monotonicity**: a result obtained with fuel `f` is obtained with every larger fuel -/
theorem engine_mono (cfg : Cfg) : ∀ (f f' : Nat), f ≤ f' →
    Ext (tokenize cfg f) (tokenize cfg f') ∧ Ext (testRules cfg f) (testRules cfg f') := by
  intro f
  induction f with
  | zero =>
    intro f' _
    exact ⟨fun s t h => by simp [tokenize, engine] at h, fun s t h => by simp [testRules, engine] at h⟩
  | succ f ih =>
    intro f' hf
    obtain ⟨g, rfl⟩ : ∃ g, f' = g + 1 := ⟨f' - 1, by omega⟩
    obtain ⟨hk, ht⟩ := ih g (by omega)
    have hrun : ∀ r s b, OkLe (runRule cfg (tokenize cfg f) (testRules cfg f) (f + 1) r s b)
        (runRule cfg (tokenize cfg g) (testRules cfg g) (g + 1) r s b) :=
      fun r s b => runRule_mono (tokenize_tokSpec cfg f) (testRules_pure cfg f) ht (by omega) r
        (fun a _ => hk a)
    constructor
    · intro s
      rw [tokenize_succ, tokenize_succ]
      exact tokLoop_monoL (runRule_spec (tokenize_tokSpec cfg f) (testRules_pure cfg f) _)
        (fun r s _ _ _ => hrun r s false) _ _ _ _ (by omega) rfl
    · intro s
      simp only [testRules, engine]
      exact runChain_mono (fun r s s' h => silent_pure_rule h) s (fun r => hrun r s true) _

theorem tokenize_mono {cfg : Cfg} {f f' : Nat} (hf : f ≤ f') {s t : BState} (h : tokenize cfg f s = .ok t) :
    tokenize cfg f' s = .ok t := (engine_mono cfg f f' hf).1 s t h

/-! ## 13. where the tokenizer stops -/

/-- the tokenizer loop ends at `line_max`, or in front of a line with a negative indent (a line that
    belongs to an outer block) -/
theorem tokLoop_exit {cfg : Cfg} {run : RuleId → BState → Bool → Res} :
    ∀ (fuel : Nat) (he : Bool) (s t : BState), tokLoop cfg run fuel he s = .ok t →
      t.lineMax ≤ t.line ∨ ∃ i, t.lineIndent t.line = .ok i ∧ i < 0 := by
  intro fuel
  induction fuel with
  | zero => intro he s t h; cases h
  | succ f ih =>
    intro he s t h
    obtain ⟨hge, rfl⟩ | ⟨l, -, -, ⟨hge, rfl⟩ | ⟨ind, -, hind, ⟨hneg, rfl⟩ | ⟨-, -, rfl⟩ |
      ⟨_, _, _, _, _, -, -, -, -, -, hrec, -⟩⟩⟩ := tokLoop_ok h
    · exact .inl (Nat.not_lt.mp hge)
    · exact .inl hge
    · exact .inr ⟨ind, hind, hneg⟩
    · exact .inl (Nat.le_refl _)
    · exact ih _ _ _ hrec

theorem tokenize_exit {cfg : Cfg} {fuel : Nat} {s t : BState} (h : tokenize cfg fuel s = .ok t) :
    t.lineMax ≤ t.line ∨ ∃ i, t.lineIndent t.line = .ok i ∧ i < 0 := by
  cases fuel with
  | zero => simp [tokenize, engine] at h
  | succ f =>
    rw [tokenize_succ] at h
    exact tokLoop_exit _ _ _ _ h

end MdIt.Block
