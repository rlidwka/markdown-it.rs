/-
  Tie BY PROOF of pure first-order Rust functions to the hand-written model (properties C12, C17, C04, C01/C05/C10/C11).

  `MdIt/Gen/Translated.lean` is REGENERATED from the current /repo source on every run by `extract/rs2lean.py`
  (a translator for a small subset of Rust: if-chains, match on literals, boolean / comparison / arithmetic / bit
  operators with explicit width, casts, newtype `Self(x)` / `self.0`, flattened `&Struct` parameters).  Each theorem
  `translated_<fn>_eq` below states that the translated definition equals, for ALL inputs in the range of the Rust
  parameter types, the model function the property theorems are about:

    Rust function (file)                                   model function                  properties served
    is_valid_entity_code  (src/common/utils.rs)            MdIt.Entity.isValidEntityCode   C12
    AsciiSet::new         (src/common/mdurl/asciiset.rs)   MdIt.Url.asciiNew               C17, C04
    AsciiSet::empty                                        0 (start of MdIt.Url.setOps)    C17, C04
    AsciiSet::add                                          MdIt.Url.setAdd                 C17, C04
    AsciiSet::remove                                       MdIt.Url.setRemove              C17, C04
    AsciiSet::has                                          MdIt.Url.setHas                 C17, C04
    is_odd_match          (src/generics/inline/emph_pair.rs) MdIt.Inline.isOddMatch        C01, C05, C10, C11 (inline emphasis)

  A harmless rewrite of such a Rust function (reordered independent tests, a range test written the other way round,
  `a | b` for `b | a`, `(x >> n) & 1 == 1` for `x & 1 << n != 0`, an if-chain for a boolean expression) re-proves
  automatically: the proofs do not follow the shape of the definition — they normalise both sides (linear arithmetic
  through `omega`, bits through `Nat.testBit`).  A behavioural change (`0xFDEF` → `0xFDEE`, `remove` with `^` instead of
  `& !`) makes the obligation fail.  Where the translator REFUSES a rewritten function its definition is absent from the
  generated file and the obligation fails to elaborate (never a stale pass).
-/
import MdIt.Props.C12
import MdIt.Props.C17Set
import MdIt.Model.Inline
import MdIt.Gen.Translated

set_option linter.unusedSimpArgs false

namespace MdIt.GenTranslated
open MdIt.Gen

/-! ## bit-level normal forms (u128 shifts by a byte < 128, single-bit tests) -/

theorem pow_mod_u128 {b : Nat} (h : b < 128) : 2 ^ b % 2 ^ 128 = 2 ^ b :=
  Nat.mod_eq_of_lt (Nat.pow_lt_pow_right (by omega) h)

theorem pow_mod_u128' {b : Nat} (h : b < 128) : 2 ^ b % 340282366920938463463374607431768211456 = 2 ^ b :=
  pow_mod_u128 h

theorem and_two_pow_ne_zero (s b : Nat) : (s &&& 2 ^ b != 0) = s.testBit b := by
  cases hb : s.testBit b
  · have : s &&& 2 ^ b = 0 := by
      apply Nat.eq_of_testBit_eq; intro i
      simp only [Nat.testBit_and, Nat.testBit_two_pow, Nat.zero_testBit]
      by_cases hi : b = i
      · subst hi; simp [hb]
      · simp [hi]
    simp [this]
  · have : (s &&& 2 ^ b).testBit b = true := by simp [Nat.testBit_and, Nat.testBit_two_pow, hb]
    have h0 : s &&& 2 ^ b ≠ 0 := by intro h; rw [h] at this; simp at this
    simp [h0]

theorem two_pow_and_ne_zero (s b : Nat) : (2 ^ b &&& s != 0) = s.testBit b := by
  rw [Nat.and_comm]; exact and_two_pow_ne_zero s b

theorem and_two_pow_eq_zero (s b : Nat) : (s &&& 2 ^ b == 0) = !s.testBit b := by
  have := and_two_pow_ne_zero s b
  cases h : s.testBit b <;> simp_all [bne]

theorem two_pow_and_eq_zero (s b : Nat) : (2 ^ b &&& s == 0) = !s.testBit b := by
  rw [Nat.and_comm]; exact and_two_pow_eq_zero s b

theorem and_two_pow_eq_self (s b : Nat) : (s &&& 2 ^ b == 2 ^ b) = s.testBit b := by
  cases hb : s.testBit b
  · have h := and_two_pow_ne_zero s b
    rw [hb] at h
    have h0 : s &&& 2 ^ b = 0 := by simpa [bne] using h
    have : (0 : Nat) ≠ 2 ^ b := Nat.ne_of_lt (Nat.two_pow_pos b)
    simp [h0, this]
  · have : s &&& 2 ^ b = 2 ^ b := by
      apply Nat.eq_of_testBit_eq; intro i
      simp only [Nat.testBit_and, Nat.testBit_two_pow]
      by_cases hi : b = i
      · subst hi; simp [hb]
      · simp [hi]
    simp [this]

theorem shr_and_one_eq_one (s b : Nat) : ((s >>> b) &&& 1 == 1) = s.testBit b := by
  simp [Nat.testBit, Nat.and_comm 1, Nat.and_one_is_mod]

theorem shr_and_one_ne_zero (s b : Nat) : ((s >>> b) &&& 1 != 0) = s.testBit b := by
  simp [Nat.testBit, Nat.and_comm 1, Nat.and_one_is_mod]

theorem one_and_shr_eq_one (s b : Nat) : (1 &&& (s >>> b) == 1) = s.testBit b := by
  simp [Nat.testBit, Nat.and_one_is_mod]

theorem one_and_shr_ne_zero (s b : Nat) : (1 &&& (s >>> b) != 0) = s.testBit b := by
  simp [Nat.testBit, Nat.and_one_is_mod]

theorem shr_mod_two_eq_one (s b : Nat) : ((s >>> b) % 2 == 1) = s.testBit b := by
  simp [Nat.testBit, Nat.and_one_is_mod]

theorem shr_mod_two_ne_zero (s b : Nat) : ((s >>> b) % 2 != 0) = s.testBit b := by
  simp [Nat.testBit, Nat.and_one_is_mod]

/-- single-bit tests of every spelling → `Nat.testBit`; `1 << b` on `u128` with `b < 128` → `2 ^ b` -/
macro "u128_norm" "[" defs:Lean.Parser.Tactic.simpLemma,* "]" h:term : tactic =>
  `(tactic| simp only [$defs,*, Url.setHas_testBit, Nat.one_shiftLeft, pow_mod_u128 $h, pow_mod_u128' $h,
      and_two_pow_ne_zero, two_pow_and_ne_zero, and_two_pow_eq_zero, two_pow_and_eq_zero, and_two_pow_eq_self,
      shr_and_one_eq_one, shr_and_one_ne_zero, one_and_shr_eq_one, one_and_shr_ne_zero, shr_mod_two_eq_one,
      shr_mod_two_ne_zero])

/-- two `Nat` built from `&&& ||| ^^^` are equal when they agree bit by bit -/
macro "bitwise_eq" : tactic =>
  `(tactic| (apply Nat.eq_of_testBit_eq; intro i;
             simp [Bool.or_comm, Bool.and_comm, Bool.xor_comm] <;> (try grind)))

/-! ## `is_valid_entity_code` (C12) -/

/-- **`is_valid_entity_code` of the CURRENT source = `Entity.isValidEntityCode`**, for every `code` (in particular for
    every `u32`).  The proof does not follow the if-chain: both sides become propositions of linear arithmetic
    (`code & 0xFFFF` = `code % 65536`) decided by `omega`, so reordered or re-spelled tests re-prove. -/
theorem translated_is_valid_entity_code_eq (code : Nat) :
    Translated.is_valid_entity_code code = Entity.isValidEntityCode code := by
  rw [Bool.eq_iff_iff]
  have h : code &&& 0xFFFF = code % 65536 := Nat.and_two_pow_sub_one_eq_mod code 16
  have h' : 0xFFFF &&& code = code % 65536 := by rw [Nat.and_comm]; exact h
  simp only [Translated.is_valid_entity_code, Entity.isValidEntityCode, h, h']
  simp <;> omega

/-- what C12 uses of it (`Props/C12.lean`, `valid_code_is_scalar`): a code the SOURCE function accepts is a Unicode
    scalar value, so `char::from_u32(code).unwrap()` cannot panic -/
theorem translated_valid_code_is_scalar (code : Nat) (h : Translated.is_valid_entity_code code = true) :
    code.isValidChar :=
  Entity.valid_code_is_scalar code (by rw [← translated_is_valid_entity_code_eq]; exact h)

example : Translated.is_valid_entity_code 32 = true ∧ Translated.is_valid_entity_code 0xFDEF = false ∧
    Translated.is_valid_entity_code 0xFDF0 = true ∧ Translated.is_valid_entity_code 0x1FFFE = false := by decide

/-! ## `AsciiSet` (C17, C04) -/

theorem translated_AsciiSet_new_eq : Translated.AsciiSet_new = Url.asciiNew := by decide

/-- `AsciiSet::empty()`: the zero constant, the set without members -/
theorem translated_AsciiSet_empty_eq : Translated.AsciiSet_empty = 0 := by decide

theorem translated_AsciiSet_empty_has (b : Nat) : Url.setHas Translated.AsciiSet_empty b = false := by
  rw [translated_AsciiSet_empty_eq, Url.setHas_testBit]; exact Nat.zero_testBit b

/-- **`AsciiSet::add` of the current source = `Url.setAdd`** for every 7-bit byte (`byte < 128`: beyond that the
    `u128` shift overflows — a panic in debug builds; `encode` only calls `has` after `byte >= 0x80 ||`, and `from`
    is applied to the ASCII constant of `normalize_link`) -/
theorem translated_AsciiSet_add_eq (s b : Nat) (h : b < 128) :
    Translated.AsciiSet_add s b = Url.setAdd s b := by
  u128_norm [Translated.AsciiSet_add, Url.setAdd] h <;> bitwise_eq

/-- **`AsciiSet::remove` of the current source = `Url.setRemove`** (`self.0 & !(1 << byte)` on `u128`) -/
theorem translated_AsciiSet_remove_eq (s b : Nat) (h : b < 128) :
    Translated.AsciiSet_remove s b = Url.setRemove s b := by
  u128_norm [Translated.AsciiSet_remove, Url.setRemove] h <;> bitwise_eq

/-- **`AsciiSet::has` of the current source = `Url.setHas`** -/
theorem translated_AsciiSet_has_eq (s b : Nat) (h : b < 128) :
    Translated.AsciiSet_has s b = Url.setHas s b := by
  u128_norm [Translated.AsciiSet_has] h <;> (cases s.testBit b <;> simp)

/-- what C17 (`Props/C17Set.lean`, `setHas_setRemove`) says, stated of the SOURCE functions: `remove c` takes out
    exactly `c` -/
theorem translated_has_remove (s c b : Nat) (hc : c < 128) (hb : b < 128) :
    Translated.AsciiSet_has (Translated.AsciiSet_remove s c) b = (Translated.AsciiSet_has s b && b != c) := by
  rw [translated_AsciiSet_has_eq _ _ hb, translated_AsciiSet_has_eq _ _ hb, translated_AsciiSet_remove_eq _ _ hc]
  exact Url.setHas_setRemove s c b hb

/-- … and `add c` puts in exactly `c` -/
theorem translated_has_add (s c b : Nat) (hc : c < 128) (hb : b < 128) :
    Translated.AsciiSet_has (Translated.AsciiSet_add s c) b = (Translated.AsciiSet_has s b || b == c) := by
  rw [translated_AsciiSet_has_eq _ _ hb, translated_AsciiSet_has_eq _ _ hb, translated_AsciiSet_add_eq _ _ hc]
  exact Url.setHas_setAdd s c b

example : Translated.AsciiSet_has (Translated.AsciiSet_remove Translated.AsciiSet_new 97) 97 = false ∧
    Translated.AsciiSet_has (Translated.AsciiSet_add Translated.AsciiSet_empty 33) 33 = true ∧
    Translated.AsciiSet_has Translated.AsciiSet_new 122 = true := by decide

/-! ## `is_odd_match` (inline emphasis: C01, C05, C10, C11) -/

/-- **`is_odd_match` of the current source = `Inline.isOddMatch`**: the parameters `opener: &EmphMarker`,
    `closer: &EmphMarker` are flattened to the fields the body USES (ordered by parameter, then field name).  Both
    sides compute on `Nat`; they are the Rust function as long as `opener.length + closer.length` does not overflow
    `usize` (lengths are bounded by the length of the source). -/
theorem translated_is_odd_match_eq (o c : Inline.Marker) :
    Translated.is_odd_match o.close o.length c.length c.open_ = Inline.isOddMatch o c := by
  obtain ⟨_, ol, _, _, oc⟩ := o
  obtain ⟨_, cl, _, co, _⟩ := c
  rw [Bool.eq_iff_iff]
  cases oc <;> cases co <;> simp [Translated.is_odd_match, Inline.isOddMatch] <;> omega

example : Translated.is_odd_match true 1 2 false = true ∧ Translated.is_odd_match true 3 3 true = false ∧
    Translated.is_odd_match false 1 2 false = false := by decide

end MdIt.GenTranslated
