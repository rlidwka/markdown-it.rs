/-
  Emphasis nesting is limited by `max_nesting` (the `fix:` in `src/generics/inline/emph_pair.rs`):
  `scan_and_match_delimiters` keeps `inner_depth` — the deepest emphasis nesting among the nodes after
  `idx` — and stops matching an opener when `state.level + inner_depth >= state.md.max_nesting`.

  `wrapDepth` (`Model/Inline.lean`) is the `EmphDepth` a node carries: `Em` / `Strong` /
  `Strikethrough` nodes = 1 + the deepest value among their children, every other node 0.

  Everything is proved once for an abstract node invariant `Q room n` (`room` = `max_nesting - level`
  of the tokenizer that owns the node) with the closure properties `GoodQ`; the induction
  (`depth_induction`) is an instance of `Lemmas/InlineWalk.lean` (partial correctness: any fuel,
  arbitrary states).  Instances:

    * `Q room n := wrapDepth n ≤ room`                       (a) `matchOuter_depth`, `scanAndMatch_depth`,
                                                             (b) `ruleEmph_depth`, `tokenize_depth`
    * `Q room n := every node below n has wrapDepth ≤ room`  (c) `inline_emph_depth_bounded`
    * `Q room n := wrapDepth n ≤ room ∧ treeDepth n ≤ wrapDepth n + baseBound room`
                                                             (e) `inline_tree_depth_bounded`:
        `treeDepth n ≤ 1 + M (M + 3) / 2` for `M = max_nesting` — links and images nest through
        `level` (at most `M` of them on a path), the wrappers between two of them through
        `wrapDepth` (at most `M - level`), so the bound is quadratic in `M`, and it is reached.

  The loop invariant of the delimiter matching (`Lemmas/EmphMatch.lean`, `matchOuter_q`): every sibling
  satisfies `Q room`, `wrapDepthList (children.drop (idx + 1)) ≤ innerDepth` (`inner_depth` is an upper
  bound for the nodes after `idx`), and — while the opener has delimiters left — the node at `idx`
  is the opener token (`replace(opener)` rewrites a marker, never a wrapper that would have taken its
  index).  A wrapper is made only when `innerDepth < room` and gets
  `wrapDepth = wrapDepthList tail + 1 ≤ innerDepth + 1 ≤ room`.
-/
import MdIt.Props.Inline
import MdIt.Lemmas.KernelEval
import MdIt.Lemmas.EmphMatch

namespace MdIt.EmphDepth
open MdIt.Inline
open MdIt.InlineOps (Srcmap getSourcePosFor getMap byteLen slice)

/-! ## `wrapDepth`, tree depth -/

/-- `Em` / `Strong` / `Strikethrough` -/
def isWrapVal : Val → Bool
  | .wrap _ _ => true
  | _ => false

theorem wrapDepth_eq (n : Node) :
    wrapDepth n = if isWrapVal n.val then wrapDepthList n.children + 1 else 0 := by
  obtain ⟨v, r, cs⟩ := n
  cases v <;> simp [wrapDepth, isWrapVal]

theorem wrapDepth_notWrap {n : Node} (h : isWrapVal n.val = false) : wrapDepth n = 0 := by
  rw [wrapDepth_eq, h]; rfl

theorem wrapDepth_congr {n n' : Node} (hv : isWrapVal n'.val = isWrapVal n.val)
    (hc : n'.children = n.children) : wrapDepth n' = wrapDepth n := by
  rw [wrapDepth_eq, wrapDepth_eq, hv, hc]

mutual
/-- height of the tree below a node (a leaf has 1) -/
def treeDepth : Node → Nat
  | ⟨_, _, cs⟩ => treeDepthList cs + 1
def treeDepthList : List Node → Nat
  | [] => 0
  | c :: cs => max (treeDepth c) (treeDepthList cs)
end

theorem treeDepth_eq (n : Node) : treeDepth n = treeDepthList n.children + 1 := by
  cases n; simp [treeDepth]

/-- the maximum of a measure over siblings -/
def maxOver (m : Node → Nat) : List Node → Nat
  | [] => 0
  | c :: cs => max (m c) (maxOver m cs)

theorem maxOver_le_iff (m : Node → Nat) (B : Nat) (cs : List Node) :
    maxOver m cs ≤ B ↔ ∀ c ∈ cs, m c ≤ B := by
  induction cs with
  | nil => simp [maxOver]
  | cons c cs ih => simp [maxOver, Nat.max_le, ih]

theorem maxOver_mono {m : Node → Nat} {a b : List Node} (h : ∀ c ∈ a, m c ≤ maxOver m b) :
    maxOver m a ≤ maxOver m b := (maxOver_le_iff m _ a).mpr h

theorem le_maxOver_of_mem {m : Node → Nat} {c : Node} {cs : List Node} (h : c ∈ cs) : m c ≤ maxOver m cs :=
  (maxOver_le_iff m _ cs).mp (Nat.le_refl _) c h

theorem wrapDepthList_eq_maxOver (cs : List Node) : wrapDepthList cs = maxOver wrapDepth cs := by
  induction cs with
  | nil => rfl
  | cons c cs ih => simp only [wrapDepthList, maxOver, ih]

theorem treeDepthList_eq_maxOver (cs : List Node) : treeDepthList cs = maxOver treeDepth cs := by
  induction cs with
  | nil => rfl
  | cons c cs ih => simp only [treeDepthList, maxOver, ih]

theorem wrapDepth_le_of_mem {c : Node} {cs : List Node} (h : c ∈ cs) : wrapDepth c ≤ wrapDepthList cs := by
  rw [wrapDepthList_eq_maxOver]; exact le_maxOver_of_mem h

theorem treeDepthList_le_iff (B : Nat) (cs : List Node) :
    treeDepthList cs ≤ B ↔ ∀ c ∈ cs, treeDepth c ≤ B := by
  rw [treeDepthList_eq_maxOver]; exact maxOver_le_iff _ B cs

mutual
/-- `p` holds of the node and of every node below it -/
def AllNodes (p : Node → Prop) : Node → Prop
  | ⟨v, r, cs⟩ => p ⟨v, r, cs⟩ ∧ AllNodesList p cs
def AllNodesList (p : Node → Prop) : List Node → Prop
  | [] => True
  | c :: cs => AllNodes p c ∧ AllNodesList p cs
end

theorem AllNodes_eq (p : Node → Prop) (n : Node) : AllNodes p n ↔ p n ∧ AllNodesList p n.children := by
  cases n; simp [AllNodes]

theorem allNodesList_iff (p : Node → Prop) (l : List Node) :
    AllNodesList p l ↔ ∀ n ∈ l, AllNodes p n := by
  induction l with
  | nil => simp [AllNodesList]
  | cons c cs ih => simp [AllNodesList, ih]

/-! ## the abstract invariant -/

/-- closure properties of a node invariant `Q room n` that the tokenizer maintains for the nodes it
    pushes at `room = max_nesting - level` -/
structure GoodQ (Q : Nat → Node → Prop) : Prop where
  /-- `Q` sees a node through "is it a wrapper" and its children only -/
  congr : ∀ r (n n' : Node), isWrapVal n'.val = isWrapVal n.val → n'.children = n.children →
    Q r n → Q r n'
  /-- text, breaks, escapes, entities, markers -/
  leaf : ∀ r v rg, isWrapVal v = false → Q r (Node.leaf v rg)
  /-- code spans and autolinks (made below the nesting limit only) -/
  nested : ∀ r v rg c rg', isWrapVal v = false → 1 ≤ r → Q r ⟨v, rg, [Node.newText c rg']⟩
  /-- the wrapper `scan_and_match_delimiters` makes around `tail` when `inner_depth < room` -/
  wrap : ∀ r w mk rg tail inner, (∀ c ∈ tail, Q r c) → wrapDepthList tail ≤ inner → inner < r →
    Q r ⟨.wrap w mk, rg, tail⟩
  /-- a link / image around what the tokenizer one level deeper has pushed -/
  link : ∀ r v rg cs, isWrapVal v = false → (∀ c ∈ cs, Q r c) → Q (r + 1) ⟨v, rg, cs⟩

/-- every sibling satisfies `Q r` -/
def LQ (Q : Nat → Node → Prop) (r : Nat) (cs : List Node) : Prop := ∀ c ∈ cs, Q r c

section lq
variable {Q : Nat → Node → Prop} {r : Nat}

theorem LQ.nil : LQ Q r [] := fun _ h => by simp at h

theorem LQ.append {a b : List Node} (ha : LQ Q r a) (hb : LQ Q r b) : LQ Q r (a ++ b) := by
  intro c hc
  rcases List.mem_append.mp hc with h | h
  · exact ha c h
  · exact hb c h

theorem LQ.left {a b : List Node} (h : LQ Q r (a ++ b)) : LQ Q r a :=
  fun c hc => h c (List.mem_append_left _ hc)

theorem LQ.right {a b : List Node} (h : LQ Q r (a ++ b)) : LQ Q r b :=
  fun c hc => h c (List.mem_append_right _ hc)

theorem LQ.single {n : Node} (h : Q r n) : LQ Q r [n] := by
  intro c hc; simp only [List.mem_singleton] at hc; subst hc; exact h

theorem LQ.last {a : List Node} {n : Node} (h : LQ Q r (a ++ [n])) : Q r n := h n (by simp)

end lq

theorem isText_notWrap {n : Node} (h : n.isText = true) : isWrapVal n.val = false := by
  unfold Node.isText at h
  split at h
  · next hv => rw [hv]; rfl
  · simp at h

theorem asMarker_notWrap {n : Node} {m : Marker} (h : n.asMarker = some m) : isWrapVal n.val = false := by
  rw [asMarker_val h]; rfl

theorem ite_notWrap (c : Prop) [Decidable c] {a b : Val} (ha : isWrapVal a = false)
    (hb : isWrapVal b = false) : isWrapVal (if c then a else b) = false := by
  split <;> assumption

theorem toVal_notWrap (m : Marker) : isWrapVal m.toVal = false := rfl

/-- a text node whose content / range is rewritten -/
theorem GoodQ.retext {Q : Nat → Node → Prop} (g : GoodQ Q) {r : Nat} {n : Node} (ht : n.isText = true)
    (h : Q r n) (c : List Char) (rg : Option (Nat × Nat)) : Q r { n with val := .text c, range := rg } :=
  g.congr r n _ (by rw [isText_notWrap ht]; rfl) rfl h

/-! ## trailing text -/

section rules
variable {Q : Nat → Node → Prop} (g : GoodQ Q) {r : Nat}
include g

theorem trailingTextPush_q {src : List Char} {m : Srcmap} {cs out : List Node} {a b : Nat}
    (h : trailingTextPush src m cs a b = .ok out) (hc : LQ Q r cs) : LQ Q r out := by
  rcases trailingTextPush_ok h with ⟨piece, rg, rfl⟩ | ⟨init, last, c, rg, rfl, ht, rfl⟩
  · exact hc.append (LQ.single (g.leaf r _ _ rfl))
  · exact hc.left.append (LQ.single (g.retext ht hc.last _ _))

theorem pushText_q {st st' : IState} {a b : Nat} (h : st.pushText a b = .ok st')
    (hc : LQ Q r st.children) : LQ Q r st'.children := by
  obtain ⟨cs, hcs, rfl⟩ := pushText_eq h
  exact trailingTextPush_q g hcs hc

theorem trailingTextPop_q {cs out : List Node} {count : Nat}
    (h : trailingTextPop cs count = .ok out) (hc : LQ Q r cs) : LQ Q r out := by
  rcases trailingTextPop_ok h with rfl | ⟨init, last, rfl, ht, rfl | ⟨c, rg, rfl⟩⟩
  · exact hc
  · exact hc.left
  · exact hc.left.append (LQ.single (g.retext ht hc.last _ _))

/-! ## the rules without look-ahead recursion -/

/-- whatever a rule other than emphasis, link and image builds keeps the invariant below the
    nesting limit -/
theorem built_q (hr : 1 ≤ r) {st st' : IState} (hb : Built st st') (hc : LQ Q r st.children) :
    LQ Q r st'.children := by
  cases hb with
  | cache c => exact hc
  | text _ h => exact pushText_q g h hc
  | brk n rg hpop =>
    exact (trailingTextPop_q g hpop hc).append (LQ.single (g.leaf r _ _ (ite_notWrap _ rfl rfl)))
  | hard rg => exact hc.append (LQ.single (g.leaf r _ _ rfl))
  | special c m i rg => exact hc.append (LQ.single (g.leaf r _ _ rfl))
  | code c rg ri hrun hnd => exact hc.append (LQ.single (g.nested r _ _ _ _ rfl hr))
  | auto rg ri hne hd => exact hc.append (LQ.single (g.nested r _ _ _ _ rfl hr))

/-! ## delimiter matching -/

theorem GoodQ.matchKeeps (mk : Char) (room : Nat) : MatchKeeps mk room (Q room) where
  remark := fun n _ _ _ hm h => g.congr room n _ (by rw [asMarker_notWrap hm]; rfl) rfl h
  wrap := fun w rg tail inner => g.wrap room w mk rg tail inner

/-- **the outer loop**: `matchOuter .. k ms` is entered with `idx = minIdx + k`; `inner_depth` bounds
    the nodes after `idx` -/
theorem matchOuter_q (fns : Nat → Option Wrap) (mk : Char) (room minIdx : Nat) :
    ∀ (k : Nat) (ms ms' : MatchSt), matchOuter fns mk room minIdx k ms = .ok ms' →
      LQ Q room ms.children → wrapDepthList (ms.children.drop (minIdx + k + 1)) ≤ ms.innerDepth →
      LQ Q room ms'.children :=
  fun k ms ms' h hc hd =>
    (matchOuter_sibs (g.matchKeeps mk room) fns minIdx ms.closer k ms ms' h ⟨hc, .inl hd, .refl _⟩).1

theorem scanAndMatch_q {fns : Nat → Option Wrap} {mk : Char} {room : Nat} {cs out : List Node}
    {b b' : List (Char × List Nat)} (h : scanAndMatch fns mk room cs b = .ok (out, b'))
    (hc : LQ Q room cs) : LQ Q room out :=
  scanAndMatch_keeps (g.matchKeeps mk room) h hc

theorem ruleEmph_q {cfg : Cfg} {mk : Char} {csw : Bool} {st st' : IState} {silent : Bool}
    {o : Option Nat} (h : ruleEmph cfg mk csw st silent = .ok (o, st'))
    (hc : LQ Q (cfg.maxNesting - st.level) st.children) :
    LQ Q (cfg.maxNesting - st.level) st'.children :=
  ruleEmph_keeps (g.matchKeeps mk _) (fun _ _ _ _ => g.leaf _ _ _ rfl) h hc

/-! ## links, the chain, the loops -/

theorem keeps_q (cfg : Cfg) : Keeps cfg (LQ Q) where
  nil _ := LQ.nil
  built hr hb hc := built_q g hr hb hc
  text _ hp hc := pushText_q g hp hc
  emph _ h hc := ruleEmph_q g h hc
  link hmk _ hc hi := hc.append (LQ.single (g.link _ _ _ _ (by rcases hmk with rfl | rfl <;> rfl) hi))

/-- **The invariant through the whole tokenizer** (partial correctness, any fuel, any state):
    `tokenize` entered at `level = l` returns at `level = l`, and if every node it finds satisfies
    `Q (max_nesting - l)` then so does every node it leaves. -/
theorem depth_induction (cfg : Cfg) : ∀ (fuel e : Nat) (st st' : IState),
    tokLoop cfg fuel e st = .ok st' → LQ Q (cfg.maxNesting - st.level) st.children →
    st'.level = st.level ∧ LQ Q (cfg.maxNesting - st.level) st'.children :=
  tokLoop_kept (keeps_q g cfg)

/-- the invariant of an inline parse: every top-level node satisfies `Q max_nesting` -/
theorem parseInline_q {cfg : Cfg} {content : List Char} {mapping : Srcmap} {cs : List Node}
    (h : parseInline cfg content mapping = .ok cs) : LQ Q cfg.maxNesting cs :=
  parseInline_kept (keeps_q g cfg) h

end rules

/-! ## (a), (b): `wrapDepth ≤ room` -/

/-- the invariant "`EmphDepth ≤ room`" -/
def QW (r : Nat) (n : Node) : Prop := wrapDepth n ≤ r

theorem goodQ_QW : GoodQ QW where
  congr := by
    intro r n n' hv hc h
    unfold QW at *; rw [wrapDepth_congr hv hc]; exact h
  leaf := by
    intro r v rg hv
    unfold QW; rw [wrapDepth_notWrap (by exact hv)]; omega
  nested := by
    intro r v rg c rg' hv _
    unfold QW; rw [wrapDepth_notWrap (by exact hv)]; omega
  wrap := by
    intro r w mk rg tail inner _ hd hlt
    unfold QW; rw [wrapDepth_eq]; simp only [isWrapVal, if_true]; omega
  link := by
    intro r v rg cs hv _
    unfold QW; rw [wrapDepth_notWrap (by exact hv)]; omega

/-- (a) **the outer loop of `scan_and_match_delimiters`**, entered with `idx = minIdx + k` and an
    `inner_depth` that bounds the `EmphDepth` of the nodes after `idx`: if every sibling has
    `EmphDepth ≤ room` (`room` = `max_nesting - level`), every sibling it leaves has. -/
theorem matchOuter_depth {fns : Nat → Option Wrap} {mk : Char} {room minIdx k : Nat} {ms ms' : MatchSt}
    (h : matchOuter fns mk room minIdx k ms = .ok ms')
    (hc : ∀ n ∈ ms.children, wrapDepth n ≤ room)
    (hd : wrapDepthList (ms.children.drop (minIdx + k + 1)) ≤ ms.innerDepth) :
    ∀ n ∈ ms'.children, wrapDepth n ≤ room :=
  matchOuter_q goodQ_QW fns mk room minIdx k ms ms' h hc hd

/-- (a) **`scan_and_match_delimiters` never nests emphasis deeper than `room`** -/
theorem scanAndMatch_depth {fns : Nat → Option Wrap} {mk : Char} {room : Nat} {cs out : List Node}
    {b b' : List (Char × List Nat)} (h : scanAndMatch fns mk room cs b = .ok (out, b'))
    (hc : ∀ n ∈ cs, wrapDepth n ≤ room) : ∀ n ∈ out, wrapDepth n ≤ room :=
  scanAndMatch_q goodQ_QW h hc

/-- (b) **the emphasis-marker rule** at nesting level `state.level` -/
theorem ruleEmph_depth {cfg : Cfg} {mk : Char} {csw : Bool} {st st' : IState} {silent : Bool}
    {o : Option Nat} (h : ruleEmph cfg mk csw st silent = .ok (o, st'))
    (hc : ∀ n ∈ st.children, wrapDepth n ≤ cfg.maxNesting - st.level) :
    ∀ n ∈ st'.children, wrapDepth n ≤ cfg.maxNesting - st.level :=
  ruleEmph_q goodQ_QW h hc

/-- (b) **`InlineParser::tokenize` at nesting level `l`** (any fuel, any state): it returns at the
    level it was entered with, and every node it leaves has `EmphDepth ≤ max_nesting - l` if the
    nodes it found had. -/
theorem tokenize_depth {cfg : Cfg} {fuel : Nat} {st st' : IState}
    (h : tokenize cfg fuel st = .ok st')
    (hc : ∀ n ∈ st.children, wrapDepth n ≤ cfg.maxNesting - st.level) :
    st'.level = st.level ∧ ∀ n ∈ st'.children, wrapDepth n ≤ cfg.maxNesting - st.level :=
  depth_induction goodQ_QW cfg fuel _ st st' h hc

/-! ## (c): every node of every inline parse result -/

mutual
theorem AllNodes.mono {p q : Node → Prop} (hpq : ∀ n, p n → q n) : ∀ n, AllNodes p n → AllNodes q n
  | ⟨v, r, cs⟩, h => by
    simp only [AllNodes] at h ⊢
    exact ⟨hpq _ h.1, AllNodesList.mono hpq cs h.2⟩
theorem AllNodesList.mono {p q : Node → Prop} (hpq : ∀ n, p n → q n) :
    ∀ l, AllNodesList p l → AllNodesList q l
  | [], _ => by simp only [AllNodesList]
  | c :: cs, h => by
    simp only [AllNodesList] at h ⊢
    exact ⟨AllNodes.mono hpq c h.1, AllNodesList.mono hpq cs h.2⟩
end

/-- the invariant "`EmphDepth ≤ room` for the node and everything below it" -/
def QA (r : Nat) (n : Node) : Prop := AllNodes (fun m => wrapDepth m ≤ r) n

theorem goodQ_QA : GoodQ QA where
  congr := by
    intro r n n' hv hc h
    unfold QA at *
    rw [AllNodes_eq] at h ⊢
    rw [wrapDepth_congr hv hc, hc]; exact h
  leaf := by
    intro r v rg hv
    unfold QA; rw [AllNodes_eq]
    refine ⟨?_, by simp only [Node.leaf, AllNodesList]⟩
    rw [wrapDepth_notWrap (by exact hv)]; omega
  nested := by
    intro r v rg c rg' hv _
    unfold QA; rw [AllNodes_eq]
    refine ⟨by rw [wrapDepth_notWrap (by exact hv)]; omega, ?_⟩
    simp only [AllNodesList, Node.newText, AllNodes, and_true]
    rw [wrapDepth_notWrap rfl]; omega
  wrap := by
    intro r w mk rg tail inner ht hd hlt
    unfold QA at *; rw [AllNodes_eq]
    refine ⟨?_, (allNodesList_iff _ _).mpr ht⟩
    rw [wrapDepth_eq]; simp only [isWrapVal, if_true]; omega
  link := by
    intro r v rg cs hv hcs
    unfold QA at *; rw [AllNodes_eq]
    refine ⟨by rw [wrapDepth_notWrap (by exact hv)]; omega, (allNodesList_iff _ _).mpr ?_⟩
    intro c hc
    exact AllNodes.mono (fun n hn => Nat.le_succ_of_le hn) c (hcs c hc)

/-- (c) **Emphasis nesting is bounded by `max_nesting`**: in every result of the inline parser,
    every node — at any depth, inside link labels and image descriptions too — has
    `EmphDepth ≤ max_nesting`, i.e. no chain of directly nested `Em` / `Strong` / `Strikethrough`
    nodes is longer than `max_nesting`. -/
theorem inline_emph_depth_bounded {cfg : Cfg} {content : List Char} {mapping : Srcmap} {cs : List Node}
    (h : parseInline cfg content mapping = .ok cs) :
    ∀ n ∈ cs, AllNodes (fun m => wrapDepth m ≤ cfg.maxNesting) n :=
  parseInline_q goodQ_QA h

/-- (c), top level only -/
theorem parseInline_depth {cfg : Cfg} {content : List Char} {mapping : Srcmap} {cs : List Node}
    (h : parseInline cfg content mapping = .ok cs) : ∀ n ∈ cs, wrapDepth n ≤ cfg.maxNesting :=
  parseInline_q goodQ_QW h

/-! ## (e): the height of an inline tree -/

/-- height bound of a node that is not a wrapper, pushed at `room`: `1 + room (room + 1) / 2` -/
def baseBound : Nat → Nat
  | 0 => 1
  | r + 1 => baseBound r + r + 1

/-- height bound of any node pushed at `room` -/
def depthBound (r : Nat) : Nat := r + baseBound r

theorem baseBound_pos (r : Nat) : 1 ≤ baseBound r := by
  induction r with
  | zero => simp [baseBound]
  | succ r ih => simp only [baseBound]; omega

theorem baseBound_ge_two {r : Nat} (h : 1 ≤ r) : 2 ≤ baseBound r := by
  cases r with
  | zero => omega
  | succ r => have := baseBound_pos r; simp only [baseBound]; omega

/-- `baseBound r = 1 + r (r + 1) / 2` -/
theorem baseBound_closed (r : Nat) : 2 * baseBound r = r * r + r + 2 := by
  induction r with
  | zero => simp [baseBound]
  | succ r ih =>
    simp only [baseBound, Nat.mul_add, Nat.add_mul, Nat.mul_one, Nat.one_mul]
    omega

/-- `depthBound r = 1 + r (r + 3) / 2` -/
theorem depthBound_closed (r : Nat) : 2 * depthBound r = r * r + 3 * r + 2 := by
  have := baseBound_closed r
  unfold depthBound; omega

/-- the invariant "`EmphDepth ≤ room`, and the height exceeds `EmphDepth` by at most `baseBound room`" -/
def QT (r : Nat) (n : Node) : Prop := wrapDepth n ≤ r ∧ treeDepth n ≤ wrapDepth n + baseBound r

theorem goodQ_QT : GoodQ QT where
  congr := by
    intro r n n' hv hc h
    unfold QT at *
    rw [wrapDepth_congr hv hc, treeDepth_eq, hc, ← treeDepth_eq]; exact h
  leaf := by
    intro r v rg hv
    have := baseBound_pos r
    unfold QT; rw [wrapDepth_notWrap (by exact hv), treeDepth_eq]
    simp only [Node.leaf, treeDepthList]; omega
  nested := by
    intro r v rg c rg' hv hr
    have := baseBound_ge_two hr
    unfold QT; rw [wrapDepth_notWrap (by exact hv), treeDepth_eq]
    simp only [treeDepthList, Node.newText, treeDepth]; omega
  wrap := by
    intro r w mk rg tail inner ht hd hlt
    unfold QT at *
    have hwd : wrapDepth ⟨.wrap w mk, rg, tail⟩ = wrapDepthList tail + 1 := by
      rw [wrapDepth_eq]; simp only [isWrapVal, if_true]
    have htd : treeDepthList tail ≤ wrapDepthList tail + baseBound r := by
      rw [treeDepthList_le_iff]
      intro c hc
      have := (ht c hc).2
      have := wrapDepth_le_of_mem hc
      omega
    rw [hwd, treeDepth_eq]; simp only; omega
  link := by
    intro r v rg cs hv hcs
    unfold QT at *
    have htd : treeDepthList cs ≤ r + baseBound r := by
      rw [treeDepthList_le_iff]
      intro c hc
      have := hcs c hc
      omega
    rw [wrapDepth_notWrap (by exact hv), treeDepth_eq]
    simp only [baseBound]; omega

/-- (e) **The height of an inline tree is bounded by a function of `max_nesting` alone**: every node
    of a result of the inline parser has height at most `depthBound M = 1 + M (M + 3) / 2` for
    `M = max_nesting` — at most `M` links / images on a path (they nest through `level`), between the
    one at level `l - 1` and the one at level `l` at most `M - l` emphasis wrappers, and a text (or a
    code span / autolink with its text) at the end.  The bound is reached (example below). -/
theorem inline_tree_depth_bounded {cfg : Cfg} {content : List Char} {mapping : Srcmap} {cs : List Node}
    (h : parseInline cfg content mapping = .ok cs) :
    ∀ n ∈ cs, treeDepth n ≤ depthBound cfg.maxNesting := by
  intro n hn
  have := parseInline_q goodQ_QT h n hn
  unfold QT at this; unfold depthBound; omega

/-- (e) at nesting level `l`: what `tokenize` pushes at level `l` has height at most
    `depthBound (max_nesting - l)` -/
theorem tokenize_tree_depth {cfg : Cfg} {fuel : Nat} {st st' : IState}
    (h : tokenize cfg fuel st = .ok st') (hc : st.children = []) :
    ∀ n ∈ st'.children, treeDepth n ≤ depthBound (cfg.maxNesting - st.level) := by
  intro n hn
  have := (depth_induction goodQ_QT cfg fuel _ st st' h (by rw [hc]; exact LQ.nil)).2 n hn
  unfold QT at this; unfold depthBound; omega

/-! ## the post pass (`FragmentsJoin`): the final inline tree

  `fragments_join` turns the left-over markers into text, merges adjacent texts and drops the empty
  ones, at every level of the tree: no node gets new children, no node changes between "wrapper"
  and "not a wrapper" — so neither `EmphDepth` nor the height grows. -/

/-- a measure that sees a node through "is it a wrapper" and the maximum over its children,
    monotonically -/
structure Meas (m : Node → Nat) (F : Bool → Nat → Nat) : Prop where
  eq : ∀ n, m n = F (isWrapVal n.val) (maxOver m n.children)
  mono : ∀ b x y, x ≤ y → F b x ≤ F b y

theorem meas_wrapDepth : Meas wrapDepth (fun b x => if b then x + 1 else 0) where
  eq := by intro n; rw [wrapDepth_eq, wrapDepthList_eq_maxOver]
  mono := by intro b x y h; cases b <;> simp; omega

theorem meas_treeDepth : Meas treeDepth (fun _ x => x + 1) where
  eq := by intro n; rw [treeDepth_eq, treeDepthList_eq_maxOver]
  mono := by intro b x y h; omega

section join
variable {m : Node → Nat} {F : Bool → Nat → Nat} (hm : Meas m F)
include hm

theorem Meas.congr {n n' : Node} (hv : isWrapVal n'.val = isWrapVal n.val)
    (hc : n'.children = n.children) : m n' = m n := by
  rw [hm.eq, hm.eq, hv, hc]

theorem Meas.markerToText (c : Node) : m (markerToText c) = m c := by
  unfold Inline.markerToText
  split
  · next hv => exact hm.congr (by simp only [hv]; rfl) rfl
  · rfl

theorem Meas.pass1 (cs : List Node) : maxOver m (pass1 cs) = maxOver m cs := by
  induction cs with
  | nil => rfl
  | cons c cs ih =>
    simp only [Inline.pass1, List.map_cons, maxOver] at ih ⊢
    rw [hm.markerToText, ih]

theorem Meas.mergeLoop (cur : Node) (rest : List Node) :
    maxOver m (mergeLoop cur rest) ≤ max (m cur) (maxOver m rest) := by
  induction rest generalizing cur with
  | nil => simp [Inline.mergeLoop, maxOver]
  | cons nxt rest ih =>
    simp only [Inline.mergeLoop]
    split
    · next ht =>
      simp only [Bool.and_eq_true] at ht
      have e1 : m (emptied nxt) = m nxt :=
        hm.congr (by rw [isText_notWrap ht.2]; rfl) rfl
      have e2 : m (merged cur nxt) = m cur :=
        hm.congr (by rw [isText_notWrap ht.1]; rfl) rfl
      have := ih (merged cur nxt)
      simp only [maxOver, e1]
      rw [e2] at this
      omega
    · have := ih nxt
      simp only [maxOver]
      omega

omit hm in
theorem maxOver_filter_le (m : Node → Nat) (p : Node → Bool) (l : List Node) :
    maxOver m (l.filter p) ≤ maxOver m l :=
  maxOver_mono (fun _ hc => le_maxOver_of_mem (List.mem_filter.mp hc).1)

theorem Meas.fragmentsJoinN (cs : List Node) : maxOver m (fragmentsJoinN cs) ≤ maxOver m cs := by
  unfold Inline.fragmentsJoinN
  refine Nat.le_trans (maxOver_filter_le m _ _) ?_
  rw [← hm.pass1 cs]
  cases Inline.pass1 cs with
  | nil => simp [mergeAll]
  | cons c r =>
    simp only [mergeAll, maxOver]
    exact hm.mergeLoop c r

/-- the walk does not increase the measure of any node -/
theorem Meas.joinNodeN_le (n : Node) : m (joinNodeN n) ≤ m n := by
  induction n using joinNodeN_induct with
  | step n ih =>
    rw [hm.eq (joinNodeN n), hm.eq n, joinNodeN_val, joinNodeN_children_map]
    apply hm.mono
    refine Nat.le_trans ?_ (hm.fragmentsJoinN n.children)
    rw [maxOver_le_iff]
    intro c hc
    obtain ⟨c0, hc0, rfl⟩ := List.mem_map.mp hc
    exact Nat.le_trans (ih c0 hc0) (le_maxOver_of_mem hc0)

theorem Meas.finish_le (cfg : Cfg) (cs : List Node) : maxOver m (finish cfg cs) ≤ maxOver m cs := by
  unfold finish
  split
  · unfold joinAllN
    rw [joinNodeN_children]
    simp only [rootOf]
    refine Nat.le_trans ?_ (hm.fragmentsJoinN cs)
    rw [joinListN_eq_map, maxOver_le_iff]
    intro c hc
    obtain ⟨c0, hc0, rfl⟩ := List.mem_map.mp hc
    exact Nat.le_trans (hm.joinNodeN_le c0) (le_maxOver_of_mem hc0)
  · exact Nat.le_refl _

end join

/-- **The final inline tree** (`md.inline.parse` followed by `FragmentsJoin`): every top-level node
    has `EmphDepth ≤ max_nesting` and height `≤ depthBound max_nesting = 1 + M (M + 3) / 2`. -/
theorem finish_depth_bounded {cfg : Cfg} {content : List Char} {mapping : Srcmap} {cs : List Node}
    (h : parseFinish cfg content mapping = .ok cs) :
    ∀ n ∈ cs, wrapDepth n ≤ cfg.maxNesting ∧ treeDepth n ≤ depthBound cfg.maxNesting := by
  unfold parseFinish at h
  split at h
  · simp at h
  · next cs0 h0 =>
    simp only [Except.ok.injEq] at h; subst h
    have hw : maxOver wrapDepth cs0 ≤ cfg.maxNesting :=
      (maxOver_le_iff _ _ _).mpr (parseInline_depth h0)
    have ht : maxOver treeDepth cs0 ≤ depthBound cfg.maxNesting :=
      (maxOver_le_iff _ _ _).mpr (inline_tree_depth_bounded h0)
    intro n hn
    exact ⟨Nat.le_trans (le_maxOver_of_mem hn) (Nat.le_trans (meas_wrapDepth.finish_le cfg cs0) hw),
      Nat.le_trans (le_maxOver_of_mem hn) (Nat.le_trans (meas_treeDepth.finish_le cfg cs0) ht)⟩

/-- `EmphDepth` of the top-level nodes of a result -/
def depths (r : Except Panic (List Node)) : List Nat :=
  match r with
  | .ok cs => cs.map wrapDepth
  | .error _ => []

/-- height of the top-level nodes of a result -/
def heights (r : Except Panic (List Node)) : List Nat :=
  match r with
  | .ok cs => cs.map treeDepth
  | .error _ => []

-- (d) the bound is reached exactly: with `max_nesting = 2` the two inner pairs of
-- `*a *b *c* b* a*` become `Em` nodes (`EmphDepth` 2), the outermost pair stays literal …
example : vals (parseInline (exCfg 2) "*a *b *c* b* a*".toList [(0, 0)]) =
      .ok [.emphMarker '*' 1 1 true false, .text "a ".toList, .wrap .em '*', .text " a".toList,
           .emphMarker '*' 1 1 false true] ∧
    depths (parseInline (exCfg 2) "*a *b *c* b* a*".toList [(0, 0)]) = [0, 0, 2, 0, 0] ∧
    vals (parseFinish (exCfg 2) "*a *b *c* b* a*".toList [(0, 0)]) =
      .ok [.text "*a ".toList, .wrap .em '*', .text " a*".toList] := by
  decide_lits
-- … with `max_nesting = 3` all three pairs match, with `max_nesting = 1` only the innermost one
example : depths (parseInline (exCfg 3) "*a *b *c* b* a*".toList [(0, 0)]) = [3] ∧
    depths (parseInline (exCfg 1) "*a *b *c* b* a*".toList [(0, 0)]) = [0, 0, 0, 0, 1, 0, 0, 0, 0] := by
  decide_lits
-- inside a link label (level 1) one pair less fits: `room = max_nesting - level`
example : (match parseInline (exCfg 2) "[*a *b* a*](u)".toList [(0, 0)] with
    | .ok [n] => (n.val, n.children.map (·.val), n.children.map wrapDepth)
    | _ => (.softbreak, [], [])) =
    (.link [117] none,
     [.emphMarker '*' 1 1 true false, .text "a ".toList, .wrap .em '*', .text " a".toList,
      .emphMarker '*' 1 1 false true], [0, 0, 1, 0, 0]) := by
  decide +kernel
-- (e) `depthBound 2 = 6` is reached: `Em ⊃ Em ⊃ Image ⊃ Em ⊃ Link ⊃ Text`
example : depthBound 2 = 6 ∧
    heights (parseInline (exCfg 2) "*a *b ![*c [t](u) c*](i) b* a*".toList [(0, 0)]) = [6] := by
  decide_lits
-- `depthBound` for the default `max_nesting = 100`
example : depthBound 100 = 5151 := by decide +kernel

end MdIt.EmphDepth
