/-
  C04 / C03: **no tag of the rendered document carries two
  attributes of the same name**, so the HTML tokenizer's duplicate-attribute rule ("if there is already an
  attribute on the token with the exact same name, … the new attribute must be removed") never fires and the
  attribute list the tokenizer reads (`doc_attrs_exact`) is the one the tree builder keeps.

    `NodeRender.frameT_nodup`, `NodeRender.render_nodup`   per node kind / for every tree: when `node.attrs` holds at
        most the one `data-sourcepos` attribute, every `open` / `self_close` call carries pairwise distinct names
        (`class`, `start`, `href`, `title`, `src`, `alt` are pushed once each, after the node's own);
    `Pipeline.doc_attr_names_nodup`                       for EVERY configuration and EVERY source: every trait call
        of the rendering has pairwise distinct attribute names;
    `Pipeline.doc_tokens_nodup`                           on the token stream: every tag token the tokenizer reads
        off the output string has pairwise distinct attribute names.
-/
import MdIt.Props.HrefConverse

set_option autoImplicit false

namespace MdIt.NodeRender
open MdIt.Render

/-- the attribute names of a trait call are pairwise distinct -/
def NodupEv : Event → Prop
  | .open _ a => (a.map Prod.fst).Nodup
  | .selfClose _ a => (a.map Prod.fst).Nodup
  | _ => True

/-- `node.attrs` as the shipped plugins leave it: nothing, or the one `data-sourcepos` attribute -/
def SpOnce (attrs : List (List Char × List Char)) : Prop :=
  attrs.length ≤ 1 ∧ ∀ nv ∈ attrs, nv.1 = aSourcepos

theorem SpOnce.cases {attrs : List (List Char × List Char)} (h : SpOnce attrs) :
    attrs = [] ∨ ∃ v, attrs = [(aSourcepos, v)] := by
  obtain ⟨hl, hn⟩ := h
  match attrs, hl, hn with
  | [], _, _ => exact .inl rfl
  | [(n, v)], _, hn =>
    have : n = aSourcepos := hn (n, v) (by simp)
    subst this
    exact .inr ⟨v, rfl⟩
  | _ :: _ :: _, hl, _ => simp at hl

/-- the attribute lists `render` builds on top of `node.attrs` (`class`, `start`, `href` / `title`,
    `src` / `alt` / `title`) carry distinct names when `node.attrs` is `SpOnce` -/
theorem built_attrs_nodup (lookup : List Char → Option (List Char)) {attrs : List (List Char × List Char)}
    (ha : SpOnce attrs) :
    (attrs.map Prod.fst).Nodup ∧
    (∀ info lp, ((fenceAttrsT lookup attrs info lp).map Prod.fst).Nodup) ∧
    (∀ start, ((olAttrs attrs start).map Prod.fst).Nodup) ∧
    (∀ url title, ((linkAttrs attrs url title).map Prod.fst).Nodup) ∧
    (∀ url alt title, ((imageAttrs attrs url alt title).map Prod.fst).Nodup) ∧
    (∀ url, ((attrs ++ [(aHref, url)]).map Prod.fst).Nodup) := by
  rcases ha.cases with rfl | ⟨v, rfl⟩
  all_goals
    refine ⟨?_, fun info lp => ?_, fun start => ?_, fun url title => ?_, fun url alt title => ?_,
      fun url => ?_⟩
    all_goals
      try simp only [fenceAttrsT, olAttrs, linkAttrs, imageAttrs, pushTitle]
      repeat' split
      all_goals
        simp only [List.map_cons, List.map_nil, List.nil_append, List.cons_append]
        decide

theorem frameT_nodup (lookup : List Char → Option (List Char)) (k : Kind)
    (attrs : List (List Char × List Char)) (alt : List Char) (ha : SpOnce attrs) :
    ∀ e ∈ (frameT lookup k attrs alt).1 ++ (frameT lookup k attrs alt).2, NodupEv e := by
  obtain ⟨hA, hF, hO, hL, hI, hH⟩ := built_attrs_nodup lookup ha
  cases k
  all_goals
    simp only [frameT, List.cons_append, List.nil_append, List.append_nil, List.mem_cons,
      List.not_mem_nil, or_false, forall_eq_or_imp, forall_eq, NodupEv, List.map_nil,
      List.nodup_nil, hA, hF, hO, hL, hI, hH, and_self]
  all_goals first | trivial | (intro e h; exact h.elim)

/-- **`render_nodup`.**  For every tree whose `node.attrs` hold at most the one
    `data-sourcepos` attribute, every trait call of `render` carries pairwise distinct attribute names. -/
theorem render_nodup (lookup : List Char → Option (List Char)) (t : Node)
    (ha : ∀ m ∈ visited t, SpOnce m.attrs) (evs : List Event) (h : render lookup t = .ok evs) :
    ∀ e ∈ evs, NodupEv e :=
  render_all lookup (fun n hq => frameT_nodup lookup n.kind n.attrs (imageAlt n.children) hq) t ha evs h

end MdIt.NodeRender

namespace MdIt.Pipeline
open MdIt.Render MdIt.NodeRender MdIt.HtmlTok

theorem toRender_attrs (Q : List (List Char × List Char) → Prop) (lp : List Char) (t : Node)
    (he : Every (fun n => Q n.attrs) t) : ∀ m ∈ NodeRender.nodes (toRender lp t), Q m.attrs := by
  intro m hm
  obtain ⟨n, hw, rfl⟩ := toRender_nodes_within lp t m hm
  rw [toRender_eq]
  exact he.within hw

theorem toRenderList_attrs (Q : List (List Char × List Char) → Prop) (lp : List Char) (cs : List Node)
    (he : ∀ c ∈ cs, Every (fun n => Q n.attrs) c) :
    ∀ m ∈ NodeRender.nodesList (toRenderList lp cs), Q m.attrs := by
  intro m hm
  obtain ⟨n, c, hc, hw, rfl⟩ := toRenderList_nodes_within lp cs m hm
  rw [toRender_eq]
  exact (he c hc).within hw

theorem doc_attrs_spOnce (cfg : DocCfg) (src : List Char) (t : Node) (h : parseDoc cfg src = .ok t) :
    Every (fun n => SpOnce n.attrs) t := by
  have := doc_sourcepos_spec cfg src t h
  split at this
  · refine Every.imp ?_ this
    intro n hn
    unfold SpAttr at hn
    rw [hn]
    split
    · exact ⟨by simp, by simp⟩
    · exact ⟨by simp, by simp⟩
  · refine Every.imp ?_ this
    intro n hn
    rw [hn]
    exact ⟨by simp, by simp⟩

/-- **`doc_attr_names_nodup`.**  For EVERY configuration and EVERY source the parser accepts: every
    `open` / `self_close` call the rendering issues carries pairwise distinct attribute names. -/
theorem doc_attr_names_nodup (cfg : DocCfg) (src : List Char) (t : Node) (h : parseDoc cfg src = .ok t) :
    ∃ evs, renderEvents cfg t = .ok evs ∧ (∀ x, renderDoc x cfg src = .ok (serialize x evs)) ∧
      ∀ e ∈ evs, NodupEv e := by
  obtain ⟨evs, hev, hx, _, _⟩ := doc_events cfg src t h
  refine ⟨evs, hev, hx, ?_⟩
  have hall := toRender_attrs SpOnce cfg.langPrefix t (doc_attrs_spOnce cfg src t h)
  unfold renderEvents at hev
  split at hev
  · cases hev
  · next evs' hr =>
    cases hev
    exact render_nodup cfg.entity _ (fun m hm => hall m (visited_subset_nodes _ m hm)) _ hr


theorem attrNames_nul : ∀ n ∈ allAttrNames, Render.nulStr n = n := by decide

/-- U+0000 ↦ U+FFFD leaves the attribute names of a call of the shipped vocabulary alone -/
theorem nodupEv_nul {e : Event} (hok : EventOK shippedVocab e) (hn : NodupEv e) : NodupEv (nulEvent e) := by
  have key : ∀ (t0 : List Char) (a0 : List (List Char × List Char)), (∀ nv ∈ a0, shippedVocab.attr t0 nv.1) →
      (Render.nulAttrs a0).map Prod.fst = a0.map Prod.fst := by
    intro t0 a0 h
    simp only [Render.nulAttrs, List.map_map]
    exact List.map_congr_left fun nv hnv => attrNames_nul _ (NodeRender.attrsFor_subset t0 _ (h nv hnv).2)
  cases e with
  | «open» t0 a0 => show (_ : List _).Nodup; rw [key t0 a0 hok.2]; exact hn
  | selfClose t0 a0 => show (_ : List _).Nodup; rw [key t0 a0 hok.2]; exact hn
  | _ => trivial

theorem dropDupNames_of_nodup : ∀ (l : List (List Char × List Char)), (l.map Prod.fst).Nodup →
    dropDupNames l = l
  | [], _ => rfl
  | nv :: r, h => by
    simp only [List.map_cons, List.nodup_cons] at h
    simp only [dropDupNames, dropDupNames_of_nodup r h.2]
    congr 1
    apply List.filter_eq_self.mpr
    intro x hx
    simp only [ne_eq, decide_eq_true_eq]
    intro e
    exact h.1 (List.mem_map.mpr ⟨x, hx, e⟩)

/-- **`doc_tokens_nodup`.**  On what the browser sees, for EVERY configuration, EVERY source and both
    modes: every tag token the HTML tokenizer reads off the returned string has pairwise distinct
    attribute names, so the duplicate-attribute rule of the tokenizer removes nothing: the attribute
    list of `doc_attrs_exact` / `doc_no_smuggled_href` is the one the element gets. -/
theorem doc_tokens_nodup (x : Bool) (cfg : DocCfg) (src : List Char) (out : List Char)
    (h : renderDoc x cfg src = .ok out) :
    ∀ tg : HtmlTok.Tag, Tok.tag tg ∈ (htmlTokens out).1 →
      (tg.attrs.map Prod.fst).Nodup ∧ dropDupNames tg.attrs = tg.attrs := by
  cases hp : parseDoc cfg src with
  | error e => simp [renderDoc, hp] at h
  | ok t =>
    obtain ⟨evs, hre, hx, hv, hvn, _⟩ := doc_events_nul cfg src t hp
    obtain ⟨evs2, hre2, _, hnd⟩ := doc_attr_names_nodup cfg src t hp
    have hsame : evs2 = evs := by
      rw [hre] at hre2
      cases hre2
      rfl
    subst hsame
    rw [hx x] at h
    cases h
    obtain ⟨_, htags⟩ := tokens_of_events shippedVocab_low x evs2 hv
    intro tg htg
    rw [mem_tagsOf, htags] at htg
    have key : (tg.attrs.map Prod.fst).Nodup := by
      rcases mem_filterMap_evTag htg with ⟨_, hattrs, _⟩ | ⟨_, a, hattrs, hmem⟩
      · rw [hattrs]; simp
      · -- the call is `nulEvent e0` for a call `e0` of the rendering
        have hnames : ∀ nv ∈ a, nv.1 ∈ attrsFor tg.name := by
          rcases hmem with hm | hm
          · exact fun nv hnv => ((hvn _ hm).2 nv hnv).2
          · exact fun nv hnv => ((hvn _ hm).2 nv hnv).2
        have hnod : (a.map Prod.fst).Nodup := by
          rcases hmem with hm | hm <;> obtain ⟨e0, he0, hE⟩ := List.mem_map.mp hm <;>
            exact (hE ▸ nodupEv_nul (hv e0 he0) (hnd e0 he0) : NodupEv _)
        rw [hattrs]
        have : (escAttrs a).map Prod.fst = a.map Prod.fst := by
          simp only [escAttrs, List.map_map]
          apply List.map_congr_left
          intro nv hnv
          exact attrsFor_plain (hnames nv hnv)
        rw [this]; exact hnod
    exact ⟨key, dropDupNames_of_nodup _ key⟩

end MdIt.Pipeline

/-! non-vacuity: an image with a title inside a link, `sourcepos` on — the tokenizer reads four distinct
    names on `img` (`data-sourcepos src alt title`) and three on `a` -/
example :
    (match MdIt.Pipeline.renderDoc true (MdIt.Pipeline.exCfg true 100) "[![a](b \"t\")](c \"u\")".toList with
     | .ok out => (MdIt.HtmlTok.tagsOf (MdIt.HtmlTok.htmlTokens out).1).map (fun tg => tg.attrs.length)
     | .error _ => []) = [1, 3, 4, 0, 0] := by
  decide +kernel
