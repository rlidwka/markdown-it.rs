/-
  Whole-document corollaries that combine the slices (composition only — every proof below is a few lines):

  * C10: the three line-ending theorems of `Props/C10Doc.lean` with their fuel hypothesis discharged by
    `Block.parseBlocks_fuel` (`Lemmas/BlockTotalFuel.lean`): no hypothesis about the model's fuel is left.
  * C01: a panic of the whole pipeline `src ↦ html` can only come from an INLINE run: the block pass is total
    (`Block.parseBlocks_total`, `Props/BlockTotal.lean`), the splice walk, the join pass, the sourcepos pass and
    the two serializers are total (`Props/Pipeline.lean`).  That the inline runs are total as well is
    `Props/MemoSafe.lean` (coherent chains, link / image rule at most once) and `Props/TotalTabs.lean` (every
    source, split tabs included: `doc_total_stock_every`).
-/
import MdIt.Props.C10Doc
import MdIt.Props.BlockTotal

namespace MdIt.Pipeline
open MdIt
open MdIt.Lines (lfToCrlf lfToCr)

/-- **C10, LF ↦ CR, no residual hypothesis.** -/
theorem doc_cr_invariant_full (x : Bool) (cfg : DocCfg) (src : List Char) (hsp : cfg.sourcepos = false)
    (hcr : '\r' ∉ src) : renderDoc x cfg (lfToCr src) = renderDoc x cfg src :=
  doc_cr_invariant x cfg src hsp hcr (.inr (Block.parseBlocks_fuel _ _))

/-- **C10, final newline, no residual hypothesis.** -/
theorem doc_final_newline_invariant_full (x : Bool) (cfg : DocCfg) (src : List Char)
    (hsp : cfg.sourcepos = false)
    (hlast : src.getLast? ≠ some '\n' ∧ src.getLast? ≠ some '\r') :
    renderDoc x cfg (src ++ ['\n']) = renderDoc x cfg src :=
  doc_final_newline_invariant x cfg src hsp hlast (.inr (Block.parseBlocks_fuel _ _))

/-- **C10, LF ↦ CR LF**: the only hypothesis left is that the inline pass of the LF document does not
    panic (source offsets decide control flow in exactly two underflow guards of the inline parser). -/
theorem doc_crlf_invariant_full (x : Bool) (cfg : DocCfg) (src : List Char) (hsp : cfg.sourcepos = false)
    (hcr : '\r' ∉ src) (hinl : ∀ e, parseDoc cfg src ≠ .error (.inline e)) :
    renderDoc x cfg (lfToCrlf src) = renderDoc x cfg src :=
  doc_crlf_invariant x cfg src hsp hcr (.inr (Block.parseBlocks_fuel _ _)) hinl

/-- **C01, whole pipeline: only an inline run can panic.**  For every configuration and every source,
    `parseDoc` either returns a tree or fails inside one of the `md.inline.parse` calls. -/
theorem parseDoc_panic_inline_only {cfg : DocCfg} {src : List Char} {e : Panic}
    (h : parseDoc cfg src = .error e) : ∃ p, e = .inline p := by
  obtain ⟨root, refs, hb⟩ := Block.parseBlocks_total cfg.blockCfg src
  unfold parseDoc at h
  rw [hb] at h
  exact afterBlocks_panic h

/-- … and the same for `src ↦ html` (both serializers): rendering a parsed tree never panics. -/
theorem renderDoc_panic_inline_only {x : Bool} {cfg : DocCfg} {src : List Char} {e : Panic}
    (h : renderDoc x cfg src = .error e) : ∃ p, e = .inline p := by
  cases hp : parseDoc cfg src with
  | error e' =>
    have : renderDoc x cfg src = .error e' := by simp [renderDoc, hp]
    rw [this] at h; cases h
    exact parseDoc_panic_inline_only hp
  | ok t =>
    obtain ⟨evs, _, _, hr⟩ := doc_render_total cfg src t hp
    rw [hr x] at h; cases h

/-- the block pass always hands a tree to the inline pass: `parseDoc` is `afterBlocks` of it -/
theorem parseDoc_blocks_ok (cfg : DocCfg) (src : List Char) :
    ∃ root refs, Block.parseBlocks cfg.blockCfg src = .ok (root, refs) ∧
      parseDoc cfg src = afterBlocks cfg src root refs := by
  obtain ⟨root, refs, hb⟩ := Block.parseBlocks_total cfg.blockCfg src
  exact ⟨root, refs, hb, by unfold parseDoc; rw [hb]⟩

end MdIt.Pipeline
