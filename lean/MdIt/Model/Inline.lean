/-
  Model of the complete INLINE-level parser for html-free configurations, plus the post pass.

    * `src/parser/inline/mod.rs`            `InlineParser::tokenize`, `skip_token` (memo `state.cache`,
                                            the level guards, `level += 1` around each silent rule call,
                                            the over-limit branch), `parse`
    * `src/parser/inline/state.rs`          `InlineState::new`, `trim_src`, `scan_delims`,
                                            `trailing_text_push/pop/get`, `get_map`
    * `src/parser/inline/builtin/skip_text.rs`  `TextScanner` (`SkipPunct` implementation)
    * `src/plugins/cmark/inline/*.rs`       newline, escape, entity, backticks, emphasis, link, image,
                                            autolink (`AUTOLINK_RE`, `EMAIL_RE` as hand matchers)
    * `src/plugins/extra/inline/strikethrough.rs`
    * `src/generics/inline/emph_pair.rs`    `EmphPairScanner::run`, `scan_and_match_delimiters`,
                                            `is_odd_match`, `fragments_join`, `FragmentsJoin::run`
    * `src/generics/inline/full_link.rs`    `rule`, `parse_link`, `parse_link_label`
    * `src/generics/inline/code_pair.rs`    through `MdIt.CodePair.run Variant.current`

  Reused models (not modified): `MdIt.InlineOps` (`Srcmap`, `getSourcePosFor`, `getMap`, `slice`,
  `byteLen`), `MdIt.CodePair` (the code-span rule with its cache), `MdIt.Entity` (`entityCore`,
  `escapeCore`, `splitRun`, `textStop`, `unescapeAll`), `MdIt.Link` (`parseInlineTail`,
  `autolinkDest`, `normalizeLink`, `validateLink`), `MdIt.Refs` (`lookup`), `MdIt.Join` (through the
  projection `erase`: `Lemmas/InlineJoin.lean`, `hd_eraseList_fragmentsJoinN`, `allNF_joinAllN`),
  `MdIt.Alt` (`toInl`).

  Text is `List Char`; EVERY position is a BYTE offset into the UTF-8 encoding (`Char.utf8Size`).
  `usize` is an unbounded `Nat`.  Every Rust operation that can panic is a partial operation
  (`Panic`): `&s[a..b]` (`slice`), `unwrap`, unsigned subtraction (`underflow`), indexing (`index`),
  `debug_assert!` (`assert`, active in the harness build).  The mutual recursion
  `tokenize → rule → parse_link_label → skip_token → rule → …` and the two `while` loops are driven by
  `fuel`; running out of it is `Panic.fuel` (`Props/Inline.lean`: `fuel_suffices`).

  What the configuration (`Cfg`) holds: `md.max_nesting`, the compiled inline chain in execution
  order, `PairConfig<MARKER>::fns` per marker, the `ReferenceMap` of `root_env` (or its absence),
  `normalize_reference`, `get_entity_from_str`, `char::is_whitespace`, `is_punct_char`.
  `md.normalize_link`, `md.validate_link`, `md.normalize_link_text` are the defaults of
  `MarkdownIt::new()` (`Link.normalizeLink`, `Link.validateLink`, identity).
-/
import MdIt.Model.InlineOps
import MdIt.Model.Join
import MdIt.Model.CodePair
import MdIt.Model.Entity
import MdIt.Model.Link
import MdIt.Model.Refs
import MdIt.Model.Alt

namespace MdIt.Inline
open MdIt.InlineOps (Srcmap getSourcePosFor getMap byteLen slice)

/-! ## panics -/

/-- the panics of the Rust code -/
inductive RPanic where
  | unwrap      -- `Option::unwrap()` on `None`
  | slice       -- `&s[a..b]` out of range / inside a character / `a > b`; `split_off` past the end
  | underflow   -- unsigned subtraction below zero
  | index       -- `v[i]` with `i >= v.len()`
  | assert      -- `debug_assert!(start_pos <= end_pos)` in `get_map`
  | radix       -- `u32::from_str_radix(..).unwrap()` on `Err`
  | fromU32     -- `char::from_u32(..).unwrap()` on `None`
  deriving Repr, DecidableEq

/-- outcome classes of the recursive part of the model: a Rust panic, or the model ran out of
    fuel (not a Rust panic; excluded by `fuel_suffices`).  Rules without look-ahead recursion
    return `Except RPanic _`: they cannot run out of fuel by construction. -/
inductive Panic where
  | fuel
  | rust (p : RPanic)
  deriving Repr, DecidableEq

def RPanic.ofOps : InlineOps.Panic → RPanic
  | .underflow => .underflow
  | .index => .index
  | .slice => .slice
  | .unwrap => .unwrap
  | .assert => .assert

def RPanic.ofCode : CodePair.Panic → RPanic
  | .slice => .slice
  | .unwrap => .unwrap
  | .index => .index
  | .underflow => .underflow
  | .assert => .assert

/-- (`Entity.Panic.fuel` belongs to `Entity.inlineLoop`, which is not used here; `escapeCore` and
    `entityCore` never produce it) -/
def RPanic.ofEntity : Entity.Panic → RPanic
  | .unwrapNone => .unwrap
  | .slice => .slice
  | .radix => .radix
  | .fromU32 => .fromU32
  | .fuel => .unwrap

def RPanic.ofLink : Link.Panic → RPanic
  | .slice => .slice

def liftOps {α : Type} : Except InlineOps.Panic α → Except RPanic α
  | .ok a => .ok a
  | .error e => .error (RPanic.ofOps e)

/-- a Rust-level result inside the fuel-driven recursion -/
def liftR {α : Type} : Except RPanic α → Except Panic α
  | .ok a => .ok a
  | .error e => .error (.rust e)

/-! ## the inline tree -/

/-- the node values `PairConfig::fns` can make: `Em`, `Strong`, `Strikethrough` -/
inductive Wrap where
  | em
  | strong
  | strike
  deriving Repr, DecidableEq

/-- `Node::node_value` for every node kind the html-free inline rules create -/
inductive Val where
  /-- `Text { content }` -/
  | text (content : List Char)
  /-- `TextSpecial { content, markup, info }` -/
  | special (content markup info : List Char)
  | softbreak
  | hardbreak
  /-- `CodeInline { marker, marker_len }` -/
  | codeInline (marker : Char) (markerLen : Nat)
  /-- `Em { marker }` / `Strong { marker }` / `Strikethrough { marker }` -/
  | wrap (w : Wrap) (marker : Char)
  /-- `Link { url, title }` (url = bytes of the string) -/
  | link (url : List Nat) (title : Option (List Char))
  /-- `Image { url, title }` -/
  | image (url : List Nat) (title : Option (List Char))
  /-- `Autolink { url }` -/
  | autolink (url : List Nat)
  /-- `EmphMarker { marker, length, remaining, open, close }` -/
  | emphMarker (marker : Char) (length remaining : Nat) (open_ close : Bool)
  deriving Repr, DecidableEq

/-- `Node`: value, `srcmap` as byte offsets, children (attributes and `env` are not modelled; the
    `OpenersBottom` entries of the CURRENT node's env live in `IState.bottoms`) -/
structure Node where
  val : Val
  range : Option (Nat × Nat)
  children : List Node
  deriving Repr

def Node.isText (n : Node) : Bool :=
  match n.val with
  | .text _ => true
  | _ => false

/-- `text.content` of a `Text` node (`[]` for other kinds; callers test `isText` first) -/
def Node.content (n : Node) : List Char :=
  match n.val with
  | .text c => c
  | _ => []

/-- `Node::new(Text { content })` with a srcmap -/
def Node.newText (content : List Char) (range : Option (Nat × Nat)) : Node :=
  { val := .text content, range := range, children := [] }

/-- a childless node -/
def Node.leaf (v : Val) (range : Option (Nat × Nat)) : Node :=
  { val := v, range := range, children := [] }

/-! ### projection to the node type of `MdIt.InlineOps` / `MdIt.Join` -/

/-- kind number of a non-text, non-placeholder value (`InlineOps.Kind.other`) -/
def Val.code : Val → Nat
  | .text _ => 0
  | .special _ _ _ => 1
  | .softbreak => 2
  | .hardbreak => 3
  | .codeInline _ _ => 4
  | .wrap .em _ => 5
  | .wrap .strong _ => 6
  | .wrap .strike _ => 7
  | .link _ _ => 8
  | .image _ _ => 9
  | .autolink _ => 10
  | .emphMarker _ _ _ _ _ => 11

mutual
/-- forget the payload: what `MdIt.InlineOps.INode` can tell apart -/
def erase : Node → InlineOps.INode
  | ⟨v, r, cs⟩ =>
    match v with
    | .text c => { kind := .text, content := c, range := r, children := eraseList cs, remaining := 0 }
    | .emphMarker m _ rem _ _ =>
      { kind := .marker m, content := [], range := r, children := eraseList cs, remaining := rem }
    | v => { kind := .other v.code, content := [], range := r, children := eraseList cs, remaining := 0 }
def eraseList : List Node → List InlineOps.INode
  | [] => []
  | c :: cs => erase c :: eraseList cs
end

mutual
/-- the view `MdIt.Alt` (alt text of images) has of a node -/
def toInl : Node → Alt.Inl
  | ⟨v, _, cs⟩ =>
    match v with
    | .text c => .text c
    | .special c _ _ => .special c
    | .softbreak => .soft
    | .hardbreak => .hard
    | v => .wrap v.code (toInlList cs)
def toInlList : List Node → List Alt.Inl
  | [] => []
  | c :: cs => toInl c :: toInlList cs
end

/-! ## configuration -/

inductive RuleId where
  /-- `TextScanner` -/
  | text
  /-- `NewlineScanner` -/
  | newline
  /-- `EscapeScanner` -/
  | escape
  /-- ``CodePairScanner<'`', false>`` -/
  | backticks
  /-- `EmphPairScanner<MARKER, CAN_SPLIT_WORD>` (`emphasis`: `('*', true)`, `('_', false)`;
      `strikethrough`: `('~', true)`) -/
  | emph (marker : Char) (canSplitWord : Bool)
  /-- `LinkScanner<false>` -/
  | link
  /-- `LinkPrefixScanner<'!', true>` -/
  | image
  /-- `LinkScannerEnd` -/
  | linkEnd
  /-- `AutolinkScanner` -/
  | autolink
  /-- `EntityScanner` -/
  | entity
  deriving Repr, DecidableEq

structure Cfg where
  /-- `md.max_nesting` -/
  maxNesting : Nat
  /-- the compiled inline chain (`md.inline.ruler.iter()`), in execution order -/
  chain : List RuleId
  /-- `md.env.get::<PairConfig<MARKER>>().fns[i]` for `i = 0, 1, 2` -/
  fns : Char → Nat → Option Wrap
  /-- `state.root_env.get::<ReferenceMap>()` (keys already normalised) -/
  refs : Option Refs.RefMap
  /-- `normalize_reference` on code points (`ReferenceMapKey::new`) -/
  normRef : List Nat → List Nat
  /-- `get_entity_from_str` -/
  entity : List Char → Option (List Char)
  /-- `char::is_whitespace` -/
  isWhite : Char → Bool
  /-- `is_punct_char` (Unicode general category P*); only consulted behind
      `ch.is_ascii_punctuation() ||` -/
  isPunctChar : Char → Bool

/-! ## the state -/

/-- `InlineState`, field by field.  `children` / `bottoms` are `state.node.children` and the
    `OpenersBottom<MARKER>` entries of `state.node.env`; `backticks` is the
    ``RefCell<CodePairCache<'`'>>`` of `state.inline_env`. -/
structure IState where
  src : List Char
  srcmap : Srcmap
  pos : Nat
  posMax : Nat
  level : Nat
  linkLevel : Int
  /-- `state.cache : HashMap<usize, usize>` as an association list (newest first) -/
  cache : List (Nat × Nat)
  backticks : CodePair.Cache
  children : List Node
  bottoms : List (Char × List Nat)

/-- `' ' | '\t'` -/
def isSpTab (c : Char) : Bool := c == ' ' || c == '\t'

/-- `trim_src`: ONE double-ended byte iterator; `next_back` runs first and also consumes the first
    non-blank byte it meets, then `next` runs over what is left.  Result `(pos, pos_max)`.
    (Blanks are single bytes and no byte of a multi-byte character is a blank, so counting
    characters is counting bytes.) -/
def trimSrc (src : List Char) : Nat × Nat :=
  let rev := src.reverse
  let nBack := (rev.takeWhile isSpTab).length
  let rest := ((rev.dropWhile isSpTab).drop 1).reverse
  let nFront := (rest.takeWhile isSpTab).length
  (nFront, byteLen src - nBack)

/-- `InlineState::new(src, srcmap, md, env, node)` with an empty `node` -/
def IState.init (src : List Char) (srcmap : Srcmap) : IState :=
  { src := src, srcmap := srcmap, pos := (trimSrc src).1, posMax := (trimSrc src).2,
    level := 0, linkLevel := 0, cache := [], backticks := CodePair.Cache.empty,
    children := [], bottoms := [] }

/-- `state.src[state.pos..state.pos_max]` -/
def IState.window (st : IState) : Except RPanic (List Char) :=
  liftOps (slice st.src st.pos st.posMax)

/-- `state.get_map(a, b)` -/
def IState.getMap (st : IState) (a b : Nat) : Except RPanic (Nat × Nat) :=
  liftOps (InlineOps.getMap st.srcmap a b)

/-! ## `trailing_text_push / pop / get` on the rich node type
    (same code as `MdIt.InlineOps`; `Lemmas/InlineText.lean`: `erase_trailingTextPush` etc.) -/

/-- `Vec::pop` -/
def popLast {α : Type} : List α → Option (List α × α)
  | [] => none
  | [x] => some ([], x)
  | x :: y :: r =>
    match popLast (y :: r) with
    | none => none
    | some (init, l) => some (x :: init, l)

/-- `trailing_text_push(start, end)` -/
def trailingTextPush (src : List Char) (m : Srcmap) (children : List Node) (start stop : Nat) :
    Except RPanic (List Node) :=
  let fresh : Except RPanic (List Node) :=
    match liftOps (slice src start stop) with
    | .error e => .error e
    | .ok piece =>
      match liftOps (getMap m start stop) with
      | .error e => .error e
      | .ok r => .ok (children ++ [Node.newText piece (some r)])
  match popLast children with
  | none => fresh
  | some (init, last) =>
    if last.isText then
      match liftOps (slice src start stop) with
      | .error e => .error e
      | .ok piece =>
        match last.range with
        | none => .ok (init ++ [{ last with val := .text (last.content ++ piece) }])
        | some (mapStart, _) =>
          match liftOps (getSourcePosFor m stop) with
          | .error e => .error e
          | .ok mapEnd =>
            .ok (init ++ [{ last with val := .text (last.content ++ piece),
                                      range := some (mapStart, mapEnd) }])
    else fresh

/-- `trailing_text_pop(count)` -/
def trailingTextPop (children : List Node) (count : Nat) : Except RPanic (List Node) :=
  if count = 0 then .ok children else
  match popLast children with
  | none => .error .unwrap
  | some (init, node) =>
    if !node.isText then .error .unwrap
    else if byteLen node.content = count then .ok init
    else if byteLen node.content < count then .error .underflow
    else
      match liftOps (InlineOps.truncate node.content (byteLen node.content - count)) with
      | .error e => .error e
      | .ok content' =>
        match node.range with
        | none => .ok (init ++ [{ node with val := .text content' }])
        | some (mapStart, mapEnd) =>
          if mapEnd < count then .error .underflow
          else .ok (init ++ [{ node with val := .text content',
                                         range := some (mapStart, mapEnd - count) }])

/-- `trailing_text_get()` -/
def trailingTextGet (children : List Node) : List Char :=
  match popLast children with
  | none => []
  | some (_, last) => if last.isText then last.content else []

/-- `state.trailing_text_push(a, b)` -/
def IState.pushText (st : IState) (a b : Nat) : Except RPanic IState :=
  match trailingTextPush st.src st.srcmap st.children a b with
  | .error e => .error e
  | .ok cs => .ok { st with children := cs }

/-- `state.node.children.push(node)` -/
def IState.push (st : IState) (n : Node) : IState := { st with children := st.children ++ [n] }

/-- what a rule returns (`Option<usize>`) together with the state it leaves -/
abbrev SRes := Except RPanic (Option Nat × IState)

/-- the same inside the fuel-driven recursion (link, image and the two loops) -/
abbrev RuleRes := Except Panic (Option Nat × IState)

/-! ## `TextScanner` (`SkipPunct`) -/

/-- `TextScanner::run` -/
def ruleText (st : IState) (silent : Bool) : SRes :=
  match st.window with
  | .error e => .error e
  | .ok w =>
    let len := byteLen (Entity.splitRun (fun c => !Entity.textStop.contains c) w).1
    if len = 0 then .ok (none, st)
    else if silent then .ok (some len, st)
    else
      match st.pushText st.pos (st.pos + len) with
      | .error e => .error e
      | .ok st' => .ok (some len, st')

/-! ## `NewlineScanner` -/

/-- `for ch in trailing_text.chars().rev() { if ch == ' ' { tail_size += 1 } else { break } }` -/
def tailSpaces (s : List Char) : Nat := (s.reverse.takeWhile (· == ' ')).length

/-- `NewlineScanner::run` -/
def ruleNewline (st : IState) (silent : Bool) : SRes :=
  match st.window with
  | .error e => .error e
  | .ok [] => .error .unwrap
  | .ok (c :: rest) =>
    if c ≠ '\n' then .ok (none, st)
    else
      -- `pos += 1`, then `+= 1` per leading blank of the next line
      let pos' := st.pos + 1 + (rest.takeWhile isSpTab).length
      if silent then .ok (some (pos' - st.pos), st)
      else
        let tailSize := tailSpaces (trailingTextGet st.children)
        match trailingTextPop st.children tailSize with
        | .error e => .error e
        | .ok cs =>
          -- `state.pos - tail_size`
          if st.pos < tailSize then .error .underflow
          else
            match st.getMap (st.pos - tailSize) pos' with
            | .error e => .error e
            | .ok r =>
              let v := if tailSize ≥ 2 then Val.hardbreak else Val.softbreak
              .ok (some (pos' - st.pos), { st with children := cs ++ [Node.leaf v (some r)] })

/-! ## `EscapeScanner` (through `Entity.escapeCore`) -/

def infoEscape : List Char := "escape".toList
def infoEntity : List Char := "entity".toList

/-- `EscapeScanner::run` -/
def ruleEscape (st : IState) (silent : Bool) : SRes :=
  match st.window with
  | .error e => .error e
  | .ok w =>
    match Entity.escapeCore w with
    | .error e => .error (RPanic.ofEntity e)
    | .ok none => .ok (none, st)
    | .ok (some (.hardbreak len)) =>
      -- `\` + line feed + blanks: all single bytes
      if silent then .ok (some len, st)
      else
        match st.getMap st.pos (st.pos + 2) with
        | .error e => .error e
        | .ok r => .ok (some len, st.push (Node.leaf .hardbreak (some r)))
    | .ok (some (.special sp)) =>
      -- `end - start` with `end = state.pos + 1 + chr.len_utf8()`
      let len := byteLen sp.markup
      if silent then .ok (some len, st)
      else
        match st.getMap st.pos (st.pos + len) with
        | .error e => .error e
        | .ok r => .ok (some len, st.push (Node.leaf (.special sp.content sp.markup infoEscape) (some r)))

/-! ## `EntityScanner` (through `Entity.entityCore`) -/

/-- `EntityScanner::run`: the window decides the branch, the regexes see `src[pos..]` -/
def ruleEntity (cfg : Cfg) (st : IState) (silent : Bool) : SRes :=
  match st.window with
  | .error e => .error e
  | .ok w =>
    match w with
    | [] => .error .unwrap
    | c :: _ =>
      if c ≠ '&' then .ok (none, st)
      else
        match liftOps (slice st.src st.pos (byteLen st.src)) with
        | .error e => .error e
        | .ok suffix =>
          match Entity.entityCore cfg.entity w suffix with
          | .error e => .error (RPanic.ofEntity e)
          | .ok none => .ok (none, st)
          | .ok (some sp) =>
            -- `capture[0].len()`
            let len := byteLen sp.markup
            if silent then .ok (some len, st)
            else
              match st.getMap st.pos (st.pos + len) with
              | .error e => .error e
              | .ok r =>
                .ok (some len, st.push (Node.leaf (.special sp.content sp.markup infoEntity) (some r)))

/-! ## code spans (through `CodePair.run Variant.current`) -/

/-- ``CodePairScanner<'`', false>::run``: the rule of `MdIt.CodePair` on the cache kept in
    `inline_env`; in real mode the two `get_map` translations are applied to the inline offsets the
    code-span model records, and the node is pushed. -/
def ruleBackticks (st : IState) (silent : Bool) : SRes :=
  match CodePair.run CodePair.Variant.current '`' st.src st.pos st.posMax false silent st.backticks with
  | .error e => .error (RPanic.ofCode e)
  | .ok (none, c) => .ok (none, { st with backticks := c })
  | .ok (some o, c) =>
    match o.node with
    | none => .ok (some o.len, { st with backticks := c })
    | some nd =>
      match st.getMap nd.rangeStart nd.rangeEnd with
      | .error e => .error e
      | .ok r =>
        match st.getMap nd.innerStart nd.innerEnd with
        | .error e => .error e
        | .ok ri =>
          let node : Node :=
            { val := .codeInline '`' nd.markerLen, range := some r,
              children := [Node.newText nd.content (some ri)] }
          .ok (some o.len, { st with backticks := c, children := st.children ++ [node] })

/-! ## autolinks -/

/-- `[a-zA-Z0-9+.\-]` -/
def isSchemeChar (c : Char) : Bool := Entity.isAlnum c || c == '+' || c == '.' || c == '-'

/-- `[^<>\x00-\x20]` -/
def isAutolinkBody (c : Char) : Bool := !(c == '<' || c == '>' || c.toNat ≤ 0x20)

/-- `AUTOLINK_RE = ^([a-zA-Z][a-zA-Z0-9+.\-]{1,31}):([^<>\x00-\x20]*)$` (`is_match`).
    `:` is not in the scheme class, so the bounded repetition matches iff the MAXIMAL run of scheme
    characters behind the first letter has length 1..31 and is followed by `:` (no backtracking
    alternative exists); `$` is the end of the haystack. -/
def matchAutolinkRe : List Char → Bool
  | [] => false
  | c :: r =>
    Entity.isAlpha c &&
    (let run := (Entity.splitRun isSchemeChar r).1
     decide (1 ≤ run.length) && decide (run.length ≤ 31) &&
     match (Entity.splitRun isSchemeChar r).2 with
     | ':' :: tail => tail.all isAutolinkBody
     | _ => false)

/-- ``[a-zA-Z0-9.!#$%&'*+/=?^_`{|}~-]`` -/
def isEmailLocal (c : Char) : Bool :=
  Entity.isAlnum c ||
  ['.', '!', '#', '$', '%', '&', '\'', '*', '+', '/', '=', '?', '^', '_', '`', '{', '|', '}', '~', '-'].contains c

/-- `[a-zA-Z0-9-]` -/
def isLabelChar (c : Char) : Bool := Entity.isAlnum c || c == '-'

/-- `[a-zA-Z0-9](?:[a-zA-Z0-9-]{0,61}[a-zA-Z0-9])?` against a WHOLE dot-free piece: 1..63
    characters of the label class, the first and the last alphanumeric -/
def validLabel (l : List Char) : Bool :=
  decide (1 ≤ l.length) && decide (l.length ≤ 63) && l.all isLabelChar &&
  (match l.head? with | some c => Entity.isAlnum c | none => false) &&
  (match l.getLast? with | some c => Entity.isAlnum c | none => false)

/-- split at every `.` (`"a..b"` ↦ `["a", "", "b"]`, `""` ↦ `[""]`) -/
def splitDots : List Char → List (List Char)
  | [] => [[]]
  | c :: r =>
    if c = '.' then [] :: splitDots r
    else
      match splitDots r with
      | [] => [[c]]
      | p :: ps => (c :: p) :: ps

/-- `EMAIL_RE = ^(local+@label(\.label)*)$` (`is_match`): `@` is not in the local class and `.` not in
    the label class, so the local part is the maximal run of local characters, and the domain must
    split at its dots into valid labels. -/
def matchEmailRe (s : List Char) : Bool :=
  decide (1 ≤ (Entity.splitRun isEmailLocal s).1.length) &&
  match (Entity.splitRun isEmailLocal s).2 with
  | '@' :: dom => (splitDots dom).all validLabel
  | _ => false

/-- the scan `loop { match chars.next() { Some('<') | None => return None, Some('>') => break,
    Some(x) => pos += x.len_utf8() } }`: `none` = `return None`, `some pos` = position behind `>` -/
def autolinkScan : List Char → Nat → Option Nat
  | [], _ => none
  | c :: r, pos =>
    if c = '<' then none
    else if c = '>' then some pos
    else autolinkScan r (pos + c.utf8Size)

/-- `AutolinkScanner::run` -/
def ruleAutolink (st : IState) (silent : Bool) : SRes :=
  match st.window with
  | .error e => .error e
  | .ok [] => .error .unwrap
  | .ok (c :: rest) =>
    if c ≠ '<' then .ok (none, st)
    else
      match autolinkScan rest (st.pos + 2) with
      | none => .ok (none, st)
      | some pos =>
        -- `&state.src[state.pos+1..pos-1]`  (`pos ≥ state.pos + 2`)
        match liftOps (slice st.src (st.pos + 1) (pos - 1)) with
        | .error e => .error e
        | .ok url =>
          let isAutolink := matchAutolinkRe url
          let isEmail := matchEmailRe url
          if !isAutolink && !isEmail then .ok (none, st)
          else
            -- `normalize_link`, then `validate_link`
            match Link.autolinkDest isAutolink url with
            | none => .ok (none, st)
            | some fullUrl =>
              if silent then .ok (some (pos - st.pos), st)
              else
                -- `normalize_link_text` is the identity
                match st.getMap st.pos pos with
                | .error e => .error e
                | .ok r =>
                  match st.getMap (st.pos + 1) (pos - 1) with
                  | .error e => .error e
                  | .ok ri =>
                    let node : Node :=
                      { val := .autolink fullUrl, range := some r,
                        children := [Node.newText url (some ri)] }
                    .ok (some (pos - st.pos), st.push node)

/-! ## emphasis-like pairs -/

/-- `DelimiterRun` -/
structure DelimRun where
  marker : Char
  canOpen : Bool
  canClose : Bool
  length : Nat
  deriving Repr, DecidableEq

/-- `InlineState::scan_delims(start, can_split_word)` -/
def scanDelims (cfg : Cfg) (src : List Char) (posMax start : Nat) (canSplitWord : Bool) :
    Except RPanic DelimRun :=
  -- `self.src[..start].chars().next_back().unwrap()` / `' '`
  let lastCharE : Except RPanic Char :=
    if start > 0 then
      match liftOps (slice src 0 start) with
      | .error e => .error e
      | .ok pre =>
        match pre.getLast? with
        | none => .error .unwrap
        | some c => .ok c
    else .ok ' '
  match lastCharE with
  | .error e => .error e
  | .ok lastChar =>
    match liftOps (slice src start posMax) with
    | .error e => .error e
    | .ok [] => .error .unwrap
    | .ok (marker :: rest) =>
      let count := 1 + CodePair.runLen marker rest
      let nextChar : Char :=
        match rest.drop (CodePair.runLen marker rest) with
        | [] => ' '
        | x :: _ => x
      let isLastPunct := Entity.isAsciiPunct lastChar || cfg.isPunctChar lastChar
      let isNextPunct := Entity.isAsciiPunct nextChar || cfg.isPunctChar nextChar
      let isLastWhite := cfg.isWhite lastChar
      let isNextWhite := cfg.isWhite nextChar
      let leftFlanking :=
        if isNextWhite then false
        else if isNextPunct then (isLastWhite || isLastPunct)
        else true
      let rightFlanking :=
        if isLastWhite then false
        else if isLastPunct then (isNextWhite || isNextPunct)
        else true
      let canOpen := if !canSplitWord then leftFlanking && (!rightFlanking || isLastPunct) else leftFlanking
      let canClose := if !canSplitWord then rightFlanking && (!leftFlanking || isNextPunct) else rightFlanking
      .ok { marker := marker, canOpen := canOpen, canClose := canClose, length := count }

/-- the fields of an `EmphMarker` value -/
structure Marker where
  marker : Char
  length : Nat
  remaining : Nat
  open_ : Bool
  close : Bool
  deriving Repr, DecidableEq

def Marker.toVal (m : Marker) : Val := .emphMarker m.marker m.length m.remaining m.open_ m.close

/-- `node.cast::<EmphMarker>()` -/
def Node.asMarker (n : Node) : Option Marker :=
  match n.val with
  | .emphMarker m l r o c => some ⟨m, l, r, o, c⟩
  | _ => none

/-- `is_odd_match(opener, closer)` -/
def isOddMatch (opener closer : Marker) : Bool :=
  (opener.close || closer.open_) &&
  ((opener.length + closer.length) % 3 == 0) &&
  (opener.length % 3 != 0 || closer.length % 3 != 0)

/-- `for marker_len in (1..=max_marker_len).rev() { if let Some(f) = fns[marker_len-1] { .. break } }`
    (`max_marker_len ≤ 3`, so the index is within the array) -/
def pickLen (fns : Nat → Option Wrap) : Nat → Option (Nat × Wrap)
  | 0 => none
  | n + 1 =>
    match fns n with
    | some w => some (n + 1, w)
    | none => pickLen fns n

mutual
/-- `node.env.get::<EmphDepth>()` (0 when absent): nodes made by `scan_and_match_delimiters` store
    1 + the deepest value among the children they received, nothing else stores one, and the children
    of such a node never change afterwards — so the stored value is this function of the node -/
def wrapDepth : Node → Nat
  | ⟨v, _, cs⟩ =>
    match v with
    | .wrap _ _ => wrapDepthList cs + 1
    | _ => 0
/-- deepest `EmphDepth` among a list of siblings -/
def wrapDepthList : List Node → Nat
  | [] => 0
  | c :: cs => max (wrapDepth c) (wrapDepthList cs)
end

/-- state of the delimiter matching while one closer is processed -/
structure MatchSt where
  closer : Marker
  /-- `closer_token.srcmap` -/
  closerRange : Option (Nat × Nat)
  children : List Node
  newMin : Nat
  /-- `inner_depth`: deepest emphasis nesting among the nodes after `idx` -/
  innerDepth : Nat := 0

/-- the inner `while closer.remaining > 0 && opener.remaining > 0 { .. }` for the opener at `idx`;
    returns the opener value afterwards and the matching state.  `fuel` is `closer.remaining`
    (each iteration takes at least one marker off it). -/
def matchInner (fns : Nat → Option Wrap) (mk : Char) (room : Nat) (idx : Nat) :
    Nat → Marker → MatchSt → Except RPanic (Marker × MatchSt)
  | 0, opener, ms => .ok (opener, ms)
  | fuel + 1, opener, ms =>
    if ms.closer.remaining > 0 ∧ opener.remaining > 0 then
      -- `if state.level + inner_depth >= state.md.max_nesting { break; }` (`room` = `max_nesting - level`)
      if ms.innerDepth ≥ room then .ok (opener, ms) else
      let maxLen := min 3 (min opener.remaining ms.closer.remaining)
      match pickLen fns maxLen with
      | none => .ok (opener, ms)          -- `break`
      | some (ml, w) =>
        -- `closer.remaining -= marker_len; opener.remaining -= marker_len;` (`ml ≤ max_marker_len`)
        if ms.closer.remaining < ml ∨ opener.remaining < ml then .error .underflow
        else
          let closer' := { ms.closer with remaining := ms.closer.remaining - ml }
          let opener' := { opener with remaining := opener.remaining - ml }
          -- `new_token.children = state.node.children.split_off(idx + 1)`
          if ms.children.length < idx + 1 then .error .slice
          else
            let tail := ms.children.drop (idx + 1)
            let head := ms.children.take (idx + 1)
            -- cut `marker_len` chars from the start of the closer's range
            let (closerRange', endMapPos) :=
              match ms.closerRange with
              | some (s, e) => (some (s + ml, e), s + ml)
              | none => (none, 0)
            -- `state.node.children.last_mut().unwrap()`: cut `marker_len` chars from its end
            match popLast head with
            | none => .error .unwrap
            | some (init, otok) =>
              let cut : Except RPanic (Node × Nat) :=
                match otok.range with
                | some (s, e) =>
                  if e < ml then .error .underflow
                  else .ok ({ otok with range := some (s, e - ml) }, e - ml)
                | none => .ok (otok, 0)
              match cut with
              | .error e => .error e
              | .ok (otok', startMapPos) =>
                let newTok : Node :=
                  { val := .wrap w mk, range := some (startMapPos, endMapPos), children := tail }
                -- `if opener.remaining == 0 { state.node.children.pop(); }`, then `push(new_token)`
                let kept := if opener'.remaining = 0 then init else init ++ [otok']
                -- `inner_depth += 1; new_token.env.insert(EmphDepth(inner_depth));`
                matchInner fns mk room idx fuel opener'
                  { closer := closer', closerRange := closerRange', children := kept ++ [newTok],
                    newMin := 0, innerDepth := ms.innerDepth + 1 }
    else .ok (opener, ms)

/-- `state.node.children[idx].replace(opener)` -/
def replaceAt (cs : List Node) (idx : Nat) (m : Marker) : Except RPanic (List Node) :=
  match cs[idx]? with
  | none => .error .index
  | some n => .ok (cs.set idx { n with val := m.toVal })

/-- the outer `while idx > min_opener_idx { idx -= 1; .. }`; `k` is `idx - min_opener_idx` -/
def matchOuter (fns : Nat → Option Wrap) (mk : Char) (room : Nat) (minIdx : Nat) :
    Nat → MatchSt → Except RPanic MatchSt
  | 0, ms => .ok ms
  | k + 1, ms0 =>
    -- `idx -= 1`
    let idx := minIdx + k
    -- `state.node.children[idx + 1].env.get::<EmphDepth>()` → `inner_depth = max(inner_depth, ..)`
    match ms0.children[idx + 1]? with
    | none => .error .index
    | some nxt =>
    let ms := { ms0 with innerDepth := max ms0.innerDepth (wrapDepth nxt) }
    match ms.children[idx]? with
    | none => .error .index
    | some tok =>
      match tok.asMarker with
      | none => matchOuter fns mk room minIdx k ms
      | some opener =>
        let go : Except RPanic (Marker × MatchSt) :=
          if opener.open_ && opener.marker == ms.closer.marker && !isOddMatch opener ms.closer then
            matchInner fns mk room idx ms.closer.remaining opener ms
          else .ok (opener, ms)
        match go with
        | .error e => .error e
        | .ok (opener', ms') =>
          if opener'.remaining > 0 then
            match replaceAt ms'.children idx opener' with
            | .error e => .error e
            | .ok cs => matchOuter fns mk room minIdx k { ms' with children := cs }
          else matchOuter fns mk room minIdx k ms'

/-- `OpenersBottom::<MARKER>::default()` -/
def bottomsDefault : List Nat := [0, 0, 0, 0, 0, 0]

/-- `state.node.env.get_or_insert_default::<OpenersBottom<MARKER>>()` (read) -/
def bottomsGet (b : List (Char × List Nat)) (mk : Char) : List Nat :=
  match b.lookup mk with
  | some l => l
  | none => bottomsDefault

/-- `openers_for_marker.0[i] = v` -/
def bottomsSet (b : List (Char × List Nat)) (mk : Char) (i v : Nat) : List (Char × List Nat) :=
  (mk, (bottomsGet b mk).set i v) :: b.filter (fun e => e.1 != mk)

/-- `scan_and_match_delimiters::<MARKER>(state)` on `(children, bottoms)` -/
def scanAndMatch (fns : Nat → Option Wrap) (mk : Char) (room : Nat) (children : List Node)
    (bottoms : List (Char × List Nat)) : Except RPanic (List Node × List (Char × List Nat)) :=
  if children.length = 1 then .ok (children, bottoms)
  else
    match popLast children with
    | none => .error .unwrap
    | some (init, closerTok) =>
      match closerTok.asMarker with
      | none => .error .unwrap
      | some closer =>
        let param := (if closer.open_ then 1 else 0) * 3 + closer.length % 3
        match (bottomsGet bottoms mk)[param]? with
        | none => .error .index
        | some minIdx =>
          -- `let mut idx = state.node.children.len() - 1;`
          if init.length = 0 then .error .underflow
          else
            let idx := init.length - 1
            match matchOuter fns mk room minIdx (idx - minIdx)
                { closer := closer, closerRange := closerTok.range, children := init, newMin := idx } with
            | .error e => .error e
            | .ok ms =>
              let bottoms' :=
                if ms.newMin ≠ 0 then bottomsSet bottoms mk param ms.newMin else bottoms
              if ms.closer.remaining > 0 then
                .ok (ms.children ++ [{ closerTok with val := ms.closer.toVal, range := ms.closerRange }],
                     bottoms')
              else .ok (ms.children, bottoms')

/-- `EmphPairScanner<MARKER, CAN_SPLIT_WORD>::run` -/
def ruleEmph (cfg : Cfg) (mk : Char) (canSplitWord : Bool) (st : IState) (silent : Bool) : SRes :=
  if silent then .ok (none, st)
  else
    match st.window with
    | .error e => .error e
    | .ok [] => .error .unwrap
    | .ok (c :: _) =>
      if c ≠ mk then .ok (none, st)
      else
        match scanDelims cfg st.src st.posMax st.pos canSplitWord with
        | .error e => .error e
        | .ok scanned =>
          match st.getMap st.pos (st.pos + scanned.length) with
          | .error e => .error e
          | .ok r =>
            let node : Node :=
              Node.leaf (.emphMarker mk scanned.length scanned.length scanned.canOpen scanned.canClose)
                (some r)
            let st1 := st.push node
            if scanned.canClose then
              match scanAndMatch (cfg.fns mk) mk (cfg.maxNesting - st1.level) st1.children st1.bottoms with
              | .error e => .error e
              | .ok (cs, b) => .ok (some scanned.length, { st1 with children := cs, bottoms := b })
            else .ok (some scanned.length, st1)

/-! ## links and images (`full_link.rs`) -/

/-- `ParseLinkResult` -/
structure LinkRes where
  labelStart : Nat
  labelEnd : Nat
  href : Option (List Nat)
  title : Option (List Char)
  endPos : Nat
  deriving Repr, DecidableEq

/-- the `while let Some(ch) = state.src[state.pos..state.pos_max].chars().next()` loop of
    `parse_link_label`; `skip` is `state.md.inline.skip_token`, `level` the bracket depth.
    Result: `some none` = the early `return None` (position already restored by the caller below),
    otherwise `found` with the state whose `pos` is where the loop stopped. -/
def labelLoop (skip : IState → Except Panic IState) (enableNested : Bool) :
    Nat → Int → IState → Except Panic (Option Bool × IState)
  | 0, _, _ => .error .fuel
  | fuel + 1, level, st =>
    match liftR st.window with
    | .error e => .error e
    | .ok [] => .ok (some false, st)
    | .ok (ch :: _) =>
      if ch = ']' ∧ level - 1 = 0 then .ok (some true, st)
      else
        let level := if ch = ']' then level - 1 else level
        let prevPos := st.pos
        match skip st with
        | .error e => .error e
        | .ok st' =>
          if ch = '[' then
            -- `prev_pos == state.pos - 1`
            if st'.pos = 0 then .error (.rust .underflow)
            else if prevPos = st'.pos - 1 then labelLoop skip enableNested fuel (level + 1) st'
            else if !enableNested then .ok (none, st')
            else labelLoop skip enableNested fuel level st'
          else labelLoop skip enableNested fuel level st'

/-- `parse_link_label(state, start, enable_nested)`: the label end, `state.pos` restored -/
def parseLinkLabel (skip : IState → Except Panic IState) (fuel : Nat) (st : IState) (start : Nat)
    (enableNested : Bool) : Except Panic (Option Nat × IState) :=
  let oldPos := st.pos
  match labelLoop skip enableNested fuel 1 { st with pos := start + 1 } with
  | .error e => .error e
  | .ok (none, st') => .ok (none, { st' with pos := oldPos })
  | .ok (some found, st') =>
    .ok (if found then some st'.pos else none, { st' with pos := oldPos })

/-- the "Link reference" part of `parse_link` (behind the inline form) -/
def parseLinkRef (cfg : Cfg) (skip : IState → Except Panic IState) (fuel : Nat) (st : IState)
    (labelStart labelEnd : Nat) : Except Panic (Option LinkRes × IState) :=
  match liftR (liftOps (slice st.src (labelEnd + 1) st.posMax)) with
  | .error e => .error e
  | .ok w =>
    -- `maybe_label`, `pos`
    let second : Except Panic (Option (List Char) × Nat × IState) :=
      match w with
      | '[' :: _ =>
        match parseLinkLabel skip fuel st (labelEnd + 1) false with
        | .error e => .error e
        | .ok (some x, st') =>
          match liftR (liftOps (slice st.src (labelEnd + 1 + 1) x)) with
          | .error e => .error e
          | .ok l => .ok (some l, x + 1, st')
        | .ok (none, st') => .ok (none, labelEnd + 1, st')
      | _ => .ok (none, labelEnd + 1, st)
    match second with
    | .error e => .error e
    | .ok (maybeLabel, pos, st') =>
      match cfg.refs with
      | none => .ok (none, st')
      | some refs =>
        let labelE : Except Panic (List Char) :=
          match maybeLabel with
          | none => liftR (liftOps (slice st.src labelStart labelEnd))
          | some [] => liftR (liftOps (slice st.src labelStart labelEnd))
          | some l => .ok l
        match labelE with
        | .error e => .error e
        | .ok label =>
          match Refs.lookup cfg.normRef refs (label.map Char.toNat) with
          | none => .ok (none, st')
          | some r =>
            .ok (some { labelStart := labelStart, labelEnd := labelEnd, href := some r.dest,
                        title := r.title.map (fun t => t.map Char.ofNat), endPos := pos }, st')

/-- `parse_link(state, pos, enable_nested)`; the inline form `(<dest> "title")` is
    `Link.parseInlineTail` with `unescape_all` as the decoder -/
def parseLink (cfg : Cfg) (skip : IState → Except Panic IState) (fuel : Nat) (st : IState)
    (pos : Nat) (enableNested : Bool) : Except Panic (Option LinkRes × IState) :=
  match parseLinkLabel skip fuel st pos enableNested with
  | .error e => .error e
  | .ok (none, st1) => .ok (none, st1)
  | .ok (some labelEnd, st1) =>
    let labelStart := pos + 1
    match Link.parseInlineTail (Entity.unescapeAll cfg.entity) st1.src (labelEnd + 1) st1.posMax with
    | .error e => .error (.rust (RPanic.ofLink e))
    | .ok (some il) =>
      .ok (some { labelStart := labelStart, labelEnd := labelEnd, href := il.href, title := il.title,
                  endPos := il.endPos }, st1)
    | .ok none => parseLinkRef cfg skip fuel st1 labelStart labelEnd

/-- `rule(state, silent, enable_nested, offset, f)`; `mk href title` is the value `f` makes
    (`Link` / `Image` with `url = href.unwrap_or_default()`); `tok` is `state.md.inline.tokenize` -/
def linkRule (cfg : Cfg) (skip tok : IState → Except Panic IState) (fuel : Nat)
    (mk : List Nat → Option (List Char) → Val) (enableNested : Bool) (offset : Nat)
    (st : IState) (silent : Bool) : RuleRes :=
  let start := st.pos
  match parseLink cfg skip fuel st (st.pos + offset) enableNested with
  | .error e => .error e
  | .ok (none, st1) => .ok (none, st1)
  | .ok (some res, st1) =>
    if silent then
      -- `Some(result.end - state.pos)`
      if res.endPos < st1.pos then .error (.rust .underflow) else .ok (some (res.endPos - st1.pos), st1)
    else
      -- `mem::replace(&mut state.node, f(..))`: fresh children, fresh env
      let max := st1.posMax
      let st2 : IState :=
        { st1 with children := [], bottoms := [], linkLevel := st1.linkLevel + 1,
                   level := st1.level + 1, pos := res.labelStart, posMax := res.labelEnd }
      match tok st2 with
      | .error e => .error e
      | .ok st3 =>
        -- `state.level -= 1`
        if st3.level = 0 then .error (.rust .underflow)
        else
          match liftR (st3.getMap start res.endPos) with
          | .error e => .error e
          | .ok r =>
            let node : Node :=
              { val := mk (res.href.getD []) res.title, range := some r, children := st3.children }
            let st4 : IState :=
              { st3 with level := st3.level - 1, posMax := max, children := st1.children ++ [node],
                         bottoms := st1.bottoms, linkLevel := st3.linkLevel - 1 }
            if res.endPos < st4.pos then .error (.rust .underflow)
            else .ok (some (res.endPos - st4.pos), st4)

/-- `LinkScanner<false>::run` -/
def ruleLink (cfg : Cfg) (skip tok : IState → Except Panic IState) (fuel : Nat)
    (st : IState) (silent : Bool) : RuleRes :=
  match liftR st.window with
  | .error e => .error e
  | .ok [] => .error (.rust .unwrap)
  | .ok (c :: _) =>
    if c ≠ '[' then .ok (none, st)
    else linkRule cfg skip tok fuel Val.link false 0 st silent

/-- `LinkPrefixScanner<'!', true>::run` -/
def ruleImage (cfg : Cfg) (skip tok : IState → Except Panic IState) (fuel : Nat)
    (st : IState) (silent : Bool) : RuleRes :=
  match liftR st.window with
  | .error e => .error e
  | .ok ('!' :: '[' :: _) => linkRule cfg skip tok fuel Val.image true 1 st silent
  | .ok _ => .ok (none, st)

/-- one rule of the chain -/
def runRule (cfg : Cfg) (skip tok : IState → Except Panic IState) (fuel : Nat) (id : RuleId)
    (st : IState) (silent : Bool) : RuleRes :=
  match id with
  | .text => liftR (ruleText st silent)
  | .newline => liftR (ruleNewline st silent)
  | .escape => liftR (ruleEscape st silent)
  | .backticks => liftR (ruleBackticks st silent)
  | .emph mk csw => liftR (ruleEmph cfg mk csw st silent)
  | .link => ruleLink cfg skip tok fuel st silent
  | .image => ruleImage cfg skip tok fuel st silent
  | .linkEnd => .ok (none, st)
  | .autolink => liftR (ruleAutolink st silent)
  | .entity => liftR (ruleEntity cfg st silent)

/-- `for rule in self.ruler.iter() { ok = rule(..); if ok.is_some() { break; } }` -/
def firstRule (run : RuleId → IState → RuleRes) : List RuleId → IState → RuleRes
  | [], st => .ok (none, st)
  | r :: rs, st =>
    match run r st with
    | .error e => .error e
    | .ok (some n, st') => .ok (some n, st')
    | .ok (none, st') => firstRule run rs st'

/-- `state.level += 1; ok = rule(state, true); state.level -= 1;` -/
def silentBumped (run : IState → Bool → RuleRes) (st : IState) : RuleRes :=
  match run { st with level := st.level + 1 } true with
  | .error e => .error e
  | .ok (r, st') =>
    if st'.level = 0 then .error (.rust .underflow) else .ok (r, { st' with level := st'.level - 1 })

/-- `state.cache.insert(k, v)` -/
def cacheInsert (c : List (Nat × Nat)) (k v : Nat) : List (Nat × Nat) := (k, v) :: c

/-- the fall-back of both loops: `state.src[state.pos..state.pos_max].chars().next().unwrap()` -/
def firstChar (st : IState) : Except Panic Char :=
  match liftR st.window with
  | .error e => .error e
  | .ok [] => .error (.rust .unwrap)
  | .ok (c :: _) => .ok c

/-- ONE iteration of the `while state.pos < end` loop of `InlineParser::tokenize` (entered with
    `state.pos < end`): the chain in real mode below the nesting limit, `state.pos += len` on
    success, otherwise one character goes to the pending text.  `skip` / `tok` are
    `skip_token` / `tokenize` as the rules see them. -/
def tokStep (cfg : Cfg) (skip tok : IState → Except Panic IState) (fuel : Nat) (st : IState) :
    Except Panic IState :=
  let ok : RuleRes :=
    if st.level < cfg.maxNesting then
      firstRule (fun id s => runRule cfg skip tok fuel id s false) cfg.chain st
    else .ok (none, st)
  match ok with
  | .error e => .error e
  | .ok (some len, st') => .ok { st' with pos := st'.pos + len }
  | .ok (none, st') =>
    match firstChar st' with
    | .error e => .error e
    | .ok ch =>
      match liftR (st'.pushText st'.pos (st'.pos + ch.utf8Size)) with
      | .error e => .error e
      | .ok st'' => .ok { st'' with pos := st''.pos + ch.utf8Size }

/-- the body of `skip_token` behind the memo lookup and the level guard: the chain in silent mode
    (each rule between `level += 1` / `level -= 1`), `state.pos += len` or one character, then
    `state.cache.insert(pos, state.pos)` -/
def skipStep (cfg : Cfg) (skip tok : IState → Except Panic IState) (fuel : Nat) (st : IState) :
    Except Panic IState :=
  let pos := st.pos
  match firstRule (fun id s => silentBumped (runRule cfg skip tok fuel id) s) cfg.chain st with
  | .error e => .error e
  | .ok (some len, st') =>
    .ok { st' with pos := st'.pos + len, cache := cacheInsert st'.cache pos (st'.pos + len) }
  | .ok (none, st') =>
    match firstChar st' with
    | .error e => .error e
    | .ok ch =>
      .ok { st' with pos := st'.pos + ch.utf8Size,
                     cache := cacheInsert st'.cache pos (st'.pos + ch.utf8Size) }

mutual
/-- `InlineParser::tokenize`: the `while state.pos < end` loop (`end_` = `pos_max` at entry).
    (`if state.pos >= end { break; }` behind a successful rule is the loop test taken early.) -/
def tokLoop (cfg : Cfg) : Nat → Nat → IState → Except Panic IState
  | fuel, end_, st =>
    if st.pos < end_ then
      match fuel with
      | 0 => .error .fuel
      | fuel + 1 =>
        match tokStep cfg (fun s => skipToken cfg fuel s) (fun s => tokLoop cfg fuel s.posMax s) fuel st with
        | .error e => .error e
        | .ok st' => tokLoop cfg fuel end_ st'
    else .ok st
/-- `InlineParser::skip_token` -/
def skipToken (cfg : Cfg) : Nat → IState → Except Panic IState
  | 0, _ => .error .fuel
  | fuel + 1, st =>
    match st.cache.lookup st.pos with
    | some x => .ok { st with pos := x }
    | none =>
      if st.level < cfg.maxNesting then
        skipStep cfg (fun s => skipToken cfg fuel s) (fun s => tokLoop cfg fuel s.posMax s) fuel st
      else
        -- Too much nesting, just skip until the end of the paragraph.
        .ok { st with pos := st.posMax, cache := cacheInsert st.cache st.pos st.posMax }
end

/-- `InlineParser::tokenize(state)` -/
def tokenize (cfg : Cfg) (fuel : Nat) (st : IState) : Except Panic IState :=
  tokLoop cfg fuel st.posMax st

/-- the rule runner both loops use at a given fuel -/
def ruleAt (cfg : Cfg) (fuel : Nat) (id : RuleId) (st : IState) (silent : Bool) : RuleRes :=
  runRule cfg (fun s => skipToken cfg fuel s) (fun s => tokLoop cfg fuel s.posMax s) fuel id st silent

/-! ## the post pass: `fragments_join` / `FragmentsJoin::run` on the rich node type
    (same code as `MdIt.Join`, structural version of pass 2; `Lemmas/InlineJoin.lean`:
    `hd_eraseList_fragmentsJoinN`, `allNF_joinAllN`) -/

/-- pass 1 on one token: `token.replace(Text { content: marker.repeat(remaining) })` -/
def markerToText (n : Node) : Node :=
  match n.val with
  | .emphMarker m _ rem _ _ => { n with val := .text (Join.markerText m rem) }
  | _ => n

def pass1 (cs : List Node) : List Node := cs.map markerToText

/-- `token2` with its content taken -/
def emptied (t2 : Node) : Node := { t2 with val := .text [] }

/-- `token1` with the content appended and the srcmap adjusted -/
def merged (t1 t2 : Node) : Node :=
  { t1 with
    val := .text (t1.content ++ t2.content)
    range :=
      match t1.range, t2.range with
      | some (a, _), some (_, d) => some (a, d)
      | r, _ => r }

/-- pass 2 (see `Join.mergeLoop`) -/
def mergeLoop (cur : Node) : List Node → List Node
  | [] => [cur]
  | nxt :: rest =>
    if cur.isText && nxt.isText then emptied nxt :: mergeLoop (merged cur nxt) rest
    else cur :: mergeLoop nxt rest

def mergeAll : List Node → List Node
  | [] => []
  | c :: rest => mergeLoop c rest

/-- the `retain` predicate -/
def keep (n : Node) : Bool := !(n.isText && n.content.isEmpty)

/-- `fragments_join` on the child vector -/
def fragmentsJoinN (cs : List Node) : List Node := (mergeAll (pass1 cs)).filter keep

mutual
def nsize : Node → Nat
  | ⟨_, _, cs⟩ => 1 + nsizeList cs
def nsizeList : List Node → Nat
  | [] => 0
  | c :: cs => nsize c + nsizeList cs
end

theorem nsize_eq (n : Node) : nsize n = 1 + nsizeList n.children := by
  cases n; simp [nsize]

theorem nsizeList_pass1 (cs : List Node) : nsizeList (pass1 cs) = nsizeList cs := by
  induction cs with
  | nil => simp [pass1, nsizeList]
  | cons c cs ih =>
    have : nsize (markerToText c) = nsize c := by
      rw [nsize_eq, nsize_eq]; unfold markerToText; split <;> rfl
    simp only [pass1, List.map_cons, nsizeList] at ih ⊢
    rw [this, ih]

theorem nsizeList_mergeLoop (cur : Node) (rest : List Node) :
    nsizeList (mergeLoop cur rest) = nsize cur + nsizeList rest := by
  induction rest generalizing cur with
  | nil => simp [mergeLoop, nsizeList]
  | cons nxt rest ih =>
    have e1 : nsize (emptied nxt) = nsize nxt := by rw [nsize_eq, nsize_eq]; rfl
    have e2 : nsize (merged cur nxt) = nsize cur := by rw [nsize_eq, nsize_eq]; rfl
    simp only [mergeLoop]
    split
    · simp only [nsizeList, ih, e1, e2]; omega
    · simp only [nsizeList, ih]

theorem nsizeList_filter_le (p : Node → Bool) (l : List Node) :
    nsizeList (l.filter p) ≤ nsizeList l := by
  induction l with
  | nil => simp [nsizeList]
  | cons c l ih =>
    simp only [List.filter_cons]
    split <;> simp only [nsizeList] <;> omega

theorem nsizeList_fragmentsJoinN_le (cs : List Node) : nsizeList (fragmentsJoinN cs) ≤ nsizeList cs := by
  unfold fragmentsJoinN
  refine Nat.le_trans (nsizeList_filter_le _ _) ?_
  rw [← nsizeList_pass1 cs]
  cases pass1 cs with
  | nil => simp [mergeAll]
  | cons c r => simp [mergeAll, nsizeList_mergeLoop, nsizeList]

mutual
/-- `walk_mut(fragments_join)`: the callback first, then the children it left -/
def joinNodeN (n : Node) : Node :=
  { n with children := joinListN (fragmentsJoinN n.children) }
termination_by 2 * nsize n
decreasing_by
  have := nsizeList_fragmentsJoinN_le n.children
  rw [nsize_eq]; omega
def joinListN : List Node → List Node
  | [] => []
  | c :: cs => joinNodeN c :: joinListN cs
termination_by l => 2 * nsizeList l + 1
decreasing_by
  · simp only [nsizeList]; omega
  · have := nsize_eq c
    simp only [nsizeList]; omega
end

/-- `FragmentsJoin::run(node, md)` -/
def joinAllN (root : Node) : Node := joinNodeN root

/-! ## `InlineParser::parse` and the post pass -/

/-- is an `emph_pair` rule configured (then `FragmentsJoin` is in the core chain) -/
def RuleId.isEmph : RuleId → Bool
  | .emph _ _ => true
  | _ => false

def Cfg.hasEmph (cfg : Cfg) : Bool := cfg.chain.any RuleId.isEmph

/-- fuel handed to the top-level `tokenize` (`Props/Inline.lean`: `fuel_suffices`) -/
def topFuel (cfg : Cfg) (src : List Char) : Nat := (byteLen src + 2) * (cfg.maxNesting + 2)

/-- `md.inline.parse(content, mapping, Node::default(), md, env).children` -/
def parseInline (cfg : Cfg) (content : List Char) (mapping : Srcmap) : Except Panic (List Node) :=
  match tokenize cfg (topFuel cfg content) (IState.init content mapping) with
  | .error e => .error e
  | .ok st => .ok st.children

/-- the root the children hang under while `FragmentsJoin::run` walks (`Node::default()`; any
    non-text value does) -/
def rootOf (children : List Node) : Node := { val := .softbreak, range := none, children := children }

/-- the core chain behind the inline parser: `FragmentsJoin` when an emphasis-like rule is there -/
def finish (cfg : Cfg) (children : List Node) : List Node :=
  if cfg.hasEmph then (joinAllN (rootOf children)).children else children

/-- inline parse + post pass -/
def parseFinish (cfg : Cfg) (content : List Char) (mapping : Srcmap) : Except Panic (List Node) :=
  match parseInline cfg content mapping with
  | .error e => .error e
  | .ok cs => .ok (finish cfg cs)

end MdIt.Inline
