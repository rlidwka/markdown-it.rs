/-
  Model of the BLOCK-level parser for html-free configurations:

    * `src/parser/block/mod.rs`    `BlockParser::tokenize` (level guard, progress `assert!`, the
                                    no-paragraph fallback, `tight` / `has_empty_lines`), `parse`
    * `src/parser/block/state.rs`  `BlockState` (`BState`), `test_rules_at_line`
    * `src/plugins/cmark/block/`   paragraph, heading, lheading, hr, code, fence, blockquote, list
                                    (`mark_tight_paragraphs`, marker parsers, empty-item workaround),
                                    reference

  The line table and the indentation helpers are those of `MdIt.Model.Lines`, destination / title
  parsing and `normalize_link` / `validate_link` those of `MdIt.Model.Link`, `unescape_all` is
  `Entity.unescapeAll` over the entity table `Cfg.lookup`, `normalize_reference` is `Refs.normalize`
  over the case tables `Cfg.L` / `Cfg.U` (all three tables are parameters; the driver supplies the
  generated ones).

  Shape.  Every rule is a function `… → BState → (silent : Bool) → Except Panic (Bool × BState)` that
  follows the Rust statement by statement; everything that can panic in the Rust (indexing, slicing,
  `unwrap`, unsigned subtraction, `debug_assert!` — the harness builds with debug assertions — and
  the `assert!` of the tokenizer) is a partial operation here.  The rules that call back into the
  parser take the two call-backs as PARAMETERS:

      tok  : Tok   = `state.md.block.tokenize(state)`      (nested tokenizer: blockquote, list item)
      test : Test  = `state.test_rules_at_line()`          (the chain in silent mode)

  `engine cfg fuel` ties the knot by structural recursion on `fuel`: at fuel `f + 1` the rules get
  `tok = tokenize cfg f`, `test = testRules cfg f`, and every loop that threads the state
  (`tokenize`'s `while`, the paragraph / blockquote / list scans) may run at most `f + 1` iterations.
  Running out of fuel is `Panic.fuel`; `parseBlocks` starts with
  `#lines + min max_nesting |src| + 8`, which is never exhausted (nesting depth ≤ `max_nesting + 1`
  and ≤ `|src| + 1`, every loop advances by a line per iteration): `parseBlocks_fuel`
  (`Lemmas/BlockTotalFuel.lean`).

  Integer widths as in `Lines`: `usize` = `Nat`, `i32` = `Int`.  `x as usize` for an `i32` is
  modelled exactly where it is cast straight back (`fence.rs`, `i32AsUsize`, undone by `usizeAsI32`
  in `get_lines`); in `list.rs` (`offsets.indent_nonspace as usize + pos_after_marker`) a negative
  value is the class `Panic.cast` (the Rust would wrap and then overflow or mis-indent; unreachable:
  the tokenizer only runs rules at lines with `line_indent ≥ 0`).
-/
import MdIt.Model.Lines
import MdIt.Model.Link
import MdIt.Model.Entity
import MdIt.Model.Refs

namespace MdIt.Block
open MdIt.Lines (LineOffset)

inductive Panic where
  | index     -- `line_offsets[i]`, `mapping[0]` out of range
  | slice     -- `&s[a..b]`
  | assert    -- `debug_assert!`
  | unwrap    -- `.unwrap()` on `None` / `Err`
  | sub       -- unsigned subtraction below zero
  | cast      -- negative `i32 as usize` in `list.rs` (see the header)
  | progress  -- `assert!(state.line > prev_line, "block rule didn't increment state.line")`
  | fuel      -- the model ran out of fuel (never happens from `parseBlocks`: `parseBlocks_fuel`)
  deriving Repr, DecidableEq

inductive RuleId where
  | code | fence | blockquote | hr | list | reference | heading | lheading | paragraph
  deriving Repr, DecidableEq

/-- node values of the block tree, with every payload field -/
inductive Kind where
  | root
  | paragraph
  | blockquote
  | bulletList (marker : Char)
  | orderedList (start : Nat) (marker : Char)
  | listItem
  | codeBlock (content : List Char)
  | codeFence (info : List Char) (marker : Char) (markerLen : Nat) (content : List Char)
  | hr (marker : Char) (len : Nat)
  | atx (level : Nat)
  | setext (level : Nat) (marker : Char)
  | inlineRoot (content : List Char) (mapping : List (Nat × Nat))
  deriving Repr, DecidableEq

/-- `Node`: value, `srcmap` (byte offsets), children -/
structure BNode where
  kind : Kind
  range : Option (Nat × Nat)
  children : List BNode
  deriving Repr

/-- `BlockState`, field by field; `state.node` is its kind + its children, `root_env` is the
    reference map (the only thing the shipped rules keep there) -/
structure BState where
  src : List Char
  offs : List LineOffset
  blkIndent : Nat
  line : Nat
  lineMax : Nat
  tight : Bool
  listIndent : Option Nat
  level : Nat
  nodeKind : Kind
  children : List BNode
  refs : Refs.RefMap

/-- what the rules read of `MarkdownIt` -/
structure Cfg where
  /-- `md.max_nesting` -/
  maxNesting : Nat
  /-- the effective (compiled) block chain -/
  chain : List RuleId
  /-- `get_entity_from_str` (entity table) -/
  lookup : List Char → Option (List Char)
  /-- `char::to_lowercase`, `char::to_uppercase` -/
  L : Nat → List Nat
  U : Nat → List Nat

abbrev Res := Except Panic (Bool × BState)
/-- `state.md.block.tokenize(state)` -/
abbrev Tok := BState → Except Panic BState
/-- `state.test_rules_at_line()` -/
abbrev Test := BState → Res

def liftL {α : Type} : Except Lines.Panic α → Except Panic α
  | .ok a => .ok a
  | .error .index => .error .index
  | .error .slice => .error .slice
  | .error .assert => .error .assert

def liftK {α : Type} : Except Link.Panic α → Except Panic α
  | .ok a => .ok a
  | .error .slice => .error .slice

/-- unsigned `a - b` -/
def psub (a b : Nat) : Except Panic Nat := if b ≤ a then .ok (a - b) else .error .sub

/-- `' ' | '\t'` -/
def isBlank (c : Char) : Bool := c = ' ' || c = '\t'

/-- `'0'..='9'` -/
def isDigit (c : Char) : Bool := 48 ≤ c.toNat && c.toNat ≤ 57

namespace BState

/-- `&state.line_offsets[line]` -/
def off (s : BState) (line : Nat) : Except Panic LineOffset :=
  match s.offs[line]? with
  | some o => .ok o
  | none => .error .index

/-- `state.line_offsets[line] = o` (or a field of it) -/
def setOff (s : BState) (line : Nat) (o : LineOffset) : Except Panic BState :=
  if line < s.offs.length then .ok { s with offs := s.offs.set line o } else .error .index

def lineIndent (s : BState) (line : Nat) : Except Panic Int :=
  liftL (Lines.lineIndent s.offs s.blkIndent line)

def getLine (s : BState) (line : Nat) : Except Panic (List Char) :=
  liftL (Lines.getLine s.src s.offs line)

def isEmpty (s : BState) (line : Nat) : Bool := Lines.isEmpty s.offs line

def getLines (s : BState) (begin_ end_ indent : Nat) (keep : Bool) :
    Except Panic (List Char × List (Nat × Nat)) :=
  liftL (Lines.getLines s.src s.offs begin_ end_ indent keep)

def getMap (s : BState) (startLine endLine : Nat) : Except Panic (Nat × Nat) :=
  liftL (Lines.getMap s.offs startLine endLine)

/-- `state.node.children.push(node)` -/
def push (s : BState) (n : BNode) : BState := { s with children := s.children ++ [n] }

/-- `BlockState::new(src, md, env, node)` with an empty `node` of kind `k` and reference map `refs` -/
def fresh (src : List Char) (k : Kind) (refs : Refs.RefMap) : BState :=
  let offs := Lines.splitLines src
  { src := src, offs := offs, blkIndent := 0, line := 0, lineMax := offs.length, tight := false,
    listIndent := none, level := 0, nodeKind := k, children := [], refs := refs }

end BState

/-! ## hr.rs -/

/-- `for ch in chars { if ch == marker { cnt += 1 } else if ch != ' ' && ch != '\t' { return false } }`;
    `none` = `return false` -/
def hrCount (marker : Char) : List Char → Nat → Option Nat
  | [], cnt => some cnt
  | c :: r, cnt =>
    if c = marker then hrCount marker r (cnt + 1)
    else if c ≠ ' ' ∧ c ≠ '\t' then none
    else hrCount marker r cnt

def hrRule (s : BState) (silent : Bool) : Res := do
  let ind ← s.lineIndent s.line
  if ind ≥ 4 then pure (false, s) else do
  let line ← s.getLine s.line
  match line with
  | [] => pure (false, s)
  | marker :: rest =>
    if ¬ (marker = '*' ∨ marker = '-' ∨ marker = '_') then pure (false, s) else
    match hrCount marker rest 1 with
    | none => pure (false, s)
    | some cnt =>
      if cnt < 3 then pure (false, s) else
      if silent then pure (true, s) else do
      let r ← s.getMap s.line s.line
      let s := s.push ⟨.hr marker cnt, some r, []⟩
      pure (true, { s with line := s.line + 1 })

/-! ## heading.rs -/

/-- the `loop` that counts `#` (`chars = line.char_indices()`): `none` = `return false`;
    `some (level, text_pos, rest of chars)`.  Every `#` is one byte, so the byte index `x` of the
    blank that ends the run is `level`. -/
def atxOpen : List Char → Nat → Option (Nat × Nat × List Char)
  | [], level => some (level, level, [])
  | c :: r, level =>
    if c = '#' then (if level + 1 > 6 then none else atxOpen r (level + 1))
    else if c = ' ' ∨ c = '\t' then some (level, level, r)
    else none

/-- `text_max`: `chars.rev()`, skip blanks, skip `#`, then look at one more character.
    `rest` starts at byte `text_pos + 1` of `line`. -/
def atxTextMax (line rest : List Char) (textPos : Nat) : Nat :=
  match (rest.reverse.dropWhile isBlank).dropWhile (· = '#') with
  | [] => textPos
  | c :: r' => if isBlank c then (textPos + 1 + Lines.byteLen r') + 1 else Lines.byteLen line

def headingRule (s : BState) (silent : Bool) : Res := do
  let ind ← s.lineIndent s.line
  if ind ≥ 4 then pure (false, s) else do
  let line ← s.getLine s.line
  if line.head? ≠ some '#' then pure (false, s) else
  match atxOpen line 0 with
  | none => pure (false, s)
  | some (level, textPos, rest) =>
    if silent then pure (true, s) else do
    let textMax := atxTextMax line rest textPos
    let content ← liftL (Lines.slice line textPos textMax)
    let o ← s.off s.line
    let mapping := [(0, o.firstNonspace + textPos)]
    let r ← s.getMap s.line s.line
    let s := s.push ⟨.atx level, some r, [⟨.inlineRoot content mapping, none, []⟩]⟩
    pure (true, { s with line := s.line + 1 })

/-! ## code.rs -/

/-- the `while next_line < state.line_max` loop; result: `last` -/
def codeScan (s : BState) (nextLine last : Nat) : Except Panic Nat :=
  if nextLine < s.lineMax then
    if s.isEmpty nextLine then codeScan s (nextLine + 1) last
    else
      match s.lineIndent nextLine with
      | .error e => .error e
      | .ok ind => if ind ≥ 4 then codeScan s (nextLine + 1) (nextLine + 1) else .ok last
  else .ok last
termination_by s.lineMax - nextLine

def codeRule (s : BState) (silent : Bool) : Res :=
  if silent then pure (false, s) else do
  let ind ← s.lineIndent s.line
  if ind < 4 then pure (false, s) else do
  let last ← codeScan s (s.line + 1) (s.line + 1)
  let startLine := s.line
  let s := { s with line := last }
  let (content, mapping) ← s.getLines startLine last (4 + s.blkIndent) false
  let content := content ++ ['\n']
  match mapping with
  | [] => .error .index
  | m0 :: _ =>
    let l1 ← psub s.line 1
    let o ← s.off l1
    -- `get_map_from_offsets`: `debug_assert!(start_pos <= end_pos)`
    if m0.2 > o.lineEnd then .error .assert else
    pure (true, s.push ⟨.codeBlock content, some (m0.2, o.lineEnd), []⟩)

/-! ## fence.rs -/

/-- length of the leading run of `m` -/
def countRun (m : Char) : List Char → Nat
  | [] => 0
  | c :: r => if c = m then 1 + countRun m r else 0

/-- `x as usize` for `x : i32` (sign extension, two's complement) -/
def i32AsUsize (x : Int) : Nat := if x ≥ 0 then x.toNat else (18446744073709551616 + x).toNat

/-- the `'outer: loop` searching the end of the block, entered with `next_line`;
    result `(next_line, have_end_marker)`.  (`state.line_indent(next_line)` reads the table entry
    `get_line(next_line)` has just read, so evaluating it once, early, is the same.) -/
def fenceScan (s : BState) (marker : Char) (len : Nat) (nextLine : Nat) : Except Panic (Nat × Bool) :=
  if nextLine + 1 ≥ s.lineMax then .ok (nextLine + 1, false)
  else
    match s.getLine (nextLine + 1), s.lineIndent (nextLine + 1) with
    | .error e, _ => .error e
    | _, .error e => .error e
    | .ok line, .ok ind =>
      if line ≠ [] ∧ ind < 0 then .ok (nextLine + 1, false)
      else
        match line with
        | [] => fenceScan s marker len (nextLine + 1)
        | c :: rest =>
          if c ≠ marker then fenceScan s marker len (nextLine + 1)
          else if ind ≥ 4 then fenceScan s marker len (nextLine + 1)
          else if 1 + countRun marker rest < len then fenceScan s marker len (nextLine + 1)
          else if (rest.drop (countRun marker rest)).all isBlank then .ok (nextLine + 1, true)
          else fenceScan s marker len (nextLine + 1)
termination_by s.lineMax - nextLine

def fenceRule (s : BState) (silent : Bool) : Res := do
  let ind ← s.lineIndent s.line
  if ind ≥ 4 then pure (false, s) else do
  let line ← s.getLine s.line
  match line with
  | [] => pure (false, s)
  | marker :: rest =>
    if ¬ (marker = '~' ∨ marker = '`') then pure (false, s) else
    let len := 1 + countRun marker rest
    if len < 3 then pure (false, s) else do
    let params ← liftL (Lines.slice line len (Lines.byteLen line))
    if marker = '`' ∧ params.contains marker then pure (false, s) else
    if silent then pure (true, s) else do
    let startLine := s.line
    let (nextLine, haveEnd) ← fenceScan s marker len s.line
    let o ← s.off startLine
    let (content, _) ← s.getLines (startLine + 1) nextLine (i32AsUsize o.indentNonspace) true
    let e ← psub nextLine (if haveEnd then 0 else 1)
    let r ← s.getMap startLine e
    let s := s.push ⟨.codeFence params marker len content, some r, []⟩
    pure (true, { s with line := nextLine + (if haveEnd then 1 else 0) })

/-! ## paragraph.rs, lheading.rs, reference.rs: the shared "jump line-by-line" loop -/

/-- the setext underline test of `lheading.rs` on `get_line(next_line)`: 0 = no underline -/
def underlineLevel : List Char → Nat
  | [] => 0
  | marker :: rest =>
    if marker = '-' ∨ marker = '=' then
      if ((rest.drop (countRun marker rest)).dropWhile isBlank).isEmpty then
        (if marker = '=' then 1 else 2)
      else 0
    else 0

/-- `if state.line_indent(next_line) >= 0 { … underline test … }` of `lheading.rs` (absent from the
    other two rules: `setext = false`); result: the level found, 0 = none -/
def setextCheck (setext : Bool) (s : BState) (ind : Int) (nextLine : Nat) : Except Panic Nat :=
  if setext ∧ ind ≥ 0 then do
    let l ← s.getLine nextLine
    pure (underlineLevel l)
  else pure 0

/-- `'outer: loop { next_line += 1; … }` of the three rules (`setext = true`: with the underline test
    of `lheading.rs`).  Result `(next_line, level, state)`; `level ≠ 0` only for a found underline. -/
def lazyScan (test : Test) (setext : Bool) : Nat → BState → Nat → Except Panic (Nat × Nat × BState)
  | 0, _, _ => .error .fuel
  | fuel + 1, s, nextLine =>
    let nextLine := nextLine + 1
    if nextLine ≥ s.lineMax ∨ s.isEmpty nextLine then .ok (nextLine, 0, s) else do
    let ind ← s.lineIndent nextLine
    if ind ≥ 4 then lazyScan test setext fuel s nextLine else do
    let lvl ← setextCheck setext s ind nextLine
    if lvl ≠ 0 then .ok (nextLine, lvl, s) else do
    let o ← s.off nextLine
    if o.indentNonspace < 0 then lazyScan test setext fuel s nextLine else do
    let oldLine := s.line
    let (b, s1) ← test { s with line := nextLine }
    let s2 := { s1 with line := oldLine }
    if b then .ok (nextLine, 0, s2) else lazyScan test setext fuel s2 nextLine

def paragraphRule (test : Test) (fuel : Nat) (s : BState) (silent : Bool) : Res :=
  if silent then pure (false, s) else do
  let startLine := s.line
  let (nextLine, _, s) ← lazyScan test false fuel s startLine
  let (content, mapping) ← s.getLines startLine nextLine s.blkIndent false
  let s := { s with line := nextLine }
  let e ← psub s.line 1
  let r ← s.getMap startLine e
  pure (true, s.push ⟨.paragraph, some r, [⟨.inlineRoot content mapping, none, []⟩]⟩)

def lheadingRule (test : Test) (fuel : Nat) (s : BState) (silent : Bool) : Res :=
  if silent then pure (false, s) else do
  let ind ← s.lineIndent s.line
  if ind ≥ 4 then pure (false, s) else do
  let startLine := s.line
  let (nextLine, level, s) ← lazyScan test true fuel s startLine
  if level = 0 then pure (false, s) else do
  let (content, mapping) ← s.getLines startLine nextLine s.blkIndent false
  let s := { s with line := nextLine + 1 }
  let e ← psub s.line 1
  let r ← s.getMap startLine e
  pure (true, s.push ⟨.setext level (if level = 2 then '-' else '='), some r,
    [⟨.inlineRoot content mapping, none, []⟩]⟩)

/-! ## reference.rs -/

/-- the quick `[…]:` check on the first line; `skip` = the next character is behind a backslash.
    `false` = `return false`. -/
def refQuick (skip : Bool) : List Char → Bool
  | [] => true
  | c :: r =>
    if skip then refQuick false r
    else if c = '\\' then refQuick true r
    else if c = ']' then (match r with | ':' :: _ => true | _ => false)
    else refQuick false r

/-- `char::is_whitespace` -/
def isWsChar (c : Char) : Bool := Refs.isWs c.toNat

/-- `str::trim` -/
def trimStr (s : List Char) : List Char := ((s.dropWhile isWsChar).reverse.dropWhile isWsChar).reverse

/-- the label loop over `str.char_indices()` (entered behind the `[`, at byte `pos`); `esc` = the
    previous character was a backslash (`Some((_, '\\')) => { if let Some((_, '\n')) = chars.next() … }`
    consumes the next character whatever it is).
    `none` = `return false`; `some (label_end, lines, rest of chars)` -/
def labelScan (esc : Bool) : List Char → Nat → Nat → Option (Nat × Nat × List Char)
  | [], _, _ => none
  | c :: r, pos, lines =>
    if esc then labelScan false r (pos + Link.clen c) (if c = '\n' then lines + 1 else lines)
    else if c = '[' then none
    else if c = ']' then some (pos, lines, r)
    else if c = '\n' then labelScan false r (pos + 1) (lines + 1)
    else if c = '\\' then labelScan true r (pos + 1) lines
    else labelScan false r (pos + Link.clen c) lines

/-- `while let Some(' ' | '\t' | '\n') = chars.next() { if ch == '\n' { lines += 1 } pos += 1 }` -/
def wsScan : List Char → Nat → Nat → Nat × Nat
  | [], pos, lines => (pos, lines)
  | c :: r, pos, lines =>
    if c = ' ' ∨ c = '\t' then wsScan r (pos + 1) lines
    else if c = '\n' then wsScan r (pos + 1) (lines + 1)
    else (pos, lines)

/-- one pass of the final loop: `some pos` = `break` (line feed or end), `none` = other character -/
def trailGo : List Char → Nat → Option Nat
  | [], pos => some pos
  | c :: r, pos =>
    if c = ' ' ∨ c = '\t' then trailGo r (pos + 1)
    else if c = '\n' then some pos
    else none

/-- `if pos != start { parse_link_title … }`: `(title, pos, lines)` -/
def refTitle (cfg : Cfg) (str : List Char) (len start pos lines destEndPos destEndLines : Nat) :
    Except Panic (Option (List Char) × Nat × Nat) :=
  if pos ≠ start then do
    let t ← liftK (Link.parseLinkTitle str pos len)
    match t with
    | some res => pure (some (Entity.unescapeAll cfg.lookup res.raw), res.pos, lines + res.lines)
    | none => pure (none, destEndPos, destEndLines)
  else pure (none, pos, lines)

/-- the final `loop` ("skip trailing spaces until the rest of the line", with the roll-back to the
    end of the destination when there is garbage behind a title): `none` = `return false`,
    `some (title, lines)` -/
def refTrail (str : List Char) (len : Nat) (title : Option (List Char)) (pos lines destEndPos destEndLines : Nat) :
    Except Panic (Option (Option (List Char) × Nat)) := do
  let tail ← liftK (Link.slice str pos len)
  match trailGo tail pos with
  | some _ => pure (some (title, lines))
  | none =>
    if title.isSome then do
      let tail2 ← liftK (Link.slice str destEndPos len)
      match trailGo tail2 destEndPos with
      | some _ => pure (some (none, destEndLines))
      | none => pure none
    else pure none

/-- everything behind `get_lines(..).trim()`: `none` = `return false`,
    `some (label text, href, title, lines)` -/
def refParse (cfg : Cfg) (str : List Char) :
    Except Panic (Option (List Nat × List Nat × Option (List Nat) × Nat)) :=
  let len := Link.byteLen str
  -- `chars.next(); // skip '['`
  match labelScan false str.tail (match str with | [] => 0 | c :: _ => Link.clen c) 0 with
  | none => pure none
  | some (labelEnd, lines, rest) =>
    match rest with
    | ':' :: rest2 => do
      let (pos, lines) := wsScan rest2 (labelEnd + 2) lines
      let dest ← liftK (Link.parseLinkDestination str pos len)
      match dest with
      | none => pure none
      | some res =>
        if pos = res.pos then pure none else
        let href := Link.normalizeLink (Link.utf8 (Entity.unescapeAll cfg.lookup res.raw))
        if ¬ Link.validateLink href then pure none else do
        let pos := res.pos
        let lines := lines + res.lines
        let destEndPos := pos
        let destEndLines := lines
        let start := pos
        let tail ← liftK (Link.slice str pos len)
        let (pos, lines) := wsScan tail pos lines
        let (title, pos, lines) ← refTitle cfg str len start pos lines destEndPos destEndLines
        let fin ← refTrail str len title pos lines destEndPos destEndLines
        match fin with
        | none => pure none
        | some (title, lines) => do
          let raw ← liftK (Link.slice str 1 labelEnd)
          pure (some (raw.map Char.toNat, href, title.map (·.map Char.toNat), lines))
    | _ => pure none

def referenceRule (cfg : Cfg) (test : Test) (fuel : Nat) (s : BState) (silent : Bool) : Res :=
  if silent then pure (false, s) else do
  let ind ← s.lineIndent s.line
  if ind ≥ 4 then pure (false, s) else do
  let line ← s.getLine s.line
  match line with
  | [] => pure (false, s)
  | c :: rest =>
    if c ≠ '[' then pure (false, s) else
    if ¬ refQuick false rest then pure (false, s) else do
    let startLine := s.line
    let (nextLine, _, s) ← lazyScan test false fuel s startLine
    let (strBeforeTrim, _) ← s.getLines startLine nextLine s.blkIndent false
    let str := trimStr strBeforeTrim
    let parsed ← refParse cfg str
    match parsed with
    | none => pure (false, s)
    | some (raw, href, title, lines) =>
      let label := Refs.normalize cfg.L cfg.U raw
      if label.isEmpty then pure (false, s) else
      -- `ReferenceMapKey::new(label)` normalises once more
      let refs := Refs.insertFirst s.refs (Refs.normalize cfg.L cfg.U label) ⟨href, title⟩
      pure (true, { s with refs := refs, line := startLine + lines + 1 })

/-! ## blockquote.rs -/

/-- `if matches!(chars.next(), Some(' ' | '\t')) { indent_after_marker -= 1; }` -/
def bqOptSpace (rest : List Char) (indAfter : Nat) : Except Panic Nat :=
  match rest with
  | d :: _ => if isBlank d then psub indAfter 1 else pure indAfter
  | [] => pure indAfter

/-- the arm `Some('>') if !is_outdented` up to the two assignments to `state.line_offsets[next_line]`:
    the rewritten entry of a line inside the quote ("set offset past spaces and `>`"), and
    `last_line_empty`.  `rest` = the line's text behind the `>`. -/
def bqRewrite (src : List Char) (o : LineOffset) (rest : List Char) : Except Panic (LineOffset × Bool) := do
  let posAfterMarker := o.firstNonspace + 1
  let ltxt ← liftL (Lines.slice src o.lineStart o.lineEnd)
  let rel ← psub posAfterMarker o.lineStart
  let (indAfter, fn) ← liftL (Lines.findIndentOf ltxt rel)
  let lineLen ← psub o.lineEnd o.lineStart
  let lastEmpty : Bool := fn == lineLen
  let indAfter ← bqOptSpace rest indAfter
  pure ({ o with indentNonspace := (indAfter : Int), firstNonspace := fn + o.lineStart }, lastEmpty)

/-- `while next_line < state.line_max { … }`: result `(next_line, old_line_offsets, state)` -/
def bqScan (test : Test) :
    Nat → BState → Nat → List LineOffset → Bool → Except Panic (Nat × List LineOffset × BState)
  | 0, _, _, _, _ => .error .fuel
  | fuel + 1, s, nextLine, old, lastEmpty =>
    if ¬ nextLine < s.lineMax then .ok (nextLine, old, s) else do
    let ind ← s.lineIndent nextLine
    let isOutdented : Bool := ind < 0
    let line ← s.getLine nextLine
    match line with
    | [] => .ok (nextLine, old, s)
    | c :: rest =>
      if c = '>' ∧ ¬ isOutdented then do
        let o ← s.off nextLine
        let (o', lastEmpty) ← bqRewrite s.src o rest
        let s ← s.setOff nextLine o'
        bqScan test fuel s (nextLine + 1) (old ++ [o]) lastEmpty
      else
        if lastEmpty then .ok (nextLine, old, s) else do
        let (b, s) ← test { s with line := nextLine }
        if b then
          if s.blkIndent ≠ 0 then do
            let o ← s.off nextLine
            let s ← s.setOff nextLine { o with indentNonspace := o.indentNonspace - (s.blkIndent : Int) }
            .ok (nextLine, old ++ [o], s)
          else .ok (nextLine, old, s)
        else do
          let o ← s.off nextLine
          let s ← s.setOff nextLine { o with indentNonspace := -1 }
          bqScan test fuel s (nextLine + 1) (old ++ [o]) lastEmpty

/-- `for (idx, lo) in old.iter_mut().enumerate() { swap(&mut offs[idx + start_line], lo) }` -/
def restoreOffs : List LineOffset → Nat → List LineOffset → Except Panic (List LineOffset)
  | offs, _, [] => .ok offs
  | offs, i, o :: r => if i < offs.length then restoreOffs (offs.set i o) (i + 1) r else .error .index

def blockquoteRule (tok : Tok) (test : Test) (fuel : Nat) (s : BState) (silent : Bool) : Res := do
  let ind ← s.lineIndent s.line
  if ind ≥ 4 then pure (false, s) else do
  let line ← s.getLine s.line
  if line.head? ≠ some '>' then pure (false, s) else
  if silent then pure (true, s) else do
  let startLine := s.line
  let (nextLine, old, s) ← bqScan test fuel s s.line [] false
  let oldIndent := s.blkIndent
  let oldKind := s.nodeKind
  let oldChildren := s.children
  let oldLineMax := s.lineMax
  let s ← tok { s with blkIndent := 0, nodeKind := .blockquote, children := [], line := startLine,
                       lineMax := nextLine, level := s.level + 1 }
  let lvl ← psub s.level 1
  let s := { s with level := lvl, lineMax := oldLineMax }
  let offs ← restoreOffs s.offs startLine old
  let s := { s with offs := offs, blkIndent := oldIndent }
  let e ← psub s.line 1
  let r ← s.getMap startLine e
  let node : BNode := ⟨s.nodeKind, some r, s.children⟩
  pure (true, { s with nodeKind := oldKind, children := oldChildren ++ [node] })

/-! ## list.rs -/

/-- `skip_bullet_list_marker` -/
def skipBullet : List Char → Option Nat
  | [] => none
  | c :: r =>
    if c = '*' ∨ c = '-' ∨ c = '+' then
      match r with
      | [] => some 1
      | d :: _ => if isBlank d then some 1 else none
    else none

/-- the `loop` of `skip_ordered_list_marker`: `some (pos, rest)` on `break` -/
def ordLoop : List Char → Nat → Option (Nat × List Char)
  | [], _ => none
  | c :: r, pos =>
    if isDigit c then (if pos + 1 ≥ 10 then none else ordLoop r (pos + 1))
    else if c = ')' ∨ c = '.' then some (pos + 1, r)
    else none

/-- `skip_ordered_list_marker` -/
def skipOrdered : List Char → Option Nat
  | [] => none
  | c :: r =>
    if isDigit c then
      match ordLoop r 1 with
      | none => none
      | some (pos, rest) =>
        match rest with
        | [] => some pos
        | d :: _ => if isBlank d then some pos else none
    else none

/-- `str::parse::<u32>(digits).unwrap()` (only ever applied to 1–9 ASCII digits) -/
def parseU32 (ds : List Char) : Except Panic Nat :=
  if ds.isEmpty ∨ ¬ ds.all isDigit then .error .unwrap
  else
    let v := ds.foldl (fun acc c => acc * 10 + (c.toNat - 48)) 0
    if v < 4294967296 then .ok v else .error .unwrap

/-- `current_line[..pos].chars().next_back().unwrap()` -/
def markerCharOf (cur : List Char) (pos : Nat) : Except Panic Char := do
  let pre ← liftL (Lines.slice cur 0 pos)
  match pre.getLast? with
  | some c => pure c
  | none => .error .unwrap

/-- `mark_tight_paragraphs`: every `Paragraph` child is replaced by its children (which are then
    skipped: `idx += len`) -/
def markTight : List BNode → List BNode
  | [] => []
  | n :: r => if n.kind = .paragraph then n.children ++ markTight r else n :: markTight r

def isListKind : Kind → Bool
  | .bulletList _ => true
  | .orderedList _ _ => true
  | _ => false

/-- the body of one item: the empty-item workaround, or the nested tokenizer one level deeper -/
def listItemBody (tok : Tok) (s : BState) (nextLine : Nat) (reachedEnd : Bool) : Except Panic BState :=
  if reachedEnd ∧ s.isEmpty (nextLine + 1) then
    pure { s with line := if s.line + 2 < s.lineMax then s.line + 2 else s.lineMax }
  else do
    let s2 ← tok { s with line := nextLine, level := s.level + 1 }
    let lvl ← psub s2.level 1
    pure { s2 with level := lvl }

/-- `(state.line - next_line) > 1 && state.is_empty(state.line - 1)` -/
def prevEmptyEndOf (s : BState) (nextLine : Nat) : Except Panic Bool := do
  let d ← psub s.line nextLine
  if d > 1 then do
    let l1 ← psub s.line 1
    pure (s.isEmpty l1)
  else pure false

/-- the head of an iteration of the item loop, up to the two assignments to
    `state.line_offsets[next_line]`: the rewritten entry of the item's first line (`first_nonspace` and
    `indent_nonspace` behind the marker), the item's content indent `indent` (the new `blk_indent`)
    and `reached_end_of_line` -/
def itemRewrite (src : List Char) (o : LineOffset) (posAfterMarker : Nat) :
    Except Panic (LineOffset × Nat × Bool) :=
  if o.indentNonspace < 0 then .error .cast else do
  let initial := o.indentNonspace.toNat + posAfterMarker
  let ltxt ← liftL (Lines.slice src o.lineStart o.lineEnd)
  let rel ← psub (posAfterMarker + o.firstNonspace) o.lineStart
  let (indAfter0, fn) ← liftL (Lines.findIndentOf ltxt rel)
  let lineLen ← psub o.lineEnd o.lineStart
  let reachedEnd : Bool := fn == lineLen
  let indentNonspace := initial + indAfter0
  let indAfter := if reachedEnd then 1 else if indAfter0 > 4 then 1 else indAfter0
  let indent := initial + indAfter
  pure ({ o with firstNonspace := fn + o.lineStart, indentNonspace := (indentNonspace : Int) },
        indent, reachedEnd)

/-- the first half of one iteration of the item loop: one list item, from
    `let offsets = &state.line_offsets[next_line]` to `state.node.children.push(node)`;
    result `(state, tight, prev_empty_end)` -/
def listItem (tok : Tok) (s : BState) (nextLine posAfterMarker : Nat) (prevEmptyEnd tight : Bool) :
    Except Panic (BState × Bool × Bool) := do
  let o ← s.off nextLine
  let (o', indent, reachedEnd) ← itemRewrite s.src o posAfterMarker
  let oldKind := s.nodeKind
  let oldChildren := s.children
  let oldTight := s.tight
  let oldListIndent := s.listIndent
  let s := { s with nodeKind := .listItem, children := [], listIndent := some s.blkIndent,
                    blkIndent := indent, tight := true }
  let s ← s.setOff nextLine o'
  let s ← listItemBody tok s nextLine reachedEnd
  let tight := if ¬ s.tight ∨ prevEmptyEnd then false else tight
  let prevEmptyEnd ← prevEmptyEndOf s nextLine
  match s.listIndent with
  | none => .error .unwrap
  | some li => do
    let s := { s with blkIndent := li, listIndent := oldListIndent }
    let s ← s.setOff nextLine o
    let s := { s with tight := oldTight }
    let endLine := s.line
    let e ← psub endLine 1
    let r ← s.getMap nextLine e
    let node : BNode := ⟨s.nodeKind, some r, s.children⟩
    pure ({ s with nodeKind := oldKind, children := oldChildren ++ [node] }, tight, prevEmptyEnd)

/-- the second half: "Try to check if list is terminated or continued"; `none` = `break`,
    `some p` = go on with `pos_after_marker = p` -/
def listContinue (test : Test) (ordered : Bool) (markerChar : Char) (s : BState) (nextLine : Nat) :
    Except Panic (Option Nat × BState) :=
  if nextLine ≥ s.lineMax then pure (none, s) else do
  let ind ← s.lineIndent nextLine
  if ind < 0 then pure (none, s) else
  if ind ≥ 4 then pure (none, s) else do
  let oldLine := s.line
  let (terminate, s) ← test s
  let s := { s with line := oldLine }
  if terminate then pure (none, s) else do
  let cur ← s.getLine s.line
  match (if ordered then skipOrdered cur else skipBullet cur) with
  | none => pure (none, s)
  | some p => do
    let mc ← markerCharOf cur p
    if mc ≠ markerChar then pure (none, s) else pure (some p, s)

/-- `'outer: while next_line < state.line_max { … }` (one list item per iteration);
    result `(next_line, tight, state)` -/
def listLoop (tok : Tok) (test : Test) (ordered : Bool) (markerChar : Char) :
    Nat → BState → Nat → Nat → Bool → Bool → Except Panic (Nat × Bool × BState)
  | 0, _, _, _, _, _ => .error .fuel
  | fuel + 1, s, nextLine, posAfterMarker, prevEmptyEnd, tight =>
    if ¬ nextLine < s.lineMax then .ok (nextLine, tight, s) else do
    let (s, tight, prevEmptyEnd) ← listItem tok s nextLine posAfterMarker prevEmptyEnd tight
    let nextLine := s.line
    let (cont, s) ← listContinue test ordered markerChar s nextLine
    match cont with
    | none => .ok (nextLine, tight, s)
    | some p => listLoop tok test ordered markerChar fuel s nextLine p prevEmptyEnd tight

/-- the `for child in state.node.children.iter_mut()` of the tight case -/
def tightenItems : List BNode → Except Panic (List BNode)
  | [] => .ok []
  | c :: r =>
    if c.kind ≠ .listItem then .error .assert
    else
      match tightenItems r with
      | .error e => .error e
      | .ok r' => .ok ({ c with children := markTight c.children } :: r')

/-- the "special case" (`- item 1 / - item 2 / … / - this one is a paragraph continuation`) -/
def listSpecial (s : BState) : Except Panic Bool :=
  match s.listIndent with
  | some li => do
    let o ← s.off s.line
    pure (decide (o.indentNonspace - (li : Int) ≥ 4 ∧ o.indentNonspace < (s.blkIndent : Int)))
  | none => pure false

/-- "Detect list type and position after marker": `none` = no marker,
    `some (pos_after_marker, marker_value)` -/
def detectMarker (cur : List Char) : Except Panic (Option (Nat × Option Nat)) :=
  match skipOrdered cur with
  | some p => do
    let p1 ← psub p 1
    let ds ← liftL (Lines.slice cur 0 p1)
    let v ← parseU32 ds
    pure (some (p, some v))
  | none =>
    match skipBullet cur with
    | some p => pure (some (p, none))
    | none => pure none

/-- `if is_terminating_paragraph { … current_line[pos_after_marker..] is blank … }` -/
def emptyItemCheck (isTerm : Bool) (cur : List Char) (posAfterMarker : Nat) : Except Panic Bool :=
  if isTerm then do
    let tail ← liftL (Lines.slice cur posAfterMarker (Lines.byteLen cur))
    pure (tail.all isBlank)
  else pure false

def listRule (tok : Tok) (test : Test) (fuel : Nat) (s : BState) (silent : Bool) : Res :=
  if silent ∧ isListKind s.nodeKind then pure (false, s) else do
  let ind ← s.lineIndent s.line
  if ind ≥ 4 then pure (false, s) else do
  let special ← listSpecial s
  if special then pure (false, s) else do
  -- `if silent { if state.line_indent(state.line) >= 0 { is_terminating_paragraph = true } }`
  let isTerm : Bool := silent ∧ ind ≥ 0
  let startLine := s.line
  let cur ← s.getLine s.line
  let detected ← detectMarker cur
  match detected with
  | none => pure (false, s)
  | some (posAfterMarker, markerValue) =>
    let badStart : Bool := isTerm && (match markerValue with | some v => v != 1 | none => false)
    if badStart then pure (false, s) else do
    let emptyItem ← emptyItemCheck isTerm cur posAfterMarker
    if emptyItem then pure (false, s) else
    if silent then pure (true, s) else do
    let markerChar ← markerCharOf cur posAfterMarker
    let newKind : Kind := match markerValue with
      | some v => .orderedList v markerChar
      | none => .bulletList markerChar
    let oldKind := s.nodeKind
    let oldChildren := s.children
    let s := { s with nodeKind := newKind, children := [], level := s.level + 1 }
    let (nextLine, tight, s) ←
      listLoop tok test markerValue.isSome markerChar fuel s s.line posAfterMarker false true
    let children ← (if tight then tightenItems s.children else pure s.children)
    let lvl ← psub s.level 1
    let e ← psub nextLine 1
    let r ← s.getMap startLine e
    let node : BNode := ⟨s.nodeKind, some r, children⟩
    pure (true, { s with level := lvl, nodeKind := oldKind, children := oldChildren ++ [node] })

/-! ## the chain, `test_rules_at_line`, `tokenize` -/

/-- one rule of the chain -/
def runRule (cfg : Cfg) (tok : Tok) (test : Test) (fuel : Nat) : RuleId → BState → Bool → Res
  | .code => codeRule
  | .fence => fenceRule
  | .blockquote => blockquoteRule tok test fuel
  | .hr => hrRule
  | .list => listRule tok test fuel
  | .reference => referenceRule cfg test fuel
  | .heading => headingRule
  | .lheading => lheadingRule test fuel
  | .paragraph => paragraphRule test fuel

/-- `for rule in ruler.iter() { if rule(state, silent) { return/break } }` -/
def runChain (run : RuleId → BState → Bool → Res) : List RuleId → BState → Bool → Res
  | [], s, _ => .ok (false, s)
  | r :: rs, s, silent =>
    match run r s silent with
    | .error e => .error e
    | .ok (true, s') => .ok (true, s')
    | .ok (false, s') => runChain run rs s' silent

/-- after the `for rule in …` loop: the progress `assert!` (inside the loop in the Rust, directly
    before its `break`), or the no-paragraph fallback (`if !ok { … }`) -/
def afterChain (ok : Bool) (s : BState) (prevLine : Nat) : Except Panic BState :=
  if ok then
    (if s.line > prevLine then pure s else .error .progress)
  else do
    let l ← s.getLine s.line
    let o ← s.off s.line
    let s := s.push ⟨.inlineRoot (l ++ ['\n']) [(0, o.firstNonspace)], none, []⟩
    pure { s with line := s.line + 1 }

/-- the `while state.line < state.line_max` loop of `tokenize`; `hasEmpty` = `has_empty_lines` -/
def tokLoop (cfg : Cfg) (run : RuleId → BState → Bool → Res) : Nat → Bool → BState → Except Panic BState
  | 0, _, _ => .error .fuel
  | fuel + 1, hasEmpty, s =>
    if ¬ s.line < s.lineMax then .ok s else
    let s := { s with line := Lines.skipEmptyLines s.offs s.lineMax s.line }
    if s.line ≥ s.lineMax then .ok s else do
    let ind ← s.lineIndent s.line
    if ind < 0 then .ok s else
    if s.level ≥ cfg.maxNesting then .ok { s with line := s.lineMax } else do
    let prevLine := s.line
    let (ok, s) ← runChain run cfg.chain s false
    let s ← afterChain ok s prevLine
    let s := { s with tight := !hasEmpty }
    let l1 ← psub s.line 1
    let hasEmpty := hasEmpty || s.isEmpty l1
    if s.line < s.lineMax ∧ s.isEmpty s.line then tokLoop cfg run fuel true { s with line := s.line + 1 }
    else tokLoop cfg run fuel hasEmpty s

/-- `(tokenize, test_rules_at_line)` with nesting/iteration budget `fuel` -/
def engine (cfg : Cfg) : Nat → Tok × Test
  | 0 => (fun _ => .error .fuel, fun _ => .error .fuel)
  | f + 1 =>
    let p := engine cfg f
    (tokLoop cfg (runRule cfg p.1 p.2 (f + 1)) (f + 1) false,
     fun s => runChain (runRule cfg p.1 p.2 (f + 1)) cfg.chain s true)

/-- `BlockParser::tokenize` -/
def tokenize (cfg : Cfg) (fuel : Nat) : Tok := (engine cfg fuel).1

/-- `BlockState::test_rules_at_line` -/
def testRules (cfg : Cfg) (fuel : Nat) : Test := (engine cfg fuel).2

/-- a rule as the tokenizer at budget `fuel + 1` calls it -/
def ruleAt (cfg : Cfg) (fuel : Nat) : RuleId → BState → Bool → Res :=
  runRule cfg (tokenize cfg fuel) (testRules cfg fuel) (fuel + 1)

/-- the fuel `parseBlocks` starts with -/
def fuelFor (cfg : Cfg) (src : List Char) : Nat :=
  (Lines.splitLines src).length + min cfg.maxNesting (Lines.byteLen src) + 8

/-- `MarkdownIt::parse` up to and including the block pass (`BlockParserRule`), no inline pass:
    the root node (range `(0, src.len())`) and the reference map -/
def parseBlocks (cfg : Cfg) (src : List Char) : Except Panic (BNode × Refs.RefMap) :=
  match tokenize cfg (fuelFor cfg src) (BState.fresh src .root []) with
  | .error e => .error e
  | .ok s => .ok (⟨s.nodeKind, some (0, Lines.byteLen src), s.children⟩, s.refs)

end MdIt.Block
