/-
  Model of the WHOLE document pipeline WITH the raw-HTML plugin (`plugins::html::html_block`,
  `plugins::html::html_inline`, either or both): `Model/Pipeline.lean` composed with `Model/BlockH.lean`
  and `Model/InlineH.lean`.

    * `src/parser/main.rs`                      `MarkdownIt::parse`: the html plugin adds NO core rule, so the core
                                                chain is still BlockParserRule → InlineParserRule → [FragmentsJoin]
                                                → [SyntaxPosRule] (read back and checked by the stream `pipelineh`)
    * `BlockParserRule::run`                    = `BlockH.parseBlocksH` (ten-rule block chain)
    * `InlineParserRule::run`                   the splice walk of `Model/Pipeline.lean`, every placeholder parsed by
                                                `InlineH.parseInlineH` (extended inline chain)
    * `FragmentsJoin::run`                      = `Pipeline.joinNode`, UNCHANGED
    * `SyntaxPosRule::run`                      = `Pipeline.sourceposNode`, UNCHANGED
    * `Node::render` / `xrender`                = `NodeRender.render` on the projection `toRenderH`, which decodes
                                                the two html nodes into `NodeRender.Kind.htmlBlock` / `.htmlInline`

  Reuse.  The document node type (`Pipeline.Node`, `Pipeline.Kind`) and the panic type (`Pipeline.Panic`)
  are those of `Model/Pipeline.lean`: the html nodes are ENCODED in existing constructors
  (`Block.Kind.codeFence [] '<' 0 content`, `Inline.Val.special [] content "html_inline"`, see the two
  parser models).  What the later passes do with the encoded nodes, against the Rust:

    * join pass.  `fragments_join` looks at `EmphMarker` (pass 1) and `Text` (pass 2, `retain`) children
      only; `Pipeline.markerToText` / `Node.isText` test `.inl (.emphMarker ..)` / `.inl (.text _)`, so a
      `.special`-encoded `HtmlInline` is neither converted, merged nor removed, and two `Text` nodes on
      either side of it are not merged ACROSS it — as in the Rust, where `HtmlInline` is not `Text`.
    * sourcepos pass.  `SyntaxPosRule` pushes `data-sourcepos` onto EVERY node with a `srcmap`, html
      nodes included (`Pipeline.sourceposNode` does; the op `tree` of the stream shows the attribute on
      both sides); `HtmlBlock::render` / `HtmlInline::render` ignore `node.attrs`
      (`fmt.cr(); fmt.text_raw(content); fmt.cr()` / `fmt.text_raw(content)`), and so do the `htmlBlock` /
      `htmlInline` cases of `NodeRender.renderNode`.
    * projection.  `toRenderH hb hi` decodes a block-level html node iff `hb` (the html block rule is in
      the block chain), an inline-level one iff `hi` (the html inline rule is in the inline chain); a
      configuration without the rule cannot produce the node, and then the projection IS
      `Pipeline.toRender` (no decoding takes place: `toRenderH_ff`).  With the rule loaded the encoding
      is unambiguous (`Props/BlockH.fence_not_html`; escape / entity are the only other producers of
      `special`, with info `escape` / `entity`).

  Nothing here needs fuel of its own; panics are the panics of the parts (`Pipeline.Panic`).
  Validated against the real crate by the differential stream `pipelineh` (`Driver/PipelineH.lean`,
  `harness/src/corr/pipelineh.rs`).
-/
import MdIt.Model.Pipeline
import MdIt.Model.BlockH
import MdIt.Model.InlineH

namespace MdIt.PipelineH
open MdIt.Pipeline

/-- what the pipeline reads of a `MarkdownIt` built from the shipped plugins, the two html plugins
    included (`Pipeline.DocCfg` with the chains over the extended enumerations) -/
structure DocCfgH where
  /-- `md.max_nesting` -/
  maxNesting : Nat
  /-- the effective (compiled) block chain -/
  blockChain : List BlockH.RuleIdH
  /-- the effective (compiled) inline chain -/
  inlineChain : List InlineH.RuleIdH
  /-- `PairConfig<MARKER>::fns` -/
  fns : Char → Nat → Option Inline.Wrap
  /-- is `SyntaxPosRule` in the core chain -/
  sourcepos : Bool
  /-- `FenceSettings` -/
  langPrefix : List Char
  /-- `get_entity_from_str` (entity table) -/
  entity : List Char → Option (List Char)
  /-- `char::to_lowercase`, `char::to_uppercase` -/
  L : Nat → List Nat
  U : Nat → List Nat
  /-- `char::is_whitespace` -/
  isWhite : Char → Bool
  /-- `is_punct_char` -/
  isPunctChar : Char → Bool

/-- the html-free configuration underneath: both chains without their html member -/
def DocCfgH.base (c : DocCfgH) : DocCfg :=
  { maxNesting := c.maxNesting, blockChain := c.blockChain.filterMap BlockH.RuleIdH.base?,
    inlineChain := c.inlineChain.filterMap InlineH.RuleIdH.base?, fns := c.fns, sourcepos := c.sourcepos,
    langPrefix := c.langPrefix, entity := c.entity, L := c.L, U := c.U, isWhite := c.isWhite,
    isPunctChar := c.isPunctChar }

/-- an html-free configuration as a `DocCfgH` -/
def DocCfgH.ofCfg (c : DocCfg) : DocCfgH :=
  { maxNesting := c.maxNesting, blockChain := c.blockChain.map .base, inlineChain := c.inlineChain.map .base,
    fns := c.fns, sourcepos := c.sourcepos, langPrefix := c.langPrefix, entity := c.entity, L := c.L, U := c.U,
    isWhite := c.isWhite, isPunctChar := c.isPunctChar }

/-- the block parser's view of the configuration -/
def DocCfgH.blockCfg (cfg : DocCfgH) : BlockH.CfgH :=
  { maxNesting := cfg.maxNesting, chain := cfg.blockChain, lookup := cfg.entity, L := cfg.L, U := cfg.U }

/-- the inline parser's view of the configuration, for a document whose block pass produced the
    reference map `refs` (`Pipeline.DocCfg.inlineCfg`) -/
def DocCfgH.inlineCfg (cfg : DocCfgH) (refs : Refs.RefMap) : InlineH.CfgH :=
  { maxNesting := cfg.maxNesting, chain := cfg.inlineChain, fns := cfg.fns,
    refs := if refs.isEmpty then none else some refs,
    normRef := Refs.normalize cfg.L cfg.U, entity := cfg.entity,
    isWhite := cfg.isWhite, isPunctChar := cfg.isPunctChar }

/-- is the html block rule loaded -/
def DocCfgH.htmlBlock (cfg : DocCfgH) : Bool := cfg.blockChain.contains .html

/-- is the html inline rule loaded -/
def DocCfgH.htmlInline (cfg : DocCfgH) : Bool := cfg.inlineChain.contains .html

def isEmphH : InlineH.RuleIdH → Bool
  | .base r => r.isEmph
  | .html => false

/-- is `FragmentsJoin` in the core chain (`Pipeline.DocCfg.hasJoin`; the html rule is not emphasis-like) -/
def DocCfgH.hasJoin (cfg : DocCfgH) : Bool := cfg.inlineChain.any isEmphH

/-! ## `InlineParserRule`: the splice walk, over an arbitrary placeholder parser

    `spliceNodeG parse` is `Pipeline.spliceNode` with the call `Inline.parseInline icfg content mapping`
    replaced by `parse content mapping` (`Pipeline.spliceNodeG_parseInline` in `Props/Pipeline.lean`: instantiated with
    `Inline.parseInline icfg` it IS `Pipeline.spliceNode icfg`). -/

mutual
def spliceNodeG (parse : List Char → InlineOps.Srcmap → Except Inline.Panic (List Inline.Node)) :
    Block.BNode → Except Panic Node
  | ⟨k, r, cs⟩ =>
    match spliceListG parse cs with
    | .error e => .error e
    | .ok cs' => .ok ⟨.blk k, r, [], cs'⟩
termination_by structural b => b
def spliceListG (parse : List Char → InlineOps.Srcmap → Except Inline.Panic (List Inline.Node)) :
    List Block.BNode → Except Panic (List Node)
  | [] => .ok []
  | c :: rest =>
    match c.kind with
    | .inlineRoot content mapping =>
      match parse content mapping with
      | .error e => .error (.inline e)
      | .ok ns =>
        match spliceListG parse rest with
        | .error e => .error e
        | .ok rest' => .ok (ofInlineList ns ++ rest')
    | _ =>
      match spliceNodeG parse c with
      | .error e => .error e
      | .ok c' =>
        match spliceListG parse rest with
        | .error e => .error e
        | .ok rest' => .ok (c' :: rest')
termination_by structural l => l
end

/-! ## `MarkdownIt::parse` -/

/-- the core chain behind the block pass (`Pipeline.afterBlocks`; join and sourcepos passes unchanged) -/
def afterBlocksH (cfg : DocCfgH) (src : List Char) (root : Block.BNode) (refs : Refs.RefMap) :
    Except Panic Node :=
  match spliceNodeG (InlineH.parseInlineH (cfg.inlineCfg refs)) root with
  | .error e => .error e
  | .ok t =>
    let t := if cfg.hasJoin then joinNode t else t
    if cfg.sourcepos then sourceposNode src (SourceMap.mkMarks src) t else .ok t

/-- `md.parse(src)` for a parser that may hold the html plugins -/
def parseDocH (cfg : DocCfgH) (src : List Char) : Except Panic Node :=
  match BlockH.parseBlocksH cfg.blockCfg src with
  | .error e => .error (.block e)
  | .ok (root, refs) => afterBlocksH cfg src root refs

/-! ## projection to the renderer's view, `render` / `xrender` -/

/-- the fields `render` reads of a node value; `hb` / `hi`: decode the block / inline html node -/
def kindToRenderH (hb hi : Bool) (langPrefix : List Char) (k : Kind) : NodeRender.Kind :=
  match k with
  | .blk b =>
    match hb, BlockH.htmlContent? b with
    | true, some c => .htmlBlock c
    | _, _ => k.toRender langPrefix
  | .inl v =>
    match hi, InlineH.htmlContent? v with
    | true, some c => .htmlInline c
    | _, _ => k.toRender langPrefix

mutual
/-- the tree as `MdIt.NodeRender` sees it -/
def toRenderH (hb hi : Bool) (langPrefix : List Char) : Node → NodeRender.Node
  | ⟨k, _, a, cs⟩ => ⟨kindToRenderH hb hi langPrefix k, a, toRenderListH hb hi langPrefix cs⟩
termination_by structural n => n
def toRenderListH (hb hi : Bool) (langPrefix : List Char) : List Node → List NodeRender.Node
  | [] => []
  | c :: cs => toRenderH hb hi langPrefix c :: toRenderListH hb hi langPrefix cs
termination_by structural l => l
end

/-- the trait calls `node.render()` issues -/
def renderEventsH (cfg : DocCfgH) (t : Node) : Except Panic (List Render.Event) :=
  match NodeRender.render cfg.entity (toRenderH cfg.htmlBlock cfg.htmlInline cfg.langPrefix t) with
  | .error e => .error (.render e)
  | .ok evs => .ok evs

/-- `md.parse(src).render()` (`x = false`) / `.xrender()` (`x = true`) -/
def renderDocH (x : Bool) (cfg : DocCfgH) (src : List Char) : Except Panic (List Char) :=
  match parseDocH cfg src with
  | .error e => .error e
  | .ok t =>
    match renderEventsH cfg t with
    | .error e => .error e
    | .ok evs => .ok (Render.serialize x evs)

end MdIt.PipelineH
