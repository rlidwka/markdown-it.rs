/-
  C06, list half — the list item as an instance of the container simulation of `Lemmas/C06Nest.lean` (`Li.Nest`):
  on the document `D'` in which every line of `D` (blank ones included) carries a prefix of `w` one-byte,
  tab-free characters (`indentLines pre L`: the marker and one space on line 0, `w` spaces on the other lines),
  the run nested in the list item simulates the run on `D`.  What the instance fixes:

    * `level' = level + 2` (the list rule raises the level once for the list and once per item), the node at
      the top of the nested run is the list item (`KindRel`);
    * the indent shift `d` is `w` under the item and `0` inside a block quote of `D`, so `d ≤ w`; `Tbl` bounds
      the size with `w`, the general relation with `d`;
    * `list_indent`: `none` on the `D` side against `some 0` at the top of the item (`LIRel`); the list
      rule's "special case" test answers alike because entries in a window with `d > 0` have a non-negative
      indent (second half of `Win`);
    * `tight`: the item starts its run with `true`, the run on `D` with `false` (`TRel`, `tokenize_sim_any`).
-/
import MdIt.Lemmas.C06Nest
set_option linter.unusedSimpArgs false

namespace MdIt.Block.Li
open MdIt.Lines (LineOffset NoTerm AllBlank lead mkOff)

/-! ### the list item as a container -/

/-- the two states share a table relation: sources, tables, block indent -/
structure Tbl (C : Ctx) (lo d : Nat) (s s' : BState) : Prop where
  pre : PreOk C.w C.pre
  lines : LinesOk C.L
  src : s.src = Lines.flat C.L
  src' : s'.src = Lines.flat (indentLines C.pre C.L)
  q : QRel C.w C.L s.offs s'.offs
  win : Win C.w d lo s.lineMax s.offs s'.offs
  blk : s'.blkIndent = s.blkIndent + d
  small : s.blkIndent ≤ Lines.byteLen (Lines.flat C.L) + 1
  dsmall : d ≤ C.w
  wsize : Lines.byteLen (Lines.flat C.L) + C.w + 8 < 2147483648

/-- the kinds of the two current nodes: equal — or, at the top of the two runs, `Root` on the `D` side and
    the list item on the other (no rule distinguishes the two) -/
def KindRel (k k' : Kind) : Prop := k' = k ∨ (k = .root ∧ k' = .listItem)

/-- the run on `D` (state `s`) and the run nested in the list item on the prefixed document (state `s'`) -/
structure Sim (C : Ctx) (lo d : Nat) (te : Bool) (s s' : BState) : Prop where
  tbl : Tbl C lo d s s'
  line : s'.line = s.line
  lineMax : s'.lineMax = s.lineMax
  tight : TRel te s.tight s'.tight
  listIndent : LIRel d s.blkIndent s.listIndent s'.listIndent
  level : s'.level = s.level + 2
  nodeKind : KindRel s.nodeKind s'.nodeKind
  children : s'.children = relocNodes (tau C.w C.L) s.children
  refs : s'.refs = s.refs

/-- the nested tokenizers correspond -/
def TokSim (C : Ctx) (tok tok' : Tok) : Prop :=
  ∀ lo d te s s' t, Sim C lo d te s s' → lo ≤ s.line → tok s = .ok t → ∃ t', tok' s' = .ok t' ∧ Sim C lo d te t t'

/-- the two configurations: the same chain and tables, two more levels of nesting allowed -/
structure CfgRel (cfg cfg' : Cfg) : Prop where
  chain : cfg'.chain = cfg.chain
  nesting : cfg'.maxNesting = cfg.maxNesting + 2
  lookup : cfg'.lookup = cfg.lookup
  lower : cfg'.L = cfg.L
  upper : cfg'.U = cfg.U

/-- the list rule raises the level once for the list and once per item -/
def itemNest (C : Ctx) : Nest := ⟨C, 2, .listItem, rfl⟩

section item
variable {C : Ctx} {lo d : Nat} {te : Bool} {s s' : BState}

theorem Tbl.nest (T : Tbl C lo d s s') : Nest.Tbl (itemNest C) lo d s s' :=
  ⟨T.pre, T.lines, T.src, T.src', T.q, T.win, T.blk, T.small, by have := T.wsize; have := T.dsmall; show Lines.byteLen (Lines.flat C.L) + d + 8 < _; omega⟩

theorem Sim.nest (S : Sim C lo d te s s') : Nest.Sim (itemNest C) lo d te s s' :=
  ⟨S.tbl.nest, S.line, S.lineMax, S.tight, S.listIndent, S.level, S.nodeKind, S.children, S.refs⟩

/-- a result of the general development read back; the two bounds `Tbl` adds do not depend on the states -/
theorem Sim.unnest (S : Sim C lo d te s s') {te' : Bool} {t t' : BState} (G : Nest.Sim (itemNest C) lo d te' t t') :
    Sim C lo d te' t t' :=
  ⟨⟨G.tbl.pre, G.tbl.lines, G.tbl.src, G.tbl.src', G.tbl.q, G.tbl.win, G.tbl.blk, G.tbl.small,
    S.tbl.dsmall, S.tbl.wsize⟩, G.line, G.lineMax, G.tight, G.listIndent, G.level, G.nodeKind, G.children, G.refs⟩

theorem CfgRel.nest {cfg cfg' : Cfg} (R : CfgRel cfg cfg') : Nest.CfgRel (itemNest C) cfg cfg' :=
  ⟨R.chain, R.nesting, R.lookup, R.lower, R.upper⟩

theorem Tbl.getLines (T : Tbl C lo d s s') (b e indent : Nat) (keep : Bool) (hb : lo ≤ b) (he : e ≤ s.lineMax)
    (hi : indent + d < 2147483648) :
    s'.getLines b e (indent + d) keep
      = Except.map (fun r => (r.1, mapTau C.w C.L r.2)) (s.getLines b e indent keep) :=
  T.nest.getLines b e indent keep hb he hi

theorem hr_sim (S : Sim C lo d te s s') (hlo : lo ≤ s.line) (hlt : s.line < s.lineMax) {b : Bool} {t : BState}
    (h : hrRule s false = .ok (b, t)) : ∃ t', hrRule s' false = .ok (b, t') ∧ Sim C lo d te t t' :=
  let ⟨t', h', G⟩ := Nest.hr_sim S.nest hlo hlt h
  ⟨t', h', S.unnest G⟩

/-- **the tokenizer nested in the list item on the prefixed document simulates the tokenizer on `D`**,
    for every fuel -/
theorem tokenize_sim {cfg cfg' : Cfg} (R : CfgRel cfg cfg') :
    ∀ fuel : Nat, TokSim C (tokenize cfg fuel) (tokenize cfg' fuel) :=
  fun fuel _ _ _ _ _ _ S hlo h =>
    let ⟨t', h', G⟩ := Nest.tokenize_sim R.nest fuel _ _ _ _ _ _ S.nest hlo h
    ⟨t', h', S.unnest G⟩

/-- the same with the `tight` flags: whatever they were at the start, at the end either they agree (the loop
    ran the chain at least once and overwrote them) or no block was parsed (`children` unchanged) -/
theorem tokenize_sim_any {cfg cfg' : Cfg} (R : CfgRel cfg cfg') {fuel : Nat} {t : BState}
    (S : Sim C lo d te s s') (hlo : lo ≤ s.line) (h : tokenize cfg fuel s = .ok t) :
    ∃ t', tokenize cfg' fuel s' = .ok t' ∧ Sim C lo d te t t' ∧ (t'.tight = t.tight ∨ t.children = s.children) :=
  let ⟨t', h', G, hor⟩ := Nest.tokenize_sim_any R.nest fuel _ _ _ _ _ _ S.nest hlo h
  ⟨t', h', S.unnest G, hor⟩
end item

end MdIt.Block.Li
