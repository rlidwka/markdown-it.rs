/-
  Helper development for the whole-document C14 statement: a NODE-SHAPE invariant through the
  inline tokenizer (partial correctness, any fuel, EVERY configuration — emphasis-like rules
  included).  It is the analogue, for node shapes, of the value invariant `vals_induction` /
  `parseInline_vals` (`Lemmas/InlineVals*.lean`): one more instance of `Lemmas/InlineWalk.lean`.

    * leaf kinds (`Text`, `TextSpecial`, `Softbreak`, `Hardbreak`) and the parser-internal
      `EmphMarker` are childless;
    * `CodeInline` / `Autolink` have exactly one child, a childless non-empty `Text`;
    * containers (`Em` / `Strong` / `Strikethrough` / `Link` / `Image`) are free.
-/
import MdIt.Lemmas.InlineText2
import MdIt.Lemmas.InlineVals2

namespace MdIt.Inline
open MdIt.InlineOps (Srcmap getSourcePosFor getMap byteLen slice)

/-- the shape property C14 demands of one inline node, by its value: leaf kinds (and the
    parser-internal `EmphMarker`) are childless; `CodeInline` / `Autolink` have exactly one child, a
    childless non-empty `Text`; containers (`Em`/`Strong`/`Strikethrough`/`Link`/`Image`) are free -/
def ShapeOK (v : Val) (cs : List Node) : Prop :=
  match v with
  | .text _ => cs = []
  | .special _ _ _ => cs = []
  | .softbreak => cs = []
  | .hardbreak => cs = []
  | .emphMarker _ _ _ _ _ => cs = []
  | .codeInline _ _ => ∃ c r, c ≠ [] ∧ cs = [⟨.text c, r, []⟩]
  | .autolink _ => ∃ c r, c ≠ [] ∧ cs = [⟨.text c, r, []⟩]
  | .wrap _ _ => True
  | .link _ _ => True
  | .image _ _ => True

mutual
/-- every node in the tree below (and including) the node has the shape its value demands -/
def AllShape : Node → Prop
  | ⟨v, _, cs⟩ => ShapeOK v cs ∧ AllShapeList cs
def AllShapeList : List Node → Prop
  | [] => True
  | c :: cs => AllShape c ∧ AllShapeList cs
end

theorem AllShape_eq (n : Node) : AllShape n ↔ ShapeOK n.val n.children ∧ AllShapeList n.children := by
  cases n; simp [AllShape]

theorem allShapeList_iff (l : List Node) : AllShapeList l ↔ ∀ n ∈ l, AllShape n := by
  induction l with
  | nil => simp [AllShapeList]
  | cons c cs ih => simp [AllShapeList, ih]

theorem AllShapeList.append {a b : List Node} (ha : AllShapeList a) (hb : AllShapeList b) :
    AllShapeList (a ++ b) := by
  rw [allShapeList_iff] at *
  intro n hn
  rcases List.mem_append.mp hn with h | h
  · exact ha n h
  · exact hb n h

theorem AllShapeList.left {a b : List Node} (h : AllShapeList (a ++ b)) : AllShapeList a := by
  rw [allShapeList_iff] at *
  exact fun n hn => h n (List.mem_append_left _ hn)

theorem AllShapeList.right {a b : List Node} (h : AllShapeList (a ++ b)) : AllShapeList b := by
  rw [allShapeList_iff] at *
  exact fun n hn => h n (List.mem_append_right _ hn)

theorem AllShapeList.single {n : Node} (h : AllShape n) : AllShapeList [n] := ⟨h, trivial⟩

/-! ## single nodes -/

/-- a childless node of a value that wants no children -/
theorem allShape_childless {v : Val} (hv : ShapeOK v []) (r : Option (Nat × Nat)) :
    AllShape ⟨v, r, []⟩ := by
  rw [AllShape_eq]; exact ⟨hv, trivial⟩

theorem allShape_newText (c : List Char) (r : Option (Nat × Nat)) : AllShape (Node.newText c r) :=
  allShape_childless (v := .text c) rfl r

theorem allShape_leaf {v : Val} (hv : ShapeOK v []) (r : Option (Nat × Nat)) :
    AllShape (Node.leaf v r) :=
  allShape_childless hv r

/-- a `Text` node of a well-shaped tree is childless -/
theorem AllShape.isText_children {n : Node} (h : AllShape n) (ht : n.isText = true) :
    n.children = [] := by
  rw [AllShape_eq] at h
  unfold Node.isText at ht
  split at ht
  · next c hv => have := h.1; rw [hv] at this; exact this
  · simp at ht

/-- an `EmphMarker` node of a well-shaped tree is childless -/
theorem AllShape.marker_children {n : Node} {m : Marker} (h : AllShape n) (hm : n.asMarker = some m) :
    n.children = [] := by
  rw [AllShape_eq, asMarker_val hm] at h
  exact h.1

/-- text → text: the value of a `Text` node replaced by another `Text` value, children kept -/
theorem AllShape.retext {n : Node} (h : AllShape n) (ht : n.isText = true) (c : List Char)
    (r : Option (Nat × Nat)) : AllShape { n with val := .text c, range := r } := by
  have hc := h.isText_children ht
  rw [AllShape_eq]
  show ShapeOK (.text c) n.children ∧ AllShapeList n.children
  rw [hc]; exact ⟨rfl, trivial⟩

/-- any node whose children are gone may carry a marker value -/
theorem allShape_remark {n : Node} (hc : n.children = []) (m : Marker) (r : Option (Nat × Nat)) :
    AllShape { n with val := m.toVal, range := r } := by
  rw [AllShape_eq]
  show ShapeOK m.toVal n.children ∧ AllShapeList n.children
  rw [hc]; exact ⟨rfl, trivial⟩

/-- `CodeInline` over one non-empty text -/
theorem allShape_code (m : Char) (k : Nat) (r ri : Option (Nat × Nat)) {c : List Char} (hc : c ≠ []) :
    AllShape { val := .codeInline m k, range := r, children := [Node.newText c ri] } := by
  rw [AllShape_eq]
  exact ⟨⟨c, ri, hc, rfl⟩, AllShapeList.single (allShape_newText _ _)⟩

/-- `Autolink` over one non-empty text -/
theorem allShape_autolink (u : List Nat) (r ri : Option (Nat × Nat)) {c : List Char} (hc : c ≠ []) :
    AllShape { val := .autolink u, range := r, children := [Node.newText c ri] } := by
  rw [AllShape_eq]
  exact ⟨⟨c, ri, hc, rfl⟩, AllShapeList.single (allShape_newText _ _)⟩

/-! ## trailing text -/

theorem trailingTextPush_shape {src : List Char} {m : Srcmap} {cs out : List Node} {a b : Nat}
    (h : trailingTextPush src m cs a b = .ok out) (hc : AllShapeList cs) : AllShapeList out := by
  rcases trailingTextPush_ok h with ⟨piece, r, rfl⟩ | ⟨init, last, c, r, rfl, ht, rfl⟩
  · exact hc.append (AllShapeList.single (allShape_newText _ _))
  · exact hc.left.append (AllShapeList.single (hc.right.1.retext ht _ _))

theorem pushText_shape {st st' : IState} {a b : Nat} (h : st.pushText a b = .ok st')
    (hc : AllShapeList st.children) : AllShapeList st'.children := by
  obtain ⟨cs, hcs, rfl⟩ := pushText_eq h
  exact trailingTextPush_shape hcs hc

/-! ## the rules without look-ahead recursion -/

theorem push_shape {st : IState} (h : AllShapeList st.children) {n : Node} (hn : AllShape n) :
    AllShapeList (st.push n).children := by
  unfold IState.push; exact AllShapeList.append h (AllShapeList.single hn)

/-- whatever a rule other than emphasis, link and image builds keeps the tree well shaped -/
theorem Built.shape {st st' : IState} (hb : Built st st') (hc : AllShapeList st.children) :
    AllShapeList st'.children := by
  cases hb with
  | cache c => exact hc
  | text _ h => exact pushText_shape h hc
  | @brk cs n r hpop =>
    have hcs : AllShapeList cs := by
      rcases trailingTextPop_ok hpop with rfl | ⟨init, last, hil, ht, rfl | ⟨c, r', rfl⟩⟩
      · exact hc
      · rw [hil] at hc; exact hc.left
      · rw [hil] at hc
        exact hc.left.append (AllShapeList.single (hc.right.1.retext ht _ _))
    refine hcs.append (AllShapeList.single (allShape_leaf ?_ _))
    split
    · exact rfl
    · exact rfl
  | hard r => exact push_shape hc (allShape_leaf (v := .hardbreak) rfl _)
  | special c m i r => exact push_shape hc (allShape_leaf (v := .special _ _ _) rfl _)
  | code c r ri hrun hnd =>
    have hne := run_content_ne _ _ backtick_size _ _ _ _ _ _ _ _ _ hrun hnd
    exact hc.append (AllShapeList.single (allShape_code _ _ _ _ hne))
  | auto r ri hne hd => exact push_shape hc (allShape_autolink _ _ _ hne)

/-! ## delimiter matching -/

theorem matchKeeps_shape (mk : Char) (room : Nat) : MatchKeeps mk room AllShape where
  remark := fun _ _ _ rg hm h => allShape_remark (h.marker_children hm) _ rg
  wrap := fun _ _ tail _ ht _ _ => (AllShape_eq _).mpr ⟨trivial, (allShapeList_iff tail).mpr ht⟩

theorem ruleEmph_shape {cfg : Cfg} {mk : Char} {csw : Bool} {st st' : IState} {silent : Bool}
    {o : Option Nat} (h : ruleEmph cfg mk csw st silent = .ok (o, st'))
    (hc : AllShapeList st.children) : AllShapeList st'.children :=
  (allShapeList_iff _).mpr
    (ruleEmph_keeps (matchKeeps_shape mk _) (fun _ _ _ _ => allShape_leaf (v := .emphMarker _ _ _ _ _) rfl _)
      h ((allShapeList_iff _).mp hc))

/-! ## the loops -/

theorem keeps_shape (cfg : Cfg) : Keeps cfg (fun _ cs => AllShapeList cs) where
  nil _ := trivial
  built _ hb hc := hb.shape hc
  text _ hp hc := pushText_shape hp hc
  emph _ h hc := ruleEmph_shape h hc
  link hmk _ hc hi := hc.append (AllShapeList.single (by
    rw [AllShape_eq]; rcases hmk with rfl | rfl <;> exact ⟨trivial, hi⟩))

/-- **The shape invariant through the whole tokenizer** (partial correctness, any fuel, every
    configuration): `tokenize` keeps "every node has the shape its value demands". -/
theorem shape_induction (cfg : Cfg) : ∀ fuel : Nat, ∀ (e : Nat) (st st' : IState),
    tokLoop cfg fuel e st = .ok st' → AllShapeList st.children → AllShapeList st'.children :=
  fun fuel e st st' h hc => (tokLoop_kept (keeps_shape cfg) fuel e st st' h hc).2

/-- every node the inline parser hands out has the shape its value demands -/
theorem parseInline_shapes (cfg : Cfg) {content : List Char} {mapping : Srcmap} {ns : List Node}
    (h : parseInline cfg content mapping = .ok ns) : AllShapeList ns := by
  unfold parseInline tokenize at h
  split at h
  · simp at h
  · next st hst =>
    simp only [Except.ok.injEq] at h; subst h
    exact shape_induction cfg _ _ _ _ hst (by unfold IState.init; trivial)

end MdIt.Inline
