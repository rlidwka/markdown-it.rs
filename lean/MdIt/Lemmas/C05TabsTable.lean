/-
  C05 for ALL sources, table side: what `get_lines` guarantees about the VIRTUAL-SPACE entries of its
  table (two consecutive entries `(k0, v)`, `(k, v)` with the same source offset, made when the
  leading tab of a line is split by `blk_indent`): `LSeg.virt` is what `C05I.LSeg` (Lemmas/C05LineTable.lean)
  says of such a pair — there two entries of DIFFERENT lines never carry the same offset —, and gives
  `C05T.VirtSp`.
  (Prefix `tb_`: this file.)
-/
import MdIt.Lemmas.C05TabsDefs

namespace MdIt.C05T
open MdIt.Lines
open MdIt.InlineOps (Srcmap getSourcePosFor)
open MdIt.C05I (SegAll segAll_get LSeg)

/-- two entries of the table with the SAME source offset: the two keys frame a run of spaces of the content
    that starts the content or sits directly behind a line feed -/
theorem _root_.MdIt.C05I.LSeg.virt {T : Prop} {src c : List Char} {hi : Nat} {x y : Nat × Nat}
    (h : LSeg T src c hi x (some y)) (hy : y.2 = x.2) :
    ∃ pre n post, c = pre ++ List.replicate n ' ' ++ post ∧ InlineOps.byteLen pre = x.1 ∧ y.1 = x.1 + n ∧
      (pre = [] ∨ ∃ pre', pre = pre' ++ ['\n']) := by
  rcases h with ⟨k', hn, _, _, _, pre, m, post, hc, hp, hk, _, hpre⟩ | ⟨pre, t, post, _, _, _, _, _, hnext⟩
  · cases hn
    exact ⟨pre, m, post, hc, hp, hk, hpre⟩
  · obtain ⟨_, _, _, h3, _⟩ := hnext
    omega

theorem tb_charAt_replicate {pre post : List Char} {n j : Nat} (hj : j < n) :
    CharAt (pre ++ List.replicate n ' ' ++ post) (InlineOps.byteLen pre + j) ' ' := by
  refine ⟨pre ++ List.replicate j ' ', List.replicate (n - j - 1) ' ' ++ post, ?_, ?_⟩
  · have : n = j + (1 + (n - j - 1)) := by omega
    conv => lhs; rw [this, ← List.replicate_append_replicate, ← List.replicate_append_replicate]
    simp [List.append_assoc]
  · rw [C05.byteLen_append, ← C05I.linesLen_eq (List.replicate j ' '), byteLen_replicate_space]

theorem tb_virtSp_of_seg {T : Prop} {src c : List Char} {hi : Nat} {m : Srcmap}
    (hs : SegAll (LSeg T src c hi) m) : VirtSp c m := by
  refine ⟨?_, ?_⟩
  · intro i k0 v k h1 h2 p hp1 hp2
    have := segAll_get hs h1
    rw [h2] at this
    obtain ⟨pre, n, post, rfl, hk0, hk, _⟩ := this.virt rfl
    simp only at hk0 hk
    have := tb_charAt_replicate (pre := pre) (post := post) (n := n) (j := p - k0) (by omega)
    rwa [show InlineOps.byteLen pre + (p - k0) = p by omega] at this
  · intro i k0 v k h1 h2
    have := segAll_get hs h1
    rw [h2] at this
    obtain ⟨pre, n, post, rfl, hk0, hk, hpre⟩ := this.virt rfl
    simp only at hk0 hk
    rcases hpre with rfl | ⟨pre', rfl⟩
    · left; simpa [InlineOps.byteLen] using hk0.symm
    · right
      refine ⟨pre', List.replicate n ' ' ++ post, by simp [List.append_assoc], ?_⟩
      rw [C05.byteLen_append] at hk0
      simp only [InlineOps.byteLen, show '\n'.utf8Size = 1 by decide] at hk0
      omega

theorem tb_single_virtSp (c : List Char) (x : Nat) : VirtSp c [(0, x)] :=
  ⟨fun i k0 v k _ h2 => by simp at h2, fun i k0 v k _ h2 => by simp at h2⟩

end MdIt.C05T

namespace MdIt.Block
open MdIt.Lines (LineOffset)

/-- **the block pass establishes `PTabs` at every placeholder**, for ALL sources -/
theorem inlSpec2_ptabs (src0 : List Char) : InlSpec2 src0 (PTabs src0) := by
  refine ⟨?_, ?_⟩
  · intro s b e c m ob oe hg hgl hbe hob hoe hkept
    obtain ⟨hs, h0⟩ := C05I.getLines_lseg (T := False) hg.geo.table hg.strict (fun f => f.elim) hbe
      (C05I.getLines_lift hgl) hoe
    have hs1 := C05I.SegAll.imp C05I.LSeg.seg hs
    exact ⟨(inlSpec2_pmapF src0).lines s b e c m ob oe hg hgl hbe hob hoe hkept,
      C05I.seg_upToAll hs1 (C05I.seg_wf hs1 h0), C05T.tb_virtSp_of_seg hs⟩
  · intro s o line content textPos textMax hg ho hline hcontent
    have hs := C05I.heading_seg (hg.geo.table _ _ ho) ho hline hcontent
    exact ⟨(inlSpec2_pmapF src0).heading s o line content textPos textMax hg ho hline hcontent,
      C05I.seg_upToAll hs (C05I.single_table content _).1, C05T.tb_single_virtSp _ _⟩

end MdIt.Block

/-! ## non-vacuity -/

namespace MdIt.C05T

/-- `"-    ` a\n\t\t`"`: item content at column 5, the two tabs of the continuation line reach
    column 8 and leave THREE virtual spaces -/
def tb_exSrc : List Char := ['-', ' ', ' ', ' ', ' ', '`', ' ', 'a', '\n', '\t', '\t', '`']

/-- its placeholder: content `"` a\n   `"`, table `[(0,5),(4,11),(7,11)]` — the entries `(4,11)`,
    `(7,11)` are a virtual-space pair -/
def tb_exC : List Char := ['`', ' ', 'a', '\n', ' ', ' ', ' ', '`']

example : (Block.parseBlocks (Pipeline.exCfg false 100).blockCfg tb_exSrc).toOption.map
      (fun r => Pipeline.inlOf r.1) = some [(tb_exC, [(0, 5), (4, 11), (7, 11)])] := by
  decide +kernel

/-- every entry of that table is `LSeg`: a real entry (line 1, `src[5..8]`, line break at 8), a
    virtual one (3 spaces on the source offset 11), a real one (`src[11..12]`) … -/
theorem tb_ex_lseg : C05I.SegAll (C05I.LSeg True tb_exSrc tb_exC 12) [(0, 5), (4, 11), (7, 11)] :=
  ⟨.inr ⟨[], ['`', ' ', 'a'], ['\n', ' ', ' ', ' ', '`'], by decide, by decide, by decide,
      ⟨['-', ' ', ' ', ' ', ' '], ['\n', '\t', '\t', '`'], by decide, by decide, by decide⟩, by decide,
      [' ', ' ', ' ', '`'], rfl, by decide, by decide,
      fun _ => ⟨['-', ' ', ' ', ' ', ' ', '`', ' ', 'a'], '\n', ['\t', '\t', '`'], by decide, by decide, .inl rfl⟩⟩,
    .inl ⟨7, rfl, ⟨['-', ' ', ' ', ' ', ' ', '`', ' ', 'a', '\n', '\t', '\t'], ['`'], by decide, by decide⟩,
      by decide, by decide, ['`', ' ', 'a', '\n'], 3, ['`'], by decide, by decide, by decide, by decide,
      .inr ⟨['`', ' ', 'a'], rfl⟩⟩,
    .inr ⟨['`', ' ', 'a', '\n', ' ', ' ', ' '], ['`'], [], by decide, by decide, by decide,
      ⟨['-', ' ', ' ', ' ', ' ', '`', ' ', 'a', '\n', '\t', '\t'], [], by decide, by decide, by decide⟩,
      by decide, rfl⟩,
    trivial⟩

/-- … hence `VirtSp`: bytes 4, 5, 6 of the content are spaces, byte 3 is a line feed; all of
    `[4, 7]` is translated to the source offset 11 of the backtick (the clamp), byte 8 to 12 -/
example : VirtSp tb_exC [(0, 5), (4, 11), (7, 11)] ∧ CharAt tb_exC 5 ' ' ∧ CharAt tb_exC 3 '\n' ∧
    InlineOps.getSourcePosFor [(0, 5), (4, 11), (7, 11)] 4 = .ok 11 ∧
    InlineOps.getSourcePosFor [(0, 5), (4, 11), (7, 11)] 6 = .ok 11 ∧
    InlineOps.getSourcePosFor [(0, 5), (4, 11), (7, 11)] 7 = .ok 11 ∧
    InlineOps.getSourcePosFor [(0, 5), (4, 11), (7, 11)] 8 = .ok 12 := by
  have hv := tb_virtSp_of_seg tb_ex_lseg
  refine ⟨hv, hv.sp 1 4 11 7 rfl rfl 5 (by decide) (by decide), ?_, by decide +kernel, by decide +kernel,
    by decide +kernel, by decide +kernel⟩
  rcases hv.ls 1 4 11 7 rfl rfl with h | h
  · exact absurd h (by decide)
  · exact h

end MdIt.C05T

/-! ## the strict line order is needed -/

namespace MdIt.C05T

/-- two empty "lines" at the same place (allowed by the weak order `lineEnd ≤ next lineStart` of
    `Block.Geo`, every entry `LineOk`): `get_lines` returns the content `"\n"` with the table
    `[(0,0),(1,0)]` — two entries of DIFFERENT lines with the same source offset, and the byte between
    the keys is the line feed, not a space: not `VirtSp`.  Real tables are `SortedS`. -/
example : Lines.getLines [] [⟨0, 0, 0, 0⟩, ⟨0, 0, 0, 0⟩] 0 2 0 false = .ok (['\n'], [(0, 0), (1, 0)]) ∧
    ¬ VirtSp ['\n'] [(0, 0), (1, 0)] := by
  refine ⟨by decide +kernel, fun h => ?_⟩
  obtain ⟨pre, post, e, _⟩ := h.sp 0 0 0 1 rfl rfl 0 (Nat.le_refl _) (by decide)
  cases pre with
  | nil => simp at e
  | cons a pre' => simp at e

end MdIt.C05T
