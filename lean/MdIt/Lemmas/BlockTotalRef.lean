/-
  No-panic development for the block model: the pure string function behind the reference rule
  (`refParse`, with `labelScan`, `wsScan`, `refTitle`, `refTrail`, `trailGo`; `Model/Block.lean`
  §reference.rs) never panics on a text whose first character is one byte long.

  Panic sites of `refParse`: `Link.slice str a b`, `Link.parseLinkDestination str pos len`,
  `Link.parseLinkTitle str pos len` (`len = Link.byteLen str`), all via `liftK`.  Every position that
  reaches one of them is the byte length of a prefix of `str` (`RWin str p`: `str[p..]` can be taken):

    * `labelScan` / `wsScan` advance by the bytes of the text they read (`labelScan_read`, `wsScan_read`,
      `Props/Block.lean` section 7);
    * the destination / title parsers answer a position of the same kind (`Link.inwin_dest`,
      `Link.inwin_title`).

  The one position that is NOT tracked is the `1` of the final `str[1..label_end]`: the Rust skips the
  first character blindly (`chars.next(); // skip '['`), so a text that starts with a multi-byte
  character panics (first example at the end of the file) — hence the hypothesis `Link.clen c = 1` of
  `refParse_total`.  The rule only applies `refParse` to `trimStr (get_lines …)`, whose first
  character is the (one byte) first non-blank character of the first line (`trimStr_head`).
-/
import MdIt.Lemmas.BlockTotalCore

namespace MdIt.Block

/-! ## positions from which the rest of the text can be sliced -/

/-- `str[p..]` can be taken: `p` is a character boundary of `str` -/
def RWin (str : List Char) (p : Nat) : Prop := Link.InWin str (Link.byteLen str) p

theorem rwin_of_split {str pre suf : List Char} {p : Nat} (h : str = pre ++ suf)
    (hp : Link.byteLen pre = p) : Link.slice str p (Link.byteLen str) = .ok suf :=
  (Link.slice_ok_iff _ _ _ _).2 ⟨pre, [], by simp [h], hp, by simp [h, Link.byteLen_append, hp]⟩

theorem RWin.of_split {str pre suf : List Char} {p : Nat} (h : str = pre ++ suf)
    (hp : Link.byteLen pre = p) : RWin str p := ⟨suf, rwin_of_split h hp⟩

/-- moving on by a prefix of the window -/
theorem RWin.drop {str pre suf : List Char} {p : Nat}
    (h : Link.slice str p (Link.byteLen str) = .ok (pre ++ suf)) :
    Link.slice str (p + Link.byteLen pre) (Link.byteLen str) = .ok suf :=
  Link.slice_drop str pre suf p _ h

/-- `wsScan` from the start of a window ends at the start of a window -/
theorem wsScan_rwin {str tail : List Char} {pos : Nat} (lines : Nat)
    (h : Link.slice str pos (Link.byteLen str) = .ok tail) : RWin str (wsScan tail pos lines).1 := by
  obtain ⟨w, suf, rfl, e⟩ := wsScan_read tail pos lines
  rw [e]
  exact ⟨suf, RWin.drop h⟩

/-! ## title and trailer -/

/-- `refTitle` never panics from a window, and the position it answers is the start of a window -/
theorem refTitle_total (cfg : Cfg) (str : List Char) (start pos lines dp dl : Nat)
    (hp : RWin str pos) (hd : RWin str dp) :
    ∃ r, refTitle cfg str (Link.byteLen str) start pos lines dp dl = .ok r ∧ RWin str r.2.1 := by
  unfold refTitle
  split
  · obtain ⟨chars, hs⟩ := hp
    obtain ⟨t, ht⟩ := Link.title_total str chars pos _ hs
    rw [ht]
    cases t with
    | none => exact ⟨_, rfl, hd⟩
    | some res => exact ⟨_, rfl, Link.inwin_title _ _ _ _ ht⟩
  · exact ⟨_, rfl, hp⟩

/-- `refTrail` never panics when both positions are window starts -/
theorem refTrail_total (str : List Char) (title : Option (List Char)) (pos lines dp dl : Nat)
    (hp : RWin str pos) (hd : RWin str dp) :
    ∃ r, refTrail str (Link.byteLen str) title pos lines dp dl = .ok r := by
  obtain ⟨t1, h1⟩ := hp
  obtain ⟨t2, h2⟩ := hd
  unfold refTrail
  rw [h1]
  simp only [liftK, bind, Except.bind]
  split
  · exact ⟨_, rfl⟩
  · split
    · rw [h2]
      simp only
      split <;> exact ⟨_, rfl⟩
    · exact ⟨_, rfl⟩

/-! ## `refParse` -/

/-- **`refParse` never panics on a text whose first character is one byte long** (in the rule: the
    `[`).  Any Unicode behind it, unterminated label, missing destination, … -/
theorem refParse_total (cfg : Cfg) (c : Char) (r : List Char) (hc : Link.clen c = 1) :
    ∃ x, refParse cfg (c :: r) = .ok x := by
  unfold refParse
  simp only [List.tail_cons, hc]
  cases hlab : labelScan false r 1 0 with
  | none => exact ⟨_, rfl⟩
  | some lab =>
    obtain ⟨le, l1, rest⟩ := lab
    obtain ⟨u, hr, hle, -⟩ := labelScan_read _ _ _ _ _ _ _ hlab
    simp only
    split
    · rename_i rest2
      -- the text is `c :: u ++ ']' :: ':' :: rest2`
      have hstr : c :: r = (c :: u ++ [']', ':']) ++ rest2 := by simp [hr]
      have hpre : Link.byteLen (c :: u ++ [']', ':']) = le + 2 := by
        simp [Link.byteLen, Link.byteLen_append, hc, clen_rb, clen_colon]; omega
      have hw0 := rwin_of_split hstr hpre
      have hw1 := wsScan_rwin l1 hw0
      generalize hws1 : wsScan rest2 (le + 2) l1 = r1 at hw1
      obtain ⟨p1, l2⟩ := r1
      simp only at hw1 ⊢
      obtain ⟨t1, ht1⟩ := hw1
      obtain ⟨dest, hdest⟩ := Link.dest_total _ _ _ _ ht1
      rw [hdest]
      simp only [liftK, bind, Except.bind]
      cases dest with
      | none => exact ⟨_, rfl⟩
      | some res =>
        simp only
        split
        · exact ⟨_, rfl⟩
        · split
          · exact ⟨_, rfl⟩
          · have hwD : RWin (c :: r) res.pos := Link.inwin_dest _ _ _ _ hdest
            obtain ⟨tail, htail⟩ := hwD
            rw [htail]
            simp only
            have hw2 := wsScan_rwin (l2 + res.lines) htail
            generalize hws2 : wsScan tail res.pos (l2 + res.lines) = r2 at hw2
            obtain ⟨p2, l3⟩ := r2
            simp only at hw2 ⊢
            obtain ⟨rt, hrt, hw3⟩ := refTitle_total cfg (c :: r) res.pos p2 l3 res.pos (l2 + res.lines)
              hw2 ⟨tail, htail⟩
            rw [hrt]
            obtain ⟨title, p3, l4⟩ := rt
            simp only at hw3 ⊢
            obtain ⟨fin, hfin⟩ := refTrail_total (c :: r) title p3 l4 res.pos (l2 + res.lines)
              hw3 ⟨tail, htail⟩
            rw [hfin]
            simp only
            cases fin with
            | none => exact ⟨_, rfl⟩
            | some tl =>
              obtain ⟨title', l5⟩ := tl
              simp only
              have hraw : Link.slice (c :: r) 1 le = .ok u :=
                (Link.slice_ok_iff _ _ _ _).2 ⟨[c], ']' :: ':' :: rest2, by simp [hr], by simp [Link.byteLen, hc],
                  by omega⟩
              rw [hraw]
              exact ⟨_, rfl⟩
    · exact ⟨_, rfl⟩

theorem refParse_nil (cfg : Cfg) : refParse cfg [] = .ok none := by
  simp [refParse, labelScan, pure, Except.pure]

theorem refParse_noPanic (cfg : Cfg) (c : Char) (r : List Char) (hc : Link.clen c = 1) :
    NoPanic (refParse cfg (c :: r)) := .of_total (refParse_total cfg c r hc)

/-! ### the exact panic condition -/

/-- every error of a `Link` operation is the slice class -/
theorem liftK_err {α : Type} (x : Except Link.Panic α) : ErrIn (· = .slice) (liftK x) := by
  intro e h
  cases x with
  | ok a => simp [liftK] at h
  | error e' => cases e'; simp [liftK] at h; exact h.symm

theorem refTitle_err (cfg : Cfg) (str : List Char) (len start pos lines dp dl : Nat) :
    ErrIn (· = .slice) (refTitle cfg str len start pos lines dp dl) := by
  unfold refTitle
  refine .ite (fun _ => ?_) fun _ => .pure _
  refine .bind (liftK_err _) fun t _ => ?_
  cases t with
  | some res => exact .pure _
  | none => exact .pure _

theorem refTrail_err (str : List Char) (len : Nat) (title : Option (List Char)) (pos lines dp dl : Nat) :
    ErrIn (· = .slice) (refTrail str len title pos lines dp dl) := by
  unfold refTrail
  refine .bind (liftK_err _) fun tail _ => ?_
  cases trailGo tail pos with
  | some _ => exact .pure _
  | none =>
    refine .ite (fun _ => ?_) fun _ => .pure _
    refine .bind (liftK_err _) fun tail2 _ => ?_
    cases trailGo tail2 dp with
    | some _ => exact .pure _
    | none => exact .pure _

theorem refParse_err (cfg : Cfg) (str : List Char) : ErrIn (· = .slice) (refParse cfg str) := by
  unfold refParse
  generalize labelScan false str.tail _ 0 = lab
  rcases lab with _ | ⟨labelEnd, lines, rest⟩
  · exact .pure _
  -- `match rest with | ':' :: rest2 => … | _ => pure none`
  dsimp only
  split
  · refine .bind (liftK_err _) fun dest _ => ?_
    cases dest with
    | none => exact .pure _
    | some res =>
      refine .orElse fun _ => ?_
      refine .orElse fun _ => ?_
      refine .bind (liftK_err _) fun tail _ => ?_
      refine .bind (refTitle_err _ _ _ _ _ _ _ _) fun ⟨title, pos, lines⟩ _ => ?_
      refine .bind (refTrail_err _ _ _ _ _ _ _) fun fin _ => ?_
      rcases fin with _ | ⟨title, lines⟩
      · exact .pure _
      refine .bind (liftK_err _) fun raw _ => ?_
      exact .pure _
  · exact .pure _

@[blockNF] theorem refTitle_nf (cfg : Cfg) (str : List Char) (a b c d e f : Nat) :
    refTitle cfg str a b c d e f = .error .fuel ↔ False :=
  ((refTitle_err cfg str a b c d e f).mono fun _ h => h ▸ by decide).never_fuel

@[blockNF] theorem refTrail_nf (str : List Char) (len : Nat) (t : Option (List Char)) (a b c d : Nat) :
    refTrail str len t a b c d = .error .fuel ↔ False :=
  ((refTrail_err str len t a b c d).mono fun _ h => h ▸ by decide).never_fuel

@[blockNF] theorem refParse_nf (cfg : Cfg) (str : List Char) : refParse cfg str = .error .fuel ↔ False :=
  ((refParse_err cfg str).mono fun _ h => h ▸ by decide).never_fuel

/-- **exact hypothesis**: the only panic of `refParse` is the slice class, and it needs a text that
    starts with a multi-byte character -/
theorem refParse_error {cfg : Cfg} {str : List Char} {e : Panic} (h : refParse cfg str = .error e) :
    e = .slice ∧ ∃ c r, str = c :: r ∧ Link.clen c ≠ 1 := by
  refine ⟨refParse_err cfg str e h, ?_⟩
  cases str with
  | nil => rw [refParse_nil] at h; cases h
  | cons c r =>
    refine ⟨c, r, rfl, fun hc => ?_⟩
    exact absurd_err h (refParse_total cfg c r hc)

/-! ## `str::trim` keeps the first non-whitespace character in front -/

theorem dropWhile_all {p : Char → Bool} : ∀ (ws : List Char) (rest : List Char),
    (∀ d ∈ ws, p d = true) → (ws ++ rest).dropWhile p = rest.dropWhile p
  | [], _, _ => rfl
  | d :: ws, rest, h => by
    simp only [List.cons_append, List.dropWhile_cons, h d (by simp), if_true]
    exact dropWhile_all ws rest (fun x hx => h x (List.mem_cons_of_mem _ hx))

theorem dropWhile_snoc {p : Char → Bool} {c : Char} (hc : p c = false) : ∀ (l : List Char),
    (l ++ [c]).dropWhile p = l.dropWhile p ++ [c]
  | [] => by simp [hc]
  | a :: t => by
    simp only [List.cons_append, List.dropWhile_cons]
    split
    · exact dropWhile_snoc hc t
    · rfl

/-- the first non-whitespace character of a text is the first character of its `trim` -/
theorem trimStr_head (ws : List Char) (c : Char) (r : List Char) (hws : ∀ d ∈ ws, isWsChar d = true)
    (hc : isWsChar c = false) : ∃ r', trimStr (ws ++ c :: r) = c :: r' := by
  unfold trimStr
  rw [dropWhile_all ws (c :: r) hws, List.dropWhile_cons, hc]
  simp only [Bool.false_eq_true, if_false, List.reverse_cons]
  rw [dropWhile_snoc hc, List.reverse_append]
  exact ⟨_, rfl⟩

/-- a text is whitespace only (`trim` is empty) or `whitespace ++ c :: r` with `c` not whitespace -/
theorem ws_split : ∀ (x : List Char), (∀ d ∈ x, isWsChar d = true) ∨
    ∃ ws c r, x = ws ++ c :: r ∧ (∀ d ∈ ws, isWsChar d = true) ∧ isWsChar c = false
  | [] => .inl (by simp)
  | a :: t => by
    cases ha : isWsChar a with
    | false => exact .inr ⟨[], a, t, rfl, by simp, ha⟩
    | true =>
      rcases ws_split t with h | ⟨ws, c, r, rfl, h1, h2⟩
      · exact .inl (by simpa [ha] using h)
      · exact .inr ⟨a :: ws, c, r, rfl, by simpa [ha] using h1, h2⟩

theorem trimStr_all_ws (x : List Char) (h : ∀ d ∈ x, isWsChar d = true) : trimStr x = [] := by
  unfold trimStr
  have := dropWhile_all (p := isWsChar) x [] h
  simp only [List.append_nil] at this
  rw [this]; rfl

/-- **`refParse` after `trim`, as the rule calls it**: no panic when the first non-whitespace
    character of the text (if any) is one byte long. -/
theorem refParse_trim_total (cfg : Cfg) (x : List Char)
    (h : ∀ ws c r, x = ws ++ c :: r → (∀ d ∈ ws, isWsChar d = true) → isWsChar c = false →
      Link.clen c = 1) : ∃ y, refParse cfg (trimStr x) = .ok y := by
  rcases ws_split x with hall | ⟨ws, c, r, rfl, h1, h2⟩
  · rw [trimStr_all_ws x hall]; exact ⟨_, refParse_nil cfg⟩
  · obtain ⟨r', hr'⟩ := trimStr_head ws c r h1 h2
    rw [hr']
    exact refParse_total cfg c r' (h ws c r rfl h1 h2)

/-- in `a ++ b :: t` with `a` and `b` one byte wide and `b` not whitespace, the first
    non-whitespace character is one byte wide -/
theorem first_nonws_ascii : ∀ (a : List Char) (b : Char) (t : List Char),
    (∀ d ∈ a, d.utf8Size = 1) → b.utf8Size = 1 → isWsChar b = false →
    ∀ ws c r, a ++ b :: t = ws ++ c :: r → (∀ d ∈ ws, isWsChar d = true) → isWsChar c = false →
      Link.clen c = 1
  | [], b, t, _, hb, hbw, ws, c, r, h, hws, _ => by
    cases ws with
    | nil => simp at h; rw [← h.1, Link.clen_eq]; exact hb
    | cons d ws' =>
      simp at h
      have := hws d (by simp)
      rw [← h.1, hbw] at this; cases this
  | a0 :: a', b, t, ha, hb, hbw, ws, c, r, h, hws, hc => by
    cases ws with
    | nil => simp at h; rw [← h.1, Link.clen_eq]; exact ha a0 (by simp)
    | cons d ws' =>
      simp at h
      exact first_nonws_ascii a' b t (fun x hx => ha x (List.mem_cons_of_mem _ hx)) hb hbw ws' c r h.2
        (fun x hx => hws x (List.mem_cons_of_mem _ hx)) hc

/-- **the shape the reference rule produces**: `get_lines` answers one-byte characters (kept
    indentation) in front of the `[` of the first line; `refParse ∘ trim` does not panic on it,
    whatever follows. -/
theorem refParse_trim_ascii (cfg : Cfg) (a : List Char) (b : Char) (t : List Char)
    (ha : ∀ d ∈ a, d.utf8Size = 1) (hb : b.utf8Size = 1) (hbw : isWsChar b = false) :
    ∃ y, refParse cfg (trimStr (a ++ b :: t)) = .ok y :=
  refParse_trim_total cfg _ (first_nonws_ascii a b t ha hb hbw)

theorem isWsChar_lbrack : isWsChar '[' = false := by decide

/-! ## the hypothesis is necessary -/

/-- which panic, if any -/
def panicOf {α : Type} : Except Panic α → Option Panic
  | .ok _ => none
  | .error e => some e

/-- FINDING (model = Rust `reference.rs`: `chars.next(); // skip '['` … `&str[1..label_end]`): a text
    whose first character is two bytes long and that is otherwise a complete definition panics at
    the final label slice. `"é]: x"` -/
example : panicOf (refParse exCfg ['é', ']', ':', ' ', 'x']) = some .slice := by decide +kernel
/-- with a one-byte first character (whatever it is) the same text is a definition -/
example : (refParse exCfg ['e', ']', ':', ' ', 'x']).toOption = some (some ([], [120], none, 0)) := by
  decide +kernel
/-- multi-byte characters anywhere behind the first are fine: `"[é]: é 'é'"` -/
example : panicOf (refParse exCfg ['[', 'é', ']', ':', ' ', 'é', ' ', '\'', 'é', '\'']) = none := by
  decide +kernel
/-- the multi-byte head does not panic when the parse gives up before the final slice: `"é]: "` -/
example : panicOf (refParse exCfg ['é', ']', ':', ' ']) = none := by decide +kernel

end MdIt.Block
