/-
  C05 for ALL sources, text clause: the last character a successful code-span rule / link rule
  consumes.
    * `codeCloserOK` : the code span ends with a backtick (the last marker of the closing run);
    * `linkCloserOK` : a link / image ends with `)` (inline form) or `]` (reference forms).
  Both characters are "solid" (neither space nor line feed): a `Text` that starts with a space right
  behind such a node is anchored on the same line, hence does not start inside the virtual spaces
  of a split tab.
  Name prefix `cl_`: about the closing character of a rule.
-/
import MdIt.Lemmas.InlineCertBase
import MdIt.Lemmas.InlineLinkEnd
import MdIt.Lemmas.KernelEval

namespace MdIt.C05T
open MdIt.Inline
open MdIt.InlineOps (byteLen slice)
open MdIt.C05 (byteLen_append slice_ok_iff)

/-- the last character a successful code-span rule consumes is the closing backtick -/
def CodeCloserOK : Prop :=
  ∀ (st st' : IState) (len : Nat), Inline.ruleBackticks st false = .ok (some len, st') →
    1 ≤ len ∧ CharAt st.src (st.pos + len - 1) '`'

/-- the last character a successful link / image rule consumes is `)` or `]` -/
def LinkCloserOK : Prop :=
  ∀ (cfg : Inline.Cfg) (skip tok : IState → Except Inline.Panic IState) (fuel : Nat)
    (mk : List Nat → Option (List Char) → Val) (en : Bool) (offset : Nat) (st st' : IState) (len : Nat),
    Inline.CalmFn skip →
    Inline.linkRule cfg skip tok fuel mk en offset st false = .ok (some len, st') →
    1 ≤ st'.pos + len ∧ ∃ x, CharAt st.src (st'.pos + len - 1) x ∧ (x = ')' ∨ x = ']')

/-! ## `CharAt` from slices -/

theorem cl_charAt_of_slice {src : List Char} {p pm : Nat} {x : Char} {r : List Char}
    (h : slice src p pm = .ok (x :: r)) : CharAt src p x :=
  tx_charAt_of_slice (u := []) h

theorem cl_charAt_of_codeSlice {src : List Char} {p pm : Nat} {x : Char} {r : List Char}
    (h : CodePair.slice src p pm = some (x :: r)) : CharAt src p x :=
  cl_charAt_of_slice ((codeSlice_eq _ _ _ _).mp h)

/-- the characters `MdIt.CodePair` reads at an offset -/
theorem cl_charAt_of_code {src : List Char} {i : Nat} {x : Char}
    (h : CodePair.charAt src i = some x) : CharAt src i x := by
  unfold CodePair.charAt at h
  cases hd : CodePair.dropB src i with
  | none => simp [hd] at h
  | some t =>
    rw [hd] at h
    obtain ⟨a, rfl, ha⟩ := CodePair.dropB_some hd
    cases t with
    | nil => simp at h
    | cons y post =>
      simp at h; subst h
      exact ⟨a, post, rfl, by rw [← codeByteLen_eq, ha]⟩

/-! ## the code span -/

theorem codeCloserOK : CodeCloserOK := by
  intro st st' len h
  rcases ruleBackticks_inv h with ⟨hn, _⟩ | ⟨oc, c, nd, r, ri, hrun, _, _, _, ho, _⟩
  · cases hn
  · cases ho
    obtain ⟨n, ms, R, hn, hR, hl, hall, _⟩ := run_found (by decide) hrun
    obtain ⟨_, _, hlen⟩ := slice_boundaries hR
    exact ⟨by omega, cl_charAt_of_code (hall _ (by omega) (by omega))⟩

/-! ## links and images -/

theorem linkCloserOK : LinkCloserOK := by
  intro cfg skip tok fuel mk en offset st st' len hq h
  obtain ⟨x, _, hx, he, hs⟩ := linkRule_closed hq h
  exact ⟨he, x, cl_charAt_of_slice hs, hx⟩

/-! ## non-vacuity: the hypotheses are satisfiable, the closers are where the theorems say -/

/-- `(st'.pos, len)` of a successful rule -/
def cl_verdict (r : RuleRes) : Option (Nat × Nat) :=
  match r with
  | .ok (some len, st') => some (st'.pos, len)
  | _ => none

/-- the configuration of `Props/Inline.lean` with the reference `[r]: u` -/
def cl_exCfg : Cfg := { exCfg 100 with refs := some [(['r'.toNat], ⟨['u'.toNat], none⟩)] }

def cl_exSt (src : List Char) (pos : Nat) : IState := { IState.init src [(0, 0)] with pos := pos }

def cl_link (src : List Char) (pos : Nat) : RuleRes :=
  linkRule cl_exCfg (fun s => skipToken cl_exCfg 50 s) (fun s => tokLoop cl_exCfg 50 s.posMax s) 50
    Val.link false 0 (cl_exSt src pos) false

-- a code span over a line feed with a double closer: 7 bytes from byte 1, the last one (byte 7) a
-- backtick; for links note `st'.pos` is where the nested run over the label stopped, not `st.pos`
example : cl_verdict (liftR (ruleBackticks (cl_exSt "x``a\n ``y".toList 1) false)) = some (1, 7) := by
  decide_lits
example : CharAt "x``a\n ``y".toList (1 + 7 - 1) '`' := ⟨"x``a\n `".toList, ['y'], by decide_lits, by decide_lits⟩
-- the inline form ends with `)`
example : cl_verdict (cl_link "x[a](b)y".toList 1) = some (3, 4) := by decide_lits
example : CharAt "x[a](b)y".toList (3 + 4 - 1) ')' := ⟨"x[a](b".toList, ['y'], by decide_lits, by decide_lits⟩
-- full, collapsed and shortcut reference end with `]`
example : cl_verdict (cl_link "x[a][r]y".toList 1) = some (3, 4) := by decide_lits
example : cl_verdict (cl_link "x[r][]y".toList 1) = some (3, 3) := by decide_lits
example : cl_verdict (cl_link "x[r]y".toList 1) = some (3, 1) := by decide_lits
example : CharAt "x[r]y".toList (3 + 1 - 1) ']' := ⟨"x[r".toList, ['y'], by decide_lits, by decide_lits⟩
-- the calm hypothesis holds of the real `skip_token`
example : CalmFn (fun s => skipToken cl_exCfg 50 s) := skipToken_calm cl_exCfg 50

end MdIt.C05T
