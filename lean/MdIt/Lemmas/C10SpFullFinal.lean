/-
  C10 with the sourcepos plugin, full version: the two invariance theorems from ONE remaining
  ingredient, the exact inline simulation (`InlineExactThm`; `Lemmas/C10SpFullInline*.lean`).
-/
import MdIt.Lemmas.C10SpFullAssembly

namespace MdIt.Pipeline
open MdIt
open MdIt.InlineOps (Srcmap getSourcePosFor byteLen)
open MdIt.C05I (NoVirt)
open MdIt.Lines (lfToCrlf)

/-- the statement of the exact inline simulation for one inline configuration -/
def InlineExactThm (icfg : Inline.Cfg) : Prop :=
  ∀ (c : List Char) (m₁ m₂ : Srcmap), Inline.MapOK c m₁ → Inline.MapOK c m₂ → MLe m₁ m₂ →
    ∀ ns₁, Inline.parseInline icfg c m₁ = .ok ns₁ →
      ∃ ns₂, Inline.parseInline icfg c m₂ = .ok ns₂ ∧ C10SP.XL c m₁ m₂ ns₁ ns₂

theorem mle_refl (m : Srcmap) : MLe m m :=
  ⟨rfl, fun i k₁ v₁ k₂ v₂ h1 h2 => by rw [h1] at h2; simp only [Option.some.injEq, Prod.mk.injEq] at h2; omega⟩

theorem inlineExact_of_tab {icfg : Inline.Cfg} (hx : InlineExactThm icfg) {src c : List Char} {m : Srcmap}
    (h : TabOK src c m) : InlineExact icfg (shiftOf src) c m (shiftMap src m) := by
  intro ns₁ ns₂ h₁ h₂
  obtain ⟨ns₂', h₂', hxl⟩ := hx c m (shiftMap src m) h.map (mapOK_shift h) (mle_shift src m) ns₁ h₁
  rw [h₂] at h₂'
  simp only [Except.ok.injEq] at h₂'
  subst h₂'
  exact xl_rmap h ns₁ ns₂ hxl

theorem inline_anchored {icfg : Inline.Cfg} (hx : InlineExactThm icfg) {src c : List Char} {m : Srcmap}
    (h : TabOK src c m) {ns : List Inline.Node} (hp : Inline.parseInline icfg c m = .ok ns) :
    ∀ n ∈ ofInlineList ns, Every (fun n => AnchK src n.kind n.range) n := by
  obtain ⟨ns₂, _, hxl⟩ := hx c m m h.map h.map (mle_refl m) ns hp
  exact xl_every h ns ns₂ hxl

/-- every placeholder of the block tree has a segmented table, in a document without split tab -/
theorem doc_tabOK (cfg : DocCfg) (src : List Char)
    (hsmall : 4 * Lines.byteLen src + 8 < 2147483648) (hpara : cfg.hasPara = true) (hnv : NoSplitTab cfg src)
    {root : Block.BNode} {refs : Refs.RefMap} (hb : Block.parseBlocks cfg.blockCfg src = .ok (root, refs)) :
    Block.AllInl (fun c m => TabOK src c m) root :=
  allInl_mp (doc_placeholder_segs cfg src hsmall hpara hb) (hnv root refs hb)

theorem onByteLf_of_onByte {src : List Char} {a : Nat} (h : Block.OnByte src a) : OnByteLf src a := by
  obtain ⟨p, c, q, h1, h2, h3, _⟩ := h
  exact ⟨p, c, q, h1, by rw [← C05I.linesLen_eq]; exact h2, h3⟩

/-- the anchoring claim for the whole tree from the one for the inline nodes of a placeholder whose
    table is `Pi` -/
theorem doc_anchored_of {Pi : List Char → Srcmap → Prop} (cfg : DocCfg) (src : List Char)
    (hsp : cfg.sourcepos = true)
    (htab : ∀ root refs, Block.parseBlocks cfg.blockCfg src = .ok (root, refs) → Block.AllInl Pi root)
    (hinl : ∀ refs c m ns, Pi c m → Inline.parseInline (cfg.inlineCfg refs) c m = .ok ns →
      ∀ n ∈ ofInlineList ns, Every (fun n => AnchK src n.kind n.range) n)
    {t : Node} (h : parseDoc cfg src = .ok t) : Every (fun n => AnchK src n.kind n.range) t := by
  unfold parseDoc at h
  split at h
  · cases h
  · rename_i root refs hb
    obtain ⟨hroot, _⟩ := Block.parseBlocks_wf hb
    have hnr := Block.parseBlocks_inlNoRange hb
    have hanch := Block.parseBlocks_anchored cfg.blockCfg src hb
    rw [afterBlocks_sp cfg hsp] at h
    split at h
    · cases h
    · rename_i t0 hs
      simp only [Except.ok.injEq] at h
      subst h
      apply spPure_everyKR
      apply joined_everyK (fun k r hk => anchK_nr src k r hk)
      obtain ⟨cs', hcs, rfl⟩ := spliceNodeG_ok ((spliceNodeG_parseInline _ root).trans hs)
      rw [spliceListG_parseInline] at hcs
      refine .mk _ (by rw [hroot]; exact anchK_nr src _ _ rfl) (spliceList_everyKR (Q := AnchK src)
        (Pb := fun _ r => ∀ a b, r = some (a, b) → a < b ∧ Block.OnByte src a) (Pi := Pi) ?_ ?_ _ cs'
        (bokL_of_facts _ hanch (htab root refs hb).child hnr.child) hcs)
      · intro k r hp _ a b hr
        exact onByteLf_of_onByte (hp a b hr).2
      · intro ct m ns hp hns
        exact hinl refs ct m ns hp hns

/-- **every attribute-rendering node of the parsed tree starts at a byte that is not a line feed** -/
theorem doc_anchored (cfg : DocCfg) (src : List Char) (hsp : cfg.sourcepos = true)
    (hx : ∀ refs, InlineExactThm (cfg.inlineCfg refs))
    (hsmall : 4 * Lines.byteLen src + 8 < 2147483648) (hpara : cfg.hasPara = true) (hnv : NoSplitTab cfg src)
    {t : Node} (h : parseDoc cfg src = .ok t) : Every (fun n => AnchK src n.kind n.range) t :=
  doc_anchored_of cfg src hsp (fun _ _ hb => doc_tabOK cfg src hsmall hpara hnv hb)
    (fun refs _ _ _ hp hns => inline_anchored (hx refs) hp hns) h

/-- final newline: it is enough that every rendered position lies inside the source -/
theorem doc_final_newline_sp_of_inside (x : Bool) (cfg : DocCfg) (src : List Char) (hsp : cfg.sourcepos = true)
    (hlast : src.getLast? ≠ some '\n' ∧ src.getLast? ≠ some '\r')
    (hchk : ∀ t, parseDoc cfg src = .ok t → allN (rendered (insideB src)) t = true) :
    renderDoc x cfg (src ++ ['\n']) = renderDoc x cfg src := by
  refine renderDoc_of_blocks_eq_sp x cfg _ _ hsp
    (Block.LE.parseBlocks_final_newline cfg.blockCfg src hlast (.inr (Block.parseBlocks_fuel _ _)))
    (insideB src) ?_ hchk
  intro r h
  have hi : C10SP.Inside src r := by simpa [insideB] using h
  have h3 : C10SP.endOff r.2 + 1 ≤ SourceMap.byteLen src := by
    unfold C10SP.endOff; split <;> have := hi.1 <;> have := hi.2 <;> omega
  simp only [posAttr]
  rw [C10SP.runSt_append_left src ['\n'] 1 0 _ (by have := hi.1; omega) (.inl hlast.2),
    C10SP.runSt_append_left src ['\n'] 1 0 _ h3 (.inl hlast.2)]

/-- LF ↦ CR LF: it is enough that the inline run of every placeholder (table `Pi`) is exact under the
    shifted table and that every rendered position is anchored -/
theorem doc_crlf_sp_of_exact {Pi : List Char → Srcmap → Prop} (x : Bool) (cfg : DocCfg) (src : List Char)
    (hsp : cfg.sourcepos = true) (hcr : '\r' ∉ src) (hinl : ∀ e, parseDoc cfg src ≠ .error (.inline e))
    (htab : ∀ root refs, Block.parseBlocks cfg.blockCfg src = .ok (root, refs) → Block.AllInl Pi root)
    (hex : ∀ refs c m, Pi c m → InlineExact (cfg.inlineCfg refs) (shiftOf src) c m (shiftMap src m))
    (hchk : ∀ t, parseDoc cfg src = .ok t → allN (rendered (anchLeB src)) t = true) :
    renderDoc x cfg (lfToCrlf src) = renderDoc x cfg src := by
  have hstrict := Block.LX.Y.parseBlocks_crlf_strict cfg.blockCfg src hcr
  have hle : Block.LE.BRes (C10SP.crlfRel src) (Block.parseBlocks cfg.blockCfg src)
      (Block.parseBlocks cfg.blockCfg (lfToCrlf src)) :=
    Block.LX.Y.BRes.toLE (fun x y h => h) (fun a b h => h) hstrict
  refine doc_crlf_sp_of_blocks_q x cfg src hsp hcr hle hinl ?_ (anchLeB src)
    (fun r h => posAttr_crlf_le src hcr r h) hchk
  intro root₁ refs₁ root₂ refs₂ h1 h2
  rcases hstrict with ⟨a, b, e1, e2, _, hc, _⟩ | ⟨e, e1, _⟩
  · rw [h1] at e1; rw [h2] at e2
    simp only [Except.ok.injEq] at e1 e2
    subst e1 e2
    have hnr := Block.parseBlocks_inlNoRange h1
    obtain ⟨k₁, r₁, c₁⟩ := root₁
    obtain ⟨k₂, r₂, c₂⟩ := root₂
    simp only [PlN2]
    exact plL2_of_nrelL (Q := Pi) (fun c m hq => hex refs₁ c m hq) c₁ c₂ hc (htab _ _ h1).child hnr.child
  · rw [h1] at e1; cases e1

/-- **C10 with sourcepos, final newline**, from the exact inline simulation -/
theorem doc_final_newline_sp_of_inline (x : Bool) (cfg : DocCfg) (src : List Char) (hsp : cfg.sourcepos = true)
    (hlast : src.getLast? ≠ some '\n' ∧ src.getLast? ≠ some '\r')
    (hx : ∀ refs, InlineExactThm (cfg.inlineCfg refs))
    (hsmall : 4 * Lines.byteLen src + 8 < 2147483648) (hpara : cfg.hasPara = true)
    (hmk : C05R.AsciiMarkers cfg.inlineChain) (hnv : NoSplitTab cfg src) :
    renderDoc x cfg (src ++ ['\n']) = renderDoc x cfg src :=
  doc_final_newline_sp_of_inside x cfg src hsp hlast fun t ht =>
    (checks_of_every (doc_anchored cfg src hsp hx hsmall hpara hnv ht)
      (doc_ranges_ok cfg src t hsmall hpara hmk hnv ht).2).1

/-- **C10 with sourcepos, LF ↦ CR LF**, from the exact inline simulation -/
theorem doc_crlf_sp_of_inline (x : Bool) (cfg : DocCfg) (src : List Char) (hsp : cfg.sourcepos = true)
    (hcr : '\r' ∉ src) (hinl : ∀ e, parseDoc cfg src ≠ .error (.inline e))
    (hx : ∀ refs, InlineExactThm (cfg.inlineCfg refs))
    (hsmall : 4 * Lines.byteLen src + 8 < 2147483648) (hpara : cfg.hasPara = true)
    (hmk : C05R.AsciiMarkers cfg.inlineChain) (hnv : NoSplitTab cfg src) :
    renderDoc x cfg (lfToCrlf src) = renderDoc x cfg src :=
  doc_crlf_sp_of_exact x cfg src hsp hcr hinl (fun _ _ hb => doc_tabOK cfg src hsmall hpara hnv hb)
    (fun refs _ _ hq => inlineExact_of_tab (hx refs) hq) fun t ht =>
    (checks_of_every (doc_anchored cfg src hsp hx hsmall hpara hnv ht)
      (doc_ranges_ok cfg src t hsmall hpara hmk hnv ht).2).2

end MdIt.Pipeline
