/-
  Helper development for C12 in reference context, BLOCK side (namespace `MdIt.Block.C12D`): the
  symbolic run of `Block.parseBlocks` on the THREE-LINE source

        D ⏎ ⏎ [k]            (`D` = a one-line reference definition, no line terminator in it)

    * `parseBlocks_def_use`   the definition is stored (key = the label normalised twice), no node is
                              made for it; then one paragraph holding `[k]`.
-/
import MdIt.Lemmas.C12DocBlock

namespace MdIt.Block.C12D
open MdIt.Lines (LineOffset byteLen NoTerm AllBlank indentWidth lead lead_bracket)
open MdIt.Block.C12 (runChain_only)

/-- the line table of  D ⏎ ⏎ [k]  with `n = byteLen D` (`D` begins with a non-blank) -/
def offs3 (n : Nat) : List LineOffset :=
  [⟨0, n, 0, 0⟩, ⟨n + 1, n + 1, n + 1, 0⟩, ⟨n + 2, n + 5, n + 2, 0⟩]

theorem splitLines_three (D rest : List Char) (hD : D = '[' :: rest) (hnt : NoTerm D) :
    Lines.splitLines (D ++ ['\n', '\n', '[', 'k', ']']) = offs3 (byteLen D) := by
  obtain ⟨fl, hsp⟩ := Lines.splitGo_line D hnt 0 ['\n', '\n', '[', 'k', ']']
  have hl : lead D = [] := by rw [hD]; exact lead_bracket rest
  unfold Lines.splitLines
  rw [hsp, hl, Lines.splitGo_term (Or.inl rfl)]
  simp only [Lines.termStep]
  rw [if_neg (by simp), if_neg (by simp), if_neg (by simp), Lines.splitGo_term (Or.inl rfl)]
  simp only [Lines.termStep]
  rw [if_neg (by simp), if_neg (by simp), if_neg (by simp)]
  rw [Lines.splitGo_other (by decide) (by decide), Lines.splitGo_found_step (by decide),
    Lines.splitGo_found_step (by decide), Lines.splitGo_nil]
  have h1 : ('[' : Char).utf8Size = 1 := by decide
  have h2 : ('k' : Char).utf8Size = 1 := by decide
  have h3 : (']' : Char).utf8Size = 1 := by decide
  simp [offs3, indentWidth, Lines.widthFrom, h1, h2, h3]

/-- a top-level state over the document  D ⏎ ⏎ [k]  (`line`, `refs`, `children`, `tight`, `level` are free); `D` begins
    with a non-blank.  The line facts are those of `OnDoc`; `offs` says where the lines start. -/
structure ThreeLine (s : BState) (D : List Char) : Prop where
  on : OnDoc [D, [], ['[', 'k', ']']] s
  offs : s.offs = offs3 (byteLen D)
  lead : lead D = []
  lineMax : s.lineMax = 3
  li : s.listIndent = none

variable {s : BState} {D : List Char}

theorem ThreeLine.blk (hs : ThreeLine s D) : s.blkIndent = 0 := hs.on.blk

/-- only `src`, `offs`, `blk_indent`, `line_max`, `list_indent` matter -/
theorem ThreeLine.of_eq (hs : ThreeLine s D) {s' : BState} (h1 : s'.src = s.src) (h2 : s'.offs = s.offs)
    (h3 : s'.blkIndent = s.blkIndent) (h4 : s'.lineMax = s.lineMax) (h5 : s'.listIndent = s.listIndent) :
    ThreeLine s' D :=
  ⟨⟨h1 ▸ hs.on.src, h2 ▸ hs.on.offs, h3 ▸ hs.on.blk, hs.on.ne, hs.on.noTerm, hs.on.last⟩, h2 ▸ hs.offs, hs.lead,
    h4 ▸ hs.lineMax, h5 ▸ hs.li⟩

theorem ThreeLine.rest (hs : ThreeLine s D) : D.dropWhile Lines.isBlank = D := by
  have := Lines.lead_append_rest D
  rwa [hs.lead] at this

theorem ThreeLine.lineIndent0 (hs : ThreeLine s D) : s.lineIndent 0 = .ok 0 := by
  simpa [hs.lead, indentWidth, Lines.widthFrom] using hs.on.lineIndent (j := 0) (by simp)

theorem ThreeLine.lineIndent2 (hs : ThreeLine s D) : s.lineIndent 2 = .ok 0 := by
  simpa [lead_bracket, indentWidth, Lines.widthFrom] using hs.on.lineIndent (j := 2) (by simp)

theorem ThreeLine.getLine0 (hs : ThreeLine s D) : s.getLine 0 = .ok D := by
  simpa [hs.rest] using hs.on.getLine (j := 0) (by simp)

theorem ThreeLine.getLine2 (hs : ThreeLine s D) : s.getLine 2 = .ok ['[', 'k', ']'] := by
  simpa [Lines.isBlank] using hs.on.getLine (j := 2) (by simp)

theorem ThreeLine.isEmpty0 (hs : ThreeLine s D) (hne : D ≠ []) : s.isEmpty 0 = false := by
  simpa [hs.rest, hne] using hs.on.isEmpty (j := 0) (by simp)

theorem ThreeLine.isEmpty1 (hs : ThreeLine s D) : s.isEmpty 1 = true := by
  simpa using hs.on.isEmpty (j := 1) (by simp)

theorem ThreeLine.isEmpty2 (hs : ThreeLine s D) : s.isEmpty 2 = false := by
  simpa [Lines.isBlank] using hs.on.isEmpty (j := 2) (by simp)

theorem ThreeLine.getMap2 (hs : ThreeLine s D) : s.getMap 2 2 = .ok (byteLen D + 2, byteLen D + 5) := by
  simp [BState.getMap, Lines.getMap, hs.offs, offs3, liftL]

theorem ThreeLine.getLines0 (hs : ThreeLine s D) :
    s.getLines 0 1 0 false = .ok (D, [(0, 0)]) := by
  obtain ⟨o, ho, h⟩ := hs.on.getLines_one (j := 0) (by simp)
  simp only [hs.offs, offs3, List.getElem?_cons_zero, Option.some.injEq] at ho
  subst ho
  exact h

theorem ThreeLine.getLines2 (hs : ThreeLine s D) :
    s.getLines 2 3 0 false = .ok (['[', 'k', ']'], [(0, byteLen D + 2)]) := by
  obtain ⟨o, ho, h⟩ := hs.on.getLines_one (j := 2) (by simp)
  simp only [hs.offs, offs3, List.getElem?_cons_succ, List.getElem?_cons_zero, Option.some.injEq] at ho
  subst ho
  exact h

theorem fresh_threeLine (D rest : List Char) (hD : D = '[' :: rest) (hnt : NoTerm D) (k : Kind)
    (refs : Refs.RefMap) : ThreeLine (BState.fresh (D ++ ['\n', '\n', '[', 'k', ']']) k refs) D := by
  have e : docOf [D, [], ['[', 'k', ']']] = D ++ ['\n', '\n', '[', 'k', ']'] := by simp [Lines.joinLines]
  refine ⟨e ▸ OnDoc.fresh (by simp) ?_ (by simp) k refs, ?_, by rw [hD]; exact lead_bracket rest, ?_, rfl⟩
  · intro l hl
    simp only [List.mem_cons, List.not_mem_nil, or_false] at hl
    rcases hl with rfl | rfl | rfl
    · exact hnt
    · intro c hc; cases hc
    · intro c hc; simp at hc; rcases hc with rfl | rfl | rfl <;> exact ⟨by decide, by decide⟩
  · simp [BState.fresh, splitLines_three D rest hD hnt]
  · simp [BState.fresh, splitLines_three D rest hD hnt, offs3]

/-! ## the rules on a line that begins with `[` -/

/-- the lazy-continuation scan stops at once in front of a blank line or the end of the input
    (`test` is never called) -/
theorem lazyScan_stop (test : Test) (setext : Bool) (fuel : Nat) (s : BState)
    (hstop : s.line + 1 ≥ s.lineMax ∨ s.isEmpty (s.line + 1) = true) :
    lazyScan test setext (fuel + 1) s s.line = .ok (s.line + 1, 0, s) := by
  simp [lazyScan, hstop]

/-- on a line  `[` ++ rest  of indent 0 (no pending list indent), in front of a blank line or the end
    of the input, every rule but the reference rule and the paragraph rule declines and hands the
    state back -/
theorem runRule_bracket (cfg : Cfg) (tok : Tok) (test : Test) (fuel : Nat) (s : BState)
    (rest : List Char) (hind : s.lineIndent s.line = .ok 0) (hline : s.getLine s.line = .ok ('[' :: rest))
    (hli : s.listIndent = none)
    (hstop : s.line + 1 ≥ s.lineMax ∨ s.isEmpty (s.line + 1) = true)
    (r : RuleId) (hr : r ≠ .paragraph) (hr' : r ≠ .reference) :
    runRule cfg tok test (fuel + 1) r s false = .ok (false, s) := by
  by_cases hl : r = .lheading
  · subst hl
    simp [runRule, lheadingRule, hind, lazyScan_stop test true fuel s hstop, pure, Except.pure]
  · refine runRule_declines hind (by omega) hline hli ?_ false
    cases r with
    | reference => exact absurd rfl hr'
    | _ => exact declines_bracket rest hr hl (.inl (by intro e; cases e))

/-- … and the reference rule declines too when the quick `[…]:` check fails -/
theorem runRule_reference_quick (cfg : Cfg) (tok : Tok) (test : Test) (fuel : Nat) (s : BState)
    (rest : List Char) (hind : s.lineIndent s.line = .ok 0) (hline : s.getLine s.line = .ok ('[' :: rest))
    (hq : refQuick false rest = false) :
    runRule cfg tok test fuel .reference s false = .ok (false, s) := by
  simp [runRule, referenceRule, hind, hline, hq, pure, Except.pure]

/-- the reference rule on a definition that fills the lines up to the next blank line / the end of
    the input: it is stored under the twice-normalised label, the state moves behind it -/
theorem runRule_reference_fire (cfg : Cfg) (tok : Tok) (test : Test) (fuel : Nat) (s : BState)
    (rest str : List Char) (mp : List (Nat × Nat))
    (hind : s.lineIndent s.line = .ok 0) (hline : s.getLine s.line = .ok ('[' :: rest))
    (hstop : s.line + 1 ≥ s.lineMax ∨ s.isEmpty (s.line + 1) = true)
    (hq : refQuick false rest = true)
    (hget : s.getLines s.line (s.line + 1) s.blkIndent false = .ok (str, mp))
    (raw href : List Nat) (title : Option (List Nat)) (lines : Nat)
    (hparse : refParse cfg (trimStr str) = .ok (some (raw, href, title, lines)))
    (hlab : (Refs.normalize cfg.L cfg.U raw).isEmpty = false) :
    runRule cfg tok test (fuel + 1) .reference s false =
      .ok (true, { s with
        refs := Refs.insertFirst s.refs (Refs.normalize cfg.L cfg.U (Refs.normalize cfg.L cfg.U raw))
                  ⟨href, title⟩,
        line := s.line + lines + 1 }) := by
  simp [runRule, referenceRule, hind, hline, hq, lazyScan_stop test false fuel s hstop, hget, hparse,
    hlab, pure, Except.pure, bind, Except.bind]

/-- the paragraph rule on a single line in front of a blank line / the end of the input -/
theorem runRule_paragraph_one (cfg : Cfg) (tok : Tok) (test : Test) (fuel : Nat) (s : BState)
    (str : List Char) (mp : List (Nat × Nat)) (rg : Nat × Nat)
    (hstop : s.line + 1 ≥ s.lineMax ∨ s.isEmpty (s.line + 1) = true)
    (hget : s.getLines s.line (s.line + 1) s.blkIndent false = .ok (str, mp))
    (hmap : s.getMap s.line s.line = .ok rg) :
    runRule cfg tok test (fuel + 1) .paragraph s false =
      .ok (true, { s with line := s.line + 1, children := s.children ++
        [⟨.paragraph, some rg, [⟨.inlineRoot str mp, none, []⟩]⟩] }) := by
  have hmap' : liftL (Lines.getMap s.offs s.line s.line) = .ok rg := hmap
  simp [runRule, paragraphRule, lazyScan_stop test false fuel s hstop, hget, psub, BState.getMap,
    hmap', BState.push, pure, Except.pure, bind, Except.bind]

/-! ## one iteration of the tokenizer loop, for any state -/

/-- an iteration on a non-blank line of non-negative indent where a rule of the chain fires and the
    line behind the block is blank: the loop goes on behind that blank line, `has_empty_lines` set -/
theorem tokLoop_step_blank (cfg : Cfg) (run : RuleId → BState → Bool → Res) (k : Nat) (he : Bool)
    (s s' : BState) (i : Int) (hlt : s.line < s.lineMax) (hne : s.isEmpty s.line = false)
    (hind : s.lineIndent s.line = .ok i) (hi : ¬ i < 0) (hlvl : s.level < cfg.maxNesting)
    (hchain : runChain run cfg.chain s false = .ok (true, s')) (hprog : s'.line > s.line)
    (hlt' : s'.line < s'.lineMax) (hbl : s'.isEmpty s'.line = true) :
    tokLoop cfg run (k + 1) he s =
      tokLoop cfg run k true { s' with tight := !he, line := s'.line + 1 } := by
  have hskip := (skipEmpty_spec s.offs s.lineMax s.line).2.2.1 hne
  have hlvl' : ¬ (s.level ≥ cfg.maxNesting) := by omega
  have hind' : liftL (Lines.lineIndent s.offs s.blkIndent s.line) = .ok i := hind
  have hle : 1 ≤ s'.line := by omega
  have hbl' : Lines.isEmpty s'.offs s'.line = true := hbl
  obtain ⟨src, offs, blk, line, lineMax, tight, li, level, nk, ch, refs⟩ := s
  simp only at hlt hne hind' hlvl' hchain hprog hskip
  have hlt2 : ¬ lineMax ≤ line := by omega
  rw [tokLoop]
  simp [hskip, hlt2, BState.lineIndent, hind', hi, hlvl', hchain, afterChain, hprog, psub, hle,
    BState.isEmpty, hlt', hbl', pure, Except.pure, bind, Except.bind]

/-! ## the run on  D ⏎ ⏎ [k] -/

/-- the paragraph the block pass makes of the third line -/
def usePara (n : Nat) : BNode :=
  ⟨.paragraph, some (n + 2, n + 5), [⟨.inlineRoot ['[', 'k', ']'] [(0, n + 2)], none, []⟩]⟩

section run
variable (cfg : Cfg) (pre post : List RuleId) (hchain : cfg.chain = pre ++ RuleId.reference :: post)
  (hpre : RuleId.paragraph ∉ pre) (hpre' : RuleId.reference ∉ pre)
  (tok : Tok) (test : Test) (fuel : Nat)
include hchain hpre hpre'

/-- the chain at line 0: the rules in front of the reference rule decline, the reference rule stores
    the definition and moves to line 1 -/
theorem runChain_line0 (hs : ThreeLine s D) (hl : s.line = 0)
    (rest : List Char) (hD : D = '[' :: rest)
    (hq : refQuick false rest = true) (htrim : trimStr D = D)
    (raw href : List Nat) (title : Option (List Nat))
    (hparse : refParse cfg D = .ok (some (raw, href, title, 0)))
    (hlab : (Refs.normalize cfg.L cfg.U raw).isEmpty = false) :
    runChain (runRule cfg tok test (fuel + 1)) cfg.chain s false =
      .ok (true, { s with
        refs := Refs.insertFirst s.refs (Refs.normalize cfg.L cfg.U (Refs.normalize cfg.L cfg.U raw))
                  ⟨href, title⟩,
        line := s.line + 0 + 1 }) := by
  have hind0 : s.lineIndent s.line = .ok 0 := by rw [hl]; exact hs.lineIndent0
  have hline0 : s.getLine s.line = .ok ('[' :: rest) := by rw [hl, hs.getLine0, hD]
  have hstop0 : s.line + 1 ≥ s.lineMax ∨ s.isEmpty (s.line + 1) = true :=
    Or.inr (by rw [hl]; exact hs.isEmpty1)
  have hget0 : s.getLines s.line (s.line + 1) s.blkIndent false = .ok (D, [(0, 0)]) := by
    rw [hl, hs.blk]; exact hs.getLines0
  have hfire := runRule_reference_fire cfg tok test fuel s rest D _ hind0 hline0 hstop0 hq hget0
    raw href title 0 (by rw [htrim]; exact hparse) hlab
  have hdecl : ∀ r ∈ pre, runRule cfg tok test (fuel + 1) r s false = .ok (false, s) := fun r hr =>
    runRule_bracket cfg tok test fuel s rest hind0 hline0 hs.li hstop0 r
      (fun h => hpre (h ▸ hr)) (fun h => hpre' (h ▸ hr))
  rw [hchain]
  exact runChain_reach hdecl hfire

end run

/-- the chain at line 2: every rule but the paragraph rule declines (the reference rule: no `]:`),
    the paragraph rule takes `[k]` -/
theorem runChain_line2 (cfg : Cfg) (hpar : RuleId.paragraph ∈ cfg.chain) (tok : Tok) (test : Test)
    (fuel : Nat) (hs : ThreeLine s D) (hl : s.line = 2) :
    runChain (runRule cfg tok test (fuel + 1)) cfg.chain s false =
      .ok (true, { s with line := s.line + 1, children := s.children ++ [usePara (byteLen D)] }) := by
  have hind : s.lineIndent s.line = .ok 0 := by rw [hl]; exact hs.lineIndent2
  have hline : s.getLine s.line = .ok ('[' :: ['k', ']']) := by rw [hl, hs.getLine2]
  have hstop : s.line + 1 ≥ s.lineMax ∨ s.isEmpty (s.line + 1) = true :=
    Or.inl (by rw [hl, hs.lineMax]; omega)
  have hget : s.getLines s.line (s.line + 1) s.blkIndent false =
      .ok (['[', 'k', ']'], [(0, byteLen D + 2)]) := by
    rw [hl, hs.blk]; exact hs.getLines2
  have hmap : s.getMap s.line s.line = .ok (byteLen D + 2, byteLen D + 5) := by
    rw [hl]; exact hs.getMap2
  have hfire := runRule_paragraph_one cfg tok test fuel s _ _ _ hstop hget hmap
  refine runChain_only _ cfg.chain s _ .paragraph hpar hfire (fun r _ hne => ?_)
  by_cases hr : r = .reference
  · subst hr
    exact runRule_reference_quick cfg tok test (fuel + 1) s ['k', ']'] hind hline (by decide)
  · exact runRule_bracket cfg tok test fuel s ['k', ']'] hind hline hs.li hstop r hne hr

/-- the tokenizer loop from line 0 of  D ⏎ ⏎ [k]: two iterations (definition; blank line skipped with
    `has_empty_lines` set; paragraph), then the end of the input -/
theorem tokLoop_three (cfg : Cfg) (pre post : List RuleId)
    (hchain : cfg.chain = pre ++ RuleId.reference :: post)
    (hpre : RuleId.paragraph ∉ pre) (hpre' : RuleId.reference ∉ pre)
    (hpar : RuleId.paragraph ∈ cfg.chain) (tok : Tok) (test : Test) (f : Nat)
    (hs : ThreeLine s D) (hl : s.line = 0) (hlv : s.level < cfg.maxNesting)
    (rest : List Char) (hD : D = '[' :: rest)
    (hq : refQuick false rest = true) (htrim : trimStr D = D)
    (raw href : List Nat) (title : Option (List Nat))
    (hparse : refParse cfg D = .ok (some (raw, href, title, 0)))
    (hlab : (Refs.normalize cfg.L cfg.U raw).isEmpty = false) :
    tokLoop cfg (runRule cfg tok test (f + 3)) (f + 3) false s =
      .ok { s with
        line := 3,
        refs := Refs.insertFirst s.refs (Refs.normalize cfg.L cfg.U (Refs.normalize cfg.L cfg.U raw))
                  ⟨href, title⟩,
        children := s.children ++ [usePara (byteLen D)],
        tight := false } := by
  have hc0 := runChain_line0 cfg pre post hchain hpre hpre' tok test (f + 2) hs hl rest hD hq htrim
    raw href title hparse hlab
  have hne : D ≠ [] := by rw [hD]; simp
  obtain ⟨s1, hs1⟩ : ∃ s1 : BState, s1 = { s with
      refs := Refs.insertFirst s.refs (Refs.normalize cfg.L cfg.U (Refs.normalize cfg.L cfg.U raw))
                ⟨href, title⟩,
      line := s.line + 0 + 1 } := ⟨_, rfl⟩
  rw [← hs1] at hc0
  have hl1 : s1.line = 1 := by rw [hs1]; show s.line + 0 + 1 = 1; omega
  have h1 : ThreeLine s1 D := by rw [hs1]; exact hs.of_eq rfl rfl rfl rfl rfl
  obtain ⟨s2, hs2⟩ : ∃ s2 : BState, s2 = { s1 with tight := !false, line := s1.line + 1 } := ⟨_, rfl⟩
  have step1 : tokLoop cfg (runRule cfg tok test (f + 3)) (f + 3) false s =
      tokLoop cfg (runRule cfg tok test (f + 3)) (f + 2) true s2 := by
    rw [hs2]
    exact tokLoop_step_blank cfg (runRule cfg tok test (f + 3)) (f + 2) false s s1 0
      (by rw [hl, hs.lineMax]; omega) (by rw [hl]; exact hs.isEmpty0 hne)
      (by rw [hl]; exact hs.lineIndent0) (by omega) hlv hc0
      (by rw [hl1, hl]; omega) (by rw [hl1, h1.lineMax]; omega) (by rw [hl1]; exact h1.isEmpty1)
  have h2 : ThreeLine s2 D := by rw [hs2]; exact h1.of_eq rfl rfl rfl rfl rfl
  have hl2 : s2.line = 2 := by rw [hs2]; show s1.line + 1 = 2; omega
  have hlv2 : s2.level < cfg.maxNesting := by rw [hs2, hs1]; exact hlv
  have hc2 := runChain_line2 cfg hpar tok test (f + 2) h2 hl2
  have step2 := tokLoop_single (run := runRule cfg tok test (f + 3)) f true
    (by rw [hl2, h2.lineMax]; omega) (by rw [hl2]; exact h2.isEmpty2)
    (by rw [hl2]; exact h2.lineIndent2) (Int.le_refl 0) hlv2 hc2
    (by show s2.line < s2.line + 1; omega)
    (by show s2.line + 1 = s2.lineMax; rw [hl2, h2.lineMax])
  rw [step1, step2, hs2, hs1]
  obtain ⟨src, offs, blk, line, lineMax, tight, li, level, nk, ch, refs⟩ := s
  simp only at hl
  subst hl
  rfl

theorem insertFirst_nil (k : List Nat) (e : Refs.Entry) : Refs.insertFirst [] k e = [(k, e)] := rfl

/-- the block pass on  D ⏎ ⏎ [k]  where `D` is a one-line reference definition: the definition is
    stored (key = the label normalised twice), no node for it; then one paragraph holding `[k]` -/
theorem parseBlocks_def_use (cfg : Cfg) (pre post : List RuleId)
    (hchain : cfg.chain = pre ++ RuleId.reference :: post)
    (hpre : RuleId.paragraph ∉ pre) (hpre' : RuleId.reference ∉ pre)
    (hpar : RuleId.paragraph ∈ cfg.chain) (hmax : 0 < cfg.maxNesting)
    (D rest : List Char) (hD : D = '[' :: rest) (hnt : NoTerm D)
    (hq : refQuick false rest = true) (htrim : trimStr D = D)
    (raw href : List Nat) (title : Option (List Nat))
    (hparse : refParse cfg D = .ok (some (raw, href, title, 0)))
    (hlab : (Refs.normalize cfg.L cfg.U raw).isEmpty = false) :
    parseBlocks cfg (D ++ ['\n', '\n', '[', 'k', ']']) =
      .ok (⟨.root, some (0, byteLen D + 5),
             [⟨.paragraph, some (byteLen D + 2, byteLen D + 5),
               [⟨.inlineRoot ['[', 'k', ']'] [(0, byteLen D + 2)], none, []⟩]⟩]⟩,
           [(Refs.normalize cfg.L cfg.U (Refs.normalize cfg.L cfg.U raw), ⟨href, title⟩)]) := by
  obtain ⟨f, hf⟩ : ∃ f, fuelFor cfg (D ++ ['\n', '\n', '[', 'k', ']']) = f + 3 :=
    ⟨(Lines.splitLines (D ++ ['\n', '\n', '[', 'k', ']'])).length +
        min cfg.maxNesting (byteLen (D ++ ['\n', '\n', '[', 'k', ']'])) + 5, by
      unfold fuelFor; omega⟩
  have hs := fresh_threeLine D rest hD hnt .root []
  have htok := tokLoop_three cfg pre post hchain hpre hpre' hpar (engine cfg (f + 2)).1
    (engine cfg (f + 2)).2 f hs rfl (by show 0 < _; exact hmax) rest hD hq htrim raw href title
    hparse hlab
  have hlen : byteLen (D ++ ['\n', '\n', '[', 'k', ']']) = byteLen D + 5 := by
    rw [Lines.byteLen_append]; rfl
  unfold parseBlocks tokenize
  rw [hf, show (engine cfg (f + 3)).1 = tokLoop cfg (runRule cfg (engine cfg (f + 2)).1
    (engine cfg (f + 2)).2 (f + 3)) (f + 3) false from rfl, htok, hlen]
  rfl

/-! ## the hypotheses are satisfiable -/

/-- the block view of the example configuration `Pipeline.exCfg`, written out (stock chain, one-row entity table,
    ASCII case tables, `max_nesting` 100) -/
def exBlockCfg : Cfg :=
  { maxNesting := 100,
    chain := [.code, .fence, .blockquote, .hr, .list, .reference, .heading, .lheading, .paragraph],
    lookup := fun s => if s = ['&', 'a', 'm', 'p', ';'] then some ['&'] else none,
    L := fun c => [if 65 ≤ c ∧ c ≤ 90 then c + 32 else c],
    U := fun c => [if 97 ≤ c ∧ c ≤ 122 then c - 32 else c] }

/-- `[k]: /u ⏎ ⏎ [k]` under the stock chain: every hypothesis of `parseBlocks_def_use` holds -/
example :
    parseBlocks exBlockCfg (['[', 'k', ']', ':', ' ', '/', 'u'] ++ ['\n', '\n', '[', 'k', ']']) =
      .ok (⟨.root, some (0, 12),
             [⟨.paragraph, some (9, 12), [⟨.inlineRoot ['[', 'k', ']'] [(0, 9)], none, []⟩]⟩]⟩,
           [([75], ⟨[47, 117], none⟩)]) :=
  parseBlocks_def_use exBlockCfg [.code, .fence, .blockquote, .hr, .list] [.heading, .lheading, .paragraph]
    rfl (by decide) (by decide) (by decide) (by decide)
    ['[', 'k', ']', ':', ' ', '/', 'u'] ['k', ']', ':', ' ', '/', 'u'] rfl
    (by unfold NoTerm; decide) (by decide) (by decide +kernel)
    [107] [47, 117] none (ok_of_toOption (by decide +kernel)) (by decide +kernel)

/-- the quick check is what keeps the reference rule off the paragraph line `[k]` -/
example : refQuick false ['k', ']'] = false := by decide

end MdIt.Block.C12D
