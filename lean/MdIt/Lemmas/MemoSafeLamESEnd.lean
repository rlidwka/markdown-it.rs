/-
  For `Props/MemoSafe.lean`, namespace `MdIt.Inline.ES`: the statements of
  `Lemmas/MemoSafeLamESDef.lean`.

    * the code-span cache: `nl_ruleBackticks`, `backOK_BE`, `landHyp_holds`, `marksHyp_BE`, `agreeHyp_BE`,
      `backL2_BE`;
    * `endHyp_holds` — `CS.endHyp_holds` without the hypothesis on the text: the one token besides the unit
      step that ends strictly inside a run of backticks is the escape of a backtick
      (`CS.just_end_interior`), and then the previous character is escaped;
    * `endEP_holds`  — a look-ahead token from a non-escaped position ends at a non-escaped position (the
      token behind the entry: `just_token`; per rule: `rule_end_esc`, over `LastChar` of
      `Lemmas/MemoSafeLamBack2.lean`);
    * `real_token`   — a token of the REAL chain: a flat rule answers the same in look-ahead mode, the
      emphasis rule takes a run of its marker, a link / image ends with `)` or `]` (so that the facts about
      look-ahead tokens serve the real chain: `real_end_esc`, and `Lemmas/C16DocTopMiss.lean`);
    * `stepEP_holds` — the same for one iteration of the REAL loop BELOW the nesting limit: `StepEP` as
      stated carries the premise "below the limit" (over the limit it would be false).
-/
import MdIt.Lemmas.MemoSafeLamESDef
import MdIt.Lemmas.MemoSafeLamCSEnd

/-! ## `MdIt.CodePair`: where new marks come from -/

namespace MdIt.CodePair

/-- every mark a call adds lies behind the call's position, with markers all the way from there -/
theorem run_new_marks (v : Variant) (m : Char) (hm1 : m.utf8Size = 1) (src : List Char)
    (pos posMax : Nat) (prev silent : Bool) (c : Cache) (r : Option Outcome) (c' : Cache)
    (h : run v m src pos posMax prev silent c = .ok (r, c')) :
    ∀ q ∈ c'.insideFailed, q ∈ c.insideFailed ∨
      (pos < q ∧ ∀ i, pos ≤ i → i < q → charAt src i = some m) := by
  have hmark : ∀ {rest : List Char}, slice src pos posMax = some (m :: rest) → ∀ (e : Cache),
      e.insideFailed = c.insideFailed →
      ∀ q ∈ (markInside v pos (pos + 1 + runLen m rest) e).insideFailed, q ∈ c.insideFailed ∨
        (pos < q ∧ ∀ i, pos ≤ i → i < q → charAt src i = some m) := by
    intro rest hu e he q hq
    rw [markInside_inside] at hq
    split at hq
    · simp only [List.mem_append, mem_interior] at hq
      rcases hq with hq | hq
      · exact .inl (he ▸ hq)
      · exact .inr ⟨hq.1, fun i h1 h2 => opener_marks hm1 hu i h1 (by omega)⟩
    · exact .inl (he ▸ hq)
  cases run_effect hm1 h with
  | declined _ => exact fun q hq => .inl hq
  | hit _ _ _ _ _ _ _ _ _ _ => exact fun q hq => .inl hq
  | table rest hu _ => exact hmark hu c rfl
  | miss rest mx hu _ _ _ =>
    intro q hq
    rw [insideFailed_done] at hq
    exact hmark hu { c with max := mx } rfl q hq

end MdIt.CodePair

namespace MdIt.Inline.ES
open MdIt.Inline
open MdIt.Inline.CS (MarksHyp AgreeHyp)
open MdIt.Inline.ES.C16Doc (Arrives firstRule_some_arrives firstRule_none_arrives firstRule_none_keeps)
open MdIt.InlineOps (byteLen slice)

/-! ## `esc` -/

theorem esc_of_last_ne {src : List Char} {v : Nat} (hv : 0 < v)
    (h : CodePair.charAt src (v - 1) ≠ some '\\') : esc src v = false := by
  have := esc_succ_of_ne h
  rwa [Nat.sub_add_cancel hv] at this

theorem esc_bs {src : List Char} {p : Nat} (hp : esc src p = false)
    (hc : CodePair.charAt src p = some '\\') : esc src (p + 1) = true := by
  simp [esc, hp, hc]

theorem esc_bs_bs {src : List Char} {p : Nat} (hp : esc src p = false)
    (h1 : CodePair.charAt src p = some '\\') : esc src (p + 2) = false := by
  have := esc_bs hp h1
  show ((CodePair.charAt src (p + 1) == some '\\') && !(esc src (p + 1))) = false
  rw [this]; simp

/-! ## the code-span cache -/

theorem nl_ruleBackticks {st st' : IState} {silent : Bool} {o : Option Nat}
    (h : ruleBackticks st silent = .ok (o, st')) (hesc : esc st.src st.pos = false)
    (hnl : NL st.src st.backticks) : NL st'.src st'.backticks := by
  obtain ⟨hsrc, oc, hrun, _⟩ := ruleBackticks_run h
  rw [hsrc]
  intro q hq
  have hq' : q ∈ st'.backticks.insideFailed := by simpa using hq
  rcases CodePair.run_new_marks _ '`' backtick_size _ _ _ _ _ _ _ _ hrun q hq' with hold | ⟨hlt, hall⟩
  · exact hnl q (by simpa using hold)
  · by_cases h1 : q = st.pos + 1
    · subst h1; rw [Nat.add_sub_cancel]; exact hesc
    · have hc := hall (q - 2) (by omega) (by omega)
      have : esc st.src (q - 2 + 1) = false := esc_succ_of_ne (by rw [hc]; decide)
      have e : q - 2 + 1 = q - 1 := by omega
      rwa [e] at this

theorem backOK_BE (cfg : Cfg) : BackOK cfg (BE cfg) := by
  intro st silent o st' h hnc hep hb
  exact ⟨CS.backOK_BC st silent o st' h hnc hb.1,
    fun hmem => nl_ruleBackticks h (hep hmem) (hb.2 hmem)⟩

theorem landHyp_holds (cfg : Cfg) (src : List Char) : LandHyp cfg (BE cfg) src :=
  fun _ _ hb hmem hk => land_unmarked (hb.2 hmem) hk

theorem marksHyp_BE (cfg : Cfg) : MarksHyp cfg (BE cfg) :=
  fun skip tok fuel st st' hb => CS.marksHyp_holds cfg skip tok fuel st st' hb.1

theorem agreeHyp_BE (cfg : Cfg) (src : List Char) : AgreeHyp (BE cfg) src :=
  fun c d pos hc hd hni => CS.agreeHyp_holds src c d pos hc.1 hd.1 hni

theorem backL2_BE (cfg : Cfg) {src : List Char} {Mtop : Nat} (hnc : CodePair.NoCut '`' src Mtop) :
    CS.BackL2 cfg (BE cfg) src Mtop :=
  fun skip tok skip' tok' fuel fuel' st0 s h a b c d hb0 hb1 =>
    CS.backL2_holds cfg hnc skip tok skip' tok' fuel fuel' st0 s h a b c d hb0.1 hb1.1

/-! ## a look-ahead token of a flat rule ends at a non-escaped position (`LastChar`, `Lemmas/MemoSafeLamBack2.lean`) -/

theorem last_ne_of_slice {src u' v : List Char} {a x : Char} {pos q : Nat}
    (h : slice src pos q = .ok (u' ++ a :: v)) (ha : a ≠ x) :
    CodePair.charAt src (pos + byteLen (u' ++ [a]) - 1) ≠ some x :=
  fun hc => ha (charAt_last h hc).symm

/-- a code span ends with a backtick -/
theorem backticks_last {st st' : IState} {n : Nat} (h : ruleBackticks st true = .ok (some n, st')) :
    CodePair.charAt st.src (st.pos + n - 1) = some '`' := by
  obtain ⟨c', hrun⟩ := (ruleBackticks_silent_some st n).mp ⟨st', h⟩
  obtain ⟨rest, ms, R, _, hms, hrun', _, ho⟩ := CodePair.run_some backtick_size hrun
  obtain ⟨hl, hle, hall, _, _⟩ := hrun'
  have hn : n = ms + (1 + CodePair.runLen '`' rest) - st.pos := by
    have := congrArg CodePair.Outcome.len ho
    simpa using this
  have hge : st.pos ≤ ms := by omega
  have := hall (ms + (1 + CodePair.runLen '`' rest) - 1) (by omega) (by omega)
  have e : ms + (1 + CodePair.runLen '`' rest) - 1 = st.pos + n - 1 := by omega
  rwa [e] at this

/-- **escape**: from a non-escaped position the token ends at a non-escaped position (an escaped
    backslash is the one token whose last character is a backslash) -/
theorem escape_end_esc {st st' : IState} {n : Nat} (h : ruleEscape st true = .ok (some n, st'))
    (hesc : esc st.src st.pos = false) : esc st.src (st.pos + n) = false := by
  have e1 : ('\\' : Char).utf8Size = 1 := by decide
  rcases escape_token h with ⟨w', _, a, hl, ha⟩ | ⟨chr, w', hw, hn⟩
  · have hpos : 0 < n := by
      obtain ⟨u', _, _, _, hb⟩ := hl
      have := Char.utf8Size_pos a
      rw [← hb, C05.byteLen_append]; simp only [byteLen]; omega
    exact esc_of_last_ne (by omega) (hl.ne (by rcases ha with rfl | rfl | rfl <;> decide))
  · have hsl := window_eq hw
    by_cases hchr : chr = '\\'
    · subst hchr
      have hn2 : n = 2 := by rw [← hn]; simp [byteLen, e1]
      subst hn2
      exact esc_bs_bs hesc (CS.charAt_of_slice hsl)
    · have hsl1 : slice st.src st.pos st.posMax = .ok (['\\'] ++ chr :: w') := hsl
      have := last_ne_of_slice hsl1 hchr
      rw [show byteLen (['\\'] ++ [chr]) = n from hn] at this
      have hpos := Char.utf8Size_pos chr
      exact esc_of_last_ne (by rw [← hn]; simp only [byteLen, e1]; omega) this

/-- a token that ends right behind `)` or `]` ends at a non-escaped position -/
theorem closedAt_esc {src : List Char} {e : Nat} (h : CS.ClosedAt src e) : esc src e = false := by
  obtain ⟨h1, x, hx, hx2⟩ := h
  apply esc_of_last_ne (by omega)
  rw [hx]
  rcases hx2 with rfl | rfl <;> decide

/-- **the flat rules in look-ahead mode**: from a non-escaped position a token ends at a non-escaped
    position -/
theorem flat_end_esc {cfg : Cfg} {skip tok : IState → Except Panic IState} {fuel : Nat} {id : RuleId}
    (hf : id.isFlat = true) {st : IState} {n : Nat} {st' : IState}
    (h : runRule cfg skip tok fuel id st true = .ok (some n, st'))
    (hesc : esc st.src st.pos = false) : esc st.src (st.pos + n) = false := by
  have hn := (runRule_flat_simple hf h).prog n rfl
  have plain : ∀ {id' : RuleId}, runRule cfg skip tok fuel id' st true = .ok (some n, st') →
      (id' = .text ∨ id' = .newline ∨ id' = .autolink ∨ id' = .entity) →
      CodePair.charAt st.src (st.pos + n - 1) ≠ some '\\' :=
    fun h' hid => let ⟨_, hl, _, ha⟩ := plain_tokenLast hid h'; hl.ne ha
  have h0 := h
  unfold runRule at h
  cases id with
  | text => exact esc_of_last_ne (by omega) (plain h0 (by simp))
  | newline => exact esc_of_last_ne (by omega) (plain h0 (by simp))
  | escape => exact escape_end_esc (liftR_ok.mp h) hesc
  | backticks =>
    apply esc_of_last_ne (by omega)
    rw [backticks_last (liftR_ok.mp h)]; decide
  | emph mk csw =>
    have h' := liftR_ok.mp h
    rw [ruleEmph_silent] at h'
    simp at h'
  | link => simp [RuleId.isFlat] at hf
  | image => simp [RuleId.isFlat] at hf
  | linkEnd => simp at h
  | autolink => exact esc_of_last_ne (by omega) (plain h0 (by simp))
  | entity => exact esc_of_last_ne (by omega) (plain h0 (by simp))

/-! ## `EndHyp` without a hypothesis on the text -/

/-- **the only memo entry that ends strictly inside a run of backticks, behind a non-escaped character, is
    the unit step**: the other one (`CS.just_end_interior`) is the escape of a backtick, behind which the
    position IS escaped -/
theorem endHyp_holds (cfg : Cfg) (B : List Char → CodePair.Cache → Prop) {src : List Char} {Mtop : Nat}
    (hnc : CodePair.NoCut '`' src Mtop) : EndHyp cfg B src Mtop := by
  intro m p k hJ hep hint hprev
  rcases CS.just_end_interior hnc hJ hint with h | ⟨hmem, hk, rest, hsl⟩
  · exact h
  · have h1 := esc_bs (hep hmem) (CS.charAt_of_slice hsl)
    have h2 := hprev hmem
    rw [show k - 1 = p + 1 by omega, h1] at h2
    cases h2

/-! ## `EndEP` -/

/-- one rule, look-ahead mode: from a non-escaped position a token ends at a non-escaped position -/
theorem rule_end_esc {cfg : Cfg} {skip tok : IState → Except Panic IState} (hq : CalmFn skip)
    (hs : SkipHypT skip) (fuel : Nat) (id : RuleId) {st : IState} (hi : LInv st)
    (hlt : st.pos < st.posMax) (hesc : esc st.src st.pos = false) {n : Nat} {st' : IState}
    (h : runRule cfg skip tok fuel id st true = .ok (some n, st')) :
    esc st.src (st.pos + n) = false := by
  by_cases hf : id.isFlat = true
  · exact flat_end_esc hf h hesc
  · have hT := (runRule_silent_T (cfg := cfg) (tok := tok) hq hs fuel id st hi hlt).ok _ _ h
    obtain ⟨_, _, hpos, _⟩ := hT
    have := CS.runRule_closedAt hq (by cases id <;> simp [RuleId.isFlat] at hf ⊢) h
    rw [hpos] at this
    exact closedAt_esc this

/-- the unit step over a character that is not a backslash ends at a non-escaped position -/
theorem unit_esc {src : List Char} {p q : Nat} {c : Char} {rest : List Char}
    (hsl : slice src p q = .ok (c :: rest)) (hc : c ≠ '\\') : esc src (p + c.utf8Size) = false := by
  have hpos := Char.utf8Size_pos c
  apply esc_of_last_ne (by omega)
  have hsl' : slice src p q = .ok ([] ++ c :: rest) := by simpa using hsl
  have := last_ne_of_slice hsl' hc
  simpa [byteLen] using this

/-- the escape rule declines at a backslash only when the backslash is the last character of the window -/
theorem escape_declines_bs {st st' : IState} {rest : List Char}
    (hw : st.window = .ok ('\\' :: rest)) (h : ruleEscape st true = .ok (none, st')) : rest = [] := by
  have hv := (ruleEscape_verdict hw h).symm
  cases rest with
  | nil => rfl
  | cons x r =>
    exfalso
    have hcore : ∃ e, Entity.escapeCore ('\\' :: x :: r) = .ok (some e) := by
      unfold Entity.escapeCore
      simp only [bne_self_eq_false, Bool.false_eq_true, if_false]
      split <;> exact ⟨_, rfl⟩
    obtain ⟨e, he⟩ := hcore
    unfold escapeLen at hv
    rw [he] at hv
    cases e <;> cases hv

/-- a look-ahead token that starts at a non-escaped position ends at a non-escaped position -/
theorem endEP_holds (cfg : Cfg) (B : List Char → CodePair.Cache → Prop) {src : List Char} {Mtop : Nat} :
    EndEP cfg B src Mtop := by
  intro m p v hJ hep hvlt hmem
  have hesc := hep hmem
  obtain ⟨hlt, ⟨id, _, n, ⟨skip, tok, fuel, s, s1, hq, hs, _, hi, hsrc, hmax, hpos, hcall, _⟩, hk⟩ |
    ⟨c, rest, hsl, hk, hall⟩⟩ := just_token hJ
  · have := rule_end_esc (cfg := cfg) (tok := tok) hq hs fuel id hi (by rw [hpos, hmax]; exact hlt)
      (by rw [hsrc, hpos]; exact hesc) hcall
    rwa [hsrc, hpos, ← hk] at this
  · by_cases hc1 : c = '\\'
    · -- the escape rule (in the chain) declined at a backslash: the window is the lone backslash
      exfalso
      subst hc1
      obtain ⟨skip, tok, fuel, s, s1, _, _, _, _, hsrc, hmax, hpos, hcall, _⟩ := (hall .escape hmem).call
      have hwin : s.window = .ok ('\\' :: rest) := by
        unfold IState.window; rw [hsrc, hpos, hmax, hsl]; rfl
      unfold runRule at hcall
      have := escape_declines_bs hwin (liftR_ok.mp hcall)
      subst this
      obtain ⟨_, _, hlen⟩ := slice_boundaries hsl
      have e1 : ('\\' : Char).utf8Size = 1 := by decide
      simp only [byteLen, e1] at hlen hk
      omega
    · rw [hk]; exact unit_esc hsl hc1

/-! ## `StepEP`: one iteration of the REAL loop, below the nesting limit -/

/-- a rule that declines in real mode keeps text, position and `pos_max` -/
theorem real_none_keeps {cfg : Cfg} {skip tok : IState → Except Panic IState} (hq : CalmFn skip)
    {fuel : Nat} {id : RuleId} {s s1 : IState}
    (h : runRule cfg skip tok fuel id s false = .ok (none, s1)) :
    s1.src = s.src ∧ s1.pos = s.pos ∧ s1.posMax = s.posMax := by
  cases runRule_did hq h with
  | flat h => exact ⟨h.simple.frame.src, h.simple.pos, h.simple.frame.posMax⟩
  | emph _ h =>
    have q := ruleEmph_simple h
    exact ⟨q.frame.src, q.pos, q.frame.posMax⟩
  | look _ hc hp => exact ⟨hc.src, hp, hc.posMax⟩

/-- the states the real chain arrives at: same text, position, `pos_max` -/
theorem arrives_real {cfg : Cfg} {skip tok : IState → Except Panic IState} (hq : CalmFn skip) {fuel : Nat}
    {rules : List RuleId} {st : IState} {id : RuleId} {x : IState}
    (hA : Arrives (fun id s => runRule cfg skip tok fuel id s false) rules st id x) :
    x.src = st.src ∧ x.pos = st.pos ∧ x.posMax = st.posMax :=
  hA.inv (I := fun x => x.src = st.src ∧ x.pos = st.pos ∧ x.posMax = st.posMax)
    (fun _ _ _ _ ⟨a, b, c⟩ h =>
      have ⟨k1, k2, k3⟩ := real_none_keeps hq h
      ⟨k1.trans a, k2.trans b, k3.trans c⟩)
    ⟨rfl, rfl, rfl⟩

/-- **a token of the REAL chain**: a flat rule answers the same in look-ahead mode on the same state; the
    emphasis rule takes a run of its marker; a link / image ends with `)` or `]` -/
theorem real_token {cfg : Cfg} (hc : ChainCoherent cfg = true)
    {skip tok : IState → Except Panic IState} (hq : CalmFn skip) {fuel : Nat} {id : RuleId}
    (hid : id ∈ cfg.chain) {s : IState} {n : Nat} {w' : IState}
    (h : runRule cfg skip tok fuel id s false = .ok (some n, w')) :
    (id.isFlat = true ∧ w'.pos = s.pos ∧ ∃ s'', runRule cfg skip tok fuel id s true = .ok (some n, s'')) ∨
    (∃ mk csw, id = .emph mk csw ∧ w'.pos = s.pos ∧ 1 ≤ n ∧
      CodePair.charAt s.src (s.pos + n - 1) = some mk) ∨
    CS.ClosedAt s.src (w'.pos + n) := by
  have hflat : ∀ (hid6 : id = .text ∨ id = .newline ∨ id = .escape ∨ id = .backticks ∨
      id = .autolink ∨ id = .entity),
      id.isFlat = true ∧ w'.pos = s.pos ∧ ∃ s'', runRule cfg skip tok fuel id s true = .ok (some n, s'') :=
    fun hid6 =>
      have hf : id.isFlat = true := by rcases hid6 with rfl | rfl | rfl | rfl | rfl | rfl <;> rfl
      ⟨hf, (flat_keeps hf h).1, real_silent_verdict id hid6 h⟩
  cases id with
  | text => exact .inl (hflat (by simp))
  | newline => exact .inl (hflat (by simp))
  | escape => exact .inl (hflat (by simp))
  | backticks => exact .inl (hflat (by simp))
  | autolink => exact .inl (hflat (by simp))
  | entity => exact .inl (hflat (by simp))
  | linkEnd => unfold runRule at h; simp at h
  | emph mk csw =>
    obtain ⟨hmk, _⟩ := coherent_marker hc hid
    unfold runRule at h
    have h' := liftR_ok.mp h
    have hpos := (ruleEmph_simple h').pos
    obtain ⟨hoff, hon⟩ := emph_real_L2 hmk h'
    cases hw : s.window with
    | error e => unfold ruleEmph at h'; rw [hw] at h'; simp at h'
    | ok w =>
      cases w with
      | nil => unfold ruleEmph at h'; rw [hw] at h'; simp at h'
      | cons c rest =>
        by_cases hcm : c = mk
        · subst hcm
          obtain ⟨n', ho, _, h1, _, hall⟩ := hon rest hw
          simp only [Option.some.injEq] at ho
          subst ho
          obtain ⟨r, hr⟩ := hall (n - 1) (by omega)
          have hat := CS.charAt_of_slice hr
          rw [show s.pos + (n - 1) = s.pos + n - 1 by omega] at hat
          exact .inr (.inl ⟨c, csw, rfl, hpos, h1, hat⟩)
        · have := (hoff c rest hw hcm).1
          simp at this
  | link => exact .inr (.inr (CS.runRule_closedAt hq (.inl rfl) h))
  | image => exact .inr (.inr (CS.runRule_closedAt hq (.inr rfl) h))

/-- one rule of a coherent chain in REAL mode: from a non-escaped position the token ends at a non-escaped
    position -/
theorem real_end_esc {cfg : Cfg} (hc : ChainCoherent cfg = true) (hmem : RuleId.escape ∈ cfg.chain)
    {skip tok : IState → Except Panic IState} (hq : CalmFn skip) {fuel : Nat} {id : RuleId}
    (hid : id ∈ cfg.chain) {s : IState} (hesc : esc s.src s.pos = false) {n : Nat} {w' : IState}
    (h : runRule cfg skip tok fuel id s false = .ok (some n, w')) :
    esc s.src (w'.pos + n) = false := by
  rcases real_token hc hq hid h with ⟨hf, hp, s'', hs⟩ | ⟨mk, csw, rfl, hp, hn, hat⟩ | hcl
  · rw [hp]; exact flat_end_esc hf hs hesc
  · -- the marker is no backslash: no rule of a coherent chain fires at a marker
    have := (coherent_marker hc hid).2 .escape hmem
    simp only [RuleId.firesAt, beq_eq_false_iff_ne, ne_eq] at this
    rw [hp]
    apply esc_of_last_ne (by omega)
    rw [hat]
    simpa using this
  · exact closedAt_esc hcl

/-- `StepEP` (which carries the premise "below the nesting limit") holds for every coherent chain.
    Over the limit the statement would be false: with `max_nesting = 0`, chain `[escape]` and the text
    `\\ab` the loop takes ONE character from the backslash (not escaped) to `a` (escaped). -/
theorem stepEP_holds (cfg : Cfg) (hc : ChainCoherent cfg = true) : StepEP cfg := by
  intro skip tok fuel st st' hq hstep hlvl hlt hep hlt' hmem
  have hesc := hep hmem
  unfold tokStep at hstep
  simp only [if_pos hlvl] at hstep
  split at hstep
  · simp at hstep
  · next len w' hfr =>
    simp only [Except.ok.injEq] at hstep
    subst hstep
    obtain ⟨id, s, hA, a4⟩ := firstRule_some_arrives _ _ _ _ hfr
    obtain ⟨a1, a2, a3⟩ := arrives_real hq hA
    have := real_end_esc hc hmem hq hA.mem (s := s) (by rw [a1, a2]; exact hesc) a4
    rw [a1] at this
    exact this
  · next w' hfr =>
    obtain ⟨b1, b2, b3⟩ := firstRule_none_keeps
      (I := fun x => x.src = st.src ∧ x.pos = st.pos ∧ x.posMax = st.posMax) _ _ _ hfr
      (fun _ _ _ _ ⟨a, b, c⟩ h =>
        have ⟨k1, k2, k3⟩ := real_none_keeps hq h
        ⟨k1.trans a, k2.trans b, k3.trans c⟩) ⟨rfl, rfl, rfl⟩
    obtain ⟨ch, hch, hp, _, _, _, _, _⟩ := fallback_keeps hstep
    unfold firstChar at hch
    split at hch
    · simp at hch
    · simp at hch
    · next c1 rest hw =>
      simp only [Except.ok.injEq] at hch
      subst hch
      have hsl : slice st.src st.pos st.posMax = .ok (c1 :: rest) := by
        have := window_eq (liftR_ok.mp hw)
        rwa [b1, b2, b3] at this
      rw [hp, b2]
      by_cases hc1 : c1 = '\\'
      · exfalso
        subst hc1
        obtain ⟨s, s1, hA, d4⟩ := firstRule_none_arrives _ _ _ hfr .escape hmem
        obtain ⟨d1, d2, d3⟩ := arrives_real hq hA
        obtain ⟨s'', hs''⟩ := real_silent_verdict .escape (by simp) d4
        unfold runRule at hs''
        have hwin : s.window = .ok ('\\' :: rest) := by
          unfold IState.window
          rw [d1, d2, d3, hsl]; rfl
        have := escape_declines_bs hwin (liftR_ok.mp hs'')
        subst this
        obtain ⟨_, _, hlen⟩ := slice_boundaries hsl
        have e1 : ('\\' : Char).utf8Size = 1 := by decide
        simp only [byteLen, e1] at hlen
        rw [hp, b2, e1] at hlt'
        omega
      · exact unit_esc hsl hc1

end MdIt.Inline.ES
