/-
  C05, block side: the walk over the nine block rules, for the strengthened geometric invariant.

  `Block.Geo` (Lemmas/C05BlockGeo.lean) is too weak for the claim about `InlineRoot` placeholders the inline
  range theorems need (`Lemmas/C05InlineTables.lean`, FINDING).  `Geo2 src0 s` adds
    * `s.src = src0`            (so a claim about a placeholder may mention the document: "tab-free");
    * `SortedS s.offs`          lines STRICTLY separated (`lineEnd < next lineStart`);
    * `kept`                    of every line still to come (`line ≤ k < line_max`) `get_lines(.., blk_indent, ..)`
                                keeps blanks only (`C05I.KeptBlank`): the columns beyond `blk_indent`
                                of the stretch `line_start .. first_nonspace` never reach back into a
                                container marker.
  `Geo3` adds `C05R.TermOk`: every line of the table ends at the end of the document or in front of its
  terminator (a claim about `src` and the `lineEnd` fields, which `Refines` leaves alone).
  The walk (one lemma per rule, read off the inversion lemmas of Props/Block.lean section 2; loop and
  tokenizer are instances of `tokLoop_keeps` / `tokenize_keeps`) shows that the tokenizer keeps `KidsOk P` for
  every claim `P` about placeholders that their producers establish from `Geo3` (`InlSpecI`; the three fixed
  interfaces `InlSpec` — from `Geo` —, `InlSpec2` — from `Geo2` —, `InlSpec3` — from `Geo3` — are weakenings of it,
  each converted once by its `.toI`); the two
  containers re-establish `Geo3` for the nested run (`bqScan_kept`, `itemRewrite_kept`, `KeptBlank.mono` for
  the following lines of a list item whose `blk_indent` grew).  `parseBlocks_geoI` is the theorem about the
  block tree; `parseBlocks_geo2`, `parseBlocks_geo` (Props/C05Doc.lean) and `parseBlocks_geo3`
  (Lemmas/C05RestGeo.lean) are instances.
-/
import MdIt.Lemmas.C05InlineLower

namespace MdIt.Block
open MdIt.Lines (LineOffset)
open MdIt.C05I (KeptBlank)

theorem Refines.sortedS {offs offs' : List LineOffset} (h : Refines offs offs') (hs : SortedS offs) :
    SortedS offs' := by
  intro i j o o' hij hi hj
  obtain ⟨a, ha⟩ := h.get' hi
  obtain ⟨b, hb⟩ := h.get' hj
  have e1 := h.entry i a o ha hi
  have e2 := h.entry j b o' hb hj
  have := hs i j a b hij ha hb
  omega

structure Geo2 (src0 : List Char) (s : BState) : Prop where
  geo : Geo s
  srcEq : s.src = src0
  strict : SortedS s.offs
  kept : ∀ (k : Nat) (o : LineOffset), s.line ≤ k → k < s.lineMax → s.offs[k]? = some o →
    KeptBlank s.src s.blkIndent o

theorem Geo2.of_eq {src0 : List Char} {s s' : BState} (h : Geo2 src0 s) (h1 : s'.src = s.src)
    (h2 : s'.offs = s.offs) (h3 : s'.blkIndent = s.blkIndent) (h4 : s'.lineMax ≤ s.lineMax)
    (h5 : s.line ≤ s'.line) : Geo2 src0 s' :=
  ⟨h.geo.of_eq h1 h2, h1.trans h.srcEq, by rw [h2]; exact h.strict,
    fun k o hk hm ho => by rw [h1, h3]; exact h.kept k o (by omega) (by omega) (by rw [← h2]; exact ho)⟩

theorem Geo2.of_frame {src0 : List Char} {s s' : BState} (h : Geo2 src0 s) (hf : Frame s s')
    (hl : s.line ≤ s'.line) : Geo2 src0 s' :=
  h.of_eq hf.src hf.offs hf.blkIndent (Nat.le_of_eq hf.lineMax) hl

theorem c05i_usizeAsI32_zero : Lines.usizeAsI32 0 = 0 := by decide

theorem geo2_fresh (src : List Char) (hsmall : 4 * Lines.byteLen src + 8 < 2147483648) (k : Kind)
    (refs : Refs.RefMap) : Geo2 src (BState.fresh src k refs) := by
  refine ⟨geo_fresh src hsmall k refs, rfl, ?_, ?_⟩
  · intro i j o o' hij hi hj
    exact Lines.offsets_increasing (Lines.split_offsets_valid src) i j o o' hij hi hj
  · intro i o _ _ ho
    simp only [BState.fresh] at ho ⊢
    obtain ⟨A, lt, B, _, _, rfl, hsrc, _, _⟩ := Lines.split_entry ho
    intro ws hws
    have hl := Lines.lead_append_rest lt.1
    -- the slice is the run of leading blanks
    have hws' : Lines.slice src (Lines.mkOff (Lines.byteLen (Lines.flat A)) lt).lineStart
        (Lines.mkOff (Lines.byteLen (Lines.flat A)) lt).firstNonspace = .ok (Lines.lead lt.1) := by
      refine Lines.slice_eq_ok_iff.mpr ⟨Lines.flat A, lt.1.dropWhile Lines.isBlank ++ (lt.2 ++ Lines.flat B), ?_, ?_, ?_⟩
      · conv => lhs; rw [hsrc, ← hl]
        simp [List.append_assoc]
      · simp [Lines.mkOff]
      · simp [Lines.mkOff, Lines.byteLen_lead]
    rw [hws'] at hws
    cases hws
    exact C05I.AllBlank.suffix (Lines.lead_allBlank _) (Lines.dropB_suffix _ _)

/-! ## the two container rewritings keep blanks only -/

theorem rewrite_kept {src : List Char} {o : LineOffset} (hl : LineOk src o) {ltxt : List Char}
    (hlt : Lines.slice src o.lineStart o.lineEnd = .ok ltxt) {rel ind fn : Nat}
    (hf : Lines.findIndentOf ltxt rel = .ok (ind, fn)) (x : Int) (hx : x ≤ (ind : Int)) :
    ∀ ws, Lines.slice src o.lineStart (fn + o.lineStart) = .ok ws →
      Lines.AllBlank (Lines.dropB ws (Lines.calcRightWs ws x).2) := by
  obtain ⟨p, run, -, hs, hrun, hind, hle, -⟩ := rewrite_ws hl hlt hf
  intro ws hws
  rw [hs] at hws
  cases hws
  exact C05I.AllBlank.suffix hrun (C05I.kept_of_run p run x (by omega))

theorem bqRewrite_kept {src : List Char} {o o' : LineOffset} {rest : List Char} {le : Bool}
    (h : bqRewrite src o rest = .ok (o', le)) (hl : LineOk src o) : KeptBlank src 0 o' := by
  obtain ⟨ltxt, ind, fn, ia, hlt, -, hf, h1, -, rfl⟩ := bqRewrite_ok h
  intro ws hws
  exact rewrite_kept hl hlt hf _ (by rw [c05i_usizeAsI32_zero]; simp only; omega) ws hws

/-- the content indent of a list item is behind the marker's indent, and small -/
theorem itemRewrite_indent {src : List Char} {o o' : LineOffset} {pos indent : Nat} {re : Bool}
    (h : itemRewrite src o pos = .ok (o', indent, re)) (hl : LineOk src o) (hi : IndOk o)
    (hsmall : 4 * Lines.byteLen src + 8 < 2147483648) :
    0 ≤ o.indentNonspace ∧ o.indentNonspace.toNat ≤ indent ∧ indent + 4 < 2147483648 := by
  obtain ⟨ltxt, f1, f2, h0, hlt, hle, hle2, hf, rfl, rfl, rfl⟩ := itemRewrite_ok h
  have hfb := Lines.find_indent_bounds _ _ _ _ hf
  have hlen := lineOk_slice_len hl hlt
  have hb := hl.bounds
  unfold IndOk at hi
  have hind4 : (if f2 == o.lineEnd - o.lineStart then 1 else if f1 > 4 then 1 else f1) ≤ 4 := by
    split
    · omega
    · split <;> omega
  generalize (if f2 == o.lineEnd - o.lineStart then 1 else if f1 > 4 then 1 else f1) = ia at *
  refine ⟨h0, by omega, by omega⟩

theorem itemRewrite_kept {src : List Char} {o o' : LineOffset} {pos indent : Nat} {re : Bool}
    (h : itemRewrite src o pos = .ok (o', indent, re)) (hl : LineOk src o) (hi : IndOk o)
    (hsmall : 4 * Lines.byteLen src + 8 < 2147483648) : KeptBlank src indent o' := by
  have hsm := (itemRewrite_indent h hl hi hsmall).2.2
  obtain ⟨ltxt, f1, f2, -, hlt, -, -, hf, rfl, rfl, rfl⟩ := itemRewrite_ok h
  intro ws hws
  simp only at hws ⊢ hsm
  generalize (if f2 == _ then 1 else if f1 > 4 then 1 else f1) = ia at *
  rw [usizeAsI32_small (by omega)]
  exact rewrite_kept hl hlt hf _ (by omega) ws hws

theorem keptBlank_neg {src : List Char} {o : LineOffset} :
    KeptBlank src 0 { o with indentNonspace := -1 } :=
  C05I.keptBlank_of_le (by rw [c05i_usizeAsI32_zero]; simp)

/-- the lines the block-quote scan went over keep blanks only (at `blk_indent = 0`) -/
theorem bqScan_kept {test : Test} (ht : TestPure test) (m0 : Nat) :
    ∀ (fuel : Nat) (S : BState) (m : Nat) (old : List LineOffset) (le : Bool)
      (n : Nat) (old' : List LineOffset) (S' : BState),
      bqScan test fuel S m old le = .ok (n, old', S') → TableOk S →
      (∀ k o, m0 ≤ k → k < m → S.offs[k]? = some o → KeptBlank S.src 0 o) →
      ∀ k o, m0 ≤ k → k < n → S'.offs[k]? = some o → KeptBlank S'.src 0 o := by
  intro fuel
  induction fuel with
  | zero => intro S m old le n old' S' h; simp [bqScan] at h
  | succ f ih =>
    intro S m old le n old' S' h hT hprev
    -- an entry `x` that keeps blanks only is written at line `m`, the scan goes on behind it
    have hstep : ∀ {S0 S1 : BState} {x : LineOffset}, S0.setOff m x = .ok S1 → S0.src = S.src →
        S0.offs = S.offs → KeptBlank S.src 0 x →
        ∀ k o, m0 ≤ k → k < m + 1 → S1.offs[k]? = some o → KeptBlank S1.src 0 o := by
      intro S0 S1 x hset hsrc hoffs hx k o hk hkm ho
      obtain ⟨hm, rfl⟩ := setOff_ok hset
      simp only [List.getElem?_set] at ho
      rw [show ({ S0 with offs := S0.offs.set m x } : BState).src = S.src from hsrc]
      split at ho
      · rw [hoffs] at hm
        simp [hm] at ho; subst ho; exact hx
      · rw [hoffs] at ho
        exact hprev k o hk (by omega) ho
    rcases bqScan_ok h with ⟨-, rfl, -, rfl⟩ | ⟨ind, line, -, -, -, ⟨-, rfl, -, rfl⟩ | ⟨c, rest, -,
      ⟨-, -, o, o', le', S1, hoff, hrw, hset, hrec⟩ | ⟨-, ⟨-, rfl, -, rfl⟩ | ⟨t, S1, -, htest, hcase⟩⟩⟩⟩
    · exact hprev
    · exact hprev
    · have hlo := hT _ _ (off_ok hoff)
      exact ih _ _ _ _ _ _ _ hrec (hT.setOff hset ((bqRewrite_spec hrw).1 hlo))
        (hstep hset rfl rfl (bqRewrite_kept hrw hlo))
    · exact hprev
    · cases ht _ _ htest
      rcases hcase with ⟨-, -, rfl, -, rfl⟩ | ⟨-, -, o, hoff, hset, rfl, -⟩ | ⟨-, o, S2, hoff, hset, hrec⟩
      · exact hprev
      · obtain ⟨hm, rfl⟩ := setOff_ok hset
        intro k x hk hkm hx
        simp only [List.getElem?_set] at hx
        split at hx
        · omega
        · exact hprev k x hk hkm hx
      · have hlo := hT _ _ (off_ok hoff)
        refine ih _ _ _ _ _ _ _ hrec (hT.setOff (s := { S with line := m }) hset (by
          obtain ⟨p, a, b, q, h1, h2, h3, h4, h5, h6⟩ := hlo
          exact ⟨p, a, b, q, h1, h2, h3, h4, h5, h6⟩)) (hstep hset rfl rfl keptBlank_neg)

theorem Refines.termOk {src : List Char} {offs offs' : List LineOffset} (h : Refines offs offs')
    (ht : C05R.TermOk src offs) : C05R.TermOk src offs' := by
  intro k o' ho'
  obtain ⟨o, ho⟩ := h.get' ho'
  rw [(h.entry k o o' ho ho').2.1]
  exact ht k o ho

/-- `Geo2` plus: every line ends in front of a line terminator (or at the end of the document) -/
structure Geo3 (src0 : List Char) (s : BState) : Prop where
  g2 : Geo2 src0 s
  term : C05R.TermOk s.src s.offs

theorem Geo3.of_eq {src0 : List Char} {s s' : BState} (h : Geo3 src0 s) (h1 : s'.src = s.src)
    (h2 : s'.offs = s.offs) (h3 : s'.blkIndent = s.blkIndent) (h4 : s'.lineMax ≤ s.lineMax)
    (h5 : s.line ≤ s'.line) : Geo3 src0 s' :=
  ⟨h.g2.of_eq h1 h2 h3 h4 h5, by rw [h1, h2]; exact h.term⟩

theorem Geo3.of_frame {src0 : List Char} {s s' : BState} (h : Geo3 src0 s) (hf : Frame s s')
    (hl : s.line ≤ s'.line) : Geo3 src0 s' :=
  h.of_eq hf.src hf.offs hf.blkIndent (Nat.le_of_eq hf.lineMax) hl

/-- what the rules that make placeholders must establish, from the strengthened invariant -/
structure InlSpec2 (src0 : List Char) (P : InlP) : Prop where
  /-- paragraph, setext heading: `get_lines(b, e, blk_indent, false)` -/
  lines : ∀ (s : BState) (b e : Nat) (c : List Char) (m : List (Nat × Nat)) (ob oe : LineOffset),
    Geo2 src0 s → s.getLines b e s.blkIndent false = .ok (c, m) → b < e →
    s.offs[b]? = some ob → s.offs[e - 1]? = some oe → KeptBlank s.src s.blkIndent ob →
    P c m ob.firstNonspace oe.lineEnd
  /-- ATX heading: a slice of the line -/
  heading : ∀ (s : BState) (o : LineOffset) (line content : List Char) (textPos textMax : Nat),
    Geo2 src0 s → s.offs[s.line]? = some o → s.getLine s.line = .ok line →
    liftL (Lines.slice line textPos textMax) = .ok content →
    P content [(0, o.firstNonspace + textPos)] o.firstNonspace o.lineEnd

/-- what the producers of placeholders must establish, from `Geo3`; `fallback` (the no-paragraph fallback
    of `tokenize`) only without the paragraph rule: with it the fallback is dead code (`runChain_para`) -/
structure InlSpecI (para : Bool) (src0 : List Char) (P : InlP) :
    Prop where
  lines : ∀ (s : BState) (b e : Nat) (c : List Char) (m : List (Nat × Nat)) (ob oe : LineOffset),
    Geo3 src0 s → s.getLines b e s.blkIndent false = .ok (c, m) → b < e →
    s.offs[b]? = some ob → s.offs[e - 1]? = some oe → KeptBlank s.src s.blkIndent ob →
    P c m ob.firstNonspace oe.lineEnd
  heading : ∀ (s : BState) (o : LineOffset) (line content : List Char) (textPos textMax : Nat),
    Geo3 src0 s → s.offs[s.line]? = some o → s.getLine s.line = .ok line →
    liftL (Lines.slice line textPos textMax) = .ok content →
    P content [(0, o.firstNonspace + textPos)] o.firstNonspace o.lineEnd
  fallback : para = false → ∀ (s : BState) (o : LineOffset) (l : List Char),
    Geo3 src0 s → s.offs[s.line]? = some o → s.getLine s.line = .ok l →
    P (l ++ ['\n']) [(0, o.firstNonspace)] o.firstNonspace o.lineEnd

def KeepsGeoI (src0 : List Char) (P : InlP) (s s' : BState) : Prop :=
  ∀ lo, Geo3 src0 s → StartsGe s lo → KidsOk P s lo → KidsOk P s' lo

theorem KeepsGeo.toI {src0 : List Char} {P : InlP} {s s' : BState} (h : KeepsGeo P s s') :
    KeepsGeoI src0 P s s' := fun lo hg => h lo hg.g2.geo

theorem KeepsGeoI.refl (src0 : List Char) (P : InlP) (s : BState) : KeepsGeoI src0 P s s :=
  fun _ _ _ h => h

def TokGeoI (src0 : List Char) (P : InlP) (tok : Tok) : Prop :=
  ∀ s s', tok s = .ok s' → KeepsGeoI src0 P s s'

theorem heading_geoI {para : Bool} {src0 : List Char} {P : InlP} (hP : InlSpecI para src0 P) {s s' : BState}
    {b : Bool} (h : headingRule s false = .ok (b, s')) : KeepsGeoI src0 P s s' := by
  rcases headingRule_ok h with ⟨-, rfl⟩ | ⟨_, line, _, _, _, -, -, hline, -, -, -, ⟨⟨⟩, -⟩ |
    ⟨-, content, o, r, hslice, hoff, hr, rfl⟩⟩
  · exact KeepsGeoI.refl _ _ _
  intro lo hg2 hs hk
  have hg := hg2.g2.geo
  obtain ⟨_, oa, ob, ha, hb, rfl⟩ := getMap_ok5 hr
  rw [ha] at hb; cases hb
  have ho := off_ok hoff
  rw [ha] at ho; cases ho
  obtain ⟨g1, g2, g3, g4⟩ := hg.map_ok (Nat.le_refl _) ha ha
  have hp := hP.heading s _ _ _ _ _ hg2 ha hline hslice
  exact hk.push hg ha ha (Nat.le_refl _) spanB_range
    (rangedB_text _ g2 g3 g4 hp (Nat.le_refl _) g2 (Nat.le_refl _)) (hs _ _ (Nat.le_refl _) ha).1
    g1 g2 (Nat.le_refl _) rfl rfl rfl (by simp)

theorem paragraph_geoI {para : Bool} {src0 : List Char} {P : InlP} (hP : InlSpecI para src0 P) {test : Test}
    (ht : TestPure test) {fuel : Nat} {s s' : BState} {b : Bool}
    (h : paragraphRule test fuel s false = .ok (b, s')) (hl : s.line < s.lineMax) :
    KeepsGeoI src0 P s s' := by
  rcases paragraphRule_ok h with ⟨⟨⟩, -⟩ | ⟨nextLine, lvl, S, content, mapping, r, -, hscan, hgl, hle, hr, -, rfl⟩
  obtain ⟨h1, h2, _, _⟩ := lazyScan_spec ht hscan
  subst h1
  intro lo hg2 hs hk
  have hg := hg2.g2.geo
  obtain ⟨hab, oa, ob, ha, hb, rfl⟩ := getMap_ok5 hr
  obtain ⟨g1, g2, g3, g4⟩ := hg.map_ok hab ha hb
  have hp := hP.lines _ _ _ _ _ oa ob hg2 hgl h2 ha hb (hg2.g2.kept _ _ (Nat.le_refl _) hl ha)
  exact hk.push hg ha hb hab spanB_range
    (rangedB_text _ g2 g3 g4 hp (Nat.le_refl _) g2 (Nat.le_refl _)) (hs _ _ (Nat.le_refl _) ha).1
    g1 g2 (Nat.le_refl _) rfl rfl rfl (by simp [BState.push]; omega)

theorem lheading_geoI {para : Bool} {src0 : List Char} {P : InlP} (hP : InlSpecI para src0 P) {test : Test}
    (ht : TestPure test) {fuel : Nat} {s s' : BState} {b : Bool}
    (h : lheadingRule test fuel s false = .ok (b, s')) (hl : s.line < s.lineMax) :
    KeepsGeoI src0 P s s' := by
  rcases lheadingRule_ok h with ⟨-, rfl | ⟨_, hscan⟩⟩ |
    ⟨_, nextLine, level, S, content, mapping, r, -, -, -, hscan, -, hgl, hr, -, rfl⟩
  · exact KeepsGeoI.refl _ _ _
  · cases (lazyScan_spec ht hscan).1
    exact KeepsGeoI.refl _ _ _
  · obtain ⟨h1, h2, _, _⟩ := lazyScan_spec ht hscan
    subst h1
    intro lo hg2 hs hk
    have hg := hg2.g2.geo
    obtain ⟨hab, oa, ob, ha, hb, rfl⟩ := getMap_ok5 hr
    obtain ⟨g1, g2, g3, g4⟩ := hg.map_ok hab ha hb
    have hlen := (List.getElem?_eq_some_iff.mp hb).1
    obtain ⟨oe, hpe⟩ : ∃ oe, S.offs[nextLine - 1]? = some oe :=
      ⟨_, List.getElem?_eq_getElem (Nat.lt_of_le_of_lt (Nat.sub_le _ 1) hlen)⟩
    have hp := hP.lines _ _ _ _ _ oa _ hg2 hgl h2 ha hpe (hg2.g2.kept _ _ (Nat.le_refl _) hl ha)
    have hm := hg.end_mono (Nat.sub_le _ 1) hpe hb
    have hm2 := hg.map_ok (b := nextLine - 1) (Nat.le_sub_one_of_lt h2) ha hpe
    exact hk.push hg ha hb hab spanB_range
      (rangedB_text _ g2 g3 g4 hp (Nat.le_refl _) hm2.2.1 hm) (hs _ _ (Nat.le_refl _) ha).1
      g1 g2 (Nat.le_refl _) rfl rfl rfl (by simp [BState.push])

theorem nested_runI {src0 : List Char} {P : InlP} {tok : Tok} (hsh : TokGeoI src0 P tok) {SN s2 : BState}
    (htok : tok SN = .ok s2) (hg : Geo3 src0 SN) {m : Nat} {x : LineOffset} {lo : Nat} (hline : SN.line = m)
    (hx : SN.offs[m]? = some x) (h1 : lo ≤ x.firstNonspace) (h2 : CutGe SN.src SN.blkIndent x lo)
    (hc : SN.children = []) : KidsOk P s2 lo :=
  hsh _ _ htok lo hg (startsGe_nested hg.g2.geo hline hx h1 h2) (kidsOk_nil hc lo)

theorem blockquote_geoI {src0 : List Char} {P : InlP} {tok : Tok} {test : Test}
    (hk : TokSpec tok) (hsh : TokGeoI src0 P tok) (ht : TestPure test) {fuel : Nat} {s s' : BState}
    {b : Bool} (h : blockquoteRule tok test fuel s false = .ok (b, s')) (hl : s.line < s.lineMax)
    (hi : IndentOk s) : KeepsGeoI src0 P s s' := by
  obtain ⟨i, hi, hi0⟩ := hi
  rcases blockquoteRule_ok h with ⟨-, rfl⟩ | ⟨_, line, -, -, hline, hhead, -, ⟨⟨⟩, -⟩ |
    ⟨-, n, old', S', s2, offs, r, hscan, htok, -, hoffs, hle, hr, rfl⟩⟩
  · exact KeepsGeoI.refl _ _ _
  obtain ⟨hsb, hmn, hup, _, hT, add, hadd, hrest⟩ := bqScan_spec ht _ _ _ _ _ _ _ _ hscan
  have href := bqScan_refines ht _ _ _ _ _ _ _ _ hscan
  obtain ⟨o0, o0', rest, le', ho0, hrw, ho0'⟩ := bqScan_first_entry ht hscan hl hi hi0 hline hhead
  have hfr := hk.frame _ _ htok
  have hmono := hk.mono _ _ htok
  simp only at hmono
  simp only [List.nil_append] at hadd
  subst hadd
  rw [hfr.offs] at hoffs
  simp only at hoffs
  rw [hrest] at hoffs
  cases hoffs
  intro lo hg2 hs hkids
  have hg := hg2.g2.geo
  obtain ⟨hab, oa, ob, ha, hb, rfl⟩ := getMap_ok5 hr
  simp only at ha hb hab hle
  rw [ho0] at ha; cases ha
  obtain ⟨g1, g2, g3, g4⟩ := hg.map_ok hab ho0 hb
  have hgS : Geo S' := ⟨hT hg.table, href.sorted hg.sorted, bqScan_ind ht _ _ _ _ _ _ _ _ hscan hg.ind,
    by rw [hsb.src]; exact hg.small⟩
  have hgeo := bqRewrite_geo hrw
  have hcut := bqRewrite_cut hrw (hg.table _ _ ho0)
  have hkept := bqScan_kept ht s.line _ _ _ _ _ _ _ _ hscan hg.table
    (fun k o h1 h2 => absurd h2 (by omega))
  have hnest := nested_runI hsh htok (lo := o0.firstNonspace)
    ⟨⟨hgS.of_eq rfl rfl, hsb.src.trans hg2.g2.srcEq, href.sortedS hg2.g2.strict,
      fun k o h1 h2 h3 => hkept k o h1 h2 h3⟩,
      by rw [hsb.src]; exact href.termOk hg2.term⟩ rfl ho0' (by omega)
    (by simp only [hsb.src]; exact hcut) rfl
  have hend : ∀ e o, e < s2.line → s2.offs[e]? = some o → o.lineEnd ≤ ob.lineEnd := by
    intro e o he ho
    rw [hfr.offs] at ho
    simp only at ho
    obtain ⟨o1, ho1⟩ := href.get' ho
    have := href.entry e o1 o ho1 ho
    have := hg.end_mono (j := _ - 1) (by omega) ho1 hb
    omega
  refine hkids.push hg ho0 hb hab spanB_range
    (rangedB_container hnest (by rw [hfr.src]; exact hsb.src) g2 g3 g4 hend s2.nodeKind)
    (hs _ _ (Nat.le_refl _) ho0).1 g1 g2 (Nat.le_refl _) ?_ rfl ?_ ?_
  · simp [hfr.src, hsb.src]
  · simp [hsb.children]
  · simp; omega

theorem listItemBody_geoI {src0 : List Char} {P : InlP} {tok : Tok} (hsh : TokGeoI src0 P tok) {S2 S3 : BState}
    {m : Nat} {re : Bool} (h : listItemBody tok S2 m re = .ok S3) (hg : Geo3 src0 S2) (hline : S2.line = m)
    (hc : S2.children = []) {x : LineOffset} {lo : Nat} (hx : S2.offs[m]? = some x)
    (h1 : lo ≤ x.firstNonspace) (h2 : CutGe S2.src S2.blkIndent x lo) : KidsOk P S3 lo := by
  rcases listItemBody_ok h with ⟨-, -, rfl⟩ | ⟨-, S, htok, -, rfl⟩
  · exact kidsOk_nil (by exact hc) lo
  · subst hline
    have := nested_runI hsh htok (hg.of_eq rfl rfl rfl (Nat.le_refl _) (Nat.le_refl _)) (lo := lo) rfl hx h1 h2 hc
    exact ⟨this.ord, this.deep⟩

theorem listItem_geoI {src0 : List Char} {P : InlP} {tok : Tok} (hk : TokSpec tok) (hsh : TokGeoI src0 P tok)
    {S S' : BState} {m pos : Nat} {pee tight pee' tight' : Bool}
    (h : listItem tok S m pos pee tight = .ok (S', tight', pee'))
    (hline : S.line = m) (hlt : m < S.lineMax) (hio : IndentOk S) :
    ∀ lo, Geo3 src0 S → FnGe S lo → KidsOk P S lo → KidsOk P S' lo := by
  obtain ⟨o, o', indent, re, S3, li, r, ho, hrw, hm, hbody, -, -, -, hm5, hle, hr, rfl⟩ := listItem_ok h
  obtain ⟨S2, hS2eq⟩ : ∃ S2 : BState, S2 = { S with nodeKind := .listItem, children := [], listIndent := some S.blkIndent, blkIndent := indent, tight := true, offs := S.offs.set m o' } := ⟨_, rfl⟩
  rw [← hS2eq] at hbody
  have hS2 : BState.setOff { S with nodeKind := .listItem, children := [], listIndent := some S.blkIndent, blkIndent := indent, tight := true } m o' = .ok S2 := by
    rw [hS2eq]
    exact if_pos hm
  have ho' := off_ok ho
  obtain ⟨hok, hc⟩ := itemRewrite_spec hrw
  have hgeo := itemRewrite_geo hrw
  intro lo hgg hs hkids
  have hg := hgg.g2.geo
  have hcond : S2.isEmpty m = true ∨ IndentOk { S2 with line := m } := by
    refine item_cond (x := o') (by rw [hS2eq]; simp [hm]) ?_
    rw [hS2eq]
    exact hc
  obtain ⟨hfr, hlt', hle'⟩ := listItemBody_spec hk hbody (by rw [hS2eq]; exact hline)
    (by rw [hS2eq]; exact hlt) hcond
  have href : Refines S.offs S2.offs := by
    rw [hS2eq]; exact Refines.set ho' hgeo.1 hgeo.2.1 hgeo.2.2
  have hT2 : TableOk S2 :=
    TableOk.setOff (s := { S with nodeKind := .listItem, children := [], listIndent := some S.blkIndent, blkIndent := indent, tight := true })
      (fun k o ho => hg.table k o ho) hS2 (hok (hg.table _ _ ho'))
  have hg2 : Geo S2 := ⟨hT2, href.sorted hg.sorted,
    by rw [hS2eq]; exact hg.ind.set m (itemRewrite_ind hrw (hg.ind _ _ ho') (hg.table _ _ ho').bounds.1),
    by rw [hS2eq]; exact hg.small⟩
  -- the lines of the item keep blanks only at the item's content indent, which is behind `blk_indent`
  obtain ⟨hi0, hi1, hi2⟩ := itemRewrite_indent hrw (hg.table _ _ ho') (hg.ind _ _ ho') hg.small
  obtain ⟨iv, hiv, hiv0⟩ := hio
  rw [hline, lineIndent_of_off ho'] at hiv
  simp only [Except.ok.injEq] at hiv
  have hblk : Lines.usizeAsI32 S.blkIndent ≤ Lines.usizeAsI32 indent := by
    rw [usizeAsI32_small (by omega), usizeAsI32_small (by omega)]
    omega
  have hkeptm := itemRewrite_kept hrw (hg.table _ _ ho') (hg.ind _ _ ho') hg.small
  have hg22 : Geo3 src0 S2 := by
    refine ⟨⟨hg2, by rw [hS2eq]; exact hgg.g2.srcEq, href.sortedS hgg.g2.strict, ?_⟩,
      by rw [show S2.src = S.src by rw [hS2eq]]; exact href.termOk hgg.term⟩
    rw [hS2eq]
    intro k x hk1 hk2 hx
    simp only [List.getElem?_set] at hx
    split at hx
    · simp at hx
      obtain ⟨_, rfl⟩ := hx
      exact hkeptm
    · exact (hgg.g2.kept k x (by simpa [hline] using hk1) hk2 hx).mono hblk
  have hx2 : S2.offs[m]? = some o' := by rw [hS2eq]; simp [hm]
  have hcut := itemRewrite_cut hrw (hg.table _ _ ho') (hg.ind _ _ ho') hg.small
  have hnest : KidsOk P S3 o.firstNonspace :=
    listItemBody_geoI hsh hbody hg22 (by rw [hS2eq]; exact hline) (by rw [hS2eq]) hx2 hgeo.2.2
      (by rw [hS2eq]; exact hcut)
  obtain ⟨hab, oa, ob, ha, hb, rfl⟩ := getMap_ok5 hr
  have hrestore : (S3.offs.set m o) = S.offs := by
    rw [hfr.offs, hS2eq]
    simp only [List.set_set]
    rw [← (List.getElem?_eq_some_iff.mp ho').2]
    exact List.set_getElem_self _
  simp only [hrestore] at ha hb hab hle
  rw [ho'] at ha; cases ha
  obtain ⟨g1, g2, g3, g4⟩ := hg.map_ok hab ho' hb
  have hend : ∀ e x, e < S3.line → S3.offs[e]? = some x → x.lineEnd ≤ ob.lineEnd := by
    intro e x he hx
    rw [hfr.offs] at hx
    obtain ⟨x1, hx1⟩ := href.get' hx
    have := href.entry e x1 x hx1 hx
    have := hg.end_mono (j := S3.line - 1) (by omega) hx1 hb
    omega
  have hsrc3 : S3.src = S.src := by rw [hfr.src, hS2eq]
  subst hline
  refine hkids.push hg ho' hb hab spanB_range
    (rangedB_container hnest hsrc3 g2 g3 g4 hend S3.nodeKind)
    (hs _ _ (Nat.le_refl _) ho') g1 g2 (Nat.le_refl _) ?_ ?_ ?_ ?_
  · simp [hsrc3]
  · simp [hrestore]
  · simp
  · simp; omega

theorem listContinue_ind {test : Test} {ordered : Bool} {mc : Char}
    {S S' : BState} {n p : Nat} (h : listContinue test ordered mc S n = .ok (some p, S')) :
    ∃ i, S.lineIndent n = .ok i ∧ 0 ≤ i := by
  rcases listContinue_ok h with ⟨⟨⟩, -⟩ | ⟨ind, _, _, _, -, hind, h0, -⟩
  exact ⟨ind, hind, h0⟩

theorem listLoop_geoI {src0 : List Char} {P : InlP} {tok : Tok} {test : Test} (hk : TokSpec tok)
    (hsh : TokGeoI src0 P tok) (ht : TestPure test) {ordered : Bool} {mc : Char} :
    ∀ (fuel : Nat) (S : BState) (m pos : Nat) (pee tight : Bool) (n : Nat) (tight' : Bool) (S' : BState),
      listLoop tok test ordered mc fuel S m pos pee tight = .ok (n, tight', S') →
      S.line = m → m < S.lineMax → IndentOk S →
      ∀ lo, Geo3 src0 S → FnGe S lo → KidsOk P S lo → KidsOk P S' lo := by
  intro fuel
  induction fuel with
  | zero => intro S m pos pee tight n tight' S' h; simp [listLoop] at h
  | succ f ih =>
    intro S m pos pee tight n tight' S' h hline hlt hio
    rcases listLoop_ok h with ⟨hn, -⟩ | ⟨S1, t1, p1, c, S2, -, hitem, hc, hrest⟩
    · exact absurd hlt hn
    obtain ⟨rfl, hc2⟩ := listContinue_spec ht hc
    rcases hrest with ⟨-, -, -, rfl⟩ | ⟨p, hsome, h⟩
    · exact listItem_geoI hk hsh hitem hline hlt hio
    · obtain ⟨hfr, h1, h2⟩ := listItem_spec hk hitem hline hlt
      have hlt2 := hc2 (by rw [hsome]; simp)
      rw [hsome] at hc
      intro lo hg hs hkids
      exact ih _ _ _ _ _ _ _ _ h rfl hlt2 (listContinue_ind hc) lo
        (hg.of_frame hfr (by omega))
        (fun k o hk ho => hs k o (by omega) (by rw [← hfr.offs]; exact ho))
        (listItem_geoI hk hsh hitem hline hlt hio lo hg hs hkids)

theorem list_rule_geoI {src0 : List Char} {P : InlP} {tok : Tok} {test : Test} (hk : TokSpec tok)
    (hsh : TokGeoI src0 P tok) (ht : TestPure test) {fuel : Nat} {s s' : BState} {b : Bool}
    (h : listRule tok test fuel s false = .ok (b, s')) (hl : s.line < s.lineMax) (hi : IndentOk s) :
    KeepsGeoI src0 P s s' := by
  rcases listRule_ok h with ⟨_, rfl⟩ |
    ⟨ind, cur, pos, mv, _, _, _, _, _, _, _, _, _,
      ⟨hs, _⟩ | ⟨_, mc, n, t, S', cs, r, _, hloop, htight, _, hle, hr, rfl⟩⟩
  · exact KeepsGeoI.refl _ _ _
  · cases hs
  · obtain ⟨hfr, hline', hmn, _⟩ := listLoop_spec hk ht _ _ _ _ _ _ _ _ _ hloop rfl hl
    intro lo hg2 hs hkids
    have hg := hg2.g2.geo
    obtain ⟨hab, oa, ob, ha, hb, rfl⟩ := getMap_ok5 hr
    have hoffs : S'.offs = s.offs := hfr.offs
    have hsrc : S'.src = s.src := hfr.src
    rw [hoffs] at ha hb
    obtain ⟨g1, g2, g3, g4⟩ := hg.map_ok hab ha hb
    have hinner := listLoop_geoI hk hsh ht _ _ _ _ _ _ _ _ _ hloop rfl hl hi oa.firstNonspace
      (hg2.of_eq rfl rfl rfl (Nat.le_refl _) (Nat.le_refl _)) (fun k o hk ho => by
        have hk' : s.line ≤ k := hk
        have ho' : s.offs[k]? = some o := ho
        rcases Nat.lt_or_ge s.line k with hlt | hge
        · have h1 := hg.sorted s.line k oa o hlt ha ho'
          have h2 := (hg.table _ _ ha).bounds
          have h3 := (hg.table _ _ ho').bounds
          omega
        · have : k = s.line := by omega
          subst this
          rw [ha] at ho'; cases ho'
          exact Nat.le_refl _) (kidsOk_nil rfl _)
    obtain ⟨⟨hi', hord, hbd⟩, hdeep⟩ := hinner
    rw [hsrc] at hdeep
    have hord2 : OrderedB P oa.firstNonspace ob.lineEnd S'.children := by
      refine hord.widen (Nat.le_refl _) ?_
      rcases hbd with hbd | ⟨e, o, he, hoe, hle⟩
      · omega
      · rw [hoffs] at hoe
        have := hg.end_mono (j := n - 1) (by omega) hoe hb
        omega
    have hcs : OrderedB P oa.firstNonspace ob.lineEnd cs ∧ ∀ c ∈ cs, RangedB P s.src c := by
      split at htight
      · exact tightenItems_geo _ _ _ _ htight hord2 hdeep
      · simp [pure, Except.pure] at htight; subst htight; exact ⟨hord2, hdeep⟩
    have hnode : RangedB P s.src ⟨S'.nodeKind, some (oa.firstNonspace, ob.lineEnd), cs⟩ := by
      refine .mk _ (fun x y h => ?_) (fun h => by cases h) hcs.2
      cases h
      exact ⟨g2, g3, g4, hcs.1⟩
    refine hkids.push hg ha hb hab spanB_range hnode (hs _ _ (Nat.le_refl _) ha).1 g1 g2 (Nat.le_refl _)
      ?_ ?_ rfl ?_
    · simp [hsrc]
    · simp [hoffs]
    · simp [hline']; omega

theorem runRule_geoI {para : Bool} {src0 : List Char} {P : InlP} (hP : InlSpecI para src0 P) {cfg : Cfg} {tok : Tok} {test : Test}
    (hk : TokSpec tok) (hsh : TokGeoI src0 P tok) (ht : TestPure test) (fuel : Nat) (r : RuleId)
    {s s' : BState} {b : Bool} (h : runRule cfg tok test fuel r s false = .ok (b, s'))
    (hl : s.line < s.lineMax) (hi : IndentOk s) : KeepsGeoI src0 P s s' := by
  cases r <;> simp only [runRule] at h
  · exact KeepsGeo.toI (code_geo h)
  · exact KeepsGeo.toI (fence_geo h)
  · exact blockquote_geoI hk hsh ht h hl hi
  · exact KeepsGeo.toI (hr_geo h)
  · exact list_rule_geoI hk hsh ht h hl hi
  · exact KeepsGeo.toI (reference_geo ht h)
  · exact heading_geoI hP h
  · exact lheading_geoI hP ht h hl
  · exact paragraph_geoI hP ht h hl

theorem afterChain_geoI {para : Bool} {src0 : List Char} {P : InlP} (hP : InlSpecI para src0 P)
    {ok : Bool} {s s' : BState} {prev : Nat} (h : afterChain ok s prev = .ok s')
    (hp : ok = false → para = false) : KeepsGeoI src0 P s s' := by
  rcases afterChain_ok h with ⟨-, -, rfl⟩ | ⟨l, o, hok, hl, hoff, rfl⟩
  · exact KeepsGeoI.refl _ _ _
  · intro lo hg hs hk
    have ho := off_ok hoff
    have hb := (hg.g2.geo.table _ _ ho).bounds
    exact hk.push hg.g2.geo ho ho (Nat.le_refl _) (a := _) (b := _)
      (show SpanB P ⟨.inlineRoot _ _, none, []⟩ _ _ from ⟨_, _, rfl, rfl,
        hP.fallback (hp hok) s _ _ hg ho hl⟩)
      (rangedB_inl _ _) (hs _ _ (Nat.le_refl _) ho).1 hb.1 hb.2.1 (Nat.le_refl _) rfl rfl rfl
      (by simp)

/-- the loop, for any runner (the ten-rule engine of Lemmas/PipelineHGeo.lean uses it too) -/
theorem tokLoop_geoI {para : Bool} {src0 : List Char} {P : InlP} (hP : InlSpecI para src0 P) {cfg : Cfg}
    {run : RuleId → BState → Bool → Res} (hr : RunSpec run)
    (hsh : ∀ r s b s', run r s false = .ok (b, s') → s.line < s.lineMax → IndentOk s →
      KeepsGeoI src0 P s s')
    (hpara : para = true → ∀ s b s', runChain run cfg.chain s false = .ok (b, s') → b = true) :
    ∀ (fuel : Nat) (he : Bool) (s s' : BState), tokLoop cfg run fuel he s = .ok s' →
      KeepsGeoI src0 P s s' := by
  intro fuel he s s' h
  refine (tokLoop_keeps (cfg := cfg) (run := run)
    (K := fun s s' => Frame s s' ∧ s.line ≤ s'.line ∧ KeepsGeoI src0 P s s')
    (fun s l t hl => ⟨frame_line_tight s l t, hl, fun lo hg hs hk => hk.of_eq rfl rfl rfl hl⟩)
    (fun a b c h1 h2 => ⟨h1.1.trans h2.1, Nat.le_trans h1.2.1 h2.2.1, fun lo hg hs hk =>
      h2.2.2 lo (hg.of_frame h1.1 h1.2.1) (hs.of_frame h1.1 h1.2.1) (h1.2.2 lo hg hs hk)⟩)
    ?_ fuel he s s' h).2.2
  intro s ok S1 S2 hlt hio _ hchain hafter
  obtain ⟨h13, hlt3, _⟩ := tok_iter hr (w := (ok, S1)) rfl hlt hio hchain hafter
  have hfr2 := runChain_frame hr (w := (ok, S1)) hchain hlt hio
  refine ⟨h13, Nat.le_of_lt hlt3, fun lo hg hs hk => ?_⟩
  have hk2 : KidsOk P S1 lo := by
    rcases runChain_ok hr.false_same _ hchain with ⟨-, rfl⟩ | ⟨r, -, -, hrule⟩
    · exact hk
    · exact hsh _ _ _ _ hrule hlt hio lo hg hs hk
  refine afterChain_geoI hP hafter ?_ lo (hg.of_frame hfr2.1 hfr2.2) (hs.of_frame hfr2.1 hfr2.2) hk2
  intro hok
  cases hp : para with
  | false => rfl
  | true =>
    rw [hpara hp _ _ _ hchain] at hok
    cases hok

theorem tokenize_geoI {src0 : List Char} {P : InlP} (cfg : Cfg)
    (hP : InlSpecI cfg.hasPara src0 P) : ∀ fuel : Nat, TokGeoI src0 P (tokenize cfg fuel) :=
  tokenize_keeps fun _ ih hk ht _ _ h =>
    tokLoop_geoI hP (runRule_spec hk ht _)
      (fun r _ _ _ h hl hi => runRule_geoI hP hk ih ht _ r h hl hi)
      (fun hp _ _ _ hc => runChain_para _ _ _ _ (by simpa [Cfg.hasPara] using hp) hc) _ _ _ _ h

/-- what the tokenizer leaves in a fresh state is the child list of a root that spans the source -/
theorem rangedB_root {P : InlP} {src : List Char} {s : BState} (hsrc : s.src = src)
    (hoffs : s.offs = Lines.splitLines src) (hg : Geo (BState.fresh src .root []))
    (hk : KidsOk P s 0) : RangedB P src ⟨.root, some (0, Lines.byteLen src), s.children⟩ := by
  obtain ⟨⟨hi, hord, hbd⟩, hdeep⟩ := hk
  rw [hsrc] at hdeep
  refine .mk _ (fun a b h => ?_) (fun h => by cases h) hdeep
  simp only [Option.some.injEq, Prod.mk.injEq] at h
  obtain ⟨rfl, rfl⟩ := h
  refine ⟨Nat.zero_le _, ⟨[], src, rfl, rfl⟩, ⟨src, [], by simp, rfl⟩, hord.widen (Nat.le_refl _) ?_⟩
  rcases hbd with hbd | ⟨e, o, he, hoe, hle⟩
  · omega
  · rw [hoffs] at hoe
    have := (hg.table _ _ hoe).bounds
    simp only [BState.fresh] at this
    omega

/-- the table `generate_caches` builds: every line ends at the end of the input or in front of its
    terminator -/
theorem g3_termOk_split (src : List Char) : C05R.TermOk src (Lines.splitLines src) := by
  intro i o ho
  obtain ⟨A, lt, B, _, _, rfl, hsrc, _, hterm⟩ := Lines.split_entry ho
  have hend : (Lines.mkOff (Lines.byteLen (Lines.flat A)) lt).lineEnd
      = InlineOps.byteLen (Lines.flat A ++ lt.1) := by
    rw [← C05I.linesLen_eq]; simp [Lines.mkOff]
  rcases hterm with ht | ⟨ht, hB⟩
  · right
    obtain ⟨c, rest, hc, hcc⟩ : ∃ c rest, lt.2 = c :: rest ∧ (c = '\n' ∨ c = '\r') := by
      rcases ht with h | h | h
      · exact ⟨_, _, h, .inl rfl⟩
      · exact ⟨_, _, h, .inr rfl⟩
      · exact ⟨_, _, h, .inr rfl⟩
    refine ⟨Lines.flat A ++ lt.1, c, rest ++ Lines.flat B, ?_, hend.symm, hcc⟩
    conv => lhs; rw [hsrc, hc]
    simp
  · left
    rw [hend]
    conv => rhs; rw [hsrc, ht, hB]
    simp

theorem geoI_fresh (src : List Char) (hsmall : 4 * Lines.byteLen src + 8 < 2147483648) :
    Geo3 src (BState.fresh src .root []) :=
  ⟨geo2_fresh src hsmall .root [], g3_termOk_split src⟩

/-- **the block tree**: for any chain and any claim `P` about placeholders that their producers establish
    from `Geo3`, the root is `(0, |src|)` and every node is `RangedB P` -/
theorem parseBlocks_geoI {P : InlP} {cfg : Cfg} {src : List Char}
    (hP : InlSpecI cfg.hasPara src P) {root : BNode}
    {refs : Refs.RefMap} (hsmall : 4 * Lines.byteLen src + 8 < 2147483648)
    (h : parseBlocks cfg src = .ok (root, refs)) :
    root.range = some (0, Lines.byteLen src) ∧ RangedB P src root := by
  obtain ⟨s, hs, rfl, -⟩ := parseBlocks_ok h
  have hfr := (tokenize_spec cfg _ _ _ hs).frame
  have hg2 := geoI_fresh src hsmall
  exact ⟨rfl, rangedB_root hfr.src hfr.offs hg2.g2.geo (tokenize_geoI cfg hP _ _ _ hs 0 hg2
    (fun k o _ _ => ⟨Nat.zero_le _, fun _ _ => Nat.zero_le _⟩) (kidsOk_nil rfl 0))⟩

theorem InlSpec.toI {para : Bool} {P : InlP} (h : InlSpec para P) (src0 : List Char) :
    InlSpecI para src0 P :=
  ⟨fun s b e c m ob oe hg hgl hbe hob hoe _ => h.lines s b e c m ob oe hg.g2.geo hgl hbe hob hoe,
   fun s o line content tp tm hg => h.heading s o line content tp tm hg.g2.geo,
   fun hp s o l hg => h.fallback hp s o l hg.g2.geo⟩

theorem InlSpec2.toI {src0 : List Char} {P : InlP} (h : InlSpec2 src0 P) :
    InlSpecI true src0 P :=
  ⟨fun s b e c m ob oe hg => h.lines s b e c m ob oe hg.g2,
   fun s o line content textPos textMax hg => h.heading s o line content textPos textMax hg.g2,
   fun hp => Bool.noConfusion hp⟩

/-- **the block tree, with the strengthened claim about placeholders** -/
theorem parseBlocks_geo2 {P : InlP} {cfg : Cfg} {src : List Char} (hpara : Cfg.hasPara cfg = true)
    (hP : InlSpec2 src P) {root : BNode} {refs : Refs.RefMap}
    (hsmall : 4 * Lines.byteLen src + 8 < 2147483648)
    (h : parseBlocks cfg src = .ok (root, refs)) :
    root.range = some (0, Lines.byteLen src) ∧ RangedB P src root :=
  parseBlocks_geoI (hpara ▸ hP.toI) hsmall h

/-! ## the full claim about a placeholder -/

open MdIt.C05I (KeysLFV UpTo NoVirt) in
/-- **`PMapF`**: the table is well formed and monotone up to virtual-space entries, its keys sit
    behind line feeds (or virtual spaces), it is `Inline.MapOK` when no tab was split — and no tab
    is split in a tab-free document —, and everything between the two cursors `trim_src` sets is
    translated into the stretch `[a, b]` (upper bound: outside virtual spaces) -/
def PMapF (src0 : List Char) : InlP := fun c m a b =>
  C05.WFMap m ∧ C05.MonoMapV m ∧ KeysLFV c m ∧ UpTo c m b ∧ (NoVirt m → Inline.MapOK c m) ∧
    ('\t' ∉ src0 → NoVirt m) ∧
    ((Inline.trimSrc c).1 < (Inline.trimSrc c).2 → ∀ pos x, (Inline.trimSrc c).1 ≤ pos →
      InlineOps.getSourcePosFor m pos = .ok x → a ≤ x)

theorem inlSpec2_pmapF (src0 : List Char) : InlSpec2 src0 (PMapF src0) := by
  refine ⟨?_, ?_⟩
  · intro s b e c m ob oe hg hgl hbe hob hoe hkept
    have hgl' := C05I.getLines_lift hgl
    obtain ⟨h1, h2, h3, h4, h5, h6⟩ := C05I.getLines_table hg.geo.table hg.strict hbe hgl' hoe
    refine ⟨h1, h2, h3, h4, h5, ?_, ?_⟩
    · rw [← hg.srcEq]; exact h6
    · intro hlt
      exact C05I.getLines_lower hg.geo.table hg.strict hbe hgl' hob hkept hlt
  · intro s o line content textPos textMax hg ho hline hcontent
    obtain ⟨hw, hv, hk, hn, hm⟩ := C05I.single_table content (o.firstNonspace + textPos)
    refine ⟨hw, hv, hk, ?_, fun _ => hm, fun _ => hn, ?_⟩
    · exact C05I.seg_upTo (C05I.heading_seg (hg.geo.table _ _ ho) ho hline hcontent) hw
    · intro _ pos x _ hx
      rw [C05I.single_translate] at hx
      simp only [Except.ok.injEq] at hx
      omega

end MdIt.Block
