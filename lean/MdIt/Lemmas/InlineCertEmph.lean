/-
  The emphasis-marker rule and the delimiter matcher (`scan_and_match_delimiters`) keep the frame
  invariant `ICF` of Lemmas/InlineCert.lean.

  A marker token is a `Run`: it spells its `remaining` delimiters at a stretch `c[p..q]` of the
  inline text, and its range is the translation of `(p, q)`.  One match takes `ml` delimiters off
  the END of the opener's run and off the START of the closer's, by arithmetic on the SOURCE
  offsets; because a run is a `W` stretch without line feed, the translation is a shift there
  (`Shift`), so the new offsets are again translations (`Run.dropLeft`, `Run.dropRight`), and the
  wrapper covers the stretch between the two cuts.  Everything else is bookkeeping of the tiling
  `ICL` through the loops, which Lemmas/InlineRanges5.lean has taken apart for any invariant.
  Name prefix `ic_`: a lemma of the certificate walk.
-/
import MdIt.Lemmas.InlineCert
import MdIt.Lemmas.InlineRanges5

namespace MdIt.IC
open MdIt.Inline
open MdIt.InlineOps (Srcmap getSourcePosFor getMap byteLen slice)
open MdIt.C05R (Cut Bdy Adj Adjd TextLike)
open MdIt.C05T (CharAt NoTextLast isCode)

variable {c : List Char} {m : Srcmap} {W : Nat → Nat → Prop} {S : Nat → Prop}

/-! ## sibling lists whose mergeable neighbours are adjacent -/

theorem ic_adjd_snoc {l : List Node} {n : Node} (h : Adjd l)
    (hl : ∀ init last, l = init ++ [last] → Adj last n) : Adjd (l ++ [n]) := by
  refine (C05R.fi_adjd_snoc _ _).mpr ⟨h, fun y hy => ?_⟩
  obtain ⟨init, hi⟩ := C05R.fi_snoc_of_getLast hy
  exact hl init y hi

theorem ic_adjd_set_last {a : List Node} {x y : Node} (h : Adjd (a ++ [x]))
    (h1 : ∀ p, Adj p x → Adj p y) : Adjd (a ++ [y]) := by
  obtain ⟨ha, hl⟩ := (C05R.fi_adjd_snoc _ _).mp h
  exact (C05R.fi_adjd_snoc _ _).mpr ⟨ha, fun p hp => h1 p (hl p hp)⟩

theorem ic_adjd_set {a b : List Node} {x y : Node} (h : Adjd (a ++ [x] ++ b))
    (h1 : ∀ p, Adj p x → Adj p y) (h2 : ∀ q, Adj x q → Adj y q) : Adjd (a ++ [y] ++ b) := by
  rw [C05R.em_adjd_append_iff] at h ⊢
  obtain ⟨hax, hb, hl⟩ := h
  refine ⟨ic_adjd_set_last hax h1, hb, ?_⟩
  intro p q hp hq
  simp only [List.getLast?_append, List.getLast?_singleton, Option.some_or, Option.some.injEq] at hp
  subst hp
  exact h2 q (hl x q (by simp) hq)

theorem ic_adj_congr {x y : Node} (hr : y.range = x.range) (ht : TextLike y → TextLike x) :
    (∀ p, Adj p x → Adj p y) ∧ (∀ q, Adj x q → Adj y q) := by
  constructor
  · intro p h tp ty
    obtain ⟨a1, b1, b2, e1, e2⟩ := h tp (ht ty)
    exact ⟨a1, b1, b2, e1, by rw [hr, e2]⟩
  · intro q h ty tq
    obtain ⟨a1, b1, b2, e1, e2⟩ := h (ht ty) tq
    exact ⟨a1, b1, b2, by rw [hr, e1], e2⟩

theorem ic_last_set {pre t : List Node} {x y : Node} {s : Nat} (hr : y.range = x.range)
    (ht : TextLike y → TextLike x)
    (h : ∀ init last, pre ++ [x] ++ t = init ++ [last] → TextLike last →
      ∃ a, last.range = some (a, s)) :
    ∀ init last, pre ++ [y] ++ t = init ++ [last] → TextLike last →
      ∃ a, last.range = some (a, s) := by
  intro init last hl hlt
  rcases List.eq_nil_or_concat t with rfl | ⟨t', z, ht'⟩
  · simp only [List.append_nil] at hl
    obtain ⟨_, rfl⟩ := snoc_inj hl
    rw [hr]
    exact h pre x (by simp) (ht hlt)
  · rw [List.concat_eq_append] at ht'; subst ht'
    have e1 : pre ++ [y] ++ (t' ++ [z]) = (pre ++ [y] ++ t') ++ [z] := by simp
    rw [e1] at hl
    obtain ⟨_, rfl⟩ := snoc_inj hl
    exact h (pre ++ [x] ++ t') z (by simp) hlt

theorem ic_wrap_not_textLike (w : Wrap) (mk : Char) (r : Option (Nat × Nat)) (cs : List Node) :
    ¬ TextLike (Node.mk (.wrap w mk) r cs) := by
  simp [TextLike, C05R.textOf]

theorem ic_asMarker_textLike {n : Node} {k : Marker} (h : n.asMarker = some k) : TextLike n := by
  unfold TextLike; rw [ic_asMarker_val h]; simp [C05R.textOf, Marker.toVal]

/-! ## runs of a marker -/

/-- `ml` delimiters off the start: the SOURCE offset `a + ml` is the translation of `p + ml` -/
theorem Run.dropLeft {p q a b ml : Nat} {k : Marker} (hs : Stretch c W S) (hsh : Shift c m W)
    (h : Run c m W p q a b k) (hml : ml ≤ k.remaining) :
    Run c m W (p + ml) q (a + ml) b { k with remaining := k.remaining - ml } := by
  obtain ⟨hlen, _, c2, _, _⟩ := C05R.em_cut_replicate_split h.size h.cut hml
  obtain ⟨x, hx⟩ := C05.translate_total m hsh.wf (p + ml)
  have := hsh.shift p q _ p (p + ml) a x h.cut (C05R.em_not_mem_replicate h.nolf _) h.w
    (Nat.le_refl _) (by omega) (by omega) h.tp hx
  have hx' : x = a + ml := by omega
  subst hx'
  exact ⟨hx, h.tq, c2, h.size, h.nolf, hs.sub h.w (by omega) c2.le (Nat.le_refl _)⟩

/-- `ml` delimiters off the end: the SOURCE offset `b - ml` is the translation of `q - ml` -/
theorem Run.dropRight {p q a b ml : Nat} {k : Marker} (hs : Stretch c W S) (hsh : Shift c m W)
    (h : Run c m W p q a b k) (hml : ml ≤ k.remaining) :
    Run c m W p (q - ml) a (b - ml) { k with remaining := k.remaining - ml } := by
  obtain ⟨hlen, _, _, c3, _⟩ := C05R.em_cut_replicate_split h.size h.cut hml
  obtain ⟨x, hx⟩ := C05.translate_total m hsh.wf (q - ml)
  have := hsh.shift p q _ (q - ml) q x b h.cut (C05R.em_not_mem_replicate h.nolf _) h.w
    (by omega) (by omega) (Nat.le_refl _) hx h.tq
  have hx' : x = b - ml := by omega
  subst hx'
  exact ⟨h.tp, hx, c3, h.size, h.nolf, hs.sub h.w (Nat.le_refl _) c3.le (by omega)⟩

/-! ## the inner loop -/

/-- the closer while matching: what is left of it is a run at `c[pC..qC]` (`qC`, `eC` never
    change), a text-like last child ends where it starts (SOURCE offset), and unless nothing has
    been matched (`r0` = what the closer started with) the last child is a wrapper -/
def CloserIC (c : List Char) (m : Srcmap) (W : Nat → Nat → Prop) (qC eC r0 pC : Nat)
    (ms : MatchSt) : Prop :=
  ∃ s, ms.closerRange = some (s, eC) ∧ Run c m W pC qC s eC ms.closer ∧
    (∀ init last, ms.children = init ++ [last] → TextLike last → ∃ a, last.range = some (a, s)) ∧
    LastFlag r0 ms

/-- inner-loop invariant while the opener at index `pre.length` is matched: `pre` covers a stretch
    in front of the opener's run `c[pO..qO]`; the opener token unless used up (its VALUE still holds
    the old `remaining`, its range is the translation of the run); what follows covers the stretch
    up to the closer -/
def IShapeIC (c : List Char) (m : Srcmap) (W : Nat → Nat → Prop) (lo qC eC r0 : Nat)
    (pre : List Node) (pO : Nat) (opener : Marker) (ms : MatchSt) : Prop :=
  ∃ mid qO oS oE pC, ICL c m W false lo mid pre ∧ mid ≤ pO ∧ CloserIC c m W qC eC r0 pC ms ∧
    Run c m W pO qO oS oE opener ∧ Adjd ms.children ∧
    ((0 < opener.remaining ∧ ∃ otok tail, otok.range = some (oS, oE) ∧ otok.children = [] ∧
        TextLike otok ∧ ms.children = pre ++ [otok] ++ tail ∧ ICL c m W false qO pC tail) ∨
     (opener.remaining = 0 ∧ ∃ tail, ms.children = pre ++ tail ∧ ICL c m W false pO pC tail))

theorem ic_matchInner (hs : Stretch c W S) (hsh : Shift c m W) {lo qC eC r0 : Nat}
    {fns : Nat → Option Wrap} {mk : Char} {room : Nat} {pre : List Node} {pO : Nat} :
    ∀ (fuel : Nat) (opener : Marker) (ms : MatchSt) (opener' : Marker) (ms' : MatchSt),
      matchInner fns mk room pre.length fuel opener ms = .ok (opener', ms') →
      IShapeIC c m W lo qC eC r0 pre pO opener ms →
      IShapeIC c m W lo qC eC r0 pre pO opener' ms' := by
  apply matchInner_keeps
  intro opener ms hI _
  obtain ⟨mid, qO, oS, oE, pC, hpre, hmid, ⟨s, hcr, hrc, _, _⟩, hro, hadj, hshape⟩ := hI
  rcases hshape with ⟨_, otok, tail, hor, hoc, hotl, hch, htail⟩ | ⟨h0, _⟩
  · refine ⟨otok, tail, oS, oE, s, eC, hch, hor, hcr, ?_⟩
    intro ml w _ hml2 hml3 _
    have hrc' := hrc.dropLeft hs hsh hml3
    have hro' := hro.dropRight hs hsh hml2
    have hlen := C05R.em_cut_replicate_len hro.size hro.cut
    have hle := htail.le
    rw [hch] at hadj
    have hnt := ic_wrap_not_textLike w mk (some (oE - ml, s + ml)) tail
    -- the wrapper covers the stretch between the two cuts
    have hwrap : ICN c m W false (qO - ml) (pC + ml)
        (Node.mk (.wrap w mk) (some (oE - ml, s + ml)) tail) :=
      icn_plain hro'.tq hrc'.tp hro'.cut.bdy_right hrc'.cut.bdy_left (by omega)
        (by intro t e; cases e) (by intro x y z e; cases e) (by intro x l r o cl e; cases e)
        (C05R.em_adjd_right hadj) (htail.widen (by omega) (by omega))
    refine ⟨mid, qO - ml, oS, oE - ml, pC + ml, hpre, hmid, ⟨s + ml, rfl, hrc', ?_, Or.inr ?_⟩,
      hro', ?_, ?_⟩
    · intro init last hl hlt
      simp only at hl
      obtain ⟨_, rfl⟩ := snoc_inj hl
      exact absurd hlt hnt
    · intro init last hl
      simp only at hl
      obtain ⟨_, rfl⟩ := snoc_inj hl
      rfl
    · simp only
      refine ic_adjd_snoc ?_ (fun _ _ _ _ hy => absurd hy hnt)
      by_cases hz : opener.remaining - ml = 0
      · simp only [hz, if_true]
        exact C05R.em_adjd_left (C05R.em_adjd_left hadj)
      · simp only [hz, if_false]
        apply ic_adjd_set_last (C05R.em_adjd_left hadj)
        intro p hp tp _
        obtain ⟨a1, b1, b2, e1, e2⟩ := hp tp hotl
        rw [hor] at e2
        simp only [Option.some.injEq, Prod.mk.injEq] at e2
        exact ⟨a1, b1, oE - ml, e1, by rw [e2.1]⟩
    · by_cases hz : opener.remaining - ml = 0
      · right
        refine ⟨hz, [_], ?_, ICL.single hwrap (by omega) (Nat.le_refl _)⟩
        simp only [hz, if_true]
      · left
        refine ⟨by simp only; omega, Node.mk otok.val (some (oS, oE - ml)) otok.children, [_], rfl,
          hoc, hotl, ?_, ICL.single hwrap (Nat.le_refl _) (Nat.le_refl _)⟩
        simp only [hz, if_false]
  · omega

/-! ## the outer loop -/

/-- outer-loop invariant: the children cover `c[lo..pC]` in front of the closer -/
def MInvIC (c : List Char) (m : Srcmap) (W : Nat → Nat → Prop) (lo qC eC r0 : Nat) (ms : MatchSt) :
    Prop :=
  ∃ pC, ICL c m W false lo pC ms.children ∧ Adjd ms.children ∧ CloserIC c m W qC eC r0 pC ms

theorem ic_matchOuter (hs : Stretch c W S) (hsh : Shift c m W) {lo qC eC r0 : Nat}
    {fns : Nat → Option Wrap} {mk : Char} (room minIdx : Nat) :
    ∀ (k : Nat) (ms ms' : MatchSt), matchOuter fns mk room minIdx k ms = .ok ms' →
      MInvIC c m W lo qC eC r0 ms → MInvIC c m W lo qC eC r0 ms' := by
  apply matchOuter_keeps (M := MInvIC c m W lo qC eC r0)
    (I := fun pre opener ms => ∃ pO, IShapeIC c m W lo qC eC r0 pre pO opener ms)
  · exact fun _ _ h => h
  · -- the tiling splits at the marker token, whose certificate is the opener's run
    intro ms pre tok tl opener hm hsplit hop
    obtain ⟨pC, htiles, hadj, hcl⟩ := hm
    rw [hsplit] at htiles
    obtain ⟨y, h12, htl⟩ := htiles.split
    obtain ⟨mid, hpre, htok⟩ := h12.split
    obtain ⟨pO, qO, hmid, hn, hnil⟩ := (ICL_cons ..).mp htok
    obtain ⟨hoc, hrem, oS, oE, hor, hro⟩ := hn.run hop
    exact ⟨pO, mid, qO, oS, oE, pC, hpre, hmid, hcl, hro, hadj, Or.inl ⟨hrem, tok, tl, hor, hoc,
      ic_asMarker_textLike hop, hsplit, htl.widen ((ICL_nil ..).mp hnil) (Nat.le_refl _)⟩⟩
  · rintro pre fuel opener ms opener' ms' h ⟨pO, hI⟩
    exact ⟨pO, ic_matchInner hs hsh _ _ _ _ _ h hI⟩
  · -- the opener token gets its new value: a marker on what is left of its run
    rintro pre opener ms cs ⟨pO, mid, qO, oS, oE, pC, hpre, hmid, ⟨s, hcr, hrc, hlast, hflag⟩, hro,
      hadj, hshape⟩ hpos hrep
    rcases hshape with ⟨_, otok, tail, hor, hoc, hotl, hch, htail⟩ | ⟨h0, _⟩
    · rw [hch, replaceAt_mid] at hrep
      cases hrep
      have hn : ICN c m W false pO qO (Node.mk opener.toVal otok.range otok.children) := by
        rw [hor, hoc]; exact hro.icn hpos
      have hrng : (Node.mk opener.toVal otok.range otok.children).range = otok.range := rfl
      have htxt : TextLike (Node.mk opener.toVal otok.range otok.children) → TextLike otok :=
        fun _ => hotl
      rw [hch] at hadj hlast
      refine ⟨pC, (hpre.snoc hn hmid (Nat.le_refl _)).append htail,
        ic_adjd_set hadj (ic_adj_congr hrng htxt).1 (ic_adj_congr hrng htxt).2,
        s, hcr, hrc, ic_last_set hrng htxt hlast, ?_⟩
      rcases hflag with hf | hf
      · exact Or.inl hf
      · rw [hch] at hf
        exact Or.inr (last_not_text_set (marker_toVal_isText _ _ _) hf)
    · omega
  · rintro pre opener ms ⟨pO, mid, qO, oS, oE, pC, hpre, hmid, hcl, hro, hadj, hshape⟩ h0
    rcases hshape with ⟨hp, _⟩ | ⟨_, tail, hch, htail⟩
    · omega
    · exact ⟨pC, by rw [hch]; exact hpre.append (htail.widen hmid (Nat.le_refl _)), hadj, hcl⟩

/-! ## `scan_and_match_delimiters` -/

/-- what the matcher works on (`ICF` without the cursor): the list covers consecutive stretches of
    `c[lo..hiP]`, a text-like last member ends at the SOURCE offset `eC`, the last member is no
    `Text` -/
structure ListIC (c : List Char) (m : Srcmap) (W : Nat → Nat → Prop) (lo hiP eC : Nat)
    (cs : List Node) : Prop where
  tiles : ICL c m W false lo hiP cs
  adj : Adjd cs
  tail : ∀ init last, cs = init ++ [last] → TextLike last → ∃ a, last.range = some (a, eC)
  notext : NoTextLast cs

theorem ic_scanAndMatch (hs : Stretch c W S) (hsh : Shift c m W) {lo hiP eC : Nat}
    {fns : Nat → Option Wrap} {mk : Char} {room : Nat} {cs out : List Node}
    {b b' : List (Char × List Nat)} (hi : ListIC c m W lo hiP eC cs)
    (h : scanAndMatch fns mk room cs b = .ok (out, b')) : ListIC c m W lo hiP eC out := by
  rcases scanAndMatch_inv h with rfl | ⟨init, closerTok, closer, minIdx, ms, rfl, hcl, hms, hout⟩
  · exact hi
  · have hcT : TextLike closerTok := ic_asMarker_textLike hcl
    -- the last member is the closer: its certificate is the closer's run
    obtain ⟨mid, hinit, hlastT⟩ := hi.tiles.split
    obtain ⟨pC, qC, hmp, hn, hnil⟩ := (ICL_cons ..).mp hlastT
    have hq := (ICL_nil ..).mp hnil
    obtain ⟨hcc, hrem, cS, cE, hcr, hrun⟩ := hn.run hcl
    obtain ⟨a0, ha0⟩ := hi.tail init closerTok rfl hcT
    rw [hcr] at ha0; simp only [Option.some.injEq, Prod.mk.injEq] at ha0
    obtain ⟨_, rfl⟩ := ha0
    have hm0 : MInvIC c m W lo qC cE closer.remaining
        { closer := closer, closerRange := closerTok.range, children := init,
          newMin := init.length - 1 } := by
      refine ⟨pC, hinit.widen (Nat.le_refl _) hmp, C05R.em_adjd_left hi.adj, cS, hcr, hrun, ?_,
        Or.inl rfl⟩
      intro i l hl hlt
      simp only at hl; subst hl
      obtain ⟨a1, b1, b2, e1, e2⟩ :=
        ((C05R.fi_adjd_snoc _ _).mp hi.adj).2 l (C05R.fi_getLast_snoc rfl) hlt hcT
      rw [hcr] at e2; simp only [Option.some.injEq, Prod.mk.injEq] at e2
      exact ⟨a1, by rw [e1, e2.1]⟩
    obtain ⟨pC', htiles, hadj, s, hcr', hrun', hlast', hflag⟩ :=
      ic_matchOuter hs hsh _ _ _ _ _ hms hm0
    have hlen := C05R.em_cut_replicate_len hrun'.size hrun'.cut
    rcases hout with ⟨hpos, rfl⟩ | ⟨hpos, rfl⟩
    · -- the closer comes back on what is left of its run
      have hN : ICN c m W false pC' qC
          (Node.mk ms.closer.toVal ms.closerRange closerTok.children) := by
        rw [hcr', hcc]; exact hrun'.icn hpos
      refine ⟨htiles.snoc hN (Nat.le_refl _) hq, ic_adjd_snoc hadj ?_, ?_, ?_⟩
      · intro i l hl tl _
        obtain ⟨a, ha⟩ := hlast' i l hl tl
        exact ⟨a, s, cE, ha, hcr'⟩
      · intro i l hl _
        obtain ⟨_, rfl⟩ := snoc_inj hl
        exact ⟨s, hcr'⟩
      · intro i l hl
        obtain ⟨_, rfl⟩ := snoc_inj hl
        exact marker_toVal_isText _ _ _
    · -- the closer is used up: its run is empty, at least one wrapper was made
      have hpq : pC' = qC := by omega
      subst hpq
      have hse : s = cE := by
        have := hrun'.tp
        rw [hrun'.tq] at this
        exact (Except.ok.inj this).symm
      subst hse
      refine ⟨htiles.widen (Nat.le_refl _) hq, hadj, hlast', ?_⟩
      rcases hflag with hf | hf
      · omega
      · exact hf

/-! ## the rule -/

theorem ic_ruleEmph {A : Prop} {cfg : Cfg} {mk : Char} {csw : Bool} {lo : Nat} {st st' : IState}
    {o : Option Nat} (hs : Stretch st.src W S) (hsh : Shift st.src st.srcmap W)
    (hmk : mk.utf8Size = 1 ∧ mk ≠ '\n' ∧
      ∀ p q n, 0 < n → Cut st.src p q (List.replicate n mk) → W p q ∧ S q)
    (hf : ICF st.src st.srcmap W S A lo st.posMax st.pos st.children)
    (h : ruleEmph cfg mk csw st false = .ok (o, st')) :
    ICF st.src st.srcmap W S A lo st.posMax (st'.pos + o.getD 0) st'.children := by
  rcases ruleEmph_inv h with ⟨rfl, rfl⟩ | ⟨w, scanned, ⟨rx, ry⟩, cs, b, hw, hsc, hr, rfl, rfl, hcs⟩
  · exact ic_none hf
  · obtain ⟨mk', rest, hsl, _, hlen⟩ := scanDelims_length hsc
    unfold IState.window at hw
    rw [hw] at hsl
    simp only [Except.ok.injEq, List.cons.injEq] at hsl
    obtain ⟨rfl, rfl⟩ := hsl
    have hcut : Cut st.src st.pos st.posMax (mk :: w) :=
      (C05R.cut_iff_ops _ _ _ _).mp (liftOps_ok.mp hw)
    have hrun := C05R.em_runLen_cut hmk.1 hcut
    rw [← hlen] at hrun
    obtain ⟨e1, e2, _⟩ := getMap_eq hr
    obtain ⟨hW, hS⟩ := hmk.2.2 _ _ _ (by omega) hrun
    -- the new leaf is a marker on the run in front of the cursor
    have hleaf : ICN st.src st.srcmap W false st.pos (st.pos + scanned.length)
        (Node.leaf (.emphMarker mk scanned.length scanned.length scanned.canOpen scanned.canClose)
          (some (rx, ry))) :=
      Run.icn (k := ⟨mk, scanned.length, scanned.length, scanned.canOpen, scanned.canClose⟩)
        ⟨e1, e2, hrun, hmk.1, hmk.2.1, hW⟩ (by show 0 < scanned.length; omega)
    have hpushed : ListIC st.src st.srcmap W lo (st.pos + scanned.length) ry
        (st.children ++ [Node.leaf (.emphMarker mk scanned.length scanned.length scanned.canOpen
          scanned.canClose) (some (rx, ry))]) := by
      refine ⟨hf.tiles.snoc hleaf (Nat.le_refl _) (Nat.le_refl _), ic_adjd_snoc hf.adj ?_,
        ?_, ?_⟩
      · intro i l hil tl _
        obtain ⟨a, b, ha, hb⟩ := hf.tail i l hil tl
        rw [e1] at hb; simp only [Except.ok.injEq] at hb; subst hb
        exact ⟨a, rx, ry, ha, rfl⟩
      · intro i l hil _
        obtain ⟨_, rfl⟩ := snoc_inj hil
        exact ⟨rx, rfl⟩
      · intro i l hil
        obtain ⟨_, rfl⟩ := snoc_inj hil
        rfl
    have hfin : ∀ out, ListIC st.src st.srcmap W lo (st.pos + scanned.length) ry out →
        ICF st.src st.srcmap W S A lo st.posMax (st.pos + scanned.length) out := by
      intro out hl
      refine ⟨hrun.bdy_right, hl.tiles, hl.adj, ?_, ?_, ?_, fun _ _ _ => hS⟩
      · intro i l hil tl
        obtain ⟨a, ha⟩ := hl.tail i l hil tl
        exact ⟨a, ry, ha, e2⟩
      · intro i l hil ht
        rw [hl.notext i l hil] at ht; cases ht
      · intro _ i l hil ht
        rw [hl.notext i l hil] at ht; cases ht
    simp only [Option.getD_some]
    rcases hcs with rfl | hsm
    · exact hfin _ hpushed
    · exact hfin _ (ic_scanAndMatch hs hsh hpushed hsm)

end MdIt.IC
