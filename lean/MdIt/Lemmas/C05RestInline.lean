/-
  C05, the remaining clauses — one inline run on a table without virtual-space entry:
  `parseInline_fth`.  The inline parser is certified in inline-text coordinates
  (`IC.parseInline_ic`, Lemmas/InlineCertParse.lean); `Ctx` gives the table interface of the
  lowering (Lemmas/InlineCertLower.lean), and the frame invariant `FI` of Lemmas/C05RestDefs.lean is
  the image of the certificate's (`IC.ICF.fi`).  Worked instances: a text that exercises every rule
  but emphasis, the witness that `Ctx` is needed; the emphasis-marker rule at the state in front of
  the closer of `*a*` (`em_ex_hyps`), witnesses that a multi-byte marker and the line feed as marker
  break the invariant; facts about `Adjd` / `StrictTop` of sibling lists.
  Name prefixes: `fi_` the faithful inline run, `em_` the emphasis-marker rule.
-/
import MdIt.Lemmas.InlineCertParse
import MdIt.Lemmas.InlineCertLower
import MdIt.Lemmas.KernelEval

namespace MdIt.C05R
open MdIt.Inline
open MdIt.InlineOps (Srcmap getSourcePosFor getMap byteLen slice)

/-- "the emphasis-marker rule keeps `FI`, for the markers of the chain": a contract no theorem
    assumes (`parseInline_fth` needs `AsciiMarkers` only) -/
def fi_EmphIn (cfg : Cfg) (src0 : List Char) : Prop :=
  ∀ (mk : Char) (csw : Bool), RuleId.emph mk csw ∈ cfg.chain →
    ∀ (lo : Nat) (st st' : IState) (o : Option Nat), Ctx src0 st.src st.srcmap → RInv lo st →
      FInv src0 st → ruleEmph cfg mk csw st false = .ok (o, st') →
      FI src0 st.src st.srcmap (st'.pos + o.getD 0) st'.children

/-- **the deliverable**: for a content `c` with per-line table `m` that is a faithful excerpt of the
    document `src0` (`Ctx`) and single-byte non-LF emphasis markers: whatever `parseInline` returns is
    `FthN` at every node (range ends on character boundaries of `src0`, `Text` selects its content,
    `TextSpecial` its markup, `EmphMarker` covers its delimiters), mergeable neighbours are
    adjacent, and text-like members have non-empty ranges -/
theorem parseInline_fth (cfg : Inline.Cfg) {src0 c : List Char} {m : Srcmap} (hctx : Ctx src0 c m)
    (hmk : AsciiMarkers cfg.chain) {ns : List Inline.Node}
    (h : Inline.parseInline cfg c m = .ok ns) : FthL src0 ns ∧ Adjd ns ∧ StrictTop ns := by
  have hl := IC.low_of_ctx hctx
  obtain ⟨h1, h2⟩ := IC.parseInline_ic cfg (IC.stretch_true c) (IC.shift_of_mapOK hctx.map)
    (IC.markers_of_ascii hmk) h
  exact ⟨h1.fthL hl, h2, h1.strictTop hl⟩

/-! ## a worked instance -/

/-- every rule except the emphasis-marker rule (`exCfg` of Props/Inline.lean without `*`) -/
def fi_exCfg : Cfg :=
  { exCfg 100 with
    chain := [.text, .newline, .escape, .backticks, .link, .linkEnd, .image, .autolink, .entity] }

theorem fi_exEmph (src0 : List Char) : fi_EmphIn fi_exCfg src0 := by
  intro mk csw hid
  simp [fi_exCfg] at hid

def fi_exSrc : List Char := "a  \n` b `[c](d)<xx:y>&amp;\\*é".toList

/-- what the examples show of a result: value, range and number of children of every top-level node -/
def fi_show (r : Except Panic (List Node)) : Except Panic (List (Val × Option (Nat × Nat) × Nat)) :=
  r.map (fun cs => cs.map (fun n => (n.val, n.range, n.children.length)))

-- `parseInline_fth` on a text that exercises every rule but emphasis (text, hard break with
-- popped blanks, padded code span, link with a nested run, autolink, entity, escape, fall-back /
-- multi-byte text): the run succeeds with eight children, and they satisfy the conclusion
example : ∃ ns, parseInline fi_exCfg fi_exSrc [(0, 0)] = .ok ns ∧ ns.length = 8 ∧
    FthL fi_exSrc ns ∧ Adjd ns ∧ StrictTop ns := by
  have hrun : (match parseInline fi_exCfg fi_exSrc [(0, 0)] with
      | .ok cs => cs.length == 8
      | .error _ => false) = true := by decide +kernel
  split at hrun
  · next cs hcs =>
    exact ⟨cs, hcs, by simpa using hrun,
      parseInline_fth fi_exCfg (fi_ctx_id fi_exSrc) (fun mk csw hid => by simp [fi_exCfg] at hid) hcs⟩
  · simp at hrun

example : fi_show (parseInline fi_exCfg fi_exSrc [(0, 0)]) = .ok
    [(.text ['a'], some (0, 1), 0), (.hardbreak, some (1, 4), 0),
     (.codeInline '`' 1, some (4, 9), 1), (.link [100] none, some (9, 15), 1),
     (.autolink [120, 120, 58, 121], some (15, 21), 1),
     (.special ['&'] ['&', 'a', 'm', 'p', ';'] infoEntity, some (21, 26), 0),
     (.special ['*'] ['\\', '*'] infoEscape, some (26, 28), 0), (.text ['é'], some (28, 30), 0)] := by
  unfold fi_exSrc
  decide_lits

-- `Ctx` is needed: against a document the content is NOT an excerpt of, the text clause fails
example : ∃ ns, parseInline fi_exCfg ['a', 'b'] [(0, 0)] = .ok ns ∧ ¬ FthL ['x', 'y'] ns := by
  have hrun : fi_show (parseInline fi_exCfg ['a', 'b'] [(0, 0)]) = .ok [(.text ['a', 'b'], some (0, 2), 0)] := by
    decide +kernel
  unfold fi_show at hrun
  cases hp : parseInline fi_exCfg ['a', 'b'] [(0, 0)] with
  | error e => rw [hp] at hrun; simp [Except.map] at hrun
  | ok ns =>
    rw [hp] at hrun
    simp only [Except.map, Except.ok.injEq] at hrun
    refine ⟨ns, rfl, ?_⟩
    intro hfth
    obtain ⟨n, rfl, hn⟩ := List.map_eq_singleton_iff.mp hrun
    · simp only [Prod.mk.injEq] at hn
      obtain ⟨hv, hr, _⟩ := hn
      obtain ⟨⟨a, b, hab, _, _, htext, _⟩, _⟩ := (FthN_eq _ _).mp hfth.1
      rw [hr] at hab
      simp only [Option.some.injEq, Prod.mk.injEq] at hab
      obtain ⟨rfl, rfl⟩ := hab
      have := htext _ hv ['x', 'y'] ⟨[], [], rfl, rfl, by decide⟩ ⟨by decide, by decide⟩
      exact absurd this (by decide)

end MdIt.C05R

namespace MdIt.C05R
open MdIt.Inline
open MdIt.InlineOps (Srcmap getSourcePosFor getMap byteLen slice)

/-! ## sibling lists -/

theorem em_adjd_drop {l : List Node} (h : Adjd l) (k : Nat) : Adjd (l.drop k) := by
  rw [← List.take_append_drop k l] at h; exact em_adjd_right h

theorem em_adjd_take {l : List Node} (h : Adjd l) (k : Nat) : Adjd (l.take k) := by
  rw [← List.take_append_drop k l] at h; exact em_adjd_left h

theorem em_adjd_single (x : Node) : Adjd [x] := trivial

theorem em_strict_nil : StrictTop [] := by intro n hn; simp at hn

theorem em_marker_textLike (m : Marker) (r : Option (Nat × Nat)) (cs : List Node) :
    TextLike (Node.mk m.toVal r cs) := by
  simp [TextLike, textOf, Marker.toVal]

/-! ## a worked state; the two hypotheses on the marker are needed -/

/-- `*a` has been read from `*a*`, the cursor is in front of the closing `*` -/
def em_exSt : IState :=
  { IState.init ['*', 'a', '*'] [(0, 0)] with
    pos := 2
    children := [Node.leaf (.emphMarker '*' 1 1 true false) (some (0, 1)),
                 Node.newText ['a'] (some (1, 2))] }

def em_show (r : SRes) : List (Val × Option (Nat × Nat) × List Val) :=
  match r with
  | .ok (_, st) => st.children.map (fun n => (n.val, n.range, n.children.map (·.val)))
  | .error _ => []

def em_step (r : SRes) : Option (Option Nat × Nat) :=
  match r with
  | .ok (o, st) => some (o, st.pos)
  | .error _ => none

-- the rule fires, matches the opener and wraps the text; the state satisfies `Ctx`, `RI` and `FI`
-- (`em_ex_hyps`): a run through `matchInner`
example : em_step (ruleEmph (exCfg 100) '*' true em_exSt false) = some (some 1, 2) ∧
    em_show (ruleEmph (exCfg 100) '*' true em_exSt false) =
      [(.wrap .em '*', some (0, 3), [.text ['a']])] := by decide +kernel

/-- the frame invariant of that state in inline-text coordinates, for any class of stretches that
    holds the two stretches `*` and `a` -/
theorem em_ex_icf {W : Nat → Nat → Prop} {S : Nat → Prop} (w01 : W 0 1) (w12 : W 1 2) :
    IC.ICF ['*', 'a', '*'] [(0, 0)] W S True 0 3 2 em_exSt.children := by
  have c01 : Cut ['*', 'a', '*'] 0 1 ['*'] := ⟨[], ['a', '*'], rfl, rfl, rfl⟩
  have c12 : Cut ['*', 'a', '*'] 1 2 ['a'] := ⟨['*'], ['*'], rfl, rfl, rfl⟩
  have n0 : IC.ICN ['*', 'a', '*'] [(0, 0)] W false 0 1
      (Node.leaf (.emphMarker '*' 1 1 true false) (some (0, 1))) :=
    IC.Run.icn (k := ⟨'*', 1, 1, true, false⟩)
      ⟨fi_tr_id 0, fi_tr_id 1, c01, by decide, by decide, w01⟩ (by decide)
  have n1 : IC.ICN ['*', 'a', '*'] [(0, 0)] W false 1 2 (Node.newText ['a'] (some (1, 2))) :=
    IC.icn_newText (fi_tr_id 1) (fi_tr_id 2) c12.bdy_left c12.bdy_right (by decide)
      (fun _ => ⟨by decide, c12, fun _ => w12⟩) (fun e => by cases e)
  have hlast : ∀ init last, em_exSt.children = init ++ [last] →
      init = [Node.leaf (.emphMarker '*' 1 1 true false) (some (0, 1))] ∧
        last = Node.newText ['a'] (some (1, 2)) := by
    intro init last hl
    have hl' : [Node.leaf (.emphMarker '*' 1 1 true false) (some (0, 1))] ++
        [Node.newText ['a'] (some (1, 2))] = init ++ [last] := hl
    exact ⟨(snoc_inj hl').1.symm, (snoc_inj hl').2.symm⟩
  refine ⟨⟨['*', 'a'], ['*'], rfl, rfl⟩,
    (IC.ICL.single n0 (Nat.le_refl _) (Nat.le_refl _)).append (IC.ICL.single n1 (Nat.le_refl _) (Nat.le_refl _)),
    ⟨fun _ _ => ⟨0, 1, 2, rfl, rfl⟩, trivial⟩, ?_, ?_, ?_, ?_⟩
  · intro init last hl _
    rw [(hlast init last hl).2]
    exact ⟨1, 2, rfl, fi_tr_id 2⟩
  · intro init last hl _
    obtain ⟨rfl, rfl⟩ := hlast init last hl
    exact ⟨1, 1, IC.ICL.single n0 (Nat.le_refl _) (Nat.le_refl _), Nat.le_refl _, n1⟩
  · intro _ init last hl _
    rw [(hlast init last hl).2]
    simp [Node.newText, Node.content]
  · intro hnt
    have := hnt [Node.leaf (.emphMarker '*' 1 1 true false) (some (0, 1))]
      (Node.newText ['a'] (some (1, 2))) rfl
    simp [Node.newText, Node.isText] at this

theorem em_ex_hyps : ('*' : Char).utf8Size = 1 ∧ ('*' : Char) ≠ '\n' ∧
    Ctx ['*', 'a', '*'] em_exSt.src em_exSt.srcmap ∧ RInv 0 em_exSt ∧ FInv ['*', 'a', '*'] em_exSt :=
  ⟨by decide, by decide, fi_ctx_id _,
    (em_ex_icf (S := fun _ => True) trivial trivial).ri (fi_ctx_id ['*', 'a', '*']).map.mapMono
      (IC.shift_of_mapOK (fi_ctx_id _).map) (fi_tr_id 0),
    (em_ex_icf (S := fun _ => True) trivial trivial).fi (IC.low_of_ctx (fi_ctx_id _))⟩

-- `mk.utf8Size = 1` is needed: `scan_delims` counts CHARACTERS and the rule advances by that
-- count, so behind a run of one two-byte marker the cursor (and the end of the marker's range) is
-- inside the character: no `FI.bpos`, no `FthN` of the pushed leaf
example : em_step (ruleEmph (exCfg 100) 'é' true (IState.init ['é', 'a'] [(0, 0)]) false) =
      some (some 1, 0) ∧
    em_show (ruleEmph (exCfg 100) 'é' true (IState.init ['é', 'a'] [(0, 0)]) false) =
      [(.emphMarker 'é' 1 1 true false, some (0, 1), [])] ∧
    ¬ Bdy ['é', 'a'] 1 := by
  refine ⟨by decide +kernel, by decide +kernel, ?_⟩
  rintro ⟨p, q, e, hp⟩
  cases p with
  | nil => simp [byteLen] at hp
  | cons x p' =>
    simp only [List.cons_append, List.cons.injEq] at e
    obtain ⟨rfl, _⟩ := e
    have : ('é' : Char).utf8Size = 2 := by decide
    simp only [byteLen, this] at hp; omega

-- `mk ≠ '\n'` is needed: behind a container prefix a line feed of the inline text stands for the
-- line break AND the prefix of the next line (`> a\n> b`: content `a\nb`, table `[(0, 2), (2, 6)]`),
-- so the range of a "marker" made of the line feed, `(3, 6)`, does not select `replicate 1 '\n'`
example : em_show (ruleEmph (exCfg 100) '\n' true
        { IState.init ['a', '\n', 'b'] [(0, 2), (2, 6)] with pos := 1 } false) =
      [(.emphMarker '\n' 1 1 true true, some (3, 6), [])] ∧
    ¬ Cut ['>', ' ', 'a', '\n', '>', ' ', 'b'] 3 6 (List.replicate 1 '\n') := by
  refine ⟨by decide +kernel, ?_⟩
  rintro ⟨p, q, _, _, hb⟩
  have : ('\n' : Char).utf8Size = 1 := by decide
  simp only [List.replicate, byteLen, this] at hb; omega

end MdIt.C05R
