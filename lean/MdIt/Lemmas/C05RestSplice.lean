/-
  C05, the remaining clauses (character boundaries, text faithfulness): transport through the three
  passes behind the block pass, on the full `Pipeline.Node` tree (`afterBlocks_postOk`; the companion of
  Lemmas/C05InlineSplice.lean, which transports the geometry `NodeOrd`).  Every node of the walked tree is
  `PreOk`; the seam between the outputs of two placeholders of one sibling list is `Glue`d by the line break
  that ends the first stretch; `fragments_join` keeps the clauses at the members it retains (the hull of two
  `Glue`d texts selects the concatenation, or holds a line break: `sp_merged_sel`).  (Prefix `sp_`: this
  file; `ts_PreH`, `ts_valb` are the versions with the exemption flag of Lemmas/C05TabsTextSplice.lean, which
  stand here because the flag-free ones are their instances.)  The walk (`spliceNode_glued`, for this file and
  for C05TabsTextSplice through `SpliceQ`) is not an instance of `spliceNode_every_of`: `Glued` is a fact about
  neighbours in the output list.
-/
import MdIt.Lemmas.C05RestDefs

namespace MdIt.Pipeline
open MdIt.C05R
open MdIt.InlineOps (byteLen)

/-- `Glue` reads the text value and the range of its two arguments only -/
theorem sp_glue_congr {src : List Char} {x y x' y' : Node} (hx : textOfK x'.kind = textOfK x.kind)
    (hxr : x'.range = x.range) (hy : textOfK y'.kind = textOfK y.kind) (hyr : y'.range = y.range)
    (h : Glue src x y) : Glue src x' y' := by
  intro tx ty h1 h2
  rw [hx] at h1; rw [hy] at h2
  obtain ⟨a1, b1, a2, b2, r1, r2, h3⟩ := h tx ty h1 h2
  exact ⟨a1, b1, a2, b2, by rw [hxr]; exact r1, by rw [hyr]; exact r2, h3⟩

theorem sp_glued_tail {src : List Char} {x : Node} {l : List Node} (h : Glued src (x :: l)) :
    Glued src l := by
  cases l with
  | nil => trivial
  | cons y r => exact h.2

theorem sp_glued_cons {src : List Char} {x : Node} {l : List Node}
    (h : ∀ y r, l = y :: r → Glue src x y) (hl : Glued src l) : Glued src (x :: l) := by
  cases l with
  | nil => trivial
  | cons y r => exact ⟨h y r rfl, hl⟩

theorem sp_glued_map {src : List Char} {f : Node → Node}
    (hk : ∀ n, textOfK (f n).kind = textOfK n.kind) (hr : ∀ n, (f n).range = n.range) :
    ∀ {l : List Node}, Glued src l → Glued src (l.map f)
  | [], _ => trivial
  | [_], _ => trivial
  | x :: y :: r, h => by
    have ih := sp_glued_map hk hr (l := y :: r) h.2
    simp only [List.map_cons] at ih ⊢
    exact ⟨sp_glue_congr (hk x) (hr x) (hk y) (hr y) h.1, ih⟩

theorem sp_glued_append {src : List Char} : ∀ {l1 l2 : List Node}, Glued src l1 → Glued src l2 →
    (∀ x ∈ l1, ∀ y r, l2 = y :: r → Glue src x y) → Glued src (l1 ++ l2)
  | [], _, _, h2, _ => h2
  | [x], _, _, h2, h => sp_glued_cons (fun y r e => h x (by simp) y r e) h2
  | x :: y :: r, l2, h1, h2, h => by
    have ih := sp_glued_append (l1 := y :: r) (l2 := l2) h1.2 h2
      (fun x' hx' => h x' (List.mem_cons_of_mem _ hx'))
    exact ⟨h1.1, ih⟩

theorem sp_textOfK_ofInline (n : Inline.Node) : textOfK (ofInline n).kind = textOf n.val := by
  cases n; simp [ofInline, textOfK]

theorem sp_adj_glue {src : List Char} {x y : Inline.Node} (h : Adj x y) :
    Glue src (ofInline x) (ofInline y) := by
  intro tx ty h1 h2
  rw [sp_textOfK_ofInline] at h1 h2
  obtain ⟨a1, b1, b2, r1, r2⟩ := h (by simp [TextLike, h1]) (by simp [TextLike, h2])
  exact ⟨a1, b1, b1, b2, by rw [c05s_ofInline_range]; exact r1, by rw [c05s_ofInline_range]; exact r2,
    .inl rfl⟩

/-- adjacent mergeable neighbours are glued (first disjunct of `Glue`) -/
theorem sp_ofInlineList_glued {src : List Char} : ∀ {ns : List Inline.Node}, Adjd ns →
    Glued src (ofInlineList ns)
  | [], _ => by simp only [ofInlineList]; trivial
  | [_], _ => by simp only [ofInlineList]; trivial
  | x :: y :: r, h => by
    have ih := sp_ofInlineList_glued (src := src) (ns := y :: r) h.2
    simp only [ofInlineList] at ih ⊢
    exact ⟨sp_adj_glue h.1, ih⟩

mutual
theorem sp_ofInline_every {src : List Char} (n : Inline.Node) (h : FthN src n) :
    Every (PreOk src) (ofInline n) := by
  match n with
  | ⟨v, r, cs⟩ =>
    rw [FthN_eq] at h
    obtain ⟨⟨a, b, hr, ha, hb, ht, hs, hm, hadj⟩, hcs⟩ := h
    simp only at hr ht hs hm hadj hcs
    unfold ofInline
    refine .mk _ ⟨a, b, hr, ha, hb, ?_, ?_, sp_ofInlineList_glued hadj⟩ (sp_ofInlineList_every cs hcs)
    · intro t ht'
      change textOf v = some t at ht'
      cases v with
      | text c =>
        simp only [textOf, Option.some.injEq] at ht'; subst ht'; exact ht _ rfl
      | emphMarker mk l rem o c =>
        simp only [textOf, Option.some.injEq] at ht'; subst ht'
        exact Sel.of_cut (hm mk l rem o c rfl).1
      | _ => simp [textOf] at ht'
    · intro ct mu info hk
      simp only [Kind.inl.injEq] at hk
      exact hs ct mu info hk
theorem sp_ofInlineList_every {src : List Char} (ns : List Inline.Node) (h : FthL src ns) :
    ∀ c ∈ ofInlineList ns, Every (PreOk src) c := by
  match ns with
  | [] => simp [ofInlineList]
  | n :: r =>
    simp only [FthL] at h
    intro x hx
    simp only [ofInlineList, List.mem_cons] at hx
    rcases hx with rfl | hx
    · exact sp_ofInline_every n h.1
    · exact sp_ofInlineList_every r h.2 x hx
end

theorem postOk_attrBlind (src : List Char) : AttrBlind (PostOk src) :=
  attrBlind_of_kr fun _ _ hk hr ⟨a, b, h1, h2, h3, h4, h5⟩ =>
    ⟨a, b, by rw [← hr]; exact h1, h2, h3, by rw [← hk]; exact h4, by rw [← hk]; exact h5⟩

theorem sp_sourceposList_every {src0 src : List Char} {marks : List SourceMap.Mark}
    (cs cs' : List Node) (he : ∀ c ∈ cs, Every (PostOk src0) c)
    (h : sourceposList src marks cs = .ok cs') : ∀ c ∈ cs', Every (PostOk src0) c :=
  sourceposList_every_of (postOk_attrBlind src0 _) he h

/-- **the hull of two glued texts**: if `(a1, b1)` selects `c1`, `(a2, b2)` selects `c2`, the two
    ranges follow each other and are either adjacent or separated by a line break that the hull
    contains, the hull `(a1, b2)` selects `c1 ++ c2` -/
theorem sp_merged_sel {src : List Char} {a1 b1 a2 b2 : Nat} {c1 c2 : List Char}
    (h1 : Sel src a1 b1 c1) (h2 : Sel src a2 b2 c2) (hb1 : Bdy src b1)
    (o1 : a1 ≤ b1) (o2 : b1 ≤ a2) (o3 : a2 ≤ b2)
    (hg : b1 = a2 ∨ ∃ g, b1 ≤ g ∧ g < b2 ∧ BrkAt src g) : Sel src a1 b2 (c1 ++ c2) := by
  intro w hw hn
  rcases hg with rfl | ⟨g, g1, g2, g3⟩
  · obtain ⟨w1, w2, rfl, k1, k2⟩ := hw.split hb1 o1 o3
    have n1 : NoBrk w1 :=
      ⟨fun h => hn.1 (List.mem_append_left _ h), fun h => hn.2 (List.mem_append_left _ h)⟩
    have n2 : NoBrk w2 :=
      ⟨fun h => hn.1 (List.mem_append_right _ h), fun h => hn.2 (List.mem_append_right _ h)⟩
    rw [h1 w1 k1 n1, h2 w2 k2 n2]
  · exact absurd hn (g3.mem_cut hw (by omega) g2)

theorem sp_isText_kind {n : Node} (h : n.isText = true) : n.kind = .inl (.text n.content) := by
  unfold Node.isText at h
  unfold Node.content
  split at h
  · next c hc => simp [hc]
  · cases h

theorem sp_isText_textOfK {n : Node} (h : n.isText = true) : textOfK n.kind = some n.content := by
  rw [sp_isText_kind h]; rfl

theorem sp_markerToText_textOfK (n : Node) : textOfK (markerToText n).kind = textOfK n.kind := by
  unfold markerToText
  split
  · next m l rem o c hk => rw [hk]; rfl
  · rfl

/-- the clauses of `PreOk` at a node, the text clause switched off by the flag `ex` (set for the children
    of a code span when tabs may be split: Lemmas/C05TabsTextSplice.lean) -/
def ts_PreH (src : List Char) (ex : Bool) (n : Node) : Prop :=
  ∃ a b, n.range = some (a, b) ∧ Bdy src a ∧ Bdy src b ∧
    (ex = false → ∀ t, textOfK n.kind = some t → Sel src a b t) ∧
    (∀ ct mu info, n.kind = .inl (.special ct mu info) → Sel src a b mu) ∧
    Glued src n.children

theorem preOk_iff_preH {src : List Char} {n : Node} : PreOk src n ↔ ts_PreH src false n :=
  ⟨fun ⟨a, b, hr, ha, hb, ht, hs, hg⟩ => ⟨a, b, hr, ha, hb, fun _ => ht, hs, hg⟩,
   fun ⟨a, b, hr, ha, hb, ht, hs, hg⟩ => ⟨a, b, hr, ha, hb, ht rfl, hs, hg⟩⟩

theorem preH_markerToText {src : List Char} {ex : Bool} {n : Node} (h : ts_PreH src ex n) :
    ts_PreH src ex (markerToText n) := by
  obtain ⟨a, b, hr, ha, hb, ht, hs, hg⟩ := h
  refine ⟨a, b, by rw [c05s_markerToText_range]; exact hr, ha, hb, ?_, ?_,
    by rw [c05s_markerToText_children]; exact hg⟩
  · intro hex t h1
    rw [sp_markerToText_textOfK] at h1
    exact ht hex t h1
  · intro ct mu info hk
    unfold markerToText at hk
    split at hk
    · cases hk
    · exact hs ct mu info hk

/-- the merged text: if the flag is off, the hull selects the concatenation (`sp_merged_sel`); if it is on
    only the boundaries are claimed, which the hull keeps -/
theorem preH_merged {src : List Char} {ex : Bool} {cur nxt : Node} {a b c d : Nat}
    (q1 : cur.range = some (a, b)) (r1 : nxt.range = some (c, d)) (o1 : a ≤ b) (o2 : b ≤ c) (o3 : c ≤ d)
    (ht1 : cur.isText = true) (ht2 : nxt.isText = true) (hc : ts_PreH src ex cur) (hx : ts_PreH src ex nxt)
    (hg : Glue src cur nxt) : ts_PreH src ex (merged cur nxt) := by
  obtain ⟨a', b', q1', ha, hb, hsel1, _, hgl⟩ := hc
  rw [q1] at q1'; cases q1'
  obtain ⟨c', d', r1', _, hd, hsel2, _, _⟩ := hx
  rw [r1] at r1'; cases r1'
  obtain ⟨a1, b1, a2, b2, e1, e2, hdis⟩ := hg _ _ (sp_isText_textOfK ht1) (sp_isText_textOfK ht2)
  rw [q1] at e1; cases e1
  rw [r1] at e2; cases e2
  have hm : (merged cur nxt).range = some (a, d) := by simp [merged, q1, r1]
  refine ⟨a, d, hm, ha, hd, ?_, ?_, hgl⟩
  · intro hex t ht
    have : t = cur.content ++ nxt.content := by
      simp only [merged, textOfK, textOf, Option.some.injEq] at ht
      exact ht.symm
    subst this
    exact sp_merged_sel (hsel1 hex _ (sp_isText_textOfK ht1)) (hsel2 hex _ (sp_isText_textOfK ht2))
      hb o1 o2 o3 hdis
  · intro ct mu info hk
    simp [merged] at hk

/-- the merged text ends where the second one ended: it is glued to what follows -/
theorem sp_merged_glued {src : List Char} {cur nxt : Node} {a b c d : Nat} {rest : List Node}
    (q1 : cur.range = some (a, b)) (r1 : nxt.range = some (c, d)) (ht2 : nxt.isText = true)
    (h : Glued src (nxt :: rest)) : Glued src (merged cur nxt :: rest) := by
  have hm : (merged cur nxt).range = some (a, d) := by simp [merged, q1, r1]
  cases rest with
  | nil => trivial
  | cons z r =>
    refine ⟨?_, h.2⟩
    intro tx ty h1 h2
    obtain ⟨a1, b1, a2, b2, e1, e2, hdis⟩ := h.1 _ ty (sp_isText_textOfK ht2) h2
    rw [r1] at e1; cases e1
    exact ⟨a, d, a2, b2, hm, e2, hdis⟩

theorem preH_mergeLoop {src : List Char} {ex : Bool} (hi : Nat) (rest : List Node) : ∀ (cur : Node) (lo : Nat),
    OrderedD lo hi (cur :: rest) → Glued src (cur :: rest) → (∀ x ∈ cur :: rest, ts_PreH src ex x) →
    ∀ x ∈ mergeLoop cur rest, keep x = true → ts_PreH src ex x := by
  induction rest with
  | nil =>
    intro cur lo _ _ he x hx _
    simp only [mergeLoop, List.mem_singleton] at hx
    subst hx
    exact he _ (by simp)
  | cons nxt rest ih =>
    intro cur lo ho hgl he x hx hk
    obtain ⟨a, b, q1, q2, q3, c, d, r1, r2, r3, r4⟩ := ho
    simp only [mergeLoop] at hx
    split at hx
    · rename_i hboth
      simp only [Bool.and_eq_true] at hboth
      obtain ⟨ht1, ht2⟩ := hboth
      rcases List.mem_cons.mp hx with rfl | hx
      · rw [c05s_keep_emptied] at hk; cases hk
      · have hm : (merged cur nxt).range = some (a, d) := by simp [merged, q1, r1]
        refine ih (merged cur nxt) lo ⟨a, d, hm, q2, by omega, r4⟩
          (sp_merged_glued q1 r1 ht2 hgl.2) ?_ x hx hk
        intro y hy
        rcases List.mem_cons.mp hy with rfl | hy
        · exact preH_merged q1 r1 q3 r2 r3 ht1 ht2 (he cur (by simp)) (he nxt (by simp)) hgl.1
        · exact he y (by simp [hy])
    · rcases List.mem_cons.mp hx with rfl | hx
      · exact he _ (by simp)
      · exact ih nxt b ⟨c, d, r1, r2, r3, r4⟩ (sp_glued_tail hgl)
          (fun y hy => he y (List.mem_cons_of_mem _ hy)) x hx hk

/-- **`fragments_join` keeps the clauses** on the members it retains (a merged text selects the
    concatenation in the hull of the two ranges, or the hull holds a line break), for either flag -/
theorem preH_fragmentsJoin {src : List Char} {ex : Bool} {lo hi : Nat} {cs : List Node}
    (ho : OrderedD lo hi cs) (hgl : Glued src cs) (he : ∀ x ∈ cs, ts_PreH src ex x) :
    ∀ x ∈ fragmentsJoin cs, ts_PreH src ex x := by
  have ho1 : OrderedD lo hi (pass1 cs) := (c05s_ordered_map c05s_markerToText_range).mpr ho
  have hg1 : Glued src (pass1 cs) := sp_glued_map sp_markerToText_textOfK c05s_markerToText_range hgl
  have he1 : ∀ x ∈ pass1 cs, ts_PreH src ex x := by
    intro x hx
    obtain ⟨c, hc, rfl⟩ := List.mem_map.mp hx
    exact preH_markerToText (he c hc)
  unfold fragmentsJoin
  cases hp : pass1 cs with
  | nil => simp [mergeAll]
  | cons c r =>
    rw [hp] at ho1 hg1 he1
    intro x hx
    obtain ⟨hx1, hx2⟩ := List.mem_filter.mp hx
    exact preH_mergeLoop hi r c lo ho1 hg1 he1 x hx1 hx2

theorem sp_fragmentsJoin_pre {src : List Char} {lo hi : Nat} {cs : List Node} (ho : OrderedD lo hi cs)
    (hgl : Glued src cs) (he : ∀ x ∈ cs, Every (PreOk src) x) :
    ∀ x ∈ fragmentsJoin cs, Every (PreOk src) x := by
  intro x hx
  obtain ⟨c, hc, hr, _⟩ := fragmentsJoin_textFor _ x hx
  exact .mk _ (preOk_iff_preH.mpr
      (preH_fragmentsJoin ho hgl (fun y hy => preOk_iff_preH.mp (he y hy).here) x hx))
    (by rw [hr.1]; exact (he c hc).child)

theorem sp_preOk_postOk {src : List Char} {n : Node} (h : PreOk src n) : PostOk src n := by
  obtain ⟨a, b, hr, ha, hb, ht, hs, _⟩ := h
  exact ⟨a, b, hr, ha, hb, fun t hk => ht t (by rw [hk]; rfl), hs⟩

theorem sp_joinNode_every {B : Nat} {src : List Char} (n : Node) :
    Every (NodeOrdB B) n → Every (PreOk src) n → Every (PostOk src) (joinNode n) := by
  induction n using joinNode_induct with
  | step n ih =>
    intro he hp
    obtain ⟨_, _, _, _, _, h4⟩ := he.here
    obtain ⟨a, b, g1, g2, g3, g4, g5, g6⟩ := hp.here
    refine .mk _ ⟨a, b, by rw [joinNode_range]; exact g1, g2, g3,
      fun t hk => g4 t (by rw [joinNode_kind] at hk; rw [hk]; rfl),
      fun ct mu info hk => g5 ct mu info (by rw [joinNode_kind] at hk; exact hk)⟩ ?_
    rw [joinNode_children]
    intro y hy
    obtain ⟨x, hx, rfl⟩ := List.mem_map.mp hy
    exact ih x hx ((nodeOrdB_joinStable _).keep n he x hx) (sp_fragmentsJoin_pre h4 g6 hp.child x hx)

/-- a text-like head of `out` has a non-empty range that begins at or behind `g` -/
def sp_HeadSep (g : Nat) : List Node → Prop
  | [] => True
  | y :: _ => ∀ ty, textOfK y.kind = some ty → ∃ a b, y.range = some (a, b) ∧ g ≤ a ∧ a < b

theorem sp_headSep_mono {g g' : Nat} {l : List Node} (h : sp_HeadSep g l) (hg : g' ≤ g) :
    sp_HeadSep g' l := by
  cases l with
  | nil => trivial
  | cons y r =>
    intro ty hty
    obtain ⟨a, b, h1, h2, h3⟩ := h ty hty
    exact ⟨a, b, h1, by omega, h3⟩

/-- what the splice walk asks of a claim `F` about the inline parser's nodes and a claim `Q` about the nodes of
    the walked tree (`FthL` / `Every PreOk`; with the code-span exemption: Lemmas/C05TabsTextSplice.lean) -/
structure SpliceQ (src : List Char) (F : List Inline.Node → Prop) (Q : Node → Prop) : Prop where
  inl : ∀ ns, F ns → ∀ x ∈ ofInlineList ns, Q x
  bdy : ∀ y a b, Q y → y.range = some (a, b) → Bdy src b
  blk : ∀ (k : Block.Kind) (a z : Nat) (cs' : List Node), Bdy src a → Bdy src z → (∀ x ∈ cs', Q x) →
    Glued src cs' → Q ⟨.blk k, some (a, z), [], cs'⟩

section
variable {icfg : Inline.Cfg} {src : List Char} {F : List Inline.Node → Prop} {Q : Node → Prop}
  {P : Block.InlP} (hQ : SpliceQ src F Q)
  (hP : ∀ c m a b, P c m a b → (b = byteLen src ∨ BrkAt src b) ∧
    ∀ ns, Inline.parseInline icfg c m = .ok ns →
      Inline.OrderedN a b ns ∧ Inline.WellRangedList ns ∧ F ns ∧ Adjd ns ∧ StrictTop ns)
include hQ hP

mutual
theorem spliceNode_glued (b : Block.BNode) (t : Node)
    (hg : Block.RangedB P src b) (hn : InlNoRange b) (a z : Nat) (hr : b.range = some (a, z))
    (h : spliceNode icfg b = .ok t) : textOfK t.kind = none ∧ Q t := by
  match b with
  | ⟨k, r, cs⟩ =>
    simp only [spliceNode] at h
    split at h
    · cases h
    · rename_i cs' hcs
      cases h
      obtain ⟨_, h2, h3, h4⟩ := hg.at a z hr
      obtain ⟨l1, l2, _⟩ := spliceList_glued cs cs' a z h4 hg.child hn.child hcs
      simp only at hr
      subst hr
      exact ⟨rfl, hQ.blk k a z cs' ((bdy_iff_bd _ _).mpr h2) ((bdy_iff_bd _ _).mpr h3) l1 l2⟩
/-- the children: every member of the output is `Q`, the output is `Glued` (the seam behind a placeholder's
    last node by the line break at the end of its stretch), and a text-like head begins behind `lo` with a
    non-empty range -/
theorem spliceList_glued (cs : List Block.BNode) (out : List Node)
    (lo hi : Nat) (ho : Block.OrderedB P lo hi cs)
    (hg : ∀ c ∈ cs, Block.RangedB P src c) (hn : ∀ c ∈ cs, InlNoRange c)
    (h : spliceList icfg cs = .ok out) :
    (∀ x ∈ out, Q x) ∧ Glued src out ∧ sp_HeadSep lo out := by
  match cs with
  | [] => simp [spliceList] at h; subst h; exact ⟨by simp, trivial, trivial⟩
  | c :: rest =>
    obtain ⟨a, b, hsp, h1, h2, h3⟩ := ho
    have hgr : ∀ x ∈ rest, Block.RangedB P src x :=
      fun x hx => hg x (List.mem_cons_of_mem _ hx)
    have hnr : ∀ x ∈ rest, InlNoRange x := fun x hx => hn x (List.mem_cons_of_mem _ hx)
    simp only [spliceList] at h
    split at h
    · -- a placeholder
      rename_i content mapping hk
      split at h
      · cases h
      · rename_i ns hns
        split at h
        · cases h
        · rename_i rest' hrest
          cases h
          obtain ⟨i1, i2, i3⟩ := spliceList_glued rest rest' b hi h3 hgr hnr hrest
          have hnone : c.range = none := (hn c (by simp)).at content mapping hk
          unfold Block.SpanB at hsp
          rw [hnone] at hsp
          obtain ⟨c', m', hk', _, hp⟩ := hsp
          rw [hk] at hk'
          cases hk'
          obtain ⟨hend, hp⟩ := hP _ _ _ _ hp
          obtain ⟨p1, _, p3, p4, p5⟩ := hp ns hns
          have hord : OrderedD a b (ofInlineList ns) := c05s_ofInlineList_ordered p1
          refine ⟨?_, ?_, ?_⟩
          · intro x hx
            rcases List.mem_append.mp hx with hx | hx
            · exact hQ.inl ns p3 x hx
            · exact i1 x hx
          · -- the seam: the line break at `b`
            apply sp_glued_append (sp_ofInlineList_glued p4) i2
            intro x hxm y r hy tx ty _ hy'
            subst hy
            obtain ⟨a1, b1, rx, _, _, hb1⟩ := hord.mem x hxm
            obtain ⟨a2, b2, ry, ha2, hlt⟩ := i3 ty hy'
            have hle := (hQ.bdy y a2 b2 (i1 y (by simp)) ry).le
            have hbrk : BrkAt src b := by
              rcases hend with e | e
              · omega
              · exact e
            exact ⟨a1, b1, a2, b2, rx, ry, .inr ⟨b, hb1, by omega, hbrk⟩⟩
          · cases ns with
            | nil => simp only [ofInlineList, List.nil_append]; exact sp_headSep_mono i3 (by omega)
            | cons n r =>
              simp only [ofInlineList, List.cons_append]
              intro ty hty
              rw [sp_textOfK_ofInline] at hty
              obtain ⟨a', b', rn, hlt⟩ := p5 n (by simp) (by simp [TextLike, hty])
              obtain ⟨a'', b'', rn', hle, _⟩ := p1
              rw [rn] at rn'; cases rn'
              exact ⟨a', b', by rw [c05s_ofInline_range]; exact rn, by omega, hlt⟩
    · -- any other child: walked; a block node is not text-like
      rename_i hk
      split at h
      · cases h
      · rename_i c' hc'
        split at h
        · cases h
        · rename_i rest' hrest
          cases h
          obtain ⟨i1, i2, _⟩ := spliceList_glued rest rest' b hi h3 hgr hnr hrest
          have hrange := Block.spanB_kind hsp (fun c' m hc => hk c' m hc)
          obtain ⟨j1, j2⟩ := spliceNode_glued c c' (hg c (by simp)) (hn c (by simp)) a b hrange hc'
          refine ⟨?_, ?_, ?_⟩
          · intro x hx
            rcases List.mem_cons.mp hx with rfl | hx
            · exact j2
            · exact i1 x hx
          · refine sp_glued_cons (fun y r _ tx ty hx _ => ?_) i2
            rw [j1] at hx; cases hx
          · intro ty hty
            rw [j1] at hty; cases hty
end
end

theorem spliceQ_preOk (src : List Char) : SpliceQ src (FthL src) (Every (PreOk src)) where
  inl := sp_ofInlineList_every
  bdy := fun y a b hy hr => by
    obtain ⟨a', b', r', _, hb, _⟩ := hy.here
    rw [hr] at r'; cases r'; exact hb
  blk := fun k a z cs' ha hz l1 l2 =>
    .mk _ ⟨a, z, rfl, ha, hz, fun t ht => (by simp [textOfK] at ht), fun ct mu info hk => (by cases hk), l2⟩ l1

theorem sp_spliceNode_pre {icfg : Inline.Cfg} {src : List Char} (b : Block.BNode) (t : Node)
    (hg : Block.RangedB (PInlF icfg src) src b) (hn : InlNoRange b) (a z : Nat) (hr : b.range = some (a, z))
    (h : spliceNode icfg b = .ok t) : textOfK t.kind = none ∧ Every (PreOk src) t :=
  spliceNode_glued (spliceQ_preOk src) (fun _ _ _ _ h => h) b t hg hn a z hr h

theorem sp_spliceList_pre {icfg : Inline.Cfg} {src : List Char} (cs : List Block.BNode) (out : List Node)
    (lo hi : Nat) (ho : Block.OrderedB (PInlF icfg src) lo hi cs)
    (hg : ∀ c ∈ cs, Block.RangedB (PInlF icfg src) src c) (hn : ∀ c ∈ cs, InlNoRange c)
    (h : spliceList icfg cs = .ok out) :
    (∀ x ∈ out, Every (PreOk src) x) ∧ Glued src out ∧ sp_HeadSep lo out :=
  spliceList_glued (spliceQ_preOk src) (fun _ _ _ _ h => h) cs out lo hi ho hg hn h

theorem sp_pinlF_pinl {icfg : Inline.Cfg} {src : List Char} {root : Block.BNode}
    (hg : Block.RangedB (PInlF icfg src) src root) : Block.RangedB (PInl icfg) src root :=
  hg.imp (fun _ _ _ _ _ h ns hns => ⟨(h.2 ns hns).1, (h.2 ns hns).2.1⟩)

theorem sp_afterBlocks_post {cfg : DocCfg} {src : List Char} {root : Block.BNode} {refs : Refs.RefMap}
    {t : Node} {a z : Nat} (hroot : root.range = some (a, z))
    (hg : Block.RangedB (PInlF (cfg.inlineCfg refs) src) src root) (hn : InlNoRange root)
    (h : afterBlocks cfg src root refs = .ok t) : Every (PostOk src) t := by
  obtain ⟨t0, hs, hf⟩ := afterBlocks_ok h
  obtain ⟨_, e0⟩ := c05s_spliceNode_ord root t0 (sp_pinlF_pinl hg) hn a z hroot hs
  obtain ⟨_, f0⟩ := sp_spliceNode_pre root t0 hg hn a z hroot hs
  refine (finish_every hf ?_ (fun _ => postOk_attrBlind src _) (fun _ _ h => h)).1
  split
  · exact sp_joinNode_every t0 e0 f0
  · exact f0.imp (fun _ => sp_preOk_postOk)

/-- **`afterBlocks_postOk`.**  If the tree of the block pass is `RangedB` for the claim `PInlF` (every
    placeholder's stretch ends at a line end; its inline run yields well-ranged, faithful nodes in
    order inside the stretch, adjacent where mergeable), then in the tree the core chain returns
    EVERY node has a range `(a, b)`, `a ≤ b ≤ |src|`, on character boundaries, its children's
    ranges lie inside in source order, a `Text` selects its content and a `TextSpecial` its markup
    (unless the range holds a line break); the root keeps its range. -/
theorem afterBlocks_postOk {cfg : DocCfg} {src : List Char} {root : Block.BNode} {refs : Refs.RefMap}
    {t : Node} {a z : Nat} (hroot : root.range = some (a, z))
    (hg : Block.RangedB (C05R.PInlF (cfg.inlineCfg refs) src) src root) (hn : InlNoRange root)
    (h : afterBlocks cfg src root refs = .ok t) :
    t.range = some (a, z) ∧ Every (fun n => NodeOrd src n ∧ C05R.PostOk src n) t := by
  obtain ⟨r0, e0⟩ := afterBlocks_nodeOrd hroot (sp_pinlF_pinl hg) hn h
  exact ⟨r0, e0.and (sp_afterBlocks_post hroot hg hn h)⟩

/-! ## non-vacuity: the hypotheses of `afterBlocks_postOk` are satisfiable -/

/-- does the string hold a line break character -/
def sp_brkb (w : List Char) : Bool := w.contains '\n' || w.contains '\r'

/-- the clauses of `FthN` about one value at the range `(a, b)`, as a test -/
def sp_valb (src : List Char) (a b : Nat) (v : Inline.Val) : Bool :=
  match InlineOps.slice src a b with
  | .error _ => false
  | .ok w =>
    match v with
    | .text t => w == t || sp_brkb w
    | .special _ mu _ => w == mu || sp_brkb w
    | .emphMarker mk _ rem _ _ => w == List.replicate rem mk && mk.utf8Size == 1
    | _ => true

/-- `TextLike`, as a test -/
def sp_tlb (n : Inline.Node) : Bool := (textOf n.val).isSome

/-- `Adjd`, as a test -/
def sp_adjb : List Inline.Node → Bool
  | [] => true
  | [_] => true
  | x :: y :: r =>
    (!(sp_tlb x && sp_tlb y) ||
      (match x.range, y.range with
       | some (_, b1), some (a2, _) => b1 == a2
       | _, _ => false)) && sp_adjb (y :: r)

/-- `StrictTop`, as a test -/
def sp_strictb (l : List Inline.Node) : Bool :=
  l.all (fun n => !sp_tlb n || (match n.range with
    | some (a, b) => decide (a < b)
    | none => false))

mutual
/-- `FthN`, as a test -/
def sp_fthb (src : List Char) : Inline.Node → Bool
  | ⟨v, r, cs⟩ =>
    (match r with
     | some (a, b) => sp_valb src a b v
     | none => false) && sp_adjb cs && sp_fthbList src cs
def sp_fthbList (src : List Char) : List Inline.Node → Bool
  | [] => true
  | c :: cs => sp_fthb src c && sp_fthbList src cs
end

theorem sp_brkb_sound {w : List Char} (h : sp_brkb w = true) : ¬ NoBrk w := by
  intro ⟨n1, n2⟩
  simp only [sp_brkb, Bool.or_eq_true, List.contains_iff_mem] at h
  rcases h with h | h
  · exact n1 h
  · exact n2 h

theorem sp_sel_of_check {src : List Char} {a b : Nat} {w t : List Char} (hw : Cut src a b w)
    (h : (w == t || sp_brkb w) = true) : Sel src a b t := by
  intro w' hw' hn
  have := hw'.unique hw
  subst this
  simp only [Bool.or_eq_true, beq_iff_eq] at h
  rcases h with h | h
  · exact h
  · exact absurd hn (sp_brkb_sound h)

/-- the clauses of `FthNV` about one value at the range `(a, b)`, as a test; `ex` switches the text clause off
    (Lemmas/C05TabsTextSplice.lean), `sp_valb src = ts_valb src false` -/
def ts_valb (src : List Char) (ex : Bool) (a b : Nat) (v : Inline.Val) : Bool :=
  match InlineOps.slice src a b with
  | .error _ => false
  | .ok w =>
    match v with
    | .text t => ex || (w == t || sp_brkb w)
    | .special _ mu _ => w == mu || sp_brkb w
    | .emphMarker mk _ rem _ _ => w == List.replicate rem mk && mk.utf8Size == 1
    | _ => true

theorem ts_valb_sound {src : List Char} {ex : Bool} {a b : Nat} {v : Inline.Val}
    (h : ts_valb src ex a b v = true) :
    Bdy src a ∧ Bdy src b ∧ (ex = false → ∀ t, v = .text t → Sel src a b t) ∧
      (∀ ct mu info, v = .special ct mu info → Sel src a b mu) ∧
      (∀ mk l rem o c, v = .emphMarker mk l rem o c →
        Cut src a b (List.replicate rem mk) ∧ mk.utf8Size = 1) := by
  unfold ts_valb at h
  split at h
  · cases h
  · rename_i w hw
    have hc : Cut src a b w := (cut_iff_ops src a b w).mp hw
    refine ⟨hc.bdy_left, hc.bdy_right, ?_, ?_, ?_⟩
    · rintro hex t rfl
      subst hex
      simp only [Bool.false_or] at h
      exact sp_sel_of_check hc h
    · rintro ct mu info rfl
      exact sp_sel_of_check hc h
    · rintro mk l rem o c rfl
      simp only [Bool.and_eq_true, beq_iff_eq] at h
      rw [← h.1]
      exact ⟨hc, h.2⟩

theorem sp_adjb_sound : ∀ (l : List Inline.Node), sp_adjb l = true → Adjd l
  | [], _ => trivial
  | [_], _ => trivial
  | x :: y :: r, h => by
    simp only [sp_adjb, Bool.and_eq_true] at h
    refine ⟨?_, sp_adjb_sound (y :: r) h.2⟩
    intro tx ty
    have tx' : sp_tlb x = true := tx
    have ty' : sp_tlb y = true := ty
    have h1 := h.1
    rw [tx', ty'] at h1
    simp only [Bool.and_self, Bool.not_true, Bool.false_or] at h1
    split at h1
    · next a1 b1 a2 b2 hx hy =>
      simp only [beq_iff_eq] at h1
      subst h1
      exact ⟨a1, b1, b2, hx, hy⟩
    · cases h1

theorem sp_strictb_sound {l : List Inline.Node} (h : sp_strictb l = true) : StrictTop l := by
  intro n hn tn
  have tn' : sp_tlb n = true := tn
  simp only [sp_strictb, List.all_eq_true] at h
  have h1 := h n hn
  rw [tn'] at h1
  simp only [Bool.not_true, Bool.false_or] at h1
  split at h1
  · next a b hr => exact ⟨a, b, hr, by simpa using h1⟩
  · cases h1

mutual
theorem sp_fthb_sound {src : List Char} (n : Inline.Node) (h : sp_fthb src n = true) : FthN src n := by
  match n with
  | ⟨v, r, cs⟩ =>
    simp only [sp_fthb, Bool.and_eq_true] at h
    obtain ⟨⟨h1, h2⟩, h3⟩ := h
    simp only [FthN]
    refine ⟨?_, sp_fthbList_sound cs h3⟩
    split at h1
    · rename_i a b
      obtain ⟨v1, v2, v3, v4, v5⟩ := ts_valb_sound (ex := false) h1
      exact ⟨a, b, rfl, v1, v2, v3 rfl, v4, v5, sp_adjb_sound cs h2⟩
    · cases h1
theorem sp_fthbList_sound {src : List Char} (l : List Inline.Node) (h : sp_fthbList src l = true) :
    FthL src l := by
  match l with
  | [] => trivial
  | c :: cs =>
    simp only [sp_fthbList, Bool.and_eq_true] at h
    exact ⟨sp_fthb_sound c h.1, sp_fthbList_sound cs h.2⟩
end

/-- the second component of `PInlF` for one placeholder, by evaluation -/
theorem sp_pinlF2_of_check {icfg : Inline.Cfg} {src c : List Char} {m : List (Nat × Nat)} {a b : Nat}
    (h : (match Inline.parseInline icfg c m with
          | .ok ns => c05s_ordNb b a ns && c05s_wrbList ns && sp_fthbList src ns && sp_adjb ns &&
              sp_strictb ns
          | .error _ => true) = true) :
    ∀ ns, Inline.parseInline icfg c m = .ok ns →
      Inline.OrderedN a b ns ∧ Inline.WellRangedList ns ∧ FthL src ns ∧ Adjd ns ∧ StrictTop ns := by
  intro ns hns
  rw [hns] at h
  simp only [Bool.and_eq_true] at h
  obtain ⟨⟨⟨⟨h1, h2⟩, h3⟩, h4⟩, h5⟩ := h
  exact ⟨c05s_ordNb_sound ns a h1, c05s_wrbList_sound ns h2, sp_fthbList_sound ns h3,
    sp_adjb_sound ns h4, sp_strictb_sound h5⟩

/-- `PInlF` for one placeholder, by evaluation -/
theorem sp_pinlF_of_check {icfg : Inline.Cfg} {src c : List Char} {m : List (Nat × Nat)} {a b : Nat}
    (hend : b = byteLen src ∨ BrkAt src b)
    (h : (match Inline.parseInline icfg c m with
          | .ok ns => c05s_ordNb b a ns && c05s_wrbList ns && sp_fthbList src ns && sp_adjb ns &&
              sp_strictb ns
          | .error _ => true) = true) : PInlF icfg src c m a b :=
  ⟨hend, sp_pinlF2_of_check h⟩

/-- `PostOk` needs a readable form of a tree: (depth, start, end, text of a `Text`) in pre-order -/
def sp_txt : Kind → List Char
  | .inl (.text t) => t
  | _ => []

mutual
def sp_flat (d : Nat) : Node → List (Nat × Nat × Nat × List Char)
  | ⟨k, r, _, cs⟩ => (d, (r.getD (0, 0)).1, (r.getD (0, 0)).2, sp_txt k) :: sp_flatList (d + 1) cs
def sp_flatList (d : Nat) : List Node → List (Nat × Nat × Nat × List Char)
  | [] => []
  | k :: ks => sp_flat d k ++ sp_flatList d ks
end

/-! ### example 1: `"a *b* c*d"` — the join pass merges `Text " c"` `(5, 7)`, the left-over delimiter
    `EmphMarker` `(7, 8)` and `Text "d"` `(8, 9)` (adjacent: first disjunct of `Glue`) -/

theorem sp_exRoot_ranged :
    Block.RangedB (PInlF ((exCfg false 100).inlineCfg []) c05s_exSrc) c05s_exSrc c05s_exRoot :=
  Block.rangedB_wrap .root
    (Block.rangedB_text .paragraph (a := 0) (b := 9) (by omega) (c05s_bd_zero _) (c05s_bd_len c05s_exSrc)
      (sp_pinlF_of_check (.inl (by decide)) (by decide +kernel)) (Nat.le_refl _) (by omega) (Nat.le_refl _))
    rfl (c05s_bd_zero _) (c05s_bd_len c05s_exSrc) (Nat.le_refl _) (Nat.le_refl _)

/-- all hypotheses of `afterBlocks_postOk` hold of the block tree of `"a *b* c*d"` -/
example : ∃ t, afterBlocks (exCfg false 100) c05s_exSrc c05s_exRoot [] = .ok t ∧
    t.range = some (0, 9) ∧ Every (fun n => NodeOrd c05s_exSrc n ∧ PostOk c05s_exSrc n) t :=
  ok_and c05s_ex_runs fun _ hp => afterBlocks_postOk rfl sp_exRoot_ranged c05s_exRoot_noRange hp

/-- … and the tree is: root, paragraph, `Text "a "`, `Em`, `Text "b"`, ONE `Text " c*d"` at `(5, 9)` -/
example : (afterBlocks (exCfg false 100) c05s_exSrc c05s_exRoot []).toOption.map (sp_flat 0) =
    some [(0, 0, 9, []), (1, 0, 9, []), (2, 0, 2, "a ".toList), (2, 2, 5, []), (3, 3, 4, "b".toList),
      (2, 5, 9, " c*d".toList)] := by decide +kernel

/-! ### example 2: the seam — two placeholders in a row under one block node (a hand-made tree; the
    block parser makes such a node only as a tight list item whose paragraph is ended by a rule that
    stands behind the paragraph rule in the chain: `"- a\n  ***"` with `[list, paragraph, hr]`,
    Props/C14Doc.lean).  Source `"a\nb"`; the stretches are `[0, 1]` (ends in front of the line feed)
    and `[2, 3]`.  The walk yields `Text "a"` `(0, 1)`, `Text "b"` `(2, 3)` — NOT adjacent, `Glue`d by the
    line break at `1` (second disjunct) — and the join pass merges them into `Text "ab"` `(0, 3)`,
    whose range holds the line break: `Sel` holds (vacuously), `PostOk` is kept. -/

def sp_seamSrc : List Char := ['a', '\n', 'b']
def sp_seamRoot : Block.BNode :=
  ⟨.root, some (0, 3), [⟨.inlineRoot ['a'] [(0, 0)], none, []⟩, ⟨.inlineRoot ['b'] [(0, 2)], none, []⟩]⟩

theorem sp_seamRoot_ranged :
    Block.RangedB (PInlF ((exCfg false 100).inlineCfg []) sp_seamSrc) sp_seamSrc sp_seamRoot := by
  have hp1 : PInlF ((exCfg false 100).inlineCfg []) sp_seamSrc ['a'] [(0, 0)] 0 1 :=
    sp_pinlF_of_check (.inr ⟨['a'], '\n', ['b'], rfl, rfl, .inl rfl⟩) (by decide +kernel)
  have hp2 : PInlF ((exCfg false 100).inlineCfg []) sp_seamSrc ['b'] [(0, 2)] 2 3 :=
    sp_pinlF_of_check (.inl (by decide)) (by decide +kernel)
  refine .mk _ (fun a b h => ?_) (fun h => by cases h) ?_
  · cases h
    exact ⟨by omega, c05s_bd_zero _, c05s_bd_len sp_seamSrc, 0, 1, ⟨_, _, rfl, rfl, hp1⟩, Nat.le_refl _,
      by omega, 2, 3, ⟨_, _, rfl, rfl, hp2⟩, by omega, by omega, Nat.le_refl 3⟩
  · intro c hc
    simp only [sp_seamRoot, List.mem_cons, List.not_mem_nil, or_false] at hc
    rcases hc with rfl | rfl
    · exact Block.rangedB_inl _ _
    · exact Block.rangedB_inl _ _

theorem sp_seamRoot_noRange : InlNoRange sp_seamRoot := inlNoRangeB_sound _ (by decide)

example : ∃ t, afterBlocks (exCfg false 100) sp_seamSrc sp_seamRoot [] = .ok t ∧
    t.range = some (0, 3) ∧ Every (fun n => NodeOrd sp_seamSrc n ∧ PostOk sp_seamSrc n) t :=
  ok_and (ok_of_isSome (by decide +kernel)) fun _ hp =>
    afterBlocks_postOk rfl sp_seamRoot_ranged sp_seamRoot_noRange hp

/-- the splice walk's output and the joined tree of example 2 -/
example : (spliceNode ((exCfg false 100).inlineCfg []) sp_seamRoot).toOption.map (sp_flat 0) =
    some [(0, 0, 3, []), (1, 0, 1, ['a']), (1, 2, 3, ['b'])] := by decide +kernel

example : (afterBlocks (exCfg false 100) sp_seamSrc sp_seamRoot []).toOption.map (sp_flat 0) =
    some [(0, 0, 3, []), (1, 0, 3, ['a', 'b'])] := by decide +kernel

/-- **the first component of `PInlF` is needed**: over the source `"a b"` the first stretch `[0, 1]`
    does not end at a line end; the second component of `PInlF` holds of both placeholders all the
    same, but the merged `Text "ab"` at `(0, 3)` does NOT select its content: `src[0..3] = "a b"`, no
    line break -/
def sp_badSrc : List Char := ['a', ' ', 'b']

example : (∀ ns, Inline.parseInline ((exCfg false 100).inlineCfg []) ['a'] [(0, 0)] = .ok ns →
      Inline.OrderedN 0 1 ns ∧ Inline.WellRangedList ns ∧ FthL sp_badSrc ns ∧ Adjd ns ∧ StrictTop ns) ∧
    (∀ ns, Inline.parseInline ((exCfg false 100).inlineCfg []) ['b'] [(0, 2)] = .ok ns →
      Inline.OrderedN 2 3 ns ∧ Inline.WellRangedList ns ∧ FthL sp_badSrc ns ∧ Adjd ns ∧ StrictTop ns) ∧
    ¬ (1 = byteLen sp_badSrc ∨ BrkAt sp_badSrc 1) := by
  refine ⟨sp_pinlF2_of_check (by decide +kernel), sp_pinlF2_of_check (by decide +kernel), ?_⟩
  rintro (h | h)
  · exact absurd h (by decide)
  · have hc : Cut sp_badSrc 0 3 sp_badSrc := ⟨[], [], rfl, rfl, by decide⟩
    exact h.mem_cut hc (by omega) (by omega) ⟨by decide, by decide⟩

example : (afterBlocks (exCfg false 100) sp_badSrc sp_seamRoot []).toOption.map (sp_flat 0) =
    some [(0, 0, 3, []), (1, 0, 3, ['a', 'b'])] ∧
    InlineOps.slice sp_badSrc 0 3 = .ok ['a', ' ', 'b'] := by decide +kernel

end MdIt.Pipeline
