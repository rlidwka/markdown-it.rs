/-
  For `Props/MemoSafe.lean`: THE TOP FRAME, once for every version of its invariant.

  The invariant of the states of the top frame comes in three strengths (`Inline.TopInv`, `CS.TopInv`,
  `ES.TopInv`: what a memo entry's witness knows, what marks the code-span cache carries, which
  positions a rule may run at).  The proof that all look-ahead and the real chain keep it, and that in
  the top frame the guarded tokenizer IS the model's, does not look inside the invariant: it only uses
  the closure properties collected in `TopKit`.  So it is done here once, over a `TopKit`:

    * look-ahead preserves `K.T`: `TopKit.look` makes `K.T` / `K.W` / `K.E` a `LookKit`
      (`Lemmas/MemoSafeClosed.lean`), whose walk gives `parseLink_top` and, side by side with the memo
      growth contract, `skipStep_top`; `skip_top` for the guarded `skip_token`; the entry a `skip_token`
      step adds is justified by THIS step (`TopKit.Steps.step`);
    * real mode: in the top frame the guarded rule chain IS the model's (`TopKit.closed` +
      `skip_guard_free`) and keeps `K.T`, provided every nested label run starts at a state satisfying
      a predicate `P` at which guarded nested run = model nested run with the post-condition `K.Q`
      (`TokEq`; `Entry`: the real link rule enters nested frames only at `P`-states);
    * `top_total` (the loop), `parseInlineG_eq`.

  In front: `nestedState` (the `linkNested` of `Lemmas/LinkStep.lean`) and `linkRule_real_ok`.
-/
import MdIt.Lemmas.MemoSafeEntry
import MdIt.Lemmas.MemoSafeRec
import MdIt.Lemmas.MemoSafeLamFlat

namespace MdIt.Inline
open MdIt.InlineOps (Srcmap slice)

/-- the start state of the nested label run of the real link rule (`st2` of `linkRule`) -/
def nestedState (st1 : IState) (res : LinkRes) : IState :=
  IState.mk st1.src st1.srcmap res.labelStart res.labelEnd (st1.level + 1) (st1.linkLevel + 1)
    st1.cache st1.backticks [] []

theorem nestedState_eq (st1 : IState) (res : LinkRes) : nestedState st1 res = linkNested st1 res := rfl

/-- the real link rule over two pairs of callees that agree on `parse_link` and on the label run -/
theorem linkRule_real_congr {cfg : Cfg} {skipG skipM tokG tokM : IState → Except Panic IState}
    {fuel : Nat} {mk : List Nat → Option (List Char) → Val} {en : Bool} {offset : Nat} {st : IState}
    (hpl : parseLink cfg skipG fuel st (st.pos + offset) en =
      parseLink cfg skipM fuel st (st.pos + offset) en)
    (htok : ∀ res st1, parseLink cfg skipG fuel st (st.pos + offset) en = .ok (some res, st1) →
      tokG (nestedState st1 res) = tokM (nestedState st1 res)) :
    linkRule cfg skipG tokG fuel mk en offset st false =
      linkRule cfg skipM tokM fuel mk en offset st false := by
  unfold linkRule
  simp only
  rw [← hpl]
  cases hp : parseLink cfg skipG fuel st (st.pos + offset) en with
  | error e => rfl
  | ok p =>
    obtain ⟨o1, st1⟩ := p
    cases o1 with
    | none => rfl
    | some res =>
      have := htok res st1 hp
      unfold nestedState at this
      simp only [Bool.false_eq_true, if_false]
      rw [this]

/-- a completed real call of the link rule, read backwards: `parse_link` declined; or it answered, the
    label run returned `st3`, and the rule ends at `res.endPos` with text, memo and code-span cache of
    `st3` under the `pos_max` of `st1` -/
theorem linkRule_real_ok {cfg : Cfg} {skip tok : IState → Except Panic IState}
    {fuel : Nat} {mk : List Nat → Option (List Char) → Val} {en : Bool} {offset : Nat}
    {st st' : IState} {o : Option Nat}
    (h : linkRule cfg skip tok fuel mk en offset st false = .ok (o, st')) :
    (parseLink cfg skip fuel st (st.pos + offset) en = .ok (none, st') ∧ o = none) ∨
    ∃ res st1 st3, parseLink cfg skip fuel st (st.pos + offset) en = .ok (some res, st1) ∧
      tok (nestedState st1 res) = .ok st3 ∧ o = some (res.endPos - st3.pos) ∧ st3.pos ≤ res.endPos ∧
      st'.pos = st3.pos ∧ st'.src = st3.src ∧ st'.posMax = st1.posMax ∧ st'.cache = st3.cache ∧
      st'.backticks = st3.backticks := by
  cases hp : parseLink cfg skip fuel st (st.pos + offset) en with
  | error e => rw [linkRule_error hp] at h; cases h
  | ok p =>
    obtain ⟨_ | res, st1⟩ := p
    · rw [linkRule_none hp] at h; cases h; exact .inl ⟨rfl, rfl⟩
    · rw [linkRule_real hp, ← nestedState_eq] at h
      cases ht : tok (nestedState st1 res) with
      | error e => rw [ht] at h; cases h
      | ok st3 =>
        rw [ht] at h
        obtain ⟨_, hle, rfl, r, _, rfl⟩ := linkClose_ok h
        exact .inr ⟨res, st1, st3, rfl, ht, rfl, hle, rfl, rfl, rfl, rfl, rfl⟩

/-- what the top-frame development needs of the invariant of top-frame states -/
structure TopKit (cfg : Cfg) (Mtop : Nat) where
  /-- the invariant of the states of the top frame -/
  T : IState → Prop
  /-- what a state from which `skip_token` is called satisfies besides `T` (so the witness of a memo
      entry knows it of its state) -/
  W : IState → Prop
  /-- the positions at which a rule may run -/
  E : Nat → Prop
  /-- what the real loop keeps besides `T` -/
  L : IState → Prop
  /-- `Q s s'`: what a nested label run from `s` to `s'` leaves alone -/
  Q : IState → IState → Prop
  hmax : ∀ {s}, T s → s.posMax = Mtop
  closed : ∀ {s}, T s → Closed s.cache 0 s.posMax
  /-- `T` reads `src`, `posMax`, `cache`, `backticks` only -/
  of_eq : ∀ {s s'}, T s → s'.src = s.src → s'.posMax = s.posMax → s'.cache = s.cache →
    s'.backticks = s.backticks → T s'
  W_E : ∀ {s}, W s → E s.pos
  /-- the state a `skip_token` call returns (it followed or made the entry `p ↦ s'.pos`) -/
  W_entry : ∀ {s' p}, T s' → (p, s'.pos) ∈ s'.cache → s'.pos < s'.posMax → W s'
  /-- label walks start behind a `[` -/
  W_bracket : ∀ {st start r}, T st → slice st.src start st.posMax = .ok ('[' :: r) →
    W { st with pos := start + 1 }
  /-- the code-span rule, the one flat rule that touches the code-span cache -/
  back : ∀ {st silent o st'}, T st → E st.pos → ruleBackticks st silent = .ok (o, st') → T st'
  /-- behind a nested label run from `nestedState st1 res` to `st3` -/
  nested : ∀ {st1 res st3 s'}, T st1 → Q (nestedState st1 res) st3 → s'.src = st3.src →
    s'.posMax = st1.posMax → s'.cache = st3.cache → s'.backticks = st3.backticks → T s'

/-- what the steps that fill the memo need in addition -/
structure TopKit.Steps {cfg : Cfg} {Mtop : Nat} (K : TopKit cfg Mtop) : Prop where
  /-- the entry a look-ahead step adds behind a failed `lookup` (`st1`: the state the chain returned)
      has this step as its witness -/
  step : ∀ {skip tok fuel st st' st1}, CalmFn skip → SkipHypT skip → SkipGrowHyp skip → LInv st →
    st.pos < st.posMax → st.cache.lookup st.pos = none → K.T st → K.W st →
    skipStep cfg skip tok fuel st = .ok st' → K.T st1 → st1.cache.lookup st.pos = none →
    st'.src = st1.src → st'.posMax = st1.posMax → st'.backticks = st1.backticks →
    st'.cache = cacheInsert st1.cache st.pos st'.pos → st'.pos ≤ Mtop → K.T st'
  /-- the entry `pos ↦ pos_max` made over the nesting limit -/
  limit : ∀ {s s'}, K.T s → s.cache.lookup s.pos = none → s'.src = s.src → s'.posMax = s.posMax →
    s'.backticks = s.backticks → s'.cache = cacheInsert s.cache s.pos s.posMax → K.T s'

namespace TopKit
variable {cfg : Cfg} {Mtop : Nat} (K : TopKit cfg Mtop)

/-- a `skip_token` that keeps the invariant of the top frame -/
def SkipOK (skip : IState → Except Panic IState) : Prop :=
  ∀ s, LInv s → s.pos < s.posMax → K.T s → K.W s → ∀ s', skip s = .ok s' → K.T s'

/-- the state a `skip_token` call returns in the top frame satisfies `W` -/
def SkipW (skip : IState → Except Panic IState) : Prop :=
  ∀ s s', LInv s → s.pos < s.posMax → skip s = .ok s' → K.T s' → s'.pos < s'.posMax → K.W s'

theorem SkipW.of_grow {skip : IState → Except Panic IState} (hg : SkipGrowHyp skip) : K.SkipW skip :=
  fun s s' hi hlt h ht' => K.W_entry ht' (lookup_mem (hg s hi hlt s' h).2)

/-- one iteration of the real loop keeps `L` and ends at a position at which a rule may run -/
def LoopOK : Prop :=
  ∀ {skip tok fuel st st'}, CalmFn skip → tokStep cfg skip tok fuel st = .ok st' → K.T st → K.L st →
    st.pos < st.posMax → K.E st.pos → st'.level = st.level →
    K.L st' ∧ (st'.pos < st.posMax → K.E st'.pos)

/-- at the states satisfying `P` the two nested tokenizers agree, and the (first) one meets `K.Q` -/
def TokEq (P : IState → Prop) (tokG tokM : IState → Except Panic IState) : Prop :=
  ∀ s, P s → tokG s = tokM s ∧ ∀ s', tokG s = .ok s' → K.Q s s'

/-- the real link rule of the top frame enters nested frames only at `P`-states -/
def Entry (skipG : IState → Except Panic IState) (P : IState → Prop) : Prop :=
  ∀ (lo : Nat) (st : IState) (offset : Nat) (en : Bool) (fuel : Nat) (res : LinkRes) (st1 : IState),
    Good lo st → MemoB st → K.T st →
    Boundary st.src (st.pos + offset + 1) → st.pos + offset + 1 ≤ st.posMax →
    (∃ r, slice st.src (st.pos + offset) st.posMax = .ok ('[' :: r)) →
    parseLink cfg skipG fuel st (st.pos + offset) en = .ok (some res, st1) →
    K.T st1 → P (nestedState st1 res)

/-! # look-ahead in the top frame preserves `K.T` -/

/-- the invariant of the top frame as what look-ahead code carries: `K.T` from call to call, `K.W`
    where `skip_token` is called -/
def look {skip : IState → Except Panic IState} (hWs : K.SkipW skip) (hT : K.SkipOK skip) (p : Nat) :
    LookKit skip skip p where
  I := K.T
  A := K.W
  E := K.E
  of_eq := K.of_eq
  call := fun s hi hlt ht hw =>
    ⟨rfl, fun s' hs' => ⟨hT s hi hlt ht hw s' hs', hWs s s' hi hlt hs' (hT s hi hlt ht hw s' hs')⟩⟩
  bracket := fun ht _ hr => K.W_bracket ht hr
  back := K.back

/-- `hW0`: what the caller knows of the state behind the `[` (a label walk starts there) -/
theorem parseLink_top {skip : IState → Except Panic IState}
    (hq : CalmFn skip) (hs : SkipHypT skip) (hWs : K.SkipW skip) (hT : K.SkipOK skip) (fuel : Nat)
    (st : IState) (pos : Nat) (en : Bool) (hi : LInv st) (hb : Boundary st.src (pos + 1))
    (hle : pos + 1 ≤ st.posMax) (hW0 : K.W { st with pos := pos + 1 }) (ht : K.T st) :
    ∀ o st', parseLink cfg skip fuel st pos en = .ok (o, st') → K.T st' :=
  ((K.look hWs hT 0).parseLink_look (cfg := cfg) hq hs fuel st pos en hi hb hle (Nat.zero_le _) ht hW0).2

/-- **a flat rule keeps `K.T`**, in both modes -/
theorem runRule_flat_top {skip tok : IState → Except Panic IState} {fuel : Nat}
    {id : RuleId} (hflat : id.isFlat = true) {st : IState} {silent : Bool} {o : Option Nat}
    {st' : IState} (h : runRule cfg skip tok fuel id st silent = .ok (o, st'))
    (ht : K.T st) (hE : K.E st.pos) : K.T st' := by
  by_cases hid : id = .backticks
  · subst hid
    unfold runRule at h
    exact K.back ht hE (liftR_ok.mp h)
  · have hf := (runRule_flat_simple hflat h).frame
    exact K.of_eq ht hf.src hf.posMax (runRule_flat_cache hflat h)
      (runRule_backticks_unchanged hid hflat h)


/-- one run of the chain in look-ahead mode inside `skip_token`, behind a failed `lookup` -/
theorem skipStep_top (hK : K.Steps) {skip tok : IState → Except Panic IState}
    (hq : CalmFn skip) (hs : SkipHypT skip) (hg : SkipGrowHyp skip) (hT : K.SkipOK skip) (fuel : Nat)
    (st : IState) (hi : LInv st) (hlt : st.pos < st.posMax) (hmiss : st.cache.lookup st.pos = none)
    (ht : K.T st) (hW : K.W st) :
    ∀ st', skipStep cfg skip tok fuel st = .ok st' → K.T st' := by
  intro st' h
  -- the state `st1` the chain returned keeps `K.T`, and its memo grew above `st.pos` only
  obtain ⟨hle, st1, ⟨ht1, _, hgr⟩, e1, e2, e3, e4⟩ :=
    (((K.look (SkipW.of_grow K hg) hT (st.pos + 1)).and
        (LookKit.ofGrow hq hs hg (st.pos + 1) st.posMax st.cache)).skipStep_look (cfg := cfg) (tok := tok)
      (tok' := tok) hq hs fuel st hi hlt (Nat.le_refl _) ⟨ht, rfl, Grow.refl _ _ _⟩
      ⟨K.W_E hW, trivial⟩).2 st' h
  have hmiss1 : st1.cache.lookup st.pos = none := by rw [hgr.low _ (by omega)]; exact hmiss
  exact hK.step hq hs hg hi hlt hmiss ht hW h ht1 hmiss1 e1 e2 e3 e4 (by rw [← K.hmax ht]; exact hle)

/-- **the guarded `skip_token` keeps the invariant of the top frame**, at every fuel -/
theorem skip_top (hK : K.Steps) : ∀ fuel : Nat, K.SkipOK (fun s => skipTokenG cfg true fuel s) := by
  intro fuel
  induction fuel with
  | zero => intro s _ _ _ _ s' h; simp [skipTokenG] at h
  | succ f ih =>
    intro s hi hlt ht hW s' h
    simp only at h
    unfold skipTokenG at h
    split at h
    · next x hx =>
      split at h
      · simp at h
      · simp only [Except.ok.injEq] at h; subst h
        exact K.of_eq ht rfl rfl rfl rfl
    · next hmiss =>
      split at h
      · exact skipStep_top K hK (skipTokenG_calm cfg true f) (skipTokenG_T cfg f) (skip_grow cfg f) ih f s
          hi hlt hmiss ht hW s' h
      · simp only [Except.ok.injEq] at h; subst h
        exact hK.limit ht hmiss rfl rfl rfl rfl

/-! # real mode in the top frame: guarded = model, generic in the nested-entry predicate -/

theorem linkRule_real_top {skipG skipM tokG tokM : IState → Except Panic IState}
    {P : IState → Prop} (hq : CalmFn skipG) (hs : SkipHypT skipG) (hWs : K.SkipW skipG)
    (hT : K.SkipOK skipG) (he : SkipEqHyp skipG skipM)
    (hte : K.TokEq P tokG tokM) (hP : K.Entry skipG P) (fuel : Nat)
    (mk : List Nat → Option (List Char) → Val) (en : Bool) (offset : Nat) {lo : Nat} (st : IState)
    (hg : Good lo st) (hm : MemoB st) (hb : Boundary st.src (st.pos + offset + 1))
    (hle : st.pos + offset + 1 ≤ st.posMax)
    (hch : ∃ r, slice st.src (st.pos + offset) st.posMax = .ok ('[' :: r))
    (htop : K.T st) :
    linkRule cfg skipG tokG fuel mk en offset st false =
      linkRule cfg skipM tokM fuel mk en offset st false ∧
    ∀ o st', linkRule cfg skipG tokG fuel mk en offset st false = .ok (o, st') → K.T st' := by
  have hi := hg.linv hm
  have hpl := parseLink_eq (cfg := cfg) hq hs he fuel st (st.pos + offset) 0 en hi hb hle
    (K.closed htop) (Nat.zero_le _)
  obtain ⟨r, hr⟩ := hch
  have hplTop := parseLink_top (cfg := cfg) K hq hs hWs hT fuel st (st.pos + offset) en hi hb
    hle (K.W_bracket htop hr) htop
  have hPs : ∀ res st1, parseLink cfg skipG fuel st (st.pos + offset) en = .ok (some res, st1) →
      P (nestedState st1 res) :=
    fun res st1 hp => hP lo st offset en fuel res st1 hg hm htop hb hle ⟨r, hr⟩ hp (hplTop _ _ hp)
  refine ⟨linkRule_real_congr hpl.1 (fun res st1 hp => (hte _ (hPs res st1 hp)).1), ?_⟩
  intro o st' h
  rcases linkRule_real_ok h with ⟨hp, _⟩ | ⟨res, st1, st3, hp, ht3, _, _, _, e1, e2, e3, e4⟩
  · exact hplTop _ _ hp
  · exact K.nested (hplTop _ _ hp) ((hte _ (hPs res st1 hp)).2 st3 ht3) e1 e2 e3 e4

theorem runRule_real_top {skipG skipM tokG tokM : IState → Except Panic IState}
    {P : IState → Prop} (hq : CalmFn skipG) (hs : SkipHypT skipG) (hWs : K.SkipW skipG)
    (hT : K.SkipOK skipG) (he : SkipEqHyp skipG skipM)
    (hte : K.TokEq P tokG tokM) (hP : K.Entry skipG P) (fuel : Nat) (id : RuleId)
    {lo : Nat} (st : IState) (hg : Good lo st) (hm : MemoB st) (hlt : st.pos < st.posMax)
    (htop : K.T st) (hE : K.E st.pos) :
    runRule cfg skipG tokG fuel id st false = runRule cfg skipM tokM fuel id st false ∧
    ∀ o st', runRule cfg skipG tokG fuel id st false = .ok (o, st') → K.T st' := by
  rcases runRule_call (cfg := cfg) fuel id false (hg.linv hm) hlt with
    hflat | hn | ⟨mk, en, offset, e, _, _, hb, hle, hch⟩
  · exact ⟨runRule_flat_indep hflat st false, fun o st' h => runRule_flat_top K hflat h htop hE⟩
  · rw [hn, hn]
    exact ⟨rfl, fun o st' h => by cases h; exact htop⟩
  · rw [e, e]
    exact linkRule_real_top K hq hs hWs hT he hte hP fuel mk en offset st hg hm hb hle hch htop

theorem firstRule_real_top
    (hsz : ∀ mk csw, RuleId.emph mk csw ∈ cfg.chain → mk.utf8Size = 1)
    {skipG skipM tokG tokM : IState → Except Panic IState} {P : IState → Prop}
    (hq : CalmFn skipG) (hs : SkipHypT skipG) (hWs : K.SkipW skipG) (hT : K.SkipOK skipG)
    (he : SkipEqHyp skipG skipM) (ht : TokHypT tokG) (hr : RangesFn tokG)
    (hte : K.TokEq P tokG tokM) (hP : K.Entry skipG P) (fuel : Nat) {lo : Nat} :
    ∀ (rules : List RuleId), (∀ id ∈ rules, id ∈ cfg.chain) →
      ∀ (st : IState), Good lo st → MemoB st → st.pos < st.posMax → K.T st → K.E st.pos →
      firstRule (fun id s => runRule cfg skipG tokG fuel id s false) rules st =
        firstRule (fun id s => runRule cfg skipM tokM fuel id s false) rules st ∧
      ∀ o st', firstRule (fun id s => runRule cfg skipG tokG fuel id s false) rules st = .ok (o, st') →
        K.T st' := by
  intro rules
  induction rules with
  | nil =>
    intro _ st _ _ _ htop _
    unfold firstRule
    refine ⟨rfl, ?_⟩
    intro o st' h
    simp only [Except.ok.injEq, Prod.mk.injEq] at h; obtain ⟨_, rfl⟩ := h
    exact htop
  | cons r rs ih =>
    intro hall st hg hm hlt htop hE
    obtain ⟨e1, n1⟩ := runRule_real_top K hq hs hWs hT he hte hP fuel r st hg hm hlt htop hE
    have hRT := runRule_real_T hsz hq hs ht hr fuel (hall r (by simp)) st hg hm hlt
    unfold firstRule
    rw [← e1]
    cases hrG : runRule cfg skipG tokG fuel r st false with
    | error e => exact ⟨rfl, by intro o st' h; simp at h⟩
    | ok p =>
      obtain ⟨o1, st1⟩ := p
      have ht1 := n1 o1 st1 hrG
      cases o1 with
      | some n =>
        simp only
        refine ⟨by trivial, ?_⟩
        intro o st' h
        simp only [Except.ok.injEq, Prod.mk.injEq] at h; obtain ⟨_, rfl⟩ := h
        exact ht1
      | none =>
        simp only
        have s1 := hRT.ok _ _ hrG
        have hg1 : Good lo st1 := Good.of_add_zero (by simpa using s1.good)
        have hp1 := s1.nonePos rfl
        exact ih (fun id hid => hall id (List.mem_cons_of_mem _ hid)) st1 hg1 s1.memo
          (by rw [hp1, s1.frame.posMax]; exact hlt) ht1 (by rw [hp1]; exact hE)

/-- **in the top frame one iteration of the guarded tokenizer loop is one iteration of the model's** -/
theorem tokStep_top
    (hsz : ∀ mk csw, RuleId.emph mk csw ∈ cfg.chain → mk.utf8Size = 1)
    {skipG skipM tokG tokM : IState → Except Panic IState} {P : IState → Prop}
    (hq : CalmFn skipG) (hs : SkipHypT skipG) (hWs : K.SkipW skipG) (hT : K.SkipOK skipG)
    (he : SkipEqHyp skipG skipM) (ht : TokHypT tokG) (hr : RangesFn tokG)
    (hte : K.TokEq P tokG tokM) (hP : K.Entry skipG P) (fuel : Nat) {lo : Nat}
    (st : IState) (hg : Good lo st) (hm : MemoB st) (hlt : st.pos < st.posMax)
    (htop : K.T st) (hE : K.E st.pos) :
    tokStep cfg skipG tokG fuel st = tokStep cfg skipM tokM fuel st ∧
    ∀ st', tokStep cfg skipG tokG fuel st = .ok st' → K.T st' := by
  have hfall : ∀ {st1 st' : IState}, K.T st1 → _ = (.ok st' : Except Panic IState) → K.T st' :=
    fun ht1 h =>
      have ⟨_, _, _, hc, hb, hs, hm, _⟩ := fallback_keeps h
      K.of_eq ht1 hs hm hc hb
  unfold tokStep
  simp only
  by_cases hl : st.level < cfg.maxNesting
  · simp only [if_pos hl]
    obtain ⟨e1, n1⟩ := firstRule_real_top K hsz hq hs hWs hT he ht hr hte hP fuel cfg.chain
      (fun _ h => h) st hg hm hlt htop hE
    rw [← e1]
    cases hfG : firstRule (fun id s => runRule cfg skipG tokG fuel id s false) cfg.chain st with
    | error e => exact ⟨rfl, by intro st' h; simp at h⟩
    | ok p =>
      obtain ⟨o1, st1⟩ := p
      have ht1 := n1 o1 st1 hfG
      cases o1 with
      | some len =>
        simp only
        refine ⟨by trivial, ?_⟩
        intro st' h
        simp only [Except.ok.injEq] at h; subst h
        exact K.of_eq ht1 rfl rfl rfl rfl
      | none =>
        simp only
        exact ⟨by trivial, fun st' h => hfall ht1 h⟩
  · simp only [if_neg hl]
    exact ⟨by trivial, fun st' h => hfall htop h⟩

/-! # the loop and the parser -/

/-- **in the top frame the guarded tokenizer IS the model tokenizer**, at every fuel, provided the
    nested label runs agree at the `P`-states and the link rule enters nested frames only there -/
theorem top_total (hK : K.Steps) (hloop : K.LoopOK)
    (hsz : ∀ mk csw, RuleId.emph mk csw ∈ cfg.chain → mk.utf8Size = 1) {P : IState → Prop}
    (hNE : ∀ f, K.TokEq P (fun s => tokLoopG cfg true f s.posMax s)
      (fun s => tokLoop cfg f s.posMax s))
    (hP : ∀ f, K.Entry (fun s => skipTokenG cfg true f s) P) :
    ∀ (fuel lo : Nat) (st : IState), Good lo st → MemoB st → K.T st →
      (st.pos < st.posMax → K.E st.pos) → K.L st →
      tokLoopG cfg true fuel st.posMax st = tokLoop cfg fuel st.posMax st ∧
      ∀ st', tokLoopG cfg true fuel st.posMax st = .ok st' → K.T st' := by
  intro fuel
  induction fuel with
  | zero =>
    intro lo st hg hm htop _ _
    unfold tokLoopG tokLoop
    by_cases hlt : st.pos < st.posMax
    · simp only [if_pos hlt]
      exact ⟨by trivial, by intro st' h; simp at h⟩
    · simp only [if_neg hlt]
      refine ⟨by trivial, ?_⟩
      intro st' h
      simp only [Except.ok.injEq] at h; subst h
      exact htop
  | succ f ih =>
    intro lo st hg hm htop hE hL
    unfold tokLoopG tokLoop
    by_cases hlt : st.pos < st.posMax
    · simp only [if_pos hlt]
      have hq := skipTokenG_calm cfg true f
      have hsT := skipTokenG_T cfg f
      have hr := rangesFnG cfg true f
      have ht := tokHypT_G cfg hsz f
      obtain ⟨e1, n1⟩ := tokStep_top K hsz hq hsT (SkipW.of_grow K (skip_grow cfg f)) (skip_top K hK f)
        (skip_guard_free cfg f) ht hr (hNE f) (hP f) f st hg hm hlt htop (hE hlt)
      rw [← e1]
      cases hsG : tokStep cfg (fun s => skipTokenG cfg true f s)
          (fun s => tokLoopG cfg true f s.posMax s) f st with
      | error e => exact ⟨rfl, by intro st' h; simp at h⟩
      | ok st1 =>
        simp only
        obtain ⟨hg1, hm1, f1, _⟩ := (tokStep_T hsz hq hsT ht hr f st hg hm hlt).2 st1 hsG
        obtain ⟨hL1, hE1⟩ := hloop hq hsG htop hL hlt (hE hlt) f1.level
        have hrec := ih lo st1 hg1 hm1 (n1 st1 hsG) (by rw [f1.posMax]; exact hE1) hL1
        rw [f1.posMax] at hrec
        exact hrec
    · simp only [if_neg hlt]
      refine ⟨by trivial, ?_⟩
      intro st' h
      simp only [Except.ok.injEq] at h; subst h
      exact htop

/-- **the guarded inline parser IS the model inline parser** (same tree, same error), when the initial
    state meets the invariant of the top frame and under the two hypotheses on the nested frames -/
theorem parseInlineG_eq {cfg : Cfg} {content : List Char} {mapping : Srcmap}
    (K : TopKit cfg (IState.init content mapping).posMax) (hK : K.Steps) (hloop : K.LoopOK)
    (hsz : ∀ mk csw, RuleId.emph mk csw ∈ cfg.chain → mk.utf8Size = 1) {P : IState → Prop}
    (hm : MapOK content mapping) (hT0 : K.T (IState.init content mapping))
    (hE0 : K.E (IState.init content mapping).pos) (hL0 : K.L (IState.init content mapping))
    (hNE : ∀ f, K.TokEq P (fun s => tokLoopG cfg true f s.posMax s)
      (fun s => tokLoop cfg f s.posMax s))
    (hP : ∀ f, K.Entry (fun s => skipTokenG cfg true f s) P) :
    parseInlineG cfg content mapping = parseInline cfg content mapping := by
  obtain ⟨lo, _, hg⟩ := init_good hm
  have := (top_total K hK hloop hsz hNE hP (topFuel cfg content) lo _ hg (memoB_init' content mapping)
    hT0 (fun _ => hE0) hL0).1
  unfold parseInlineG parseInline tokenize
  rw [this]
  generalize tokLoop cfg _ _ _ = r
  cases r <;> rfl

end TopKit

/-- **`parseInline` is total** when the guarded parser is the model parser: the guarded parser cannot
    panic, the model parser cannot run out of fuel -/
theorem parseInline_total_of_eq {cfg : Cfg}
    (hsz : ∀ mk csw, RuleId.emph mk csw ∈ cfg.chain → mk.utf8Size = 1) {content : List Char}
    {mapping : Srcmap} (hm : MapOK content mapping)
    (heq : parseInlineG cfg content mapping = parseInline cfg content mapping) :
    ∃ cs, parseInline cfg content mapping = .ok cs := by
  have hnr := parseInlineG_no_panic cfg hsz hm
  cases h : parseInline cfg content mapping with
  | ok cs => exact ⟨cs, rfl⟩
  | error e =>
    cases e with
    | fuel => exact absurd h (parseInline_fuel cfg content mapping)
    | rust p => exact absurd (heq.trans h) (hnr p)

end MdIt.Inline
