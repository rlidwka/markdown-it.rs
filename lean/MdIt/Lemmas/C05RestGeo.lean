/-
  C05, remaining clauses: `parseBlocks_geo3`, the instance of `parseBlocks_geoI` (Lemmas/C05InlineGeo.lean) at
  `InlSpec3`, which is `InlSpecI true` without the fallback clause.
  (Prefix `g3_`: the invariant `Geo3`.)
-/
import MdIt.Lemmas.C05RestDefs
import MdIt.Lemmas.KernelEval

namespace MdIt.Block
open MdIt.Lines (LineOffset)
open MdIt.C05I (KeptBlank)

theorem InlSpec3.toI {src0 : List Char} {P : InlP} (h : InlSpec3 src0 P) :
    InlSpecI true src0 P :=
  ⟨h.lines, h.heading, fun hp => Bool.noConfusion hp⟩

theorem parseBlocks_geo3 {P : InlP} {cfg : Cfg} {src : List Char} (hpara : Cfg.hasPara cfg = true)
    (hP : InlSpec3 src P) {root : BNode} {refs : Refs.RefMap}
    (hsmall : 4 * Lines.byteLen src + 8 < 2147483648)
    (h : parseBlocks cfg src = .ok (root, refs)) :
    root.range = some (0, Lines.byteLen src) ∧ RangedB P src root :=
  parseBlocks_geoI (hpara ▸ hP.toI) hsmall h

/-- `InlSpec3` is satisfiable: the trivial claim -/
theorem g3_inlSpec3_triv (src0 : List Char) : InlSpec3 src0 (fun _ _ _ _ => True) :=
  ⟨fun _ _ _ _ _ _ _ _ _ _ _ _ _ => trivial, fun _ _ _ _ _ _ _ _ _ _ => trivial⟩

/-- what `Geo3` adds over `Geo2`, as a claim about placeholders: the stretch `[a, b]` of every
    `InlineRoot` ends at the end of the document or in front of a line break (third clause of `PFull`) -/
theorem g3_inlSpec3_lineEnd (src0 : List Char) :
    InlSpec3 src0 (fun _ _ _ b => b = InlineOps.byteLen src0 ∨ C05R.BrkAt src0 b) := by
  refine ⟨?_, ?_⟩
  · intro s b e c m ob oe hg _ _ _ hoe _
    have := hg.term _ _ hoe
    rw [hg.g2.srcEq] at this
    exact this
  · intro s o line content textPos textMax hg ho _ _
    have := hg.term _ _ ho
    rw [hg.g2.srcEq] at this
    exact this

/-- a quote over a CR LF, a blank line, a list item with a lazy continuation behind a bare CR,
    no final terminator -/
def g3_exDoc : List Char := "> a\r\n> b\n\n- c\rd".toList

/-- `parseBlocks_geo3` applies (non-vacuity), with the trivial and with the line-end claim -/
example : ∃ root refs, parseBlocks exCfg g3_exDoc = .ok (root, refs) ∧ root.range = some (0, 15) ∧
    RangedB (fun _ _ _ _ => True) g3_exDoc root ∧
    RangedB (fun _ _ _ b => b = InlineOps.byteLen g3_exDoc ∨ C05R.BrkAt g3_exDoc b) g3_exDoc root := by
  have h : (parseBlocks exCfg g3_exDoc).toOption.isSome = true := by
    unfold g3_exDoc
    decide_lits
  cases hp : parseBlocks exCfg g3_exDoc with
  | error e => rw [hp] at h; cases h
  | ok v =>
    obtain ⟨root, refs⟩ := v
    have hsmall : 4 * Lines.byteLen g3_exDoc + 8 < 2147483648 := by
      unfold g3_exDoc
      decide_lits
    have h1 := parseBlocks_geo3 (by decide) (g3_inlSpec3_triv _) hsmall hp
    have h2 := parseBlocks_geo3 (by decide) (g3_inlSpec3_lineEnd _) hsmall hp
    exact ⟨root, refs, rfl, h1.1, h1.2, h2.2⟩

/-- `TermOk` does not follow from `Geo2`'s table clauses: the table `[(0,1),(2,3)]` over "aXb" is
    strictly separated and LF-free, but byte 1 is no line break -/
example : ¬ C05R.TermOk "aXb".toList [⟨0, 1, 0, 0⟩, ⟨2, 3, 2, 0⟩] := by
  intro h
  rcases h 0 _ rfl with h | ⟨p, c, q, e, hp, hc⟩
  · revert h; decide
  · simp only at hp
    match p, e, hp with
    | [x], e, _ =>
      simp at e
      obtain ⟨_, rfl, _⟩ := e
      rcases hc with hc | hc <;> cases hc
    | [], _, hp => simp [InlineOps.byteLen] at hp
    | x :: y :: r, _, hp =>
      have := Char.utf8Size_pos x
      have := Char.utf8Size_pos y
      simp [InlineOps.byteLen] at hp
      omega

end MdIt.Block
