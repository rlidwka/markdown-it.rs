/-
  NO RUST PANIC of the link machinery, for `Props/InlineTotal.lean`: `parse_link_label`, `parse_link` and the
  link rule in either mode against ARBITRARY callees `skip` / `tok` that meet the totality contracts
  `SkipHypT` / `TokHypT` (and are calm / keep the range invariant, which the partial-correctness developments
  `InlineCalm`, `InlineLinkEnd`, `InlineRanges6` need).  (The lemmas about `Frame` are in
  `Lemmas/InlineFrame.lean`.)

  The contracts.  Look-ahead: `LInv` (state), `SkipT` / `SkipHypT` (`skip_token`), `SilT` (a rule,
  `InlineTotalStep.lean`).  Real mode: `StepX F J` / `RealX F J` (a rule) and `TokHypX F J` (the nested
  `tokenize`) over a frame relation `F` and a state invariant `J`; a new lemma is stated with these.
  `StepT`, `RealT` are their instances at `Frame` and no invariant (`realX_iff`), `TokHypT` / `TokT` say what
  `TokHypX Frame (fun _ => True)` says; the memo-safety development uses the instances.

  From `Props/Inline.lean` and what it imports: `Good`, `RuleId.isFlat` (`Lemmas/InlineNoPanic.lean`), `RangesFn`,
  `RInv`, `RI`, `MapOK`, `StepOK`, `linkRule_ranges`, `markersOK_nil` (`Lemmas/InlineRanges*.lean`), `BottomsOK`
  (`Lemmas/InlineEmphTotal.lean`), `EntStop` (`Lemmas/InlineRules.lean`).
-/
import MdIt.Lemmas.InlineTotalDef
import MdIt.Lemmas.InlineTri

namespace MdIt.Inline
open MdIt.InlineOps (Srcmap getSourcePosFor getMap byteLen slice)
open MdIt.C05 (WFMap MonoMap byteLen_append slice_ok_iff)
open MdIt.InlineH (FrameL)

/-! ## invariants -/

/-- **the global memo invariant**: every memoised jump of `skip_token` goes forward and ends on a
    character boundary of the text (whatever frame made it) -/
def MemoB (st : IState) : Prop := ∀ k v, (k, v) ∈ st.cache → k < v ∧ Boundary st.src v

theorem MemoB.memoInv {st : IState} (h : MemoB st) : MemoInv st := fun k v hkv => (h k v hkv).1

theorem MemoB.insert {st : IState} (h : MemoB st) {k v : Nat} (hkv : k < v) (hb : Boundary st.src v) :
    ∀ a b, (a, b) ∈ cacheInsert st.cache k v → a < b ∧ Boundary st.src b := by
  intro a b hab
  unfold cacheInsert at hab
  simp only [List.mem_cons, Prod.mk.injEq] at hab
  rcases hab with ⟨rfl, rfl⟩ | hab
  · exact ⟨hkv, hb⟩
  · exact h a b hab

/-- the invariant under which look-ahead code runs: window inside the text on boundaries, usable
    table, the entity regexes cannot run over `posMax`, sound memo -/
structure LInv (st : IState) : Prop where
  le : st.pos ≤ st.posMax
  bpos : Boundary st.src st.pos
  bmax : Boundary st.src st.posMax
  wf : WFMap st.srcmap
  stop : EntStop st.src st.posMax
  memo : MemoB st

theorem LInv.inv {st : IState} (h : LInv st) (hlt : st.pos < st.posMax) : InlineInv st :=
  ⟨hlt, h.bpos, h.bmax, h.wf⟩

/-- along a calm step to a new position inside the window -/
theorem LInv.step {st st' : IState} (h : LInv st) (hc : Calm st st') (hm : MemoB st')
    (hle : st'.pos ≤ st.posMax) (hb : Boundary st.src st'.pos) : LInv st' :=
  ⟨by rw [hc.posMax]; exact hle, by rw [hc.src]; exact hb, by rw [hc.src, hc.posMax]; exact h.bmax,
   by rw [hc.srcmap]; exact h.wf, by rw [hc.src, hc.posMax]; exact h.stop, hm⟩

theorem LInv.same {st st' : IState} (h : LInv st) (hc : Calm st st') (hm : MemoB st')
    (hp : st'.pos = st.pos) : LInv st' :=
  h.step hc hm (by rw [hp]; exact h.le) (by rw [hp]; exact h.bpos)

/-- the window of a state under `LInv` can be sliced -/
theorem LInv.window {st : IState} (h : LInv st) :
    ∃ w, st.window = .ok w ∧ slice st.src st.pos st.posMax = .ok w ∧ st.pos + byteLen w = st.posMax := by
  obtain ⟨pre, w, post, _, _, hw, hsl⟩ := slice_of_boundaries h.bpos h.bmax h.le
  exact ⟨w, by unfold IState.window; rw [hsl]; rfl, hsl, hw⟩

theorem NoRust.of_liftR {α : Type} {x : Except RPanic α} {a : α} (h : x = .ok a) :
    NoRust (liftR x) := by rw [h]; exact NoRust.ok a

theorem noRust_of_eq {α : Type} {r : Except Panic α} {a : α} (h : r = .ok a) : NoRust r := by
  rw [h]; exact NoRust.ok a

/-! ## contracts -/

/-- what `skip_token` guarantees on a state under `LInv` with `pos < posMax` -/
structure SkipT (st : IState) (r : Except Panic IState) : Prop where
  noRust : NoRust r
  ok : ∀ st', r = .ok st' →
    MemoB st' ∧ st.pos < st'.pos ∧ st'.pos ≤ st.posMax ∧ Boundary st.src st'.pos

def SkipHypT (skip : IState → Except Panic IState) : Prop :=
  ∀ s, LInv s → s.pos < s.posMax → SkipT s (skip s)

theorem skipT_iff {st : IState} {r : Except Panic IState} :
    SkipT st r ↔ Tri NotRust (fun st' => MemoB st' ∧ st.pos < st'.pos ∧ st'.pos ≤ st.posMax ∧
      Boundary st.src st'.pos) r := by
  rw [tri_iff]
  exact ⟨fun h => ⟨fun e he p hp => h.noRust p (hp ▸ he), h.ok⟩, fun h => ⟨fun p hp => h.1 _ hp p rfl, h.2⟩⟩

/-! ## `parse_link_label` -/

theorem labelLoop_T {skip : IState → Except Panic IState} (hq : CalmFn skip) (hs : SkipHypT skip)
    (en : Bool) :
    ∀ (n : Nat) (level : Int) (st : IState), LInv st →
      NoRust (labelLoop skip en n level st) ∧
      ∀ res st', labelLoop skip en n level st = .ok (res, st') → MemoB st' ∧ st.pos ≤ st'.pos := by
  intro n level st hi
  have key := labelLoop_tri (skip := skip) (en := en) (E := NotRust)
    (I := fun _ s => LInv s ∧ st.pos ≤ s.pos)
    (fun _ _ => notRust_fuel)
    (fun _ s e hi hw => by obtain ⟨w, hw', _⟩ := hi.1.window; rw [hw'] at hw; cases hw)
    (fun _ s ch r ⟨a, b⟩ hw => by
      refine (skipT_iff.mp (hs s a (window_nonempty_lt hw))).mono (fun _ h => h) ?_
      rintro s1 hk ⟨m1, p1, le1, b1⟩
      exact ⟨⟨a.step (hq s s1 hk) m1 le1 b1, by omega⟩, by omega⟩)
    n level st ⟨hi, Nat.le_refl _⟩
  obtain ⟨k1, k2⟩ := tri_iff.mp key
  exact ⟨fun p hp => k1 _ hp p rfl, fun res st' h => ⟨(k2 (res, st') h).1.choose_spec.1.memo,
    (k2 (res, st') h).1.choose_spec.2⟩⟩

/-- `parse_link_label` from a `[` whose successor position lies in the window -/
theorem parseLinkLabel_T {skip : IState → Except Panic IState} (hq : CalmFn skip)
    (hs : SkipHypT skip) (en : Bool) (fuel : Nat) (st : IState) (start : Nat) (hi : LInv st)
    (hb : Boundary st.src (start + 1)) (hle : start + 1 ≤ st.posMax) :
    NoRust (parseLinkLabel skip fuel st start en) ∧
    ∀ o st', parseLinkLabel skip fuel st start en = .ok (o, st') →
      LInv st' ∧ Calm st st' ∧ st'.pos = st.pos ∧
      (∀ e, o = some e → start + 1 ≤ e ∧ ∃ r, slice st.src e st.posMax = .ok (']' :: r)) := by
  have hi0 : LInv { st with pos := start + 1 } :=
    ⟨hle, hb, hi.bmax, hi.wf, hi.stop, hi.memo⟩
  have hspec := labelLoop_T hq hs en fuel 1 { st with pos := start + 1 } hi0
  refine ⟨fun p hp => hspec.1 p (parseLinkLabel_error hp), fun o st' h => ?_⟩
  have hc := parseLinkLabel_calm hq h
  have hp := parseLinkLabel_pos h
  obtain ⟨res, st1, hl, rfl, he⟩ := parseLinkLabel_ok h
  refine ⟨hi.same hc (hspec.2 _ _ hl).1 hp, hc, hp, fun e he' => ⟨?_, parseLinkLabel_end hq (he' ▸ h)⟩⟩
  obtain ⟨_, rfl⟩ := he e he'
  exact (hspec.2 _ _ hl).2

/-! ## `parse_link` -/

theorem slice_ok_of {src : List Char} {a b : Nat} (ha : Boundary src a) (hb : Boundary src b)
    (hab : a ≤ b) : ∃ w, slice src a b = .ok w := by
  obtain ⟨_, w, _, _, _, _, h⟩ := slice_of_boundaries ha hb hab
  exact ⟨w, h⟩

theorem parseLinkRef_T {cfg : Cfg} {skip : IState → Except Panic IState} (hq : CalmFn skip)
    (hs : SkipHypT skip) (fuel : Nat) (st : IState) (labelStart labelEnd : Nat) (hi : LInv st)
    (hls : Boundary st.src labelStart) (hle : labelStart ≤ labelEnd)
    (hend : ∃ r, slice st.src labelEnd st.posMax = .ok (']' :: r)) :
    NoRust (parseLinkRef cfg skip fuel st labelStart labelEnd) ∧
    ∀ o st', parseLinkRef cfg skip fuel st labelStart labelEnd = .ok (o, st') →
      MemoB st' ∧ (∀ res, o = some res → res.labelStart = labelStart ∧ res.labelEnd = labelEnd ∧
        labelEnd < res.endPos) := by
  obtain ⟨r0, hr0⟩ := hend
  obtain ⟨hle1, hb1⟩ := after_bracket hr0
  have hbe : Boundary st.src labelEnd := (slice_boundaries hr0).1
  obtain ⟨w, hw⟩ := slice_ok_of hb1 hi.bmax hle1
  -- the second label, when the text behind the first starts with `[`
  have hsecond : ∀ r1, liftR (liftOps (slice st.src (labelEnd + 1) st.posMax)) = .ok ('[' :: r1) →
      Boundary st.src (labelEnd + 1 + 1) ∧ NoRust (parseLinkLabel skip fuel st (labelEnd + 1) false) ∧
      ∀ o st', parseLinkLabel skip fuel st (labelEnd + 1) false = .ok (o, st') →
        MemoB st' ∧ ∀ e, o = some e → labelEnd + 1 + 1 ≤ e ∧ Boundary st.src e := fun r1 h => by
    obtain ⟨hle2, hb2⟩ := after_one (by decide) (liftOps_ok.mp (liftR_ok.mp h))
    have hlab := parseLinkLabel_T hq hs false fuel st (labelEnd + 1) hi hb2 hle2
    refine ⟨hb2, hlab.1, fun o st' hl => ?_⟩
    obtain ⟨hi1, _, _, hx⟩ := hlab.2 _ _ hl
    exact ⟨hi1.memo, fun e he => ⟨(hx e he).1, (slice_boundaries (hx e he).2.choose_spec).1⟩⟩
  refine ⟨fun p hp => ?_, fun o st' h => ?_⟩
  · -- every slice is between boundaries
    rcases parseLinkRef_error hp with h | ⟨r1, hw1, h | ⟨x, st1, hl, h⟩⟩ | h
    · rw [hw] at h; cases h
    · exact (hsecond r1 hw1).2.1 p h
    · obtain ⟨hb2, _, hok⟩ := hsecond r1 hw1
      obtain ⟨l, hl'⟩ := slice_ok_of hb2 ((hok _ _ hl).2 x rfl).2 ((hok _ _ hl).2 x rfl).1
      rw [hl'] at h; cases h
    · obtain ⟨lab, hlab⟩ := slice_ok_of hls hbe hle
      rw [hlab] at h; cases h
  · obtain ⟨x, hx, hres⟩ := parseLinkRef_ok h
    have hst : MemoB st' ∧ labelEnd < x.getD labelEnd + 1 := by
      rcases hx with ⟨rfl, rfl⟩ | ⟨r1, hw1, hx⟩
      · exact ⟨hi.memo, Nat.lt_succ_self _⟩
      · obtain ⟨hm1, he⟩ := (hsecond r1 hw1).2.2 _ _ hx
        refine ⟨hm1, ?_⟩
        cases x with
        | none => exact Nat.lt_succ_self _
        | some x => have := (he x rfl).1; simp only [Option.getD_some]; omega
    refine ⟨hst.1, fun res hr => ?_⟩
    obtain ⟨r1, r2, r3, _⟩ := hres res hr
    exact ⟨r1, r2, r3 ▸ hst.2⟩

/-- what a successful `parse_link` found -/
structure LinkResT (st : IState) (pos : Nat) (res : LinkRes) : Prop where
  labelStart : res.labelStart = pos + 1
  labelLe : res.labelStart ≤ res.labelEnd
  bracket : ∃ r, slice st.src res.labelEnd st.posMax = .ok (']' :: r)
  endGt : res.labelEnd < res.endPos
  endLe : res.endPos ≤ st.posMax
  endB : Boundary st.src res.endPos

theorem parseLink_T {cfg : Cfg} {skip : IState → Except Panic IState} (hq : CalmFn skip)
    (hs : SkipHypT skip) (fuel : Nat) (st : IState) (pos : Nat) (en : Bool) (hi : LInv st)
    (hb : Boundary st.src (pos + 1)) (hle : pos + 1 ≤ st.posMax) :
    NoRust (parseLink cfg skip fuel st pos en) ∧
    ∀ o st', parseLink cfg skip fuel st pos en = .ok (o, st') →
      LInv st' ∧ Calm st st' ∧ st'.pos = st.pos ∧ (∀ res, o = some res → LinkResT st pos res) := by
  have hlab := parseLinkLabel_T hq hs en fuel st pos hi hb hle
  -- what `parse_link_calm` … `parse_link_end` do not give: no panic, the memo, the label
  suffices hmain : NoRust (parseLink cfg skip fuel st pos en) ∧
      ∀ o st', parseLink cfg skip fuel st pos en = .ok (o, st') → MemoB st' ∧
        (∀ res, o = some res → res.labelStart ≤ res.labelEnd ∧
          (∃ r, slice st.src res.labelEnd st.posMax = .ok (']' :: r)) ∧ res.labelEnd < res.endPos) by
    refine ⟨hmain.1, fun o st' h => ?_⟩
    have hc := parseLink_calm hq h
    have hp := parseLink_pos h
    obtain ⟨hm, hres⟩ := hmain.2 o st' h
    refine ⟨hi.same hc hm hp, hc, hp, ?_⟩
    rintro res rfl
    obtain ⟨a, b, c⟩ := hres _ rfl
    obtain ⟨d, e⟩ := parseLink_end hq h
    exact ⟨parseLink_labelStart h, a, b, c, d, e⟩
  -- behind a label that ended at `labelEnd`
  have hbehind : ∀ labelEnd st1, parseLinkLabel skip fuel st pos en = .ok (some labelEnd, st1) →
      LInv st1 ∧ Calm st st1 ∧ pos + 1 ≤ labelEnd ∧ ∃ rx, slice st.src labelEnd st.posMax = .ok (']' :: rx) :=
    fun labelEnd st1 he => by
      obtain ⟨hi1, hc1, _, hx⟩ := hlab.2 _ _ he
      exact ⟨hi1, hc1, hx labelEnd rfl⟩
  fun_cases parseLink cfg skip fuel st pos en with
  | case1 e he => exact ⟨fun p hp => by cases hp; exact hlab.1 p he, fun _ _ h => nomatch h⟩
  | case2 st1 he =>
    exact ⟨NoRust.ok _, fun _ _ h => by cases h; exact ⟨(hlab.2 _ _ he).1.memo, fun _ h => nomatch h⟩⟩
  | case3 labelEnd st1 he e hil =>
    obtain ⟨hi1, hc1, _, rx, hrx⟩ := hbehind _ _ he
    obtain ⟨hle1, hb1⟩ := after_bracket hrx
    obtain ⟨chars, hch⟩ := slice_ok_of (by rw [hc1.src]; exact hb1 : Boundary st1.src (labelEnd + 1))
      hi1.bmax (by rw [hc1.posMax]; exact hle1)
    obtain ⟨r, hr⟩ := Link.tail_total (Entity.unescapeAll cfg.entity) st1.src chars (labelEnd + 1)
      st1.posMax ((linkSlice_eq _ _ _ _).mpr hch)
    rw [hr] at hil; cases hil
  | case4 labelEnd st1 he _ il hil =>
    obtain ⟨hi1, _, hx1, hrx⟩ := hbehind _ _ he
    refine ⟨NoRust.ok _, fun _ _ h => ?_⟩
    cases h
    refine ⟨hi1.memo, fun res h => ?_⟩
    cases h
    have := tail_end_gt hil
    exact ⟨hx1, hrx, by simp only; omega⟩
  | case5 labelEnd st1 he _ hil =>
    obtain ⟨hi1, hc1, hx1, rx, hrx⟩ := hbehind _ _ he
    have href := parseLinkRef_T (cfg := cfg) hq hs fuel st1 (pos + 1) labelEnd hi1
      (by rw [hc1.src]; exact hb) hx1 (by rw [hc1.src, hc1.posMax]; exact ⟨rx, hrx⟩)
    refine ⟨href.1, fun o st' h => ?_⟩
    obtain ⟨hm2, hres⟩ := href.2 _ _ h
    refine ⟨hm2, fun res hr => ?_⟩
    obtain ⟨r1, r2, r3⟩ := hres res hr
    rw [r1, r2]
    exact ⟨hx1, ⟨rx, hrx⟩, r3⟩

/-! ## the link rule -/

/-- what `tokenize` guarantees on a good state -/
structure TokT (st : IState) (r : Except Panic IState) : Prop where
  noRust : NoRust r
  ok : ∀ st', r = .ok st' → Frame st st' ∧ MemoB st' ∧ st'.pos ≤ st'.posMax

def TokHypT (tok : IState → Except Panic IState) : Prop :=
  ∀ lo s, Good lo s → MemoB s → TokT s (tok s)

theorem Good.linv {lo : Nat} {st : IState} (h : Good lo st) (hm : MemoB st) : LInv st :=
  ⟨h.le, h.bpos, h.bmax, h.map.wf, h.stop, hm⟩

/-- a calm step that leaves `pos` alone keeps the frame good -/
theorem Good.calm {lo : Nat} {st st' : IState} (h : Good lo st) (hc : Calm st st')
    (hp : st'.pos = st.pos) : Good lo st' := by
  refine ⟨by rw [hp, hc.posMax]; exact h.le, by rw [hp, hc.src]; exact h.bpos,
    by rw [hc.src, hc.posMax]; exact h.bmax, by rw [hc.src, hc.srcmap]; exact h.map,
    by rw [hc.src, hc.posMax]; exact h.stop, ?_, by rw [hc.bottoms]; exact h.bottoms⟩
  unfold RInv; rw [hc.src, hc.srcmap, hp, hc.children]; exact h.ri

theorem linkRule_silent_T {cfg : Cfg} {skip tok : IState → Except Panic IState} (hq : CalmFn skip)
    (hs : SkipHypT skip) (fuel : Nat) (mk : List Nat → Option (List Char) → Val) (en : Bool)
    (offset : Nat) (st : IState) (hi : LInv st)
    (hb : Boundary st.src (st.pos + offset + 1)) (hle : st.pos + offset + 1 ≤ st.posMax) :
    NoRust (linkRule cfg skip tok fuel mk en offset st true) ∧
    ∀ o st', linkRule cfg skip tok fuel mk en offset st true = .ok (o, st') →
      LInv st' ∧ Calm st st' ∧ st'.pos = st.pos ∧ Advances st o := by
  have hpl := parseLink_T (cfg := cfg) hq hs fuel st (st.pos + offset) en hi hb hle
  cases hp : parseLink cfg skip fuel st (st.pos + offset) en with
  | error e =>
    rw [linkRule_error hp]
    exact ⟨fun p h => by cases h; exact hpl.1 p hp, fun _ _ h => nomatch h⟩
  | ok x =>
    obtain ⟨_ | res, st1⟩ := x
    · rw [linkRule_none hp]
      obtain ⟨a, b, c, _⟩ := hpl.2 _ _ hp
      exact ⟨NoRust.ok _, fun _ _ h => by cases h; exact ⟨a, b, c, fun _ h => nomatch h⟩⟩
    · obtain ⟨a, b, c, d⟩ := hpl.2 _ _ hp
      have hres := d res rfl
      have h1 := hres.labelStart; have h2 := hres.labelLe; have h3 := hres.endGt
      rw [linkRule_silent hp, if_neg (by omega)]
      refine ⟨NoRust.ok _, fun _ _ h => ?_⟩
      cases h
      refine ⟨a, b, c, fun len hl => ?_⟩
      cases hl
      have e : st.pos + (res.endPos - st1.pos) = res.endPos := by omega
      rw [e]
      exact ⟨by omega, hres.endLe, hres.endB⟩

/-- what a rule call in real mode leaves behind, over a frame relation `F` and a state invariant `J`
    (the html-free rules: `F = Frame`, `J` trivial, `StepT`; with the html rule `F = FrameL`, `J = LLPos` and
    the size bound).  For `o = none` the state in `good` / `inv` is `st'` itself, by reduction. -/
structure StepX (F : IState → IState → Prop) (J : IState → Prop) (lo : Nat) (st : IState)
    (o : Option Nat) (st' : IState) : Prop where
  good : Good lo { st' with pos := st'.pos + o.getD 0 }
  memo : MemoB st'
  frame : F st st'
  nonePos : o = none → st'.pos = st.pos
  adv : ∀ len, o = some len → st.pos < st'.pos + len
  inv : J { st' with pos := st'.pos + o.getD 0 }

abbrev StepT : Nat → IState → Option Nat → IState → Prop := StepX Frame fun _ => True

/-- what the nested `tokenize` guarantees (`TokHypT`: `F = Frame`, no invariant) -/
def TokHypX (F : IState → IState → Prop) (J : IState → Prop) (tok : IState → Except Panic IState) : Prop :=
  ∀ lo s, Good lo s → MemoB s → J s →
    NoRust (tok s) ∧ ∀ s', tok s = .ok s' → F s s' ∧ MemoB s' ∧ s'.pos ≤ s'.posMax ∧ J s'

/-- what a rule call in real mode guarantees -/
structure RealX (F : IState → IState → Prop) (J : IState → Prop) (lo : Nat) (st : IState) (r : RuleRes) :
    Prop where
  noRust : NoRust r
  ok : ∀ o st', r = .ok (o, st') → StepX F J lo st o st'

abbrev RealT : Nat → IState → RuleRes → Prop := RealX Frame fun _ => True

theorem isEntChar_bracket : isEntChar ']' = false := by decide

/-- the frame the link rule opens for the label behind a successful `parse_link` from a good state is
    good again, with a memo that is still sound (the nested-frame step of `linkRule_real_T`) -/
theorem linkNested_good {cfg : Cfg} {skip : IState → Except Panic IState} (hq : CalmFn skip)
    (hs : SkipHypT skip) (fuel : Nat) (en : Bool) (offset : Nat) {lo : Nat} (st : IState)
    (hg : Good lo st) (hm : MemoB st)
    (hb : Boundary st.src (st.pos + offset + 1)) (hle : st.pos + offset + 1 ≤ st.posMax)
    {res : LinkRes} {st1 : IState}
    (he : parseLink cfg skip fuel st (st.pos + offset) en = .ok (some res, st1)) :
    (∃ lo', Good lo' (linkNested st1 res)) ∧ MemoB (linkNested st1 res) ∧ Calm st st1 ∧
      LinkResT st (st.pos + offset) res := by
  have hi := hg.linv hm
  have hpl := parseLink_T (cfg := cfg) hq hs fuel st (st.pos + offset) en hi hb hle
  obtain ⟨a, b, c, d⟩ := hpl.2 _ _ he
  have hres := d res rfl
  obtain ⟨rx, hrx⟩ := hres.bracket
  have hm1 : MapOK st1.src st1.srcmap := by rw [b.src, b.srcmap]; exact hg.map
  obtain ⟨lo', hlo'⟩ := C05.translate_total st1.srcmap hm1.wf res.labelStart
  refine ⟨⟨lo', ⟨hres.labelLe, ?_, ?_, hm1, ?_, ?_, ?_⟩⟩, a.memo, b, hres⟩
  · show Boundary st1.src res.labelStart
    rw [b.src, hres.labelStart]; exact hb
  · show Boundary st1.src res.labelEnd
    rw [b.src]; exact (slice_boundaries hrx).1
  · show EntStop st1.src res.labelEnd
    intro pre c post hsrc hl
    obtain ⟨p, q, e, l1, _⟩ := (slice_ok_iff _ _ _ _).mp hrx
    rw [b.src] at hsrc
    have := C05.append_inj_byteLen pre (c :: post) p (']' :: rx ++ q)
      (by rw [← hsrc, e]; simp) (by rw [hl, l1])
    have hc : c = ']' := by
      have h2 := this.2
      simp only [List.cons_append, List.cons.injEq] at h2
      exact h2.1
    rw [hc]; exact isEntChar_bracket
  · exact ⟨⟨lo', hlo', Nat.le_refl _⟩, trivial, markersOK_nil, by intro init last hcs; simp at hcs⟩
  · intro k l hkl; simp at hkl

/-- real mode, without `linkLevel`: the nested `tokenize` need not keep it (`FrameL`) and may rely on a state
    invariant `J` that the nested state of the link has; `linkLevel` is back where it was if the nested run keeps
    it -/
theorem linkRule_realL {cfg : Cfg} {skip tok : IState → Except Panic IState} {J : IState → Prop}
    (hq : CalmFn skip) (hs : SkipHypT skip) (ht : TokHypX FrameL J tok) (hr : RangesFn tok) (fuel : Nat)
    (mk : List Nat → Option (List Char) → Val)
    (hmk : ∀ u t, ∀ c, mk u t ≠ .text c) (hmk2 : ∀ u t r cs, (Node.mk (mk u t) r cs).asMarker = none)
    (en : Bool) (offset : Nat) {lo : Nat} (st : IState) (hg : Good lo st) (hm : MemoB st)
    (hb : Boundary st.src (st.pos + offset + 1)) (hle : st.pos + offset + 1 ≤ st.posMax)
    (hJ : ∀ res st1, parseLink cfg skip fuel st (st.pos + offset) en = .ok (some res, st1) →
      J (linkNested st1 res)) :
    NoRust (linkRule cfg skip tok fuel mk en offset st false) ∧
    ∀ o st', linkRule cfg skip tok fuel mk en offset st false = .ok (o, st') →
      StepX FrameL (fun _ => True) lo st o st' ∧
      ((∀ lo s s', Good lo s → MemoB s → tok s = .ok s' → s'.linkLevel = s.linkLevel) →
        st'.linkLevel = st.linkLevel) := by
  have hi := hg.linv hm
  have hpl := parseLink_T (cfg := cfg) hq hs fuel st (st.pos + offset) en hi hb hle
  have hnest : ∀ res st1, parseLink cfg skip fuel st (st.pos + offset) en = .ok (some res, st1) →
      ∃ lo', Good lo' (linkNested st1 res) ∧ MemoB (linkNested st1 res) := fun res st1 he => by
    obtain ⟨⟨lo', h1⟩, h2, _, _⟩ := linkNested_good hq hs fuel en offset st hg hm hb hle he
    exact ⟨lo', h1, h2⟩
  constructor
  · cases hp : parseLink cfg skip fuel st (st.pos + offset) en with
    | error e => rw [linkRule_error hp]; intro p h; cases h; exact hpl.1 p hp
    | ok x =>
      obtain ⟨_ | res, st1⟩ := x
      · rw [linkRule_none hp]; exact NoRust.ok _
      · obtain ⟨a, b, c, d⟩ := hpl.2 _ _ hp
        have hres := d res rfl
        obtain ⟨lo', hg2, hm2⟩ := hnest res st1 hp
        have htk := ht lo' _ hg2 hm2 (hJ res st1 hp)
        rw [linkRule_real hp]
        cases he3 : tok (linkNested st1 res) with
        | error e2 => intro p h; cases h; exact htk.1 p he3
        | ok st3 =>
          obtain ⟨f3, m3, hle3, _⟩ := htk.2 st3 he3
          have hlev : st3.level = st1.level + 1 := f3.level
          have hpm3 : st3.posMax = res.labelEnd := f3.posMax
          have h1 := hres.labelStart; have h2 := hres.labelLe; have h3 := hres.endGt
          obtain ⟨x, y, hxy, _, _⟩ := getMap_ok (st := st3) (by rw [f3.srcmap]; exact a.wf)
            (by omega : st.pos ≤ res.endPos)
          simp only [linkClose, hxy, liftR]
          rw [if_neg (by omega), if_neg (by omega)]
          exact NoRust.ok _
  · intro o st' h
    have hstep := linkRule_ranges hq hr hmk hmk2 hg.map hg.ri h
    have hbnd : ∀ len, o = some len → st'.pos + len ≤ st.posMax ∧ Boundary st.src (st'.pos + len) := by
      intro len hl; subst hl; exact linkRule_bounds hq h
    -- the remaining fields
    have hrest : MemoB st' ∧ st'.posMax = st.posMax ∧ st'.level = st.level ∧
        ((∀ lo s s', Good lo s → MemoB s → tok s = .ok s' → s'.linkLevel = s.linkLevel) →
        st'.linkLevel = st.linkLevel) ∧
        st'.bottoms = st.bottoms ∧ (o = none → st'.pos = st.pos) ∧
        (∀ len, o = some len → st.pos < st'.pos + len) := by
      rcases linkRule_inv h with ⟨rfl, hpn⟩ | ⟨res, st1, st3, r, he, he3, _, _, hle3, rfl, rfl⟩
      · obtain ⟨a, b, c, _⟩ := hpl.2 _ _ hpn
        exact ⟨a.memo, b.posMax, b.level, fun _ => b.linkLevel, b.bottoms, fun _ => c, fun _ h => nomatch h⟩
      · obtain ⟨a, b, c, d⟩ := hpl.2 _ _ he
        have hres := d res rfl
        obtain ⟨lo', hg2, hm2⟩ := hnest res st1 he
        obtain ⟨f3, m3, _⟩ := (ht lo' _ hg2 hm2 (hJ res st1 he)).2 st3 he3
        have hlev : st3.level = st1.level + 1 := f3.level
        have h1 := hres.labelStart; have h2 := hres.labelLe; have h3 := hres.endGt
        refine ⟨fun k v hkv => by simpa using m3 k v hkv, b.posMax, ?_, ?_, b.bottoms,
          fun h => (nomatch h), ?_⟩
        · simp only; rw [hlev, Nat.add_sub_cancel]; exact b.level
        · intro hK
          have hll : st3.linkLevel = st1.linkLevel + 1 := hK lo' _ _ hg2 hm2 he3
          simp only; rw [hll]; have := b.linkLevel; omega
        · intro len hl; cases hl; simp only; omega
    obtain ⟨r1, r2, r3, r3', r4, r5, r6⟩ := hrest
    refine ⟨⟨⟨?_, ?_, ?_, ?_, ?_, ?_, ?_⟩, r1, ⟨hstep.src, hstep.srcmap, r2, r3⟩, r5, r6, trivial⟩, r3'⟩
    · show st'.pos + o.getD 0 ≤ st'.posMax
      rw [r2]
      cases o with
      | none => simp only [Option.getD_none, Nat.add_zero]; rw [r5 rfl]; exact hg.le
      | some len => exact (hbnd len rfl).1
    · show Boundary st'.src (st'.pos + o.getD 0)
      rw [hstep.src]
      cases o with
      | none => simp only [Option.getD_none, Nat.add_zero]; rw [r5 rfl]; exact hg.bpos
      | some len => exact (hbnd len rfl).2
    · show Boundary st'.src st'.posMax
      rw [hstep.src, r2]; exact hg.bmax
    · show MapOK st'.src st'.srcmap
      rw [hstep.src, hstep.srcmap]; exact hg.map
    · show EntStop st'.src st'.posMax
      rw [hstep.src, r2]; exact hg.stop
    · show RI st'.src st'.srcmap lo (st'.pos + o.getD 0) st'.children
      rw [hstep.src, hstep.srcmap]; exact hstep.ri
    · show BottomsOK st'.bottoms
      rw [r4]; exact hg.bottoms


theorem linkRule_real_T {cfg : Cfg} {skip tok : IState → Except Panic IState} (hq : CalmFn skip)
    (hs : SkipHypT skip) (ht : TokHypT tok) (hr : RangesFn tok) (fuel : Nat)
    (mk : List Nat → Option (List Char) → Val)
    (hmk : ∀ u t, ∀ c, mk u t ≠ .text c) (hmk2 : ∀ u t r cs, (Node.mk (mk u t) r cs).asMarker = none)
    (en : Bool) (offset : Nat) {lo : Nat} (st : IState) (hg : Good lo st) (hm : MemoB st)
    (hb : Boundary st.src (st.pos + offset + 1)) (hle : st.pos + offset + 1 ≤ st.posMax) :
    NoRust (linkRule cfg skip tok fuel mk en offset st false) ∧
    ∀ o st', linkRule cfg skip tok fuel mk en offset st false = .ok (o, st') → StepT lo st o st' := by
  have h := linkRule_realL (cfg := cfg) (J := fun _ => True) hq hs
    (fun lo s hg hm _ => ⟨(ht lo s hg hm).noRust, fun s' e =>
      let t := (ht lo s hg hm).ok s' e
      ⟨.ofFrame t.1, t.2.1, t.2.2, trivial⟩⟩) hr fuel mk hmk hmk2 en offset st hg hm hb hle
    (fun _ _ _ => trivial)
  exact ⟨h.1, fun o st' e =>
    let t := (h.2 o st' e).1
    ⟨t.good, t.memo, t.frame.toFrame ((h.2 o st' e).2 fun lo s s' hg hm e' =>
      ((ht lo s hg hm).ok s' e').1.linkLevel), t.nonePos, t.adv, trivial⟩⟩

end MdIt.Inline
