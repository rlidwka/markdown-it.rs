/-
  The GRAMMAR of the trees the block tokenizer builds.

  `Emits G L n`: a tokenizer run entered with `state.level = L` may push the node `n` — a leaf of one
  of the seven rules that do not nest, the fallback placeholder, a block quote over what a run at
  `L + 1` pushes, or a list over items whose bodies come from runs at `L + 2`.  The three things that
  keep "the tokenizer pushes only nodes satisfying Q" from being one statement for every Q are
  parameters / indices of the grammar (`Gram`): the fallback placeholder exists only without the
  paragraph rule (`para`); nothing is pushed at `L ≥ max_nesting` (`N`, the level guard); and a tight
  item has no two adjacent paragraphs when the paragraph rule is last (`plast`, `tokenize_tight`).

  `tokenize_emits` ties the knot through the nested tokenizer once (`runRule_appends` for one rule,
  `tokLoop_keeps` / `tokenize_keeps` for the loop and the engine); `parseBlocks_emits` is the statement
  for a document.  The invariants of the block tree are recursions over the grammar that do not
  mention the parser: well-formedness, with the list shape as one of its clauses (`Emits.goodB`,
  `Props/Pipeline` part A), depth (`Emits.depth`, `Lemmas/C02DocBlock`), adjacent placeholders
  (`Emits.nai`, `Lemmas/C14DocBlock`); `Emits.all` serves the predicates that look at one node at a
  time.  The trees of the engine with the raw-HTML rule are generated by the grammar too, with `plast := False`
  (`BlockH.tokenizeH_emits`: the html block is a leaf; no claim about tight items).
-/
import MdIt.Lemmas.BlockTight

namespace MdIt.Block
open MdIt.Lines (LineOffset)

/-- is the default block rule configured -/
def Cfg.hasPara (cfg : Cfg) : Bool := cfg.chain.contains .paragraph

/-- a chain that contains a rule which never answers `false` in real mode never answers `false` (for any
    type of rule ids; nothing is asked of the rules that decline, hence not through `runChainG_first`) -/
theorem runChainG_claims {ι : Type} {run : ι → BState → Bool → Res} {r0 : ι}
    (h0 : ∀ s s', run r0 s false ≠ .ok (false, s')) :
    ∀ (chain : List ι) (s : BState) (b : Bool) (s' : BState), r0 ∈ chain →
      BlockH.runChainG run chain s false = .ok (b, s') → b = true := by
  intro chain
  induction chain with
  | nil => intro s b s' hm; cases hm
  | cons r rs ih =>
    intro s b s' hm h
    simp only [BlockH.runChainG] at h
    split at h
    · cases h
    · cases h; rfl
    · rename_i s1 h1
      rcases List.mem_cons.mp hm with rfl | hm'
      · exact absurd h1 (h0 _ _)
      · exact ih _ _ _ hm' h

/-- with the paragraph rule in the chain the chain always claims the line (the paragraph rule never
    answers `false` in real mode): the no-paragraph fallback of `tokenize` is dead code -/
theorem runChain_para {cfg : Cfg} {tok : Tok} {test : Test} {fuel : Nat} :
    ∀ (chain : List RuleId) (s : BState) (b : Bool) (s' : BState), RuleId.paragraph ∈ chain →
      runChain (runRule cfg tok test fuel) chain s false = .ok (b, s') → b = true := by
  intro chain s b s' hm h
  rw [runChain_eq_G] at h
  exact runChainG_claims (r0 := RuleId.paragraph) (fun _ _ h => absurd (real_true_paragraph h) (by simp))
    chain s b s' hm h

/-- what the grammar reads of the configuration -/
structure Gram where
  /-- the paragraph rule is in the chain -/
  para : Bool
  /-- the paragraph rule is the last rule of the chain -/
  plast : Prop
  /-- `max_nesting` -/
  N : Nat

def Cfg.gram (cfg : Cfg) : Gram := ⟨cfg.hasPara, ParaLast cfg.chain, cfg.maxNesting⟩

mutual
/-- a node that a tokenizer run at level `L` may push -/
inductive Emits (G : Gram) : Nat → BNode → Prop
  | leaf {L : Nat} {n : BNode} : L < G.N → LeafNode n → Emits G L n
  /-- the no-paragraph fallback of `tokenize` -/
  | bare {L : Nat} {t : List Char} {m : List (Nat × Nat)} : L < G.N → G.para = false →
      Emits G L ⟨.inlineRoot t m, none, []⟩
  | quote {L : Nat} {r : Nat × Nat} {cs : List BNode} : L < G.N → (∀ c ∈ cs, Emits G (L + 1) c) →
      Emits G L ⟨.blockquote, some r, cs⟩
  | list {L : Nat} {k : Kind} {r : Nat × Nat} {tight : Bool} {items : List BNode} : L < G.N →
      isListKind k = true → (∀ c ∈ items, EmitsItem G L tight c) →
      Emits G L ⟨k, some r, if tight then items.map tightenItem else items⟩
/-- an item of a list pushed at level `L`, before `mark_tight_paragraphs`: the list rule raises the
    level once for the list and once more for each item body -/
inductive EmitsItem (G : Gram) : Nat → Bool → BNode → Prop
  | mk {L : Nat} {tight : Bool} {r : Nat × Nat} {cs : List BNode} : (∀ x ∈ cs, Emits G (L + 2) x) →
      (tight = true → G.plast → NoAdj BNode.isPara cs) → EmitsItem G L tight ⟨.listItem, some r, cs⟩
end

/-- the level guard of `tokenize`: nothing is pushed at or beyond the limit -/
theorem Emits.lt {G : Gram} {L : Nat} {n : BNode} (h : Emits G L n) : L < G.N := by
  cases h <;> assumption

/-- what a rule / the tokenizer does to the children of the current node -/
def Appends (G : Gram) (s s' : BState) : Prop :=
  s'.level = s.level ∧ ∃ new, s'.children = s.children ++ new ∧ ∀ c ∈ new, Emits G s.level c

theorem Appends.refl (G : Gram) (s : BState) : Appends G s s := ⟨rfl, [], by simp, fun _ h => nomatch h⟩

theorem Appends.trans {G : Gram} {a b c : BState} (h1 : Appends G a b) (h2 : Appends G b c) :
    Appends G a c := by
  obtain ⟨l1, n1, e1, g1⟩ := h1
  obtain ⟨l2, n2, e2, g2⟩ := h2
  refine ⟨l2.trans l1, n1 ++ n2, by rw [e2, e1, List.append_assoc], fun x hx => ?_⟩
  rcases List.mem_append.mp hx with h | h
  · exact g1 x h
  · exact l1 ▸ g2 x h

theorem Appends.push {G : Gram} {s s' : BState} {n : BNode} (hl : s'.level = s.level)
    (hc : s'.children = s.children ++ [n]) (hn : Emits G s.level n) : Appends G s s' :=
  ⟨hl, [n], hc, fun x hx => by cases List.mem_singleton.mp hx; exact hn⟩

theorem Appends.all {G : Gram} {s s' : BState} (h : Appends G s s') {Q : BNode → Prop}
    (hQ : ∀ c, Emits G s.level c → Q c) (hs : ∀ c ∈ s.children, Q c) : ∀ c ∈ s'.children, Q c := by
  obtain ⟨-, new, e, g⟩ := h
  rw [e]
  intro c hc
  rcases List.mem_append.mp hc with h1 | h1
  · exact hs c h1
  · exact hQ c (g c h1)

/-- what the grammar needs of the nested tokenizer: `tokenize_emits` for it -/
def TokEmits (G : Gram) (tok : Tok) : Prop :=
  (∀ s s', tok s = .ok s' → Appends G s s') ∧ (G.plast → TokTight tok)

theorem TokEmits.kids {G : Gram} {tok : Tok} (hE : TokEmits G tok) {SN S2 : BState} (h : tok SN = .ok S2)
    (hnil : SN.children = []) : ∀ c ∈ S2.children, Emits G SN.level c :=
  (hE.1 _ _ h).all (fun _ hc => hc) (by rw [hnil]; exact fun _ hc => nomatch hc)

theorem runRule_appends {G : Gram} {cfg : Cfg} {tok : Tok} {test : Test} (hk : TokSpec tok)
    (hE : TokEmits G tok) (ht : TestPure test) {fuel : Nat} {r : RuleId} {s s' : BState} {b : Bool}
    (h : runRule cfg tok test fuel r s false = .ok (b, s')) (hl : s.line < s.lineMax) (hi : IndentOk s)
    (hlv : s.level < G.N) : Appends G s s' := by
  have hlev : s'.level = s.level := by
    cases b
    · rw [(runRule_spec hk ht fuel).false_same _ _ _ h]
    · exact ((runRule_spec hk ht fuel).advanced _ _ _ h hl hi).frame.level
  rcases r.nests_cases with rfl | rfl | ⟨hq, hli⟩
  · rcases blockquote_children hk ht h with ⟨-, rfl⟩ | ⟨SN, S2, rg, -, htok, hnil, hSN, hc⟩
    · exact .refl _ _
    · exact .push hlev hc (.quote hlv (hSN ▸ hE.kids htok hnil))
  · rcases list_children hk ht h with ⟨-, rfl⟩ | ⟨k, rg, tight, items, -, hkind, hrun, hc⟩
    · exact .refl _ _
    refine .push hlev hc (.list hlv hkind fun c hc => ?_)
    obtain ⟨r', kids, rfl, rfl | ⟨SN, S2, htok, hnil, hSN, htight, rfl⟩⟩ := hrun c hc
    · exact .mk (fun _ hx => nomatch hx) (fun _ _ => trivial)
    · exact .mk (hSN ▸ hE.kids htok hnil) fun e hp => hE.2 hp _ _ htok hnil (htight e)
  · rcases flatRule_children ht h hq hli with ⟨-, hc⟩ | ⟨n, -, hc, hn, -, -⟩
    · exact ⟨hlev, [], by simpa using hc, fun _ hx => nomatch hx⟩
    · exact .push hlev hc (.leaf hlv hn)

theorem afterChain_appends {G : Gram} {ok : Bool} {s s' : BState} {prev : Nat}
    (h : afterChain ok s prev = .ok s') (hlv : s.level < G.N) (hp : ok = false → G.para = false) :
    Appends G s s' := by
  rcases afterChain_ok h with ⟨-, -, rfl⟩ | ⟨l, o, hok, -, -, rfl⟩
  · exact .refl _ _
  · exact .push rfl rfl (.bare hlv (hp hok))

/-- **what the block tokenizer builds**: it appends to the children of the current node, and what it
    appends is generated by the grammar at the level of the state; started on an empty child vector
    it ends tight only without two adjacent paragraphs (paragraph rule last) -/
theorem tokenize_emits (cfg : Cfg) : ∀ fuel : Nat, TokEmits cfg.gram (tokenize cfg fuel) := by
  intro fuel
  refine ⟨tokenize_keeps (K := Appends cfg.gram) (fun f ih hk ht => ?_) fuel, fun hp => tokenize_tight cfg hp fuel⟩
  have hE : TokEmits cfg.gram (tokenize cfg f) := ⟨ih, fun hp => tokenize_tight cfg hp f⟩
  have hr := runRule_spec (cfg := cfg) hk ht (f + 1)
  refine tokLoop_keeps (fun s l t _ => .refl _ _) (fun _ _ _ => .trans) ?_ (f + 1) false
  intro s ok S1 S2 hl hi hlv hchain hafter
  have h1 : Appends cfg.gram s S1 := by
    rcases runChain_ok hr.false_same _ hchain with ⟨-, rfl⟩ | ⟨r, -, -, hrule⟩
    · exact .refl _ _
    · exact runRule_appends hk hE ht hrule hl hi hlv
  refine h1.trans (afterChain_appends hafter (h1.1 ▸ hlv) fun hok => ?_)
  cases hp : cfg.hasPara with
  | false => exact hp
  | true =>
    exact absurd (runChain_para _ _ _ _ (by simpa [Cfg.hasPara] using hp) hchain) (by rw [hok]; simp)

theorem parseBlocks_emits {cfg : Cfg} {src : List Char} {root : BNode} {refs : Refs.RefMap}
    (h : parseBlocks cfg src = .ok (root, refs)) :
    ∃ cs, root = ⟨.root, some (0, Lines.byteLen src), cs⟩ ∧ ∀ c ∈ cs, Emits cfg.gram 0 c := by
  obtain ⟨s, hs, rfl, -⟩ := parseBlocks_ok h
  exact ⟨_, rfl, (tokenize_emits cfg _).kids hs rfl⟩

section
variable {G : Gram}

/-- `P` holds at every node of the tree -/
inductive BNode.All (P : BNode → Prop) : BNode → Prop
  | mk (n : BNode) : P n → (∀ c ∈ n.children, BNode.All P c) → BNode.All P n

theorem BNode.All.child {P : BNode → Prop} {n : BNode} (h : BNode.All P n) :
    ∀ c ∈ n.children, BNode.All P c := by cases h; assumption

mutual
/-- every node of an emitted tree is a ranged node whose value is not the placeholder, or a childless
    placeholder without range; `mark_tight_paragraphs` only moves nodes -/
theorem Emits.all {P : BNode → Prop} (hb : ∀ k r cs, k.isInl = false → P ⟨k, some r, cs⟩)
    (hi : ∀ t m, P ⟨.inlineRoot t m, none, []⟩) : ∀ {L : Nat} {n : BNode}, Emits G L n → BNode.All P n
  | _, _, .leaf _ hn => by
    obtain ⟨k, rg, cs, rfl, hk, rfl | ⟨t, m, rfl⟩⟩ := hn.shape
    · exact .mk _ (hb _ _ _ hk) fun _ hc => nomatch hc
    · refine .mk _ (hb _ _ _ hk) fun c hc => ?_
      cases List.mem_singleton.mp hc
      exact .mk _ (hi t m) fun _ hc => nomatch hc
  | _, _, .bare _ _ => .mk _ (hi _ _) fun _ hc => nomatch hc
  | _, _, .quote _ hcs => .mk _ (hb _ _ _ rfl) fun c hc => (hcs c hc).all hb hi
  | _, _, .list _ hk hit =>
    .mk _ (hb _ _ _ (isInl_of_isListKind hk))
      (forall_tightened (fun c hc => ((hit c hc).all hb hi).1) fun _ c hc => ((hit c hc).all hb hi).2)
theorem EmitsItem.all {P : BNode → Prop} (hb : ∀ k r cs, k.isInl = false → P ⟨k, some r, cs⟩)
    (hi : ∀ t m, P ⟨.inlineRoot t m, none, []⟩) : ∀ {L : Nat} {t : Bool} {c : BNode},
    EmitsItem G L t c → BNode.All P c ∧ BNode.All P (tightenItem c)
  | _, _, _, .mk hcs _ => by
    refine ⟨.mk _ (hb _ _ _ rfl) fun x hx => (hcs x hx).all hb hi, .mk _ (hb _ _ _ rfl) fun x hx => ?_⟩
    rcases mem_markTight hx with h1 | ⟨p, hp, -, h1⟩
    · exact (hcs x h1).all hb hi
    · exact ((hcs p hp).all hb hi).child x h1
end

end

end MdIt.Block
