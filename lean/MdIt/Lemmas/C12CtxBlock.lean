/-
  Helper development for C12 in context (namespace `MdIt.Block.C12X`): the block pass on a ONE-LINE source
  whose first character is `[`.

  `C12.Plain w body` forbids a leading `[` (the reference rule looks at such a line).  Here, through
  `C12.parseBlocks_of_decline`:

    * `parseBlocks_bracket_line`  the source `'[' :: rest` with `refQuick false rest = false` (the
                                   reference rule's quick `]:` test fails, e.g. `[x](/u "t")`): the
                                   reference rule answers `pure (false, s)`, every other non-paragraph
                                   rule declines on the first character, the paragraph rule takes the line.
-/
import MdIt.Lemmas.C12DocBlock

namespace MdIt.Block.C12X
open MdIt.Lines (LineOffset byteLen NoTerm AllBlank indentWidth lead)
open MdIt.Block.C12 (OneLine Line oneParagraph lazyScan_one parseBlocks_of_decline)

variable {s : BState}

/-! ## a line that starts with `[` and fails the reference rule's quick test -/

theorem line_bracket {rest : List Char} (hnt : NoTerm ('[' :: rest)) : Line [] ('[' :: rest) :=
  ⟨(fun _ h => by cases h), (by decide), hnt, '[', rest, rfl, (by decide), (by decide)⟩

/-- on `'[' :: rest` with a failing quick `]:` test every rule but the paragraph rule declines the
    line and hands the state back -/
theorem runRule_other_bracket (cfg : Cfg) (tok : Tok) (test : Test) (fuel : Nat) {rest : List Char}
    (hs : OneLine s [] ('[' :: rest)) (hnt : NoTerm ('[' :: rest))
    (hq : refQuick false rest = false) (r : RuleId) (hr : r ≠ .paragraph) :
    runRule cfg tok test (fuel + 1) r s false = .ok (false, s) := by
  have hind := hs.lineIndent
  have hline := hs.getLine (line_bracket hnt)
  have hw0 : indentWidth ([] : List Char) = 0 := by decide
  rw [hw0] at hind
  by_cases hl : r = .lheading
  · subst hl
    simp [runRule, lheadingRule, hind, lazyScan_one hs, pure, Except.pure]
  · exact runRule_declines hind (by omega) hline hs.li (declines_bracket rest hr hl (.inr hq)) false

open MdIt.Lines (byteLen NoTerm)
theorem parseBlocks_bracket_line (cfg : Cfg) (hpar : RuleId.paragraph ∈ cfg.chain) (hmax : 0 < cfg.maxNesting)
    (rest : List Char) (hnt : NoTerm ('[' :: rest)) (hq : refQuick false rest = false) :
    parseBlocks cfg ('[' :: rest) =
      .ok (⟨.root, some (0, byteLen ('[' :: rest)), [C12.oneParagraph [] ('[' :: rest)]⟩, []) :=
  parseBlocks_of_decline cfg hpar hmax [] ('[' :: rest) (line_bracket hnt)
    (fun tok test fuel _ hs r _ hne => runRule_other_bracket cfg tok test fuel hs hnt hq r hne)

/-- the hypotheses hold on `[x](/u "t")` with the stock chain (`exCfg`: nine rules, `max_nesting` 100) -/
example : parseBlocks exCfg "[x](/u \"t\")".toList =
    .ok (⟨.root, some (0, 11), [C12.oneParagraph [] "[x](/u \"t\")".toList]⟩, []) := by
  repeat rw [String.toList_ofList]
  exact parseBlocks_bracket_line exCfg (by decide) (by decide) "x](/u \"t\")".toList
    (by unfold Lines.NoTerm; decide) (by decide)

/-- … and with a chain that lists the paragraph rule in front of the reference rule, `max_nesting` 1 -/
example : parseBlocks { exCfg with maxNesting := 1, chain := [.paragraph, .reference] } "[x][y]".toList =
    .ok (⟨.root, some (0, 6), [C12.oneParagraph [] "[x][y]".toList]⟩, []) := by
  repeat rw [String.toList_ofList]
  exact parseBlocks_bracket_line _ (by decide) (by decide) "x][y]".toList
    (by unfold Lines.NoTerm; decide) (by decide)

/-- `hq` is necessary: `[x]: /u` passes the quick test, is a reference definition, and the block
    pass yields no paragraph -/
example : refQuick false "x]: /u".toList = true ∧
    (match parseBlocks exCfg "[x]: /u".toList with
     | .ok (n, refs) => n.children.isEmpty && refs.length == 1
     | .error _ => false) = true := by decide +kernel

end MdIt.Block.C12X
