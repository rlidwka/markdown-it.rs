/-
  C11, code SPANS, MULTI-LINE paragraphs INSIDE containers — BLOCK level (`Props/C11SpanCtx.lean`, item 1).

  The container analogue of `Block.parseBlocks_lines`: the `n` lines `Ls` of a top-level paragraph, every line
  prefixed by the quote marker / the item's marker or indentation (`wrapAll w (docOf Ls)`), give the wrapper nodes
  around `Paragraph[InlineRoot (docOf Ls) T]` — the SAME inline text — where the table `T` has one entry per line:
  `(start of line j in docOf Ls, start of line j in the wrapped source + widthAll w)` (`lineTable`, `starts`).

  An instance of `C11N.wrapAll_commutes` (`Lemmas/C11Wrap.lean`): `posMap` sends the start of line `i` to the start of
  line `i` of the wrapped document behind its prefixes (`posMap_line`), so the table entry of line `i` becomes the
  entry of line `i` (`parseBlocks_para_nested_lines`).
-/
import MdIt.Lemmas.C11NestedPara
import MdIt.Lemmas.C11SpanMultiPara

namespace MdIt.C11X
open MdIt.Block MdIt.Block.Li MdIt.C11N
open MdIt.Lines (NoTerm lead IsTerminator)

/-- the byte offsets at which the lines `Ls` start in `docOf Ls` (lines joined by one LF), counted from `p` -/
def starts : Nat → List (List Char) → List Nat
  | _, [] => []
  | p, l :: ls => p :: starts (p + Lines.byteLen l + 1) ls

theorem starts_length : ∀ (Ls : List (List Char)) (p : Nat), (starts p Ls).length = Ls.length
  | [], _ => rfl
  | l :: ls, p => by simp [starts, starts_length ls]

/-- the table: `(start of line j of Ls, start of line j of Ls')` -/
def lineTable (Ls Ls' : List (List Char)) : List (Nat × Nat) := (starts 0 Ls).zip (starts 0 Ls')

theorem idTable_eq_zip : ∀ (Ls : List (List Char)) (p : Nat), idTable p Ls = (starts p Ls).zip (starts p Ls)
  | [], _ => rfl
  | l :: ls, p => by simp [idTable, starts, idTable_eq_zip ls]

theorem idTable_eq (Ls : List (List Char)) : idTable 0 Ls = lineTable Ls Ls := idTable_eq_zip Ls 0

theorem startOf_cons (a : List Char × List Char) (L : DLines) (i : Nat) :
    startOf (a :: L) (i + 1) = Lines.byteLen a.1 + Lines.byteLen a.2 + startOf L i := by
  simp [startOf, Lines.flat_cons, Lines.byteLen_append]
  omega

theorem starts_getElem : ∀ (Ls : List (List Char)) (p i : Nat) (h : i < (starts p Ls).length),
    (starts p Ls)[i] = p + startOf (withTerms Ls) i
  | [], _, _, h => by simp [starts] at h
  | [x], p, 0, _ => by simp [starts, startOf_zero]
  | [x], p, i + 1, h => by simp [starts] at h
  | x :: y :: r, p, 0, _ => by simp [starts, startOf_zero]
  | x :: y :: r, p, i + 1, h => by
    have h' : i < (starts (p + Lines.byteLen x + 1) (y :: r)).length := by
      simp only [starts_length, List.length_cons] at h ⊢; omega
    have ih := starts_getElem (y :: r) (p + Lines.byteLen x + 1) i h'
    have hb : Lines.byteLen ['\n'] = 1 := by decide
    simp only [starts, List.getElem_cons_succ, withTerms, startOf_cons, hb] at ih ⊢
    rw [ih]
    omega

/-- **an n-line paragraph inside containers, block level.**  `l :: r` a `Good` document (tab-free lines) that
    parses to ONE paragraph over the inline text `c` with the table `A.zip (starts 0 (l :: r))` (second components:
    the line starts), the run ending `tight`.  Inside any list `w` of wrappers the block tree is the chain of wrapper
    nodes around that paragraph — or the bare placeholder when the innermost wrapper is a list item — and the
    placeholder holds the SAME inline text; the table's second components are the line starts of the wrapped
    document plus the width of the prefixes. -/
theorem parseBlocks_para_nested_lines (cfg : Cfg) (hmn : 0 < cfg.maxNesting) (c : List Char) (A : List Nat) (a : Nat)
    (l : List Char) (r : List (List Char)) (g : Good (l :: r)) (hf : FirstLineOk l) (ha : a ≤ Lines.byteLen l)
    (hbase : parseBlocks cfg (docOf (l :: r)) =
      .ok (⟨.root, some (0, Lines.byteLen (docOf (l :: r))),
            [⟨.paragraph, some (a, Lines.byteLen (docOf (l :: r))),
              [⟨.inlineRoot c (A.zip (starts 0 (l :: r))), none, []⟩]⟩]⟩, []))
    (htight : ∀ t, tokenize cfg (fuelFor cfg (docOf (l :: r))) (BState.fresh (docOf (l :: r)) .root []) = .ok t →
      t.tight = true) :
    ∀ (w : List Wrapper), (∀ x ∈ w, x.Ok) → ChainFor cfg.chain w →
      (.hr ∈ cfg.chain.takeWhile (· ≠ .list) → HrFree w l) →
      Lines.byteLen (docOf (wrapAllLines w (l :: r))) + 20 < 2147483648 →
      parseBlocks { cfg with maxNesting := cfg.maxNesting + depthCost w } (docOf (wrapAllLines w (l :: r))) =
        .ok (⟨.root, some (0, Lines.byteLen (docOf (wrapAllLines w (l :: r)))),
              wrapForest (Lines.byteLen (docOf (wrapAllLines w (l :: r)))) w 0
                (paraLeaf c (A.zip (starts 0 (wrapAllLines w (l :: r)))) a (widthAll w)
                  (Lines.byteLen (docOf (wrapAllLines w (l :: r)))) (tightOf w))⟩, []) := by
  intro w hw hch hhr hsize
  rw [wrapAll_commutes cfg hmn l r g hf _ [] true hbase htight w hw hch hhr hsize,
    reloc_paraLeaf _ c _ (A.zip (starts 0 (wrapAllLines w (l :: r)))) a (widthAll w) _ _ (tightOf w)
      (posMap_first g hw (by omega) ha) (posMap_end g hw (by omega))]
  apply List.ext_getElem
  · simp [starts_length, wrapAllLines_length]
  · intro i h1 _
    simp only [List.length_map, List.length_zip, starts_length] at h1
    have := posMap_line g hw (w := w) (by omega) i (by omega) 0 (Nat.zero_le _)
    simp only [List.getElem_map, List.getElem_zip, starts_getElem, Nat.zero_add]
    rw [← Nat.add_zero (startOf (withTerms (l :: r)) i), this, Nat.add_zero]

end MdIt.C11X
