/-
  For `Props/MemoSafe.lean`: the whole document, for every coherent chain, with NO hypothesis on the text of
  the paragraphs — `doc_total_coherent`, the general theorem for sources in which no tab is split by a
  container indent (`Props/TotalTabs.lean` removes that hypothesis).

  `doc_total_of_inline` (`Props/InlineTotal.lean`: the block pass, the splice walk, the join and
  sourcepos passes and both serializers are total once every `md.inline.parse` call returns) +
  `doc_tables_mapOK` (`Lemmas/MemoSafeLamDoc.lean`) + `ES.parseInline_total`.  The statements with a
  hypothesis on the chain or on the text (`doc_total_nocode`, `doc_total_nodouble`, `doc_total_src`,
  `doc_total_noesctick`, `doc_total_src_noesc`) are special cases: the extra hypothesis is not used.
-/
import MdIt.Lemmas.MemoSafeLamDoc
import MdIt.Lemmas.MemoSafeLamESFinal

namespace MdIt.Pipeline
open MdIt

/-- **C01, whole pipeline, EVERY coherent chain, every text**: `md.parse` returns a tree and both
    renderers return a string (no tab split by a container indent, `i32` size bound, paragraph rule). -/
theorem doc_total_coherent (cfg : DocCfg) (src : List Char)
    (hc : Inline.ChainCoherent (cfg.inlineCfg []) = true)
    (hone : cfg.inlineChain.count .link ≤ 1 ∧ cfg.inlineChain.count .image ≤ 1)
    (hsmall : 4 * Lines.byteLen src + 8 < 2147483648) (hpara : cfg.hasPara = true)
    (hnv : NoSplitTab cfg src) :
    (∃ t, parseDoc cfg src = .ok t) ∧ ∀ x, ∃ html, renderDoc x cfg src = .ok html := by
  apply doc_total_of_inline
  intro root refs hb
  have hmap := doc_tables_mapOK cfg src hsmall hpara hnv hb
  have hall : Block.AllInl (fun c m => ∃ cs, Inline.parseInline (cfg.inlineCfg refs) c m = .ok cs) root :=
    hmap.imp (fun c m hm => Inline.ES.parseInline_total (cfg.inlineCfg refs) hc hone hm)
  exact placeholders_of_allInl hall
    (Block.parseBlocks_inlNoRange hb)

/-- … with hypotheses on the SOURCE only: no tab, the size bound -/
theorem doc_total_coherent_src (cfg : DocCfg) (src : List Char)
    (hc : Inline.ChainCoherent (cfg.inlineCfg []) = true)
    (hone : cfg.inlineChain.count .link ≤ 1 ∧ cfg.inlineChain.count .image ≤ 1)
    (hsmall : 4 * Lines.byteLen src + 8 < 2147483648) (hpara : cfg.hasPara = true)
    (htab : '\t' ∉ src) :
    (∃ t, parseDoc cfg src = .ok t) ∧ ∀ x, ∃ html, renderDoc x cfg src = .ok html :=
  doc_total_coherent cfg src hc hone hsmall hpara (noSplitTab_of_tabFree cfg src hsmall hpara htab)

/-- the stock configuration is coherent, lists the link and the image rule once, and has the paragraph rule
    (neither `sourcepos` nor `max_nesting` is read) -/
theorem exCfg_stock (sp : Bool) (mn : Nat) :
    Inline.ChainCoherent ((exCfg sp mn).inlineCfg []) = true ∧
    ((exCfg sp mn).inlineChain.count .link ≤ 1 ∧ (exCfg sp mn).inlineChain.count .image ≤ 1) ∧
    (exCfg sp mn).hasPara = true :=
  ⟨by show Inline.ChainCoherent ((exCfg false 0).inlineCfg []) = true; decide +kernel,
    by show (exCfg false 0).inlineChain.count .link ≤ 1 ∧ (exCfg false 0).inlineChain.count .image ≤ 1
       decide +kernel,
    by show (exCfg false 0).hasPara = true; decide +kernel⟩

/-- the stock configuration with strikethrough (`exCfg`), any `max_nesting`, sourcepos on or off: every
    source without tab, within the `i32` size bound -/
theorem doc_total_stock_all (sp : Bool) (mn : Nat) (src : List Char) (htab : '\t' ∉ src)
    (hsmall : 4 * Lines.byteLen src + 8 < 2147483648) :
    (∃ t, parseDoc (exCfg sp mn) src = .ok t) ∧ ∀ x, ∃ html, renderDoc x (exCfg sp mn) src = .ok html :=
  doc_total_coherent_src (exCfg sp mn) src (exCfg_stock sp mn).1 (exCfg_stock sp mn).2.1 hsmall
    (exCfg_stock sp mn).2.2 htab

/-! ## special cases: the extra hypothesis on the chain or on the text is not used -/

/-- **C01, whole pipeline, chains without code spans**: for every configuration whose inline chain is
    `ChainCoherent` and has no code-span rule (link / image rules at most once), with the paragraph rule,
    `md.parse(src)` returns a tree and both renderers return a string, for every source in which no tab is
    split (in particular every tab-free source), within the `i32` size bound of the block pass. -/
theorem doc_total_nocode (cfg : DocCfg) (src : List Char)
    (hc : Inline.ChainCoherent (cfg.inlineCfg []) = true)
    (hnb : Inline.RuleId.backticks ∉ cfg.inlineChain)
    (hone : cfg.inlineChain.count .link ≤ 1 ∧ cfg.inlineChain.count .image ≤ 1)
    (hsmall : 4 * Lines.byteLen src + 8 < 2147483648) (hpara : cfg.hasPara = true)
    (hnv : NoSplitTab cfg src) :
    (∃ t, parseDoc cfg src = .ok t) ∧ ∀ x, ∃ html, renderDoc x cfg src = .ok html :=
  doc_total_coherent cfg src hc hone hsmall hpara hnv

/-- **C01, whole pipeline, EVERY coherent chain (the stock chain with strikethrough included)**, for
    documents whose paragraphs have no two adjacent backticks (single-backtick code spans only): `md.parse`
    returns a tree and both renderers return a string (no split tab, `i32` size bound, paragraph rule). -/
theorem doc_total_nodouble (cfg : DocCfg) (src : List Char)
    (hc : Inline.ChainCoherent (cfg.inlineCfg []) = true)
    (hone : cfg.inlineChain.count .link ≤ 1 ∧ cfg.inlineChain.count .image ≤ 1)
    (hsmall : 4 * Lines.byteLen src + 8 < 2147483648) (hpara : cfg.hasPara = true)
    (hnv : NoSplitTab cfg src) (hnd : DocNoDoubleTick cfg src) :
    (∃ t, parseDoc cfg src = .ok t) ∧ ∀ x, ∃ html, renderDoc x cfg src = .ok html :=
  doc_total_coherent cfg src hc hone hsmall hpara hnv

/-- **C01, whole pipeline, every coherent chain — hypotheses on the SOURCE only**: no tab, no two
    adjacent backticks, the `i32` size bound; paragraph rule configured -/
theorem doc_total_src (cfg : DocCfg) (src : List Char)
    (hc : Inline.ChainCoherent (cfg.inlineCfg []) = true)
    (hone : cfg.inlineChain.count .link ≤ 1 ∧ cfg.inlineChain.count .image ≤ 1)
    (hsmall : 4 * Lines.byteLen src + 8 < 2147483648) (hpara : cfg.hasPara = true)
    (htab : '\t' ∉ src) (hnd : Inline.NoDoubleTick src) :
    (∃ t, parseDoc cfg src = .ok t) ∧ ∀ x, ∃ html, renderDoc x cfg src = .ok html :=
  doc_total_coherent_src cfg src hc hone hsmall hpara htab

/-- **C01, whole pipeline, EVERY coherent chain**, for documents whose paragraphs have no
    backslash-backtick-backtick: `md.parse` returns a tree and both renderers return a string (no split
    tab, `i32` size bound, paragraph rule). -/
theorem doc_total_noesctick (cfg : DocCfg) (src : List Char)
    (hc : Inline.ChainCoherent (cfg.inlineCfg []) = true)
    (hone : cfg.inlineChain.count .link ≤ 1 ∧ cfg.inlineChain.count .image ≤ 1)
    (hsmall : 4 * Lines.byteLen src + 8 < 2147483648) (hpara : cfg.hasPara = true)
    (hnv : NoSplitTab cfg src) (hne : DocNoEscTickTick cfg src) :
    (∃ t, parseDoc cfg src = .ok t) ∧ ∀ x, ∃ html, renderDoc x cfg src = .ok html :=
  doc_total_coherent cfg src hc hone hsmall hpara hnv

/-- … with hypotheses on the SOURCE only: no tab, no backslash-backtick-backtick, the size bound -/
theorem doc_total_src_noesc (cfg : DocCfg) (src : List Char)
    (hc : Inline.ChainCoherent (cfg.inlineCfg []) = true)
    (hone : cfg.inlineChain.count .link ≤ 1 ∧ cfg.inlineChain.count .image ≤ 1)
    (hsmall : 4 * Lines.byteLen src + 8 < 2147483648) (hpara : cfg.hasPara = true)
    (htab : '\t' ∉ src) (hne : Inline.CS.NoEscTickTick src) :
    (∃ t, parseDoc cfg src = .ok t) ∧ ∀ x, ∃ html, renderDoc x cfg src = .ok html :=
  doc_total_coherent_src cfg src hc hone hsmall hpara htab

end MdIt.Pipeline
