/-
  For `Props/MemoSafe.lean`: the per-rule comparison (L2) for the rules
  WITHOUT look-ahead recursion.

  A memo entry `k ↦ v` was made by a look-ahead step from a witness state `st0` (position `k`, the top
  `pos_max`); inside a nested label frame the REAL tokenizer reaches `k` at a state `s` with the same
  text and position, `s.posMax ≤ st0.posMax` (the character at `s.posMax` is `]`), another tree / memo.

    * PART 1 — on ONE state the real verdict is the look-ahead verdict (`real_silent_verdict`: the
      converse of `silent_real_<rule>`; no hypothesis: the statement talks about runs that returned);
      what a real run of a flat rule keeps (`real_keeps`); a flat rule
      declines in real mode at a first character outside `firesAt` (`real_declines`);
    * PART 2 — `flat_L2`: look-ahead verdict at `st0` against real verdict at `s`, for text, newline,
      escape, autolink, entity, linkEnd (window independence + PART 1);
    * PART 3 — `emph_real_L2`: what the emphasis rule does in real mode (declines off its marker; at its
      marker takes the whole run of markers).
-/
import MdIt.Lemmas.MemoSafeLamDef

namespace MdIt.Inline
open MdIt.InlineOps (byteLen slice)
open MdIt.C05 (byteLen_append slice_ok_iff)

/-! ## PART 1: real verdict = look-ahead verdict on the same state -/

theorem ruleText_real_silent {s s' : IState} {o : Option Nat}
    (h : ruleText s false = .ok (o, s')) : ruleText s true = .ok (o, s) := by
  rw [ruleText_eq] at h ⊢
  exact runPlan_real_silent h

theorem ruleNewline_real_silent {s s' : IState} {o : Option Nat}
    (h : ruleNewline s false = .ok (o, s')) : ruleNewline s true = .ok (o, s) := by
  rw [ruleNewline_eq] at h ⊢
  exact runPlan_real_silent h

theorem ruleEscape_real_silent {s s' : IState} {o : Option Nat}
    (h : ruleEscape s false = .ok (o, s')) : ruleEscape s true = .ok (o, s) := by
  rw [ruleEscape_eq] at h ⊢
  exact runPlan_real_silent h

theorem ruleEntity_real_silent {cfg : Cfg} {s s' : IState} {o : Option Nat}
    (h : ruleEntity cfg s false = .ok (o, s')) : ruleEntity cfg s true = .ok (o, s) := by
  rw [ruleEntity_eq] at h ⊢
  exact runPlan_real_silent h

theorem ruleAutolink_real_silent {s s' : IState} {o : Option Nat}
    (h : ruleAutolink s false = .ok (o, s')) : ruleAutolink s true = .ok (o, s) := by
  rw [ruleAutolink_eq] at h ⊢
  exact runPlan_real_silent h

theorem ruleBackticks_real_silent {s s' : IState} {o : Option Nat}
    (h : ruleBackticks s false = .ok (o, s')) : ∃ s'', ruleBackticks s true = .ok (o, s'') := by
  have hsr := CodePair.codepair_silent_real CodePair.Variant.current '`' backtick_size s.src s.pos
    s.posMax false s.backticks
  obtain ⟨oc, c, hrun, rfl, _⟩ := ruleBackticks_ok h
  rw [hrun] at hsr
  rw [ruleBackticks_eq]
  cases hs : CodePair.run CodePair.Variant.current '`' s.src s.pos s.posMax false true s.backticks with
  | error e => rw [hs] at hsr; cases hsr
  | ok r2 =>
    rw [hs] at hsr
    simp only [Except.map, CodePair.strip, Except.ok.injEq, Prod.mk.injEq] at hsr
    simp only [exec_quiet (planBackticks_quiet hs), planBackticks_answer, hsr.1]
    exact ⟨_, rfl⟩

/-- **real verdict = look-ahead verdict on the same state** (the six flat rules that answer in
    look-ahead mode; no hypothesis on the state: the verdict is computed before the mode is consulted) -/
theorem real_silent_verdict {cfg : Cfg} {skip tok : IState → Except Panic IState} {fuel : Nat}
    (id : RuleId)
    (hid : id = .text ∨ id = .newline ∨ id = .escape ∨ id = .backticks ∨ id = .autolink ∨ id = .entity)
    {s : IState} {o : Option Nat} {s' : IState}
    (h : runRule cfg skip tok fuel id s false = .ok (o, s')) :
    ∃ s'', runRule cfg skip tok fuel id s true = .ok (o, s'') := by
  rcases hid with rfl | rfl | rfl | rfl | rfl | rfl
  · exact ⟨s, by unfold runRule at h ⊢; rw [ruleText_real_silent (liftR_ok.mp h)]; rfl⟩
  · exact ⟨s, by unfold runRule at h ⊢; rw [ruleNewline_real_silent (liftR_ok.mp h)]; rfl⟩
  · exact ⟨s, by unfold runRule at h ⊢; rw [ruleEscape_real_silent (liftR_ok.mp h)]; rfl⟩
  · unfold runRule at h ⊢
    obtain ⟨s'', hs⟩ := ruleBackticks_real_silent (liftR_ok.mp h)
    exact ⟨s'', by rw [hs]; rfl⟩
  · exact ⟨s, by unfold runRule at h ⊢; rw [ruleAutolink_real_silent (liftR_ok.mp h)]; rfl⟩
  · exact ⟨s, by unfold runRule at h ⊢; rw [ruleEntity_real_silent (liftR_ok.mp h)]; rfl⟩

/-- a run of a flat rule (either mode) is `Simple` -/
theorem runRule_flat_simple {cfg : Cfg} {skip tok : IState → Except Panic IState} {fuel : Nat}
    {id : RuleId} (hf : id.isFlat = true) {s : IState} {silent : Bool} {o : Option Nat} {s' : IState}
    (h : runRule cfg skip tok fuel id s silent = .ok (o, s')) : Simple s silent o s' := by
  unfold runRule at h
  cases id with
  | text => exact ruleText_simple (liftR_ok.mp h)
  | newline => exact ruleNewline_simple (liftR_ok.mp h)
  | escape => exact ruleEscape_simple (liftR_ok.mp h)
  | backticks => exact ruleBackticks_simple (liftR_ok.mp h)
  | emph mk csw => exact ruleEmph_simple (liftR_ok.mp h)
  | link => simp [RuleId.isFlat] at hf
  | image => simp [RuleId.isFlat] at hf
  | linkEnd =>
    simp only [Except.ok.injEq, Prod.mk.injEq] at h
    obtain ⟨rfl, rfl⟩ := h
    exact ⟨Frame.refl _, rfl, rfl, fun _ => Quiet.refl _, by simp⟩
  | autolink => exact ruleAutolink_simple (liftR_ok.mp h)
  | entity => exact ruleEntity_simple (liftR_ok.mp h)

/-- **what a run of a flat rule keeps** (every flat rule, both modes; `real_keeps` is the real-mode
    instance) -/
theorem flat_keeps {cfg : Cfg} {skip tok : IState → Except Panic IState} {fuel : Nat}
    {id : RuleId} (hf : id.isFlat = true) {s : IState} {silent : Bool} {o : Option Nat} {s' : IState}
    (h : runRule cfg skip tok fuel id s silent = .ok (o, s')) :
    s'.pos = s.pos ∧ s'.cache = s.cache ∧ s'.src = s.src ∧ s'.posMax = s.posMax ∧ s'.level = s.level := by
  have hs := runRule_flat_simple hf h
  exact ⟨hs.pos, hs.cache, hs.frame.src, hs.frame.posMax, hs.frame.level⟩

theorem real_keeps {cfg : Cfg} {skip tok : IState → Except Panic IState} {fuel : Nat} (id : RuleId)
    (hid : id = .text ∨ id = .newline ∨ id = .escape ∨ id = .backticks ∨ id = .autolink ∨ id = .entity ∨
      (∃ mk csw, id = .emph mk csw) ∨ id = .linkEnd)
    {s : IState} {o : Option Nat} {s' : IState}
    (h : runRule cfg skip tok fuel id s false = .ok (o, s')) :
    s'.pos = s.pos ∧ s'.cache = s.cache ∧ s'.src = s.src ∧ s'.posMax = s.posMax ∧ s'.level = s.level := by
  refine flat_keeps ?_ h
  rcases hid with rfl | rfl | rfl | rfl | rfl | rfl | ⟨mk, csw, rfl⟩ | rfl <;> rfl

/-- **a flat rule declines in real mode at a first character outside `firesAt`** (not the emphasis rule:
    it answers in real mode only) -/
theorem real_declines {cfg : Cfg} {skip tok : IState → Except Panic IState} {fuel : Nat}
    {id : RuleId} (hf : id.isFlat = true) (hne : ∀ mk csw, id ≠ .emph mk csw) {s : IState} {c : Char}
    {rest : List Char} (hw : s.window = .ok (c :: rest)) (hfire : id.firesAt c = false)
    {o : Option Nat} {s' : IState} (h : runRule cfg skip tok fuel id s false = .ok (o, s')) :
    o = none := by
  by_cases hle : id = .linkEnd
  · subst hle
    unfold runRule at h
    simp only [Except.ok.injEq, Prod.mk.injEq] at h
    exact h.1.symm
  · have hid : id = .text ∨ id = .newline ∨ id = .escape ∨ id = .backticks ∨ id = .autolink ∨
        id = .entity := by
      cases id with
      | text => simp
      | newline => simp
      | escape => simp
      | backticks => simp
      | emph mk csw => exact absurd rfl (hne mk csw)
      | link => simp [RuleId.isFlat] at hf
      | image => simp [RuleId.isFlat] at hf
      | linkEnd => exact absurd rfl hle
      | autolink => simp
      | entity => simp
    obtain ⟨s'', hs⟩ := real_silent_verdict id hid h
    exact silent_declines hw hfire _ _ hs

/-! ## PART 2: look-ahead verdict at the witness state against real verdict at the later state -/

/-- the comparison for one rule in plan form, from its two ingredients: window independence at the witness
    state, and the answer of the plan a function of `(src, pos, window)` (real verdict = look-ahead verdict
    holds of every `runPlan`) -/
theorem flat_L2_generic {R : IState → Bool → SRes} {plan : IState → List Char → Except RPanic Plan}
    (hR : ∀ st silent, R st silent = runPlan st silent (plan st))
    (hpl : ∀ {a b : IState} (w : List Char) (o : Option Nat), b.src = a.src → b.pos = a.pos →
      (∃ p, plan a w = .ok p ∧ p.answer a.pos = o) → ∃ p, plan b w = .ok p ∧ p.answer b.pos = o)
    {st0 s : IState}
    (hwin : ∀ n, ((∃ s1, R st0 true = .ok (some n, s1)) ∧ st0.pos + n ≤ s.posMax) ↔
      (∃ s2, R (st0.shrink s.posMax) true = .ok (some n, s2)))
    (hsrc : s.src = st0.src) (hpos : s.pos = st0.pos)
    {o0 : Option Nat} {st0' : IState} {o : Option Nat} {s' : IState}
    (h0 : R st0 true = .ok (o0, st0')) (h1 : R s false = .ok (o, s')) :
    (o0 = none → o = none) ∧ (∀ n, o0 = some n → st0.pos + n ≤ s.posMax → o = some n) := by
  -- the look-ahead verdict at `s`, moved to `st0.shrink s.posMax`
  have hsh : ∃ s2, R (st0.shrink s.posMax) true = .ok (o, s2) := by
    rw [hR] at h1 ⊢
    have h2 := runPlan_real_silent h1
    obtain ⟨w, _, hw, _⟩ := runPlan_ok h2
    have hw' : (st0.shrink s.posMax).window = .ok w :=
      (window_congr (a := s) (b := st0.shrink s.posMax) hsrc.symm hpos.symm rfl).trans hw
    exact ⟨_, (runPlan_silent_iff hw').mpr
      ⟨rfl, hpl w o hsrc.symm hpos.symm ((runPlan_silent_iff hw).mp h2).2⟩⟩
  cases o with
  | none =>
    refine ⟨fun _ => rfl, ?_⟩
    intro n hn hle
    subst hn
    obtain ⟨s2, h2⟩ := (hwin n).mp ⟨⟨st0', h0⟩, hle⟩
    obtain ⟨s3, h3⟩ := hsh
    rw [h2] at h3
    simp at h3
  | some m =>
    obtain ⟨⟨s1, hs1⟩, _⟩ := (hwin m).mpr hsh
    rw [h0] at hs1
    simp only [Except.ok.injEq, Prod.mk.injEq] at hs1
    obtain ⟨rfl, _⟩ := hs1
    refine ⟨fun h => by simp at h, ?_⟩
    intro n hn _
    exact hn

/-- **L2 for the cache-free flat rules** (text, newline, escape, autolink, entity; trivially linkEnd):
    the look-ahead verdict at the witness state `st0` (the top `pos_max`) against the REAL verdict at a
    state `s` with the same text and position and `s.posMax ≤ st0.posMax` (the character at `s.posMax` is
    `]`, or equality).  A look-ahead `None` is a real `None`; a look-ahead `Some(n)` that ends at or before
    `s.posMax` is a real `Some(n)`. -/
theorem flat_L2 {cfg : Cfg} {skip tok skip' tok' : IState → Except Panic IState} {fuel fuel' : Nat}
    (id : RuleId)
    (hid : id = .text ∨ id = .newline ∨ id = .escape ∨ id = .autolink ∨ id = .entity ∨ id = .linkEnd)
    {st0 s : IState} (h : WinHyp st0 s.posMax) (hstop : EntStop st0.src st0.posMax)
    (hsrc : s.src = st0.src) (hpos : s.pos = st0.pos) :
    ∀ o0 st0' o s', runRule cfg skip tok fuel id st0 true = .ok (o0, st0') →
      runRule cfg skip' tok' fuel' id s false = .ok (o, s') →
      (o0 = none → o = none) ∧ (∀ n, o0 = some n → st0.pos + n ≤ s.posMax → o = some n) := by
  intro o0 st0' o s' h0 h1
  unfold runRule at h0 h1
  rcases hid with rfl | rfl | rfl | rfl | rfl | rfl
  · exact flat_L2_generic (plan := fun _ w => .ok (planText w)) ruleText_eq
      (fun _ _ _ h2 h => by simpa only [h2] using h)
      (ruleText_window h) hsrc hpos (liftR_ok.mp h0) (liftR_ok.mp h1)
  · refine flat_L2_generic (plan := fun st => planNewline st.pos (trailingTextGet st.children)) ruleNewline_eq
      (fun w _ _ h2 h => ?_) (ruleNewline_window h) hsrc hpos (liftR_ok.mp h0) (liftR_ok.mp h1)
    cases w with
    | nil => obtain ⟨_, hp, _⟩ := h; cases hp
    | cons c r => rw [h2]; exact planNewline_some.mpr (planNewline_some.mp h)
  · exact flat_L2_generic (plan := fun _ => planEscape) ruleEscape_eq
      (fun _ _ _ h2 h => by simpa only [h2] using h)
      (ruleEscape_window h) hsrc hpos (liftR_ok.mp h0) (liftR_ok.mp h1)
  · exact flat_L2_generic (plan := fun st => planAutolink st.src st.pos) ruleAutolink_eq
      (fun _ _ h1 h2 h => by simpa only [h1, h2] using h)
      (ruleAutolink_window h) hsrc hpos (liftR_ok.mp h0) (liftR_ok.mp h1)
  · exact flat_L2_generic (plan := fun st => planEntity cfg st.src st.pos) (ruleEntity_eq cfg)
      (fun _ _ h1 h2 h => by simpa only [h1, h2] using h)
      (ruleEntity_window cfg h hstop) hsrc hpos (liftR_ok.mp h0) (liftR_ok.mp h1)
  · simp only [Except.ok.injEq, Prod.mk.injEq] at h0 h1
    rw [← h0.1, ← h1.1]
    exact ⟨fun _ => rfl, fun n hn => by simp at hn⟩

/-! ## PART 3: the emphasis rule in real mode -/

theorem slice_drop_prefix {src u v : List Char} {a b : Nat} (h : slice src a b = .ok (u ++ v)) :
    slice src (a + byteLen u) b = .ok v := by
  obtain ⟨p, q, e, l1, l2⟩ := (slice_ok_iff _ _ _ _).mp h
  refine (slice_ok_iff _ _ _ _).mpr ⟨p ++ u, q, by rw [e]; simp, by rw [byteLen_append, l1], ?_⟩
  rw [byteLen_append] at l2; omega

/-- the verdict of the emphasis rule in real mode at its marker: the length of the whole run -/
theorem ruleEmph_real_verdict {cfg : Cfg} {mk : Char} {csw : Bool} {s : IState} {o : Option Nat}
    {s' : IState} (h : ruleEmph cfg mk csw s false = .ok (o, s')) {rest : List Char}
    (hw : s.window = .ok (mk :: rest)) : o = some (1 + CodePair.runLen mk rest) := by
  unfold ruleEmph at h
  rw [hw] at h
  simp only [Bool.false_eq_true, if_false, ne_eq, not_true_eq_false] at h
  split at h
  · simp at h
  · next scanned hsc =>
    obtain ⟨mk', rest', hsl, _, hlen⟩ := scanDelims_length hsc
    have hsl' : slice s.src s.pos s.posMax = .ok (mk' :: rest') := liftOps_ok.mp hsl
    rw [window_eq hw] at hsl'
    simp only [Except.ok.injEq, List.cons.injEq] at hsl'
    obtain ⟨rfl, rfl⟩ := hsl'
    rw [← hlen]
    split at h
    · simp at h
    · split at h
      · split at h
        · simp at h
        · simp only [Except.ok.injEq, Prod.mk.injEq] at h; exact h.1.symm
      · simp only [Except.ok.injEq, Prod.mk.injEq] at h; exact h.1.symm

/-- **the emphasis rule in real mode**: off its marker it declines and changes nothing; at its marker it
    takes the whole run — `n = 1 + runLen` characters, every one of them the marker, inside the window -/
theorem emph_real_L2 {cfg : Cfg} {mk : Char} {csw : Bool} (hmk : mk.utf8Size = 1) {s : IState}
    {o : Option Nat} {s' : IState} (h : ruleEmph cfg mk csw s false = .ok (o, s')) :
    (∀ c rest, s.window = .ok (c :: rest) → c ≠ mk → o = none ∧ s' = s) ∧
    (∀ rest, s.window = .ok (mk :: rest) → ∃ n, o = some n ∧ n = 1 + CodePair.runLen mk rest ∧ 1 ≤ n ∧
        s.pos + n ≤ s.posMax ∧
        ∀ i, i < n → ∃ r, slice s.src (s.pos + i) s.posMax = .ok (mk :: r)) := by
  constructor
  · intro c rest hw hc
    unfold ruleEmph at h
    rw [hw] at h
    simp only [Bool.false_eq_true, if_false, ne_eq, hc, not_false_eq_true, if_true, Except.ok.injEq,
      Prod.mk.injEq] at h
    exact ⟨h.1.symm, h.2.symm⟩
  · intro rest hw
    have ho := ruleEmph_real_verdict h hw
    have hwe := window_eq hw
    obtain ⟨t, ht⟩ := runLen_split mk rest
    obtain ⟨_, _, hlen⟩ := slice_boundaries hwe
    have hrun : byteLen (mk :: rest) = 1 + CodePair.runLen mk rest + byteLen t := by
      conv => lhs; rw [ht]
      simp only [byteLen, byteLen_append, hmk, C05.byteLen_replicate hmk]
      omega
    refine ⟨1 + CodePair.runLen mk rest, ho, rfl, by omega, by omega, ?_⟩
    intro i hi
    -- the window is `mkⁱ ++ mk :: …`
    have hsplit : mk :: rest = List.replicate i mk ++
        mk :: (List.replicate (CodePair.runLen mk rest - i) mk ++ t) := by
      conv => lhs; rw [ht]
      have e : mk :: List.replicate (CodePair.runLen mk rest) mk =
          List.replicate i mk ++ mk :: List.replicate (CodePair.runLen mk rest - i) mk := by
        rw [← List.replicate_succ, ← List.replicate_succ, List.replicate_append_replicate]
        congr 1; omega
      rw [← List.cons_append, e]; simp
    rw [hsplit] at hwe
    have := slice_drop_prefix hwe
    rw [C05.byteLen_replicate hmk] at this
    exact ⟨_, this⟩

end MdIt.Inline
