/-
  Helper development for `Props/Inline.lean`: the recursive part — `parse_link_label`,
  `parse_link`, the link rule, one step of each tokenizer loop — specified against ARBITRARY
  `skip` / `tok` functions that meet their contracts (`SkipHyp`, `TokHyp`).  The contracts are
  `Tri NoFuel _` (`skipSpec_iff`, `ruleSpec_iff`): label loop, chain and the two steps are read off the
  layer lemmas of `Lemmas/InlineTri.lean`.  The link rule and `runRule` are specified without `linkLevel`
  first (`RuleSpecP`, `runRule_specP`: against `TokHypL`, which a tokenizer with the raw-HTML rule meets too);
  `runRule_spec` is the instance at `TokHyp`.  `FrameL`, `TokSpecL`, `RuleSpecL`, `TokHypL` are definitions of the
  namespace `MdIt.InlineH` and stand in the middle of this file because `RuleSpecP` is stated with them.
-/
import MdIt.Lemmas.InlineRules2
import MdIt.Lemmas.InlineTri

namespace MdIt.Inline
open MdIt.InlineOps (Srcmap getSourcePosFor getMap byteLen slice)
open MdIt.C05 (WFMap byteLen_append slice_ok_iff)
open MdIt.InlineH (firstRuleG skipStepG firstRuleG_eq)

/-! ## contracts -/

/-- what `skip_token` guarantees on a state `st` with `pos < posMax` -/
structure SkipSpec (st : IState) (r : Except Panic IState) : Prop where
  noFuel : r ≠ .error .fuel
  ok : ∀ st', r = .ok st' → Frame st st' ∧ Quiet st st' ∧ MemoInv st' ∧ st.pos < st'.pos

/-- what `tokenize` guarantees -/
structure TokSpec (st : IState) (r : Except Panic IState) : Prop where
  noFuel : r ≠ .error .fuel
  ok : ∀ st', r = .ok st' → Frame st st' ∧ MemoInv st'

/-- what a rule guarantees -/
structure RuleSpec (st : IState) (silent : Bool) (r : RuleRes) : Prop where
  noFuel : r ≠ .error .fuel
  ok : ∀ o st', r = .ok (o, st') →
    Frame st st' ∧ MemoInv st' ∧ (silent = true → Quiet st st' ∧ st'.pos = st.pos) ∧
    (o = none → st'.pos = st.pos) ∧
    (∀ len, o = some len → st.pos < st'.pos + len)

/-- `skip` meets its contract on every state at level `lvl` with the given `posMax` whose window
    has at most `L` bytes -/
def SkipHyp (skip : IState → Except Panic IState) (lvl pm L : Nat) : Prop :=
  ∀ s, MemoInv s → s.level = lvl → s.posMax = pm → s.pos < pm → pm - s.pos ≤ L → SkipSpec s (skip s)

/-- `tok` meets its contract on every state at level `lvl` whose window has at most `L` bytes -/
def TokHyp (tok : IState → Except Panic IState) (lvl L : Nat) : Prop :=
  ∀ s, MemoInv s → s.level = lvl → s.posMax - s.pos ≤ L → TokSpec s (tok s)

theorem SkipHyp.mono {skip : IState → Except Panic IState} {lvl pm L L' : Nat}
    (h : SkipHyp skip lvl pm L) (hl : L' ≤ L) : SkipHyp skip lvl pm L' :=
  fun s h1 h2 h3 h4 h5 => h s h1 h2 h3 h4 (by omega)

theorem TokHyp.mono {tok : IState → Except Panic IState} {lvl L L' : Nat}
    (h : TokHyp tok lvl L) (hl : L' ≤ L) : TokHyp tok lvl L' :=
  fun s h1 h2 h3 => h s h1 h2 (by omega)

/-! ## the contracts as `Tri` -/

theorem skipSpec_iff {st : IState} {r : Except Panic IState} :
    SkipSpec st r ↔ Tri NoFuel (fun st' => Frame st st' ∧ Quiet st st' ∧ MemoInv st' ∧ st.pos < st'.pos) r := by
  rw [tri_iff]
  exact ⟨fun h => ⟨fun e he hf => h.noFuel (hf ▸ he), h.ok⟩, fun h => ⟨fun hf => h.1 _ hf rfl, h.2⟩⟩

theorem ruleSpec_iff {st : IState} {silent : Bool} {r : RuleRes} :
    RuleSpec st silent r ↔ Tri NoFuel (fun x => Frame st x.2 ∧ MemoInv x.2 ∧
      (silent = true → Quiet st x.2 ∧ x.2.pos = st.pos) ∧ (x.1 = none → x.2.pos = st.pos) ∧
      (∀ len, x.1 = some len → st.pos < x.2.pos + len)) r := by
  rw [tri_iff]
  exact ⟨fun h => ⟨fun e he hf => h.noFuel (hf ▸ he), fun x hx => h.ok x.1 x.2 hx⟩,
    fun h => ⟨fun hf => h.1 _ hf rfl, fun o st' hx => h.2 (o, st') hx⟩⟩

theorem RuleSpec.declined {st : IState} {silent : Bool} (hm : MemoInv st) :
    RuleSpec st silent (.ok (none, st)) :=
  ⟨fun h => (nomatch h), fun _ _ h => by
    cases h; exact ⟨Frame.refl _, hm, fun _ => ⟨Quiet.refl _, rfl⟩, fun _ => rfl, fun _ h => nomatch h⟩⟩

/-! ## small facts -/

theorem window_nonempty_lt {st : IState} {c : Char} {r : List Char} (h : st.window = .ok (c :: r)) :
    st.pos < st.posMax := by
  have := (slice_boundaries (window_eq h)).2.2
  have hc := Char.utf8Size_pos c
  simp only [byteLen] at this; omega

theorem MemoInv.insert {st : IState} (h : MemoInv st) {k v : Nat} (hkv : k < v) :
    ∀ a b, (a, b) ∈ cacheInsert st.cache k v → a < b := by
  intro a b hab
  unfold cacheInsert at hab
  simp only [List.mem_cons, Prod.mk.injEq] at hab
  rcases hab with ⟨rfl, rfl⟩ | hab
  · exact hkv
  · exact h a b hab

/-! ## the inline form: `Link.parseInlineTail` ends behind where it started -/

theorem skipWs_ge (cs : List Char) (p : Nat) : p ≤ Link.skipWs cs p := by
  obtain ⟨pre, suf, _, hp⟩ := Link.skipWs_spec cs p
  omega

theorem titlePart_ge {dec : List Char → List Char} {src : List Char} {max q q' : Nat}
    {href h : Option (List Nat)} {t : Option (List Char)}
    (hr : Link.inlineTitlePart dec src max href q = .ok (h, t, q')) : q ≤ q' := by
  unfold Link.inlineTitlePart at hr
  split at hr
  · simp at hr
  · next chars hc =>
    simp only at hr
    split at hr
    · simp at hr
    · simp only [Except.ok.injEq, Prod.mk.injEq] at hr
      have := skipWs_ge chars q; omega
    · next tf htf =>
      split at hr
      · simp at hr
      · next chars' hc' =>
        simp only [Except.ok.injEq, Prod.mk.injEq] at hr
        obtain ⟨o, m, suf, _, _, hpos, _⟩ := Link.title_delims _ _ _ _ htf
        have h1 := skipWs_ge chars q
        have h2 := skipWs_ge chars' tf.pos
        omega

theorem tail_end_gt {dec : List Char → List Char} {src : List Char} {p max : Nat}
    {il : Link.InlineLink} (h : Link.parseInlineTail dec src p max = .ok (some il)) :
    p + 1 < il.endPos := by
  unfold Link.parseInlineTail at h
  split at h
  · simp at h
  · next chars hc =>
    split at h
    · next rest =>
      simp only at h
      split at h
      · simp at h
      · next dest hd =>
        have h1 := skipWs_ge rest (p + 1)
        split at h
        · simp at h
        · next href title pos hstage =>
          have hpos : Link.skipWs rest (p + 1) ≤ pos := by
            split at hstage
            · simp only [Except.ok.injEq, Prod.mk.injEq] at hstage; omega
            · next res =>
              have hb := (Link.dest_pos_bounds _ _ _ _ hd).1
              unfold Link.inlineAfterDest at hstage
              split at hstage
              · have := titlePart_ge hstage; omega
              · have := titlePart_ge hstage; omega
          split at h
          · simp at h
          · simp only [Except.ok.injEq, Option.some.injEq] at h; subst h; simp only; omega
          · simp at h
    · simp at h

/-! ## `parse_link_label` -/

/-- the label loop: budget `n > posMax - pos` suffices; positions only move forward -/
theorem labelLoop_spec {skip : IState → Except Panic IState} {lvl pm L : Nat}
    (hskip : SkipHyp skip lvl pm L) (en : Bool) :
    ∀ (n : Nat) (level : Int) (st : IState), MemoInv st → st.level = lvl → st.posMax = pm →
      pm - st.pos + 1 ≤ n → pm - st.pos ≤ L →
      labelLoop skip en n level st ≠ .error .fuel ∧
      ∀ res st', labelLoop skip en n level st = .ok (res, st') →
        Frame st st' ∧ Quiet st st' ∧ MemoInv st' ∧ st.pos ≤ st'.pos ∧
        (res = some true → st'.pos < pm) := by
  intro n level st hm hl hp hn hL
  have key := labelLoop_tri (skip := skip) (en := en) (E := NoFuel)
    (I := fun k s => Frame st s ∧ Quiet st s ∧ MemoInv s ∧ st.pos ≤ s.pos ∧ pm - s.pos + 1 ≤ k ∧ pm - s.pos ≤ L)
    (fun s hi => by omega)
    (fun _ _ _ _ hw => noFuel_liftR hw)
    (fun k s ch r ⟨a, b, c, d, e, f⟩ hw => by
      have hlt := window_nonempty_lt hw
      have hps : s.posMax = pm := a.posMax.trans hp
      refine (skipSpec_iff.mp (hskip s c (a.level.trans hl) hps (hps ▸ hlt) f)).mono (fun _ h => h) ?_
      rintro s1 - ⟨a1, b1, c1, d1⟩
      exact ⟨⟨a.trans a1, b.trans b1, c1, by omega, by omega, by omega⟩, by omega⟩)
    n level st ⟨Frame.refl _, Quiet.refl _, hm, Nat.le_refl _, hn, hL⟩
  obtain ⟨k1, k2⟩ := tri_iff.mp key
  refine ⟨fun h => k1 _ h rfl, fun res st' h => ?_⟩
  obtain ⟨⟨_, a, b, c, d, _, _⟩, hf⟩ := k2 (res, st') h
  refine ⟨a, b, c, d, fun ht => ?_⟩
  obtain ⟨r, hw⟩ := hf ht
  have := window_nonempty_lt hw
  rwa [a.posMax, hp] at this

/-- `parse_link_label`: position restored, label end inside the window -/
theorem parseLinkLabel_spec {skip : IState → Except Panic IState} {lvl pm L : Nat}
    (hskip : SkipHyp skip lvl pm L) (en : Bool) (fuel : Nat) (st : IState) (start : Nat)
    (hm : MemoInv st) (hl : st.level = lvl) (hp : st.posMax = pm)
    (hn : pm - (start + 1) + 1 ≤ fuel) (hL : pm - (start + 1) ≤ L) :
    parseLinkLabel skip fuel st start en ≠ .error .fuel ∧
    ∀ o st', parseLinkLabel skip fuel st start en = .ok (o, st') →
      Frame st st' ∧ Quiet st st' ∧ MemoInv st' ∧ st'.pos = st.pos ∧
      (∀ e, o = some e → start + 1 ≤ e ∧ e < pm) := by
  have hspec := labelLoop_spec hskip en fuel 1 { st with pos := start + 1 } hm hl hp hn hL
  refine ⟨fun h => hspec.1 (parseLinkLabel_error h), fun o st' h => ?_⟩
  obtain ⟨res, st1, hlp, rfl, he⟩ := parseLinkLabel_ok h
  obtain ⟨a, b, c, d, e⟩ := hspec.2 _ _ hlp
  refine ⟨⟨a.src, a.srcmap, a.posMax, a.level, a.linkLevel⟩, ⟨b.children, b.bottoms⟩, c, rfl, ?_⟩
  intro e' he'
  obtain ⟨hf, rfl⟩ := he e' he'
  exact ⟨d, e hf⟩

/-! ## `parse_link` -/

/-- what a successful `parse_link` found -/
structure LinkResOK (pm pos : Nat) (res : LinkRes) : Prop where
  labelStart : res.labelStart = pos + 1
  labelLe : res.labelStart ≤ res.labelEnd
  labelLt : res.labelEnd < pm
  endGt : res.labelEnd < res.endPos

theorem parseLinkRef_spec {cfg : Cfg} {skip : IState → Except Panic IState} {lvl pm L : Nat}
    (hskip : SkipHyp skip lvl pm L) (fuel : Nat) (st : IState) (labelStart labelEnd : Nat)
    (hm : MemoInv st) (hl : st.level = lvl) (hp : st.posMax = pm)
    (hn : pm - labelEnd + 1 ≤ fuel) (hL : pm - labelEnd ≤ L + 2) :
    parseLinkRef cfg skip fuel st labelStart labelEnd ≠ .error .fuel ∧
    ∀ o st', parseLinkRef cfg skip fuel st labelStart labelEnd = .ok (o, st') →
      Frame st st' ∧ Quiet st st' ∧ MemoInv st' ∧ st'.pos = st.pos ∧
      (∀ res, o = some res → res.labelStart = labelStart ∧ res.labelEnd = labelEnd ∧
        labelEnd < res.endPos) := by
  have hlab := parseLinkLabel_spec hskip false fuel st (labelEnd + 1) hm hl hp (by omega) (by omega)
  refine ⟨fun h => ?_, fun o st' h => ?_⟩
  · rcases parseLinkRef_error h with h | ⟨_, _, h | ⟨_, _, _, h⟩⟩ | h
    · exact liftR_ne_fuel _ h
    · exact hlab.1 h
    · exact liftR_ne_fuel _ h
    · exact liftR_ne_fuel _ h
  · obtain ⟨x, hx, hres⟩ := parseLinkRef_ok h
    have hst : Frame st st' ∧ Quiet st st' ∧ MemoInv st' ∧ st'.pos = st.pos ∧
        labelEnd < x.getD labelEnd + 1 := by
      rcases hx with ⟨rfl, rfl⟩ | ⟨_, _, hx⟩
      · exact ⟨Frame.refl _, Quiet.refl _, hm, rfl, Nat.lt_succ_self _⟩
      · obtain ⟨a, b, c, d, e⟩ := hlab.2 _ _ hx
        refine ⟨a, b, c, d, ?_⟩
        cases x with
        | none => exact Nat.lt_succ_self _
        | some x => have := (e x rfl).1; simp only [Option.getD_some]; omega
    obtain ⟨a, b, c, d, e⟩ := hst
    refine ⟨a, b, c, d, fun res hr => ?_⟩
    obtain ⟨r1, r2, r3, _⟩ := hres res hr
    exact ⟨r1, r2, r3 ▸ e⟩

theorem parseLink_spec {cfg : Cfg} {skip : IState → Except Panic IState} {lvl pm L : Nat}
    (hskip : SkipHyp skip lvl pm L) (fuel : Nat) (st : IState) (pos : Nat) (en : Bool)
    (hm : MemoInv st) (hl : st.level = lvl) (hp : st.posMax = pm)
    (hn : pm - pos + 1 ≤ fuel) (hL : pm - (pos + 1) ≤ L) :
    parseLink cfg skip fuel st pos en ≠ .error .fuel ∧
    ∀ o st', parseLink cfg skip fuel st pos en = .ok (o, st') →
      Frame st st' ∧ Quiet st st' ∧ MemoInv st' ∧ st'.pos = st.pos ∧
      (∀ res, o = some res → LinkResOK pm pos res) := by
  have hlab := parseLinkLabel_spec hskip en fuel st pos hm hl hp (by omega) hL
  fun_cases parseLink cfg skip fuel st pos en with
  | case1 e he => exact ⟨fun h => (by cases h; exact hlab.1 he), fun _ _ h => (by cases h)⟩
  | case2 st1 he =>
    obtain ⟨a, b, c, d, _⟩ := hlab.2 _ _ he
    exact ⟨fun h => (by cases h), fun _ _ h => (by cases h; exact ⟨a, b, c, d, fun _ h => (by cases h)⟩)⟩
  | case3 => exact ⟨fun h => (by cases h), fun _ _ h => (by cases h)⟩
  | case4 labelEnd st1 he _ il hil =>
    obtain ⟨a, b, c, d, e⟩ := hlab.2 _ _ he
    obtain ⟨e1, e2⟩ := e labelEnd rfl
    have := tail_end_gt hil
    exact ⟨fun h => (by cases h), fun _ _ h => (by
      cases h; exact ⟨a, b, c, d, fun _ h => (by cases h; exact ⟨rfl, e1, e2, by simp only; omega⟩)⟩)⟩
  | case5 labelEnd st1 he =>
    obtain ⟨a, b, c, d, e⟩ := hlab.2 _ _ he
    obtain ⟨e1, e2⟩ := e labelEnd rfl
    have href := parseLinkRef_spec (cfg := cfg) hskip fuel st1 (pos + 1) labelEnd c
      (a.level.trans hl) (a.posMax.trans hp) (by omega) (by omega)
    refine ⟨href.1, fun o st' h => ?_⟩
    obtain ⟨a', b', c', d', e'⟩ := href.2 _ _ h
    refine ⟨a.trans a', b.trans b', c', d'.trans d, fun res hres => ?_⟩
    obtain ⟨r1, r2, r3⟩ := e' res hres
    exact ⟨r1, by rw [r1, r2]; exact e1, by rw [r2]; exact e2, by rw [r2]; exact r3⟩

end MdIt.Inline

namespace MdIt.InlineH
open MdIt.Inline

/-- `Inline.Frame` minus `linkLevel`: what no rule of the extended chain changes in the end -/
structure FrameL (a b : IState) : Prop where
  src : b.src = a.src
  srcmap : b.srcmap = a.srcmap
  posMax : b.posMax = a.posMax
  level : b.level = a.level

theorem FrameL.refl (a : IState) : FrameL a a := ⟨rfl, rfl, rfl, rfl⟩

theorem FrameL.trans {a b c : IState} (h1 : FrameL a b) (h2 : FrameL b c) : FrameL a c :=
  ⟨h2.src.trans h1.src, h2.srcmap.trans h1.srcmap, h2.posMax.trans h1.posMax, h2.level.trans h1.level⟩

theorem FrameL.ofFrame {a b : IState} (h : Frame a b) : FrameL a b := ⟨h.src, h.srcmap, h.posMax, h.level⟩

theorem FrameL.toFrame {a b : IState} (h : FrameL a b) (hl : b.linkLevel = a.linkLevel) : Frame a b :=
  ⟨h.src, h.srcmap, h.posMax, h.level, hl⟩

/-- `Inline.TokSpec` with `FrameL` -/
structure TokSpecL (st : IState) (r : Except Panic IState) : Prop where
  noFuel : r ≠ .error .fuel
  ok : ∀ st', r = .ok st' → FrameL st st' ∧ MemoInv st'

/-- `Inline.RuleSpec` with `FrameL`; look-ahead mode keeps `linkLevel` -/
structure RuleSpecL (st : IState) (silent : Bool) (r : RuleRes) : Prop where
  noFuel : r ≠ .error .fuel
  ok : ∀ o st', r = .ok (o, st') →
    FrameL st st' ∧ MemoInv st' ∧
    (silent = true → Quiet st st' ∧ st'.pos = st.pos ∧ st'.linkLevel = st.linkLevel) ∧
    (o = none → st'.pos = st.pos) ∧
    (∀ len, o = some len → st.pos < st'.pos + len)

def TokHypL (tok : IState → Except Panic IState) (lvl L : Nat) : Prop :=
  ∀ s, MemoInv s → s.level = lvl → s.posMax - s.pos ≤ L → TokSpecL s (tok s)

theorem RuleSpecL.ofSpec {st : IState} {silent : Bool} {r : RuleRes} (h : RuleSpec st silent r) :
    RuleSpecL st silent r :=
  ⟨h.noFuel, fun o st' hr => by
    obtain ⟨a, b, c, d, e⟩ := h.ok o st' hr
    exact ⟨FrameL.ofFrame a, b, fun hs => ⟨(c hs).1, (c hs).2, a.linkLevel⟩, d, e⟩⟩

end MdIt.InlineH

namespace MdIt.Inline
open MdIt.InlineOps (Srcmap getSourcePosFor getMap byteLen slice)
open MdIt.C05 (WFMap byteLen_append slice_ok_iff)
open MdIt.InlineH (firstRuleG skipStepG firstRuleG_eq FrameL TokSpecL RuleSpecL TokHypL)

theorem TokHyp.toL {tok : IState → Except Panic IState} {lvl L : Nat} (h : TokHyp tok lvl L) :
    TokHypL tok lvl L :=
  fun s hm hl hw => ⟨(h s hm hl hw).noFuel, fun s' hs =>
    ⟨.ofFrame ((h s hm hl hw).ok s' hs).1, ((h s hm hl hw).ok s' hs).2⟩⟩

/-- the contract without `linkLevel`, and `linkLevel` back where it was when `K` holds (`K`: the nested
    `tokenize` keeps it).  No rule reads `linkLevel`; the link rule writes back what the nested run left. -/
def RuleSpecP (st : IState) (silent : Bool) (r : RuleRes) (K : Prop) : Prop :=
  RuleSpecL st silent r ∧ (K → ∀ o st', r = .ok (o, st') → st'.linkLevel = st.linkLevel)

theorem RuleSpecP.ofSpec {st : IState} {silent : Bool} {r : RuleRes} {K : Prop} (h : RuleSpec st silent r) :
    RuleSpecP st silent r K :=
  ⟨.ofSpec h, fun _ o st' hr => (h.ok o st' hr).1.linkLevel⟩

theorem RuleSpecP.toSpec {st : IState} {silent : Bool} {r : RuleRes} {K : Prop} (h : RuleSpecP st silent r K)
    (hK : K) : RuleSpec st silent r :=
  ⟨h.1.noFuel, fun o st' hr =>
    let t := h.1.ok o st' hr
    ⟨t.1.toFrame (h.2 hK o st' hr), t.2.1, fun hs => ⟨(t.2.2.1 hs).1, (t.2.2.1 hs).2.1⟩, t.2.2.2⟩⟩

/-! ## the link rule -/

theorem linkRule_specP {cfg : Cfg} {skip tok : IState → Except Panic IState} {lvl pm L : Nat}
    (hskip : SkipHyp skip lvl pm L) (fuel : Nat) (mk : List Nat → Option (List Char) → Val)
    (en : Bool) (offset : Nat) (st : IState) (silent : Bool)
    (htok : silent = false → TokHypL tok (lvl + 1) L)
    (hm : MemoInv st) (hl : st.level = lvl) (hp : st.posMax = pm)
    (hn : pm - st.pos + 1 ≤ fuel) (hL : pm - st.pos ≤ L + 1) :
    RuleSpecP st silent (linkRule cfg skip tok fuel mk en offset st silent)
      (silent = false → TokHyp tok (lvl + 1) L) := by
  have hpl := parseLink_spec (cfg := cfg) hskip fuel st (st.pos + offset) en hm hl hp (by omega) (by omega)
  cases hpk : parseLink cfg skip fuel st (st.pos + offset) en with
  | error e =>
    rw [linkRule_error hpk]
    exact ⟨⟨fun h => by cases h; exact hpl.1 hpk, fun _ _ h => nomatch h⟩, fun _ _ _ h => nomatch h⟩
  | ok x =>
    obtain ⟨_ | res, st1⟩ := x
    · rw [linkRule_none hpk]
      obtain ⟨a, b, c, d, _⟩ := hpl.2 _ _ hpk
      exact .ofSpec ⟨fun h => (nomatch h), fun _ _ h => by
        cases h; exact ⟨a, c, fun _ => ⟨b, d⟩, fun _ => d, fun _ h => nomatch h⟩⟩
    · obtain ⟨a, b, c, d, e⟩ := hpl.2 _ _ hpk
      have hres := e res rfl
      have h1 := hres.labelStart; have h2 := hres.labelLe; have h3 := hres.endGt
      cases silent with
      | true =>
        rw [linkRule_silent hpk, if_neg (by omega)]
        exact .ofSpec ⟨fun h => (nomatch h), fun _ _ h => by
          cases h; exact ⟨a, c, fun _ => ⟨b, d⟩, fun h => (nomatch h), fun len h => by cases h; omega⟩⟩
      | false =>
        rw [linkRule_real hpk]
        have hwin : (linkNested st1 res).posMax - (linkNested st1 res).pos ≤ L := by
          have := hres.labelLt; simp only; omega
        have hnest := htok rfl (linkNested st1 res) c (by simp only; rw [a.level, hl]) hwin
        cases ht : tok (linkNested st1 res) with
        | error e2 =>
          exact ⟨⟨fun h => by cases h; exact hnest.noFuel ht, fun _ _ h => nomatch h⟩, fun _ _ _ h => nomatch h⟩
        | ok st3 =>
          obtain ⟨f3, m3⟩ := hnest.ok st3 ht
          have hlev : st3.level = st1.level + 1 := f3.level
          refine ⟨⟨fun h => ?_, fun o st' h => ?_⟩, fun hK o st' h => ?_⟩
          · obtain ⟨_, hr⟩ := linkClose_error h; cases hr
          · obtain ⟨_, hle, rfl, r, _, rfl⟩ := linkClose_ok h
            refine ⟨⟨f3.src.trans a.src, f3.srcmap.trans a.srcmap, a.posMax, ?_⟩, m3,
              fun h => (nomatch h), fun h => (nomatch h), fun len h => by cases h; simp only; omega⟩
            show st3.level - 1 = st.level
            rw [hlev, Nat.add_sub_cancel]; exact a.level
          · obtain ⟨_, _, rfl, r, _, rfl⟩ := linkClose_ok h
            have hll : st3.linkLevel = st1.linkLevel + 1 :=
              (((hK rfl) (linkNested st1 res) c (by simp only; rw [a.level, hl]) hwin).ok st3 ht).1.linkLevel
            show st3.linkLevel - 1 = st.linkLevel
            have := a.linkLevel; omega

theorem ruleLink_specP {cfg : Cfg} {skip tok : IState → Except Panic IState} {lvl pm L : Nat}
    (hskip : SkipHyp skip lvl pm L) (fuel : Nat) (st : IState) (silent : Bool)
    (htok : silent = false → TokHypL tok (lvl + 1) L)
    (hm : MemoInv st) (hl : st.level = lvl) (hp : st.posMax = pm)
    (hn : pm - st.pos + 1 ≤ fuel) (hL : pm - st.pos ≤ L + 1) :
    RuleSpecP st silent (ruleLink cfg skip tok fuel st silent) (silent = false → TokHyp tok (lvl + 1) L) := by
  unfold ruleLink
  split
  · next e he => exact .ofSpec ⟨fun h => by cases h; exact liftR_ne_fuel _ he, fun _ _ h => nomatch h⟩
  · exact .ofSpec ⟨fun h => (nomatch h), fun _ _ h => nomatch h⟩
  · split
    · exact .ofSpec (.declined hm)
    · exact linkRule_specP hskip fuel _ _ _ st silent htok hm hl hp hn hL

theorem ruleImage_specP {cfg : Cfg} {skip tok : IState → Except Panic IState} {lvl pm L : Nat}
    (hskip : SkipHyp skip lvl pm L) (fuel : Nat) (st : IState) (silent : Bool)
    (htok : silent = false → TokHypL tok (lvl + 1) L)
    (hm : MemoInv st) (hl : st.level = lvl) (hp : st.posMax = pm)
    (hn : pm - st.pos + 1 ≤ fuel) (hL : pm - st.pos ≤ L + 1) :
    RuleSpecP st silent (ruleImage cfg skip tok fuel st silent) (silent = false → TokHyp tok (lvl + 1) L) := by
  unfold ruleImage
  split
  · next e he => exact .ofSpec ⟨fun h => by cases h; exact liftR_ne_fuel _ he, fun _ _ h => nomatch h⟩
  · exact linkRule_specP hskip fuel _ _ _ st silent htok hm hl hp hn hL
  · exact .ofSpec (.declined hm)

/-! ## the chain -/

theorem RuleSpec.ofSimple {st : IState} {silent : Bool} {r : SRes} (hm : MemoInv st)
    (h : ∀ o st', r = .ok (o, st') → Simple st silent o st') : RuleSpec st silent (liftR r) := by
  refine ⟨liftR_ne_fuel _, ?_⟩
  intro o st' hr
  have hs := h o st' (liftR_ok.mp hr)
  refine ⟨hs.frame, ?_, fun h => ⟨hs.quiet h, hs.pos⟩, fun _ => hs.pos, ?_⟩
  · intro k v hkv; rw [hs.cache] at hkv; exact hm k v hkv
  · intro len hl; have := hs.prog len hl; rw [hs.pos]; omega

theorem runRule_specP {cfg : Cfg} {skip tok : IState → Except Panic IState} {lvl pm L : Nat}
    (hskip : SkipHyp skip lvl pm L) (fuel : Nat) (id : RuleId) (st : IState) (silent : Bool)
    (htok : silent = false → TokHypL tok (lvl + 1) L)
    (hm : MemoInv st) (hl : st.level = lvl) (hp : st.posMax = pm)
    (hn : pm - st.pos + 1 ≤ fuel) (hL : pm - st.pos ≤ L + 1) :
    RuleSpecP st silent (runRule cfg skip tok fuel id st silent) (silent = false → TokHyp tok (lvl + 1) L) := by
  unfold runRule
  cases id with
  | text => exact .ofSpec (.ofSimple hm (fun _ _ h => ruleText_simple h))
  | newline => exact .ofSpec (.ofSimple hm (fun _ _ h => ruleNewline_simple h))
  | escape => exact .ofSpec (.ofSimple hm (fun _ _ h => ruleEscape_simple h))
  | backticks => exact .ofSpec (.ofSimple hm (fun _ _ h => ruleBackticks_simple h))
  | emph mk csw => exact .ofSpec (.ofSimple hm (fun _ _ h => ruleEmph_simple h))
  | link => exact ruleLink_specP hskip fuel st silent htok hm hl hp hn hL
  | image => exact ruleImage_specP hskip fuel st silent htok hm hl hp hn hL
  | linkEnd => exact .ofSpec (.declined hm)
  | autolink => exact .ofSpec (.ofSimple hm (fun _ _ h => ruleAutolink_simple h))
  | entity => exact .ofSpec (.ofSimple hm (fun _ _ h => ruleEntity_simple h))

theorem runRule_spec {cfg : Cfg} {skip tok : IState → Except Panic IState} {lvl pm L : Nat}
    (hskip : SkipHyp skip lvl pm L) (fuel : Nat) (id : RuleId) (st : IState) (silent : Bool)
    (htok : silent = false → TokHyp tok (lvl + 1) L)
    (hm : MemoInv st) (hl : st.level = lvl) (hp : st.posMax = pm)
    (hn : pm - st.pos + 1 ≤ fuel) (hL : pm - st.pos ≤ L + 1) :
    RuleSpec st silent (runRule cfg skip tok fuel id st silent) :=
  (runRule_specP hskip fuel id st silent (fun h => (htok h).toL) hm hl hp hn hL).toSpec htok

/-- the chain loop: rules that answer `None` leave `pos` (and the frame) alone, so every rule is
    called under the same hypotheses -/
theorem firstRule_spec {run : RuleId → IState → RuleRes} {silent : Bool} {lvl pm : Nat} {p0 : Nat}
    (hrun : ∀ id s, MemoInv s → s.level = lvl → s.posMax = pm → s.pos = p0 →
      RuleSpec s silent (run id s)) :
    ∀ (rules : List RuleId) (st : IState), MemoInv st → st.level = lvl → st.posMax = pm →
      st.pos = p0 → RuleSpec st silent (firstRule run rules st) := by
  intro rules st hm hl hp hpos
  refine firstRule_induct (Pre := fun s => MemoInv s ∧ s.level = lvl ∧ s.posMax = pm ∧ s.pos = p0)
    (Post := fun s r => RuleSpec s silent r) (fun s hs => .declined hs.1) ?_ rules
    (fun id _ s hs => hrun id s hs.1 hs.2.1 hs.2.2.1 hs.2.2.2) st ⟨hm, hl, hp, hpos⟩
  rintro s s1 r ⟨_, hl, hp, hpos⟩ h1
  obtain ⟨a, b, c, d, _⟩ := h1.ok _ _ rfl
  refine ⟨⟨b, a.level.trans hl, a.posMax.trans hp, (d rfl).trans hpos⟩, fun h2 => ⟨h2.noFuel, ?_⟩⟩
  intro o st' h
  obtain ⟨a', b', c', d', e'⟩ := h2.ok _ _ h
  exact ⟨a.trans a', b', fun hs => ⟨(c hs).1.trans (c' hs).1, (c' hs).2.trans (c hs).2⟩,
    fun ho => (d' ho).trans (d rfl), fun len hl' => by have := e' len hl'; rwa [d rfl] at this⟩

theorem silentBumped_spec {run : IState → Bool → RuleRes} {st : IState}
    (h : RuleSpec { st with level := st.level + 1 } true (run { st with level := st.level + 1 } true)) :
    RuleSpec st true (silentBumped run st) := by
  unfold silentBumped
  split
  · next e he =>
    refine ⟨?_, by intro o st' h; simp at h⟩
    intro hh; simp only [Except.error.injEq] at hh; subst hh; exact h.noFuel he
  · next r st1 he =>
    obtain ⟨a, b, c, d, e⟩ := h.ok _ _ he
    have hlev : st1.level = st.level + 1 := a.level
    split
    · next h0 => omega
    · refine ⟨by simp, ?_⟩
      intro o st' hh
      simp only [Except.ok.injEq, Prod.mk.injEq] at hh; obtain ⟨rfl, rfl⟩ := hh
      refine ⟨⟨a.src, a.srcmap, a.posMax, ?_, a.linkLevel⟩, b, ?_, d, e⟩
      · simp only; rw [hlev]; simp
      · intro _; have := c rfl; exact ⟨⟨this.1.children, this.1.bottoms⟩, this.2⟩

/-! ## one step of each loop -/

/-- the fall-back never runs out of fuel and moves forward -/
theorem charStep_noFuel (st : IState) :
    Tri NoFuel (fun st2 => ∃ cs p, st2 = { st with children := cs, pos := p } ∧ st.pos < p)
      (charStep st) := by
  unfold charStep firstChar
  cases hw : liftR st.window with
  | error e => exact noFuel_liftR hw
  | ok w =>
    cases w with
    | nil => exact noFuel_rust _
    | cons ch _ =>
      simp only
      cases hp : liftR (st.pushText st.pos (st.pos + ch.utf8Size)) with
      | error e => exact noFuel_liftR hp
      | ok st2 =>
        obtain ⟨cs, _, rfl⟩ := pushText_eq (liftR_ok.mp hp)
        have := Char.utf8Size_pos ch
        exact ⟨cs, _, rfl, by simp only; omega⟩

theorem firstChar_noFuel (st : IState) : Tri NoFuel (fun ch => 0 < ch.utf8Size) (firstChar st) := by
  unfold firstChar
  cases hw : liftR st.window with
  | error e => exact noFuel_liftR hw
  | ok w =>
    cases w with
    | nil => exact noFuel_rust _
    | cons ch _ => exact Char.utf8Size_pos ch

/-- **tokenize_progress** (contract form): one iteration of the tokenizer loop either fails with
    a Rust panic or strictly increases `pos`, never running out of fuel -/
theorem tokStep_spec {cfg : Cfg} {skip tok : IState → Except Panic IState} {L : Nat}
    (fuel : Nat) (st : IState)
    (hskip : st.level < cfg.maxNesting → SkipHyp skip st.level st.posMax L)
    (htok : st.level < cfg.maxNesting → TokHyp tok (st.level + 1) L)
    (hm : MemoInv st) (hn : st.posMax - st.pos + 1 ≤ fuel) (hL : st.posMax - st.pos ≤ L + 1) :
    tokStep cfg skip tok fuel st ≠ .error .fuel ∧
    ∀ st', tokStep cfg skip tok fuel st = .ok st' → Frame st st' ∧ MemoInv st' ∧ st.pos < st'.pos := by
  have key : Tri NoFuel (fun st' => Frame st st' ∧ MemoInv st' ∧ st.pos < st'.pos)
      (tokStep cfg skip tok fuel st) := by
    refine tokStep_tri (fun hlt => ruleSpec_iff.mp (firstRule_spec (lvl := st.level) (pm := st.posMax)
        (p0 := st.pos) (fun id s hms hls hps hpos => runRule_spec (hskip hlt) fuel id s false
          (fun _ => htok hlt) hms hls hps (by rw [hpos]; exact hn) (by rw [hpos]; exact hL))
        cfg.chain st hm rfl rfl rfl))
      (fun _ => ⟨Frame.refl _, hm, fun h => (nomatch h), fun _ => rfl, fun _ h => nomatch h⟩) ?_ ?_
    · rintro len st' ⟨a, b, _, _, e⟩
      exact ⟨a.move _ _, b, e len rfl⟩
    · rintro st' ⟨a, b, _, d, _⟩
      refine (charStep_noFuel st').mono (fun _ h => h) ?_
      rintro st2 - ⟨cs, p, rfl, hlt⟩
      exact ⟨⟨a.src, a.srcmap, a.posMax, a.level, a.linkLevel⟩, b, by rw [← d rfl]; exact hlt⟩
  obtain ⟨k1, k2⟩ := tri_iff.mp key
  exact ⟨fun h => k1 _ h rfl, k2⟩

/-- the body of `skip_token` behind the memo lookup meets `SkipSpec` when its chain meets `RuleSpec`, over
    any rule runner -/
theorem skipStepG_spec_of {ι : Type} {chain : List ι} {run : ι → IState → Bool → RuleRes} {st : IState}
    (h : RuleSpec st true (firstRuleG (fun id s => silentBumped (run id) s) chain st)) :
    SkipSpec st (skipStepG chain run st) := by
  refine skipSpec_iff.mpr (skipStepG_tri (ruleSpec_iff.mp h) ?_ ?_)
  · rintro len st' ⟨a, b, c, _, e⟩
    have hlt := e len rfl
    exact ⟨a.move _ _, (c rfl).1.move _ _,
      MemoInv.insert b hlt, hlt⟩
  · rintro st' ⟨a, b, c, d, _⟩
    refine (firstChar_noFuel st').mono (fun _ h => h) ?_
    intro ch _ hc
    have hlt : st.pos < st'.pos + ch.utf8Size := by rw [d rfl]; omega
    exact ⟨a.move _ _, (c rfl).1.move _ _,
      MemoInv.insert b hlt, hlt⟩

end MdIt.Inline
