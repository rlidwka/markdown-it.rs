/-
  For `Props/MemoSafe.lean`: WINDOW INDEPENDENCE (`Lemmas/MemoSafeWindow.lean`) of the two remaining pieces
  without look-ahead recursion — code spans and the inline link tail.

    * `CodePair.scan_window`   — the closer loop under `pos_max = M` and under `pos_max = M' ≤ M`, when the
                                 text `S = src[M'..M]` does not start with the marker: same closer, provided
                                 it ends at or before `M'`;
    * `CodePair.run_window`    — the same for one call of the rule, on ANY cache satisfying `CacheInv`
                                 (through `cache_transparent`: the closer table never changes a verdict);
    * `ruleBackticks_window`   — the statement for `ruleBackticks` in look-ahead mode (verdict only: the
                                 rule also updates the code-span cache);
    * `parseInlineTail_window` — `Link.parseInlineTail dec src a M` against `… a M'`.
-/
import MdIt.Lemmas.MemoSafeWindow

/-! ## the code-span rule of `MdIt.CodePair` -/

namespace MdIt.CodePair

theorem head_append_ne {m : Char} {T S : List Char} (hT : T.head? ≠ some m) (hS : S.head? ≠ some m) :
    (T ++ S).head? ≠ some m := by
  cases T with
  | nil => simpa using hS
  | cons t T => simpa using hT

theorem head_ne_of_not_mem {m : Char} {M : List Char} (hM : m ∉ M) : M.head? ≠ some m := by
  cases M with
  | nil => simp
  | cons a M =>
    simp only [List.mem_cons, not_or] at hM
    simp only [List.head?_cons, ne_eq, Option.some.injEq]
    exact fun e => hM.1 e.symm

theorem runLen_append_stop (m : Char) (a S : List Char) (hS : S.head? ≠ some m) :
    runLen m (a ++ S) = runLen m a := by
  induction a with
  | nil =>
    cases S with
    | nil => rfl
    | cons s S =>
      simp only [List.head?_cons, ne_eq, Option.some.injEq] at hS
      simp [runLen, hS]
  | cons c a ih =>
    simp only [List.cons_append, runLen, ih]

/-- **the closer loop under two values of `pos_max`**: `M` is the text from `match_end` to the small
    `pos_max = M'`, `S` the text from there to the big one; `S` does not start with the marker (no run is
    cut).  The loop finds the same closer under both, provided the closer ends at or before `M'`; the
    caches the two runs write to are arbitrary. -/
theorem scan_window (v : Variant) (m : Char) (hm1 : m.utf8Size = 1) (src : List Char)
    (pos p posMax M' n : Nat) (X0 Z S : List Char) (hS : S.head? ≠ some m) :
    ∀ (M X1 : List Char) (matchEnd : Nat) (c d : Cache) (o : Outcome),
      Frame src pos p posMax matchEnd X0 X1 (M ++ S) Z →
      Frame src pos p M' matchEnd X0 X1 M (S ++ Z) →
      (((∃ c', scan v m src pos posMax n p true matchEnd c = .ok (some o, c')) ∧ pos + o.len ≤ M') ↔
        ∃ d', scan v m src pos M' n p true matchEnd d = .ok (some o, d')) := by
  intro M
  induction M using runs_induction (m := m) with
  | nomark M hM =>
    intro X1 matchEnd c d o fb fs
    have hX : byteLen (X0 ++ X1) = matchEnd := by rw [byteLen_append, fs.hp, fs.hme]
    rw [scan_nomarker v m pos n p true d fs.hsrc hX fs.hpm hM]
    constructor
    · rintro ⟨⟨c', hc'⟩, hle⟩
      exfalso
      have hh : (M ++ S).head? ≠ some m := head_append_ne (head_ne_of_not_mem hM) hS
      obtain ⟨ms, R, hms, hrun, _, ho, _, _⟩ :=
        scan_some v m hm1 src pos p posMax n true X0 Z (M ++ S) X1 matchEnd c o c' fb hh hc'
      obtain ⟨hl, hle2, hall, _, _⟩ := hrun
      have hge : M' ≤ ms := by
        rcases Nat.lt_or_ge ms M' with hlt | hge
        · exfalso
          have hc := hall ms (Nat.le_refl _) (by omega)
          have e : ms = byteLen (X0 ++ X1) + (ms - matchEnd) := by omega
          have hsrc : src = (X0 ++ X1) ++ (M ++ (S ++ Z)) := by rw [fs.hsrc]; simp
          rw [hsrc, e, charAt_append_add] at hc
          exact hM (charAt_mem M _ _ (by have := fs.hpm; omega) m hc)
        · exact hge
      subst ho
      simp only at hle
      have := fs.hpos; have := fs.hme
      omega
    · rintro ⟨d', hd'⟩; cases hd'
  | hit A k T hA hT ih =>
    intro X1 matchEnd c d o fb fs
    have e : A ++ List.replicate (k + 1) m ++ T ++ S = A ++ List.replicate (k + 1) m ++ (T ++ S) := by
      simp
    have fb' : Frame src pos p posMax matchEnd X0 X1 (A ++ List.replicate (k + 1) m ++ (T ++ S)) Z :=
      e ▸ fb
    have hTS := head_append_ne hT hS
    obtain ⟨h1, h2, h3⟩ := fb'.hit_args hm1
    obtain ⟨g1, g2, g3⟩ := fs.hit_args hm1
    rw [scan_hit v m hm1 pos n p true c h1 h2 h3 hA hTS, scan_hit v m hm1 pos n p true d g1 g2 g3 hA hT]
    have hge : pos ≤ matchEnd := by have := fs.hme; have := fs.hpos; omega
    by_cases hk : k + 1 = n
    · -- the closer is found under both
      have hnu : ¬ matchEnd + byteLen A + (k + 1) < pos := by omega
      simp only [if_pos hk, if_neg hnu, if_true]
      constructor
      · rintro ⟨⟨c', hc'⟩, _⟩; cases hc'; exact ⟨d, rfl⟩
      · rintro ⟨d', hd'⟩; cases hd'; exact ⟨⟨c, rfl⟩, by simp only; omega⟩
    · simp only [if_neg hk]
      obtain ⟨mx, hmx, _⟩ := record_spec v.monotone c.max (k + 1) (matchEnd + byteLen A)
      obtain ⟨mx', hmx', _⟩ := record_spec v.monotone d.max (k + 1) (matchEnd + byteLen A)
      rw [hmx, hmx']
      exact ih _ _ _ _ _ (fb'.next hm1) (fs.next hm1)

theorem map_fst_ex {α β ε : Type} {x y : Except ε (α × β)} (h : x.map Prod.fst = y.map Prod.fst)
    (a : α) : (∃ b, x = .ok (a, b)) ↔ (∃ b, y = .ok (a, b)) := by
  cases x with
  | error e1 =>
    cases y with
    | error e2 => simp
    | ok q => simp [Except.map] at h
  | ok p =>
    cases y with
    | error e2 => simp [Except.map] at h
    | ok q =>
      obtain ⟨p1, p2⟩ := p
      obtain ⟨q1, q2⟩ := q
      simp only [Except.map, Except.ok.injEq] at h
      subst h
      simp

theorem append_inj_byteLen' (a b c d : List Char) (h : a ++ b = c ++ d)
    (hl : byteLen a = byteLen c) : a = c ∧ b = d :=
  MdIt.C05.append_inj_byteLen a b c d h
    (by rw [← MdIt.Inline.codeByteLen_eq, ← MdIt.Inline.codeByteLen_eq]; exact hl)

/-- **one call of the rule under two values of `pos_max`**, same cache `c` (any cache satisfying the
    invariant of the closer table): `w' = src[pos..M']`, `S = src[M'..posMax]` does not start with the
    marker.  The verdict `Some(len)` is the same, provided it ends at or before `M'`. -/
theorem run_window (v : Variant) (hr : v.ranged = true) (hck : v.checked = true) (m : Char)
    (hm1 : m.utf8Size = 1) (src : List Char) (pos posMax M' : Nat) (prev : Bool) (c : Cache)
    (hinv : CacheInv m src c)
    (hcutO : posMax = c.scannedTo ∨ NoCut m src posMax)
    (hcutI : M' = c.scannedTo ∨ NoCut m src M')
    {w' S : List Char} (hw' : slice src pos M' = some w') (hne : w' ≠ [])
    (hS : slice src M' posMax = some S) (hSh : S.head? ≠ some m) (o : Outcome) :
    ((∃ c', run v m src pos posMax prev true c = .ok (some o, c')) ∧ pos + o.len ≤ M') ↔
      ∃ d', run v m src pos M' prev true c = .ok (some o, d') := by
  rw [map_fst_ex (cache_transparent v hr hck m hm1 src pos posMax prev true c hinv hcutO) (some o),
    map_fst_ex (cache_transparent v hr hck m hm1 src pos M' prev true c hinv hcutI) (some o)]
  generalize hc0 : ({ c with scanned := false } : Cache) = c0
  have hnc : ∀ q, consultable v pos q c0 = false := by intro q; subst hc0; simp [consultable]
  obtain ⟨x, z', hs1, hx, hxl⟩ := slice_some hw'
  obtain ⟨y, z, hs2, hy, hyl⟩ := slice_some hS
  -- the big window is `w' ++ S`
  have hz' : z' = S ++ z :=
    (append_inj_byteLen' (x ++ w') z' y (S ++ z) (by rw [← hs1, hs2]; simp)
      (by rw [byteLen_append]; omega)).2
  subst hz'
  have hbig : slice src pos posMax = some (w' ++ S) := by
    have := slice_mid x (w' ++ S) z
    rw [byteLen_append, hx] at this
    have e : src = x ++ (w' ++ S) ++ z := by rw [hs1]; simp
    have hpm : posMax = pos + (byteLen w' + byteLen S) := by omega
    rw [hpm]
    rw [← e] at this
    exact this
  cases w' with
  | nil => exact absurd rfl hne
  | cons ch rest' =>
    have hbig' : slice src pos posMax = some (ch :: (rest' ++ S)) := by simpa using hbig
    by_cases hch : ch = m
    · subst hch
      rw [run_marker v ch prev true c0 hbig', run_marker v ch prev true c0 hw']
      simp only [runLen_append_stop ch rest' S hSh, hnc, Bool.false_eq_true, if_false]
      split
      · simp
      · split
        · simp
        · obtain ⟨x2, T, Z', _, _, _, _, fs⟩ := run_frame hm1 hw'
          have hZ : Z' = S ++ z := by
            have h1 := fs.hsrc
            have h2 := fs.hp
            have h3 := fs.hme
            have h4 := fs.hpm
            refine (append_inj_byteLen' (x2 ++ List.replicate (runLen ch rest' + 1) ch ++ [] ++ T) Z' y
              (S ++ z) (by rw [← h1, hs2]; simp) ?_).2
            rw [byteLen_append, byteLen_append, h2]
            simp only [byteLen] at h3 ⊢
            omega
          subst hZ
          have fb : Frame src pos (pos + 1 + runLen ch rest') posMax (pos + 1 + runLen ch rest')
              (x2 ++ List.replicate (runLen ch rest' + 1) ch) [] (T ++ S) z := by
            refine ⟨?_, fs.hp, fs.hme, ?_, fs.hpos⟩
            · rw [fs.hsrc]; simp
            · have := fs.hpm; rw [byteLen_append]; omega
          exact scan_window v ch hm1 src pos _ posMax M' _ _ z S hSh T [] _ c0 c0 o fb fs
    · rw [run_other v m prev true c0 hbig' hch, run_other v m prev true c0 hw' hch]
      simp

end MdIt.CodePair

/-! ## the code-span rule of the inline parser -/

namespace MdIt.Inline
open MdIt.InlineOps (byteLen slice)
open MdIt.C05 (WFMap byteLen_append slice_ok_iff)

/-- a silent run has no node: its outcome is its length -/
theorem run_silent_len {v : CodePair.Variant} {m : Char} {src : List Char} {pos posMax : Nat} {prev : Bool}
    {c c' : CodePair.Cache} {oc : Option CodePair.Outcome}
    (h : CodePair.run v m src pos posMax prev true c = .ok (oc, c')) (n : Nat) :
    oc.map (·.len) = some n ↔ oc = some ⟨n, none⟩ := by
  cases oc with
  | none => simp
  | some o =>
    have hn := run_silent_node _ _ _ _ _ _ _ _ _ h
    obtain ⟨len, node⟩ := o
    cases hn
    simp

/-- the look-ahead verdict of `ruleBackticks` is the verdict of `CodePair.run` (no node, no `get_map`) -/
theorem ruleBackticks_silent_some (st : IState) (n : Nat) :
    (∃ s1, ruleBackticks st true = .ok (some n, s1)) ↔
      ∃ c', CodePair.run CodePair.Variant.current '`' st.src st.pos st.posMax false true st.backticks
        = .ok (some ⟨n, none⟩, c') := by
  constructor
  · rintro ⟨s1, h⟩
    obtain ⟨oc, c, hrun, ho, _⟩ := ruleBackticks_ok h
    exact ⟨c, by rw [hrun, (run_silent_len hrun n).mp ho.symm]⟩
  · rintro ⟨c', h⟩
    unfold ruleBackticks
    rw [h]
    exact ⟨_, rfl⟩

/-- **window independence of the code-span rule** (verdict; the rule also updates the code-span cache).
    `CacheInv` is the invariant of the closer table (`CodePair.cacheInv_run`: kept by every call from the
    empty cache); `hnc` is the hypothesis on the OUTER `pos_max` of `CodePair.cache_transparent` (it does
    not cut a run of backticks in two, or is the `pos_max` the table was filled under).  No run is cut at
    `M'`: the character there is `]`. -/
theorem ruleBackticks_window {st : IState} {M' : Nat} (h : WinHyp st M')
    (hinv : CodePair.CacheInv '`' st.src st.backticks)
    (hnc : st.posMax = st.backticks.scannedTo ∨ CodePair.NoCut '`' st.src st.posMax) (n : Nat) :
    ((∃ s1, ruleBackticks st true = .ok (some n, s1)) ∧ st.pos + n ≤ M') ↔
      (∃ s2, ruleBackticks (st.shrink M') true = .ok (some n, s2)) := by
  rw [ruleBackticks_silent_some, ruleBackticks_silent_some]
  show _ ↔ ∃ c', CodePair.run CodePair.Variant.current '`' st.src st.pos M' false true st.backticks = _
  obtain ⟨_, w', _, _, _, hw'len, hsl'⟩ := slice_of_boundaries h.bpos h.bcut (Nat.le_of_lt h.lt)
  obtain ⟨_, S, _, _, _, hSlen, hslS⟩ := slice_of_boundaries h.bcut h.bmax h.le
  have hne : w' ≠ [] := by
    intro e; subst e; have := h.lt; simp only [byteLen] at hw'len; omega
  have hS : S.head? ≠ some '`' ∧
      (M' = st.backticks.scannedTo ∨ CodePair.NoCut '`' st.src M') := by
    rcases h.cut with e | ⟨r, hr⟩
    · have : S = [] := byteLen_eq_zero (by omega)
      subst this; exact ⟨by simp, by rw [e]; exact hnc⟩
    · rw [hslS] at hr
      simp only [Except.ok.injEq] at hr
      subst hr
      refine ⟨by simp, .inr ?_⟩
      rintro ⟨_, _, hc⟩
      obtain ⟨p, q, e, l1, _⟩ := (slice_ok_iff _ _ _ _).mp hslS
      have hat : CodePair.charAt st.src M' = some ']' := by
        have := CodePair.charAt_append_add p (']' :: r ++ q) 0
        rw [CodePair.charAt_zero, codeByteLen_eq, l1] at this
        rw [e, List.append_assoc]
        simpa using this
      rw [hat] at hc
      exact absurd hc (by decide)
  exact CodePair.run_window CodePair.Variant.current rfl rfl '`' backtick_size st.src st.pos st.posMax M'
    false st.backticks hinv hnc hS.2 ((codeSlice_eq _ _ _ _).mpr hsl') hne
    ((codeSlice_eq _ _ _ _).mpr hslS) hS.1 ⟨n, none⟩

/-- without the `cut` hypothesis: `` `a`` `` with `M' = 3` cuts the run of two backticks — the big window
    finds no closer of length 1, the small one does (`CodePair.cut_posmax_needs_hypothesis`) -/
example :
    verdictOf (ruleBackticks (exState ['`', 'a', '`', '`'] 0 4) true) = some none ∧
    verdictOf (ruleBackticks ((exState ['`', 'a', '`', '`'] 0 4).shrink 3) true) = some (some 3) := by
  decide +kernel

/-- with it (`` `a`] ``, `M' = 3`): both answer 3 -/
example :
    verdictOf (ruleBackticks (exState ['`', 'a', '`', ']'] 0 4) true) = some (some 3) ∧
    verdictOf (ruleBackticks ((exState ['`', 'a', '`', ']'] 0 4).shrink 3) true) = some (some 3) := by
  decide +kernel

end MdIt.Inline

/-! ## the inline link tail `(<dest> "title")`

  The scanners of `Link.parseInlineTail` (`skipWs`, `angleLoop`, `bareLoop`, `titleLoop`) read
  `src[p..max]` from the left and stop at a character they recognise; their answers are determined by
  the text up to and including that character.  With the shape theorems of `Props/C04.lean`
  (`angleLoop_spec`, `bareLoop_spec`, `titleLoop_spec`) and their converses (`AngleToks.scan`, … there):
  the transfer of an answer from one window `u ++ t1` to another `u ++ t2` with the same beginning `u`. -/

namespace MdIt.Link

theorem append_prefix' (a b c d : List Char) (h : a ++ b = c ++ d) (hl : byteLen a ≤ byteLen c) :
    ∃ w, c = a ++ w ∧ b = w ++ d :=
  MdIt.Inline.append_prefix a b c d h
    (by rw [← MdIt.Inline.linkByteLen_eq, ← MdIt.Inline.linkByteLen_eq]; exact hl)

theorem byteLen_pos' {l : List Char} (h : l ≠ []) : 0 < byteLen l := by
  cases l with
  | nil => exact absurd rfl h
  | cons c r => have := clen_pos c; simp only [byteLen]; omega

/-! ### transfer between two windows with the same beginning -/

theorem append_inj' (a b c d : List Char) (h : a ++ b = c ++ d) (hl : byteLen a = byteLen c) :
    a = c ∧ b = d :=
  MdIt.C05.append_inj_byteLen a b c d h
    (by rw [← MdIt.Inline.linkByteLen_eq, ← MdIt.Inline.linkByteLen_eq]; exact hl)

/-- `skipWs`: an answer inside the common beginning `u` does not depend on what follows `u` -/
theorem skipWs_transfer (u t1 t2 : List Char) (p : Nat) (h : skipWs (u ++ t1) p < p + byteLen u) :
    skipWs (u ++ t2) p = skipWs (u ++ t1) p := by
  induction u generalizing p with
  | nil => have := MdIt.Inline.skipWs_ge t1 p; simp only [List.nil_append, byteLen] at h; omega
  | cons c cs ih =>
    simp only [List.cons_append, skipWs] at h ⊢
    by_cases hw : isWs c = true
    · simp only [hw, if_true] at h ⊢
      exact ih (p + 1) (by simp only [byteLen, isWs_clen c hw] at h; omega)
    · simp only [hw] at h ⊢
      simp

theorem angleLoop_transfer (u t1 t2 : List Char) (p0 pos : Nat)
    (h : angleLoop (u ++ t1) p0 = some pos) (hlt : pos < p0 + byteLen u) :
    angleLoop (u ++ t2) p0 = some pos := by
  obtain ⟨pre, suf, e, hp, ht⟩ := angleLoop_spec _ _ _ h
  obtain ⟨w, hw, hsuf⟩ := append_prefix' pre ('>' :: suf) u t1 e.symm (by omega)
  cases w with
  | nil => rw [hw] at hlt; simp only [List.append_nil] at hlt; omega
  | cons x w' =>
    simp only [List.cons_append, List.cons.injEq] at hsuf
    obtain ⟨rfl, _⟩ := hsuf
    rw [hw, hp, List.append_assoc, List.cons_append]
    exact AngleToks.scan ht _ _

theorem titleLoop_transfer {m : Char} (hm1 : m ≠ '\n') (hm2 : m ≠ '\\') (u t1 t2 : List Char)
    (p0 l0 pos l : Nat) (h : titleLoop m (u ++ t1) p0 l0 = some (pos, l))
    (hlt : pos < p0 + byteLen u) : titleLoop m (u ++ t2) p0 l0 = some (pos, l) := by
  obtain ⟨pre, suf, n, e, hp, hl, ht⟩ := titleLoop_spec _ _ _ _ _ _ h
  obtain ⟨w, hw, hsuf⟩ := append_prefix' pre (m :: suf) u t1 e.symm (by omega)
  cases w with
  | nil => rw [hw] at hlt; simp only [List.append_nil] at hlt; omega
  | cons x w' =>
    simp only [List.cons_append, List.cons.injEq] at hsuf
    obtain ⟨rfl, _⟩ := hsuf
    rw [hw, hp, hl, List.append_assoc, List.cons_append]
    exact TitleToks.scan ht hm1 hm2 _ _ _

/-- the bare scan: besides `pos < end of u`, the character the scan stopped at must not be a backslash
    (a backslash at the very end of the window stops the scan, a backslash followed by an ordinary
    character does not) -/
theorem bareLoop_transfer (u t1 t2 : List Char) (p0 l0 pos l : Nat)
    (h : bareLoop (u ++ t1) p0 l0 = some (pos, l)) (hlt : pos < p0 + byteLen u)
    (hbs : ∀ pre c r, u = pre ++ c :: r → p0 + byteLen pre = pos → c ≠ '\\') :
    bareLoop (u ++ t2) p0 l0 = some (pos, l) := by
  obtain ⟨pre, suf, e, hp, ht, he⟩ := bareLoop_spec _ _ _ _ _ h
  obtain ⟨w, hw, hsuf⟩ := append_prefix' pre suf u t1 e.symm (by omega)
  cases w with
  | nil => rw [hw] at hlt; simp only [List.append_nil] at hlt; omega
  | cons c r =>
    have hc := hbs pre c r hw hp.symm
    have he2 : BareEnd l (c :: r ++ t2) := by
      subst hsuf
      rcases he with h0 | ⟨c', r', h1, hst⟩ | h1 | ⟨x, r', h1, _⟩ | ⟨hl, r', h1⟩
      · simp at h0
      · simp only [List.cons_append, List.cons.injEq] at h1
        obtain ⟨rfl, _⟩ := h1
        exact .inr (.inl ⟨c, r ++ t2, rfl, hst⟩)
      · simp only [List.cons_append, List.cons.injEq] at h1
        exact absurd h1.1 hc
      · simp only [List.cons_append, List.cons.injEq] at h1
        exact absurd h1.1 hc
      · simp only [List.cons_append, List.cons.injEq] at h1
        obtain ⟨rfl, _⟩ := h1
        exact .inr (.inr (.inr (.inr ⟨hl, r ++ t2, rfl⟩)))
    rw [hw, hp, List.append_assoc]
    exact BareToks.scan ht he2 _

/-! ### the two windows of a source -/

/-- two values `m1`, `m2` of `max` behind a common boundary `K`: `t1 = src[K..m1]`, `t2 = src[K..m2]` -/
structure Win (src : List Char) (K m1 m2 : Nat) (t1 t2 : List Char) : Prop where
  s1 : slice src K m1 = .ok t1
  s2 : slice src K m2 = .ok t2

theorem Win.symm {src : List Char} {K m1 m2 : Nat} {t1 t2 : List Char} (w : Win src K m1 m2 t1 t2) :
    Win src K m2 m1 t2 t1 := ⟨w.s2, w.s1⟩

theorem slice_boundary_left {src t : List Char} {a b : Nat} (h : slice src a b = .ok t) :
    Boundary src a := by
  obtain ⟨pre, post, e, l1, _⟩ := (slice_ok_iff _ _ _ _).1 h
  exact ⟨pre, t ++ post, by rw [e]; simp, l1⟩

/-- from a boundary `q ≤ K` the two windows are `u ++ t1` and `u ++ t2` with `u = src[q..K]` -/
theorem Win.at {src : List Char} {K m1 m2 : Nat} {t1 t2 : List Char} (w : Win src K m1 m2 t1 t2)
    {q : Nat} (hq : Boundary src q) (hle : q ≤ K) :
    ∃ u, q + byteLen u = K ∧ slice src q m1 = .ok (u ++ t1) ∧ slice src q m2 = .ok (u ++ t2) := by
  obtain ⟨P, Q, hPQ, hP⟩ := hq
  obtain ⟨A, B1, e1, lA, lm1⟩ := (slice_ok_iff _ _ _ _).1 w.s1
  obtain ⟨A', B2, e2, lA', lm2⟩ := (slice_ok_iff _ _ _ _).1 w.s2
  have hAA : A = A' ∧ t1 ++ B1 = t2 ++ B2 :=
    append_inj' A (t1 ++ B1) A' (t2 ++ B2) (by rw [← List.append_assoc, ← List.append_assoc, ← e1, ← e2])
      (by omega)
  obtain ⟨u, hu, hQ⟩ := append_prefix' P Q A (t1 ++ B1) (by rw [← hPQ, e1]; simp) (by omega)
  have hlen : q + byteLen u = K := by rw [← lA, hu, byteLen_append]; omega
  refine ⟨u, hlen, ?_, ?_⟩
  · refine (slice_ok_iff _ _ _ _).2 ⟨P, B1, ?_, hP, ?_⟩
    · rw [hPQ, hQ]; simp
    · rw [byteLen_append]; omega
  · refine (slice_ok_iff _ _ _ _).2 ⟨P, B2, ?_, hP, ?_⟩
    · rw [hPQ, hQ, hAA.2]; simp
    · rw [byteLen_append]; omega

/-- the character at a position before `K` is the same in both windows -/
theorem Win.head {src : List Char} {K m1 m2 : Nat} {t1 t2 : List Char} (w : Win src K m1 m2 t1 t2)
    {q : Nat} (hlt : q < K) {c : Char} {r : List Char} (h : slice src q m1 = .ok (c :: r)) :
    ∃ r2, slice src q m2 = .ok (c :: r2) := by
  obtain ⟨u, hlen, h1, h2⟩ := w.at (slice_boundary_left h) (Nat.le_of_lt hlt)
  cases u with
  | nil => simp only [byteLen] at hlen; omega
  | cons c' u' =>
    rw [h1] at h
    simp only [Except.ok.injEq, List.cons_append, List.cons.injEq] at h
    exact ⟨u' ++ t2, by rw [h2, ← h.1]; rfl⟩

/-- **destination**: the same answer under both windows when it ends before `K` and the character it
    stopped at is not a backslash -/
theorem dest_transfer {src : List Char} {p m1 m2 : Nat} {u t1 t2 : List Char} {res : Frag}
    (h1 : slice src p m1 = .ok (u ++ t1)) (h2 : slice src p m2 = .ok (u ++ t2))
    (hd : parseLinkDestination src p m1 = .ok (some res)) (hlt : res.pos < p + byteLen u)
    (hbs : ∀ c r, slice src res.pos m1 = .ok (c :: r) → c ≠ '\\') :
    parseLinkDestination src p m2 = .ok (some res) := by
  have hge := (dest_pos_bounds src p m1 res hd).1
  cases u with
  | nil => simp only [byteLen] at hlt; omega
  | cons c0 u' =>
    unfold parseLinkDestination at hd ⊢
    rw [h1] at hd
    rw [h2]
    by_cases hc0 : c0 = '<'
    · subst hc0
      simp only [List.cons_append] at hd ⊢
      cases ha : angleLoop (u' ++ t1) (p + 1) with
      | none => simp [ha] at hd
      | some pos =>
        simp only [ha] at hd
        cases hr : slice src (p + 1) pos with
        | error e => simp [hr] at hd
        | ok raw =>
          simp only [hr, Except.ok.injEq, Option.some.injEq] at hd
          subst hd
          simp only [byteLen, clen_lt] at hlt
          rw [angleLoop_transfer u' t1 t2 (p + 1) pos ha (by omega)]
          simp only [hr]
    · simp only [List.cons_append] at hd ⊢
      split at hd
      · next rest heq => simp only [List.cons.injEq] at heq; exact absurd heq.1 hc0
      · split
        · next rest heq => simp only [List.cons.injEq] at heq; exact absurd heq.1 hc0
        · cases hb : bareLoop (c0 :: (u' ++ t1)) p 0 with
          | none => simp [hb] at hd
          | some pl =>
            obtain ⟨pos, l⟩ := pl
            simp only [hb] at hd
            split at hd
            · simp at hd
            · next hl0 =>
              cases hr : slice src p pos with
              | error e => simp [hr] at hd
              | ok raw =>
                simp only [hr, Except.ok.injEq, Option.some.injEq] at hd
                subst hd
                have hb' : bareLoop ((c0 :: u') ++ t1) p 0 = some (pos, l) := hb
                have := bareLoop_transfer (c0 :: u') t1 t2 p 0 pos l hb' hlt (by
                  intro pre c r hu hp
                  apply hbs c (r ++ t1)
                  have := slice_drop src pre (c :: r ++ t1) p m1 (by rw [h1, hu]; simp)
                  rw [hp] at this
                  exact this)
                simp only [List.cons_append] at this
                simp only [this, hr, if_neg hl0]

/-- **title**: the same answer under both windows when it ends at or before `K` -/
theorem title_transfer {src : List Char} {p m1 m2 : Nat} {u t1 t2 : List Char} {t : Frag}
    (h1 : slice src p m1 = .ok (u ++ t1)) (h2 : slice src p m2 = .ok (u ++ t2))
    (ht : parseLinkTitle src p m1 = .ok (some t)) (hle : t.pos ≤ p + byteLen u) :
    parseLinkTitle src p m2 = .ok (some t) := by
  obtain ⟨_, _, _, _, _, hpos, _⟩ := title_delims src p m1 t ht
  cases u with
  | nil => simp only [byteLen] at hle; omega
  | cons c0 u' =>
    unfold parseLinkTitle at ht ⊢
    rw [h1] at ht
    rw [h2]
    simp only [List.cons_append] at ht ⊢
    cases hmk : titleMarker c0 with
    | none => simp [hmk] at ht
    | some mk =>
      simp only [hmk] at ht ⊢
      cases hl : titleLoop mk (u' ++ t1) (p + 1) 0 with
      | none => simp [hl] at ht
      | some pl =>
        obtain ⟨pos, lines⟩ := pl
        simp only [hl] at ht
        cases hr : slice src (p + 1) pos with
        | error e => simp [hr] at ht
        | ok raw =>
          simp only [hr, Except.ok.injEq, Option.some.injEq] at ht
          subst ht
          have hmk' := titleMarker_some c0 mk hmk
          have hm1 : mk ≠ '\n' := by
            rcases hmk' with ⟨_, rfl⟩ | ⟨_, rfl⟩ | ⟨_, rfl⟩ <;> decide
          have hm2 : mk ≠ '\\' := by
            rcases hmk' with ⟨_, rfl⟩ | ⟨_, rfl⟩ | ⟨_, rfl⟩ <;> decide
          have hc := (titleMarker_clen c0 mk hmk).1
          simp only [byteLen, hc] at hle
          rw [titleLoop_transfer hm1 hm2 u' t1 t2 (p + 1) 0 pos lines hl (by omega)]
          simp only [hr]

/-- what stands right behind a destination that is followed by a successful rest `… )`: not a
    backslash (a backslash is neither a blank, nor a title opener, nor `)`) -/
theorem titlePart_first {dec : List Char → List Char} {src : List Char} {max q p4 : Nat}
    {href h' : Option (List Nat)} {title : Option (List Char)} {c : Char} {r r' : List Char}
    (hs : slice src q max = .ok (c :: r))
    (hst : inlineTitlePart dec src max href q = .ok (h', title, p4))
    (hfin : slice src p4 max = .ok (')' :: r')) : c ≠ '\\' := by
  rintro rfl
  have htn : parseLinkTitle src q max = .ok none := by
    unfold parseLinkTitle
    rw [hs]
    have : titleMarker '\\' = none := by decide
    simp only [this]
  unfold inlineTitlePart at hst
  rw [hs] at hst
  simp only [skipWs_nonws '\\' r q (by decide), htn, Except.ok.injEq, Prod.mk.injEq] at hst
  obtain ⟨_, _, rfl⟩ := hst
  rw [hs] at hfin
  simp only [Except.ok.injEq, List.cons.injEq] at hfin
  exact absurd hfin.1 (by decide)

/-- **blanks, optional title, blanks, `)`**: the same answer under both windows when the `)` stands
    before `K` -/
theorem titlePart_transfer {dec : List Char → List Char} {src : List Char} {K m1 m2 : Nat}
    {t1 t2 : List Char} (w : Win src K m1 m2 t1 t2) {q p4 : Nat} {href h' : Option (List Nat)}
    {title : Option (List Char)} {r : List Char} (hq : Boundary src q) (hqK : q ≤ K)
    (hst : inlineTitlePart dec src m1 href q = .ok (h', title, p4))
    (hfin : slice src p4 m1 = .ok (')' :: r)) (hlt : p4 < K) :
    inlineTitlePart dec src m2 href q = .ok (h', title, p4) ∧
      ∃ r2, slice src p4 m2 = .ok (')' :: r2) := by
  refine ⟨?_, w.head hlt hfin⟩
  obtain ⟨u, hlen, hu1, hu2⟩ := w.at hq hqK
  have hge := MdIt.Inline.titlePart_ge hst
  unfold inlineTitlePart at hst ⊢
  rw [hu1] at hst
  rw [hu2]
  simp only at hst ⊢
  have hb3 : Boundary src (skipWs (u ++ t1) q) := by
    obtain ⟨c3, hs3⟩ := inwin_skipWs src (u ++ t1) m1 q hu1
    exact slice_boundary_left hs3
  cases ht : parseLinkTitle src (skipWs (u ++ t1) q) m1 with
  | error e => simp [ht] at hst
  | ok topt =>
    cases topt with
    | none =>
      simp only [ht, Except.ok.injEq, Prod.mk.injEq] at hst
      obtain ⟨rfl, rfl, rfl⟩ := hst
      rw [skipWs_transfer u t1 t2 q (by omega)]
      -- the character there is `)`: no title under the other window either
      obtain ⟨r2, hr2⟩ := w.head hlt hfin
      have htn : parseLinkTitle src (skipWs (u ++ t1) q) m2 = .ok none := by
        unfold parseLinkTitle
        rw [hr2]
        have : titleMarker ')' = none := by decide
        simp only [this]
      simp only [htn]
    | some t =>
      simp only [ht] at hst
      obtain ⟨_, _, _, _, _, hpos, _, _, _, hbt⟩ := title_delims src _ m1 t ht
      cases hs4 : slice src t.pos m1 with
      | error e => simp [hs4] at hst
      | ok chars4 =>
        simp only [hs4, Except.ok.injEq, Prod.mk.injEq] at hst
        obtain ⟨rfl, rfl, rfl⟩ := hst
        have hge4 := MdIt.Inline.skipWs_ge chars4 t.pos
        obtain ⟨u4, hlen4, hu41, hu42⟩ := w.at hbt (by omega)
        rw [hu41] at hs4
        simp only [Except.ok.injEq] at hs4
        subst hs4
        have hge3 : skipWs (u ++ t1) q ≤ t.pos := by omega
        rw [skipWs_transfer u t1 t2 q (by omega)]
        obtain ⟨u3, hlen3, hu31, hu32⟩ := w.at hb3 (by omega)
        rw [title_transfer hu31 hu32 ht (by omega)]
        simp only [hu42]
        rw [skipWs_transfer u4 t1 t2 t.pos (by omega)]

/-- **the inline tail under two windows**: an inline link found under `max = m1` that ends at or before
    the common boundary `K` is found under `max = m2` too.  (`DecOk`: the decoder keeps a leading `"`,
    `'`, `(` — then a destination that starts with a title opener is never rejected,
    `inlineDest_opener`; without it the lemma is false, see `tail_window_needs_decOk`.) -/
theorem tail_transfer {dec : List Char → List Char} (hdec : DecOk dec) {src : List Char}
    {K m1 m2 : Nat} {t1 t2 : List Char} (w : Win src K m1 m2 t1 t2) {a : Nat} {il : InlineLink}
    (h : parseInlineTail dec src a m1 = .ok (some il)) (hK : il.endPos ≤ K) :
    parseInlineTail dec src a m2 = .ok (some il) := by
  have hgt := MdIt.Inline.tail_end_gt h
  unfold parseInlineTail at h
  cases hs : slice src a m1 with
  | error e => simp [hs] at h
  | ok chars =>
    obtain ⟨u, hlen, hu1, hu2⟩ := w.at (slice_boundary_left hs) (by omega)
    rw [hu1] at hs
    simp only [Except.ok.injEq] at hs
    subst hs
    simp only [hu1] at h
    cases u with
    | nil => simp only [byteLen] at hlen; omega
    | cons c0 u' =>
      by_cases hc0 : c0 = '('
      · subst hc0
        simp only [List.cons_append] at h hu1 hu2
        simp only [byteLen, clen_lp] at hlen
        have hrest : slice src (a + 1) m1 = .ok (u' ++ t1) := by
          have := slice_drop src ['('] (u' ++ t1) a m1 (by simpa using hu1)
          simpa [byteLen, clen_lp] using this
        have hb1 : Boundary src (skipWs (u' ++ t1) (a + 1)) := by
          obtain ⟨c1, hs1⟩ := inwin_skipWs src (u' ++ t1) m1 (a + 1) hrest
          exact slice_boundary_left hs1
        have hge1 := MdIt.Inline.skipWs_ge (u' ++ t1) (a + 1)
        cases hd : parseLinkDestination src (skipWs (u' ++ t1) (a + 1)) m1 with
        | error e => simp [hd] at h
        | ok dest =>
          simp only [hd] at h
          cases dest with
          | none =>
            simp only at h
            split at h
            · cases h
            · rename_i r hfin
              rw [dest_of_rparen src r _ m1 hfin] at hd
              cases hd
            · cases h
          | some res =>
            simp only at h
            cases hst : inlineAfterDest dec src (skipWs (u' ++ t1) (a + 1)) m1 res with
            | error e => simp [hst] at h
            | ok st =>
              obtain ⟨href, title, p4⟩ := st
              simp only [hst] at h
              split at h
              · cases h
              · rename_i r hfin
                simp only [Except.ok.injEq, Option.some.injEq] at h
                subst h
                simp only at hK
                cases hacc : inlineDest dec res.raw with
                | none =>
                  exact (afterDest_rejected dec hdec src _ m1 res hd hacc href title p4 hst r hfin).elim
                | some uu =>
                  have hst' : inlineTitlePart dec src m1 (some uu) res.pos = .ok (href, title, p4) := by
                    unfold inlineAfterDest at hst
                    simpa only [hacc] using hst
                  obtain ⟨hge2, _, hbres⟩ := dest_pos_bounds src _ m1 res hd
                  have hge3 := MdIt.Inline.titlePart_ge hst'
                  -- blanks behind `(`
                  have hsk := skipWs_transfer u' t1 t2 (a + 1) (by omega)
                  -- destination
                  obtain ⟨u1, hlen1, hu11, hu12⟩ := w.at hb1 (by omega)
                  have hd2 := dest_transfer hu11 hu12 hd (by omega)
                    (fun c r hs => titlePart_first hs hst' hfin)
                  -- the rest
                  obtain ⟨hst2, r2, hfin2⟩ := titlePart_transfer w hbres (by omega) hst' hfin (by omega)
                  unfold parseInlineTail
                  simp only [hu2, hsk, hd2, inlineAfterDest, hacc, hst2, hfin2]
              · cases h
      · simp only [List.cons_append] at h
        split at h
        · next rest heq => simp only [List.cons.injEq] at heq; exact absurd heq.1 hc0
        · cases h

end MdIt.Link

/-! ### the statement -/

namespace MdIt.Inline
open MdIt.C05 (WFMap byteLen_append slice_ok_iff)

/-- **window independence of the inline link tail** `(<dest> "title")`.  No condition on the character
    at `M'` is needed (the inline form ends with its `)`: everything the scanners looked at lies before
    `il.endPos`), only that `M'` and `M` are character boundaries; `Link.DecOk dec` is the hypothesis of
    `Link.rejected_stays_literal` on the decoder (`decOk_unescapeAll`: `unescape_all` satisfies it). -/
theorem parseInlineTail_window {dec : List Char → List Char} (hdec : Link.DecOk dec) {src : List Char}
    {a M' M : Nat} (hM' : Boundary src M') (hM : Boundary src M) (hle : M' ≤ M)
    (il : Link.InlineLink) :
    (Link.parseInlineTail dec src a M = .ok (some il) ∧ il.endPos ≤ M') ↔
      Link.parseInlineTail dec src a M' = .ok (some il) := by
  obtain ⟨_, S, _, _, _, _, hS⟩ := slice_of_boundaries hM' hM hle
  obtain ⟨_, E, _, _, hE0, _, hE⟩ := slice_of_boundaries hM' hM' (Nat.le_refl _)
  have w : Link.Win src M' M M' S E := ⟨(linkSlice_eq _ _ _ _).mpr hS, (linkSlice_eq _ _ _ _).mpr hE⟩
  constructor
  · rintro ⟨h, hK⟩
    exact Link.tail_transfer hdec w h hK
  · intro h
    have hK := (tail_end_bounds h).1
    exact ⟨Link.tail_transfer hdec w.symm h hK, hK⟩

/-- `unescape_all` satisfies `Link.DecOk`: the empty text stays empty, and a leading `"`, `'`, `(`
    (neither a backslash nor an ampersand) is copied -/
theorem decOk_unescapeAll (lookup : List Char → Option (List Char)) :
    Link.DecOk (Entity.unescapeAll lookup) := by
  refine ⟨by simp [Entity.unescapeAll], ?_⟩
  intro o m r hm
  rcases Link.titleMarker_some o m hm with ⟨rfl, _⟩ | ⟨rfl, _⟩ | ⟨rfl, _⟩
  all_goals
    unfold Entity.unescapeAll
    split
    · exact ⟨r, rfl⟩
    · refine ⟨Entity.unescapeScan lookup 0 r, ?_⟩
      simp [Entity.unescapeScan, Entity.matchUnescapeAllRe, Entity.matchEscapeRe, Entity.matchEntityRe]

section TailExamples

/-- `(/u)]x` with `M = 6`, `M' = 4` (the position of the `]`): the same link under both -/
example :
    Link.parseInlineTail id ['(', '/', 'u', ')', ']', 'x'] 0 6 = .ok (some ⟨some [47, 117], none, 4⟩) ∧
    Link.parseInlineTail id ['(', '/', 'u', ')', ']', 'x'] 0 4 = .ok (some ⟨some [47, 117], none, 4⟩) := by
  decide +kernel

/-- `il.endPos ≤ M'` is needed: `(a]b)` with `M' = 2` (the position of the `]`; a `]` is an ordinary
    character of a destination) — the big window finds the link, the small one nothing -/
example :
    Link.parseInlineTail id ['(', 'a', ']', 'b', ')'] 0 5 = .ok (some ⟨some [97, 37, 53, 68, 98], none, 5⟩) ∧
    Link.parseInlineTail id ['(', 'a', ']', 'b', ')'] 0 2 = .ok none := by
  decide +kernel

/-- a decoder that does NOT satisfy `DecOk`: it turns one text that starts with `"` into `javascript:` -/
def badDec (raw : List Char) : List Char :=
  if raw = ['"', '(', '"', ')', 'x', ']', 'y'] then ['j', 'a', 'v', 'a', 's', 'c', 'r', 'i', 'p', 't', ':']
  else raw

/-- **`DecOk` is needed**: `("(")x]y)` with `M' = 6` (the position of the `]`).  Under the big window the
    bare destination `"(")x]y` is REJECTED, `parse_link` goes on from the old position, reads `"("` as
    the title and ends at the first `)` (5 ≤ `M'`); under the small window the destination is `"(")x`,
    accepted, and nothing follows it. -/
theorem tail_window_needs_decOk :
    Link.parseInlineTail badDec ['(', '"', '(', '"', ')', 'x', ']', 'y', ')'] 0 9 =
        .ok (some ⟨none, some ['('], 5⟩) ∧
    Link.parseInlineTail badDec ['(', '"', '(', '"', ')', 'x', ']', 'y', ')'] 0 6 = .ok none := by
  decide +kernel

end TailExamples

/-- the same under `WinHyp` (the window of a state) -/
theorem parseInlineTail_window' {dec : List Char → List Char} (hdec : Link.DecOk dec) {st : IState}
    {M' : Nat} (h : WinHyp st M') (a : Nat) (il : Link.InlineLink) :
    (Link.parseInlineTail dec st.src a st.posMax = .ok (some il) ∧ il.endPos ≤ M') ↔
      Link.parseInlineTail dec st.src a M' = .ok (some il) :=
  parseInlineTail_window hdec h.bcut h.bmax h.le il

end MdIt.Inline
