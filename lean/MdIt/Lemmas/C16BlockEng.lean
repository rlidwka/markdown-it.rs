/-
  C16 on the block side: ENGINES (`tokenize` / `test_rules_at_line` tied by the budget) over an arbitrary id
  type — the ten shipped rules (`engH`), the ten shipped rules plus ONE ABSTRACT CUSTOM RULE (`engX`) —, and
  the contract `Eng.OK` the theorems need (`engH_ok`, `engX_ok`).
-/
import MdIt.Lemmas.C16BlockRun

namespace MdIt.BlockH.C16
open MdIt.Block
open MdIt.Lines (LineOffset)

/-- `BlockParser::tokenize` and `BlockState::test_rules_at_line` at every budget, over a chain of ids `ι`:
    `rule f` are the rules as the tokenizer at budget `f + 1` runs them (call-backs at budget `f`) -/
structure Eng (ι : Type) where
  cfg : Cfg
  chain : List ι
  rule : Nat → ι → BState → Bool → Res
  tok : Nat → Tok
  test : Nat → Test
  /-- which members are shipped cmark rules -/
  base : ι → Option RuleId
  tok_succ : ∀ f, tok (f + 1) = tokLoopG cfg.maxNesting chain (rule f) (f + 1) false
  test_succ : ∀ f, test (f + 1) = fun s => runChainG (rule f) chain s true
  test_zero : ∀ s, test 0 s = .error .fuel
  rule_base : ∀ f i r, base i = some r → rule f i = runRule cfg (tok f) (test f) (f + 1) r

/-- what the whole-run theorems need of the members of the chain -/
structure Eng.OK {ι : Type} (E : Eng ι) : Prop where
  /-- real mode, `false`: nothing changed -/
  false_same : ∀ f i s s', E.rule f i s false = .ok (false, s') → s' = s
  /-- look-ahead, `false`: nothing changed -/
  silent_no : ∀ f i s s', E.rule f i s true = .ok (false, s') → s' = s
  /-- look-ahead, `true`: nothing but (possibly) `line` changed -/
  silent_yes : ∀ f i s s', E.rule f i s true = .ok (true, s') → { s' with line := s.line } = s
  /-- look-ahead `true` ⇒ real mode does not answer `false` (same state) -/
  silent_real : ∀ f i s s1 s2 b, E.rule f i s true = .ok (true, s1) → E.rule f i s false = .ok (b, s2) → b = true
  /-- look-ahead does not depend on the budget (it never calls back into the parser) -/
  silent_indep : ∀ f f' i s, E.rule f i s true = E.rule f' i s true
  /-- look-ahead reads neither the tree under construction, nor `tight`, nor the reference map -/
  silent_congr : ∀ f i s c b m, E.rule f i (upd s c b m) true = Except.map (mp c b m) (E.rule f i s true)

/-- the sweep of a chain whose members are quiet up to `line` is quiet up to `line` -/
theorem chain_quiet {ι : Type} {run : ι → BState → Bool → Res}
    (hno : ∀ i s s', run i s true = .ok (false, s') → s' = s)
    (hyes : ∀ i s s', run i s true = .ok (true, s') → { s' with line := s.line } = s) :
    ∀ (chain : List ι) (s : BState) (b : Bool) (s' : BState),
      runChainG run chain s true = .ok (b, s') → { s' with line := s.line } = s := by
  intro chain
  induction chain with
  | nil =>
    intro s b s' h
    simp only [runChainG, Except.ok.injEq, Prod.mk.injEq] at h
    rw [← h.2]
  | cons r rs ih =>
    intro s b s' h
    simp only [runChainG] at h
    split at h
    · cases h
    · rename_i s1 hr
      simp only [Except.ok.injEq, Prod.mk.injEq] at h
      rw [← h.2]; exact hyes _ _ _ hr
    · rename_i s1 hr
      have := hno _ _ _ hr
      subst this
      exact ih _ _ _ h

theorem Eng.OK.test_quiet {ι : Type} {E : Eng ι} (h : E.OK) (f : Nat) : TestQuiet (E.test f) := by
  intro s b s' ht
  cases f with
  | zero => rw [E.test_zero] at ht; cases ht
  | succ f =>
    rw [E.test_succ] at ht
    exact chain_quiet (h.silent_no f) (h.silent_yes f) _ _ _ _ ht

/-! ## the ten shipped rules -/

/-- the engine of `Model/BlockH.lean` (`engineH`) -/
def engH (cfg : Cfg) (chain : List RuleIdH) : Eng RuleIdH where
  cfg := cfg
  chain := chain
  rule := ruleAtH cfg chain
  tok := tokenizeH cfg chain
  test := testRulesH cfg chain
  base := RuleIdH.base?
  tok_succ := fun _ => rfl
  test_succ := fun _ => rfl
  test_zero := fun _ => rfl
  rule_base := by
    intro f i r h
    cases i with
    | html => cases h
    | base r' => cases h; rfl

theorem engH_ok (cfg : Cfg) (chain : List RuleIdH) : (engH cfg chain).OK where
  false_same := fun f _ _ _ h =>
    (runRuleH_spec (cfg := cfg) (tokenizeH_tokSpec cfg chain f) (testRulesH_pure cfg chain f) (f + 1)).false_same _ _ _ h
  silent_no := fun _ _ _ _ h => silent_pure_ruleH h
  silent_yes := fun _ _ s s' h => by
    have := silent_pure_ruleH h
    subst this
    cases s'; rfl
  silent_real := fun _ _ _ _ _ _ h1 h2 => silent_implies_real_ruleH h1 h2
  silent_indep := fun _ _ _ _ => runRuleH_silent_indep ..
  silent_congr := fun _ _ _ _ _ _ => runRuleH_silent_congr ..

/-! ## the ten shipped rules and ONE ABSTRACT CUSTOM RULE -/

/-- a chain member: a shipped rule, or the custom rule -/
inductive RuleIdX where
  | std (r : RuleIdH)
  | custom
  deriving Repr, DecidableEq

def RuleIdX.base? : RuleIdX → Option RuleId
  | .std (.base r) => some r
  | _ => none

/-- one rule of the chain; `X` is the custom rule (`BlockRule::run(state, silent)`) -/
def runRuleX (X : BState → Bool → Res) (cfg : Cfg) (tok : Tok) (test : Test) (fuel : Nat) :
    RuleIdX → BState → Bool → Res
  | .std r => runRuleH cfg tok test fuel r
  | .custom => X

/-- `engineH` with the custom rule in the chain: the same fuel recursion, the same loop (`tokLoopG`) and
    the same sweep (`runChainG`) — the custom rule is in BOTH -/
def engineX (X : BState → Bool → Res) (cfg : Cfg) (chain : List RuleIdX) : Nat → Tok × Test
  | 0 => (fun _ => .error .fuel, fun _ => .error .fuel)
  | f + 1 =>
    let p := engineX X cfg chain f
    (tokLoopG cfg.maxNesting chain (runRuleX X cfg p.1 p.2 (f + 1)) (f + 1) false,
     fun s => runChainG (runRuleX X cfg p.1 p.2 (f + 1)) chain s true)

def engX (X : BState → Bool → Res) (cfg : Cfg) (chain : List RuleIdX) : Eng RuleIdX where
  cfg := cfg
  chain := chain
  rule := fun f => runRuleX X cfg (engineX X cfg chain f).1 (engineX X cfg chain f).2 (f + 1)
  tok := fun f => (engineX X cfg chain f).1
  test := fun f => (engineX X cfg chain f).2
  base := RuleIdX.base?
  tok_succ := fun _ => rfl
  test_succ := fun _ => rfl
  test_zero := fun _ => rfl
  rule_base := by
    intro f i r h
    cases i with
    | custom => cases h
    | std i =>
      cases i with
      | html => cases h
      | base r' => cases h; rfl

/-- **the documented contract of a custom block rule**, as far as look-ahead is concerned
    (`examples/ferris/block_rule.rs`: "In silent mode you aren't allowed to create any nodes, should only
    increment `state.line`"), plus the two things the agreement needs and the documentation leaves
    implicit: the two modes decide alike, and the look-ahead verdict does not depend on the tree under
    construction / `tight` / the reference map -/
structure CustomOK (X : BState → Bool → Res) : Prop where
  /-- look-ahead, no: nothing changed -/
  silent_no : ∀ s s', X s true = .ok (false, s') → s' = s
  /-- look-ahead, yes: creates nothing — may advance `line` (style A), changes nothing else -/
  silent_yes : ∀ s s', X s true = .ok (true, s') → { s' with line := s.line } = s
  /-- real mode, no: nothing changed -/
  real_no : ∀ s s', X s false = .ok (false, s') → s' = s
  /-- the two modes agree on the same state -/
  agree : ∀ s s1 s2 b, X s true = .ok (true, s1) → X s false = .ok (b, s2) → b = true
  /-- the look-ahead verdict reads neither `node.children`, nor `tight`, nor the reference map -/
  reads : ∀ s c b m, X (upd s c b m) true = Except.map (mp c b m) (X s true)

/-- `false` of lheading / reference in real mode leaves the state alone — under a sweep that is only
    quiet up to `line` (the callers restore `line`) -/
theorem real_false_same_lheading_q {test : Test} (ht : TestQuiet test) {fuel : Nat} {s s' : BState}
    (h : lheadingRule test fuel s false = .ok (false, s')) : s' = s := by
  rcases lheadingRule_ok h with
    ⟨_, rfl | ⟨nl, hs⟩⟩ | ⟨_, _, _, _, _, _, _, _, _, _, _, _, _, _, hb, _⟩
  · rfl
  · exact (lazyScan_stop ht true _ _ _ _ _ _ hs).1
  · cases hb

theorem real_false_same_reference_q {cfg : Cfg} {test : Test} (ht : TestQuiet test) {fuel : Nat}
    {s s' : BState} (h : referenceRule cfg test fuel s false = .ok (false, s')) : s' = s := by
  rcases referenceRule_ok h with
    ⟨_, rfl | ⟨nl, lvl, hs⟩⟩ | ⟨_, _, _, _, _, _, _, _, _, _, _, _, _, _, _, _, _, _, _, _, hb, _⟩
  · rfl
  · exact (lazyScan_stop ht false _ _ _ _ _ _ hs).1
  · cases hb

theorem runRule_false_same_q {cfg : Cfg} {tok : Tok} {test : Test} (ht : TestQuiet test) {fuel : Nat}
    {r : RuleId} {s s' : BState} (h : runRule cfg tok test fuel r s false = .ok (false, s')) : s' = s := by
  cases r <;> simp only [runRule] at h
  · exact real_false_same_code h
  · exact real_false_same_fence h
  · exact real_false_same_blockquote h
  · exact real_false_same_hr h
  · exact real_false_same_list h
  · exact real_false_same_reference_q ht h
  · exact real_false_same_heading h
  · exact real_false_same_lheading_q ht h
  · exact absurd (real_true_paragraph h) (by simp)

theorem engX_ok {X : BState → Bool → Res} (hX : CustomOK X) (cfg : Cfg) (chain : List RuleIdX) :
    (engX X cfg chain).OK := by
  have hno : ∀ f i s s', (engX X cfg chain).rule f i s true = .ok (false, s') → s' = s := by
    intro f i s s' h
    cases i with
    | custom => exact hX.silent_no _ _ h
    | std i => exact silent_pure_ruleH h
  have hyes : ∀ f i s s', (engX X cfg chain).rule f i s true = .ok (true, s') → { s' with line := s.line } = s := by
    intro f i s s' h
    cases i with
    | custom => exact hX.silent_yes _ _ h
    | std i =>
      have := silent_pure_ruleH h
      subst this
      cases s'; rfl
  have hq : ∀ f, TestQuiet ((engX X cfg chain).test f) := by
    intro f s b s' ht
    cases f with
    | zero => cases ht
    | succ f => exact chain_quiet (hno f) (hyes f) _ _ _ _ ht
  refine ⟨?_, hno, hyes, ?_, ?_, ?_⟩
  · intro f i s s' h
    cases i with
    | custom => exact hX.real_no _ _ h
    | std i =>
      cases i with
      | html => exact htmlRule_false_same h
      | base r => exact runRule_false_same_q (hq f) h
  · intro f i s s1 s2 b h1 h2
    cases i with
    | custom => exact hX.agree _ _ _ _ h1 h2
    | std i => exact silent_implies_real_ruleH h1 h2
  · intro f f' i s
    cases i with
    | custom => rfl
    | std i => exact runRuleH_silent_indep ..
  · intro f i s c b m
    cases i with
    | custom => exact hX.reads s c b m
    | std i => exact runRuleH_silent_congr ..

end MdIt.BlockH.C16
