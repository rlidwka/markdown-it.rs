/-
  C10 without the sourcepos plugin: the state relation `LE.SRel ρ G` for a translation-invariant `ρ`
  (tables entrywise `LE.ERel`, geometry `G`, scalar fields and reference maps equal, children
  `LE.NRelL`), and the nine block rules, the tokenizer loop and the fuel induction in lock step on it.
  Under `Shift ρ` an entry pair with `ρ`-related starts has `ρ`-related offsets at every distance into
  the line, so `SRel ρ G` is the state relation `LX.Sim.SRel (LX.rels ρ) G` of
  `MdIt/Lemmas/C10Sim*.lean` (`srel_eq`) and every simulation here is the one proved there, in the
  vocabulary of `LE`: the statements `Block.LE.*_sim` that C10's entry in MANIFEST.json names.
-/
import MdIt.Lemmas.C10SourceposSimEngine

namespace MdIt.Block.LE
open MdIt.Lines (LineOffset)

structure SRel (ρ : Nat → Nat → Prop) (G : Geo) (s₁ s₂ : BState) : Prop where
  src₁ : s₁.src = G.src₁
  src₂ : s₂.src = G.src₂
  len : s₂.offs.length = s₁.offs.length
  ent : ∀ (i : Nat) (o₁ o₂ : LineOffset), s₁.offs[i]? = some o₁ → s₂.offs[i]? = some o₂ → ERel ρ G.src₁ G.src₂ o₁ o₂
  geo₁ : s₁.offs.map geom = G.T₁
  geo₂ : s₂.offs.map geom = G.T₂
  blkIndent : s₂.blkIndent = s₁.blkIndent
  line : s₂.line = s₁.line
  lineMax : s₂.lineMax = s₁.lineMax
  tight : s₂.tight = s₁.tight
  listIndent : s₂.listIndent = s₁.listIndent
  level : s₂.level = s₁.level
  nodeKind : s₂.nodeKind = s₁.nodeKind
  refs : s₂.refs = s₁.refs
  children : NRelL ρ s₁.children s₂.children

/-- what the rule simulations assume about the two runs -/
structure Ctx (ρ : Nat → Nat → Prop) (G : Geo) : Prop where
  shift : Shift ρ
  inc₁ : IncT G.T₁
  inc₂ : IncT G.T₂

/-- verdict and state of a rule call -/
def ResRel (ρ : Nat → Nat → Prop) (G : Geo) (r₁ r₂ : Bool × BState) : Prop :=
  r₁.1 = r₂.1 ∧ SRel ρ G r₁.2 r₂.2

/-- the nested tokenizers of the two runs -/
def TokSim (ρ : Nat → Nat → Prop) (G : Geo) (tok₁ tok₂ : Tok) : Prop :=
  ∀ s₁ s₂, SRel ρ G s₁ s₂ → FRel (SRel ρ G) (tok₁ s₁) (tok₂ s₂)

/-- the look-aheads of the two runs -/
def TestSim (ρ : Nat → Nat → Prop) (G : Geo) (test₁ test₂ : Test) : Prop :=
  ∀ s₁ s₂, SRel ρ G s₁ s₂ → FRel (ResRel ρ G) (test₁ s₁) (test₂ s₂)

section updates
variable {ρ : Nat → Nat → Prop} {G : Geo} {s₁ s₂ : BState}

theorem SRel.push (S : SRel ρ G s₁ s₂) {n₁ n₂ : BNode} (hn : NRel ρ n₁ n₂) :
    SRel ρ G (s₁.push n₁) (s₂.push n₂) :=
  ⟨S.src₁, S.src₂, S.len, S.ent, S.geo₁, S.geo₂, S.blkIndent, S.line, S.lineMax, S.tight, S.listIndent, S.level, S.nodeKind,
    S.refs, S.children.push hn⟩

end updates

variable {ρ : Nat → Nat → Prop} {G : Geo}

theorem ERel.lx (hs : Shift ρ) {src₁ src₂ : List Char} {o₁ o₂ : LineOffset} (h : ERel ρ src₁ src₂ o₁ o₂) :
    LX.ERel ρ src₁ src₂ o₁ o₂ := by
  obtain ⟨a, b, p₁, q₁, p₂, q₂, e1, e2, hp1, hp2, h1, h2, h3, h4, hi, hr⟩ := h
  exact ⟨a, b, p₁, q₁, p₂, q₂, e1, e2, hp1, hp2, h1, h2, h3, h4, hi, fun d _ => hs.add d hr⟩

theorem ERel.of_lx {src₁ src₂ : List Char} {o₁ o₂ : LineOffset} (h : LX.ERel ρ src₁ src₂ o₁ o₂) :
    ERel ρ src₁ src₂ o₁ o₂ := by
  obtain ⟨a, b, p₁, q₁, p₂, q₂, e1, e2, hp1, hp2, h1, h2, h3, h4, hi, hr⟩ := h
  exact ⟨a, b, p₁, q₁, p₂, q₂, e1, e2, hp1, hp2, h1, h2, h3, h4, hi, hr 0 (Nat.zero_le _)⟩

theorem srel_eq (hs : Shift ρ) : SRel ρ G = LX.Sim.SRel (LX.rels ρ) G := by
  funext s₁ s₂
  apply propext
  constructor
  · intro S
    exact ⟨S.src₁, S.src₂, S.len, fun i o₁ o₂ h1 h2 => (S.ent i o₁ o₂ h1 h2).lx hs, S.geo₁, S.geo₂, S.blkIndent, S.line,
      S.lineMax, S.tight, S.listIndent, S.level, S.nodeKind, S.refs, LX.nrelL_iff.mpr S.children⟩
  · intro S
    exact ⟨S.src₁, S.src₂, S.len, fun i o₁ o₂ h1 h2 => .of_lx (S.ent i o₁ o₂ h1 h2), S.geo₁, S.geo₂, S.blkIndent, S.line,
      S.lineMax, S.tight, S.listIndent, S.level, S.nodeKind, S.refs, LX.nrelL_iff.mp S.children⟩

theorem resRel_eq (hs : Shift ρ) : ResRel ρ G = LX.Sim.ResRel (LX.rels ρ) G := by
  unfold ResRel LX.Sim.ResRel; rw [srel_eq hs]

theorem tokSim_eq (hs : Shift ρ) : TokSim ρ G = LX.Sim.TokSim (LX.rels ρ) G := by
  unfold TokSim LX.Sim.TokSim; rw [srel_eq hs]

theorem testSim_eq (hs : Shift ρ) : TestSim ρ G = LX.Sim.TestSim (LX.rels ρ) G := by
  unfold TestSim LX.Sim.TestSim; rw [srel_eq hs, resRel_eq hs]

theorem Ctx.sim (C : Ctx ρ G) : LX.Sim.Ctx (LX.rels ρ) G := LX.Ctx.sim ⟨C.inc₁, C.inc₂⟩

section reads
variable {ρ : Nat → Nat → Prop} {G : Geo} {s₁ s₂ : BState}

/-- an entry pair without its offset relation -/
theorem ERel.lxTrue {src₁ src₂ : List Char} {o₁ o₂ : LineOffset} (h : ERel ρ src₁ src₂ o₁ o₂) :
    LX.ERel (fun _ _ => True) src₁ src₂ o₁ o₂ := by
  obtain ⟨a, b, p₁, q₁, p₂, q₂, e1, e2, hp1, hp2, h1, h2, h3, h4, hi, _⟩ := h
  exact ⟨a, b, p₁, q₁, p₂, q₂, e1, e2, hp1, hp2, h1, h2, h3, h4, hi, fun _ _ => trivial⟩

theorem ERel.indent {src₁ src₂ : List Char} {o₁ o₂ : LineOffset} (h : ERel ρ src₁ src₂ o₁ o₂) :
    o₂.indentNonspace = o₁.indentNonspace := h.lxTrue.indent

/-- everything a rule slices out of a line, relative to the line's own bytes `L` -/
theorem ERel.slices {src₁ src₂ : List Char} {o₁ o₂ : LineOffset} (h : ERel ρ src₁ src₂ o₁ o₂) :
    ∃ L, o₁.lineEnd = o₁.lineStart + Lines.byteLen L ∧
      (∀ x y, y ≤ Lines.byteLen L →
        Lines.slice src₁ (o₁.lineStart + x) (o₁.lineStart + y) = Lines.slice L x y) ∧
      (∀ x y, y ≤ Lines.byteLen L →
        Lines.slice src₂ (o₂.lineStart + x) (o₂.lineStart + y) = Lines.slice L x y) := h.lxTrue.slices

/-- the rewriting both containers perform: `first_nonspace := fn + line_start` for a boundary `fn`
    of the line's bytes, any indent -/
theorem ERel.rewrite {src₁ src₂ : List Char} {o₁ o₂ : LineOffset} (h : ERel ρ src₁ src₂ o₁ o₂)
    {L : List Char} (hL : Lines.slice src₁ o₁.lineStart o₁.lineEnd = .ok L) {fn : Nat}
    (hb : Lines.onBoundary L fn = true) (x : Int) :
    ERel ρ src₁ src₂ { o₁ with firstNonspace := fn + o₁.lineStart, indentNonspace := x }
      { o₂ with firstNonspace := fn + o₂.lineStart, indentNonspace := x } := by
  obtain ⟨a, b, p₁, q₁, p₂, q₂, e1, e2, hp1, hp2, h1, h2, h3, h4, hi, _⟩ := h.lxTrue.rewrite hL hb x
  obtain ⟨_, _, _, _, _, _, _, _, _, _, _, _, _, _, _, hr⟩ := h
  exact ⟨a, b, p₁, q₁, p₂, q₂, e1, e2, hp1, hp2, h1, h2, h3, h4, hi, hr⟩

theorem ERel.geom_setIndent (o : LineOffset) (x : Int) : geom { o with indentNonspace := x } = geom o := rfl
theorem ERel.geom_rewrite (o : LineOffset) (f : Nat) (x : Int) :
    geom { o with firstNonspace := f, indentNonspace := x } = geom o := rfl

theorem SRel.off_ok (S : SRel ρ G s₁ s₂) {n : Nat} {o₁ : LineOffset} (h : s₁.off n = .ok o₁) :
    ∃ o₂, s₂.off n = .ok o₂ ∧ ERel ρ G.src₁ G.src₂ o₁ o₂ := by
  unfold BState.off at h ⊢
  cases h1 : s₁.offs[n]? with
  | none => rw [h1] at h; cases h
  | some o =>
    rw [h1] at h; cases h
    have hn : n < s₂.offs.length := by rw [S.len]; exact (List.getElem?_eq_some_iff.mp h1).1
    rw [List.getElem?_eq_getElem hn]
    exact ⟨_, rfl, S.ent n _ _ h1 (List.getElem?_eq_getElem hn)⟩

theorem SRel.getLines (hs : Shift ρ) (S : SRel ρ G s₁ s₂) (b e indent : Nat) (keep : Bool) :
    FRel (fun r₁ r₂ => r₁.1 = r₂.1 ∧ MRel ρ r₁.2 r₂.2) (s₁.getLines b e indent keep)
      (s₂.getLines b e indent keep) := by
  rw [srel_eq hs] at S
  exact S.getLines b e indent keep

end reads

section leaf
variable {s₁ s₂ : BState}

theorem hr_sim (C : Ctx ρ G) (S : SRel ρ G s₁ s₂) (silent : Bool) :
    FRel (ResRel ρ G) (hrRule s₁ silent) (hrRule s₂ silent) := by
  rw [srel_eq C.shift] at S; rw [resRel_eq C.shift]
  exact LX.Sim.hr_sim C.sim S silent (fun h => h.elim)

theorem heading_sim (C : Ctx ρ G) (S : SRel ρ G s₁ s₂) (silent : Bool) :
    FRel (ResRel ρ G) (headingRule s₁ silent) (headingRule s₂ silent) := by
  rw [srel_eq C.shift] at S; rw [resRel_eq C.shift]
  exact LX.Sim.heading_sim C.sim S silent (fun h => h.elim)

theorem code_sim (C : Ctx ρ G) (S : SRel ρ G s₁ s₂) (silent : Bool) :
    FRel (ResRel ρ G) (codeRule s₁ silent) (codeRule s₂ silent) := by
  rw [srel_eq C.shift] at S; rw [resRel_eq C.shift]
  exact LX.Sim.code_sim C.sim S silent (fun h => h.elim)

theorem fence_sim (C : Ctx ρ G) (S : SRel ρ G s₁ s₂) (silent : Bool) :
    FRel (ResRel ρ G) (fenceRule s₁ silent) (fenceRule s₂ silent) := by
  rw [srel_eq C.shift] at S; rw [resRel_eq C.shift]
  exact LX.Sim.fence_sim C.sim S silent (fun h => h.elim)

end leaf

theorem paragraph_sim (C : Ctx ρ G) {test₁ test₂ : Test} (TS : TestSim ρ G test₁ test₂) {f₁ f₂ : Nat} (hf : f₁ ≤ f₂)
    {s₁ s₂ : BState} (S : SRel ρ G s₁ s₂) (silent : Bool) :
    FRel (ResRel ρ G) (paragraphRule test₁ f₁ s₁ silent) (paragraphRule test₂ f₂ s₂ silent) := by
  rw [testSim_eq C.shift] at TS; rw [srel_eq C.shift] at S; rw [resRel_eq C.shift]
  exact LX.Sim.paragraph_sim C.sim TS (fun h => h.elim) hf S silent (fun h => h.elim)

theorem lheading_sim (C : Ctx ρ G) {test₁ test₂ : Test} (TS : TestSim ρ G test₁ test₂) {f₁ f₂ : Nat} (hf : f₁ ≤ f₂)
    {s₁ s₂ : BState} (S : SRel ρ G s₁ s₂) (silent : Bool) :
    FRel (ResRel ρ G) (lheadingRule test₁ f₁ s₁ silent) (lheadingRule test₂ f₂ s₂ silent) := by
  rw [testSim_eq C.shift] at TS; rw [srel_eq C.shift] at S; rw [resRel_eq C.shift]
  exact LX.Sim.lheading_sim C.sim TS (fun h => h.elim) hf S silent (fun h => h.elim)

theorem reference_sim (cfg : Cfg) (C : Ctx ρ G) {test₁ test₂ : Test} (TS : TestSim ρ G test₁ test₂) {f₁ f₂ : Nat}
    (hf : f₁ ≤ f₂) {s₁ s₂ : BState} (S : SRel ρ G s₁ s₂) (silent : Bool) :
    FRel (ResRel ρ G) (referenceRule cfg test₁ f₁ s₁ silent) (referenceRule cfg test₂ f₂ s₂ silent) := by
  rw [testSim_eq C.shift] at TS; rw [srel_eq C.shift] at S; rw [resRel_eq C.shift]
  exact LX.Sim.reference_sim cfg C.sim TS hf S silent

/-- the entries the block-quote scan saved (`old_line_offsets`), from table index `i` on: pairwise
    related, and each has the geometry of the table index it will be written back to -/
def OldRel (ρ : Nat → Nat → Prop) (G : Geo) : Nat → List LineOffset → List LineOffset → Prop
  | _, [], [] => True
  | i, a :: r₁, b :: r₂ =>
    ERel ρ G.src₁ G.src₂ a b ∧ G.T₁[i]? = some (geom a) ∧ G.T₂[i]? = some (geom b) ∧ OldRel ρ G (i + 1) r₁ r₂
  | _, [], _ :: _ => False
  | _, _ :: _, [] => False

theorem OldRel.length : ∀ {i : Nat} {old₁ old₂ : List LineOffset}, OldRel ρ G i old₁ old₂ → old₂.length = old₁.length
  | _, [], [], _ => rfl
  | _, [], _ :: _, h => by simp only [OldRel] at h
  | _, _ :: _, [], h => by simp only [OldRel] at h
  | _, _ :: _, _ :: _, h => by
    simp only [OldRel] at h
    simp [OldRel.length h.2.2.2]

theorem blockquote_sim (C : Ctx ρ G) {tok₁ tok₂ : Tok} (TK : TokSim ρ G tok₁ tok₂) {test₁ test₂ : Test}
    (TS : TestSim ρ G test₁ test₂) {f₁ f₂ : Nat} (hf : f₁ ≤ f₂) {s₁ s₂ : BState} (S : SRel ρ G s₁ s₂) (silent : Bool) :
    FRel (ResRel ρ G) (blockquoteRule tok₁ test₁ f₁ s₁ silent) (blockquoteRule tok₂ test₂ f₂ s₂ silent) := by
  rw [tokSim_eq C.shift] at TK; rw [testSim_eq C.shift] at TS; rw [srel_eq C.shift] at S; rw [resRel_eq C.shift]
  exact LX.Sim.blockquote_sim C.sim TK (fun h => h.elim) TS (fun h => h.elim) hf S silent (fun h => h.elim)

theorem tightenItems_sim : ∀ {l₁ l₂ : List BNode}, NRelL ρ l₁ l₂ →
    FRel (NRelL ρ) (tightenItems l₁) (tightenItems l₂) :=
  fun h => frel_mono (LX.Sim.tightenItems_sim LX.kOk (LX.nrelL_iff.mpr h)) fun _ _ => LX.nrelL_iff.mp

theorem list_sim (C : Ctx ρ G) {tok₁ tok₂ : Tok} (TK : TokSim ρ G tok₁ tok₂) {test₁ test₂ : Test}
    (TS : TestSim ρ G test₁ test₂) {f₁ f₂ : Nat} (hf : f₁ ≤ f₂) {s₁ s₂ : BState} (S : SRel ρ G s₁ s₂) (silent : Bool) :
    FRel (ResRel ρ G) (listRule tok₁ test₁ f₁ s₁ silent) (listRule tok₂ test₂ f₂ s₂ silent) := by
  rw [tokSim_eq C.shift] at TK; rw [testSim_eq C.shift] at TS; rw [srel_eq C.shift] at S; rw [resRel_eq C.shift]
  exact LX.Sim.list_sim C.sim TK (fun h => h.elim) TS (fun h => h.elim) hf S silent (fun h => h.elim)

theorem runRule_sim (cfg : Cfg) (C : Ctx ρ G) {tok₁ tok₂ : Tok} (TK : TokSim ρ G tok₁ tok₂) {test₁ test₂ : Test}
    (TS : TestSim ρ G test₁ test₂) {f₁ f₂ : Nat} (hf : f₁ ≤ f₂) (r : RuleId) {s₁ s₂ : BState}
    (S : SRel ρ G s₁ s₂) (silent : Bool) :
    FRel (ResRel ρ G) (runRule cfg tok₁ test₁ f₁ r s₁ silent) (runRule cfg tok₂ test₂ f₂ r s₂ silent) := by
  rw [tokSim_eq C.shift] at TK; rw [testSim_eq C.shift] at TS; rw [srel_eq C.shift] at S; rw [resRel_eq C.shift]
  exact LX.Sim.runRule_sim cfg C.sim TK (fun h => h.elim) TS (fun h => h.elim) hf r S silent (fun h => h.elim)

/-- what `tokLoop_sim` needs of the two rule runners -/
def RunSim (ρ : Nat → Nat → Prop) (G : Geo) (run₁ run₂ : RuleId → BState → Bool → Res) : Prop :=
  ∀ r s₁ s₂ b, SRel ρ G s₁ s₂ → FRel (ResRel ρ G) (run₁ r s₁ b) (run₂ r s₂ b)

theorem RunSim.sim (hs : Shift ρ) {run₁ run₂ : RuleId → BState → Bool → Res} (R : RunSim ρ G run₁ run₂) :
    LX.Sim.RunSim (LX.rels ρ) G run₁ run₂ := by
  intro r s₁ s₂ b S _
  rw [← srel_eq hs] at S; rw [← resRel_eq hs]
  exact R r s₁ s₂ b S

theorem tokLoop_sim (cfg : Cfg) (C : Ctx ρ G) {run₁ run₂ : RuleId → BState → Bool → Res} (R : RunSim ρ G run₁ run₂) :
    ∀ (f₁ f₂ : Nat) (he : Bool) (s₁ s₂ : BState), f₁ ≤ f₂ → SRel ρ G s₁ s₂ →
      FRel (SRel ρ G) (tokLoop cfg run₁ f₁ he s₁) (tokLoop cfg run₂ f₂ he s₂) := by
  intro f₁ f₂ he s₁ s₂ hf S
  rw [srel_eq C.shift] at S ⊢
  exact LX.Sim.tokLoop_sim cfg C.sim (R.sim C.shift) (fun h => h.elim) f₁ f₂ he s₁ s₂ hf S

theorem engine_sim (cfg : Cfg) (C : Ctx ρ G) : ∀ (f₁ f₂ : Nat), f₁ ≤ f₂ →
    TokSim ρ G (tokenize cfg f₁) (tokenize cfg f₂) ∧ TestSim ρ G (testRules cfg f₁) (testRules cfg f₂) := by
  rw [tokSim_eq C.shift, testSim_eq C.shift]
  exact LX.Sim.engine_sim cfg C.sim

/-- **the block tokenizer on related states, side 2 with at least as much fuel** -/
theorem tokenize_sim (cfg : Cfg) (C : Ctx ρ G) {f₁ f₂ : Nat} (hf : f₁ ≤ f₂) {s₁ s₂ : BState}
    (S : SRel ρ G s₁ s₂) : FRel (SRel ρ G) (tokenize cfg f₁ s₁) (tokenize cfg f₂ s₂) :=
  (engine_sim cfg C f₁ f₂ hf).1 s₁ s₂ S

end MdIt.Block.LE
