/-
  Helper development for `Props/Inline.lean`: source ranges — the link rule, one step of the
  tokenizer loop, and the induction on fuel (partial correctness); the post pass
  (`fragments_join` / `FragmentsJoin::run`) keeps sibling lists ordered and nodes well ranged.

  `Eng.ranges` carries `RI` through every copy of the tokenizer (Lemmas/InlineEngine.lean; the one
  with the raw-HTML rule included), for every configuration, any bound `e` of the loop, asking of a
  rule call only that it fixes `src` and `srcmap` (`StepOK`); it is the contract `RangesFn` of the
  totality and memo developments.  It is NOT an instance of the kit `tokLoop_keeps`
  (Lemmas/InlineFrame.lean), which is about the model's engine, reads the whole `Frame` and asks the
  rules inside the window only.  For configurations with `IC.Markers` and a table that is `IC.Shift`
  the certificate gives `RI` a second time, as a lowering (`IC.ICF.ri`, Lemmas/InlineCertLower.lean):
  that is how the source-coordinate invariants of C05 get it, with no second walk.
-/
import MdIt.Lemmas.InlineRanges5
import MdIt.Lemmas.InlineFrame

namespace MdIt.Inline
open MdIt.InlineOps (Srcmap getSourcePosFor getMap byteLen slice)
open MdIt.C05 (WFMap MonoMap byteLen_append slice_ok_iff)
open MdIt.InlineH (firstRuleG tokStepG firstRuleG_induct firstRuleG_eq)

/-- what a rule call in real mode leaves behind: same text, the frame invariant at the position the
    tokenizer continues from, and an unchanged `pos` when the rule declined -/
structure StepOK (lo : Nat) (st : IState) (o : Option Nat) (st' : IState) : Prop where
  src : st'.src = st.src
  srcmap : st'.srcmap = st.srcmap
  ri : RI st.src st.srcmap lo (st'.pos + o.getD 0) st'.children
  pos : o = none → st'.pos = st.pos

/-- `tok` keeps the frame invariant (of whatever frame it is called for) -/
def RangesFn (tok : IState → Except Panic IState) : Prop :=
  ∀ lo s s', MapOK s.src s.srcmap → tok s = .ok s' → RInv lo s →
    s'.src = s.src ∧ s'.srcmap = s.srcmap ∧ RInv lo s'

theorem StepOK.ofSimple {lo : Nat} {st st' : IState} {o : Option Nat} (hs : Simple st false o st')
    (h : StepRI lo st o st') : StepOK lo st o st' :=
  ⟨hs.frame.src, hs.frame.srcmap, h, fun _ => hs.pos⟩

theorem stepOK_calm {lo : Nat} {st st' : IState} (hi : RInv lo st) (hc : Calm st st')
    (hp : st'.pos = st.pos) : StepOK lo st none st' := by
  refine ⟨hc.src, hc.srcmap, ?_, fun _ => hp⟩
  simp only [Option.getD_none, Nat.add_zero]
  rw [hp, hc.children]; exact hi

theorem StepOK.rinv {lo : Nat} {a b : IState} (h : StepOK lo a none b) : RInv lo b := by
  have := h.ri
  simp only [Option.getD_none, Nat.add_zero] at this
  unfold RInv; rw [h.src, h.srcmap]; exact this

theorem StepOK.mapOK {lo : Nat} {a b : IState} {o : Option Nat} (h : StepOK lo a o b)
    (hm : MapOK a.src a.srcmap) : MapOK b.src b.srcmap := by rw [h.src, h.srcmap]; exact hm

theorem StepOK.trans {lo : Nat} {a b c : IState} {o : Option Nat} (h1 : StepOK lo a none b)
    (h2 : StepOK lo b o c) : StepOK lo a o c :=
  ⟨h2.src.trans h1.src, h2.srcmap.trans h1.srcmap, by have := h2.ri; rw [h1.src, h1.srcmap] at this; exact this,
    fun ho => by rw [h2.pos ho, h1.pos rfl]⟩

theorem mk_not_text {mk : List Nat → Option (List Char) → Val} (hmk : ∀ u t, ∀ c, mk u t ≠ .text c)
    (u : List Nat) (t : Option (List Char)) (r : Option (Nat × Nat)) (cs : List Node) :
    (Node.mk (mk u t) r cs).isText = false := by
  unfold Node.isText
  have := hmk u t
  cases hv : mk u t <;> simp_all

/-- the link / image rule for a monotone table.  `ht`: the nested run over the label keeps text,
    table and the frame invariant of ITS frame (which starts at the translated `labelStart`). -/
theorem linkRule_ri {cfg : Cfg} {skip tok : IState → Except Panic IState} (hq : CalmFn skip)
    {fuel : Nat} {mk : List Nat → Option (List Char) → Val}
    (hmk : ∀ u t, ∀ c, mk u t ≠ .text c) (hmk2 : ∀ u t r cs, (Node.mk (mk u t) r cs).asMarker = none)
    {en : Bool} {offset : Nat} {lo : Nat} {st : IState} {o : Option Nat} {st' : IState}
    (hm : MapMono st.srcmap) (hi : RInv lo st)
    (ht : ∀ lo' s s', s.src = st.src → s.srcmap = st.srcmap → s.children = [] → tok s = .ok s' →
      getSourcePosFor s.srcmap s.pos = .ok lo' → s'.src = s.src ∧ s'.srcmap = s.srcmap ∧ RInv lo' s')
    (h : linkRule cfg skip tok fuel mk en offset st false = .ok (o, st')) : StepOK lo st o st' := by
  rcases linkRule_inv h with ⟨rfl, hpl⟩ | ⟨res, st1, st3, ⟨rx, ry⟩, hpl, htok, _, hr, hnu, rfl, rfl⟩
  · exact stepOK_calm hi (parseLink_calm hq hpl) (parseLink_pos hpl)
  · have hc := parseLink_calm hq hpl
    have hp := parseLink_pos hpl
    obtain ⟨lo', hlo'⟩ := C05.translate_total st1.srcmap (by rw [hc.srcmap]; exact hm.wf) res.labelStart
    obtain ⟨hs3, hm3, hri3⟩ := ht lo'
      { st1 with children := [], bottoms := [], linkLevel := st1.linkLevel + 1,
                 level := st1.level + 1, pos := res.labelStart, posMax := res.labelEnd }
      st3 hc.src hc.srcmap rfl htok hlo'
    have hs3' : st3.src = st1.src := hs3
    have hm3' : st3.srcmap = st1.srcmap := hm3
    obtain ⟨e1, e2, hle⟩ := getMap_eq hr
    rw [hm3', hc.srcmap] at e1 e2
    obtain ⟨h3, hh3, hord3⟩ := hri3.ord
    rw [hm3', hc.srcmap] at hh3
    rw [hc.srcmap] at hlo'
    refine ⟨by simp only; rw [hs3']; exact hc.src, by simp only; rw [hm3']; exact hc.srcmap, ?_,
      by intro hh; simp at hh⟩
    simp only [Option.getD_some]
    have epos : st3.pos + (res.endPos - st3.pos) = res.endPos := by omega
    rw [epos, hc.children]
    -- children of the new node lie inside its range
    have hls := parseLink_labelStart hpl
    have hlo1 := hm.le (by omega : st.pos ≤ res.labelStart) e1 hlo'
    have hhi1 := hm.le hnu hh3 e2
    have hwr : WellRanged (Node.mk (mk (res.href.getD []) res.title) (some (rx, ry)) st3.children) := by
      rw [WellRanged_eq]
      exact ⟨⟨rx, ry, rfl, hm.le hle e1 e2, hord3.widen hlo1 hhi1⟩, hri3.deep⟩
    exact RI.push hi e1 e2 rfl (Nat.le_refl _) (hm.le hle e1 e2) (Nat.le_refl _) hwr
      (mk_not_text hmk _ _ _ _) (hmk2 _ _ _ _)

/-- an empty frame that starts at the translated cursor -/
theorem rinv_fresh {lo : Nat} {s : IState} (hc : s.children = [])
    (hlo : getSourcePosFor s.srcmap s.pos = .ok lo) : RInv lo s := by
  unfold RInv
  rw [hc]
  exact ⟨⟨lo, hlo, Nat.le_refl _⟩, trivial, markersOK_nil, by intro init last hcs; simp at hcs⟩

theorem linkRule_ranges {cfg : Cfg} {skip tok : IState → Except Panic IState} (hq : CalmFn skip)
    (ht : RangesFn tok) {fuel : Nat} {mk : List Nat → Option (List Char) → Val}
    (hmk : ∀ u t, ∀ c, mk u t ≠ .text c) (hmk2 : ∀ u t r cs, (Node.mk (mk u t) r cs).asMarker = none)
    {en : Bool} {offset : Nat} {lo : Nat} {st : IState} {o : Option Nat} {st' : IState}
    (hm : MapOK st.src st.srcmap) (hi : RInv lo st)
    (h : linkRule cfg skip tok fuel mk en offset st false = .ok (o, st')) : StepOK lo st o st' :=
  linkRule_ri hq hmk hmk2 hm.mapMono hi
    (fun lo' s s' e1 e2 hc hs hlo => ht lo' s s' (by rw [e1, e2]; exact hm) hs (rinv_fresh hc hlo)) h

theorem runRule_ranges {cfg : Cfg} {skip tok : IState → Except Panic IState} (hq : CalmFn skip)
    (ht : RangesFn tok) {fuel : Nat} {id : RuleId} {lo : Nat} {st : IState} {o : Option Nat}
    {st' : IState} (hm : MapOK st.src st.srcmap) (hi : RInv lo st)
    (h : runRule cfg skip tok fuel id st false = .ok (o, st')) : StepOK lo st o st' := by
  unfold runRule at h
  cases id with
  | text =>
    have h' := liftR_ok.mp h
    exact StepOK.ofSimple (ruleText_simple h') (ruleText_ranges hm hi h')
  | newline =>
    have h' := liftR_ok.mp h
    exact StepOK.ofSimple (ruleNewline_simple h') (ruleNewline_ranges hm hi h')
  | escape =>
    have h' := liftR_ok.mp h
    exact StepOK.ofSimple (ruleEscape_simple h') (ruleEscape_ranges hm hi h')
  | backticks =>
    have h' := liftR_ok.mp h
    exact StepOK.ofSimple (ruleBackticks_simple h') (ruleBackticks_ranges hm hi h')
  | emph mk csw =>
    have h' := liftR_ok.mp h
    exact StepOK.ofSimple (ruleEmph_simple h') (ruleEmph_ranges hm hi h')
  | link =>
    rcases ruleLink_ok h with ⟨rfl, rfl⟩ | ⟨_, _, h⟩
    · exact stepOK_calm hi (Calm.refl _) rfl
    · exact linkRule_ranges hq ht (by intro u t c hc; cases hc) (by intro u t r cs; rfl) hm hi h
  | image =>
    rcases ruleImage_ok h with ⟨rfl, rfl⟩ | ⟨_, _, h⟩
    · exact stepOK_calm hi (Calm.refl _) rfl
    · exact linkRule_ranges hq ht (by intro u t c hc; cases hc) (by intro u t r cs; rfl) hm hi h
  | linkEnd =>
    simp only [Except.ok.injEq, Prod.mk.injEq] at h; obtain ⟨rfl, rfl⟩ := h
    exact stepOK_calm hi (Calm.refl _) rfl
  | autolink =>
    have h' := liftR_ok.mp h
    exact StepOK.ofSimple (ruleAutolink_simple h') (ruleAutolink_ranges hm hi h')
  | entity =>
    have h' := liftR_ok.mp h
    exact StepOK.ofSimple (ruleEntity_simple h') (ruleEntity_ranges hm hi h')

/-- the chain keeps the frame invariant when its members do, over any rule runner -/
theorem firstRuleG_ranges {ι : Type} {run : ι → IState → RuleRes} {lo : Nat}
    (hrun : ∀ id s o s', MapOK s.src s.srcmap → RInv lo s → run id s = .ok (o, s') → StepOK lo s o s') :
    ∀ (rules : List ι) (st : IState) (o : Option Nat) (st' : IState),
      MapOK st.src st.srcmap → RInv lo st → firstRuleG run rules st = .ok (o, st') →
      StepOK lo st o st' :=
  fun rules st o st' hm hi h =>
    firstRuleG_induct (Pre := fun s => MapOK s.src s.srcmap ∧ RInv lo s)
      (Post := fun s r => ∀ o s', r = .ok (o, s') → StepOK lo s o s')
      (fun s hs o s' h => by cases h; exact stepOK_calm hs.2 (Calm.refl _) rfl)
      (fun s s1 r hs h1 => ⟨⟨(h1 _ _ rfl).mapOK hs.1, (h1 _ _ rfl).rinv⟩,
        fun h2 o s' h => (h1 _ _ rfl).trans (h2 o s' h)⟩)
      rules (fun id _ s hs o s' h => hrun id s o s' hs.1 hs.2 h) st ⟨hm, hi⟩ o st' h

/-- one iteration of the tokenizer loop keeps the frame invariant, over any rule runner -/
theorem tokStepG_ranges {ι : Type} {mx : Nat} {chain : List ι} {run : ι → IState → Bool → RuleRes}
    {lo : Nat}
    (hrun : ∀ id s o s', MapOK s.src s.srcmap → RInv lo s → run id s false = .ok (o, s') → StepOK lo s o s')
    {st st' : IState} (hm : MapOK st.src st.srcmap) (hi : RInv lo st)
    (h : tokStepG mx chain run st = .ok st') :
    st'.src = st.src ∧ st'.srcmap = st.srcmap ∧ RInv lo st' := by
  refine (tri_iff.mp (tokStepG_tri (E := fun _ => True) (C := fun x => StepOK lo st x.1 x.2)
    (Q := fun st' => st'.src = st.src ∧ st'.srcmap = st.srcmap ∧ RInv lo st')
    (fun _ => tri_iff.mpr ⟨fun _ _ => trivial, fun x hx => firstRuleG_ranges hrun _ _ _ _ hm hi hx⟩)
    (fun _ => stepOK_calm hi (Calm.refl _) rfl) ?_ ?_)).2 _ h
  · intro len st1 s1
    refine ⟨s1.src, s1.srcmap, ?_⟩
    have := s1.ri
    simp only [Option.getD_some] at this
    unfold RInv; simp only; rw [s1.src, s1.srcmap]; exact this
  · intro st1 s1
    refine tri_iff.mpr ⟨fun _ _ => trivial, fun st2 h2 => ?_⟩
    unfold charStep at h2
    split at h2
    · cases h2
    · split at h2
      · cases h2
      · next hp =>
        cases h2
        have hp' := liftR_ok.mp hp
        have := fallback_ranges (s1.mapOK hm) s1.rinv hp'
        obtain ⟨cs, _, rfl⟩ := pushText_eq hp'
        exact ⟨s1.src, s1.srcmap, this⟩

namespace Eng

/-- **`tokenize` keeps the range invariant of its frame** (whatever frame it is called for), for every
    copy of the tokenizer -/
theorem ranges {ι : Type} (E : Eng ι) (g : Bool) (hid : E.enter = id)
    (hcalm : ∀ {skip tok fuel r s o s'}, CalmFn skip → E.run skip tok fuel r s true = .ok (o, s') →
      Calm s s')
    (hrun : ∀ {skip tok fuel r lo s o s'}, CalmFn skip → RangesFn tok → MapOK s.src s.srcmap → RInv lo s →
      E.run skip tok fuel r s false = .ok (o, s') → StepOK lo s o s') : ∀ fuel : Nat,
    ∀ (e lo : Nat) (st st' : IState), MapOK st.src st.srcmap → E.tokLoop g fuel e st = .ok st' →
      RInv lo st → st'.src = st.src ∧ st'.srcmap = st.srcmap ∧ RInv lo st' := fun fuel e lo st st' hm h hi =>
  E.tokLoop_rel g (R := fun _ s s' => ∀ lo, MapOK s.src s.srcmap → RInv lo s →
      s'.src = s.src ∧ s'.srcmap = s.srcmap ∧ RInv lo s')
    (fun _ _ _ _ hi => ⟨rfl, rfl, hi⟩)
    (fun h1 h2 lo hm hi => by
      obtain ⟨a, b, c⟩ := h1 lo hm hi
      obtain ⟨a', b', c'⟩ := h2 lo (by rw [a, b]; exact hm) c
      exact ⟨a'.trans a, b'.trans b, c'⟩)
    (fun f _ st st1 ih _ hs lo hm hi =>
      tokStepG_ranges (fun r s o s' hms his hrr => hrun (E.skipToken_calm g hcalm f)
        (by rw [hid]; exact fun lo s s' hms hr his => ih _ s s' hr lo hms his) hms his hrr) hm hi hs)
    fuel e st st' h lo hm hi

end Eng

/-- **the frame invariant through the whole tokenizer** (partial correctness, any fuel) -/
theorem ranges_induction (cfg : Cfg) : ∀ fuel : Nat,
    ∀ (e lo : Nat) (st st' : IState), MapOK st.src st.srcmap → tokLoop cfg fuel e st = .ok st' →
      RInv lo st → st'.src = st.src ∧ st'.srcmap = st.srcmap ∧ RInv lo st' := by
  intro fuel e lo st st' hm h hi
  rw [(engM cfg fuel).1] at h
  exact (Eng.base cfg).ranges false rfl (fun hq h => runRule_silent_calm hq h)
    (fun hq ht hm hi h => runRule_ranges hq ht hm hi h) fuel e lo st st' hm h hi

end MdIt.Inline

namespace MdIt.Inline

/-- ordered inside `[lo, hi]` and well ranged below -/
def OD (lo hi : Nat) (l : List Node) : Prop := OrderedN lo hi l ∧ WellRangedList l

theorem wellRanged_val (n : Node) (v : Val) : WellRanged { n with val := v } ↔ WellRanged n := by
  rw [WellRanged_eq, WellRanged_eq]

theorem markerToText_range (n : Node) : (markerToText n).range = n.range := by
  unfold markerToText; split <;> rfl

theorem markerToText_wellRanged (n : Node) (h : WellRanged n) : WellRanged (markerToText n) := by
  unfold markerToText
  split
  · exact (wellRanged_val n _).mpr h
  · exact h

theorem od_pass1 {lo hi : Nat} {l : List Node} (h : OD lo hi l) : OD lo hi (pass1 l) := by
  induction l generalizing lo with
  | nil => exact h
  | cons n r ih =>
    obtain ⟨⟨a, b, h1, h2, h3, h4⟩, hw⟩ := h
    have := ih ⟨h4, hw.2⟩
    exact ⟨⟨a, b, by rw [markerToText_range]; exact h1, h2, h3, this.1⟩,
      ⟨markerToText_wellRanged n hw.1, this.2⟩⟩

theorem keep_emptied (n : Node) : keep (emptied n) = false := by
  unfold keep emptied Node.isText Node.content; rfl

theorem od_filter_mergeLoop (lo hi : Nat) (cur : Node) (rest : List Node)
    (h : OD lo hi (cur :: rest)) : OD lo hi ((mergeLoop cur rest).filter keep) := by
  induction rest generalizing lo cur with
  | nil =>
    obtain ⟨⟨a, b, h1, h2, h3, h4⟩, hw⟩ := h
    simp only [mergeLoop, List.filter_cons, List.filter_nil]
    split
    · exact ⟨⟨a, b, h1, h2, h3, h4⟩, hw⟩
    · simp only [OrderedN] at h4
      exact ⟨by simp only [OrderedN]; omega, trivial⟩
  | cons nxt rest ih =>
    obtain ⟨⟨a, b, h1, h2, h3, c, d, h5, h6, h7, h8⟩, hw⟩ := h
    simp only [mergeLoop]
    split
    · rw [List.filter_cons_of_neg (by rw [keep_emptied]; simp)]
      apply ih
      refine ⟨⟨a, d, ?_, h2, by omega, h8⟩, ?_, hw.2.2⟩
      · simp [merged, h1, h5]
      · -- the merged node keeps the children of `cur`, inside a wider range
        have hc := hw.1
        rw [WellRanged_eq] at hc ⊢
        obtain ⟨⟨a', b', hr, hab, hord⟩, hdeep⟩ := hc
        rw [h1] at hr; simp only [Option.some.injEq, Prod.mk.injEq] at hr
        obtain ⟨rfl, rfl⟩ := hr
        refine ⟨⟨a, d, by simp [merged, h1, h5], by omega, ?_⟩, hdeep⟩
        exact hord.widen (Nat.le_refl _) (by omega)
    · have hrec := ih b nxt ⟨⟨c, d, h5, h6, h7, h8⟩, hw.2⟩
      simp only [List.filter_cons]
      split
      · exact ⟨⟨a, b, h1, h2, h3, hrec.1⟩, ⟨hw.1, hrec.2⟩⟩
      · exact ⟨hrec.1.widen (by omega) (Nat.le_refl _), hrec.2⟩

/-- `fragments_join` keeps a sibling list ordered inside the parent's interval and well ranged -/
theorem od_fragmentsJoinN {lo hi : Nat} {cs : List Node} (h : OD lo hi cs) :
    OD lo hi (fragmentsJoinN cs) := by
  unfold fragmentsJoinN
  have := od_pass1 h
  cases hp : pass1 cs with
  | nil => rw [hp] at this; simpa [mergeAll] using this
  | cons c r => rw [hp] at this; exact od_filter_mergeLoop lo hi c r this

theorem joinNodeN_range (n : Node) : (joinNodeN n).range = n.range := by rw [joinNodeN_eq]

theorem orderedN_joinListN {lo hi : Nat} {l : List Node} (h : OrderedN lo hi l) :
    OrderedN lo hi (joinListN l) := by
  induction l generalizing lo with
  | nil => rw [joinListN_nil]; exact h
  | cons c cs ih =>
    rw [joinListN_cons]
    obtain ⟨a, b, h1, h2, h3, h4⟩ := h
    exact ⟨a, b, by rw [joinNodeN_range]; exact h1, h2, h3, ih h4⟩

theorem wellRangedList_joinListN {l : List Node} (hn : ∀ x ∈ l, WellRanged x → WellRanged (joinNodeN x))
    (h : WellRangedList l) : WellRangedList (joinListN l) := by
  rw [joinListN_eq_map]
  rw [wellRangedList_iff] at h ⊢
  intro y hy
  obtain ⟨x, hx, rfl⟩ := List.mem_map.mp hy
  exact hn x hx (h x hx)

theorem wellRanged_joinNodeN (n : Node) : WellRanged n → WellRanged (joinNodeN n) := by
  induction n using joinNodeN_induct with
  | step n ih =>
    intro h
    rw [WellRanged_eq] at h ⊢
    rw [joinNodeN_range, joinNodeN_children]
    obtain ⟨⟨a, b, hr, hab, hord⟩, hdeep⟩ := h
    have hod := od_fragmentsJoinN (lo := a) (hi := b) ⟨hord, hdeep⟩
    exact ⟨⟨a, b, hr, hab, orderedN_joinListN hod.1⟩, wellRangedList_joinListN ih hod.2⟩

theorem od_finish_join {lo hi : Nat} {cs : List Node} (h : OD lo hi cs) :
    OD lo hi (joinAllN (rootOf cs)).children := by
  unfold joinAllN
  rw [joinNodeN_children]
  have hod := od_fragmentsJoinN h
  exact ⟨orderedN_joinListN hod.1, wellRangedList_joinListN (fun x _ => wellRanged_joinNodeN x) hod.2⟩

end MdIt.Inline
