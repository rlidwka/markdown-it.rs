/-
  The two functions of the link rule that call back into the parser, as equations.

  `parse_link_label` (`Inline.labelLoop`): the loop body behind the `skip_token` call is named
  (`labelAfter`, with the rest of the walk as a continuation), so that a proof about the walk reads the
  body once (`labelAfter_cases`, `labelAfter_congr`, `labelAfter_rel`) instead of unfolding and splitting
  `labelLoop` again.

  `full_link::rule` (`Inline.linkRule`): the state handed to the nested `tokenize` (`linkNested`) and
  what happens behind that call (`linkClose`) are named; `linkRule_none` … `linkRule_real` rewrite a call
  once the outcome of `parse_link` is known; `ruleLink_ok` / `ruleImage_ok` say when the scanners in front
  (`ruleLink`, `ruleImage`) reach it.
-/
import MdIt.Lemmas.InlineInduct

namespace MdIt.Inline

/-- the body of the `parse_link_label` loop behind a `skip_token` call from `prevPos` that ended in
    `st'`; `k` is the rest of the walk -/
def labelAfter (en : Bool) (ch : Char) (level : Int) (prevPos : Nat) (st' : IState)
    (k : Int → IState → Except Panic (Option Bool × IState)) : Except Panic (Option Bool × IState) :=
  let level := if ch = ']' then level - 1 else level
  if ch = '[' then
    if st'.pos = 0 then .error (.rust .underflow)
    else if prevPos = st'.pos - 1 then k (level + 1) st'
    else if !en then .ok (none, st')
    else k level st'
  else k level st'

theorem labelLoop_nil {skip : IState → Except Panic IState} {en : Bool} {n : Nat} {level : Int}
    {st : IState} (hw : st.window = .ok []) : labelLoop skip en (n + 1) level st = .ok (some false, st) := by
  simp only [labelLoop, hw, liftR]

theorem labelLoop_error {skip : IState → Except Panic IState} {en : Bool} {n : Nat} {level : Int}
    {st : IState} {e : Panic} (hw : liftR st.window = .error e) :
    labelLoop skip en (n + 1) level st = .error e := by
  simp only [labelLoop, hw]

theorem labelLoop_cons {skip : IState → Except Panic IState} {en : Bool} {n : Nat} {level : Int}
    {st : IState} {ch : Char} {rest : List Char} (hw : st.window = .ok (ch :: rest)) :
    labelLoop skip en (n + 1) level st =
      if ch = ']' ∧ level - 1 = 0 then .ok (some true, st)
      else
        match skip st with
        | .error e => .error e
        | .ok st' => labelAfter en ch level st.pos st' (labelLoop skip en n) := by
  simp only [labelLoop, hw, liftR]
  rfl

/-- behind the call the loop fails on `pos - 1` at `pos = 0`, gives up on a nested `[…]` it may not
    enter, or goes on -/
theorem labelAfter_cases (en : Bool) (ch : Char) (level : Int) (prevPos : Nat) (st' : IState)
    (k : Int → IState → Except Panic (Option Bool × IState)) :
    labelAfter en ch level prevPos st' k = .error (.rust .underflow) ∨
    labelAfter en ch level prevPos st' k = .ok (none, st') ∨
    ∃ l, labelAfter en ch level prevPos st' k = k l st' := by
  unfold labelAfter
  simp only
  by_cases h1 : ch = '['
  · simp only [if_pos h1]
    by_cases h2 : st'.pos = 0
    · exact .inl (if_pos h2)
    · simp only [if_neg h2]
      by_cases h3 : prevPos = st'.pos - 1
      · exact .inr (.inr ⟨_, if_pos h3⟩)
      · simp only [if_neg h3]
        by_cases h4 : (!en) = true
        · exact .inr (.inl (if_pos h4))
        · exact .inr (.inr ⟨_, if_neg h4⟩)
  · exact .inr (.inr ⟨_, if_neg h1⟩)

/-- the continuation is only ever called on `st'` -/
theorem labelAfter_congr {en : Bool} {ch : Char} {level : Int} {prevPos : Nat} {st' : IState}
    {k k' : Int → IState → Except Panic (Option Bool × IState)} (h : ∀ l, k l st' = k' l st') :
    labelAfter en ch level prevPos st' k = labelAfter en ch level prevPos st' k' := by
  unfold labelAfter
  simp only [h]

/-- two walks in lock-step: the bodies take the same branch when the two calls ended at the same
    position, so a relation between results passes from the continuations to the bodies -/
theorem labelAfter_rel {en : Bool} {ch : Char} {level : Int} {prevPos : Nat} {a b : IState}
    {k k' : Int → IState → Except Panic (Option Bool × IState)}
    {R : Option Bool × IState → Except Panic (Option Bool × IState) → Prop} (hp : b.pos = a.pos)
    (hnone : R (none, a) (.ok (none, b))) (hk : ∀ l r, k l a = .ok r → R r (k' l b))
    {r : Option Bool × IState} (h : labelAfter en ch level prevPos a k = .ok r) :
    R r (labelAfter en ch level prevPos b k') := by
  unfold labelAfter at h ⊢
  simp only [hp] at h ⊢
  by_cases h1 : ch = '['
  · rw [if_pos h1] at h ⊢
    by_cases h2 : a.pos = 0
    · rw [if_pos h2] at h; cases h
    · rw [if_neg h2] at h ⊢
      by_cases h3 : prevPos = a.pos - 1
      · rw [if_pos h3] at h ⊢; exact hk _ _ h
      · rw [if_neg h3] at h ⊢
        by_cases h4 : (!en) = true
        · rw [if_pos h4] at h ⊢; cases h; exact hnone
        · rw [if_neg h4] at h ⊢; exact hk _ _ h
  · rw [if_neg h1] at h ⊢; exact hk _ _ h

/-! ## the link rule -/

/-- the state the link rule hands to the nested `tokenize` -/
abbrev linkNested (st1 : IState) (res : LinkRes) : IState :=
  { st1 with children := [], bottoms := [], linkLevel := st1.linkLevel + 1,
             level := st1.level + 1, pos := res.labelStart, posMax := res.labelEnd }

/-- the link rule behind the nested `tokenize` call that ended in `st3`: `level -= 1`, the node with
    the range `get_map(start, end)`, `link_level -= 1` -/
def linkClose (mk : List Nat → Option (List Char) → Val) (start : Nat) (res : LinkRes)
    (st1 st3 : IState) : RuleRes :=
  if st3.level = 0 then .error (.rust .underflow)
  else
    match liftR (st3.getMap start res.endPos) with
    | .error e => .error e
    | .ok r =>
      let node : Node :=
        { val := mk (res.href.getD []) res.title, range := some r, children := st3.children }
      let st4 : IState :=
        { st3 with level := st3.level - 1, posMax := st1.posMax, children := st1.children ++ [node],
                   bottoms := st1.bottoms, linkLevel := st3.linkLevel - 1 }
      if res.endPos < st4.pos then .error (.rust .underflow)
      else .ok (some (res.endPos - st4.pos), st4)

section
variable {cfg : Cfg} {skip tok : IState → Except Panic IState} {fuel : Nat}
  {mk : List Nat → Option (List Char) → Val} {en : Bool} {offset : Nat} {st st1 : IState}

theorem linkRule_error {silent : Bool} {e : Panic}
    (hp : parseLink cfg skip fuel st (st.pos + offset) en = .error e) :
    linkRule cfg skip tok fuel mk en offset st silent = .error e := by
  simp only [linkRule, hp]

theorem linkRule_none {silent : Bool}
    (hp : parseLink cfg skip fuel st (st.pos + offset) en = .ok (none, st1)) :
    linkRule cfg skip tok fuel mk en offset st silent = .ok (none, st1) := by
  simp only [linkRule, hp]

theorem linkRule_silent {res : LinkRes}
    (hp : parseLink cfg skip fuel st (st.pos + offset) en = .ok (some res, st1)) :
    linkRule cfg skip tok fuel mk en offset st true =
      if res.endPos < st1.pos then .error (.rust .underflow)
      else .ok (some (res.endPos - st1.pos), st1) := by
  simp only [linkRule, hp, if_true]

theorem linkRule_real {res : LinkRes}
    (hp : parseLink cfg skip fuel st (st.pos + offset) en = .ok (some res, st1)) :
    linkRule cfg skip tok fuel mk en offset st false =
      match tok (linkNested st1 res) with
      | .error e => .error e
      | .ok st3 => linkClose mk st.pos res st1 st3 := by
  simp only [linkRule, hp, Bool.false_eq_true, if_false]
  rfl

end

theorem linkClose_ok {mk : List Nat → Option (List Char) → Val} {start : Nat} {res : LinkRes}
    {st1 st3 s : IState} {o : Option Nat} (h : linkClose mk start res st1 st3 = .ok (o, s)) :
    st3.level ≠ 0 ∧ st3.pos ≤ res.endPos ∧ o = some (res.endPos - st3.pos) ∧
    ∃ r, liftR (st3.getMap start res.endPos) = .ok r ∧
      s = { st3 with level := st3.level - 1, posMax := st1.posMax,
                     children := st1.children ++
                       [{ val := mk (res.href.getD []) res.title, range := some r, children := st3.children }],
                     bottoms := st1.bottoms, linkLevel := st3.linkLevel - 1 } := by
  unfold linkClose at h
  by_cases h0 : st3.level = 0
  · rw [if_pos h0] at h; cases h
  · rw [if_neg h0] at h
    cases hg : liftR (st3.getMap start res.endPos) with
    | error e => rw [hg] at h; cases h
    | ok r =>
      rw [hg] at h
      simp only at h
      by_cases hu : res.endPos < st3.pos
      · rw [if_pos hu] at h; cases h
      · rw [if_neg hu] at h
        simp only [Except.ok.injEq, Prod.mk.injEq] at h
        exact ⟨h0, by omega, h.1.symm, r, rfl, h.2.symm⟩

/-- success of `full_link::rule`: `parse_link` ran; it declined, or (look-ahead) its end is reported, or
    (real mode) the nested `tokenize` ran over the label and `linkClose` built the node -/
theorem linkRule_ok {cfg : Cfg} {skip tok : IState → Except Panic IState} {fuel : Nat}
    {mk : List Nat → Option (List Char) → Val} {en : Bool} {offset : Nat} {st : IState} {silent : Bool}
    {o : Option Nat} {st' : IState}
    (h : linkRule cfg skip tok fuel mk en offset st silent = .ok (o, st')) :
    ∃ r st1, parseLink cfg skip fuel st (st.pos + offset) en = .ok (r, st1) ∧
      ((r = none ∧ o = none ∧ st' = st1) ∨
       ∃ res, r = some res ∧
        ((silent = true ∧ st1.pos ≤ res.endPos ∧ o = some (res.endPos - st1.pos) ∧ st' = st1) ∨
         (silent = false ∧ ∃ st3, tok (linkNested st1 res) = .ok st3 ∧
            linkClose mk st.pos res st1 st3 = .ok (o, st')))) := by
  cases hp : parseLink cfg skip fuel st (st.pos + offset) en with
  | error e => rw [linkRule_error hp] at h; cases h
  | ok p =>
    obtain ⟨_ | res, st1⟩ := p
    · rw [linkRule_none hp] at h; cases h
      exact ⟨none, _, rfl, .inl ⟨rfl, rfl, rfl⟩⟩
    · refine ⟨some res, st1, rfl, .inr ⟨res, rfl, ?_⟩⟩
      cases silent with
      | true =>
        rw [linkRule_silent hp] at h
        by_cases hu : res.endPos < st1.pos
        · rw [if_pos hu] at h; cases h
        · rw [if_neg hu] at h; cases h; exact .inl ⟨rfl, by omega, rfl, rfl⟩
      | false =>
        rw [linkRule_real hp] at h
        cases ht : tok (linkNested st1 res) with
        | error e => rw [ht] at h; cases h
        | ok st3 => rw [ht] at h; exact .inr ⟨rfl, st3, rfl, h⟩

/-- an error behind the nested `tokenize` call is a Rust panic -/
theorem linkClose_error {mk : List Nat → Option (List Char) → Val} {start : Nat} {res : LinkRes}
    {st1 st3 : IState} {e : Panic} (h : linkClose mk start res st1 st3 = .error e) : ∃ r, e = .rust r := by
  unfold linkClose at h
  split at h
  · cases h; exact ⟨_, rfl⟩
  · split at h
    · next he => cases h; exact liftR_error he
    · simp only at h
      split at h <;> cases h
      exact ⟨_, rfl⟩

/-! ## the two scanners in front of the link rule -/

section
variable {cfg : Cfg} {skip tok : IState → Except Panic IState} {fuel : Nat} {st st' : IState}
  {silent : Bool} {o : Option Nat}

theorem ruleLink_eq {r : List Char} (hw : st.window = .ok ('[' :: r)) :
    ruleLink cfg skip tok fuel st silent = linkRule cfg skip tok fuel Val.link false 0 st silent := by
  simp only [ruleLink, hw, liftR, ne_eq, not_true_eq_false, if_false]

theorem ruleImage_eq {r : List Char} (hw : st.window = .ok ('!' :: '[' :: r)) :
    ruleImage cfg skip tok fuel st silent = linkRule cfg skip tok fuel Val.image true 1 st silent := by
  simp only [ruleImage, hw, liftR]
/-- a successful `LinkScanner::run` declined at a first character other than `[`, or is `linkRule` -/
theorem ruleLink_ok (h : ruleLink cfg skip tok fuel st silent = .ok (o, st')) :
    (o = none ∧ st' = st) ∨
    ∃ r, st.window = .ok ('[' :: r) ∧ linkRule cfg skip tok fuel Val.link false 0 st silent = .ok (o, st') := by
  revert h
  fun_cases ruleLink cfg skip tok fuel st silent with
  | case1 | case2 => intro h; cases h
  | case3 => intro h; cases h; exact .inl ⟨rfl, rfl⟩
  | case4 c r hw hc => intro h; cases Decidable.not_not.mp hc; exact .inr ⟨r, liftR_ok.mp hw, h⟩

/-- a successful `LinkPrefixScanner<'!'>::run` declined at first characters other than `![`, or is
    `linkRule` behind the `!` -/
theorem ruleImage_ok (h : ruleImage cfg skip tok fuel st silent = .ok (o, st')) :
    (o = none ∧ st' = st) ∨
    ∃ r, st.window = .ok ('!' :: '[' :: r) ∧
      linkRule cfg skip tok fuel Val.image true 1 st silent = .ok (o, st') := by
  revert h
  fun_cases ruleImage cfg skip tok fuel st silent with
  | case1 => intro h; cases h
  | case2 r hw => intro h; exact .inr ⟨r, liftR_ok.mp hw, h⟩
  | case3 => intro h; cases h; exact .inl ⟨rfl, rfl⟩

end
end MdIt.Inline
