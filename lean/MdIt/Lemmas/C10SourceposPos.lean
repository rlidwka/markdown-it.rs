/-
  C10 with the sourcepos plugin: line:column positions under the three rewritings.

  `get_position(o)` of a text is the state of the fold `runSt 1 0 src (o + 1)` (Props/C15.lean +
  Lemmas/SourceMap.lean: `getPosition_spec`, `spec_is_fold`) — line and column after the characters
  that start at a byte offset `≤ o`.  About that fold:

    runSt_lfToCr      '\r' ∉ src →  runSt l c (lfToCr src) n = runSt l c src n                (ALL n)
    runSt_append_left n ≤ |a|, no CR LF across the seam →  runSt l c (a ++ b) n = runSt l c a n
    runSt_lfToCrlf    '\r' ∉ src →  runSt l c (lfToCrlf src) (n + lfBelow src n) = runSt l c src n   (ALL n)

  and the consequences for `get_position` / `get_positions`.
-/
import MdIt.Props.C15
import MdIt.Lemmas.Lines
import MdIt.Lemmas.C10SourceposDefs

namespace MdIt.C10SP
open MdIt.SourceMap
open MdIt.Lines (lfToCr lfToCrlf)

theorem getPosition_run (src : List Char) (o : Nat) :
    getPosition src (mkMarks src) o = .ok (runSt 1 0 src (o + 1)) := by
  rw [getPosition_spec, spec_is_fold]

/-- the offset `get_positions` reads the end position at -/
def endOff (b : Nat) : Nat := if b > 0 then b - 1 else b

theorem getPositions_run (src : List Char) (r : Nat × Nat) :
    getPositions src (mkMarks src) r =
      .ok (runSt 1 0 src (r.1 + 1), runSt 1 0 src (endOff r.2 + 1)) := by
  unfold getPositions
  simp only [getPosition_run, endOff]

theorem runSt_lfToCr (src : List Char) (h : '\r' ∉ src) (l c n : Nat) :
    runSt l c (lfToCr src) n = runSt l c src n := by
  induction src generalizing l c n with
  | nil => simp [lfToCr]
  | cons ch r ih =>
    have hr : '\r' ∉ r := fun hm => h (List.mem_cons_of_mem _ hm)
    have hch : ch ≠ '\r' := fun e => h (by simp [e])
    by_cases hn : n = 0
    · subst hn; simp
    · by_cases hc : ch = '\n'
      · subst hc
        have e1 : isEnd '\r' (lfToCr r).head? := .inr ⟨rfl, Lines.lfToCr_head r⟩
        have e2 : isEnd '\n' r.head? := .inl rfl
        simp only [lfToCr, if_true, runSt, hn, if_false, e1, e2, utf8Size_cr, utf8Size_lf]
        exact ih hr _ _ _
      · have e1 : ¬ isEnd ch (lfToCr r).head? := by
          intro hh; rcases hh with hh | ⟨hh, _⟩
          · exact hc hh
          · exact hch hh
        have e2 : ¬ isEnd ch r.head? := by
          intro hh; rcases hh with hh | ⟨hh, _⟩
          · exact hc hh
          · exact hch hh
        simp only [lfToCr, if_neg hc, runSt, hn, if_false, e1, e2]
        exact ih hr _ _ _

/-- **LF ↦ CR: every offset has the same position.** -/
theorem getPositions_lfToCr (src : List Char) (h : '\r' ∉ src) (r : Nat × Nat) :
    getPositions (lfToCr src) (mkMarks (lfToCr src)) r = getPositions src (mkMarks src) r := by
  rw [getPositions_run, getPositions_run, runSt_lfToCr src h, runSt_lfToCr src h]

theorem runSt_append_left (a b : List Char) (l c n : Nat) (hn : n ≤ byteLen a)
    (hseam : a.getLast? ≠ some '\r' ∨ b.head? ≠ some '\n') :
    runSt l c (a ++ b) n = runSt l c a n := by
  induction a generalizing l c n with
  | nil =>
    have : n = 0 := by simpa [byteLen] using hn
    subst this; simp
  | cons ch r ih =>
    by_cases hn0 : n = 0
    · subst hn0; simp
    · have hp := Char.utf8Size_pos ch
      simp only [byteLen] at hn
      by_cases hr : r = []
      · subst hr
        -- `ch` is the last character of `a`: everything behind it is beyond `n`
        have hle : n - ch.utf8Size = 0 := by simp only [byteLen] at hn; omega
        simp only [List.nil_append, List.cons_append, runSt, hn0, if_false, hle, runSt_zero]
        have : (isEnd ch b.head?) ↔ (isEnd ch ([] : List Char).head?) := by
          unfold isEnd
          constructor
          · rintro (h | ⟨h1, _⟩)
            · exact .inl h
            · exact .inr ⟨h1, by simp⟩
          · rintro (h | ⟨h1, _⟩)
            · exact .inl h
            · subst h1
              rcases hseam with hs | hs
              · simp at hs
              · exact .inr ⟨rfl, hs⟩
        by_cases he : isEnd ch b.head?
        · rw [if_pos he, if_pos (this.mp he)]
        · rw [if_neg he, if_neg (fun h => he (this.mpr h))]
      · have hhead : (r ++ b).head? = r.head? := by
          cases r with
          | nil => exact absurd rfl hr
          | cons x y => rfl
        have hlast : r.getLast? ≠ some '\r' ∨ b.head? ≠ some '\n' := by
          rcases hseam with hs | hs
          · left; rwa [List.getLast?_cons_of_ne_nil hr] at hs
          · exact .inr hs
        simp only [List.cons_append, runSt, hn0, if_false, hhead]
        split
        · exact ih _ _ _ (by omega) hlast
        · exact ih _ _ _ (by omega) hlast

/-- **a final newline: offsets inside the old text keep their position** -/
theorem getPosition_final_newline (src : List Char) (hlast : src.getLast? ≠ some '\r') (o : Nat)
    (ho : o < byteLen src) :
    getPosition (src ++ ['\n']) (mkMarks (src ++ ['\n'])) o = getPosition src (mkMarks src) o := by
  rw [getPosition_run, getPosition_run, runSt_append_left src ['\n'] 1 0 (o + 1) (by omega) (.inl hlast)]

/-- a range inside the old text: it starts at one of the old bytes and ends at or before the old end -/
def Inside (src : List Char) (r : Nat × Nat) : Prop := r.1 < byteLen src ∧ r.2 ≤ byteLen src

instance (src : List Char) (r : Nat × Nat) : Decidable (Inside src r) := by unfold Inside; infer_instance

theorem getPositions_final_newline (src : List Char) (hlast : src.getLast? ≠ some '\r') (r : Nat × Nat)
    (hin : Inside src r) :
    getPositions (src ++ ['\n']) (mkMarks (src ++ ['\n'])) r = getPositions src (mkMarks src) r := by
  obtain ⟨h1, h2⟩ := hin
  have h3 : endOff r.2 + 1 ≤ byteLen src := by unfold endOff; split <;> omega
  rw [getPositions_run, getPositions_run, runSt_append_left src ['\n'] 1 0 _ (by omega) (.inl hlast),
    runSt_append_left src ['\n'] 1 0 _ h3 (.inl hlast)]

theorem runSt_lfToCrlf (src : List Char) (h : '\r' ∉ src) (l c n : Nat) :
    runSt l c (lfToCrlf src) (n + lfBelow src n) = runSt l c src n := by
  induction src generalizing l c n with
  | nil => simp [lfToCrlf, runSt]
  | cons ch r ih =>
    have hr : '\r' ∉ r := fun hm => h (List.mem_cons_of_mem _ hm)
    have hch : ch ≠ '\r' := fun e => h (by simp [e])
    by_cases hn : n = 0
    · subst hn; simp
    · by_cases hc : ch = '\n'
      · subst hc
        have e0 : ¬ isEnd '\r' (('\n' :: lfToCrlf r).head?) := by
          intro hh; rcases hh with hh | ⟨_, hh⟩
          · exact absurd hh (by decide)
          · simp at hh
        have e1 : isEnd '\n' (lfToCrlf r).head? := .inl rfl
        have e2 : isEnd '\n' r.head? := .inl rfl
        have k1 : n + (1 + lfBelow r (n - 1)) ≠ 0 := by omega
        have k2 : n + (1 + lfBelow r (n - 1)) - 1 ≠ 0 := by omega
        have k3 : n + (1 + lfBelow r (n - 1)) - 1 - 1 = (n - 1) + lfBelow r (n - 1) := by omega
        simp only [lfToCrlf, if_true, lfBelow, hn, if_false, utf8Size_lf]
        rw [runSt, if_neg k1, if_neg e0, utf8Size_cr, runSt, if_neg k2, if_pos e1, utf8Size_lf, k3,
          runSt, if_neg hn, if_pos e2, utf8Size_lf]
        exact ih hr _ _ _
      · have e1 : ¬ isEnd ch (lfToCrlf r).head? := by
          intro hh; rcases hh with hh | ⟨hh, _⟩
          · exact hc hh
          · exact hch hh
        have e2 : ¬ isEnd ch r.head? := by
          intro hh; rcases hh with hh | ⟨hh, _⟩
          · exact hc hh
          · exact hch hh
        have hp := Char.utf8Size_pos ch
        have k1 : n + (0 + lfBelow r (n - ch.utf8Size)) ≠ 0 := by omega
        simp only [lfToCrlf, if_neg hc, lfBelow, hn, if_false]
        rw [runSt, if_neg k1, if_neg e1, runSt, if_neg hn, if_neg e2]
        by_cases hle : ch.utf8Size ≤ n
        · have k3 : n + (0 + lfBelow r (n - ch.utf8Size)) - ch.utf8Size
              = (n - ch.utf8Size) + lfBelow r (n - ch.utf8Size) := by omega
          rw [k3]
          exact ih hr _ _ _
        · -- the offset lies inside the (multi-byte) character: nothing behind it is counted
          have k4 : n - ch.utf8Size = 0 := by omega
          have k5 : n + (0 + lfBelow r (n - ch.utf8Size)) - ch.utf8Size = 0 := by rw [k4]; simp; omega
          rw [k5, k4]
          simp

/-- the byte at offset `a` is not a line feed (past the end included) -/
def NotLf (src : List Char) (a : Nat) : Prop := charAt src a ≠ some '\n'

instance (src : List Char) (a : Nat) : Decidable (NotLf src a) := by unfold NotLf; infer_instance

theorem lfBelow_succ (src : List Char) (a : Nat) (h : NotLf src a) :
    lfBelow src (a + 1) = lfBelow src a := by
  unfold NotLf at h
  induction src generalizing a with
  | nil => simp
  | cons ch r ih =>
    have hp := Char.utf8Size_pos ch
    by_cases ha : a = 0
    · subst ha
      have hc : ch ≠ '\n' := by simpa [charAt] using h
      simp only [lfBelow, if_neg hc]
      simp
      by_cases h1 : 1 - ch.utf8Size = 0
      · rw [h1]; simp
      · omega
    · simp only [lfBelow, ha, if_false, show a + 1 ≠ 0 by omega]
      by_cases hlt : a < ch.utf8Size
      · have k1 : a + 1 - ch.utf8Size = 0 := by omega
        have k2 : a - ch.utf8Size = 0 := by omega
        rw [k1, k2]
      · have k1 : a + 1 - ch.utf8Size = (a - ch.utf8Size) + 1 := by omega
        rw [k1, ih]
        simpa [charAt, ha, hlt] using h

/-- **LF ↦ CR LF, start of a range**: an offset that does not point at a line feed and its image
    have the same position -/
theorem getPosition_crlf_start (src : List Char) (h : '\r' ∉ src) (a : Nat) (ha : NotLf src a) :
    getPosition (lfToCrlf src) (mkMarks (lfToCrlf src)) (a + lfBelow src a) =
      getPosition src (mkMarks src) a := by
  rw [getPosition_run, getPosition_run, ← runSt_lfToCrlf src h 1 0 (a + 1), lfBelow_succ src a ha]
  congr 2; omega

/-- **LF ↦ CR LF, end of a range**: `end - 1` and `end' - 1` have the same position for EVERY
    `end > 0` — also when `end - 1` is a line feed (then `end' - 1` is the LF of the CR LF pair) -/
theorem getPosition_crlf_end (src : List Char) (h : '\r' ∉ src) (b : Nat) (hb : 0 < b) :
    getPosition (lfToCrlf src) (mkMarks (lfToCrlf src)) (endOff (b + lfBelow src b)) =
      getPosition src (mkMarks src) (endOff b) := by
  have e1 : endOff (b + lfBelow src b) + 1 = b + lfBelow src b := by unfold endOff; split <;> omega
  have e2 : endOff b + 1 = b := by unfold endOff; split <;> omega
  rw [getPosition_run, getPosition_run, e1, e2, runSt_lfToCrlf src h]

/-- a range whose start does not point at a line feed and whose end is not 0 -/
def Anchored (src : List Char) (r : Nat × Nat) : Prop := NotLf src r.1 ∧ 0 < r.2

instance (src : List Char) (r : Nat × Nat) : Decidable (Anchored src r) := by unfold Anchored; infer_instance

theorem getPositions_crlf (src : List Char) (h : '\r' ∉ src) (r : Nat × Nat) (hr : Anchored src r) :
    getPositions (lfToCrlf src) (mkMarks (lfToCrlf src)) (r.1 + lfBelow src r.1, r.2 + lfBelow src r.2) =
      getPositions src (mkMarks src) r := by
  have h1 := getPosition_crlf_start src h r.1 hr.1
  have h2 := getPosition_crlf_end src h r.2 hr.2
  rw [getPosition_run, getPosition_run] at h1 h2
  rw [getPositions_run, getPositions_run]
  simp only [Except.ok.injEq] at h1 h2
  rw [h1, h2]

/-- the start hypothesis is needed: in `"a\nb"` the offset 1 is the line feed, position `2:0`; its
    image in `"a\r\nb"` is the CR, position `1:2` -/
example : posIs (getPosition "a\nb".toList (mkMarks "a\nb".toList) 1) (2, 0) = true ∧
    posIs (getPosition "a\r\nb".toList (mkMarks "a\r\nb".toList) 1) (1, 2) = true := by decide +kernel

/-- `Inside` is needed: the end of `"a"` is clamped to `1:1`, in `"a\n"` it is the line feed, `2:0` -/
example : posIs (getPosition "a".toList (mkMarks "a".toList) 1) (1, 1) = true ∧
    posIs (getPosition "a\n".toList (mkMarks "a\n".toList) 1) (2, 0) = true := by decide +kernel

end MdIt.C10SP
