/-
  C10 with the sourcepos plugin: the line tables of `src` and `lfToCrlf src`
  are entrywise `LX.ERel` for the EXACT offset relation `C10SP.crlfRel src` (`b = a + #LF before a`),
  hence the fresh parser states are related (`Sim.srel_fresh`, for every instance of the block simulation) and so
  are the results of the two block passes (`Sim.parseBlocks_rel`).  The `StartRel` of this file asks of every line that
  ALL offsets of the line (its end included) are related at equal distances from the two starts —
  inside a line there is no line feed, so `lfBelow src` is constant there.
-/
import MdIt.Lemmas.C10SourceposSimEngine
import MdIt.Lemmas.C10DocLines

namespace MdIt.C10SP
open MdIt

/-- number of line feeds of a text -/
def lfAll (a : List Char) : Nat := lfBelow a (Lines.byteLen a)

@[simp] theorem lfAll_nil : lfAll [] = 0 := rfl

theorem lfAll_cons (c : Char) (r : List Char) : lfAll (c :: r) = (if c = '\n' then 1 else 0) + lfAll r := by
  have := Lines.utf8Size_pos' c
  unfold lfAll
  rw [Lines.byteLen_cons, lfBelow, if_neg (show ¬ (c.utf8Size + Lines.byteLen r = 0) by omega),
    Nat.add_sub_cancel_left]

theorem lfBelow_append_le : ∀ (a b : List Char) (n : Nat), n ≤ Lines.byteLen a →
    lfBelow (a ++ b) n = lfBelow a n
  | [], b, n, h => by
    simp only [Lines.byteLen_nil, Nat.le_zero_eq] at h
    subst h; simp
  | c :: a, b, n, h => by
    simp only [List.cons_append, lfBelow]
    by_cases h0 : n = 0
    · simp [h0]
    · rw [if_neg h0, if_neg h0, lfBelow_append_le a b _ (by simp only [Lines.byteLen_cons] at h; omega)]

theorem lfBelow_append_ge : ∀ (a b : List Char) (n : Nat),
    lfBelow (a ++ b) (Lines.byteLen a + n) = lfAll a + lfBelow b n
  | [], b, n => by simp
  | c :: a, b, n => by
    have := Lines.utf8Size_pos' c
    rw [List.cons_append, lfBelow, Lines.byteLen_cons, lfAll_cons,
      if_neg (show ¬ (c.utf8Size + Lines.byteLen a + n = 0) by omega),
      show c.utf8Size + Lines.byteLen a + n - c.utf8Size = Lines.byteLen a + n by omega,
      lfBelow_append_ge a b n]
    omega

theorem lfBelow_noLF : ∀ (l : List Char), '\n' ∉ l → ∀ n, lfBelow l n = 0
  | [], _, _ => rfl
  | c :: l, h, n => by
    simp only [lfBelow]
    by_cases h0 : n = 0
    · simp [h0]
    · rw [if_neg h0, if_neg (by intro hc; exact h (by simp [hc])), lfBelow_noLF l (fun hm => h (by simp [hm]))]

theorem lfAll_append (a b : List Char) : lfAll (a ++ b) = lfAll a + lfAll b := by
  have := lfBelow_append_ge a b (Lines.byteLen b)
  unfold lfAll at *
  rw [Lines.byteLen_append]; exact this

theorem lfBelow_in_line (pre l x : List Char) (hl : '\n' ∉ l) (d : Nat) (hd : d ≤ Lines.byteLen l) :
    lfBelow (pre ++ (l ++ x)) (Lines.byteLen pre + d) = lfAll pre := by
  rw [lfBelow_append_ge, lfBelow_append_le l x d hd, lfBelow_noLF l hl]; rfl

end MdIt.C10SP

namespace MdIt.Block.LX
open MdIt.Lines (LineOffset linesT afterLine termOf flat mkOff offsetsOf lfToCrlf lfToCr)
open MdIt.Block.LE

/-- two lists of (line, terminator) pairs laid out from `st₁` / `st₂`: the same lines, and every
    offset of a line (from its start to its end) `ρ`-related to the offset at the same distance -/
def StartRel (ρ : Nat → Nat → Prop) : Nat → Nat → List (List Char × List Char) → List (List Char × List Char) → Prop
  | _, _, [], [] => True
  | st₁, st₂, x :: r₁, y :: r₂ =>
    x.1 = y.1 ∧ (∀ d, d ≤ Lines.byteLen x.1 → ρ (st₁ + d) (st₂ + d)) ∧
      StartRel ρ (st₁ + Lines.byteLen x.1 + Lines.byteLen x.2) (st₂ + Lines.byteLen y.1 + Lines.byteLen y.2) r₁ r₂
  | _, _, [], _ :: _ => False
  | _, _, _ :: _, [] => False

theorem StartRel.length {ρ : Nat → Nat → Prop} : ∀ {st₁ st₂ : Nat} {L₁ L₂ : List (List Char × List Char)},
    StartRel ρ st₁ st₂ L₁ L₂ → L₁.length = L₂.length
  | _, _, [], [], _ => rfl
  | _, _, [], _ :: _, h => by simp [StartRel] at h
  | _, _, _ :: _, [], h => by simp [StartRel] at h
  | _, _, _ :: _, _ :: _, h => by
    simp only [StartRel] at h
    simp [StartRel.length h.2.2]

theorem StartRel.at {ρ : Nat → Nat → Prop} : ∀ {A₁ A₂ : List (List Char × List Char)} {st₁ st₂ : Nat}
    {x y : List Char × List Char} {B₁ B₂ : List (List Char × List Char)},
    StartRel ρ st₁ st₂ (A₁ ++ x :: B₁) (A₂ ++ y :: B₂) → A₁.length = A₂.length →
    x.1 = y.1 ∧ ∀ d, d ≤ Lines.byteLen x.1 →
      ρ (st₁ + Lines.byteLen (flat A₁) + d) (st₂ + Lines.byteLen (flat A₂) + d)
  | [], [], _, _, _, _, _, _, h, _ => by
    simp only [List.nil_append, StartRel] at h
    simpa using ⟨h.1, h.2.1⟩
  | [], _ :: _, _, _, _, _, _, _, _, hl => by simp at hl
  | _ :: _, [], _, _, _, _, _, _, _, hl => by simp at hl
  | a :: A₁, b :: A₂, st₁, st₂, x, y, B₁, B₂, h, hl => by
    simp only [List.cons_append, StartRel] at h
    have := StartRel.at h.2.2 (by simpa using hl)
    refine ⟨this.1, ?_⟩
    intro d hd
    have e := this.2 d hd
    simp only [Lines.flat_cons, Lines.byteLen_append] at e ⊢
    simpa [Nat.add_assoc] using e

theorem StartRel.symm {ρ : Nat → Nat → Prop} : ∀ {L₁ L₂ : List (List Char × List Char)} {a b : Nat},
    StartRel ρ a b L₁ L₂ → StartRel (fun x y => ρ y x) b a L₂ L₁
  | [], [], _, _, _ => trivial
  | [], _ :: _, _, _, h => by simp [StartRel] at h
  | _ :: _, [], _, _, h => by simp [StartRel] at h
  | _ :: _, _ :: _, _, _, h => by
    simp only [StartRel] at h ⊢
    exact ⟨h.1.symm, fun d hd => h.2.1 d (by rw [h.1]; exact hd), StartRel.symm h.2.2⟩

theorem erel_of_startRel {ρ : Nat → Nat → Prop} {s₁ s₂ : List Char}
    (h : StartRel ρ 0 0 (linesT s₁) (linesT s₂)) {i : Nat} {o₁ o₂ : LineOffset}
    (h₁ : (Lines.splitLines s₁)[i]? = some o₁) (h₂ : (Lines.splitLines s₂)[i]? = some o₂) :
    ERel ρ s₁ s₂ o₁ o₂ := by
  obtain ⟨A₁, x, B₁, hL₁, hA₁, rfl, hs₁, _, _⟩ := Lines.split_entry h₁
  obtain ⟨A₂, y, B₂, hL₂, hA₂, rfl, hs₂, _, _⟩ := Lines.split_entry h₂
  rw [hL₁, hL₂] at h
  obtain ⟨hxy, hr⟩ := h.at (hA₁.trans hA₂.symm)
  simp only [Nat.zero_add] at hr
  have hl := Lines.lead_append_rest x.1
  have hlen := congrArg Lines.byteLen hl
  simp only [Lines.byteLen_append] at hlen
  refine ⟨Lines.lead x.1, x.1.dropWhile Lines.isBlank, flat A₁, x.2 ++ flat B₁, flat A₂, y.2 ++ flat B₂,
    ?_, ?_, rfl, rfl, ?_, ?_, ?_, ?_, ?_, ?_⟩
  · rw [hl]; conv => lhs; rw [hs₁]
  · rw [hl, hxy]; conv => lhs; rw [hs₂]
  · simp [mkOff, Lines.byteLen_lead]
  · simp [mkOff, Lines.byteLen_lead, hxy]
  · simp [mkOff]; omega
  · simp [mkOff, ← hxy]; omega
  · simp [mkOff, hxy]
  · intro d hd
    exact hr d (by omega)

theorem noTerm_noLF {l : List Char} (h : Lines.NoTerm l) : '\n' ∉ l := fun hm => (h _ hm).1 rfl

/-- LF ↦ CR LF on a list of CR-free lines laid out behind `pre`: the offset `a` of the LF text is the offset
    `a + #LF before a` of the CR LF text, for every offset of every line -/
theorem startRel_crlf_reTerm : ∀ (L : List (List Char × List Char)) (pre : List Char),
    (∀ lt ∈ L, Lines.NoTerm lt.1 ∧ (lt.2 = [] ∨ lt.2 = ['\n'])) →
    StartRel (C10SP.crlfRel (pre ++ flat L)) (Lines.byteLen pre) (Lines.byteLen pre + C10SP.lfAll pre) L
      (Lines.reTerm lfToCrlf L)
  | [], _, _ => trivial
  | x :: r, pre, h => by
    obtain ⟨hl, ht⟩ := h x (by simp)
    have ih := startRel_crlf_reTerm r (pre ++ x.1 ++ x.2) (fun lt hlt => h lt (List.mem_cons_of_mem _ hlt))
    simp only [Lines.reTerm, List.map_cons, StartRel]
    refine ⟨trivial, ?_, ?_⟩
    · -- inside the line there is no line feed
      intro d hd
      unfold C10SP.crlfRel
      rw [Lines.flat_cons, List.append_assoc, C10SP.lfBelow_in_line pre _ _ (noTerm_noLF hl) d hd]
      omega
    · have e1 : pre ++ x.1 ++ x.2 ++ flat r = pre ++ flat (x :: r) := by simp
      have hx1 : C10SP.lfAll x.1 = 0 := C10SP.lfBelow_noLF x.1 (noTerm_noLF hl) _
      rw [e1] at ih
      rcases ht with ht | ht
      · rw [ht] at ih ⊢
        simp only [List.append_nil, Lines.byteLen_append, C10SP.lfAll_append, hx1, Lines.byteLen_nil, lfToCrlf,
          Nat.add_zero] at ih ⊢
        rw [show Lines.byteLen pre + C10SP.lfAll pre + Lines.byteLen x.1
          = Lines.byteLen pre + Lines.byteLen x.1 + C10SP.lfAll pre by omega]
        exact ih
      · rw [ht] at ih ⊢
        have b1 : Lines.byteLen ['\n'] = 1 := by decide
        have b2 : Lines.byteLen ['\r', '\n'] = 2 := by decide
        have l1 : C10SP.lfAll ['\n'] = 1 := by decide
        simp only [Lines.byteLen_append, C10SP.lfAll_append, hx1, b1, l1, lfToCrlf, if_true, b2] at ih ⊢
        rw [show Lines.byteLen pre + C10SP.lfAll pre + Lines.byteLen x.1 + 2
          = Lines.byteLen pre + Lines.byteLen x.1 + 1 + (C10SP.lfAll pre + 0 + 1) by omega]
        exact ih

theorem linesT_crlf_exact (src : List Char) (h : '\r' ∉ src) :
    StartRel (C10SP.crlfRel src) 0 0 (linesT src) (linesT (lfToCrlf src)) := by
  rw [Lines.linesT_lfToCrlf h]
  have := startRel_crlf_reTerm (linesT src) [] (Lines.linesT_crfree h)
  simpa [Lines.linesT_flat] using this

theorem ctx_of (ρ : Nat → Nat → Prop) (s₁ s₂ : List Char) : Ctx ρ (geoOf s₁ s₂) :=
  ⟨incT_split s₁, incT_split s₂⟩

end MdIt.Block.LX

namespace MdIt.Block.LX.Sim
open MdIt.Lines (linesT)
open MdIt.Block.LE (FRel frel_ok frel_err frel_fuel geoOf)

theorem srel_fresh {R : Rels} {s₁ s₂ : List Char}
    (h : StartRel R.ρ 0 0 (linesT s₁) (linesT s₂)) (k : Kind) (refs : Refs.RefMap) :
    SRel R (geoOf s₁ s₂) (BState.fresh s₁ k refs) (BState.fresh s₂ k refs) := by
  have hlen : (Lines.splitLines s₂).length = (Lines.splitLines s₁).length := by
    rw [Lines.splitLines_eq, Lines.splitLines_eq, Lines.offsetsOf_length, Lines.offsetsOf_length, h.length]
  refine ⟨rfl, rfl, hlen, ?_, rfl, rfl, rfl, rfl, ?_, rfl, rfl, rfl, rfl, rfl, NRelL.nil⟩
  · intro i o₁ o₂ h₁ h₂
    exact erel_of_startRel h h₁ h₂
  · simp only [BState.fresh, hlen]

/-- **the block pass in lock step, for every instance of the block simulation** -/
theorem parseBlocks_rel {R : Rels} (cfg : Cfg) {s₁ s₂ : List Char} (C : Ctx R (geoOf s₁ s₂))
    (h : StartRel R.ρ 0 0 (linesT s₁) (linesT s₂)) (hf : fuelFor cfg s₁ ≤ fuelFor cfg s₂) :
    FRel (fun r₁ r₂ => r₁.1.kind = r₂.1.kind ∧ NRelL R r₁.1.children r₂.1.children ∧ r₁.2 = r₂.2)
      (parseBlocks cfg s₁) (parseBlocks cfg s₂) := by
  unfold parseBlocks
  rcases tokenize_sim cfg C hf (srel_fresh h .root []) with h | ⟨a, b, h1, h2, S⟩ | ⟨e, h1, h2⟩
  · rw [h]; exact frel_fuel _
  · rw [h1, h2]; exact frel_ok ⟨S.nodeKind.symm, S.children, S.refs.symm⟩
  · rw [h1, h2]; exact frel_err _

end MdIt.Block.LX.Sim

namespace MdIt.Block.LE
open MdIt.Lines (linesT)

/-- under translation invariance related starts give related offsets all along the line -/
theorem StartRel.lx {ρ : Nat → Nat → Prop} (hs : Shift ρ) : ∀ {L₁ L₂ : List (List Char × List Char)} {a b : Nat},
    StartRel ρ a b L₁ L₂ → LX.StartRel ρ a b L₁ L₂
  | [], [], _, _, _ => trivial
  | [], _ :: _, _, _, h => by simp [StartRel] at h
  | _ :: _, [], _, _, h => by simp [StartRel] at h
  | _ :: _, _ :: _, _, _, h => by
    simp only [StartRel] at h
    simp only [LX.StartRel]
    exact ⟨h.1, fun d _ => hs.add d h.2.1, StartRel.lx hs h.2.2⟩

theorem srel_fresh {ρ : Nat → Nat → Prop} (hs : Shift ρ) {s₁ s₂ : List Char}
    (h : StartRel ρ 0 0 (linesT s₁) (linesT s₂)) (k : Kind) (refs : Refs.RefMap) :
    SRel ρ (geoOf s₁ s₂) (BState.fresh s₁ k refs) (BState.fresh s₂ k refs) :=
  srel_eq hs ▸ LX.Sim.srel_fresh (R := LX.rels ρ) (h.lx hs) k refs

end MdIt.Block.LE
