/-
  For `Props/MemoSafe.lean`, namespace `MdIt.Inline`: the witness `Just` of a memo entry, the invariant
  `TopInv` of top-frame states, the invariant `NF` of the states of a NESTED label frame, and the statements
  of the per-rule comparison lemmas ("L2": the look-ahead call of a rule at the witness state against its
  real call at a later state at the same position) — as `Prop`-valued definitions, so that the nested
  induction (`Lemmas/MemoSafeLamFrameKit.lean`, `MemoSafeLamNest.lean`) does not depend on the lemmas behind
  them (`Lemmas/MemoSafeLamFlat.lean`, `MemoSafeLamBack.lean`, `MemoSafeLamLink.lean`; the statements
  themselves are inhabited in `Lemmas/MemoSafeLamFinal.lean`, `…CSEnd`, `…ESEnd`).
  The files `MemoSafeLam*` hold the top-frame / nested-frame argument for "the guard never trips" (`Lam`
  abbreviates "laminar"; laminarity of the memo is neither proved nor used).  `LInv`, `MemoB`, `SkipHypT`,
  `TokHypT` come from `Lemmas/InlineTotalFrame.lean`, `SilT` from `Lemmas/InlineTotalStep.lean`, the guarded
  tokenizer (`skipTokenG`, `tokLoopG`: `g = true` switches the guard on) from `Lemmas/InlineTotalDef.lean`,
  `Good` from `Lemmas/InlineNoPanic.lean`, `RangesFn` from `Lemmas/InlineRanges6.lean`, `CalmFn` / `Calm` from
  `Lemmas/InlineCalm.lean`, `Eng.base` / `engM` from `Lemmas/InlineEngine.lean`.
  Namespaces of the `MemoSafeLam*` files: `MdIt.Inline` — the top-frame / nested-frame invariants without
  conditions on `inside_failed`; `MdIt.Inline.CS` — with the code-span invariants `MK`, `IFP`, `NoCut`;
  `MdIt.Inline.ES` — in addition the escape invariants `EPc`, `NL`.  How they hang together:
  `Props/MemoSafe.lean`.

  A NESTED label frame never has a memo MISS (brute-force check NM-NESTED-MISS, 0 exceptions in 11 million
  runs of coherent chains) — every `skip_token` call made while the real tokenizer is inside a link label is a
  memo hit; all memo entries are made by look-ahead that starts in the TOP frame, under the top
  `pos_max`.  So the proof has two halves:
    * top frame: the memo grows, every entry ends `≤ pos_max` (the guard cannot trip), and every entry
      carries its WITNESS (`Just`): the look-ahead step (`skipStep`) that made it — or it is an entry made
      over the nesting limit (`v = pos_max`);
    * nested frames: the memo `m` is CONSTANT; the real tokenizer walks along the memo path the label
      walk left, and every step of it is predicted by the witness of the entry at its position
      (window independence + replay).  `Outer … p lev0`: the position `p` lies on a label walk over `m` (as
      recorded under the top `pos_max`) that finds the frame end `le`, at a bracket level `≥ lev0`.  The real
      tokenizer of the frame keeps `Outer … pos 1`.

  `B` is an invariant of the code-span cache (`st.src`, `st.backticks`) that every rule call preserves
  (needed to compare code-span verdicts between the witness state and a later state; `fun _ _ => True`
  when the chain has no code-span rule).
-/
import MdIt.Lemmas.MemoSafeRec
import MdIt.Lemmas.MemoSafeWindow

namespace MdIt.Inline
open MdIt.InlineOps (slice)

/-- **the witness of a memo entry** `k ↦ v`: a look-ahead step from a state at `k` (same text, the top
    `pos_max`, memo miss at `k`) that returned at `v` and whose memo the current memo `m` extends.  The
    callee `skip0` is any `skip_token` meeting the look-ahead contracts (in the run: the guarded one). -/
def Just (cfg : Cfg) (B : List Char → CodePair.Cache → Prop) (src : List Char) (Mtop : Nat)
    (m : List (Nat × Nat)) (k v : Nat) : Prop :=
  ∃ (skip0 tok0 : IState → Except Panic IState) (f0 : Nat) (st0 st0' : IState),
    CalmFn skip0 ∧ SkipHypT skip0 ∧ SkipGrowHyp skip0 ∧
    LInv st0 ∧ st0.src = src ∧ st0.posMax = Mtop ∧ st0.pos = k ∧ st0.pos < st0.posMax ∧
    B st0.src st0.backticks ∧ st0.cache.lookup k = none ∧
    skipStep cfg skip0 tok0 f0 st0 = .ok st0' ∧ st0'.pos = v ∧ LookupMono st0'.cache m

/-- every memo entry is an over-limit entry (`v = Mtop`) or has its witness -/
def JustAll (cfg : Cfg) (B : List Char → CodePair.Cache → Prop) (src : List Char) (Mtop : Nat)
    (m : List (Nat × Nat)) : Prop :=
  ∀ k v, (k, v) ∈ m → v = Mtop ∨ Just cfg B src Mtop m k v

theorem Just.mono {cfg : Cfg} {B : List Char → CodePair.Cache → Prop} {src : List Char} {Mtop : Nat}
    {m m' : List (Nat × Nat)} {k v : Nat} (h : Just cfg B src Mtop m k v) (hm : LookupMono m m') :
    Just cfg B src Mtop m' k v := by
  obtain ⟨skip0, tok0, f0, st0, st0', hq0, hs0, hg0, hi0, hsrc0, hmax0, hpos0,
    hlt0, hB0, hmiss, hstep, hv, hmono⟩ := h
  exact ⟨skip0, tok0, f0, st0, st0', hq0, hs0, hg0, hi0, hsrc0, hmax0, hpos0,
    hlt0, hB0, hmiss, hstep, hv, hmono.trans hm⟩

theorem JustAll.nil (cfg : Cfg) (B : List Char → CodePair.Cache → Prop) (src : List Char) (Mtop : Nat) :
    JustAll cfg B src Mtop [] := by
  intro k v h; simp at h

/-- **one more memo entry behind a failed `lookup`**, for any notion `J` of witness that survives memo
    growth: the entries still end `≤ Mtop`, and each is an over-limit entry or has its witness -/
theorem insert_le_just {J : List (Nat × Nat) → Nat → Nat → Prop}
    (hmono : ∀ {m m' : List (Nat × Nat)} {k v : Nat}, J m k v → LookupMono m m' → J m' k v)
    {m : List (Nat × Nat)} {k v Mtop : Nat} (hle : ∀ a b, (a, b) ∈ m → b ≤ Mtop)
    (hjust : ∀ a b, (a, b) ∈ m → b = Mtop ∨ J m a b) (hmiss : m.lookup k = none) (hv : v ≤ Mtop)
    (hj : v = Mtop ∨ J (cacheInsert m k v) k v) :
    (∀ a b, (a, b) ∈ cacheInsert m k v → b ≤ Mtop) ∧
    ∀ a b, (a, b) ∈ cacheInsert m k v → b = Mtop ∨ J (cacheInsert m k v) a b := by
  have hm : LookupMono m (cacheInsert m k v) := by
    intro a b hab
    rw [lookup_cacheInsert]
    by_cases hak : a = k
    · subst hak; rw [hmiss] at hab; cases hab
    · rw [if_neg hak]; exact hab
  have mem : ∀ {a b}, (a, b) ∈ cacheInsert m k v → (a = k ∧ b = v) ∨ (a, b) ∈ m := by
    intro a b hab
    unfold cacheInsert at hab
    simpa only [List.mem_cons, Prod.mk.injEq] using hab
  constructor
  · intro a b hab
    rcases mem hab with ⟨_, rfl⟩ | h
    · exact hv
    · exact hle a b h
  · intro a b hab
    rcases mem hab with ⟨rfl, rfl⟩ | h
    · exact hj
    · exact (hjust a b h).imp id (hmono · hm)

/-- the invariant of the states of the TOP frame (look-ahead and real): same text, the top `pos_max`,
    the code-span cache invariant, every memo entry ends `≤ pos_max` and has its witness -/
structure TopInv (cfg : Cfg) (B : List Char → CodePair.Cache → Prop) (src : List Char) (Mtop : Nat)
    (s : IState) : Prop where
  hsrc : s.src = src
  hmax : s.posMax = Mtop
  back : B s.src s.backticks
  le : ∀ k v, (k, v) ∈ s.cache → v ≤ Mtop
  just : JustAll cfg B src Mtop s.cache

theorem TopInv.closed {cfg : Cfg} {B : List Char → CodePair.Cache → Prop} {src : List Char} {Mtop : Nat}
    {s : IState} (h : TopInv cfg B src Mtop s) : Closed s.cache 0 s.posMax := by
  intro k v hkv _ _
  rw [h.hmax]; exact h.le k v hkv

/-- `B` is preserved by the code-span rule (both modes) — the one hypothesis on `B` -/
def BackOK (B : List Char → CodePair.Cache → Prop) : Prop :=
  ∀ (st : IState) (silent : Bool) (o : Option Nat) (st' : IState),
    ruleBackticks st silent = .ok (o, st') → B st.src st.backticks → B st'.src st'.backticks

theorem backOK_true : BackOK (fun _ _ => True) := fun _ _ _ _ _ _ => trivial


/-- the fixed data of a nested descent: the text, the top `pos_max`, the memo -/
structure NCtx (cfg : Cfg) (B : List Char → CodePair.Cache → Prop) (src : List Char) (Mtop : Nat)
    (m : List (Nat × Nat)) : Prop where
  bmax : Boundary src Mtop
  stop : EntStop src Mtop
  memo : ∀ k v, (k, v) ∈ m → k < v ∧ Boundary src v
  just : JustAll cfg B src Mtop m

/-- `p` lies on a label walk over `m` (under the top `pos_max`) that finds `le`, at bracket level `≥ lev0` -/
def Outer (src : List Char) (Mtop : Nat) (m : List (Nat × Nat)) (le p : Nat) (lev0 : Int) : Prop :=
  ∃ (en : Bool) (N : Nat) (l : Int), lev0 ≤ l ∧ pwalk src Mtop m en N l p = .done (some true) le

/-- **the invariant of a real state inside a nested label frame** `[·, s.posMax)` -/
structure NF (cfg : Cfg) (B : List Char → CodePair.Cache → Prop) (src : List Char) (Mtop : Nat)
    (s : IState) : Prop where
  ctx : NCtx cfg B src Mtop s.cache
  hsrc : s.src = src
  back : B s.src s.backticks
  good : ∃ lo, Good lo s
  cut : ∃ r, slice src s.posMax Mtop = .ok (']' :: r)
  outer : Outer src Mtop s.cache s.posMax s.pos 1

theorem NF.memoB {cfg : Cfg} {B : List Char → CodePair.Cache → Prop} {src : List Char} {Mtop : Nat}
    {s : IState} (h : NF cfg B src Mtop s) : MemoB s := by
  intro k v hkv
  rw [h.hsrc]; exact h.ctx.memo k v hkv

theorem NF.top_lt {cfg : Cfg} {B : List Char → CodePair.Cache → Prop} {src : List Char} {Mtop : Nat}
    {s : IState} (h : NF cfg B src Mtop s) : s.posMax < Mtop := by
  obtain ⟨r, hr⟩ := h.cut
  have := (after_bracket hr).1
  omega

/-! ## the per-rule comparison statements (L2) -/

/-- flat rules without cache (`Lemmas/MemoSafeLamFlat.lean`: `flat_L2`) -/
def FlatL2 (cfg : Cfg) : Prop :=
  ∀ (skip tok skip' tok' : IState → Except Panic IState) (fuel fuel' : Nat) (id : RuleId),
    (id = .text ∨ id = .newline ∨ id = .escape ∨ id = .autolink ∨ id = .entity ∨ id = .linkEnd) →
    ∀ (st0 s : IState), WinHyp st0 s.posMax → EntStop st0.src st0.posMax → s.src = st0.src →
      s.pos = st0.pos →
      ∀ o0 st0' o s', runRule cfg skip tok fuel id st0 true = .ok (o0, st0') →
        runRule cfg skip' tok' fuel' id s false = .ok (o, s') →
        (o0 = none → o = none) ∧ (∀ n, o0 = some n → st0.pos + n ≤ s.posMax → o = some n)

/-- the code-span rule, across different caches (`Lemmas/MemoSafeLamBack.lean`) -/
def BackL2 (cfg : Cfg) (B : List Char → CodePair.Cache → Prop) (src : List Char) (Mtop : Nat) : Prop :=
  ∀ (skip tok skip' tok' : IState → Except Panic IState) (fuel fuel' : Nat) (st0 s : IState),
    WinHyp st0 s.posMax → st0.src = src → st0.posMax = Mtop → s.src = st0.src → s.pos = st0.pos →
    B st0.src st0.backticks → B s.src s.backticks →
    ∀ o0 st0' o s', runRule cfg skip tok fuel .backticks st0 true = .ok (o0, st0') →
      runRule cfg skip' tok' fuel' .backticks s false = .ok (o, s') →
      (o0 = none → o = none) ∧ (∀ n, o0 = some n → st0.pos + n ≤ s.posMax → o = some n)

/-- what every flat rule leaves alone in real mode (`flat_keeps`, `runRule_backticks_unchanged`) -/
def RealKeeps (cfg : Cfg) : Prop :=
  ∀ (skip tok : IState → Except Panic IState) (fuel : Nat) (id : RuleId), id.isFlat = true →
    ∀ (s : IState) o s', runRule cfg skip tok fuel id s false = .ok (o, s') →
      s'.pos = s.pos ∧ s'.cache = s.cache ∧ s'.src = s.src ∧ s'.posMax = s.posMax ∧
      s'.level = s.level ∧ (id ≠ .backticks → s'.backticks = s.backticks)

/-- the emphasis rule in real mode (`emph_real_L2`) -/
def EmphL2 (cfg : Cfg) : Prop :=
  ∀ (mk : Char) (csw : Bool), mk.utf8Size = 1 → ∀ (s : IState) o s',
    ruleEmph cfg mk csw s false = .ok (o, s') →
    (∀ c rest, s.window = .ok (c :: rest) → c ≠ mk → o = none ∧ s' = s) ∧
    (∀ rest, s.window = .ok (mk :: rest) → ∃ n, o = some n ∧ 1 ≤ n ∧ s.pos + n ≤ s.posMax ∧
      ∀ i, i < n → ∃ r, slice s.src (s.pos + i) s.posMax = .ok (mk :: r))

/-- **L2 for `parse_link`** (`Lemmas/MemoSafeLamLink.lean`): the witness `w` ran `parse_link` at the
    position of the nested state `s` (look-ahead, top `pos_max`) with result `r0`; the memo entry at
    that position is `v` (`= pos + 1` when the witness declined, `= res.endPos` when it answered) and
    ends inside the frame.  Then `parse_link` at `s`, over ANY `skip_token` that follows memo hits, at
    any fuel `n`, is a fixed result `R` that does not depend on the `skip_token`, leaves the state
    alone, and — when it is not an error (out of fuel) — is the witness's result. -/
def ParseLinkL2 (cfg : Cfg) (B : List Char → CodePair.Cache → Prop) (src : List Char) (Mtop : Nat) : Prop :=
  ∀ (skip0 : IState → Except Panic IState) (f0 : Nat) (w w1 : IState) (offset : Nat) (en : Bool)
    (r0 : Option LinkRes) (s : IState) (v : Nat),
    CalmFn skip0 → SkipHypT skip0 → SkipGrowHyp skip0 →
    LInv w → w.src = src → w.posMax = Mtop → w.pos = s.pos →
    parseLink cfg skip0 f0 w (w.pos + offset) en = .ok (r0, w1) →
    LookupMono w1.cache s.cache →
    NF cfg B src Mtop s → s.pos < s.posMax →
    s.cache.lookup s.pos = some v → v ≤ s.posMax →
    ((offset = 0 ∧ en = false ∧ ∃ rest, slice src s.pos Mtop = .ok ('[' :: rest)) ∨
     (offset = 1 ∧ en = true ∧ ∃ rest, slice src s.pos Mtop = .ok ('!' :: '[' :: rest))) →
    (r0 = none → v = s.pos + 1) → (∀ res, r0 = some res → v = res.endPos) →
    ∀ n : Nat, ∃ R : Except Panic (Option LinkRes),
      (∀ skip, FollowsHits skip →
        parseLink cfg skip n s (s.pos + offset) en =
          match R with
          | .ok r => .ok (r, s)
          | .error e => .error e) ∧
      (∀ r, R = .ok r → r = r0)

/-- `ParseLinkL2` for ONE rule: the link rule (`offset = 0`, `en = false`, first character `[`) or the
    image rule (`offset = 1`, `en = true`, first characters `![`) -/
def ParseLinkL2Part (cfg : Cfg) (B : List Char → CodePair.Cache → Prop) (src : List Char) (Mtop : Nat)
    (offset : Nat) (en : Bool) : Prop :=
  ∀ (skip0 : IState → Except Panic IState) (f0 : Nat) (w w1 : IState)
    (r0 : Option LinkRes) (s : IState) (v : Nat),
    CalmFn skip0 → SkipHypT skip0 → SkipGrowHyp skip0 →
    LInv w → w.src = src → w.posMax = Mtop → w.pos = s.pos →
    parseLink cfg skip0 f0 w (w.pos + offset) en = .ok (r0, w1) →
    LookupMono w1.cache s.cache →
    NF cfg B src Mtop s → s.pos < s.posMax →
    s.cache.lookup s.pos = some v → v ≤ s.posMax →
    ((offset = 0 ∧ en = false ∧ ∃ rest, slice src s.pos Mtop = .ok ('[' :: rest)) ∨
     (offset = 1 ∧ en = true ∧ ∃ rest, slice src s.pos Mtop = .ok ('!' :: '[' :: rest))) →
    (r0 = none → v = s.pos + 1) → (∀ res, r0 = some res → v = res.endPos) →
    ∀ n : Nat, ∃ R : Except Panic (Option LinkRes),
      (∀ skip, FollowsHits skip →
        parseLink cfg skip n s (s.pos + offset) en =
          match R with
          | .ok r => .ok (r, s)
          | .error e => .error e) ∧
      (∀ r, R = .ok r → r = r0)

/-- the conclusion of the comparison for `parse_link`: at `s` from `p`, over ANY `skip_token` that follows
    memo hits, at fuel `n`, `parse_link` is one result `R` that leaves the state alone and — when it is not an
    error (out of fuel) — is `r0` -/
abbrev PLSame (cfg : Cfg) (n : Nat) (s : IState) (p : Nat) (en : Bool) (r0 : Option LinkRes) : Prop :=
  ∃ R : Except Panic (Option LinkRes),
    (∀ skip, FollowsHits skip →
      parseLink cfg skip n s p en =
        match R with
        | .ok r => .ok (r, s)
        | .error e => .error e) ∧
    (∀ r, R = .ok r → r = r0)

theorem ParseLinkL2.part {cfg : Cfg} {B : List Char → CodePair.Cache → Prop} {src : List Char}
    {Mtop : Nat} (h : ParseLinkL2 cfg B src Mtop) (offset : Nat) (en : Bool) :
    ParseLinkL2Part cfg B src Mtop offset en :=
  fun skip0 f0 w w1 r0 s v => h skip0 f0 w w1 offset en r0 s v

end MdIt.Inline
