/-
  Lemmas for `MdIt/Props/InlineH.lean`: the inline parser with the raw-HTML rule in the chain —
  conservativity, progress and fuel.

  The per-rule lemmas of the html-free rules (`Lemmas/InlineRules*.lean`, `Lemmas/InlineLink.lean`:
  `runRule_specP`) are stated for arbitrary call-backs `skip` / `tok` under contracts, so they apply to
  `skipTokenH` / `tokLoopH`; here the html rule meets the same contracts (section 1), the chain and one
  step of each loop are taken over any rule runner (`firstRuleG_specL`, `tokStepG_spec`, `skipStepG_spec`),
  and the induction on fuel is `Eng.contracts` (`Lemmas/InlineFuel.lean`) at the engine with the html rule
  (`contractsH`).

  `link_level`.  `Inline.Frame` says `linkLevel` is unchanged.  The html rule moves `link_level` in real
  mode, and the link rule over a tokenizer with the html rule does not put it back (`[<a>](u)` leaves
  `link_level = 1`: the `+ 1` / `- 1` of `full_link::rule` bracket a run that is not neutral), so the
  contract `TokHyp` of the nested `tokenize` is false for `tokLoopH`.  No rule reads `linkLevel` except to
  write it back; the real-mode contracts here are therefore over `FrameL` (`Frame` without `linkLevel`:
  `RuleSpecL`, `TokSpecL`, `TokHypL`), of which the html-free ones are the instance where the nested run
  keeps `linkLevel`.  Look-ahead mode keeps the full `Frame` (the html rule is pure there).
-/
import MdIt.Lemmas.InlineEngine
import MdIt.Props.Inline
import MdIt.Props.Html
import MdIt.Lemmas.LinkStep

namespace MdIt.InlineH
open MdIt.Inline
open MdIt.InlineOps (Srcmap getSourcePosFor getMap byteLen slice)

/-! ## 1. the html rule as a chain member -/

theorem htmlRule_ok {st st' : IState} {silent : Bool} {o : Option Nat}
    (h : htmlRule st silent = .ok (o, st')) :
    ∃ s1 nd, Html.htmlInlineRule st silent = .ok (o, s1, nd) ∧
      ((nd = none ∧ st' = s1) ∨ (∃ n, nd = some n ∧ st' = s1.push (htmlNode n))) := by
  unfold htmlRule at h
  split at h
  · cases h
  · rename_i o1 s1 he
    simp only [Except.ok.injEq, Prod.mk.injEq] at h
    obtain ⟨rfl, rfl⟩ := h
    exact ⟨_, _, he, .inl ⟨rfl, rfl⟩⟩
  · rename_i o1 s1 n he
    simp only [Except.ok.injEq, Prod.mk.injEq] at h
    obtain ⟨rfl, rfl⟩ := h
    exact ⟨_, _, he, .inr ⟨n, rfl, rfl⟩⟩

/-- the rule never answers `Panic.fuel` -/
theorem htmlRule_nf (st : IState) (silent : Bool) : htmlRule st silent ≠ .error .fuel := by
  unfold htmlRule
  split
  · rename_i e _
    cases e <;> simp [ofIPanic]
  · simp
  · simp

/-- the three shapes of a successful call: declined; look-ahead success; real success (one node
    pushed, `link_level` moved by at most one) -/
theorem htmlRule_cases {st st' : IState} {silent : Bool} {o : Option Nat}
    (h : htmlRule st silent = .ok (o, st')) :
    (o = none ∧ st' = st) ∨
    (∃ n, o = some n ∧ silent = true ∧ st' = st) ∨
    (∃ n ll nd, o = some n ∧ silent = false ∧
      Html.htmlInlineRule st false = .ok (some n, { st with linkLevel := ll }, some nd) ∧
      st' = { st with linkLevel := ll, children := st.children ++ [htmlNode nd] }) := by
  obtain ⟨s1, nd, he, hc⟩ := htmlRule_ok h
  obtain ⟨c, rest, hw, hcase⟩ := Html.htmlInlineRule_ok he
  rcases hcase with ⟨rfl, rfl, rfl, _⟩ | ⟨r, _, _, _, ho, hmode⟩
  · rcases hc with ⟨_, rfl⟩ | ⟨n, hn, _⟩
    · exact .inl ⟨rfl, rfl⟩
    · cases hn
  · rcases hmode with ⟨rfl, rfl, rfl⟩ | ⟨rfl, ll, rg, _, _, rfl, rfl⟩
    · rcases hc with ⟨_, rfl⟩ | ⟨n, hn, _⟩
      · exact .inr (.inl ⟨_, ho, rfl, rfl⟩)
      · cases hn
    · rcases hc with ⟨hn, _⟩ | ⟨n, hn, rfl⟩
      · cases hn
      · cases hn
        subst ho
        exact .inr (.inr ⟨_, ll, _, rfl, rfl, he, rfl⟩)

/-- **the html member.**  Called as the tokenizer calls it (window non-empty, on boundaries,
    well-formed table) with `link_level` strictly inside `i32`, the rule does not panic, and when it fires
    it consumes at least one byte, stays inside `pos_max` and ends on a character boundary. -/
theorem htmlRule_fires {st : IState} (hi : InlineInv st) (silent : Bool)
    (hll : Html.i32Min < st.linkLevel ∧ st.linkLevel < Html.i32Max) :
    ∃ o st', htmlRule st silent = .ok (o, st') ∧ Advances st o := by
  obtain ⟨o, s1, nd, h, hadv⟩ := Html.inline_rule_progress_html hi silent hll
  unfold htmlRule
  rw [h]
  cases nd with
  | none => exact ⟨_, _, rfl, hadv⟩
  | some n => exact ⟨_, _, rfl, hadv⟩

/-- the extent of a match, from the window alone: at least one byte, inside `pos_max`, on a boundary -/
theorem htmlRule_advances {st st' : IState} {silent : Bool} {o : Option Nat}
    (h : htmlRule st silent = .ok (o, st')) : Advances st o := by
  obtain ⟨s1, nd, he, _⟩ := htmlRule_ok h
  obtain ⟨c, rest, hw, hcase⟩ := Html.htmlInlineRule_ok he
  rcases hcase with ⟨rfl, _⟩ | ⟨r, _, _, hr, ho, _⟩
  · intro len hl; cases hl
  · obtain ⟨m, hm⟩ := Html.tagRest_spec hr
    have hsl := window_eq hw
    have hb : byteLen (c :: rest) = byteLen ('<' :: m) + byteLen r := by
      rw [hm, ← C05.byteLen_append]
    have h1 : byteLen ('<' :: m) = 1 + byteLen m := by simp [byteLen, Html.byteLen_lt_one]
    have h2 := (slice_boundaries hsl).2.2
    intro len hl
    rw [ho] at hl
    injection hl with hl
    subst hl
    refine ⟨by omega, by omega, ?_⟩
    have : byteLen (c :: rest) - byteLen r = byteLen ('<' :: m) := by omega
    rw [this]
    exact boundary_in_slice (by rw [← hm]; exact hsl)

/-! ## 2. conservativity: a chain without `.html` -/

/-- `tokLoopH` / `skipTokenH` on the html-free chain are `tokLoop` / `skipToken`: the two engines correspond
    along `RuleIdH.base` (`Eng.html_base`, `Lemmas/InlineEngine.lean`) -/
theorem engineH_conservative (cfg : Cfg) : ∀ fuel : Nat,
    (∀ e st, tokLoopH cfg (cfg.chain.map .base) fuel e st = tokLoop cfg fuel e st) ∧
    (∀ st, skipTokenH cfg (cfg.chain.map .base) fuel st = skipToken cfg fuel st) := by
  intro fuel
  simp only [(engH cfg _ fuel).1, (engH cfg _ fuel).2, (engM cfg fuel).1, (engM cfg fuel).2]
  exact Eng.html_base cfg false fuel

theorem filterMap_base_map (l : List RuleId) : (l.map RuleIdH.base).filterMap RuleIdH.base? = l := by
  induction l with
  | nil => rfl
  | cons a l ih => simp [RuleIdH.base?, ih]

theorem map_base_filterMap : ∀ (l : List RuleIdH), RuleIdH.html ∉ l →
    (l.filterMap RuleIdH.base?).map .base = l
  | [], _ => rfl
  | .base r :: l, h => by
    simp only [List.filterMap_cons, RuleIdH.base?, List.map_cons]
    rw [map_base_filterMap l (fun hm => h (List.mem_cons_of_mem _ hm))]
  | .html :: l, h => absurd (List.mem_cons_self) h

theorem base_ofCfg (cfg : Cfg) : (CfgH.ofCfg cfg).base = cfg := by
  unfold CfgH.ofCfg CfgH.base
  simp only [filterMap_base_map]

/-! ## 3. the contracts without `linkLevel` -/

/-- in look-ahead mode the two contracts coincide -/
theorem RuleSpecL.toSpec {st : IState} {r : RuleRes} (h : RuleSpecL st true r) : RuleSpec st true r :=
  ⟨h.noFuel, fun o st' hr => by
    obtain ⟨a, b, c, d, e⟩ := h.ok o st' hr
    exact ⟨a.toFrame (c rfl).2.2, b, fun _ => ⟨(c rfl).1, (c rfl).2.1⟩, d, e⟩⟩

theorem RuleSpecL.declined {st : IState} (hm : MemoInv st) (silent : Bool) :
    RuleSpecL st silent (.ok (none, st)) :=
  ⟨by simp, by
    intro o st' h
    simp only [Except.ok.injEq, Prod.mk.injEq] at h; obtain ⟨rfl, rfl⟩ := h
    exact ⟨FrameL.refl _, hm, fun _ => ⟨Quiet.refl _, rfl, rfl⟩, fun _ => rfl, by intro len h; simp at h⟩⟩

/-- a member that declined, then the rest of the chain -/
theorem RuleSpecL.seq {st st1 : IState} {silent : Bool} {r : RuleRes}
    (h1 : RuleSpecL st silent (.ok (none, st1))) (h2 : RuleSpecL st1 silent r) : RuleSpecL st silent r := by
  obtain ⟨a, _, c, d, _⟩ := h1.ok _ _ rfl
  refine ⟨h2.noFuel, ?_⟩
  intro o st' h
  obtain ⟨a', b', c', d', e'⟩ := h2.ok _ _ h
  refine ⟨a.trans a', b', fun hs => ⟨(c hs).1.trans (c' hs).1, by rw [(c' hs).2.1, (c hs).2.1],
    by rw [(c' hs).2.2, (c hs).2.2]⟩, ?_, ?_⟩
  · intro ho; rw [d' ho, d rfl]
  · intro len hl'; have := e' len hl'; rw [d rfl] at this; exact this

/-! ## 4. one rule, the chain, one step of each loop -/

theorem htmlRule_specL {st : IState} (hm : MemoInv st) (silent : Bool) :
    RuleSpecL st silent (htmlRule st silent) := by
  refine ⟨htmlRule_nf st silent, ?_⟩
  intro o st' h
  have hpos : ∀ n, o = some n → 1 ≤ n := fun n hn => (htmlRule_advances h n hn).1
  rcases htmlRule_cases h with ⟨rfl, rfl⟩ | ⟨n, rfl, _, rfl⟩ | ⟨n, ll, nd, rfl, hs, _, rfl⟩
  · exact (RuleSpecL.declined hm silent).ok _ _ rfl
  · refine ⟨FrameL.refl _, hm, fun _ => ⟨Quiet.refl _, rfl, rfl⟩, by intro h; simp at h, ?_⟩
    intro len hl; have := hpos len hl; omega
  · refine ⟨⟨rfl, rfl, rfl, rfl⟩, hm, (by intro h'; rw [hs] at h'; cases h'), (by intro h; simp at h), ?_⟩
    intro len hl; have := hpos len hl; simp only; omega

theorem runRuleH_specL {cfg : Cfg} {skip tok : IState → Except Panic IState} {lvl pm L : Nat}
    (hskip : SkipHyp skip lvl pm L) (fuel : Nat) (id : RuleIdH) (st : IState) (silent : Bool)
    (htok : silent = false → TokHypL tok (lvl + 1) L)
    (hm : MemoInv st) (hl : st.level = lvl) (hp : st.posMax = pm)
    (hn : pm - st.pos + 1 ≤ fuel) (hL : pm - st.pos ≤ L + 1) :
    RuleSpecL st silent (runRuleH cfg skip tok fuel id st silent) := by
  cases id with
  | html => exact htmlRule_specL hm silent
  | base r => exact (runRule_specP hskip fuel r st silent htok hm hl hp hn hL).1

/-- the chain loop (`firstRule_spec` over any id type, with `FrameL`) -/
theorem firstRuleG_specL {ι : Type} {run : ι → IState → RuleRes} {silent : Bool} {lvl pm : Nat} {p0 : Nat}
    (hrun : ∀ id s, MemoInv s → s.level = lvl → s.posMax = pm → s.pos = p0 →
      RuleSpecL s silent (run id s)) :
    ∀ (rules : List ι) (st : IState), MemoInv st → st.level = lvl → st.posMax = pm →
      st.pos = p0 → RuleSpecL st silent (firstRuleG run rules st) :=
  fun rules st hm hl hp hpos =>
    firstRuleG_induct (Pre := fun s => MemoInv s ∧ s.level = lvl ∧ s.posMax = pm ∧ s.pos = p0)
      (Post := fun s r => RuleSpecL s silent r)
      (fun s hs => RuleSpecL.declined hs.1 silent)
      (fun s s1 r hs h1 => by
        obtain ⟨a, b, _, d, _⟩ := h1.ok _ _ rfl
        exact ⟨⟨b, a.level.trans hs.2.1, a.posMax.trans hs.2.2.1, (d rfl).trans hs.2.2.2⟩, h1.seq⟩)
      rules (fun id _ s hs => hrun id s hs.1 hs.2.1 hs.2.2.1 hs.2.2.2) st ⟨hm, hl, hp, hpos⟩

/-- **one iteration of the tokenizer loop** (`tokStep_spec`): it either fails with a Rust panic or
    strictly increases `pos`, never running out of fuel -/
theorem tokStepG_spec {cfg : Cfg} {chain : List RuleIdH} {skip tok : IState → Except Panic IState} {L : Nat}
    (fuel : Nat) (st : IState)
    (hskip : st.level < cfg.maxNesting → SkipHyp skip st.level st.posMax L)
    (htok : st.level < cfg.maxNesting → TokHypL tok (st.level + 1) L)
    (hm : MemoInv st) (hn : st.posMax - st.pos + 1 ≤ fuel) (hL : st.posMax - st.pos ≤ L + 1) :
    tokStepG cfg.maxNesting chain (runRuleH cfg skip tok fuel) st ≠ .error .fuel ∧
    ∀ st', tokStepG cfg.maxNesting chain (runRuleH cfg skip tok fuel) st = .ok st' →
      FrameL st st' ∧ MemoInv st' ∧ st.pos < st'.pos := by
  have key : Tri NoFuel (fun st' => FrameL st st' ∧ MemoInv st' ∧ st.pos < st'.pos)
      (tokStepG cfg.maxNesting chain (runRuleH cfg skip tok fuel) st) := by
    refine tokStepG_tri (C := fun x => FrameL st x.2 ∧ MemoInv x.2 ∧ (x.1 = none → x.2.pos = st.pos) ∧
        ∀ len, x.1 = some len → st.pos < x.2.pos + len)
      (fun hlt => ?_) (fun _ => ⟨FrameL.refl _, hm, fun _ => rfl, fun _ h => nomatch h⟩) ?_ ?_
    · have h := firstRuleG_specL (silent := false) (lvl := st.level) (pm := st.posMax) (p0 := st.pos)
        (fun id s hms hls hps hpos => runRuleH_specL (cfg := cfg) (hskip hlt) fuel id s false
          (fun _ => htok hlt) hms hls hps (by rw [hpos]; exact hn) (by rw [hpos]; exact hL))
        chain st hm rfl rfl rfl
      exact tri_iff.mpr ⟨fun e he hf => h.noFuel (hf ▸ he), fun x hx =>
        let t := h.ok x.1 x.2 hx
        ⟨t.1, t.2.1, t.2.2.2.1, t.2.2.2.2⟩⟩
    · rintro len st' ⟨a, b, _, e⟩
      exact ⟨⟨a.src, a.srcmap, a.posMax, a.level⟩, b, e len rfl⟩
    · rintro st' ⟨a, b, d, _⟩
      refine (charStep_noFuel st').mono (fun _ h => h) ?_
      rintro st2 - ⟨cs, p, rfl, hlt⟩
      exact ⟨⟨a.src, a.srcmap, a.posMax, a.level⟩, b, by rw [← d rfl]; exact hlt⟩
  obtain ⟨k1, k2⟩ := tri_iff.mp key
  exact ⟨fun h => k1 _ h rfl, k2⟩

/-! ## 5. the induction on fuel (`Eng.contracts`) -/

theorem contractsH (cfg : Cfg) (chain : List RuleIdH) : ∀ fuel : Nat,
    (∀ st : IState, MemoInv st → st.pos < st.posMax →
      (st.posMax - st.pos) + (cfg.maxNesting - st.level) + 2 ≤ fuel →
      SkipSpec st (skipTokenH cfg chain fuel st)) ∧
    (∀ st : IState, MemoInv st → need (st.posMax - st.pos) (cfg.maxNesting - st.level) ≤ fuel →
      TokSpecL st (tokLoopH cfg chain fuel st.posMax st)) := by
  intro fuel
  have h := (Eng.html cfg chain).contracts rfl FrameL.refl FrameL.trans (fun h => ⟨h.posMax, h.level⟩)
    (fun fuel st hs hm hn hL => skipStepG_spec_of (RuleSpecL.toSpec
      (firstRuleG_specL (lvl := st.level) (pm := st.posMax) (p0 := st.pos)
        (fun id s hms hls hps hpos => RuleSpecL.ofSpec (silentBumped_spec (RuleSpecL.toSpec
          (runRuleH_specL (lvl := st.level + 1) (pm := st.posMax) hs fuel id _ true (fun h => nomatch h) hms
            (by simp only; rw [hls]) hps (by simp only; rw [hpos]; exact hn)
            (by simp only; rw [hpos]; exact hL)))))
        chain st hm rfl rfl rfl)))
    (fun fuel st hs ht hm hn hL => tokStepG_spec fuel st hs
      (fun hl s a b c => ⟨(ht hl s a b c).1, (ht hl s a b c).2⟩) hm hn hL) fuel
  simp only [← (engH cfg chain fuel).1, ← (engH cfg chain fuel).2] at h
  exact ⟨h.1, fun st hm hf => ⟨(h.2 st hm hf).1, (h.2 st hm hf).2⟩⟩

end MdIt.InlineH
