/-
  The frame of one run of the inline tokenizer, and invariants of a frame.

  (a) What no call changes in the end — `src`, `srcmap`, `posMax`, `level`, `linkLevel` (`Frame`) —
      holds of `runRule` and `tokStep` over a calm `skip` and a `tok` that keeps it
      (`runRule_frame`, `tokStep_frame`), hence of `tokLoop` with no hypothesis (`tokLoop_frame`).
  (b) A family `J i` of predicates on (frame, cursor, children) that every rule of the chain keeps in
      real mode (given that the nested runs keep it) and that the fall-back keeps is kept by
      `tokenize`, any fuel (`tokLoop_keeps`).  The fall-back may use that every rule of the chain
      declined at a state of the same frame with the same cursor (`Declined`): the newline rule
      declines only in front of a character that is not a line feed.

  Which loop layer serves what.  `tokLoop_keeps` is for families that read the whole `Frame`
  (`posMax`, `level` included) and are kept inside the window only: it is about the model's engine and
  a bound `e ≤ posMax`; its instances are the certificate frame `IC.ICJ` (Lemmas/InlineCertLink.lean),
  the exit predicate `JEnd` (Lemmas/C05InlineExit.lean) and the guard of Lemmas/TotalTabsSim.lean.
  The range invariant `RI` of EVERY configuration goes through `Eng.ranges` / `ranges_induction`
  (Lemmas/InlineRanges6.lean) instead: every copy of the tokenizer, the one with the raw-HTML rule
  included (that rule changes `linkLevel`, so `Frame` does not hold of it), any bound `e`, only
  `src` and `srcmap` fixed.
-/
import MdIt.Lemmas.InlineCalm
import MdIt.Lemmas.LinkStep
import MdIt.Lemmas.InlineRules2

namespace MdIt.Inline
open MdIt.InlineOps (Srcmap getSourcePosFor)

/-! ## (a) the frame, once -/

theorem Frame.symm {a b : IState} (h : Frame a b) : Frame b a :=
  ⟨h.src.symm, h.srcmap.symm, h.posMax.symm, h.level.symm, h.linkLevel.symm⟩

theorem runRule_frame {cfg : Cfg} {skip tok : IState → Except Panic IState} (hq : CalmFn skip)
    (ht : ∀ s s', tok s = .ok s' → Frame s s') {fuel : Nat} {id : RuleId} {st : IState}
    {o : Option Nat} {st' : IState} (h : runRule cfg skip tok fuel id st false = .ok (o, st')) :
    Frame st st' := by
  cases runRule_did hq h with
  | flat h => exact h.simple.frame
  | emph _ h => exact (ruleEmph_simple h).frame
  | look _ hc _ => exact hc.frame
  | @link _ res st1 st3 _ _ hc _ _ htok =>
    have h3 := ht _ _ htok
    have l3 : st3.level = st1.level + 1 := h3.level
    have ll3 : st3.linkLevel = st1.linkLevel + 1 := h3.linkLevel
    exact ⟨h3.src.trans hc.src, h3.srcmap.trans hc.srcmap, hc.posMax,
      by show st3.level - 1 = st.level; rw [l3, ← hc.level]; omega,
      by show st3.linkLevel - 1 = st.linkLevel; rw [ll3, ← hc.linkLevel]; omega⟩

theorem runRule_pos_none {cfg : Cfg} {skip tok : IState → Except Panic IState} (hq : CalmFn skip)
    {fuel : Nat} {id : RuleId} {st st' : IState}
    (h : runRule cfg skip tok fuel id st false = .ok (none, st')) : st'.pos = st.pos := by
  cases runRule_did hq h with
  | flat h => exact h.simple.pos
  | emph _ h => exact (ruleEmph_simple h).pos
  | look _ _ hp => exact hp

theorem tokStep_frame {cfg : Cfg} {skip tok : IState → Except Panic IState} (hq : CalmFn skip)
    (ht : ∀ s s', tok s = .ok s' → Frame s s') {fuel : Nat} {st st' : IState}
    (h : tokStep cfg skip tok fuel st = .ok st') : Frame st st' :=
  tokStep_rel Frame.refl Frame.trans (fun _ _ _ _ _ _ hr => runRule_frame hq ht hr)
    (fun _ _ => ⟨rfl, rfl, rfl, rfl, rfl⟩)
    (fun _ _ _ _ _ hp => by obtain ⟨cs, _, rfl⟩ := pushText_eq hp; exact ⟨rfl, rfl, rfl, rfl, rfl⟩) h

theorem tokLoop_frame (cfg : Cfg) :
    ∀ (fuel e : Nat) (st st' : IState), tokLoop cfg fuel e st = .ok st' → Frame st st' :=
  tokLoop_rel (R := fun _ => Frame) (fun _ => Frame.refl) Frame.trans cfg fun f _ _ _ ih _ hstep =>
    tokStep_frame (skipToken_calm cfg f) (fun s s' => ih _ s s') hstep

/-! ## (b) invariants of a frame -/

section
variable {ι : Type} (J : ι → IState → Nat → List Node → Prop)

def JInv (i : ι) (s : IState) : Prop := J i s s.pos s.children

/-- what a real-mode call leaves behind, seen from the state it started in -/
structure JStep (i : ι) (st : IState) (o : Option Nat) (st' : IState) : Prop where
  inv : J i st (st'.pos + o.getD 0) st'.children
  pos : o = none → st'.pos = st.pos

/-- every rule of `rules` declined at a state of the same frame with the same cursor -/
def Declined (run : RuleId → IState → RuleRes) (rules : List RuleId) (st : IState) : Prop :=
  ∀ id ∈ rules, ∃ a b, Frame st a ∧ a.pos = st.pos ∧ run id a = .ok (none, b)

variable {J}
variable (hJ : ∀ i a b p cs, Frame a b → J i a p cs → J i b p cs)
include hJ

theorem firstRule_keeps {i : ι} {run : RuleId → IState → RuleRes}
    (hfr : ∀ id s o s', run id s = .ok (o, s') → Frame s s') (st0 : IState) :
    ∀ (rules : List RuleId),
      (∀ id ∈ rules, ∀ s o s', Frame st0 s → s.pos = st0.pos → JInv J i s →
        run id s = .ok (o, s') → JStep J i s o s') →
      ∀ (st : IState) (o : Option Nat) (st' : IState), Frame st0 st → st.pos = st0.pos →
        firstRule run rules st = .ok (o, st') → JInv J i st →
        JStep J i st o st' ∧ Frame st st' ∧ (o = none → Declined run rules st) := by
  intro rules
  induction rules with
  | nil =>
    intro _ st o st' _ _ h hi
    cases h
    exact ⟨⟨by simp only [Option.getD_none, Nat.add_zero]; exact hi, fun _ => rfl⟩, .refl _, fun _ id hid => by cases hid⟩
  | cons r rs ih =>
    intro hrun st o st' f0 p0 h hi
    unfold firstRule at h
    split at h
    · cases h
    · next hr =>
      cases h
      exact ⟨hrun r (List.mem_cons_self ..) _ _ _ f0 p0 hi hr, hfr _ _ _ _ hr, fun ho => by cases ho⟩
    · next st1 hr =>
      have s1 := hrun r (List.mem_cons_self ..) _ _ _ f0 p0 hi hr
      have f1 := hfr _ _ _ _ hr
      have hi1 : JInv J i st1 := by
        have := s1.inv
        simp only [Option.getD_none, Nat.add_zero] at this
        exact hJ _ _ _ _ _ f1 this
      obtain ⟨s2, f2, d2⟩ := ih (fun id hid => hrun id (List.mem_cons_of_mem _ hid)) _ _ _
        (f0.trans f1) ((s1.pos rfl).trans p0) h hi1
      refine ⟨⟨hJ _ _ _ _ _ f1.symm s2.inv, fun ho => (s2.pos ho).trans (s1.pos rfl)⟩, f1.trans f2, ?_⟩
      intro ho id hid
      rcases List.mem_cons.mp hid with rfl | hid
      · exact ⟨st, st1, .refl _, rfl, hr⟩
      · obtain ⟨a, b, fa, pa, ra⟩ := d2 ho id hid
        exact ⟨a, b, f1.trans fa, pa.trans (s1.pos rfl), ra⟩

/-- **one iteration**; the states the chain passes have the cursor and the `posMax` of `st` -/
theorem tokStep_keeps {i : ι} {cfg : Cfg} {skip tok : IState → Except Panic IState} (hq : CalmFn skip)
    (ht : ∀ s s', tok s = .ok s' → Frame s s') {fuel : Nat} {st st' : IState}
    (hrule : ∀ id ∈ cfg.chain, ∀ s o s', s.level < cfg.maxNesting →
      (st.pos < st.posMax → s.pos < s.posMax) → JInv J i s →
      runRule cfg skip tok fuel id s false = .ok (o, s') → JStep J i s o s')
    (hfall : ∀ s ch s', JInv J i s → (st.pos < st.posMax → s.pos < s.posMax) →
      (s.level < cfg.maxNesting →
        Declined (fun id s => runRule cfg skip tok fuel id s false) cfg.chain s) →
      firstChar s = .ok ch → s.pushText s.pos (s.pos + ch.utf8Size) = .ok s' →
      J i s (s'.pos + ch.utf8Size) s'.children)
    (h : tokStep cfg skip tok fuel st = .ok st') (hi : JInv J i st) : JInv J i st' := by
  have hok : ∀ o st1, (if st.level < cfg.maxNesting then
        firstRule (fun id s => runRule cfg skip tok fuel id s false) cfg.chain st
      else .ok (none, st)) = .ok (o, st1) →
      JStep J i st o st1 ∧ Frame st st1 ∧ (o = none → st.level < cfg.maxNesting →
        Declined (fun id s => runRule cfg skip tok fuel id s false) cfg.chain st) := by
    intro o st1 hh
    split at hh
    · next hlv =>
      obtain ⟨a, b, d⟩ := firstRule_keeps hJ (fun _ _ _ _ hr => runRule_frame hq ht hr) st cfg.chain
        (fun id hid s o s' fs ps => hrule id hid s o s' (fs.level ▸ hlv)
          (fun hlt => by rw [ps, fs.posMax]; exact hlt)) _ _ _ (.refl _) rfl hh hi
      exact ⟨a, b, fun ho _ => d ho⟩
    · next hge =>
      cases hh
      exact ⟨⟨by simp only [Option.getD_none, Nat.add_zero]; exact hi, fun _ => rfl⟩, .refl _, fun _ hlt => absurd hlt hge⟩
  unfold tokStep at h
  simp only at h
  split at h
  · cases h
  · next len st1 hr =>
    cases h
    obtain ⟨s1, f1, _⟩ := hok _ _ hr
    exact hJ i st _ _ _ (f1.trans ⟨rfl, rfl, rfl, rfl, rfl⟩) s1.inv
  · next st1 hr =>
    obtain ⟨s1, f1, d1⟩ := hok _ _ hr
    have hi1 : JInv J i st1 := by
      have := s1.inv
      simp only [Option.getD_none, Nat.add_zero] at this
      exact hJ _ _ _ _ _ f1 this
    split at h
    · cases h
    · next ch hch =>
      split at h
      · cases h
      · next st2 hp =>
        cases h
        have hp' := liftR_ok.mp hp
        have hd : st1.level < cfg.maxNesting →
            Declined (fun id s => runRule cfg skip tok fuel id s false) cfg.chain st1 := by
          intro hlt id hid
          obtain ⟨a, b, fa, pa, ra⟩ := d1 rfl (f1.level ▸ hlt) id hid
          exact ⟨a, b, f1.symm.trans fa, pa.trans (s1.pos rfl).symm, ra⟩
        have := hfall st1 ch st2 hi1 (fun hlt => by rw [s1.pos rfl, f1.posMax]; exact hlt) hd hch hp'
        obtain ⟨cs, _, rfl⟩ := pushText_eq hp'
        exact hJ i st1 _ _ _ ⟨rfl, rfl, rfl, rfl, rfl⟩ this

/-- `tok` keeps the whole family (what a rule lemma for the link rule assumes of the nested run) -/
def TokKeeps (J : ι → IState → Nat → List Node → Prop) (tok : IState → Except Panic IState) : Prop :=
  ∀ i s s', tok s = .ok s' → JInv J i s → JInv J i s'

/-- **the loop**: a family of frame invariants that every rule of the chain keeps (given that the
    nested runs keep it) and that the fall-back keeps is kept by `tokenize`, any fuel.  Rules and
    fall-back are only asked inside the window (`pos < posMax`): the bound of the loop is at most
    `posMax` (it is `posMax` in `tokenize` and in the nested runs). -/
theorem tokLoop_keeps (cfg : Cfg)
    (hrule : ∀ (f : Nat) (skip tok : IState → Except Panic IState), CalmFn skip →
      (∀ s s', tok s = .ok s' → Frame s s') → TokKeeps J tok →
      ∀ i id, id ∈ cfg.chain → ∀ s o s', s.level < cfg.maxNesting → s.pos < s.posMax → JInv J i s →
        runRule cfg skip tok f id s false = .ok (o, s') → JStep J i s o s')
    (hfall : ∀ (f : Nat) (skip tok : IState → Except Panic IState) i s ch s', JInv J i s →
      s.pos < s.posMax →
      (s.level < cfg.maxNesting →
        Declined (fun id s => runRule cfg skip tok f id s false) cfg.chain s) →
      firstChar s = .ok ch → s.pushText s.pos (s.pos + ch.utf8Size) = .ok s' →
      J i s (s'.pos + ch.utf8Size) s'.children) :
    ∀ (fuel e : Nat) (st st' : IState), e ≤ st.posMax → tokLoop cfg fuel e st = .ok st' →
      ∀ i, JInv J i st → JInv J i st' := by
  intro fuel e st st' he h
  refine (tokLoop_rel (R := fun e s s' => e ≤ s.posMax → Frame s s' ∧ ∀ i, JInv J i s → JInv J i s')
    (fun _ s _ => ⟨.refl s, fun _ h => h⟩)
    (fun h1 h2 he => by
      obtain ⟨f1, k1⟩ := h1 he
      obtain ⟨f2, k2⟩ := h2 (f1.posMax ▸ he)
      exact ⟨f1.trans f2, fun i hi => k2 i (k1 i hi)⟩) cfg ?_ fuel e st st' h he).2
  intro f e st st1 ih hlt hs he
  have hfr : ∀ s s', tokLoop cfg f s.posMax s = .ok s' → Frame s s' := fun s s' h => tokLoop_frame cfg f _ s s' h
  have hp := Nat.lt_of_lt_of_le hlt he
  refine ⟨tokStep_frame (skipToken_calm cfg f) hfr hs, fun i hi => ?_⟩
  exact tokStep_keeps hJ (skipToken_calm cfg f) hfr
    (fun id hid s o s' hl hp' hs hr =>
      hrule f _ _ (skipToken_calm cfg f) hfr (fun i s s' h => (ih _ s s' h (Nat.le_refl _)).2 i) i id hid s o s' hl
        (hp' hp) hs hr)
    (fun s ch s' hs hp' hd hch hpt => hfall f _ _ i s ch s' hs (hp' hp) hd hch hpt) hs hi

end

end MdIt.Inline
