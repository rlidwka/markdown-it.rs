/-
  Generic helper lemmas for C09 (`Props/C09.lean`): `foldE` reasoning rules, the association-list
  `idhash`, `Vec::insert`, set / graph updates, and "a finite acyclic relation has a minimal element".
  Nothing here mentions the specification (`edge`, `greedy`, …).
-/
import MdIt.Model.Ruler

namespace MdIt.Ruler

/-! ### `foldE` -/

section FoldE
variable {σ α ε : Type}

theorem foldE_append (f : σ → α → Except ε σ) (s : σ) (l₁ l₂ : List α) :
    foldE f s (l₁ ++ l₂) =
      match foldE f s l₁ with
      | .error e => .error e
      | .ok s' => foldE f s' l₂ := by
  induction l₁ generalizing s with
  | nil => simp [foldE]
  | cons a l ih =>
    simp only [List.cons_append, foldE]
    cases f s a with
    | error e => simp
    | ok s' => simpa using ih s'

/-- partial correctness, invariant indexed by the processed prefix -/
theorem foldE_inv (f : σ → α → Except ε σ) (I : List α → σ → Prop) (l : List α) (s s' : σ)
    (h : foldE f s l = .ok s') (h0 : I [] s)
    (step : ∀ pre a t t', a ∈ l → I pre t → f t a = .ok t' → I (pre ++ [a]) t') : I l s' := by
  suffices H : ∀ (l : List α) (pre : List α) (s : σ), I pre s → foldE f s l = .ok s' →
      (∀ pre a t t', a ∈ l → I pre t → f t a = .ok t' → I (pre ++ [a]) t') → I (pre ++ l) s' by
    simpa using H l [] s h0 h step
  intro l
  induction l with
  | nil => intro pre s hI h _; simp [foldE] at h; subst h; simpa using hI
  | cons a l ih =>
    intro pre s hI h step
    simp only [foldE] at h
    cases hf : f s a with
    | error e => simp [hf] at h
    | ok t =>
      simp [hf] at h
      have := ih (pre ++ [a]) t (step pre a s t (by simp) hI hf) h
        (fun pre b u u' hb => step pre b u u' (by simp [hb]))
      simpa using this

/-- an error of the fold is the error of one step, reached through successful steps -/
theorem foldE_error (f : σ → α → Except ε σ) (l : List α) (s : σ) (e : ε)
    (h : foldE f s l = .error e) :
    ∃ pre a post t, l = pre ++ a :: post ∧ foldE f s pre = .ok t ∧ f t a = .error e := by
  induction l generalizing s with
  | nil => simp [foldE] at h
  | cons a l ih =>
    simp only [foldE] at h
    cases hf : f s a with
    | error e' =>
      simp [hf] at h; subst h
      exact ⟨[], a, l, s, by simp, by simp [foldE], hf⟩
    | ok t =>
      simp [hf] at h
      obtain ⟨pre, b, post, u, h1, h2, h3⟩ := ih t h
      exact ⟨a :: pre, b, post, u, by simp [h1], by simp [foldE, hf, h2], h3⟩

/-- nested loops = one loop over the flattened work list -/
theorem foldE_flatMap {β : Type} (f : σ → β → Except ε σ) (w : α → List β) (l : List α) (s : σ) :
    foldE (fun s a => foldE f s (w a)) s l = foldE f s (l.flatMap w) := by
  induction l generalizing s with
  | nil => simp [foldE]
  | cons a l ih =>
    simp only [foldE, List.flatMap_cons, foldE_append]
    cases foldE f s (w a) with
    | error e => simp
    | ok t => simpa using ih t

theorem foldE_map {β : Type} (f : σ → β → Except ε σ) (w : α → β) (l : List α) (s : σ) :
    foldE f s (l.map w) = foldE (fun s a => f s (w a)) s l := by
  induction l generalizing s with
  | nil => simp [foldE]
  | cons a l ih =>
    simp only [List.map_cons, foldE]
    cases f s (w a) with
    | error e => simp
    | ok t => simpa using ih t

end FoldE

/-- a list either satisfies `P` throughout or has a first element that does not -/
theorem first_failure {α : Type} (P : α → Prop) (l : List α) :
    (∀ a ∈ l, P a) ∨ ∃ pre a post, l = pre ++ a :: post ∧ (∀ q ∈ pre, P q) ∧ ¬ P a := by
  induction l with
  | nil => exact Or.inl nofun
  | cons a l ih =>
    by_cases ha : P a
    · rcases ih with h | ⟨pre, b, post, rfl, hpre, hb⟩
      · exact Or.inl fun x hx => (List.mem_cons.1 hx).elim (fun e => e ▸ ha) (h x)
      · exact Or.inr ⟨a :: pre, b, post, rfl,
          fun q hq => (List.mem_cons.1 hq).elim (fun e => e ▸ ha) (hpre q), hb⟩
    · exact Or.inr ⟨[], a, l, rfl, nofun, ha⟩

/-! ### `idhash` -/

/-- the holders recorded for `m` (absent = none) -/
def Hd (h : IdHash) (m : Nat) : List Nat := (idGet h m).getD []

theorem idGet_idPush (h : IdHash) (m idx m' : Nat) :
    idGet (idPush h m idx) m' = if m = m' then some (Hd h m ++ [idx]) else idGet h m' := by
  induction h with
  | nil => simp [idPush, idGet, Hd]
  | cons kv t ih =>
    obtain ⟨k, v⟩ := kv
    by_cases hk : k = m
    · subst hk
      by_cases hm : k = m' <;> simp [idPush, idGet, Hd, hm]
    · by_cases hm : m = m'
      · subst hm; simp [idPush, idGet, Hd, hk] at ih ⊢; exact ih
      · simp [idPush, idGet, hk, hm] at ih ⊢
        split <;> simp_all

theorem idPush_foldl (marks : List Nat) (idx : Nat) (h : IdHash) (m : Nat) :
    (∀ x, x ∈ Hd (marks.foldl (fun h m => idPush h m idx) h) m ↔ x ∈ Hd h m ∨ (x = idx ∧ m ∈ marks))
    ∧ (idGet h m ≠ some [] → idGet (marks.foldl (fun h m => idPush h m idx) h) m ≠ some []) := by
  induction marks generalizing h with
  | nil => simp
  | cons a l ih =>
    simp only [List.foldl_cons]
    obtain ⟨h1, h2⟩ := ih (idPush h a idx)
    constructor
    · intro x
      rw [h1 x, List.mem_cons]
      by_cases ha : a = m
      · subst ha
        rw [Hd, idGet_idPush, if_pos rfl, Option.getD_some, List.mem_append, List.mem_singleton]
        constructor
        · rintro ((hx | hx) | ⟨hx, _⟩)
          · exact Or.inl hx
          · exact Or.inr ⟨hx, Or.inl rfl⟩
          · exact Or.inr ⟨hx, Or.inl rfl⟩
        · rintro (hx | ⟨hx, _ | hm⟩)
          · exact Or.inl (Or.inl hx)
          · exact Or.inl (Or.inr hx)
          · exact Or.inr ⟨hx, hm⟩
      · rw [Hd, idGet_idPush, if_neg ha]
        exact or_congr_right (and_congr_right fun _ =>
          ⟨Or.inr, fun hm => hm.resolve_left fun e => ha e.symm⟩)
    · intro hne
      apply h2
      rw [idGet_idPush]
      by_cases ha : a = m
      · rw [if_pos ha]; intro e; cases hd : Hd h a <;> rw [hd] at e <;> cases e
      · rw [if_neg ha]; exact hne

/-! ### `Vec::insert` -/

theorem insertAt?_append (a b : List Nat) (x : Nat) :
    insertAt? (a ++ b) a.length x = some (a ++ x :: b) := by
  induction a with
  | nil => cases b <;> simp [insertAt?]
  | cons c a ih => simp [insertAt?, ih]

/-- `deps_order.insert(deps_order.len() - afterall_len, x)` lands in front of the last `b.len()` items -/
theorem insertAt?_sub (a b : List Nat) (x : Nat) :
    insertAt? (a ++ b) ((a ++ b).length - b.length) x = some (a ++ x :: b) := by
  rw [List.length_append, Nat.add_sub_cancel]; exact insertAt?_append a b x

/-! ### sets and graph -/

theorem mem_setInsert (s : List Nat) (x y : Nat) : y ∈ setInsert s x ↔ y ∈ s ∨ y = x := by
  unfold setInsert
  split
  · rename_i h; simp at h; constructor
    · exact Or.inl
    · rintro (h' | h')
      · exact h'
      · subst h'; exact h
  · simp

/-- `x ∈ deps_graph[j]` -/
def G (g : Graph) (j x : Nat) : Prop := ∃ s, g[j]? = some s ∧ x ∈ s

theorem graphInsert_spec (g : Graph) (pos x : Nat) (hpos : pos < g.length) :
    ∃ g', graphInsert g pos x = .ok g' ∧ g'.length = g.length ∧
      ∀ j y, G g' j y ↔ G g j y ∨ (j = pos ∧ y = x) := by
  unfold graphInsert
  have hs : g[pos]? = some g[pos] := List.getElem?_eq_getElem hpos
  rw [hs]
  refine ⟨_, rfl, by simp, ?_⟩
  intro j y
  unfold G
  rw [List.getElem?_set]
  by_cases hj : pos = j
  · subst hj
    simp [hpos, mem_setInsert]
  · have : ¬ j = pos := fun h => hj h.symm
    simp [hj, this]

/-- a run of `deps_graph[pos].insert(x)` over a list of `(pos, x)` -/
theorem foldE_graphInsert_spec (ps : List (Nat × Nat)) (g : Graph) (hlt : ∀ p ∈ ps, p.1 < g.length) :
    ∃ g', foldE (fun g p => graphInsert g p.1 p.2) g ps = .ok g' ∧ g'.length = g.length ∧
      ∀ j y, G g' j y ↔ G g j y ∨ (j, y) ∈ ps := by
  induction ps generalizing g with
  | nil => exact ⟨g, rfl, rfl, by simp⟩
  | cons p ps ih =>
    obtain ⟨a, b⟩ := p
    obtain ⟨g1, h1, hl1, hG1⟩ := graphInsert_spec g a b (hlt (a, b) (by simp))
    obtain ⟨g2, h2, hl2, hG2⟩ := ih g1 (fun q hq => by rw [hl1]; exact hlt q (by simp [hq]))
    refine ⟨g2, by simp [foldE, h1, h2], by omega, fun j y => ?_⟩
    rw [hG2, hG1, List.mem_cons, Prod.mk.injEq, or_assoc]

theorem not_G_replicate (n j x : Nat) : ¬ G (List.replicate n []) j x := by
  rintro ⟨s, hs, hx⟩
  rw [List.getElem?_replicate] at hs
  split at hs <;> cases hs
  cases hx

theorem G_graphRemove (g : Graph) (idx j x : Nat) :
    G (graphRemove g idx) j x ↔ G g j x ∧ x ≠ idx := by
  unfold G graphRemove
  rw [List.getElem?_map]
  cases g[j]? with
  | none => simp
  | some s => simp

/-! ### a finite acyclic relation has a minimal element in every non-empty finite set -/

theorem countP_lt_of_imp {α : Type} (p q : α → Bool) (l : List α)
    (himp : ∀ x ∈ l, p x = true → q x = true) (hex : ∃ x ∈ l, q x = true ∧ p x = false) :
    l.countP p < l.countP q := by
  induction l with
  | nil => simp at hex
  | cons a l ih =>
    obtain ⟨x, hx, hq, hp⟩ := hex
    have hmono : l.countP p ≤ l.countP q :=
      List.countP_mono_left (fun y hy => himp y (by simp [hy]))
    simp only [List.countP_cons]
    rcases List.mem_cons.1 hx with rfl | hx'
    · simp [hq, hp]; omega
    · have := ih (fun y hy => himp y (by simp [hy])) ⟨x, hx', hq, hp⟩
      have ha := himp a (by simp)
      by_cases hpa : p a = true
      · simp [hpa, ha hpa]; omega
      · by_cases hqa : q a = true <;> simp [hpa, hqa] <;> omega

open Relation in
theorem exists_minimal {α : Type} (R : α → α → Prop) (hac : ∀ a, ¬ TransGen R a a)
    (U : List α) (u : α) (hu : u ∈ U) : ∃ m ∈ U, ∀ x ∈ U, ¬ R x m := by
  classical
  let f : α → Nat := fun a => U.countP (fun x => decide (TransGen R x a))
  suffices H : ∀ k, ∀ u ∈ U, f u = k → ∃ m ∈ U, ∀ x ∈ U, ¬ R x m from H (f u) u hu rfl
  intro k
  induction k using Nat.strongRecOn with
  | _ k ih =>
    intro u hu hk
    by_cases hmin : ∀ x ∈ U, ¬ R x u
    · exact ⟨u, hu, hmin⟩
    · have hex : ∃ x, x ∈ U ∧ R x u :=
        Classical.byContradiction fun hne => hmin fun x hx hR => hne ⟨x, hx, hR⟩
      obtain ⟨x, hx, hR⟩ := hex
      have hlt : f x < f u := by
        apply countP_lt_of_imp
        · intro y _ hy
          simp only [decide_eq_true_eq] at hy ⊢
          exact TransGen.tail hy hR
        · exact ⟨x, hx, by simpa using TransGen.single hR, by simpa using hac x⟩
      exact ih (f x) (by omega) x hx rfl

end MdIt.Ruler
