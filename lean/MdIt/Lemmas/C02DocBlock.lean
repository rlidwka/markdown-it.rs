/-
  Helper development for `Props/C02Doc.lean` (property C02 on the real parser models), block part:
  the DEPTH of the trees the block tokenizer `MdIt.Block.tokenize` builds.

  `bdepth cb I n` is the depth of a block tree in which every block node weighs `cb` and every
  `InlineRoot` placeholder weighs `I` (the depth of what the splice walk puts in its place).

  By recursion over the grammar of block trees (`Lemmas/BlockGrammar.lean`), `Emits.depth`: a node that
  a tokenizer entered with `state.level = l` pushes has depth `≤ (max_nesting - l) + J`, for every
  `J ≥ max I 1`: a leaf block weighs 1, a paragraph / heading `1 + I`, a block quote 1 + what a
  tokenizer at level `l + 1` pushes, a list 2 + what a tokenizer at level `l + 2` pushes (the list rule
  raises the level once for the list and once more for each item body; an item whose body is refused
  by the guard is an EMPTY item — that is where the `1` in `max I 1` comes from).  At `l ≥ max_nesting`
  nothing is pushed (`Emits.lt`, the level guard).
-/
import MdIt.Lemmas.BlockGrammar

namespace MdIt.Block
open MdIt.Lines (LineOffset)

mutual
/-- depth of a block tree: a block node weighs `cb`, a placeholder weighs `I` (its own children
    are dropped by the splice walk) -/
def bdepth (cb I : Nat) : BNode → Nat
  | ⟨k, _, cs⟩ => if k.isInl then I else cb + bdepthList cb I cs
def bdepthList (cb I : Nat) : List BNode → Nat
  | [] => 0
  | c :: cs => max (bdepth cb I c) (bdepthList cb I cs)
end

theorem bdepth_eq (cb I : Nat) (n : BNode) :
    bdepth cb I n = if n.kind.isInl then I else cb + bdepthList cb I n.children := by
  cases n; simp [bdepth]

theorem bdepthList_le_iff (cb I B : Nat) (cs : List BNode) :
    bdepthList cb I cs ≤ B ↔ ∀ c ∈ cs, bdepth cb I c ≤ B := by
  induction cs with
  | nil => simp [bdepthList]
  | cons c cs ih => simp [bdepthList, Nat.max_le, ih]

theorem bdepth_le_of_mem {cb I : Nat} {c : BNode} {cs : List BNode} (h : c ∈ cs) :
    bdepth cb I c ≤ bdepthList cb I cs :=
  (bdepthList_le_iff cb I _ cs).mp (Nat.le_refl _) c h

/-- every node of the list has depth `≤ B` (block nodes weigh 1) -/
def AllLe (I B : Nat) (cs : List BNode) : Prop := ∀ c ∈ cs, bdepth 1 I c ≤ B

theorem AllLe.mono {I B B' : Nat} {cs : List BNode} (h : AllLe I B cs) (hb : B ≤ B') : AllLe I B' cs :=
  fun c hc => Nat.le_trans (h c hc) hb

theorem bdepth_container {I B : Nat} {k : Kind} {r : Option (Nat × Nat)} {cs : List BNode}
    (hk : k.isInl = false) (h : AllLe I B cs) : bdepth 1 I ⟨k, r, cs⟩ ≤ 1 + B := by
  rw [bdepth_eq]
  simp only [hk, Bool.false_eq_true, ↓reduceIte]
  have := (bdepthList_le_iff 1 I B cs).mpr h
  omega

/-- the nested tokenizer: nothing of positive depth at or beyond the limit, depth
    `≤ (N - level) + J` below it -/
def TokD (I J N : Nat) (tok : Tok) : Prop :=
  ∀ s s', tok s = .ok s' → ∀ B, (s.level < N → N - s.level + J ≤ B) →
    AllLe I B s.children → AllLe I B s'.children

section rules
variable {I J N : Nat}

theorem leaf_depth (k : Kind) (r : Option (Nat × Nat)) (hk : k.isInl = false) :
    bdepth 1 I ⟨k, r, []⟩ = 1 := by
  rw [bdepth_eq]; simp [hk, bdepthList]

theorem text_depth (k : Kind) (r : Option (Nat × Nat)) (hk : k.isInl = false) (t : List Char)
    (m : List (Nat × Nat)) : bdepth 1 I ⟨k, r, [⟨.inlineRoot t m, none, []⟩]⟩ = 1 + I := by
  rw [bdepth_eq]
  simp only [hk, Bool.false_eq_true, ↓reduceIte, bdepthList]
  rw [bdepth_eq]; simp [Kind.isInl]

/-- `mark_tight_paragraphs` does not deepen anything: a dissolved paragraph is replaced by its
    (shallower) children -/
theorem markTight_depth {B : Nat} (cs : List BNode) (h : AllLe I B cs) : AllLe I B (markTight cs) := by
  intro c hc
  rcases mem_markTight hc with h1 | ⟨p, hp, hk, h1⟩
  · exact h c h1
  · have hn := h p hp
    rw [bdepth_eq, hk] at hn
    simp only [Kind.isInl, Bool.false_eq_true, ↓reduceIte] at hn
    have := bdepth_le_of_mem (cb := 1) (I := I) h1
    omega

theorem tightenItem_depth {c : BNode} (hk : c.kind = .listItem) :
    bdepth 1 I (tightenItem c) ≤ bdepth 1 I c := by
  rw [bdepth_eq, bdepth_eq]
  simp only [tightenItem, hk, Kind.isInl, Bool.false_eq_true, ↓reduceIte]
  have h1 : AllLe I (bdepthList 1 I c.children) c.children := fun y hy => bdepth_le_of_mem hy
  have h2 := (bdepthList_le_iff 1 I _ _).mpr (markTight_depth _ h1)
  omega

mutual
theorem Emits.depth {G : Gram} (hJ : 1 ≤ J) (hIJ : I ≤ J) : ∀ {L : Nat} {n : BNode}, Emits G L n →
    bdepth 1 I n ≤ G.N - L + J
  | _, _, .leaf hl hn => by
    obtain ⟨k, rg, cs, rfl, hk, rfl | ⟨t, m, rfl⟩⟩ := hn.shape
    · rw [leaf_depth _ _ hk]; omega
    · rw [text_depth _ _ hk]; omega
  | _, _, .bare hl _ => by rw [bdepth_eq]; simp only [Kind.isInl, ↓reduceIte]; omega
  | L, _, .quote (r := r) (cs := cs) hl hcs => by
    have := bdepth_container (I := I) (k := .blockquote) (r := some r) (cs := cs) rfl
      (B := G.N - (L + 1) + J) fun c hc => (hcs c hc).depth hJ hIJ
    omega
  | L, _, .list (k := k) (r := r) (tight := tight) hl hk hit => by
    have hcs := forall_tightened (tight := tight) (fun c hc => ((hit c hc).depth hJ hIJ hl).2)
      fun _ c hc => Nat.le_trans (tightenItem_depth ((hit c hc).depth hJ hIJ hl).1)
        ((hit c hc).depth hJ hIJ hl).2
    have := bdepth_container (I := I) (k := k) (r := some r) (isInl_of_isListKind hk) hcs
    omega
/-- an item whose body the level guard refused is an empty item: that is where `1 ≤ J` comes from -/
theorem EmitsItem.depth {G : Gram} (hJ : 1 ≤ J) (hIJ : I ≤ J) : ∀ {L : Nat} {t : Bool} {c : BNode},
    EmitsItem G L t c → L < G.N → c.kind = .listItem ∧ bdepth 1 I c ≤ G.N - L + J - 1
  | L, _, _, .mk (r := r) (cs := cs) hcs _, hl => by
    have := bdepth_container (I := I) (k := .listItem) (r := some r) rfl (B := G.N - (L + 2) + J)
      fun c hc => (hcs c hc).depth hJ hIJ
    refine ⟨rfl, ?_⟩
    by_cases hnil : cs = []
    · subst hnil; rw [leaf_depth _ _ rfl]; omega
    · obtain ⟨x, hx⟩ := List.exists_mem_of_ne_nil cs hnil
      have hlt := (hcs x hx).lt
      omega
end

theorem tokenize_depth (cfg : Cfg) (hJ : 1 ≤ J) (hIJ : I ≤ J) :
    ∀ fuel : Nat, TokD I J cfg.maxNesting (tokenize cfg fuel) :=
  fun fuel s s' h _ hB => ((tokenize_emits cfg fuel).1 s s' h).all
    fun _ hc => Nat.le_trans (hc.depth hJ hIJ) (hB hc.lt)

/-- **`parseBlocks_depth`.**  The tree of the block pass has depth `≤ max_nesting + 1 + max I 1`
    when a block node weighs 1 and a placeholder `I` (for `max_nesting ≥ 1`; with `max_nesting = 0`
    the tokenizer refuses at once and the tree is the bare root). -/
theorem parseBlocks_depth {cfg : Cfg} {src : List Char} {root : BNode} {refs : Refs.RefMap}
    (hJ : 1 ≤ J) (hIJ : I ≤ J) (h : parseBlocks cfg src = .ok (root, refs)) :
    bdepth 1 I root ≤ (if cfg.maxNesting = 0 then 1 else cfg.maxNesting + 1 + J) := by
  obtain ⟨cs, rfl, hcs⟩ := parseBlocks_emits h
  cases cs with
  | nil => rw [leaf_depth _ _ rfl]; split <;> omega
  | cons x xs =>
    have hlt : 0 < cfg.maxNesting := (hcs x (by simp)).lt
    have := bdepth_container (I := I) (k := .root) (r := some (0, Lines.byteLen src)) rfl
      (B := cfg.maxNesting + J) fun c hc => (hcs c hc).depth hJ hIJ
    rw [if_neg (by omega)]
    omega

end rules

end MdIt.Block
