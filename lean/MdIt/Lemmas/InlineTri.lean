/-
  Results that carry errors, for the recursive part of the inline parser.

  The no-fuel walk (`Lemmas/InlineLink.lean`, `InlineFuel.lean`) and the no-panic walk
  (`Lemmas/InlineTotalFrame.lean` … `InlineTotalLoop.lean`) state of every layer "an error of the result
  is harmless, a value of the result satisfies `Q`" (`SkipSpec`, `TokSpec`, `RuleSpec`; `SkipT`, `TokT`,
  `SilT`, `RealT`).  `Tri E Q r` is that statement (a triage of the result `r`: `E` of its error, `Q` of its
  value); the lemmas here take one layer apart once, errors
  included, for every `E` and `Q`:

    * `labelLoop_tri`                  the label loop of `parse_link_label`, for a loop invariant indexed by
                                       the budget;
    * `tokStepG_tri`, `skipStepG_tri`  one step of `tokenize` / of `skip_token` over any rule runner
                                       (`Model/InlineH.lean`), `tokStep_tri` at the model's;
    * `firstRule_induct`               the chain (`firstRuleG_induct` of `Lemmas/InlineEngine.lean` at the
                                       model's `firstRule`);
    * `tokStepG_rel`, `tokStep_rel`, `tokLoop_rel`   successful runs only: a reflexive, transitive relation
                                       through one iteration (any rule runner / the model's) and through the
                                       model's loop (`Eng.tokLoop_rel` for every copy of the tokenizer).
-/
import MdIt.Lemmas.InlineEngine
import MdIt.Lemmas.InlineInduct

namespace MdIt.Inline
open MdIt.InlineH (firstRuleG tokStepG skipStepG firstRuleG_eq firstRuleG_induct)

/-- an error of the result satisfies `E`, a value `Q` -/
def Tri {α : Type} (E : Panic → Prop) (Q : α → Prop) : Except Panic α → Prop
  | .error e => E e
  | .ok a => Q a

theorem tri_iff {α : Type} {E : Panic → Prop} {Q : α → Prop} {r : Except Panic α} :
    Tri E Q r ↔ (∀ e, r = .error e → E e) ∧ (∀ a, r = .ok a → Q a) := by
  cases r with
  | error e =>
    constructor
    · intro h; exact ⟨fun _ he => (by cases he; exact h), fun _ ha => nomatch ha⟩
    · intro h; exact h.1 _ rfl
  | ok a =>
    constructor
    · intro h; exact ⟨fun _ he => (nomatch he), fun _ ha => (by cases ha; exact h)⟩
    · intro h; exact h.2 _ rfl

/-- weaken both sides; the value side may use which value it is -/
theorem Tri.mono {α : Type} {E E' : Panic → Prop} {Q Q' : α → Prop} {r : Except Panic α} (h : Tri E Q r)
    (he : ∀ e, E e → E' e) (hq : ∀ a, r = .ok a → Q a → Q' a) : Tri E' Q' r := by
  cases r with
  | error e => exact he _ h
  | ok a => exact hq _ rfl h

/-- the errors the two totality walks exclude (predicates on ERRORS; on results the same is written
    `r ≠ .error .fuel` and `NoRust r`, `Lemmas/InlineTotalDef.lean`) -/
def NoFuel (e : Panic) : Prop := e ≠ .fuel
def NotRust (e : Panic) : Prop := ∀ p, e ≠ .rust p

theorem notRust_fuel : NotRust .fuel := fun _ h => by cases h
theorem noFuel_rust (p : RPanic) : NoFuel (.rust p) := fun h => by cases h

theorem noFuel_liftR {α : Type} {x : Except RPanic α} {e : Panic} (h : liftR x = .error e) : NoFuel e := by
  obtain ⟨r, rfl⟩ := liftR_error h; exact noFuel_rust r

/-! ## the chain -/

/-- **the chain, errors included**: a contract `Post` that every rule meets under `Pre`, that holds of
    declining on the spot, and that a declining rule passes on, holds of the chain -/
theorem firstRule_induct {run : RuleId → IState → RuleRes} {Pre : IState → Prop}
    {Post : IState → RuleRes → Prop} (hnil : ∀ s, Pre s → Post s (.ok (none, s)))
    (hseq : ∀ s s1 r, Pre s → Post s (.ok (none, s1)) → Pre s1 ∧ (Post s1 r → Post s r))
    (rules : List RuleId) (hrun : ∀ id, id ∈ rules → ∀ s, Pre s → Post s (run id s)) (st : IState)
    (hp : Pre st) : Post st (firstRule run rules st) :=
  firstRuleG_eq run rules st ▸ firstRuleG_induct hnil hseq rules hrun st hp

/-! ## the label loop -/

/-- **the label loop, errors included**: `I n st` is the loop invariant at budget `n`; the result is a
    state under the invariant, at a `]` when the loop answers "found" -/
theorem labelLoop_tri {skip : IState → Except Panic IState} {en : Bool} {E : Panic → Prop}
    {I : Nat → IState → Prop} (h0 : ∀ st, I 0 st → E .fuel)
    (hwin : ∀ n st e, I (n + 1) st → liftR st.window = .error e → E e)
    (hskip : ∀ n st ch r, I (n + 1) st → st.window = .ok (ch :: r) →
      Tri E (fun st1 => I n st1 ∧ st1.pos ≠ 0) (skip st)) :
    ∀ (n : Nat) (level : Int) (st : IState), I n st →
      Tri E (fun x => (∃ m, I m x.2) ∧ (x.1 = some true → ∃ r, x.2.window = .ok (']' :: r)))
        (labelLoop skip en n level st) := by
  intro n level st
  induction n, level, st using labelLoop_induct (skip := skip) (en := en) with
  | fuel _ st => intro hi; exact h0 st hi
  | window n _ st e hw => intro hi; exact hwin n st e hi hw
  | eof n _ st => intro hi; exact ⟨⟨_, hi⟩, fun h => nomatch h⟩
  | close n _ st r hw => intro hi; exact ⟨⟨_, hi⟩, fun _ => ⟨r, liftR_ok.mp hw⟩⟩
  | skipErr n _ st ch r e hw he =>
    intro hi
    have := hskip n st ch r hi (liftR_ok.mp hw)
    rw [he] at this; exact this
  | under n _ st r st1 hw hs h0 =>
    intro hi
    have := hskip n st _ r hi (liftR_ok.mp hw)
    rw [hs] at this; exact absurd h0 this.2
  | stop n _ st r st1 hw hs =>
    intro hi
    have := hskip n st _ r hi (liftR_ok.mp hw)
    rw [hs] at this; exact ⟨⟨_, this.1⟩, fun h => nomatch h⟩
  | step n _ _ st ch r st1 hw hs ih =>
    intro hi
    have := hskip n st ch r hi (liftR_ok.mp hw)
    rw [hs] at this; exact ih this.1

/-! ## one step of each loop -/

/-- **one iteration of `tokenize`, errors included**: `C` is what the chain (or the over-limit branch)
    leaves, `Q` what the iteration leaves -/
theorem tokStepG_tri {ι : Type} {mx : Nat} {chain : List ι} {run : ι → IState → Bool → RuleRes}
    {st : IState} {E : Panic → Prop} {Q : IState → Prop} {C : Option Nat × IState → Prop}
    (hchain : st.level < mx → Tri E C (firstRuleG (fun id s => run id s false) chain st))
    (hover : ¬ st.level < mx → C (none, st))
    (hsome : ∀ len st', C (some len, st') → Q { st' with pos := st'.pos + len })
    (hnone : ∀ st', C (none, st') → Tri E Q (charStep st')) : Tri E Q (tokStepG mx chain run st) := by
  have hok : Tri E C (if st.level < mx then firstRuleG (fun id s => run id s false) chain st
      else .ok (none, st)) := by
    split
    · next h => exact hchain h
    · next h => exact hover h
  unfold tokStepG
  simp only
  split
  · next e he => rw [he] at hok; exact hok
  · next len st' he => rw [he] at hok; exact hsome len st' hok
  · next st' he => rw [he] at hok; exact hnone st' hok

/-- **the body of `skip_token` behind the memo lookup, errors included** -/
theorem skipStepG_tri {ι : Type} {chain : List ι} {run : ι → IState → Bool → RuleRes}
    {st : IState} {E : Panic → Prop} {Q : IState → Prop} {C : Option Nat × IState → Prop}
    (hchain : Tri E C (firstRuleG (fun id s => silentBumped (run id) s) chain st))
    (hsome : ∀ len st', C (some len, st') →
      Q { st' with pos := st'.pos + len, cache := cacheInsert st'.cache st.pos (st'.pos + len) })
    (hnone : ∀ st', C (none, st') →
      Tri E (fun ch => Q { st' with pos := st'.pos + ch.utf8Size,
                                    cache := cacheInsert st'.cache st.pos (st'.pos + ch.utf8Size) })
        (firstChar st')) :
    Tri E Q (skipStepG chain run st) := by
  unfold skipStepG
  simp only
  split
  · next e he => rw [he] at hchain; exact hchain
  · next len st' he => rw [he] at hchain; exact hsome len st' hchain
  · next st' he =>
    rw [he] at hchain
    have := hnone st' hchain
    split
    · next e hf => rw [hf] at this; exact this
    · next ch hf => rw [hf] at this; exact this

theorem tokStep_tri {cfg : Cfg} {skip tok : IState → Except Panic IState} {fuel : Nat} {st : IState}
    {E : Panic → Prop} {Q : IState → Prop} {C : Option Nat × IState → Prop}
    (hchain : st.level < cfg.maxNesting →
      Tri E C (firstRule (fun id s => runRule cfg skip tok fuel id s false) cfg.chain st))
    (hover : ¬ st.level < cfg.maxNesting → C (none, st))
    (hsome : ∀ len st', C (some len, st') → Q { st' with pos := st'.pos + len })
    (hnone : ∀ st', C (none, st') → Tri E Q (charStep st')) : Tri E Q (tokStep cfg skip tok fuel st) := by
  rw [tokStep_eq_G]
  exact tokStepG_tri (fun h => by rw [firstRuleG_eq]; exact hchain h) hover hsome hnone

/-! ## successful runs: a reflexive, transitive relation through one iteration and through the loop -/

/-- one iteration of the tokenizer loop, over any rule runner, keeps a reflexive, transitive relation that
    the rules of the chain keep (they run only below the nesting limit), that does not look at `pos`, and
    that pushing a non-empty piece of text keeps -/
theorem tokStepG_rel {ι : Type} {R : IState → IState → Prop} (refl : ∀ s, R s s)
    (trans : ∀ {a b c}, R a b → R b c → R a c) {mx : Nat} {chain : List ι} {run : ι → IState → Bool → RuleRes}
    {st st' : IState}
    (hrun : st.level < mx → ∀ id ∈ chain, ∀ s o s', run id s false = .ok (o, s') → R s s')
    (hpos : ∀ s p, R s { s with pos := p })
    (hpush : ∀ s a b s', a < b → s.pushText a b = .ok s' → R s s')
    (h : tokStepG mx chain run st = .ok st') : R st st' := by
  refine (tri_iff.mp (tokStepG_tri (E := fun _ => True) (C := fun x => R st x.2) (Q := R st)
    (fun hl => tri_iff.mpr ⟨fun _ _ => trivial, fun x hx =>
      firstRuleG_induct (Pre := fun _ => True) (Post := fun s r => ∀ x, r = .ok x → R s x.2)
        (fun s _ x h => by cases h; exact refl s)
        (fun s s1 r _ h1 => ⟨trivial, fun h2 x h => trans (h1 _ rfl) (h2 x h)⟩)
        chain (fun id hid s _ x h => hrun hl id hid s x.1 x.2 h) st trivial x hx⟩)
    (fun _ => refl st) (fun len s1 h1 => trans h1 (hpos _ _)) ?_)).2 _ h
  intro s1 h1
  refine tri_iff.mpr ⟨fun _ _ => trivial, fun s2 h2 => ?_⟩
  unfold charStep at h2
  split at h2
  · cases h2
  · next ch _ =>
    split at h2
    · cases h2
    · next hp =>
      cases h2
      exact trans (trans h1 (hpush _ _ _ _ (Nat.lt_add_of_pos_right (Char.utf8Size_pos ch)) (liftR_ok.mp hp)))
        (hpos _ _)

theorem tokStep_rel {R : IState → IState → Prop} (refl : ∀ s, R s s)
    (trans : ∀ {a b c}, R a b → R b c → R a c) {cfg : Cfg} {skip tok : IState → Except Panic IState}
    {fuel : Nat} {st st' : IState}
    (hrun : st.level < cfg.maxNesting → ∀ id ∈ cfg.chain, ∀ s o s',
      runRule cfg skip tok fuel id s false = .ok (o, s') → R s s')
    (hpos : ∀ s p, R s { s with pos := p })
    (hpush : ∀ s a b s', a < b → s.pushText a b = .ok s' → R s s')
    (h : tokStep cfg skip tok fuel st = .ok st') : R st st' :=
  tokStepG_rel refl trans hrun hpos hpush (tokStep_eq_G cfg skip tok fuel st ▸ h)

/-- partial correctness of the model's `tokenize` (`Eng.tokLoop_rel` at the model's engine): the loop with
    end `e` keeps a reflexive, transitive relation `R e` that one iteration keeps whenever the nested runs
    (the `tok` of the rules) keep it -/
theorem tokLoop_rel {R : Nat → IState → IState → Prop} (refl : ∀ e s, R e s s)
    (trans : ∀ {e a b c}, R e a b → R e b c → R e a c) (cfg : Cfg)
    (hstep : ∀ f e st st', (∀ e s s', tokLoop cfg f e s = .ok s' → R e s s') → st.pos < e →
      tokStep cfg (fun s => skipToken cfg f s) (fun s => tokLoop cfg f s.posMax s) f st = .ok st' →
      R e st st') :
    ∀ (fuel e : Nat) (st st' : IState), tokLoop cfg fuel e st = .ok st' → R e st st' := by
  intro fuel e st st' h
  rw [(engM cfg fuel).1] at h
  refine (Eng.base cfg).tokLoop_rel false refl trans (fun f e st st' ih hlt hs => ?_) fuel e st st' h
  refine hstep f e st st' (fun e s s' h => ih e s s' ((engM cfg f).1 e s ▸ h)) hlt ?_
  rw [tokStep_eq_G]
  simp only [(engM cfg f).1, (engM cfg f).2]
  exact hs


end MdIt.Inline
