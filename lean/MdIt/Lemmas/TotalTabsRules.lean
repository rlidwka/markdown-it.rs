/-
  Helper development for `Props/TotalTabs.lean` (C01 for ALL sources, split tabs included): the
  newline rule does not panic when the per-line table is only `C05T.MapT`.

  `TT.newline_total_w` (Lemmas/InlineRules.lean) asks of a trailing text only `TrailOKw`; the one place
  where `MapOK` was used (`tailSpaces ≤ map_end`) uses the SHIFT argument instead (`trailOKw_of`: the blanks
  stand behind a solid character of the same line, and the translation is a shift there).
-/
import MdIt.Lemmas.TotalTabsDef

namespace MdIt.Inline.TT
open MdIt.Inline
open MdIt.InlineOps (Srcmap getSourcePosFor getMap byteLen slice)
open MdIt.C05T (MapT RIv tv_RInv tv_NlAct tv_StepRI tv_StepOK SolidMarkers)
open MdIt.C05R (Cut)
open MdIt.C05 (WFMap byteLen_append slice_ok_iff)

/-- in a frame where the newline rule is active, the trailing blanks of a trailing text stand behind a
    solid character of the same line: the translation is a shift there (`MapT.shift`), so the source
    end of the text lies at least `tailSpaces` behind the source offset of that character -/
theorem trailOKw_of {A : Prop} {lo : Nat} {st : IState} (hmap : MapT st.src st.srcmap)
    (hri : tv_RInv A lo st) (hA : A) : TrailOKw st := by
  have h : (MapT st.src st.srcmap ∧ tv_RInv A lo st) := ⟨hmap, hri⟩
  intro init last hcs hlt
  obtain ⟨_, start, xs, xe, hsl, _, hxe, hrange⟩ := h.2.ri.trail init last hcs hlt
  obtain ⟨_, _, hse⟩ := slice_boundaries hsl
  have h1 := tailSpaces_le last.content
  refine ⟨by omega, ?_⟩
  intro a b hr hlt2
  rw [hrange] at hr; simp only [Option.some.injEq, Prod.mk.injEq] at hr
  obtain ⟨_, rfl⟩ := hr
  obtain ⟨pre, hpre⟩ := tailSpaces_split last.content
  have hbl : byteLen last.content = byteLen pre + tailSpaces last.content := by
    conv => lhs; rw [hpre]
    rw [byteLen_append, byteLen_replicate_space]
  have hpne : pre ≠ [] := by
    intro hp; subst hp; simp only [byteLen, Nat.zero_add] at hbl; omega
  obtain ⟨pre0, ch0, hpre0⟩ : ∃ pre0 ch0, pre = pre0 ++ [ch0] := by
    rcases List.eq_nil_or_concat pre with h' | ⟨a, b, h'⟩
    · exact absurd h' hpne
    · exact ⟨a, b, by rw [h', List.concat_eq_append]⟩
  have hcont : last.content
      = pre0 ++ [ch0] ++ List.replicate (tailSpaces last.content) ' ' := by
    rw [← hpre0]; exact hpre
  have hnsp : ch0 ≠ ' ' := C05T.tv_tailSpaces_max hcont rfl
  have hnlf : ch0 ≠ '\n' := by
    intro hc
    apply h.2.nolf hA init last hcs hlt
    rw [hcont, hc]; simp
  have hbp : byteLen pre = byteLen pre0 + ch0.utf8Size := by
    rw [hpre0, byteLen_append]; simp [byteLen]
  obtain ⟨p, q, e, l1, l2⟩ := (slice_ok_iff _ _ _ _).mp hsl
  have hcut : Cut st.src (st.pos - tailSpaces last.content - ch0.utf8Size) st.pos
      (ch0 :: List.replicate (tailSpaces last.content) ' ') := by
    refine ⟨p ++ pre0, q, ?_, ?_, ?_⟩
    · rw [e]; conv => lhs; rw [hcont]
      simp only [List.append_assoc, List.cons_append, List.nil_append]
    · rw [byteLen_append]; omega
    · simp only [byteLen]; rw [byteLen_replicate_space]; omega
  obtain ⟨x0, hx0⟩ := C05.translate_total st.srcmap h.1.wf (st.pos - tailSpaces last.content)
  have := h.1.shift _ _ ch0 _ (st.pos - tailSpaces last.content) st.pos x0 xe hcut hnsp hnlf
    (space_not_lf _) (by omega) (by omega) (Nat.le_refl _) hx0 hxe
  omega

theorem GoodT.trailOKw {cfg : Cfg} {lo : Nat} {st : IState} (h : GoodT cfg lo st)
    (hA : C05T.tv_NlAct cfg st.level) : TrailOKw st := trailOKw_of h.map h.ri hA

end MdIt.Inline.TT
