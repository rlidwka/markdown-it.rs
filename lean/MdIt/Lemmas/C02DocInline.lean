/-
  Helper development for `Props/C02Doc.lean` (property C02 on the real parser models), inline part:
  the DEPTH invariant of the inline tokenizer `MdIt.Inline.tokLoop`.

  `idepth n` is the depth of an inline tree NOT counting the emphasis wrappers (`Em`, `Strong`,
  `Strikethrough`: `Val.wrap`), which the delimiter matcher (`scan_and_match_delimiters`, run from
  the emphasis rule) wraps around already parsed siblings and which no level counter sees.

  Invariant (an instance of `Lemmas/InlineWalk.lean`): a tokenizer entered with
  `state.level = l` pushes only nodes of `idepth ≤ (max_nesting - l) + 1`: text / breaks / escapes /
  markers weigh 1, a code span or an autolink 2 (below the limit only), a link or image 1 + what the
  tokenizer at level `l + 1` pushes; at or beyond the limit only text is pushed.  The delimiter
  matcher moves siblings under a weightless wrapper and rewrites marker VALUES in place
  (`replaceAt`; that the rewritten node is the opener marker itself and not a wrapper that has
  taken its index is the index invariant of `Lemmas/EmphMatch.lean`).
-/
import MdIt.Lemmas.InlineWalk
import MdIt.Lemmas.InlineFrame

namespace MdIt.Inline
open MdIt.InlineOps (Srcmap getSourcePosFor getMap byteLen slice)

/-- weight of a node value: the emphasis wrappers are free -/
def Val.wcost : Val → Nat
  | .wrap _ _ => 0
  | _ => 1

theorem Val.wcost_le_one (v : Val) : v.wcost ≤ 1 := by cases v <;> simp [Val.wcost]

mutual
/-- depth not counting emphasis wrappers -/
def idepth : Node → Nat
  | ⟨v, _, cs⟩ => v.wcost + idepthList cs
def idepthList : List Node → Nat
  | [] => 0
  | c :: cs => max (idepth c) (idepthList cs)
end

mutual
/-- plain depth (every node weighs 1) -/
def fullDepth : Node → Nat
  | ⟨_, _, cs⟩ => 1 + fullDepthList cs
def fullDepthList : List Node → Nat
  | [] => 0
  | c :: cs => max (fullDepth c) (fullDepthList cs)
end

theorem idepth_eq (n : Node) : idepth n = n.val.wcost + idepthList n.children := by
  cases n; simp [idepth]

theorem idepthList_le_iff (B : Nat) (cs : List Node) :
    idepthList cs ≤ B ↔ ∀ c ∈ cs, idepth c ≤ B := by
  induction cs with
  | nil => simp [idepthList]
  | cons c cs ih => simp [idepthList, Nat.max_le, ih]

/-- every node of the list has wrapper-free depth `≤ B` -/
def DL (B : Nat) (cs : List Node) : Prop := ∀ c ∈ cs, idepth c ≤ B

theorem DL.nil {B : Nat} : DL B [] := fun _ h => by simp at h

theorem DL.append {B : Nat} {a b : List Node} (ha : DL B a) (hb : DL B b) : DL B (a ++ b) := by
  intro n hn
  rcases List.mem_append.mp hn with h | h
  · exact ha n h
  · exact hb n h

theorem DL.left {B : Nat} {a b : List Node} (h : DL B (a ++ b)) : DL B a :=
  fun n hn => h n (List.mem_append_left _ hn)

theorem DL.right {B : Nat} {a b : List Node} (h : DL B (a ++ b)) : DL B b :=
  fun n hn => h n (List.mem_append_right _ hn)

theorem DL.single {B : Nat} {n : Node} (h : idepth n ≤ B) : DL B [n] := by
  intro c hc; simp at hc; subst hc; exact h

theorem DL.last {B : Nat} {a : List Node} {n : Node} (h : DL B (a ++ [n])) : idepth n ≤ B :=
  h n (by simp)

theorem DL.push {B : Nat} {a : List Node} {n : Node} (h : DL B a) (hn : idepth n ≤ B) :
    DL B (a ++ [n]) := h.append (DL.single hn)

theorem DL.list {B : Nat} {l : List Node} (h : DL B l) : idepthList l ≤ B := (idepthList_le_iff B l).mpr h

/-- value replaced by one that does not weigh more, children kept -/
theorem idepth_withVal {n : Node} {v : Val} (hv : v.wcost ≤ n.val.wcost) (r : Option (Nat × Nat)) :
    idepth { n with val := v, range := r } ≤ idepth n := by
  rw [idepth_eq, idepth_eq]; simp only; omega

theorem isText_wcost {n : Node} (h : n.isText = true) : n.val.wcost = 1 := by
  unfold Node.isText at h
  split at h
  · next hv => rw [hv]; rfl
  · cases h

theorem asMarker_wcost {n : Node} {m : Marker} (h : n.asMarker = some m) : n.val.wcost = 1 := by
  rw [asMarker_val h]; rfl

theorem idepth_leaf (v : Val) (r : Option (Nat × Nat)) : idepth (Node.leaf v r) ≤ 1 := by
  have := v.wcost_le_one
  simp [Node.leaf, idepth, idepthList]; omega

theorem idepth_newText (c : List Char) (r : Option (Nat × Nat)) : idepth (Node.newText c r) = 1 := by
  simp [Node.newText, idepth, idepthList, Val.wcost]

/-! ## trailing text -/

theorem trailingTextPush_depth {B : Nat} (hB : 1 ≤ B) {src : List Char} {m : Srcmap}
    {cs out : List Node} {a b : Nat} (h : trailingTextPush src m cs a b = .ok out)
    (hc : DL B cs) : DL B out := by
  rcases trailingTextPush_ok h with ⟨piece, r, rfl⟩ | ⟨init, last, c, r, rfl, ht, rfl⟩
  · exact hc.push (by rw [idepth_newText]; exact hB)
  · refine hc.left.push (Nat.le_trans ?_ hc.last)
    rw [idepth_eq, idepth_eq, isText_wcost ht]; simp only [Val.wcost]; omega

theorem pushText_depth {B : Nat} (hB : 1 ≤ B) {st st' : IState} {a b : Nat}
    (h : st.pushText a b = .ok st') (hc : DL B st.children) : DL B st'.children := by
  obtain ⟨cs, hcs, rfl⟩ := pushText_eq h
  exact trailingTextPush_depth hB hcs hc

/-! ## the rules without look-ahead recursion (real or silent mode) -/

/-- whatever a rule other than emphasis, link and image builds stays within a bound of at least 2
    (a code span or an autolink is a node around one text) -/
theorem Built.depth {B : Nat} (hB : 2 ≤ B) {st st' : IState} (hb : Built st st')
    (hc : DL B st.children) : DL B st'.children := by
  have hB1 : 1 ≤ B := by omega
  cases hb with
  | cache c => exact hc
  | text _ h => exact pushText_depth hB1 h hc
  | @brk cs n r hpop =>
    have hcs : DL B cs := by
      rcases trailingTextPop_ok hpop with rfl | ⟨init, last, hil, ht, rfl | ⟨c, r', rfl⟩⟩
      · exact hc
      · rw [hil] at hc; exact hc.left
      · rw [hil] at hc
        refine hc.left.push (Nat.le_trans ?_ hc.last)
        rw [idepth_eq, idepth_eq, isText_wcost ht]; simp only [Val.wcost]; omega
    exact hcs.push (Nat.le_trans (idepth_leaf _ _) hB1)
  | hard r => exact hc.push (Nat.le_trans (idepth_leaf _ _) hB1)
  | special c m i r => exact hc.push (Nat.le_trans (idepth_leaf _ _) hB1)
  | code c r ri hrun hnd =>
    refine hc.push ?_
    simp [idepth, idepthList, Val.wcost, Node.newText]; omega
  | auto r ri hne hd =>
    refine hc.push ?_
    simp [idepth, idepthList, Val.wcost, Node.newText]; omega

/-! ## delimiter matching

  The statements are about the depth NOT counting `.wrap` nodes, so they do not depend on the nesting
  limit of the wrappers (`room`, `inner_depth`): a wrapper weighs 0 wherever it is put. -/

theorem anyWrap_idepth (mk : Char) (B : Nat) : AnyWrap mk (fun n => idepth n ≤ B) := by
  intro w rg tail ht
  have := (idepthList_le_iff B tail).mpr ht
  rw [idepth_eq]; simp only [Val.wcost]; omega

theorem matchKeeps_idepth (mk : Char) (room B : Nat) : MatchKeeps mk room (fun n => idepth n ≤ B) where
  remark := fun _ _ _ rg hm h =>
    Nat.le_trans (idepth_withVal (by rw [asMarker_wcost hm]; exact Val.wcost_le_one _) rg) h
  wrap := fun w rg tail _ ht _ _ => anyWrap_idepth mk B w rg tail ht

theorem matchOuter_depth {B : Nat} (fns : Nat → Option Wrap) (mk : Char) (room minIdx : Nat) :
    ∀ (k : Nat) (ms ms' : MatchSt), matchOuter fns mk room minIdx k ms = .ok ms' →
      DL B ms.children → DL B ms'.children :=
  fun k ms ms' h hc =>
    (matchOuter_sibs (matchKeeps_idepth mk room B) fns minIdx ms.closer k ms ms' h
      ⟨hc, .inr (anyWrap_idepth mk B), .refl _⟩).1

theorem scanAndMatch_depth {B : Nat} {fns : Nat → Option Wrap} {mk : Char} {room : Nat}
    {cs out : List Node}
    {b b' : List (Char × List Nat)} (h : scanAndMatch fns mk room cs b = .ok (out, b'))
    (hc : DL B cs) : DL B out :=
  scanAndMatch_keeps (matchKeeps_idepth mk room B) h hc

theorem ruleEmph_depth {cfg : Cfg} {B : Nat} (hB : 1 ≤ B) {mk : Char} {csw : Bool}
    {st st' : IState} {silent : Bool} {o : Option Nat}
    (h : ruleEmph cfg mk csw st silent = .ok (o, st')) (hc : DL B st.children) : DL B st'.children :=
  ruleEmph_keeps (matchKeeps_idepth mk _ B) (fun _ _ _ _ => Nat.le_trans (idepth_leaf _ _) hB) h hc

/-! ## the whole tokenizer -/

/-- a tokenizer with room `r` keeps every bound `r + c`, `c ≥ 1`: the tokenizer one level deeper keeps
    the bound that is smaller by one, which is what the link around its nodes needs -/
theorem keeps_idepth (cfg : Cfg) {c : Nat} (hc : 1 ≤ c) : Keeps cfg (fun r cs => DL (r + c) cs) where
  nil _ := DL.nil
  built hr hb h := hb.depth (by omega) h
  text _ hp h := pushText_depth (by omega) hp h
  emph _ h hd := ruleEmph_depth (by omega) h hd
  link := by
    intro r cs inner mkv href t rg _ _ hcs hin
    refine DL.push hcs ?_
    rw [idepth_eq]
    have := hin.list
    have := (mkv (href.getD []) t).wcost_le_one
    simp only; omega

/-- **the depth invariant through the whole inline tokenizer** (partial correctness, any fuel):
    `tokenize` hands the level back and, entered at level `l`, keeps every bound
    `≥ (max_nesting - l) + 1` on the wrapper-free depth of the children of the current node -/
theorem depth_induction (cfg : Cfg) : ∀ (fuel e : Nat) (st st' : IState),
    tokLoop cfg fuel e st = .ok st' → st'.level = st.level ∧
      ∀ B, cfg.maxNesting - st.level + 1 ≤ B → DL B st.children → DL B st'.children := by
  intro fuel e st st' h
  refine ⟨(tokLoop_frame cfg fuel e st st' h).level, fun B hB hd => ?_⟩
  have e1 : cfg.maxNesting - st.level + (B - (cfg.maxNesting - st.level)) = B := by omega
  have := (tokLoop_kept (keeps_idepth cfg (c := B - (cfg.maxNesting - st.level)) (by omega))
    fuel e st st' h (by rw [e1]; exact hd)).2
  rwa [e1] at this

end MdIt.Inline
