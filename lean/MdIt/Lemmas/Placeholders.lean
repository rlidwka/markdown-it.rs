/-
  A claim at every placeholder of a block tree, in the two forms in use: `Block.AllInl` (`Props/C05Inline.lean`,
  an inductive over the tree) and `Pipeline.Placeholders` (`Props/InlineTotal.lean`, a recursive conjunction):
  the first gives the second (`placeholders_of_allInl`); the second at the node and at its children
  (`Placeholders.here`, `Placeholders.child`, `placeholdersList_mem`), and of a conjunction (`placeholders_and`).
-/
import MdIt.Props.C05Inline
import MdIt.Props.InlineTotal

namespace MdIt.PipelineH
open MdIt.Pipeline

mutual
theorem placeholders_and {P Q R : List Char → List (Nat × Nat) → Prop}
    (hpqr : ∀ c m, P c m → Q c m → R c m) {b : Block.BNode} (hP : Placeholders P b) (hQ : Placeholders Q b) :
    Placeholders R b := by
  match b with
  | ⟨k, r, cs⟩ =>
    simp only [Placeholders] at hP hQ ⊢
    refine ⟨?_, placeholdersList_and hpqr hP.2 hQ.2⟩
    cases k <;> first | trivial | exact hpqr _ _ hP.1 hQ.1
theorem placeholdersList_and {P Q R : List Char → List (Nat × Nat) → Prop}
    (hpqr : ∀ c m, P c m → Q c m → R c m) {l : List Block.BNode} (hP : PlaceholdersList P l)
    (hQ : PlaceholdersList Q l) : PlaceholdersList R l := by
  match l with
  | [] => simp [PlaceholdersList]
  | c :: cs =>
    simp only [PlaceholdersList] at hP hQ ⊢
    exact ⟨placeholders_and hpqr hP.1 hQ.1, placeholdersList_and hpqr hP.2 hQ.2⟩
end

theorem placeholdersList_mem {P : List Char → List (Nat × Nat) → Prop} :
    ∀ {l : List Block.BNode}, PlaceholdersList P l → ∀ c ∈ l, Placeholders P c
  | [], _, c, hc => by cases hc
  | x :: xs, h, c, hc => by
    simp only [PlaceholdersList] at h
    rcases List.mem_cons.mp hc with rfl | hc
    · exact h.1
    · exact placeholdersList_mem h.2 c hc

end MdIt.PipelineH

namespace MdIt.Pipeline
open MdIt
open MdIt.PipelineH (placeholdersList_mem)

theorem Placeholders.child {P : List Char → List (Nat × Nat) → Prop} {b : Block.BNode}
    (h : Placeholders P b) : ∀ c ∈ b.children, Placeholders P c := by
  obtain ⟨k, r, cs⟩ := b
  simp only [Placeholders] at h
  exact placeholdersList_mem h.2

theorem Placeholders.here {P : List Char → List (Nat × Nat) → Prop} {b : Block.BNode} {content : List Char}
    {mapping : List (Nat × Nat)} (h : Placeholders P b) (hk : b.kind = .inlineRoot content mapping) :
    P content mapping := by
  obtain ⟨k, r, cs⟩ := b
  simp only [Placeholders] at h
  subst hk
  exact h.1

theorem placeholders_of_allInl_sized (Q : List Char → List (Nat × Nat) → Prop) :
    ∀ n : Nat,
      (∀ b : Block.BNode, sizeOf b ≤ n → Block.AllInl Q b → InlNoRange b → Placeholders Q b) ∧
      (∀ l : List Block.BNode, sizeOf l ≤ n → (∀ c ∈ l, Block.AllInl Q c) → (∀ c ∈ l, InlNoRange c) →
        PlaceholdersList Q l) := by
  intro n
  induction n with
  | zero =>
    constructor
    · intro b hb; cases b; simp at hb
    · intro l hl
      cases l with
      | nil => intro _ _; simp [PlaceholdersList]
      | cons c cs => simp at hl
  | succ n ih =>
    constructor
    · intro b hb ha hn
      match b, hb, ha, hn with
      | ⟨k, r, cs⟩, hb, ha, hn =>
        simp only [Placeholders]
        cases ha with
        | mk _ a1 a2 =>
          refine ⟨?_, ih.2 cs (by simp at hb; omega) a2 hn.child⟩
          cases k <;> first | trivial | exact a1 _ _ rfl (hn.at _ _ rfl)
    · intro l hl ha hn
      cases l with
      | nil => simp [PlaceholdersList]
      | cons c cs =>
        simp only [PlaceholdersList]
        simp at hl
        exact ⟨ih.1 c (by omega) (ha c (by simp)) (hn c (by simp)),
          ih.2 cs (by omega) (fun x hx => ha x (List.mem_cons_of_mem _ hx))
            (fun x hx => hn x (List.mem_cons_of_mem _ hx))⟩

/-- a claim at every placeholder in the sense of `Block.AllInl` (placeholders have no range) is a claim at
    every placeholder in the sense of `Placeholders` -/
theorem placeholders_of_allInl {Q : List Char → List (Nat × Nat) → Prop} {b : Block.BNode}
    (ha : Block.AllInl Q b) (hn : InlNoRange b) : Placeholders Q b :=
  (placeholders_of_allInl_sized Q (sizeOf b)).1 b (Nat.le_refl _) ha hn

end MdIt.Pipeline
