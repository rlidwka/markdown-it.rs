/-
  C10 with the sourcepos plugin: the document-level lemmas behind Props/C10Sourcepos.lean and
  `Lemmas/C10SpFull*.lean`: two sources whose block trees agree below the root
  (`renderDoc_of_blocks_eq_sp`), and LF ↦ CR LF from the exact block relation (`doc_crlf_sp_of_blocks_q`,
  `spliceList_exact`, `InlineExact`, `PlN2`, `inlineExact_of_plain`).
-/
import MdIt.Lemmas.C10SourceposTree
import MdIt.Lemmas.C10SourceposSim
import MdIt.Props.DocTotal

namespace MdIt.Pipeline
open MdIt
open MdIt.Block.LE (FRel BRes BlocksRel NRel NRelL KRel MRel RgRel)
open MdIt.Lines (lfToCrlf lfToCr)
open MdIt.SourceMap (runSt mkMarks)

mutual
theorem allN_spPure (p : Node → Bool) (hp : ∀ k r a a' cs cs', p ⟨k, r, a, cs⟩ = p ⟨k, r, a', cs'⟩)
    (src : List Char) (t : Node) : allN p (spPure src t) = allN p t := by
  match t with
  | ⟨k, r, a, cs⟩ =>
    simp only [spPure, allN, allNList_spPure p hp src cs]
    rw [hp k r _ a _ cs]
theorem allNList_spPure (p : Node → Bool) (hp : ∀ k r a a' cs cs', p ⟨k, r, a, cs⟩ = p ⟨k, r, a', cs'⟩)
    (src : List Char) (cs : List Node) : allNList p (spPureList src cs) = allNList p cs := by
  match cs with
  | [] => rfl
  | c :: r => simp only [spPureList, allNList, allN_spPure p hp src c, allNList_spPure p hp src r]
end

theorem rendered_attrs (q : Nat × Nat → Bool) (k : Kind) (r : Option (Nat × Nat))
    (a a' : List (List Char × List Char)) (cs cs' : List Node) :
    rendered q ⟨k, r, a, cs⟩ = rendered q ⟨k, r, a', cs'⟩ := rfl

mutual
theorem allN_true (t : Node) : allN (rendered fun _ => true) t = true := by
  match t with
  | ⟨k, r, a, cs⟩ =>
    simp only [allN, allNList_true cs, Bool.and_true, rendered]
    cases r <;> simp
theorem allNList_true (cs : List Node) : allNList (rendered fun _ => true) cs = true := by
  match cs with
  | [] => rfl
  | c :: r => simp only [allNList, allN_true c, allNList_true r, Bool.and_self]
end

/-- the tree `afterBlocks` hands to the sourcepos pass -/
def joined (cfg : DocCfg) (t : Node) : Node := if cfg.hasJoin = true then joinNode t else t

theorem rmap_joined (cfg : DocCfg) (f : Nat → Nat) (nr : Bool) (t : Node) :
    rmap f nr (joined cfg t) = joined cfg (rmap f nr t) := by
  unfold joined
  split
  · exact rmap_joinNode f nr t
  · rfl

theorem afterBlocks_sp (cfg : DocCfg) (hsp : cfg.sourcepos = true) (src : List Char) (root : Block.BNode)
    (refs : Refs.RefMap) :
    afterBlocks cfg src root refs =
      match spliceNode (cfg.inlineCfg refs) root with
      | .error e => .error e
      | .ok t => .ok (spPure src (joined cfg t)) := by
  unfold afterBlocks
  cases spliceNode (cfg.inlineCfg refs) root with
  | error e => rfl
  | ok t => simp only [hsp, if_true, sourceposNode_eq, joined]

/-- the core chain behind the block pass, sourcepos on, on two block roots with the SAME children -/
theorem afterBlocks_same_children (x : Bool) (cfg : DocCfg) (hsp : cfg.sourcepos = true) (s₁ s₂ : List Char)
    (q : Nat × Nat → Bool) (hq : ∀ r, q r = true → posAttr s₂ r = posAttr s₁ r)
    (r₁ r₂ : Option (Nat × Nat)) (cs : List Block.BNode) (refs : Refs.RefMap)
    (hall : ∀ t, afterBlocks cfg s₁ ⟨.root, r₁, cs⟩ refs = .ok t → allN (rendered q) t = true) :
    renderOf x cfg (afterBlocks cfg s₂ ⟨.root, r₂, cs⟩ refs) =
      renderOf x cfg (afterBlocks cfg s₁ ⟨.root, r₁, cs⟩ refs) := by
  rw [afterBlocks_sp cfg hsp, afterBlocks_sp cfg hsp] at *
  simp only [spliceNode] at *
  cases hs : spliceList (cfg.inlineCfg refs) cs with
  | error e => rfl
  | ok cs' =>
    simp only [hs] at hall
    have hall' := hall _ rfl
    rw [allN_spPure _ (rendered_attrs q)] at hall'
    have hT : rmap id true (joined cfg ⟨.blk .root, r₂, [], cs'⟩) =
        rmap id true (joined cfg ⟨.blk .root, r₁, [], cs'⟩) := by
      rw [rmap_joined, rmap_joined]
      simp [rmap, rangeOf, Kind.rendersAttrs]
    have := final_stage x cfg s₁ s₂ id q (fun r h => hq r h) _ _ hT hall'
    rw [sourceposNode_eq, sourceposNode_eq] at this
    exact this

/-- two sources whose block passes agree up to the root's range render alike WITH `data-sourcepos`,
    when the ranges of the attribute-rendering nodes have the same positions in both -/
theorem renderDoc_of_blocks_eq_sp (x : Bool) (cfg : DocCfg) (s₁ s₂ : List Char) (hsp : cfg.sourcepos = true)
    (h : BRes Eq (Block.parseBlocks cfg.blockCfg s₁) (Block.parseBlocks cfg.blockCfg s₂))
    (q : Nat × Nat → Bool) (hq : ∀ r, q r = true → posAttr s₂ r = posAttr s₁ r)
    (hall : ∀ t, parseDoc cfg s₁ = .ok t → allN (rendered q) t = true) :
    renderDoc x cfg s₂ = renderDoc x cfg s₁ := by
  rcases h with ⟨a, b, h1, h2, hk, hc, hr⟩ | ⟨e, h1, h2⟩
  · obtain ⟨hroot, _⟩ := Block.parseBlocks_wf h1
    obtain ⟨⟨k₁, r₁, c₁⟩, refs₁⟩ := a
    obtain ⟨⟨k₂, r₂, c₂⟩, refs₂⟩ := b
    simp only at hk hc hr hroot
    subst hk hr hroot
    have := Block.LE.NRelL.eq hc; subst this
    rw [renderDoc_eq_renderOf, renderDoc_eq_renderOf]
    unfold parseDoc at hall ⊢
    rw [h1] at hall
    rw [h1, h2]
    exact afterBlocks_same_children x cfg hsp s₁ s₂ q hq r₁ r₂ c₁ refs₁ hall
  · unfold renderDoc parseDoc
    rw [h1, h2]

/-- the range lies inside the text: it starts at one of its bytes and ends at or before its end -/
def insideB (src : List Char) (r : Nat × Nat) : Bool := decide (C10SP.Inside src r)

/-- where LF ↦ CR LF moves the byte at offset `a` of a CR-free text -/
def shiftOf (src : List Char) (a : Nat) : Nat := a + C10SP.lfBelow src a

/-- the start of the range does not point at a line feed, and the end is not 0 -/
def anchoredB (src : List Char) (r : Nat × Nat) : Bool := decide (C10SP.Anchored src r)

theorem posAttr_crlf (src : List Char) (hcr : '\r' ∉ src) (r : Nat × Nat) (h : anchoredB src r = true) :
    posAttr (lfToCrlf src) (shiftOf src r.1, shiftOf src r.2) = posAttr src r := by
  have ha : C10SP.Anchored src r := by simpa [anchoredB] using h
  have h1 := C10SP.getPosition_crlf_start src hcr r.1 ha.1
  have h2 := C10SP.getPosition_crlf_end src hcr r.2 ha.2
  rw [C10SP.getPosition_run, C10SP.getPosition_run] at h1 h2
  simp only [Except.ok.injEq] at h1 h2
  simp only [posAttr, shiftOf, h1, h2]

/-- what is needed of ONE pair of inline runs: for the same text under the per-line tables of the LF and
    of the CR LF document, the nodes that render attributes have ranges moved by `f`, all else equal -/
def InlineExact (icfg : Inline.Cfg) (f : Nat → Nat) (c : List Char) (m₁ m₂ : InlineOps.Srcmap) : Prop :=
  ∀ ns₁ ns₂, Inline.parseInline icfg c m₁ = .ok ns₁ → Inline.parseInline icfg c m₂ = .ok ns₂ →
    rmapList id true (ofInlineList ns₂) = rmapList f true (ofInlineList ns₁)

mutual
/-- `P` at every pair of `InlineRoot` placeholders the splice walk visits in two block trees of the
    same shape -/
def PlN2 (P : List Char → InlineOps.Srcmap → InlineOps.Srcmap → Prop) : Block.BNode → Block.BNode → Prop
  | ⟨_, _, c₁⟩, ⟨_, _, c₂⟩ => PlL2 P c₁ c₂
def PlL2 (P : List Char → InlineOps.Srcmap → InlineOps.Srcmap → Prop) : List Block.BNode → List Block.BNode → Prop
  | x :: xs, y :: ys =>
    (match x.kind, y.kind with
     | .inlineRoot c m₁, .inlineRoot _ m₂ => P c m₁ m₂
     | _, _ => PlN2 P x y) ∧ PlL2 P xs ys
  | _, _ => True
end

theorem rangeOf_rel {ρsrc : List Char} {k : Kind} {r₁ r₂ : Option (Nat × Nat)}
    (h : RgRel (C10SP.crlfRel ρsrc) r₁ r₂) :
    rangeOf id true k r₂ = rangeOf (shiftOf ρsrc) true k r₁ := by
  unfold rangeOf
  split
  · rfl
  · match r₁, r₂, h with
    | none, none, _ => rfl
    | some x, some y, h =>
      obtain ⟨h1, h2⟩ := h
      unfold C10SP.crlfRel at h1 h2
      simp [mapRange, shiftOf, h1, h2]

mutual
theorem spliceNode_exact {icfg : Inline.Cfg} {src : List Char} : ∀ (b₁ b₂ : Block.BNode) (t₁ t₂ : Node),
    NRel (C10SP.crlfRel src) b₁ b₂ → (∀ c m, b₁.kind ≠ .inlineRoot c m) →
    PlN2 (InlineExact icfg (shiftOf src)) b₁ b₂ →
    spliceNode icfg b₁ = .ok t₁ → spliceNode icfg b₂ = .ok t₂ →
    rmap id true t₂ = rmap (shiftOf src) true t₁
  | ⟨k₁, r₁, c₁⟩, ⟨k₂, r₂, c₂⟩, t₁, t₂, hn, hk, hp, h₁, h₂ => by
    simp only [NRel] at hn
    simp only [PlN2] at hp
    have hkk : k₂ = k₁ := hn.1.eq_of_not_inline hk
    subst hkk
    rw [← spliceNodeG_parseInline] at h₁ h₂
    obtain ⟨o₁, ho₁, rfl⟩ := spliceNodeG_ok h₁
    obtain ⟨o₂, ho₂, rfl⟩ := spliceNodeG_ok h₂
    rw [spliceListG_parseInline] at ho₁ ho₂
    simp only [rmap, rangeOf_rel hn.2.1, spliceList_exact c₁ c₂ o₁ o₂ hn.2.2 hp ho₁ ho₂]
theorem spliceList_exact {icfg : Inline.Cfg} {src : List Char} : ∀ (c₁ c₂ : List Block.BNode) (o₁ o₂ : List Node),
    NRelL (C10SP.crlfRel src) c₁ c₂ → PlL2 (InlineExact icfg (shiftOf src)) c₁ c₂ →
    spliceList icfg c₁ = .ok o₁ → spliceList icfg c₂ = .ok o₂ →
    rmapList id true o₂ = rmapList (shiftOf src) true o₁
  | [], [], o₁, o₂, _, _, h₁, h₂ => by
    simp only [spliceList, Except.ok.injEq] at h₁ h₂
    subst h₁ h₂; rfl
  | [], _ :: _, _, _, hn, _, _, _ => by simp only [NRelL] at hn
  | _ :: _, [], _, _, hn, _, _, _ => by simp only [NRelL] at hn
  | x :: xs, y :: ys, o₁, o₂, hn, hp, h₁, h₂ => by
    obtain ⟨hxy, hrest⟩ := hn.cons_inv
    have hk := hxy.kind
    simp only [PlL2] at hp
    obtain ⟨hp1, hp2⟩ := hp
    rw [← spliceListG_parseInline] at h₁ h₂
    obtain ⟨q₁, hq₁, A₁⟩ := spliceListG_cons_ok h₁
    obtain ⟨q₂, hq₂, A₂⟩ := spliceListG_cons_ok h₂
    rw [spliceListG_parseInline] at hq₁ hq₂
    have e2 := spliceList_exact xs ys q₁ q₂ hrest hp2 hq₁ hq₂
    rcases A₁ with ⟨content, m₁, ns₁, hk₁, hns₁, rfl⟩ | ⟨hne₁, t₁, ht₁, rfl⟩
    · -- an `InlineRoot` on side 1, hence on side 2
      have hy : ∃ m₂, y.kind = .inlineRoot content m₂ := by
        rw [hk₁] at hk
        rcases hk with hk | ⟨c, a, b, e1, e2, _⟩
        · exact ⟨m₁, hk.symm⟩
        · cases e1; exact ⟨b, e2⟩
      obtain ⟨m₂, hy⟩ := hy
      rw [hk₁, hy] at hp1
      simp only at hp1
      rcases A₂ with ⟨_, _, ns₂, hk₂, hns₂, rfl⟩ | ⟨hne₂, _⟩
      · rw [hy] at hk₂
        cases hk₂
        have e1 := hp1 ns₁ ns₂ hns₁ hns₂
        simp only [rmapList_eq_map, List.map_append] at e1 e2 ⊢
        rw [e1, e2]
      · exact absurd ⟨_, _, hy⟩ hne₂
    · -- anything else: the same kind on side 2
      have hne : ∀ c m, x.kind ≠ .inlineRoot c m := fun c m e => hne₁ ⟨c, m, e⟩
      have hy : y.kind = x.kind := hk.eq_of_not_inline hne
      have hp1' : PlN2 (InlineExact icfg (shiftOf src)) x y := by
        revert hp1
        split
        · rename_i e1 _
          exact absurd e1 (hne _ _)
        · exact id
      rcases A₂ with ⟨c, m, _, hyk, _, _⟩ | ⟨_, t₂, ht₂, rfl⟩
      · rw [hy] at hyk
        exact absurd hyk (hne c m)
      · rw [spliceNodeG_parseInline] at ht₁ ht₂
        simp only [rmapList, spliceNode_exact x y t₁ t₂ hxy hne hp1' ht₁ ht₂, e2]
end

mutual
theorem nrel_mono {ρ ρ' : Nat → Nat → Prop} (h : ∀ a b, ρ a b → ρ' a b) :
    ∀ (n₁ n₂ : Block.BNode), NRel ρ n₁ n₂ → NRel ρ' n₁ n₂
  | ⟨k₁, r₁, c₁⟩, ⟨k₂, r₂, c₂⟩, hn => by
    simp only [NRel] at hn ⊢
    refine ⟨?_, ?_, nrelL_mono h c₁ c₂ hn.2.2⟩
    · rcases hn.1 with e | ⟨c, m₁, m₂, e1, e2, hm⟩
      · exact Or.inl e
      · refine Or.inr ⟨c, m₁, m₂, e1, e2, ?_⟩
        clear e1 e2
        induction m₁ generalizing m₂ with
        | nil => cases m₂ <;> simp_all [Block.LE.MRel]
        | cons p r ih =>
          cases m₂ with
          | nil => simp [Block.LE.MRel] at hm
          | cons p' r' => exact ⟨hm.1, h _ _ hm.2.1, ih r' hm.2.2⟩
    · match r₁, r₂, hn.2.1 with
      | none, none, _ => trivial
      | some x, some y, hr => exact ⟨h _ _ hr.1, h _ _ hr.2⟩
theorem nrelL_mono {ρ ρ' : Nat → Nat → Prop} (h : ∀ a b, ρ a b → ρ' a b) :
    ∀ (a b : List Block.BNode), NRelL ρ a b → NRelL ρ' a b
  | [], [], _ => by simp only [NRelL]
  | [], _ :: _, hn => by simp only [NRelL] at hn
  | _ :: _, [], hn => by simp only [NRelL] at hn
  | x :: xs, y :: ys, hn => by
    obtain ⟨h1, h2⟩ := hn.cons_inv
    exact Block.LE.NRelL.cons (nrel_mono h x y h1) (nrelL_mono h xs ys h2)
end

/-- **LF ↦ CR LF with sourcepos, from the exact block relation**, for any check `q` of the ranges of the
    attribute-rendering nodes that makes the positions agree -/
theorem doc_crlf_sp_of_blocks_q (x : Bool) (cfg : DocCfg) (src : List Char) (hsp : cfg.sourcepos = true)
    (hcr : '\r' ∉ src)
    (hb : BRes (C10SP.crlfRel src) (Block.parseBlocks cfg.blockCfg src) (Block.parseBlocks cfg.blockCfg (lfToCrlf src)))
    (hinl : ∀ e, parseDoc cfg src ≠ .error (.inline e))
    (hix : ∀ root₁ refs₁ root₂ refs₂, Block.parseBlocks cfg.blockCfg src = .ok (root₁, refs₁) →
      Block.parseBlocks cfg.blockCfg (lfToCrlf src) = .ok (root₂, refs₂) →
      PlN2 (InlineExact (cfg.inlineCfg refs₁) (shiftOf src)) root₁ root₂)
    (q : Nat × Nat → Bool)
    (hq : ∀ r, q r = true → posAttr (lfToCrlf src) (shiftOf src r.1, shiftOf src r.2) = posAttr src r)
    (hanch : ∀ t, parseDoc cfg src = .ok t → allN (rendered q) t = true) :
    renderDoc x cfg (lfToCrlf src) = renderDoc x cfg src := by
  rcases hb with ⟨a, b, h1, h2, hk, hc, hr⟩ | ⟨e, h1, h2⟩
  · obtain ⟨hroot, _⟩ := Block.parseBlocks_wf h1
    have hix' := hix _ _ _ _ h1 h2
    obtain ⟨⟨k₁, r₁, c₁⟩, refs₁⟩ := a
    obtain ⟨⟨k₂, r₂, c₂⟩, refs₂⟩ := b
    simp only at hk hc hr hroot hix'
    subst hk hr hroot
    simp only [PlN2] at hix'
    rw [renderDoc_eq_renderOf, renderDoc_eq_renderOf]
    unfold parseDoc at hinl hanch ⊢
    rw [h1] at hinl hanch
    rw [h1, h2]
    simp only at hinl hanch ⊢
    rw [afterBlocks_sp cfg hsp] at hinl hanch ⊢
    rw [afterBlocks_sp cfg hsp]
    simp only [spliceNode] at hinl hanch ⊢
    cases hs₁ : spliceList (cfg.inlineCfg refs₁) c₁ with
    | error e =>
      exfalso
      obtain ⟨e', rfl⟩ := spliceList_error c₁ e hs₁
      rw [hs₁] at hinl
      exact hinl e' rfl
    | ok u₁ =>
      obtain ⟨u₂, hs₂⟩ := spliceList_ok_transfer c₁ c₂ u₁
        (nrelL_mono (fun a b (h : C10SP.crlfRel src a b) => by unfold C10SP.crlfRel at h; omega) c₁ c₂ hc) hs₁
      simp only [hs₁] at hanch
      simp only [hs₂]
      have hall := hanch _ rfl
      rw [allN_spPure _ (rendered_attrs _)] at hall
      have hu := spliceList_exact (icfg := cfg.inlineCfg refs₁) (src := src) c₁ c₂ u₁ u₂ hc hix' hs₁ hs₂
      have hT : rmap id true (joined cfg ⟨.blk .root, r₂, [], u₂⟩) =
          rmap (shiftOf src) true (joined cfg ⟨.blk .root, r₁, [], u₁⟩) := by
        rw [rmap_joined, rmap_joined]
        simp [rmap, rangeOf, Kind.rendersAttrs, hu]
      have := final_stage x cfg src (lfToCrlf src) (shiftOf src) q hq _ _ hT hall
      rw [sourceposNode_eq, sourceposNode_eq] at this
      exact this
  · unfold renderDoc parseDoc
    rw [h1, h2]


theorem doc_crlf_sp_of_blocks (x : Bool) (cfg : DocCfg) (src : List Char) (hsp : cfg.sourcepos = true)
    (hcr : '\r' ∉ src)
    (hb : BRes (C10SP.crlfRel src) (Block.parseBlocks cfg.blockCfg src) (Block.parseBlocks cfg.blockCfg (lfToCrlf src)))
    (hinl : ∀ e, parseDoc cfg src ≠ .error (.inline e))
    (hix : ∀ root₁ refs₁ root₂ refs₂, Block.parseBlocks cfg.blockCfg src = .ok (root₁, refs₁) →
      Block.parseBlocks cfg.blockCfg (lfToCrlf src) = .ok (root₂, refs₂) →
      PlN2 (InlineExact (cfg.inlineCfg refs₁) (shiftOf src)) root₁ root₂)
    (hanch : ∀ t, parseDoc cfg src = .ok t → allN (rendered (anchoredB src)) t = true) :
    renderDoc x cfg (lfToCrlf src) = renderDoc x cfg src :=
  doc_crlf_sp_of_blocks_q x cfg src hsp hcr hb hinl hix (anchoredB src) (fun r h => posAttr_crlf src hcr r h) hanch

/-- no node of the tree renders attributes (`Text`, `TextSpecial`, breaks only) -/
def plainB (n : Node) : Bool := !n.kind.rendersAttrs

mutual
theorem rmap_plain (f : Nat → Nat) : ∀ t : Node, allN plainB t = true → rmap f true t = eraseRanges t
  | ⟨k, r, a, cs⟩, h => by
    simp only [allN, Bool.and_eq_true, plainB, Bool.not_eq_true'] at h
    simp only [rmap, eraseRanges, rangeOf, h.1, Bool.not_false, Bool.and_self, if_true,
      rmapList_plain f cs h.2]
theorem rmapList_plain (f : Nat → Nat) : ∀ l : List Node, allNList plainB l = true →
    rmapList f true l = eraseRangesList l
  | [], _ => rfl
  | c :: cs, h => by
    simp only [allNList, Bool.and_eq_true] at h
    simp only [rmapList, eraseRangesList, rmap_plain f c h.1, rmapList_plain f cs h.2]
end

mutual
theorem allN_plain_erase : ∀ t : Node, allN plainB (eraseRanges t) = allN plainB t
  | ⟨k, r, a, cs⟩ => by simp only [eraseRanges, allN, plainB, allNList_plain_erase cs]
theorem allNList_plain_erase : ∀ l : List Node, allNList plainB (eraseRangesList l) = allNList plainB l
  | [] => rfl
  | c :: cs => by simp only [eraseRangesList, allNList, allN_plain_erase c, allNList_plain_erase cs]
end

/-- an inline run that produces `Text` / `TextSpecial` / break nodes only is `InlineExact` for ANY pair
    of tables and any `f` (`inline_range_free`: the two runs differ in ranges only, and none of these
    ranges is rendered) — `hix` holds at every paragraph without emphasis, links, images, code spans
    and autolinks -/
theorem inlineExact_of_plain (icfg : Inline.Cfg) (f : Nat → Nat) (c : List Char) (m₁ m₂ : InlineOps.Srcmap)
    (hplain : ∀ ns₁, Inline.parseInline icfg c m₁ = .ok ns₁ → allNList plainB (ofInlineList ns₁) = true) :
    InlineExact icfg f c m₁ m₂ := by
  intro ns₁ ns₂ h₁ h₂
  have he := inline_range_free icfg c m₁ m₂ ns₁ ns₂ h₁ h₂
  have hp₁ := hplain ns₁ h₁
  have hp₂ : allNList plainB (ofInlineList ns₂) = true := by
    rw [← allNList_plain_erase, ← he, allNList_plain_erase]; exact hp₁
  rw [rmapList_plain id _ hp₂, rmapList_plain f _ hp₁, he]

end MdIt.Pipeline
