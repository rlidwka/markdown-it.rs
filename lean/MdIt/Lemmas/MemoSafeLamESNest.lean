/-
  For `Props/MemoSafe.lean`: THE NESTED FRAMES for the definitions of `Lemmas/MemoSafeLamESDef.lean`
  (namespace `MdIt.Inline.ES`): the escape invariants as an instance of `Lemmas/MemoSafeLamFrameKit.lean`.

  What differs from `Lemmas/MemoSafeLamCSNest.lean`:
    * `NF` has the field `ep : s.pos < s.posMax → EPc cfg src s.pos` (a state at which rules run is not at
      an escaped character) and the `IFP` of `ES` (marked only when the previous character is not escaped);
    * `ES.BackOK` needs `EPc` of the position of the call: witness and real state sit at the same position
      `k < le` (`NF.ep`);
    * the agreement premise of `CS.BackL2` at a backtick is split three ways (`backL2_es`): not strictly
      inside a run — `AgreeHyp`; inside, behind an escaped character — neither cache has the position marked
      (`LandHyp`); inside, behind a non-escaped character — both have it (`IFP` of the witness state, from
      `ES.Just`, and of the real state);
    * `ep` of the successor state (`next`): the end `v` of the memo entry — `EndEP` on the entry's witness —,
      or the end of a real delimiter run, whose last character is a marker, which is no backslash when the
      escape rule is in the (coherent) chain (`not_esc_after_run`); `ifp` at `v` through the ES `EndHyp`;
    * the start state of a deeper frame sits right behind a `[`: `esc_after_bracket`,
      `not_interior_after_bracket` (`enter`).
  `backL2_es` and `witBack_es` are stated for what is known of the two states at the position, so that the
  top frame (`Lemmas/C16DocTop.lean`) uses them too.
-/
import MdIt.Lemmas.MemoSafeLamESDef
import MdIt.Lemmas.MemoSafeLamCSNest

namespace MdIt.Inline.ES
open MdIt.Inline
open MdIt.Inline.CS (Interior MK InsideSub InsideSub.refl AgreeHyp insideSub_ruleBackticks
  not_interior_after_bracket not_interior_after_run)
open MdIt.InlineOps (byteLen slice)

/-! ## the invariant of the nested frames, with the code-span marks and the escape invariants -/

/-- the fixed data of a nested descent (`Inline.NCtx` with the new witnesses) -/
structure NCtx (cfg : Cfg) (B : List Char → CodePair.Cache → Prop) (src : List Char) (Mtop : Nat)
    (m : List (Nat × Nat)) : Prop where
  bmax : Boundary src Mtop
  stop : EntStop src Mtop
  memo : ∀ k v, (k, v) ∈ m → k < v ∧ Boundary src v
  just : JustAll cfg B src Mtop m

theorem NCtx.toNCtx {cfg : Cfg} {B : List Char → CodePair.Cache → Prop} {src : List Char} {Mtop : Nat}
    {m : List (Nat × Nat)} (h : NCtx cfg B src Mtop m) : Inline.NCtx cfg B src Mtop m :=
  ⟨h.bmax, h.stop, h.memo, h.just.toJustAll⟩

/-- **the invariant of a real state inside a nested label frame** (`Inline.NF` plus `nocut`, `MK`, `IFP`, `EPc`) -/
structure NF (cfg : Cfg) (B : List Char → CodePair.Cache → Prop) (src : List Char) (Mtop : Nat)
    (s : IState) : Prop where
  ctx : NCtx cfg B src Mtop s.cache
  hsrc : s.src = src
  back : B s.src s.backticks
  good : ∃ lo, Good lo s
  cut : ∃ r, slice src s.posMax Mtop = .ok (']' :: r)
  outer : Outer src Mtop s.cache s.posMax s.pos 1
  nocut : CodePair.NoCut '`' src Mtop
  hmk : RuleId.backticks ∈ cfg.chain → MK s
  ifp : RuleId.backticks ∈ cfg.chain → IFP cfg s
  ep : s.pos < s.posMax → EPc cfg src s.pos

theorem NF.toNF {cfg : Cfg} {B : List Char → CodePair.Cache → Prop} {src : List Char} {Mtop : Nat}
    {s : IState} (h : NF cfg B src Mtop s) : Inline.NF cfg B src Mtop s :=
  ⟨h.ctx.toNCtx, h.hsrc, h.back, h.good, h.cut, h.outer⟩

theorem NF.memoB {cfg : Cfg} {B : List Char → CodePair.Cache → Prop} {src : List Char} {Mtop : Nat}
    {s : IState} (h : NF cfg B src Mtop s) : MemoB s := h.toNF.memoB

/-- the hypotheses of the nested induction -/
structure NestHyps (cfg : Cfg) (B : List Char → CodePair.Cache → Prop) (src : List Char) (Mtop : Nat) :
    Prop where
  coh : ChainCoherent cfg = true
  hB : BackOK cfg B
  flat : FlatL2 cfg
  back : RuleId.backticks ∈ cfg.chain → CS.BackL2 cfg B src Mtop
  keep : RealKeeps cfg
  emph : EmphL2 cfg
  plLink : RuleId.link ∈ cfg.chain → ParseLinkL2Part cfg B src Mtop 0 false
  plImage : RuleId.image ∈ cfg.chain → ParseLinkL2Part cfg B src Mtop 1 true
  one : cfg.chain.count .link ≤ 1 ∧ cfg.chain.count .image ≤ 1
  hend : EndHyp cfg B src Mtop
  hendep : EndEP cfg B src Mtop
  agree : AgreeHyp B src
  land : LandHyp cfg B src

/-! ## the fixed data of one real step -/

/-- a witness state `w` (look-ahead, top `pos_max`) and a real state `x` of the nested frame at the same
    position.  `B` and `IFP` of the witness state are only needed (and only available) at a backtick. -/
structure Pair (cfg : Cfg) (B : List Char → CodePair.Cache → Prop) (src : List Char) (Mtop : Nat)
    (m : List (Nat × Nat)) (k le : Nat) (ch : Char) (w x : IState) : Prop where
  wi : LInv w
  wsrc : w.src = src
  wmax : w.posMax = Mtop
  wpos : w.pos = k
  wB : ch = '`' → B w.src w.backticks
  wifp : ch = '`' → RuleId.backticks ∈ cfg.chain → IFP cfg w
  nf : NF cfg B src Mtop x
  xpos : x.pos = k
  xmax : x.posMax = le
  xcache : x.cache = m

/-- one real rule call (verdict `o`, state `x'`) against its witness call (verdict `o1`): as
    `Inline.RulePost`, plus: `inside_failed` only grows -/
def RulePost (cfg : Cfg) (B : List Char → CodePair.Cache → Prop) (src : List Char) (ch : Char)
    (v k le : Nat) (o1 : Option Nat) (x : IState) (o : Option Nat) (x' : IState) : Prop :=
  x'.cache = x.cache ∧ x'.src = x.src ∧ x'.posMax = x.posMax ∧ B x'.src x'.backticks ∧
  InsideSub x.backticks x'.backticks ∧
  ((o = none ∧ o1 = none ∧ x'.pos = x.pos ∧ ∃ lo, Good lo x') ∨
   (∃ len, o = some len ∧ (∃ n, o1 = some n) ∧ x'.pos + len = v) ∨
   (∃ n, o = some n ∧ x'.pos = x.pos ∧ MarkerRun cfg src ch k le n))

/-- the callees of one real step: the guarded pair and the model pair -/
structure Callees (cfg : Cfg) (B : List Char → CodePair.Cache → Prop) (src : List Char) (Mtop : Nat)
    (f : Nat) (skipG skipM tokG tokM : IState → Except Panic IState) : Prop where
  calm : CalmFn skipG
  skT : SkipHypT skipG
  tokT : TokHypT tokG
  rng : RangesFn tokG
  hits : f = 0 ∨ (FollowsHits skipG ∧ FollowsHits skipM)
  tokEq : ∀ s, NF cfg B src Mtop s → tokG s = tokM s ∧
    ∀ s', tokG s = .ok s' → s'.cache = s.cache ∧ s'.src = s.src ∧
      InsideSub s.backticks s'.backticks ∧ B s'.src s'.backticks

section
variable {cfg : Cfg} {B : List Char → CodePair.Cache → Prop} {src : List Char} {Mtop : Nat}

theorem NF.top_lt {s : IState} (h : NF cfg B src Mtop s) : s.posMax < Mtop := h.toNF.top_lt

/-- `NF` reads `src`, `posMax`, `pos`, `cache`, `backticks` and `Good` only; `inside_failed` may grow -/
theorem NF.of_same {x x' : IState} (h : NF cfg B src Mtop x) (hc : x'.cache = x.cache)
    (hs : x'.src = x.src) (hm : x'.posMax = x.posMax) (hp : x'.pos = x.pos)
    (hb : B x'.src x'.backticks) (hsub : InsideSub x.backticks x'.backticks)
    (hg : ∃ lo, Good lo x') : NF cfg B src Mtop x' :=
  ⟨by rw [hc]; exact h.ctx, hs.trans h.hsrc, hb, hg, by rw [hm]; exact h.cut,
    by rw [hc, hm, hp]; exact h.outer, h.nocut, fun hbt => (h.hmk hbt).of_sub hs hc hsub,
    fun hbt hi hne => by
      rw [hs, hp] at hi hne
      rw [hp]; exact hsub _ (h.ifp hbt hi hne),
    fun hlt => by
      rw [hp]; exact h.ep (by rw [← hp, ← hm]; exact hlt)⟩

end

/-- the start state of a label frame sits right behind a `[`: there `IFP` is vacuous and the position is
    not escaped, so `Inline.NF` of it extends to `ES.NF` -/
theorem _root_.MdIt.Inline.NF.toES {cfg : Cfg} {B : List Char → CodePair.Cache → Prop} {src : List Char}
    {Mtop : Nat} {y : IState} (hy : Inline.NF cfg B src Mtop y) (hj : JustAll cfg B src Mtop y.cache)
    (hnc : CodePair.NoCut '`' src Mtop) (hmk : RuleId.backticks ∈ cfg.chain → MK y) {p M : Nat}
    {r : List Char} (hr : slice src p M = .ok ('[' :: r)) (hp : y.pos = p + 1) : NF cfg B src Mtop y :=
  ⟨⟨hy.ctx.bmax, hy.ctx.stop, hy.ctx.memo, hj⟩, hy.hsrc, hy.back, hy.good, hy.cut, hy.outer, hnc, hmk,
    fun _ hi _ => absurd (by rw [hy.hsrc, hp] at hi; exact hi) (not_interior_after_bracket hr),
    fun _ _ => by rw [hp]; exact esc_after_bracket hr⟩

/-! ## the witness side: look-ahead calls -/

/-- at a backtick every look-ahead rule call keeps the code-span cache invariant and only grows
    `inside_failed`: only the code-span rule touches the cache there (the link / image rules decline on
    the first character) -/
theorem wit_back {cfg : Cfg} {B : List Char → CodePair.Cache → Prop} (hB : BackOK cfg B)
    {skip tok : IState → Except Panic IState} {fuel : Nat} {id : RuleId} {w w1 : IState}
    (hnc : CodePair.NoCut '`' w.src w.posMax) (hep : EPc cfg w.src w.pos)
    {rest : List Char} (hw : w.window = .ok ('`' :: rest)) (hb : B w.src w.backticks)
    {o1 : Option Nat} (h : silentBumped (runRule cfg skip tok fuel id) w = .ok (o1, w1)) :
    B w1.src w1.backticks ∧ InsideSub w.backticks w1.backticks := by
  obtain ⟨wb, hwb, rfl⟩ := silentBumped_ok h
  show B wb.src wb.backticks ∧ InsideSub w.backticks wb.backticks
  rcases wit_at_backtick (w := { w with level := w.level + 1 }) hw hwb with hr | e
  · exact ⟨hB _ true _ _ hr hnc hep hb, insideSub_ruleBackticks (st := { w with level := w.level + 1 }) hr⟩
  · rw [e]; exact ⟨hb, InsideSub.refl _⟩

/-! ## the witness of a memo entry, unpacked to its chain -/

/-- **the witness of the entry `k ↦ v`, as a chain**: the look-ahead chain from a state at `k` under the top
    `pos_max` (with `IFP`) whose final verdict `o0` explains `v`, and whose memo the memo `m` extends -/
theorem just_chain {cfg : Cfg} {B : List Char → CodePair.Cache → Prop} {src : List Char} {Mtop : Nat}
    {m : List (Nat × Nat)} {k v : Nat} (hJ : Just cfg B src Mtop m k v) {ch : Char} {rest : List Char}
    (hsl : slice src k Mtop = .ok (ch :: rest)) :
    ∃ (skip0 tok0 : IState → Except Panic IState) (f0 : Nat) (st0 : IState) (o0 : Option Nat)
      (w' : IState),
      CalmFn skip0 ∧ SkipHypT skip0 ∧ SkipGrowHyp skip0 ∧
      LInv st0 ∧ st0.src = src ∧ st0.posMax = Mtop ∧ st0.pos = k ∧ B st0.src st0.backticks ∧
      (RuleId.backticks ∈ cfg.chain → IFP cfg st0) ∧
      firstRule (fun id s => silentBumped (runRule cfg skip0 tok0 f0 id) s) cfg.chain st0
        = .ok (o0, w') ∧
      LookupMono w'.cache m ∧ (o0 = none → v = k + ch.utf8Size) ∧ (∀ n, o0 = some n → v = k + n) := by
  obtain ⟨skip0, tok0, f0, st0, st0', hq0, hs0, hg0, hi0, hsrc0, hmax0, hpos0, hlt0, hB0, hmiss, hstep,
    hv, hmono, hifp, _⟩ := hJ
  obtain ⟨o0, w', h1, h2, h3, h4⟩ :=
    skipStep_chain hq0 hs0 hg0 hi0 hsrc0 hmax0 hpos0 hlt0 hmiss hstep hv hmono hsl
  exact ⟨skip0, tok0, f0, st0, o0, w', hq0, hs0, hg0, hi0, hsrc0, hmax0, hpos0, hB0, hifp, h1, h2, h3,
    h4⟩

/-- the end of a real delimiter run is not an escaped character: its last character is an emphasis
    marker, and no rule of a coherent chain — in particular not the escape rule — fires at a marker -/
theorem not_esc_after_run {cfg : Cfg} {src : List Char} (hcoh : ChainCoherent cfg = true) {ch : Char}
    {k le n : Nat}
    (h : MarkerRun cfg src ch k le n) : EPc cfg src (k + n) := by
  intro hesc
  obtain ⟨⟨csw, hcsw⟩, h1, _, h3⟩ := h
  obtain ⟨r, hr⟩ := h3 (n - 1) (by omega)
  have hc : CodePair.charAt src (k + (n - 1)) = some ch := by
    have := charAt_next (u := []) (b := ch) (v := r) (a := k + (n - 1)) (q := le) (by simpa using hr)
    simpa [byteLen] using this
  have hne : ch ≠ '\\' := by
    have := (coherent_marker hcoh hcsw).2 .escape hesc
    intro e
    subst e
    simp [RuleId.firesAt] at this
  have e : k + n = k + (n - 1) + 1 := by omega
  rw [e]
  apply esc_succ_of_ne
  rw [hc]
  intro h2
  simp only [Option.some.injEq] at h2
  exact hne h2


/-! ## `ES.NF` meets the closure properties of `Lemmas/MemoSafeLamFrameKit.lean` -/

section
variable {cfg : Cfg} {B : List Char → CodePair.Cache → Prop} {src : List Char} {Mtop : Nat}

/-- the strand of this namespace: `N := ES.NF`; `R` as in `CS`; a witness state knows the `IFP` of `ES` -/
def nestKit (H : NestHyps cfg B src Mtop) : NestKit cfg B src Mtop where
  N := NF cfg B src Mtop
  R := fun s s' => s'.cache = s.cache ∧ s'.src = s.src ∧ InsideSub s.backticks s'.backticks ∧
    B s'.src s'.backticks
  W := fun w => RuleId.backticks ∈ cfg.chain → IFP cfg w
  coh := H.coh
  flat := H.flat
  keep := H.keep
  emph := H.emph
  one := H.one
  toNF := NF.toNF
  R_trans := fun a b => ⟨b.1.trans a.1, b.2.1.trans a.2.1, a.2.2.1.trans b.2.2.1, b.2.2.2⟩
  R_cache := fun h => h.1
  R_congr := fun h a1 a2 a3 b1 b2 b3 => ⟨by rw [b1, h.1, a1], by rw [b2, h.2.1, a2],
    by rw [a3, b3]; exact h.2.2.1, by rw [b2, b3]; exact h.2.2.2⟩

/-- the code-span comparison of `ES`, from what is known of the two states at the position: `B`, `IFP`
    of both, the position is not escaped, no `pos_max` cuts a run -/
theorem backL2_es (H : NestHyps cfg B src Mtop) {skip tok skip' tok' : IState → Except Panic IState}
    {fuel fuel' : Nat} {w x wb x' : IState} {o0 o : Option Nat} (hid : RuleId.backticks ∈ cfg.chain)
    (hxsrc : x.src = src) (hxB : B x.src x.backticks) (hxifp : IFP cfg x) (hxep : EPc cfg src x.pos)
    (hnocut : CodePair.NoCut '`' src Mtop)
    (hsrc : w.src = src) (hmax : w.posMax = Mtop) (hpos : w.pos = x.pos) (hWin : WinHyp w x.posMax)
    (hb : B w.src w.backticks) (hW : IFP cfg w)
    (hwb : runRule cfg skip tok fuel .backticks { w with level := w.level + 1 } true = .ok (o0, wb))
    (hreal : runRule cfg skip' tok' fuel' .backticks x false = .ok (o, x')) :
    (o0 = none → o = none) ∧ (∀ n, o0 = some n → w.pos + n ≤ x.posMax → o = some n) ∧
      x'.cache = x.cache ∧ x'.src = x.src ∧ InsideSub x.backticks x'.backticks ∧
      B x'.src x'.backticks := by
  -- the two `inside_failed` agree at the position: outside a run (`AgreeHyp`); inside, behind an
  -- escaped character neither has it (`LandHyp`); inside, behind a non-escaped one both have it
  have hagree : w.backticks.insideFailed.contains w.pos = x.backticks.insideFailed.contains x.pos := by
    rw [hpos]
    by_cases hint : Interior src x.pos
    · by_cases hE : RuleId.escape ∈ cfg.chain ∧ esc src (x.pos - 1) = true
      · rw [H.land w.backticks _ (by rw [← hsrc]; exact hb) hE.1 hE.2,
          H.land x.backticks _ (by rw [← hxsrc]; exact hxB) hE.1 hE.2]
      · have hne : RuleId.escape ∈ cfg.chain → esc src (x.pos - 1) = false := by
          intro he
          cases h : esc src (x.pos - 1) with
          | false => rfl
          | true => exact absurd ⟨he, h⟩ hE
        have h1 := hW (by rw [hsrc, hpos]; exact hint) (by rw [hsrc, hpos]; exact hne)
        rw [hpos] at h1
        rw [h1, hxifp (by rw [hxsrc]; exact hint) (by rw [hxsrc]; exact hne)]
    · exact H.agree _ _ _ (by rw [← hsrc]; exact hb) (by rw [← hxsrc]; exact hxB) hint
  obtain ⟨l1, l2⟩ := H.back hid skip tok skip' tok' fuel fuel' { w with level := w.level + 1 } x
    hWin.bump hsrc hmax (hxsrc.trans hsrc.symm) hpos.symm hb hxB hagree o0 wb o x' hwb hreal
  obtain ⟨_, kc, ks, _⟩ := H.keep skip' tok' fuel' .backticks rfl x o x' hreal
  have hreal' : liftR (ruleBackticks x false) = .ok (o, x') := hreal
  have hnc : CodePair.NoCut '`' x.src x.posMax := by
    have := hWin.noCut (by rw [hsrc, hmax]; exact hnocut)
    rw [hxsrc, ← hsrc]; exact this
  exact ⟨l1, l2, kc, ks, insideSub_ruleBackticks (liftR_ok.mp hreal'),
    H.hB x false o x' (liftR_ok.mp hreal') hnc (by rw [hxsrc]; exact hxep) hxB⟩

/-- at a backtick a look-ahead rule call keeps `B` and `IFP` of the witness state -/
theorem witBack_es (H : NestHyps cfg B src Mtop) {skip tok : IState → Except Panic IState} {fuel : Nat}
    {id : RuleId} {w w1 : IState} {o1 : Option Nat} {rest : List Char} (hq : CalmFn skip)
    (hs : SkipHypT skip) (hi : LInv w) (hnocut : CodePair.NoCut '`' src Mtop) (hsrc : w.src = src)
    (hmax : w.posMax = Mtop) (hlt : w.pos < w.posMax) (hep : EPc cfg src w.pos)
    (hw : w.window = .ok ('`' :: rest)) (hb : B w.src w.backticks)
    (hW : RuleId.backticks ∈ cfg.chain → IFP cfg w)
    (h : silentBumped (runRule cfg skip tok fuel id) w = .ok (o1, w1)) :
    B w1.src w1.backticks ∧ (RuleId.backticks ∈ cfg.chain → IFP cfg w1) := by
  obtain ⟨_, hs1, _, hp1⟩ := wit_step hq hs fuel id hi hlt h
  obtain ⟨b1, sub⟩ := wit_back H.hB (by rw [hsrc, hmax]; exact hnocut) (by rw [hsrc]; exact hep) hw hb h
  exact ⟨b1, fun hbt hint hne => by
    rw [hs1, hp1] at hint hne; rw [hp1]; exact sub _ (hW hbt hint hne)⟩

theorem nestKit_loop (H : NestHyps cfg B src Mtop) : (nestKit H).Loop where
  frame :=
    { hsrc := fun h => h.hsrc
      back := fun h => h.back
      good := fun h => h.good
      memo := fun h => h.memoB
      ctx := fun h => h.ctx.toNCtx
      win := fun h => .inr ⟨h.top_lt, h.cut⟩
      refl := fun h => ⟨rfl, rfl, InsideSub.refl _, h.back⟩
      same := fun hn r hs hm hp hg => hn.of_same r.1 hs hm hp r.2.2.2 r.2.2.1 hg
      enter := fun hn hy hc hs hb hr hp =>
        hy.toES (by rw [hc]; exact hn.ctx.just) hn.nocut
          (fun hbt => (hn.hmk hbt).of_sub hs hc (by rw [hb]; exact InsideSub.refl _)) hr hp
      witBack := fun hq hs hi hn hsrc hmax hpos hlt hw hb hW h =>
        witBack_es H hq hs hi hn.nocut hsrc hmax (by rw [hpos, hmax]; have := hn.top_lt; omega)
          (by rw [hpos]; exact hn.ep hlt) hw hb hW h
      backL2 := fun hid hn _ hsrc hmax hpos hWin hlt hb hW hwb hreal =>
        backL2_es H hid hn.hsrc hn.back (hn.ifp hid) (hn.ep hlt) hn.nocut hsrc hmax hpos hWin hb (hW hid)
          hwb hreal
      pl := PLPart.of_nf NF.toNF H.plLink H.plImage }
  wit := fun hn hlk hv hsl => by
    rcases hn.ctx.just _ _ (lookup_mem hlk) with h | hJ
    · omega
    · exact just_chain hJ hsl
  next := fun {s s' v} hn hlk hv r hs hm hg hO hend => by
    rcases hn.ctx.just _ _ (lookup_mem hlk) with h | hJ
    · omega
    have hmk' : RuleId.backticks ∈ cfg.chain → MK s' := fun hbt => (hn.hmk hbt).of_sub hs r.1 r.2.2.1
    refine ⟨by rw [r.1]; exact hn.ctx, hs.trans hn.hsrc, r.2.2.2, hg, by rw [hm]; exact hn.cut,
      by rw [r.1, hm]; exact hO, hn.nocut, hmk', ?_, ?_⟩
    · intro hbt hi hne
      rw [hs, hn.hsrc] at hi hne
      rcases hend with hpv | ⟨ch, n, hrun, hp⟩
      · rw [hpv] at hi hne ⊢
        have hv1 : v = s.pos + 1 := H.hend _ _ _ hJ.toJust hJ.ep hi hne
        have hmem : (s.pos, s.pos + 1) ∈ s'.cache := by rw [r.1, ← hv1]; exact lookup_mem hlk
        have := hmk' hbt s.pos hmem (by rw [hs, hn.hsrc, ← hv1]; exact hi)
        rw [hv1]; exact this
      · rw [hp] at hi
        exact absurd hi (not_interior_after_run H.coh hbt hrun)
    · intro hlt'
      rcases hend with hpv | ⟨ch, n, hrun, hp⟩
      · rw [hpv]
        exact H.hendep _ _ _ hJ.toJust hJ.ep (by have := hn.top_lt; rw [hpv, hm] at hlt'; omega)
      · rw [hp]; exact not_esc_after_run H.coh hrun

end

section
variable {cfg : Cfg} {B : List Char → CodePair.Cache → Prop} {src : List Char} {Mtop : Nat}

theorem Callees.toKit {H : NestHyps cfg B src Mtop} {f : Nat}
    {skipG skipM tokG tokM : IState → Except Panic IState}
    (C : Callees cfg B src Mtop f skipG skipM tokG tokM) : (nestKit H).Callees f skipG skipM tokG tokM :=
  ⟨C.calm, C.skT, C.tokT, C.rng, C.hits, C.tokEq⟩

end


section
variable {cfg : Cfg} {B : List Char → CodePair.Cache → Prop} {src : List Char} {Mtop : Nat}
  {f : Nat} {skipG skipM tokG tokM : IState → Except Panic IState}
  {skip0 tok0 : IState → Except Panic IState} {f0 : Nat}
  {m : List (Nat × Nat)} {k le v : Nat} {ch : Char} {rest : List Char}


/-- **the chain comparison** (as `Inline.chain_L2`; `inside_failed` of the real state only grows, the
    witness states keep `B` and `IFP` at a backtick) -/
theorem chain_L2 (H : NestHyps cfg B src Mtop) (C : Callees cfg B src Mtop f skipG skipM tokG tokM)
    (S : StepCtx src Mtop m k le v ch rest)
    (hq0 : CalmFn skip0) (hs0 : SkipHypT skip0) (hg0 : SkipGrowHyp skip0) :
    ∀ (rules : List RuleId), (∀ id ∈ rules, id ∈ cfg.chain) → rules.count .link ≤ 1 →
      rules.count .image ≤ 1 →
      ∀ (w x : IState), Pair cfg B src Mtop m k le ch w x →
      ∀ o0 w', firstRule (fun id s => silentBumped (runRule cfg skip0 tok0 f0 id) s) rules w
          = .ok (o0, w') →
        LookupMono w'.cache m → (o0 = none → v = k + ch.utf8Size) → (∀ n, o0 = some n → v = k + n) →
        firstRule (fun id s => runRule cfg skipG tokG f id s false) rules x =
          firstRule (fun id s => runRule cfg skipM tokM f id s false) rules x ∧
        ∀ o x', firstRule (fun id s => runRule cfg skipG tokG f id s false) rules x = .ok (o, x') →
          RulePost cfg B src ch v k le o0 x o x' := by
  intro rules hall hcl hci w x P o0 w' hwit hmono hn0 hs0'
  obtain ⟨e, post, _⟩ := NestKit.chain_L2 (nestKit_loop H).frame C.toKit S hq0 hs0 hg0 rules hall hcl hci w x
    ⟨P.wi, P.wsrc, P.wmax, P.wpos, P.wB, P.wifp, P.nf, P.xpos, P.xmax, P.xcache⟩ o0 w' hwit
    hmono hn0 hs0'
  exact ⟨e, fun o x' h => have ⟨b, c, r, d⟩ := post o x' h; ⟨r.1, b, c, r.2.2.2, r.2.2.1, d⟩⟩

end


section
variable {cfg : Cfg} {B : List Char → CodePair.Cache → Prop} {src : List Char} {Mtop : Nat}

/-- the guarded and the model callees at fuel `f`, given the nested statement at fuel `f` -/
theorem callees_of (H : NestHyps cfg B src Mtop) (f : Nat)
    (ih : ∀ s : IState, NF cfg B src Mtop s →
      tokLoopG cfg true f s.posMax s = tokLoop cfg f s.posMax s ∧
      ∀ s', tokLoopG cfg true f s.posMax s = .ok s' → s'.cache = s.cache ∧ s'.src = s.src ∧
        InsideSub s.backticks s'.backticks ∧ B s'.src s'.backticks) :
    Callees cfg B src Mtop f (fun s => skipTokenG cfg true f s) (fun s => skipToken cfg f s)
      (fun s => tokLoopG cfg true f s.posMax s) (fun s => tokLoop cfg f s.posMax s) := by
  have C := NestKit.callees_of (K := nestKit H) f ih
  exact ⟨C.calm, C.skT, C.tokT, C.rng, C.hits, C.tokEq⟩

/-- **inside a nested label frame the guarded tokenizer IS the model tokenizer**, at every fuel; it leaves
    the memo and the text alone, only grows `inside_failed`, and keeps the code-span cache invariant -/
theorem nested_eq (H : NestHyps cfg B src Mtop) : ∀ (f : Nat) (s : IState), NF cfg B src Mtop s →
    tokLoopG cfg true f s.posMax s = tokLoop cfg f s.posMax s ∧
    ∀ s', tokLoopG cfg true f s.posMax s = .ok s' → s'.cache = s.cache ∧ s'.src = s.src ∧
      InsideSub s.backticks s'.backticks ∧ B s'.src s'.backticks :=
  NestKit.nested_eq (nestKit_loop H)

/-- `nested_eq` in the form the top-frame development consumes (`TokEqAt` of
    `Lemmas/MemoSafeLamESFinal.lean`, with `P := NF cfg B src Mtop`) -/
theorem nested_tokEq (H : NestHyps cfg B src Mtop) (f : Nat) (s : IState)
    (hnf : NF cfg B src Mtop s) :
    (fun s : IState => tokLoopG cfg true f s.posMax s) s = (fun s : IState => tokLoop cfg f s.posMax s) s ∧
    ∀ s', (fun s : IState => tokLoopG cfg true f s.posMax s) s = .ok s' →
      s'.cache = s.cache ∧ s'.src = s.src ∧ InsideSub s.backticks s'.backticks ∧
      (B s.src s.backticks → B s'.src s'.backticks) :=
  ⟨(nested_eq H f s hnf).1, fun s' h =>
    ⟨((nested_eq H f s hnf).2 s' h).1, ((nested_eq H f s hnf).2 s' h).2.1,
      ((nested_eq H f s hnf).2 s' h).2.2.1, fun _ => ((nested_eq H f s hnf).2 s' h).2.2.2⟩⟩

end

end MdIt.Inline.ES
