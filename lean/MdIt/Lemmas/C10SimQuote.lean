/-
  Two runs of the block parser in lock step: the block quote on `SRel`-related states.
  Under `R.strict` the call-backs are `TokSpec` / `TestPure`: when `get_map(start_line, …)` is called
  the table has been restored to the one the rule started with (`bqScan_spec`, the frame of the nested
  tokenizer), so the start line is the non-empty line the tokenizer loop stopped on, and the kind of
  the new node is `.blockquote` (frame), not an `InlineRoot`.
-/
import MdIt.Lemmas.C10SimLeaf

namespace MdIt.Block.LX
open MdIt.Block.LE
open MdIt.Lines (LineOffset)
variable {ρ : Nat → Nat → Prop} {G : Geo}

/-! ## `bqRewrite` -/

theorem bqRewrite_sim {o₁ o₂ : LineOffset} (he : ERel ρ G.src₁ G.src₂ o₁ o₂) (rest : List Char) :
    FRel (fun r₁ r₂ => ERel ρ G.src₁ G.src₂ r₁.1 r₂.1 ∧ r₁.2 = r₂.2 ∧ geom r₁.1 = geom o₁ ∧ geom r₂.1 = geom o₂)
      (bqRewrite G.src₁ o₁ rest) (bqRewrite G.src₂ o₂ rest) := by
  obtain ⟨L, hL1, hL2, hl1, hl2⟩ := he.line
  have hn := he.nums
  unfold bqRewrite
  rw [hL1, hL2]
  simp only [liftL, ok_bind]
  rw [psub_eq (by omega : o₁.lineStart ≤ o₁.firstNonspace + 1),
    psub_eq (by omega : o₂.lineStart ≤ o₂.firstNonspace + 1)]
  simp only [ok_bind]
  rw [show o₂.firstNonspace + 1 - o₂.lineStart = o₁.firstNonspace + 1 - o₁.lineStart by omega]
  refine frel_bind_same _ ?_
  intro p hp
  obtain ⟨indAfter, fn⟩ := p
  have hb := (Lines.find_indent_bounds _ _ _ _ (liftL_eq_ok hp)).2.2.1
  simp only
  rw [psub_eq (by omega : o₁.lineStart ≤ o₁.lineEnd), psub_eq (by omega : o₂.lineStart ≤ o₂.lineEnd)]
  simp only [ok_bind]
  rw [show o₂.lineEnd - o₂.lineStart = o₁.lineEnd - o₁.lineStart by omega]
  refine frel_bind_same _ ?_
  intro ia _
  exact frel_pure ⟨he.rewrite hL1 hb _, rfl, rfl, rfl⟩

/-! ## the saved entries -/

/-- the entries the block-quote scan saved (`old_line_offsets`), from table index `i` on: pairwise
    related, and each has the geometry of the table index it will be written back to -/
def OldRel (ρ : Nat → Nat → Prop) (G : Geo) : Nat → List LineOffset → List LineOffset → Prop
  | _, [], [] => True
  | i, a :: r₁, b :: r₂ =>
    ERel ρ G.src₁ G.src₂ a b ∧ G.T₁[i]? = some (geom a) ∧ G.T₂[i]? = some (geom b) ∧ OldRel ρ G (i + 1) r₁ r₂
  | _, [], _ :: _ => False
  | _, _ :: _, [] => False

theorem OldRel.nil (i : Nat) : OldRel ρ G i [] [] := by simp only [OldRel]

theorem OldRel.length : ∀ {i : Nat} {old₁ old₂ : List LineOffset}, OldRel ρ G i old₁ old₂ → old₂.length = old₁.length
  | _, [], [], _ => rfl
  | _, [], _ :: _, h => by simp only [OldRel] at h
  | _, _ :: _, [], h => by simp only [OldRel] at h
  | _, _ :: _, _ :: _, h => by
    simp only [OldRel] at h
    simp [OldRel.length h.2.2.2]

theorem OldRel.push : ∀ {i : Nat} {old₁ old₂ : List LineOffset} {a b : LineOffset}, OldRel ρ G i old₁ old₂ →
    ERel ρ G.src₁ G.src₂ a b → G.T₁[i + old₁.length]? = some (geom a) → G.T₂[i + old₁.length]? = some (geom b) →
    OldRel ρ G i (old₁ ++ [a]) (old₂ ++ [b])
  | _, [], [], _, _, _, he, h1, h2 => by
    simp only [List.nil_append, OldRel]
    exact ⟨he, by simpa using h1, by simpa using h2, trivial⟩
  | _, [], _ :: _, _, _, h, _, _, _ => by simp only [OldRel] at h
  | _, _ :: _, [], _, _, h, _, _, _ => by simp only [OldRel] at h
  | i, x :: r₁, y :: r₂, _, _, h, he, h1, h2 => by
    simp only [OldRel] at h
    simp only [List.cons_append, OldRel]
    refine ⟨h.1, h.2.1, h.2.2.1, OldRel.push h.2.2.2 he ?_ ?_⟩
    · rw [← h1]; congr 1; simp; omega
    · rw [← h2]; congr 1; simp; omega

end MdIt.Block.LX

namespace MdIt.Block.LX.Sim
open MdIt.Block.LE (FRel frel_ok frel_pure frel_err frel_fuel frel_bind frel_bind_ok frel_bind_same frel_ite frel_ok_left geom Geo)
open MdIt.Lines (LineOffset)
open MdIt.Block.LX.Y (RgRel Live)
variable {R : Rels} {G : Geo}

/-! ## `restoreOffs` -/

theorem restoreOffs_sim : ∀ (old₁ old₂ : List LineOffset) (i : Nat) (s₁ s₂ : BState), SRel R G s₁ s₂ →
    OldRel R.ρ G i old₁ old₂ →
    FRel (fun a b => SRel R G { s₁ with offs := a } { s₂ with offs := b })
      (restoreOffs s₁.offs i old₁) (restoreOffs s₂.offs i old₂)
  | [], [], _, _, _, S, _ => by
    simp only [restoreOffs]
    exact frel_ok S
  | [], _ :: _, _, _, _, _, h => by simp only [OldRel] at h
  | _ :: _, [], _, _, _, _, h => by simp only [OldRel] at h
  | a :: r₁, b :: r₂, i, s₁, s₂, S, h => by
    simp only [OldRel] at h
    obtain ⟨he, hg1, hg2, hr⟩ := h
    simp only [restoreOffs]
    have hs := S.setOff i he
      (fun o ho => by have := S.geoAt₁ ho; rw [hg1] at this; exact Option.some.inj this)
      (fun o ho => by have := S.geoAt₂ ho; rw [hg2] at this; exact Option.some.inj this)
    unfold BState.setOff at hs
    by_cases hi : i < s₁.offs.length
    · have hi2 : i < s₂.offs.length := by rw [S.len]; exact hi
      rw [if_pos hi, if_pos hi2] at hs ⊢
      obtain ⟨t, ht, S'⟩ := frel_ok_left hs
      cases ht
      exact restoreOffs_sim r₁ r₂ (i + 1) _ _ S' hr
    · have hi2 : ¬ i < s₂.offs.length := by rw [S.len]; exact hi
      rw [if_neg hi, if_neg hi2]
      exact frel_err _

/-! ## `bqScan` -/

theorem bqScan_sim {test₁ test₂ : Test} (TS : TestSim R G test₁ test₂) (start : Nat) :
    ∀ (f₁ f₂ : Nat), f₁ ≤ f₂ → ∀ (s₁ s₂ : BState) (nextLine : Nat) (old₁ old₂ : List LineOffset) (lastEmpty : Bool),
      SRel R G s₁ s₂ → OldRel R.ρ G start old₁ old₂ → nextLine = start + old₁.length →
      FRel (fun r₁ r₂ => r₁.1 = r₂.1 ∧ OldRel R.ρ G start r₁.2.1 r₂.2.1 ∧ SRel R G r₁.2.2 r₂.2.2)
        (bqScan test₁ f₁ s₁ nextLine old₁ lastEmpty) (bqScan test₂ f₂ s₂ nextLine old₂ lastEmpty) := by
  intro f₁
  induction f₁ with
  | zero => intro f₂ _ s₁ s₂ nextLine old₁ old₂ lastEmpty _ _ _; exact frel_fuel _
  | succ f₁ ih =>
    intro f₂ hf s₁ s₂ nextLine old₁ old₂ lastEmpty S O hnl
    obtain ⟨f₂, rfl⟩ : ∃ k, f₂ = k + 1 := ⟨f₂ - 1, by omega⟩
    simp only [bqScan]
    rw [S.lineMax, S.lineIndent, S.getLine]
    refine frel_ite (fun _ => frel_ok ⟨rfl, O, S⟩) (fun _ => ?_)
    refine frel_bind_same _ ?_
    intro ind _
    refine frel_bind_same _ ?_
    intro line _
    cases line with
    | nil => exact frel_ok ⟨rfl, O, S⟩
    | cons c rest =>
      simp only
      refine frel_ite (fun _ => ?_) (fun _ => ?_)
      · -- a `>` line
        refine frel_bind_ok (S.off nextLine) ?_
        intro o₁ o₂ ho1 ho2 he
        have hT1 := S.geoAt₁ (off_ok ho1)
        have hT2 := S.geoAt₂ (off_ok ho2)
        rw [S.src₁, S.src₂]
        refine frel_bind (bqRewrite_sim he rest) ?_
        rintro ⟨o₁', le₁⟩ ⟨o₂', le₂⟩ ⟨hE, hle, hg1, hg2⟩
        simp only at hE hle hg1 hg2 ⊢
        subst hle
        refine frel_bind (S.setOff nextLine hE ?_ ?_) ?_
        · intro o ho; rw [off_ok ho1] at ho; cases ho; exact hg1
        · intro o ho; rw [off_ok ho2] at ho; cases ho; exact hg2
        intro t₁ t₂ S'
        refine ih f₂ (by omega) t₁ t₂ (nextLine + 1) _ _ le₁ S' (O.push he ?_ ?_) (by simp; omega)
        · rw [← hnl]; exact hT1
        · rw [← hnl]; exact hT2
      · refine frel_ite (fun _ => frel_ok ⟨rfl, O, S⟩) (fun _ => ?_)
        refine frel_bind (TS _ _ (by srel_fields S; exact S.children)) ?_
        rintro ⟨b₁, t₁⟩ ⟨b₂, t₂⟩ ⟨hb, S'⟩
        simp only at hb S' ⊢
        subst hb
        rw [S'.blkIndent]
        refine frel_ite (fun _ => ?_) (fun _ => ?_)
        · refine frel_ite (fun _ => ?_) (fun _ => ?_)
          · refine frel_bind_ok (S'.off nextLine) ?_
            intro o₁ o₂ ho1 ho2 he
            have hT1 := S'.geoAt₁ (off_ok ho1)
            have hT2 := S'.geoAt₂ (off_ok ho2)
            rw [he.indent]
            refine frel_bind (S'.setOff nextLine (he.setIndent _) ?_ ?_) ?_
            · intro o ho; rw [off_ok ho1] at ho; cases ho; rfl
            · intro o ho; rw [off_ok ho2] at ho; cases ho; rfl
            intro u₁ u₂ S''
            refine frel_ok ⟨rfl, O.push he ?_ ?_, S''⟩
            · rw [← hnl]; exact hT1
            · rw [← hnl]; exact hT2
          · exact frel_ok ⟨rfl, O, S'⟩
        · refine frel_bind_ok (S'.off nextLine) ?_
          intro o₁ o₂ ho1 ho2 he
          have hT1 := S'.geoAt₁ (off_ok ho1)
          have hT2 := S'.geoAt₂ (off_ok ho2)
          refine frel_bind (S'.setOff nextLine (he.setIndent _) ?_ ?_) ?_
          · intro o ho; rw [off_ok ho1] at ho; cases ho; rfl
          · intro o ho; rw [off_ok ho2] at ho; cases ho; rfl
          intro u₁ u₂ S''
          refine ih f₂ (by omega) u₁ u₂ (nextLine + 1) _ _ lastEmpty S'' (O.push he ?_ ?_) (by simp; omega)
          · rw [← hnl]; exact hT1
          · rw [← hnl]; exact hT2

/-! ## the rule -/

theorem blockquote_sim (C : Ctx R G) {tok₁ tok₂ : Tok} (TK : TokSim R G tok₁ tok₂) (hk : R.strict → TokSpec tok₁)
    {test₁ test₂ : Test} (TS : TestSim R G test₁ test₂) (hp : R.strict → TestPure test₁) {f₁ f₂ : Nat} (hf : f₁ ≤ f₂)
    {s₁ s₂ : BState} (S : SRel R G s₁ s₂) (silent : Bool) (hne : R.strict → silent = false → Live s₁) :
    FRel (ResRel R G) (blockquoteRule tok₁ test₁ f₁ s₁ silent) (blockquoteRule tok₂ test₂ f₂ s₂ silent) := by
  unfold blockquoteRule
  rw [S.line, S.lineIndent, S.getLine]
  refine frel_bind_same _ ?_
  intro ind _
  refine frel_ite (fun _ => frel_pure ⟨rfl, S⟩) (fun _ => ?_)
  refine frel_bind_same _ ?_
  intro line _
  refine frel_ite (fun _ => frel_pure ⟨rfl, S⟩) (fun _ => ?_)
  refine frel_ite (fun _ => frel_pure ⟨rfl, S⟩) (fun _ => ?_)
  refine frel_bind_ok (bqScan_sim TS s₁.line f₁ f₂ hf s₁ s₂ s₁.line [] [] false S (OldRel.nil _) (by simp)) ?_
  rintro ⟨nl₁, old₁, t₁⟩ ⟨nl₂, old₂, t₂⟩ hscan _ ⟨hnl, O, S'⟩
  simp only at hnl O S' ⊢
  subst hnl
  refine frel_bind_ok (TK _ _ ?_) ?_
  · srel_fields S'
    exact NRelL.nil
  intro u₁ u₂ htok _ S''
  have hfr := fun hs => (hk hs).frame _ _ htok
  rw [S''.level, S''.line]
  refine frel_bind_same _ ?_
  intro lvl _
  have W : SRel R G { u₁ with level := lvl, lineMax := t₁.lineMax, blkIndent := t₁.blkIndent }
      { u₂ with level := lvl, lineMax := t₂.lineMax, blkIndent := t₂.blkIndent, line := u₁.line } := by
    srel_fields S''
    · exact S'.blkIndent
    · exact S'.lineMax
    · exact S''.children
  have RO := restoreOffs_sim old₁ old₂ s₁.line _ _ W O
  refine frel_bind_ok RO ?_
  intro a b hrest _ X
  dsimp only at X hrest
  -- the table is again the one the rule started with
  have hoffs : R.strict → a = s₁.offs := by
    intro hs
    obtain ⟨_, _, _, _, _, add, hadd, hr⟩ := bqScan_spec (hp hs) _ _ _ _ _ _ _ _ hscan
    simp only [List.nil_append] at hadd
    subst hadd
    have e := (hfr hs).offs
    simp only at e hr
    rw [e, hr] at hrest
    cases hrest; rfl
  refine frel_bind_same _ ?_
  intro e _
  refine frel_bind (X.getMap C _ _ (fun hs => by
    have := hoffs hs; subst this; exact (hne hs (Bool.eq_false_iff.mpr ‹¬ silent = true›)).2)) ?_
  intro r₁ r₂ hr
  refine frel_pure ⟨rfl, ?_⟩
  have hkk : R.K u₁.nodeKind u₂.nodeKind := by
    rw [S''.nodeKind]; exact C.self _ (fun hs => by rw [(hfr hs).nodeKind]; intro c m h; cases h)
  exact SRel.upd X ⟨rfl, rfl⟩ ⟨rfl, rfl⟩ S'.blkIndent rfl S'.lineMax S''.tight S''.listIndent rfl S'.nodeKind S''.refs
    (S'.children.push (NRel.mk hkk hr S''.children))

end MdIt.Block.LX.Sim
