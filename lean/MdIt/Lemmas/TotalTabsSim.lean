/-
  Helper development for `Props/TotalTabs.lean` (C01 for ALL sources, split tabs included): a LOCK-STEP
  SIMULATION of two runs of the inline parser on the same text,

      side 1  under a table on which the run is known to succeed (in the application `[(0, 0)]`, which
              is `Inline.MapOK` for every text, so the inline totality theorem applies to it),
      side 2  under a table that is only `C05T.MapT` (every `get_lines` table, split tabs included).

  The control flow of the inline parser never reads the table: `cache`, `backticks`, `bottoms`, `pos`,
  `posMax`, `level`, `linkLevel` hold inline offsets only, and the table feeds `get_source_pos_for` /
  `get_map`, whose results go into node RANGES.  The state relation is `IRel false` of
  Lemmas/C10DocInlineRel.lean (every field equal except `srcmap` and the ranges inside `children`), the
  simulation is STRICT (`Sim true`: side 2 must return `ok`): the general simulation of
  Lemmas/C10SpInlineBase.lean with its two strictness parameters apart (`t = true`, `s = false`), where
  what excludes a failure of side 2 is not the order of the ranges but a fact about side 2 itself.
  Side 2 can fail where side 1 does not at exactly these places:
    * `get_source_pos_for` / `get_map` — total on a well-formed table (`XG.Tight`; the
      `debug_assert!(start <= end)` of `get_map` compares INLINE offsets);
    * `map_end - count` in `trailing_text_pop` (newline rule, real mode) — excluded by
      `TT.TrailOKw`, which follows from the frame invariant `C05T.RIv` of side 2 (shift argument);
    * `e - marker_len` in the delimiter matching — excluded by `Inline.RI` of side 2
      (`matchOuter_total`, Lemmas/InlineEmphTotal.lean, which does not look at the table).
  The unary invariant of side 2 is NOT carried in the conclusions: side 2 runs under the frame invariant
  of the inline parser in inline-text coordinates (`TT.GJ`, Lemmas/TotalTabsSim2.lean), which it keeps
  whenever it returns `ok` (`IC.ic_runRule`, `IC.ic_tokStep`) and whose image in source coordinates is
  `C05T.RIv` (`IC.ICF.riv`).
-/
import MdIt.Lemmas.C10DocInline
import MdIt.Lemmas.TotalTabsRules

namespace MdIt.Inline.TT
open MdIt.Inline
open MdIt.InlineOps (Srcmap getSourcePosFor getMap byteLen slice)
open MdIt.C05T (MapT RIv tv_RInv tv_NlAct tv_StepRI tv_StepOK SolidMarkers)
open MdIt.C05R (Cut)
open MdIt.C05 (WFMap)

/-! ## the relations of Lemmas/C10DocInlineRel.lean as instances of the general ones -/

theorem irel_to {s : Bool} {a b : IState} (h : IRel s a b) :
    XG.IRel (plainPar a.src a.srcmap b.srcmap) s a b :=
  ⟨h.eq, h.map, (lrel_iff id _ _).mp h.ch, rfl, rfl, rfl, trivial⟩

theorem irel_of {P : XG.Par} (hP : ¬ P.track) {s : Bool} {a b : IState} (h : XG.IRel P s a b) : IRel s a b :=
  ⟨h.eq, h.map, (lrel_iff hP _ _).mpr h.ch⟩

theorem orel_of {P : XG.Par} (hP : ¬ P.track) {t s : Bool} {ε : Type} {r : Option Nat × IState}
    {x : Except ε (Option Nat × IState)} (h : Sim t (XG.ORel P s) r x) : Sim t (ORel s) r x :=
  h.mono fun _ hr => ⟨hr.1, irel_of hP hr.2⟩

theorem mrel_false (m₁ m₂ : Srcmap) : MRel false m₁ m₂ := fun h => by cases h

/-! ## the table: `get_source_pos_for` / `get_map` are total on a well-formed table -/

theorem getMapSt_simT {a : IState} {m : Srcmap} {cs : List Node} (hw : WFMap m)
    {x y : Nat} {r₁ : Nat × Nat} (h : a.getMap x y = .ok r₁) :
    Sim true (fun r₁ r₂ => RRel false (some r₁) (some r₂)) r₁
      (IState.getMap { a with srcmap := m, children := cs } x y) :=
  (XG.getMapSt_sim (t := true) (mrel_false _ _) (fun _ => .inr hw) h).mono fun _ hr => hr.1

theorem pushText_simT {a b a' : IState} {x y : Nat} (rel : IRel false a b) (hw : WFMap b.srcmap)
    (h : a.pushText x y = .ok a') : Sim true (IRel false) a' (b.pushText x y) :=
  (XG.pushText_sim (t := true) (irel_to rel) (fun _ => .inr hw) h).mono fun _ => irel_of id

/-! ## the newline rule: `map_end - count` in `trailing_text_pop` -/

theorem trailOKw_pop {b : IState} (ht : TrailOKw b) : ∀ i₂ x₂ x y, popLast b.children = some (i₂, x₂) →
    x₂.range = some (x, y) → tailSpaces (trailingTextGet b.children) < byteLen x₂.content →
    tailSpaces (trailingTextGet b.children) ≤ y := by
  intro i₂ x₂ x y hp hr hlt
  have hcs : b.children = i₂ ++ [x₂] := by
    rcases popLast_spec b.children with ⟨h0, _⟩ | ⟨i, l, h1, h2⟩
    · rw [h0] at hp; cases hp
    · rw [h1] at hp; cases hp; exact h2
  unfold trailingTextGet at hlt ⊢
  rw [hp] at hlt ⊢
  simp only at hlt ⊢
  by_cases hx : x₂.isText = true
  · rw [if_pos hx] at hlt ⊢; exact (ht i₂ x₂ hcs hx).2 x y hr hlt
  · rw [if_neg hx]; exact Nat.zero_le _

/-! ## the delimiter matching: the general simulation + totality of the outer loop on side 2 -/

/-- the outer loop on side 2 returns: the frame invariant is its invariant at the start -/
theorem outerRet_of_RI (fns : Nat → Option Wrap) (mk : Char) (room : Nat) {c₂ : List Node}
    {src : List Char} {m : Srcmap} {lo pos : Nat} (hri : RI src m lo pos c₂) :
    XG.OuterRet fns mk room c₂ := by
  intro i₂ x₂ closer minIdx hp2 hx2 hil
  have hc2 : c₂ = i₂ ++ [x₂] := by
    rcases popLast_spec c₂ with ⟨h0', _⟩ | ⟨i, l, h1, h2⟩
    · rw [h0'] at hp2; cases hp2
    · rw [h1] at hp2; cases hp2; exact h2
  subst hc2
  obtain ⟨hT, hhT, hord⟩ := hri.ord
  obtain ⟨hcc, hrem, cS, cE, hcr, hfit⟩ := hri.markers x₂ (by simp) closer hx2
  obtain ⟨a0, b0, hab, hinit, _, hbT⟩ := hord.last
  rw [hcr] at hab; simp only [Option.some.injEq, Prod.mk.injEq] at hab
  obtain ⟨rfl, rfl⟩ := hab
  have hm0 : MInv lo hT closer.remaining
      { closer := closer, closerRange := x₂.range, children := i₂, newMin := i₂.length - 1 } :=
    ⟨cS, ⟨hinit, hri.deep.left, hri.markers.left⟩, ⟨cS, cE, hcr, Nat.le_refl _, hfit, hbT⟩, Or.inl rfl⟩
  by_cases hk : i₂.length - 1 - minIdx = 0
  · rw [hk]; exact ⟨_, rfl⟩
  · exact matchOuter_total room minIdx _ _ hm0 (by simp only []; omega)

/-- the state with the new marker leaf pushed satisfies the frame invariant: the run `mk … mk` starts
    with the solid `mk`, so the translation is a shift on it and the leaf has room for its delimiters
    (`ri_push_marker_of`) -/
theorem emph_pushed {A : Prop} {cfg : Cfg} {c : Char} {csw : Bool} {lo : Nat} {st : IState}
    {w : List Char} {scanned : DelimRun} {rx ry : Nat}
    (hm : MapT st.src st.srcmap) (hmk : c.utf8Size = 1) (hnl : c ≠ '\n') (hsp : c ≠ ' ')
    (hi : tv_RInv A lo st) (hw : st.window = .ok (c :: w))
    (hsc : scanDelims cfg st.src st.posMax st.pos csw = .ok scanned)
    (hr : st.getMap st.pos (st.pos + scanned.length) = .ok (rx, ry)) :
    RI st.src st.srcmap lo (st.pos + scanned.length)
      (st.children ++ [Node.leaf (.emphMarker c scanned.length scanned.length scanned.canOpen
        scanned.canClose) (some (rx, ry))]) := by
  obtain ⟨mk', rest, hsl, _, hlen⟩ := scanDelims_length hsc
  unfold IState.window at hw
  rw [hw] at hsl
  simp only [Except.ok.injEq, List.cons.injEq] at hsl
  obtain ⟨rfl, rfl⟩ := hsl
  have hcut : Cut st.src st.pos st.posMax (c :: w) :=
    (C05R.cut_iff_ops _ _ _ _).mp (liftOps_ok.mp hw)
  have hrun := C05R.em_runLen_cut hmk hcut
  rw [← hlen] at hrun
  obtain ⟨e1, e2, _⟩ := getMap_eq hr
  have hexp : ry = rx + scanned.length := by
    have hrep : List.replicate scanned.length c
        = c :: List.replicate (scanned.length - 1) c := by
      rw [← List.replicate_succ]; congr 1; omega
    rw [hrep] at hrun
    have := hm.shift st.pos (st.pos + scanned.length) c _ st.pos (st.pos + scanned.length)
      rx ry hrun hsp hnl (C05R.em_not_mem_replicate hnl _) (Nat.le_refl _) (by omega)
      (Nat.le_refl _) e1 e2
    omega
  exact ri_push_marker_of hi.ri st.src c (by omega : 1 ≤ scanned.length) scanned.canOpen scanned.canClose
    e1 e2 (by omega)

theorem ruleEmph_simT {A : Prop} {cfg : Cfg} {mk : Char} {csw : Bool} {lo : Nat} {a b : IState}
    {silent : Bool} {r : Option Nat × IState} (rel : IRel false a b)
    (hreal : silent = false →
      MapT b.src b.srcmap ∧ tv_RInv A lo b ∧ mk.utf8Size = 1 ∧ mk ≠ '\n' ∧ mk ≠ ' ')
    (h : ruleEmph cfg mk csw a silent = .ok r) :
    Sim true (ORel false) r (ruleEmph cfg mk csw b silent) :=
  orel_of id (XG.ruleEmph_sim (t := true) False.elim (irel_to rel) (fun hs _ => .inr (hreal hs).1.wf)
    (fun hs _ => .inr fun _ _ _ hw hsd hg =>
      have ⟨hmap, hri, k1, k2, k3⟩ := hreal hs
      outerRet_of_RI _ _ _ (emph_pushed (cfg := cfg) (csw := csw) hmap k1 k2 k3 hri hw hsd hg)) h)

end MdIt.Inline.TT
