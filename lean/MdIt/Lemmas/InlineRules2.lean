/-
  Helper development for `Props/Inline.lean` (continued): autolinks and emphasis markers.
-/
import MdIt.Lemmas.InlineRules

namespace MdIt.Inline
open MdIt.InlineOps (Srcmap getSourcePosFor getMap byteLen slice)
open MdIt.C05 (WFMap byteLen_append slice_ok_iff)

/-! ## autolink -/

theorem autolinkScan_spec {l : List Char} {p0 p : Nat} (h : autolinkScan l p0 = some p) :
    ∃ u v, l = u ++ '>' :: v ∧ p = p0 + byteLen u := by
  induction l generalizing p0 with
  | nil => simp [autolinkScan] at h
  | cons c r ih =>
    unfold autolinkScan at h
    split at h
    · simp at h
    · split at h
      · next hc =>
        simp only [Option.some.injEq] at h; subst h; subst hc
        exact ⟨[], r, rfl, by simp [byteLen]⟩
      · obtain ⟨u, v, hr, hp⟩ := ih h
        exact ⟨c :: u, v, by rw [hr]; rfl, by rw [hp]; simp only [byteLen]; omega⟩

theorem ruleAutolink_out {st st' : IState} {silent : Bool} {o : Option Nat} :
    ruleAutolink st silent = .ok (o, st') → RuleOut st silent o st' := by
  fun_cases ruleAutolink st silent with
  | case1 | case2 | case5 | case9 | case10 => intro h; cases h
  | case3 | case4 | case6 | case7 => intro h; cases h; exact .none _ _
  | case8 _ _ _ _ _ hscan _ _ _ _ _ _ _ hs =>
    intro h; cases h; cases hs
    obtain ⟨u, v, _, hp⟩ := autolinkScan_spec hscan
    exact .silent _ (by omega)
  | case11 _ _ _ _ _ hscan _ _ _ _ hmatch _ hd hs =>
    intro h; cases h
    obtain ⟨u, v, _, hp⟩ := autolinkScan_spec hscan
    cases silent with
    | true => exact absurd rfl hs
    | false =>
      refine .real (.auto _ _ ?_ hd) (by omega)
      intro e; subst e; exact hmatch (by decide)

theorem ruleAutolink_simple {st st' : IState} {silent : Bool} {o : Option Nat}
    (h : ruleAutolink st silent = .ok (o, st')) : Simple st silent o st' :=
  (ruleAutolink_out h).simple

/-- the plan of the autolink rule reads the window through its first character and the scan -/
theorem planAutolink_scan {src : List Char} {pos : Nat} {c : Char} {rest rest' : List Char}
    (h : autolinkScan rest (pos + 2) = autolinkScan rest' (pos + 2)) :
    planAutolink src pos (c :: rest) = planAutolink src pos (c :: rest') := by
  unfold planAutolink
  simp only [h]

/-- an answer of the autolink plan is the distance to the position behind `>` -/
theorem planAutolink_some {src : List Char} {pos n : Nat} {c : Char} {rest : List Char} {p : Plan}
    (h : planAutolink src pos (c :: rest) = .ok p) (hv : p.answer pos = some n) :
    c = '<' ∧ ∃ q, autolinkScan rest (pos + 2) = some q ∧ n = q - pos := by
  unfold planAutolink at h
  simp only at h
  split at h
  · cases h; cases hv
  · next hc =>
    refine ⟨Decidable.not_not.mp hc, ?_⟩
    split at h
    · cases h; cases hv
    · next q hq =>
      refine ⟨q, hq, ?_⟩
      repeat' split at h
      all_goals cases h
      all_goals cases hv
      rfl

theorem inline_rule_progress_autolink {st : IState} (hi : InlineInv st) (silent : Bool) :
    ∃ o st', ruleAutolink st silent = .ok (o, st') ∧ Advances st o := by
  obtain ⟨pre, w, post, hsrc, hpre, hlen, hw, hne⟩ := window_ok hi
  have hsl := window_eq hw
  cases w with
  | nil => exact absurd rfl hne
  | cons c rest =>
    have hnone : Advances st none := fun _ hl => nomatch hl
    rw [ruleAutolink, hw]
    dsimp only
    by_cases hc : c ≠ '<'
    · rw [if_pos hc]; exact ⟨_, _, rfl, hnone⟩
    · rw [if_neg hc]
      have hc' : c = '<' := Decidable.not_not.mp hc
      subst hc'
      cases hscan : autolinkScan rest (st.pos + 2) with
      | none => exact ⟨_, _, rfl, hnone⟩
      | some p =>
        dsimp only
        obtain ⟨u, v, hr, hp⟩ := autolinkScan_spec hscan
        have e1 : ('<' : Char).utf8Size = 1 := by decide
        have e2 : ('>' : Char).utf8Size = 1 := by decide
        -- the text between `<` and `>`
        have hurl : slice st.src (st.pos + 1) (p - 1) = .ok u := by
          apply (slice_ok_iff _ _ _ _).mpr
          refine ⟨pre ++ ['<'], '>' :: v ++ post, ?_, ?_, ?_⟩
          · rw [hsrc, hr]; simp
          · rw [byteLen_append]; simp only [byteLen, e1]; omega
          · omega
        have hbl : byteLen ('<' :: u ++ ['>']) = p - st.pos := by
          simp only [List.cons_append, byteLen, byteLen_append, e1, e2]; omega
        have hadv : Advances st (some (p - st.pos)) := by
          intro len hl
          simp only [Option.some.injEq] at hl; subst hl
          have hw2 : '<' :: rest = ('<' :: u ++ ['>']) ++ v := by rw [hr]; simp
          refine ⟨by omega, ?_, ?_⟩
          · rw [← hlen, hw2, byteLen_append, hbl]; omega
          · rw [← hbl]; exact boundary_in_slice (by rw [← hw2]; exact hsl)
        have hle : st.pos ≤ p ∧ st.pos + 1 ≤ p - 1 := by omega
        rw [hurl]
        simp only [liftOps]
        by_cases hre : (!matchAutolinkRe u && !matchEmailRe u) = true
        · rw [if_pos hre]; exact ⟨_, _, rfl, hnone⟩
        · rw [if_neg hre]
          cases Link.autolinkDest (matchAutolinkRe u) u with
          | none => exact ⟨_, _, rfl, hnone⟩
          | some full =>
            dsimp only
            cases silent with
            | true => exact ⟨_, _, rfl, hadv⟩
            | false =>
              obtain ⟨x, y, hm, _, _⟩ := getMap_ok (st := st) hi.wf (a := st.pos) (b := p) hle.1
              obtain ⟨x', y', hm', _, _⟩ := getMap_ok (st := st) hi.wf (a := st.pos + 1) (b := p - 1) hle.2
              rw [if_neg Bool.false_ne_true, hm, hm']
              exact ⟨_, _, rfl, hadv⟩

/-- **silent = real (autolink).** -/
theorem silent_real_autolink {st : IState} {n : Nat} {st1 : IState}
    (hs : ruleAutolink st true = .ok (some n, st1)) :
    st1 = st ∧ ∀ o st2, ruleAutolink st false = .ok (o, st2) → o = some n ∧ st2.pos = st.pos := by
  rw [ruleAutolink_eq] at hs ⊢
  exact runPlan_silent_real hs

/-! ## a rule that fires stops inside the window -/

/-- a rule that `Advances` stops inside the window -/
theorem end_of_advances {st st' : IState} {w : List Char} {len : Nat} {r : SRes}
    (hw : slice st.src st.pos st.posMax = .ok w) (hlt : st.pos < st.posMax) (hwf : WFMap st.srcmap)
    (hadv : InlineInv st → ∃ o2 st2, r = .ok (o2, st2) ∧ Advances st o2) (h : r = .ok (some len, st')) :
    st.pos + len ≤ st.posMax := by
  obtain ⟨b1, b2, _⟩ := slice_boundaries hw
  obtain ⟨o2, st2, h2, hadv⟩ := hadv ⟨hlt, b1, b2, hwf⟩
  rw [h] at h2
  simp only [Except.ok.injEq, Prod.mk.injEq] at h2
  obtain ⟨rfl, _⟩ := h2
  exact (hadv len rfl).2.1

theorem ruleAutolink_end {st st' : IState} {silent : Bool} {len : Nat} (hlt : st.pos < st.posMax)
    (hwf : WFMap st.srcmap) (h : ruleAutolink st silent = .ok (some len, st')) :
    st'.pos + len ≤ st.posMax := by
  rw [(ruleAutolink_simple h).pos]
  cases hw : st.window with
  | error e => unfold ruleAutolink at h; rw [hw] at h; simp at h
  | ok w => exact end_of_advances (window_eq hw) hlt hwf (fun inv => inline_rule_progress_autolink inv silent) h

theorem ruleBackticks_end {st st' : IState} {silent : Bool} {len : Nat} (hlt : st.pos < st.posMax)
    (hwf : WFMap st.srcmap) (h : ruleBackticks st silent = .ok (some len, st')) :
    st'.pos + len ≤ st.posMax := by
  rw [(ruleBackticks_simple h).pos]
  cases hs : CodePair.slice st.src st.pos st.posMax with
  | none => unfold ruleBackticks CodePair.run at h; rw [hs] at h; simp at h
  | some w =>
    exact end_of_advances ((codeSlice_eq _ _ _ _).mp hs) hlt hwf
      (fun inv => inline_rule_progress_backticks inv silent) h

/-! ## emphasis markers -/

theorem scanDelims_length {cfg : Cfg} {src : List Char} {posMax start : Nat} {csw : Bool}
    {d : DelimRun} (h : scanDelims cfg src posMax start csw = .ok d) :
    ∃ mk rest, liftOps (slice src start posMax) = .ok (mk :: rest) ∧ d.marker = mk ∧
      d.length = 1 + CodePair.runLen mk rest := by
  unfold scanDelims at h
  simp only at h
  split at h
  · simp at h
  · split at h
    · simp at h
    · simp at h
    · next mk rest hsl =>
      simp only [Except.ok.injEq] at h
      subst h
      exact ⟨mk, rest, hsl, rfl, rfl⟩

theorem ruleEmph_silent (cfg : Cfg) (mk : Char) (csw : Bool) (st : IState) :
    ruleEmph cfg mk csw st true = .ok (none, st) := by
  unfold ruleEmph; rfl

theorem ruleEmph_simple {cfg : Cfg} {mk : Char} {csw : Bool} {st st' : IState} {silent : Bool}
    {o : Option Nat} (h : ruleEmph cfg mk csw st silent = .ok (o, st')) : Simple st silent o st' := by
  revert h
  fun_cases ruleEmph cfg mk csw st silent with
  | case1 | case4 =>
    intro h; cases h
    exact ⟨Frame.refl _, rfl, rfl, fun _ => Quiet.refl _, fun _ hl => nomatch hl⟩
  | case2 | case3 | case5 | case6 | case7 => intro h; cases h
  | case8 | case9 =>
    intro h
    have h := Prod.mk.inj (Except.ok.inj h)
    rw [← h.1, ← h.2]
    obtain ⟨_, _, _, _, hlen⟩ :=
      scanDelims_length ‹scanDelims cfg st.src st.posMax st.pos csw = .ok _›
    exact ⟨⟨rfl, rfl, rfl, rfl, rfl⟩, rfl, rfl, fun hq => absurd hq ‹¬silent = true›,
      fun _ hl => by cases hl; omega⟩

theorem runLen_split (m : Char) (l : List Char) :
    ∃ t, l = List.replicate (CodePair.runLen m l) m ++ t :=
  let ⟨t, ht, _⟩ := CodePair.runLen_split m l
  ⟨t, ht⟩

/-- progress of the emphasis-marker rule (real mode; look-ahead always answers `None`): for a
    single-byte marker the run ends on a boundary within the window.  (For a multi-byte marker the
    Rust returns the number of CHARACTERS as a byte length.) -/
theorem inline_rule_progress_emph {cfg : Cfg} {mk : Char} (hmk : mk.utf8Size = 1) {csw : Bool}
    {st st' : IState} {silent : Bool} {o : Option Nat}
    (h : ruleEmph cfg mk csw st silent = .ok (o, st')) : Advances st o := by
  intro len hl
  subst hl
  unfold ruleEmph at h
  split at h
  · simp at h
  · split at h
    · simp at h
    · simp at h
    · next c w1 hw =>
      split at h
      · simp at h
      · next hc =>
        have hc' : c = mk := by simpa using hc
        subst hc'
        split at h
        · simp at h
        · next scanned hsc =>
          obtain ⟨mk', rest, hsl, _, hlen⟩ := scanDelims_length hsc
          have hsl' : slice st.src st.pos st.posMax = .ok (mk' :: rest) := liftOps_ok.mp hsl
          have hwe := window_eq hw
          rw [hwe] at hsl'
          simp only [Except.ok.injEq, List.cons.injEq] at hsl'
          obtain ⟨rfl, rfl⟩ := hsl'
          have hfin : len = scanned.length := by
            split at h
            · simp at h
            · simp only at h
              split at h
              · split at h
                · simp at h
                · simp only [Except.ok.injEq, Prod.mk.injEq, Option.some.injEq] at h; exact h.1.symm
              · simp only [Except.ok.injEq, Prod.mk.injEq, Option.some.injEq] at h; exact h.1.symm
          obtain ⟨t, ht⟩ := runLen_split c w1
          have hrep : byteLen (c :: List.replicate (CodePair.runLen c w1) c) = 1 + CodePair.runLen c w1 := by
            have := CodePair.byteLen_replicate hmk (CodePair.runLen c w1)
            rw [codeByteLen_eq] at this
            simp only [byteLen, hmk, this]
          have hw2 : c :: w1 = (c :: List.replicate (CodePair.runLen c w1) c) ++ t := by
            rw [List.cons_append, ← ht]
          obtain ⟨_, _, hlen2⟩ := slice_boundaries hwe
          refine ⟨by omega, ?_, ?_⟩
          · rw [hfin, hlen, ← hlen2, hw2, byteLen_append, hrep]; omega
          · rw [hfin, hlen, ← hrep]
            exact boundary_in_slice (by rw [← hw2]; exact hwe)

end MdIt.Inline
