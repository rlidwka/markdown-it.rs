/-
  For `Props/MemoSafe.lean` and `Props/C16Doc.lean`: THE COMPARISON AT A MEMO HIT, in any frame and for every
  strength of invariant.

  The real chain at a state `x` whose position has a memo entry `k ↦ v` that ends inside the frame of `x`
  does what the look-ahead chain did that MADE the entry (the witness `Just`, `Lemmas/MemoSafeLamDef.lean`):
  rule by rule the verdicts are in step (per-rule statements of `Lemmas/MemoSafeLamDef.lean`), so the real
  step ends at `v` — or is the emphasis rule at a run of its marker.  The argument does not look inside the
  invariants; what it uses of them is collected in

    * `NestKit`         — `N` (invariant of the states of nested label frames; it implies `Inline.NF`), `R`
                          (what a rule call / a nested run leaves alone), `W` (what a witness state knows
                          besides `B`), and the comparison statements that hold for every chain (`flat`,
                          `keep`, `emph`);
    * `NestKit.Frame F` — what is read of the invariant `F` of the frame `x` lives in: the frame ends at the
                          top `pos_max` or at a `]` below it (`win`); `backL2` (code spans: witness verdict
                          against real verdict, which is where the invariants on `inside_failed` enter) and
                          `pl` (`parse_link` at `x` replays the witness's call); `enter`: a label found at
                          `x` starts a frame whose states satisfy `N`;
    * `NestKit.Loop`    — for the loop inside a nested frame: `Frame N`, the witness of an entry unpacked to
                          its chain (`wit`), and `N` at the next position (`next`).

  Over a `Frame F`: `rule_L2`, `chain_L2` — guarded side = model side, the real chain meets `Post`, and every
  rule the real chain ARRIVES at is called at a state still paired with a witness state (`WitCall`; this is
  the C16 content) — and `link_call` (a label found by the real link rule).  Over a `Loop`: `nested_step`,
  `nested_eq` (inside a nested frame the guarded tokenizer IS the model's), `nested_arrives`.

  Instances: the nested frames of `MdIt.Inline`, `MdIt.Inline.CS`, `MdIt.Inline.ES`
  (`Lemmas/MemoSafeLamNest.lean`, `MemoSafeLamCSNest.lean`, `MemoSafeLamESNest.lean`), and the TOP frame at a memo hit
  (`Lemmas/C16DocTop.lean`), where the window cut is trivial.
-/
import MdIt.Lemmas.MemoSafeLamChain

namespace MdIt.Inline
open MdIt.InlineOps (byteLen slice)
open MdIt.Inline.ES.C16Doc (Arrives)

/-- **entering a label frame**: the state `y` that starts at the label `parse_link` found (the call was
    made by ANY state `w` under the top `pos_max` whose returned memo the memo of `y` extends) satisfies
    `NF` -/
theorem NF.enter {cfg : Cfg} {B : List Char → CodePair.Cache → Prop} {src : List Char} {Mtop : Nat}
    {skip0 : IState → Except Panic IState} (hq : CalmFn skip0) (hs : SkipHypT skip0)
    (hg : SkipGrowHyp skip0) {f0 : Nat} {w w1 : IState} {p : Nat} {en : Bool} {res : LinkRes}
    (hi : LInv w) (hwsrc : w.src = src) (hwmax : w.posMax = Mtop) (hb : Boundary w.src (p + 1))
    (hle : p + 1 ≤ w.posMax) (hpl : parseLink cfg skip0 f0 w p en = .ok (some res, w1)) {y : IState}
    (hctx : NCtx cfg B src Mtop y.cache) (hmono : LookupMono w1.cache y.cache) (hysrc : y.src = src)
    (hyB : B y.src y.backticks) (hgood : ∃ lo, Good lo y) (hpos : y.pos = res.labelStart)
    (hmax : y.posMax = res.labelEnd) : NF cfg B src Mtop y := by
  obtain ⟨rb, hrb⟩ := (((parseLink_T (cfg := cfg) hq hs f0 w p en hi hb hle).2 _ _ hpl).2.2.2 res rfl).bracket
  obtain ⟨hls, hrec⟩ := parseLink_records (cfg := cfg) hq hs hg f0 w p en hi hb hle res w1 hpl
  refine ⟨hctx, hysrc, hyB, hgood, ⟨rb, ?_⟩, ⟨en, f0, 1, Int.le_refl _, ?_⟩⟩
  · rw [hmax, ← hwsrc, ← hwmax]; exact hrb
  · rw [hmax, hpos, hls, ← hwsrc, ← hwmax]; exact hrec _ hmono

/-- the statement of the comparison for `parse_link` at a state `s` of a frame with invariant `F`
    (`ParseLinkL2Part` of `Lemmas/MemoSafeLamDef.lean` is the case `F = NF`) -/
def PLPart (cfg : Cfg) (src : List Char) (Mtop : Nat) (F : IState → Prop) (offset : Nat) (en : Bool) :
    Prop :=
  ∀ (skip0 : IState → Except Panic IState) (f0 : Nat) (w w1 : IState)
    (r0 : Option LinkRes) (s : IState) (v : Nat),
    CalmFn skip0 → SkipHypT skip0 → SkipGrowHyp skip0 →
    LInv w → w.src = src → w.posMax = Mtop → w.pos = s.pos →
    parseLink cfg skip0 f0 w (w.pos + offset) en = .ok (r0, w1) →
    LookupMono w1.cache s.cache →
    F s → s.pos < s.posMax →
    s.cache.lookup s.pos = some v → v ≤ s.posMax →
    ((offset = 0 ∧ en = false ∧ ∃ rest, slice src s.pos Mtop = .ok ('[' :: rest)) ∨
     (offset = 1 ∧ en = true ∧ ∃ rest, slice src s.pos Mtop = .ok ('!' :: '[' :: rest))) →
    Boundary s.src (s.pos + offset + 1) → s.pos + offset + 1 ≤ s.posMax →
    (r0 = none → v = s.pos + 1) → (∀ res, r0 = some res → v = res.endPos) →
    ∀ n : Nat, PLSame cfg n s (s.pos + offset) en r0

/-- `ParseLinkL2Part` of the two rules, for an invariant `N` that implies `NF` -/
theorem PLPart.of_nf {cfg : Cfg} {B : List Char → CodePair.Cache → Prop} {src : List Char} {Mtop : Nat}
    {N : IState → Prop} (toNF : ∀ {s}, N s → NF cfg B src Mtop s)
    (plLink : RuleId.link ∈ cfg.chain → ParseLinkL2Part cfg B src Mtop 0 false)
    (plImage : RuleId.image ∈ cfg.chain → ParseLinkL2Part cfg B src Mtop 1 true) {offset : Nat} {en : Bool}
    (h : (offset = 0 ∧ en = false ∧ RuleId.link ∈ cfg.chain) ∨
      (offset = 1 ∧ en = true ∧ RuleId.image ∈ cfg.chain)) : PLPart cfg src Mtop N offset en := by
  intro skip0 f0 w w1 r0 s v a1 a2 a3 a4 a5 a6 a7 a8 a9 hn a11 a12 a13 a14 _ _ a15 a16 n
  rcases h with ⟨rfl, rfl, h⟩ | ⟨rfl, rfl, h⟩
  · exact plLink h skip0 f0 w w1 r0 s v a1 a2 a3 a4 a5 a6 a7 a8 a9 (toNF hn) a11 a12 a13 a14 a15 a16 n
  · exact plImage h skip0 f0 w w1 r0 s v a1 a2 a3 a4 a5 a6 a7 a8 a9 (toNF hn) a11 a12 a13 a14 a15 a16 n

/-- the invariants of one strand -/
structure NestKit (cfg : Cfg) (B : List Char → CodePair.Cache → Prop) (src : List Char) (Mtop : Nat) where
  /-- the invariant of the real states of a nested label frame -/
  N : IState → Prop
  /-- `R s s'`: what a rule call, a step, a nested run from `s` to `s'` leave alone -/
  R : IState → IState → Prop
  /-- what a witness state knows besides `B` -/
  W : IState → Prop
  coh : ChainCoherent cfg = true
  flat : FlatL2 cfg
  keep : RealKeeps cfg
  emph : EmphL2 cfg
  one : cfg.chain.count .link ≤ 1 ∧ cfg.chain.count .image ≤ 1
  toNF : ∀ {s}, N s → NF cfg B src Mtop s
  R_trans : ∀ {a b c}, R a b → R b c → R a c
  R_cache : ∀ {s s'}, R s s' → s'.cache = s.cache
  /-- `R` reads memo, text and code-span cache only -/
  R_congr : ∀ {a b a' b'}, R a b → a'.cache = a.cache → a'.src = a.src → a'.backticks = a.backticks →
    b'.cache = b.cache → b'.src = b.src → b'.backticks = b.backticks → R a' b'

/-- what the comparison reads of the invariant `F` of the frame the real state lives in -/
structure NestKit.Frame {cfg : Cfg} {B : List Char → CodePair.Cache → Prop} {src : List Char} {Mtop : Nat}
    (K : NestKit cfg B src Mtop) (F : IState → Prop) : Prop where
  hsrc : ∀ {x}, F x → x.src = src
  back : ∀ {x}, F x → B x.src x.backticks
  good : ∀ {x}, F x → ∃ lo, Good lo x
  memo : ∀ {x}, F x → MemoB x
  ctx : ∀ {x}, F x → NCtx cfg B src Mtop x.cache
  /-- the frame ends at the top `pos_max`, or at a `]` below it -/
  win : ∀ {x}, F x → x.posMax = Mtop ∨ (x.posMax < Mtop ∧ ∃ r, slice src x.posMax Mtop = .ok (']' :: r))
  refl : ∀ {x}, F x → K.R x x
  /-- behind a rule call that keeps the position -/
  same : ∀ {x x'}, F x → K.R x x' → x'.src = x.src → x'.posMax = x.posMax → x'.pos = x.pos →
    (∃ lo, Good lo x') → F x'
  /-- the start state of a label frame entered from `x`: it sits right behind a `[` -/
  enter : ∀ {x y p M r}, F x → NF cfg B src Mtop y → y.cache = x.cache → y.src = x.src →
    y.backticks = x.backticks → slice src p M = .ok ('[' :: r) → y.pos = p + 1 → K.N y
  /-- at a backtick a look-ahead rule call keeps what the witness state knows -/
  witBack : ∀ {skip tok fuel id w w1 o1 rest x}, CalmFn skip → SkipHypT skip → LInv w → F x →
    w.src = src → w.posMax = Mtop → w.pos = x.pos → x.pos < x.posMax →
    w.window = .ok ('`' :: rest) → B w.src w.backticks → K.W w →
    silentBumped (runRule cfg skip tok fuel id) w = .ok (o1, w1) → B w1.src w1.backticks ∧ K.W w1
  /-- **the code-span rule at a backtick**: witness verdict against real verdict -/
  backL2 : ∀ {skip tok skip' tok' fuel fuel' w x o0 wb o x'}, RuleId.backticks ∈ cfg.chain → F x →
    LInv w → w.src = src → w.posMax = Mtop → w.pos = x.pos → WinHyp w x.posMax → x.pos < x.posMax →
    B w.src w.backticks → K.W w →
    runRule cfg skip tok fuel .backticks { w with level := w.level + 1 } true = .ok (o0, wb) →
    runRule cfg skip' tok' fuel' .backticks x false = .ok (o, x') →
    (o0 = none → o = none) ∧ (∀ n, o0 = some n → w.pos + n ≤ x.posMax → o = some n) ∧ K.R x x'
  /-- **`parse_link`** at a state of the frame replays the witness's call -/
  pl : ∀ {offset en}, (offset = 0 ∧ en = false ∧ RuleId.link ∈ cfg.chain) ∨
    (offset = 1 ∧ en = true ∧ RuleId.image ∈ cfg.chain) → PLPart cfg src Mtop F offset en

/-- what the loop inside a nested frame needs in addition -/
structure NestKit.Loop {cfg : Cfg} {B : List Char → CodePair.Cache → Prop} {src : List Char} {Mtop : Nat}
    (K : NestKit cfg B src Mtop) : Prop where
  frame : K.Frame K.N
  /-- the witness of the memo entry at the position of a nested state, unpacked to its chain -/
  wit : ∀ {s v ch rest}, K.N s → s.cache.lookup s.pos = some v → v < Mtop →
    slice src s.pos Mtop = .ok (ch :: rest) →
    ∃ (skip0 tok0 : IState → Except Panic IState) (f0 : Nat) (st0 : IState) (o0 : Option Nat)
      (w' : IState),
      CalmFn skip0 ∧ SkipHypT skip0 ∧ SkipGrowHyp skip0 ∧
      LInv st0 ∧ st0.src = src ∧ st0.posMax = Mtop ∧ st0.pos = s.pos ∧ B st0.src st0.backticks ∧
      K.W st0 ∧
      firstRule (fun id s => silentBumped (runRule cfg skip0 tok0 f0 id) s) cfg.chain st0
        = .ok (o0, w') ∧
      LookupMono w'.cache s.cache ∧ (o0 = none → v = s.pos + ch.utf8Size) ∧
      (∀ n, o0 = some n → v = s.pos + n)
  /-- behind one iteration of the loop: the new position is the end of the memo entry, or the end of a
      run of an emphasis marker -/
  next : ∀ {s s' v}, K.N s → s.cache.lookup s.pos = some v → v < Mtop → K.R s s' →
    s'.src = s.src → s'.posMax = s.posMax → (∃ lo, Good lo s') →
    Outer src Mtop s.cache s.posMax s'.pos 1 →
    (s'.pos = v ∨ ∃ ch n, MarkerRun cfg src ch s.pos s.posMax n ∧ s'.pos = s.pos + n) → K.N s'

namespace NestKit
variable {cfg : Cfg} {B : List Char → CodePair.Cache → Prop} {src : List Char} {Mtop : Nat}
  (K : NestKit cfg B src Mtop) (F : IState → Prop)

/-- a witness state `w` and a real state `x` of a frame with invariant `F`, at the same position -/
structure Pair (m : List (Nat × Nat)) (k le : Nat) (ch : Char) (w x : IState) : Prop where
  wi : LInv w
  wsrc : w.src = src
  wmax : w.posMax = Mtop
  wpos : w.pos = k
  wB : ch = '`' → B w.src w.backticks
  wW : ch = '`' → K.W w
  n : F x
  xpos : x.pos = k
  xmax : x.posMax = le
  xcache : x.cache = m

/-- one real rule call against its witness call (`Inline.RulePost` with `R` for "memo and `B` kept") -/
def Post (ch : Char) (v k le : Nat) (o1 : Option Nat) (x : IState) (o : Option Nat) (x' : IState) : Prop :=
  x'.src = x.src ∧ x'.posMax = x.posMax ∧ K.R x x' ∧
  ((o = none ∧ o1 = none ∧ x'.pos = x.pos ∧ ∃ lo, Good lo x') ∨
   (∃ len, o = some len ∧ (∃ n, o1 = some n) ∧ x'.pos + len = v) ∨
   (∃ n, o = some n ∧ x'.pos = x.pos ∧ MarkerRun cfg src ch k le n))

/-- the callees of one real step: the guarded pair and the model pair -/
structure Callees (f : Nat) (skipG skipM tokG tokM : IState → Except Panic IState) : Prop where
  calm : CalmFn skipG
  skT : SkipHypT skipG
  tokT : TokHypT tokG
  rng : RangesFn tokG
  hits : f = 0 ∨ (FollowsHits skipG ∧ FollowsHits skipM)
  tokEq : ∀ s, K.N s → tokG s = tokM s ∧ ∀ s', tokG s = .ok s' → K.R s s'

variable {K F}
variable {f : Nat} {skipG skipM tokG tokM : IState → Except Panic IState}
  {skip0 tok0 : IState → Except Panic IState} {f0 : Nat}
  {m : List (Nat × Nat)} {k le v : Nat} {ch : Char} {rest : List Char} {w x : IState}

theorem Pair.xlt (S : StepCtx src Mtop m k le v ch rest) (P : K.Pair F m k le ch w x) :
    x.pos < x.posMax := by rw [P.xpos, P.xmax]; exact S.klt

section pair
variable (hF : K.Frame F) (S : StepCtx src Mtop m k le v ch rest) (P : K.Pair F m k le ch w x)
include hF S P

theorem Pair.wlt : w.pos < w.posMax := by
  rw [P.wpos, P.wmax]
  have := S.klt
  rcases hF.win P.n with h | ⟨h, _⟩ <;> rw [P.xmax] at h <;> omega

theorem Pair.winHyp : WinHyp w le := by
  refine ⟨P.wi.bpos, P.wi.bmax, by rw [P.wpos]; exact S.klt, ?_, ?_⟩
  · rw [P.wmax]; rcases hF.win P.n with h | ⟨h, _⟩ <;> rw [P.xmax] at h <;> omega
  · rcases hF.win P.n with h | ⟨_, r, hr⟩
    · exact .inl (by rw [P.wmax, ← P.xmax, h])
    · exact .inr ⟨r, by rw [P.wsrc, P.wmax, ← P.xmax]; exact hr⟩

/-- the two windows: the same first character, the small one is a cut of the big one -/
theorem Pair.windows : ∃ rest', x.window = .ok (ch :: rest') ∧ w.window = .ok (ch :: rest) ∧
    Cut (ch :: rest') (ch :: rest) := by
  have hW := P.winHyp hF S
  obtain ⟨w', wb, h1, h2, hne, _, hcut⟩ := window_split hW
  have hwb : w.window = .ok (ch :: rest) := by
    unfold IState.window; rw [P.wsrc, P.wpos, P.wmax, S.sl]; rfl
  rw [hwb] at h2
  simp only [Except.ok.injEq] at h2
  subst h2
  have hx : x.window = .ok w' := by
    rw [← h1, shrink_window]
    unfold IState.window
    rw [hF.hsrc P.n, P.xpos, P.xmax, P.wsrc, P.wpos]
  cases w' with
  | nil => exact absurd rfl hne
  | cons c t =>
    have hc : c = ch := by
      rcases hcut with e | ⟨r, e⟩
      · simp only [List.cons.injEq] at e; exact e.1.symm
      · simp only [List.cons_append, List.cons.injEq] at e; exact e.1.symm
    subst hc
    exact ⟨t, hx, hwb, hcut⟩

end pair

/-- a real call that returned the state it was given, against a declining witness call -/
theorem Pair.declined (hF : K.Frame F) (P : K.Pair F m k le ch w x) {o1 : Option Nat} (h : o1 = none) :
    K.Post ch v k le o1 x none x :=
  ⟨rfl, rfl, hF.refl P.n, .inl ⟨rfl, h, rfl, hF.good P.n⟩⟩

/-- `Good` behind a declining real rule call -/
theorem good_after_none (hF : K.Frame F) (C : K.Callees f skipG skipM tokG tokM) {id : RuleId}
    (hid : id ∈ cfg.chain) {x x' : IState} (hx : F x) (hlt : x.pos < x.posMax)
    (h : runRule cfg skipG tokG f id x false = .ok (none, x')) : ∃ lo, Good lo x' := by
  obtain ⟨lo, hg⟩ := hF.good hx
  have s1 := (runRule_real_T (coherent_hsz K.coh) C.calm C.skT C.tokT C.rng f hid x hg (hF.memo hx)
    hlt).ok _ _ h
  exact ⟨lo, Good.of_add_zero (by simpa using s1.good)⟩

/-! ## one rule -/

/-- a real rule call that keeps position and frame and whose verdict is the verdict of the witness call -/
theorem Pair.post_same (hF : K.Frame F) (C : K.Callees f skipG skipM tokG tokM)
    (S : StepCtx src Mtop m k le v ch rest) (P : K.Pair F m k le ch w x)
    {id : RuleId} (hid : id ∈ cfg.chain) {o1 o : Option Nat} {x' : IState}
    (hreal : runRule cfg skipG tokG f id x false = .ok (o, x'))
    (l1 : o1 = none → o = none) (l2 : ∀ n, o1 = some n → w.pos + n ≤ x.posMax → o = some n)
    (hsome : ∀ n, o1 = some n → v = k + n)
    (kp : x'.pos = x.pos) (ks : x'.src = x.src) (km : x'.posMax = x.posMax) (hR : K.R x x') :
    K.Post ch v k le o1 x o x' := by
  refine ⟨ks, km, hR, ?_⟩
  cases o1 with
  | none =>
    have := l1 rfl; subst this
    exact .inl ⟨rfl, rfl, kp, good_after_none hF C hid P.n (P.xlt S) hreal⟩
  | some n =>
    have hv := hsome n rfl
    have := l2 n rfl (by rw [P.wpos, P.xmax]; have := S.vle; omega)
    subst this
    exact .inr (.inl ⟨n, rfl, ⟨n, rfl⟩, by rw [kp, P.xpos]; omega⟩)

/-- the flat rules without cache: `FlatL2` -/
theorem rule_flat (hF : K.Frame F) (C : K.Callees f skipG skipM tokG tokM)
    (S : StepCtx src Mtop m k le v ch rest) (P : K.Pair F m k le ch w x) {id : RuleId}
    (hid : id ∈ cfg.chain)
    (hfl : id = .text ∨ id = .newline ∨ id = .escape ∨ id = .autolink ∨ id = .entity ∨ id = .linkEnd)
    {o1 : Option Nat} {w1 : IState}
    (hwit : silentBumped (runRule cfg skip0 tok0 f0 id) w = .ok (o1, w1))
    (hsome : ∀ n, o1 = some n → v = k + n) :
    runRule cfg skipG tokG f id x false = runRule cfg skipM tokM f id x false ∧
    ∀ o x', runRule cfg skipG tokG f id x false = .ok (o, x') → K.Post ch v k le o1 x o x' := by
  constructor
  · rcases hfl with rfl | rfl | rfl | rfl | rfl | rfl <;> rfl
  · intro o x' hreal
    obtain ⟨wb, hwb, _⟩ := silentBumped_ok hwit
    have hflat : id.isFlat = true := by rcases hfl with rfl | rfl | rfl | rfl | rfl | rfl <;> rfl
    have hnb : id ≠ .backticks := by rcases hfl with rfl | rfl | rfl | rfl | rfl | rfl <;> simp
    obtain ⟨l1, l2⟩ := K.flat skip0 tok0 skipG tokG f0 f id hfl { w with level := w.level + 1 } x
      (by rw [P.xmax]; exact (P.winHyp hF S).bump) P.wi.stop ((hF.hsrc P.n).trans P.wsrc.symm)
      (P.xpos.trans P.wpos.symm) o1 wb o x' hwb hreal
    obtain ⟨kp, kc, ks, km, _, kb⟩ := K.keep skipG tokG f id hflat x o x' hreal
    exact P.post_same hF C S hid hreal l1 l2 hsome kp ks km
      (K.R_congr (hF.refl P.n) rfl rfl rfl kc ks (kb hnb))

/-- the emphasis rules: `EmphL2` -/
theorem rule_emph (hF : K.Frame F) (S : StepCtx src Mtop m k le v ch rest) (P : K.Pair F m k le ch w x)
    {mk : Char} {csw : Bool} (hid : RuleId.emph mk csw ∈ cfg.chain) {o1 : Option Nat} {w1 : IState}
    (hwit : silentBumped (runRule cfg skip0 tok0 f0 (.emph mk csw)) w = .ok (o1, w1)) :
    runRule cfg skipG tokG f (.emph mk csw) x false = runRule cfg skipM tokM f (.emph mk csw) x false ∧
    ∀ o x', runRule cfg skipG tokG f (.emph mk csw) x false = .ok (o, x') →
      K.Post ch v k le o1 x o x' := by
  refine ⟨rfl, ?_⟩
  intro o x' hreal
  obtain ⟨wb, hwb, _⟩ := silentBumped_ok hwit
  obtain ⟨rest', hwx, hww, _⟩ := P.windows hF S
  have ho1 : o1 = none := by
    have h'' : liftR (ruleEmph cfg mk csw { w with level := w.level + 1 } true) = .ok (o1, wb) := hwb
    have h' := liftR_ok.mp h''
    rw [ruleEmph_silent] at h'
    simp only [Except.ok.injEq, Prod.mk.injEq] at h'
    exact h'.1.symm
  have hreal' : liftR (ruleEmph cfg mk csw x false) = .ok (o, x') := hreal
  obtain ⟨e1, e2⟩ := K.emph mk csw (coherent_hsz K.coh mk csw hid) x o x' (liftR_ok.mp hreal')
  by_cases hc : ch = mk
  · subst hc
    obtain ⟨n, hn, h1, h2, h3⟩ := e2 rest' hwx
    obtain ⟨kp, kc, ks, km, _, kb⟩ := K.keep skipG tokG f (.emph ch csw) rfl x o x' hreal
    refine ⟨ks, km, K.R_congr (hF.refl P.n) rfl rfl rfl kc ks (kb (by simp)),
      .inr (.inr ⟨n, hn, kp, ⟨csw, hid⟩, h1, ?_, ?_⟩)⟩
    · rw [P.xpos, P.xmax] at h2; exact h2
    · intro i hi
      have := h3 i hi
      rw [hF.hsrc P.n, P.xpos, P.xmax] at this
      exact this
  · obtain ⟨rfl, rfl⟩ := e1 ch rest' hwx hc
    exact P.declined hF ho1

/-- the code-span rule: `Frame.backL2` at a backtick, a plain decline elsewhere -/
theorem rule_back (hF : K.Frame F) (C : K.Callees f skipG skipM tokG tokM)
    (S : StepCtx src Mtop m k le v ch rest) (P : K.Pair F m k le ch w x)
    (hid : RuleId.backticks ∈ cfg.chain) {o1 : Option Nat} {w1 : IState}
    (hwit : silentBumped (runRule cfg skip0 tok0 f0 .backticks) w = .ok (o1, w1))
    (hsome : ∀ n, o1 = some n → v = k + n) :
    runRule cfg skipG tokG f .backticks x false = runRule cfg skipM tokM f .backticks x false ∧
    ∀ o x', runRule cfg skipG tokG f .backticks x false = .ok (o, x') →
      K.Post ch v k le o1 x o x' := by
  refine ⟨rfl, ?_⟩
  intro o x' hreal
  obtain ⟨wb, hwb, _⟩ := silentBumped_ok hwit
  obtain ⟨rest', hwx, hww, _⟩ := P.windows hF S
  by_cases hch : ch = '`'
  · obtain ⟨l1, l2, hR⟩ := hF.backL2 hid P.n P.wi P.wsrc P.wmax (P.wpos.trans P.xpos.symm)
      (by rw [P.xmax]; exact P.winHyp hF S) (P.xlt S) (P.wB hch) (P.wW hch) hwb hreal
    obtain ⟨kp, _, ks, km, _, _⟩ := K.keep skipG tokG f .backticks rfl x o x' hreal
    exact P.post_same hF C S hid hreal l1 l2 hsome kp ks km hR
  · rw [backticks_other hwx hch false] at hreal
    simp only [Except.ok.injEq, Prod.mk.injEq] at hreal
    obtain ⟨rfl, rfl⟩ := hreal
    have hwB : ({ w with level := w.level + 1 } : IState).window = .ok (ch :: rest) := hww
    rw [backticks_other hwB hch true] at hwb
    simp only [Except.ok.injEq, Prod.mk.injEq] at hwb
    exact P.declined hF hwb.1.symm

/-! ## one rule: link and image -/

/-- **the `parse_link` call of the real link / image rule at `x`**: over the guarded and over the model
    `skip_token` it is the same call, it returns `x` and the witness's result, and a label it finds is
    a frame whose start state satisfies `N` -/
theorem link_call (hF : K.Frame F) (C : K.Callees f skipG skipM tokG tokM)
    (S : StepCtx src Mtop m k le v ch rest)
    (P : K.Pair F m k le ch w x) (mk' : List Nat → Option (List Char) → Val) (en : Bool) (offset : Nat)
    (hpl : PLPart cfg src Mtop F offset en)
    (hshape : (offset = 0 ∧ en = false ∧ ∃ r, slice src k Mtop = .ok ('[' :: r)) ∨
      (offset = 1 ∧ en = true ∧ ∃ r, slice src k Mtop = .ok ('!' :: '[' :: r)))
    (hq0 : CalmFn skip0) (hs0 : SkipHypT skip0) (hg0 : SkipGrowHyp skip0)
    (hbx : Boundary x.src (x.pos + offset + 1)) (hlex : x.pos + offset + 1 ≤ x.posMax)
    (hbw : Boundary w.src (w.pos + offset + 1)) (hlew : w.pos + offset + 1 ≤ w.posMax)
    {o1 : Option Nat} {wb : IState}
    (hwit : linkRule cfg skip0 tok0 f0 mk' en offset { w with level := w.level + 1 } true
      = .ok (o1, wb))
    (hmono : LookupMono wb.cache m)
    (hnone : o1 = none → v = k + 1) (hsome : ∀ n, o1 = some n → v = k + n) :
    parseLink cfg skipG f x (x.pos + offset) en = parseLink cfg skipM f x (x.pos + offset) en ∧
    ∃ r0 : Option LinkRes, (r0 = none → o1 = none) ∧
      (∀ r st1, parseLink cfg skipG f x (x.pos + offset) en = .ok (r, st1) → st1 = x ∧ r = r0) ∧
      ∀ res, parseLink cfg skipG f x (x.pos + offset) en = .ok (some res, x) →
        K.N (nestedState x res) ∧ res.endPos = v ∧ ∃ n, o1 = some n := by
  obtain ⟨r0, hpl0, hr0n, hr0s⟩ := linkRule_silent_inv hwit
  have hiB := P.wi.bump
  have hwbpos : wb.pos = w.pos := parseLink_pos (st := { w with level := w.level + 1 }) hpl0
  have hR := hpl skip0 f0 { w with level := w.level + 1 } wb r0 x v hq0 hs0 hg0 hiB
    P.wsrc P.wmax (P.wpos.trans P.xpos.symm) hpl0 (by rw [P.xcache]; exact hmono) P.n (P.xlt S)
    (by rw [P.xcache, P.xpos]; exact S.lk) (by rw [P.xmax]; exact S.vle)
    (by rw [P.xpos]; exact hshape) hbx hlex
    (by intro h; rw [P.xpos]; exact hnone (hr0n h))
    (by
      intro res h
      obtain ⟨a, b⟩ := hr0s res h
      have := hsome _ b
      rw [hwbpos, P.wpos] at a this
      omega) f
  obtain ⟨R, hG, hM, hRr⟩ := pl_R C.hits hR
  refine ⟨hG.trans hM.symm, r0, hr0n, ?_, ?_⟩
  · intro r st1 hp
    rw [hG] at hp
    cases R with
    | error e => cases hp
    | ok r' =>
      simp only [Except.ok.injEq, Prod.mk.injEq] at hp
      exact ⟨hp.2.symm, hp.1 ▸ hRr r' rfl⟩
  · intro res hpG
    have hr0 : r0 = some res := by
      rw [hG] at hpG
      cases R with
      | error e => cases hpG
      | ok r' =>
        simp only [Except.ok.injEq, Prod.mk.injEq] at hpG
        rw [← hRr r' rfl, hpG.1]
    subst hr0
    obtain ⟨hpe, ho1⟩ := hr0s res rfl
    have hls : res.labelStart = w.pos + offset + 1 := parseLink_labelStart hpl0
    obtain ⟨lo, hg⟩ := hF.good P.n
    obtain ⟨lo2, hg2, _⟩ := nested_good C.calm C.skT hg (hF.memo P.n) hbx hlex hpG
    have hy : NF cfg B src Mtop (nestedState x res) :=
      NF.enter hq0 hs0 hg0 hiB P.wsrc P.wmax hbw hlew hpl0
        (show NCtx cfg B src Mtop x.cache from hF.ctx P.n)
        (show LookupMono wb.cache x.cache by rw [P.xcache]; exact hmono)
        (show x.src = src from hF.hsrc P.n) (show B x.src x.backticks from hF.back P.n)
        ⟨lo2, hg2⟩ rfl rfl
    refine ⟨?_, by have := hsome _ ho1; have h1 := hwbpos; have h2 := P.wpos; omega, _, ho1⟩
    rcases hshape with ⟨rfl, _, r, hr⟩ | ⟨rfl, _, r, hr⟩
    · exact hF.enter P.n hy rfl rfl rfl hr (by rw [← P.wpos]; exact hls)
    · have := slice_drop_prefix (u := ['!']) (v := '[' :: r) hr
      have e1 : ('!' : Char).utf8Size = 1 := by decide
      simp only [byteLen, e1, Nat.add_zero] at this
      exact hF.enter P.n hy rfl rfl rfl this (by rw [← P.wpos]; exact hls)

/-- `link_call`, read for the model callees: a label the real link / image rule finds at `x` was found by
    look-ahead that changed nothing, the construct ends at `v`, and the frame satisfies `N` -/
theorem link_enter (hF : K.Frame F) (C : K.Callees f skipG skipM tokG tokM)
    (S : StepCtx src Mtop m k le v ch rest)
    (P : K.Pair F m k le ch w x) (mk' : List Nat → Option (List Char) → Val) (en : Bool) (offset : Nat)
    (hpl : PLPart cfg src Mtop F offset en)
    (hshape : (offset = 0 ∧ en = false ∧ ∃ r, slice src k Mtop = .ok ('[' :: r)) ∨
      (offset = 1 ∧ en = true ∧ ∃ r, slice src k Mtop = .ok ('!' :: '[' :: r)))
    (hq0 : CalmFn skip0) (hs0 : SkipHypT skip0) (hg0 : SkipGrowHyp skip0)
    (hbx : Boundary x.src (x.pos + offset + 1)) (hlex : x.pos + offset + 1 ≤ x.posMax)
    (hbw : Boundary w.src (w.pos + offset + 1)) (hlew : w.pos + offset + 1 ≤ w.posMax)
    {o1 : Option Nat} {wb : IState}
    (hwit : linkRule cfg skip0 tok0 f0 mk' en offset { w with level := w.level + 1 } true
      = .ok (o1, wb))
    (hmono : LookupMono wb.cache m)
    (hnone : o1 = none → v = k + 1) (hsome : ∀ n, o1 = some n → v = k + n)
    {res : LinkRes} {st1 : IState}
    (hp : parseLink cfg skipM f x (x.pos + offset) en = .ok (some res, st1)) :
    st1 = x ∧ res.endPos = v ∧ K.N (nestedState x res) := by
  obtain ⟨heq, r0, _, key, hN⟩ := link_call hF C S P mk' en offset hpl hshape hq0 hs0 hg0 hbx hlex hbw
    hlew hwit hmono hnone hsome
  rw [← heq] at hp
  obtain ⟨rfl, _⟩ := key _ _ hp
  exact ⟨rfl, (hN res hp).2.1, (hN res hp).1⟩

/-- **the link rule body** -/
theorem linkRule_L2 (hF : K.Frame F) (C : K.Callees f skipG skipM tokG tokM)
    (S : StepCtx src Mtop m k le v ch rest)
    (P : K.Pair F m k le ch w x) (mk mk' : List Nat → Option (List Char) → Val) (en : Bool)
    (offset : Nat) (hpl : PLPart cfg src Mtop F offset en)
    (hshape : (offset = 0 ∧ en = false ∧ ∃ r, slice src k Mtop = .ok ('[' :: r)) ∨
      (offset = 1 ∧ en = true ∧ ∃ r, slice src k Mtop = .ok ('!' :: '[' :: r)))
    (hq0 : CalmFn skip0) (hs0 : SkipHypT skip0) (hg0 : SkipGrowHyp skip0)
    (hbx : Boundary x.src (x.pos + offset + 1)) (hlex : x.pos + offset + 1 ≤ x.posMax)
    (hbw : Boundary w.src (w.pos + offset + 1)) (hlew : w.pos + offset + 1 ≤ w.posMax)
    {o1 : Option Nat} {wb : IState}
    (hwit : linkRule cfg skip0 tok0 f0 mk' en offset { w with level := w.level + 1 } true
      = .ok (o1, wb))
    (hmono : LookupMono wb.cache m)
    (hnone : o1 = none → v = k + 1) (hsome : ∀ n, o1 = some n → v = k + n) :
    linkRule cfg skipG tokG f mk en offset x false = linkRule cfg skipM tokM f mk en offset x false ∧
    ∀ o x', linkRule cfg skipG tokG f mk en offset x false = .ok (o, x') →
      K.Post ch v k le o1 x o x' := by
  obtain ⟨heq, r0, hr0n, key, hN⟩ := link_call hF C S P mk' en offset hpl hshape hq0 hs0 hg0 hbx hlex hbw
    hlew hwit hmono hnone hsome
  refine ⟨linkRule_real_congr heq (fun res st1 hp => ?_), ?_⟩
  · obtain ⟨rfl, _⟩ := key _ _ hp
    exact (C.tokEq _ (hN res hp).1).1
  intro o x' h
  rcases linkRule_real_ok h with ⟨hp, rfl⟩ | ⟨res, st1, st3, hp, ht3, rfl, hle3, e0, e1, e2, e3, e4⟩
  · obtain ⟨rfl, hr⟩ := key _ _ hp
    exact P.declined hF (hr0n hr.symm)
  · obtain ⟨rfl, _⟩ := key _ _ hp
    obtain ⟨hn, hv, ho1⟩ := hN res hp
    obtain ⟨lo2, hg2⟩ := (K.toNF hn).good
    obtain ⟨f3, _, _⟩ := (C.tokT lo2 _ hg2 (K.toNF hn).memoB).ok st3 ht3
    exact ⟨e1.trans f3.src, e2, K.R_congr ((C.tokEq _ hn).2 st3 ht3) rfl rfl rfl e3 e1 e4,
      .inr (.inl ⟨_, rfl, ho1, by rw [e0, ← hv]; omega⟩)⟩

theorem rule_link (hF : K.Frame F) (C : K.Callees f skipG skipM tokG tokM)
    (S : StepCtx src Mtop m k le v ch rest)
    (P : K.Pair F m k le ch w x) (hq0 : CalmFn skip0) (hs0 : SkipHypT skip0) (hg0 : SkipGrowHyp skip0)
    (hid : RuleId.link ∈ cfg.chain) {o1 : Option Nat} {w1 : IState}
    (hwit : silentBumped (runRule cfg skip0 tok0 f0 .link) w = .ok (o1, w1))
    (hmono : LookupMono w1.cache m)
    (hnone : ch = '[' → o1 = none → v = k + 1) (hsome : ∀ n, o1 = some n → v = k + n) :
    runRule cfg skipG tokG f .link x false = runRule cfg skipM tokM f .link x false ∧
    ∀ o x', runRule cfg skipG tokG f .link x false = .ok (o, x') → K.Post ch v k le o1 x o x' := by
  obtain ⟨wb, hwb, rfl⟩ := silentBumped_ok hwit
  obtain ⟨rest', hwx, hww, _⟩ := P.windows hF S
  have hwB : ({ w with level := w.level + 1 } : IState).window = .ok (ch :: rest) := hww
  by_cases hc : ch = '['
  · subst hc
    rw [link_at hwx, link_at hwx]
    rw [link_at hwB] at hwb
    obtain ⟨hbx, hlex⟩ := after_first (st := x) (by decide) (window_eq hwx)
    obtain ⟨hbw, hlew⟩ := after_first (st := w) (by decide) (window_eq hww)
    exact linkRule_L2 hF C S P Val.link Val.link false 0 (hF.pl (.inl ⟨rfl, rfl, hid⟩))
      (.inl ⟨rfl, rfl, rest, S.sl⟩) hq0 hs0 hg0 hbx hlex hbw hlew hwb hmono (hnone rfl) hsome
  · rw [link_other hwx hc false, link_other hwx hc false]
    rw [link_other hwB hc true] at hwb
    simp only [Except.ok.injEq, Prod.mk.injEq] at hwb
    refine ⟨rfl, ?_⟩
    intro o x' h
    simp only [Except.ok.injEq, Prod.mk.injEq] at h
    obtain ⟨rfl, rfl⟩ := h
    exact P.declined hF hwb.1.symm

theorem rule_image (hF : K.Frame F) (C : K.Callees f skipG skipM tokG tokM)
    (S : StepCtx src Mtop m k le v ch rest)
    (P : K.Pair F m k le ch w x) (hq0 : CalmFn skip0) (hs0 : SkipHypT skip0) (hg0 : SkipGrowHyp skip0)
    (hid : RuleId.image ∈ cfg.chain) {o1 : Option Nat} {w1 : IState}
    (hwit : silentBumped (runRule cfg skip0 tok0 f0 .image) w = .ok (o1, w1))
    (hmono : LookupMono w1.cache m)
    (hnone : ch = '!' → o1 = none → v = k + 1) (hsome : ∀ n, o1 = some n → v = k + n) :
    runRule cfg skipG tokG f .image x false = runRule cfg skipM tokM f .image x false ∧
    ∀ o x', runRule cfg skipG tokG f .image x false = .ok (o, x') → K.Post ch v k le o1 x o x' := by
  obtain ⟨wb, hwb, rfl⟩ := silentBumped_ok hwit
  obtain ⟨rest', hwx, hww, hcut⟩ := P.windows hF S
  by_cases hc : ∃ t, ch :: rest' = '!' :: '[' :: t
  · obtain ⟨t2, ht2⟩ := (cut_bang_bracket hcut).mp hc
    obtain ⟨t, ht⟩ := hc
    cases ht
    cases ht2
    have hwB : ({ w with level := w.level + 1 } : IState).window = .ok ('!' :: '[' :: t2) := hww
    rw [image_at hwx, image_at hwx]
    rw [image_at hwB] at hwb
    obtain ⟨hbx, hlex⟩ := after_second (st := x) (by decide) (by decide) (window_eq hwx)
    obtain ⟨hbw, hlew⟩ := after_second (st := w) (by decide) (by decide) (window_eq hww)
    exact linkRule_L2 hF C S P Val.image Val.image true 1 (hF.pl (.inr ⟨rfl, rfl, hid⟩))
      (.inr ⟨rfl, rfl, t2, S.sl⟩) hq0 hs0 hg0 hbx hlex hbw hlew hwb hmono (hnone rfl) hsome
  · have hnx : ∀ t, ch :: rest' ≠ '!' :: '[' :: t := fun t e => hc ⟨t, e⟩
    have hnw : ∀ t, ch :: rest ≠ '!' :: '[' :: t :=
      fun t e => hc ((cut_bang_bracket hcut).mpr ⟨t, e⟩)
    have hwB : ({ w with level := w.level + 1 } : IState).window = .ok (ch :: rest) := hww
    rw [image_other hwx hnx false, image_other hwx hnx false]
    rw [image_other hwB hnw true] at hwb
    simp only [Except.ok.injEq, Prod.mk.injEq] at hwb
    refine ⟨rfl, ?_⟩
    intro o x' h
    simp only [Except.ok.injEq, Prod.mk.injEq] at h
    obtain ⟨rfl, rfl⟩ := h
    exact P.declined hF hwb.1.symm

/-- **one rule of the chain**: the witness call against the real call at the state `x` -/
theorem rule_L2 (hF : K.Frame F) (C : K.Callees f skipG skipM tokG tokM)
    (S : StepCtx src Mtop m k le v ch rest)
    (P : K.Pair F m k le ch w x) (hq0 : CalmFn skip0) (hs0 : SkipHypT skip0) (hg0 : SkipGrowHyp skip0)
    {id : RuleId} (hid : id ∈ cfg.chain) {o1 : Option Nat} {w1 : IState}
    (hwit : silentBumped (runRule cfg skip0 tok0 f0 id) w = .ok (o1, w1))
    (hmono : LookupMono w1.cache m)
    (hnone : (id = .link ∧ ch = '[') ∨ (id = .image ∧ ch = '!') → o1 = none → v = k + 1)
    (hsome : ∀ n, o1 = some n → v = k + n) :
    runRule cfg skipG tokG f id x false = runRule cfg skipM tokM f id x false ∧
    ∀ o x', runRule cfg skipG tokG f id x false = .ok (o, x') → K.Post ch v k le o1 x o x' := by
  cases id with
  | text => exact rule_flat hF C S P hid (by simp) hwit hsome
  | newline => exact rule_flat hF C S P hid (by simp) hwit hsome
  | escape => exact rule_flat hF C S P hid (by simp) hwit hsome
  | backticks => exact rule_back hF C S P hid hwit hsome
  | emph mk csw => exact rule_emph hF S P hid hwit
  | link =>
    exact rule_link hF C S P hq0 hs0 hg0 hid hwit hmono (fun h1 h2 => hnone (.inl ⟨rfl, h1⟩) h2) hsome
  | image =>
    exact rule_image hF C S P hq0 hs0 hg0 hid hwit hmono (fun h1 h2 => hnone (.inr ⟨rfl, h1⟩) h2) hsome
  | linkEnd => exact rule_flat hF C S P hid (by simp) hwit hsome
  | autolink => exact rule_flat hF C S P hid (by simp) hwit hsome
  | entity => exact rule_flat hF C S P hid (by simp) hwit hsome

/-! ## the chain -/

theorem Post.of_same {o0 o : Option Nat} {x x1 x' : IState} (h : K.Post ch v k le o0 x1 o x')
    (hs : x1.src = x.src) (hm : x1.posMax = x.posMax) (hp : x1.pos = x.pos) (hr : K.R x x1) :
    K.Post ch v k le o0 x o x' := by
  obtain ⟨b, c, r, e⟩ := h
  refine ⟨b.trans hs, c.trans hm, K.R_trans hr r, ?_⟩
  rcases e with ⟨e1, e2, e3, e4⟩ | e | ⟨n, e1, e2, e3⟩
  · exact .inl ⟨e1, e2, e3.trans hp, e4⟩
  · exact .inr (.inl e)
  · exact .inr (.inr ⟨n, e1, e2.trans hp, e3⟩)

variable (K F) in
/-- the real chain is about to call the rule `id` at `x`: the witness call of that rule, at a witness
    state paired with `x` -/
def WitCall (skip0 tok0 : IState → Except Panic IState) (f0 : Nat) (m : List (Nat × Nat))
    (k le v : Nat) (ch : Char) (id : RuleId) (x : IState) : Prop :=
  ∃ (w : IState) (o1 : Option Nat) (w1 : IState), K.Pair F m k le ch w x ∧
    silentBumped (runRule cfg skip0 tok0 f0 id) w = .ok (o1, w1) ∧ LookupMono w1.cache m ∧
    ((id = .link ∧ ch = '[') ∨ (id = .image ∧ ch = '!') → o1 = none → v = k + 1) ∧
    (∀ n, o1 = some n → v = k + n)

/-- **the chain comparison**: the witness chain (look-ahead, from `w`, final verdict `o0`, whose memo
    the memo `m` of `x` extends) against the real chain at `x`, over a suffix of `cfg.chain`: the guarded
    side equals the model side; the real chain meets `Post`; and every rule the real chain ARRIVES at is
    called at a state that is still paired with a witness state -/
theorem chain_L2 (hF : K.Frame F) (C : K.Callees f skipG skipM tokG tokM)
    (S : StepCtx src Mtop m k le v ch rest)
    (hq0 : CalmFn skip0) (hs0 : SkipHypT skip0) (hg0 : SkipGrowHyp skip0) :
    ∀ (rules : List RuleId), (∀ id ∈ rules, id ∈ cfg.chain) → rules.count .link ≤ 1 →
      rules.count .image ≤ 1 →
      ∀ (w x : IState), K.Pair F m k le ch w x →
      ∀ o0 w', firstRule (fun id s => silentBumped (runRule cfg skip0 tok0 f0 id) s) rules w
          = .ok (o0, w') →
        LookupMono w'.cache m → (o0 = none → v = k + ch.utf8Size) → (∀ n, o0 = some n → v = k + n) →
        firstRule (fun id s => runRule cfg skipG tokG f id s false) rules x =
          firstRule (fun id s => runRule cfg skipM tokM f id s false) rules x ∧
        (∀ o x', firstRule (fun id s => runRule cfg skipG tokG f id s false) rules x = .ok (o, x') →
          K.Post ch v k le o0 x o x') ∧
        ∀ id x2, Arrives (fun id s => runRule cfg skipM tokM f id s false) rules x id x2 →
          K.WitCall F skip0 tok0 f0 m k le v ch id x2 := by
  intro rules
  induction rules with
  | nil =>
    intro _ _ _ w x P o0 w' hwit _ _ _
    simp only [firstRule, Except.ok.injEq, Prod.mk.injEq] at hwit
    unfold firstRule
    refine ⟨rfl, ?_, fun _ _ hA => nomatch hA⟩
    intro o x' h
    simp only [Except.ok.injEq, Prod.mk.injEq] at h
    obtain ⟨rfl, rfl⟩ := h
    exact P.declined hF hwit.1.symm
  | cons id rs ih =>
    intro hall hcl hci w x P o0 w' hwit hmono hnone0 hsome0
    have hid : id ∈ cfg.chain := hall id (by simp)
    have hwlt := P.wlt hF S
    obtain ⟨rest', hwx, hww, _⟩ := P.windows hF S
    unfold firstRule at hwit
    cases hr1 : silentBumped (runRule cfg skip0 tok0 f0 id) w with
    | error e => rw [hr1] at hwit; simp at hwit
    | ok p1 =>
      obtain ⟨o1, w1⟩ := p1
      rw [hr1] at hwit
      obtain ⟨hi1, hs1, hm1, hp1⟩ := wit_step hq0 hs0 f0 id P.wi hwlt hr1
      have hw1 : w1.window = .ok (ch :: rest) := by
        rw [← hww]; exact window_congr hs1 hp1 hm1
      have hmono1 : LookupMono w1.cache m := by
        cases o1 with
        | some n =>
          simp only [Except.ok.injEq, Prod.mk.injEq] at hwit
          rw [hwit.2]; exact hmono
        | none =>
          simp only at hwit
          exact (wit_chain_grow hq0 hs0 hg0 f0 rs hi1 (by rw [hp1, hm1]; exact hwlt) hwit).mono.trans
            hmono
      -- a declining link / image rule at `[` / `!`: the rest of the chain declines
      have hnone1 : (id = .link ∧ ch = '[') ∨ (id = .image ∧ ch = '!') → o1 = none → v = k + 1 := by
        intro hcase ho1
        subst ho1
        simp only at hwit
        have hfire : ∀ id' ∈ rs, id'.firesAt ch = false := by
          intro id' hid'
          rcases hcase with ⟨rfl, rfl⟩ | ⟨rfl, rfl⟩
          · exact firesAt_bracket id' (fun e => not_mem_tail_of_count hcl (e ▸ hid'))
          · exact firesAt_bang id' (fun e => not_mem_tail_of_count hci (e ▸ hid'))
        have ho0 := chain_declines_of hq0 hs0 f0 rs hfire w1 hi1 hw1 _ _ hwit
        have := hnone0 ho0
        rcases hcase with ⟨_, rfl⟩ | ⟨_, rfl⟩
        · exact this
        · exact this
      have hsome1 : ∀ n, o1 = some n → v = k + n := by
        intro n ho1
        subst ho1
        simp only [Except.ok.injEq, Prod.mk.injEq] at hwit
        exact hsome0 n hwit.1.symm
      obtain ⟨eq1, post1⟩ := rule_L2 hF C S P hq0 hs0 hg0 hid hr1 hmono1 hnone1 hsome1
      -- behind a declining real call: the witness call declined, and the states are paired again
      have next : ∀ x1, runRule cfg skipG tokG f id x false = .ok (none, x1) →
          o1 = none ∧ K.Pair F m k le ch w1 x1 ∧ x1.src = x.src ∧ x1.posMax = x.posMax ∧
            x1.pos = x.pos ∧ K.R x x1 := by
        intro x1 hG
        obtain ⟨b, c, r, e⟩ := post1 none x1 hG
        rcases e with ⟨_, e2, e3, e4⟩ | ⟨len, e1, _⟩ | ⟨n, e1, _⟩
        · refine ⟨e2, ⟨hi1, hs1.trans P.wsrc, hm1.trans P.wmax, hp1.trans P.wpos, ?_, ?_,
            hF.same P.n r b c e3 e4, e3.trans P.xpos, c.trans P.xmax,
            (K.R_cache r).trans P.xcache⟩, b, c, e3, r⟩
          · intro hc; subst hc
            exact (hF.witBack hq0 hs0 P.wi P.n P.wsrc P.wmax (P.wpos.trans P.xpos.symm)
              (P.xlt S) hww (P.wB rfl) (P.wW rfl) hr1).1
          · intro hc; subst hc
            exact (hF.witBack hq0 hs0 P.wi P.n P.wsrc P.wmax (P.wpos.trans P.xpos.symm)
              (P.xlt S) hww (P.wB rfl) (P.wW rfl) hr1).2
        · simp at e1
        · simp at e1
      have tail := ih (fun id hid => hall id (List.mem_cons_of_mem _ hid)) (count_tail_le hcl)
        (count_tail_le hci) w1
      refine ⟨?_, ?_, ?_⟩
      · unfold firstRule
        rw [← eq1]
        cases hG : runRule cfg skipG tokG f id x false with
        | error e => rfl
        | ok p =>
          obtain ⟨_ | n, x1⟩ := p
          · obtain ⟨rfl, P1, _⟩ := next x1 hG
            exact (tail x1 P1 o0 w' hwit hmono hnone0 hsome0).1
          · rfl
      · intro o x' h
        unfold firstRule at h
        cases hG : runRule cfg skipG tokG f id x false with
        | error e => rw [hG] at h; simp at h
        | ok p =>
          obtain ⟨_ | n, x1⟩ := p
          · rw [hG] at h
            obtain ⟨rfl, P1, b, c, e3, r⟩ := next x1 hG
            exact ((tail x1 P1 o0 w' hwit hmono hnone0 hsome0).2.1 o x' h).of_same b c e3 r
          · rw [hG] at h
            simp only [Except.ok.injEq, Prod.mk.injEq] at h
            obtain ⟨rfl, rfl⟩ := h
            obtain ⟨b, c, r, e⟩ := post1 _ _ hG
            refine ⟨b, c, r, ?_⟩
            rcases e with ⟨e1, _⟩ | ⟨len, e1, ⟨n', e2⟩, e3⟩ | e
            · simp at e1
            · subst e2
              simp only [Except.ok.injEq, Prod.mk.injEq] at hwit
              exact .inr (.inl ⟨len, e1, ⟨n', hwit.1.symm⟩, e3⟩)
            · exact .inr (.inr e)
      · intro id2 x2 hA
        cases hA with
        | here => exact ⟨w, o1, w1, P, hr1, hmono1, hnone1, hsome1⟩
        | next hrun hA' =>
          obtain ⟨rfl, P1, _⟩ := next _ (eq1.trans hrun)
          exact (tail _ P1 o0 w' hwit hmono hnone0 hsome0).2.2 id2 x2 hA'

/-! ## one iteration of the loop -/

/-- where one real step ends whose chain call meets `Post` against the witness chain of the memo entry
    `k ↦ v`: at `v`, or behind a run of the emphasis marker `ch` -/
theorem step_of_post {skip tok : IState → Except Panic IState} {s s' : IState}
    (hl : s.level < cfg.maxNesting) (h : tokStep cfg skip tok f s = .ok s')
    {rest' : List Char} (hw : s.window = .ok (ch :: rest')) (hk : s.pos = k) {o0 : Option Nat}
    (hn0 : o0 = none → v = k + ch.utf8Size)
    (post : ∀ o x', firstRule (fun id s => runRule cfg skip tok f id s false) cfg.chain s = .ok (o, x') →
      K.Post ch v k le o0 s o x') :
    K.R s s' ∧ (s'.pos = v ∨ ∃ n, MarkerRun cfg src ch k le n ∧ s'.pos = k + n) := by
  unfold tokStep at h
  simp only [if_pos hl] at h
  cases hG : firstRule (fun id s => runRule cfg skip tok f id s false) cfg.chain s with
  | error e => rw [hG] at h; simp at h
  | ok p =>
    obtain ⟨o, x'⟩ := p
    rw [hG] at h
    obtain ⟨b, c, r, e⟩ := post o x' hG
    rcases e with ⟨e1, e2, e3, _⟩ | ⟨len, e1, _, e3⟩ | ⟨n, e1, e2, e3⟩
    · subst e1
      simp only at h
      obtain ⟨c', hfc, hp', hc', hb', hs', _⟩ := fallback_keeps h
      have hwx' : x'.window = .ok (ch :: rest') := by
        rw [← hw]; exact window_congr b e3 c
      unfold firstChar at hfc
      rw [hwx'] at hfc
      simp only [liftR, Except.ok.injEq] at hfc
      subst hfc
      exact ⟨K.R_congr r rfl rfl rfl hc' hs' hb', .inl (by rw [hp', e3, hk, ← hn0 e2])⟩
    · subst e1
      simp only [Except.ok.injEq] at h
      subst h
      exact ⟨K.R_congr r rfl rfl rfl rfl rfl rfl, .inl e3⟩
    · subst e1
      simp only [Except.ok.injEq] at h
      subst h
      exact ⟨K.R_congr r rfl rfl rfl rfl rfl rfl, .inr ⟨n, e3, by show x'.pos + n = k + n; rw [e2, hk]⟩⟩

/-- **a state of a nested frame, inside the frame, against the memo — everything at once**: the memo entry
    `s.pos ↦ v` of the position with the context of the comparison (`StepCtx`, the callees of the witness);
    below the nesting limit the guarded step is the model's step, keeps `R`, the frame and `N`, and ends at
    `v` or behind a run of the marker `ch`; and every rule the real chain arrives at is called at a state
    paired with a witness state (`nested_step` and `nested_arrives` are its parts) -/
theorem nested_real (hL : K.Loop) (C : K.Callees f skipG skipM tokG tokM) {s : IState} (hn : K.N s)
    (hlt : s.pos < s.posMax) :
    ∃ v ch rest skip0 tok0 f0, StepCtx src Mtop s.cache s.pos s.posMax v ch rest ∧ s.pos < v ∧
      CalmFn skip0 ∧ SkipHypT skip0 ∧ SkipGrowHyp skip0 ∧
      (s.level < cfg.maxNesting →
        tokStep cfg skipG tokG f s = tokStep cfg skipM tokM f s ∧
        ∀ s', tokStep cfg skipG tokG f s = .ok s' → K.R s s' ∧ Inline.Frame s s' ∧ K.N s' ∧
          (s'.pos = v ∨ ∃ n, MarkerRun cfg src ch s.pos s.posMax n ∧ s'.pos = s.pos + n)) ∧
      ∀ id x, Arrives (fun id s => runRule cfg skipM tokM f id s false) cfg.chain s id x →
        K.WitCall K.N skip0 tok0 f0 s.cache s.pos s.posMax v ch id x := by
  have hnf := K.toNF hn
  have hf : ∀ k v, (k, v) ∈ s.cache → k < v := fun k v h => (hnf.ctx.memo k v h).1
  obtain ⟨ch, rest, v, hsl, hlk, hkv, hvle, hOv, _⟩ := outer_step hf hnf.outer hlt
  have htop := hnf.top_lt
  have S : StepCtx src Mtop s.cache s.pos s.posMax v ch rest := ⟨hsl, hlk, hvle, hlt⟩
  obtain ⟨skip0, tok0, f0, st0, o0, w', hq0, hs0, hg0, hi0, hsrc0, hmax0, hpos0, hB0, hW0, hfr, hmono,
    hn0, hs0'⟩ := hL.wit hn hlk (by omega) hsl
  have P : K.Pair K.N s.cache s.pos s.posMax ch st0 s :=
    ⟨hi0, hsrc0, hmax0, hpos0, fun _ => hB0, fun _ => hW0, hn, rfl, rfl, rfl⟩
  obtain ⟨eq1, post1, arr⟩ := chain_L2 hL.frame C S hq0 hs0 hg0 cfg.chain (fun _ h => h) K.one.1 K.one.2
    st0 s P o0 w' hfr hmono hn0 hs0'
  refine ⟨v, ch, rest, skip0, tok0, f0, S, hkv, hq0, hs0, hg0, fun hl => ?_, arr⟩
  obtain ⟨lo, hg⟩ := hnf.good
  have hT := tokStep_T (coherent_hsz K.coh) C.calm C.skT C.tokT C.rng f s hg hnf.memoB hlt
  refine ⟨by unfold tokStep; simp only [if_pos hl]; rw [eq1], fun s' h => ?_⟩
  obtain ⟨hg', _, fr', _⟩ := hT.2 s' h
  obtain ⟨rest', hwx, _, _⟩ := P.windows hL.frame S
  obtain ⟨hR, hend⟩ := step_of_post hl h hwx rfl hn0 post1
  refine ⟨hR, fr', hL.next hn hlk (by omega) hR fr'.src fr'.posMax ⟨lo, hg'⟩ ?_
    (hend.imp id fun ⟨n, a, b⟩ => ⟨ch, n, a, b⟩), hend⟩
  rcases hend with hv | ⟨n, e3, hp⟩
  · rw [hv]; exact hOv
  · rw [hp]
    exact outer_marker_run K.coh hnf.ctx htop e3.1 n hnf.outer e3.2.2.1 e3.2.2.2

/-- **one iteration of the tokenizer loop inside a nested frame** (below the nesting limit): the guarded
    step is the model's step, `R` holds, `N` is kept -/
theorem nested_step (hL : K.Loop) (C : K.Callees f skipG skipM tokG tokM) {s : IState} (hn : K.N s)
    (hl : s.level < cfg.maxNesting) (hlt : s.pos < s.posMax) :
    tokStep cfg skipG tokG f s = tokStep cfg skipM tokM f s ∧
    ∀ s', tokStep cfg skipG tokG f s = .ok s' → K.R s s' ∧ s'.posMax = s.posMax ∧ K.N s' := by
  obtain ⟨_, _, _, _, _, _, _, _, _, _, _, hstep, _⟩ := nested_real hL C hn hlt
  exact ⟨(hstep hl).1, fun s' h =>
    let t := (hstep hl).2 s' h
    ⟨t.1, t.2.1.posMax, t.2.2.1⟩⟩

/-- at a state of a nested frame, inside the frame: every rule the real chain arrives at is called at a
    state that is paired with a witness state of the memo entry of the position -/
theorem nested_arrives (hL : K.Loop) (C : K.Callees f skipG skipM tokG tokM) {s : IState} (hn : K.N s)
    (hlt : s.pos < s.posMax) :
    ∃ v ch rest skip0 tok0 f0, StepCtx src Mtop s.cache s.pos s.posMax v ch rest ∧ CalmFn skip0 ∧
      SkipHypT skip0 ∧ SkipGrowHyp skip0 ∧
      ∀ id x, Arrives (fun id s => runRule cfg skipM tokM f id s false) cfg.chain s id x →
        K.WitCall K.N skip0 tok0 f0 s.cache s.pos s.posMax v ch id x := by
  obtain ⟨v, ch, rest, skip0, tok0, f0, S, _, a, b, c, _, arr⟩ := nested_real hL C hn hlt
  exact ⟨v, ch, rest, skip0, tok0, f0, S, a, b, c, arr⟩

/-! ## the induction on fuel -/

/-- the guarded and the model callees at fuel `f`, given the nested statement at fuel `f` -/
theorem callees_of (f : Nat)
    (ih : ∀ s : IState, K.N s → tokLoopG cfg true f s.posMax s = tokLoop cfg f s.posMax s ∧
      ∀ s', tokLoopG cfg true f s.posMax s = .ok s' → K.R s s') :
    K.Callees f (fun s => skipTokenG cfg true f s) (fun s => skipToken cfg f s)
      (fun s => tokLoopG cfg true f s.posMax s) (fun s => tokLoop cfg f s.posMax s) := by
  refine ⟨skipTokenG_calm cfg true f, skipTokenG_T cfg f,
    tokHypT_G cfg (coherent_hsz K.coh) f,
    rangesFnG cfg true f, ?_, ih⟩
  cases f with
  | zero => exact .inl rfl
  | succ f' => exact .inr ⟨followsHits_guarded cfg true f', followsHits_model cfg f'⟩

/-- **inside a nested label frame the guarded tokenizer IS the model tokenizer**, at every fuel, and
    `R` holds between the start state and the state it returns -/
theorem nested_eq (hL : K.Loop) : ∀ (f : Nat) (s : IState), K.N s →
    tokLoopG cfg true f s.posMax s = tokLoop cfg f s.posMax s ∧
    ∀ s', tokLoopG cfg true f s.posMax s = .ok s' → K.R s s' :=
  nested_eq_of_step (R := K.R)
    (fun _ _ hn a b c => K.R_congr (hL.frame.refl hn) rfl rfl rfl a c b) K.R_trans
    (fun f ih _ hn hl hlt => nested_step hL (callees_of f ih) hn hl hlt)

end NestKit

end MdIt.Inline
