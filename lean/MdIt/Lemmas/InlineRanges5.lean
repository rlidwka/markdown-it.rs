/-
  Helper development for `Props/Inline.lean`: source ranges — emphasis-like pairs:
  `scan_and_match_delimiters` keeps the sibling list ordered, every wrapper it makes encloses the
  nodes it takes in, and no range arithmetic underflows.

  The loops are first taken apart for an arbitrary invariant (`matchInner_keeps`,
  `matchOuter_keeps`, `scanAndMatch_inv`, `ruleEmph_inv`); the ordering invariant here (through
  the `_keepsT` forms below) and the invariant of Lemmas/InlineCertEmph.lean go through these
  lemmas and differ only in how they fare under one match.
  `matchInner_keepsT` / `matchOuter_keepsT` are the same two walks with the errors included (from
  the invariant the loop returns, and the result satisfies the invariant); for the ordering
  invariant the one-round facts (`ishape_round`, `minv_enter`, `minv_put`, `minv_gone`) give both
  the `_ranges` lemmas here and the totality of the matcher (Lemmas/InlineEmphTotal.lean).
-/
import MdIt.Lemmas.InlineRanges

namespace MdIt.Inline
open MdIt.InlineOps (Srcmap getSourcePosFor getMap byteLen slice)
open MdIt.C05 (WFMap MonoMap byteLen_append slice_ok_iff)

/-- an ordered, well ranged sibling list inside `[lo, hi]` with sound markers -/
structure ListOK (lo hi : Nat) (l : List Node) : Prop where
  ord : OrderedN lo hi l
  deep : WellRangedList l
  markers : MarkersOK l

theorem MarkersOK.append {a b : List Node} (ha : MarkersOK a) (hb : MarkersOK b) : MarkersOK (a ++ b) := by
  intro n hn mk hmk
  rcases List.mem_append.mp hn with h | h
  · exact ha n h mk hmk
  · exact hb n h mk hmk

theorem MarkersOK.left {a b : List Node} (h : MarkersOK (a ++ b)) : MarkersOK a :=
  fun n hn => h n (List.mem_append_left _ hn)

theorem MarkersOK.right {a b : List Node} (h : MarkersOK (a ++ b)) : MarkersOK b :=
  fun n hn => h n (List.mem_append_right _ hn)

theorem markersOK_nil : MarkersOK [] := by intro n hn; simp at hn

theorem ListOK.append {lo mid hi : Nat} {a b : List Node} (ha : ListOK lo mid a) (hb : ListOK mid hi b) :
    ListOK lo hi (a ++ b) :=
  ⟨ha.ord.append hb.ord, ha.deep.append hb.deep, ha.markers.append hb.markers⟩

theorem ListOK.split {lo hi : Nat} {a b : List Node} (h : ListOK lo hi (a ++ b)) :
    ∃ mid, ListOK lo mid a ∧ ListOK mid hi b := by
  obtain ⟨mid, m1, m2⟩ := h.ord.split
  exact ⟨mid, ⟨m1, h.deep.left, h.markers.left⟩, ⟨m2, h.deep.right, h.markers.right⟩⟩

theorem ListOK.widen {lo hi lo' hi' : Nat} {l : List Node} (h : ListOK lo hi l) (h1 : lo' ≤ lo)
    (h2 : hi ≤ hi') : ListOK lo' hi' l :=
  ⟨h.ord.widen h1 h2, h.deep, h.markers⟩

theorem listOK_nil {lo hi : Nat} (h : lo ≤ hi) : ListOK lo hi [] := ⟨h, trivial, markersOK_nil⟩

/-- a list splits around the element at an index -/
theorem split_at_getElem? {α : Type} {l : List α} {i : Nat} {x : α} (h : l[i]? = some x) :
    l = l.take i ++ [x] ++ l.drop (i + 1) ∧ (l.take i).length = i := by
  have hi : i < l.length := by
    rcases Nat.lt_or_ge i l.length with h' | h'
    · exact h'
    · rw [List.getElem?_eq_none h'] at h; simp at h
  rw [List.getElem?_eq_getElem hi] at h
  simp only [Option.some.injEq] at h
  refine ⟨?_, by simp; omega⟩
  rw [← h]
  simp

/-- the closer part of the matching state: its remaining delimiters fit into its range, which
    starts at or behind `mid` (the end of the list before it) and ends at or before `hi` -/
def CloserOK (hi mid : Nat) (ms : MatchSt) : Prop :=
  ∃ s e, ms.closerRange = some (s, e) ∧ mid ≤ s ∧ s + ms.closer.remaining ≤ e ∧ e ≤ hi

/-- "nothing matched yet, or the list does not end in a `Text`" (it ends in a wrapper then) -/
def LastFlag (r0 : Nat) (ms : MatchSt) : Prop :=
  ms.closer.remaining = r0 ∨ ∀ init last, ms.children = init ++ [last] → last.isText = false

/-- the shape of the children while the opener at `idx` (range start `oS`) is being matched:
    the nodes before it, the opener token unless it has been used up, and what follows -/
def IShape (hi r0 : Nat) (pre : List Node) (oS : Nat) (opener : Marker) (ms : MatchSt) : Prop :=
  ∃ oE mid tail, ListOK oE mid tail ∧ CloserOK hi mid ms ∧ oS + opener.remaining ≤ oE ∧
    LastFlag r0 ms ∧
    ((0 < opener.remaining ∧ ∃ otok : Node, otok.range = some (oS, oE) ∧ otok.children = [] ∧
        ms.children = pre ++ [otok] ++ tail) ∨
     (opener.remaining = 0 ∧ tail ≠ [] ∧ ms.children = pre ++ tail))

theorem pickLen_le {fns : Nat → Option Wrap} {n ml : Nat} {w : Wrap} (h : pickLen fns n = some (ml, w)) :
    1 ≤ ml ∧ ml ≤ n := by
  induction n with
  | zero => simp [pickLen] at h
  | succ n ih =>
    unfold pickLen at h
    split at h
    · simp only [Option.some.injEq, Prod.mk.injEq] at h; omega
    · have := ih h; omega

theorem wrap_not_text {w : Wrap} {mk : Char} {r : Option (Nat × Nat)} {cs : List Node} :
    (Node.mk (.wrap w mk) r cs).isText = false := rfl

/-! ## the matcher, one step at a time

The loops of `scan_and_match_delimiters` are taken apart here once, for any invariant; what an
invariant has to provide is how it fares under the three things the matcher does to the list:
wrap what follows the opener, give the opener token its new value, or find it used up.
For the loops to return as well, the opener's range must be long enough for the cut
(`matchInner_keepsT`) and the opener's index must stay inside the list (`matchOuter_keepsT`). -/

theorem matchInner_done {fns : Nat → Option Wrap} {mk : Char} {room idx : Nat} {opener : Marker}
    (h0 : opener.remaining = 0) (fuel : Nat) (ms : MatchSt) :
    matchInner fns mk room idx fuel opener ms = .ok (opener, ms) := by
  cases fuel with
  | zero => rfl
  | succ fuel => unfold matchInner; rw [if_neg (by omega)]

/-- one round of the inner loop, as an equation (nothing is presupposed about the result): on
    children `pre ++ [otok] ++ tail` with the opener token at `pre.length` the loop stops, or it is
    the rest of the loop on the next state — unless the opener's range is too short for the cut -/
theorem matchInner_eqn {fns : Nat → Option Wrap} {mk : Char} {room : Nat} (fuel : Nat) {opener : Marker}
    {ms : MatchSt} {pre tail : List Node} {otok : Node} {oS oE s e : Nat}
    (hch : ms.children = pre ++ [otok] ++ tail) (hor : otok.range = some (oS, oE))
    (hcr : ms.closerRange = some (s, e)) :
    matchInner fns mk room pre.length (fuel + 1) opener ms = .ok (opener, ms) ∨
    ∃ ml w, 1 ≤ ml ∧ ml ≤ opener.remaining ∧ ml ≤ ms.closer.remaining ∧
      matchInner fns mk room pre.length (fuel + 1) opener ms =
        if oE < ml then .error .underflow else
        matchInner fns mk room pre.length fuel { opener with remaining := opener.remaining - ml }
          { closer := { ms.closer with remaining := ms.closer.remaining - ml },
            closerRange := some (s + ml, e),
            children := (if opener.remaining - ml = 0 then pre
                else pre ++ [{ otok with range := some (oS, oE - ml) }]) ++
              [{ val := .wrap w mk, range := some (oE - ml, s + ml), children := tail }],
            newMin := 0, innerDepth := ms.innerDepth + 1 } := by
  generalize hr : matchInner fns mk room pre.length (fuel + 1) opener ms = r
  rw [matchInner] at hr
  by_cases hpos : ms.closer.remaining > 0 ∧ opener.remaining > 0
  · rw [if_pos hpos] at hr
    by_cases hroom : ms.innerDepth ≥ room
    · rw [if_pos hroom] at hr; exact Or.inl hr.symm
    rw [if_neg hroom] at hr
    dsimp only at hr
    cases hpick : pickLen fns (min 3 (min opener.remaining ms.closer.remaining)) with
    | none => rw [hpick] at hr; exact Or.inl hr.symm
    | some p =>
      obtain ⟨ml, w⟩ := p
      rw [hpick] at hr
      dsimp only at hr
      obtain ⟨hml1, hml2⟩ := pickLen_le hpick
      have hml3 := Nat.le_trans hml2 (Nat.min_le_right _ _)
      have h2 : ml ≤ opener.remaining := Nat.le_trans hml3 (Nat.min_le_left _ _)
      have h3 : ml ≤ ms.closer.remaining := Nat.le_trans hml3 (Nat.min_le_right _ _)
      have hlen : pre.length + 1 = (pre ++ [otok]).length := by simp
      have hlen2 : ¬ ms.children.length < pre.length + 1 := by
        rw [hch, hlen, List.length_append]; exact Nat.not_lt.mpr (Nat.le_add_right _ _)
      rw [if_neg (not_or.mpr ⟨Nat.not_lt.mpr h3, Nat.not_lt.mpr h2⟩), if_neg hlen2, hch, hlen,
        List.take_left, List.drop_left, popLast_snoc, hcr] at hr
      simp only [hor] at hr
      refine Or.inr ⟨ml, w, hml1, h2, h3, ?_⟩
      by_cases hlt : oE < ml
      · rw [if_pos hlt] at hr ⊢; exact hr.symm
      · rw [if_neg hlt] at hr ⊢; exact hr.symm
  · rw [if_neg hpos] at hr; exact Or.inl hr.symm

/-- one round of the inner loop on children `pre ++ [otok] ++ tail` with the opener token at
    `pre.length`: either the loop stops, or `ml` delimiters come off the end of the opener's range
    and off the start of the closer's, `tail` goes into a wrapper between the two, and the loop
    goes on -/
theorem matchInner_round {fns : Nat → Option Wrap} {mk : Char} {room fuel : Nat} {opener : Marker}
    {ms : MatchSt} {r : Marker × MatchSt} {pre tail : List Node} {otok : Node} {oS oE s e : Nat}
    (h : matchInner fns mk room pre.length (fuel + 1) opener ms = .ok r)
    (hch : ms.children = pre ++ [otok] ++ tail) (hor : otok.range = some (oS, oE))
    (hcr : ms.closerRange = some (s, e)) :
    r = (opener, ms) ∨
    ∃ ml w, 1 ≤ ml ∧ ml ≤ opener.remaining ∧ ml ≤ ms.closer.remaining ∧ ml ≤ oE ∧
      matchInner fns mk room pre.length fuel { opener with remaining := opener.remaining - ml }
        { closer := { ms.closer with remaining := ms.closer.remaining - ml },
          closerRange := some (s + ml, e),
          children := (if opener.remaining - ml = 0 then pre
              else pre ++ [{ otok with range := some (oS, oE - ml) }]) ++
            [{ val := .wrap w mk, range := some (oE - ml, s + ml), children := tail }],
          newMin := 0, innerDepth := ms.innerDepth + 1 } = .ok r := by
  rcases matchInner_eqn fuel hch hor hcr with hr | ⟨ml, w, h1, h2, h3, hr⟩
  · rw [hr] at h; cases h; exact Or.inl rfl
  · rw [hr] at h
    by_cases hlt : oE < ml
    · rw [if_pos hlt] at h; cases h
    · rw [if_neg hlt] at h; exact Or.inr ⟨ml, w, h1, h2, h3, by omega, h⟩

/-- the inner loop keeps `P` if one round does -/
theorem matchInner_keeps {fns : Nat → Option Wrap} {mk : Char} {room : Nat} {pre : List Node}
    {P : Marker → MatchSt → Prop}
    (hstep : ∀ opener ms, P opener ms → 0 < opener.remaining →
      ∃ otok tail oS oE s e, ms.children = pre ++ [otok] ++ tail ∧ otok.range = some (oS, oE) ∧
        ms.closerRange = some (s, e) ∧
        ∀ ml w, 1 ≤ ml → ml ≤ opener.remaining → ml ≤ ms.closer.remaining → ml ≤ oE →
          P { opener with remaining := opener.remaining - ml }
            { closer := { ms.closer with remaining := ms.closer.remaining - ml },
              closerRange := some (s + ml, e),
              children := (if opener.remaining - ml = 0 then pre
                  else pre ++ [{ otok with range := some (oS, oE - ml) }]) ++
                [{ val := .wrap w mk, range := some (oE - ml, s + ml), children := tail }],
              newMin := 0, innerDepth := ms.innerDepth + 1 }) :
    ∀ (fuel : Nat) (opener : Marker) (ms : MatchSt) (opener' : Marker) (ms' : MatchSt),
      matchInner fns mk room pre.length fuel opener ms = .ok (opener', ms') →
      P opener ms → P opener' ms' := by
  intro fuel
  induction fuel with
  | zero => intro opener ms opener' ms' h hs; cases h; exact hs
  | succ fuel ih =>
    intro opener ms opener' ms' h hs
    by_cases h0 : opener.remaining = 0
    · rw [matchInner_done h0] at h; cases h; exact hs
    · obtain ⟨otok, tail, oS, oE, s, e, hch, hor, hcr, hnext⟩ := hstep opener ms hs (by omega)
      rcases matchInner_round h hch hor hcr with hr | ⟨ml, w, h1, h2, h3, h4, h⟩
      · cases hr; exact hs
      · exact ih _ _ _ _ h (hnext ml w h1 h2 h3 h4)

/-- the inner loop returns and keeps `P` if one round keeps `P` and the opener's range is long
    enough for what remains of the opener (`matchInner_keeps`, errors included) -/
theorem matchInner_keepsT {fns : Nat → Option Wrap} {mk : Char} {room : Nat} {pre : List Node}
    {P : Marker → MatchSt → Prop}
    (hstep : ∀ opener ms, P opener ms → 0 < opener.remaining →
      ∃ otok tail oS oE s e, ms.children = pre ++ [otok] ++ tail ∧ otok.range = some (oS, oE) ∧
        ms.closerRange = some (s, e) ∧ opener.remaining ≤ oE ∧
        ∀ ml w, 1 ≤ ml → ml ≤ opener.remaining → ml ≤ ms.closer.remaining → ml ≤ oE →
          P { opener with remaining := opener.remaining - ml }
            { closer := { ms.closer with remaining := ms.closer.remaining - ml },
              closerRange := some (s + ml, e),
              children := (if opener.remaining - ml = 0 then pre
                  else pre ++ [{ otok with range := some (oS, oE - ml) }]) ++
                [{ val := .wrap w mk, range := some (oE - ml, s + ml), children := tail }],
              newMin := 0, innerDepth := ms.innerDepth + 1 }) :
    ∀ (fuel : Nat) (opener : Marker) (ms : MatchSt), P opener ms →
      ∃ opener' ms', matchInner fns mk room pre.length fuel opener ms = .ok (opener', ms') ∧
        P opener' ms' := by
  intro fuel
  induction fuel with
  | zero => intro opener ms hs; exact ⟨_, _, rfl, hs⟩
  | succ fuel ih =>
    intro opener ms hs
    by_cases h0 : opener.remaining = 0
    · exact ⟨_, _, matchInner_done h0 _ _, hs⟩
    · obtain ⟨otok, tail, oS, oE, s, e, hch, hor, hcr, hoE, hnext⟩ := hstep opener ms hs (by omega)
      rcases matchInner_eqn fuel hch hor hcr with hr | ⟨ml, w, h1, h2, h3, hr⟩
      · exact ⟨_, _, hr, hs⟩
      · rw [hr, if_neg (by omega)]
        exact ih _ _ (hnext ml w h1 h2 h3 (by omega))

theorem getElem?_mid {α : Type} (pre : List α) (x : α) (t : List α) :
    (pre ++ [x] ++ t)[pre.length]? = some x := by
  simp

theorem set_mid {α : Type} (pre : List α) (x y : α) (t : List α) :
    (pre ++ [x] ++ t).set pre.length y = pre ++ [y] ++ t := by
  simp

theorem replaceAt_mid (pre t : List Node) (x : Node) (m : Marker) :
    replaceAt (pre ++ [x] ++ t) pre.length m = .ok (pre ++ [{ x with val := m.toVal }] ++ t) := by
  unfold replaceAt
  rw [getElem?_mid]
  simp only
  rw [set_mid]

/-- the outer loop keeps `M` if `M` at a marker token at `pre.length` gives `I pre`, the inner loop
    keeps `I pre`, and `I pre` gives `M` back once the token has its new value or is used up -/
theorem matchOuter_keeps {fns : Nat → Option Wrap} {mk : Char} {room minIdx : Nat}
    {M : MatchSt → Prop} {I : List Node → Marker → MatchSt → Prop}
    (hdepth : ∀ ms d, M ms → M { ms with innerDepth := d })
    (henter : ∀ ms pre tok tl opener, M ms → ms.children = pre ++ [tok] ++ tl →
      tok.asMarker = some opener → I pre opener ms)
    (hinner : ∀ pre fuel opener ms opener' ms',
      matchInner fns mk room pre.length fuel opener ms = .ok (opener', ms') →
      I pre opener ms → I pre opener' ms')
    (hput : ∀ pre opener ms cs, I pre opener ms → 0 < opener.remaining →
      replaceAt ms.children pre.length opener = .ok cs → M { ms with children := cs })
    (hgone : ∀ pre opener ms, I pre opener ms → opener.remaining = 0 → M ms) :
    ∀ (k : Nat) (ms ms' : MatchSt), matchOuter fns mk room minIdx k ms = .ok ms' → M ms → M ms' := by
  intro k
  induction k with
  | zero => intro ms ms' h hm; cases h; exact hm
  | succ k ih =>
    intro ms0 ms' h hm0
    rw [matchOuter_succ] at h
    split at h
    · cases h
    next nxt _ =>
    have hm := hdepth ms0 (max ms0.innerDepth (wrapDepth nxt)) hm0
    generalize ({ ms0 with innerDepth := max ms0.innerDepth (wrapDepth nxt) } : MatchSt) = ms at h hm
    unfold matchOuterBody at h
    split at h
    · cases h
    next tok htok =>
    split at h
    · exact ih _ _ h hm
    next opener hop =>
    obtain ⟨hsplit, hlen⟩ := split_at_getElem? htok
    obtain ⟨pre, hpredef⟩ : ∃ pre, pre = ms.children.take (minIdx + k) := ⟨_, rfl⟩
    rw [← hpredef] at hlen hsplit
    have hs0 := henter ms pre tok _ opener hm hsplit hop
    rw [← hlen] at h
    generalize hgo : (if (opener.open_ && opener.marker == ms.closer.marker &&
        !isOddMatch opener ms.closer) = true
      then matchInner fns mk room pre.length ms.closer.remaining opener ms
      else Except.ok (opener, ms)) = go at h
    cases go with
    | error e => cases h
    | ok p =>
      obtain ⟨opener', ms1⟩ := p
      have hs1 : I pre opener' ms1 := by
        split at hgo
        · exact hinner _ _ _ _ _ _ hgo hs0
        · cases hgo; exact hs0
      simp only at h
      split at h
      · next hpos =>
        split at h
        · cases h
        · next cs hrep => exact ih _ _ h (hput _ _ _ _ hs1 hpos hrep)
      · next hpos => exact ih _ _ h (hgone _ _ _ hs1 (by omega))

theorem replaceAt_total {cs : List Node} {idx : Nat} (m : Marker) (h : idx < cs.length) :
    ∃ cs', replaceAt cs idx m = .ok cs' ∧ cs'.length = cs.length := by
  unfold replaceAt
  rw [List.getElem?_eq_getElem h]
  exact ⟨_, rfl, List.length_set⟩

/-- the outer loop returns and keeps `M` (`matchOuter_keeps`, errors included): the hypotheses are
    those of `matchOuter_keeps`, with `hinner` in its total form, and `hIlen`: under `I pre` the
    index `pre.length` is inside the list -/
theorem matchOuter_keepsT {fns : Nat → Option Wrap} {mk : Char} {room minIdx : Nat}
    {M : MatchSt → Prop} {I : List Node → Marker → MatchSt → Prop}
    (hdepth : ∀ ms d, M ms → M { ms with innerDepth := d })
    (henter : ∀ ms pre tok tl opener, M ms → ms.children = pre ++ [tok] ++ tl →
      tok.asMarker = some opener → I pre opener ms)
    (hinner : ∀ pre fuel opener ms, I pre opener ms →
      ∃ opener' ms', matchInner fns mk room pre.length fuel opener ms = .ok (opener', ms') ∧
        I pre opener' ms')
    (hIlen : ∀ pre opener ms, I pre opener ms → pre.length < ms.children.length)
    (hput : ∀ pre opener ms cs, I pre opener ms → 0 < opener.remaining →
      replaceAt ms.children pre.length opener = .ok cs → M { ms with children := cs })
    (hgone : ∀ pre opener ms, I pre opener ms → opener.remaining = 0 → M ms) :
    ∀ (k : Nat) (ms : MatchSt), M ms → minIdx + k < ms.children.length →
      ∃ ms', matchOuter fns mk room minIdx k ms = .ok ms' ∧ M ms' := by
  intro k
  induction k with
  | zero => intro ms hm _; exact ⟨_, rfl, hm⟩
  | succ k ih =>
    intro ms0 hm0 hlenk
    have hidx1 : minIdx + k + 1 < ms0.children.length := by omega
    rw [matchOuter_succ, List.getElem?_eq_getElem hidx1]
    simp only
    generalize ms0.children[minIdx + k + 1] = nxt
    have hm := hdepth ms0 (max ms0.innerDepth (wrapDepth nxt)) hm0
    have hidx : minIdx + k <
        ({ ms0 with innerDepth := max ms0.innerDepth (wrapDepth nxt) } : MatchSt).children.length := by
      simp only; omega
    generalize ({ ms0 with innerDepth := max ms0.innerDepth (wrapDepth nxt) } : MatchSt) = ms
      at hm hidx ⊢
    unfold matchOuterBody
    rw [List.getElem?_eq_getElem hidx]
    simp only
    generalize htokdef : ms.children[minIdx + k] = tok
    have htok : ms.children[minIdx + k]? = some tok := by
      rw [List.getElem?_eq_getElem hidx, htokdef]
    cases hop : tok.asMarker with
    | none => exact ih _ hm hidx
    | some opener =>
      dsimp only
      obtain ⟨hsplit, hlen⟩ := split_at_getElem? htok
      obtain ⟨pre, hpredef⟩ : ∃ pre, pre = ms.children.take (minIdx + k) := ⟨_, rfl⟩
      rw [← hpredef] at hlen hsplit
      have hs0 := henter ms pre tok _ opener hm hsplit hop
      rw [← hlen]
      -- the inner loop (or nothing)
      have hgo : ∃ opener' ms1,
          (if (opener.open_ && opener.marker == ms.closer.marker && !isOddMatch opener ms.closer) = true
            then matchInner fns mk room pre.length ms.closer.remaining opener ms
            else .ok (opener, ms)) = .ok (opener', ms1) ∧ I pre opener' ms1 := by
        split
        · exact hinner _ _ _ _ hs0
        · exact ⟨_, _, rfl, hs0⟩
      obtain ⟨opener', ms1, hgoeq, hs1⟩ := hgo
      rw [hgoeq]
      simp only
      have hl1 := hIlen _ _ _ hs1
      by_cases hpos : opener'.remaining > 0
      · rw [if_pos hpos]
        obtain ⟨cs, hrep, hcl⟩ := replaceAt_total opener' hl1
        rw [hrep]
        exact ih _ (hput _ _ _ _ hs1 hpos hrep) (by simp only; omega)
      · rw [if_neg hpos]
        exact ih _ (hgone _ _ _ hs1 (by omega)) (by omega)

/-- what `scan_and_match_delimiters` does to a list that does not consist of one node: the last
    node is the closer, the outer loop runs over the rest, and the closer comes back behind it
    unless it is used up -/
theorem scanAndMatch_inv {fns : Nat → Option Wrap} {mk : Char} {room : Nat} {cs out : List Node}
    {b b' : List (Char × List Nat)} (h : scanAndMatch fns mk room cs b = .ok (out, b')) :
    out = cs ∨ ∃ init closerTok closer minIdx ms, cs = init ++ [closerTok] ∧
      closerTok.asMarker = some closer ∧
      matchOuter fns mk room minIdx (init.length - 1 - minIdx)
        { closer := closer, closerRange := closerTok.range, children := init,
          newMin := init.length - 1 } = .ok ms ∧
      ((0 < ms.closer.remaining ∧ out = ms.children ++
          [{ closerTok with val := ms.closer.toVal, range := ms.closerRange }]) ∨
        (ms.closer.remaining = 0 ∧ out = ms.children)) := by
  revert h
  fun_cases scanAndMatch fns mk room cs b with
  | case1 => intro h; cases h; exact Or.inl rfl
  | case2 | case3 | case4 | case5 | case6 => intro h; cases h
  | case7 _ init closerTok hpop closer hcl _ minIdx _ _ _ ms hms _ hpos =>
    intro h
    exact Or.inr ⟨init, closerTok, closer, minIdx, ms, popLast_some hpop, hcl, hms,
      Or.inl ⟨hpos, (Prod.mk.inj (Except.ok.inj h)).1.symm⟩⟩
  | case8 _ init closerTok hpop closer hcl _ minIdx _ _ _ ms hms _ hpos =>
    intro h
    exact Or.inr ⟨init, closerTok, closer, minIdx, ms, popLast_some hpop, hcl, hms,
      Or.inr ⟨by omega, (Prod.mk.inj (Except.ok.inj h)).1.symm⟩⟩

/-- the marker rule either declines, or pushes a marker leaf for the run at the cursor and, if
    the run can close, lets `scan_and_match_delimiters` work on the list -/
theorem ruleEmph_inv {cfg : Cfg} {mk : Char} {csw : Bool} {st st' : IState} {o : Option Nat}
    (h : ruleEmph cfg mk csw st false = .ok (o, st')) :
    (o = none ∧ st' = st) ∨
    ∃ w scanned r cs b, st.window = .ok (mk :: w) ∧
      scanDelims cfg st.src st.posMax st.pos csw = .ok scanned ∧
      st.getMap st.pos (st.pos + scanned.length) = .ok r ∧ o = some scanned.length ∧
      st' = { st with children := cs, bottoms := b } ∧
      (cs = st.children ++ [Node.leaf (.emphMarker mk scanned.length scanned.length scanned.canOpen
          scanned.canClose) (some r)] ∨
        scanAndMatch (cfg.fns mk) mk (cfg.maxNesting - st.level)
          (st.children ++ [Node.leaf (.emphMarker mk scanned.length scanned.length scanned.canOpen
            scanned.canClose) (some r)]) st.bottoms = .ok (cs, b)) := by
  revert h
  fun_cases ruleEmph cfg mk csw st false with
  | case1 h => cases h
  | case2 | case3 | case5 | case6 | case7 => intro h; cases h
  | case4 => intro h; cases h; exact Or.inl ⟨rfl, rfl⟩
  | case8 _ c rest hw hc scanned hsc r hr node st1 hcc cs b hsm =>
    intro h
    obtain ⟨ho, hst⟩ := Prod.mk.inj (Except.ok.inj h)
    cases Decidable.not_not.mp hc
    exact Or.inr ⟨rest, scanned, r, cs, b, hw, hsc, hr, ho.symm, hst.symm, Or.inr hsm⟩
  | case9 _ c rest hw hc scanned hsc r hr node st1 hcc =>
    intro h
    obtain ⟨ho, hst⟩ := Prod.mk.inj (Except.ok.inj h)
    cases Decidable.not_not.mp hc
    exact Or.inr ⟨rest, scanned, r, _, _, hw, hsc, hr, ho.symm, hst.symm, Or.inl rfl⟩

/-! ## the ordering invariant through the matcher -/

/-- one round of the inner loop keeps the shape, and the opener's range is long enough for the cut -/
theorem ishape_round {hi r0 : Nat} {mk : Char} {pre : List Node} {oS0 : Nat} :
    ∀ opener ms, IShape hi r0 pre oS0 opener ms → 0 < opener.remaining →
      ∃ otok tail oS oE s e, ms.children = pre ++ [otok] ++ tail ∧ otok.range = some (oS, oE) ∧
        ms.closerRange = some (s, e) ∧ opener.remaining ≤ oE ∧
        ∀ ml w, 1 ≤ ml → ml ≤ opener.remaining → ml ≤ ms.closer.remaining → ml ≤ oE →
          IShape hi r0 pre oS0 { opener with remaining := opener.remaining - ml }
            { closer := { ms.closer with remaining := ms.closer.remaining - ml },
              closerRange := some (s + ml, e),
              children := (if opener.remaining - ml = 0 then pre
                  else pre ++ [{ otok with range := some (oS, oE - ml) }]) ++
                [{ val := .wrap w mk, range := some (oE - ml, s + ml), children := tail }],
              newMin := 0, innerDepth := ms.innerDepth + 1 } := by
  intro opener ms hs _
  obtain ⟨oE, mid, tail, htail, ⟨s, e, hcr, hms, hse, hehi⟩, hoE, hflag, hshape⟩ := hs
  rcases hshape with ⟨_, otok, hor, hoc, hch⟩ | ⟨h0, _, _⟩
  · refine ⟨otok, tail, oS0, oE, s, e, hch, hor, hcr, by omega, ?_⟩
    intro ml w hml1 hml2 hml3 hnu
    have hoEmid := htail.ord.le
    have hwrap : WellRanged (Node.mk (.wrap w mk) (some (oE - ml, s + ml)) tail) := by
      rw [WellRanged_eq]
      refine ⟨⟨oE - ml, s + ml, rfl, by omega, ?_⟩, htail.deep⟩
      exact htail.ord.widen (by omega) (by omega)
    have htl : ListOK (oE - ml) (s + ml) [Node.mk (.wrap w mk) (some (oE - ml, s + ml)) tail] := by
      refine ⟨orderedN_single rfl (Nat.le_refl _) (by omega) (Nat.le_refl _),
        WellRangedList.single hwrap, ?_⟩
      intro n hn mk' hmk'
      simp only [List.mem_singleton] at hn; subst hn
      simp [Node.asMarker] at hmk'
    refine ⟨oE - ml, s + ml, _, htl, ⟨s + ml, e, rfl, Nat.le_refl _, ?_, hehi⟩, ?_, ?_, ?_⟩
    · simp only; omega
    · simp only; omega
    · right
      intro init last hl
      simp only at hl
      by_cases hz : opener.remaining - ml = 0
      · simp only [hz, if_true] at hl
        obtain ⟨_, rfl⟩ := snoc_inj hl; rfl
      · simp only [hz, if_false] at hl
        obtain ⟨_, rfl⟩ := snoc_inj hl; rfl
    · by_cases hz : opener.remaining - ml = 0
      · right
        refine ⟨hz, by simp, ?_⟩
        simp only [hz, if_true]
      · left
        refine ⟨by simp only; omega, Node.mk otok.val (some (oS0, oE - ml)) otok.children,
          rfl, hoc, ?_⟩
        simp only [hz, if_false]
  · omega

/-- the inner loop returns, and keeps the shape -/
theorem matchInner_shapeT {hi r0 : Nat} {fns : Nat → Option Wrap} {mk : Char} {room : Nat}
    {pre : List Node} {oS : Nat} :
    ∀ (fuel : Nat) (opener : Marker) (ms : MatchSt), IShape hi r0 pre oS opener ms →
      ∃ opener' ms', matchInner fns mk room pre.length fuel opener ms = .ok (opener', ms') ∧
        IShape hi r0 pre oS opener' ms' :=
  matchInner_keepsT ishape_round

theorem matchInner_ranges {hi r0 : Nat} {fns : Nat → Option Wrap} {mk : Char} {room : Nat}
    {pre : List Node} {oS : Nat} :
    ∀ (fuel : Nat) (opener : Marker) (ms : MatchSt) (opener' : Marker) (ms' : MatchSt),
      matchInner fns mk room pre.length fuel opener ms = .ok (opener', ms') →
      IShape hi r0 pre oS opener ms → IShape hi r0 pre oS opener' ms' := by
  intro fuel opener ms opener' ms' h hs
  obtain ⟨o, m, hr, hp⟩ := matchInner_shapeT (fns := fns) (mk := mk) (room := room) fuel opener ms hs
  rw [hr] at h; cases h; exact hp

/-! ## the outer loop -/

/-- the invariant of the outer loop -/
def MInv (lo hi r0 : Nat) (ms : MatchSt) : Prop :=
  ∃ mid, ListOK lo mid ms.children ∧ CloserOK hi mid ms ∧ LastFlag r0 ms

theorem marker_toVal_asMarker (m : Marker) (r : Option (Nat × Nat)) (cs : List Node) :
    (Node.mk m.toVal r cs).asMarker = some m := by
  cases m; rfl

theorem marker_toVal_isText (m : Marker) (r : Option (Nat × Nat)) (cs : List Node) :
    (Node.mk m.toVal r cs).isText = false := by
  cases m; rfl

/-- replacing a middle element by a non-text keeps "the list does not end in a text" -/
theorem last_not_text_set {pre t : List Node} {x y : Node} (hy : y.isText = false)
    (h : ∀ init last, pre ++ [x] ++ t = init ++ [last] → last.isText = false) :
    ∀ init last, pre ++ [y] ++ t = init ++ [last] → last.isText = false := by
  intro init last hl
  rcases List.eq_nil_or_concat t with rfl | ⟨t', z, ht⟩
  · simp only [List.append_nil] at hl
    obtain ⟨_, rfl⟩ := snoc_inj hl; exact hy
  · rw [List.concat_eq_append] at ht; subst ht
    have e1 : pre ++ [y] ++ (t' ++ [z]) = (pre ++ [y] ++ t') ++ [z] := by simp
    rw [e1] at hl
    obtain ⟨_, rfl⟩ := snoc_inj hl
    exact h (pre ++ [x] ++ t') z (by simp)

/-- `M` at a marker token gives `I`: the three parts of the list -/
theorem minv_enter {lo hi r0 : Nat} :
    ∀ (ms : MatchSt) (pre : List Node) (tok : Node) (tl : List Node) (opener : Marker),
      MInv lo hi r0 ms → ms.children = pre ++ [tok] ++ tl → tok.asMarker = some opener →
      ∃ oS, ListOK lo oS pre ∧ IShape hi r0 pre oS opener ms := by
  intro ms pre tok tl opener hm hsplit hop
  obtain ⟨mid, hlist, hcl, hflag⟩ := hm
  have htok : tok ∈ ms.children := by rw [hsplit]; simp
  have hl3 := hlist
  rw [hsplit] at hl3
  obtain ⟨y, hl12, hltail⟩ := hl3.split
  obtain ⟨x, hlpre, hltok⟩ := hl12.split
  obtain ⟨hch, hrem, oS, oE, hor, hfit⟩ := hlist.markers tok htok opener hop
  obtain ⟨a, b, hab, hxa, _, hby⟩ := hltok.ord
  rw [hor] at hab; simp only [Option.some.injEq, Prod.mk.injEq] at hab
  obtain ⟨rfl, rfl⟩ := hab
  simp only [OrderedN] at hby
  exact ⟨oS, hlpre.widen (Nat.le_refl _) hxa, oE, mid, _, hltail.widen hby (Nat.le_refl _), hcl,
    hfit, hflag, Or.inl ⟨hrem, tok, hor, hch, hsplit⟩⟩

/-- under `I` the opener's index is inside the list -/
theorem ishape_length {lo hi r0 : Nat} :
    ∀ (pre : List Node) (opener : Marker) (ms : MatchSt),
      (∃ oS, ListOK lo oS pre ∧ IShape hi r0 pre oS opener ms) →
      pre.length < ms.children.length := by
  rintro pre opener ms ⟨oS, _, oE, mid, tail, _, _, _, _, hsh⟩
  rcases hsh with ⟨_, otok, _, _, hch⟩ | ⟨_, hne, hch⟩
  · rw [hch]; simp only [List.length_append, List.length_singleton]; omega
  · have : 0 < tail.length := List.length_pos_iff.mpr hne
    rw [hch]; simp only [List.length_append]; omega

/-- the opener token gets its new value -/
theorem minv_put {lo hi r0 : Nat} :
    ∀ (pre : List Node) (opener : Marker) (ms : MatchSt) (cs : List Node),
      (∃ oS, ListOK lo oS pre ∧ IShape hi r0 pre oS opener ms) → 0 < opener.remaining →
      replaceAt ms.children pre.length opener = .ok cs → MInv lo hi r0 { ms with children := cs } := by
  rintro pre opener' ms cs ⟨oS, hpre, oE', mid', tail', htail', hcl', hfit', hflag', hsh⟩ hpos hrep
  rcases hsh with ⟨_, otok', hor', hoc', hch'⟩ | ⟨h0, _, _⟩
  · rw [hch', replaceAt_mid] at hrep
    cases hrep
    have hnew : ListOK oS oE' [Node.mk opener'.toVal otok'.range otok'.children] := by
      refine ⟨orderedN_single hor' (Nat.le_refl _) (by omega) (Nat.le_refl _),
        WellRangedList.single ?_, ?_⟩
      · rw [WellRanged_eq]; simp only [hoc']
        exact ⟨⟨oS, oE', hor', by omega, by simp only [OrderedN]; omega⟩, trivial⟩
      · intro n hn mk' hmk'
        simp only [List.mem_singleton] at hn; subst hn
        rw [marker_toVal_asMarker] at hmk'
        simp only [Option.some.injEq] at hmk'; subst hmk'
        exact ⟨hoc', hpos, oS, oE', hor', hfit'⟩
    refine ⟨mid', (hpre.append hnew).append htail', hcl', ?_⟩
    rcases hflag' with hf | hf
    · left; exact hf
    · right
      rw [hch'] at hf
      exact last_not_text_set (marker_toVal_isText _ _ _) hf
  · omega

/-- the opener token is used up -/
theorem minv_gone {lo hi r0 : Nat} :
    ∀ (pre : List Node) (opener : Marker) (ms : MatchSt),
      (∃ oS, ListOK lo oS pre ∧ IShape hi r0 pre oS opener ms) → opener.remaining = 0 →
      MInv lo hi r0 ms := by
  rintro pre opener' ms ⟨oS, hpre, oE', mid', tail', htail', hcl', hfit', hflag', hsh⟩ h0
  rcases hsh with ⟨hp, _⟩ | ⟨_, _, hch'⟩
  · omega
  · refine ⟨mid', ?_, hcl', hflag'⟩
    rw [hch']
    exact hpre.append (htail'.widen (by omega) (Nat.le_refl _))

theorem matchOuter_ranges {lo hi r0 : Nat} {fns : Nat → Option Wrap} {mk : Char} (room minIdx : Nat) :
    ∀ (k : Nat) (ms ms' : MatchSt), matchOuter fns mk room minIdx k ms = .ok ms' →
      MInv lo hi r0 ms → MInv lo hi r0 ms' := by
  apply matchOuter_keeps (M := MInv lo hi r0)
    (I := fun pre opener ms => ∃ oS, ListOK lo oS pre ∧ IShape hi r0 pre oS opener ms)
    (fun _ _ h => h) minv_enter ?_ minv_put minv_gone
  rintro pre fuel opener ms opener' ms' h ⟨oS, hpre, hs⟩
  exact ⟨oS, hpre, matchInner_ranges _ _ _ _ _ h hs⟩

/-- the outer loop returns, and keeps its invariant -/
theorem matchOuter_minvT {lo hi r0 : Nat} {fns : Nat → Option Wrap} {mk : Char} (room minIdx : Nat) :
    ∀ (k : Nat) (ms : MatchSt), MInv lo hi r0 ms → minIdx + k < ms.children.length →
      ∃ ms', matchOuter fns mk room minIdx k ms = .ok ms' ∧ MInv lo hi r0 ms' := by
  apply matchOuter_keepsT (M := MInv lo hi r0)
    (I := fun pre opener ms => ∃ oS, ListOK lo oS pre ∧ IShape hi r0 pre oS opener ms)
    (fun _ _ h => h) minv_enter ?_ ishape_length minv_put minv_gone
  rintro pre fuel opener ms ⟨oS, hpre, hs⟩
  obtain ⟨o, m, hr, hs'⟩ := matchInner_shapeT (fns := fns) (mk := mk) (room := room) fuel opener ms hs
  exact ⟨o, m, hr, oS, hpre, hs'⟩

/-! ## `scan_and_match_delimiters`, the rule -/

theorem scanAndMatch_ranges {src : List Char} {m : Srcmap} {lo pos : Nat} {fns : Nat → Option Wrap}
    {mk : Char} {room : Nat} {cs out : List Node} {b b' : List (Char × List Nat)}
    (hi : RI src m lo pos cs) (h : scanAndMatch fns mk room cs b = .ok (out, b'))
    (hlast : ∀ init last, cs = init ++ [last] → last.asMarker ≠ none) : RI src m lo pos out := by
  rcases scanAndMatch_inv h with rfl | ⟨init, closerTok, closer, minIdx, ms, rfl, hcl, hms, hout⟩
  · exact hi
  · obtain ⟨hT, hhT, hord⟩ := hi.ord
    obtain ⟨hcc, hrem, cS, cE, hcr, hfit⟩ := hi.markers closerTok (by simp) closer hcl
    obtain ⟨a, b0, hab, hinit, _, hbT⟩ := hord.last
    rw [hcr] at hab; simp only [Option.some.injEq, Prod.mk.injEq] at hab
    obtain ⟨rfl, rfl⟩ := hab
    have hm0 : MInv lo hT closer.remaining
        { closer := closer, closerRange := closerTok.range, children := init,
          newMin := init.length - 1 } :=
      ⟨cS, ⟨hinit, hi.deep.left, hi.markers.left⟩, ⟨cS, cE, hcr, Nat.le_refl _, hfit, hbT⟩,
        Or.inl rfl⟩
    obtain ⟨mid, hlist, ⟨s, e, hcr', hms', hfit', heT⟩, hflag⟩ :=
      matchOuter_ranges _ _ _ _ _ hms hm0
    rcases hout with ⟨hpos, rfl⟩ | ⟨hpos, rfl⟩
    · have hse : s ≤ e := by omega
      refine ⟨⟨hT, hhT, hlist.ord.snoc (n := Node.mk ms.closer.toVal ms.closerRange
          closerTok.children) hcr' hms' hse heT⟩,
        hlist.deep.append (WellRangedList.single ?_), hlist.markers.append ?_, ?_⟩
      · rw [WellRanged_eq]; simp only [hcc]
        exact ⟨⟨s, e, hcr', hse, by simp only [OrderedN]; exact hse⟩, trivial⟩
      · intro n hn mk' hmk'
        simp only [List.mem_singleton] at hn; subst hn
        rw [marker_toVal_asMarker] at hmk'
        simp only [Option.some.injEq] at hmk'; subst hmk'
        exact ⟨hcc, hpos, s, e, hcr', hfit'⟩
      · intro init' last' hcs' hlt'
        obtain ⟨_, rfl⟩ := snoc_inj hcs'
        rw [marker_toVal_isText] at hlt'; cases hlt'
    · refine ⟨⟨hT, hhT, hlist.ord.widen (Nat.le_refl _) (by omega)⟩, hlist.deep, hlist.markers, ?_⟩
      intro init' last' hcs' hlt'
      rcases hflag with hf | hf
      · omega
      · rw [hf init' last' hcs'] at hlt'; cases hlt'

/-- the marker token of a run of `n ≥ 1` delimiters at the cursor that has room in the source,
    pushed behind a list that satisfies the frame invariant: the invariant holds behind the run.
    The last child is no `Text`, so no clause mentions the inline text: ANY `src'` will do. -/
theorem ri_push_marker_of {lo : Nat} {st : IState} (hi : RInv lo st) (src' : List Char)
    (mk : Char) {n : Nat} (hn : 1 ≤ n) (o c : Bool) {rx ry : Nat}
    (e1 : getSourcePosFor st.srcmap st.pos = .ok rx)
    (e2 : getSourcePosFor st.srcmap (st.pos + n) = .ok ry) (hexp : rx + n ≤ ry) :
    RI src' st.srcmap lo (st.pos + n)
      (st.children ++ [Node.leaf (.emphMarker mk n n o c) (some (rx, ry))]) := by
  obtain ⟨hT, hhT, hord⟩ := hi.ord
  rw [e1] at hhT; simp only [Except.ok.injEq] at hhT; subst hhT
  refine ⟨⟨ry, e2, hord.snoc (n := Node.leaf _ (some (rx, ry))) rfl (Nat.le_refl _) (by omega)
      (Nat.le_refl _)⟩,
    hi.deep.append (WellRangedList.single (wellRanged_leaf (by omega))),
    hi.markers.append ?_, ?_⟩
  · intro n' hn' mk' hmk'
    simp only [List.mem_singleton] at hn'; subst hn'
    simp only [Node.leaf, Node.asMarker, Option.some.injEq] at hmk'
    subst hmk'
    exact ⟨rfl, by simp only; omega, rx, ry, rfl, by simp only; omega⟩
  · intro init' last' hcs' hlt'
    obtain ⟨_, rfl⟩ := snoc_inj hcs'
    cases hlt'

/-- under `MapOK` the translation expands: every run has room -/
theorem ri_push_marker {lo : Nat} {st : IState} (hm : MapOK st.src st.srcmap) (hi : RInv lo st)
    (mk : Char) {n : Nat} (hn : 1 ≤ n) (o c : Bool) {rx ry : Nat}
    (e1 : getSourcePosFor st.srcmap st.pos = .ok rx)
    (e2 : getSourcePosFor st.srcmap (st.pos + n) = .ok ry) :
    RI st.src st.srcmap lo (st.pos + n)
      (st.children ++ [Node.leaf (.emphMarker mk n n o c) (some (rx, ry))]) :=
  ri_push_marker_of hi st.src mk hn o c e1 e2 (by
    have := translate_expand st.srcmap hm.wf hm.mono st.pos (st.pos + n) (by omega) rx ry e1 e2
    omega)

theorem ruleEmph_ranges {cfg : Cfg} {mk : Char} {csw : Bool} {lo : Nat} {st st' : IState}
    {o : Option Nat} (hm : MapOK st.src st.srcmap) (hi : RInv lo st)
    (h : ruleEmph cfg mk csw st false = .ok (o, st')) : StepRI lo st o st' := by
  rcases ruleEmph_inv h with ⟨rfl, rfl⟩ | ⟨w, scanned, ⟨rx, ry⟩, cs, b, _, hsc, hr, rfl, rfl, hcs⟩
  · exact stepRI_same hi
  · obtain ⟨_, _, _, _, hlen⟩ := scanDelims_length hsc
    obtain ⟨e1, e2, _⟩ := getMap_eq hr
    have hpushed := ri_push_marker hm hi mk (by omega : 1 ≤ scanned.length) scanned.canOpen
      scanned.canClose e1 e2
    unfold StepRI
    simp only [Option.getD_some]
    rcases hcs with rfl | hsm
    · exact hpushed
    · apply scanAndMatch_ranges hpushed hsm
      intro init last hl
      obtain ⟨_, rfl⟩ := snoc_inj hl
      simp [Node.leaf, Node.asMarker]

end MdIt.Inline
