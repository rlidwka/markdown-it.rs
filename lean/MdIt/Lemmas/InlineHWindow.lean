/-
  Facts about the raw-HTML tag matcher alone (`Html.tagRest` / `Html.tagMatch`, i.e. `HTML_TAG_RE`): its verdict
  under two windows.  This is what `FlatL2` of the memo-safety development (`Lemmas/MemoSafeLamDef.lean`)
  needs of the html rule; nothing here mentions the inline parser.

  Windows are compared as lists: the SMALLER window is `w` (text up to `pos_max'`), the LARGER one is
  `w ++ x` (text up to `pos_max ≥ pos_max'`).  For a matcher `f : List Char → Option (List Char)` (result =
  what is left behind the match):

      Ext f  :=  f w = some r  →  f (w ++ x) = some (r ++ x)
                 a match under the smaller window IS the match under every larger window (same extent)
      Shr f  :=  f (w ++ x) = some r0 → |x| ≤ |r0|  →  ∃ r, r0 = r ++ x ∧ f w = some r
                 a match under the larger window that ends inside the smaller one IS the match under the
                 smaller window

  Proved: `Ext` and `Shr` for every alternative but the open tag (`closeTagK_ext/_shr`, `commentRest_ext/_shr`,
  `findSub_ext/_shr`, `declRest_ext/_shr`, `specialRest_ext/_shr`; the lazy `[\s\S]*?` and `[^>]*` stop at the
  FIRST terminator) and for the whole matcher on windows that do not start an open tag (`tagRest_ext_nonopen`,
  `tagRest_shr_nonopen`).  For the open tag (attribute backtracking, `attrsK`): `Shr` (`openTagK_shr`) and the
  weak form of `Ext`, "the larger window matches too" (`openTagK_ext_weak`), by a joint induction over `attrsK`
  (`PA_all`): the candidates of the value backtracking under the larger window are those under the smaller one
  with `x` appended, in the same order, plus inserted candidates that lie inside `x` (`Emb`, `valueEnds_emb`);
  `Shr` at a candidate uses the weak `Ext` at the EARLIER candidates and vice versa.  Hence for the whole
  `HTML_TAG_RE`: `tagRest_shr`, `tagRest_ext_weak`, and `extent_flatL2` (no match under the larger window ⇒ none
  under the smaller; a match under the larger window whose extent fits into the smaller window is the match
  under the smaller window), which is all `FlatL2` asks.

  Open, and not needed: `Ext` for the open tag (the match under the larger window has the SAME extent).  The
  induction does not give it: a higher-priority candidate that fails under `w` could succeed under `w ++ x`
  with a match that extends past the cut, where `Shr` says nothing.  The only construct that can run past the
  cut is a quoted value whose quote is not closed inside `w`, and `=` forces a value, so every parse of `w`
  through that attribute should fail; no counterexample among all `<a` + at most 6 characters of
  a ␠ = " ' > / < U+00A0 ` \n (every split of every string).
-/
import MdIt.Props.Html
import MdIt.Lemmas.KernelEval

namespace MdIt.InlineH.Window
open MdIt.Html
open MdIt.InlineOps (byteLen)

def Ext (f : List Char → Option (List Char)) : Prop :=
  ∀ w x r, f w = some r → f (w ++ x) = some (r ++ x)

def Shr (f : List Char → Option (List Char)) : Prop :=
  ∀ w x r0, f (w ++ x) = some r0 → x.length ≤ r0.length → ∃ r, r0 = r ++ x ∧ f w = some r

/-! ## greedy runs -/

theorem dropWhile_append_of_ne {p : Char → Bool} : ∀ {w x : List Char}, w.dropWhile p ≠ [] →
    (w ++ x).dropWhile p = w.dropWhile p ++ x
  | [], _, h => absurd rfl h
  | c :: t, x, h => by
    simp only [List.cons_append, List.dropWhile_cons] at h ⊢
    split
    · next hc => rw [if_pos hc] at h; exact dropWhile_append_of_ne h
    · rfl

theorem dropWhile_append_of_nil {p : Char → Bool} : ∀ {w x : List Char}, w.dropWhile p = [] →
    (w ++ x).dropWhile p = x.dropWhile p
  | [], _, _ => rfl
  | c :: t, x, h => by
    simp only [List.cons_append, List.dropWhile_cons] at h ⊢
    split
    · next hc => rw [if_pos hc] at h; exact dropWhile_append_of_nil h
    · next hc => rw [if_neg hc] at h; cases h

theorem dropWhile_append_cons {p : Char → Bool} {w x : List Char} {c : Char} {r : List Char}
    (h : w.dropWhile p = c :: r) : (w ++ x).dropWhile p = c :: (r ++ x) := by
  rw [dropWhile_append_of_ne (by rw [h]; simp), h]; rfl

/-- the run of the larger window, seen from the smaller one: it stopped inside the smaller window, or it
    ran through its end (then what is left is a suffix of `x`) -/
theorem dropWhile_append_cases (p : Char → Bool) (w x : List Char) :
    (∃ c r, w.dropWhile p = c :: r ∧ (w ++ x).dropWhile p = c :: (r ++ x)) ∨
    (w.dropWhile p = [] ∧ (w ++ x).dropWhile p = x.dropWhile p) := by
  cases h : w.dropWhile p with
  | nil => exact .inr ⟨rfl, dropWhile_append_of_nil h⟩
  | cons c r => exact .inl ⟨c, r, rfl, dropWhile_append_cons h⟩

/-- a run of the larger window that leaves at least `x` behind stopped inside the smaller window -/
theorem dropWhile_shr {p : Char → Bool} {w x : List Char} {a : Char} {r0 : List Char}
    (h : (w ++ x).dropWhile p = a :: r0) (hx : x.length ≤ r0.length) :
    ∃ r, r0 = r ++ x ∧ w.dropWhile p = a :: r := by
  rcases dropWhile_append_cases p w x with ⟨c, r, e1, e2⟩ | ⟨_, e2⟩
  · rw [e2] at h; cases h; exact ⟨r, rfl, e1⟩
  · have := length_dropWhile_le p x
    rw [← e2, h, List.length_cons] at this; omega

/-! ## literals -/

theorem stripPrefix_self (pat s : List Char) : stripPrefix pat (pat ++ s) = some s := by
  induction pat with
  | nil => simp [stripPrefix]
  | cons p ps ih => simp only [List.cons_append, stripPrefix, if_true]; exact ih

theorem stripPrefix_le {pat s r : List Char} (h : stripPrefix pat s = some r) : r.length ≤ s.length := by
  rw [stripPrefix_eq h, List.length_append]; omega

theorem stripPrefix_ext (pat : List Char) : Ext (stripPrefix pat) := by
  intro w x r h
  rw [stripPrefix_eq h, List.append_assoc]
  exact stripPrefix_self _ _

/-- `w ++ x = p ++ s` with `|x| ≤ |s|`: `p` is a prefix of `w` -/
theorem split_prefix {w x p s : List Char} (h : w ++ x = p ++ s) (hl : x.length ≤ s.length) :
    ∃ w', w = p ++ w' ∧ s = w' ++ x := by
  rcases List.append_eq_append_iff.mp h with ⟨a, hp, hx⟩ | ⟨c, hw, hs⟩
  · have ha : a = [] := by
      have := congrArg List.length hx; simp at this
      exact List.eq_nil_of_length_eq_zero (by omega)
    subst ha
    simp only [List.append_nil, List.nil_append] at hp hx
    exact ⟨[], by simp [hp], by simp [hx]⟩
  · exact ⟨c, hw, hs⟩

theorem stripPrefix_shr (pat : List Char) : Shr (stripPrefix pat) := by
  intro w x r0 h hl
  obtain ⟨r, rfl, rfl⟩ := split_prefix (stripPrefix_eq h) hl
  exact ⟨r, rfl, stripPrefix_self pat r⟩

/-- the first occurrence of a literal -/
theorem findSub_ext (pat : List Char) : Ext (findSub pat) := by
  intro w
  induction w with
  | nil =>
    intro x r h
    obtain ⟨rfl, rfl⟩ := List.append_eq_nil_iff.mp (stripPrefix_eq (show stripPrefix pat [] = some r from h)).symm
    cases x <;> simp [findSub, stripPrefix]
  | cons c t ih =>
    intro x r h
    simp only [findSub] at h
    simp only [List.cons_append, findSub]
    split at h
    · next rest hs =>
      simp only [Option.some.injEq] at h; subst h
      have := stripPrefix_ext pat _ x _ hs
      simp only [List.cons_append] at this
      rw [this]
    · next hs =>
      -- no occurrence at this position in the smaller window; none in the larger one either, because
      -- a later occurrence lies entirely inside the smaller window
      cases hs' : stripPrefix pat (c :: (t ++ x)) with
      | none => simp only; exact ih x r h
      | some r1 =>
        exfalso
        obtain ⟨pre, hpre⟩ := findSub_suffix h
        have e1 := congrArg List.length (stripPrefix_eq hs')
        obtain ⟨r2, _, hw⟩ := stripPrefix_shr pat (c :: t) x r1 hs' (by
          have := congrArg List.length hpre; simp at this e1; omega)
        rw [hw] at hs; cases hs

theorem findSub_le {pat s r : List Char} (h : findSub pat s = some r) : r.length ≤ s.length := by
  obtain ⟨pre, rfl⟩ := findSub_suffix h
  simp only [List.length_append]; omega

theorem findSub_shr (pat : List Char) : Shr (findSub pat) := by
  intro w
  induction w with
  | nil =>
    intro x r0 h hl
    obtain ⟨pre, hpre⟩ := findSub_suffix h
    obtain ⟨w', hw, rfl⟩ := split_prefix hpre hl
    simp only [List.nil_eq, List.append_eq_nil_iff] at hw
    obtain ⟨⟨rfl, rfl⟩, rfl⟩ := hw
    exact ⟨[], rfl, by simp [findSub, stripPrefix]⟩
  | cons c t ih =>
    intro x r0 h hl
    simp only [List.cons_append, findSub] at h
    simp only [findSub]
    split at h
    · next rest hs =>
      simp only [Option.some.injEq] at h; subst h
      obtain ⟨r, hr, hw⟩ := stripPrefix_shr pat (c :: t) x _ hs hl
      exact ⟨r, hr, by rw [hw]⟩
    · next hs =>
      obtain ⟨r, hr, hw⟩ := ih x r0 h hl
      refine ⟨r, hr, ?_⟩
      cases hs' : stripPrefix pat (c :: t) with
      | none => simp only; exact hw
      | some r1 =>
        have := stripPrefix_ext pat _ x _ hs'
        simp only [List.cons_append] at this
        rw [this] at hs; cases hs

/-! ## one matcher behind another -/

theorem Ext.bind {f g : List Char → Option (List Char)} (hf : Ext f) (hg : Ext g) :
    Ext (fun s => (f s).bind g) := by
  intro w x r (h : (f w).bind g = some r)
  show (f (w ++ x)).bind g = some (r ++ x)
  cases hfw : f w with
  | none => rw [hfw] at h; cases h
  | some r1 => rw [hfw] at h; rw [hf w x r1 hfw]; exact hg r1 x r h

/-- the second matcher consumes, so what the first one leaves is at least `x` too -/
theorem Shr.bind {f g : List Char → Option (List Char)} (hf : Shr f) (hg : Shr g)
    (hle : ∀ s r, g s = some r → r.length ≤ s.length) : Shr (fun s => (f s).bind g) := by
  intro w x r0 (h : (f (w ++ x)).bind g = some r0) hx
  show ∃ r, r0 = r ++ x ∧ (f w).bind g = some r
  cases hfx : f (w ++ x) with
  | none => rw [hfx] at h; cases h
  | some r1 =>
    rw [hfx] at h
    have := hle r1 r0 h
    obtain ⟨r1', rfl, hw⟩ := hf w x r1 hfx (by omega)
    obtain ⟨r, hr, hg'⟩ := hg r1' x r0 h hx
    exact ⟨r, hr, by rw [hw]; exact hg'⟩

/-! ## the close tag `</name\s*>` -/

theorem closeTagK_ext : Ext (closeTagK always) := by
  intro w x r h
  obtain ⟨c, t, rfl, hc, hd, _⟩ := closeTagK_ok h
  cases ht : t.dropWhile isTagChar with
  | nil => rw [ht] at hd; cases hd
  | cons a u =>
    rw [ht] at hd
    exact closeTagK_mk (t := t ++ x) hc (by rw [dropWhile_append_cons ht]; exact dropWhile_append_cons hd) rfl

theorem closeTagK_shr : Shr (closeTagK always) := by
  intro w x r0 h hx
  obtain ⟨c, t, heq, hc, hd, _⟩ := closeTagK_ok h
  have h1 := length_dropWhile_le isWs (t.dropWhile isTagChar)
  have h2 := length_dropWhile_le isTagChar t
  rw [hd, List.length_cons] at h1
  obtain ⟨w', rfl, rfl⟩ := split_prefix (p := ['<', '/', c]) (s := t) heq (by omega)
  rcases dropWhile_append_cases isTagChar w' x with ⟨a, u, e1, e2⟩ | ⟨e1, e2⟩
  · rw [e2] at hd
    obtain ⟨r, hr, hw⟩ := dropWhile_shr (w := a :: u) hd hx
    exact ⟨r, hr, closeTagK_mk (t := w') hc (by rw [e1]; exact hw) rfl⟩
  · -- the name runs through the end of the smaller window: the match ends inside `x`
    rw [e2] at h1
    have := length_dropWhile_le isTagChar x
    omega

/-! ## the declaration `<![A-Z]+\s+[^>]*>` (behind `<!`) -/

theorem declRest_lt {s r : List Char} (h : declRest s = some r) : r.length < s.length := by
  obtain ⟨c, t, v, u, a, rfl, _, hd, _, hd2⟩ := declRest_ok h
  have h1 := length_dropWhile_le isUpper t
  have h2 := length_dropWhile_le (· != '>') u
  rw [hd, List.length_cons] at h1
  rw [hd2, List.length_cons] at h2
  rw [List.length_cons]; omega

theorem declRest_ext : Ext declRest := by
  intro w x r h
  obtain ⟨c, t, v, u, a, rfl, hc, hd, hv, hd2⟩ := declRest_ok h
  exact declRest_mk (t := t ++ x) hc (dropWhile_append_cons hd) hv (dropWhile_append_cons hd2)

theorem declRest_shr : Shr declRest := by
  intro w x r0 h hx
  have hlt := declRest_lt h
  obtain ⟨c, t, v, u, a, heq, hc, hd, hv, hd2⟩ := declRest_ok h
  have h2 := length_dropWhile_le (· != '>') u
  rw [hd2, List.length_cons] at h2
  rw [heq, List.length_cons] at hlt
  obtain ⟨w', rfl, rfl⟩ := split_prefix (p := [c]) (s := t) heq (by omega)
  obtain ⟨u', rfl, hw1⟩ := dropWhile_shr hd (by omega)
  obtain ⟨r, hr, hw2⟩ := dropWhile_shr hd2 hx
  exact ⟨r, hr, declRest_mk (t := w') hc hw1 hv hw2⟩

/-! ## the comment body `(?:-?[^-])*-->` -/

theorem commentBody_lt {s r : List Char} (h : commentBody s = some r) : r.length < s.length := by
  rw [commentBody_eq] at h
  cases hf : findSub ['-', '-'] s with
  | none => rw [hf] at h; cases h
  | some r1 =>
    rw [hf] at h
    obtain ⟨pre, rfl⟩ := findSub_suffix hf
    have := stripPrefix_le h
    simp only [List.length_append, List.length_cons, List.length_nil]; omega

theorem commentBody_ext : Ext commentBody := by
  rw [show commentBody = _ from funext commentBody_eq]
  exact (findSub_ext _).bind (stripPrefix_ext _)

theorem commentBody_shr : Shr commentBody := by
  rw [show commentBody = _ from funext commentBody_eq]
  exact (findSub_shr _).bind (stripPrefix_shr _) fun _ _ => stripPrefix_le

/-! ## the comment behind `<!--` -/

theorem commentRest_lt {s r : List Char} (h : commentRest s = some r) : r.length < s.length := by
  rcases commentRest_ok h with rfl | ⟨d, t, rfl, _, _, hb⟩ | ⟨c, t, rfl, _, _, hb⟩
  · simp only [List.length_cons]; omega
  · have := commentBody_lt hb; simp only [List.length_cons]; omega
  · have := commentBody_lt hb; simp only [List.length_cons]; omega

theorem commentRest_ext : Ext commentRest := by
  intro w x r h
  rcases commentRest_ok h with rfl | ⟨d, t, rfl, h1, h2, hb⟩ | ⟨c, t, rfl, h1, h2, hb⟩
  · rfl
  · exact (commentRest_dash h1 h2).trans (commentBody_ext t x r hb)
  · exact (commentRest_other h1 h2).trans (commentBody_ext t x r hb)

theorem commentRest_shr : Shr commentRest := by
  intro w x r0 h hx
  rcases commentRest_ok h with heq | ⟨d, t, heq, h1, h2, hb⟩ | ⟨c, t, heq, h1, h2, hb⟩
  · obtain ⟨w', rfl, rfl⟩ := split_prefix (p := ['-', '-', '>']) heq hx
    exact ⟨w', rfl, rfl⟩
  · have := commentBody_lt hb
    obtain ⟨w', rfl, rfl⟩ := split_prefix (p := ['-', d]) (s := t) heq (by omega)
    obtain ⟨r, hr, hw⟩ := commentBody_shr w' x r0 hb hx
    exact ⟨r, hr, (commentRest_dash h1 h2).trans hw⟩
  · have := commentBody_lt hb
    obtain ⟨w', rfl, rfl⟩ := split_prefix (p := [c]) (s := t) heq (by omega)
    obtain ⟨r, hr, hw⟩ := commentBody_shr w' x r0 hb hx
    exact ⟨r, hr, (commentRest_other h1 h2).trans hw⟩

/-! ## the four alternatives that start with `<!` or `<?` -/

theorem specialRest_decl {s r : List Char} (h : declRest s = some r) : specialRest ('<' :: '!' :: s) = some r := by
  obtain ⟨c, t, _, _, _, rfl, hc, _⟩ := declRest_ok h
  unfold specialRest
  split
  · next r' heq =>
    simp only [List.cons.injEq, true_and] at heq
    rw [heq.1] at hc; simp [isUpper] at hc
  · next r' heq => simp at heq
  · next r' heq =>
    simp only [List.cons.injEq, true_and] at heq
    rw [heq.1] at hc; simp [isUpper] at hc
  · next r' heq =>
    simp only [List.cons.injEq, true_and] at heq
    rw [← heq]; exact h
  · next hno => exact absurd rfl (hno _)

theorem specialRest_ext : Ext specialRest := by
  intro w x r h
  rcases specialRest_ok h with ⟨t, rfl, h'⟩ | ⟨t, rfl, h'⟩ | ⟨t, rfl, h'⟩ | ⟨t, rfl, h'⟩
  · exact commentRest_ext t x r h'
  · exact findSub_ext _ t x r h'
  · exact findSub_ext _ t x r h'
  · exact specialRest_decl (declRest_ext _ x _ h')

theorem specialRest_shr : Shr specialRest := by
  intro w x r0 h hx
  rcases specialRest_ok h with ⟨r', heq, h'⟩ | ⟨r', heq, h'⟩ | ⟨r', heq, h'⟩ | ⟨r', heq, h'⟩
  · have hlt := commentRest_lt h'
    obtain ⟨w', rfl, rfl⟩ := split_prefix (p := ['<', '!', '-', '-']) (s := r') heq (by omega)
    obtain ⟨r, hr, hw⟩ := commentRest_shr _ x r0 h' hx
    exact ⟨r, hr, hw⟩
  · have hlt := findSub_le h'
    obtain ⟨w', rfl, rfl⟩ := split_prefix (p := ['<', '?']) (s := r') heq (by omega)
    obtain ⟨r, hr, hw⟩ := findSub_shr _ _ x r0 h' hx
    exact ⟨r, hr, hw⟩
  · have hlt := findSub_le h'
    obtain ⟨w', rfl, rfl⟩ := split_prefix (p := ['<', '!', '[', 'C', 'D', 'A', 'T', 'A', '[']) (s := r') heq (by omega)
    obtain ⟨r, hr, hw⟩ := findSub_shr _ _ x r0 h' hx
    exact ⟨r, hr, hw⟩
  · have hlt := declRest_lt h'
    obtain ⟨w', rfl, rfl⟩ := split_prefix (p := ['<', '!']) (s := r') heq (by omega)
    obtain ⟨r, hr, hw⟩ := declRest_shr _ x r0 h' hx
    exact ⟨r, hr, specialRest_decl hw⟩

/-! ## the whole matcher on windows that do not start an open tag -/

theorem specialRest_head {s r : List Char} (h : specialRest s = some r) :
    ∃ c t, s = '<' :: c :: t ∧ (c = '!' ∨ c = '?') := by
  rcases specialRest_ok h with ⟨t, rfl, _⟩ | ⟨t, rfl, _⟩ | ⟨t, rfl, _⟩ | ⟨t, rfl, _⟩
  · exact ⟨_, _, rfl, .inl rfl⟩
  · exact ⟨_, _, rfl, .inr rfl⟩
  · exact ⟨_, _, rfl, .inl rfl⟩
  · exact ⟨_, _, rfl, .inl rfl⟩

theorem openTagK_second {k : List Char → Bool} {c : Char} {t : List Char} (h : isAlpha c = false) :
    openTagK k ('<' :: c :: t) = none := by
  simp [openTagK, h]

theorem closeTagK_second {k : List Char → Bool} {c : Char} {t : List Char} (h : c ≠ '/') :
    closeTagK k ('<' :: c :: t) = none := by
  unfold closeTagK
  split
  · next c' t' heq => simp only [List.cons.injEq, true_and] at heq; exact absurd heq.1 h
  · rfl

/-- **Ext, every alternative but the open tag**: a match of the close tag / comment / processing
    instruction / declaration / CDATA alternative under the smaller window is THE match of `HTML_TAG_RE`
    under every larger window — same extent -/
theorem tagRest_ext_nonopen {w x r : List Char} (hopen : openTagK always w = none)
    (h : tagRest w = some r) : tagRest (w ++ x) = some (r ++ x) := by
  rcases tagRest_ok h with ho | hc | hs
  · rw [hopen] at ho; cases ho
  · obtain ⟨c, t, rfl, _⟩ := closeTagK_ok hc
    have := closeTagK_ext _ x _ hc
    unfold tagRest
    rw [show ('<' :: '/' :: c :: t) ++ x = '<' :: '/' :: (c :: t ++ x) from rfl] at this ⊢
    rw [openTagK_second (by decide), this]
  · obtain ⟨c, t, rfl, hct⟩ := specialRest_head hs
    have := specialRest_ext _ x _ hs
    unfold tagRest
    rw [show ('<' :: c :: t) ++ x = '<' :: c :: (t ++ x) from rfl] at this ⊢
    rw [openTagK_second (by rcases hct with rfl | rfl <;> decide),
      closeTagK_second (by rcases hct with rfl | rfl <;> decide), this]

/-- **Shr, every alternative but the open tag**: a match under the larger window that is not an open tag and
    ends inside the smaller window is the match under the smaller window -/
theorem tagRest_shr_nonopen {w x r0 : List Char} (hopen : openTagK always (w ++ x) = none)
    (h : tagRest (w ++ x) = some r0) (hx : x.length ≤ r0.length) :
    ∃ r, r0 = r ++ x ∧ tagRest w = some r ∧ openTagK always w = none := by
  rcases tagRest_ok h with ho | hc | hs
  · rw [hopen] at ho; cases ho
  · obtain ⟨r, hr, hw⟩ := closeTagK_shr w x _ hc hx
    obtain ⟨c, t, rfl, _⟩ := closeTagK_ok hw
    have ho : openTagK always ('<' :: '/' :: c :: t) = none := openTagK_second (by decide)
    exact ⟨r, hr, by unfold tagRest; rw [ho, hw], ho⟩
  · obtain ⟨r, hr, hw⟩ := specialRest_shr w x _ hs hx
    obtain ⟨c, t, rfl, hct⟩ := specialRest_head hw
    have ho : openTagK always ('<' :: c :: t) = none :=
      openTagK_second (by rcases hct with rfl | rfl <;> decide)
    have hcl : closeTagK always ('<' :: c :: t) = none :=
      closeTagK_second (by rcases hct with rfl | rfl <;> decide)
    exact ⟨r, hr, by unfold tagRest; rw [ho, hcl, hw], ho⟩

/-! ## the open tag: candidate lists of the attribute backtracking under a larger window -/

/-- `L'` is `L` with `x` appended to every member, plus inserted members no longer than `x`, order kept -/
inductive Emb (x : List Char) : List (List Char) → List (List Char) → Prop
  | nil : Emb x [] []
  | keep {a : List Char} {L L' : List (List Char)} : Emb x L L' → Emb x (a :: L) ((a ++ x) :: L')
  | extra {e : List Char} {L L' : List (List Char)} : e.length ≤ x.length → Emb x L L' → Emb x L (e :: L')

theorem Emb.append {x : List Char} {A A' B B' : List (List Char)} (h1 : Emb x A A') (h2 : Emb x B B') :
    Emb x (A ++ B) (A' ++ B') := by
  induction h1 with
  | nil => exact h2
  | keep _ ih => exact .keep ih
  | extra he _ ih => exact .extra he ih

theorem Emb.extras {x : List Char} : ∀ (E : List (List Char)), (∀ e ∈ E, e.length ≤ x.length) → Emb x [] E
  | [], _ => .nil
  | e :: E, h => .extra (h e List.mem_cons_self) (Emb.extras E (fun e' he' => h e' (List.mem_cons_of_mem _ he')))

theorem Emb.mem {x : List Char} {L L' : List (List Char)} (h : Emb x L L') {v : List Char} (hv : v ∈ L) :
    v ++ x ∈ L' := by
  induction h with
  | nil => cases hv
  | keep _ ih =>
    rcases List.mem_cons.mp hv with rfl | hv
    · exact List.mem_cons_self
    · exact List.mem_cons_of_mem _ (ih hv)
  | extra _ _ ih => exact List.mem_cons_of_mem _ (ih hv)

theorem Emb.flatMap {x : List Char} {g : List Char → List (List Char)}
    (hg : ∀ m, Emb x (g m) (g (m ++ x))) (hs : ∀ e : List Char, e.length ≤ x.length → Emb x [] (g e))
    {M M' : List (List Char)} (h : Emb x M M') : Emb x (M.flatMap g) (M'.flatMap g) := by
  induction h with
  | nil => exact .nil
  | keep _ ih => simp only [List.flatMap_cons]; exact (hg _).append ih
  | extra he _ ih =>
    simp only [List.flatMap_cons]
    have := (hs _ he).append ih
    simpa using this

theorem splits_last (p : Char → Bool) (x : List Char) :
    ∃ E, splits p x = E ++ [x] ∧ ∀ e ∈ E, e.length ≤ x.length := by
  cases x with
  | nil => exact ⟨[], rfl, by simp⟩
  | cons c r =>
    simp only [splits]
    split
    · exact ⟨splits p r, rfl, fun e he => by have := mem_splits_le he; simp; omega⟩
    · exact ⟨[], rfl, by simp⟩

theorem splits_emb (p : Char → Bool) (x : List Char) : ∀ t, Emb x (splits p t) (splits p (t ++ x))
  | [] => by
    obtain ⟨E, hE, hs⟩ := splits_last p x
    simp only [List.nil_append, splits, hE]
    have := (Emb.extras E hs).append (Emb.keep (a := []) Emb.nil)
    simpa using this
  | c :: r => by
    simp only [List.cons_append, splits]
    split
    · exact (splits_emb p x r).append (Emb.keep (a := c :: r) Emb.nil)
    · exact Emb.keep (a := c :: r) Emb.nil

theorem mem_quotedEnd_lt {q : Char} {x v : List Char} (hv : v ∈ quotedEnd q x) : v.length < x.length := by
  unfold quotedEnd at hv
  split at hv
  · next y r'' hd =>
    simp only [List.mem_singleton] at hv; subst hv
    have := length_dropWhile_le (· != q) x
    rw [hd] at this; simp at this; omega
  · cases hv

theorem quotedEnd_emb (q : Char) (r x : List Char) : Emb x (quotedEnd q r) (quotedEnd q (r ++ x)) := by
  rcases dropWhile_append_cases (· != q) r x with ⟨c, r', e1, e2⟩ | ⟨e1, e2⟩
  · unfold quotedEnd
    rw [e1, e2]; exact Emb.keep Emb.nil
  · have h1 : quotedEnd q r = [] := by unfold quotedEnd; rw [e1]
    have h2 : quotedEnd q (r ++ x) = quotedEnd q x := by unfold quotedEnd; rw [e2]
    rw [h1, h2]
    exact Emb.extras _ (fun v hv => by have := mem_quotedEnd_lt hv; omega)

theorem valueAt_short {x e : List Char} (he : e.length ≤ x.length) : Emb x [] (valueAt e) :=
  Emb.extras _ (fun v hv => by have := mem_valueAt_lt hv; omega)

theorem valueAt_emb (x : List Char) : ∀ m, Emb x (valueAt m) (valueAt (m ++ x))
  | [] => by
    simp only [List.nil_append]
    exact Emb.extras _ (fun v hv => by have := mem_valueAt_lt hv; omega)
  | c :: r => by
    simp only [List.cons_append, valueAt]
    split
    · exact splits_emb _ x r
    · split
      · exact quotedEnd_emb _ r x
      · split
        · exact quotedEnd_emb _ r x
        · exact Emb.nil

theorem valueEnds_emb (s x : List Char) : Emb x (valueEnds s) (valueEnds (s ++ x)) := by
  rcases dropWhile_append_cases isWs s x with ⟨c, r, e1, e2⟩ | ⟨e1, e2⟩
  · unfold valueEnds
    rw [e1, e2]
    simp only
    split
    · exact Emb.flatMap (valueAt_emb x) (fun e he => valueAt_short he) (splits_emb isWs x r)
    · exact Emb.nil
  · have h1 : valueEnds s = [] := by unfold valueEnds; rw [e1]
    have h2 : valueEnds (s ++ x) = valueEnds x := by unfold valueEnds; rw [e2]
    rw [h1, h2]
    exact Emb.extras _ (fun v hv => by have := mem_valueEnds_lt hv; omega)

/-! ## the open tag: `closeK`, and the induction over `attrsK` -/

theorem closeK_ext : Ext (closeK always) := by
  intro w x r h
  exact closeK_mk ((closeK_ok h).1.imp dropWhile_append_cons dropWhile_append_cons) rfl

theorem closeK_lt {s r : List Char} (h : closeK always s = some r) : r.length < s.length :=
  (closeK_spec h).2.1

theorem closeK_shr : Shr (closeK always) := by
  intro w x r0 h hx
  have hd := (closeK_ok h).1
  rcases dropWhile_append_cases isWs w x with ⟨c, u, e1, e2⟩ | ⟨e1, e2⟩
  · rw [e2] at hd
    rcases hd with hd | hd
    · cases hd; exact ⟨u, rfl, closeK_mk (.inl e1) rfl⟩
    · obtain ⟨rfl, heq⟩ := List.cons.inj hd
      cases u with
      | nil => cases heq; simp at hx; omega
      | cons d u' => cases heq; exact ⟨u', rfl, closeK_mk (.inr e1) rfl⟩
  · -- the white space runs through the end of the smaller window: the match ends inside `x`
    exfalso
    have := length_dropWhile_le isWs x
    rw [← e2] at this
    rcases hd with hd | hd <;> rw [hd] at this <;> simp at this <;> omega

/-- the attribute loop behind a tag name, with the always-true continuation -/
abbrev A := attrsK always

theorem A_lt {s r : List Char} (h : A s = some r) : r.length < s.length :=
  (attrsK_spec always _ _ _ (Nat.le_refl _) h).2.1

theorem A_nil : A [] = none := by
  unfold A; rw [attrsK_eq]; simp [attrHead, closeK]

/-- every way `A y` can succeed gives a result shorter than `B` -/
theorem A_bound {y r0 : List Char} {B : Nat} (h : A y = some r0)
    (h1 : ∀ s2, attrHead y = some s2 → s2.length ≤ B)
    (h2 : ∀ r, closeK always y = some r → r.length < B) : r0.length < B := by
  unfold A at h
  rw [attrsK_eq] at h
  split at h
  · exact h2 _ h
  · next s2 ha =>
    have hb := h1 s2 ha
    rcases Option.or_eq_some_iff.mp h with hf | ⟨_, h⟩
    · obtain ⟨v, hv, hav⟩ := List.exists_of_findSome?_eq_some hf
      have := A_lt hav; have := mem_valueEnds_lt hv; omega
    · rcases Option.or_eq_some_iff.mp h with hs | ⟨_, h⟩
      · have := A_lt hs; omega
      · exact h2 _ h

theorem emb_findSome_some {x : List Char} {L L' : List (List Char)} (h : Emb x L L')
    (hE : ∀ v ∈ L, (A v).isSome = true → (A (v ++ x)).isSome = true)
    (hs : (L.findSome? A).isSome = true) : (L'.findSome? A).isSome = true := by
  rw [List.findSome?_isSome_iff] at hs ⊢
  obtain ⟨v, hv, hav⟩ := hs
  exact ⟨v ++ x, h.mem hv, hE v hv hav⟩

theorem emb_findSome_shr {x : List Char} {L L' : List (List Char)} (h : Emb x L L') :
    (∀ v ∈ L, (A v).isSome = true → (A (v ++ x)).isSome = true) →
    (∀ v ∈ L, ∀ r0, A (v ++ x) = some r0 → x.length ≤ r0.length → ∃ r, r0 = r ++ x ∧ A v = some r) →
    ∀ r0, L'.findSome? A = some r0 → x.length ≤ r0.length →
      ∃ r, r0 = r ++ x ∧ L.findSome? A = some r := by
  induction h with
  | nil => intro _ _ r0 h; simp at h
  | @keep a L L' _ ih =>
    intro hE hS r0 hf hx
    simp only [List.findSome?_cons] at hf ⊢
    cases hax : A (a ++ x) with
    | some r1 =>
      rw [hax] at hf; simp only [Option.some.injEq] at hf; subst hf
      obtain ⟨r, hr, har⟩ := hS a List.mem_cons_self _ hax hx
      exact ⟨r, hr, by rw [har]⟩
    | none =>
      rw [hax] at hf; dsimp only at hf
      have ha : A a = none := by
        cases haa : A a with
        | none => rfl
        | some r =>
          have := hE a List.mem_cons_self (by rw [haa]; rfl)
          rw [hax] at this; cases this
      rw [ha]
      exact ih (fun v hv => hE v (List.mem_cons_of_mem _ hv)) (fun v hv => hS v (List.mem_cons_of_mem _ hv))
        r0 hf hx
  | @extra e L L' he _ ih =>
    intro hE hS r0 hf hx
    simp only [List.findSome?_cons] at hf
    cases hae : A e with
    | some r1 =>
      rw [hae] at hf; simp only [Option.some.injEq] at hf; subst hf
      have := A_lt hae; omega
    | none =>
      rw [hae] at hf; dsimp only at hf
      exact ih hE hS r0 hf hx

/-- the two facts of a result `a` under the smaller window and `a'` under the larger one: a match stays a
    match (possibly a longer one); a match of the larger window that leaves `x` behind is the match of the
    smaller one -/
def Win (x : List Char) (a a' : Option (List Char)) : Prop :=
  (a.isSome = true → a'.isSome = true) ∧
  (∀ r0, a' = some r0 → x.length ≤ r0.length → ∃ r, r0 = r ++ x ∧ a = some r)

theorem Win.of_ext_shr {f : List Char → Option (List Char)} (hE : Ext f) (hS : Shr f) (w x : List Char) :
    Win x (f w) (f (w ++ x)) := by
  refine ⟨fun h => ?_, hS w x⟩
  cases hc : f w with
  | none => rw [hc] at h; cases h
  | some r => rw [hE w x r hc]; rfl

/-- the first success of two -/
theorem Win.or {x : List Char} {a a' b b' : Option (List Char)} (ha : Win x a a') (hb : Win x b b') :
    Win x (a.or b) (a'.or b') := by
  cases a' with
  | some r' =>
    refine ⟨fun _ => rfl, fun r0 h hx => ?_⟩
    obtain ⟨r, hr, har⟩ := ha.2 r0 h hx
    exact ⟨r, hr, by rw [har]; rfl⟩
  | none =>
    cases a with
    | none => exact hb
    | some r => cases ha.1 rfl

/-- weak `Ext` and `Shr` of the attribute loop `A`, for all windows of length `≤ n` -/
def PA (n : Nat) : Prop :=
  ∀ w x : List Char, w.length ≤ n →
    ((A w).isSome = true → (A (w ++ x)).isSome = true) ∧
    (∀ r0, A (w ++ x) = some r0 → x.length ≤ r0.length → ∃ r, r0 = r ++ x ∧ A w = some r)

/-- when both windows have no attribute head, `A` is `closeK` -/
theorem PA_close {w x : List Char} (h1 : attrHead w = none) (h2 : attrHead (w ++ x) = none) :
    Win x (A w) (A (w ++ x)) := by
  have e1 : A w = closeK always w := by unfold A; rw [attrsK_eq, h1]
  have e2 : A (w ++ x) = closeK always (w ++ x) := by unfold A; rw [attrsK_eq, h2]
  rw [e1, e2]
  exact .of_ext_shr closeK_ext closeK_shr w x

/-- when the smaller window cannot match and every match of the larger one is short -/
theorem PA_vacuous {w x : List Char} (h1 : A w = none) (h2 : ∀ r0, A (w ++ x) = some r0 → r0.length < x.length) :
    Win x (A w) (A (w ++ x)) := by
  refine ⟨fun h => (by rw [h1] at h; cases h), fun r0 h hx => ?_⟩
  have := h2 r0 h; omega

/-- no `\s*/?>` where an attribute name starts -/
theorem closeK_attrStart {s t1 : List Char} {c1 : Char} (hd : s.dropWhile isWs = c1 :: t1)
    (hc1 : isAttrStart c1 = true) : closeK always s = none := by
  cases h : closeK always s with
  | none => rfl
  | some r => rcases (closeK_ok h).1 with e | e <;> rw [hd] at e <;> cases e <;> exact absurd hc1 (by decide)

theorem PA_nil (x : List Char) : Win x (A []) (A ([] ++ x)) :=
  PA_vacuous A_nil fun _ h => A_lt h

theorem PA_all : ∀ n, PA n := by
  intro n
  induction n with
  | zero =>
    intro w x hw
    obtain rfl := List.eq_nil_of_length_eq_zero (Nat.le_zero.mp hw)
    exact PA_nil x
  | succ n ih =>
    intro w x hw
    cases w with
    | nil => exact PA_nil x
    | cons c t =>
      by_cases hc : isWs c = true
      rotate_left
      · exact PA_close (by simp [attrHead, hc]) (by simp [attrHead, hc])
      rcases dropWhile_append_cases isWs t x with ⟨c1, t1, e1, e1'⟩ | ⟨e1, e1'⟩
      · by_cases hc1 : isAttrStart c1 = true
        rotate_left
        · exact PA_close (by simp [attrHead, hc, e1, hc1]) (by simp [attrHead, hc, e1', hc1])
        rcases dropWhile_append_cases isAttrChar t1 x with ⟨c2, t2, e2, e2'⟩ | ⟨e2, e2'⟩
        · -- the main case: an attribute head that ends inside the smaller window
          have hh1 : attrHead (c :: t) = some (c2 :: t2) := by simp [attrHead, hc, e1, hc1, e2]
          have hh2 : attrHead ((c :: t) ++ x) = some ((c2 :: t2) ++ x) := by
            simp [attrHead, hc, e1', hc1, e2']
          have hlen : (c2 :: t2).length ≤ n := by
            have h1 := length_dropWhile_le isWs t
            have h2 := length_dropWhile_le isAttrChar t1
            rw [e1] at h1; rw [e2] at h2; simp at h1 h2 hw ⊢; omega
          have hemb := valueEnds_emb (c2 :: t2) x
          have hmem : ∀ v ∈ valueEnds (c2 :: t2), v.length ≤ n := fun v hv => by
            have := mem_valueEnds_lt hv; omega
          have hE : ∀ v ∈ valueEnds (c2 :: t2), (A v).isSome = true → (A (v ++ x)).isSome = true :=
            fun v hv => (ih v x (hmem v hv)).1
          have hS : ∀ v ∈ valueEnds (c2 :: t2), ∀ r0, A (v ++ x) = some r0 → x.length ≤ r0.length →
              ∃ r, r0 = r ++ x ∧ A v = some r := fun v hv => (ih v x (hmem v hv)).2
          have ihs := ih (c2 :: t2) x hlen
          show Win x (A (c :: t)) (A ((c :: t) ++ x))
          unfold A
          rw [attrsK_eq, attrsK_eq, hh1, hh2]
          exact .or ⟨emb_findSome_some hemb hE, emb_findSome_shr hemb hE hS⟩
            (.or ihs (.of_ext_shr closeK_ext closeK_shr _ x))
        · -- the attribute name runs to the end of the smaller window
          apply PA_vacuous
          · have hh1 : attrHead (c :: t) = some [] := by simp [attrHead, hc, e1, hc1, e2]
            have hcl : closeK always (c :: t) = none := closeK_attrStart (t1 := t1) (by simp [hc, e1]) hc1
            unfold A; rw [attrsK_eq, hh1]
            have hv : valueEnds [] = [] := by simp [valueEnds]
            simp only [hv, List.findSome?_nil, show attrsK always [] = none from A_nil, hcl, Option.or_none]
          · intro r0 h
            apply A_bound h
            · intro s2 hs2
              have : attrHead ((c :: t) ++ x) = some (x.dropWhile isAttrChar) := by
                simp [attrHead, hc, e1', hc1, e2']
              rw [this] at hs2; simp only [Option.some.injEq] at hs2; subst hs2
              exact length_dropWhile_le _ _
            · intro r hr
              rw [closeK_attrStart (t1 := t1 ++ x) (by simp [hc, e1']) hc1] at hr
              cases hr
      · -- the smaller window is white space only
        apply PA_vacuous
        · have hh1 : attrHead (c :: t) = none := by simp [attrHead, hc, e1]
          unfold A; rw [attrsK_eq, hh1]
          unfold closeK
          have : (c :: t).dropWhile isWs = [] := by simp [hc, e1]
          rw [this]
        · intro r0 h
          have hd : ((c :: t) ++ x).dropWhile isWs = x.dropWhile isWs := by
            simp [hc, e1']
          apply A_bound h
          · intro s2 hs2
            simp only [List.cons_append, attrHead, hc, if_true, e1'] at hs2
            split at hs2
            · next c1 r' hd1 =>
              split at hs2
              · simp only [Option.some.injEq] at hs2; subst hs2
                have h1 := length_dropWhile_le isWs x
                have h2 := length_dropWhile_le isAttrChar r'
                rw [hd1] at h1; simp at h1; omega
              · cases hs2
            · cases hs2
          · intro r hr
            have hh : closeK always ((c :: t) ++ x) = closeK always x := by unfold closeK; rw [hd]
            rw [hh] at hr
            exact closeK_lt hr

/-! ## in terms of `tagMatch`-style extents (characters) -/

/-- the extent of the match in characters -/
def extent (s : List Char) : Option Nat := (tagRest s).map (fun r => s.length - r.length)

theorem extent_ext_nonopen {w x : List Char} {n : Nat} (hopen : openTagK always w = none)
    (h : extent w = some n) : extent (w ++ x) = some n := by
  unfold extent at h ⊢
  cases hr : tagRest w with
  | none => rw [hr] at h; cases h
  | some r =>
    rw [hr] at h
    rw [tagRest_ext_nonopen hopen hr]
    simp only [Option.map_some, Option.some.injEq, List.length_append] at h ⊢
    omega

/-- a match of the larger window whose extent fits into the smaller window leaves at least `x` behind, so the
    `Shr` fact of the matcher applies to it -/
theorem extent_shr_of {w x : List Char} {n : Nat} (h : extent (w ++ x) = some n) (hn : n ≤ w.length)
    (hS : ∀ r0, tagRest (w ++ x) = some r0 → x.length ≤ r0.length → ∃ r, r0 = r ++ x ∧ tagRest w = some r) :
    extent w = some n := by
  unfold extent at h ⊢
  cases hr : tagRest (w ++ x) with
  | none => rw [hr] at h; cases h
  | some r0 =>
    rw [hr] at h
    simp only [Option.map_some, Option.some.injEq, List.length_append] at h
    obtain ⟨mid, hm⟩ := tagRest_spec hr
    have hl : r0.length ≤ w.length + x.length := by
      have := congrArg List.length hm; simp at this; omega
    obtain ⟨r, hr0, hw⟩ := hS r0 hr (by omega)
    rw [hw]
    subst hr0
    simp only [Option.map_some, Option.some.injEq, List.length_append] at h ⊢
    omega

theorem extent_shr_nonopen {w x : List Char} {n : Nat} (hopen : openTagK always (w ++ x) = none)
    (h : extent (w ++ x) = some n) (hn : n ≤ w.length) : extent w = some n :=
  extent_shr_of h hn fun _ hr hx =>
    let ⟨r, hr0, hw, _⟩ := tagRest_shr_nonopen hopen hr hx
    ⟨r, hr0, hw⟩

/-! ## the open tag and the whole `HTML_TAG_RE` -/

/-- **the open tag, weak (E)**: a match under the smaller window ⇒ some match under the larger window -/
theorem openTagK_ext_weak {w x r : List Char} (h : openTagK always w = some r) :
    (openTagK always (w ++ x)).isSome = true := by
  obtain ⟨c, t, rfl, hc, h⟩ := openTagK_ok h
  show (openTagK always ('<' :: c :: (t ++ x))).isSome = true
  rw [openTagK_eq _ hc]
  rcases dropWhile_append_cases isTagChar t x with ⟨c1, t1, e1, e1'⟩ | ⟨e1, e1'⟩
  · rw [e1] at h; rw [e1']
    exact (PA_all _ (c1 :: t1) x (Nat.le_refl _)).1 (by show (A (c1 :: t1)).isSome = true; unfold A; rw [h]; rfl)
  · rw [e1] at h
    rw [show attrsK always [] = none from A_nil] at h; cases h

/-- **the open tag, (S)**: a match under the larger window that ends inside the smaller one is the match
    under the smaller one -/
theorem openTagK_shr : Shr (openTagK always) := by
  intro w x r0 h hx
  obtain ⟨c, t', heq, hc, h⟩ := openTagK_ok h
  have h1 := A_lt h
  have h2 := length_dropWhile_le isTagChar t'
  obtain ⟨t, rfl, rfl⟩ := split_prefix (p := ['<', c]) (s := t') heq (by omega)
  show ∃ r, r0 = r ++ x ∧ openTagK always ('<' :: c :: t) = some r
  rw [openTagK_eq _ hc]
  rcases dropWhile_append_cases isTagChar t x with ⟨c1, t1, e1, e1'⟩ | ⟨e1, e1'⟩
  · rw [e1'] at h; rw [e1]
    exact (PA_all _ (c1 :: t1) x (Nat.le_refl _)).2 r0 h hx
  · -- the name runs through the end of the smaller window: the match ends inside `x`
    rw [e1'] at h1
    have := length_dropWhile_le isTagChar x
    omega

/-- **`HTML_TAG_RE`, weak (E)**: the smaller window matches ⇒ the larger window matches (possibly longer:
    `FlatL2` asks `o0 = none → o = none`, which is this) -/
theorem tagRest_ext_weak {w x r : List Char} (h : tagRest w = some r) : (tagRest (w ++ x)).isSome = true := by
  cases ho : openTagK always w with
  | some r1 =>
    have := openTagK_ext_weak (x := x) ho
    unfold tagRest
    cases ho' : openTagK always (w ++ x) with
    | none => rw [ho'] at this; cases this
    | some r' => rfl
  | none => rw [tagRest_ext_nonopen ho h]; rfl

/-- **`HTML_TAG_RE`, (S)**, every alternative: a match under the larger window that ends inside the smaller
    window is the match under the smaller window -/
theorem tagRest_shr : Shr tagRest := by
  intro w x r0 h hx
  cases ho : openTagK always (w ++ x) with
  | some r1 =>
    have e : r1 = r0 := by unfold tagRest at h; rw [ho] at h; simpa using h
    subst e
    obtain ⟨r, hr, hw⟩ := openTagK_shr w x _ ho hx
    exact ⟨r, hr, by unfold tagRest; rw [hw]⟩
  | none =>
    obtain ⟨r, hr, hw, _⟩ := tagRest_shr_nonopen ho h hx
    exact ⟨r, hr, hw⟩

/-- **the `FlatL2` fact for the html rule**, on windows: no match under the larger window ⇒ none under the
    smaller; a match under the larger window whose extent fits into the smaller window is the match there -/
theorem extent_flatL2 (w x : List Char) :
    (extent (w ++ x) = none → extent w = none) ∧
    (∀ n, extent (w ++ x) = some n → n ≤ w.length → extent w = some n) := by
  constructor
  · intro h
    unfold extent at h ⊢
    cases hw : tagRest w with
    | none => rfl
    | some r =>
      have := tagRest_ext_weak (x := x) hw
      cases hx : tagRest (w ++ x) with
      | none => rw [hx] at this; cases this
      | some r' => rw [hx] at h; cases h
  · exact fun n h hn => extent_shr_of h hn (tagRest_shr w x)

/-! ## examples -/

-- Ext / Shr on a comment: the later `-->` of the larger window is not reached
example : extent "<!--a-->".toList = some 8 ∧ extent ("<!--a-->".toList ++ "x-->".toList) = some 8 ∧
    openTagK always "<!--a-->".toList = none := by decide_lits
-- a processing instruction ends at the FIRST `?>` under every window
example : extent "<?a?>b?>".toList = some 5 ∧ extent "<?a?>".toList = some 5 := by decide_lits
-- a match of the LARGER window that extends past the cut says nothing about the smaller one
-- (`FlatL2` asks nothing then): `<!--a--` + `>` ; `<a b="x>` + `y">`
example : extent "<!--a--".toList = none ∧ extent "<!--a-->".toList = some 8 := by decide_lits
example : extent "<a b=\"x>".toList = none ∧ extent "<a b=\"x>y\">".toList = some 11 := by decide_lits
-- the open tag: instances of Ext and Shr (the attribute value may hold a `>`; backtracking over an
-- unquoted value and over Unicode white space)
example : extent "<a b='>' c>".toList = some 11 ∧ extent "<a b='>' c>d>".toList = some 11 ∧
    extent "<a b=c d>".toList = some 9 ∧ extent "<a b=c d>e f='>".toList = some 9 ∧
    extent "<a b=\u00a0c>".toList = some 8 ∧ extent "<a b=\u00a0c>\u00a0>".toList = some 8 := by decide_lits

end MdIt.InlineH.Window
