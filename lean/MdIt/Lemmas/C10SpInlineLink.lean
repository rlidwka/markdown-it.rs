/-
  C10 with the sourcepos plugin — the exact inline simulation: links, one rule in lock step
  (`runRule_sim`), and the whole tokenizer as an instance of the engine `Inline.engine_simJ` of
  Lemmas/C10DocInlineRel.lean (see `Lemmas/C10SpInlineBase.lean`).
-/
import MdIt.Lemmas.C10SpInlineEmph
import MdIt.Lemmas.LinkStep

namespace MdIt.Inline.XG
open MdIt.InlineOps (Srcmap getSourcePosFor getMap byteLen slice)
open MdIt.Pipeline (MLe)

variable {P : Par}

theorem IRel.pos {s : Bool} {a b : IState} (h : IRel P s a b) : b.pos = a.pos := by
  obtain ⟨m, cs, rfl, _, _⟩ := h.out; rfl
theorem IRel.posMax {s : Bool} {a b : IState} (h : IRel P s a b) : b.posMax = a.posMax := by
  obtain ⟨m, cs, rfl, _, _⟩ := h.out; rfl
theorem IRel.src {s : Bool} {a b : IState} (h : IRel P s a b) : b.src = a.src := by
  obtain ⟨m, cs, rfl, _, _⟩ := h.out; rfl
theorem IRel.level {s : Bool} {a b : IState} (h : IRel P s a b) : b.level = a.level := by
  obtain ⟨m, cs, rfl, _, _⟩ := h.out; rfl
theorem IRel.linkLevel {s : Bool} {a b : IState} (h : IRel P s a b) : b.linkLevel = a.linkLevel := by
  obtain ⟨m, cs, rfl, _, _⟩ := h.out; rfl
theorem IRel.cache {s : Bool} {a b : IState} (h : IRel P s a b) : b.cache = a.cache := by
  obtain ⟨m, cs, rfl, _, _⟩ := h.out; rfl
theorem IRel.bottoms {s : Bool} {a b : IState} (h : IRel P s a b) : b.bottoms = a.bottoms := by
  obtain ⟨m, cs, rfl, _, _⟩ := h.out; rfl
theorem IRel.window {s : Bool} {a b : IState} (h : IRel P s a b) : b.window = a.window := by
  obtain ⟨m, cs, rfl, _, _⟩ := h.out; rfl

/-- a look-ahead / recursive call preserves the relation -/
def SimFn (P : Par) (s : Bool) (f : IState → Except Panic IState) : Prop :=
  ∀ a b a', IRel P s a b → f a = .ok a' → Sim s (IRel P s) a' (f b)

/-- results of the label loop and of `parse_link`: same answer, related states -/
def PRel (P : Par) (s : Bool) {α : Type} (x y : α × IState) : Prop := y.1 = x.1 ∧ IRel P s x.2 y.2

theorem IRel.setPos {s : Bool} {a b : IState} (h : IRel P s a b) (p : Nat) :
    IRel P s { a with pos := p } { b with pos := p } := by
  obtain ⟨m, cs, rfl, hm, hc⟩ := h.out
  exact IRel.mk' (a := { a with pos := p }) hm hc h.ks

theorem IRel.backticks {s : Bool} {a b : IState} (h : IRel P s a b) : b.backticks = a.backticks := by
  obtain ⟨m, cs, rfl, _, _⟩ := h.out; rfl

theorem IRel.of_eqs {s : Bool} {a b : IState} (h1 : b.src = a.src) (h2 : b.pos = a.pos)
    (h3 : b.posMax = a.posMax) (h4 : b.level = a.level) (h5 : b.linkLevel = a.linkLevel)
    (h6 : b.cache = a.cache) (h7 : b.backticks = a.backticks) (h8 : b.bottoms = a.bottoms)
    (hm : MRel s a.srcmap b.srcmap) (hc : LRel P s a.children b.children) (hk : KS P a b) :
    IRel P s a b := by
  refine ⟨?_, hm, hc, hk⟩
  cases a; cases b; simp only [] at *
  simp only [h1, h2, h3, h4, h5, h6, h7, h8]

theorem IRel.ctl {s : Bool} : Ctl (IRel P s) where
  eq := fun h => h.eq
  setPos := fun h p => h.setPos p
  setLevel := fun h _ => IRel.of_eqs h.src h.pos h.posMax rfl h.linkLevel h.cache h.backticks h.bottoms
    h.map h.ch h.ks
  setMemo := fun h _ _ => IRel.of_eqs h.src rfl h.posMax h.level h.linkLevel rfl h.backticks h.bottoms
    h.map h.ch h.ks

theorem parseLink_sim {s : Bool} {cfg : Cfg} {skip : IState → Except Panic IState} (hs : SimFn P s skip)
    {fuel : Nat} {a b : IState} {pos : Nat} {en : Bool} {r : Option LinkRes × IState} (rel : IRel P s a b)
    (h : parseLink cfg skip fuel a pos en = .ok r) :
    Sim s (PRel P s) r (parseLink cfg skip fuel b pos en) :=
  parseLink_ctl IRel.ctl hs rel h

/-! ### where the label ends (single run) -/

theorem parseLinkRef_labelEnd {cfg : Cfg} {skip : IState → Except Panic IState} {fuel : Nat} {st : IState}
    {ls le : Nat} {res : LinkRes} {st' : IState}
    (h : parseLinkRef cfg skip fuel st ls le = .ok (some res, st')) : res.labelEnd = le := by
  revert h
  fun_cases parseLinkRef cfg skip fuel st ls le
  all_goals intro h; cases h
  all_goals rfl

theorem parseLink_labelEnd {cfg : Cfg} {skip : IState → Except Panic IState} (hq : CalmFn skip)
    {fuel : Nat} {st : IState} {pos : Nat} {en : Bool} {res : LinkRes} {st' : IState}
    (h : parseLink cfg skip fuel st pos en = .ok (some res, st')) : res.labelEnd ≤ st.posMax := by
  unfold parseLink at h
  split at h
  · simp at h
  · simp at h
  · next le st1 hl =>
    obtain ⟨r, hr⟩ := parseLinkLabel_end hq hl
    obtain ⟨_, _, _, _, hb⟩ := (C05.slice_ok_iff _ _ _ _).mp hr
    simp only [] at h
    split at h
    · simp at h
    · simp only [Except.ok.injEq, Prod.mk.injEq, Option.some.injEq] at h
      obtain ⟨rfl, _⟩ := h
      simp only []; omega
    · rw [parseLinkRef_labelEnd h]; omega

theorem linkRule_sim {s : Bool} {cfg : Cfg} {skip tok : IState → Except Panic IState} (hs : SimFn P s skip)
    (ht : SimFn P s tok) (hq : CalmFn skip) {fuel : Nat} {mk : List Nat → Option (List Char) → Val} {en : Bool} {offset : Nat}
    (hmk : ∀ u t r₁ r₂, Span P r₁ r₂ → Extra P (mk u t) r₁ r₂)
    {a b : IState} {silent : Bool} {r : Option Nat × IState} (hst : StartAt P.good a.src a.pos)
    (rel : IRel P s a b)
    (h : linkRule cfg skip tok fuel mk en offset a silent = .ok r) :
    Sim s (ORel P s) r (linkRule cfg skip tok fuel mk en offset b silent) := by
  obtain ⟨o, r⟩ := r
  cases hpl : parseLink cfg skip fuel a (a.pos + offset) en with
  | error e => rw [linkRule_error hpl] at h; cases h
  | ok p =>
    obtain ⟨o₁, a1⟩ := p
    rcases (parseLink_sim hs rel hpl).cases with ⟨⟨o₂, b1⟩, e2, ho, rel1⟩ | ⟨hs', e, e2⟩
    · simp only [] at ho rel1; subst ho
      rw [← rel.pos] at e2
      cases o₂ with
      | none =>
        rw [linkRule_none hpl] at h; cases h
        rw [linkRule_none e2]; exact ⟨rfl, rel1⟩
      | some res =>
        have hend : P.lim res.endPos := P.lim_mono (parseLink_end hq hpl).1 rel.ks.2.2.2
        have hlab : P.lim res.labelEnd := P.lim_mono (parseLink_labelEnd hq hpl) rel.ks.2.2.2
        cases silent with
        | true =>
          rw [linkRule_silent hpl] at h
          rw [linkRule_silent e2, rel1.pos]
          by_cases hu : res.endPos < a1.pos
          · rw [if_pos hu] at h; cases h
          · rw [if_neg hu] at h ⊢; cases h; exact ⟨rfl, rel1⟩
        | false =>
          rw [linkRule_real hpl] at h
          rw [linkRule_real e2]
          have rel2 : IRel P s (linkNested a1 res) (linkNested b1 res) :=
            IRel.of_eqs rel1.src rfl rfl (by simp only [rel1.level]) (by simp only [rel1.linkLevel])
              rel1.cache rel1.backticks rfl rel1.map (by simp)
              ⟨rel1.ks.1, rel1.ks.2.1, rel1.ks.2.2.1, hlab⟩
          cases htok : tok (linkNested a1 res) with
          | error e => rw [htok] at h; cases h
          | ok a3 =>
            rw [htok] at h
            obtain ⟨hlv, hle, rfl, rr, hg, rfl⟩ := linkClose_ok h
            rcases (ht _ _ _ rel2 htok).cases with ⟨b3, e3, rel3⟩ | ⟨hs', e, e3⟩
            · rw [e3]
              obtain ⟨m3, cs3, rfl, hm3, hc3⟩ := rel3.out
              rcases (getMapSt_sim (cs := cs3) hm3 (Tight.self _ _) (liftR_ok.mp hg)).liftR.cases with
                ⟨r₂, e4, hr⟩ | ⟨hs', e, e4⟩
              · simp only [linkClose, rel.pos, e4, if_neg hlv, if_neg (Nat.not_lt.mpr hle)]
                have hgm : GM P.m₁ P.m₂ a.pos res.endPos rr r₂ := by
                  have := hr.2
                  have k3 := rel3.ks.2.2.1
                  simp only [] at k3
                  rw [rel3.ks.2.1, k3] at this; exact this
                exact ⟨rfl, IRel.of_eqs rfl rfl rel1.posMax rfl rfl rfl rfl rel1.bottoms hm3
                  (rel1.ch.snoc (NRel.mk' hr.1 (fun _ _ => hmk _ _ _ _
                    (span_of_GM hgm (by rw [← rel.ks.1]; exact hst) hend)) hc3))
                  ⟨rel3.ks.1, rel3.ks.2.1, rel3.ks.2.2.1, rel1.ks.2.2.2⟩⟩
              · simp only [linkClose, rel.pos, e4, if_neg hlv]; exact hs'
            · rw [e3]; exact hs'
    · rw [← rel.pos] at e2; rw [linkRule_error e2]; exact hs'

theorem ruleLink_sim {s : Bool} {cfg : Cfg} {skip tok : IState → Except Panic IState} (hs : SimFn P s skip)
    (ht : SimFn P s tok) (hq : CalmFn skip) {fuel : Nat} {a b : IState} {silent : Bool} {r : Option Nat × IState}
    (rel : IRel P s a b) (h : ruleLink cfg skip tok fuel a silent = .ok r) :
    Sim s (ORel P s) r (ruleLink cfg skip tok fuel b silent) := by
  unfold ruleLink at h ⊢
  rw [rel.window]
  split at h
  · simp at h
  · simp at h
  · next c w hw =>
    split at h
    · next hc => rw [if_pos hc]; simp only [Except.ok.injEq] at h; subst h; exact ⟨rfl, rel⟩
    · next hc =>
      rw [if_neg hc]
      have hst : StartAt P.good a.src a.pos :=
        (startAt_of_window (liftR_ok.mp hw) (by have e : c = '[' := by simpa using hc
                                                rw [e]; exact P.good_solid (by decide) (by decide))).1
      exact linkRule_sim (mk := Val.link) hs ht hq (fun _ _ _ _ h => h) hst rel h

theorem ruleImage_sim {s : Bool} {cfg : Cfg} {skip tok : IState → Except Panic IState} (hs : SimFn P s skip)
    (ht : SimFn P s tok) (hq : CalmFn skip) {fuel : Nat} {a b : IState} {silent : Bool} {r : Option Nat × IState}
    (rel : IRel P s a b) (h : ruleImage cfg skip tok fuel a silent = .ok r) :
    Sim s (ORel P s) r (ruleImage cfg skip tok fuel b silent) := by
  unfold ruleImage at h ⊢
  rw [rel.window]
  split at h
  · simp at h
  · next w hw =>
    exact linkRule_sim (mk := Val.image) hs ht hq (fun _ _ _ _ h => h)
      (startAt_of_window (liftR_ok.mp hw) (P.good_solid (by decide) (by decide))).1 rel h
  · simp only [Except.ok.injEq] at h; subst h; exact ⟨rfl, rel⟩

theorem runRule_sim {s : Bool} {cfg : Cfg} {skip tok : IState → Except Panic IState} (hs : SimFn P s skip)
    (ht : SimFn P s tok) (hq : CalmFn skip) {fuel : Nat} {id : RuleId}
    (hid : P.track → ∀ mk csw, id = .emph mk csw → mk.utf8Size = 1 ∧ P.good mk) {a b : IState} {silent : Bool}
    {r : Option Nat × IState} (rel : IRel P s a b) (h : runRule cfg skip tok fuel id a silent = .ok r) :
    Sim s (ORel P s) r (runRule cfg skip tok fuel id b silent) := by
  unfold runRule at h ⊢
  cases id with
  | text => exact liftR_sim (fun _ h' => ruleText_sim rel (fun _ => Tight.self _ _) h') h
  | newline => exact liftR_sim (fun _ h' => ruleNewline_sim rel (fun _ => Tight.self _ _) (fun _ h => .inl h) h') h
  | escape => exact liftR_sim (fun _ h' => ruleEscape_sim rel (fun _ => Tight.self _ _) h') h
  | backticks => exact liftR_sim (fun _ h' => ruleBackticks_sim rel (fun _ => Tight.self _ _) h') h
  | emph mk csw => exact liftR_sim (fun _ h' => ruleEmph_sim (fun ht => hid ht _ _ rfl) rel (fun _ => Tight.self _ _)
    (fun _ h => .inl h) h') h
  | link => exact ruleLink_sim hs ht hq rel h
  | image => exact ruleImage_sim hs ht hq rel h
  | linkEnd => simp only [Except.ok.injEq] at h; subst h; exact ⟨rfl, rel⟩
  | autolink => exact liftR_sim (fun _ h' => ruleAutolink_sim rel (fun _ => Tight.self _ _) h') h
  | entity => exact liftR_sim (fun _ h' => ruleEntity_sim rel (fun _ => Tight.self _ _) h') h

/-- **the lock-step simulation through the whole tokenizer**: the engine (`engine_simJ`) with nothing asked of
    side 2, since with `t = s` the order of the two tables excludes its failure (`Tight.self`) -/
theorem sim_induction (s : Bool) (cfg : Cfg) (hmk : P.track → ∀ mk csw, RuleId.emph mk csw ∈ cfg.chain → mk.utf8Size = 1 ∧ P.good mk) : ∀ fuel : Nat,
    SimFn P s (fun st => skipToken cfg fuel st) ∧
    (∀ (e : Nat) (a b a' : IState), IRel P s a b → tokLoop cfg fuel e a = .ok a' →
      Sim s (IRel P s) a' (tokLoop cfg fuel e b)) := by
  intro fuel
  have := engine_simJ (t := s) IRel.ctl cfg (fun _ _ => True) (fun _ _ => True) (fun _ => True)
    (fun _ _ => trivial)
    (fun hs hq ht _ rel hid _ h =>
      runRule_sim hs (fun a b a' rel h => ht 0 a b a' rel trivial h) hq
        (fun htr mk csw e => hmk htr mk csw (e ▸ hid)) rel h)
    (fun _ _ _ _ _ => trivial) (fun _ _ _ _ => trivial)
    (fun rel _ h => pushText_sim rel (Tight.self _ _) h) (fun _ => trivial) fuel
  exact ⟨this.1, fun e a b a' rel h => this.2 e 0 a b a' rel trivial h⟩

theorem parseInline_sim (P : Par) (s : Bool) (cfg : Cfg)
    (hmk : P.track → ∀ mk csw, RuleId.emph mk csw ∈ cfg.chain → mk.utf8Size = 1 ∧ P.good mk)
    (hm : MRel s P.m₁ P.m₂) {ns₁ : List Node} (h : parseInline cfg P.c P.m₁ = .ok ns₁) :
    Sim s (LRel P s) ns₁ (parseInline cfg P.c P.m₂) := by
  unfold parseInline tokenize at h ⊢
  have rel0 : IRel P s (IState.init P.c P.m₁) (IState.init P.c P.m₂) :=
    IRel.of_eqs rfl rfl rfl rfl rfl rfl rfl rfl hm (by simp [IState.init]) ⟨rfl, rfl, rfl, P.lim_mono (Inline.trimSrc_le P.c) P.lim_len⟩
  split at h
  · simp at h
  · next a' ha =>
    simp only [Except.ok.injEq] at h; subst h
    have hpm : (IState.init P.c P.m₂).posMax = (IState.init P.c P.m₁).posMax := rfl
    rcases ((sim_induction s cfg hmk _).2 _ _ _ _ rel0 ha).cases with ⟨b', e2, rel1⟩ | ⟨hs', e, e2⟩
    · rw [hpm, e2]; exact rel1.ch
    · rw [hpm, e2]; exact hs'

end MdIt.Inline.XG
