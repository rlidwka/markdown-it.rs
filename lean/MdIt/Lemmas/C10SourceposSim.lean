/-
  C10 with the sourcepos plugin — the block pass on `src` and on `lfToCrlf src` in lock step, with the
  EXACT offset translation.

      parseBlocks_crlf_exact   '\r' ∉ src  →
          LE.BRes (C10SP.crlfRel src) (parseBlocks cfg src) (parseBlocks cfg (lfToCrlf src))

  i.e. both passes panic alike, or both succeed with roots of the same kind, the same reference map,
  and children that are equal up to source offsets, where EVERY offset `a` of the LF tree (both ends of
  every range, every value of every `InlineRoot` per-line table) corresponds to
  `a + (number of line feeds of src before a)` in the CR LF tree (`LE.NRelL (C10SP.crlfRel src)`).
  `LE.parseBlocks_crlf` (`MdIt/Props/C10Doc.lean`) only has `≤` here, which is too weak for the
  sourcepos plugin (it turns offsets into line:column pairs).

  How: the lock-step simulation of `MdIt/Lemmas/C10Sim*.lean`, instantiated in
  `MdIt/Lemmas/C10SourceposSimEngine.lean` (namespace `MdIt.Block.LX`), with the entry relation `LX.ERel`
  that carries `∀ d ≤ |line|, ρ (line_start₁ + d) (line_start₂ + d)` instead of
  `ρ line_start₁ line_start₂` plus translation invariance of `ρ`.  Every offset the block rules ever
  produce is `line_start + d` of some table entry with `d ≤ line_end - line_start`:
    * `get_map`: `first_nonspace` and `line_end` of an entry (`Sim.SRel.getMap`);
    * `get_lines`: `line_start + first` where `src[line_start + first .. line_end]` was just sliced
      (`Sim.getLinesGo_sim`);
    * ATX heading: `first_nonspace + text_pos` where the text `src[first_nonspace .. line_end]` of the
      line was just sliced at `text_pos` (`Rd.heading_bound`);
    * paragraph / setext heading / reference / the inline placeholder of `afterChain`:
      `first_nonspace` of an entry.
  No offset outside its line was found.  `parseBlocks_rel` keeps the fuel alternative of the simulation
  (`FRel`: side 1 out of fuel; the second run needs at least as much fuel); in `parseBlocks_res` and the
  theorems behind it it is discharged by `Block.parseBlocks_fuel` (`MdIt/Lemmas/BlockTotalFuel.lean`).

  The same simulation with both sides equal gives a UNARY fact, `parseBlocks_in_lines`: every offset
  of the block tree of `src` lies inside (or at the end of) a line of `src`.
-/
import MdIt.Lemmas.C10SourceposSimEngine
import MdIt.Lemmas.C10SourceposSimLines
import MdIt.Props.C10Doc
import MdIt.Lemmas.BlockTotalFuel

namespace MdIt.Block.LX
open MdIt.Lines (LineOffset linesT lfToCrlf)
open MdIt.Block.LE

/-- **the block pass in lock step, offsets related inside lines only.**  Two sources whose line lists
    are `LX.StartRel` (same lines, offsets at equal distances into a line `ρ`-related), the second
    parsed with at least as much fuel: unless the first run exhausts its fuel, both panic alike or
    return `LE.BlocksRel` results. -/
theorem parseBlocks_rel {ρ : Nat → Nat → Prop} (cfg : Cfg) {s₁ s₂ : List Char}
    (h : StartRel ρ 0 0 (linesT s₁) (linesT s₂)) (hf : fuelFor cfg s₁ ≤ fuelFor cfg s₂) :
    FRel (BlocksRel ρ) (parseBlocks cfg s₁) (parseBlocks cfg s₂) :=
  frel_mono (Sim.parseBlocks_rel cfg (ctx_of ρ s₁ s₂).sim h hf) fun _ _ hr => ⟨hr.1, nrelL_iff.mp hr.2.1, hr.2.2⟩

/-- **the block pass, symmetric form**: related results or the same panic (`parseBlocks` never runs
    out of fuel, so no fuel hypothesis) -/
theorem parseBlocks_res {ρ : Nat → Nat → Prop} (cfg : Cfg) {s₁ s₂ : List Char}
    (h : StartRel ρ 0 0 (linesT s₁) (linesT s₂)) (hb : Lines.byteLen s₁ ≤ Lines.byteLen s₂) :
    BRes ρ (parseBlocks cfg s₁) (parseBlocks cfg s₂) :=
  Or.resolve_left (parseBlocks_rel cfg h (fuelFor_mono cfg h.length hb)) (parseBlocks_fuel cfg s₁)

/-- **LF ↦ CR LF at the block level, exactly**: the block tree of the CR LF text is the block tree of
    the LF text with every offset `a` moved to `a + #LF of src before a` -/
theorem parseBlocks_crlf_exact (cfg : Cfg) (src : List Char) (h : '\r' ∉ src) :
    LE.BRes (C10SP.crlfRel src) (parseBlocks cfg src) (parseBlocks cfg (Lines.lfToCrlf src)) :=
  parseBlocks_res cfg (linesT_crlf_exact src h) (byteLen_lfToCrlf src)

/-- heading, blank line, list item with a lazy continuation: the hypothesis holds, the two trees have
    the ranges the theorem predicts (`crlfRel`: `4 ↦ 4 + 2`, `9 ↦ 9 + 3`) -/
example :
    let src := "# a\n\n- b\nc".toList
    let cfg := (MdIt.Pipeline.exCfg false 100).blockCfg
    '\r' ∉ src ∧
    (parseBlocks cfg src).toOption.map (fun r => r.1.children.map (·.range)) = some [some (0, 3), some (5, 10)] ∧
    (parseBlocks cfg (lfToCrlf src)).toOption.map (fun r => r.1.children.map (·.range)) = some [some (0, 3), some (7, 13)] ∧
    C10SP.crlfRel src 0 0 ∧ C10SP.crlfRel src 3 3 ∧ C10SP.crlfRel src 5 7 ∧ C10SP.crlfRel src 10 13 := by
  simp only [C10SP.crlfRel]
  decide_lits

/-- `'\r' ∉ src` is needed: in `"a\r\nb"` the LF belongs to a CR LF; rewriting it gives CR CR LF, two
    terminators, and the paragraph falls apart -/
example :
    let cfg := (MdIt.Pipeline.exCfg false 100).blockCfg
    (parseBlocks cfg "a\r\nb".toList).toOption.map (fun r => r.1.children.length) = some 1 ∧
    (parseBlocks cfg (lfToCrlf "a\r\nb".toList)).toOption.map (fun r => r.1.children.length) = some 2 := by
  decide +kernel

/-- `a = b`, and `a` lies between the start and the end (inclusive) of a line of `src` -/
def inLineRel (src : List Char) (a b : Nat) : Prop :=
  a = b ∧ ∃ o ∈ Lines.splitLines src, o.lineStart ≤ a ∧ a ≤ o.lineEnd

theorem startRel_self {ρ : Nat → Nat → Prop} : ∀ (L : List (List Char × List Char)) (st : Nat),
    (∀ o ∈ Lines.offsetsOf st L, ∀ a, o.lineStart ≤ a → a ≤ o.lineEnd → ρ a a) → StartRel ρ st st L L
  | [], _, _ => trivial
  | x :: r, st, h => by
    rw [Lines.offsetsOf_cons] at h
    simp only [StartRel]
    refine ⟨trivial, ?_, startRel_self r _ (fun o ho => h o (List.mem_cons_of_mem _ ho))⟩
    intro d hd
    refine h _ List.mem_cons_self _ ?_ ?_
    · simp [Lines.mkOff]
    · simp [Lines.mkOff]; omega

theorem linesT_in_lines (src : List Char) : StartRel (inLineRel src) 0 0 (linesT src) (linesT src) := by
  apply startRel_self
  intro o ho a h1 h2
  rw [← Lines.splitLines_eq] at ho
  exact ⟨rfl, o, ho, h1, h2⟩

/-- **every offset of the block tree lies in a line**: both ends of every range and every value of
    every `InlineRoot` per-line table of the tree `parseBlocks` returns are between the start and the
    end (inclusive) of a line of the source -/
theorem parseBlocks_in_lines (cfg : Cfg) (src : List Char) :
    ∀ root refs, parseBlocks cfg src = .ok (root, refs) →
      LE.NRelL (inLineRel src) root.children root.children := by
  intro root refs hp
  have := parseBlocks_rel cfg (linesT_in_lines src) (Nat.le_refl _)
  rw [hp] at this
  obtain ⟨b, hb, hr⟩ := frel_ok_left this
  cases hb
  exact hr.2.1

end MdIt.Block.LX
