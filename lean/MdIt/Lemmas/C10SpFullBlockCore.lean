/-
  C10 with the sourcepos plugin under a final newline and LF ↦ CR LF needs more of the block tree than
  `LX` gives: that every block range starts at a byte of its own (`parseBlocks_anchored`) and that the
  per-line tables of placeholders are related too (`Y.parseBlocks_crlf_strict`), both in
  `MdIt/Lemmas/C10SpFullBlock.lean`.  Namespace `MdIt.Block.LX.Y` holds the relations for this: the
  instance of the lock-step simulation (`MdIt/Lemmas/C10Sim*.lean`) in which the RANGES of two related
  trees are related as whole pairs by a relation `τ : Nat × Nat → Nat × Nat → Prop` that the context
  supplies from the GEOMETRY of the two line tables:

      Ctx.rng :  lines i ≤ j of the two tables, `d` with `line_start₁ᵢ + d < line_end₁ᵢ` on a character
                 boundary of `src₁`   ⟹   τ (line_start₁ᵢ + d, line_end₁ⱼ) (line_start₂ᵢ + d, line_end₂ⱼ)

  Every range the block rules build has this form PROVIDED ITS START LINE IS NOT EMPTY
  (`first_nonspace < line_end`): the instance `rels τ ρ` is strict, so the rule simulations ask for a
  `Live` start state, which the tokenizer loop provides.  `SRel τ ρ G` is `Sim.SRel (rels τ ρ) G`
  (`srel_eq`).
-/
import MdIt.Lemmas.C10SourceposSim
import MdIt.Lemmas.C10SimEngine

namespace MdIt.Block.LX.Y
open MdIt.Lines (LineOffset)
open MdIt.Block.LE

/-- node values, STRICT form: equal and not an `InlineRoot`, or two `InlineRoot`s with the same text and
    `MRel ρ` tables (`LE.KRel` also accepts two equal `InlineRoot`s without relating their tables) -/
def KRelS (ρ : Nat → Nat → Prop) (k₁ k₂ : Kind) : Prop :=
  (k₁ = k₂ ∧ ∀ c m, k₁ ≠ .inlineRoot c m) ∨
    ∃ c m₁ m₂, k₁ = .inlineRoot c m₁ ∧ k₂ = .inlineRoot c m₂ ∧ MRel ρ m₁ m₂

theorem KRelS.of_ne {ρ : Nat → Nat → Prop} {k : Kind} (h : ∀ c m, k ≠ .inlineRoot c m) : KRelS ρ k k :=
  Or.inl ⟨rfl, h⟩

theorem KRelS.inl {ρ : Nat → Nat → Prop} {c : List Char} {m₁ m₂ : List (Nat × Nat)} (h : MRel ρ m₁ m₂) :
    KRelS ρ (.inlineRoot c m₁) (.inlineRoot c m₂) := Or.inr ⟨c, m₁, m₂, rfl, rfl, h⟩

theorem KRelS.eq_iff {ρ : Nat → Nat → Prop} {k₁ k₂ : Kind} (h : KRelS ρ k₁ k₂) (k : Kind)
    (hk : ∀ c m, k ≠ .inlineRoot c m) : k₁ = k ↔ k₂ = k := by
  rcases h with ⟨rfl, _⟩ | ⟨c, m₁, m₂, rfl, rfl, _⟩
  · exact Iff.rfl
  · constructor <;> intro h <;> exact absurd h.symm (hk _ _)

theorem KRelS.tables {ρ : Nat → Nat → Prop} {c₁ c₂ : List Char} {m₁ m₂ : List (Nat × Nat)}
    (h : KRelS ρ (.inlineRoot c₁ m₁) (.inlineRoot c₂ m₂)) : c₁ = c₂ ∧ MRel ρ m₁ m₂ := by
  rcases h with ⟨_, hne⟩ | ⟨c, a, b, h1, h2, hm⟩
  · exact absurd rfl (hne _ _)
  · cases h1; cases h2; exact ⟨rfl, hm⟩

theorem KRelS.eq_of_not_inline {ρ : Nat → Nat → Prop} {k₁ k₂ : Kind} (h : KRelS ρ k₁ k₂)
    (hk : ∀ c m, k₁ ≠ .inlineRoot c m) : k₂ = k₁ := by
  rcases h with ⟨h, _⟩ | ⟨c, m₁, m₂, rfl, rfl, _⟩
  · exact h.symm
  · exact absurd rfl (hk _ _)

theorem mrel_mono {ρ ρ' : Nat → Nat → Prop} (hρ : ∀ a b, ρ a b → ρ' a b) :
    ∀ {a b : List (Nat × Nat)}, MRel ρ a b → MRel ρ' a b
  | [], [], _ => trivial
  | [], _ :: _, h => h.elim
  | _ :: _, [], h => h.elim
  | _ :: _, _ :: _, h => ⟨h.1, hρ _ _ h.2.1, mrel_mono hρ h.2.2⟩

theorem KRelS.toLE {ρ ρ' : Nat → Nat → Prop} (hρ : ∀ a b, ρ a b → ρ' a b) {k₁ k₂ : Kind}
    (h : KRelS ρ k₁ k₂) : LE.KRel ρ' k₁ k₂ := by
  rcases h with ⟨h, _⟩ | ⟨c, m₁, m₂, h1, h2, hm⟩
  · exact Or.inl h
  · exact Or.inr ⟨c, m₁, m₂, h1, h2, mrel_mono hρ hm⟩

mutual
/-- two block trees that differ in source offsets only: ranges `τ`-related, values `KRelS ρ` -/
def NRel (τ : Nat × Nat → Nat × Nat → Prop) (ρ : Nat → Nat → Prop) : BNode → BNode → Prop
  | ⟨k₁, r₁, c₁⟩, ⟨k₂, r₂, c₂⟩ => KRelS ρ k₁ k₂ ∧ RgRel τ r₁ r₂ ∧ NRelL τ ρ c₁ c₂
def NRelL (τ : Nat × Nat → Nat × Nat → Prop) (ρ : Nat → Nat → Prop) : List BNode → List BNode → Prop
  | [], [] => True
  | a :: as, b :: bs => NRel τ ρ a b ∧ NRelL τ ρ as bs
  | [], _ :: _ => False
  | _ :: _, [] => False
end

section trees
variable {τ : Nat × Nat → Nat × Nat → Prop} {ρ : Nat → Nat → Prop}

theorem NRel.kind {n₁ n₂ : BNode} (h : NRel τ ρ n₁ n₂) : KRelS ρ n₁.kind n₂.kind := by
  cases n₁; cases n₂; simp only [NRel] at h; exact h.1

theorem NRel.children {n₁ n₂ : BNode} (h : NRel τ ρ n₁ n₂) : NRelL τ ρ n₁.children n₂.children := by
  cases n₁; cases n₂; simp only [NRel] at h; exact h.2.2

theorem NRelL.nil : NRelL τ ρ [] [] := by simp only [NRelL]

theorem NRelL.cons {a b : BNode} {as bs : List BNode} (h : NRel τ ρ a b)
    (ht : NRelL τ ρ as bs) : NRelL τ ρ (a :: as) (b :: bs) := by simp only [NRelL]; exact ⟨h, ht⟩

theorem NRelL.cons_inv {a b : BNode} {as bs : List BNode}
    (h : NRelL τ ρ (a :: as) (b :: bs)) : NRel τ ρ a b ∧ NRelL τ ρ as bs := by simpa only [NRelL] using h

theorem NRelL.nil_left {bs : List BNode} (h : NRelL τ ρ [] bs) : bs = [] := by
  cases bs with
  | nil => rfl
  | cons b bs => simp only [NRelL] at h

theorem NRelL.nil_right {as : List BNode} (h : NRelL τ ρ as []) : as = [] := by
  cases as with
  | nil => rfl
  | cons a as => simp only [NRelL] at h

theorem NRelL.single {a b : BNode} (h : NRel τ ρ a b) : NRelL τ ρ [a] [b] :=
  NRelL.cons h NRelL.nil

theorem NRelL.length : ∀ {a b : List BNode}, NRelL τ ρ a b → a.length = b.length
  | [], [], _ => rfl
  | [], _ :: _, h => by simp only [NRelL] at h
  | _ :: _, [], h => by simp only [NRelL] at h
  | _ :: _, _ :: _, h => by
    have := NRelL.length h.cons_inv.2
    simp [this]

mutual
/-- back to the relation of `LE`: any `ρ'` implied by `τ` on both components and by `ρ` -/
theorem NRel.toLE {ρ' : Nat → Nat → Prop} (hτ : ∀ x y, τ x y → ρ' x.1 y.1 ∧ ρ' x.2 y.2)
    (hρ : ∀ a b, ρ a b → ρ' a b) {n₁ n₂ : BNode} (h : NRel τ ρ n₁ n₂) : LE.NRel ρ' n₁ n₂ := by
  match n₁, n₂ with
  | ⟨k₁, r₁, c₁⟩, ⟨k₂, r₂, c₂⟩ =>
    simp only [NRel] at h
    refine LE.NRel.mk (h.1.toLE hρ) ?_ (NRelL.toLE hτ hρ h.2.2)
    match r₁, r₂, h.2.1 with
    | none, none, _ => exact trivial
    | some x, some y, hr => exact hτ x y hr
theorem NRelL.toLE {ρ' : Nat → Nat → Prop} (hτ : ∀ x y, τ x y → ρ' x.1 y.1 ∧ ρ' x.2 y.2)
    (hρ : ∀ a b, ρ a b → ρ' a b) {a b : List BNode} (h : NRelL τ ρ a b) : LE.NRelL ρ' a b := by
  match a, b with
  | [], [] => exact LE.NRelL.nil
  | [], _ :: _ => simp only [NRelL] at h
  | _ :: _, [] => simp only [NRelL] at h
  | x :: xs, y :: ys =>
    obtain ⟨h1, h2⟩ := h.cons_inv
    exact LE.NRelL.cons (NRel.toLE hτ hρ h1) (NRelL.toLE hτ hρ h2)
end

end trees

structure SRel (τ : Nat × Nat → Nat × Nat → Prop) (ρ : Nat → Nat → Prop) (G : Geo) (s₁ s₂ : BState) : Prop where
  src₁ : s₁.src = G.src₁
  src₂ : s₂.src = G.src₂
  len : s₂.offs.length = s₁.offs.length
  ent : ∀ (i : Nat) (o₁ o₂ : LineOffset), s₁.offs[i]? = some o₁ → s₂.offs[i]? = some o₂ → ERel ρ G.src₁ G.src₂ o₁ o₂
  geo₁ : s₁.offs.map geom = G.T₁
  geo₂ : s₂.offs.map geom = G.T₂
  blkIndent : s₂.blkIndent = s₁.blkIndent
  line : s₂.line = s₁.line
  lineMax : s₂.lineMax = s₁.lineMax
  tight : s₂.tight = s₁.tight
  listIndent : s₂.listIndent = s₁.listIndent
  level : s₂.level = s₁.level
  nodeKind : s₂.nodeKind = s₁.nodeKind
  refs : s₂.refs = s₁.refs
  children : NRelL τ ρ s₁.children s₂.children

/-- what the rule simulations assume about the two runs: the tables are in source order, and the
    range relation holds of every pair (offset strictly inside line `i`, end of line `j ≥ i`) -/
structure Ctx (τ : Nat × Nat → Nat × Nat → Prop) (ρ : Nat → Nat → Prop) (G : Geo) : Prop where
  inc₁ : IncT G.T₁
  inc₂ : IncT G.T₂
  rng : ∀ (i j : Nat) (g₁ h₁ g₂ h₂ : Nat × Nat), i ≤ j → G.T₁[i]? = some g₁ → G.T₁[j]? = some h₁ →
    G.T₂[i]? = some g₂ → G.T₂[j]? = some h₂ → ∀ d, g₁.1 + d < g₁.2 →
    Lines.onBoundary G.src₁ (g₁.1 + d) = true → τ (g₁.1 + d, h₁.2) (g₂.1 + d, h₂.2)

/-- verdict and state of a rule call -/
def ResRel (τ : Nat × Nat → Nat × Nat → Prop) (ρ : Nat → Nat → Prop) (G : Geo) (r₁ r₂ : Bool × BState) : Prop :=
  r₁.1 = r₂.1 ∧ SRel τ ρ G r₁.2 r₂.2

/-- ranges `τ`, offsets of tables `ρ`, values `KRelS ρ`; ranges are only claimed for non-empty start lines -/
def rels (τ : Nat × Nat → Nat × Nat → Prop) (ρ : Nat → Nat → Prop) : Sim.Rels := ⟨ρ, τ, KRelS ρ, True⟩

section instance_
variable {τ : Nat × Nat → Nat × Nat → Prop} {ρ : Nat → Nat → Prop} {G : Geo}

mutual
theorem nrel_iff : ∀ {a b : BNode}, Sim.NRel (rels τ ρ) a b ↔ NRel τ ρ a b
  | ⟨k₁, r₁, c₁⟩, ⟨k₂, r₂, c₂⟩ => by
    simp only [Sim.NRel, NRel]
    exact and_congr Iff.rfl (and_congr Iff.rfl nrelL_iff)
theorem nrelL_iff : ∀ {a b : List BNode}, Sim.NRelL (rels τ ρ) a b ↔ NRelL τ ρ a b
  | [], [] => by simp only [Sim.NRelL, NRelL]
  | a :: as, b :: bs => by simp only [Sim.NRelL, NRelL]; exact and_congr nrel_iff nrelL_iff
  | [], _ :: _ => by simp only [Sim.NRelL, NRelL]
  | _ :: _, [] => by simp only [Sim.NRelL, NRelL]
end

theorem srel_eq : SRel τ ρ G = Sim.SRel (rels τ ρ) G := by
  funext s₁ s₂
  apply propext
  constructor
  · intro S
    exact ⟨S.src₁, S.src₂, S.len, S.ent, S.geo₁, S.geo₂, S.blkIndent, S.line, S.lineMax, S.tight, S.listIndent, S.level,
      S.nodeKind, S.refs, nrelL_iff.mpr S.children⟩
  · intro S
    exact ⟨S.src₁, S.src₂, S.len, S.ent, S.geo₁, S.geo₂, S.blkIndent, S.line, S.lineMax, S.tight, S.listIndent, S.level,
      S.nodeKind, S.refs, nrelL_iff.mp S.children⟩

theorem resRel_eq : ResRel τ ρ G = Sim.ResRel (rels τ ρ) G := by
  unfold ResRel Sim.ResRel; rw [srel_eq]

theorem Ctx.sim (C : Ctx τ ρ G) : Sim.Ctx (rels τ ρ) G where
  self := fun _ h => KRelS.of_ne (h trivial)
  inl := fun _ _ _ h => KRelS.inl h
  eq_iff := fun h k hk => KRelS.eq_iff h k hk
  inc₁ := C.inc₁
  inc₂ := C.inc₂
  rng := fun i j o₁ o₂ o₁' o₂' hij _ _ g1 g1' g2 g2' d _ hs =>
    C.rng i j (geom o₁) (geom o₁') (geom o₂) (geom o₂') hij g1 g1' g2 g2' d (hs trivial).1 (hs trivial).2

end instance_

section reads
variable {τ : Nat × Nat → Nat × Nat → Prop} {ρ : Nat → Nat → Prop} {G : Geo} {s₁ s₂ : BState}

theorem SRel.off_ok (S : SRel τ ρ G s₁ s₂) {n : Nat} {o₁ : LineOffset} (h : s₁.off n = .ok o₁) :
    ∃ o₂, s₂.off n = .ok o₂ ∧ ERel ρ G.src₁ G.src₂ o₁ o₂ :=
  Sim.SRel.off_ok (srel_eq ▸ S) h

theorem SRel.getLines (S : SRel τ ρ G s₁ s₂) (b e indent : Nat) (keep : Bool) :
    FRel (fun r₁ r₂ => r₁.1 = r₂.1 ∧ MRel ρ r₁.2 r₂.2) (s₁.getLines b e indent keep)
      (s₂.getLines b e indent keep) :=
  Sim.SRel.getLines (srel_eq ▸ S) b e indent keep

theorem SRel.push (S : SRel τ ρ G s₁ s₂) {n₁ n₂ : BNode} (hn : NRel τ ρ n₁ n₂) :
    SRel τ ρ G (s₁.push n₁) (s₂.push n₂) :=
  srel_eq ▸ Sim.SRel.push (srel_eq ▸ S) (nrel_iff.mpr hn)

end reads

section rules
variable {τ : Nat × Nat → Nat × Nat → Prop} {ρ : Nat → Nat → Prop} {G : Geo} {s₁ s₂ : BState}

theorem hr_sim (C : Ctx τ ρ G) (S : SRel τ ρ G s₁ s₂) (silent : Bool) (hne : silent = false → Live s₁) :
    FRel (ResRel τ ρ G) (hrRule s₁ silent) (hrRule s₂ silent) := by
  rw [resRel_eq]
  exact Sim.hr_sim C.sim (srel_eq ▸ S) silent (fun _ => hne)

end rules

variable {τ : Nat × Nat → Nat × Nat → Prop} {ρ : Nat → Nat → Prop} {G : Geo}

/-- **the block tokenizer on related states, side 2 with at least as much fuel** -/
theorem tokenize_sim (cfg : Cfg) (C : Ctx τ ρ G) {f₁ f₂ : Nat} (hf : f₁ ≤ f₂) {s₁ s₂ : BState}
    (S : SRel τ ρ G s₁ s₂) : FRel (SRel τ ρ G) (tokenize cfg f₁ s₁) (tokenize cfg f₂ s₂) := by
  rw [srel_eq] at S ⊢
  exact Sim.tokenize_sim cfg C.sim hf S

end MdIt.Block.LX.Y
