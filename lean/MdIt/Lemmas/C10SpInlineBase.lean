/-
  The inline parser under two per-line tables — the lock-step simulation of two runs of
  `Inline.parseInline`: the parameters, the node relation, lists, `get_map`, trailing text, the
  states, and the rules without look-ahead.

  The relations of `Lemmas/C10DocInlineRel.lean` (read its header: `RRel`, `MRel`, `Sim`, `gsp_le`,
  `crStep`, `cutTok`, … are used from there) say that two trees differ in their ranges only, and in
  strict mode that the ranges are ordered (`ROrd`).  Here every node carries in addition `Extra` (see
  below): the two ranges of an attribute-rendering node are the translations of ONE stretch `[p, q]` of
  the inline text (C10 with the sourcepos plugin).

  The development is stated once over `Par`: the inline text, the two tables, whether `Extra` is
  maintained at all (`track`), the characters a stretch may start with (`good`), the positions it may
  end at (`lim`), and the one fact about the tables that the emphasis rule needs (`shift₁`, `shift₂`:
  along a run of delimiters the translation is a shift).  The instances:
    * `Inline.plainPar` (`track := False`: nothing is asked of the tables or the markers) — the
      simulation for ANY two tables, Lemmas/C10DocInline.lean;
    * `MdIt.Inline.XS` (`MapOK` tables, start character not LF, no bound on the end),
      Lemmas/C10SpFullInlineBase.lean;
    * `MdIt.Inline.XT` (`C05T.MapT` tables, start character neither LF nor space, `q ≤ |c|`),
      Lemmas/C10SpTabsInlineBase.lean.
  For the bound on the end the state relation carries `lim posMax` (`KS`), and every `get_map(p, q)` of
  an attribute-rendering node has `q ≤ posMax`.

  Names.  Namespaces: `XG` = the simulation with `Extra`, general in `Par` (this file, `…Emph`, `…Link`);
  `XS`, `XT` = its two instances with `track`, for sourcepos tables (`MapOK`) and for tables with tabs
  (`MapT`).  `XRel` = `Extra` as a relation on the two ranges of a node (under `s` and `track`);
  `GM m₁ m₂ a b r₁ r₂` = what two successful `get_map(a, b)` calls return under the two tables;
  `KS P a b` = the two states are states of the context `P` (its text, its tables, `lim posMax`);
  `IRel` = the relation on `IState`s (equal but for table and ranges, `KS` included), `ORel` = `IRel`
  on the output `(answer, state)` of a rule.

  The strictness `t` of the simulation (side 2 must not fail) and `s` of the relations (ranges ordered)
  are apart where a lemma reads the table (`Tight`): with `t = s` the order of the tables excludes a
  failure of side 2; with `t = true`, `s = false` (Lemmas/TotalTabsSim.lean) a fact about side 2 does.
-/
import MdIt.Lemmas.C10DocInlineRel
import MdIt.Lemmas.InlineLinkEnd
import MdIt.Props.C05

namespace MdIt.Inline.XG
open MdIt.InlineOps (Srcmap getSourcePosFor getMap byteLen slice)
open MdIt.Pipeline (MLe)

/-- the parameters of one simulation -/
structure Par where
  c : List Char
  m₁ : Srcmap
  m₂ : Srcmap
  /-- whether `Extra` is maintained at all -/
  track : Prop
  /-- the characters a stretch may start with -/
  good : Char → Prop
  /-- the inline positions a stretch may end at -/
  lim : Nat → Prop
  good_solid : ∀ {ch : Char}, ch ≠ '\n' → ch ≠ ' ' → good ch
  good_nl : ∀ {ch : Char}, good ch → ch ≠ '\n'
  lim_mono : ∀ {x y : Nat}, y ≤ x → lim x → lim y
  lim_len : lim (byteLen c)
  wf₁ : track → C05.WFMap m₁
  /-- WITHIN a run of one `good` character the translation is a shift -/
  shift₁ : track → ∀ {a b : Nat} {ch : Char} {w : List Char} {x : Nat}, slice c a b = .ok (ch :: w) → good ch →
    '\n' ∉ w → getSourcePosFor m₁ a = .ok x → ∀ j, a + j ≤ b → getSourcePosFor m₁ (a + j) = .ok (x + j)
  shift₂ : track → ∀ {a b : Nat} {ch : Char} {w : List Char} {x : Nat}, slice c a b = .ok (ch :: w) → good ch →
    '\n' ∉ w → getSourcePosFor m₂ a = .ok x → ∀ j, a + j ≤ b → getSourcePosFor m₂ (a + j) = .ok (x + j)

/-- a `good` character STARTS at byte `p` of `c`.  The interface notions `C10SP.CharNotLf`
    (Lemmas/C10SpFullDefs.lean) and `C10SP.CharSolid` (Lemmas/C10SpTabsDefs.lean), which do not import this
    file, are `StartAt (· ≠ '\n')` and `StartAt (fun ch => ch ≠ '\n' ∧ ch ≠ ' ')` by `Iff.rfl`. -/
def StartAt (good : Char → Prop) (c : List Char) (p : Nat) : Prop :=
  ∃ u ch w, c = u ++ ch :: w ∧ byteLen u = p ∧ good ch

variable {P : Par}

/-- the two ranges are the translations of ONE stretch `[p, q]` of the inline text that starts with a
    `good` character and ends at a position in `lim` -/
def Span (P : Par) (r₁ r₂ : Option (Nat × Nat)) : Prop :=
  ∃ p q a₁ b₁ a₂ b₂, r₁ = some (a₁, b₁) ∧ r₂ = some (a₂, b₂) ∧ P.lim q ∧ StartAt P.good P.c p ∧
    getSourcePosFor P.m₁ p = .ok a₁ ∧ getSourcePosFor P.m₁ q = .ok b₁ ∧
    getSourcePosFor P.m₂ p = .ok a₂ ∧ getSourcePosFor P.m₂ q = .ok b₂

/-- THE TOKEN INVARIANT of an `EmphMarker` with `rem` delimiters left: both ranges are the translations
    of ONE stretch `[p, p + rem]` on which both translations are shifts, and a `good` character starts at
    each of `p, …, p + rem - 1` -/
def TokInv (P : Par) (rem : Nat) (r₁ r₂ : Option (Nat × Nat)) : Prop :=
  ∃ p a₁ a₂, r₁ = some (a₁, a₁ + rem) ∧ r₂ = some (a₂, a₂ + rem) ∧
    (∀ j, j ≤ rem → getSourcePosFor P.m₁ (p + j) = .ok (a₁ + j) ∧
      getSourcePosFor P.m₂ (p + j) = .ok (a₂ + j)) ∧
    (∀ j, j < rem → StartAt P.good P.c (p + j)) ∧ P.lim (p + rem)

/-- what the two ranges of a node with value `v` satisfy beyond `ROrd` -/
def Extra (P : Par) : Val → Option (Nat × Nat) → Option (Nat × Nat) → Prop
  | .codeInline _ _, r₁, r₂ => Span P r₁ r₂
  | .wrap _ _, r₁, r₂ => Span P r₁ r₂
  | .link _ _, r₁, r₂ => Span P r₁ r₂
  | .image _ _, r₁, r₂ => Span P r₁ r₂
  | .autolink _, r₁, r₂ => Span P r₁ r₂
  | .emphMarker _ _ rem _ _, r₁, r₂ => TokInv P rem r₁ r₂
  | _, _, _ => True

/-- `Extra` in strict mode, if it is maintained -/
def XRel (P : Par) (s : Bool) (v : Val) (r₁ r₂ : Option (Nat × Nat)) : Prop :=
  s = true → P.track → Extra P v r₁ r₂

theorem XRel.false (v : Val) (r₁ r₂ : Option (Nat × Nat)) : XRel P false v r₁ r₂ := fun h => by cases h

theorem XRel.text {s : Bool} (ct : List Char) (r₁ r₂ : Option (Nat × Nat)) : XRel P s (.text ct) r₁ r₂ :=
  fun _ _ => trivial

mutual
/-- same value, related ranges, `Extra`, related children -/
def NRel (P : Par) (s : Bool) : Node → Node → Prop
  | ⟨v₁, r₁, cs₁⟩, n₂ => v₁ = n₂.val ∧ RRel s r₁ n₂.range ∧ XRel P s v₁ r₁ n₂.range ∧ LRel P s cs₁ n₂.children
def LRel (P : Par) (s : Bool) : List Node → List Node → Prop
  | [], l₂ => l₂ = []
  | a :: as, l₂ =>
    match l₂ with
    | [] => False
    | b :: bs => NRel P s a b ∧ LRel P s as bs
end

theorem NRel_iff (s : Bool) (a b : Node) :
    NRel P s a b ↔ a.val = b.val ∧ RRel s a.range b.range ∧ XRel P s a.val a.range b.range ∧
      LRel P s a.children b.children := by
  cases a; simp [NRel]

@[simp] theorem LRel_nil_nil (s : Bool) : LRel P s [] [] := by simp [LRel]
@[simp] theorem LRel_cons_cons (s : Bool) (a b : Node) (as bs : List Node) :
    LRel P s (a :: as) (b :: bs) ↔ NRel P s a b ∧ LRel P s as bs := by simp [LRel]
@[simp] theorem LRel_nil_cons (s : Bool) (b : Node) (bs : List Node) : ¬ LRel P s [] (b :: bs) := by
  simp [LRel]
@[simp] theorem LRel_cons_nil (s : Bool) (a : Node) (as : List Node) : ¬ LRel P s (a :: as) [] := by
  simp [LRel]

theorem LRel.length {s : Bool} : ∀ {l₁ l₂ : List Node}, LRel P s l₁ l₂ → l₁.length = l₂.length
  | [], [], _ => rfl
  | [], _ :: _, h => absurd h (LRel_nil_cons _ _ _)
  | _ :: _, [], h => absurd h (LRel_cons_nil _ _ _)
  | _ :: as, _ :: bs, h => by
    have := LRel.length ((LRel_cons_cons _ _ _ _ _).mp h).2
    simp [this]

theorem LRel.append {s : Bool} : ∀ {a b c d : List Node}, LRel P s a b → LRel P s c d → LRel P s (a ++ c) (b ++ d)
  | [], [], _, _, _, h => by simpa using h
  | [], _ :: _, _, _, h, _ => absurd h (LRel_nil_cons _ _ _)
  | _ :: _, [], _, _, h, _ => absurd h (LRel_cons_nil _ _ _)
  | _ :: as, _ :: bs, _, _, h, h' => by
    rw [LRel_cons_cons] at h
    simp only [List.cons_append, LRel_cons_cons]
    exact ⟨h.1, LRel.append h.2 h'⟩

theorem LRel.single {s : Bool} {a b : Node} (h : NRel P s a b) : LRel P s [a] [b] := by simp [h]

theorem LRel.snoc {s : Bool} {a b : List Node} {x y : Node} (h : LRel P s a b) (hx : NRel P s x y) :
    LRel P s (a ++ [x]) (b ++ [y]) := h.append (LRel.single hx)

theorem LRel.take {s : Bool} : ∀ {l₁ l₂ : List Node} (k : Nat), LRel P s l₁ l₂ → LRel P s (l₁.take k) (l₂.take k)
  | [], [], _, _ => by simp
  | [], _ :: _, _, h => absurd h (LRel_nil_cons _ _ _)
  | _ :: _, [], _, h => absurd h (LRel_cons_nil _ _ _)
  | _ :: as, _ :: bs, 0, _ => by simp
  | _ :: as, _ :: bs, k + 1, h => by
    rw [LRel_cons_cons] at h
    simp only [List.take_succ_cons, LRel_cons_cons]
    exact ⟨h.1, LRel.take k h.2⟩

theorem LRel.drop {s : Bool} : ∀ {l₁ l₂ : List Node} (k : Nat), LRel P s l₁ l₂ → LRel P s (l₁.drop k) (l₂.drop k)
  | [], [], _, _ => by simp
  | [], _ :: _, _, h => absurd h (LRel_nil_cons _ _ _)
  | _ :: _, [], _, h => absurd h (LRel_cons_nil _ _ _)
  | _ :: as, _ :: bs, 0, h => by simpa using h
  | _ :: as, _ :: bs, k + 1, h => by
    rw [LRel_cons_cons] at h
    simp only [List.drop_succ_cons]
    exact LRel.drop k h.2

theorem LRel.set {s : Bool} : ∀ {l₁ l₂ : List Node} (k : Nat) {x y : Node}, LRel P s l₁ l₂ → NRel P s x y →
    LRel P s (l₁.set k x) (l₂.set k y)
  | [], [], _, _, _, _, _ => by simp
  | [], _ :: _, _, _, _, h, _ => absurd h (LRel_nil_cons _ _ _)
  | _ :: _, [], _, _, _, h, _ => absurd h (LRel_cons_nil _ _ _)
  | _ :: as, _ :: bs, 0, _, _, h, hx => by
    rw [LRel_cons_cons] at h
    simp only [List.set_cons_zero, LRel_cons_cons]
    exact ⟨hx, h.2⟩
  | _ :: as, _ :: bs, k + 1, _, _, h, hx => by
    rw [LRel_cons_cons] at h
    simp only [List.set_cons_succ, LRel_cons_cons]
    exact ⟨h.1, LRel.set k h.2 hx⟩

theorem LRel.getElem? {s : Bool} : ∀ {l₁ l₂ : List Node} (k : Nat) {x : Node}, LRel P s l₁ l₂ →
    l₁[k]? = some x → ∃ y, l₂[k]? = some y ∧ NRel P s x y
  | [], _, _, _, _, h => by simp at h
  | _ :: _, [], _, _, h, _ => absurd h (LRel_cons_nil _ _ _)
  | a :: as, b :: bs, 0, _, h, hx => by
    rw [LRel_cons_cons] at h
    simp only [List.getElem?_cons_zero, Option.some.injEq] at hx ⊢
    subst hx; exact ⟨b, rfl, h.1⟩
  | _ :: as, _ :: bs, k + 1, _, h, hx => by
    rw [LRel_cons_cons] at h
    simp only [List.getElem?_cons_succ] at hx ⊢
    exact LRel.getElem? k h.2 hx

theorem LRel.of_snoc {s : Bool} : ∀ {a l₂ : List Node} {x : Node}, LRel P s (a ++ [x]) l₂ →
    ∃ b y, l₂ = b ++ [y] ∧ LRel P s a b ∧ NRel P s x y
  | [], [], _, h => absurd h (LRel_cons_nil _ _ _)
  | [], [y], _, h => by
    simp only [List.nil_append, LRel_cons_cons] at h
    exact ⟨[], y, rfl, by simp, h.1⟩
  | [], _ :: _ :: _, _, h => by
    simp only [List.nil_append, LRel_cons_cons] at h
    exact absurd h.2 (LRel_nil_cons _ _ _)
  | _ :: _, [], _, h => absurd h (LRel_cons_nil _ _ _)
  | a :: as, b :: bs, _, h => by
    simp only [List.cons_append, LRel_cons_cons] at h
    obtain ⟨b', y, rfl, h1, h2⟩ := LRel.of_snoc h.2
    exact ⟨b :: b', y, rfl, by simp [h.1, h1], h2⟩

theorem LRel.popLast_some {s : Bool} {l₁ l₂ i₁ : List Node} {x₁ : Node} (h : LRel P s l₁ l₂)
    (hp : popLast l₁ = some (i₁, x₁)) :
    ∃ i₂ x₂, popLast l₂ = some (i₂, x₂) ∧ LRel P s i₁ i₂ ∧ NRel P s x₁ x₂ := by
  rcases popLast_spec l₁ with ⟨h0, _⟩ | ⟨i, l, h1, h2⟩
  · rw [h0] at hp; cases hp
  · rw [h1] at hp; cases hp
    subst h2
    obtain ⟨b, y, rfl, hb, hy⟩ := h.of_snoc
    exact ⟨b, y, popLast_snoc b y, hb, hy⟩

theorem LRel.popLast_none {s : Bool} {l₁ l₂ : List Node} (h : LRel P s l₁ l₂)
    (hp : popLast l₁ = none) : popLast l₂ = none := by
  rcases popLast_spec l₁ with ⟨_, h0⟩ | ⟨i, l, h1, _⟩
  · subst h0
    cases l₂ with
    | nil => rfl
    | cons b bs => exact absurd h (LRel_nil_cons _ _ _)
  · rw [h1] at hp; cases hp

theorem NRel.val {s : Bool} {a b : Node} (h : NRel P s a b) : b.val = a.val := ((NRel_iff _ _ _).mp h).1.symm
theorem NRel.range {s : Bool} {a b : Node} (h : NRel P s a b) : RRel s a.range b.range :=
  ((NRel_iff _ _ _).mp h).2.1
theorem NRel.extra {s : Bool} {a b : Node} (h : NRel P s a b) : XRel P s a.val a.range b.range :=
  ((NRel_iff _ _ _).mp h).2.2.1
theorem NRel.children {s : Bool} {a b : Node} (h : NRel P s a b) : LRel P s a.children b.children :=
  ((NRel_iff _ _ _).mp h).2.2.2
theorem NRel.isText {s : Bool} {a b : Node} (h : NRel P s a b) : b.isText = a.isText := by
  unfold Node.isText; rw [h.val]
theorem NRel.content {s : Bool} {a b : Node} (h : NRel P s a b) : b.content = a.content := by
  unfold Node.content; rw [h.val]
theorem NRel.asMarker {s : Bool} {a b : Node} (h : NRel P s a b) : b.asMarker = a.asMarker := by
  unfold Node.asMarker; rw [h.val]

theorem NRel.mk' {s : Bool} {v : Val} {r₁ r₂ : Option (Nat × Nat)} {c₁ c₂ : List Node}
    (hr : RRel s r₁ r₂) (hx : XRel P s v r₁ r₂) (hc : LRel P s c₁ c₂) : NRel P s ⟨v, r₁, c₁⟩ ⟨v, r₂, c₂⟩ :=
  (NRel_iff _ _ _).mpr ⟨rfl, hr, hx, hc⟩

theorem trailingTextGet_rel {s : Bool} {l₁ l₂ : List Node} (h : LRel P s l₁ l₂) :
    trailingTextGet l₂ = trailingTextGet l₁ := by
  unfold trailingTextGet
  cases hp : popLast l₁ with
  | none => rw [h.popLast_none hp]
  | some p =>
    obtain ⟨i₁, x₁⟩ := p
    obtain ⟨i₂, x₂, hp2, _, hx⟩ := h.popLast_some hp
    rw [hp2]; simp only [hx.isText, hx.content]

/-- both ranges are the translations of the SAME inline positions `a`, `b` -/
def GM (m₁ m₂ : Srcmap) (a b : Nat) (r₁ r₂ : Nat × Nat) : Prop :=
  getSourcePosFor m₁ a = .ok r₁.1 ∧ getSourcePosFor m₁ b = .ok r₁.2 ∧
  getSourcePosFor m₂ a = .ok r₂.1 ∧ getSourcePosFor m₂ b = .ok r₂.2

/-- side 2 may be required not to fail (`t`) only where the order of the two tables excludes a failure
    (`s`) or its table is total -/
def Tight (t s : Bool) (m₂ : Srcmap) : Prop := t = true → s = true ∨ C05.WFMap m₂

theorem Tight.self (s : Bool) (m : Srcmap) : Tight s s m := fun h => .inl h

theorem gsp_sim {t s : Bool} {m₁ m₂ : Srcmap} (hm : MRel s m₁ m₂) (hT : Tight t s m₂) {pos x₁ : Nat}
    (h₁ : getSourcePosFor m₁ pos = .ok x₁) :
    Sim t (fun x₁ x₂ => s = true → x₁ ≤ x₂) x₁ (getSourcePosFor m₂ pos) := by
  cases h2 : getSourcePosFor m₂ pos with
  | ok x₂ =>
    intro hs
    obtain ⟨x, hx, hle⟩ := gsp_le (hm hs) h₁
    rw [h2] at hx; cases hx; exact hle
  | error e =>
    cases t with
    | false => rfl
    | true =>
      rcases hT rfl with hs | hw
      · obtain ⟨x, hx, _⟩ := gsp_le (hm hs) h₁
        rw [h2] at hx; cases hx
      · obtain ⟨x, hx⟩ := C05.translate_total m₂ hw pos
        rw [h2] at hx; cases hx

theorem getMap_sim {t s : Bool} {m₁ m₂ : Srcmap} (hm : MRel s m₁ m₂) (hT : Tight t s m₂) {a b : Nat}
    {r₁ : Nat × Nat} (h₁ : getMap m₁ a b = .ok r₁) :
    Sim t (fun r₁ r₂ => RRel s (some r₁) (some r₂) ∧ GM m₁ m₂ a b r₁ r₂) r₁ (getMap m₂ a b) := by
  unfold getMap at h₁ ⊢
  split at h₁
  · simp at h₁
  · next hab =>
    rw [if_neg hab]
    split at h₁
    · simp at h₁
    · next x₁ hx =>
      split at h₁
      · simp at h₁
      · next y₁ hy =>
        simp only [Except.ok.injEq] at h₁; subst h₁
        have sx := gsp_sim hm hT hx
        have sy := gsp_sim hm hT hy
        cases hx2 : getSourcePosFor m₂ a with
        | error e => rw [hx2] at sx; simpa using sx
        | ok x₂ =>
          rw [hx2] at sx
          cases hy2 : getSourcePosFor m₂ b with
          | error e => rw [hy2] at sy; simpa using sy
          | ok y₂ =>
            rw [hy2] at sy
            exact ⟨RRel.some sx sy, hx, hy, hx2, hy2⟩

/-- the values without an attribute-rendering range -/
def Plain : Val → Prop
  | .text _ => True
  | .special _ _ _ => True
  | .softbreak => True
  | .hardbreak => True
  | _ => False

theorem XRel.plain {s : Bool} {v : Val} (h : Plain v) (r₁ r₂ : Option (Nat × Nat)) : XRel P s v r₁ r₂ := by
  intro _ _
  cases v <;> first | trivial | cases h

theorem span_of_GM {a b : Nat} {r₁ r₂ : Nat × Nat} (h : GM P.m₁ P.m₂ a b r₁ r₂) (hc : StartAt P.good P.c a)
    (hb : P.lim b) : Span P (some r₁) (some r₂) :=
  ⟨a, b, r₁.1, r₁.2, r₂.1, r₂.2, rfl, rfl, hb, hc, h.1, h.2.1, h.2.2.1, h.2.2.2⟩

theorem newText_rel {s : Bool} (c : List Char) {r₁ r₂ : Option (Nat × Nat)} (h : RRel s r₁ r₂) :
    NRel P s (Node.newText c r₁) (Node.newText c r₂) := NRel.mk' h (XRel.text _ _ _) (by simp)

theorem leaf_rel {s : Bool} (v : Val) {r₁ r₂ : Option (Nat × Nat)} (h : RRel s r₁ r₂)
    (hx : XRel P s v r₁ r₂) : NRel P s (Node.leaf v r₁) (Node.leaf v r₂) := NRel.mk' h hx (by simp)

theorem fresh_sim {t s : Bool} {src : List Char} {m₁ m₂ : Srcmap} {c₁ c₂ o₁ : List Node}
    {a b : Nat} (hm : MRel s m₁ m₂) (hT : Tight t s m₂) (hc : LRel P s c₁ c₂)
    (h : (match liftOps (slice src a b) with
      | Except.error e => Except.error e
      | Except.ok piece =>
        match liftOps (getMap m₁ a b) with
        | Except.error e => Except.error e
        | Except.ok r => Except.ok (c₁ ++ [Node.newText piece (some r)])) = Except.ok o₁) :
    Sim t (LRel P s) o₁ (match liftOps (slice src a b) with
      | Except.error e => Except.error e
      | Except.ok piece =>
        match liftOps (getMap m₂ a b) with
        | Except.error e => Except.error e
        | Except.ok r => Except.ok (c₂ ++ [Node.newText piece (some r)])) := by
  split at h
  · simp at h
  · next piece hp =>
    split at h
    · simp at h
    · next r₁ hg =>
      simp only [Except.ok.injEq] at h; subst h
      rcases (getMap_sim hm hT (liftOps_ok.mp hg)).liftOps.cases with ⟨r₂, e2, hr⟩ | ⟨hs, e, e2⟩
      · rw [e2]; exact hc.snoc (newText_rel _ hr.1)
      · rw [e2]; exact hs

theorem trailingTextPush_sim {t s : Bool} {src : List Char} {m₁ m₂ : Srcmap} {c₁ c₂ o₁ : List Node}
    {a b : Nat} (hm : MRel s m₁ m₂) (hT : Tight t s m₂) (hc : LRel P s c₁ c₂)
    (h : trailingTextPush src m₁ c₁ a b = .ok o₁) :
    Sim t (LRel P s) o₁ (trailingTextPush src m₂ c₂ a b) := by
  unfold trailingTextPush at h ⊢
  simp only at h ⊢
  split at h
  · next hp =>
    rw [hc.popLast_none hp]
    exact fresh_sim hm hT hc h
  · next i₁ x₁ hp =>
    obtain ⟨i₂, x₂, hp2, hi, hx⟩ := hc.popLast_some hp
    rw [hp2]; simp only [hx.isText, hx.content]
    split at h
    · next ht =>
      simp only [ht, if_true]
      split at h
      · simp at h
      · next piece hpc =>
        have hr := hx.range
        have hch := hx.children
        split at h
        · next hr1 =>
          simp only [Except.ok.injEq] at h; subst h
          split
          · next hr2 =>
            rw [hr1]
            exact hi.snoc (NRel.mk' (by rw [hr1] at hr; exact hr) (XRel.text _ _ _) hch)
          · next ms₂ me₂ hr2 =>
            have hs : s = false := by
              cases s with
              | false => rfl
              | true => rw [hr1, hr2] at hr; exact absurd (hr rfl) (by simp [ROrd])
            subst hs
            -- side 2 translates `b` where side 1 did not: total when `t`
            cases hb2 : getSourcePosFor m₂ b with
            | error e =>
              cases t with
              | false => rfl
              | true =>
                rcases hT rfl with hs | hw
                · cases hs
                · obtain ⟨x, hx⟩ := C05.translate_total m₂ hw b
                  rw [hb2] at hx; cases hx
            | ok e₂ => exact hi.snoc (NRel.mk' (fun h => by cases h) (XRel.text _ _ _) hch)
        · next ms₁ me₁ hr1 =>
          split at h
          · simp at h
          · next mapEnd₁ hg =>
            simp only [Except.ok.injEq] at h; subst h
            split
            · next hr2 =>
              have hs : s = false := by
                cases s with
                | false => rfl
                | true => rw [hr1, hr2] at hr; exact absurd (hr rfl) (by simp [ROrd])
              subst hs
              exact hi.snoc (NRel.mk' (fun h => by cases h) (XRel.text _ _ _) hch)
            · next ms₂ me₂ hr2 =>
              rcases (gsp_sim hm hT (liftOps_ok.mp hg)).liftOps.cases with ⟨e₂, e2, hr'⟩ | ⟨hs, e, e2⟩
              · rw [e2]
                refine hi.snoc (NRel.mk' (RRel.some ?_ hr') (XRel.text _ _ _) hch)
                intro hs; rw [hr1, hr2] at hr; exact (hr hs).1
              · rw [e2]; exact hs
    · next ht =>
      simp only [ht]
      exact fresh_sim hm hT hc h
/-- `trailing_text_pop(count)`.  Side 2 subtracts `count` from the source end of a LONGER trailing text:
    no underflow when the ranges are ordered (`s`) or the bytes cut off lie before that end (`hu`). -/
theorem trailingTextPop_sim {t s : Bool} {c₁ c₂ o₁ : List Node} {count : Nat} (hc : LRel P s c₁ c₂)
    (hu : t = true → s = true ∨ ∀ i₂ x₂ a b, popLast c₂ = some (i₂, x₂) → x₂.range = some (a, b) →
      count < byteLen x₂.content → count ≤ b)
    (h : trailingTextPop c₁ count = .ok o₁) :
    Sim t (LRel P s) o₁ (trailingTextPop c₂ count) := by
  have hu' : s = false → ∀ i₂ x₂ a b, popLast c₂ = some (i₂, x₂) → x₂.range = some (a, b) →
      count < byteLen x₂.content → b < count → t = false := by
    intro hs i₂ x₂ a b h1 h2 h3 h4
    cases t with
    | false => rfl
    | true =>
      rcases hu rfl with hs' | hu
      · rw [hs] at hs'; cases hs'
      · have := hu i₂ x₂ a b h1 h2 h3; omega
  revert h
  fun_cases trailingTextPop c₁ count
  all_goals try (intro h; cases h; done)
  all_goals unfold trailingTextPop
  · next h0 => intro h; cases h; rw [if_pos h0]; exact hc
  · next h0 init last hp ht hb =>
    intro h; cases h
    obtain ⟨i₂, x₂, hp2, hi, hx⟩ := hc.popLast_some hp
    rw [if_neg h0, hp2]; simp only [hx.isText, hx.content]
    rw [if_neg ht, if_pos hb]; exact hi
  · next h0 init last hp ht hb hb2 piece hpc hr1 =>
    intro h; cases h
    obtain ⟨i₂, x₂, hp2, hi, hx⟩ := hc.popLast_some hp
    rw [if_neg h0, hp2]; simp only [hx.isText, hx.content]
    rw [if_neg ht, if_neg hb, if_neg hb2]; simp only [hpc]
    have hr := hx.range
    rw [hr1] at hr ⊢
    split
    · exact hi.snoc (NRel.mk' hr (XRel.text _ _ _) hx.children)
    · next ms₂ me₂ hr2 =>
      rw [hr2] at hr
      have hs := ROrd_none_some hr
      subst hs
      split
      · next hme2 => exact hu' rfl _ _ _ _ hp2 hr2 (by rw [hx.content]; omega) hme2
      · exact hi.snoc (NRel.mk' (RRel.false _ _) (XRel.text _ _ _) hx.children)
  · next h0 init last hp ht hb hb2 piece hpc ms₁ me₁ hr1 hme =>
    intro h; cases h
    obtain ⟨i₂, x₂, hp2, hi, hx⟩ := hc.popLast_some hp
    rw [if_neg h0, hp2]; simp only [hx.isText, hx.content]
    rw [if_neg ht, if_neg hb, if_neg hb2]; simp only [hpc]
    have hr := hx.range
    rw [hr1] at hr
    split
    · next hr2 =>
      rw [hr2] at hr
      have hs := ROrd_some_none hr
      subst hs
      exact hi.snoc (NRel.mk' (RRel.false _ _) (XRel.text _ _ _) hx.children)
    · next ms₂ me₂ hr2 =>
      rw [hr2] at hr
      split
      · next hme2 =>
        cases s with
        | false => exact hu' rfl _ _ _ _ hp2 hr2 (by rw [hx.content]; omega) hme2
        | true => have := hr rfl; simp only [ROrd] at this; omega
      · next hme2 =>
        refine hi.snoc (NRel.mk' ?_ (XRel.text _ _ _) hx.children)
        intro hs; have := hr hs; simp only [ROrd] at this ⊢; omega

/-- the two states work on the text and the tables of the context -/
def KS (P : Par) (a b : IState) : Prop :=
  a.src = P.c ∧ a.srcmap = P.m₁ ∧ b.srcmap = P.m₂ ∧ P.lim a.posMax

/-- everything equal except the table and the ranges in the tree under construction -/
structure IRel (P : Par) (s : Bool) (a b : IState) : Prop where
  eq : b = { a with srcmap := b.srcmap, children := b.children }
  map : MRel s a.srcmap b.srcmap
  ch : LRel P s a.children b.children
  ks : KS P a b

theorem IRel.out {s : Bool} {a b : IState} (h : IRel P s a b) :
    ∃ m cs, b = { a with srcmap := m, children := cs } ∧ MRel s a.srcmap m ∧ LRel P s a.children cs :=
  ⟨_, _, h.eq, h.map, h.ch⟩

theorem IRel.mk' {s : Bool} {a : IState} {m : Srcmap} {cs : List Node} (hm : MRel s a.srcmap m)
    (hc : LRel P s a.children cs) (hk : KS P a { a with srcmap := m, children := cs }) :
    IRel P s a { a with srcmap := m, children := cs } := ⟨rfl, hm, hc, hk⟩

/-- the result of a rule: same answer, related states -/
def ORel (P : Par) (s : Bool) (x y : Option Nat × IState) : Prop := y.1 = x.1 ∧ IRel P s x.2 y.2

theorem pushText_sim {t s : Bool} {a b a' : IState} {x y : Nat} (rel : IRel P s a b)
    (hT : Tight t s b.srcmap) (h : a.pushText x y = .ok a') : Sim t (IRel P s) a' (b.pushText x y) := by
  obtain ⟨m, cs, rfl, hm, hc⟩ := rel.out
  unfold IState.pushText at h ⊢
  split at h
  · simp at h
  · next o₁ hp =>
    simp only [Except.ok.injEq] at h; subst h
    rcases (trailingTextPush_sim hm hT hc hp).cases with ⟨o₂, e2, hr⟩ | ⟨hs, e, e2⟩
    · simp only [e2]; exact IRel.mk' hm hr rel.ks
    · simp only [e2]; exact hs

theorem getMapSt_sim {t s : Bool} {a : IState} {m : Srcmap} {cs : List Node} (hm : MRel s a.srcmap m)
    (hT : Tight t s m) {x y : Nat} {r₁ : Nat × Nat} (h : a.getMap x y = .ok r₁) :
    Sim t (fun r₁ r₂ => RRel s (some r₁) (some r₂) ∧ GM a.srcmap m x y r₁ r₂) r₁
      (IState.getMap { a with srcmap := m, children := cs } x y) :=
  (getMap_sim hm hT (liftOps_ok.mp h)).liftOps

theorem span_of_KS {a : IState} {m : Srcmap} {cs : List Node}
    (hk : KS P a { a with srcmap := m, children := cs }) {x y : Nat} {r₁ r₂ : Nat × Nat}
    (h : GM a.srcmap m x y r₁ r₂) (hc : StartAt P.good a.src x) (hy : y ≤ a.posMax) :
    Span P (some r₁) (some r₂) := by
  obtain ⟨h1, h2, h3, h4⟩ := hk
  simp only [] at h3
  rw [h1] at hc
  rw [h2, h3] at h
  exact span_of_GM h hc (P.lim_mono hy h4)

theorem startAt_of_slice {good : Char → Prop} {src : List Char} {a b : Nat} {ch : Char} {rest : List Char}
    (h : slice src a b = .ok (ch :: rest)) (hg : good ch) : StartAt good src a ∧ a < b := by
  obtain ⟨p, q, e, hp, hb⟩ := (C05.slice_ok_iff _ _ _ _).mp h
  have := Char.utf8Size_pos ch
  simp only [byteLen] at hb
  exact ⟨⟨p, ch, rest ++ q, by rw [e]; simp, hp, hg⟩, by omega⟩

theorem startAt_of_window {good : Char → Prop} {a : IState} {ch : Char} {rest : List Char}
    (h : a.window = .ok (ch :: rest)) (hg : good ch) :
    StartAt good a.src a.pos ∧ a.pos < a.posMax :=
  startAt_of_slice (liftOps_ok.mp h) hg

theorem codeRun_start {v : CodePair.Variant} {src : List Char} {pos posMax : Nat} {prev silent : Bool}
    {c c' : CodePair.Cache} {o : CodePair.Outcome}
    (h : CodePair.run v '`' src pos posMax prev silent c = .ok (some o, c')) :
    StartAt P.good src pos ∧ pos < posMax := by
  revert h
  fun_cases CodePair.run v '`' src pos posMax prev silent c
  all_goals intro h
  all_goals try (cases h; done)
  -- every remaining path has sliced the window and found the marker at its head
  all_goals
    have e : _ = '`' := Decidable.of_not_not ‹¬ _ ≠ '`'›
    subst e
    exact startAt_of_slice ((codeSlice_eq _ _ _ _).mp ‹CodePair.slice src pos posMax = some _›)
      (P.good_solid (by decide) (by decide))

/-! ## the rules without look-ahead: `exec` in lock step, once

  (`Plan`, `exec`, `runPlan`, `rule<X>_eq`: a flat rule is a plan computed from the window and one interpreter
  of plans, Lemmas/InlinePlan.lean) -/

theorem push_rel {s : Bool} {a : IState} {m : Srcmap} {cs : List Node} (hm : MRel s a.srcmap m)
    (hc : LRel P s a.children cs) (hk : KS P a { a with srcmap := m, children := cs })
    {n₁ n₂ : Node} (hn : NRel P s n₁ n₂) :
    IRel P s (a.push n₁) (IState.push { a with srcmap := m, children := cs } n₂) :=
  IRel.mk' (a := a.push n₁) hm (hc.snoc hn) hk

/-- what the simulation needs to know of a plan: the cut of a break stays inside the range of the last text, a
    leaf is `Plain`, a wrapping node gets a `Span`, its stretch starts at a `good` character and ends inside the
    window -/
def PlanX (P : Par) (t s : Bool) (a b : IState) : Plan → Prop
  | .brk tail _ => t = true → s = true ∨ ∀ i₂ x₂ x y, popLast b.children = some (i₂, x₂) →
      x₂.range = some (x, y) → tail < byteLen x₂.content → tail ≤ y
  | .leaf v _ _ => Plain v
  | .wrap v x y _ _ _ _ =>
    (∀ r₁ r₂, Span P r₁ r₂ → Extra P v r₁ r₂) ∧ (P.track → StartAt P.good a.src x ∧ y ≤ a.posMax)
  | _ => True

theorem PlanX.of_quiet {t s : Bool} {a b : IState} {p : Plan} (h : p.quiet = true) : PlanX P t s a b p := by
  cases p <;> first | trivial | cases h

theorem exec_sim {t s : Bool} {a b : IState} {p : Plan} {r : Option Nat × IState} (rel : IRel P s a b)
    (hT : p.quiet = false → Tight t s b.srcmap) (hx : PlanX P t s a b p) (h : exec a p = .ok r) :
    Sim t (ORel P s) r (exec b p) := by
  obtain ⟨o, a'⟩ := r
  cases p with
  | decline => cases h; exact ⟨rfl, rel⟩
  | skip len => cases h; exact ⟨rfl, rel⟩
  | text len =>
    have hpos : b.pos = a.pos := by obtain ⟨m, cs, rfl, hm, hc⟩ := rel.out; rfl
    obtain ⟨rfl, hp⟩ := exec_text_ok h
    simp only [exec, hpos]
    rcases (pushText_sim rel (hT rfl) hp).cases with ⟨o₂, e2, hr⟩ | ⟨hs, e, e2⟩
    · simp only [e2]; exact ⟨rfl, hr⟩
    · simp only [e2]; exact hs
  | brk tail pos' =>
    obtain ⟨m, cs, rfl, hm, hc⟩ := rel.out
    obtain ⟨cs', r', hp, hpos, hg, rfl, rfl⟩ := exec_brk_ok h
    simp only [exec]
    rcases (trailingTextPop_sim hc hx hp).cases with ⟨cs₂, e2, hr⟩ | ⟨hs, e, e2⟩
    · simp only [e2, if_neg hpos]
      rcases (getMapSt_sim (cs := cs) hm (hT rfl) hg).cases with ⟨r₃, e3, hr3⟩ | ⟨hs, e, e3⟩
      · simp only [e3]
        exact ⟨rfl, IRel.mk' (a := { a with children := _ }) hm
          (hr.snoc (leaf_rel _ hr3.1 (XRel.plain (by show Plain (if _ then _ else _); split <;> trivial) _ _)))
          rel.ks⟩
      · simp only [e3]; exact hs
    · simp only [e2]; exact hs
  | leaf v alen len =>
    obtain ⟨m, cs, rfl, hm, hc⟩ := rel.out
    obtain ⟨r₁, hg, rfl, rfl⟩ := exec_leaf_ok h
    simp only [exec]
    rcases (getMapSt_sim (cs := cs) hm (hT rfl) hg).cases with ⟨r₂, e2, hr⟩ | ⟨hs, e, e2⟩
    · simp only [e2]; exact ⟨rfl, push_rel hm hc rel.ks (leaf_rel _ hr.1 (XRel.plain hx _ _))⟩
    · simp only [e2]; exact hs
  | wrap v x y txt ai bi len =>
    obtain ⟨m, cs, rfl, hm, hc⟩ := rel.out
    obtain ⟨r₁, ri, hg1, hg2, rfl, rfl⟩ := exec_wrap_ok h
    simp only [exec]
    rcases (getMapSt_sim (cs := cs) hm (hT rfl) hg1).cases with ⟨r₂, e2, hr⟩ | ⟨hs, e, e2⟩
    · simp only [e2]
      rcases (getMapSt_sim (cs := cs) hm (hT rfl) hg2).cases with ⟨r₃, e3, hr3⟩ | ⟨hs, e, e3⟩
      · simp only [e3]
        exact ⟨rfl, push_rel hm hc rel.ks (NRel.mk' hr.1
          (fun _ ht => hx.1 _ _ (span_of_KS rel.ks hr.2 (hx.2 ht).1 (hx.2 ht).2))
          (LRel.single (newText_rel _ hr3.1)))⟩
      · simp only [e3]; exact hs
    · simp only [e2]; exact hs

/-- a rule `runPlan` in lock step: both sides read the same window, so they carry out the same plan -/
theorem runPlan_sim {t s : Bool} {a b : IState} {silent : Bool} {plan : List Char → Except RPanic Plan}
    {r : Option Nat × IState} (rel : IRel P s a b) (hT : silent = false → Tight t s b.srcmap)
    (hx : silent = false → ∀ w p, a.window = .ok w → plan w = .ok p → exec a p = .ok r → PlanX P t s a b p)
    (h : runPlan a silent plan = .ok r) : Sim t (ORel P s) r (runPlan b silent plan) := by
  obtain ⟨w, p, hw, hp, he⟩ := runPlan_ok h
  have hb : b.window = a.window ∧ b.pos = a.pos := by obtain ⟨m, cs, rfl, hm, hc⟩ := rel.out; exact ⟨rfl, rfl⟩
  unfold runPlan
  rw [hb.1, hb.2, hw]
  simp only [bind, Except.bind, hp]
  cases silent with
  | false => exact exec_sim rel (fun _ => hT rfl) (hx rfl w p hw hp he) he
  | true =>
    exact exec_sim rel (fun hq => by rw [Plan.mode_quiet] at hq; cases hq) (.of_quiet (Plan.mode_quiet _ _)) he

theorem ruleText_sim {t s : Bool} {a b : IState} {silent : Bool} {r : Option Nat × IState}
    (rel : IRel P s a b) (hT : silent = false → Tight t s b.srcmap) (h : ruleText a silent = .ok r) :
    Sim t (ORel P s) r (ruleText b silent) := by
  rw [ruleText_eq] at h ⊢
  refine runPlan_sim rel hT (fun _ w p _ hp _ => ?_) h
  cases hp
  unfold planText
  simp only
  split <;> trivial

theorem ruleEscape_sim {t s : Bool} {a b : IState} {silent : Bool} {r : Option Nat × IState}
    (rel : IRel P s a b) (hT : silent = false → Tight t s b.srcmap) (h : ruleEscape a silent = .ok r) :
    Sim t (ORel P s) r (ruleEscape b silent) := by
  rw [ruleEscape_eq] at h ⊢
  refine runPlan_sim rel hT (fun _ w p _ hp _ => ?_) h
  unfold planEscape at hp
  split at hp <;> cases hp <;> trivial

theorem ruleEntity_sim {t s : Bool} {cfg : Cfg} {a b : IState} {silent : Bool} {r : Option Nat × IState}
    (rel : IRel P s a b) (hT : silent = false → Tight t s b.srcmap) (h : ruleEntity cfg a silent = .ok r) :
    Sim t (ORel P s) r (ruleEntity cfg b silent) := by
  have hb : b.src = a.src ∧ b.pos = a.pos := by obtain ⟨m, cs, rfl, hm, hc⟩ := rel.out; exact ⟨rfl, rfl⟩
  rw [ruleEntity_eq] at h ⊢
  rw [hb.1, hb.2]
  refine runPlan_sim rel hT (fun _ w p _ hp _ => ?_) h
  unfold planEntity at hp
  repeat' split at hp
  all_goals cases hp
  all_goals trivial

theorem ruleAutolink_sim {t s : Bool} {a b : IState} {silent : Bool} {r : Option Nat × IState}
    (rel : IRel P s a b) (hT : silent = false → Tight t s b.srcmap) (h : ruleAutolink a silent = .ok r) :
    Sim t (ORel P s) r (ruleAutolink b silent) := by
  have hb : b.src = a.src ∧ b.pos = a.pos := by obtain ⟨m, cs, rfl, hm, hc⟩ := rel.out; exact ⟨rfl, rfl⟩
  have h0 := h
  rw [ruleAutolink_eq] at h ⊢
  rw [hb.1, hb.2]
  refine runPlan_sim rel hT (fun _ w p hw hp he => ?_) h
  unfold planAutolink at hp
  repeat' split at hp
  all_goals cases hp
  all_goals try trivial
  obtain ⟨o, a'⟩ := r
  obtain ⟨_, _, _, _, rfl, rfl⟩ := exec_wrap_ok he
  have hs := startAt_of_window (good := P.good) hw (by
    cases Decidable.of_not_not ‹¬ _ ≠ '<'›; exact P.good_solid (by decide) (by decide))
  refine ⟨fun _ _ hsp => hsp, fun ht => ⟨hs.1, ?_⟩⟩
  have := ruleAutolink_end hs.2 (rel.ks.2.1 ▸ P.wf₁ ht) h0
  simp only [IState.push] at this
  omega

theorem ruleBackticks_sim {t s : Bool} {a b : IState} {silent : Bool} {r : Option Nat × IState}
    (rel : IRel P s a b) (hT : silent = false → Tight t s b.srcmap) (h : ruleBackticks a silent = .ok r) :
    Sim t (ORel P s) r (ruleBackticks b silent) := by
  have hend : P.track → ∀ n a', r = (some n, a') → a.pos < a.posMax → a'.pos + n ≤ a.posMax :=
    fun ht n a' e hlt => ruleBackticks_end hlt (rel.ks.2.1 ▸ P.wf₁ ht) (e ▸ h)
  obtain ⟨m, cs, rfl, hm, hc⟩ := rel.out
  rw [ruleBackticks_eq] at h ⊢
  simp only [] at h ⊢
  split at h
  · cases h
  · next oc c hrun =>
    refine exec_sim (IRel.mk' (a := { a with backticks := c }) hm hc rel.ks) (fun hq => hT ?_) ?_ h
    · -- in silent mode the code-span model returns no node
      cases silent with
      | false => rfl
      | true =>
        cases oc with
        | none => cases hq
        | some o => simp only [planBackticks, run_silent_node _ _ _ _ _ _ _ _ _ hrun] at hq; cases hq
    · unfold planBackticks
      split
      · trivial
      · next o =>
        split
        · trivial
        · next nd hnd =>
          have hcn := codeRun_start (P := P) hrun
          have hrs := (run_node_shape (by decide) hrun hnd).1
          have hre := (run_node_shape (by decide) hrun hnd).2.1
          refine ⟨fun _ _ hsp => hsp, fun ht => ⟨hrs ▸ hcn.1, ?_⟩⟩
          obtain ⟨o', a'⟩ := r
          simp only [planBackticks, hnd] at h
          obtain ⟨_, _, _, _, rfl, rfl⟩ := exec_wrap_ok h
          have hend' := hend ht _ _ rfl hcn.2
          simp only [IState.push] at hend'
          show nd.rangeEnd ≤ a.posMax
          omega

theorem ruleNewline_sim {t s : Bool} {a b : IState} {silent : Bool} {r : Option Nat × IState}
    (rel : IRel P s a b) (hT : silent = false → Tight t s b.srcmap)
    (hu : silent = false → t = true → s = true ∨ ∀ i₂ x₂ x y, popLast b.children = some (i₂, x₂) →
      x₂.range = some (x, y) → tailSpaces (trailingTextGet b.children) < byteLen x₂.content →
      tailSpaces (trailingTextGet b.children) ≤ y)
    (h : ruleNewline a silent = .ok r) :
    Sim t (ORel P s) r (ruleNewline b silent) := by
  have hb : b.pos = a.pos ∧ trailingTextGet b.children = trailingTextGet a.children := by
    obtain ⟨m, cs, rfl, hm, hc⟩ := rel.out; exact ⟨rfl, trailingTextGet_rel hc⟩
  rw [ruleNewline_eq] at h ⊢
  rw [hb.1, hb.2]
  rw [hb.2] at hu
  refine runPlan_sim rel hT (fun hs w p _ hp _ => ?_) h
  unfold planNewline at hp
  repeat' split at hp
  all_goals cases hp
  · trivial
  · exact hu hs
end MdIt.Inline.XG
