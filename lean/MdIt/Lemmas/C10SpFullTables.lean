/-
  C10 with the sourcepos plugin, full version: the per-line tables of the two documents.

    * `inlSpec3_pseg`, `doc_placeholder_segs`   every placeholder `(c, m)` of the block
      tree of `src` whose table has no virtual-space entry is segmented (`SegAll (fa_Seg src c) m` of
      Lemmas/C05RestFaith.lean: entry by entry a LF-free stretch of `c` that is a copy of source bytes,
      followed by ONE line feed behind which the next key points);
    * `tr_shift`   for such a table and the table `m.map (k, v) ↦ (k, v + #LF before v)` of the CR LF
      document, EVERY position of `c` is translated to `a` and `a + #LF before a`;
    * `tr_onByte`  a position of `c` at which a character other than LF starts is translated to a byte
      of `src` that is not a line feed.
-/
import MdIt.Props.C05Rest
import MdIt.Lemmas.C10SourceposSim
import MdIt.Lemmas.C10SpFullDefs

namespace MdIt.Block
open MdIt.Lines (LineOffset)

/-- what this development needs of a placeholder: `PFullV`, and a segmented table when no tab is split -/
def PSeg (src0 : List Char) : InlP := fun c m a b =>
  PFullV src0 c m a b ∧ (C05I.NoVirt m → C05.WFMap m ∧ C05I.SegAll (C05R.fa_Seg src0 c) m)

theorem inlSpec3_pseg (src0 : List Char) : InlSpec3 src0 (PSeg src0) := by
  refine ⟨?_, ?_⟩
  · intro s b e c m ob oe hg hgl hbe hob hoe hkept
    refine ⟨(inlSpec3_pfullV src0).lines s b e c m ob oe hg hgl hbe hob hoe hkept, ?_⟩
    intro hnv
    have := C05R.fa_getLines_seg hg.g2.geo.table hg.g2.strict hg.term hnv hbe (C05I.getLines_lift hgl)
    rw [hg.g2.srcEq] at this
    exact this
  · intro s o line content textPos textMax hg ho hline hcontent
    refine ⟨(inlSpec3_pfullV src0).heading s o line content textPos textMax hg ho hline hcontent, ?_⟩
    intro hnv
    have := C05I.heading_lseg (T := True) (hg.g2.geo.table _ _ ho) ho hline hcontent
    rw [hg.g2.srcEq] at this
    exact ⟨(C05I.single_table content _).1, C05R.lseg_fa this hnv⟩

end MdIt.Block

namespace MdIt.Pipeline
open MdIt.InlineOps (Srcmap getSourcePosFor byteLen)
open MdIt.C05R
open MdIt.C05I (SegAll segAll_get NoVirt)

/-- what is known of a placeholder whose table has no virtual-space entry -/
structure TabOK (src c : List Char) (m : Srcmap) : Prop where
  wf : C05.WFMap m
  seg : SegAll (fa_Seg src c) m
  map : Inline.MapOK c m
  fth : PFth src c m

/-- **every placeholder of the block tree has a segmented table** (unless one of its tabs is split) -/
theorem doc_placeholder_segs (cfg : DocCfg) (src : List Char)
    (hsmall : 4 * Lines.byteLen src + 8 < 2147483648) (hpara : cfg.hasPara = true)
    {root : Block.BNode} {refs : Refs.RefMap} (hb : Block.parseBlocks cfg.blockCfg src = .ok (root, refs)) :
    Block.AllInl (fun c m => NoVirt m → TabOK src c m) root := by
  obtain ⟨hr, hg⟩ := Block.parseBlocks_geo3 (cfg := cfg.blockCfg) hpara (Block.inlSpec3_pseg src) hsmall hb
  refine hg.allInl (Q := fun c m => NoVirt m → TabOK src c m) ?_ ?_
  · intro c m a b ⟨⟨hp, hf, _⟩, hs⟩ hnv
    obtain ⟨hw, hsg⟩ := hs hnv
    exact ⟨hw, hsg, hp.2.2.2.2.1 hnv, hf hnv⟩
  · intro c m hk hrg
    rw [hr] at hrg; cases hrg

/-- a cut without line feed: the line feeds below any offset inside it are those below its start -/
theorem lfBelow_cut {src : List Char} {v e : Nat} {t : List Char} (h : Cut src v e t) (hn : '\n' ∉ t)
    (d : Nat) (hd : d ≤ byteLen t) : C10SP.lfBelow src (v + d) = C10SP.lfBelow src v := by
  obtain ⟨p, q, hsrc, hp, _⟩ := h
  rw [← C05I.linesLen_eq] at hp hd
  have h1 := C10SP.lfBelow_in_line p t q hn d hd
  have h0 := C10SP.lfBelow_in_line p t q hn 0 (Nat.zero_le _)
  rw [hsrc, List.append_assoc, ← hp, h1]
  simpa using h0.symm

/-- the table of the CR LF document: the same keys, every value moved by the line feeds before it -/
def shiftMap (src : List Char) (m : Srcmap) : Srcmap := m.map fun e => (e.1, e.2 + C10SP.lfBelow src e.2)

theorem lfBelow_mono (src : List Char) : ∀ {a b : Nat}, a ≤ b → C10SP.lfBelow src a ≤ C10SP.lfBelow src b := by
  induction src with
  | nil => intro a b _; simp
  | cons ch r ih =>
    intro a b hab
    simp only [C10SP.lfBelow]
    by_cases ha : a = 0
    · simp [ha]
    · have hb : b ≠ 0 := by omega
      rw [if_neg ha, if_neg hb]
      have := ih (a := a - ch.utf8Size) (b := b - ch.utf8Size) (by omega)
      omega

theorem shiftMap_get (src : List Char) (m : Srcmap) (i : Nat) :
    (shiftMap src m)[i]? = (m[i]?).map fun e => (e.1, e.2 + C10SP.lfBelow src e.2) := by
  simp [shiftMap]

theorem shiftMap_keys (src : List Char) (m : Srcmap) : (shiftMap src m).map Prod.fst = m.map Prod.fst := by
  simp [shiftMap, Function.comp_def]

/-- where a position `p ≤ |c|` sits in a segmented table: entry `(k, v)`, stretch `t` -/
theorem seg_locate {src c : List Char} {m : Srcmap} (h : TabOK src c m) {p : Nat} (hp : p ≤ byteLen c) :
    ∃ i k v t, InlineOps.lineOf m p = .ok i ∧ m[i]? = some (k, v) ∧ k ≤ p ∧ p - k ≤ byteLen t ∧
      getSourcePosFor m p = .ok (v + (p - k)) ∧ '\n' ∉ t ∧ Cut src v (v + byteLen t) t ∧
      (∀ k' v', m[i + 1]? = some (k', v') → v + byteLen t < v') ∧
      (∃ pre post, c = pre ++ t ++ post ∧ byteLen pre = k) := by
  obtain ⟨i, k, v, h1, h2, h3, h4, h5⟩ :=
    C05.lineOf_spec_tr m h.wf p (C05.clampFree_of_mono m h.map.mono p)
  obtain ⟨pre, t, post, hcc, hpre, hnt, hsrc, hnext⟩ := segAll_get h.seg h2
  simp only at hpre hsrc hnext
  refine ⟨i, k, v, t, h1, h2, h3, ?_, h5, hnt, hsrc, ?_, ⟨pre, post, hcc, hpre⟩⟩
  · cases hn : m[i + 1]? with
    | none =>
      rw [hn] at hnext
      subst hnext
      rw [hcc] at hp
      simp only [C05.byteLen_append, List.append_nil, byteLen] at hp
      omega
    | some y =>
      rw [hn] at hnext
      obtain ⟨post', _, hk, _, _⟩ := hnext
      have := h4 (i + 1) y.1 y.2 (by omega) hn
      omega
  · intro k' v' hn
    rw [hn] at hnext
    obtain ⟨post', _, _, hv, _⟩ := hnext
    exact hv

/-- **every position of the inline text is translated exactly**: under a segmented table to `a`,
    under the shifted table to `a + #LF before a` -/
theorem tr_shift {src c : List Char} {m : Srcmap} (h : TabOK src c m) {p a : Nat} (hp : p ≤ byteLen c)
    (ha : getSourcePosFor m p = .ok a) :
    getSourcePosFor (shiftMap src m) p = .ok (a + C10SP.lfBelow src a) := by
  obtain ⟨i, k, v, t, h1, h2, h3, hd, h5, hnt, hcut, hnx, _⟩ := seg_locate h hp
  rw [h5] at ha
  simp only [Except.ok.injEq] at ha
  subst ha
  have hlf := lfBelow_cut hcut hnt (p - k) hd
  have hl2 : InlineOps.lineOf (shiftMap src m) p = .ok i := by
    unfold InlineOps.lineOf at h1 ⊢
    rw [shiftMap_keys]; exact h1
  have hg2 : (shiftMap src m)[i]? = some (k, v + C10SP.lfBelow src v) := by
    rw [shiftMap_get, h2]; rfl
  rw [C05.getSourcePosFor_of_line (shiftMap src m) p i k _ hl2 hg2 h3 ?_, hlf]
  · congr 1; omega
  · intro k' v' hn
    rw [shiftMap_get] at hn
    cases hm : m[i + 1]? with
    | none => rw [hm] at hn; simp at hn
    | some y =>
      rw [hm] at hn
      simp only [Option.map_some, Option.some.injEq, Prod.mk.injEq] at hn
      obtain ⟨_, rfl⟩ := hn
      have := hnx y.1 y.2 (by rw [hm])
      have hmono := lfBelow_mono src (a := v) (b := y.2) (by omega)
      omega

/-- a position of the inline text at which a character other than LF starts is translated to a byte
    of the document that is not a line feed -/
theorem tr_onByte {src c : List Char} {m : Srcmap} (h : TabOK src c m) {p a : Nat}
    (hc : C10SP.CharNotLf c p) (ha : getSourcePosFor m p = .ok a) :
    ∃ u ch w, src = u ++ ch :: w ∧ byteLen u = a ∧ ch ≠ '\n' := by
  obtain ⟨u, ch, w, hcc, hu, hch⟩ := hc
  have hcut : Cut c p (p + ch.utf8Size) [ch] := ⟨u, w, by simp [hcc], hu, by simp [byteLen]⟩
  obtain ⟨b, hb⟩ := C05.translate_total m h.wf (p + ch.utf8Size)
  have := h.fth.copy p (p + ch.utf8Size) [ch] a b hcut (by simpa using hch.symm) ha hb
  obtain ⟨u', w', hs, hu', _⟩ := this
  exact ⟨u', ch, w', by simpa using hs, hu', hch⟩

end MdIt.Pipeline
