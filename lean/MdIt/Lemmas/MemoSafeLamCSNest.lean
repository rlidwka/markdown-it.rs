/-
  For `Props/MemoSafe.lean`: THE NESTED FRAMES for the definitions of `Lemmas/MemoSafeLamCSDef.lean`
  (namespace `MdIt.Inline.CS`): the code-span invariants as an instance of
  `Lemmas/MemoSafeLamFrameKit.lean`.

  What the invariants have beyond those of `Lemmas/MemoSafeLamNest.lean` (all conditional on
  `RuleId.backticks ∈ cfg.chain`):
    * `NF` has the fields `nocut` (the top `pos_max` cuts no backtick run), `hmk : MK s` (unit memo
      entries that end strictly inside a backtick run are marked in the CURRENT `inside_failed`) and
      `ifp : IFP s` (a state strictly inside a run has its position in `inside_failed`);
    * the witness `CS.Just` of a memo entry knows `IFP` of its state (`NestKit.W`); at a backtick the
      witness states of the chain keep it (`witBack`: `inside_failed` only grows, and only the code-span
      rule touches the cache there), so the agreement premise of `CS.BackL2` holds (`backL2`): strictly
      inside a run both `inside_failed` contain the position, elsewhere `AgreeHyp`;
    * `CS.BackOK` needs `NoCut` of the `pos_max` of the call: the top `pos_max` (`NF.nocut`) for witness
      states, the `]` at the frame end for nested real states (`WinHyp.noCut`);
    * a rule call only grows `inside_failed` (`NestKit.R`), which keeps `MK`: memo and text are constant
      in a nested frame;
    * `IFP` of the successor state (`next`): the new position is the end `v` of the memo entry `k ↦ v` —
      if it is strictly inside a run then `v = k + 1` (`EndHyp`) and `MK` gives the mark — or the end of a
      real delimiter run, whose last character is a marker, which is no backtick when the code-span rule
      is in the (coherent) chain (`not_interior_after_run`);
    * the start state of a deeper frame sits right behind a `[`, so its `IFP` is vacuous (`enter`).
-/
import MdIt.Lemmas.MemoSafeLamCSDef

namespace MdIt.Inline.CS
open MdIt.Inline
open MdIt.InlineOps (byteLen slice)

/-! ## the invariant of the nested frames, with the code-span marks -/

/-- the fixed data of a nested descent (`Inline.NCtx` with the new witnesses) -/
structure NCtx (cfg : Cfg) (B : List Char → CodePair.Cache → Prop) (src : List Char) (Mtop : Nat)
    (m : List (Nat × Nat)) : Prop where
  bmax : Boundary src Mtop
  stop : EntStop src Mtop
  memo : ∀ k v, (k, v) ∈ m → k < v ∧ Boundary src v
  just : JustAll cfg B src Mtop m

theorem NCtx.toNCtx {cfg : Cfg} {B : List Char → CodePair.Cache → Prop} {src : List Char} {Mtop : Nat}
    {m : List (Nat × Nat)} (h : NCtx cfg B src Mtop m) : Inline.NCtx cfg B src Mtop m :=
  ⟨h.bmax, h.stop, h.memo, h.just.toJustAll⟩

/-- **the invariant of a real state inside a nested label frame** (`Inline.NF` plus `nocut`, `MK`, `IFP`) -/
structure NF (cfg : Cfg) (B : List Char → CodePair.Cache → Prop) (src : List Char) (Mtop : Nat)
    (s : IState) : Prop where
  ctx : NCtx cfg B src Mtop s.cache
  hsrc : s.src = src
  back : B s.src s.backticks
  good : ∃ lo, Good lo s
  cut : ∃ r, slice src s.posMax Mtop = .ok (']' :: r)
  outer : Outer src Mtop s.cache s.posMax s.pos 1
  nocut : CodePair.NoCut '`' src Mtop
  hmk : RuleId.backticks ∈ cfg.chain → MK s
  ifp : RuleId.backticks ∈ cfg.chain → IFP s

theorem NF.toNF {cfg : Cfg} {B : List Char → CodePair.Cache → Prop} {src : List Char} {Mtop : Nat}
    {s : IState} (h : NF cfg B src Mtop s) : Inline.NF cfg B src Mtop s :=
  ⟨h.ctx.toNCtx, h.hsrc, h.back, h.good, h.cut, h.outer⟩

theorem NF.memoB {cfg : Cfg} {B : List Char → CodePair.Cache → Prop} {src : List Char} {Mtop : Nat}
    {s : IState} (h : NF cfg B src Mtop s) : MemoB s := h.toNF.memoB

/-- the hypotheses of the nested induction -/
structure NestHyps (cfg : Cfg) (B : List Char → CodePair.Cache → Prop) (src : List Char) (Mtop : Nat) :
    Prop where
  coh : ChainCoherent cfg = true
  hB : BackOK B
  flat : FlatL2 cfg
  back : RuleId.backticks ∈ cfg.chain → BackL2 cfg B src Mtop
  keep : RealKeeps cfg
  emph : EmphL2 cfg
  plLink : RuleId.link ∈ cfg.chain → ParseLinkL2Part cfg B src Mtop 0 false
  plImage : RuleId.image ∈ cfg.chain → ParseLinkL2Part cfg B src Mtop 1 true
  one : cfg.chain.count .link ≤ 1 ∧ cfg.chain.count .image ≤ 1
  hend : EndHyp cfg B src Mtop
  agree : AgreeHyp B src

/-! ## the fixed data of one real step -/

/-- a witness state `w` (look-ahead, top `pos_max`) and a real state `x` of the nested frame at the same
    position.  `B` and `IFP` of the witness state are only needed (and only available) at a backtick. -/
structure Pair (cfg : Cfg) (B : List Char → CodePair.Cache → Prop) (src : List Char) (Mtop : Nat)
    (m : List (Nat × Nat)) (k le : Nat) (ch : Char) (w x : IState) : Prop where
  wi : LInv w
  wsrc : w.src = src
  wmax : w.posMax = Mtop
  wpos : w.pos = k
  wB : ch = '`' → B w.src w.backticks
  wifp : ch = '`' → RuleId.backticks ∈ cfg.chain → IFP w
  nf : NF cfg B src Mtop x
  xpos : x.pos = k
  xmax : x.posMax = le
  xcache : x.cache = m

/-- one real rule call (verdict `o`, state `x'`) against its witness call (verdict `o1`): as
    `Inline.RulePost`, plus: `inside_failed` only grows -/
def RulePost (cfg : Cfg) (B : List Char → CodePair.Cache → Prop) (src : List Char) (ch : Char)
    (v k le : Nat) (o1 : Option Nat) (x : IState) (o : Option Nat) (x' : IState) : Prop :=
  x'.cache = x.cache ∧ x'.src = x.src ∧ x'.posMax = x.posMax ∧ B x'.src x'.backticks ∧
  InsideSub x.backticks x'.backticks ∧
  ((o = none ∧ o1 = none ∧ x'.pos = x.pos ∧ ∃ lo, Good lo x') ∨
   (∃ len, o = some len ∧ (∃ n, o1 = some n) ∧ x'.pos + len = v) ∨
   (∃ n, o = some n ∧ x'.pos = x.pos ∧ MarkerRun cfg src ch k le n))

/-- the callees of one real step: the guarded pair and the model pair -/
structure Callees (cfg : Cfg) (B : List Char → CodePair.Cache → Prop) (src : List Char) (Mtop : Nat)
    (f : Nat) (skipG skipM tokG tokM : IState → Except Panic IState) : Prop where
  calm : CalmFn skipG
  skT : SkipHypT skipG
  tokT : TokHypT tokG
  rng : RangesFn tokG
  hits : f = 0 ∨ (FollowsHits skipG ∧ FollowsHits skipM)
  tokEq : ∀ s, NF cfg B src Mtop s → tokG s = tokM s ∧
    ∀ s', tokG s = .ok s' → s'.cache = s.cache ∧ s'.src = s.src ∧
      InsideSub s.backticks s'.backticks ∧ B s'.src s'.backticks

section
variable {cfg : Cfg} {B : List Char → CodePair.Cache → Prop} {src : List Char} {Mtop : Nat}

theorem NF.top_lt {s : IState} (h : NF cfg B src Mtop s) : s.posMax < Mtop := h.toNF.top_lt

/-- `NF` reads `src`, `posMax`, `pos`, `cache`, `backticks` and `Good` only; `inside_failed` may grow -/
theorem NF.of_same {x x' : IState} (h : NF cfg B src Mtop x) (hc : x'.cache = x.cache)
    (hs : x'.src = x.src) (hm : x'.posMax = x.posMax) (hp : x'.pos = x.pos)
    (hb : B x'.src x'.backticks) (hsub : InsideSub x.backticks x'.backticks)
    (hg : ∃ lo, Good lo x') : NF cfg B src Mtop x' :=
  ⟨by rw [hc]; exact h.ctx, hs.trans h.hsrc, hb, hg, by rw [hm]; exact h.cut,
    by rw [hc, hm, hp]; exact h.outer, h.nocut, fun hbt => (h.hmk hbt).of_sub hs hc hsub,
    fun hbt hi => by
      rw [hs, hp] at hi
      rw [hp]; exact hsub _ (h.ifp hbt hi)⟩

end

/-- the start state of a label frame sits right behind a `[`: there `IFP` is vacuous, so `Inline.NF` of it
    extends to `CS.NF` -/
theorem _root_.MdIt.Inline.NF.toCS {cfg : Cfg} {B : List Char → CodePair.Cache → Prop} {src : List Char}
    {Mtop : Nat} {y : IState} (hy : Inline.NF cfg B src Mtop y) (hj : JustAll cfg B src Mtop y.cache)
    (hnc : CodePair.NoCut '`' src Mtop) (hmk : RuleId.backticks ∈ cfg.chain → MK y) {p M : Nat}
    {r : List Char} (hr : slice src p M = .ok ('[' :: r)) (hp : y.pos = p + 1) : NF cfg B src Mtop y :=
  ⟨⟨hy.ctx.bmax, hy.ctx.stop, hy.ctx.memo, hj⟩, hy.hsrc, hy.back, hy.good, hy.cut, hy.outer, hnc, hmk,
    fun _ hi => absurd (by rw [hy.hsrc, hp] at hi; exact hi) (not_interior_after_bracket hr)⟩

/-! ## the witness side: look-ahead calls -/

/-- at a backtick every look-ahead rule call keeps the code-span cache invariant and only grows
    `inside_failed`: only the code-span rule touches the cache there (the link / image rules decline on
    the first character) -/
theorem wit_back {cfg : Cfg} {B : List Char → CodePair.Cache → Prop} (hB : BackOK B)
    {skip tok : IState → Except Panic IState} {fuel : Nat} {id : RuleId} {w w1 : IState}
    (hnc : CodePair.NoCut '`' w.src w.posMax)
    {rest : List Char} (hw : w.window = .ok ('`' :: rest)) (hb : B w.src w.backticks)
    {o1 : Option Nat} (h : silentBumped (runRule cfg skip tok fuel id) w = .ok (o1, w1)) :
    B w1.src w1.backticks ∧ InsideSub w.backticks w1.backticks := by
  obtain ⟨wb, hwb, rfl⟩ := silentBumped_ok h
  show B wb.src wb.backticks ∧ InsideSub w.backticks wb.backticks
  rcases wit_at_backtick (w := { w with level := w.level + 1 }) hw hwb with hr | e
  · exact ⟨hB _ true _ _ hr hnc hb, insideSub_ruleBackticks (st := { w with level := w.level + 1 }) hr⟩
  · rw [e]; exact ⟨hb, InsideSub.refl _⟩


/-- the end of a real delimiter run is not strictly inside a backtick run: its last character is an
    emphasis marker, and no rule of a coherent chain — in particular not the code-span rule — fires
    at a marker -/
theorem not_interior_after_run {cfg : Cfg} {src : List Char} (hcoh : ChainCoherent cfg = true)
    (hbt : RuleId.backticks ∈ cfg.chain)
    {ch : Char} {k le n : Nat} (h : MarkerRun cfg src ch k le n) : ¬ Interior src (k + n) := by
  obtain ⟨⟨csw, hcsw⟩, h1, _, h3⟩ := h
  obtain ⟨r, hr⟩ := h3 (n - 1) (by omega)
  have hc : CodePair.charAt src (k + (n - 1)) = some ch := by
    have := charAt_next (u := []) (b := ch) (v := r) (a := k + (n - 1)) (q := le) (by simpa using hr)
    simpa [byteLen] using this
  have hne : ch ≠ '`' := by
    have := (coherent_marker hcoh hcsw).2 .backticks hbt
    intro e
    subst e
    simp [RuleId.firesAt] at this
  rintro ⟨_, h2, _⟩
  have e : k + n - 1 = k + (n - 1) := by omega
  rw [e, hc] at h2
  simp only [Option.some.injEq] at h2
  exact hne h2


/-! ## `CS.NF` meets the closure properties of `Lemmas/MemoSafeLamFrameKit.lean` -/

section
variable {cfg : Cfg} {B : List Char → CodePair.Cache → Prop} {src : List Char} {Mtop : Nat}

/-- the strand of this namespace: `N := CS.NF`; a rule call keeps memo and text, only grows
    `inside_failed` and keeps `B`; a witness state knows `IFP` -/
def nestKit (H : NestHyps cfg B src Mtop) : NestKit cfg B src Mtop where
  N := NF cfg B src Mtop
  R := fun s s' => s'.cache = s.cache ∧ s'.src = s.src ∧ InsideSub s.backticks s'.backticks ∧
    B s'.src s'.backticks
  W := fun w => RuleId.backticks ∈ cfg.chain → IFP w
  coh := H.coh
  flat := H.flat
  keep := H.keep
  emph := H.emph
  one := H.one
  toNF := NF.toNF
  R_trans := fun a b => ⟨b.1.trans a.1, b.2.1.trans a.2.1, a.2.2.1.trans b.2.2.1, b.2.2.2⟩
  R_cache := fun h => h.1
  R_congr := fun h a1 a2 a3 b1 b2 b3 => ⟨by rw [b1, h.1, a1], by rw [b2, h.2.1, a2],
    by rw [a3, b3]; exact h.2.2.1, by rw [b2, b3]; exact h.2.2.2⟩

theorem nestKit_loop (H : NestHyps cfg B src Mtop) : (nestKit H).Loop where
  frame :=
    { hsrc := fun h => h.hsrc
      back := fun h => h.back
      good := fun h => h.good
      memo := fun h => h.memoB
      ctx := fun h => h.ctx.toNCtx
      win := fun h => .inr ⟨h.top_lt, h.cut⟩
      refl := fun h => ⟨rfl, rfl, InsideSub.refl _, h.back⟩
      same := fun hn r hs hm hp hg => hn.of_same r.1 hs hm hp r.2.2.2 r.2.2.1 hg
      enter := fun hn hy hc hs hb hr hp =>
        hy.toCS (by rw [hc]; exact hn.ctx.just) hn.nocut
          (fun hbt => (hn.hmk hbt).of_sub hs hc (by rw [hb]; exact InsideSub.refl _)) hr hp
      witBack := fun {skip tok fuel id w w1 o1 rest x} hq hs hi hn hsrc hmax hpos hlt hw hb hW h => by
        obtain ⟨_, hs1, _, hp1⟩ := wit_step hq hs fuel id hi
          (by rw [hpos, hmax]; have := hn.top_lt; omega) h
        obtain ⟨b1, sub⟩ := wit_back H.hB (by rw [hsrc, hmax]; exact hn.nocut) hw hb h
        exact ⟨b1, fun hbt hint => by rw [hs1, hp1] at hint; rw [hp1]; exact sub _ (hW hbt hint)⟩
      backL2 := fun {skip tok skip' tok' fuel fuel' w x o0 wb o x'} hid hn _ hsrc hmax hpos hWin _ hb hW
          hwb hreal => by
        -- the two `inside_failed` agree at the position: strictly inside a run both contain it
        have hagree :
            w.backticks.insideFailed.contains w.pos = x.backticks.insideFailed.contains x.pos := by
          by_cases hint : Interior src x.pos
          · rw [hW hid (by rw [hsrc, hpos]; exact hint), hn.ifp hid (by rw [hn.hsrc]; exact hint)]
          · rw [hpos]
            exact H.agree _ _ _ (by rw [← hsrc]; exact hb) (by rw [← hn.hsrc]; exact hn.back) hint
        obtain ⟨l1, l2⟩ := H.back hid skip tok skip' tok' fuel fuel' { w with level := w.level + 1 } x
          hWin.bump hsrc hmax (hn.hsrc.trans hsrc.symm) hpos.symm hb hn.back hagree o0 wb o x' hwb hreal
        obtain ⟨_, kc, ks, _⟩ := H.keep skip' tok' fuel' .backticks rfl x o x' hreal
        have hreal' : liftR (ruleBackticks x false) = .ok (o, x') := hreal
        have hnc : CodePair.NoCut '`' x.src x.posMax := by
          have := hWin.noCut (by rw [hsrc, hmax]; exact hn.nocut)
          rw [hn.hsrc, ← hsrc]; exact this
        exact ⟨l1, l2, kc, ks, insideSub_ruleBackticks (liftR_ok.mp hreal'),
          H.hB x false o x' (liftR_ok.mp hreal') hnc hn.back⟩
      pl := PLPart.of_nf NF.toNF H.plLink H.plImage }
  wit := fun hn hlk hv hsl => by
    rcases hn.ctx.just _ _ (lookup_mem hlk) with h | hJ
    · omega
    · obtain ⟨skip0, tok0, f0, st0, st0', hq0, hs0, hg0, hi0, hsrc0, hmax0, hpos0, hlt0, hB0, hmiss, hstep,
        hv, hmono, hifp⟩ := hJ
      obtain ⟨o0, w', h⟩ :=
        skipStep_chain hq0 hs0 hg0 hi0 hsrc0 hmax0 hpos0 hlt0 hmiss hstep hv hmono hsl
      exact ⟨skip0, tok0, f0, st0, o0, w', hq0, hs0, hg0, hi0, hsrc0, hmax0, hpos0, hB0, hifp, h⟩
  next := fun {s s' v} hn hlk hv r hs hm hg hO hend => by
    rcases hn.ctx.just _ _ (lookup_mem hlk) with h | hJ
    · omega
    have hmk' : RuleId.backticks ∈ cfg.chain → MK s' := fun hbt => (hn.hmk hbt).of_sub hs r.1 r.2.2.1
    refine ⟨by rw [r.1]; exact hn.ctx, hs.trans hn.hsrc, r.2.2.2, hg, by rw [hm]; exact hn.cut,
      by rw [r.1, hm]; exact hO, hn.nocut, hmk', ?_⟩
    -- `IFP` at the new position: the end of a unit entry (`EndHyp`), which `MK` has marked
    intro hbt hi
    rw [hs, hn.hsrc] at hi
    rcases hend with hpv | ⟨ch, n, hrun, hp⟩
    · rw [hpv] at hi ⊢
      have hv1 : v = s.pos + 1 := H.hend _ _ _ hJ.toJust hi
      have hmem : (s.pos, s.pos + 1) ∈ s'.cache := by rw [r.1, ← hv1]; exact lookup_mem hlk
      have := hmk' hbt s.pos hmem (by rw [hs, hn.hsrc, ← hv1]; exact hi)
      rw [hv1]; exact this
    · rw [hp] at hi
      exact absurd hi (not_interior_after_run H.coh hbt hrun)

end


section
variable {cfg : Cfg} {B : List Char → CodePair.Cache → Prop} {src : List Char} {Mtop : Nat}
  {f : Nat} {skipG skipM tokG tokM : IState → Except Panic IState}
  {skip0 tok0 : IState → Except Panic IState} {f0 : Nat}
  {m : List (Nat × Nat)} {k le v : Nat} {ch : Char} {rest : List Char}

/-- **the chain comparison** (as `Inline.chain_L2`; `inside_failed` of the real state only grows, the
    witness states keep `B` and `IFP` at a backtick) -/
theorem chain_L2 (H : NestHyps cfg B src Mtop) (C : Callees cfg B src Mtop f skipG skipM tokG tokM)
    (S : StepCtx src Mtop m k le v ch rest)
    (hq0 : CalmFn skip0) (hs0 : SkipHypT skip0) (hg0 : SkipGrowHyp skip0) :
    ∀ (rules : List RuleId), (∀ id ∈ rules, id ∈ cfg.chain) → rules.count .link ≤ 1 →
      rules.count .image ≤ 1 →
      ∀ (w x : IState), Pair cfg B src Mtop m k le ch w x →
      ∀ o0 w', firstRule (fun id s => silentBumped (runRule cfg skip0 tok0 f0 id) s) rules w
          = .ok (o0, w') →
        LookupMono w'.cache m → (o0 = none → v = k + ch.utf8Size) → (∀ n, o0 = some n → v = k + n) →
        firstRule (fun id s => runRule cfg skipG tokG f id s false) rules x =
          firstRule (fun id s => runRule cfg skipM tokM f id s false) rules x ∧
        ∀ o x', firstRule (fun id s => runRule cfg skipG tokG f id s false) rules x = .ok (o, x') →
          RulePost cfg B src ch v k le o0 x o x' := by
  intro rules hall hcl hci w x P o0 w' hwit hmono hn0 hs0'
  obtain ⟨e, post, _⟩ := NestKit.chain_L2 (K := nestKit H) (nestKit_loop H).frame
    ⟨C.calm, C.skT, C.tokT, C.rng, C.hits, C.tokEq⟩ S hq0 hs0 hg0 rules hall hcl hci w x
    ⟨P.wi, P.wsrc, P.wmax, P.wpos, P.wB, P.wifp, P.nf, P.xpos, P.xmax, P.xcache⟩ o0 w' hwit
    hmono hn0 hs0'
  exact ⟨e, fun o x' h => have ⟨b, c, r, d⟩ := post o x' h; ⟨r.1, b, c, r.2.2.2, r.2.2.1, d⟩⟩

end


section
variable {cfg : Cfg} {B : List Char → CodePair.Cache → Prop} {src : List Char} {Mtop : Nat}

/-- **inside a nested label frame the guarded tokenizer IS the model tokenizer**, at every fuel; it leaves
    the memo and the text alone, only grows `inside_failed`, and keeps the code-span cache invariant -/
theorem nested_eq (H : NestHyps cfg B src Mtop) : ∀ (f : Nat) (s : IState), NF cfg B src Mtop s →
    tokLoopG cfg true f s.posMax s = tokLoop cfg f s.posMax s ∧
    ∀ s', tokLoopG cfg true f s.posMax s = .ok s' → s'.cache = s.cache ∧ s'.src = s.src ∧
      InsideSub s.backticks s'.backticks ∧ B s'.src s'.backticks :=
  NestKit.nested_eq (nestKit_loop H)

end

end MdIt.Inline.CS
