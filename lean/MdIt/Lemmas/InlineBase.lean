/-
  Helper development for `Props/Inline.lean`: positions, frames, windows; the bridges between the
  byte-offset string views (`MdIt.InlineOps`, `MdIt.CodePair`, `MdIt.Link`, `MdIt.Lines`); what a successful
  real-mode run of a rule says (`rule<X>_inv`, `linkRule_inv`; the code-span scanner: `run_found`,
  `run_node`), for every development that walks the rules.
-/
import MdIt.Lemmas.LinkStep
import MdIt.Lemmas.InlinePlan
import MdIt.Props.C05
import MdIt.Props.C04
import MdIt.Props.CodePair

namespace MdIt.Inline
open MdIt.InlineOps (Srcmap getSourcePosFor getMap byteLen slice)
open MdIt.C05 (WFMap byteLen_append slice_ok_iff)

/-! ## the predicates the theorems talk about -/

/-- `p` is a character boundary of `s` (`p ≤ len` included) -/
def Boundary (s : List Char) (p : Nat) : Prop := ∃ pre post, s = pre ++ post ∧ byteLen pre = p

/-- what NO rule, in either mode, changes in the end -/
structure Frame (a b : IState) : Prop where
  src : b.src = a.src
  srcmap : b.srcmap = a.srcmap
  posMax : b.posMax = a.posMax
  level : b.level = a.level
  linkLevel : b.linkLevel = a.linkLevel

theorem Frame.refl (a : IState) : Frame a a := ⟨rfl, rfl, rfl, rfl, rfl⟩

theorem Frame.trans {a b c : IState} (h1 : Frame a b) (h2 : Frame b c) : Frame a c :=
  ⟨h2.src.trans h1.src, h2.srcmap.trans h1.srcmap, h2.posMax.trans h1.posMax,
   h2.level.trans h1.level, h2.linkLevel.trans h1.linkLevel⟩

/-- moving the cursor and writing the memo leave the frame alone -/
theorem Frame.move {a b : IState} (h : Frame a b) (p : Nat) (c : List (Nat × Nat)) :
    Frame a { b with pos := p, cache := c } := ⟨h.src, h.srcmap, h.posMax, h.level, h.linkLevel⟩

/-- the tree under construction is untouched (what look-ahead must guarantee) -/
structure Quiet (a b : IState) : Prop where
  children : b.children = a.children
  bottoms : b.bottoms = a.bottoms

theorem Quiet.refl (a : IState) : Quiet a a := ⟨rfl, rfl⟩

theorem Quiet.trans {a b c : IState} (h1 : Quiet a b) (h2 : Quiet b c) : Quiet a c :=
  ⟨h2.children.trans h1.children, h2.bottoms.trans h1.bottoms⟩

theorem Quiet.move {a b : IState} (h : Quiet a b) (p : Nat) (c : List (Nat × Nat)) :
    Quiet a { b with pos := p, cache := c } := ⟨h.children, h.bottoms⟩

/-- every memoised jump goes forward -/
def MemoInv (st : IState) : Prop := ∀ k v, (k, v) ∈ st.cache → k < v

/-- the invariant under which a rule is called: `pos < posMax ≤ len`, both on character
    boundaries, well-formed per-line table -/
structure InlineInv (st : IState) : Prop where
  lt : st.pos < st.posMax
  bpos : Boundary st.src st.pos
  bmax : Boundary st.src st.posMax
  wf : WFMap st.srcmap

/-! ## strings -/

theorem byteLen_pos_of_ne_nil {l : List Char} (h : l ≠ []) : 0 < byteLen l := by
  cases l with
  | nil => exact absurd rfl h
  | cons c r => have := Char.utf8Size_pos c; simp only [byteLen]; omega

theorem byteLen_eq_zero {l : List Char} (h : byteLen l = 0) : l = [] := by
  rw [C05.byteLen_eq_lines] at h; exact Lines.byteLen_eq_zero h

/-- two splittings of one string: the shorter prefix is a prefix of the longer one -/
theorem append_prefix (a b c d : List Char) (h : a ++ b = c ++ d) (hl : byteLen a ≤ byteLen c) :
    ∃ w, c = a ++ w ∧ b = w ++ d := by
  rw [C05.byteLen_eq_lines] at hl; exact Lines.prefix_of_byteLen a b c d h hl

theorem Boundary.le_len {s : List Char} {p : Nat} (h : Boundary s p) : p ≤ byteLen s := by
  obtain ⟨pre, post, rfl, rfl⟩ := h
  rw [byteLen_append]; omega

theorem boundary_zero (s : List Char) : Boundary s 0 := ⟨[], s, rfl, rfl⟩

theorem boundary_len (s : List Char) : Boundary s (byteLen s) := ⟨s, [], by simp, rfl⟩

/-- the text between two boundaries -/
theorem slice_of_boundaries {s : List Char} {a b : Nat} (ha : Boundary s a) (hb : Boundary s b)
    (hab : a ≤ b) :
    ∃ pre w post, s = pre ++ w ++ post ∧ byteLen pre = a ∧ a + byteLen w = b ∧ slice s a b = .ok w := by
  obtain ⟨p1, q1, e1, l1⟩ := ha
  obtain ⟨p2, q2, e2, l2⟩ := hb
  obtain ⟨w, hw, hq⟩ := append_prefix p1 q1 p2 q2 (by rw [← e1, e2]) (by omega)
  have hs : s = p1 ++ w ++ q2 := by rw [e2, hw]
  have hl : a + byteLen w = b := by rw [← l1, ← l2, hw, byteLen_append]
  exact ⟨p1, w, q2, hs, l1, hl, (slice_ok_iff _ _ _ _).mpr ⟨p1, q2, hs, l1, hl⟩⟩

theorem slice_boundaries {s : List Char} {a b : Nat} {w : List Char} (h : slice s a b = .ok w) :
    Boundary s a ∧ Boundary s b ∧ a + byteLen w = b := by
  obtain ⟨p, q, e, l1, l2⟩ := (slice_ok_iff _ _ _ _).mp h
  refine ⟨⟨p, w ++ q, by rw [e]; simp, l1⟩, ⟨p ++ w, q, e, by rw [byteLen_append]; omega⟩, l2⟩

/-- a boundary inside a slice: split the slice there -/
theorem boundary_in_slice {s : List Char} {a b : Nat} {u v : List Char}
    (h : slice s a b = .ok (u ++ v)) : Boundary s (a + byteLen u) := by
  obtain ⟨p, q, e, l1, _⟩ := (slice_ok_iff _ _ _ _).mp h
  exact ⟨p ++ u, v ++ q, by rw [e]; simp, by rw [byteLen_append]; omega⟩

/-! ## association lists -/

/-- behind a one-byte first character of a window: the next position is a boundary inside the window -/
theorem after_one {src : List Char} {p pm : Nat} {c : Char} {r : List Char} (hc : c.utf8Size = 1)
    (h : slice src p pm = .ok (c :: r)) : p + 1 ≤ pm ∧ Boundary src (p + 1) := by
  obtain ⟨_, _, hl⟩ := slice_boundaries h
  have hb := boundary_in_slice (u := [c]) (v := r) h
  simp only [byteLen, hc] at hl hb
  exact ⟨by omega, hb⟩

theorem lookup_mem' {α β : Type} [BEq α] [LawfulBEq α] {l : List (α × β)} {k : α} {v : β}
    (h : l.lookup k = some v) : (k, v) ∈ l := by
  induction l with
  | nil => simp at h
  | cons e r ih =>
    obtain ⟨a, b⟩ := e
    simp only [List.lookup] at h
    split at h
    · next heq =>
      simp only [Option.some.injEq] at h
      have : k = a := by simpa using heq
      subst this; subst h; simp
    · exact List.mem_cons_of_mem _ (ih h)

theorem lookup_mem {l : List (Nat × Nat)} {k v : Nat} (h : l.lookup k = some v) : (k, v) ∈ l :=
  lookup_mem' h

/-! ## the window of a state -/

theorem liftOps_ok {α : Type} {x : Except InlineOps.Panic α} {a : α} :
    liftOps x = .ok a ↔ x = .ok a := by
  cases x <;> simp [liftOps]

theorem liftR_ne_fuel {α : Type} (x : Except RPanic α) : liftR x ≠ .error .fuel := by
  cases x <;> simp [liftR]

theorem window_ok {st : IState} (hi : InlineInv st) :
    ∃ pre w post, st.src = pre ++ w ++ post ∧ byteLen pre = st.pos ∧
      st.pos + byteLen w = st.posMax ∧ st.window = .ok w ∧ w ≠ [] := by
  obtain ⟨pre, w, post, hs, hp, hw, hsl⟩ := slice_of_boundaries hi.bpos hi.bmax (Nat.le_of_lt hi.lt)
  refine ⟨pre, w, post, hs, hp, hw, ?_, ?_⟩
  · unfold IState.window; rw [hsl]; rfl
  · intro e; subst e; have := hi.lt; simp only [byteLen] at hw; omega

theorem window_eq {st : IState} {w : List Char} (h : st.window = .ok w) :
    slice st.src st.pos st.posMax = .ok w := by
  unfold IState.window at h; exact liftOps_ok.mp h

/-- `get_map` cannot fail on a well-formed table when `a ≤ b` -/
theorem getMap_ok {st : IState} (hw : WFMap st.srcmap) {a b : Nat} (hab : a ≤ b) :
    ∃ x y, st.getMap a b = .ok (x, y) ∧ getSourcePosFor st.srcmap a = .ok x ∧
      getSourcePosFor st.srcmap b = .ok y := by
  obtain ⟨x, hx⟩ := C05.translate_total st.srcmap hw a
  obtain ⟨y, hy⟩ := C05.translate_total st.srcmap hw b
  refine ⟨x, y, ?_, hx, hy⟩
  unfold IState.getMap InlineOps.getMap
  rw [if_neg (by omega), hx, hy]; rfl

/-! ## bridges between the string views -/

theorem codeByteLen_eq (l : List Char) : CodePair.byteLen l = byteLen l := by
  rw [CodePair.byteLen_eq_lines, C05.byteLen_eq_lines]

theorem linkByteLen_eq (l : List Char) : Link.byteLen l = byteLen l := by
  rw [Link.byteLen_eq_lines, C05.byteLen_eq_lines]

/-- the slice of `MdIt.CodePair` agrees with the slice of `MdIt.InlineOps` -/
theorem codeSlice_eq (s : List Char) (a b : Nat) (w : List Char) :
    CodePair.slice s a b = some w ↔ slice s a b = .ok w := by
  rw [CodePair.slice_eq_some_iff_lines, Lines.slice_eq_ok_iff, slice_ok_iff, C05.byteLen_eq_lines]

/-- the slice of `MdIt.Link` agrees with the slice of `MdIt.InlineOps` -/
theorem linkSlice_eq (s : List Char) (a b : Nat) (w : List Char) :
    Link.slice s a b = .ok w ↔ slice s a b = .ok w := by
  rw [Link.slice_ok_iff_lines, Lines.slice_eq_ok_iff, slice_ok_iff, C05.byteLen_eq_lines]

theorem codeBoundary_iff (s : List Char) (p : Nat) : CodePair.isBoundary s p = true ↔ Boundary s p := by
  rw [CodePair.isBoundary_eq_lines, Lines.onBoundary_iff]
  unfold Boundary
  rw [C05.byteLen_eq_lines]

theorem linkBoundary_iff (s : List Char) (p : Nat) : Link.Boundary s p ↔ Boundary s p := by
  constructor
  · rintro ⟨pre, post, e, l⟩; exact ⟨pre, post, e, by rw [← linkByteLen_eq]; exact l⟩
  · rintro ⟨pre, post, e, l⟩; exact ⟨pre, post, e, by rw [linkByteLen_eq]; exact l⟩

/-- the bump of `level` around a look-ahead rule call, undone -/
theorem unbump (s : IState) :
    ({ ({ s with level := s.level + 1 } : IState) with level := s.level + 1 - 1 } : IState) = s := by
  cases s; simp

/-! ## `get_map` -/

theorem getMapRaw_eq {m : Srcmap} {a b x y : Nat} (h : liftOps (getMap m a b) = .ok (x, y)) :
    getSourcePosFor m a = .ok x ∧ getSourcePosFor m b = .ok y ∧ a ≤ b := by
  unfold InlineOps.getMap at h
  split at h
  · simp [liftOps] at h
  · next hab =>
    split at h
    · simp [liftOps] at h
    · next xa ha =>
      split at h
      · simp [liftOps] at h
      · next xb hb =>
        simp only [liftOps, Except.ok.injEq, Prod.mk.injEq] at h
        obtain ⟨rfl, rfl⟩ := h
        exact ⟨ha, hb, by omega⟩

theorem getMap_eq {st : IState} {a b x y : Nat} (h : st.getMap a b = .ok (x, y)) :
    getSourcePosFor st.srcmap a = .ok x ∧ getSourcePosFor st.srcmap b = .ok y ∧ a ≤ b :=
  getMapRaw_eq h

/-! ## the code-span node -/

theorem normalise_id {l : List Char} (h : '\n' ∉ l) : CodePair.normalise l = l := by
  induction l with
  | nil => rfl
  | cons c r ih =>
    have hc : c ≠ '\n' := fun e => h (by rw [e]; simp)
    have hr : '\n' ∉ r := fun e => h (by simp [e])
    unfold CodePair.normalise at ih ⊢
    simp only [List.map_cons, hc, if_false, ih hr]

theorem normalise_size {a : Char} (h : (if a = '\n' then ' ' else a) = ' ') : a.utf8Size = 1 := by
  split at h
  · next e => rw [e]; decide
  · rw [h]; decide

/-- what a successful run of the code-span scanner found: an opening run of `n` markers, a closing
    run of `n` markers at `ms`, the raw text `R` between them; the extent ends behind the closing
    run, and in real mode the node is `nodeOf` of these (`CodePair.run_some` in the offsets of
    `InlineOps`) -/
theorem run_found {v : CodePair.Variant} {m : Char} (hm1 : m.utf8Size = 1) {src : List Char}
    {pos posMax : Nat} {prev silent : Bool} {c c' : CodePair.Cache} {o : CodePair.Outcome}
    (h : CodePair.run v m src pos posMax prev silent c = .ok (some o, c')) :
    ∃ n ms R, 1 ≤ n ∧ slice src (pos + n) ms = .ok R ∧ pos + o.len = ms + n ∧
      (∀ i, ms ≤ i → i < ms + n → CodePair.charAt src i = some m) ∧
      o.node = if silent = true then none else
        some (CodePair.nodeOf pos (pos + n) ms (ms + n) n R) := by
  obtain ⟨rest, ms, R, _, hms, ⟨_, _, hall, _, _⟩, hR, rfl⟩ := CodePair.run_some hm1 h
  rw [Nat.add_assoc] at hR
  exact ⟨_, ms, R, by omega, (codeSlice_eq _ _ _ _).mp hR, by show pos + (_ - pos) = _; omega, hall,
    by rw [Nat.add_assoc]⟩

/-- the inner offsets of the node cut a middle part `w` out of the raw text `R` (all of it, or all
    but one byte on either side); `w` is the content when it has no line feed -/
theorem nodeOf_inner (pos p ms me n : Nat) (R : List Char) :
    ∃ x w z, R = x ++ w ++ z ∧
      (p + byteLen R = ms → (CodePair.nodeOf pos p ms me n R).innerStart = p + byteLen x ∧
        (CodePair.nodeOf pos p ms me n R).innerEnd = p + byteLen x + byteLen w) ∧
      ('\n' ∉ w → (CodePair.nodeOf pos p ms me n R).content = w) := by
  unfold CodePair.nodeOf
  by_cases hpad : CodePair.padded (CodePair.normalise R) = true
  · obtain ⟨mid, hmid, _⟩ := CodePair.padded_split hpad
    simp only [hpad, if_true]
    rw [hmid, CodePair.unpad_eq (hmid ▸ hpad)]
    unfold CodePair.normalise at hmid
    obtain ⟨a, r1, rfl, ha, hr1m⟩ := List.map_eq_cons_iff.mp hmid
    obtain ⟨rmid, rz, rfl, rfl, hrz⟩ := List.map_eq_append_iff.mp hr1m
    obtain ⟨z, rz', rfl, hz, hrz''⟩ := List.map_eq_cons_iff.mp hrz
    obtain rfl : rz' = [] := by simpa using hrz''
    have sa := normalise_size ha
    have sz := normalise_size hz
    refine ⟨[a], rmid, [z], by simp, fun h => ?_, fun hn => normalise_id hn⟩
    simp only [byteLen, byteLen_append, sa, sz, true_and] at h ⊢
    omega
  · simp only [hpad]
    exact ⟨[], R, [], by simp, fun h => by simp [byteLen, h], fun hn => by
      unfold CodePair.unpad; rw [if_neg hpad]; exact normalise_id hn⟩

/-- a node in the outcome of `run`: where its offsets lie in the text, and its content -/
theorem run_node {v : CodePair.Variant} {m : Char} (hm1 : m.utf8Size = 1) {src : List Char}
    {pos posMax : Nat} {prev silent : Bool} {c c' : CodePair.Cache} {o : CodePair.Outcome}
    {nd : CodePair.Node}
    (h : CodePair.run v m src pos posMax prev silent c = .ok (some o, c')) (hn : o.node = some nd) :
    ∃ P x w z Q, src = P ++ (x ++ w ++ z) ++ Q ∧ nd.rangeStart = pos ∧ nd.rangeEnd = pos + o.len ∧
      pos ≤ byteLen P ∧ nd.innerStart = byteLen P + byteLen x ∧
      nd.innerEnd = nd.innerStart + byteLen w ∧ nd.innerEnd + byteLen z ≤ nd.rangeEnd ∧
      ('\n' ∉ w → nd.content = w) := by
  obtain ⟨n, ms, R, _, hR, hl, _, ho⟩ := run_found hm1 h
  obtain ⟨x, w, z, rfl, hio, hw⟩ := nodeOf_inner pos (pos + n) ms (ms + n) n R
  obtain ⟨P, Q, hsrc, hP, hlen⟩ := (slice_ok_iff _ _ _ _).mp hR
  rw [hn] at ho
  split at ho
  · simp at ho
  · obtain rfl := Option.some.inj ho
    obtain ⟨h1, h2⟩ := hio hlen
    simp only [byteLen_append] at hlen
    exact ⟨P, x, w, z, Q, hsrc, rfl, hl.symm, by omega, by omega, by omega,
      by show _ ≤ ms + n; omega, hw⟩

theorem run_node_shape {v : CodePair.Variant} {m : Char} (hm1 : m.utf8Size = 1) {src : List Char}
    {pos posMax : Nat} {prev silent : Bool} {c c' : CodePair.Cache} {o : CodePair.Outcome}
    {nd : CodePair.Node}
    (h : CodePair.run v m src pos posMax prev silent c = .ok (some o, c')) (hn : o.node = some nd) :
    nd.rangeStart = pos ∧ nd.rangeEnd = pos + o.len ∧ pos ≤ nd.innerStart ∧
      nd.innerStart ≤ nd.innerEnd ∧ nd.innerEnd ≤ nd.rangeEnd := by
  obtain ⟨_, _, _, _, _, _, h1, h2, _, _, _, _, _⟩ := run_node hm1 h hn
  exact ⟨h1, h2, by omega, by omega, by omega⟩

theorem run_real_node {v : CodePair.Variant} {m : Char} (hm1 : m.utf8Size = 1) {src : List Char}
    {pos posMax : Nat} {prev : Bool} {c c' : CodePair.Cache} {o : CodePair.Outcome}
    (h : CodePair.run v m src pos posMax prev false c = .ok (some o, c')) : o.node ≠ none := by
  obtain ⟨_, _, _, _, _, _, _, ho⟩ := run_found hm1 h
  simp [ho]

/-! ## what a successful real-mode run of a rule without look-ahead recursion says

  One lemma per rule: either the rule declined (no node; at most a cache changed), or the matched
  pieces, the two `get_map` calls and the pushed node are as the rule body says.  Every invariant
  that is carried through these rules starts from here. -/

theorem ruleText_inv {st st' : IState} {o : Option Nat} (h : ruleText st false = .ok (o, st')) :
    (o = none ∧ st' = st) ∨
    ∃ w len, st.window = .ok w ∧
      len = byteLen (Entity.splitRun (fun c => !Entity.textStop.contains c) w).1 ∧ len ≠ 0 ∧
      o = some len ∧ st.pushText st.pos (st.pos + len) = .ok st' := by
  rw [ruleText_eq] at h
  obtain ⟨w, p, hw, hp, he⟩ := runPlan_ok h
  cases hp
  unfold planText at he
  simp only at he
  split at he
  · cases he; exact .inl ⟨rfl, rfl⟩
  · next hlen => obtain ⟨rfl, hp⟩ := exec_text_ok he; exact .inr ⟨w, _, hw, rfl, hlen, rfl, hp⟩

theorem ruleEscape_inv {st st' : IState} {o : Option Nat} (h : ruleEscape st false = .ok (o, st')) :
    (o = none ∧ st' = st) ∨
    (∃ w len r, st.window = .ok w ∧ Entity.escapeCore w = .ok (some (.hardbreak len)) ∧
      st.getMap st.pos (st.pos + 2) = .ok r ∧ o = some len ∧
      st' = st.push (Node.leaf .hardbreak (some r))) ∨
    (∃ w sp r, st.window = .ok w ∧ Entity.escapeCore w = .ok (some (.special sp)) ∧
      st.getMap st.pos (st.pos + byteLen sp.markup) = .ok r ∧ o = some (byteLen sp.markup) ∧
      st' = st.push (Node.leaf (.special sp.content sp.markup infoEscape) (some r))) := by
  rw [ruleEscape_eq] at h
  obtain ⟨w, p, hw, hp, he⟩ := runPlan_ok h
  unfold planEscape at hp
  split at hp <;> cases hp
  · cases he; exact .inl ⟨rfl, rfl⟩
  · next len hc =>
    obtain ⟨r, hr, rfl, rfl⟩ := exec_leaf_ok he; exact .inr (.inl ⟨w, len, r, hw, hc, hr, rfl, rfl⟩)
  · next sp hc =>
    obtain ⟨r, hr, rfl, rfl⟩ := exec_leaf_ok he; exact .inr (.inr ⟨w, sp, r, hw, hc, hr, rfl, rfl⟩)

theorem ruleEntity_inv {cfg : Cfg} {st st' : IState} {o : Option Nat}
    (h : ruleEntity cfg st false = .ok (o, st')) :
    (o = none ∧ st' = st) ∨
    ∃ rest suffix sp r, st.window = .ok ('&' :: rest) ∧
      liftOps (slice st.src st.pos (byteLen st.src)) = .ok suffix ∧
      Entity.entityCore cfg.entity ('&' :: rest) suffix = .ok (some sp) ∧
      st.getMap st.pos (st.pos + byteLen sp.markup) = .ok r ∧ o = some (byteLen sp.markup) ∧
      st' = st.push (Node.leaf (.special sp.content sp.markup infoEntity) (some r)) := by
  rw [ruleEntity_eq] at h
  obtain ⟨w, p, hw, hp, he⟩ := runPlan_ok h
  unfold planEntity at hp
  split at hp
  · cases hp
  · next c rest =>
    split at hp
    · cases hp; cases he; exact .inl ⟨rfl, rfl⟩
    · next hc =>
      cases Decidable.not_not.mp hc
      split at hp
      · cases hp
      · next suffix hsuf =>
        split at hp <;> cases hp
        · cases he; exact .inl ⟨rfl, rfl⟩
        · next sp hcore =>
          obtain ⟨r, hr, rfl, rfl⟩ := exec_leaf_ok he
          exact .inr ⟨rest, suffix, sp, r, hw, hsuf, hcore, hr, rfl, rfl⟩

theorem ruleBackticks_inv {st st' : IState} {o : Option Nat}
    (h : ruleBackticks st false = .ok (o, st')) :
    (o = none ∧ ∃ c, st' = { st with backticks := c }) ∨
    ∃ oc c nd r ri,
      CodePair.run CodePair.Variant.current '`' st.src st.pos st.posMax false false st.backticks
        = .ok (some oc, c) ∧
      oc.node = some nd ∧ st.getMap nd.rangeStart nd.rangeEnd = .ok r ∧
      st.getMap nd.innerStart nd.innerEnd = .ok ri ∧ o = some oc.len ∧
      st' = { st with backticks := c, children := st.children ++
        [{ val := .codeInline '`' nd.markerLen, range := some r,
           children := [Node.newText nd.content (some ri)] }] } := by
  rw [ruleBackticks_eq] at h
  split at h
  · cases h
  · next oc c hrun =>
    unfold planBackticks at h
    split at h
    · cases h; exact .inl ⟨rfl, _, rfl⟩
    · next oc =>
      split at h
      · next hnone => exact absurd hnone (run_real_node (by decide) hrun)
      · next nd hnd =>
        obtain ⟨r, ri, hr, hri, rfl, rfl⟩ := exec_wrap_ok h
        exact .inr ⟨oc, c, nd, r, ri, hrun, hnd, hr, hri, rfl, rfl⟩

theorem ruleAutolink_inv {st st' : IState} {o : Option Nat}
    (h : ruleAutolink st false = .ok (o, st')) :
    (o = none ∧ st' = st) ∨
    ∃ rest p url fullUrl r ri, st.window = .ok ('<' :: rest) ∧
      autolinkScan rest (st.pos + 2) = some p ∧
      liftOps (slice st.src (st.pos + 1) (p - 1)) = .ok url ∧
      st.getMap st.pos p = .ok r ∧ st.getMap (st.pos + 1) (p - 1) = .ok ri ∧
      o = some (p - st.pos) ∧
      st' = st.push { val := .autolink fullUrl, range := some r,
                      children := [Node.newText url (some ri)] } := by
  rw [ruleAutolink_eq] at h
  obtain ⟨w, p, hw, hp, he⟩ := runPlan_ok h
  unfold planAutolink at hp
  split at hp
  · cases hp
  · next c rest =>
    split at hp
    · cases hp; cases he; exact .inl ⟨rfl, rfl⟩
    · next hc =>
      cases Decidable.not_not.mp hc
      split at hp
      · cases hp; cases he; exact .inl ⟨rfl, rfl⟩
      · next q hscan =>
        split at hp
        · cases hp
        · next url hurl =>
          split at hp
          · cases hp; cases he; exact .inl ⟨rfl, rfl⟩
          · split at hp <;> cases hp
            · cases he; exact .inl ⟨rfl, rfl⟩
            · next fullUrl _ =>
              obtain ⟨r, ri, hr, hri, rfl, rfl⟩ := exec_wrap_ok he
              exact .inr ⟨rest, q, url, fullUrl, r, ri, hw, hscan, hurl, hr, hri, rfl, rfl⟩

/-- a real-mode run of the newline rule either declines, or pops the trailing spaces off the last
    text and pushes a break whose range runs from in front of those spaces to behind the line feed
    and the leading blanks of the next line -/
theorem ruleNewline_inv {st st' : IState} {o : Option Nat}
    (h : ruleNewline st false = .ok (o, st')) :
    (o = none ∧ st' = st) ∨
    ∃ rest cs rx ry, st.window = .ok ('\n' :: rest) ∧
      trailingTextPop st.children (tailSpaces (trailingTextGet st.children)) = .ok cs ∧
      ¬ st.pos < tailSpaces (trailingTextGet st.children) ∧
      getSourcePosFor st.srcmap (st.pos - tailSpaces (trailingTextGet st.children)) = .ok rx ∧
      getSourcePosFor st.srcmap (st.pos + 1 + (rest.takeWhile isSpTab).length) = .ok ry ∧
      o = some (1 + (rest.takeWhile isSpTab).length) ∧
      st' = { st with children := cs ++ [Node.leaf
        (if tailSpaces (trailingTextGet st.children) ≥ 2 then Val.hardbreak else Val.softbreak)
        (some (rx, ry))] } := by
  rw [ruleNewline_eq] at h
  obtain ⟨w, p, hw, hp, he⟩ := runPlan_ok h
  unfold planNewline at hp
  split at hp
  · cases hp
  · next c rest =>
    split at hp <;> cases hp
    · cases he; exact .inl ⟨rfl, rfl⟩
    · next hc =>
      cases Decidable.not_not.mp hc
      obtain ⟨cs, ⟨rx, ry⟩, hpop, hge, hr, rfl, rfl⟩ := exec_brk_ok he
      obtain ⟨e1, e2, _⟩ := getMap_eq hr
      exact .inr ⟨rest, cs, rx, ry, hw, hpop, hge, e1, e2, by congr 1; omega, rfl⟩

/-- a successful real-mode run of the link / image rule: `parse_link` declined, or it found a link,
    the nested run over the label succeeded, and the node takes the nested run's children (`linkRule_ok` at
    `silent = false`, with `linkNested` and `linkClose` written out) -/
theorem linkRule_inv {cfg : Cfg} {skip tok : IState → Except Panic IState} {fuel : Nat}
    {mk : List Nat → Option (List Char) → Val} {en : Bool} {offset : Nat} {st : IState}
    {o : Option Nat} {st' : IState}
    (h : linkRule cfg skip tok fuel mk en offset st false = .ok (o, st')) :
    (o = none ∧ parseLink cfg skip fuel st (st.pos + offset) en = .ok (none, st')) ∨
    ∃ res st1 st3 r, parseLink cfg skip fuel st (st.pos + offset) en = .ok (some res, st1) ∧
      tok { st1 with children := [], bottoms := [], linkLevel := st1.linkLevel + 1,
                     level := st1.level + 1, pos := res.labelStart, posMax := res.labelEnd }
        = .ok st3 ∧
      st3.level ≠ 0 ∧ st3.getMap st.pos res.endPos = .ok r ∧ st3.pos ≤ res.endPos ∧
      o = some (res.endPos - st3.pos) ∧
      st' = { st3 with level := st3.level - 1, posMax := st1.posMax,
                       children := st1.children ++
                         [⟨mk (res.href.getD []) res.title, some r, st3.children⟩],
                       bottoms := st1.bottoms, linkLevel := st3.linkLevel - 1 } := by
  obtain ⟨_, st1, hp, ⟨rfl, rfl, rfl⟩ | ⟨res, rfl, ⟨hs, _⟩ | ⟨_, st3, htok, h⟩⟩⟩ := linkRule_ok h
  · exact .inl ⟨rfl, hp⟩
  · cases hs
  · obtain ⟨hlev, hle, rfl, r, hr, rfl⟩ := linkClose_ok h
    exact .inr ⟨res, st1, st3, r, hp, htok, hlev, liftR_ok.mp hr, hle, rfl, rfl⟩

end MdIt.Inline
