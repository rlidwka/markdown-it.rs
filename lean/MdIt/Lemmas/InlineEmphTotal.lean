/-
  Helper development for `Props/Inline.lean`: the emphasis-marker rule does not panic —
  `scan_and_match_delimiters` is total on a state that satisfies the frame invariant `RI` and whose
  `OpenersBottom` tables have their six entries.
-/
import MdIt.Lemmas.InlineRanges6

namespace MdIt.Inline
open MdIt.InlineOps (Srcmap getSourcePosFor getMap byteLen slice)
open MdIt.C05 (WFMap MonoMap byteLen_append slice_ok_iff)

/-- every stored `OpenersBottom` table has its 6 entries -/
def BottomsOK (b : List (Char × List Nat)) : Prop := ∀ k l, (k, l) ∈ b → l.length = 6

theorem bottomsGet_length {b : List (Char × List Nat)} (h : BottomsOK b) (mk : Char) :
    (bottomsGet b mk).length = 6 := by
  unfold bottomsGet
  split
  · next l hl => exact h mk l (lookup_mem' hl)
  · rfl

theorem bottomsSet_ok {b : List (Char × List Nat)} (h : BottomsOK b) (mk : Char) (i v : Nat) :
    BottomsOK (bottomsSet b mk i v) := by
  intro k l hkl
  unfold bottomsSet at hkl
  simp only [List.mem_cons, Prod.mk.injEq] at hkl
  rcases hkl with ⟨_, rfl⟩ | hkl
  · rw [List.length_set]; exact bottomsGet_length h mk
  · exact h k l (List.mem_filter.mp hkl).1

/-- the outer loop is total: every index it reads (`idx` and `idx + 1`) is inside the list -/
theorem matchOuter_total {lo hi r0 : Nat} {fns : Nat → Option Wrap} {mk : Char} (room minIdx : Nat) :
    ∀ (k : Nat) (ms : MatchSt), MInv lo hi r0 ms → minIdx + k < ms.children.length →
      ∃ ms', matchOuter fns mk room minIdx k ms = .ok ms' := by
  intro k ms hm hl
  obtain ⟨ms', h, _⟩ := matchOuter_minvT (fns := fns) (mk := mk) room minIdx k ms hm hl
  exact ⟨ms', h⟩

/-- `scan_and_match_delimiters` does not panic -/
theorem scanAndMatch_total {src : List Char} {m : Srcmap} {lo pos : Nat} {fns : Nat → Option Wrap}
    {mk : Char} {room : Nat} {cs0 : List Node} {x : Node} {closer : Marker} {b : List (Char × List Nat)}
    (hi : RI src m lo pos (cs0 ++ [x])) (hx : x.asMarker = some closer) (hb : BottomsOK b) :
    ∃ out b', scanAndMatch fns mk room (cs0 ++ [x]) b = .ok (out, b') ∧ BottomsOK b' := by
  rw [scanAndMatch]
  by_cases hlen1 : (cs0 ++ [x]).length = 1
  · rw [if_pos hlen1]; exact ⟨_, _, rfl, hb⟩
  · rw [if_neg hlen1, popLast_snoc]
    simp only [hx]
    have hparam : (if closer.open_ = true then 1 else 0) * 3 + closer.length % 3 < 6 := by
      cases closer.open_ <;> simp only [if_true, Bool.false_eq_true, if_false] <;> omega
    have hbl := bottomsGet_length hb mk
    rw [List.getElem?_eq_getElem (by rw [hbl]; exact hparam)]
    simp only
    have hne : cs0.length ≠ 0 := by
      intro e
      apply hlen1
      simp only [List.length_append, List.length_singleton]; omega
    rw [if_neg hne]
    -- the initial invariant of the outer loop
    obtain ⟨hT, hhT, hord⟩ := hi.ord
    obtain ⟨hcc, hrem, cS, cE, hcr, hfit⟩ := hi.markers x (by simp) closer hx
    obtain ⟨a, b0, hab, hinit, _, hbT⟩ := hord.last
    rw [hcr] at hab; simp only [Option.some.injEq, Prod.mk.injEq] at hab
    obtain ⟨rfl, rfl⟩ := hab
    have hm0 : MInv lo hT closer.remaining
        { closer := closer, closerRange := x.range, children := cs0, newMin := cs0.length - 1 } :=
      ⟨cS, ⟨hinit, hi.deep.left, hi.markers.left⟩, ⟨cS, cE, hcr, Nat.le_refl _, hfit, hbT⟩, Or.inl rfl⟩
    generalize hmin : (bottomsGet b mk)[(if closer.open_ = true then 1 else 0) * 3 + closer.length % 3]'(by
      rw [hbl]; exact hparam) = minIdx
    have hout : ∃ ms, matchOuter fns mk room minIdx (cs0.length - 1 - minIdx)
        { closer := closer, closerRange := x.range, children := cs0, newMin := cs0.length - 1 } = .ok ms := by
      by_cases hk : cs0.length - 1 - minIdx = 0
      · rw [hk]; exact ⟨_, rfl⟩
      · exact matchOuter_total room minIdx _ _ hm0 (by simp only; omega)
    obtain ⟨ms, hms⟩ := hout
    rw [hms]
    have hb' : BottomsOK (if ms.newMin ≠ 0 then bottomsSet b mk
        ((if closer.open_ = true then 1 else 0) * 3 + closer.length % 3) ms.newMin else b) := by
      by_cases h0 : ms.newMin ≠ 0
      · rw [if_pos h0]; exact bottomsSet_ok hb _ _ _
      · rw [if_neg h0]; exact hb
    dsimp only
    by_cases hrem0 : ms.closer.remaining > 0
    · rw [if_pos hrem0]; exact ⟨_, _, rfl, hb'⟩
    · rw [if_neg hrem0]; exact ⟨_, _, rfl, hb'⟩

theorem scanDelims_total (cfg : Cfg) {st : IState} (hi : InlineInv st) (csw : Bool) :
    ∃ d, scanDelims cfg st.src st.posMax st.pos csw = .ok d := by
  obtain ⟨pre, w, post, hsrc, hpre, hlen, hw, hne⟩ := window_ok hi
  unfold scanDelims
  simp only
  split
  · next e he =>
    exfalso
    split at he
    · next hp =>
      obtain ⟨p0, w0, q0, _, hp0, hw0, hs0⟩ := slice_of_boundaries (boundary_zero st.src) hi.bpos (by omega)
      split at he
      · next e' he' => rw [hs0] at he'; simp [liftOps] at he'
      · next pre' hpre' =>
        rw [hs0] at hpre'
        simp only [liftOps, Except.ok.injEq] at hpre'
        subst hpre'
        split at he
        · next hg =>
          have : w0 = [] := by simpa [List.getLast?_eq_none_iff] using hg
          subst this; simp only [byteLen] at hw0; omega
        · simp at he
    · simp at he
  · have := window_eq hw
    rw [this]
    simp only [liftOps]
    cases w with
    | nil => exact absurd rfl hne
    | cons mk rest => exact ⟨_, rfl⟩

/-- **the emphasis-marker rule does not panic** (real mode included): on a state that satisfies
    `InlineInv`, whose table is `MapOK`, whose children satisfy the frame invariant, and whose
    `OpenersBottom` tables are complete; the tables stay complete -/
theorem ruleEmph_total {cfg : Cfg} {mk : Char} {csw : Bool} {lo : Nat} {st : IState} (silent : Bool)
    (hi : InlineInv st) (hm : MapOK st.src st.srcmap) (hr : RInv lo st) (hb : BottomsOK st.bottoms) :
    ∃ o st', ruleEmph cfg mk csw st silent = .ok (o, st') ∧ BottomsOK st'.bottoms := by
  obtain ⟨pre, w, post, hsrc, hpre, hlen, hw, hne⟩ := window_ok hi
  rw [ruleEmph]
  cases silent with
  | true => exact ⟨_, _, rfl, hb⟩
  | false =>
    rw [if_neg Bool.false_ne_true, hw]
    cases w with
    | nil => exact absurd rfl hne
    | cons c w1 =>
      dsimp only
      by_cases hc : c ≠ mk
      · rw [if_pos hc]; exact ⟨_, _, rfl, hb⟩
      · rw [if_neg hc]
        obtain ⟨scanned, hsc⟩ := scanDelims_total cfg hi csw
        rw [hsc]
        simp only
        obtain ⟨rx, ry, hmap, e1, e2⟩ := getMap_ok (st := st) hi.wf (a := st.pos)
          (b := st.pos + scanned.length) (by omega)
        rw [hmap]
        simp only
        obtain ⟨_, _, _, _, hlen'⟩ := scanDelims_length hsc
        have hpushed := ri_push_marker hm hr mk (by omega : 1 ≤ scanned.length) scanned.canOpen
          scanned.canClose e1 e2
        by_cases hcl : scanned.canClose = true
        · obtain ⟨out, b', hsm, hb'⟩ := scanAndMatch_total (fns := cfg.fns mk) (mk := mk)
            (room := cfg.maxNesting - st.level) hpushed
            (closer := ⟨mk, scanned.length, scanned.length, scanned.canOpen, scanned.canClose⟩) rfl hb
          rw [if_pos hcl]
          simp only [IState.push]
          rw [hsm]
          exact ⟨_, _, rfl, hb'⟩
        · rw [if_neg hcl]; exact ⟨_, _, rfl, hb⟩

end MdIt.Inline
