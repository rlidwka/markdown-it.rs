/-
  Helper development for `Props/InlineTotal.lean`: the guarded tokenizer never returns a Rust panic — ONCE
  for every copy (`Eng`, `Lemmas/InlineEngine.lean`).

  The copies differ in the frame relation `F` a real step keeps (`Frame`; `FrameL` = `Frame` without
  `link_level`, which the html rule moves) and in a state invariant `J` the rules need (none; `LLPos` and the
  size bound with the html rule); `StepX F J` / `RealX` / `TokHypX` (`Lemmas/InlineTotalFrame.lean`) are the
  real-mode contracts over them.  `Eng.Sound E F J` collects what the induction uses of the rules of an
  engine, `Eng.skipToken_T` / `Eng.tokLoop_T` are the induction; `Eng.base_sound` is the html-free instance
  (`Lemmas/InlineHTotal.lean`: `Eng.html_sound`).  At it: the guarded tokenizer (`tokLoopG cfg true` /
  `skipTokenG cfg true`, `InlineTotalDef.lean`) meets the totality contracts of `InlineTotalFrame.lean` /
  `InlineTotalStep.lean` at every fuel (`guarded_total`).
-/
import MdIt.Lemmas.InlineTotalStep
import MdIt.Lemmas.InlineTotalMono

namespace MdIt.Inline
open MdIt.InlineH (firstRuleG tokStepG skipStepG firstRuleG_induct)
open MdIt.InlineOps (Srcmap getSourcePosFor getMap byteLen slice)
open MdIt.C05 (WFMap MonoMap byteLen_append slice_ok_iff)

namespace Eng
variable {ι : Type}

/-! ## no Rust panic -/

/-- what the no-panic induction uses of the rules of an engine -/
structure Sound (E : Eng ι) (F : IState → IState → Prop) (J : IState → Prop) : Prop where
  refl : ∀ s, F s s
  trans : ∀ {a b c}, F a b → F b c → F a c
  keep : ∀ {a b : IState}, F a b → b.posMax = a.posMax ∧ b.level = a.level
  /-- `F` holds across what `Frame` keeps -/
  comp : ∀ {a b c : IState}, F a b → Frame b c → F a c
  /-- `J` reads `src`, `level`, `linkLevel`, and `pos` upwards -/
  up : ∀ {s s'}, J s → s'.src = s.src → s'.level = s.level → s'.linkLevel = s.linkLevel →
    s.pos ≤ s'.pos → J s'
  calm : ∀ {skip tok fuel r s o s'}, CalmFn skip → E.run skip tok fuel r s true = .ok (o, s') → Calm s s'
  silent : ∀ {skip tok} fuel r s, CalmFn skip → SkipHypT skip → LInv s → s.pos < s.posMax →
    SilT s (E.run skip tok fuel r s true)
  ranges : ∀ {skip tok fuel r lo s o s'}, CalmFn skip → RangesFn tok → MapOK s.src s.srcmap → RInv lo s →
    E.run skip tok fuel r s false = .ok (o, s') → StepOK lo s o s'
  real : ∀ {skip tok} fuel {r} lo s, r ∈ E.chain → CalmFn skip → SkipHypT skip → TokHypX F J tok →
    RangesFn tok → Good lo s → MemoB s → J s → s.pos < s.posMax → s.level < E.maxNesting →
    RealX F J lo s (E.run skip tok fuel r s false)

/-- **the guarded `skip_token` never panics**, at every fuel, from every state under `LInv` with a non-empty
    window: it rests on the look-ahead half of the rules alone -/
theorem skipToken_T (E : Eng ι)
    (hcalm : ∀ {skip tok fuel r s o s'}, CalmFn skip → E.run skip tok fuel r s true = .ok (o, s') →
      Calm s s')
    (hsil : ∀ {skip tok} fuel r s, CalmFn skip → SkipHypT skip → LInv s → s.pos < s.posMax →
      SilT s (E.run skip tok fuel r s true)) :
    ∀ fuel : Nat, SkipHypT (fun s => E.skipToken true fuel s) := fun fuel =>
  (E.induct true (S := fun _ st r => LInv st → st.pos < st.posMax → SkipT st r) (T := fun _ _ _ _ => True)
    (fun _ _ _ => ⟨NoRust.fuel, fun _ h => nomatch h⟩)
    (fun _ st x hx hi _ => by
      obtain ⟨hkx, hbx⟩ := hi.memo _ _ (lookup_mem hx)
      split
      · exact ⟨NoRust.fuel, fun _ h => nomatch h⟩
      · next hng =>
        refine ⟨NoRust.ok _, fun st' h => ?_⟩
        cases h
        simp only [true_and, Nat.not_lt] at hng
        exact ⟨hi.memo, hkx, hng, hbx⟩)
    (fun _ st _ _ hi hlt => ⟨NoRust.ok _, fun st' h => by
      cases h; exact ⟨MemoB.insert hi.memo hlt hi.bmax, hlt, Nat.le_refl _, hi.bmax⟩⟩)
    (fun f st ihS _ _ _ hi hlt =>
      skipStepG_T (fun r s his hls => hsil f r s (E.skipToken_calm true hcalm f) ihS his hls) st hi hlt)
    (fun _ _ _ _ => trivial) (fun _ _ _ => trivial)
    (fun _ _ _ _ _ _ => by split <;> first | trivial | exact fun _ _ => trivial) fuel).1

/-- **the guarded `tokenize` never panics**, at every fuel, from every good state -/
theorem tokLoop_T (E : Eng ι) (hid : E.enter = id) {F : IState → IState → Prop}
    {J : IState → Prop} (S : E.Sound F J) (fuel : Nat) (lo : Nat) (st : IState) (hg : Good lo st)
    (hm : MemoB st) (hJ : J st) :
    NoRust (E.tokLoop true fuel st.posMax st) ∧
    ∀ st', E.tokLoop true fuel st.posMax st = .ok st' → F st st' ∧ MemoB st' ∧ Good lo st' ∧ J st' :=
  (E.induct true (S := fun _ _ _ => True)
    (T := fun _ e st r => ∀ lo, e = st.posMax → Good lo st → MemoB st → J st →
      NoRust r ∧ ∀ st', r = .ok st' → F st st' ∧ MemoB st' ∧ Good lo st' ∧ J st')
    (fun _ => trivial) (fun _ _ _ _ => trivial) (fun _ _ _ _ => trivial) (fun _ _ _ _ _ _ => trivial)
    (fun _ _ st _ lo _ hg hm hJ => ⟨NoRust.ok _, fun st' h => by cases h; exact ⟨S.refl _, hm, hg, hJ⟩⟩)
    (fun _ _ _ _ _ _ _ _ => ⟨NoRust.fuel, fun _ h => nomatch h⟩)
    (fun f e st _ ihT hlt => by
      have hq := E.skipToken_calm true (fun hq h => S.calm hq h) f
      have hs := E.skipToken_T (fun hq h => S.calm hq h) (fun fuel r s => S.silent fuel r s) f
      have ht : TokHypX F J (E.enter fun s => E.tokLoop true f s.posMax s) := by
        rw [hid]
        intro lo s hg hm hJ
        have h := ihT _ s lo rfl hg hm hJ
        exact ⟨h.1, fun s' hs => ⟨(h.2 s' hs).1, (h.2 s' hs).2.1, (h.2 s' hs).2.2.1.le, (h.2 s' hs).2.2.2⟩⟩
      have hr : RangesFn (E.enter fun s => E.tokLoop true f s.posMax s) := by
        rw [hid]
        exact fun lo s s' hms h his =>
          E.ranges true hid (fun hq h => S.calm hq h) (fun hq ht hm hi h => S.ranges hq ht hm hi h) f _ lo s
            s' hms h his
      cases hstep : tokStepG E.maxNesting E.chain (E.runAt true f) st with
      | error err =>
        intro lo he hg hm hJ
        subst he
        have h := (tokStepG_T (run := E.runAt true f) S.refl S.trans S.keep S.comp S.up
          (fun r hmem s hg hm hJ hlt hlev => S.real f lo s hmem hq hs ht hr hg hm hJ hlt hlev)
          st hg hm hJ hlt).1
        exact ⟨fun p hp => by cases hp; exact h p hstep, fun _ h => nomatch h⟩
      | ok st1 =>
        intro r hrec lo he hg hm hJ
        subst he
        obtain ⟨hg1, hm1, f1, _, hJ1⟩ := (tokStepG_T (run := E.runAt true f) S.refl S.trans S.keep S.comp
          S.up
          (fun r hmem s hg hm hJ hlt hlev => S.real f lo s hmem hq hs ht hr hg hm hJ hlt hlev)
          st hg hm hJ hlt).2 st1 hstep
        have h := hrec lo (S.keep f1).1.symm hg1 hm1 hJ1
        exact ⟨h.1, fun st' hst => ⟨S.trans f1 (h.2 st' hst).1, (h.2 st' hst).2⟩⟩) fuel).2
    st.posMax st lo rfl hg hm hJ

end Eng

namespace Eng

theorem base_sound (cfg : Cfg) (hsz : ∀ mk csw, RuleId.emph mk csw ∈ cfg.chain → mk.utf8Size = 1) :
    (Eng.base cfg).Sound Frame (fun _ => True) where
  refl := Frame.refl
  trans := Frame.trans
  keep := fun h => ⟨h.posMax, h.level⟩
  comp := Frame.trans
  up := fun _ _ _ _ _ => trivial
  calm := fun hq h => runRule_silent_calm hq h
  silent := fun fuel r s hq hs hi hlt => runRule_silent_T hq hs fuel r s hi hlt
  ranges := fun hq ht hm hi h => runRule_ranges hq ht hm hi h
  real := fun {_ _} fuel {_} _ s hr hq hs ht hrg hg hm _ hlt _ =>
    runRule_real_T hsz hq hs
      (fun lo s hg hm => ⟨(ht lo s hg hm trivial).1, fun s' h => ⟨((ht lo s hg hm trivial).2 s' h).1,
        ((ht lo s hg hm trivial).2 s' h).2.1, ((ht lo s hg hm trivial).2 s' h).2.2.1⟩⟩)
      hrg fuel hr s hg hm hlt

end Eng

/-- what the guarded `tokenize` loop guarantees from a good state -/
structure LoopT (lo : Nat) (st : IState) (r : Except Panic IState) : Prop where
  noRust : NoRust r
  ok : ∀ st', r = .ok st' → Frame st st' ∧ MemoB st' ∧ Good lo st'

theorem LoopT.tokT {lo : Nat} {st : IState} {r : Except Panic IState} (h : LoopT lo st r) : TokT st r :=
  ⟨h.noRust, fun st' hr => ⟨(h.ok st' hr).1, (h.ok st' hr).2.1, (h.ok st' hr).2.2.le⟩⟩

/-- **the guarded `skip_token` never panics**, at every fuel, from every state under `LInv` with a
    non-empty window (it does not depend on `tokenize`, hence not on the marker-size side condition of
    the emphasis rule) -/
theorem skipTokenG_T (cfg : Cfg) (fuel : Nat) : SkipHypT (fun s => skipTokenG cfg true fuel s) := by
  have := (Eng.base cfg).skipToken_T (fun hq h => runRule_silent_calm hq h)
    (fun fuel r s hq hs hi hlt => runRule_silent_T hq hs fuel r s hi hlt) fuel
  simpa only [(engG cfg true fuel).2] using this

/-- **the guarded tokenizer never panics**, at every fuel: `skip_token` from every state under `LInv`
    with a non-empty window, `tokenize` from every good state -/
theorem guarded_total (cfg : Cfg)
    (hsz : ∀ mk csw, RuleId.emph mk csw ∈ cfg.chain → mk.utf8Size = 1) : ∀ fuel : Nat,
    SkipHypT (fun s => skipTokenG cfg true fuel s) ∧
    (∀ lo st, Good lo st → MemoB st → LoopT lo st (tokLoopG cfg true fuel st.posMax st)) :=
  fun fuel => ⟨skipTokenG_T cfg fuel, fun lo st hg hm => by
    have h := (Eng.base cfg).tokLoop_T rfl (Eng.base_sound cfg hsz) fuel lo st hg hm trivial
    rw [← (engG cfg true fuel).1] at h
    exact ⟨h.1, fun st' hs => ⟨(h.2 st' hs).1, (h.2 st' hs).2.1, (h.2 st' hs).2.2.1⟩⟩⟩

/-- the guarded `tokenize` at a fuel as the nested tokenizer of the rules -/
theorem tokHypT_G (cfg : Cfg) (hsz : ∀ mk csw, RuleId.emph mk csw ∈ cfg.chain → mk.utf8Size = 1) (f : Nat) :
    TokHypT (fun s => tokLoopG cfg true f s.posMax s) :=
  fun lo s hg hm => ((guarded_total cfg hsz f).2 lo s hg hm).tokT

end MdIt.Inline
