/-
  C16 on the block side: THE BLOCKQUOTE RULE AS A CALLER OF THE SWEEP (lazy continuation test).
  * `upd3` / `runRuleH_silent_congr3`: the instance of `runRuleH_silent_row` for a state with another line
    table that has the same row `line` (and another tree / `tight` / reference map): in look-ahead mode
    each of the ten rules reads ONLY THE ROW `line` of the table (through `line_indent(line)`,
    `get_line(line)`, `line_offsets[line]`).
  * `bqScan_exit`: how the scan of the blockquote rule ends — at the end of the frame, without a sweep in the
    scan's own state (a blank line, a line behind a blank quote line), or BY THE SWEEP: `test_rules_at_line`
    was called on `{ sB with line := nl }` and said yes, where `sB` is the scan's state: the rule's state
    except for the rows in front of `nl`.
  * `blockquote_scans`: an accepting blockquote rule ran that scan.
-/
import MdIt.Lemmas.C16BlockList

namespace MdIt.BlockH.C16
open MdIt.Block
open MdIt.Lines (LineOffset)

/-- `s` with another LINE TABLE, tree, `tight` and reference map -/
def upd3 (s : BState) (o : List LineOffset) (c : List BNode) (b : Bool) (m : Refs.RefMap) : BState :=
  { s with offs := o, children := c, tight := b, refs := m }

@[simp] theorem upd3_line (s o c b m) : (upd3 s o c b m).line = s.line := rfl
@[simp] theorem upd3_nodeKind (s o c b m) : (upd3 s o c b m).nodeKind = s.nodeKind := rfl

abbrev mp3 (o : List LineOffset) (c : List BNode) (b : Bool) (m : Refs.RefMap) : Bool × BState → Bool × BState :=
  fun r => (r.1, upd3 r.2 o c b m)

section congr3
variable {s : BState} {o : List LineOffset} (h : o[s.line]? = s.offs[s.line]?) (c : List BNode) (b : Bool)
  (m : Refs.RefMap)
include h

theorem sameRow_upd3 : SameRow s (upd3 s o c b m) := ⟨rfl, rfl, h, rfl, rfl⟩

/-- **what look-ahead reads, third part**: only the row `line` of the line table -/
theorem runRuleH_silent_congr3 (cfg : Cfg) (tok : Tok) (test : Test) (fuel : Nat) (r : RuleIdH) :
    runRuleH cfg tok test fuel r (upd3 s o c b m) true =
      Except.map (mp3 o c b m) (runRuleH cfg tok test fuel r s true) :=
  silent_map_of_row (R := fun s => runRuleH cfg tok test fuel r s true) (upd3 · o c b m)
    (runRuleH_silent_row (.refl s) cfg tok tok test test fuel fuel r fun _ => rfl)
    (runRuleH_silent_row (sameRow_upd3 h c b m) cfg tok tok test test fuel fuel r fun _ => rfl)
end congr3

/-- the third part of the contract -/
def Eng.OK3 {ι : Type} (E : Eng ι) : Prop :=
  ∀ f i s o c b m, o[s.line]? = s.offs[s.line]? →
    E.rule f i (upd3 s o c b m) true = Except.map (mp3 o c b m) (E.rule f i s true)

theorem engH_ok3 (cfg : Cfg) (chain : List RuleIdH) : (engH cfg chain).OK3 :=
  fun _ i _ _ c b m h => runRuleH_silent_congr3 h c b m _ _ _ _ i

theorem engX_ok3 {X : BState → Bool → Res}
    (hX3 : ∀ s o c b m, o[s.line]? = s.offs[s.line]? → X (upd3 s o c b m) true = Except.map (mp3 o c b m) (X s true))
    (cfg : Cfg) (chain : List RuleIdX) : (engX X cfg chain).OK3 := by
  intro f i s o c b m h
  cases i with
  | custom => exact hX3 s o c b m h
  | std i => exact runRuleH_silent_congr3 h c b m _ _ _ _ i


/-! ## how the scan of the blockquote rule ends -/

/-- `sB` is the rule's state `s` except for the rows of the table in front of line `n` -/
structure ScanInv (s : BState) (n : Nat) (sB : BState) : Prop where
  same : SameBut s sB
  rows : ∀ k, n ≤ k → sB.offs[k]? = s.offs[k]?

theorem ScanInv.refl (s : BState) (n : Nat) : ScanInv s n s := ⟨SameBut.refl s, fun _ _ => rfl⟩

theorem ScanInv.setOff {s sB sB' : BState} {n : Nat} {x : LineOffset} (h : ScanInv s n sB)
    (hs : sB.setOff n x = .ok sB') : ScanInv s (n + 1) sB' := by
  obtain ⟨_, rfl⟩ := setOff_ok hs
  refine ⟨h.same.trans (sameBut_setOff hs), ?_⟩
  intro k hk
  rw [← h.rows k (by omega)]
  simp only [List.getElem?_set]
  rw [if_neg (by omega)]

theorem ScanInv.of_quiet {s sB t1 : BState} {n l : Nat} (h : ScanInv s n sB)
    (hq : ({ t1 with line := l } : BState) = { sB with line := l }) : ScanInv s n t1 := by
  simp only [BState.mk.injEq, true_and] at hq
  obtain ⟨e1, e2, e3, e4, e5, e6, e7, e8, e9, e10⟩ := hq
  refine ⟨⟨e1.trans h.same.src, e3.trans h.same.blkIndent, e4.trans h.same.lineMax, e5.trans h.same.tight,
    e6.trans h.same.listIndent, e7.trans h.same.level, e8.trans h.same.nodeKind, e9.trans h.same.children,
    e10.trans h.same.refs, by rw [e2]; exact h.same.len⟩, ?_⟩
  intro k hk
  rw [e2]; exact h.rows k hk

/-- the scan stopped at `nl` BY THE SWEEP: `test_rules_at_line` was called on `{ sB with line := nl }` — `sB`
    the scan's state — and said yes; at `blk_indent = 0` the scan returns what the sweep returned -/
def BqSweepExit (test : Test) (s : BState) (nl : Nat) (s' : BState) : Prop :=
  ∃ sB t1, ScanInv s nl sB ∧ nl < s.lineMax ∧ (∃ ind, sB.lineIndent nl = .ok ind) ∧
    test { sB with line := nl } = .ok (true, t1) ∧ (s.blkIndent = 0 → s' = t1)

/-- **how the scan ends**: by the sweep (`BqSweepExit`), or without it — at the end of the frame, or at a line
    `nl` (a blank line, a line behind a blank quote line) in the scan's own state, which is the rule's state
    except for the rows in front of `nl` -/
theorem bqScan_exit {test : Test} (ht : TestQuiet test) :
    ∀ (fuel : Nat) (s0 sB : BState) (n : Nat) (old : List LineOffset) (le : Bool) (nl : Nat)
      (old' : List LineOffset) (s' : BState),
      bqScan test fuel sB n old le = .ok (nl, old', s') → ScanInv s0 n sB →
      BqSweepExit test s0 nl s' ∨ ¬ nl < s0.lineMax ∨ ScanInv s0 nl s' := by
  intro fuel
  induction fuel with
  | zero => intro s0 sB n old le nl old' s' h; simp [bqScan] at h
  | succ f ih =>
    intro s0 sB n old le nl old' s' h hinv
    rcases bqScan_ok h with ⟨hc, rfl, _, rfl⟩ | ⟨ind, line, hc, hind, hline, hcase⟩
    · exact .inr (.inl (by rw [← hinv.same.lineMax]; exact hc))
    have hlt : n < s0.lineMax := hinv.same.lineMax ▸ hc
    rcases hcase with ⟨_, rfl, _, rfl⟩ | ⟨c, rest, _, hq⟩
    · exact .inr (.inr hinv)
    rcases hq with ⟨_, _, o, o', le', S, _, _, hset, h⟩ | ⟨_, hq⟩
    · exact ih s0 _ _ _ _ _ _ _ h (hinv.setOff hset)
    rcases hq with ⟨_, rfl, _, rfl⟩ | ⟨t, t1, _, htest, hq⟩
    · exact .inr (.inr hinv)
    have hinv1 : ScanInv s0 n t1 := hinv.of_quiet (ht _ _ _ htest)
    rcases hq with ⟨rfl, _, rfl, _, rfl⟩ | ⟨rfl, hne, o, _, _, rfl, _⟩ | ⟨rfl, o, S1, _, hset, h⟩
    · exact .inl ⟨sB, _, hinv, hlt, ⟨ind, hind⟩, htest, fun _ => rfl⟩
    · exact .inl ⟨sB, t1, hinv, hlt, ⟨ind, hind⟩, htest,
        fun h0 => absurd (hinv1.same.blkIndent.trans h0) hne⟩
    · exact ih s0 _ _ _ _ _ _ _ h (hinv1.setOff hset)

/-- an accepting blockquote rule ran the scan from its own state -/
theorem blockquote_scans {tok : Tok} {test : Test} {fuel : Nat} {s s1 : BState}
    (h : blockquoteRule tok test fuel s false = .ok (true, s1)) :
    ∃ nl old sB', bqScan test fuel s s.line [] false = .ok (nl, old, sB') := by
  rcases blockquoteRule_ok h with ⟨hb, _⟩ | ⟨_, _, _, _, _, _, _, hs⟩
  · cases hb
  rcases hs with ⟨hs, _⟩ | ⟨_, nl, old, sB', _, _, _, hscan, _⟩
  · cases hs
  exact ⟨nl, old, sB', hscan⟩

end MdIt.BlockH.C16
