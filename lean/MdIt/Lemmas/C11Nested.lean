/-
  C11 inside containers, BLOCK level: wrappers and the documents they make.

  A `Wrapper` is one container put around a document: a block quote (`"> "` in front of every line —
  `Block.prefixQuote`) or one list item (marker + space in front of the first line, as many spaces in
  front of the others — `Li.itemDoc`), with a bullet or an ordered marker.  `wrapAll w D` applies a list
  of wrappers from the inside out.  On a document given by its lines (`docOf Ls`, lines joined by LF, no
  final terminator; `Good Ls`: tab-free, terminator-free lines, the last one not empty) the wrapped
  document is again given by its lines (`wrapAll_docOf`, `wrapAllLines`), which is what makes the
  hypotheses of `Block.quote_commutes` / `Li.item_commutes_gen` checkable level by level:

    * `linesT_docOf`, `wrap1_docOf`            the line table of `docOf Ls`, the two documents agree
    * `Good.wrap`, `firstLine_head`            the invariants survive; a wrapped first line starts with the
                                               marker (indent 0: `Li.FirstOk`, `firstOk_wrapped`)
    * `reloc_of_spec`, `getMap_whole`          what a byte map that moves byte `x` of line `i` to byte `w + x` of line
                                               `i` does to line 0 and to the end of the source; the container
                                               spans everything
    * `HrFree`, `hrFree_of_mem`                the thematic-break condition of the list half, per bullet
    * `ChainFor`, `Wrapper.itemData`, `hr_item` what C06's theorems ask of the chain and of a list marker
  The block pass on the wrapped document: `Lemmas/C11Wrap.lean`.  Namespace `C11N`: C11, documents Nested in containers
  (this file, C11Wrap, C11Forest, C11NestedPara, Props/C11Nested and the one-line padded span of Props/C11Span).
-/
import MdIt.Props.C06List
import MdIt.Lemmas.C14DocVerbatim

namespace MdIt.C11N
open MdIt.Block MdIt.Block.Li
open MdIt.Lines (NoTerm lead IsTerminator)

/-- one container around a document: a block quote (`"> "` in front of every line), a bullet item
    (`c` and a space in front of the first line, two spaces in front of the others), an ordered item
    (digits `ds`, delimiter `dl`, a space / as many spaces) -/
inductive Wrapper where
  | quote
  | bullet (c : Char)
  | ordered (ds : List Char) (dl : Char)
  deriving DecidableEq, Repr

/-- the marker: what stands in front of the space on the first line -/
def Wrapper.mk : Wrapper → List Char
  | .quote => ['>']
  | .bullet c => [c]
  | .ordered ds dl => ds ++ [dl]

/-- bytes (= columns) inserted in front of every line -/
def Wrapper.width (x : Wrapper) : Nat := x.mk.length + 1

/-- levels of nesting a wrapper costs: the block-quote rule raises `level` once, the list rule once
    for the list and once for the item -/
def Wrapper.cost : Wrapper → Nat
  | .quote => 1
  | _ => 2

/-- the markers the list rule recognises -/
def Wrapper.Ok : Wrapper → Prop
  | .quote => True
  | .bullet c => c = '-' ∨ c = '*' ∨ c = '+'
  | .ordered ds dl => OrdMk ds dl

def Wrapper.isQuote : Wrapper → Bool
  | .quote => true
  | _ => false

/-- the prefix of line `i` -/
def Wrapper.pre : Wrapper → Nat → List Char
  | .quote, _ => ['>', ' ']
  | x, i => preAt x.mk i

def depthCost : List Wrapper → Nat
  | [] => 0
  | x :: ws => depthCost ws + x.cost

def widthAll : List Wrapper → Nat
  | [] => 0
  | x :: ws => x.width + widthAll ws

/-- the wrapper applied to a document (any document: `Block.prefixQuote`, `Li.itemDoc`) -/
def wrap1 : Wrapper → List Char → List Char
  | .quote, D => prefixQuote D
  | x, D => itemDoc x.mk D

/-- the wrappers applied from the inside out: `wrapAll [a, b] D` is `a` around `b` around `D` -/
def wrapAll : List Wrapper → List Char → List Char
  | [], D => D
  | x :: ws, D => wrap1 x (wrapAll ws D)

/-- the same on a list of lines -/
def wrapLines (x : Wrapper) (Ls : List (List Char)) : List (List Char) := Ls.mapIdx fun i l => x.pre i ++ l

def wrapAllLines : List Wrapper → List (List Char) → List (List Char)
  | [], Ls => Ls
  | x :: ws, Ls => wrapLines x (wrapAllLines ws Ls)

/-- the first line of the wrapped document -/
def firstLine : List Wrapper → List Char → List Char
  | [], l => l
  | x :: ws, l => x.pre 0 ++ firstLine ws l

theorem Wrapper.mkOk {x : Wrapper} (h : x.Ok) (hq : x.isQuote = false) : MkOk x.mk := by
  cases x with
  | quote => cases hq
  | bullet c => exact mkOk_bullet h
  | ordered ds dl => exact mkOk_ordered h

theorem Wrapper.pre_item {x : Wrapper} (hq : x.isQuote = false) (i : Nat) : x.pre i = preAt x.mk i := by
  cases x with
  | quote => cases hq
  | bullet c => rfl
  | ordered ds dl => rfl

/-- a wrapper is the block quote, or an item: then `wrap1` is `Li.itemDoc` with its marker -/
theorem Wrapper.cases (x : Wrapper) :
    x = .quote ∨ (x.isQuote = false ∧ ∀ D, wrap1 x D = itemDoc x.mk D) := by
  cases x with
  | quote => exact .inl rfl
  | bullet c => exact .inr ⟨rfl, fun _ => rfl⟩
  | ordered ds dl => exact .inr ⟨rfl, fun _ => rfl⟩

structure PreFacts (x : Wrapper) : Prop where
  len : ∀ i, (x.pre i).length = x.width
  bytes : ∀ i, Lines.byteLen (x.pre i) = x.width
  tabfree : ∀ i, '\t' ∉ x.pre i
  noTerm : ∀ i, NoTerm (x.pre i)
  /-- the first line starts with a character that is not blank -/
  head : ∃ c r, x.pre 0 = c :: r ∧ Lines.isBlank c = false

theorem Wrapper.preFacts {x : Wrapper} (h : x.Ok) : PreFacts x := by
  rcases x.cases with rfl | ⟨hq', -⟩
  · refine ⟨fun _ => rfl, fun _ => by simp [Wrapper.pre, Wrapper.width, Wrapper.mk]; decide,
      fun _ => by simp [Wrapper.pre], fun _ => by simp [Wrapper.pre, NoTerm], ⟨'>', [' '], rfl, by decide⟩⟩
  · have hmk := Wrapper.mkOk h hq'
    have hp := preOk_preAt hmk
    refine ⟨fun i => by rw [Wrapper.pre_item hq']; exact hp.len i, fun i => by rw [Wrapper.pre_item hq']; exact hp.bytes i,
      fun i => by rw [Wrapper.pre_item hq']; exact hp.tabfree i, fun i => by rw [Wrapper.pre_item hq']; exact noTerm_preAt hmk i, ?_⟩
    rw [Wrapper.pre_item hq']
    obtain ⟨c, r, hcr⟩ : ∃ c r, x.mk = c :: r := by
      cases hm : x.mk with
      | nil => exact absurd hm hmk.ne
      | cons c r => exact ⟨c, r, rfl⟩
    refine ⟨c, r ++ [' '], by simp [preAt, hcr], ?_⟩
    have := hmk.plain c (by rw [hcr]; simp)
    simp [Lines.isBlank, this.1, this.2.1]

def withTerms : List (List Char) → DLines
  | [] => []
  | [x] => [(x, [])]
  | x :: y :: r => (x, ['\n']) :: withTerms (y :: r)

theorem withTerms_length : ∀ Ls, (withTerms Ls).length = Ls.length
  | [] => rfl
  | [x] => rfl
  | x :: y :: r => by simp [withTerms, withTerms_length (y :: r)]

theorem docOf_ne_nil : ∀ (Ls : List (List Char)), Ls ≠ [] → Ls.getLast? ≠ some [] → docOf Ls ≠ []
  | [], h, _ => absurd rfl h
  | [x], _, h => by simpa [docOf, Lines.joinLines] using h
  | x :: y :: r, _, _ => by simp [docOf, Lines.joinLines]

theorem linesT_docOf : ∀ (Ls : List (List Char)), Ls ≠ [] → (∀ l ∈ Ls, NoTerm l) → Ls.getLast? ≠ some [] →
    Lines.linesT (docOf Ls) = withTerms Ls
  | [], h, _, _ => absurd rfl h
  | [x], _, hn, _ => by
    have := lineOf_append (l := x) (x := []) (hn x (by simp)) (.inl rfl)
    simp only [List.append_nil] at this
    rw [Lines.linesT]
    simp [docOf, Lines.joinLines, this.1, this.2, Lines.termOf, withTerms]
  | x :: y :: r, _, hn, hl => by
    have hl' : (y :: r).getLast? ≠ some [] := by simpa [List.getLast?_cons_cons] using hl
    have ih := linesT_docOf (y :: r) (by simp) (fun l h => hn l (List.mem_cons_of_mem _ h)) hl'
    have hne := docOf_ne_nil (y :: r) (by simp) hl'
    have := lineOf_append (l := x) (x := '\n' :: docOf (y :: r)) (hn x (by simp)) (.inr ⟨_, _, rfl, .inl rfl⟩)
    have hd : docOf (x :: y :: r) = x ++ '\n' :: docOf (y :: r) := by simp [docOf, Lines.joinLines]
    rw [hd, Lines.linesT, this.1, this.2]
    have ht : Lines.termOf ('\n' :: docOf (y :: r)) = (['\n'], docOf (y :: r)) := by simp [Lines.termOf]
    rw [ht]
    simp only [hne, if_false, ih, withTerms]

theorem flat_withTerms : ∀ Ls, Lines.flat (withTerms Ls) = docOf Ls
  | [] => rfl
  | [x] => by simp [withTerms, docOf, Lines.joinLines]
  | x :: y :: r => by
    have := flat_withTerms (y :: r)
    simp only [withTerms, Lines.flat_cons, this]
    simp [docOf, Lines.joinLines]

theorem withTerms_mapIdx : ∀ (Ls : List (List Char)) (pre : Nat → List Char),
    (withTerms Ls).mapIdx (fun i lt => (pre i ++ lt.1, lt.2)) = withTerms (Ls.mapIdx fun i l => pre i ++ l)
  | [], _ => rfl
  | [x], _ => by simp [withTerms]
  | x :: y :: r, pre => by
    have := withTerms_mapIdx (y :: r) (fun i => pre (i + 1))
    simp only [withTerms, List.mapIdx_cons] at this ⊢
    rw [this]

theorem mapIdx_const {α β : Type} (f : α → β) : ∀ (l : List α), l.mapIdx (fun _ a => f a) = l.map f
  | [] => rfl
  | a :: r => by simp [List.mapIdx_cons, mapIdx_const f r]

theorem wrap1_docOf (x : Wrapper) {Ls : List (List Char)} (hne : Ls ≠ []) (hn : ∀ l ∈ Ls, NoTerm l)
    (hl : Ls.getLast? ≠ some []) : wrap1 x (docOf Ls) = docOf (wrapLines x Ls) := by
  rcases x.cases with rfl | ⟨hq', hw⟩
  · simp only [wrap1, prefixQuote, linesT_docOf Ls hne hn hl, wrapLines, Wrapper.pre]
    rw [← flat_withTerms, ← withTerms_mapIdx, prefixLines, mapIdx_const (fun lt : List Char × List Char => (['>', ' '] ++ lt.1, lt.2))]
    rfl
  · rw [hw, itemDoc, linesT_docOf Ls hne hn hl, indentLines, withTerms_mapIdx, flat_withTerms, wrapLines]
    congr 2
    funext i l
    rw [Wrapper.pre_item hq']

/-- a document given by non-empty list of terminator-free, tab-free lines, the last one not empty -/
structure Good (Ls : List (List Char)) : Prop where
  ne : Ls ≠ []
  noTerm : ∀ l ∈ Ls, NoTerm l
  last : Ls.getLast? ≠ some []
  tabfree : ∀ l ∈ Ls, '\t' ∉ l

theorem wrapLines_length (x : Wrapper) (Ls : List (List Char)) : (wrapLines x Ls).length = Ls.length := by
  simp [wrapLines]

theorem mem_wrapLines {x : Wrapper} {Ls : List (List Char)} {l : List Char} (h : l ∈ wrapLines x Ls) :
    ∃ i l0, l0 ∈ Ls ∧ l = x.pre i ++ l0 := by
  unfold wrapLines at h
  obtain ⟨i, hi, rfl⟩ := List.mem_mapIdx.mp h
  exact ⟨i, Ls[i], List.getElem_mem hi, rfl⟩

theorem Good.wrap {x : Wrapper} (hx : x.Ok) {Ls : List (List Char)} (g : Good Ls) : Good (wrapLines x Ls) := by
  have pf := Wrapper.preFacts hx
  refine ⟨?_, ?_, ?_, ?_⟩
  · intro h
    have := congrArg List.length h
    rw [wrapLines_length] at this
    exact g.ne (List.length_eq_zero_iff.mp this)
  · intro l hl
    obtain ⟨i, l0, h0, rfl⟩ := mem_wrapLines hl
    intro c hc
    rcases List.mem_append.mp hc with h | h
    · exact pf.noTerm i c h
    · exact g.noTerm l0 h0 c h
  · intro h
    obtain ⟨i, l0, h0, he⟩ := mem_wrapLines (List.mem_of_getLast? h)
    have := congrArg List.length he
    simp [pf.len, Wrapper.width] at this
    omega
  · intro l hl
    obtain ⟨i, l0, h0, rfl⟩ := mem_wrapLines hl
    intro hc
    rcases List.mem_append.mp hc with h | h
    · exact pf.tabfree i h
    · exact g.tabfree l0 h0 h

theorem Good.wrapAll {w : List Wrapper} (hw : ∀ x ∈ w, x.Ok) {Ls : List (List Char)} (g : Good Ls) :
    Good (wrapAllLines w Ls) := by
  induction w with
  | nil => exact g
  | cons x ws ih =>
    exact (ih (fun y hy => hw y (List.mem_cons_of_mem _ hy))).wrap (hw x (by simp))

theorem tabfree_docOf : ∀ (Ls : List (List Char)), (∀ l ∈ Ls, '\t' ∉ l) → '\t' ∉ docOf Ls
  | [], _ => by simp [docOf, Lines.joinLines]
  | [x], h => by simpa [docOf, Lines.joinLines] using h x (by simp)
  | x :: y :: r, h => by
    have ih := tabfree_docOf (y :: r) (fun l hl => h l (List.mem_cons_of_mem _ hl))
    have hx := h x (by simp)
    simp only [docOf, Lines.joinLines] at ih ⊢
    intro hc
    rcases List.mem_append.mp hc with h1 | h1
    · exact hx h1
    · rcases List.mem_cons.mp h1 with h2 | h2
      · cases h2
      · exact ih h2

theorem Good.tab {Ls : List (List Char)} (g : Good Ls) : '\t' ∉ docOf Ls := tabfree_docOf Ls g.tabfree

theorem wrapAll_docOf {w : List Wrapper} (hw : ∀ x ∈ w, x.Ok) {Ls : List (List Char)} (g : Good Ls) :
    wrapAll w (docOf Ls) = docOf (wrapAllLines w Ls) := by
  induction w with
  | nil => rfl
  | cons x ws ih =>
    have hws : ∀ y ∈ ws, y.Ok := fun y hy => hw y (List.mem_cons_of_mem _ hy)
    have g' := Good.wrapAll hws g
    simp only [wrapAll, wrapAllLines, ih hws]
    exact wrap1_docOf x g'.ne g'.noTerm g'.last

theorem wrapAllLines_cons (w : List Wrapper) (l : List Char) (r : List (List Char)) :
    ∃ r', wrapAllLines w (l :: r) = firstLine w l :: r' ∧ r'.length = r.length := by
  induction w with
  | nil => exact ⟨r, rfl, rfl⟩
  | cons x ws ih =>
    obtain ⟨r', h, hl⟩ := ih
    refine ⟨_, by simp only [wrapAllLines, h, wrapLines, List.mapIdx_cons, firstLine]; rfl, by simp [hl]⟩

theorem wrapAllLines_length (w : List Wrapper) (Ls : List (List Char)) : (wrapAllLines w Ls).length = Ls.length := by
  induction w with
  | nil => rfl
  | cons x ws ih => simp [wrapAllLines, wrapLines_length, ih]

theorem withTerms_cons (l : List Char) (r : List (List Char)) :
    ∃ t rest, withTerms (l :: r) = (l, t) :: rest := by
  cases r with
  | nil => exact ⟨[], [], rfl⟩
  | cons y r => exact ⟨['\n'], withTerms (y :: r), rfl⟩

theorem byteLen_firstLine {w : List Wrapper} (hw : ∀ x ∈ w, x.Ok) (l : List Char) :
    Lines.byteLen (firstLine w l) = widthAll w + Lines.byteLen l := by
  induction w with
  | nil => simp [firstLine, widthAll]
  | cons x ws ih =>
    have pf := Wrapper.preFacts (hw x (by simp))
    simp only [firstLine, widthAll, Lines.byteLen_append, pf.bytes, ih (fun y hy => hw y (List.mem_cons_of_mem _ hy))]
    omega

theorem firstLine_head {x : Wrapper} (hx : x.Ok) (ws : List Wrapper) (l : List Char) :
    lead (firstLine (x :: ws) l) = [] ∧ (firstLine (x :: ws) l).dropWhile Lines.isBlank ≠ [] := by
  obtain ⟨c, r, hcr, hc⟩ := (Wrapper.preFacts hx).head
  simp only [firstLine, hcr, List.cons_append]
  have := lead_nonblank_cons (r ++ firstLine ws l) hc
  exact ⟨this.1, by rw [this.2]; simp⟩

/-- the payload's first line: not blank, indented by 0 or by at least 4 columns -/
def FirstLineOk (l : List Char) : Prop :=
  l.dropWhile Lines.isBlank ≠ [] ∧ ((lead l).length = 0 ∨ 4 ≤ (lead l).length)

theorem firstOk_wrapped {w : List Wrapper} (hw : ∀ x ∈ w, x.Ok) {l : List Char} {r : List (List Char)}
    (g : Good (l :: r)) (hf : FirstLineOk l) : FirstOk (Lines.linesT (docOf (wrapAllLines w (l :: r)))) := by
  have g' := Good.wrapAll hw g
  rw [linesT_docOf _ g'.ne g'.noTerm g'.last]
  obtain ⟨r', hr', _⟩ := wrapAllLines_cons w l r
  obtain ⟨t, rest, ht⟩ := withTerms_cons (firstLine w l) r'
  rw [hr', ht]
  refine ⟨_, _, _, rfl, ?_⟩
  cases w with
  | nil => exact hf
  | cons x ws =>
    have := firstLine_head (hw x (by simp)) ws l
    exact ⟨this.2, .inl (by rw [this.1]; rfl)⟩

theorem byteLen_wrap1 {x : Wrapper} (hx : x.Ok) (D : List Char) :
    Lines.byteLen (wrap1 x D) = Lines.byteLen D + x.width * (Lines.linesT D).length := by
  rcases x.cases with rfl | ⟨hq', hw⟩
  · simp only [wrap1, byteLen_prefixQuote]; rfl
  · rw [hw, byteLen_itemDoc (Wrapper.mkOk hx hq')]; rfl

theorem byteLen_wrap1_ge {x : Wrapper} (hx : x.Ok) (D : List Char) : Lines.byteLen D ≤ Lines.byteLen (wrap1 x D) := by
  rw [byteLen_wrap1 hx]; omega

theorem width_le (x : Wrapper) (hx : x.Ok) : x.width ≤ 11 := by
  cases x with
  | quote => decide
  | bullet c => simp [Wrapper.width, Wrapper.mk]
  | ordered ds dl => have := hx.len; simp [Wrapper.width, Wrapper.mk]; omega

theorem hrCount_none {m x : Char} (hx : x ≠ m ∧ x ≠ ' ' ∧ x ≠ '\t') : ∀ (rest : List Char) (cnt : Nat), x ∈ rest →
    hrCount m rest cnt = none
  | [], _, h => by simp at h
  | c :: r, cnt, h => by
    simp only [hrCount]
    by_cases hc : c = x
    · subst hc
      rw [if_neg hx.1, if_pos ⟨hx.2.1, hx.2.2⟩]
    · have hr : x ∈ r := by
        rcases List.mem_cons.mp h with h | h
        · exact absurd h.symm hc
        · exact h
      split
      · exact hrCount_none hx r _ hr
      · split
        · rfl
        · exact hrCount_none hx r _ hr

theorem hrLook_false_of_mem {m x : Char} {rest : List Char} (h : x ∈ rest) (hx : x ≠ m ∧ x ≠ ' ' ∧ x ≠ '\t') :
    hrLook 0 (m :: rest) = false := by
  simp only [hrLook, show ¬ ((0 : Int) ≥ 4) by omega, if_false]
  split
  · rfl
  · rw [hrCount_none hx rest 1 h]

theorem mem_firstLine {x : Char} {l : List Char} (h : x ∈ l) : ∀ w : List Wrapper, x ∈ firstLine w l
  | [] => h
  | _ :: ws => List.mem_append_right _ (mem_firstLine h ws)

/-- the thematic-break condition of `item_commutes_gen`, for every bullet wrapper: the marker line is
    not a thematic break (`- - -`, `* * *`, `-     ---`) -/
def HrFree : List Wrapper → List Char → Prop
  | [], _ => True
  | .bullet c :: ws, l => hrLook 0 (c :: ' ' :: firstLine ws l) = false ∧ HrFree ws l
  | _ :: ws, l => HrFree ws l

/-- sufficient: the payload's first line holds a character that is neither blank nor `-`, `*`, `_` -/
theorem hrFree_of_mem {x : Char} {l : List Char} (h : x ∈ l)
    (hx : x ≠ ' ' ∧ x ≠ '\t' ∧ x ≠ '-' ∧ x ≠ '*' ∧ x ≠ '_') : ∀ w : List Wrapper, HrFree w l
  | [] => trivial
  | .quote :: ws => hrFree_of_mem h hx ws
  | .ordered _ _ :: ws => hrFree_of_mem h hx ws
  | .bullet c :: ws => by
    refine ⟨?_, hrFree_of_mem h hx ws⟩
    by_cases hc : c = '*' ∨ c = '-' ∨ c = '_'
    · refine hrLook_false_of_mem (x := x) (List.mem_cons_of_mem _ (mem_firstLine h ws)) ⟨?_, hx.1, hx.2.1⟩
      rcases hc with rfl | rfl | rfl
      · exact hx.2.2.2.1
      · exact hx.2.2.1
      · exact hx.2.2.2.2
    · simp only [hrLook, show ¬ ((0 : Int) ≥ 4) by omega, if_false, hc, not_false_eq_true, if_true]

theorem startOf_length (L : DLines) : startOf L L.length = Lines.byteLen (Lines.flat L) := by
  simp [startOf]

theorem end_of_last (L : DLines) (hn : 0 < L.length) (hlast : (L[L.length - 1]'(by omega)).2 = []) :
    startOf L (L.length - 1) + Lines.byteLen (L[L.length - 1]'(by omega)).1 = Lines.byteLen (Lines.flat L) := by
  have := startOf_succ L (L.length - 1) (by omega)
  rw [hlast, show L.length - 1 + 1 = L.length by omega, startOf_length] at this
  simp at this
  omega

theorem withTerms_last : ∀ (Ls : List (List Char)) (h : 0 < (withTerms Ls).length),
    ((withTerms Ls)[(withTerms Ls).length - 1]'(by omega)).2 = []
  | [], h => by simp [withTerms] at h
  | [x], _ => rfl
  | x :: y :: r, _ => by
    have ih := withTerms_last (y :: r) (by simp [withTerms_length])
    simp only [withTerms, List.length_cons, withTerms_length] at ih ⊢
    simpa using ih

/-- a byte map that moves byte `x` of line `i` to byte `w + x` of line `i` of a document whose lines are
    `w` bytes longer: the bytes of line 0 move by `w`, the end of the source goes to the end of the source -/
theorem reloc_of_spec (σ : Nat → Nat) (L L' : DLines) (w : Nat) (hlen : L'.length = L.length)
    (hspec : ∀ i (h : i < L.length) x, x ≤ Lines.byteLen L[i].1 → σ (startOf L i + x) = startOf L' i + w + x)
    (h2 : ∀ i (h : i < L.length), (L'[i]'(by omega)).2 = L[i].2 ∧ Lines.byteLen (L'[i]'(by omega)).1 = w + Lines.byteLen L[i].1)
    (hn : 0 < L.length) (hlast : (L[L.length - 1]'(by omega)).2 = []) :
    (∀ a, a ≤ Lines.byteLen (L[0]'hn).1 → σ a = a + w) ∧
      σ (Lines.byteLen (Lines.flat L)) = Lines.byteLen (Lines.flat L') := by
  constructor
  · intro a ha
    have := hspec 0 hn a ha
    simp only [startOf_zero, Nat.zero_add] at this
    omega
  · have e1 := end_of_last L hn hlast
    have h2' := h2 (L.length - 1) (by omega)
    have e2 := end_of_last L' (by omega) (by
      have : L'.length - 1 = L.length - 1 := by omega
      simp only [this]; rw [h2'.1]; exact hlast)
    have := hspec (L.length - 1) (by omega) _ (Nat.le_refl _)
    rw [e1] at this
    rw [this, ← e2]
    have e3 : L'.length - 1 = L.length - 1 := by omega
    simp only [e3, h2'.2]
    omega

theorem Good.linesT {Ls : List (List Char)} (g : Good Ls) : Lines.linesT (docOf Ls) = withTerms Ls :=
  linesT_docOf Ls g.ne g.noTerm g.last

theorem withTerms_getElem_fst : ∀ (Ls : List (List Char)) (i : Nat) (h : i < Ls.length),
    ((withTerms Ls)[i]'(by rw [withTerms_length]; exact h)).1 = Ls[i]
  | [], _, h => by simp at h
  | [x], 0, _ => rfl
  | [x], i + 1, h => by simp at h
  | x :: y :: r, 0, _ => rfl
  | x :: y :: r, i + 1, h => by
    have := withTerms_getElem_fst (y :: r) i (by simpa using h)
    simpa [withTerms] using this

/-- the range `get_map(0, last line)` of a `Good` document: from the first non-blank byte of line 0 to the
    end of the source -/
theorem getMap_whole {Ls : List (List Char)} (g : Good Ls) {r : Nat × Nat}
    (h : Lines.getMap (Lines.splitLines (docOf Ls)) 0 (Ls.length - 1) = .ok r) :
    r = (Lines.byteLen (lead (Ls[0]'(List.length_pos_iff.mpr g.ne))), Lines.byteLen (docOf Ls)) := by
  have hpos : 0 < Ls.length := List.length_pos_iff.mpr g.ne
  have hon : OnDoc Ls (BState.fresh (docOf Ls) .root []) := OnDoc.fresh g.ne g.noTerm g.last .root []
  have hm : (BState.fresh (docOf Ls) .root []).getMap 0 (Ls.length - 1) = .ok r := by
    simp only [BState.getMap, BState.fresh, h]; rfl
  obtain ⟨oa, ob, ha, hb, hr⟩ := getMap_ok hm
  rw [hr, hon.firstNonspace_first hpos ha, hon.lineEnd_last hb, hon.src]

/-- the node value of the wrapper's outer node -/
def Wrapper.kind : Wrapper → Kind
  | .quote => .blockquote
  | .bullet c => .bulletList c
  | .ordered ds dl => .orderedList (ordValue ds) dl

theorem relocKind_wrapper (σ : Nat → Nat) (x : Wrapper) : relocKind σ x.kind = x.kind := by
  cases x <;> rfl

/-- what the chain must look like for the wrappers used: the container's rule stands behind rules that
    reject its marker line (`Block.frontOk`, `Li.frontOkL`) -/
structure ChainFor (chain : List RuleId) (w : List Wrapper) : Prop where
  quote : (∃ x ∈ w, x.isQuote = true) →
    .blockquote ∈ chain ∧ ∀ r ∈ chain.takeWhile (· ≠ .blockquote), frontOk r = true
  list : (∃ x ∈ w, x.isQuote = false) →
    .list ∈ chain ∧ ∀ r ∈ chain.takeWhile (· ≠ .list), frontOkL r = true

theorem ChainFor.tail {chain : List RuleId} {x : Wrapper} {ws : List Wrapper} (h : ChainFor chain (x :: ws)) :
    ChainFor chain ws :=
  ⟨fun ⟨y, hy, hq⟩ => h.quote ⟨y, List.mem_cons_of_mem _ hy, hq⟩,
   fun ⟨y, hy, hq⟩ => h.list ⟨y, List.mem_cons_of_mem _ hy, hq⟩⟩

theorem ChainFor.head {chain : List RuleId} {x : Wrapper} {ws : List Wrapper} (h : ChainFor chain (x :: ws)) :
    ChainFor chain [x] :=
  ⟨fun ⟨y, hy, hq⟩ => h.quote ⟨y, by simp at hy; subst hy; simp, hq⟩,
   fun ⟨y, hy, hq⟩ => h.list ⟨y, by simp at hy; subst hy; simp, hq⟩⟩

theorem HrFree.tail {x : Wrapper} {ws : List Wrapper} {l : List Char} (h : HrFree (x :: ws) l) : HrFree ws l := by
  cases x with
  | quote => exact h
  | bullet c => exact h.2
  | ordered ds dl => exact h

/-- what `item_commutes_gen` wants to know of a list marker -/
theorem Wrapper.itemData {x : Wrapper} (hx : x.Ok) (hq : x.isQuote = false) : ∃ mv mc,
    (∀ rest, detectMarker (x.mk ++ ' ' :: rest) = .ok (some (x.mk.length, mv))) ∧
    (∀ rest, markerCharOf (x.mk ++ ' ' :: rest) x.mk.length = .ok mc) ∧
    (∀ c r, x.mk = c :: r → c ≠ '~' ∧ c ≠ '`' ∧ c ≠ '>' ∧ c ≠ '#' ∧ c ≠ '[') ∧
    kindOf mv mc = x.kind := by
  cases x with
  | quote => cases hq
  | bullet c =>
    refine ⟨none, c, detect_bullet hx, markerChar_bullet hx, ?_, rfl⟩
    intro y r hy
    simp [Wrapper.mk] at hy
    obtain ⟨rfl, _⟩ := hy
    rcases hx with rfl | rfl | rfl <;> decide
  | ordered ds dl =>
    refine ⟨some (ordValue ds), dl, detect_ordered hx, markerChar_ordered hx, ?_, rfl⟩
    intro y r hy
    obtain ⟨c0, r0, hc0r⟩ : ∃ c r, ds = c :: r := by
      cases hds : ds with
      | nil => exact absurd hds hx.ne
      | cons c r => exact ⟨c, r, rfl⟩
    have hd0 : isDigit c0 = true := hx.digits c0 (by rw [hc0r]; simp)
    simp only [Wrapper.mk, hc0r, List.cons_append, List.cons.injEq] at hy
    rw [← hy.1]
    have := digit_plain hd0
    exact ⟨this.2.2.2.2.1, this.2.2.2.2.2.1, this.2.2.2.2.2.2.1, this.2.2.2.2.2.2.2.1, this.2.2.2.2.2.2.2.2.1⟩

/-- the marker line of an item is not a thematic break: by `HrFree` for a bullet, always for a number -/
theorem hr_item {x : Wrapper} (hx : x.Ok) (hq : x.isQuote = false) {ws : List Wrapper} {l : List Char}
    (h : HrFree (x :: ws) l) : hrLook 0 (x.mk ++ ' ' :: firstLine ws l) = false := by
  cases x with
  | quote => cases hq
  | bullet c => exact h.1
  | ordered ds dl =>
    obtain ⟨c0, r0, hc0r⟩ : ∃ c r, ds = c :: r := by
      cases hds : ds with
      | nil => exact absurd hds hx.ne
      | cons c r => exact ⟨c, r, rfl⟩
    have hd0 : isDigit c0 = true := hx.digits c0 (by rw [hc0r]; simp)
    simp only [Wrapper.mk, hc0r, List.cons_append, hrLook, show ¬ ((0 : Int) ≥ 4) by omega, if_false]
    simp only [isDigit, Bool.and_eq_true, decide_eq_true_eq] at hd0
    rw [if_pos]
    rintro (rfl | rfl | rfl) <;> revert hd0 <;> decide

theorem wrapLines_cons (x : Wrapper) (l : List Char) (r : List (List Char)) :
    wrapLines x (l :: r) = (x.pre 0 ++ l) :: r.mapIdx (fun i l => x.pre (i + 1) ++ l) := by
  simp [wrapLines, List.mapIdx_cons]

theorem cfg_nest (cfg : Cfg) (a b : Nat) :
    ({ ({ cfg with maxNesting := cfg.maxNesting + a } : Cfg) with
        maxNesting := ({ cfg with maxNesting := cfg.maxNesting + a } : Cfg).maxNesting + b } : Cfg) =
      { cfg with maxNesting := cfg.maxNesting + (a + b) } := by
  simp [Nat.add_assoc]


theorem byteLen_wrapLines_ge {x : Wrapper} (hx : x.Ok) {Ls : List (List Char)} (g : Good Ls) :
    Lines.byteLen (docOf Ls) ≤ Lines.byteLen (docOf (wrapLines x Ls)) := by
  rw [← wrap1_docOf x g.ne g.noTerm g.last]
  exact byteLen_wrap1_ge hx _

end MdIt.C11N
