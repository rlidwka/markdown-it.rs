/-
  The inline parser and the per-line offset table (`mapping`), two runs of `Inline.parseInline` on the
  same text under two tables: the relations and what they transport.

  Two flags.  `s` ("strict") on the RELATIONS: with `s = true` ranges are related by `≤` (none ↔ none) and
  tables by `MLe`, with `s = false` they are unrelated.  `t` on the SIMULATION, `Sim t R a x₂` = "side 2
  returned `ok b` with `R a b`, or it failed and `t = false`": with `t = true` side 2 must not fail.  Up to
  `IRel` the lemmas are stated with one flag for both (`t = s`: ordered tables are what keeps side 2 from
  failing); the `Ctl` section and the engine keep them apart (`t = true`, `s = false` is the simulation of
  Lemmas/TotalTabsSim.lean, where a fact about side 2 itself excludes its failure).

  `RRel`, `NRel`/`LRel`, `IRel` = every field of `IState` equal except `srcmap` and the ranges inside
  `children`; `gsp_le`: same keys and values pointwise `≤` give translations pointwise `≤`.  The lock-step
  simulation itself is `Lemmas/C10SpInlineBase.lean` / `Emph` / `Link`; `Lemmas/C10DocInline.lean` draws the
  conclusions for these relations.  The last section runs the engine (chain, loop bodies, fuel) once for any
  such relation.
-/
import MdIt.Props.Pipeline

namespace MdIt.Pipeline

/-- same keys, values pointwise ≤ -/
def MLe (m₁ m₂ : InlineOps.Srcmap) : Prop :=
  m₁.map Prod.fst = m₂.map Prod.fst ∧ ∀ (i k₁ v₁ k₂ v₂ : Nat), m₁[i]? = some (k₁, v₁) → m₂[i]? = some (k₂, v₂) → v₁ ≤ v₂

end MdIt.Pipeline

namespace MdIt.Inline
open MdIt.InlineOps (Srcmap getSourcePosFor getMap byteLen slice)
open MdIt.Pipeline (MLe)

/-- ranges in strict mode: both absent, or both present and componentwise `≤` -/
def ROrd : Option (Nat × Nat) → Option (Nat × Nat) → Prop
  | none, none => True
  | some (a, b), some (c, d) => a ≤ c ∧ b ≤ d
  | _, _ => False

/-- ranges: unrelated unless strict -/
def RRel (s : Bool) (r₁ r₂ : Option (Nat × Nat)) : Prop := s = true → ROrd r₁ r₂

/-- tables: unrelated unless strict -/
def MRel (s : Bool) (m₁ m₂ : Srcmap) : Prop := s = true → MLe m₁ m₂

mutual
/-- same value, related ranges, related children -/
def NRel (s : Bool) : Node → Node → Prop
  | ⟨v₁, r₁, cs₁⟩, n₂ => v₁ = n₂.val ∧ RRel s r₁ n₂.range ∧ LRel s cs₁ n₂.children
def LRel (s : Bool) : List Node → List Node → Prop
  | [], l₂ => l₂ = []
  | a :: as, l₂ =>
    match l₂ with
    | [] => False
    | b :: bs => NRel s a b ∧ LRel s as bs
end

theorem NRel_iff (s : Bool) (a b : Node) :
    NRel s a b ↔ a.val = b.val ∧ RRel s a.range b.range ∧ LRel s a.children b.children := by
  cases a; simp [NRel]

@[simp] theorem LRel_nil_nil (s : Bool) : LRel s [] [] := by simp [LRel]
@[simp] theorem LRel_cons_cons (s : Bool) (a b : Node) (as bs : List Node) :
    LRel s (a :: as) (b :: bs) ↔ NRel s a b ∧ LRel s as bs := by simp [LRel]
@[simp] theorem LRel_nil_cons (s : Bool) (b : Node) (bs : List Node) : ¬ LRel s [] (b :: bs) := by
  simp [LRel]
@[simp] theorem LRel_cons_nil (s : Bool) (a : Node) (as : List Node) : ¬ LRel s (a :: as) [] := by
  simp [LRel]

theorem LRel.length {s : Bool} : ∀ {l₁ l₂ : List Node}, LRel s l₁ l₂ → l₁.length = l₂.length
  | [], [], _ => rfl
  | [], _ :: _, h => absurd h (LRel_nil_cons _ _ _)
  | _ :: _, [], h => absurd h (LRel_cons_nil _ _ _)
  | _ :: as, _ :: bs, h => by
    have := LRel.length ((LRel_cons_cons _ _ _ _ _).mp h).2
    simp [this]

theorem LRel.append {s : Bool} : ∀ {a b c d : List Node}, LRel s a b → LRel s c d → LRel s (a ++ c) (b ++ d)
  | [], [], _, _, _, h => by simpa using h
  | [], _ :: _, _, _, h, _ => absurd h (LRel_nil_cons _ _ _)
  | _ :: _, [], _, _, h, _ => absurd h (LRel_cons_nil _ _ _)
  | _ :: as, _ :: bs, _, _, h, h' => by
    rw [LRel_cons_cons] at h
    simp only [List.cons_append, LRel_cons_cons]
    exact ⟨h.1, LRel.append h.2 h'⟩

theorem LRel.single {s : Bool} {a b : Node} (h : NRel s a b) : LRel s [a] [b] := by simp [h]

theorem LRel.snoc {s : Bool} {a b : List Node} {x y : Node} (h : LRel s a b) (hx : NRel s x y) :
    LRel s (a ++ [x]) (b ++ [y]) := h.append (LRel.single hx)

theorem NRel.val {s : Bool} {a b : Node} (h : NRel s a b) : b.val = a.val := ((NRel_iff _ _ _).mp h).1.symm
theorem NRel.range {s : Bool} {a b : Node} (h : NRel s a b) : RRel s a.range b.range :=
  ((NRel_iff _ _ _).mp h).2.1
theorem NRel.children {s : Bool} {a b : Node} (h : NRel s a b) : LRel s a.children b.children :=
  ((NRel_iff _ _ _).mp h).2.2
theorem NRel.content {s : Bool} {a b : Node} (h : NRel s a b) : b.content = a.content := by
  unfold Node.content; rw [h.val]

theorem NRel.mk' {s : Bool} {v : Val} {r₁ r₂ : Option (Nat × Nat)} {c₁ c₂ : List Node}
    (hr : RRel s r₁ r₂) (hc : LRel s c₁ c₂) : NRel s ⟨v, r₁, c₁⟩ ⟨v, r₂, c₂⟩ :=
  (NRel_iff _ _ _).mpr ⟨rfl, hr, hc⟩

theorem RRel.some {s : Bool} {a b c d : Nat} (h1 : s = true → a ≤ c) (h2 : s = true → b ≤ d) :
    RRel s (some (a, b)) (some (c, d)) := fun hs => ⟨h1 hs, h2 hs⟩

theorem RRel.none (s : Bool) : RRel s none none := fun _ => trivial

/-- side 2 returned `ok b` with `R a b`, or it failed and we are not strict -/
def Sim (s : Bool) {ε α β : Type} (R : α → β → Prop) (a : α) : Except ε β → Prop
  | .ok b => R a b
  | .error _ => s = false

@[simp] theorem Sim_ok {s : Bool} {ε α β : Type} (R : α → β → Prop) (a : α) (b : β) :
    Sim s (ε := ε) R a (.ok b) ↔ R a b := Iff.rfl
@[simp] theorem Sim_error {s : Bool} {ε α β : Type} (R : α → β → Prop) (a : α) (e : ε) :
    Sim s (β := β) R a (.error e) ↔ s = false := Iff.rfl

theorem Sim.liftOps {s : Bool} {α β : Type} {R : α → β → Prop} {a : α} {x : Except InlineOps.Panic β}
    (h : Sim s R a x) : Sim s R a (liftOps x) := by
  cases x <;> exact h

theorem Sim.liftR {s : Bool} {α β : Type} {R : α → β → Prop} {a : α} {x : Except RPanic β}
    (h : Sim s R a x) : Sim s R a (liftR x) := by
  cases x <;> exact h

theorem Sim.mono {s : Bool} {ε α β : Type} {R R' : α → β → Prop} {a : α} {x : Except ε β}
    (h : Sim s R a x) (hr : ∀ b, R a b → R' a b) : Sim s R' a x := by
  cases x with
  | ok b => exact hr b h
  | error e => exact h

theorem Sim.same {s : Bool} {ε α : Type} {x : Except ε α} {a : α} (h : x = .ok a) :
    Sim s (fun a b => b = a) a x := by
  rw [h]; rfl

theorem lineOf_keys {m₁ m₂ : Srcmap} (h : m₁.map Prod.fst = m₂.map Prod.fst) (pos : Nat) :
    InlineOps.lineOf m₂ pos = InlineOps.lineOf m₁ pos := by
  unfold InlineOps.lineOf; rw [h]

theorem gsp_le {m₁ m₂ : Srcmap} (h : MLe m₁ m₂) {pos x₁ : Nat} (h₁ : getSourcePosFor m₁ pos = .ok x₁) :
    ∃ x₂, getSourcePosFor m₂ pos = .ok x₂ ∧ x₁ ≤ x₂ := by
  unfold getSourcePosFor at h₁ ⊢
  rw [lineOf_keys h.1]
  split at h₁
  · simp at h₁
  · next line hl =>
    split at h₁
    · simp at h₁
    · next k v hkv =>
      split at h₁
      · simp at h₁
      · next hk =>
        have hlen : line < m₂.length := by
          have h1 : line < m₁.length := by
            rcases Nat.lt_or_ge line m₁.length with h | h
            · exact h
            · rw [List.getElem?_eq_none h] at hkv; cases hkv
          have := congrArg List.length h.1
          simp only [List.length_map] at this
          omega
        have hk2 : (m₂.map Prod.fst)[line]? = some k := by
          rw [← h.1, List.getElem?_map, hkv]; rfl
        rw [List.getElem?_map] at hk2
        cases hm2 : m₂[line]? with
        | none => rw [List.getElem?_eq_none_iff] at hm2; omega
        | some kv =>
          obtain ⟨k₂, v₂⟩ := kv
          rw [hm2] at hk2
          simp only [Option.map_some, Option.some.injEq] at hk2
          subst hk2
          have := h.2 _ _ _ _ _ hkv hm2
          simp only []
          rw [if_neg hk]
          have hlen' := congrArg List.length h.1
          simp only [List.length_map] at hlen'
          cases hn1 : m₁[line + 1]? with
          | none =>
            rw [hn1] at h₁
            simp only [Except.ok.injEq] at h₁
            have : m₂[line + 1]? = none := by
              rw [List.getElem?_eq_none_iff] at hn1 ⊢; omega
            rw [this]
            exact ⟨_, rfl, by omega⟩
          | some kv1 =>
            obtain ⟨k1', v1'⟩ := kv1
            rw [hn1] at h₁
            simp only [Except.ok.injEq] at h₁
            cases hn2 : m₂[line + 1]? with
            | none =>
              have h1 : line + 1 < m₁.length := by
                rcases Nat.lt_or_ge (line + 1) m₁.length with h | h
                · exact h
                · rw [List.getElem?_eq_none h] at hn1; cases hn1
              rw [List.getElem?_eq_none_iff] at hn2; omega
            | some kv2 =>
              obtain ⟨k2', v2'⟩ := kv2
              have := h.2 _ _ _ _ _ hn1 hn2
              exact ⟨_, rfl, by omega⟩

theorem Sim.cases {s : Bool} {ε α β : Type} {R : α → β → Prop} {a : α} {x : Except ε β}
    (h : Sim s R a x) : (∃ b, x = .ok b ∧ R a b) ∨ (s = false ∧ ∃ e, x = .error e) := by
  cases x with
  | ok b => exact .inl ⟨b, rfl, h⟩
  | error e => exact .inr ⟨h, e, rfl⟩

theorem ROrd_none_some {s : Bool} {r : Nat × Nat} (h : RRel s none (some r)) : s = false := by
  cases s with
  | false => rfl
  | true => exact absurd (h rfl) (by simp [ROrd])

theorem ROrd_some_none {s : Bool} {r : Nat × Nat} (h : RRel s (some r) none) : s = false := by
  cases s with
  | false => rfl
  | true => exact absurd (h rfl) (by obtain ⟨a, b⟩ := r; simp [ROrd])

theorem RRel.false (r₁ r₂ : Option (Nat × Nat)) : RRel false r₁ r₂ := fun h => by cases h

/-- everything equal except the table and the ranges in the tree under construction -/
structure IRel (s : Bool) (a b : IState) : Prop where
  eq : b = { a with srcmap := b.srcmap, children := b.children }
  map : MRel s a.srcmap b.srcmap
  ch : LRel s a.children b.children

theorem IRel.out {s : Bool} {a b : IState} (h : IRel s a b) :
    ∃ m cs, b = { a with srcmap := m, children := cs } ∧ MRel s a.srcmap m ∧ LRel s a.children cs :=
  ⟨_, _, h.eq, h.map, h.ch⟩

theorem IRel.mk' {s : Bool} {a : IState} {m : Srcmap} {cs : List Node} (hm : MRel s a.srcmap m)
    (hc : LRel s a.children cs) : IRel s a { a with srcmap := m, children := cs } := ⟨rfl, hm, hc⟩

/-- the result of a rule: same answer, related states -/
def ORel (s : Bool) (x y : Option Nat × IState) : Prop := y.1 = x.1 ∧ IRel s x.2 y.2

/-! ## the delimiter matching: the two range computations of `matchInner` -/

/-- cut `ml` markers from the start of the closer's range -/
def crStep (cr : Option (Nat × Nat)) (ml : Nat) : Option (Nat × Nat) × Nat :=
  match cr with
  | some (s, e) => (some (s + ml, e), s + ml)
  | none => (none, 0)

/-- cut `ml` markers from the end of the opener's range -/
def cutTok (otok : Node) (ml : Nat) : Except RPanic (Node × Nat) :=
  match otok.range with
  | some (s, e) =>
    if e < ml then .error .underflow
    else .ok ({ otok with range := some (s, e - ml) }, e - ml)
  | none => .ok (otok, 0)

mutual
/-- related trees carry the same `EmphDepth` (it is a function of the values and the shape) -/
theorem NRel.wrapDepth_eq {s : Bool} : ∀ (a b : Node), NRel s a b → wrapDepth b = wrapDepth a
  | ⟨v₁, r₁, cs₁⟩, ⟨v₂, r₂, cs₂⟩, h => by
    simp only [NRel] at h
    obtain ⟨rfl, _, hc⟩ := h
    have := LRel.wrapDepthList_eq cs₁ cs₂ hc
    cases v₁ <;> simp [wrapDepth, this]
theorem LRel.wrapDepthList_eq {s : Bool} :
    ∀ (l₁ l₂ : List Node), LRel s l₁ l₂ → wrapDepthList l₂ = wrapDepthList l₁
  | [], l₂, h => by simp only [LRel] at h; subst h; rfl
  | a :: as, [], h => by simp at h
  | a :: as, b :: bs, h => by
    simp only [LRel_cons_cons] at h
    simp only [wrapDepthList, NRel.wrapDepth_eq a b h.1, LRel.wrapDepthList_eq as bs h.2]
end

theorem matchInner_succ (fns : Nat → Option Wrap) (mk : Char) (room idx fuel : Nat) (opener : Marker)
    (ms : MatchSt) :
    matchInner fns mk room idx (fuel + 1) opener ms =
      if ms.closer.remaining > 0 ∧ opener.remaining > 0 then
        if ms.innerDepth ≥ room then .ok (opener, ms) else
        match pickLen fns (min 3 (min opener.remaining ms.closer.remaining)) with
        | none => .ok (opener, ms)
        | some (ml, w) =>
          if ms.closer.remaining < ml ∨ opener.remaining < ml then .error .underflow
          else
            if ms.children.length < idx + 1 then .error .slice
            else
              match popLast (ms.children.take (idx + 1)) with
              | none => .error .unwrap
              | some (init, otok) =>
                match cutTok otok ml with
                | .error e => .error e
                | .ok (otok', startMapPos) =>
                  matchInner fns mk room idx fuel { opener with remaining := opener.remaining - ml }
                    { closer := { ms.closer with remaining := ms.closer.remaining - ml },
                      closerRange := (crStep ms.closerRange ml).1,
                      children := (if opener.remaining - ml = 0 then init else init ++ [otok']) ++
                        [{ val := .wrap w mk, range := some (startMapPos, (crStep ms.closerRange ml).2),
                           children := ms.children.drop (idx + 1) }],
                      newMin := 0, innerDepth := ms.innerDepth + 1 }
      else .ok (opener, ms) := by
  rw [matchInner]; rfl

theorem crStep_rel {s : Bool} {cr₁ cr₂ : Option (Nat × Nat)} (ml : Nat) (h : RRel s cr₁ cr₂) :
    RRel s (crStep cr₁ ml).1 (crStep cr₂ ml).1 ∧ (s = true → (crStep cr₁ ml).2 ≤ (crStep cr₂ ml).2) := by
  cases s with
  | false => exact ⟨RRel.false _ _, fun h => by cases h⟩
  | true =>
    have := h rfl
    unfold crStep
    rcases cr₁ with _ | ⟨a, b⟩ <;> rcases cr₂ with _ | ⟨c, d⟩ <;> simp only [ROrd] at this
    · exact ⟨RRel.none _, fun _ => Nat.le_refl _⟩
    · exact ⟨RRel.some (fun _ => by omega) (fun _ => this.2), fun _ => by simp only []; omega⟩

theorem IRel.pos {s : Bool} {a b : IState} (h : IRel s a b) : b.pos = a.pos := by
  obtain ⟨m, cs, rfl, _, _⟩ := h.out; rfl
theorem IRel.posMax {s : Bool} {a b : IState} (h : IRel s a b) : b.posMax = a.posMax := by
  obtain ⟨m, cs, rfl, _, _⟩ := h.out; rfl
theorem IRel.src {s : Bool} {a b : IState} (h : IRel s a b) : b.src = a.src := by
  obtain ⟨m, cs, rfl, _, _⟩ := h.out; rfl
theorem IRel.level {s : Bool} {a b : IState} (h : IRel s a b) : b.level = a.level := by
  obtain ⟨m, cs, rfl, _, _⟩ := h.out; rfl
theorem IRel.linkLevel {s : Bool} {a b : IState} (h : IRel s a b) : b.linkLevel = a.linkLevel := by
  obtain ⟨m, cs, rfl, _, _⟩ := h.out; rfl
theorem IRel.cache {s : Bool} {a b : IState} (h : IRel s a b) : b.cache = a.cache := by
  obtain ⟨m, cs, rfl, _, _⟩ := h.out; rfl
theorem IRel.bottoms {s : Bool} {a b : IState} (h : IRel s a b) : b.bottoms = a.bottoms := by
  obtain ⟨m, cs, rfl, _, _⟩ := h.out; rfl
theorem IRel.window {s : Bool} {a b : IState} (h : IRel s a b) : b.window = a.window := by
  obtain ⟨m, cs, rfl, _, _⟩ := h.out; rfl

theorem IRel.setPos {s : Bool} {a b : IState} (h : IRel s a b) (p : Nat) :
    IRel s { a with pos := p } { b with pos := p } := by
  obtain ⟨m, cs, rfl, hm, hc⟩ := h.out
  exact IRel.mk' (a := { a with pos := p }) hm hc

theorem IRel.backticks {s : Bool} {a b : IState} (h : IRel s a b) : b.backticks = a.backticks := by
  obtain ⟨m, cs, rfl, _, _⟩ := h.out; rfl

theorem IRel.of_eqs {s : Bool} {a b : IState} (h1 : b.src = a.src) (h2 : b.pos = a.pos)
    (h3 : b.posMax = a.posMax) (h4 : b.level = a.level) (h5 : b.linkLevel = a.linkLevel)
    (h6 : b.cache = a.cache) (h7 : b.backticks = a.backticks) (h8 : b.bottoms = a.bottoms)
    (hm : MRel s a.srcmap b.srcmap) (hc : LRel s a.children b.children) : IRel s a b := by
  refine ⟨?_, hm, hc⟩
  cases a; cases b; simp only [] at *
  simp only [h1, h2, h3, h4, h5, h6, h7, h8]

theorem liftR_sim {s : Bool} {α β : Type} {R : α → β → Prop} {a : α} {x : Except RPanic α}
    {y : Except RPanic β} (hxy : ∀ a, x = .ok a → Sim s R a y) (h : liftR x = .ok a) :
    Sim s R a (liftR y) := (hxy a (liftR_ok.mp h)).liftR

/-! ## look-ahead under any relation that fixes the control

Look-ahead (`parse_link_label`, `parse_link`, a chain in silent mode) reads neither the table nor a
range: its simulation holds for every relation `R` between the two states under which all other fields
agree and which survives a change of `pos` / `level` / `cache` on both sides, whatever `R` says about tables and
trees, and for either strictness `t` of the simulation. -/

structure Ctl (R : IState → IState → Prop) : Prop where
  eq : ∀ {a b}, R a b → b = { a with srcmap := b.srcmap, children := b.children }
  setPos : ∀ {a b}, R a b → ∀ p : Nat, R { a with pos := p } { b with pos := p }
  setLevel : ∀ {a b}, R a b → ∀ l : Nat, R { a with level := l } { b with level := l }
  setMemo : ∀ {a b}, R a b → ∀ p c, R { a with pos := p, cache := c } { b with pos := p, cache := c }

/-- same answer, related states -/
def PR (R : IState → IState → Prop) {α : Type} (x y : α × IState) : Prop := y.1 = x.1 ∧ R x.2 y.2

/-- a look-ahead / recursive call preserves the relation -/
def SimFnR (t : Bool) (R : IState → IState → Prop) (f : IState → Except Panic IState) : Prop :=
  ∀ a b a', R a b → f a = .ok a' → Sim t R a' (f b)

section
variable {R : IState → IState → Prop} (hR : Ctl R) {t : Bool}
include hR

theorem Ctl.pos {a b : IState} (h : R a b) : b.pos = a.pos := by rw [hR.eq h]
theorem Ctl.posMax {a b : IState} (h : R a b) : b.posMax = a.posMax := by rw [hR.eq h]
theorem Ctl.src {a b : IState} (h : R a b) : b.src = a.src := by rw [hR.eq h]
theorem Ctl.level {a b : IState} (h : R a b) : b.level = a.level := by rw [hR.eq h]
theorem Ctl.window {a b : IState} (h : R a b) : b.window = a.window := by rw [hR.eq h]; rfl
theorem Ctl.cache {a b : IState} (h : R a b) : b.cache = a.cache := by rw [hR.eq h]

theorem labelLoop_ctl {skip : IState → Except Panic IState} (hs : SimFnR t R skip) (en : Bool) :
    ∀ (n : Nat) (level : Int) (a b : IState) (r : Option Bool × IState), R a b →
      labelLoop skip en n level a = .ok r → Sim t (PR R) r (labelLoop skip en n level b) := by
  intro n level a
  fun_induction labelLoop skip en n level a
  all_goals intro b r rel h
  all_goals try (cases h; done)
  all_goals unfold labelLoop
  all_goals rw [hR.window rel]
  · next hw => cases h; rw [hw]; exact ⟨rfl, rel⟩
  · next hw hif => cases h; rw [hw]; simp only [if_pos hif]; exact ⟨rfl, rel⟩
  · next fuel level a tail prev a1 hsk h0 hp hw hif lv ih =>
    rw [hw]; simp only [if_neg hif]
    rcases (hs _ _ _ rel hsk).cases with ⟨b1, e2, rel1⟩ | ⟨hs', e, e2⟩
    · have hp : a.pos = a1.pos - 1 := hp
      rw [e2]; simp only [hR.pos rel1, hR.pos rel, if_neg h0, if_pos hp, if_true]; exact ih _ _ rel1 h
    · rw [e2]; exact hs'
  · next fuel level a tail prev a1 hsk h0 hp hen hw hif =>
    cases h
    rw [hw]; simp only [if_neg hif]
    rcases (hs _ _ _ rel hsk).cases with ⟨b1, e2, rel1⟩ | ⟨hs', e, e2⟩
    · have hp : ¬ a.pos = a1.pos - 1 := hp
      rw [e2]; simp only [hR.pos rel1, hR.pos rel, if_neg h0, if_neg hp, if_pos hen, if_true]
      exact ⟨rfl, rel1⟩
    · rw [e2]; exact hs'
  · next fuel level a tail prev a1 hsk h0 hp hen hw hif lv ih =>
    rw [hw]; simp only [if_neg hif]
    rcases (hs _ _ _ rel hsk).cases with ⟨b1, e2, rel1⟩ | ⟨hs', e, e2⟩
    · have hp : ¬ a.pos = a1.pos - 1 := hp
      rw [e2]; simp only [hR.pos rel1, hR.pos rel, if_neg h0, if_neg hp, if_neg hen, if_true]
      exact ih _ _ rel1 h
    · rw [e2]; exact hs'
  · next fuel level a ch tail hw hif lv a1 hsk hch ih =>
    rw [hw]; simp only [if_neg hif]
    rcases (hs _ _ _ rel hsk).cases with ⟨b1, e2, rel1⟩ | ⟨hs', e, e2⟩
    · rw [e2]; simp only [if_neg hch]; exact ih _ _ rel1 h
    · rw [e2]; exact hs'

theorem parseLinkLabel_ctl {skip : IState → Except Panic IState} (hs : SimFnR t R skip)
    {fuel : Nat} {a b : IState} {start : Nat} {en : Bool} {r : Option Nat × IState} (rel : R a b)
    (h : parseLinkLabel skip fuel a start en = .ok r) :
    Sim t (PR R) r (parseLinkLabel skip fuel b start en) := by
  unfold parseLinkLabel at h ⊢
  simp only [hR.pos rel] at h ⊢
  split at h
  · simp at h
  · next a1 hl =>
    simp only [Except.ok.injEq] at h; subst h
    rcases (labelLoop_ctl hR hs en _ _ _ _ _ (hR.setPos rel (start + 1)) hl).cases with
      ⟨⟨o₂, b1⟩, e2, ho, rel1⟩ | ⟨hs', e, e2⟩
    · simp only [] at ho rel1; subst ho
      rw [e2]; exact ⟨rfl, hR.setPos rel1 _⟩
    · rw [e2]; exact hs'
  · next found a1 hl =>
    simp only [Except.ok.injEq] at h; subst h
    rcases (labelLoop_ctl hR hs en _ _ _ _ _ (hR.setPos rel (start + 1)) hl).cases with
      ⟨⟨o₂, b1⟩, e2, ho, rel1⟩ | ⟨hs', e, e2⟩
    · simp only [] at ho rel1; subst ho
      rw [e2]; exact ⟨by simp only [hR.pos rel1], hR.setPos rel1 _⟩
    · rw [e2]; exact hs'

theorem parseLinkRef_ctl {cfg : Cfg} {skip : IState → Except Panic IState} (hs : SimFnR t R skip)
    {fuel : Nat} {a b : IState} {ls le : Nat} {r : Option LinkRes × IState} (rel : R a b)
    (h : parseLinkRef cfg skip fuel a ls le = .ok r) :
    Sim t (PR R) r (parseLinkRef cfg skip fuel b ls le) := by
  unfold parseLinkRef at h ⊢
  simp only [hR.src rel, hR.posMax rel] at h ⊢
  split at h
  · simp at h
  · next w hw =>
    split at h
    · simp at h
    · next ml pos a1 hsec =>
      split at hsec
      · next tail =>
        split at hsec
        · simp at hsec
        · next x st' hpl =>
          rcases (parseLinkLabel_ctl hR hs rel hpl).cases with ⟨⟨o₂, b1⟩, e2, ho, rel1⟩ | ⟨hs', e, e2⟩
          · simp only [] at ho rel1; subst ho; rw [e2]; simp only []
            split at hsec
            · simp at hsec
            · next l hl =>
              simp only [Except.ok.injEq, Prod.mk.injEq] at hsec; obtain ⟨rfl, rfl, rfl⟩ := hsec
              simp only []
              repeat' split at h
              all_goals try (simp at h; done)
              all_goals (simp only [Except.ok.injEq] at h; subst h; (try simp only [*]); exact ⟨rfl, rel1⟩)
          · rw [e2]; exact hs'
        · next st' hpl =>
          rcases (parseLinkLabel_ctl hR hs rel hpl).cases with ⟨⟨o₂, b1⟩, e2, ho, rel1⟩ | ⟨hs', e, e2⟩
          · simp only [] at ho rel1; subst ho; rw [e2]; simp only []
            simp only [Except.ok.injEq, Prod.mk.injEq] at hsec; obtain ⟨rfl, rfl, rfl⟩ := hsec
            repeat' split at h
            all_goals try (simp at h; done)
            all_goals (simp only [Except.ok.injEq] at h; subst h; (try simp only [*]); exact ⟨rfl, rel1⟩)
          · rw [e2]; exact hs'
      · next hne =>
        simp only [Except.ok.injEq, Prod.mk.injEq] at hsec; obtain ⟨rfl, rfl, rfl⟩ := hsec
        simp only []
        repeat' split at h
        all_goals try (simp at h; done)
        all_goals (simp only [Except.ok.injEq] at h; subst h; (try simp only [*]); exact ⟨rfl, rel⟩)

theorem parseLink_ctl {cfg : Cfg} {skip : IState → Except Panic IState} (hs : SimFnR t R skip)
    {fuel : Nat} {a b : IState} {pos : Nat} {en : Bool} {r : Option LinkRes × IState} (rel : R a b)
    (h : parseLink cfg skip fuel a pos en = .ok r) :
    Sim t (PR R) r (parseLink cfg skip fuel b pos en) := by
  unfold parseLink at h ⊢
  split at h
  · simp at h
  · next a1 hl =>
    simp only [Except.ok.injEq] at h; subst h
    rcases (parseLinkLabel_ctl hR hs rel hl).cases with ⟨⟨o₂, b1⟩, e2, ho, rel1⟩ | ⟨hs', e, e2⟩
    · simp only [] at ho rel1; subst ho; rw [e2]; exact ⟨rfl, rel1⟩
    · rw [e2]; exact hs'
  · next le a1 hl =>
    rcases (parseLinkLabel_ctl hR hs rel hl).cases with ⟨⟨o₂, b1⟩, e2, ho, rel1⟩ | ⟨hs', e, e2⟩
    · simp only [] at ho rel1; subst ho; rw [e2]
      simp only [hR.src rel1, hR.posMax rel1] at h ⊢
      split at h
      · simp at h
      · simp only [Except.ok.injEq] at h; subst h; exact ⟨rfl, rel1⟩
      · exact parseLinkRef_ctl hR hs rel1 h
    · rw [e2]; exact hs'

omit hR in
theorem firstRule_ctl {run : RuleId → IState → RuleRes} :
    ∀ (rules : List RuleId)
      (_ : ∀ id, id ∈ rules → ∀ a b r, R a b → run id a = .ok r → Sim t (PR R) r (run id b))
      (a b : IState) (r : Option Nat × IState), R a b →
      firstRule run rules a = .ok r → Sim t (PR R) r (firstRule run rules b) := by
  intro rules
  induction rules with
  | nil =>
    intro hrun a b r rel h
    simp only [firstRule, Except.ok.injEq] at h ⊢; subst h; exact ⟨rfl, rel⟩
  | cons id rs ih =>
    intro hrun' a b r rel h
    have hrun := hrun' id (List.mem_cons_self ..)
    have ih := ih (fun id' h' => hrun' id' (List.mem_cons_of_mem _ h'))
    unfold firstRule at h ⊢
    split at h
    · simp at h
    · next n a1 hr =>
      simp only [Except.ok.injEq] at h; subst h
      rcases (hrun _ _ _ rel hr).cases with ⟨⟨o₂, b1⟩, e2, ho, rel1⟩ | ⟨hs', e, e2⟩
      · simp only [] at ho rel1; subst ho; rw [e2]; exact ⟨rfl, rel1⟩
      · rw [e2]; exact hs'
    · next a1 hr =>
      rcases (hrun _ _ _ rel hr).cases with ⟨⟨o₂, b1⟩, e2, ho, rel1⟩ | ⟨hs', e, e2⟩
      · simp only [] at ho rel1; subst ho; rw [e2]; exact ih _ _ _ rel1 h
      · rw [e2]; exact hs'

theorem silentBumped_ctl {run : IState → Bool → RuleRes}
    (hrun : ∀ a b r, R a b → run a true = .ok r → Sim t (PR R) r (run b true))
    {a b : IState} {r : Option Nat × IState} (rel : R a b) (h : silentBumped run a = .ok r) :
    Sim t (PR R) r (silentBumped run b) := by
  unfold silentBumped at h ⊢
  rw [hR.level rel]
  split at h
  · simp at h
  · next o a1 hr =>
    rcases (hrun _ _ _ (hR.setLevel rel (a.level + 1)) hr).cases with ⟨⟨o₂, b1⟩, e2, ho, rel1⟩ | ⟨hs', e, e2⟩
    · simp only [] at ho rel1; subst ho; rw [e2]; simp only [hR.level rel1]
      split at h
      · simp at h
      · next hl =>
        rw [if_neg hl]
        simp only [Except.ok.injEq] at h; subst h
        exact ⟨rfl, hR.setLevel rel1 _⟩
    · rw [e2]; exact hs'

theorem skipStep_ctl {cfg : Cfg} {skip tok : IState → Except Panic IState} {fuel : Nat}
    (hrun : ∀ id, id ∈ cfg.chain → ∀ a b r, R a b → runRule cfg skip tok fuel id a true = .ok r →
      Sim t (PR R) r (runRule cfg skip tok fuel id b true))
    {a b a' : IState} (rel : R a b) (h : skipStep cfg skip tok fuel a = .ok a') :
    Sim t R a' (skipStep cfg skip tok fuel b) := by
  unfold skipStep at h ⊢
  simp only [hR.pos rel] at h ⊢
  have hok := fun r => firstRule_ctl (R := R) (t := t)
    (run := fun id s => silentBumped (runRule cfg skip tok fuel id) s) cfg.chain
    (fun id hid a b r rel h => silentBumped_ctl hR (hrun id hid) rel h) a b r rel
  split at h
  · simp at h
  · next len a1 hr =>
    simp only [Except.ok.injEq] at h; subst h
    rcases (hok _ hr).cases with ⟨⟨o₂, b1⟩, e2, ho, rel1⟩ | ⟨hs', e, e2⟩
    · simp only [] at ho rel1; subst ho; rw [e2]
      simp only [hR.pos rel1, hR.cache rel1]
      exact hR.setMemo rel1 _ _
    · rw [e2]; exact hs'
  · next a1 hr =>
    rcases (hok _ hr).cases with ⟨⟨o₂, b1⟩, e2, ho, rel1⟩ | ⟨hs', e, e2⟩
    · simp only [] at ho rel1; subst ho; rw [e2]
      have hfc : firstChar b1 = firstChar a1 := by unfold firstChar; rw [hR.window rel1]
      simp only [hfc]
      split at h
      · simp at h
      · next ch hch =>
        simp only [Except.ok.injEq] at h; subst h
        simp only [hR.pos rel1, hR.cache rel1]
        exact hR.setMemo rel1 _ _
    · rw [e2]; exact hs'

end

theorem IRel.ctl {s : Bool} : Ctl (IRel s) where
  eq := fun h => h.eq
  setPos := fun h p => h.setPos p
  setLevel := fun h _ => IRel.of_eqs h.src h.pos h.posMax rfl h.linkLevel h.cache h.backticks h.bottoms
    h.map h.ch
  setMemo := fun h _ _ => IRel.of_eqs h.src rfl h.posMax h.level h.linkLevel rfl h.backticks h.bottoms
    h.map h.ch

/-! ## the engine under any relation that fixes the control, and any guard on side 2

The chain in real mode, both loop bodies and the induction on fuel need of the relation `R` only `Ctl R`, and of
the two runs only one rule in lock step (`hrule`).  Where side 2 must not fail although nothing orders the two
tables, a rule in real mode is simulated under a guard on side 2: `J` for a frame, `Jc` for a chain run below
`max_nesting`; side 2 keeps them (`hdecl`, `hstep`).  `TokOK` is what these facts about side 2 ask of the nested
tokenizer. -/

/-- a real-mode call keeps the relation when side 2 starts under the guard -/
def SimFnJ (t : Bool) (R : IState → IState → Prop) (J : Nat → IState → Prop)
    (f : IState → Except Panic IState) : Prop :=
  ∀ lo a b a', R a b → J lo b → f a = .ok a' → Sim t R a' (f b)

section engine
variable {R : IState → IState → Prop} {t : Bool} (hR : Ctl R) (cfg : Cfg) (J Jc : Nat → IState → Prop)
  (TokOK : (IState → Except Panic IState) → Prop)
  (hstart : ∀ {lo : Nat} {b : IState}, J lo b → b.level < cfg.maxNesting → Jc lo b)
  -- one rule in lock step: silent mode needs nothing of side 2, real mode the guard
  (hrule : ∀ {skip tok : IState → Except Panic IState} {fuel : Nat} {id : RuleId} {lo : Nat} {a b : IState}
    {silent : Bool} {r : Option Nat × IState}, SimFnR t R skip → CalmFn skip → SimFnJ t R J tok → TokOK tok →
    R a b → id ∈ cfg.chain → (silent = false → Jc lo b) →
    runRule cfg skip tok fuel id a silent = .ok r → Sim t (PR R) r (runRule cfg skip tok fuel id b silent))
  (hdecl : ∀ {skip tok : IState → Except Panic IState} {fuel : Nat} {id : RuleId} {lo : Nat} {b b' : IState},
    CalmFn skip → TokOK tok → id ∈ cfg.chain → Jc lo b →
    runRule cfg skip tok fuel id b false = .ok (none, b') → Jc lo b')
  (hstep : ∀ {skip tok : IState → Except Panic IState} {fuel : Nat} {lo : Nat} {b b' : IState},
    CalmFn skip → TokOK tok → J lo b → tokStep cfg skip tok fuel b = .ok b' → J lo b')
  -- the fallback `push_text` behind a chain that declined
  (hpush : ∀ {lo : Nat} {a b a' : IState} {x y : Nat}, R a b → Jc lo b ∨ J lo b → a.pushText x y = .ok a' →
    Sim t R a' (b.pushText x y))
include hR hstart hrule hdecl hpush

omit hR hstart hpush in
theorem firstRule_simJ {skip tok : IState → Except Panic IState} (hs : SimFnR t R skip) (hq : CalmFn skip)
    (ht : SimFnJ t R J tok) (htr : TokOK tok) {fuel lo : Nat} :
    ∀ (rules : List RuleId), (∀ id ∈ rules, id ∈ cfg.chain) → ∀ (a b : IState) (r : Option Nat × IState), R a b →
      Jc lo b →
      firstRule (fun id s => runRule cfg skip tok fuel id s false) rules a = .ok r →
      Sim t (fun r r' => PR R r r' ∧ (r.1 = none → Jc lo r'.2)) r
        (firstRule (fun id s => runRule cfg skip tok fuel id s false) rules b) := by
  intro rules
  induction rules with
  | nil =>
    intro _ a b r rel hj h
    simp only [firstRule, Except.ok.injEq] at h ⊢; subst h; exact ⟨⟨rfl, rel⟩, fun _ => hj⟩
  | cons id rs ih =>
    intro hsub a b r rel hj h
    have hid := hsub id (by simp)
    unfold firstRule at h ⊢
    split at h
    · simp at h
    · next n a1 hr =>
      simp only [Except.ok.injEq] at h; subst h
      rcases (hrule hs hq ht htr rel hid (fun _ => hj) hr).cases with ⟨⟨o₂, b1⟩, e2, ho, rel1⟩ | ⟨hs', e, e2⟩
      · simp only [] at ho rel1; subst ho; rw [e2]; exact ⟨⟨rfl, rel1⟩, fun h => by cases h⟩
      · rw [e2]; exact hs'
    · next a1 hr =>
      rcases (hrule hs hq ht htr rel hid (fun _ => hj) hr).cases with ⟨⟨o₂, b1⟩, e2, ho, rel1⟩ | ⟨hs', e, e2⟩
      · simp only [] at ho rel1; subst ho
        rw [e2]
        exact ih (fun id' h' => hsub id' (List.mem_cons_of_mem _ h')) _ _ _ rel1 (hdecl hq htr hid hj e2) h
      · rw [e2]; exact hs'

theorem tokStep_simJ {skip tok : IState → Except Panic IState} (hs : SimFnR t R skip) (hq : CalmFn skip)
    (ht : SimFnJ t R J tok) (htr : TokOK tok) {fuel lo : Nat} {a b a' : IState} (rel : R a b) (hj : J lo b)
    (h : tokStep cfg skip tok fuel a = .ok a') : Sim t R a' (tokStep cfg skip tok fuel b) := by
  unfold tokStep at h ⊢
  simp only [hR.level rel] at h ⊢
  have hok : ∀ r, (if a.level < cfg.maxNesting then
        firstRule (fun id s => runRule cfg skip tok fuel id s false) cfg.chain a else .ok (none, a)) = .ok r →
      Sim t (fun r r' => PR R r r' ∧ (r.1 = none → Jc lo r'.2 ∨ J lo r'.2)) r (if a.level < cfg.maxNesting then
        firstRule (fun id s => runRule cfg skip tok fuel id s false) cfg.chain b else .ok (none, b)) := by
    intro r hr
    split at hr
    · next hl =>
      rw [if_pos hl]
      exact (firstRule_simJ cfg J Jc TokOK hrule hdecl hs hq ht htr cfg.chain (fun _ h => h) _ _ _ rel
        (hstart hj (by rw [hR.level rel]; exact hl)) hr).mono fun _ h => ⟨h.1, fun e => .inl (h.2 e)⟩
    · next hl =>
      rw [if_neg hl]
      simp only [Except.ok.injEq] at hr; subst hr; exact ⟨⟨rfl, rel⟩, fun _ => .inr hj⟩
  split at h
  · simp at h
  · next len a1 hr =>
    simp only [Except.ok.injEq] at h; subst h
    rcases (hok _ hr).cases with ⟨⟨o₂, b1⟩, e2, ⟨ho, rel1⟩, _⟩ | ⟨hs', e, e2⟩
    · simp only [] at ho rel1; subst ho; rw [e2]
      simp only [hR.pos rel1]
      exact hR.setPos rel1 _
    · rw [e2]; exact hs'
  · next a1 hr =>
    rcases (hok _ hr).cases with ⟨⟨o₂, b1⟩, e2, ⟨ho, rel1⟩, hj1⟩ | ⟨hs', e, e2⟩
    · simp only [] at ho rel1; subst ho
      rw [e2]
      have hfc : firstChar b1 = firstChar a1 := by unfold firstChar; rw [hR.window rel1]
      simp only [hfc, hR.pos rel1]
      split at h
      · simp at h
      · next ch hch =>
        split at h
        · simp at h
        · next a2 hp =>
          simp only [Except.ok.injEq] at h; subst h
          rcases (hpush rel1 (hj1 rfl) (liftR_ok.mp hp)).liftR.cases with ⟨b2, e3, rel2⟩ | ⟨hs', e, e3⟩
          · rw [e3]
            simp only [hR.pos rel2]
            exact hR.setPos rel2 _
          · rw [e3]; exact hs'
    · rw [e2]; exact hs'

include hstep in
/-- **the engine**: look-ahead and the real-mode loop through the whole tokenizer, by induction on the fuel -/
theorem engine_simJ (htok : ∀ f, TokOK (fun st => tokLoop cfg f st.posMax st)) : ∀ fuel : Nat,
    SimFnR t R (fun st => skipToken cfg fuel st) ∧
    ∀ (e lo : Nat) (a b a' : IState), R a b → J lo b → tokLoop cfg fuel e a = .ok a' →
      Sim t R a' (tokLoop cfg fuel e b) := by
  intro fuel
  induction fuel with
  | zero =>
    constructor
    · intro a b a' rel h; simp [skipToken] at h
    · intro e lo a b a' rel _ h
      unfold tokLoop at h ⊢
      rw [hR.pos rel]
      split at h
      · simp at h
      · next hp => rw [if_neg hp]; simp only [Except.ok.injEq] at h; subst h; exact rel
  | succ f ih =>
    obtain ⟨ihS, ihT⟩ := ih
    have ht : SimFnJ t R J (fun st => tokLoop cfg f st.posMax st) := by
      intro lo a b a' rel hj h
      have := ihT _ lo _ _ _ rel hj h
      simp only [hR.posMax rel]; exact this
    have hq := skipToken_calm cfg f
    have htr := htok f
    constructor
    · intro a b a' rel h
      obtain ⟨m, cs, rfl⟩ : ∃ m cs, b = { a with srcmap := m, children := cs } := ⟨_, _, hR.eq rel⟩
      simp only [] at h ⊢
      unfold skipToken at h ⊢
      simp only [] at h ⊢
      split at h
      · next x hx => simp only [Except.ok.injEq] at h; subst h; exact hR.setPos rel _
      · next hx =>
        split at h
        · next hl =>
          rw [if_pos hl]
          exact skipStep_ctl hR (fun id hid a b r rel h =>
            hrule (lo := 0) ihS hq ht htr rel hid (fun hh => by cases hh) h) rel h
        · next hl =>
          rw [if_neg hl]
          simp only [Except.ok.injEq] at h; subst h
          exact hR.setMemo rel a.posMax (cacheInsert a.cache a.pos a.posMax)
    · intro e lo a b a' rel hj h
      unfold tokLoop at h ⊢
      rw [hR.pos rel]
      split at h
      · next hp =>
        rw [if_pos hp]
        simp only [] at h ⊢
        split at h
        · simp at h
        · next a1 hstep' =>
          rcases (tokStep_simJ hR cfg J Jc TokOK hstart hrule hdecl hpush ihS hq ht htr rel hj hstep').cases with
            ⟨b1, e2, rel1⟩ | ⟨hs', e', e2⟩
          · rw [e2]
            exact ihT _ lo _ _ _ rel1 (hstep hq htr hj e2) h
          · rw [e2]; exact hs'
      · next hp => rw [if_neg hp]; simp only [Except.ok.injEq] at h; subst h; exact rel

end engine

end MdIt.Inline
