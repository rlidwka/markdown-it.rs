/-
  The frame invariant `ICF` of Lemmas/InlineCert.lean as a family for the loop kit of
  Lemmas/InlineFrame.lean (`ICJ`), and the two step lemmas the kit asks for: every rule of the chain
  keeps it in real mode (`ic_runRule`), and so does the fall-back of the tokenizer loop
  (`ic_fallStep`).

  The link / image rule (`ic_linkRule`) is the one rule with a nested run.  The nested frame starts
  empty right behind the `[` of the label, a solid character, so a blank there is `S`; what the
  nested run leaves covers a stretch of the label, and the link node takes it as its children.  The
  last character the rule consumes is `)` or `]` (`C05T.linkCloserOK`), solid again.
  Name prefixes: `ic_` a lemma of the certificate walk, `icj_` about the family `ICJ`.
-/
import MdIt.Lemmas.InlineCertRules
import MdIt.Lemmas.InlineCertEmph
import MdIt.Lemmas.InlineFrame

namespace MdIt.IC
open MdIt.Inline
open MdIt.InlineOps (Srcmap getSourcePosFor getMap byteLen slice)
open MdIt.C05R (Cut Bdy Adjd TextLike)
open MdIt.C05T (CharAt NoTextLast isCode tv_NlAct)

variable {c : List Char} {m : Srcmap} {W : Nat → Nat → Prop} {S : Nat → Prop}

/-- the family of the one walk, for the kit of Lemmas/InlineFrame.lean; index: the inline position
    the frame starts at -/
def ICJ (cfg : Cfg) (c : List Char) (m : Srcmap) (W : Nat → Nat → Prop) (S : Nat → Prop) (lo : Nat)
    (s : IState) (p : Nat) (cs : List Node) : Prop :=
  s.src = c ∧ s.srcmap = m ∧ ICF c m W S (tv_NlAct cfg s.level) lo s.posMax p cs

/-- `ICJ` reads the frame through `src`, `srcmap`, `level`, `posMax` only -/
theorem icj_congr (cfg : Cfg) : ∀ i a b p cs, Frame a b →
    ICJ cfg c m W S i a p cs → ICJ cfg c m W S i b p cs := by
  rintro i a b p cs f ⟨h1, h2, h3⟩
  refine ⟨f.src.trans h1, f.srcmap.trans h2, ?_⟩
  rw [f.level, f.posMax]; exact h3

/-! ## links and images -/

theorem cut_bracket {s : IState} {pre rest : List Char} {k : Nat} (hk : byteLen pre = k)
    (hw : s.window = .ok (pre ++ '[' :: rest)) : Cut s.src (s.pos + k) (s.pos + k + 1) ['['] :=
  hk ▸ cut_of_charAt (C05T.tx_charAt_of_slice (window_eq hw)) (by decide)

/-- the nested frame of a link label starts empty right behind the `[`, a solid character -/
theorem icj_nested {cfg : Cfg} {skip : IState → Except Panic IState} (hq : CalmFn skip)
    (hs : Stretch c W S) {fuel : Nat} {en : Bool} {offset lo : Nat} {st st1 : IState} {res : LinkRes}
    (hf : JInv (ICJ cfg c m W S) lo st)
    (hls : Cut st.src (st.pos + offset) (st.pos + offset + 1) ['['])
    (hpl : parseLink cfg skip fuel st (st.pos + offset) en = .ok (some res, st1)) :
    JInv (ICJ cfg c m W S) res.labelStart (linkNested st1 res) := by
  have hc := parseLink_calm hq hpl
  rw [hf.1] at hls
  refine ⟨hc.src.trans hf.1, hc.srcmap.trans hf.2.1, ?_⟩
  show ICF c m W S _ res.labelStart res.labelEnd res.labelStart []
  rw [parseLink_labelStart hpl]
  exact icf_nil hls.bdy_right (fun _ _ => hs.after hls (by decide) (by decide) (by simp))

theorem ic_linkRule {cfg : Cfg} {skip tok : IState → Except Panic IState} (hq : CalmFn skip)
    (hk : TokKeeps (ICJ cfg c m W S) tok) (hs : Stretch c W S) {fuel : Nat}
    {mk : List Nat → Option (List Char) → Val}
    (hmk1 : ∀ u t x, mk u t ≠ .text x) (hmk2 : ∀ u t x y z, mk u t ≠ .special x y z)
    (hmk3 : ∀ u t a l r o x, mk u t ≠ .emphMarker a l r o x) (hmk4 : ∀ u t, isCode (mk u t) = false)
    {en : Bool} {offset lo : Nat} {st : IState} {o : Option Nat} {st' : IState}
    (hf : JInv (ICJ cfg c m W S) lo st)
    (hls : Cut st.src (st.pos + offset) (st.pos + offset + 1) ['['])
    (h : linkRule cfg skip tok fuel mk en offset st false = .ok (o, st')) :
    ICF c m W S (tv_NlAct cfg st.level) lo st.posMax (st'.pos + o.getD 0) st'.children := by
  have hJ := hf
  obtain ⟨hsrc, hmap, hf⟩ := hf
  rcases linkRule_inv h with ⟨rfl, hpl⟩ | ⟨res, st1, st3, ⟨rx, ry⟩, hpl, htok, _, hr, hnu, rfl, rfl⟩
  · rw [parseLink_pos hpl, (parseLink_calm hq hpl).children]; exact ic_none hf
  · have hc := parseLink_calm hq hpl
    have hend := (parseLink_end hq hpl).2
    have hst := parseLink_labelStart hpl
    rw [hsrc] at hend
    obtain ⟨hsrc3, hmap3, hf3⟩ := hk res.labelStart _ _ htok (icj_nested hq hs hJ hls hpl)
    rw [hsrc] at hls
    have hlo := hf3.tiles.le
    obtain ⟨e1, e2, _⟩ := getMap_eq hr
    rw [hmap3] at e1 e2
    -- the last character consumed is `)` or `]`
    obtain ⟨hge1, x, hx, hxx⟩ := C05T.linkCloserOK _ _ _ _ _ _ _ _ _ _ hq h
    have epos : st3.pos + (res.endPos - st3.pos) = res.endPos := by omega
    simp only [Option.getD_some]
    simp only [epos] at hge1 hx
    rw [epos, hc.children]
    rw [hsrc] at hx
    have hcl : Cut c (res.endPos - 1) res.endPos [x] := by
      have := cut_of_charAt hx (by rcases hxx with rfl | rfl <;> decide)
      rw [show res.endPos - 1 + 1 = res.endPos by omega] at this; exact this
    refine hf.push (icn_plain e1 e2 hf.bpos hend (by omega) (hmk1 _ _) (hmk2 _ _) (hmk3 _ _)
        hf3.adj (by rw [hmk4]; exact hf3.tiles.widen (by omega) hnu))
      (Nat.le_refl _) (Nat.le_refl _) hend (C05R.fi_not_textLike (hmk1 _ _) (hmk3 _ _))
      (fun _ _ => hs.after hcl ?_ ?_ (by simp))
    · rcases hxx with rfl | rfl <;> decide
    · rcases hxx with rfl | rfl <;> decide

/-! ## one rule of the chain, the fall-back -/

theorem ic_runRule {cfg : Cfg} {skip tok : IState → Except Panic IState} (hq : CalmFn skip)
    (hk : TokKeeps (ICJ cfg c m W S) tok)
    (hs : Stretch c W S) (hsh : Shift c m W) (hmk : Markers c W S cfg.chain) {fuel : Nat}
    {id : RuleId} (hid : id ∈ cfg.chain) {lo : Nat} {s : IState} {o : Option Nat} {s' : IState}
    (hlv : s.level < cfg.maxNesting) (hf : JInv (ICJ cfg c m W S) lo s)
    (h : runRule cfg skip tok fuel id s false = .ok (o, s')) :
    JStep (ICJ cfg c m W S) lo s o s' := by
  refine ⟨?_, fun ho => runRule_pos_none hq (ho ▸ h)⟩
  have hJ := hf
  obtain ⟨hsrc, hmap, hf⟩ := hf
  refine ⟨hsrc, hmap, ?_⟩
  subst hsrc hmap
  unfold runRule at h
  cases id with
  | text => exact ic_ruleText hs hf (liftR_ok.mp h)
  | newline => exact ic_ruleNewline hs hsh ⟨hid, hlv⟩ hf (liftR_ok.mp h)
  | escape => exact ic_ruleEscape hs hf (liftR_ok.mp h)
  | backticks => exact ic_ruleBackticks hs hf (liftR_ok.mp h)
  | emph mk csw => exact ic_ruleEmph hs hsh (hmk mk csw hid) hf (liftR_ok.mp h)
  | link =>
    rcases ruleLink_ok h with ⟨rfl, rfl⟩ | ⟨rest, hw, h⟩
    · exact ic_none hf
    · exact ic_linkRule (mk := Val.link) hq hk hs (by intro u t x e; cases e)
        (by intro u t x y z e; cases e) (by intro u t a l r o x e; cases e) (by intro u t; rfl)
        hJ (cut_bracket (pre := []) rfl hw) h
  | image =>
    rcases ruleImage_ok h with ⟨rfl, rfl⟩ | ⟨rest, hw, h⟩
    · exact ic_none hf
    · exact ic_linkRule (mk := Val.image) hq hk hs (by intro u t x e; cases e)
        (by intro u t x y z e; cases e) (by intro u t a l r o x e; cases e) (by intro u t; rfl)
        hJ (cut_bracket (pre := ['!']) (by decide) hw) h
  | linkEnd => cases h; exact ic_none hf
  | autolink => exact ic_ruleAutolink hs hf (liftR_ok.mp h)
  | entity => exact ic_ruleEntity hs hf (liftR_ok.mp h)

/-- In a frame where the newline rule is active it declined at a state with the same window, so the
    character that goes to the pending text is no line feed. -/
theorem ic_fallStep {cfg : Cfg} {skip tok : IState → Except Panic IState} (hs : Stretch c W S)
    {fuel lo : Nat} {s s' : IState} {ch : Char} (hf : JInv (ICJ cfg c m W S) lo s)
    (hd : s.level < cfg.maxNesting →
      Declined (fun id s => runRule cfg skip tok fuel id s false) cfg.chain s)
    (hch : firstChar s = .ok ch) (h : s.pushText s.pos (s.pos + ch.utf8Size) = .ok s') :
    ICJ cfg c m W S lo s (s'.pos + ch.utf8Size) s'.children := by
  obtain ⟨hsrc, hmap, hf⟩ := hf
  refine ⟨hsrc, hmap, ?_⟩
  subst hsrc hmap
  refine ic_fallback hs hf hch ?_ h
  rintro ⟨hnl, hlv⟩
  obtain ⟨a, b, fa, pa, ra⟩ := hd hlv _ hnl
  unfold firstChar at hch
  split at hch
  · cases hch
  · cases hch
  · next x rest hw =>
    cases hch
    refine C05T.tv_newline_declines ra (rest := rest) ?_
    unfold IState.window
    rw [fa.src, pa, fa.posMax]
    exact liftR_ok.mp hw

end MdIt.IC
