/-
  The inline parser and the per-line offset table (`mapping`): a lock-step simulation of two runs of
  `Inline.parseInline` on the same text under two tables.

    * `inline_range_free`:   the two results differ in their ranges only — for ANY two tables
                            (`Pipeline.InlineRangeFree`);
    * `inline_ok_transfer`:  if the tables have the same keys and the values of the second
                            are pointwise ≥ (`MLe`), the second run does not panic when the first does not.

  ONE development serves both: every relation carries a flag `s : Bool` ("strict", see
  `Lemmas/C10DocInlineRel.lean`).  The simulation is that of `Lemmas/C10SpInlineBase.lean` / `Emph` /
  `Link` with parameters under which nothing beyond `ROrd` is maintained (`plainPar`: `track := False`,
  so it asks nothing of the tables or of the emphasis markers); `nrel_iff`, `lrel_iff` say
  that its relations are then the ones of this file.

  What makes it work: `cache`, `backticks`, `bottoms`, `pos`, `posMax`, `level`, `linkLevel` only ever
  hold inline offsets; the table is read by `get_map` / `get_source_pos_for` only; source offsets are
  compared in exactly two places (`map_end - count` in `trailing_text_pop`, `e - marker_len` in the
  emphasis matcher), both of which pass on side 2 when they pass on side 1 and side 2 is pointwise `≥`.
-/
import MdIt.Lemmas.C10SpInlineLink
import MdIt.Lemmas.KernelEval

namespace MdIt.Inline
open MdIt.InlineOps (Srcmap getSourcePosFor getMap byteLen slice)
open MdIt.Pipeline (MLe)

/-- parameters under which nothing beyond `ROrd` is maintained -/
def plainPar (c : List Char) (m₁ m₂ : Srcmap) : XG.Par where
  c := c
  m₁ := m₁
  m₂ := m₂
  track := False
  good := fun ch => ch ≠ '\n'
  lim := fun _ => True
  good_solid := fun h _ => h
  good_nl := fun h => h
  lim_mono := fun _ _ => trivial
  lim_len := trivial
  wf₁ := False.elim
  shift₁ := False.elim
  shift₂ := False.elim

mutual
theorem nrel_iff {P : XG.Par} (hP : ¬ P.track) {s : Bool} : ∀ (a b : Node), NRel s a b ↔ XG.NRel P s a b
  | ⟨v, r, cs⟩, b => by
    have hx : XG.XRel P s v r b.range := fun _ ht => absurd ht hP
    simp only [NRel, XG.NRel, hx, true_and, lrel_iff hP cs b.children]
theorem lrel_iff {P : XG.Par} (hP : ¬ P.track) {s : Bool} :
    ∀ (l₁ l₂ : List Node), LRel s l₁ l₂ ↔ XG.LRel P s l₁ l₂
  | [], l₂ => by simp only [LRel, XG.LRel]
  | a :: as, [] => by simp only [LRel, XG.LRel]
  | a :: as, b :: bs => by
    simp only [LRel_cons_cons, XG.LRel_cons_cons, nrel_iff hP a b, lrel_iff hP as bs]
end

theorem parseInline_sim (s : Bool) (cfg : Cfg) (content : List Char) {m₁ m₂ : Srcmap} (hm : MRel s m₁ m₂)
    {ns₁ : List Node} (h : parseInline cfg content m₁ = .ok ns₁) :
    Sim s (LRel s) ns₁ (parseInline cfg content m₂) :=
  (XG.parseInline_sim (plainPar content m₁ m₂) s cfg False.elim hm h).mono fun _ => (lrel_iff id _ _).mpr

mutual
theorem eraseRanges_of_NRel : ∀ (a b : Node), NRel false a b →
    Pipeline.eraseRanges (Pipeline.ofInline a) = Pipeline.eraseRanges (Pipeline.ofInline b)
  | ⟨v₁, r₁, cs₁⟩, ⟨v₂, r₂, cs₂⟩, h => by
    rw [NRel_iff] at h
    simp only [] at h
    simp only [Pipeline.ofInline, Pipeline.eraseRanges, h.1, eraseRangesList_of_LRel cs₁ cs₂ h.2.2]
theorem eraseRangesList_of_LRel : ∀ (l₁ l₂ : List Node), LRel false l₁ l₂ →
    Pipeline.eraseRangesList (Pipeline.ofInlineList l₁) = Pipeline.eraseRangesList (Pipeline.ofInlineList l₂)
  | [], [], _ => rfl
  | [], _ :: _, h => absurd h (LRel_nil_cons _ _ _)
  | _ :: _, [], h => absurd h (LRel_cons_nil _ _ _)
  | a :: as, b :: bs, h => by
    rw [LRel_cons_cons] at h
    simp only [Pipeline.ofInlineList, Pipeline.eraseRangesList, eraseRanges_of_NRel a b h.1,
      eraseRangesList_of_LRel as bs h.2]
end

end MdIt.Inline

namespace MdIt.Pipeline
open MdIt.Inline

/-- For one text, the children `md.inline.parse` returns under ANY two per-line tables
    differ in their ranges only. -/
theorem inline_range_free (icfg : Inline.Cfg) : InlineRangeFree icfg := by
  intro content m₁ m₂ ns₁ ns₂ h₁ h₂
  have := parseInline_sim false icfg content (m₁ := m₁) (m₂ := m₂) (fun h => by cases h) h₁
  rw [h₂] at this
  exact eraseRangesList_of_LRel _ _ this

/-- **the transfer, with the relation of the results.**  Same keys and pointwise larger values: the second
    run succeeds when the first does, with the same tree up to ranges, every range present on one side
    present on the other, and both components pointwise `≥`. -/
theorem inline_ok_transfer_rel (icfg : Inline.Cfg) (content : List Char) (m₁ m₂ : InlineOps.Srcmap)
    (h : MLe m₁ m₂) (ns₁ : List Inline.Node) (h₁ : Inline.parseInline icfg content m₁ = .ok ns₁) :
    ∃ ns₂, Inline.parseInline icfg content m₂ = .ok ns₂ ∧ LRel true ns₁ ns₂ := by
  have := parseInline_sim true icfg content (m₁ := m₁) (m₂ := m₂) (fun _ => h) h₁
  cases h2 : Inline.parseInline icfg content m₂ with
  | ok ns₂ => rw [h2] at this; exact ⟨ns₂, rfl, this⟩
  | error e => rw [h2] at this; cases this

/-- one-directional no-panic transfer -/
theorem inline_ok_transfer (icfg : Inline.Cfg) (content : List Char) (m₁ m₂ : InlineOps.Srcmap)
    (h : MLe m₁ m₂) (ns₁ : List Inline.Node) (h₁ : Inline.parseInline icfg content m₁ = .ok ns₁) :
    ∃ ns₂, Inline.parseInline icfg content m₂ = .ok ns₂ :=
  let ⟨ns₂, h₂, _⟩ := inline_ok_transfer_rel icfg content m₁ m₂ h ns₁ h₁
  ⟨ns₂, h₂⟩

def isOk {ε α : Type} : Except ε α → Bool
  | .ok _ => true
  | .error _ => false

def errOf {ε α : Type} : Except ε α → Option ε
  | .ok _ => none
  | .error e => some e

-- `inline_range_free` on a run with emphasis, a hard break (trailing-text pop) and a link, under two tables with
-- different keys AND values: both succeed, ranges differ.
example :
    isOk (Inline.parseInline (Inline.exCfg 100) "a *b*  \n[c](/u)".toList [(0, 0), (8, 8)]) = true ∧
    isOk (Inline.parseInline (Inline.exCfg 100) "a *b*  \n[c](/u)".toList [(0, 5), (3, 20), (8, 40)]) = true ∧
    (Inline.parseInline (Inline.exCfg 100) "a *b*  \n[c](/u)".toList [(0, 0), (8, 8)]).toOption.map
        (fun ns => ns.map (·.range)) ≠
      (Inline.parseInline (Inline.exCfg 100) "a *b*  \n[c](/u)".toList [(0, 5), (3, 20), (8, 40)]).toOption.map
        (fun ns => ns.map (·.range)) := by
  decide_lits

-- `inline_ok_transfer`: an instance of the hypothesis …
example : MLe [(0, 0), (8, 8)] [(0, 3), (8, 30)] := by
  refine ⟨rfl, ?_⟩
  intro i k₁ v₁ k₂ v₂ h₁ h₂
  match i, h₁, h₂ with
  | 0, h₁, h₂ => simp at h₁ h₂; omega
  | 1, h₁, h₂ => simp at h₁ h₂; omega
  | n + 2, h₁, _ => simp at h₁

-- … the order of the values matters: with the same keys and SMALLER values the hard break's
-- `map_end - count` underflows (text `x  ` ends at source offset 0 under the second table) …
example :
    isOk (Inline.parseInline (Inline.exCfg 100) "x  \ny".toList [(0, 0), (1, 1), (2, 2), (3, 3)]) = true ∧
    errOf (Inline.parseInline (Inline.exCfg 100) "x  \ny".toList [(0, 0), (1, 0), (2, 0), (3, 0)]) =
      some (.rust .underflow) := by
  decide +kernel

-- … and so do the keys: with a first key above 0 the table has no line for offset 0.
example :
    isOk (Inline.parseInline (Inline.exCfg 100) "x".toList [(0, 0)]) = true ∧
    errOf (Inline.parseInline (Inline.exCfg 100) "x".toList [(1, 0)]) = some (.rust .underflow) := by
  decide +kernel

end MdIt.Pipeline
