/-
  Lowering the inline-coordinate certificate (Lemmas/InlineCert.lean) to the document: order and
  enclosure of the ranges (`ICL.ordered`, of the table only monotonicity), non-empty ranges of
  text-like nodes (`ICL.strictTop`), boundaries and text clause at every node for any node
  predicate built from these clauses (`ICN.lower`) — its instance for tables without virtual-space
  entry, `W = True`, code-span children included, is `ICN.fthN`.  No parser
  here.  The instances of `Low`, `Shift`, `Markers` for `C05R.Ctx` / `Inline.MapOK` /
  `C05R.AsciiMarkers`; those for any `get_lines` table are in Lemmas/C05TabsCert.lean.
-/
import MdIt.Lemmas.InlineCert

namespace MdIt.IC
open MdIt.Inline
open MdIt.InlineOps (Srcmap getSourcePosFor byteLen)
open MdIt.C05R (Cut Bdy Sel Adjd StrictTop TextLike)
open MdIt.C05T (CharAt NoTextLast isCode)

/-! ## tables without virtual-space entry -/

theorem low_of_ctx {src c : List Char} {m : Srcmap} (h : C05R.Ctx src c m) :
    Low src c m (fun _ _ => True) where
  mono := h.map.mapMono.mono
  bdy := fun _ _ hp ha => h.fth.bdy hp ha
  copy := fun p q w a b hc hn _ ha hb => h.fth.copy p q w a b hc hn ha hb
  brk := h.fth.brk

theorem shift_of_mapOK {c : List Char} {m : Srcmap} (h : Inline.MapOK c m) :
    Shift c m (fun _ _ => True) where
  wf := h.wf
  shift := by
    intro p q w p1 p2 x1 x2 hc hn _ h1 h12 h2 e1 e2
    have hno := Inline.no_key_inside h.lf ((C05R.cut_iff_ops _ _ _ _).mpr hc) hn
    exact Inline.translate_same_line m h.wf h.mono p1 p2 h12
      (fun i k v hi hk => hno i k v hi ⟨by omega, by omega⟩) x1 x2 e1 e2

theorem markers_of_ascii {c : List Char} {chain : List RuleId} (h : C05R.AsciiMarkers chain) :
    Markers c (fun _ _ => True) (fun _ => True) chain :=
  fun mk csw hm => ⟨(h mk csw hm).1, (h mk csw hm).2, fun _ _ _ _ _ => ⟨trivial, trivial⟩⟩


/-! ## lowering: one stretch -/

section
variable {src c : List Char} {m : Srcmap} {W : Nat → Nat → Prop}

/-- **lowering a text clause**: the stretch `c[p..q] = w` is `W` and equals `t` whenever it holds no
    line feed; then the translated range selects `t` (or holds a line break) -/
theorem Low.sel (h : Low src c m W) {p q a b : Nat} {w t : List Char} (hc : Cut c p q w)
    (hW : '\n' ∉ w → W p q) (ht : '\n' ∉ w → w = t) (ha : getSourcePosFor m p = .ok a)
    (hb : getSourcePosFor m q = .ok b) : Sel src a b t := by
  intro w' hw' hn
  by_cases hlf : '\n' ∈ w
  · exact absurd hn (h.brk p q w a b w' hc hlf ha hb hw')
  · have := h.copy p q w a b hc hlf (hW hlf) ha hb
    rw [hw'.unique this]; exact ht hlf

/-- **lowering strictness**: a non-empty stretch has a non-empty translated range -/
theorem Low.lt (h : Low src c m W) {p q a b : Nat} {w : List Char} (hc : Cut c p q w) (hpq : p < q)
    (hW : '\n' ∉ w → W p q) (ha : getSourcePosFor m p = .ok a) (hb : getSourcePosFor m q = .ok b) :
    a < b := by
  by_cases hlf : '\n' ∈ w
  · have hle : a ≤ b := h.mono p q a b hc.le ha hb
    have hba := h.bdy p a hc.bdy_left ha
    have hbb := h.bdy q b hc.bdy_right hb
    obtain ⟨w', hw'⟩ := hba.cut hbb hle
    have hnb := h.brk p q w a b w' hc hlf ha hb hw'
    rcases Nat.lt_or_ge a b with h' | h'
    · exact h'
    · exfalso
      have : a = b := by omega
      subst this
      have : w' = [] := hw'.unique hba.cut_nil
      subst this
      exact hnb ⟨by simp, by simp⟩
  · have e1 := (h.copy p q w a b hc hlf (hW hlf) ha hb).len
    have e2 := hc.len
    omega

/-! ## order -/

theorem ordered_list (hl : Inline.MapMono m) {l : List Node}
    (hn : ∀ x ∈ l, ∀ ex p q, ICN c m W ex p q x → WellRanged x) {ex : Bool} {lo hi a b : Nat}
    (h : ICL c m W ex lo hi l) (ha : getSourcePosFor m lo = .ok a) (hb : getSourcePosFor m hi = .ok b) :
    OrderedN a b l ∧ WellRangedList l := by
  induction l generalizing lo a with
  | nil => exact ⟨hl.mono lo hi a b ((ICL_nil ..).mp h) ha hb, trivial⟩
  | cons x xs ihl =>
    obtain ⟨p, q, hlo, hx, hrest⟩ := (ICL_cons ..).mp h
    obtain ⟨⟨a', b', hr, ha', hb'⟩, _, _, hpq, _⟩ := (ICN_eq ..).mp hx
    have r := ihl (fun y hy => hn y (List.mem_cons_of_mem _ hy)) hrest hb'
    exact ⟨⟨a', b', hr, hl.mono lo p a a' hlo ha ha', hl.mono p q a' b' hpq ha' hb', r.1⟩,
      hn x (List.mem_cons_self ..) ex p q hx, r.2⟩

theorem ICN.wellRanged (hl : Inline.MapMono m) {ex : Bool} {p q : Nat} {n : Node}
    (h : ICN c m W ex p q n) : WellRanged n := by
  induction n using node_induct generalizing ex p q with
  | step n ih =>
    rw [ICN_eq] at h
    rw [WellRanged_eq]
    obtain ⟨⟨a, b, hr, ha, hb⟩, _, _, hpq, _, _, _, _, hcs⟩ := h
    have r := ordered_list hl (fun x hx _ _ _ hx' => ih x hx hx') hcs ha hb
    exact ⟨⟨a, b, hr, hl.mono p q a b hpq ha hb, r.1⟩, r.2⟩

/-- **order**: the members of a certified sibling list have consecutive ranges inside the
    translated `[lo, hi]`, and are well ranged -/
theorem ICL.ordered (hl : Inline.MapMono m) {ex : Bool} {lo hi a b : Nat} {l : List Node}
    (h : ICL c m W ex lo hi l) (ha : getSourcePosFor m lo = .ok a)
    (hb : getSourcePosFor m hi = .ok b) : OrderedN a b l ∧ WellRangedList l :=
  ordered_list hl (fun _ _ _ _ _ hx => hx.wellRanged hl) h ha hb

/-! ## boundaries and text clause -/

/-- **lowering a node, once**: a node predicate `P ex n` (`ex`: child of a code span) that holds as
    soon as the clauses of `n` in the DOCUMENT hold — range ends on character boundaries; a `Text`
    selects its content if it is not the child of a code span, or if every stretch is `W`; a
    `TextSpecial` selects its markup; an `EmphMarker` covers its delimiters; mergeable neighbours
    among the children are adjacent — and `P (isCode n.val)` holds of the children, holds of every
    certified node.  `C05R.FthN` (no split tab: `W = True`) and `C05T.FthNV`
    (Lemmas/C05TabsCert.lean) are the instances. -/
theorem ICN.lower (hl : Low src c m W) {P : Bool → Node → Prop}
    (hP : ∀ ex n a b, n.range = some (a, b) → Bdy src a → Bdy src b →
      (∀ t, n.val = .text t → (ex = false ∨ ∀ p q, W p q) → Sel src a b t) →
      (∀ ct mu info, n.val = .special ct mu info → Sel src a b mu) →
      (∀ mk l rem o cl, n.val = .emphMarker mk l rem o cl →
        Cut src a b (List.replicate rem mk) ∧ mk.utf8Size = 1) →
      Adjd n.children → (∀ x ∈ n.children, P (isCode n.val) x) → P ex n)
    {ex : Bool} {p q : Nat} {n : Node} (h : ICN c m W ex p q n) : P ex n := by
  induction n using node_induct generalizing ex p q with
  | step n ih =>
    rw [ICN_eq] at h
    obtain ⟨⟨a, b, hr, ha, hb⟩, hbp, hbq, _, htx, hsp, hem, hadj, hcs⟩ := h
    refine hP ex n a b hr (hl.bdy p a hbp ha) (hl.bdy q b hbq hb) ?_ ?_ ?_ hadj fun x hx => ?_
    · intro t hv hex
      obtain ⟨_, h1, h2⟩ := htx t hv
      cases ex with
      | false =>
        obtain ⟨_, hc, hW⟩ := h1 rfl
        exact hl.sel hc hW (fun _ => rfl) ha hb
      | true =>
        obtain ⟨w, hc, ht⟩ := h2 rfl
        exact hl.sel hc (fun _ => hex.resolve_left nofun p q) ht ha hb
    · intro ct mu info hv
      obtain ⟨hc, _, hW⟩ := hsp ct mu info hv
      exact hl.sel hc (fun _ => hW) (fun _ => rfl) ha hb
    · intro mk l rem o cl hv
      obtain ⟨_, _, hc, h1, hne, hW⟩ := hem mk l rem o cl hv
      exact ⟨hl.copy p q _ a b hc (C05R.em_not_mem_replicate hne rem) hW ha hb, h1⟩
    · obtain ⟨_, _, hx'⟩ := hcs.mem hx
      exact ih x hx hx'

/-- **no split tab**: boundaries at every node, the text clause at EVERY `Text` (the children of
    code spans included) -/
theorem ICN.fthN (hl : Low src c m (fun _ _ => True)) {ex : Bool} {p q : Nat} {n : Node}
    (h : ICN c m (fun _ _ => True) ex p q n) : C05R.FthN src n :=
  h.lower hl (P := fun _ n => C05R.FthN src n) fun _ _ a b hr ha hb ht hs he hadj hch =>
    (C05R.FthN_eq _ _).mpr ⟨⟨a, b, hr, ha, hb, fun t hv => ht t hv (.inr fun _ _ => trivial), hs, he, hadj⟩,
      (C05R.fthL_iff _ _).mpr hch⟩

theorem ICL.fthL (hl : Low src c m (fun _ _ => True)) {ex : Bool} {lo hi : Nat} {l : List Node}
    (h : ICL c m (fun _ _ => True) ex lo hi l) : C05R.FthL src l :=
  (C05R.fthL_iff _ _).mpr fun x hx => by obtain ⟨_, _, hx'⟩ := h.mem hx; exact hx'.fthN hl

/-! ## strictness -/

/-- **strictness**: outside code spans, text-like members of a certified list have non-empty
    ranges -/
theorem ICL.strictTop (hl : Low src c m W) {lo hi : Nat} {l : List Node}
    (h : ICL c m W false lo hi l) : StrictTop l := by
  induction l generalizing lo with
  | nil => intro n hn; cases hn
  | cons x xs ih =>
    obtain ⟨p, q, _, hx, hrest⟩ := (ICL_cons ..).mp h
    intro n hn htl
    rcases List.mem_cons.mp hn with hnx | hn'
    · rw [hnx] at htl ⊢
      rw [ICN_eq] at hx
      obtain ⟨⟨a, b, hr, ha, hb⟩, _, _, _, htx, _, hem, _⟩ := hx
      refine ⟨a, b, hr, ?_⟩
      unfold TextLike at htl
      cases hv : x.val with
      | text t =>
        obtain ⟨_, h1, _⟩ := htx t hv
        obtain ⟨hlt, hc, hW⟩ := h1 rfl
        exact hl.lt hc hlt hW ha hb
      | emphMarker mk len rem o cl =>
        obtain ⟨_, hrem, hc, h1, hne, hW⟩ := hem mk len rem o cl hv
        have hs := hl.copy p q _ a b hc (C05R.em_not_mem_replicate hne rem) hW ha hb
        have := C05R.em_cut_replicate_len h1 hs
        omega
      | _ => rw [hv] at htl; cases htl
    · exact ih hrest n hn' htl

/-! ## the frame invariants in source coordinates are images of `ICF` -/

/-- `Inline.RI` (order, enclosure, room for the delimiters of a marker, the trailing text) is what
    `ICF` says through a monotone table that is a shift on `W` stretches -/
theorem ICF.ri {S : Nat → Prop} {A : Prop} {lo pm pos lo' : Nat} {cs : List Node}
    (hm : Inline.MapMono m) (hsh : Shift c m W) (hf : ICF c m W S A lo pm pos cs)
    (hlo : getSourcePosFor m lo = .ok lo') : RI c m lo' pos cs := by
  obtain ⟨hi, hhi⟩ := C05.translate_total m hm.wf pos
  obtain ⟨o1, o2⟩ := hf.tiles.ordered hm hlo hhi
  refine ⟨⟨hi, hhi, o1⟩, o2, ?_, ?_⟩
  · intro n hn mk hmk
    obtain ⟨p, q, hicn⟩ := hf.tiles.mem hn
    obtain ⟨hc, hrem, a, b, hr, hrun⟩ := hicn.run hmk
    have hq := C05R.em_cut_replicate_len hrun.size hrun.cut
    have := hsh.shift p q _ p q a b hrun.cut (C05R.em_not_mem_replicate hrun.nolf _) hrun.w
      (Nat.le_refl _) hrun.cut.le (Nat.le_refl _) hrun.tp hrun.tq
    exact ⟨hc, hrem, a, b, hr, by omega⟩
  · intro init last hcs hlt
    obtain ⟨_, p, _, _, hicn⟩ := hf.trail init last hcs hlt
    obtain ⟨hc, ⟨a, b, hr, ha, hb⟩, _, hcut, _⟩ := hicn.text_inv hlt
    exact ⟨hc, p, a, b, (C05R.cut_iff_ops _ _ _ _).mpr hcut, ha, hb, hr⟩

/-- `C05R.FI` (boundaries and text clause at every node, adjacency, non-empty text-like members)
    is what `ICF` says through a table without virtual-space entry -/
theorem ICF.fi {S : Nat → Prop} {A : Prop} {lo pm pos : Nat} {cs : List Node}
    (hl : Low src c m (fun _ _ => True)) (hf : ICF c m (fun _ _ => True) S A lo pm pos cs) :
    C05R.FI src c m pos cs :=
  ⟨hf.bpos, hf.tiles.fthL hl, hf.adj, hf.tiles.strictTop hl, hf.tail⟩

end

end MdIt.IC
