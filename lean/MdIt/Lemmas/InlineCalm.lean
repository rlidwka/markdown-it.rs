/-
  Look-ahead is calm, and what one rule call can do.

  * `Calm`: `parse_link` over a calm `skip` changes neither the tree under construction nor the frame.
  * `RuleDid`: what ONE successful call of a rule of the chain has done to the state, as a relation with
    four constructors; `runRule_did` goes through the ten rules for it, and the facts about a rule call
    that need no more of a flat rule than `RuleOut` (look-ahead is calm, the frame and `level` come back,
    a rule that declines leaves `pos`, the tree invariants of `Lemmas/InlineWalk.lean`) are read off it.
    The walks that need more of each rule (source ranges, totality, the memo) go through the rules again.
  * `skip_token` (any fuel, partial correctness) is calm, for every copy of the tokenizer
    (`Eng.skipToken_calm`, `Lemmas/InlineEngine.lean`; `skipToken_calm` for the model's).
-/
import MdIt.Lemmas.InlineVals
import MdIt.Lemmas.InlineTri

namespace MdIt.Inline
open MdIt.InlineOps (Srcmap getSourcePosFor getMap byteLen slice)
open MdIt.InlineH (firstRuleG skipStepG firstRuleG_induct)

/-- the tree under construction and the text are untouched -/
structure Calm (a b : IState) : Prop where
  children : b.children = a.children
  bottoms : b.bottoms = a.bottoms
  src : b.src = a.src
  srcmap : b.srcmap = a.srcmap
  posMax : b.posMax = a.posMax
  level : b.level = a.level
  linkLevel : b.linkLevel = a.linkLevel

theorem Calm.refl (a : IState) : Calm a a := ⟨rfl, rfl, rfl, rfl, rfl, rfl, rfl⟩

theorem Calm.trans {a b c : IState} (h1 : Calm a b) (h2 : Calm b c) : Calm a c :=
  ⟨h2.children.trans h1.children, h2.bottoms.trans h1.bottoms, h2.src.trans h1.src,
   h2.srcmap.trans h1.srcmap, h2.posMax.trans h1.posMax, h2.level.trans h1.level,
   h2.linkLevel.trans h1.linkLevel⟩

theorem Calm.frame {a b : IState} (h : Calm a b) : Frame a b :=
  ⟨h.src, h.srcmap, h.posMax, h.level, h.linkLevel⟩

theorem Calm.quiet {a b : IState} (h : Calm a b) : Quiet a b := ⟨h.children, h.bottoms⟩

theorem Calm.of {a b : IState} (hf : Frame a b) (hq : Quiet a b) : Calm a b :=
  ⟨hq.children, hq.bottoms, hf.src, hf.srcmap, hf.posMax, hf.level, hf.linkLevel⟩

/-- `Calm` is `Frame` and `Quiet` together -/
theorem calm_iff {a b : IState} : Calm a b ↔ Frame a b ∧ Quiet a b :=
  ⟨fun h => ⟨h.frame, h.quiet⟩, fun h => .of h.1 h.2⟩

theorem Calm.move {a b : IState} (h : Calm a b) (p : Nat) (c : List (Nat × Nat)) :
    Calm a { b with pos := p, cache := c } := .of (h.frame.move p c) (h.quiet.move p c)

/-- the bump of `level` around a look-ahead rule call, undone -/
theorem Calm.unbump {a b : IState} (h : Calm { a with level := a.level + 1 } b) :
    Calm a { b with level := b.level - 1 } :=
  ⟨h.children, h.bottoms, h.src, h.srcmap, h.posMax, by have := h.level; simp only at this ⊢; omega, h.linkLevel⟩

def CalmFn (skip : IState → Except Panic IState) : Prop := ∀ s s', skip s = .ok s' → Calm s s'

theorem parseLinkLabel_calm {skip : IState → Except Panic IState} (hq : CalmFn skip) {fuel : Nat}
    {st : IState} {start : Nat} {en : Bool} {o : Option Nat} {st' : IState}
    (h : parseLinkLabel skip fuel st start en = .ok (o, st')) : Calm st st' :=
  parseLinkLabel_rel Calm.refl Calm.trans hq (fun _ _ => ⟨rfl, rfl, rfl, rfl, rfl, rfl, rfl⟩) h

theorem parseLink_calm {cfg : Cfg} {skip : IState → Except Panic IState} (hq : CalmFn skip)
    {fuel : Nat} {st : IState} {pos : Nat} {en : Bool} {o : Option LinkRes} {st' : IState}
    (h : parseLink cfg skip fuel st pos en = .ok (o, st')) : Calm st st' :=
  parseLink_rel (R := Calm) Calm.trans (fun _ _ _ _ _ => parseLinkLabel_calm hq) h

theorem parseLinkLabel_pos {skip : IState → Except Panic IState} {fuel : Nat} {st : IState}
    {start : Nat} {en : Bool} {o : Option Nat} {st' : IState}
    (h : parseLinkLabel skip fuel st start en = .ok (o, st')) : st'.pos = st.pos := by
  obtain ⟨_, _, _, rfl, _⟩ := parseLinkLabel_ok h
  rfl

/-- `parse_link` restores `state.pos` (unconditionally) -/
theorem parseLink_pos {cfg : Cfg} {skip : IState → Except Panic IState} {fuel : Nat} {st : IState}
    {pos : Nat} {en : Bool} {o : Option LinkRes} {st' : IState}
    (h : parseLink cfg skip fuel st pos en = .ok (o, st')) : st'.pos = st.pos :=
  parseLink_rel (R := fun a b => b.pos = a.pos) (fun h1 h2 => h2.trans h1)
    (fun _ _ _ _ _ => parseLinkLabel_pos) h

/-- `parse_link` reports `label_start = pos + 1` (unconditionally) -/
theorem parseLink_labelStart {cfg : Cfg} {skip : IState → Except Panic IState} {fuel : Nat}
    {st : IState} {pos : Nat} {en : Bool} {res : LinkRes} {st' : IState} :
    parseLink cfg skip fuel st pos en = .ok (some res, st') → res.labelStart = pos + 1 := by
  fun_cases parseLink cfg skip fuel st pos en with
  | case1 | case2 | case3 => intro h; cases h
  | case4 => intro h; cases h; rfl
  | case5 => intro h; obtain ⟨_, _, hres⟩ := parseLinkRef_ok h; exact (hres res rfl).1

/-- the inline form hands out `None` or an accepted destination of the inline pipeline -/
theorem tail_href {dec : List Char → List Char} {src : List Char} {p max : Nat} {il : Link.InlineLink}
    (h : Link.parseInlineTail dec src p max = .ok (some il)) :
    il.href = none ∨ ∃ raw, Link.inlineDest dec raw = il.href := by
  unfold Link.parseInlineTail at h
  split at h
  · simp at h
  · split at h
    · simp only at h
      split at h
      · simp at h
      · next dest hd =>
        split at h
        · simp at h
        · next href title pos hstage =>
          have hhref : href = none ∨ ∃ raw, Link.inlineDest dec raw = href := by
            split at hstage
            · simp only [Except.ok.injEq, Prod.mk.injEq] at hstage; left; exact hstage.1.symm
            · next res =>
              unfold Link.inlineAfterDest at hstage
              split at hstage
              · next u hu =>
                have := Link.titlePart_href _ _ _ _ _ _ _ _ hstage
                right; exact ⟨res.raw, by rw [hu, this]⟩
              · have := Link.titlePart_href _ _ _ _ _ _ _ _ hstage
                left; exact this
          split at h
          · simp at h
          · simp only [Except.ok.injEq, Option.some.injEq] at h; subst h; exact hhref
          · simp at h
    · simp at h

/-- the destination `parse_link` reports is `None`, an accepted result of the inline pipeline, or a
    destination stored in the reference map -/
theorem parseLink_href {cfg : Cfg} {skip : IState → Except Panic IState} {fuel : Nat} {st : IState}
    {pos : Nat} {en : Bool} {res : LinkRes} {st' : IState} :
    parseLink cfg skip fuel st pos en = .ok (some res, st') → HrefOK cfg res.href := by
  fun_cases parseLink cfg skip fuel st pos en with
  | case1 | case2 | case3 => intro h; cases h
  | case4 _ _ _ _ il hil => intro h; cases h; exact (tail_href hil).imp id .inl
  | case5 =>
    intro h
    obtain ⟨_, _, hres⟩ := parseLinkRef_ok h
    obtain ⟨_, _, _, refs, _, r, hrefs, hlook, hh⟩ := hres res rfl
    unfold Refs.lookup Refs.RefMap.get at hlook
    exact .inr (.inr ⟨refs, _, r, hrefs, lookup_mem' hlook, hh⟩)

theorem Simple.calm {st st' : IState} {o : Option Nat} (h : Simple st true o st') : Calm st st' :=
  .of h.frame (h.quiet rfl)

/-! ## what one rule call can do -/

/-- **What a successful call of one rule of the chain has done** (`skip` calm):
    `flat`  the state changed as `RuleOut` says (the shapes `Built`; nothing but the code-span cache in
            look-ahead mode): one of the six rules with a plan ran, or the emphasis rule in look-ahead mode, or
            any rule declined at its first test (wider than `RuleId.isFlat`, which is "not link, not image");
    `emph`  the emphasis-marker rule ran in real mode;
    `look`  link / image: `parse_link` declined, or found a link in look-ahead mode — only look-ahead calls
            were made, `pos` is restored;
    `link`  link / image in real mode: behind the look-ahead calls the nested `tokenize` ran from
            `linkNested st1 res` to `st3`, and the node went behind the old children. -/
inductive RuleDid (cfg : Cfg) (tok : IState → Except Panic IState) (id : RuleId) (st : IState) :
    Bool → Option Nat → IState → Prop
  | flat {silent : Bool} {o : Option Nat} {st' : IState} (h : RuleOut st silent o st') :
      RuleDid cfg tok id st silent o st'
  | emph {mk : Char} {csw : Bool} {o : Option Nat} {st' : IState} (hid : id = .emph mk csw)
      (h : ruleEmph cfg mk csw st false = .ok (o, st')) : RuleDid cfg tok id st false o st'
  | look {silent : Bool} {o : Option Nat} {st1 : IState} (hid : id = .link ∨ id = .image) (hc : Calm st st1)
      (hp : st1.pos = st.pos) : RuleDid cfg tok id st silent o st1
  | link {mkv : List Nat → Option (List Char) → Val} {res : LinkRes} {st1 st3 : IState} {r : Nat × Nat}
      (hid : id = .link ∧ mkv = Val.link ∨ id = .image ∧ mkv = Val.image) (hc : Calm st st1)
      (hp : st1.pos = st.pos) (hh : HrefOK cfg res.href) (htok : tok (linkNested st1 res) = .ok st3)
      (hlev : st3.level ≠ 0) (hle : st3.pos ≤ res.endPos) (hr : st3.getMap st.pos res.endPos = .ok r) :
      RuleDid cfg tok id st false (some (res.endPos - st3.pos))
        { st3 with level := st3.level - 1, posMax := st1.posMax,
                   children := st1.children ++
                     [{ val := mkv (res.href.getD []) res.title, range := some r, children := st3.children }],
                   bottoms := st1.bottoms, linkLevel := st3.linkLevel - 1 }

theorem linkRule_did {cfg : Cfg} {skip tok : IState → Except Panic IState} (hq : CalmFn skip) {fuel : Nat}
    {id : RuleId} {mkv : List Nat → Option (List Char) → Val}
    (hid : id = .link ∧ mkv = Val.link ∨ id = .image ∧ mkv = Val.image) {en : Bool}
    {offset : Nat} {st : IState} {silent : Bool} {o : Option Nat} {st' : IState}
    (h : linkRule cfg skip tok fuel mkv en offset st silent = .ok (o, st')) :
    RuleDid cfg tok id st silent o st' := by
  obtain ⟨r, st1, hp, hr⟩ := linkRule_ok h
  have hc := parseLink_calm hq hp
  have hpos := parseLink_pos hp
  have hid' : id = .link ∨ id = .image := hid.imp And.left And.left
  rcases hr with ⟨_, _, rfl⟩ | ⟨res, rfl, ⟨_, _, _, rfl⟩ | ⟨rfl, st3, htok, hcl⟩⟩
  · exact .look hid' hc hpos
  · exact .look hid' hc hpos
  · obtain ⟨hlev, hle, rfl, r, hr, rfl⟩ := linkClose_ok hcl
    exact .link hid hc hpos (parseLink_href hp) htok hlev hle (liftR_ok.mp hr)

/-- the ten rules, once -/
theorem runRule_did {cfg : Cfg} {skip tok : IState → Except Panic IState} (hq : CalmFn skip) {fuel : Nat}
    {id : RuleId} {st : IState} {silent : Bool} {o : Option Nat} {st' : IState}
    (h : runRule cfg skip tok fuel id st silent = .ok (o, st')) : RuleDid cfg tok id st silent o st' := by
  unfold runRule at h
  cases id with
  | text => exact .flat (ruleText_out (liftR_ok.mp h))
  | newline => exact .flat (ruleNewline_out (liftR_ok.mp h))
  | escape => exact .flat (ruleEscape_out (liftR_ok.mp h))
  | backticks => exact .flat (ruleBackticks_out (liftR_ok.mp h))
  | autolink => exact .flat (ruleAutolink_out (liftR_ok.mp h))
  | entity => exact .flat (ruleEntity_out (liftR_ok.mp h))
  | linkEnd => cases h; exact .flat (.none _ _)
  | emph mk csw =>
    cases silent with
    | true => have h' := liftR_ok.mp h; rw [ruleEmph_silent] at h'; cases h'; exact .flat (.none _ _)
    | false => exact .emph rfl (liftR_ok.mp h)
  | link =>
    rcases ruleLink_ok h with ⟨rfl, rfl⟩ | ⟨_, _, h⟩
    · exact .flat (.none _ _)
    · exact linkRule_did hq (.inl ⟨rfl, rfl⟩) h
  | image =>
    rcases ruleImage_ok h with ⟨rfl, rfl⟩ | ⟨_, _, h⟩
    · exact .flat (.none _ _)
    · exact linkRule_did hq (.inr ⟨rfl, rfl⟩) h

/-- a look-ahead call is calm -/
theorem RuleDid.calm {cfg : Cfg} {tok : IState → Except Panic IState} {id : RuleId} {st : IState}
    {o : Option Nat} {st' : IState} (h : RuleDid cfg tok id st true o st') : Calm st st' := by
  cases h with
  | flat h => exact h.simple.calm
  | look _ hc _ => exact hc

/-- `level` comes back when the nested `tokenize` hands it back -/
theorem RuleDid.level {cfg : Cfg} {tok : IState → Except Panic IState}
    (ht : ∀ s s', tok s = .ok s' → s'.level = s.level) {id : RuleId} {st : IState} {silent : Bool}
    {o : Option Nat} {st' : IState} (h : RuleDid cfg tok id st silent o st') : st'.level = st.level := by
  cases h with
  | flat h => exact h.simple.frame.level
  | emph _ h => exact (ruleEmph_simple h).frame.level
  | look _ hc _ => exact hc.level
  | link _ hc _ _ htok _ _ _ =>
    have := ht _ _ htok
    simp only at this ⊢
    rw [this, Nat.add_sub_cancel]; exact hc.level

theorem runRule_silent_calm {cfg : Cfg} {skip tok : IState → Except Panic IState} (hq : CalmFn skip)
    {fuel : Nat} {id : RuleId} {st : IState} {o : Option Nat} {st' : IState}
    (h : runRule cfg skip tok fuel id st true = .ok (o, st')) : Calm st st' :=
  (runRule_did hq h).calm

theorem silentBumped_calm {run : IState → Bool → RuleRes} {st : IState} {o : Option Nat}
    {st' : IState} (hrun : ∀ s o s', run s true = .ok (o, s') → Calm s s')
    (h : silentBumped run st = .ok (o, st')) : Calm st st' := by
  unfold silentBumped at h
  split at h
  · simp at h
  · next r st1 hr =>
    split at h
    · simp at h
    · simp only [Except.ok.injEq, Prod.mk.injEq] at h; rw [← h.2]
      exact (hrun _ _ _ hr).unbump

/-- the chain keeps `Calm` when its members do, over any rule runner -/
theorem firstRuleG_calm {ι : Type} {run : ι → IState → RuleRes}
    (hrun : ∀ id s o s', run id s = .ok (o, s') → Calm s s') :
    ∀ (rules : List ι) (st : IState) (o : Option Nat) (st' : IState),
      firstRuleG run rules st = .ok (o, st') → Calm st st' :=
  fun rules st =>
    firstRuleG_induct (Pre := fun _ => True) (Post := fun s r => ∀ o s', r = .ok (o, s') → Calm s s')
      (fun s _ o s' h => by cases h; exact Calm.refl _)
      (fun s s1 r _ h1 => ⟨trivial, fun h2 o s' h => (h1 _ _ rfl).trans (h2 o s' h)⟩)
      rules (fun id _ s _ => hrun id s) st trivial

theorem skipStepG_calm {ι : Type} {chain : List ι} {run : ι → IState → Bool → RuleRes}
    (hrun : ∀ id s o s', run id s true = .ok (o, s') → Calm s s') {st st' : IState}
    (h : skipStepG chain run st = .ok st') : Calm st st' := by
  have up : ∀ {s : IState} p c, Calm st s → Calm st { s with pos := p, cache := c } := fun p c q => q.move p c
  refine (tri_iff.mp (skipStepG_tri (E := fun _ => True) (Q := Calm st) (C := fun x => Calm st x.2)
    (tri_iff.mpr ⟨fun _ _ => trivial, fun x hx => firstRuleG_calm
      (fun id s o s' hr => silentBumped_calm (hrun id) hr) _ _ _ _ hx⟩)
    (fun _ _ q => up _ _ q) (fun _ q => tri_iff.mpr ⟨fun _ _ => trivial, fun _ _ => up _ _ q⟩))).2 _ h

namespace Eng

/-- **`skip_token` is calm** for every copy of the tokenizer whose rules are calm in look-ahead mode over a
    calm `skip_token` -/
theorem skipToken_calm {ι : Type} (E : Eng ι) (g : Bool)
    (hrun : ∀ {skip tok fuel r s o s'}, CalmFn skip → E.run skip tok fuel r s true = .ok (o, s') →
      Calm s s') : ∀ fuel : Nat, CalmFn (fun s => E.skipToken g fuel s) := fun fuel =>
  (E.induct g (S := fun _ st r => ∀ s', r = .ok s' → Calm st s') (T := fun _ _ _ _ => True)
    (fun _ _ h => nomatch h)
    (fun _ st x _ s' h => by
      split at h
      · cases h
      · cases h; exact ⟨rfl, rfl, rfl, rfl, rfl, rfl, rfl⟩)
    (fun _ st _ _ s' h => by cases h; exact ⟨rfl, rfl, rfl, rfl, rfl, rfl, rfl⟩)
    (fun _ st ihS _ _ _ s' h => skipStepG_calm (fun r s o s' hr => hrun ihS hr) h)
    (fun _ _ _ _ => trivial) (fun _ _ _ => trivial)
    (fun _ _ _ _ _ _ => by split <;> first | trivial | exact fun _ _ => trivial) fuel).1

end Eng

/-- **`skip_token` is calm**, at every fuel -/
theorem skipToken_calm (cfg : Cfg) : ∀ fuel : Nat, CalmFn (fun s => skipToken cfg fuel s) := fun fuel => by
  have := (Eng.base cfg).skipToken_calm false (fun hq h => runRule_silent_calm hq h) fuel
  simpa only [(engM cfg fuel).2] using this

end MdIt.Inline
