/-
  C05 for ALL sources (boundaries + the text clause WITH THE CODE-SPAN EXEMPTION): transport through the
  three passes behind the block pass, on the full `Pipeline.Node` tree (`afterBlocks_nodeOkX`).  The
  companion of Lemmas/C05RestSplice.lean (`afterBlocks_postOk`: the same transport without the exemption);
  the predicates are the RECURSIVE `PreV` / `PostV` of Lemmas/C05TabsDefs3.lean (a flag `ex` switches the text
  clause off; the children of a node `n` are checked with `ex := isCodeK n.kind`) instead of
  `Every (PreOk src)` / `Every (PostOk src)`; `ts_nodeOkX_of` converts.
  (Prefix `ts_`: this file; `sp_` is Lemmas/C05RestSplice.lean, `c05s_` Lemmas/C05InlineSplice.lean.)
-/
import MdIt.Lemmas.C05TabsDefs3

namespace MdIt.Pipeline
open MdIt.C05T
open MdIt.C05R
open MdIt.InlineOps (byteLen)

/-! ## the recursive predicates, unfolded one level -/

/-- the clauses of `PostV` at the node itself -/
def ts_PostH (src : List Char) (ex : Bool) (n : Node) : Prop :=
  ∃ a b, n.range = some (a, b) ∧ Bdy src a ∧ Bdy src b ∧
    (ex = false → ∀ t, n.kind = .inl (.text t) → Sel src a b t) ∧
    (∀ ct mu info, n.kind = .inl (.special ct mu info) → Sel src a b mu)

theorem ts_preVL_iff (src : List Char) (ex : Bool) (l : List Node) :
    PreVL src ex l ↔ ∀ n ∈ l, PreV src ex n := by
  induction l with
  | nil => simp [PreVL]
  | cons c cs ih => simp [PreVL, ih]

theorem ts_postVL_iff (src : List Char) (ex : Bool) (l : List Node) :
    PostVL src ex l ↔ ∀ n ∈ l, PostV src ex n := by
  induction l with
  | nil => simp [PostVL]
  | cons c cs ih => simp [PostVL, ih]

theorem ts_preV_iff (src : List Char) (ex : Bool) (n : Node) :
    PreV src ex n ↔ ts_PreH src ex n ∧ ∀ c ∈ n.children, PreV src (isCodeK n.kind) c := by
  rw [← ts_preVL_iff]
  cases n; simp [PreV, ts_PreH]

theorem ts_postV_iff (src : List Char) (ex : Bool) (n : Node) :
    PostV src ex n ↔ ts_PostH src ex n ∧ ∀ c ∈ n.children, PostV src (isCodeK n.kind) c := by
  rw [← ts_postVL_iff]
  cases n; simp [PostV, ts_PostH]

/-- the clauses at a node without exemption give the clauses for any flag -/
theorem ts_preH_weaken {src : List Char} {ex : Bool} {n : Node} (h : ts_PreH src false n) :
    ts_PreH src ex n := by
  obtain ⟨a, b, hr, ha, hb, ht, hs, hg⟩ := h
  exact ⟨a, b, hr, ha, hb, fun _ => ht rfl, hs, hg⟩

theorem ts_isCodeK_ofInline (n : Inline.Node) : isCodeK (ofInline n).kind = isCode n.val := by
  cases n; simp [ofInline, isCodeK]

mutual
theorem ts_ofInline_pre {src : List Char} (ex : Bool) (n : Inline.Node) (h : FthNV src ex n) :
    PreV src ex (ofInline n) := by
  match n with
  | ⟨v, r, cs⟩ =>
    rw [FthNV_eq] at h
    obtain ⟨⟨a, b, hr, ha, hb, ht, hs, hm, hadj⟩, hcs⟩ := h
    simp only at hr ht hs hm hadj hcs
    unfold ofInline
    rw [ts_preV_iff]
    refine ⟨⟨a, b, hr, ha, hb, ?_, ?_, sp_ofInlineList_glued hadj⟩, ?_⟩
    · intro hex t ht'
      change textOf v = some t at ht'
      cases v with
      | text c =>
        simp only [textOf, Option.some.injEq] at ht'; subst ht'; exact ht hex _ rfl
      | emphMarker mk l rem o c =>
        simp only [textOf, Option.some.injEq] at ht'; subst ht'
        exact Sel.of_cut (hm mk l rem o c rfl).1
      | _ => simp [textOf] at ht'
    · intro ct mu info hk
      simp only [Kind.inl.injEq] at hk
      exact hs ct mu info hk
    · exact ts_ofInlineList_pre (isCode v) cs hcs
theorem ts_ofInlineList_pre {src : List Char} (ex : Bool) (ns : List Inline.Node)
    (h : FthLV src ex ns) : ∀ c ∈ ofInlineList ns, PreV src ex c := by
  match ns with
  | [] => simp [ofInlineList]
  | n :: r =>
    simp only [FthLV] at h
    intro x hx
    simp only [ofInlineList, List.mem_cons] at hx
    rcases hx with rfl | hx
    · exact ts_ofInline_pre ex n h.1
    · exact ts_ofInlineList_pre ex r h.2 x hx
end

section
variable {src0 : List Char}
  (f : Option (Nat × Nat) → List (List Char × List Char) → List (List Char × List Char))

mutual
theorem mapAttrs_postV (ex : Bool) (t : Node) (he : PostV src0 ex t) : PostV src0 ex (mapAttrs f t) := by
  match t with
  | ⟨k, r, a, cs⟩ =>
    simp only [mapAttrs, PostV] at he ⊢
    exact ⟨he.1, mapAttrsList_postV (isCodeK k) cs he.2⟩
theorem mapAttrsList_postV (ex : Bool) (cs : List Node) (he : PostVL src0 ex cs) :
    PostVL src0 ex (mapAttrsList f cs) := by
  match cs with
  | [] => trivial
  | c :: r =>
    simp only [mapAttrsList, PostVL] at he ⊢
    exact ⟨mapAttrs_postV ex c he.1, mapAttrsList_postV ex r he.2⟩
end
end

theorem ts_sourceposList_post {src0 src : List Char} {marks : List SourceMap.Mark} (ex : Bool)
    (cs cs' : List Node) (he : ∀ c ∈ cs, PostV src0 ex c)
    (h : sourceposList src marks cs = .ok cs') : ∀ c ∈ cs', PostV src0 ex c := by
  rw [sourceposList_eq_mapAttrs h, ← ts_postVL_iff]
  exact mapAttrsList_postV _ ex cs ((ts_postVL_iff _ _ _).mpr he)

theorem ts_isText_isCodeK {n : Node} (h : n.isText = true) : isCodeK n.kind = false := by
  rw [sp_isText_kind h]; rfl

theorem ts_isMarker_isCodeK {k : Kind} (h : k.isMarker = true) : isCodeK k = false := by
  cases k with
  | blk b => rfl
  | inl v => cases v <;> first | rfl | cases h

/-- **`fragments_join` keeps `PreV src ex`** on the members it retains, for either flag: the clauses at
    the member are `preH_fragmentsJoin`, below it nothing changes -/
theorem ts_fragmentsJoin_pre {src : List Char} {ex : Bool} {lo hi : Nat} {cs : List Node}
    (ho : OrderedD lo hi cs) (hgl : Glued src cs) (he : ∀ x ∈ cs, PreV src ex x) :
    ∀ x ∈ fragmentsJoin cs, PreV src ex x := by
  intro x hx
  obtain ⟨c, hc, hr, _⟩ := fragmentsJoin_textFor _ x hx
  have hk : isCodeK x.kind = isCodeK c.kind := by
    rcases hr.2.2 with rfl | ⟨ht, hcm⟩
    · rfl
    · rw [ts_isText_isCodeK ht]
      rcases hcm with h | h
      · rw [ts_isText_isCodeK h]
      · rw [ts_isMarker_isCodeK h]
  rw [ts_preV_iff, hr.1, hk]
  exact ⟨preH_fragmentsJoin ho hgl (fun y hy => ((ts_preV_iff _ _ _).mp (he y hy)).1) x hx,
    ((ts_preV_iff _ _ _).mp (he c hc)).2⟩

theorem ts_preH_postH {src : List Char} {ex : Bool} {n : Node} (h : ts_PreH src ex n) :
    ts_PostH src ex n := by
  obtain ⟨a, b, hr, ha, hb, ht, hs, _⟩ := h
  exact ⟨a, b, hr, ha, hb, fun hex t hk => ht hex t (by rw [hk]; rfl), hs⟩

/-- without the join pass: `PreV` is `PostV` (the `Glued` clause is dropped) -/
theorem ts_preV_postV {src : List Char} {n : Node} : ∀ {ex : Bool}, PreV src ex n → PostV src ex n := by
  induction n using node_induct with
  | step n ih =>
    intro ex hp
    rw [ts_preV_iff] at hp
    rw [ts_postV_iff]
    exact ⟨ts_preH_postH hp.1, fun c hc => ih c hc (hp.2 c hc)⟩

theorem ts_joinNode_post {B : Nat} {src : List Char} (n : Node) : ∀ ex : Bool,
    Every (NodeOrdB B) n → PreV src ex n → PostV src ex (joinNode n) := by
  induction n using joinNode_induct with
  | step n ih =>
    intro ex he hp
    obtain ⟨_, _, _, _, _, h4⟩ := he.here
    rw [ts_preV_iff] at hp
    obtain ⟨⟨a', b', g1, g2, g3, g4, g5, g6⟩, hch⟩ := hp
    rw [ts_postV_iff, joinNode_kind, joinNode_children]
    refine ⟨⟨a', b', by rw [joinNode_range]; exact g1, g2, g3,
      fun hex t hk => g4 hex t (by rw [joinNode_kind] at hk; rw [hk]; rfl),
      fun ct mu info hk => g5 ct mu info (by rw [joinNode_kind] at hk; exact hk)⟩, ?_⟩
    intro y hy
    obtain ⟨x, hx, rfl⟩ := List.mem_map.mp hy
    exact ih x hx _ ((nodeOrdB_joinStable _).keep n he x hx) (ts_fragmentsJoin_pre h4 g6 hch x hx)

theorem spliceQ_preV (src : List Char) : SpliceQ src (FthLV src false) (PreV src false) where
  inl := ts_ofInlineList_pre false
  bdy := fun y a b hy hr => by
    obtain ⟨a', b', r', _, hb, _⟩ := ((ts_preV_iff _ _ _).mp hy).1
    rw [hr] at r'; cases r'; exact hb
  blk := fun k a z cs' ha hz l1 l2 =>
    (ts_preV_iff _ _ _).mpr ⟨⟨a, z, rfl, ha, hz, fun _ t ht => (by simp [textOfK] at ht),
      fun ct mu info hk => (by cases hk), l2⟩, l1⟩

theorem ts_spliceNode_pre {icfg : Inline.Cfg} {src : List Char} (b : Block.BNode) (t : Node)
    (hg : Block.RangedB (PInlFV icfg src) src b) (hn : InlNoRange b) (a z : Nat)
    (hr : b.range = some (a, z)) (h : spliceNode icfg b = .ok t) :
    textOfK t.kind = none ∧ PreV src false t :=
  spliceNode_glued (spliceQ_preV src) (fun _ _ _ _ h => h) b t hg hn a z hr h

theorem ts_spliceList_pre {icfg : Inline.Cfg} {src : List Char} (cs : List Block.BNode) (out : List Node)
    (lo hi : Nat) (ho : Block.OrderedB (PInlFV icfg src) lo hi cs)
    (hg : ∀ c ∈ cs, Block.RangedB (PInlFV icfg src) src c) (hn : ∀ c ∈ cs, InlNoRange c)
    (h : spliceList icfg cs = .ok out) :
    (∀ x ∈ out, PreV src false x) ∧ Glued src out ∧ sp_HeadSep lo out :=
  spliceList_glued (spliceQ_preV src) (fun _ _ _ _ h => h) cs out lo hi ho hg hn h

theorem ts_pinlFV_pinl {icfg : Inline.Cfg} {src : List Char} {root : Block.BNode}
    (hg : Block.RangedB (PInlFV icfg src) src root) : Block.RangedB (PInl icfg) src root :=
  hg.imp (fun _ _ _ _ _ h ns hns => ⟨(h.2 ns hns).1, (h.2 ns hns).2.1⟩)

theorem ts_afterBlocks_post {cfg : DocCfg} {src : List Char} {root : Block.BNode} {refs : Refs.RefMap}
    {t : Node} {a z : Nat} (hroot : root.range = some (a, z))
    (hg : Block.RangedB (PInlFV (cfg.inlineCfg refs) src) src root) (hn : InlNoRange root)
    (h : afterBlocks cfg src root refs = .ok t) : PostV src false t := by
  obtain ⟨t0, hs, hf⟩ := afterBlocks_ok h
  obtain ⟨_, e0⟩ := c05s_spliceNode_ord root t0 (ts_pinlFV_pinl hg) hn a z hroot hs
  obtain ⟨_, f0⟩ := ts_spliceNode_pre root t0 hg hn a z hroot hs
  have h1 : PostV src false (if cfg.hasJoin = true then joinNode t0 else t0) := by
    split
    · exact ts_joinNode_post t0 false e0 f0
    · exact ts_preV_postV f0
  rcases finish_ok hf with ⟨-, rfl⟩ | ⟨-, rfl⟩
  · exact mapAttrs_postV _ false _ h1
  · exact h1

/-- `NodeOrd` at every node and the recursive `PostV` (for ANY flag at the node itself) give
    `NodeOkX` at every node: the text clause of a child, guarded by the parent's `isCodeK`, is the
    parent-level clause of `NodeOkX` -/
theorem ts_nodeOkX_of {src : List Char} {n : Node} (ho : Every (NodeOrd src) n) :
    ∀ ex, PostV src ex n → Every (NodeOkX src) n := by
  induction ho with
  | mk n h1 _ ih =>
    intro ex hp
    rw [ts_postV_iff] at hp
    obtain ⟨⟨a', b', hr', ba, bb, _, _⟩, hch⟩ := hp
    obtain ⟨a, b, hr, hab, hb, hord⟩ := h1
    rw [hr] at hr'
    simp only [Option.some.injEq, Prod.mk.injEq] at hr'
    obtain ⟨rfl, rfl⟩ := hr'
    refine .mk n ⟨a, b, hr, hab, hb, ba.onBoundary, bb.onBoundary, hord, ?_⟩
      (fun c hc => ih c hc _ (hch c hc))
    intro hk x hx c hxk
    have hx' := hch x hx
    rw [hk, ts_postV_iff] at hx'
    obtain ⟨⟨a2, b2, hr2, _, _, ht, _⟩, _⟩ := hx'
    exact ⟨a2, b2, hr2, fun w hw n1 n2 => ht rfl c hxk w ((cut_iff_lines src a2 b2 w).mp hw) ⟨n1, n2⟩⟩

/-- **`afterBlocks_nodeOkX`.**  If the tree of the block pass is `RangedB` for the claim `PInlFV`
    (every placeholder's stretch ends at a line end; its inline run yields well-ranged nodes in
    order inside the stretch, faithful — a `Text` selects its content UNLESS it is the child of a
    code span —, adjacent where mergeable), then in the tree the core chain returns EVERY node has
    a range `(a, b)`, `a ≤ b ≤ |src|`, on character boundaries, its children's ranges lie inside in
    source order, and every `Text` child of a node that is not a code span selects its content
    (unless the range holds a line break); the root keeps its range. -/
theorem afterBlocks_nodeOkX {cfg : DocCfg} {src : List Char} {root : Block.BNode} {refs : Refs.RefMap}
    {t : Node} {a z : Nat} (hroot : root.range = some (a, z))
    (hg : Block.RangedB (C05T.PInlFV (cfg.inlineCfg refs) src) src root) (hn : InlNoRange root)
    (h : afterBlocks cfg src root refs = .ok t) :
    t.range = some (a, z) ∧ Every (C05T.NodeOkX src) t := by
  obtain ⟨r0, e0⟩ := afterBlocks_nodeOrd hroot (ts_pinlFV_pinl hg) hn h
  exact ⟨r0, ts_nodeOkX_of e0 false (ts_afterBlocks_post hroot hg hn h)⟩

/-! ## non-vacuity: the hypotheses of `afterBlocks_nodeOkX` are satisfiable — on a SPLIT TAB inside a
    code span -/

mutual
/-- `FthNV`, as a test -/
def ts_fthb (src : List Char) (ex : Bool) : Inline.Node → Bool
  | ⟨v, r, cs⟩ =>
    (match r with
     | some (a, b) => ts_valb src ex a b v
     | none => false) && sp_adjb cs && ts_fthbList src (isCode v) cs
def ts_fthbList (src : List Char) (ex : Bool) : List Inline.Node → Bool
  | [] => true
  | c :: cs => ts_fthb src ex c && ts_fthbList src ex cs
end

mutual
theorem ts_fthb_sound {src : List Char} (ex : Bool) (n : Inline.Node) (h : ts_fthb src ex n = true) :
    FthNV src ex n := by
  match n with
  | ⟨v, r, cs⟩ =>
    simp only [ts_fthb, Bool.and_eq_true] at h
    obtain ⟨⟨h1, h2⟩, h3⟩ := h
    simp only [FthNV]
    refine ⟨?_, ts_fthbList_sound (isCode v) cs h3⟩
    split at h1
    · rename_i a b
      obtain ⟨v1, v2, v3, v4, v5⟩ := ts_valb_sound h1
      exact ⟨a, b, rfl, v1, v2, v3, v4, v5, sp_adjb_sound cs h2⟩
    · cases h1
theorem ts_fthbList_sound {src : List Char} (ex : Bool) (l : List Inline.Node)
    (h : ts_fthbList src ex l = true) : FthLV src ex l := by
  match l with
  | [] => trivial
  | c :: cs =>
    simp only [ts_fthbList, Bool.and_eq_true] at h
    exact ⟨ts_fthb_sound ex c h.1, ts_fthbList_sound ex cs h.2⟩
end

/-- `PInlFV` for one placeholder, by evaluation -/
theorem ts_pinlFV_of_check {icfg : Inline.Cfg} {src c : List Char} {m : List (Nat × Nat)} {a b : Nat}
    (hend : b = byteLen src ∨ BrkAt src b)
    (h : (match Inline.parseInline icfg c m with
          | .ok ns => c05s_ordNb b a ns && c05s_wrbList ns && ts_fthbList src false ns && sp_adjb ns &&
              sp_strictb ns
          | .error _ => true) = true) : PInlFV icfg src c m a b := by
  refine ⟨hend, ?_⟩
  intro ns hns
  rw [hns] at h
  simp only [Bool.and_eq_true] at h
  obtain ⟨⟨⟨⟨h1, h2⟩, h3⟩, h4⟩, h5⟩ := h
  exact ⟨c05s_ordNb_sound ns a h1, c05s_wrbList_sound ns h2, ts_fthbList_sound false ns h3,
    sp_adjb_sound ns h4, sp_strictb_sound h5⟩

/-! ### example 1: ``"> `a\n>\tb`*c"`` (11 bytes).  The tab behind the second `>` is split: the quote
    marker takes one of its three columns, the other two are VIRTUAL spaces of the paragraph's text
    ``"`a\n  b`*c"`` (table `[(0, 2), (3, 7), (5, 7)]`).  The code span `(2, 9)` keeps them:
    its `Text` child is `"a   b"` (five characters) at `(3, 8)`; the left-over delimiter `*` and `c`
    are merged by the join pass into `Text "*c"` `(9, 11)`, a child of the paragraph, for which
    the text clause IS claimed.  (Here the child's range `(3, 8)` selects `"a\n>\tb"`, which holds the
    line break: the clause would be vacuous for it.  In a tree of the block pass the virtual spaces
    sit directly behind a line feed of the text and neither can be a backtick, so this was so in
    every document tried; example 2 shows a placeholder where the exemption does matter.) -/

def ts_exSrc : List Char := ['>', ' ', '`', 'a', '\n', '>', '\t', 'b', '`', '*', 'c']
def ts_exTxt : List Char := ['`', 'a', '\n', ' ', ' ', 'b', '`', '*', 'c']
def ts_exMap : List (Nat × Nat) := [(0, 2), (3, 7), (5, 7)]
def ts_exRoot : Block.BNode :=
  ⟨.root, some (0, 11), [⟨.blockquote, some (0, 11), [⟨.paragraph, some (2, 11),
    [⟨.inlineRoot ts_exTxt ts_exMap, none, []⟩]⟩]⟩]⟩

/-- … is what the block pass returns for it -/
example : (Block.parseBlocks (exCfg false 100).blockCfg ts_exSrc).toOption.map
      (fun x => c05s_flatB 0 x.1) = some (c05s_flatB 0 ts_exRoot) ∧
    (Block.parseBlocks (exCfg false 100).blockCfg ts_exSrc).toOption.map (fun x => x.2.isEmpty) =
      some true := by decide +kernel

theorem ts_exRoot_ranged :
    Block.RangedB (PInlFV ((exCfg false 100).inlineCfg []) ts_exSrc) ts_exSrc ts_exRoot := by
  have h0 : Block.Bd ts_exSrc 0 := c05s_bd_zero _
  have h11 : Block.Bd ts_exSrc 11 := c05s_bd_len ts_exSrc
  exact Block.rangedB_wrap .root (Block.rangedB_wrap .blockquote
    (Block.rangedB_text .paragraph (a := 2) (b := 11) (by omega)
      ⟨['>', ' '], ['`', 'a', '\n', '>', '\t', 'b', '`', '*', 'c'], rfl, by decide⟩ h11
      (ts_pinlFV_of_check (.inl (by decide)) (by decide +kernel)) (Nat.le_refl _) (by omega) (Nat.le_refl _))
    rfl h0 h11 (by omega) (Nat.le_refl _)) rfl h0 h11 (Nat.le_refl _) (Nat.le_refl _)

theorem ts_exRoot_noRange : InlNoRange ts_exRoot := inlNoRangeB_sound _ (by decide)

/-- all hypotheses of `afterBlocks_nodeOkX` hold of the block tree of example 1 -/
example : ∃ t, afterBlocks (exCfg false 100) ts_exSrc ts_exRoot [] = .ok t ∧
    t.range = some (0, 11) ∧ Every (NodeOkX ts_exSrc) t :=
  ok_and (ok_of_isSome (by decide +kernel)) fun _ hp =>
    afterBlocks_nodeOkX rfl ts_exRoot_ranged ts_exRoot_noRange hp

/-- the finished tree of example 1 -/
example : (afterBlocks (exCfg false 100) ts_exSrc ts_exRoot []).toOption.map (sp_flat 0) =
    some [(0, 0, 11, []), (1, 0, 11, []), (2, 2, 11, []), (3, 2, 9, []),
      (4, 3, 8, ['a', ' ', ' ', ' ', 'b']), (3, 9, 11, ['*', 'c'])] := by decide +kernel

/-! ### example 2: the exemption is what makes the placeholder claim TRUE of a code span over a
    virtual space (a hand-made placeholder: source ``"`ab`"``, text ``"`a b`"`` with the
    virtual-space entry pair `(2, 2)`, `(3, 2)` — the space at `2` of the text has no byte in the
    source).  The code span's `Text` child `"a b"` gets the range `(1, 3)`, which selects `"ab"`: no
    line break, not the content.  `PInlFV` holds (the clause is off below a code span), the claim
    without exemption `PInlF` fails, and `afterBlocks_nodeOkX` applies. -/

def ts_cdSrc : List Char := ['`', 'a', 'b', '`']
def ts_cdTxt : List Char := ['`', 'a', ' ', 'b', '`']
def ts_cdMap : List (Nat × Nat) := [(0, 0), (2, 2), (3, 2)]
def ts_cdRoot : Block.BNode :=
  ⟨.root, some (0, 4), [⟨.paragraph, some (0, 4), [⟨.inlineRoot ts_cdTxt ts_cdMap, none, []⟩]⟩]⟩

theorem ts_cdRoot_ranged :
    Block.RangedB (PInlFV ((exCfg false 100).inlineCfg []) ts_cdSrc) ts_cdSrc ts_cdRoot :=
  Block.rangedB_wrap .root
    (Block.rangedB_text .paragraph (a := 0) (b := 4) (by omega) (c05s_bd_zero _) (c05s_bd_len ts_cdSrc)
      (ts_pinlFV_of_check (.inl (by decide)) (by decide +kernel)) (Nat.le_refl _) (by omega) (Nat.le_refl _))
    rfl (c05s_bd_zero _) (c05s_bd_len ts_cdSrc) (Nat.le_refl _) (Nat.le_refl _)

theorem ts_cdRoot_noRange : InlNoRange ts_cdRoot := inlNoRangeB_sound _ (by decide)

example : ∃ t, afterBlocks (exCfg false 100) ts_cdSrc ts_cdRoot [] = .ok t ∧
    t.range = some (0, 4) ∧ Every (NodeOkX ts_cdSrc) t :=
  ok_and (ok_of_isSome (by decide +kernel)) fun _ hp =>
    afterBlocks_nodeOkX rfl ts_cdRoot_ranged ts_cdRoot_noRange hp

/-- the tree of example 2, what the child's range selects, and the test WITHOUT exemption
    (`sp_fthbList` of Lemmas/C05RestSplice.lean) failing on the inline run -/
example : (afterBlocks (exCfg false 100) ts_cdSrc ts_cdRoot []).toOption.map (sp_flat 0) =
      some [(0, 0, 4, []), (1, 0, 4, []), (2, 0, 4, []), (3, 1, 3, ['a', ' ', 'b'])] ∧
    InlineOps.slice ts_cdSrc 1 3 = .ok ['a', 'b'] ∧
    (Inline.parseInline ((exCfg false 100).inlineCfg []) ts_cdTxt ts_cdMap).toOption.map
      (fun ns => (sp_fthbList ts_cdSrc ns, ts_fthbList ts_cdSrc false ns)) = some (false, true) := by
  decide +kernel

end MdIt.Pipeline
