/-
  Helper development for `Props/Inline.lean`: the text normal form of the RAW tokenizer output when
  no emphasis-like rule is configured (then no `FragmentsJoin` runs): no empty `Text`, no two
  adjacent `Text`s, at every depth — through `C14.push_no_adjacent` / `C14.pop_no_adjacent` and the
  projection `erase`.
-/
import MdIt.Lemmas.InlineCalm
import MdIt.Lemmas.InlineJoin

namespace MdIt.Inline
open MdIt.InlineOps (Srcmap getSourcePosFor getMap byteLen slice INode)

/-! ## `trailing_text_push / pop` through the projection -/

theorem eraseList_append (a b : List Node) : eraseList (a ++ b) = eraseList a ++ eraseList b := by
  simp [eraseList_eq_map]

theorem erase_newText (c : List Char) (r : Option (Nat × Nat)) :
    erase (Node.newText c r) = INode.newText c r := by
  simp [Node.newText, INode.newText, erase, eraseList]

theorem erase_text_with {n : Node} (h : n.isText = true) (c : List Char) (r : Option (Nat × Nat)) :
    erase { n with val := .text c, range := r } = { erase n with content := c, range := r } := by
  obtain ⟨v, r0, cs⟩ := n
  cases v <;> simp_all [erase, Node.isText]

theorem popLast_erase (cs : List Node) :
    InlineOps.popLast (eraseList cs) =
      match popLast cs with
      | none => none
      | some (i, l) => some (eraseList i, erase l) := by
  rcases popLast_spec cs with ⟨hp, rfl⟩ | ⟨init, last, hp, rfl⟩
  · rw [hp]; rfl
  · rw [hp, eraseList_append]
    simp only [eraseList]
    exact C05.popLast_snoc _ _

theorem liftOps_ok' {α : Type} {x : Except InlineOps.Panic α} {a : α} (h : liftOps x = .ok a) :
    x = .ok a := liftOps_ok.mp h

/-- a successful `trailing_text_push` of this model is `InlineOps.trailingTextPush` on the
    projection -/
theorem erase_trailingTextPush {src : List Char} {m : Srcmap} {cs out : List Node} {a b : Nat}
    (h : trailingTextPush src m cs a b = .ok out) :
    InlineOps.trailingTextPush src m (eraseList cs) a b = .ok (eraseList out) := by
  -- a fresh text node on both sides
  have hfresh : (match liftOps (slice src a b) with
      | .error e => (.error e : Except RPanic (List Node))
      | .ok piece =>
        match liftOps (getMap m a b) with
        | .error e => .error e
        | .ok r => .ok (cs ++ [Node.newText piece (some r)])) = .ok out →
      (match slice src a b with
        | .error e => (.error e : Except InlineOps.Panic (List INode))
        | .ok piece =>
          match getMap m a b with
          | .error e => .error e
          | .ok r => .ok (eraseList cs ++ [INode.newText piece (some r)])) = .ok (eraseList out) := by
    cases slice src a b with
    | error e => intro ho; cases ho
    | ok piece =>
      cases getMap m a b with
      | error e => intro ho; cases ho
      | ok r =>
        intro ho; cases ho
        simp only [eraseList_append, eraseList, erase_newText]
  revert h
  unfold InlineOps.trailingTextPush
  rw [popLast_erase]
  fun_cases trailingTextPush src m cs a b with
  | case1 _ hpop => rw [hpop]; exact hfresh
  | case2 | case4 => intro h; cases h
  | case3 init last hpop ht piece hp hr =>
    intro h; cases h
    rw [hpop]
    simp only [erase_isText, erase_range, erase_content]
    rw [if_pos ht, liftOps_ok' hp, hr]
    simp only [eraseList_append, eraseList, Except.ok.injEq]
    congr 1
    simp only [List.cons.injEq, and_true]
    exact (erase_text_with ht _ none).symm
  | case5 init last hpop ht piece hp ms me hr mapEnd hme =>
    intro h; cases h
    rw [hpop]
    simp only [erase_isText, erase_range, erase_content]
    rw [if_pos ht, liftOps_ok' hp, hr]
    simp only
    rw [liftOps_ok' hme]
    simp only [eraseList_append, eraseList, Except.ok.injEq]
    congr 1
    simp only [List.cons.injEq, and_true]
    exact (erase_text_with ht _ _).symm
  | case6 _ init last hpop ht =>
    rw [hpop]
    simp only [erase_isText]
    rw [if_neg ht]; exact hfresh

/-- the same for `trailing_text_pop` -/
theorem erase_trailingTextPop {cs out : List Node} {count : Nat}
    (h : trailingTextPop cs count = .ok out) :
    InlineOps.trailingTextPop (eraseList cs) count = .ok (eraseList out) := by
  revert h
  unfold InlineOps.trailingTextPop
  fun_cases trailingTextPop cs count with
  | case1 h0 => intro h; cases h; rw [if_pos h0]
  | case2 | case3 | case5 | case6 | case8 => intro h; cases h
  | case4 h0 init last hpop ht heq =>
    intro h; cases h
    rw [if_neg h0, popLast_erase, hpop]
    simp only [erase_isText, erase_content]
    rw [if_neg ht, if_pos heq]
  | case7 h0 init last hpop ht hne hlt content' htr hr =>
    intro h; cases h
    rw [if_neg h0, popLast_erase, hpop]
    simp only [erase_isText, erase_content, erase_range]
    rw [if_neg ht, if_neg hne, if_neg hlt, liftOps_ok' htr, hr]
    simp only [eraseList_append, eraseList, Except.ok.injEq]
    congr 1
    simp only [List.cons.injEq, and_true]
    exact (erase_text_with (by simpa using ht) content' none).symm
  | case9 h0 init last hpop ht hne hlt content' htr ms me hr hge =>
    intro h; cases h
    rw [if_neg h0, popLast_erase, hpop]
    simp only [erase_isText, erase_content, erase_range]
    rw [if_neg ht, if_neg hne, if_neg hlt, liftOps_ok' htr, hr]
    simp only
    rw [if_neg hge]
    simp only [eraseList_append, eraseList, Except.ok.injEq]
    congr 1
    simp only [List.cons.injEq, and_true]
    exact (erase_text_with (by simpa using ht) content' _).symm

/-! ## the text of a code span is never empty -/

theorem codeByteLen_ne_nil {l : List Char} (h : 0 < CodePair.byteLen l) : l ≠ [] := by
  intro e; subst e; simp [CodePair.byteLen] at h

theorem findB_zero {m : Char} {s : List Char} (h : CodePair.findB m s = some 0) : s.head? = some m := by
  cases s with
  | nil => simp [CodePair.findB] at h
  | cons c r =>
    unfold CodePair.findB at h
    split at h
    · next hc => simp [hc]
    · cases hf : CodePair.findB m r with
      | none => simp [hf] at h
      | some k =>
        simp only [hf, Option.map_some, Option.some.injEq] at h
        have := Char.utf8Size_pos c
        omega

theorem mkNode_content_ne {src : List Char} {sp p ms me n : Nat} {nd : CodePair.Node}
    (h : CodePair.mkNode src sp p ms me n = .ok nd) (hlt : p < ms) : nd.content ≠ [] := by
  have hf : ∀ a b c d e (ct : List Char), CodePair.finishNode a b c d e ct = .ok nd → nd.content = ct := by
    intro a b c d e ct hf
    unfold CodePair.finishNode at hf
    split at hf
    · split at hf
      · simp only [Except.ok.injEq] at hf; subst hf; rfl
      · simp at hf
    · simp at hf
  unfold CodePair.mkNode at h
  split at h
  · simp at h
  · next raw hraw =>
    obtain ⟨x, z, _, hx, hu⟩ := CodePair.slice_some hraw
    have hlen : 0 < CodePair.byteLen (CodePair.normalise raw) := by
      rw [CodePair.byteLen_normalise]; omega
    simp only at h
    split at h
    · next hpad =>
      split at h
      · simp at h
      · next inner hin =>
        split at h
        · simp at h
        · rw [hf _ _ _ _ _ _ h]
          obtain ⟨x', z', _, hx', hu'⟩ := CodePair.slice_some hin
          unfold CodePair.padded at hpad
          simp only [Bool.and_eq_true, decide_eq_true_eq] at hpad
          exact codeByteLen_ne_nil (by omega)
    · rw [hf _ _ _ _ _ _ h]; exact codeByteLen_ne_nil hlen

theorem scan_content_ne (v : CodePair.Variant) (m : Char) (src : List Char)
    (pos posMax n p : Nat) (silent : Bool) (matchEnd : Nat) (c : CodePair.Cache) (o : CodePair.Outcome)
    (c' : CodePair.Cache) (nd : CodePair.Node)
    (H : p < matchEnd ∨ (matchEnd = p ∧ ∀ s, CodePair.slice src p posMax = some s → s.head? ≠ some m))
    (h : CodePair.scan v m src pos posMax n p silent matchEnd c = .ok (some o, c'))
    (hn : o.node = some nd) : nd.content ≠ [] := by
  fun_induction CodePair.scan v m src pos posMax n p silent matchEnd c
  case case1 => simp at h
  case case2 => simp at h
  case case3 => simp at h
  case case4 => simp at h
  case case5 =>
    simp only [Except.ok.injEq, Prod.mk.injEq, Option.some.injEq] at h
    obtain ⟨rfl, _⟩ := h; simp at hn
  case case6 => simp_all
  case case7 matchEnd c s hs off hf s' hs' heq hnu hsil nd' hmk =>
    simp only [Except.ok.injEq, Prod.mk.injEq, Option.some.injEq] at h
    obtain ⟨rfl, _⟩ := h
    simp only [Option.some.injEq] at hn; subst hn
    apply mkNode_content_ne hmk
    rcases H with H | ⟨rfl, H⟩
    · omega
    · have := H s hs
      have : off ≠ 0 := by
        intro e; subst e; exact this (findB_zero hf)
      omega
  case case8 => simp_all
  case case9 matchEnd c s hs off hf s' hs' hne mx hrec ih =>
    apply ih _ h
    left
    rcases H with H | ⟨rfl, _⟩ <;> omega

theorem runLen_tail (m : Char) (l : List Char) :
    ∃ t, l = List.replicate (CodePair.runLen m l) m ++ t ∧ t.head? ≠ some m := by
  induction l with
  | nil => exact ⟨[], rfl, by simp⟩
  | cons c r ih =>
    unfold CodePair.runLen
    split
    · next hc =>
      obtain ⟨t, ht, hh⟩ := ih
      refine ⟨t, ?_, hh⟩
      rw [List.replicate_succ, List.cons_append, ← ht, hc]
    · next hc => exact ⟨c :: r, rfl, by simpa using hc⟩

theorem run_content_ne (v : CodePair.Variant) (m : Char) (hm1 : m.utf8Size = 1) (src : List Char)
    (pos posMax : Nat) (prev silent : Bool) (c : CodePair.Cache) (o : CodePair.Outcome)
    (c' : CodePair.Cache) (nd : CodePair.Node)
    (h : CodePair.run v m src pos posMax prev silent c = .ok (some o, c')) (hn : o.node = some nd) :
    nd.content ≠ [] := by
  obtain ⟨rest, hw, hs⟩ := run_some_scan h
  refine scan_content_ne _ _ _ _ _ _ _ _ _ _ _ _ _ (Or.inr ⟨rfl, ?_⟩) hs hn
  -- the text behind the opener run does not start with the marker
  intro s hs
  obtain ⟨x, z, hsrc, hx, hu⟩ := CodePair.slice_some hw
  obtain ⟨t, ht, hh⟩ := runLen_tail m rest
  have hrep := CodePair.byteLen_replicate hm1 (CodePair.runLen m rest)
  have hsrc2 : src = (x ++ m :: List.replicate (CodePair.runLen m rest) m) ++ t ++ z := by
    rw [hsrc]; conv => lhs; rw [ht]
    simp
  have hbl : CodePair.byteLen (x ++ m :: List.replicate (CodePair.runLen m rest) m)
      = pos + 1 + CodePair.runLen m rest := by
    rw [CodePair.byteLen_append]; simp only [CodePair.byteLen, hm1, hrep]; omega
  have hpm : posMax = pos + 1 + CodePair.runLen m rest + CodePair.byteLen t := by
    have : CodePair.byteLen (m :: rest) = 1 + CodePair.runLen m rest + CodePair.byteLen t := by
      conv => lhs; rw [ht]
      simp only [CodePair.byteLen, CodePair.byteLen_append, hm1, hrep]
      omega
    omega
  have := CodePair.slice_mid (x ++ m :: List.replicate (CodePair.runLen m rest) m) t z
  rw [hbl, ← hpm, ← hsrc2] at this
  rw [this] at hs
  simp only [Option.some.injEq] at hs; subst hs; exact hh

end MdIt.Inline
