/-
  The contracts of the guarded inline no-panic proof (Lemmas/InlineNoPanic.lean, InlineTotalFrame.lean,
  InlineTotalStep.lean, InlineTotalLoop.lean: `Good`, `FlatStep`, `StepT`, `RealT`, `TokHypT`, `LoopT`) restated
  for per-line tables that are only `C05T.MapT` — every `get_lines` table, split tabs included
  (`C05T.mapT_of_virt`) — with the frame invariant `C05T.RIv` (Lemmas/C05TabsDefs.lean) in place of
  `Inline.RI`: `GoodT`, `FlatStepT`, `StepTT`, `RealTT`, `TokHypTT`, `LoopTT`.  They say what a direct
  no-panic proof over `MapT` tables would maintain; `Props/TotalTabs.lean` does not go that way (it transfers
  the result from the table `[(0, 0)]` by the lock-step simulation of Lemmas/TotalTabsSim.lean /
  TotalTabsSim2.lean), so nothing uses them but `GoodT.trailOKw` (Lemmas/TotalTabsRules.lean).
-/
import MdIt.Lemmas.InlineTotalLoop
import MdIt.Lemmas.C05TabsRanges

namespace MdIt.C05T
open MdIt.Inline

/-- `tailSpaces` counts the MAXIMAL run of trailing blanks: the character in front of them is not
    a blank -/
theorem tv_tailSpaces_max {pre0 s : List Char} {ch0 : Char} {k : Nat}
    (h : s = pre0 ++ [ch0] ++ List.replicate k ' ') (hk : tailSpaces s = k) : ch0 ≠ ' ' := by
  intro hc; subst hc
  have hrev : s.reverse = List.replicate (k + 1) ' ' ++ pre0.reverse := by
    rw [h, List.reverse_append, List.reverse_append, List.reverse_replicate, List.replicate_succ']
    simp
  have htw : s.reverse.takeWhile (· == ' ')
      = List.replicate (k + 1) ' ' ++ pre0.reverse.takeWhile (· == ' ') := by
    rw [hrev, List.takeWhile_append_of_pos]
    intro a ha; rw [List.eq_of_mem_replicate ha]; rfl
  unfold tailSpaces at hk
  rw [htw] at hk
  simp at hk
  omega

end MdIt.C05T

namespace MdIt.Inline.TT
open MdIt.Inline
open MdIt.InlineOps (Srcmap getSourcePosFor getMap byteLen slice)
open MdIt.C05T (MapT RIv tv_RInv tv_NlAct tv_StepRI tv_StepOK SolidMarkers)

/-- what the no-panic theorem for `MapT` tables maintains along a run (frame started at source `lo`):
    `Inline.Good` with `MapT` for `MapOK` and `RIv` (in a frame where the newline rule is active a
    trailing `Text` holds no line feed) for `RI` -/
structure GoodT (cfg : Cfg) (lo : Nat) (st : IState) : Prop where
  le : st.pos ≤ st.posMax
  bpos : Boundary st.src st.pos
  bmax : Boundary st.src st.posMax
  map : MapT st.src st.srcmap
  stop : EntStop st.src st.posMax
  ri : tv_RInv (tv_NlAct cfg st.level) lo st
  bottoms : BottomsOK st.bottoms

theorem GoodT.inv {cfg : Cfg} {lo : Nat} {st : IState} (h : GoodT cfg lo st) (hlt : st.pos < st.posMax) :
    InlineInv st :=
  ⟨hlt, h.bpos, h.bmax, h.map.wf⟩

theorem GoodT.linv {cfg : Cfg} {lo : Nat} {st : IState} (h : GoodT cfg lo st) (hm : MemoB st) : LInv st :=
  ⟨h.le, h.bpos, h.bmax, h.map.wf, h.stop, hm⟩

/-- a successful flat rule in real mode (`Inline.FlatStep` over `RIv`) -/
structure FlatStepT (cfg : Cfg) (lo : Nat) (st : IState) (o : Option Nat) (st' : IState) : Prop where
  frame : Frame st st'
  pos : st'.pos = st.pos
  adv : Advances st o
  ri : tv_StepRI (tv_NlAct cfg st.level) lo st o st'
  bottoms : BottomsOK st'.bottoms

/-- what `tokenize` guarantees on a good state -/
def TokHypTT (cfg : Cfg) (tok : IState → Except Panic IState) : Prop :=
  ∀ lo s, GoodT cfg lo s → MemoB s → TokT s (tok s)

/-- what a rule call in real mode leaves behind (`Inline.StepT` over `GoodT`) -/
structure StepTT (cfg : Cfg) (lo : Nat) (st : IState) (o : Option Nat) (st' : IState) : Prop where
  good : GoodT cfg lo { st' with pos := st'.pos + o.getD 0 }
  memo : MemoB st'
  frame : Frame st st'
  nonePos : o = none → st'.pos = st.pos
  adv : ∀ len, o = some len → st.pos < st'.pos + len

/-- what a rule call in real mode guarantees (`Inline.RealT` over `GoodT`) -/
structure RealTT (cfg : Cfg) (lo : Nat) (st : IState) (r : RuleRes) : Prop where
  noRust : NoRust r
  ok : ∀ o st', r = .ok (o, st') → StepTT cfg lo st o st'

/-- what the guarded `tokenize` loop guarantees from a good state (`Inline.LoopT` over `GoodT`) -/
structure LoopTT (cfg : Cfg) (lo : Nat) (st : IState) (r : Except Panic IState) : Prop where
  noRust : NoRust r
  ok : ∀ st', r = .ok st' → Frame st st' ∧ MemoB st' ∧ GoodT cfg lo st'

theorem LoopTT.tokT {cfg : Cfg} {lo : Nat} {st : IState} {r : Except Panic IState}
    (h : LoopTT cfg lo st r) : TokT st r :=
  ⟨h.noRust, fun st' hr => ⟨(h.ok st' hr).1, (h.ok st' hr).2.1, (h.ok st' hr).2.2.le⟩⟩

end MdIt.Inline.TT
