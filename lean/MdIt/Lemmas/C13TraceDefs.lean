/-
  C13 tied to SOURCE LINES, definitions (namespace `MdIt.Block.Tr`).

  An INSTRUMENTED READING of the block tokenizer: `tokenizeT cfg fuel s` returns the state the model's
  `tokenize cfg fuel s` returns, plus the list of the successful real-mode rule calls of the run
  (`Call` = rule, state before, state after) in EXECUTION order, the calls of a nested tokenizer
  (block quote, list item) directly behind the call of the container rule that started it.
  `Trace := List (RuleId × Nat × Nat)` (rule, first line, line behind the last line) is its
  projection `traceOf`.

  The functions `…Calls` follow the control flow of the model (`tokLoop`, `runChain`, `blockquoteRule`,
  `listRule`, `listLoop`, `listItem`) and re-run the model's own functions for every state they
  need, so the states in the trace ARE the states of the run; agreement with the model on the state
  is therefore by construction (`tokenizeT_state`).  What makes the trace faithful is proved in
  `Lemmas/C13TraceInv.lean`: every entry is a successful call of `ruleAt` (`Good.fired`), the
  reference map of the run is threaded through exactly the `reference` entries (`Thread`), and the
  entries are laminar in their line ranges (`Lam`).
-/
import MdIt.Props.LinksDoc

namespace MdIt.Block.Tr
open MdIt.Lines (LineOffset)
open MdIt.Block

/-- a successful real-mode rule call: the rule, the state it got, the state it handed back -/
abbrev Call := RuleId × BState × BState

def Call.rule (c : Call) : RuleId := c.1
def Call.pre (c : Call) : BState := c.2.1
def Call.post (c : Call) : BState := c.2.2
/-- the line the rule was called on -/
def Call.start (c : Call) : Nat := c.2.1.line
/-- the line behind the last line it consumed -/
def Call.stop (c : Call) : Nat := c.2.2.line

@[simp] theorem Call.rule_mk (r : RuleId) (s s' : BState) : Call.rule (r, s, s') = r := rfl
@[simp] theorem Call.pre_mk (r : RuleId) (s s' : BState) : Call.pre (r, s, s') = s := rfl
@[simp] theorem Call.post_mk (r : RuleId) (s s' : BState) : Call.post (r, s, s') = s' := rfl
@[simp] theorem Call.start_mk (r : RuleId) (s s' : BState) : Call.start (r, s, s') = s.line := rfl
@[simp] theorem Call.stop_mk (r : RuleId) (s s' : BState) : Call.stop (r, s, s') = s'.line := rfl

abbrev Calls := List Call

/-- (rule, first line, line behind the last line) -/
abbrev Trace := List (RuleId × Nat × Nat)

def traceOf (cs : Calls) : Trace := cs.map fun c => (c.rule, c.start, c.stop)

/-- the calls of a nested tokenizer run, as a function of the state it is started on -/
abbrev TokTr := BState → Calls

/-! ## the instrumented reading -/

/-- the state `blockquoteRule` starts the nested tokenizer on (`s1` = the state behind `bqScan`); the same
    term as `Block.nestBq` of Props/C06.lean, which this file does not import -/
abbrev bqNest (s1 : BState) (line nextLine : Nat) : BState :=
  { s1 with blkIndent := 0, nodeKind := .blockquote, children := [], line := line,
            lineMax := nextLine, level := s1.level + 1 }

/-- the state `listItem` rewrites the item's first line in; the same term as `Block.nestItem` of Props/C06.lean -/
abbrev itemNest (s : BState) (indent : Nat) : BState :=
  { s with nodeKind := .listItem, children := [], listIndent := some s.blkIndent,
           blkIndent := indent, tight := true }

/-- `blockquoteRule`: the calls of the nested tokenizer (started on the state behind `bqScan`) -/
def bqCalls (tokTr : TokTr) (test : Test) (fuel : Nat) (s : BState) : Calls :=
  match bqScan test fuel s s.line [] false with
  | .ok (nextLine, _, s1) => tokTr (bqNest s1 s.line nextLine)
  | .error _ => []

/-- `listItem`: the calls of the nested tokenizer of one item (none for the empty-item workaround) -/
def itemCalls (tokTr : TokTr) (s : BState) (nextLine pos : Nat) : Calls :=
  match s.off nextLine with
  | .error _ => []
  | .ok o =>
    match itemRewrite s.src o pos with
    | .error _ => []
    | .ok (o', indent, reachedEnd) =>
      match (itemNest s indent).setOff nextLine o' with
      | .error _ => []
      | .ok s2 =>
        if reachedEnd ∧ s2.isEmpty (nextLine + 1) then []
        else tokTr { s2 with line := nextLine, level := s2.level + 1 }

/-- `listLoop`: the items' calls, one item after the other -/
def listLoopCalls (tokTr : TokTr) (tok : Tok) (test : Test) (ordered : Bool) (mc : Char) :
    Nat → BState → Nat → Nat → Bool → Bool → Calls
  | 0, _, _, _, _, _ => []
  | fuel + 1, s, nextLine, pos, pee, tight =>
    if ¬ nextLine < s.lineMax then [] else
    match listItem tok s nextLine pos pee tight with
    | .error _ => []
    | .ok (s1, tight1, pee1) =>
      itemCalls tokTr s nextLine pos ++
      match listContinue test ordered mc s1 s1.line with
      | .ok (some p, s2) => listLoopCalls tokTr tok test ordered mc fuel s2 s1.line p pee1 tight1
      | _ => []

/-- `listRule`: marker detection as in the rule, then the item loop -/
def listCalls (tokTr : TokTr) (tok : Tok) (test : Test) (fuel : Nat) (s : BState) : Calls :=
  match s.getLine s.line with
  | .error _ => []
  | .ok cur =>
    match detectMarker cur with
    | .ok (some (pos, mv)) =>
      match markerCharOf cur pos with
      | .error _ => []
      | .ok mc =>
        listLoopCalls tokTr tok test mv.isSome mc fuel
          { s with nodeKind := (match mv with
                                | some v => Kind.orderedList v mc
                                | none => Kind.bulletList mc),
                   children := [], level := s.level + 1 } s.line pos false true
    | _ => []

/-- the nested calls of one successful rule call (only the two container rules have any) -/
def ruleCalls (tokTr : TokTr) (tok : Tok) (test : Test) (fuel : Nat) : RuleId → BState → Calls
  | .blockquote, s => bqCalls tokTr test fuel s
  | .list, s => listCalls tokTr tok test fuel s
  | _, _ => []

/-- `runChain` in real mode: the call of the rule that fires, followed by its nested calls -/
def chainCalls (run : RuleId → BState → Bool → Res) (inner : RuleId → BState → Calls) :
    List RuleId → BState → Calls
  | [], _ => []
  | r :: rs, s =>
    match run r s false with
    | .error _ => []
    | .ok (true, s') => (r, s, s') :: inner r s
    | .ok (false, s') => chainCalls run inner rs s'

/-- `tokLoop`: the calls of one iteration after the other -/
def tokLoopCalls (cfg : Cfg) (run : RuleId → BState → Bool → Res) (inner : RuleId → BState → Calls) :
    Nat → Bool → BState → Calls
  | 0, _, _ => []
  | fuel + 1, hasEmpty, s =>
    if ¬ s.line < s.lineMax then [] else
    let s := { s with line := Lines.skipEmptyLines s.offs s.lineMax s.line }
    if s.line ≥ s.lineMax then [] else
    match s.lineIndent s.line with
    | .error _ => []
    | .ok ind =>
      if ind < 0 then [] else
      if s.level ≥ cfg.maxNesting then [] else
      match runChain run cfg.chain s false with
      | .error _ => []
      | .ok (ok, s1) =>
        match afterChain ok s1 s.line with
        | .error _ => []
        | .ok s2 =>
          let s3 := { s2 with tight := !hasEmpty }
          match psub s3.line 1 with
          | .error _ => []
          | .ok l1 =>
            chainCalls run inner cfg.chain s ++
            (if s3.line < s3.lineMax ∧ s3.isEmpty s3.line then
              tokLoopCalls cfg run inner fuel true { s3 with line := s3.line + 1 }
            else tokLoopCalls cfg run inner fuel (hasEmpty || s3.isEmpty l1) s3)

/-- the calls of `tokenize cfg fuel` (same recursion on `fuel` as `engine`) -/
def engineCalls (cfg : Cfg) : Nat → TokTr
  | 0 => fun _ => []
  | f + 1 =>
    let p := engine cfg f
    tokLoopCalls cfg (runRule cfg p.1 p.2 (f + 1)) (ruleCalls (engineCalls cfg f) p.1 p.2 (f + 1)) (f + 1) false

/-- **the instrumented tokenizer**: the model's state, and the calls of the run -/
def tokenizeT (cfg : Cfg) (fuel : Nat) (s : BState) : Except Panic (BState × Calls) :=
  match tokenize cfg fuel s with
  | .error e => .error e
  | .ok s' => .ok (s', engineCalls cfg fuel s)

/-- it agrees with the model on the state (and on the panic) -/
theorem tokenizeT_state (cfg : Cfg) (fuel : Nat) (s : BState) :
    Except.map Prod.fst (tokenizeT cfg fuel s) = tokenize cfg fuel s := by
  unfold tokenizeT
  cases tokenize cfg fuel s <;> rfl

theorem tokenizeT_ok {cfg : Cfg} {fuel : Nat} {s s' : BState} {cs : Calls}
    (h : tokenizeT cfg fuel s = .ok (s', cs)) : tokenize cfg fuel s = .ok s' ∧ cs = engineCalls cfg fuel s := by
  unfold tokenizeT at h
  split at h
  · cases h
  · rename_i s1 h1
    cases h
    exact ⟨h1, rfl⟩

/-- the calls of the block pass of a document -/
def docCalls (cfg : Cfg) (src : List Char) : Calls :=
  engineCalls cfg (fuelFor cfg src) (BState.fresh src .root [])

/-- **the trace of a document**: (rule, start line, end line) of every successful rule call of the
    block pass, in execution order -/
def docTrace (cfg : Cfg) (src : List Char) : Trace := traceOf (docCalls cfg src)

/-! ## laminar line ranges -/

def isContainer : RuleId → Bool
  | .blockquote => true
  | .list => true
  | _ => false

/-- `c₂` (later in the list) lies behind `c₁`, or inside the container `c₁` -/
def Follows (c₁ c₂ : Call) : Prop :=
  c₁.stop ≤ c₂.start ∨ (isContainer c₁.rule = true ∧ c₁.start ≤ c₂.start ∧ c₂.stop ≤ c₁.stop)

/-- the calls lie in `[a, b]`, each consumes at least one line, and any two are disjoint with the
    earlier one in front — or the later one lies inside the earlier one, which is a container -/
structure Lam (a b : Nat) (cs : Calls) : Prop where
  le : a ≤ b
  bounds : ∀ c ∈ cs, a ≤ c.start ∧ c.start < c.stop ∧ c.stop ≤ b
  pw : cs.Pairwise Follows

theorem Lam.nil {a b : Nat} (h : a ≤ b) : Lam a b [] := ⟨h, by simp, List.Pairwise.nil⟩

theorem Lam.widen {a b a' b' : Nat} {cs : Calls} (h : Lam a b cs) (ha : a' ≤ a) (hb : b ≤ b') :
    Lam a' b' cs :=
  ⟨by have := h.le; omega, fun c hc => by have := h.bounds c hc; omega, h.pw⟩

theorem Lam.append {a m m' b : Nat} {cs₁ cs₂ : Calls} (h₁ : Lam a m cs₁) (h₂ : Lam m' b cs₂)
    (hm : m ≤ m') : Lam a b (cs₁ ++ cs₂) := by
  have := h₁.le
  have := h₂.le
  refine ⟨by omega, ?_, ?_⟩
  · intro c hc
    rcases List.mem_append.mp hc with hc | hc
    · have := h₁.bounds c hc; omega
    · have := h₂.bounds c hc; omega
  · rw [List.pairwise_append]
    refine ⟨h₁.pw, h₂.pw, ?_⟩
    intro c₁ hc₁ c₂ hc₂
    left
    have := h₁.bounds c₁ hc₁
    have := h₂.bounds c₂ hc₂
    omega

/-- a call with its nested calls behind it -/
theorem Lam.cons {a b : Nat} {c : Call} {cs : Calls} (ha : a ≤ c.start) (hlt : c.start < c.stop)
    (hb : c.stop ≤ b) (hcs : cs = [] ∨ isContainer c.rule = true) (h : Lam c.start c.stop cs) :
    Lam a b (c :: cs) := by
  refine ⟨by omega, ?_, ?_⟩
  · intro x hx
    rcases List.mem_cons.mp hx with rfl | hx
    · exact ⟨ha, hlt, hb⟩
    · have := h.bounds x hx; omega
  · rw [List.pairwise_cons]
    refine ⟨?_, h.pw⟩
    intro x hx
    rcases hcs with rfl | hcs
    · simp at hx
    · right
      have := h.bounds x hx
      exact ⟨hcs, by omega, by omega⟩

/-- the calls of one rule: in execution order they are sorted by line, with disjoint line ranges,
    whenever the rule is not a container -/
theorem Lam.sorted {a b : Nat} {cs : Calls} (h : Lam a b cs) (r : RuleId) (hr : isContainer r = false) :
    (cs.filter (fun c => c.rule = r)).Pairwise (fun c₁ c₂ => c₁.stop ≤ c₂.start) := by
  have hsub : (cs.filter (fun c => c.rule = r)).Pairwise Follows :=
    h.pw.sublist List.filter_sublist
  refine List.Pairwise.imp_of_mem ?_ hsub
  intro c₁ c₂ h₁ _ hf
  have e : c₁.rule = r := by simpa using (List.mem_filter.mp h₁).2
  rcases hf with hf | ⟨hc, _⟩
  · exact hf
  · rw [e, hr] at hc; cases hc

/-! ## the reference map along the calls -/

/-- the call `(reference, u, u')` read a definition off the lines `u.line .. n` of the view of its
    container (`u.offs`, `u.blk_indent`): `d` is what `refParse` made of that text (trimmed), the
    definition itself ends on line `u'.line - 1 < n`, and its label is not blank -/
def IsDefAt (cfg : Cfg) (u u' : BState) (d : Refs.Def) : Prop :=
  ∃ (n : Nat) (txt : List Char) (mp : List (Nat × Nat)) (lines : Nat),
    u'.line = u.line + lines + 1 ∧ u'.line ≤ n ∧ n ≤ u.lineMax ∧
    u.getLines u.line n u.blkIndent false = .ok (txt, mp) ∧
    refParse cfg (trimStr txt) = .ok (some (d.label, d.entry.dest, d.entry.title, lines)) ∧
    cfg.N d.label ≠ []

theorem IsDefAt.isDef {cfg : Cfg} {u u' : BState} {d : Refs.Def} (h : IsDefAt cfg u u' d) : IsDef cfg d := by
  obtain ⟨n, txt, mp, lines, _, _, _, _, hp, _⟩ := h
  exact ⟨_, _, hp⟩

/-- the map `m` becomes `m'` along the calls: every `reference` call finds the map its predecessor
    left, and leaves it with ONE `Refs.addDef` of the definition it read (`IsDefAt`); the other
    calls do not matter -/
def Thread (cfg : Cfg) : Refs.RefMap → Refs.RefMap → Calls → Prop
  | m, m', [] => m' = m
  | m, m', c :: rest =>
    if c.rule = .reference then
      c.pre.refs = m ∧ (∃ d, IsDefAt cfg c.pre c.post d ∧ c.post.refs = Refs.addDef cfg.N m d) ∧
        Thread cfg c.post.refs m' rest
    else Thread cfg m m' rest

theorem Thread.append {cfg : Cfg} : ∀ {cs₁ cs₂ : Calls} {m m₁ m₂ : Refs.RefMap},
    Thread cfg m m₁ cs₁ → Thread cfg m₁ m₂ cs₂ → Thread cfg m m₂ (cs₁ ++ cs₂)
  | [], _, _, _, _, h₁, h₂ => by simp only [Thread] at h₁; subst h₁; exact h₂
  | c :: rest, cs₂, m, m₁, m₂, h₁, h₂ => by
    simp only [Thread, List.cons_append] at h₁ ⊢
    split
    · rename_i hr
      rw [if_pos hr] at h₁
      exact ⟨h₁.1, h₁.2.1, Thread.append h₁.2.2 h₂⟩
    · rename_i hr
      rw [if_neg hr] at h₁
      exact Thread.append h₁ h₂

theorem Thread.cons_other {cfg : Cfg} {c : Call} {cs : Calls} {m m' : Refs.RefMap}
    (hr : c.rule ≠ .reference) (h : Thread cfg m m' cs) : Thread cfg m m' (c :: cs) := by
  simp only [Thread, if_neg hr]; exact h

/-- the definitions the `reference` calls read, with their calls -/
structure Located (cfg : Cfg) (c : Call) (d : Refs.Def) : Prop where
  rule : c.rule = .reference
  isDef : IsDefAt cfg c.pre c.post d

/-- what a thread amounts to: the `reference` calls, each with the definition it read, and the final
    map is the fold of `Refs.addDef` over these definitions in execution order -/
theorem Thread.defs {cfg : Cfg} : ∀ {cs : Calls} {m m' : Refs.RefMap}, Thread cfg m m' cs →
    ∃ L : List (Call × Refs.Def), L.map Prod.fst = cs.filter (fun c => c.rule = .reference) ∧
      (∀ x ∈ L, Located cfg x.1 x.2) ∧ m' = (L.map Prod.snd).foldl (Refs.addDef cfg.N) m
  | [], m, m', h => by simp only [Thread] at h; exact ⟨[], rfl, by simp, by simp [h]⟩
  | c :: rest, m, m', h => by
    simp only [Thread] at h
    split at h
    · rename_i hr
      obtain ⟨_, ⟨d, hd, hm⟩, hrest⟩ := h
      obtain ⟨L, h1, h2, h3⟩ := Thread.defs hrest
      refine ⟨(c, d) :: L, ?_, ?_, ?_⟩
      · simp [hr, h1]
      · intro x hx
        rcases List.mem_cons.mp hx with rfl | hx
        · exact ⟨hr, hd⟩
        · exact h2 x hx
      · simp only [List.map_cons, List.foldl_cons]
        rw [← hm]; exact h3
    · rename_i hr
      obtain ⟨L, h1, h2, h3⟩ := Thread.defs h
      exact ⟨L, by simp [hr, h1], h2, h3⟩

end MdIt.Block.Tr
