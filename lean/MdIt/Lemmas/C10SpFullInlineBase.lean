/-
  C10 with the sourcepos plugin, full version — the exact lock-step simulation of the inline parser under
  two per-line tables that are both `MapOK`: the instance `MdIt.Inline.XS` of the simulation of
  `Lemmas/C10SpInlineBase.lean` / `Emph` / `Link` (read the header of the first).

  The relations are written out for a context `K` (the inline text and the two tables): a stretch starts
  at a character other than the line feed, and nothing is recorded about where it ends (`p ≤ q ≤ |c|`
  comes from the single-run range theorem at the end, Lemmas/C10SpFullInline.lean).  `Ctx.par` are the
  parameters of the general development, `nrel_iff` … `irel_iff` say that the relations are its
  relations.
-/
import MdIt.Lemmas.C10SpInlineLink
import MdIt.Lemmas.C10SpFullDefs

namespace MdIt.Inline.XS
open MdIt.InlineOps (Srcmap getSourcePosFor getMap byteLen slice)
open MdIt.Pipeline (MLe)
open MdIt.C10SP (CharNotLf)

/-- the context of one simulation: the inline text and the two tables -/
structure Ctx where
  c : List Char
  m₁ : Srcmap
  m₂ : Srcmap
  ok₁ : MapOK c m₁
  ok₂ : MapOK c m₂

variable {K : Ctx}

/-- the two ranges are the translations of ONE stretch `[p, q]` of the inline text whose first
    character is not the line feed (`C10SP.SameSpan` without `p ≤ q ≤ |c|`, which the single-run range
    theorem `parseInline_ranges_exact` gives back at the end) -/
def Span (K : Ctx) (r₁ r₂ : Option (Nat × Nat)) : Prop :=
  ∃ p q a₁ b₁ a₂ b₂, r₁ = some (a₁, b₁) ∧ r₂ = some (a₂, b₂) ∧ CharNotLf K.c p ∧
    getSourcePosFor K.m₁ p = .ok a₁ ∧ getSourcePosFor K.m₁ q = .ok b₁ ∧
    getSourcePosFor K.m₂ p = .ok a₂ ∧ getSourcePosFor K.m₂ q = .ok b₂

/-- THE TOKEN INVARIANT of an `EmphMarker` with `rem` delimiters left: both ranges are the translations
    of ONE stretch `[p, p + rem]` on which both translations are shifts, and a character other than the
    line feed starts at each of `p, …, p + rem - 1` -/
def TokInv (K : Ctx) (rem : Nat) (r₁ r₂ : Option (Nat × Nat)) : Prop :=
  ∃ p a₁ a₂, r₁ = some (a₁, a₁ + rem) ∧ r₂ = some (a₂, a₂ + rem) ∧
    (∀ j, j ≤ rem → getSourcePosFor K.m₁ (p + j) = .ok (a₁ + j) ∧
      getSourcePosFor K.m₂ (p + j) = .ok (a₂ + j)) ∧
    (∀ j, j < rem → CharNotLf K.c (p + j))

/-- what the two ranges of a node with value `v` satisfy beyond `ROrd` -/
def Extra (K : Ctx) : Val → Option (Nat × Nat) → Option (Nat × Nat) → Prop
  | .codeInline _ _, r₁, r₂ => Span K r₁ r₂
  | .wrap _ _, r₁, r₂ => Span K r₁ r₂
  | .link _ _, r₁, r₂ => Span K r₁ r₂
  | .image _ _, r₁, r₂ => Span K r₁ r₂
  | .autolink _, r₁, r₂ => Span K r₁ r₂
  | .emphMarker _ _ rem _ _, r₁, r₂ => TokInv K rem r₁ r₂
  | _, _, _ => True

/-- `Extra` in strict mode -/
def XRel (K : Ctx) (s : Bool) (v : Val) (r₁ r₂ : Option (Nat × Nat)) : Prop := s = true → Extra K v r₁ r₂

theorem XRel.false (v : Val) (r₁ r₂ : Option (Nat × Nat)) : XRel K false v r₁ r₂ := fun h => by cases h

mutual
/-- same value, related ranges, `Extra`, related children -/
def NRel (K : Ctx) (s : Bool) : Node → Node → Prop
  | ⟨v₁, r₁, cs₁⟩, n₂ => v₁ = n₂.val ∧ RRel s r₁ n₂.range ∧ XRel K s v₁ r₁ n₂.range ∧ LRel K s cs₁ n₂.children
def LRel (K : Ctx) (s : Bool) : List Node → List Node → Prop
  | [], l₂ => l₂ = []
  | a :: as, l₂ =>
    match l₂ with
    | [] => False
    | b :: bs => NRel K s a b ∧ LRel K s as bs
end

theorem NRel_iff (s : Bool) (a b : Node) :
    NRel K s a b ↔ a.val = b.val ∧ RRel s a.range b.range ∧ XRel K s a.val a.range b.range ∧
      LRel K s a.children b.children := by
  cases a; simp [NRel]

@[simp] theorem LRel_nil_nil (s : Bool) : LRel K s [] [] := by simp [LRel]
@[simp] theorem LRel_cons_cons (s : Bool) (a b : Node) (as bs : List Node) :
    LRel K s (a :: as) (b :: bs) ↔ NRel K s a b ∧ LRel K s as bs := by simp [LRel]
@[simp] theorem LRel_nil_cons (s : Bool) (b : Node) (bs : List Node) : ¬ LRel K s [] (b :: bs) := by
  simp [LRel]
@[simp] theorem LRel_cons_nil (s : Bool) (a : Node) (as : List Node) : ¬ LRel K s (a :: as) [] := by
  simp [LRel]

/-- the two states work on the text and the tables of the context -/
def KS (K : Ctx) (a b : IState) : Prop := a.src = K.c ∧ a.srcmap = K.m₁ ∧ b.srcmap = K.m₂

/-- everything equal except the table and the ranges in the tree under construction -/
structure IRel (K : Ctx) (s : Bool) (a b : IState) : Prop where
  eq : b = { a with srcmap := b.srcmap, children := b.children }
  map : MRel s a.srcmap b.srcmap
  ch : LRel K s a.children b.children
  ks : KS K a b


theorem tr_total {src : List Char} {m : Srcmap} (hm : MapOK src m) (pos : Nat) :
    ∃ x, getSourcePosFor m pos = .ok x := by
  obtain ⟨i, k, v, _, _, _, _, e⟩ :=
    C05.lineOf_spec_tr m hm.wf pos (C05.clampFree_of_mono m hm.mono pos)
  exact ⟨_, e⟩

/-- WITHIN a stretch of the text without a line feed the translation is a shift -/
theorem tr_shift {src : List Char} {m : Srcmap} (hm : MapOK src m) {a b : Nat} {w : List Char}
    (hs : slice src a b = .ok w) (hn : '\n' ∉ w) {x : Nat} (hx : getSourcePosFor m a = .ok x) (j : Nat)
    (hj : a + j ≤ b) : getSourcePosFor m (a + j) = .ok (x + j) := by
  obtain ⟨y, hy⟩ := tr_total hm (a + j)
  have hno := no_key_inside hm.lf hs hn
  have := translate_same_line m hm.wf hm.mono a (a + j) (by omega)
    (fun i k v hi hk => hno i k v hi ⟨hk.1, by omega⟩) x y hx hy
  rw [hy, this]; congr 2; omega

/-- start character not LF, no bound on the end -/
def Ctx.par (K : Ctx) : XG.Par where
  c := K.c
  m₁ := K.m₁
  m₂ := K.m₂
  track := True
  good := fun ch => ch ≠ '\n'
  lim := fun _ => True
  good_solid := fun h _ => h
  good_nl := fun h => h
  lim_mono := fun _ _ => trivial
  lim_len := trivial
  wf₁ := fun _ => K.ok₁.wf
  shift₁ := fun _ => fun hs hg hn hx j hj =>
    tr_shift K.ok₁ hs (fun hm => by cases hm with | head => exact hg rfl | tail _ h => exact hn h) hx j hj
  shift₂ := fun _ => fun hs hg hn hx j hj =>
    tr_shift K.ok₂ hs (fun hm => by cases hm with | head => exact hg rfl | tail _ h => exact hn h) hx j hj

theorem span_iff {r₁ r₂ : Option (Nat × Nat)} : Span K r₁ r₂ ↔ XG.Span K.par r₁ r₂ :=
  ⟨fun ⟨p, q, a₁, b₁, a₂, b₂, e₁, e₂, h⟩ => ⟨p, q, a₁, b₁, a₂, b₂, e₁, e₂, trivial, h⟩,
   fun ⟨p, q, a₁, b₁, a₂, b₂, e₁, e₂, _, h⟩ => ⟨p, q, a₁, b₁, a₂, b₂, e₁, e₂, h⟩⟩

theorem tokInv_iff {rem : Nat} {r₁ r₂ : Option (Nat × Nat)} : TokInv K rem r₁ r₂ ↔ XG.TokInv K.par rem r₁ r₂ :=
  ⟨fun ⟨p, a₁, a₂, e₁, e₂, h, hc⟩ => ⟨p, a₁, a₂, e₁, e₂, h, hc, trivial⟩,
   fun ⟨p, a₁, a₂, e₁, e₂, h, hc, _⟩ => ⟨p, a₁, a₂, e₁, e₂, h, hc⟩⟩

theorem xrel_iff {s : Bool} {v : Val} {r₁ r₂ : Option (Nat × Nat)} : XRel K s v r₁ r₂ ↔ XG.XRel K.par s v r₁ r₂ := by
  have : Extra K v r₁ r₂ ↔ XG.Extra K.par v r₁ r₂ := by
    cases v <;> first | exact span_iff | exact tokInv_iff | exact Iff.rfl
  exact ⟨fun h hs _ => this.mp (h hs), fun h hs => this.mpr (h hs trivial)⟩

mutual
theorem nrel_iff {s : Bool} : ∀ (a b : Node), NRel K s a b ↔ XG.NRel K.par s a b
  | ⟨v, r, cs⟩, b => by
    simp only [NRel, XG.NRel, xrel_iff, lrel_iff cs b.children]
theorem lrel_iff {s : Bool} : ∀ (l₁ l₂ : List Node), LRel K s l₁ l₂ ↔ XG.LRel K.par s l₁ l₂
  | [], l₂ => by simp only [LRel, XG.LRel]
  | a :: as, [] => by simp only [LRel, XG.LRel]
  | a :: as, b :: bs => by
    simp only [LRel_cons_cons, XG.LRel_cons_cons, nrel_iff a b, lrel_iff as bs]
end

theorem irel_iff {s : Bool} {a b : IState} : IRel K s a b ↔ XG.IRel K.par s a b :=
  ⟨fun h => ⟨h.eq, h.map, (lrel_iff _ _).mp h.ch, h.ks.1, h.ks.2.1, h.ks.2.2, trivial⟩,
   fun h => ⟨h.eq, h.map, (lrel_iff _ _).mpr h.ch, h.ks.1, h.ks.2.1, h.ks.2.2.1⟩⟩

theorem LRel.length {s : Bool} : ∀ {l₁ l₂ : List Node}, LRel K s l₁ l₂ → l₁.length = l₂.length :=
  fun h => ((lrel_iff _ _).mp h).length

theorem LRel.single {s : Bool} {a b : Node} (h : NRel K s a b) : LRel K s [a] [b] := by simp [h]

theorem LRel.take {s : Bool} : ∀ {l₁ l₂ : List Node} (k : Nat), LRel K s l₁ l₂ → LRel K s (l₁.take k) (l₂.take k) :=
  fun k h => (lrel_iff _ _).mpr (((lrel_iff _ _).mp h).take k)

theorem LRel.drop {s : Bool} : ∀ {l₁ l₂ : List Node} (k : Nat), LRel K s l₁ l₂ → LRel K s (l₁.drop k) (l₂.drop k) :=
  fun k h => (lrel_iff _ _).mpr (((lrel_iff _ _).mp h).drop k)

theorem LRel.set {s : Bool} : ∀ {l₁ l₂ : List Node} (k : Nat) {x y : Node}, LRel K s l₁ l₂ → NRel K s x y →
    LRel K s (l₁.set k x) (l₂.set k y) :=
  fun k _ _ h hx => (lrel_iff _ _).mpr (((lrel_iff _ _).mp h).set k ((nrel_iff _ _).mp hx))

theorem NRel.children {s : Bool} {a b : Node} (h : NRel K s a b) : LRel K s a.children b.children :=
  (lrel_iff _ _).mpr ((nrel_iff _ _).mp h).children

theorem NRel.content {s : Bool} {a b : Node} (h : NRel K s a b) : b.content = a.content :=
  ((nrel_iff _ _).mp h).content

theorem LRel.wrapDepthList_eq {s : Bool} :
    ∀ (l₁ l₂ : List Node), LRel K s l₁ l₂ → wrapDepthList l₂ = wrapDepthList l₁ :=
  fun l₁ l₂ h => XG.LRel.wrapDepthList_eq l₁ l₂ ((lrel_iff _ _).mp h)

theorem IRel.posMax {s : Bool} {a b : IState} (h : IRel K s a b) : b.posMax = a.posMax :=
  (irel_iff.mp h).posMax
theorem IRel.bottoms {s : Bool} {a b : IState} (h : IRel K s a b) : b.bottoms = a.bottoms :=
  (irel_iff.mp h).bottoms
theorem IRel.window {s : Bool} {a b : IState} (h : IRel K s a b) : b.window = a.window :=
  (irel_iff.mp h).window
theorem IRel.backticks {s : Bool} {a b : IState} (h : IRel K s a b) : b.backticks = a.backticks :=
  (irel_iff.mp h).backticks

theorem parseInline_sim (K : Ctx) (s : Bool) (cfg : Cfg)
    (hmk : ∀ mk csw, RuleId.emph mk csw ∈ cfg.chain → mk.utf8Size = 1 ∧ mk ≠ '\n')
    (hm : MRel s K.m₁ K.m₂) {ns₁ : List Node} (h : parseInline cfg K.c K.m₁ = .ok ns₁) :
    Sim s (LRel K s) ns₁ (parseInline cfg K.c K.m₂) :=
  (XG.parseInline_sim K.par s cfg (fun _ => hmk) hm h).mono fun _ => (lrel_iff _ _).mpr

end MdIt.Inline.XS
