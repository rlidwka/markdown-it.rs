/-
  Two runs of the block parser in lock step: the chain, the tokenizer loop and the fuel
  induction on `SRel`-related states.  The rule runner is only asked to simulate real-mode calls on a
  `Live` state when `R.strict` (`RunSim`): the chain keeps the state while the rules answer `false`
  (`RunSpec.false_same`), and `tokLoop` calls the chain behind `skip_empty_lines` on a line below
  `line_max` (`skipEmpty_live`).  `frel_iff`, `skipEmpty_congr` and `Rd.*` are in `BlockReads`, `runChain_rel2` in
  `ExceptRel`.
-/
import MdIt.Lemmas.C10SimPara
import MdIt.Lemmas.C10SimQuote
import MdIt.Lemmas.C10SimList

namespace MdIt.Block.LX.Sim
open MdIt.Block.LE (FRel frel_ok frel_pure frel_err frel_fuel frel_bind frel_bind_same frel_ite Geo MRel MRel.single)
open MdIt.Lines (LineOffset)
open MdIt.Block.LX.Y (RgRel Live)
variable {R : Rels} {G : Geo}


theorem runRule_sim (cfg : Cfg) (C : Ctx R G) {tok₁ tok₂ : Tok} (TK : TokSim R G tok₁ tok₂) (hk : R.strict → TokSpec tok₁)
    {test₁ test₂ : Test} (TS : TestSim R G test₁ test₂) (hp : R.strict → TestPure test₁) {f₁ f₂ : Nat} (hf : f₁ ≤ f₂)
    (r : RuleId) {s₁ s₂ : BState} (S : SRel R G s₁ s₂) (silent : Bool) (hne : R.strict → silent = false → Live s₁) :
    FRel (ResRel R G) (runRule cfg tok₁ test₁ f₁ r s₁ silent) (runRule cfg tok₂ test₂ f₂ r s₂ silent) := by
  cases r <;> simp only [runRule]
  · exact code_sim C S silent hne
  · exact fence_sim C S silent hne
  · exact blockquote_sim C TK hk TS hp hf S silent hne
  · exact hr_sim C S silent hne
  · exact list_sim C TK hk TS hp hf S silent hne
  · exact reference_sim cfg C TS hf S silent
  · exact heading_sim C S silent hne
  · exact lheading_sim C TS hp hf S silent hne
  · exact paragraph_sim C TS hp hf S silent hne

/-- what `runChain_sim` needs of the two rule runners -/
def RunSim (R : Rels) (G : Geo) (run₁ run₂ : RuleId → BState → Bool → Res) : Prop :=
  ∀ r s₁ s₂ b, SRel R G s₁ s₂ → (R.strict → b = false → Live s₁) → FRel (ResRel R G) (run₁ r s₁ b) (run₂ r s₂ b)

theorem runChain_sim {run₁ run₂ : RuleId → BState → Bool → Res} (RS : RunSim R G run₁ run₂) (hr : R.strict → RunSpec run₁)
    (chain : List RuleId) (s₁ s₂ : BState) (b : Bool) (S : SRel R G s₁ s₂) (hne : R.strict → b = false → Live s₁) :
    FRel (ResRel R G) (runChain run₁ chain s₁ b) (runChain run₂ chain s₂ b) :=
  frel_iff.mpr (runChain_rel2 (P := fun s => R.strict → b = false → Live s)
    (fun r _ _ S hne => frel_iff.mp (RS r _ _ b S hne))
    (fun r s s' hne h hs hb => by subst hb; rw [(hr hs).false_same _ _ _ h]; exact hne hs rfl) chain S hne)

theorem afterChain_sim (C : Ctx R G) {s₁ s₂ : BState} (S : SRel R G s₁ s₂) (ok : Bool) (prev : Nat) :
    FRel (SRel R G) (afterChain ok s₁ prev) (afterChain ok s₂ prev) :=
  frel_iff.mpr ((Rd.afterChain_reads (.of_kok C.toKOk) (S.reads C) (fun _ => trivial) prev).mono fun _ _ => S.step)

/-- side 2 is side 1 with another source, table and children -/
theorem SRel.shape {s₁ s₂ : BState} (S : SRel R G s₁ s₂) :
    ∃ a b c, s₂ = { s₁ with src := a, offs := b, children := c } := by
  refine ⟨s₂.src, s₂.offs, s₂.children, ?_⟩
  cases s₂
  have h1 := S.blkIndent; have h2 := S.line; have h3 := S.lineMax; have h4 := S.tight
  have h5 := S.listIndent; have h6 := S.level; have h7 := S.nodeKind; have h8 := S.refs
  simp only at h1 h2 h3 h4 h5 h6 h7 h8
  simp only [h1, h2, h3, h4, h5, h6, h7, h8]

theorem tokLoop_sim (cfg : Cfg) (C : Ctx R G) {run₁ run₂ : RuleId → BState → Bool → Res} (RS : RunSim R G run₁ run₂)
    (hr : R.strict → RunSpec run₁) :
    ∀ (f₁ f₂ : Nat) (he : Bool) (s₁ s₂ : BState), f₁ ≤ f₂ → SRel R G s₁ s₂ →
      FRel (SRel R G) (tokLoop cfg run₁ f₁ he s₁) (tokLoop cfg run₂ f₂ he s₂) := by
  intro f₁
  induction f₁ with
  | zero => intro f₂ he s₁ s₂ _ _; exact frel_fuel _
  | succ f ih =>
    intro f₂ he s₁ s₂ hf S
    obtain ⟨g, rfl⟩ : ∃ g, f₂ = g + 1 := ⟨f₂ - 1, by omega⟩
    have hskip := skipEmpty_congr S.isEmpty s₁.lineMax s₁.line
    obtain ⟨src₂, offs₂, ch₂, rfl⟩ := S.shape
    simp only at hskip
    simp only [tokLoop]
    rw [hskip]
    refine frel_ite (fun _ => frel_ok S) (fun _ => ?_)
    have S1 : SRel R G { s₁ with line := Lines.skipEmptyLines s₁.offs s₁.lineMax s₁.line }
        { s₁ with src := src₂, offs := offs₂, children := ch₂,
                  line := Lines.skipEmptyLines s₁.offs s₁.lineMax s₁.line } := S.withLine _
    refine frel_ite (fun _ => frel_ok S1) (fun _ => ?_)
    rw [S1.lineIndent]
    refine frel_bind_same _ ?_
    intro ind _
    refine frel_ite (fun _ => frel_ok S1) (fun _ => ?_)
    refine frel_ite (fun _ => frel_ok (S.withLine _)) (fun _ => ?_)
    have hlive : Live { s₁ with line := Lines.skipEmptyLines s₁.offs s₁.lineMax s₁.line } :=
      ⟨by dsimp only; omega, Rd.skipEmpty_live s₁.offs s₁.lineMax s₁.line (by omega)⟩
    refine frel_bind (runChain_sim RS hr cfg.chain _ _ false S1 (fun _ _ => hlive)) ?_
    intro p₁ p₂ hp
    obtain ⟨ok₁, t₁⟩ := p₁
    obtain ⟨ok₂, t₂⟩ := p₂
    obtain ⟨hok, St⟩ := hp
    simp only at hok St ⊢
    subst hok
    refine frel_bind (afterChain_sim C St ok₁ _) ?_
    intro u₁ u₂ Su
    obtain ⟨a, b, c, rfl⟩ := Su.shape
    simp only
    refine frel_bind_same _ ?_
    intro l1 _
    have Sv : SRel R G { u₁ with tight := !he } { u₁ with src := a, offs := b, children := c, tight := !he } := by
      srel_fields Su
      exact Su.children
    rw [Sv.isEmpty, Sv.isEmpty]
    refine frel_ite (fun _ => ih g true _ _ (by omega) (Sv.withLine _)) (fun _ => ?_)
    · exact ih g _ _ _ (by omega) Sv

theorem engine_sim (cfg : Cfg) (C : Ctx R G) : ∀ (f₁ f₂ : Nat), f₁ ≤ f₂ →
    TokSim R G (tokenize cfg f₁) (tokenize cfg f₂) ∧ TestSim R G (testRules cfg f₁) (testRules cfg f₂) := by
  intro f₁
  induction f₁ with
  | zero =>
    intro f₂ _
    exact ⟨fun s₁ s₂ _ => frel_fuel _, fun s₁ s₂ _ => frel_fuel _⟩
  | succ f ih =>
    intro f₂ hf
    obtain ⟨g, rfl⟩ : ∃ g, f₂ = g + 1 := ⟨f₂ - 1, by omega⟩
    obtain ⟨TK, TS⟩ := ih g (by omega)
    have hk : R.strict → TokSpec (tokenize cfg f) := fun _ => tokenize_tokSpec cfg f
    have hp : R.strict → TestPure (testRules cfg f) := fun _ => testRules_pure cfg f
    have hr : R.strict → RunSpec (runRule cfg (tokenize cfg f) (testRules cfg f) (f + 1)) :=
      fun hs => runRule_spec (hk hs) (hp hs) _
    have RS : RunSim R G (runRule cfg (tokenize cfg f) (testRules cfg f) (f + 1))
        (runRule cfg (tokenize cfg g) (testRules cfg g) (g + 1)) :=
      fun r s₁ s₂ b S hne => runRule_sim cfg C TK hk TS hp (by omega) r S b hne
    constructor
    · intro s₁ s₂ S
      simp only [tokenize, engine]
      exact tokLoop_sim cfg C RS hr _ _ _ _ _ (by omega) S
    · intro s₁ s₂ S
      simp only [testRules, engine]
      exact runChain_sim RS hr _ _ _ _ S (fun _ h => by cases h)

/-- **the block tokenizer on related states, side 2 with at least as much fuel** -/
theorem tokenize_sim (cfg : Cfg) (C : Ctx R G) {f₁ f₂ : Nat} (hf : f₁ ≤ f₂) {s₁ s₂ : BState}
    (S : SRel R G s₁ s₂) : FRel (SRel R G) (tokenize cfg f₁ s₁) (tokenize cfg f₂ s₂) :=
  (engine_sim cfg C f₁ f₂ hf).1 s₁ s₂ S

end MdIt.Block.LX.Sim
