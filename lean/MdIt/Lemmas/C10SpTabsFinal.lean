/-
  C10 with the sourcepos plugin, ALL sources: the shifted table is a `MapT` table, the result of the
  exact inline simulation (`C10SP.XLT`) gives `InlineExact` and the anchoring of inline nodes, and the two
  invariance theorems follow from ONE remaining ingredient, `InlineExactThmT` (`Lemmas/C10SpTabsInline*.lean`).
-/
import MdIt.Lemmas.C10SpTabsTables
import MdIt.Lemmas.C10SpFullFinal

namespace MdIt.Pipeline
open MdIt
open MdIt.InlineOps (Srcmap getSourcePosFor byteLen)
open MdIt.C05R (Cut fa_Seg)
open MdIt.C05T
open MdIt.C05I (SegAll segAll_get KeysLFV)
open MdIt.Lines (lfToCrlf)

theorem shiftOf_inj (src : List Char) {a b : Nat}
    (h : a + C10SP.lfBelow src a = b + C10SP.lfBelow src b) : a = b := by
  rcases Nat.lt_trichotomy a b with hlt | he | hgt
  · have := lfBelow_mono src (a := a) (b := b) (by omega); omega
  · exact he
  · have := lfBelow_mono src (a := b) (b := a) (by omega); omega

theorem shiftMap_get_some {src : List Char} {m : Srcmap} {i k v : Nat}
    (h : (shiftMap src m)[i]? = some (k, v)) :
    ∃ v0, m[i]? = some (k, v0) ∧ v = v0 + C10SP.lfBelow src v0 := by
  rw [shiftMap_get] at h
  cases hm : m[i]? with
  | none => rw [hm] at h; simp at h
  | some x =>
    rw [hm] at h
    simp only [Option.map_some, Option.some.injEq, Prod.mk.injEq] at h
    exact ⟨x.2, by rw [← h.1], h.2.symm⟩

theorem mapT_shift {src c : List Char} {m : Srcmap} (h : TabT src c m) : MapT c (shiftMap src m) := by
  refine mapT_of_virt ⟨?_, ?_⟩ ?_ ?_ ⟨?_, ?_⟩
  · obtain ⟨v, rest, hm⟩ := h.wf.first
    exact ⟨v + C10SP.lfBelow src v, shiftMap src rest, by rw [hm]; simp [shiftMap]⟩
  · rw [shiftMap_keys]; exact h.wf.sorted
  · -- `MonoMapV`
    intro i k1 v1 k2 v2 h1 h2
    obtain ⟨a, ha, rfl⟩ := shiftMap_get_some h1
    obtain ⟨b, hb, rfl⟩ := shiftMap_get_some h2
    rcases segAll_get h.seg ha with ⟨k', hn, _⟩ | ⟨pre, t, post, _, _, hnt, hcut, hnext⟩
    · simp only at hn
      rw [hb] at hn
      simp only [Option.some.injEq, Prod.mk.injEq] at hn
      right; rw [hn.2]
    · left
      rw [hb] at hnext
      obtain ⟨post', _, hk, hv, _⟩ := hnext
      simp only at hk hv hcut
      have hlf := lfBelow_cut hcut hnt (byteLen t) (Nat.le_refl _)
      have hmono := lfBelow_mono src (a := a + byteLen t) (b := b) (by omega)
      omega
  · -- `KeysLFV`
    intro i k v h1
    obtain ⟨a, ha, rfl⟩ := shiftMap_get_some h1
    rcases h.keys i k a ha with hl | ⟨k0, h0⟩
    · exact .inl hl
    · right
      exact ⟨k0, by rw [shiftMap_get, h0]; rfl⟩
  · intro i k0 v k h1 h2 p hp1 hp2
    obtain ⟨a, ha, e1⟩ := shiftMap_get_some h1
    obtain ⟨b, hb, e2⟩ := shiftMap_get_some h2
    have := shiftOf_inj src (e1.symm.trans e2)
    subst this
    exact h.virt.sp i k0 a k ha hb p hp1 hp2
  · intro i k0 v k h1 h2
    obtain ⟨a, ha, e1⟩ := shiftMap_get_some h1
    obtain ⟨b, hb, e2⟩ := shiftMap_get_some h2
    have := shiftOf_inj src (e1.symm.trans e2)
    subst this
    exact h.virt.ls i k0 a k ha hb

theorem rendersAttrs_inlT (v : Inline.Val) : (Kind.inl v).rendersAttrs = C10SP.attrValT v := by
  cases v <;> rfl

mutual
theorem xnT_rmap {src c : List Char} {m : Srcmap} (h : TabT src c m) :
    ∀ (n₁ n₂ : Inline.Node), C10SP.XNT c m (shiftMap src m) n₁ n₂ →
      rmap id true (ofInline n₂) = rmap (shiftOf src) true (ofInline n₁)
  | ⟨v₁, r₁, cs₁⟩, ⟨v₂, r₂, cs₂⟩, hx => by
    simp only [C10SP.XNT] at hx
    obtain ⟨hv, hs, hl⟩ := hx
    subst hv
    simp only [ofInline, rmap, xlT_rmap h cs₁ cs₂ hl, Node.mk.injEq, true_and, and_true]
    unfold rangeOf
    rw [rendersAttrs_inlT]
    cases hav : C10SP.attrValT v₁ with
    | false => simp
    | true =>
      obtain ⟨p, q, a₁, b₁, a₂, b₂, e₁, e₂, hq, hc, t1, t2, t3, t4⟩ := hs hav
      subst e₁ e₂
      have s1 := tr_shiftT h (Nat.le_of_lt (charSolid_lt hc)) t1
      have s2 := tr_shiftT h hq t2
      rw [t3] at s1; rw [t4] at s2
      simp only [Except.ok.injEq] at s1 s2
      simp [mapRange, shiftOf, s1, s2]
theorem xlT_rmap {src c : List Char} {m : Srcmap} (h : TabT src c m) :
    ∀ (l₁ l₂ : List Inline.Node), C10SP.XLT c m (shiftMap src m) l₁ l₂ →
      rmapList id true (ofInlineList l₂) = rmapList (shiftOf src) true (ofInlineList l₁)
  | [], [], _ => rfl
  | [], _ :: _, hx => by simp only [C10SP.XLT] at hx
  | _ :: _, [], hx => by simp only [C10SP.XLT] at hx
  | a :: as, b :: bs, hx => by
    simp only [C10SP.XLT] at hx
    simp only [ofInlineList, rmapList, xnT_rmap h a b hx.1, xlT_rmap h as bs hx.2]
end

mutual
theorem xnT_every {src c : List Char} {m : Srcmap} (h : TabT src c m) :
    ∀ (n₁ n₂ : Inline.Node), C10SP.XNT c m m n₁ n₂ → Every (fun n => AnchK src n.kind n.range) (ofInline n₁)
  | ⟨v₁, r₁, cs₁⟩, ⟨v₂, r₂, cs₂⟩, hx => by
    simp only [C10SP.XNT] at hx
    obtain ⟨_, hs, hl⟩ := hx
    simp only [ofInline]
    refine .mk _ ?_ (xlT_every h cs₁ cs₂ hl)
    intro hk a b hr
    simp only at hk hr
    rw [rendersAttrs_inlT] at hk
    obtain ⟨p, q, a₁, b₁, a₂, b₂, e₁, _, _, hc, t1, _, _, _⟩ := hs hk
    rw [e₁] at hr
    simp only [Option.some.injEq, Prod.mk.injEq] at hr
    obtain ⟨rfl, rfl⟩ := hr
    exact tr_onByteT h hc t1
theorem xlT_every {src c : List Char} {m : Srcmap} (h : TabT src c m) :
    ∀ (l₁ l₂ : List Inline.Node), C10SP.XLT c m m l₁ l₂ →
      ∀ n ∈ ofInlineList l₁, Every (fun n => AnchK src n.kind n.range) n
  | [], _, _ => by simp [ofInlineList]
  | _ :: _, [], hx => by simp only [C10SP.XLT] at hx
  | a :: as, b :: bs, hx => by
    simp only [C10SP.XLT] at hx
    intro n hn
    simp only [ofInlineList, List.mem_cons] at hn
    rcases hn with rfl | hn
    · exact xnT_every h a b hx.1
    · exact xlT_every h as bs hx.2 n hn
end

/-- the statement of the exact inline simulation for `MapT` tables -/
def InlineExactThmT (icfg : Inline.Cfg) : Prop :=
  ∀ (c : List Char) (m₁ m₂ : Srcmap), MapT c m₁ → MapT c m₂ → MLe m₁ m₂ →
    ∀ ns₁, Inline.parseInline icfg c m₁ = .ok ns₁ →
      ∃ ns₂, Inline.parseInline icfg c m₂ = .ok ns₂ ∧ C10SP.XLT c m₁ m₂ ns₁ ns₂

theorem inlineExact_of_tabT {icfg : Inline.Cfg} (hx : InlineExactThmT icfg) {src c : List Char} {m : Srcmap}
    (h : TabT src c m) : InlineExact icfg (shiftOf src) c m (shiftMap src m) := by
  intro ns₁ ns₂ h₁ h₂
  obtain ⟨ns₂', h₂', hxl⟩ := hx c m (shiftMap src m) h.mapT (mapT_shift h) (mle_shift src m) ns₁ h₁
  rw [h₂] at h₂'
  simp only [Except.ok.injEq] at h₂'
  subst h₂'
  exact xlT_rmap h ns₁ ns₂ hxl

theorem inline_anchoredT {icfg : Inline.Cfg} (hx : InlineExactThmT icfg) {src c : List Char} {m : Srcmap}
    (h : TabT src c m) {ns : List Inline.Node} (hp : Inline.parseInline icfg c m = .ok ns) :
    ∀ n ∈ ofInlineList ns, Every (fun n => AnchK src n.kind n.range) n := by
  obtain ⟨ns₂, _, hxl⟩ := hx c m m h.mapT h.mapT (mle_refl m) ns hp
  exact xlT_every h ns ns₂ hxl

/-- every attribute-rendering node of the parsed tree starts at a byte that is not a line feed — ALL sources -/
theorem doc_anchoredT (cfg : DocCfg) (src : List Char) (hsp : cfg.sourcepos = true)
    (hx : ∀ refs, InlineExactThmT (cfg.inlineCfg refs))
    (hsmall : 4 * Lines.byteLen src + 8 < 2147483648) (hpara : cfg.hasPara = true)
    {t : Node} (h : parseDoc cfg src = .ok t) : Every (fun n => AnchK src n.kind n.range) t :=
  doc_anchored_of cfg src hsp (fun _ _ hb => doc_placeholder_segsT cfg src hsmall hpara hb)
    (fun refs _ _ _ hp hns => inline_anchoredT (hx refs) hp hns) h

/-- the two checks, from the anchoring claim and the order clause of C05 -/
theorem checks_of_every_ord {src : List Char} {t : Node}
    (h1 : Every (fun n => AnchK src n.kind n.range) t) (h2 : Every (NodeOrd src) t) :
    allN (rendered (insideB src)) t = true ∧ allN (rendered (anchLeB src)) t = true := by
  have h := Every.and h1 h2
  constructor
  · refine allN_of_every ?_ t h
    intro n ⟨ha, a, b, hr, hab, hb, _⟩
    unfold rendered
    cases hk : n.kind.rendersAttrs with
    | false => rfl
    | true =>
      obtain ⟨_, hlt⟩ := onByteLf_facts (ha hk a b hr)
      rw [← SourceMap.byteLen_eq_lines] at hb
      simp [hr, insideB, C10SP.Inside, hlt, hb]
  · refine allN_of_every ?_ t h
    intro n ⟨ha, a, b, hr, hab, hb, _⟩
    unfold rendered
    cases hk : n.kind.rendersAttrs with
    | false => rfl
    | true =>
      obtain ⟨hn, _⟩ := onByteLf_facts (ha hk a b hr)
      simp [hr, anchLeB, hn, hab]

/-- **C10 with sourcepos, final newline, ALL sources**, from the exact inline simulation -/
theorem doc_final_newline_sp_of_inlineT (x : Bool) (cfg : DocCfg) (src : List Char) (hsp : cfg.sourcepos = true)
    (hlast : src.getLast? ≠ some '\n' ∧ src.getLast? ≠ some '\r')
    (hx : ∀ refs, InlineExactThmT (cfg.inlineCfg refs))
    (hsmall : 4 * Lines.byteLen src + 8 < 2147483648) (hpara : cfg.hasPara = true)
    (hmk : SolidMarkers cfg.inlineChain) :
    renderDoc x cfg (src ++ ['\n']) = renderDoc x cfg src :=
  doc_final_newline_sp_of_inside x cfg src hsp hlast fun t ht =>
    (checks_of_every_ord (doc_anchoredT cfg src hsp hx hsmall hpara ht)
      (doc_ranges_ordered_all cfg src t hsmall hpara hmk ht).2).1

/-- **C10 with sourcepos, LF ↦ CR LF, ALL CR-free sources**, from the exact inline simulation -/
theorem doc_crlf_sp_of_inlineT (x : Bool) (cfg : DocCfg) (src : List Char) (hsp : cfg.sourcepos = true)
    (hcr : '\r' ∉ src) (hinl : ∀ e, parseDoc cfg src ≠ .error (.inline e))
    (hx : ∀ refs, InlineExactThmT (cfg.inlineCfg refs))
    (hsmall : 4 * Lines.byteLen src + 8 < 2147483648) (hpara : cfg.hasPara = true)
    (hmk : SolidMarkers cfg.inlineChain) :
    renderDoc x cfg (lfToCrlf src) = renderDoc x cfg src :=
  doc_crlf_sp_of_exact x cfg src hsp hcr hinl (fun _ _ hb => doc_placeholder_segsT cfg src hsmall hpara hb)
    (fun refs _ _ hq => inlineExact_of_tabT (hx refs) hq) fun t ht =>
    (checks_of_every_ord (doc_anchoredT cfg src hsp hx hsmall hpara ht)
      (doc_ranges_ordered_all cfg src t hsmall hpara hmk ht).2).2

end MdIt.Pipeline
