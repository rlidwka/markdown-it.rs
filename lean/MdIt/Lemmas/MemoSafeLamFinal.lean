/-
  For `Props/MemoSafe.lean`, namespace `MdIt.Inline` (no invariant on `inside_failed`): THE TOP FRAME and
  the assembly.

  `TopInv cfg B src Mtop` (`Lemmas/MemoSafeLamDef.lean`: same text, the top `pos_max`, the code-span
  cache invariant `B`, every memo entry ends `≤ pos_max` and carries its witness `Just`) is an
  invariant of every state of the top frame.  It meets the closure properties of
  `Lemmas/MemoSafeLamTopKit.lean` (`topKit`; nothing more is asked of a state from which look-ahead
  starts), so that development gives:

    * look-ahead preserves it (`skip_top` for the guarded `skip_token`, `parseLink_top_G`); the entry a
      `skip_token` step adds gets THIS step as its witness;
    * real mode: in the top frame the guarded rule chain IS the model's and keeps `TopInv`, provided
      every nested label run starts at a state satisfying a predicate `P` at which guarded nested run =
      model nested run with the memo left alone (`TokEqAt`; `EntryP`: the real link rule enters nested
      frames only at `P`-states); generic in `P` (`tokStep_top`);
    * `top_total` (the loop), `parseInlineG_eq`, `parseInline_total_of_nested`.

  The assembly:
    * `entryP_NF`      — a nested frame entered from the top frame satisfies `NF`;
    * `flatL2_holds`, `realKeeps_holds`, `emphL2_holds`, `parseLinkL2Part_link` — the per-rule
                         comparison statements of `Lemmas/MemoSafeLamDef.lean`, proved;
    * `nestHyps_of`    — the hypotheses of the nested induction for a coherent chain without the
                         code-span rule and without the image rule;
    * `parseInline_total_of_nestHyps` — **`md.inline.parse` is total** whenever they hold;
    * `backL2_of_noDouble` — the code-span comparison for texts without two adjacent backticks.
-/
import MdIt.Lemmas.MemoSafeLamBack
import MdIt.Lemmas.MemoSafeLamLink
import MdIt.Lemmas.MemoSafeLamNest

namespace MdIt.Inline
open MdIt.InlineOps (Srcmap slice)

variable {cfg : Cfg} {B : List Char → CodePair.Cache → Prop} {src : List Char} {Mtop : Nat}

/-! ## `TopInv` reads `src`, `posMax`, `backticks`, `cache` only -/

theorem TopInv.transfer {s s' : IState} (h : TopInv cfg B src Mtop s) (hsrc : s'.src = s.src)
    (hmax : s'.posMax = s.posMax) (hc : s'.cache = s.cache) (hb : B s'.src s'.backticks) :
    TopInv cfg B src Mtop s' :=
  ⟨hsrc.trans h.hsrc, hmax.trans h.hmax, hb, by rw [hc]; exact h.le, by rw [hc]; exact h.just⟩

theorem TopInv.of_eq {s s' : IState} (h : TopInv cfg B src Mtop s) (hsrc : s'.src = s.src)
    (hmax : s'.posMax = s.posMax) (hc : s'.cache = s.cache) (hb : s'.backticks = s.backticks) :
    TopInv cfg B src Mtop s' :=
  h.transfer hsrc hmax hc (by rw [hsrc, hb]; exact h.back)

/-- one more memo entry behind a failed `lookup`: ends inside the frame, is an over-limit entry or has
    its witness -/
theorem TopInv.insert {s s' : IState} {k v : Nat} (h : TopInv cfg B src Mtop s)
    (hmiss : s.cache.lookup k = none) (hsrc : s'.src = s.src) (hmax : s'.posMax = s.posMax)
    (hb : s'.backticks = s.backticks) (hc : s'.cache = cacheInsert s.cache k v) (hv : v ≤ Mtop)
    (hj : v = Mtop ∨ Just cfg B src Mtop (cacheInsert s.cache k v) k v) :
    TopInv cfg B src Mtop s' := by
  obtain ⟨l, j⟩ := insert_le_just (J := Just cfg B src Mtop) Just.mono h.le h.just hmiss hv hj
  exact ⟨hsrc.trans h.hsrc, hmax.trans h.hmax, by rw [hsrc, hb]; exact h.back, by rw [hc]; exact l,
    by rw [hc]; exact j⟩

/-- `skip` keeps `TopInv` -/
def SkipTopHyp (cfg : Cfg) (B : List Char → CodePair.Cache → Prop) (src : List Char) (Mtop : Nat)
    (skip : IState → Except Panic IState) : Prop :=
  ∀ s, LInv s → s.pos < s.posMax → TopInv cfg B src Mtop s → ∀ s', skip s = .ok s' →
    TopInv cfg B src Mtop s'

/-- at `P`-states the guarded nested run is the model's, leaves the memo alone and keeps `B` -/
def TokEqAt (B : List Char → CodePair.Cache → Prop) (P : IState → Prop)
    (tokG tokM : IState → Except Panic IState) : Prop :=
  ∀ s, P s → tokG s = tokM s ∧
    ∀ s', tokG s = .ok s' → s'.cache = s.cache ∧ (B s.src s.backticks → B s'.src s'.backticks)

/-- a label found by `parse_link` from a state of the top frame starts a frame at a `P`-state -/
def EntryP (cfg : Cfg) (B : List Char → CodePair.Cache → Prop) (src : List Char) (Mtop : Nat)
    (skipG : IState → Except Panic IState) (P : IState → Prop) : Prop :=
  ∀ (lo : Nat) (st : IState) (offset : Nat) (en : Bool) (fuel : Nat) (res : LinkRes) (st1 : IState),
    Good lo st → MemoB st → TopInv cfg B src Mtop st →
    Boundary st.src (st.pos + offset + 1) → st.pos + offset + 1 ≤ st.posMax →
    parseLink cfg skipG fuel st (st.pos + offset) en = .ok (some res, st1) →
    TopInv cfg B src Mtop st1 → P (nestedState st1 res)

/-! ## the closure properties of `TopInv` -/

/-- `TopInv` as the invariant of `Lemmas/MemoSafeLamTopKit.lean`: no condition on look-ahead states
    or positions; a nested run leaves memo and text alone and keeps `B` -/
def topKit (hB : BackOK B) (src : List Char) (Mtop : Nat) : TopKit cfg Mtop where
  T := TopInv cfg B src Mtop
  W := fun _ => True
  E := fun _ => True
  L := fun _ => True
  Q := fun s s' => s'.cache = s.cache ∧ s'.src = s.src ∧ (B s.src s.backticks → B s'.src s'.backticks)
  hmax := fun h => h.hmax
  closed := fun h => h.closed
  of_eq := fun h a b c d => h.of_eq a b c d
  W_E := fun _ => trivial
  W_entry := fun _ _ _ => trivial
  W_bracket := fun _ _ => trivial
  back := fun {st silent o st'} ht _ h =>
    have hs := ruleBackticks_simple h
    ht.transfer hs.frame.src hs.frame.posMax hs.cache (hB st silent o st' h ht.back)
  nested := fun ht1 hQ a b c d =>
    ht1.transfer (a.trans hQ.2.1) b (c.trans hQ.1) (by rw [a, d]; exact hQ.2.2 ht1.back)

theorem topKit_steps (hB : BackOK B) (src : List Char) (Mtop : Nat) :
    (topKit (cfg := cfg) hB src Mtop).Steps where
  step := fun {skip tok fuel st st' _} hq hs hg hi hlt hmiss ht _ h ht1 hmiss1 e1 e2 e3 e4 hle =>
    ht1.insert hmiss1 e1 e2 e3 e4 hle (.inr ⟨skip, tok, fuel, st, st', hq, hs, hg, hi, ht.hsrc,
      ht.hmax, rfl, hlt, ht.back, hmiss, h, rfl, by rw [e4]; exact LookupMono.refl _⟩)
  limit := fun ht hmiss a b c d => ht.insert hmiss a b c d (Nat.le_of_eq ht.hmax) (.inl ht.hmax)

theorem SkipTopHyp.toKit (hB : BackOK B) {skip : IState → Except Panic IState}
    (h : SkipTopHyp cfg B src Mtop skip) : (topKit (cfg := cfg) hB src Mtop).SkipOK skip :=
  fun s hi hlt ht _ => h s hi hlt ht

/-- the nested run also leaves the text alone (`TokHypT`); that needs `Good` of the entry state -/
theorem TokEqAt.toKit (hB : BackOK B) {P : IState → Prop} {tokG tokM : IState → Except Panic IState}
    (ht : TokHypT tokG) (h : TokEqAt B P tokG tokM) :
    (topKit (cfg := cfg) hB src Mtop).TokEq (fun s => P s ∧ ∃ lo, Good lo s ∧ MemoB s) tokG tokM := by
  rintro s ⟨hp, lo, hg, hm⟩
  refine ⟨(h s hp).1, fun s' hs' => ?_⟩
  obtain ⟨hc, hb⟩ := (h s hp).2 s' hs'
  exact ⟨hc, ((ht lo s hg hm).ok s' hs').1.src, hb⟩

theorem EntryP.toKit (hB : BackOK B) {skipG : IState → Except Panic IState} {P : IState → Prop}
    (hq : CalmFn skipG) (hs : SkipHypT skipG) (h : EntryP cfg B src Mtop skipG P) :
    (topKit (cfg := cfg) hB src Mtop).Entry skipG (fun s => P s ∧ ∃ lo, Good lo s ∧ MemoB s) :=
  fun lo st offset en fuel res st1 hg hm htop hb hle _ hp ht1 =>
    ⟨h lo st offset en fuel res st1 hg hm htop hb hle hp ht1, nested_good hq hs hg hm hb hle hp⟩

/-! ## look-ahead and the real chain in the top frame -/

/-- **the guarded `skip_token` keeps the invariant of the top frame**, at every fuel -/
theorem skip_top (hB : BackOK B) : ∀ fuel : Nat,
    SkipTopHyp cfg B src Mtop (fun s => skipTokenG cfg true fuel s) :=
  fun fuel s hi hlt ht => (topKit hB src Mtop).skip_top (topKit_steps hB src Mtop) fuel s hi hlt ht trivial

/-- `parse_link` over the guarded `skip_token` at a fuel keeps the invariant of the top frame -/
theorem parseLink_top_G (hB : BackOK B) (f fuel : Nat) (st : IState) (pos : Nat) (en : Bool)
    (hi : LInv st) (hb : Boundary st.src (pos + 1)) (hle : pos + 1 ≤ st.posMax)
    (ht : TopInv cfg B src Mtop st) :
    ∀ o st', parseLink cfg (fun s => skipTokenG cfg true f s) fuel st pos en = .ok (o, st') →
      TopInv cfg B src Mtop st' :=
  (topKit hB src Mtop).parseLink_top (skipTokenG_calm cfg true f) (skipTokenG_T cfg f)
    (TopKit.SkipW.of_grow _ (skip_grow cfg f)) ((skip_top hB f).toKit hB) fuel st pos en hi hb hle trivial ht

/-- **in the top frame one iteration of the guarded tokenizer loop is one iteration of the model's** -/
theorem tokStep_top (hB : BackOK B)
    (hsz : ∀ mk csw, RuleId.emph mk csw ∈ cfg.chain → mk.utf8Size = 1)
    {skipG skipM tokG tokM : IState → Except Panic IState} {P : IState → Prop}
    (hq : CalmFn skipG) (hs : SkipHypT skipG) (hT : SkipTopHyp cfg B src Mtop skipG)
    (he : SkipEqHyp skipG skipM) (ht : TokHypT tokG) (hr : RangesFn tokG)
    (hte : TokEqAt B P tokG tokM) (hP : EntryP cfg B src Mtop skipG P) (fuel : Nat) {lo : Nat}
    (st : IState) (hg : Good lo st) (hm : MemoB st) (hlt : st.pos < st.posMax)
    (htop : TopInv cfg B src Mtop st) :
    tokStep cfg skipG tokG fuel st = tokStep cfg skipM tokM fuel st ∧
    ∀ st', tokStep cfg skipG tokG fuel st = .ok st' → TopInv cfg B src Mtop st' :=
  (topKit hB src Mtop).tokStep_top hsz hq hs (fun _ _ _ _ _ _ _ => trivial) (hT.toKit hB) he ht hr
    (hte.toKit hB ht) (hP.toKit hB hq hs) fuel st hg hm hlt htop trivial

/-! ## the loop and the parser -/

/-- **in the top frame the guarded tokenizer IS the model tokenizer**, at every fuel, provided the
    nested label runs agree at the `P`-states and the link rule enters nested frames only there -/
theorem top_total (hB : BackOK B)
    (hsz : ∀ mk csw, RuleId.emph mk csw ∈ cfg.chain → mk.utf8Size = 1) {P : IState → Prop}
    (hNE : ∀ f, TokEqAt B P (fun s => tokLoopG cfg true f s.posMax s)
      (fun s => tokLoop cfg f s.posMax s))
    (hP : ∀ f, EntryP cfg B src Mtop (fun s => skipTokenG cfg true f s) P) :
    ∀ (fuel lo : Nat) (st : IState), Good lo st → MemoB st → TopInv cfg B src Mtop st →
      tokLoopG cfg true fuel st.posMax st = tokLoop cfg fuel st.posMax st ∧
      ∀ st', tokLoopG cfg true fuel st.posMax st = .ok st' → TopInv cfg B src Mtop st' := by
  intro fuel lo st hg hm htop
  have ht := tokHypT_G cfg hsz
  exact (topKit hB src Mtop).top_total (topKit_steps hB src Mtop)
    (fun _ _ _ _ _ _ _ => ⟨trivial, fun _ => trivial⟩) hsz (fun f => (hNE f).toKit hB (ht f))
    (fun f => (hP f).toKit hB (skipTokenG_calm cfg true f) (skipTokenG_T cfg f)) fuel lo st hg hm htop
    (fun _ => trivial) trivial

theorem topInv_init {content : List Char} {mapping : Srcmap}
    (hB0 : B content CodePair.Cache.empty) :
    TopInv cfg B content (IState.init content mapping).posMax (IState.init content mapping) :=
  ⟨rfl, rfl, hB0, by intro k v h; simp [IState.init] at h, by
    intro k v h; simp [IState.init] at h⟩

/-- **the guarded inline parser IS the model inline parser** (same tree, same error), under the two
    hypotheses on the nested frames -/
theorem parseInlineG_eq (hB : BackOK B)
    (hsz : ∀ mk csw, RuleId.emph mk csw ∈ cfg.chain → mk.utf8Size = 1) {P : IState → Prop}
    {content : List Char} {mapping : Srcmap} (hm : MapOK content mapping)
    (hB0 : B content CodePair.Cache.empty)
    (hNE : ∀ f, TokEqAt B P (fun s => tokLoopG cfg true f s.posMax s)
      (fun s => tokLoop cfg f s.posMax s))
    (hP : ∀ f, EntryP cfg B content (IState.init content mapping).posMax
      (fun s => skipTokenG cfg true f s) P) :
    parseInlineG cfg content mapping = parseInline cfg content mapping := by
  have ht := tokHypT_G cfg hsz
  exact (topKit hB content _).parseInlineG_eq (topKit_steps hB content _)
    (fun _ _ _ _ _ _ _ => ⟨trivial, fun _ => trivial⟩) hsz hm (topInv_init hB0) trivial trivial
    (fun f => (hNE f).toKit hB (ht f))
    (fun f => (hP f).toKit hB (skipTokenG_calm cfg true f) (skipTokenG_T cfg f))

/-- **`parseInline` is total** under the two hypotheses on the nested frames: the guarded parser
    cannot panic, the model parser cannot run out of fuel, and they are equal -/
theorem parseInline_total_of_nested (hB : BackOK B)
    (hsz : ∀ mk csw, RuleId.emph mk csw ∈ cfg.chain → mk.utf8Size = 1) {P : IState → Prop}
    {content : List Char} {mapping : Srcmap} (hm : MapOK content mapping)
    (hB0 : B content CodePair.Cache.empty)
    (hNE : ∀ f, TokEqAt B P (fun s => tokLoopG cfg true f s.posMax s)
      (fun s => tokLoop cfg f s.posMax s))
    (hP : ∀ f, EntryP cfg B content (IState.init content mapping).posMax
      (fun s => skipTokenG cfg true f s) P) :
    ∃ cs, parseInline cfg content mapping = .ok cs :=
  parseInline_total_of_eq hsz hm (parseInlineG_eq hB hsz hm hB0 hNE hP)

/-! ## examples -/

/-- `skip_top` is not vacuous: the initial state of every inline run meets `TopInv` (any `B` that holds of
    the empty code-span cache — e.g. `fun _ _ => True`, `backOK_true`), and so does the state behind
    the first guarded look-ahead step: its memo is non-empty, and the new entry carries its witness -/
example (cfg : Cfg) (fuel : Nat) {content : List Char} {mapping : Srcmap}
    (hm : MapOK content mapping)
    (hlt : (IState.init content mapping).pos < (IState.init content mapping).posMax) :
    ∀ s1, skipTokenG cfg true fuel (IState.init content mapping) = .ok s1 →
      TopInv cfg (fun _ _ => True) content (IState.init content mapping).posMax s1 ∧
      s1.cache.lookup (IState.init content mapping).pos = some s1.pos := by
  obtain ⟨lo, _, hg⟩ := init_good hm
  have hi := hg.linv (memoB_init' content mapping)
  intro s1 h1
  exact ⟨skip_top backOK_true fuel _ hi hlt (topInv_init trivial) s1 h1,
    (skip_grow cfg fuel _ hi hlt s1 h1).2⟩

/-- how the nested half plugs into `parseInlineG_eq`: with `P` := "the nested runs agree here, the guarded
    one leaves the memo alone and keeps `B`", `hNE` holds by definition and everything rests on `EntryP` -/
example (cfg : Cfg) (B : List Char → CodePair.Cache → Prop) :
    ∀ f, TokEqAt B
      (fun s => ∀ f, tokLoopG cfg true f s.posMax s = tokLoop cfg f s.posMax s ∧
        ∀ s', tokLoopG cfg true f s.posMax s = .ok s' →
          s'.cache = s.cache ∧ (B s.src s.backticks → B s'.src s'.backticks))
      (fun s => tokLoopG cfg true f s.posMax s) (fun s => tokLoop cfg f s.posMax s) :=
  fun f _ hs => hs f


/-- the frame of a label that `parse_link` (guarded look-ahead) found from a state of the top frame: its start
    state satisfies `NF`, given text, code-span cache invariant and witnesses of the state `parse_link`
    returned -/
theorem NF.enter_top (f : Nat) {lo : Nat} {st st1 : IState} {offset fuel : Nat} {en : Bool} {res : LinkRes}
    (hg : Good lo st) (hm : MemoB st) (hsrc : st.src = src) (hmax : st.posMax = Mtop)
    (hb : Boundary st.src (st.pos + offset + 1)) (hle : st.pos + offset + 1 ≤ st.posMax)
    (hpl : parseLink cfg (fun s => skipTokenG cfg true f s) fuel st (st.pos + offset) en
      = .ok (some res, st1))
    (hsrc1 : st1.src = src) (hback1 : B st1.src st1.backticks) (hjust1 : JustAll cfg B src Mtop st1.cache) :
    NF cfg B src Mtop (nestedState st1 res) := by
  have hq := skipTokenG_calm cfg true f
  have hs := skipTokenG_T cfg f
  have hi := hg.linv hm
  obtain ⟨hi1, _⟩ := (parseLink_T (cfg := cfg) hq hs fuel st (st.pos + offset) en hi hb hle).2 _ _ hpl
  obtain ⟨lo', hg', _⟩ := nested_good (cfg := cfg) hq hs hg hm hb hle hpl
  exact NF.enter (y := nestedState st1 res) hq hs (skip_grow cfg f) hi hsrc hmax hb hle hpl
    ⟨by rw [← hsrc, ← hmax]; exact hg.bmax, by rw [← hsrc, ← hmax]; exact hg.stop,
      fun k v hkv => by have := hi1.memo k v hkv; rw [hsrc1] at this; exact this, hjust1⟩
    (LookupMono.refl _) hsrc1 hback1 ⟨lo', hg'⟩ rfl rfl

/-- **a nested frame entered from the top frame satisfies `NF`** -/
theorem entryP_NF (f : Nat) :
    EntryP cfg B src Mtop (fun s => skipTokenG cfg true f s) (NF cfg B src Mtop) :=
  fun _ _ _ _ _ _ _ hg hm htop hb hle hpl htop1 =>
    NF.enter_top f hg hm htop.hsrc htop.hmax hb hle hpl htop1.hsrc htop1.back htop1.just

theorem flatL2_holds (cfg : Cfg) : FlatL2 cfg :=
  fun _ _ _ _ _ _ id hid _ _ h hstop hsrc hpos => flat_L2 id hid h hstop hsrc hpos

theorem realKeeps_holds (cfg : Cfg) : RealKeeps cfg := by
  intro skip tok fuel id hf s o s' h
  obtain ⟨a, b, c, d, e⟩ := flat_keeps hf h
  exact ⟨a, b, c, d, e, fun hne => runRule_backticks_unchanged hne hf h⟩

theorem emphL2_holds (cfg : Cfg) : EmphL2 cfg := by
  intro mk csw hmk s o s' h
  obtain ⟨h1, h2⟩ := emph_real_L2 hmk h
  refine ⟨h1, ?_⟩
  intro rest hw
  obtain ⟨n, a, _, b, c, d⟩ := h2 rest hw
  exact ⟨n, a, b, c, d⟩

theorem parseLinkL2Part_link (cfg : Cfg) (B : List Char → CodePair.Cache → Prop) (src : List Char)
    (Mtop : Nat) : ParseLinkL2Part cfg B src Mtop 0 false := by
  intro skip0 f0 w w1 r0 s v hq hs hg hiw hwsrc hwmax hwpos hwit hmono hnf hlt hlk hv hhead hnone hsome n
  have hh : ∃ rest, slice src s.pos Mtop = .ok ('[' :: rest) := by
    rcases hhead with ⟨_, _, h⟩ | ⟨h, _, _⟩
    · exact h
    · cases h
  exact parseLinkL2_link skip0 f0 w w1 r0 s v hq hs hg hiw hwsrc hwmax hwpos hwit hmono hnf hlt hlk hv
    hh hnone hsome n

/-- the hypotheses of the nested induction, for a coherent chain without the code-span rule and
    without the image rule (and with the link rule at most once) -/
theorem nestHyps_of (cfg : Cfg) (src : List Char) (Mtop : Nat) (hc : ChainCoherent cfg = true)
    (hnb : RuleId.backticks ∉ cfg.chain) (hni : RuleId.image ∉ cfg.chain)
    (hone : cfg.chain.count .link ≤ 1) : NestHyps cfg (fun _ _ => True) src Mtop :=
  { coh := hc
    hB := backOK_true
    flat := flatL2_holds cfg
    back := fun h => absurd h hnb
    keep := realKeeps_holds cfg
    emph := emphL2_holds cfg
    plLink := fun _ => parseLinkL2Part_link cfg _ src Mtop
    plImage := fun h => absurd h hni
    one := ⟨hone, by rw [List.count_eq_zero_of_not_mem hni]; exact Nat.zero_le _⟩ }

theorem parseInline_total_of_nestHyps (cfg : Cfg) (B : List Char → CodePair.Cache → Prop)
    {content : List Char} {mapping : Srcmap} (hm : MapOK content mapping)
    (hB0 : B content CodePair.Cache.empty)
    (H : NestHyps cfg B content (IState.init content mapping).posMax) :
    ∃ cs, parseInline cfg content mapping = .ok cs :=
  parseInline_total_of_nested (B := B) H.hB (coherent_hsz H.coh) hm hB0
    (fun f s hs => nested_tokEq H f s hs) (fun f => entryP_NF f)

theorem parseLinkL2Part_image (cfg : Cfg) (B : List Char → CodePair.Cache → Prop) (src : List Char)
    (Mtop : Nat) : ParseLinkL2Part cfg B src Mtop 1 true := by
  intro skip0 f0 w w1 r0 s v hq hs hg hiw hwsrc hwmax hwpos hwit hmono hnf hlt hlk hv hhead hnone hsome n
  have hh : ∃ rest, slice src s.pos Mtop = .ok ('!' :: '[' :: rest) := by
    rcases hhead with ⟨h, _, _⟩ | ⟨_, _, h⟩
    · cases h
    · exact h
  exact parseLinkL2_image skip0 f0 w w1 r0 s v hq hs hg hiw hwsrc hwmax hwpos hwit hmono hnf hlt hlk hv
    hh hnone hsome n

/-! ## code spans, for contents without two adjacent backticks -/

/-- no two adjacent backticks in the text -/
def NoDoubleTick (src : List Char) : Prop := ¬ ['`', '`'] <:+: src

instance (src : List Char) : Decidable (NoDoubleTick src) := by unfold NoDoubleTick; infer_instance

theorem NoDoubleTick.charAt {src : List Char} (h : NoDoubleTick src) (q : Nat) :
    ¬ (0 < q ∧ CodePair.charAt src (q - 1) = some '`' ∧ CodePair.charAt src q = some '`') := by
  rintro ⟨hq, h1, h2⟩
  apply h
  unfold CodePair.charAt at h1 h2
  cases hd : CodePair.dropB src (q - 1) with
  | none => rw [hd] at h1; simp at h1
  | some t =>
    rw [hd] at h1
    simp only [Option.bind_some] at h1
    cases t with
    | nil => simp at h1
    | cons c t' =>
      simp only [List.head?_cons, Option.some.injEq] at h1
      subst h1
      obtain ⟨a, ha, hl⟩ := CodePair.dropB_some hd
      have e1 : ('`' : Char).utf8Size = 1 := by decide
      have hq2 : CodePair.dropB src q = some t' := by
        have := CodePair.dropB_append_add (a ++ ['`']) t' 0
        rw [CodePair.byteLen_append] at this
        simp only [CodePair.byteLen, e1, Nat.add_zero, CodePair.dropB_zero] at this
        rw [ha, show q = CodePair.byteLen a + (1 + 0) by omega]
        simpa using this
      rw [hq2] at h2
      simp only [Option.bind_some] at h2
      cases t' with
      | nil => simp at h2
      | cons c2 t'' =>
        simp only [List.head?_cons, Option.some.injEq] at h2
        subst h2
        exact ⟨a, t'', by rw [ha]; simp⟩

/-- the code-span comparison, for texts without two adjacent backticks: no position is strictly inside
    a backtick run, so the two caches agree on `inside_failed` everywhere -/
theorem backL2_of_noDouble (cfg : Cfg) {src : List Char} (Mtop : Nat) (hnd : NoDoubleTick src) :
    BackL2 cfg BInv src Mtop := by
  intro skip tok skip' tok' fuel fuel' st0 s h hs0 hm0 hsrc hpos hb0 hb1
  refine back_L2_runRule h hsrc hpos hb0 hb1 (by rw [hs0, hm0]; exact hnd.charAt Mtop) ?_
  rw [hpos]
  rw [hsrc] at hb1
  exact inside_agree_of_not_interior hb0 hb1 (by rw [hs0]; exact hnd.charAt st0.pos)

end MdIt.Inline
