/-
  Lemmas for `MdIt/Props/InlineH.lean`: the inline tokenizer with the html rule and a GUARDED
  memo never returns a Rust panic (the analogue of `Lemmas/InlineTotal{Def,Frame,Step,Loop}.lean`).

  `tokLoopHG cfg chain g` / `skipTokenHG cfg chain g` are `tokLoopH` / `skipTokenH` (`Model/InlineH.lean`)
  with ONE extra test when `g = true`: a memo hit of `skip_token` whose stored end lies BEYOND the current
  `pos_max` stops the run (`Panic.fuel`, the non-Rust outcome) — exactly the device of
  `Lemmas/InlineTotalDef.lean`.  They are the engine of `Lemmas/InlineEngine.lean` at the rules with html
  (`engHG`), so with `g = false` they are the model functions (`HG_false`), and what is proved of every
  engine applies: `skipTokenHG_calm`, `ranges_inductionHG`, `parseInlineHG_agree` are instances, `guarded_totalH` is
  `Eng.skipToken_T` / `Eng.tokLoop_T` (`Lemmas/InlineTotalLoop.lean`) at `Eng.html_sound`.

  The per-rule totality lemmas of the html-free rules are stated against arbitrary `skip` / `tok` under the
  contracts `CalmFn`, `SkipHypT`, `TokHypX`, `RangesFn` and apply as they are; here the html rule meets each
  contract (`htmlRule_silT`, `htmlRule_realTL`, `htmlRule_ranges`).

  `link_level`.  `TokHypT` (through `Inline.Frame`) says the nested tokenizer leaves `linkLevel` alone,
  which is false with the html rule; and the html rule panics when `link_level` leaves `i32`.  Both are
  handled by the STATE invariant

      LLPos st  :=  |st.linkLevel| ≤ 2 * st.pos + st.level

  (an html match moves `link_level` by one and `pos` by at least one; the link rule enters the label at
  `pos + 1` with `link_level + 1`, `level + 1`, and leaves at `end > labelEnd` with `- 1`).  Together with
  the size bound `2 * len + max_nesting < 2^31 - 1` it keeps `link_level` strictly inside `i32` at every
  call of the html rule.  The link rule in real mode is proved once without `linkLevel`, over a nested
  `tokenize` under a state invariant that the nested state of a link (`Inline.linkNested`) must have
  (`linkRule_realL`, `Lemmas/InlineTotalFrame.lean`); `linkRule_realTL` is that at `LLPos` and the size bound,
  with what `link_level` is afterwards read off `linkRule_inv`.
-/
import MdIt.Lemmas.InlineH
import MdIt.Lemmas.InlineTotalLoop
import MdIt.Props.InlineTotal

namespace MdIt.InlineH
open MdIt.Inline
open MdIt.InlineOps (Srcmap getSourcePosFor getMap byteLen slice)
open MdIt.C05 (WFMap MonoMap byteLen_append slice_ok_iff)

/-! ## 1. the guarded tokenizer -/

mutual
/-- `tokLoopH` over the guarded `skip_token` -/
def tokLoopHG (cfg : Cfg) (chain : List RuleIdH) (g : Bool) : Nat → Nat → IState → Except Panic IState
  | fuel, end_, st =>
    if st.pos < end_ then
      match fuel with
      | 0 => .error .fuel
      | fuel + 1 =>
        match tokStepG cfg.maxNesting chain
            (runRuleH cfg (fun s => skipTokenHG cfg chain g fuel s)
              (fun s => tokLoopHG cfg chain g fuel s.posMax s) fuel) st with
        | .error e => .error e
        | .ok st' => tokLoopHG cfg chain g fuel end_ st'
    else .ok st
/-- `skipTokenH` with the guard on memo hits -/
def skipTokenHG (cfg : Cfg) (chain : List RuleIdH) (g : Bool) : Nat → IState → Except Panic IState
  | 0, _ => .error .fuel
  | fuel + 1, st =>
    match st.cache.lookup st.pos with
    | some x =>
      -- the guard: a memoised end beyond the current `pos_max`
      if g = true ∧ st.posMax < x then .error .fuel else .ok { st with pos := x }
    | none =>
      if st.level < cfg.maxNesting then
        skipStepG chain
          (runRuleH cfg (fun s => skipTokenHG cfg chain g fuel s)
            (fun s => tokLoopHG cfg chain g fuel s.posMax s) fuel) st
      else
        .ok { st with pos := st.posMax, cache := cacheInsert st.cache st.pos st.posMax }
end

/-- `parseInlineH` over the guarded tokenizer -/
def parseInlineHG (cfg : CfgH) (content : List Char) (mapping : Srcmap) : Except Panic (List Node) :=
  match tokLoopHG cfg.base cfg.chain true (topFuel cfg.base content) (IState.init content mapping).posMax
      (IState.init content mapping) with
  | .error e => .error e
  | .ok st => .ok st.children

/-- the executable memo check: the guarded run completes -/
def memoSafeH (cfg : CfgH) (content : List Char) (mapping : Srcmap) : Bool :=
  match parseInlineHG cfg content mapping with
  | .ok _ => true
  | .error _ => false


/-- the guarded tokenizer with the html rule is the engine of `Lemmas/InlineEngine.lean` -/
theorem engHG (cfg : Cfg) (chain : List RuleIdH) (g : Bool) (f : Nat) :
    (∀ e st, tokLoopHG cfg chain g f e st = (Eng.html cfg chain).tokLoop g f e st) ∧
    (∀ st, skipTokenHG cfg chain g f st = (Eng.html cfg chain).skipToken g f st) :=
  (Eng.html cfg chain).unique g (fun e st => by rw [tokLoopHG])
    (fun f e st => by rw [tokLoopHG]; rfl) (fun st => by rw [skipTokenHG])
    (fun f st => by rw [skipTokenHG]; rfl) f

/-- with the guard off the guarded functions are the model functions -/
theorem HG_false (cfg : Cfg) (chain : List RuleIdH) (fuel : Nat) :
    (∀ e st, tokLoopHG cfg chain false fuel e st = tokLoopH cfg chain fuel e st) ∧
    (∀ st, skipTokenHG cfg chain false fuel st = skipTokenH cfg chain fuel st) :=
  ⟨fun e st => ((engHG cfg chain false fuel).1 e st).trans ((engH cfg chain fuel).1 e st).symm,
   fun st => ((engHG cfg chain false fuel).2 st).trans ((engH cfg chain fuel).2 st).symm⟩

/-! ## 2. partial correctness: calm look-ahead, the range invariant -/

theorem htmlRule_silent_same {st st' : IState} {o : Option Nat} (h : htmlRule st true = .ok (o, st')) :
    st' = st := by
  rcases htmlRule_cases h with ⟨_, rfl⟩ | ⟨_, _, _, rfl⟩ | ⟨_, _, _, _, hs, _⟩
  · rfl
  · rfl
  · cases hs

theorem runRuleH_silent_calm {cfg : Cfg} {skip tok : IState → Except Panic IState} (hq : CalmFn skip)
    {fuel : Nat} {id : RuleIdH} {st : IState} {o : Option Nat} {st' : IState}
    (h : runRuleH cfg skip tok fuel id st true = .ok (o, st')) : Calm st st' := by
  cases id with
  | base r => exact runRule_silent_calm hq h
  | html => rw [htmlRule_silent_same h]; exact Calm.refl _


/-- **the guarded `skip_token` is calm**, at every fuel -/
theorem skipTokenHG_calm (cfg : Cfg) (chain : List RuleIdH) (g : Bool) (fuel : Nat) :
    CalmFn (fun s => skipTokenHG cfg chain g fuel s) := by
  have := (Eng.html cfg chain).skipToken_calm g (fun hq h => runRuleH_silent_calm hq h) fuel
  simpa only [(engHG cfg chain g fuel).2] using this

/-- the html node is a well-ranged leaf that is neither text nor a delimiter run -/
theorem htmlRule_ranges {lo : Nat} {st st' : IState} {o : Option Nat}
    (hm : MapOK st.src st.srcmap) (hi : RInv lo st) (h : htmlRule st false = .ok (o, st')) :
    StepOK lo st o st' := by
  rcases htmlRule_cases h with ⟨rfl, rfl⟩ | ⟨_, _, hs, _⟩ | ⟨n, ll, nd, rfl, _, he, rfl⟩
  · exact stepOK_calm hi (Calm.refl _) rfl
  · cases hs
  · obtain ⟨_, _, _, e1, e2, _⟩ := Html.htmlInline_node he
    refine ⟨rfl, rfl, ?_, by intro h; simp at h⟩
    simp only [Option.getD_some]
    have hle : nd.range.1 ≤ nd.range.2 := tr_mono hm (by omega) e1 e2
    exact RI.push hi e1 e2 (n := htmlNode nd) rfl (Nat.le_refl _) hle (Nat.le_refl _)
      (wellRanged_leaf hle) rfl rfl

theorem runRuleH_ranges {cfg : Cfg} {skip tok : IState → Except Panic IState} (hq : CalmFn skip)
    (ht : RangesFn tok) {fuel : Nat} {id : RuleIdH} {lo : Nat} {st : IState} {o : Option Nat}
    {st' : IState} (hm : MapOK st.src st.srcmap) (hi : RInv lo st)
    (h : runRuleH cfg skip tok fuel id st false = .ok (o, st')) : StepOK lo st o st' := by
  cases id with
  | base r => exact runRule_ranges hq ht hm hi h
  | html => exact htmlRule_ranges hm hi h


/-- **the frame invariant through the guarded tokenizer** -/
theorem ranges_inductionHG (cfg : Cfg) (chain : List RuleIdH) (g : Bool) : ∀ fuel : Nat,
    ∀ (e lo : Nat) (st st' : IState), MapOK st.src st.srcmap → tokLoopHG cfg chain g fuel e st = .ok st' →
      RInv lo st → st'.src = st.src ∧ st'.srcmap = st.srcmap ∧ RInv lo st' := by
  intro fuel e lo st st' hm h hi
  rw [(engHG cfg chain g fuel).1] at h
  exact (Eng.html cfg chain).ranges g rfl (fun hq h => runRuleH_silent_calm hq h)
    (fun hq ht hm hi h => runRuleH_ranges hq ht hm hi h) fuel e lo st st' hm h hi

theorem rangesFnHG (cfg : Cfg) (chain : List RuleIdH) (g : Bool) (fuel : Nat) :
    RangesFn (fun s => tokLoopHG cfg chain g fuel s.posMax s) :=
  fun lo s s' hms hr his => ranges_inductionHG cfg chain g fuel _ lo s s' hms hr his


/-! ## 3. `link_level`: the state invariant and the size bound -/

/-- `|link_level| ≤ 2 * pos + level` -/
def LLPos (st : IState) : Prop :=
  -((2 * st.pos + st.level : Nat) : Int) ≤ st.linkLevel ∧ st.linkLevel ≤ ((2 * st.pos + st.level : Nat) : Int)

instance (st : IState) : Decidable (LLPos st) := by unfold LLPos; infer_instance

/-- the size bound: `2 * len + max_nesting < 2^31 - 1` -/
def SizeOK (cfg : Cfg) (src : List Char) : Prop := 2 * byteLen src + cfg.maxNesting < 2147483647

instance (cfg : Cfg) (src : List Char) : Decidable (SizeOK cfg src) := by unfold SizeOK; infer_instance

/-- under the invariant and the size bound `link_level` is strictly inside `i32` wherever a rule is called -/
theorem llpos_i32 {cfg : Cfg} {st : IState} (h : LLPos st) (hs : SizeOK cfg st.src) (hlt : st.pos < st.posMax)
    (hb : Boundary st.src st.posMax) (hlev : st.level < cfg.maxNesting) :
    Html.i32Min < st.linkLevel ∧ st.linkLevel < Html.i32Max := by
  have := hb.le_len
  unfold LLPos at h
  unfold SizeOK at hs
  unfold Html.i32Min Html.i32Max
  omega

/-! ## 4. the contracts with `FrameL` and `LLPos` -/

/-- the state invariant of the tokenizer with the html rule -/
abbrev LLInv (cfg : Cfg) (s : IState) : Prop := LLPos s ∧ SizeOK cfg s.src

/-- a real step with `FrameL`, keeping `LLPos` at the position the tokenizer continues from (the size
    bound follows from the frame) -/
theorem StepX.mkH {cfg : Cfg} {lo : Nat} {st st' : IState} {o : Option Nat}
    (good : Good lo { st' with pos := st'.pos + o.getD 0 }) (memo : MemoB st') (frame : FrameL st st')
    (nonePos : o = none → st'.pos = st.pos) (adv : ∀ len, o = some len → st.pos < st'.pos + len)
    (ll : LLPos { st' with pos := st'.pos + o.getD 0 }) (hsize : SizeOK cfg st.src) :
    StepX FrameL (LLInv cfg) lo st o st' :=
  ⟨good, memo, frame, nonePos, adv, ll, by show SizeOK cfg st'.src; rw [frame.src]; exact hsize⟩

theorem StepX.ofStepT {cfg : Cfg} {lo : Nat} {st st' : IState} {o : Option Nat} (h : StepT lo st o st')
    (hll : LLPos st) (hsize : SizeOK cfg st.src) : StepX FrameL (LLInv cfg) lo st o st' := by
  refine StepX.mkH h.good h.memo (FrameL.ofFrame h.frame) h.nonePos h.adv ?_ hsize
  unfold LLPos at hll ⊢
  simp only
  rw [h.frame.linkLevel, h.frame.level]
  cases o with
  | none => simp only [Option.getD_none, Nat.add_zero]; rw [h.nonePos rfl]; exact hll
  | some len => have := h.adv len rfl; simp only [Option.getD_some]; omega

/-! ## 5. one rule in real mode -/

/-- **the link rule over a tokenizer with the html rule** -/
theorem linkRule_realTL {cfg : Cfg} {skip tok : IState → Except Panic IState} (hq : CalmFn skip)
    (hs : SkipHypT skip) (ht : TokHypX FrameL (LLInv cfg) tok) (hr : RangesFn tok) (fuel : Nat)
    (mk : List Nat → Option (List Char) → Val)
    (hmk : ∀ u t, ∀ c, mk u t ≠ .text c) (hmk2 : ∀ u t r cs, (Node.mk (mk u t) r cs).asMarker = none)
    (en : Bool) (offset : Nat) {lo : Nat} (st : IState) (hg : Good lo st) (hm : MemoB st)
    (hb : Boundary st.src (st.pos + offset + 1)) (hle : st.pos + offset + 1 ≤ st.posMax)
    (hll : LLPos st) (hsize : SizeOK cfg st.src) :
    RealX FrameL (LLInv cfg) lo st (linkRule cfg skip tok fuel mk en offset st false) := by
  have hP : ∀ res st1, parseLink cfg skip fuel st (st.pos + offset) en = .ok (some res, st1) →
      LLInv cfg (linkNested st1 res) := by
    intro res st1 he
    obtain ⟨_, _, b, hres⟩ := linkNested_good hq hs fuel en offset st hg hm hb hle he
    refine ⟨?_, by show SizeOK cfg st1.src; rw [b.src]; exact hsize⟩
    unfold LLPos at hll ⊢
    simp only
    rw [b.linkLevel, b.level, hres.labelStart]
    omega
  have hT := linkRule_realL (cfg := cfg) hq hs ht hr fuel mk hmk hmk2 en offset st hg hm hb hle hP
  refine ⟨hT.1, fun o s h => ?_⟩
  have T := (hT.2 o s h).1
  refine StepX.mkH T.good T.memo T.frame T.nonePos T.adv ?_ hsize
  rcases linkRule_inv h with ⟨rfl, hpl⟩ | ⟨res, st1, st3, r, he, he3, _, _, e4, rfl, rfl⟩
  · -- declined: nothing but the memo changed
    have hi := hg.linv hm
    obtain ⟨_, b, c, _⟩ := (parseLink_T (cfg := cfg) hq hs fuel st (st.pos + offset) en hi hb hle).2 _ _ hpl
    unfold LLPos at hll ⊢
    simp only [Option.getD_none, Nat.add_zero]
    rw [b.linkLevel, b.level, c]; exact hll
  · obtain ⟨⟨lo', hg2⟩, hm2, b, hres⟩ := linkNested_good hq hs fuel en offset st hg hm hb hle he
    obtain ⟨f3, _, hle3, hll3, _⟩ := (ht lo' _ hg2 hm2 (hP res st1 he)).2 st3 he3
    have hpm : st3.posMax = res.labelEnd := f3.posMax
    have hlv : st3.level = st1.level + 1 := f3.level
    have h3 := hres.endGt
    unfold LLPos at hll3 ⊢
    simp only [Option.getD_some]
    rw [hlv]
    have := b.level
    omega

/-- **the html rule in real mode**: no Rust panic, and the state it leaves is good again -/
theorem htmlRule_realTL {cfg : Cfg} {lo : Nat} {st : IState} (hg : Good lo st) (hm : MemoB st)
    (hlt : st.pos < st.posMax) (hll : LLPos st) (hsize : SizeOK cfg st.src)
    (hlev : st.level < cfg.maxNesting) : RealX FrameL (LLInv cfg) lo st (htmlRule st false) := by
  have hi := hg.inv hlt
  obtain ⟨o, st', hr, hadv⟩ := htmlRule_fires hi false (llpos_i32 hll hsize hlt hg.bmax hlev)
  refine ⟨noRust_of_eq hr, ?_⟩
  intro o2 st2 h2
  rw [hr] at h2
  simp only [Except.ok.injEq, Prod.mk.injEq] at h2; obtain ⟨rfl, rfl⟩ := h2
  have hstep := htmlRule_ranges hg.map hg.ri hr
  rcases htmlRule_cases hr with ⟨rfl, rfl⟩ | ⟨_, _, hs, _⟩ | ⟨n, ll, nd, rfl, _, he, rfl⟩
  · exact StepX.mkH hg hm (FrameL.refl _) (fun _ => rfl) (fun _ h => nomatch h) hll hsize
  · cases hs
  · obtain ⟨h1, h2, h3⟩ := hadv n rfl
    refine StepX.mkH ⟨h2, h3, hg.bmax, hg.map, hg.stop, hstep.ri, hg.bottoms⟩ hm ⟨rfl, rfl, rfl, rfl⟩
      (by intro h; simp at h) ?_ ?_ hsize
    · intro len hl; simp only [Option.some.injEq] at hl; subst hl; simp only; omega
    · have hl := Html.htmlInline_link_level he
      unfold LLPos at hll ⊢
      simp only [Option.getD_some] at hl ⊢
      rcases hl with hl | ⟨⟨hl, _⟩ | ⟨hl, _⟩, _⟩ <;> omega

theorem runRuleH_realTL {cfg : Cfg} (hsz : ∀ mk csw, RuleId.emph mk csw ∈ cfg.chain → mk.utf8Size = 1)
    {skip tok : IState → Except Panic IState} (hq : CalmFn skip) (hs : SkipHypT skip)
    (ht : TokHypX FrameL (LLInv cfg) tok) (hr : RangesFn tok) (fuel : Nat) {id : RuleIdH}
    (hid : ∀ r, id = .base r → r ∈ cfg.chain)
    {lo : Nat} (st : IState) (hg : Good lo st) (hm : MemoB st) (hlt : st.pos < st.posMax)
    (hll : LLPos st) (hsize : SizeOK cfg st.src) (hlev : st.level < cfg.maxNesting) :
    RealX FrameL (LLInv cfg) lo st (runRuleH cfg skip tok fuel id st false) := by
  cases id with
  | html => exact htmlRule_realTL hg hm hlt hll hsize hlev
  | base r =>
    simp only [runRuleH]
    rcases runRule_call (cfg := cfg) fuel r false (hg.linv hm) hlt with
      hflat | hn | ⟨mk, en, offset, e, h1, h2, hb, hle, _⟩
    · have T := flat_real_T hsz (skip := skip) (tok := tok) fuel (hid r rfl) hflat hg hm hlt
      exact ⟨T.noRust, fun o s h => StepX.ofStepT (T.ok o s h) hll hsize⟩
    · rw [hn]; exact RealX.declined FrameL.refl hg hm ⟨hll, hsize⟩
    · rw [e]; exact linkRule_realTL hq hs ht hr fuel mk h1 h2 en offset st hg hm hb hle hll hsize

/-! ## 6. look-ahead mode: one rule -/

theorem htmlRule_silT {st : IState} (hi : LInv st) (hlt : st.pos < st.posMax) :
    SilT st (htmlRule st true) := by
  refine ⟨?_, ?_⟩
  · intro p hp
    unfold htmlRule at hp
    split at hp
    · next e he =>
      have := (Html.htmlInline_only_overflow (hi.inv hlt) true he).2.1
      cases this
    · cases hp
    · cases hp
  · intro o st' h
    have hs := htmlRule_silent_same h
    subst hs
    exact ⟨hi, Calm.refl _, rfl, htmlRule_advances h⟩

theorem runRuleH_silent_T {cfg : Cfg} {skip tok : IState → Except Panic IState} (hq : CalmFn skip)
    (hs : SkipHypT skip) (fuel : Nat) (id : RuleIdH) (st : IState) (hi : LInv st)
    (hlt : st.pos < st.posMax) : SilT st (runRuleH cfg skip tok fuel id st true) := by
  cases id with
  | base r => exact runRule_silent_T hq hs fuel r st hi hlt
  | html => exact htmlRule_silT hi hlt

/-! ## 7. the induction on fuel -/

namespace Eng

/-- the rules with html meet `Eng.Sound` with `FrameL`, `LLPos` and the size bound -/
theorem html_sound (cfg : Cfg) (chain : List RuleIdH)
    (hsz : ∀ mk csw, RuleId.emph mk csw ∈ cfg.chain → mk.utf8Size = 1)
    (hall : ∀ r, RuleIdH.base r ∈ chain → r ∈ cfg.chain) :
    (Eng.html cfg chain).Sound FrameL (LLInv cfg) where
  refl := FrameL.refl
  trans := FrameL.trans
  keep := fun h => ⟨h.posMax, h.level⟩
  comp := fun h g => h.trans (.ofFrame g)
  up := fun {s s'} h a b c d => ⟨by
    have := h.1; unfold LLPos at this ⊢; rw [b, c]; omega, by rw [a]; exact h.2⟩
  calm := fun hq h => runRuleH_silent_calm hq h
  silent := fun fuel r s hq hs hi hlt => runRuleH_silent_T hq hs fuel r s hi hlt
  ranges := fun hq ht hm hi h => runRuleH_ranges hq ht hm hi h
  real := fun {skip tok} fuel {r} lo s hr hq hs ht hrg hg hm hJ hlt hlev =>
    runRuleH_realTL hsz hq hs ht hrg fuel (id := r) (fun r' e => hall r' (e ▸ hr)) s hg hm hlt hJ.1 hJ.2 hlev

end Eng

/-- **the guarded tokenizer with the html rule never panics**, at every fuel -/
theorem guarded_totalH (cfg : Cfg) (chain : List RuleIdH)
    (hsz : ∀ mk csw, RuleId.emph mk csw ∈ cfg.chain → mk.utf8Size = 1)
    (hall : ∀ r, RuleIdH.base r ∈ chain → r ∈ cfg.chain) (fuel : Nat) :
    SkipHypT (fun s => skipTokenHG cfg chain true fuel s) ∧
    (∀ lo st, Good lo st → MemoB st → LLPos st → SizeOK cfg st.src →
      NoRust (tokLoopHG cfg chain true fuel st.posMax st) ∧
      ∀ st', tokLoopHG cfg chain true fuel st.posMax st = .ok st' →
        FrameL st st' ∧ MemoB st' ∧ Good lo st' ∧ LLPos st') := by
  refine ⟨?_, fun lo st hg hm hll hsize => ?_⟩
  · simpa only [(engHG cfg chain true fuel).2] using
      (Eng.html cfg chain).skipToken_T (fun hq h => runRuleH_silent_calm hq h)
        (fun fuel r s hq hs hi hlt => runRuleH_silent_T hq hs fuel r s hi hlt) fuel
  · have h := (Eng.html cfg chain).tokLoop_T rfl (Eng.html_sound cfg chain hsz hall) fuel lo st hg hm
      ⟨hll, hsize⟩
    rw [← (engHG cfg chain true fuel).1] at h
    exact ⟨h.1, fun st' hs => ⟨(h.2 st' hs).1, (h.2 st' hs).2.1, (h.2 st' hs).2.2.1, (h.2 st' hs).2.2.2.1⟩⟩

/-- the guarded `tokenize` at a fuel as the nested tokenizer of the rules -/
theorem tokHypX_HG (cfg : Cfg) (chain : List RuleIdH)
    (hsz : ∀ mk csw, RuleId.emph mk csw ∈ cfg.chain → mk.utf8Size = 1)
    (hall : ∀ r, RuleIdH.base r ∈ chain → r ∈ cfg.chain) (f : Nat) :
    TokHypX FrameL (LLInv cfg) (fun s => tokLoopHG cfg chain true f s.posMax s) :=
  fun lo s hg hm hJ =>
    let t := (guarded_totalH cfg chain hsz hall f).2 lo s hg hm hJ.1 hJ.2
    ⟨t.1, fun s' hs => ⟨(t.2 s' hs).1, (t.2 s' hs).2.1, (t.2 s' hs).2.2.1.le, (t.2 s' hs).2.2.2,
      by rw [(t.2 s' hs).1.src]; exact hJ.2⟩⟩

/-! ## 8. agreement: the guarded result is the model's result, or the guarded run stopped -/

theorem runRuleH_agree (cfg : Cfg) {skip skip' tok tok' : IState → Except Panic IState}
    (hs : AgreeFn skip skip') (ht : AgreeFn tok tok') (fuel : Nat) (id : RuleIdH) (st : IState)
    (silent : Bool) :
    Agree (runRuleH cfg skip tok fuel id st silent) (runRuleH cfg skip' tok' fuel id st silent) := by
  cases id with
  | base r => exact runRule_agree cfg hs ht fuel r st silent
  | html => exact .inl rfl


theorem parseInlineHG_agree (cfg : CfgH) (content : List Char) (mapping : Srcmap) :
    Agree (parseInlineHG cfg content mapping) (parseInlineH cfg content mapping) := by
  unfold parseInlineHG parseInlineH tokenizeH
  rw [(engHG cfg.base cfg.chain true _).1, (engH cfg.base cfg.chain _).1]
  agree_call ((Eng.html cfg.base cfg.chain).agree rfl (fun hs ht => runRuleH_agree cfg.base hs ht)
    (topFuel cfg.base content)).2 _ _
  exact .inl rfl

end MdIt.InlineH
