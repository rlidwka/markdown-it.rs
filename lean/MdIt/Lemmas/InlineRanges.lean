/-
  Helper development for `Props/Inline.lean`: source ranges of the inline tree.
    * ordered sibling lists on the rich node type, and what a monotone per-line table gives
      (`translate_mono`, expansion, affinity on stretches without a line feed);
    * the frame invariant `RI`;
    * the range lemma of every rule without look-ahead recursion other than emphasis, in real mode:
      `RInv lo st → rule st false = ok (o, st') → RI src srcmap lo (pos + len) st'.children`
      (text, escape, entity, backticks, autolink; the newline rule with its `trailing_text_pop` of
      the blanks before the line feed): each pushes a node whose range is the translated
      `(pos, pos + len)`, behind everything pushed before.
-/
import MdIt.Lemmas.InlineVals2

namespace MdIt.Inline
open MdIt.InlineOps (Srcmap getSourcePosFor getMap byteLen slice)
open MdIt.C05 (WFMap MonoMap byteLen_append slice_ok_iff)

/-! ## ordered sibling lists -/

/-- consecutive ranges inside `[lo, hi]` (`C05.Ordered` on the rich node type): every node has a
    range `(a, b)`, `a ≤ b`, each starts at or after the end of its left neighbour -/
def OrderedN : Nat → Nat → List Node → Prop
  | lo, hi, [] => lo ≤ hi
  | lo, hi, n :: rest => ∃ a b, n.range = some (a, b) ∧ lo ≤ a ∧ a ≤ b ∧ OrderedN b hi rest

theorem orderedN_erase (lo hi : Nat) (l : List Node) :
    C05.Ordered lo hi (eraseList l) ↔ OrderedN lo hi l := by
  induction l generalizing lo with
  | nil => simp [eraseList, C05.Ordered, OrderedN]
  | cons n r ih => simp only [eraseList, C05.Ordered, OrderedN, erase_range, ih]

theorem OrderedN.le {lo hi : Nat} {l : List Node} (h : OrderedN lo hi l) : lo ≤ hi := by
  induction l generalizing lo with
  | nil => exact h
  | cons n r ih =>
    obtain ⟨a, b, _, h2, h3, h4⟩ := h
    have := ih h4; omega

theorem OrderedN.widen {lo hi lo' hi' : Nat} {l : List Node} (h : OrderedN lo hi l) (h1 : lo' ≤ lo)
    (h2 : hi ≤ hi') : OrderedN lo' hi' l := by
  induction l generalizing lo lo' with
  | nil => simp only [OrderedN] at h ⊢; omega
  | cons x r ih =>
    obtain ⟨a, b, q1, q2, q3, q4⟩ := h
    exact ⟨a, b, q1, by omega, q3, ih q4 (Nat.le_refl _)⟩

theorem OrderedN.append {lo mid hi : Nat} {l1 l2 : List Node} (h1 : OrderedN lo mid l1)
    (h2 : OrderedN mid hi l2) : OrderedN lo hi (l1 ++ l2) := by
  induction l1 generalizing lo with
  | nil => exact h2.widen h1 (Nat.le_refl _)
  | cons x r ih =>
    obtain ⟨a, b, q1, q2, q3, q4⟩ := h1
    exact ⟨a, b, q1, q2, q3, ih q4⟩

theorem orderedN_single {lo hi a b : Nat} {n : Node} (hr : n.range = some (a, b)) (h1 : lo ≤ a)
    (h2 : a ≤ b) (h3 : b ≤ hi) : OrderedN lo hi [n] := ⟨a, b, hr, h1, h2, h3⟩

theorem OrderedN.snoc {lo mid hi a b : Nat} {l : List Node} {n : Node} (h : OrderedN lo mid l)
    (hr : n.range = some (a, b)) (h1 : mid ≤ a) (h2 : a ≤ b) (h3 : b ≤ hi) :
    OrderedN lo hi (l ++ [n]) :=
  h.append (orderedN_single hr h1 h2 h3)

theorem OrderedN.split {lo hi : Nat} {l1 l2 : List Node} (h : OrderedN lo hi (l1 ++ l2)) :
    ∃ mid, OrderedN lo mid l1 ∧ OrderedN mid hi l2 := by
  induction l1 generalizing lo with
  | nil => exact ⟨lo, Nat.le_refl _, h⟩
  | cons x r ih =>
    obtain ⟨a, b, q1, q2, q3, q4⟩ := h
    obtain ⟨mid, m1, m2⟩ := ih q4
    exact ⟨mid, ⟨a, b, q1, q2, q3, m1⟩, m2⟩

theorem OrderedN.last {lo hi : Nat} {init : List Node} {x : Node} (h : OrderedN lo hi (init ++ [x])) :
    ∃ a b, x.range = some (a, b) ∧ OrderedN lo a init ∧ a ≤ b ∧ b ≤ hi := by
  obtain ⟨mid, m1, m2⟩ := h.split
  obtain ⟨a, b, q1, q2, q3, q4⟩ := m2
  exact ⟨a, b, q1, m1.widen (Nat.le_refl _) q2, q3, q4⟩

mutual
/-- every node has a range, its children are ordered inside it, recursively -/
def WellRanged : Node → Prop
  | ⟨_, r, cs⟩ => (∃ a b, r = some (a, b) ∧ a ≤ b ∧ OrderedN a b cs) ∧ WellRangedList cs
def WellRangedList : List Node → Prop
  | [] => True
  | c :: cs => WellRanged c ∧ WellRangedList cs
end

theorem WellRanged_eq (n : Node) :
    WellRanged n ↔ (∃ a b, n.range = some (a, b) ∧ a ≤ b ∧ OrderedN a b n.children) ∧
      WellRangedList n.children := by
  cases n; simp [WellRanged]

theorem wellRangedList_iff (l : List Node) : WellRangedList l ↔ ∀ n ∈ l, WellRanged n := by
  induction l with
  | nil => simp [WellRangedList]
  | cons c cs ih => simp [WellRangedList, ih]

theorem WellRangedList.append {a b : List Node} (ha : WellRangedList a) (hb : WellRangedList b) :
    WellRangedList (a ++ b) := by
  rw [wellRangedList_iff] at *
  intro n hn
  rcases List.mem_append.mp hn with h | h
  · exact ha n h
  · exact hb n h

theorem WellRangedList.left {a b : List Node} (h : WellRangedList (a ++ b)) : WellRangedList a := by
  rw [wellRangedList_iff] at *
  exact fun n hn => h n (List.mem_append_left _ hn)

theorem WellRangedList.right {a b : List Node} (h : WellRangedList (a ++ b)) : WellRangedList b := by
  rw [wellRangedList_iff] at *
  exact fun n hn => h n (List.mem_append_right _ hn)

theorem WellRangedList.single {n : Node} (h : WellRanged n) : WellRangedList [n] := ⟨h, trivial⟩

theorem wellRanged_leaf {v : Val} {a b : Nat} (h : a ≤ b) : WellRanged (Node.leaf v (some (a, b))) := by
  rw [WellRanged_eq]; exact ⟨⟨a, b, rfl, h, h⟩, trivial⟩

/-- replacing the value and shrinking / moving the range of a childless node -/
theorem wellRanged_childless {n : Node} (hc : n.children = []) {v : Val} {a b : Nat} (h : a ≤ b) :
    WellRanged { n with val := v, range := some (a, b) } := by
  rw [WellRanged_eq]; simp only [hc]; exact ⟨⟨a, b, rfl, h, h⟩, trivial⟩

/-! ## the per-line table -/

/-- source offsets along the table expand: under `MonoMap`, `v_i + (k_j - k_i) ≤ v_j` for `i ≤ j` -/
theorem values_expand (m : Srcmap) (hm : WFMap m) (hv : MonoMap m) (i n : Nat) (k1 v1 k2 v2 : Nat)
    (h1 : m[i]? = some (k1, v1)) (h2 : m[i + n]? = some (k2, v2)) : k1 ≤ k2 ∧ v1 + (k2 - k1) ≤ v2 := by
  induction n generalizing k2 v2 with
  | zero =>
    rw [Nat.add_zero, h1] at h2
    simp only [Option.some.injEq, Prod.mk.injEq] at h2
    omega
  | succ n ih =>
    obtain ⟨⟨k3, v3⟩, h3⟩ := C05.getElem?_some_of_lt m (i + n) (i + (n + 1)) _ h2 (by omega)
    have a := ih k3 v3 h3
    have b := hv (i + n) k3 v3 k2 v2 h3 h2
    obtain ⟨hj3, e3⟩ := C05.getElem?_key m (i + n) k3 v3 h3
    obtain ⟨hj2, e2⟩ := C05.getElem?_key m (i + (n + 1)) k2 v2 h2
    have := MdIt.SourceMap.sorted_strict hm.sorted hj3 hj2 (by omega)
    omega

/-- **the translation expands**: `pos ≤ pos' → tr pos + (pos' - pos) ≤ tr pos'`
    (source text between two inline positions is at least as long as the inline text) -/
theorem translate_expand (m : Srcmap) (hm : WFMap m) (hv : MonoMap m) (pos pos' : Nat)
    (hle : pos ≤ pos') (x x' : Nat)
    (hx : getSourcePosFor m pos = .ok x) (hx' : getSourcePosFor m pos' = .ok x') :
    x + (pos' - pos) ≤ x' := by
  obtain ⟨i, k, v, h1, h2, h3, h4, e⟩ := C05.lineOf_spec_tr m hm pos (C05.clampFree_of_mono m hv pos)
  obtain ⟨i', k', v', h1', h2', h3', h4', e'⟩ :=
    C05.lineOf_spec_tr m hm pos' (C05.clampFree_of_mono m hv pos')
  rw [e] at hx
  rw [e'] at hx'
  simp only [Except.ok.injEq] at hx hx'
  subst hx hx'
  rcases Nat.lt_trichotomy i i' with hlt | heq | hgt
  · obtain ⟨n, hn'⟩ : ∃ n, i' = i + n := ⟨i' - i, by omega⟩
    subst hn'
    have := values_expand m hm hv i n k v k' v' h2 h2'
    omega
  · subst heq
    rw [h2] at h2'
    simp only [Option.some.injEq, Prod.mk.injEq] at h2'
    obtain ⟨rfl, rfl⟩ := h2'
    omega
  · have := h4' i k v hgt h2
    omega

/-- no key of the table lies in `(pos, pos']`: the two positions are on one line and the
    translation is a shift (`MonoMap`: no virtual-space entry, so the clamp of `get_source_pos_for` is
    inactive — inside the virtual spaces of a split tab the translation is constant, not a shift) -/
theorem translate_same_line (m : Srcmap) (hm : WFMap m) (hv : MonoMap m) (pos pos' : Nat)
    (hle : pos ≤ pos')
    (hno : ∀ (i k v : Nat), m[i]? = some (k, v) → ¬ (pos < k ∧ k ≤ pos')) (x x' : Nat)
    (hx : getSourcePosFor m pos = .ok x) (hx' : getSourcePosFor m pos' = .ok x') :
    x' = x + (pos' - pos) := by
  obtain ⟨i, k, v, h1, h2, h3, h4, e⟩ := C05.lineOf_spec_tr m hm pos (C05.clampFree_of_mono m hv pos)
  obtain ⟨i', k', v', h1', h2', h3', h4', e'⟩ :=
    C05.lineOf_spec_tr m hm pos' (C05.clampFree_of_mono m hv pos')
  rw [e] at hx
  rw [e'] at hx'
  simp only [Except.ok.injEq] at hx hx'
  subst hx hx'
  rcases Nat.lt_trichotomy i i' with hlt | heq | hgt
  · have := h4 i' k' v' hlt h2'
    exact absurd ⟨this, h3'⟩ (hno i' k' v' h2')
  · subst heq
    rw [h2] at h2'
    simp only [Option.some.injEq, Prod.mk.injEq] at h2'
    obtain ⟨rfl, rfl⟩ := h2'
    omega
  · have := h4' i k v hgt h2
    omega

/-- the keys of the table (other than 0) are line starts of the inline text: directly behind a
    line feed.  (What `get_lines` produces when no tab is split; the virtual-space entries of a
    split tab are excluded together with `MonoMap`.) -/
def KeysAfterLF (src : List Char) (m : Srcmap) : Prop :=
  ∀ (i k v : Nat), m[i]? = some (k, v) → 0 < k →
    ∃ pre post, src = pre ++ '\n' :: post ∧ byteLen pre + 1 = k

/-- a stretch of the inline text without a line feed contains no line start behind its first byte -/
theorem no_key_inside {src : List Char} {m : Srcmap} (hk : KeysAfterLF src m) {a b : Nat}
    {w : List Char} (hs : slice src a b = .ok w) (hn : '\n' ∉ w) :
    ∀ (i k v : Nat), m[i]? = some (k, v) → ¬ (a < k ∧ k ≤ b) := by
  intro i k v hi ⟨h1, h2⟩
  obtain ⟨pre, post, hsrc, hpre⟩ := hk i k v hi (by omega)
  obtain ⟨p, q, e, l1, l2⟩ := (slice_ok_iff _ _ _ _).mp hs
  -- `pre` ends inside `w`
  have e1 : ('\n' : Char).utf8Size = 1 := by decide
  obtain ⟨x, hx1, hx2⟩ := append_prefix p (w ++ q) pre ('\n' :: post) (by rw [← hsrc, e]; simp)
    (by omega)
  -- `w ++ q = x ++ '\n' :: post` with `|x| < |w|`
  have hxl : byteLen x < byteLen w := by
    have := congrArg byteLen hx1
    rw [byteLen_append] at this
    omega
  obtain ⟨y, hy1, hy2⟩ := append_prefix x ('\n' :: post) w q hx2.symm (by omega)
  cases y with
  | nil => simp at hy1; rw [hy1] at hxl; omega
  | cons c y' =>
    have : c = '\n' := by
      simp only [List.cons_append, List.cons.injEq] at hy2
      exact hy2.1.symm
    subst this
    exact hn (by rw [hy1]; simp)

/-- what the range theorems assume about the per-line table of a state -/
structure MapOK (src : List Char) (m : Srcmap) : Prop where
  wf : WFMap m
  mono : MonoMap m
  lf : KeysAfterLF src m

/-- what order and enclosure of the ranges need of a table: it is total and the translation is
    monotone at every position (`MapOK` tables: `C05.translate_mono`; the tables of split tabs:
    `C05.translate_mono_all`, through `C05T.MapT.mapMono`) -/
structure MapMono (m : Srcmap) : Prop where
  wf : WFMap m
  mono : ∀ p p' x x', p ≤ p' → getSourcePosFor m p = .ok x → getSourcePosFor m p' = .ok x' → x ≤ x'

theorem MapOK.mapMono {src : List Char} {m : Srcmap} (h : MapOK src m) : MapMono m :=
  ⟨h.wf, fun p p' x x' hle hx hx' => C05.translate_mono m h.wf h.mono p p' hle x x' hx hx'⟩

theorem MapMono.le {m : Srcmap} (hm : MapMono m) {p p' x y : Nat} (hle : p ≤ p')
    (hx : getSourcePosFor m p = .ok x) (hy : getSourcePosFor m p' = .ok y) : x ≤ y :=
  hm.mono p p' x y hle hx hy

/-- every `EmphMarker` of a sibling list is childless, has delimiters left, and its range has room
    for them -/
def MarkersOK (l : List Node) : Prop :=
  ∀ n ∈ l, ∀ mk, n.asMarker = some mk →
    n.children = [] ∧ 0 < mk.remaining ∧ ∃ s e, n.range = some (s, e) ∧ s + mk.remaining ≤ e

/-- **The frame invariant** of one `tokenize` run that started at source offset `lo`, on the
    components `(src, srcmap, pos, children)` of the state:
    * the children have ordered, non-overlapping ranges inside `[lo, tr pos]`;
    * every child is well ranged (its descendants lie inside it, ordered, recursively);
    * an `EmphMarker` child is childless and its range has room for its `remaining` delimiters;
    * a trailing `Text` is childless, its content is `src[start..pos]` and its range the
      translated `(start, pos)`. -/
structure RI (src : List Char) (m : Srcmap) (lo pos : Nat) (cs : List Node) : Prop where
  ord : ∃ hi, getSourcePosFor m pos = .ok hi ∧ OrderedN lo hi cs
  deep : WellRangedList cs
  markers : MarkersOK cs
  trail : ∀ init last, cs = init ++ [last] → last.isText = true →
    last.children = [] ∧ ∃ start xs xe, slice src start pos = .ok last.content ∧
      getSourcePosFor m start = .ok xs ∧ getSourcePosFor m pos = .ok xe ∧ last.range = some (xs, xe)

def RInv (lo : Nat) (st : IState) : Prop := RI st.src st.srcmap lo st.pos st.children

theorem snoc_inj {α : Type} {a b : List α} {x y : α} (h : a ++ [x] = b ++ [y]) : a = b ∧ x = y := by
  have := List.append_inj' h rfl
  exact ⟨this.1, by simpa using this.2⟩

/-- pushing a non-text, non-marker node whose range lies between the translated `pos` and `p'` -/
theorem RI.push {src : List Char} {m : Srcmap} {lo pos : Nat} {cs : List Node}
    (h : RI src m lo pos cs) {n : Node} {p' x y a b : Nat}
    (hx : getSourcePosFor m pos = .ok x) (hy : getSourcePosFor m p' = .ok y)
    (hr : n.range = some (a, b)) (h1 : x ≤ a) (h2 : a ≤ b) (h3 : b ≤ y)
    (hw : WellRanged n) (ht : n.isText = false)
    (hmk : n.asMarker = none) : RI src m lo p' (cs ++ [n]) := by
  obtain ⟨hi, hhi, hord⟩ := h.ord
  rw [hx] at hhi
  simp only [Except.ok.injEq] at hhi; subst hhi
  refine ⟨⟨y, hy, hord.snoc hr h1 h2 h3⟩,
    h.deep.append (WellRangedList.single hw), ?_, ?_⟩
  · intro n' hn' mk hmk'
    rcases List.mem_append.mp hn' with h' | h'
    · exact h.markers n' h' mk hmk'
    · simp only [List.mem_singleton] at h'; subst h'; rw [hmk] at hmk'; cases hmk'
  · intro init last hcs hlt
    obtain ⟨_, rfl⟩ := snoc_inj hcs
    rw [ht] at hlt; cases hlt

theorem RI.same {src : List Char} {m : Srcmap} {lo pos : Nat} {cs : List Node}
    (h : RI src m lo pos cs) : RI src m lo pos cs := h

/-! ## `trailing_text_push(pos, pos + len)`, then `pos += len` -/

theorem newText_isText (c : List Char) (r : Option (Nat × Nat)) : (Node.newText c r).isText = true := rfl

theorem isText_asMarker {n : Node} (h : n.isText = true) : n.asMarker = none := by
  unfold Node.isText at h
  unfold Node.asMarker
  split at h
  · next c hv => rw [hv]
  · cases h

theorem text_content {n : Node} {c : List Char} (h : n.val = .text c) : n.content = c := by
  unfold Node.content; rw [h]

/-- what `trailing_text_push(pos, stop)` does to the child list: content and range of the new last
    child -/
theorem trailingTextPush_cases {src : List Char} {m : Srcmap} {cs out : List Node} {pos stop : Nat}
    (hp : trailingTextPush src m cs pos stop = .ok out) :
    ∃ piece, slice src pos stop = .ok piece ∧
      ((∃ x y, out = cs ++ [Node.newText piece (some (x, y))] ∧
          (∀ y0, cs.getLast? = some y0 → y0.isText = false) ∧
          getSourcePosFor m pos = .ok x ∧ getSourcePosFor m stop = .ok y) ∨
       (∃ init last r, cs = init ++ [last] ∧ last.isText = true ∧
          out = init ++ [Node.mk (.text (last.content ++ piece)) r last.children] ∧
          ∀ a b, last.range = some (a, b) →
            ∃ b', getSourcePosFor m stop = .ok b' ∧ r = some (a, b'))) := by
  have hfresh : ∀ out, (match liftOps (slice src pos stop) with
      | .error e => (.error e : Except RPanic (List Node))
      | .ok piece =>
        match liftOps (getMap m pos stop) with
        | .error e => .error e
        | .ok r => .ok (cs ++ [Node.newText piece (some r)])) = .ok out →
      ∃ piece, slice src pos stop = .ok piece ∧
        ∃ x y, out = cs ++ [Node.newText piece (some (x, y))] ∧
          getSourcePosFor m pos = .ok x ∧ getSourcePosFor m stop = .ok y := by
    intro out ho
    split at ho
    · simp at ho
    · next piece hpiece =>
      split at ho
      · simp at ho
      · next r hr =>
        simp only [Except.ok.injEq] at ho; subst ho
        obtain ⟨rx, ry⟩ := r
        obtain ⟨e1, e2, _⟩ := getMapRaw_eq hr
        exact ⟨piece, liftOps_ok.mp hpiece, rx, ry, rfl, e1, e2⟩
  unfold trailingTextPush at hp
  simp only at hp
  rcases popLast_spec cs with ⟨hpop, hnil⟩ | ⟨init, last, hpop, hcs⟩
  · rw [hpop] at hp
    obtain ⟨piece, h1, x, y, h2, h3, h4⟩ := hfresh out hp
    exact ⟨piece, h1, Or.inl ⟨x, y, h2, by intro y0 hy0; rw [hnil] at hy0; simp at hy0, h3, h4⟩⟩
  · rw [hpop] at hp
    simp only at hp
    split at hp
    · next hlt =>
      split at hp
      · simp at hp
      · next piece hpiece =>
        split at hp
        · next hnone =>
          simp only [Except.ok.injEq] at hp; subst hp
          refine ⟨piece, liftOps_ok.mp hpiece, Or.inr ⟨init, last, last.range, hcs, hlt, rfl, ?_⟩⟩
          intro a b hab; rw [hnone] at hab; cases hab
        · next ms me hsome =>
          split at hp
          · simp at hp
          · next mapEnd hme =>
            simp only [Except.ok.injEq] at hp; subst hp
            refine ⟨piece, liftOps_ok.mp hpiece,
              Or.inr ⟨init, last, some (ms, mapEnd), hcs, hlt, rfl, ?_⟩⟩
            intro a b hab; rw [hsome] at hab
            simp only [Option.some.injEq, Prod.mk.injEq] at hab
            obtain ⟨rfl, _⟩ := hab
            exact ⟨mapEnd, liftOps_ok.mp hme, rfl⟩
    · next hlt =>
      obtain ⟨piece, h1, x, y, h2, h3, h4⟩ := hfresh out hp
      refine ⟨piece, h1, Or.inl ⟨x, y, h2, ?_, h3, h4⟩⟩
      intro y0 hy0
      rw [hcs] at hy0; simp at hy0; subst hy0
      simpa using hlt

theorem RI.pushText {src : List Char} {m : Srcmap} {lo pos : Nat} {cs out : List Node}
    (h : RI src m lo pos cs) (hm : MapMono m) {stop : Nat} (hle : pos ≤ stop)
    (hp : trailingTextPush src m cs pos stop = .ok out) : RI src m lo stop out := by
  obtain ⟨hi, hhi, hord⟩ := h.ord
  obtain ⟨piece, hpiece, ⟨x, y, rfl, _, hx, hy⟩ | ⟨init, last, r, hcs, hlt, rfl, hr⟩⟩ :=
    trailingTextPush_cases hp
  · rw [hhi] at hx; cases hx
    have hxy := hm.le hle hhi hy
    refine ⟨⟨_, hy, hord.snoc (n := Node.newText piece (some (hi, y))) rfl (Nat.le_refl _) hxy
      (Nat.le_refl _)⟩, h.deep.append (WellRangedList.single (wellRanged_leaf hxy)), ?_, ?_⟩
    · intro n' hn' mk hmk'
      rcases List.mem_append.mp hn' with h' | h'
      · exact h.markers n' h' mk hmk'
      · simp only [List.mem_singleton] at h'; subst h'; simp [Node.newText, Node.asMarker] at hmk'
    · intro init last hcs _
      obtain ⟨_, rfl⟩ := snoc_inj hcs
      exact ⟨rfl, pos, hi, y, hpiece, hhi, hy, rfl⟩
  · obtain ⟨hch, start, xs, xe, hsl, hxs, hxe, hrange⟩ := h.trail init last hcs hlt
    obtain ⟨y, hy, rfl⟩ := hr _ _ hrange
    have hsl2 := C05.slice_append src start pos stop _ _ hsl hpiece
    obtain ⟨_, _, hse⟩ := slice_boundaries hsl
    have hxsy := hm.le (by omega : start ≤ stop) hxs hy
    subst hcs
    obtain ⟨a, b, hab, hinit, _, _⟩ := hord.last
    rw [hrange] at hab; simp only [Option.some.injEq, Prod.mk.injEq] at hab
    obtain ⟨rfl, rfl⟩ := hab
    refine ⟨⟨y, hy, hinit.snoc (n := Node.mk (.text (last.content ++ piece)) (some (xs, y)) last.children)
        rfl (Nat.le_refl _) hxsy (Nat.le_refl _)⟩,
      h.deep.left.append (WellRangedList.single (wellRanged_childless hch hxsy)), ?_, ?_⟩
    · intro n' hn' mk hmk'
      rcases List.mem_append.mp hn' with h' | h'
      · exact h.markers n' (List.mem_append_left _ h') mk hmk'
      · simp only [List.mem_singleton] at h'; subst h'; simp [Node.asMarker] at hmk'
    · intro init' last' hcs' _
      obtain ⟨_, rfl⟩ := snoc_inj hcs'
      exact ⟨hch, start, xs, y, by simpa [Node.content] using hsl2, hxs, hy, rfl⟩

/-- what a rule leaves behind, seen from the state it started in: the children it produced satisfy
    the frame invariant at the position the tokenizer will continue from -/
def StepRI (lo : Nat) (st : IState) (o : Option Nat) (st' : IState) : Prop :=
  RI st.src st.srcmap lo (st'.pos + o.getD 0) st'.children

theorem stepRI_same {lo : Nat} {st : IState} (h : RInv lo st) : StepRI lo st none st := by
  unfold StepRI; simp only [Option.getD_none, Nat.add_zero]; exact h

theorem tr_mono {src : List Char} {m : Srcmap} (hm : MapOK src m) {p p' x y : Nat} (hle : p ≤ p')
    (hx : getSourcePosFor m p = .ok x) (hy : getSourcePosFor m p' = .ok y) : x ≤ y :=
  C05.translate_mono m hm.wf hm.mono p p' hle x y hx hy

/-! ## text -/

theorem ruleText_ri {lo : Nat} {st st' : IState} {o : Option Nat}
    (hm : MapMono st.srcmap) (hi : RInv lo st) (h : ruleText st false = .ok (o, st')) :
    StepRI lo st o st' := by
  rcases ruleText_inv h with ⟨rfl, rfl⟩ | ⟨w, len, _, _, _, rfl, hp⟩
  · exact stepRI_same hi
  · obtain ⟨cs, hcs, rfl⟩ := pushText_eq hp
    exact RI.pushText hi hm (Nat.le_add_right _ _) hcs

/-- the fall-back of the tokenizer loop: one character goes to the pending text -/
theorem fallback_ri {lo : Nat} {st st' : IState} {n : Nat}
    (hm : MapMono st.srcmap) (hi : RInv lo st) (h : st.pushText st.pos (st.pos + n) = .ok st') :
    RI st.src st.srcmap lo (st'.pos + n) st'.children := by
  obtain ⟨cs, hcs, rfl⟩ := pushText_eq h
  exact RI.pushText hi hm (Nat.le_add_right _ _) hcs

/-! ## escape, entity -/

theorem leaf_isText {v : Val} {r : Option (Nat × Nat)} (h : ∀ c, v ≠ .text c) :
    (Node.leaf v r).isText = false := by
  unfold Node.leaf Node.isText
  cases v <;> simp_all

/-- pushing a leaf that is neither text nor marker, with the translated range `(pos, q)`, `q ≤ p'` -/
theorem RI.pushLeaf {st : IState} {lo : Nat} (hm : MapMono st.srcmap) (hi : RInv lo st) {v : Val}
    {q p' : Nat} {r : Nat × Nat} (hr : st.getMap st.pos q = .ok r) (hq : q ≤ p')
    (ht : (Node.leaf v (some r)).isText = false) (hmk : (Node.leaf v (some r)).asMarker = none) :
    RI st.src st.srcmap lo p' (st.children ++ [Node.leaf v (some r)]) := by
  obtain ⟨rx, ry⟩ := r
  obtain ⟨e1, e2, hle⟩ := getMap_eq hr
  obtain ⟨y, hy⟩ := C05.translate_total st.srcmap hm.wf p'
  exact RI.push hi e1 hy (n := Node.leaf v (some (rx, ry))) rfl (Nat.le_refl _) (hm.le hle e1 e2)
    (hm.le hq e2 hy) (wellRanged_leaf (hm.le hle e1 e2)) ht hmk

theorem ruleEscape_ri {lo : Nat} {st st' : IState} {o : Option Nat}
    (hm : MapMono st.srcmap) (hi : RInv lo st) (h : ruleEscape st false = .ok (o, st')) :
    StepRI lo st o st' := by
  rcases ruleEscape_inv h with ⟨rfl, rfl⟩ | ⟨w, len, r, _, hc, hr, rfl, rfl⟩ |
    ⟨w, sp, r, _, _, hr, rfl, rfl⟩
  · exact stepRI_same hi
  · obtain ⟨w', _, hlen⟩ := escapeCore_hardbreak hc
    exact RI.pushLeaf hm hi hr (p' := st.pos + len) (by omega) rfl rfl
  · exact RI.pushLeaf hm hi hr (Nat.le_refl _) rfl rfl

theorem ruleEntity_ri {cfg : Cfg} {lo : Nat} {st st' : IState} {o : Option Nat}
    (hm : MapMono st.srcmap) (hi : RInv lo st) (h : ruleEntity cfg st false = .ok (o, st')) :
    StepRI lo st o st' := by
  rcases ruleEntity_inv h with ⟨rfl, rfl⟩ | ⟨rest, suffix, sp, r, _, _, _, hr, rfl, rfl⟩
  · exact stepRI_same hi
  · exact RI.pushLeaf hm hi hr (Nat.le_refl _) rfl rfl

/-! ## code spans, autolinks: a node with one text child -/

theorem wellRanged_oneText {v : Val} {a b c d : Nat} {ct : List Char} (h1 : a ≤ c) (h2 : c ≤ d)
    (h3 : d ≤ b) :
    WellRanged { val := v, range := some (a, b), children := [Node.newText ct (some (c, d))] } := by
  rw [WellRanged_eq]
  refine ⟨⟨a, b, rfl, by omega, ?_⟩, WellRangedList.single ?_⟩
  · exact orderedN_single (n := Node.newText ct (some (c, d))) rfl h1 h2 h3
  · exact wellRanged_leaf (v := .text ct) h2

theorem ruleBackticks_ri {lo : Nat} {st st' : IState} {o : Option Nat}
    (hm : MapMono st.srcmap) (hi : RInv lo st) (h : ruleBackticks st false = .ok (o, st')) :
    StepRI lo st o st' := by
  rcases ruleBackticks_inv h with ⟨rfl, c, rfl⟩ |
    ⟨oc, c, nd, ⟨rx, ry⟩, ⟨ix, iy⟩, hrun, hnd, hr, hri, rfl, rfl⟩
  · exact hi
  · obtain ⟨e1, e2, _⟩ := getMap_eq hr
    obtain ⟨f1, f2, _⟩ := getMap_eq hri
    obtain ⟨s1, s2, s3, s4, s5⟩ := run_node_shape (by decide) hrun hnd
    rw [s1] at e1
    rw [s2] at e2
    have a1 := hm.le (by omega) e1 f1
    have a2 := hm.le s4 f1 f2
    have a3 := hm.le (by rw [s2] at s5; exact s5) f2 e2
    exact RI.push hi e1 e2 (n := Node.mk (.codeInline '`' nd.markerLen) (some (rx, ry))
        [Node.newText nd.content (some (ix, iy))]) rfl (Nat.le_refl _)
      (by omega) (Nat.le_refl _) (wellRanged_oneText a1 a2 a3) rfl rfl

theorem ruleAutolink_ri {lo : Nat} {st st' : IState} {o : Option Nat}
    (hm : MapMono st.srcmap) (hi : RInv lo st) (h : ruleAutolink st false = .ok (o, st')) :
    StepRI lo st o st' := by
  rcases ruleAutolink_inv h with ⟨rfl, rfl⟩ |
    ⟨rest, p, url, fullUrl, ⟨rx, ry⟩, ⟨ix, iy⟩, _, hscan, _, hr, hri, rfl, rfl⟩
  · exact stepRI_same hi
  · obtain ⟨u, v, _, hp⟩ := autolinkScan_spec hscan
    obtain ⟨e1, e2, _⟩ := getMap_eq hr
    obtain ⟨f1, f2, _⟩ := getMap_eq hri
    have e : st.pos + (p - st.pos) = p := by omega
    have a1 := hm.le (by omega) e1 f1
    have a2 := hm.le (by omega) f1 f2
    have a3 := hm.le (by omega) f2 e2
    show RI st.src st.srcmap lo (st.pos + (p - st.pos)) _
    rw [e]
    exact RI.push hi e1 e2 (n := Node.mk (.autolink _) (some (rx, ry))
        [Node.newText _ (some (ix, iy))]) rfl (Nat.le_refl _)
      (by omega) (Nat.le_refl _) (wellRanged_oneText a1 a2 a3) rfl rfl

/-! ## for `MapOK` tables -/

theorem ruleText_ranges {lo : Nat} {st st' : IState} {o : Option Nat}
    (hm : MapOK st.src st.srcmap) (hi : RInv lo st) (h : ruleText st false = .ok (o, st')) :
    StepRI lo st o st' := ruleText_ri hm.mapMono hi h

theorem fallback_ranges {lo : Nat} {st st' : IState} {n : Nat}
    (hm : MapOK st.src st.srcmap) (hi : RInv lo st) (h : st.pushText st.pos (st.pos + n) = .ok st') :
    RI st.src st.srcmap lo (st'.pos + n) st'.children := fallback_ri hm.mapMono hi h

theorem ruleEscape_ranges {lo : Nat} {st st' : IState} {o : Option Nat}
    (hm : MapOK st.src st.srcmap) (hi : RInv lo st) (h : ruleEscape st false = .ok (o, st')) :
    StepRI lo st o st' := ruleEscape_ri hm.mapMono hi h

theorem ruleEntity_ranges {cfg : Cfg} {lo : Nat} {st st' : IState} {o : Option Nat}
    (hm : MapOK st.src st.srcmap) (hi : RInv lo st) (h : ruleEntity cfg st false = .ok (o, st')) :
    StepRI lo st o st' := ruleEntity_ri hm.mapMono hi h

theorem ruleBackticks_ranges {lo : Nat} {st st' : IState} {o : Option Nat}
    (hm : MapOK st.src st.srcmap) (hi : RInv lo st) (h : ruleBackticks st false = .ok (o, st')) :
    StepRI lo st o st' := ruleBackticks_ri hm.mapMono hi h

theorem ruleAutolink_ranges {lo : Nat} {st st' : IState} {o : Option Nat}
    (hm : MapOK st.src st.srcmap) (hi : RInv lo st) (h : ruleAutolink st false = .ok (o, st')) :
    StepRI lo st o st' := ruleAutolink_ri hm.mapMono hi h

/-- what `trailing_text_pop(tail)` does when `tail` is the number of trailing blanks of the
    trailing text -/
theorem pop_tail_cases {cs out : List Node}
    (h : trailingTextPop cs (tailSpaces (trailingTextGet cs)) = .ok out) :
    (tailSpaces (trailingTextGet cs) = 0 ∧ out = cs) ∨
    (∃ init last pre, cs = init ++ [last] ∧ last.isText = true ∧
      0 < tailSpaces last.content ∧ trailingTextGet cs = last.content ∧
      last.content = pre ++ List.replicate (tailSpaces last.content) ' ' ∧
      ((pre = [] ∧ out = init) ∨
       (pre ≠ [] ∧ ∃ a b, last.range = some (a, b) ∧ tailSpaces last.content ≤ b ∧
          out = init ++ [Node.mk (.text pre) (some (a, b - tailSpaces last.content)) last.children]) ∨
       (pre ≠ [] ∧ last.range = none ∧ out = init ++ [Node.mk (.text pre) none last.children]))) := by
  unfold trailingTextPop at h
  split at h
  · next h0 => simp only [Except.ok.injEq] at h; left; exact ⟨h0, h.symm⟩
  · next h0 =>
    right
    rcases popLast_spec cs with ⟨hp, _⟩ | ⟨init, last, hp, hcs⟩
    · rw [hp] at h; simp at h
    · rw [hp] at h
      simp only at h
      have hget : trailingTextGet cs = if last.isText then last.content else [] := by
        unfold trailingTextGet; rw [hp]
      by_cases ht : last.isText = true
      · simp only [ht, if_true] at hget
        rw [hget] at h h0
        simp only [ht, Bool.not_true, Bool.false_eq_true, if_false] at h
        obtain ⟨pre, hpre⟩ := tailSpaces_split last.content
        have hbl : byteLen last.content = byteLen pre + tailSpaces last.content := by
          conv => lhs; rw [hpre]
          rw [byteLen_append, byteLen_replicate_space]
        refine ⟨init, last, pre, hcs, ht, by omega, hget, hpre, ?_⟩
        split at h
        · next heq =>
          simp only [Except.ok.injEq] at h
          left
          exact ⟨byteLen_eq_zero (by omega), h.symm⟩
        · next hne =>
          have hpne : pre ≠ [] := by
            intro e; subst e; simp only [byteLen] at hbl; omega
          rw [if_neg (by omega)] at h
          have htr : liftOps (InlineOps.truncate last.content (byteLen last.content - tailSpaces last.content))
              = .ok pre := by
            have : byteLen last.content - tailSpaces last.content = byteLen pre := by omega
            rw [this]
            unfold InlineOps.truncate
            conv => lhs; rw [hpre]
            rw [C05.splitAtByte_append]; rfl
          rw [htr] at h
          simp only at h
          split at h
          · next hr =>
            simp only [Except.ok.injEq] at h
            right; right
            exact ⟨hpne, hr, by rw [← h, hr]⟩
          · next a b hr =>
            split at h
            · simp at h
            · next hle =>
              simp only [Except.ok.injEq] at h
              right; left
              exact ⟨hpne, a, b, hr, by omega, h.symm⟩
      · simp only [ht, Bool.false_eq_true, if_false] at hget
        rw [hget] at h0
        simp [tailSpaces] at h0

theorem space_not_lf (n : Nat) : '\n' ∉ List.replicate n ' ' := by
  intro h
  have := List.eq_of_mem_replicate h
  exact absurd this (by decide)

/-- the tree part of the newline rule: cut the blanks, push the break node -/
theorem newline_core {src : List Char} {m : Srcmap} {lo pos : Nat} {cs out : List Node}
    (hm : MapOK src m) (hi : RI src m lo pos cs)
    (hpop : trailingTextPop cs (tailSpaces (trailingTextGet cs)) = .ok out)
    (hge : ¬ pos < tailSpaces (trailingTextGet cs)) {p' rx ry : Nat}
    (e1 : getSourcePosFor m (pos - tailSpaces (trailingTextGet cs)) = .ok rx)
    (e2 : getSourcePosFor m p' = .ok ry) (hle : pos ≤ p') {n : Node}
    (hn : n.range = some (rx, ry)) (ht1 : n.isText = false) (ht2 : n.asMarker = none)
    (hnc : n.children = []) : RI src m lo p' (out ++ [n]) := by
  obtain ⟨hi0, hhi0, hord⟩ := hi.ord
  have hleaf : ∀ {a b : Nat}, a ≤ b → n.range = some (a, b) → WellRanged n := by
    intro a b hab hr
    rw [WellRanged_eq]; simp only [hnc]; exact ⟨⟨a, b, hr, hab, hab⟩, trivial⟩
  rcases pop_tail_cases hpop with ⟨h0, rfl⟩ | ⟨init, last, pre, hcs, hlt, htail, hget, hpre, hcase⟩
  · -- nothing to cut
    rw [h0] at e1
    simp only [Nat.sub_zero] at e1
    exact RI.push hi e1 e2 hn (Nat.le_refl _) (tr_mono hm (by omega) e1 e2) (Nat.le_refl _)
      (hleaf (tr_mono hm (by omega) e1 e2) hn) ht1 ht2
  · -- blanks cut off the trailing text
    rw [hget] at e1 hge
    obtain ⟨hch, start, xs, xe, hsl, hxs, hxe, hrange⟩ := hi.trail init last hcs hlt
    rw [hhi0] at hxe; simp only [Except.ok.injEq] at hxe; subst hxe
    obtain ⟨_, _, hse⟩ := slice_boundaries hsl
    have hbl : byteLen last.content = byteLen pre + tailSpaces last.content := by
      conv => lhs; rw [hpre]
      rw [byteLen_append, byteLen_replicate_space]
    -- the blanks are `src[pos - tail .. pos]`, on one line
    have hsp : slice src (pos - tailSpaces last.content) pos
        = .ok (List.replicate (tailSpaces last.content) ' ') := by
      obtain ⟨p, q, e, l1, l2⟩ := (slice_ok_iff _ _ _ _).mp hsl
      apply (slice_ok_iff _ _ _ _).mpr
      refine ⟨p ++ pre, q, ?_, ?_, ?_⟩
      · rw [e]; conv => lhs; rw [hpre]
        simp
      · rw [byteLen_append]; omega
      · rw [byteLen_replicate_space]; omega
    have hline := translate_same_line m hm.wf hm.mono (pos - tailSpaces last.content) pos
      (by omega) (no_key_inside hm.lf hsp (space_not_lf _)) rx hi0 e1 hhi0
    have hstart : start ≤ pos - tailSpaces last.content := by omega
    have hxsrx := tr_mono hm hstart hxs e1
    subst hcs
    obtain ⟨a, b, hab, hinit, _, _⟩ := hord.last
    rw [hrange] at hab; simp only [Option.some.injEq, Prod.mk.injEq] at hab
    obtain ⟨rfl, rfl⟩ := hab
    have hrxy := tr_mono hm (by omega) e1 e2
    rcases hcase with ⟨hpnil, rfl⟩ | ⟨hpne, a', b', hr', hle', rfl⟩ | ⟨_, hr', _⟩
    · -- the whole node goes: `start = pos - tail`
      subst hpnil
      simp only [byteLen, Nat.zero_add] at hbl
      have : start = pos - tailSpaces last.content := by omega
      subst this
      rw [hxs] at e1; simp only [Except.ok.injEq] at e1; subst e1
      refine ⟨⟨ry, e2, hinit.snoc hn (Nat.le_refl _) hrxy (Nat.le_refl _)⟩,
        hi.deep.left.append (WellRangedList.single (hleaf hrxy hn)), ?_, ?_⟩
      · intro n' hn' mk hmk'
        rcases List.mem_append.mp hn' with h' | h'
        · exact hi.markers n' (List.mem_append_left _ h') mk hmk'
        · simp only [List.mem_singleton] at h'; subst h'; rw [ht2] at hmk'; cases hmk'
      · intro init' last' hcs' hlt'
        obtain ⟨_, rfl⟩ := snoc_inj hcs'
        rw [ht1] at hlt'; cases hlt'
    · -- the node keeps `pre`, its range end moves left by `tail`
      rw [hrange] at hr'; simp only [Option.some.injEq, Prod.mk.injEq] at hr'
      obtain ⟨rfl, rfl⟩ := hr'
      have hend : hi0 - tailSpaces last.content = rx := by omega
      rw [hend]
      have hlast' : WellRanged (Node.mk (.text pre) (some (xs, rx)) last.children) := by
        rw [WellRanged_eq]; simp only [hch]
        exact ⟨⟨xs, rx, rfl, hxsrx, hxsrx⟩, trivial⟩
      refine ⟨⟨ry, e2, (hinit.snoc (n := Node.mk (.text pre) (some (xs, rx)) last.children) rfl
          (Nat.le_refl _) hxsrx (Nat.le_refl _)).snoc hn (Nat.le_refl _) hrxy (Nat.le_refl _)⟩,
        (hi.deep.left.append (WellRangedList.single hlast')).append
          (WellRangedList.single (hleaf hrxy hn)), ?_, ?_⟩
      · intro n' hn' mk hmk'
        rcases List.mem_append.mp hn' with h' | h'
        · rcases List.mem_append.mp h' with h'' | h''
          · exact hi.markers n' (List.mem_append_left _ h'') mk hmk'
          · simp only [List.mem_singleton] at h''; subst h''
            simp [Node.asMarker] at hmk'
        · simp only [List.mem_singleton] at h'; subst h'; rw [ht2] at hmk'; cases hmk'
      · intro init' last' hcs' hlt'
        obtain ⟨_, rfl⟩ := snoc_inj hcs'
        rw [ht1] at hlt'; cases hlt'
    · rw [hrange] at hr'; cases hr'

theorem ruleNewline_ranges {lo : Nat} {st st' : IState} {o : Option Nat}
    (hm : MapOK st.src st.srcmap) (hi : RInv lo st) (h : ruleNewline st false = .ok (o, st')) :
    StepRI lo st o st' := by
  rcases ruleNewline_inv h with ⟨rfl, rfl⟩ | ⟨rest, cs, rx, ry, hw, hpop, hge, e1, e2, rfl, rfl⟩
  · exact stepRI_same hi
  · unfold StepRI
    simp only [Option.getD_some]
    rw [← Nat.add_assoc]
    refine newline_core hm hi hpop hge e1 e2 (by omega) rfl ?_ ?_ rfl
    · split <;> rfl
    · split <;> rfl

end MdIt.Inline
