/-
  What the six rules text, newline, escape, entity, autolink, backticks READ and WRITE (the rules without
  look-ahead recursion, the emphasis-marker rule apart, which rewrites the siblings).

  Such a rule reads `src`, `pos`, `posMax` (the window; the entity rule the suffix of `src`, the autolink
  rule a slice), `silent`, the code-span cache (backticks only) and the number of trailing spaces of the
  pending text (newline only).  From these it computes a `Plan`; `exec` carries the plan out, and only
  `exec` reads the per-line table (`get_map`, `trailing_text_push`) and writes the children:

      rule<X> st silent = runPlan st silent (plan<X> …)      (`rule<X>_eq`)

  where look-ahead mode carries out the answer of the plan only (`Plan.mode`).  (Backticks: `CodePair.run`
  first, the plan of its outcome is carried out on the state with the new cache.)  A family of per-rule
  lemmas is then one lemma about `exec` or `runPlan` and a fact about the plan as a function of what was read.
-/
import MdIt.Model.Inline

namespace MdIt.Inline
open MdIt.InlineOps (Srcmap getSourcePosFor getMap byteLen slice)

/-- what one of the six rules with a plan (text, newline, escape, entity, autolink, backticks) decided to do -/
inductive Plan where
  /-- `return None` -/
  | decline
  /-- `return Some(len)` -/
  | skip (len : Nat)
  /-- `trailing_text_push(pos, pos + len)` -/
  | text (len : Nat)
  /-- the newline rule in real mode: trim `tail` trailing spaces, push a break over `[pos - tail, pos']` -/
  | brk (tail pos' : Nat)
  /-- push a leaf `v` over `[pos, pos + alen]`, answer `len` -/
  | leaf (v : Val) (alen len : Nat)
  /-- push a node `v` over `[a, b]` around one `Text` over `[ai, bi]`, answer `len` -/
  | wrap (v : Val) (a b : Nat) (txt : List Char) (ai bi len : Nat)

/-- carrying a plan out: the only place where the table is read and the children are written -/
def exec (st : IState) : Plan → SRes
  | .decline => .ok (none, st)
  | .skip len => .ok (some len, st)
  | .text len =>
    match st.pushText st.pos (st.pos + len) with
    | .error e => .error e
    | .ok st' => .ok (some len, st')
  | .brk tail pos' =>
    match trailingTextPop st.children tail with
    | .error e => .error e
    | .ok cs =>
      if st.pos < tail then .error .underflow
      else
        match st.getMap (st.pos - tail) pos' with
        | .error e => .error e
        | .ok r =>
          .ok (some (pos' - st.pos),
            { st with children := cs ++ [Node.leaf (if tail ≥ 2 then Val.hardbreak else Val.softbreak) (some r)] })
  | .leaf v alen len =>
    match st.getMap st.pos (st.pos + alen) with
    | .error e => .error e
    | .ok r => .ok (some len, st.push (Node.leaf v (some r)))
  | .wrap v a b txt ai bi len =>
    match st.getMap a b with
    | .error e => .error e
    | .ok r =>
      match st.getMap ai bi with
      | .error e => .error e
      | .ok ri => .ok (some len, st.push { val := v, range := some r, children := [Node.newText txt (some ri)] })

/-- the plans that write nothing -/
def Plan.quiet : Plan → Bool
  | .decline => true
  | .skip _ => true
  | _ => false

/-- what a plan answers when it is carried out from the cursor `pos` -/
def Plan.answer (pos : Nat) : Plan → Option Nat
  | .decline => none
  | .skip len => some len
  | .text len => some len
  | .brk _ pos' => some (pos' - pos)
  | .leaf _ _ len => some len
  | .wrap _ _ _ _ _ _ len => some len

/-- look-ahead mode carries out the answer only -/
def Plan.mode (pos : Nat) (p : Plan) : Bool → Plan
  | false => p
  | true =>
    match p.answer pos with
    | none => .decline
    | some len => .skip len

/-- a rule that reads the window, plans, and carries the plan out in the given mode -/
def runPlan (st : IState) (silent : Bool) (plan : List Char → Except RPanic Plan) : SRes :=
  st.window >>= fun w => plan w >>= fun p => exec st (p.mode st.pos silent)

/-! ## the plans of the six rules, and the equations -/

def planText (w : List Char) : Plan :=
  let len := byteLen (Entity.splitRun (fun c => !Entity.textStop.contains c) w).1
  if len = 0 then .decline else .text len

theorem ruleText_eq (st : IState) (silent : Bool) :
    ruleText st silent = runPlan st silent fun w => .ok (planText w) := by
  unfold ruleText runPlan planText
  cases st.window with
  | error e => rfl
  | ok w =>
    simp only [bind, Except.bind]
    split <;> cases silent <;> rfl

def planEscape (w : List Char) : Except RPanic Plan :=
  match Entity.escapeCore w with
  | .error e => .error (RPanic.ofEntity e)
  | .ok none => .ok .decline
  | .ok (some (.hardbreak len)) => .ok (.leaf .hardbreak 2 len)
  | .ok (some (.special sp)) =>
    .ok (.leaf (.special sp.content sp.markup infoEscape) (byteLen sp.markup) (byteLen sp.markup))

theorem ruleEscape_eq (st : IState) (silent : Bool) : ruleEscape st silent = runPlan st silent planEscape := by
  unfold ruleEscape runPlan planEscape
  cases st.window with
  | error e => rfl
  | ok w =>
    simp only [bind, Except.bind]
    cases Entity.escapeCore w with
    | error e => rfl
    | ok o =>
      cases o with
      | none => cases silent <;> rfl
      | some x => cases x <;> cases silent <;> rfl

def planEntity (cfg : Cfg) (src : List Char) (pos : Nat) (w : List Char) : Except RPanic Plan :=
  match w with
  | [] => .error .unwrap
  | c :: _ =>
    if c ≠ '&' then .ok .decline
    else
      match liftOps (slice src pos (byteLen src)) with
      | .error e => .error e
      | .ok suffix =>
        match Entity.entityCore cfg.entity w suffix with
        | .error e => .error (RPanic.ofEntity e)
        | .ok none => .ok .decline
        | .ok (some sp) =>
          .ok (.leaf (.special sp.content sp.markup infoEntity) (byteLen sp.markup) (byteLen sp.markup))

theorem ruleEntity_eq (cfg : Cfg) (st : IState) (silent : Bool) :
    ruleEntity cfg st silent = runPlan st silent (planEntity cfg st.src st.pos) := by
  unfold ruleEntity runPlan planEntity
  cases st.window with
  | error e => rfl
  | ok w =>
    simp only [bind, Except.bind]
    cases w with
    | nil => rfl
    | cons c r =>
      simp only
      by_cases hc : c ≠ '&'
      · simp only [if_pos hc]; cases silent <;> rfl
      · simp only [if_neg hc]
        cases liftOps (slice st.src st.pos (byteLen st.src)) with
        | error e => rfl
        | ok suffix =>
          simp only
          cases Entity.entityCore cfg.entity (c :: r) suffix with
          | error e => rfl
          | ok o =>
            cases o with
            | none => cases silent <;> rfl
            | some sp => cases silent <;> rfl

def planAutolink (src : List Char) (pos : Nat) (w : List Char) : Except RPanic Plan :=
  match w with
  | [] => .error .unwrap
  | c :: rest =>
    if c ≠ '<' then .ok .decline
    else
      match autolinkScan rest (pos + 2) with
      | none => .ok .decline
      | some p =>
        match liftOps (slice src (pos + 1) (p - 1)) with
        | .error e => .error e
        | .ok url =>
          if !matchAutolinkRe url && !matchEmailRe url then .ok .decline
          else
            match Link.autolinkDest (matchAutolinkRe url) url with
            | none => .ok .decline
            | some full => .ok (.wrap (.autolink full) pos p url (pos + 1) (p - 1) (p - pos))

theorem ruleAutolink_eq (st : IState) (silent : Bool) :
    ruleAutolink st silent = runPlan st silent (planAutolink st.src st.pos) := by
  unfold ruleAutolink runPlan planAutolink
  cases st.window with
  | error e => rfl
  | ok w =>
    simp only [bind, Except.bind]
    cases w with
    | nil => rfl
    | cons c r =>
      simp only
      by_cases hc : c ≠ '<'
      · simp only [if_pos hc]; cases silent <;> rfl
      · simp only [if_neg hc]
        cases autolinkScan r (st.pos + 2) with
        | none => cases silent <;> rfl
        | some p =>
          simp only
          cases liftOps (slice st.src (st.pos + 1) (p - 1)) with
          | error e => rfl
          | ok url =>
            simp only
            by_cases hb : (!matchAutolinkRe url && !matchEmailRe url) = true
            · simp only [hb, if_true]; cases silent <;> rfl
            · simp only [hb]
              cases Link.autolinkDest (matchAutolinkRe url) url with
              | none => cases silent <;> rfl
              | some full => cases silent <;> rfl

def planNewline (pos : Nat) (trailing w : List Char) : Except RPanic Plan :=
  match w with
  | [] => .error .unwrap
  | c :: rest =>
    if c ≠ '\n' then .ok .decline
    else .ok (.brk (tailSpaces trailing) (pos + 1 + (rest.takeWhile isSpTab).length))

theorem ruleNewline_eq (st : IState) (silent : Bool) :
    ruleNewline st silent = runPlan st silent (planNewline st.pos (trailingTextGet st.children)) := by
  unfold ruleNewline runPlan planNewline
  cases st.window with
  | error e => rfl
  | ok w =>
    simp only [bind, Except.bind]
    cases w with
    | nil => rfl
    | cons c r =>
      simp only
      by_cases hc : c ≠ '\n'
      · simp only [if_pos hc]; cases silent <;> rfl
      · simp only [if_neg hc]
        cases silent <;> rfl

/-- the plan of an outcome of the code-span rule of `MdIt.CodePair` -/
def planBackticks : Option CodePair.Outcome → Plan
  | none => .decline
  | some o =>
    match o.node with
    | none => .skip o.len
    | some nd => .wrap (.codeInline '`' nd.markerLen) nd.rangeStart nd.rangeEnd nd.content nd.innerStart
        nd.innerEnd o.len

theorem planBackticks_answer (oc : Option CodePair.Outcome) (pos : Nat) :
    (planBackticks oc).answer pos = oc.map (·.len) := by
  cases oc with
  | none => rfl
  | some o => obtain ⟨len, nd⟩ := o; cases nd <;> rfl

theorem ruleBackticks_eq (st : IState) (silent : Bool) :
    ruleBackticks st silent =
      match CodePair.run CodePair.Variant.current '`' st.src st.pos st.posMax false silent st.backticks with
      | .error e => .error (RPanic.ofCode e)
      | .ok (oc, c) => exec { st with backticks := c } (planBackticks oc) := by
  unfold ruleBackticks planBackticks
  cases CodePair.run CodePair.Variant.current '`' st.src st.pos st.posMax false silent st.backticks with
  | error e => rfl
  | ok x =>
    obtain ⟨_ | o, c⟩ := x
    · rfl
    · simp only
      cases o.node <;> rfl

/-! ## `exec` and `runPlan` -/

theorem exec_quiet {st : IState} {p : Plan} (h : p.quiet = true) : exec st p = .ok (p.answer st.pos, st) := by
  cases p <;> first | rfl | cases h

theorem exec_text_ok {st st' : IState} {len : Nat} {o : Option Nat} (h : exec st (.text len) = .ok (o, st')) :
    o = some len ∧ st.pushText st.pos (st.pos + len) = .ok st' := by
  simp only [exec] at h
  split at h <;> cases h
  exact ⟨rfl, ‹_›⟩

theorem exec_brk_ok {st st' : IState} {tail pos' : Nat} {o : Option Nat}
    (h : exec st (.brk tail pos') = .ok (o, st')) :
    ∃ cs r, trailingTextPop st.children tail = .ok cs ∧ ¬ st.pos < tail ∧
      st.getMap (st.pos - tail) pos' = .ok r ∧ o = some (pos' - st.pos) ∧
      st' = { st with children :=
        cs ++ [Node.leaf (if tail ≥ 2 then Val.hardbreak else Val.softbreak) (some r)] } := by
  simp only [exec] at h
  split at h
  · cases h
  · split at h
    · cases h
    · split at h <;> cases h
      exact ⟨_, _, ‹_›, ‹_›, ‹_›, rfl, rfl⟩

theorem exec_leaf_ok {st st' : IState} {v : Val} {alen len : Nat} {o : Option Nat}
    (h : exec st (.leaf v alen len) = .ok (o, st')) :
    ∃ r, st.getMap st.pos (st.pos + alen) = .ok r ∧ o = some len ∧ st' = st.push (Node.leaf v (some r)) := by
  simp only [exec] at h
  split at h <;> cases h
  exact ⟨_, ‹_›, rfl, rfl⟩

theorem exec_wrap_ok {st st' : IState} {v : Val} {a b ai bi len : Nat} {txt : List Char} {o : Option Nat}
    (h : exec st (.wrap v a b txt ai bi len) = .ok (o, st')) :
    ∃ r ri, st.getMap a b = .ok r ∧ st.getMap ai bi = .ok ri ∧ o = some len ∧
      st' = st.push { val := v, range := some r, children := [Node.newText txt (some ri)] } := by
  simp only [exec] at h
  split at h
  · cases h
  · split at h <;> cases h
    exact ⟨_, _, ‹_›, ‹_›, rfl, rfl⟩

/-- a plan that is carried out answers `Plan.answer` and leaves everything but the children alone -/
theorem exec_ok {st : IState} {p : Plan} {o : Option Nat} {st' : IState} (h : exec st p = .ok (o, st')) :
    o = p.answer st.pos ∧ ∃ cs, st' = { st with children := cs } := by
  cases p with
  | decline => cases h; exact ⟨rfl, _, rfl⟩
  | skip len => cases h; exact ⟨rfl, _, rfl⟩
  | text len =>
    obtain ⟨rfl, hp⟩ := exec_text_ok h
    unfold IState.pushText at hp
    split at hp <;> cases hp
    exact ⟨rfl, _, rfl⟩
  | brk tail pos' => obtain ⟨_, _, _, _, _, rfl, rfl⟩ := exec_brk_ok h; exact ⟨rfl, _, rfl⟩
  | leaf v alen len => obtain ⟨_, _, rfl, rfl⟩ := exec_leaf_ok h; exact ⟨rfl, _, rfl⟩
  | wrap v a b txt ai bi len => obtain ⟨_, _, _, _, rfl, rfl⟩ := exec_wrap_ok h; exact ⟨rfl, _, rfl⟩

theorem Plan.mode_quiet (pos : Nat) (p : Plan) : (p.mode pos true).quiet = true := by
  show Plan.quiet (match p.answer pos with | none => .decline | some len => .skip len) = true
  cases p.answer pos <;> rfl

theorem Plan.mode_answer (pos : Nat) (p : Plan) (silent : Bool) : (p.mode pos silent).answer pos = p.answer pos := by
  cases silent
  · rfl
  · show Plan.answer pos (match p.answer pos with | none => .decline | some len => .skip len) = p.answer pos
    cases p.answer pos <;> rfl

/-- success of `runPlan` taken apart -/
theorem runPlan_ok {st : IState} {silent : Bool} {plan : List Char → Except RPanic Plan} {o : Option Nat}
    {st' : IState} (h : runPlan st silent plan = .ok (o, st')) :
    ∃ w p, st.window = .ok w ∧ plan w = .ok p ∧ exec st (p.mode st.pos silent) = .ok (o, st') := by
  unfold runPlan at h
  cases hw : st.window with
  | error e => rw [hw] at h; cases h
  | ok w =>
    rw [hw] at h
    cases hp : plan w with
    | error e => simp only [bind, Except.bind, hp] at h; cases h
    | ok p => simp only [bind, Except.bind, hp] at h; exact ⟨w, p, rfl, hp, h⟩

/-- look-ahead mode, as an equivalence on the window: the state as it was, the answer of the plan -/
theorem runPlan_silent_iff {st : IState} {plan : List Char → Except RPanic Plan} {w : List Char}
    (hw : st.window = .ok w) {o : Option Nat} {st' : IState} :
    runPlan st true plan = .ok (o, st') ↔ st' = st ∧ ∃ p, plan w = .ok p ∧ p.answer st.pos = o := by
  unfold runPlan
  rw [hw]
  cases hp : plan w with
  | error e => simp [bind, Except.bind, hp]
  | ok p =>
    simp only [bind, Except.bind, hp, exec_quiet (p.mode_quiet _), p.mode_answer, Except.ok.injEq,
      Prod.mk.injEq, exists_eq_left']
    exact ⟨fun h => ⟨h.2.symm, h.1⟩, fun h => ⟨h.2, h.1.symm⟩⟩

theorem runPlan_window {st : IState} {silent : Bool} {plan : List Char → Except RPanic Plan}
    {r : Option Nat × IState} (h : runPlan st silent plan = .ok r) : ∃ w, st.window = .ok w :=
  let ⟨w, _, hw, _⟩ := runPlan_ok (o := r.1) (st' := r.2) h
  ⟨w, hw⟩

/-- the verdict of `runPlan` is the answer of the plan, in either mode -/
theorem runPlan_answer {st : IState} {silent : Bool} {plan : List Char → Except RPanic Plan} {o : Option Nat}
    {st' : IState} {w : List Char} (hw : st.window = .ok w) (h : runPlan st silent plan = .ok (o, st')) :
    ∃ p, plan w = .ok p ∧ o = p.answer st.pos := by
  obtain ⟨w', p, hw', hp, he⟩ := runPlan_ok h
  cases hw.symm.trans hw'
  exact ⟨p, hp, (exec_ok he).1.trans (p.mode_answer _ _)⟩

/-- `runPlan` leaves everything but the children alone -/
theorem runPlan_children {st : IState} {silent : Bool} {plan : List Char → Except RPanic Plan} {o : Option Nat}
    {st' : IState} (h : runPlan st silent plan = .ok (o, st')) : ∃ cs, st' = { st with children := cs } := by
  obtain ⟨_, _, _, _, he⟩ := runPlan_ok h
  exact (exec_ok he).2

/-- what real mode answers, look-ahead answers on the same state -/
theorem runPlan_real_silent {st : IState} {plan : List Char → Except RPanic Plan} {o : Option Nat} {st' : IState}
    (h : runPlan st false plan = .ok (o, st')) : runPlan st true plan = .ok (o, st) := by
  obtain ⟨w, p, hw, hp, he⟩ := runPlan_ok h
  unfold runPlan
  rw [hw]
  simp only [bind, Except.bind, hp, exec_quiet (p.mode_quiet _), p.mode_answer, (exec_ok he).1]

/-- **look-ahead and real mode agree**: look-ahead changes nothing and answers what real mode answers -/
theorem runPlan_silent_real {st : IState} {plan : List Char → Except RPanic Plan} {n : Nat} {st1 : IState}
    (hs : runPlan st true plan = .ok (some n, st1)) :
    st1 = st ∧ ∀ o st2, runPlan st false plan = .ok (o, st2) → o = some n ∧ st2.pos = st.pos := by
  obtain ⟨w, p, hw, hp, he⟩ := runPlan_ok hs
  rw [exec_quiet (p.mode_quiet _), p.mode_answer] at he
  obtain ⟨hn, rfl⟩ := Prod.mk.inj (Except.ok.inj he)
  refine ⟨rfl, fun o st2 hr => ?_⟩
  obtain ⟨p', hp', ho⟩ := runPlan_answer hw hr
  obtain ⟨_, _, _, _, he'⟩ := runPlan_ok hr
  obtain ⟨_, cs, rfl⟩ := exec_ok he'
  cases hp.symm.trans hp'
  exact ⟨ho.trans hn, rfl⟩

end MdIt.Inline
