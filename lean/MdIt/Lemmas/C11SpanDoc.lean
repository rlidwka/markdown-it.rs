/-
  C11, code SPANS, DOCUMENT level: the core chain behind the block pass and the renderer on a block tree
  `wrapForest w (paraLeaf c …)` — a paragraph with inline text `c = docOf As ++ `ᵏ⁺¹ R `ᵏ⁺¹ ++ docOf Bs` inside the
  containers `w` (`w = []`: top level) — whose inline run is the one of `C11X.parseInline_lines`.

    nodes        `txtR`, `codeR`, `sbR` (the `Softbreak` node), `linesR` (text, break, text, …), `midNodes`; with one
                 piece on either side `rawNodes` (`midNodes_single`), for the padded form under a one-entry table
                 `spanNodes` (`rawNodes_padded`)
    splice walk  `spliceList_placeholder`, `spliceList_paraLeaf`
    join         `fragmentsJoin_of_alt` (a fixpoint criterion: no marker, no two adjacent texts, no empty text),
                 `joinFix_midNodes`
    sourcepos    `mapAttrs_midNodes`
                 (through the wrapper nodes: `Lemmas/C11Forest.lean`)
    render       `linesE`, `midEvents`, `renderList_midNodes` (a soft break is the trait call `cr`), `render_wrapForestN`
    serializer   `InlOut` (inline events behind an opening tag append a fixed HTML), `out_linesE`: a `cr` between two
                 texts appends ONE line feed, so the lines render as `escapeHtml (docOf As)`; `inlOut_mid`;
                 `blocky_inlForest`
    the chain    `parseDoc_of_blocks_lines`, `renderDoc_of_blocks_lines`
  The paragraph is unwrapped by `mark_tight_paragraphs` exactly when the innermost wrapper is a list item
  (`tightOf w`): then the item renders `<li>` + inline HTML + `</li>` (`Wrapper.htmlTight`), else the wrappers stand
  around `<p>` … `</p>` LF (`spanHtmlA`).
-/
import MdIt.Lemmas.C11Forest
import MdIt.Lemmas.C11NestedPara
import MdIt.Lemmas.C11SpanInline
import MdIt.Lemmas.C11SpanMultiDefs

namespace MdIt.C11N
open MdIt.Block MdIt.Block.Li MdIt.Pipeline
open MdIt.Lines (NoTerm lead)
open MdIt.Render (Event piece piecesFrom flatten solAfter attrsStr escapeHtml)
open MdIt.NodeRender (aSourcepos tP tCode tBlockquote tUl tOl tLi olAttrs)

theorem ofInlineList_append (a b : List Inline.Node) : ofInlineList (a ++ b) = ofInlineList a ++ ofInlineList b := by
  induction a with
  | nil => rfl
  | cons c r ih => simp [ofInlineList, ih]

/-- the innermost children: the paragraph (from byte `s` to `E`) over the inline nodes — or, in a tight item, the
    inline nodes themselves -/
def spanLeaf (att : Nat × Nat → List (List Char × List Char)) (s E : Nat) (tg : Bool) (inl : List Node) : List Node :=
  if tg then inl else [⟨.blk .paragraph, some (s, E), att (s, E), inl⟩]

theorem spliceList_placeholder (icfg : Inline.Cfg) (c : List Char) (m : List (Nat × Nat)) (W : Nat)
    (ns : List Inline.Node) (h : Inline.parseInline icfg c (m.map fun kv => (kv.1, kv.2 + W)) = .ok ns) :
    spliceList icfg [inlineRootAt c m W] = .ok (ofInlineList ns) := by
  simp [spliceList, inlineRootAt, h]

theorem spliceList_paraLeaf (icfg : Inline.Cfg) (c : List Char) (m : List (Nat × Nat)) (a W E : Nat) (tg : Bool)
    (ns : List Inline.Node) (h : Inline.parseInline icfg c (m.map fun kv => (kv.1, kv.2 + W)) = .ok ns) :
    spliceList icfg (paraLeaf c m a W E tg) = .ok (spanLeaf (fun _ => []) (W + a) E tg (ofInlineList ns)) := by
  have h1 := spliceList_placeholder icfg c m W ns h
  cases tg
  · simp [paraLeaf, spanLeaf, spliceList, spliceNode, inlineRootAt, h]
  · simpa only [paraLeaf, spanLeaf, if_true] using h1

theorem joinFix_spanLeaf (att : Nat × Nat → List (List Char × List Char)) (s E : Nat) (tg : Bool) (inl : List Node)
    (h : JoinFix inl) : JoinFix (spanLeaf att s E tg inl) := by
  cases tg
  · exact joinFix_blk _ .paragraph rfl (joinNode_fix h.1 h.2)
  · exact h

theorem mapAttrs_spanLeaf (src : List Char) (s E : Nat) (tg : Bool) (inl : List Node) :
    (spanLeaf (fun _ => []) s E tg inl).map (mapAttrs (spG src)) =
      spanLeaf (spOn src) s E tg (inl.map (mapAttrs (spG src))) := by
  cases tg <;> simp [spanLeaf, mapAttrs_eq, spG]

/-- the trait calls of a text node: none for an empty stretch -/
def txtE (s : List Char) : List Event := if s = [] then [] else [.text s]

theorem renderList_append (lookup : List Char → Option (List Char)) (a b : List NodeRender.Node) (ea eb : List Event)
    (ha : NodeRender.renderList lookup a = .ok ea) (hb : NodeRender.renderList lookup b = .ok eb) :
    NodeRender.renderList lookup (a ++ b) = .ok (ea ++ eb) := by
  induction a generalizing ea with
  | nil => simp [NodeRender.renderList] at ha; subst ha; simpa using hb
  | cons c r ih =>
    rw [NodeRender.renderList] at ha
    cases hc : NodeRender.render lookup c with
    | error e => rw [hc] at ha; cases ha
    | ok c' =>
      rw [hc] at ha
      cases hr : NodeRender.renderList lookup r with
      | error e => rw [hr] at ha; cases ha
      | ok r' =>
        rw [hr] at ha
        simp only [Except.ok.injEq] at ha
        subst ha
        simp only [List.cons_append, NodeRender.renderList, hc, ih r' hr, List.append_assoc]

theorem toRenderList_append (lp : List Char) (a b : List Node) :
    toRenderList lp (a ++ b) = toRenderList lp a ++ toRenderList lp b := by
  induction a with
  | nil => rfl
  | cons c r ih => simp [toRenderList, ih]

/-- the trait calls of the innermost children -/
def leafEvents (ap : List (List Char × List Char)) (tg : Bool) (inl : List Event) : List Event :=
  if tg then inl else [.cr, .open tP ap] ++ inl ++ [.close tP, .cr]

theorem renderList_spanLeaf (lookup : List Char → Option (List Char)) (lp : List Char)
    (att : Nat × Nat → List (List Char × List Char)) (s E : Nat) (tg : Bool) (inl : List Node) (ev : List Event)
    (h : NodeRender.renderList lookup (toRenderList lp inl) = .ok ev) :
    NodeRender.renderList lookup (toRenderList lp (spanLeaf att s E tg inl)) = .ok (leafEvents (att (s, E)) tg ev) := by
  cases tg
  · simp [spanLeaf, leafEvents, toRenderList, toRender, Kind.toRender, NodeRender.renderList, NodeRender.render,
      NodeRender.wrap, h]
  · simpa [spanLeaf, leafEvents] using h

theorem render_wrapForestN (lookup : List Char → Option (List Char)) (lp : List Char)
    (att : Nat × Nat → List (List Char × List Char)) (E : Nat) (leaf : List Node) (leafE : List Event)
    (hleaf : NodeRender.renderList lookup (toRenderList lp leaf) = .ok leafE) :
    ∀ (ws : List Wrapper) (off : Nat),
      NodeRender.renderList lookup (toRenderList lp (wrapForestN att E ws off leaf)) =
        .ok (wrapEvents att E (fun _ => leafE) ws off)
  | [], _ => hleaf
  | x :: ws, off => by
    have ih := render_wrapForestN lookup lp att E leaf leafE hleaf ws (off + x.width)
    cases x <;>
      simp [wrapForestN, Wrapper.dnodeL, Wrapper.isQuote, Wrapper.kind, toRender, toRenderList, Kind.toRender,
        NodeRender.render, NodeRender.renderList, NodeRender.wrap, ih, wrapEvents, Wrapper.events]

theorem renderEvents_rootL (cfg : DocCfg) (rg : Option (Nat × Nat)) (a0 : List (List Char × List Char)) (cs : List Node)
    (evs : List Event) (h : NodeRender.renderList cfg.entity (toRenderList cfg.langPrefix cs) = .ok evs) :
    renderEvents cfg ⟨.blk .root, rg, a0, cs⟩ = .ok evs := by
  simp [renderEvents, toRender, Kind.toRender, NodeRender.render, h]

/-- the inline HTML: escaped `pre`, `<code ATTRS>`, escaped `T'`, `</code>`, escaped `post` -/
def inlHtml (a : List (List Char × List Char)) (pre T' post : List Char) : List Char :=
  escapeHtml pre ++ openTag tCode a ++ escapeHtml T' ++ closeTag tCode ++ escapeHtml post

theorem out_txtE (x sol : Bool) (s : List Char) (r : List Event) (f : Bool → List Char)
    (hr : ∀ s', out x s' r = f s') :
    out x sol (txtE s ++ r) = escapeHtml s ++ f (solAfter sol (escapeHtml s)) := by
  unfold txtE
  split
  · rename_i h; subst h
    simp [Render.escapeHtml, solAfter, hr]
  · simp only [List.singleton_append, out_cons, piece, hr]

/-- the HTML of a list wrapper around a TIGHT item: no line feed behind `<li>` -/
def Wrapper.htmlTight (x : Wrapper) (a : List (List Char × List Char)) (inner : List Char) : List Char :=
  match x with
  | .quote => openTag tBlockquote a ++ ['\n'] ++ inner ++ closeTag tBlockquote ++ ['\n']
  | .bullet _ => openTag tUl a ++ ['\n'] ++ (openTag tLi a ++ inner ++ closeTag tLi ++ ['\n']) ++ closeTag tUl ++ ['\n']
  | .ordered ds _ =>
    openTag tOl (olAttrs a (ordValue ds)) ++ ['\n'] ++ (openTag tLi a ++ inner ++ closeTag tLi ++ ['\n']) ++
      closeTag tOl ++ ['\n']

/-- the HTML of the wrapped paragraph (attributes `att range` on the wrapper nodes): the wrappers' tags around
    the paragraph `paraH` — or, when the innermost wrapper is a list item, around the tight item over `inlH` -/
def spanHtmlA (att : Nat × Nat → List (List Char × List Char)) (E : Nat) (paraH inlH : List Char) :
    List Wrapper → Nat → List Char
  | [], _ => paraH
  | [x], off => if x.isQuote then x.html (att (off, E)) paraH else x.htmlTight (att (off, E)) inlH
  | x :: y :: ws, off => x.html (att (off, E)) (spanHtmlA att E paraH inlH (y :: ws) (off + x.width))

end MdIt.C11N

namespace MdIt.C11M
open MdIt.Block MdIt.Block.Li MdIt.Pipeline MdIt.C11N
open MdIt.Lines (NoTerm lead)
open MdIt.Render (Event piece piecesFrom flatten solAfter attrsStr escapeHtml)
open MdIt.NodeRender (aSourcepos tP tCode tBlockquote tUl tOl tLi olAttrs)
open MdIt.C11S (PlainTxt)

/-- the `Text` node of a stretch `s` over the source range `r`, attributes `att r` — none for an empty stretch -/
def txtR (att : Nat × Nat → List (List Char × List Char)) (r : Nat × Nat) (s : List Char) : List Node :=
  if s = [] then [] else [⟨.inl (.text s), some r, att r, []⟩]

/-- the `CodeInline` node (marker `` ` ``, length `k + 1`) over the source range `r`; its ONE child is the text
    `C` over `ri` -/
def codeR (att : Nat × Nat → List (List Char × List Char)) (k : Nat) (r ri : Nat × Nat) (C : List Char) : Node :=
  ⟨.inl (.codeInline '`' (k + 1)), some r, att r, [⟨.inl (.text C), some ri, att ri, []⟩]⟩

/-- the source range of the whole span `` `ᵏ⁺¹ R `ᵏ⁺¹ `` behind `pre` -/
def spanRange (tr : Nat → Nat) (k : Nat) (pre R : List Char) : Nat × Nat :=
  (tr (Lines.byteLen pre), tr (Lines.byteLen pre + (2 * (k + 1) + Lines.byteLen R)))

/-- the source range of the text child: the inside of the span, without the padding bytes when they are stripped -/
def innerRange (tr : Nat → Nat) (k : Nat) (pre R : List Char) : Nat × Nat :=
  (tr (Lines.byteLen pre + (k + 1) + padW R), tr (Lines.byteLen pre + (k + 1) + Lines.byteLen R - padW R))

/-- the children of the paragraph: text of `pre` (if any), the code span, text of `post` (if any) -/
def rawNodes (att : Nat × Nat → List (List Char × List Char)) (tr : Nat → Nat) (k : Nat) (pre R post : List Char) :
    List Node :=
  txtR att (tr 0, tr (Lines.byteLen pre)) pre ++
    [codeR att k (spanRange tr k pre R) (innerRange tr k pre R) (spanContent R)] ++
    txtR att (tr (Lines.byteLen pre + (2 * (k + 1) + Lines.byteLen R)),
      tr (Lines.byteLen pre + (2 * (k + 1) + Lines.byteLen R) + Lines.byteLen post)) post

theorem ofInlineList_textNodesT (tr : Nat → Nat) (p : Nat) (s : List Char) :
    ofInlineList (textNodesT tr p s) = txtR (fun _ => []) (tr p, tr (p + Lines.byteLen s)) s := by
  unfold textNodesT txtR
  split
  · rfl
  · simp [ofInlineList, ofInline, Inline.Node.newText, C05I.linesLen_eq]

theorem spanContent_ne_nil {R : List Char} (h : R ≠ []) : spanContent R ≠ [] := by
  unfold spanContent CodePair.unpad
  split
  · rename_i hp
    obtain ⟨mid, hmid, hne⟩ := CodePair.padded_split hp
    rw [hmid]
    simpa using hne
  · exact CodePair.normalise_ne_nil h

theorem joinNode_codeR (att : Nat × Nat → List (List Char × List Char)) (k : Nat) (r ri : Nat × Nat) (C : List Char)
    (hC : C ≠ []) : joinNode (codeR att k r ri C) = codeR att k r ri C := by
  unfold codeR
  refine joinNode_fix ?_ (by simp [joinNode_childless])
  simp [fragmentsJoin, pass1, mergeAll, mergeLoop, markerToText, keep, Node.isText, Node.content, hC]

theorem mapAttrs_txtR (src : List Char) (r : Nat × Nat) (s : List Char) :
    (txtR (fun _ => []) r s).map (mapAttrs (spG src)) = txtR (spOn src) r s := by
  unfold txtR
  split <;> simp [mapAttrs_eq, spG]

theorem renderList_txtR (lookup : List Char → Option (List Char)) (lp : List Char)
    (att : Nat × Nat → List (List Char × List Char)) (r : Nat × Nat) (s : List Char) :
    NodeRender.renderList lookup (toRenderList lp (txtR att r s)) = .ok (txtE s) := by
  unfold txtR txtE
  split
  · rfl
  · simp [toRenderList, toRender, Kind.toRender, NodeRender.renderList, NodeRender.render]

end MdIt.C11M

namespace MdIt.C11X
open MdIt.Block MdIt.Block.Li MdIt.Pipeline MdIt.C11N MdIt.C11M
open MdIt.Lines (NoTerm lead)
open MdIt.Render (Event piece piecesFrom flatten solAfter attrsStr escapeHtml)
open MdIt.NodeRender (aSourcepos tP tCode tBlockquote tUl tOl tLi olAttrs)
open MdIt.C11S (PlainTxt QuietTick)

/-- the `Softbreak` node over the source range `r` -/
def sbR (att : Nat × Nat → List (List Char × List Char)) (r : Nat × Nat) : Node := ⟨.inl .softbreak, some r, att r, []⟩

/-- the nodes of the plain lines `As` from inline offset `p`: `Text`, `Softbreak`, `Text`, … -/
def linesR (att : Nat × Nat → List (List Char × List Char)) (tr : Nat → Nat) : Nat → List (List Char) → List Node
  | _, [] => []
  | p, [A] => txtR att (tr p, tr (p + Lines.byteLen A)) A
  | p, A :: B :: r =>
    txtR att (tr p, tr (p + Lines.byteLen A)) A ++
      sbR att (tr (p + Lines.byteLen A), tr (p + Lines.byteLen A + 1)) :: linesR att tr (p + Lines.byteLen A + 1) (B :: r)

/-- the children of the paragraph: the lines in front, the code span, the lines behind -/
def midNodes (att : Nat × Nat → List (List Char × List Char)) (tr : Nat → Nat) (k : Nat) (As : List (List Char))
    (R : List Char) (Bs : List (List Char)) : List Node :=
  linesR att tr 0 As ++
    [codeR att k (spanRange tr k (docOf As) R) (innerRange tr k (docOf As) R) (spanContent R)] ++
    linesR att tr (Lines.byteLen (docOf As) + (2 * (k + 1) + Lines.byteLen R)) Bs

theorem ofInlineList_linesInl (tr : Nat → Nat) : ∀ (As : List (List Char)) (p : Nat),
    ofInlineList (linesInl tr p As) = linesR (fun _ => []) tr p As
  | [], _ => rfl
  | [A], p => by simp only [linesInl, linesR, ofInlineList_textNodesT]
  | A :: B :: r, p => by
    have ih := ofInlineList_linesInl tr (B :: r) (p + Lines.byteLen A + 1)
    rw [C05I.linesLen_eq] at ih
    simp only [linesInl, linesR, ofInlineList_append, ofInlineList_textNodesT, ofInlineList, C05I.linesLen_eq, ih]
    simp [ofInline, brkNode, sbR, Inline.Node.leaf, ofInlineList]

theorem ofInlineList_mid (tr : Nat → Nat) (k : Nat) (As : List (List Char)) (R : List Char) (Bs : List (List Char)) :
    ofInlineList (linesInl tr 0 As ++ [codeNodeR tr (InlineOps.byteLen (docOf As)) k R] ++
      linesInl tr (InlineOps.byteLen (docOf As) + (2 * (k + 1) + InlineOps.byteLen R)) Bs) =
      midNodes (fun _ => []) tr k As R Bs := by
  rw [ofInlineList_append, ofInlineList_append, ofInlineList_linesInl, ofInlineList_linesInl]
  simp [ofInlineList, ofInline, codeNodeR, codeR, midNodes, spanRange, innerRange, Inline.Node.newText,
    C05I.linesLen_eq]

/-- no two adjacent text nodes -/
def Alt : List Node → Prop
  | [] => True
  | [_] => True
  | a :: b :: r => (a.isText && b.isText) = false ∧ Alt (b :: r)

theorem mergeLoop_alt : ∀ (rest : List Node) (cur : Node), Alt (cur :: rest) → mergeLoop cur rest = cur :: rest
  | [], _, _ => rfl
  | nxt :: rest, cur, h => by
    rw [mergeLoop, h.1]
    simp only [Bool.false_eq_true, if_false]
    rw [mergeLoop_alt rest nxt h.2]

/-- **a fixpoint criterion for `fragments_join`**: no emphasis marker left, no two adjacent texts, no empty text -/
theorem fragmentsJoin_of_alt (cs : List Node) (h1 : ∀ c ∈ cs, markerToText c = c) (h2 : Alt cs)
    (h3 : ∀ c ∈ cs, keep c = true) : fragmentsJoin cs = cs := by
  have hp : pass1 cs = cs := by
    unfold pass1
    conv => rhs; rw [← List.map_id cs]
    exact List.map_congr_left (fun c hc => by simpa using h1 c hc)
  have hm : mergeAll cs = cs := by
    cases cs with
    | nil => rfl
    | cons c r => exact mergeLoop_alt r c h2
  unfold fragmentsJoin
  rw [hp, hm]
  exact List.filter_eq_self.mpr h3

theorem alt_cons_nontext {m : Node} (hm : m.isText = false) {l : List Node} (h : Alt l) : Alt (m :: l) := by
  cases l with
  | nil => trivial
  | cons b r => exact ⟨by simp [hm], h⟩

theorem alt_txtR_cons (att : Nat × Nat → List (List Char × List Char)) (rg : Nat × Nat) (s : List Char) {m : Node}
    (hm : m.isText = false) {l : List Node} (h : Alt (m :: l)) : Alt (txtR att rg s ++ m :: l) := by
  unfold txtR
  split
  · exact h
  · exact ⟨by simp [hm], h⟩

theorem sbR_isText (att : Nat × Nat → List (List Char × List Char)) (rg : Nat × Nat) : (sbR att rg).isText = false := rfl

theorem alt_linesR_cons (att : Nat × Nat → List (List Char × List Char)) (tr : Nat → Nat) {m : Node}
    (hm : m.isText = false) {l : List Node} (h : Alt (m :: l)) :
    ∀ (As : List (List Char)) (p : Nat), Alt (linesR att tr p As ++ m :: l)
  | [], _ => h
  | [A], p => alt_txtR_cons att _ A hm h
  | A :: B :: r, p => by
    have ih := alt_linesR_cons att tr hm h (B :: r) (p + Lines.byteLen A + 1)
    simp only [linesR, List.append_assoc, List.cons_append]
    exact alt_txtR_cons att _ A (sbR_isText att _) (alt_cons_nontext (sbR_isText att _) ih)

theorem alt_linesR (att : Nat × Nat → List (List Char × List Char)) (tr : Nat → Nat) :
    ∀ (As : List (List Char)) (p : Nat), Alt (linesR att tr p As)
  | [], _ => trivial
  | [A], p => by
    simp only [linesR, txtR]
    split <;> trivial
  | A :: B :: r, p => by
    have ih := alt_linesR att tr (B :: r) (p + Lines.byteLen A + 1)
    simp only [linesR]
    exact alt_txtR_cons att _ A (sbR_isText att _) (alt_cons_nontext (sbR_isText att _) ih)

theorem mem_linesR (att : Nat × Nat → List (List Char × List Char)) (tr : Nat → Nat) :
    ∀ (As : List (List Char)) (p : Nat) (c : Node), c ∈ linesR att tr p As →
      (∃ s rg, s ≠ [] ∧ c = ⟨.inl (.text s), some rg, att rg, []⟩) ∨ ∃ rg, c = sbR att rg
  | [], _, c, h => by simp [linesR] at h
  | [A], p, c, h => by
    simp only [linesR, txtR] at h
    split at h
    · simp at h
    · rename_i hne
      simp only [List.mem_singleton] at h
      exact .inl ⟨A, _, hne, h⟩
  | A :: B :: r, p, c, h => by
    simp only [linesR, List.mem_append, List.mem_cons] at h
    rcases h with h | h | h
    · simp only [txtR] at h
      split at h
      · simp at h
      · rename_i hne
        simp only [List.mem_singleton] at h
        exact .inl ⟨A, _, hne, h⟩
    · exact .inr ⟨_, h⟩
    · exact mem_linesR att tr (B :: r) _ c h

theorem joinNode_sbR (att : Nat × Nat → List (List Char × List Char)) (rg : Nat × Nat) : joinNode (sbR att rg) = sbR att rg :=
  joinNode_childless rfl

theorem joinFix_midNodes (att : Nat × Nat → List (List Char × List Char)) (tr : Nat → Nat) (k : Nat)
    (As : List (List Char)) (R : List Char) (Bs : List (List Char)) (hR : R ≠ []) :
    JoinFix (midNodes att tr k As R Bs) := by
  have hC := spanContent_ne_nil hR
  have hcode : (codeR att k (spanRange tr k (docOf As) R) (innerRange tr k (docOf As) R) (spanContent R)).isText = false := rfl
  have hmem : ∀ c ∈ midNodes att tr k As R Bs,
      (∃ s rg, s ≠ [] ∧ c = ⟨.inl (.text s), some rg, att rg, []⟩) ∨ (∃ rg, c = sbR att rg) ∨
        c = codeR att k (spanRange tr k (docOf As) R) (innerRange tr k (docOf As) R) (spanContent R) := by
    intro c hc
    simp only [midNodes, List.mem_append, List.mem_singleton] at hc
    rcases hc with (hc | hc) | hc
    · rcases mem_linesR att tr As _ c hc with h | h
      · exact .inl h
      · exact .inr (.inl h)
    · exact .inr (.inr hc)
    · rcases mem_linesR att tr Bs _ c hc with h | h
      · exact .inl h
      · exact .inr (.inl h)
  refine ⟨fragmentsJoin_of_alt _ ?_ ?_ ?_, ?_⟩
  · intro c hc
    rcases hmem c hc with ⟨s, rg, _, rfl⟩ | ⟨rg, rfl⟩ | rfl <;> rfl
  · simp only [midNodes, List.append_assoc, List.singleton_append]
    exact alt_linesR_cons att tr hcode (alt_cons_nontext hcode (alt_linesR att tr Bs _)) As 0
  · intro c hc
    rcases hmem c hc with ⟨s, rg, hs, rfl⟩ | ⟨rg, rfl⟩ | rfl
    · simp [keep, Node.isText, Node.content, hs]
    · rfl
    · rfl
  · intro c hc
    rcases hmem c hc with ⟨s, rg, hs, rfl⟩ | ⟨rg, rfl⟩ | rfl
    · simp [joinNode_childless]
    · simp [joinNode_sbR]
    · simp [joinNode_codeR att k _ _ _ hC]

theorem mapAttrs_linesR (src : List Char) (tr : Nat → Nat) : ∀ (As : List (List Char)) (p : Nat),
    (linesR (fun _ => []) tr p As).map (mapAttrs (spG src)) = linesR (spOn src) tr p As
  | [], _ => rfl
  | [A], p => mapAttrs_txtR src _ A
  | A :: B :: r, p => by
    simp [linesR, mapAttrs_txtR, mapAttrs_linesR src tr (B :: r), sbR, mapAttrs_eq, spG]

theorem mapAttrs_midNodes (src : List Char) (tr : Nat → Nat) (k : Nat) (As : List (List Char)) (R : List Char)
    (Bs : List (List Char)) :
    (midNodes (fun _ => []) tr k As R Bs).map (mapAttrs (spG src)) = midNodes (spOn src) tr k As R Bs := by
  simp [midNodes, mapAttrs_linesR, codeR, mapAttrs_eq, spG]

/-- the trait calls of the lines: `text`, `cr`, `text`, … -/
def linesE : List (List Char) → List Event
  | [] => []
  | [A] => txtE A
  | A :: B :: r => txtE A ++ .cr :: linesE (B :: r)

/-- the trait calls of the paragraph's children -/
def midEvents (a : List (List Char × List Char)) (As : List (List Char)) (C : List Char) (Bs : List (List Char)) :
    List Event :=
  linesE As ++ [.open tCode a, .text C, .close tCode] ++ linesE Bs

theorem renderList_linesR (lookup : List Char → Option (List Char)) (lp : List Char)
    (att : Nat × Nat → List (List Char × List Char)) (tr : Nat → Nat) : ∀ (As : List (List Char)) (p : Nat),
    NodeRender.renderList lookup (toRenderList lp (linesR att tr p As)) = .ok (linesE As)
  | [], _ => rfl
  | [A], p => renderList_txtR lookup lp att _ A
  | A :: B :: r, p => by
    have ih := renderList_linesR lookup lp att tr (B :: r) (p + Lines.byteLen A + 1)
    simp only [linesR, linesE, toRenderList_append]
    refine renderList_append _ _ _ _ _ (renderList_txtR lookup lp att _ A) ?_
    simp [toRenderList, toRender, Kind.toRender, NodeRender.renderList, NodeRender.render, sbR, ih]

theorem renderList_midNodes (lookup : List Char → Option (List Char)) (lp : List Char)
    (att : Nat × Nat → List (List Char × List Char)) (tr : Nat → Nat) (k : Nat) (As : List (List Char)) (R : List Char)
    (Bs : List (List Char)) :
    NodeRender.renderList lookup (toRenderList lp (midNodes att tr k As R Bs)) =
      .ok (midEvents (att (spanRange tr k (docOf As) R)) As (spanContent R) Bs) := by
  unfold midNodes midEvents
  rw [toRenderList_append, toRenderList_append]
  refine renderList_append _ _ _ _ _ (renderList_append _ _ _ _ _ (renderList_linesR _ _ _ _ _ _) ?_)
    (renderList_linesR _ _ _ _ _ _)
  simp [codeR, toRenderList, toRender, Kind.toRender, NodeRender.renderList, NodeRender.render, NodeRender.wrap]

/-- inline trait calls that, behind an opening tag (buffer not at the start of a line), append the HTML `H`
    whatever follows -/
def InlOut (x : Bool) (ev : List Event) (H : List Char) : Prop :=
  ∀ (r : List Event) (T : List Char), (∀ s', out x s' r = T) → out x false (ev ++ r) = H ++ T

/-- the pieces can be serialized from a buffer in state `sol`: no line feed in a piece, and a `cr` never meets a
    buffer at the start of a line — no piece in front of a `cr` is empty unless the buffer is known not to be there -/
def OutOk : Bool → List (List Char) → Prop
  | _, [] => True
  | _, [A] => '\n' ∉ A
  | sol, A :: B :: r => '\n' ∉ A ∧ (sol = true → A ≠ []) ∧ OutOk true (B :: r)

instance : ∀ (sol : Bool) (As : List (List Char)), Decidable (OutOk sol As)
  | _, [] => isTrue trivial
  | _, [A] => by unfold OutOk; infer_instance
  | sol, A :: B :: r => by
    have := instDecidableOutOk true (B :: r)
    unfold OutOk; infer_instance

theorem escapeHtml_append : ∀ (a b : List Char), escapeHtml (a ++ b) = escapeHtml a ++ escapeHtml b
  | [], _ => rfl
  | c :: r, b => by simp [Render.escapeHtml, escapeHtml_append r b]

theorem solAfter_escapeChar (s : Bool) (c : Char) (hc : c ≠ '\n') : solAfter s (Render.escapeChar c) = false := by
  unfold Render.escapeChar
  split
  · rfl
  · split
    · rfl
    · split
      · rfl
      · split
        · rfl
        · simp [solAfter, hc]

theorem solAfter_escape : ∀ (A : List Char) (s : Bool), '\n' ∉ A → solAfter s (escapeHtml A) = (if A = [] then s else false)
  | [], s, _ => rfl
  | c :: r, s, h => by
    have hc : c ≠ '\n' := fun e => h (by simp [e])
    have hr : '\n' ∉ r := fun e => h (List.mem_cons_of_mem _ e)
    rw [Render.escapeHtml, Render.solAfter_append, solAfter_escapeChar s c hc, solAfter_escape r false hr]
    simp

/-- **the serializer on plain lines**: every `cr` between two pieces appends ONE line feed — the lines come out as
    the escaped text with its line feeds -/
theorem out_linesE (x : Bool) (r : List Event) (H : List Char) (hr : ∀ s', out x s' r = H) :
    ∀ (As : List (List Char)) (sol : Bool), OutOk sol As → out x sol (linesE As ++ r) = escapeHtml (docOf As) ++ H
  | [], sol, _ => by simpa [linesE, docOf, Lines.joinLines, Render.escapeHtml] using hr sol
  | [A], sol, _ => by
    rw [docOf_one, linesE, out_txtE x sol A r (fun _ => H) hr]
  | A :: B :: rr, sol, ⟨hA, hsol, hrest⟩ => by
    have ih := out_linesE x r H hr (B :: rr) true hrest
    have hs : solAfter sol (escapeHtml A) = false := by
      rw [solAfter_escape A sol hA]
      split
      · rename_i hnil
        cases sol with
        | false => rfl
        | true => exact absurd hnil (hsol rfl)
      · rfl
    simp only [linesE, List.append_assoc, List.cons_append]
    rw [out_txtE x sol A _ (fun s' => out x s' (.cr :: (linesE (B :: rr) ++ r))) (fun _ => rfl), hs, out_cons,
      piece_cr]
    simp only [Bool.false_eq_true, if_false]
    rw [show solAfter false ['\n'] = true from rfl, ih, docOf_cons2, escapeHtml_append]
    simp [Render.escapeHtml, Render.escapeChar, List.append_assoc]

theorem inlOut_mid (x : Bool) (a : List (List Char × List Char)) (As : List (List Char)) (C : List Char)
    (Bs : List (List Char)) (hA : OutOk false As) (hB : OutOk false Bs) :
    InlOut x (midEvents a As C Bs) (inlHtml a (docOf As) C (docOf Bs)) := by
  intro r T hr
  have h2 : ∀ s', out x s' ([.open tCode a, .text C, .close tCode] ++ (linesE Bs ++ r)) =
      openTag tCode a ++ escapeHtml C ++ closeTag tCode ++ escapeHtml (docOf Bs) ++ T := by
    intro s'
    simp only [List.cons_append, List.nil_append, out_cons, sol_close]
    rw [out_linesE x r T hr Bs false hB]
    simp [piece, openTag, closeTag, List.append_assoc]
  unfold midEvents inlHtml
  rw [List.append_assoc, List.append_assoc, out_linesE x _ _ h2 As false hA]
  simp [List.append_assoc]

/-- the paragraph: `cr; open p; …; close p; cr` -/
theorem blocky_para_inl (x : Bool) (ap : List (List Char × List Char)) {ev : List Event} {H : List Char}
    (h : InlOut x ev H) :
    Blocky x (leafEvents ap false ev) (openTag tP ap ++ H ++ closeTag tP ++ ['\n']) := by
  refine ⟨List.getLast?_concat, ?_⟩
  intro sol
  simp only [leafEvents, Bool.false_eq_true, if_false, List.cons_append, List.nil_append, out_cons, piece_cr, sol_open]
  rw [h _ _ (fun s => out_close_cr x s _)]
  simp [piece, openTag, List.append_assoc]

/-- the tight item: `open li; …; close li; cr` at the start of a line -/
theorem out_tight_item_inl (x : Bool) (al : List (List Char × List Char)) {ev : List Event} {H : List Char}
    (h : InlOut x ev H) :
    out x true ([.open tLi al] ++ ev ++ [.close tLi, .cr]) = openTag tLi al ++ H ++ closeTag tLi ++ ['\n'] := by
  simp only [List.cons_append, List.nil_append, out_cons, sol_open]
  rw [h _ _ (fun s => out_close_cr x s _)]
  simp [piece, openTag, List.append_assoc]

theorem blocky_tight_inl (xh : Bool) (x : Wrapper) (hq : x.isQuote = false) (al : List (List Char × List Char))
    {ev : List Event} {H : List Char} (h : InlOut xh ev H) :
    Blocky xh (x.events al ev) (x.htmlTight al H) := by
  cases x with
  | quote => cases hq
  | bullet c =>
    have := blocky_frame xh tUl al _ _ (List.getLast?_concat) (out_tight_item_inl xh al h)
    simpa [Wrapper.events, Wrapper.htmlTight, List.append_assoc] using this
  | ordered ds dl =>
    have := blocky_frame xh tOl (olAttrs al (ordValue ds)) _ _ (List.getLast?_concat) (out_tight_item_inl xh al h)
    simpa [Wrapper.events, Wrapper.htmlTight, List.append_assoc] using this

theorem blocky_inlForest (xh : Bool) (att : Nat × Nat → List (List Char × List Char)) (E : Nat)
    (ap : List (List Char × List Char)) {ev : List Event} {H : List Char} (h : InlOut xh ev H) :
    ∀ (ws : List Wrapper) (off : Nat),
      Blocky xh (wrapEvents att E (fun _ => leafEvents ap (tightOf ws) ev) ws off)
        (spanHtmlA att E (openTag tP ap ++ H ++ closeTag tP ++ ['\n']) H ws off)
  | [], _ => blocky_para_inl xh ap h
  | [x], off => by
    cases hq : x.isQuote
    · simp only [tightOf_one, hq, wrapEvents, spanHtmlA, Bool.not_false, Bool.false_eq_true, if_false, leafEvents, if_true]
      exact blocky_tight_inl xh x hq _ h
    · simp only [tightOf_one, hq, wrapEvents, spanHtmlA, Bool.not_true, if_true]
      exact blocky_wrapper xh x _ _ _ (blocky_para_inl xh ap h)
  | x :: y :: ws, off => by
    have ih := blocky_inlForest xh att E ap h (y :: ws) (off + x.width)
    rw [tightOf_cons2]
    simp only [wrapEvents, spanHtmlA] at ih ⊢
    exact blocky_wrapper xh x _ _ _ ih

section core
variable (cfg : DocCfg) (src : List Char) (As Bs : List (List Char)) (R : List Char) (k : Nat)
  (hAs : As ≠ []) (hBs : Bs ≠ []) (hpre : SoftOk As ['`']) (hpost : SoftOk Bs [])
  (hoA : OutOk false As) (hoB : OutOk false Bs) (hR : CodePair.RawOk '`' k R)
  (htrim : Inline.trimSrc (docOf As ++ rawSpan k R ++ docOf Bs) =
    (0, InlineOps.byteLen (docOf As ++ rawSpan k R ++ docOf Bs)))
  (c1 c2 : List Inline.RuleId) (hic : cfg.inlineChain = .text :: (c1 ++ .backticks :: c2))
  (hq : ∀ r ∈ c1, QuietTick r) (hnl : 2 ≤ As.length ∨ 2 ≤ Bs.length → ∃ c1', c1 = .newline :: c1')
  (hmn : 0 < cfg.maxNesting)
  (w : List Wrapper) (E W : Nat) (m : List (Nat × Nat)) (tr : Nat → Nat)
  (hm : ∀ a, InlineOps.getSourcePosFor (m.map fun kv => (kv.1, kv.2 + W)) a = .ok (tr a))
  (hb : parseBlocks cfg.blockCfg src =
    .ok (⟨.root, some (0, E), wrapForest E w 0 (paraLeaf (docOf As ++ rawSpan k R ++ docOf Bs) m 0 W E (tightOf w))⟩, []))
include hAs hBs hpre hpost hR htrim hic hq hnl hmn hm hb

/-- the document tree, given the block tree: the wrapper nodes around the paragraph (or, tight, around nothing)
    over the lines in front, `CodeInline[Text (spanContent R)]`, the lines behind -/
theorem parseDoc_of_blocks_lines :
    parseDoc cfg src =
      .ok ⟨.blk .root, some (0, E), spAttrs cfg src (0, E),
        wrapForestN (spAttrs cfg src) E w 0
          (spanLeaf (spAttrs cfg src) W E (tightOf w) (midNodes (spAttrs cfg src) tr k As R Bs))⟩ := by
  have hpi := parseInline_lines (cfg.inlineCfg []) hmn c1 c2 hic hq As Bs hnl R k _ tr hm hAs hBs hpre hpost hR htrim
  have hsl := spliceList_paraLeaf (cfg.inlineCfg []) (docOf As ++ rawSpan k R ++ docOf Bs) m 0 W E (tightOf w) _ hpi
  rw [ofInlineList_mid, Nat.add_zero] at hsl
  have hsf := splice_wrapForest (cfg.inlineCfg []) E _ _ hsl w 0
  unfold parseDoc
  rw [hb]
  refine afterBlocks_forest cfg src (0, E) [] _ _ _ hsf
    (joinFix_wrapForestN _ E _ (joinFix_spanLeaf _ _ _ _ _ (joinFix_midNodes _ tr k As R Bs hR.ne)) w 0) ?_ ?_
  · intro hs; rw [spAttrs_off hs]
  · intro hs
    rw [spAttrs_on hs]
    rw [mapAttrs_wrapForestN, mapAttrs_spanLeaf, mapAttrs_midNodes]

include hoA hoB in
theorem renderDoc_of_blocks_lines (x : Bool) :
    renderDoc x cfg src =
      .ok (Render.replaceNul (spanHtmlA (spAttrs cfg src) E
        (openTag tP (spAttrs cfg src (W, E)) ++
          inlHtml (spAttrs cfg src (spanRange tr k (docOf As) R)) (docOf As) (spanContent R) (docOf Bs) ++
          closeTag tP ++ ['\n'])
        (inlHtml (spAttrs cfg src (spanRange tr k (docOf As) R)) (docOf As) (spanContent R) (docOf Bs)) w 0)) := by
  have hp := parseDoc_of_blocks_lines cfg src As Bs R k hAs hBs hpre hpost hR htrim c1 c2 hic hq hnl hmn w E W m tr hm hb
  have hev := render_wrapForestN cfg.entity cfg.langPrefix (spAttrs cfg src) E _ _
    (renderList_spanLeaf cfg.entity cfg.langPrefix (spAttrs cfg src) W E (tightOf w) _ _
      (renderList_midNodes cfg.entity cfg.langPrefix (spAttrs cfg src) tr k As R Bs)) w 0
  have hbl := blocky_inlForest x (spAttrs cfg src) E (spAttrs cfg src (W, E))
    (inlOut_mid x (spAttrs cfg src (spanRange tr k (docOf As) R)) As (spanContent R) Bs hoA hoB) w 0
  unfold renderDoc
  rw [hp]
  simp only [renderEvents_rootL cfg _ _ _ _ hev, serialize_blocky hbl]

end core

theorem midNodes_single (att : Nat × Nat → List (List Char × List Char)) (tr : Nat → Nat) (k : Nat)
    (pre R post : List Char) : midNodes att tr k [pre] R [post] = rawNodes att tr k pre R post := by
  simp only [midNodes, rawNodes, linesR, docOf_one, Nat.zero_add]

end MdIt.C11X

namespace MdIt.C11M
open MdIt.Block MdIt.Block.Li MdIt.Pipeline MdIt.C11N
open MdIt.Render (Event piece piecesFrom flatten solAfter attrsStr escapeHtml)
open MdIt.NodeRender (aSourcepos tP tCode tBlockquote tUl tOl tLi olAttrs)
open MdIt.C11S (PlainTxt QuietTick)

section core
variable (cfg : DocCfg) (src : List Char) (pre R post : List Char) (k : Nat)
  (hpre : PlainTxt pre) (hpost : PlainTxt post) (hR : CodePair.RawOk '`' k R)
  (htrim : Inline.trimSrc (pre ++ rawSpan k R ++ post) = (0, InlineOps.byteLen (pre ++ rawSpan k R ++ post)))
  (c1 c2 : List Inline.RuleId) (hic : cfg.inlineChain = .text :: (c1 ++ .backticks :: c2))
  (hq : ∀ r ∈ c1, QuietTick r) (hmn : 0 < cfg.maxNesting)
  (w : List Wrapper) (E W : Nat) (m : List (Nat × Nat)) (tr : Nat → Nat)
  (hm : ∀ a, InlineOps.getSourcePosFor (m.map fun kv => (kv.1, kv.2 + W)) a = .ok (tr a))
  (hb : parseBlocks cfg.blockCfg src =
    .ok (⟨.root, some (0, E), wrapForest E w 0 (paraLeaf (pre ++ rawSpan k R ++ post) m 0 W E (tightOf w))⟩, []))
include hpre hpost hR htrim hic hq hmn hm hb

/-- the document tree, given the block tree: the wrapper nodes around the paragraph (or, tight, around nothing)
    over `Text pre`, `CodeInline[Text (spanContent R)]`, `Text post` -/
theorem parseDoc_of_blocks_raw :
    parseDoc cfg src =
      .ok ⟨.blk .root, some (0, E), spAttrs cfg src (0, E),
        wrapForestN (spAttrs cfg src) E w 0
          (spanLeaf (spAttrs cfg src) W E (tightOf w) (rawNodes (spAttrs cfg src) tr k pre R post))⟩ := by
  rw [← C11X.midNodes_single]
  exact C11X.parseDoc_of_blocks_lines cfg src [pre] [post] R k (by simp) (by simp) hpre hpost hR
    (by rw [docOf_one, docOf_one]; exact htrim) c1 c2 hic hq (by simp) hmn w E W m tr hm
    (by rw [docOf_one, docOf_one]; exact hb)

theorem renderDoc_of_blocks_raw (x : Bool) :
    renderDoc x cfg src =
      .ok (Render.replaceNul (spanHtmlA (spAttrs cfg src) E
        (openTag tP (spAttrs cfg src (W, E)) ++
          inlHtml (spAttrs cfg src (spanRange tr k pre R)) pre (spanContent R) post ++ closeTag tP ++ ['\n'])
        (inlHtml (spAttrs cfg src (spanRange tr k pre R)) pre (spanContent R) post) w 0)) := by
  have := C11X.renderDoc_of_blocks_lines cfg src [pre] [post] R k (by simp) (by simp) hpre hpost
    (fun e => hpre _ e C11X.lf_stop) (fun e => hpost _ e C11X.lf_stop) hR
    (by rw [docOf_one, docOf_one]; exact htrim) c1 c2 hic hq (by simp) hmn w E W m tr hm
    (by rw [docOf_one, docOf_one]; exact hb) x
  rw [docOf_one, docOf_one] at this
  exact this

end core

end MdIt.C11M

namespace MdIt.C11N
open MdIt.Pipeline MdIt.C11M

/-- the `Text` node of a stretch `s` at inline offset `p` (table `[(0, x)]`), attributes `att range` — none for
    an empty stretch -/
def txtN (att : Nat × Nat → List (List Char × List Char)) (x p : Nat) (s : List Char) : List Node :=
  if s = [] then []
  else [⟨.inl (.text s), some (x + p, x + (p + Lines.byteLen s)), att (x + p, x + (p + Lines.byteLen s)), []⟩]

/-- the `CodeInline` node over the whole span `` `ᵏ⁺¹ ␠ T ␠ `ᵏ⁺¹ `` at inline offset `p`; its ONE child is the
    text `T` with every line feed turned into a space, ranging over `T` (between the padding spaces) -/
def codeN (att : Nat × Nat → List (List Char × List Char)) (x p k : Nat) (T : List Char) : Node :=
  ⟨.inl (.codeInline '`' (k + 1)), some (x + p, x + (p + (2 * (k + 1) + 2 + Lines.byteLen T))),
    att (x + p, x + (p + (2 * (k + 1) + 2 + Lines.byteLen T))),
    [⟨.inl (.text (CodePair.normalise T)), some (x + (p + (k + 1) + 1), x + (p + (k + 1) + 1 + Lines.byteLen T)),
      att (x + (p + (k + 1) + 1), x + (p + (k + 1) + 1 + Lines.byteLen T)), []⟩]⟩

/-- the children of the paragraph: text of `pre` (if any), the code span, text of `post` (if any) -/
def spanNodes (att : Nat × Nat → List (List Char × List Char)) (x k : Nat) (pre T post : List Char) : List Node :=
  txtN att x 0 pre ++ [codeN att x (Lines.byteLen pre) k T] ++
    txtN att x (Lines.byteLen pre + (2 * (k + 1) + 2 + Lines.byteLen T)) post

theorem linesLen_padded (T : List Char) : Lines.byteLen (' ' :: T ++ [' ']) = Lines.byteLen T + 2 := by
  simp only [C05I.linesLen_eq]; exact C11S.byteLen_padded T

/-- exactly the padding pair goes: the text child is `T` with its line feeds turned into spaces, over the bytes of `T` -/
theorem rawNodes_padded (att : Nat × Nat → List (List Char × List Char)) (x k : Nat) (pre T post : List Char)
    (hT : T ≠ []) : rawNodes att (fun a => x + a) k pre (' ' :: T ++ [' ']) post = spanNodes att x k pre T post := by
  obtain ⟨h1, h2⟩ := strip_padded T hT
  have hb := linesLen_padded T
  have e1 : 2 * (k + 1) + (Lines.byteLen T + 2) = 2 * (k + 1) + 2 + Lines.byteLen T := by omega
  have e2 : Lines.byteLen pre + (k + 1) + (Lines.byteLen T + 2) - 1 = Lines.byteLen pre + (k + 1) + 1 + Lines.byteLen T := by
    omega
  simp only [rawNodes, spanNodes, txtR, txtN, codeR, codeN, spanRange, innerRange, h1, h2, hb, e1, e2, Nat.zero_add]

end MdIt.C11N
