/-
  The tokenizer iterations on a reference use.
    `tokStep_link_ok`    at the `[` of a use whose lookup succeeds: ONE `Link` node (url, title of the entry) over
                         the whole use, its single child the text node of the link text
    `tokStep_link_fail`  the lookup fails: the bracket goes to the pending text (`tokStep_text`, `tokStep_char` take
                         the rest)
-/
import MdIt.Lemmas.C13DocUse

namespace MdIt.C13D
open MdIt.Inline
open MdIt.InlineOps (Srcmap getSourcePosFor getMap byteLen slice)
open MdIt.C05 (byteLen_append slice_ok_iff)
open MdIt.C11S (PlainTxt splitRun_plain firstRule_quiet)
open MdIt.Inline.C12 (tokLoop_step tokLoop_done)

/-! ## 1. text nodes -/

/-- the pending text of the top frame: nothing, or ONE text node over the text `s` read so far -/
def txt (x : Nat) (s : List Char) : List Node :=
  if s = [] then [] else [Node.newText s (some (x, x + byteLen s))]

theorem Fr.sourcePos {st : IState} {c : List Char} {x : Nat} (h : Fr st c x) (p : Nat) :
    liftOps (getSourcePosFor st.srcmap p) = .ok (x + p) := by
  rw [h.map, C05I.single_translate]; rfl

/-- `trailing_text_push` in the top frame: the piece is appended to the one pending text node -/
theorem pushText_txt {st : IState} {c : List Char} {x : Nat} (hfr : Fr st c x) (pre mid b : List Char)
    (hc : c = pre ++ mid ++ b) (hch : st.children = txt x pre) (hne : mid ≠ []) :
    st.pushText (byteLen pre) (byteLen pre + byteLen mid) =
      .ok { st with children := txt x (pre ++ mid) } := by
  have hs : liftOps (slice st.src (byteLen pre) (byteLen pre + byteLen mid)) = .ok mid := by
    rw [hfr.slice pre mid b hc]; rfl
  have hg : liftOps (getMap st.srcmap (byteLen pre) (byteLen pre + byteLen mid)) =
      .ok (x + byteLen pre, x + (byteLen pre + byteLen mid)) := hfr.getMap (Nat.le_add_right _ _)
  have hsp := hfr.sourcePos (byteLen pre + byteLen mid)
  have hne2 : pre ++ mid ≠ [] := by simp [hne]
  unfold IState.pushText trailingTextPush
  rw [hch]
  by_cases hpre : pre = []
  · subst hpre
    simp only [byteLen_nil, Nat.zero_add, Nat.add_zero] at hs hg
    simp only [txt, if_true, popLast, List.nil_append, hne, if_false, byteLen_nil, Nat.zero_add, hs, hg]
  · simp only [txt, hpre, if_false, popLast, Node.newText, Node.isText, if_true, hs, hsp, Node.content,
      hne2, List.nil_append, byteLen_append]

/-- `trailing_text_push` into an empty child list: a fresh text node -/
theorem pushText_new {st : IState} {c : List Char} {x : Nat} (hfr : Fr st c x) (a mid b : List Char)
    (hc : c = a ++ mid ++ b) (hch : st.children = []) :
    st.pushText (byteLen a) (byteLen a + byteLen mid) =
      .ok { st with children := [Node.newText mid (some (x + byteLen a, x + (byteLen a + byteLen mid)))] } := by
  have hs : liftOps (slice st.src (byteLen a) (byteLen a + byteLen mid)) = .ok mid := by
    rw [hfr.slice a mid b hc]; rfl
  have hg : liftOps (getMap st.srcmap (byteLen a) (byteLen a + byteLen mid)) =
      .ok (x + byteLen a, x + (byteLen a + byteLen mid)) := hfr.getMap (Nat.le_add_right _ _)
  unfold IState.pushText trailingTextPush
  rw [hch]
  simp only [popLast, hs, hg, List.nil_append]

/-! ## 2. the top frame -/

/-- a top-level state that has read the prefix `pre` of `c` as pending text -/
structure Top (st : IState) (c : List Char) (x : Nat) (pre : List Char) : Prop where
  fr : Fr st c x
  posMax : st.posMax = byteLen c
  level : st.level = 0
  pos : st.pos = byteLen pre
  children : st.children = txt x pre

theorem Top.window {st : IState} {c : List Char} {x : Nat} {pre : List Char} (ht : Top st c x pre)
    (w : List Char) (hc : c = pre ++ w) : st.window = .ok w :=
  ht.fr.window pre w [] (by rw [hc]; simp) ht.pos (by rw [ht.posMax, hc, byteLen_append])

theorem pushText_out {st st' : IState} {a b : Nat} (h : st.pushText a b = .ok st') :
    trailingTextPush st.src st.srcmap st.children a b = .ok st'.children := by
  unfold IState.pushText at h
  split at h
  · cases h
  · rename_i cs hcs; cases h; exact hcs

/-- the hypotheses of `Inline.C12.step_text_run` at a plain stretch, for a `ChainOK` chain -/
theorem only_plain {cfg : Cfg} (h : ChainOK cfg) {p : Char} (hp : p ∉ Entity.textStop) :
    Inline.C12.Only cfg.chain .text p :=
  fun _ hr hne => quiet_trigger (quiet_plain h hp hr hne)

/-- one iteration on a plain stretch: the text rule appends it to the pending text -/
theorem tokStep_text {cfg : Cfg} (h : ChainOK cfg) (hmn : 0 < cfg.maxNesting)
    (skip tok : IState → Except Panic IState) (fuel : Nat) {st : IState} {c : List Char} {x : Nat}
    {pre : List Char} (ht : Top st c x pre) (P b : List Char) (hc : c = pre ++ P ++ b) (hne : P ≠ [])
    (hP : PlainTxt P) (hb : ∀ ch ∈ b.head?, ch ∈ Entity.textStop) :
    ∃ st', tokStep cfg skip tok fuel st = .ok st' ∧ Top st' c x (pre ++ P) ∧ st'.cache = st.cache := by
  refine ⟨{ st with children := txt x (pre ++ P), pos := byteLen pre + byteLen P }, ?_,
    ⟨⟨ht.fr.src, ht.fr.map⟩, ht.posMax, ht.level, by simp [byteLen_append], rfl⟩, rfl⟩
  obtain ⟨p, P', rfl⟩ := List.exists_cons_of_ne_nil hne
  have hpush := pushText_out (pushText_txt ht.fr pre (p :: P') b hc ht.children hne)
  rw [← ht.pos] at hpush ⊢
  exact Inline.C12.step_text_run h.text skip tok fuel st p P' b (ht.window _ (by rw [hc, List.append_assoc]))
    (fun y hy => Inline.C12.nonStop_of_not_mem (hP y hy)) (fun y hy => Inline.C12.nonStop_of_mem (hb y hy))
    (only_plain h (hP p (by simp))) (by rw [ht.level]; exact hmn) _ hpush

/-- one iteration at a character no rule owns: it goes to the pending text -/
theorem tokStep_char {cfg : Cfg} (skip tok : IState → Except Panic IState) (fuel : Nat) {st : IState}
    {c : List Char} {x : Nat} {pre : List Char} (ht : Top st c x pre) (ch : Char) (b : List Char)
    (hc : c = pre ++ ch :: b) (hq : ∀ id ∈ cfg.chain, Quiet id ch) :
    ∃ st', tokStep cfg skip tok fuel st = .ok st' ∧ Top st' c x (pre ++ [ch]) ∧ st'.cache = st.cache := by
  refine ⟨{ st with children := txt x (pre ++ [ch]), pos := byteLen pre + byteLen [ch] }, ?_,
    ⟨⟨ht.fr.src, ht.fr.map⟩, ht.posMax, ht.level, by simp [byteLen_append], rfl⟩, rfl⟩
  have hw : st.window = .ok (ch :: b) := ht.window _ hc
  have hpush := pushText_txt ht.fr pre [ch] b (by rw [hc]; simp) ht.children (by simp)
  have hbl : byteLen [ch] = ch.utf8Size := by simp [byteLen]
  rw [hbl] at hpush
  have hfirst : firstRule (fun id s => runRule cfg skip tok fuel id s false) cfg.chain st = .ok (none, st) :=
    firstRule_all_quiet _ st _ (fun r hr => runRule_quiet cfg skip tok fuel hw r (hq r hr) false)
  unfold tokStep
  rw [hfirst]
  simp only [ite_self, firstChar, hw, liftR, ht.pos, hbl, hpush]

/-! ## 3. the link rule declines: the lookup fails -/

/-- one iteration at the `[` of a use whose label is not in the map: `parse_link` runs its look-ahead,
    the lookup fails, every other rule declines at `[`, the bracket goes to the pending text -/
theorem tokStep_link_fail {cfg : Cfg} (h : ChainOK cfg) (hmn : 0 < cfg.maxNesting)
    (tok : IState → Except Panic IState) (G : Nat) {st : IState} {c : List Char} {x : Nat}
    {pre : List Char} (ht : Top st c x pre) (T : List Char) (e : Option (List Char))
    (hc : c = pre ++ useOf T e) (hT : PlainTxt T) (he : PlainTxt (e.getD []))
    (hlook : look cfg (labelOf T e) = none)
    (S : List (Nat × Nat)) (hcache : CacheIn S st.cache)
    (hsub : ∀ p ∈ Entries (byteLen pre) T e, p ∈ S)
    (hf1 : ∀ v, (byteLen pre + 1, v) ∈ S → v = byteLen pre + 1 + byteLen T)
    (hf2 : ∀ v, (byteLen pre + byteLen T + 3, v) ∈ S →
      v = byteLen pre + byteLen T + 3 + byteLen (e.getD [])) :
    ∃ st', tokStep cfg (fun s => skipToken cfg (G + 2) s) tok (G + 2) st = .ok st' ∧
      Top st' c x (pre ++ ['[']) ∧ CacheIn S st'.cache := by
  have hl : st.level < cfg.maxNesting := by rw [ht.level]; exact hmn
  obtain ⟨cache', hpl, hci⟩ := parseLink_use h (G + 1) G false ht.fr pre T e hc ht.posMax hT he hl S hcache
    hsub hf1 hf2
  rw [hlook] at hpl
  obtain ⟨st1, hst1⟩ : ∃ st1 : IState, st1 = { st with cache := cache' } := ⟨_, rfl⟩
  rw [← hst1] at hpl
  have ht1 : Top st1 c x pre := by
    rw [hst1]; exact ⟨⟨ht.fr.src, ht.fr.map⟩, ht.posMax, ht.level, ht.pos, ht.children⟩
  have hc1 : st1.cache = cache' := by rw [hst1]
  refine ⟨{ st1 with children := txt x (pre ++ ['[']), pos := byteLen pre + byteLen ['['] }, ?_,
    ⟨⟨ht1.fr.src, ht1.fr.map⟩, ht1.posMax, ht1.level, by simp [byteLen_append], rfl⟩, by rw [← hc1] at hci; exact hci⟩
  have hw : st.window = .ok ('[' :: (T ++ ']' :: tailOf e)) := ht.window _ hc
  have hw1 : st1.window = .ok ('[' :: (T ++ ']' :: tailOf e)) := ht1.window _ hc
  obtain ⟨d0, d1, hch, hd0, hd1⟩ := split_link h
  have hpush := pushText_txt ht1.fr pre ['['] (T ++ ']' :: tailOf e) (by rw [hc]; simp [useOf])
    ht1.children (by simp)
  rw [bl_open] at hpush
  have hlink : runRule cfg (fun s => skipToken cfg (G + 2) s) tok (G + 2) .link st false =
      .ok (none, st1) := by
    simp only [runRule, ruleLink, hw, liftR]
    unfold linkRule
    simp only [Nat.add_zero, ht.pos, hpl, Option.map_none]
    simp
  have hrest : firstRule (fun id s => runRule cfg (fun s => skipToken cfg (G + 2) s) tok (G + 2) id s false) d1
      st1 = .ok (none, st1) :=
    firstRule_all_quiet _ _ _ (fun r hr => runRule_quiet cfg _ tok (G + 2) hw1 r
      (quiet_open h (hd1 r hr).1 (hd1 r hr).2) false)
  unfold tokStep
  simp only [hl, if_true, hch]
  rw [firstRule_quiet _ st d0 _ (fun r hr =>
    runRule_quiet cfg _ tok (G + 2) hw r (quiet_open h (hd0 r hr).1 (hd0 r hr).2) false)]
  simp only [firstRule, hlink, hrest, firstChar, hw1, liftR, sz_open, bl_open, ht1.pos, hpush]

/-! ## 4. the link rule accepts: the lookup succeeds -/

/-- the nested `tokenize` over a plain link text: one text node -/
theorem tokLoop_nested {cfg : Cfg} (h : ChainOK cfg) (F : Nat) {s : IState} {c : List Char} {x : Nat}
    (hfr : Fr s c x) (a T b : List Char) (hc : c = a ++ T ++ b) (hp : s.pos = byteLen a)
    (hm : s.posMax = byteLen a + byteLen T) (hl : s.level < cfg.maxNesting) (hch : s.children = [])
    (hne : T ≠ []) (hT : PlainTxt T) :
    tokLoop cfg (F + 1) s.posMax s =
      .ok { s with children := [Node.newText T (some (x + byteLen a, x + (byteLen a + byteLen T)))],
                   pos := byteLen a + byteLen T } := by
  obtain ⟨p, T', rfl⟩ := List.exists_cons_of_ne_nil hne
  have hpush := pushText_out (pushText_new hfr a (p :: T') b hc hch)
  rw [← hp] at hpush ⊢
  have hstep := Inline.C12.step_text_run h.text (fun s => skipToken cfg F s) (fun s => tokLoop cfg F s.posMax s)
    F s p T' [] (by rw [List.append_nil]; exact hfr.window a (p :: T') b hc hp hm)
    (fun y hy => Inline.C12.nonStop_of_not_mem (hT y hy)) (by simp) (only_plain h (hT p (by simp))) hl _ hpush
  have hlt : s.pos < s.posMax := by have := byteLen_pos_of_ne_nil hne; omega
  rw [tokLoop_step cfg F s.posMax hlt hstep]
  exact tokLoop_done cfg F _ (by simp [hm, hp])

/-- the node of a resolved use -/
def linkNode (x : Nat) (T : List Char) (e : Option (List Char)) (r : Refs.Entry) : Node :=
  { val := .link r.dest (r.title.map (fun t => t.map Char.ofNat)),
    range := some (x, x + byteLen (useOf T e)),
    children := [Node.newText T (some (x + 1, x + (1 + byteLen T)))] }

/-- the real link rule when `parse_link` succeeds, in the terms of its definition -/
theorem linkRule_real {cfg : Cfg} {skip tok : IState → Except Panic IState} {fuel : Nat}
    {mk : List Nat → Option (List Char) → Val} {en : Bool} {off : Nat} {st st1 st3 : IState} {res : LinkRes}
    {r : Nat × Nat}
    (hpl : parseLink cfg skip fuel st (st.pos + off) en = .ok (some res, st1))
    (htok : tok { st1 with children := [], bottoms := [], linkLevel := st1.linkLevel + 1, level := st1.level + 1, pos := res.labelStart, posMax := res.labelEnd } = .ok st3)
    (hlev : st3.level ≠ 0) (hgm : st3.getMap st.pos res.endPos = .ok r) (hle : ¬ res.endPos < st3.pos) :
    linkRule cfg skip tok fuel mk en off st false =
      .ok (some (res.endPos - st3.pos),
        { st3 with level := st3.level - 1, posMax := st1.posMax, children := st1.children ++ [⟨mk (res.href.getD []) res.title, some r, st3.children⟩], bottoms := st1.bottoms, linkLevel := st3.linkLevel - 1 }) := by
  unfold linkRule
  simp only [hpl, Bool.false_eq_true, if_false, htok, hlev, hgm, liftR, hle]

/-- one iteration at the `[` of a use whose label is in the map (the use is the whole text, the state
    is the initial one): the `Link` node with the entry's destination and title, the link text as
    its one child -/
theorem tokStep_link_ok {cfg : Cfg} (h : ChainOK cfg) (hmn : 2 ≤ cfg.maxNesting) (G : Nat)
    (x : Nat) (T : List Char) (e : Option (List Char)) (bt : CodePair.Cache)
    (hne : T ≠ []) (hT : PlainTxt T) (he : PlainTxt (e.getD [])) (r : Refs.Entry)
    (hlook : look cfg (labelOf T e) = some r) :
    ∃ cache', tokStep cfg (fun s => skipToken cfg (G + 2) s) (fun s => tokLoop cfg (G + 2) s.posMax s) (G + 2)
        ⟨useOf T e, [(0, x)], 0, byteLen (useOf T e), 0, 0, [], bt, [], []⟩ =
        .ok ⟨useOf T e, [(0, x)], byteLen (useOf T e), byteLen (useOf T e), 0, 0, cache', bt,
          [linkNode x T e r], []⟩ := by
  obtain ⟨st, hst⟩ : ∃ st : IState, st = ⟨useOf T e, [(0, x)], 0, byteLen (useOf T e), 0, 0, [], bt, [], []⟩ :=
    ⟨_, rfl⟩
  have ht : Top st (useOf T e) x [] := by rw [hst]; exact ⟨⟨rfl, rfl⟩, rfl, rfl, rfl, rfl⟩
  have hl : st.level < cfg.maxNesting := by rw [ht.level]; omega
  obtain ⟨cache', hpl, hci⟩ := parseLink_use h (G + 1) G false ht.fr [] T e rfl ht.posMax hT he hl
    (Entries 0 T e) (by rw [hst]; exact cacheIn_nil _) (fun p hp => hp)
    (entries_fun 0 T e).1 (entries_fun 0 T e).2
  rw [hlook] at hpl
  simp only [Option.map_some, byteLen_nil] at hpl
  have hw : st.window = .ok ('[' :: (T ++ ']' :: tailOf e)) := ht.window _ rfl
  obtain ⟨d0, d1, hch, hd0, hd1⟩ := split_link h
  refine ⟨cache', ?_⟩
  rw [← hst]
  -- the nested frame
  obtain ⟨s2, hs2⟩ : ∃ s2 : IState, s2 = ⟨useOf T e, [(0, x)], 0 + 1, 0 + 1 + byteLen T, 0 + 1, 0 + 1, cache', bt, [], []⟩ :=
    ⟨_, rfl⟩
  have hfr2 : Fr s2 (useOf T e) x := by rw [hs2]; exact ⟨rfl, rfl⟩
  have hnest := tokLoop_nested h (G + 1) hfr2 ['['] T (']' :: tailOf e) (by simp [useOf])
    (by rw [hs2]; rfl) (by rw [hs2]; simp [bl_open]) (by rw [hs2]; show 0 + 1 < _; omega)
    (by rw [hs2]) hne hT
  have hpl' : parseLink cfg (fun s => skipToken cfg (G + 2) s) (G + 2) st (st.pos + 0) false =
      .ok (some (resOf 0 T e r), { st with cache := cache' }) := by
    have hp0 : st.pos + 0 = 0 := by rw [ht.pos]; rfl
    rw [hp0]; exact hpl
  have htok : (fun s : IState => tokLoop cfg (G + 2) s.posMax s)
      { ({ st with cache := cache' } : IState) with children := [], bottoms := [], linkLevel := ({ st with cache := cache' } : IState).linkLevel + 1, level := ({ st with cache := cache' } : IState).level + 1, pos := (resOf 0 T e r).labelStart, posMax := (resOf 0 T e r).labelEnd } = .ok { s2 with children := [Node.newText T (some (x + byteLen ['['], x + (byteLen ['['] + byteLen T)))], pos := byteLen ['['] + byteLen T } := by
    have : ({ ({ st with cache := cache' } : IState) with children := [], bottoms := [], linkLevel := ({ st with cache := cache' } : IState).linkLevel + 1, level := ({ st with cache := cache' } : IState).level + 1, pos := (resOf 0 T e r).labelStart, posMax := (resOf 0 T e r).labelEnd } : IState) = s2 := by
      rw [hs2, hst]; rfl
    rw [this]
    exact hnest
  have hgm := ht.fr.getMap (a := 0) (b := byteLen (useOf T e)) (by omega)
  have hle : 1 + byteLen T ≤ byteLen (useOf T e) := by rw [byteLen_useOf]; omega
  have hlr := linkRule_real (mk := Val.link) (tok := fun s : IState => tokLoop cfg (G + 2) s.posMax s) hpl' htok (by rw [hs2]; simp)
    (r := (x + 0, x + byteLen (useOf T e)))
    (by
      show IState.getMap _ st.pos (0 + byteLen (useOf T e)) = _
      rw [ht.pos, Nat.zero_add]
      have hfr3 : Fr ({ s2 with children := [Node.newText T (some (x + byteLen ['['], x + (byteLen ['['] + byteLen T)))], pos := byteLen ['['] + byteLen T } : IState) (useOf T e) x := ⟨hfr2.src, hfr2.map⟩
      exact hfr3.getMap (Nat.zero_le _))
    (by
      show ¬ (0 + byteLen (useOf T e) < byteLen ['['] + byteLen T)
      rw [bl_open]; omega)
  have hlink : runRule cfg (fun s => skipToken cfg (G + 2) s) (fun s => tokLoop cfg (G + 2) s.posMax s) (G + 2)
      .link st false = linkRule cfg (fun s => skipToken cfg (G + 2) s) (fun s => tokLoop cfg (G + 2) s.posMax s)
        (G + 2) Val.link false 0 st false := by
    simp [runRule, ruleLink, hw, liftR]
  rw [hlr] at hlink
  unfold tokStep
  simp only [hl, if_true, hch]
  rw [firstRule_quiet _ st d0 _ (fun r hr =>
    runRule_quiet cfg _ _ (G + 2) hw r (quiet_open h (hd0 r hr).1 (hd0 r hr).2) false)]
  simp only [firstRule, hlink]
  rw [hs2, hst]
  simp only [resOf, linkNode, bl_open, Option.getD_some, List.nil_append, Nat.zero_add, Nat.add_zero]
  congr 2
  omega

end MdIt.C13D
