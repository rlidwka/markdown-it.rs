/-
  Helper development for `Props/C16Doc.lean`: `IFP` AT EVERY STATE OF THE TOP FRAME.

  A real step that ends strictly inside a backtick run, behind a non-escaped character, is the one-character
  fall-back at a backtick behind a declining code-span rule (real-mode analogue of `ES.endHyp_holds`; the
  three kinds of real token: `ES.real_token`):
    * a flat rule that answers in real mode answers the same in look-ahead mode on the same state, and
      such a token ends inside a run only as the escape of a backtick (`CS.rule_end_interior`) — then the
      previous character IS escaped;
    * the emphasis rule ends behind a run of its marker, which is no backtick;
    * a link / image ends behind `)` / `]`;
  and the declining code-span rule marks the next position (`back_decline_marks`; `real_chain_marks`:
  `CS.chain_marks_of` for the real chain), which the rest of the real chain and the fall-back keep.
  So `IFP` holds behind ANY real step of the top frame (`real_step_ifp_G`), and the run starts behind the
  leading blanks, not inside a backtick run (`not_interior_init`): `reach_ifp`.
-/
import MdIt.Lemmas.C16DocRun

namespace MdIt.Inline.ES.C16Doc
open MdIt.Inline
open MdIt.Inline.CS (Interior)
open MdIt.InlineOps (Srcmap byteLen)

/-- behind a prefix of blanks the position is not strictly inside a backtick run -/
theorem not_interior_prefix_blanks (bl t : List Char) (h : ∀ c ∈ bl, isSpTab c = true) :
    ¬ Interior (bl ++ t) bl.length := by
  rintro ⟨h0, h1, _⟩
  rcases List.eq_nil_or_concat bl with rfl | ⟨ini, c, rfl⟩
  · simp at h0
  · simp only [List.concat_eq_append] at h h1
    rw [List.length_append, List.length_singleton, Nat.add_sub_cancel] at h1
    have hb : byteLen ini = ini.length :=
      CS.byteLen_blanks ini (fun x hx => h x (List.mem_append_left _ hx))
    have := CodePair.charAt_append_add ini ([c] ++ t) 0
    rw [CodePair.charAt_zero, codeByteLen_eq, hb, Nat.add_zero] at this
    rw [List.append_assoc, this] at h1
    have hc := h c (by simp)
    simp only [List.singleton_append, List.head?_cons, Option.some.injEq] at h1
    rw [h1] at hc
    simp [isSpTab] at hc

/-- the start position of the top frame is not strictly inside a backtick run -/
theorem not_interior_init (content : List Char) (mapping : Srcmap) :
    ¬ Interior content (IState.init content mapping).pos := by
  obtain ⟨bl, tl, rfl, hbl, hp⟩ := CS.init_pos_blanks content mapping
  rw [hp]
  exact not_interior_prefix_blanks bl tl hbl

section
variable {cfg : Cfg}

/-- **the real chain at a backtick that is followed by a backtick, when it declines**: the declining
    code-span rule leaves the next position marked, every other rule keeps the code-span cache
    (`CS.chain_marks_of` for the real chain) -/
theorem real_chain_marks
    {skip tok : IState → Except Panic IState} {fuel : Nat} {rest : List Char} :
    ∀ (rules : List RuleId) (s : IState), s.window = .ok ('`' :: '`' :: rest) →
      (InsideFull s.src s.backticks ∨ (s.pos + 1) ∈ s.backticks.insideFailed) →
      ∀ w', firstRule (fun id s => runRule cfg skip tok fuel id s false) rules s = .ok (none, w') →
        ((s.pos + 1) ∈ s.backticks.insideFailed → (s.pos + 1) ∈ w'.backticks.insideFailed) ∧
        (RuleId.backticks ∈ rules → (s.pos + 1) ∈ w'.backticks.insideFailed) :=
  CS.chain_marks_of
    (fun s s1 hw he => by
      have hrb : ruleBackticks s false = .ok (none, s1) := by
        unfold runRule at he; exact liftR_ok.mp he
      have hsim := ruleBackticks_simple hrb
      exact ⟨hsim.frame.src, hsim.pos, hsim.frame.posMax, ruleBackticks_inside_mono hrb,
        back_decline_marks hw hrb⟩)
    (fun r s s1 hr hw he => by
      by_cases hf : r.isFlat = true
      · obtain ⟨a, _, c, d, _, e⟩ := realKeeps_holds cfg skip tok fuel r hf s none s1 he
        exact ⟨c, a, d, e hr⟩
      · cases r with
        | link =>
          rw [link_other hw (by decide) false] at he
          simp only [Except.ok.injEq, Prod.mk.injEq, true_and] at he
          subst he; exact ⟨rfl, rfl, rfl, rfl⟩
        | image =>
          rw [image_other hw (by intro t ht; simp at ht) false] at he
          simp only [Except.ok.injEq, Prod.mk.injEq, true_and] at he
          subst he; exact ⟨rfl, rfl, rfl, rfl⟩
        | _ => simp [RuleId.isFlat] at hf)

end

section
variable {cfg : Cfg} {content : List Char} {mapping : Srcmap}

/-- **`IFP` after ANY real step of the top frame** (guarded callees) -/
theorem real_step_ifp_G (hc : ChainCoherent cfg = true)
    (hone : cfg.chain.count .link ≤ 1 ∧ cfg.chain.count .image ≤ 1)
    (hbt : RuleId.backticks ∈ cfg.chain) {f : Nat} {s s' : IState}
    (T : TopSt cfg content (topEnd content mapping) s) (hl : s.level < cfg.maxNesting)
    (hlt : s.pos < s.posMax)
    (hstep : tokStep cfg (fun s => skipTokenG cfg true f s) (fun s => tokLoopG cfg true f s.posMax s) f s
      = .ok s') : IFP cfg s' := by
  have hnc := CS.nocut_init content mapping
  have hsz := coherent_hsz hc
  obtain ⟨lo, hg⟩ := T.good
  have hq := skipTokenG_calm cfg true f
  have hsT := skipTokenG_T cfg f
  have hr := rangesFnG cfg true f
  have ht := tokHypT_G cfg (coherent_hsz hc) f
  have hsrc := T.inv.hsrc
  have hmax := T.inv.hmax
  have hRT := realX_iff.mp (firstRuleG_realX (mx := s.level + 1) Frame.refl Frame.trans
    (fun h => ⟨h.posMax, h.level⟩) cfg.chain (fun id hid s hg hm _ hlt _ =>
      realX_iff.mpr (runRule_real_T hsz hq hsT ht hr f hid s hg hm hlt))
    s hg T.memo trivial hlt (Nat.lt_succ_self _))
  rw [InlineH.firstRuleG_eq] at hRT
  obtain ⟨_, _, _, fr1, _⟩ := (top_step_G hc hone T hlt).2 s' hstep
  intro hint hprev
  rw [fr1.src, hsrc] at hint hprev
  unfold tokStep at hstep
  simp only [if_pos hl] at hstep
  cases hG : firstRule (fun id s => runRule cfg (fun s => skipTokenG cfg true f s)
      (fun s => tokLoopG cfg true f s.posMax s) f id s false) cfg.chain s with
  | error e => rw [hG] at hstep; simp at hstep
  | ok p =>
    obtain ⟨o, x'⟩ := p
    rw [hG] at hstep
    have sT := hRT.ok _ _ hG
    cases o with
    | some len =>
      exfalso
      simp only [Except.ok.injEq] at hstep
      subst hstep
      have hint' : Interior content (x'.pos + len) := hint
      obtain ⟨id, x, hA, hx⟩ := firstRule_some_arrives _ _ _ _ hG
      have hid := hA.mem
      obtain ⟨⟨htx, ⟨lox, hgx⟩, hmx, _⟩, hpx, _, _⟩ := top_arrives true hc hone T hlt hA
      have hix := hgx.linv hmx
      have hltx : x.pos < x.posMax := by rw [hpx, htx.hmax, ← hmax]; exact hlt
      rcases real_token hc hq hid hx with ⟨_, hpos', s'', hsil⟩ | ⟨mk, csw, rfl, hpos', hn, hat⟩ | hcl
      · -- a flat rule answers in look-ahead mode as well: the escape of a backtick, behind which the
        -- position is escaped
        obtain ⟨rfl, rfl, _, hwx⟩ := CS.rule_end_interior (cfg := cfg)
          (tok := fun s => tokLoopG cfg true f s.posMax s) hq hsT f id hix hltx htx.nocut_st hsil
          (by rw [htx.hsrc, ← hpos']; exact hint')
        have hbs' : CodePair.charAt content x.pos = some '\\' := by
          rw [← htx.hsrc]; exact CS.charAt_of_slice (window_eq hwx)
        have h1 := esc_bs (by rw [hpx]; exact T.ep hlt hid) hbs'
        have h2 := hprev hid
        rw [show x'.pos + 2 - 1 = x.pos + 1 by rw [hpos']; rfl, h1] at h2
        cases h2
      · -- the marker is no backtick: no rule of a coherent chain fires at a marker
        have := (coherent_marker hc hid).2 .backticks hbt
        simp only [RuleId.firesAt, beq_eq_false_iff_ne, ne_eq] at this
        have h1 := hint'.2.1
        rw [hpos', ← htx.hsrc, hat] at h1
        exact this (Option.some.inj h1)
      · rw [htx.hsrc] at hcl
        exact CS.closedAt_not_interior hcl hint'
    | none =>
      simp only at hstep
      obtain ⟨c, hfc, hp', _, hb', hs', _, _⟩ := fallback_keeps hstep
      have hpx : x'.pos = s.pos := sT.nonePos rfl
      have hwin : x'.window = s.window := window_congr sT.frame.src hpx sT.frame.posMax
      obtain ⟨wd, hw, hsl, hlen⟩ := (hg.linv T.memo).window
      rw [hsrc] at hsl
      cases wd with
      | nil =>
        rw [← hlen] at hlt
        exact absurd hlt (Nat.lt_irrefl _)
      | cons c1 rest =>
        unfold firstChar at hfc
        rw [hwin, hw] at hfc
        simp only [liftR, Except.ok.injEq] at hfc
        subst hfc
        have hk : s'.pos = s.pos + c1.utf8Size := by rw [hp', hpx]
        have hx := charAt_last (c := '`') (u' := []) (by simpa using hsl) (by
          have : s.pos + byteLen ([] ++ [c1]) - 1 = s'.pos - 1 := by
            rw [hk]; rfl
          rw [this]; exact hint.2.1)
        subst hx
        have e3 : ('`' : Char).utf8Size = 1 := by decide
        rw [e3] at hk
        cases rest with
        | nil =>
          exfalso
          have hend' : s.pos + 1 = s.posMax := by
            simp only [byteLen, e3] at hlen; omega
          have : Interior content s.posMax := by rw [← hend', ← hk]; exact hint
          rw [hmax] at this
          exact hnc this
        | cons b rest2 =>
          have hb1 := charAt_next (u := ['`']) (b := b) (v := rest2) (a := s.pos) (q := s.posMax)
            (by simpa using hsl)
          simp only [byteLen, e3, Nat.add_zero] at hb1
          have h1 : CodePair.charAt content (s.pos + 1) = some '`' := by rw [← hk]; exact hint.2.2
          rw [h1] at hb1
          simp only [Option.some.injEq] at hb1
          subst hb1
          have hfull : InsideFull s.src s.backticks := T.inv.back.1.2
          have hmark := (real_chain_marks (cfg := cfg) cfg.chain s hw (.inl hfull) x' hG).2 hbt
          rw [hk, hb']
          simpa using hmark

/-- **every reached state of the top frame satisfies `IFP`** -/
theorem reach_ifp (hc : ChainCoherent cfg = true)
    (hone : cfg.chain.count .link ≤ 1 ∧ cfg.chain.count .image ≤ 1) (hm : MapOK content mapping)
    (hbt : RuleId.backticks ∈ cfg.chain) {f : Nat} {s : IState} (hR : Reach cfg content mapping f s)
    (hl : s.level < cfg.maxNesting) (htop : s.posMax = (topEnd content mapping)) :
    IFP cfg s := by
  cases hR with
  | init => exact fun hint _ => absurd hint (not_interior_init content mapping)
  | step hR hlt hstep =>
    rename_i s0
    have hinv := reach_inv hc hone hm _ _ hR
    obtain ⟨hmax, hlev⟩ := step_frame hc hone hinv hlt hstep
    rw [hlev] at hl
    rcases hinv hl with T | N
    · exact real_step_ifp_G hc hone hbt T hl hlt ((top_step_G hc hone T hlt).1.trans hstep)
    · have := N.top_lt
      omega
  | enter hR hlt hl0 hE =>
    have := (enters_nf hc hone (reach_inv hc hone hm _ _ hR hl0) hl0 hlt hE).top_lt
    omega

end

end MdIt.Inline.ES.C16Doc
