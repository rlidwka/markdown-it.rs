/-
  C05 for ALL sources, clause 2 (both range ends are character boundaries): transport through the
  three passes behind the block pass, on the full `Pipeline.Node` tree (`afterBlocks_postBd`; the companion of
  Lemmas/C05InlineSplice.lean — geometry `NodeOrd` — and Lemmas/C05RestSplice.lean — `PreOk` /
  `PostOk` without split tabs; names here carry the prefix `bs_`).  `PostBd src n` reads the RANGE of `n`
  only, so neither the order of the siblings nor any gluing of neighbours is needed here.

  `doc_boundaries_all` (Props/C05Tabs.lean) does not go through this file: it is read off the full walk
  (`PostV`).  This walk stays because its hypothesis is weaker: `PInlB` asks boundaries of the inline nodes
  only, not faithfulness, so `afterBlocks_postBd` is not a corollary of `afterBlocks_nodeOkX`.  It is its own
  induction over `spliceList` and not an instance of `spliceNode_every_of` (Props/Pipeline.lean), because
  what is known of a placeholder sits in the `OrderedB` of its PARENT, which a predicate on the walked nodes
  would have to carry along.  The join pass and the sourcepos pass are those of Lemmas/C05InlineSplice.lean,
  which carry a range-only claim (`RangeOnly`) beside `NodeOrdB`; carrying it through the splice walk there
  as well is possible and is longer, the fixed statements of that file becoming corollaries.
-/
import MdIt.Lemmas.C05TabsDefs2

namespace MdIt.Pipeline
open MdIt.C05T
open MdIt.C05R (Bdy)

mutual
theorem bs_ofInline_every {src : List Char} (n : Inline.Node) (h : BdN src n) :
    Every (PostBd src) (ofInline n) := by
  match n with
  | ⟨v, r, cs⟩ =>
    rw [BdN_eq] at h
    obtain ⟨⟨a, b, hr, ha, hb, _⟩, hcs⟩ := h
    simp only at hr hcs
    unfold ofInline
    exact .mk _ ⟨a, b, hr, ha, hb⟩ (bs_ofInlineList_every cs hcs)
theorem bs_ofInlineList_every {src : List Char} (ns : List Inline.Node) (h : BdL src ns) :
    ∀ c ∈ ofInlineList ns, Every (PostBd src) c := by
  match ns with
  | [] => simp [ofInlineList]
  | n :: r =>
    simp only [BdL] at h
    intro x hx
    simp only [ofInlineList, List.mem_cons] at hx
    rcases hx with rfl | hx
    · exact bs_ofInline_every n h.1
    · exact bs_ofInlineList_every r h.2 x hx
end

mutual
/-- a walked block: its own range ends on boundaries (`RangedB`), below it everything is `PostBd` -/
theorem bs_spliceNode_bd {icfg : Inline.Cfg} {src : List Char} (b : Block.BNode) (t : Node)
    (hg : Block.RangedB (PInlB icfg src) src b) (hn : InlNoRange b) (a z : Nat)
    (hr : b.range = some (a, z)) (h : spliceNode icfg b = .ok t) : Every (PostBd src) t := by
  match b with
  | ⟨k, r, cs⟩ =>
    simp only [spliceNode] at h
    split at h
    · cases h
    · rename_i cs' hcs
      cases h
      obtain ⟨_, h2, h3, h4⟩ := hg.at a z hr
      have l1 := bs_spliceList_bd cs cs' a z h4 hg.child hn.child hcs
      exact .mk _ ⟨a, z, hr, (C05R.bdy_iff_bd _ _).mpr h2, (C05R.bdy_iff_bd _ _).mpr h3⟩ l1
theorem bs_spliceList_bd {icfg : Inline.Cfg} {src : List Char} (cs : List Block.BNode)
    (out : List Node) (lo hi : Nat) (ho : Block.OrderedB (PInlB icfg src) lo hi cs)
    (hg : ∀ c ∈ cs, Block.RangedB (PInlB icfg src) src c) (hn : ∀ c ∈ cs, InlNoRange c)
    (h : spliceList icfg cs = .ok out) : ∀ x ∈ out, Every (PostBd src) x := by
  match cs with
  | [] => simp [spliceList] at h; subst h; simp
  | c :: rest =>
    obtain ⟨a, b, hsp, h1, h2, h3⟩ := ho
    have hgr : ∀ x ∈ rest, Block.RangedB (PInlB icfg src) src x :=
      fun x hx => hg x (List.mem_cons_of_mem _ hx)
    have hnr : ∀ x ∈ rest, InlNoRange x := fun x hx => hn x (List.mem_cons_of_mem _ hx)
    simp only [spliceList] at h
    split at h
    · -- a placeholder: it has no range, its span is a stretch `PInlB` accepts
      rename_i content mapping hk
      split at h
      · cases h
      · rename_i ns hns
        split at h
        · cases h
        · rename_i rest' hrest
          cases h
          have i1 := bs_spliceList_bd rest rest' b hi h3 hgr hnr hrest
          have hnone : c.range = none := (hn c (by simp)).at content mapping hk
          unfold Block.SpanB at hsp
          rw [hnone] at hsp
          obtain ⟨c', m', hk', _, hp⟩ := hsp
          rw [hk] at hk'
          cases hk'
          obtain ⟨_, _, p3⟩ := hp ns hns
          intro x hx
          rcases List.mem_append.mp hx with hx | hx
          · exact bs_ofInlineList_every ns p3 x hx
          · exact i1 x hx
    · -- any other child: walked
      rename_i hk
      split at h
      · cases h
      · rename_i c' hc'
        split at h
        · cases h
        · rename_i rest' hrest
          cases h
          have i1 := bs_spliceList_bd rest rest' b hi h3 hgr hnr hrest
          have hrange := Block.spanB_kind hsp (fun c' m hc => hk c' m hc)
          have j2 := bs_spliceNode_bd c c' (hg c (by simp)) (hn c (by simp)) a b hrange hc'
          intro x hx
          rcases List.mem_cons.mp hx with rfl | hx
          · exact j2
          · exact i1 x hx
end

/-- the merged text takes the hull `(a1, b2)` of `(a1, b1)` and `(a2, b2)`: boundaries at both ends -/
theorem rangeOnly_postBd (src : List Char) : RangeOnly (PostBd src) :=
  ⟨fun hr ⟨a, b, h1, h2⟩ => ⟨a, b, by rw [hr]; exact h1, h2⟩,
   fun ⟨a, b, q1, ha, _⟩ ⟨c, d, r1, _, hd⟩ => ⟨a, d, by simp [merged, q1, r1], ha, hd⟩⟩

theorem postBd_attrBlind (src : List Char) : AttrBlind (PostBd src) :=
  attrBlind_of_kr fun _ _ _ hr ⟨a, b, h1, h2⟩ => ⟨a, b, by rw [← hr]; exact h1, h2⟩

theorem bs_sourceposList_every {src0 src : List Char} {marks : List SourceMap.Mark}
    (cs cs' : List Node) (he : ∀ c ∈ cs, Every (PostBd src0) c)
    (h : sourceposList src marks cs = .ok cs') : ∀ c ∈ cs', Every (PostBd src0) c :=
  sourceposList_every_of (postBd_attrBlind src0 _) he h

/-- **`afterBlocks_postBd`.**  If the tree of the block pass is `RangedB` for the claim `PInlB` (every
    placeholder's inline run yields well-ranged nodes in order inside the placeholder's stretch,
    every one of them with both range ends on character boundaries of the document), then in the
    tree the core chain returns EVERY node has a range `(a, b)`, `a ≤ b ≤ |src|`, on character
    boundaries, its children's ranges inside in source order; the root keeps its range.  For ALL
    sources (nothing is assumed about the tables). -/
theorem afterBlocks_postBd {cfg : DocCfg} {src : List Char} {root : Block.BNode} {refs : Refs.RefMap}
    {t : Node} {a z : Nat} (hroot : root.range = some (a, z))
    (hg : Block.RangedB (C05T.PInlB (cfg.inlineCfg refs) src) src root) (hn : InlNoRange root)
    (h : afterBlocks cfg src root refs = .ok t) :
    t.range = some (a, z) ∧ Every (fun n => NodeOrd src n ∧ C05T.PostBd src n) t := by
  obtain ⟨t0, hs, hf⟩ := afterBlocks_ok h
  obtain ⟨r0, e0⟩ := c05s_spliceNode_ord root t0
    (hg.imp (fun _ _ _ _ _ h ns hns => ⟨(h ns hns).1, (h ns hns).2.1⟩)) hn a z hroot hs
  exact ⟨(finish_root hf).2.trans r0,
    finish_stable (fun _ => nodeOrdQ_joinStable (rangeOnly_postBd src) _)
      (fun _ => nodeOrdQ_attrBlind (rangeOnly_postBd src) _) hf
      (e0.and (bs_spliceNode_bd root t0 hg hn a z hroot hs))⟩

/-! ## non-vacuity: the hypotheses of `afterBlocks_postBd` are satisfiable — on a SPLIT TAB -/

/-- the clauses of `BdN` about one value at the range `(a, b)`, as a test -/
def bs_valb (src : List Char) (a b : Nat) (v : Inline.Val) : Bool :=
  match InlineOps.slice src a b with
  | .error _ => false
  | .ok w =>
    match v with
    | .emphMarker mk _ rem _ _ => w == List.replicate rem mk && mk.utf8Size == 1
    | _ => true

mutual
/-- `BdN`, as a test -/
def bs_bdb (src : List Char) : Inline.Node → Bool
  | ⟨v, r, cs⟩ =>
    (match r with
     | some (a, b) => bs_valb src a b v
     | none => false) && bs_bdbList src cs
def bs_bdbList (src : List Char) : List Inline.Node → Bool
  | [] => true
  | c :: cs => bs_bdb src c && bs_bdbList src cs
end

theorem bs_valb_sound {src : List Char} {a b : Nat} {v : Inline.Val} (h : bs_valb src a b v = true) :
    Bdy src a ∧ Bdy src b ∧ (∀ mk l rem o c, v = .emphMarker mk l rem o c →
      C05R.Cut src a b (List.replicate rem mk) ∧ mk.utf8Size = 1) := by
  unfold bs_valb at h
  split at h
  · cases h
  · rename_i w hw
    have hc : C05R.Cut src a b w := (C05R.cut_iff_ops src a b w).mp hw
    refine ⟨hc.bdy_left, hc.bdy_right, ?_⟩
    rintro mk l rem o c rfl
    simp only [Bool.and_eq_true, beq_iff_eq] at h
    rw [← h.1]
    exact ⟨hc, h.2⟩

mutual
theorem bs_bdb_sound {src : List Char} (n : Inline.Node) (h : bs_bdb src n = true) : BdN src n := by
  match n with
  | ⟨v, r, cs⟩ =>
    simp only [bs_bdb, Bool.and_eq_true] at h
    obtain ⟨h1, h2⟩ := h
    simp only [BdN]
    refine ⟨?_, bs_bdbList_sound cs h2⟩
    split at h1
    · rename_i a b
      obtain ⟨v1, v2, v3⟩ := bs_valb_sound h1
      exact ⟨a, b, rfl, v1, v2, v3⟩
    · cases h1
theorem bs_bdbList_sound {src : List Char} (l : List Inline.Node) (h : bs_bdbList src l = true) :
    BdL src l := by
  match l with
  | [] => trivial
  | c :: cs =>
    simp only [bs_bdbList, Bool.and_eq_true] at h
    exact ⟨bs_bdb_sound c h.1, bs_bdbList_sound cs h.2⟩
end

/-- `PInlB` for one placeholder, by evaluation -/
theorem bs_pinlB_of_check {icfg : Inline.Cfg} {src c : List Char} {m : List (Nat × Nat)} {a b : Nat}
    (h : (match Inline.parseInline icfg c m with
          | .ok ns => c05s_ordNb b a ns && c05s_wrbList ns && bs_bdbList src ns
          | .error _ => true) = true) : PInlB icfg src c m a b := by
  intro ns hns
  rw [hns] at h
  simp only [Bool.and_eq_true] at h
  exact ⟨c05s_ordNb_sound ns a h.1.1, c05s_wrbList_sound ns h.1.2, bs_bdbList_sound ns h.2⟩

/-! ### the example: `"> a\n>\té*c"` (10 bytes: `é` has two).  The tab behind the second `>` stands at
    column 1 and is three columns wide; the quote marker takes one of them, the other two are
    VIRTUAL spaces of the paragraph's text `"a\n  é*c"`: the table `[(0, 2), (2, 6), (4, 6)]` has
    the virtual-space entry pair `(2, 6)`, `(4, 6)` (same source offset: the table is not `MapOK`).
    The inline run yields `Text "a"` `(2, 3)`, `Softbreak` `(3, 6)` — its end is the clamped translation
    of a position behind the virtual spaces —, `Text "é"` `(6, 8)`, the left-over `EmphMarker` `(8, 9)`,
    `Text "c"` `(9, 10)`; the join pass merges the last three into `Text "é*c"` `(6, 10)`.  Byte `7`
    (inside `é`) is not a boundary, so the boundary clause is not trivial here. -/

def bs_exSrc : List Char := ['>', ' ', 'a', '\n', '>', '\t', 'é', '*', 'c']
def bs_exTxt : List Char := ['a', '\n', ' ', ' ', 'é', '*', 'c']
def bs_exMap : List (Nat × Nat) := [(0, 2), (2, 6), (4, 6)]
def bs_exRoot : Block.BNode :=
  ⟨.root, some (0, 10), [⟨.blockquote, some (0, 10), [⟨.paragraph, some (2, 10),
    [⟨.inlineRoot bs_exTxt bs_exMap, none, []⟩]⟩]⟩]⟩

/-- … is what the block pass returns for it -/
example : (Block.parseBlocks (exCfg false 100).blockCfg bs_exSrc).toOption.map
      (fun x => c05s_flatB 0 x.1) = some (c05s_flatB 0 bs_exRoot) ∧
    (Block.parseBlocks (exCfg false 100).blockCfg bs_exSrc).toOption.map (fun x => x.2.isEmpty) =
      some true := by decide +kernel

theorem bs_ex_pinlB : PInlB ((exCfg false 100).inlineCfg []) bs_exSrc bs_exTxt bs_exMap 2 10 :=
  bs_pinlB_of_check (by decide +kernel)

theorem bs_exRoot_ranged :
    Block.RangedB (PInlB ((exCfg false 100).inlineCfg []) bs_exSrc) bs_exSrc bs_exRoot := by
  have h0 : Block.Bd bs_exSrc 0 := c05s_bd_zero _
  have h10 : Block.Bd bs_exSrc 10 := c05s_bd_len bs_exSrc
  exact Block.rangedB_wrap .root (Block.rangedB_wrap .blockquote
    (Block.rangedB_text .paragraph (a := 2) (b := 10) (by omega)
      ⟨['>', ' '], ['a', '\n', '>', '\t', 'é', '*', 'c'], rfl, by decide⟩ h10 bs_ex_pinlB (Nat.le_refl _)
      (by omega) (Nat.le_refl _))
    rfl h0 h10 (by omega) (Nat.le_refl _)) rfl h0 h10 (Nat.le_refl _) (Nat.le_refl _)

theorem bs_exRoot_noRange : InlNoRange bs_exRoot := inlNoRangeB_sound _ (by decide)

/-- all hypotheses of `afterBlocks_postBd` hold of the block tree of `"> a\n>\té*c"` -/
example : ∃ t, afterBlocks (exCfg false 100) bs_exSrc bs_exRoot [] = .ok t ∧
    t.range = some (0, 10) ∧ Every (fun n => NodeOrd bs_exSrc n ∧ PostBd bs_exSrc n) t :=
  ok_and (ok_of_isSome (by decide +kernel)) fun _ hp =>
    afterBlocks_postBd rfl bs_exRoot_ranged bs_exRoot_noRange hp

/-- the splice walk's output and the joined tree of the example -/
example : (spliceNode ((exCfg false 100).inlineCfg []) bs_exRoot).toOption.map (sp_flat 0) =
    some [(0, 0, 10, []), (1, 0, 10, []), (2, 2, 10, []), (3, 2, 3, ['a']), (3, 3, 6, []),
      (3, 6, 8, ['é']), (3, 8, 9, []), (3, 9, 10, ['c'])] := by decide +kernel

example : (afterBlocks (exCfg false 100) bs_exSrc bs_exRoot []).toOption.map (sp_flat 0) =
    some [(0, 0, 10, []), (1, 0, 10, []), (2, 2, 10, []), (3, 2, 3, ['a']), (3, 3, 6, []),
      (3, 6, 10, ['é', '*', 'c'])] := by decide +kernel

/-- the table of the example is NOT `MonoMap`, hence not `Inline.MapOK` (the tab-free development
    does not apply): its keys `2` and `4` carry the same source offset `6`, whereas `MonoMap` asks
    for `6 + (4 - 2) ≤ 6`; the clamped translation is constant on `[2, 4]` -/
example : ¬ C05.MonoMap bs_exMap ∧
    InlineOps.getSourcePosFor bs_exMap 2 = .ok 6 ∧ InlineOps.getSourcePosFor bs_exMap 3 = .ok 6 ∧
    InlineOps.getSourcePosFor bs_exMap 4 = .ok 6 ∧ InlineOps.getSourcePosFor bs_exMap 5 = .ok 7 := by
  refine ⟨fun h => absurd (h 1 2 6 4 6 rfl rfl) (by decide), ?_⟩
  decide +kernel

/-- **the third component of `PInlB` is needed**: over the source `"> a\n>\téé*"` (same length, same
    block ranges; the hand-made tree keeps the text `"a\n  é*c"`) the first two components of `PInlB`
    (order, well-rangedness) hold of the placeholder all the same, but byte `9` lies inside the
    second `é`: the `EmphMarker` `(8, 9)` / `Text "c"` `(9, 10)` do not end / begin on a boundary -/
def bs_badSrc : List Char := ['>', ' ', 'a', '\n', '>', '\t', 'é', 'é', '*']

example : PInl ((exCfg false 100).inlineCfg []) bs_exTxt bs_exMap 2 10 ∧
    (spliceNode ((exCfg false 100).inlineCfg []) bs_exRoot).toOption.map (sp_flat 0) =
      some [(0, 0, 10, []), (1, 0, 10, []), (2, 2, 10, []), (3, 2, 3, ['a']), (3, 3, 6, []),
        (3, 6, 8, ['é']), (3, 8, 9, []), (3, 9, 10, ['c'])] ∧
    ¬ Bdy bs_badSrc 9 := by
  refine ⟨fun ns h => ⟨(bs_ex_pinlB ns h).1, (bs_ex_pinlB ns h).2.1⟩, by decide +kernel, ?_⟩
  intro h
  have := h.onBoundary
  revert this
  decide +kernel

end MdIt.Pipeline
