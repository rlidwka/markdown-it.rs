/-
  Helper development for `Props/Inline.lean`: the induction on fuel that discharges the contracts
  of `InlineLink.lean` for the real `skipToken` / `tokLoop`.
-/
import MdIt.Lemmas.InlineLink

namespace MdIt.Inline
open MdIt.InlineOps (Srcmap getSourcePosFor getMap byteLen slice)
open MdIt.InlineH (tokStepG skipStepG firstRuleG_eq)

/-- fuel `tokenize` needs for a window of `L` bytes with `d` nesting levels left:
    `(L + 2) * (d + 1)` -/
def need (L : Nat) : Nat → Nat
  | 0 => L + 2
  | d + 1 => need L d + (L + 2)

theorem need_ge (L d : Nat) : L + d + 2 ≤ need L d := by
  induction d with
  | zero => simp [need]
  | succ d ih => simp only [need]; omega

theorem need_ge' (L : Nat) {d : Nat} (hd : 1 ≤ d) : L + d + 3 ≤ need L d := by
  cases d with
  | zero => omega
  | succ d => have := need_ge L d; simp only [need]; omega

theorem need_mono {L' L : Nat} (h : L' ≤ L) (d : Nat) : need L' d ≤ need L d := by
  induction d with
  | zero => simp only [need]; omega
  | succ d ih => simp only [need]; omega

theorem need_step {L' L : Nat} (h : L' < L) (d : Nat) : need L' d + 1 ≤ need L d := by
  induction d with
  | zero => simp only [need]; omega
  | succ d ih => simp only [need]; omega

theorem need_eq (L d : Nat) : need L d = (L + 2) * (d + 1) := by
  induction d with
  | zero => simp [need]
  | succ d ih => rw [need, ih, Nat.mul_succ (L + 2) (d + 1)]

theorem need_le_topFuel (cfg : Cfg) (src : List Char) (L : Nat) (hL : L ≤ byteLen src) (d : Nat)
    (hd : d ≤ cfg.maxNesting) : need L d ≤ topFuel cfg src := by
  rw [need_eq]
  unfold topFuel
  exact Nat.mul_le_mul (by omega) (by omega)

namespace Eng

/-- **the contracts hold for every copy of the tokenizer** (guard off) at every sufficient fuel, given the
    contract of one step of each loop at its rules; `F` is what `tokenize` keeps of the state -/
theorem contracts {ι : Type} (E : Eng ι) (hid : E.enter = id) {F : IState → IState → Prop}
    (refl : ∀ s, F s s) (trans : ∀ {a b c}, F a b → F b c → F a c)
    (keep : ∀ {a b : IState}, F a b → b.posMax = a.posMax ∧ b.level = a.level)
    (hS : ∀ {skip tok : IState → Except Panic IState} {L : Nat} (fuel : Nat) (st : IState),
      SkipHyp skip (st.level + 1) st.posMax L → MemoInv st → st.posMax - st.pos + 1 ≤ fuel →
      st.posMax - st.pos ≤ L + 1 → SkipSpec st (skipStepG E.chain (E.run skip tok fuel) st))
    (hT : ∀ {skip tok : IState → Except Panic IState} {L : Nat} (fuel : Nat) (st : IState),
      (st.level < E.maxNesting → SkipHyp skip st.level st.posMax L) →
      (st.level < E.maxNesting → ∀ s, MemoInv s → s.level = st.level + 1 → s.posMax - s.pos ≤ L →
        tok s ≠ .error .fuel ∧ ∀ s', tok s = .ok s' → F s s' ∧ MemoInv s') →
      MemoInv st → st.posMax - st.pos + 1 ≤ fuel → st.posMax - st.pos ≤ L + 1 →
      tokStepG E.maxNesting E.chain (E.run skip tok fuel) st ≠ .error .fuel ∧
      ∀ st', tokStepG E.maxNesting E.chain (E.run skip tok fuel) st = .ok st' →
        F st st' ∧ MemoInv st' ∧ st.pos < st'.pos) :
    ∀ fuel : Nat,
    (∀ st : IState, MemoInv st → st.pos < st.posMax →
      (st.posMax - st.pos) + (E.maxNesting - st.level) + 2 ≤ fuel →
      SkipSpec st (E.skipToken false fuel st)) ∧
    (∀ st : IState, MemoInv st → need (st.posMax - st.pos) (E.maxNesting - st.level) ≤ fuel →
      E.tokLoop false fuel st.posMax st ≠ .error .fuel ∧
      ∀ st', E.tokLoop false fuel st.posMax st = .ok st' → F st st' ∧ MemoInv st') := by
  intro fuel
  have h := E.induct false
    (S := fun f st r => MemoInv st → st.pos < st.posMax →
      (st.posMax - st.pos) + (E.maxNesting - st.level) + 2 ≤ f → SkipSpec st r)
    (T := fun f e st r => e = st.posMax → MemoInv st →
      need (st.posMax - st.pos) (E.maxNesting - st.level) ≤ f →
      r ≠ .error .fuel ∧ ∀ st', r = .ok st' → F st st' ∧ MemoInv st')
    (fun st _ _ h => by omega)
    (fun f st x hx hm _ _ => by
      simp only [Bool.false_eq_true, false_and, if_false]
      exact ⟨by simp, fun st' h => by
        cases h; exact ⟨⟨rfl, rfl, rfl, rfl, rfl⟩, ⟨rfl, rfl⟩, hm, hm _ _ (lookup_mem hx)⟩⟩)
    (fun f st _ _ hm hlt _ => ⟨by simp, fun st' h => by
      cases h; exact ⟨⟨rfl, rfl, rfl, rfl, rfl⟩, ⟨rfl, rfl⟩, MemoInv.insert hm hlt, hlt⟩⟩)
    (fun f st ihS _ _ _ hm hlt hf =>
      hS (L := st.posMax - st.pos) f st
        (fun s hms hl hp hlt' hw => ihS s hms (by rw [hp]; exact hlt') (by rw [hp, hl]; omega))
        hm (by omega) (by omega))
    (fun f e st _ _ hm _ => ⟨by simp, fun st' h => by cases h; exact ⟨refl _, hm⟩⟩)
    (fun e st hlt he _ hf => by
      have := need_ge (st.posMax - st.pos) (E.maxNesting - st.level); omega)
    (fun f e st ihS ihT hlt => by
      have key : ∀ (_ : e = st.posMax) (_ : MemoInv st)
          (_ : need (st.posMax - st.pos) (E.maxNesting - st.level) ≤ f + 1),
          tokStepG E.maxNesting E.chain (E.runAt false f) st ≠ .error .fuel ∧
          ∀ st', tokStepG E.maxNesting E.chain (E.runAt false f) st = .ok st' →
            F st st' ∧ MemoInv st' ∧ st.pos < st'.pos := by
        intro he hm hfuel
        subst he
        have hge := need_ge (st.posMax - st.pos) (E.maxNesting - st.level)
        refine hT (L := st.posMax - st.pos) f st
          (fun hlev s hms hl hp hlt' hw => ihS s hms (by rw [hp]; exact hlt') (by
            have := need_ge' (st.posMax - st.pos) (d := E.maxNesting - st.level) (by omega)
            rw [hp, hl]; omega))
          (fun hlev => ?_) hm (by omega) (by omega)
        rw [hid]
        intro s hms hl hw
        refine ihT _ s rfl hms (Nat.le_trans (need_mono hw _) ?_)
        have : E.maxNesting - st.level = (E.maxNesting - s.level) + 1 := by omega
        rw [this, need] at hfuel
        omega
      cases hstep : tokStepG E.maxNesting E.chain (E.runAt false f) st with
      | error err =>
        intro he hm hfuel
        exact ⟨fun h => (key he hm hfuel).1 (by rw [hstep, h]), fun _ h => nomatch h⟩
      | ok st1 =>
        intro r hr he hm hfuel
        obtain ⟨a, b, c⟩ := (key he hm hfuel).2 st1 hstep
        subst he
        have hrec := hr (keep a).1.symm b (by
          rw [(keep a).1, (keep a).2]
          have := need_step (L' := st.posMax - st1.pos) (L := st.posMax - st.pos) (by omega)
            (E.maxNesting - st.level)
          omega)
        exact ⟨hrec.1, fun st' h => ⟨trans a (hrec.2 st' h).1, (hrec.2 st' h).2⟩⟩) fuel
  exact ⟨fun st hm hlt hf => h.1 st hm hlt hf, fun st hm hf => h.2 _ st rfl hm hf⟩

end Eng

/-- the contracts hold for the real functions at every sufficient fuel -/
theorem contracts (cfg : Cfg) : ∀ fuel : Nat,
    (∀ st : IState, MemoInv st → st.pos < st.posMax →
      (st.posMax - st.pos) + (cfg.maxNesting - st.level) + 2 ≤ fuel →
      SkipSpec st (skipToken cfg fuel st)) ∧
    (∀ st : IState, MemoInv st → need (st.posMax - st.pos) (cfg.maxNesting - st.level) ≤ fuel →
      TokSpec st (tokLoop cfg fuel st.posMax st)) := by
  intro fuel
  have h := (Eng.base cfg).contracts rfl Frame.refl Frame.trans (fun h => ⟨h.posMax, h.level⟩)
    (fun fuel st hs hm hn hL => skipStepG_spec_of (firstRuleG_eq .. ▸
      firstRule_spec (silent := true) (lvl := st.level) (pm := st.posMax) (p0 := st.pos)
        (fun id s hms hls hps hpos => silentBumped_spec
          (runRule_spec (lvl := st.level + 1) (pm := st.posMax) hs fuel id _ true (fun h => nomatch h)
            hms (by simp only; rw [hls]) hps (by simp only; rw [hpos]; exact hn)
            (by simp only; rw [hpos]; exact hL)))
        cfg.chain st hm rfl rfl rfl))
    (fun fuel st hs ht hm hn hL => tokStep_eq_G .. ▸ tokStep_spec fuel st hs
      (fun hl s a b c => ⟨(ht hl s a b c).1, (ht hl s a b c).2⟩) hm hn hL) fuel
  simp only [← (engM cfg fuel).1, ← (engM cfg fuel).2] at h
  exact ⟨h.1, fun st hm hf => ⟨(h.2 st hm hf).1, (h.2 st hm hf).2⟩⟩

end MdIt.Inline
