/-
  No-panic development for the block model, core: the state invariant `BInv`, the predicate
  `NoPanic` ("fails at most with `.fuel`"), totality of the state accessors under `BInv`, and what
  the rewriting of a container's first line does to an entry (and to the potential `Phi`).

  `BInv s` only mentions `src`, `offs`, `lineMax` — the part of the state that every rule and every
  nested tokenizer call hands back as it found it (`Frame`, `Props/Block.lean`), so it is preserved
  for free across calls (`BInv.of_frame`); the containers re-establish it for the table they rewrite
  (`BInv.setOff`).
-/
import MdIt.Lemmas.BlockTotalErr

namespace MdIt.Block
open MdIt.Lines (LineOffset)

/-- fails at most with `.fuel` (which `parseBlocks_fuel` excludes separately) -/
def NoPanic {α : Type} (x : Except Panic α) : Prop := ∀ e, x = .error e → e = .fuel

/-- `NoPanic` is the instance `E = (· = .fuel)` of `ErrIn` (`Lemmas/BlockTotalErr.lean`), by definition: a
    `<rule>_err` lemma at that `E` IS the `<rule>_np` one, and the congruences of `ErrIn` apply to `NoPanic`
    goals as they stand -/
theorem noPanic_iff_errIn {α : Type} {x : Except Panic α} : NoPanic x ↔ ErrIn (· = .fuel) x := Iff.rfl

theorem NoPanic.of_total {α : Type} {x : Except Panic α} (h : ∃ a, x = .ok a) : NoPanic x := ErrIn.total h

theorem NoPanic.bind {α β : Type} {x : Except Panic α} {f : α → Except Panic β} (hx : NoPanic x)
    (hf : ∀ a, x = .ok a → NoPanic (f a)) : NoPanic (x >>= f) := ErrIn.bind hx hf

/-- for `E = (· = .fuel)` (`noPanic_iff_errIn`) the invariant of `PrimIn` is not optional: `.index ≠ .fuel` -/
theorem PrimIn.holds {C : Prop} (h : PrimIn (· = .fuel) C) : C :=
  h.elim id fun hE => absurd (hE .index (by decide)) (by decide)

/-- `h : x = .error e` contradicts totality of `x` -/
theorem absurd_err {α : Type} {x : Except Panic α} {e : Panic} {P : Prop} (h : x = .error e)
    (ht : ∃ a, x = .ok a) : P := by
  obtain ⟨a, ha⟩ := ht; rw [ha] at h; cases h

theorem liftL_total {α : Type} {x : Except Lines.Panic α} (h : ∃ a, x = .ok a) : ∃ a, liftL x = .ok a := by
  obtain ⟨a, rfl⟩ := h; exact ⟨a, rfl⟩

theorem liftK_total {α : Type} {x : Except Link.Panic α} (h : ∃ a, x = .ok a) : ∃ a, liftK x = .ok a := by
  obtain ⟨a, rfl⟩ := h; exact ⟨a, rfl⟩

theorem psub_total {a b : Nat} (h : b ≤ a) : ∃ c, psub a b = .ok c := by
  unfold psub; rw [if_pos h]; exact ⟨_, rfl⟩

/-! ## the invariant -/

/-- later lines do not end before earlier ones (containers never touch `line_end`) -/
def EndsMono (offs : List LineOffset) : Prop :=
  ∀ (i j : Nat) (o o' : LineOffset), i ≤ j → offs[i]? = some o → offs[j]? = some o' → o.lineEnd ≤ o'.lineEnd

/-- the bytes between `line_start` and `first_nonspace` (blanks, and the container markers the
    rewritings have moved `first_nonspace` past) are one-byte characters -/
def WsAscii (src : List Char) (o : LineOffset) : Prop :=
  ∃ a, Lines.slice src o.lineStart o.firstNonspace = .ok a ∧ ∀ c ∈ a, c.utf8Size = 1

structure BInv (s : BState) : Prop where
  table : TableOk s
  lineMax : s.lineMax ≤ s.offs.length
  mono : EndsMono s.offs
  ascii : ∀ (k : Nat) (o : LineOffset), s.offs[k]? = some o → WsAscii s.src o

/-- `BInv` reads `src`, `offs`, `lineMax` only -/
theorem BInv.congr {s s' : BState} (h : BInv s) (h1 : s'.src = s.src) (h2 : s'.offs = s.offs)
    (h3 : s'.lineMax ≤ s.offs.length) : BInv s' := by
  refine ⟨?_, by rw [h2]; exact h3, by rw [h2]; exact h.mono, ?_⟩
  · intro k o ho
    rw [h2] at ho; rw [h1]
    exact h.table k o ho
  · intro k o ho
    rw [h2] at ho; rw [h1]
    exact h.ascii k o ho

theorem BInv.line {s : BState} (h : BInv s) (n : Nat) : BInv { s with line := n } :=
  h.congr rfl rfl h.lineMax

/-- the invariant, on a line that exists: what the rules that do not nest are run on -/
abbrev AtLine (s : BState) : Prop := BInv s ∧ s.line < s.lineMax

theorem AtLine.lt {s : BState} (h : AtLine s) : s.line < s.offs.length := Nat.lt_of_lt_of_le h.2 h.1.lineMax

theorem BInv.of_frame {s s' : BState} (h : BInv s) (hf : Frame s s') : BInv s' :=
  h.congr hf.src hf.offs (by rw [hf.lineMax]; exact h.lineMax)

theorem EndsMono.set {offs : List LineOffset} (h : EndsMono offs) {m : Nat} {o x : LineOffset}
    (ho : offs[m]? = some o) (hx : x.lineEnd = o.lineEnd) : EndsMono (offs.set m x) := by
  have hm : m < offs.length := (List.getElem?_eq_some_iff.mp ho).1
  intro i j a b hij ha hb
  simp only [List.getElem?_set] at ha hb
  split at ha <;> split at hb
  · simp at ha hb; subst ha hb; exact Nat.le_refl _
  · simp at ha; subst ha; subst_vars
    rw [hx]; exact h _ _ _ _ hij ho hb
  · simp at hb; subst hb; subst_vars
    rw [hx]; exact h _ _ _ _ hij ha ho
  · exact h _ _ _ _ hij ha hb

/-- rewriting one entry (same `line_end`, still cutting a line out of the source) -/
theorem BInv.setOff {s s' : BState} {m : Nat} {o x : LineOffset} (h : BInv s)
    (hs : s.setOff m x = .ok s') (ho : s.offs[m]? = some o) (hx : LineOk s.src x)
    (hend : x.lineEnd = o.lineEnd) (hasc : WsAscii s.src x) : BInv s' := by
  have hT := h.table.setOff hs hx
  obtain ⟨hm, rfl⟩ := setOff_ok hs
  refine ⟨hT, by simpa using h.lineMax, h.mono.set ho hend, ?_⟩
  intro k y hy
  simp only [List.getElem?_set] at hy
  split at hy
  · simp at hy; subst hy; exact hasc
  · exact h.ascii k y hy

/-- changing `indent_nonspace` only -/
theorem WsAscii.indent {src : List Char} {o : LineOffset} (h : WsAscii src o) (x : Int) :
    WsAscii src { o with indentNonspace := x } := h

theorem endsMono_of_valid {src : List Char} {offs : List LineOffset} (hv : Lines.OffsetsValid src offs) :
    EndsMono offs := by
  intro i j o o' hij hi hj
  by_cases hEq : i = j
  · subst hEq; rw [hi] at hj; cases hj; exact Nat.le_refl _
  · have := Lines.offsets_increasing hv i j o o' (by omega) hi hj
    have := hv.ordered o' (List.mem_of_getElem? hj)
    omega

/-- `BlockState::new` satisfies the invariant -/
theorem bInv_fresh (src : List Char) (k : Kind) (refs : Refs.RefMap) : BInv (BState.fresh src k refs) := by
  refine ⟨tableOk_fresh src k refs, Nat.le_refl _, endsMono_of_valid (Lines.split_offsets_valid src), ?_⟩
  intro i o ho
  simp only [BState.fresh] at ho ⊢
  obtain ⟨A, lt, B, _, _, rfl, hsrc, hnt, _⟩ := Lines.split_entry ho
  have hl := Lines.lead_append_rest lt.1
  refine ⟨Lines.lead lt.1, ?_, ?_⟩
  · refine Lines.slice_eq_ok_iff.mpr ⟨Lines.flat A, lt.1.dropWhile Lines.isBlank ++ (lt.2 ++ Lines.flat B), ?_, ?_, ?_⟩
    · conv => lhs; rw [hsrc, ← hl]
      simp [List.append_assoc]
    · simp [Lines.mkOff]
    · simp [Lines.mkOff, Lines.byteLen_lead]
  · intro c hc
    rcases Lines.lead_allBlank lt.1 c hc with rfl | rfl <;> decide

/-! ## facts about an entry that cuts a line out of the source -/

theorem LineOk.order {src : List Char} {o : LineOffset} (h : LineOk src o) :
    o.lineStart ≤ o.firstNonspace ∧ o.firstNonspace ≤ o.lineEnd := by
  obtain ⟨p, a, b, q, _, _, h1, h2, _⟩ := h
  omega

theorem LineOk.boundaries {src : List Char} {o : LineOffset} (h : LineOk src o) :
    Lines.onBoundary src o.lineStart = true ∧ Lines.onBoundary src o.firstNonspace = true ∧
      Lines.onBoundary src o.lineEnd = true := by
  obtain ⟨p, a, b, q, hsrc, hp, h1, h2, _⟩ := h
  refine ⟨?_, ?_, ?_⟩
  · exact Lines.onBoundary_iff.mpr ⟨p, a ++ b ++ q, by rw [hsrc]; simp, hp⟩
  · exact Lines.onBoundary_iff.mpr ⟨p ++ a, b ++ q, by rw [hsrc]; simp, by simp; omega⟩
  · exact Lines.onBoundary_iff.mpr ⟨p ++ a ++ b, q, by rw [hsrc], by simp; omega⟩

/-- the two slices every rule takes of a line: `src[line_start..line_end] = a ++ b` and
    `src[first_nonspace..line_end] = b`, with `|a| = first_nonspace - line_start` -/
theorem LineOk.slices {src : List Char} {o : LineOffset} (h : LineOk src o) :
    ∃ a b, Lines.slice src o.lineStart o.lineEnd = .ok (a ++ b) ∧
      Lines.slice src o.firstNonspace o.lineEnd = .ok b ∧
      Lines.slice src o.lineStart o.firstNonspace = .ok a ∧
      o.firstNonspace = o.lineStart + Lines.byteLen a ∧ o.lineEnd = o.firstNonspace + Lines.byteLen b := by
  obtain ⟨p, a, b, q, hsrc, hp, h1, h2, _⟩ := h
  refine ⟨a, b, ?_, ?_, ?_, h1, by omega⟩
  · exact Lines.slice_eq_ok_iff.mpr ⟨p, q, by rw [hsrc]; simp, hp, by simp; omega⟩
  · exact Lines.slice_eq_ok_iff.mpr ⟨p ++ a, q, by rw [hsrc], by simp; omega, by omega⟩
  · exact Lines.slice_eq_ok_iff.mpr ⟨p, b ++ q, by rw [hsrc]; simp, hp, by omega⟩

/-! ## the accessors are total under the invariant -/

theorem off_total {s : BState} {i : Nat} (h : i < s.offs.length) :
    ∃ o, s.off i = .ok o := by
  unfold BState.off
  rw [List.getElem?_eq_getElem h]
  exact ⟨_, rfl⟩

theorem setOff_total {s : BState} {i : Nat} {o : LineOffset} (h : i < s.offs.length) :
    ∃ s', s.setOff i o = .ok s' := by
  unfold BState.setOff
  rw [if_pos h]
  exact ⟨_, rfl⟩

theorem lineIndent_total {s : BState} {i : Nat} (h : i < s.offs.length) : ∃ v, s.lineIndent i = .ok v := by
  unfold BState.lineIndent Lines.lineIndent
  rw [List.getElem?_eq_getElem h]
  exact ⟨_, rfl⟩

theorem getLine_total {s : BState} {i : Nat} (hT : TableOk s) (h : i < s.offs.length) :
    ∃ l, s.getLine i = .ok l := by
  unfold BState.getLine Lines.getLine
  rw [List.getElem?_eq_getElem h]
  obtain ⟨a, b, _, hb, _⟩ := (hT i _ (List.getElem?_eq_getElem h)).slices
  simp only [hb]
  exact ⟨_, rfl⟩

theorem getLines_total {s : BState} {b e ind : Nat} {keep : Bool} (hT : TableOk s) (hbe : b ≤ e)
    (he : e ≤ s.offs.length) : ∃ r, s.getLines b e ind keep = .ok r := by
  unfold BState.getLines
  refine liftL_total (Lines.get_lines_total s.src s.offs b e ind keep hbe he ?_)
  intro k hk _ _
  have hl := hT k _ (List.getElem?_eq_getElem hk)
  exact ⟨hl.order.1, hl.order.2, hl.boundaries⟩

theorem getMap_total {s : BState} {a b : Nat} (hab : a ≤ b) (hb : b < s.offs.length) :
    ∃ r, s.getMap a b = .ok r := by
  unfold BState.getMap Lines.getMap
  rw [if_neg (by omega), List.getElem?_eq_getElem hb, List.getElem?_eq_getElem (by omega : a < s.offs.length)]
  exact ⟨_, rfl⟩

/-- `get_line` is the text `b` of the entry -/
theorem getLine_eq {s : BState} {i : Nat} {o : LineOffset} {l : List Char} (ho : s.offs[i]? = some o)
    (h : s.getLine i = .ok l) : Lines.slice s.src o.firstNonspace o.lineEnd = .ok l := by
  have := liftL_eq_ok h
  simpa [Lines.getLine, ho] using this

/-! ## the rewriting both containers perform -/

theorem slice_unique {s u v : List Char} {a b : Nat} (h1 : Lines.slice s a b = .ok u)
    (h2 : Lines.slice s a b = .ok v) : u = v := by
  rw [h1] at h2; cases h2; rfl

/-- An entry `o` whose text starts with `mid` (the `>` / the list marker).  The whole line is
    `a ++ mid ++ run ++ rest` with `run` the maximal blank run behind `mid`; `find_indent_of` at the
    end of `mid` is total and answers the column width of `run` and the position behind it. -/
theorem rewrite_shape {src : List Char} {o : LineOffset} (hl : LineOk src o) {mid rest' : List Char}
    (hb : Lines.slice src o.firstNonspace o.lineEnd = .ok (mid ++ rest')) :
    ∃ a run rest, rest' = run ++ rest ∧ Lines.AllBlank run ∧
      (∀ c r, rest = c :: r → ¬ (c = ' ' ∨ c = '\t')) ∧
      Lines.slice src o.lineStart o.lineEnd = .ok (a ++ mid ++ run ++ rest) ∧
      Lines.slice src o.lineStart o.firstNonspace = .ok a ∧
      o.firstNonspace = o.lineStart + Lines.byteLen a ∧
      o.lineEnd = o.lineStart + Lines.byteLen (a ++ mid ++ run ++ rest) ∧
      Lines.findIndentOf (a ++ mid ++ run ++ rest) (Lines.byteLen a + Lines.byteLen mid)
        = .ok (Lines.indentWidth (a ++ mid ++ run) - Lines.indentWidth (a ++ mid),
               Lines.byteLen a + Lines.byteLen mid + run.length) ∧
      Lines.slice src o.lineStart (o.lineStart + (Lines.byteLen a + Lines.byteLen mid + run.length))
        = .ok (a ++ mid ++ run) := by
  obtain ⟨a, b, h1, h2, h3, h4, h5⟩ := hl.slices
  have hbb := slice_unique h2 hb
  subst hbb
  obtain ⟨run, rest, rfl, hrun, hrest⟩ := Lines.blank_run_split rest'
  have hspec := Lines.find_indent_spec (a ++ mid) run rest hrun hrest
  refine ⟨a, run, rest, rfl, hrun, hrest, ?_, h3, h4, ?_, ?_, ?_⟩
  · simpa [List.append_assoc] using h1
  · simp at h5 ⊢; omega
  · simpa [List.append_assoc] using hspec
  · obtain ⟨p, q, hsrc, hp, _⟩ := Lines.slice_eq_ok_iff.mp h1
    refine Lines.slice_eq_ok_iff.mpr ⟨p, rest ++ q, ?_, hp, ?_⟩
    · rw [hsrc]; simp [List.append_assoc]
    · simp [hrun.byteLen]; omega

/-- the potential that the containers consume: bytes between `first_nonspace` and `line_end`, summed
    over the table (`BlockTotalFuel.lean`) -/
def Phi : List LineOffset → Nat
  | [] => 0
  | o :: r => (o.lineEnd - o.firstNonspace) + Phi r

theorem Phi_set : ∀ (offs : List LineOffset) (m : Nat) (o o' : LineOffset), offs[m]? = some o →
    Phi (offs.set m o') + (o.lineEnd - o.firstNonspace) = Phi offs + (o'.lineEnd - o'.firstNonspace)
  | [], m, o, o', h => by simp at h
  | x :: r, 0, o, o', h => by
    simp at h; subst h
    simp only [List.set_cons_zero, Phi]; omega
  | x :: r, m + 1, o, o', h => by
    have ih := Phi_set r m o o' (by simpa using h)
    simp only [List.set_cons_succ, Phi]; omega

/-- changing `indent_nonspace` only -/
theorem Phi_set_indent {offs : List LineOffset} {m : Nat} {o : LineOffset} (h : offs[m]? = some o) (x : Int) :
    Phi (offs.set m { o with indentNonspace := x }) = Phi offs := by
  have := Phi_set offs m o { o with indentNonspace := x } h
  simp only at this
  omega

theorem Phi_set_lt {offs : List LineOffset} {m : Nat} {o o' : LineOffset} (h : offs[m]? = some o)
    (h1 : o'.lineEnd = o.lineEnd) (h2 : o.firstNonspace + 1 ≤ o'.firstNonspace)
    (h3 : o.firstNonspace < o.lineEnd) : Phi (offs.set m o') + 1 ≤ Phi offs := by
  have := Phi_set offs m o o' h
  omega

theorem Phi_set_le {offs : List LineOffset} {m : Nat} {o o' : LineOffset} (h : offs[m]? = some o)
    (h1 : o'.lineEnd = o.lineEnd) (h2 : o.firstNonspace + 1 ≤ o'.firstNonspace) :
    Phi (offs.set m o') ≤ Phi offs := by
  have := Phi_set offs m o o' h
  omega

/-- the block-quote rewriting moves `first_nonspace` forward by at least the `>` -/
theorem bqRewrite_phi {src : List Char} {o o' : LineOffset} {rest : List Char} {le : Bool}
    (h : bqRewrite src o rest = .ok (o', le)) :
    o'.lineEnd = o.lineEnd ∧ o.firstNonspace + 1 ≤ o'.firstNonspace := by
  obtain ⟨ltxt, ind, fn, ia, -, hle, hfi, -, -, rfl⟩ := bqRewrite_ok h
  obtain ⟨h1, _⟩ := Lines.find_indent_bounds _ _ _ _ hfi
  refine ⟨rfl, ?_⟩
  simp only
  omega

/-- the list-item rewriting moves `first_nonspace` forward by at least the marker, which lies inside
    the line -/
theorem itemRewrite_phi {src : List Char} {o o' : LineOffset} {pos indent : Nat} {re : Bool}
    (h : itemRewrite src o pos = .ok (o', indent, re)) (hpos : 1 ≤ pos) :
    o'.lineEnd = o.lineEnd ∧ o.firstNonspace + 1 ≤ o'.firstNonspace ∧ o.firstNonspace < o.lineEnd := by
  obtain ⟨ltxt, ind, fn, -, hltxt, hle, hle2, hfi, -, -, rfl⟩ := itemRewrite_ok h
  obtain ⟨h1, h2, _⟩ := Lines.find_indent_bounds _ _ ind fn hfi
  obtain ⟨p, q, _, hp, hb⟩ := Lines.slice_eq_ok_iff.mp hltxt
  refine ⟨rfl, ?_, ?_⟩ <;> (try simp only) <;> omega

/-- the width of a non-empty blank run is positive -/
theorem indentWidth_run_pos (p run : List Char) (h : run ≠ []) :
    Lines.indentWidth p + 1 ≤ Lines.indentWidth (p ++ run) := by
  cases run with
  | nil => exact absurd rfl h
  | cons c r =>
    rw [Lines.indentWidth_append]
    simp only [Lines.widthFrom, List.foldl_cons]
    have h1 := Lines.colStep_gt (Lines.indentWidth p) c
    have h2 := Lines.widthFrom_ge (Lines.colStep (Lines.indentWidth p) c) r
    simp only [Lines.widthFrom] at h2
    omega

/-- the rewritten entry keeps its leading bytes one byte wide when the marker `mid` is -/
theorem wsAscii_rewrite {src : List Char} {o : LineOffset} (ha : WsAscii src o) {a mid run : List Char}
    (h3 : Lines.slice src o.lineStart o.firstNonspace = .ok a) (hmid : ∀ c ∈ mid, c.utf8Size = 1)
    (hrun : Lines.AllBlank run) {fn : Nat}
    (hs : Lines.slice src o.lineStart (o.lineStart + fn) = .ok (a ++ mid ++ run)) (x : Int) :
    WsAscii src { o with firstNonspace := fn + o.lineStart, indentNonspace := x } := by
  obtain ⟨a', ha', hasc⟩ := ha
  have := slice_unique ha' h3
  subst this
  refine ⟨a' ++ mid ++ run, by simpa [Nat.add_comm] using hs, ?_⟩
  intro c hc
  simp only [List.mem_append] at hc
  rcases hc with (hc | hc) | hc
  · exact hasc c hc
  · exact hmid c hc
  · rcases hrun c hc with rfl | rfl <;> decide

/-! ## what the call-backs must satisfy -/

/-- under `BInv`, at a line below `lineMax`, the look-ahead `test` fails at most with `.fuel`; the
    rules are run on existing lines only, and `getLine` past the table is an `.index` panic -/
def TestOK (test : Test) : Prop := ∀ s, BInv s → s.line < s.lineMax → NoPanic (test s)

/-- under `BInv` the nested tokenizer `tok` fails at most with `.fuel`, wherever `line` stands
    (its loop tests `line < lineMax` itself) -/
def TokOK (tok : Tok) : Prop := ∀ s, BInv s → NoPanic (tok s)

/-- slicing a text between two of its boundaries -/
theorem slice_total_of_split {l pre mid suf : List Char} (h : l = pre ++ mid ++ suf) :
    Lines.slice l (Lines.byteLen pre) (Lines.byteLen pre + Lines.byteLen mid) = .ok mid :=
  Lines.slice_eq_ok_iff.mpr ⟨pre, suf, h, rfl, rfl⟩

end MdIt.Block
