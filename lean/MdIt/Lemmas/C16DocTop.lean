/-
  Helper development for `Props/C16Doc.lean`: THE TOP FRAME — the real step at a memo HIT of the
  top frame against the witness of the entry, and the top frame along the run.

  The comparison of `Lemmas/MemoSafeLamFrameKit.lean` holds for a real state of the TOP frame too: witness
  and real state have the same `pos_max` (the window cut is trivial, `Frame.win`), the frame invariant is the
  invariant of the top frame (`TopSt`: `ES.TopInv`, `Good`, `MemoB`, a position that is not escaped) plus
  `IFP` of the real state (`TopF`).

    * `parseLinkL2_top`   — `parse_link` against the witness of a memo entry: `Inline.parseLinkL2_frame`
      (`Lemmas/MemoSafeLamLink.lean`) for a real state whose `pos_max` IS the `pos_max` of the witness.
      Nothing is cut, the walks over the memo are the same walks, so no frame invariant is needed at all;
    * `TopF`, `topFrame`  — the states of the top frame at a memo hit, and that they are a `NestKit.Frame`;
    * `TCallees`          — the callees of one real step of the top frame;
    * `top_agree`         — **at a memo hit `k ↦ v`, `v < pos_max`, of the top frame the real step ends at
      `v` or is the emphasis rule at a run of its marker (then `v = k + 1`)**; the memo is left alone;
    * `top_agree_run`     — **at every reached state of the top frame with a memo entry `pos ↦ v`,
      `v < pos_max`, the real step (model callees, any fuel) `AgreesTop` with the entry**; what it needs of
      the code-span cache is `reach_ifp` (`Lemmas/C16DocTopMiss.lean`: `IFP` holds at every reached state);
    * `MissIFP`           — the part of `reach_ifp` about steps that do NOT start at a memo entry `k ↦ v`,
      `v < pos_max` (a memo miss, or an entry that ends at the top `pos_max`), stated for its own sake: such a
      step leads to a state with `IFP` (strictly inside a backtick run, behind a non-escaped character, the
      position is marked in `inside_failed`); `missIFP_nocode`, `missIFP_notick` (chains without the
      code-span rule, contents without a backtick: trivial), `missIFP_all` (every coherent chain).
-/
import MdIt.Lemmas.C16DocTopMiss

namespace MdIt.Inline.ES.C16Doc
open MdIt.Inline
open MdIt.InlineOps (Srcmap)

/-- **L2 for `parse_link` under the same `pos_max`**: the witness `w` ran `parse_link` (look-ahead) at the
    position of the state `s` — same text, same `pos_max` — with result `r0`, and the memo of `s` extends
    the memo the witness returned.  Then `parse_link` at `s`, over ANY `skip_token` that follows memo
    hits, at any fuel `n`, is a fixed result `R` that leaves the state alone and, unless it is an error
    (out of fuel), is the witness's result. -/
theorem parseLinkL2_top {cfg : Cfg} (offset : Nat) (en : Bool)
    (skip0 : IState → Except Panic IState) (f0 : Nat) (w w1 : IState)
    (r0 : Option LinkRes) (s : IState)
    (hq : CalmFn skip0) (hs : SkipHypT skip0) (hg : SkipGrowHyp skip0)
    (hiw : LInv w) (hwsrc : w.src = s.src) (hwmax : w.posMax = s.posMax) (hwpos : w.pos = s.pos)
    (hwit : parseLink cfg skip0 f0 w (w.pos + offset) en = .ok (r0, w1))
    (hmono : LookupMono w1.cache s.cache)
    (hf : ∀ k v, (k, v) ∈ s.cache → k < v)
    (hb1 : Boundary s.src (s.pos + offset + 1)) (hle1 : s.pos + offset + 1 ≤ s.posMax) (n : Nat) :
    ∃ R : Except Panic (Option LinkRes),
      (∀ skip, FollowsHits skip →
        parseLink cfg skip n s (s.pos + offset) en =
          match R with
          | .ok r => .ok (r, s)
          | .error e => .error e) ∧
      (∀ r, R = .ok r → r = r0) := by
  have hres : ∀ res, r0 = some res → res.endPos ≤ s.posMax := by
    intro res h; subst h
    have := ((parseLink_T (cfg := cfg) hq hs f0 w (w.pos + offset) en hiw
      (by rw [hwsrc, hwpos]; exact hb1) (by rw [hwmax, hwpos]; exact hle1)).2 _ _ hwit).2.2.2 res rfl
    rw [← hwmax]; exact this.endLe
  exact parseLinkL2_frame offset en skip0 f0 w w1 r0 s hq hs hg hiw hwsrc hwmax hwpos hwit hmono rfl hf
    (.inl rfl) hb1 hle1 (fun _ _ _ => .inl rfl) (fun _ _ _ _ _ _ _ _ _ _ => .inl rfl) hres n

open MdIt.Inline.CS (Interior InsideSub InsideSub.refl)
open MdIt.C05 (WFMap MonoMap byteLen_append slice_ok_iff)

section
variable {cfg : Cfg} {src : List Char} {Mtop : Nat}

/-- a state of the top frame (`TopSt`) at which a rule is called, with `IFP` -/
structure TopF (cfg : Cfg) (src : List Char) (Mtop : Nat) (x : IState) : Prop where
  st : TopSt cfg src Mtop x
  ifp : RuleId.backticks ∈ cfg.chain → IFP cfg x
  lt : x.pos < x.posMax

theorem TopF.top {x : IState} (h : TopF cfg src Mtop x) : TopInv cfg (BE cfg) src Mtop x := h.st.inv
theorem TopF.ep {x : IState} (h : TopF cfg src Mtop x) : EPc cfg src x.pos := h.st.ep h.lt

/-- **the top frame is a frame**: the comparison at a memo hit holds there too -/
theorem topFrame (H : NestHyps cfg (BE cfg) src Mtop) : (nestKit H).Frame (TopF cfg src Mtop) where
  hsrc := fun h => h.top.hsrc
  back := fun h => h.top.back
  good := fun h => h.st.good
  memo := fun h => h.st.memo
  ctx := fun {x} h => by
    obtain ⟨lo, hg⟩ := h.st.good
    refine ⟨?_, ?_, ?_, h.top.just.toJustAll⟩
    · rw [← h.top.hsrc, ← h.top.hmax]; exact hg.bmax
    · rw [← h.top.hsrc, ← h.top.hmax]; exact hg.stop
    · intro a b hab
      have := h.st.memo a b hab
      rw [h.top.hsrc] at this
      exact this
  win := fun h => .inl h.top.hmax
  refl := fun h => ⟨rfl, rfl, InsideSub.refl _, h.top.back⟩
  same := fun {x x'} h r hs hm hp hg =>
    ⟨⟨h.top.transfer hs hm r.1 r.2.2.1 r.2.2.2, hg,
        fun a b hab => by rw [hs]; exact h.st.memo a b (by rw [← r.1]; exact hab),
        fun _ => by rw [hp]; exact h.ep⟩,
      fun hbt hi hne => by rw [hs, hp] at hi hne; rw [hp]; exact r.2.2.1 _ (h.ifp hbt hi hne),
      by rw [hp, hm]; exact h.lt⟩
  enter := fun h hy hc hs hb hr hp =>
    hy.toES (by rw [hc]; exact h.top.just) h.top.nocut
      (fun hbt => (h.top.hmk hbt).of_sub hs hc (by rw [hb]; exact InsideSub.refl _)) hr hp
  witBack := fun hq hs hi h hsrc hmax hpos hlt hw hb hW hc =>
    witBack_es H hq hs hi h.top.nocut hsrc hmax (by rw [hpos, hmax, ← h.top.hmax]; exact hlt)
      (by rw [hpos]; exact h.ep) hw hb hW hc
  backL2 := fun hid h _ hsrc hmax hpos hWin _ hb hW hwb hreal =>
    backL2_es H hid h.top.hsrc h.top.back (h.ifp hid) h.ep h.top.nocut hsrc hmax hpos hWin hb (hW hid)
      hwb hreal
  pl := fun {offset en} _ skip0 f0 w w1 r0 s _ a1 a2 a3 hiw hsrc hmax hpos hwit hmono hF _ _ _ _ hb1
      hle1 _ _ n =>
    parseLinkL2_top offset en skip0 f0 w w1 r0 s a1 a2 a3 hiw (hsrc.trans hF.top.hsrc.symm)
      (hmax.trans hF.top.hmax.symm) hpos hwit hmono (fun a b h => (hF.st.memo a b h).1) hb1 hle1 n

end

/-- the callees of one real step of the top frame -/
structure TCallees (cfg : Cfg) (B : List Char → CodePair.Cache → Prop) (src : List Char) (Mtop : Nat)
    (f : Nat) (skipG tokG : IState → Except Panic IState) : Prop where
  calm : CalmFn skipG
  skT : SkipHypT skipG
  tokT : TokHypT tokG
  rng : RangesFn tokG
  hits : f = 0 ∨ FollowsHits skipG
  tokNF : ∀ s, NF cfg B src Mtop s → ∀ s', tokG s = .ok s' → s'.cache = s.cache ∧ s'.src = s.src ∧
    InsideSub s.backticks s'.backticks ∧ B s'.src s'.backticks

/-! ## one real step of the top frame at a memo hit -/

/-- how one real step of the TOP frame from position `k` relates to a memo entry `k ↦ v`: it ends at `v`,
    or it is the emphasis rule of the chain taking a run of `n` of its marker `ch` (and then `v = k + 1`:
    the look-ahead token at a marker is the single character) -/
def AgreesTop (cfg : Cfg) (src : List Char) (k Mtop v : Nat) (p' : Nat) : Prop :=
  p' = v ∨ ∃ (ch : Char) (n : Nat), MarkerRun cfg src ch k Mtop n ∧ p' = k + n ∧ v = k + 1

section
variable {cfg : Cfg} {src : List Char} {Mtop : Nat}
  {f : Nat} {skipG tokG : IState → Except Panic IState}

/-- **one real step at a memo hit of the top frame** -/
theorem top_agree (H : NestHyps cfg (BE cfg) src Mtop) (C : TCallees cfg (BE cfg) src Mtop f skipG tokG)
    {s : IState} (T : TopSt cfg src Mtop s)
    (hl : s.level < cfg.maxNesting) (hlt : s.pos < s.posMax)
    (hifp : RuleId.backticks ∈ cfg.chain → IFP cfg s) {v : Nat}
    (hlk : s.cache.lookup s.pos = some v) (hv : v < Mtop) :
    ∀ s', tokStep cfg skipG tokG f s = .ok s' →
      AgreesTop cfg src s.pos Mtop v s'.pos ∧ s'.cache = s.cache := by
  have htop := T.inv
  obtain ⟨lo, hg⟩ := T.good
  obtain ⟨ch, rest, hwx, hsl⟩ := window_cons_of_lt (hg.linv T.memo) hlt
  rw [htop.hsrc, htop.hmax] at hsl
  rcases htop.just _ _ (lookup_mem hlk) with hvM | hJ
  · omega
  have S : StepCtx src Mtop s.cache s.pos Mtop v ch rest :=
    ⟨hsl, hlk, by omega, by rw [← htop.hmax]; exact hlt⟩
  obtain ⟨skip0, tok0, f0, st0, o0, w', hq0, hs0, hg0, hi0, hsrc0, hmax0, hpos0, hB0, hifp0, hfr, hmono,
    hn0, hs0'⟩ := just_chain hJ hsl
  have P : (nestKit H).Pair (TopF cfg src Mtop) s.cache s.pos Mtop ch st0 s :=
    ⟨hi0, hsrc0, hmax0, hpos0, fun _ => hB0, fun _ => hifp0, ⟨T, hifp, hlt⟩, rfl, htop.hmax, rfl⟩
  -- the guarded callees on both sides: in the top frame guarded = model is known already
  have post1 := (NestKit.chain_L2 (topFrame H) (skipM := skipG) (tokM := tokG)
    ⟨C.calm, C.skT, C.tokT, C.rng, C.hits.imp id fun h => ⟨h, h⟩, fun s hn => ⟨rfl, C.tokNF s hn⟩⟩ S
    hq0 hs0 hg0 cfg.chain (fun _ h => h) H.one.1 H.one.2 st0 s P o0 w' hfr hmono hn0 hs0').2.1
  intro s' h
  obtain ⟨hR, hend⟩ := NestKit.step_of_post hl h hwx rfl hn0 post1
  refine ⟨?_, hR.1⟩
  rcases hend with hv' | ⟨n, e3, hp⟩
  · exact .inl hv'
  · -- the look-ahead token at a marker of the chain is the single character
    exact .inr ⟨ch, n, e3, hp, just_unit_at_marker H.coh hJ.toJust hsl e3.1.choose_spec⟩

end

/-! ## small facts -/

theorem dropB_mem : ∀ (l : List Char) (n : Nat) (r : List Char), CodePair.dropB l n = some r →
    ∀ c ∈ r, c ∈ l := by
  intro l n
  induction l generalizing n with
  | nil =>
    intro r h c hc
    cases n with
    | zero => simp only [CodePair.dropB, Option.some.injEq] at h; rw [← h] at hc; exact hc
    | succ n => simp [CodePair.dropB] at h
  | cons d l ih =>
    intro r h c hc
    cases n with
    | zero => simp only [CodePair.dropB, Option.some.injEq] at h; rw [← h] at hc; exact hc
    | succ n =>
      simp only [CodePair.dropB] at h
      split at h
      · exact List.mem_cons_of_mem _ (ih _ r h c hc)
      · cases h

/-- a character the text has at some byte offset is a character of the text -/
theorem charAt_some_mem {l : List Char} {j : Nat} {c : Char} (h : CodePair.charAt l j = some c) :
    c ∈ l := by
  unfold CodePair.charAt at h
  cases hd : CodePair.dropB l j with
  | none => rw [hd] at h; cases h
  | some r =>
    rw [hd] at h
    cases r with
    | nil => cases h
    | cons a t =>
      simp only [Option.bind_some, List.head?_cons, Option.some.injEq] at h
      subst h
      exact dropB_mem l j _ hd a (by simp)

/-- a text without a backtick has no position strictly inside a backtick run -/
theorem not_interior_of_notick {src : List Char} (h : '`' ∉ src) (p : Nat) : ¬ Interior src p :=
  fun hi => h (charAt_some_mem hi.2.2)

section
variable {cfg : Cfg} {content : List Char} {mapping : Srcmap}

/-- the guarded callees at fuel `f` meet `TCallees` -/
theorem tcallees_G (hc : ChainCoherent cfg = true)
    (hone : cfg.chain.count .link ≤ 1 ∧ cfg.chain.count .image ≤ 1) (f : Nat) :
    TCallees cfg (BE cfg) content (topEnd content mapping) f
      (fun s => skipTokenG cfg true f s) (fun s => tokLoopG cfg true f s.posMax s) := by
  have H := hyps_all (content := content) (mapping := mapping) hc hone
  refine ⟨skipTokenG_calm cfg true f, skipTokenG_T cfg f,
    tokHypT_G cfg (coherent_hsz hc) f, rangesFnG cfg true f, ?_, fun s hs s' h => (nested_eq H f s hs).2 s' h⟩
  cases f with
  | zero => exact .inl rfl
  | succ f' => exact .inr (followsHits_guarded cfg true f')

/-- a real step of the top frame that does not start at a memo entry ending before the top `pos_max` leads
    to a state with `IFP` -/
def MissIFP (cfg : Cfg) (content : List Char) (mapping : Srcmap) : Prop :=
  RuleId.backticks ∈ cfg.chain → ∀ (f : Nat) (s s' : IState), Reach cfg content mapping (f + 1) s →
    s.posMax = (IState.init content mapping).posMax → s.level < cfg.maxNesting → s.pos < s.posMax →
    IFP cfg s → (∀ v, s.cache.lookup s.pos = some v → v = (IState.init content mapping).posMax) →
    tokStep cfg (fun s => skipToken cfg f s) (fun s => tokLoop cfg f s.posMax s) f s = .ok s' →
    s'.src = content → IFP cfg s'

theorem missIFP_nocode (h : RuleId.backticks ∉ cfg.chain) : MissIFP cfg content mapping :=
  fun hbt => absurd hbt h

theorem missIFP_notick (h : '`' ∉ content) : MissIFP cfg content mapping := by
  intro _ f s s' _ _ _ _ _ _ _ hsrc hint _
  rw [hsrc] at hint
  exact absurd hint (not_interior_of_notick h _)

/-- **`MissIFP` holds for every coherent chain** -/
theorem missIFP_all (hc : ChainCoherent cfg = true)
    (hone : cfg.chain.count .link ≤ 1 ∧ cfg.chain.count .image ≤ 1) (hm : MapOK content mapping) :
    MissIFP cfg content mapping := by
  intro hbt f s s' hR htop hl hlt _ _ hstep _
  obtain ⟨hmax, hlev⟩ := step_frame hc hone (reach_inv hc hone hm _ _ hR) hlt hstep
  exact reach_ifp hc hone hm hbt (Reach.step hR hlt hstep) (by rw [hlev]; exact hl) (hmax.trans htop)

/-- **C16 in the top frame**: at a reached state of the top frame at which rules run, with a memo entry
    `pos ↦ v` that ends before the top `pos_max`, the real step (model callees, any fuel `g`) `AgreesTop`
    with the entry and leaves the memo alone -/
theorem top_agree_run (hc : ChainCoherent cfg = true)
    (hone : cfg.chain.count .link ≤ 1 ∧ cfg.chain.count .image ≤ 1) (hm : MapOK content mapping)
    {f : Nat} {s : IState} (hR : Reach cfg content mapping f s)
    (htop : s.posMax = (topEnd content mapping)) (hl : s.level < cfg.maxNesting)
    (hlt : s.pos < s.posMax) {v : Nat} (hlk : s.cache.lookup s.pos = some v)
    (hv : v < (topEnd content mapping)) :
    ∀ g s', tokStep cfg (fun s => skipToken cfg g s) (fun s => tokLoop cfg g s.posMax s) g s = .ok s' →
      AgreesTop cfg content s.pos (topEnd content mapping) v s'.pos ∧ s'.cache = s.cache := by
  have H := hyps_all (content := content) (mapping := mapping) hc hone
  rcases reach_inv hc hone hm f s hR hl with T | N
  · intro g s' hs
    exact top_agree H (tcallees_G (mapping := mapping) hc hone g) T hl hlt
      (fun hbt => reach_ifp hc hone hm hbt hR hl htop) hlk hv s'
      ((top_step_G (f := g) hc hone T hlt).1.trans hs)
  · have := N.top_lt
    omega

end

end MdIt.Inline.ES.C16Doc
