/-
  The content of every placeholder of a TAB-FREE document is no longer than the source
  (`BlockH.parseBlocksH_content_len`), through the geometric invariant of `Lemmas/PipelineHGeo.lean` with the
  placeholder claim `Block.PLen`.  All of it is about the BLOCK side (namespaces `MdIt.C05I`, `MdIt.Block`,
  `MdIt.BlockH`); it is kept here because only the totality theorems of `Props/PipelineH.lean` use it.

  * paragraph / setext heading: `get_lines` — the entries of the table (`C05I.Seg`) telescope: without a
    split tab each content segment fits between the source positions of its entry and the next one
    (`C05I.seg_len`), the last one ends at the last line's `line_end ≤ |src|`;
  * ATX heading: the one entry of its table (`C05I.heading_seg`) ends at the line's `line_end ≤ |src|`.
-/
import MdIt.Lemmas.PipelineHGeo
import MdIt.Lemmas.C05RestFaith

namespace MdIt.C05I
open MdIt.Lines
open MdIt.InlineOps (getSourcePosFor Srcmap)

/-- without virtual-space entries the content behind key `x.1` fits between `x.2` and `hi` -/
theorem seg_len {c : List Char} {hi : Nat} : ∀ (m : Srcmap) (x : Nat × Nat),
    SegAll (Seg False c hi) (x :: m) → x.1 ≤ byteLen c ∧ x.2 + (byteLen c - x.1) ≤ hi
  | [], x, hs => by
    have h : Seg False c hi x none := hs.1
    exact h
  | y :: r, x, hs => by
    have h : Seg False c hi x (some y) := hs.1
    have ih := seg_len r y hs.2
    obtain ⟨h1, _, ⟨hF, _⟩ | ⟨h3, _, _⟩⟩ := h
    · exact hF.elim
    · constructor <;> omega

end MdIt.C05I

namespace MdIt.Block
open MdIt.Lines (LineOffset)

/-- the claim about a placeholder: in a tab-free document its content is no longer than the source -/
def PLen (src0 : List Char) : InlP := fun c _ _ _ => '\t' ∉ src0 → Lines.byteLen c ≤ Lines.byteLen src0

theorem inlSpec2_plen (src0 : List Char) : InlSpec2 src0 (PLen src0) := by
  refine ⟨?_, ?_⟩
  · intro s b e c m ob oe hg hgl hbe hob hoe hkept htab
    have hgl' := C05I.getLines_lift hgl
    obtain ⟨hs, v, rest, rfl⟩ := C05I.getLines_seg hg.geo.table hg.strict hbe hgl' hoe
    have hs' := C05I.SegAll.imp (C05I.Seg.noV (by rw [hg.srcEq]; exact htab)) hs
    have h1 := C05I.seg_len rest (0, v) hs'
    have hb := (hg.geo.table _ _ hoe).bounds
    rw [hg.srcEq] at hb
    simp only at h1
    omega
  · intro s o line content textPos textMax hg ho hline hcontent _
    have h1 : C05I.Seg _ content o.lineEnd _ none :=
      (C05I.heading_seg (hg.geo.table _ _ ho) ho hline hcontent).1
    have hb := (hg.geo.table _ _ ho).bounds
    rw [hg.srcEq] at hb
    simp only [C05I.Seg] at h1
    omega

end MdIt.Block

namespace MdIt.BlockH
open MdIt.Block

/-- **the content of every placeholder of a tab-free document is no longer than the source** (paragraph
    rule in the ten-rule chain, `i32` bound of the block side) -/
theorem parseBlocksH_content_len (cfg : CfgH) (src : List Char)
    (hsmall : 4 * Lines.byteLen src + 8 < 2147483648) (hpara : hasParaH cfg.chain = true)
    (htab : '\t' ∉ src) {root : BNode} {refs : Refs.RefMap} (hb : parseBlocksH cfg src = .ok (root, refs)) :
    AllInl (fun c _ => Lines.byteLen c ≤ Lines.byteLen src) root := by
  obtain ⟨hr, hg⟩ := parseBlocksH_geo2 hpara (inlSpec2_plen src) hsmall hb
  refine hg.allInl (fun c m a b h => h htab) ?_
  intro c m _ hnone
  rw [hr] at hnone
  cases hnone

end MdIt.BlockH
