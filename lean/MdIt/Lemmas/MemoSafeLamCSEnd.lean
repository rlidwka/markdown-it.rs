/-
  For `Props/MemoSafe.lean`, namespace `MdIt.Inline.CS`: the four statements of
  `Lemmas/MemoSafeLamCSDef.lean` for the code-span cache invariant `B := BC`, for texts without
  backslash-backtick-backtick (`NoEscTickTick`) and a top `pos_max` that cuts no run of backticks.

    * `backL2_holds`, `agreeHyp_holds` — `back_L2_runRule`, `inside_agree_of_not_interior`;
    * `rule_end_interior`              — the ONE look-ahead token of any rule that ends strictly inside a run
                                         of backticks is the escape of a backtick in front of a backtick
                                         (flat rules: `Lemmas/MemoSafeLamBack2.lean`; link / image: the token
                                         ends with `)` or `]`, `linkRule_closedAt`); `rule_end_not_interior`:
                                         none, in texts without backslash-backtick-backtick;
    * `just_end_interior`              — … said of a memo entry (`just_token`): the unit step at a backtick,
                                         or that escape; this needs no hypothesis on the text and serves
                                         `ES.endHyp_holds` too;
    * `endHyp_holds`                   — the only memo entry that ends strictly inside a run is the unit step;
    * `marksHyp_holds`                 — the look-ahead step that makes the unit entry at a backtick inside a
                                         run leaves its end marked (`chain_marks_of`: a declining chain at a
                                         backtick in front of a backtick, for any `run` — the look-ahead chain
                                         here, the real chain in `Lemmas/C16DocTopMiss.lean`).
-/
import MdIt.Lemmas.MemoSafeLamCSDef

namespace MdIt.Inline.CS
open MdIt.Inline
open MdIt.InlineOps (byteLen slice)
open MdIt.C05 (slice_ok_iff)
open MdIt.Inline.ES.C16Doc (firstRule_some_arrives)

/-! ## `BackL2`, `AgreeHyp` -/

theorem backL2_holds (cfg : Cfg) {src : List Char} {Mtop : Nat} (hnc : CodePair.NoCut '`' src Mtop) :
    BackL2 cfg BC src Mtop := by
  intro skip tok skip' tok' fuel fuel' st0 s h hsrc0 hmax0 hsrc hpos hb0 hb1 hins
  exact back_L2_runRule h hsrc hpos hb0.1 hb1.1 (by rw [hsrc0, hmax0]; exact hnc) hins

theorem agreeHyp_holds (src : List Char) : AgreeHyp BC src :=
  fun _ _ _ hc hd hni => inside_agree_of_not_interior hc.1 hd.1 hni

/-! ## the last character of a link / image token (either mode) is `)` or `]` -/

/-- the position `e` lies right behind the character `)` or `]` -/
def ClosedAt (src : List Char) (e : Nat) : Prop :=
  1 ≤ e ∧ ∃ x, CodePair.charAt src (e - 1) = some x ∧ (x = ')' ∨ x = ']')

theorem charAt_of_slice {src : List Char} {p pm : Nat} {x : Char} {r : List Char}
    (h : slice src p pm = .ok (x :: r)) : CodePair.charAt src p = some x := by
  have := charAt_next (u := []) (b := x) (v := r) (a := p) (q := pm) (by simpa using h)
  simpa [byteLen] using this

theorem _root_.MdIt.Inline.EndsClosed.closedAt {src : List Char} {pm e : Nat}
    (h : EndsClosed src pm e) : ClosedAt src e :=
  have ⟨x, _, hx, he, hs⟩ := h
  ⟨he, x, charAt_of_slice hs, hx⟩

/-- the link rule in either mode: the position the tokenizer continues from lies right behind `)` or `]` -/
theorem linkRule_closedAt {cfg : Cfg} {skip tok : IState → Except Panic IState} (hq : CalmFn skip)
    {fuel : Nat} {mk : List Nat → Option (List Char) → Val} {en : Bool} {offset : Nat} {st : IState}
    {silent : Bool} {len : Nat} {st' : IState}
    (h : linkRule cfg skip tok fuel mk en offset st silent = .ok (some len, st')) :
    ClosedAt st.src (st'.pos + len) :=
  (linkRule_closed hq h).closedAt

/-- … and so does a link / image token of the chain -/
theorem runRule_closedAt {cfg : Cfg} {skip tok : IState → Except Panic IState} (hq : CalmFn skip)
    {fuel : Nat} {id : RuleId} (hid : id = .link ∨ id = .image) {st : IState} {silent : Bool} {len : Nat}
    {st' : IState} (h : runRule cfg skip tok fuel id st silent = .ok (some len, st')) :
    ClosedAt st.src (st'.pos + len) := by
  rcases hid with rfl | rfl
  · rcases ruleLink_ok h with ⟨ho, _⟩ | ⟨_, _, h⟩
    · cases ho
    · exact linkRule_closedAt hq h
  · rcases ruleImage_ok h with ⟨ho, _⟩ | ⟨_, _, h⟩
    · cases ho
    · exact linkRule_closedAt hq h

/-! ## no look-ahead token ends strictly inside a run of backticks -/

theorem closedAt_not_interior {src : List Char} {e : Nat} (h : ClosedAt src e) : ¬ Interior src e := by
  rintro ⟨_, h1, _⟩
  obtain ⟨_, x, hx, hx2⟩ := h
  rw [hx] at h1
  simp only [Option.some.injEq] at h1
  subst h1
  rcases hx2 with h | h <;> revert h <;> decide

/-- a window that starts with backslash-backtick-backtick puts that text into the source -/
theorem infix_of_window {st : IState} {rest : List Char}
    (hw : st.window = .ok ('\\' :: '`' :: '`' :: rest)) : ['\\', '`', '`'] <:+: st.src := by
  obtain ⟨p, q, e, _, _⟩ := (slice_ok_iff _ _ _ _).mp (window_eq hw)
  exact ⟨p, rest ++ q, by rw [e]; simp⟩

/-- **one rule, look-ahead mode**: a token that ends strictly inside a run of backticks is the escape of a
    backtick in front of a backtick -/
theorem rule_end_interior {cfg : Cfg} {skip tok : IState → Except Panic IState} (hq : CalmFn skip)
    (hs : SkipHypT skip) (fuel : Nat) (id : RuleId) {st : IState} (hi : LInv st)
    (hlt : st.pos < st.posMax) (hnc : CodePair.NoCut '`' st.src st.posMax) {n : Nat} {st' : IState}
    (h : runRule cfg skip tok fuel id st true = .ok (some n, st'))
    (hint : Interior st.src (st.pos + n)) :
    id = .escape ∧ n = 2 ∧ ∃ rest, st.window = .ok ('\\' :: '`' :: '`' :: rest) := by
  obtain ⟨_, _, hpos, hadv⟩ := (runRule_silent_T (cfg := cfg) (tok := tok) hq hs fuel id st hi hlt).ok _ _ h
  obtain ⟨h1, hle, _⟩ := hadv n rfl
  by_cases hend : st.pos + n = st.posMax
  · rw [hend] at hint; exact absurd hint hnc
  have hlt2 : st.pos + n < st.posMax := by omega
  have hpair : CodePair.charAt st.src (st.pos + n - 1) = some '`' ∧
      CodePair.charAt st.src (st.pos + n) = some '`' := ⟨hint.2.1, hint.2.2⟩
  have closed : id = .link ∨ id = .image → False := fun hid => by
    have := runRule_closedAt hq hid h
    rw [hpos] at this
    exact closedAt_not_interior this hint
  unfold runRule at h
  cases id with
  | text => exact absurd hpair (text_end_not_inside (liftR_ok.mp h))
  | newline => exact absurd hpair (newline_end_not_inside (liftR_ok.mp h))
  | escape =>
    have h' := liftR_ok.mp h
    obtain ⟨rest, hw⟩ := (escape_end_inside_iff h' hlt2).mp hpair
    have hv := (ruleEscape_verdict hw h').symm
    have e1 : ('\\' : Char).utf8Size = 1 := by decide
    have e3 : ('`' : Char).utf8Size = 1 := by decide
    exact ⟨rfl, by simp [escapeLen, Entity.escapeCore, byteLen, e1, e3] at hv; omega, rest, hw⟩
  | backticks => exact absurd hpair (backticks_end_not_inside (liftR_ok.mp h) hlt2)
  | emph mk csw =>
    have h' := liftR_ok.mp h
    rw [ruleEmph_silent] at h'
    simp at h'
  | link => exact (closed (.inl rfl)).elim
  | image => exact (closed (.inr rfl)).elim
  | linkEnd => simp at h
  | autolink => exact absurd hpair (autolink_end_not_inside (liftR_ok.mp h))
  | entity => exact absurd hpair (entity_end_not_inside (liftR_ok.mp h))

/-- **one rule, look-ahead mode**: a token does not end strictly inside a run of backticks — provided the
    text has no backslash-backtick-backtick and `pos_max` cuts no run -/
theorem rule_end_not_interior {cfg : Cfg} {skip tok : IState → Except Panic IState} (hq : CalmFn skip)
    (hs : SkipHypT skip) (fuel : Nat) (id : RuleId) {st : IState} (hi : LInv st)
    (hlt : st.pos < st.posMax) (hne : NoEscTickTick st.src)
    (hnc : CodePair.NoCut '`' st.src st.posMax) {n : Nat} {st' : IState}
    (h : runRule cfg skip tok fuel id st true = .ok (some n, st')) : ¬ Interior st.src (st.pos + n) :=
  fun hint =>
    let ⟨_, _, _, hw⟩ := rule_end_interior hq hs fuel id hi hlt hnc h hint
    hne (infix_of_window hw)

/-! ## `EndHyp` -/

/-- **the memo entry that ends strictly inside a run of backticks** is the unit step at a backtick, or
    the escape of a backtick in front of a backtick -/
theorem just_end_interior {cfg : Cfg} {B : List Char → CodePair.Cache → Prop} {src : List Char}
    {Mtop : Nat} (hnc : CodePair.NoCut '`' src Mtop) {m : List (Nat × Nat)} {p k : Nat}
    (hJ : Inline.Just cfg B src Mtop m p k) (hint : Interior src k) :
    k = p + 1 ∨ (RuleId.escape ∈ cfg.chain ∧ k = p + 2 ∧
      ∃ rest, slice src p Mtop = .ok ('\\' :: '`' :: '`' :: rest)) := by
  obtain ⟨hlt, ⟨id, hid, n, ⟨skip, tok, fuel, s, s1, hq, hs, _, hi, hsrc, hmax, hpos, hcall, _⟩, hk⟩ |
    ⟨c, rest, hsl, hk, _⟩⟩ := just_token hJ
  · obtain ⟨rfl, rfl, rest, hw⟩ := rule_end_interior (cfg := cfg) (tok := tok) hq hs fuel id hi
      (by rw [hpos, hmax]; exact hlt) (by rw [hsrc, hmax]; exact hnc) hcall
      (by rw [hsrc, hpos, ← hk]; exact hint)
    have := window_eq hw
    rw [hsrc, hpos, hmax] at this
    exact .inr ⟨hid, hk, rest, this⟩
  · have hsl' : slice src p Mtop = .ok ([] ++ c :: rest) := by simpa using hsl
    have hx := charAt_last (c := '`') hsl' (by
      have : p + byteLen ([] ++ [c]) - 1 = k - 1 := by simp only [List.nil_append, byteLen]; omega
      rw [this]; exact hint.2.1)
    subst hx
    exact .inl (by rw [hk]; rfl)

/-- **the only memo entry that ends strictly inside a run of backticks is the unit step** — for texts
    without backslash-backtick-backtick and a top `pos_max` that cuts no run -/
theorem endHyp_holds (cfg : Cfg) (B : List Char → CodePair.Cache → Prop) {src : List Char} {Mtop : Nat}
    (hne : NoEscTickTick src) (hnc : CodePair.NoCut '`' src Mtop) : EndHyp cfg B src Mtop := by
  intro m p k hJ hint
  rcases just_end_interior hnc hJ hint with h | ⟨_, _, rest, hsl⟩
  · exact h
  · obtain ⟨a, b, e, _, _⟩ := (slice_ok_iff _ _ _ _).mp hsl
    exact absurd ⟨a, rest ++ b, by rw [e]; simp⟩ hne

/-! ## `MarksHyp` -/

/-- every rule other than the code-span rule declines at a backtick in look-ahead mode and returns the
    state it was given (whatever `skip_token` / `tokenize` it is handed) -/
theorem other_at_backtick {cfg : Cfg} {skip tok : IState → Except Panic IState} {fuel : Nat}
    {id : RuleId} (hne : id ≠ .backticks) {s : IState} {rest : List Char}
    (hw : s.window = .ok ('`' :: rest)) {o : Option Nat} {s1 : IState}
    (h : silentBumped (runRule cfg skip tok fuel id) s = .ok (o, s1)) : o = none ∧ s1 = s := by
  obtain ⟨wb, hwb, rfl⟩ := silentBumped_ok h
  have hwB : ({ s with level := s.level + 1 } : IState).window = .ok ('`' :: rest) := hw
  have hfire : id.firesAt '`' = false := by
    cases id with
    | backticks => exact absurd rfl hne
    | text => decide
    | newline => decide
    | escape => decide
    | emph m c => rfl
    | link => decide
    | image => decide
    | linkEnd => rfl
    | autolink => decide
    | entity => decide
  have ho := silent_declines hwB hfire _ _ hwb
  have hst := silent_other_state hne hwB hwb
  subst hst
  exact ⟨ho, unbump s⟩

/-- what the code-span rule does at a backtick, through `silentBumped` -/
theorem back_at_backtick {cfg : Cfg} {skip tok : IState → Except Panic IState} {fuel : Nat}
    {s : IState} {o : Option Nat} {s1 : IState}
    (h : silentBumped (runRule cfg skip tok fuel .backticks) s = .ok (o, s1)) :
    s1.src = s.src ∧ s1.pos = s.pos ∧ s1.posMax = s.posMax ∧ (∀ n, o = some n → 2 ≤ n) ∧
    (∀ q ∈ s.backticks.insideFailed, q ∈ s1.backticks.insideFailed) ∧
    ∃ wb, ruleBackticks { s with level := s.level + 1 } true = .ok (o, wb) ∧
      s1.backticks = wb.backticks := by
  obtain ⟨wb, hwb, rfl⟩ := silentBumped_ok h
  have hr : ruleBackticks { s with level := s.level + 1 } true = .ok (o, wb) := by
    unfold runRule at hwb; exact liftR_ok.mp hwb
  have hsim := ruleBackticks_simple hr
  obtain ⟨_, oc, hrun, ho⟩ := ruleBackticks_run hr
  have hmono : ∀ q ∈ s.backticks.insideFailed, q ∈ wb.backticks.insideFailed :=
    ruleBackticks_inside_mono (st := { s with level := s.level + 1 }) hr
  refine ⟨hsim.frame.src, hsim.pos, hsim.frame.posMax, ?_, hmono, wb, hr, rfl⟩
  intro n hn
  subst hn
  cases oc with
  | none => simp at ho
  | some o1 =>
    simp only [Option.map_some, Option.some.injEq] at ho
    have := (CodePair.codepair_progress _ _ backtick_size _ _ _ _ _ _ _ _ hrun).1
    omega

/-- **a chain that declines at a backtick that is followed by a backtick**, for any `run` in which the
    declining code-span rule marks the next position (`hB`) and the other rules, when they decline, keep
    text, position, `pos_max` and the code-span cache (`hO`): a mark on the next position persists, and
    the position is marked if the code-span rule is in the chain -/
theorem chain_marks_of {run : RuleId → IState → RuleRes} {rest : List Char}
    (hB : ∀ s s1, s.window = .ok ('`' :: '`' :: rest) → run .backticks s = .ok (none, s1) →
      s1.src = s.src ∧ s1.pos = s.pos ∧ s1.posMax = s.posMax ∧
      (∀ q ∈ s.backticks.insideFailed, q ∈ s1.backticks.insideFailed) ∧
      (InsideFull s.src s.backticks → (s.pos + 1) ∈ s1.backticks.insideFailed))
    (hO : ∀ id s s1, id ≠ .backticks → s.window = .ok ('`' :: '`' :: rest) →
      run id s = .ok (none, s1) →
      s1.src = s.src ∧ s1.pos = s.pos ∧ s1.posMax = s.posMax ∧ s1.backticks = s.backticks) :
    ∀ (rules : List RuleId) (s : IState), s.window = .ok ('`' :: '`' :: rest) →
      (InsideFull s.src s.backticks ∨ (s.pos + 1) ∈ s.backticks.insideFailed) →
      ∀ w', firstRule run rules s = .ok (none, w') →
        ((s.pos + 1) ∈ s.backticks.insideFailed → (s.pos + 1) ∈ w'.backticks.insideFailed) ∧
        (RuleId.backticks ∈ rules → (s.pos + 1) ∈ w'.backticks.insideFailed) := by
  intro rules
  induction rules with
  | nil =>
    intro s _ _ w' h
    simp only [firstRule, Except.ok.injEq, Prod.mk.injEq, true_and] at h
    subst h
    exact ⟨fun h => h, by intro h; simp at h⟩
  | cons r rs ih =>
    intro s hw hP w' h
    unfold firstRule at h
    split at h
    · simp at h
    · simp at h
    · next s1 he =>
      by_cases hr : r = .backticks
      · subst hr
        obtain ⟨k1, k2, k3, hmono, hfull⟩ := hB s s1 hw he
        have hw1 : s1.window = .ok ('`' :: '`' :: rest) := by
          rw [← hw]; exact window_congr k1 k2 k3
        have hmark : (s.pos + 1) ∈ s1.backticks.insideFailed := hP.elim hfull (hmono _)
        have hfin := (ih s1 hw1 (.inr (by rw [k2]; exact hmark)) w' h).1 (by rw [k2]; exact hmark)
        rw [k2] at hfin
        exact ⟨fun _ => hfin, fun _ => hfin⟩
      · obtain ⟨k1, k2, k3, k4⟩ := hO r s s1 hr hw he
        have hw1 : s1.window = .ok ('`' :: '`' :: rest) := by
          rw [← hw]; exact window_congr k1 k2 k3
        obtain ⟨a3, a4⟩ := ih s1 hw1 (by rw [k1, k2, k4]; exact hP) w' h
        rw [k2, k4] at a3
        rw [k2] at a4
        exact ⟨a3, fun hmem => a4 ((List.mem_cons.mp hmem).resolve_left (Ne.symm hr))⟩

/-- the look-ahead chain meets the hypotheses of `chain_marks_of` -/
theorem chain_marks {cfg : Cfg} {skip tok : IState → Except Panic IState} {fuel : Nat}
    {rest : List Char} :
    ∀ (rules : List RuleId) (s : IState), s.window = .ok ('`' :: '`' :: rest) →
      (InsideFull s.src s.backticks ∨ (s.pos + 1) ∈ s.backticks.insideFailed) →
      ∀ w', firstRule (fun id s => silentBumped (runRule cfg skip tok fuel id) s) rules s
          = .ok (none, w') →
        ((s.pos + 1) ∈ s.backticks.insideFailed → (s.pos + 1) ∈ w'.backticks.insideFailed) ∧
        (RuleId.backticks ∈ rules → (s.pos + 1) ∈ w'.backticks.insideFailed) :=
  chain_marks_of
    (fun s s1 hw he =>
      have ⟨k1, k2, k3, _, hmono, wb, hwb, hbk⟩ := back_at_backtick he
      ⟨k1, k2, k3, hmono, fun hfull => by
        rw [hbk]; exact back_decline_marks (st := { s with level := s.level + 1 }) hw hwb hfull⟩)
    (fun id s s1 hr hw he => by
      obtain ⟨_, rfl⟩ := other_at_backtick hr hw he
      exact ⟨rfl, rfl, rfl, rfl⟩)

/-- a look-ahead chain that answers at a backtick that is followed by a backtick answers at least 2 (it is
    the code-span rule that answered) -/
theorem chain_some_ge {cfg : Cfg} {skip tok : IState → Except Panic IState} {fuel : Nat}
    {rest : List Char} {rules : List RuleId} {s : IState} (hw : s.window = .ok ('`' :: '`' :: rest))
    {n : Nat} {w' : IState}
    (h : firstRule (fun id s => silentBumped (runRule cfg skip tok fuel id) s) rules s = .ok (some n, w')) :
    2 ≤ n ∧ w'.pos = s.pos := by
  obtain ⟨id, x, hA, hx⟩ := firstRule_some_arrives _ _ _ _ h
  obtain ⟨hwx, hpx⟩ : x.window = .ok ('`' :: '`' :: rest) ∧ x.pos = s.pos :=
    hA.inv (I := fun x => x.window = .ok ('`' :: '`' :: rest) ∧ x.pos = s.pos)
      (fun id0 _ a a1 ha he => by
        by_cases hr : id0 = .backticks
        · subst hr
          obtain ⟨k1, k2, k3, _⟩ := back_at_backtick he
          exact ⟨by rw [← ha.1]; exact window_congr k1 k2 k3, k2.trans ha.2⟩
        · rw [(other_at_backtick hr ha.1 he).2]; exact ha) ⟨hw, rfl⟩
  by_cases hr : id = .backticks
  · subst hr
    obtain ⟨_, k2, _, hn2, _⟩ := back_at_backtick hx
    exact ⟨hn2 n rfl, k2.trans hpx⟩
  · exact absurd (other_at_backtick hr hwx hx).1 (by simp)

/-- a state whose window cannot be taken: a chain that contains the code-span rule does not return -/
theorem chain_no_window {cfg : Cfg} {skip tok : IState → Except Panic IState} {fuel : Nat}
    {e : RPanic} :
    ∀ (rules : List RuleId), RuleId.backticks ∈ rules → ∀ (s : IState), s.window = .error e →
      ∀ r, firstRule (fun id s => silentBumped (runRule cfg skip tok fuel id) s) rules s ≠ .ok r := by
  intro rules
  induction rules with
  | nil => intro h; simp at h
  | cons id rs ih =>
    intro hmem s hw r h
    have hwB : ({ s with level := s.level + 1 } : IState).window = .error e := hw
    -- one rule: it does not return, or it is `emph` / `linkEnd` and returns `(none, s)`
    have hone : ∀ o s1, silentBumped (runRule cfg skip tok fuel id) s = .ok (o, s1) →
        o = none ∧ s1 = s ∧ id ≠ .backticks := by
      intro o s1 hb
      obtain ⟨wb, hwb, rfl⟩ := silentBumped_ok hb
      unfold runRule at hwb
      cases id with
      | text =>
        have h' := liftR_ok.mp hwb
        obtain ⟨_, hw'⟩ := runPlan_window (ruleText_eq _ _ ▸ h')
        rw [hwB] at hw'
        cases hw'
      | newline =>
        have h' := liftR_ok.mp hwb
        obtain ⟨_, hw'⟩ := runPlan_window (ruleNewline_eq _ _ ▸ h')
        rw [hwB] at hw'
        cases hw'
      | escape =>
        have h' := liftR_ok.mp hwb
        obtain ⟨_, hw'⟩ := runPlan_window (ruleEscape_eq _ _ ▸ h')
        rw [hwB] at hw'
        cases hw'
      | backticks =>
        exfalso
        have h' := liftR_ok.mp hwb
        obtain ⟨_, oc, hrun, _⟩ := ruleBackticks_run h'
        cases hsl : CodePair.slice s.src s.pos s.posMax with
        | none =>
          unfold CodePair.run at hrun
          have hsl' : CodePair.slice ({ s with level := s.level + 1 } : IState).src
              ({ s with level := s.level + 1 } : IState).pos
              ({ s with level := s.level + 1 } : IState).posMax = none := hsl
          rw [hsl'] at hrun
          simp at hrun
        | some w =>
          have := (codeSlice_eq _ _ _ _).mp hsl
          unfold IState.window at hw
          rw [this] at hw
          simp [liftOps] at hw
      | emph mk csw =>
        have h' := liftR_ok.mp hwb
        rw [ruleEmph_silent] at h'
        simp only [Except.ok.injEq, Prod.mk.injEq] at h'
        obtain ⟨rfl, rfl⟩ := h'
        exact ⟨rfl, unbump s, by simp⟩
      | link =>
        simp only at hwb
        unfold ruleLink at hwb
        rw [hwB] at hwb
        simp [liftR] at hwb
      | image =>
        simp only at hwb
        unfold ruleImage at hwb
        rw [hwB] at hwb
        simp [liftR] at hwb
      | linkEnd =>
        simp only [Except.ok.injEq, Prod.mk.injEq] at hwb
        obtain ⟨rfl, rfl⟩ := hwb
        exact ⟨rfl, unbump s, by simp⟩
      | autolink =>
        have h' := liftR_ok.mp hwb
        obtain ⟨_, hw'⟩ := runPlan_window (ruleAutolink_eq _ _ ▸ h')
        rw [hwB] at hw'
        cases hw'
      | entity =>
        have h' := liftR_ok.mp hwb
        obtain ⟨_, hw'⟩ := runPlan_window (ruleEntity_eq _ _ _ ▸ h')
        rw [hwB] at hw'
        cases hw'
    unfold firstRule at h
    split at h
    · simp at h
    · next n1 s1 he =>
      have := (hone _ _ he).1
      simp at this
    · next s1 he =>
      obtain ⟨_, rfl, hid⟩ := hone _ _ he
      simp only [List.mem_cons] at hmem
      rcases hmem with hmem | hmem
      · exact hid hmem.symm
      · exact ih hmem s1 hw r h

/-- **the look-ahead step that makes the unit entry at a backtick inside a run leaves its end marked** -/
theorem marksHyp_holds (cfg : Cfg) : MarksHyp cfg BC := by
  intro skip tok fuel st st' hb hbt hint hlt hstep hpos
  obtain ⟨o0, w', hfr, _, hsome, hnone⟩ := skipStep_inv hstep
  -- the window starts with two backticks
  cases hwin : st.window with
  | error e => exact absurd hfr (chain_no_window cfg.chain hbt st hwin _)
  | ok w =>
    have hsl := window_eq hwin
    obtain ⟨_, _, hlen⟩ := slice_boundaries hsl
    have h0 : CodePair.charAt st.src st.pos = some '`' := by
      have := hint.2.1
      rwa [Nat.add_sub_cancel] at this
    have h1 : CodePair.charAt st.src (st.pos + 1) = some '`' := hint.2.2
    cases w with
    | nil => simp only [byteLen] at hlen; omega
    | cons a w1 =>
      have ha := charAt_of_slice hsl
      rw [h0] at ha
      simp only [Option.some.injEq] at ha
      subst ha
      have e3 : ('`' : Char).utf8Size = 1 := by decide
      cases w1 with
      | nil => simp only [byteLen, e3] at hlen; omega
      | cons b rest =>
        have hb1 := charAt_next (u := ['`']) (b := b) (v := rest) (a := st.pos) (q := st.posMax)
          (by simpa using hsl)
        simp only [byteLen, e3, Nat.add_zero] at hb1
        rw [h1] at hb1
        simp only [Option.some.injEq] at hb1
        subst hb1
        cases o0 with
        | some n =>
          exfalso
          have := hsome n rfl
          have := chain_some_ge hwin hfr
          omega
        | none =>
          have hm := (chain_marks cfg.chain st hwin (.inl hb.2) w' hfr).2 hbt
          -- `st'` carries the code-span cache of `w'`
          have hbk : st'.backticks = w'.backticks := by
            unfold skipStep at hstep
            simp only [hfr] at hstep
            split at hstep
            · simp at hstep
            · simp only [Except.ok.injEq] at hstep
              rw [← hstep]
          rw [hbk]
          simpa using hm

end MdIt.Inline.CS
