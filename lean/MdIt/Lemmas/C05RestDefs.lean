/-
  C05, the remaining clauses (character boundaries at inline nodes, text faithfulness): shared
  definitions — the interfaces between
    * the block invariant with line terminators (`Geo3` of Lemmas/C05InlineGeo.lean; `InlSpec3` is its
      `InlSpecI true`, converted once by `InlSpec3.toI` of Lemmas/C05RestGeo.lean),
    * the faithfulness of `get_lines` (`PFth`, `PFull`: Lemmas/C05RestFaith.lean),
    * the inline parser (`FthN`, `FI`: images of the certificate of Lemmas/InlineCert.lean,
      Lemmas/C05RestInline.lean),
    * the transport through splice / join / sourcepos (`PreOk`, `PostOk`, `PInlF`:
      Lemmas/C05RestSplice.lean),
  and the small lemmas all of them use.  The selections of a string by byte offsets (`Cut`, `Bdy`,
  `BrkAt`, `Sel`) and `TermOk` are in Lemmas/C05LineTable.lean.

  Conventions: all byte lengths here are `InlineOps.byteLen` (`C05I.linesLen_eq` converts).
  (Prefixes: `fi_` lemmas about `FI`, `em_` lemmas about the children lists the delimiter matching rebuilds.)
-/
import MdIt.Props.C05Inline

namespace MdIt.C05R
open MdIt.InlineOps (Srcmap getSourcePosFor byteLen)
open MdIt.Inline (Node Val IState)
open MdIt.Lines (LineOffset)

/-! ## the content of a placeholder is a faithful excerpt of the document -/

/-- `(c, m)`: inline text and per-line table of one placeholder; `src`: the document.
    `copy`: a stretch of the inline text without a line feed is a copy of the source bytes between
    the translated offsets; `brk`: across a line feed of the inline text the translated range holds
    a line break of the source. -/
structure PFth (src c : List Char) (m : Srcmap) : Prop where
  copy : ∀ p q w a b, Cut c p q w → '\n' ∉ w → getSourcePosFor m p = .ok a →
    getSourcePosFor m q = .ok b → Cut src a b w
  brk : ∀ p q w a b w', Cut c p q w → '\n' ∈ w → getSourcePosFor m p = .ok a →
    getSourcePosFor m q = .ok b → Cut src a b w' → ¬ NoBrk w'

/-- **lowering a boundary**: the translation of a character boundary of the inline text is a
    character boundary of the document -/
theorem PFth.bdy {src c : List Char} {m : Srcmap} (h : PFth src c m) {p a : Nat} (hp : Bdy c p)
    (ha : getSourcePosFor m p = .ok a) : Bdy src a :=
  (h.copy p p [] a a hp.cut_nil (by simp) ha ha).bdy_left

/-! ## the inline tree -/

/-- the text a text-like node (`Text`, or an `EmphMarker` the join pass will turn into one) stands for -/
def textOf : Val → Option (List Char)
  | .text c => some c
  | .emphMarker m _ rem _ _ => some (Join.markerText m rem)
  | _ => none

def TextLike (n : Node) : Prop := (textOf n.val).isSome = true

/-- two neighbours that the join pass may merge are adjacent in the source -/
def Adj (x y : Node) : Prop :=
  TextLike x → TextLike y → ∃ a1 b1 b2, x.range = some (a1, b1) ∧ y.range = some (b1, b2)

/-- every two consecutive members are `Adj` -/
def Adjd : List Node → Prop
  | [] => True
  | [_] => True
  | x :: y :: r => Adj x y ∧ Adjd (y :: r)

/-- text-like members have a non-empty range -/
def StrictTop (l : List Node) : Prop :=
  ∀ n ∈ l, TextLike n → ∃ a b, n.range = some (a, b) ∧ a < b

mutual
/-- C05 clauses 2 (boundaries) and 3 (text) at every node of an inline tree, plus what the join
    pass needs: range ends on character boundaries of the document; a `Text` selects its content, a
    `TextSpecial` its markup (unless the range holds a line break); an `EmphMarker` covers exactly
    its `remaining` (single-byte) delimiters; mergeable neighbours among the children are adjacent -/
def FthN (src : List Char) : Node → Prop
  | ⟨v, r, cs⟩ =>
    (∃ a b, r = some (a, b) ∧ Bdy src a ∧ Bdy src b ∧
      (∀ t, v = .text t → Sel src a b t) ∧
      (∀ ct mu info, v = .special ct mu info → Sel src a b mu) ∧
      (∀ mk l rem o c, v = .emphMarker mk l rem o c →
        Cut src a b (List.replicate rem mk) ∧ mk.utf8Size = 1) ∧
      Adjd cs) ∧ FthL src cs
def FthL (src : List Char) : List Node → Prop
  | [] => True
  | c :: cs => FthN src c ∧ FthL src cs
end

theorem FthN_eq (src : List Char) (n : Node) :
    FthN src n ↔ (∃ a b, n.range = some (a, b) ∧ Bdy src a ∧ Bdy src b ∧
      (∀ t, n.val = .text t → Sel src a b t) ∧
      (∀ ct mu info, n.val = .special ct mu info → Sel src a b mu) ∧
      (∀ mk l rem o c, n.val = .emphMarker mk l rem o c →
        Cut src a b (List.replicate rem mk) ∧ mk.utf8Size = 1) ∧
      Adjd n.children) ∧ FthL src n.children := by
  cases n; simp [FthN]

theorem fthL_iff (src : List Char) (l : List Node) : FthL src l ↔ ∀ n ∈ l, FthN src n := by
  induction l with
  | nil => simp [FthL]
  | cons c cs ih => simp [FthL, ih]

/-- what one inline run works in: a monotone table whose keys sit behind line feeds, and a content
    that is a faithful excerpt of the document `src0` -/
structure Ctx (src0 c : List Char) (m : Srcmap) : Prop where
  map : Inline.MapOK c m
  fth : PFth src0 c m

/-- what the frame invariant `IC.ICF` of the certificate walk (Lemmas/InlineCert.lean) says in source
    coordinates when the table has no virtual-space entry (`IC.ICF.fi`): the cursor is on a
    character boundary; every child is `FthN`; mergeable neighbours are adjacent; text-like
    children have non-empty ranges; a text-like LAST child ends exactly at the translated cursor -/
structure FI (src0 c : List Char) (m : Srcmap) (pos : Nat) (cs : List Node) : Prop where
  bpos : Bdy c pos
  deep : FthL src0 cs
  adj : Adjd cs
  strict : StrictTop cs
  tail : ∀ init last, cs = init ++ [last] → TextLike last →
    ∃ a b, last.range = some (a, b) ∧ getSourcePosFor m pos = .ok b

def FInv (src0 : List Char) (st : IState) : Prop := FI src0 st.src st.srcmap st.pos st.children

/-- every emphasis-like rule of the chain has a single-byte marker (`*`, `_`, `~` in the shipped
    plugins; `scan_delims` counts characters and the rule advances by that count, so a multi-byte
    marker leaves the cursor inside a character), which is not the line feed (a run of line-feed
    "delimiters" would not be a copy of source bytes behind a container prefix) -/
def AsciiMarkers (chain : List Inline.RuleId) : Prop :=
  ∀ mk csw, Inline.RuleId.emph mk csw ∈ chain → mk.utf8Size = 1 ∧ mk ≠ '\n'

end MdIt.C05R

/-! ## the block side -/

namespace MdIt.Block
open MdIt.Lines (LineOffset)
open MdIt.C05I (KeptBlank)

/-- `InlSpec2` from the stronger invariant -/
structure InlSpec3 (src0 : List Char) (P : InlP) : Prop where
  /-- paragraph, setext heading: `get_lines(b, e, blk_indent, false)` -/
  lines : ∀ (s : BState) (b e : Nat) (c : List Char) (m : List (Nat × Nat)) (ob oe : LineOffset),
    Geo3 src0 s → s.getLines b e s.blkIndent false = .ok (c, m) → b < e →
    s.offs[b]? = some ob → s.offs[e - 1]? = some oe → KeptBlank s.src s.blkIndent ob →
    P c m ob.firstNonspace oe.lineEnd
  /-- ATX heading: a slice of the line -/
  heading : ∀ (s : BState) (o : LineOffset) (line content : List Char) (textPos textMax : Nat),
    Geo3 src0 s → s.offs[s.line]? = some o → s.getLine s.line = .ok line →
    liftL (Lines.slice line textPos textMax) = .ok content →
    P content [(0, o.firstNonspace + textPos)] o.firstNonspace o.lineEnd

/-- the full claim about a placeholder: `PMapF`, faithfulness in a tab-free document, and the end of
    its stretch is the end of a line -/
def PFull (src0 : List Char) : InlP := fun c m a b =>
  PMapF src0 c m a b ∧ ('\t' ∉ src0 → C05R.PFth src0 c m) ∧
    (b = InlineOps.byteLen src0 ∨ C05R.BrkAt src0 b)

end MdIt.Block

namespace MdIt.C05R
open MdIt.InlineOps (Srcmap getSourcePosFor byteLen)

/-! ## the document tree -/

/-- the text a text-like node of the document stands for -/
def textOfK : Pipeline.Kind → Option (List Char)
  | .inl v => textOf v
  | .blk _ => none

/-- two neighbours the join pass may merge: adjacent in the source, or separated by a line break
    that the hull of the two contains -/
def Glue (src : List Char) (x y : Pipeline.Node) : Prop :=
  ∀ tx ty, textOfK x.kind = some tx → textOfK y.kind = some ty →
    ∃ a1 b1 a2 b2, x.range = some (a1, b1) ∧ y.range = some (a2, b2) ∧
      (b1 = a2 ∨ ∃ g, b1 ≤ g ∧ g < b2 ∧ BrkAt src g)

def Glued (src : List Char) : List Pipeline.Node → Prop
  | [] => True
  | [_] => True
  | x :: y :: r => Glue src x y ∧ Glued src (y :: r)

/-- a node of the tree BEFORE the join pass: range ends on character boundaries; a text-like node
    selects its text, a `TextSpecial` its markup; mergeable neighbours among the children are
    `Glue`d -/
def PreOk (src : List Char) (n : Pipeline.Node) : Prop :=
  ∃ a b, n.range = some (a, b) ∧ Bdy src a ∧ Bdy src b ∧
    (∀ t, textOfK n.kind = some t → Sel src a b t) ∧
    (∀ ct mu info, n.kind = .inl (.special ct mu info) → Sel src a b mu) ∧
    Glued src n.children

/-- a node of the FINISHED tree: range ends on character boundaries; a `Text` selects its content,
    a `TextSpecial` its markup (unless the range holds a line break) -/
def PostOk (src : List Char) (n : Pipeline.Node) : Prop :=
  ∃ a b, n.range = some (a, b) ∧ Bdy src a ∧ Bdy src b ∧
    (∀ t, n.kind = .inl (.text t) → Sel src a b t) ∧
    (∀ ct mu info, n.kind = .inl (.special ct mu info) → Sel src a b mu)

/-- the claim about an `InlineRoot` placeholder the splice walk consumes (`Pipeline.PInl` plus the
    new clauses): its stretch `[a, b]` ends at the end of a line, and whatever the inline parser
    returns for it is ordered inside the stretch, well ranged, `FthN` at every node, with adjacent
    mergeable neighbours and non-empty text-like members -/
def PInlF (icfg : Inline.Cfg) (src : List Char) : Block.InlP := fun c m a b =>
  (b = byteLen src ∨ BrkAt src b) ∧
  ∀ ns, Inline.parseInline icfg c m = .ok ns →
    Inline.OrderedN a b ns ∧ Inline.WellRangedList ns ∧ FthL src ns ∧ Adjd ns ∧ StrictTop ns

end MdIt.C05R

/-! ## sibling lists and values: what every walk of the inline parser uses -/

namespace MdIt.C05R
open MdIt.Inline
open MdIt.InlineOps (Srcmap getSourcePosFor getMap byteLen slice)

theorem fi_adjd_snoc (l : List Node) (x : Node) :
    Adjd (l ++ [x]) ↔ Adjd l ∧ ∀ y, l.getLast? = some y → Adj y x := by
  induction l with
  | nil => simp [Adjd]
  | cons a r ih =>
    cases r with
    | nil => simp [Adjd]
    | cons b r' =>
      show Adjd (a :: b :: (r' ++ [x])) ↔ _
      simp only [Adjd]
      rw [show b :: (r' ++ [x]) = (b :: r') ++ [x] from rfl, ih, List.getLast?_cons_cons, and_assoc]

theorem fi_getLast_snoc {α : Type} {l init : List α} {x : α} (h : l = init ++ [x]) :
    l.getLast? = some x := by subst h; simp

theorem fi_snoc_of_getLast {α : Type} {l : List α} {x : α} (h : l.getLast? = some x) :
    ∃ init, l = init ++ [x] := List.getLast?_eq_some_iff.mp h

theorem fi_textLike_of_isText {n : Node} (h : n.isText = true) : TextLike n := by
  unfold Node.isText at h
  unfold TextLike
  split at h
  · next c hv => rw [hv]; rfl
  · cases h

theorem fi_val_of_isText {n : Node} (h : n.isText = true) : n.val = .text n.content := by
  unfold Node.isText at h
  split at h
  · next c hv => rw [text_content hv]; exact hv
  · cases h

theorem fi_cut_of_slice_prefix {s : List Char} {a b : Nat} {u v : List Char}
    (h : slice s a b = .ok (u ++ v)) : Cut s a (a + byteLen u) u := by
  obtain ⟨p, q, e, l1, _⟩ := (C05.slice_ok_iff _ _ _ _).mp h
  exact ⟨p, v ++ q, by rw [e]; simp, l1, rfl⟩

theorem fi_not_textLike {v : Val} {r : Option (Nat × Nat)} {cs : List Node} (h1 : ∀ t, v ≠ .text t)
    (h3 : ∀ mk l rem o c, v ≠ .emphMarker mk l rem o c) : ¬ TextLike (Node.mk v r cs) := by
  unfold TextLike
  cases v with
  | text t => exact absurd rfl (h1 t)
  | emphMarker mk l rem o c => exact absurd rfl (h3 mk l rem o c)
  | _ => simp [textOf]

theorem em_adjd_append_iff (a b : List Node) :
    Adjd (a ++ b) ↔ Adjd a ∧ Adjd b ∧ ∀ x y, a.getLast? = some x → b.head? = some y → Adj x y := by
  induction a with
  | nil => simp [Adjd]
  | cons x a ih =>
    cases a with
    | nil =>
      cases b with
      | nil => simp [Adjd]
      | cons y r => simp [Adjd, and_comm]
    | cons z a' =>
      have e : (x :: z :: a') ++ b = x :: z :: (a' ++ b) := rfl
      rw [e]
      simp only [Adjd]
      have ih' : Adjd (z :: (a' ++ b)) ↔ _ := ih
      rw [ih']
      simp only [List.getLast?_cons_cons]
      constructor
      · rintro ⟨h1, h2, h3, h4⟩; exact ⟨⟨h1, h2⟩, h3, h4⟩
      · rintro ⟨⟨h1, h2⟩, h3, h4⟩; exact ⟨h1, h2, h3, h4⟩

theorem em_adjd_left {a b : List Node} (h : Adjd (a ++ b)) : Adjd a :=
  ((em_adjd_append_iff a b).mp h).1

theorem em_adjd_right {a b : List Node} (h : Adjd (a ++ b)) : Adjd b :=
  ((em_adjd_append_iff a b).mp h).2.1

/-! ## runs of a one-byte marker -/

theorem em_byteLen_replicate {c : Char} (hc : c.utf8Size = 1) (n : Nat) :
    byteLen (List.replicate n c) = n := by
  induction n with
  | zero => rfl
  | succ n ih => rw [List.replicate_succ]; simp only [byteLen, ih, hc]; omega

theorem em_cut_app {s : List Char} {a b : Nat} {w1 w2 : List Char} (h : Cut s a b (w1 ++ w2)) :
    Cut s a (a + byteLen w1) w1 ∧ Cut s (a + byteLen w1) b w2 := by
  obtain ⟨p, q, e, hp, hb⟩ := h
  rw [C05.byteLen_append] at hb
  refine ⟨⟨p, w2 ++ q, by rw [e]; simp [List.append_assoc], hp, rfl⟩,
    ⟨p ++ w1, q, by rw [e]; simp [List.append_assoc], by rw [C05.byteLen_append]; omega, by omega⟩⟩

theorem em_cut_replicate_len {s : List Char} {a b k : Nat} {c : Char} (hc : c.utf8Size = 1)
    (h : Cut s a b (List.replicate k c)) : b = a + k := by
  obtain ⟨_, _, _, _, hb⟩ := h
  rw [em_byteLen_replicate hc] at hb; omega

/-- **cutting `ml` markers off either end of an exact run** -/
theorem em_cut_replicate_split {s : List Char} {a b k ml : Nat} {c : Char} (hc : c.utf8Size = 1)
    (h : Cut s a b (List.replicate k c)) (hml : ml ≤ k) :
    b = a + k ∧
    Cut s a (a + ml) (List.replicate ml c) ∧ Cut s (a + ml) b (List.replicate (k - ml) c) ∧
    Cut s a (b - ml) (List.replicate (k - ml) c) ∧ Cut s (b - ml) b (List.replicate ml c) := by
  have hlen := em_cut_replicate_len hc h
  have e1 : List.replicate k c = List.replicate ml c ++ List.replicate (k - ml) c := by
    rw [List.replicate_append_replicate]; congr 1; omega
  have e2 : List.replicate k c = List.replicate (k - ml) c ++ List.replicate ml c := by
    rw [List.replicate_append_replicate]; congr 1; omega
  have h1 := h; rw [e1] at h1
  have h2 := h; rw [e2] at h2
  obtain ⟨c1, c2⟩ := em_cut_app h1
  obtain ⟨c3, c4⟩ := em_cut_app h2
  rw [em_byteLen_replicate hc] at c1 c2 c3 c4
  have e3 : a + (k - ml) = b - ml := by omega
  rw [e3] at c3 c4
  exact ⟨hlen, c1, c2, c3, c4⟩

/-- the run in front of the cursor: `ruleEmph` scans `1 + runLen mk rest` markers -/
theorem em_runLen_cut {c : List Char} {pos posMax : Nat} {mk : Char} {rest : List Char}
    (hmk : mk.utf8Size = 1) (h : Cut c pos posMax (mk :: rest)) :
    Cut c pos (pos + (1 + CodePair.runLen mk rest))
      (List.replicate (1 + CodePair.runLen mk rest) mk) := by
  obtain ⟨t, ht⟩ := runLen_split mk rest
  have e : mk :: rest = List.replicate (1 + CodePair.runLen mk rest) mk ++ t := by
    rw [Nat.add_comm, List.replicate_succ, List.cons_append, ← ht]
  rw [e] at h
  have := (em_cut_app h).1
  rwa [em_byteLen_replicate hmk] at this

theorem em_not_mem_replicate {c d : Char} (h : c ≠ d) (n : Nat) : d ∉ List.replicate n c := by
  intro hm
  exact h (List.eq_of_mem_replicate hm).symm

/-! ## the identity table -/

theorem fi_tr_id (p : Nat) : getSourcePosFor [(0, 0)] p = .ok p := by
  simpa using C05I.single_translate 0 p

/-- a content that is its own document (identity table) -/
theorem fi_ctx_id (c : List Char) : Ctx c c [(0, 0)] := by
  refine ⟨⟨⟨⟨0, [], rfl⟩, by simp⟩, ?_, ?_⟩, ⟨?_, ?_⟩⟩
  · intro i k1 v1 k2 v2 _ h2; simp at h2
  · intro i k v h hk
    cases i with
    | zero => simp at h; omega
    | succ j => simp at h
  · intro p q w a b hc _ ha hb
    rw [fi_tr_id] at ha hb
    simp only [Except.ok.injEq] at ha hb; subst ha hb; exact hc
  · intro p q w a b w' hc hn ha hb hc' hnb
    rw [fi_tr_id] at ha hb
    simp only [Except.ok.injEq] at ha hb; subst ha hb
    rw [hc'.unique hc] at hnb
    exact hnb.1 hn

/-! ## `FI` -/

theorem fi_bdy_of_slice {s : List Char} {a b : Nat} {w : List Char} (h : slice s a b = .ok w) :
    Bdy s a ∧ Bdy s b := by
  obtain ⟨h1, h2, _⟩ := slice_boundaries h
  exact ⟨h1, h2⟩

theorem FI.same {src0 c : List Char} {m : Srcmap} {pos : Nat} {cs : List Node}
    (h : FI src0 c m pos cs) : FI src0 c m pos cs := h

end MdIt.C05R
