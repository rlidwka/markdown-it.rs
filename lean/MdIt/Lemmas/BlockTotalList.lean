/-
  The list rule (`Model/Block.lean` §list.rs): `list_err`, `list_np`.

  1. the marker parsers (`skipBullet`, `skipOrdered`/`ordLoop`): a found marker is a non-empty prefix
     of one-byte characters (`MarkerSplit`); the digits of an ordered marker are 1–9 ASCII digits, so
     `parseU32` of them is total (`< 10^9 < 2^32`); `detectMarker`, `markerCharOf`, `emptyItemCheck`
     are total on any text;
  2. `itemRewrite` is total on a `LineOk` entry at a non-negative indent whose text starts with a
     marker, and the rewritten entry is `WsAscii`;
  3. `MarkerAt S m pos`: a marker of `pos` bytes sits at line `m` of `S` at a non-negative indent —
     established by `listRule` (from `IndentOk`) and re-established by `listContinue`;
  4–7. where the errors of `listItem`, `listContinue`, the item loop (over an invariant of its head:
     induction on the fuel) and the rule come from (`listItem_err`, `listContinue_err`, `listLoop_err`,
     `list_err`), `tightenItems_total`, and the no-panic instance `list_np`;
  8. examples: the 9-digit limit of `ordLoop` is what keeps `parseU32` total.
-/
import MdIt.Lemmas.BlockTotalCore
import MdIt.Lemmas.KernelEval

namespace MdIt.Block
open MdIt.Lines (LineOffset)

/-! ## 1. the marker parsers -/

/-- what both marker parsers guarantee of a marker of `p` bytes found in `cur`: it is a non-empty
    prefix of one-byte characters -/
def MarkerSplit (cur : List Char) (p : Nat) : Prop :=
  ∃ pre suf, cur = pre ++ suf ∧ Lines.byteLen pre = p ∧ pre ≠ [] ∧ ∀ c ∈ pre, c.utf8Size = 1

theorem MarkerSplit.pos {cur : List Char} {p : Nat} (h : MarkerSplit cur p) : 1 ≤ p := by
  obtain ⟨pre, suf, _, hp, hne, hasc⟩ := h
  rw [Lines.byteLen_ascii pre hasc] at hp
  cases pre with
  | nil => exact absurd rfl hne
  | cons c r => simp at hp; omega

theorem skipBullet_split {cur : List Char} {p : Nat} (h : skipBullet cur = some p) : MarkerSplit cur p := by
  unfold skipBullet at h
  split at h
  · cases h
  · rename_i c r
    split at h
    · rename_i hc
      have hp : p = 1 := by
        split at h
        · simp at h; exact h.symm
        · split at h
          · simp at h; exact h.symm
          · cases h
      subst hp
      refine ⟨[c], r, rfl, ?_, by simp, ?_⟩
      · rcases hc with rfl | rfl | rfl <;> decide
      · intro x hx
        simp at hx
        subst hx
        rcases hc with rfl | rfl | rfl <;> decide
    · cases h

/-- the loop of the ordered marker: digits, then `)` or `.`; never more than 9 characters counted
    before the delimiter -/
theorem ordLoop_shape : ∀ (l : List Char) (pos p : Nat) (r : List Char), ordLoop l pos = some (p, r) →
    ∃ ds m, l = ds ++ m :: r ∧ (∀ c ∈ ds, isDigit c = true) ∧ (m = ')' ∨ m = '.') ∧
      p = pos + ds.length + 1 ∧ (pos + ds.length ≤ 9 ∨ ds = [])
  | [], _, _, _, h => by simp [ordLoop] at h
  | c :: l, pos, p, r, h => by
    simp only [ordLoop] at h
    split at h
    · rename_i hd
      split at h
      · cases h
      · rename_i hlt
        obtain ⟨ds, m, rfl, hds, hm, hp, hlen⟩ := ordLoop_shape l (pos + 1) p r h
        refine ⟨c :: ds, m, rfl, ?_, hm, by simp; omega, ?_⟩
        · intro x hx
          simp at hx
          rcases hx with rfl | hx
          · exact hd
          · exact hds x hx
        · left
          rcases hlen with hlen | rfl
          · simp; omega
          · simp; omega
    · split at h
      · rename_i hm
        simp at h
        obtain ⟨rfl, rfl⟩ := h
        exact ⟨[], c, rfl, by simp, hm, by simp, .inr rfl⟩
      · cases h

/-- an ordered marker: 1–9 ASCII digits and a delimiter -/
theorem skipOrdered_shape {cur : List Char} {p : Nat} (h : skipOrdered cur = some p) :
    ∃ ds m suf, cur = ds ++ m :: suf ∧ ds ≠ [] ∧ (∀ c ∈ ds, isDigit c = true) ∧ ds.length ≤ 9 ∧
      (m = ')' ∨ m = '.') ∧ p = ds.length + 1 := by
  unfold skipOrdered at h
  split at h
  · cases h
  · rename_i c r
    split at h
    · rename_i hd
      split at h
      · cases h
      · rename_i pos rest hloop
        have hp : p = pos := by
          split at h
          · simp at h; exact h.symm
          · split at h
            · simp at h; exact h.symm
            · cases h
        subst hp
        obtain ⟨ds, m, rfl, hds, hm, hp, hlen⟩ := ordLoop_shape _ _ _ _ hloop
        refine ⟨c :: ds, m, rest, rfl, by simp, ?_, ?_, hm, by simp; omega⟩
        · intro x hx
          simp at hx
          rcases hx with rfl | hx
          · exact hd
          · exact hds x hx
        · rcases hlen with hlen | rfl
          · simp; omega
          · simp
    · cases h

theorem delim_size {m : Char} (hm : m = ')' ∨ m = '.') : m.utf8Size = 1 := by
  rcases hm with rfl | rfl <;> decide

theorem skipOrdered_split {cur : List Char} {p : Nat} (h : skipOrdered cur = some p) : MarkerSplit cur p := by
  obtain ⟨ds, m, suf, rfl, hne, hds, _, hm, rfl⟩ := skipOrdered_shape h
  have hasc : ∀ c ∈ ds ++ [m], c.utf8Size = 1 := by
    intro c hc
    simp at hc
    rcases hc with hc | rfl
    · exact isDigit_size (hds c hc)
    · exact delim_size hm
  refine ⟨ds ++ [m], suf, by simp, ?_, by simp, hasc⟩
  rw [Lines.byteLen_ascii _ hasc]; simp

/-- `acc * 10 + digit` over `n` digits stays below `(acc + 1) * 10^n` -/
theorem digits_bound : ∀ (ds : List Char) (acc : Nat), (∀ c ∈ ds, isDigit c = true) →
    ds.foldl (fun acc c => acc * 10 + (c.toNat - 48)) acc + 1 ≤ (acc + 1) * 10 ^ ds.length
  | [], acc, _ => by simp
  | c :: r, acc, h => by
    have hc := h c (by simp)
    simp only [isDigit, Bool.and_eq_true, decide_eq_true_eq] at hc
    have ih := digits_bound r (acc * 10 + (c.toNat - 48)) (fun x hx => h x (List.mem_cons_of_mem _ hx))
    simp only [List.foldl_cons, List.length_cons]
    refine Nat.le_trans ih ?_
    have h1 : acc * 10 + (c.toNat - 48) + 1 ≤ (acc + 1) * 10 := by omega
    calc (acc * 10 + (c.toNat - 48) + 1) * 10 ^ r.length
        ≤ ((acc + 1) * 10) * 10 ^ r.length := Nat.mul_le_mul_right _ h1
      _ = (acc + 1) * 10 ^ (r.length + 1) := by rw [Nat.mul_assoc, Nat.pow_succ, Nat.mul_comm 10]

/-- `str::parse::<u32>` of 1–9 ASCII digits -/
theorem parseU32_total {ds : List Char} (hne : ds ≠ []) (hds : ∀ c ∈ ds, isDigit c = true)
    (hlen : ds.length ≤ 9) : ∃ v, parseU32 ds = .ok v := by
  unfold parseU32
  have h1 : ¬ (ds.isEmpty = true ∨ ¬ ds.all isDigit = true) := by
    intro h
    rcases h with h | h
    · exact hne (List.isEmpty_iff.mp h)
    · exact h (List.all_eq_true.mpr hds)
  rw [if_neg h1]
  have hb := digits_bound ds 0 hds
  have hpow : 10 ^ ds.length ≤ 10 ^ 9 := Nat.pow_le_pow_right (by omega) hlen
  simp only [Nat.zero_add, Nat.one_mul] at hb
  have : ds.foldl (fun acc c => acc * 10 + (c.toNat - 48)) 0 < 4294967296 := by
    have : (10 : Nat) ^ 9 = 1000000000 := by decide
    omega
  simp only [this, if_true]
  exact ⟨_, rfl⟩

theorem detectMarker_total (cur : List Char) : ∃ r, detectMarker cur = .ok r := by
  unfold detectMarker
  split
  · rename_i p hp
    obtain ⟨ds, m, suf, rfl, hne, hds, hlen, hm, rfl⟩ := skipOrdered_shape hp
    have hbl : Lines.byteLen ds = ds.length := Lines.byteLen_ascii ds (fun c hc => isDigit_size (hds c hc))
    have hs : Lines.slice (ds ++ m :: suf) 0 (ds.length + 1 - 1) = .ok ds :=
      Lines.slice_eq_ok_iff.mpr ⟨[], m :: suf, by simp, rfl, by simp [hbl]⟩
    obtain ⟨v, hv⟩ := parseU32_total hne hds hlen
    simp only [psub, Nat.le_add_left, if_true, ok_bind, hs, liftL, hv]
    exact ⟨_, rfl⟩
  · split
    · exact ⟨_, rfl⟩
    · exact ⟨_, rfl⟩

theorem detectMarker_split {cur : List Char} {p : Nat} {v : Option Nat}
    (h : detectMarker cur = .ok (some (p, v))) : MarkerSplit cur p :=
  (detectMarker_ok h).elim skipOrdered_split skipBullet_split

theorem markerCharOf_total {cur : List Char} {p : Nat} (h : MarkerSplit cur p) :
    ∃ c, markerCharOf cur p = .ok c := by
  obtain ⟨pre, suf, rfl, rfl, hne, _⟩ := h
  unfold markerCharOf
  have hs : Lines.slice (pre ++ suf) 0 (Lines.byteLen pre) = .ok pre :=
    Lines.slice_eq_ok_iff.mpr ⟨[], suf, by simp, rfl, by simp⟩
  simp only [hs, liftL, ok_bind]
  cases hl : pre.getLast? with
  | none => exact absurd (List.getLast?_eq_none_iff.mp hl) hne
  | some c => exact ⟨c, rfl⟩

theorem emptyItemCheck_total {cur : List Char} {p : Nat} (isTerm : Bool) (h : MarkerSplit cur p) :
    ∃ b, emptyItemCheck isTerm cur p = .ok b := by
  obtain ⟨pre, suf, rfl, rfl, _, _⟩ := h
  unfold emptyItemCheck
  split
  · have hs : Lines.slice (pre ++ suf) (Lines.byteLen pre) (Lines.byteLen (pre ++ suf)) = .ok suf :=
      Lines.slice_eq_ok_iff.mpr ⟨pre, [], by simp, rfl, by simp⟩
    simp only [hs, liftL, ok_bind]
    exact ⟨_, rfl⟩
  · exact ⟨_, rfl⟩

/-! ## 2. the rewriting of the item's first line -/

theorem itemRewrite_total {src : List Char} {o : LineOffset} {cur : List Char} {pos : Nat}
    (hl : LineOk src o) (h0 : 0 ≤ o.indentNonspace)
    (hb : Lines.slice src o.firstNonspace o.lineEnd = .ok cur) (hM : MarkerSplit cur pos) :
    ∃ r, itemRewrite src o pos = .ok r := by
  obtain ⟨pre, suf, rfl, rfl, _, _⟩ := hM
  obtain ⟨a, run, rest, rfl, hrun, hrest, hwhole, ha, hfn, hend, hfi, hlead⟩ := rewrite_shape hl hb
  unfold itemRewrite
  rw [if_neg (by omega)]
  have hrel : psub (Lines.byteLen pre + o.firstNonspace) o.lineStart
      = .ok (Lines.byteLen a + Lines.byteLen pre) := by
    unfold psub; rw [if_pos (by omega)]; congr 1; omega
  have hlen : psub o.lineEnd o.lineStart = .ok (o.lineEnd - o.lineStart) := by
    unfold psub; rw [if_pos (by omega)]
  simp only [hwhole, liftL, ok_bind, hrel, hfi, hlen]
  exact ⟨_, rfl⟩

/-- the rewritten entry keeps its leading bytes one byte wide -/
theorem itemRewrite_wsAscii {src : List Char} {o o' : LineOffset} {cur : List Char} {pos indent : Nat}
    {re : Bool} (hl : LineOk src o) (ha : WsAscii src o)
    (hb : Lines.slice src o.firstNonspace o.lineEnd = .ok cur) (hM : MarkerSplit cur pos)
    (h : itemRewrite src o pos = .ok (o', indent, re)) : WsAscii src o' := by
  obtain ⟨pre, suf, rfl, rfl, _, hasc⟩ := hM
  obtain ⟨a, run, rest, rfl, hrun, hrest, hwhole, h3, hfn, hend, hfi, hlead⟩ := rewrite_shape hl hb
  obtain ⟨ltxt, ind, fn, -, e1, hle, -, e2, -, -, rfl⟩ := itemRewrite_ok h
  rw [hwhole] at e1
  cases e1
  have hrel' : Lines.byteLen pre + o.firstNonspace - o.lineStart = Lines.byteLen a + Lines.byteLen pre := by
    omega
  rw [hrel', hfi] at e2
  cases e2
  exact wsAscii_rewrite ha h3 hasc hrun hlead _

/-! ## 3. a marker sits at a line -/

/-- a marker of `pos` bytes sits at line `m` of `S`, at a non-negative indent -/
def MarkerAt (S : BState) (m pos : Nat) : Prop :=
  ∃ o cur, S.offs[m]? = some o ∧ Lines.slice S.src o.firstNonspace o.lineEnd = .ok cur ∧
    MarkerSplit cur pos ∧ 0 ≤ o.indentNonspace

theorem MarkerAt.pos {S : BState} {m pos : Nat} (h : MarkerAt S m pos) : 1 ≤ pos := by
  obtain ⟨_, _, _, _, hM, _⟩ := h
  exact hM.pos

/-- from the line the rule looks at: `get_line` found the marker, `line_indent ≥ 0` -/
theorem markerAt_of {S : BState} {m pos : Nat} {cur : List Char} {ind : Int} (hm : m < S.offs.length)
    (hind : S.lineIndent m = .ok ind) (h0 : 0 ≤ ind) (hcur : S.getLine m = .ok cur)
    (hM : MarkerSplit cur pos) : MarkerAt S m pos := by
  have ho : S.offs[m]? = some S.offs[m] := List.getElem?_eq_getElem hm
  refine ⟨S.offs[m], cur, ho, getLine_eq ho hcur, hM, ?_⟩
  rw [lineIndent_of_off ho] at hind
  cases hind
  omega

/-! ## 4. one list item -/

theorem listItemBody_err {E : Panic → Prop} {tok : Tok} (hk : TokSpec tok) {S2 : BState} {m : Nat} {re : Bool}
    (hK : ErrIn E (tok { S2 with line := m, level := S2.level + 1 })) : ErrIn E (listItemBody tok S2 m re) := by
  unfold listItemBody
  refine .ite (fun _ => .pure _) fun _ => ?_
  refine .bind hK fun S3 htok => ?_
  -- `state.level -= 1`: the nested tokenizer hands the level back
  refine .bind (.total (psub_total ?_)) fun _ _ => .pure _
  rw [(hk.frame _ _ htok).level]
  exact Nat.le_add_left 1 _

theorem prevEmptyEndOf_total {s : BState} {n : Nat} (h : n < s.line) : ∃ b, prevEmptyEndOf s n = .ok b := by
  unfold prevEmptyEndOf psub
  rw [if_pos (by omega)]
  simp only [ok_bind]
  split
  · rw [if_pos (by omega)]; exact ⟨_, rfl⟩
  · exact ⟨_, rfl⟩

/-- the state the body of an item runs on -/
theorem listItem_head {S S2 : BState} {m pos : Nat} {o : LineOffset} {r : LineOffset × Nat × Bool}
    (hI : BInv S) (hline : S.line = m) (hM : MarkerAt S m pos)
    (ho : S.off m = .ok o) (hrw : itemRewrite S.src o pos = .ok r)
    (hS2 : BState.setOff { S with nodeKind := .listItem, children := [], listIndent := some S.blkIndent,
                                  blkIndent := r.2.1, tight := true } m r.1 = .ok S2) :
    BInv S2 ∧ S2.line = m ∧ S2.lineMax = S.lineMax ∧ S2.listIndent = some S.blkIndent ∧
      S2.offs.length = S.offs.length ∧ (S2.isEmpty m = true ∨ IndentOk { S2 with line := m }) := by
  have hpos := hM.pos
  obtain ⟨o0, cur, ho0, hcur, hsplit, h0⟩ := hM
  have e1 := off_ok ho
  rw [ho0] at e1
  cases e1
  obtain ⟨o', indent, re⟩ := r
  have hlo := hI.table m o ho0
  obtain ⟨hok, hc⟩ := itemRewrite_spec hrw
  obtain ⟨hend, _, _⟩ := itemRewrite_phi hrw hpos
  simp only at hS2
  have hI1 : BInv { S with nodeKind := .listItem, children := [], listIndent := some S.blkIndent,
                           blkIndent := indent, tight := true } := hI.congr rfl rfl hI.lineMax
  have hI2 : BInv S2 := hI1.setOff hS2 ho0 (hok hlo) hend
    (itemRewrite_wsAscii hlo (hI.ascii m o ho0) hcur hsplit hrw)
  obtain ⟨hm, hS2eq⟩ := setOff_ok hS2
  simp only at hS2eq
  refine ⟨hI2, by rw [hS2eq]; exact hline, by rw [hS2eq], by rw [hS2eq], by rw [hS2eq]; simp, ?_⟩
  refine item_cond (x := o') (by rw [hS2eq]; simp [hm]) ?_
  rw [hS2eq]
  exact hc

/-- … and the state the body hands back -/
theorem listItem_body {tok : Tok} (hk : TokSpec tok) {S S2 S3 : BState} {m pos : Nat} {o : LineOffset}
    {r : LineOffset × Nat × Bool} (hI : BInv S) (hline : S.line = m) (hlt : m < S.lineMax)
    (hM : MarkerAt S m pos) (ho : S.off m = .ok o) (hrw : itemRewrite S.src o pos = .ok r)
    (hS2 : BState.setOff { S with nodeKind := .listItem, children := [], listIndent := some S.blkIndent,
                                  blkIndent := r.2.1, tight := true } m r.1 = .ok S2)
    (hbody : listItemBody tok S2 m r.2.2 = .ok S3) :
    m < S3.line ∧ S3.line ≤ S.lineMax ∧ S3.listIndent = some S.blkIndent ∧ S3.offs.length = S.offs.length := by
  obtain ⟨hI2, hline2, hmax2, hli2, hlen2, hcond⟩ := listItem_head hI hline hM ho hrw hS2
  obtain ⟨hfr, hlt3, hle3⟩ := listItemBody_spec hk hbody hline2 (hmax2 ▸ hlt) hcond
  exact ⟨hlt3, hmax2 ▸ hle3 hI2.table, hfr.listIndent.trans hli2, (congrArg List.length hfr.offs).trans hlen2⟩

/-- An item fails with a statement of its own or with the nested tokenizer on the state its head
    has prepared. -/
theorem listItem_err {E : Panic → Prop} {tok : Tok} (hk : TokSpec tok) {S : BState} {m pos : Nat}
    {pee tight : Bool} (hP : PrimIn E (BInv S ∧ S.line = m ∧ m < S.lineMax ∧ MarkerAt S m pos))
    (hK : ∀ o r S2, S.off m = .ok o → itemRewrite S.src o pos = .ok r →
      BState.setOff { S with nodeKind := .listItem, children := [], listIndent := some S.blkIndent,
                             blkIndent := r.2.1, tight := true } m r.1 = .ok S2 →
      ErrIn E (tok { S2 with line := m, level := S2.level + 1 })) :
    ErrIn E (listItem tok S m pos pee tight) := by
  unfold listItem
  refine .bind (hP.prim fun ⟨hI, _, hlt, _⟩ => off_total (Nat.lt_of_lt_of_le hlt hI.lineMax)) fun o ho => ?_
  refine .bind (hP.prim fun ⟨hI, _, _, hM⟩ => ?_) fun ⟨o', indent, re⟩ hrw => ?_
  · -- the entry is the one the marker was found in
    obtain ⟨o0, cur, ho0, hcur, hsplit, h0⟩ := hM
    have e1 := off_ok ho
    rw [ho0] at e1
    cases e1
    exact itemRewrite_total (hI.table m _ ho0) h0 hcur hsplit
  refine .bind (hP.prim fun ⟨hI, _, hlt, _⟩ => setOff_total (Nat.lt_of_lt_of_le hlt hI.lineMax)) fun S2 hS2 => ?_
  refine .bind (listItemBody_err hk (hK o (o', indent, re) S2 ho hrw hS2)) fun S3 hbody => ?_
  -- behind the body: `line` has moved past `m`, not beyond `lineMax`; `list_indent` and the table length are back
  have key := fun (hC : BInv S ∧ S.line = m ∧ m < S.lineMax ∧ MarkerAt S m pos) =>
    listItem_body hk hC.1 hC.2.1 hC.2.2.1 hC.2.2.2 ho (r := (o', indent, re)) hrw hS2 hbody
  refine .bind (hP.prim fun hC => prevEmptyEndOf_total (key hC).1) fun pe _ => ?_
  cases hli : S3.listIndent with
  | none =>
    refine hP.never fun hC => ?_
    rw [(key hC).2.2.1] at hli
    cases hli
  | some li =>
    refine .bind (hP.prim fun hC => setOff_total ?_) fun S5 hS5 => ?_
    · have := (key hC).2.2.2
      have := hC.1.lineMax
      show m < S3.offs.length
      omega
    have hS5 := (setOff_ok hS5).2
    refine .bind (hP.prim fun hC => psub_total ?_) fun e he => ?_
    · have := (key hC).1
      rw [hS5]
      show 1 ≤ S3.line
      omega
    have he : e = S5.line - 1 := (psub_ok he).2
    refine .bind (hP.prim fun hC => ?_) fun r _ => .pure _
    obtain ⟨hlt3, hle3, -, hlen3⟩ := key hC
    have := hC.1.lineMax
    rw [hS5] at he ⊢
    refine getMap_total (by show m ≤ e; have : e = S3.line - 1 := he; omega) ?_
    show e < (S3.offs.set m o).length
    have : e = S3.line - 1 := he
    rw [List.length_set]
    omega

/-! ## 5. "is the list continued?" -/

theorem skip_split {ordered : Bool} {cur : List Char} {p : Nat}
    (h : (if ordered = true then skipOrdered cur else skipBullet cur) = some p) : MarkerSplit cur p := by
  split at h
  · exact skipOrdered_split h
  · exact skipBullet_split h

theorem listContinue_err {E : Panic → Prop} {test : Test} (ht : TestPure test) {ordered : Bool} {mc : Char}
    {S : BState} {n : Nat} (hP : PrimIn E (BInv S ∧ S.line = n)) (hT : n < S.lineMax → ErrIn E (test S)) :
    ErrIn E (listContinue test ordered mc S n) := by
  unfold listContinue
  refine .orElse fun hn => ?_
  have hn : n < S.lineMax := Nat.not_le.mp hn
  have hm : BInv S → n < S.offs.length := fun hI => Nat.lt_of_lt_of_le hn hI.lineMax
  refine .bind (hP.prim fun ⟨hI, _⟩ => lineIndent_total (hm hI)) fun ind _ => ?_
  refine .orElse fun _ => ?_
  refine .orElse fun _ => ?_
  refine .bind (hT hn) fun ⟨t, S1⟩ htest => ?_
  -- the look-ahead hands the state back
  cases (ht _ _ htest : S1 = S)
  refine .orElse fun _ => ?_
  refine .bind (hP.prim fun ⟨hI, hline⟩ => ?_) fun cur _ => ?_
  · rw [set_line_back]
    exact getLine_total hI.table (hline ▸ hm hI)
  cases hskip : (if ordered = true then skipOrdered cur else skipBullet cur) with
  | none => exact .pure _
  | some p =>
    refine .bind (.total (markerCharOf_total (skip_split hskip))) fun mc' _ => ?_
    exact .ite (fun _ => .pure _) fun _ => .pure _

/-- when the list goes on, the next marker sits at the line the item loop continues with -/
theorem listContinue_marker {test : Test} (ht : TestPure test) {ordered : Bool} {mc : Char}
    {S S' : BState} {n p : Nat} (hI : BInv S) (hline : S.line = n)
    (h : listContinue test ordered mc S n = .ok (some p, S')) : MarkerAt S' n p := by
  rcases listContinue_ok h with ⟨hc, _⟩ | ⟨ind, S1, cur, p', hlt, hind, h0, _, htest, hcur, hskip, _, hp, rfl⟩
  · cases hc
  · cases hp
    have e : S1 = S := ht _ _ htest
    subst e
    rw [set_line_back]
    exact markerAt_of (Nat.lt_of_lt_of_le hlt hI.lineMax) hind h0 (hline ▸ hcur) (skip_split hskip)

/-! ## 6. the item loop -/

/-- The item loop fails with an item, with "is the list continued?", or by running out of fuel.  `J` is
    what is known at the head of every iteration beyond `S.line = m < S.lineMax`. -/
theorem listLoop_err {E : Panic → Prop} {tok : Tok} {test : Test} (hk : TokSpec tok) (ht : TestPure test)
    {ordered : Bool} {mc : Char} {J : BState → Nat → Nat → Prop}
    (hitem : ∀ S m pos pee tight, J S m pos → S.line = m → m < S.lineMax →
      ErrIn E (listItem tok S m pos pee tight))
    (hcont : ∀ S m pos S1, J S m pos → Frame S S1 → ErrIn E (listContinue test ordered mc S1 S1.line))
    (hJ : ∀ S m pos S1 p, J S m pos → Frame S S1 → m < S1.line →
      listContinue test ordered mc S1 S1.line = .ok (some p, S1) → J S1 S1.line p) :
    ∀ (fuel : Nat) (S : BState) (m pos : Nat) (pee tight : Bool), J S m pos → S.line = m → m < S.lineMax →
      E .fuel ∨ S.lineMax < m + fuel → ErrIn E (listLoop tok test ordered mc fuel S m pos pee tight) := by
  intro fuel
  induction fuel with
  | zero =>
    intro S m pos pee tight _ _ hlt hF
    exact .lit (hF.elim id fun hb => by omega)
  | succ f ih =>
    intro S m pos pee tight hJS hline hlt hF
    unfold listLoop
    refine .ite (fun _ => .ok _) fun _ => ?_
    refine .bind (hitem _ _ _ _ _ hJS hline hlt) fun ⟨S1, t1, p1⟩ hit => ?_
    -- the item hands the frame back and moves `line` past `m`
    obtain ⟨hfr, h1, _⟩ := listItem_spec hk hit hline hlt
    refine .bind (hcont _ _ _ _ hJS hfr) fun ⟨c, S2⟩ hc => ?_
    obtain ⟨rfl, hc2⟩ := listContinue_spec ht hc
    cases c with
    | none => exact .ok _
    | some p =>
      refine ih _ _ _ _ _ (hJ _ _ _ _ _ hJS hfr h1 hc) rfl (hc2 (by simp)) (hF.imp id fun _ => ?_)
      rw [hfr.lineMax]
      omega

/-! ## 7. the rule -/

theorem tightenItems_total : ∀ (cs : List BNode), (∀ c ∈ cs, c.kind = .listItem) →
    ∃ r, tightenItems cs = .ok r
  | [], _ => ⟨[], rfl⟩
  | c :: r, h => by
    obtain ⟨r', hr⟩ := tightenItems_total r (fun x hx => h x (List.mem_cons_of_mem _ hx))
    simp only [tightenItems, h c (by simp), ne_eq, not_true_eq_false, if_false, hr]
    exact ⟨_, rfl⟩

theorem listSpecial_total {s : BState} (h : s.line < s.offs.length) : ∃ b, listSpecial s = .ok b := by
  unfold listSpecial
  split
  · obtain ⟨o, ho⟩ := off_total (s := s) h
    simp only [ho, ok_bind]
    exact ⟨_, rfl⟩
  · exact ⟨_, rfl⟩

/-- The rule fails with a statement of its own or with its item loop.  (The `debug_assert!` of the tight
    case holds because the item loop pushes list items only: `listLoop_children`.) -/
theorem list_err {E : Panic → Prop} {tok : Tok} {test : Test} (hk : TokSpec tok) (ht : TestPure test)
    {fuel : Nat} {s : BState} {silent : Bool}
    (hP : PrimIn E (BInv s ∧ s.line < s.lineMax ∧ (silent = false → IndentOk s)))
    (hloop : silent = false → ∀ cur pos v ordered mc kind, s.getLine s.line = .ok cur →
      detectMarker cur = .ok (some (pos, v)) →
      ErrIn E (listLoop tok test ordered mc fuel { s with nodeKind := kind, children := [], level := s.level + 1 }
        s.line pos false true)) :
    ErrIn E (listRule tok test fuel s silent) := by
  have hm : BInv s ∧ s.line < s.lineMax ∧ (silent = false → IndentOk s) → s.line < s.offs.length :=
    fun hC => Nat.lt_of_lt_of_le hC.2.1 hC.1.lineMax
  unfold listRule
  refine .orElse fun _ => ?_
  refine .bind (hP.prim fun hC => lineIndent_total (hm hC)) fun ind _ => ?_
  refine .orElse fun _ => ?_
  refine .bind (hP.prim fun hC => listSpecial_total (hm hC)) fun _ _ => ?_
  refine .orElse fun _ => ?_
  refine .bind (hP.prim fun hC => getLine_total hC.1.table (hm hC)) fun cur hcur => ?_
  refine .bind (.total (detectMarker_total _)) fun det hdet => ?_
  rcases det with _ | ⟨pos, mv⟩
  · exact .pure _
  -- a marker was found: a non-empty prefix of one-byte characters
  have hsplit := detectMarker_split hdet
  refine .orElse fun _ => ?_
  refine .bind (.total (emptyItemCheck_total _ hsplit)) fun _ _ => ?_
  refine .orElse fun _ => ?_
  refine .orElse fun hs => ?_
  have hsil : silent = false := by simpa using hs
  refine .bind (.total (markerCharOf_total hsplit)) fun mc _ => ?_
  refine .bind (hloop hsil _ _ _ _ _ _ hcur hdet) fun ⟨n, tight, S⟩ hl => ?_
  -- behind the loop: the frame is back, `line = n` has moved on, the children are list items
  have key := fun (hC : BInv s ∧ s.line < s.lineMax ∧ (silent = false → IndentOk s)) =>
    listLoop_spec hk ht _ _ _ _ _ _ _ _ _ hl rfl hC.2.1
  obtain ⟨-, -, -, items, hch, hrun⟩ := listLoop_children hk ht _ _ _ _ _ _ _ _ _ hl
  refine .bind (?_ : ErrIn E (if tight = true then tightenItems S.children else pure S.children)) fun cs _ => ?_
  · refine .ite (fun _ => .total (tightenItems_total _ fun c hc => ?_)) fun _ => .pure _
    rw [hch, List.nil_append] at hc
    obtain ⟨_, _, rfl, _⟩ := hrun c hc
    rfl
  -- `state.level -= 1`
  refine .bind (hP.prim fun hC => psub_total (by rw [(key hC).1.level]; exact Nat.le_add_left 1 _)) fun _ _ => ?_
  -- `next_line - 1`
  refine .bind (hP.prim fun hC => psub_total (by have := (key hC).2.2.1; show 1 ≤ n; omega)) fun e he => ?_
  have he : e = n - 1 := (psub_ok he).2
  refine .bind (hP.prim fun hC => ?_) fun r _ => .pure _
  obtain ⟨hfr, _, h2, h3⟩ := key hC
  have := hC.1.lineMax
  have h3 := h3 fun k o ho => hC.1.table k o ho
  simp only at h2 h3
  refine getMap_total (by show s.line ≤ e; omega) ?_
  rw [hfr.offs]
  show e < s.offs.length
  omega

theorem list_np {tok : Tok} {test : Test} (hk : TokSpec tok) (ht : TestPure test)
    (hto : TestOK test) (hko : TokOK tok) {fuel : Nat} {s : BState} {silent : Bool}
    (hI : BInv s) (hl : s.line < s.lineMax) (hi : silent = false → IndentOk s) :
    NoPanic (listRule tok test fuel s silent) := by
  refine list_err hk ht (.inl ⟨hI, hl, hi⟩) fun hsil cur pos v ordered mc kind hcur hdet => ?_
  obtain ⟨i, hi1, hi0⟩ := hi hsil
  refine listLoop_err hk ht (J := fun S m pos => BInv S ∧ MarkerAt S m pos)
    (fun S m pos _ _ hJ hline hlt => listItem_err hk (.inl ⟨hJ.1, hline, hlt, hJ.2⟩) fun o r S2 ho hrw hS2 =>
      hko _ ?item)
    (fun _ _ _ _ hJ hfr => listContinue_err ht (.inl ⟨hJ.1.of_frame hfr, rfl⟩) fun hn =>
      hto _ (hJ.1.of_frame hfr) hn)
    (fun _ _ _ _ _ hJ hfr _ hc => ⟨hJ.1.of_frame hfr, listContinue_marker ht (hJ.1.of_frame hfr) rfl hc⟩)
    _ _ _ _ _ _ ⟨hI.congr rfl rfl hI.lineMax,
      markerAt_of (Nat.lt_of_lt_of_le hl hI.lineMax) hi1 hi0 hcur (detectMarker_split hdet)⟩ rfl hl (.inl rfl)
  case item =>
    obtain ⟨hI2, _⟩ := listItem_head hJ.1 hline hJ.2 ho hrw hS2
    exact hI2.congr rfl rfl hI2.lineMax

/-! ## 8. sanity: the 9-digit limit is what keeps `parseU32` total -/

/-- nine digits are a marker (and parse), ten are not -/
example : detectMarker "123456789. x".toList = .ok (some (10, some 123456789)) := by decide_lits
example : detectMarker "1234567890. x".toList = .ok none := by decide_lits
/-- ten digits would overflow `u32`: the limit in `ordLoop` is necessary for `parseU32_total` -/
example : parseU32 "4294967296".toList = .error .unwrap := by decide_lits
/-- the marker of an ordered item is the delimiter, of a bullet item the bullet -/
example : markerCharOf "12) x".toList 3 = .ok ')' := by decide_lits
example : markerCharOf "- x".toList 1 = .ok '-' := by decide_lits

end MdIt.Block
