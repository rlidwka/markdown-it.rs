/-
  C11 at DOCUMENT level: fenced and indented code is reproduced verbatim by the whole pipeline.

  `Props/Block.fence_verbatim` / `indented_verbatim` are statements about the two block RULES on a
  fresh state.  Here they are composed with
    * the block tokenizer loop (`Block.tokenize` on `BState.fresh src .root []`: one iteration in
      which the chain reaches the rule — `runChain_reach`, `quiet_on_fence`, `quiet_on_code` —, then
      the exit test: `tokLoop_single`, `parseBlocks_single`) — `parseBlocks_fence`, `parseBlocks_code`,
      with the EXACT range of the node (`fence_range`, `code_range`, `OnDoc.firstNonspace_first`,
      `OnDoc.lineEnd_last`, `getLines_four_first`);
    * the core chain behind the block pass (`afterBlocks_rootLeaf`: splice walk without inline run,
      `FragmentsJoin` = identity, `SyntaxPosRule` = `spAttrs`);
    * the renderer (`renderEvents_rootFence` / `_rootCode`, `serialize_pre_code`).

  PROPERTY theorems (for ANY `DocCfg` whose block chain reaches the rule on the first line through
  rules that cannot fire there, `0 < max_nesting`; any inline chain, join pass or not):
    `doc_fence_verbatim_sp`, `doc_fence_verbatim`        the tree `Root[CodeFence]`, exactly (ranges, attrs)
    `doc_fence_render_sp`, `doc_fence_render`            `render` / `xrender`, exactly
    `doc_indented_verbatim_sp`, `doc_indented_verbatim`  the tree `Root[CodeBlock]`, exactly
    `doc_indented_render_sp`, `doc_indented_render`      `render` / `xrender`, exactly
    `…_mem`                                              the same with `fence ∈ chain` + a condition on the
                                                         rules in front of its first occurrence
  Each hypothesis on the configuration and on `T` that goes beyond those of the rule-level theorems
  has a necessity witness among the examples at the end (`paragraph` / `lheading` in front, `max_nesting = 0`, blank
  first line).  "Verbatim" at the output is up to `escape_html` and the serializer's NUL → U+FFFD.

  The file carries the name of C14 because `Props/C14Doc.lean` lists these theorems as its part 4 (whole-document
  facts beside the tree well-formedness of C14) and imports them from here; they are property theorems of C11 and sit
  in Lemmas/ because `Lemmas/C11Nested.lean` and `Lemmas/C11SpanPara.lean` build on their block half.
-/
import MdIt.Props.Pipeline
import MdIt.Lemmas.BlockDeclines
import MdIt.Lemmas.BlockSingle
import MdIt.Lemmas.KernelEval

namespace MdIt.Block
open MdIt.Lines (LineOffset NoTerm lead)


/-- the rules that cannot fire on a line that starts, at an indent below 4, with a fence marker
    (`paragraph` and `lheading` would claim the line) -/
def QuietOnFence (r : RuleId) : Prop :=
  r = .code ∨ r = .blockquote ∨ r = .hr ∨ r = .list ∨ r = .reference ∨ r = .heading

/-- the rules that answer `false` on a line indented by 4 or more (`paragraph` would claim it) -/
def QuietOnCode (r : RuleId) : Prop :=
  r = .fence ∨ r = .blockquote ∨ r = .hr ∨ r = .list ∨ r = .reference ∨ r = .heading ∨ r = .lheading

theorem quiet_on_fence {cfg : Cfg} {tok : Tok} {test : Test} {fuel : Nat} {r : RuleId}
    (hr : QuietOnFence r) {s : BState} {i : Int} {m : Char} {rest : List Char}
    (hind : s.lineIndent s.line = .ok i) (hi : i < 4) (hgl : s.getLine s.line = .ok (m :: rest))
    (hm : m = '`' ∨ m = '~') (hli : s.listIndent = none) :
    runRule cfg tok test fuel r s false = .ok (false, s) := by
  refine runRule_declines hind hi hgl hli ?_ false
  rcases hr with rfl | rfl | rfl | rfl | rfl | rfl <;> rcases hm with rfl | rfl <;>
    simp [Declines, skipBullet, skipOrdered, isDigit]

theorem quiet_on_code {cfg : Cfg} {tok : Tok} {test : Test} {fuel : Nat} {r : RuleId}
    (hr : QuietOnCode r) {s : BState} {i : Int} (hind : s.lineIndent s.line = .ok i) (hi : 4 ≤ i) :
    runRule cfg tok test fuel r s false = .ok (false, s) := by
  -- each of these rules reads the indent first and declines at 4 or more
  have key : ∀ f : Int → Res,
      (s.lineIndent s.line >>= fun ind => if ind ≥ 4 then pure (false, s) else f ind) = .ok (false, s) := by
    intro f
    rw [hind]
    exact if_pos hi
  rcases hr with rfl | rfl | rfl | rfl | rfl | rfl | rfl <;> exact key _

theorem fence_range {s s' : BState} (h : fenceRule s false = .ok (true, s')) :
    ∃ k r, s'.children = s.children ++ [⟨k, some r, []⟩] ∧ s.getMap s.line (s'.line - 1) = .ok r := by
  rcases fenceRule_ok h with ⟨⟨⟩, -⟩ | ⟨_, _, _, _, -, -, -, -, -, -, -, -, ⟨⟨⟩, -⟩ |
    ⟨-, nextLine, haveEnd, _, _, _, r, -, -, -, -, hmap, rfl⟩⟩
  refine ⟨_, r, rfl, ?_⟩
  rw [← hmap]
  congr 1
  show nextLine + (if haveEnd = true then 1 else 0) - 1 = nextLine - (if haveEnd = true then 0 else 1)
  cases haveEnd <;> simp

theorem code_range {s s' : BState} (h : codeRule s false = .ok (true, s')) :
    ∃ k c m0 ms o, s'.children = s.children ++ [⟨k, some (m0.2, o.lineEnd), []⟩] ∧
      s.getLines s.line s'.line (4 + s.blkIndent) false = .ok (c, m0 :: ms) ∧
      s.offs[s'.line - 1]? = some o := by
  rcases codeRule_ok h with ⟨⟨⟩, -⟩ | ⟨_, last, content, m0, ms, o, -, -, -, -, hgl, -, hoff, -, -, rfl⟩
  exact ⟨_, content, m0, ms, o, rfl, hgl, off_ok hoff⟩

theorem docOf_one (l : List Char) : docOf [l] = l := by simp [docOf, Lines.joinLines]

theorem getLast?_docOf : ∀ (Ls : List (List Char)) (l : List Char), Ls.getLast? = some l → l ≠ [] →
    (docOf Ls).getLast? = l.getLast?
  | [], _, h, _ => by simp at h
  | [x], l, h, _ => by
    simp at h; subst h
    rw [docOf_one]
  | x :: y :: r, l, h, hl => by
    have ih := getLast?_docOf (y :: r) l (by simpa [List.getLast?_cons_cons] using h) hl
    obtain ⟨c, hc⟩ : ∃ c, l.getLast? = some c := by
      cases hq : l.getLast? with
      | none => exact absurd (List.getLast?_eq_none_iff.mp hq) hl
      | some c => exact ⟨c, rfl⟩
    simp only [docOf, Lines.joinLines] at ih ⊢
    rw [List.getLast?_append, List.getLast?_cons, ih, hc]
    simp

theorem OnDoc.firstNonspace_first {Ls : List (List Char)} {s : BState} (h : OnDoc Ls s) (h0 : 0 < Ls.length)
    {o : LineOffset} (ho : s.offs[0]? = some o) : o.firstNonspace = Lines.byteLen (lead Ls[0]) := by
  obtain ⟨o', ho', hw, _, _⟩ := h.entry h0
  rw [ho] at ho'
  cases ho'
  have hst : o.lineStart = 0 := (Lines.split_offsets_valid (docOf Ls)).first o (by rw [← h.offs]; exact ho)
  obtain ⟨p, q, _, hp, hq⟩ := Lines.slice_eq_ok_iff.mp (by unfold Lines.lineWs at hw; exact hw)
  have hq' : o.lineStart + Lines.byteLen (lead Ls[0]) = o.firstNonspace := hq
  omega

theorem OnDoc.lineEnd_last {Ls : List (List Char)} {s : BState} (h : OnDoc Ls s)
    {o : LineOffset} (ho : s.offs[Ls.length - 1]? = some o) : o.lineEnd = Lines.byteLen s.src := by
  have hlen := h.length
  obtain ⟨t, ht, hsl⟩ := (Lines.split_offsets_valid (docOf Ls)).last o (by rw [← h.offs, hlen]; exact ho)
  obtain ⟨p, q, hsrc, hp, hq⟩ := Lines.slice_eq_ok_iff.mp hsl
  rw [h.src]
  rcases ht with rfl | ht
  · simpa using hq
  · exfalso
    have hq0 : q = [] := by
      apply Lines.byteLen_eq_zero
      have := congrArg Lines.byteLen hsrc
      simp only [Lines.byteLen_append] at this
      omega
    subst hq0
    obtain ⟨l, hl⟩ : ∃ l, Ls.getLast? = some l := by
      cases hq : Ls.getLast? with
      | none => exact absurd (List.getLast?_eq_none_iff.mp hq) h.ne
      | some l => exact ⟨l, rfl⟩
    have hlne : l ≠ [] := by intro hc; rw [hc] at hl; exact h.last hl
    have hlast := getLast?_docOf Ls l hl hlne
    have hnt := h.noTerm l (List.mem_of_getLast? hl)
    have ht' : ∃ c, t.getLast? = some c ∧ (c = '\n' ∨ c = '\r') := by
      rcases ht with rfl | rfl | rfl <;> simp
    obtain ⟨c, hc, hcc⟩ := ht'
    rw [hsrc] at hlast
    have : (p ++ t ++ []).getLast? = some c := by
      simp only [List.append_nil, List.getLast?_append, hc]; simp
    rw [this] at hlast
    have hmem : c ∈ l := List.mem_of_getLast? hlast.symm
    have := hnt c hmem
    rcases hcc with rfl | rfl <;> simp at this

/-- the view of a line: (leading blanks, rest, tab-expanded width of the blanks) -/
def viewOf (l : List Char) : List Char × List Char × Int :=
  (lead l, l.dropWhile Lines.isBlank, (Lines.indentWidth (lead l) : Int))

theorem OnDoc.getLines_map {Ls : List (List Char)} {s : BState} (hon : OnDoc Ls s) (indent : Nat) :
    s.getLines 0 Ls.length indent false =
      .ok (Lines.joinLines false ((s.offs.zip (Ls.map viewOf)).map fun ov => Lines.viewPiece indent ov.2),
        Lines.mapOf indent 0 (s.offs.zip (Ls.map viewOf))) := by
  have holen : s.offs.length = Ls.length := hon.length
  have hov : ∀ j (h : j < (s.offs.zip (Ls.map viewOf)).length),
      s.offs[0 + j]? = some (s.offs.zip (Ls.map viewOf))[j].1 ∧
        Lines.Shows s.src (s.offs.zip (Ls.map viewOf))[j].1 (s.offs.zip (Ls.map viewOf))[j].2 := by
    intro j hj
    have hjL : j < Ls.length := by simpa [holen] using hj
    obtain ⟨o, ho, hsh⟩ := hon.entry hjL
    have hjo : j < s.offs.length := by omega
    have e2 : s.offs[j] = o := by
      have := List.getElem?_eq_getElem hjo
      rw [ho] at this
      exact (Option.some.inj this).symm
    simp only [List.getElem_zip, List.getElem_map, e2, viewOf]
    exact ⟨by simpa using ho, hsh⟩
  obtain ⟨content, hgl, hcontent, _⟩ := Lines.get_lines_faithful s.src s.offs 0 indent false _ hov
  rw [Nat.zero_add, show (s.offs.zip (Ls.map viewOf)).length = Ls.length by simp [holen]] at hgl
  simp only [BState.getLines, hgl, liftL, hcontent]

/-- `get_lines(j, j + 1, 0, false)` on a state over a document: line `j` whole, mapped to where it starts -/
theorem OnDoc.getLines_one {Ls : List (List Char)} {s : BState} (hon : OnDoc Ls s) {j : Nat}
    (hj : j < Ls.length) :
    ∃ o, s.offs[j]? = some o ∧ s.getLines j (j + 1) 0 false = .ok (Ls[j], [(0, o.lineStart)]) := by
  obtain ⟨o, ho, hsh⟩ := hon.entry hj
  obtain ⟨content, hgl, hcontent, _⟩ := Lines.get_lines_faithful s.src s.offs j 0 false [(o, viewOf Ls[j])]
    (by intro i hi
        obtain rfl : i = 0 := by simpa using hi
        exact ⟨by simpa using ho, hsh⟩)
  refine ⟨o, ho, ?_⟩
  simp only [BState.getLines, List.length_singleton] at hgl ⊢
  rw [hgl, hcontent]
  simp [liftL, Lines.joinLines, Lines.mapOf, viewOf, show Lines.usizeAsI32 0 = 0 by decide, Lines.cut_full_indent, viewPiece_zero]

/-- the first entry of the mapping `get_lines(0, |T|, 4, false)` returns on the lines of `T`, each
    behind four spaces: content byte 0 is source byte 4 -/
theorem getLines_four_first {T : List (List Char)} {s : BState} (hon : OnDoc (T.map (four ++ ·)) s)
    (hpos : 0 < T.length) {c : List Char} {m0 : Nat × Nat} {ms : List (Nat × Nat)}
    (h : s.getLines 0 T.length 4 false = .ok (c, m0 :: ms)) : m0 = (0, 4) := by
  have hgl := hon.getLines_map 4
  rw [List.length_map, h] at hgl
  obtain ⟨t0, tr, rfl⟩ : ∃ t0 tr, T = t0 :: tr := by
    cases T with
    | nil => simp at hpos
    | cons a b => exact ⟨a, b, rfl⟩
  obtain ⟨o0, orest, ho⟩ : ∃ o0 orest, s.offs = o0 :: orest := by
    have := hon.length
    cases hs : s.offs with
    | nil => rw [hs] at this; simp at this
    | cons a b => exact ⟨a, b, rfl⟩
  have hst0 : o0.lineStart = 0 :=
    (Lines.split_offsets_valid (docOf ((t0 :: tr).map (four ++ ·)))).first o0 (by rw [← hon.offs, ho]; rfl)
  simp only [ho, List.map_cons, List.zip_cons_cons, Lines.mapOf, viewOf, lead_four, Except.ok.injEq, Prod.mk.injEq] at hgl
  have hcf := Lines.cut_four (lead t0)
  have e : Lines.usizeAsI32 4 = 4 := by decide
  rw [show four ++ lead t0 = [' ', ' ', ' ', ' '] ++ lead t0 from rfl, e, hcf, hst0] at hgl
  have := hgl.2
  simp only [List.cons_append, List.cons.injEq] at this
  rw [this.1]

theorem onDoc_fence {m : Char} (hm : m = '`' ∨ m = '~') {n : Nat} (hn : 3 ≤ n) {T : List (List Char)}
    (hT : ∀ l ∈ T, NoTerm l) (k : Kind) (refs : Refs.RefMap) :
    OnDoc (fenceLine m n :: T ++ [fenceLine m n])
      (BState.fresh (docOf (fenceLine m n :: T ++ [fenceLine m n])) k refs) := by
  refine OnDoc.fresh (by simp) ?_ ?_ k refs
  · intro l hl
    simp only [List.cons_append, List.mem_cons, List.mem_append, List.mem_nil_iff, or_false] at hl
    rcases hl with rfl | hl | rfl
    · exact noTerm_fenceLine hm n
    · exact hT l hl
    · exact noTerm_fenceLine hm n
  · have : (fenceLine m n :: T ++ [fenceLine m n]).getLast? = some (fenceLine m n) := by
      rw [show fenceLine m n :: T ++ [fenceLine m n] = (fenceLine m n :: T) ++ [fenceLine m n] by simp]
      exact List.getLast?_concat
    rw [this]
    intro hc
    have := congrArg List.length (Option.some.inj hc)
    simp at this; omega

/-- **the block pass on a fenced document**: whatever stands in front of `fence` in the chain (of the
    rules that cannot fire on a fence line) and behind it, with `max_nesting > 0`, the block tree is
    `Root[CodeFence]` with the payload lines verbatim, and no reference was defined -/
theorem parseBlocks_fence (m : Char) (hm : m = '`' ∨ m = '~') (n : Nat) (hn : 3 ≤ n) (T : List (List Char))
    (hT : ∀ l ∈ T, NoTerm l) (hclose : ∀ l ∈ T, closes m n l = false)
    {cfg : Cfg} {pre post : List RuleId} (hchain : cfg.chain = pre ++ .fence :: post)
    (hpre : ∀ r ∈ pre, QuietOnFence r) (hmn : 0 < cfg.maxNesting) :
    parseBlocks cfg (docOf (fenceLine m n :: T ++ [fenceLine m n])) =
      .ok (⟨.root, some (0, Lines.byteLen (docOf (fenceLine m n :: T ++ [fenceLine m n]))),
            [⟨.codeFence [] m n (T.flatMap (· ++ ['\n'])),
              some (0, Lines.byteLen (docOf (fenceLine m n :: T ++ [fenceLine m n]))), []⟩]⟩, []) := by
  have hmb : Lines.isBlank m = false := by rcases hm with rfl | rfl <;> decide
  obtain ⟨s', r, hrule, hline, hend, hch⟩ := fence_verbatim m hm n hn T hT hclose .root []
  have hon := onDoc_fence hm hn hT .root []
  obtain ⟨Ls, hLs⟩ : ∃ Ls, Ls = fenceLine m n :: T ++ [fenceLine m n] := ⟨_, rfl⟩
  rw [← hLs] at hrule hon ⊢
  have h0 : 0 < Ls.length := by simp [hLs]
  have hL0 : Ls[0] = fenceLine m n := by simp [hLs]
  obtain ⟨j, rfl⟩ : ∃ j, n = j + 1 := ⟨n - 1, by omega⟩
  have hgl := hon.getLine h0
  have hli := hon.lineIndent h0
  have hem : (BState.fresh (docOf Ls) .root []).isEmpty 0 = false := by
    rw [hon.isEmpty h0]
    simp [hL0, fenceLine, List.replicate_succ, (lead_nonblank_cons _ hmb).2]
  rw [hL0] at hgl hli
  simp only [fenceLine, List.replicate_succ] at hgl hli
  rw [(lead_nonblank_cons _ hmb).2] at hgl
  rw [(lead_nonblank_cons _ hmb).1] at hli
  have hlen := hon.length
  have hlt : (BState.fresh (docOf Ls) .root []).line < (BState.fresh (docOf Ls) .root []).lineMax := by
    simp only [BState.fresh] at hlen ⊢; omega
  have hfr := (fence_advanced hrule hlt).frame
  have href := fence_refs hrule
  have hr : r = (0, Lines.byteLen (docOf Ls)) := by
    obtain ⟨k', r', hch', hmap⟩ := fence_range hrule
    have hrr : r' = r := by
      rw [hch] at hch'
      simp only [BState.fresh, List.nil_append, List.cons.injEq, BNode.mk.injEq, Option.some.injEq, and_true] at hch'
      exact hch'.2.symm
    subst hrr
    obtain ⟨oa, ob, ha, hb, hr⟩ := getMap_ok hmap
    have hfa := hon.firstNonspace_first h0 ha
    have hlb := hon.lineEnd_last (o := ob) (by
      rw [show Ls.length - 1 = s'.line - 1 by simp [hLs, hline]]; exact hb)
    rw [hL0] at hfa
    simp only [fenceLine, List.replicate_succ, (lead_nonblank_cons _ hmb).1, Lines.byteLen_nil] at hfa
    rw [hr, hfa, hlb, hon.src]
  subst hr
  rw [← hch, show ([] : Refs.RefMap) = s'.refs from href.symm]
  refine parseBlocks_single (i := ((Lines.indentWidth [] : Nat) : Int)) hmn
    (by simp only [BState.fresh] at hlen ⊢; omega) hem hli (by omega) ?_ (by omega) hend
    (by rw [hfr.nodeKind]; rfl)
  intro f
  rw [hchain]
  refine runChain_reach (fun q hq => ?_) hrule
  exact quiet_on_fence (hpre q hq) hli (by simp [Lines.indentWidth, Lines.widthFrom]) hgl hm rfl

theorem onDoc_code {T : List (List Char)} (hne : T ≠ []) (hT : ∀ l ∈ T, NoTerm l) (k : Kind)
    (refs : Refs.RefMap) :
    OnDoc (T.map (four ++ ·)) (BState.fresh (docOf (T.map (four ++ ·))) k refs) := by
  refine OnDoc.fresh (by simp [hne]) ?_ ?_ k refs
  · intro l hl
    obtain ⟨t, ht, rfl⟩ := List.mem_map.mp hl
    intro c hc
    rcases List.mem_append.mp hc with h | h
    · simp [four] at h; subst h; decide
    · exact hT t ht c h
  · intro hc
    have hm := List.mem_of_getLast? hc
    obtain ⟨t, _, ht⟩ := List.mem_map.mp hm
    simp [four] at ht

/-- **the block pass on an indented-code document**: whatever stands in front of `code` in the chain
    (any rule but `paragraph`) and behind it, with `max_nesting > 0`, the block tree is
    `Root[CodeBlock]` with the lines of `T` verbatim.  The FIRST line of `T` must not be blank either:
    the tokenizer skips blank lines before it runs the chain. -/
theorem parseBlocks_code (T : List (List Char)) (hne : T ≠ []) (hT : ∀ l ∈ T, NoTerm l)
    (hfirstT : ∀ h : 0 < T.length, T[0].dropWhile Lines.isBlank ≠ [])
    (hlastT : ∀ h : 0 < T.length, (T[T.length - 1]'(by omega)).dropWhile Lines.isBlank ≠ [])
    {cfg : Cfg} {pre post : List RuleId} (hchain : cfg.chain = pre ++ .code :: post)
    (hpre : ∀ r ∈ pre, QuietOnCode r) (hmn : 0 < cfg.maxNesting) :
    parseBlocks cfg (docOf (T.map (four ++ ·))) =
      .ok (⟨.root, some (0, Lines.byteLen (docOf (T.map (four ++ ·)))),
            [⟨.codeBlock (docOf T ++ ['\n']), some (4, Lines.byteLen (docOf (T.map (four ++ ·)))), []⟩]⟩, []) := by
  have hpos : 0 < T.length := List.length_pos_iff.mpr hne
  obtain ⟨s', r, hrule, hline, hend, hch⟩ := indented_verbatim T hne hT hlastT .root []
  have hon := onDoc_code hne hT .root []
  obtain ⟨Ls, hLs⟩ : ∃ Ls, Ls = T.map (four ++ ·) := ⟨_, rfl⟩
  rw [← hLs] at hrule hon ⊢
  have h0 : 0 < Ls.length := by simp [hLs, hpos]
  have hL0 : Ls[0] = four ++ T[0] := by simp [hLs]
  have hli := hon.lineIndent h0
  have hem : (BState.fresh (docOf Ls) .root []).isEmpty 0 = false := by
    rw [hon.isEmpty h0]
    simp only [hL0, dropWhile_four, hfirstT hpos, decide_false]
  rw [hL0, lead_four] at hli
  have hge : 4 ≤ Lines.indentWidth (four ++ lead T[0]) := by
    rw [Lines.indentWidth_append]; exact Lines.widthFrom_ge _ _
  have hlen := hon.length
  have hfr := (code_advanced hrule (by simp only [BState.fresh] at hlen ⊢; omega)).frame
  have href := code_refs hrule
  have hr : r = (4, Lines.byteLen (docOf Ls)) := by
    obtain ⟨k', c, m0, ms, o, hch', hgl, ho⟩ := code_range hrule
    have hrr : (m0.2, o.lineEnd) = r := by
      rw [hch] at hch'
      simp only [BState.fresh, List.nil_append, List.cons.injEq, BNode.mk.injEq, Option.some.injEq, and_true] at hch'
      exact hch'.2.symm
    have hm0 : m0 = (0, 4) := by
      subst hLs
      refine getLines_four_first hon hpos (c := c) (ms := ms) ?_
      rw [← hline]
      exact hgl
    have hlb := hon.lineEnd_last (o := o) (by
      rw [show Ls.length - 1 = s'.line - 1 by simp [hLs, hline]]; exact ho)
    rw [← hrr, hm0, hlb, hon.src]
  subst hr
  rw [← hch, show ([] : Refs.RefMap) = s'.refs from href.symm]
  refine parseBlocks_single hmn
    (by simp only [BState.fresh] at hlen ⊢; omega) hem hli (by omega) ?_ (by omega) hend
    (by rw [hfr.nodeKind]; rfl)
  intro f
  rw [hchain]
  refine runChain_reach (fun q hq => ?_) hrule
  exact quiet_on_code (hpre q hq) hli (by omega)

end MdIt.Block

namespace MdIt.Pipeline
open MdIt.Block (docOf fenceLine closes four QuietOnFence QuietOnCode)
open MdIt.Lines (NoTerm)
open MdIt.NodeRender (aSourcepos tPre tCode)


/-- the attribute list `SyntaxPosRule` leaves on a (so far attribute-free) node with range `r`: the
    positions of the SPECIFICATION of C15; nothing without the plugin -/
def spAttrs (cfg : DocCfg) (src : List Char) (r : Nat × Nat) : List (List Char × List Char) :=
  if cfg.sourcepos then [(aSourcepos, sourceposValue (SourceMap.specRange src r))] else []

theorem spliceNode_rootLeaf (icfg : Inline.Cfg) (k : Block.Kind) (hk : ∀ c m, k ≠ .inlineRoot c m)
    (rg r : Option (Nat × Nat)) :
    spliceNode icfg ⟨.root, rg, [⟨k, r, []⟩]⟩ = .ok ⟨.blk .root, rg, [], [⟨.blk k, r, [], []⟩]⟩ := by
  cases k <;> first
    | exact absurd rfl (hk _ _)
    | simp [spliceNode, spliceList]

theorem afterBlocks_rootLeaf (cfg : DocCfg) (src : List Char) (k : Block.Kind)
    (hk : ∀ c m, k ≠ .inlineRoot c m) (rg r : Nat × Nat) (refs : Refs.RefMap) :
    afterBlocks cfg src ⟨.root, some rg, [⟨k, some r, []⟩]⟩ refs =
      .ok ⟨.blk .root, some rg, spAttrs cfg src rg, [⟨.blk k, some r, spAttrs cfg src r, []⟩]⟩ := by
  unfold afterBlocks
  rw [spliceNode_rootLeaf _ k hk]
  simp only [joinNode_one (c := ⟨.blk k, some r, [], []⟩) rfl rfl (joinNode_childless rfl), ite_self, spAttrs]
  cases cfg.sourcepos with
  | false => simp
  | true => simp [sourceposNode, sourceposList, sourceposAttrs_eq]

/-- the trait calls for `Root[CodeFence]` with an EMPTY info string: no `class` attribute -/
theorem renderEvents_rootFence (cfg : DocCfg) (rg r : Option (Nat × Nat)) (a0 a : List (List Char × List Char))
    (m : Char) (n : Nat) (c : List Char) :
    renderEvents cfg ⟨.blk .root, rg, a0, [⟨.blk (.codeFence [] m n c), r, a, []⟩]⟩ =
      .ok [.cr, .open tPre [], .open tCode a, .text c, .close tCode, .close tPre, .cr] := by
  simp [renderEvents, toRender, toRenderList, Kind.toRender, NodeRender.render, NodeRender.renderList,
    NodeRender.fenceAttrs, Entity.unescapeAllE, NodeRender.firstWord]

theorem renderEvents_rootCode (cfg : DocCfg) (rg r : Option (Nat × Nat)) (a0 a : List (List Char × List Char))
    (c : List Char) :
    renderEvents cfg ⟨.blk .root, rg, a0, [⟨.blk (.codeBlock c), r, a, []⟩]⟩ =
      .ok [.cr, .open tPre [], .open tCode a, .text c, .close tCode, .close tPre, .cr] := by
  simp [renderEvents, toRender, toRenderList, Kind.toRender, NodeRender.render, NodeRender.renderList]

/-- the serializer on these seven calls (both `render` and `xrender`): nothing in front of `<pre>`
    (the buffer is empty), one LF behind `</pre>` -/
theorem serialize_pre_code (x : Bool) (a : List (List Char × List Char)) (c : List Char) :
    Render.serialize x [.cr, .open tPre [], .open tCode a, .text c, .close tCode, .close tPre, .cr] =
      Render.replaceNul ("<pre><code".toList ++ Render.attrsStr a ++ ['>'] ++ Render.escapeHtml c ++
        "</code></pre>\n".toList) := by
  rw [Render.serialize_events]
  simp [Render.pieces, Render.piecesFrom, Render.piece, Render.solAfter, Render.flatten, tPre, tCode,
    Render.attrsStr]

/-- without attributes: the NUL replacement only concerns the content -/
theorem serialize_pre_code_nil (x : Bool) (c : List Char) :
    Render.serialize x [.cr, .open tPre [], .open tCode [], .text c, .close tCode, .close tPre, .cr] =
      "<pre><code>".toList ++ Render.escapeHtml (Render.nulStr c) ++ "</code></pre>\n".toList := by
  rw [serialize_pre_code, Render.replaceNul_eq_nulStr, Render.escapeHtml_nul]
  simp [Render.nulStr, Render.attrsStr, Render.nulChar]

theorem split_at_first (r : Block.RuleId) : ∀ (chain : List Block.RuleId), r ∈ chain →
    chain = chain.takeWhile (· ≠ r) ++ r :: (chain.dropWhile (· ≠ r)).tail
  | [], h => by simp at h
  | q :: rest, h => by
    by_cases hq : q = r
    · subst hq; simp
    · have hr : r ∈ rest := by
        rcases List.mem_cons.mp h with h | h
        · exact absurd h.symm hq
        · exact h
      have ih := split_at_first r rest hr
      simp only [List.takeWhile_cons, List.dropWhile_cons, hq, ne_eq, not_false_eq_true, decide_true, if_true,
        List.cons_append]
      rw [← ih]

/-- the document `mⁿ`, `T`, `mⁿ`: one per line, LF between the lines, no final line ending -/
abbrev fenceDoc (m : Char) (n : Nat) (T : List (List Char)) : List Char :=
  docOf (fenceLine m n :: T ++ [fenceLine m n])

/-- the lines of `T`, each behind four spaces, LF between the lines, no final line ending -/
abbrev indentedDoc (T : List (List Char)) : List Char := docOf (T.map (four ++ ·))

section fence
variable (m : Char) (hm : m = '`' ∨ m = '~') (n : Nat) (hn : 3 ≤ n) (T : List (List Char))
  (hT : ∀ l ∈ T, NoTerm l) (hclose : ∀ l ∈ T, closes m n l = false)
  (cfg : DocCfg) (pre post : List Block.RuleId) (hchain : cfg.blockChain = pre ++ .fence :: post)
  (hpre : ∀ r ∈ pre, QuietOnFence r) (hmn : 0 < cfg.maxNesting)
include hm hn hT hclose hchain hpre hmn

/-- **`doc_fence_verbatim`, any `sourcepos`.**  `T` as in `Block.fence_verbatim`.  For EVERY
    configuration whose block chain reaches `fence` through rules that cannot fire on a fence line
    (`QuietOnFence`: any of `code`, `blockquote`, `hr`, `list`, `reference`, `heading`, in any order,
    with repetitions; anything behind `fence`), with `max_nesting > 0`, any inline chain, with or
    without the join pass, the document `mⁿ`, `T`, `mⁿ` parses to exactly `Root[CodeFence]`: empty info
    string, the content is `T` — every line whole, each followed by one LF —, no children, the range
    of both nodes is the whole source; the attributes are those of `SyntaxPosRule` (`spAttrs`: none
    without the plugin, else the one `data-sourcepos` with the specification's positions of the
    range). -/
theorem doc_fence_verbatim_sp :
    parseDoc cfg (fenceDoc m n T) =
      .ok ⟨.blk .root, some (0, Lines.byteLen (fenceDoc m n T)),
           spAttrs cfg (fenceDoc m n T) (0, Lines.byteLen (fenceDoc m n T)),
           [⟨.blk (.codeFence [] m n (T.flatMap (· ++ ['\n']))), some (0, Lines.byteLen (fenceDoc m n T)),
             spAttrs cfg (fenceDoc m n T) (0, Lines.byteLen (fenceDoc m n T)), []⟩]⟩ := by
  have hr := Block.parseBlocks_fence m hm n hn T hT hclose (cfg := cfg.blockCfg) hchain hpre hmn
  unfold parseDoc
  rw [hr]
  exact afterBlocks_rootLeaf cfg _ _ (by intro c mp h; cases h) _ _ _

/-- **`doc_fence_verbatim`** (no `sourcepos` plugin): the tree, exactly -/
theorem doc_fence_verbatim (hsp : cfg.sourcepos = false) :
    parseDoc cfg (fenceDoc m n T) =
      .ok ⟨.blk .root, some (0, Lines.byteLen (fenceDoc m n T)), [],
           [⟨.blk (.codeFence [] m n (T.flatMap (· ++ ['\n']))), some (0, Lines.byteLen (fenceDoc m n T)),
             [], []⟩]⟩ := by
  have hr := doc_fence_verbatim_sp m hm n hn T hT hclose cfg pre post hchain hpre hmn
  simp only [spAttrs, hsp, Bool.false_eq_true, if_false] at hr
  exact hr

/-- **`doc_fence_render`, any `sourcepos`**: `render` (`x = false`) and `xrender` (`x = true`) give
    `<pre><code ATTRS>`, the escaped content, `</code></pre>` and one LF; no `class` attribute (empty
    info string); then the serializer's NUL replacement. -/
theorem doc_fence_render_sp (x : Bool) :
    renderDoc x cfg (fenceDoc m n T) =
      .ok (Render.replaceNul ("<pre><code".toList ++
        Render.attrsStr (spAttrs cfg (fenceDoc m n T) (0, Lines.byteLen (fenceDoc m n T))) ++ ['>'] ++
        Render.escapeHtml (T.flatMap (· ++ ['\n'])) ++ "</code></pre>\n".toList)) := by
  have hr := doc_fence_verbatim_sp m hm n hn T hT hclose cfg pre post hchain hpre hmn
  unfold renderDoc
  rw [hr]
  simp only [renderEvents_rootFence, serialize_pre_code]

/-- **`doc_fence_render`** (no `sourcepos` plugin): the output is `<pre><code>`, the content of the
    fence — `T`, every line followed by one LF — with exactly `& < > "` escaped (`Render.escapeHtml`)
    and NUL replaced by U+FFFD (`Render.nulStr`), `</code></pre>` and one LF. -/
theorem doc_fence_render (hsp : cfg.sourcepos = false) (x : Bool) :
    renderDoc x cfg (fenceDoc m n T) =
      .ok ("<pre><code>".toList ++ Render.escapeHtml (Render.nulStr (T.flatMap (· ++ ['\n']))) ++
        "</code></pre>\n".toList) := by
  have hr := doc_fence_verbatim m hm n hn T hT hclose cfg pre post hchain hpre hmn hsp
  unfold renderDoc
  rw [hr]
  simp only [renderEvents_rootFence, serialize_pre_code_nil]

end fence

section code
variable (T : List (List Char)) (hne : T ≠ []) (hT : ∀ l ∈ T, NoTerm l)
  (hfirstT : ∀ h : 0 < T.length, T[0].dropWhile Lines.isBlank ≠ [])
  (hlastT : ∀ h : 0 < T.length, (T[T.length - 1]'(by omega)).dropWhile Lines.isBlank ≠ [])
  (cfg : DocCfg) (pre post : List Block.RuleId) (hchain : cfg.blockChain = pre ++ .code :: post)
  (hpre : ∀ r ∈ pre, QuietOnCode r) (hmn : 0 < cfg.maxNesting)
include hne hT hfirstT hlastT hchain hpre hmn

/-- **`doc_indented_verbatim`, any `sourcepos`.**  `T` as in `Block.indented_verbatim` (non-empty,
    terminator-free lines, the last one not blank) and its FIRST line not blank either (the tokenizer
    skips blank lines before it runs the chain).  For EVERY configuration whose block chain reaches
    `code` through rules that answer `false` on a line indented by 4 or more (`QuietOnCode`: every rule
    but `paragraph`), with `max_nesting > 0`, the document made of the lines of `T`, each behind four
    spaces, parses to exactly `Root[CodeBlock]`: the content is `T` joined by LF plus one final LF
    (interior blank lines, tabs, further indentation included), no children, range from byte 4 to the
    end of the source; attributes as in `doc_fence_verbatim_sp`. -/
theorem doc_indented_verbatim_sp :
    parseDoc cfg (indentedDoc T) =
      .ok ⟨.blk .root, some (0, Lines.byteLen (indentedDoc T)),
           spAttrs cfg (indentedDoc T) (0, Lines.byteLen (indentedDoc T)),
           [⟨.blk (.codeBlock (docOf T ++ ['\n'])), some (4, Lines.byteLen (indentedDoc T)),
             spAttrs cfg (indentedDoc T) (4, Lines.byteLen (indentedDoc T)), []⟩]⟩ := by
  have hr := Block.parseBlocks_code T hne hT hfirstT hlastT (cfg := cfg.blockCfg) hchain hpre hmn
  unfold parseDoc
  rw [hr]
  exact afterBlocks_rootLeaf cfg _ _ (by intro c mp h; cases h) _ _ _

/-- **`doc_indented_verbatim`** (no `sourcepos` plugin): the tree, exactly -/
theorem doc_indented_verbatim (hsp : cfg.sourcepos = false) :
    parseDoc cfg (indentedDoc T) =
      .ok ⟨.blk .root, some (0, Lines.byteLen (indentedDoc T)), [],
           [⟨.blk (.codeBlock (docOf T ++ ['\n'])), some (4, Lines.byteLen (indentedDoc T)), [], []⟩]⟩ := by
  have hr := doc_indented_verbatim_sp T hne hT hfirstT hlastT cfg pre post hchain hpre hmn
  simp only [spAttrs, hsp, Bool.false_eq_true, if_false] at hr
  exact hr

/-- **`doc_indented_render`, any `sourcepos`** -/
theorem doc_indented_render_sp (x : Bool) :
    renderDoc x cfg (indentedDoc T) =
      .ok (Render.replaceNul ("<pre><code".toList ++
        Render.attrsStr (spAttrs cfg (indentedDoc T) (4, Lines.byteLen (indentedDoc T))) ++ ['>'] ++
        Render.escapeHtml (docOf T ++ ['\n']) ++ "</code></pre>\n".toList)) := by
  have hr := doc_indented_verbatim_sp T hne hT hfirstT hlastT cfg pre post hchain hpre hmn
  unfold renderDoc
  rw [hr]
  simp only [renderEvents_rootCode, serialize_pre_code]

/-- **`doc_indented_render`** (no `sourcepos` plugin): `<pre><code>`, the lines of `T` joined by LF
    plus one final LF with exactly `& < > "` escaped and NUL replaced by U+FFFD, `</code></pre>`, LF -/
theorem doc_indented_render (hsp : cfg.sourcepos = false) (x : Bool) :
    renderDoc x cfg (indentedDoc T) =
      .ok ("<pre><code>".toList ++ Render.escapeHtml (Render.nulStr (docOf T ++ ['\n'])) ++
        "</code></pre>\n".toList) := by
  have hr := doc_indented_verbatim T hne hT hfirstT hlastT cfg pre post hchain hpre hmn hsp
  unfold renderDoc
  rw [hr]
  simp only [renderEvents_rootCode, serialize_pre_code_nil]

end code

/-! ## the same with the hypothesis on the chain as a membership statement

  "`fence` is in the chain and every rule in front of its first occurrence is quiet" — equivalent to
  the split `pre ++ fence :: post` used above (`split_at_first`; a quiet prefix cannot contain the
  rule itself). -/

theorem doc_fence_verbatim_mem (m : Char) (hm : m = '`' ∨ m = '~') (n : Nat) (hn : 3 ≤ n) (T : List (List Char))
    (hT : ∀ l ∈ T, NoTerm l) (hclose : ∀ l ∈ T, closes m n l = false) (cfg : DocCfg)
    (hmem : .fence ∈ cfg.blockChain)
    (hpre : ∀ r ∈ cfg.blockChain.takeWhile (· ≠ .fence), QuietOnFence r) (hmn : 0 < cfg.maxNesting) :
    parseDoc cfg (fenceDoc m n T) =
      .ok ⟨.blk .root, some (0, Lines.byteLen (fenceDoc m n T)),
           spAttrs cfg (fenceDoc m n T) (0, Lines.byteLen (fenceDoc m n T)),
           [⟨.blk (.codeFence [] m n (T.flatMap (· ++ ['\n']))), some (0, Lines.byteLen (fenceDoc m n T)),
             spAttrs cfg (fenceDoc m n T) (0, Lines.byteLen (fenceDoc m n T)), []⟩]⟩ :=
  doc_fence_verbatim_sp m hm n hn T hT hclose cfg _ _ (split_at_first .fence _ hmem) hpre hmn

theorem doc_fence_render_mem (m : Char) (hm : m = '`' ∨ m = '~') (n : Nat) (hn : 3 ≤ n) (T : List (List Char))
    (hT : ∀ l ∈ T, NoTerm l) (hclose : ∀ l ∈ T, closes m n l = false) (cfg : DocCfg)
    (hmem : .fence ∈ cfg.blockChain)
    (hpre : ∀ r ∈ cfg.blockChain.takeWhile (· ≠ .fence), QuietOnFence r) (hmn : 0 < cfg.maxNesting)
    (hsp : cfg.sourcepos = false) (x : Bool) :
    renderDoc x cfg (fenceDoc m n T) =
      .ok ("<pre><code>".toList ++ Render.escapeHtml (Render.nulStr (T.flatMap (· ++ ['\n']))) ++
        "</code></pre>\n".toList) :=
  doc_fence_render m hm n hn T hT hclose cfg _ _ (split_at_first .fence _ hmem) hpre hmn hsp x

theorem doc_indented_verbatim_mem (T : List (List Char)) (hne : T ≠ []) (hT : ∀ l ∈ T, NoTerm l)
    (hfirstT : ∀ h : 0 < T.length, T[0].dropWhile Lines.isBlank ≠ [])
    (hlastT : ∀ h : 0 < T.length, (T[T.length - 1]'(by omega)).dropWhile Lines.isBlank ≠ [])
    (cfg : DocCfg) (hmem : .code ∈ cfg.blockChain)
    (hpre : ∀ r ∈ cfg.blockChain.takeWhile (· ≠ .code), QuietOnCode r) (hmn : 0 < cfg.maxNesting) :
    parseDoc cfg (indentedDoc T) =
      .ok ⟨.blk .root, some (0, Lines.byteLen (indentedDoc T)),
           spAttrs cfg (indentedDoc T) (0, Lines.byteLen (indentedDoc T)),
           [⟨.blk (.codeBlock (docOf T ++ ['\n'])), some (4, Lines.byteLen (indentedDoc T)),
             spAttrs cfg (indentedDoc T) (4, Lines.byteLen (indentedDoc T)), []⟩]⟩ :=
  doc_indented_verbatim_sp T hne hT hfirstT hlastT cfg _ _ (split_at_first .code _ hmem) hpre hmn

theorem doc_indented_render_mem (T : List (List Char)) (hne : T ≠ []) (hT : ∀ l ∈ T, NoTerm l)
    (hfirstT : ∀ h : 0 < T.length, T[0].dropWhile Lines.isBlank ≠ [])
    (hlastT : ∀ h : 0 < T.length, (T[T.length - 1]'(by omega)).dropWhile Lines.isBlank ≠ [])
    (cfg : DocCfg) (hmem : .code ∈ cfg.blockChain)
    (hpre : ∀ r ∈ cfg.blockChain.takeWhile (· ≠ .code), QuietOnCode r) (hmn : 0 < cfg.maxNesting)
    (hsp : cfg.sourcepos = false) (x : Bool) :
    renderDoc x cfg (indentedDoc T) =
      .ok ("<pre><code>".toList ++ Render.escapeHtml (Render.nulStr (docOf T ++ ['\n'])) ++
        "</code></pre>\n".toList) :=
  doc_indented_render T hne hT hfirstT hlastT cfg _ _ (split_at_first .code _ hmem) hpre hmn hsp x

instance (r : Block.RuleId) : Decidable (QuietOnFence r) := by unfold QuietOnFence; infer_instance
instance (r : Block.RuleId) : Decidable (QuietOnCode r) := by unfold QuietOnCode; infer_instance

/-- the theorem on the stock chain (`code` in front of `fence`): payload `a<b`, then a line of two
    backticks, then tab + `&` -/
example (x : Bool) : renderDoc x (exCfg false 100) (fenceDoc '`' 3 [['a', '<', 'b'], ['`', '`'], ['\t', '&']]) =
    .ok ("<pre><code>".toList ++ Render.escapeHtml (Render.nulStr "a<b\n``\n\t&\n".toList) ++
      "</code></pre>\n".toList) :=
  doc_fence_render_mem '`' (.inl rfl) 3 (by omega) _ (by decide) (by decide) (exCfg false 100)
    (by decide) (by decide) (by decide) rfl x

/-- the tree, on the stock chain (`pre = [code]`): both nodes span the 15 bytes of the source -/
example : parseDoc (exCfg false 100) (fenceDoc '~' 4 [['a', '<', 'b']]) =
    .ok ⟨.blk .root, some (0, Lines.byteLen (fenceDoc '~' 4 [['a', '<', 'b']])), [],
         [⟨.blk (.codeFence [] '~' 4 "a<b\n".toList), some (0, Lines.byteLen (fenceDoc '~' 4 [['a', '<', 'b']])),
           [], []⟩]⟩ :=
  doc_fence_verbatim '~' (.inr rfl) 4 (by omega) _ (by decide) (by decide) (exCfg false 100) [.code]
    [.blockquote, .hr, .list, .reference, .heading, .lheading, .paragraph] rfl (by decide) (by decide) rfl
/-- the right-hand side of `doc_fence_render_sp` on an instance with the `sourcepos` plugin -/
example : Render.replaceNul ("<pre><code".toList ++
      Render.attrsStr (spAttrs (exCfg true 100) (fenceDoc '`' 3 [['a', '<', 'b']])
        (0, Lines.byteLen (fenceDoc '`' 3 [['a', '<', 'b']]))) ++ ['>'] ++
      Render.escapeHtml ([['a', '<', 'b']].flatMap (· ++ ['\n'])) ++ "</code></pre>\n".toList) =
    "<pre><code data-sourcepos=\"1:1-3:3\">a&lt;b\n</code></pre>\n".toList := by decide_lits
/-- the same by evaluation: the exact string -/
example : renderDoc false (exCfg false 100) "```\na<b\n```".toList =
    .ok "<pre><code>a&lt;b\n</code></pre>\n".toList := by decide_lits
/-- with the `sourcepos` plugin (`doc_fence_render_sp`): the one attribute of `<code>` -/
example : renderDoc false (exCfg true 100) "```\na<b\n```".toList =
    .ok "<pre><code data-sourcepos=\"1:1-3:3\">a&lt;b\n</code></pre>\n".toList := by decide_lits
/-- "verbatim" is up to the serializer's NUL replacement (`Render.nulStr`) -/
example : renderDoc false (exCfg false 100) ['`', '`', '`', '\n', '\x00', '\n', '`', '`', '`'] =
    .ok ("<pre><code>".toList ++ ['\uFFFD', '\n'] ++ "</code></pre>\n".toList) := by decide_lits

/-- `paragraph` in front of `fence` claims the line: two paragraphs (the closing fence line interrupts
    the first one), no code -/
example : renderDoc false { exCfg false 100 with blockChain := [.paragraph, .fence] } "```\na<b\n```".toList =
    .ok "<p>```\na&lt;b</p>\n<p>```</p>\n".toList := by decide_lits
/-- `lheading` in front of `fence` claims the line when the payload starts with a setext underline
    (`closes '`' 3 "===" = false`: a legal payload line) -/
example : renderDoc false { exCfg false 100 with blockChain := [.lheading, .fence] } "```\n===\n```".toList =
    .ok "<h1>```</h1>\n<pre><code></code></pre>\n".toList := by decide_lits
/-- `max_nesting = 0`: the tokenizer gives up at once (`state.level >= max_nesting`), empty output -/
example : renderDoc false (exCfg false 0) "```\na<b\n```".toList = .ok [] := by decide_lits

/-- the theorem on the stock chain: `a<`, an empty line, tab + `b`, each behind four spaces -/
example (x : Bool) : renderDoc x (exCfg false 100) (indentedDoc [['a', '<'], [], ['\t', 'b']]) =
    .ok ("<pre><code>".toList ++ Render.escapeHtml (Render.nulStr "a<\n\n\tb\n".toList) ++
      "</code></pre>\n".toList) :=
  doc_indented_render_mem [['a', '<'], [], ['\t', 'b']] (by decide) (by decide) (by decide) (by decide)
    (exCfg false 100) (by decide) (by decide) (by decide) rfl x

example : renderDoc false (exCfg false 100) "    a<\n\n    \tb".toList =
    .ok "<pre><code>a&lt;\n\n\tb\n</code></pre>\n".toList := by decide_lits
example : renderDoc false (exCfg true 100) "    a<\n\n    \tb".toList =
    .ok "<pre><code data-sourcepos=\"1:5-3:6\">a&lt;\n\n\tb\n</code></pre>\n".toList := by decide_lits
/-- `paragraph` in front of `code` claims the line -/
example : renderDoc false { exCfg false 100 with blockChain := [.paragraph, .code] } "    a".toList =
    .ok "<p>a</p>\n".toList := by decide_lits
/-- a blank FIRST line is skipped by the tokenizer, not copied: the content is `a`, not LF + `a` -/
example : renderDoc false (exCfg false 100) (indentedDoc [[], ['a']]) =
    .ok "<pre><code>a\n</code></pre>\n".toList := by decide_lits
/-- a blank LAST line is not part of the block (`hlastT`): the content is `a` + LF, not `a` + LF + LF -/
example : renderDoc false (exCfg false 100) (indentedDoc [['a'], []]) =
    .ok "<pre><code>a\n</code></pre>\n".toList := by decide_lits
example : renderDoc false (exCfg false 0) "    a".toList = .ok [] := by decide +kernel

end MdIt.Pipeline
