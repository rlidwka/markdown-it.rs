/-
  For `Props/MemoSafe.lean`: more facts about the label walk on the memo
  alone (`pwalk` / `Walk`, `Lemmas/MemoSafeWalk.lean`) — the ones the nested-frame induction and the L2 lemma
  for `parse_link` need.

    * `outer_step`        — one step along an `Outer` walk (`Lemmas/MemoSafeLamDef.lean`);
    * `pwalk_det`         — two fuels, two verdicts: the same verdict (`Walk.det`);
    * `pwalk_shrink`      — smaller `pos_max`: a verdict reached inside the smaller window is kept;
    * `pwalk_below`       — a walk at a STRICTLY lower bracket level over the entries of a walk that
                            finds its `]` at `x` ends with a verdict strictly before `x` (found) or at
                            or before `x` (early `None`);
    * `labelLoop_hits`    — where the memo walk has a verdict for SOME fuel, `labelLoop` at ANY fuel `n`
                            over any `skip_token` that follows hits is determined by `pwalk … n …`.
-/
import MdIt.Lemmas.MemoSafeLamDef

namespace MdIt.Inline
open MdIt.InlineOps (slice)

/-- one step along an outer walk: the character, the entry, where it leads -/
theorem outer_step {src : List Char} {Mtop : Nat} {m : List (Nat × Nat)} {le p : Nat}
    (hf : ∀ k v, (k, v) ∈ m → k < v) (h : Outer src Mtop m le p 1) (hlt : p < le) :
    ∃ ch rest v, slice src p Mtop = .ok (ch :: rest) ∧ m.lookup p = some v ∧ p < v ∧ v ≤ le ∧
      Outer src Mtop m le v 1 ∧ (ch = '[' → v = p + 1 → Outer src Mtop m le v 2) := by
  obtain ⟨en, N, l, hl, hw⟩ := h
  obtain ⟨_, _, hw⟩ := pwalk_done_iff.mp hw
  cases hw with
  | close => omega
  | @step k _ _ v ch rest _ _ hs hfd hlk _ _ hw' =>
    have hlv : 1 ≤ walkLevel ch l p v := walkLevel_pos hl hfd
    have ho : ∀ lev0 : Int, lev0 ≤ walkLevel ch l p v → Outer src Mtop m le v lev0 :=
      fun _ hle => ⟨en, k + 1, _, hle, pwalk_done_iff.mpr ⟨k, by omega, hw'⟩⟩
    refine ⟨ch, rest, v, hs, hlk, hf _ _ (lookup_mem hlk), hw'.le hf, ho 1 hlv, fun hc hv => ho 2 ?_⟩
    have hp : p = v - 1 := by omega
    have e : walkLevel ch l p v = l + 1 := by simp [walkLevel, hc, ← hp]
    omega

/-- at the frame end the outer walk has level 1 and the character is `]` -/
theorem outer_at_end {src : List Char} {Mtop : Nat} {m : List (Nat × Nat)} {le : Nat} {r : List Char}
    (h : slice src le Mtop = .ok (']' :: r)) : Outer src Mtop m le le 1 :=
  ⟨false, 1, 1, Int.le_refl _, by rw [pwalk_cons h]; simp⟩


/-- two fuels, two verdicts: the same verdict -/
theorem pwalk_det {src : List Char} {M : Nat} {m : List (Nat × Nat)}
    (hf : ∀ k v, (k, v) ∈ m → k < v) {en : Bool} {n n' : Nat} {level : Int} {p : Nat}
    {r r' : Option Bool} {x x' : Nat} (h : pwalk src M m en n level p = .done r x)
    (h' : pwalk src M m en n' level p = .done r' x') : r = r' ∧ x = x' :=
  let ⟨_, _, hw⟩ := pwalk_done_iff.mp h
  let ⟨_, _, hw'⟩ := pwalk_done_iff.mp h'
  (hw.det hw').2

/-- **smaller `pos_max`**: a verdict "found" strictly inside, or "early `None`" at or before, the smaller
    window is the verdict under the smaller `pos_max` -/
theorem pwalk_shrink {src : List Char} {M M' : Nat} {m : List (Nat × Nat)}
    (hf : ∀ k v, (k, v) ∈ m → k < v) (hb : Boundary src M') (hle : M' ≤ M) (en : Bool) :
    ∀ (n : Nat) (level : Int) (p : Nat) (r : Option Bool) (x : Nat),
      pwalk src M m en n level p = .done r x →
      ((r = some true ∧ x < M') ∨ (r = none ∧ x ≤ M')) →
      pwalk src M' m en n level p = .done r x :=
  fun _ _ _ _ _ h hx =>
    let ⟨k, hk, hw⟩ := pwalk_done_iff.mp h
    pwalk_done_iff.mpr ⟨k, hk, hw.shrink hf hb hle hx⟩

/-- **strictly lower bracket level**: over the entries of a walk that finds its `]` at `x`, a walk from
    the same position at a strictly lower level `1 ≤ level' < level` (any nesting flag) ends with the
    verdict "found" strictly before `x`, or with an early `None` at or before `x` -/
theorem pwalk_below {src : List Char} {M : Nat} {m : List (Nat × Nat)}
    (hf : ∀ k v, (k, v) ∈ m → k < v) (en en' : Bool) :
    ∀ (n : Nat) (level level' : Int) (p : Nat) (x : Nat), 1 ≤ level' → level' < level →
      pwalk src M m en n level p = .done (some true) x →
      ∃ r' x', pwalk src M m en' n level' p = .done r' x' ∧
        ((r' = some true ∧ x' < x) ∨ (r' = none ∧ x' ≤ x)) :=
  fun _ _ level' _ _ h1 h2 h =>
    let ⟨_, _, hw⟩ := pwalk_done_iff.mp h
    let ⟨k', r', x', _, hw', _, hc⟩ := hw.lower hf en' rfl level' h1 (by omega)
    ⟨r', x', pwalk_done_iff.mpr ⟨k', by omega, hw'⟩, hc h2⟩

/-- **the upper walk passes through the place where the lower one finds its `]`**: there its bracket
    level exceeds 1 by the level difference, and it goes on to find its own `]` -/
theorem pwalk_through {src : List Char} {M : Nat} {m : List (Nat × Nat)} (en en' : Bool) :
    ∀ (n n' : Nat) (level level' : Int) (p : Nat) (x x' : Nat), 1 ≤ level' → level' < level →
      pwalk src M m en n level p = .done (some true) x →
      pwalk src M m en' n' level' p = .done (some true) x' →
      ∃ N, pwalk src M m en N (level - level' + 1) x' = .done (some true) x :=
  fun _ _ _ _ _ _ _ h1 h2 h h' =>
    let ⟨_, _, hw⟩ := pwalk_done_iff.mp h
    let ⟨_, _, hw'⟩ := pwalk_done_iff.mp h'
    let ⟨k'', hw''⟩ := hw'.through rfl h1 h2 hw
    ⟨k'' + 1, pwalk_done_iff.mpr ⟨k'', by omega, hw''⟩⟩

/-- a walk that finds its `]` never took the early return: it does not depend on the nesting flag -/
theorem pwalk_en {src : List Char} {M : Nat} {m : List (Nat × Nat)} :
    ∀ (n : Nat) (level : Int) (p : Nat) (x : Nat),
      pwalk src M m false n level p = .done (some true) x →
      pwalk src M m true n level p = .done (some true) x :=
  fun _ _ _ _ h =>
    let ⟨k, hk, hw⟩ := pwalk_done_iff.mp h
    pwalk_done_iff.mpr ⟨k, hk, hw.flag (by simp) (fun _ => rfl)⟩

/-- how `labelLoop` reads a memo walk -/
def ofPW (st : IState) : PW → Except Panic (Option Bool × IState)
  | .done r x => .ok (r, { st with pos := x })
  | _ => .error .fuel


/-- **where the memo walk has a verdict for SOME fuel, `labelLoop` at ANY fuel is the memo walk at
    that fuel** — over any `skip_token` that follows memo hits (out of fuel on both sides alike) -/
theorem labelLoop_hits {skip : IState → Except Panic IState} (hs : FollowsHits skip) (en : Bool) :
    ∀ (n N : Nat) (level : Int) (st : IState) (r : Option Bool) (x : Nat),
      pwalk st.src st.posMax st.cache en N level st.pos = .done r x →
      labelLoop skip en n level st =
        ofPW st (pwalk st.src st.posMax st.cache en n level st.pos) := by
  intro n N level st r x h
  obtain ⟨k, _, hw⟩ := pwalk_done_iff.mp h
  rw [hw.replay hs n st rfl rfl rfl rfl]
  by_cases hk : k < n
  · rw [if_pos hk, pwalk_done_iff.mpr ⟨k, hk, hw⟩]; rfl
  · rw [if_neg hk]
    cases hp : pwalk st.src st.posMax st.cache en n level st.pos with
    | done r' x' =>
      obtain ⟨k', hk', hw'⟩ := pwalk_done_iff.mp hp
      have := (hw.det hw').1
      omega
    | miss | beyond | stuck => rfl

/-- the label end `parse_link_label` answers, read off a memo walk -/
def labelOf : PW → Except Panic (Option Nat)
  | .done r x => .ok (if r = some true then some x else none)
  | _ => .error .fuel

/-- **`parse_link_label` over memo hits**: determined by the memo walk at its fuel; the state comes
    back unchanged -/
theorem parseLinkLabel_hits {skip : IState → Except Panic IState} (hs : FollowsHits skip)
    (s : IState) (start : Nat) (en : Bool) (n : Nat) {N : Nat} {r : Option Bool} {x : Nat}
    (h : pwalk s.src s.posMax s.cache en N 1 (start + 1) = .done r x) :
    parseLinkLabel skip n s start en =
      match labelOf (pwalk s.src s.posMax s.cache en n 1 (start + 1)) with
      | .ok o => .ok (o, s)
      | .error e => .error e := by
  have h3 := labelLoop_hits hs en n N 1 { s with pos := start + 1 } r x h
  unfold parseLinkLabel
  simp only
  rw [h3]
  simp only
  cases pwalk s.src s.posMax s.cache en n 1 (start + 1) with
  | done r' x' =>
    simp only [ofPW, labelOf]
    cases r' with
    | none => simp
    | some b =>
      cases b with
      | true => simp
      | false => simp
  | miss p => simp [ofPW, labelOf]
  | beyond p y => simp [ofPW, labelOf]
  | stuck => simp [ofPW, labelOf]

end MdIt.Inline
