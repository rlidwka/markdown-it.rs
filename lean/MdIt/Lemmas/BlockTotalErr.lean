/-
  Where an error of a `do` block of the block model comes from.

  `ErrIn E x`: every error of `x` lies in `E`.  It is a congruence for the statements of a `do` block
  (`ErrIn.bind`, `ErrIn.ite`, `ErrIn.orElse`), as `OkLe` is for results (`Props/Block.lean` section 12),
  so a rule is walked on the GOAL, top to bottom along its text: each rule gets ONE lemma `<rule>_err`
  that reduces `ErrIn E (<rule> …)` to `ErrIn E` of what the rule calls (its scan loop, the look-ahead,
  the nested tokenizer) and, for the statements in between, to `PrimIn E C` (`PrimIn.prim`): those
  statements are total where the state invariant `C` holds and never answer `.fuel`.  The two halves of
  totality are the instances `E = (· = .fuel)` with `C` proved (no panic: suffix `_np` / `NP`, `NoPanic` of
  `BlockTotalCore.lean`) and `E = (· ≠ .fuel)`, where `PrimIn` is free (no fuel error: suffix `_nf` / `NF`,
  `runRule_nf`, `BlockTotalFuel.lean`).
-/
import MdIt.Props.Block
import MdIt.Lemmas.BlockTotalAttr

namespace MdIt.Block
open MdIt.Lines (LineOffset)

/-! ## 1. a failing `do` block -/

theorem bind_err {α β : Type} {x : Except Panic α} {f : α → Except Panic β} {e : Panic} :
    (x >>= f) = .error e ↔ x = .error e ∨ ∃ a, x = .ok a ∧ f a = .error e := by
  cases x with
  | error e' => simp [bind, Except.bind]
  | ok a => simp [bind, Except.bind]

theorem pure_err {α : Type} {a : α} {e : Panic} : (pure a : Except Panic α) = .error e ↔ False := by
  simp [pure, Except.pure]

theorem map_err {α β : Type} {x : Except Panic α} {f : α → β} {e : Panic} :
    (f <$> x) = .error e ↔ x = .error e := by
  cases x with
  | error e' => simp [Functor.map, Except.map]
  | ok a => simp [Functor.map, Except.map]

/-! ## 2. errors in a set -/

/-- every error of `x` lies in `E` -/
def ErrIn {α : Type} (E : Panic → Prop) (x : Except Panic α) : Prop := ∀ e, x = .error e → E e

theorem errIn_ne_fuel {α : Type} {x : Except Panic α} : ErrIn (· ≠ .fuel) x ↔ x ≠ .error .fuel :=
  ⟨fun h he => h _ he rfl, fun h _ he hf => h (hf ▸ he)⟩

theorem ErrIn.ok {α : Type} {E : Panic → Prop} (a : α) : ErrIn E (.ok a : Except Panic α) :=
  fun _ h => nomatch h

theorem ErrIn.pure {α : Type} {E : Panic → Prop} (a : α) : ErrIn E (pure a : Except Panic α) :=
  fun _ h => nomatch h

/-- a statement that is total outright -/
theorem ErrIn.total {α : Type} {E : Panic → Prop} {x : Except Panic α} (h : ∃ a, x = .ok a) : ErrIn E x := by
  intro e he
  obtain ⟨a, ha⟩ := h
  rw [ha] at he
  cases he

theorem ErrIn.mono {α : Type} {E E' : Panic → Prop} {x : Except Panic α} (h : ErrIn E x)
    (hE : ∀ e, E e → E' e) : ErrIn E' x := fun e he => hE e (h e he)

/-- one statement, then the rest of the block on the value it returned -/
theorem ErrIn.bind {α β : Type} {E : Panic → Prop} {x : Except Panic α} {f : α → Except Panic β}
    (hx : ErrIn E x) (hf : ∀ a, x = .ok a → ErrIn E (f a)) : ErrIn E (x >>= f) := by
  intro e h
  rcases bind_err.mp h with h | ⟨a, ha, h⟩
  · exact hx e h
  · exact hf a ha e h

theorem ErrIn.ite {α : Type} {E : Panic → Prop} {c : Prop} [Decidable c] {x y : Except Panic α}
    (h1 : c → ErrIn E x) (h2 : ¬ c → ErrIn E y) : ErrIn E (if c then x else y) := by
  by_cases hc : c
  · rw [if_pos hc]; exact h1 hc
  · rw [if_neg hc]; exact h2 hc

/-- an early exit that cannot fail, then the rest of the block -/
theorem ErrIn.orElse {α : Type} {E : Panic → Prop} {c : Prop} [Decidable c] {a : α} {y : Except Panic α}
    (h : ¬ c → ErrIn E y) : ErrIn E (if c then Pure.pure a else y) := .ite (fun _ => .pure a) h

/-- what `E` has to do with the statements of a rule that neither loop nor call back: they do not
    fail at all where the invariant `C` holds, and they never answer `.fuel` -/
def PrimIn (E : Panic → Prop) (C : Prop) : Prop := C ∨ ∀ e, e ≠ .fuel → E e

theorem primIn_ne_fuel {C : Prop} : PrimIn (· ≠ .fuel) C := .inr fun _ h => h

theorem PrimIn.mono {E : Panic → Prop} {C C' : Prop} (hP : PrimIn E C) (h : C → C') : PrimIn E C' :=
  hP.imp h id

/-- such a statement `x`: `ht` is its totality under the invariant; `hnf` is found in the set `blockNF` -/
theorem PrimIn.prim {E : Panic → Prop} {C : Prop} (hP : PrimIn E C) {α : Type} {x : Except Panic α}
    (ht : C → ∃ a, x = .ok a)
    (hnf : x ≠ .error .fuel := by simp only [blockNF, ne_eq, not_false_eq_true]) : ErrIn E x := by
  intro e h
  rcases hP with hC | hE
  · obtain ⟨a, ha⟩ := ht hC
    rw [ha] at h
    cases h
  · exact hE e fun he => hnf (he ▸ h)

/-- … and a `panic!` / `.unwrap()` written out in the model (`.error e` in a branch that the
    invariant excludes) -/
theorem PrimIn.never {E : Panic → Prop} {C : Prop} (hP : PrimIn E C) {α : Type} {e : Panic} (hC : C → False)
    (hne : e ≠ .fuel := by decide) : ErrIn E (.error e : Except Panic α) := by
  intro e' h
  cases h
  exact hP.elim (fun c => (hC c).elim) fun hE => hE e hne

/-! ## 3. statements that never answer `.fuel` -/

@[blockNF] theorem liftL_nf {α : Type} (x : Except Lines.Panic α) : liftL x = .error .fuel ↔ False := by
  cases x with
  | ok a => simp [liftL]
  | error e => cases e <;> simp [liftL]

@[blockNF] theorem liftK_nf {α : Type} (x : Except Link.Panic α) : liftK x = .error .fuel ↔ False := by
  cases x with
  | ok a => simp [liftK]
  | error e => cases e; simp [liftK]

@[blockNF] theorem psub_nf (a b : Nat) : psub a b = .error .fuel ↔ False := by
  unfold psub; split <;> simp

@[blockNF] theorem off_nf (s : BState) (i : Nat) : s.off i = .error .fuel ↔ False := by
  unfold BState.off; split <;> simp

@[blockNF] theorem setOff_nf (s : BState) (i : Nat) (o : LineOffset) : s.setOff i o = .error .fuel ↔ False := by
  unfold BState.setOff; split <;> simp

@[blockNF] theorem lineIndent_nf (s : BState) (i : Nat) : s.lineIndent i = .error .fuel ↔ False := by
  unfold BState.lineIndent; exact liftL_nf _

@[blockNF] theorem getLine_nf (s : BState) (i : Nat) : s.getLine i = .error .fuel ↔ False := by
  unfold BState.getLine; exact liftL_nf _

@[blockNF] theorem getLines_nf (s : BState) (b e i : Nat) (k : Bool) :
    s.getLines b e i k = .error .fuel ↔ False := by
  unfold BState.getLines; exact liftL_nf _

@[blockNF] theorem getMap_nf (s : BState) (a b : Nat) : s.getMap a b = .error .fuel ↔ False := by
  unfold BState.getMap; exact liftL_nf _

@[blockNF] theorem codeScan_nf (s : BState) (n last : Nat) : codeScan s n last = .error .fuel ↔ False := by
  fun_induction codeScan s n last <;> simp_all [blockNF]
  rintro rfl; simp_all [blockNF]

@[blockNF] theorem fenceScan_nf (s : BState) (m : Char) (len n : Nat) :
    fenceScan s m len n = .error .fuel ↔ False := by
  fun_induction fenceScan s m len n <;> simp_all [blockNF]
  all_goals (rintro rfl; simp_all [blockNF])

/-! A helper whose statements are all in `blockNF`: walked with `E = (· ≠ .fuel)`, every statement is
   `ErrIn.nf`, every `panic!` written out is `ErrIn.lit`. -/

/-- a statement of `blockNF` -/
theorem ErrIn.nf {α : Type} {x : Except Panic α}
    (hnf : x ≠ .error .fuel := by simp only [blockNF, ne_eq, not_false_eq_true]) : ErrIn (· ≠ .fuel) x :=
  errIn_ne_fuel.mpr hnf

theorem ErrIn.lit {α : Type} {E : Panic → Prop} {e : Panic} (h : E e) : ErrIn E (.error e : Except Panic α) := by
  intro e' he
  cases he
  exact h

/-- the form in which `blockNF` keeps the fact -/
theorem ErrIn.never_fuel {α : Type} {x : Except Panic α} (h : ErrIn (· ≠ .fuel) x) :
    x = .error .fuel ↔ False := ⟨fun he => h _ he rfl, False.elim⟩

@[blockNF] theorem setextCheck_nf (b : Bool) (s : BState) (i : Int) (n : Nat) :
    setextCheck b s i n = .error .fuel ↔ False := by
  refine ErrIn.never_fuel ?_
  unfold setextCheck
  exact .ite (fun _ => .bind .nf fun _ _ => .pure _) fun _ => .pure _

@[blockNF] theorem bqOptSpace_nf (r : List Char) (n : Nat) : bqOptSpace r n = .error .fuel ↔ False := by
  refine ErrIn.never_fuel ?_
  unfold bqOptSpace
  cases r with
  | nil => exact .pure _
  | cons d _ => exact .ite (fun _ => .nf) fun _ => .pure _

@[blockNF] theorem bqRewrite_nf (src : List Char) (o : LineOffset) (r : List Char) :
    bqRewrite src o r = .error .fuel ↔ False := by
  refine ErrIn.never_fuel ?_
  unfold bqRewrite
  exact .bind .nf fun _ _ => .bind .nf fun _ _ => .bind .nf fun ⟨_, _⟩ _ => .bind .nf fun _ _ =>
    .bind .nf fun _ _ => .pure _

@[blockNF] theorem restoreOffs_nf : ∀ (add offs : List LineOffset) (i : Nat),
    restoreOffs offs i add = .error .fuel ↔ False
  | [], offs, i => by simp [restoreOffs]
  | o :: r, offs, i => by
    simp only [restoreOffs]
    split
    · exact restoreOffs_nf r _ _
    · simp

@[blockNF] theorem parseU32_nf (ds : List Char) : parseU32 ds = .error .fuel ↔ False := by
  refine ErrIn.never_fuel ?_
  unfold parseU32
  exact .ite (fun _ => .lit (by decide)) fun _ => .ite (fun _ => .ok _) fun _ => .lit (by decide)

@[blockNF] theorem markerCharOf_nf (c : List Char) (p : Nat) : markerCharOf c p = .error .fuel ↔ False := by
  refine ErrIn.never_fuel ?_
  unfold markerCharOf
  refine .bind .nf fun pre _ => ?_
  cases pre.getLast? with
  | some c => exact .pure _
  | none => exact .lit (by decide)

@[blockNF] theorem prevEmptyEndOf_nf (s : BState) (n : Nat) : prevEmptyEndOf s n = .error .fuel ↔ False := by
  refine ErrIn.never_fuel ?_
  unfold prevEmptyEndOf
  exact .bind .nf fun _ _ => .ite (fun _ => .bind .nf fun _ _ => .pure _) fun _ => .pure _

@[blockNF] theorem itemRewrite_nf (src : List Char) (o : LineOffset) (p : Nat) :
    itemRewrite src o p = .error .fuel ↔ False := by
  refine ErrIn.never_fuel ?_
  unfold itemRewrite
  exact .ite (fun _ => .lit (by decide)) fun _ => .bind .nf fun _ _ => .bind .nf fun _ _ =>
    .bind .nf fun ⟨_, _⟩ _ => .bind .nf fun _ _ => .pure _

@[blockNF] theorem tightenItems_nf : ∀ (cs : List BNode), tightenItems cs = .error .fuel ↔ False
  | [] => by simp [tightenItems]
  | c :: r => by
    have ih := tightenItems_nf r
    simp only [tightenItems]
    split
    · simp
    · split
      · rename_i e he
        constructor
        · intro h
          simp only [Except.error.injEq] at h
          subst h
          exact ih.mp he
        · exact False.elim
      · simp

@[blockNF] theorem listSpecial_nf (s : BState) : listSpecial s = .error .fuel ↔ False := by
  refine ErrIn.never_fuel ?_
  unfold listSpecial
  cases s.listIndent with
  | some li => exact .bind .nf fun _ _ => .pure _
  | none => exact .pure _

@[blockNF] theorem detectMarker_nf (c : List Char) : detectMarker c = .error .fuel ↔ False := by
  refine ErrIn.never_fuel ?_
  unfold detectMarker
  cases skipOrdered c with
  | some p => exact .bind .nf fun _ _ => .bind .nf fun _ _ => .bind .nf fun _ _ => .pure _
  | none =>
    cases skipBullet c with
    | some p => exact .pure _
    | none => exact .pure _

@[blockNF] theorem emptyItemCheck_nf (b : Bool) (c : List Char) (p : Nat) :
    emptyItemCheck b c p = .error .fuel ↔ False := by
  refine ErrIn.never_fuel ?_
  unfold emptyItemCheck
  exact .ite (fun _ => .bind .nf fun _ _ => .pure _) fun _ => .pure _

@[blockNF] theorem afterChain_nf (ok : Bool) (s : BState) (p : Nat) :
    afterChain ok s p = .error .fuel ↔ False := by
  refine ErrIn.never_fuel ?_
  unfold afterChain
  exact .ite (fun _ => .ite (fun _ => .pure _) fun _ => .lit (by decide)) fun _ =>
    .bind .nf fun _ _ => .bind .nf fun _ _ => .pure _

end MdIt.Block
