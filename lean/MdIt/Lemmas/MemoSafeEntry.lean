/-
  For `Props/MemoSafe.lean`, over `Lemmas/MemoSafeClosed.lean`:
  THE GUARD OF THE GUARDED TOKENIZER CAN ONLY MATTER AT THE ENTRY OF A NESTED LABEL FRAME.

  The ENTRY-CHECKED tokenizer `tokLoopE` / `skipTokenE` is the MODEL tokenizer (no guard on memo
  hits) whose nested `tokenize` call (the label run of the real-mode link rule) first tests the
  executable `closedB cache labelStart labelEnd` (`entryTok`); a failed test stops the run
  (`Panic.fuel`).  If the entry-checked run completes, the guarded run (`tokLoopG cfg true`,
  `Lemmas/InlineTotalDef.lean`) completes with the SAME state (`entry_total`), hence
  `entrySafe → memoSafe` and `parseInline` returns a tree (`parseInline_total_of_entrySafe`).

    * `skip_entry_free`   — look-ahead: guarded `skip_token` = entry-checked `skip_token` on the
                            closed states of a frame (look-ahead never calls `tokenize`);
    * `linkRule_real_E`, `runRule_real_E`, `firstRule_real_E`, `tokStep_E`
                          — real mode, generic over the callees (`TokEqHyp` for the nested runs);
    * `entry_total`       — the induction on fuel;
    * `parseInlineE_ok`, `entrySafe_memoSafe`, `parseInline_total_of_entrySafe`.

  The proof of `parseInline_total` (`Props/MemoSafe.lean`) takes from this file only `nested_good` (the nested
  state of the link rule is good again) and `memoB_init'`; the entry-checked tokenizer is a result of its own.
-/
import MdIt.Lemmas.MemoSafeClosed
import MdIt.Props.InlineTotal
import MdIt.Lemmas.KernelEval

namespace MdIt.Inline
open MdIt.InlineOps (Srcmap)
open MdIt.C05 (WFMap MonoMap byteLen_append slice_ok_iff)

/-! ## the executable `Closed` -/

/-- `Closed m a b`, executable -/
def closedB (m : List (Nat × Nat)) (a b : Nat) : Bool :=
  m.all fun e => !(decide (a ≤ e.1) && decide (e.1 < b)) || decide (e.2 ≤ b)

theorem closedB_iff {m : List (Nat × Nat)} {a b : Nat} : closedB m a b = true ↔ Closed m a b := by
  unfold closedB Closed
  simp only [List.all_eq_true, Bool.or_eq_true, Bool.not_eq_true', Bool.and_eq_false_iff,
    decide_eq_false_iff_not, decide_eq_true_eq, Prod.forall]
  constructor
  · intro h k v hkv h1 h2
    rcases h k v hkv with (h' | h') | h'
    · exact absurd h1 h'
    · exact absurd h2 h'
    · exact h'
  · intro h k v hkv
    by_cases h1 : a ≤ k
    · by_cases h2 : k < b
      · exact .inr (h k v hkv h1 h2)
      · exact .inl (.inr h2)
    · exact .inl (.inl h1)

/-! ## the entry-checked tokenizer -/

/-- the nested `tokenize` call with the entry test: the memo must be closed on the new frame -/
def entryTok (tok : IState → Except Panic IState) (s : IState) : Except Panic IState :=
  if closedB s.cache s.pos s.posMax then tok s else .error .fuel

mutual
/-- `tokLoop` whose nested label runs are entry-checked -/
def tokLoopE (cfg : Cfg) : Nat → Nat → IState → Except Panic IState
  | fuel, end_, st =>
    if st.pos < end_ then
      match fuel with
      | 0 => .error .fuel
      | fuel + 1 =>
        match tokStep cfg (fun s => skipTokenE cfg fuel s)
            (entryTok fun s => tokLoopE cfg fuel s.posMax s) fuel st with
        | .error e => .error e
        | .ok st' => tokLoopE cfg fuel end_ st'
    else .ok st
/-- `skipToken` (NO guard on memo hits) over the entry-checked `tokenize` -/
def skipTokenE (cfg : Cfg) : Nat → IState → Except Panic IState
  | 0, _ => .error .fuel
  | fuel + 1, st =>
    match st.cache.lookup st.pos with
    | some x => .ok { st with pos := x }
    | none =>
      if st.level < cfg.maxNesting then
        skipStep cfg (fun s => skipTokenE cfg fuel s)
          (entryTok fun s => tokLoopE cfg fuel s.posMax s) fuel st
      else
        .ok { st with pos := st.posMax, cache := cacheInsert st.cache st.pos st.posMax }
end

/-- `parseInline` over the entry-checked tokenizer -/
def parseInlineE (cfg : Cfg) (content : List Char) (mapping : Srcmap) : Except Panic (List Node) :=
  match tokLoopE cfg (topFuel cfg content) (IState.init content mapping).posMax
      (IState.init content mapping) with
  | .error e => .error e
  | .ok st => .ok st.children

/-- the executable entry check: the entry-checked run completes (every nested label frame the real
    link rule entered started with a memo closed on it) -/
def entrySafe (cfg : Cfg) (content : List Char) (mapping : Srcmap) : Bool :=
  match parseInlineE cfg content mapping with
  | .ok _ => true
  | .error _ => false

/-! ## look-ahead: the guarded `skip_token` against the entry-checked one -/

/-- the entry-checked tokenizer is the engine of `Lemmas/InlineEngine.lean` with the entry test in front of
    the nested `tokenize` -/
theorem engE (cfg : Cfg) (f : Nat) :
    (∀ e st, tokLoopE cfg f e st = (Eng.base cfg entryTok).tokLoop false f e st) ∧
    (∀ st, skipTokenE cfg f st = (Eng.base cfg entryTok).skipToken false f st) :=
  (Eng.base cfg entryTok).unique false (fun e st => by rw [tokLoopE])
    (fun f e st => by rw [tokLoopE]; simp only [tokStep_eq_G]; rfl) (fun st => by rw [skipTokenE])
    (fun f st => by
      rw [skipTokenE]; simp only [skipStep_eq_G]
      cases st.cache.lookup st.pos with
      | some x => simp
      | none => rfl) f

/-- `skip_guard_free` with the entry-checked `skip_token` as the second callee (look-ahead never calls
    `tokenize`, so the entry test is never reached from it) -/
theorem skip_entry_free (cfg : Cfg) : ∀ fuel : Nat,
    SkipEqHyp (fun s => skipTokenG cfg true fuel s) (fun s => skipTokenE cfg fuel s) := fun fuel => by
  simpa only [(engE cfg fuel).2] using skip_guard_free_any cfg entryTok fuel

/-! ## real mode, generic over the callees -/

/-- the nested tokenizers: whenever the entry-checked one completes (the entry test is INSIDE it), the
    guarded one completes with the same state, and only entries ending inside the frame were added -/
def TokEqHyp (tokG tokE : IState → Except Panic IState) : Prop :=
  ∀ lo s, Good lo s → MemoB s → ∀ s', tokE s = .ok s' →
    tokG s = .ok s' ∧ New s.posMax s.cache s'.cache

/-- the start state of the nested label run is good (the `hnest` step of `linkRule_real_T`) -/
theorem nested_good {cfg : Cfg} {skip : IState → Except Panic IState} (hq : CalmFn skip)
    (hs : SkipHypT skip) {fuel : Nat} {en : Bool} {offset : Nat} {lo : Nat} {st : IState}
    (hg : Good lo st) (hm : MemoB st)
    (hb : Boundary st.src (st.pos + offset + 1)) (hle : st.pos + offset + 1 ≤ st.posMax)
    {res : LinkRes} {st1 : IState}
    (he : parseLink cfg skip fuel st (st.pos + offset) en = .ok (some res, st1)) :
    ∃ lo', Good lo' (IState.mk st1.src st1.srcmap res.labelStart res.labelEnd
        (st1.level + 1) (st1.linkLevel + 1) st1.cache st1.backticks [] []) ∧
      MemoB (IState.mk st1.src st1.srcmap res.labelStart res.labelEnd
        (st1.level + 1) (st1.linkLevel + 1) st1.cache st1.backticks [] []) := by
  obtain ⟨⟨lo', h1⟩, h2, _, _⟩ := linkNested_good hq hs fuel en offset st hg hm hb hle he
  exact ⟨lo', h1, h2⟩

theorem linkRule_real_E {cfg : Cfg} {skipG skipE tokG tokE : IState → Except Panic IState}
    (hq : CalmFn skipG) (hs : SkipHypT skipG) (he : SkipEqHyp skipG skipE)
    (hte : TokEqHyp tokG tokE) (fuel : Nat) (mk : List Nat → Option (List Char) → Val) (en : Bool)
    (offset : Nat) {lo : Nat} (st : IState) (lo' : Nat) (hg : Good lo st) (hm : MemoB st)
    (hb : Boundary st.src (st.pos + offset + 1)) (hle : st.pos + offset + 1 ≤ st.posMax)
    (hc : Closed st.cache lo' st.posMax) (hlo : lo' ≤ st.pos) :
    ∀ o st', linkRule cfg skipE tokE fuel mk en offset st false = .ok (o, st') →
      linkRule cfg skipG tokG fuel mk en offset st false = .ok (o, st') ∧
      New st.posMax st.cache st'.cache := by
  have hi := hg.linv hm
  have hplT := parseLink_T (cfg := cfg) hq hs fuel st (st.pos + offset) en hi hb hle
  have hpl := parseLink_eq (cfg := cfg) hq hs he fuel st (st.pos + offset) lo' en hi hb hle hc
    (by omega)
  intro o st' h
  cases hp : parseLink cfg skipG fuel st (st.pos + offset) en with
  | error e => rw [linkRule_error (hpl.1 ▸ hp)] at h; cases h
  | ok p =>
    obtain ⟨o1, st1⟩ := p
    have hpE : parseLink cfg skipE fuel st (st.pos + offset) en = .ok (o1, st1) := hpl.1 ▸ hp
    have hn1 := hpl.2 _ _ hp
    obtain ⟨a, b, c, d⟩ := hplT.2 _ _ hp
    cases o1 with
    | none =>
      rw [linkRule_none hpE] at h
      rw [linkRule_none hp]
      simp only [Except.ok.injEq, Prod.mk.injEq] at h; obtain ⟨rfl, rfl⟩ := h
      exact ⟨rfl, hn1⟩
    | some res =>
      have hres := d res rfl
      obtain ⟨lo2, hg2, hm2⟩ := nested_good hq hs hg hm hb hle hp
      rw [linkRule_real hpE] at h
      rw [linkRule_real hp]
      cases hE : tokE (linkNested st1 res) with
      | error e => rw [hE] at h; cases h
      | ok st3 =>
        rw [hE] at h
        obtain ⟨hG, hn3⟩ := hte lo2 _ hg2 hm2 st3 hE
        have hn3' : New res.labelEnd st1.cache st3.cache := hn3
        rw [hG]
        refine ⟨h, ?_⟩
        -- the memo of the result is the memo the nested run left
        obtain ⟨_, _, _, r, _, rfl⟩ := linkClose_ok h
        have h3 := hres.endGt; have h4 := hres.endLe
        exact hn1.trans (hn3'.mono (by omega))

theorem runRule_real_E {cfg : Cfg} {skipG skipE tokG tokE : IState → Except Panic IState}
    (hq : CalmFn skipG) (hs : SkipHypT skipG) (he : SkipEqHyp skipG skipE)
    (hte : TokEqHyp tokG tokE) (fuel : Nat) (id : RuleId) {lo : Nat} (st : IState) (lo' : Nat)
    (hg : Good lo st) (hm : MemoB st) (hlt : st.pos < st.posMax)
    (hc : Closed st.cache lo' st.posMax) (hlo : lo' ≤ st.pos) :
    ∀ o st', runRule cfg skipE tokE fuel id st false = .ok (o, st') →
      runRule cfg skipG tokG fuel id st false = .ok (o, st') ∧ New st.posMax st.cache st'.cache := by
  rcases runRule_call (cfg := cfg) fuel id false (hg.linv hm) hlt with
    hflat | hn | ⟨mk, en, offset, e, _, _, hb, hle, _⟩
  · intro o st' h
    rw [runRule_flat_indep (skip' := skipG) (tok' := tokG) hflat] at h
    exact ⟨h, by rw [runRule_flat_cache hflat h]; exact New.refl _ _⟩
  · rw [hn, hn]
    intro o st' h
    cases h
    exact ⟨rfl, New.refl _ _⟩
  · rw [e, e]
    exact linkRule_real_E (cfg := cfg) hq hs he hte fuel mk en offset st lo' hg hm hb hle hc hlo

theorem firstRule_real_E {cfg : Cfg}
    (hsz : ∀ mk csw, RuleId.emph mk csw ∈ cfg.chain → mk.utf8Size = 1)
    {skipG skipE tokG tokE : IState → Except Panic IState}
    (hq : CalmFn skipG) (hs : SkipHypT skipG) (he : SkipEqHyp skipG skipE)
    (ht : TokHypT tokG) (hr : RangesFn tokG) (hte : TokEqHyp tokG tokE) (fuel : Nat) {lo : Nat}
    (lo' : Nat) :
    ∀ (rules : List RuleId), (∀ id ∈ rules, id ∈ cfg.chain) →
      ∀ (st : IState), Good lo st → MemoB st → st.pos < st.posMax →
      Closed st.cache lo' st.posMax → lo' ≤ st.pos →
      ∀ o st', firstRule (fun id s => runRule cfg skipE tokE fuel id s false) rules st = .ok (o, st') →
        firstRule (fun id s => runRule cfg skipG tokG fuel id s false) rules st = .ok (o, st') ∧
        New st.posMax st.cache st'.cache := by
  intro rules
  induction rules with
  | nil =>
    intro _ st _ _ _ _ _ o st' h
    unfold firstRule at h ⊢
    refine ⟨h, ?_⟩
    simp only [Except.ok.injEq, Prod.mk.injEq] at h; obtain ⟨_, rfl⟩ := h
    exact New.refl _ _
  | cons r rs ih =>
    intro hall st hg hm hlt hc hlo o st'
    have hE := runRule_real_E (cfg := cfg) hq hs he hte fuel r st lo' hg hm hlt hc hlo
    have hT := runRule_real_T hsz hq hs ht hr fuel (hall r (by simp)) st hg hm hlt
    unfold firstRule
    cases hrE : runRule cfg skipE tokE fuel r st false with
    | error e => intro h; simp at h
    | ok p =>
      obtain ⟨o1, st1⟩ := p
      obtain ⟨hG, hn1⟩ := hE o1 st1 hrE
      rw [hG]
      cases o1 with
      | some n =>
        simp only
        intro h
        refine ⟨h, ?_⟩
        simp only [Except.ok.injEq, Prod.mk.injEq] at h; obtain ⟨_, rfl⟩ := h
        exact hn1
      | none =>
        simp only
        have s1 := hT.ok _ _ hG
        have hg1 : Good lo st1 := Good.of_add_zero (by simpa using s1.good)
        have hp1 := s1.nonePos rfl
        intro h
        have h2 := ih (fun id hid => hall id (List.mem_cons_of_mem _ hid)) st1 hg1 s1.memo
          (by rw [hp1, s1.frame.posMax]; exact hlt)
          (by rw [s1.frame.posMax]; exact hc.of_new hn1) (by rw [hp1]; exact hlo) o st' h
        refine ⟨h2.1, ?_⟩
        have := h2.2
        rw [s1.frame.posMax] at this
        exact hn1.trans this

/-- **one iteration of the entry-checked tokenizer loop is one iteration of the guarded one** -/
theorem tokStep_E {cfg : Cfg} (hsz : ∀ mk csw, RuleId.emph mk csw ∈ cfg.chain → mk.utf8Size = 1)
    {skipG skipE tokG tokE : IState → Except Panic IState}
    (hq : CalmFn skipG) (hs : SkipHypT skipG) (he : SkipEqHyp skipG skipE)
    (ht : TokHypT tokG) (hr : RangesFn tokG) (hte : TokEqHyp tokG tokE) (fuel : Nat) {lo : Nat}
    (st : IState) (lo' : Nat) (hg : Good lo st) (hm : MemoB st) (hlt : st.pos < st.posMax)
    (hc : Closed st.cache lo' st.posMax) (hlo : lo' ≤ st.pos) :
    ∀ st', tokStep cfg skipE tokE fuel st = .ok st' →
      tokStep cfg skipG tokG fuel st = .ok st' ∧ New st.posMax st.cache st'.cache := by
  intro st'
  unfold tokStep
  simp only
  by_cases hl : st.level < cfg.maxNesting
  · simp only [if_pos hl]
    have hfr := firstRule_real_E hsz hq hs he ht hr hte fuel lo' cfg.chain (fun _ h => h) st hg hm hlt
      hc hlo
    cases hfE : firstRule (fun id s => runRule cfg skipE tokE fuel id s false) cfg.chain st with
    | error e => intro h; simp at h
    | ok p =>
      obtain ⟨o1, st1⟩ := p
      obtain ⟨hG, hn1⟩ := hfr o1 st1 hfE
      rw [hG]
      cases o1 with
      | some len =>
        simp only
        intro h
        refine ⟨h, ?_⟩
        simp only [Except.ok.injEq] at h; subst h
        exact hn1
      | none =>
        simp only
        intro h
        refine ⟨h, ?_⟩
        rw [(fallback_keeps h).choose_spec.2.2.1]
        exact hn1
  · simp only [if_neg hl]
    intro h
    refine ⟨h, ?_⟩
    rw [(fallback_keeps h).choose_spec.2.2.1]
    exact New.refl _ _

/-! ## the induction on fuel -/

/-- **a completed entry-checked run is a completed guarded run**, with the same final state: from every
    good state whose memo is closed on `[lo', posMax)` with `lo' ≤ pos`, at every fuel -/
theorem entry_total (cfg : Cfg)
    (hsz : ∀ mk csw, RuleId.emph mk csw ∈ cfg.chain → mk.utf8Size = 1) :
    ∀ (fuel lo lo' : Nat) (st : IState), Good lo st → MemoB st →
      Closed st.cache lo' st.posMax → lo' ≤ st.pos →
      ∀ st', tokLoopE cfg fuel st.posMax st = .ok st' →
        tokLoopG cfg true fuel st.posMax st = .ok st' ∧ New st.posMax st.cache st'.cache := by
  intro fuel
  induction fuel with
  | zero =>
    intro lo lo' st hg hm hc hlo st'
    unfold tokLoopE tokLoopG
    by_cases hlt : st.pos < st.posMax
    · simp only [if_pos hlt]
      intro h; simp at h
    · simp only [if_neg hlt]
      intro h
      refine ⟨h, ?_⟩
      simp only [Except.ok.injEq] at h; subst h
      exact New.refl _ _
  | succ f ih =>
    intro lo lo' st hg hm hc hlo st'
    unfold tokLoopE tokLoopG
    by_cases hlt : st.pos < st.posMax
    · simp only [if_pos hlt]
      have hq := skipTokenG_calm cfg true f
      have hsT := skipTokenG_T cfg f
      have hr := rangesFnG cfg true f
      have ht : TokHypT (fun s => tokLoopG cfg true f s.posMax s) :=
        fun lo s hg hm => ((guarded_total cfg hsz f).2 lo s hg hm).tokT
      have hte : TokEqHyp (fun s => tokLoopG cfg true f s.posMax s)
          (entryTok fun s => tokLoopE cfg f s.posMax s) := by
        intro lo2 s hg2 hm2 s' hE
        unfold entryTok at hE
        split at hE
        · next hcb => exact ih lo2 s.pos s hg2 hm2 (closedB_iff.mp hcb) (Nat.le_refl _) s' hE
        · simp at hE
      cases hsE : tokStep cfg (fun s => skipTokenE cfg f s)
          (entryTok fun s => tokLoopE cfg f s.posMax s) f st with
      | error e => intro h; simp at h
      | ok st1 =>
        obtain ⟨hG, hn1⟩ := tokStep_E hsz hq hsT (skip_entry_free cfg f) ht hr hte f st lo' hg hm hlt
          hc hlo st1 hsE
        rw [hG]
        simp only
        obtain ⟨hg1, hm1, f1, hadv⟩ := (tokStep_T hsz hq hsT ht hr f st hg hm hlt).2 st1 hG
        have hrec := ih lo lo' st1 hg1 hm1 (by rw [f1.posMax]; exact hc.of_new hn1) (by omega) st'
        rw [f1.posMax] at hrec
        intro h
        obtain ⟨a, b⟩ := hrec h
        exact ⟨a, hn1.trans b⟩
    · simp only [if_neg hlt]
      intro h
      refine ⟨h, ?_⟩
      simp only [Except.ok.injEq] at h; subst h
      exact New.refl _ _

/-! ## corollaries -/

theorem memoB_init' (content : List Char) (mapping : Srcmap) :
    MemoB (IState.init content mapping) := memoB_init content mapping

/-- a completed entry-checked inline run is a completed guarded inline run -/
theorem parseInlineE_ok (cfg : Cfg)
    (hsz : ∀ mk csw, RuleId.emph mk csw ∈ cfg.chain → mk.utf8Size = 1) {content : List Char}
    {mapping : Srcmap} {cs : List Node} (hm : MapOK content mapping)
    (h : parseInlineE cfg content mapping = .ok cs) : parseInlineG cfg content mapping = .ok cs := by
  obtain ⟨lo, _, hg⟩ := init_good hm
  unfold parseInlineE at h
  split at h
  · simp at h
  · next st hst =>
    have := (entry_total cfg hsz _ lo 0 _ hg (memoB_init' content mapping) (Closed.nil _ _)
      (Nat.zero_le _) st hst).1
    unfold parseInlineG
    rw [this]
    exact h

/-- **the entry check implies the memo check** -/
theorem entrySafe_memoSafe (cfg : Cfg)
    (hsz : ∀ mk csw, RuleId.emph mk csw ∈ cfg.chain → mk.utf8Size = 1) {content : List Char}
    {mapping : Srcmap} (hm : MapOK content mapping) (h : entrySafe cfg content mapping = true) :
    memoSafe cfg content mapping = true := by
  unfold entrySafe at h
  split at h
  · next cs hcs =>
    unfold memoSafe
    rw [parseInlineE_ok cfg hsz hm hcs]
  · simp at h

/-- **`parseInline` is total whenever the entry check passes** -/
theorem parseInline_total_of_entrySafe (cfg : Cfg)
    (hsz : ∀ mk csw, RuleId.emph mk csw ∈ cfg.chain → mk.utf8Size = 1) {content : List Char}
    {mapping : Srcmap} (hm : MapOK content mapping) (h : entrySafe cfg content mapping = true) :
    ∃ cs, parseInline cfg content mapping = .ok cs := by
  unfold entrySafe at h
  split at h
  · next cs hcs => exact ⟨cs, parseInlineG_ok (parseInlineE_ok cfg hsz hm hcs)⟩
  · simp at h

/-! ## examples -/

/-- one-line contents: the table `[(0, 0)]` is `MapOK` -/
theorem mapOK_singleE (content : List Char) : MapOK content [(0, 0)] := mapOK_single content

/-- every rule incl. link + image, `*` emphasis, a reference map with the label `a` -/
def entryCfg (maxNesting : Nat) : Cfg :=
  { exCfg maxNesting with refs := some [([97], { dest := [120], title := none })] }

theorem entryCfg_hsz (n : Nat) :
    ∀ mk csw, RuleId.emph mk csw ∈ (entryCfg n).chain → mk.utf8Size = 1 := by
  intro mk csw h
  simp only [entryCfg, exCfg, List.mem_cons, RuleId.emph.injEq, reduceCtorEq, List.mem_nil_iff,
    or_false, false_or] at h
  rw [h.1]; decide

-- the entry check passes on nested links / images / reference labels, and over the nesting limit
example : entrySafe (entryCfg 100) "[[a](b)](c)".toList [(0, 0)] = true := by decide_lits
example : entrySafe (entryCfg 100) "![a [b](c) *d*](e) [a][a]".toList [(0, 0)] = true := by
  decide_lits
theorem entrySafe_nested : entrySafe (entryCfg 2) "[[[a](b)](c)](d) `[`".toList [(0, 0)] = true := by
  decide_lits
example : entrySafe (entryCfg 2) "[[[a](b)](c)](d) `[`".toList [(0, 0)] = true := entrySafe_nested

-- `parseInline_total_of_entrySafe` / `entrySafe_memoSafe` on such a run (`max_nesting = 2`)
example : ∃ cs, parseInline (entryCfg 2) "[[[a](b)](c)](d) `[`".toList [(0, 0)] = .ok cs :=
  parseInline_total_of_entrySafe _ (entryCfg_hsz 2) (mapOK_singleE _) entrySafe_nested
example : memoSafe (entryCfg 2) "[[[a](b)](c)](d) `[`".toList [(0, 0)] = true :=
  entrySafe_memoSafe _ (entryCfg_hsz 2) (mapOK_singleE _) entrySafe_nested

/-- the configuration / text of the finding `witness_panics` (`Props/InlineTotal.lean`): the entry
    test is what stops the run — the label frame `[3, 7)` of the link at 2 is entered with the memo
    entry `6 ↦ 13`; with the emphasis rule behind the code-span rule the entry check passes -/
theorem entrySafe_witness :
    entrySafe { exCfg 100 with chain := [.emph '`' true, .backticks, .link] }
      "[`[a`[`](u) `".toList [(0, 0)] = false ∧
    entrySafe { exCfg 100 with chain := [.backticks, .emph '`' true, .link] }
      "[`[a`[`](u) `".toList [(0, 0)] = true := by decide_lits
example :
    entrySafe { exCfg 100 with chain := [.emph '`' true, .backticks, .link] }
      "[`[a`[`](u) `".toList [(0, 0)] = false ∧
    entrySafe { exCfg 100 with chain := [.backticks, .emph '`' true, .link] }
      "[`[a`[`](u) `".toList [(0, 0)] = true := entrySafe_witness

/-- the entry check is STRICTLY stronger than the memo check (`entrySafe_memoSafe` has no converse):
    same incoherent chain, the inner `[` of the witness replaced by `a` — the label frame `[3, 7)` is
    still entered with the crossing entry `6 ↦ 13`, but the label run never looks position 6 up, so
    the guarded run completes -/
example :
    entrySafe { exCfg 100 with chain := [.emph '`' true, .backticks, .link] }
      "[`[a`a`](u) `".toList [(0, 0)] = false ∧
    memoSafe { exCfg 100 with chain := [.emph '`' true, .backticks, .link] }
      "[`[a`a`](u) `".toList [(0, 0)] = true := by decide_lits

end MdIt.Inline
