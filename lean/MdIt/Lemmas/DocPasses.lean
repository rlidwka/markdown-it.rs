/-
  The two passes of the core chain behind the splice walk, on document trees (`Model/Pipeline.lean`):
  `FragmentsJoin` (`joinNode`) and `SyntaxPosRule` (`sourceposNode`), and their composition `finish`.
  The join pass recurses below the children `fragments_join` KEEPS (`joinNode_induct`), each of which stands for
  an old child (`TextFor`); the sourcepos pass is a map on attributes (`mapAttrs`).  A node predicate that survives
  the first (`JoinStable`) and does not read what the second writes (`AttrBlind`) passes through both
  (`finish_stable`).  Paths through both passes (`Within`; `SWithin`: through `Solid` nodes, which the join pass
  keeps), and the node values in pre-order (`kindsPre`, which `mapAttrs` leaves alone), are at the end.
-/
import MdIt.Lemmas.SourceposInv

namespace MdIt.Pipeline

/-- a predicate holds at every node of a document tree -/
inductive Every (P : Node → Prop) : Node → Prop
  | mk (n : Node) : P n → (∀ c ∈ n.children, Every P c) → Every P n

theorem Every.here {P : Node → Prop} {n : Node} (h : Every P n) : P n := by cases h; assumption
theorem Every.child {P : Node → Prop} {n : Node} (h : Every P n) : ∀ c ∈ n.children, Every P c := by
  cases h; assumption

theorem Every.imp {P Q : Node → Prop} (hpq : ∀ n, P n → Q n) : ∀ {n : Node}, Every P n → Every Q n := by
  intro n h
  induction h with
  | mk n hp _ ih => exact .mk n (hpq n hp) ih

theorem Every.and {P Q : Node → Prop} : ∀ {n : Node}, Every P n → Every Q n → Every (fun x => P x ∧ Q x) n := by
  intro n hp
  induction hp with
  | mk n h1 _ ih => exact fun hq => .mk n ⟨h1, hq.here⟩ (fun c hc => ih c hc (hq.child c hc))

/-- `n` is `t` or a node below it, at any depth -/
inductive Within : Node → Node → Prop
  | self (t : Node) : Within t t
  | under {n c t : Node} : c ∈ t.children → Within n c → Within n t

theorem Every.sub {P : Node → Prop} {t n : Node} (h : Every P t) (hw : Within n t) : Every P n := by
  induction hw with
  | self => exact h
  | under hc _ ih => exact ih (h.child _ hc)

theorem Every.within {P : Node → Prop} {t n : Node} (h : Every P t) (hw : Within n t) : P n :=
  (h.sub hw).here

def kinds (cs : List Node) : List Kind := cs.map (·.kind)

theorem mem_kinds {cs : List Node} {k : Kind} : k ∈ kinds cs ↔ ∃ c ∈ cs, c.kind = k := by
  simp [kinds]

theorem kinds_map {g : Node → Node} (hg : ∀ n, (g n).kind = n.kind) (l : List Node) : kinds (l.map g) = kinds l := by
  simp [kinds, List.map_map, Function.comp_def, hg]

/-- the value is the parser-internal placeholder `EmphMarker` -/
def Kind.isMarker : Kind → Bool
  | .inl (.emphMarker _ _ _ _ _) => true
  | _ => false

/-- an inline-level value -/
def Kind.isInline : Kind → Bool
  | .inl _ => true
  | .blk _ => false

theorem isInline_of_isText {n : Node} (h : n.isText = true) : n.kind.isInline = true := by
  unfold Node.isText at h
  split at h
  · next heq => rw [heq]; rfl
  · cases h

theorem isMarker_of_isText {n : Node} (h : n.isText = true) : n.kind.isMarker = false := by
  unfold Node.isText at h
  split at h
  · next heq => rw [heq]; rfl
  · cases h

/-! ## `fragments_join` on one child vector -/

/-- `c'` is `c` itself, or a `Text` (converted marker, merged or emptied text) in the place of the `Text` or
    `EmphMarker` `c`, with its children and attributes -/
def TextFor (c c' : Node) : Prop :=
  c'.children = c.children ∧ c'.attrs = c.attrs ∧ (c' = c ∨ (c'.isText = true ∧ (c.isText = true ∨ c.kind.isMarker = true)))

theorem TextFor.refl (c : Node) : TextFor c c := ⟨rfl, rfl, .inl rfl⟩

theorem TextFor.trans {a b c : Node} (h1 : TextFor a b) (h2 : TextFor b c) : TextFor a c := by
  refine ⟨h2.1.trans h1.1, h2.2.1.trans h1.2.1, ?_⟩
  rcases h2.2.2 with rfl | ⟨e, _⟩
  · exact h1.2.2
  · rcases h1.2.2 with rfl | ⟨_, ea⟩
    · exact h2.2.2
    · exact .inr ⟨e, ea⟩

theorem markerToText_textFor (c : Node) : TextFor c (markerToText c) ∧ (markerToText c).kind.isMarker = false := by
  unfold markerToText
  split
  · next heq => exact ⟨⟨rfl, rfl, .inr ⟨rfl, .inr (by rw [heq]; rfl)⟩⟩, rfl⟩
  · next h =>
    refine ⟨TextFor.refl c, ?_⟩
    unfold Kind.isMarker
    split
    · next m l rem o cl heq => exact absurd heq (h m l rem o cl)
    · rfl

theorem mergeLoop_textFor (cur : Node) (rest : List Node) :
    ∀ x ∈ mergeLoop cur rest, ∃ c ∈ cur :: rest, TextFor c x := by
  induction rest generalizing cur with
  | nil => intro x hx; simp [mergeLoop] at hx; subst hx; exact ⟨_, by simp, TextFor.refl _⟩
  | cons nxt rest ih =>
    intro x hx
    simp only [mergeLoop] at hx
    split at hx
    · next htt =>
      simp only [Bool.and_eq_true] at htt
      rcases List.mem_cons.mp hx with rfl | hx
      · exact ⟨nxt, by simp, ⟨rfl, rfl, .inr ⟨rfl, .inl htt.2⟩⟩⟩
      · obtain ⟨c, hc, hr⟩ := ih _ x hx
        rcases List.mem_cons.mp hc with rfl | hc
        · exact ⟨cur, by simp, TextFor.trans
            (show TextFor cur (merged cur nxt) from ⟨rfl, rfl, .inr ⟨rfl, .inl htt.1⟩⟩) hr⟩
        · exact ⟨c, by simp [hc], hr⟩
    · rcases List.mem_cons.mp hx with rfl | hx
      · exact ⟨_, by simp, TextFor.refl _⟩
      · obtain ⟨c, hc, hr⟩ := ih _ x hx
        exact ⟨c, List.mem_cons_of_mem _ hc, hr⟩

theorem fragmentsJoin_textFor (cs : List Node) :
    ∀ x ∈ fragmentsJoin cs, ∃ c ∈ cs, TextFor c x ∧ x.kind.isMarker = false := by
  intro x hx
  unfold fragmentsJoin at hx
  have hx := (List.mem_filter.mp hx).1
  have key : ∃ c' ∈ pass1 cs, TextFor c' x := by
    cases hp : pass1 cs with
    | nil => rw [hp] at hx; simp [mergeAll] at hx
    | cons c r => rw [hp] at hx; exact mergeLoop_textFor c r x hx
  obtain ⟨c', hc', hr⟩ := key
  unfold pass1 at hc'
  obtain ⟨c, hc, rfl⟩ := List.mem_map.mp hc'
  have hm := markerToText_textFor c
  refine ⟨c, hc, hm.1.trans hr, ?_⟩
  rcases hr.2.2 with rfl | ⟨e, _⟩
  · exact hm.2
  · exact isMarker_of_isText e

theorem fragmentsJoin_notMarker {cs : List Node} {x : Node} (hx : x ∈ fragmentsJoin cs) :
    x.kind.isMarker = false :=
  let ⟨_, _, _, h⟩ := fragmentsJoin_textFor cs x hx; h

/-- what `fragments_join` does to a child it keeps: `c'` is `c` itself, or a `Text` (converted marker,
    merged or emptied text) in the place of the INLINE node `c`, with its children and attributes -/
def Retext (c c' : Node) : Prop :=
  c'.children = c.children ∧ c'.attrs = c.attrs ∧ (c' = c ∨ (c'.isText = true ∧ c.kind.isInline = true))

theorem TextFor.retext {c c' : Node} (h : TextFor c c') : Retext c c' := by
  refine ⟨h.1, h.2.1, h.2.2.imp id fun ⟨ht, hc⟩ => ⟨ht, ?_⟩⟩
  rcases hc with hc | hc
  · exact isInline_of_isText hc
  · cases hk : c.kind with
    | inl v => rfl
    | blk b => rw [hk] at hc; cases hc

theorem fragmentsJoin_mem (cs : List Node) :
    ∀ x ∈ fragmentsJoin cs, ∃ c ∈ cs, Retext c x ∧ x.kind.isMarker = false := fun x hx =>
  let ⟨c, hc, hr, hm⟩ := fragmentsJoin_textFor cs x hx
  ⟨c, hc, hr.retext, hm⟩

theorem Retext.every {P : Node → Prop} {c c' : Node} (h : Retext c c') (hp : P c') (he : Every P c) :
    Every P c' :=
  .mk _ hp (by rw [h.1]; exact he.child)

/-! ## `FragmentsJoin::run` -/

theorem joinNode_eq (n : Node) : joinNode n = { n with children := joinList (fragmentsJoin n.children) } := by
  rw [joinNode]

theorem joinList_eq_map (l : List Node) : joinList l = l.map joinNode := by
  induction l with
  | nil => rw [joinList]; rfl
  | cons c cs ih => rw [joinList, ih]; rfl

theorem joinNode_kind (n : Node) : (joinNode n).kind = n.kind := by rw [joinNode_eq]
theorem joinNode_range (n : Node) : (joinNode n).range = n.range := by rw [joinNode_eq]
theorem joinNode_attrs (n : Node) : (joinNode n).attrs = n.attrs := by rw [joinNode_eq]

theorem joinNode_children (n : Node) : (joinNode n).children = (fragmentsJoin n.children).map joinNode := by
  rw [joinNode_eq, joinList_eq_map]

/-- the pass returns a node as it is when `fragments_join` keeps its child list and the pass returns every child as it
    is -/
theorem joinNode_fix {n : Node} (h : fragmentsJoin n.children = n.children)
    (hc : ∀ c ∈ n.children, joinNode c = c) : joinNode n = n := by
  rw [joinNode_eq, h, joinList_eq_map, List.map_congr_left hc, List.map_id']
  cases n; rfl

/-- the two hypotheses of `joinNode_fix`, of a child list -/
def JoinFix (cs : List Node) : Prop := fragmentsJoin cs = cs ∧ ∀ c ∈ cs, joinNode c = c

theorem joinNode_childless {c : Node} (h : c.children = []) : joinNode c = c :=
  joinNode_fix (by rw [h]; rfl) (by simp [h])

/-- … a node over one such child that is neither a marker nor an empty `Text` -/
theorem joinNode_one {k : Kind} {r : Option (Nat × Nat)} {a : List (List Char × List Char)} {c : Node}
    (hm : markerToText c = c) (hk : keep c = true) (hc : joinNode c = c) :
    joinNode ⟨k, r, a, [c]⟩ = ⟨k, r, a, [c]⟩ :=
  joinNode_fix (by simp [fragmentsJoin, pass1, hm, mergeAll, mergeLoop, hk]) (by simpa using hc)

theorem nsize_le_of_mem {c : Node} {l : List Node} (h : c ∈ l) : nsize c ≤ nsizeList l := by
  induction l with
  | nil => simp at h
  | cons x xs ih =>
    simp only [nsizeList]
    rcases List.mem_cons.mp h with rfl | h
    · omega
    · have := ih h; omega

theorem nsize_lt_of_join {n x : Node} (hx : x ∈ fragmentsJoin n.children) : nsize x < nsize n := by
  obtain ⟨c, hc, hr, _⟩ := fragmentsJoin_textFor _ x hx
  have h1 : nsize x = nsize c := by rw [nsize_eq, nsize_eq, hr.1]
  have h2 := nsize_le_of_mem hc
  rw [nsize_eq n]
  omega

/-- the recursion of `walk_mut(fragments_join)`: the walk goes on below the children `fragments_join` keeps, not
    below the old children -/
theorem joinNode_induct {motive : Node → Prop}
    (step : ∀ n, (∀ x ∈ fragmentsJoin n.children, motive x) → motive n) (n : Node) : motive n := by
  suffices H : ∀ (k : Nat) (n : Node), nsize n ≤ k → motive n from H _ n (Nat.le_refl _)
  intro k
  induction k with
  | zero => intro n hn; rw [nsize_eq] at hn; omega
  | succ k ih => exact fun n hn => step n fun x hx => ih x (by have := nsize_lt_of_join hx; omega)

/-- the plain recursion over a tree -/
theorem node_induct {motive : Node → Prop} (step : ∀ n, (∀ c ∈ n.children, motive c) → motive n) (n : Node) :
    motive n := by
  suffices H : ∀ (k : Nat) (n : Node), nsize n ≤ k → motive n from H _ n (Nat.le_refl _)
  intro k
  induction k with
  | zero => intro n hn; rw [nsize_eq] at hn; omega
  | succ k ih =>
    exact fun n hn => step n fun c hc => ih c (by have := nsize_le_of_mem hc; rw [nsize_eq] at hn; omega)

/-- the join pass for arbitrary predicates; `P` may read ranges and whole subtrees: what it has to survive is
    `fragments_join` on one child vector (`hkeep`) -/
theorem joinNode_every_gen {P Q : Node → Prop}
    (hkeep : ∀ n, Every P n → ∀ x ∈ fragmentsJoin n.children, Every P x)
    (hq : ∀ n, Every P n → n.kind.isMarker = false → Q (joinNode n)) (n : Node) :
    Every P n → n.kind.isMarker = false → Every Q (joinNode n) := by
  induction n using joinNode_induct with
  | step n ih =>
    intro he hm
    refine .mk _ (hq n he hm) ?_
    rw [joinNode_children]
    intro y hy
    obtain ⟨x, hx, rfl⟩ := List.mem_map.mp hy
    exact ih x hx (hkeep n he x hx) (fragmentsJoin_notMarker hx)

theorem keep_of_textFor {P : Node → Prop}
    (htext : ∀ c x, TextFor c x → x.isText = true → (c.isText = true ∨ c.kind.isMarker = true) → P c → P x)
    (n : Node) (he : Every P n) : ∀ x ∈ fragmentsJoin n.children, Every P x := by
  intro x hx
  obtain ⟨c, hc, hr, _⟩ := fragmentsJoin_textFor _ x hx
  have hec := he.child c hc
  rcases hr.2.2 with rfl | ⟨ht, hcm⟩
  · exact hec
  · exact .mk _ (htext c x hr ht hcm hec.here) (by rw [hr.1]; exact hec.child)

/-- the common case of `joinNode_every_gen`: `P` reads the node and the subtrees below it as they are -/
theorem joinNode_every_of {P Q : Node → Prop}
    (htext : ∀ c x, TextFor c x → x.isText = true → (c.isText = true ∨ c.kind.isMarker = true) → P c → P x)
    (hq : ∀ n, Every P n → n.kind.isMarker = false → Q (joinNode n)) :
    ∀ {n : Node}, Every P n → n.kind.isMarker = false → Every Q (joinNode n) :=
  fun {n} => joinNode_every_gen (keep_of_textFor htext) hq n

/-! ### tree maps the join pass commutes with -/

/-- `g` respects everything `fragments_join` reads and writes -/
structure JoinHom (g : Node → Node) : Prop where
  isText : ∀ n, (g n).isText = n.isText
  content : ∀ n, (g n).content = n.content
  marker : ∀ n, g (markerToText n) = markerToText (g n)
  emptied : ∀ n, n.isText = true → g (emptied n) = emptied (g n)
  merged : ∀ a b, a.isText = true → b.isText = true → g (merged a b) = merged (g a) (g b)
  /-- `g` maps the children and treats the rest of the node without looking at them -/
  children : ∀ (n : Node) (cs : List Node), g { n with children := cs } = { g n with children := cs.map g }

namespace JoinHom
variable {g : Node → Node} (h : JoinHom g)
include h

theorem mergeLoop (cur : Node) (rest : List Node) :
    (mergeLoop cur rest).map g = Pipeline.mergeLoop (g cur) (rest.map g) := by
  induction rest generalizing cur with
  | nil => simp [Pipeline.mergeLoop]
  | cons nxt rest ih =>
    simp only [Pipeline.mergeLoop, List.map_cons, h.isText]
    split
    · next hc =>
      simp only [Bool.and_eq_true] at hc
      simp only [List.map_cons, ih, h.emptied nxt hc.2, h.merged cur nxt hc.1 hc.2]
    · simp only [List.map_cons, ih]

theorem fragmentsJoin (cs : List Node) : (fragmentsJoin cs).map g = Pipeline.fragmentsJoin (cs.map g) := by
  have hk : ∀ n, keep (g n) = keep n := fun n => by simp [keep, h.isText, h.content]
  have hf : ∀ l : List Node, (l.filter keep).map g = (l.map g).filter keep := by
    intro l
    induction l with
    | nil => rfl
    | cons c r ih => simp only [List.filter_cons, List.map_cons, hk]; split <;> simp [ih]
  unfold Pipeline.fragmentsJoin
  rw [hf]
  congr 1
  unfold pass1
  cases cs with
  | nil => rfl
  | cons c r =>
    simp only [List.map_cons, mergeAll, h.mergeLoop, h.marker, List.map_map]
    congr 1
    simp [Function.comp_def, h.marker]

theorem joinNode (n : Node) : g (joinNode n) = Pipeline.joinNode (g n) := by
  induction n using joinNode_induct with
  | step n ih =>
    have e : (g n).children = n.children.map g := by
      have := congrArg Node.children (h.children n n.children)
      cases n; exact this
    rw [joinNode_eq, joinNode_eq (g n), joinList_eq_map, joinList_eq_map, h.children, e, ← h.fragmentsJoin,
      List.map_map, List.map_map]
    simp only
    congr 1
    exact List.map_congr_left fun x hx => ih x hx

end JoinHom

/-! ## `SyntaxPosRule`: a map on attributes -/

mutual
/-- the tree with the attributes of every node replaced by `f range attrs` -/
def mapAttrs (f : Option (Nat × Nat) → List (List Char × List Char) → List (List Char × List Char)) : Node → Node
  | ⟨k, r, a, cs⟩ => ⟨k, r, f r a, mapAttrsList f cs⟩
def mapAttrsList (f : Option (Nat × Nat) → List (List Char × List Char) → List (List Char × List Char)) :
    List Node → List Node
  | [] => []
  | c :: cs => mapAttrs f c :: mapAttrsList f cs
end

section MapAttrs
variable (f : Option (Nat × Nat) → List (List Char × List Char) → List (List Char × List Char))

theorem mapAttrsList_eq_map (l : List Node) : mapAttrsList f l = l.map (mapAttrs f) := by
  induction l with
  | nil => rfl
  | cons c cs ih => simp [mapAttrsList, ih]

theorem mapAttrs_eq (n : Node) :
    mapAttrs f n = ⟨n.kind, n.range, f n.range n.attrs, n.children.map (mapAttrs f)⟩ := by
  cases n; simp [mapAttrs, mapAttrsList_eq_map]

@[simp] theorem mapAttrs_kind (n : Node) : (mapAttrs f n).kind = n.kind := by rw [mapAttrs_eq]
@[simp] theorem mapAttrs_range (n : Node) : (mapAttrs f n).range = n.range := by rw [mapAttrs_eq]
@[simp] theorem mapAttrs_attrs (n : Node) : (mapAttrs f n).attrs = f n.range n.attrs := by rw [mapAttrs_eq]
@[simp] theorem mapAttrs_children (n : Node) : (mapAttrs f n).children = n.children.map (mapAttrs f) := by
  rw [mapAttrs_eq]

theorem mapAttrs_every {P Q : Node → Prop}
    (step : ∀ n, P n → Q ⟨n.kind, n.range, f n.range n.attrs, n.children.map (mapAttrs f)⟩) :
    ∀ {t : Node}, Every P t → Every Q (mapAttrs f t) := by
  intro t he
  induction he with
  | mk n hp _ ih =>
    rw [mapAttrs_eq]
    refine .mk _ (step n hp) ?_
    intro y hy
    obtain ⟨c, hc, rfl⟩ := List.mem_map.mp hy
    exact ih c hc

end MapAttrs

/-- what the sourcepos callback makes of the attributes (the old ones where `get_positions` panics: then the
    walk has no result) -/
def spF (src : List Char) (marks : List SourceMap.Mark) (r : Option (Nat × Nat))
    (a : List (List Char × List Char)) : List (List Char × List Char) :=
  match sourceposAttrs src marks r a with
  | .ok a' => a'
  | .error _ => a

mutual
/-- whatever the walk returns is the input tree with new attributes (for any `marks`) -/
theorem sourceposNode_eq_mapAttrs {src : List Char} {marks : List SourceMap.Mark} {t t' : Node}
    (h : sourceposNode src marks t = .ok t') : t' = mapAttrs (spF src marks) t := by
  match t with
  | ⟨k, r, a, cs⟩ =>
    obtain ⟨a', cs', ha, hcs, rfl⟩ := sourceposNode_ok h
    simp only at ha
    simp only [mapAttrs, spF, ha, sourceposList_eq_mapAttrs hcs]
theorem sourceposList_eq_mapAttrs {src : List Char} {marks : List SourceMap.Mark} {cs cs' : List Node}
    (h : sourceposList src marks cs = .ok cs') : cs' = mapAttrsList (spF src marks) cs := by
  match cs with
  | [] => rw [sourceposList_nil_ok h]; rfl
  | c :: r =>
    obtain ⟨c', r', hc, hr, rfl⟩ := sourceposList_cons_ok h
    simp only [mapAttrsList, sourceposNode_eq_mapAttrs hc, sourceposList_eq_mapAttrs hr]
end

theorem sourceposList_eq_map {src : List Char} {marks : List SourceMap.Mark} {cs cs' : List Node}
    (h : sourceposList src marks cs = .ok cs') : cs' = cs.map (mapAttrs (spF src marks)) := by
  rw [← mapAttrsList_eq_map]; exact sourceposList_eq_mapAttrs h

mutual
/-- the converse for a callback that is total: the walk returns the mapped tree -/
theorem sourceposNode_of_attrs {src : List Char} {marks : List SourceMap.Mark}
    {f : Option (Nat × Nat) → List (List Char × List Char) → List (List Char × List Char)}
    (hf : ∀ r a, sourceposAttrs src marks r a = .ok (f r a)) (t : Node) :
    sourceposNode src marks t = .ok (mapAttrs f t) := by
  match t with
  | ⟨k, r, a, cs⟩ => simp only [sourceposNode, hf, sourceposList_of_attrs hf cs, mapAttrs]
theorem sourceposList_of_attrs {src : List Char} {marks : List SourceMap.Mark}
    {f : Option (Nat × Nat) → List (List Char × List Char) → List (List Char × List Char)}
    (hf : ∀ r a, sourceposAttrs src marks r a = .ok (f r a)) (cs : List Node) :
    sourceposList src marks cs = .ok (mapAttrsList f cs) := by
  match cs with
  | [] => rfl
  | c :: r => simp only [sourceposList, sourceposNode_of_attrs hf c, sourceposList_of_attrs hf r, mapAttrsList]
end

theorem sourceposNode_every_of {P Q : Node → Prop} {src : List Char} {marks : List SourceMap.Mark}
    (step : ∀ n, P n → Q ⟨n.kind, n.range, spF src marks n.range n.attrs,
      n.children.map (mapAttrs (spF src marks))⟩)
    {t t' : Node} (he : Every P t) (h : sourceposNode src marks t = .ok t') : Every Q t' := by
  rw [sourceposNode_eq_mapAttrs h]; exact mapAttrs_every _ step he

theorem sourceposList_every_of {P Q : Node → Prop} {src : List Char} {marks : List SourceMap.Mark}
    (step : ∀ n, P n → Q ⟨n.kind, n.range, spF src marks n.range n.attrs,
      n.children.map (mapAttrs (spF src marks))⟩)
    {cs cs' : List Node} (he : ∀ c ∈ cs, Every P c) (h : sourceposList src marks cs = .ok cs') :
    ∀ c ∈ cs', Every Q c := by
  rw [sourceposList_eq_map h]
  intro y hy
  obtain ⟨c, hc, rfl⟩ := List.mem_map.mp hy
  exact mapAttrs_every _ step (he c hc)

/-! ## the passes behind the splice walk -/

/-- the core chain behind the splice walk: `FragmentsJoin` iff `join`, `SyntaxPosRule` iff `sp`
    (`afterBlocks` / `PipelineH.afterBlocksH` behind their `spliceNode`) -/
def finish (join sp : Bool) (src : List Char) (t0 : Node) : Except Panic Node :=
  let t := if join then joinNode t0 else t0
  if sp then sourceposNode src (SourceMap.mkMarks src) t else .ok t

theorem finish_ok {join sp : Bool} {src : List Char} {t0 t : Node} (hf : finish join sp src t0 = .ok t) :
    (sp = true ∧ t = mapAttrs (spF src (SourceMap.mkMarks src)) (if join = true then joinNode t0 else t0)) ∨
    (sp = false ∧ t = if join = true then joinNode t0 else t0) := by
  unfold finish at hf
  simp only at hf
  split at hf
  · next h => exact .inl ⟨h, sourceposNode_eq_mapAttrs hf⟩
  · next h => cases hf; exact .inr ⟨by simpa using h, rfl⟩

/-- what `afterBlocks` is made of: the splice walk, then the passes behind it -/
theorem afterBlocks_ok {cfg : DocCfg} {src : List Char} {root : Block.BNode} {refs : Refs.RefMap}
    {t : Node} (h : afterBlocks cfg src root refs = .ok t) :
    ∃ t0, spliceNode (cfg.inlineCfg refs) root = .ok t0 ∧ finish cfg.hasJoin cfg.sourcepos src t0 = .ok t := by
  unfold afterBlocks at h
  split at h
  · cases h
  · next t0 hs => exact ⟨t0, hs, h⟩

theorem finish_root {join sp : Bool} {src : List Char} {t0 t : Node} (hf : finish join sp src t0 = .ok t) :
    t.kind = t0.kind ∧ t.range = t0.range := by
  have hk : (if join = true then joinNode t0 else t0).kind = t0.kind ∧
      (if join = true then joinNode t0 else t0).range = t0.range := by
    split
    · exact ⟨joinNode_kind _, joinNode_range _⟩
    · exact ⟨rfl, rfl⟩
  rcases finish_ok hf with ⟨_, rfl⟩ | ⟨_, rfl⟩
  · rw [mapAttrs_kind, mapAttrs_range]; exact hk
  · exact hk

theorem finish_every {P Q : Node → Prop} {join sp : Bool} {src : List Char} {t0 t : Node}
    (h : finish join sp src t0 = .ok t) (h1 : Every P (if join = true then joinNode t0 else t0))
    (hsp : sp = true → ∀ n, P n → Q ⟨n.kind, n.range, spF src (SourceMap.mkMarks src) n.range n.attrs,
      n.children.map (mapAttrs (spF src (SourceMap.mkMarks src)))⟩)
    (hno : sp = false → ∀ n, P n → Q n) :
    Every Q t ∧ t.kind = t0.kind ∧ t.range = t0.range := by
  refine ⟨?_, finish_root h⟩
  rcases finish_ok h with ⟨hs, rfl⟩ | ⟨hs, rfl⟩
  · exact mapAttrs_every _ (hsp hs) h1
  · exact h1.imp (hno hs)

/-- `P` survives the join pass: at every node of what `fragments_join` keeps, and at a node over its joined
    children -/
structure JoinStable (P : Node → Prop) : Prop where
  keep : ∀ n, Every P n → ∀ x ∈ fragmentsJoin n.children, Every P x
  node : ∀ n, Every P n → P (joinNode n)

/-- `P` does not read attributes — neither the node's nor those below it -/
def AttrBlind (P : Node → Prop) : Prop :=
  ∀ (f : Option (Nat × Nat) → List (List Char × List Char) → List (List Char × List Char)) (n : Node),
    P n → P ⟨n.kind, n.range, f n.range n.attrs, n.children.map (mapAttrs f)⟩

theorem JoinStable.every {P : Node → Prop} (h : JoinStable P) {n : Node} (he : Every P n) :
    Every P (joinNode n) := by
  induction n using joinNode_induct with
  | step n ih =>
    refine .mk _ (h.node n he) ?_
    rw [joinNode_children]
    intro y hy
    obtain ⟨x, hx, rfl⟩ := List.mem_map.mp hy
    exact ih x hx (h.keep n he x hx)

theorem finish_stable {P : Node → Prop} {join sp : Bool} {src : List Char} {t0 t : Node}
    (hj : join = true → JoinStable P) (ha : sp = true → AttrBlind P)
    (hf : finish join sp src t0 = .ok t) (he : Every P t0) : Every P t := by
  refine (finish_every hf ?_ (fun h => ha h _) (fun _ _ h => h)).1
  split
  · next h => exact (hj h).every he
  · exact he

theorem joinStable_of_kr {P : Node → Prop}
    (hcongr : ∀ a b : Node, a.kind = b.kind → a.range = b.range → P a → P b)
    (htext : ∀ n : Node, n.isText = true → P n) : JoinStable P :=
  ⟨keep_of_textFor fun _ x _ ht _ _ => htext x ht,
   fun n he => hcongr n _ (joinNode_kind n).symm (joinNode_range n).symm he.here⟩

theorem attrBlind_of_kr {P : Node → Prop}
    (hcongr : ∀ a b : Node, a.kind = b.kind → a.range = b.range → P a → P b) : AttrBlind P :=
  fun _ n hn => hcongr n _ rfl rfl hn

/-! ## paths through the passes -/

theorem Within.trans {a b c : Node} (h1 : Within a b) (h2 : Within b c) : Within a c := by
  induction h2 with
  | self => exact h1
  | under hc _ ih => exact .under hc ih

/-- a node the join pass does not touch itself: neither a text node nor an emphasis marker -/
def Solid (n : Node) : Prop := n.isText = false ∧ markerToText n = n

theorem solid_blk (k : Block.Kind) (r : Option (Nat × Nat)) (a : List (List Char × List Char)) (cs : List Node) :
    Solid ⟨.blk k, r, a, cs⟩ := ⟨rfl, rfl⟩

/-- `n` is `t` or below it, every node on the way down (`t` excluded, `n` included) being `Solid` -/
inductive SWithin : Node → Node → Prop
  | self (t : Node) : SWithin t t
  | under {n c t : Node} : c ∈ t.children → Solid c → SWithin n c → SWithin n t

theorem SWithin.within {n t : Node} (h : SWithin n t) : Within n t := by
  induction h with
  | self => exact .self _
  | under hc _ _ ih => exact .under hc ih

theorem mem_mergeLoop {x : Node} (hx : x.isText = false) : ∀ (rest : List Node) (cur : Node),
    x ∈ cur :: rest → x ∈ mergeLoop cur rest
  | [], cur, h => by simpa [mergeLoop] using h
  | nxt :: rest, cur, h => by
    simp only [mergeLoop]
    split
    · rename_i hb
      simp only [Bool.and_eq_true] at hb
      have h1 : x ≠ cur := by intro e; rw [e, hb.1] at hx; cases hx
      have h2 : x ≠ nxt := by intro e; rw [e, hb.2] at hx; cases hx
      have : x ∈ rest := by
        rcases List.mem_cons.mp h with e | h'
        · exact absurd e h1
        · rcases List.mem_cons.mp h' with e | h''
          · exact absurd e h2
          · exact h''
      exact List.mem_cons_of_mem _ (mem_mergeLoop hx rest _ (List.mem_cons_of_mem _ this))
    · rcases List.mem_cons.mp h with e | h'
      · rw [e]; exact List.mem_cons_self
      · exact List.mem_cons_of_mem _ (mem_mergeLoop hx rest nxt h')

theorem mem_fragmentsJoin {c : Node} {cs : List Node} (hc : c ∈ cs) (hs : Solid c) : c ∈ fragmentsJoin cs := by
  unfold fragmentsJoin
  refine List.mem_filter.mpr ⟨?_, by simp [keep, hs.1]⟩
  have h1 : c ∈ pass1 cs := by
    unfold pass1
    exact List.mem_map.mpr ⟨c, hc, hs.2⟩
  cases hp : pass1 cs with
  | nil => rw [hp] at h1; cases h1
  | cons d r => rw [hp] at h1; exact mem_mergeLoop hs.1 r d h1

theorem solid_join {c : Node} (hs : Solid c) : Solid (joinNode c) := by
  rw [joinNode_eq]
  obtain ⟨h1, h2⟩ := hs
  cases c with
  | mk k r a cs =>
    refine ⟨h1, ?_⟩
    unfold markerToText at h2 ⊢
    split
    · rename_i heq
      simp only at heq
      simp only [heq] at h2
      have := congrArg Node.kind h2
      simp at this
    · rfl

theorem SWithin.join {n t : Node} (h : SWithin n t) : SWithin (joinNode n) (joinNode t) := by
  induction h with
  | self => exact .self _
  | @under c t hc hs _ ih =>
    refine .under (c := joinNode c) ?_ (solid_join hs) ih
    rw [joinNode_eq (n := t), joinList_eq_map]
    exact List.mem_map.mpr ⟨c, mem_fragmentsJoin hc hs, rfl⟩

theorem mem_sourceposList {src : List Char} {marks : List SourceMap.Mark} :
    ∀ (cs cs' : List Node), sourceposList src marks cs = .ok cs' → ∀ c ∈ cs,
      ∃ c', sourceposNode src marks c = .ok c' ∧ c' ∈ cs'
  | [], _, _, c, hc => by cases hc
  | d :: ds, _, h, c, hc => by
    obtain ⟨d', ds', hd, hds, rfl⟩ := sourceposList_cons_ok h
    rcases List.mem_cons.mp hc with rfl | hc'
    · exact ⟨d', hd, List.mem_cons_self⟩
    · obtain ⟨c', h1, h2⟩ := mem_sourceposList ds ds' hds c hc'
      exact ⟨c', h1, List.mem_cons_of_mem _ h2⟩

theorem Within.sourcepos {src : List Char} {marks : List SourceMap.Mark} {n t : Node} (h : Within n t) :
    ∀ t', sourceposNode src marks t = .ok t' → ∃ n', sourceposNode src marks n = .ok n' ∧ Within n' t' := by
  induction h with
  | self => exact fun t' ht => ⟨t', ht, .self _⟩
  | @under c t hc _ ih =>
    intro t' ht
    obtain ⟨_, cs', _, hcs, rfl⟩ := sourceposNode_ok ht
    obtain ⟨c', h1, h2⟩ := mem_sourceposList _ cs' hcs c hc
    obtain ⟨n', h3, h4⟩ := ih c' h1
    exact ⟨n', h3, .under h2 h4⟩

/-! ## the node values in pre-order -/

mutual
/-- the node values of a tree in pre-order (ranges and attributes forgotten) -/
def kindsPre : Node → List Kind
  | ⟨k, _, _, cs⟩ => k :: kindsPreList cs
def kindsPreList : List Node → List Kind
  | [] => []
  | c :: cs => kindsPre c ++ kindsPreList cs
end

mutual
theorem kindsPre_mapAttrs (f : Option (Nat × Nat) → List (List Char × List Char) → List (List Char × List Char)) :
    ∀ t : Node, kindsPre (mapAttrs f t) = kindsPre t
  | ⟨k, r, a, cs⟩ => by simp only [mapAttrs, kindsPre, kindsPreList_mapAttrs f cs]
theorem kindsPreList_mapAttrs (f : Option (Nat × Nat) → List (List Char × List Char) → List (List Char × List Char)) :
    ∀ cs : List Node, kindsPreList (mapAttrsList f cs) = kindsPreList cs
  | [] => rfl
  | c :: r => by simp only [mapAttrsList, kindsPreList, kindsPre_mapAttrs f c, kindsPreList_mapAttrs f r]
end

theorem sourceposList_kindsPre {src : List Char} {marks : List SourceMap.Mark} (cs cs' : List Node)
    (h : sourceposList src marks cs = .ok cs') : kindsPreList cs' = kindsPreList cs := by
  rw [sourceposList_eq_mapAttrs h, kindsPreList_mapAttrs]

end MdIt.Pipeline
