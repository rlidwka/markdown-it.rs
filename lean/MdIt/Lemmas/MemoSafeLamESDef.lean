/-
  For `Props/MemoSafe.lean`: the definitions of the namespace `MdIt.Inline.ES` ("escapes") — `TopInv`, `Just`,
  `BackOK`, `IFP` and the statements `EndHyp`, `EndEP`, `StepEP`, `LandHyp` for EVERY content.
  `MemoSafeLamESFinal.lean` (top frame, an instance of `Lemmas/MemoSafeLamTopKit.lean`) and
  `MemoSafeLamESNest.lean` (nested frames, an instance of `Lemmas/MemoSafeLamFrameKit.lean`) use them.

  What `CS` cannot handle is backslash-backtick-backtick: a position `k` behind `\`` with a backtick at `k`
  is strictly inside a backtick run as far as the characters go, but the code-span rule treats it as a run
  start, and `k` must NOT be in `inside_failed` in either cache.

  `esc src x`: the character at byte position `x` is ESCAPED — an odd number of backslashes right before
  it.  The invariants beyond those of `CS` (conditional on the escape rule being in the chain; brute-force
  checks K3 (no mark behind an escaped backtick, 0 exceptions in 5 million runs) and K4 (`EPc`, `NL`) on
  an instrumented native copy):
    * `EPc cfg src pos` — a state at which rules run (`pos < pos_max`) is not at an escaped character: the
      real tokenizer and every label walk enter a run of backslashes at its first character and the
      escape rule takes two characters at a time;
    * `NL src c`       — no marked position of `inside_failed` sits right behind an escaped character
      (marks come from opener calls, which happen at non-escaped positions): so the position behind an
      escaped backtick is NEVER marked (`land_unmarked`), in any cache;
    * `IFP` is weaker than `CS.IFP`: a state at a position strictly inside a backtick run WHOSE PREVIOUS CHARACTER IS
      NOT ESCAPED has the position marked.
  `EndHyp` needs no hypothesis on the text: the one token besides the unit step that ends
  strictly inside a run is the escape of a backtick, and then the previous character IS escaped.
-/
import MdIt.Lemmas.MemoSafeLamCSDef

namespace MdIt.Inline.ES
open MdIt.Inline
open MdIt.Inline.CS (Interior MK BC)
open MdIt.InlineOps (byteLen slice)

/-- the character at byte position `x` is escaped: an odd number of backslashes right before it -/
def esc (src : List Char) : Nat → Bool
  | 0 => false
  | x + 1 => (CodePair.charAt src x == some '\\') && !(esc src x)

/-- not at an escaped character — when the escape rule is in the chain -/
def EPc (cfg : Cfg) (src : List Char) (x : Nat) : Prop :=
  RuleId.escape ∈ cfg.chain → esc src x = false

theorem esc_succ_of_ne {src : List Char} {x : Nat} (h : CodePair.charAt src x ≠ some '\\') :
    esc src (x + 1) = false := by
  simp only [esc, Bool.and_eq_false_imp, beq_iff_eq]
  intro h'; exact absurd h' h

/-- behind a `[` the position is not escaped -/
theorem esc_after_bracket {src : List Char} {p M : Nat} {r : List Char}
    (h : slice src p M = .ok ('[' :: r)) : esc src (p + 1) = false := by
  apply esc_succ_of_ne
  have hc : CodePair.charAt src p = some '[' := by
    have := charAt_next (u := []) (b := '[') (v := r) (a := p) (q := M) (by simpa using h)
    simpa [byteLen] using this
  rw [hc]; decide

/-- no marked position sits right behind an escaped character -/
def NL (src : List Char) (c : CodePair.Cache) : Prop :=
  ∀ q, c.insideFailed.contains q = true → esc src (q - 1) = false

theorem NL.empty (src : List Char) : NL src CodePair.Cache.empty := by
  intro q h; simp [CodePair.Cache.empty] at h

/-- the position behind an escaped character is never marked -/
theorem land_unmarked {src : List Char} {c : CodePair.Cache} (h : NL src c) {k : Nat}
    (hk : esc src (k - 1) = true) : c.insideFailed.contains k = false := by
  cases hc : c.insideFailed.contains k with
  | false => rfl
  | true => rw [h k hc] at hk; cases hk

/-- the code-span cache invariant of this part: `BC` and, with the escape rule, `NL` -/
def BE (cfg : Cfg) (src : List Char) (c : CodePair.Cache) : Prop :=
  BC src c ∧ (RuleId.escape ∈ cfg.chain → NL src c)

theorem BE.empty (cfg : Cfg) (src : List Char) : BE cfg src CodePair.Cache.empty :=
  ⟨CS.BC.empty src, fun _ => NL.empty src⟩

/-- `B` is preserved by the code-span rule at states whose `pos_max` cuts no backtick run and whose
    position is not an escaped character -/
def BackOK (cfg : Cfg) (B : List Char → CodePair.Cache → Prop) : Prop :=
  ∀ (st : IState) (silent : Bool) (o : Option Nat) (st' : IState),
    ruleBackticks st silent = .ok (o, st') → CodePair.NoCut '`' st.src st.posMax →
    EPc cfg st.src st.pos → B st.src st.backticks → B st'.src st'.backticks

/-- a state at a position strictly inside a backtick run whose previous character is not escaped has
    the position in `inside_failed` -/
def IFP (cfg : Cfg) (s : IState) : Prop :=
  Interior s.src s.pos → (RuleId.escape ∈ cfg.chain → esc s.src (s.pos - 1) = false) →
    s.backticks.insideFailed.contains s.pos = true

/-- the only token that ends strictly inside a backtick run, behind a non-escaped character, is the unit
    step at a backtick (statement; the witness state is not at an escaped character) -/
def EndHyp (cfg : Cfg) (B : List Char → CodePair.Cache → Prop) (src : List Char) (Mtop : Nat) : Prop :=
  ∀ m p k, Inline.Just cfg B src Mtop m p k → EPc cfg src p → Interior src k →
    (RuleId.escape ∈ cfg.chain → esc src (k - 1) = false) → k = p + 1

/-- a look-ahead token that starts at a non-escaped character ends at a non-escaped character
    (statement) -/
def EndEP (cfg : Cfg) (B : List Char → CodePair.Cache → Prop) (src : List Char) (Mtop : Nat) : Prop :=
  ∀ m p v, Inline.Just cfg B src Mtop m p v → EPc cfg src p → v < Mtop → EPc cfg src v

/-- one iteration of the REAL tokenizer loop BELOW THE NESTING LIMIT from a non-escaped character ends at a
    non-escaped character (statement; over the limit no rule runs and the loop walks character by
    character, also over escaped ones) -/
def StepEP (cfg : Cfg) : Prop :=
  ∀ (skip tok : IState → Except Panic IState) (fuel : Nat) (st st' : IState), CalmFn skip →
    tokStep cfg skip tok fuel st = .ok st' → st.level < cfg.maxNesting → st.pos < st.posMax →
    EPc cfg st.src st.pos → st'.pos < st.posMax → EPc cfg st.src st'.pos

/-- the code-span rule at a position behind an escaped character: neither cache has it marked
    (`land_unmarked` for `B := BE cfg`) -/
def LandHyp (cfg : Cfg) (B : List Char → CodePair.Cache → Prop) (src : List Char) : Prop :=
  ∀ (c : CodePair.Cache) (k : Nat), B src c → RuleId.escape ∈ cfg.chain → esc src (k - 1) = true →
    c.insideFailed.contains k = false

/-! ## the witness of a memo entry -/

/-- `Inline.Just` plus: the witness state satisfies the refined `IFP` (code-span rule in the chain) and is
    not at an escaped character -/
def Just (cfg : Cfg) (B : List Char → CodePair.Cache → Prop) (src : List Char) (Mtop : Nat)
    (m : List (Nat × Nat)) (k v : Nat) : Prop :=
  ∃ (skip0 tok0 : IState → Except Panic IState) (f0 : Nat) (st0 st0' : IState),
    CalmFn skip0 ∧ SkipHypT skip0 ∧ SkipGrowHyp skip0 ∧
    LInv st0 ∧ st0.src = src ∧ st0.posMax = Mtop ∧ st0.pos = k ∧ st0.pos < st0.posMax ∧
    B st0.src st0.backticks ∧ st0.cache.lookup k = none ∧
    skipStep cfg skip0 tok0 f0 st0 = .ok st0' ∧ st0'.pos = v ∧ LookupMono st0'.cache m ∧
    (RuleId.backticks ∈ cfg.chain → IFP cfg st0) ∧ EPc cfg src k

theorem Just.toJust {cfg : Cfg} {B : List Char → CodePair.Cache → Prop} {src : List Char} {Mtop : Nat}
    {m : List (Nat × Nat)} {k v : Nat} (h : Just cfg B src Mtop m k v) :
    Inline.Just cfg B src Mtop m k v := by
  obtain ⟨skip0, tok0, f0, st0, st0', hq0, hs0, hg0, hi0, hsrc0, hmax0, hpos0,
    hlt0, hB0, hmiss, hstep, hv, hmono, _⟩ := h
  exact ⟨skip0, tok0, f0, st0, st0', hq0, hs0, hg0, hi0, hsrc0, hmax0, hpos0,
    hlt0, hB0, hmiss, hstep, hv, hmono⟩

theorem Just.ep {cfg : Cfg} {B : List Char → CodePair.Cache → Prop} {src : List Char} {Mtop : Nat}
    {m : List (Nat × Nat)} {k v : Nat} (h : Just cfg B src Mtop m k v) : EPc cfg src k := by
  obtain ⟨_, _, _, _, _, _, _, _, _, _, _, _, _, _, _, _, _, _, _, hep⟩ := h
  exact hep

theorem Just.mono {cfg : Cfg} {B : List Char → CodePair.Cache → Prop} {src : List Char} {Mtop : Nat}
    {m m' : List (Nat × Nat)} {k v : Nat} (h : Just cfg B src Mtop m k v) (hm : LookupMono m m') :
    Just cfg B src Mtop m' k v := by
  obtain ⟨skip0, tok0, f0, st0, st0', hq0, hs0, hg0, hi0, hsrc0, hmax0, hpos0,
    hlt0, hB0, hmiss, hstep, hv, hmono, hifp⟩ := h
  exact ⟨skip0, tok0, f0, st0, st0', hq0, hs0, hg0, hi0, hsrc0, hmax0, hpos0,
    hlt0, hB0, hmiss, hstep, hv, hmono.trans hm, hifp⟩

/-- every memo entry is an over-limit entry (`v = Mtop`) or has its witness -/
def JustAll (cfg : Cfg) (B : List Char → CodePair.Cache → Prop) (src : List Char) (Mtop : Nat)
    (m : List (Nat × Nat)) : Prop :=
  ∀ k v, (k, v) ∈ m → v = Mtop ∨ Just cfg B src Mtop m k v

theorem JustAll.toJustAll {cfg : Cfg} {B : List Char → CodePair.Cache → Prop} {src : List Char}
    {Mtop : Nat} {m : List (Nat × Nat)} (h : JustAll cfg B src Mtop m) :
    Inline.JustAll cfg B src Mtop m :=
  fun k v hkv => (h k v hkv).imp id Just.toJust

theorem JustAll.nil (cfg : Cfg) (B : List Char → CodePair.Cache → Prop) (src : List Char) (Mtop : Nat) :
    JustAll cfg B src Mtop [] := by
  intro k v h; simp at h

/-- the invariant of the states of the TOP frame (as in `CS`, with the new witnesses) -/
structure TopInv (cfg : Cfg) (B : List Char → CodePair.Cache → Prop) (src : List Char) (Mtop : Nat)
    (s : IState) : Prop where
  hsrc : s.src = src
  hmax : s.posMax = Mtop
  back : B s.src s.backticks
  le : ∀ k v, (k, v) ∈ s.cache → v ≤ Mtop
  just : JustAll cfg B src Mtop s.cache
  nocut : CodePair.NoCut '`' src Mtop
  hmk : RuleId.backticks ∈ cfg.chain → MK s

theorem TopInv.closed {cfg : Cfg} {B : List Char → CodePair.Cache → Prop} {src : List Char} {Mtop : Nat}
    {s : IState} (h : TopInv cfg B src Mtop s) : Closed s.cache 0 s.posMax := by
  intro k v hkv _ _
  rw [h.hmax]; exact h.le k v hkv

/-- **the refined `IFP` of the state a `skip_token` call returns**, from the entry it followed or made -/
theorem ifp_of_entry {cfg : Cfg} {B : List Char → CodePair.Cache → Prop} {src : List Char} {Mtop : Nat}
    (hend : EndHyp cfg B src Mtop) {s' : IState} (ht : TopInv cfg B src Mtop s')
    (hbt : RuleId.backticks ∈ cfg.chain) {p : Nat} (hp : (p, s'.pos) ∈ s'.cache) : IFP cfg s' := by
  intro hi hne
  rw [ht.hsrc] at hi hne
  rcases ht.just p s'.pos hp with hv | hj
  · exact absurd (show Interior src Mtop by rw [← hv]; exact hi) ht.nocut
  · have hk := hend _ _ _ hj.toJust hj.ep hi hne
    rw [hk] at hp
    have := ht.hmk hbt p hp (by rw [ht.hsrc, ← hk]; exact hi)
    rw [hk]; exact this

/-- **the state a `skip_token` call returns is not at an escaped character** (unless it is at `pos_max`) -/
theorem ep_of_entry {cfg : Cfg} {B : List Char → CodePair.Cache → Prop} {src : List Char} {Mtop : Nat}
    (hep : EndEP cfg B src Mtop) {s' : IState} (ht : TopInv cfg B src Mtop s')
    {p : Nat} (hp : (p, s'.pos) ∈ s'.cache) (hlt : s'.pos < s'.posMax) : EPc cfg src s'.pos := by
  rw [ht.hmax] at hlt
  rcases ht.just p s'.pos hp with hv | hj
  · omega
  · exact hep _ _ _ hj.toJust hj.ep hlt

end MdIt.Inline.ES
