/-
  C16 on the block side: THE RUN.  `Reach E F s0 f k he s`: in the run of `E.tok (F + 1) s0`
  (`BlockParser::tokenize` at budget `F + 1` from `s0`) the loop `while state.line < state.line_max` of a
  frame whose call-backs have budget `f` stands at `s`, with `k` iterations of fuel left and
  `has_empty_lines = he`.  Generated by: the start; one iteration (`tokStepG`); the entry into the nested
  tokenizer of a block quote (`BqEnter`: the real chain arrives at the blockquote rule, `bqScan` finds
  the quote's lines, the rule hands the prepared state to `tokenize`).  Sound by construction
  (`reach_init_called`, `tokLoopG_succ`, `bqEnter_called`: each constructor IS a call the run makes; a panic
  of the nested frame is the panic of the rule).  `frameTrace` lists the states of one frame, `quoteEntry`
  computes the entry state (`frameTrace_reach`, `quoteEntry_sound`).
  NOT generated (LEFT AS HYPOTHESES (c) in `Props/C16Block.lean`): the entry into the nested tokenizer of a list item
  (`listItemBody`, through `listLoop`) — the theorems of `Props/C16Block.lean` are stated for EVERY state,
  so they cover those frames too; only the listing does not descend into list items.
-/
import MdIt.Lemmas.C16BlockEng

namespace MdIt.BlockH.C16
open MdIt.Block
open MdIt.Lines (LineOffset)

/-- the blockquote rule, run for real on `s`, calls the nested tokenizer on `t` -/
structure BqEnter (test : Test) (fuel : Nat) (s t : BState) : Prop where
  ind : ∃ ind, s.lineIndent s.line = .ok ind ∧ ¬ ind ≥ 4
  head : ∃ line, s.getLine s.line = .ok line ∧ line.head? = some '>'
  scan : ∃ nextLine old s2, bqScan test fuel s s.line [] false = .ok (nextLine, old, s2) ∧
    t = { s2 with blkIndent := 0, nodeKind := .blockquote, children := [], line := s.line,
                  lineMax := nextLine, level := s2.level + 1 }

/-- what the blockquote rule does with the state the nested tokenizer returns -/
def bqFinish (s2 : BState) (startLine : Nat) (old : List LineOffset) (s : BState) : Res := do
  let lvl ← psub s.level 1
  let s := { s with level := lvl, lineMax := s2.lineMax }
  let offs ← restoreOffs s.offs startLine old
  let s := { s with offs := offs, blkIndent := s2.blkIndent }
  let e ← psub s.line 1
  let r ← s.getMap startLine e
  let node : BNode := ⟨s.nodeKind, some r, s.children⟩
  pure (true, { s with nodeKind := s2.nodeKind, children := s2.children ++ [node] })

/-- **faithfulness of `BqEnter`**: the rule IS the nested tokenizer on `t`, then some continuation -/
theorem bqEnter_called {test : Test} {fuel : Nat} {s t : BState} (h : BqEnter test fuel s t) :
    ∃ K : BState → Res, ∀ tok : Tok, blockquoteRule tok test fuel s false = (tok t >>= K) := by
  obtain ⟨⟨ind, hi, h4⟩, ⟨line, hl, hh⟩, ⟨nl, old, s2, hs, rfl⟩⟩ := h
  refine ⟨bqFinish s2 s.line old, fun tok => ?_⟩
  unfold blockquoteRule bqFinish
  simp only [hi, ok_bind, h4, if_false, hl, hh, ne_eq, not_true_eq_false, Bool.false_eq_true, hs]

section
variable {ι : Type}

inductive Reach (E : Eng ι) (F : Nat) (s0 : BState) : Nat → Nat → Bool → BState → Prop where
  | init : Reach E F s0 F (F + 1) false s0
  | step {f k : Nat} {he he' : Bool} {s s' : BState} :
      Reach E F s0 f (k + 1) he s →
      tokStepG E.cfg.maxNesting E.chain (E.rule f) he s = .ok (.next he' s') → Reach E F s0 f k he' s'
  | quote {f k : Nat} {he : Bool} {s sE t : BState} {pre post : List ι} {i : ι} :
      Reach E F s0 (f + 1) (k + 1) he s → RunsChain E.cfg.maxNesting s sE →
      E.chain = pre ++ i :: post → Declined (E.rule (f + 1)) pre sE false → E.base i = some .blockquote →
      BqEnter (E.test (f + 1)) (f + 2) sE t → Reach E F s0 f (f + 1) false t

/-- the start IS the call -/
theorem reach_init_called (E : Eng ι) (F : Nat) (s0 : BState) :
    E.tok (F + 1) s0 = tokLoopG E.cfg.maxNesting E.chain (E.rule F) (F + 1) false s0 := by
  rw [E.tok_succ]

/-- the quote entry IS a call: the iteration at `s` is the nested loop on `t`, then some continuation -/
theorem reach_quote_called (E : Eng ι) {f : Nat} {he : Bool} {s sE t : BState} {pre post : List ι} {i : ι}
    (hR : RunsChain E.cfg.maxNesting s sE) (hc : E.chain = pre ++ i :: post)
    (hd : Declined (E.rule (f + 1)) pre sE false) (hi : E.base i = some .blockquote)
    (hq : BqEnter (E.test (f + 1)) (f + 2) sE t) :
    ∃ K : BState → Except Panic StepRes,
      tokStepG E.cfg.maxNesting E.chain (E.rule (f + 1)) he s =
        (tokLoopG E.cfg.maxNesting E.chain (E.rule f) (f + 1) false t >>= K) := by
  obtain ⟨K, hK⟩ := bqEnter_called hq
  refine ⟨fun x => (match K x with
    | .error e => .error e
    | .ok (true, s') => .ok (true, s')
    | .ok (false, s') => runChainG (E.rule (f + 1)) post s' false) >>= afterStep he sE.line, ?_⟩
  have hch : runChainG (E.rule (f + 1)) E.chain sE false =
      (match E.tok (f + 1) t >>= K with
        | .error e => .error e
        | .ok (true, s') => .ok (true, s')
        | .ok (false, s') => runChainG (E.rule (f + 1)) post s' false) := by
    rw [hc, runChainG_declined hd]
    simp only [runChainG]
    rw [E.rule_base (f + 1) i _ hi]
    simp only [runRule]
    rw [hK]
    generalize E.tok (f + 1) t >>= K = z
    rcases z with e | ⟨b, s'⟩
    · rfl
    · cases b <;> rfl
  rw [tokStepG_runs hR, hch, E.tok_succ]
  generalize tokLoopG E.cfg.maxNesting E.chain (E.rule f) (f + 1) false t = y
  cases y with
  | error e => rfl
  | ok x => rfl

/-! ## executable listing -/

/-- the states at which the loop of one frame stands, from `(k, he, s)` on -/
def frameTrace (E : Eng ι) (f : Nat) : Nat → Bool → BState → List (Nat × Bool × BState)
  | 0, _, _ => []
  | k + 1, he, s =>
    (k + 1, he, s) ::
      match tokStepG E.cfg.maxNesting E.chain (E.rule f) he s with
      | .ok (.next he' s') => frameTrace E f k he' s'
      | _ => []

theorem frameTrace_reach (E : Eng ι) (F : Nat) (s0 : BState) (f : Nat) :
    ∀ (k : Nat) (he : Bool) (s : BState), Reach E F s0 f k he s →
      ∀ x ∈ frameTrace E f k he s, Reach E F s0 f x.1 x.2.1 x.2.2 := by
  intro k
  induction k with
  | zero => intro he s _ x hx; simp [frameTrace] at hx
  | succ k ih =>
    intro he s hR x hx
    simp only [frameTrace, List.mem_cons] at hx
    rcases hx with rfl | hx
    · exact hR
    · split at hx
      · rename_i he' s' hstep
        exact ih he' s' (.step hR hstep) x hx
      · simp at hx

/-- the state the blockquote rule hands to the nested tokenizer -/
def quoteEntry (test : Test) (fuel : Nat) (s : BState) : Option BState :=
  match s.lineIndent s.line, s.getLine s.line with
  | .ok ind, .ok line =>
    if ¬ ind ≥ 4 ∧ line.head? = some '>' then
      match bqScan test fuel s s.line [] false with
      | .ok (nextLine, _, s2) =>
        some { s2 with blkIndent := 0, nodeKind := .blockquote, children := [], line := s.line,
                       lineMax := nextLine, level := s2.level + 1 }
      | .error _ => none
    else none
  | _, _ => none

theorem quoteEntry_sound {test : Test} {fuel : Nat} {s t : BState} (h : quoteEntry test fuel s = some t) :
    BqEnter test fuel s t := by
  unfold quoteEntry at h
  split at h
  · rename_i ind line hi hl
    split at h
    · rename_i hc
      split at h
      · rename_i nl old s2 hs
        simp only [Option.some.injEq] at h
        exact ⟨⟨ind, hi, hc.1⟩, ⟨line, hl, hc.2⟩, ⟨nl, old, s2, hs, h.symm⟩⟩
      · cases h
    · cases h
  · cases h

end
end MdIt.BlockH.C16
