/-
  Helper development for `Props/C16Doc.lean` (property C16 over a whole run of the inline parser):
  THE NESTED LABEL FRAMES.

  The comparison of a real step with the witness of the memo entry of its position
  (`Lemmas/MemoSafeLamFrameKit.lean`, at the instance `ES.nestKit` of `Lemmas/MemoSafeLamESNest.lean`) says
  where the REAL step of the tokenizer at a position of a nested label frame ends, and at which states the
  rules of the real chain are called (`NestKit.chain_L2`, `NestKit.link_enter`).  Here that is read as the
  C16 content:

    * `Arrives run rules st id x` (`Lemmas/MemoSafeLamChain.lean`) — the real chain `rules`, run from `st`,
      arrives at the rule `id` with the state `x` (every rule in front of it declined);
    * `enter_rule`     — when the real link / image rule of a nested frame
      finds its label, the look-ahead inside it changed nothing at all (`st1 = x`), and the frame it is
      about to tokenize satisfies the invariant `ES.NF` again (this is how DEEPER frames are reached);
    * `marker_units`   — a run of emphasis markers on a label walk is covered by UNIT memo entries;
    * `nested_agree`   — **the real step at a state of a nested frame ends where the memo entry says, or
      is the emphasis rule taking a run of its marker that the memo covers by unit entries**.
-/
import MdIt.Lemmas.MemoSafeLamESFinal

namespace MdIt.Inline.ES.C16Doc
open MdIt.Inline
open MdIt.InlineOps (slice)
open MdIt.C05 (WFMap MonoMap byteLen_append slice_ok_iff)

/-- **the look-ahead token at a marker of a coherent chain is the single character**
    (`coherent_marker`: no rule of the chain fires there) -/
theorem just_unit_at_marker {cfg : Cfg} {B : List Char → CodePair.Cache → Prop} {src : List Char}
    {Mtop : Nat} (hcoh : ChainCoherent cfg = true) {m : List (Nat × Nat)} {k v : Nat}
    (hJ : Inline.Just cfg B src Mtop m k v) {ch : Char} {rest : List Char}
    (hsl : slice src k Mtop = .ok (ch :: rest)) {csw : Bool} (hcsw : RuleId.emph ch csw ∈ cfg.chain) :
    v = k + 1 := by
  obtain ⟨hsz, hfire⟩ := coherent_marker hcoh hcsw
  rw [just_unit hJ hsl hfire, hsz]

section
variable {cfg : Cfg} {B : List Char → CodePair.Cache → Prop} {src : List Char} {Mtop : Nat}
  {f : Nat} {skipG skipM tokG tokM : IState → Except Panic IState}
  {skip0 tok0 : IState → Except Panic IState} {f0 : Nat}
  {m : List (Nat × Nat)} {k le v : Nat} {ch : Char} {rest : List Char}

/-- **the real link / image rule of a nested frame, at the point where it has found its label**: the
    look-ahead inside `parse_link` (label walks over the memo) returned the state it was given, the
    construct ends where the memo entry ends, and the nested state it is about to tokenize satisfies
    `ES.NF` (`NestKit.link_enter` for the link rule at `[` and the image rule at `![`) -/
theorem enter_rule (H : NestHyps cfg B src Mtop) (C : Callees cfg B src Mtop f skipG skipM tokG tokM)
    (S : StepCtx src Mtop m k le v ch rest)
    (hq0 : CalmFn skip0) (hs0 : SkipHypT skip0) (hg0 : SkipGrowHyp skip0)
    {id : RuleId} (hid : id ∈ cfg.chain) {x : IState}
    (W : (nestKit H).WitCall (NF cfg B src Mtop) skip0 tok0 f0 m k le v ch id x)
    {offset : Nat} {en : Bool}
    (hshape : (id = .link ∧ offset = 0 ∧ en = false ∧ ∃ r, x.window = .ok ('[' :: r)) ∨
      (id = .image ∧ offset = 1 ∧ en = true ∧ ∃ r, x.window = .ok ('!' :: '[' :: r)))
    {res : LinkRes} {st1 : IState}
    (hp : parseLink cfg skipM f x (x.pos + offset) en = .ok (some res, st1)) :
    st1 = x ∧ res.endPos = v ∧ NF cfg B src Mtop (nestedState x res) := by
  have hF := (nestKit_loop H).frame
  obtain ⟨w, o1, w1, P, hwit, hmono, hnone, hsome⟩ := W
  obtain ⟨wb, hwb, rfl⟩ := silentBumped_ok hwit
  obtain ⟨rest', hwx, hww, hcut⟩ := P.windows hF S
  rcases hshape with ⟨rfl, rfl, rfl, r, hr⟩ | ⟨rfl, rfl, rfl, r, hr⟩
  · rw [hwx] at hr
    simp only [Except.ok.injEq, List.cons.injEq] at hr
    obtain ⟨rfl, _⟩ := hr
    have hwB : ({ w with level := w.level + 1 } : IState).window = .ok ('[' :: rest) := hww
    rw [link_at hwB] at hwb
    obtain ⟨hbx, hlex⟩ := after_first (st := x) (by decide) (window_eq hwx)
    obtain ⟨hbw, hlew⟩ := after_first (st := w) (by decide) (window_eq hww)
    exact NestKit.link_enter hF C.toKit S P Val.link false 0 (hF.pl (.inl ⟨rfl, rfl, hid⟩))
      (.inl ⟨rfl, rfl, rest, S.sl⟩) hq0 hs0 hg0 hbx hlex hbw hlew hwb hmono (hnone (.inl ⟨rfl, rfl⟩)) hsome
      hp
  · rw [hwx] at hr
    simp only [Except.ok.injEq, List.cons.injEq] at hr
    obtain ⟨rfl, rfl⟩ := hr
    obtain ⟨t2, ht2⟩ : ∃ t2, rest = '[' :: t2 := by
      rcases hcut with e | ⟨r', e⟩
      · simp only [List.cons.injEq, true_and] at e
        exact ⟨r, e⟩
      · simp only [List.cons_append, List.cons.injEq, true_and] at e
        exact ⟨_, e⟩
    subst ht2
    have hwB : ({ w with level := w.level + 1 } : IState).window = .ok ('!' :: '[' :: t2) := hww
    rw [image_at hwB] at hwb
    obtain ⟨hbx, hlex⟩ := after_second (st := x) (by decide) (by decide) (window_eq hwx)
    obtain ⟨hbw, hlew⟩ := after_second (st := w) (by decide) (by decide) (window_eq hww)
    exact NestKit.link_enter hF C.toKit S P Val.image true 1 (hF.pl (.inr ⟨rfl, rfl, hid⟩))
      (.inr ⟨rfl, rfl, t2, S.sl⟩) hq0 hs0 hg0 hbx hlex hbw hlew hwb hmono (hnone (.inr ⟨rfl, rfl⟩)) hsome
      hp

end

/-! ## a delimiter run on a label walk is covered by unit memo entries -/

/-- **a run of `n` emphasis markers that starts on a label walk over the memo is covered by UNIT memo
    entries** (`k + i ↦ k + i + 1`): look-ahead never answers at a marker of a coherent chain, so
    its tokens there are the single characters (`outer_marker_step`) -/
theorem marker_units {cfg : Cfg} {B : List Char → CodePair.Cache → Prop} {src : List Char}
    {Mtop : Nat} (hcoh : ChainCoherent cfg = true) {m : List (Nat × Nat)}
    (hctx : Inline.NCtx cfg B src Mtop m) {le : Nat} (hle : le < Mtop) {ch : Char}
    (hmk : ∃ csw, RuleId.emph ch csw ∈ cfg.chain) {k : Nat} :
    ∀ n, Outer src Mtop m le k 1 → k + n ≤ le →
      (∀ i, i < n → ∃ r, slice src (k + i) le = .ok (ch :: r)) →
      ∀ i, i < n → m.lookup (k + i) = some (k + i + 1) := by
  intro n hO hn hall i hi
  obtain ⟨r, hr⟩ := hall i hi
  exact (outer_marker_step hcoh hctx hle hmk
    (outer_marker_run hcoh hctx hle hmk i hO (by omega) (fun j hj => hall j (by omega))) (by omega) hr).1

/-! ## one real step of a nested frame against the memo -/

section
variable {cfg : Cfg} {B : List Char → CodePair.Cache → Prop} {src : List Char} {Mtop : Nat}
  {f : Nat} {skipG skipM tokG tokM : IState → Except Panic IState}

/-- how one real step from position `k` of a frame that ends at `le` relates to the memo `m`: it ends
    at `v` (the memo entry of `k`), or it is the emphasis rule of the chain taking a run of `n` of its
    marker `ch`, each character of which is a unit entry of the memo -/
def Agrees (cfg : Cfg) (src : List Char) (m : List (Nat × Nat)) (k le v : Nat) (p' : Nat) : Prop :=
  p' = v ∨ ∃ (ch : Char) (n : Nat), MarkerRun cfg src ch k le n ∧ p' = k + n ∧
    ∀ i, i < n → m.lookup (k + i) = some (k + i + 1)

/-- **one real step at a state of a nested label frame** (`ES.NF`; below the nesting limit, inside the
    frame), for the model callees at any fuel `f`:

    * the memo HAS an entry `s.pos ↦ v`, and it ends inside the frame (`s.pos < v ≤ s.posMax`);
    * if the step returns, it `Agrees` with that entry, left the memo alone, and `ES.NF` holds again;
    * every nested frame the link / image rule of this step enters satisfies `ES.NF`, was found by
      look-ahead that changed nothing (`st1 = x`), and the link ends at `v`. -/
theorem nested_agree (H : NestHyps cfg B src Mtop) (C : Callees cfg B src Mtop f skipG skipM tokG tokM)
    {s : IState} (hnf : NF cfg B src Mtop s) (hl : s.level < cfg.maxNesting)
    (hlt : s.pos < s.posMax) :
    ∃ v, s.cache.lookup s.pos = some v ∧ s.pos < v ∧ v ≤ s.posMax ∧
      (∀ s', tokStep cfg skipM tokM f s = .ok s' →
        Agrees cfg src s.cache s.pos s.posMax v s'.pos ∧ s'.cache = s.cache ∧ s'.posMax = s.posMax ∧
          s'.level = s.level ∧ NF cfg B src Mtop s') ∧
      (∀ id x offset en res st1,
        Arrives (fun id s => runRule cfg skipM tokM f id s false) cfg.chain s id x →
        ((id = .link ∧ offset = 0 ∧ en = false ∧ ∃ r, x.window = .ok ('[' :: r)) ∨
          (id = .image ∧ offset = 1 ∧ en = true ∧ ∃ r, x.window = .ok ('!' :: '[' :: r))) →
        parseLink cfg skipM f x (x.pos + offset) en = .ok (some res, st1) →
        st1 = x ∧ res.endPos = v ∧ NF cfg B src Mtop (nestedState x res)) := by
  obtain ⟨v, ch, rest, skip0, tok0, f0, S, hkv, hq0, hs0, hg0, hstep, arr⟩ :=
    NestKit.nested_real (nestKit_loop H) C.toKit hnf hlt
  refine ⟨v, S.lk, hkv, S.vle, ?_, ?_⟩
  · obtain ⟨eqS, postS⟩ := hstep hl
    intro s' hM
    obtain ⟨hR, fr', k5, hend⟩ := postS s' (eqS.trans hM)
    refine ⟨?_, hR.1, fr'.posMax, fr'.level, k5⟩
    rcases hend with hv | ⟨n, e3, hp⟩
    · exact .inl hv
    · exact .inr ⟨ch, n, e3, hp,
        marker_units H.coh hnf.ctx.toNCtx hnf.top_lt e3.1 n hnf.outer e3.2.2.1 e3.2.2.2⟩
  · intro id x offset en res st1 hA hshape hp
    exact enter_rule H C S hq0 hs0 hg0 hA.mem (arr id x hA) hshape hp

end

end MdIt.Inline.ES.C16Doc
