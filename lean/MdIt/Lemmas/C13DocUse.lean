/-
  `parse_link` on a reference use `[T]`, `[T][]`, `[T][L]` (`parseLink_use`): the label walk(s), the inline form
  declines, the reference tail looks the selected label up.
-/
import MdIt.Lemmas.C13DocInline
import MdIt.Props.C13

namespace MdIt.C13D
open MdIt.Inline
open MdIt.InlineOps (Srcmap getSourcePosFor getMap byteLen slice)
open MdIt.C05 (byteLen_append slice_ok_iff)
open MdIt.C11S (PlainTxt)

/-! ## 1. the shapes of a use -/

/-- the second bracket pair: none (shortcut `[T]`), `[]` (collapsed), `[L]` (full) -/
def tailOf : Option (List Char) → List Char
  | none => []
  | some l => '[' :: (l ++ [']'])

/-- the text of a reference use -/
def useOf (T : List Char) (e : Option (List Char)) : List Char := '[' :: (T ++ ']' :: tailOf e)

/-- code points -/
def cps (s : List Char) : List Nat := s.map Char.toNat

/-- the label the use is looked up under (`Refs.selectLabel`) -/
def labelOf (T : List Char) (e : Option (List Char)) : List Nat := Refs.selectLabel (cps T) (e.map cps)

/-- what the reference tail of `parse_link` finds for a label -/
def look (cfg : Cfg) (label : List Nat) : Option Refs.Entry :=
  match cfg.refs with
  | none => none
  | some m => Refs.lookup cfg.normRef m label

theorem sz_open : '['.utf8Size = 1 := by decide
theorem sz_close : ']'.utf8Size = 1 := by decide
theorem byteLen_nil : byteLen [] = 0 := rfl
theorem bl_open : byteLen ['['] = 1 := rfl
theorem bl_close : byteLen [']'] = 1 := rfl

theorem byteLen_cons (ch : Char) (r : List Char) : byteLen (ch :: r) = ch.utf8Size + byteLen r := rfl

theorem byteLen_tailOf (e : Option (List Char)) :
    byteLen (tailOf e) = match e with | none => 0 | some l => byteLen l + 2 := by
  cases e with
  | none => rfl
  | some l =>
    simp only [tailOf, byteLen_cons, byteLen_append, sz_open, sz_close, byteLen_nil]; omega

theorem byteLen_useOf (T : List Char) (e : Option (List Char)) :
    byteLen (useOf T e) = byteLen T + 2 + byteLen (tailOf e) := by
  simp only [useOf, byteLen_cons, byteLen_append, sz_open, sz_close]; omega

/-- the two memo entries the look-ahead over a use at `a` can make -/
def Entries (a : Nat) (T : List Char) (e : Option (List Char)) : List (Nat × Nat) :=
  [(a + 1, a + 1 + byteLen T), (a + byteLen T + 3, a + byteLen T + 3 + byteLen (e.getD []))]

/-- a key among them has its value -/
theorem entries_fun (a : Nat) (T : List Char) (e : Option (List Char)) :
    (∀ v, (a + 1, v) ∈ Entries a T e → v = a + 1 + byteLen T) ∧
    ∀ v, (a + byteLen T + 3, v) ∈ Entries a T e → v = a + byteLen T + 3 + byteLen (e.getD []) := by
  constructor <;> intro v hv <;>
    simp only [Entries, List.mem_cons, Prod.mk.injEq, List.mem_nil_iff, or_false] at hv <;>
    rcases hv with ⟨h, rfl⟩ | ⟨h, rfl⟩ <;> first | rfl | omega

/-- every memo entry is one of `S` -/
def CacheIn (S : List (Nat × Nat)) (cache : List (Nat × Nat)) : Prop :=
  ∀ k v, cache.lookup k = some v → (k, v) ∈ S

theorem CacheIn.step {S : List (Nat × Nat)} {old new : List (Nat × Nat)} {k v : Nat} (h : CacheIn S old)
    (hs : CacheStep old new k v) (hkv : (k, v) ∈ S) : CacheIn S new := by
  rcases hs with rfl | rfl
  · exact h
  · intro k' v' hl
    simp only [List.lookup] at hl
    split at hl
    · rename_i heq
      have : k' = k := by simpa using heq
      cases hl; subst this; exact hkv
    · exact h k' v' hl

theorem cacheIn_nil (S : List (Nat × Nat)) : CacheIn S [] := by intro k v h; simp at h

/-! ## 2. the inline form declines -/

theorem parseInlineTail_none (dec : List Char → List Char) (src : List Char) (pos max : Nat)
    (w : List Char) (hs : slice src pos max = .ok w) (hw : ∀ r, w ≠ '(' :: r) :
    Link.parseInlineTail dec src pos max = .ok none := by
  unfold Link.parseInlineTail
  rw [(linkSlice_eq _ _ _ _).mpr hs]
  cases w with
  | nil => rfl
  | cons d r =>
    by_cases hd : d = '('
    · subst hd; exact absurd rfl (hw r)
    · show (match (d :: r) with
        | '(' :: rest => _
        | _ => Except.ok none) = Except.ok none
      split
      · rename_i heq; simp only [List.cons.injEq] at heq; exact absurd heq.1 hd
      · rfl

/-! ## 3. `parse_link` on a use -/

/-- the result record of a resolved use at byte `a` -/
def resOf (a : Nat) (T : List Char) (e : Option (List Char)) (r : Refs.Entry) : LinkRes :=
  { labelStart := a + 1, labelEnd := a + 1 + byteLen T, href := some r.dest,
    title := r.title.map (fun t => t.map Char.ofNat), endPos := a + byteLen (useOf T e) }

/-- **`parse_link` on a reference use** at byte `|a|` of a text that ends with the use: the label walk
    finds the `]` behind the plain text, the inline form declines, the second bracket pair (if any) is
    walked, and the outcome is the lookup of the selected label — the state comes back with at most
    the two memo entries of the two plain stretches added. -/
theorem parseLink_use {cfg : Cfg} (h : ChainOK cfg) (f fuel : Nat) (en : Bool) {st : IState}
    {c : List Char} {x : Nat} (hfr : Fr st c x) (a T : List Char) (e : Option (List Char))
    (hc : c = a ++ useOf T e) (hm : st.posMax = byteLen c) (hT : PlainTxt T) (he : PlainTxt (e.getD []))
    (hl : st.level < cfg.maxNesting) (S : List (Nat × Nat)) (hcache : CacheIn S st.cache)
    (hsub : ∀ p ∈ Entries (byteLen a) T e, p ∈ S)
    (hf1 : ∀ v, (byteLen a + 1, v) ∈ S → v = byteLen a + 1 + byteLen T)
    (hf2 : ∀ v, (byteLen a + byteLen T + 3, v) ∈ S → v = byteLen a + byteLen T + 3 + byteLen (e.getD [])) :
    ∃ cache', parseLink cfg (fun s => skipToken cfg (f + 1) s) (fuel + 2) st (byteLen a) en =
        .ok ((look cfg (labelOf T e)).map (resOf (byteLen a) T e), { st with cache := cache' }) ∧
      CacheIn S cache' := by
  have hk1 : (byteLen a + 1, byteLen a + 1 + byteLen T) ∈ S := hsub _ (by simp [Entries])
  have hk2 : (byteLen a + byteLen T + 3, byteLen a + byteLen T + 3 + byteLen (e.getD [])) ∈ S :=
    hsub _ (by simp [Entries])
  have hkey : ∀ {cache : List (Nat × Nat)}, CacheIn S cache →
      (∀ v, cache.lookup (byteLen a + 1) = some v → v = byteLen a + 1 + byteLen T) ∧
      (∀ v, cache.lookup (byteLen a + byteLen T + 3) = some v →
        v = byteLen a + byteLen T + 3 + byteLen (e.getD [])) :=
    fun hci => ⟨fun v hv => hf1 v (hci _ _ hv), fun v hv => hf2 v (hci _ _ hv)⟩
  -- first label walk
  obtain ⟨cache1, hpl1, hcs1⟩ := parseLinkLabel_plain h f fuel en hfr a T (tailOf e)
    (by rw [hc]; rfl) hm hT hl (hkey hcache).1
  have hci1 : CacheIn S cache1 := hcache.step hcs1 hk1
  have hfr1 : Fr ({ st with cache := cache1 } : IState) c x := ⟨hfr.src, hfr.map⟩
  -- the text behind the first pair
  have hctail : c = (a ++ '[' :: (T ++ [']'])) ++ tailOf e ++ [] := by rw [hc]; simp [useOf]
  have hlen1 : byteLen (a ++ '[' :: (T ++ [']'])) = byteLen a + 1 + byteLen T + 1 := by
    simp only [byteLen_append, byteLen_cons, sz_open, sz_close, byteLen_nil]; omega
  have hclen : byteLen c = byteLen a + 1 + byteLen T + 1 + byteLen (tailOf e) := by
    rw [hc, byteLen_append, byteLen_useOf]; omega
  have hstail : slice st.src (byteLen a + 1 + byteLen T + 1) st.posMax = .ok (tailOf e) := by
    have := hfr.slice _ (tailOf e) [] hctail
    rw [hlen1] at this
    rw [hm, hclen]; exact this
  have hsT : slice st.src (byteLen a + 1) (byteLen a + 1 + byteLen T) = .ok T := by
    have := hfr.slice (a ++ ['[']) T (']' :: tailOf e) (by rw [hc]; simp [useOf])
    simpa [byteLen_append, bl_open] using this
  have hnoparen : ∀ r, tailOf e ≠ '(' :: r := by
    intro r; cases e <;> simp [tailOf]
  unfold parseLink
  simp only [hpl1]
  rw [parseInlineTail_none _ _ _ _ (tailOf e) hstail hnoparen]
  simp only
  unfold parseLinkRef
  simp only [hstail, liftOps, liftR]
  cases e with
  | none =>
    refine ⟨cache1, ?_, hci1⟩
    simp only [tailOf, look, labelOf, Refs.selectLabel, Option.map_none]
    cases hrefs : cfg.refs with
    | none => rfl
    | some R =>
      simp only [hsT, cps]
      cases hlk : Refs.lookup cfg.normRef R (List.map Char.toNat T) with
      | none => rfl
      | some r =>
        simp only [Option.map_some, resOf, byteLen_useOf, tailOf, byteLen]
        congr 3
        simp only [LinkRes.mk.injEq, true_and]
        omega
  | some L2 =>
    -- second label walk
    have hl1 : ({ st with cache := cache1 } : IState).level < cfg.maxNesting := hl
    have hc2 : c = (a ++ '[' :: (T ++ [']'])) ++ '[' :: (L2 ++ ']' :: []) := by rw [hc]; simp [useOf, tailOf]
    obtain ⟨cache2, hpl2, hcs2⟩ := parseLinkLabel_plain h f fuel false hfr1 (a ++ '[' :: (T ++ [']'])) L2 []
      hc2 hm he hl1 (by
        rw [hlen1]
        have := (hkey hci1).2
        simp only [Option.getD_some] at this
        intro v hv
        have := this v (by rw [show byteLen a + byteLen T + 3 = byteLen a + 1 + byteLen T + 1 + 1 by omega]; exact hv)
        omega)
    rw [hlen1] at hpl2 hcs2
    have hci2 : CacheIn S cache2 := by
      refine hci1.step hcs2 ?_
      have := hk2
      simp only [Option.getD_some] at this
      rw [show byteLen a + 1 + byteLen T + 1 + 1 = byteLen a + byteLen T + 3 by omega]
      exact this
    refine ⟨cache2, ?_, hci2⟩
    have hsL2 : slice st.src (byteLen a + 1 + byteLen T + 1 + 1) (byteLen a + 1 + byteLen T + 1 + 1 + byteLen L2) = .ok L2 := by
      have := hfr.slice (a ++ '[' :: (T ++ [']']) ++ ['[']) L2 [']'] (by rw [hc]; simp [useOf, tailOf])
      rw [byteLen_append, hlen1, bl_open] at this
      exact this
    simp only [tailOf, hpl2, hsL2, look]
    cases hrefs : cfg.refs with
    | none => rfl
    | some R =>
      simp only
      cases L2 with
      | nil =>
        simp only [hsT, labelOf, Refs.selectLabel, cps, Option.map_some, List.map_nil]
        cases hlk : Refs.lookup cfg.normRef R (List.map Char.toNat T) with
        | none => rfl
        | some r =>
          simp only [Option.map_some, resOf, byteLen_useOf, tailOf, byteLen, List.nil_append]
          congr 3
          simp only [LinkRes.mk.injEq, true_and]
          have : ']'.utf8Size = 1 := by decide
          have : '['.utf8Size = 1 := by decide
          omega
      | cons l0 L2' =>
        simp only [labelOf, Refs.selectLabel, cps, Option.map_some, List.map_cons]
        cases hlk : Refs.lookup cfg.normRef R (l0.toNat :: List.map Char.toNat L2') with
        | none => rfl
        | some r =>
          simp only [Option.map_some, resOf, byteLen_useOf, tailOf, byteLen_cons, byteLen_append, sz_open,
            sz_close, byteLen_nil]
          congr 3
          simp only [LinkRes.mk.injEq, true_and]
          omega

end MdIt.C13D
