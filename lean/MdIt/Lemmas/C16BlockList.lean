/-
  C16 on the block side: THE LIST RULE AS A CALLER OF THE SWEEP (item termination).
  * `upd2` / `runRuleH_silent_congr2`: the instance of `runRuleH_silent_row` for a state with another node
    kind and nesting level (and tree / `tight` / reference map), for every shipped rule BUT THE LIST RULE;
    the list rule reads the node kind: inside a list it never interrupts (`list_in_list`).
  * `listLoop_exit`, `listRule_ok`: how the list rule ends — the state it returns is the state `sL` at
    which its item loop stopped, with level / node kind restored and the list pushed; the loop stopped at
    the end of the frame or by `listContinue` ON `sL` (the termination test: the sweep is called on `sL`
    itself, at `sL.line`).
-/
import MdIt.Lemmas.C16BlockEng

namespace MdIt.BlockH.C16
open MdIt.Block
open MdIt.Lines (LineOffset)

/-- `s` with another tree, `tight`, reference map, NODE KIND and LEVEL -/
def upd2 (s : BState) (c : List BNode) (b : Bool) (m : Refs.RefMap) (k : Kind) (lv : Nat) : BState :=
  { s with children := c, tight := b, refs := m, nodeKind := k, level := lv }

@[simp] theorem upd2_lineIndent (s c b m k lv n) : (upd2 s c b m k lv).lineIndent n = s.lineIndent n := rfl
@[simp] theorem upd2_getLine (s c b m k lv n) : (upd2 s c b m k lv).getLine n = s.getLine n := rfl
@[simp] theorem upd2_line (s c b m k lv) : (upd2 s c b m k lv).line = s.line := rfl
@[simp] theorem upd2_off (s c b m k lv n) : (upd2 s c b m k lv).off n = s.off n := rfl

abbrev mp2 (c : List BNode) (b : Bool) (m : Refs.RefMap) (k : Kind) (lv : Nat) : Bool × BState → Bool × BState :=
  fun r => (r.1, upd2 r.2 c b m k lv)

/-- **what look-ahead reads, second part**: every shipped rule but the list rule answers on `upd2 s …`
    what it answers on `s` -/
theorem runRuleH_silent_congr2 (cfg : Cfg) (tok : Tok) (test : Test) (fuel : Nat) (r : RuleIdH)
    (hr : r ≠ .base .list) (s c b m k lv) :
    runRuleH cfg tok test fuel r (upd2 s c b m k lv) true =
      Except.map (mp2 c b m k lv) (runRuleH cfg tok test fuel r s true) :=
  silent_map_of_row (R := fun s => runRuleH cfg tok test fuel r s true) (upd2 · c b m k lv)
    (runRuleH_silent_row (.refl s) cfg tok tok test test fuel fuel r fun _ => rfl)
    (runRuleH_silent_row (s := s) (t := upd2 s c b m k lv) ⟨rfl, rfl, rfl, rfl, rfl⟩ cfg tok tok test test
      fuel fuel r fun h => absurd h hr)

/-- inside a list the list rule never says yes in look-ahead mode -/
theorem list_in_list {ι : Type} (E : Eng ι) {f : Nat} {i : ι} {s : BState} (hi : E.base i = some .list)
    (hk : isListKind s.nodeKind = true) : E.rule f i s true = .ok (false, s) := by
  rw [E.rule_base f i _ hi]
  simp only [runRule, listRule, hk, and_self, if_true]
  rfl

/-- the second half of the contract: look-ahead of every member but the list rule reads neither node
    kind nor level -/
def Eng.OK2 {ι : Type} (E : Eng ι) : Prop :=
  ∀ f i s c b m k lv, E.base i ≠ some .list →
    E.rule f i (upd2 s c b m k lv) true = Except.map (mp2 c b m k lv) (E.rule f i s true)

theorem engH_ok2 (cfg : Cfg) (chain : List RuleIdH) : (engH cfg chain).OK2 := by
  intro f i s c b m k lv hi
  refine runRuleH_silent_congr2 _ _ _ _ i ?_ ..
  rintro rfl
  exact hi rfl

theorem engX_ok2 {X : BState → Bool → Res}
    (hX2 : ∀ s c b m k lv, X (upd2 s c b m k lv) true = Except.map (mp2 c b m k lv) (X s true))
    (cfg : Cfg) (chain : List RuleIdX) : (engX X cfg chain).OK2 := by
  intro f i s c b m k lv hi
  cases i with
  | custom => exact hX2 ..
  | std i =>
    refine runRuleH_silent_congr2 _ _ _ _ i ?_ ..
    rintro rfl
    exact hi rfl

/-! ## how the list rule ends -/

theorem listContinue_same {test : Test} (ht : TestQuiet test) {ordered : Bool} {mc : Char} {s s' : BState}
    {n : Nat} {o : Option Nat} (h : listContinue test ordered mc s n = .ok (o, s')) : s' = s := by
  rcases listContinue_ok h with ⟨_, rfl | ⟨t, S, hS, rfl⟩⟩ | ⟨_, S, _, _, _, _, _, _, hS, _, _, _, _, rfl⟩
  · rfl
  · exact ht _ _ _ hS
  · exact ht _ _ _ hS

theorem listItem_nodeKind {tok : Tok} {s s' : BState} {nl p : Nat} {pee tight pee' tight' : Bool}
    (h : listItem tok s nl p pee tight = .ok (s', tight', pee')) : s'.nodeKind = s.nodeKind := by
  obtain ⟨_, _, _, _, _, _, _, _, _, _, _, _, _, _, _, _, _, rfl⟩ := listItem_ok h
  rfl

/-- **how the item loop ends**: at a state `sL` with the node kind it started with, `next_line = sL.line`,
    and either at the end of the frame or by the termination test `listContinue` ON `sL` at `sL.line`
    (which handed `sL` back: the model restores `line` after the sweep) -/
theorem listLoop_exit {tok : Tok} {test : Test} (ht : TestQuiet test) {ordered : Bool} {mc : Char} :
    ∀ (fuel : Nat) (s : BState) (nl p : Nat) (pee tight : Bool) (nl' : Nat) (tight' : Bool) (sL : BState),
      listLoop tok test ordered mc fuel s nl p pee tight = .ok (nl', tight', sL) → nl = s.line →
      sL.nodeKind = s.nodeKind ∧ nl' = sL.line ∧
      ((¬ sL.line < sL.lineMax) ∨ listContinue test ordered mc sL sL.line = .ok (none, sL)) := by
  intro fuel
  induction fuel with
  | zero => intro s nl p pee tight nl' tight' sL h; simp [listLoop] at h
  | succ f ih =>
    intro s nl p pee tight nl' tight' sL h hnl
    simp only [listLoop] at h
    split at h
    · rename_i hc
      simp only [Except.ok.injEq, Prod.mk.injEq] at h
      obtain ⟨rfl, _, rfl⟩ := h
      exact ⟨rfl, hnl, .inl (by rw [← hnl]; exact hc)⟩
    · obtain ⟨⟨s1, tight1, pee1⟩, hitem, h⟩ := bind_ok.mp h
      dsimp only at h
      obtain ⟨⟨cont, s2⟩, hcont, h⟩ := bind_ok.mp h
      dsimp only at h
      have h21 : s2 = s1 := listContinue_same ht hcont
      subst h21
      have hk := listItem_nodeKind hitem
      split at h
      · simp only [Except.ok.injEq, Prod.mk.injEq] at h
        obtain ⟨rfl, _, rfl⟩ := h
        exact ⟨hk, rfl, .inr hcont⟩
      · obtain ⟨h1, h2, h3⟩ := ih _ _ _ _ _ _ _ _ h rfl
        exact ⟨h1.trans hk, h2, h3⟩

/-- **what the list rule does when it accepts**: it returns the state `sL` at which its item loop stopped
    — a state whose node kind is the list's —, with the level one lower, the old node kind and the list
    pushed -/
theorem listRule_ok {tok : Tok} {test : Test} (ht : TestQuiet test) {fuel : Nat} {s s1 : BState}
    (h : listRule tok test fuel s false = .ok (true, s1)) :
    ∃ (ordered : Bool) (mc : Char) (sL : BState) (lvl : Nat) (node : BNode),
      isListKind sL.nodeKind = true ∧
      ((¬ sL.line < sL.lineMax) ∨ listContinue test ordered mc sL sL.line = .ok (none, sL)) ∧
      s1 = { sL with level := lvl, nodeKind := s.nodeKind, children := s.children ++ [node] } := by
  rcases Block.listRule_ok h with ⟨hb, _⟩ | ⟨_, _, _, mv, _, _, _, _, _, _, _, _, _, hs⟩
  · cases hb
  rcases hs with ⟨hs, _⟩ | ⟨_, mc, _, _, sL, _, _, _, hloop, _, _, _, _, rfl⟩
  · cases hs
  obtain ⟨hk, _, hex⟩ := listLoop_exit ht _ _ _ _ _ _ _ _ _ hloop rfl
  exact ⟨_, mc, sL, _, _, by rw [hk]; cases mv <;> rfl, hex, rfl⟩

end MdIt.BlockH.C16
