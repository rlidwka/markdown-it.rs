/-
  The rules of the inline parser without look-ahead recursion other than emphasis — text, the
  fall-back of the tokenizer loop, escape, entity, autolink, code span, newline — keep the frame
  invariant `ICF` of Lemmas/InlineCert.lean, in real mode.

  Shape of every rule lemma (`ic_rule<X>`):
    Stretch st.src W S → ICF st.src st.srcmap W S A lo st.posMax st.pos st.children →
    rule<X> … st false = .ok (o, st') →
    ICF st.src st.srcmap W S A lo st.posMax (st'.pos + o.getD 0) st'.children
  No hypothesis on the table: the translated offsets are those the rule's own `get_map` calls
  return.  The one exception is the newline rule (`ic_pop`): `trailing_text_pop` subtracts the
  number of popped blanks from a SOURCE offset, which is the translation of `pos - tail` because
  the trailing text is a `W` stretch without line feed (`Shift`).
  Name prefix `ic_`: a lemma of the certificate walk.
-/
import MdIt.Lemmas.InlineCertBase
import MdIt.Lemmas.C05TabsClosers

namespace MdIt.IC
open MdIt.Inline
open MdIt.InlineOps (Srcmap getSourcePosFor getMap byteLen slice)
open MdIt.C05R (Cut Bdy Adjd TextLike)
open MdIt.C05T (CharAt NoTextLast isCode)

variable {c : List Char} {m : Srcmap} {W : Nat → Nat → Prop}

/-! ## `trailing_text_push` -/

/-- **`trailing_text_push(pos, stop)` keeps the frame invariant** (`pos < stop ≤ pm`, `stop` a
    boundary; in a frame where the newline rule is active the piece holds no line feed).  A fresh
    text is `W` because it starts with a solid character (`Stretch.solid`) or, if it starts with a
    blank, by `anch` (`Stretch.start`); a grown text by `trail` and `Stretch.extend`. -/
theorem ic_pushText {S : Nat → Prop} {A : Prop} {lo pm pos stop : Nat} {cs out : List Node}
    (hs : Stretch c W S) (hf : ICF c m W S A lo pm pos cs) (hlt : pos < stop) (hpm : stop ≤ pm)
    (hb : Bdy c stop) (hp : trailingTextPush c m cs pos stop = .ok out)
    (hpc : A → ∀ piece, slice c pos stop = .ok piece → '\n' ∉ piece) :
    ICF c m W S A lo pm stop out := by
  obtain ⟨piece, hsl, hshape⟩ := trailingTextPush_cases hp
  have hcp : Cut c pos stop piece := (C05R.cut_iff_ops _ _ _ _).mp hsl
  rcases hshape with ⟨x, y, hout, hnt, hx, hy⟩ | ⟨init, last, r, hcs, hlast, hout, hrg⟩
  · -- a fresh node
    have hntl : NoTextLast cs := fun i l hil => hnt l (C05R.fi_getLast_snoc hil)
    have hW : '\n' ∉ piece → W pos stop := by
      intro hn
      cases hpe : piece with
      | nil =>
        exfalso
        have := hcp.len
        rw [hpe] at this; simp only [byteLen] at this; omega
      | cons ch rest =>
        rw [hpe] at hcp hn
        have hch : ch ≠ '\n' := fun e => hn (by rw [e]; simp)
        have hrest : '\n' ∉ rest := fun e => hn (by simp [e])
        by_cases hsp : ch = ' '
        · subst hsp
          exact hs.start (hf.anch hntl (by omega) (C05T.tx_charAt_of_cut hcp)) hcp hn
        · exact hs.solid hcp hsp hch hrest
    have hn : ICN c m W false pos stop (Node.newText piece (some (x, y))) :=
      icn_text (n := Node.newText piece (some (x, y))) rfl rfl rfl hx hy hlt hcp hW
    subst hout
    refine ⟨hb, hf.tiles.snoc hn (Nat.le_refl _) (Nat.le_refl _), ?_, ?_, ?_, ?_, ?_⟩
    · refine (C05R.fi_adjd_snoc _ _).mpr ⟨hf.adj, ?_⟩
      intro y0 hy0 ht0 _
      obtain ⟨i0, hi0⟩ := C05R.fi_snoc_of_getLast hy0
      obtain ⟨a, b, hab, hbpos⟩ := hf.tail i0 y0 hi0 ht0
      rw [hx] at hbpos; simp only [Except.ok.injEq] at hbpos; subst hbpos
      exact ⟨a, x, y, hab, rfl⟩
    · intro i l hil _
      obtain ⟨_, rfl⟩ := snoc_inj hil
      exact ⟨x, y, rfl, hy⟩
    · intro i l hil _
      obtain ⟨rfl, rfl⟩ := snoc_inj hil
      exact ⟨pos, pos, hf.tiles, Nat.le_refl _, hn⟩
    · intro hA i l hil _
      obtain ⟨_, rfl⟩ := snoc_inj hil
      exact hpc hA piece hsl
    · intro hno
      have := hno cs _ rfl
      simp [Node.newText, Node.isText] at this
  · -- the trailing text grows
    obtain ⟨mid, p, hinit, hmp, hlastN⟩ := hf.trail init last hcs hlast
    obtain ⟨hch, ⟨a, b, hrange, hpa, _⟩, hplt, hc0, hw0⟩ := hlastN.text_inv hlast
    obtain ⟨b', hb', hr'⟩ := hrg a b hrange
    subst hr'
    have htl := C05R.fi_textLike_of_isText hlast
    have hn : ICN c m W false p stop
        (Node.mk (.text (last.content ++ piece)) (some (a, b')) last.children) := by
      refine icn_text (n := Node.mk (.text (last.content ++ piece)) (some (a, b')) last.children)
        rfl hch rfl hpa hb' (by omega) (hc0.append hcp) ?_
      intro hnl
      exact hs.extend (hw0 (fun e => hnl (List.mem_append_left _ e))) hcp
        (fun e => hnl (List.mem_append_right _ e))
    subst hcs hout
    have hadj := (C05R.fi_adjd_snoc _ _).mp hf.adj
    refine ⟨hb, hinit.snoc hn hmp (Nat.le_refl _), ?_, ?_, ?_, ?_, ?_⟩
    · refine (C05R.fi_adjd_snoc _ _).mpr ⟨hadj.1, ?_⟩
      intro y0 hy0 ht0 _
      obtain ⟨a1, b1, b2, e1, e2⟩ := hadj.2 y0 hy0 ht0 htl
      rw [hrange] at e2; simp only [Option.some.injEq, Prod.mk.injEq] at e2
      obtain ⟨rfl, rfl⟩ := e2
      exact ⟨a1, a, b', e1, rfl⟩
    · intro i l hil _
      obtain ⟨_, rfl⟩ := snoc_inj hil
      exact ⟨a, b', rfl, hb'⟩
    · intro i l hil _
      obtain ⟨rfl, rfl⟩ := snoc_inj hil
      exact ⟨mid, p, hinit, hmp, hn⟩
    · intro hA i l hil _
      obtain ⟨_, rfl⟩ := snoc_inj hil
      have hold := hf.nolf hA init last rfl hlast
      have hpn := hpc hA piece hsl
      show '\n' ∉ last.content ++ piece
      intro hmem
      rcases List.mem_append.mp hmem with h' | h'
      · exact hold h'
      · exact hpn h'
    · intro hno
      have := hno init _ rfl
      simp [Node.isText] at this

/-! ## the rules: text, fall-back -/

theorem ic_ruleText {S : Nat → Prop} {A : Prop} {lo : Nat} {st st' : IState} {o : Option Nat}
    (hs : Stretch st.src W S)
    (hf : ICF st.src st.srcmap W S A lo st.posMax st.pos st.children)
    (h : ruleText st false = .ok (o, st')) :
    ICF st.src st.srcmap W S A lo st.posMax (st'.pos + o.getD 0) st'.children := by
  rcases ruleText_inv h with ⟨rfl, rfl⟩ | ⟨w, len, hw, hlen, hne, rfl, hp⟩
  · simp only [Option.getD_none, Nat.add_zero]; exact hf
  · obtain ⟨cs, hcs, rfl⟩ := pushText_eq hp
    simp only [Option.getD_some]
    -- the piece is the run of non-stop characters in front of the window
    obtain ⟨hall, hsplit, _⟩ := Entity.splitRun_sound (fun c => !Entity.textStop.contains c) w
    have hwin := window_eq hw
    rw [hsplit] at hwin
    have hcut := C05R.fi_cut_of_slice_prefix hwin
    rw [← hlen] at hcut
    have hle : st.pos + len ≤ st.posMax := by
      obtain ⟨_, _, hl⟩ := slice_boundaries hwin
      rw [C05.byteLen_append, ← hlen] at hl; omega
    refine ic_pushText hs hf (by omega) hle hcut.bdy_right hcs ?_
    intro _ piece hpiece
    rw [((C05R.cut_iff_ops _ _ _ _).mp hpiece).unique hcut]
    intro hmem
    have := hall _ hmem
    rw [C05T.tv_textStop_lf] at this
    cases this

/-- the fall-back of the tokenizer loop: the first character of the window goes to the pending
    text; in a frame where the newline rule is active it is not a line feed -/
theorem ic_fallback {S : Nat → Prop} {A : Prop} {lo : Nat} {st st' : IState} {ch : Char}
    (hs : Stretch st.src W S)
    (hf : ICF st.src st.srcmap W S A lo st.posMax st.pos st.children)
    (hch : firstChar st = .ok ch) (hnl : A → ch ≠ '\n')
    (h : st.pushText st.pos (st.pos + ch.utf8Size) = .ok st') :
    ICF st.src st.srcmap W S A lo st.posMax (st'.pos + ch.utf8Size) st'.children := by
  obtain ⟨cs, hcs, rfl⟩ := pushText_eq h
  unfold firstChar at hch
  split at hch
  · simp at hch
  · simp at hch
  · next x rest hw =>
    simp only [Except.ok.injEq] at hch; subst hch
    have hsl := window_eq (liftR_ok.mp hw)
    have hcut := C05R.fi_cut_of_slice_prefix (u := [x]) (v := rest) hsl
    simp only [byteLen, Nat.add_zero] at hcut
    have hle : st.pos + x.utf8Size ≤ st.posMax := by
      obtain ⟨_, _, hl⟩ := slice_boundaries hsl
      simp only [byteLen] at hl; omega
    have := Char.utf8Size_pos x
    refine ic_pushText hs hf (by show st.pos < st.pos + x.utf8Size; omega) hle hcut.bdy_right
      hcs ?_
    intro hA piece hpiece
    rw [((C05R.cut_iff_ops _ _ _ _).mp hpiece).unique hcut]
    intro hmem
    simp only [List.mem_singleton] at hmem
    exact hnl hA hmem.symm

/-! ## escape, entity -/

theorem ic_ruleEscape {S : Nat → Prop} {A : Prop} {lo : Nat} {st st' : IState} {o : Option Nat}
    (hs : Stretch st.src W S)
    (hf : ICF st.src st.srcmap W S A lo st.posMax st.pos st.children)
    (h : ruleEscape st false = .ok (o, st')) :
    ICF st.src st.srcmap W S A lo st.posMax (st'.pos + o.getD 0) st'.children := by
  rcases ruleEscape_inv h with ⟨rfl, rfl⟩ | ⟨w, len, ⟨rx, ry⟩, hw, hc, hr, rfl, rfl⟩ |
    ⟨w, sp, ⟨rx, ry⟩, hw, hc, hr, rfl, rfl⟩
  · exact ic_none hf
  · have hsl := window_eq hw
    obtain ⟨run, rest2, hw', hbl, hhead⟩ := C05T.tx_hardbreak_split hc
    obtain ⟨e1, e2, _⟩ := getMap_eq hr
    simp only [Option.getD_some, IState.push]
    rw [hw'] at hsl
    have hb : Bdy st.src (st.pos + len) := by
      rw [← hbl]; exact boundary_in_slice hsl
    have c1 : ('\\' : Char).utf8Size = 1 := by decide
    have c2 : ('\n' : Char).utf8Size = 1 := by decide
    have hb2 : Bdy st.src (st.pos + 2) := by
      have := boundary_in_slice (u := ['\\', '\n']) (v := run ++ rest2) (by simpa using hsl)
      simp only [byteLen, c1, c2] at this
      exact this
    have hlen : 2 ≤ len := by
      rw [← hbl]; simp only [byteLen, c1, c2]; omega
    refine hf.push (n := Node.leaf .hardbreak (some (rx, ry)))
      (icn_plain e1 e2 hf.bpos hb2 (by omega) (by intro t e; cases e) (by intro x y z e; cases e)
        (by intro mk l rem o c e; cases e) trivial ((ICL_nil ..).mpr (by omega)))
      (Nat.le_refl _) (by omega) hb
      (C05R.fi_not_textLike (by intro t e; cases e) (by intro mk l rem o c e; cases e)) ?_
    -- behind the blanks no blank stands
    intro hlt hca
    exfalso
    rw [← hbl] at hlt hca
    exact C05T.tx_no_space_at hsl hhead hlt hca
  · have hsl := window_eq hw
    obtain ⟨chr, w', hw', hmk, hnl⟩ := C05T.tx_escapeCore_special hc
    obtain ⟨e1, e2, _⟩ := getMap_eq hr
    simp only [Option.getD_some, IState.push]
    have hcut : Cut st.src st.pos (st.pos + byteLen sp.markup) sp.markup := by
      rw [hmk]
      exact C05R.fi_cut_of_slice_prefix (u := ['\\', chr]) (v := w') (by rw [hw'] at hsl; exact hsl)
    have hcut' : Cut st.src st.pos (st.pos + byteLen sp.markup) ('\\' :: [chr]) := by
      rw [← hmk]; exact hcut
    have hnl' : '\n' ∉ [chr] := by
      intro hm; simp only [List.mem_singleton] at hm; exact hnl hm.symm
    have hnm : '\n' ∉ sp.markup := by rw [hmk]; exact lf_not_mem_cons (by decide) hnl'
    exact hf.push (icn_special e1 e2 hcut hnm (hs.solid hcut' (by decide) (by decide) hnl'))
      (Nat.le_refl _) (Nat.le_refl _) hcut.bdy_right
      (C05R.fi_not_textLike (by intro t e; cases e) (by intro mk l rem o c e; cases e))
      (fun _ _ => hs.after hcut' (by decide) (by decide) hnl')

theorem ic_ruleEntity {S : Nat → Prop} {A : Prop} {cfg : Cfg} {lo : Nat} {st st' : IState}
    {o : Option Nat} (hs : Stretch st.src W S)
    (hf : ICF st.src st.srcmap W S A lo st.posMax st.pos st.children)
    (h : ruleEntity cfg st false = .ok (o, st')) :
    ICF st.src st.srcmap W S A lo st.posMax (st'.pos + o.getD 0) st'.children := by
  rcases ruleEntity_inv h with ⟨rfl, rfl⟩ | ⟨rest0, suffix, sp, ⟨rx, ry⟩, _, hsuf, hc, hr, rfl, rfl⟩
  · exact ic_none hf
  · obtain ⟨t, rest, hmk, hsfx, hent⟩ := entityCore_some hc
    obtain ⟨e1, e2, _⟩ := getMap_eq hr
    simp only [Option.getD_some, IState.push]
    have hcut : Cut st.src st.pos (st.pos + byteLen sp.markup) sp.markup :=
      C05R.fi_cut_of_slice_prefix (u := sp.markup) (v := rest)
        (by rw [← hsfx]; exact liftOps_ok.mp hsuf)
    have hcut' : Cut st.src st.pos (st.pos + byteLen sp.markup) ('&' :: t) := by
      rw [← hmk]; exact hcut
    have hnl := C05T.tx_entChar_not_lf hent
    have hnm : '\n' ∉ sp.markup := by rw [hmk]; exact lf_not_mem_cons (by decide) hnl
    exact hf.push (icn_special e1 e2 hcut hnm (hs.solid hcut' (by decide) (by decide) hnl))
      (Nat.le_refl _) (Nat.le_refl _) hcut.bdy_right
      (C05R.fi_not_textLike (by intro t e; cases e) (by intro mk l rem o c e; cases e))
      (fun _ _ => hs.after hcut' (by decide) (by decide) hnl)

/-! ## autolinks -/

/-- the url of a successful autolink is not empty: both patterns ask for a first character.
    (`ruleAutolink_inv` forgets the verdict of the two patterns; the certificate of the `Text` child
    needs it, because a `Text` outside a code span covers a NON-EMPTY stretch.) -/
theorem autolink_url_ne {st st' : IState} {len p : Nat} {rest url : List Char}
    (h : ruleAutolink st false = .ok (some len, st')) (hw : st.window = .ok ('<' :: rest))
    (hscan : autolinkScan rest (st.pos + 2) = some p)
    (hurl : liftOps (slice st.src (st.pos + 1) (p - 1)) = .ok url) : url ≠ [] := by
  intro e; subst e
  unfold ruleAutolink at h
  rw [hw] at h
  simp only [ne_eq, not_true_eq_false, if_false] at h
  rw [hscan] at h
  simp only at h
  rw [hurl] at h
  have e1 : matchAutolinkRe [] = false := rfl
  have e2 : matchEmailRe [] = false := by decide
  simp [e1, e2] at h

theorem ic_ruleAutolink {S : Nat → Prop} {A : Prop} {lo : Nat} {st st' : IState} {o : Option Nat}
    (hs : Stretch st.src W S)
    (hf : ICF st.src st.srcmap W S A lo st.posMax st.pos st.children)
    (h : ruleAutolink st false = .ok (o, st')) :
    ICF st.src st.srcmap W S A lo st.posMax (st'.pos + o.getD 0) st'.children := by
  rcases ruleAutolink_inv h with ⟨rfl, rfl⟩ |
    ⟨rest, p, url, fullUrl, ⟨rx, ry⟩, ⟨ix, iy⟩, hw, hscan, hurl, hr', hri, rfl, rfl⟩
  · exact ic_none hf
  · have hsl := window_eq hw
    have hne := autolink_url_ne h hw hscan hurl
    obtain ⟨u, v, hr, hp⟩ := autolinkScan_spec hscan
    obtain ⟨e1, e2, _⟩ := getMap_eq hr'
    obtain ⟨f1, f2, _⟩ := getMap_eq hri
    have e : st.pos + (p - st.pos) = p := by omega
    show ICF st.src st.srcmap W S A lo st.posMax (st.pos + (p - st.pos)) _
    rw [e]
    have c1 : ('<' : Char).utf8Size = 1 := by decide
    have c2 : ('>' : Char).utf8Size = 1 := by decide
    have hcut := (C05R.cut_iff_ops _ _ _ _).mp (liftOps_ok.mp hurl)
    -- `<` starts the stretch of the url, `>` the stretch of what follows
    have hlt1 : Cut st.src st.pos (st.pos + 1) ['<'] := by
      have := C05R.fi_cut_of_slice_prefix (u := ['<']) (v := rest) hsl
      simpa [byteLen, c1] using this
    have hgt : Cut st.src (p - 1) p ['>'] := by
      have := C05T.tx_charAt_of_slice (u := '<' :: u) (x := '>') (v := v)
        (by rw [hr] at hsl; simpa using hsl)
      have hbl : st.pos + byteLen ('<' :: u) = p - 1 := by
        simp only [byteLen, c1]; omega
      rw [hbl] at this
      have := cut_of_charAt this c2
      rw [show p - 1 + 1 = p by omega] at this; exact this
    have hS1 : S (st.pos + 1) := hs.after hlt1 (by decide) (by decide) (by simp)
    have hulen : 0 < byteLen url := byteLen_pos_of_ne_nil hne
    have hclen := hcut.len
    exact hf.push (icn_oneText e1 e2 hf.bpos hgt.bdy_right
        (by intro t e; cases e) (by intro x y z e; cases e) (by intro mk l rem o c e; cases e)
        f1 f2 hcut.bdy_left hcut.bdy_right (by omega) hcut.le (by omega)
        (fun _ => ⟨by omega, hcut, fun hn => hs.start hS1 hcut hn⟩)
        (fun hex => by simp [isCode] at hex))
      (Nat.le_refl _) (Nat.le_refl _) hgt.bdy_right
      (C05R.fi_not_textLike (by intro t e; cases e) (by intro mk l rem o c e; cases e))
      (fun _ _ => hs.after hgt (by decide) (by decide) (by simp))

/-! ## code spans -/

theorem ic_ruleBackticks {S : Nat → Prop} {A : Prop} {lo : Nat} {st st' : IState} {o : Option Nat}
    (hs : Stretch st.src W S)
    (hf : ICF st.src st.srcmap W S A lo st.posMax st.pos st.children)
    (h : ruleBackticks st false = .ok (o, st')) :
    ICF st.src st.srcmap W S A lo st.posMax (st'.pos + o.getD 0) st'.children := by
  rcases ruleBackticks_inv h with ⟨rfl, c, rfl⟩ |
    ⟨oc, c, nd, ⟨rx, ry⟩, ⟨ix, iy⟩, hrun, hnd, hr, hri, rfl, rfl⟩
  · exact ic_none hf
  · obtain ⟨e1, e2, _⟩ := getMap_eq hr
    obtain ⟨f1, f2, _⟩ := getMap_eq hri
    obtain ⟨s1, s2, s3, s4, s5⟩ := run_node_shape (by decide) hrun hnd
    rw [s1] at e1
    rw [s2] at e2 s5
    obtain ⟨hlen, hclose⟩ := C05T.codeCloserOK _ _ _ h
    have hb : Bdy st.src (st.pos + oc.len) :=
      (codeBoundary_iff _ _).mp
        (CodePair.codepair_progress _ _ backtick_size _ _ _ _ _ _ _ _ hrun).2.2
    obtain ⟨w, hcut, hw⟩ := C05R.fi_run_cut (by decide) hrun hnd
    -- the closing backtick starts the stretch of what follows
    have hbt : Cut st.src (st.pos + oc.len - 1) (st.pos + oc.len) ['`'] := by
      have := cut_of_charAt hclose (by decide)
      rw [show st.pos + oc.len - 1 + 1 = st.pos + oc.len by omega] at this; exact this
    show ICF st.src st.srcmap W S A lo st.posMax (st.pos + oc.len) _
    exact hf.push (icn_oneText e1 e2 hf.bpos hb
        (by intro t e; cases e) (by intro x y z e; cases e) (by intro mk l rem o c e; cases e)
        f1 f2 hcut.bdy_left hcut.bdy_right s3 s4 s5
        (fun hex => by simp [isCode] at hex) (fun _ => ⟨w, hcut, hw⟩))
      (Nat.le_refl _) (Nat.le_refl _) hb
      (C05R.fi_not_textLike (by intro t e; cases e) (by intro mk l rem o c e; cases e))
      (fun _ _ => hs.after hbt (by decide) (by decide) (by simp))

/-! ## the newline rule -/

/-- **`trailing_text_pop` of the blanks before a line feed**, in a frame where the newline rule is
    active: the tiling, `adj` and the boundary at `pos - tail` hold.  The trailing text holds no line
    feed (`ICF.nolf`), so its own stretch `c[p..pos]` is `W` (text clause of its `ICN`); when the
    node keeps a non-empty `pre`, its new range end `xe - tail` IS the translated `pos - tail`
    (`e1`: the equation the rule's own `get_map` call returns) — the ONE use of `Shift` in the rules
    of this file (`Shift.wf` is not used at all). -/
theorem ic_pop {S : Nat → Prop} {A : Prop} {lo pm pos : Nat} {cs out : List Node}
    (hs : Stretch c W S) (hsh : Shift c m W) (hA : A) (hf : ICF c m W S A lo pm pos cs)
    (hpop : trailingTextPop cs (tailSpaces (trailingTextGet cs)) = .ok out)
    (hge : ¬ pos < tailSpaces (trailingTextGet cs)) {rx : Nat}
    (e1 : getSourcePosFor m (pos - tailSpaces (trailingTextGet cs)) = .ok rx) :
    Bdy c (pos - tailSpaces (trailingTextGet cs)) ∧
      ICL c m W false lo (pos - tailSpaces (trailingTextGet cs)) out ∧ Adjd out := by
  rcases pop_tail_cases hpop with ⟨h0, rfl⟩ | ⟨init, last, pre, hcs, hlt, htail, hget, hpre, hcase⟩
  · rw [h0]; exact ⟨hf.bpos, hf.tiles, hf.adj⟩
  · rw [hget] at hge e1 ⊢
    obtain ⟨mid, p, hinit, hmp, hlastN⟩ := hf.trail init last hcs hlt
    obtain ⟨hch, ⟨xs, xe, hrange, hxs, hxe⟩, hplt, hc0, hw0⟩ := ICN.text_inv hlastN hlt
    have hbl : byteLen last.content = byteLen pre + tailSpaces last.content := by
      conv => lhs; rw [hpre]
      rw [C05.byteLen_append, byteLen_replicate_space]
    -- the trailing text holds no line feed, so its stretch is `W`
    have hnolf : '\n' ∉ last.content := hf.nolf hA init last hcs hlt
    have hW : W p pos := hw0 hnolf
    have hlen := hc0.len
    have hstart : p + byteLen pre = pos - tailSpaces last.content := by omega
    -- the kept part
    have hcutpre : Cut c p (pos - tailSpaces last.content) pre := by
      rw [← hstart]
      exact C05R.fi_cut_of_slice_prefix (u := pre) (v := List.replicate (tailSpaces last.content) ' ')
        (by rw [← hpre]; exact (C05R.cut_iff_ops _ _ _ _).mpr hc0)
    have htl := C05R.fi_textLike_of_isText hlt
    subst hcs
    have hadj := (C05R.fi_adjd_snoc _ _).mp hf.adj
    rcases hcase with ⟨hpnil, rfl⟩ | ⟨hpne, a', b', hr', hle', rfl⟩ | ⟨_, hr', _⟩
    · -- the whole node goes
      exact ⟨hcutpre.bdy_right, hinit.widen (Nat.le_refl _) (by have := hcutpre.le; omega), hadj.1⟩
    · -- the node keeps `pre`, its range end moves left by `tail`
      rw [hrange] at hr'; simp only [Option.some.injEq, Prod.mk.injEq] at hr'
      obtain ⟨hr1, hr2⟩ := hr'
      subst hr1 hr2
      have hend : xe - tailSpaces last.content = rx := by
        have := hsh.shift p pos last.content (pos - tailSpaces last.content) pos rx xe hc0 hnolf hW
          (by omega) (by omega) (Nat.le_refl _) e1 hxe
        omega
      rw [hend]
      have hbp : 0 < byteLen pre := byteLen_pos_of_ne_nil hpne
      have hn : ICN c m W false p (pos - tailSpaces last.content)
          (Node.mk (.text pre) (some (xs, rx)) last.children) := by
        rw [hch]
        exact icn_newText hxs e1 hcutpre.bdy_left hcutpre.bdy_right hcutpre.le
          (fun _ => ⟨by omega, hcutpre, fun _ => hs.sub hW (Nat.le_refl _) hcutpre.le (by omega)⟩)
          (fun hex => by cases hex)
      refine ⟨hcutpre.bdy_right, hinit.snoc hn hmp (Nat.le_refl _), ?_⟩
      refine (C05R.fi_adjd_snoc _ _).mpr ⟨hadj.1, ?_⟩
      intro y hy hty _
      obtain ⟨a1, b1, b2, q1, q2⟩ := hadj.2 y hy hty htl
      rw [hrange] at q2; simp only [Option.some.injEq, Prod.mk.injEq] at q2
      exact ⟨a1, b1, rx, q1, by rw [← q2.1]⟩
    · rw [hrange] at hr'; cases hr'

theorem ic_ruleNewline {S : Nat → Prop} {A : Prop} {lo : Nat} {st st' : IState} {o : Option Nat}
    (hs : Stretch st.src W S) (hsh : Shift st.src st.srcmap W) (hA : A)
    (hf : ICF st.src st.srcmap W S A lo st.posMax st.pos st.children)
    (h : ruleNewline st false = .ok (o, st')) :
    ICF st.src st.srcmap W S A lo st.posMax (st'.pos + o.getD 0) st'.children := by
  rcases ruleNewline_inv h with ⟨rfl, rfl⟩ | ⟨rest, cs, rx, ry, hw, hpop, hge, e1, e2, rfl, rfl⟩
  · exact ic_none hf
  · have hsl := window_eq hw
    simp only [Option.getD_some]
    rw [← Nat.add_assoc]
    -- the cursor behind the line feed and the leading blanks of the next line
    have hsplit : '\n' :: rest
        = ('\n' :: List.takeWhile isSpTab rest) ++ List.dropWhile isSpTab rest := by
      simp [List.takeWhile_append_dropWhile]
    rw [hsplit] at hsl
    have e0 : ('\n' : Char).utf8Size = 1 := by decide
    have hbl : st.pos + byteLen ('\n' :: List.takeWhile isSpTab rest)
        = st.pos + 1 + (List.takeWhile isSpTab rest).length := by
      simp only [byteLen, e0, byteLen_takeWhile_spTab]; omega
    have hb : Bdy st.src (st.pos + 1 + (List.takeWhile isSpTab rest).length) := by
      rw [← hbl]; exact boundary_in_slice hsl
    obtain ⟨hbp, htiles, hadj⟩ := ic_pop hs hsh hA hf hpop hge e1
    refine icf_push htiles hadj
      (icn_plain e1 e2 hbp hb (by omega)
        (by intro t e; split at e <;> cases e) (by intro x y z e; split at e <;> cases e)
        (by intro mk l rem o c e; split at e <;> cases e) trivial ((ICL_nil ..).mpr (by omega)))
      (Nat.le_refl _) (Nat.le_refl _) hb
      (C05R.fi_not_textLike (by intro t e; split at e <;> cases e)
        (by intro mk l rem o c e; split at e <;> cases e)) ?_
    -- behind the blanks no blank stands
    intro hlt hca
    exfalso
    rw [← hbl] at hlt hca
    refine C05T.tx_no_space_at hsl ?_ hlt hca
    intro x r hxr hx
    have := C05T.tx_dropWhile_head hxr
    subst hx
    simp [isSpTab] at this

end MdIt.IC
