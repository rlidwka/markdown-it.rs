/-
  Helper development for `Props/C16Doc.lean` (property C16 over a whole run of the inline parser):
  THE RUN.

    * `Enters cfg f s y` — the real step of the tokenizer loop at the state `s` (callees at fuel `f`) enters
      the nested label frame whose start state is `y`: some link / image rule of the chain is reached
      (`Arrives`), its `parse_link` finds a label, and `y = nestedState st1 res` is the state the rule hands
      to `tokenize`;
    * `Reach cfg content mapping f s` — `s` is a state at which the `while state.pos < end` loop of
      `InlineParser::tokenize` stands, with `f` iterations of fuel left, somewhere in the run of
      `parseInline cfg content mapping` (top frame or any nested label frame);
    * `enters_called`, `arrives_called`, `tokLoop_succ` — the relation is faithful: a panic of the frame
      `y` IS the panic of the step that enters it, a panic of a rule call IS the panic of the chain, the
      loop is one `tokStep` and the loop again;
    * `top_rule`, `top_step_G` — the top frame (`TopSt`: `ES.TopInv`, `Good`, `MemoB`): a real rule call / a
      real step over the guarded callees is the call / step over the model's and keeps the invariant;
      `top_arrives` — so do the states along the real chain, at the same position; `top_enters`,
      `enters_nf` — every frame entered satisfies `ES.NF` (`ES.entryP_NF`);
    * `reach_inv` — **every reached state below the nesting limit is a state of the top frame
      (`TopSt`) or satisfies the invariant of the nested frames (`ES.NF`)**.
-/
import MdIt.Lemmas.C16DocNest

namespace MdIt.Inline.ES.C16Doc
open MdIt.Inline
open MdIt.InlineOps (Srcmap slice)
open MdIt.C05 (WFMap MonoMap byteLen_append slice_ok_iff)

/-! ## the states of a run -/

/-- the shape test of the link rule (`[`, `offset = 0`, no nested links) / the image rule (`![`,
    `offset = 1`) on the window of the state -/
def LinkShape (id : RuleId) (offset : Nat) (en : Bool) (x : IState) : Prop :=
  (id = .link ∧ offset = 0 ∧ en = false ∧ ∃ r, x.window = .ok ('[' :: r)) ∨
  (id = .image ∧ offset = 1 ∧ en = true ∧ ∃ r, x.window = .ok ('!' :: '[' :: r))

/-- **the real step at `s` (callees at fuel `f`) enters the nested label frame that starts at `y`** -/
def Enters (cfg : Cfg) (f : Nat) (s y : IState) : Prop :=
  ∃ (id : RuleId) (x : IState) (offset : Nat) (en : Bool) (res : LinkRes) (st1 : IState),
    Arrives (fun id s => runRule cfg (fun s => skipToken cfg f s) (fun s => tokLoop cfg f s.posMax s) f
      id s false) cfg.chain s id x ∧
    LinkShape id offset en x ∧
    parseLink cfg (fun s => skipToken cfg f s) f x (x.pos + offset) en = .ok (some res, st1) ∧
    y = nestedState st1 res

/-- **the states of the real tokenizer in the run of `parseInline cfg content mapping`**: `Reach … f s` —
    the loop of `tokenize` stands at `s` with `f` iterations of fuel left (top frame or nested frame) -/
inductive Reach (cfg : Cfg) (content : List Char) (mapping : Srcmap) : Nat → IState → Prop
  | init : Reach cfg content mapping (topFuel cfg content) (IState.init content mapping)
  | step {f : Nat} {s s' : IState} : Reach cfg content mapping (f + 1) s → s.pos < s.posMax →
      tokStep cfg (fun s => skipToken cfg f s) (fun s => tokLoop cfg f s.posMax s) f s = .ok s' →
      Reach cfg content mapping f s'
  | enter {f : Nat} {s y : IState} : Reach cfg content mapping (f + 1) s → s.pos < s.posMax →
      s.level < cfg.maxNesting → Enters cfg f s y → Reach cfg content mapping f y

/-! ## the relation is faithful to the model -/

/-- the loop is one step and the loop again (`Reach.step`) -/
theorem tokLoop_succ (cfg : Cfg) (f e : Nat) (s : IState) (hlt : s.pos < e) :
    tokLoop cfg (f + 1) e s =
      match tokStep cfg (fun s => skipToken cfg f s) (fun s => tokLoop cfg f s.posMax s) f s with
      | .error err => .error err
      | .ok s' => tokLoop cfg f e s' := by
  rw [tokLoop]
  simp only [if_pos hlt]
  rfl

/-- a rule the chain arrives at IS called: its panic is the panic of the chain -/
theorem arrives_called {run : RuleId → IState → RuleRes} {rules : List RuleId} {st : IState}
    {id : RuleId} {x : IState} (h : Arrives run rules st id x) {e : Panic} (he : run id x = .error e) :
    firstRule run rules st = .error e := by
  induction h with
  | here id rs st => unfold firstRule; rw [he]
  | next hrun _ ih => unfold firstRule; rw [hrun]; exact ih he

/-- a frame that is entered IS tokenized: its panic is the panic of the step that enters it -/
theorem enters_called {cfg : Cfg} {f : Nat} {s y : IState} (h : Enters cfg f s y)
    (hl : s.level < cfg.maxNesting) {e : Panic} (he : tokLoop cfg f y.posMax y = .error e) :
    tokStep cfg (fun s => skipToken cfg f s) (fun s => tokLoop cfg f s.posMax s) f s = .error e := by
  obtain ⟨id, x, offset, en, res, st1, hA, hshape, hp, rfl⟩ := h
  have hcall : runRule cfg (fun s => skipToken cfg f s) (fun s => tokLoop cfg f s.posMax s) f id x false
      = .error e := by
    have hlr : ∀ mk, linkRule cfg (fun s => skipToken cfg f s) (fun s => tokLoop cfg f s.posMax s) f mk
        en offset x false = .error e := by
      intro mk
      unfold linkRule
      simp only [hp, Bool.false_eq_true, if_false]
      have : tokLoop cfg f res.labelEnd (IState.mk st1.src st1.srcmap res.labelStart res.labelEnd
          (st1.level + 1) (st1.linkLevel + 1) st1.cache st1.backticks [] []) = .error e := he
      rw [this]
    rcases hshape with ⟨rfl, rfl, rfl, r, hr⟩ | ⟨rfl, rfl, rfl, r, hr⟩
    · rw [link_at hr]
      exact hlr _
    · rw [image_at hr]
      exact hlr _
  unfold tokStep
  simp only [if_pos hl]
  rw [arrives_called hA hcall]

/-- the `pos_max` of the top frame of the run -/
abbrev topEnd (content : List Char) (mapping : Srcmap) : Nat := (IState.init content mapping).posMax

/-! ## the invariant of the reached states -/

/-- a state of the top frame: the invariant of the memo development (`ES.TopInv` for the code-span
    cache invariant `BE cfg`), the no-panic invariants, and: rules never run at an escaped character -/
structure TopSt (cfg : Cfg) (content : List Char) (Mtop : Nat) (s : IState) : Prop where
  inv : TopInv cfg (BE cfg) content Mtop s
  good : ∃ lo, Good lo s
  memo : MemoB s
  ep : s.pos < s.posMax → EPc cfg content s.pos

/-- below the nesting limit a reached state is a state of the top frame or of a nested label frame -/
def RInv (cfg : Cfg) (content : List Char) (Mtop : Nat) (s : IState) : Prop :=
  s.level < cfg.maxNesting → TopSt cfg content Mtop s ∨ NF cfg (BE cfg) content Mtop s

section
variable {cfg : Cfg} {content : List Char} {mapping : Srcmap}

/-- the data of the memo development for a coherent chain on a content -/
theorem hyps_all (hc : ChainCoherent cfg = true)
    (hone : cfg.chain.count .link ≤ 1 ∧ cfg.chain.count .image ≤ 1) :
    NestHyps cfg (BE cfg) content (topEnd content mapping) :=
  nestHyps_all cfg content _ hc hone (CS.nocut_init content mapping)

/-- **one real rule call at a state of the top frame**: the call over the guarded callees is the call
    over the model's, and a declining call leads to a state of the top frame at the same position -/
theorem top_rule (hc : ChainCoherent cfg = true)
    (hone : cfg.chain.count .link ≤ 1 ∧ cfg.chain.count .image ≤ 1) {f : Nat} {s : IState}
    (T : TopSt cfg content (topEnd content mapping) s) (hlt : s.pos < s.posMax)
    {id : RuleId} (hid : id ∈ cfg.chain) :
    runRule cfg (fun s => skipTokenG cfg true f s) (fun s => tokLoopG cfg true f s.posMax s) f id s false
      = runRule cfg (fun s => skipToken cfg f s) (fun s => tokLoop cfg f s.posMax s) f id s false ∧
    ∀ s1, runRule cfg (fun s => skipTokenG cfg true f s) (fun s => tokLoopG cfg true f s.posMax s) f id s
        false = .ok (none, s1) →
      TopSt cfg content (topEnd content mapping) s1 ∧ s1.pos = s.pos ∧
        s1.posMax = s.posMax ∧ s1.src = s.src := by
  have H := hyps_all (content := content) (mapping := mapping) hc hone
  have hend := endHyp_holds cfg (BE cfg) (CS.nocut_init content mapping)
  have hep := endEP_holds cfg (BE cfg) (src := content) (Mtop := topEnd content mapping)
  have hq := skipTokenG_calm cfg true f
  obtain ⟨lo, hg⟩ := T.good
  obtain ⟨e1, n1⟩ := runRule_real_top (backOK_BE cfg) hend hep hq (skipTokenG_T cfg f) (skip_grow cfg f)
    (skip_top (backOK_BE cfg) hend hep (marksHyp_BE cfg) f) (skip_guard_free cfg f)
    (fun s hs => nested_tokEq H f s hs) (entryP_NF f) f id s hg T.memo hlt T.inv (T.ep hlt)
  refine ⟨e1, fun s1 h => ?_⟩
  have s1T := (runRule_real_T (coherent_hsz hc) hq (skipTokenG_T cfg f) (tokHypT_G cfg (coherent_hsz hc) f)
    (rangesFnG cfg true f) f hid s hg T.memo hlt).ok _ _ h
  have hp1 := s1T.nonePos rfl
  exact ⟨⟨n1 none s1 h, ⟨lo, Good.of_add_zero (by simpa using s1T.good)⟩, s1T.memo,
    fun _ => by rw [hp1]; exact T.ep hlt⟩, hp1, s1T.frame.posMax, s1T.frame.src⟩

/-- the state at which the real chain of the top frame arrives at a rule — over the guarded callees
    (`g = true`) or the model's (`g = false`) — differs from the state of the loop in the memo and the
    code-span cache only -/
theorem top_arrives (g : Bool) (hc : ChainCoherent cfg = true)
    (hone : cfg.chain.count .link ≤ 1 ∧ cfg.chain.count .image ≤ 1) {f : Nat} {s : IState}
    (T : TopSt cfg content (topEnd content mapping) s) (hlt : s.pos < s.posMax)
    {id : RuleId} {x : IState}
    (hA : Arrives (fun id s => runRule cfg (fun s => skipTokenG cfg g f s)
      (fun s => tokLoopG cfg g f s.posMax s) f id s false) cfg.chain s id x) :
    TopSt cfg content (topEnd content mapping) x ∧ x.pos = s.pos ∧ x.posMax = s.posMax ∧
      x.src = s.src :=
  hA.inv (I := fun y => TopSt cfg content (topEnd content mapping) y ∧ y.pos = s.pos ∧
      y.posMax = s.posMax ∧ y.src = s.src)
    (fun id0 hid0 y y1 ⟨Ty, yp, ym, ys⟩ h => by
      obtain ⟨e1, n1⟩ := top_rule (f := f) hc hone Ty (by rw [yp, ym]; exact hlt) hid0
      obtain ⟨T1, a, b, c⟩ := n1 y1 (by
        cases g
        · simp only [skipTokenG_false, tokLoopG_false] at h; exact e1.trans h
        · exact h)
      exact ⟨T1, a.trans yp, b.trans ym, c.trans ys⟩)
    ⟨T, rfl, rfl, rfl⟩

/-- **one real step from a state of the top frame**: the step over the guarded callees is the step over
    the model's, and leads to a state with the invariants of the top frame, further on -/
theorem top_step_G (hc : ChainCoherent cfg = true)
    (hone : cfg.chain.count .link ≤ 1 ∧ cfg.chain.count .image ≤ 1) {f : Nat} {s : IState}
    (T : TopSt cfg content (topEnd content mapping) s) (hlt : s.pos < s.posMax) :
    tokStep cfg (fun s => skipTokenG cfg true f s) (fun s => tokLoopG cfg true f s.posMax s) f s =
      tokStep cfg (fun s => skipToken cfg f s) (fun s => tokLoop cfg f s.posMax s) f s ∧
    ∀ s', tokStep cfg (fun s => skipTokenG cfg true f s) (fun s => tokLoopG cfg true f s.posMax s) f s
      = .ok s' → TopInv cfg (BE cfg) content (topEnd content mapping) s' ∧
        (∃ lo, Good lo s') ∧ MemoB s' ∧ Frame s s' ∧ s.pos < s'.pos := by
  have H := hyps_all (content := content) (mapping := mapping) hc hone
  have hsz := coherent_hsz hc
  have hend := endHyp_holds cfg (BE cfg) (CS.nocut_init content mapping)
  have hep := endEP_holds cfg (BE cfg) (src := content) (Mtop := topEnd content mapping)
  have hq := skipTokenG_calm cfg true f
  obtain ⟨lo, hg⟩ := T.good
  obtain ⟨e1, n1⟩ := tokStep_top (backOK_BE cfg) hend hep hsz hq (skipTokenG_T cfg f) (skip_grow cfg f)
    (skip_top (backOK_BE cfg) hend hep (marksHyp_BE cfg) f) (skip_guard_free cfg f) (tokHypT_G cfg (coherent_hsz hc) f)
    (rangesFnG cfg true f) (fun s hs => nested_tokEq H f s hs) (entryP_NF f) f s hg T.memo hlt T.inv
    (T.ep hlt)
  refine ⟨e1, fun s' h => ?_⟩
  obtain ⟨hg1, hm1, f1, hp⟩ := (tokStep_T hsz hq (skipTokenG_T cfg f) (tokHypT_G cfg (coherent_hsz hc) f)
    (rangesFnG cfg true f) f s hg T.memo hlt).2 s' h
  exact ⟨n1 s' h, ⟨lo, hg1⟩, hm1, f1, hp⟩

/-- one real step from a state of the top frame -/
theorem top_step (hc : ChainCoherent cfg = true)
    (hone : cfg.chain.count .link ≤ 1 ∧ cfg.chain.count .image ≤ 1) {f : Nat} {s s' : IState}
    (T : TopSt cfg content (topEnd content mapping) s) (hl : s.level < cfg.maxNesting)
    (hlt : s.pos < s.posMax)
    (hstep : tokStep cfg (fun s => skipToken cfg f s) (fun s => tokLoop cfg f s.posMax s) f s = .ok s') :
    TopSt cfg content (topEnd content mapping) s' ∧ s'.level = s.level ∧ s.pos < s'.pos := by
  obtain ⟨e1, n1⟩ := top_step_G (f := f) hc hone T hlt
  have hG := e1.trans hstep
  obtain ⟨ht1, hg1, hm1, f1, hp⟩ := n1 s' hG
  refine ⟨⟨ht1, hg1, hm1, ?_⟩, f1.level, hp⟩
  intro hl'
  rw [f1.posMax] at hl'
  have := stepEP_holds cfg hc _ _ f s s' (skipTokenG_calm cfg true f) hG hl hlt
    (by rw [T.inv.hsrc]; exact T.ep hlt) hl'
  rw [T.inv.hsrc] at this
  exact this

/-- every nested frame entered from a state of the top frame satisfies `ES.NF` -/
theorem top_enters (hc : ChainCoherent cfg = true)
    (hone : cfg.chain.count .link ≤ 1 ∧ cfg.chain.count .image ≤ 1) {f : Nat} {s y : IState}
    (T : TopSt cfg content (topEnd content mapping) s)
    (hlt : s.pos < s.posMax) (hE : Enters cfg f s y) :
    NF cfg (BE cfg) content (topEnd content mapping) y := by
  have hend := endHyp_holds cfg (BE cfg) (CS.nocut_init content mapping)
  have hep := endEP_holds cfg (BE cfg) (src := content) (Mtop := topEnd content mapping)
  have hq := skipTokenG_calm cfg true f
  obtain ⟨id, x, offset, en, res, st1, hA, hshape, hp, rfl⟩ := hE
  obtain ⟨Tx, _⟩ := top_arrives false hc hone T hlt
    (by simpa only [skipTokenG_false, tokLoopG_false] using hA)
  obtain ⟨lo, hgx⟩ := Tx.good
  have hi := hgx.linv Tx.memo
  have key : ∀ (hb : Boundary x.src (x.pos + offset + 1)) (hle : x.pos + offset + 1 ≤ x.posMax)
      (hch : ∃ r, slice x.src (x.pos + offset) x.posMax = .ok ('[' :: r)),
      NF cfg (BE cfg) content (topEnd content mapping) (nestedState st1 res) := by
    intro hb hle hch
    have hpe := parseLink_eq (cfg := cfg) hq (skipTokenG_T cfg f) (skip_guard_free cfg f) f x
      (x.pos + offset) 0 en hi hb hle Tx.inv.closed (Nat.zero_le _)
    have hpG : parseLink cfg (fun s => skipTokenG cfg true f s) f x (x.pos + offset) en
        = .ok (some res, st1) := hpe.1.trans hp
    have ht1 := parseLink_top_G (backOK_BE cfg) hend hep (marksHyp_BE cfg) f f x (x.pos + offset) en hi
      hb hle hch Tx.inv _ _ hpG
    exact entryP_NF f lo x offset en f res st1 hgx Tx.memo Tx.inv hb hle hch hpG ht1
  rcases hshape with ⟨_, rfl, _, r, hr'⟩ | ⟨_, rfl, _, r, hr'⟩
  · obtain ⟨hb, hle⟩ := after_first (st := x) (by decide) (window_eq hr')
    exact key hb hle ⟨r, window_eq hr'⟩
  · obtain ⟨hb, hle⟩ := after_second (st := x) (by decide) (by decide) (window_eq hr')
    exact key hb hle ⟨r, Inline.slice_tail_of_cons (by decide) (window_eq hr')⟩

/-- every nested frame entered from a state of the run satisfies `ES.NF` -/
theorem enters_nf (hc : ChainCoherent cfg = true)
    (hone : cfg.chain.count .link ≤ 1 ∧ cfg.chain.count .image ≤ 1) {f : Nat} {s y : IState}
    (hs : TopSt cfg content (topEnd content mapping) s ∨
      NF cfg (BE cfg) content (topEnd content mapping) s)
    (hl : s.level < cfg.maxNesting) (hlt : s.pos < s.posMax) (hE : Enters cfg f s y) :
    NF cfg (BE cfg) content (topEnd content mapping) y := by
  have H := hyps_all (mapping := mapping) (content := content) hc hone
  rcases hs with T | N
  · exact top_enters hc hone T hlt hE
  · obtain ⟨v, _, _, _, _, hEn⟩ := nested_agree H (callees_of H f (nested_eq H f)) N hl hlt
    obtain ⟨id, x, offset, en, res, st1, hA, hshape, hp, rfl⟩ := hE
    obtain ⟨rfl, _, hnf⟩ := hEn id x offset en res st1 hA hshape hp
    exact hnf

/-- one real step from a state of the run stays in its frame, at its level -/
theorem step_frame (hc : ChainCoherent cfg = true)
    (hone : cfg.chain.count .link ≤ 1 ∧ cfg.chain.count .image ≤ 1) {f : Nat} {s s' : IState}
    (hs : RInv cfg content (topEnd content mapping) s) (hlt : s.pos < s.posMax)
    (hstep : tokStep cfg (fun s => skipToken cfg f s) (fun s => tokLoop cfg f s.posMax s) f s = .ok s') :
    s'.posMax = s.posMax ∧ s'.level = s.level := by
  have H := hyps_all (mapping := mapping) (content := content) hc hone
  by_cases hl : s.level < cfg.maxNesting
  · rcases hs hl with T | N
    · obtain ⟨T', hlev, _⟩ := top_step (mapping := mapping) hc hone T hl hlt hstep
      exact ⟨by rw [T'.inv.hmax, T.inv.hmax], hlev⟩
    · obtain ⟨v, _, _, _, hS, _⟩ := nested_agree H (callees_of H f (nested_eq H f)) N hl hlt
      exact ⟨(hS s' hstep).2.2.1, (hS s' hstep).2.2.2.1⟩
  · unfold tokStep at hstep
    simp only [if_neg hl] at hstep
    obtain ⟨_, _, _, _, _, _, h6, h7⟩ := fallback_keeps hstep
    exact ⟨h6, h7⟩

/-- **every reached state below the nesting limit is a state of the top frame or satisfies the invariant
    of the nested frames** -/
theorem reach_inv (hc : ChainCoherent cfg = true)
    (hone : cfg.chain.count .link ≤ 1 ∧ cfg.chain.count .image ≤ 1) (hm : MapOK content mapping) :
    ∀ f s, Reach cfg content mapping f s → RInv cfg content (topEnd content mapping) s := by
  have H := hyps_all (mapping := mapping) (content := content) hc hone
  intro f s hR
  induction hR with
  | init =>
    intro _
    obtain ⟨lo, _, hg⟩ := init_good hm
    exact .inl ⟨topInv_init (BE.empty cfg content) (CS.nocut_init content mapping), ⟨lo, hg⟩,
      memoB_init' content mapping, fun _ => epc_init cfg content mapping⟩
  | step hR hlt hstep ih =>
    rename_i f s s'
    intro hl'
    have hl : s.level < cfg.maxNesting := by
      rw [← (step_frame hc hone ih hlt hstep).2]; exact hl'
    rcases ih hl with T | N
    · exact .inl (top_step hc hone T hl hlt hstep).1
    · obtain ⟨v, _, _, _, hS, _⟩ := nested_agree H (callees_of H f (nested_eq H f)) N hl hlt
      exact .inr (hS s' hstep).2.2.2.2
  | enter hR hlt hl hE ih => exact fun _ => .inr (enters_nf hc hone (ih hl) hl hlt hE)

end

end MdIt.Inline.ES.C16Doc
