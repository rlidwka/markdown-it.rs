/-
  Helper development for `Props/Inline.lean`: a tree invariant of the form "every node value in the
  tree satisfies `P`" is preserved by the whole tokenizer (partial correctness: no fuel bound needed),
  for every `P` that holds of the values the configured rules create (`GoodP`).
  Instances: `P` = "link / image / autolink urls come out of a validation pipeline"
  (`link_url_from_pipeline`), `P` = "not an `EmphMarker`" when no emphasis-like rule is configured.
-/
import MdIt.Lemmas.EmphMatch

namespace MdIt.Inline
open MdIt.InlineOps (Srcmap getSourcePosFor getMap byteLen slice)

mutual
/-- every value in the tree below (and including) the node satisfies `P` -/
def AllVals (P : Val → Prop) : Node → Prop
  | ⟨v, _, cs⟩ => P v ∧ AllValsList P cs
def AllValsList (P : Val → Prop) : List Node → Prop
  | [] => True
  | c :: cs => AllVals P c ∧ AllValsList P cs
end

theorem AllVals_eq (P : Val → Prop) (n : Node) : AllVals P n ↔ P n.val ∧ AllValsList P n.children := by
  cases n; simp [AllVals]

theorem allValsList_iff (P : Val → Prop) (l : List Node) :
    AllValsList P l ↔ ∀ n ∈ l, AllVals P n := by
  induction l with
  | nil => simp [AllValsList]
  | cons c cs ih => simp [AllValsList, ih]

theorem AllValsList.append {P : Val → Prop} {a b : List Node} (ha : AllValsList P a)
    (hb : AllValsList P b) : AllValsList P (a ++ b) := by
  rw [allValsList_iff] at *
  intro n hn
  rcases List.mem_append.mp hn with h | h
  · exact ha n h
  · exact hb n h

theorem AllValsList.left {P : Val → Prop} {a b : List Node} (h : AllValsList P (a ++ b)) :
    AllValsList P a := by
  rw [allValsList_iff] at *
  exact fun n hn => h n (List.mem_append_left _ hn)

theorem AllValsList.right {P : Val → Prop} {a b : List Node} (h : AllValsList P (a ++ b)) :
    AllValsList P b := by
  rw [allValsList_iff] at *
  exact fun n hn => h n (List.mem_append_right _ hn)

theorem AllValsList.single {P : Val → Prop} {n : Node} (h : AllVals P n) : AllValsList P [n] :=
  ⟨h, trivial⟩

/-- a node whose value is replaced, its children kept -/
theorem AllVals.withVal {P : Val → Prop} {n : Node} (h : AllVals P n) {v : Val} (hv : P v)
    (r : Option (Nat × Nat)) : AllVals P { n with val := v, range := r } := by
  rw [AllVals_eq] at *; exact ⟨hv, h.2⟩

/-! ## what the rules create -/

/-- where a link / image destination can come from: nothing (`href = None`), the inline
    pipeline (`Link.inlineDest` with `unescape_all` as decoder), or the reference map -/
def HrefOK (cfg : Cfg) (href : Option (List Nat)) : Prop :=
  href = none ∨ (∃ raw, Link.inlineDest (Entity.unescapeAll cfg.entity) raw = href) ∨
  (∃ m k e, cfg.refs = some m ∧ (k, e) ∈ m ∧ href = some e.dest)

/-- `P` holds of every value the configured rules can create -/
structure GoodP (cfg : Cfg) (P : Val → Prop) : Prop where
  text : ∀ c, P (.text c)
  special : ∀ c m i, P (.special c m i)
  soft : P .softbreak
  hard : P .hardbreak
  code : ∀ m n, P (.codeInline m n)
  autolink : ∀ b url u, Link.autolinkDest b url = some u → P (.autolink u)
  link : ∀ href t, HrefOK cfg href → P (.link (href.getD []) t)
  image : ∀ href t, HrefOK cfg href → P (.image (href.getD []) t)
  marker : ∀ mk csw, RuleId.emph mk csw ∈ cfg.chain → ∀ l r o c, P (.emphMarker mk l r o c)
  wrap : ∀ mk csw, RuleId.emph mk csw ∈ cfg.chain → ∀ w, P (.wrap w mk)
  /-- the delimiter matching rewrites `remaining` of markers it finds in the tree -/
  markerRem : ∀ m l r r' o c, P (.emphMarker m l r o c) → P (.emphMarker m l r' o c)

/-- the invariant on a state -/
def ValsOK (P : Val → Prop) (st : IState) : Prop := AllValsList P st.children

/-! ## trailing text -/

theorem trailingTextPush_vals {P : Val → Prop} (hP : ∀ c, P (.text c)) {src : List Char} {m : Srcmap}
    {cs out : List Node} {a b : Nat} (h : trailingTextPush src m cs a b = .ok out)
    (hc : AllValsList P cs) : AllValsList P out := by
  rcases trailingTextPush_ok h with ⟨piece, r, rfl⟩ | ⟨init, last, c, r, rfl, _, rfl⟩
  · refine hc.append (AllValsList.single ?_)
    rw [AllVals_eq]; exact ⟨hP _, trivial⟩
  · exact hc.left.append (AllValsList.single (hc.right.1.withVal (hP _) _))

theorem pushText_vals {P : Val → Prop} (hP : ∀ c, P (.text c)) {st st' : IState} {a b : Nat}
    (h : st.pushText a b = .ok st') (hc : ValsOK P st) : ValsOK P st' := by
  obtain ⟨cs, hcs, rfl⟩ := pushText_eq h
  exact trailingTextPush_vals hP hcs hc

theorem trailingTextPop_vals {P : Val → Prop} (hP : ∀ c, P (.text c)) {cs out : List Node} {count : Nat}
    (h : trailingTextPop cs count = .ok out) (hc : AllValsList P cs) : AllValsList P out := by
  rcases trailingTextPop_ok h with rfl | ⟨init, last, rfl, _, rfl | ⟨_, _, rfl⟩⟩
  · exact hc
  · exact hc.left
  · exact hc.left.append (AllValsList.single (hc.right.1.withVal (hP _) _))

/-! ## the rules without look-ahead recursion -/

theorem ValsOK.push {P : Val → Prop} {st : IState} (h : ValsOK P st) {n : Node} (hn : AllVals P n) :
    ValsOK P (st.push n) := by
  unfold ValsOK IState.push; exact AllValsList.append h (AllValsList.single hn)

theorem leaf_vals {P : Val → Prop} {v : Val} (hv : P v) (r : Option (Nat × Nat)) :
    AllVals P (Node.leaf v r) := by
  rw [AllVals_eq]; exact ⟨hv, trivial⟩

theorem Built.vals {cfg : Cfg} {P : Val → Prop} (g : GoodP cfg P) {st st' : IState}
    (h : Built st st') (hc : ValsOK P st) : ValsOK P st' := by
  cases h with
  | cache => exact hc
  | text _ hp => exact pushText_vals g.text hp hc
  | brk n _ hpop =>
    refine (trailingTextPop_vals g.text hpop hc).append (AllValsList.single (leaf_vals ?_ _))
    by_cases h2 : n ≥ 2
    · rw [if_pos h2]; exact g.hard
    · rw [if_neg h2]; exact g.soft
  | hard => exact hc.push (leaf_vals g.hard _)
  | special => exact hc.push (leaf_vals (g.special _ _ _) _)
  | code =>
    refine AllValsList.append hc (AllValsList.single ?_)
    rw [AllVals_eq]
    exact ⟨g.code _ _, AllValsList.single (by rw [AllVals_eq]; exact ⟨g.text _, trivial⟩)⟩
  | auto _ _ _ hd =>
    refine hc.push ?_
    rw [AllVals_eq]
    exact ⟨g.autolink _ _ _ hd, AllValsList.single (by rw [AllVals_eq]; exact ⟨g.text _, trivial⟩)⟩

/-! ## delimiter matching -/

/-- what the matching loops maintain -/
structure MatchOK (P : Val → Prop) (ms : MatchSt) : Prop where
  children : AllValsList P ms.children
  closer : P ms.closer.toVal

theorem GoodP.matchKeeps {cfg : Cfg} {P : Val → Prop} (g : GoodP cfg P) {mk : Char} {csw : Bool}
    (hmem : RuleId.emph mk csw ∈ cfg.chain) (room : Nat) : MatchKeeps mk room (AllVals P) where
  remark := by
    intro n m k rg hm h
    rw [AllVals_eq, asMarker_val hm] at h
    rw [AllVals_eq]; exact ⟨g.markerRem _ _ _ _ _ _ h.1, h.2⟩
  wrap := by
    intro w rg tail _ ht _ _
    rw [AllVals_eq]; exact ⟨g.wrap mk csw hmem w, (allValsList_iff P tail).mpr ht⟩

theorem ruleEmph_vals {cfg : Cfg} {P : Val → Prop} (g : GoodP cfg P) {mk : Char} {csw : Bool}
    (hmem : RuleId.emph mk csw ∈ cfg.chain) {st st' : IState} {silent : Bool} {o : Option Nat}
    (h : ruleEmph cfg mk csw st silent = .ok (o, st')) (hc : ValsOK P st) : ValsOK P st' :=
  (allValsList_iff P _).mpr
    (ruleEmph_keeps (g.matchKeeps hmem _) (fun _ _ _ _ => leaf_vals (g.marker mk csw hmem _ _ _ _) _) h
      ((allValsList_iff P _).mp hc))

end MdIt.Inline
