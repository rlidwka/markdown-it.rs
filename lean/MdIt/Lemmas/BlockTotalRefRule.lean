/-
  Error lemma and no-panic lemma of the reference rule, given the totality of `refParse` on texts
  that start with a one-byte character (`MdIt/Lemmas/BlockTotalRef.lean`).  The text handed to `refParse` is
  `get_lines(start, next, blk_indent).trim()`; its first line is (virtual spaces ++ a suffix of the
  bytes in front of `first_nonspace` ++ the line's text `[…`), and the bytes in front of
  `first_nonspace` are one-byte characters (`BInv.ascii`), so the trimmed text starts with a one-byte
  character — which is what `refParse` needs for its blind `&str[1..label_end]`.
-/
import MdIt.Lemmas.BlockTotalLeaf
import MdIt.Lemmas.BlockTotalRef

namespace MdIt.Block
open MdIt.Lines (LineOffset)

theorem joinLines_cons (keep : Bool) (x : List Char) (xs : List (List Char)) :
    ∃ t, Lines.joinLines keep (x :: xs) = x ++ t := by
  cases xs with
  | nil => cases keep <;> simp [Lines.joinLines]
  | cons y r => exact ⟨_, by simp [Lines.joinLines]; rfl⟩

/-- the first line of `get_lines`: one-byte characters, then the text of the line -/
theorem getLines_head {s : BState} (hI : BInv s) {b e indent : Nat} {keep : Bool} {c : List Char}
    {m : List (Nat × Nat)} (h : s.getLines b e indent keep = .ok (c, m)) (hbe : b < e)
    (he : e ≤ s.offs.length) {line : List Char} (hline : s.getLine b = .ok line) :
    ∃ P t, c = P ++ line ++ t ∧ ∀ x ∈ P, x.utf8Size = 1 := by
  have h := liftL_eq_ok h
  obtain ⟨vs, hvl, hvs, _⟩ := views_of_tableOk hI.table (e - b) b (by omega)
  obtain ⟨m', hm'⟩ := Lines.get_lines_lf s.src s.offs b indent keep vs hvs
  rw [hvl, show b + (e - b) = e by omega, h] at hm'
  simp only [Except.ok.injEq, Prod.mk.injEq] at hm'
  cases vs with
  | nil => simp at hvl; omega
  | cons v0 vs' =>
    obtain ⟨o, ho, hw, ht, _⟩ := hvs 0 (by simp)
    simp only [Nat.add_zero, List.getElem_cons_zero] at ho hw ht
    have hline' := getLine_eq ho hline
    unfold Lines.lineText at ht
    have hv2 := slice_unique ht hline'
    obtain ⟨a, ha, hasc⟩ := hI.ascii b o ho
    unfold Lines.lineWs at hw
    have hv1 := slice_unique hw ha
    obtain ⟨t, ht'⟩ := joinLines_cons keep (Lines.viewPiece indent v0) (vs'.map (Lines.viewPiece indent))
    refine ⟨List.replicate (Lines.calcRightWs v0.1 (v0.2.2 - Lines.usizeAsI32 indent)).1 ' ' ++
      Lines.dropB v0.1 (Lines.calcRightWs v0.1 (v0.2.2 - Lines.usizeAsI32 indent)).2, t, ?_, ?_⟩
    · rw [hm'.1, List.map_cons, ht']
      simp [Lines.viewPiece, hv2]
    · intro x hx
      simp only [List.mem_append, List.mem_replicate] at hx
      rcases hx with ⟨_, rfl⟩ | hx
      · decide
      · exact hasc x (hv1 ▸ (Lines.dropB_suffix _ _).subset hx)

theorem reference_err {E : Panic → Prop} {cfg : Cfg} {test : Test} (ht : TestPure test) {fuel : Nat}
    {s : BState} {silent : Bool} (hP : PrimIn E (AtLine s))
    (hscan : ErrIn E (lazyScan test false fuel s s.line)) : ErrIn E (referenceRule cfg test fuel s silent) := by
  unfold referenceRule
  refine .orElse fun _ => ?_
  refine .bind (hP.prim fun hC => lineIndent_total hC.lt) fun ind _ => ?_
  refine .orElse fun _ => ?_
  refine .bind (hP.prim fun hC => getLine_total hC.1.table hC.lt) fun line hline => ?_
  rcases line with _ | ⟨c, rest⟩
  · exact .pure _
  refine .orElse fun hc => ?_
  obtain rfl : c = '[' := Decidable.not_not.mp hc
  refine .orElse fun _ => ?_
  refine .bind hscan fun ⟨n, _, S⟩ hs => ?_
  -- the scan hands the state back and stops behind `s.line`, not beyond `lineMax`
  obtain ⟨h1, h2, h3, -⟩ := lazyScan_spec ht hs
  obtain rfl : s = S := h1.symm
  refine .bind (hP.prim fun hC => getLines_total hC.1.table (Nat.le_of_lt h2)
    (Nat.le_trans (h3 hC.2) hC.1.lineMax)) fun ⟨str, _⟩ hgl => ?_
  -- the text read starts with one-byte characters (kept indentation) and the `[` of the first line
  refine .bind (hP.prim fun hC => ?_) fun parsed _ => ?_
  · obtain ⟨P, t, hcont, hasc⟩ := getLines_head hC.1 hgl h2 (Nat.le_trans (h3 hC.2) hC.1.lineMax) hline
    rw [hcont]
    simp only [List.append_assoc, List.cons_append]
    exact refParse_trim_ascii cfg P '[' _ hasc (by decide) isWsChar_lbrack
  rcases parsed with _ | ⟨raw, href, title, lines⟩
  · exact .pure _
  exact .orElse fun _ => .pure _

theorem reference_np {cfg : Cfg} {test : Test} (ht : TestPure test) (hto : TestOK test)
    {fuel : Nat} {s : BState} {silent : Bool} (hI : BInv s) (hl : s.line < s.lineMax) :
    NoPanic (referenceRule cfg test fuel s silent) :=
  reference_err ht (.inl ⟨hI, hl⟩) (lazyScan_np ht hto _ _ _ _ hI)

end MdIt.Block
