/-
  Helper development for `Props/Inline.lean`: the post pass on the rich node type is the post pass
  of `MdIt.Join` seen through the projection `erase`.
-/
import MdIt.Model.Inline
import MdIt.Props.C14

namespace MdIt.Inline
open MdIt.InlineOps (INode)

theorem erase_eq (n : Node) :
    erase n =
      match n.val with
      | .text c => { kind := .text, content := c, range := n.range, children := eraseList n.children, remaining := 0 }
      | .emphMarker m _ rem _ _ =>
        { kind := .marker m, content := [], range := n.range, children := eraseList n.children, remaining := rem }
      | v => { kind := .other v.code, content := [], range := n.range, children := eraseList n.children, remaining := 0 } := by
  obtain ⟨v, r, cs⟩ := n
  cases v <;> simp [erase]

theorem erase_isText (n : Node) : (erase n).isText = n.isText := by
  rw [erase_eq]; unfold Node.isText INode.isText; cases n.val <;> rfl

theorem erase_content (n : Node) : (erase n).content = n.content := by
  rw [erase_eq]; unfold Node.content; cases n.val <;> rfl

theorem erase_range (n : Node) : (erase n).range = n.range := by
  rw [erase_eq]; cases n.val <;> rfl

theorem erase_children (n : Node) : (erase n).children = eraseList n.children := by
  rw [erase_eq]; cases n.val <;> rfl

theorem eraseList_eq_map (l : List Node) : eraseList l = l.map erase := by
  induction l with
  | nil => rfl
  | cons c cs ih => simp [eraseList, ih]

theorem erase_isMarker (n : Node) :
    C14.isMarker (erase n) = (match n.val with | .emphMarker _ _ _ _ _ => true | _ => false) := by
  rw [erase_eq]; unfold C14.isMarker; cases n.val <;> rfl

/-! ## the head view: kind, content, range — all `NormalForm` looks at -/

/-- forget children and the `remaining` field (junk on a text node made from a marker) -/
def hd (n : INode) : INode := { n with children := [], remaining := 0 }

theorem hd_isText (n : INode) : (hd n).isText = n.isText := rfl
theorem hd_content (n : INode) : (hd n).content = n.content := rfl
theorem hd_isMarker (n : INode) : C14.isMarker (hd n) = C14.isMarker n := rfl

theorem noAdj_map_hd (l : List INode) : C14.NoAdjText (l.map hd) ↔ C14.NoAdjText l := by
  induction l with
  | nil => simp [C14.NoAdjText]
  | cons x r ih =>
    simp only [List.map_cons, C14.NoAdjText, ih]
    cases r with
    | nil => simp
    | cons y r' => simp [hd_isText]

theorem normalForm_map_hd (l : List INode) : C14.NormalForm (l.map hd) ↔ C14.NormalForm l := by
  constructor
  · intro h
    refine ⟨?_, ?_, (noAdj_map_hd l).mp h.noAdj⟩
    · intro n hn; have := h.noMarker (hd n) (List.mem_map_of_mem hn); rwa [hd_isMarker] at this
    · intro n hn ht
      have := h.noEmpty (hd n) (List.mem_map_of_mem hn) (by rw [hd_isText]; exact ht)
      rwa [hd_content] at this
  · intro h
    refine ⟨?_, ?_, (noAdj_map_hd l).mpr h.noAdj⟩
    · intro n hn
      obtain ⟨a, ha, rfl⟩ := List.mem_map.mp hn
      rw [hd_isMarker]; exact h.noMarker a ha
    · intro n hn ht
      obtain ⟨a, ha, rfl⟩ := List.mem_map.mp hn
      rw [hd_content]; exact h.noEmpty a ha (by rwa [hd_isText] at ht)

theorem normalForm_congr {l l' : List INode} (h : l.map hd = l'.map hd) :
    C14.NormalForm l ↔ C14.NormalForm l' := by
  rw [← normalForm_map_hd l, ← normalForm_map_hd l', h]

/-! ## `fragments_join` through the projection, up to the head view -/

theorem hd_erase_markerToText (n : Node) :
    hd (erase (markerToText n)) = hd (Join.markerToText (erase n)) := by
  obtain ⟨v, r, cs⟩ := n
  cases v <;> simp [markerToText, Join.markerToText, erase, hd]

theorem hd_eraseList_pass1 (cs : List Node) :
    (eraseList (pass1 cs)).map hd = (Join.pass1 (eraseList cs)).map hd := by
  simp [eraseList_eq_map, pass1, Join.pass1, hd_erase_markerToText]

theorem erase_emptied (n : Node) (h : n.isText = true) : erase (emptied n) = Join.emptied (erase n) := by
  obtain ⟨v, r, cs⟩ := n
  cases v <;> simp_all [emptied, Join.emptied, erase, Node.isText]

theorem erase_merged (t1 t2 : Node) (h1 : t1.isText = true) :
    erase (merged t1 t2) = Join.merged (erase t1) (erase t2) := by
  have hr2 := erase_range t2
  have hc2 := erase_content t2
  obtain ⟨v, r, cs⟩ := t1
  cases v <;> simp_all [merged, Join.merged, erase, Node.isText, Node.content]
  rcases r with _ | ⟨a, b⟩ <;> rcases t2.range with _ | ⟨c, d⟩ <;> rfl

theorem eraseList_mergeLoop (cur : Node) (rest : List Node) :
    eraseList (mergeLoop cur rest) = Join.mergeLoop (erase cur) (eraseList rest) := by
  induction rest generalizing cur with
  | nil => simp [mergeLoop, Join.mergeLoop, eraseList]
  | cons nxt rest ih =>
    simp only [mergeLoop, eraseList, Join.mergeLoop, erase_isText]
    split
    · next h =>
      simp only [Bool.and_eq_true] at h
      simp only [eraseList, ih, erase_emptied nxt h.2, erase_merged cur nxt h.1]
    · simp only [eraseList, ih]

theorem eraseList_mergeAll (l : List Node) : eraseList (mergeAll l) = Join.mergeAll (eraseList l) := by
  cases l with
  | nil => rfl
  | cons c r => simp [mergeAll, Join.mergeAll, eraseList, eraseList_mergeLoop]

theorem erase_keep (n : Node) : Join.keep (erase n) = keep n := by
  simp [Join.keep, keep, erase_isText, erase_content]

theorem eraseList_filter_keep (l : List Node) :
    eraseList (l.filter keep) = (eraseList l).filter Join.keep := by
  induction l with
  | nil => rfl
  | cons c cs ih =>
    simp only [List.filter_cons, eraseList, erase_keep]
    split <;> simp [eraseList, ih]

/-- pass 2 of `MdIt.Join` reads kinds and contents only: it commutes with the head view -/
theorem hd_mergeLoop (x : INode) (ys : List INode) :
    (Join.mergeLoop x ys).map hd = Join.mergeLoop (hd x) (ys.map hd) := by
  induction ys generalizing x with
  | nil => simp [Join.mergeLoop]
  | cons y ys ih =>
    have e1 : hd (Join.emptied y) = Join.emptied (hd y) := rfl
    have e2 : hd (Join.merged x y) = Join.merged (hd x) (hd y) := rfl
    by_cases h : (x.isText && y.isText) = true
    · simp only [Join.mergeLoop, List.map_cons, hd_isText, h, if_true, ih, e1, e2]
    · simp only [Join.mergeLoop, List.map_cons, hd_isText, h]
      simp [ih]

theorem hd_mergeAll (l : List INode) : (Join.mergeAll l).map hd = Join.mergeAll (l.map hd) := by
  cases l with
  | nil => rfl
  | cons c r => simp [Join.mergeAll, hd_mergeLoop]

theorem hd_filter_keep (l : List INode) :
    (l.filter Join.keep).map hd = (l.map hd).filter Join.keep := by
  induction l with
  | nil => rfl
  | cons c cs ih =>
    have hk : Join.keep (hd c) = Join.keep c := rfl
    simp only [List.filter_cons, List.map_cons, hk]
    split <;> simp [ih]

/-- `fragments_join` of this model and of `MdIt.Join` agree on everything but the junk field -/
theorem hd_eraseList_fragmentsJoinN (cs : List Node) :
    (eraseList (fragmentsJoinN cs)).map hd = (Join.fragmentsJoin (eraseList cs)).map hd := by
  rw [Join.fragmentsJoin_eq]
  unfold fragmentsJoinN Join.fragmentsJoinL
  rw [eraseList_filter_keep, eraseList_mergeAll, hd_filter_keep, hd_mergeAll, hd_eraseList_pass1,
    ← hd_mergeAll, ← hd_filter_keep]

/-- **the text normal form after `fragments_join`** (from `C14.join_normal_form`) -/
theorem normalForm_fragmentsJoinN (cs : List Node) :
    C14.NormalForm (eraseList (fragmentsJoinN cs)) :=
  (normalForm_congr (hd_eraseList_fragmentsJoinN cs)).mpr (C14.join_normal_form _)

/-! ## `FragmentsJoin::run` -/

theorem joinNodeN_eq (n : Node) :
    joinNodeN n = { n with children := joinListN (fragmentsJoinN n.children) } := by
  rw [joinNodeN]

theorem joinListN_cons (c : Node) (cs : List Node) :
    joinListN (c :: cs) = joinNodeN c :: joinListN cs := by
  rw [joinListN]

theorem joinListN_nil : joinListN [] = [] := by rw [joinListN]

theorem joinListN_eq_map (l : List Node) : joinListN l = l.map joinNodeN := by
  induction l with
  | nil => rw [joinListN_nil]; rfl
  | cons c cs ih => rw [joinListN_cons, ih]; rfl

theorem joinNodeN_val (n : Node) : (joinNodeN n).val = n.val := by rw [joinNodeN_eq]
theorem joinNodeN_children (n : Node) :
    (joinNodeN n).children = joinListN (fragmentsJoinN n.children) := by rw [joinNodeN_eq]

theorem hd_erase_joinNodeN (n : Node) : hd (erase (joinNodeN n)) = hd (erase n) := by
  rw [joinNodeN_eq]
  obtain ⟨v, r, cs⟩ := n
  cases v <;> simp [erase, hd]

theorem nsize_le_of_mem {c : Node} {l : List Node} (h : c ∈ l) : nsize c ≤ nsizeList l := by
  induction l with
  | nil => simp at h
  | cons x xs ih =>
    simp only [nsizeList]
    rcases List.mem_cons.mp h with rfl | h'
    · omega
    · have := ih h'; omega

/-- the recursion of `walk_mut(fragments_join)`: the walk goes on below the children `fragments_join` keeps, not
    below the old children -/
theorem joinNodeN_induct {motive : Node → Prop}
    (step : ∀ n, (∀ x ∈ fragmentsJoinN n.children, motive x) → motive n) (n : Node) : motive n := by
  suffices H : ∀ (k : Nat) (n : Node), nsize n ≤ k → motive n from H _ n (Nat.le_refl _)
  intro k
  induction k with
  | zero => intro n hn; rw [nsize_eq] at hn; omega
  | succ k ih =>
    refine fun n hn => step n fun x hx => ih x ?_
    have := nsize_le_of_mem hx
    have := nsizeList_fragmentsJoinN_le n.children
    rw [nsize_eq] at hn; omega

/-- the plain recursion over a tree -/
theorem node_induct {motive : Node → Prop} (step : ∀ n, (∀ c ∈ n.children, motive c) → motive n) (n : Node) :
    motive n := by
  suffices H : ∀ (k : Nat) (n : Node), nsize n ≤ k → motive n from H _ n (Nat.le_refl _)
  intro k
  induction k with
  | zero => intro n hn; rw [nsize_eq] at hn; omega
  | succ k ih =>
    refine fun n hn => step n fun c hc => ih c ?_
    have := nsize_le_of_mem hc
    rw [nsize_eq] at hn; omega

theorem joinNodeN_children_map (n : Node) :
    (joinNodeN n).children = (fragmentsJoinN n.children).map joinNodeN := by
  rw [joinNodeN_children, joinListN_eq_map]

theorem allNFList_iff (l : List INode) : C14.AllNFList l ↔ ∀ n ∈ l, C14.AllNF n := by
  induction l with
  | nil => simp [C14.AllNFList]
  | cons c cs ih => simp [C14.AllNFList, ih]

theorem allNFList_erase (l : List Node) : C14.AllNFList (eraseList l) ↔ ∀ x ∈ l, C14.AllNF (erase x) := by
  rw [eraseList_eq_map, allNFList_iff, List.forall_mem_map]

theorem allNF_joinNodeN (n : Node) : C14.AllNF (erase (joinNodeN n)) := by
  induction n using joinNodeN_induct with
  | step n ih =>
    rw [C14.AllNF_eq, erase_children, joinNodeN_children]
    constructor
    · -- the walk below changes no kind and no content of these siblings
      have : (eraseList (joinListN (fragmentsJoinN n.children))).map hd
          = (eraseList (fragmentsJoinN n.children)).map hd := by
        rw [joinListN_eq_map, eraseList_eq_map, eraseList_eq_map]
        simp [hd_erase_joinNodeN]
      exact (normalForm_congr this).mpr (normalForm_fragmentsJoinN _)
    · rw [joinListN_eq_map, allNFList_erase, List.forall_mem_map]
      exact ih

/-- **After `FragmentsJoin::run` every node of the tree has its children in normal form** (no
    marker, no empty text, no two adjacent texts), at every depth — `C14.AllNF` of the projection. -/
theorem allNF_joinAllN (root : Node) : C14.AllNF (erase (joinAllN root)) :=
  allNF_joinNodeN root

end MdIt.Inline
