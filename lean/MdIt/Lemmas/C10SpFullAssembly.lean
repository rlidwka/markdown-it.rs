/-
  C10 with the sourcepos plugin, full version: the facts about the two block trees, in the form
  the splice lemmas of `Lemmas/C10SpFullDoc.lean` / `Lemmas/C10SourceposDoc.lean` consume.

    * `mrel_shift`, `mapOK_shift`, `mle_shift`   the table of the CR LF document is `shiftMap` of the LF one,
                                                 and as good a table;
    * `bokL_of_facts`   block anchoring (`Block.parseBlocks_anchored`) + the claim about placeholders ⇒ `BOkL`;
    * `plL2_of_nrelL`   the strict block relation (`Block.LX.Y.parseBlocks_crlf_strict`) ⇒ `PlL2`.
-/
import MdIt.Lemmas.C10SpFullDoc
import MdIt.Lemmas.C10SpFullBlock

namespace MdIt.Pipeline
open MdIt
open MdIt.InlineOps (Srcmap getSourcePosFor byteLen)
open MdIt.C05I (NoVirt SegAll segAll_get)
open MdIt.C05R (fa_Seg Cut)

theorem mrel_shift (src : List Char) : ∀ (m₁ m₂ : Srcmap), Block.LE.MRel (C10SP.crlfRel src) m₁ m₂ →
    m₂ = shiftMap src m₁
  | [], [], _ => rfl
  | [], _ :: _, h => h.elim
  | _ :: _, [], h => h.elim
  | (k₁, v₁) :: r₁, (k₂, v₂) :: r₂, h => by
    obtain ⟨hk, hv, hr⟩ := h
    simp only at hk hv
    unfold C10SP.crlfRel at hv
    subst hk hv
    have := mrel_shift src r₁ r₂ hr
    simp only [shiftMap, List.map_cons] at this ⊢
    rw [this]

theorem mle_shift (src : List Char) (m : Srcmap) : MLe m (shiftMap src m) := by
  refine ⟨(shiftMap_keys src m).symm, ?_⟩
  intro i k₁ v₁ k₂ v₂ h1 h2
  rw [shiftMap_get, h1] at h2
  simp only [Option.map_some, Option.some.injEq, Prod.mk.injEq] at h2
  omega

theorem mapOK_shift {src c : List Char} {m : Srcmap} (h : TabOK src c m) : Inline.MapOK c (shiftMap src m) := by
  refine ⟨⟨?_, ?_⟩, ?_, ?_⟩
  · obtain ⟨v, rest, hm⟩ := h.wf.first
    exact ⟨v + C10SP.lfBelow src v, shiftMap src rest, by rw [hm]; simp [shiftMap]⟩
  · rw [shiftMap_keys]; exact h.wf.sorted
  · intro i k1 v1 k2 v2 h1 h2
    rw [shiftMap_get] at h1 h2
    cases hm1 : m[i]? with
    | none => rw [hm1] at h1; simp at h1
    | some x =>
      cases hm2 : m[i + 1]? with
      | none => rw [hm2] at h2; simp at h2
      | some y =>
        rw [hm1] at h1; rw [hm2] at h2
        simp only [Option.map_some, Option.some.injEq, Prod.mk.injEq] at h1 h2
        obtain ⟨rfl, rfl⟩ := h1
        obtain ⟨rfl, rfl⟩ := h2
        obtain ⟨pre, t, post, _, _, hnt, hcut, hnext⟩ := segAll_get h.seg hm1
        rw [hm2] at hnext
        obtain ⟨post', _, hk, hv, _⟩ := hnext
        have hlf := lfBelow_cut hcut hnt (byteLen t) (Nat.le_refl _)
        have hmono := lfBelow_mono src (a := x.2 + byteLen t) (b := y.2) (by omega)
        omega
  · intro i k v hi hk
    rw [shiftMap_get] at hi
    cases hm : m[i]? with
    | none => rw [hm] at hi; simp at hi
    | some x =>
      rw [hm] at hi
      simp only [Option.map_some, Option.some.injEq, Prod.mk.injEq] at hi
      obtain ⟨rfl, _⟩ := hi
      exact h.map.lf i x.1 x.2 hm hk

theorem allInl_mp {Q R : List Char → List (Nat × Nat) → Prop} {n : Block.BNode}
    (h1 : Block.AllInl (fun c m => Q c m → R c m) n) (h2 : Block.AllInl Q n) : Block.AllInl R n := by
  induction h1 with
  | mk n ha _ ih =>
    exact .mk n (fun c m hk hr => ha c m hk hr (h2.here c m hk hr)) (fun c hc => ih c hc (h2.child c hc))

mutual
theorem bok_of_facts {P : Nat → Nat → Prop} {Q : List Char → Srcmap → Prop} :
    ∀ (n : Block.BNode), Block.AllRangesL P n.children → (∀ c ∈ n.children, Block.AllInl Q c) →
      (∀ c ∈ n.children, InlNoRange c) →
      BOk (fun _ r => ∀ a b, r = some (a, b) → P a b) Q n
  | ⟨k, r, cs⟩, h1, h2, h3 => by
    simp only [BOk]
    exact bokL_of_facts cs h1 h2 h3
theorem bokL_of_facts {P : Nat → Nat → Prop} {Q : List Char → Srcmap → Prop} :
    ∀ (cs : List Block.BNode), Block.AllRangesL P cs → (∀ c ∈ cs, Block.AllInl Q c) →
      (∀ c ∈ cs, InlNoRange c) →
      BOkL (fun _ r => ∀ a b, r = some (a, b) → P a b) Q cs
  | [], _, _, _ => by simp only [BOkL]
  | c :: rest, h1, h2, h3 => by
    simp only [Block.AllRangesL] at h1
    simp only [BOkL]
    refine ⟨?_, bokL_of_facts rest h1.2 (fun y hy => h2 y (List.mem_cons_of_mem _ hy))
      (fun y hy => h3 y (List.mem_cons_of_mem _ hy))⟩
    have hc2 := h2 c (by simp)
    have hc3 := h3 c (by simp)
    have hc1 := h1.1
    cases hk : c.kind with
    | inlineRoot ct m =>
      simp only
      exact hc2.here ct m hk (hc3.at ct m hk)
    | _ =>
      simp only
      obtain ⟨k, r, cs⟩ := c
      simp only [Block.AllRanges] at hc1
      exact ⟨hc1.1, bok_of_facts ⟨k, r, cs⟩ hc1.2 hc2.child hc3.child⟩
end

mutual
theorem plN2_of_nrel {src : List Char} {Q : List Char → Srcmap → Prop}
    {P : List Char → Srcmap → Srcmap → Prop} (hQ : ∀ c m, Q c m → P c m (shiftMap src m)) :
    ∀ (x y : Block.BNode), Block.LX.Y.NRel (Block.LX.Y.crlfRg src) (C10SP.crlfRel src) x y →
      (∀ c ∈ x.children, Block.AllInl Q c) → (∀ c ∈ x.children, InlNoRange c) → PlN2 P x y
  | ⟨k₁, r₁, c₁⟩, ⟨k₂, r₂, c₂⟩, hn, h2, h3 => by
    simp only [PlN2]
    exact plL2_of_nrelL hQ c₁ c₂ hn.children h2 h3
theorem plL2_of_nrelL {src : List Char} {Q : List Char → Srcmap → Prop}
    {P : List Char → Srcmap → Srcmap → Prop} (hQ : ∀ c m, Q c m → P c m (shiftMap src m)) :
    ∀ (xs ys : List Block.BNode), Block.LX.Y.NRelL (Block.LX.Y.crlfRg src) (C10SP.crlfRel src) xs ys →
      (∀ c ∈ xs, Block.AllInl Q c) → (∀ c ∈ xs, InlNoRange c) → PlL2 P xs ys
  | [], _, _, _, _ => by simp only [PlL2]
  | _ :: _, [], _, _, _ => by simp only [PlL2]
  | x :: xs, y :: ys, hn, h2, h3 => by
    obtain ⟨hxy, hrest⟩ := hn.cons_inv
    simp only [PlL2]
    refine ⟨?_, plL2_of_nrelL hQ xs ys hrest (fun c hc => h2 c (List.mem_cons_of_mem _ hc))
      (fun c hc => h3 c (List.mem_cons_of_mem _ hc))⟩
    have hx2 := h2 x (by simp)
    have hx3 := h3 x (by simp)
    have hk := hxy.kind
    cases hkx : x.kind with
    | inlineRoot c m₁ =>
      rw [hkx] at hk
      rcases hk with ⟨_, hne⟩ | ⟨c', a, b, e1, e2, hm⟩
      · exact absurd rfl (hne _ _)
      · cases e1
        rw [e2]
        simp only
        have := mrel_shift src _ _ hm
        subst this
        exact hQ c m₁ (hx2.here c m₁ hkx (hx3.at c m₁ hkx))
    | _ =>
      have hky : y.kind = x.kind :=
        hk.eq_of_not_inline (by intro c m e; rw [hkx] at e; cases e)
      rw [hky, hkx]
      simp only
      exact plN2_of_nrel hQ x y hxy hx2.child hx3.child
end

end MdIt.Pipeline
