/-
  Helper development for `Props/Inline.lean`: the extent a successful link / image rule reports
  ends right behind a `)` or `]` of the window (`EndsClosed`; partial correctness, any `skip` that is calm) —
  hence on a character boundary inside the window (`EndsClosed.bounds`).
-/
import MdIt.Lemmas.InlineCalm

namespace MdIt.Inline
open MdIt.InlineOps (Srcmap getSourcePosFor getMap byteLen slice)
open MdIt.C05 (byteLen_append slice_ok_iff)

theorem labelLoop_found {skip : IState → Except Panic IState} (hq : CalmFn skip) (en : Bool) :
    ∀ (n : Nat) (level : Int) (st : IState) (st' : IState),
      labelLoop skip en n level st = .ok (some true, st') →
      ∃ r, slice st.src st'.pos st.posMax = .ok (']' :: r) := by
  intro n level st
  induction n, level, st using labelLoop_induct (skip := skip) (en := en) with
  | fuel | window | skipErr | under | eof | stop => intro _ h; cases h
  | close _ _ _ r hw => intro _ h; cases h; exact ⟨r, window_eq (liftR_ok.mp hw)⟩
  | step _ _ _ _ _ _ _ _ hs ih =>
    intro _ h
    have q := hq _ _ hs
    rw [← q.src, ← q.posMax]; exact ih _ h

theorem parseLinkLabel_end {skip : IState → Except Panic IState} (hq : CalmFn skip) {fuel : Nat}
    {st : IState} {start : Nat} {en : Bool} {e : Nat} {st' : IState}
    (h : parseLinkLabel skip fuel st start en = .ok (some e, st')) :
    ∃ r, slice st.src e st.posMax = .ok (']' :: r) := by
  obtain ⟨_, st1, hl, _, he⟩ := parseLinkLabel_ok h
  obtain ⟨rfl, rfl⟩ := he e rfl
  exact labelLoop_found hq en _ _ (IState.mk st.src st.srcmap (start + 1) st.posMax st.level st.linkLevel
    st.cache st.backticks st.children st.bottoms) _ hl

/-- behind a `]` at a boundary: the next position is a boundary inside the window -/
theorem after_bracket {src : List Char} {p pm : Nat} {r : List Char}
    (h : slice src p pm = .ok (']' :: r)) : p + 1 ≤ pm ∧ Boundary src (p + 1) :=
  after_one (by decide) h

/-- the position `e` lies right behind a `)` or `]` of the window that ends at `pm` -/
def EndsClosed (src : List Char) (pm e : Nat) : Prop :=
  ∃ x r, (x = ')' ∨ x = ']') ∧ 1 ≤ e ∧ slice src (e - 1) pm = .ok (x :: r)

theorem EndsClosed.bounds {src : List Char} {pm e : Nat} (h : EndsClosed src pm e) :
    e ≤ pm ∧ Boundary src e := by
  obtain ⟨x, r, hx, he, hs⟩ := h
  have e1 : x.utf8Size = 1 := by rcases hx with rfl | rfl <;> decide
  obtain ⟨_, _, hl⟩ := slice_boundaries hs
  have hb := boundary_in_slice (u := [x]) (v := r) hs
  simp only [byteLen, e1] at hl hb
  rw [show e - 1 + (0 + 1) = e by omega] at hb
  exact ⟨by omega, hb⟩

theorem EndsClosed.of_bracket {src : List Char} {p pm : Nat} {r : List Char}
    (h : slice src p pm = .ok (']' :: r)) : EndsClosed src pm (p + 1) :=
  ⟨']', r, .inr rfl, by omega, h⟩

theorem parseLinkRef_closed {cfg : Cfg} {skip : IState → Except Panic IState} (hq : CalmFn skip)
    {fuel : Nat} {st : IState} {ls le : Nat} {res : LinkRes} {st' : IState}
    (hle : ∃ r, slice st.src le st.posMax = .ok (']' :: r))
    (h : parseLinkRef cfg skip fuel st ls le = .ok (some res, st')) :
    EndsClosed st.src st.posMax res.endPos := by
  obtain ⟨x, hx, hres⟩ := parseLinkRef_ok h
  rw [(hres res rfl).2.2.1]
  cases x with
  | none => exact .of_bracket hle.choose_spec
  | some x =>
    obtain ⟨_, hn⟩ | ⟨_, _, hl⟩ := hx
    · cases hn
    · exact .of_bracket (parseLinkLabel_end hq hl).choose_spec

/-- the inline form ends right behind its `)`, inside the window -/
theorem tail_closed {dec : List Char → List Char} {src : List Char} {p max : Nat}
    {il : Link.InlineLink} (h : Link.parseInlineTail dec src p max = .ok (some il)) :
    EndsClosed src max il.endPos := by
  unfold Link.parseInlineTail at h
  split at h
  · simp at h
  · split at h
    · simp only at h
      split at h
      · simp at h
      · split at h
        · simp at h
        · next href title pos hstage =>
          split at h
          · simp at h
          · next rest hs =>
            simp only [Except.ok.injEq, Option.some.injEq] at h; subst h
            exact ⟨')', rest, .inl rfl, by simp, (linkSlice_eq _ _ _ _).mp hs⟩
          · simp at h
    · simp at h

theorem tail_end_bounds {dec : List Char → List Char} {src : List Char} {p max : Nat}
    {il : Link.InlineLink} (h : Link.parseInlineTail dec src p max = .ok (some il)) :
    il.endPos ≤ max ∧ Boundary src il.endPos :=
  (tail_closed h).bounds

theorem parseLink_closed {cfg : Cfg} {skip : IState → Except Panic IState} (hq : CalmFn skip)
    {fuel : Nat} {st : IState} {pos : Nat} {en : Bool} {res : LinkRes} {st' : IState} :
    parseLink cfg skip fuel st pos en = .ok (some res, st') →
    EndsClosed st.src st.posMax res.endPos := by
  fun_cases parseLink cfg skip fuel st pos en with
  | case1 | case2 | case3 => intro h; cases h
  | case4 _ _ hl _ il hil =>
    intro h; cases h
    have q1 := parseLinkLabel_calm hq hl
    rw [← q1.src, ← q1.posMax]; exact tail_closed hil
  | case5 _ _ hl =>
    intro h
    have q1 := parseLinkLabel_calm hq hl
    rw [← q1.src, ← q1.posMax]
    exact parseLinkRef_closed hq (by rw [q1.src, q1.posMax]; exact parseLinkLabel_end hq hl) h

theorem parseLink_end {cfg : Cfg} {skip : IState → Except Panic IState} (hq : CalmFn skip)
    {fuel : Nat} {st : IState} {pos : Nat} {en : Bool} {res : LinkRes} {st' : IState}
    (h : parseLink cfg skip fuel st pos en = .ok (some res, st')) :
    res.endPos ≤ st.posMax ∧ Boundary st.src res.endPos :=
  (parseLink_closed hq h).bounds

/-- **the end of the link rule**: the position the tokenizer continues from (`pos' + len`, in either mode)
    lies right behind a `)` or `]` of the window — for every successful call, whatever `tok` does -/
theorem linkRule_closed {cfg : Cfg} {skip tok : IState → Except Panic IState} (hq : CalmFn skip)
    {fuel : Nat} {mk : List Nat → Option (List Char) → Val} {en : Bool} {offset : Nat} {st : IState}
    {silent : Bool} {len : Nat} {st' : IState}
    (h : linkRule cfg skip tok fuel mk en offset st silent = .ok (some len, st')) :
    EndsClosed st.src st.posMax (st'.pos + len) := by
  revert h
  fun_cases linkRule cfg skip tok fuel mk en offset st silent with
  | case1 | case2 | case3 | case5 | case6 | case7 | case8 => intro h; cases h
  | case4 res st1 hpl _ hnu =>
    intro h; cases h
    rw [Nat.add_sub_cancel' (Nat.le_of_not_lt hnu)]; exact parseLink_closed hq hpl
  | case9 _ res st1 hpl _ _ _ st3 _ _ _ _ _ _ hnu =>
    intro h
    obtain ⟨hlen, hst⟩ := Prod.mk.inj (Except.ok.inj h)
    cases hlen; rw [← hst]
    change ¬ res.endPos < st3.pos at hnu
    show EndsClosed _ _ (st3.pos + (res.endPos - st3.pos))
    rw [Nat.add_sub_cancel' (Nat.le_of_not_lt hnu)]; exact parseLink_closed hq hpl

/-- **the extent of the link rule**: the position the tokenizer continues from (`pos' + len`, in
    either mode) is a character boundary inside the window — for every successful call, whatever
    `tok` does -/
theorem linkRule_bounds {cfg : Cfg} {skip tok : IState → Except Panic IState} (hq : CalmFn skip)
    {fuel : Nat} {mk : List Nat → Option (List Char) → Val} {en : Bool} {offset : Nat} {st : IState}
    {silent : Bool} {len : Nat} {st' : IState}
    (h : linkRule cfg skip tok fuel mk en offset st silent = .ok (some len, st')) :
    st'.pos + len ≤ st.posMax ∧ Boundary st.src (st'.pos + len) :=
  (linkRule_closed hq h).bounds

end MdIt.Inline
