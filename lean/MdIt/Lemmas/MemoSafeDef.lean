/-
  For `Props/MemoSafe.lean` (C01, inline pass: the guard of the guarded tokenizer never trips):
  shared definitions — what the `skip_token` memo looks like relative to ONE frame `[lo, M)`.

    * `Closed m a b`  — every memo entry that starts in `[a, b)` ends at or before `b`
                        (`Closed st.cache lo st.posMax` is what makes the guard of `skipTokenG`
                        unreachable in the frame `[lo, posMax)`: `closed_hit`);
    * `New M c c'`    — every entry of `c'` is an entry of `c` or ends at or before `M`
                        (what a look-ahead run inside a frame with `pos_max = M` does to the memo;
                        keeps `Closed _ _ M`: `Closed.of_new`);
    * `Laminar m`     — no two memo entries cross (`k ≤ k' < v → v' ≤ v`; unique keys included);
    * `Path m a b`    — `b` is reached from `a` by following memo entries (`lookup`);
    * `closed_of_path` — a path over a laminar memo is closed: the bridge from laminarity (a conjecture,
                        see `Props/MemoSafe.lean`) to the frame entry condition;
    * `LookupMono m m'`, `Grow lo M c c'` — more memo: old answers stay (`Grow`: what `skip_token` does to
                        the memo from `lo` on under `pos_max = M`);
    * `IState.shrink` — the state with a smaller `pos_max`.

  "Every memoised jump goes forward" is `MemoInv st` (`Lemmas/InlineBase.lean`) for the memo of a state; for
  a bare memo `m` it is written out, `∀ k v, (k, v) ∈ m → k < v`, and it is the first half of `MemoB`
  (`MemoB.memoInv`, `Lemmas/InlineTotalFrame.lean`).

  From other files: `LInv`, `MemoB`, `SkipHypT`, `SilT`, `TokHypT` are `Lemmas/InlineTotalFrame.lean` /
  `InlineTotalStep.lean`, `CalmFn` is `Lemmas/InlineCalm.lean`, `RangesFn` `Lemmas/InlineRanges6.lean`, the
  guarded `skipTokenG cfg g` / `tokLoopG cfg g` (`g`: the guard is on) `Lemmas/InlineTotalDef.lean`, the
  engine `Eng.base`, `engM`, `engG` `Lemmas/InlineEngine.lean`.
-/
import MdIt.Lemmas.InlineTotalLoop
import MdIt.Lemmas.LinkStep

namespace MdIt.Inline

/-- every memo entry that starts in `[a, b)` ends at or before `b` -/
def Closed (m : List (Nat × Nat)) (a b : Nat) : Prop :=
  ∀ k v, (k, v) ∈ m → a ≤ k → k < b → v ≤ b

/-- every entry of `c'` is an entry of `c` or ends at or before `M` -/
def New (M : Nat) (c c' : List (Nat × Nat)) : Prop :=
  ∀ k v, (k, v) ∈ c' → (k, v) ∈ c ∨ v ≤ M

/-- no two memo entries cross, and no key has two different entries (`k = k'` gives `v' ≤ v` both ways) -/
def Laminar (m : List (Nat × Nat)) : Prop :=
  ∀ k v k' v', (k, v) ∈ m → (k', v') ∈ m → k ≤ k' → k' < v → v' ≤ v

/-- `b` is reached from `a` by following memo entries -/
inductive Path (m : List (Nat × Nat)) : Nat → Nat → Prop where
  | refl (a : Nat) : Path m a a
  | step {a b c : Nat} : m.lookup a = some b → Path m b c → Path m a c

theorem New.refl (M : Nat) (c : List (Nat × Nat)) : New M c c := fun _ _ h => .inl h

theorem New.trans {M : Nat} {a b c : List (Nat × Nat)} (h1 : New M a b) (h2 : New M b c) :
    New M a c := by
  intro k v h
  rcases h2 k v h with h | h
  · exact h1 k v h
  · exact .inr h

theorem New.mono {M M' : Nat} {a b : List (Nat × Nat)} (h : New M a b) (hle : M ≤ M') : New M' a b := by
  intro k v hkv
  rcases h k v hkv with h | h
  · exact .inl h
  · exact .inr (by omega)

theorem New.insert {M : Nat} {a b : List (Nat × Nat)} (h : New M a b) {k v : Nat} (hv : v ≤ M) :
    New M a (cacheInsert b k v) := by
  intro k' v' h'
  unfold cacheInsert at h'
  simp only [List.mem_cons, Prod.mk.injEq] at h'
  rcases h' with ⟨rfl, rfl⟩ | h'
  · exact .inr hv
  · exact h k' v' h'

/-- growth inside the frame keeps the frame closed -/
theorem Closed.of_new {c c' : List (Nat × Nat)} {lo M : Nat} (h : Closed c lo M) (hn : New M c c') :
    Closed c' lo M := by
  intro k v hkv hlo hlt
  rcases hn k v hkv with h' | h'
  · exact h k v h' hlo hlt
  · exact h'

theorem Closed.mono_lo {m : List (Nat × Nat)} {a a' b : Nat} (h : Closed m a b) (hle : a ≤ a') :
    Closed m a' b := fun k v hkv h1 h2 => h k v hkv (by omega) h2

theorem Closed.empty (m : List (Nat × Nat)) (a : Nat) : Closed m a a := by
  intro k v _ h1 h2; omega

theorem Closed.nil (a b : Nat) : Closed [] a b := by
  intro k v h; simp at h

/-- closed ranges concatenate -/
theorem Closed.append {m : List (Nat × Nat)} {a b c : Nat} (h1 : Closed m a b) (h2 : Closed m b c)
    (hbc : b ≤ c) : Closed m a c := by
  intro k v hkv hlo hlt
  by_cases hk : k < b
  · have := h1 k v hkv hlo hk; omega
  · exact h2 k v hkv (by omega) hlt

/-- **what `Closed` is for**: a memo hit at a position of the frame ends inside the frame, so the guard
    of `skipTokenG` does not trip -/
theorem closed_hit {st : IState} {lo x : Nat} (hc : Closed st.cache lo st.posMax) (hlo : lo ≤ st.pos)
    (hlt : st.pos < st.posMax) (hx : st.cache.lookup st.pos = some x) : x ≤ st.posMax :=
  hc _ _ (lookup_mem hx) hlo hlt

/-- one memo step over a laminar memo is closed -/
theorem closed_of_step {m : List (Nat × Nat)} (hl : Laminar m) {a b : Nat} (h : m.lookup a = some b) :
    Closed m a b := by
  intro k v hkv hlo hlt
  exact hl a b k v (lookup_mem h) hkv hlo hlt

theorem Path.le {m : List (Nat × Nat)} (hf : ∀ k v, (k, v) ∈ m → k < v) {a b : Nat}
    (h : Path m a b) : a ≤ b := by
  induction h with
  | refl a => exact Nat.le_refl _
  | step h _ ih => have := hf _ _ (lookup_mem h); omega

/-- **a memo path over a laminar memo is closed** — with the `Path m ls le` left by the look-ahead walk
    of a label this is the frame entry condition `Closed m ls le` -/
theorem closed_of_path {m : List (Nat × Nat)} (hl : Laminar m)
    (hf : ∀ k v, (k, v) ∈ m → k < v) {a b : Nat} (h : Path m a b) : Closed m a b := by
  induction h with
  | refl a => exact Closed.empty m a
  | step hab hbc ih => exact Closed.append (closed_of_step hl hab) ih (hbc.le hf)

theorem Path.trans {m : List (Nat × Nat)} {a b c : Nat} (h1 : Path m a b) (h2 : Path m b c) :
    Path m a c := by
  induction h1 with
  | refl a => exact h2
  | step h _ ih => exact .step h (ih h2)


/-! ## growth of the memo as `lookup` sees it -/

/-- `c'` answers every `lookup` that `c` answers, the same way -/
def LookupMono (c c' : List (Nat × Nat)) : Prop := ∀ k v, c.lookup k = some v → c'.lookup k = some v

/-- what a look-ahead run that only visits positions `≥ p` inside a frame with `pos_max = M` does to
    the memo: old answers stay, keys below `p` are untouched, new entries end at or before `M` -/
structure Grow (p M : Nat) (c c' : List (Nat × Nat)) : Prop where
  new : New M c c'
  mono : LookupMono c c'
  low : ∀ k, k < p → c'.lookup k = c.lookup k

theorem LookupMono.refl (c : List (Nat × Nat)) : LookupMono c c := fun _ _ h => h

theorem LookupMono.trans {a b c : List (Nat × Nat)} (h1 : LookupMono a b) (h2 : LookupMono b c) :
    LookupMono a c := fun k v h => h2 k v (h1 k v h)

theorem Grow.refl (p M : Nat) (c : List (Nat × Nat)) : Grow p M c c :=
  ⟨New.refl M c, LookupMono.refl c, fun _ _ => rfl⟩

theorem Grow.trans {p M : Nat} {a b c : List (Nat × Nat)} (h1 : Grow p M a b) (h2 : Grow p M b c) :
    Grow p M a c :=
  ⟨h1.new.trans h2.new, h1.mono.trans h2.mono, fun k hk => (h2.low k hk).trans (h1.low k hk)⟩

theorem Grow.mono_lo {p p' M : Nat} {a b : List (Nat × Nat)} (h : Grow p M a b) (hle : p' ≤ p) :
    Grow p' M a b := ⟨h.new, h.mono, fun k hk => h.low k (by omega)⟩

theorem Grow.mono_max {p M M' : Nat} {a b : List (Nat × Nat)} (h : Grow p M a b) (hle : M ≤ M') :
    Grow p M' a b := ⟨h.new.mono hle, h.mono, h.low⟩

theorem lookup_cacheInsert (c : List (Nat × Nat)) (k v k' : Nat) :
    (cacheInsert c k v).lookup k' = if k' = k then some v else c.lookup k' := by
  unfold cacheInsert
  simp only [List.lookup_cons]
  by_cases h : k' = k
  · subst h; simp
  · have : (k' == k) = false := by simpa using h
    simp [this, h]

/-- the insertion behind a failed `lookup`, after a run that did not touch the key -/
theorem Grow.insert {p M : Nat} {a b : List (Nat × Nat)} (h : Grow (p + 1) M a b) {v : Nat}
    (hv : v ≤ M) (hmiss : a.lookup p = none) : Grow p M a (cacheInsert b p v) := by
  refine ⟨h.new.insert hv, ?_, ?_⟩
  · intro k w hk
    rw [lookup_cacheInsert]
    by_cases hkp : k = p
    · subst hkp; rw [hmiss] at hk; cases hk
    · rw [if_neg hkp]; exact h.mono k w hk
  · intro k hk
    rw [lookup_cacheInsert, if_neg (by omega)]
    exact h.low k (by omega)

theorem lookup_cacheInsert_self (c : List (Nat × Nat)) (k v : Nat) :
    (cacheInsert c k v).lookup k = some v := by
  rw [lookup_cacheInsert]; simp

/-- the state with a smaller `pos_max` (the window a nested frame / a replay sees) -/
def IState.shrink (st : IState) (M' : Nat) : IState := { st with posMax := M' }

end MdIt.Inline
