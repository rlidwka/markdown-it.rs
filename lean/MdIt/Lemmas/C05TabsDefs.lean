/-
  C05 for ALL sources (tabs split or not), after `fix:` "positions inside the virtual spaces of a
  split tab" (`get_source_pos_for` clamped): shared definitions — the interfaces between
    * the table side (Lemmas/C05TabsTable.lean: what `get_lines` guarantees about virtual-space
      entries, `VirtSp`, `PTabs`; Lemmas/C05TabsShift.lean: the translation is a shift on every
      stretch that starts with a "solid" character and holds no line feed, `MapT`),
    * the inline side (Lemmas/C05TabsRanges.lean: order and enclosure of the inline nodes for tables
      that are only `MapT`; the frame invariant `RIv`, `Inline.RI` of Lemmas/InlineRanges.lean with
      one more clause, is an image of the certificate of Lemmas/InlineCert.lean).
-/
import MdIt.Props.C05Rest
import MdIt.Lemmas.InlineCert

namespace MdIt.C05T
open MdIt.InlineOps (Srcmap getSourcePosFor byteLen)
open MdIt.Inline (Node Val IState)
open MdIt.C05R (Cut)

/-- what the inline range theorems need of a per-line table `m` for the inline text `c` — weaker
    than `Inline.MapOK` (which fails when a tab is split):
    `mono`  the translation is monotone EVERYWHERE (`C05.translate_mono_all`);
    `shift` on a stretch `c[p..q]` that starts with a character other than blank-space and line feed
            and holds no line feed, the translation is a shift (no table key, no virtual space and
            no clamping inside: virtual spaces are spaces directly behind a line feed). -/
structure MapT (c : List Char) (m : Srcmap) : Prop where
  wf : C05.WFMap m
  mono : ∀ p p' x x', p ≤ p' → getSourcePosFor m p = .ok x → getSourcePosFor m p' = .ok x' → x ≤ x'
  shift : ∀ p q ch0 w p1 p2 x1 x2, Cut c p q (ch0 :: w) → ch0 ≠ ' ' → ch0 ≠ '\n' → '\n' ∉ w →
    p ≤ p1 → p1 ≤ p2 → p2 ≤ q → getSourcePosFor m p1 = .ok x1 → getSourcePosFor m p2 = .ok x2 →
    x2 = x1 + (p2 - p1)

/-- the virtual-space entries of a `get_lines` table: two consecutive entries `(k0, v)`, `(k, v)`
    with the SAME source offset; the inline text between the two keys consists of spaces (`sp`) and
    starts a line of the inline text (`ls`) -/
structure VirtSp (c : List Char) (m : Srcmap) : Prop where
  sp : ∀ i k0 v k, m[i]? = some (k0, v) → m[i + 1]? = some (k, v) →
    ∀ p, k0 ≤ p → p < k → CharAt c p ' '
  ls : ∀ i k0 v k, m[i]? = some (k0, v) → m[i + 1]? = some (k, v) →
    k0 = 0 ∨ CharAt c (k0 - 1) '\n'

/-- every emphasis-like rule of the chain has a single-byte marker that is neither the line feed
    nor the space (`*`, `_`, `~` in the shipped plugins) -/
def SolidMarkers (chain : List Inline.RuleId) : Prop :=
  ∀ mk csw, Inline.RuleId.emph mk csw ∈ chain → mk.utf8Size = 1 ∧ mk ≠ '\n' ∧ mk ≠ ' '

/-- the frame invariant for `MapT` tables: `Inline.RI` (Lemmas/InlineRanges.lean) plus: in a frame
    where the newline rule is active (`A`), a trailing `Text` holds no line feed -/
structure RIv (A : Prop) (src : List Char) (m : Srcmap) (lo pos : Nat) (cs : List Node) : Prop where
  ri : Inline.RI src m lo pos cs
  nolf : A → ∀ init last, cs = init ++ [last] → last.isText = true → '\n' ∉ last.content

end MdIt.C05T

namespace MdIt.Block

/-- the claim about a placeholder for ALL sources: `PMapF`, every position of the content translates
    to `≤ b` (`UpToAll`, with the clamp), and the virtual-space entries are spaces at line starts -/
def PTabs (src0 : List Char) : InlP := fun c m a b =>
  PMapF src0 c m a b ∧ C05I.UpToAll c m b ∧ C05T.VirtSp c m

end MdIt.Block
