/-
  Helper development for `Props/Inline.lean` (continued): the value invariant through the whole
  tokenizer (`keeps_vals`, an instance of `Lemmas/InlineWalk.lean`; `Lemmas/PipelineH.lean` uses it for
  the tokenizer with the html rule) and through the post pass.
-/
import MdIt.Lemmas.InlineWalk
import MdIt.Lemmas.InlineJoin

namespace MdIt.Inline
open MdIt.InlineOps (Srcmap getSourcePosFor getMap byteLen slice)

/-- `skip` leaves the tree under construction alone -/
def QuietFn (skip : IState → Except Panic IState) : Prop := ∀ s s', skip s = .ok s' → Quiet s s'

/-- every tree satisfies the trivial predicate -/
theorem allVals_true (n : Node) : AllVals (fun _ => True) n := by
  induction n using node_induct with
  | step n ih => rw [AllVals_eq, allValsList_iff]; exact ⟨trivial, ih⟩

theorem CalmFn.quiet {skip : IState → Except Panic IState} (hq : CalmFn skip) : QuietFn skip :=
  fun s s' h => (hq s s' h).quiet

theorem keeps_vals {cfg : Cfg} {P : Val → Prop} (g : GoodP cfg P) : Keeps cfg (fun _ cs => AllValsList P cs) where
  nil _ := trivial
  built _ hb hc := hb.vals g hc
  text _ hp hc := pushText_vals g.text hp hc
  emph hm h hc := ruleEmph_vals g hm h hc
  link hmk hh hc hi := hc.append (AllValsList.single (by
    rw [AllVals_eq]; rcases hmk with rfl | rfl
    · exact ⟨g.link _ _ hh, hi⟩
    · exact ⟨g.image _ _ hh, hi⟩))

/-- **The value invariant through the whole tokenizer** (partial correctness, any fuel):
    `skip_token` leaves the tree alone; `tokenize` keeps "every value satisfies `P`". -/
theorem vals_induction (cfg : Cfg) {P : Val → Prop} (g : GoodP cfg P) : ∀ fuel : Nat,
    QuietFn (fun s => skipToken cfg fuel s) ∧
    (∀ (e : Nat) (st st' : IState), tokLoop cfg fuel e st = .ok st' → ValsOK P st → ValsOK P st') :=
  fun fuel => ⟨(skipToken_calm cfg fuel).quiet,
    fun e st st' h hc => (tokLoop_kept (keeps_vals g) fuel e st st' h hc).2⟩

/-! ## the post pass keeps the value invariant -/

theorem markerToText_vals {P : Val → Prop} (hP : ∀ c, P (.text c)) {n : Node} (h : AllVals P n) :
    AllVals P (markerToText n) := by
  unfold markerToText
  split
  · rw [AllVals_eq] at h ⊢; exact ⟨hP _, h.2⟩
  · exact h

theorem mergeLoop_vals {P : Val → Prop} (hP : ∀ c, P (.text c)) (cur : Node) (rest : List Node)
    (hc : AllVals P cur) (hr : AllValsList P rest) : AllValsList P (mergeLoop cur rest) := by
  induction rest generalizing cur with
  | nil => exact AllValsList.single hc
  | cons nxt rest ih =>
    simp only [mergeLoop]
    split
    · refine ⟨?_, ih _ ?_ hr.2⟩
      · have := hr.1; rw [AllVals_eq] at this ⊢; exact ⟨hP _, this.2⟩
      · rw [AllVals_eq] at hc ⊢; exact ⟨hP _, hc.2⟩
    · exact ⟨hc, ih _ hr.1 hr.2⟩

theorem fragmentsJoinN_vals {P : Val → Prop} (hP : ∀ c, P (.text c)) {cs : List Node}
    (h : AllValsList P cs) : AllValsList P (fragmentsJoinN cs) := by
  unfold fragmentsJoinN
  have h1 : AllValsList P (pass1 cs) := by
    rw [allValsList_iff] at h ⊢
    intro n hn
    unfold pass1 at hn
    obtain ⟨a, ha, rfl⟩ := List.mem_map.mp hn
    exact markerToText_vals hP (h a ha)
  have h2 : AllValsList P (mergeAll (pass1 cs)) := by
    cases hp : pass1 cs with
    | nil => simp [mergeAll, AllValsList]
    | cons c r => rw [hp] at h1; exact mergeLoop_vals hP c r h1.1 h1.2
  rw [allValsList_iff] at h2 ⊢
  exact fun n hn => h2 n (List.mem_filter.mp hn).1

theorem joinNodeN_vals {P : Val → Prop} (hP : ∀ c, P (.text c)) (n : Node) :
    AllVals P n → AllVals P (joinNodeN n) := by
  induction n using joinNodeN_induct with
  | step n ih =>
    intro h
    rw [AllVals_eq] at h ⊢
    rw [joinNodeN_val, joinNodeN_children_map, allValsList_iff]
    refine ⟨h.1, fun y hy => ?_⟩
    obtain ⟨x, hx, rfl⟩ := List.mem_map.mp hy
    exact ih x hx ((allValsList_iff _ _).mp (fragmentsJoinN_vals hP h.2) x hx)

theorem joinAllN_vals {P : Val → Prop} (hP : ∀ c, P (.text c)) {root : Node} (h : AllVals P root) :
    AllVals P (joinAllN root) :=
  joinNodeN_vals hP root h

end MdIt.Inline
