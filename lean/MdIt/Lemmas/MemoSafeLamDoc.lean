/-
  For `Props/MemoSafe.lean`: the whole document — what the placeholders
  of a document satisfy.

  `Pipeline.doc_placeholder_tables` (`Props/C05Inline.lean`: the per-paragraph tables) + `NoSplitTab`
  (`Props/C05Rest.lean`: no table has a virtual-space entry) give `doc_tables_mapOK`: every table is
  `MapOK`; `DocNoDoubleTick` (no paragraph content has two adjacent backticks), by evaluation of the
  block pass or from the source; `DocNoEscTickTick` (no paragraph content has a backslash-backtick-backtick),
  from the source.  The totality theorems for whole documents are in `Lemmas/MemoSafeLamESDoc.lean`.
-/
import MdIt.Lemmas.Placeholders
import MdIt.Props.C05Rest
import MdIt.Lemmas.MemoSafeLamCSDef

namespace MdIt.Pipeline
open MdIt

/-- every placeholder of a document without split tab has a `MapOK` table -/
theorem doc_tables_mapOK (cfg : DocCfg) (src : List Char)
    (hsmall : 4 * Lines.byteLen src + 8 < 2147483648) (hpara : cfg.hasPara = true)
    (hnv : NoSplitTab cfg src) {root : Block.BNode} {refs : Refs.RefMap}
    (hb : Block.parseBlocks cfg.blockCfg src = .ok (root, refs)) :
    Block.AllInl (fun c m => Inline.MapOK c m) root :=
  allInl_and (fun _ _ ⟨_, _, h⟩ hv => h.2.2.2.2.1 hv) (doc_placeholder_tables cfg src hsmall hpara hb).2
    (hnv root refs hb)

/-- no placeholder content of the document has two adjacent backticks -/
def DocNoDoubleTick (cfg : DocCfg) (src : List Char) : Prop :=
  ∀ root refs, Block.parseBlocks cfg.blockCfg src = .ok (root, refs) →
    Block.AllInl (fun c _ => Inline.NoDoubleTick c) root

/-! ## `DocNoDoubleTick` by evaluation of the block pass -/

mutual
def allNoDoubleB : Block.BNode → Bool
  | ⟨k, _, cs⟩ =>
    (match k with | .inlineRoot c _ => decide (Inline.NoDoubleTick c) | _ => true) && allNoDoubleBL cs
def allNoDoubleBL : List Block.BNode → Bool
  | [] => true
  | c :: r => allNoDoubleB c && allNoDoubleBL r
end

mutual
theorem allNoDoubleB_sound : ∀ (n : Block.BNode), allNoDoubleB n = true →
    Block.AllInl (fun c _ => Inline.NoDoubleTick c) n
  | ⟨k, r, cs⟩, h => by
    simp only [allNoDoubleB, Bool.and_eq_true] at h
    refine .mk _ ?_ (allNoDoubleBL_sound cs h.2)
    intro c m hk _
    simp only at hk
    subst hk
    simpa using h.1
theorem allNoDoubleBL_sound : ∀ (l : List Block.BNode), allNoDoubleBL l = true →
    ∀ c ∈ l, Block.AllInl (fun c _ => Inline.NoDoubleTick c) c
  | [], _ => by simp
  | x :: r, h => by
    simp only [allNoDoubleBL, Bool.and_eq_true] at h
    intro c hc
    have hx := allNoDoubleB_sound x h.1
    have hr := allNoDoubleBL_sound r h.2
    rcases List.mem_cons.mp hc with e | hc
    · rw [e]; exact hx
    · exact hr c hc
end

theorem docNoDoubleTick_of_check (cfg : DocCfg) (src : List Char)
    (h : (match Block.parseBlocks cfg.blockCfg src with
          | .ok (root, _) => allNoDoubleB root
          | .error _ => true) = true) : DocNoDoubleTick cfg src := by
  intro root refs hb
  rw [hb] at h
  exact allNoDoubleB_sound root h

/-! ## from the source: no two adjacent backticks in the document -/

/-- the content of a placeholder is a faithful excerpt of the document: a stretch `pat` without line feed
    of the content is one of the source -/
theorem infix_of_pfth {src c : List Char} {m : InlineOps.Srcmap} (hf : C05R.PFth src c m)
    (hw : C05.WFMap m) {pat : List Char} (hp : '\n' ∉ pat) : pat <:+: c → pat <:+: src := by
  rintro ⟨s, t, e⟩
  obtain ⟨a, ha⟩ := C05.translate_total m hw (InlineOps.byteLen s)
  obtain ⟨b, hb⟩ := C05.translate_total m hw (InlineOps.byteLen s + InlineOps.byteLen pat)
  obtain ⟨p, q, hsrc, _, _⟩ := hf.copy _ _ _ a b ⟨s, t, e.symm, rfl, rfl⟩ hp ha hb
  exact ⟨p, q, hsrc.symm⟩

/-- a stretch without line feed that the source does not have, no placeholder content has (no split tab) -/
theorem doc_noInfix_of_src (cfg : DocCfg) (src : List Char)
    (hsmall : 4 * Lines.byteLen src + 8 < 2147483648) (hpara : cfg.hasPara = true)
    (hnv : NoSplitTab cfg src) {pat : List Char} (hp : '\n' ∉ pat) (hne : ¬ pat <:+: src)
    {root : Block.BNode} {refs : Refs.RefMap}
    (hb : Block.parseBlocks cfg.blockCfg src = .ok (root, refs)) :
    Block.AllInl (fun c _ => ¬ pat <:+: c) root := by
  obtain ⟨hr, hg⟩ := Block.parseBlocks_geo3 (cfg := cfg.blockCfg) hpara (Block.inlSpec3_pfullV src) hsmall hb
  have hall : Block.AllInl (fun c m => ∃ a b, Block.PFullV src c m a b) root :=
    hg.allInl (fun c m a b h => ⟨a, b, h⟩) (by
      intro c m _ hnone
      rw [hr] at hnone
      cases hnone)
  exact allInl_and (fun c m ⟨_, _, h⟩ hv hc => hne (infix_of_pfth (h.2.1 hv) h.1.1 hp hc)) hall
    (hnv root refs hb)

theorem noDoubleTick_of_pfth {src c : List Char} {m : InlineOps.Srcmap} (hf : C05R.PFth src c m)
    (hw : C05.WFMap m) (hnd : Inline.NoDoubleTick src) : Inline.NoDoubleTick c :=
  fun h => hnd (infix_of_pfth hf hw (by decide) h)

/-- **a document without two adjacent backticks has no paragraph content with two adjacent backticks**
    (no split tab) -/
theorem docNoDoubleTick_of_src (cfg : DocCfg) (src : List Char)
    (hsmall : 4 * Lines.byteLen src + 8 < 2147483648) (hpara : cfg.hasPara = true)
    (hnv : NoSplitTab cfg src) (hnd : Inline.NoDoubleTick src) : DocNoDoubleTick cfg src :=
  fun _ _ hb => doc_noInfix_of_src cfg src hsmall hpara hnv (by decide) hnd hb

/-! ## `DocNoEscTickTick` -/

theorem noEscTickTick_of_pfth {src c : List Char} {m : InlineOps.Srcmap} (hf : C05R.PFth src c m)
    (hw : C05.WFMap m) (hne : Inline.CS.NoEscTickTick src) : Inline.CS.NoEscTickTick c :=
  fun h => hne (infix_of_pfth hf hw (by decide) h)

/-- no placeholder content of the document has a backslash-backtick-backtick -/
def DocNoEscTickTick (cfg : DocCfg) (src : List Char) : Prop :=
  ∀ root refs, Block.parseBlocks cfg.blockCfg src = .ok (root, refs) →
    Block.AllInl (fun c _ => Inline.CS.NoEscTickTick c) root

theorem docNoEscTickTick_of_src (cfg : DocCfg) (src : List Char)
    (hsmall : 4 * Lines.byteLen src + 8 < 2147483648) (hpara : cfg.hasPara = true)
    (hnv : NoSplitTab cfg src) (hne : Inline.CS.NoEscTickTick src) : DocNoEscTickTick cfg src :=
  fun _ _ hb => doc_noInfix_of_src cfg src hsmall hpara hnv (by decide) hne hb

end MdIt.Pipeline
