/-
  C06 for a whole STACK of containers, for ANY block forest.

  A wrapper stack acts on source POSITIONS: one wrapper moves byte `p` of `docOf Ls` by its width once for every line
  up to the one `p` lies on — C06's `tau` at the wrapper's width (`Wrapper.map`; the block quote's `sigma` is `tau 2`) —,
  a stack `w` by the composition `posMap w Ls`.  On a position of line `i` that is "+ the prefixes of the lines
  `0 … i`" (`posMap_line`, `posMap_first`, `posMap_end`).

    `wrap1_commutes`     `Block.quote_commutes` and `Li.item_commutes_gen` under one statement, on a document given by
                         its lines, with the container's range made explicit
    `wrapAll_commutes`   the block tree of the document inside `w` is the chain of wrapper nodes (`wrapForest`: each
                         from its marker's column on line 0 to the end of the source) around the children of the
                         document's root relocated by `posMap` — the paragraphs among them unwrapped when the
                         innermost wrapper is a list item and the run was tight (`tightOf`)
    `parseBlocks_nested` the instance for a single childless leaf (`wrapTree`): a code block, a fence, …
  The paragraph leaves are in `Lemmas/C11NestedPara.lean` (one line, any table) and `Lemmas/C11SpanCtxBlock.lean`
  (`n` lines, the per-line table): they differ only in what `relocNodes (posMap …)` computes to.
-/
import MdIt.Lemmas.C11Nested

namespace MdIt.C11N
open MdIt.Block MdIt.Block.Li
open MdIt.Lines (NoTerm lead IsTerminator)

/-- where byte `p` of `docOf Ls` stands once `x` is put around the document -/
def Wrapper.map (x : Wrapper) (Ls : List (List Char)) : Nat → Nat := tau x.width (withTerms Ls)

theorem withTerms_wrapLines (x : Wrapper) (Ls : List (List Char)) :
    withTerms (wrapLines x Ls) = indentLines x.pre (withTerms Ls) := (withTerms_mapIdx Ls x.pre).symm

theorem Wrapper.map_spec {x : Wrapper} (hx : x.Ok) {Ls : List (List Char)} (g : Good Ls)
    (hsize : Lines.byteLen (docOf Ls) + 8 < 2147483648) {i : Nat} (h : i < (withTerms Ls).length) {y : Nat}
    (hy : y ≤ Lines.byteLen (withTerms Ls)[i].1) :
    x.map Ls (startOf (withTerms Ls) i + y) = startOf (withTerms (wrapLines x Ls)) i + x.width + y := by
  have hL : LinesOk (withTerms Ls) := by rw [← g.linesT]; exact linesOk_linesT _ g.tab hsize
  have pf := Wrapper.preFacts hx
  rw [Wrapper.map, tau_in_line _ hL h hy, withTerms_wrapLines,
    startOf_indent ⟨pf.len, pf.bytes, pf.tabfree⟩ _ _ (Nat.le_of_lt h)]

theorem Wrapper.map_good {x : Wrapper} (hx : x.Ok) {l : List Char} {r : List (List Char)} (g : Good (l :: r))
    (hsize : Lines.byteLen (docOf (l :: r)) + 8 < 2147483648) :
    (∀ a, a ≤ Lines.byteLen l → x.map (l :: r) a = a + x.width) ∧
      x.map (l :: r) (Lines.byteLen (docOf (l :: r))) = Lines.byteLen (docOf (wrapLines x (l :: r))) := by
  have pf := Wrapper.preFacts hx
  have hpos : 0 < (withTerms (l :: r)).length := by rw [withTerms_length]; simp
  have := reloc_of_spec (x.map (l :: r)) (withTerms (l :: r)) (withTerms (wrapLines x (l :: r))) x.width
    (by rw [withTerms_length, withTerms_length, wrapLines_length])
    (fun i h y hy => Wrapper.map_spec hx g hsize h hy)
    (fun i h => by
      simp only [withTerms_wrapLines, indentLines_getElem _ _ i h, Lines.byteLen_append, pf.bytes, and_self])
    hpos (withTerms_last (l :: r) hpos)
  rw [flat_withTerms, flat_withTerms] at this
  refine ⟨fun a ha => this.1 a ?_, this.2⟩
  simpa [withTerms_getElem_fst (l :: r) 0 (by simp)] using ha

/-- the wrapper's nodes around a list of children -/
def Wrapper.nodeL (x : Wrapper) (r : Nat × Nat) (cs : List BNode) : BNode :=
  if x.isQuote then ⟨x.kind, some r, cs⟩ else ⟨x.kind, some r, [⟨.listItem, some r, cs⟩]⟩

/-- the wrapper nodes (all up to `E`) around the innermost children `leaf` -/
def wrapForest (E : Nat) : List Wrapper → Nat → List BNode → List BNode
  | [], _, leaf => leaf
  | x :: ws, off, leaf => [x.nodeL (off, E) (wrapForest E ws (off + x.width) leaf)]

theorem reloc_wrapForest (σ : Nat → Nat) (d B E E' : Nat) (hσ : ∀ a, a ≤ B → σ a = a + d) (hE : σ E = E')
    (leaf leaf' : List BNode) (hl : relocNodes σ leaf = leaf') :
    ∀ (ws : List Wrapper) (off : Nat), off + widthAll ws ≤ B →
      relocNodes σ (wrapForest E ws off leaf) = wrapForest E' ws (off + d) leaf'
  | [], off, _ => hl
  | x :: ws, off, h => by
    simp only [widthAll] at h
    have ih := reloc_wrapForest σ d B E E' hσ hE leaf leaf' hl ws (off + x.width) (by omega)
    rw [Nat.add_right_comm] at ih
    simp only [wrapForest, Wrapper.nodeL]
    split <;>
      simp only [relocNode, relocNodes, relocKind_wrapper, Option.map_some, hσ off (by omega), hE, ih,
        (show relocKind σ Kind.listItem = Kind.listItem from rfl)]

/-- is the paragraph unwrapped after one more wrapper: a list item directly around the paragraph is tight
    (the run on a one-paragraph document ends `tight`), anything further out leaves the leaf alone -/
def stepTight (x : Wrapper) (ws : List Wrapper) (tg : Bool) : Bool :=
  match ws with
  | [] => (!x.isQuote) || tg
  | _ => tg

/-- the paragraph is unwrapped iff the INNERMOST wrapper is a list item -/
def tightOf : List Wrapper → Bool
  | [] => false
  | x :: ws => stepTight x ws (tightOf ws)

theorem tightOf_one (x : Wrapper) : tightOf [x] = !x.isQuote := by simp [tightOf, stepTight]

theorem tightOf_cons2 (x y : Wrapper) (ws : List Wrapper) : tightOf (x :: y :: ws) = tightOf (y :: ws) := rfl

theorem nodeL_kind_ne (x : Wrapper) (rg : Nat × Nat) (cs : List BNode) : (x.nodeL rg cs).kind ≠ .paragraph := by
  unfold Wrapper.nodeL
  split <;> (cases x <;> simp [Wrapper.kind])

/-- what one more wrapper does to the children it encloses: a list item unwraps the paragraphs of a tight run -/
def Wrapper.inner (x : Wrapper) (tg : Bool) (cs : List BNode) : List BNode :=
  if x.isQuote then cs else if tg then markTight cs else cs

theorem Wrapper.inner_single (x : Wrapper) (tg : Bool) (n : BNode) (h : n.kind ≠ .paragraph) : x.inner tg [n] = [n] := by
  simp [Wrapper.inner, markTight, h]

theorem wrap1_commutes (cfg : Cfg) (hmn : 0 < cfg.maxNesting) (x : Wrapper) (hx : x.Ok) (hch : ChainFor cfg.chain [x])
    (l : List Char) (r : List (List Char)) (g : Good (l :: r)) (hf : FirstLineOk l)
    (hhr : .hr ∈ cfg.chain.takeWhile (· ≠ .list) → x.isQuote = false → hrLook 0 (x.mk ++ ' ' :: l) = false)
    (hsize : Lines.byteLen (docOf (l :: r)) + 20 < 2147483648)
    {t : BState} (ht : tokenize cfg (fuelFor cfg (docOf (l :: r))) (BState.fresh (docOf (l :: r)) .root []) = .ok t) :
    parseBlocks { cfg with maxNesting := cfg.maxNesting + x.cost } (docOf (wrapLines x (l :: r))) =
      .ok (⟨.root, some (0, Lines.byteLen (docOf (wrapLines x (l :: r)))),
            [x.nodeL (0, Lines.byteLen (docOf (wrapLines x (l :: r))))
              (x.inner t.tight (relocNodes (x.map (l :: r)) t.children))]⟩, t.refs) := by
  have hwrap := wrap1_docOf x g.ne g.noTerm g.last
  have g2 : Good (wrapLines x (l :: r)) := g.wrap hx
  have hn : (Lines.linesT (docOf (l :: r))).length = r.length + 1 := by
    rw [g.linesT, withTerms_length]; rfl
  obtain ⟨c0, p0, hp0, hc0⟩ := (Wrapper.preFacts hx).head
  have hlead : lead (x.pre 0 ++ l) = [] := by
    rw [hp0]; exact (lead_nonblank_cons _ hc0).1
  have hrng : ∀ rr, Lines.getMap (Lines.splitLines (docOf (wrapLines x (l :: r)))) 0 (r.length + 1 - 1) = .ok rr →
      rr = (0, Lines.byteLen (docOf (wrapLines x (l :: r)))) := by
    intro rr hrr
    revert hrr g2
    rw [wrapLines_cons]
    intro g2 hrr
    have := getMap_whole g2 (by simpa using hrr)
    simpa [hlead] using this
  rcases x.cases with rfl | ⟨hq', hw1⟩
  · obtain ⟨hmem, hpre⟩ := hch.quote ⟨.quote, by simp, rfl⟩
    have hp0 : parseBlocks cfg (docOf (l :: r)) =
        .ok (⟨t.nodeKind, some (0, Lines.byteLen (docOf (l :: r))), t.children⟩, t.refs) := by
      unfold parseBlocks; rw [ht]
    obtain ⟨rr, hrr, hp⟩ := quote_commutes cfg (docOf (l :: r)) g.tab (by omega) _ _
      (MdIt.Pipeline.split_at_first .blockquote _ hmem) hpre hp0
    have hwrap' : prefixQuote (docOf (l :: r)) = docOf (wrapLines .quote (l :: r)) := hwrap
    rw [hwrap', hn] at hrr
    rw [hwrap'] at hp
    rw [show Wrapper.quote.cost = 1 from rfl, hp, hrng rr hrr, sigma_eq_tau, g.linesT]
    rfl
  · have hmk := Wrapper.mkOk hx hq'
    obtain ⟨mv, mc, hdet, hmc, hch0, hkind⟩ := Wrapper.itemData hx hq'
    obtain ⟨hmem, hpre⟩ := hch.list ⟨x, by simp, hq'⟩
    have hwl := width_le x hx
    obtain ⟨t0, rest, hwt⟩ := withTerms_cons l r
    have hLT : Lines.linesT (docOf (l :: r)) = (l, t0) :: rest := by rw [g.linesT, hwt]
    obtain ⟨rr, hrr, hp⟩ := item_commutes_gen cfg hmk hdet hmc hch0 (docOf (l :: r)) g.tab
      (by simp only [Wrapper.width] at hwl; omega) ⟨l, t0, rest, hLT, hf.1, hf.2⟩ hmn _ _
      (MdIt.Pipeline.split_at_first .list _ hmem) hpre
      (fun hin l0 t0' rest0 h0 => by
        rw [hLT] at h0
        simp only [List.cons.injEq, Prod.mk.injEq] at h0
        rw [← h0.1.1]
        exact hhr hin hq') ht
    have hwrap' : itemDoc x.mk (docOf (l :: r)) = docOf (wrapLines x (l :: r)) := by rw [← hw1]; exact hwrap
    rw [hwrap', hn] at hrr
    rw [hwrap'] at hp
    have hcost : x.cost = 2 := by
      cases x with
      | quote => cases hq'
      | bullet c => rfl
      | ordered ds dl => rfl
    rw [hcost, hp, hrng rr hrr, g.linesT]
    simp only [Wrapper.nodeL, Wrapper.inner, hq', hkind, Bool.false_eq_true, if_false, Wrapper.map, Wrapper.width]

theorem firstLineOk_firstLine {ws : List Wrapper} (hws : ∀ y ∈ ws, y.Ok) {l : List Char} (hf : FirstLineOk l) :
    FirstLineOk (firstLine ws l) := by
  cases ws with
  | nil => exact hf
  | cons y ws' =>
    have := firstLine_head (hws y (by simp)) ws' l
    exact ⟨this.2, .inl (by rw [this.1]; rfl)⟩

/-- where byte `p` of `docOf Ls` stands in the document wrapped in `w` -/
def posMap : List Wrapper → List (List Char) → Nat → Nat
  | [], _, p => p
  | x :: ws, Ls, p => x.map (wrapAllLines ws Ls) (posMap ws Ls p)

mutual
theorem relocNode_comp (σ τ : Nat → Nat) : ∀ n : BNode, relocNode σ (relocNode τ n) = relocNode (fun p => σ (τ p)) n
  | ⟨k, rg, cs⟩ => by
    simp only [relocNode, relocNodes_comp σ τ cs]
    congr 1
    · cases k <;> simp [relocKind, Function.comp_def]
    · cases rg <;> rfl
theorem relocNodes_comp (σ τ : Nat → Nat) : ∀ cs : List BNode,
    relocNodes σ (relocNodes τ cs) = relocNodes (fun p => σ (τ p)) cs
  | [] => rfl
  | n :: r => by simp only [relocNodes, relocNode_comp σ τ n, relocNodes_comp σ τ r]
end

mutual
theorem relocNode_id : ∀ n : BNode, relocNode (fun p => p) n = n
  | ⟨k, rg, cs⟩ => by
    simp only [relocNode, relocNodes_id cs]
    congr 1
    · cases k <;> simp [relocKind]
    · cases rg <;> rfl
theorem relocNodes_id : ∀ cs : List BNode, relocNodes (fun p => p) cs = cs
  | [] => rfl
  | n :: r => by simp only [relocNodes, relocNode_id n, relocNodes_id r]
end

theorem tokenize_of_parse {cfg : Cfg} {src : List Char} {k : Kind} {rg : Option (Nat × Nat)} {cs : List BNode}
    {refs : Refs.RefMap} (h : parseBlocks cfg src = .ok (⟨k, rg, cs⟩, refs)) :
    ∃ t, tokenize cfg (fuelFor cfg src) (BState.fresh src .root []) = .ok t ∧ t.children = cs ∧ t.refs = refs := by
  unfold parseBlocks at h
  cases htk : tokenize cfg (fuelFor cfg src) (BState.fresh src .root []) with
  | error e => rw [htk] at h; cases h
  | ok t =>
    rw [htk] at h
    simp only [Except.ok.injEq, Prod.mk.injEq, BNode.mk.injEq] at h
    exact ⟨t, rfl, h.1.2.2, h.2⟩

theorem wrapAll_commutes (cfg : Cfg) (hmn : 0 < cfg.maxNesting) (l : List Char) (r : List (List Char)) (g : Good (l :: r))
    (hf : FirstLineOk l) (cs : List BNode) (refs : Refs.RefMap) (tg : Bool)
    (hbase : parseBlocks cfg (docOf (l :: r)) = .ok (⟨.root, some (0, Lines.byteLen (docOf (l :: r))), cs⟩, refs))
    (htight : ∀ t, tokenize cfg (fuelFor cfg (docOf (l :: r))) (BState.fresh (docOf (l :: r)) .root []) = .ok t →
      t.tight = tg) :
    ∀ (w : List Wrapper), (∀ x ∈ w, x.Ok) → ChainFor cfg.chain w →
      (.hr ∈ cfg.chain.takeWhile (· ≠ .list) → HrFree w l) →
      Lines.byteLen (docOf (wrapAllLines w (l :: r))) + 20 < 2147483648 →
      parseBlocks { cfg with maxNesting := cfg.maxNesting + depthCost w } (docOf (wrapAllLines w (l :: r))) =
        .ok (⟨.root, some (0, Lines.byteLen (docOf (wrapAllLines w (l :: r)))),
              wrapForest (Lines.byteLen (docOf (wrapAllLines w (l :: r)))) w 0
                (relocNodes (posMap w (l :: r)) (if tightOf w && tg then markTight cs else cs))⟩, refs)
  | [], _, _, _, _ => by
    simp only [wrapAllLines, depthCost, wrapForest, tightOf, Bool.false_and, Bool.false_eq_true, if_false, Nat.add_zero]
    rw [show posMap [] (l :: r) = fun p => p from rfl, relocNodes_id]
    exact hbase
  | x :: ws, hw, hch, hhr, hsize => by
    have hws : ∀ y ∈ ws, y.Ok := fun y hy => hw y (List.mem_cons_of_mem _ hy)
    have hx : x.Ok := hw x (by simp)
    have g' := Good.wrapAll hws g
    have hsz' : Lines.byteLen (docOf (wrapAllLines ws (l :: r))) + 20 < 2147483648 := by
      have := byteLen_wrapLines_ge hx g'
      simp only [wrapAllLines] at hsize
      omega
    have ih := wrapAll_commutes cfg hmn l r g hf cs refs tg hbase htight ws hws hch.tail (fun h => (hhr h).tail) hsz'
    obtain ⟨r', hr', _⟩ := wrapAllLines_cons ws l r
    obtain ⟨t, htk, hch_t, hrefs_t⟩ := tokenize_of_parse ih
    simp only [wrapAllLines, posMap]
    rw [hr'] at g' htk hsz' hch_t ⊢
    have h := wrap1_commutes { cfg with maxNesting := cfg.maxNesting + depthCost ws }
      (Nat.lt_of_lt_of_le hmn (Nat.le_add_right _ _)) x hx hch.head (firstLine ws l) r' g' (firstLineOk_firstLine hws hf)
      (fun hin hq => hr_item hx hq (hhr hin)) hsz' htk
    rw [cfg_nest] at h
    rw [show depthCost (x :: ws) = depthCost ws + x.cost from rfl, h, hch_t, hrefs_t]
    obtain ⟨hσ, hE⟩ := Wrapper.map_good hx g' (by omega)
    have hrel := reloc_wrapForest _ x.width _ _ _ hσ hE
      (relocNodes (posMap ws (l :: r)) (if tightOf ws && tg then markTight cs else cs)) _ rfl ws 0
      (by rw [byteLen_firstLine hws]; omega)
    rw [hrel, relocNodes_comp]
    cases ws with
    | nil =>
      -- the innermost wrapper: the run inside is the run on the document itself
      obtain rfl : r = r' := by simpa [wrapAllLines, firstLine] using hr'
      have ecfg : ({ cfg with maxNesting := cfg.maxNesting + depthCost [] } : Cfg) = cfg := rfl
      rw [ecfg] at htk
      simp only [firstLine] at htk
      have htt : t.tight = tg := htight t htk
      have e : posMap [] (l :: r) = fun p => p := rfl
      simp only [wrapForest, tightOf, stepTight, Bool.or_false, Bool.false_and, Bool.false_eq_true, if_false, e,
        htt, Wrapper.inner]
      cases hq : x.isQuote <;> cases tg <;> simp [markTight_reloc]
    | cons y ws' =>
      rw [tightOf_cons2]
      simp only [wrapForest, Nat.zero_add]
      rw [Wrapper.inner_single _ _ _ (nodeL_kind_ne _ _ _)]

theorem wrapLines_getElem (x : Wrapper) (Ls : List (List Char)) (i : Nat) (h : i < (wrapLines x Ls).length) :
    (wrapLines x Ls)[i] = x.pre i ++ Ls[i]'(by rw [wrapLines_length] at h; exact h) := by
  simp [wrapLines]

theorem byteLen_wrapAllLines {w : List Wrapper} (hw : ∀ x ∈ w, x.Ok) (Ls : List (List Char)) :
    ∀ (i : Nat) (h : i < (wrapAllLines w Ls).length),
      Lines.byteLen (wrapAllLines w Ls)[i] =
        widthAll w + Lines.byteLen (Ls[i]'(by rw [wrapAllLines_length] at h; exact h)) := by
  induction w with
  | nil => intro i h; simp [wrapAllLines, widthAll]
  | cons x ws ih =>
    intro i h
    have pf := Wrapper.preFacts (hw x (by simp))
    have h' : i < (wrapAllLines ws Ls).length := by
      simp only [wrapAllLines, wrapLines_length] at h; exact h
    have := ih (fun y hy => hw y (List.mem_cons_of_mem _ hy)) i h'
    simp only [wrapAllLines, wrapLines_getElem, Lines.byteLen_append, pf.bytes, this, widthAll]
    omega

theorem size_tail {x : Wrapper} {ws : List Wrapper} (hw : ∀ y ∈ x :: ws, y.Ok) {Ls : List (List Char)} (g : Good Ls) {n : Nat}
    (h : Lines.byteLen (docOf (wrapAllLines (x :: ws) Ls)) + n < 2147483648) :
    Lines.byteLen (docOf (wrapAllLines ws Ls)) + n < 2147483648 := by
  have := byteLen_wrapLines_ge (hw x (by simp)) (Good.wrapAll (fun y hy => hw y (List.mem_cons_of_mem _ hy)) g)
  simp only [wrapAllLines] at h
  omega

theorem posMap_line {Ls : List (List Char)} (g : Good Ls) : ∀ {w : List Wrapper}, (∀ x ∈ w, x.Ok) →
    Lines.byteLen (docOf (wrapAllLines w Ls)) + 8 < 2147483648 →
    ∀ (i : Nat) (hi : i < Ls.length) (y : Nat), y ≤ Lines.byteLen Ls[i] →
      posMap w Ls (startOf (withTerms Ls) i + y) = startOf (withTerms (wrapAllLines w Ls)) i + widthAll w + y
  | [], _, _, i, hi, y, _ => by simp [posMap, wrapAllLines, widthAll]
  | x :: ws, hw, hsize, i, hi, y, hy => by
    have hws : ∀ y ∈ ws, y.Ok := fun y hy => hw y (List.mem_cons_of_mem _ hy)
    have g' := Good.wrapAll hws g
    have hsz' := size_tail hw g hsize
    have hi' : i < (wrapAllLines ws Ls).length := by rw [wrapAllLines_length]; exact hi
    have hb := byteLen_wrapAllLines hws Ls i hi'
    simp only [posMap, wrapAllLines, widthAll]
    rw [posMap_line g hws hsz' i hi y hy, Nat.add_assoc,
      Wrapper.map_spec (hw x (by simp)) g' hsz' (by rw [withTerms_length]; exact hi')
        (by rw [withTerms_getElem_fst _ i hi', hb]; omega)]
    omega

theorem posMap_first {l : List Char} {r : List (List Char)} (g : Good (l :: r)) {w : List Wrapper} (hw : ∀ x ∈ w, x.Ok)
    (hsize : Lines.byteLen (docOf (wrapAllLines w (l :: r))) + 8 < 2147483648) {a : Nat} (ha : a ≤ Lines.byteLen l) :
    posMap w (l :: r) a = a + widthAll w := by
  have := posMap_line g hw hsize 0 (by simp) a ha
  simp only [startOf_zero, Nat.zero_add] at this
  omega

theorem posMap_end {Ls : List (List Char)} (g : Good Ls) : ∀ {w : List Wrapper}, (∀ x ∈ w, x.Ok) →
    Lines.byteLen (docOf (wrapAllLines w Ls)) + 8 < 2147483648 →
    posMap w Ls (Lines.byteLen (docOf Ls)) = Lines.byteLen (docOf (wrapAllLines w Ls))
  | [], _, _ => rfl
  | x :: ws, hw, hsize => by
    have hws : ∀ y ∈ ws, y.Ok := fun y hy => hw y (List.mem_cons_of_mem _ hy)
    have g' := Good.wrapAll hws g
    obtain ⟨l', r', hlr⟩ : ∃ l' r', wrapAllLines ws Ls = l' :: r' := by
      cases h : wrapAllLines ws Ls with
      | nil => exact absurd h g'.ne
      | cons a b => exact ⟨a, b, rfl⟩
    simp only [posMap, wrapAllLines]
    rw [posMap_end g hws (size_tail hw g hsize)]
    rw [hlr] at g' ⊢
    exact (Wrapper.map_good (hw x (by simp)) g' (by have := size_tail hw g hsize; rw [hlr] at this; exact this)).2

/-- the wrapper's nodes around `child`: a block quote, or a list with one item; all over the range `r` -/
def Wrapper.node (x : Wrapper) (r : Nat × Nat) (child : BNode) : BNode :=
  if x.isQuote then ⟨x.kind, some r, [child]⟩ else ⟨x.kind, some r, [⟨.listItem, some r, [child]⟩]⟩

/-- the block tree of the wrapped document: every wrapper node spans from the column where its marker
    stands on line 0 (`off`: the widths of the wrappers outside it) to the end `E` of the source; the
    leaf (kind `k`) starts `s0` bytes behind the innermost prefix -/
def wrapTree (k : Kind) (s0 E : Nat) : List Wrapper → Nat → BNode
  | [], off => ⟨k, some (off + s0, E), []⟩
  | x :: ws, off => x.node (off, E) (wrapTree k s0 E ws (off + x.width))

theorem markTight_single {n : BNode} (h : n.kind ≠ .paragraph) : markTight [n] = [n] := by
  simp [markTight, h]


theorem wrapForest_leaf (k : Kind) (s0 E : Nat) : ∀ (ws : List Wrapper) (off : Nat),
    wrapForest E ws off [⟨k, some (off + widthAll ws + s0, E), []⟩] = [wrapTree k s0 E ws off]
  | [], off => by simp [wrapForest, wrapTree, widthAll]
  | x :: ws, off => by
    have ih := wrapForest_leaf k s0 E ws (off + x.width)
    rw [show off + widthAll (x :: ws) + s0 = off + x.width + widthAll ws + s0 by simp only [widthAll]; omega]
    simp only [wrapForest, wrapTree, ih, Wrapper.nodeL, Wrapper.node]

/-- **the block pass on a wrapped document.**  `l :: r` a `Good` document (tab-free, terminator-free
    lines, the last one not empty) which the block parser turns into `Root[leaf]`, `leaf` a childless
    node of kind `k` (not a paragraph, no mapping: a code block, a fence, a thematic break …) from byte
    `s0` of line 0 to the end of the source, the first line not blank and indented by 0 or ≥ 4 columns.
    For every list `w` of wrappers the list rule / block-quote rule recognise, with the chain condition
    of C06 for the wrappers used and the thematic-break condition for the bullets, below 2 GiB, with
    `depthCost w` more levels of nesting allowed, the wrapped document parses to `Root[wrapTree w]`:
    one node per block quote, two (list, item) per list wrapper, each with exactly one child, each from
    its marker's column on line 0 to the end of the source, around the SAME leaf (same kind, same payload)
    which now starts behind all the prefixes. -/
theorem parseBlocks_nested (cfg : Cfg) (hmn : 0 < cfg.maxNesting) (k : Kind) (hk1 : k ≠ .paragraph)
    (hk2 : ∀ σ, relocKind σ k = k) (s0 : Nat)
    (l : List Char) (r : List (List Char)) (g : Good (l :: r)) (hf : FirstLineOk l) (hs0 : s0 ≤ Lines.byteLen l)
    (hbase : parseBlocks cfg (docOf (l :: r)) =
      .ok (⟨.root, some (0, Lines.byteLen (docOf (l :: r))), [⟨k, some (s0, Lines.byteLen (docOf (l :: r))), []⟩]⟩, [])) :
    ∀ (w : List Wrapper), (∀ x ∈ w, x.Ok) → ChainFor cfg.chain w →
      (.hr ∈ cfg.chain.takeWhile (· ≠ .list) → HrFree w l) →
      Lines.byteLen (docOf (wrapAllLines w (l :: r))) + 20 < 2147483648 →
      parseBlocks { cfg with maxNesting := cfg.maxNesting + depthCost w } (docOf (wrapAllLines w (l :: r))) =
        .ok (⟨.root, some (0, Lines.byteLen (docOf (wrapAllLines w (l :: r)))),
              [wrapTree k s0 (Lines.byteLen (docOf (wrapAllLines w (l :: r)))) w 0]⟩, []) := by
  intro w hw hch hhr hsize
  obtain ⟨t, htk, -, -⟩ := tokenize_of_parse hbase
  rw [wrapAll_commutes cfg hmn l r g hf _ [] t.tight hbase (fun t' ht' => by rw [htk] at ht'; cases ht'; rfl) w hw hch hhr
    hsize, ← wrapForest_leaf]
  have : markTight [(⟨k, some (s0, Lines.byteLen (docOf (l :: r))), []⟩ : BNode)] = [⟨k, some (s0, _), []⟩] :=
    markTight_single hk1
  simp only [this, ite_self, relocNodes, relocNode, hk2, Option.map_some, posMap_end g hw (w := w) (by omega),
    posMap_first g hw (show _ + 8 < _ by omega) hs0, Nat.zero_add, Nat.add_comm s0]

/-- the block configuration of a document configuration with `c` (`depthCost w`) levels fewer, then `c` more -/
theorem blockCfg_nest (cfg : Pipeline.DocCfg) (c : Nat) (h : c < cfg.maxNesting) :
    ({ ({ cfg.blockCfg with maxNesting := cfg.maxNesting - c } : Block.Cfg) with
        maxNesting := ({ cfg.blockCfg with maxNesting := cfg.maxNesting - c } : Block.Cfg).maxNesting + c } : Block.Cfg)
      = cfg.blockCfg := by
  simp only [Pipeline.DocCfg.blockCfg]
  congr 1
  omega

end MdIt.C11N
