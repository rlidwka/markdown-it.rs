/-
  For `Props/MemoSafe.lean`: groundwork for the code-span comparison
  (`back_L2` needs the witness cache and the later cache to agree on `insideFailed.contains pos` at
  positions strictly inside a run of backticks).  Rule-level facts the state invariants rest on:

    * PART A — `InsideFull`: the marks are run-complete (a remembered position followed by a backtick has
      its successor remembered too); kept by every call whose `pos_max` cuts no run of backticks
      (`insideFull_run`, `insideFull_ruleBackticks`);
    * PART B — `back_decline_marks`: a declining call at a backtick that is followed by a backtick leaves
      the next position remembered (every declining path marks, or declined because of a mark);
    * PART C — the last character of a look-ahead token of a flat rule (`LastChar`; one lemma per rule:
      `text_tokenLast`, `newline_tokenLast`, `autolink_tokenLast`, `entity_tokenLast`, `escape_token`;
      `plain_tokenLast`: neither a backtick nor a backslash for the first four).  Hence no such token ends
      strictly inside a run of backticks (`text_end_not_inside`, `newline_end_not_inside`,
      `autolink_end_not_inside`, `entity_end_not_inside`, `backticks_end_not_inside`), with the exact
      exception of the escape rule (`escape_end_inside_iff`: `\` + backtick followed by a backtick).
-/
import MdIt.Lemmas.MemoSafeLamBack

/-! ## PART A / B at the level of `MdIt.CodePair` -/

namespace MdIt.CodePair

/-- marks are run-complete: a remembered position followed by a marker has its successor remembered -/
def InsideFullM (m : Char) (src : List Char) (c : Cache) : Prop :=
  ∀ q ∈ c.insideFailed, charAt src (q + 1) = some m → (q + 1) ∈ c.insideFailed

theorem InsideFullM.empty (m : Char) (src : List Char) : InsideFullM m src Cache.empty := by
  intro q hq; cases hq

theorem markInside_inside (v : Variant) (a b : Nat) (e : Cache) :
    (markInside v a b e).insideFailed =
      if v.inside = true then e.insideFailed ++ interior a b else e.insideFailed := by
  unfold markInside; split <;> rfl

/-- the marks `markInside` adds behind a failed opener at `pos` (window `m :: rest`) are run-complete
    when `pos_max` cuts no run -/
theorem InsideFullM.markInside {m : Char} (hm1 : m.utf8Size = 1) {src : List Char} {pos posMax : Nat}
    {rest : List Char} (hu : slice src pos posMax = some (m :: rest)) (hnc : NoCut m src posMax)
    {c : Cache} (h : InsideFullM m src c) (v : Variant) :
    InsideFullM m src (markInside v pos (pos + 1 + runLen m rest) c) := by
  obtain ⟨x, T, Z, _, hT, hx, hsrc, f⟩ := run_frame hm1 hu
  unfold MdIt.CodePair.markInside
  split
  · intro q hq hc
    simp only [List.mem_append] at hq ⊢
    rcases hq with hq | hq
    · exact .inl (h q hq hc)
    · rw [mem_interior] at hq
      by_cases hlast : q + 1 < pos + 1 + runLen m rest
      · exact .inr (mem_interior.mpr ⟨by omega, hlast⟩)
      · -- `q` is the last position of the opener run: the character behind it is no marker
        exfalso
        have hq1 : q + 1 = pos + 1 + runLen m rest := by omega
        have hlen : byteLen (x ++ List.replicate (runLen m rest + 1) m) = pos + 1 + runLen m rest := by
          rw [byteLen_append, byteLen_replicate hm1, hx]; omega
        have hat : charAt src (q + 1) = (T ++ Z).head? := by
          have := charAt_append_add (x ++ List.replicate (runLen m rest + 1) m) (T ++ Z) 0
          rw [charAt_zero, hlen, Nat.add_zero] at this
          rw [hq1, hsrc, List.append_assoc]; exact this
        cases T with
        | nil =>
          -- the run ends at `pos_max`: a marker there would be cut
          have hpm := f.hpm
          simp only [byteLen] at hpm
          apply hnc
          refine ⟨by omega, ?_, ?_⟩
          · have := opener_chars hm1 hsrc hx (pos + runLen m rest) (by omega) (by omega)
            rw [hpm]
            have e : pos + 1 + runLen m rest + 0 - 1 = pos + runLen m rest := by omega
            rw [e]; exact this
          · rw [hpm, Nat.add_zero, ← hq1]; exact hc
        | cons t T' =>
          rw [hat] at hc
          simp only [List.cons_append, List.head?_cons, Option.some.injEq] at hc
          simp only [List.head?_cons, ne_eq, Option.some.injEq] at hT
          exact hT hc
  · exact h

/-- **`InsideFull` is kept by every call whose `pos_max` cuts no run** -/
theorem insideFullM_run (v : Variant) (m : Char) (hm1 : m.utf8Size = 1) (src : List Char)
    (pos posMax : Nat) (prev silent : Bool) (c : Cache) (r : Option Outcome) (c' : Cache)
    (hnc : NoCut m src posMax) (hfull : InsideFullM m src c)
    (h : run v m src pos posMax prev silent c = .ok (r, c')) : InsideFullM m src c' := by
  cases run_effect hm1 h with
  | declined _ => exact hfull
  | hit _ _ _ _ _ _ _ _ _ _ => exact hfull
  | table rest hu _ => exact hfull.markInside hm1 hu hnc v
  | miss rest mx hu _ _ _ =>
    have hmi := hfull.markInside hm1 hu hnc v
    intro q hq hcq
    rw [insideFailed_done, markInside_inside] at hq ⊢
    have := hmi q (by rw [markInside_inside]; exact hq) hcq
    rw [markInside_inside] at this
    exact this

/-- **a declining call at a marker that is followed by a marker leaves the next position remembered**
    (current variant: `inside = true`): it declined because `pos` is remembered — then run-completeness —
    or it marked the interior of the opener run itself -/
theorem decline_marks (v : Variant) (hi : v.inside = true) (m : Char) (hm1 : m.utf8Size = 1)
    (src : List Char) (pos posMax : Nat) (prev silent : Bool) (c c' : Cache) {rest : List Char}
    (hu : slice src pos posMax = some (m :: m :: rest)) (hfull : InsideFullM m src c)
    (h : run v m src pos posMax prev silent c = .ok (none, c')) : (pos + 1) ∈ c'.insideFailed := by
  have hmark : ∀ e : Cache, (pos + 1) ∈ (markInside v pos (pos + 1 + runLen m (m :: rest)) e).insideFailed := by
    intro e
    unfold markInside
    rw [if_pos hi]
    simp only [List.mem_append, mem_interior, runLen, if_true]
    exact .inr ⟨by omega, by omega⟩
  have hnext : charAt src (pos + 1) = some m := by
    obtain ⟨x, z, hs, hx, _⟩ := slice_some hu
    have := charAt_append_add (x ++ [m]) (m :: rest ++ z) 0
    rw [charAt_zero, byteLen_append, hx] at this
    simp only [byteLen, hm1, Nat.add_zero] at this
    rw [hs]
    simpa using this
  have hrest : ∀ {r : List Char}, slice src pos posMax = some (m :: r) → r = m :: rest := by
    intro r hu'; rw [hu] at hu'; cases hu'; rfl
  cases run_effect hm1 h with
  | declined hd =>
    rcases hd _ hu with hv | hmem
    · rw [hi] at hv; cases hv
    · exact hfull pos (by simpa using hmem) hnext
  | table r hu' _ => cases hrest hu'; exact hmark _
  | miss r mx hu' _ _ _ => cases hrest hu'; rw [insideFailed_done]; exact hmark _

end MdIt.CodePair

namespace MdIt.Inline
open MdIt.InlineOps (byteLen slice)
open MdIt.C05 (byteLen_append slice_ok_iff)

/-! ## PART A: marks are run-complete -/

/-- a remembered position followed by a backtick has its successor remembered -/
def InsideFull (src : List Char) (c : CodePair.Cache) : Prop :=
  ∀ q ∈ c.insideFailed, CodePair.charAt src (q + 1) = some '`' → (q + 1) ∈ c.insideFailed

theorem InsideFull.empty (src : List Char) : InsideFull src CodePair.Cache.empty :=
  CodePair.InsideFullM.empty '`' src

/-- **kept by every call of the code-span rule whose `pos_max` cuts no run of backticks** (`NoCut` is
    exactly what is needed: the marks added are the interior of the opener run AS SEEN UNDER `pos_max`) -/
theorem insideFull_run {src : List Char} {pos posMax : Nat} {silent : Bool} {c : CodePair.Cache}
    {r : Option CodePair.Outcome} {c' : CodePair.Cache}
    (h : CodePair.run CodePair.Variant.current '`' src pos posMax false silent c = .ok (r, c'))
    (hnc : CodePair.NoCut '`' src posMax) (hfull : InsideFull src c) : InsideFull src c' :=
  CodePair.insideFullM_run _ '`' backtick_size src pos posMax false silent c r c' hnc hfull h

theorem insideFull_ruleBackticks {st : IState} {silent : Bool} {o : Option Nat} {st' : IState}
    (h : ruleBackticks st silent = .ok (o, st')) (hnc : CodePair.NoCut '`' st.src st.posMax)
    (hfull : InsideFull st.src st.backticks) : InsideFull st'.src st'.backticks := by
  obtain ⟨hsrc, oc, hrun, _⟩ := ruleBackticks_run h
  rw [hsrc]
  exact insideFull_run hrun hnc hfull

/-- `NoCut` is needed: three backticks under `pos_max = 2` (inside the run) — the failed opener of
    length 2 (as seen under `pos_max`) marks position 1 only, although position 2 holds a backtick -/
example :
    (ruleBackticks (exState ['`', '`', '`'] 0 2) true).map (fun r => r.2.backticks.insideFailed)
      = .ok [1] ∧
    CodePair.charAt ['`', '`', '`'] 2 = some '`' := by
  decide +kernel

/-! ## PART B: a declining call at a backtick marks the next position of the run -/

theorem back_decline_marks {st st' : IState} {silent : Bool} {rest : List Char}
    (hw : st.window = .ok ('`' :: '`' :: rest)) (h : ruleBackticks st silent = .ok (none, st'))
    (hfull : InsideFull st.src st.backticks) : (st.pos + 1) ∈ st'.backticks.insideFailed := by
  obtain ⟨_, oc, hrun, ho⟩ := ruleBackticks_run h
  cases oc with
  | some o1 => simp at ho
  | none =>
    exact CodePair.decline_marks _ rfl '`' backtick_size st.src st.pos st.posMax false silent _ _
      ((codeSlice_eq _ _ _ _).mpr (window_eq hw)) hfull hrun

/-! ## PART C: the last character of a look-ahead token of a flat rule -/

/-- the character at the end of `u` in a slice `u ++ b :: v` -/
theorem charAt_next {src u v : List Char} {b : Char} {a q : Nat}
    (h : slice src a q = .ok (u ++ b :: v)) : CodePair.charAt src (a + byteLen u) = some b := by
  obtain ⟨p, post, e, l1, _⟩ := (slice_ok_iff _ _ _ _).mp h
  have := CodePair.charAt_append_add (p ++ u) (b :: v ++ post) 0
  rw [CodePair.charAt_zero, codeByteLen_eq, byteLen_append, l1, Nat.add_zero] at this
  rw [e]
  simpa using this

/-- the character that ends just before the end of `u' ++ [a]` in a slice `u' ++ a :: v` is `a` -/
theorem charAt_last {src u' v : List Char} {a c : Char} {pos q : Nat}
    (h : slice src pos q = .ok (u' ++ a :: v))
    (hc : CodePair.charAt src (pos + byteLen (u' ++ [a]) - 1) = some c) : c = a := by
  obtain ⟨p, post, e, l1, _⟩ := (slice_ok_iff _ _ _ _).mp h
  have e2 : src = (p ++ u') ++ a :: (v ++ post) := by rw [e]; simp
  have hidx : pos + byteLen (u' ++ [a]) - 1 = CodePair.byteLen (p ++ u') + a.utf8Size - 1 := by
    rw [codeByteLen_eq, byteLen_append, byteLen_append, l1]
    simp only [byteLen]; omega
  rw [hidx, e2] at hc
  exact CodePair.charAt_before _ _ _ _ hc

/-- a non-empty list is `dropLast ++ [last]` with `last` one of its elements -/
theorem snoc_of_ne_nil {l : List Char} (h : l ≠ []) : ∃ u' a, l = u' ++ [a] ∧ a ∈ l :=
  ⟨l.dropLast, l.getLast h, (List.dropLast_concat_getLast h).symm, List.getLast_mem h⟩

/-- the look-ahead token of `n` bytes that starts at `st` ends with the character `a` -/
def LastChar (st : IState) (n : Nat) (a : Char) : Prop :=
  ∃ u' v q, slice st.src st.pos q = .ok (u' ++ a :: v) ∧ byteLen (u' ++ [a]) = n

theorem LastChar.eq {st : IState} {n : Nat} {a c : Char} (h : LastChar st n a)
    (hc : CodePair.charAt st.src (st.pos + n - 1) = some c) : c = a := by
  obtain ⟨u', v, q, hsl, rfl⟩ := h
  exact charAt_last hsl hc

/-- a slice from the position that starts with the non-empty token `tk`: the token ends with one of its
    characters -/
theorem LastChar.of_token {st : IState} {q : Nat} {tk rest : List Char}
    (hsl : slice st.src st.pos q = .ok (tk ++ rest)) (hne : tk ≠ []) :
    ∃ a, a ∈ tk ∧ LastChar st (byteLen tk) a := by
  obtain ⟨u', a, hua, hmem⟩ := snoc_of_ne_nil hne
  refine ⟨a, hmem, u', rest, q, ?_, by rw [hua]⟩
  rwa [hua, List.append_assoc, List.singleton_append] at hsl

/-- … behind a prefix `pre` that belongs to the token too -/
theorem LastChar.of_token_pre {st : IState} {q : Nat} {pre tk rest : List Char}
    (hsl : slice st.src st.pos q = .ok (pre ++ tk ++ rest)) (hne : tk ≠ []) :
    ∃ a, a ∈ tk ∧ LastChar st (byteLen (pre ++ tk)) a := by
  obtain ⟨u', a, hua, hmem⟩ := snoc_of_ne_nil hne
  refine ⟨a, hmem, pre ++ u', rest, q, ?_, by rw [hua, List.append_assoc]⟩
  rwa [hua, ← List.append_assoc pre, List.append_assoc _ [a], List.singleton_append] at hsl

/-- a token whose last character is not a backtick does not end strictly inside a run of backticks -/
theorem LastChar.not_inside {st : IState} {n : Nat} {a : Char} (h : LastChar st n a) (ha : a ≠ '`') :
    ¬ (CodePair.charAt st.src (st.pos + n - 1) = some '`' ∧
       CodePair.charAt st.src (st.pos + n) = some '`') :=
  fun ⟨h1, _⟩ => ha (h.eq h1).symm

theorem LastChar.ne {st : IState} {n : Nat} {a x : Char} (h : LastChar st n a) (ha : a ≠ x) :
    CodePair.charAt st.src (st.pos + n - 1) ≠ some x :=
  fun hc => ha (h.eq hc).symm

/-- **text**: the token is a run of non-stop characters -/
theorem text_tokenLast {st st' : IState} {n : Nat} (h : ruleText st true = .ok (some n, st')) :
    ∃ a, LastChar st n a ∧ Entity.textStop.contains a = false := by
  obtain ⟨w, hw⟩ := runPlan_window (ruleText_eq _ _ ▸ h)
  have hv := (ruleText_verdict hw h).symm
  split at hv
  · cases hv
  · next hne =>
    simp only [Option.some.injEq] at hv
    have hs := Entity.splitRun_sound (fun c => !Entity.textStop.contains c) w
    have hsl := window_eq hw
    rw [hs.2.1] at hsl
    obtain ⟨a, hmem, hl⟩ := LastChar.of_token hsl (fun e => hne (by unfold textLen; rw [e]; rfl))
    exact ⟨a, hv ▸ hl, by simpa using hs.1 _ hmem⟩

/-- **newline**: the token is a line feed and blanks -/
theorem newline_tokenLast {st st' : IState} {n : Nat} (h : ruleNewline st true = .ok (some n, st')) :
    ∃ a, LastChar st n a ∧ (a = '\n' ∨ isSpTab a = true) := by
  rw [ruleNewline_eq] at h
  obtain ⟨w, hw⟩ := runPlan_window h
  obtain ⟨p, hp, hv⟩ := runPlan_answer hw h
  cases w with
  | nil => cases hp
  | cons c rest =>
    rw [planNewline_answer hp] at hv
    split at hv
    · cases hv
    · next hc =>
      have hc' : c = '\n' := by simpa using hc
      subst hc'
      simp only [Option.some.injEq] at hv
      have hsl : slice st.src st.pos st.posMax =
          .ok (('\n' :: rest.takeWhile isSpTab) ++ rest.dropWhile isSpTab) := by
        rw [window_eq hw]; simp [List.takeWhile_append_dropWhile]
      obtain ⟨a, hmem, hl⟩ := LastChar.of_token hsl (by simp)
      have e1 : ('\n' : Char).utf8Size = 1 := by decide
      have hlen : byteLen ('\n' :: rest.takeWhile isSpTab) = n := by
        simp only [byteLen, e1, byteLen_takeWhile_spTab]
        unfold newlineLen at hv; omega
      refine ⟨a, hlen ▸ hl, ?_⟩
      simp only [List.mem_cons] at hmem
      exact hmem.imp id Lines.mem_takeWhile_imp

/-- **autolink**: the token ends with `>` -/
theorem autolink_tokenLast {st st' : IState} {n : Nat}
    (h : ruleAutolink st true = .ok (some n, st')) : LastChar st n '>' := by
  rw [ruleAutolink_eq] at h
  obtain ⟨w, hw⟩ := runPlan_window h
  obtain ⟨pl, hpl, hv⟩ := runPlan_answer hw h
  cases w with
  | nil => cases hpl
  | cons c rest =>
    obtain ⟨rfl, p, hp, hn⟩ := planAutolink_some hpl hv.symm
    obtain ⟨u, v, hr, hpu⟩ := autolinkScan_spec hp
    have hsl := window_eq hw
    have hsplit : '<' :: rest = ('<' :: u) ++ '>' :: v := by rw [hr]; simp
    rw [hsplit] at hsl
    have e1 : ('<' : Char).utf8Size = 1 := by decide
    have e2 : ('>' : Char).utf8Size = 1 := by decide
    exact ⟨'<' :: u, v, _, hsl, by
      simp only [List.cons_append, byteLen, byteLen_append, e1, e2]; omega⟩

/-- **entity**: the token is `&` followed by reference characters (ending with `;`) -/
theorem entity_tokenLast {cfg : Cfg} {st st' : IState} {n : Nat}
    (h : ruleEntity cfg st true = .ok (some n, st')) :
    ∃ a, LastChar st n a ∧ (a = '&' ∨ isEntChar a = true) := by
  rw [ruleEntity_eq] at h
  obtain ⟨w, hw⟩ := runPlan_window h
  obtain ⟨pl, hpl, hv⟩ := runPlan_answer hw h
  unfold planEntity at hpl
  cases w with
  | nil => cases hpl
  | cons c rest =>
    simp only at hpl
    split at hpl
    · cases hpl; cases hv
    · split at hpl
      · cases hpl
      · next suffix hsuf =>
        have hsuf' := liftOps_ok.mp hsuf
        split at hpl
        · cases hpl
        · cases hpl; cases hv
        · next sp hcore =>
          cases hpl
          simp only [Plan.answer, Option.some.injEq] at hv
          obtain ⟨t, rest', hmk, hsf, hall⟩ := entityCore_some hcore
          rw [hsf] at hsuf'
          obtain ⟨a, hmem, hl⟩ := LastChar.of_token hsuf' (by rw [hmk]; simp)
          refine ⟨a, hv ▸ hl, ?_⟩
          rw [hmk] at hmem
          exact (List.mem_cons.mp hmem).imp id (hall _)

/-- the flat rules whose token never ends with a backtick or a backslash -/
theorem plain_tokenLast {cfg : Cfg} {skip tok : IState → Except Panic IState} {fuel : Nat} {id : RuleId}
    (hid : id = .text ∨ id = .newline ∨ id = .autolink ∨ id = .entity) {st : IState} {n : Nat}
    {st' : IState} (h : runRule cfg skip tok fuel id st true = .ok (some n, st')) :
    ∃ a, LastChar st n a ∧ a ≠ '`' ∧ a ≠ '\\' := by
  unfold runRule at h
  rcases hid with rfl | rfl | rfl | rfl
  · obtain ⟨a, hl, ha⟩ := text_tokenLast (liftR_ok.mp h)
    exact ⟨a, hl, by rintro rfl; revert ha; decide, by rintro rfl; revert ha; decide⟩
  · obtain ⟨a, hl, ha⟩ := newline_tokenLast (liftR_ok.mp h)
    exact ⟨a, hl, by rintro rfl; revert ha; decide, by rintro rfl; revert ha; decide⟩
  · exact ⟨'>', autolink_tokenLast (liftR_ok.mp h), by decide, by decide⟩
  · obtain ⟨a, hl, ha⟩ := entity_tokenLast (liftR_ok.mp h)
    exact ⟨a, hl, by rintro rfl; revert ha; decide, by rintro rfl; revert ha; decide⟩

theorem text_end_not_inside {st st' : IState} {n : Nat} (h : ruleText st true = .ok (some n, st')) :
    ¬ (CodePair.charAt st.src (st.pos + n - 1) = some '`' ∧
       CodePair.charAt st.src (st.pos + n) = some '`') :=
  let ⟨_, hl, ha⟩ := text_tokenLast h
  hl.not_inside (by rintro rfl; revert ha; decide)

theorem newline_end_not_inside {st st' : IState} {n : Nat}
    (h : ruleNewline st true = .ok (some n, st')) :
    ¬ (CodePair.charAt st.src (st.pos + n - 1) = some '`' ∧
       CodePair.charAt st.src (st.pos + n) = some '`') :=
  let ⟨_, hl, ha⟩ := newline_tokenLast h
  hl.not_inside (by rintro rfl; revert ha; decide)

theorem autolink_end_not_inside {st st' : IState} {n : Nat}
    (h : ruleAutolink st true = .ok (some n, st')) :
    ¬ (CodePair.charAt st.src (st.pos + n - 1) = some '`' ∧
       CodePair.charAt st.src (st.pos + n) = some '`') :=
  (autolink_tokenLast h).not_inside (by decide)

theorem entity_end_not_inside {cfg : Cfg} {st st' : IState} {n : Nat}
    (h : ruleEntity cfg st true = .ok (some n, st')) :
    ¬ (CodePair.charAt st.src (st.pos + n - 1) = some '`' ∧
       CodePair.charAt st.src (st.pos + n) = some '`') :=
  let ⟨_, hl, ha⟩ := entity_tokenLast h
  hl.not_inside (by rintro rfl; revert ha; decide)

/-- **code span**: the closer run is maximal inside the window, so the character behind it (inside the
    window) is not a backtick -/
theorem backticks_end_not_inside {st st' : IState} {n : Nat}
    (h : ruleBackticks st true = .ok (some n, st')) (hlt : st.pos + n < st.posMax) :
    ¬ (CodePair.charAt st.src (st.pos + n - 1) = some '`' ∧
       CodePair.charAt st.src (st.pos + n) = some '`') := by
  obtain ⟨c', hrun⟩ := (ruleBackticks_silent_some st n).mp ⟨st', h⟩
  rintro ⟨_, hc⟩
  obtain ⟨rest, ms, R, _, hms, hrun', _, ho⟩ := CodePair.run_some backtick_size hrun
  obtain ⟨hl, hle, _, hright, _⟩ := hrun'
  have hn : n = ms + (1 + CodePair.runLen '`' rest) - st.pos := by
    have := congrArg CodePair.Outcome.len ho
    simpa using this
  apply hright
  have e : ms + (1 + CodePair.runLen '`' rest) = st.pos + n := by omega
  rw [e]
  exact ⟨hlt, hc⟩

/-- **escape**: the token is `\\` + line feed + blanks, or `\\` + one character -/
theorem escape_token {st st' : IState} {n : Nat} (h : ruleEscape st true = .ok (some n, st')) :
    (∃ w', st.window = .ok ('\\' :: '\n' :: w') ∧
      ∃ a, LastChar st n a ∧ (a = '\n' ∨ a = ' ' ∨ a = '\t')) ∨
    (∃ chr w', st.window = .ok ('\\' :: chr :: w') ∧ byteLen ['\\', chr] = n) := by
  obtain ⟨w, hw⟩ := runPlan_window (ruleEscape_eq _ _ ▸ h)
  have hv := (ruleEscape_verdict hw h).symm
  have e1 : ('\\' : Char).utf8Size = 1 := by decide
  have e2 : ('\n' : Char).utf8Size = 1 := by decide
  unfold escapeLen at hv
  split at hv
  · next len hcore =>
    left
    simp only [Option.some.injEq] at hv
    obtain ⟨w', rfl, hlen⟩ := escapeCore_hardbreak hcore
    have hs := Entity.splitRun_sound (fun x => x == ' ' || x == '\t') w'
    have hsl : slice st.src st.pos st.posMax =
        .ok (['\\'] ++ ('\n' :: (Entity.splitRun (fun x => x == ' ' || x == '\t') w').1) ++
          (Entity.splitRun (fun x => x == ' ' || x == '\t') w').2) := by
      rw [window_eq hw]
      simp only [List.cons_append, List.nil_append, Except.ok.injEq, List.cons.injEq, true_and]
      exact hs.2.1
    obtain ⟨a, hmem, hl⟩ := LastChar.of_token_pre hsl (by simp)
    have hasc : byteLen (Entity.splitRun (fun x => x == ' ' || x == '\t') w').1
        = (Entity.splitRun (fun x => x == ' ' || x == '\t') w').1.length :=
      byteLen_ascii _ (fun c hc => isSpTab_size (by have := hs.1 c hc; simpa [isSpTab] using this))
    have hbl : byteLen (['\\'] ++ ('\n' :: (Entity.splitRun (fun x => x == ' ' || x == '\t') w').1)) = n := by
      simp only [List.cons_append, List.nil_append, byteLen, e1, e2, hasc]; omega
    refine ⟨w', hw, a, hbl ▸ hl, ?_⟩
    rcases List.mem_cons.mp hmem with hm | hm
    · exact .inl hm
    · have := hs.1 _ hm
      simp only [Bool.or_eq_true, beq_iff_eq] at this
      exact .inr this
  · next sp hcore =>
    right
    simp only [Option.some.injEq] at hv
    obtain ⟨chr, w', rfl, hmk⟩ := escapeCore_special hcore
    rw [hmk] at hv
    exact ⟨chr, w', hw, hv⟩
  · cases hv

/-- **escape — the exact exception**: a look-ahead escape token ends strictly inside a run of backticks
    iff it is `\\` + backtick followed by a backtick -/
theorem escape_end_inside_iff {st st' : IState} {n : Nat}
    (h : ruleEscape st true = .ok (some n, st')) (hlt : st.pos + n < st.posMax) :
    (CodePair.charAt st.src (st.pos + n - 1) = some '`' ∧
       CodePair.charAt st.src (st.pos + n) = some '`') ↔
      ∃ rest, st.window = .ok ('\\' :: '`' :: '`' :: rest) := by
  have e1 : ('\\' : Char).utf8Size = 1 := by decide
  have e3 : ('`' : Char).utf8Size = 1 := by decide
  rcases escape_token h with ⟨w', hw, a, hl, ha⟩ | ⟨chr, w', hw, hn⟩
  · -- `\\` + line feed + blanks: ends with a line feed or a blank
    constructor
    · exact fun hp => absurd hp (hl.not_inside (by rcases ha with rfl | rfl | rfl <;> decide))
    · rintro ⟨rest, hw2⟩
      rw [hw] at hw2
      simp only [Except.ok.injEq, List.cons.injEq, true_and] at hw2
      exact absurd hw2.1 (by decide)
  · have hsl := window_eq hw
    obtain ⟨_, _, hwlen⟩ := slice_boundaries hsl
    constructor
    · rintro ⟨h1, h2⟩
      -- the token is `\\` + chr: chr is the backtick
      have hsl1 : slice st.src st.pos st.posMax = .ok (['\\'] ++ chr :: w') := hsl
      have hchr : chr = '`' :=
        (charAt_last (c := '`') hsl1 (by rw [show byteLen (['\\'] ++ [chr]) = n from hn]; exact h1)).symm
      subst hchr
      -- and the character behind it is one
      cases w' with
      | nil =>
        exfalso
        simp only [byteLen, e1, e3] at hwlen hn
        omega
      | cons b r =>
        have hsl2 : slice st.src st.pos st.posMax = .ok (['\\', '`'] ++ b :: r) := hsl
        have := charAt_next hsl2
        rw [hn, h2] at this
        simp only [Option.some.injEq] at this
        subst this
        exact ⟨r, hw⟩
    · rintro ⟨rest, hw2⟩
      rw [hw] at hw2
      simp only [Except.ok.injEq, List.cons.injEq, true_and] at hw2
      obtain ⟨rfl, rfl⟩ := hw2
      have hsl1 : slice st.src st.pos st.posMax = .ok (['\\'] ++ '`' :: '`' :: rest) := hsl
      have hsl2 : slice st.src st.pos st.posMax = .ok (['\\', '`'] ++ '`' :: rest) := hsl
      have a1 := charAt_next hsl1
      have a2 := charAt_next hsl2
      simp only [byteLen, e1, e3, Nat.add_zero] at a1 a2 hn
      rw [← hn]
      exact ⟨a1, a2⟩

end MdIt.Inline
