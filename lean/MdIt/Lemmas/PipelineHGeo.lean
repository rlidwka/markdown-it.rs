/-
  The geometric invariant of the block pass (`Block.Geo3`, `Lemmas/C05InlineGeo.lean`; the claim about every
  placeholder table, `Block.PMapF`) lifted to the ten-rule engine of `Model/BlockH.lean`.

  As the other loop lemmas: `Block.tokLoop_geoI` is generic in the runner and applies through
  `BlockH.tokLoopG_eq`; the nine rules' `runRule_geoI` applies verbatim; new is `html_geo` (the html rule
  pushes a childless leaf with range `get_map(start, next_line - 1)`: `Block.leaf_geo`, as `Block.fence_geo`).
-/
import MdIt.Lemmas.PipelineH
import MdIt.Lemmas.C05InlineGeo
import MdIt.Lemmas.C05InlineSplice
import MdIt.Props.C05Inline

namespace MdIt.BlockH
open MdIt.Block
open MdIt.Lines (LineOffset)
open MdIt.Pipeline (InlNoRange)

theorem html_geo {P : InlP} {s s' : BState} {b : Bool} (h : htmlRule s false = .ok (b, s')) :
    KeepsGeo P s s' := by
  cases b with
  | false => rw [htmlRule_false_same h]; exact KeepsGeo.refl _ _
  | true =>
    obtain ⟨n, l, he, rfl, hlt, _⟩ := htmlRule_true h
    obtain ⟨-, ⟨o1, o2, h1, h2, hr⟩, -⟩ := Html.htmlBlock_node he
    have := leaf_geo (P := P) (htmlKind n.content) (l := l) h1 h2 (Nat.le_sub_one_of_lt hlt)
      (Nat.sub_one_lt (Nat.ne_of_gt (Nat.zero_lt_of_lt hlt)))
    rw [← hr] at this
    exact this

theorem runRuleH_geoI {para : Bool} {src0 : List Char} {P : InlP}
    (hP : InlSpecI para src0 P) {cfg : Cfg} {tok : Tok} {test : Test}
    (hk : TokSpec tok) (hsh : TokGeoI src0 P tok) (ht : TestPure test) (fuel : Nat) (r : RuleIdH)
    {s s' : BState} {b : Bool} (h : runRuleH cfg tok test fuel r s false = .ok (b, s'))
    (hl : s.line < s.lineMax) (hi : IndentOk s) : KeepsGeoI src0 P s s' := by
  cases r with
  | base r => exact runRule_geoI hP hk hsh ht fuel r h hl hi
  | html => exact (html_geo h).toI

theorem tokenizeH_geoI {src0 : List Char} {P : InlP}
    (cfg : Cfg) (chain : List RuleIdH) (hpara : hasParaH chain = true)
    (hP : InlSpecI true src0 P) : ∀ fuel : Nat, TokGeoI src0 P (tokenizeH cfg chain fuel) := by
  intro fuel
  induction fuel with
  | zero => intro s s' h; simp [tokenizeH, engineH] at h
  | succ f ih =>
    intro s s' h
    simp only [tokenizeH, engineH] at h
    rw [tokLoopG_eq] at h
    have hk := tokenizeH_tokSpec cfg chain f
    have ht := testRulesH_pure cfg chain f
    have hspec := runRuleH_spec (cfg := cfg) hk ht (f + 1)
    refine tokLoop_geoI (cfg := oneCfg cfg) hP (chain_runSpec hspec chain)
      (fun _ s b s' h hl hi =>
        runChainG_rel hspec (Pre := fun s => s.line < s.lineMax ∧ IndentOk s) (fun _ => KeepsGeoI.refl _ _ _)
          (fun r s b s' h hp => runRuleH_geoI hP hk ih ht _ r h hp.1 hp.2) chain s b s' h ⟨hl, hi⟩)
      ?_ _ _ _ _ h
    intro _ s b s' hc
    simp only [oneCfg, runChain_one] at hc
    exact runChainG_para _ _ _ _ (by simpa [hasParaH] using hpara) hc

/-- **the block tree with html blocks, with the strengthened claim about placeholders**
    (`Block.parseBlocks_geo2`) -/
theorem parseBlocksH_geo2 {P : InlP} {cfg : CfgH} {src : List Char} (hpara : hasParaH cfg.chain = true)
    (hP : InlSpec2 src P) {root : BNode} {refs : Refs.RefMap}
    (hsmall : 4 * Lines.byteLen src + 8 < 2147483648)
    (h : parseBlocksH cfg src = .ok (root, refs)) :
    root.range = some (0, Lines.byteLen src) ∧ RangedB P src root := by
  obtain ⟨s, hs, rfl, -⟩ := parseBlocksH_ok h
  have hfr := (tokenizeH_spec cfg.base cfg.chain _ _ _ hs).frame
  have hg2 := geoI_fresh src hsmall
  exact ⟨rfl, rangedB_root (src := src) hfr.src hfr.offs hg2.g2.geo
    (tokenizeH_geoI cfg.base cfg.chain hpara hP.toI _ _ _ hs 0 hg2
      (fun k o _ _ => ⟨Nat.zero_le _, fun _ _ => Nat.zero_le _⟩) (kidsOk_nil rfl 0))⟩

/-- **`Pipeline.doc_placeholder_tables` at block level, with html blocks**: with the paragraph rule in the ten-rule chain, within the
    `i32` bound, every ranged node of the block tree is proper and every placeholder WITHOUT range
    satisfies `Block.PMapF src` (well-formed monotone table, `Inline.MapOK` unless a tab was split — and no
    tab is split in a tab-free source —, content translated into the block's own range) -/
theorem parseBlocksH_placeholder_tables (cfg : CfgH) (src : List Char)
    (hsmall : 4 * Lines.byteLen src + 8 < 2147483648) (hpara : hasParaH cfg.chain = true)
    {root : BNode} {refs : Refs.RefMap} (hb : parseBlocksH cfg src = .ok (root, refs)) :
    RangedB (PMapF src) src root ∧ AllInl (fun c m => ∃ a b, PMapF src c m a b) root := by
  obtain ⟨hr, hg⟩ := parseBlocksH_geo2 hpara (inlSpec2_pmapF src) hsmall hb
  refine ⟨hg, hg.allInl (fun c m a b h => ⟨a, b, h⟩) ?_⟩
  intro c m _ hnone
  rw [hr] at hnone
  cases hnone

theorem parseBlocksH_inlNoRange {cfg : CfgH} {src : List Char} {root : BNode} {refs : Refs.RefMap}
    (h : parseBlocksH cfg src = .ok (root, refs)) : InlNoRange root := by
  obtain ⟨cs, rfl, hcs⟩ := parseBlocksH_emits h
  exact .mk _ (fun c m e => nomatch e) fun c hc => (hcs c hc).inlNoRange

end MdIt.BlockH
