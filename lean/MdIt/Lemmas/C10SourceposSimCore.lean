/-
  The entry relation `LX.ERel` of the lock-step simulation (`MdIt/Lemmas/C10Sim*.lean`) and what a
  related pair of table entries shows.  Namespace `MdIt.Block.LX` holds the relations of C10 with the
  sourcepos plugin, where offsets must be related EXACTLY.  The offset relation `ρ` does NOT have to be
  translation invariant: the only thing the simulation ever does with `ρ` is to go from the two starts
  of a line to two offsets at the same distance `d` INSIDE that line (`d ≤ line_end - line_start`), so
  `ERel` carries
        ∀ d ≤ |line|, ρ (o₁.lineStart + d) (o₂.lineStart + d)
  instead of `ρ o₁.lineStart o₂.lineStart` + `Shift ρ` (`LE.ERel`, `MdIt/Lemmas/C10DocCore.lean`).  This
  admits the exact relation of LF ↦ CR LF, `C10SP.crlfRel src a b : b = a + #LF of src before a`, which
  is invariant under shifts inside a line only.
-/
import MdIt.Lemmas.C10DocCore
import MdIt.Lemmas.C10SourceposDefs

namespace MdIt.Block.LX
open MdIt.Lines (LineOffset)
open MdIt.Block.LE

/-- the two entries show the same line: the same bytes `a ++ b` at `line_start .. line_end`,
    `first_nonspace` behind `a` on both sides, the same indent; offsets at the same distance from the
    two starts, up to the end of the line, are `ρ`-related -/
def ERel (ρ : Nat → Nat → Prop) (src₁ src₂ : List Char) (o₁ o₂ : LineOffset) : Prop :=
  ∃ a b p₁ q₁ p₂ q₂, src₁ = p₁ ++ (a ++ b) ++ q₁ ∧ src₂ = p₂ ++ (a ++ b) ++ q₂ ∧
    Lines.byteLen p₁ = o₁.lineStart ∧ Lines.byteLen p₂ = o₂.lineStart ∧
    o₁.firstNonspace = o₁.lineStart + Lines.byteLen a ∧ o₂.firstNonspace = o₂.lineStart + Lines.byteLen a ∧
    o₁.lineEnd = o₁.lineStart + Lines.byteLen a + Lines.byteLen b ∧
    o₂.lineEnd = o₂.lineStart + Lines.byteLen a + Lines.byteLen b ∧
    o₁.indentNonspace = o₂.indentNonspace ∧
    ∀ d, d ≤ Lines.byteLen a + Lines.byteLen b → ρ (o₁.lineStart + d) (o₂.lineStart + d)

section entries
variable {ρ : Nat → Nat → Prop} {G : Geo} {s₁ s₂ : BState}

theorem ERel.indent {src₁ src₂ : List Char} {o₁ o₂ : LineOffset} (h : ERel ρ src₁ src₂ o₁ o₂) :
    o₂.indentNonspace = o₁.indentNonspace := by
  obtain ⟨a, b, p₁, q₁, p₂, q₂, _, _, _, _, _, _, _, _, hi, _⟩ := h
  exact hi.symm

/-- the numbers: both entries are `line_start ≤ first_nonspace ≤ line_end` with the same distances -/
theorem ERel.nums {src₁ src₂ : List Char} {o₁ o₂ : LineOffset} (h : ERel ρ src₁ src₂ o₁ o₂) :
    o₁.lineStart ≤ o₁.firstNonspace ∧ o₁.firstNonspace ≤ o₁.lineEnd ∧
    o₂.firstNonspace = o₂.lineStart + (o₁.firstNonspace - o₁.lineStart) ∧
    o₂.lineEnd = o₂.lineStart + (o₁.lineEnd - o₁.lineStart) := by
  obtain ⟨a, b, p₁, q₁, p₂, q₂, _, _, _, _, h1, h2, h3, h4, _, _⟩ := h
  omega

/-- any offset inside the line (its end included), at the same distance from the start -/
theorem ERel.at_ {src₁ src₂ : List Char} {o₁ o₂ : LineOffset} (h : ERel ρ src₁ src₂ o₁ o₂)
    (d : Nat) (hd : o₁.lineStart + d ≤ o₁.lineEnd) : ρ (o₁.lineStart + d) (o₂.lineStart + d) := by
  obtain ⟨a, b, p₁, q₁, p₂, q₂, _, _, _, _, _, _, h3, _, _, hr⟩ := h
  exact hr d (by omega)

theorem ERel.start {src₁ src₂ : List Char} {o₁ o₂ : LineOffset} (h : ERel ρ src₁ src₂ o₁ o₂) :
    ρ o₁.lineStart o₂.lineStart := by
  have := h.at_ 0 (by have := h.nums; omega)
  simpa using this

theorem ERel.first {src₁ src₂ : List Char} {o₁ o₂ : LineOffset} (h : ERel ρ src₁ src₂ o₁ o₂) :
    ρ o₁.firstNonspace o₂.firstNonspace := by
  have hn := h.nums
  have := h.at_ (o₁.firstNonspace - o₁.lineStart) (by omega)
  rw [hn.2.2.1, show o₁.firstNonspace = o₁.lineStart + (o₁.firstNonspace - o₁.lineStart) by omega]
  simpa using this

theorem ERel.end_ {src₁ src₂ : List Char} {o₁ o₂ : LineOffset} (h : ERel ρ src₁ src₂ o₁ o₂) :
    ρ o₁.lineEnd o₂.lineEnd := by
  have hn := h.nums
  have := h.at_ (o₁.lineEnd - o₁.lineStart) (by omega)
  rw [hn.2.2.2, show o₁.lineEnd = o₁.lineStart + (o₁.lineEnd - o₁.lineStart) by omega]
  simpa using this

/-- an offset `first_nonspace + d` that is still inside the line -/
theorem ERel.first_add {src₁ src₂ : List Char} {o₁ o₂ : LineOffset} (h : ERel ρ src₁ src₂ o₁ o₂)
    (d : Nat) (hd : o₁.firstNonspace + d ≤ o₁.lineEnd) : ρ (o₁.firstNonspace + d) (o₂.firstNonspace + d) := by
  have hn := h.nums
  have := h.at_ (o₁.firstNonspace - o₁.lineStart + d) (by omega)
  rw [hn.2.2.1, show o₁.firstNonspace + d = o₁.lineStart + (o₁.firstNonspace - o₁.lineStart + d) by omega]
  simpa [Nat.add_assoc] using this

/-- everything a rule slices out of a line, relative to the line's own bytes `L` -/
theorem ERel.slices {src₁ src₂ : List Char} {o₁ o₂ : LineOffset} (h : ERel ρ src₁ src₂ o₁ o₂) :
    ∃ L, o₁.lineEnd = o₁.lineStart + Lines.byteLen L ∧
      (∀ x y, y ≤ Lines.byteLen L →
        Lines.slice src₁ (o₁.lineStart + x) (o₁.lineStart + y) = Lines.slice L x y) ∧
      (∀ x y, y ≤ Lines.byteLen L →
        Lines.slice src₂ (o₂.lineStart + x) (o₂.lineStart + y) = Lines.slice L x y) := by
  obtain ⟨a, b, p₁, q₁, p₂, q₂, e1, e2, hp1, hp2, _, _, h3, _, _, _⟩ := h
  refine ⟨a ++ b, by simp; omega, ?_, ?_⟩
  · intro x y hy; rw [e1, ← hp1]; exact Lines.slice_inside p₁ (a ++ b) q₁ x y hy
  · intro x y hy; rw [e2, ← hp2]; exact Lines.slice_inside p₂ (a ++ b) q₂ x y hy

/-- the whole line -/
theorem ERel.line {src₁ src₂ : List Char} {o₁ o₂ : LineOffset} (h : ERel ρ src₁ src₂ o₁ o₂) :
    ∃ L, Lines.slice src₁ o₁.lineStart o₁.lineEnd = .ok L ∧ Lines.slice src₂ o₂.lineStart o₂.lineEnd = .ok L ∧
      o₁.lineEnd = o₁.lineStart + Lines.byteLen L ∧ o₂.lineEnd = o₂.lineStart + Lines.byteLen L := by
  obtain ⟨a, b, p₁, q₁, p₂, q₂, e1, e2, hp1, hp2, _, _, h3, h4, _, _⟩ := h
  refine ⟨a ++ b, ?_, ?_, by simp; omega, by simp; omega⟩
  · exact Lines.slice_eq_ok_iff.mpr ⟨p₁, q₁, e1, hp1, by simp; omega⟩
  · exact Lines.slice_eq_ok_iff.mpr ⟨p₂, q₂, e2, hp2, by simp; omega⟩

/-- `src[first_nonspace..line_end]` -/
theorem ERel.text {src₁ src₂ : List Char} {o₁ o₂ : LineOffset} (h : ERel ρ src₁ src₂ o₁ o₂) :
    Lines.slice src₂ o₂.firstNonspace o₂.lineEnd = Lines.slice src₁ o₁.firstNonspace o₁.lineEnd := by
  obtain ⟨L, hl, h1, h2⟩ := h.slices
  have hn := h.nums
  have e1 := h1 (o₁.firstNonspace - o₁.lineStart) (Lines.byteLen L) (Nat.le_refl _)
  have e2 := h2 (o₁.firstNonspace - o₁.lineStart) (Lines.byteLen L) (Nat.le_refl _)
  rw [show o₁.lineStart + (o₁.firstNonspace - o₁.lineStart) = o₁.firstNonspace by omega, ← hl] at e1
  rw [← hn.2.2.1, show o₂.lineStart + Lines.byteLen L = o₂.lineEnd by omega] at e2
  rw [e1, e2]

/-- `src[line_start..first_nonspace]` -/
theorem ERel.ws {src₁ src₂ : List Char} {o₁ o₂ : LineOffset} (h : ERel ρ src₁ src₂ o₁ o₂) :
    Lines.slice src₂ o₂.lineStart o₂.firstNonspace = Lines.slice src₁ o₁.lineStart o₁.firstNonspace := by
  obtain ⟨L, hl, h1, h2⟩ := h.slices
  have hn := h.nums
  have e1 := h1 0 (o₁.firstNonspace - o₁.lineStart) (by omega)
  have e2 := h2 0 (o₁.firstNonspace - o₁.lineStart) (by omega)
  rw [Nat.add_zero, show o₁.lineStart + (o₁.firstNonspace - o₁.lineStart) = o₁.firstNonspace by omega] at e1
  rw [Nat.add_zero, ← hn.2.2.1] at e2
  rw [e1, e2]

/-- `src[line_start + d..line_end]` for `d` inside the line -/
theorem ERel.from_ {src₁ src₂ : List Char} {o₁ o₂ : LineOffset} (h : ERel ρ src₁ src₂ o₁ o₂) (d : Nat) :
    Lines.slice src₂ (o₂.lineStart + d) o₂.lineEnd = Lines.slice src₁ (o₁.lineStart + d) o₁.lineEnd := by
  obtain ⟨L, hl, h1, h2⟩ := h.slices
  have hn := h.nums
  have e1 := h1 d (Lines.byteLen L) (Nat.le_refl _)
  have e2 := h2 d (Lines.byteLen L) (Nat.le_refl _)
  rw [← hl] at e1
  rw [show o₂.lineStart + Lines.byteLen L = o₂.lineEnd by omega] at e2
  rw [e1, e2]

/-- `is_empty` -/
theorem ERel.empty {src₁ src₂ : List Char} {o₁ o₂ : LineOffset} (h : ERel ρ src₁ src₂ o₁ o₂) :
    (o₂.firstNonspace ≥ o₂.lineEnd) ↔ (o₁.firstNonspace ≥ o₁.lineEnd) := by
  have hn := h.nums
  omega


theorem ERel.setIndent {src₁ src₂ : List Char} {o₁ o₂ : LineOffset} (h : ERel ρ src₁ src₂ o₁ o₂) (x : Int) :
    ERel ρ src₁ src₂ { o₁ with indentNonspace := x } { o₂ with indentNonspace := x } := by
  obtain ⟨a, b, p₁, q₁, p₂, q₂, e1, e2, hp1, hp2, h1, h2, h3, h4, _, hr⟩ := h
  exact ⟨a, b, p₁, q₁, p₂, q₂, e1, e2, hp1, hp2, h1, h2, h3, h4, rfl, hr⟩

/-- the rewriting both containers perform: `first_nonspace := fn + line_start` for a boundary `fn`
    of the line's bytes, any indent (the split point between `a` and `b` moves, `|a| + |b|` stays) -/
theorem ERel.rewrite {src₁ src₂ : List Char} {o₁ o₂ : LineOffset} (h : ERel ρ src₁ src₂ o₁ o₂)
    {L : List Char} (hL : Lines.slice src₁ o₁.lineStart o₁.lineEnd = .ok L) {fn : Nat}
    (hb : Lines.onBoundary L fn = true) (x : Int) :
    ERel ρ src₁ src₂ { o₁ with firstNonspace := fn + o₁.lineStart, indentNonspace := x }
      { o₂ with firstNonspace := fn + o₂.lineStart, indentNonspace := x } := by
  obtain ⟨L', hL1, _, _, _⟩ := h.line
  rw [hL] at hL1; cases hL1
  obtain ⟨a, b, p₁, q₁, p₂, q₂, e1, e2, hp1, hp2, h1, h2, h3, h4, _, hr⟩ := h
  have hab : L = a ++ b := by
    have := Lines.slice_eq_ok_iff.mpr ⟨p₁, q₁, e1, hp1, (by simp; omega : o₁.lineStart + Lines.byteLen (a ++ b) = o₁.lineEnd)⟩
    rw [hL] at this; cases this; rfl
  obtain ⟨a', b', hab', hfa⟩ := Lines.onBoundary_iff.mp hb
  have hlen : Lines.byteLen a' + Lines.byteLen b' = Lines.byteLen a + Lines.byteLen b := by
    have := congrArg Lines.byteLen (hab.symm.trans hab')
    simp at this; omega
  refine ⟨a', b', p₁, q₁, p₂, q₂, ?_, ?_, hp1, hp2, ?_, ?_, ?_, ?_, rfl, ?_⟩
  · rw [e1, ← hab, hab']
  · rw [e2, ← hab, hab']
  · simp; omega
  · simp; omega
  · simp; omega
  · simp; omega
  · intro d hd; exact hr d (by omega)

theorem ERel.geom_setIndent (o : LineOffset) (x : Int) : geom { o with indentNonspace := x } = geom o := rfl
theorem ERel.geom_rewrite (o : LineOffset) (f : Nat) (x : Int) :
    geom { o with firstNonspace := f, indentNonspace := x } = geom o := rfl

end entries

end MdIt.Block.LX
