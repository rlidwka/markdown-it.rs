/-
  For `Props/MemoSafe.lean`, namespace `MdIt.Inline.CS` (the definitions of `Lemmas/MemoSafeLamCSDef.lean`:
  `TopInv` with `nocut` and `MK`, witnesses `Just` with `IFP` of their state, `BackOK` with a `NoCut`
  premise): THE TOP FRAME, and the assembly for code spans with runs of backticks under the text hypothesis
  `NoEscTickTick` (no backslash-backtick-backtick).

  `CS.TopInv` meets the closure properties of `Lemmas/MemoSafeLamTopKit.lean` (`topKit`):
    * `TopInv.transfer` takes `InsideSub` of the code-span caches, `TopInv.insert` the mark of a new unit
      entry whose end is strictly inside a backtick run (`mark_of_step`, from `MarksHyp`);
    * `W`: a state from which `skip_token` is called satisfies `IFP` — re-established along a label walk
      by `ifp_of_entry` (from `EndHyp`); walks start behind a `[`, where `IFP` is vacuous;
    * `TokEqAt` also delivers `src` unchanged and `InsideSub`; `EntryP` also receives the `[` at the
      position of `parse_link`.

  The assembly:
    * `init_pos_blanks`, `nocut_init` — `trim_src`: the start position of the top frame lies behind a prefix
                            of blanks; the top `pos_max` cuts trailing blanks only, so no backtick run;
    * `entryP_NF`         — a nested frame entered from the top frame satisfies `CS.NF`;
    * `nestHyps_noesc`    — the hypotheses of the nested induction for `B := BC`.
-/
import MdIt.Lemmas.MemoSafeLamCSNest
import MdIt.Lemmas.MemoSafeLamCSEnd

namespace MdIt.Inline.CS
open MdIt.Inline
open MdIt.InlineOps (Srcmap byteLen slice)

variable {cfg : Cfg} {B : List Char → CodePair.Cache → Prop} {src : List Char} {Mtop : Nat}

/-! ## `TopInv` reads `src`, `posMax`, `backticks`, `cache` only -/

theorem TopInv.transfer {s s' : IState} (h : TopInv cfg B src Mtop s) (hsrc : s'.src = s.src)
    (hmax : s'.posMax = s.posMax) (hc : s'.cache = s.cache)
    (hsub : InsideSub s.backticks s'.backticks) (hb : B s'.src s'.backticks) :
    TopInv cfg B src Mtop s' :=
  ⟨hsrc.trans h.hsrc, hmax.trans h.hmax, hb, by rw [hc]; exact h.le, by rw [hc]; exact h.just,
    h.nocut, fun hbt => (h.hmk hbt).of_sub hsrc hc hsub⟩

theorem TopInv.of_eq {s s' : IState} (h : TopInv cfg B src Mtop s) (hsrc : s'.src = s.src)
    (hmax : s'.posMax = s.posMax) (hc : s'.cache = s.cache) (hb : s'.backticks = s.backticks) :
    TopInv cfg B src Mtop s' :=
  h.transfer hsrc hmax hc (by rw [hb]; exact InsideSub.refl _) (by rw [hsrc, hb]; exact h.back)

/-- the `NoCut` premise of `BackOK` at a state of the top frame -/
theorem TopInv.nocut_st {s : IState} (h : TopInv cfg B src Mtop s) :
    CodePair.NoCut '`' s.src s.posMax := by
  rw [h.hsrc, h.hmax]; exact h.nocut

/-- one more memo entry behind a failed `lookup`: ends inside the frame, is an over-limit entry or has
    its witness, and — if it is a unit entry ending strictly inside a backtick run — its end is marked -/
theorem TopInv.insert {s s' : IState} {k v : Nat} (h : TopInv cfg B src Mtop s)
    (hmiss : s.cache.lookup k = none) (hsrc : s'.src = s.src) (hmax : s'.posMax = s.posMax)
    (hb : s'.backticks = s.backticks) (hc : s'.cache = cacheInsert s.cache k v) (hv : v ≤ Mtop)
    (hj : v = Mtop ∨ Just cfg B src Mtop (cacheInsert s.cache k v) k v)
    (hnew : RuleId.backticks ∈ cfg.chain → v = k + 1 → Interior src (k + 1) →
      s'.backticks.insideFailed.contains (k + 1) = true) :
    TopInv cfg B src Mtop s' := by
  obtain ⟨l, j⟩ := insert_le_just (J := Just cfg B src Mtop) Just.mono h.le h.just hmiss hv hj
  exact ⟨hsrc.trans h.hsrc, hmax.trans h.hmax, by rw [hsrc, hb]; exact h.back, by rw [hc]; exact l,
    by rw [hc]; exact j, h.nocut, fun hbt => (h.hmk hbt).insert hsrc hb hc fun hv hi =>
      hnew hbt hv (by rw [← h.hsrc]; exact hi)⟩

/-- `skip` keeps `TopInv`, from states that satisfy `IFP` -/
def SkipTopHyp (cfg : Cfg) (B : List Char → CodePair.Cache → Prop) (src : List Char) (Mtop : Nat)
    (skip : IState → Except Panic IState) : Prop :=
  ∀ s, LInv s → s.pos < s.posMax → TopInv cfg B src Mtop s →
    (RuleId.backticks ∈ cfg.chain → IFP s) → ∀ s', skip s = .ok s' → TopInv cfg B src Mtop s'

/-- at `P`-states the guarded nested run is the model's, leaves memo and text alone, only grows
    `inside_failed`, and keeps the code-span cache invariant -/
def TokEqAt (B : List Char → CodePair.Cache → Prop) (P : IState → Prop)
    (tokG tokM : IState → Except Panic IState) : Prop :=
  ∀ s, P s → tokG s = tokM s ∧
    ∀ s', tokG s = .ok s' → s'.cache = s.cache ∧ s'.src = s.src ∧
      InsideSub s.backticks s'.backticks ∧ (B s.src s.backticks → B s'.src s'.backticks)

/-- a label found by `parse_link` at a `[` from a state of the top frame starts a frame at a `P`-state -/
def EntryP (cfg : Cfg) (B : List Char → CodePair.Cache → Prop) (src : List Char) (Mtop : Nat)
    (skipG : IState → Except Panic IState) (P : IState → Prop) : Prop :=
  ∀ (lo : Nat) (st : IState) (offset : Nat) (en : Bool) (fuel : Nat) (res : LinkRes) (st1 : IState),
    Good lo st → MemoB st → TopInv cfg B src Mtop st →
    Boundary st.src (st.pos + offset + 1) → st.pos + offset + 1 ≤ st.posMax →
    (∃ r, slice st.src (st.pos + offset) st.posMax = .ok ('[' :: r)) →
    parseLink cfg skipG fuel st (st.pos + offset) en = .ok (some res, st1) →
    TopInv cfg B src Mtop st1 → P (nestedState st1 res)

/-! ## the closure properties of `TopInv` -/

/-- the mark of a new unit entry that ends strictly inside a backtick run: the step that makes it is
    below the top `pos_max`, which cuts no run -/
theorem mark_of_step (hmarks : MarksHyp cfg B) (hnc : CodePair.NoCut '`' src Mtop)
    {skip tok : IState → Except Panic IState} {fuel : Nat} {st st' : IState} (hsrc : st.src = src)
    (hmax : st.posMax = Mtop) (hb : B st.src st.backticks) (hlt : st.pos < st.posMax)
    (h : skipStep cfg skip tok fuel st = .ok st') (hbt : RuleId.backticks ∈ cfg.chain)
    (hv : st'.pos = st.pos + 1) (hint : Interior src (st.pos + 1)) :
    st'.backticks.insideFailed.contains (st.pos + 1) = true := by
  have hlt1 : st.pos + 1 < st.posMax := by
    rcases Nat.lt_or_ge (st.pos + 1) st.posMax with h1 | h1
    · exact h1
    · exfalso
      have e : st.pos + 1 = Mtop := by rw [← hmax]; omega
      rw [e] at hint
      exact hnc hint
  exact hmarks skip tok fuel st st' hb hbt (by rw [hsrc]; exact hint) hlt1 h hv

/-- `CS.TopInv` as the invariant of `Lemmas/MemoSafeLamTopKit.lean` -/
def topKit (hB : BackOK B) (hend : EndHyp cfg B src Mtop) : TopKit cfg Mtop where
  T := TopInv cfg B src Mtop
  W := fun s => RuleId.backticks ∈ cfg.chain → IFP s
  E := fun _ => True
  L := fun _ => True
  Q := fun s s' => s'.cache = s.cache ∧ s'.src = s.src ∧ InsideSub s.backticks s'.backticks ∧
    (B s.src s.backticks → B s'.src s'.backticks)
  hmax := fun h => h.hmax
  closed := fun h => h.closed
  of_eq := fun h a b c d => h.of_eq a b c d
  W_E := fun _ => trivial
  W_entry := fun ht hp _ hbt => ifp_of_entry hend ht hbt hp
  W_bracket := fun _ hr _ hint => absurd hint (not_interior_after_bracket hr)
  back := fun {st silent o st'} ht _ h =>
    have hs := ruleBackticks_simple h
    ht.transfer hs.frame.src hs.frame.posMax hs.cache (insideSub_ruleBackticks h)
      (hB st silent o st' h ht.nocut_st ht.back)
  nested := fun ht1 hQ a b c d =>
    ht1.transfer (a.trans hQ.2.1) b (c.trans hQ.1) (by rw [d]; exact hQ.2.2.1)
      (by rw [a, d]; exact hQ.2.2.2 ht1.back)

theorem topKit_steps (hB : BackOK B) (hend : EndHyp cfg B src Mtop) (hmarks : MarksHyp cfg B) :
    (topKit hB hend).Steps where
  step := fun {skip tok fuel st st' _} hq hs hg hi hlt hmiss ht hW h ht1 hmiss1 e1 e2 e3 e4 hle =>
    ht1.insert hmiss1 e1 e2 e3 e4 hle
      (.inr ⟨skip, tok, fuel, st, st', hq, hs, hg, hi, ht.hsrc, ht.hmax, rfl, hlt, ht.back, hmiss, h,
        rfl, by rw [e4]; exact LookupMono.refl _, hW⟩)
      (mark_of_step hmarks ht.nocut ht.hsrc ht.hmax ht.back hlt h)
  limit := fun ht hmiss a b c d =>
    ht.insert hmiss a b c d (Nat.le_of_eq ht.hmax) (.inl ht.hmax)
      (fun _ hv hint => absurd (by rw [← ht.hmax, hv]; exact hint) ht.nocut)

/-! ## look-ahead and the real chain in the top frame -/

/-- **the guarded `skip_token` keeps the invariant of the top frame**, at every fuel -/
theorem skip_top (hB : BackOK B) (hend : EndHyp cfg B src Mtop) (hmarks : MarksHyp cfg B) :
    ∀ fuel : Nat, SkipTopHyp cfg B src Mtop (fun s => skipTokenG cfg true fuel s) :=
  (topKit hB hend).skip_top (topKit_steps hB hend hmarks)

/-- `parse_link` over the guarded `skip_token` at a fuel keeps the invariant of the top frame -/
theorem parseLink_top_G (hB : BackOK B) (hend : EndHyp cfg B src Mtop) (hmarks : MarksHyp cfg B)
    (f fuel : Nat) (st : IState) (pos : Nat) (en : Bool)
    (hi : LInv st) (hb : Boundary st.src (pos + 1)) (hle : pos + 1 ≤ st.posMax)
    (hch : ∃ r, slice st.src pos st.posMax = .ok ('[' :: r))
    (ht : TopInv cfg B src Mtop st) :
    ∀ o st', parseLink cfg (fun s => skipTokenG cfg true f s) fuel st pos en = .ok (o, st') →
      TopInv cfg B src Mtop st' :=
  (topKit hB hend).parseLink_top (skipTokenG_calm cfg true f) (skipTokenG_T cfg f)
    (TopKit.SkipW.of_grow _ (skip_grow cfg f)) (skip_top hB hend hmarks f) fuel st pos en hi hb hle
    (fun _ hint => absurd hint (not_interior_after_bracket hch.choose_spec)) ht

/-- **in the top frame one iteration of the guarded tokenizer loop is one iteration of the model's** -/
theorem tokStep_top (hB : BackOK B) (hend : EndHyp cfg B src Mtop)
    (hsz : ∀ mk csw, RuleId.emph mk csw ∈ cfg.chain → mk.utf8Size = 1)
    {skipG skipM tokG tokM : IState → Except Panic IState} {P : IState → Prop}
    (hq : CalmFn skipG) (hs : SkipHypT skipG) (hgr : SkipGrowHyp skipG)
    (hT : SkipTopHyp cfg B src Mtop skipG)
    (he : SkipEqHyp skipG skipM) (ht : TokHypT tokG) (hr : RangesFn tokG)
    (hte : TokEqAt B P tokG tokM) (hP : EntryP cfg B src Mtop skipG P) (fuel : Nat) {lo : Nat}
    (st : IState) (hg : Good lo st) (hm : MemoB st) (hlt : st.pos < st.posMax)
    (htop : TopInv cfg B src Mtop st) :
    tokStep cfg skipG tokG fuel st = tokStep cfg skipM tokM fuel st ∧
    ∀ st', tokStep cfg skipG tokG fuel st = .ok st' → TopInv cfg B src Mtop st' :=
  (topKit hB hend).tokStep_top hsz hq hs (TopKit.SkipW.of_grow _ hgr) hT he ht hr hte hP fuel
    st hg hm hlt htop trivial

/-! ## the loop and the parser -/

/-- **in the top frame the guarded tokenizer IS the model tokenizer**, at every fuel, provided the
    nested label runs agree at the `P`-states and the link rule enters nested frames only there -/
theorem top_total (hB : BackOK B) (hend : EndHyp cfg B src Mtop) (hmarks : MarksHyp cfg B)
    (hsz : ∀ mk csw, RuleId.emph mk csw ∈ cfg.chain → mk.utf8Size = 1) {P : IState → Prop}
    (hNE : ∀ f, TokEqAt B P (fun s => tokLoopG cfg true f s.posMax s)
      (fun s => tokLoop cfg f s.posMax s))
    (hP : ∀ f, EntryP cfg B src Mtop (fun s => skipTokenG cfg true f s) P) :
    ∀ (fuel lo : Nat) (st : IState), Good lo st → MemoB st → TopInv cfg B src Mtop st →
      tokLoopG cfg true fuel st.posMax st = tokLoop cfg fuel st.posMax st ∧
      ∀ st', tokLoopG cfg true fuel st.posMax st = .ok st' → TopInv cfg B src Mtop st' :=
  fun fuel lo st hg hm htop =>
    (topKit hB hend).top_total (topKit_steps hB hend hmarks)
      (fun _ _ _ _ _ _ _ => ⟨trivial, fun _ => trivial⟩) hsz hNE hP fuel lo st hg hm htop (fun _ => trivial) trivial

theorem topInv_init {content : List Char} {mapping : Srcmap}
    (hB0 : B content CodePair.Cache.empty)
    (hnc : CodePair.NoCut '`' content (IState.init content mapping).posMax) :
    TopInv cfg B content (IState.init content mapping).posMax (IState.init content mapping) :=
  ⟨rfl, rfl, hB0, by intro k v h; simp [IState.init] at h, by
    intro k v h; simp [IState.init] at h, hnc, by intro _ p hp; simp [IState.init] at hp⟩

/-- **the guarded inline parser IS the model inline parser** (same tree, same error), under the
    hypotheses on the nested frames and on the text -/
theorem parseInlineG_eq (hB : BackOK B)
    (hsz : ∀ mk csw, RuleId.emph mk csw ∈ cfg.chain → mk.utf8Size = 1) {P : IState → Prop}
    {content : List Char} {mapping : Srcmap} (hm : MapOK content mapping)
    (hB0 : B content CodePair.Cache.empty)
    (hnc : CodePair.NoCut '`' content (IState.init content mapping).posMax)
    (hend : EndHyp cfg B content (IState.init content mapping).posMax) (hmarks : MarksHyp cfg B)
    (hNE : ∀ f, TokEqAt B P (fun s => tokLoopG cfg true f s.posMax s)
      (fun s => tokLoop cfg f s.posMax s))
    (hP : ∀ f, EntryP cfg B content (IState.init content mapping).posMax
      (fun s => skipTokenG cfg true f s) P) :
    parseInlineG cfg content mapping = parseInline cfg content mapping :=
  (topKit hB hend).parseInlineG_eq (topKit_steps hB hend hmarks)
    (fun _ _ _ _ _ _ _ => ⟨trivial, fun _ => trivial⟩) hsz hm (topInv_init hB0 hnc) trivial trivial hNE hP

/-- **`parseInline` is total** under the hypotheses on the nested frames and on the text -/
theorem parseInline_total_of_nested (hB : BackOK B)
    (hsz : ∀ mk csw, RuleId.emph mk csw ∈ cfg.chain → mk.utf8Size = 1) {P : IState → Prop}
    {content : List Char} {mapping : Srcmap} (hm : MapOK content mapping)
    (hB0 : B content CodePair.Cache.empty)
    (hnc : CodePair.NoCut '`' content (IState.init content mapping).posMax)
    (hend : EndHyp cfg B content (IState.init content mapping).posMax) (hmarks : MarksHyp cfg B)
    (hNE : ∀ f, TokEqAt B P (fun s => tokLoopG cfg true f s.posMax s)
      (fun s => tokLoop cfg f s.posMax s))
    (hP : ∀ f, EntryP cfg B content (IState.init content mapping).posMax
      (fun s => skipTokenG cfg true f s) P) :
    ∃ cs, parseInline cfg content mapping = .ok cs :=
  parseInline_total_of_eq hsz hm (parseInlineG_eq hB hsz hm hB0 hnc hend hmarks hNE hP)

/-! ## examples -/

/-- `skip_top` is not vacuous: the initial state of every inline run whose `pos_max` does not cut a
    backtick run meets `TopInv` (for `B := BC`, `backOK_BC`), and so does the state behind the first
    guarded look-ahead step — `IFP` of the initial state holds when the run does not start strictly
    inside a backtick run -/
example (cfg : Cfg) (fuel : Nat) {content : List Char} {mapping : Srcmap}
    (hm : MapOK content mapping)
    (hnc : CodePair.NoCut '`' content (IState.init content mapping).posMax)
    (hend : EndHyp cfg BC content (IState.init content mapping).posMax) (hmarks : MarksHyp cfg BC)
    (hni : ¬ Interior content (IState.init content mapping).pos)
    (hlt : (IState.init content mapping).pos < (IState.init content mapping).posMax) :
    ∀ s1, skipTokenG cfg true fuel (IState.init content mapping) = .ok s1 →
      TopInv cfg BC content (IState.init content mapping).posMax s1 := by
  obtain ⟨lo, _, hg⟩ := init_good hm
  have hi := hg.linv (memoB_init' content mapping)
  intro s1 h1
  exact skip_top backOK_BC hend hmarks fuel _ hi hlt (topInv_init (BC.empty _) hnc)
    (fun _ hint => absurd hint hni) s1 h1


theorem byteLen_blanks (l : List Char) (h : ∀ c ∈ l, isSpTab c = true) : byteLen l = l.length :=
  byteLen_ascii l fun c hc => isSpTab_size (h c hc)

/-- the start position of the top frame (`trim_src`) lies behind a prefix of blanks -/
theorem init_pos_blanks (content : List Char) (mapping : InlineOps.Srcmap) :
    ∃ bl tl, content = bl ++ tl ∧ (∀ c ∈ bl, isSpTab c = true) ∧
      (IState.init content mapping).pos = bl.length := by
  show ∃ bl tl, content = bl ++ tl ∧ (∀ c ∈ bl, isSpTab c = true) ∧ (trimSrc content).1 = bl.length
  unfold trimSrc
  simp only
  generalize hr : content.reverse.dropWhile isSpTab = r
  have hsplit : content = (r.drop 1).reverse ++ ((r.take 1).reverse ++
      (content.reverse.takeWhile isSpTab).reverse) := by
    have := List.takeWhile_append_dropWhile (p := isSpTab) (l := content.reverse)
    have h' := congrArg List.reverse this
    simp only [List.reverse_append, List.reverse_reverse] at h'
    rw [← List.append_assoc, ← List.reverse_append, List.take_append_drop, ← hr]
    exact h'.symm
  generalize (r.drop 1).reverse = rest at hsplit
  refine ⟨rest.takeWhile isSpTab, rest.dropWhile isSpTab ++ ((r.take 1).reverse ++
    (content.reverse.takeWhile isSpTab).reverse), ?_, fun c hc => Lines.mem_takeWhile_imp hc, rfl⟩
  rw [← List.append_assoc, List.takeWhile_append_dropWhile]
  exact hsplit

/-- the top `pos_max` (`trim_src` cuts trailing blanks only) does not cut a backtick run -/
theorem nocut_init (content : List Char) (mapping : InlineOps.Srcmap) :
    CodePair.NoCut '`' content (IState.init content mapping).posMax := by
  rintro ⟨_, _, h2⟩
  let blanks := (content.reverse.takeWhile isSpTab).reverse
  let body := (content.reverse.dropWhile isSpTab).reverse
  have hsplit : content = body ++ blanks := by
    have := List.takeWhile_append_dropWhile (p := isSpTab) (l := content.reverse)
    have h' := congrArg List.reverse this
    simp only [List.reverse_append, List.reverse_reverse] at h'
    exact h'.symm
  have hbl : ∀ c ∈ blanks, isSpTab c = true := by
    intro c hc
    have : c ∈ content.reverse.takeWhile isSpTab := by simpa [blanks] using hc
    exact Lines.mem_takeWhile_imp this
  have hM : (IState.init content mapping).posMax = byteLen body := by
    show (trimSrc content).2 = byteLen body
    unfold trimSrc
    simp only
    have e1 : byteLen content = byteLen body + byteLen blanks := by
      rw [hsplit, C05.byteLen_append]
    have e2 : byteLen blanks = (content.reverse.takeWhile isSpTab).length := by
      rw [byteLen_blanks blanks hbl]; simp [blanks]
    omega
  rw [hM] at h2
  have hch : CodePair.charAt content (byteLen body) = blanks.head? := by
    have := CodePair.charAt_append_add body blanks 0
    rw [CodePair.charAt_zero] at this
    rw [hsplit]
    rw [codeByteLen_eq] at this
    simpa using this
  rw [hch] at h2
  cases hb : blanks with
  | nil => rw [hb] at h2; simp at h2
  | cons c r =>
    rw [hb] at h2
    simp only [List.head?_cons, Option.some.injEq] at h2
    have := hbl c (by rw [hb]; simp)
    rw [h2] at this
    simp [isSpTab] at this


/-- **a nested frame entered from the top frame satisfies `CS.NF`** -/
theorem entryP_NF (f : Nat) :
    EntryP cfg B src Mtop (fun s => skipTokenG cfg true f s) (NF cfg B src Mtop) := by
  intro lo st offset en fuel res st1 hg hm htop hb hle hch hpl htop1
  obtain ⟨r, hr⟩ := hch
  rw [htop.hsrc] at hr
  exact (Inline.NF.enter_top f hg hm htop.hsrc htop.hmax hb hle hpl htop1.hsrc htop1.back
    htop1.just.toJustAll).toCS htop1.just htop1.nocut (fun hbt => htop1.hmk hbt) hr (parseLink_labelStart hpl)

/-- the hypotheses of the nested induction for `B := BC`, texts without backslash-backtick-backtick -/
theorem nestHyps_noesc (cfg : Cfg) (src : List Char) (Mtop : Nat) (hc : ChainCoherent cfg = true)
    (hone : cfg.chain.count .link ≤ 1 ∧ cfg.chain.count .image ≤ 1) (hne : NoEscTickTick src)
    (hnc : CodePair.NoCut '`' src Mtop) : NestHyps cfg BC src Mtop :=
  { coh := hc
    hB := backOK_BC
    flat := flatL2_holds cfg
    back := fun _ => backL2_holds cfg hnc
    keep := realKeeps_holds cfg
    emph := emphL2_holds cfg
    plLink := fun _ => parseLinkL2Part_link cfg _ src Mtop
    plImage := fun _ => parseLinkL2Part_image cfg _ src Mtop
    one := hone
    hend := endHyp_holds cfg BC hne hnc
    agree := agreeHyp_holds src }

end MdIt.Inline.CS
