/-
  C11, code SPANS, RULE and INLINE level: the inline parser on  plain lines ++ code span ++ plain lines.

  `Props/C11.lean` (`span_raw_ctx`) is a statement about ONE call of the code-span rule.  Here

    * the content between the backtick runs is any `R ≠ []` that neither starts nor ends with a backtick and has
      no run of `k + 1` backticks (`RawOk`) — padded or not; the text child of the `CodeInline` node is
      `CodePair.unpad (CodePair.normalise R)` (`spanContent`), its range the inside of the span, moved inwards by
      one byte on either side exactly when the padding pair is stripped (`padW`):
      `ruleBackticks_raw`;
    * that call is reached through the inline tokenizer (`Inline.tokenize` / `parseInline`) on a text
      `docOf As ++ `ᵏ⁺¹ R `ᵏ⁺¹ ++ docOf Bs` whose context is harmless: `As`, `Bs` plain LINES joined by line feeds
      (`SoftOk`: every piece free of the text rule's stop characters, `PlainTxt`; no piece in front of a line feed ends
      with a space — no hard break, nothing to pop from the trailing text —, no blank behind a line feed — nothing for
      the `newline` rule to skip).  The loop alternates the text rule on a piece and the `newline` rule (second in the
      chain) on a line feed (`tokLoop_lines`), reaches the code-span rule through rules that answer `None` at a
      backtick (`runRule_quiet_tick`) with the EMPTY code-span cache (`CodePair.CacheInv.empty`), and goes on likewise;
    * the table is ANY table whose offset translation is total, `get_source_pos_for m a = Ok (tr a)` for every `a`
      (`OnT`) — the ranges are `tr` of the inline offsets.  (A one-entry table `[(0, x)]`: `tr a = x + a`; the
      table `get_lines` builds for an `n`-line top-level paragraph: `tr a = a`, `C11M.idTable_translate`.)

    `C11X.parseInline_lines`   the inline parser on `docOf As ++ `ᵏ⁺¹ R `ᵏ⁺¹ ++ docOf Bs`; the `newline` rule is asked for
                               only when there is a line feed (`C11X.parseInline_mid`: second in the chain)
    `C11M.parseInline_raw`     one piece on either side
    `C11S.parseInline_span`    … the padded form, a one-entry table
  Namespaces: `C11S` the padded Span on one line, `C11M` the general span and Multi-line paragraphs, `C11X` paragraph
  lines around the span and the conteXt (containers); a later namespace opens the earlier ones.
-/
import MdIt.Lemmas.C12DocInline
import MdIt.Lemmas.C05InlineTables
import MdIt.Props.C11
import MdIt.Props.Block

namespace MdIt.C11S
open MdIt.Inline
open MdIt.InlineOps (Srcmap getSourcePosFor getMap byteLen slice)
open MdIt.C05 (byteLen_append slice_ok_iff)

/-! ## generic facts about the inline tokenizer used by C12/C13 too -/

/-- plain text: no character of the text rule's stop set (`\n ! # $ % & * + - : < = > @ [ \ ] ^ _ ` { } ~`) -/
def PlainTxt (s : List Char) : Prop := ∀ c ∈ s, c ∉ Entity.textStop

theorem PlainTxt.tail {c : Char} {s : List Char} (h : PlainTxt (c :: s)) : PlainTxt s :=
  fun d hd => h d (List.mem_cons_of_mem _ hd)

theorem splitRun_plain : ∀ (a b : List Char), PlainTxt a → (∀ c ∈ b.head?, c ∈ Entity.textStop) →
    Entity.splitRun (fun c => !Entity.textStop.contains c) (a ++ b) = (a, b)
  | [], [], _, _ => rfl
  | [], c :: r, _, hb => by
    have := hb c (by simp)
    simp [Entity.splitRun, this]
  | c :: a, b, ha, hb => by
    have hc := ha c (by simp)
    have ih := splitRun_plain a b ha.tail hb
    have hc' : (!Entity.textStop.contains c) = true := by simp [hc]
    simp only [List.cons_append, Entity.splitRun, hc', if_true, ih]

theorem firstRule_quiet (run : RuleId → IState → RuleRes) (st : IState) :
    ∀ (pre post : List RuleId), (∀ r ∈ pre, run r st = .ok (none, st)) →
      firstRule run (pre ++ post) st = firstRule run post st
  | [], _, _ => rfl
  | r :: rs, post, h => by
    simp only [List.cons_append, firstRule, h r (by simp)]
    exact firstRule_quiet run st rs post (fun q hq => h q (List.mem_cons_of_mem _ hq))

theorem trimSrc_ends (c : List Char) (f l : Char) (r : List Char) (hc : c = f :: r) (hl : c.getLast? = some l)
    (hf : isSpTab f = false) (hll : isSpTab l = false) : trimSrc c = (0, byteLen c) := by
  have := Inline.C12.trimSrc_mid [] c [] (by simp) (by simp) (by rw [hc]; simp) (by rw [hc]; simpa using hf)
    (by rw [hl]; simpa using hll)
  simpa [byteLen] using this

/-! ## for the span: the padded form, children that do not end with a text, the rules in front of the code-span rule at a backtick -/

/-- the code span `` `ᵏ⁺¹ ␠ T ␠ `ᵏ⁺¹ `` -/
def spanOf (k : Nat) (T : List Char) : List Char :=
  List.replicate (k + 1) '`' ++ [' '] ++ T ++ [' '] ++ List.replicate (k + 1) '`'

/-- the children do not end with a text node (so `trailing_text_push` starts a fresh one) -/
def NoTrailText (cs : List Node) : Prop := ∀ init n, cs = init ++ [n] → n.isText = false

theorem noTrailText_nil : NoTrailText [] := by
  intro init n h
  have := congrArg List.length h
  simp at this

theorem noTrailText_snoc (cs : List Node) (n : Node) (h : n.isText = false) : NoTrailText (cs ++ [n]) := by
  intro init n' e
  have := List.append_inj' e rfl
  simp at this
  rw [← this.2]; exact h

/-- the rules that answer `None` at a backtick and hand the state back: all but the code-span rule itself
    and an emphasis rule configured for the backtick -/
def QuietTick (r : RuleId) : Prop := r ≠ .backticks ∧ ∀ csw, r ≠ .emph '`' csw

theorem runRule_quiet_tick (cfg : Cfg) (skip tok : IState → Except Panic IState) (fuel : Nat) {st : IState}
    {rest : List Char} (hw : st.window = .ok ('`' :: rest)) (r : RuleId) (hr : QuietTick r) :
    runRule cfg skip tok fuel r st false = .ok (none, st) := by
  refine Inline.C12.runRule_quiet cfg skip tok fuel r st '`' rest hw ?_
  cases r with
  | backticks => exact absurd rfl hr.1
  | emph mk csw => exact beq_eq_false_iff_ne.mpr fun e => hr.2 csw (by rw [e])
  | _ => rfl

theorem tick_stop : '`' ∈ Entity.textStop := by decide

end MdIt.C11S

namespace MdIt.C11M
open MdIt.Inline
open MdIt.InlineOps (Srcmap getSourcePosFor getMap byteLen slice)
open MdIt.C05 (byteLen_append slice_ok_iff)
open MdIt.C11S (PlainTxt QuietTick NoTrailText noTrailText_nil noTrailText_snoc splitRun_plain runRule_quiet_tick
  firstRule_quiet tick_stop)
open MdIt.Inline.C12 (tokLoop_step tokLoop_done)

/-- a run of `k + 1` backticks -/
def ticks (k : Nat) : List Char := List.replicate (k + 1) '`'

/-- the code span `` `ᵏ⁺¹ R `ᵏ⁺¹ `` -/
def rawSpan (k : Nat) (R : List Char) : List Char := ticks k ++ R ++ ticks k

/-- the text of the code node: line feeds to spaces, then ONE pair of padding spaces off if the result starts with
    a space, ends with a space and is longer than 2 bytes -/
def spanContent (R : List Char) : List Char := CodePair.unpad (CodePair.normalise R)

/-- the width of the padding stripped on either side: 1 or 0 -/
def padW (R : List Char) : Nat := if CodePair.padded (CodePair.normalise R) = true then 1 else 0

theorem byteLen_ticks (k : Nat) : byteLen (ticks k) = k + 1 := by
  rw [ticks, ← codeByteLen_eq]; exact CodePair.byteLen_replicate CodePair.backtick_size _

theorem byteLen_rawSpan (k : Nat) (R : List Char) : byteLen (rawSpan k R) = 2 * (k + 1) + byteLen R := by
  simp only [rawSpan, byteLen_append, byteLen_ticks]; omega

theorem rawSpan_head (k : Nat) (R : List Char) : ∃ r, rawSpan k R = '`' :: r := by
  simp [rawSpan, ticks, List.replicate_succ]

/-- the padded form is an instance: `spanOf k T = rawSpan k (␠ T ␠)` -/
theorem spanOf_eq_rawSpan (k : Nat) (T : List Char) : C11S.spanOf k T = rawSpan k (' ' :: T ++ [' ']) := by
  simp [C11S.spanOf, rawSpan, ticks]

theorem padW_le (R : List Char) : 2 * padW R + 1 ≤ byteLen R ∨ padW R = 0 := by
  unfold padW
  split
  · rename_i h
    left
    unfold CodePair.padded at h
    simp only [Bool.and_eq_true, decide_eq_true_eq] at h
    have := CodePair.byteLen_normalise R
    simp only [codeByteLen_eq] at this h
    omega
  · right; rfl

/-- the padded form `␠ T ␠` (`T ≠ []`): exactly the one pair goes — `T` with its line feeds turned into spaces
    stays whole, also when it begins / ends with spaces or consists of spaces only -/
theorem strip_padded (T : List Char) (hT : T ≠ []) :
    spanContent (' ' :: T ++ [' ']) = CodePair.normalise T ∧ padW (' ' :: T ++ [' ']) = 1 := by
  have hn : CodePair.normalise (' ' :: T ++ [' ']) = ' ' :: CodePair.normalise T ++ [' '] := by
    simp [CodePair.normalise]
  obtain ⟨h1, h2⟩ := CodePair.strip_exact (CodePair.normalise T) (CodePair.normalise_ne_nil hT)
  exact ⟨by rw [spanContent, hn, h2], by rw [padW, hn, if_pos h1]⟩

/-- a top-level state over the whole text `c`; the table translates every offset: `a ↦ tr a` -/
structure OnT (st : IState) (c : List Char) (tr : Nat → Nat) : Prop where
  src : st.src = c
  map : ∀ a, getSourcePosFor st.srcmap a = .ok (tr a)
  posMax : st.posMax = byteLen c
  level : st.level = 0

theorem OnT.window {st : IState} {c : List Char} {tr : Nat → Nat} (h : OnT st c tr) (a b : List Char) (hc : c = a ++ b)
    (hp : st.pos = byteLen a) : st.window = .ok b := by
  unfold IState.window
  rw [h.src, h.posMax, hp]
  have : slice c (byteLen a) (byteLen c) = .ok b :=
    (slice_ok_iff _ _ _ _).mpr ⟨a, [], by simp [hc], rfl, by rw [hc, byteLen_append]⟩
  rw [this]; rfl

theorem OnT.getMap {st : IState} {c : List Char} {tr : Nat → Nat} (h : OnT st c tr) {a b : Nat} (hab : a ≤ b) :
    st.getMap a b = .ok (tr a, tr b) := by
  unfold IState.getMap InlineOps.getMap
  rw [if_neg (by omega), h.map a, h.map b]; rfl

theorem OnT.sliceAt {st : IState} {c : List Char} {tr : Nat → Nat} (h : OnT st c tr) (a mid b : List Char)
    (hc : c = a ++ mid ++ b) : liftOps (InlineOps.slice st.src (byteLen a) (byteLen a + byteLen mid)) = .ok mid := by
  rw [h.src]
  have : InlineOps.slice c (byteLen a) (byteLen a + byteLen mid) = .ok mid :=
    (slice_ok_iff _ _ _ _).mpr ⟨a, b, hc, rfl, rfl⟩
  rw [this]; rfl

theorem pushText_fresh {st : IState} {c : List Char} {tr : Nat → Nat} (h : OnT st c tr) (a mid b : List Char)
    (hc : c = a ++ mid ++ b) (hnt : NoTrailText st.children) :
    st.pushText (byteLen a) (byteLen a + byteLen mid) =
      .ok { st with children := st.children ++
        [Node.newText mid (some (tr (byteLen a), tr (byteLen a + byteLen mid)))] } := by
  have hs := h.sliceAt a mid b hc
  have hm : liftOps (getMap st.srcmap (byteLen a) (byteLen a + byteLen mid)) =
      .ok (tr (byteLen a), tr (byteLen a + byteLen mid)) := h.getMap (Nat.le_add_right _ _)
  unfold IState.pushText trailingTextPush
  simp only [hs, hm]
  cases hpl : popLast st.children with
  | none => rfl
  | some p =>
    obtain ⟨init, last⟩ := p
    rcases popLast_spec st.children with ⟨h0, _⟩ | ⟨i, l, h1, h2⟩
    · rw [hpl] at h0; cases h0
    · rw [hpl] at h1
      simp only [Option.some.injEq, Prod.mk.injEq] at h1
      have := hnt init last (by rw [h1.1, h1.2]; exact h2)
      simp [this]

theorem ruleText_plain {st : IState} {c : List Char} {tr : Nat → Nat} (h : OnT st c tr) (a mid b : List Char)
    (hc : c = a ++ mid ++ b) (hp : st.pos = byteLen a) (hne : mid ≠ []) (hmid : PlainTxt mid)
    (hb : ∀ ch ∈ b.head?, ch ∈ Entity.textStop) (hnt : NoTrailText st.children) :
    ruleText st false = .ok (some (byteLen mid), { st with children := st.children ++
      [Node.newText mid (some (tr (byteLen a), tr (byteLen a + byteLen mid)))] }) := by
  have hw := h.window a (mid ++ b) (by rw [hc, List.append_assoc]) hp
  have hpos : byteLen mid ≠ 0 := by
    intro h0
    cases mid with
    | nil => exact hne rfl
    | cons d r => have := Char.utf8Size_pos d; simp only [byteLen] at h0; omega
  unfold ruleText
  rw [hw]
  simp only [splitRun_plain mid b hmid hb, hpos, if_false, Bool.false_eq_true, hp,
    pushText_fresh h a mid b hc hnt]

theorem ruleText_stop {st : IState} {c : List Char} {tr : Nat → Nat} (h : OnT st c tr) (a b : List Char) (ch : Char)
    (hc : c = a ++ ch :: b) (hp : st.pos = byteLen a) (hs : ch ∈ Entity.textStop) (silent : Bool) :
    ruleText st silent = .ok (none, st) := by
  have hw := h.window a (ch :: b) hc hp
  unfold ruleText
  rw [hw]
  simp [Entity.splitRun, hs, byteLen]

/-- the node the code-span rule makes: `CodeInline` over the whole span (inline offsets `p .. p + 2(k+1) + |R|`),
    one text child `spanContent R` over the inside — without the padding bytes when they are stripped -/
def codeNodeR (tr : Nat → Nat) (p k : Nat) (R : List Char) : Node :=
  { val := .codeInline '`' (k + 1), range := some (tr p, tr (p + (2 * (k + 1) + byteLen R))),
    children := [Node.newText (spanContent R)
      (some (tr (p + (k + 1) + padW R), tr (p + (k + 1) + byteLen R - padW R)))] }

theorem ruleBackticks_raw {st : IState} {c : List Char} {tr : Nat → Nat} (h : OnT st c tr) (pre R post : List Char)
    (k : Nat) (hc : c = pre ++ rawSpan k R ++ post) (hp : st.pos = byteLen pre) (hR : CodePair.RawOk '`' k R)
    (hpost : post.head? ≠ some '`') (hcache : st.backticks = CodePair.Cache.empty) :
    ∃ c', ruleBackticks st false = .ok (some (2 * (k + 1) + byteLen R),
      { st with backticks := c', children := st.children ++ [codeNodeR tr (byteLen pre) k R] }) := by
  have hsrc : pre ++ (List.replicate (k + 1) '`' ++ R ++ List.replicate (k + 1) '`') ++ post ++ [] = c := by
    rw [hc]; simp [rawSpan, ticks]
  have hlen : CodePair.byteLen pre + (2 * (k + 1) + CodePair.byteLen R) + CodePair.byteLen post = CodePair.byteLen c := by
    simp only [codeByteLen_eq]
    rw [hc, byteLen_append, byteLen_append, byteLen_rawSpan]
  have hcut : CodePair.NoCut '`' c (CodePair.byteLen c) := CodePair.noCut_end '`' c
  obtain ⟨c', hrun⟩ := CodePair.span_raw_ctx '`' CodePair.backtick_size pre R post [] k hR hpost
    false CodePair.Cache.empty (CodePair.CacheInv.empty _ _) rfl (Or.inr (by rw [hsrc, hlen]; exact hcut))
  rw [hsrc, hlen] at hrun
  simp only [codeByteLen_eq] at hrun
  refine ⟨c', ?_⟩
  unfold ruleBackticks
  rw [h.src, hp, h.posMax, hcache, hrun]
  simp only [CodePair.nodeOf]
  have hpw := padW_le R
  by_cases hpad : CodePair.padded (CodePair.normalise R) = true
  · have hw : padW R = 1 := by simp [padW, hpad]
    rw [hw] at hpw
    simp only [hpad, if_true]
    rw [h.getMap (by omega), h.getMap (by omega)]
    simp only [codeNodeR, hw, spanContent]
  · have hw : padW R = 0 := by simp [padW, hpad]
    simp only [hpad, if_false, Bool.false_eq_true]
    rw [h.getMap (by omega), h.getMap (by omega)]
    simp only [codeNodeR, hw, spanContent, Nat.add_zero, Nat.sub_zero]

/-- the text node for a stretch `mid` at inline offset `p` — none for an empty stretch -/
def textNodesT (tr : Nat → Nat) (p : Nat) (mid : List Char) : List Node :=
  if mid = [] then [] else [Node.newText mid (some (tr p, tr (p + byteLen mid)))]

theorem OnT.upd {st : IState} {c : List Char} {tr : Nat → Nat} (h : OnT st c tr) (cs : List Node) (p : Nat)
    (bt : CodePair.Cache) : OnT { st with children := cs, pos := p, backticks := bt } c tr :=
  ⟨h.src, h.map, h.posMax, h.level⟩

theorem tokLoop_plain (cfg : Cfg) (hmn : 0 < cfg.maxNesting) (rest : List RuleId) (hchain : cfg.chain = .text :: rest)
    {st : IState} {c : List Char} {tr : Nat → Nat} (h : OnT st c tr) (a mid b : List Char)
    (hc : c = a ++ mid ++ b) (hp : st.pos = byteLen a) (hmid : PlainTxt mid)
    (hb : ∀ ch ∈ b.head?, ch ∈ Entity.textStop) (hnt : NoTrailText st.children) (F : Nat) (hF : 1 ≤ F) :
    ∃ F', F ≤ F' + 1 ∧ tokLoop cfg F (byteLen c) st =
      tokLoop cfg F' (byteLen c) { st with children := st.children ++ textNodesT tr (byteLen a) mid,
                                            pos := byteLen a + byteLen mid } := by
  by_cases hne : mid = []
  · subst hne
    refine ⟨F, by omega, ?_⟩
    congr 1
    cases st
    simp only [textNodesT, if_true, List.append_nil, byteLen, Nat.add_zero] at hp ⊢
    simp [hp]
  · obtain ⟨G, rfl⟩ : ∃ G, F = G + 1 := ⟨F - 1, by omega⟩
    refine ⟨G, by omega, ?_⟩
    have hrt := ruleText_plain h a mid b hc hp hne hmid hb hnt
    have hpos : 0 < byteLen mid := by
      cases mid with
      | nil => exact absurd rfl hne
      | cons d r => have := Char.utf8Size_pos d; simp only [byteLen]; omega
    have hlt : st.pos < byteLen c := by
      rw [hp, hc, byteLen_append, byteLen_append]; omega
    rw [tokLoop_step cfg G (byteLen c) hlt (st' := { st with children := st.children ++ textNodesT tr (byteLen a) mid, pos := byteLen a + byteLen mid })]
    have hl : st.level < cfg.maxNesting := by rw [h.level]; exact hmn
    unfold tokStep
    simp only [hl, if_true, hchain, firstRule, runRule, hrt, liftR, textNodesT, hne, if_false, hp]

theorem tokLoop_raw (cfg : Cfg) (hmn : 0 < cfg.maxNesting) (c1 c2 : List RuleId)
    (hchain : cfg.chain = c1 ++ .backticks :: c2) (hq : ∀ r ∈ c1, QuietTick r)
    {st : IState} {c : List Char} {tr : Nat → Nat} (h : OnT st c tr) (pre R post : List Char) (k : Nat)
    (hc : c = pre ++ rawSpan k R ++ post) (hp : st.pos = byteLen pre) (hR : CodePair.RawOk '`' k R)
    (hpost : post.head? ≠ some '`')
    (hcache : st.backticks = CodePair.Cache.empty) (F : Nat) :
    ∃ c', tokLoop cfg (F + 1) (byteLen c) st =
      tokLoop cfg F (byteLen c) { st with backticks := c', children := st.children ++ [codeNodeR tr (byteLen pre) k R],
                                          pos := byteLen pre + (2 * (k + 1) + byteLen R) } := by
  obtain ⟨c', hbt⟩ := ruleBackticks_raw h pre R post k hc hp hR hpost hcache
  refine ⟨c', ?_⟩
  obtain ⟨r, hr⟩ := rawSpan_head k R
  have hw : st.window = .ok ('`' :: (r ++ post)) := by
    refine h.window pre _ ?_ hp
    rw [hc, hr]; simp
  have hlt : st.pos < byteLen c := by
    rw [hp, hc, byteLen_append, byteLen_append, byteLen_rawSpan]; omega
  rw [tokLoop_step cfg F (byteLen c) hlt (st' := { st with backticks := c', children := st.children ++ [codeNodeR tr (byteLen pre) k R], pos := byteLen pre + (2 * (k + 1) + byteLen R) })]
  have hl : st.level < cfg.maxNesting := by rw [h.level]; exact hmn
  unfold tokStep
  simp only [hl, if_true, hchain]
  rw [firstRule_quiet _ st c1 _ (fun q hq' => runRule_quiet_tick cfg _ _ F hw q (hq q hq'))]
  simp only [firstRule, runRule, hbt, liftR, hp]

end MdIt.C11M

namespace MdIt.C11X
open MdIt.Inline MdIt.C11M
open MdIt.Block (docOf)
open MdIt.InlineOps (Srcmap getSourcePosFor getMap byteLen slice)
open MdIt.C05 (byteLen_append slice_ok_iff)
open MdIt.C11S (PlainTxt QuietTick NoTrailText noTrailText_nil noTrailText_snoc splitRun_plain runRule_quiet_tick
  firstRule_quiet tick_stop)
open MdIt.Inline.C12 (tokLoop_step tokLoop_done)

/-- plain lines joined by line feeds, followed by `b`: every piece plain text; a piece in front of a line feed does
    not end with a space; what follows a line feed does not start with a blank -/
def SoftOk : List (List Char) → List Char → Prop
  | [], _ => True
  | [A], _ => PlainTxt A
  | A :: B :: r, b =>
    PlainTxt A ∧ A.getLast? ≠ some ' ' ∧ (∀ ch ∈ (docOf (B :: r) ++ b).head?, isSpTab ch = false) ∧ SoftOk (B :: r) b

instance (s : List Char) : Decidable (PlainTxt s) := by unfold PlainTxt; infer_instance

instance : ∀ (As : List (List Char)) (b : List Char), Decidable (SoftOk As b)
  | [], _ => isTrue trivial
  | [A], _ => by unfold SoftOk; infer_instance
  | A :: B :: r, b => by
    have := instDecidableSoftOk (B :: r) b
    unfold SoftOk; infer_instance

/-- the `Softbreak` node over the line feed at inline offset `p` -/
def brkNode (tr : Nat → Nat) (p : Nat) : Node := Node.leaf .softbreak (some (tr p, tr (p + 1)))

/-- the inline nodes of the lines `As` from inline offset `p`: text (none for an empty piece), break, text, … -/
def linesInl (tr : Nat → Nat) : Nat → List (List Char) → List Node
  | _, [] => []
  | p, [A] => textNodesT tr p A
  | p, A :: B :: r => textNodesT tr p A ++ brkNode tr (p + byteLen A) :: linesInl tr (p + byteLen A + 1) (B :: r)

theorem lf_stop : '\n' ∈ Entity.textStop := by decide

theorem docOf_cons2 (A B : List Char) (r : List (List Char)) : docOf (A :: B :: r) = A ++ '\n' :: docOf (B :: r) := rfl

/-- no space at the end of the trailing text: nothing for the `newline` rule to pop -/
theorem tailSpaces_fresh (tr : Nat → Nat) (cs : List Node) (hnt : NoTrailText cs) (p : Nat) (A : List Char)
    (hA : A.getLast? ≠ some ' ') : tailSpaces (trailingTextGet (cs ++ textNodesT tr p A)) = 0 := by
  unfold textNodesT
  split
  · rw [List.append_nil]
    unfold trailingTextGet
    rcases popLast_spec cs with ⟨h0, _⟩ | ⟨i, l, h1, h2⟩
    · rw [h0]; rfl
    · rw [h1]
      have := hnt i l h2
      simp [this, tailSpaces]
  · rename_i hne
    unfold trailingTextGet
    rcases popLast_spec (cs ++ [Node.newText A (some (tr p, tr (p + byteLen A)))]) with ⟨h0, h0'⟩ | ⟨i, l, h1, h2⟩
    · simp at h0'
    · rw [h1]
      have := List.append_inj' h2 rfl
      simp only [List.cons.injEq, and_true] at this
      rw [← this.2]
      simp only [Node.isText, Node.newText, if_true, Node.content]
      unfold tailSpaces
      obtain ⟨init, last, hi⟩ : ∃ init last, A = init ++ [last] := by
        rcases List.eq_nil_or_concat A with h | ⟨i', l', h⟩
        · exact absurd h hne
        · exact ⟨i', l', by simpa using h⟩
      have hl : last ≠ ' ' := by
        intro e; apply hA; rw [hi, List.getLast?_concat, e]
      rw [hi]
      simp [hl]

/-- **the `newline` rule at a soft line break**: `Some(1)`, a `Softbreak` node over the line feed -/
theorem ruleNewline_soft {st : IState} {c : List Char} {tr : Nat → Nat} (h : OnT st c tr) (a b : List Char)
    (hc : c = a ++ '\n' :: b) (hp : st.pos = byteLen a) (hb : ∀ ch ∈ b.head?, isSpTab ch = false)
    (htail : tailSpaces (trailingTextGet st.children) = 0) :
    ruleNewline st false = .ok (some 1, { st with children := st.children ++ [brkNode tr (byteLen a)] }) := by
  have hw := h.window a ('\n' :: b) hc hp
  have htw : (b.takeWhile isSpTab).length = 0 := by
    cases b with
    | nil => rfl
    | cons d t => simp [List.takeWhile, hb d (by simp)]
  unfold ruleNewline
  rw [hw]
  simp only [ne_eq, not_true_eq_false, if_false, Bool.false_eq_true, htail, trailingTextPop, if_true, htw, Nat.add_zero,
    Nat.sub_zero, Nat.not_lt_zero]
  rw [h.getMap (by omega), hp]
  simp [brkNode]

/-- the iteration at a line feed: the text rule answers `None`, the `newline` rule pushes the break -/
theorem tokLoop_newline (cfg : Cfg) (hmn : 0 < cfg.maxNesting) (rest : List RuleId)
    (hchain : cfg.chain = .text :: .newline :: rest)
    {st : IState} {c : List Char} {tr : Nat → Nat} (h : OnT st c tr) (a b : List Char)
    (hc : c = a ++ '\n' :: b) (hp : st.pos = byteLen a) (hb : ∀ ch ∈ b.head?, isSpTab ch = false)
    (htail : tailSpaces (trailingTextGet st.children) = 0) (F : Nat) :
    tokLoop cfg (F + 1) (byteLen c) st =
      tokLoop cfg F (byteLen c) { st with children := st.children ++ [brkNode tr (byteLen a)], pos := byteLen a + 1 } := by
  have hlt : st.pos < byteLen c := by
    rw [hp, hc, byteLen_append]
    simp only [byteLen, show '\n'.utf8Size = 1 by decide]
    omega
  rw [tokLoop_step cfg F (byteLen c) hlt
    (st' := { st with children := st.children ++ [brkNode tr (byteLen a)], pos := byteLen a + 1 })]
  have hl : st.level < cfg.maxNesting := by rw [h.level]; exact hmn
  unfold tokStep
  simp only [hl, if_true, hchain, firstRule, runRule, ruleText_stop h a b '\n' hc hp lf_stop false,
    ruleNewline_soft h a b hc hp hb htail, liftR, hp]

theorem byteLen_docOf_cons2 (A B : List Char) (r : List (List Char)) :
    byteLen (docOf (A :: B :: r)) = byteLen A + 1 + byteLen (docOf (B :: r)) := by
  rw [docOf_cons2, byteLen_append]
  simp only [byteLen, show '\n'.utf8Size = 1 by decide]
  omega

/-- **the loop over plain lines**: `text, break, text, …, text`; the `newline` rule is second in the chain if there is
    a line feed -/
theorem tokLoop_lines (cfg : Cfg) (hmn : 0 < cfg.maxNesting) (rest : List RuleId)
    (hchain : cfg.chain = .text :: rest) {c : List Char} {tr : Nat → Nat} :
    ∀ (As : List (List Char)) (a b : List Char) (st : IState), OnT st c tr → As ≠ [] →
      (2 ≤ As.length → ∃ rest', rest = .newline :: rest') →
      c = a ++ docOf As ++ b → st.pos = byteLen a → SoftOk As b →
      (∀ ch ∈ b.head?, ch ∈ Entity.textStop) → NoTrailText st.children →
      ∀ F, 2 * As.length ≤ F →
      ∃ F', F ≤ F' + 2 * As.length ∧ tokLoop cfg F (byteLen c) st =
        tokLoop cfg F' (byteLen c) { st with children := st.children ++ linesInl tr (byteLen a) As,
                                              pos := byteLen a + byteLen (docOf As) }
  | [], _, _, _, _, hne, _, _, _, _, _, _, _, _ => absurd rfl hne
  | [A], a, b, st, h, _, _, hc, hp, hso, hb, hnt, F, hF => by
    have hd : docOf [A] = A := by simp [docOf, Lines.joinLines]
    rw [hd] at hc ⊢
    simp only [List.length_cons, List.length_nil] at hF ⊢
    obtain ⟨F', hF', e⟩ := tokLoop_plain cfg hmn _ hchain h a A b hc hp hso hb hnt F (by omega)
    exact ⟨F', by omega, e⟩
  | A :: B :: r, a, b, st, h, _, hnl, hc, hp, hso, hb, hnt, F, hF => by
    obtain ⟨hA, hAl, hnb, hso'⟩ := hso
    obtain ⟨rest', hrest⟩ := hnl (by simp)
    have hchain' : cfg.chain = .text :: .newline :: rest' := by rw [hchain, hrest]
    rw [byteLen_docOf_cons2]
    simp only [List.length_cons] at hF ⊢
    have hc1 : c = a ++ A ++ ('\n' :: docOf (B :: r) ++ b) := by rw [hc, docOf_cons2]; simp
    obtain ⟨F1, hF1, e1⟩ := tokLoop_plain cfg hmn _ hchain h a A ('\n' :: docOf (B :: r) ++ b) hc1 hp hA
      (by intro ch hch; simp at hch; subst hch; exact lf_stop) hnt F (by omega)
    obtain ⟨G, rfl⟩ : ∃ G, F1 = G + 1 := ⟨F1 - 1, by omega⟩
    have h1 := h.upd (st.children ++ textNodesT tr (byteLen a) A) (byteLen a + byteLen A) st.backticks
    have hc2 : c = (a ++ A) ++ '\n' :: (docOf (B :: r) ++ b) := by rw [hc1]; simp
    have e2 := tokLoop_newline cfg hmn _ hchain' h1 (a ++ A) (docOf (B :: r) ++ b) hc2 (by simp [byteLen_append]) hnb
      (tailSpaces_fresh tr st.children hnt (byteLen a) A hAl) G
    have h2 := h.upd (st.children ++ textNodesT tr (byteLen a) A ++ [brkNode tr (byteLen (a ++ A))])
      (byteLen (a ++ A) + 1) st.backticks
    have hc3 : c = (a ++ A ++ ['\n']) ++ docOf (B :: r) ++ b := by rw [hc1]; simp
    obtain ⟨F3, hF3, e3⟩ := tokLoop_lines cfg hmn rest hchain (B :: r) (a ++ A ++ ['\n']) b _ h2 (by simp)
      (fun _ => ⟨rest', hrest⟩) hc3
      (by simp [byteLen_append, byteLen, show '\n'.utf8Size = 1 by decide]; omega) hso' hb (noTrailText_snoc _ _ rfl) G
      (by simp only [List.length_cons]; omega)
    simp only [List.length_cons] at hF3
    refine ⟨F3, by omega, ?_⟩
    rw [e1, e2, e3]
    congr 1
    simp only [linesInl, byteLen_append, byteLen, show '\n'.utf8Size = 1 by decide, List.append_assoc,
      List.singleton_append, Nat.add_zero]
    congr 1
    omega

theorem head?_append_of_head? {α : Type} (x : List α) {b b' : List α} (h : b.head? = b'.head?) :
    (x ++ b).head? = (x ++ b').head? := by
  cases x with
  | nil => simpa using h
  | cons d t => rfl

/-- `SoftOk` looks at the first character of what follows only -/
theorem softOk_congr : ∀ (As : List (List Char)) {b b' : List Char}, b.head? = b'.head? → SoftOk As b → SoftOk As b'
  | [], _, _, _, _ => trivial
  | [A], _, _, _, h => h
  | A :: B :: r, b, b', hb, ⟨h1, h2, h3, h4⟩ =>
    ⟨h1, h2, by rw [← head?_append_of_head? _ hb]; exact h3, softOk_congr (B :: r) hb h4⟩

theorem softOk_head (Bs : List (List Char)) (b : List Char) (h : SoftOk Bs b) : (docOf Bs).head? ≠ some '`' := by
  have key : ∀ (B t : List Char), PlainTxt B → t.head? ≠ some '`' → (B ++ t).head? ≠ some '`' := by
    intro B t hB ht
    cases B with
    | nil => simpa using ht
    | cons d t' =>
      simp only [List.cons_append, List.head?_cons, ne_eq, Option.some.injEq]
      intro e
      exact hB d (by simp) (e ▸ tick_stop)
  match Bs, h with
  | [], _ => simp [docOf, Lines.joinLines]
  | [B], h =>
    have := key B [] h (by simp)
    simpa [docOf, Lines.joinLines] using this
  | B :: B2 :: r, h =>
    rw [docOf_cons2]
    exact key B _ h.1 (by simp)

theorem length_le_docOf : ∀ (As : List (List Char)), As.length ≤ byteLen (docOf As) + 1
  | [] => by simp
  | [A] => by simp
  | A :: B :: r => by
    have := length_le_docOf (B :: r)
    rw [byteLen_docOf_cons2]
    simp only [List.length_cons] at this ⊢
    omega

/-- **the inline parser on `docOf As ++ `ᵏ⁺¹ R `ᵏ⁺¹ ++ docOf Bs`, any table.**  `As`, `Bs` non-empty lists of plain
    pieces (any of them may be empty) joined by SOFT line breaks (`SoftOk`); `R` non-empty, no backtick at either end,
    no run of `k + 1` backticks (`RawOk`) — line feeds allowed —; the whole text neither starts nor ends with a blank
    (`trimSrc` takes nothing); the chain has the text rule first and reaches the code-span rule through rules other
    than an emphasis rule for the backtick (`c1` quiet at a backtick), the `newline` rule directly behind `text` if
    there is a line feed outside the span; `max_nesting > 0`; the table `m` translating every offset (`tr`).  The
    result: the pieces of `As` as `Text` nodes with a `Softbreak` node per line feed between them, ONE `CodeInline`
    node over the span whose single text child is `spanContent R` — `R` with every line feed turned into ONE space and
    one pair of padding spaces removed (`padded`), nothing else touched —, the pieces of `Bs` likewise; every range is
    `tr` of the inline offsets. -/
theorem parseInline_lines (cfg : Cfg) (hmn : 0 < cfg.maxNesting) (c1 c2 : List RuleId)
    (hchain : cfg.chain = .text :: (c1 ++ .backticks :: c2)) (hq : ∀ r ∈ c1, QuietTick r)
    (As Bs : List (List Char)) (hnl : 2 ≤ As.length ∨ 2 ≤ Bs.length → ∃ c1', c1 = .newline :: c1')
    (R : List Char) (k : Nat) (m : Srcmap) (tr : Nat → Nat)
    (hm : ∀ a, getSourcePosFor m a = .ok (tr a))
    (hAs : As ≠ []) (hBs : Bs ≠ []) (hpre : SoftOk As ['`']) (hpost : SoftOk Bs []) (hR : CodePair.RawOk '`' k R)
    (htrim : trimSrc (docOf As ++ rawSpan k R ++ docOf Bs) = (0, byteLen (docOf As ++ rawSpan k R ++ docOf Bs))) :
    parseInline cfg (docOf As ++ rawSpan k R ++ docOf Bs) m =
      .ok (linesInl tr 0 As ++ [codeNodeR tr (byteLen (docOf As)) k R] ++
        linesInl tr (byteLen (docOf As) + (2 * (k + 1) + byteLen R)) Bs) := by
  obtain ⟨c, hcdef⟩ : ∃ c, c = docOf As ++ rawSpan k R ++ docOf Bs := ⟨_, rfl⟩
  rw [← hcdef] at htrim ⊢
  obtain ⟨st0, hst0⟩ : ∃ s : IState, s = ⟨c, m, 0, byteLen c, 0, 0, [], CodePair.Cache.empty, [], []⟩ := ⟨_, rfl⟩
  have hinit : IState.init c m = st0 := by rw [hst0]; simp [IState.init, htrim]
  have hon0 : OnT st0 c tr := by rw [hst0]; exact ⟨rfl, hm, rfl, rfl⟩
  have hlen : byteLen c = byteLen (docOf As) + (2 * (k + 1) + byteLen R) + byteLen (docOf Bs) := by
    rw [hcdef, byteLen_append, byteLen_append, byteLen_rawSpan]
  have hR1 : 1 ≤ byteLen R := by
    cases hRc : R with
    | nil => exact absurd hRc hR.ne
    | cons d t => have := Char.utf8Size_pos d; simp only [byteLen]; omega
  have hlA := length_le_docOf As
  have hlB := length_le_docOf Bs
  have hfuel : 2 * As.length + 1 + 2 * Bs.length ≤ topFuel cfg c := by
    unfold topFuel
    calc 2 * As.length + 1 + 2 * Bs.length ≤ (byteLen c + 2) * 2 := by omega
      _ ≤ (byteLen c + 2) * (cfg.maxNesting + 2) := Nat.mul_le_mul (Nat.le_refl _) (by omega)
  obtain ⟨r0, hr0⟩ := rawSpan_head k R
  have hnl' : ∀ Ls : List (List Char), (Ls = As ∨ Ls = Bs) → 2 ≤ Ls.length →
      ∃ rest', c1 ++ .backticks :: c2 = .newline :: rest' := by
    intro Ls hLs h2
    obtain ⟨c1', rfl⟩ := hnl (by rcases hLs with rfl | rfl; exact .inl h2; exact .inr h2)
    exact ⟨_, rfl⟩
  obtain ⟨F1, hF1, hA⟩ := tokLoop_lines cfg hmn _ hchain As [] (rawSpan k R ++ docOf Bs) st0 hon0 hAs
    (hnl' As (.inl rfl)) (by rw [hcdef]; simp) (by rw [hst0]; rfl) (softOk_congr As (by rw [hr0]; rfl) hpre)
    (by intro ch hch; rw [hr0] at hch; simp at hch; subst hch; exact tick_stop)
    (by rw [hst0]; exact noTrailText_nil) (topFuel cfg c) (by omega)
  obtain ⟨G, rfl⟩ : ∃ G, F1 = G + 1 := ⟨F1 - 1, by omega⟩
  obtain ⟨c', hB⟩ := tokLoop_raw cfg hmn (.text :: c1) c2 (by rw [hchain]; rfl)
    (fun r hr => by
      rcases List.mem_cons.mp hr with rfl | h
      · exact ⟨(by intro e; cases e), (by intro csw e; cases e)⟩
      · exact hq r h)
    (hon0.upd (st0.children ++ linesInl tr (byteLen ([] : List Char)) As)
      (byteLen ([] : List Char) + byteLen (docOf As)) st0.backticks) (docOf As) R (docOf Bs) k hcdef (by simp [byteLen]) hR
    (softOk_head Bs [] hpost) (by rw [hst0]) G
  have hon2 := (hon0.upd (st0.children ++ linesInl tr (byteLen ([] : List Char)) As ++ [codeNodeR tr (byteLen (docOf As)) k R])
    (byteLen (docOf As) + (2 * (k + 1) + byteLen R)) c')
  obtain ⟨F3, _, hC⟩ := tokLoop_lines cfg hmn _ hchain Bs (docOf As ++ rawSpan k R) [] _ hon2 hBs
    (hnl' Bs (.inr rfl)) (by rw [hcdef]; simp) (by simp [byteLen_append, byteLen_rawSpan]) hpost (by simp)
    (noTrailText_snoc _ _ rfl) G (by omega)
  unfold parseInline tokenize
  rw [hinit, hon0.posMax, hA]
  simp only [hst0] at hB hC ⊢
  rw [hB, hC, tokLoop_done _ _ _ (by simp only [hlen, byteLen_append, byteLen_rawSpan]; omega)]
  simp [byteLen, byteLen_append, byteLen_rawSpan]

theorem quietTick_newline {c1 : List RuleId} (hq : ∀ r ∈ c1, QuietTick r) : ∀ r ∈ RuleId.newline :: c1, QuietTick r := by
  intro r hr
  rcases List.mem_cons.mp hr with rfl | h
  · exact ⟨(by intro e; cases e), (by intro csw e; cases e)⟩
  · exact hq r h

/-- `newline` second in the chain: any number of pieces on either side -/
theorem parseInline_mid (cfg : Cfg) (hmn : 0 < cfg.maxNesting) (c1 c2 : List RuleId)
    (hchain : cfg.chain = .text :: .newline :: (c1 ++ .backticks :: c2)) (hq : ∀ r ∈ c1, QuietTick r)
    (As Bs : List (List Char)) (R : List Char) (k : Nat) (m : Srcmap) (tr : Nat → Nat)
    (hm : ∀ a, getSourcePosFor m a = .ok (tr a))
    (hAs : As ≠ []) (hBs : Bs ≠ []) (hpre : SoftOk As ['`']) (hpost : SoftOk Bs []) (hR : CodePair.RawOk '`' k R)
    (htrim : trimSrc (docOf As ++ rawSpan k R ++ docOf Bs) = (0, byteLen (docOf As ++ rawSpan k R ++ docOf Bs))) :
    parseInline cfg (docOf As ++ rawSpan k R ++ docOf Bs) m =
      .ok (linesInl tr 0 As ++ [codeNodeR tr (byteLen (docOf As)) k R] ++
        linesInl tr (byteLen (docOf As) + (2 * (k + 1) + byteLen R)) Bs) :=
  parseInline_lines cfg hmn (.newline :: c1) c2 hchain (quietTick_newline hq) As Bs (fun _ => ⟨c1, rfl⟩) R k m tr hm hAs hBs hpre hpost hR htrim

end MdIt.C11X

namespace MdIt.C11M
open MdIt.Inline
open MdIt.InlineOps (Srcmap getSourcePosFor byteLen)
open MdIt.C11S (PlainTxt QuietTick)

/-- **ONE piece on either side**: `pre`, `post` plain text (either may be empty), no line feed outside the span — the
    chain need not hold the `newline` rule.  The text node of `pre` (if any), the `CodeInline` node, the text node of
    `post` (if any). -/
theorem parseInline_raw (cfg : Cfg) (hmn : 0 < cfg.maxNesting) (c1 c2 : List RuleId)
    (hchain : cfg.chain = .text :: (c1 ++ .backticks :: c2)) (hq : ∀ r ∈ c1, QuietTick r)
    (pre R post : List Char) (k : Nat) (m : Srcmap) (tr : Nat → Nat)
    (hm : ∀ a, getSourcePosFor m a = .ok (tr a))
    (hpre : PlainTxt pre) (hpost : PlainTxt post) (hR : CodePair.RawOk '`' k R)
    (htrim : trimSrc (pre ++ rawSpan k R ++ post) = (0, byteLen (pre ++ rawSpan k R ++ post))) :
    parseInline cfg (pre ++ rawSpan k R ++ post) m =
      .ok (textNodesT tr 0 pre ++ [codeNodeR tr (byteLen pre) k R] ++
        textNodesT tr (byteLen pre + (2 * (k + 1) + byteLen R)) post) := by
  have h := C11X.parseInline_lines cfg hmn c1 c2 hchain hq [pre] [post] (by simp) R k m tr hm (by simp) (by simp)
    hpre hpost hR
  have e : ∀ l : List Char, Block.docOf [l] = l := fun l => by simp [Block.docOf, Lines.joinLines]
  simp only [e] at h
  exact h htrim

end MdIt.C11M

namespace MdIt.C11S
open MdIt.Inline MdIt.C11M
open MdIt.InlineOps (Srcmap getSourcePosFor getMap byteLen slice)
open MdIt.C05 (byteLen_append)

/-- a top-level state over the whole text `c` with the one-entry table -/
structure On (st : IState) (c : List Char) (x : Nat) : Prop where
  src : st.src = c
  map : st.srcmap = [(0, x)]
  posMax : st.posMax = byteLen c
  level : st.level = 0

theorem On.toT {st : IState} {c : List Char} {x : Nat} (h : On st c x) : OnT st c (fun a => x + a) :=
  ⟨h.src, fun a => by rw [h.map]; exact C05I.single_translate x a, h.posMax, h.level⟩

theorem On.window {st : IState} {c : List Char} {x : Nat} (h : On st c x) (a b : List Char) (hc : c = a ++ b)
    (hp : st.pos = byteLen a) : st.window = .ok b :=
  h.toT.window a b hc hp

theorem ruleText_stop {st : IState} {c : List Char} {x : Nat} (h : On st c x) (a b : List Char) (ch : Char)
    (hc : c = a ++ ch :: b) (hp : st.pos = byteLen a) (hs : ch ∈ Entity.textStop) (silent : Bool) :
    ruleText st silent = .ok (none, st) :=
  C11M.ruleText_stop h.toT a b ch hc hp hs silent

/-- the text node for a stretch `mid` at inline offset `p` — none for an empty stretch -/
def textNodes (x p : Nat) (mid : List Char) : List Node :=
  if mid = [] then [] else [Node.newText mid (some (x + p, x + (p + byteLen mid)))]

/-- the node the code-span rule makes: `CodeInline` over the whole span, one text child over the inside -/
def codeNode (x p k : Nat) (T : List Char) : Node :=
  { val := .codeInline '`' (k + 1), range := some (x + p, x + (p + (2 * (k + 1) + 2 + byteLen T))),
    children := [Node.newText (CodePair.normalise T) (some (x + (p + (k + 1) + 1), x + (p + (k + 1) + 1 + byteLen T)))] }

theorem byteLen_padded (T : List Char) : byteLen (' ' :: T ++ [' ']) = byteLen T + 2 := by
  simp only [List.cons_append, byteLen, byteLen_append, show ' '.utf8Size = 1 by decide]
  omega

theorem rawOk_padded {k : Nat} {T : List Char} (hruns : ¬ List.replicate (k + 1) '`' <:+: T) :
    CodePair.RawOk '`' k (' ' :: T ++ [' ']) :=
  ⟨by simp, by simp, by rw [List.getLast?_concat]; simp,
    CodePair.no_early_close (Nat.succ_pos k) (by decide) hruns⟩

theorem codeNodeR_padded (x p k : Nat) {T : List Char} (hT : T ≠ []) :
    codeNodeR (fun a => x + a) p k (' ' :: T ++ [' ']) = codeNode x p k T := by
  obtain ⟨h1, h2⟩ := strip_padded T hT
  have e1 : 2 * (k + 1) + (byteLen T + 2) = 2 * (k + 1) + 2 + byteLen T := by omega
  have e2 : p + (k + 1) + (byteLen T + 2) - 1 = p + (k + 1) + 1 + byteLen T := by omega
  simp only [codeNodeR, codeNode, h1, h2, byteLen_padded, e1, e2]

/-- **the padded form `` `ᵏ⁺¹ ␠ T ␠ `ᵏ⁺¹ ``, a one-entry table**: `T` non-empty and free of runs of `k + 1` backticks.
    ONE `CodeInline` node over the span whose single text child is `T` with line feeds turned into spaces — nothing
    else of `T` is touched — over exactly the bytes of `T`. -/
theorem parseInline_span (cfg : Cfg) (hmn : 0 < cfg.maxNesting) (c1 c2 : List RuleId)
    (hchain : cfg.chain = .text :: (c1 ++ .backticks :: c2)) (hq : ∀ r ∈ c1, QuietTick r)
    (pre T post : List Char) (k x : Nat) (hpre : PlainTxt pre) (hpost : PlainTxt post) (hT : T ≠ [])
    (hruns : ¬ List.replicate (k + 1) '`' <:+: T)
    (htrim : trimSrc (pre ++ spanOf k T ++ post) = (0, byteLen (pre ++ spanOf k T ++ post))) :
    parseInline cfg (pre ++ spanOf k T ++ post) [(0, x)] =
      .ok (textNodes x 0 pre ++ [codeNode x (byteLen pre) k T] ++
        textNodes x (byteLen pre + (2 * (k + 1) + 2 + byteLen T)) post) := by
  rw [spanOf_eq_rawSpan] at htrim ⊢
  rw [parseInline_raw cfg hmn c1 c2 hchain hq pre _ post k _ (fun a => x + a) (C05I.single_translate x) hpre hpost
    (rawOk_padded hruns) htrim, codeNodeR_padded x _ k hT, byteLen_padded,
    show 2 * (k + 1) + (byteLen T + 2) = 2 * (k + 1) + 2 + byteLen T by omega]
  rfl

end MdIt.C11S
