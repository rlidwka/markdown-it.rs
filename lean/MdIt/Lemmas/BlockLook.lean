/-
  What a block rule reads in look-ahead mode (`silent = true`, `state.test_rules_at_line()`).

  `LookEq s t`: `t` answers the three questions look-ahead asks about the current line — `line_indent(line)`,
  `get_line(line)`, the list rule's "special case" comparison — as `s` does.  `silent_look`: on such a `t` each of
  the nine rules gives the verdict (or the panic) it gives on `s` and hands `t` back; the list rule provided the two
  current nodes are both lists or both not (a list does not interrupt a paragraph inside a list).  So look-ahead
  reads nothing else of the state: not the tree under construction, not `tight`, the reference map, the level, the
  other rows of the line table, and it uses neither the two call-backs nor the budget.
  `SameLook` adds the list clause; `testRules_same_view`: `test_rules_at_line` answers alike on two such states.
  Users: `Lemmas/C06Nest.lean` (`Sim.sameLook`: the look-ahead inside a container agrees with the look-ahead on
  the un-prefixed document), `Lemmas/C16BlockCongr.lean` (`runRuleH_silent_row`), `Lemmas/BlockTight.lean`
  (`sr_rule`: a rule that fires silently fires on the state with other `children` / `tight` too).
-/
import MdIt.Props.Block

namespace MdIt.Block

/-- `t` answers what look-ahead reads of the current line as `s` does -/
structure LookEq (s t : BState) : Prop where
  indent : t.lineIndent t.line = s.lineIndent s.line
  text : t.getLine t.line = s.getLine s.line
  special : listSpecial t = listSpecial s

theorem LookEq.refl (s : BState) : LookEq s s := ⟨rfl, rfl, rfl⟩

/-! A rule in look-ahead mode is a chain of reads and tests that ends in `pure (verdict, s)`.  Walking down the
    chain with the two lemmas below shows: on a state with the same reads it gives the same verdict (or the same
    panic) and hands back the state it was given. -/

theorem map_bind_congr {ε α β γ : Type} {g : β → γ} {x : Except ε α} {k : α → Except ε β}
    {k' : α → Except ε γ} (h : ∀ a, k' a = Except.map g (k a)) : x >>= k' = Except.map g (x >>= k) := by
  cases x with
  | error e => rfl
  | ok a => exact h a

theorem map_ite_congr {ε β γ : Type} {g : β → γ} {c : Prop} [Decidable c] {a b : Except ε β}
    {a' b' : Except ε γ} (ha : a' = Except.map g a) (hb : b' = Except.map g b) :
    (if c then a' else b') = Except.map g (if c then a else b) := by
  split <;> assumption

section rules
variable {s t : BState} (h : LookEq s t)
include h

theorem look_hr : hrRule t true = Except.map (fun r => (r.1, t)) (hrRule s true) := by
  unfold hrRule
  rw [h.indent, h.text]
  refine map_bind_congr fun ind => map_ite_congr rfl (map_bind_congr fun line => ?_)
  rcases line with _ | ⟨marker, rest⟩
  · rfl
  refine map_ite_congr rfl ?_
  cases hrCount marker rest 1 with
  | none => rfl
  | some cnt => exact map_ite_congr rfl rfl

theorem look_heading : headingRule t true = Except.map (fun r => (r.1, t)) (headingRule s true) := by
  unfold headingRule
  rw [h.indent, h.text]
  refine map_bind_congr fun ind => map_ite_congr rfl (map_bind_congr fun line => map_ite_congr rfl ?_)
  cases atxOpen line 0 <;> rfl

theorem look_fence : fenceRule t true = Except.map (fun r => (r.1, t)) (fenceRule s true) := by
  unfold fenceRule
  rw [h.indent, h.text]
  refine map_bind_congr fun ind => map_ite_congr rfl (map_bind_congr fun line => ?_)
  rcases line with _ | ⟨marker, rest⟩
  · rfl
  exact map_ite_congr rfl (map_ite_congr rfl (map_bind_congr fun params => map_ite_congr rfl rfl))

theorem look_blockquote (tok tok' : Tok) (test test' : Test) (fuel fuel' : Nat) :
    blockquoteRule tok' test' fuel' t true =
      Except.map (fun r => (r.1, t)) (blockquoteRule tok test fuel s true) := by
  unfold blockquoteRule
  rw [h.indent, h.text]
  exact map_bind_congr fun ind => map_ite_congr rfl (map_bind_congr fun line => map_ite_congr rfl rfl)

/-- the list rule also reads whether the current node is a list -/
theorem look_list (hk : isListKind t.nodeKind = isListKind s.nodeKind) (tok tok' : Tok) (test test' : Test)
    (fuel fuel' : Nat) :
    listRule tok' test' fuel' t true = Except.map (fun r => (r.1, t)) (listRule tok test fuel s true) := by
  unfold listRule
  rw [h.indent, h.text, h.special, hk]
  refine map_ite_congr rfl (map_bind_congr fun ind => map_ite_congr rfl (map_bind_congr fun special =>
    map_ite_congr rfl (map_bind_congr fun cur => map_bind_congr fun detected => ?_)))
  rcases detected with _ | ⟨pos, mv⟩
  · rfl
  exact map_ite_congr rfl (map_bind_congr fun emptyItem => map_ite_congr rfl rfl)

/-- **what look-ahead reads**: the nine rules; the configurations, call-backs and budgets of the two calls may
    differ -/
theorem silent_look (cfg cfg' : Cfg) (tok tok' : Tok) (test test' : Test) (fuel fuel' : Nat) (r : RuleId)
    (hk : r = .list → isListKind t.nodeKind = isListKind s.nodeKind) :
    runRule cfg' tok' test' fuel' r t true = Except.map (fun x => (x.1, t)) (runRule cfg tok test fuel r s true) := by
  cases r with
  | code => rfl
  | fence => exact look_fence h
  | blockquote => exact look_blockquote h ..
  | hr => exact look_hr h
  | list => exact look_list h (hk rfl) ..
  | reference => rfl
  | heading => exact look_heading h
  | lheading => rfl
  | paragraph => rfl
end rules

/-! ## the look-ahead reads the view of the current line only

  In silent mode the verdict of every rule is a function of `(line_indent(line), get_line(line))` —
  the `blk_indent`-relative view of the current line — and, for the list rule, of two more facts
  about the state (whether the current node is a list, and the raw `indent_nonspace` / `list_indent` /
  `blk_indent` comparison of the "special case"): `silent_look`.  Two states that
  agree on these answer alike (`testRules_same_view`): this is what makes the look-ahead inside a block quote
  or a list item agree with the look-ahead on the un-prefixed document. -/

/-- the two states agree on everything the look-ahead reads: `LookEq` (`SameLook.lookEq`) and whether the current
    node is a list -/
structure SameLook (s s' : BState) : Prop where
  indent : s'.lineIndent s'.line = s.lineIndent s.line
  text : s'.getLine s'.line = s.getLine s.line
  isList : isListKind s'.nodeKind = isListKind s.nodeKind
  special : listSpecial s' = listSpecial s

/-- verdict of a result -/
abbrev verdict (r : Res) : Except Panic Bool := Except.map Prod.fst r

theorem SameLook.lookEq {s s' : BState} (h : SameLook s s') : LookEq s s' := ⟨h.indent, h.text, h.special⟩

theorem silent_same_view_rule {cfg cfg' : Cfg} {tok tok' : Tok} {test test' : Test} {fuel fuel' : Nat}
    {s s' : BState} (h : SameLook s s') (r : RuleId) :
    verdict (runRule cfg' tok' test' fuel' r s' true) = verdict (runRule cfg tok test fuel r s true) := by
  rw [silent_look h.lookEq cfg cfg' tok tok' test test' fuel fuel' r fun _ => h.isList]
  cases runRule cfg tok test fuel r s true <;> rfl

theorem runChain_same_view {run run' : RuleId → BState → Bool → Res}
    (hpure : ∀ r s b s', run r s true = .ok (b, s') → s' = s)
    (hpure' : ∀ r s b s', run' r s true = .ok (b, s') → s' = s) {s s' : BState}
    (hrun : ∀ r, verdict (run' r s' true) = verdict (run r s true)) :
    ∀ chain : List RuleId, verdict (runChain run' chain s' true) = verdict (runChain run chain s true) := by
  intro chain
  induction chain with
  | nil => rfl
  | cons r rs ih =>
    simp only [runChain]
    have := hrun r
    cases h1 : run r s true with
    | error e =>
      rw [h1] at this
      cases h2 : run' r s' true with
      | error e' => rw [h2] at this; simp [verdict, Except.map] at this ⊢; exact this
      | ok v => rw [h2] at this; simp [verdict, Except.map] at this
    | ok v =>
      obtain ⟨b, s1⟩ := v
      have e1 := hpure _ _ _ _ h1
      subst e1
      rw [h1] at this
      cases h2 : run' r s' true with
      | error e' => rw [h2] at this; simp [verdict, Except.map] at this
      | ok v' =>
        obtain ⟨b', s1'⟩ := v'
        have e2 := hpure' _ _ _ _ h2
        subst e2
        rw [h2] at this
        simp [verdict, Except.map] at this
        subst this
        cases b' with
        | true => rfl
        | false => exact ih

/-- **`testRules_same_view`**: the look-ahead (`test_rules_at_line`, over the same chain; the other
    parameters may differ) answers alike on two states that
    show the same view of the current line — e.g. a line of `D` in a fresh state and the same line
    behind `"> "` inside the block quote (`quote_view`), or indented under a list item (`item_view`). -/
theorem testRules_same_view (cfg cfg' : Cfg) (hchain : cfg'.chain = cfg.chain) (fuel : Nat) {s s' : BState}
    (h : SameLook s s') : verdict (testRules cfg' fuel s') = verdict (testRules cfg fuel s) := by
  cases fuel with
  | zero => rfl
  | succ f =>
    simp only [testRules, engine, hchain]
    exact runChain_same_view (fun r s b s' h => silent_pure_rule h) (fun r s b s' h => silent_pure_rule h)
      (fun r => silent_same_view_rule h r) _

end MdIt.Block
