/-
  ONE tokenizer engine beside the copies of `InlineParser::tokenize` / `skip_token`.

  `tokLoop`/`skipToken` (`Model/Inline.lean`), `tokLoopH`/`skipTokenH` (`Model/InlineH.lean`: the html rule in
  the chain), `tokLoopG`/`skipTokenG` (`Lemmas/InlineTotalDef.lean`: a guard on memo hits),
  `tokLoopHG`/`skipTokenHG` (`Lemmas/InlineHTotal.lean`: both) and `tokLoopE`/`skipTokenE`
  (`Lemmas/MemoSafeEntry.lean`: an entry test at the nested `tokenize`) are the SAME mutual recursion over
  `tokStepG` / `skipStepG` (`Model/InlineH.lean`) with three parameters: the rule runner, the guard flag, a
  wrapper of the nested `tokenize`.  `Eng.tokLoop` / `Eng.skipToken` is that recursion.

    * `Eng.unique`  — a pair of functions that satisfies its four equations IS the engine: each copy is
                      identified by unfolding it once (`engM`, `engH` here; `engG`, `engHG`, `engE` where
                      the copies are defined);
    * `Eng.induct`  — the one induction on fuel: a relation between a call and what it may return, one
                      obligation per way a call can end, errors included;
    * `Eng.tokLoop_rel` — its instance for successful runs of `tokenize`: a reflexive, transitive relation
                      that one iteration keeps;
    * `Eng.map`     — two engines whose chains and runners correspond along a map of rule ids are equal
                      (conservativity of the html chain).

  What is proved of every copy by `Eng.induct`: `Eng.skipToken_calm` (`Lemmas/InlineCalm.lean`),
  `Eng.contracts` (`InlineFuel.lean`), `Eng.agree` (`InlineTotalMono.lean`), `Eng.skipToken_T` /
  `Eng.tokLoop_T` (`InlineTotalLoop.lean`); by `Eng.tokLoop_rel`: `Eng.tokLoop_kept`
  (`Lemmas/InlineWalk.lean`), `Eng.ranges` (`InlineRanges6.lean`), and at the model's engine
  `Inline.tokLoop_rel` (`Lemmas/InlineTri.lean`).

  In front: the chain loop over an arbitrary id type (`firstRuleG_induct`, `firstRuleG_map`) and the
  model's `firstRule` / `tokStep` / `skipStep` as its instances at `RuleId`.
-/
import MdIt.Model.InlineH

namespace MdIt.InlineH
open MdIt.Inline

theorem firstRuleG_map {ι κ : Type} (f : κ → ι) (run : ι → IState → RuleRes) :
    ∀ (l : List κ) (st : IState), firstRuleG run (l.map f) st = firstRuleG (fun k => run (f k)) l st := by
  intro l
  induction l with
  | nil => intro st; rfl
  | cons k ks ih =>
    intro st
    simp only [List.map_cons, firstRuleG]
    split <;> simp_all

theorem firstRuleG_eq (run : RuleId → IState → RuleRes) :
    ∀ (l : List RuleId) (st : IState), firstRuleG run l st = firstRule run l st := by
  intro l
  induction l with
  | nil => intro st; rfl
  | cons k ks ih =>
    intro st
    simp only [firstRuleG, firstRule]
    split <;> simp_all

theorem firstRuleG_congr {ι : Type} {run run' : ι → IState → RuleRes} :
    ∀ (rules : List ι), (∀ id ∈ rules, ∀ s, run id s = run' id s) →
      ∀ st, firstRuleG run rules st = firstRuleG run' rules st := by
  intro rules
  induction rules with
  | nil => intro _ st; rfl
  | cons r rs ih =>
    intro h st
    simp only [firstRuleG]
    rw [h r List.mem_cons_self st]
    split
    · rfl
    · rfl
    · exact ih (fun id hid s => h id (List.mem_cons_of_mem _ hid) s) _

/-- **the chain loop, once**: a contract `Post` that every member meets under `Pre`, that holds of
    declining on the spot, and that a declining member passes on (it re-establishes `Pre` and its
    `Post` composes with the `Post` of what follows), holds of the chain -/
theorem firstRuleG_induct {ι : Type} {run : ι → IState → RuleRes} {Pre : IState → Prop}
    {Post : IState → RuleRes → Prop}
    (hnil : ∀ s, Pre s → Post s (.ok (none, s)))
    (hseq : ∀ s s1 r, Pre s → Post s (.ok (none, s1)) → Pre s1 ∧ (Post s1 r → Post s r)) :
    ∀ (rules : List ι), (∀ id, id ∈ rules → ∀ s, Pre s → Post s (run id s)) →
      ∀ st, Pre st → Post st (firstRuleG run rules st)
  | [], _, st, hp => hnil st hp
  | r :: rs, hrun, st, hp => by
    have h1 := hrun r List.mem_cons_self st hp
    have ih := firstRuleG_induct hnil hseq rs (fun id hid => hrun id (List.mem_cons_of_mem _ hid))
    unfold firstRuleG
    cases hr : run r st with
    | error e => rw [hr] at h1; exact h1
    | ok p =>
      obtain ⟨o, st1⟩ := p
      rw [hr] at h1
      cases o with
      | some n => exact h1
      | none =>
        obtain ⟨hp1, hpost⟩ := hseq st st1 _ hp h1
        exact hpost (ih st1 hp1)

end MdIt.InlineH

namespace MdIt.Inline
open MdIt.InlineH (tokStepG skipStepG firstRuleG firstRuleG_eq firstRuleG_map firstRuleG_congr RuleIdH
  runRuleH tokLoopH skipTokenH)

theorem tokStep_eq_G (cfg : Cfg) (skip tok : IState → Except Panic IState) (fuel : Nat) (st : IState) :
    tokStep cfg skip tok fuel st = tokStepG cfg.maxNesting cfg.chain (runRule cfg skip tok fuel) st := by
  unfold tokStep tokStepG; rw [firstRuleG_eq]; rfl

theorem skipStep_eq_G (cfg : Cfg) (skip tok : IState → Except Panic IState) (fuel : Nat) (st : IState) :
    skipStep cfg skip tok fuel st = skipStepG cfg.chain (runRule cfg skip tok fuel) st := by
  unfold skipStep skipStepG; rw [firstRuleG_eq]; rfl

/-- what distinguishes the copies of the tokenizer, the guard flag apart -/
structure Eng (ι : Type) where
  maxNesting : Nat
  chain : List ι
  run : (skip tok : IState → Except Panic IState) → Nat → ι → IState → Bool → RuleRes
  /-- what stands between a rule and the nested `tokenize` (nothing, or the entry test) -/
  enter : (IState → Except Panic IState) → IState → Except Panic IState

namespace Eng
variable {ι : Type}

mutual
/-- `g`: a memo hit beyond `pos_max` stops the run -/
def tokLoop (E : Eng ι) (g : Bool) : Nat → Nat → IState → Except Panic IState
  | fuel, end_, st =>
    if st.pos < end_ then
      match fuel with
      | 0 => .error .fuel
      | fuel + 1 =>
        match tokStepG E.maxNesting E.chain
            (E.run (fun s => skipToken E g fuel s) (E.enter fun s => tokLoop E g fuel s.posMax s) fuel)
            st with
        | .error e => .error e
        | .ok st' => tokLoop E g fuel end_ st'
    else .ok st
def skipToken (E : Eng ι) (g : Bool) : Nat → IState → Except Panic IState
  | 0, _ => .error .fuel
  | fuel + 1, st =>
    match st.cache.lookup st.pos with
    | some x => if g = true ∧ st.posMax < x then .error .fuel else .ok { st with pos := x }
    | none =>
      if st.level < E.maxNesting then
        skipStepG E.chain
          (E.run (fun s => skipToken E g fuel s) (E.enter fun s => tokLoop E g fuel s.posMax s) fuel) st
      else .ok { st with pos := st.posMax, cache := cacheInsert st.cache st.pos st.posMax }
end

/-- the rule runner both loops use at a fuel -/
abbrev runAt (E : Eng ι) (g : Bool) (fuel : Nat) : ι → IState → Bool → RuleRes :=
  E.run (fun s => E.skipToken g fuel s) (E.enter fun s => E.tokLoop g fuel s.posMax s) fuel

theorem tokLoop_zero (E : Eng ι) (g : Bool) (e : Nat) (st : IState) :
    E.tokLoop g 0 e st = if st.pos < e then .error .fuel else .ok st := by
  rw [tokLoop]

theorem tokLoop_succ (E : Eng ι) (g : Bool) (f e : Nat) (st : IState) :
    E.tokLoop g (f + 1) e st =
      if st.pos < e then
        match tokStepG E.maxNesting E.chain (E.runAt g f) st with
        | .error e => .error e
        | .ok st' => E.tokLoop g f e st'
      else .ok st := by
  rw [tokLoop]

theorem skipToken_succ (E : Eng ι) (g : Bool) (f : Nat) (st : IState) :
    E.skipToken g (f + 1) st =
      match st.cache.lookup st.pos with
      | some x => if g = true ∧ st.posMax < x then .error .fuel else .ok { st with pos := x }
      | none =>
        if st.level < E.maxNesting then skipStepG E.chain (E.runAt g f) st
        else .ok { st with pos := st.posMax, cache := cacheInsert st.cache st.pos st.posMax } := by
  rw [skipToken]

/-- **the induction on fuel**: `S f st r` — "`skip_token` at fuel `f` from `st` may return `r`", `T f e st r`
    the same for the `tokenize` loop with end `e`; one obligation per way a call can end, errors
    included -/
theorem induct (E : Eng ι) (g : Bool) {S : Nat → IState → Except Panic IState → Prop}
    {T : Nat → Nat → IState → Except Panic IState → Prop}
    (s0 : ∀ st, S 0 st (.error .fuel))
    (shit : ∀ f st x, st.cache.lookup st.pos = some x →
      S (f + 1) st (if g = true ∧ st.posMax < x then .error .fuel else .ok { st with pos := x }))
    (sover : ∀ f st, st.cache.lookup st.pos = none → ¬ st.level < E.maxNesting →
      S (f + 1) st (.ok { st with pos := st.posMax, cache := cacheInsert st.cache st.pos st.posMax }))
    (sstep : ∀ f st, (∀ s, S f s (E.skipToken g f s)) → (∀ e s, T f e s (E.tokLoop g f e s)) →
      st.cache.lookup st.pos = none → st.level < E.maxNesting →
      S (f + 1) st (skipStepG E.chain (E.runAt g f) st))
    (tdone : ∀ f e st, ¬ st.pos < e → T f e st (.ok st))
    (t0 : ∀ e st, st.pos < e → T 0 e st (.error .fuel))
    (tstep : ∀ f e st, (∀ s, S f s (E.skipToken g f s)) → (∀ e s, T f e s (E.tokLoop g f e s)) →
      st.pos < e →
      match tokStepG E.maxNesting E.chain (E.runAt g f) st with
      | .error err => T (f + 1) e st (.error err)
      | .ok st1 => ∀ r, T f e st1 r → T (f + 1) e st r) :
    ∀ f, (∀ st, S f st (E.skipToken g f st)) ∧ (∀ e st, T f e st (E.tokLoop g f e st)) := by
  intro f
  induction f with
  | zero =>
    refine ⟨fun st => s0 st, fun e st => ?_⟩
    rw [tokLoop_zero]
    split
    · next h => exact t0 e st h
    · next h => exact tdone 0 e st h
  | succ f ih =>
    refine ⟨fun st => ?_, fun e st => ?_⟩
    · rw [skipToken_succ]
      split
      · next x hx => exact shit f st x hx
      · next hx =>
        split
        · next hl => exact sstep f st ih.1 ih.2 hx hl
        · next hl => exact sover f st hx hl
    · rw [tokLoop_succ]
      by_cases hlt : st.pos < e
      · rw [if_pos hlt]
        have := tstep f e st ih.1 ih.2 hlt
        split
        · next err he => rw [he] at this; exact this
        · next st1 he => rw [he] at this; exact this _ (ih.2 e st1)
      · rw [if_neg hlt]; exact tdone (f + 1) e st hlt

/-- **successful runs of `tokenize`**: a relation `R e` between the state a loop with end `e` gets and the
    state it returns, reflexive and transitive, that one iteration keeps (given the statement at the fuel
    of the callees) holds of the loop.  Most instances do not look at `e`; an invariant that the rules keep
    inside the window only takes `R e s s' := e ≤ s.posMax → …` (`Inline.tokLoop_keeps`). -/
theorem tokLoop_rel (E : Eng ι) (g : Bool) {R : Nat → IState → IState → Prop} (refl : ∀ e s, R e s s)
    (trans : ∀ {e a b c}, R e a b → R e b c → R e a c)
    (hstep : ∀ f e st st', (∀ e s s', E.tokLoop g f e s = .ok s' → R e s s') → st.pos < e →
      tokStepG E.maxNesting E.chain (E.runAt g f) st = .ok st' → R e st st') :
    ∀ (fuel e : Nat) (st st' : IState), E.tokLoop g fuel e st = .ok st' → R e st st' := fun fuel e st =>
  (E.induct g (S := fun _ _ _ => True) (T := fun _ e st r => ∀ st', r = .ok st' → R e st st')
    (fun _ => trivial) (fun _ _ _ _ => trivial) (fun _ _ _ _ => trivial) (fun _ _ _ _ _ _ => trivial)
    (fun _ e st _ st' h => by cases h; exact refl e st)
    (fun _ _ _ _ h => nomatch h)
    (fun f e st _ ihT hlt => by
      cases hs : tokStepG E.maxNesting E.chain (E.runAt g f) st with
      | error err => exact fun _ h => nomatch h
      | ok st1 => exact fun r hr st' h => trans (hstep f e st st1 (fun e s => ihT e s) hlt hs) (hr st' h))
    fuel).2 e st

theorem unique (E : Eng ι) (g : Bool) {T : Nat → Nat → IState → Except Panic IState}
    {S : Nat → IState → Except Panic IState}
    (hT0 : ∀ e st, T 0 e st = if st.pos < e then .error .fuel else .ok st)
    (hTs : ∀ f e st, T (f + 1) e st =
      if st.pos < e then
        match tokStepG E.maxNesting E.chain
            (E.run (fun s => S f s) (E.enter fun s => T f s.posMax s) f) st with
        | .error e => .error e
        | .ok st' => T f e st'
      else .ok st)
    (hS0 : ∀ st, S 0 st = .error .fuel)
    (hSs : ∀ f st, S (f + 1) st =
      match st.cache.lookup st.pos with
      | some x => if g = true ∧ st.posMax < x then .error .fuel else .ok { st with pos := x }
      | none =>
        if st.level < E.maxNesting then
          skipStepG E.chain (E.run (fun s => S f s) (E.enter fun s => T f s.posMax s) f) st
        else .ok { st with pos := st.posMax, cache := cacheInsert st.cache st.pos st.posMax }) :
    ∀ f, (∀ e st, T f e st = E.tokLoop g f e st) ∧ (∀ st, S f st = E.skipToken g f st) := by
  intro f
  induction f with
  | zero => exact ⟨fun e st => by rw [hT0, tokLoop_zero], fun st => by rw [hS0, skipToken]⟩
  | succ f ih =>
    have hs : (fun s => S f s) = (fun s => E.skipToken g f s) := funext ih.2
    have ht : (fun s : IState => T f s.posMax s) = (fun s => E.tokLoop g f s.posMax s) :=
      funext fun s => ih.1 _ s
    refine ⟨fun e st => ?_, fun st => ?_⟩
    · rw [hTs, tokLoop_succ, hs, ht]
      by_cases h : st.pos < e
      · rw [if_pos h, if_pos h]
        simp only [runAt]
        split
        · rfl
        · exact ih.1 _ _
      · rw [if_neg h, if_neg h]
    · rw [hSs, skipToken_succ, hs, ht]

theorem tokLoop_indep (E : Eng ι)
    (h : ∀ id ∈ E.chain, ∀ skip tok skip' tok' fuel s b,
      E.run skip tok fuel id s b = E.run skip' tok' fuel id s b) (g g' : Bool) :
    ∀ fuel e st, E.tokLoop g fuel e st = E.tokLoop g' fuel e st := by
  intro fuel
  induction fuel with
  | zero => intro e st; rw [tokLoop_zero, tokLoop_zero]
  | succ f ih =>
    intro e st
    have hstep : tokStepG E.maxNesting E.chain (E.runAt g f) st =
        tokStepG E.maxNesting E.chain (E.runAt g' f) st := by
      unfold tokStepG
      rw [firstRuleG_congr E.chain (fun id hid s => h id hid _ _ _ _ f s false) st]
    rw [tokLoop_succ, tokLoop_succ, hstep]
    split
    · split
      · rfl
      · exact ih _ _
    · rfl

theorem map {κ : Type} (E : Eng ι) (E' : Eng κ) (g : Bool) (f : κ → ι)
    (hmx : E.maxNesting = E'.maxNesting) (hch : E.chain = E'.chain.map f) (hen : E.enter = E'.enter)
    (hrun : ∀ skip tok fuel k, E.run skip tok fuel (f k) = E'.run skip tok fuel k) :
    ∀ fuel, (∀ e st, E.tokLoop g fuel e st = E'.tokLoop g fuel e st) ∧
      (∀ st, E.skipToken g fuel st = E'.skipToken g fuel st) := by
  have hstep : ∀ (run : ι → IState → Bool → RuleRes) (run' : κ → IState → Bool → RuleRes),
      (∀ k, run (f k) = run' k) → ∀ st,
      tokStepG E.maxNesting E.chain run st = tokStepG E'.maxNesting E'.chain run' st ∧
      skipStepG E.chain run st = skipStepG E'.chain run' st := by
    intro run run' h st
    unfold tokStepG skipStepG
    simp only [hmx, hch, firstRuleG_map, h, and_self]
  refine E'.unique g (fun e st => tokLoop_zero E g e st) (fun fuel e st => ?_) (fun st => by rw [skipToken])
    (fun fuel st => ?_)
  · rw [tokLoop_succ, (hstep (E.runAt g fuel) _ (fun k => hrun _ _ fuel k) st).1, hen]
  · rw [skipToken_succ, (hstep (E.runAt g fuel) _ (fun k => hrun _ _ fuel k) st).2, hen, hmx]

end Eng

def Eng.base (cfg : Cfg)
    (enter : (IState → Except Panic IState) → IState → Except Panic IState := id) : Eng RuleId :=
  { maxNesting := cfg.maxNesting, chain := cfg.chain, run := runRule cfg, enter := enter }

def Eng.html (cfg : Cfg) (chain : List RuleIdH) : Eng RuleIdH :=
  { maxNesting := cfg.maxNesting, chain := chain, run := runRuleH cfg, enter := id }

theorem engM (cfg : Cfg) (f : Nat) :
    (∀ e st, tokLoop cfg f e st = (Eng.base cfg).tokLoop false f e st) ∧
    (∀ st, skipToken cfg f st = (Eng.base cfg).skipToken false f st) :=
  (Eng.base cfg).unique false (fun e st => by rw [tokLoop])
    (fun f e st => by rw [tokLoop]; simp only [tokStep_eq_G]; rfl) (fun st => by rw [skipToken])
    (fun f st => by
      rw [skipToken]; simp only [skipStep_eq_G]
      cases st.cache.lookup st.pos with
      | some x => simp
      | none => rfl) f

theorem engH (cfg : Cfg) (chain : List RuleIdH) (f : Nat) :
    (∀ e st, tokLoopH cfg chain f e st = (Eng.html cfg chain).tokLoop false f e st) ∧
    (∀ st, skipTokenH cfg chain f st = (Eng.html cfg chain).skipToken false f st) :=
  (Eng.html cfg chain).unique false (fun e st => by rw [tokLoopH])
    (fun f e st => by rw [tokLoopH]; rfl) (fun st => by rw [skipTokenH])
    (fun f st => by
      rw [skipTokenH]
      cases st.cache.lookup st.pos with
      | some x => simp
      | none => rfl) f

theorem Eng.html_base (cfg : Cfg) (g : Bool) (fuel : Nat) :
    (∀ e st, (Eng.html cfg (cfg.chain.map .base)).tokLoop g fuel e st = (Eng.base cfg).tokLoop g fuel e st) ∧
    (∀ st, (Eng.html cfg (cfg.chain.map .base)).skipToken g fuel st = (Eng.base cfg).skipToken g fuel st) :=
  Eng.map (Eng.html cfg (cfg.chain.map .base)) (Eng.base cfg) g RuleIdH.base rfl rfl rfl
    (fun _ _ _ _ => rfl) fuel

end MdIt.Inline
