/-
  Fuel sufficiency of the block model (`MdIt.Model.Block`): `parseBlocks` never answers
  `.error .fuel`.

  The model's `engine cfg fuel` spends one unit of fuel per nesting level (the nested tokenizer of the
  block-quote rule and of a list item runs at `fuel - 1`) and gives every loop (`tokLoop`, `lazyScan`,
  `bqScan`, `listLoop`) `fuel` iterations.  The measure that is never exceeded:

      need cfg s = (lineMax - line) + min (maxNesting - level) (Phi offs) + 2

  * every loop advances by at least a line per iteration (`Props/Block.lean`: `lazyScan_spec`,
    `bqScan_spec`, `listItem_spec`, `tok_iter`), so `lineMax - line + 1` iterations suffice;
  * a container raises `level` before it calls the nested tokenizer, and the tokenizer runs no rule
    once `level ≥ maxNesting`;
  * a container consumes at least one byte of its first line (the `>` / the list marker): the
    potential `Phi offs = Σ (line_end - first_nonspace)` strictly decreases (`bqScan_phi_first`,
    `itemRewrite_phi`), and `Phi (splitLines src) ≤ |src|` (`phi_split_le`).

  No table invariant is needed: a state on which anything else goes wrong yields another panic class,
  not `.fuel`.  `runRule_nf` takes, rule by rule, the instance `E = (· ≠ .fuel)` of the rule's error
  lemma `<rule>_err` (`BlockTotalErr.lean`), where `PrimIn` is free; what is proved here is that the
  budget of every loop and of every nested call suffices.
-/
import MdIt.Lemmas.BlockTotalEngine
import MdIt.Lemmas.BlockTotalRefRule
import MdIt.Lemmas.BlockTotalQuote
import MdIt.Lemmas.BlockTotalList

namespace MdIt.Block
open MdIt.Lines (LineOffset)

/-! ## 1. silent mode -/

theorem blockquote_silent_nf (tok : Tok) (test : Test) (fuel : Nat) (s : BState) :
    blockquoteRule tok test fuel s true = .error .fuel ↔ False := by
  refine ErrIn.never_fuel ?_
  unfold blockquoteRule
  refine .bind .nf fun _ _ => ?_
  refine .orElse fun _ => ?_
  refine .bind .nf fun _ _ => ?_
  refine .orElse fun _ => ?_
  exact .ite (fun _ => .pure _) fun h => absurd rfl h

theorem list_silent_nf (tok : Tok) (test : Test) (fuel : Nat) (s : BState) :
    listRule tok test fuel s true = .error .fuel ↔ False := by
  refine ErrIn.never_fuel ?_
  unfold listRule
  refine .orElse fun _ => ?_
  refine .bind .nf fun _ _ => ?_
  refine .orElse fun _ => ?_
  refine .bind .nf fun _ _ => ?_
  refine .orElse fun _ => ?_
  refine .bind .nf fun cur _ => ?_
  refine .bind .nf fun det _ => ?_
  rcases det with _ | ⟨pos, mv⟩
  · exact .pure _
  refine .orElse fun _ => ?_
  refine .bind .nf fun _ _ => ?_
  refine .orElse fun _ => ?_
  exact .ite (fun _ => .pure _) fun h => absurd rfl h

/-- no rule of the chain answers `.fuel` in silent mode (the look-ahead neither loops nor nests) -/
theorem runRule_silent_nf (cfg : Cfg) (tok : Tok) (test : Test) (fuel : Nat) (r : RuleId) (s : BState) :
    runRule cfg tok test fuel r s true ≠ .error .fuel := by
  cases r <;> simp only [runRule]
  · exact errIn_ne_fuel.mp (code_err primIn_ne_fuel)
  · exact errIn_ne_fuel.mp (fence_err primIn_ne_fuel)
  · exact (blockquote_silent_nf _ _ _ _).mp
  · exact errIn_ne_fuel.mp (hr_err primIn_ne_fuel)
  · exact (list_silent_nf _ _ _ _).mp
  · simp [silent_false_reference]
  · exact errIn_ne_fuel.mp (heading_err primIn_ne_fuel)
  · simp [silent_false_lheading]
  · simp [silent_false_paragraph]

/-- `test_rules_at_line` at a positive budget never runs out of fuel -/
theorem testRules_nf (cfg : Cfg) (fuel : Nat) (s : BState) : testRules cfg (fuel + 1) s ≠ .error .fuel := by
  simp only [testRules, engine]
  exact errIn_ne_fuel.mp (runChain_eq_G _ _ _ _ ▸ runChainG_err (fun r s s' h => silent_pure_rule h)
    (fun r => errIn_ne_fuel.mpr (runRule_silent_nf cfg _ _ _ r s)) _)

/-! ## 2. the measure `need` and the potential `Phi` (`BlockTotalCore.lean`) -/

/-- what the tokenizer needs to run on `s` without exhausting its fuel -/
def need (cfg : Cfg) (s : BState) : Nat :=
  (s.lineMax - s.line) + min (cfg.maxNesting - s.level) (Phi s.offs) + 2

theorem getLine_nonempty {s : BState} {m : Nat} {c : Char} {rest : List Char} {o : LineOffset}
    (hline : s.getLine m = .ok (c :: rest)) (ho : s.offs[m]? = some o) : o.firstNonspace < o.lineEnd := by
  have := liftL_eq_ok hline
  simp only [Lines.getLine, ho] at this
  obtain ⟨p, q, _, hp, hb⟩ := Lines.slice_eq_ok_iff.mp this
  have := Lines.utf8Size_pos' c
  simp at hb
  omega

/-- the first line of a quote loses its `>`: the potential strictly decreases -/
theorem bqScan_phi_first {test : Test} (ht : TestPure test) {fuel : Nat} {S : BState} {m : Nat}
    {old : List LineOffset} {le : Bool} {n : Nat} {old' : List LineOffset} {S' : BState}
    (h : bqScan test fuel S m old le = .ok (n, old', S')) (hlt : m < S.lineMax)
    {i : Int} (hi : S.lineIndent m = .ok i) (hi0 : 0 ≤ i) {line : List Char}
    (hline : S.getLine m = .ok line) (hhead : line.head? = some '>') :
    Phi S'.offs + 1 ≤ Phi S.offs := by
  obtain ⟨f, rest, o, o', le', S1, -, rfl, ho, hrw, hS1, hrec⟩ := bqScan_head h hlt hi hi0 hline hhead
  have ho := off_ok ho
  obtain ⟨hm, rfl⟩ := setOff_ok hS1
  obtain ⟨h1, h2⟩ := bqRewrite_phi hrw
  have := (bqScan_inv ht _ _ _ _ _ _ _ _ hrec).2
  have := Phi_set_lt ho h1 h2 (getLine_nonempty hline ho)
  simp only at *
  omega

/-- entries that lie one behind the other inside `[lo, B]` have potential at most `B - lo` -/
theorem phi_le_of_sorted : ∀ (offs : List LineOffset) (B lo : Nat), lo ≤ B →
    (∀ o ∈ offs, o.lineStart ≤ o.firstNonspace ∧ o.firstNonspace ≤ o.lineEnd ∧ o.lineEnd ≤ B) →
    offs.Pairwise (fun a b => a.lineEnd < b.lineStart) → (∀ o ∈ offs, lo ≤ o.lineStart) →
    Phi offs + lo ≤ B
  | [], B, lo, hlo, _, _, _ => by simpa [Phi] using hlo
  | o :: r, B, lo, hlo, hord, hpw, hge => by
    obtain ⟨h1, h2, h3⟩ := hord o (by simp)
    have h4 := hge o (by simp)
    rw [List.pairwise_cons] at hpw
    have ih := phi_le_of_sorted r B o.lineEnd h3 (fun x hx => hord x (List.mem_cons_of_mem _ hx)) hpw.2
      (fun x hx => Nat.le_of_lt (hpw.1 x hx))
    simp only [Phi]
    omega

/-- the potential of the table of `BlockState::new` is at most the length of the source -/
theorem phi_split_le (src : List Char) : Phi (Lines.splitLines src) ≤ Lines.byteLen src := by
  have hv := Lines.split_offsets_valid src
  have := phi_le_of_sorted (Lines.splitLines src) (Lines.byteLen src) 0 (Nat.zero_le _) hv.ordered
    (by
      rw [List.pairwise_iff_getElem]
      intro i j hi hj hij
      exact Lines.offsets_increasing hv i j _ _ hij (List.getElem?_eq_getElem hi) (List.getElem?_eq_getElem hj))
    (fun _ _ => Nat.zero_le _)
  omega

/-! ## 3. what the call-backs must satisfy; the budget of a nested tokenizer -/

/-- the look-ahead never runs out of fuel -/
def TestNF (test : Test) : Prop := ∀ s, test s ≠ .error .fuel

/-- the nested tokenizer does not run out of fuel on a state that needs at most `N` -/
def TokNF (cfg : Cfg) (tok : Tok) (N : Nat) : Prop := ∀ s, need cfg s ≤ N → tok s ≠ .error .fuel

theorem TestNF.errIn {test : Test} (htf : TestNF test) (s : BState) : ErrIn (· ≠ .fuel) (test s) :=
  errIn_ne_fuel.mpr (htf s)

/-- the budget of the tokenizer nested in a container of `S` that starts at line `m` fits into `N` -/
def Fits (cfg : Cfg) (N : Nat) (S : BState) (m : Nat) : Prop :=
  ∀ phi, phi + 1 ≤ Phi S.offs → (S.lineMax - m) + min (cfg.maxNesting - (S.level + 1)) phi + 2 ≤ N

theorem Fits.mono {cfg : Cfg} {N : Nat} {S S' : BState} {m m' : Nat} (h : Fits cfg N S m)
    (hf : Frame S S') (hm : m ≤ m') : Fits cfg N S' m' := by
  intro phi hphi
  have := h phi (by rw [← hf.offs]; exact hphi)
  rw [hf.lineMax, hf.level]
  omega

theorem listContinue_pos {test : Test} {ordered : Bool} {mc : Char} {S S' : BState} {n p : Nat}
    (h : listContinue test ordered mc S n = .ok (some p, S')) : 1 ≤ p := by
  rcases listContinue_ok h with ⟨hc, _⟩ | ⟨_, _, _, _, _, _, _, _, _, _, hskip, _, hp, _⟩
  · cases hc
  · cases hp; exact (skip_split hskip).pos

/-! ## 4. the rules, real mode -/

/-- `need` of a state one level below `s` fits into `N` when `need cfg s ≤ N + 1` -/
theorem fits_of_need {cfg : Cfg} {N : Nat} {s : BState} (hn : need cfg s ≤ N + 1)
    (hlv : s.level < cfg.maxNesting) : Fits cfg N s s.line := by
  intro phi hphi
  unfold need at hn
  omega

theorem blockquote_nf {cfg : Cfg} {tok : Tok} {test : Test} {N : Nat} (hk : TokSpec tok) (ht : TestPure test)
    (htf : TestNF test) (hkf : TokNF cfg tok N) {fuel : Nat} {s : BState} {silent : Bool}
    (hl : s.line < s.lineMax) (hf : s.lineMax < s.line + fuel) (hi : IndentOk s)
    (hn : need cfg s ≤ N + 1) (hlv : s.level < cfg.maxNesting) :
    blockquoteRule tok test fuel s silent ≠ .error .fuel := by
  refine errIn_ne_fuel.mp (blockquote_err hk ht primIn_ne_fuel
    (fun _ => bqScan_err ht (fun _ _ _ => htf.errIn _) _ _ _ _ _ primIn_ne_fuel (.inr ⟨Nat.le_of_lt hl, hf⟩))
    fun _ line n old' S' hline hhead hscan => errIn_ne_fuel.mpr (hkf _ ?_))
  obtain ⟨i, hi, hi0⟩ := hi
  obtain ⟨hsb, hmn, hup, _⟩ := bqScan_spec ht _ _ _ _ _ _ _ _ hscan
  have hphi := bqScan_phi_first ht hscan hl hi hi0 hline hhead
  have := hup (Nat.le_of_lt hl)
  have := fits_of_need hn hlv _ hphi
  simp only [need, hsb.level]
  omega

theorem list_nf {cfg : Cfg} {tok : Tok} {test : Test} {N : Nat} (hk : TokSpec tok)
    (ht : TestPure test) (htf : TestNF test) (hkf : TokNF cfg tok N) {fuel : Nat} {s : BState} {silent : Bool}
    (hl : s.line < s.lineMax) (hf : s.lineMax < s.line + fuel)
    (hn : need cfg s ≤ N + 1) (hlv : s.level < cfg.maxNesting) :
    listRule tok test fuel s silent ≠ .error .fuel := by
  refine errIn_ne_fuel.mp (list_err hk ht primIn_ne_fuel fun _ cur pos v ordered mc kind _ hdet =>
    listLoop_err hk ht (J := fun S m pos => 1 ≤ pos ∧ Fits cfg N S m)
      (fun S m pos _ _ hJ _ _ => listItem_err hk primIn_ne_fuel fun o r S2 ho hrw hS2 =>
        errIn_ne_fuel.mpr (hkf _ ?item))
      (fun _ _ _ _ _ _ => listContinue_err ht primIn_ne_fuel fun _ => htf.errIn _)
      (fun _ _ _ _ _ hJ hfr h1 hc => ⟨listContinue_pos hc, hJ.2.mono hfr (Nat.le_of_lt h1)⟩)
      _ _ _ _ _ _ ⟨(detectMarker_split hdet).pos, ?fits⟩ rfl hl (.inr hf))
  case item =>
    -- the nested tokenizer of an item: the marker is gone from the first line
    obtain ⟨hm, rfl⟩ := setOff_ok hS2
    obtain ⟨h1, h2, h3⟩ := itemRewrite_phi (o' := r.1) (indent := r.2.1) (re := r.2.2) hrw hJ.1
    have := hJ.2 _ (Phi_set_lt (off_ok ho) h1 h2 h3)
    simp only [need]
    omega
  case fits =>
    intro phi hphi
    have := fits_of_need hn hlv phi hphi
    simp only at hphi ⊢
    omega

/-- a rule of the chain as the tokenizer calls it -/
theorem runRule_nf {cfg : Cfg} {tok : Tok} {test : Test} {N : Nat} (hk : TokSpec tok) (ht : TestPure test)
    (htf : TestNF test) (hkf : TokNF cfg tok N) {fuel : Nat} (r : RuleId) {s : BState} {silent : Bool}
    (hl : s.line < s.lineMax) (hf : s.lineMax < s.line + fuel) (hi : IndentOk s)
    (hn : need cfg s ≤ N + 1) (hlv : s.level < cfg.maxNesting) :
    runRule cfg tok test fuel r s silent ≠ .error .fuel := by
  have hscan : ∀ setext, ErrIn (· ≠ .fuel) (lazyScan test setext fuel s s.line) := fun _ =>
    lazyScan_err ht _ primIn_ne_fuel (fun _ _ => htf.errIn _) _ _ (.inr ⟨hl, Nat.le_of_lt hf⟩)
  cases r <;> simp only [runRule]
  · exact errIn_ne_fuel.mp (code_err primIn_ne_fuel)
  · exact errIn_ne_fuel.mp (fence_err primIn_ne_fuel)
  · exact blockquote_nf hk ht htf hkf hl hf hi hn hlv
  · exact errIn_ne_fuel.mp (hr_err primIn_ne_fuel)
  · exact list_nf hk ht htf hkf hl hf hn hlv
  · exact errIn_ne_fuel.mp (reference_err ht primIn_ne_fuel (hscan _))
  · exact errIn_ne_fuel.mp (heading_err primIn_ne_fuel)
  · exact errIn_ne_fuel.mp (lheading_err ht primIn_ne_fuel (hscan _))
  · exact errIn_ne_fuel.mp (paragraph_err ht primIn_ne_fuel (hscan _))

/-! ## 5. the tokenizer -/

theorem need_mono {cfg : Cfg} {s s' : BState} (hf : Frame s s') (hl : s.line ≤ s'.line) :
    need cfg s' ≤ need cfg s := by
  unfold need
  rw [hf.lineMax, hf.level, hf.offs]
  omega

/-- the rules, as `tokLoop` needs them: no `.fuel` on a state within the budget -/
def RunNF (cfg : Cfg) (run : RuleId → BState → Bool → Res) (N F : Nat) : Prop :=
  ∀ r s, s.line < s.lineMax → s.lineMax < s.line + F → IndentOk s → need cfg s ≤ N + 1 →
    s.level < cfg.maxNesting → run r s false ≠ .error .fuel

theorem tokLoop_nf {cfg : Cfg} {run : RuleId → BState → Bool → Res} {N F : Nat} (hr : RunSpec run)
    (hrun : RunNF cfg run N F) :
    ∀ (k : Nat) (he : Bool) (s : BState), s.lineMax - s.line < k → s.lineMax - s.line < F →
      need cfg s ≤ N + 1 → tokLoop cfg run k he s ≠ .error .fuel := by
  intro k he s hk hF hn
  refine errIn_ne_fuel.mp (tokLoop_err hr (J := fun s => s.lineMax - s.line < F ∧ need cfg s ≤ N + 1)
    (fun s s' hJ hf hl => ⟨?_, Nat.le_trans (need_mono hf hl) hJ.2⟩) (fun _ _ => primIn_ne_fuel)
    (fun r s hJ hl hi hlv => errIn_ne_fuel.mpr (hrun r s hl (by omega) hi hJ.2 hlv)) k he s ⟨hF, hn⟩ (.inr hk))
  rw [hf.lineMax]
  omega

/-- **fuel sufficiency of the tokenizer**: on a state that needs at most `f`, `tokenize cfg f` does
    not run out of fuel -/
theorem tokenize_nf (cfg : Cfg) : ∀ (f : Nat), TokNF cfg (tokenize cfg f) f := by
  intro f
  induction f with
  | zero => intro s hn; unfold need at hn; omega
  | succ f ih =>
    intro s hn
    rw [tokenize_succ]
    have hf : 1 ≤ f := by unfold need at hn; omega
    obtain ⟨g, rfl⟩ : ∃ g, f = g + 1 := ⟨f - 1, by omega⟩
    refine tokLoop_nf (N := g + 1) (F := g + 1 + 1)
      (runRule_spec (tokenize_tokSpec cfg (g + 1)) (testRules_pure cfg (g + 1)) _) ?_ _ _ _ ?_ ?_ hn
    · intro r s' hl hF hi hn' hlv
      exact runRule_nf (tokenize_tokSpec cfg (g + 1)) (testRules_pure cfg (g + 1))
        (fun s => testRules_nf cfg g s) ih r hl hF hi hn' hlv
    · unfold need at hn; omega
    · unfold need at hn; omega

theorem need_fresh (cfg : Cfg) (src : List Char) (k : Kind) (refs : Refs.RefMap) :
    need cfg (BState.fresh src k refs) ≤ fuelFor cfg src := by
  have := phi_split_le src
  simp only [need, BState.fresh, fuelFor]
  omega

/-- **`parseBlocks` never runs out of fuel** (for every configuration and every source) -/
theorem parseBlocks_fuel (cfg : Cfg) (src : List Char) : parseBlocks cfg src ≠ .error .fuel :=
  fun h => tokenize_nf cfg _ _ (need_fresh cfg src .root []) (parseBlocks_err h)

end MdIt.Block
