/-
  The block-quote rule (`Model/Block.lean` §blockquote.rs): where its errors come from
  (`blockquote_err`) and, under the invariant `BInv` (`BlockTotalCore.lean`), that it fails at most with
  `.fuel` (`blockquote_np`).  The scan rewrites the table, so the invariant travels with it
  (`bqScan_err` takes `PrimIn E (BInv S)` per state; `bqScan_inv`: the state it returns satisfies `BInv`
  again, at no higher potential `Phi`).

  `IndentOk` (real mode only) is necessary: see the last two examples.
-/
import MdIt.Lemmas.BlockTotalCore

namespace MdIt.Block
open MdIt.Lines (LineOffset)

/-! ## the rewriting of one entry -/

theorem byteLen_gt : Lines.byteLen ['>'] = 1 := by decide

/-- `indent_after_marker -= 1` cannot underflow: a blank behind the `>` has a positive width -/
theorem bqOptSpace_total {run rest : List Char} (hrest : ∀ c r, rest = c :: r → ¬ (c = ' ' ∨ c = '\t'))
    {w : Nat} (hw : run ≠ [] → 1 ≤ w) : ∃ k, bqOptSpace (run ++ rest) w = .ok k := by
  unfold bqOptSpace
  split
  · rename_i d t hd
    split
    · rename_i hbl
      refine psub_total (hw ?_)
      rintro rfl
      simp only [List.nil_append] at hd
      refine hrest d t hd ?_
      simpa [isBlank] using hbl
    · exact ⟨_, rfl⟩
  · exact ⟨_, rfl⟩

/-- The value of `bqRewrite` on an entry whose text is `'>' :: rest`: the new `first_nonspace` is behind
    the maximal blank run that follows the marker. -/
theorem bqRewrite_val {src : List Char} {o : LineOffset} (hl : LineOk src o) {rest : List Char}
    (hb : Lines.slice src o.firstNonspace o.lineEnd = .ok ('>' :: rest)) :
    ∃ (a run : List Char) (k : Nat) (le : Bool), Lines.AllBlank run ∧
      Lines.slice src o.lineStart o.firstNonspace = .ok a ∧
      Lines.slice src o.lineStart (o.lineStart + (Lines.byteLen a + 1 + run.length)) = .ok (a ++ ['>'] ++ run) ∧
      bqRewrite src o rest =
        .ok ({ o with indentNonspace := (k : Int),
                      firstNonspace := Lines.byteLen a + 1 + run.length + o.lineStart }, le) := by
  obtain ⟨a, run, rest2, rfl, hrun, hrest, h1, h3, h4, h5, hfi, hsl⟩ :=
    rewrite_shape (mid := ['>']) hl hb
  rw [byteLen_gt] at hfi hsl
  have hrel : psub (o.firstNonspace + 1) o.lineStart = .ok (Lines.byteLen a + 1) := by
    unfold psub; rw [if_pos (by omega)]; congr 1; omega
  have hlen : psub o.lineEnd o.lineStart = .ok (Lines.byteLen (a ++ ['>'] ++ run ++ rest2)) := by
    unfold psub; rw [if_pos (by omega)]; congr 1; omega
  obtain ⟨k, hk⟩ := bqOptSpace_total (run := run) hrest
    (w := Lines.indentWidth (a ++ ['>'] ++ run) - Lines.indentWidth (a ++ ['>']))
    (fun hne => by have := indentWidth_run_pos (a ++ ['>']) run hne; omega)
  refine ⟨a, run, k, Lines.byteLen a + 1 + run.length == Lines.byteLen (a ++ ['>'] ++ run ++ rest2),
    hrun, h3, hsl, ?_⟩
  simp only [bqRewrite, h1, hrel, hfi, hlen, hk, liftL, ok_bind]
  rfl

theorem bqRewrite_total {src : List Char} {o : LineOffset} (hl : LineOk src o) {rest : List Char}
    (hb : Lines.slice src o.firstNonspace o.lineEnd = .ok ('>' :: rest)) :
    ∃ r, bqRewrite src o rest = .ok r := by
  obtain ⟨a, run, k, le, _, _, _, h⟩ := bqRewrite_val hl hb
  exact ⟨_, h⟩

/-- what `BInv.setOff` needs of the rewritten entry -/
theorem bqRewrite_keeps {src : List Char} {o o' : LineOffset} {rest : List Char} {le : Bool}
    (hl : LineOk src o) (ha : WsAscii src o)
    (hb : Lines.slice src o.firstNonspace o.lineEnd = .ok ('>' :: rest))
    (h : bqRewrite src o rest = .ok (o', le)) :
    LineOk src o' ∧ o'.lineEnd = o.lineEnd ∧ WsAscii src o' := by
  refine ⟨(bqRewrite_spec h).1 hl, (bqRewrite_phi h).1, ?_⟩
  obtain ⟨a, run, k, le', hrun, h3, hsl, hv⟩ := bqRewrite_val hl hb
  rw [hv] at h
  simp only [Except.ok.injEq, Prod.mk.injEq] at h
  rw [← h.1]
  exact wsAscii_rewrite ha h3 (mid := ['>']) (by intro c hc; simp at hc; subst hc; decide) hrun hsl _


/-! ## the scan -/

/-- the `>` arm keeps the invariant -/
theorem bq_rewrite_step {S S1 : BState} {m : Nat} {o : LineOffset} {rest : List Char}
    {r : LineOffset × Bool} (hI : BInv S) (ho : S.off m = .ok o)
    (hline : S.getLine m = .ok ('>' :: rest)) (hr : bqRewrite S.src o rest = .ok r)
    (hs : S.setOff m r.1 = .ok S1) : BInv S1 := by
  have ho' := off_ok ho
  obtain ⟨h1, h2, h3⟩ := bqRewrite_keeps (hI.table _ _ ho') (hI.ascii _ _ ho') (getLine_eq ho' hline)
    (o' := r.1) (le := r.2) hr
  exact hI.setOff hs ho' h1 h2 h3

/-- the two `indent_nonspace`-only assignments keep the invariant -/
theorem bq_indent_step {S S1 : BState} {m : Nat} {o : LineOffset} (x : Int) (hI : BInv S)
    (ho : S.off m = .ok o) (hs : S.setOff m { o with indentNonspace := x } = .ok S1) : BInv S1 :=
  hI.setOff hs (off_ok ho) ((hI.table _ _ (off_ok ho)).indent x) rfl ((hI.ascii _ _ (off_ok ho)).indent x)

/-- The scan fails with a statement of its own, with the look-ahead (`hT`), or by running out of fuel
    (`hF`).  The invariant travels as `PrimIn E (BInv S)` because the scan rewrites the table. -/
theorem bqScan_err {E : Panic → Prop} {test : Test} (ht : TestPure test)
    (hT : ∀ S, PrimIn E (BInv S) → S.line < S.lineMax → ErrIn E (test S)) :
    ∀ (fuel : Nat) (S : BState) (m : Nat) (old : List LineOffset) (le : Bool), PrimIn E (BInv S) →
      E .fuel ∨ (m ≤ S.lineMax ∧ S.lineMax < m + fuel) → ErrIn E (bqScan test fuel S m old le) := by
  intro fuel
  induction fuel with
  | zero =>
    intro S m old le _ hF
    exact .lit (hF.elim id fun hb => by omega)
  | succ f ih =>
    intro S m old le hP hF
    unfold bqScan
    refine .ite (fun _ => .ok _) fun hlt => ?_
    have hlt : m < S.lineMax := Decidable.not_not.mp hlt
    have hm : BInv S → m < S.offs.length := fun hI => Nat.lt_of_lt_of_le hlt hI.lineMax
    have hF' : E .fuel ∨ (m + 1 ≤ S.lineMax ∧ S.lineMax < m + 1 + f) := hF.imp id fun _ => by omega
    refine .bind (hP.prim fun hI => lineIndent_total (hm hI)) fun ind _ => ?_
    refine .bind (hP.prim fun hI => getLine_total hI.table (hm hI)) fun line hline => ?_
    rcases line with _ | ⟨c, rest⟩
    · exact .ok _
    refine .ite (fun hc => ?_) fun _ => ?_
    · -- the `>` arm: the entry is saved, rewritten, and the scan goes on
      obtain ⟨rfl, -⟩ := hc
      refine .bind (hP.prim fun hI => off_total (hm hI)) fun o ho => ?_
      refine .bind (hP.prim fun hI => bqRewrite_total (hI.table _ _ (off_ok ho))
        (getLine_eq (off_ok ho) hline)) fun r hr => ?_
      refine .bind (hP.prim fun hI => setOff_total (hm hI)) fun S1 hs => ?_
      refine ih _ _ _ _ (hP.mono fun hI => bq_rewrite_step hI ho hline hr hs) ?_
      rw [congrArg BState.lineMax (setOff_ok hs).2]
      exact hF'
    refine .ite (fun _ => .ok _) fun _ => ?_
    refine .bind (hT _ (hP.mono fun hI => hI.line m) hlt) fun ⟨b, S1⟩ htest => ?_
    -- the look-ahead hands the state back
    cases (ht _ _ htest : S1 = { S with line := m })
    refine .ite (fun _ => ?_) fun _ => ?_
    · refine .ite (fun _ => ?_) fun _ => .ok _
      refine .bind (hP.prim fun hI => off_total (hm hI)) fun o _ => ?_
      refine .bind (hP.prim fun hI => setOff_total (hm hI)) fun _ _ => ?_
      exact .ok _
    · refine .bind (hP.prim fun hI => off_total (hm hI)) fun o ho => ?_
      refine .bind (hP.prim fun hI => setOff_total (hm hI)) fun S2 hs => ?_
      refine ih _ _ _ _ (hP.mono fun hI => bq_indent_step (-1) (hI.line m) ho hs) ?_
      rw [congrArg BState.lineMax (setOff_ok hs).2]
      exact hF'

/-- what the scan does to the table: the invariant survives, the potential does not rise -/
theorem bqScan_inv {test : Test} (ht : TestPure test) :
    ∀ (fuel : Nat) (S : BState) (m : Nat) (old : List LineOffset) (le : Bool)
      (n : Nat) (old' : List LineOffset) (S' : BState),
      bqScan test fuel S m old le = .ok (n, old', S') → (BInv S → BInv S') ∧ Phi S'.offs ≤ Phi S.offs := by
  intro fuel
  induction fuel with
  | zero => intro S m old le n old' S' h; simp [bqScan] at h
  | succ f ih =>
    intro S m old le n old' S' h
    obtain ⟨-, -, -, rfl⟩ | ⟨ind, line, -, -, hline, hc⟩ := bqScan_ok h
    · exact ⟨id, Nat.le_refl _⟩
    rcases hc with ⟨-, -, -, rfl⟩ | ⟨c, rest, rfl, ⟨rfl, -, o, o', le', S1, ho, hr, hs, hrec⟩ |
      ⟨-, ⟨-, -, -, rfl⟩ | ⟨t, S1, -, htest, hc⟩⟩⟩
    · exact ⟨id, Nat.le_refl _⟩
    · -- the `>` arm: `first_nonspace` moves forward
      obtain ⟨ih1, ih2⟩ := ih _ _ _ _ _ _ _ hrec
      refine ⟨fun hI => ih1 (bq_rewrite_step hI ho hline (r := (o', le')) hr hs), ?_⟩
      obtain ⟨_, rfl⟩ := setOff_ok hs
      obtain ⟨h1, h2⟩ := bqRewrite_phi hr
      have := Phi_set_le (off_ok ho) h1 h2
      exact Nat.le_trans ih2 this
    · exact ⟨id, Nat.le_refl _⟩
    · -- behind the look-ahead only `indent_nonspace` is rewritten
      cases (ht _ _ htest : S1 = { S with line := m })
      rcases hc with ⟨-, -, -, -, rfl⟩ | ⟨-, -, o, ho, hs, -, -⟩ | ⟨-, o, S2, ho, hs, hrec⟩
      · exact ⟨fun hI => hI.line _, Nat.le_refl _⟩
      · refine ⟨fun hI => bq_indent_step _ (hI.line _) ho hs, ?_⟩
        obtain ⟨_, rfl⟩ := setOff_ok hs
        exact Nat.le_of_eq (Phi_set_indent (off_ok ho) _)
      · obtain ⟨ih1, ih2⟩ := ih _ _ _ _ _ _ _ hrec
        refine ⟨fun hI => ih1 (bq_indent_step (-1) (hI.line m) ho hs), ?_⟩
        obtain ⟨_, rfl⟩ := setOff_ok hs
        exact Nat.le_trans ih2 (Nat.le_of_eq (Phi_set_indent (off_ok ho) (-1)))


/-! ## the rule -/

/-- what the rule needs of the result of its scan -/
theorem bq_scan_facts {test : Test} (ht : TestPure test) {fuel : Nat} {s S : BState} {n : Nat}
    {old : List LineOffset} (hI : BInv s) (hl : s.line < s.lineMax)
    (hscan : bqScan test fuel s s.line [] false = .ok (n, old, S)) :
    BInv S ∧ s.line ≤ n ∧ n ≤ s.lineMax ∧ S.lineMax = s.lineMax ∧
      S.offs.length = s.offs.length ∧ restoreOffs S.offs s.line old = .ok s.offs := by
  obtain ⟨hsb, hmn, hup, _, _, add, hadd, hrest⟩ := bqScan_spec ht _ _ _ _ _ _ _ _ hscan
  simp only [List.nil_append] at hadd
  subst hadd
  exact ⟨(bqScan_inv ht _ _ _ _ _ _ _ _ hscan).1 hI, hmn, hup (Nat.le_of_lt hl), hsb.lineMax, hsb.len, hrest⟩

/-- … and of the state the nested tokenizer hands back -/
theorem bq_tok_facts {tok : Tok} {test : Test} (hk : TokSpec tok) (ht : TestPure test) {fuel : Nat}
    {s S s2 : BState} {n : Nat} {old : List LineOffset} (hI : BInv s) (hl : s.line < s.lineMax)
    (hi : IndentOk s) {line : List Char} (hline : s.getLine s.line = .ok line)
    (hhead : line.head? = some '>') (hscan : bqScan test fuel s s.line [] false = .ok (n, old, S))
    (htok : tok { S with blkIndent := 0, nodeKind := .blockquote, children := [], line := s.line,
                         lineMax := n, level := S.level + 1 } = .ok s2) :
    s2.level = S.level + 1 ∧ s2.offs = S.offs ∧ s.line < s2.line ∧ s2.line ≤ n := by
  obtain ⟨hIS, hmn, _, _, _, _⟩ := bq_scan_facts ht hI hl hscan
  obtain ⟨i, hi, hi0⟩ := hi
  obtain ⟨hlt, o, ho, ho0⟩ := bqScan_first ht hscan hl hi hi0 hline hhead
  have hfr := hk.frame _ _ htok
  have hstrict := hk.strict _ _ htok (by simpa using hlt)
    (Or.inr ⟨_, lineIndent_of_off ho, by simpa using ho0⟩)
  have hupper := hk.upper _ _ htok (fun k o ho => hIS.table k o ho) (by simpa using hmn)
  exact ⟨hfr.level, hfr.offs, hstrict, hupper⟩

/-- The rule fails with a statement of its own, with its scan, or with the nested tokenizer on the
    state the scan has prepared.  (Nothing is asked of the call-backs in silent mode.) -/
theorem blockquote_err {E : Panic → Prop} {tok : Tok} {test : Test} (hk : TokSpec tok) (ht : TestPure test)
    {fuel : Nat} {s : BState} {silent : Bool}
    (hP : PrimIn E (BInv s ∧ s.line < s.lineMax ∧ (silent = false → IndentOk s)))
    (hscan : silent = false → ErrIn E (bqScan test fuel s s.line [] false))
    (hK : silent = false → ∀ line n old S, s.getLine s.line = .ok line → line.head? = some '>' →
      bqScan test fuel s s.line [] false = .ok (n, old, S) →
      ErrIn E (tok { S with blkIndent := 0, nodeKind := .blockquote, children := [], line := s.line,
                            lineMax := n, level := S.level + 1 })) :
    ErrIn E (blockquoteRule tok test fuel s silent) := by
  have hm : BInv s ∧ s.line < s.lineMax ∧ (silent = false → IndentOk s) → s.line < s.offs.length :=
    fun hC => Nat.lt_of_lt_of_le hC.2.1 hC.1.lineMax
  unfold blockquoteRule
  refine .bind (hP.prim fun hC => lineIndent_total (hm hC)) fun ind _ => ?_
  refine .orElse fun _ => ?_
  refine .bind (hP.prim fun hC => getLine_total hC.1.table (hm hC)) fun line hline => ?_
  refine .orElse fun hh => ?_
  have hhead : line.head? = some '>' := Decidable.not_not.mp hh
  refine .orElse fun hs => ?_
  have hsil : silent = false := by simpa using hs
  refine .bind (hscan hsil) fun ⟨n, old, S⟩ hsc => ?_
  refine .bind (hK hsil _ _ _ _ hline hhead hsc) fun S2 htok => ?_
  -- behind the nested call: its frame is that of the scan's state, `line` lies in `(s.line, n]`
  have key := fun (hC : BInv s ∧ s.line < s.lineMax ∧ (silent = false → IndentOk s)) =>
    bq_tok_facts hk ht hC.1 hC.2.1 (hC.2.2 hsil) hline hhead hsc htok
  have scan := fun (hC : BInv s ∧ s.line < s.lineMax ∧ (silent = false → IndentOk s)) =>
    bq_scan_facts ht hC.1 hC.2.1 hsc
  -- `state.level -= 1`
  refine .bind (hP.prim fun hC => psub_total (by rw [(key hC).1]; exact Nat.le_add_left 1 _)) fun lvl _ => ?_
  -- the swap loop
  refine .bind (hP.prim fun hC => ?_) fun offs hro => ?_
  · show ∃ a, restoreOffs S2.offs s.line old = .ok a
    rw [(key hC).2.1]
    exact ⟨_, (scan hC).2.2.2.2.2⟩
  -- `state.line - 1`
  refine .bind (hP.prim fun hC => psub_total (by have := (key hC).2.2.1; show 1 ≤ S2.line; omega)) fun e he => ?_
  -- `get_map(start_line, state.line - 1)`
  refine .bind (hP.prim fun hC => ?_) fun r _ => .pure _
  obtain ⟨-, hoffs, hlt, hle⟩ := key hC
  obtain ⟨-, -, hn, -, -, hrest⟩ := scan hC
  have hro : restoreOffs S2.offs s.line old = .ok offs := hro
  rw [hoffs, hrest] at hro
  cases hro
  have he : e = S2.line - 1 := (psub_ok he).2
  have := hC.1.lineMax
  refine getMap_total (by show s.line ≤ e; omega) ?_
  show e < s.offs.length
  omega

theorem blockquote_np {tok : Tok} {test : Test} (hk : TokSpec tok) (ht : TestPure test)
    (hto : TestOK test) (hko : TokOK tok) {fuel : Nat} {s : BState} {silent : Bool}
    (hI : BInv s) (hl : s.line < s.lineMax) (hi : silent = false → IndentOk s) :
    NoPanic (blockquoteRule tok test fuel s silent) := by
  refine blockquote_err hk ht (.inl ⟨hI, hl, hi⟩) (fun _ => bqScan_err ht (fun S hP hl => hto S hP.holds hl) _ _ _ _ _ (.inl hI) (.inl rfl))
    fun _ line n old S _ _ hscan => hko _ ?_
  obtain ⟨hIS, _, hn, hmax, hlen, _⟩ := bq_scan_facts ht hI hl hscan
  refine hIS.congr rfl rfl ?_
  have := hI.lineMax
  simp only; omega


/-! ## examples -/

section examples

/-- `">\tx"`: the marker splits a tab stop.  The tab behind the `>` (column 1) reaches column 4, so
    `find_indent_of` answers 3 columns for ONE byte; the optional space takes one of them. -/
example : bqRewrite ['>', '\t', 'x'] ⟨0, 3, 0, 0⟩ ['\t', 'x'] = .ok (⟨0, 3, 2, 2⟩, false) := by decide
/-- `" >\tx"`: the tab (column 2) is two columns wide; one is left -/
example : bqRewrite [' ', '>', '\t', 'x'] ⟨0, 4, 1, 1⟩ ['\t', 'x'] = .ok (⟨0, 4, 3, 1⟩, false) := by decide
/-- `"  >\tx"`: the tab (column 3) is ONE column wide — the smallest width a blank can have; the
    subtraction ends at 0 and does not underflow (`indentWidth_run_pos`) -/
example : bqRewrite [' ', ' ', '>', '\t', 'x'] ⟨0, 5, 2, 2⟩ ['\t', 'x'] = .ok (⟨0, 5, 4, 0⟩, false) := by
  decide
/-- `">"`, `"> "`: nothing / only blanks behind the marker (`last_line_empty`) -/
example : bqRewrite ['>'] ⟨0, 1, 0, 0⟩ [] = .ok (⟨0, 1, 1, 0⟩, true) := by decide
example : bqRewrite ['>', ' '] ⟨0, 2, 0, 0⟩ [' '] = .ok (⟨0, 2, 2, 0⟩, true) := by decide

/-- a nested tokenizer and a look-ahead that satisfy the four hypotheses of `blockquote_np` -/
private def toyTok : Tok := fun s => .ok { s with line := max s.line s.lineMax }
private def toyTest : Test := fun s => .ok (false, s)

/-- non-vacuity: the hypotheses of `blockquote_np` are jointly satisfiable (on `">\tx"`, real mode) -/
example : NoPanic (blockquoteRule toyTok toyTest 3 (BState.fresh ['>', '\t', 'x'] .root []) false) := by
  refine blockquote_np ⟨?_, ?_, ?_, ?_⟩ ?_ ?_ ?_ (bInv_fresh _ _ _) (by decide +kernel) ?_
  · intro s s' h; cases h; exact ⟨rfl, rfl, rfl, rfl, rfl, rfl, rfl⟩
  · intro s s' h; cases h; exact Nat.le_max_left _ _
  · intro s s' h _ hle; cases h; exact Nat.max_le.mpr ⟨hle, Nat.le_refl _⟩
  · intro s s' h hlt _; cases h; exact Nat.lt_of_lt_of_le hlt (Nat.le_max_right _ _)
  · intro s r h; cases h; rfl
  · intro s _ _; exact ErrIn.ok _
  · intro s _; exact ErrIn.ok _
  · intro _; exact ⟨0, by decide +kernel, by decide⟩

/-- … and with the model's own tokenizer / look-ahead the rule does answer on that state -/
example : verdictLine (ruleAt exCfg 5 .blockquote (BState.fresh ['>', '\t', 'x'] .root []) false)
    = some (true, 1) := by decide +kernel

/-- `IndentOk` (which the tokenizer checks before it runs the chain: `if ind < 0 then .ok s`) is
    necessary in real mode.  On an outdented first line (`blk_indent = 1`, an artificial state: `BInv`
    does not read `blk_indent`) the scan stops AT the first line, the nested tokenizer gets an empty
    range and `state.line - 1` underflows (first line of the document) … -/
example : (ruleAt exCfg 5 .blockquote { BState.fresh ['>'] .root [] with blkIndent := 1 } false
    matches .error .sub) = true := by decide +kernel
/-- … or `get_map(start_line, start_line - 1)` trips its `debug_assert!` (any later line) -/
example : (ruleAt exCfg 5 .blockquote
    { BState.fresh ['a', '\n', '>'] .root [] with blkIndent := 1, line := 1 } false
    matches .error .assert) = true := by decide +kernel

end examples

end MdIt.Block
