/-
  Two runs of the block parser on two sources whose line tables show the same lines at possibly
  different byte offsets: the vocabulary every lock-step development of `MdIt/Lemmas/C10*.lean` shares.
  Namespace `MdIt.Block.LE` holds it, together with the relations of C10 without the sourcepos plugin
  (line endings, final newline), where offsets are related by a `ρ` invariant under translation.

    FRel R x y        lock-step relation on results: side 1 ran out of fuel (then nothing is claimed:
                      side 2 may have more fuel), or both returned values related by `R`, or both
                      panicked with the same panic
    ρ                 a relation on byte offsets that is invariant under translation (`Shift ρ`):
                      `Eq` (LF ↦ CR, final newline: nothing moves), `≤` (LF ↦ CR LF: everything moves
                      right), `fun _ _ => True` (arbitrary tables with the same views)
    ERel ρ            two table entries show the same line (same bytes between `line_start` and
                      `line_end`, same relative `first_nonspace`, same indent), starts related by `ρ`
    MRel ρ            two `InlineRoot` mappings: same keys, values related by `ρ`
    NRel ρ / NRelL ρ  two block trees: same kinds and payloads, `InlineRoot` mappings `MRel`, ranges
                      related by `ρ` componentwise
    Geo               the two sources and the geometry (`line_start`, `line_end` of every entry) of
                      their tables, which no rule changes

  The state relation `LE.SRel ρ G` built from these is in `MdIt/Lemmas/C10DocEngine.lean`.
-/
import MdIt.Props.Block
import MdIt.Props.C10

namespace MdIt.Block.LE
open MdIt.Lines (LineOffset)

def FRel {α β : Type} (R : α → β → Prop) (x : Except Panic α) (y : Except Panic β) : Prop :=
  x = .error .fuel ∨ (∃ a b, x = .ok a ∧ y = .ok b ∧ R a b) ∨ (∃ e, x = .error e ∧ y = .error e)

theorem frel_ok {α β : Type} {R : α → β → Prop} {a : α} {b : β} (h : R a b) :
    FRel R (.ok a) (.ok b) := .inr (.inl ⟨a, b, rfl, rfl, h⟩)

theorem frel_pure {α β : Type} {R : α → β → Prop} {a : α} {b : β} (h : R a b) :
    FRel R (pure a) (pure b) := frel_ok h

theorem frel_err {α β : Type} {R : α → β → Prop} (e : Panic) :
    FRel R (.error e : Except Panic α) (.error e : Except Panic β) := .inr (.inr ⟨e, rfl, rfl⟩)

theorem frel_fuel {α β : Type} {R : α → β → Prop} (y : Except Panic β) :
    FRel R (.error .fuel : Except Panic α) y := .inl rfl

/-- `frel_bind` that remembers where the two values came from -/
theorem frel_bind_ok {α β γ δ : Type} {R : α → β → Prop} {S : γ → δ → Prop}
    {x : Except Panic α} {y : Except Panic β} {f : α → Except Panic γ} {g : β → Except Panic δ}
    (h : FRel R x y) (hfg : ∀ a b, x = .ok a → y = .ok b → R a b → FRel S (f a) (g b)) :
    FRel S (x >>= f) (y >>= g) := by
  rcases h with rfl | ⟨a, b, rfl, rfl, hab⟩ | ⟨e, rfl, rfl⟩
  · exact .inl rfl
  · exact hfg a b rfl rfl hab
  · exact .inr (.inr ⟨e, rfl, rfl⟩)

theorem frel_bind {α β γ δ : Type} {R : α → β → Prop} {S : γ → δ → Prop}
    {x : Except Panic α} {y : Except Panic β} {f : α → Except Panic γ} {g : β → Except Panic δ}
    (h : FRel R x y) (hfg : ∀ a b, R a b → FRel S (f a) (g b)) : FRel S (x >>= f) (y >>= g) :=
  frel_bind_ok h fun a b _ _ => hfg a b

theorem frel_bind_same {α γ δ : Type} {S : γ → δ → Prop}
    (x : Except Panic α) {f : α → Except Panic γ} {g : α → Except Panic δ}
    (hfg : ∀ a, x = .ok a → FRel S (f a) (g a)) : FRel S (x >>= f) (x >>= g) := by
  cases x with
  | error e => exact .inr (.inr ⟨e, rfl, rfl⟩)
  | ok a => exact hfg a rfl

theorem frel_mono {α β : Type} {R R' : α → β → Prop} {x : Except Panic α} {y : Except Panic β}
    (h : FRel R x y) (hr : ∀ a b, R a b → R' a b) : FRel R' x y := by
  rcases h with h | ⟨a, b, h1, h2, hab⟩ | h
  · exact .inl h
  · exact .inr (.inl ⟨a, b, h1, h2, hr a b hab⟩)
  · exact .inr (.inr h)

theorem frel_ite {α β : Type} {S : α → β → Prop} {c : Prop} [Decidable c] {x y : Except Panic α}
    {x' y' : Except Panic β} (ht : c → FRel S x x') (he : ¬ c → FRel S y y') :
    FRel S (if c then x else y) (if c then x' else y') := by
  by_cases h : c
  · rw [if_pos h, if_pos h]; exact ht h
  · rw [if_neg h, if_neg h]; exact he h

theorem frel_refl {α : Type} (x : Except Panic α) : FRel Eq x x := by
  cases x with
  | error e => exact frel_err e
  | ok a => exact frel_ok rfl

theorem frel_of_eq {α : Type} {x y : Except Panic α} (h : y = x) : FRel Eq x y := h ▸ frel_refl x

theorem frel_ok_left {α β : Type} {R : α → β → Prop} {a : α} {y : Except Panic β}
    (h : FRel R (.ok a) y) : ∃ b, y = .ok b ∧ R a b := by
  rcases h with h | ⟨a', b, h1, h2, hab⟩ | ⟨e, h, _⟩
  · cases h
  · cases h1; exact ⟨b, h2, hab⟩
  · cases h

theorem frel_err_left {α β : Type} {R : α → β → Prop} {e : Panic} {y : Except Panic β}
    (h : FRel R (.error e : Except Panic α) y) (he : e ≠ .fuel) : y = .error e := by
  rcases h with h | ⟨a', b, h1, _, _⟩ | ⟨e', h, h'⟩
  · cases h; exact absurd rfl he
  · cases h1
  · cases h; exact h'

theorem frel_map {α β γ δ : Type} {R : α → β → Prop} {S : γ → δ → Prop}
    {x : Except Panic α} {y : Except Panic β} {f : α → γ} {g : β → δ}
    (h : FRel R x y) (hfg : ∀ a b, R a b → S (f a) (g b)) : FRel S (f <$> x) (g <$> y) := by
  rcases h with rfl | ⟨a, b, rfl, rfl, hab⟩ | ⟨e, rfl, rfl⟩
  · exact .inl rfl
  · exact frel_ok (hfg a b hab)
  · exact .inr (.inr ⟨e, rfl, rfl⟩)

/-- a relation on byte offsets that survives adding the same amount on both sides -/
structure Shift (ρ : Nat → Nat → Prop) : Prop where
  add : ∀ {a b : Nat} (d : Nat), ρ a b → ρ (a + d) (b + d)

theorem shift_eq : Shift Eq := ⟨fun _ h => by rw [h]⟩
theorem shift_le : Shift (· ≤ ·) := ⟨fun d h => Nat.add_le_add_right h d⟩
theorem shift_true : Shift (fun _ _ => True) := ⟨fun _ _ => trivial⟩

/-- `(line_start, line_end)` -/
def geom (o : LineOffset) : Nat × Nat := (o.lineStart, o.lineEnd)

/-- a line ends before any later line starts -/
def IncT (T : List (Nat × Nat)) : Prop :=
  ∀ (i j : Nat) (a b : Nat × Nat), i < j → T[i]? = some a → T[j]? = some b → a.2 ≤ b.1

/-- the two entries show the same line: the same bytes `a ++ b` at `line_start .. line_end`,
    `first_nonspace` behind `a` on both sides, the same indent; the starts are `ρ`-related -/
def ERel (ρ : Nat → Nat → Prop) (src₁ src₂ : List Char) (o₁ o₂ : LineOffset) : Prop :=
  ∃ a b p₁ q₁ p₂ q₂, src₁ = p₁ ++ (a ++ b) ++ q₁ ∧ src₂ = p₂ ++ (a ++ b) ++ q₂ ∧
    Lines.byteLen p₁ = o₁.lineStart ∧ Lines.byteLen p₂ = o₂.lineStart ∧
    o₁.firstNonspace = o₁.lineStart + Lines.byteLen a ∧ o₂.firstNonspace = o₂.lineStart + Lines.byteLen a ∧
    o₁.lineEnd = o₁.lineStart + Lines.byteLen a + Lines.byteLen b ∧
    o₂.lineEnd = o₂.lineStart + Lines.byteLen a + Lines.byteLen b ∧
    o₁.indentNonspace = o₂.indentNonspace ∧ ρ o₁.lineStart o₂.lineStart

/-- two per-line tables of an `InlineRoot`: same keys, values `ρ`-related -/
def MRel (ρ : Nat → Nat → Prop) : List (Nat × Nat) → List (Nat × Nat) → Prop
  | [], [] => True
  | x :: r₁, y :: r₂ => x.1 = y.1 ∧ ρ x.2 y.2 ∧ MRel ρ r₁ r₂
  | _, _ => False

theorem MRel.nil {ρ : Nat → Nat → Prop} : MRel ρ [] [] := trivial

theorem MRel.append {ρ : Nat → Nat → Prop} : ∀ {a b c d : List (Nat × Nat)}, MRel ρ a b → MRel ρ c d →
    MRel ρ (a ++ c) (b ++ d)
  | [], [], _, _, _, h => h
  | [], _ :: _, _, _, h, _ => h.elim
  | _ :: _, [], _, _, h, _ => h.elim
  | _ :: _, _ :: _, _, _, h, h' => ⟨h.1, h.2.1, MRel.append h.2.2 h'⟩

theorem MRel.single {ρ : Nat → Nat → Prop} {k v₁ v₂ : Nat} (h : ρ v₁ v₂) : MRel ρ [(k, v₁)] [(k, v₂)] :=
  ⟨rfl, h, trivial⟩

theorem MRel.eq : ∀ {a b : List (Nat × Nat)}, MRel Eq a b → a = b
  | [], [], _ => rfl
  | [], _ :: _, h => h.elim
  | _ :: _, [], h => h.elim
  | (k₁, v₁) :: _, (k₂, v₂) :: _, h => by
    have h1 : k₁ = k₂ := h.1
    have h2 : v₁ = v₂ := h.2.1
    rw [h1, h2, MRel.eq h.2.2]

/-- `r₁ = none ∧ r₂ = none`, or both present and `ρ`-related componentwise -/
def RgRel (ρ : Nat → Nat → Prop) : Option (Nat × Nat) → Option (Nat × Nat) → Prop
  | none, none => True
  | some x, some y => ρ x.1 y.1 ∧ ρ x.2 y.2
  | _, _ => False

theorem RgRel.eq : ∀ {a b : Option (Nat × Nat)}, RgRel Eq a b → a = b
  | none, none, _ => rfl
  | none, some _, h => h.elim
  | some _, none, h => h.elim
  | some (a, b), some (c, d), h => by
    have h1 : a = c := h.1
    have h2 : b = d := h.2
    rw [h1, h2]

/-- node values: equal, or two `InlineRoot`s with the same text and related tables -/
def KRel (ρ : Nat → Nat → Prop) (k₁ k₂ : Kind) : Prop :=
  k₁ = k₂ ∨ ∃ c m₁ m₂, k₁ = .inlineRoot c m₁ ∧ k₂ = .inlineRoot c m₂ ∧ MRel ρ m₁ m₂

theorem KRel.refl {ρ : Nat → Nat → Prop} (k : Kind) : KRel ρ k k := .inl rfl

theorem KRel.inl {ρ : Nat → Nat → Prop} {c : List Char} {m₁ m₂ : List (Nat × Nat)} (h : MRel ρ m₁ m₂) :
    KRel ρ (.inlineRoot c m₁) (.inlineRoot c m₂) := .inr ⟨c, m₁, m₂, rfl, rfl, h⟩

theorem KRel.eq {k₁ k₂ : Kind} (h : KRel Eq k₁ k₂) : k₁ = k₂ := by
  rcases h with h | ⟨c, m₁, m₂, rfl, rfl, hm⟩
  · exact h
  · rw [MRel.eq hm]

theorem KRel.eq_of_not_inline {ρ : Nat → Nat → Prop} {k₁ k₂ : Kind} (h : KRel ρ k₁ k₂)
    (hk : ∀ c m, k₁ ≠ .inlineRoot c m) : k₂ = k₁ := by
  rcases h with h | ⟨c, m₁, m₂, rfl, rfl, _⟩
  · exact h.symm
  · exact absurd rfl (hk _ _)

theorem KRel.eq_iff {ρ : Nat → Nat → Prop} {k₁ k₂ : Kind} (h : KRel ρ k₁ k₂) (k : Kind)
    (hk : ∀ c m, k ≠ .inlineRoot c m) : k₁ = k ↔ k₂ = k := by
  rcases h with rfl | ⟨c, m₁, m₂, rfl, rfl, _⟩
  · exact Iff.rfl
  · constructor <;> intro h <;> exact absurd h.symm (hk _ _)

mutual
/-- two block trees that differ in source offsets only -/
def NRel (ρ : Nat → Nat → Prop) : BNode → BNode → Prop
  | ⟨k₁, r₁, c₁⟩, ⟨k₂, r₂, c₂⟩ => KRel ρ k₁ k₂ ∧ RgRel ρ r₁ r₂ ∧ NRelL ρ c₁ c₂
def NRelL (ρ : Nat → Nat → Prop) : List BNode → List BNode → Prop
  | [], [] => True
  | a :: as, b :: bs => NRel ρ a b ∧ NRelL ρ as bs
  | [], _ :: _ => False
  | _ :: _, [] => False
end

theorem NRel.mk {ρ : Nat → Nat → Prop} {k₁ k₂ : Kind} {r₁ r₂ : Option (Nat × Nat)} {c₁ c₂ : List BNode}
    (hk : KRel ρ k₁ k₂) (hr : RgRel ρ r₁ r₂) (hc : NRelL ρ c₁ c₂) : NRel ρ ⟨k₁, r₁, c₁⟩ ⟨k₂, r₂, c₂⟩ := by
  simp only [NRel]; exact ⟨hk, hr, hc⟩

theorem NRel.kind {ρ : Nat → Nat → Prop} {n₁ n₂ : BNode} (h : NRel ρ n₁ n₂) : KRel ρ n₁.kind n₂.kind := by
  cases n₁; cases n₂; simp only [NRel] at h; exact h.1

theorem NRel.children {ρ : Nat → Nat → Prop} {n₁ n₂ : BNode} (h : NRel ρ n₁ n₂) :
    NRelL ρ n₁.children n₂.children := by
  cases n₁; cases n₂; simp only [NRel] at h; exact h.2.2

theorem NRelL.nil {ρ : Nat → Nat → Prop} : NRelL ρ [] [] := by simp only [NRelL]

theorem NRelL.cons {ρ : Nat → Nat → Prop} {a b : BNode} {as bs : List BNode} (h : NRel ρ a b)
    (ht : NRelL ρ as bs) : NRelL ρ (a :: as) (b :: bs) := by simp only [NRelL]; exact ⟨h, ht⟩

theorem NRelL.cons_inv {ρ : Nat → Nat → Prop} {a b : BNode} {as bs : List BNode}
    (h : NRelL ρ (a :: as) (b :: bs)) : NRel ρ a b ∧ NRelL ρ as bs := by simpa only [NRelL] using h

theorem NRelL.nil_left {ρ : Nat → Nat → Prop} {bs : List BNode} (h : NRelL ρ [] bs) : bs = [] := by
  cases bs with
  | nil => rfl
  | cons b bs => simp only [NRelL] at h

theorem NRelL.nil_right {ρ : Nat → Nat → Prop} {as : List BNode} (h : NRelL ρ as []) : as = [] := by
  cases as with
  | nil => rfl
  | cons a as => simp only [NRelL] at h

theorem NRelL.append {ρ : Nat → Nat → Prop} : ∀ {a b c d : List BNode}, NRelL ρ a b → NRelL ρ c d →
    NRelL ρ (a ++ c) (b ++ d)
  | [], [], _, _, _, h => h
  | [], _ :: _, _, _, h, _ => by simp only [NRelL] at h
  | _ :: _, [], _, _, h, _ => by simp only [NRelL] at h
  | _ :: _, _ :: _, _, _, h, h' => by
    obtain ⟨h1, h2⟩ := h.cons_inv
    exact NRelL.cons h1 (NRelL.append h2 h')

theorem NRelL.single {ρ : Nat → Nat → Prop} {a b : BNode} (h : NRel ρ a b) : NRelL ρ [a] [b] :=
  NRelL.cons h NRelL.nil

theorem NRelL.push {ρ : Nat → Nat → Prop} {as bs : List BNode} {a b : BNode} (h : NRelL ρ as bs)
    (hn : NRel ρ a b) : NRelL ρ (as ++ [a]) (bs ++ [b]) := h.append (NRelL.single hn)

theorem NRelL.length {ρ : Nat → Nat → Prop} : ∀ {a b : List BNode}, NRelL ρ a b → a.length = b.length
  | [], [], _ => rfl
  | [], _ :: _, h => by simp only [NRelL] at h
  | _ :: _, [], h => by simp only [NRelL] at h
  | _ :: _, _ :: _, h => by
    have := NRelL.length h.cons_inv.2
    simp [this]

mutual
theorem NRel.eq {n₁ n₂ : BNode} (h : NRel Eq n₁ n₂) : n₁ = n₂ := by
  match n₁, n₂ with
  | ⟨k₁, r₁, c₁⟩, ⟨k₂, r₂, c₂⟩ =>
    simp only [NRel] at h
    rw [KRel.eq h.1, RgRel.eq h.2.1, NRelL.eq h.2.2]
theorem NRelL.eq {a b : List BNode} (h : NRelL Eq a b) : a = b := by
  match a, b with
  | [], [] => rfl
  | [], _ :: _ => simp only [NRelL] at h
  | _ :: _, [] => simp only [NRelL] at h
  | x :: xs, y :: ys =>
    obtain ⟨h1, h2⟩ := h.cons_inv
    rw [NRel.eq h1, NRelL.eq h2]
end

/-- what stays fixed during the two runs: the two sources and the geometry of their line tables -/
structure Geo where
  src₁ : List Char
  src₂ : List Char
  T₁ : List (Nat × Nat)
  T₂ : List (Nat × Nat)

end MdIt.Block.LE
