/-
  C05, the remaining clauses: `get_lines` is FAITHFUL — the inline text of a placeholder is a copy of
  the source bytes at the offsets its table names (`C05R.PFth`), when its table has no virtual-space
  entry.  An abstract part without parser notions (`fa_pfth_of_seg`: a table all of whose entries are
  `fa_Seg`), then the instantiation: `fa_Seg` is the REAL case of `C05I.LSeg` (Lemmas/C05LineTable.lean) with
  line terminators known, and a table without virtual-space entry has real entries only.
  Name prefix `fa_`: faithfulness of the table, no virtual-space entry.
-/
import MdIt.Lemmas.C05RestDefs

namespace MdIt.C05R
open MdIt.InlineOps (Srcmap getSourcePosFor byteLen)
open MdIt.Lines (LineOffset)
open MdIt.C05I (SegAll segAll_get NoVirt LSeg)

/-- entry `x = (k, v)` of the table, followed by `next`: the content holds at byte `k` a stretch `t`
    without line feed which is `src[v .. v + |t|]`; it is the end of the content (last entry), or it is
    followed by ONE line feed, behind which the next entry's key points, the next entry's source
    offset lies strictly behind `v + |t|` and a line break of the source starts at `v + |t|` -/
def fa_Seg (src c : List Char) (x : Nat × Nat) (next : Option (Nat × Nat)) : Prop :=
  ∃ pre t post, c = pre ++ t ++ post ∧ byteLen pre = x.1 ∧ '\n' ∉ t ∧
    Cut src x.2 (x.2 + byteLen t) t ∧
    match next with
    | none => post = []
    | some y => ∃ post', post = '\n' :: post' ∧ y.1 = x.1 + byteLen t + 1 ∧ x.2 + byteLen t < y.2 ∧
        BrkAt src (x.2 + byteLen t)

theorem fa_seg_mono {src c : List Char} {m : Srcmap} (hs : SegAll (fa_Seg src c) m) : C05.MonoMap m := by
  intro i k1 v1 k2 v2 h1 h2
  have := segAll_get hs h1
  rw [h2] at this
  obtain ⟨pre, t, post, _, _, _, _, post', _, hk, hv, _⟩ := this
  simp only at hk hv
  omega

theorem fa_locate {src c : List Char} {m : Srcmap} (hw : C05.WFMap m) (hs : SegAll (fa_Seg src c) m)
    {p a : Nat} (ha : getSourcePosFor m p = .ok a) :
    ∃ i k v, m[i]? = some (k, v) ∧ k ≤ p ∧ a = v + (p - k) ∧ fa_Seg src c (k, v) m[i + 1]? ∧
      ∀ y, m[i + 1]? = some y → p < y.1 := by
  obtain ⟨i, k, v, h1, h2, h3, h4, e⟩ :=
    C05.lineOf_spec_tr m hw p (C05.clampFree_of_mono m (fa_seg_mono hs) p)
  rw [e] at ha
  simp only [Except.ok.injEq] at ha
  exact ⟨i, k, v, h2, h3, ha.symm, segAll_get hs h2, fun y hy => h4 (i + 1) y.1 y.2 (by omega) hy⟩

/-- a line-feed-free stretch that starts in a REAL segment is a copy of the source bytes -/
theorem fa_copy_real {src c : List Char} {m : Srcmap} (hw : C05.WFMap m) {p q a b i k v : Nat}
    {w : List Char} (hi : m[i]? = some (k, v)) (hk : k ≤ p) (ha : a = v + (p - k))
    (hseg : fa_Seg src c (k, v) m[i + 1]?) (hlt : ∀ y, m[i + 1]? = some y → p < y.1)
    (hc : Cut c p q w) (hn : '\n' ∉ w) (hb : getSourcePosFor m q = .ok b) : Cut src a b w := by
  obtain ⟨pre, t, post, hcc, hpre, hnt, hsrc, hnext⟩ := hseg
  simp only at hpre hsrc
  have hpq := hc.le
  -- `q` is inside the line
  have hq : q ≤ k + byteLen t := by
    cases hn1 : m[i + 1]? with
    | none =>
      rw [hn1] at hnext
      subst hnext
      have := hc.bdy_right.le
      rw [hcc] at this
      simp only [C05.byteLen_append, List.append_nil] at this
      omega
    | some y =>
      rw [hn1] at hnext
      obtain ⟨post', rfl, hy1, _, _⟩ := hnext
      have hp := hlt y hn1
      rcases Nat.lt_or_ge (k + byteLen t) q with hgt | hle
      · exfalso
        apply hn
        refine fa_mem_cut (P := pre ++ t) (Q := post') hc (by rw [hcc]) ?_ ?_
        · rw [C05.byteLen_append]; omega
        · rw [C05.byteLen_append]; omega
      · exact hle
  -- so `q` is translated by the same entry, the clamp inactive
  have hb' : getSourcePosFor m q = .ok (v + (q - k)) := by
    apply C05.translate_segment_free m hw q i k v hi (by omega)
    · intro k' v' hn1
      rw [hn1] at hnext
      obtain ⟨post', _, hy1, _, _⟩ := hnext
      simp only at hy1
      omega
    · intro k' v' hn1
      rw [hn1] at hnext
      obtain ⟨post', _, hy1, hy2, _⟩ := hnext
      simp only at hy1 hy2
      omega
  rw [hb'] at hb
  simp only [Except.ok.injEq] at hb
  subst hb ha
  rw [hcc] at hc
  obtain ⟨x, y, hx, hy, hxy⟩ := fa_cut_inside hc (by omega) (by omega)
  have := fa_cut_sub hsrc hxy
  rw [show v + (p - k) = v + x by omega, show v + (q - k) = v + y by omega]
  exact this

/-- **`brk`**: a line feed of the stretch sits at the end of a real segment (`hloc`), where the source has a
    line break; the translation is monotone, so the translated range holds that break -/
theorem fa_brk_of_locate {src c : List Char} {m : Srcmap} (hw : C05.WFMap m) (hv : C05.MonoMapV m)
    (hloc : ∀ g ag, (∃ G1 G2, c = G1 ++ '\n' :: G2 ∧ byteLen G1 = g) → getSourcePosFor m g = .ok ag →
      ∃ i k v, m[i]? = some (k, v) ∧ k ≤ g ∧ ag = v + (g - k) ∧ fa_Seg src c (k, v) m[i + 1]? ∧
        ∀ y, m[i + 1]? = some y → g < y.1)
    (p q : Nat) (w : List Char) (a b : Nat) (w' : List Char) (hc : Cut c p q w) (hn : '\n' ∈ w)
    (ha : getSourcePosFor m p = .ok a) (hb : getSourcePosFor m q = .ok b) (hw' : Cut src a b w') :
    ¬ NoBrk w' := by
  obtain ⟨w1, w2, rfl⟩ := List.append_of_mem hn
  have hqc := hc.bdy_right.le
  obtain ⟨P, Q, e, hP, hq⟩ := hc
  obtain ⟨g, hgdef⟩ : ∃ g, g = p + byteLen w1 := ⟨_, rfl⟩
  have hg : ∃ G1 G2, c = G1 ++ '\n' :: G2 ∧ byteLen G1 = g :=
    ⟨P ++ w1, w2 ++ Q, by rw [e]; simp [List.append_assoc], by rw [C05.byteLen_append]; omega⟩
  have hgq : g < q := by
    rw [C05.byteLen_append] at hq
    simp only [byteLen, show '\n'.utf8Size = 1 by decide] at hq
    omega
  obtain ⟨ag, hag⟩ := C05.translate_total m hw g
  obtain ⟨i, k, v, hi, hk, hag', ⟨pre, t, post, hcc, hpre, hnt, hsrc, hnext⟩, hlt⟩ := hloc g ag hg hag
  simp only at hpre hsrc
  have hge : k + byteLen t ≤ g := by
    rcases Nat.lt_or_ge g (k + byteLen t) with hlt' | hge
    · exfalso
      obtain ⟨G1, G2, eG, hG⟩ := hg
      exact hnt (fa_mem_cut (⟨pre, post, hcc, hpre, rfl⟩ : Cut c k (k + byteLen t) t) eG (by omega) (by omega))
    · exact hge
  cases hn1 : m[i + 1]? with
  | none =>
    exfalso
    rw [hn1] at hnext
    subst hnext
    rw [hcc] at hqc
    simp only [C05.byteLen_append, List.append_nil] at hqc
    omega
  | some y =>
    rw [hn1] at hnext
    obtain ⟨post', _, hy1, hy2, hbrk⟩ := hnext
    simp only at hy1 hy2 hbrk
    have hgy := hlt y hn1
    have m1 := C05.translate_mono_all m hw hv p g (by omega) a ag ha hag
    obtain ⟨ay, hay⟩ := C05.translate_total m hw y.1
    have hl : InlineOps.lineOf m y.1 = .ok (i + 1) :=
      C05.lineOf_segment m hw y.1 (i + 1) y.1 y.2 hn1 (Nat.le_refl _) (fun k2 v2 h2 => by
        obtain ⟨h3, e3⟩ := C05.getElem?_key m (i + 1) y.1 y.2 hn1
        obtain ⟨h4, e4⟩ := C05.getElem?_key m (i + 1 + 1) k2 v2 h2
        have := List.pairwise_iff_getElem.mp hw.sorted (i + 1) (i + 1 + 1) h3 h4 (by omega)
        omega)
    have m2 := C05.translate_ge_entry m hv y.1 (i + 1) y.1 y.2 ay hl hn1 (Nat.le_refl _) hay
    have m3 := C05.translate_mono_all m hw hv y.1 q (by omega) ay b hay hb
    exact hbrk.mem_cut hw' (by omega) (by omega)

/-- a table all of whose entries are `fa_Seg` is faithful -/
theorem fa_pfth_of_seg {src c : List Char} {m : Srcmap} (hw : C05.WFMap m)
    (hs : SegAll (fa_Seg src c) m) : PFth src c m := by
  refine ⟨?_, fa_brk_of_locate hw (fa_seg_mono hs).toV fun g ag _ hag => ?_⟩
  · intro p q w a b hc hn ha hb
    obtain ⟨i, k, v, hi, hk, ha', hseg, hlt⟩ := fa_locate hw hs ha
    exact fa_copy_real hw hi hk ha' hseg hlt hc hn hb
  · exact fa_locate hw hs hag

theorem fa_noVirt_tail {x : Nat × Nat} {r : Srcmap} (h : NoVirt (x :: r)) : NoVirt r := by
  intro i k1 v1 k2 v2 h1 h2
  exact h (i + 1) k1 v1 k2 v2 (by simpa using h1) (by simpa using h2)

theorem lseg_fa {src c : List Char} {hi : Nat} : ∀ {m : Srcmap}, SegAll (LSeg True src c hi) m → NoVirt m →
    SegAll (fa_Seg src c) m
  | [], _, _ => trivial
  | x :: r, hs, hnv => by
    refine ⟨?_, lseg_fa hs.2 (fa_noVirt_tail hnv)⟩
    rcases hs.1 with ⟨k', hn, _⟩ | ⟨pre, t, post, hc, hp, hnt, hcut, _, hnext⟩
    · cases r with
      | nil => simp at hn
      | cons y r' =>
        simp only [List.head?_cons, Option.some.injEq] at hn
        subst hn
        exact absurd rfl (hnv 0 x.1 x.2 k' x.2 rfl rfl)
    · refine ⟨pre, t, post, hc, hp, hnt, hcut, ?_⟩
      cases hr : r.head? with
      | none => rw [hr] at hnext; exact hnext
      | some y =>
        rw [hr] at hnext
        obtain ⟨post', h1, h2, h3, h4⟩ := hnext
        exact ⟨post', h1, h2, h3, h4 trivial⟩

/-- **the table of `get_lines(b, e, indent, false)` without virtual-space entry** (no tab of the
    lines read was split — the source may contain tabs), on a table whose entries cut line-feed-free
    lines out of the source (`LineOk`), strictly separated (`SortedS`), each ending in front of a line
    break or at the end of the source (`TermOk`): every entry is `fa_Seg` -/
theorem fa_getLines_seg {src : List Char} {offs : List LineOffset}
    (hT : ∀ (k : Nat) (o : LineOffset), offs[k]? = some o → Block.LineOk src o)
    (hord : Block.SortedS offs) (hterm : TermOk src offs)
    {b e indent : Nat} {c : List Char} {m : Srcmap} (hnv : NoVirt m) (hbe : b < e)
    (h : Lines.getLines src offs b e indent false = .ok (c, m)) :
    C05.WFMap m ∧ SegAll (fa_Seg src c) m := by
  obtain ⟨oe, hoe⟩ := C05I.getLines_last hbe h
  obtain ⟨hs, h0⟩ := C05I.getLines_lseg (T := True) hT hord (fun _ => hterm) hbe h hoe
  exact ⟨C05I.seg_wf (C05I.SegAll.imp C05I.LSeg.seg hs) h0, lseg_fa hs hnv⟩

theorem fa_getLines_pfth_nv {src : List Char} {offs : List LineOffset}
    (hT : ∀ (k : Nat) (o : LineOffset), offs[k]? = some o → Block.LineOk src o)
    (hord : Block.SortedS offs) (hterm : TermOk src offs)
    {b e indent : Nat} {c : List Char} {m : Srcmap} (hnv : C05I.NoVirt m) (hbe : b < e)
    (h : Lines.getLines src offs b e indent false = .ok (c, m)) : PFth src c m :=
  (fa_getLines_seg hT hord hterm hnv hbe h).elim fa_pfth_of_seg

/-- **the table of an ATX heading is faithful**: its content is a line-feed-free slice of the line -/
theorem fa_heading_pfth {s : Block.BState} {o : LineOffset} (hl : Block.LineOk s.src o)
    (ho : s.offs[s.line]? = some o) {line content : List Char} {textPos textMax : Nat}
    (hline : s.getLine s.line = .ok line)
    (hcontent : Block.liftL (Lines.slice line textPos textMax) = .ok content) :
    PFth s.src content [(0, o.firstNonspace + textPos)] :=
  fa_pfth_of_seg (C05I.single_table content _).1
    (lseg_fa (C05I.heading_lseg hl ho hline hcontent) (C05I.single_table content _).2.2.2.1)

end MdIt.C05R

namespace MdIt.Block
open MdIt.Lines (LineOffset)

/-- `PFull` with the weakest hypothesis: faithfulness whenever THIS table has no virtual-space entry -/
def PFullV (src0 : List Char) : InlP := fun c m a b =>
  PMapF src0 c m a b ∧ (C05I.NoVirt m → C05R.PFth src0 c m) ∧
    (b = InlineOps.byteLen src0 ∨ C05R.BrkAt src0 b)

theorem inlSpec3_pfullV (src0 : List Char) : InlSpec3 src0 (PFullV src0) := by
  refine ⟨?_, ?_⟩
  · intro s b e c m ob oe hg hgl hbe hob hoe hkept
    refine ⟨(inlSpec2_pmapF src0).lines s b e c m ob oe hg.g2 hgl hbe hob hoe hkept, ?_, ?_⟩
    · intro hnv
      have := C05R.fa_getLines_pfth_nv hg.g2.geo.table hg.g2.strict hg.term hnv hbe
        (C05I.getLines_lift hgl)
      rw [hg.g2.srcEq] at this
      exact this
    · have := hg.term (e - 1) oe hoe
      rw [hg.g2.srcEq] at this
      exact this
  · intro s o line content textPos textMax hg ho hline hcontent
    refine ⟨(inlSpec2_pmapF src0).heading s o line content textPos textMax hg.g2 ho hline hcontent, ?_, ?_⟩
    · intro _
      have := C05R.fa_heading_pfth (hg.g2.geo.table _ _ ho) ho hline hcontent
      rw [hg.g2.srcEq] at this
      exact this
    · have := hg.term s.line o ho
      rw [hg.g2.srcEq] at this
      exact this

/-- in a tab-free document no table has a virtual-space entry (`PMapF`) -/
theorem PFullV.pfull {src0 c : List Char} {m : List (Nat × Nat)} {a b : Nat} (h : PFullV src0 c m a b) :
    PFull src0 c m a b :=
  ⟨h.1, fun htab => h.2.1 (h.1.2.2.2.2.2.1 htab), h.2.2⟩

/-- **the block pass establishes the full claim at every placeholder**: `PMapF`, faithfulness of the
    content in a tab-free document, and the stretch ends at the end of a line -/
theorem inlSpec3_pfull (src0 : List Char) : InlSpec3 src0 (PFull src0) :=
  ⟨fun s b e c m ob oe hg hgl hbe hob hoe hkept =>
      ((inlSpec3_pfullV src0).lines s b e c m ob oe hg hgl hbe hob hoe hkept).pfull,
    fun s o line content textPos textMax hg ho hline hcontent =>
      ((inlSpec3_pfullV src0).heading s o line content textPos textMax hg ho hline hcontent).pfull⟩

/-- non-vacuity of the weaker hypothesis: `"> a\tb"` contains a tab that is not split; the table
    `[(0,2)]` is `NoVirt` -/
example : (parseBlocks (Pipeline.exCfg false 100).blockCfg ['>', ' ', 'a', '\t', 'b']).toOption.map
      (fun r => Pipeline.inlOf r.1) = some [(['a', '\t', 'b'], [(0, 2)])] ∧
    C05I.NoVirt [(0, 2)] :=
  ⟨by decide +kernel, (C05I.single_table [] 2).2.2.2.1⟩

end MdIt.Block

/-! ## non-vacuity -/

namespace MdIt.C05R
open MdIt.Lines (LineOffset)

/-- `"> a\n> b"` -/
def fa_exSrc : List Char := ['>', ' ', 'a', '\n', '>', ' ', 'b']

/-- its line table as the block-quote rule leaves it (`first_nonspace` behind the markers) -/
def fa_exOffs : List LineOffset := [⟨0, 3, 2, 0⟩, ⟨4, 7, 6, 0⟩]

/-- the block pass makes ONE placeholder for the quoted two-line paragraph: content `"a\nb"`, table
    `[(0,2),(2,6)]`; `bqRewrite` produces the two entries of `fa_exOffs`; `get_lines` on them returns
    that content and table -/
example : (Block.parseBlocks (Pipeline.exCfg false 100).blockCfg fa_exSrc).toOption.map
      (fun r => Pipeline.inlOf r.1) = some [(['a', '\n', 'b'], [(0, 2), (2, 6)])] ∧
    (Block.bqRewrite fa_exSrc ⟨0, 3, 0, 0⟩ [' ', 'a']).toOption.map (·.1) = some ⟨0, 3, 2, 0⟩ ∧
    (Block.bqRewrite fa_exSrc ⟨4, 7, 4, 0⟩ [' ', 'b']).toOption.map (·.1) = some ⟨4, 7, 6, 0⟩ ∧
    Lines.getLines fa_exSrc fa_exOffs 0 2 0 false = .ok (['a', '\n', 'b'], [(0, 2), (2, 6)]) := by
  decide +kernel

/-- the hypotheses of `fa_getLines_pfth_nv` hold of that table … -/
theorem fa_ex_pfth : PFth fa_exSrc ['a', '\n', 'b'] [(0, 2), (2, 6)] := by
  have hT : ∀ (k : Nat) (o : LineOffset), fa_exOffs[k]? = some o → Block.LineOk fa_exSrc o := by
    intro k o h
    match k, h with
    | 0, h =>
      simp only [fa_exOffs, List.getElem?_cons_zero, Option.some.injEq] at h
      subst h
      exact ⟨[], ['>', ' '], ['a'], ['\n', '>', ' ', 'b'], by decide, by decide, by decide, by decide,
        by decide, by decide⟩
    | 1, h =>
      simp only [fa_exOffs, List.getElem?_cons_succ, List.getElem?_cons_zero, Option.some.injEq] at h
      subst h
      exact ⟨['>', ' ', 'a', '\n'], ['>', ' '], ['b'], [], by decide, by decide, by decide, by decide,
        by decide, by decide⟩
    | k + 2, h => simp [fa_exOffs] at h
  have hS : Block.SortedS fa_exOffs := by
    intro i j o o' hij hi hj
    match i, j, hij, hi, hj with
    | 0, 1, _, hi, hj =>
      simp only [fa_exOffs, List.getElem?_cons_succ, List.getElem?_cons_zero, Option.some.injEq] at hi hj
      subst hi hj
      decide
    | 0, j + 2, _, _, hj => simp [fa_exOffs] at hj
    | i + 1, j + 2, _, _, hj => simp [fa_exOffs] at hj
    | i + 1, 1, h, _, _ => omega
  have hterm : TermOk fa_exSrc fa_exOffs := by
    intro k o h
    match k, h with
    | 0, h =>
      simp only [fa_exOffs, List.getElem?_cons_zero, Option.some.injEq] at h
      subst h
      exact .inr ⟨['>', ' ', 'a'], '\n', ['>', ' ', 'b'], by decide, by decide, .inl rfl⟩
    | 1, h =>
      simp only [fa_exOffs, List.getElem?_cons_succ, List.getElem?_cons_zero, Option.some.injEq] at h
      subst h
      exact .inl (by decide)
    | k + 2, h => simp [fa_exOffs] at h
  have hnv : C05I.NoVirt [(0, 2), (2, 6)] := by
    intro i k1 v1 k2 v2 h1 h2
    match i, h1, h2 with
    | 0, h1, h2 =>
      simp only [List.getElem?_cons_zero, List.getElem?_cons_succ, Option.some.injEq, Prod.mk.injEq] at h1 h2
      omega
    | i + 1, _, h2 => simp at h2
  exact fa_getLines_pfth_nv hT hS hterm hnv (by decide : 0 < 2) (indent := 0) (by decide +kernel)

/-- … and `copy` maps the second line `c[2..3] = "b"` to `src[6..7]`; across the line feed
    (`c[0..3] = "a\nb"`, translated to `src[2..7]`) `brk` finds the line break of the source -/
example : Cut fa_exSrc 6 7 ['b'] ∧ ∀ w', Cut fa_exSrc 2 7 w' → ¬ NoBrk w' :=
  ⟨fa_ex_pfth.copy 2 3 ['b'] 6 7 ⟨['a', '\n'], [], by decide, by decide, by decide⟩ (by decide)
      (by decide +kernel) (by decide +kernel),
    fun w' h => fa_ex_pfth.brk 0 3 ['a', '\n', 'b'] 2 7 w' ⟨[], [], by decide, by decide, by decide⟩
      (by decide) (by decide +kernel) (by decide +kernel) h⟩

/-- the hypothesis `NoVirt` is needed: `"- `\n\ta `"` (item content at column 2, the tab of the
    continuation line reaches column 4 and is split into two virtual spaces): the placeholder is
    `"`\n  a `"` with the table `[(0,2),(2,5),(4,5)]`; the stretch `c[2..4] = "  "` holds no line feed
    and is translated to `src[5..5] = ""`: `copy` fails -/
example : (Block.parseBlocks (Pipeline.exCfg false 100).blockCfg ['-', ' ', '`', '\n', '\t', 'a', ' ', '`']).toOption.map
      (fun r => Pipeline.inlOf r.1) = some [(['`', '\n', ' ', ' ', 'a', ' ', '`'], [(0, 2), (2, 5), (4, 5)])] ∧
    InlineOps.slice ['`', '\n', ' ', ' ', 'a', ' ', '`'] 2 4 = .ok [' ', ' '] ∧
    InlineOps.getSourcePosFor [(0, 2), (2, 5), (4, 5)] 2 = .ok 5 ∧
    InlineOps.getSourcePosFor [(0, 2), (2, 5), (4, 5)] 4 = .ok 5 ∧
    InlineOps.slice ['-', ' ', '`', '\n', '\t', 'a', ' ', '`'] 5 5 = .ok [] := by decide +kernel

end MdIt.C05R
