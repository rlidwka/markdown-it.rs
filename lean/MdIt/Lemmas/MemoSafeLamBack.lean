/-
  For `Props/MemoSafe.lean`: the per-rule comparison (L2) for the
  CODE-SPAN rule, whose verdict reads a cache (`st.backticks`) that differs between the witness state
  `st0` and the later state `s`.

  The cache has two parts with different status:
    * the closer table (`scanned`, `scannedFrom`, `scannedTo`, `max`) only saves work
      (`CodePair.cache_transparent`, under `CacheInv` and "no `pos_max` cuts a run of backticks");
    * `insideFailed` is part of the rule's MEANING: a call at a remembered position answers `None`
      whatever the text says (`CodePair.inside_hit`).
  So two caches give the same verdict at `pos` as soon as they agree on `insideFailed.contains pos`
  (`CodePair.run_cache_indep`) — and NO invariant `B src cache` that holds for the empty cache and is kept
  by the rule can give more: `back_L2_needs_inside` shows two caches, both reachable from the empty one,
  with different verdicts at a position strictly inside a run of backticks.

    * `BInv`                   — `CacheInv ∧ InsideInv`; `BInv.empty`, `backOK_BInv : BackOK BInv`;
    * `back_L2`                — the analogue of `flat_L2`, with the hypothesis `hins` on `insideFailed`;
    * `inside_agree_of_not_interior` — `hins` holds (both sides `false`) at every position that is not
                                 strictly inside a run of backticks;
    * `ruleBackticks_inside_mono` — `insideFailed` only grows.
-/
import MdIt.Lemmas.MemoSafeLamFlat

/-! ## `MdIt.CodePair`: the verdict across caches -/

namespace MdIt.CodePair

/-- **two caches, same verdict**: both satisfy the invariant of the closer table, `posMax` cuts no run
    (or is the `pos_max` the table was filled under), and they agree on whether `pos` is remembered as
    lying inside a failed opener -/
theorem run_cache_indep (v : Variant) (hr : v.ranged = true) (hck : v.checked = true) (m : Char)
    (hm1 : m.utf8Size = 1) (src : List Char) (pos posMax : Nat) (prev silent : Bool) (c d : Cache)
    (hc : CacheInv m src c) (hd : CacheInv m src d)
    (hcc : posMax = c.scannedTo ∨ NoCut m src posMax) (hcd : posMax = d.scannedTo ∨ NoCut m src posMax)
    (hin : c.insideFailed.contains pos = d.insideFailed.contains pos) :
    (run v m src pos posMax prev silent c).map Prod.fst =
      (run v m src pos posMax prev silent d).map Prod.fst := by
  rw [cache_transparent v hr hck m hm1 src pos posMax prev silent c hc hcc,
    cache_transparent v hr hck m hm1 src pos posMax prev silent d hd hcd]
  cases hu : slice src pos posMax with
  | none => simp [run, hu]
  | some u =>
    cases u with
    | nil => simp [run, hu]
    | cons ch rest =>
      by_cases hch : ch = m
      · subst hch
        obtain ⟨x, T, Z, _, hT, _, _, f⟩ := run_frame hm1 hu
        rw [run_marker v ch prev silent _ hu, run_marker v ch prev silent _ hu]
        have hnc : ∀ e : Cache, consultable v pos posMax { e with scanned := false } = false := by
          intro e; simp [consultable]
        simp only [hnc, Bool.false_eq_true, if_false, hin]
        split
        · rfl
        · split
          · rfl
          · exact scan_verdict_indep v ch hm1 src pos _ posMax (1 + runLen ch rest) silent _ Z T [] _ _ _ f
      · rw [run_other v m prev silent _ hu hch, run_other v m prev silent _ hu hch]; rfl

/-- `insideFailed` only grows -/
theorem run_inside_mono (v : Variant) (m : Char) (hm1 : m.utf8Size = 1) (src : List Char)
    (pos posMax : Nat) (prev silent : Bool) (c : Cache) (r : Option Outcome) (c' : Cache)
    (h : run v m src pos posMax prev silent c = .ok (r, c')) :
    ∀ q ∈ c.insideFailed, q ∈ c'.insideFailed := by
  have hmark : ∀ (a b : Nat) (e : Cache), ∀ q ∈ e.insideFailed, q ∈ (markInside v a b e).insideFailed := by
    intro a b e q hq
    unfold markInside
    split
    · simp [hq]
    · exact hq
  cases run_effect hm1 h with
  | declined _ => exact fun q hq => hq
  | hit _ _ _ _ _ _ _ _ _ _ => exact fun q hq => hq
  | table _ _ _ => exact hmark _ _ _
  | miss _ _ _ _ _ _ => intro q hq; rw [insideFailed_done]; exact hmark _ _ _ q hq

end MdIt.CodePair

/-! ## the code-span rule of the inline parser -/

namespace MdIt.Inline
open MdIt.InlineOps (byteLen slice)
open MdIt.C05 (slice_ok_iff)

/-- the invariant of the code-span cache: the closer table is sound, and every remembered position lies
    strictly inside a run of backticks -/
def BInv (src : List Char) (c : CodePair.Cache) : Prop :=
  CodePair.CacheInv '`' src c ∧ CodePair.InsideInv '`' src c

theorem BInv.empty (src : List Char) : BInv src CodePair.Cache.empty :=
  ⟨CodePair.CacheInv.empty _ _, CodePair.InsideInv.empty _ _⟩

/-- the cache a call of `ruleBackticks` leaves is the cache `CodePair.run` leaves -/
theorem ruleBackticks_run {st : IState} {silent : Bool} {o : Option Nat} {st' : IState}
    (h : ruleBackticks st silent = .ok (o, st')) :
    st'.src = st.src ∧ ∃ oc, CodePair.run CodePair.Variant.current '`' st.src st.pos st.posMax false
      silent st.backticks = .ok (oc, st'.backticks) ∧ o = oc.map (·.len) := by
  obtain ⟨oc, c, hrun, ho, _, rfl⟩ := ruleBackticks_ok h
  exact ⟨rfl, oc, hrun, ho⟩

/-- **`BInv` is kept by the code-span rule, both modes, every state** -/
theorem backOK_BInv : BackOK BInv := by
  intro st silent o st' h hb
  obtain ⟨hsrc, oc, hrun, _⟩ := ruleBackticks_run h
  rw [hsrc]
  exact ⟨CodePair.cacheInv_run _ rfl rfl '`' backtick_size _ _ _ _ _ _ _ _ hb.1 hrun,
    (CodePair.insideInv_run _ '`' backtick_size _ _ _ _ _ _ _ _ hb.2 hrun).1⟩

/-- `insideFailed` only grows -/
theorem ruleBackticks_inside_mono {st : IState} {silent : Bool} {o : Option Nat} {st' : IState}
    (h : ruleBackticks st silent = .ok (o, st')) :
    ∀ q ∈ st.backticks.insideFailed, q ∈ st'.backticks.insideFailed := by
  obtain ⟨_, oc, hrun, _⟩ := ruleBackticks_run h
  exact CodePair.run_inside_mono _ '`' backtick_size _ _ _ _ _ _ _ _ hrun

/-- the look-ahead verdict of the code-span rule as a function of `(src, pos, posMax, cache)` -/
def backV (src : List Char) (pos posMax : Nat) (c : CodePair.Cache) :
    Except CodePair.Panic (Option Nat) :=
  (CodePair.run CodePair.Variant.current '`' src pos posMax false true c).map
    (fun r => r.1.map (·.len))

theorem ruleBackticks_silent_V (st : IState) (o : Option Nat) :
    (∃ s1, ruleBackticks st true = .ok (o, s1)) ↔
      backV st.src st.pos st.posMax st.backticks = .ok o := by
  unfold backV
  constructor
  · rintro ⟨s1, h⟩
    obtain ⟨_, oc, hrun, ho⟩ := ruleBackticks_run h
    rw [hrun, ho]; rfl
  · intro h
    cases hrun : CodePair.run CodePair.Variant.current '`' st.src st.pos st.posMax false true
        st.backticks with
    | error e => rw [hrun] at h; simp [Except.map] at h
    | ok r =>
      obtain ⟨oc, c⟩ := r
      rw [hrun] at h
      simp only [Except.map, Except.ok.injEq] at h
      unfold ruleBackticks
      rw [hrun]
      cases o with
      | none => rw [Option.map_eq_none_iff.mp h]; exact ⟨_, rfl⟩
      | some n => rw [(run_silent_len hrun n).mp h]; exact ⟨_, rfl⟩

theorem backV_some_iff (src : List Char) (pos posMax : Nat) (c : CodePair.Cache) (n : Nat) :
    backV src pos posMax c = .ok (some n) ↔
      ∃ c', CodePair.run CodePair.Variant.current '`' src pos posMax false true c
        = .ok (some ⟨n, none⟩, c') := by
  unfold backV
  cases hrun : CodePair.run CodePair.Variant.current '`' src pos posMax false true c with
  | error e => simp [Except.map]
  | ok r =>
    obtain ⟨oc, c'⟩ := r
    simp only [Except.map, Except.ok.injEq, Prod.mk.injEq, run_silent_len hrun n]
    exact ⟨fun h => ⟨_, h, rfl⟩, fun ⟨_, h, _⟩ => h⟩

/-- `pos_max = M'` cuts no run of backticks: the character there is `]`, or `M'` is the outer `pos_max` -/
theorem WinHyp.noCut {st : IState} {M' : Nat} (h : WinHyp st M')
    (hnc : CodePair.NoCut '`' st.src st.posMax) : CodePair.NoCut '`' st.src M' := by
  rcases h.cut with e | ⟨r, hr⟩
  · rw [e]; exact hnc
  · rintro ⟨_, _, hc⟩
    obtain ⟨p, q, e, l1, _⟩ := (slice_ok_iff _ _ _ _).mp hr
    have hat : CodePair.charAt st.src M' = some ']' := by
      have := CodePair.charAt_append_add p (']' :: r ++ q) 0
      rw [CodePair.charAt_zero, codeByteLen_eq, l1] at this
      rw [e, List.append_assoc]
      simpa using this
    rw [hat] at hc
    exact absurd hc (by decide)

/-- window independence of the code-span verdict, on one cache -/
theorem backV_window {st : IState} {M' : Nat} (h : WinHyp st M') {c : CodePair.Cache}
    (hinv : CodePair.CacheInv '`' st.src c) (hnc : CodePair.NoCut '`' st.src st.posMax) (n : Nat) :
    (backV st.src st.pos st.posMax c = .ok (some n) ∧ st.pos + n ≤ M') ↔
      backV st.src st.pos M' c = .ok (some n) := by
  rw [backV_some_iff, backV_some_iff]
  obtain ⟨_, w', _, _, _, hw'len, hsl'⟩ := slice_of_boundaries h.bpos h.bcut (Nat.le_of_lt h.lt)
  obtain ⟨_, S, _, _, _, hSlen, hslS⟩ := slice_of_boundaries h.bcut h.bmax h.le
  have hne : w' ≠ [] := by
    intro e; subst e; have := h.lt; simp only [byteLen] at hw'len; omega
  have hS : S.head? ≠ some '`' := by
    rcases h.cut with e | ⟨r, hr⟩
    · have : S = [] := byteLen_eq_zero (by omega)
      subst this; simp
    · rw [hslS] at hr
      simp only [Except.ok.injEq] at hr
      subst hr; simp
  exact CodePair.run_window CodePair.Variant.current rfl rfl '`' backtick_size st.src st.pos st.posMax M'
    false c hinv (.inr hnc) (.inr (h.noCut hnc)) ((codeSlice_eq _ _ _ _).mpr hsl') hne
    ((codeSlice_eq _ _ _ _).mpr hslS) hS ⟨n, none⟩

/-- the code-span verdict on two caches that agree on `insideFailed.contains pos` -/
theorem backV_cache_indep {src : List Char} {pos posMax : Nat} {c d : CodePair.Cache}
    (hc : CodePair.CacheInv '`' src c) (hd : CodePair.CacheInv '`' src d)
    (hnc : CodePair.NoCut '`' src posMax)
    (hin : c.insideFailed.contains pos = d.insideFailed.contains pos) :
    backV src pos posMax c = backV src pos posMax d := by
  have := CodePair.run_cache_indep CodePair.Variant.current rfl rfl '`' backtick_size src pos posMax
    false true c d hc hd (.inr hnc) (.inr hnc) hin
  unfold backV
  cases h1 : CodePair.run CodePair.Variant.current '`' src pos posMax false true c with
  | error e1 =>
    cases h2 : CodePair.run CodePair.Variant.current '`' src pos posMax false true d with
    | error e2 => rw [h1, h2] at this; simp only [Except.map, Except.error.injEq] at this ⊢; exact this
    | ok r2 => rw [h1, h2] at this; simp [Except.map] at this
  | ok r1 =>
    cases h2 : CodePair.run CodePair.Variant.current '`' src pos posMax false true d with
    | error e2 => rw [h1, h2] at this; simp [Except.map] at this
    | ok r2 =>
      rw [h1, h2] at this
      simp only [Except.map, Except.ok.injEq] at this ⊢
      rw [this]

/-- **L2 for the code-span rule**: look-ahead verdict at the witness state `st0` (cache
    `st0.backticks`, the top `pos_max`, which cuts no run of backticks) against the REAL verdict at `s`
    (cache `s.backticks`, `s.posMax ≤ st0.posMax` with `]` there), both caches satisfying `BInv`.
    `hins`: the two caches agree on whether the position is remembered as lying inside a failed opener
    (automatic off the interior of a run of backticks: `inside_agree_of_not_interior`; needed inside one:
    `back_L2_needs_inside`). -/
theorem back_L2 {st0 s : IState} (h : WinHyp st0 s.posMax) (hsrc : s.src = st0.src)
    (hpos : s.pos = st0.pos) (hb0 : BInv st0.src st0.backticks) (hb1 : BInv s.src s.backticks)
    (hnc : CodePair.NoCut '`' st0.src st0.posMax)
    (hins : st0.backticks.insideFailed.contains st0.pos = s.backticks.insideFailed.contains s.pos) :
    ∀ o0 st0' o s', ruleBackticks st0 true = .ok (o0, st0') → ruleBackticks s false = .ok (o, s') →
      (o0 = none → o = none) ∧ (∀ n, o0 = some n → st0.pos + n ≤ s.posMax → o = some n) := by
  intro o0 st0' o s' h0 h1
  have hv0 := (ruleBackticks_silent_V st0 o0).mp ⟨st0', h0⟩
  have hv1 := (ruleBackticks_silent_V s o).mp (ruleBackticks_real_silent h1)
  rw [hsrc, hpos] at hv1
  rw [hsrc] at hb1
  rw [hpos] at hins
  -- the verdict at `s` is the verdict of the witness cache under the small `pos_max`
  have hv2 : backV st0.src st0.pos s.posMax st0.backticks = .ok o := by
    rw [backV_cache_indep hb0.1 hb1.1 (h.noCut hnc) hins]; exact hv1
  cases o with
  | none =>
    refine ⟨fun _ => rfl, ?_⟩
    intro n hn hle
    subst hn
    have := (backV_window h hb0.1 hnc n).mp ⟨hv0, hle⟩
    rw [hv2] at this
    simp at this
  | some m =>
    obtain ⟨hm, _⟩ := (backV_window h hb0.1 hnc m).mpr hv2
    rw [hv0] at hm
    simp only [Except.ok.injEq] at hm
    subst hm
    exact ⟨fun h => by simp at h, fun n hn _ => hn⟩

/-- a remembered position: the rule declines, whatever the mode -/
theorem ruleBackticks_inside_declines {s : IState} {silent : Bool} {o : Option Nat} {s' : IState}
    (hmem : s.backticks.insideFailed.contains s.pos = true)
    (h : ruleBackticks s silent = .ok (o, s')) : o = none := by
  obtain ⟨_, oc, hrun, ho⟩ := ruleBackticks_run h
  have := (CodePair.inside_hit _ rfl '`' _ _ _ _ _ _ _ _ hmem hrun).1
  rw [ho, this]; rfl

/-- **the `None` half of `back_L2` needs only that `insideFailed` grew** from the witness cache to the
    later one (`ruleBackticks_inside_mono`): a look-ahead `None` at `st0` is a real `None` at `s` -/
theorem back_L2_none {st0 s : IState} (h : WinHyp st0 s.posMax) (hsrc : s.src = st0.src)
    (hpos : s.pos = st0.pos) (hb0 : BInv st0.src st0.backticks) (hb1 : BInv s.src s.backticks)
    (hnc : CodePair.NoCut '`' st0.src st0.posMax)
    (hsub : st0.backticks.insideFailed.contains st0.pos = true →
      s.backticks.insideFailed.contains s.pos = true) :
    ∀ st0' o s', ruleBackticks st0 true = .ok (none, st0') → ruleBackticks s false = .ok (o, s') →
      o = none := by
  intro st0' o s' h0 h1
  cases hc : s.backticks.insideFailed.contains s.pos with
  | true => exact ruleBackticks_inside_declines hc h1
  | false =>
    have hins : st0.backticks.insideFailed.contains st0.pos = s.backticks.insideFailed.contains s.pos := by
      cases hc0 : st0.backticks.insideFailed.contains st0.pos with
      | true => rw [hsub hc0] at hc; cases hc
      | false => rw [hc]
    exact (back_L2 h hsrc hpos hb0 hb1 hnc hins none st0' o s' h0 h1).1 rfl

/-- the same through `runRule` (the shape of `flat_L2`) -/
theorem back_L2_runRule {cfg : Cfg} {skip tok skip' tok' : IState → Except Panic IState}
    {fuel fuel' : Nat} {st0 s : IState} (h : WinHyp st0 s.posMax) (hsrc : s.src = st0.src)
    (hpos : s.pos = st0.pos) (hb0 : BInv st0.src st0.backticks) (hb1 : BInv s.src s.backticks)
    (hnc : CodePair.NoCut '`' st0.src st0.posMax)
    (hins : st0.backticks.insideFailed.contains st0.pos = s.backticks.insideFailed.contains s.pos) :
    ∀ o0 st0' o s', runRule cfg skip tok fuel .backticks st0 true = .ok (o0, st0') →
      runRule cfg skip' tok' fuel' .backticks s false = .ok (o, s') →
      (o0 = none → o = none) ∧ (∀ n, o0 = some n → st0.pos + n ≤ s.posMax → o = some n) := by
  intro o0 st0' o s' h0 h1
  unfold runRule at h0 h1
  exact back_L2 h hsrc hpos hb0 hb1 hnc hins o0 st0' o s' (liftR_ok.mp h0) (liftR_ok.mp h1)

/-- `hins` holds, both sides `false`, at every position that is not strictly inside a run of backticks
    (no backtick before it, or none at it) -/
theorem inside_agree_of_not_interior {src : List Char} {pos : Nat} {c d : CodePair.Cache}
    (hc : BInv src c) (hd : BInv src d)
    (hni : ¬ (0 < pos ∧ CodePair.charAt src (pos - 1) = some '`' ∧ CodePair.charAt src pos = some '`')) :
    c.insideFailed.contains pos = d.insideFailed.contains pos := by
  have key : ∀ e : CodePair.Cache, BInv src e → e.insideFailed.contains pos = false := by
    intro e he
    cases hcon : e.insideFailed.contains pos with
    | false => rfl
    | true =>
      exfalso
      exact hni (he.2 pos (by simpa using hcon))
  rw [key c hc, key d hd]

/-! ### no invariant of `(src, cache)` alone can do without `hins` -/

/-- **negation witness**: text ``` ``a` ```.  The empty cache `c0` and the cache `c1` left by a (failed)
    look-ahead call at position 0 both satisfy every invariant that holds for the empty cache and is kept
    by the rule; at position 1 (strictly inside the run of two backticks) `c0` answers `Some(3)` (opener
    `` ` `` at 1, closer at 3) and `c1` answers `None` (position 1 is remembered as lying inside the failed
    opener at 0).  The verdict at an interior position depends on whether the run's start was tried before
    WITH THE SAME CACHE — a fact about the history of the run, not about `(src, cache)`. -/
theorem back_L2_needs_inside :
    let src := ['`', '`', 'a', '`']
    let st0 := exState src 0 4
    ∃ c1, (∃ o, (ruleBackticks st0 true).map (fun r => (r.1, r.2.backticks)) = .ok (o, c1)) ∧
      verdictOf (ruleBackticks (exState src 1 4) true) = some (some 3) ∧
      verdictOf (ruleBackticks { exState src 1 4 with backticks := c1 } true) = some none := by
  refine ⟨⟨true, 0, 4, [0, 3], [1]⟩, ⟨none, by decide +kernel⟩, by decide +kernel, by decide +kernel⟩

end MdIt.Inline
