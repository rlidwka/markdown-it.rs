/-
  For `Props/MemoSafe.lean`: REPLAY of label walks.

  `pwalk src M m en fuel level p` is the label walk of `parse_link_label` (`labelLoop`,
  `Model/Inline.lean`) done on the MEMO ALONE: it follows memo entries, never runs a rule; it ends
  with the verdict of the walk (`done`), at a position without memo entry (`miss`), or at an entry
  that ends beyond `pos_max = M` (`beyond` — the hit the guard of `skipTokenG` is about).

  The completed walks are the relation `Walk src M m en k level p res x` (`k` memo entries followed), one
  constructor per way a step of the loop can go; `pwalk_done_iff` reads the function once: `pwalk` ends
  with a verdict iff there is a walk shorter than the fuel.  Every fact about `pwalk` below is an
  induction over `Walk`.

    * `labelLoop_replay`  — where the memo walk ends with a verdict, `labelLoop` over ANY `skip_token`
      that follows memo hits (the model's and the guarded one, at every fuel ≥ 1, at EVERY nesting
      level) returns that verdict at that position and changes nothing (`Walk.replay`: at any fuel);
    * `labelLoop_records` — a completed `labelLoop` leaves a memo on which — and on every extension of
      which — the memo walk from the same start ends with the same verdict at the same position;
    * `pwalk_mono` (more memo), `pwalk_shrink_found` / `pwalk_frame` (smaller `pos_max`: inside the
      label the walk has found it is replayed up to the label end, where the window is empty),
      `pwalk_level_le` (a walk along the same entries at a LOWER bracket level stops no later),
      `pwalk_path` (the positions of a memo walk form a memo path: with `closed_of_path` the frame
      entry condition), `pwalk_fuel`.
-/
import MdIt.Lemmas.MemoSafeDef

namespace MdIt.Inline
open MdIt.InlineOps (byteLen slice)

/-- how a label walk over the memo alone ends -/
inductive PW where
  /-- the walk ends with the verdict of `labelLoop` at this position -/
  | done (res : Option Bool) (pos : Nat)
  /-- no memo entry at this position: a rule would have to run -/
  | miss (pos : Nat)
  /-- the memo entry at `pos` ends at `x`, beyond `pos_max` -/
  | beyond (pos x : Nat)
  /-- out of fuel / the window cannot be sliced / `state.pos - 1` underflows -/
  | stuck
  deriving DecidableEq, Repr

/-- `labelLoop` with `skip_token` replaced by the memo lookup -/
def pwalk (src : List Char) (M : Nat) (m : List (Nat × Nat)) (en : Bool) : Nat → Int → Nat → PW
  | 0, _, _ => .stuck
  | fuel + 1, level, p =>
    match slice src p M with
    | .error _ => .stuck
    | .ok [] => .done (some false) p
    | .ok (ch :: _) =>
      if ch = ']' ∧ level - 1 = 0 then .done (some true) p
      else
        let level := if ch = ']' then level - 1 else level
        match m.lookup p with
        | none => .miss p
        | some x =>
          if M < x then .beyond p x
          else if ch = '[' then
            if x = 0 then .stuck
            else if p = x - 1 then pwalk src M m en fuel (level + 1) x
            else if !en then .done none x
            else pwalk src M m en fuel level x
          else pwalk src M m en fuel level x

theorem pwalk_cons {src : List Char} {M : Nat} {m : List (Nat × Nat)} {en : Bool} {n : Nat}
    {level : Int} {p : Nat} {ch : Char} {rest : List Char} (hsl : slice src p M = .ok (ch :: rest)) :
    pwalk src M m en (n + 1) level p =
      if ch = ']' ∧ level - 1 = 0 then .done (some true) p
      else
        match m.lookup p with
        | none => .miss p
        | some x =>
          if M < x then .beyond p x
          else if ch = '[' then
            if x = 0 then .stuck
            else if p = x - 1 then pwalk src M m en n ((if ch = ']' then level - 1 else level) + 1) x
            else if !en then .done none x
            else pwalk src M m en n (if ch = ']' then level - 1 else level) x
          else pwalk src M m en n (if ch = ']' then level - 1 else level) x := by
  rw [pwalk, hsl]

theorem pwalk_nil {src : List Char} {M : Nat} {m : List (Nat × Nat)} {en : Bool} {n : Nat}
    {level : Int} {p : Nat} (hsl : slice src p M = .ok []) :
    pwalk src M m en (n + 1) level p = .done (some false) p := by
  rw [pwalk, hsl]

/-! ## the completed walks as a relation -/

/-- the bracket level behind the character `ch` at `p` whose memo entry ends at `y` -/
def walkLevel (ch : Char) (level : Int) (p y : Nat) : Int :=
  if ch = '[' ∧ p = y - 1 then (if ch = ']' then level - 1 else level) + 1
  else if ch = ']' then level - 1 else level

/-- a completed label walk over the memo alone: `k` entries followed from `p` at bracket level `level`,
    verdict `res` at `x` -/
inductive Walk (src : List Char) (M : Nat) (m : List (Nat × Nat)) (en : Bool) :
    Nat → Int → Nat → Option Bool → Nat → Prop
  /-- the window is empty -/
  | eof {level : Int} {p : Nat} : slice src p M = .ok [] → Walk src M m en 0 level p (some false) p
  /-- the closing bracket -/
  | close {level : Int} {p : Nat} {r : List Char} : slice src p M = .ok (']' :: r) → level - 1 = 0 →
      Walk src M m en 0 level p (some true) p
  /-- a `[` whose entry is longer than the character, nesting not allowed: the early `None` -/
  | stop {level : Int} {p y : Nat} {r : List Char} : slice src p M = .ok ('[' :: r) →
      m.lookup p = some y → y ≤ M → y ≠ 0 → p ≠ y - 1 → en = false →
      Walk src M m en 0 level p none y
  /-- follow the entry `p ↦ y` -/
  | step {k : Nat} {level : Int} {p y : Nat} {ch : Char} {r : List Char} {res : Option Bool} {x : Nat} :
      slice src p M = .ok (ch :: r) → ¬ (ch = ']' ∧ level - 1 = 0) → m.lookup p = some y → y ≤ M →
      (ch = '[' → y ≠ 0 ∧ (p = y - 1 ∨ en = true)) →
      Walk src M m en k (walkLevel ch level p y) y res x → Walk src M m en (k + 1) level p res x

/-- behind a character that does not close the label the level stays positive -/
theorem walkLevel_pos {ch : Char} {level : Int} {p y : Nat} (h1 : 1 ≤ level)
    (hfd : ¬ (ch = ']' ∧ level - 1 = 0)) : 1 ≤ walkLevel ch level p y := by
  unfold walkLevel
  split
  · split <;> omega
  · split
    · next hc => have : ¬ (level - 1 = 0) := fun h0 => hfd ⟨hc, h0⟩; omega
    · exact h1

/-- the level difference of two walks over the same entry is kept -/
theorem walkLevel_sub (ch : Char) (level level' : Int) (p y : Nat) :
    walkLevel ch level p y - walkLevel ch level' p y = level - level' := by
  unfold walkLevel; split <;> split <;> omega

/-- **the function read once**: `pwalk` ends with a verdict iff there is a walk shorter than the fuel -/
theorem pwalk_done_iff {src : List Char} {M : Nat} {m : List (Nat × Nat)} {en : Bool} :
    ∀ {n : Nat} {level : Int} {p : Nat} {res : Option Bool} {x : Nat},
      pwalk src M m en n level p = .done res x ↔ ∃ k, k < n ∧ Walk src M m en k level p res x := by
  intro n
  induction n with
  | zero => intro level p res x; simp [pwalk]
  | succ n ih =>
    intro level p res x
    constructor
    · intro h
      unfold pwalk at h
      cases hsl : slice src p M with
      | error e => rw [hsl] at h; simp at h
      | ok w =>
        rw [hsl] at h
        cases w with
        | nil => simp only [PW.done.injEq] at h; obtain ⟨rfl, rfl⟩ := h; exact ⟨0, by omega, .eof hsl⟩
        | cons ch rest =>
          simp only at h
          by_cases hf : ch = ']' ∧ level - 1 = 0
          · rw [if_pos hf] at h
            simp only [PW.done.injEq] at h; obtain ⟨rfl, rfl⟩ := h
            exact ⟨0, by omega, .close (hf.1 ▸ hsl) hf.2⟩
          · rw [if_neg hf] at h
            cases hl : m.lookup p with
            | none => rw [hl] at h; simp at h
            | some y =>
              rw [hl] at h
              simp only at h
              by_cases hy : M < y
              · rw [if_pos hy] at h; simp at h
              · rw [if_neg hy] at h
                -- the three places where the walk goes on
                have go : ∀ lv, lv = walkLevel ch level p y →
                    (ch = '[' → y ≠ 0 ∧ (p = y - 1 ∨ en = true)) →
                    pwalk src M m en n lv y = .done res x →
                    ∃ k, k < n + 1 ∧ Walk src M m en k level p res x := by
                  intro lv hlv hbr hh
                  obtain ⟨k, hk, hw⟩ := ih.mp hh
                  exact ⟨k + 1, by omega, .step hsl hf hl (by omega) hbr (hlv ▸ hw)⟩
                by_cases hb : ch = '['
                · rw [if_pos hb] at h
                  by_cases hy0 : y = 0
                  · rw [if_pos hy0] at h; simp at h
                  · rw [if_neg hy0] at h
                    by_cases hp : p = y - 1
                    · rw [if_pos hp] at h
                      exact go _ (by simp [walkLevel, hb, hp]) (fun _ => ⟨hy0, .inl hp⟩) h
                    · rw [if_neg hp] at h
                      cases en with
                      | false =>
                        simp only [Bool.not_false, if_true, PW.done.injEq] at h
                        obtain ⟨rfl, rfl⟩ := h
                        exact ⟨0, by omega, .stop (hb ▸ hsl) hl (by omega) hy0 hp rfl⟩
                      | true =>
                        simp only [Bool.not_true, Bool.false_eq_true, if_false] at h
                        exact go _ (by simp [walkLevel, hp]) (fun _ => ⟨hy0, .inr rfl⟩) h
                · rw [if_neg hb] at h
                  exact go _ (by simp [walkLevel, hb]) (fun hc => absurd hc hb) h
    · rintro ⟨k, hk, hw⟩
      cases hw with
      | eof hsl => exact pwalk_nil hsl
      | close hsl h0 => rw [pwalk_cons hsl, if_pos ⟨rfl, h0⟩]
      | stop hsl hl hy hy0 hp he =>
        rw [pwalk_cons hsl, if_neg (by simp), hl]
        simp [Nat.not_lt.mpr hy, hy0, hp, he]
      | @step k' _ _ y ch _ _ _ hsl hf hl hy hbr hw' =>
        have hrec := ih.mpr ⟨k', by omega, hw'⟩
        rw [pwalk_cons hsl, if_neg hf, hl]
        simp only
        rw [if_neg (by omega)]
        by_cases hb : ch = '['
        · obtain ⟨hy0, hor⟩ := hbr hb
          rw [if_pos hb, if_neg hy0]
          by_cases hp : p = y - 1
          · rw [if_pos hp]; simpa [walkLevel, hb, hp] using hrec
          · rw [if_neg hp]
            have he : en = true := hor.resolve_left hp
            rw [he]
            simpa [walkLevel, hp, he] using hrec
        · rw [if_neg hb]; simpa [walkLevel, hb] using hrec

/-- the loop body behind a `skip_token` call (`labelAfter`, `Lemmas/LinkStep.lean`) in the terms of `Walk`:
    `pos - 1` underflows, the early `None`, or the walk goes on at `walkLevel` -/
theorem labelAfter_walk (en : Bool) (ch : Char) (level : Int) (p : Nat) (st' : IState)
    (k : Int → IState → Except Panic (Option Bool × IState)) :
    (ch = '[' ∧ st'.pos = 0 ∧ labelAfter en ch level p st' k = .error (.rust .underflow)) ∨
    (ch = '[' ∧ st'.pos ≠ 0 ∧ p ≠ st'.pos - 1 ∧ en = false ∧
      labelAfter en ch level p st' k = .ok (none, st')) ∨
    ((ch = '[' → st'.pos ≠ 0 ∧ (p = st'.pos - 1 ∨ en = true)) ∧
      labelAfter en ch level p st' k = k (walkLevel ch level p st'.pos) st') := by
  unfold labelAfter walkLevel
  by_cases h1 : ch = '['
  · by_cases h2 : st'.pos = 0
    · exact .inl ⟨h1, h2, by simp [h1, h2]⟩
    · by_cases h3 : p = st'.pos - 1
      · exact .inr (.inr ⟨fun _ => ⟨h2, .inl h3⟩, by simp [h1, h2, h3]⟩)
      · cases en with
        | false => exact .inr (.inl ⟨h1, h2, h3, rfl, by simp [h1, h2, h3]⟩)
        | true => exact .inr (.inr ⟨fun _ => ⟨h2, .inr rfl⟩, by simp [h1, h2, h3]⟩)
  · exact .inr (.inr ⟨fun h => absurd h h1, by simp [h1]⟩)

/-- a `skip_token` that follows memo hits that end inside the window -/
def FollowsHits (skip : IState → Except Panic IState) : Prop :=
  ∀ s x, s.cache.lookup s.pos = some x → x ≤ s.posMax → skip s = .ok { s with pos := x }

theorem followsHits_model (cfg : Cfg) (f : Nat) : FollowsHits (fun s => skipToken cfg (f + 1) s) := by
  intro s x h _
  exact skip_token_memo_hit cfg f s x h

theorem followsHits_guarded (cfg : Cfg) (g : Bool) (f : Nat) :
    FollowsHits (fun s => skipTokenG cfg g (f + 1) s) := by
  intro s x h hle
  simp only
  unfold skipTokenG
  rw [h]
  simp only
  rw [if_neg (by intro hh; omega)]

theorem IState.with_pos_self (st : IState) : { st with pos := st.pos } = st := by cases st; rfl

theorem window_slice (st : IState) : st.window = liftOps (slice st.src st.pos st.posMax) := rfl

/-- **along a walk of `k` entries `labelLoop`, over any `skip_token` that follows hits, is determined**:
    with more fuel than `k` it returns the verdict and leaves everything but `pos` alone, with less it
    runs out of fuel -/
theorem Walk.replay {skip : IState → Except Panic IState} (hs : FollowsHits skip) {src : List Char}
    {M : Nat} {m : List (Nat × Nat)} {en : Bool} {k : Nat} {level : Int} {p : Nat} {res : Option Bool}
    {x : Nat} (h : Walk src M m en k level p res x) :
    ∀ (n : Nat) (st : IState), st.src = src → st.posMax = M → st.cache = m → st.pos = p →
      labelLoop skip en n level st =
        if k < n then .ok (res, { st with pos := x }) else .error .fuel := by
  have zero : ∀ (lv : Int) (st : IState) (r : Option Bool × IState),
      labelLoop skip en 0 lv st = if 0 < 0 then .ok r else .error .fuel := fun _ _ _ => rfl
  induction h with
  | eof hsl =>
    intro n st e1 e2 e3 e4
    cases n with
    | zero => exact zero _ _ _
    | succ n =>
      subst e4
      rw [labelLoop_nil (by rw [window_slice, e1, e2, hsl]; rfl), if_pos (by omega)]
  | close hsl h0 =>
    intro n st e1 e2 e3 e4
    cases n with
    | zero => exact zero _ _ _
    | succ n =>
      subst e4
      rw [labelLoop_cons (by rw [window_slice, e1, e2, hsl]; rfl), if_pos ⟨rfl, h0⟩, if_pos (by omega)]
  | stop hsl hl hy hy0 hp he =>
    intro n st e1 e2 e3 e4
    cases n with
    | zero => exact zero _ _ _
    | succ n =>
      rw [labelLoop_cons (by rw [window_slice, e1, e2, e4, hsl]; rfl), if_neg (by simp),
        hs st _ (by rw [e3, e4]; exact hl) (by rw [e2]; exact hy), if_pos (by omega)]
      simp [labelAfter, hy0, e4, hp, he]
  | @step k level p y ch _ _ _ hsl hfd hl hy hbr _ ih =>
    intro n st e1 e2 e3 e4
    cases n with
    | zero => rw [if_neg (by omega)]; rfl
    | succ n =>
      subst e4
      have hrec := ih n { st with pos := y } e1 e2 e3 rfl
      rw [labelLoop_cons (by rw [window_slice, e1, e2, hsl]; rfl), if_neg hfd,
        hs st _ (by rw [e3]; exact hl) (by rw [e2]; exact hy)]
      simp only [Nat.add_lt_add_iff_right]
      rcases labelAfter_walk en ch level st.pos { st with pos := y } (labelLoop skip en n)
        with ⟨hb, h0, _⟩ | ⟨hb, _, hp, he, _⟩ | ⟨_, e⟩
      · exact absurd h0 (hbr hb).1
      · rcases (hbr hb).2 with h | h
        · exact absurd h hp
        · rw [he] at h; cases h
      · rw [e]; exact hrec

/-- **replay**: where the walk over the memo ends with a verdict, `labelLoop` returns it — at any
    nesting level, over the model's or the guarded `skip_token` — and leaves everything but `pos`
    alone (no rule runs, the memo does not grow). -/
theorem labelLoop_replay {skip : IState → Except Panic IState} (hs : FollowsHits skip) (en : Bool) :
    ∀ (n : Nat) (level : Int) (st : IState) (res : Option Bool) (p : Nat),
      pwalk st.src st.posMax st.cache en n level st.pos = .done res p →
      labelLoop skip en n level st = .ok (res, { st with pos := p }) := by
  intro n level st res p h
  obtain ⟨k, hk, hw⟩ := pwalk_done_iff.mp h
  rw [hw.replay hs n st rfl rfl rfl rfl, if_pos hk]

/-! ## recording -/

/-- what a `skip_token` leaves in the memo (its contract on states under `LInv`) -/
def SkipRecHyp (skip : IState → Except Panic IState) : Prop :=
  ∀ s, LInv s → s.pos < s.posMax → ∀ s', skip s = .ok s' →
    LookupMono s.cache s'.cache ∧ s'.cache.lookup s.pos = some s'.pos


/-- a completed `labelLoop` leaves a memo on every extension of which there is the walk it made -/
theorem labelLoop_walked {skip : IState → Except Panic IState} (hq : CalmFn skip)
    (hs : SkipHypT skip) (hr : SkipRecHyp skip) (en : Bool) :
    ∀ (n : Nat) (level : Int) (st : IState), LInv st →
      ∀ res st', labelLoop skip en n level st = .ok (res, st') →
        LookupMono st.cache st'.cache ∧
        ∃ k, k < n ∧ ∀ c', LookupMono st'.cache c' →
          Walk st.src st.posMax c' en k level st.pos res st'.pos := by
  intro n
  induction n with
  | zero => intro level st _ res st' h; simp [labelLoop] at h
  | succ n ih =>
    intro level st hi res st' h
    obtain ⟨w, hw, hsl, hlen⟩ := hi.window
    cases w with
    | nil =>
      rw [labelLoop_nil hw] at h; cases h
      exact ⟨LookupMono.refl _, 0, by omega, fun _ _ => .eof hsl⟩
    | cons ch rest =>
      have hlt : st.pos < st.posMax := by
        have := Char.utf8Size_pos ch
        simp only [byteLen] at hlen; omega
      rw [labelLoop_cons hw] at h
      by_cases hf : ch = ']' ∧ level - 1 = 0
      · rw [if_pos hf] at h; cases h
        exact ⟨LookupMono.refl _, 0, by omega, fun _ _ => .close (hf.1 ▸ hsl) hf.2⟩
      · rw [if_neg hf] at h
        cases hsr : skip st with
        | error e => rw [hsr] at h; cases h
        | ok st1 =>
          rw [hsr] at h
          simp only at h
          obtain ⟨hm1, hp1, hle1, hb1⟩ := (hs st hi hlt).ok st1 hsr
          have hc1 := hq st st1 hsr
          obtain ⟨hmono1, hrec1⟩ := hr st hi hlt st1 hsr
          rcases labelAfter_walk en ch level st.pos st1 (labelLoop skip en n)
            with ⟨_, _, e⟩ | ⟨hb, h0, hp, he, e⟩ | ⟨hbr, e⟩
          · rw [e] at h; cases h
          · rw [e] at h; cases h
            exact ⟨hmono1, 0, by omega, fun c' hc' => .stop (hb ▸ hsl) (hc' _ _ hrec1) hle1 h0 hp he⟩
          · rw [e] at h
            obtain ⟨a, k, hk, b⟩ := ih _ st1 (hi.step hc1 hm1 hle1 hb1) res st' h
            refine ⟨hmono1.trans a, k + 1, by omega, fun c' hc' => ?_⟩
            have := b c' hc'
            rw [hc1.src, hc1.posMax] at this
            exact .step hsl hf (hc' _ _ (a _ _ hrec1)) hle1 hbr this

/-- **recording**: a completed `labelLoop` leaves a memo on which, and on every extension of
    which, the walk over the memo alone ends with the same verdict at the same position. -/
theorem labelLoop_records {skip : IState → Except Panic IState} (hq : CalmFn skip)
    (hs : SkipHypT skip) (hr : SkipRecHyp skip) (en : Bool) :
    ∀ (n : Nat) (level : Int) (st : IState), LInv st →
      ∀ res st', labelLoop skip en n level st = .ok (res, st') →
        LookupMono st.cache st'.cache ∧
        ∀ c', LookupMono st'.cache c' →
          pwalk st.src st.posMax c' en n level st.pos = .done res st'.pos := by
  intro n level st hi res st' h
  obtain ⟨a, k, hk, b⟩ := labelLoop_walked hq hs hr en n level st hi res st' h
  exact ⟨a, fun c' hc' => pwalk_done_iff.mpr ⟨k, hk, b c' hc'⟩⟩

/-! ## the memo walk as a function of the memo, of `pos_max`, of the bracket level -/

/-- the head of a window does not depend on where the window ends -/
theorem slice_head_shrink {src : List Char} {p M M' : Nat} {ch : Char} {rest : List Char}
    (h : slice src p M = .ok (ch :: rest)) (hb : Boundary src M') (hlt : p < M') :
    ∃ rest', slice src p M' = .ok (ch :: rest') := by
  obtain ⟨hbp, _, hlen⟩ := slice_boundaries h
  obtain ⟨pre, w', post, hsrc, hpre, hw', hsl'⟩ := slice_of_boundaries hbp hb (Nat.le_of_lt hlt)
  obtain ⟨p2, q2, e2, l2, _⟩ := (C05.slice_ok_iff _ _ _ _).mp h
  cases w' with
  | nil => simp only [byteLen] at hw'; omega
  | cons c' r' =>
    refine ⟨r', ?_⟩
    have : c' = ch := by
      have h1 : pre ++ (c' :: r' ++ post) = p2 ++ (ch :: rest ++ q2) := by
        rw [← List.append_assoc, ← hsrc, e2, List.append_assoc]
      have := C05.append_inj_byteLen pre (c' :: r' ++ post) p2 (ch :: rest ++ q2) h1 (by omega)
      have h2 := this.2
      simp only [List.cons_append, List.cons.injEq] at h2
      exact h2.1
    rw [hsl', this]

namespace Walk
variable {src : List Char} {M : Nat} {m : List (Nat × Nat)} {en : Bool}

/-- the walk goes forward, at least one byte per entry -/
theorem steps_le (hf : ∀ k v, (k, v) ∈ m → k < v) {k : Nat} {level : Int} {p : Nat}
    {res : Option Bool} {x : Nat} (h : Walk src M m en k level p res x) : p + k ≤ x := by
  induction h with
  | eof | close => omega
  | stop _ hl => have := hf _ _ (lookup_mem hl); omega
  | step _ _ hl _ _ _ ih => have := hf _ _ (lookup_mem hl); omega

theorem le (hf : ∀ k v, (k, v) ∈ m → k < v) {k : Nat} {level : Int} {p : Nat}
    {res : Option Bool} {x : Nat} (h : Walk src M m en k level p res x) : p ≤ x := by
  have := h.steps_le hf; omega

/-- more memo: the same walk -/
theorem mono {m' : List (Nat × Nat)} (hm : LookupMono m m') {k : Nat} {level : Int} {p : Nat}
    {res : Option Bool} {x : Nat} (h : Walk src M m en k level p res x) :
    Walk src M m' en k level p res x := by
  induction h with
  | eof hs => exact .eof hs
  | close hs h0 => exact .close hs h0
  | stop hs hl hy hy0 hp he => exact .stop hs (hm _ _ hl) hy hy0 hp he
  | step hs hf hl hy hbr _ ih => exact .step hs hf (hm _ _ hl) hy hbr ih

theorem path {k : Nat} {level : Int} {p : Nat} {res : Option Bool} {x : Nat}
    (h : Walk src M m en k level p res x) : Path m p x := by
  induction h with
  | eof | close => exact .refl _
  | stop _ hl => exact .step hl (.refl _)
  | step _ _ hl _ _ _ ih => exact .step hl ih

/-- a found label end is a `]` inside the window -/
theorem found {k : Nat} {level : Int} {p x : Nat} {res : Option Bool}
    (h : Walk src M m en k level p res x) (hr : res = some true) :
    ∃ r, slice src x M = .ok (']' :: r) := by
  induction h with
  | eof => cases hr
  | close hs => exact ⟨_, hs⟩
  | stop => cases hr
  | step _ _ _ _ _ _ ih => exact ih hr

/-- the walk is a function of its start: number of entries, verdict, end -/
theorem det {k : Nat} {level : Int} {p : Nat} {res : Option Bool} {x : Nat}
    (h : Walk src M m en k level p res x) :
    ∀ {k' : Nat} {res' : Option Bool} {x' : Nat}, Walk src M m en k' level p res' x' →
      k = k' ∧ res = res' ∧ x = x' := by
  induction h with
  | eof hs =>
    intro k' res' x' h'
    cases h' with
    | eof => exact ⟨rfl, rfl, rfl⟩
    | close hs' | stop hs' | step hs' => rw [hs] at hs'; cases hs'
  | close hs h0 =>
    intro k' res' x' h'
    cases h' with
    | eof hs' | stop hs' => rw [hs] at hs'; cases hs'
    | close => exact ⟨rfl, rfl, rfl⟩
    | step hs' hfd' => rw [hs] at hs'; cases hs'; exact absurd ⟨rfl, h0⟩ hfd'
  | stop hs hl hy hy0 hp he =>
    intro k' res' x' h'
    cases h' with
    | eof hs' | close hs' => rw [hs] at hs'; cases hs'
    | stop _ hl' => rw [hl] at hl'; cases hl'; exact ⟨rfl, rfl, rfl⟩
    | step hs' _ hl' _ hbr' =>
      rw [hs] at hs'; cases hs'
      rw [hl] at hl'; cases hl'
      rcases (hbr' rfl).2 with h | h
      · exact absurd h hp
      · rw [he] at h; cases h
  | step hs hfd hl hy hbr _ ih =>
    intro k' res' x' h'
    cases h' with
    | eof hs' => rw [hs] at hs'; cases hs'
    | close hs' h0' => rw [hs] at hs'; cases hs'; exact absurd ⟨rfl, h0'⟩ hfd
    | stop hs' hl' _ _ hp' he' =>
      rw [hs] at hs'; cases hs'
      rw [hl] at hl'; cases hl'
      rcases (hbr rfl).2 with h | h
      · exact absurd h hp'
      · rw [he'] at h; cases h
    | step hs' _ hl' _ _ hw' =>
      rw [hs] at hs'; cases hs'
      rw [hl] at hl'; cases hl'
      obtain ⟨rfl, a, b⟩ := ih hw'
      exact ⟨rfl, a, b⟩

/-- **smaller `pos_max`**: a verdict "found" strictly inside, or "early `None`" at or before, the
    smaller window is the verdict under the smaller `pos_max` -/
theorem shrink (hf : ∀ k v, (k, v) ∈ m → k < v) {M' : Nat} (hb : Boundary src M') (hle : M' ≤ M)
    {k : Nat} {level : Int} {p : Nat} {res : Option Bool} {x : Nat}
    (h : Walk src M m en k level p res x)
    (hx : (res = some true ∧ x < M') ∨ (res = none ∧ x ≤ M')) : Walk src M' m en k level p res x := by
  induction h with
  | eof => rcases hx with ⟨h, _⟩ | ⟨h, _⟩ <;> cases h
  | close hs h0 =>
    obtain ⟨_, hs'⟩ := slice_head_shrink hs hb (by rcases hx with ⟨_, h⟩ | ⟨h, _⟩; exact h; cases h)
    exact .close hs' h0
  | @stop _ _ y _ hs hl hy hy0 hp he =>
    have := hf _ _ (lookup_mem hl)
    have hxM : y ≤ M' := by rcases hx with ⟨h, _⟩ | ⟨_, h⟩; cases h; exact h
    obtain ⟨_, hs'⟩ := slice_head_shrink hs hb (by omega)
    exact .stop hs' hl hxM hy0 hp he
  | @step _ _ _ _ _ _ _ x hs hfd hl hy hbr hw ih =>
    have := hf _ _ (lookup_mem hl)
    have := hw.le hf
    have hxM : x ≤ M' := by rcases hx with ⟨_, h⟩ | ⟨_, h⟩ <;> omega
    obtain ⟨_, hs'⟩ := slice_head_shrink hs hb (by omega)
    exact .step hs' hfd hl (by omega) hbr (ih hx)

/-- **the nested frame**: under `pos_max = x`, the label end found, the walk is replayed up to `x` and
    ends there on the empty window -/
theorem frame (hf : ∀ k v, (k, v) ∈ m → k < v) {k : Nat} {level : Int} {p x : Nat}
    {res : Option Bool} (h : Walk src M m en k level p res x) (hres : res = some true) :
    Walk src x m en k level p (some false) x := by
  obtain ⟨r, hr⟩ := h.found hres
  have hbx : Boundary src x := (slice_boundaries hr).1
  have hxM : x ≤ M := by have := (slice_boundaries hr).2.2; omega
  induction h with
  | eof => cases hres
  | close =>
    obtain ⟨_, w0, _, _, _, hlen, hs0⟩ := slice_of_boundaries hbx hbx (Nat.le_refl _)
    have : w0 = [] := byteLen_eq_zero (by omega)
    subst this
    exact .eof hs0
  | stop => cases hres
  | step hs hfd hl hy hbr hw ih =>
    have := hf _ _ (lookup_mem hl)
    have := hw.le hf
    obtain ⟨_, hs'⟩ := slice_head_shrink hs hbx (by omega)
    exact .step hs' hfd hl (by omega) hbr (ih hres hr hbx hxM)

/-- a walk that did not take the early return does not depend on the nesting flag -/
theorem flag {en' : Bool} {k : Nat} {level : Int} {p : Nat} {res : Option Bool} {x : Nat}
    (h : Walk src M m en k level p res x) (hr : res ≠ none) (hen : en = true → en' = true) :
    Walk src M m en' k level p res x := by
  induction h with
  | eof hs => exact .eof hs
  | close hs h0 => exact .close hs h0
  | stop => exact absurd rfl hr
  | step hs hfd hl hy hbr _ ih =>
    exact .step hs hfd hl hy (fun hc => ⟨(hbr hc).1, (hbr hc).2.imp_right hen⟩) (ih hr)

/-- **a lower bracket level**: along the entries of a walk that finds its `]` at `x`, the walk from the
    same position at a level `1 ≤ level' ≤ level` (any nesting flag) ends no later, with no more
    entries; at a strictly lower level: "found" strictly earlier, or the early `None` -/
theorem lower (hf : ∀ k v, (k, v) ∈ m → k < v) (en' : Bool) {k : Nat} {level : Int} {p x : Nat}
    {res : Option Bool} (h : Walk src M m en k level p res x) (hres : res = some true) :
    ∀ level' : Int, 1 ≤ level' → level' ≤ level →
      ∃ k' r' x', k' ≤ k ∧ Walk src M m en' k' level' p r' x' ∧ x' ≤ x ∧
        (level' < level → (r' = some true ∧ x' < x) ∨ (r' = none ∧ x' ≤ x)) := by
  induction h with
  | eof => cases hres
  | close hs h0 =>
    intro level' h1 h2
    exact ⟨0, _, _, Nat.le_refl _, .close hs (by omega), Nat.le_refl _, fun hlt => by omega⟩
  | stop => cases hres
  | @step k level p y ch r res x hs hfd hl hy hbr hw ih =>
    intro level' h1 h2
    have hpy := hf _ _ (lookup_mem hl)
    have hyx := hw.le hf
    by_cases hfd' : ch = ']' ∧ level' - 1 = 0
    · obtain ⟨rfl, h0⟩ := hfd'
      exact ⟨0, _, _, Nat.zero_le _, .close hs h0, by omega, fun _ => .inl ⟨rfl, by omega⟩⟩
    · by_cases hst : ch = '[' ∧ p ≠ y - 1 ∧ en' = false
      · obtain ⟨rfl, hp, he'⟩ := hst
        exact ⟨0, _, _, Nat.zero_le _, .stop hs hl hy (hbr rfl).1 hp he', hyx, fun _ => .inr ⟨rfl, hyx⟩⟩
      · have hsub := walkLevel_sub ch level level' p y
        obtain ⟨k', r', x', hk, hw', hx', hcl⟩ := ih hres _ (walkLevel_pos (p := p) (y := y) h1 hfd') (by omega)
        refine ⟨k' + 1, r', x', by omega, .step hs hfd' hl hy ?_ hw', hx', fun hlt => hcl (by omega)⟩
        intro hc
        refine ⟨(hbr hc).1, ?_⟩
        by_cases hp : p = y - 1
        · exact .inl hp
        · cases he' : en' with
          | true => exact .inr rfl
          | false => exact absurd ⟨hc, hp, he'⟩ hst

/-- **the upper walk passes through the place where the lower one finds its `]`**: there its bracket
    level exceeds 1 by the level difference, and it goes on to find its own `]` -/
theorem through {en' : Bool} {k' : Nat} {level' : Int} {p x' : Nat} {res' : Option Bool}
    (h' : Walk src M m en' k' level' p res' x') (hres' : res' = some true) :
    ∀ {k : Nat} {level : Int} {x : Nat}, 1 ≤ level' → level' < level →
      Walk src M m en k level p (some true) x →
      ∃ k'', Walk src M m en k'' (level - level' + 1) x' (some true) x := by
  induction h' with
  | eof => cases hres'
  | @close level' _ _ hs' h0' =>
    intro k level x _ _ h
    have : level - level' + 1 = level := by omega
    rw [this]
    exact ⟨k, h⟩
  | stop => cases hres'
  | @step _ level' p y ch _ _ _ hs' hfd' hl' _ _ _ ih =>
    intro k level x h1 h2 h
    cases h with
    | close hs h0 => rw [hs'] at hs; cases hs; omega
    | step hs hfd hl _ _ hw =>
      rw [hs'] at hs; cases hs
      rw [hl'] at hl; cases hl
      have hsub := walkLevel_sub ch level level' p y
      obtain ⟨k'', hk''⟩ := ih hres' (walkLevel_pos (p := p) (y := y) h1 hfd') (by omega) hw
      have e : walkLevel ch level p y - walkLevel ch level' p y + 1 = level - level' + 1 := by omega
      exact ⟨k'', e ▸ hk''⟩

end Walk

/-! ## the same for the function -/

theorem pwalk_mono {src : List Char} {M : Nat} {m m' : List (Nat × Nat)} (hm : LookupMono m m')
    (en : Bool) : ∀ (n : Nat) (level : Int) (p : Nat) (res : Option Bool) (x : Nat),
      pwalk src M m en n level p = .done res x → pwalk src M m' en n level p = .done res x :=
  fun _ _ _ _ _ h =>
    let ⟨k, hk, hw⟩ := pwalk_done_iff.mp h
    pwalk_done_iff.mpr ⟨k, hk, hw.mono hm⟩

/-- the positions of a memo walk form a memo path -/
theorem pwalk_path {src : List Char} {M : Nat} {m : List (Nat × Nat)} (en : Bool) :
    ∀ (n : Nat) (level : Int) (p : Nat) (res : Option Bool) (x : Nat),
      pwalk src M m en n level p = .done res x → Path m p x :=
  fun _ _ _ _ _ h => let ⟨_, _, hw⟩ := pwalk_done_iff.mp h; hw.path

theorem pwalk_found {src : List Char} {M : Nat} {m : List (Nat × Nat)} (en : Bool) :
    ∀ (n : Nat) (level : Int) (p : Nat) (x : Nat),
      pwalk src M m en n level p = .done (some true) x → ∃ r, slice src x M = .ok (']' :: r) :=
  fun _ _ _ _ h => let ⟨_, _, hw⟩ := pwalk_done_iff.mp h; hw.found rfl

/-- **smaller `pos_max`, inside the window**: a walk that finds its `]` before `M'` finds it there
    under `pos_max = M'` -/
theorem pwalk_shrink_found {src : List Char} {M M' : Nat} {m : List (Nat × Nat)}
    (hf : ∀ k v, (k, v) ∈ m → k < v) (hb : Boundary src M') (hle : M' ≤ M) (en : Bool) :
    ∀ (n : Nat) (level : Int) (p : Nat) (x : Nat),
      pwalk src M m en n level p = .done (some true) x → x < M' →
      pwalk src M' m en n level p = .done (some true) x :=
  fun _ _ _ _ h hx =>
    let ⟨k, hk, hw⟩ := pwalk_done_iff.mp h
    pwalk_done_iff.mpr ⟨k, hk, hw.shrink hf hb hle (.inl ⟨rfl, hx⟩)⟩

/-- **the nested frame**: under `pos_max = x`, the label end it has found, the walk is replayed up to
    `x` and ends there on the empty window (verdict "not found") — it never meets a position without
    entry nor an entry beyond `x` -/
theorem pwalk_frame {src : List Char} {M : Nat} {m : List (Nat × Nat)}
    (hf : ∀ k v, (k, v) ∈ m → k < v) (en : Bool) :
    ∀ (n : Nat) (level : Int) (p : Nat) (x : Nat),
      pwalk src M m en n level p = .done (some true) x →
      pwalk src x m en n level p = .done (some false) x :=
  fun _ _ _ _ h =>
    let ⟨k, hk, hw⟩ := pwalk_done_iff.mp h
    pwalk_done_iff.mpr ⟨k, hk, hw.frame hf rfl⟩

/-- **lower bracket level**: along the entries of a walk that finds its `]` at `x`, a walk from the
    same position at a lower level `1 ≤ level' ≤ level` (any nesting flag) ends with a verdict at or
    before `x` — it stays on the recorded entries. -/
theorem pwalk_level_le {src : List Char} {M : Nat} {m : List (Nat × Nat)}
    (hf : ∀ k v, (k, v) ∈ m → k < v) (en en' : Bool) :
    ∀ (n : Nat) (level level' : Int) (p : Nat) (x : Nat), 1 ≤ level' → level' ≤ level →
      pwalk src M m en n level p = .done (some true) x →
      ∃ res' x', pwalk src M m en' n level' p = .done res' x' ∧ x' ≤ x :=
  fun _ _ level' _ _ h1 h2 h =>
    let ⟨_, _, hw⟩ := pwalk_done_iff.mp h
    let ⟨k', r', x', _, hw', hx', _⟩ := hw.lower hf en' rfl level' h1 h2
    ⟨r', x', pwalk_done_iff.mpr ⟨k', by omega, hw'⟩, hx'⟩

/-- **fuel**: a memo walk takes one unit of fuel per position it visits, and goes strictly forward —
    any fuel above the distance it covers gives the same verdict (a replay in a nested frame runs on
    LESS fuel than the walk that made the entries) -/
theorem pwalk_fuel {src : List Char} {M : Nat} {m : List (Nat × Nat)}
    (hf : ∀ k v, (k, v) ∈ m → k < v) (en : Bool) :
    ∀ (n : Nat) (level : Int) (p : Nat) (res : Option Bool) (x : Nat),
      pwalk src M m en n level p = .done res x →
      ∀ n', x - p + 1 ≤ n' → pwalk src M m en n' level p = .done res x :=
  fun _ _ _ _ _ h n' hn' =>
    let ⟨k, _, hw⟩ := pwalk_done_iff.mp h
    pwalk_done_iff.mpr ⟨k, by have := hw.steps_le hf; omega, hw⟩

end MdIt.Inline
