/-
  C05 for ALL sources: the text clause at every `Text` that is not the child of a code
  span (the inherent exception: a code span keeps the virtual spaces of a split tab as content,
  and characters without bytes in the source cannot be selected by any range).  Shared
  definitions — the interfaces between
    * the inline side (`FIV`, an image of the frame invariant of the certificate of
      Lemmas/InlineCert.lean: Lemmas/C05TabsCert.lean, C05TabsText.lean),
    * the transport (Lemmas/C05TabsTextSplice.lean: `PInlFV`, `PreV`, `PostV`, `NodeOkX`).
-/
import MdIt.Lemmas.C05TabsDefs2

namespace MdIt.C05T
open MdIt.InlineOps (Srcmap getSourcePosFor byteLen)
open MdIt.Inline (Node Val IState)
open MdIt.C05R (Cut Bdy NoBrk BrkAt Sel Adjd StrictTop TextLike)

mutual
/-- `C05R.FthN` with the exemption: `ex = true` (the node is a child of a code span) switches the
    text clause off -/
def FthNV (src : List Char) (ex : Bool) : Node → Prop
  | ⟨v, r, cs⟩ =>
    (∃ a b, r = some (a, b) ∧ Bdy src a ∧ Bdy src b ∧
      (ex = false → ∀ t, v = .text t → Sel src a b t) ∧
      (∀ ct mu info, v = .special ct mu info → Sel src a b mu) ∧
      (∀ mk l rem o c, v = .emphMarker mk l rem o c →
        Cut src a b (List.replicate rem mk) ∧ mk.utf8Size = 1) ∧
      Adjd cs) ∧ FthLV src (isCode v) cs
def FthLV (src : List Char) (ex : Bool) : List Node → Prop
  | [] => True
  | c :: cs => FthNV src ex c ∧ FthLV src ex cs
end

theorem FthNV_eq (src : List Char) (ex : Bool) (n : Node) :
    FthNV src ex n ↔ (∃ a b, n.range = some (a, b) ∧ Bdy src a ∧ Bdy src b ∧
      (ex = false → ∀ t, n.val = .text t → Sel src a b t) ∧
      (∀ ct mu info, n.val = .special ct mu info → Sel src a b mu) ∧
      (∀ mk l rem o c, n.val = .emphMarker mk l rem o c →
        Cut src a b (List.replicate rem mk) ∧ mk.utf8Size = 1) ∧
      Adjd n.children) ∧ FthLV src (isCode n.val) n.children := by
  cases n; simp [FthNV]

theorem fthLV_iff (src : List Char) (ex : Bool) (l : List Node) :
    FthLV src ex l ↔ ∀ n ∈ l, FthNV src ex n := by
  induction l with
  | nil => simp [FthLV]
  | cons c cs ih => simp [FthLV, ih]

/-- the stretch `[p1, p2]` of `c` lies inside a stretch that starts with a solid character
    (neither space nor line feed) and holds no line feed — where `MapT.shift` and `PFthV.copy`
    apply -/
def Within (c : List Char) (p1 p2 : Nat) : Prop :=
  ∃ p q ch0 w, Cut c p q (ch0 :: w) ∧ ch0 ≠ ' ' ∧ ch0 ≠ '\n' ∧ '\n' ∉ w ∧ p ≤ p1 ∧ p1 ≤ p2 ∧ p2 ≤ q

/-- a solid character sits in front of `pos` on the same line of `c` -/
def Anchored (c : List Char) (pos : Nat) : Prop :=
  ∃ p ch0 w, Cut c p pos (ch0 :: w) ∧ ch0 ≠ ' ' ∧ ch0 ≠ '\n' ∧ '\n' ∉ w

/-- what the frame invariant `IC.ICF` of the certificate walk says in source coordinates for any `get_lines`
    table (`IC.ICF.fiv`); `pm` is the `posMax` of the frame:
    `C05R.FI` with the exempting `FthLV … false`, and two anchors: a trailing `Text` without line
    feed lies `Within` a solid stretch (`tanch`), and where a NEW text could start with a space, a
    solid character sits in front of it on the same line (`anch`) — so that no `Text` outside a
    code span ever holds a virtual space, unless it holds a line feed as well. -/
structure FIV (src0 c : List Char) (m : Srcmap) (pm pos : Nat) (cs : List Node) : Prop where
  bpos : Bdy c pos
  deep : FthLV src0 false cs
  adj : Adjd cs
  strict : StrictTop cs
  tail : ∀ init last, cs = init ++ [last] → TextLike last →
    ∃ a b, last.range = some (a, b) ∧ getSourcePosFor m pos = .ok b
  tanch : ∀ init last, cs = init ++ [last] → last.isText = true → '\n' ∉ last.content →
    ∃ start, Cut c start pos last.content ∧ Within c start pos
  anch : NoTextLast cs → pos < pm → CharAt c pos ' ' → Anchored c pos

/-- the claim about a placeholder the splice walk consumes -/
def PInlFV (icfg : Inline.Cfg) (src : List Char) : Block.InlP := fun c m a b =>
  (b = byteLen src ∨ BrkAt src b) ∧
  ∀ ns, Inline.parseInline icfg c m = .ok ns →
    Inline.OrderedN a b ns ∧ Inline.WellRangedList ns ∧ FthLV src false ns ∧ Adjd ns ∧ StrictTop ns

/-! ## the document tree -/

/-- the value of a document node is a code span -/
def isCodeK : Pipeline.Kind → Bool
  | .inl v => isCode v
  | .blk _ => false

mutual
/-- a node of the tree BEFORE the join pass (`C05R.PreOk` with the exemption flag) -/
def PreV (src : List Char) (ex : Bool) : Pipeline.Node → Prop
  | ⟨k, r, _, cs⟩ =>
    (∃ a b, r = some (a, b) ∧ Bdy src a ∧ Bdy src b ∧
      (ex = false → ∀ t, C05R.textOfK k = some t → Sel src a b t) ∧
      (∀ ct mu info, k = .inl (.special ct mu info) → Sel src a b mu) ∧
      C05R.Glued src cs) ∧ PreVL src (isCodeK k) cs
def PreVL (src : List Char) (ex : Bool) : List Pipeline.Node → Prop
  | [] => True
  | c :: cs => PreV src ex c ∧ PreVL src ex cs
end

mutual
/-- a node of the FINISHED tree (`C05R.PostOk` with the exemption flag) -/
def PostV (src : List Char) (ex : Bool) : Pipeline.Node → Prop
  | ⟨k, r, _, cs⟩ =>
    (∃ a b, r = some (a, b) ∧ Bdy src a ∧ Bdy src b ∧
      (ex = false → ∀ t, k = .inl (.text t) → Sel src a b t) ∧
      (∀ ct mu info, k = .inl (.special ct mu info) → Sel src a b mu)) ∧ PostVL src (isCodeK k) cs
def PostVL (src : List Char) (ex : Bool) : List Pipeline.Node → Prop
  | [] => True
  | c :: cs => PostV src ex c ∧ PostVL src ex cs
end

/-- **C05 at one node, for any source**: `Pipeline.NodeOk` with the text clause stated at the PARENT
    for its `Text` children, and switched off when the parent is a code span.  (The root is not a
    `Text`, so every `Text` of a tree has a parent.) -/
def NodeOkX (src : List Char) (n : Pipeline.Node) : Prop :=
  ∃ a b, n.range = some (a, b) ∧ a ≤ b ∧ b ≤ Lines.byteLen src ∧
    Lines.onBoundary src a = true ∧ Lines.onBoundary src b = true ∧
    Pipeline.OrderedD a b n.children ∧
    (isCodeK n.kind = false → ∀ x ∈ n.children, ∀ c, x.kind = .inl (.text c) →
      ∃ a' b', x.range = some (a', b') ∧
        ∀ w, Lines.slice src a' b' = .ok w → '\n' ∉ w → '\r' ∉ w → w = c)

end MdIt.C05T
