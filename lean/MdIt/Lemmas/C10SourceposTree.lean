/-
  C10 with the sourcepos plugin: from two document trees to their HTML.

    * `NodeRender.usesAttrs` / `dropA` / `render_dropA`   `render` does not read the attributes of `Root`,
      `Text`, `TextSpecial`, `Softbreak`, `Hardbreak` (`fmt.self_close("br", &[])`), html values and
      placeholders;
    * `Kind.rendersAttrs`, `rmap f nr`   the tree with every range mapped through `f` and (`nr = true`)
      the ranges of the nodes that do not render attributes erased; `rmap_joinNode`: `FragmentsJoin`
      commutes with it (it reads ranges only to compute ranges of `Text` nodes);
    * `spPure`, `sourceposNode_eq`       `SyntaxPosRule` as a total function of the fold `runSt`;
    * `final_stage`   two trees equal up to `rmap` whose attribute-rendering nodes have ranges with the
      same line:column positions give the same events after the sourcepos pass.
-/
import MdIt.Props.C10Doc
import MdIt.Lemmas.C10SourceposPos

namespace MdIt.NodeRender

/-- does `render` of this value read `node.attrs` -/
def usesAttrs : Kind → Bool
  | .root => false
  | .text _ => false
  | .special _ => false
  | .softbreak => false
  | .hardbreak => false
  | .htmlBlock _ => false
  | .htmlInline _ => false
  | .placeholder => false
  | _ => true

mutual
/-- the attributes nobody reads dropped -/
def dropA : Node → Node
  | ⟨k, a, cs⟩ => ⟨k, if usesAttrs k then a else [], dropAList cs⟩
def dropAList : List Node → List Node
  | [] => []
  | c :: cs => dropA c :: dropAList cs
end

mutual
theorem toInl_dropA (n : Node) : toInl (dropA n) = toInl n := by
  match n with
  | ⟨k, a, cs⟩ =>
    cases k <;> simp only [dropA, toInl, toInlList_dropA cs]
theorem toInlList_dropA (cs : List Node) : toInlList (dropAList cs) = toInlList cs := by
  match cs with
  | [] => rfl
  | c :: r => simp only [dropAList, toInlList, toInl_dropA c, toInlList_dropA r]
end

mutual
/-- **`render` does not read the attributes of the values that are not `usesAttrs`** -/
theorem render_dropA (lookup : List Char → Option (List Char)) (n : Node) :
    render lookup (dropA n) = render lookup n := by
  match n with
  | ⟨k, a, cs⟩ =>
    cases k <;>
      simp only [dropA, render, usesAttrs, if_true, renderList_dropA lookup cs, imageAlt, toInlList_dropA cs]
theorem renderList_dropA (lookup : List Char → Option (List Char)) (cs : List Node) :
    renderList lookup (dropAList cs) = renderList lookup cs := by
  match cs with
  | [] => rfl
  | c :: r => simp only [dropAList, renderList, render_dropA lookup c, renderList_dropA lookup r]
end

end MdIt.NodeRender

namespace MdIt.Pipeline
open MdIt.NodeRender (aSourcepos usesAttrs dropA dropAList)
open MdIt.SourceMap (runSt mkMarks getPositions)

/-- the values whose `render` reads `node.attrs` (hence shows `data-sourcepos`): every block value
    except `Root` (and the `InlineRoot` placeholder), and `CodeInline`, `Em` / `Strong` /
    `Strikethrough`, `Link`, `Image`, `Autolink` — NOT `Text`, `TextSpecial`, `Softbreak`, `Hardbreak` -/
def Kind.rendersAttrs : Kind → Bool
  | .blk .root => false
  | .blk (.inlineRoot _ _) => false
  | .inl (.text _) => false
  | .inl (.special _ _ _) => false
  | .inl .softbreak => false
  | .inl .hardbreak => false
  | .inl (.emphMarker _ _ _ _ _) => false
  | _ => true

theorem usesAttrs_toRender (lp : List Char) (k : Kind) : usesAttrs (k.toRender lp) = k.rendersAttrs := by
  cases k with
  | blk b => cases b <;> rfl
  | inl v =>
    cases v with
    | wrap w m => cases w <;> rfl
    | _ => rfl

def mapRange (f : Nat → Nat) (r : Option (Nat × Nat)) : Option (Nat × Nat) := r.map fun p => (f p.1, f p.2)

/-- the range `rmap` leaves at a node of kind `k` -/
def rangeOf (f : Nat → Nat) (nr : Bool) (k : Kind) (r : Option (Nat × Nat)) : Option (Nat × Nat) :=
  if nr && !k.rendersAttrs then none else mapRange f r

mutual
/-- every range through `f`; with `nr` the ranges of the nodes that do not render attributes erased -/
def rmap (f : Nat → Nat) (nr : Bool) : Node → Node
  | ⟨k, r, a, cs⟩ => ⟨k, rangeOf f nr k r, a, rmapList f nr cs⟩
def rmapList (f : Nat → Nat) (nr : Bool) : List Node → List Node
  | [] => []
  | c :: cs => rmap f nr c :: rmapList f nr cs
end

theorem rmap_eq (f : Nat → Nat) (nr : Bool) (n : Node) :
    rmap f nr n = { n with range := rangeOf f nr n.kind n.range, children := rmapList f nr n.children } := by
  cases n; simp [rmap]

theorem rmapList_eq_map (f : Nat → Nat) (nr : Bool) (l : List Node) : rmapList f nr l = l.map (rmap f nr) := by
  induction l with
  | nil => rfl
  | cons c cs ih => simp [rmapList, ih]

theorem rmap_kind (f : Nat → Nat) (nr : Bool) (n : Node) : (rmap f nr n).kind = n.kind := by
  rw [rmap_eq]

theorem rmap_isText (f : Nat → Nat) (nr : Bool) (n : Node) : (rmap f nr n).isText = n.isText := by
  rw [rmap_eq]; rfl

theorem rmap_content (f : Nat → Nat) (nr : Bool) (n : Node) : (rmap f nr n).content = n.content := by
  rw [rmap_eq]; rfl

theorem kind_of_isText {n : Node} (h : n.isText = true) : n.kind.rendersAttrs = false := by
  obtain ⟨k, r, a, cs⟩ := n
  cases k with
  | blk b => simp [Node.isText] at h
  | inl v => cases v <;> simp_all [Node.isText, Kind.rendersAttrs]

@[simp] theorem rendersAttrs_text (c : List Char) : (Kind.inl (.text c)).rendersAttrs = false := rfl

theorem rmap_markerToText (f : Nat → Nat) (nr : Bool) (n : Node) :
    rmap f nr (markerToText n) = markerToText (rmap f nr n) := by
  obtain ⟨k, r, a, cs⟩ := n
  cases k with
  | blk b => simp [markerToText, rmap]
  | inl v => cases v <;> simp [markerToText, rmap, rangeOf, Kind.rendersAttrs]

theorem rmap_emptied (f : Nat → Nat) (nr : Bool) (n : Node) (h : n.isText = true) :
    rmap f nr (emptied n) = emptied (rmap f nr n) := by
  have hk := kind_of_isText h
  obtain ⟨k, r, a, cs⟩ := n
  simp only at hk
  simp [emptied, rmap, rangeOf, hk]

theorem rmap_merged (f : Nat → Nat) (nr : Bool) (a b : Node) (ha : a.isText = true) (hb : b.isText = true) :
    rmap f nr (merged a b) = merged (rmap f nr a) (rmap f nr b) := by
  have hka := kind_of_isText ha
  have hkb := kind_of_isText hb
  obtain ⟨k, r, at_, cs⟩ := a
  obtain ⟨k', r', at', cs'⟩ := b
  simp only at hka hkb
  cases nr
  · cases r <;> cases r' <;> simp [merged, rmap, rangeOf, mapRange, Node.content]
  · simp [merged, rmap, rangeOf, hka, hkb, Node.content]

theorem merged_isText (a b : Node) : (merged a b).isText = true := rfl

theorem joinHom_rmap (f : Nat → Nat) (nr : Bool) : JoinHom (rmap f nr) :=
  ⟨rmap_isText f nr, rmap_content f nr, rmap_markerToText f nr, rmap_emptied f nr, rmap_merged f nr,
    fun n cs => by rw [rmap_eq, rmap_eq f nr n, rmapList_eq_map]⟩

theorem rmap_joinNode (f : Nat → Nat) (nr : Bool) (n : Node) : rmap f nr (joinNode n) = joinNode (rmap f nr n) :=
  (joinHom_rmap f nr).joinNode n

/-- the attribute `SyntaxPosRule` pushes for a range: positions are the states of the fold -/
def posAttr (src : List Char) (r : Nat × Nat) : List Char × List Char :=
  (aSourcepos, sourceposValue (runSt 1 0 src (r.1 + 1), runSt 1 0 src (C10SP.endOff r.2 + 1)))

def pushPos (src : List Char) (r : Option (Nat × Nat)) (a : List (List Char × List Char)) :
    List (List Char × List Char) :=
  match r with
  | none => a
  | some r => a ++ [posAttr src r]

mutual
def spPure (src : List Char) : Node → Node
  | ⟨k, r, a, cs⟩ => ⟨k, r, pushPos src r a, spPureList src cs⟩
def spPureList (src : List Char) : List Node → List Node
  | [] => []
  | c :: cs => spPure src c :: spPureList src cs
end

theorem sourceposAttrs_run (src : List Char) (r : Option (Nat × Nat)) (a : List (List Char × List Char)) :
    sourceposAttrs src (mkMarks src) r a = .ok (pushPos src r a) := by
  unfold sourceposAttrs pushPos
  cases r with
  | none => rfl
  | some r => simp only [C10SP.getPositions_run, posAttr]

mutual
theorem spPure_eq_mapAttrs (src : List Char) : ∀ t : Node, spPure src t = mapAttrs (pushPos src) t
  | ⟨k, r, a, cs⟩ => by simp only [spPure, mapAttrs, spPureList_eq_mapAttrs src cs]
theorem spPureList_eq_mapAttrs (src : List Char) : ∀ cs : List Node, spPureList src cs = mapAttrsList (pushPos src) cs
  | [] => rfl
  | c :: r => by simp only [spPureList, mapAttrsList, spPure_eq_mapAttrs src c, spPureList_eq_mapAttrs src r]
end

theorem sourceposNode_eq (src : List Char) (t : Node) :
    sourceposNode src (mkMarks src) t = .ok (spPure src t) := by
  rw [spPure_eq_mapAttrs]; exact sourceposNode_of_attrs (sourceposAttrs_run src) t

theorem sourceposList_eq (src : List Char) (cs : List Node) :
    sourceposList src (mkMarks src) cs = .ok (spPureList src cs) := by
  rw [spPureList_eq_mapAttrs]; exact sourceposList_of_attrs (sourceposAttrs_run src) cs

mutual
/-- a Boolean predicate at every node -/
def allN (p : Node → Bool) : Node → Bool
  | ⟨k, r, a, cs⟩ => p ⟨k, r, a, cs⟩ && allNList p cs
def allNList (p : Node → Bool) : List Node → Bool
  | [] => true
  | c :: cs => allN p c && allNList p cs
end

/-- the ranges of the attribute-rendering nodes satisfy `q` -/
def rendered (q : Nat × Nat → Bool) (n : Node) : Bool :=
  !n.kind.rendersAttrs ||
    match n.range with
    | none => true
    | some r => q r

mutual
/-- **the last stage.**  `T₂` is `T₁` with every range mapped through `f`, up to the ranges of the
    nodes that do not render attributes; the ranges `r` of the attribute-rendering nodes of `T₁`
    satisfy `q`, and `q r` makes the position attribute of `f r` in `src₂` that of `r` in `src₁`:
    then the two trees project to the same `NodeRender` tree after the sourcepos pass, up to
    attributes nobody reads. -/
theorem final_node (lp : List Char) (src₁ src₂ : List Char) (f : Nat → Nat) (q : Nat × Nat → Bool)
    (hq : ∀ r, q r = true → posAttr src₂ (f r.1, f r.2) = posAttr src₁ r) :
    ∀ (T₁ T₂ : Node), rmap id true T₂ = rmap f true T₁ → allN (rendered q) T₁ = true →
      dropA (toRender lp (spPure src₂ T₂)) = dropA (toRender lp (spPure src₁ T₁))
  | ⟨k₁, r₁, a₁, cs₁⟩, ⟨k₂, r₂, a₂, cs₂⟩, hT, hall => by
    simp only [rmap, Node.mk.injEq] at hT
    obtain ⟨hk, hr, ha, hcs⟩ := hT
    subst hk ha
    simp only [allN, Bool.and_eq_true] at hall
    simp only [spPure, toRender, dropA, usesAttrs_toRender, final_list lp src₁ src₂ f q hq cs₁ cs₂ hcs hall.2]
    congr 1
    by_cases hk : k₂.rendersAttrs = true
    · simp only [hk, if_true]
      simp only [rangeOf, hk, Bool.not_true, Bool.and_false, Bool.false_eq_true, if_false, mapRange,
        id_eq] at hr
      have hrr : r₂ = r₁.map fun p => (f p.1, f p.2) := by
        rw [← hr]; cases r₂ <;> rfl
      subst hrr
      cases r₁ with
      | none => rfl
      | some r =>
        have hqr : q r = true := by
          have := hall.1
          simpa [rendered, hk] using this
        simp only [Option.map_some, pushPos, hq r hqr]
    · simp only [hk, if_false, Bool.false_eq_true]
theorem final_list (lp : List Char) (src₁ src₂ : List Char) (f : Nat → Nat) (q : Nat × Nat → Bool)
    (hq : ∀ r, q r = true → posAttr src₂ (f r.1, f r.2) = posAttr src₁ r) :
    ∀ (c₁ c₂ : List Node), rmapList id true c₂ = rmapList f true c₁ → allNList (rendered q) c₁ = true →
      dropAList (toRenderList lp (spPureList src₂ c₂)) = dropAList (toRenderList lp (spPureList src₁ c₁))
  | [], [], _, _ => rfl
  | [], _ :: _, h, _ => by simp [rmapList] at h
  | _ :: _, [], h, _ => by simp [rmapList] at h
  | x :: xs, y :: ys, h, hall => by
    simp only [rmapList, List.cons.injEq] at h
    simp only [allNList, Bool.and_eq_true] at hall
    simp only [spPureList, toRenderList, dropAList, final_node lp src₁ src₂ f q hq x y h.1 hall.1,
      final_list lp src₁ src₂ f q hq xs ys h.2 hall.2]
end

theorem final_stage (x : Bool) (cfg : DocCfg) (src₁ src₂ : List Char) (f : Nat → Nat) (q : Nat × Nat → Bool)
    (hq : ∀ r, q r = true → posAttr src₂ (f r.1, f r.2) = posAttr src₁ r)
    (T₁ T₂ : Node) (hT : rmap id true T₂ = rmap f true T₁) (hall : allN (rendered q) T₁ = true) :
    renderOf x cfg (sourceposNode src₂ (mkMarks src₂) T₂) = renderOf x cfg (sourceposNode src₁ (mkMarks src₁) T₁) := by
  rw [sourceposNode_eq, sourceposNode_eq]
  simp only [renderOf, renderEvents]
  rw [← NodeRender.render_dropA cfg.entity (toRender cfg.langPrefix (spPure src₂ T₂)),
    ← NodeRender.render_dropA cfg.entity (toRender cfg.langPrefix (spPure src₁ T₁)),
    final_node cfg.langPrefix src₁ src₂ f q hq T₁ T₂ hT hall]

end MdIt.Pipeline
