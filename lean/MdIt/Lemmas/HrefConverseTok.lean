/-
  The BROWSER's side of C03 / C04: a model of the HTML5 tokenizer (WHATWG HTML §13.2.5, the states a
  start / end tag goes through) and the theorem that, run over the string the serializer of
  `Model/Render.lean` produces, it gives back exactly one tag token per tag piece — with exactly the
  attribute list the renderer was given (names and values as written, i.e. escaped) — and one
  character token per character of every character-data piece.

  The tokenizer (`step`, `run`, `htmlTokens`) follows the specification state by state:
    data (§13.2.5.1), tag open (.6), end tag open (.7), tag name (.8), before attribute name (.32),
    attribute name (.33), after attribute name (.34), before attribute value (.35), attribute value
    double-quoted / single-quoted / unquoted (.36-.38), after attribute value (quoted) (.39),
    self-closing start tag (.40)
  with "reconsume in state X" written as a call of X's step function on the same character.
  NOT modelled (documented deviations, none of them reachable on the serializer's output, which is
  what `tokens_of_pieces` proves by showing that the run ends in `data` having never left the
  modelled states):
    * `<!` (markup declaration open: comments, DOCTYPE, CDATA) and the bogus-comment states (`<?`,
      `</` followed by a non-letter other than `>`): the state `unmodelled` is a sink;
    * character references are NOT decoded by `run`: `&` is an ordinary character in data and in
      attribute values, tokens carry the RAW text.  Decoding is the separate function
      `HtmlDecode.browserDecode`, and `HtmlDecode.decode_escape` is the theorem about it;
    * the duplicate-attribute rule ("if there is already an attribute with the same name, the new one
      is dropped", applied when the attribute name state is left) is not applied: the token carries
      every attribute in order (`dropDupNames` is that rule as a function on the finished token);
    * parse errors are not recorded, only their effect on the token stream;
    * end of file inside a tag: `run` returns the state it stopped in (the specification drops the
      unfinished tag).
-/
import MdIt.Props.C03

set_option autoImplicit false

namespace MdIt.HtmlTok
open MdIt.Render (Piece pattrsStr flattenP flatten Escaped escapeHtml escapeChar attrStr attrsStr
  escAttrs Event)

/-! ## 1. the tokenizer -/

/-- a start or end tag token -/
structure Tag where
  isEnd : Bool
  name : List Char
  attrs : List (List Char × List Char)
  selfClosing : Bool
  deriving DecidableEq, Repr

inductive Tok where
  | char (c : Char)
  | tag (t : Tag)
  deriving DecidableEq, Repr

inductive St where
  | data
  | tagOpen
  | endTagOpen
  | tagName (t : Tag)
  | beforeAttrName (t : Tag)
  /-- the attribute under construction has name `n` (and empty value) -/
  | attrName (t : Tag) (n : List Char)
  | afterAttrName (t : Tag) (n : List Char)
  | beforeAttrValue (t : Tag) (n : List Char)
  | valueDq (t : Tag) (n v : List Char)
  | valueSq (t : Tag) (n v : List Char)
  | valueUq (t : Tag) (n v : List Char)
  | afterValueQ (t : Tag)
  | selfClosingStart (t : Tag)
  /-- comment / DOCTYPE / CDATA / bogus comment: not modelled (a sink) -/
  | unmodelled
  deriving DecidableEq, Repr

/-- U+0009 TAB, U+000A LF, U+000C FF, U+0020 SPACE -/
def isWs (c : Char) : Bool := c = '\t' || c = '\n' || c = '\x0c' || c = ' '

def isUpper (c : Char) : Bool := decide (65 ≤ c.toNat) && decide (c.toNat ≤ 90)
def isLower (c : Char) : Bool := decide (97 ≤ c.toNat) && decide (c.toNat ≤ 122)
def isAlpha (c : Char) : Bool := isUpper c || isLower c

/-- what is appended to a tag / attribute NAME for the input character `c`: ASCII upper case is
    lowered, U+0000 becomes U+FFFD -/
def normName (c : Char) : Char :=
  if c = '\x00' then '\uFFFD' else if isUpper c then Char.ofNat (c.toNat + 32) else c

/-- what is appended to an attribute VALUE: U+0000 becomes U+FFFD -/
def normVal (c : Char) : Char := if c = '\x00' then '\uFFFD' else c

/-- the current attribute is complete: it joins the tag's list -/
def Tag.push (t : Tag) (n v : List Char) : Tag := { t with attrs := t.attrs ++ [(n, v)] }

/-- §13.2.5.1 data state (`&`: the character reference is not decoded here, see the header) -/
def dataStep (c : Char) : St × List Tok :=
  if c = '<' then (.tagOpen, []) else (.data, [.char c])

/-- §13.2.5.8 tag name state -/
def tagNameStep (t : Tag) (c : Char) : St × List Tok :=
  if isWs c then (.beforeAttrName t, [])
  else if c = '/' then (.selfClosingStart t, [])
  else if c = '>' then (.data, [.tag t])
  else (.tagName { t with name := t.name ++ [normName c] }, [])

/-- §13.2.5.34 after attribute name state.  "Anything else: start a new attribute, reconsume in the
    attribute name state" — for a character that is none of the four above the attribute name state
    appends it, which is what is written here (this breaks the definitional cycle with
    `attrNameStep`). -/
def afterAttrNameStep (t : Tag) (n : List Char) (c : Char) : St × List Tok :=
  if isWs c then (.afterAttrName t n, [])
  else if c = '/' then (.selfClosingStart (t.push n []), [])
  else if c = '=' then (.beforeAttrValue t n, [])
  else if c = '>' then (.data, [.tag (t.push n [])])
  else (.attrName (t.push n []) [normName c], [])

/-- §13.2.5.33 attribute name state (`"`, `'`, `<` are a parse error and appended like anything else) -/
def attrNameStep (t : Tag) (n : List Char) (c : Char) : St × List Tok :=
  if isWs c || c = '/' || c = '>' then afterAttrNameStep t n c
  else if c = '=' then (.beforeAttrValue t n, [])
  else (.attrName t (n ++ [normName c]), [])

/-- §13.2.5.32 before attribute name state.  `/` and `>` are reconsumed in the after attribute name
    state; no attribute has been started, so that state's actions for them are taken on `t` itself. -/
def beforeAttrNameStep (t : Tag) (c : Char) : St × List Tok :=
  if isWs c then (.beforeAttrName t, [])
  else if c = '/' then (.selfClosingStart t, [])
  else if c = '>' then (.data, [.tag t])
  else if c = '=' then (.attrName t ['='], [])
  else attrNameStep t [] c

/-- §13.2.5.38 attribute value (unquoted) state -/
def valueUqStep (t : Tag) (n v : List Char) (c : Char) : St × List Tok :=
  if isWs c then (.beforeAttrName (t.push n v), [])
  else if c = '>' then (.data, [.tag (t.push n v)])
  else (.valueUq t n (v ++ [normVal c]), [])

/-- §13.2.5.35 before attribute value state -/
def beforeAttrValueStep (t : Tag) (n : List Char) (c : Char) : St × List Tok :=
  if isWs c then (.beforeAttrValue t n, [])
  else if c = '"' then (.valueDq t n [], [])
  else if c = '\'' then (.valueSq t n [], [])
  else if c = '>' then (.data, [.tag (t.push n [])])
  else valueUqStep t n [] c

/-- §13.2.5.36 attribute value (double-quoted) state -/
def valueDqStep (t : Tag) (n v : List Char) (c : Char) : St × List Tok :=
  if c = '"' then (.afterValueQ (t.push n v), []) else (.valueDq t n (v ++ [normVal c]), [])

/-- §13.2.5.37 attribute value (single-quoted) state -/
def valueSqStep (t : Tag) (n v : List Char) (c : Char) : St × List Tok :=
  if c = '\'' then (.afterValueQ (t.push n v), []) else (.valueSq t n (v ++ [normVal c]), [])

/-- §13.2.5.39 after attribute value (quoted) state -/
def afterValueQStep (t : Tag) (c : Char) : St × List Tok :=
  if isWs c then (.beforeAttrName t, [])
  else if c = '/' then (.selfClosingStart t, [])
  else if c = '>' then (.data, [.tag t])
  else beforeAttrNameStep t c

/-- §13.2.5.40 self-closing start tag state -/
def selfClosingStartStep (t : Tag) (c : Char) : St × List Tok :=
  if c = '>' then (.data, [.tag { t with selfClosing := true }]) else beforeAttrNameStep t c

/-- §13.2.5.6 tag open state -/
def tagOpenStep (c : Char) : St × List Tok :=
  if c = '!' then (.unmodelled, [])
  else if c = '/' then (.endTagOpen, [])
  else if isAlpha c then tagNameStep ⟨false, [], [], false⟩ c
  else if c = '?' then (.unmodelled, [])
  else ((dataStep c).1, .char '<' :: (dataStep c).2)

/-- §13.2.5.7 end tag open state -/
def endTagOpenStep (c : Char) : St × List Tok :=
  if isAlpha c then tagNameStep ⟨true, [], [], false⟩ c
  else if c = '>' then (.data, [])
  else (.unmodelled, [])

/-- one input character: the new state and the tokens emitted -/
def step : St → Char → St × List Tok
  | .data, c => dataStep c
  | .tagOpen, c => tagOpenStep c
  | .endTagOpen, c => endTagOpenStep c
  | .tagName t, c => tagNameStep t c
  | .beforeAttrName t, c => beforeAttrNameStep t c
  | .attrName t n, c => attrNameStep t n c
  | .afterAttrName t n, c => afterAttrNameStep t n c
  | .beforeAttrValue t n, c => beforeAttrValueStep t n c
  | .valueDq t n v, c => valueDqStep t n v c
  | .valueSq t n v, c => valueSqStep t n v c
  | .valueUq t n v, c => valueUqStep t n v c
  | .afterValueQ t, c => afterValueQStep t c
  | .selfClosingStart t, c => selfClosingStartStep t c
  | .unmodelled, _ => (.unmodelled, [])

/-- the tokens emitted on `s` from state `st`, and the state reached -/
def run : St → List Char → List Tok × St
  | st, [] => ([], st)
  | st, c :: r => ((step st c).2 ++ (run (step st c).1 r).1, (run (step st c).1 r).2)

/-- the token stream of a document (and the state at its end: `data` unless the text stops inside
    a tag or the tokenizer met a construct that is not modelled) -/
def htmlTokens (s : List Char) : List Tok × St := run .data s

/-- the attributes a browser reads off the attribute part of a start tag (what stands between the
    element name and the closing `>`): `none` if the text does not stay inside the tag -/
def parseAttrs (s : List Char) : Option (List (List Char × List Char)) :=
  match run (.tagName ⟨false, [], [], false⟩) (s ++ ['>']) with
  | ([.tag t], .data) => some t.attrs
  | _ => none

/-- the duplicate-attribute rule of the attribute name state, applied to a finished list: an
    attribute whose name already occurred is dropped -/
def dropDupNames : List (List Char × List Char) → List (List Char × List Char)
  | [] => []
  | nv :: r => nv :: (dropDupNames r).filter (fun x => x.1 ≠ nv.1)

/-! ## 2. running over the segments of a tag -/

theorem run_trans {st s1 s2 : St} {a b : List Char} {o1 o2 : List Tok}
    (h1 : run st a = (o1, s1)) (h2 : run s1 b = (o2, s2)) : run st (a ++ b) = (o1 ++ o2, s2) := by
  induction a generalizing st o1 with
  | nil => simp [run] at h1; obtain ⟨rfl, rfl⟩ := h1; simpa using h2
  | cons c r ih =>
    simp only [run, Prod.mk.injEq] at h1
    obtain ⟨rfl, hs⟩ := h1
    have := ih (st := (step st c).1) (o1 := (run (step st c).1 r).1) (by rw [← hs])
    simp only [List.cons_append, run, this, List.append_assoc]

theorem run_cons {st st' s2 : St} {c : Char} {r : List Char} {o o2 : List Tok}
    (h1 : step st c = (st', o)) (h2 : run st' r = (o2, s2)) : run st (c :: r) = (o ++ o2, s2) := by
  simp only [run, h1, h2]

/-- a character a NAME may consist of so that the tokenizer reads it back unchanged: no white space,
    none of `/` `>` `=`, no ASCII upper case letter, not U+0000 -/
def nameChar (c : Char) : Bool :=
  !isWs c && c != '/' && c != '>' && c != '=' && !isUpper c && c != '\x00'

def NameTok (n : List Char) : Prop := ∀ c ∈ n, nameChar c = true

instance (n : List Char) : Decidable (NameTok n) := by unfold NameTok; infer_instance

/-- an element name the tag open state accepts and the tag name state reads back unchanged -/
def TagNameTok (n : List Char) : Prop := ∃ c r, n = c :: r ∧ isLower c = true ∧ NameTok r

/-- a double-quoted value the tokenizer reads back unchanged -/
def ValTok (v : List Char) : Prop := ∀ c ∈ v, c ≠ '"' ∧ c ≠ '\x00'

def AttrTok (nv : List Char × List Char) : Prop := nv.1 ≠ [] ∧ NameTok nv.1 ∧ ValTok nv.2

theorem nameChar_spec {c : Char} (h : nameChar c = true) :
    isWs c = false ∧ c ≠ '/' ∧ c ≠ '>' ∧ c ≠ '=' ∧ normName c = c := by
  simp only [nameChar, Bool.and_eq_true, Bool.not_eq_true', bne_iff_ne, ne_eq] at h
  obtain ⟨⟨⟨⟨⟨h1, h2⟩, h3⟩, h4⟩, h5⟩, h6⟩ := h
  exact ⟨h1, h2, h3, h4, by simp [normName, h5, h6]⟩

theorem isLower_nameChar {c : Char} (h : isLower c = true) : nameChar c = true := by
  simp only [isLower, Bool.and_eq_true, decide_eq_true_eq] at h
  have h1 : isWs c = false := by
    simp only [isWs, Bool.or_eq_false_iff, decide_eq_false_iff_not]
    refine ⟨⟨⟨?_, ?_⟩, ?_⟩, ?_⟩ <;> (rintro rfl; revert h; decide)
  have h2 : c ≠ '/' := by rintro rfl; revert h; decide
  have h3 : c ≠ '>' := by rintro rfl; revert h; decide
  have h4 : c ≠ '=' := by rintro rfl; revert h; decide
  have h5 : isUpper c = false := by
    simp only [isUpper, Bool.and_eq_false_iff, decide_eq_false_iff_not]; omega
  have h6 : c ≠ '\x00' := by rintro rfl; revert h; decide
  simp [nameChar, h1, h2, h3, h4, h5, h6]

theorem isLower_isAlpha {c : Char} (h : isLower c = true) : isAlpha c = true := by
  simp [isAlpha, h]

/-- character data without `<`: one character token each, the state stays `data` -/
theorem run_data (s : List Char) (h : ∀ c ∈ s, c ≠ '<') : run .data s = (s.map .char, .data) := by
  induction s with
  | nil => rfl
  | cons c r ih =>
    have hc := h c (by simp)
    have := ih (fun d hd => h d (by simp [hd]))
    simp [run, step, dataStep, hc, this]

theorem run_tagName (t : Tag) (s : List Char) (h : NameTok s) :
    run (.tagName t) s = ([], .tagName { t with name := t.name ++ s }) := by
  induction s generalizing t with
  | nil => simp [run]
  | cons c r ih =>
    obtain ⟨h1, h2, h3, _, h5⟩ := nameChar_spec (h c (by simp))
    have := ih { t with name := t.name ++ [c] } (fun d hd => h d (by simp [hd]))
    simp [run, step, tagNameStep, h1, h2, h3, h5, this]

theorem run_attrName (t : Tag) (n s : List Char) (h : NameTok s) :
    run (.attrName t n) s = ([], .attrName t (n ++ s)) := by
  induction s generalizing n with
  | nil => simp [run]
  | cons c r ih =>
    obtain ⟨h1, h2, h3, h4, h5⟩ := nameChar_spec (h c (by simp))
    have := ih (n ++ [c]) (fun d hd => h d (by simp [hd]))
    simp [run, step, attrNameStep, h1, h2, h3, h4, h5, this]

theorem run_valueDq (t : Tag) (n v s : List Char) (h : ValTok s) :
    run (.valueDq t n v) s = ([], .valueDq t n (v ++ s)) := by
  induction s generalizing v with
  | nil => simp [run]
  | cons c r ih =>
    obtain ⟨h1, h2⟩ := h c (by simp)
    have := ih (v ++ [c]) (fun d hd => h d (by simp [hd]))
    simp [run, step, valueDqStep, normVal, h1, h2, this]

/-- the two states in which the serializer's next attribute (or the end of the tag) is met: right
    after the element name, or right after a closing quote -/
def AttrStart (st : St) (t : Tag) : Prop := st = .tagName t ∨ st = .afterValueQ t

theorem step_attrStart_space {st : St} {t : Tag} (h : AttrStart st t) :
    step st ' ' = (.beforeAttrName t, []) := by
  rcases h with rfl | rfl <;> simp [step, tagNameStep, afterValueQStep, isWs]

theorem step_attrStart_gt {st : St} {t : Tag} (h : AttrStart st t) :
    step st '>' = (.data, [.tag t]) := by
  rcases h with rfl | rfl <;> simp [step, tagNameStep, afterValueQStep, isWs]

/-- ` name="value"` read from an attribute-start state: the attribute `(name, value)` joins the tag -/
theorem run_attr {st : St} {t : Tag} (hst : AttrStart st t) (n v : List Char) (hn0 : n ≠ [])
    (hn : NameTok n) (hv : ValTok v) :
    run st (' ' :: (n ++ ('=' :: '"' :: (v ++ ['"'])))) = ([], .afterValueQ (t.push n v)) := by
  obtain ⟨c, r, rfl⟩ := List.exists_cons_of_ne_nil hn0
  obtain ⟨h1, h2, h3, h4, h5⟩ := nameChar_spec (hn c (by simp))
  have hr : NameTok r := fun d hd => hn d (by simp [hd])
  -- the blank, the first character of the name
  have s1 := step_attrStart_space hst
  have s2 : step (.beforeAttrName t) c = (.attrName t [c], []) := by
    simp [step, beforeAttrNameStep, attrNameStep, h1, h2, h3, h4, h5]
  have s3 := run_attrName t [c] r hr
  have s4 : step (.attrName t (c :: r)) '=' = (.beforeAttrValue t (c :: r), []) := by
    simp [step, attrNameStep, isWs]
  have s5 : step (.beforeAttrValue t (c :: r)) '"' = (.valueDq t (c :: r) [], []) := by
    simp [step, beforeAttrValueStep, isWs]
  have s6 := run_valueDq t (c :: r) [] v hv
  have s7 : run (.valueDq t (c :: r) v) ['"'] = ([], .afterValueQ (t.push (c :: r) v)) := by
    simp [run, step, valueDqStep]
  have e67 := run_trans (by simpa using s6) s7
  have e57 := run_cons s5 e67
  have e47 := run_cons s4 e57
  have e37 := run_trans (by simpa using s3) e47
  have e27 := run_cons s2 e37
  have e17 := run_cons s1 e27
  simpa using e17

/-- the whole attribute part: every attribute joins the tag, in order -/
theorem run_attrs (a : List (List Char × List Char)) (h : ∀ nv ∈ a, AttrTok nv) :
    ∀ (st : St) (t : Tag), AttrStart st t →
      ∃ st', AttrStart st' { t with attrs := t.attrs ++ a } ∧ run st (pattrsStr a) = ([], st') := by
  induction a with
  | nil => intro st t hst; exact ⟨st, by simpa using hst, rfl⟩
  | cons nv r ih =>
    intro st t hst
    obtain ⟨h0, hn, hv⟩ := h nv (by simp)
    have e1 := run_attr hst nv.1 nv.2 h0 hn hv
    obtain ⟨st', hst', e2⟩ := ih (fun x hx => h x (by simp [hx])) (.afterValueQ (t.push nv.1 nv.2))
      (t.push nv.1 nv.2) (.inr rfl)
    refine ⟨st', ?_, ?_⟩
    · simpa [Tag.push] using hst'
    · have := run_trans e1 e2
      simpa [pattrsStr] using this

theorem run_close_gt {st : St} {t : Tag} (h : AttrStart st t) : run st ['>'] = ([.tag t], .data) := by
  simp [run, step_attrStart_gt h]

theorem run_close_slash {st : St} {t : Tag} (h : AttrStart st t) :
    run st [' ', '/', '>'] = ([.tag { t with selfClosing := true }], .data) := by
  have s1 := step_attrStart_space h
  have s2 : step (.beforeAttrName t) '/' = (.selfClosingStart t, []) := by
    simp [step, beforeAttrNameStep, isWs]
  have s3 : run (.selfClosingStart t) ['>'] = ([.tag { t with selfClosing := true }], .data) := by
    simp [run, step, selfClosingStartStep]
  have := run_cons s1 (run_cons s2 s3)
  simpa using this

/-- from `data`, `<name`: the tag name state holding `name` -/
theorem run_open_name (n : List Char) (h : TagNameTok n) :
    run .data ('<' :: n) = ([], .tagName ⟨false, n, [], false⟩) := by
  obtain ⟨c, r, rfl, hc, hr⟩ := h
  obtain ⟨h1, h2, h3, _, h5⟩ := nameChar_spec (isLower_nameChar hc)
  have hne : c ≠ '!' := by
    rintro rfl; revert hc; decide
  have hq : c ≠ '?' := by
    rintro rfl; revert hc; decide
  have s1 : step .data '<' = (.tagOpen, []) := by simp [step, dataStep]
  have s2 : step .tagOpen c = (.tagName ⟨false, [c], [], false⟩, []) := by
    simp [step, tagOpenStep, tagNameStep, hne, h2, isLower_isAlpha hc, h1, h3, h5]
  have s3 := run_tagName ⟨false, [c], [], false⟩ r hr
  have := run_cons s1 (run_cons s2 s3)
  simpa using this

/-- from `data`, `</name`: the tag name state holding the end tag `name` -/
theorem run_close_name (n : List Char) (h : TagNameTok n) :
    run .data ('<' :: '/' :: n) = ([], .tagName ⟨true, n, [], false⟩) := by
  obtain ⟨c, r, rfl, hc, hr⟩ := h
  obtain ⟨h1, h2, h3, _, h5⟩ := nameChar_spec (isLower_nameChar hc)
  have s1 : step .data '<' = (.tagOpen, []) := by simp [step, dataStep]
  have s1' : step .tagOpen '/' = (.endTagOpen, []) := by simp [step, tagOpenStep]
  have s2 : step .endTagOpen c = (.tagName ⟨true, [c], [], false⟩, []) := by
    simp [step, endTagOpenStep, tagNameStep, h2, isLower_isAlpha hc, h1, h3, h5]
  have s3 := run_tagName ⟨true, [c], [], false⟩ r hr
  have := run_cons s1 (run_cons s1' (run_cons s2 s3))
  simpa using this

/-! ## 3. the token stream of a piece list -/

/-- what the tokenizer must be able to rely on, piece by piece -/
def PieceTok : Piece → Prop
  | .open n a => TagNameTok n ∧ ∀ nv ∈ a, AttrTok nv
  | .close n => TagNameTok n
  | .void n a _ => TagNameTok n ∧ ∀ nv ∈ a, AttrTok nv
  | .chars s => ∀ c ∈ s, c ≠ '<'

/-- the tokens a piece stands for -/
def tokOf : Piece → List Tok
  | .open n a => [.tag ⟨false, n, a, false⟩]
  | .close n => [.tag ⟨true, n, [], false⟩]
  | .void n a slash => [.tag ⟨false, n, a, slash⟩]
  | .chars s => s.map .char

def toksP : List Piece → List Tok
  | [] => []
  | p :: r => tokOf p ++ toksP r

theorem run_piece (p : Piece) (h : PieceTok p) : run .data p.str = (tokOf p, .data) := by
  cases p with
  | «open» n a =>
    have e1 := run_open_name n h.1
    obtain ⟨st', hst', e2⟩ := run_attrs a h.2 _ ⟨false, n, [], false⟩ (.inl rfl)
    have e3 := run_close_gt hst'
    have := run_trans e1 (run_trans e2 e3)
    simpa [Piece.str, tokOf] using this
  | close n =>
    have e1 := run_close_name n h
    have e3 := run_close_gt (st := .tagName ⟨true, n, [], false⟩) (.inl rfl)
    have := run_trans e1 e3
    simpa [Piece.str, tokOf] using this
  | void n a slash =>
    have e1 := run_open_name n h.1
    obtain ⟨st', hst', e2⟩ := run_attrs a h.2 _ ⟨false, n, [], false⟩ (.inl rfl)
    cases slash with
    | false =>
      have e3 := run_close_gt hst'
      have := run_trans e1 (run_trans e2 e3)
      simpa [Piece.str, tokOf] using this
    | true =>
      have e3 := run_close_slash hst'
      have := run_trans e1 (run_trans e2 e3)
      simpa [Piece.str, tokOf] using this
  | chars s => exact run_data s h

/-- **`tokens_of_pieces`.**  The tokenizer, started in the data state on the flattening of a piece
    list whose names are readable (`PieceTok`), never leaves the modelled states, ends in the data
    state, and emits exactly: one tag token per tag piece — its name, its attribute list in order
    with names and values as written, the self-closing flag iff ` />` — and one character token per
    character of each character-data piece. -/
theorem tokens_of_pieces (ps : List Piece) (h : ∀ p ∈ ps, PieceTok p) :
    htmlTokens (flattenP ps) = (toksP ps, .data) := by
  unfold htmlTokens
  induction ps with
  | nil => rfl
  | cons p r ih =>
    have e1 := run_piece p (h p (by simp))
    have e2 := ih (fun q hq => h q (by simp [hq]))
    have := run_trans e1 e2
    simpa [toksP] using this

end MdIt.HtmlTok
