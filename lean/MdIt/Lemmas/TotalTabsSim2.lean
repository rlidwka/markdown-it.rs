/-
  Helper development for `Props/TotalTabs.lean`, the lock-step simulation of Lemmas/TotalTabsSim.lean
  continued: links (`linkRule`, with `skip_token` / `tokenize` abstracted), one rule in
  silent and in real mode (`runRule_simT`), the whole tokenizer, `parseInline`.

  Look-ahead (`skip_token`, silent mode) never reads the table nor a range, so its simulation
  (`SimFnR true (IRel false)`, the `…_ctl` lemmas of Lemmas/C10DocInlineRel.lean) needs no hypothesis about side 2.  Real mode needs side 2 not to
  underflow where it does arithmetic on source offsets (`trailing_text_pop`, the delimiter matcher): the guard on
  side 2 is the frame invariant of the inline parser in inline-text coordinates (`GJ` = `IC.ICJ` for the
  stretches `Within c`, Lemmas/InlineCertLink.lean), whose image in source coordinates is `C05T.tv_RInv`
  (`IC.ICF.riv`).  The chain, the loop bodies and the induction on fuel are the engine `Inline.engine_simJ` of
  Lemmas/C10DocInlineRel.lean; side 2 keeps the guard by `IC.ic_runRule`, `IC.ic_tokStep`, `IC.ic_tokKeeps`.
-/
import MdIt.Lemmas.TotalTabsSim
import MdIt.Lemmas.LinkStep

namespace MdIt.Inline.TT
open MdIt.Inline
open MdIt.InlineOps (Srcmap getSourcePosFor getMap byteLen slice)
open MdIt.C05T (MapT RIv tv_RInv tv_NlAct SolidMarkers Within Anchored)
open MdIt.C05R (Cut)
open MdIt.C05 (WFMap)

/-- the guard on side 2: the frame invariant in inline-text coordinates, for the text `c` and table `m` -/
def GJ (cfg : Cfg) (c : List Char) (m : Srcmap) (lo : Nat) (b : IState) : Prop :=
  JInv (IC.ICJ cfg c m (Within c) (Anchored c)) lo b

/-- what the guard asks of the nested `tokenize`: it restores the frame and keeps the guard -/
def TokG (cfg : Cfg) (c : List Char) (m : Srcmap) (tok : IState → Except Panic IState) : Prop :=
  (∀ s s', tok s = .ok s' → Frame s s') ∧ TokKeeps (IC.ICJ cfg c m (Within c) (Anchored c)) tok

/-- under the guard the table of side 2 is `m`, and the frame invariant in source coordinates holds -/
theorem GJ.riv {cfg : Cfg} {c : List Char} {m : Srcmap} (hm : MapT c m) {lo : Nat} {b : IState}
    (hj : GJ cfg c m lo b) :
    MapT b.src b.srcmap ∧ ∃ lo', tv_RInv (tv_NlAct cfg b.level) lo' b := by
  obtain ⟨h1, h2, hf⟩ := hj
  obtain ⟨lo', hlo'⟩ := C05.translate_total m hm.wf lo
  refine ⟨by rw [h1, h2]; exact hm, lo', ?_⟩
  unfold tv_RInv; rw [h1, h2]; exact hf.riv hm hlo'

theorem linkRule_simT {cfg : Cfg} {c : List Char} {m : Srcmap}
    {skip tok : IState → Except Panic IState} (hs : SimFnR true (IRel false) skip)
    (hq : CalmFn skip) (ht : SimFnJ true (IRel false) (GJ cfg c m) tok) (htr : TokG cfg c m tok)
    {fuel : Nat} {mk : List Nat → Option (List Char) → Val} {en : Bool} {offset lo : Nat}
    {a b : IState} {silent : Bool} {r : Option Nat × IState} (rel : IRel false a b)
    (hreal : silent = false → MapT b.src b.srcmap ∧ GJ cfg c m lo b ∧
      Cut b.src (b.pos + offset) (b.pos + offset + 1) ['['])
    (h : linkRule cfg skip tok fuel mk en offset a silent = .ok r) :
    Sim true (ORel false) r (linkRule cfg skip tok fuel mk en offset b silent) := by
  obtain ⟨o, s⟩ := r
  cases hpl : parseLink cfg skip fuel a (a.pos + offset) en with
  | error e => rw [linkRule_error hpl] at h; cases h
  | ok p =>
    obtain ⟨o₁, a1⟩ := p
    rcases (parseLink_ctl IRel.ctl hs rel hpl).cases with ⟨⟨o₂, b1⟩, e2, ho, rel1⟩ | ⟨hs', e, e2⟩
    · simp only [] at ho rel1; subst ho
      rw [← rel.pos] at e2
      cases o₂ with
      | none =>
        rw [linkRule_none hpl] at h; cases h
        rw [linkRule_none e2]; exact ⟨rfl, rel1⟩
      | some res =>
        cases silent with
        | true =>
          rw [linkRule_silent hpl] at h
          rw [linkRule_silent e2, rel1.pos]
          by_cases hu : res.endPos < a1.pos
          · rw [if_pos hu] at h; cases h
          · rw [if_neg hu] at h ⊢; cases h; exact ⟨rfl, rel1⟩
        | false =>
          rw [linkRule_real hpl] at h
          rw [linkRule_real e2]
          have hcalm := parseLink_calm hq e2
          have hm1 : MapT b1.src b1.srcmap := by rw [hcalm.src, hcalm.srcmap]; exact (hreal rfl).1
          have rel2 : IRel false (linkNested a1 res) (linkNested b1 res) :=
            IRel.of_eqs rel1.src rfl rfl (by simp only [rel1.level]) (by simp only [rel1.linkLevel])
              rel1.cache rel1.backticks rfl rel1.map (by simp)
          -- the nested frame on side 2
          have hnest : GJ cfg c m res.labelStart (linkNested b1 res) :=
            IC.icj_nested hq (IC.stretch_within c) (hreal rfl).2.1 (hreal rfl).2.2 e2
          cases htok : tok (linkNested a1 res) with
          | error e => rw [htok] at h; cases h
          | ok a3 =>
            rw [htok] at h
            obtain ⟨hlv, hle, rfl, rr, hg, rfl⟩ := linkClose_ok h
            rcases (ht _ _ _ _ rel2 hnest htok).cases with ⟨b3, e3, rel3⟩ | ⟨hs', e, e3⟩
            · have hfr : b3.srcmap = b1.srcmap := (htr.1 _ _ e3).srcmap
              have hwf3 : WFMap b3.srcmap := by rw [hfr]; exact hm1.wf
              rw [e3]
              obtain ⟨m3, cs3, rfl, hm3, hc3⟩ := rel3.out
              rcases (getMapSt_simT (cs := cs3) hwf3 (liftR_ok.mp hg)).liftR.cases with
                ⟨r₂, e4, hr⟩ | ⟨hs', e, e4⟩
              · simp only [linkClose, rel.pos, e4, if_neg hlv, if_neg (Nat.not_lt.mpr hle)]
                exact ⟨rfl, IRel.of_eqs rfl rfl rel1.posMax rfl rfl rfl rfl rel1.bottoms hm3
                  (rel1.ch.snoc (NRel.mk' hr hc3))⟩
              · simp only [linkClose, rel.pos, e4, if_neg hlv]; exact hs'
            · rw [e3]; exact hs'
    · rw [← rel.pos] at e2; rw [linkRule_error e2]; exact hs'

theorem ruleLink_simT {cfg : Cfg} {c : List Char} {m : Srcmap}
    {skip tok : IState → Except Panic IState} (hs : SimFnR true (IRel false) skip)
    (hq : CalmFn skip) (ht : SimFnJ true (IRel false) (GJ cfg c m) tok) (htr : TokG cfg c m tok)
    {fuel lo : Nat} {a b : IState} {silent : Bool} {r : Option Nat × IState}
    (rel : IRel false a b) (hreal : silent = false → MapT b.src b.srcmap ∧ GJ cfg c m lo b)
    (h : ruleLink cfg skip tok fuel a silent = .ok r) :
    Sim true (ORel false) r (ruleLink cfg skip tok fuel b silent) := by
  unfold ruleLink at h ⊢
  rw [rel.window]
  split at h
  · simp at h
  · simp at h
  · next x rest hw =>
    split at h
    · next hc => rw [if_pos hc]; simp only [Except.ok.injEq] at h; subst h; exact ⟨rfl, rel⟩
    · next hc =>
      rw [if_neg hc]
      have hx : x = '[' := Decidable.not_not.mp hc
      subst hx
      exact linkRule_simT hs hq ht htr rel (fun hsil => ⟨(hreal hsil).1, (hreal hsil).2,
        IC.cut_bracket (pre := []) rfl (rel.window ▸ liftR_ok.mp hw)⟩) h

theorem ruleImage_simT {cfg : Cfg} {c : List Char} {m : Srcmap}
    {skip tok : IState → Except Panic IState} (hs : SimFnR true (IRel false) skip)
    (hq : CalmFn skip) (ht : SimFnJ true (IRel false) (GJ cfg c m) tok) (htr : TokG cfg c m tok)
    {fuel lo : Nat} {a b : IState} {silent : Bool} {r : Option Nat × IState}
    (rel : IRel false a b) (hreal : silent = false → MapT b.src b.srcmap ∧ GJ cfg c m lo b)
    (h : ruleImage cfg skip tok fuel a silent = .ok r) :
    Sim true (ORel false) r (ruleImage cfg skip tok fuel b silent) := by
  unfold ruleImage at h ⊢
  rw [rel.window]
  split at h
  · simp at h
  · next rest hw =>
    exact linkRule_simT hs hq ht htr rel (fun hsil => ⟨(hreal hsil).1, (hreal hsil).2,
      IC.cut_bracket (pre := ['!']) (by decide) (rel.window ▸ liftR_ok.mp hw)⟩) h
  · simp only [Except.ok.injEq] at h; subst h; exact ⟨rfl, rel⟩

/-- **one rule**, silent or real.  In real mode side 2 is under the guard; the frame invariant in source
    coordinates read off it (`GJ.riv`) is what the newline rule and the delimiter matcher need there. -/
theorem runRule_simT {cfg : Cfg} {c : List Char} {m : Srcmap} (hm : MapT c m)
    (hmk : SolidMarkers cfg.chain) {skip tok : IState → Except Panic IState}
    (hs : SimFnR true (IRel false) skip) (hq : CalmFn skip) (ht : SimFnJ true (IRel false) (GJ cfg c m) tok)
    (htr : TokG cfg c m tok) {fuel : Nat} {id : RuleId} (hid : id ∈ cfg.chain) {lo : Nat} {a b : IState}
    {silent : Bool} {r : Option Nat × IState} (rel : IRel false a b)
    (hreal : silent = false → GJ cfg c m lo b ∧ b.level < cfg.maxNesting)
    (h : runRule cfg skip tok fuel id a silent = .ok r) :
    Sim true (ORel false) r (runRule cfg skip tok fuel id b silent) := by
  have hwf : silent = false → WFMap b.srcmap := fun hsil => ((hreal hsil).1.riv hm).1.wf
  unfold runRule at h ⊢
  cases id with
  | text => exact liftR_sim (fun _ h' => orel_of id (XG.ruleText_sim (irel_to rel) (fun hs _ => .inr (hwf hs)) h')) h
  | newline =>
    exact liftR_sim (fun _ h' => orel_of id (XG.ruleNewline_sim (irel_to rel) (fun hs _ => .inr (hwf hs))
      (fun hsil _ => .inr (by
        obtain ⟨hmap, lo', hri⟩ := (hreal hsil).1.riv hm
        exact trailOKw_pop (trailOKw_of hmap hri ⟨hid, (hreal hsil).2⟩))) h')) h
  | escape => exact liftR_sim (fun _ h' => orel_of id (XG.ruleEscape_sim (irel_to rel) (fun hs _ => .inr (hwf hs)) h')) h
  | backticks =>
    exact liftR_sim (fun _ h' => orel_of id (XG.ruleBackticks_sim (irel_to rel) (fun hs _ => .inr (hwf hs)) h')) h
  | emph mk csw =>
    by_cases hsil : silent = false
    · obtain ⟨hmap, lo', hri⟩ := (hreal hsil).1.riv hm
      exact liftR_sim (fun _ h' => ruleEmph_simT (A := tv_NlAct cfg b.level) (lo := lo') rel
        (fun _ => ⟨hmap, hri, hmk mk csw hid⟩) h') h
    · exact liftR_sim (fun _ h' => ruleEmph_simT (A := True) (lo := 0) rel
        (fun hh => absurd hh hsil) h') h
  | link => exact ruleLink_simT hs hq ht htr rel (fun hsil => ⟨((hreal hsil).1.riv hm).1, (hreal hsil).1⟩) h
  | image => exact ruleImage_simT hs hq ht htr rel (fun hsil => ⟨((hreal hsil).1.riv hm).1, (hreal hsil).1⟩) h
  | linkEnd => simp only [Except.ok.injEq] at h; subst h; exact ⟨rfl, rel⟩
  | autolink =>
    exact liftR_sim (fun _ h' => orel_of id (XG.ruleAutolink_sim (irel_to rel) (fun hs _ => .inr (hwf hs)) h')) h
  | entity => exact liftR_sim (fun _ h' => orel_of id (XG.ruleEntity_sim (irel_to rel) (fun hs _ => .inr (hwf hs)) h')) h

/-- **the strict lock-step simulation through the whole tokenizer**: `engine_simJ` with the frame invariant in
    inline-text coordinates as guard on side 2; side 2 keeps it behind every rule that declines and over every
    loop step (`IC.ic_runRule`, `IC.ic_tokStep`) -/
theorem simT_induction (cfg : Cfg) (hmk : SolidMarkers cfg.chain) {c : List Char} {m : Srcmap}
    (hm : MapT c m) : ∀ fuel : Nat,
    SimFnR true (IRel false) (fun st => skipToken cfg fuel st) ∧
    (∀ (e lo : Nat) (a b a' : IState), IRel false a b → GJ cfg c m lo b →
      tokLoop cfg fuel e a = .ok a' → Sim true (IRel false) a' (tokLoop cfg fuel e b)) := by
  have hst := IC.stretch_within c
  have hsh := IC.shift_of_mapT hm
  have hmi := IC.markers_of_solid (c := c) hmk
  exact engine_simJ (t := true) (R := IRel false) IRel.ctl cfg (GJ cfg c m)
    (fun lo b => GJ cfg c m lo b ∧ b.level < cfg.maxNesting) (TokG cfg c m)
    (fun hj hl => ⟨hj, hl⟩)
    (fun hs hq ht htr rel hid hc h => runRule_simT hm hmk hs hq ht htr hid rel hc h)
    (fun {skip tok fuel id lo b b'} hq htr hid hj h => by
      have s1 := IC.ic_runRule hq htr.2 hst hsh hmi hid hj.2 hj.1 h
      have f1 := runRule_frame hq htr.1 h
      have hi1 := s1.inv
      simp only [Option.getD_none, Nat.add_zero] at hi1
      exact ⟨IC.icj_congr cfg _ _ _ _ _ f1 hi1, by rw [f1.level]; exact hj.2⟩)
    (fun hq htr hj h => IC.ic_tokStep hst hsh hmi hq htr.1 htr.2 h hj)
    (fun rel hj h => pushText_simT rel (by rcases hj with hj | hj; exact (hj.1.riv hm).1.wf; exact (hj.riv hm).1.wf) h)
    (fun f => ⟨fun s s' h => tokLoop_frame cfg f _ s s' h, IC.ic_tokKeeps cfg hst hsh hmi f⟩)

/-- **the transfer**: when the inline parser succeeds under SOME table `m₁`, it succeeds under every
    `MapT` table `m₂` (solid emphasis markers), and the two results differ in their ranges only -/
theorem parseInline_simT (cfg : Cfg) (hmk : SolidMarkers cfg.chain) (content : List Char)
    {m₁ m₂ : Srcmap} (hm : MapT content m₂) {ns₁ : List Node}
    (h : parseInline cfg content m₁ = .ok ns₁) :
    Sim true (LRel false) ns₁ (parseInline cfg content m₂) := by
  unfold parseInline tokenize at h ⊢
  have rel0 : IRel false (IState.init content m₁) (IState.init content m₂) :=
    IRel.of_eqs rfl rfl rfl rfl rfl rfl rfl rfl (mrel_false _ _) (by simp [IState.init])
  split at h
  · simp at h
  · next a' ha =>
    simp only [Except.ok.injEq] at h; subst h
    have hpm : (IState.init content m₂).posMax = (IState.init content m₁).posMax := rfl
    rcases ((simT_induction cfg hmk hm _).2 _ _ _ _ _ rel0 (IC.ic_init cfg content m₂ _ _) ha).cases with
      ⟨b', e2, rel1⟩ | ⟨hs', e, e2⟩
    · rw [hpm, e2]; exact rel1.ch
    · rw [hpm, e2]; exact hs'

end MdIt.Inline.TT
