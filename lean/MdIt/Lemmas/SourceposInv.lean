/-
  What a successful run of the `SyntaxPosRule` walk (`sourceposNode` / `sourceposList`) is made of: the node
  with new attributes over its walked children; the walked head in front of the walked tail.
-/
import MdIt.Model.Pipeline

namespace MdIt.Pipeline

theorem sourceposNode_ok {src : List Char} {marks : List SourceMap.Mark} {t t' : Node}
    (h : sourceposNode src marks t = .ok t') :
    ∃ a' cs', sourceposAttrs src marks t.range t.attrs = .ok a' ∧
      sourceposList src marks t.children = .ok cs' ∧ t' = ⟨t.kind, t.range, a', cs'⟩ := by
  obtain ⟨k, r, a, cs⟩ := t
  simp only [sourceposNode] at h
  split at h
  · cases h
  · next a' ha =>
    split at h
    · cases h
    · next cs' hcs => cases h; exact ⟨a', cs', ha, hcs, rfl⟩

theorem sourceposList_nil_ok {src : List Char} {marks : List SourceMap.Mark} {out : List Node}
    (h : sourceposList src marks [] = .ok out) : out = [] := by
  simp only [sourceposList, Except.ok.injEq] at h; exact h.symm

theorem sourceposList_cons_ok {src : List Char} {marks : List SourceMap.Mark} {c : Node} {r out : List Node}
    (h : sourceposList src marks (c :: r) = .ok out) :
    ∃ c' r', sourceposNode src marks c = .ok c' ∧ sourceposList src marks r = .ok r' ∧ out = c' :: r' := by
  simp only [sourceposList] at h
  split at h
  · cases h
  · next c' hc =>
    split at h
    · cases h
    · next r' hr => cases h; exact ⟨c', r', hc, hr, rfl⟩

end MdIt.Pipeline
