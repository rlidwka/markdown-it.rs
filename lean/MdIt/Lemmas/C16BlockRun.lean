/-
  C16 on the block side: ONE ITERATION OF THE TOKENIZER LOOP, THE SCAN OF THE PARAGRAPH-LIKE RULES, THE
  CHAIN.  Everything here is generic in the id type of the chain and in the rule function `run`.
  (`paragraph_ok` here, `listRule_ok` of Lemmas/C16BlockList.lean and `reference_ok` of Props/C16Block.lean
  say what the ACCEPTING rule did under a quiet sweep; the inversion lemmas of Props/Block.lean §2 they are
  read off are `paragraphRule_ok`, `Block.listRule_ok`, `referenceRule_ok`.)
-/
import MdIt.Lemmas.C16BlockCongr

namespace MdIt.BlockH.C16
open MdIt.Block
open MdIt.Lines (LineOffset)

/-! ## one iteration of `BlockParser::tokenize` -/

/-- what one iteration of the `while state.line < state.line_max` loop does: leave the loop with a
    state, or go round again with `has_empty_lines` and a state -/
inductive StepRes where
  | done (s : BState)
  | next (hasEmpty : Bool) (s : BState)

/-- the body of `tokLoopG`, statement by statement -/
def tokStepG {ι : Type} (maxNesting : Nat) (chain : List ι) (run : ι → BState → Bool → Res)
    (hasEmpty : Bool) (s : BState) : Except Panic StepRes :=
  if ¬ s.line < s.lineMax then .ok (.done s) else
  let s := { s with line := Lines.skipEmptyLines s.offs s.lineMax s.line }
  if s.line ≥ s.lineMax then .ok (.done s) else do
  let ind ← s.lineIndent s.line
  if ind < 0 then .ok (.done s) else
  if s.level ≥ maxNesting then .ok (.done { s with line := s.lineMax }) else do
  let prevLine := s.line
  let (ok, s) ← runChainG run chain s false
  let s ← afterChain ok s prevLine
  let s := { s with tight := !hasEmpty }
  let l1 ← psub s.line 1
  let hasEmpty := hasEmpty || s.isEmpty l1
  if s.line < s.lineMax ∧ s.isEmpty s.line then .ok (.next true { s with line := s.line + 1 })
  else .ok (.next hasEmpty s)

/-- how the loop goes on after an iteration -/
def contG {ι : Type} (maxNesting : Nat) (chain : List ι) (run : ι → BState → Bool → Res) (k : Nat) :
    StepRes → Except Panic BState
  | .done s => .ok s
  | .next he s => tokLoopG maxNesting chain run k he s

theorem bind_bind_congr {ε α β γ : Type} {x : Except ε α} {f : α → Except ε γ} {f' : α → Except ε β}
    {k : β → Except ε γ} (h : ∀ a, f a = f' a >>= k) : x >>= f = (x >>= f') >>= k := by
  cases x with
  | error e => rfl
  | ok a => exact h a

theorem ite_bind_congr {ε β γ : Type} {c : Prop} [Decidable c] {a b : Except ε γ} {a' b' : Except ε β}
    {k : β → Except ε γ} (ha : a = a' >>= k) (hb : b = b' >>= k) :
    (if c then a else b) = (if c then a' else b') >>= k := by
  split <;> assumption

/-- **faithfulness of `tokStepG`**: the loop with `k + 1` iterations left is one `tokStepG` and then the
    loop with `k` iterations left (a panic of the step is the panic of the loop) -/
theorem tokLoopG_succ {ι : Type} (mn : Nat) (chain : List ι) (run : ι → BState → Bool → Res)
    (k : Nat) (he : Bool) (s : BState) :
    tokLoopG mn chain run (k + 1) he s = (tokStepG mn chain run he s >>= contG mn chain run k) := by
  rw [tokLoopG, tokStepG]
  exact ite_bind_congr rfl (ite_bind_congr rfl (bind_bind_congr fun ind => ite_bind_congr rfl
    (ite_bind_congr rfl (bind_bind_congr fun r => bind_bind_congr fun s2 => bind_bind_congr fun l1 =>
      ite_bind_congr rfl rfl))))


/-! ## the look-ahead contract of a run with custom rules: quiet up to `line` -/

/-- the sweep hands back the state it was given, except possibly `state.line` (a custom rule may advance
    the line in look-ahead mode — the documented contract, `examples/ferris/block_rule.rs`) -/
def TestQuiet (test : Test) : Prop := ∀ s b s', test s = .ok (b, s') → { s' with line := s.line } = s

theorem TestQuiet.of_pure {test : Test} (h : TestPure test) : TestQuiet test := by
  intro s b s' ht
  have := h s (b, s') ht
  simp only at this
  subst this
  cases s'; rfl

/-- the callers' `state.line = old_line` after the sweep gives back the caller's state -/
theorem quiet_restore {s s1 : BState} {nl : Nat}
    (h : { s1 with line := nl } = { s with line := nl }) : { s1 with line := s.line } = s := by
  cases s; cases s1
  simp only [BState.mk.injEq] at h ⊢
  simp [h]

/-- the scan stopped at `l` BECAUSE THE SWEEP ANSWERED YES THERE: `l` is an existing, non-blank line,
    less than 4 columns in, not a lazy continuation line of a quote (`indent_nonspace ≥ 0`), and
    `test_rules_at_line` — called on the caller's state with `line := l` — answered `true` -/
structure SweepStop (test : Test) (s : BState) (l : Nat) : Prop where
  lt : l < s.lineMax
  nonblank : s.isEmpty l = false
  ind : ∃ ind, s.lineIndent l = .ok ind ∧ ind < 4
  off : ∃ o, s.off l = .ok o ∧ 0 ≤ o.indentNonspace
  yes : ∃ s1, test { s with line := l } = .ok (true, s1)

/-- **the scan of the paragraph / lheading / reference rule** under a quiet sweep: it hands back the
    state it was given (the model restores `line` after every sweep: `s2 := { s1 with line := oldLine }`
    in `lazyScan`), moves forward, and stops for exactly one of three reasons -/
theorem lazyScan_stop {test : Test} (ht : TestQuiet test) (setext : Bool) :
    ∀ (fuel : Nat) (s : BState) (n l lvl : Nat) (s' : BState),
      lazyScan test setext fuel s n = .ok (l, lvl, s') →
      s' = s ∧ n < l ∧
      ((lvl = 0 ∧ (l ≥ s.lineMax ∨ s.isEmpty l = true)) ∨
       (lvl ≠ 0 ∧ setext = true ∧ l < s.lineMax) ∨
       (lvl = 0 ∧ SweepStop test s l)) := by
  intro fuel
  induction fuel with
  | zero => intro s n l lvl s' h; simp [lazyScan] at h
  | succ f ih =>
    intro s n l lvl s' h
    rcases lazyScan_ok h with ⟨hc, rfl, rfl, rfl⟩ | ⟨ind, hc, hind, hq⟩
    · exact ⟨rfl, by omega, .inl ⟨rfl, hc⟩⟩
    simp only [not_or] at hc
    rcases hq with ⟨_, h⟩ | ⟨lv, h4, hsx, hq⟩
    · obtain ⟨h1, h2, h3⟩ := ih _ _ _ _ _ h
      exact ⟨h1, by omega, h3⟩
    rcases hq with ⟨hl, rfl, rfl, rfl⟩ | ⟨o, rfl, ho, hq⟩
    · refine ⟨rfl, by omega, .inr (.inl ⟨hl, ?_, by omega⟩)⟩
      unfold setextCheck at hsx
      split at hsx
      · rename_i hh; exact hh.1
      · simp only [pure_ok] at hsx; exact absurd hsx.symm hl
    rcases hq with ⟨_, h⟩ | ⟨t, S, hneg, htest, hq⟩
    · obtain ⟨h1, h2, h3⟩ := ih _ _ _ _ _ h
      exact ⟨h1, by omega, h3⟩
    have hr := quiet_restore (ht _ _ _ htest)
    rcases hq with ⟨rfl, rfl, rfl, rfl⟩ | ⟨rfl, h⟩
    · exact ⟨hr, by omega, .inr (.inr ⟨rfl, by omega, by simpa using hc.2, ⟨_, hind, h4⟩, ⟨_, ho, hneg⟩,
        ⟨_, htest⟩⟩)⟩
    · rw [hr] at h
      obtain ⟨h1, h2, h3⟩ := ih _ _ _ _ _ h
      exact ⟨h1, by omega, h3⟩


/-- what the paragraph rule does in real mode, under a quiet sweep: it always accepts; the new state is
    the old one at the line where the scan stopped, with one `Paragraph` node more -/
theorem paragraph_ok {test : Test} (ht : TestQuiet test) {fuel : Nat} {s s' : BState} {b : Bool}
    (h : paragraphRule test fuel s false = .ok (b, s')) :
    b = true ∧ ∃ l lvl r content mapping, lazyScan test false fuel s s.line = .ok (l, lvl, s) ∧
      s' = upd { s with line := l }
        (s.children ++ [⟨.paragraph, some r, [⟨.inlineRoot content mapping, none, []⟩]⟩]) s.tight s.refs := by
  rcases paragraphRule_ok h with ⟨hs, _⟩ | ⟨l, lvl, s0, content, mapping, r, _, hs, _, _, _, rfl, rfl⟩
  · cases hs
  obtain ⟨rfl, _, _⟩ := lazyScan_stop ht false _ _ _ _ _ _ hs
  exact ⟨rfl, l, lvl, r, content, mapping, hs, by cases s0; rfl⟩

/-! ## the chain -/

section chain
variable {ι : Type} {run : ι → BState → Bool → Res}

/-- every member of `pre` declines on `s` and leaves it as it was -/
def Declined (run : ι → BState → Bool → Res) (pre : List ι) (s : BState) (silent : Bool) : Prop :=
  ∀ j ∈ pre, run j s silent = .ok (false, s)

theorem declined_nil {s : BState} {silent : Bool} : Declined run [] s silent := fun _ h => nomatch h

theorem declined_cons {p : ι} {pre : List ι} {s : BState} {silent : Bool} (hp : run p s silent = .ok (false, s))
    (h : Declined run pre s silent) : Declined run (p :: pre) s silent := by
  intro k hk
  rcases List.mem_cons.mp hk with rfl | hk
  · exact hp
  · exact h k hk

/-- a `true` of the chain comes from its first member that says `true`, reached on the untouched state
    (`Block.runChainG_first`; that the chain goes through a `Declined` prefix is `Block.runChainG_declined`) -/
theorem chain_true_split (hno : ∀ i s s', run i s silent = .ok (false, s') → s' = s)
    (chain : List ι) {s s1 : BState} (h : runChainG run chain s silent = .ok (true, s1)) :
    ∃ pre j post, chain = pre ++ j :: post ∧ Declined run pre s silent ∧ run j s silent = .ok (true, s1) := by
  rcases runChainG_first hno chain s with ⟨-, h0⟩ | ⟨pre, j, post, hc, hd, h1, -⟩
  · cases h0.symm.trans h
  · exact ⟨pre, j, post, hc, hd, h1 ▸ h⟩

/-- **look-ahead and real parsing agree on the chain**: if the first look-ahead yes on `s` is member `j`
    (behind `pre`), then the real chain on `s`, when it returns, accepts — with `j` itself, or with a
    member of `pre` (one that declines in look-ahead mode and accepts in real mode) -/
theorem chain_agree (hfs : ∀ i s s', run i s false = .ok (false, s') → s' = s)
    (hsr : ∀ i s s1 s2 b, run i s true = .ok (true, s1) → run i s false = .ok (b, s2) → b = true) :
    ∀ (pre : List ι) (j : ι) (post : List ι) {s s1 s2 : BState} {b : Bool},
      run j s true = .ok (true, s1) → runChainG run (pre ++ j :: post) s false = .ok (b, s2) →
      b = true ∧ ∃ pre' j' post', pre ++ j :: post = pre' ++ j' :: post' ∧ Declined run pre' s false ∧
        run j' s false = .ok (true, s2) ∧ pre'.length ≤ pre.length ∧ ((pre' = pre ∧ j' = j) ∨ j' ∈ pre) := by
  intro pre
  induction pre with
  | nil =>
    intro j post s s1 s2 b hj h
    simp only [List.nil_append, runChainG] at h
    split at h
    · cases h
    · rename_i s' hr
      simp only [Except.ok.injEq, Prod.mk.injEq] at h
      obtain ⟨rfl, rfl⟩ := h
      exact ⟨rfl, [], j, post, rfl, declined_nil, hr, Nat.le_refl _, .inl ⟨rfl, rfl⟩⟩
    · rename_i s' hr
      exact absurd (hsr _ _ _ _ _ hj hr) (by simp)
  | cons p pre ih =>
    intro j post s s1 s2 b hj h
    simp only [List.cons_append, runChainG] at h
    split at h
    · cases h
    · rename_i s' hr
      simp only [Except.ok.injEq, Prod.mk.injEq] at h
      obtain ⟨rfl, rfl⟩ := h
      exact ⟨rfl, [], p, pre ++ j :: post, rfl, declined_nil, hr, Nat.zero_le _, .inr (List.mem_cons_self ..)⟩
    · rename_i s' hr
      have := hfs _ _ _ hr
      subst this
      obtain ⟨hb, pre', j', post', he, hd, hj', hlen, heq⟩ := ih j post hj h
      refine ⟨hb, p :: pre', j', post', by rw [List.cons_append, he]; rfl, declined_cons hr hd, hj',
        by simp only [List.length_cons]; omega, ?_⟩
      rcases heq with ⟨rfl, rfl⟩ | hm
      · exact .inl ⟨rfl, rfl⟩
      · exact .inr (List.mem_cons_of_mem _ hm)


/-- two rule functions that agree in look-ahead mode sweep alike -/
theorem runChainG_silent_ext {run run' : ι → BState → Bool → Res} (h : ∀ i s, run i s true = run' i s true) :
    ∀ (chain : List ι) (s : BState), runChainG run chain s true = runChainG run' chain s true := by
  intro chain
  induction chain with
  | nil => intro s; rfl
  | cons r rs ih =>
    intro s
    simp only [runChainG, h, ih]

/-- a sweep whose members do not read the tree / `tight` / the reference map does not read them -/
theorem runChainG_silent_upd (hc : ∀ i s c b m, run i (upd s c b m) true = Except.map (mp c b m) (run i s true))
    (c : List BNode) (b : Bool) (m : Refs.RefMap) :
    ∀ (chain : List ι) (s : BState),
      runChainG run chain (upd s c b m) true = Except.map (mp c b m) (runChainG run chain s true) := by
  intro chain
  induction chain with
  | nil => intro s; rfl
  | cons r rs ih =>
    intro s
    simp only [runChainG, hc]
    cases run r s true with
    | error e => rfl
    | ok w =>
      obtain ⟨v, s'⟩ := w
      cases v
      · exact ih s'
      · rfl

end chain

/-! ## an iteration that runs the chain -/

/-- the loop standing at `s` runs the chain, on the state `sE` (`s` behind its blank lines) -/
structure RunsChain (mn : Nat) (s sE : BState) : Prop where
  lt : s.line < s.lineMax
  eq : sE = { s with line := Lines.skipEmptyLines s.offs s.lineMax s.line }
  ltE : sE.line < sE.lineMax
  ind : ∃ ind, sE.lineIndent sE.line = .ok ind ∧ 0 ≤ ind
  lvl : sE.level < mn

/-- the statements of the loop body behind the chain -/
def afterStep (hasEmpty : Bool) (prevLine : Nat) (r : Bool × BState) : Except Panic StepRes := do
  let s ← afterChain r.1 r.2 prevLine
  let s := { s with tight := !hasEmpty }
  let l1 ← psub s.line 1
  let hasEmpty := hasEmpty || s.isEmpty l1
  if s.line < s.lineMax ∧ s.isEmpty s.line then .ok (.next true { s with line := s.line + 1 })
  else .ok (.next hasEmpty s)

/-- **faithfulness of `RunsChain`**: the iteration IS the real chain on `sE`, then `afterStep` -/
theorem tokStepG_runs {ι : Type} {mn : Nat} {chain : List ι} {run : ι → BState → Bool → Res} {he : Bool}
    {s sE : BState} (h : RunsChain mn s sE) :
    tokStepG mn chain run he s = (runChainG run chain sE false >>= afterStep he sE.line) := by
  obtain ⟨h1, rfl, h2, ⟨ind, h3, h4⟩, h5⟩ := h
  dsimp only at h2 h3 h5
  unfold tokStepG
  simp only [h1, not_true_eq_false, if_false]
  rw [if_neg (by omega)]
  simp only [h3, ok_bind]
  rw [if_neg (by omega), if_neg (by omega)]
  rfl


/-- **the iteration after an accepting chain**: it returns iff the progress `assert!` passes, and then the loop
    goes round again at the state the chain returned (with `tight` recomputed) when its line is not blank -/
theorem step_after_accept {ι : Type} {mn : Nat} {chain : List ι} {run : ι → BState → Bool → Res} {he : Bool}
    {s sE s1 : BState} (hR : RunsChain mn s sE) (hch : runChainG run chain sE false = .ok (true, s1))
    (hne : s1.isEmpty s1.line = false) (r : StepRes) :
    tokStepG mn chain run he s = .ok r ↔
      sE.line < s1.line ∧ r = .next (he || s1.isEmpty (s1.line - 1)) { s1 with tight := !he } := by
  rw [tokStepG_runs hR, hch, ok_bind]
  unfold afterStep afterChain
  by_cases hlt : sE.line < s1.line
  · have hp : psub s1.line 1 = .ok (s1.line - 1) := by unfold psub; rw [if_pos (by omega)]
    have hne' : Lines.isEmpty s1.offs s1.line = false := hne
    simp only [if_true, gt_iff_lt, hlt, pure, Except.pure, ok_bind, hp, BState.isEmpty, hne',
      Bool.false_eq_true, and_false, if_false, Except.ok.injEq, true_and]
    exact eq_comm
  · simp only [if_true, gt_iff_lt, hlt, if_false, false_and, iff_false]
    intro h; cases h

/-- **the next iteration**: the loop standing at an existing non-blank line below the nesting limit runs
    the chain there when the line is not outdented, and leaves the frame there when it is -/
theorem next_iteration {ι : Type} {mn : Nat} {chain : List ι} {run : ι → BState → Bool → Res}
    {u : BState} (hl : u.line < u.lineMax) (hne : u.isEmpty u.line = false) (hlv : u.level < mn)
    {ind : Int} (hind : u.lineIndent u.line = .ok ind) :
    (0 ≤ ind → RunsChain mn u u) ∧
    (ind < 0 → ∀ he, tokStepG mn chain run he u = .ok (.done u)) := by
  have hsk : Lines.skipEmptyLines u.offs u.lineMax u.line = u.line := (skipEmpty_spec _ _ _).2.2.1 hne
  have hu : ({ u with line := Lines.skipEmptyLines u.offs u.lineMax u.line } : BState) = u := by
    rw [hsk]
  constructor
  · intro h0
    exact ⟨hl, hu.symm, hl, ⟨ind, hind, h0⟩, hlv⟩
  · intro hneg he
    unfold tokStepG
    simp only [hl, not_true_eq_false, if_false, hu]
    rw [if_neg (by omega)]
    simp only [hsk, hind, ok_bind, hneg, if_true]

end MdIt.BlockH.C16
