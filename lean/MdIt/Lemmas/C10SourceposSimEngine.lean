/-
  C10 with the sourcepos plugin, exact offsets: the state relation `LX.SRel ρ G` (tables entrywise
  `LX.ERel`, children `LE.NRelL`) for one offset relation `ρ` that relates table entries, per-line
  tables and both ends of every range.  It is `Sim.SRel (rels ρ) G` (`srel_eq`; `rels ρ` is not strict,
  node values `LE.KRel ρ`), so the rule simulations and `tokenize_sim` are those of
  `MdIt/Lemmas/C10Sim*.lean`.
-/
import MdIt.Lemmas.C10SimEngine

namespace MdIt.Block.LX
open MdIt.Block.LE
open MdIt.Lines (LineOffset)

structure SRel (ρ : Nat → Nat → Prop) (G : Geo) (s₁ s₂ : BState) : Prop where
  src₁ : s₁.src = G.src₁
  src₂ : s₂.src = G.src₂
  len : s₂.offs.length = s₁.offs.length
  ent : ∀ (i : Nat) (o₁ o₂ : LineOffset), s₁.offs[i]? = some o₁ → s₂.offs[i]? = some o₂ → ERel ρ G.src₁ G.src₂ o₁ o₂
  geo₁ : s₁.offs.map geom = G.T₁
  geo₂ : s₂.offs.map geom = G.T₂
  blkIndent : s₂.blkIndent = s₁.blkIndent
  line : s₂.line = s₁.line
  lineMax : s₂.lineMax = s₁.lineMax
  tight : s₂.tight = s₁.tight
  listIndent : s₂.listIndent = s₁.listIndent
  level : s₂.level = s₁.level
  nodeKind : s₂.nodeKind = s₁.nodeKind
  refs : s₂.refs = s₁.refs
  children : NRelL ρ s₁.children s₂.children

/-- what the rule simulations assume about the two runs (no translation invariance of `ρ`) -/
structure Ctx (ρ : Nat → Nat → Prop) (G : Geo) : Prop where
  inc₁ : IncT G.T₁
  inc₂ : IncT G.T₂

/-- verdict and state of a rule call -/
def ResRel (ρ : Nat → Nat → Prop) (G : Geo) (r₁ r₂ : Bool × BState) : Prop :=
  r₁.1 = r₂.1 ∧ SRel ρ G r₁.2 r₂.2

/-- the same relation `ρ` on every offset of the trees -/
def rels (ρ : Nat → Nat → Prop) : Sim.Rels :=
  ⟨ρ, fun x y => ρ x.1 y.1 ∧ ρ x.2 y.2, KRel ρ, False⟩

section instance_
variable {ρ : Nat → Nat → Prop} {G : Geo}

theorem rgRel_iff : ∀ {r₁ r₂ : Option (Nat × Nat)}, Y.RgRel (rels ρ).τ r₁ r₂ ↔ RgRel ρ r₁ r₂
  | none, none => Iff.rfl
  | some _, some _ => Iff.rfl
  | none, some _ => Iff.rfl
  | some _, none => Iff.rfl

mutual
theorem nrel_iff : ∀ {a b : BNode}, Sim.NRel (rels ρ) a b ↔ NRel ρ a b
  | ⟨k₁, r₁, c₁⟩, ⟨k₂, r₂, c₂⟩ => by
    simp only [Sim.NRel, NRel]
    exact and_congr Iff.rfl (and_congr rgRel_iff nrelL_iff)
theorem nrelL_iff : ∀ {a b : List BNode}, Sim.NRelL (rels ρ) a b ↔ NRelL ρ a b
  | [], [] => by simp only [Sim.NRelL, NRelL]
  | a :: as, b :: bs => by simp only [Sim.NRelL, NRelL]; exact and_congr nrel_iff nrelL_iff
  | [], _ :: _ => by simp only [Sim.NRelL, NRelL]
  | _ :: _, [] => by simp only [Sim.NRelL, NRelL]
end

theorem srel_eq : SRel ρ G = Sim.SRel (rels ρ) G := by
  funext s₁ s₂
  apply propext
  constructor
  · intro S
    exact ⟨S.src₁, S.src₂, S.len, S.ent, S.geo₁, S.geo₂, S.blkIndent, S.line, S.lineMax, S.tight, S.listIndent, S.level,
      S.nodeKind, S.refs, nrelL_iff.mpr S.children⟩
  · intro S
    exact ⟨S.src₁, S.src₂, S.len, S.ent, S.geo₁, S.geo₂, S.blkIndent, S.line, S.lineMax, S.tight, S.listIndent, S.level,
      S.nodeKind, S.refs, nrelL_iff.mp S.children⟩

theorem resRel_eq : ResRel ρ G = Sim.ResRel (rels ρ) G := by
  unfold ResRel Sim.ResRel; rw [srel_eq]

theorem kOk : Sim.KOk (rels ρ) :=
  ⟨fun k _ => KRel.refl k, fun _ _ _ h => KRel.inl h, fun h k hk => KRel.eq_iff h k hk⟩

/-- every offset `line_start + d` up to the end of a line is `ρ`-related to its counterpart, and so is
    every `line_end` -/
theorem Ctx.sim (C : Ctx ρ G) : Sim.Ctx (rels ρ) G :=
  { kOk with
    inc₁ := C.inc₁
    inc₂ := C.inc₂
    rng := fun _ _ _ _ _ _ _ he he' _ _ _ _ d hd _ => ⟨he.at_ d hd, he'.end_⟩ }

end instance_

section reads
variable {ρ : Nat → Nat → Prop} {G : Geo} {s₁ s₂ : BState}

theorem SRel.off_ok (S : SRel ρ G s₁ s₂) {n : Nat} {o₁ : LineOffset} (h : s₁.off n = .ok o₁) :
    ∃ o₂, s₂.off n = .ok o₂ ∧ ERel ρ G.src₁ G.src₂ o₁ o₂ :=
  Sim.SRel.off_ok (srel_eq ▸ S) h

theorem SRel.getLines (S : SRel ρ G s₁ s₂) (b e indent : Nat) (keep : Bool) :
    FRel (fun r₁ r₂ => r₁.1 = r₂.1 ∧ MRel ρ r₁.2 r₂.2) (s₁.getLines b e indent keep)
      (s₂.getLines b e indent keep) :=
  Sim.SRel.getLines (srel_eq ▸ S) b e indent keep

theorem SRel.push (S : SRel ρ G s₁ s₂) {n₁ n₂ : BNode} (hn : NRel ρ n₁ n₂) :
    SRel ρ G (s₁.push n₁) (s₂.push n₂) :=
  srel_eq ▸ Sim.SRel.push (srel_eq ▸ S) (nrel_iff.mpr hn)

end reads

section rules
variable {ρ : Nat → Nat → Prop} {G : Geo} {s₁ s₂ : BState}

theorem hr_sim (_C : Ctx ρ G) (S : SRel ρ G s₁ s₂) (silent : Bool) :
    FRel (ResRel ρ G) (hrRule s₁ silent) (hrRule s₂ silent) := by
  rw [resRel_eq]
  exact Sim.hr_sim _C.sim (srel_eq ▸ S) silent (fun h => h.elim)

end rules

variable {ρ : Nat → Nat → Prop} {G : Geo}

/-- **the block tokenizer on related states, side 2 with at least as much fuel** -/
theorem tokenize_sim (cfg : Cfg) (C : Ctx ρ G) {f₁ f₂ : Nat} (hf : f₁ ≤ f₂) {s₁ s₂ : BState}
    (S : SRel ρ G s₁ s₂) : FRel (SRel ρ G) (tokenize cfg f₁ s₁) (tokenize cfg f₂ s₂) := by
  rw [srel_eq] at S ⊢
  exact Sim.tokenize_sim cfg C.sim hf S

end MdIt.Block.LX
