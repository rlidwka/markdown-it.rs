/-
  The delimiter matcher (`scan_and_match_delimiters`: `matchInner`, `matchOuter`, `scanAndMatch`, run
  from `ruleEmph`) for tree invariants that do not look at source ranges (node values, node shapes,
  nesting depth).

  * Inversion lemmas: what one round of the inner loop does to the sibling list, with every branch that stops the loop or panics already dealt with
    (`matchInner_round'`); the body of the outer loop under a name (`matchOuterBody`).
  * The matcher walked once for a node invariant `N`: if every sibling satisfies `N` before, every
    sibling does afterwards (`scanAndMatch_keeps`, `ruleEmph_keeps`), provided `N` survives the two
    things the matcher does to a node (`MatchKeeps`): a marker token gets another `remaining` / another
    range, and a run of siblings goes under a new wrapper while `inner_depth < room`.
    Loop invariant (`MatchInv`, `OpenerTok`): every sibling satisfies `N`; `inner_depth` bounds the
    `EmphDepth` of the nodes after `idx`; the closer differs from the closer the matcher was entered with
    at most in `remaining`; while the opener has delimiters left, the node at `idx` is a marker token
    that differs from the opener at most in `remaining` (`replace(opener)` rewrites that token, never a
    wrapper that would have taken its index).  An invariant that holds of a wrapper at any depth
    (`AnyWrap`) needs no bound on `inner_depth`: the loops may then be entered in any state.
-/
import MdIt.Lemmas.InlineRules2

namespace MdIt.Inline

/-- either the loop stops with the state unchanged, or the siblings are `pre ++ [otok] ++ tl` with
    the opener token `otok` at `idx`; then `otok` comes back with at most its range changed (or
    goes, once used up), `tl` goes into a wrapper behind it, and the loop goes on -/
theorem matchInner_round' {fns : Nat → Option Wrap} {mk : Char} {room idx fuel : Nat}
    {opener : Marker} {ms : MatchSt} {r : Marker × MatchSt}
    (h : matchInner fns mk room idx (fuel + 1) opener ms = .ok r) :
    r = (opener, ms) ∨
    ∃ ml w pre otok tl otok' rng cr, 0 < opener.remaining ∧ ms.innerDepth < room ∧ pre.length = idx ∧
      ms.children = pre ++ [otok] ++ tl ∧ otok'.val = otok.val ∧ otok'.children = otok.children ∧
      matchInner fns mk room idx fuel { opener with remaining := opener.remaining - ml }
        { closer := { ms.closer with remaining := ms.closer.remaining - ml }, closerRange := cr,
          children := (if opener.remaining - ml = 0 then pre else pre ++ [otok']) ++
            [{ val := .wrap w mk, range := rng, children := tl }],
          newMin := 0, innerDepth := ms.innerDepth + 1 } = .ok r := by
  generalize hf : fuel + 1 = f at h
  revert h
  fun_cases matchInner fns mk room idx f opener ms with
  | case1 | case2 | case3 | case9 => intro h; exact Or.inl (Except.ok.inj h).symm
  | case4 | case5 | case6 | case7 => intro h; cases h
  | case8 =>
    rename_i _ ml w _ _ init otok cut otok' _ hcut _ _ hroom _ _ _ head _ hpop _ hcond _ _ _
    intro h
    cases hf
    have hhead : head = init ++ [otok] := popLast_some hpop
    have hch : ms.children = init ++ [otok] ++ ms.children.drop (idx + 1) := by
      rw [← hhead]; exact (List.take_append_drop _ _).symm
    have hil : init.length = idx := by
      have := congrArg List.length hhead
      simp only [head, List.length_take, List.length_append, List.length_cons, List.length_nil] at this
      omega
    have hotok' : otok'.val = otok.val ∧ otok'.children = otok.children := by
      cases hr : otok.range with
      | none => simp only [cut, hr] at hcut; cases hcut; exact ⟨rfl, rfl⟩
      | some se =>
        simp only [cut, hr] at hcut
        by_cases hlt : se.2 < ml
        · rw [if_pos hlt] at hcut; cases hcut
        · rw [if_neg hlt] at hcut; cases hcut; exact ⟨rfl, rfl⟩
    exact Or.inr ⟨ml, w, init, otok, _, otok', _, _, hcond.2, by omega, hil, hch, hotok'.1, hotok'.2, h⟩

theorem asMarker_val {n : Node} {m : Marker} (h : n.asMarker = some m) : n.val = m.toVal := by
  unfold Node.asMarker at h
  split at h
  · simp only [Option.some.injEq] at h; subst h; simpa [Marker.toVal]
  · simp at h

/-- the body of the outer loop behind the `inner_depth` update (`ms` = the state with the updated
    `innerDepth`), as a function of its own: lets proofs name that state before unfolding -/
def matchOuterBody (fns : Nat → Option Wrap) (mk : Char) (room minIdx k : Nat) (ms : MatchSt) :
    Except RPanic MatchSt :=
  match ms.children[minIdx + k]? with
  | none => .error .index
  | some tok =>
    match tok.asMarker with
    | none => matchOuter fns mk room minIdx k ms
    | some opener =>
      let go : Except RPanic (Marker × MatchSt) :=
        if opener.open_ && opener.marker == ms.closer.marker && !isOddMatch opener ms.closer then
          matchInner fns mk room (minIdx + k) ms.closer.remaining opener ms
        else .ok (opener, ms)
      match go with
      | .error e => .error e
      | .ok (opener', ms') =>
        if opener'.remaining > 0 then
          match replaceAt ms'.children (minIdx + k) opener' with
          | .error e => .error e
          | .ok cs => matchOuter fns mk room minIdx k { ms' with children := cs }
        else matchOuter fns mk room minIdx k ms'

theorem matchOuter_succ (fns : Nat → Option Wrap) (mk : Char) (room minIdx k : Nat) (ms0 : MatchSt) :
    matchOuter fns mk room minIdx (k + 1) ms0 =
      match ms0.children[minIdx + k + 1]? with
      | none => .error .index
      | some nxt =>
        matchOuterBody fns mk room minIdx k
          { ms0 with innerDepth := max ms0.innerDepth (wrapDepth nxt) } := by
  rw [matchOuter]
  rfl

/-! ## the matcher for a node invariant -/

/-- what the delimiter matcher needs of a node invariant `N` so that "every sibling satisfies `N`"
    survives it -/
structure MatchKeeps (mk : Char) (room : Nat) (N : Node → Prop) : Prop where
  /-- a marker token gets another `remaining` and/or another range (`replace(opener)`, the cut of
      the opener's range, the closer put back) -/
  remark : ∀ (n : Node) (m : Marker) (k : Nat) (rg : Option (Nat × Nat)), n.asMarker = some m → N n →
    N { n with val := ({ m with remaining := k } : Marker).toVal, range := rg }
  /-- the wrapper made around `tail` while `inner_depth < room` -/
  wrap : ∀ (w : Wrap) (rg : Option (Nat × Nat)) (tail : List Node) (inner : Nat), (∀ c ∈ tail, N c) →
    wrapDepthList tail ≤ inner → inner < room → N ⟨.wrap w mk, rg, tail⟩

/-- `N` holds of a wrapper around any siblings that satisfy it, whatever its depth -/
def AnyWrap (mk : Char) (N : Node → Prop) : Prop :=
  ∀ (w : Wrap) (rg : Option (Nat × Nat)) (tail : List Node), (∀ c ∈ tail, N c) → N ⟨.wrap w mk, rg, tail⟩

/-- `b` is `a` with another `remaining` -/
def Marker.Rem (a b : Marker) : Prop := ∃ k, b = { a with remaining := k }

theorem Marker.Rem.refl (a : Marker) : a.Rem a := ⟨a.remaining, rfl⟩

theorem Marker.Rem.set {a b : Marker} (h : a.Rem b) (k : Nat) : a.Rem { b with remaining := k } := by
  obtain ⟨_, rfl⟩ := h; exact ⟨k, rfl⟩

/-- while the opener has delimiters left, the node at `idx` is its token: a marker that differs from
    `opener` at most in `remaining` -/
def OpenerTok (cs : List Node) (idx : Nat) (opener : Marker) : Prop :=
  0 < opener.remaining → ∃ t m, cs[idx]? = some t ∧ t.asMarker = some m ∧ m.Rem opener

/-- behind `i`, a list no longer than `i` with one node pushed has at most that node -/
theorem wrapDepthList_drop_concat (kept : List Node) (nw : Node) {i : Nat} (h : kept.length ≤ i) :
    wrapDepthList ((kept ++ [nw]).drop i) ≤ wrapDepth nw := by
  rcases Nat.lt_or_eq_of_le h with h | h
  · rw [List.drop_of_length_le (by rw [List.length_append]; exact h)]
    exact Nat.zero_le _
  · rw [List.drop_left' h]
    simp only [wrapDepthList, Nat.max_zero]; exact Nat.le_refl _

/-- `inner_depth = max(inner_depth, children[idx + 1].EmphDepth)` -/
theorem wrapDepthList_drop_max {cs : List Node} {i inner : Nat} {nxt : Node} (hn : cs[i]? = some nxt)
    (hd : wrapDepthList (cs.drop (i + 1)) ≤ inner) : wrapDepthList (cs.drop i) ≤ max inner (wrapDepth nxt) := by
  obtain ⟨hlt, rfl⟩ := List.getElem?_eq_some_iff.mp hn
  rw [List.drop_eq_getElem_cons hlt]
  simp only [wrapDepthList]
  exact Nat.max_le.mpr ⟨Nat.le_max_right _ _, Nat.le_trans hd (Nat.le_max_left _ _)⟩

/-- the outer loop starts at the last index -/
theorem length_le_start (n m : Nat) : n ≤ m + (n - 1 - m) + 1 :=
  Nat.le_trans (Nat.le_add_of_sub_le (Nat.le_refl (n - 1)))
    (Nat.succ_le_succ (Nat.sub_le_iff_le_add'.mp (Nat.le_refl (n - 1 - m))))

/-- what may be left of the opener's token: nothing, or the token with another range -/
theorem kept_prefix {α : Type} (p : Prop) [Decidable p] (pre : List α) (x : α) :
    (if p then pre else pre ++ [x]) <+: pre ++ [x] := by
  split
  · exact List.prefix_append _ _
  · exact List.prefix_refl _

/-- what both loops maintain when the opener index is `idx`: every sibling satisfies `N`,
    `inner_depth` bounds the `EmphDepth` of the nodes after `idx` (or `N` takes any wrapper), the
    closer differs from `closer0` at most in `remaining` -/
abbrev MatchInv (N : Node → Prop) (mk : Char) (closer0 : Marker) (idx : Nat) (ms : MatchSt) : Prop :=
  (∀ c ∈ ms.children, N c) ∧
  (wrapDepthList (ms.children.drop (idx + 1)) ≤ ms.innerDepth ∨ AnyWrap mk N) ∧
  closer0.Rem ms.closer

/-- the state `scan_and_match_delimiters` enters the outer loop with: `idx` is the last index, no
    node after it -/
theorem MatchInv.start {N : Node → Prop} {mk : Char} (closer : Marker) (rg : Option (Nat × Nat))
    {init : List Node} (newMin minIdx : Nat) (hc : ∀ c ∈ init, N c) :
    MatchInv N mk closer (minIdx + (init.length - 1 - minIdx))
      { closer := closer, closerRange := rg, children := init, newMin := newMin } :=
  ⟨hc, .inl (by rw [List.drop_of_length_le (length_le_start _ _)]; exact Nat.zero_le _), .refl _⟩

section keeps
variable {mk : Char} {room : Nat} {N : Node → Prop} (K : MatchKeeps mk room N)
include K

theorem MatchKeeps.reval {n : Node} {m m' : Marker} (hm : n.asMarker = some m) (hr : m.Rem m')
    (rg : Option (Nat × Nat)) (h : N n) : N { n with val := m'.toVal, range := rg } := by
  obtain ⟨k, rfl⟩ := hr; exact K.remark n m k rg hm h

/-- a marker token that comes back with another range -/
theorem MatchKeeps.rerange {n n' : Node} {m : Marker} (hm : n.asMarker = some m) (hv : n'.val = n.val)
    (hc : n'.children = n.children) (h : N n) : N n' := by
  obtain ⟨v', rg', cs'⟩ := n'
  simp only at hv hc
  subst hv hc
  have := K.reval hm (.refl m) rg' h
  rw [← asMarker_val hm] at this
  exact this

/-- the inner loop keeps the loop invariant (`_sibs`: about every sibling; `matchInner_keeps` of
    `Lemmas/InlineRanges5.lean` is the range-aware walk) -/
theorem matchInner_sibs (fns : Nat → Option Wrap) (idx : Nat) (closer0 : Marker) :
    ∀ (fuel : Nat) (opener : Marker) (ms : MatchSt) (opener' : Marker) (ms' : MatchSt),
      matchInner fns mk room idx fuel opener ms = .ok (opener', ms') →
      MatchInv N mk closer0 idx ms → OpenerTok ms.children idx opener →
      MatchInv N mk closer0 idx ms' ∧ OpenerTok ms'.children idx opener' := by
  intro fuel
  induction fuel with
  | zero => intro opener ms opener' ms' h hk ho; cases h; exact ⟨hk, ho⟩
  | succ fuel ih =>
    intro opener ms opener' ms' h hk ho
    rcases matchInner_round' h with hr | ⟨ml, w, pre, otok, tl, otok', rng, cr, hpos, hroom, hil, hch, hv, hcn, h⟩
    · cases hr; exact ⟨hk, ho⟩
    · obtain ⟨hc, hd, hcl⟩ := hk
      rw [hch] at hc hd ho
      obtain ⟨t, m, ht, hm, hr⟩ := ho hpos
      rw [← hil, show (pre ++ [otok] ++ tl)[pre.length]? = some otok by simp] at ht
      cases ht
      obtain ⟨hcl', hctl⟩ := List.forall_mem_append.mp hc
      obtain ⟨hcpre, hcotok⟩ := List.forall_mem_append.mp hcl'
      have hotok' : N otok' := K.rerange hm hv hcn (List.forall_mem_singleton.mp hcotok)
      rw [List.drop_left' (by rw [List.length_append, hil]; rfl)] at hd
      have hnew : N ⟨.wrap w mk, rng, tl⟩ := by
        rcases hd with hd | hf
        · exact K.wrap w rng tl ms.innerDepth hctl hd hroom
        · exact hf w rng tl hctl
      have hkept := kept_prefix (opener.remaining - ml = 0) pre otok'
      refine ih _ _ _ _ h ⟨?_, hd.imp_left fun hd => ?_, hcl.set _⟩ ?_
      · have hall : ∀ c ∈ pre ++ [otok'], N c :=
          List.forall_mem_append.mpr ⟨hcpre, List.forall_mem_singleton.mpr hotok'⟩
        exact List.forall_mem_append.mpr
          ⟨fun c hc => hall c (hkept.subset hc), List.forall_mem_singleton.mpr hnew⟩
      · refine Nat.le_trans (wrapDepthList_drop_concat _ _ (Nat.le_trans hkept.length_le ?_)) ?_
        · rw [List.length_append, hil]; exact Nat.le_refl _
        · simp only [wrapDepth]; exact Nat.succ_le_succ hd
      · intro hrem
        simp only at hrem ⊢
        rw [if_neg (Nat.ne_of_gt hrem), ← hil,
          show (pre ++ [otok'] ++ [(⟨.wrap w mk, rng, tl⟩ : Node)])[pre.length]? = some otok' by simp]
        exact ⟨otok', m, rfl, by unfold Node.asMarker at hm ⊢; rw [hv]; exact hm, hr.set _⟩

/-- the body of the outer loop at `idx = minIdx + k`, behind the `inner_depth` update -/
theorem matchOuterBody_sibs {fns : Nat → Option Wrap} {minIdx k : Nat} {closer0 : Marker}
    (ih : ∀ ms ms', matchOuter fns mk room minIdx k ms = .ok ms' → MatchInv N mk closer0 (minIdx + k) ms →
      (∀ c ∈ ms'.children, N c) ∧ closer0.Rem ms'.closer)
    {ms ms' : MatchSt} (h : matchOuterBody fns mk room minIdx k ms = .ok ms')
    (hk : MatchInv N mk closer0 (minIdx + k) ms) : (∀ c ∈ ms'.children, N c) ∧ closer0.Rem ms'.closer := by
  -- the inner loop (or nothing) leaves the invariant and the opener token at `idx`
  have hgo : ∀ {c : Bool} {tok opener opener' ms1}, ms.children[minIdx + k]? = some tok →
      tok.asMarker = some opener →
      (if c then matchInner fns mk room (minIdx + k) ms.closer.remaining opener ms
        else .ok (opener, ms)) = .ok (opener', ms1) →
      MatchInv N mk closer0 (minIdx + k) ms1 ∧ OpenerTok ms1.children (minIdx + k) opener' := by
    intro c tok opener opener' ms1 htok hop hgo
    have ho : OpenerTok ms.children (minIdx + k) opener := fun _ => ⟨tok, opener, htok, hop, .refl _⟩
    split at hgo
    · exact matchInner_sibs K fns _ closer0 _ _ _ _ _ hgo hk ho
    · cases hgo; exact ⟨hk, ho⟩
  revert h
  fun_cases matchOuterBody fns mk room minIdx k ms
  case case1 | case3 | case4 => intro h; cases h
  case case2 => intro h; exact ih _ _ h hk
  case case5 tok htok opener hop go opener' ms1 hgo1 hrem cs hrep =>
    intro h
    obtain ⟨⟨hc1, hd1, hcl1⟩, ho1⟩ := hgo htok hop hgo1
    obtain ⟨n, m, hn, hm, hr⟩ := ho1 hrem
    simp only [replaceAt, hn, Except.ok.injEq] at hrep
    subst hrep
    refine ih _ _ h ⟨?_, ?_, hcl1⟩
    · intro c hc
      rcases List.mem_or_eq_of_mem_set hc with hc | rfl
      · exact hc1 c hc
      · exact K.reval hm hr n.range (hc1 n (List.mem_of_getElem? hn))
    · simp only
      rw [List.drop_set_of_lt (Nat.lt_succ_self _)]
      exact hd1
  case case6 tok htok opener hop go opener' ms1 hgo1 hrem =>
    intro h
    exact ih _ _ h (hgo htok hop hgo1).1

/-- the outer loop, entered with `idx = minIdx + k` under the loop invariant, leaves every sibling in `N` -/
theorem matchOuter_sibs (fns : Nat → Option Wrap) (minIdx : Nat) (closer0 : Marker) :
    ∀ (k : Nat) (ms ms' : MatchSt), matchOuter fns mk room minIdx k ms = .ok ms' →
      MatchInv N mk closer0 (minIdx + k) ms → (∀ c ∈ ms'.children, N c) ∧ closer0.Rem ms'.closer := by
  intro k
  induction k with
  | zero =>
    intro ms ms' h hk
    simp only [matchOuter, Except.ok.injEq] at h; subst h; exact ⟨hk.1, hk.2.2⟩
  | succ k ih =>
    intro ms ms' h hk
    rw [matchOuter_succ] at h
    split at h
    · cases h
    · next nxt hnxt =>
      exact matchOuterBody_sibs K ih h ⟨hk.1, hk.2.1.imp_left (wrapDepthList_drop_max hnxt), hk.2.2⟩

/-- `scan_and_match_delimiters` keeps `N` of every sibling -/
theorem scanAndMatch_keeps {fns : Nat → Option Wrap} {cs out : List Node} {b b' : List (Char × List Nat)}
    (h : scanAndMatch fns mk room cs b = .ok (out, b')) (hc : ∀ n ∈ cs, N n) : ∀ n ∈ out, N n := by
  revert h
  fun_cases scanAndMatch fns mk room cs b
  case case1 => intro h; cases h; exact hc
  case case2 | case3 | case4 | case5 | case6 => intro h; cases h
  case case7 init closerTok hpop closer hcl _ _ _ _ _ ms hms _ _ =>
    intro h; rw [← (Prod.mk.inj (Except.ok.inj h)).1]
    rw [popLast_some hpop] at hc
    obtain ⟨hci, hcc⟩ := List.forall_mem_append.mp hc
    obtain ⟨hc', hcl'⟩ := matchOuter_sibs K fns _ closer _ _ _ hms (MatchInv.start _ _ _ _ hci)
    exact List.forall_mem_append.mpr ⟨hc', List.forall_mem_singleton.mpr
      (K.reval hcl hcl' _ (List.forall_mem_singleton.mp hcc))⟩
  case case8 init closerTok hpop closer hcl _ _ _ _ _ ms hms _ _ =>
    intro h; rw [← (Prod.mk.inj (Except.ok.inj h)).1]
    rw [popLast_some hpop] at hc
    exact (matchOuter_sibs K fns _ closer _ _ _ hms
      (MatchInv.start _ _ _ _ (List.forall_mem_append.mp hc).1)).1

end keeps

/-- the emphasis-marker rule keeps `N` of every sibling (`room = max_nesting - level`; the pushed marker token
    is `hleaf`) -/
theorem ruleEmph_keeps {cfg : Cfg} {mk : Char} {csw : Bool} {st st' : IState} {silent : Bool} {o : Option Nat}
    {N : Node → Prop} (K : MatchKeeps mk (cfg.maxNesting - st.level) N)
    (hleaf : ∀ l o c rg, N (Node.leaf (.emphMarker mk l l o c) rg))
    (h : ruleEmph cfg mk csw st silent = .ok (o, st')) (hc : ∀ n ∈ st.children, N n) :
    ∀ n ∈ st'.children, N n := by
  have hpush : ∀ l o c rg, ∀ n ∈ (st.push (Node.leaf (.emphMarker mk l l o c) rg)).children, N n :=
    fun l o c rg => List.forall_mem_append.mpr ⟨hc, List.forall_mem_singleton.mpr (hleaf l o c rg)⟩
  revert h
  fun_cases ruleEmph cfg mk csw st silent
  case case1 | case4 => intro h; cases h; exact hc
  case case2 | case3 | case5 | case6 | case7 => intro h; cases h
  case case8 =>
    intro h; cases h
    exact scanAndMatch_keeps K ‹_› (hpush _ _ _ _)
  case case9 =>
    intro h; rw [← (Prod.mk.inj (Except.ok.inj h)).2]
    exact hpush _ _ _ _

end MdIt.Inline
