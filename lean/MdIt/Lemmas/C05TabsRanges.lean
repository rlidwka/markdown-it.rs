/-
  C05 for ALL sources (split tabs included), inline half: order and enclosure of the inline nodes for
  per-line tables that are only `MapT` (monotone everywhere, a shift on every line-feed-free stretch
  that starts with a solid character) —

    `pinl_of_mapT : MapT c m → SolidMarkers cfg.chain → (window translates into [A, B]) →
                      Pipeline.PInl cfg c m A B`

  (`Inline.pinl_of_mapOK`, Lemmas/C05InlineExit.lean, is the lemma for tables WITHOUT virtual-space entries), read off
  the certificate of the inline parser in inline-text coordinates (`IC.parseInline_ic`); the frame
  invariant in source coordinates `RIv` / `tv_RInv` (`Inline.RI` plus: in a frame where the newline
  rule is active, a trailing `Text` holds no line feed) is an image of the certificate's
  (`IC.ICF.riv`).  Non-vacuity on split-tab tables, and why the clause `RIv.nolf` is conditional.
  (Prefix `tv_`: this file.  The step notions `tv_StepRI`, `tv_RInv`, `tv_StepOK` are not used by C05 itself;
  the two-run simulation Lemmas/TotalTabs*.lean states its rule lemmas with them.)
-/
import MdIt.Lemmas.C05TabsCert
import MdIt.Lemmas.InlineCertParse
import MdIt.Lemmas.C05TabsShift
import MdIt.Lemmas.KernelEval

namespace MdIt.C05T
open MdIt.Inline
open MdIt.InlineOps (Srcmap getSourcePosFor getMap byteLen slice)
open MdIt.C05 (WFMap)
open MdIt.C05R (Cut)
open MdIt.C05I (KeysLFV)

/-- what a rule leaves behind, seen from the state it started in (`Inline.StepRI` for `RIv`) -/
def tv_StepRI (A : Prop) (lo : Nat) (st : IState) (o : Option Nat) (st' : IState) : Prop :=
  RIv A st.src st.srcmap lo (st'.pos + o.getD 0) st'.children

/-- the invariant of a state -/
def tv_RInv (A : Prop) (lo : Nat) (st : IState) : Prop :=
  RIv A st.src st.srcmap lo st.pos st.children

/-- what a rule call in real mode leaves behind (`Inline.StepOK` with `RIv`, plus the level and
    `posMax` of the frame) -/
structure tv_StepOK (A : Prop) (lo : Nat) (st : IState) (o : Option Nat) (st' : IState) : Prop where
  src : st'.src = st.src
  srcmap : st'.srcmap = st.srcmap
  level : st'.level = st.level
  posMax : st'.posMax = st.posMax
  ri : RIv A st.src st.srcmap lo (st'.pos + o.getD 0) st'.children
  pos : o = none → st'.pos = st.pos

/-! ## `parseInline` under `MapT`

Order and enclosure of whole runs are read off the certificate of the inline parser in inline-text
coordinates (`IC.parseInline_ic`): a `MapT` table is monotone (`IC.ICL.ordered`). -/

/-- the children `parseInline` returns lie inside every interval that contains the translated
    trimmed window -/
theorem tv_parseInline_within (cfg : Cfg) {content : List Char} {mapping : Srcmap}
    (hm : MapT content mapping) (hmk : SolidMarkers cfg.chain) {A B : Nat}
    (hAB : ∀ pos x, (trimSrc content).1 ≤ pos → pos ≤ (trimSrc content).2 →
      getSourcePosFor mapping pos = .ok x → A ≤ x ∧ x ≤ B)
    {cs : List Node} (h : parseInline cfg content mapping = .ok cs) :
    OrderedN A B cs ∧ WellRangedList cs := by
  obtain ⟨h1, _⟩ := IC.parseInline_ic cfg (IC.stretch_within content) (IC.shift_of_mapT hm)
    (IC.markers_of_solid hmk) h
  obtain ⟨lo, hlo⟩ := C05.translate_total mapping hm.wf (trimSrc content).1
  obtain ⟨hi, hhi⟩ := C05.translate_total mapping hm.wf (trimSrc content).2
  obtain ⟨o1, o2⟩ := h1.ordered hm.mapMono hlo hhi
  exact ⟨o1.widen (hAB _ _ (Nat.le_refl _) h1.le hlo).1 (hAB _ _ h1.le (Nat.le_refl _) hhi).2, o2⟩

/-- **the deliverable**: `Inline.pinl_of_mapOK` for tables that are only `MapT` -/
theorem pinl_of_mapT (cfg : Inline.Cfg) {c : List Char} {m : Srcmap} (hm : MapT c m)
    (hmk : SolidMarkers cfg.chain) {A B : Nat}
    (hAB : ∀ pos x, (Inline.trimSrc c).1 ≤ pos → pos ≤ (Inline.trimSrc c).2 →
      getSourcePosFor m pos = .ok x → A ≤ x ∧ x ≤ B) :
    MdIt.Pipeline.PInl cfg c m A B :=
  fun _ h => tv_parseInline_within cfg hm hmk hAB h

/-- the same for the output of `finish` (`Inline.parseFinish_within` for `MapT`) -/
theorem tv_parseFinish_within (cfg : Cfg) {content : List Char} {mapping : Srcmap}
    (hm : MapT content mapping) (hmk : SolidMarkers cfg.chain) {A B : Nat}
    (hAB : ∀ pos x, (trimSrc content).1 ≤ pos → pos ≤ (trimSrc content).2 →
      getSourcePosFor mapping pos = .ok x → A ≤ x ∧ x ≤ B)
    {cs : List Node} (h : parseFinish cfg content mapping = .ok cs) :
    OrderedN A B cs ∧ WellRangedList cs := by
  unfold parseFinish at h
  split at h
  · simp at h
  · next cs0 hp =>
    simp only [Except.ok.injEq] at h; subst h
    have h0 := tv_parseInline_within cfg hm hmk hAB hp
    unfold finish
    split
    · exact od_finish_join h0
    · exact h0

/-- the example configuration (`*` emphasis) has solid markers -/
theorem tv_exSolid (n : Nat) : SolidMarkers (exCfg n).chain := by
  intro mk csw h
  simp only [exCfg, List.mem_cons, RuleId.emph.injEq, reduceCtorEq, false_or, List.mem_nil_iff,
    or_false] at h
  obtain ⟨rfl, _⟩ := h
  exact ⟨by decide, by decide, by decide⟩


/-- (for the examples) a translated offset, if any, lies in `[A, B]` -/
def tv_okIn (r : Except InlineOps.Panic Nat) (A B : Nat) : Bool :=
  match r with
  | .ok y => decide (A ≤ y ∧ y ≤ B)
  | .error _ => true

/-- the ranges of the top-level nodes and of their children -/
def tv_show (r : Except Inline.Panic (List Node)) : List (Option (Nat × Nat) × List (Option (Nat × Nat))) :=
  match r with
  | .ok cs => cs.map (fun (n : Node) => (n.range, n.children.map (fun (k : Node) => k.range)))
  | .error _ => []

/-! ## a hard break and an emphasis pair behind a split tab

  The paragraph of the list item "-    a  \n\t\tb *c*" (content indent 5): line 2 is cut at column 5
  inside the second tab, 3 virtual spaces (content offsets 4, 5, 6) stand for its rest; table
  `sh_exM = [(0, 5), (4, 11), (7, 11)]`. -/

def tv_exC : List Char := ['a', ' ', ' ', '\n', ' ', ' ', ' ', 'b', ' ', '*', 'c', '*']

theorem tv_exC_eq : "a  \n   b *c*".toList = tv_exC := by decide +kernel

def tv_exSrc : List Char := "-    a  \n\t\tb *c*".toList

/-- every entry of the table in the terms of `get_lines`: a real one (line 1, `src[5..8]`), a virtual one
    (3 spaces on the source offset 11), a real one (`src[11..16]`) -/
theorem tv_ex_lseg : C05I.SegAll (C05I.LSeg False tv_exSrc tv_exC 16) sh_exM :=
  ⟨.inr ⟨[], tv_exC.take 3, tv_exC.drop 3, by decide, by decide, by decide,
      ⟨tv_exSrc.take 5, tv_exSrc.drop 8, by decide, by decide, by decide⟩,
      by decide, tv_exC.drop 4, rfl, by decide, by decide, fun f => f.elim⟩,
    .inl ⟨7, rfl, ⟨tv_exSrc.take 11, tv_exSrc.drop 11, by decide, by decide⟩,
      by decide, by decide, tv_exC.take 4, 3, tv_exC.drop 7, by decide, by decide,
      by decide, by decide, .inr ⟨tv_exC.take 3, rfl⟩⟩,
    .inr ⟨tv_exC.take 7, tv_exC.drop 7, [], by decide, by decide, by decide,
      ⟨tv_exSrc.take 11, [], by decide, by decide, by decide⟩, by decide, rfl⟩,
    trivial⟩

/-- the split-tab table of "-    a  \n\t\tb *c*" is `MapT` (and not `MapOK`: `sh_exTab_not_mapOK`
    is about the table alone) -/
theorem tv_exTab_mapT : MapT "a  \n   b *c*".toList [(0, 5), (4, 11), (7, 11)] := by
  rw [tv_exC_eq]
  exact mapT_of_virt sh_exM_wf sh_exM_monoV (C05I.seg_keys (C05I.SegAll.imp C05I.LSeg.seg tv_ex_lseg))
    (tb_virtSp_of_seg tv_ex_lseg)

/-- **`pinl_of_mapT` at work**: the inline nodes of the item lie inside its content stretch
    `[5, 16]` of the source … -/
example : MdIt.Pipeline.PInl (exCfg 100) "a  \n   b *c*".toList [(0, 5), (4, 11), (7, 11)] 5 16 := by
  apply pinl_of_mapT (exCfg 100) tv_exTab_mapT (tv_exSolid 100)
  intro pos x _ h2 hx
  have e2 : (trimSrc "a  \n   b *c*".toList).2 = 12 := by decide +kernel
  rw [e2] at h2
  have key : ∀ p, p < 13 → tv_okIn (getSourcePosFor [(0, 5), (4, 11), (7, 11)] p) 5 16 = true := by
    decide +kernel
  have hk := key pos (by omega)
  rw [hx] at hk
  simpa [tv_okIn] using hk

/-- … and these are the nodes: text `a` `(5,6)`; the hard break `(6,11)` — the newline rule popped
    the two trailing blanks off the text `a  ` (range end `8 − 2`, the SHIFT behind the solid `a`)
    and the break runs over the line feed and both tabs; text `b ` `(11,13)`; the emphasis pair
    `(13,16)` with its text `(14,15)` (one delimiter cut off either marker, the shift on `*`) -/
example : tv_show (parseInline (exCfg 100) "a  \n   b *c*".toList [(0, 5), (4, 11), (7, 11)]) =
    [(some (5, 6), []), (some (6, 11), []), (some (11, 13), []), (some (13, 16), [some (14, 15)])] := by
  decide_lits

/-- `pinl_of_mapT` on the code span of Lemmas/C05TabsShift.lean (`sh_exTab_mapT`) -/
example : MdIt.Pipeline.PInl (exCfg 100) "` a\n   `".toList [(0, 5), (4, 11), (7, 11)] 5 12 := by
  apply pinl_of_mapT (exCfg 100) sh_exTab_mapT (tv_exSolid 100)
  intro pos x _ h2 hx
  have e2 : (trimSrc "` a\n   `".toList).2 = 8 := by decide +kernel
  rw [e2] at h2
  have key : ∀ p, p < 9 → tv_okIn (getSourcePosFor [(0, 5), (4, 11), (7, 11)] p) 5 12 = true := by
    decide +kernel
  have hk := key pos (by omega)
  rw [hx] at hk
  simpa [tv_okIn] using hk

/-! ## why `RIv.nolf` is conditional on the newline rule being active

  At or above the nesting limit no rule runs: the fall-back pushes EVERY character, line feeds
  included, into the pending text.  Such a text may hold `"\n   "` with virtual spaces — but the
  newline rule, the only one that subtracts from a text's range end, never sees it. -/

/-- `maxNesting = 0`: the whole content is one text, line feed and virtual spaces inside -/
example : (parseInline (exCfg 0) "a  \n   b *c*".toList [(0, 5), (4, 11), (7, 11)]).map
    (fun cs => cs.map (fun (n : Node) => (n.range, n.content == "a  \n   b *c*".toList))) =
    .ok [(some (5, 16), true)] := by decide_lits

/-- the label of a link at `maxNesting = 1` (nested frame at level 1): the same inside the link -/
example : tv_show (parseInline (exCfg 1) "[a  \n   b *c*](u)".toList [(0, 5), (5, 11), (8, 11)]) =
    [(some (5, 20), [some (6, 16)])] := by decide_lits

end MdIt.C05T
