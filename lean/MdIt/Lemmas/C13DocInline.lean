/-
  The inline parser on a reference use `[T]` / `[T][]` / `[T][L]` with plain text and label (`Props/C13Doc.lean`),
  the steps: rules that decline at a character they do not own (`runRule_quiet`, both modes; `Quiet id c` — `c` is
  not in `id.firesAt` and `id` is no emphasis rule for `c` — gives `Inline.C12.trigger id c = false`: `quiet_trigger`),
  frames over a text with the one-entry table, the label walk over a plain stretch (`parseLinkLabel_plain`, an
  instance of `Inline.C12.parseLinkLabel_run`).
-/
import MdIt.Lemmas.C11SpanInline
import MdIt.Lemmas.C12DocInline
import MdIt.Props.InlineTotal

namespace MdIt.C13D
open MdIt.Inline
open MdIt.InlineOps (Srcmap getSourcePosFor getMap byteLen slice)
open MdIt.C05 (byteLen_append slice_ok_iff)
open MdIt.C11S (PlainTxt splitRun_plain firstRule_quiet)

/-! ## 1. rules that decline -/

/-- rule `id` does not own the character `c`: it is not in the rule's `firesAt` list and `id` is not
    an emphasis rule for `c` -/
def Quiet (id : RuleId) (c : Char) : Prop := id.firesAt c = false ∧ ∀ mk csw, id = .emph mk csw → mk ≠ c

theorem st_backticks_self (st : IState) : ({ st with backticks := st.backticks } : IState) = st := by
  cases st; rfl

theorem quiet_trigger {id : RuleId} {c : Char} (h : Quiet id c) : Inline.C12.trigger id c = false := by
  obtain ⟨hf, he⟩ := h
  cases id with
  | emph mk csw => exact beq_eq_false_iff_ne.mpr (Ne.symm (he mk csw rfl))
  | _ => exact hf

/-- a rule that does not own the first character of the window answers `None` and hands the state
    back, in real mode and in look-ahead mode -/
theorem runRule_quiet (cfg : Cfg) (skip tok : IState → Except Panic IState) (fuel : Nat) {st : IState}
    {c : Char} {rest : List Char} (hw : st.window = .ok (c :: rest)) (id : RuleId) (hq : Quiet id c)
    (silent : Bool) : runRule cfg skip tok fuel id st silent = .ok (none, st) := by
  exact Inline.C12.runRule_quiet cfg skip tok fuel id st c rest hw (quiet_trigger hq)

/-! ## 2. the chain -/

/-- the hypotheses on the inline chain: coherent, with the text rule, the link rule exactly once, and
    `]` not an emphasis marker -/
structure ChainOK (cfg : Cfg) : Prop where
  coh : ChainCoherent cfg = true
  text : RuleId.text ∈ cfg.chain
  link : cfg.chain.count .link = 1
  close : ']' ∉ cfg.emphMarkers

theorem mem_emphMarkers {cfg : Cfg} {mk : Char} {csw : Bool} (h : RuleId.emph mk csw ∈ cfg.chain) :
    mk ∈ cfg.emphMarkers := by
  unfold Cfg.emphMarkers
  exact List.mem_filterMap.mpr ⟨_, h, rfl⟩

theorem coherent_marker {cfg : Cfg} (hc : ChainCoherent cfg = true) {mk : Char} (hm : mk ∈ cfg.emphMarkers)
    {id : RuleId} (hid : id ∈ cfg.chain) : id.firesAt mk = false := by
  unfold ChainCoherent at hc
  have := (List.all_eq_true.mp hc) mk hm
  simp only [Bool.and_eq_true] at this
  have := (List.all_eq_true.mp this.2) id hid
  simpa using this

theorem link_mem {cfg : Cfg} (h : ChainOK cfg) : RuleId.link ∈ cfg.chain := by
  have := h.link
  exact List.count_pos_iff.mp (by omega)

theorem quiet_plain {cfg : Cfg} (h : ChainOK cfg) {p : Char} (hp : p ∉ Entity.textStop) {id : RuleId}
    (hid : id ∈ cfg.chain) (hne : id ≠ .text) : Quiet id p := by
  refine ⟨?_, ?_⟩
  · cases id with
    | text => exact absurd rfl hne
    | newline => simp only [RuleId.firesAt, beq_eq_false_iff_ne]; intro e; subst e; exact hp (by decide)
    | escape => simp only [RuleId.firesAt, beq_eq_false_iff_ne]; intro e; subst e; exact hp (by decide)
    | backticks => simp only [RuleId.firesAt, beq_eq_false_iff_ne]; intro e; subst e; exact hp (by decide)
    | emph _ _ => rfl
    | link => simp only [RuleId.firesAt, beq_eq_false_iff_ne]; intro e; subst e; exact hp (by decide)
    | image => simp only [RuleId.firesAt, beq_eq_false_iff_ne]; intro e; subst e; exact hp (by decide)
    | linkEnd => rfl
    | autolink => simp only [RuleId.firesAt, beq_eq_false_iff_ne]; intro e; subst e; exact hp (by decide)
    | entity => simp only [RuleId.firesAt, beq_eq_false_iff_ne]; intro e; subst e; exact hp (by decide)
  · intro mk csw e hmk
    subst e; subst hmk
    have := coherent_marker h.coh (mem_emphMarkers hid) h.text
    simp only [RuleId.firesAt, Bool.not_eq_false'] at this
    exact hp (by simpa using this)

theorem quiet_open {cfg : Cfg} (h : ChainOK cfg) {id : RuleId} (hid : id ∈ cfg.chain) (hne : id ≠ .link) :
    Quiet id '[' := by
  refine ⟨?_, ?_⟩
  · cases id <;> first | rfl | exact absurd rfl hne | decide
  · intro mk csw e hmk
    subst e; subst hmk
    have := coherent_marker h.coh (mem_emphMarkers hid) (link_mem h)
    simp [RuleId.firesAt] at this

theorem quiet_close {cfg : Cfg} (h : ChainOK cfg) {id : RuleId} (hid : id ∈ cfg.chain) : Quiet id ']' := by
  refine ⟨?_, ?_⟩
  · cases id <;> first | rfl | decide
  · intro mk csw e hmk
    subst e; subst hmk
    exact h.close (mem_emphMarkers hid)

theorem firstRule_all_quiet (run : RuleId → IState → RuleRes) (st : IState) (ch : List RuleId)
    (h : ∀ r ∈ ch, run r st = .ok (none, st)) : firstRule run ch st = .ok (none, st) := by
  have := firstRule_quiet run st ch [] h
  rw [List.append_nil] at this
  rw [this]; rfl

theorem split_link {cfg : Cfg} (h : ChainOK cfg) :
    ∃ d0 d1, cfg.chain = d0 ++ .link :: d1 ∧ (∀ r ∈ d0, r ∈ cfg.chain ∧ r ≠ .link) ∧
      (∀ r ∈ d1, r ∈ cfg.chain ∧ r ≠ .link) := by
  obtain ⟨d0, d1, he, hn⟩ := List.eq_append_cons_of_mem (link_mem h)
  have hcount := h.link
  rw [he, List.count_append, List.count_cons_self] at hcount
  have h1 : d1.count .link = 0 := by omega
  have hn1 : RuleId.link ∉ d1 := List.count_eq_zero.mp h1
  exact ⟨d0, d1, he, fun r hr => ⟨by rw [he]; simp [hr], fun e => hn (e ▸ hr)⟩,
    fun r hr => ⟨by rw [he]; simp [hr], fun e => hn1 (e ▸ hr)⟩⟩

/-! ## 3. frames -/

/-- a state over the text `c` with the one-entry table -/
structure Fr (st : IState) (c : List Char) (x : Nat) : Prop where
  src : st.src = c
  map : st.srcmap = [(0, x)]

theorem Fr.window {st : IState} {c : List Char} {x : Nat} (h : Fr st c x) (a b d : List Char)
    (hc : c = a ++ b ++ d) (hp : st.pos = byteLen a) (hm : st.posMax = byteLen a + byteLen b) :
    st.window = .ok b := by
  unfold IState.window
  rw [h.src, hm, hp]
  have : slice c (byteLen a) (byteLen a + byteLen b) = .ok b :=
    (slice_ok_iff _ _ _ _).mpr ⟨a, d, hc, rfl, rfl⟩
  rw [this]; rfl

theorem Fr.slice {st : IState} {c : List Char} {x : Nat} (h : Fr st c x) (a b d : List Char)
    (hc : c = a ++ b ++ d) : InlineOps.slice st.src (byteLen a) (byteLen a + byteLen b) = .ok b := by
  rw [h.src]
  exact (slice_ok_iff _ _ _ _).mpr ⟨a, d, hc, rfl, rfl⟩

theorem Fr.getMap {st : IState} {c : List Char} {x : Nat} (h : Fr st c x) {a b : Nat} (hab : a ≤ b) :
    st.getMap a b = .ok (x + a, x + b) := by
  unfold IState.getMap InlineOps.getMap
  rw [if_neg (by omega), h.map, C05I.single_translate, C05I.single_translate]; rfl

theorem byteLen_one (ch : Char) (h : ch.utf8Size = 1) : byteLen [ch] = 1 := by simp [byteLen, h]

/-! ## 4. the label walk -/

/-- what a look-ahead walk may add to the memo: the one entry for the plain stretch at `k` -/
def CacheStep (old new : List (Nat × Nat)) (k v : Nat) : Prop := new = old ∨ new = (k, v) :: old

/-- `parse_link_label` at a `[` (byte `start`) that is followed by a plain stretch `P` and `]` -/
theorem parseLinkLabel_plain {cfg : Cfg} (h : ChainOK cfg) (f fuel : Nat) (en : Bool) {st : IState}
    {c : List Char} {x : Nat} (hfr : Fr st c x) (a P rest : List Char)
    (hc : c = a ++ '[' :: (P ++ ']' :: rest)) (hm : st.posMax = byteLen c) (hP : PlainTxt P)
    (hl : st.level < cfg.maxNesting)
    (hcache : ∀ v, st.cache.lookup (byteLen a + 1) = some v → v = byteLen a + 1 + byteLen P) :
    ∃ cache', parseLinkLabel (fun s => skipToken cfg (f + 1) s) (fuel + 2) st (byteLen a) en =
        .ok (some (byteLen a + 1 + byteLen P), { st with cache := cache' }) ∧
      CacheStep st.cache cache' (byteLen a + 1) (byteLen a + 1 + byteLen P) := by
  refine ⟨_, Inline.C12.parseLinkLabel_run h.text f fuel en a P rest (by rw [hfr.src, hc])
    (by rw [hm, hfr.src]) (fun y hy => Inline.C12.nonStop_of_not_mem (hP y hy)) ?_ hl hcache, ?_⟩
  · intro p hp r hr hne
    exact quiet_trigger (quiet_plain h (hP p (List.mem_of_mem_head? hp)) hr hne)
  · unfold Inline.C12.labelCache
    split
    · exact .inl rfl
    · exact .inr rfl

end MdIt.C13D
