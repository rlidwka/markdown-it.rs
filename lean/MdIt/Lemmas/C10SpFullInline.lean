/-
  C10 with the sourcepos plugin, full version — the EXACT lock-step simulation of the inline parser under
  two per-line tables: from the internal relation (`XS.LRel K true`, Lemmas/C10SpFullInlineBase.lean)
  to the interface relation `C10SP.XL` (Lemmas/C10SpFullDefs.lean), and the theorem

      C10SP.parseInline_exact :
        MapOK c m₁ → MapOK c m₂ → MLe m₁ m₂ → AsciiMarkers cfg.chain → parseInline cfg c m₁ = .ok ns₁ →
          ∃ ns₂, parseInline cfg c m₂ = .ok ns₂ ∧ XL c m₁ m₂ ns₁ ns₂

  (side 2 does not panic; same shape and values; every attribute-rendering node — `CodeInline`,
  `Em` / `Strong` / `Strikethrough`, `Link`, `Image`, `Autolink` — has on both sides the translation of
  ONE stretch `[p, q]` of the inline text, `p ≤ q ≤ |c|`, a character other than LF starting at `p`).

  The internal relation records `p`, `q`, the four translations and the start character only
  (`XS.Span`); `p ≤ q` and `q ≤ |c|` come from the SINGLE-run range theorem `parseInline_ranges_exact`
  (ranges ordered and nested inside `[tr pos₀, tr posMax]`) through strict monotonicity of the
  translation under `MonoMap` (`translate_expand`).  In particular the order "opener before closer" of
  the emphasis matcher needs no extra invariant in the simulation.
-/
import MdIt.Lemmas.C10SpFullInlineBase
import MdIt.Lemmas.C05RestDefs

namespace MdIt.Inline.XS
open MdIt.InlineOps (Srcmap getSourcePosFor getMap byteLen slice)
open MdIt.Pipeline (MLe)
open MdIt.C10SP (CharNotLf SameSpan attrVal XN XL)

theorem span_of_attr {K : Ctx} {v : Val} {r₁ r₂ : Option (Nat × Nat)} (ha : attrVal v = true)
    (h : Extra K v r₁ r₂) : Span K r₁ r₂ := by
  cases v <;> first | exact h | (simp [attrVal] at ha)

/-- an (ordered) range below the translation of `P` gives `p ≤ q ≤ P` for the inline stretch -/
theorem sameSpan_of_span {K : Ctx} {x y hi P : Nat} {r₂ : Option (Nat × Nat)}
    (hP : getSourcePosFor K.m₁ P = .ok hi) (hPc : P ≤ byteLen K.c) (hxy : x ≤ y) (hy : y ≤ hi)
    (h : Span K (some (x, y)) r₂) : SameSpan K.c K.m₁ K.m₂ (some (x, y)) r₂ := by
  obtain ⟨p, q, a₁, b₁, a₂, b₂, e₁, e₂, hc, h1, h2, h3, h4⟩ := h
  simp only [Option.some.injEq, Prod.mk.injEq] at e₁
  obtain ⟨rfl, rfl⟩ := e₁
  have hpq : p ≤ q := by
    rcases Nat.lt_or_ge q p with hlt | hge
    · have := translate_expand K.m₁ K.ok₁.wf K.ok₁.mono q p (by omega) _ _ h2 h1
      omega
    · exact hge
  have hqP : q ≤ P := by
    rcases Nat.lt_or_ge P q with hlt | hge
    · have := translate_expand K.m₁ K.ok₁.wf K.ok₁.mono P q (by omega) _ _ hP h2
      omega
    · exact hge
  exact ⟨p, q, x, y, a₂, b₂, rfl, e₂, hpq, by omega, hc, h1, h2, h3, h4⟩

mutual
theorem XN_of (K : Ctx) {hi P : Nat} (hP : getSourcePosFor K.m₁ P = .ok hi) (hPc : P ≤ byteLen K.c) :
    ∀ (a b : Node), NRel K true a b → WellRanged a → (∀ x y, a.range = some (x, y) → y ≤ hi) →
      XN K.c K.m₁ K.m₂ a b
  | ⟨v₁, r₁, cs₁⟩, ⟨v₂, r₂, cs₂⟩, h, hw, hb => by
    simp only [NRel] at h
    obtain ⟨rfl, hr, hx, hc⟩ := h
    simp only [WellRanged] at hw
    obtain ⟨⟨x, y, rfl, hxy, hord⟩, hwl⟩ := hw
    have hy := hb x y rfl
    simp only [XN]
    refine ⟨trivial, fun ha => ?_, XL_of K hP hPc x cs₁ cs₂ hc hwl (hord.widen (Nat.le_refl _) hy)⟩
    exact sameSpan_of_span hP hPc hxy hy (span_of_attr ha (hx rfl))
theorem XL_of (K : Ctx) {hi P : Nat} (hP : getSourcePosFor K.m₁ P = .ok hi) (hPc : P ≤ byteLen K.c) :
    ∀ (lo : Nat) (l₁ l₂ : List Node), LRel K true l₁ l₂ → WellRangedList l₁ → OrderedN lo hi l₁ →
      XL K.c K.m₁ K.m₂ l₁ l₂
  | lo, [], [], _, _, _ => by simp only [XL]
  | lo, [], _ :: _, h, _, _ => absurd h (LRel_nil_cons _ _ _)
  | lo, _ :: _, [], h, _, _ => absurd h (LRel_cons_nil _ _ _)
  | lo, a :: as, b :: bs, h, hw, ho => by
    rw [LRel_cons_cons] at h
    obtain ⟨x, y, hr, h1, h2, h3⟩ := ho
    simp only [XL]
    exact ⟨XN_of K hP hPc a b h.1 hw.1 (fun x' y' e => by
        rw [hr] at e; simp only [Option.some.injEq, Prod.mk.injEq] at e; obtain ⟨_, rfl⟩ := e; exact h3.le),
      XL_of K hP hPc y as bs h.2 hw.2 h3⟩
end

end MdIt.Inline.XS

namespace MdIt.C10SP
open MdIt.Inline.XS
open MdIt.Inline

/-- **the exact inline simulation.**  Two per-line tables for the same inline text, both `MapOK`, same
    keys, values pointwise `≤`; every emphasis marker of the chain a single byte other than LF.  If
    the run under the first table succeeds so does the run under the second, with the same tree up to
    ranges, and the ranges of every attribute-rendering node are on both sides the translations of
    ONE stretch of the inline text that starts at a character other than the line feed. -/
theorem parseInline_exact (cfg : Inline.Cfg) (c : List Char) (m₁ m₂ : InlineOps.Srcmap)
    (h₁ : Inline.MapOK c m₁) (h₂ : Inline.MapOK c m₂) (hle : Pipeline.MLe m₁ m₂)
    (hmk : C05R.AsciiMarkers cfg.chain)
    {ns₁ : List Inline.Node} (h : Inline.parseInline cfg c m₁ = .ok ns₁) :
    ∃ ns₂, Inline.parseInline cfg c m₂ = .ok ns₂ ∧ C10SP.XL c m₁ m₂ ns₁ ns₂ := by
  have sim := parseInline_sim ⟨c, m₁, m₂, h₁, h₂⟩ true cfg hmk (fun _ => hle) h
  obtain ⟨_, lo, hi, _, hhi, hord, hwr, _⟩ := Inline.parseInline_ranges_exact cfg h₁ h
  cases h2 : Inline.parseInline cfg c m₂ with
  | error e => simp only [h2] at sim; cases sim
  | ok ns₂ =>
    simp only [h2] at sim
    exact ⟨ns₂, rfl, XL_of ⟨c, m₁, m₂, h₁, h₂⟩ hhi (Inline.trimSrc_le c) lo ns₁ ns₂ sim hwr hord⟩

/-- the form the consumers use (`Pipeline.InlineExactThm`, Lemmas/C10SpFullFinal.lean) -/
theorem parseInline_exact' (cfg : Inline.Cfg) (hmk : C05R.AsciiMarkers cfg.chain) :
    ∀ (c : List Char) (m₁ m₂ : InlineOps.Srcmap), Inline.MapOK c m₁ → Inline.MapOK c m₂ →
      Pipeline.MLe m₁ m₂ → ∀ ns₁, Inline.parseInline cfg c m₁ = .ok ns₁ →
        ∃ ns₂, Inline.parseInline cfg c m₂ = .ok ns₂ ∧ C10SP.XL c m₁ m₂ ns₁ ns₂ :=
  fun c m₁ m₂ h₁ h₂ hle _ h => parseInline_exact cfg c m₁ m₂ h₁ h₂ hle hmk h

namespace InlineWitness

theorem mapOK_one (c : List Char) (v : Nat) : Inline.MapOK c [(0, v)] := by
  refine ⟨⟨⟨v, [], rfl⟩, by simp⟩, ?_, ?_⟩
  · intro i k1 v1 k2 v2 h1 h2
    simp at h2
  · intro i k v' h hk
    match i, h with
    | 0, h => simp at h; omega
    | n + 1, h => simp at h

theorem mle_one {v w : Nat} (h : v ≤ w) : Pipeline.MLe [(0, v)] [(0, w)] := by
  refine ⟨rfl, ?_⟩
  intro i k₁ v₁ k₂ v₂ h₁ h₂
  match i, h₁, h₂ with
  | 0, h₁, h₂ => simp at h₁ h₂; omega
  | n + 1, h₁, _ => simp at h₁

theorem asciiMarkers_exCfg (n : Nat) : C05R.AsciiMarkers (Inline.exCfg n).chain := by
  intro mk csw h
  simp only [Inline.exCfg, List.mem_cons, List.mem_nil_iff, reduceCtorEq, Inline.RuleId.emph.injEq, false_or,
    or_false] at h
  obtain ⟨rfl, _⟩ := h
  exact ⟨rfl, by decide⟩

example (cfg : Inline.Cfg) (hmk : C05R.AsciiMarkers cfg.chain) (c : List Char) {v w : Nat} (hvw : v ≤ w)
    {ns₁ : List Inline.Node} (h : Inline.parseInline cfg c [(0, v)] = .ok ns₁) :
    ∃ ns₂, Inline.parseInline cfg c [(0, w)] = .ok ns₂ ∧ XL c [(0, v)] [(0, w)] ns₁ ns₂ :=
  parseInline_exact cfg c _ _ (mapOK_one c v) (mapOK_one c w) (mle_one hvw) hmk h

example :
    (Inline.parseInline (Inline.exCfg 100) "*a*".toList [(0, 0)]).toOption.map (fun ns => ns.map (·.range))
      = some [some (0, 3)] ∧
    (Inline.parseInline (Inline.exCfg 100) "*a*".toList [(0, 5)]).toOption.map (fun ns => ns.map (·.range))
      = some [some (5, 8)] := by
  decide +kernel


/-! ### the marker hypothesis is needed: a "delimiter" that is the LINE FEED

  With the chain `[emph '\n', text]` the text `"\n\na\n\n"` is `Em(Em(a))`; under a table that puts two more
  source bytes in front of every line (a block-quote prefix) the runs of delimiters are not copies of
  consecutive source bytes, and the matcher's `e - marker_len` / `s + marker_len` land on source
  offsets (4, 5, 8, 9) that are the translation of NO inline position (`tr` takes the values
  0, 3, 6, 7, 10, 13): both tables are `MapOK`, same keys, values `≤`, both runs succeed, and the results
  are NOT `XL`. -/

def lfCfg : Inline.Cfg :=
  { maxNesting := 100, chain := [.emph '\n' true, .text],
    fns := fun _ i => if i = 0 then some .em else none,
    refs := none, normRef := id, entity := fun _ => none,
    isWhite := fun c => c == ' ', isPunctChar := fun _ => false }
def lfC : List Char := ['\n', '\n', 'a', '\n', '\n']
def lfT1 : InlineOps.Srcmap := [(0,0),(1,1),(2,2),(4,4),(5,5)]
def lfT2 : InlineOps.Srcmap := [(0,0),(1,3),(2,6),(4,10),(5,13)]

theorem lf_not_exact_aux (ns₁ ns₂ : List Inline.Node) (h1 : Inline.parseInline lfCfg lfC lfT1 = .ok ns₁)
    (h2 : Inline.parseInline lfCfg lfC lfT2 = .ok ns₂) : ¬ XL lfC lfT1 lfT2 ns₁ ns₂ := by
  intro hx
  have f : (Inline.parseInline lfCfg lfC lfT1).toOption.map (fun ns => ns.map (fun n => attrVal n.val))
        = some [true] ∧
      (Inline.parseInline lfCfg lfC lfT2).toOption.map (fun ns => ns.map (·.range)) = some [some (4, 9)] ∧
      (∀ p, p < 6 → InlineOps.getSourcePosFor lfT2 p ≠ .ok 4) := by decide +kernel
  obtain ⟨f1, f2, f3⟩ := f
  rw [h1] at f1; rw [h2] at f2
  simp only [Except.toOption, Option.map_some, Option.some.injEq] at f1 f2
  match ns₁, ns₂, f1, f2, hx with
  | [a], [b], f1, f2, hx =>
    obtain ⟨va, ra, ca⟩ := a
    obtain ⟨vb, rb, cb⟩ := b
    simp only [XL, XN] at hx
    simp only [List.map_cons, List.map_nil, List.cons.injEq, and_true] at f1 f2
    obtain ⟨p, q, a₁, b₁, a₂, b₂, e1, e2, hpq, hq, _, _, _, h3, _⟩ := hx.1.2.1 f1
    subst f2
    simp only [Option.some.injEq, Prod.mk.injEq] at e2
    obtain ⟨rfl, rfl⟩ := e2
    have hb : InlineOps.byteLen lfC = 5 := by decide
    exact f3 p (by omega) h3
  | [], _, f1, _, _ => simp at f1
  | _ :: _ :: _, _, f1, _, _ => simp at f1
  | [_], [], _, f2, _ => simp at f2
  | [_], _ :: _ :: _, _, f2, _ => simp at f2
theorem lf_keys (m : InlineOps.Srcmap) (hk : m.map Prod.fst = [0, 1, 2, 4, 5]) : Inline.KeysAfterLF lfC m := by
  intro i k v h hk0
  have h' : (m.map Prod.fst)[i]? = some k := by rw [List.getElem?_map, h]; rfl
  rw [hk] at h'
  match i, h' with
  | 0, h' => simp at h'; omega
  | 1, h' => simp at h'; subst h'; exact ⟨[], ['\n', 'a', '\n', '\n'], rfl, rfl⟩
  | 2, h' => simp at h'; subst h'; exact ⟨['\n'], ['a', '\n', '\n'], rfl, rfl⟩
  | 3, h' => simp at h'; subst h'; exact ⟨['\n', '\n', 'a'], ['\n'], rfl, rfl⟩
  | 4, h' => simp at h'; subst h'; exact ⟨['\n', '\n', 'a', '\n'], [], rfl, rfl⟩
  | n + 5, h' => simp at h'

theorem lf_mono (m : InlineOps.Srcmap) (h : m = lfT1 ∨ m = lfT2) : C05.MonoMap m := by
  intro i k1 v1 k2 v2 h1 h2
  rcases h with rfl | rfl <;>
  match i, h1, h2 with
  | 0, h1, h2 => simp [lfT1, lfT2] at h1 h2; omega
  | 1, h1, h2 => simp [lfT1, lfT2] at h1 h2; omega
  | 2, h1, h2 => simp [lfT1, lfT2] at h1 h2; omega
  | 3, h1, h2 => simp [lfT1, lfT2] at h1 h2; omega
  | n + 4, h1, h2 => simp [lfT1, lfT2] at h2

theorem lf_ok1 : Inline.MapOK lfC lfT1 :=
  ⟨⟨⟨0, _, rfl⟩, by decide⟩, lf_mono _ (.inl rfl), lf_keys _ rfl⟩
theorem lf_ok2 : Inline.MapOK lfC lfT2 :=
  ⟨⟨⟨0, _, rfl⟩, by decide⟩, lf_mono _ (.inr rfl), lf_keys _ rfl⟩
theorem lf_mle : Pipeline.MLe lfT1 lfT2 := by
  refine ⟨rfl, ?_⟩
  intro i k₁ v₁ k₂ v₂ h₁ h₂
  match i, h₁, h₂ with
  | 0, h₁, h₂ => simp [lfT1, lfT2] at h₁ h₂; omega
  | 1, h₁, h₂ => simp [lfT1, lfT2] at h₁ h₂; omega
  | 2, h₁, h₂ => simp [lfT1, lfT2] at h₁ h₂; omega
  | 3, h₁, h₂ => simp [lfT1, lfT2] at h₁ h₂; omega
  | 4, h₁, h₂ => simp [lfT1, lfT2] at h₁ h₂; omega
  | n + 5, h₁, _ => simp [lfT1] at h₁

/-- all hypotheses of `parseInline_exact` except `AsciiMarkers`, and the conclusion fails -/
example : Inline.MapOK lfC lfT1 ∧ Inline.MapOK lfC lfT2 ∧ Pipeline.MLe lfT1 lfT2 ∧
    ∀ ns₁ ns₂, Inline.parseInline lfCfg lfC lfT1 = .ok ns₁ → Inline.parseInline lfCfg lfC lfT2 = .ok ns₂ →
      ¬ XL lfC lfT1 lfT2 ns₁ ns₂ :=
  ⟨lf_ok1, lf_ok2, lf_mle, lf_not_exact_aux⟩

end InlineWitness

end MdIt.C10SP
