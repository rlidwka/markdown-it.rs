/-
  Helper development for `Props/Inline.lean`: the text normal form through the tokenizer when no
  emphasis-like rule is in the chain (partial correctness, any fuel).
-/
import MdIt.Lemmas.InlineText
import MdIt.Lemmas.InlineWalk

namespace MdIt.Inline
open MdIt.InlineOps (Srcmap getSourcePosFor getMap byteLen slice INode)

/-- no empty `Text`, no two adjacent `Text`s in a sibling list (`C14.TextOK` of the projection) -/
def TOK (l : List Node) : Prop := C14.TextOK (eraseList l)

mutual
/-- the same at every depth below a node -/
def DeepTOK : Node → Prop
  | ⟨_, _, cs⟩ => TOK cs ∧ DeepTOKList cs
def DeepTOKList : List Node → Prop
  | [] => True
  | c :: cs => DeepTOK c ∧ DeepTOKList cs
end

theorem DeepTOK_eq (n : Node) : DeepTOK n ↔ TOK n.children ∧ DeepTOKList n.children := by
  cases n; simp [DeepTOK]

theorem deepTOKList_iff (l : List Node) : DeepTOKList l ↔ ∀ n ∈ l, DeepTOK n := by
  induction l with
  | nil => simp [DeepTOKList]
  | cons c cs ih => simp [DeepTOKList, ih]

theorem tok_nil : TOK [] := ⟨by intro n hn; simp [eraseList] at hn, by simp [eraseList, C14.NoAdjText]⟩

theorem tok_snoc_nontext {l : List Node} {n : Node} (h : TOK l) (hn : n.isText = false) :
    TOK (l ++ [n]) := by
  unfold TOK at *
  rw [eraseList_append]
  simp only [eraseList]
  refine ⟨(C14.noEmpty_snoc _ _).mpr ⟨h.noEmpty, ?_⟩, (C14.noAdj_snoc _ _).mpr ⟨h.noAdj, ?_⟩⟩
  · intro ht; rw [erase_isText, hn] at ht; cases ht
  · intro y _ ⟨_, ht⟩; rw [erase_isText, hn] at ht; cases ht

theorem tok_single_text {c : List Char} {r : Option (Nat × Nat)} (hc : c ≠ []) :
    TOK [Node.newText c r] := by
  unfold TOK
  simp only [eraseList, erase_newText]
  refine ⟨?_, by simp [C14.NoAdjText]⟩
  intro n hn _
  simp only [List.mem_singleton] at hn; subst hn
  exact hc

theorem tok_init {init : List Node} {x : Node} (h : TOK (init ++ [x])) : TOK init := by
  unfold TOK at *
  rw [eraseList_append] at h
  simp only [eraseList] at h
  exact ⟨((C14.noEmpty_snoc _ _).mp h.noEmpty).1, ((C14.noAdj_snoc _ _).mp h.noAdj).1⟩

/-- the invariant on a state -/
def TInv (st : IState) : Prop := TOK st.children ∧ DeepTOKList st.children

theorem deepTOK_leaf (v : Val) (r : Option (Nat × Nat)) : DeepTOK (Node.leaf v r) := by
  rw [DeepTOK_eq]; exact ⟨tok_nil, trivial⟩

theorem deepTOK_newText (c : List Char) (r : Option (Nat × Nat)) : DeepTOK (Node.newText c r) := by
  rw [DeepTOK_eq]; exact ⟨tok_nil, trivial⟩

theorem DeepTOKList.append {a b : List Node} (ha : DeepTOKList a) (hb : DeepTOKList b) :
    DeepTOKList (a ++ b) := by
  rw [deepTOKList_iff] at *
  intro n hn
  rcases List.mem_append.mp hn with h | h
  · exact ha n h
  · exact hb n h

theorem DeepTOKList.left {a b : List Node} (h : DeepTOKList (a ++ b)) : DeepTOKList a := by
  rw [deepTOKList_iff] at *
  exact fun n hn => h n (List.mem_append_left _ hn)

theorem DeepTOKList.right {a b : List Node} (h : DeepTOKList (a ++ b)) : DeepTOKList b := by
  rw [deepTOKList_iff] at *
  exact fun n hn => h n (List.mem_append_right _ hn)

theorem DeepTOKList.single {n : Node} (h : DeepTOK n) : DeepTOKList [n] := ⟨h, trivial⟩

/-! ## trailing text -/

theorem trailingTextPush_deep {src : List Char} {m : Srcmap} {cs out : List Node} {a b : Nat}
    (h : trailingTextPush src m cs a b = .ok out) (hc : DeepTOKList cs) : DeepTOKList out := by
  have hfresh : ∀ out, (match liftOps (slice src a b) with
      | .error e => (.error e : Except RPanic (List Node))
      | .ok piece =>
        match liftOps (getMap m a b) with
        | .error e => .error e
        | .ok r => .ok (cs ++ [Node.newText piece (some r)])) = .ok out → DeepTOKList out := by
    intro out h
    split at h
    · simp at h
    · split at h
      · simp at h
      · simp only [Except.ok.injEq] at h; subst h
        exact hc.append (DeepTOKList.single (deepTOK_newText _ _))
  unfold trailingTextPush at h
  simp only at h
  rcases popLast_spec cs with ⟨hp, _⟩ | ⟨init, last, hp, hcs⟩
  · rw [hp] at h; exact hfresh out h
  · rw [hp] at h
    simp only at h
    subst hcs
    have hlast : DeepTOK last := hc.right.1
    split at h
    · split at h
      · simp at h
      · split at h
        · simp only [Except.ok.injEq] at h; subst h
          refine hc.left.append (DeepTOKList.single ?_)
          rw [DeepTOK_eq] at hlast ⊢; exact hlast
        · split at h
          · simp at h
          · simp only [Except.ok.injEq] at h; subst h
            refine hc.left.append (DeepTOKList.single ?_)
            rw [DeepTOK_eq] at hlast ⊢; exact hlast
    · exact hfresh out h

theorem trailingTextPop_deep {cs out : List Node} {count : Nat}
    (h : trailingTextPop cs count = .ok out) (hc : DeepTOKList cs) : DeepTOKList out := by
  rcases trailingTextPop_ok h with rfl | ⟨init, last, rfl, _, rfl | ⟨_, _, rfl⟩⟩
  · exact hc
  · exact hc.left
  · have hlast := hc.right.1
    refine hc.left.append (DeepTOKList.single ?_)
    rw [DeepTOK_eq] at hlast ⊢; exact hlast

theorem pushText_tinv {st st' : IState} {a b : Nat} (hlt : a < b) (h : st.pushText a b = .ok st')
    (hc : TInv st) : TInv st' := by
  obtain ⟨cs, hcs, rfl⟩ := pushText_eq h
  exact ⟨C14.push_no_adjacent _ _ _ _ _ hc.1 hlt _ (erase_trailingTextPush hcs),
    trailingTextPush_deep hcs hc.2⟩

theorem TInv.push {st : IState} (h : TInv st) {n : Node} (hn : n.isText = false) (hd : DeepTOK n) :
    TInv (st.push n) :=
  ⟨tok_snoc_nontext h.1 hn, h.2.append (DeepTOKList.single hd)⟩

/-! ## the rules -/

/-- a node with one non-empty text child -/
theorem deepTOK_oneText {v : Val} {r ri : Option (Nat × Nat)} {c : List Char} (hc : c ≠ []) :
    DeepTOK { val := v, range := r, children := [Node.newText c ri] } := by
  rw [DeepTOK_eq]
  exact ⟨tok_single_text hc, DeepTOKList.single (deepTOK_newText _ _)⟩

theorem Built.tinv {st st' : IState} (h : Built st st') (hc : TInv st) : TInv st' := by
  cases h with
  | cache => exact hc
  | text hab hp => exact pushText_tinv hab hp hc
  | brk n _ hpop =>
    have h1 : TOK _ := C14.pop_no_adjacent _ _ hc.1 _ (erase_trailingTextPop hpop)
    refine ⟨tok_snoc_nontext h1 ?_, (trailingTextPop_deep hpop hc.2).append
      (DeepTOKList.single (deepTOK_leaf _ _))⟩
    by_cases h2 : n ≥ 2
    · rw [if_pos h2]; rfl
    · rw [if_neg h2]; rfl
  | hard => exact hc.push rfl (deepTOK_leaf _ _)
  | special => exact hc.push rfl (deepTOK_leaf _ _)
  | code _ _ _ hrun hnd =>
    have hne := run_content_ne _ _ backtick_size _ _ _ _ _ _ _ _ _ hrun hnd
    exact ⟨tok_snoc_nontext hc.1 rfl, hc.2.append (DeepTOKList.single (deepTOK_oneText hne))⟩
  | auto _ _ hne => exact hc.push rfl (deepTOK_oneText hne)

/-! ## the link rule, the loops -/

theorem keeps_text {cfg : Cfg} (hne : ∀ id ∈ cfg.chain, id.isEmph = false) :
    Keeps cfg (fun _ cs => TOK cs ∧ DeepTOKList cs) where
  nil _ := ⟨tok_nil, trivial⟩
  built _ hb hc := hb.tinv hc
  text hab hp hc := pushText_tinv hab hp hc
  emph hm _ _ := by have := hne _ hm; simp [RuleId.isEmph] at this
  link hmk _ hc hi := ⟨tok_snoc_nontext hc.1 (by rcases hmk with rfl | rfl <;> rfl),
    hc.2.append (DeepTOKList.single (by rw [DeepTOK_eq]; exact hi))⟩

/-- **the text invariant through the whole tokenizer** when the chain has no emphasis-like rule -/
theorem text_induction (cfg : Cfg) (hne : ∀ id ∈ cfg.chain, id.isEmph = false) : ∀ fuel : Nat,
    ∀ (e : Nat) (st st' : IState), tokLoop cfg fuel e st = .ok st' → TInv st → TInv st' :=
  fun fuel e st st' h hc => (tokLoop_kept (keeps_text hne) fuel e st st' h hc).2

end MdIt.Inline
