/-
  For `Props/MemoSafe.lean`: what the comparison of a REAL step with the look-ahead step that made the memo
  entry of its position (the WITNESS, `Just` of `Lemmas/MemoSafeLamDef.lean`) uses and that does not depend
  on the invariant of the real state — shared by `Lemmas/MemoSafeLamFrameKit.lean` and its instances.

    * `over_limit`        — frames at `level ≥ max_nesting`: the chain does not run at all;
    * `StepCtx`, `MarkerRun` — the fixed data of one real step at a memo entry `k ↦ v`;
    * the witness side    — what a look-ahead call of one rule keeps (`wit_step`), which rules can touch the
                            code-span cache at a backtick (`wit_at_backtick`), the link / image rules on
                            their first characters (`link_at`, `link_other`, `image_at`, `image_other`),
                            `linkRule_silent_inv`, `pl_R`;
    * the witness chain   — `chain_declines_of`, `wit_chain_grow`, and the witness `skipStep` unpacked to
                            its chain (`skipStep_chain`);
    * `nested_eq_of_step` — the induction on fuel, for any invariant of nested states;
    * `Arrives`           — a chain read backwards, for any `run`: the rule that answered and the state it
                            was called at (`firstRule_some_arrives`), or every rule declined
                            (`firstRule_none_arrives`); `Arrives.inv`: what the declining calls keep;
    * `just_token`        — the TOKEN behind a memo entry `k ↦ v`: a rule of the chain answered `n` at a state
                            at `k` under the top `pos_max` and `v = k + n` (`CallAt`), or every rule
                            declined there and `v` is the end of the character at `k`; `just_unit`: where
                            no rule of the chain fires, the entry is the single character;
    * `outer_marker_run`  — a real delimiter run walks over single-character entries of the label walk.
-/
import MdIt.Lemmas.MemoSafeLamWalk
import MdIt.Lemmas.MemoSafeLamTopKit

namespace MdIt.Inline
open MdIt.InlineOps (Srcmap getSourcePosFor getMap byteLen slice)

/-! ## frames over the nesting limit -/

/-- over the nesting limit one iteration uses neither `skip_token` nor `tokenize` -/
theorem tokStep_over {cfg : Cfg} (skip tok skip' tok' : IState → Except Panic IState)
    (fuel fuel' : Nat) {s : IState} (hl : ¬ s.level < cfg.maxNesting) :
    tokStep cfg skip tok fuel s = tokStep cfg skip' tok' fuel' s ∧
    ∀ s', tokStep cfg skip tok fuel s = .ok s' →
      s'.cache = s.cache ∧ s'.backticks = s.backticks ∧ s'.src = s.src ∧ s'.level = s.level := by
  unfold tokStep
  simp only [if_neg hl]
  refine ⟨by trivial, ?_⟩
  intro s' h
  obtain ⟨_, _, _, a, b, c, _, d⟩ := fallback_keeps h
  exact ⟨a, b, c, d⟩

/-- **frames over the nesting limit**: the guarded loop is the model's loop, memo and code-span cache
    are left alone -/
theorem over_limit (cfg : Cfg) (g : Bool) : ∀ (f e : Nat) (s : IState), ¬ s.level < cfg.maxNesting →
    tokLoopG cfg g f e s = tokLoop cfg f e s ∧
    ∀ s', tokLoopG cfg g f e s = .ok s' →
      s'.cache = s.cache ∧ s'.backticks = s.backticks ∧ s'.src = s.src := by
  intro f
  induction f with
  | zero =>
    intro e s _
    unfold tokLoopG tokLoop
    by_cases hlt : s.pos < e
    · simp only [if_pos hlt]
      exact ⟨by trivial, by intro s' h; simp at h⟩
    · simp only [if_neg hlt]
      refine ⟨by trivial, ?_⟩
      intro s' h
      simp only [Except.ok.injEq] at h; subst h
      exact ⟨rfl, rfl, rfl⟩
  | succ f ih =>
    intro e s hl
    unfold tokLoopG tokLoop
    by_cases hlt : s.pos < e
    · simp only [if_pos hlt]
      obtain ⟨e1, n1⟩ := tokStep_over (cfg := cfg) (fun x => skipTokenG cfg g f x)
        (fun x => tokLoopG cfg g f x.posMax x) (fun x => skipToken cfg f x)
        (fun x => tokLoop cfg f x.posMax x) f f hl
      rw [← e1]
      cases hs : tokStep cfg (fun x => skipTokenG cfg g f x) (fun x => tokLoopG cfg g f x.posMax x) f s with
      | error err => exact ⟨rfl, by intro s' h; simp at h⟩
      | ok s1 =>
        simp only
        obtain ⟨a, b, c, d⟩ := n1 s1 hs
        obtain ⟨e2, n2⟩ := ih e s1 (by rw [d]; exact hl)
        refine ⟨e2, ?_⟩
        intro s' h
        obtain ⟨a', b', c'⟩ := n2 s' h
        exact ⟨a'.trans a, b'.trans b, c'.trans c⟩
    · simp only [if_neg hlt]
      refine ⟨by trivial, ?_⟩
      intro s' h
      simp only [Except.ok.injEq] at h; subst h
      exact ⟨rfl, rfl, rfl⟩

/-! ## the fixed data of one real step -/

/-- one real step at position `k` of a nested frame `[·, le)` with memo `m`: the character at `k`
    (as the top window sees it), the memo entry `k ↦ v`, which ends inside the frame -/
structure StepCtx (src : List Char) (Mtop : Nat) (m : List (Nat × Nat)) (k le v : Nat) (ch : Char)
    (rest : List Char) : Prop where
  sl : slice src k Mtop = .ok (ch :: rest)
  lk : m.lookup k = some v
  vle : v ≤ le
  klt : k < le

/-- `n` copies of the emphasis marker `ch` of the chain from `k`, inside `[k, le)` -/
def MarkerRun (cfg : Cfg) (src : List Char) (ch : Char) (k le n : Nat) : Prop :=
  (∃ csw, RuleId.emph ch csw ∈ cfg.chain) ∧ 1 ≤ n ∧ k + n ≤ le ∧
    ∀ i, i < n → ∃ r, slice src (k + i) le = .ok (ch :: r)

section
variable {cfg : Cfg} {B : List Char → CodePair.Cache → Prop} {src : List Char} {Mtop : Nat}

theorem LInv.bump {w : IState} (h : LInv w) : LInv { w with level := w.level + 1 } :=
  ⟨h.le, h.bpos, h.bmax, h.wf, h.stop, h.memo⟩

theorem WinHyp.bump {w : IState} {M' : Nat} (h : WinHyp w M') :
    WinHyp { w with level := w.level + 1 } M' := ⟨h.bpos, h.bmax, h.lt, h.le, h.cut⟩

end

/-! ## the witness side: look-ahead calls -/

theorem silentBumped_ok {run : IState → Bool → RuleRes} {w w1 : IState} {o : Option Nat}
    (h : silentBumped run w = .ok (o, w1)) :
    ∃ wb, run { w with level := w.level + 1 } true = .ok (o, wb) ∧
      w1 = { wb with level := wb.level - 1 } := by
  unfold silentBumped at h
  split at h
  · simp at h
  · next r wb he =>
    split at h
    · simp at h
    · simp only [Except.ok.injEq, Prod.mk.injEq] at h
      obtain ⟨rfl, rfl⟩ := h
      exact ⟨wb, he, rfl⟩

/-- what a look-ahead call of one rule keeps -/
theorem wit_step {cfg : Cfg} {skip tok : IState → Except Panic IState} (hq : CalmFn skip)
    (hs : SkipHypT skip) (fuel : Nat) (id : RuleId) {w : IState} (hi : LInv w)
    (hlt : w.pos < w.posMax) {o1 : Option Nat} {w1 : IState}
    (h : silentBumped (runRule cfg skip tok fuel id) w = .ok (o1, w1)) :
    LInv w1 ∧ w1.src = w.src ∧ w1.posMax = w.posMax ∧ w1.pos = w.pos := by
  have hT : SilT w (silentBumped (runRule cfg skip tok fuel id) w) := by
    apply silentBumped_T
    exact runRule_silent_T hq hs fuel id _ hi.bump hlt
  obtain ⟨a, b, c, _⟩ := hT.ok _ _ h
  exact ⟨a, b.src, b.posMax, c⟩

/-- in look-ahead mode a flat rule other than the code-span rule returns the state it was given -/
theorem silent_flat_state {cfg : Cfg} {skip tok : IState → Except Panic IState} {fuel : Nat}
    {id : RuleId} (hf : id.isFlat = true) (hne : id ≠ .backticks) {st st' : IState} {o : Option Nat}
    (h : runRule cfg skip tok fuel id st true = .ok (o, st')) : st' = st := by
  obtain ⟨⟨h1, h2, h3, h4, h5⟩, h6, h7, hq, _⟩ := runRule_flat_simple hf h
  obtain ⟨h8, h9⟩ := hq rfl
  have h10 := runRule_backticks_unchanged hne hf h
  cases st; cases st'
  simp only at h1 h2 h3 h4 h5 h6 h7 h8 h9 h10
  subst_vars; rfl

/-- at a first character other than the backtick the code-span rule declines and returns the state it
    was given, in both modes -/
theorem backticks_other {cfg : Cfg} {skip tok : IState → Except Panic IState} {fuel : Nat}
    {st : IState} {c : Char} {rest : List Char} (hw : st.window = .ok (c :: rest)) (hc : c ≠ '`')
    (silent : Bool) : runRule cfg skip tok fuel .backticks st silent = .ok (none, st) := by
  have hsl := window_eq hw
  unfold runRule
  simp only
  unfold ruleBackticks
  rw [CodePair.run_other CodePair.Variant.current '`' false silent st.backticks
    ((codeSlice_eq _ _ _ _).mpr hsl) hc]
  cases st
  rfl

/-- at a first character other than `[` the link rule declines and returns the state it was given -/
theorem link_other {cfg : Cfg} {skip tok : IState → Except Panic IState} {fuel : Nat}
    {st : IState} {c : Char} {rest : List Char} (hw : st.window = .ok (c :: rest)) (hc : c ≠ '[')
    (silent : Bool) : runRule cfg skip tok fuel .link st silent = .ok (none, st) := by
  unfold runRule
  simp only
  unfold ruleLink
  rw [hw]
  simp only [liftR]
  rw [if_pos hc]

/-- a window and its cut at a `]` start with `![` together -/
theorem cut_bang_bracket {ch : Char} {rest' rest : List Char} (hcut : Cut (ch :: rest') (ch :: rest)) :
    (∃ t, ch :: rest' = '!' :: '[' :: t) ↔ ∃ t, ch :: rest = '!' :: '[' :: t := by
  rcases hcut with e | ⟨r, e⟩
  · rw [e]
  · simp only [List.cons_append, List.cons.injEq, true_and] at e
    subst e
    constructor
    · rintro ⟨t, ht⟩
      cases ht
      exact ⟨_, rfl⟩
    · rintro ⟨t, ht⟩
      cases rest' with
      | nil =>
        simp only [List.nil_append, List.cons.injEq] at ht
        exact absurd ht.2.1 (by decide)
      | cons c t' =>
        simp only [List.cons_append, List.cons.injEq] at ht
        exact ⟨t', by rw [ht.1, ht.2.1]⟩

/-- at a `[` the link rule is `linkRule` -/
theorem link_at {cfg : Cfg} {skip tok : IState → Except Panic IState} {fuel : Nat} {st : IState}
    {rest : List Char} (hw : st.window = .ok ('[' :: rest)) {silent : Bool} :
    runRule cfg skip tok fuel .link st silent =
      linkRule cfg skip tok fuel Val.link false 0 st silent :=
  ruleLink_eq hw

/-- at `![` the image rule is `linkRule` -/
theorem image_at {cfg : Cfg} {skip tok : IState → Except Panic IState} {fuel : Nat} {st : IState}
    {rest : List Char} (hw : st.window = .ok ('!' :: '[' :: rest)) {silent : Bool} :
    runRule cfg skip tok fuel .image st silent =
      linkRule cfg skip tok fuel Val.image true 1 st silent :=
  ruleImage_eq hw

/-- where the window does not start with `![` the image rule declines and returns the state it was
    given -/
theorem image_other {cfg : Cfg} {skip tok : IState → Except Panic IState} {fuel : Nat}
    {st : IState} {w : List Char} (hw : st.window = .ok w) (hc : ∀ t, w ≠ '!' :: '[' :: t)
    (silent : Bool) : runRule cfg skip tok fuel .image st silent = .ok (none, st) := by
  unfold runRule
  simp only
  unfold ruleImage
  rw [hw]
  -- the side condition of the last alternative of the `match` is `hc`
  simp only [liftR]

/-- at a backtick a look-ahead call of a rule other than the code-span rule returns the state it was given
    (the link / image rules decline on the first character) -/
theorem silent_other_state {cfg : Cfg} {skip tok : IState → Except Panic IState} {fuel : Nat}
    {id : RuleId} (hbt : id ≠ .backticks) {w wb : IState} {rest : List Char}
    (hw : w.window = .ok ('`' :: rest)) {o1 : Option Nat}
    (hwb : runRule cfg skip tok fuel id w true = .ok (o1, wb)) : wb = w := by
  by_cases hf : id.isFlat = true
  · exact silent_flat_state hf hbt hwb
  · cases id with
    | link =>
      rw [link_other hw (by decide) true] at hwb
      simp only [Except.ok.injEq, Prod.mk.injEq] at hwb
      exact hwb.2.symm
    | image =>
      rw [image_other hw (by intro t ht; simp at ht) true] at hwb
      simp only [Except.ok.injEq, Prod.mk.injEq] at hwb
      exact hwb.2.symm
    | _ => simp [RuleId.isFlat] at hf

/-- at a backtick a look-ahead rule call is the code-span rule's, or returns the state it was given -/
theorem wit_at_backtick {cfg : Cfg} {skip tok : IState → Except Panic IState} {fuel : Nat}
    {id : RuleId} {w wb : IState} {rest : List Char} (hw : w.window = .ok ('`' :: rest))
    {o1 : Option Nat} (hwb : runRule cfg skip tok fuel id w true = .ok (o1, wb)) :
    ruleBackticks w true = .ok (o1, wb) ∨ wb = w := by
  by_cases hbt : id = .backticks
  · subst hbt
    exact .inl (liftR_ok.mp hwb)
  · exact .inr (silent_other_state hbt hw hwb)

/-! ## one rule: link and image -/

theorem parseLink_fuel0 {cfg : Cfg} {skip : IState → Except Panic IState} {s : IState} {p : Nat}
    {en : Bool} : parseLink cfg skip 0 s p en = .error .fuel := by
  unfold parseLink parseLinkLabel labelLoop
  rfl

/-- a completed look-ahead call of the link rule, read backwards -/
theorem linkRule_silent_inv {cfg : Cfg} {skip tok : IState → Except Panic IState} {fuel : Nat}
    {mk : List Nat → Option (List Char) → Val} {en : Bool} {offset : Nat} {st st' : IState}
    {o : Option Nat} (h : linkRule cfg skip tok fuel mk en offset st true = .ok (o, st')) :
    ∃ r0, parseLink cfg skip fuel st (st.pos + offset) en = .ok (r0, st') ∧
      (r0 = none → o = none) ∧
      (∀ res, r0 = some res → st'.pos ≤ res.endPos ∧ o = some (res.endPos - st'.pos)) := by
  obtain ⟨r, st1, hp, ⟨rfl, rfl, rfl⟩ | ⟨res, rfl, ⟨_, hle, rfl, rfl⟩ | ⟨hf, _⟩⟩⟩ := linkRule_ok h
  · exact ⟨none, hp, fun _ => rfl, nofun⟩
  · exact ⟨some res, hp, nofun, fun res' hr => by cases hr; exact ⟨hle, rfl⟩⟩
  · cases hf

section
variable {cfg : Cfg} {f : Nat} {skipG skipM : IState → Except Panic IState}

/-- the one result of `parse_link` for the guarded and the model `skip_token` at the fuel of the step
    (at fuel `0` the label loop is out of fuel whatever the `skip_token`) -/
theorem pl_R (hits : f = 0 ∨ (FollowsHits skipG ∧ FollowsHits skipM)) {x : IState} {offset : Nat}
    {en : Bool} {r0 : Option LinkRes}
    (hR : PLSame cfg f x (x.pos + offset) en r0) :
    ∃ R : Except Panic (Option LinkRes),
      parseLink cfg skipG f x (x.pos + offset) en =
        (match R with
          | .ok r => .ok (r, x)
          | .error e => .error e) ∧
      parseLink cfg skipM f x (x.pos + offset) en =
        (match R with
          | .ok r => .ok (r, x)
          | .error e => .error e) ∧
      (∀ r, R = .ok r → r = r0) := by
  rcases hits with h0 | ⟨hG, hM⟩
  · subst h0
    exact ⟨.error .fuel, parseLink_fuel0, parseLink_fuel0, by intro r h; cases h⟩
  · obtain ⟨R, h1, h2⟩ := hR
    exact ⟨R, h1 _ hG, h1 _ hM, h2⟩

end

/-! ## the chain -/

/-- at a `!` only the image rule is listed -/
theorem firesAt_bang (id : RuleId) (h : id ≠ .image) : id.firesAt '!' = false := by
  cases id with
  | image => exact absurd rfl h
  | text => decide
  | newline => decide
  | escape => decide
  | backticks => decide
  | emph m c => rfl
  | link => decide
  | linkEnd => rfl
  | autolink => decide
  | entity => decide

/-- a chain none of whose rules is listed at the first character declines in look-ahead mode -/
theorem chain_declines_of {cfg : Cfg} {skip tok : IState → Except Panic IState} (hq : CalmFn skip)
    (hs : SkipHypT skip) (fuel : Nat) {c : Char} {rest : List Char} :
    ∀ (rules : List RuleId), (∀ id ∈ rules, id.firesAt c = false) →
      ∀ (st : IState), LInv st → st.window = .ok (c :: rest) →
      ∀ o st', firstRule (fun id s => silentBumped (runRule cfg skip tok fuel id) s) rules st
          = .ok (o, st') → o = none := by
  intro rules
  induction rules with
  | nil =>
    intro _ st _ _ o st' h
    simp only [firstRule, Except.ok.injEq, Prod.mk.injEq] at h
    exact h.1.symm
  | cons r rs ih =>
    intro hall st hi hw o st' h
    have hlt := lt_of_window_cons hi hw
    unfold firstRule at h
    split at h
    · simp at h
    · next n st1 he =>
      exfalso
      obtain ⟨wb, hwb, _⟩ := silentBumped_ok he
      have hwB : ({ st with level := st.level + 1 } : IState).window = .ok (c :: rest) := hw
      have := silent_declines hwB (hall r (by simp)) _ _ hwb
      simp at this
    · next st1 he =>
      obtain ⟨hi1, hs1, hm1, hp1⟩ := wit_step hq hs fuel r hi hlt he
      exact ih (fun id hid => hall id (List.mem_cons_of_mem _ hid)) st1 hi1
        (by rw [← hw]; exact window_congr hs1 hp1 hm1) o st' h

/-- the look-ahead chain only grows the memo, above its position -/
theorem wit_chain_grow {cfg : Cfg} {skip tok : IState → Except Panic IState} (hq : CalmFn skip)
    (hs : SkipHypT skip) (hg : SkipGrowHyp skip) (fuel : Nat) (rules : List RuleId) {w : IState}
    (hi : LInv w) (hlt : w.pos < w.posMax) {o0 : Option Nat} {w' : IState}
    (h : firstRule (fun id s => silentBumped (runRule cfg skip tok fuel id) s) rules w = .ok (o0, w')) :
    Grow (w.pos + 1) w.posMax w.cache w'.cache := by
  have hT : ∀ id s, LInv s → s.pos < s.posMax →
      SilT s (silentBumped (runRule cfg skip tok fuel id) s) := by
    intro id s his hls
    apply silentBumped_T
    exact runRule_silent_T hq hs fuel id _ his.bump hls
  exact firstRule_silent_grow (run := fun id s => silentBumped (runRule cfg skip tok fuel id) s) hT
    (by
      intro id s his hls
      apply silentBumped_grow
      exact runRule_silent_grow hq hs hg fuel id _ his.bump hls)
    rules w hi hlt _ _ h

theorem count_tail_le {a b : RuleId} {l : List RuleId} (h : (b :: l).count a ≤ 1) : l.count a ≤ 1 := by
  rw [List.count_cons] at h
  omega

theorem not_mem_tail_of_count {a : RuleId} {l : List RuleId} (h : (a :: l).count a ≤ 1) : a ∉ l := by
  rw [List.count_cons_self] at h
  exact List.count_eq_zero.mp (by omega)

/-! ## the witness of a memo entry, unpacked to its chain -/

/-- a completed `skipStep`, read backwards -/
theorem skipStep_inv {cfg : Cfg} {skip tok : IState → Except Panic IState} {fuel : Nat}
    {st st' : IState} (h : skipStep cfg skip tok fuel st = .ok st') :
    ∃ o0 w', firstRule (fun id s => silentBumped (runRule cfg skip tok fuel id) s) cfg.chain st
        = .ok (o0, w') ∧
      st'.cache = cacheInsert w'.cache st.pos st'.pos ∧
      (∀ n, o0 = some n → st'.pos = w'.pos + n) ∧
      (o0 = none → ∃ c, firstChar w' = .ok c ∧ st'.pos = w'.pos + c.utf8Size) := by
  revert h
  fun_cases skipStep cfg skip tok fuel st with
  | case1 | case3 => intro h; cases h
  | case2 _ len st1 he =>
    intro h; cases h
    exact ⟨some len, st1, he, rfl, fun n hn => by cases hn; rfl, nofun⟩
  | case4 _ st1 he c hc =>
    intro h; cases h
    exact ⟨none, st1, he, rfl, nofun, fun _ => ⟨c, hc, rfl⟩⟩

/-- what the look-ahead chain keeps -/
theorem wit_chain_step {cfg : Cfg} {skip tok : IState → Except Panic IState} (hq : CalmFn skip)
    (hs : SkipHypT skip) (fuel : Nat) (rules : List RuleId) {w : IState} (hi : LInv w)
    (hlt : w.pos < w.posMax) {o0 : Option Nat} {w' : IState}
    (h : firstRule (fun id s => silentBumped (runRule cfg skip tok fuel id) s) rules w = .ok (o0, w')) :
    LInv w' ∧ w'.src = w.src ∧ w'.posMax = w.posMax ∧ w'.pos = w.pos := by
  have hT : SilT w
      (firstRule (fun id s => silentBumped (runRule cfg skip tok fuel id) s) rules w) := by
    rw [← InlineH.firstRuleG_eq]
    apply firstRuleG_silent_T _ rules w hi hlt
    intro id s his hls
    apply silentBumped_T
    exact runRule_silent_T hq hs fuel id _ his.bump hls
  obtain ⟨a, b, c, _⟩ := hT.ok _ _ h
  exact ⟨a, b.src, b.posMax, c⟩

/-- a look-ahead step from a state at `k` (memo miss at `k`) that returned at `v`, as a chain: the final
    verdict `o0` of the chain explains `v`, and any memo `m` that extends the step's memo extends the
    chain's -/
theorem skipStep_chain {cfg : Cfg} {skip0 tok0 : IState → Except Panic IState} {f0 : Nat}
    {st0 st0' : IState} {src : List Char} {Mtop : Nat} {m : List (Nat × Nat)} {k v : Nat}
    (hq0 : CalmFn skip0) (hs0 : SkipHypT skip0) (hg0 : SkipGrowHyp skip0) (hi0 : LInv st0)
    (hsrc0 : st0.src = src) (hmax0 : st0.posMax = Mtop) (hpos0 : st0.pos = k)
    (hlt0 : st0.pos < st0.posMax) (hmiss : st0.cache.lookup k = none)
    (hstep : skipStep cfg skip0 tok0 f0 st0 = .ok st0') (hv : st0'.pos = v)
    (hmono : LookupMono st0'.cache m) {ch : Char} {rest : List Char}
    (hsl : slice src k Mtop = .ok (ch :: rest)) :
    ∃ (o0 : Option Nat) (w' : IState),
      firstRule (fun id s => silentBumped (runRule cfg skip0 tok0 f0 id) s) cfg.chain st0
        = .ok (o0, w') ∧
      LookupMono w'.cache m ∧ (o0 = none → v = k + ch.utf8Size) ∧ (∀ n, o0 = some n → v = k + n) := by
  obtain ⟨o0, w', hfr, hcache, hsome, hnone⟩ := skipStep_inv hstep
  obtain ⟨hi', hs', hm', hp'⟩ := wit_chain_step hq0 hs0 f0 cfg.chain hi0 hlt0 hfr
  have hgrow := wit_chain_grow hq0 hs0 hg0 f0 cfg.chain hi0 hlt0 hfr
  refine ⟨o0, w', hfr, ?_, ?_, ?_⟩
  · refine LookupMono.trans ?_ hmono
    intro a b hab
    rw [hcache, lookup_cacheInsert]
    by_cases hak : a = st0.pos
    · subst hak
      rw [hgrow.low _ (by omega), hpos0, hmiss] at hab
      cases hab
    · rw [if_neg hak]; exact hab
  · intro ho
    obtain ⟨c, hc, hpc⟩ := hnone ho
    have hw' : w'.window = .ok (ch :: rest) := by
      unfold IState.window
      rw [hs', hp', hm', hsrc0, hpos0, hmax0, hsl]
      rfl
    unfold firstChar at hc
    rw [hw'] at hc
    simp only [liftR, Except.ok.injEq] at hc
    subst hc
    rw [← hv, hpc, hp', hpos0]
  · intro n hn
    rw [← hv, hsome n hn, hp', hpos0]

/-! ## the induction on fuel -/

/-- **the induction on fuel**, for any invariant `N` of the states of a nested frame and any relation `R`
    between a state and a later one: `R` holds when memo, code-span cache and text are the same, it is
    transitive, and one step of the loop (given the statement at the fuel of its callees) agrees on the
    guarded and the model side and keeps `R`, `pos_max` and `N` -/
theorem nested_eq_of_step {cfg : Cfg} {N : IState → Prop} {R : IState → IState → Prop}
    (hsame : ∀ s s', N s → s'.cache = s.cache → s'.backticks = s.backticks → s'.src = s.src → R s s')
    (htrans : ∀ {a b c}, R a b → R b c → R a c)
    (hstep : ∀ f, (∀ s, N s → tokLoopG cfg true f s.posMax s = tokLoop cfg f s.posMax s ∧
        ∀ s', tokLoopG cfg true f s.posMax s = .ok s' → R s s') →
      ∀ s, N s → s.level < cfg.maxNesting → s.pos < s.posMax →
        tokStep cfg (fun s => skipTokenG cfg true f s) (fun s => tokLoopG cfg true f s.posMax s) f s =
          tokStep cfg (fun s => skipToken cfg f s) (fun s => tokLoop cfg f s.posMax s) f s ∧
        ∀ s1, tokStep cfg (fun s => skipTokenG cfg true f s)
            (fun s => tokLoopG cfg true f s.posMax s) f s = .ok s1 →
          R s s1 ∧ s1.posMax = s.posMax ∧ N s1) :
    ∀ (f : Nat) (s : IState), N s →
      tokLoopG cfg true f s.posMax s = tokLoop cfg f s.posMax s ∧
      ∀ s', tokLoopG cfg true f s.posMax s = .ok s' → R s s' := by
  intro f
  induction f with
  | zero =>
    intro s hn
    unfold tokLoopG tokLoop
    by_cases hlt : s.pos < s.posMax
    · simp only [if_pos hlt]
      exact ⟨by trivial, by intro s' h; simp at h⟩
    · simp only [if_neg hlt]
      refine ⟨by trivial, ?_⟩
      intro s' h
      simp only [Except.ok.injEq] at h; subst h
      exact hsame s s hn rfl rfl rfl
  | succ f ih =>
    intro s hn
    by_cases hl : s.level < cfg.maxNesting
    · unfold tokLoopG tokLoop
      by_cases hlt : s.pos < s.posMax
      · simp only [if_pos hlt]
        obtain ⟨e1, n1⟩ := hstep f ih s hn hl hlt
        rw [← e1]
        cases hs : tokStep cfg (fun s => skipTokenG cfg true f s)
            (fun s => tokLoopG cfg true f s.posMax s) f s with
        | error e => exact ⟨rfl, by intro s' h; simp at h⟩
        | ok s1 =>
          simp only
          obtain ⟨a, b, c⟩ := n1 s1 hs
          have hrec := ih s1 c
          rw [b] at hrec
          exact ⟨hrec.1, fun s' h => htrans a (hrec.2 s' h)⟩
      · simp only [if_neg hlt]
        refine ⟨by trivial, ?_⟩
        intro s' h
        simp only [Except.ok.injEq] at h; subst h
        exact hsame s s hn rfl rfl rfl
    · obtain ⟨e, n⟩ := over_limit cfg true (f + 1) s.posMax s hl
      refine ⟨e, fun s' h => ?_⟩
      obtain ⟨a, b, c⟩ := n s' h
      exact hsame s s' hn a b c

end MdIt.Inline

/-! ## the chain read backwards

  `Arrives` and its lemmas speak of `firstRule` over any `run`; they keep the namespace of the statements
  of `Props/C16Doc.lean`, which are phrased with `Arrives`. -/

namespace MdIt.Inline.ES.C16Doc
open MdIt.Inline

/-- the chain `rules`, run from `st` (each rule by `run`), ARRIVES at the rule `id` with the state `x`:
    every rule in front of `id` answered `None` (`firstRule` threads the state through the declining
    rules) -/
inductive Arrives (run : RuleId → IState → RuleRes) : List RuleId → IState → RuleId → IState → Prop
  | here (id : RuleId) (rs : List RuleId) (st : IState) : Arrives run (id :: rs) st id st
  | next {id0 : RuleId} {rs : List RuleId} {st st1 : IState} {id : RuleId} {x : IState} :
      run id0 st = .ok (none, st1) → Arrives run rs st1 id x → Arrives run (id0 :: rs) st id x

theorem Arrives.mem {run : RuleId → IState → RuleRes} {rules : List RuleId} {st : IState} {id : RuleId}
    {x : IState} (h : Arrives run rules st id x) : id ∈ rules := by
  induction h with
  | here id rs st => simp
  | next _ _ ih => exact List.mem_cons_of_mem _ ih

/-- a property that every declining call of a rule of the chain keeps holds at the state the chain
    arrives with -/
theorem Arrives.inv {run : RuleId → IState → RuleRes} {I : IState → Prop} {rules : List RuleId}
    {st : IState} {id : RuleId} {x : IState} (h : Arrives run rules st id x)
    (hstep : ∀ id0 ∈ rules, ∀ s s1, I s → run id0 s = .ok (none, s1) → I s1) (h0 : I st) : I x := by
  induction h with
  | here => exact h0
  | next hrun _ ih =>
    exact ih (fun id0 hid0 => hstep id0 (List.mem_cons_of_mem _ hid0))
      (hstep _ List.mem_cons_self _ _ h0 hrun)

/-- a chain that answers: the rule that answered, and the state it was called at -/
theorem firstRule_some_arrives {run : RuleId → IState → RuleRes} :
    ∀ (rules : List RuleId) (st : IState) (n : Nat) (x' : IState),
      firstRule run rules st = .ok (some n, x') →
      ∃ id x, Arrives run rules st id x ∧ run id x = .ok (some n, x') := by
  intro rules
  induction rules with
  | nil => intro st n x' h; simp [firstRule] at h
  | cons r rs ih =>
    intro st n x' h
    unfold firstRule at h
    split at h
    · simp at h
    · next n1 s1 he =>
      simp only [Except.ok.injEq, Prod.mk.injEq, Option.some.injEq] at h
      obtain ⟨rfl, rfl⟩ := h
      exact ⟨r, st, Arrives.here _ _ _, he⟩
    · next s1 he =>
      obtain ⟨id, x, hA, hx⟩ := ih s1 n x' h
      exact ⟨id, x, Arrives.next he hA, hx⟩

/-- a chain that declines: every rule of it was arrived at, and declined -/
theorem firstRule_none_arrives {run : RuleId → IState → RuleRes} :
    ∀ (rules : List RuleId) (st w' : IState), firstRule run rules st = .ok (none, w') →
      ∀ id ∈ rules, ∃ x x1, Arrives run rules st id x ∧ run id x = .ok (none, x1) := by
  intro rules
  induction rules with
  | nil => intro st w' _ id hid; simp at hid
  | cons r rs ih =>
    intro st w' h id hid
    unfold firstRule at h
    split at h
    · simp at h
    · simp at h
    · next s1 he =>
      rcases List.mem_cons.mp hid with rfl | hid
      · exact ⟨st, s1, .here _ _ _, he⟩
      · obtain ⟨x, x1, hA, hx⟩ := ih s1 w' h id hid
        exact ⟨x, x1, .next he hA, hx⟩

/-- … and what every declining call keeps holds of the state the chain returns -/
theorem firstRule_none_keeps {run : RuleId → IState → RuleRes} {I : IState → Prop} :
    ∀ (rules : List RuleId) (st w' : IState), firstRule run rules st = .ok (none, w') →
      (∀ id ∈ rules, ∀ s s1, I s → run id s = .ok (none, s1) → I s1) → I st → I w' := by
  intro rules
  induction rules with
  | nil => intro st w' h _ h0; cases h; exact h0
  | cons r rs ih =>
    intro st w' h hstep h0
    unfold firstRule at h
    split at h
    · simp at h
    · simp at h
    · next s1 he =>
      exact ih s1 w' h (fun id hid => hstep id (List.mem_cons_of_mem _ hid))
        (hstep r List.mem_cons_self _ _ h0 he)

/-- inside its frame a state has a non-empty window -/
theorem window_cons_of_lt {st : IState} (hi : LInv st) (hlt : st.pos < st.posMax) :
    ∃ c rest, st.window = .ok (c :: rest) ∧ InlineOps.slice st.src st.pos st.posMax = .ok (c :: rest) := by
  obtain ⟨wd, hw, hsl, hlen⟩ := hi.window
  cases wd with
  | nil =>
    rw [← hlen] at hlt
    exact absurd hlt (Nat.lt_irrefl _)
  | cons c rest => exact ⟨c, rest, hw, hsl⟩

end MdIt.Inline.ES.C16Doc

namespace MdIt.Inline
open MdIt.Inline.ES.C16Doc (Arrives firstRule_some_arrives firstRule_none_arrives window_cons_of_lt)
open MdIt.InlineOps (Srcmap getSourcePosFor getMap byteLen slice)

/-! ## the token behind a memo entry -/

/-- the states the look-ahead chain arrives at: same text, position, `pos_max` -/
theorem arrives_silent {cfg : Cfg} {skip tok : IState → Except Panic IState} (hq : CalmFn skip)
    (hs : SkipHypT skip) (fuel : Nat) {rules : List RuleId} {st : IState} (hi : LInv st)
    (hlt : st.pos < st.posMax) {id : RuleId} {x : IState}
    (hA : Arrives (fun id s => silentBumped (runRule cfg skip tok fuel id) s) rules st id x) :
    LInv x ∧ x.src = st.src ∧ x.posMax = st.posMax ∧ x.pos = st.pos :=
  hA.inv (I := fun x => LInv x ∧ x.src = st.src ∧ x.posMax = st.posMax ∧ x.pos = st.pos)
    (fun id0 _ s s1 ⟨a, b, c, d⟩ h =>
      have ⟨a1, b1, c1, d1⟩ := wit_step hq hs fuel id0 a (by rw [d, c]; exact hlt) h
      ⟨a1, b1.trans b, c1.trans c, d1.trans d⟩)
    ⟨hi, rfl, rfl, rfl⟩

/-- a look-ahead call of a rule of the chain at a state at `k` under the top `pos_max`; the memo `m`
    extends the memo of a call that answered -/
structure CallAt (cfg : Cfg) (src : List Char) (Mtop k : Nat) (m : List (Nat × Nat)) (id : RuleId)
    (o : Option Nat) : Prop where
  call : ∃ (skip tok : IState → Except Panic IState) (fuel : Nat) (s s1 : IState), CalmFn skip ∧
    SkipHypT skip ∧ SkipGrowHyp skip ∧ LInv s ∧ s.src = src ∧ s.posMax = Mtop ∧ s.pos = k ∧
    runRule cfg skip tok fuel id s true = .ok (o, s1) ∧ (o ≠ none → LookupMono s1.cache m)

/-- **the token behind a memo entry** `k ↦ v`: a rule of the chain answered `n` at `k` and `v = k + n`, or
    every rule of the chain declined at `k` and `v` is the end of the character at `k` -/
theorem just_token {cfg : Cfg} {B : List Char → CodePair.Cache → Prop} {src : List Char} {Mtop : Nat}
    {m : List (Nat × Nat)} {k v : Nat} (hJ : Just cfg B src Mtop m k v) :
    k < Mtop ∧
    ((∃ id ∈ cfg.chain, ∃ n, CallAt cfg src Mtop k m id (some n) ∧ v = k + n) ∨
     (∃ c rest, slice src k Mtop = .ok (c :: rest) ∧ v = k + c.utf8Size ∧
       ∀ id ∈ cfg.chain, CallAt cfg src Mtop k m id none)) := by
  obtain ⟨skip0, tok0, f0, st0, st0', hq0, hs0, hg0, hi0, hsrc0, hmax0, hpos0, hlt0, _, hmiss, hstep, hv,
    hmono⟩ := hJ
  obtain ⟨c, rest, _, hsl⟩ := window_cons_of_lt hi0 hlt0
  rw [hsrc0, hpos0, hmax0] at hsl
  obtain ⟨o0, w', hfr, hmw, hnone, hsome⟩ :=
    skipStep_chain hq0 hs0 hg0 hi0 hsrc0 hmax0 hpos0 hlt0 hmiss hstep hv hmono hsl
  -- a call the chain arrives at, with the bumped state exposed
  have call : ∀ {id x o x1}, Arrives (fun id s => silentBumped (runRule cfg skip0 tok0 f0 id) s)
      cfg.chain st0 id x → silentBumped (runRule cfg skip0 tok0 f0 id) x = .ok (o, x1) →
      (o ≠ none → x1 = w') → CallAt cfg src Mtop k m id o := by
    intro id x o x1 hA hx hw
    obtain ⟨a, b, c, d⟩ := arrives_silent hq0 hs0 f0 hi0 hlt0 hA
    obtain ⟨wb, hwb, e⟩ := silentBumped_ok hx
    exact ⟨skip0, tok0, f0, _, wb, hq0, hs0, hg0, a.bump, b.trans hsrc0, c.trans hmax0, d.trans hpos0,
      hwb, fun ho => by rw [← hw ho, e] at hmw; exact hmw⟩
  refine ⟨by rw [← hpos0, ← hmax0]; exact hlt0, ?_⟩
  cases o0 with
  | some n =>
    obtain ⟨id, x, hA, hx⟩ := firstRule_some_arrives _ _ _ _ hfr
    exact .inl ⟨id, hA.mem, n, call hA hx (fun _ => rfl), hsome n rfl⟩
  | none =>
    refine .inr ⟨c, rest, hsl, hnone rfl, fun id hid => ?_⟩
    obtain ⟨x, x1, hA, hx⟩ := firstRule_none_arrives _ _ _ hfr id hid
    exact call hA hx (fun h => absurd rfl h)

/-- **the entry at a character at which no rule of the chain fires is the single character** -/
theorem just_unit {cfg : Cfg} {B : List Char → CodePair.Cache → Prop} {src : List Char} {Mtop : Nat}
    {m : List (Nat × Nat)} {k v : Nat} (hJ : Just cfg B src Mtop m k v) {c : Char} {rest : List Char}
    (hsl : slice src k Mtop = .ok (c :: rest)) (hfire : ∀ id ∈ cfg.chain, id.firesAt c = false) :
    v = k + c.utf8Size := by
  obtain ⟨_, ⟨id, hid, n, ⟨skip, tok, fuel, s, s1, _, _, _, _, hsrc, hmax, hpos, hcall, _⟩, _⟩ |
    ⟨c', rest', hsl', hk, _⟩⟩ := just_token hJ
  · have hw : s.window = .ok (c :: rest) := by
      unfold IState.window; rw [hsrc, hpos, hmax, hsl]; rfl
    exact absurd (silent_declines hw (hfire id hid) _ _ hcall) (by simp)
  · rw [hsl] at hsl'
    cases hsl'
    exact hk

/-! ## a real delimiter run covers single-character look-ahead tokens -/

/-- on a label walk over the memo, at a marker of a coherent chain: the entry is the single character, and
    the walk goes on behind it -/
theorem outer_marker_step {cfg : Cfg} {B : List Char → CodePair.Cache → Prop} {src : List Char}
    {Mtop : Nat} (hcoh : ChainCoherent cfg = true) {m : List (Nat × Nat)}
    (hctx : NCtx cfg B src Mtop m) {le : Nat} (hle : le < Mtop) {ch : Char}
    (hmk : ∃ csw, RuleId.emph ch csw ∈ cfg.chain) {p : Nat} (hO : Outer src Mtop m le p 1)
    (hp : p < le) {r : List Char} (hr : slice src p le = .ok (ch :: r)) :
    m.lookup p = some (p + 1) ∧ Outer src Mtop m le (p + 1) 1 := by
  obtain ⟨ch', rest', v', hsl, hlk, hkv, hvle, hOv, _⟩ :=
    outer_step (fun a b h => (hctx.memo a b h).1) hO hp
  have hch : ch' = ch := by
    obtain ⟨r2, hr2⟩ := slice_head_shrink hsl (slice_boundaries hr).2.1 (by omega)
    rw [hr] at hr2
    simp only [Except.ok.injEq, List.cons.injEq] at hr2
    exact hr2.1.symm
  subst hch
  -- the witness of the entry at `p` made the single-character step
  rcases hctx.just _ _ (lookup_mem hlk) with hv | hJ
  · omega
  · obtain ⟨csw, hcsw⟩ := hmk
    obtain ⟨hsz, hfire⟩ := coherent_marker hcoh hcsw
    have hv' : v' = p + 1 := by rw [just_unit hJ hsl hfire, hsz]
    rw [← hv']
    exact ⟨hlk, hOv⟩

theorem outer_marker_run {cfg : Cfg} {B : List Char → CodePair.Cache → Prop} {src : List Char}
    {Mtop : Nat} (hcoh : ChainCoherent cfg = true) {m : List (Nat × Nat)}
    (hctx : NCtx cfg B src Mtop m) {le : Nat} (hle : le < Mtop) {ch : Char}
    (hmk : ∃ csw, RuleId.emph ch csw ∈ cfg.chain) {k : Nat} :
    ∀ n, Outer src Mtop m le k 1 → k + n ≤ le →
      (∀ i, i < n → ∃ r, slice src (k + i) le = .ok (ch :: r)) → Outer src Mtop m le (k + n) 1 := by
  intro n
  induction n with
  | zero => intro h _ _; exact h
  | succ n ih =>
    intro hO hn hall
    obtain ⟨r, hr⟩ := hall n (by omega)
    exact (outer_marker_step hcoh hctx hle hmk (ih hO (by omega) (fun i hi => hall i (by omega)))
      (by omega) hr).2

end MdIt.Inline
