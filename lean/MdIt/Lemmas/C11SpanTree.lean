/-
  C11, code SPANS, whole documents: ONE theorem for a code span anywhere in a paragraph, anywhere in the tree.

  The paragraphs the property files speak of form a chain
      `SpanLine ⊂ RawLine ⊂ SpanLines ⊂ MidLines`
  (the padded span on one line ⊂ any span on one line ⊂ a span over several lines ⊂ further paragraph lines in front of
  the opening line and behind the closing one: `SpanLine.toRaw`, `RawLine.toLines`, `SpanLines.toMid`), and "top level"
  is the wrapper stack `[]` — where C06's restrictions (tab-free, below 2 GiB) are not needed: `Nested`.
  `doc_span_tree` / `doc_span_html` compose the three columns once: the block pass (`blocks_para`:
  `Block.parseBlocks_lines` at top level, `C11N.wrapAll_commutes` inside wrappers), the inline parser and the core chain
  with the renderer (`parseDoc_of_blocks_lines`, `renderDoc_of_blocks_lines`, Lemmas/C11SpanDoc.lean).  The theorems of
  Props/C11Span, C11SpanMulti, C11SpanCtx are their instances; the ranges come through `trOf`, which is the identity at
  top level (`trOf_top`) and `widthAll w + ·` for a paragraph of one line (`trOf_one`).
-/
import MdIt.Lemmas.C11SpanDoc
import MdIt.Lemmas.C11SpanCtxTable

namespace MdIt.C11N
open MdIt.Block MdIt.Block.Li MdIt.Pipeline
open MdIt.Lines (NoTerm lead)
open MdIt.C11S (spanOf PlainTxt textNodes codeNode QuietTick)

/-- the hypotheses on the one-line paragraph `pre ++ spanOf k T ++ post` -/
structure SpanLine (pre T post : List Char) (k : Nat) : Prop where
  /-- `pre` starts with a character no block rule but `paragraph` claims -/
  first : ∃ c r, pre = c :: r ∧ ParaFirst c
  /-- `pre`, `post`: no character of the text rule's stop set, no CR -/
  plainPre : PlainTxt pre
  plainPost : PlainTxt post
  preCR : '\r' ∉ pre
  postCR : '\r' ∉ post
  /-- the line does not end with a blank -/
  postEnd : ∀ c ∈ post.getLast?, Inline.isSpTab c = false
  /-- `T`: not empty, no line terminator, no run of `k + 1` backticks -/
  ne : T ≠ []
  line : NoTerm T
  runs : ¬ List.replicate (k + 1) '`' <:+: T

theorem normalise_line {T : List Char} (h : NoTerm T) : CodePair.normalise T = T := by
  unfold CodePair.normalise
  conv => rhs; rw [← List.map_id T]
  exact List.map_congr_left (fun c hc => by simp [(h c hc).1])

theorem noTerm_append {a b : List Char} (ha : NoTerm a) (hb : NoTerm b) : NoTerm (a ++ b) := by
  intro c hc
  rcases List.mem_append.mp hc with h | h
  · exact ha c h
  · exact hb c h

theorem noTerm_plain {s : List Char} (h : PlainTxt s) (hcr : '\r' ∉ s) : NoTerm s := by
  intro c hc
  refine ⟨?_, ?_⟩
  · rintro rfl; exact h _ hc (by decide)
  · rintro rfl; exact hcr hc

end MdIt.C11N

namespace MdIt.C11M
open MdIt.Block MdIt.Block.Li MdIt.Pipeline MdIt.C11N
open MdIt.Lines (NoTerm lead)
open MdIt.C11S (PlainTxt QuietTick)

/-- the hypotheses on the one-line paragraph `pre ++ `ᵏ⁺¹ R `ᵏ⁺¹ ++ post` -/
structure RawLine (pre R post : List Char) (k : Nat) : Prop where
  /-- `pre` starts with a character no block rule but `paragraph` claims -/
  first : ∃ c r, pre = c :: r ∧ ParaFirst c
  /-- `pre`, `post`: no character of the text rule's stop set, no CR -/
  plainPre : PlainTxt pre
  plainPost : PlainTxt post
  preCR : '\r' ∉ pre
  postCR : '\r' ∉ post
  /-- the line does not end with a blank -/
  postEnd : ∀ c ∈ post.getLast?, Inline.isSpTab c = false
  /-- `R`: not empty, no backtick at either end, no run of `k + 1` backticks -/
  raw : CodePair.RawOk '`' k R
  /-- no line terminator in `R` -/
  line : NoTerm R

theorem noTerm_ticks (k : Nat) : NoTerm (ticks k) := by
  intro c hc
  rw [(List.mem_replicate.mp hc).2]
  decide

theorem noTerm_rawSpan (k : Nat) {R : List Char} (h : NoTerm R) : NoTerm (rawSpan k R) :=
  noTerm_append (noTerm_append (noTerm_ticks k) h) (noTerm_ticks k)

theorem getLast?_rawSpan (a : List Char) (k : Nat) (R : List Char) : (a ++ rawSpan k R).getLast? = some '`' := by
  simp only [rawSpan, ticks, List.replicate_succ', ← List.append_assoc]
  exact List.getLast?_concat

theorem trim_of_ends (pre S post : List Char) (c : Char) (r : List Char) (hpre : pre = c :: r) (hpf : ParaFirst c)
    (hS : ∀ a : List Char, (a ++ S).getLast? = some '`')
    (hend : ∀ d ∈ post.getLast?, Inline.isSpTab d = false) :
    Inline.trimSrc (pre ++ S ++ post) = (0, InlineOps.byteLen (pre ++ S ++ post)) := by
  have hlast : ∃ d, (pre ++ S ++ post).getLast? = some d ∧ Inline.isSpTab d = false := by
    rcases List.eq_nil_or_concat post with hp | ⟨i, d, hp⟩
    · subst hp
      exact ⟨'`', by rw [List.append_nil]; exact hS pre, by decide⟩
    · refine ⟨d, ?_, hend d (by rw [hp]; simp)⟩
      rw [hp]; simp
  obtain ⟨d, hd, hdb⟩ := hlast
  exact C11S.trimSrc_ends _ c d (r ++ S ++ post) (by simp [hpre]) hd (by simp [Inline.isSpTab, hpf.1, hpf.2.1]) hdb

section line
variable {pre R post : List Char} {k : Nat} (h : RawLine pre R post k)
include h

theorem RawLine.noTerm : NoTerm (pre ++ rawSpan k R ++ post) :=
  noTerm_append (noTerm_append (noTerm_plain h.plainPre h.preCR) (noTerm_rawSpan k h.line))
    (noTerm_plain h.plainPost h.postCR)

theorem RawLine.cons : ∃ c r, pre ++ rawSpan k R ++ post = c :: r ∧ ParaFirst c ∧ c ∈ pre ++ rawSpan k R ++ post := by
  obtain ⟨c, r, hp, hc⟩ := h.first
  exact ⟨c, r ++ rawSpan k R ++ post, by simp [hp], hc, by simp [hp]⟩

end line

/-- the lines `Ls` form ONE top-level paragraph, and that paragraph reads `pre ++ `ᵏ⁺¹ R `ᵏ⁺¹ ++ post`: `pre`, `post`
    plain text (so they hold no line feed: the span opens on the first line and closes on the last) -/
structure SpanLines (Ls : List (List Char)) (pre R post : List Char) (k : Nat) : Prop where
  /-- the first line starts with a character no block rule but `paragraph` claims -/
  first : ∃ c r rest, Ls = (c :: r) :: rest ∧ ParaFirst c
  /-- the lines are lines: no LF, no CR inside -/
  noTerm : ∀ l ∈ Ls, NoTerm l
  /-- every further line continues the paragraph (`ContLine`: not blank; indented by 4 or more columns, or starting
      — behind its indentation — with a `ParaFirst` character and not a setext underline) -/
  cont : ∀ l ∈ Ls.tail, ContLine l
  /-- the text of the paragraph -/
  doc : docOf Ls = pre ++ rawSpan k R ++ post
  plainPre : PlainTxt pre
  plainPost : PlainTxt post
  /-- the last line does not end with a blank -/
  postEnd : ∀ c ∈ post.getLast?, Inline.isSpTab c = false
  /-- `R` (line feeds allowed): not empty, no backtick at either end, no run of `k + 1` backticks -/
  raw : CodePair.RawOk '`' k R

theorem docOf_cons_cons (c : Char) (r : List Char) (rest : List (List Char)) :
    ∃ t, docOf ((c :: r) :: rest) = c :: t := by
  cases rest with
  | nil => exact ⟨r, by simp [docOf, Lines.joinLines]⟩
  | cons y ys => exact ⟨_, by simp only [docOf, Lines.joinLines, List.cons_append]; rfl⟩

/-- the text of a paragraph whose first line starts with a `ParaFirst` character begins with that character (the
    span does not: it starts with a backtick), so `InlineState::new` trims nothing -/
theorem trim_of_doc {Ls : List (List Char)} {pre R post : List Char} {k : Nat}
    (hfirst : ∃ c r rest, Ls = (c :: r) :: rest ∧ ParaFirst c) (hdoc : docOf Ls = pre ++ rawSpan k R ++ post)
    (hend : ∀ c ∈ post.getLast?, Inline.isSpTab c = false) :
    Inline.trimSrc (pre ++ rawSpan k R ++ post) = (0, InlineOps.byteLen (pre ++ rawSpan k R ++ post)) := by
  obtain ⟨c, r, rest, hL, hc⟩ := hfirst
  obtain ⟨t, ht⟩ := docOf_cons_cons c r rest
  rw [hL, ht] at hdoc
  cases hp : pre with
  | nil =>
    obtain ⟨r0, hr0⟩ := rawSpan_head k R
    rw [hp, hr0] at hdoc
    simp only [List.nil_append, List.cons_append, List.cons.injEq] at hdoc
    exact absurd hdoc.1 hc.2.2.1
  | cons d t' =>
    rw [hp] at hdoc
    simp only [List.cons_append, List.cons.injEq] at hdoc
    exact trim_of_ends (d :: t') _ post d t' rfl (hdoc.1 ▸ hc) (fun a => getLast?_rawSpan a k R) hend

theorem SpanLines.ne {Ls : List (List Char)} {pre R post : List Char} {k : Nat} (h : SpanLines Ls pre R post k) : Ls ≠ [] := by
  obtain ⟨c, r, rest, hL, -⟩ := h.first
  rw [hL]; simp

theorem SpanLines.trim {Ls : List (List Char)} {pre R post : List Char} {k : Nat} (h : SpanLines Ls pre R post k) :
    Inline.trimSrc (pre ++ rawSpan k R ++ post) = (0, InlineOps.byteLen (pre ++ rawSpan k R ++ post)) :=
  trim_of_doc h.first h.doc h.postEnd

end MdIt.C11M

namespace MdIt.C11X
open MdIt.Block MdIt.Block.Li MdIt.Pipeline MdIt.C11N MdIt.C11M
open MdIt.Lines (NoTerm lead)
open MdIt.Render (Event piece piecesFrom flatten solAfter attrsStr escapeHtml)
open MdIt.NodeRender (aSourcepos tP tCode tBlockquote tUl tOl tLi olAttrs)
open MdIt.C11S (PlainTxt QuietTick spanOf)

/-- the lines `Ls` form ONE top-level paragraph, and that paragraph reads
    `A₁ ⏎ … ⏎ A_a ++ `ᵏ⁺¹ R `ᵏ⁺¹ ++ B₁ ⏎ … ⏎ B_b` (`As`, `Bs` the pieces): plain pieces, soft line breaks between them -/
structure MidLines (Ls As : List (List Char)) (R : List Char) (Bs : List (List Char)) (k : Nat) : Prop where
  /-- the first line starts with a character no block rule but `paragraph` claims -/
  first : ∃ c r rest, Ls = (c :: r) :: rest ∧ ParaFirst c
  noTerm : ∀ l ∈ Ls, NoTerm l
  /-- every further line continues the paragraph -/
  cont : ∀ l ∈ Ls.tail, ContLine l
  /-- the text of the paragraph -/
  doc : docOf Ls = docOf As ++ rawSpan k R ++ docOf Bs
  neA : As ≠ []
  neB : Bs ≠ []
  /-- the pieces are plain text (no character of the text rule's stop set); no piece in front of a line feed ends
      with a space (no hard break, nothing to pop), nothing behind a line feed starts with a blank -/
  softA : SoftOk As ['`']
  softB : SoftOk Bs []
  /-- no empty piece between two line feeds (implied by `cont`: a paragraph has no empty line; asked for directly
      — it is what the serializer needs: a `cr` at the start of a line appends nothing) -/
  outA : OutOk false As
  outB : OutOk false Bs
  /-- the last line does not end with a blank -/
  postEnd : ∀ c ∈ (docOf Bs).getLast?, Inline.isSpTab c = false
  /-- `R` (line feeds allowed): not empty, no backtick at either end, no run of `k + 1` backticks -/
  raw : CodePair.RawOk '`' k R

theorem MidLines.trim {Ls As Bs : List (List Char)} {R : List Char} {k : Nat} (h : MidLines Ls As R Bs k) :
    Inline.trimSrc (docOf As ++ rawSpan k R ++ docOf Bs) =
      (0, InlineOps.byteLen (docOf As ++ rawSpan k R ++ docOf Bs)) :=
  trim_of_doc h.first h.doc h.postEnd

theorem _root_.MdIt.C11M.SpanLines.toMid {Ls : List (List Char)} {pre R post : List Char} {k : Nat}
    (h : SpanLines Ls pre R post k) : MidLines Ls [pre] R [post] k :=
  ⟨h.first, h.noTerm, h.cont, by rw [docOf_one, docOf_one]; exact h.doc, by simp, by simp, h.plainPre, h.plainPost,
    fun e => h.plainPre _ e lf_stop, fun e => h.plainPost _ e lf_stop, by rw [docOf_one]; exact h.postEnd, h.raw⟩

theorem _root_.MdIt.C11M.RawLine.toLines {pre R post : List Char} {k : Nat} (h : RawLine pre R post k) :
    SpanLines [pre ++ rawSpan k R ++ post] pre R post k := by
  obtain ⟨c, r, hc, hpf, _⟩ := h.cons
  exact ⟨⟨c, r, [], by rw [hc], hpf⟩, by simpa using h.noTerm, by simp, docOf_one _, h.plainPre, h.plainPost, h.postEnd,
    h.raw⟩

theorem _root_.MdIt.C11N.SpanLine.toRaw {pre T post : List Char} {k : Nat} (h : SpanLine pre T post k) :
    RawLine pre (' ' :: T ++ [' ']) post k :=
  ⟨h.first, h.plainPre, h.plainPost, h.preCR, h.postCR, h.postEnd, C11S.rawOk_padded h.runs, by
    intro c hc
    simp only [List.cons_append, List.mem_cons, List.mem_append, List.mem_nil_iff, or_false] at hc
    rcases hc with rfl | hc | rfl
    · decide
    · exact h.line c hc
    · decide⟩

/-- the conditions on the wrappers `w` around the lines `Ls`: markers the rules recognise, the chain condition of C06,
    enough levels of nesting; and — only if there IS a wrapper — tab-free lines and a source below 2 GiB -/
structure Nested (cfg : DocCfg) (w : List Wrapper) (Ls : List (List Char)) : Prop where
  ok : ∀ x ∈ w, x.Ok
  chain : ChainFor cfg.blockChain w
  depth : depthCost w < cfg.maxNesting
  inside : w ≠ [] → (∀ l ∈ Ls, '\t' ∉ l) ∧ Lines.byteLen (wrapAll w (docOf Ls)) + 20 < 2147483648

theorem Nested.top {cfg : DocCfg} (hmn : 0 < cfg.maxNesting) (Ls : List (List Char)) : Nested cfg [] Ls :=
  ⟨by simp, ⟨by simp, by simp⟩, hmn, fun h => absurd rfl h⟩

/-- **the block pass, any paragraph**: `Ls` the lines of ONE top-level paragraph (first character `ParaFirst`, every
    further line `ContLine`), tab-free: inside the wrappers `w` the block tree is the wrapper nodes around that
    paragraph (around the bare placeholder when the innermost wrapper is a list item); the inline text is
    `docOf Ls` — no prefix in it —, the table has one entry per line -/
theorem blocks_nested_para (cfg : DocCfg) (Ls : List (List Char)) (htab : ∀ l ∈ Ls, '\t' ∉ l)
    (bpre bpost : List Block.RuleId) (hbc : cfg.blockChain = bpre ++ .paragraph :: bpost) (hbp : .paragraph ∉ bpre)
    (w : List Wrapper) (hw : ∀ x ∈ w, x.Ok) (hch : ChainFor cfg.blockChain w)
    (hmn : depthCost w < cfg.maxNesting)
    (hsize : Lines.byteLen (wrapAll w (docOf Ls)) + 20 < 2147483648)
    (hfirst : ∃ c r rest, Ls = (c :: r) :: rest ∧ ParaFirst c) (hnt : ∀ l ∈ Ls, NoTerm l)
    (hcont : ∀ l ∈ Ls.tail, ContLine l) :
    parseBlocks cfg.blockCfg (wrapAll w (docOf Ls)) =
      .ok (⟨.root, some (0, Lines.byteLen (wrapAll w (docOf Ls))),
        wrapForest (Lines.byteLen (wrapAll w (docOf Ls))) w 0
          (paraLeaf (docOf Ls) (lineTable Ls (wrapAllLines w Ls)) 0 (widthAll w)
            (Lines.byteLen (wrapAll w (docOf Ls))) (tightOf w))⟩, []) := by
  obtain ⟨c, r, rest, hL, hpf⟩ := hfirst
  have g : Good Ls := by
    refine ⟨by rw [hL]; simp, hnt, ?_, htab⟩
    intro hl
    have hm := List.mem_of_getLast? hl
    rw [hL] at hm
    rcases List.mem_cons.mp hm with e | hm'
    · cases e
    · have : [] ∈ Ls.tail := by rw [hL]; exact hm'
      exact Block.contLine_ne_nil (hcont _ this) rfl
  rw [wrapAll_docOf hw g] at hsize ⊢
  subst hL
  have hld := lead_nonblank_cons r hpf.notBlank
  have hf : FirstLineOk (c :: r) := ⟨by rw [hld.2]; simp, .inl (by rw [hld.1]; rfl)⟩
  have hmn' : 0 < ({ cfg.blockCfg with maxNesting := cfg.maxNesting - depthCost w } : Block.Cfg).maxNesting := by
    show 0 < cfg.maxNesting - depthCost w; omega
  have hbase := parseBlocks_lines hnt hpf hcont
    (cfg := { cfg.blockCfg with maxNesting := cfg.maxNesting - depthCost w }) hbc hbp hmn'
  have htight := fun t => tokenize_lines_tight hnt hpf hcont
    (cfg := { cfg.blockCfg with maxNesting := cfg.maxNesting - depthCost w }) hbc hbp hmn' t
  rw [idTable_eq] at hbase
  have := parseBlocks_para_nested_lines { cfg.blockCfg with maxNesting := cfg.maxNesting - depthCost w } hmn'
    (docOf ((c :: r) :: rest)) (starts 0 ((c :: r) :: rest)) 0 (c :: r) rest g hf (Nat.zero_le _) hbase htight w hw hch
    (fun _ => hrFree_of_mem (x := c) (by simp)
      hpf.notBreak w) hsize
  rw [blockCfg_nest cfg _ hmn] at this
  exact this


theorem blocks_para (cfg : DocCfg) (Ls : List (List Char))
    (hfirst : ∃ c r rest, Ls = (c :: r) :: rest ∧ ParaFirst c) (hnt : ∀ l ∈ Ls, NoTerm l)
    (hcont : ∀ l ∈ Ls.tail, ContLine l)
    (bpre bpost : List Block.RuleId) (hbc : cfg.blockChain = bpre ++ .paragraph :: bpost) (hbp : .paragraph ∉ bpre)
    (w : List Wrapper) (hn : Nested cfg w Ls) :
    parseBlocks cfg.blockCfg (wrapAll w (docOf Ls)) =
      .ok (⟨.root, some (0, Lines.byteLen (wrapAll w (docOf Ls))),
        wrapForest (Lines.byteLen (wrapAll w (docOf Ls))) w 0
          (paraLeaf (docOf Ls) (lineTable Ls (wrapAllLines w Ls)) 0 (widthAll w)
            (Lines.byteLen (wrapAll w (docOf Ls))) (tightOf w))⟩, []) := by
  cases w with
  | nil =>
    obtain ⟨c, r, rest, rfl, hc⟩ := hfirst
    have := parseBlocks_lines hnt hc hcont (cfg := cfg.blockCfg) hbc hbp hn.depth
    simpa [wrapAll, wrapAllLines, wrapForest, paraLeaf, tightOf, inlineRootAt, map_add_zero, widthAll, idTable_eq] using this
  | cons x ws =>
    obtain ⟨htab, hsize⟩ := hn.inside (by simp)
    exact blocks_nested_para cfg Ls htab bpre bpost hbc hbp _ hn.ok hn.chain hn.depth hsize hfirst hnt hcont

theorem table_mid {Ls As Bs : List (List Char)} {R : List Char} {k : Nat} (h : MidLines Ls As R Bs k) (w : List Wrapper)
    (a : Nat) :
    InlineOps.getSourcePosFor ((lineTable Ls (wrapAllLines w Ls)).map fun kv => (kv.1, kv.2 + widthAll w)) a =
      .ok (trOf (widthAll w) Ls (wrapAllLines w Ls) a) := by
  obtain ⟨c, r, rest, hL, _⟩ := h.first
  exact trOf_ok (wrapAllLines_length w Ls) (by rw [hL]; simp) a

section general
variable (cfg : DocCfg) (Ls As Bs : List (List Char)) (R : List Char) (k : Nat) (h : MidLines Ls As R Bs k)
  (c1 c2 : List Inline.RuleId) (hic : cfg.inlineChain = .text :: (c1 ++ .backticks :: c2))
  (hq : ∀ r ∈ c1, QuietTick r) (hnl : 2 ≤ As.length ∨ 2 ≤ Bs.length → ∃ c1', c1 = .newline :: c1')
  (bpre bpost : List Block.RuleId) (hbc : cfg.blockChain = bpre ++ .paragraph :: bpost) (hbp : .paragraph ∉ bpre)
  (w : List Wrapper) (hn : Nested cfg w Ls)
include h hic hq hnl hbc hbp hn

/-- **a code span anywhere in a paragraph, anywhere in the document tree: the tree.**  `Ls` the lines of ONE
    paragraph that reads `A₁ ⏎ … ⏎ A_a `ᵏ⁺¹ R `ᵏ⁺¹ B₁ ⏎ … ⏎ B_b` (`MidLines`), inside any wrappers `w` (`Nested`; `w = []`:
    top level); the inline chain reaches `backticks` through rules quiet at a backtick, `newline` directly behind
    `text` if there is a line feed outside the span. -/
theorem doc_span_tree :
    parseDoc cfg (wrapAll w (docOf Ls)) =
      .ok ⟨.blk .root, some (0, Lines.byteLen (wrapAll w (docOf Ls))),
        spAttrs cfg (wrapAll w (docOf Ls)) (0, Lines.byteLen (wrapAll w (docOf Ls))),
        wrapForestN (spAttrs cfg (wrapAll w (docOf Ls))) (Lines.byteLen (wrapAll w (docOf Ls))) w 0
          (spanLeaf (spAttrs cfg (wrapAll w (docOf Ls))) (widthAll w) (Lines.byteLen (wrapAll w (docOf Ls))) (tightOf w)
            (midNodes (spAttrs cfg (wrapAll w (docOf Ls))) (trOf (widthAll w) Ls (wrapAllLines w Ls)) k As R Bs))⟩ :=
  parseDoc_of_blocks_lines cfg _ As Bs R k h.neA h.neB h.softA h.softB h.raw h.trim c1 c2 hic hq hnl
    (by have := hn.depth; omega) w _ _ (lineTable Ls (wrapAllLines w Ls)) _ (table_mid h w)
    (by rw [← h.doc]; exact blocks_para cfg Ls h.first h.noTerm h.cont bpre bpost hbc hbp w hn)

theorem doc_span_html (x : Bool) :
    renderDoc x cfg (wrapAll w (docOf Ls)) =
      .ok (Render.replaceNul (spanHtmlA (spAttrs cfg (wrapAll w (docOf Ls))) (Lines.byteLen (wrapAll w (docOf Ls)))
        (openTag tP (spAttrs cfg (wrapAll w (docOf Ls)) (widthAll w, Lines.byteLen (wrapAll w (docOf Ls)))) ++
          inlHtml (spAttrs cfg (wrapAll w (docOf Ls))
              (spanRange (trOf (widthAll w) Ls (wrapAllLines w Ls)) k (docOf As) R))
            (docOf As) (spanContent R) (docOf Bs) ++ closeTag tP ++ ['\n'])
        (inlHtml (spAttrs cfg (wrapAll w (docOf Ls))
            (spanRange (trOf (widthAll w) Ls (wrapAllLines w Ls)) k (docOf As) R))
          (docOf As) (spanContent R) (docOf Bs)) w 0)) :=
  renderDoc_of_blocks_lines cfg _ As Bs R k h.neA h.neB h.softA h.softB h.outA h.outB h.raw h.trim c1 c2 hic hq hnl
    (by have := hn.depth; omega) w _ _ (lineTable Ls (wrapAllLines w Ls)) _ (table_mid h w)
    (by rw [← h.doc]; exact blocks_para cfg Ls h.first h.noTerm h.cont bpre bpost hbc hbp w hn) x

end general

theorem trOf_top {Ls : List (List Char)} (hne : Ls ≠ []) : trOf (widthAll []) Ls (wrapAllLines [] Ls) = fun a => a := by
  funext a
  obtain ⟨l, r, rfl⟩ : ∃ l r, Ls = l :: r := by
    cases Ls with
    | nil => exact absurd rfl hne
    | cons l r => exact ⟨l, r, rfl⟩
  have := idTable_translate l r a
  rw [idTable_eq] at this
  simp [trOf, nestTable, widthAll, wrapAllLines, this]

theorem trOf_one (w : List Wrapper) (l : List Char) : trOf (widthAll w) [l] (wrapAllLines w [l]) = fun a => widthAll w + a := by
  funext a
  rw [wrapAllLines_single]
  simp [trOf, nestTable, lineTable, starts, C05I.single_translate]

end MdIt.C11X
