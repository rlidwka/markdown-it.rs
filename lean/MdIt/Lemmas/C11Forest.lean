/-
  C11 inside containers, DOCUMENT level: the core chain behind the block pass on a forest of wrapper nodes.

  The block tree of a document inside the wrappers `w` is `wrapForest w leaf` (`Lemmas/C11Wrap.lean`).  The splice walk,
  `FragmentsJoin` and `SyntaxPosRule` go through the wrapper nodes and act on the innermost children only
  (`splice_wrapForest`, `joinFix_wrapForestN`; `SyntaxPosRule` is a map on attributes, `mapAttrs_wrapForestN`), so the document tree is
  `wrapForestN w leaf'` (`afterBlocks_forest`) — whatever the leaf is: a code block (`Props/C11Nested.lean`), a
  paragraph with a code span (`Lemmas/C11SpanDoc.lean`).

  Second half, the way back to HTML, again for any leaf: the renderer's trait calls for the wrapper nodes
  (`Wrapper.events`, `wrapEvents`) and an algebra for the serializer on them — `out x sol evs`, what the calls `evs`
  append to a buffer whose last character is (`sol`) or is not a line feed; `Blocky x evs H`, a block of calls that
  appends `H` on a line of its own (`blocky_leaf`, `blocky_frame`, `blocky_wrapper`, `blocky_wrapEvents`,
  `serialize_blocky`); the HTML `Wrapper.html`, `wrapHtmlA`, `wrapHtml`; `NoNul`, so that the final NUL replacement
  passes through the tags (`nulStr_html`, `nulStr_wrapHtml`).
-/
import MdIt.Lemmas.C11Wrap
import MdIt.Lemmas.DocPasses

namespace MdIt.C11N
open MdIt.Block MdIt.Block.Li MdIt.Pipeline
open MdIt.NodeRender (aSourcepos)

/-- the wrapper's nodes (attributes `a`) around a list of children -/
def Wrapper.dnodeL (x : Wrapper) (a : List (List Char × List Char)) (r : Nat × Nat) (cs : List Node) : Node :=
  if x.isQuote then ⟨.blk x.kind, some r, a, cs⟩
  else ⟨.blk x.kind, some r, a, [⟨.blk .listItem, some r, a, cs⟩]⟩

/-- the document's wrapper nodes (all up to `E`, attributes `att range`) around the innermost children `leaf` -/
def wrapForestN (att : Nat × Nat → List (List Char × List Char)) (E : Nat) : List Wrapper → Nat → List Node → List Node
  | [], _, leaf => leaf
  | x :: ws, off, leaf => [x.dnodeL (att (off, E)) (off, E) (wrapForestN att E ws (off + x.width) leaf)]

theorem splice_wrapForest (icfg : Inline.Cfg) (E : Nat) (leaf : List BNode) (leaf' : List Node)
    (hleaf : spliceList icfg leaf = .ok leaf') :
    ∀ (ws : List Wrapper) (off : Nat),
      spliceList icfg (wrapForest E ws off leaf) = .ok (wrapForestN (fun _ => []) E ws off leaf')
  | [], _ => hleaf
  | x :: ws, off => by
    have ih := splice_wrapForest icfg E leaf leaf' hleaf ws (off + x.width)
    cases x <;>
      simp [wrapForest, wrapForestN, Wrapper.nodeL, Wrapper.dnodeL, Wrapper.isQuote, Wrapper.kind, spliceList,
        spliceNode, ih]

theorem joinFix_blk (c : Node) (bk : Block.Kind) (hk : c.kind = .blk bk) (hc : joinNode c = c) : JoinFix [c] := by
  refine ⟨?_, by simpa using hc⟩
  simp [fragmentsJoin, pass1, mergeAll, mergeLoop, markerToText, keep, Node.isText, hk]

theorem joinFix_dnodeL (x : Wrapper) (a : List (List Char × List Char)) (r : Nat × Nat) (cs : List Node)
    (h : JoinFix cs) : JoinFix [x.dnodeL a r cs] := by
  unfold Wrapper.dnodeL
  split
  · exact joinFix_blk _ x.kind rfl (joinNode_fix h.1 h.2)
  · have hi := joinFix_blk _ .listItem rfl (joinNode_fix (n := ⟨.blk .listItem, some r, a, cs⟩) h.1 h.2)
    exact joinFix_blk _ x.kind rfl (joinNode_fix hi.1 hi.2)

theorem joinFix_wrapForestN (att : Nat × Nat → List (List Char × List Char)) (E : Nat) (leaf : List Node)
    (hleaf : JoinFix leaf) : ∀ (ws : List Wrapper) (off : Nat), JoinFix (wrapForestN att E ws off leaf)
  | [], _ => hleaf
  | x :: ws, off => joinFix_dnodeL x _ _ _ (joinFix_wrapForestN att E leaf hleaf ws (off + x.width))

/-- the attributes `SyntaxPosRule` leaves (as `Pipeline.spAttrs` with the plugin on) -/
def spOn (src : List Char) (r : Nat × Nat) : List (List Char × List Char) :=
  [(aSourcepos, sourceposValue (SourceMap.specRange src r))]

theorem spAttrs_off {cfg : DocCfg} (h : cfg.sourcepos = false) (src : List Char) : spAttrs cfg src = fun _ => [] := by
  funext r; simp [spAttrs, h]

theorem spAttrs_on {cfg : DocCfg} (h : cfg.sourcepos = true) (src : List Char) : spAttrs cfg src = spOn src := by
  funext r; simp [spAttrs, h, spOn]

/-- what `SyntaxPosRule` makes of the attributes `a` of a node with range `r` -/
def spG (src : List Char) (r : Option (Nat × Nat)) (a : List (List Char × List Char)) : List (List Char × List Char) :=
  match r with
  | none => a
  | some r => a ++ spOn src r

theorem sourceposList_map (src : List Char) (cs : List Node) :
    sourceposList src (SourceMap.mkMarks src) cs = .ok (cs.map (mapAttrs (spG src))) := by
  rw [← mapAttrsList_eq_map]
  exact sourceposList_of_attrs (fun r a => by rw [sourceposAttrs_eq]; cases r <;> rfl) cs

theorem mapAttrs_wrapForestN (src : List Char) (E : Nat) (leaf : List Node) : ∀ (ws : List Wrapper) (off : Nat),
    (wrapForestN (fun _ => []) E ws off leaf).map (mapAttrs (spG src)) =
      wrapForestN (spOn src) E ws off (leaf.map (mapAttrs (spG src)))
  | [], _ => rfl
  | x :: ws, off => by
    have ih := mapAttrs_wrapForestN src E leaf ws (off + x.width)
    simp only [wrapForestN, Wrapper.dnodeL]
    split <;> simp [mapAttrs_eq, spG, ih]

/-- **the core chain behind the block pass** on `Root[forest]`: the splice walk (`hsp`), the join pass (identity,
    `hj`), `SyntaxPosRule` (`hs`) -/
theorem afterBlocks_forest (cfg : DocCfg) (src : List Char) (rg : Nat × Nat) (refs : Refs.RefMap)
    (bs : List BNode) (f0 f1 : List Node) (hsp : spliceList (cfg.inlineCfg refs) bs = .ok f0) (hj : JoinFix f0)
    (hoff : cfg.sourcepos = false → f1 = f0)
    (hon : cfg.sourcepos = true → f1 = f0.map (mapAttrs (spG src))) :
    afterBlocks cfg src ⟨.root, some rg, bs⟩ refs = .ok ⟨.blk .root, some rg, spAttrs cfg src rg, f1⟩ := by
  unfold afterBlocks
  rw [spliceNode, hsp]
  simp only [joinNode_fix (n := ⟨_, _, _, f0⟩) hj.1 hj.2, ite_self]
  cases hs : cfg.sourcepos with
  | false => simp [spAttrs, hs, hoff hs]
  | true => simp [spAttrs, hs, sourceposNode, sourceposAttrs_eq, hon hs, sourceposList_map]

/-! ## the renderer's calls for the wrapper nodes, and the serializer on them -/

open MdIt.Render (Event piece piecesFrom flatten solAfter attrsStr escapeHtml)
open MdIt.NodeRender (tPre tCode tBlockquote tUl tOl tLi olAttrs)

/-- the trait calls of the wrapper's nodes around the calls `inner` of the child -/
def Wrapper.events (x : Wrapper) (a : List (List Char × List Char)) (inner : List Event) : List Event :=
  match x with
  | .quote => [.cr, .open tBlockquote a, .cr] ++ inner ++ [.cr, .close tBlockquote, .cr]
  | .bullet _ => [.cr, .open tUl a, .cr] ++ ([.open tLi a] ++ inner ++ [.close tLi, .cr]) ++ [.cr, .close tUl, .cr]
  | .ordered ds _ =>
    [.cr, .open tOl (olAttrs a (ordValue ds)), .cr] ++ ([.open tLi a] ++ inner ++ [.close tLi, .cr]) ++
      [.cr, .close tOl, .cr]

def wrapEvents (att : Nat × Nat → List (List Char × List Char)) (E : Nat) (leaf : Nat → List Event) :
    List Wrapper → Nat → List Event
  | [], off => leaf off
  | x :: ws, off => x.events (att (off, E)) (wrapEvents att E leaf ws (off + x.width))

/-! ### the serializer on these calls -/

/-- what the serializer appends for `evs` when the buffer summary is `sol` -/
def out (x sol : Bool) (evs : List Event) : List Char := flatten (piecesFrom x sol evs)

theorem out_nil (x sol : Bool) : out x sol [] = [] := rfl

theorem out_cons (x sol : Bool) (e : Event) (r : List Event) :
    out x sol (e :: r) = piece x sol e ++ out x (solAfter sol (piece x sol e)) r := rfl

theorem out_append (x sol : Bool) (a b : List Event) :
    out x sol (a ++ b) = out x sol a ++ out x (solAfter sol (out x sol a)) b := by
  simp only [out, Render.piecesFrom_append, Render.flatten_append]

theorem solAfter_nil (s : Bool) : solAfter s [] = s := rfl

/-- a block of calls: whatever the buffer, it starts on a fresh line (`cr` first), appends `H`, and `H`
    ends with a line feed -/
structure Blocky (x : Bool) (evs : List Event) (H : List Char) : Prop where
  last : H.getLast? = some '\n'
  out : ∀ sol, out x sol evs = (if sol then [] else ['\n']) ++ H

theorem solAfter_of_last {s : Bool} {H : List Char} (h : H.getLast? = some '\n') : solAfter s H = true := by
  simp [solAfter, h]

theorem last_append {p q : List Char} {c : Char} (h : q.getLast? = some c) : (p ++ q).getLast? = some c := by
  simp [List.getLast?_append, h]

theorem sol_open (x s s' : Bool) (t : List Char) (a : List (List Char × List Char)) :
    solAfter s (piece x s' (.open t a)) = false := by
  simp only [piece]
  rw [show '<' :: (t ++ (attrsStr a ++ ['>'])) = ('<' :: (t ++ attrsStr a)) ++ ['>'] by simp, Render.solAfter_concat]
  decide

theorem sol_close (x s s' : Bool) (t : List Char) : solAfter s (piece x s' (.close t)) = false := by
  simp only [piece]
  rw [show '<' :: '/' :: (t ++ ['>']) = ('<' :: '/' :: t) ++ ['>'] by simp, Render.solAfter_concat]
  decide

theorem piece_cr (x sol : Bool) : piece x sol .cr = if sol then [] else ['\n'] := rfl

/-- `<pre><code ATTRS>`, the escaped content, `</code></pre>`, LF -/
def preCode (a : List (List Char × List Char)) (c : List Char) : List Char :=
  "<pre><code".toList ++ attrsStr a ++ ['>'] ++ escapeHtml c ++ "</code></pre>\n".toList

theorem blocky_leaf (x : Bool) (a : List (List Char × List Char)) (c : List Char) :
    Blocky x [.cr, .open tPre [], .open tCode a, .text c, .close tCode, .close tPre, .cr] (preCode a c) := by
  refine ⟨last_append (by simp), ?_⟩
  intro sol
  simp only [out_cons, out_nil, sol_open, sol_close]
  have e1 : ∀ s, piece x s (Event.open tPre []) = "<pre>".toList := by intro s; simp [piece, tPre, attrsStr]
  have e2 : ∀ s, piece x s (Event.open tCode a) = "<code".toList ++ attrsStr a ++ ['>'] := by intro s; simp [piece, tCode]
  have e3 : ∀ s, piece x s (Event.close tCode) = "</code>".toList := by intro s; simp [piece, tCode]
  have e4 : ∀ s, piece x s (Event.close tPre) = "</pre>".toList := by intro s; simp [piece, tPre]
  have e5 : ∀ s, piece x s (Event.text c) = escapeHtml c := fun _ => rfl
  rw [e1, e2, e3, e4, e5]
  unfold preCode
  cases sol
  · simp [piece]
  · simp [piece]

/-- the opening tag with its attributes -/
def openTag (t : List Char) (a : List (List Char × List Char)) : List Char := '<' :: (t ++ (attrsStr a ++ ['>']))
/-- the closing tag -/
def closeTag (t : List Char) : List Char := '<' :: '/' :: (t ++ ['>'])

theorem out_close_cr (x s : Bool) (t : List Char) : out x s [.close t, .cr] = closeTag t ++ ['\n'] := by
  simp only [out_cons, out_nil, sol_close, piece_cr, List.append_nil]
  simp [piece, closeTag]

/-- `cr; open t a; cr; evs; cr; close t; cr` around calls that, at the start of a line, append `H` (ending
    with a line feed) -/
theorem blocky_frame (x : Bool) (t : List Char) (a : List (List Char × List Char)) (evs : List Event) (H : List Char)
    (hl : H.getLast? = some '\n') (ho : out x true evs = H) :
    Blocky x ([.cr, .open t a, .cr] ++ evs ++ [.cr, .close t, .cr])
      (openTag t a ++ ['\n'] ++ H ++ closeTag t ++ ['\n']) := by
  refine ⟨List.getLast?_concat, ?_⟩
  intro sol
  have hpre : out x sol [.cr, .open t a, .cr] = ((if sol then [] else ['\n']) ++ openTag t a) ++ ['\n'] := by
    simp only [out_cons, out_nil, sol_open, piece_cr, List.append_nil]
    simp [piece, openTag]
  have hpost : out x true [.cr, .close t, .cr] = closeTag t ++ ['\n'] := by
    simp only [out_cons, out_nil, sol_close, piece_cr, List.append_nil]
    simp [piece, closeTag]
  rw [out_append, out_append, hpre, Render.solAfter_concat, show decide ('\n' = '\n') = true from rfl, ho,
    Render.solAfter_append, solAfter_of_last hl, hpost]
  simp [List.append_assoc]

/-- `open li a; evs; close li; cr` around a block of calls: at the start of a line it appends `<li a>`, a
    line feed (the child's `cr`), the child's output, `</li>`, a line feed -/
theorem out_item (x : Bool) (a : List (List Char × List Char)) (evs : List Event) (H : List Char)
    (hb : Blocky x evs H) :
    out x true ([.open tLi a] ++ evs ++ [.close tLi, .cr]) =
      openTag tLi a ++ ['\n'] ++ H ++ closeTag tLi ++ ['\n'] := by
  have e1 : out x true [.open tLi a] = openTag tLi a := by simp [out_cons, out_nil, piece, openTag]
  have h1 : solAfter true (openTag tLi a) = false := sol_open x true true tLi a
  rw [out_append, out_append, e1, h1, hb.out false, out_close_cr]
  simp [List.append_assoc]

/-- the HTML of one wrapper (attributes `a` on its nodes) around `inner` -/
def Wrapper.html (x : Wrapper) (a : List (List Char × List Char)) (inner : List Char) : List Char :=
  match x with
  | .quote => openTag tBlockquote a ++ ['\n'] ++ inner ++ closeTag tBlockquote ++ ['\n']
  | .bullet _ =>
    openTag tUl a ++ ['\n'] ++ (openTag tLi a ++ ['\n'] ++ inner ++ closeTag tLi ++ ['\n']) ++ closeTag tUl ++ ['\n']
  | .ordered ds _ =>
    openTag tOl (olAttrs a (ordValue ds)) ++ ['\n'] ++ (openTag tLi a ++ ['\n'] ++ inner ++ closeTag tLi ++ ['\n']) ++
      closeTag tOl ++ ['\n']

theorem blocky_wrapper (xh : Bool) (x : Wrapper) (a : List (List Char × List Char)) (evs : List Event) (H : List Char)
    (hb : Blocky xh evs H) : Blocky xh (x.events a evs) (x.html a H) := by
  cases x with
  | quote => exact blocky_frame xh tBlockquote a evs H hb.last (by rw [hb.out true]; rfl)
  | bullet c => exact blocky_frame xh tUl a _ _ (List.getLast?_concat) (out_item xh a evs H hb)
  | ordered ds dl =>
    exact blocky_frame xh tOl (olAttrs a (ordValue ds)) _ _ (List.getLast?_concat) (out_item xh a evs H hb)

/-- the HTML of the wrapped document: the wrappers' tags (attributes `att range`) around the leaf's -/
def wrapHtmlA (att : Nat × Nat → List (List Char × List Char)) (E : Nat) (leaf : Nat → List Char) :
    List Wrapper → Nat → List Char
  | [], off => leaf off
  | x :: ws, off => x.html (att (off, E)) (wrapHtmlA att E leaf ws (off + x.width))

theorem blocky_wrapEvents (xh : Bool) (att : Nat × Nat → List (List Char × List Char)) (E : Nat)
    (leafE : Nat → List Event) (leafH : Nat → List Char) (hleaf : ∀ off, Blocky xh (leafE off) (leafH off)) :
    ∀ (ws : List Wrapper) (off : Nat), Blocky xh (wrapEvents att E leafE ws off) (wrapHtmlA att E leafH ws off)
  | [], off => hleaf off
  | x :: ws, off => blocky_wrapper xh x _ _ _ (blocky_wrapEvents xh att E leafE leafH hleaf ws (off + x.width))

theorem serialize_blocky {x : Bool} {evs : List Event} {H : List Char} (h : Blocky x evs H) :
    Render.serialize x evs = Render.replaceNul H := by
  rw [Render.serialize_events]
  have := h.out true
  simp only [out, if_true, List.nil_append] at this
  rw [Render.pieces, this]


/-! ### the plain HTML (no `sourcepos` plugin) -/

/-- the wrappers' HTML around `inner`, outermost first, no node attributes: `x.html []` is
    `<blockquote>` LF `inner` `</blockquote>` LF for a quote, `<ul>` LF `<li>` LF `inner` `</li>` LF `</ul>` LF for
    a bullet item, the same with `<ol>` — `<ol start="N">` when the number is not 1 — for an ordered one
    (examples: `Props/C11Nested.lean`, section 7) -/
def wrapHtml : List Wrapper → List Char → List Char
  | [], inner => inner
  | x :: ws, inner => x.html [] (wrapHtml ws inner)

theorem wrapHtmlA_nil (E : Nat) (leaf : List Char) : ∀ (ws : List Wrapper) (off : Nat),
    wrapHtmlA (fun _ => []) E (fun _ => leaf) ws off = wrapHtml ws leaf
  | [], _ => rfl
  | x :: ws, off => by simp only [wrapHtmlA, wrapHtml, wrapHtmlA_nil E leaf ws]

def NoNul (s : List Char) : Prop := ∀ c ∈ s, c ≠ '\x00'

theorem NoNul.append {a b : List Char} (ha : NoNul a) (hb : NoNul b) : NoNul (a ++ b) := by
  intro c hc
  rcases List.mem_append.mp hc with h | h
  · exact ha c h
  · exact hb c h

theorem NoNul.cons {c : Char} {s : List Char} (hc : c ≠ '\x00') (hs : NoNul s) : NoNul (c :: s) := by
  intro d hd
  rcases List.mem_cons.mp hd with h | h
  · rw [h]; exact hc
  · exact hs d h

theorem noNul_nil : NoNul [] := fun _ h => by simp at h

theorem nulStr_noNul {s : List Char} (h : NoNul s) : Render.nulStr s = s := by
  unfold Render.nulStr
  conv => rhs; rw [← List.map_id s]
  exact List.map_congr_left (fun c hc => by simp [Render.nulChar, h c hc])

theorem nulStr_append (a b : List Char) : Render.nulStr (a ++ b) = Render.nulStr a ++ Render.nulStr b := by
  simp [Render.nulStr]

theorem digit_facts {c : Char} (h : c.isDigit = true) : Render.escapeChar c = [c] ∧ c ≠ '\x00' := by
  have h1 : c ≠ '&' := by rintro rfl; revert h; decide
  have h2 : c ≠ '<' := by rintro rfl; revert h; decide
  have h3 : c ≠ '>' := by rintro rfl; revert h; decide
  have h4 : c ≠ '"' := by rintro rfl; revert h; decide
  have h5 : c ≠ '\x00' := by rintro rfl; revert h; decide
  exact ⟨by simp [Render.escapeChar, h1, h2, h3, h4], h5⟩

theorem escapeHtml_digits : ∀ (s : List Char), (∀ c ∈ s, c.isDigit = true) → escapeHtml s = s
  | [], _ => rfl
  | c :: r, h => by
    rw [Render.escapeHtml, (digit_facts (h c (by simp))).1, escapeHtml_digits r (fun x hx => h x (List.mem_cons_of_mem _ hx))]
    rfl

theorem toDigits_isDigit (v : Nat) : ∀ c ∈ Nat.toDigits 10 v, c.isDigit = true :=
  fun c hc => Nat.isDigit_of_mem_toDigits (by decide) (by decide) hc

/-- the attribute string of `<ol>`: nothing for a list that starts at 1, else ` start="N"` -/
theorem attrsStr_olAttrs (v : Nat) :
    attrsStr (olAttrs [] v) = if v = 1 then [] else ' ' :: (NodeRender.aStart ++ ('=' :: '"' :: (Nat.toDigits 10 v ++ ['"']))) := by
  by_cases h : v = 1
  · simp [olAttrs, h, attrsStr]
  · have e : escapeHtml NodeRender.aStart = NodeRender.aStart := by
      simp [NodeRender.aStart, Render.escapeHtml, Render.escapeChar]
    simp [olAttrs, h, attrsStr, Render.attrStr, NodeRender.natToString, escapeHtml_digits _ (toDigits_isDigit _), e]

theorem noNul_olAttrs (v : Nat) : NoNul (attrsStr (olAttrs [] v)) := by
  rw [attrsStr_olAttrs]
  split
  · exact noNul_nil
  · refine NoNul.cons (by decide) (NoNul.append (by unfold NodeRender.aStart NoNul; decide) (NoNul.cons (by decide)
      (NoNul.cons (by decide) (NoNul.append (fun c hc => (digit_facts (toDigits_isDigit v c hc)).2)
        (NoNul.cons (by decide) noNul_nil)))))

theorem noNul_openTag {t : List Char} {a : List (List Char × List Char)} (ht : NoNul t) (ha : NoNul (attrsStr a)) :
    NoNul (openTag t a) :=
  NoNul.cons (by decide) (ht.append (ha.append (NoNul.cons (by decide) noNul_nil)))

theorem noNul_closeTag {t : List Char} (ht : NoNul t) : NoNul (closeTag t) :=
  NoNul.cons (by decide) (NoNul.cons (by decide) (ht.append (NoNul.cons (by decide) noNul_nil)))

theorem noNul_tags : NoNul tBlockquote ∧ NoNul tUl ∧ NoNul tOl ∧ NoNul tLi := by
  unfold NoNul tBlockquote tUl tOl tLi
  decide

theorem nulStr_html (x : Wrapper) (inner : List Char) :
    Render.nulStr (x.html [] inner) = x.html [] (Render.nulStr inner) := by
  obtain ⟨hq, hu, ho, hl⟩ := noNul_tags
  have hn : NoNul (attrsStr []) := noNul_nil
  have hnl : Render.nulStr ['\n'] = ['\n'] := nulStr_noNul (NoNul.cons (by decide) noNul_nil)
  cases x with
  | quote =>
    simp only [Wrapper.html, nulStr_append, nulStr_noNul (noNul_openTag hq hn), nulStr_noNul (noNul_closeTag hq), hnl]
  | bullet c =>
    simp only [Wrapper.html, nulStr_append, nulStr_noNul (noNul_openTag hu hn), nulStr_noNul (noNul_closeTag hu),
      nulStr_noNul (noNul_openTag hl hn), nulStr_noNul (noNul_closeTag hl), hnl]
  | ordered ds dl =>
    simp only [Wrapper.html, nulStr_append, nulStr_noNul (noNul_openTag ho (noNul_olAttrs _)),
      nulStr_noNul (noNul_closeTag ho), nulStr_noNul (noNul_openTag hl hn), nulStr_noNul (noNul_closeTag hl), hnl]

theorem nulStr_wrapHtml : ∀ (ws : List Wrapper) (inner : List Char),
    Render.nulStr (wrapHtml ws inner) = wrapHtml ws (Render.nulStr inner)
  | [], _ => rfl
  | x :: ws, inner => by simp only [wrapHtml, nulStr_html, nulStr_wrapHtml ws]

theorem nulStr_preCode_nil (c : List Char) :
    Render.nulStr (preCode [] c) = "<pre><code>".toList ++ escapeHtml (Render.nulStr c) ++ "</code></pre>\n".toList := by
  rw [← Render.replaceNul_eq_nulStr, ← serialize_blocky (blocky_leaf false [] c), serialize_pre_code_nil]

end MdIt.C11N
