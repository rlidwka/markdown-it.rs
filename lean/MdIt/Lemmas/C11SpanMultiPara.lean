/-
  C11, MULTI-LINE code spans, BLOCK level at the top: a document of n lines whose first line starts — behind blanks of
  width below 4 — with a character every rule in front of `paragraph` passes over (`Declines`; `lheading` apart) and
  whose other lines all continue a paragraph (`ContLine`) is ONE paragraph, inline text = the source, table = one
  identity entry per line (`tokenize_lines_of`, `parseBlocks_lines_of`).  The first character one that no block rule
  but `paragraph` claims (`ParaFirst`): `parseBlocks_lines`, `tokenize_lines_tight`; n = 1: `parseBlocks_line`,
  `tokenize_line_tight`.

    1. the line table of `docOf Ls`, explicitly (`splitLines_docOf`), hence the exact `get_lines` table (`getLines_all`)
    2. every rule, in SILENT mode, answers `false` on a line that starts (indent < 4) with a `ParaFirst` character
       (`quiet_silent`), so `test_rules_at_line` does (`testRules_quiet`)
    3. `lazyScan` runs over all the continuation lines (`lazyScan_cont`)
    4. the chain on line 0 in real mode (`lines_chain`), the tokenizer with enough fuel (`Block.tokenize_single`)
-/
import MdIt.Lemmas.C11SpanMultiDefs
import MdIt.Lemmas.C11Nested
import MdIt.Lemmas.KernelEval

namespace MdIt.Block
open MdIt.Lines (LineOffset NoTerm lead)
open MdIt.C11N (withTerms linesT_docOf)

theorem splitLines_docOf (Ls : List (List Char)) (hn : ∀ l ∈ Ls, NoTerm l) (hl : Ls.getLast? ≠ some [])
    (hne : Ls ≠ []) : Lines.splitLines (docOf Ls) = Lines.offsetsOf 0 (withTerms Ls) := by
  rw [Lines.splitLines_eq, linesT_docOf Ls hne hn hl]

theorem mapOf_step (o : LineOffset) (l : List Char) (p : Nat)
    (r : List (LineOffset × (List Char × List Char × Int))) :
    Lines.mapOf 0 p ((o, viewOf l) :: r) = (p, o.lineStart) :: Lines.mapOf 0 (p + Lines.byteLen l + 1) r := by
  have e0 : Lines.usizeAsI32 0 = 0 := by decide
  have hcw := Lines.cut_full_indent (lead l)
  have hvp := viewPiece_zero l
  simp only [Lines.mapOf, viewOf, e0, Int.sub_zero, hcw, hvp]
  simp

theorem mapOf_id : ∀ (Ls : List (List Char)) (p : Nat),
    Lines.mapOf 0 p ((Lines.offsetsOf p (withTerms Ls)).zip (Ls.map viewOf)) = idTable p Ls
  | [], _ => rfl
  | [x], p => by
    simp only [withTerms, Lines.offsetsOf, List.map_cons, List.map_nil, List.zip_cons_cons, List.zip_nil_right,
      mapOf_step, idTable, Lines.mapOf]
  | x :: y :: r, p => by
    have ih := mapOf_id (y :: r) (p + Lines.byteLen x + 1)
    simp only [withTerms, Lines.offsetsOf, List.map_cons, List.zip_cons_cons, mapOf_step, idTable] at ih ⊢
    rw [show Lines.byteLen ['\n'] = 1 by decide, ih]

theorem getLines_all {Ls : List (List Char)} {s : BState} (hon : OnDoc Ls s) :
    s.getLines 0 Ls.length 0 false = .ok (docOf Ls, idTable 0 Ls) := by
  have holen : s.offs.length = Ls.length := hon.length
  have hc : ((s.offs.zip (Ls.map viewOf)).map fun ov => Lines.viewPiece 0 ov.2) = Ls := by
    apply List.ext_getElem (by simp [holen])
    intro j h1 h2
    simp only [List.getElem_map, List.getElem_zip]
    exact viewPiece_zero Ls[j]
  rw [hon.getLines_map 0, hc, hon.offs, splitLines_docOf Ls hon.noTerm hon.last hon.ne, mapOf_id Ls 0]

theorem quiet_silent {cfg : Cfg} {tok : Tok} {test : Test} {fuel : Nat} (r : RuleId)
    {s : BState} {i : Int} {c : Char} {rest : List Char}
    (hind : s.lineIndent s.line = .ok i) (hi4 : i < 4)
    (hgl : s.getLine s.line = .ok (c :: rest)) (hc : ParaFirst c) (hli : s.listIndent = none) :
    runRule cfg tok test fuel r s true = .ok (false, s) := by
  by_cases hr : r = .lheading ∨ r = .paragraph
  · exact runRule_silent_scan hr s
  · exact runRule_declines hind hi4 hgl hli (hc.declines rest (fun e => hr (.inr e)) (fun e => hr (.inl e))) true

theorem runChain_silent {cfg : Cfg} {tok : Tok} {test : Test} {fuel : Nat}
    {s : BState} {i : Int} {c : Char} {rest : List Char}
    (hind : s.lineIndent s.line = .ok i) (hi4 : i < 4)
    (hgl : s.getLine s.line = .ok (c :: rest)) (hc : ParaFirst c) (hli : s.listIndent = none)
    (chain : List RuleId) :
    runChain (runRule cfg tok test fuel) chain s true = .ok (false, s) := by
  induction chain with
  | nil => rfl
  | cons q qs ih => simp only [runChain, quiet_silent q hind hi4 hgl hc hli, ih]

theorem testRules_succ (cfg : Cfg) (g : Nat) :
    testRules cfg (g + 1) =
      fun s => runChain (runRule cfg (tokenize cfg g) (testRules cfg g) (g + 1)) cfg.chain s true := rfl

/-- the "jump line-by-line" loop over the continuation lines of a paragraph: it runs to the end of the document,
    finds no underline, and hands the state back unchanged -/
theorem lazyScan_cont {test : Test} {setext : Bool} {Ls : List (List Char)} {s : BState}
    (hon : OnDoc Ls s) (hmax : s.lineMax = Ls.length)
    (hcont : ∀ j (h : j < Ls.length), 0 < j → ContLine Ls[j])
    (htest : ∀ j (h : j < Ls.length), 0 < j → Lines.indentWidth (lead Ls[j]) < 4 →
      test { s with line := j } = .ok (false, { s with line := j })) :
    ∀ (k j fuel : Nat), j + k + 1 = Ls.length → k + 1 ≤ fuel →
      lazyScan test setext fuel s j = .ok (Ls.length, 0, s) := by
  intro k
  induction k with
  | zero =>
    intro j fuel hj hf
    obtain ⟨f, rfl⟩ : ∃ f, fuel = f + 1 := ⟨fuel - 1, by omega⟩
    rw [lazyScan]
    have : j + 1 ≥ s.lineMax := by omega
    simp only [this, true_or, if_true]
    rw [show j + 1 = Ls.length by omega]
  | succ k ih =>
    intro j fuel hj hf
    obtain ⟨f, rfl⟩ : ∃ f, fuel = f + 1 := ⟨fuel - 1, by omega⟩
    have hj1 : j + 1 < Ls.length := by omega
    obtain ⟨c, r, hd, hor⟩ := hcont (j + 1) hj1 (by omega)
    have hemp : s.isEmpty (j + 1) = false := by rw [hon.isEmpty hj1, hd]; simp
    have hind := hon.lineIndent hj1
    have hrec := ih (j + 1) f (by omega) (by omega)
    rw [lazyScan]
    have hnot : ¬ j + 1 ≥ s.lineMax := by omega
    simp only [hnot, hemp, false_or, Bool.false_eq_true, if_false, hind, ok_bind]
    by_cases h4 : 4 ≤ Lines.indentWidth (lead Ls[j + 1])
    · rw [if_pos (by omega)]
      exact hrec
    · rw [if_neg (by omega)]
      have hul : underlineLevel (c :: r) = 0 := by
        rcases hor with h | h
        · exact absurd h h4
        · exact h.2
      have hgl : s.getLine (j + 1) = .ok (c :: r) := by rw [hon.getLine hj1, hd]
      have hse : setextCheck setext s (Lines.indentWidth (lead Ls[j + 1]) : Int) (j + 1) = .ok 0 := by
        cases setext
        · simp [setextCheck, pure, Except.pure]
        · have : (Lines.indentWidth (lead Ls[j + 1]) : Int) ≥ 0 := by omega
          simp [setextCheck, this, hgl, hul, pure, Except.pure, bind, Except.bind]
      obtain ⟨o, ho, _, _, hio⟩ := hon.entry hj1
      have hoff : s.off (j + 1) = .ok o := by simp [BState.off, ho]
      have hneg : ¬ o.indentNonspace < 0 := by
        simp only [] at hio
        rw [hio]; omega
      have ht := htest (j + 1) hj1 (by omega) (by omega)
      simp only [hse, ok_bind, ne_eq, not_true_eq_false, if_false, hoff, hneg, ht, Bool.false_eq_true]
      exact hrec

theorem testRules_quiet {Ls : List (List Char)} {s : BState} (hon : OnDoc Ls s) (hli : s.listIndent = none)
    (hcont : ∀ j (h : j < Ls.length), 0 < j → ContLine Ls[j]) (cfg : Cfg) (g : Nat) :
    ∀ j (h : j < Ls.length), 0 < j → Lines.indentWidth (lead Ls[j]) < 4 →
      testRules cfg (g + 1) { s with line := j } = .ok (false, { s with line := j }) := by
  intro j hj hj0 h4
  have hon' : OnDoc Ls { s with line := j } := ⟨hon.src, hon.offs, hon.blk, hon.ne, hon.noTerm, hon.last⟩
  obtain ⟨c, r, hd, hor⟩ := hcont j hj hj0
  have hc : ParaFirst c := by
    rcases hor with h | h
    · omega
    · exact h.1
  rw [testRules_succ]
  exact runChain_silent (s := { s with line := j }) (i := (Lines.indentWidth (lead Ls[j]) : Int))
    (hon'.lineIndent hj) (by omega) (by rw [hon'.getLine hj, hd]) hc hli _

section rules
variable {Ls : List (List Char)} {s : BState} (hon : OnDoc Ls s) (hmax : s.lineMax = Ls.length) (hline : s.line = 0)
  (hcont : ∀ j (h : j < Ls.length), 0 < j → ContLine Ls[j]) {test : Test}
  (htest : ∀ j (h : j < Ls.length), 0 < j → Lines.indentWidth (lead Ls[j]) < 4 →
    test { s with line := j } = .ok (false, { s with line := j }))
  {fuel : Nat} (hf : Ls.length ≤ fuel)
include hon hmax hline hcont htest hf

/-- `lheading` in real mode on the first line (indent below 4): no underline below, `false`, state handed back -/
theorem lheading_lines {i : Int} (hind : s.lineIndent 0 = .ok i) (hi : i < 4) :
    lheadingRule test fuel s false = .ok (false, s) := by
  have hn : 0 < Ls.length := List.length_pos_iff.mpr hon.ne
  have hscan := lazyScan_cont (setext := true) hon hmax hcont htest (Ls.length - 1) 0 fuel (by omega) (by omega)
  unfold lheadingRule
  simp only [Bool.false_eq_true, if_false, hline, hind, ok_bind, hscan, pure, Except.pure, ge_iff_le,
    show ¬ (4 : Int) ≤ i by omega]
  simp

/-- `paragraph` in real mode on the first line: one paragraph from behind the first line's leading blanks to the end
    of the document; the inline text is the whole document, leading blanks included -/
theorem paragraph_lines :
    paragraphRule test fuel s false =
      .ok (true, ({ s with line := Ls.length }).push
        ⟨.paragraph, some (Lines.byteLen (lead (Ls[0]'(List.length_pos_iff.mpr hon.ne))), Lines.byteLen (docOf Ls)),
          [⟨.inlineRoot (docOf Ls) (idTable 0 Ls), none, []⟩]⟩) := by
  have hn : 0 < Ls.length := List.length_pos_iff.mpr hon.ne
  have hscan := lazyScan_cont (setext := false) hon hmax hcont htest (Ls.length - 1) 0 fuel (by omega) (by omega)
  have hgl : s.getLines 0 Ls.length s.blkIndent false = .ok (docOf Ls, idTable 0 Ls) := by
    rw [hon.blk]; exact getLines_all hon
  obtain ⟨a, ha, _⟩ := hon.entry hn
  obtain ⟨b, hb, _⟩ := hon.entry (j := Ls.length - 1) (by omega)
  have hfa := hon.firstNonspace_first hn ha
  have hlb : b.lineEnd = Lines.byteLen (docOf Ls) := by
    rw [hon.lineEnd_last hb, hon.src]
  have hmap : ∀ t : BState, t.offs = s.offs →
      t.getMap 0 (Ls.length - 1) = .ok (Lines.byteLen (lead (Ls[0]'hn)), Lines.byteLen (docOf Ls)) := by
    intro t ht
    simp [BState.getMap, Lines.getMap, ht, ha, hb, liftL, hfa, hlb]
  unfold paragraphRule
  simp only [Bool.false_eq_true, if_false, hline, ok_bind, hscan, hgl, psub,
    show 1 ≤ Ls.length from hn, if_true, pure, Except.pure]
  rw [hmap { s with line := Ls.length } rfl]
  rfl

end rules

theorem contLine_ne_nil {l : List Char} (h : ContLine l) : l ≠ [] := by
  obtain ⟨c, r, hd, _⟩ := h
  intro e
  rw [e] at hd
  cases hd

/-! ### the first line: blanks of width below 4, then a character that every rule in front of `paragraph` but
  `lheading` passes over (`Declines`) -/

section lines
variable {l0 : List Char} {c : Char} {r : List Char} {Ls : List (List Char)}
  (hnt : ∀ l ∈ l0 :: Ls, NoTerm l) (hd0 : l0.dropWhile Lines.isBlank = c :: r)
  (h4 : Lines.indentWidth (lead l0) < 4) (hcont : ∀ l ∈ Ls, ContLine l)
  {cfg : Cfg} {pre post : List RuleId} (hchain : cfg.chain = pre ++ .paragraph :: post)
  (hdec : ∀ q ∈ pre, q ≠ .lheading → Declines q c r) (hmn : 0 < cfg.maxNesting)

include hnt hd0 hcont in
theorem onDoc_lines (k : Kind) (refs : Refs.RefMap) :
    OnDoc (l0 :: Ls) (BState.fresh (docOf (l0 :: Ls)) k refs) := by
  refine OnDoc.fresh (by simp) hnt ?_ k refs
  intro h
  have hm := List.mem_of_getLast? h
  rcases List.mem_cons.mp hm with e | hm'
  · rw [← e] at hd0; cases hd0
  · exact contLine_ne_nil (hcont _ hm') rfl

include hcont in
theorem cont_index : ∀ j (h : j < (l0 :: Ls).length), 0 < j → ContLine ((l0 :: Ls)[j]) := by
  intro j hj hj0
  obtain ⟨j', rfl⟩ : ∃ j', j = j' + 1 := ⟨j - 1, by omega⟩
  simp only [List.getElem_cons_succ]
  exact hcont _ (List.getElem_mem _)

include hnt hd0 h4 hcont hchain hdec

/-- the chain on line 0 in real mode: the rules in front of `paragraph` pass, `paragraph` takes all the lines -/
theorem lines_chain (f : Nat) (hf : (l0 :: Ls).length ≤ f) (hf1 : 1 ≤ f) :
    runChain (ruleAt cfg f) cfg.chain (BState.fresh (docOf (l0 :: Ls)) .root []) false =
      .ok (true, { (BState.fresh (docOf (l0 :: Ls)) .root []) with
        line := Ls.length + 1,
        children := [⟨.paragraph, some (Lines.byteLen (lead l0), Lines.byteLen (docOf (l0 :: Ls))),
          [⟨.inlineRoot (docOf (l0 :: Ls)) (idTable 0 (l0 :: Ls)), none, []⟩]⟩] }) := by
  have hon := onDoc_lines hnt hd0 hcont .root []
  obtain ⟨s, hs⟩ : ∃ s, s = BState.fresh (docOf (l0 :: Ls)) .root [] := ⟨_, rfl⟩
  rw [← hs] at hon ⊢
  have h0 : 0 < (l0 :: Ls).length := by simp
  have hmax : s.lineMax = (l0 :: Ls).length := by have := hon.length; rw [hs] at this ⊢; exact this
  have hline : s.line = 0 := by rw [hs]; rfl
  have hlist : s.listIndent = none := by rw [hs]; rfl
  have hci := cont_index (l0 := l0) hcont
  have hli : s.lineIndent 0 = .ok (Lines.indentWidth (lead l0) : Int) := hon.lineIndent h0
  have hgl : s.getLine 0 = .ok (c :: r) := by
    have := hon.getLine h0
    simpa [hd0] using this
  obtain ⟨g, rfl⟩ : ∃ g, f = g + 1 := ⟨f - 1, by omega⟩
  have htest := testRules_quiet hon hlist hci cfg g
  rw [hchain]
  refine runChain_reach (fun q hq => ?_) ?_
  · by_cases hq' : q = .lheading
    · subst hq'
      exact lheading_lines hon hmax hline hci htest (by omega) hli (by omega)
    · exact runRule_declines (by rw [hline]; exact hli) (by omega) (by rw [hline]; exact hgl) hlist
        (hdec q hq hq') false
  · have := paragraph_lines hon hmax hline hci htest (fuel := g + 1 + 1) (by omega)
    simp only [List.getElem_cons_zero] at this
    show paragraphRule (testRules cfg (g + 1)) (g + 1 + 1) s false = _
    rw [this, hs]
    rfl

include hmn

/-- **the run of the block tokenizer on an n-line top-level paragraph**: one iteration, the final state -/
theorem tokenize_lines_of :
    tokenize cfg (fuelFor cfg (docOf (l0 :: Ls))) (BState.fresh (docOf (l0 :: Ls)) .root []) =
      .ok { (BState.fresh (docOf (l0 :: Ls)) .root []) with
        line := Ls.length + 1, tight := true,
        children := [⟨.paragraph, some (Lines.byteLen (lead l0), Lines.byteLen (docOf (l0 :: Ls))),
          [⟨.inlineRoot (docOf (l0 :: Ls)) (idTable 0 (l0 :: Ls)), none, []⟩]⟩] } := by
  have hon := onDoc_lines hnt hd0 hcont .root []
  have h0 : 0 < (l0 :: Ls).length := by simp
  have hlen : (Lines.splitLines (docOf (l0 :: Ls))).length = (l0 :: Ls).length := hon.length
  refine tokenize_single hmn (by show 0 < (Lines.splitLines _).length; omega) ?_ (hon.lineIndent h0) (by omega)
    (fun f hf hf1 => lines_chain hnt hd0 h4 hcont hchain hdec f (by rw [← hlen]; exact hf) hf1)
    (by show 0 < Ls.length + 1; omega) (by show Ls.length + 1 = (Lines.splitLines _).length; rw [hlen]; rfl)
  rw [hon.isEmpty h0]
  simp [hd0]

/-- **the block pass on an n-line top-level paragraph**: `Root[Paragraph[InlineRoot src (idTable 0 lines)]]`, the root
    over the whole source, the paragraph from behind the leading blanks of line 0, no reference -/
theorem parseBlocks_lines_of :
    parseBlocks cfg (docOf (l0 :: Ls)) =
      .ok (⟨.root, some (0, Lines.byteLen (docOf (l0 :: Ls))),
            [⟨.paragraph, some (Lines.byteLen (lead l0), Lines.byteLen (docOf (l0 :: Ls))),
              [⟨.inlineRoot (docOf (l0 :: Ls)) (idTable 0 (l0 :: Ls)), none, []⟩]⟩]⟩, []) := by
  unfold parseBlocks
  rw [tokenize_lines_of hnt hd0 h4 hcont hchain hdec hmn]
  rfl

end lines

/-! ### the first line starts with a character no block rule but `paragraph` claims (`ParaFirst`) -/

section para
variable {c : Char} {r : List Char} {Ls : List (List Char)}
  (hnt : ∀ l ∈ (c :: r) :: Ls, NoTerm l) (hc : ParaFirst c) (hcont : ∀ l ∈ Ls, ContLine l)
  {cfg : Cfg} {pre post : List RuleId} (hchain : cfg.chain = pre ++ .paragraph :: post)
  (hpre : .paragraph ∉ pre) (hmn : 0 < cfg.maxNesting)
include hnt hc hcont hchain hpre hmn

/-- **the block pass on an n-line top-level paragraph**: `Root[Paragraph[InlineRoot src (idTable 0 lines)]]`, both
    nodes over the whole source, no reference -/
theorem parseBlocks_lines :
    parseBlocks cfg (docOf ((c :: r) :: Ls)) =
      .ok (⟨.root, some (0, Lines.byteLen (docOf ((c :: r) :: Ls))),
            [⟨.paragraph, some (0, Lines.byteLen (docOf ((c :: r) :: Ls))),
              [⟨.inlineRoot (docOf ((c :: r) :: Ls)) (idTable 0 ((c :: r) :: Ls)), none, []⟩]⟩]⟩, []) := by
  have hld := lead_nonblank_cons r hc.notBlank
  have := parseBlocks_lines_of hnt hld.2 (by simp [hld.1, Lines.indentWidth, Lines.widthFrom]) hcont hchain
    (fun q hq hq' => hc.declines r (fun e => hpre (e ▸ hq)) hq') hmn
  rwa [hld.1] at this

theorem tokenize_lines_tight (t : BState)
    (ht : tokenize cfg (fuelFor cfg (docOf ((c :: r) :: Ls))) (BState.fresh (docOf ((c :: r) :: Ls)) .root []) = .ok t) :
    t.tight = true := by
  have hld := lead_nonblank_cons r hc.notBlank
  rw [tokenize_lines_of hnt hld.2 (by simp [hld.1, Lines.indentWidth, Lines.widthFrom]) hcont hchain
    (fun q hq hq' => hc.declines r (fun e => hpre (e ▸ hq)) hq') hmn] at ht
  cases ht
  rfl

end para

/-- **the block pass on a one-line paragraph**: `Root[Paragraph[InlineRoot l [(0, 0)]]]`, both nodes over the
    whole source, no reference -/
theorem parseBlocks_line {c : Char} {r : List Char} (hnt : NoTerm (c :: r)) (hc : ParaFirst c)
    {cfg : Cfg} {pre post : List RuleId} (hchain : cfg.chain = pre ++ .paragraph :: post)
    (hpre : .paragraph ∉ pre) (hmn : 0 < cfg.maxNesting) :
    parseBlocks cfg (c :: r) =
      .ok (⟨.root, some (0, Lines.byteLen (c :: r)),
            [⟨.paragraph, some (0, Lines.byteLen (c :: r)), [⟨.inlineRoot (c :: r) [(0, 0)], none, []⟩]⟩]⟩, []) := by
  have := parseBlocks_lines (c := c) (r := r) (Ls := []) (by simpa using hnt) hc (by simp) hchain hpre hmn
  simpa only [docOf_one, idTable] using this

theorem tokenize_line_tight {c : Char} {r : List Char} (hnt : NoTerm (c :: r)) (hc : ParaFirst c)
    {cfg : Cfg} {pre post : List RuleId} (hchain : cfg.chain = pre ++ .paragraph :: post)
    (hpre : .paragraph ∉ pre) (hmn : 0 < cfg.maxNesting) (t : BState)
    (ht : tokenize cfg (fuelFor cfg (c :: r)) (BState.fresh (c :: r) .root []) = .ok t) : t.tight = true := by
  rw [← docOf_one (c :: r)] at ht
  exact tokenize_lines_tight (Ls := []) (by simpa using hnt) hc (by simp) hchain hpre hmn t ht

section examples
/-- the hypotheses are satisfiable (`"a `` x\n   y ``\n=b\n\t- z"`: a continuation line at indent 3, one that starts with
    `=` but is no underline, one indented by a tab), on a chain with `lheading` in front of `paragraph` -/
example : parseBlocks ⟨100, [.code, .list, .lheading, .paragraph, .hr], fun _ => none, fun c => [c], fun c => [c]⟩
    (docOf ["a `` x".toList, "   y ``".toList, "=b".toList, "\t- z".toList]) =
    .ok (⟨.root, some (0, 22), [⟨.paragraph, some (0, 22),
      [⟨.inlineRoot "a `` x\n   y ``\n=b\n\t- z".toList [(0, 0), (7, 7), (15, 15), (18, 18)], none, []⟩]⟩]⟩, []) := by
  repeat rw [String.toList_ofList]
  exact parseBlocks_lines (c := 'a') (r := " `` x".toList) (Ls := ["   y ``".toList, "=b".toList, "\t- z".toList])
    (pre := [.code, .list, .lheading]) (post := [.hr])
    (by decide) (by decide) (by decide) rfl (by decide) (by decide)

/-- `ContLine` is needed: a setext underline, a list item, a blank line end the paragraph (or change its kind) -/
example : ¬ ContLine "=".toList ∧ ¬ ContLine "- y".toList ∧ ¬ ContLine " ".toList ∧ ContLine "    - y".toList := by
  decide_lits
end examples

end MdIt.Block
