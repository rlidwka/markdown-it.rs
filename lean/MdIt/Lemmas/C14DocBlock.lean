/-
  Helper development for `Props/C14Doc.lean` (block side of the text normal form without a join pass).

  When no emphasis-like inline rule is configured there is no `FragmentsJoin` pass, so two `Text`
  nodes that the splice walk puts side by side stay two nodes.  Texts of DIFFERENT `InlineRoot`
  placeholders become siblings exactly when two placeholders are adjacent children of one block node,
  and — with the paragraph rule configured — that can only happen under a list item of a TIGHT list
  (`mark_tight_paragraphs` dissolves the paragraphs).  It does not happen when the paragraph rule is
  the LAST rule of the block chain: a tight item then has no two adjacent paragraphs (the clause of
  `EmitsItem`, from `tokenize_tight`), hence

    `parseBlocks_noAdjInl`  every node of the block tree has no two adjacent `InlineRoot` children (`NAI`),

  by recursion over the grammar of block trees (`Emits.nai`).
-/
import MdIt.Props.Pipeline

namespace MdIt.Block
open MdIt.Lines (LineOffset)

def BNode.isInl (n : BNode) : Bool :=
  match n.kind with
  | .inlineRoot _ _ => true
  | _ => false

/-- no node of the tree has two adjacent `InlineRoot` children -/
inductive NAI : BNode → Prop
  | mk (n : BNode) : NoAdj BNode.isInl n.children → (∀ c ∈ n.children, NAI c) → NAI n

theorem NAI.at {n : BNode} (h : NAI n) : NoAdj BNode.isInl n.children := by cases h; assumption
theorem NAI.child {n : BNode} (h : NAI n) : ∀ c ∈ n.children, NAI c := by cases h; assumption

theorem nai_leaf (k : Kind) (r : Option (Nat × Nat)) : NAI ⟨k, r, []⟩ :=
  .mk _ trivial (fun _ h => by simp at h)

theorem nai_textB (k : Kind) (r : Option (Nat × Nat)) (t : List Char) (m : List (Nat × Nat)) :
    NAI ⟨k, r, [⟨.inlineRoot t m, none, []⟩]⟩ :=
  .mk _ ⟨fun _ h => by simp at h, trivial⟩ (fun c hc => by simp at hc; subst hc; exact nai_leaf _ _)

/-- the placeholder test on a node is the one on its value (`Kind.isInl`, `Props/Block.lean`) -/
theorem BNode.isInl_eq (n : BNode) : n.isInl = n.kind.isInl := by
  unfold BNode.isInl
  cases n.kind <;> rfl

theorem isInl_of_kind {n : BNode} {k : Kind} (h : n.kind = k) (hk : ∀ t m, k ≠ .inlineRoot t m) :
    n.isInl = false := by
  rw [n.isInl_eq, h]
  cases k <;> first | rfl | exact absurd rfl (hk _ _)

theorem goodB_not_inl {c : BNode} (h : GoodB true c) : c.isInl = false :=
  isInl_of_kind rfl (h.top.2 rfl)

theorem noAdjInl_of_good {cs : List BNode} (h : AllGoodB true cs) : NoAdj BNode.isInl cs :=
  noAdj_of_none _ _ (fun c hc => goodB_not_inl (h c hc))

theorem markTight_head {y : BNode} {r : List BNode} (hy : y.isPara = false) :
    (markTight (y :: r)).head? = some y := by
  have : ¬ y.kind = .paragraph := by
    intro e
    rw [(isPara_iff y).mpr e] at hy
    cases hy
  simp [markTight, this]

theorem markTight_noAdj : ∀ (cs : List BNode), NoAdj BNode.isPara cs → (∀ c ∈ cs, c.isInl = false) →
    (∀ c ∈ cs, c.kind = .paragraph → OneInl c.children) → NoAdj BNode.isInl (markTight cs)
  | [], _, _, _ => trivial
  | n :: r, hna, hni, hone => by
    have ih := markTight_noAdj r hna.2 (fun c hc => hni c (List.mem_cons_of_mem _ hc))
      (fun c hc => hone c (List.mem_cons_of_mem _ hc))
    simp only [markTight]
    split
    · next hp =>
      obtain ⟨t, m, hcs⟩ := hone n (by simp) hp
      rw [hcs]
      refine ⟨?_, ih⟩
      intro y hy hc
      cases r with
      | nil => simp [markTight] at hy
      | cons y' r' =>
        have hy'p : y'.isPara = false := by
          cases hq : y'.isPara with
          | false => rfl
          | true => exact absurd ⟨(isPara_iff n).mpr hp, hq⟩ (hna.1 y' rfl)
        change (markTight (y' :: r')).head? = some y at hy
        rw [markTight_head hy'p] at hy
        cases hy
        rw [hni y (by simp)] at hc
        exact absurd hc.2 (by simp)
    · refine ⟨fun y _ hc => ?_, ih⟩
      rw [hni n (by simp)] at hc
      exact absurd hc.1 (by simp)

theorem markTight_nai (cs : List BNode) (h : ∀ c ∈ cs, NAI c) : ∀ c ∈ markTight cs, NAI c := by
  intro c hc
  rcases mem_markTight hc with h1 | ⟨p, hp, -, h1⟩
  · exact h c h1
  · exact (h p hp).child c h1

/-- an item over what the tokenizer pushed (paragraph rule in the chain: no bare placeholder) -/
theorem item_nai_loose {c : BNode} (hg : AllGoodB true c.children) (hn : ∀ x ∈ c.children, NAI x) : NAI c :=
  .mk _ (noAdjInl_of_good hg) hn

/-- the same item after `mark_tight_paragraphs`, if no two of its paragraphs were adjacent -/
theorem item_nai_tight {c : BNode} (hg : AllGoodB true c.children) (hn : ∀ x ∈ c.children, NAI x)
    (hp : NoAdj BNode.isPara c.children) : NAI (tightenItem c) := by
  refine .mk _ ?_ (markTight_nai _ hn)
  refine markTight_noAdj _ hp (fun x hx => goodB_not_inl (hg x hx)) ?_
  intro x hx hk
  have := (hg x hx).wf.at
  rw [hk] at this
  exact this.2

mutual
theorem Emits.nai {G : Gram} (hp : G.plast) (hpara : G.para = true) : ∀ {L : Nat} {n : BNode},
    Emits G L n → NAI n
  | _, _, .leaf _ hn => by
    obtain ⟨k, rg, cs, rfl, -, rfl | ⟨t, m, rfl⟩⟩ := hn.shape
    · exact nai_leaf _ _
    · exact nai_textB _ _ _ _
  | _, _, .bare _ hf => by rw [hpara] at hf; cases hf
  | _, _, .quote _ hcs =>
    .mk _ (noAdjInl_of_good fun c hc => hpara ▸ (hcs c hc).goodB) fun c hc => (hcs c hc).nai hp hpara
  | _, _, .list (tight := tight) _ hk hit => by
    have hcs := forall_tightened (tight := tight) (fun c hc => ((hit c hc).nai hp hpara).1)
      fun e c hc => ((hit c hc).nai hp hpara).2 e
    exact .mk _ (noAdj_of_none _ _ fun c hc => isInl_of_kind (hcs c hc).2 (by simp)) fun c hc => (hcs c hc).1
theorem EmitsItem.nai {G : Gram} (hp : G.plast) (hpara : G.para = true) :
    ∀ {L : Nat} {t : Bool} {c : BNode}, EmitsItem G L t c →
      (NAI c ∧ c.kind = .listItem) ∧ (t = true → NAI (tightenItem c) ∧ (tightenItem c).kind = .listItem)
  | _, _, _, .mk hcs ht =>
    have hg : AllGoodB true _ := fun c hc => hpara ▸ (hcs c hc).goodB
    have hn := fun c hc => (hcs c hc).nai hp hpara
    ⟨⟨item_nai_loose hg hn, rfl⟩, fun e => ⟨item_nai_tight hg hn (ht e hp), rfl⟩⟩
end

/-- **no two adjacent `InlineRoot` placeholders anywhere in the block tree**, when the paragraph rule
    is the last rule of the chain -/
theorem parseBlocks_noAdjInl {cfg : Cfg} {src : List Char} {root : BNode} {refs : Refs.RefMap}
    (h : parseBlocks cfg src = .ok (root, refs)) (hlast : ParaLast cfg.chain) : NAI root := by
  have hpara : cfg.hasPara = true := by
    obtain ⟨pre, hch, _⟩ := hlast
    simp [Cfg.hasPara, hch]
  obtain ⟨cs, rfl, hcs⟩ := parseBlocks_emits h
  exact .mk _ (noAdjInl_of_good fun c hc => hpara ▸ (hcs c hc).goodB) fun c hc => (hcs c hc).nai hlast hpara

end MdIt.Block
