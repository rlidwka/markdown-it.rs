/-
  C10 with the sourcepos plugin — the exact inline simulation: the delimiter matching
  and the emphasis rule (see `Lemmas/C10SpInlineBase.lean`).
-/
import MdIt.Lemmas.C10SpInlineBase

namespace MdIt.Inline.XG
open MdIt.InlineOps (Srcmap getSourcePosFor getMap byteLen slice)
open MdIt.Pipeline (MLe)

variable {P : Par}

theorem run_slice {src p q : List Char} {mk : Char} {n : Nat} (hsz : mk.utf8Size = 1)
    (e : src = p ++ List.replicate n mk ++ q) :
    slice src (byteLen p) (byteLen p + n) = .ok (List.replicate n mk) :=
  (C05.slice_ok_iff _ _ _ _).mpr ⟨p, q, e, rfl, by rw [C05.byteLen_replicate hsz]⟩

theorem run_start {good : Char → Prop} {src p q : List Char} {mk : Char} {n : Nat} (hsz : mk.utf8Size = 1)
    (hg : good mk) (e : src = p ++ List.replicate n mk ++ q) (j : Nat) (hj : j < n) :
    StartAt good src (byteLen p + j) := by
  refine ⟨p ++ List.replicate j mk, mk, List.replicate (n - j - 1) mk ++ q, ?_, ?_, hg⟩
  · have h1 : List.replicate n mk = List.replicate j mk ++ mk :: List.replicate (n - j - 1) mk := by
      have hn : n = j + ((n - j - 1) + 1) := by omega
      conv => lhs; rw [hn]
      rw [← List.replicate_append_replicate, List.replicate_succ]
    rw [e, h1]; simp
  · rw [C05.byteLen_append, C05.byteLen_replicate hsz]

/-- the delimiter run `ruleEmph` scans: a stretch of delimiters inside the text, a delimiter at each
    position -/
theorem emph_run {good : Char → Prop} {cfg : Cfg} {a : IState} {mk c : Char} {w : List Char} {csw : Bool}
    {d : DelimRun} (hsz : mk.utf8Size = 1) (hg : good mk) (hw : a.window = .ok (c :: w)) (hc : c = mk)
    (hsd : scanDelims cfg a.src a.posMax a.pos csw = .ok d) :
    (∃ k, slice a.src a.pos (a.pos + d.length) = .ok (mk :: List.replicate k mk)) ∧
      (∀ j, j < d.length → StartAt good a.src (a.pos + j)) ∧ a.pos + d.length ≤ byteLen a.src := by
  obtain ⟨mk', rest, hsl, _, hlen⟩ := scanDelims_length hsd
  unfold IState.window at hw
  rw [hsl] at hw
  simp only [Except.ok.injEq, List.cons.injEq] at hw
  obtain ⟨rfl, rfl⟩ := hw
  subst hc
  obtain ⟨p, q, e, hp, _⟩ := (C05.slice_ok_iff _ _ _ _).mp (liftOps_ok.mp hsl)
  obtain ⟨t, ht⟩ := runLen_split mk' rest
  have e' : a.src = p ++ List.replicate d.length mk' ++ (t ++ q) := by
    rw [e, hlen, Nat.add_comm, List.replicate_succ]
    conv => lhs; rw [ht]
    simp
  rw [← hp]
  refine ⟨⟨CodePair.runLen mk' rest, ?_⟩, run_start hsz hg e', ?_⟩
  · have := run_slice hsz e'
    rw [hlen, Nat.add_comm 1, List.replicate_succ] at this
    rw [hlen, Nat.add_comm 1]; exact this
  · have := congrArg byteLen e'
    rw [C05.byteLen_append, C05.byteLen_append, C05.byteLen_replicate hsz] at this
    omega

theorem tokInv_of_GM (ht : P.track) {p n k : Nat} {mk : Char} {r₁ r₂ : Nat × Nat}
    (hs : slice P.c p (p + n) = .ok (mk :: List.replicate k mk)) (hg : P.good mk)
    (hcn : ∀ j, j < n → StartAt P.good P.c (p + j)) (hb : P.lim (p + n))
    (h : GM P.m₁ P.m₂ p (p + n) r₁ r₂) : TokInv P n (some r₁) (some r₂) := by
  have hn : '\n' ∉ List.replicate k mk := fun hm => P.good_nl hg (List.eq_of_mem_replicate hm).symm
  have s1 := P.shift₁ ht hs hg hn h.1
  have s2 := P.shift₂ ht hs hg hn h.2.2.1
  have e1 : r₁.2 = r₁.1 + n := by
    have := s1 n (Nat.le_refl _); rw [h.2.1] at this; simpa using this
  have e2 : r₂.2 = r₂.1 + n := by
    have := s2 n (Nat.le_refl _); rw [h.2.2.2] at this; simpa using this
  exact ⟨p, r₁.1, r₂.1, by rw [← e1], by rw [← e2], fun j hj => ⟨s1 j (by omega), s2 j (by omega)⟩, hcn, hb⟩

/-! ## the delimiter matching: everything that unfolds matchInner / matchOuter / scanAndMatch

       (adapt here after a change of these model functions)

  Interface the rest relies on — ONLY the statement of `scanAndMatch_sim` (related child lists, the SAME
  bottoms in, give related child lists and the SAME bottoms out; in strict mode side 2 does not fail).
  The closer's range satisfies the TOKEN INVARIANT for the tracked `closer.remaining`
  (`MSRelC.cl`), and while `matchInner` works on the opener at `idx` that token's VALUE is stale: the
  children are related everywhere except at `idx`, where the ranges satisfy the token invariant for the
  tracked `opener.remaining` (`Decomp`; `CRel` = that, or the plain list relation once the opener is used
  up and has been removed). -/

theorem xrel_toVal {s : Bool} {m : Marker} {r₁ r₂ : Option (Nat × Nat)} :
    XRel P s m.toVal r₁ r₂ ↔ (s = true → P.track → TokInv P m.remaining r₁ r₂) := Iff.rfl

/-- the matching state without the children -/
structure MSRelC (P : Par) (s : Bool) (x y : MatchSt) : Prop where
  eq : y = { x with closerRange := y.closerRange, children := y.children }
  range : RRel s x.closerRange y.closerRange
  cl : s = true → P.track → TokInv P x.closer.remaining x.closerRange y.closerRange

theorem MSRelC.out {s : Bool} {x y : MatchSt} (h : MSRelC P s x y) :
    ∃ cr cs, y = { x with closerRange := cr, children := cs } ∧ RRel s x.closerRange cr ∧
      (s = true → P.track → TokInv P x.closer.remaining x.closerRange cr) := ⟨_, _, h.eq, h.range, h.cl⟩

theorem MSRelC.mk' {s : Bool} {x : MatchSt} {cr : Option (Nat × Nat)} {cs : List Node}
    (hr : RRel s x.closerRange cr) (hcl : s = true → P.track → TokInv P x.closer.remaining x.closerRange cr) :
    MSRelC P s x { x with closerRange := cr, children := cs } := ⟨rfl, hr, hcl⟩

structure MSRel (P : Par) (s : Bool) (x y : MatchSt) : Prop where
  core : MSRelC P s x y
  ch : LRel P s x.children y.children

theorem MSRel.out {s : Bool} {x y : MatchSt} (h : MSRel P s x y) :
    ∃ cr cs, y = { x with closerRange := cr, children := cs } ∧ RRel s x.closerRange cr ∧
      (s = true → P.track → TokInv P x.closer.remaining x.closerRange cr) ∧
      LRel P s x.children cs := ⟨_, _, h.core.eq, h.core.range, h.core.cl, h.ch⟩

theorem MSRel.mk' {s : Bool} {x : MatchSt} {cr : Option (Nat × Nat)} {cs : List Node}
    (hr : RRel s x.closerRange cr) (hcl : s = true → P.track → TokInv P x.closer.remaining x.closerRange cr)
    (hc : LRel P s x.children cs) :
    MSRel P s x { x with closerRange := cr, children := cs } := ⟨⟨rfl, hr, hcl⟩, hc⟩

/-- the opener token while `matchInner` runs: same (stale) value, and the ranges satisfy the token
    invariant for the tracked `remaining` -/
def TokRel (P : Par) (s : Bool) (rem : Nat) (t₁ t₂ : Node) : Prop :=
  t₁.val = t₂.val ∧ RRel s t₁.range t₂.range ∧ (s = true → P.track → TokInv P rem t₁.range t₂.range) ∧
    LRel P s t₁.children t₂.children

/-- related everywhere except at `idx`, where the tokens are `TokRel` -/
def Decomp (P : Par) (s : Bool) (idx rem : Nat) (l₁ l₂ : List Node) : Prop :=
  ∃ pre₁ t₁ post₁ pre₂ t₂ post₂, l₁ = pre₁ ++ [t₁] ++ post₁ ∧ l₂ = pre₂ ++ [t₂] ++ post₂ ∧
    pre₁.length = idx ∧ LRel P s pre₁ pre₂ ∧ TokRel P s rem t₁ t₂ ∧ LRel P s post₁ post₂

def CRel (P : Par) (s : Bool) (idx rem : Nat) (l₁ l₂ : List Node) : Prop :=
  (0 < rem → Decomp P s idx rem l₁ l₂) ∧ (rem = 0 → LRel P s l₁ l₂)

theorem LRel.of_append {s : Bool} : ∀ {a c l₂ : List Node}, LRel P s (a ++ c) l₂ →
    ∃ b d, l₂ = b ++ d ∧ LRel P s a b ∧ LRel P s c d
  | [], c, l₂, h => ⟨[], l₂, rfl, by simp, by simp at h; exact h⟩
  | x :: a, c, [], h => absurd h (by simp)
  | x :: a, c, y :: l₂, h => by
    simp only [List.cons_append, LRel_cons_cons] at h
    obtain ⟨b, d, rfl, hb, hd⟩ := LRel.of_append h.2
    exact ⟨y :: b, d, rfl, by simp [h.1, hb], hd⟩

theorem decomp_of_LRel {s : Bool} {l₁ l₂ : List Node} {idx : Nat} {tok : Node} {op : Marker}
    (h : LRel P s l₁ l₂) (ht : l₁[idx]? = some tok) (hm : tok.asMarker = some op) :
    Decomp P s idx op.remaining l₁ l₂ := by
  obtain ⟨e, hlen⟩ := split_at_getElem? ht
  rw [e] at h
  obtain ⟨b, post₂, rfl, hb, hpost⟩ := LRel.of_append h
  obtain ⟨pre₂, b', rfl, hpre, hb'⟩ := LRel.of_append hb
  match b', hb' with
  | [t₂], hb' =>
    simp only [LRel_cons_cons] at hb'
    have hn := hb'.1
    refine ⟨_, tok, _, pre₂, t₂, post₂, e, rfl, hlen, hpre, ⟨hn.val.symm, hn.range, ?_, hn.children⟩, hpost⟩
    have := hn.extra
    rw [asMarker_val hm] at this
    exact xrel_toVal.mp this
  | [], hb' => exact absurd hb' (by simp)
  | _ :: _ :: _, hb' =>
    simp only [LRel_cons_cons] at hb'
    exact absurd hb'.2 (by simp)

theorem take_mid {α : Type} {pre : List α} {idx : Nat} (h : pre.length = idx) (t : α) (post : List α) :
    (pre ++ [t] ++ post).take (idx + 1) = pre ++ [t] := by
  subst h
  induction pre with
  | nil => simp
  | cons x pre ih => simpa using ih

theorem drop_mid {α : Type} {pre : List α} {idx : Nat} (h : pre.length = idx) (t : α) (post : List α) :
    (pre ++ [t] ++ post).drop (idx + 1) = post := by
  subst h
  induction pre with
  | nil => simp
  | cons x pre ih => simp

mutual
/-- related trees carry the same `EmphDepth` (it is a function of the values and the shape) -/
theorem NRel.wrapDepth_eq {s : Bool} : ∀ (a b : Node), NRel P s a b → wrapDepth b = wrapDepth a
  | ⟨v₁, r₁, cs₁⟩, ⟨v₂, r₂, cs₂⟩, h => by
    simp only [NRel] at h
    obtain ⟨rfl, _, _, hc⟩ := h
    have := LRel.wrapDepthList_eq cs₁ cs₂ hc
    cases v₁ <;> simp [wrapDepth, this]
theorem LRel.wrapDepthList_eq {s : Bool} :
    ∀ (l₁ l₂ : List Node), LRel P s l₁ l₂ → wrapDepthList l₂ = wrapDepthList l₁
  | [], l₂, h => by simp only [LRel] at h; subst h; rfl
  | a :: as, [], h => by simp at h
  | a :: as, b :: bs, h => by
    simp only [LRel_cons_cons] at h
    simp only [wrapDepthList, NRel.wrapDepth_eq a b h.1, LRel.wrapDepthList_eq as bs h.2]
end

/-- cutting `ml` delimiters off the START of the closer's range keeps the token invariant (for
    `rem - ml`), and the cut point is the translation of ONE inline position under both tables -/
theorem crStep_tok {s : Bool} {cr₁ cr₂ : Option (Nat × Nat)} {rem : Nat} (ml : Nat) (hml : ml ≤ rem)
    (h : s = true → P.track → TokInv P rem cr₁ cr₂) :
    (s = true → P.track → TokInv P (rem - ml) (crStep cr₁ ml).1 (crStep cr₂ ml).1) ∧
    (s = true → P.track → ∃ q, P.lim q ∧ getSourcePosFor P.m₁ q = .ok (crStep cr₁ ml).2 ∧
      getSourcePosFor P.m₂ q = .ok (crStep cr₂ ml).2) := by
  refine ⟨fun hs ht => ?_, fun hs ht => ?_⟩
  · obtain ⟨p, a₁, a₂, rfl, rfl, hsh, hcn, hb⟩ := h hs ht
    refine ⟨p + ml, a₁ + ml, a₂ + ml, ?_, ?_, ?_, ?_, P.lim_mono (by omega) hb⟩
    · simp only [crStep]; congr 2; omega
    · simp only [crStep]; congr 2; omega
    · intro j hj
      have := hsh (ml + j) (by omega)
      simpa only [Nat.add_assoc] using this
    · intro j hj
      have := hcn (ml + j) (by omega)
      simpa only [Nat.add_assoc] using this
  · obtain ⟨p, a₁, a₂, rfl, rfl, hsh, hcn, hb⟩ := h hs ht
    exact ⟨p + ml, P.lim_mono (by omega) hb, by simpa only [crStep] using (hsh ml hml).1,
      by simpa only [crStep] using (hsh ml hml).2⟩

/-- cutting `ml` delimiters off the END of the opener's range -/
theorem cutTok_sim {s : Bool} {o₁ o₂ : Node} {ml rem : Nat} {r : Node × Nat} (hn : TokRel P s rem o₁ o₂)
    (hml : ml ≤ rem) (h : cutTok o₁ ml = .ok r) :
    Sim s (fun r r' => TokRel P s (rem - ml) r.1 r'.1 ∧ (s = true → r.2 ≤ r'.2) ∧
      (s = true → P.track → 1 ≤ ml → ∃ p, StartAt P.good P.c p ∧ getSourcePosFor P.m₁ p = .ok r.2 ∧
        getSourcePosFor P.m₂ p = .ok r'.2)) r (cutTok o₂ ml) := by
  obtain ⟨hv, hr, hx, hch⟩ := hn
  cases s with
  | false =>
    -- nothing is claimed about ranges: whatever side 2 answers is related
    have hf : ∀ (a b : Node), a.val = b.val → LRel P false a.children b.children →
        TokRel P false (rem - ml) a b :=
      fun a b h1 h2 => ⟨h1, RRel.false _ _, (fun h => by cases h), h2⟩
    have hr1 : r.1.val = o₁.val ∧ r.1.children = o₁.children := by
      revert h; fun_cases cutTok o₁ ml <;> intro h <;> cases h <;> exact ⟨rfl, rfl⟩
    fun_cases cutTok o₂ ml
    · rfl
    · exact ⟨hf _ _ (hr1.1.trans hv) (hr1.2 ▸ hch), (fun h => by cases h), (fun h => by cases h)⟩
    · exact ⟨hf _ _ (hr1.1.trans hv) (hr1.2 ▸ hch), (fun h => by cases h), (fun h => by cases h)⟩
  | true =>
    have hro := hr rfl
    revert h
    fun_cases cutTok o₁ ml
    · intro h; cases h
    · next a b hr1 hb =>
      intro h; cases h
      rw [hr1] at hro
      fun_cases cutTok o₂ ml
      · next c d hr2 hd => rw [hr2] at hro; simp only [ROrd] at hro; omega
      · next c d hr2 hd =>
        rw [hr2] at hro; simp only [ROrd] at hro
        -- where `Extra` is maintained the two ranges are `[a, a + rem]`, `[c, c + rem]`
        have hshape : P.track → ∃ p, b = a + rem ∧ d = c + rem ∧
            (∀ j, j ≤ rem → getSourcePosFor P.m₁ (p + j) = .ok (a + j) ∧
              getSourcePosFor P.m₂ (p + j) = .ok (c + j)) ∧
            (∀ j, j < rem → StartAt P.good P.c (p + j)) ∧ P.lim (p + rem) := by
          intro ht
          obtain ⟨p, a₁, a₂, e1, e2, hsh, hcn, hlim⟩ := hx rfl ht
          rw [hr1] at e1; rw [hr2] at e2
          simp only [Option.some.injEq, Prod.mk.injEq] at e1 e2
          obtain ⟨rfl, rfl⟩ := e1
          obtain ⟨rfl, rfl⟩ := e2
          exact ⟨p, rfl, rfl, hsh, hcn, hlim⟩
        refine ⟨⟨hv, RRel.some (fun _ => hro.1) (fun _ => by omega), fun _ ht => ?_, hch⟩,
          fun _ => by simp only []; omega, fun _ ht h1 => ?_⟩
        · obtain ⟨p, eb, ed, hsh, hcn, hlim⟩ := hshape ht
          exact ⟨p, a, c, by show some (a, b - ml) = _; rw [eb, Nat.add_sub_assoc hml],
            by show some (c, d - ml) = _; rw [ed, Nat.add_sub_assoc hml],
            fun j hj => hsh j (Nat.le_trans hj (Nat.sub_le _ _)),
            fun j hj => hcn j (Nat.lt_of_lt_of_le hj (Nat.sub_le _ _)),
            P.lim_mono (Nat.add_le_add_left (Nat.sub_le _ _) _) hlim⟩
        · obtain ⟨p, eb, ed, hsh, hcn, hlim⟩ := hshape ht
          have hlt : rem - ml < rem := Nat.sub_lt (Nat.lt_of_lt_of_le h1 hml) h1
          refine ⟨p + (rem - ml), hcn _ hlt, ?_, ?_⟩
          · show _ = Except.ok (b - ml); rw [eb, Nat.add_sub_assoc hml]; exact (hsh _ (Nat.sub_le _ _)).1
          · show _ = Except.ok (d - ml); rw [ed, Nat.add_sub_assoc hml]; exact (hsh _ (Nat.sub_le _ _)).2
      · next hr2 => rw [hr2] at hro; simp [ROrd] at hro
    · next hr1 =>
      intro h; cases h
      rw [hr1] at hro
      have hno : ¬ P.track := fun ht => by
        obtain ⟨p, a₁, a₂, e1, _⟩ := hx rfl ht
        rw [hr1] at e1; cases e1
      fun_cases cutTok o₂ ml
      · next c d hr2 hd => rw [hr2] at hro; simp [ROrd] at hro
      · next c d hr2 hd => rw [hr2] at hro; simp [ROrd] at hro
      · exact ⟨⟨hv, hr, fun _ ht => absurd ht hno, hch⟩, fun _ => Nat.le_refl _, fun _ ht => absurd ht hno⟩
theorem matchInner_sim {s : Bool} (fns : Nat → Option Wrap) (mk : Char) (room idx : Nat) :
    ∀ (fuel : Nat) (opener : Marker) (x y : MatchSt) (r : Marker × MatchSt), MSRelC P s x y →
      CRel P s idx opener.remaining x.children y.children →
      matchInner fns mk room idx fuel opener x = .ok r →
      Sim s (fun r r' => r'.1 = r.1 ∧ MSRelC P s r.2 r'.2 ∧
          CRel P s idx r.1.remaining r.2.children r'.2.children) r
        (matchInner fns mk room idx fuel opener y) := by
  intro fuel
  induction fuel with
  | zero =>
    intro opener x y r rel crel h
    simp only [matchInner, Except.ok.injEq] at h ⊢; subst h; exact ⟨rfl, rel, crel⟩
  | succ n ih =>
    intro opener x y r rel crel h
    obtain ⟨cr, cs, rfl, hr, hcl⟩ := rel.out
    simp only [] at crel
    rw [matchInner_succ] at h ⊢
    simp only [] at h ⊢
    split at h
    · next hrem =>
      rw [if_pos hrem]
      -- the nesting-limit `break`: `inner_depth` is the same on both sides
      split at h
      · next hdep =>
        rw [if_pos hdep]
        simp only [Except.ok.injEq] at h; subst h; exact ⟨rfl, rel, crel⟩
      next hdep =>
      rw [if_neg hdep]
      split at h
      · simp only [Except.ok.injEq] at h; subst h; exact ⟨rfl, rel, crel⟩
      · next ml w hpick =>
        have hml := pickLen_le hpick
        split at h
        · simp at h
        · next hu =>
          rw [if_neg hu]
          obtain ⟨pre₁, t₁, post₁, pre₂, t₂, post₂, e₁, e₂, hlen, hpre, htok, hpost⟩ := crel.1 hrem.2
          have hlen2 : pre₂.length = idx := by rw [← hpre.length]; exact hlen
          subst e₂
          rw [e₁] at h
          rw [if_neg (by simp only [List.length_append, List.length_cons, List.length_nil]; omega)] at h
          rw [if_neg (by simp only [List.length_append, List.length_cons, List.length_nil]; omega)]
          rw [take_mid hlen, popLast_snoc, drop_mid hlen] at h
          rw [take_mid hlen2, popLast_snoc, drop_mid hlen2]
          simp only [] at h ⊢
          split at h
          · simp at h
          · next otok' smp hcut =>
            rcases (cutTok_sim htok (by omega) hcut).cases with ⟨⟨ot₂, sp₂⟩, e2, hrn, hrs, hsp⟩ | ⟨hs, e, e2⟩
            · rw [e2]; simp only []
              have hcr := crStep_rel ml hr
              have hct := crStep_tok ml (by omega) hcl
              simp only [] at hrn hrs hsp
              have hwrap : NRel P s
                  { val := .wrap w mk, range := some (smp, (crStep x.closerRange ml).2), children := post₁ }
                  { val := .wrap w mk, range := some (sp₂, (crStep cr ml).2), children := post₂ } := by
                refine NRel.mk' (RRel.some hrs hcr.2) (fun hs ht => ?_) hpost
                obtain ⟨p, hp0, hp1, hp2⟩ := hsp hs ht hml.1
                obtain ⟨q, hq0, hq1, hq2⟩ := hct.2 hs ht
                exact ⟨p, q, _, _, _, _, rfl, rfl, hq0, hp0, hp1, hq1, hp2, hq2⟩
              refine ih _ _ _ _ ?_ ?_ h
              · exact MSRelC.mk' (x := { closer := _, closerRange := _, children := _, newMin := 0,
                                          innerDepth := _ }) hcr.1 hct.1
              · simp only []
                constructor
                · intro hpos
                  have hne : ¬ (opener.remaining - ml = 0) := by omega
                  rw [if_neg hne, if_neg hne]
                  exact ⟨pre₁, otok', _, pre₂, ot₂, _, rfl, rfl, hlen, hpre, hrn, LRel.single hwrap⟩
                · intro h0
                  rw [if_pos h0, if_pos h0]
                  exact hpre.snoc hwrap
            · rw [e2]; exact hs
    · next hrem =>
      rw [if_neg hrem]
      simp only [Except.ok.injEq] at h; subst h; exact ⟨rfl, rel, crel⟩

/-- writing the tracked opener back restores the plain list relation -/
theorem replaceAt_sim {s : Bool} {c₁ c₂ o₁ : List Node} {idx : Nat} {mkr : Marker}
    (hc : Decomp P s idx mkr.remaining c₁ c₂)
    (h : replaceAt c₁ idx mkr = .ok o₁) : Sim s (LRel P s) o₁ (replaceAt c₂ idx mkr) := by
  obtain ⟨pre₁, t₁, post₁, pre₂, t₂, post₂, rfl, rfl, hlen, hpre, htok, hpost⟩ := hc
  have hlen2 : pre₂.length = idx := by rw [← hpre.length]; exact hlen
  unfold replaceAt at h ⊢
  subst hlen
  rw [getElem?_mid] at h
  simp only [set_mid] at h
  rw [← hlen2, getElem?_mid]
  simp only [set_mid]
  simp only [Except.ok.injEq] at h; subst h
  obtain ⟨hv, hr, hx, hch⟩ := htok
  exact (hpre.snoc (NRel.mk' hr (xrel_toVal.mpr hx) hch)).append hpost

theorem matchOuter_sim {s : Bool} (fns : Nat → Option Wrap) (mk : Char) (room minIdx : Nat) :
    ∀ (k : Nat) (x y r : MatchSt), MSRel P s x y → matchOuter fns mk room minIdx k x = .ok r →
      Sim s (MSRel P s) r (matchOuter fns mk room minIdx k y) := by
  intro k
  induction k with
  | zero =>
    intro x y r rel h
    simp only [matchOuter, Except.ok.injEq] at h ⊢; subst h; exact rel
  | succ k ih =>
    intro x0 y0 r rel0 h
    -- the read of `children[idx + 1]`: related nodes carry the same `EmphDepth`, so `inner_depth`
    -- stays the same on both sides
    rw [matchOuter_succ] at h ⊢
    split at h
    · simp at h
    next nxt hnxt =>
    obtain ⟨nxt₂, hnxt₂, hnrel⟩ := rel0.ch.getElem? _ hnxt
    rw [hnxt₂]; simp only []
    have hid : y0.innerDepth = x0.innerDepth := by obtain ⟨cr, cs, rfl, _, _, _⟩ := rel0.out; rfl
    rw [hid, NRel.wrapDepth_eq _ _ hnrel]
    have rel' : MSRel P s { x0 with innerDepth := max x0.innerDepth (wrapDepth nxt) }
        { y0 with innerDepth := max x0.innerDepth (wrapDepth nxt) } := by
      obtain ⟨cr, cs, rfl, hr, hcl, hc⟩ := rel0.out
      exact MSRel.mk' (x := { x0 with innerDepth := _ }) hr hcl hc
    generalize ({ x0 with innerDepth := max x0.innerDepth (wrapDepth nxt) } : MatchSt) = x at h rel'
    generalize ({ y0 with innerDepth := max x0.innerDepth (wrapDepth nxt) } : MatchSt) = y at rel' ⊢
    have rel := rel'
    clear rel' hid hnrel hnxt₂ hnxt rel0
    unfold matchOuterBody at h ⊢
    simp only [] at h ⊢
    split at h
    · simp at h
    · next tok htok =>
      obtain ⟨tok₂, htok₂, hrel⟩ := rel.ch.getElem? _ htok
      rw [htok₂]; simp only [hrel.asMarker]
      have hcl : y.closer = x.closer := by obtain ⟨cr, cs, rfl, _, _, _⟩ := rel.out; rfl
      rw [hcl]
      split at h
      · exact ih _ _ _ rel h
      · next opener hop =>
        split at h
        · simp at h
        · next opener' ms' hgo =>
          have crel0 : CRel P s (minIdx + k) opener.remaining x.children y.children :=
            ⟨fun _ => decomp_of_LRel rel.ch htok hop, fun _ => rel.ch⟩
          have hgo2 : Sim s (fun r r' => r'.1 = r.1 ∧ MSRelC P s r.2 r'.2 ∧
                CRel P s (minIdx + k) r.1.remaining r.2.children r'.2.children) (opener', ms')
              (if (opener.open_ && opener.marker == x.closer.marker && !isOddMatch opener x.closer) = true then
                matchInner fns mk room (minIdx + k) x.closer.remaining opener y
              else .ok (opener, y)) := by
            split at hgo
            · next hif => rw [if_pos hif]; exact matchInner_sim fns mk _ _ _ _ _ _ _ rel.core crel0 hgo
            · next hif =>
              rw [if_neg hif]
              simp only [Except.ok.injEq, Prod.mk.injEq] at hgo
              obtain ⟨rfl, rfl⟩ := hgo; exact ⟨rfl, rel.core, crel0⟩
          rcases hgo2.cases with ⟨⟨op₂, ms₂⟩, e2, hop2, hms, hcr⟩ | ⟨hs, e, e2⟩
          · rw [e2]; simp only [] at hop2 hms hcr ⊢
            subst hop2
            split at h
            · next hrem =>
              rw [if_pos hrem]
              split at h
              · simp at h
              · next cs' hrep =>
                rcases (replaceAt_sim (hcr.1 hrem) hrep).cases with ⟨cs₂, e3, hcs⟩ | ⟨hs, e, e3⟩
                · rw [e3]; simp only []
                  refine ih _ _ _ ?_ h
                  obtain ⟨cr, cs, rfl, hr', hcl'⟩ := hms.out
                  exact MSRel.mk' (x := { ms' with children := cs' }) hr' hcl' hcs
                · rw [e3]; exact hs
            · next hrem =>
              rw [if_neg hrem]
              exact ih _ _ _ ⟨hms, hcr.2 (by omega)⟩ h
          · rw [e2]; exact hs

/-- the outer loop of the delimiter matching returns on the children `c₂` (closer last), whatever the
    bottom -/
def OuterRet (fns : Nat → Option Wrap) (mk : Char) (room : Nat) (c₂ : List Node) : Prop :=
  ∀ i₂ x₂ closer minIdx, popLast c₂ = some (i₂, x₂) → x₂.asMarker = some closer → i₂.length ≠ 0 →
    ∃ ms', matchOuter fns mk room minIdx (i₂.length - 1 - minIdx)
      { closer := closer, closerRange := x₂.range, children := i₂, newMin := i₂.length - 1 } = .ok ms'

/-- `scan_and_match_delimiters`.  The outer loop on side 2 subtracts marker lengths from source ends: no
    underflow when the ranges are ordered (`s`), or when that loop is known to return (`hmo2`). -/
theorem scanAndMatch_sim {t s : Bool} (fns : Nat → Option Wrap) (mk : Char) {room : Nat}
    {c₁ c₂ : List Node}
    (bt : List (Char × List Nat)) {r : List Node × List (Char × List Nat)} (hc : LRel P s c₁ c₂)
    (hmo2 : t = true → s = true ∨ OuterRet fns mk room c₂)
    (h : scanAndMatch fns mk room c₁ bt = .ok r) :
    Sim t (fun r r' => LRel P s r.1 r'.1 ∧ r'.2 = r.2) r (scanAndMatch fns mk room c₂ bt) := by
  unfold scanAndMatch at h ⊢
  rw [← hc.length]
  split at h
  · next hl => simp only [Except.ok.injEq] at h; subst h; rw [if_pos hl]; exact ⟨hc, rfl⟩
  · next hl =>
    rw [if_neg hl]
    split at h
    · simp at h
    · next init ctok hp =>
      obtain ⟨i₂, x₂, hp2, hi, hx⟩ := hc.popLast_some hp
      rw [hp2]; simp only [hx.asMarker, ← hi.length]
      split at h
      · simp at h
      · next closer hcl =>
        generalize ((if closer.open_ = true then 1 else 0) * 3 + closer.length % 3) = param at h ⊢
        simp only [] at h
        cases hmin : (bottomsGet bt mk)[param]? with
        | none => rw [hmin] at h; simp at h
        | some minIdx =>
          rw [hmin] at h
          simp only [] at h ⊢
          split at h
          · simp at h
          · next hil =>
            rw [if_neg hil]
            split at h
            · simp at h
            · next ms hmo =>
              have hxe : s = true → P.track → TokInv P closer.remaining ctok.range x₂.range := by
                have := hx.extra
                rw [asMarker_val hcl] at this
                exact xrel_toVal.mp this
              have rel0 : MSRel P s
                  { closer := closer, closerRange := ctok.range, children := init, newMin := init.length - 1 }
                  { closer := closer, closerRange := x₂.range, children := i₂, newMin := init.length - 1 } :=
                MSRel.mk' (x := { closer := closer, closerRange := ctok.range, children := init,
                                  newMin := init.length - 1 }) hx.range hxe hi
              rcases (matchOuter_sim fns mk _ _ _ _ _ _ rel0 hmo).cases with ⟨ms₂, e2, hms⟩ | ⟨hs, e, e2⟩
              · rw [e2]; simp only []
                obtain ⟨cr, cs, rfl, hr', hcl', hc'⟩ := hms.out
                simp only [] at h ⊢
                split at h
                · next hrem =>
                  rw [if_pos hrem]
                  simp only [Except.ok.injEq] at h; subst h
                  exact ⟨hc'.snoc (NRel.mk' hr' (xrel_toVal.mpr hcl') hx.children), rfl⟩
                · next hrem =>
                  rw [if_neg hrem]
                  simp only [Except.ok.injEq] at h; subst h
                  exact ⟨hc', rfl⟩
              · rw [e2]
                cases t with
                | false => rfl
                | true =>
                  rcases hmo2 rfl with hs' | htot
                  · rw [hs] at hs'; cases hs'
                  · obtain ⟨ms', e'⟩ := htot i₂ x₂ closer minIdx hp2 (hx.asMarker.trans hcl)
                      (by rw [← hi.length]; exact hil)
                    rw [← hi.length, e2] at e'; cases e'

/-! ## the emphasis rule (uses `scanAndMatch_sim` as a black box); the marker is one byte and `good` -/

theorem ruleEmph_sim {t s : Bool} {cfg : Cfg} {mk : Char} {csw : Bool}
    (hmk : P.track → mk.utf8Size = 1 ∧ P.good mk) {a b : IState} {silent : Bool}
    {r : Option Nat × IState} (rel : IRel P s a b) (hT : silent = false → Tight t s b.srcmap)
    (hmo2 : silent = false → t = true → s = true ∨ ∀ w d rg, b.window = .ok (mk :: w) →
      scanDelims cfg b.src b.posMax b.pos csw = .ok d → b.getMap b.pos (b.pos + d.length) = .ok rg →
      OuterRet (cfg.fns mk) mk (cfg.maxNesting - b.level)
        (b.children ++ [Node.leaf (.emphMarker mk d.length d.length d.canOpen d.canClose) (some rg)]))
    (h : ruleEmph cfg mk csw a silent = .ok r) :
    Sim t (ORel P s) r (ruleEmph cfg mk csw b silent) := by
  obtain ⟨m, cs, rfl, hm, hc⟩ := rel.out
  have htk : P.track → ∀ {c : Char} {w : List Char} {d : DelimRun} {r₁ r₂ : Nat × Nat},
      a.window = .ok (c :: w) → ¬ c ≠ mk → scanDelims cfg a.src a.posMax a.pos csw = .ok d →
      GM a.srcmap m a.pos (a.pos + d.length) r₁ r₂ → TokInv P d.length (some r₁) (some r₂) := by
    intro ht c w d r₁ r₂ hw hcm hsd hg
    obtain ⟨⟨k, hv1⟩, hv2, hv3⟩ := emph_run (hmk ht).1 (hmk ht).2 hw (by simpa using hcm) hsd
    obtain ⟨k1, k2, k3, _⟩ := rel.ks
    simp only [] at k3
    rw [k1] at hv1 hv2 hv3
    rw [k2, k3] at hg
    exact tokInv_of_GM ht hv1 (hmk ht).2 hv2 (P.lim_mono hv3 P.lim_len) hg
  unfold ruleEmph IState.push at h ⊢
  have hw2 : IState.window { a with srcmap := m, children := cs } = a.window := rfl
  rw [hw2]
  simp only [] at h ⊢
  repeat' split at h
  all_goals try (simp at h; done)
  all_goals (simp only [Except.ok.injEq] at h; subst h)
  all_goals try simp only [*, ↓reduceIte, Bool.false_eq_true, ne_eq, not_false_eq_true]
  all_goals first
    | exact ⟨rfl, rel⟩
    | skip
  · rename_i hw hcm _ _ hsd _ _ hg hcc _ _ _ hsm
    rw [hcc] at hsm
    have hsil : silent = false := by simpa using ‹¬silent = true›
    rcases (getMapSt_sim (cs := cs) hm (hT hsil) hg).cases with ⟨r₂, e2, hr⟩ | ⟨hs, e, e2⟩
    · simp only [e2]
      have hcm' : _ = mk := Decidable.not_not.mp hcm
      rcases (scanAndMatch_sim (cfg.fns mk) mk a.bottoms
          (hc.snoc (leaf_rel (Val.emphMarker mk _ _ _ _) hr.1 (fun _ ht => htk ht hw hcm hsd hr.2)))
          (fun ht => (hmo2 hsil ht).imp id fun H => by
            have := H _ _ _ (hcm' ▸ hw) hsd e2
            rwa [hcc] at this) hsm).cases with
        ⟨⟨cs₂, b₂⟩, e3, hcs, hb⟩ | ⟨hs, e, e3⟩
      · simp only [e3]
        simp only [] at hb hcs
        subst hb
        exact ⟨rfl, IRel.mk' (a := { a with children := _, bottoms := _ }) hm hcs rel.ks⟩
      · simp only [e3]; exact hs
    · simp only [e2]; exact hs
  · rename_i hw hcm _ _ hsd _ _ hg _
    rcases (getMapSt_sim (cs := cs) hm (hT (by simpa using ‹¬silent = true›)) hg).cases with ⟨r₂, e2, hr⟩ | ⟨hs, e, e2⟩
    · simp only [e2]
      exact ⟨rfl, IRel.mk' (a := { a with children := _ }) hm
        (hc.snoc (leaf_rel (Val.emphMarker mk _ _ _ _) hr.1 (fun _ ht => htk ht hw hcm hsd hr.2))) rel.ks⟩
    · simp only [e2]; exact hs

end MdIt.Inline.XG
