/-
  Two runs of the block parser in lock step: the four block rules without call-backs
  (thematic break, ATX heading, indented code, fence) on `SRel`-related states.  Thematic break, ATX heading
  and fence are the walks of `Lemmas/BlockReads.lean` (`SRel.reads`: what two `SRel`-related states answer;
  `res`: a `Step` read back into `SRel`).  Indented code is walked here: the start of the block,
  `line_start + first` of its first line, is the same distance `first ≤ first_nonspace - line_start` from the line
  start on both sides (`getLines_head_sim`), and its `debug_assert!` cannot fire on either side because the lines
  of a table are in increasing order (`code_assert_ok`).
-/
import MdIt.Lemmas.BlockReads

namespace MdIt.Block.LX.Sim
open MdIt.Block.LE (FRel frel_pure frel_err frel_bind frel_bind_ok frel_bind_same frel_ite geom IncT Geo MRel MRel.single)
open MdIt.Lines (LineOffset)
open MdIt.Block.LX.Y (RgRel Live)
variable {R : Rels} {G : Geo} {s₁ s₂ : BState}

/-! ## the states as `Reads` -/

theorem SRel.reads (C : Ctx R G) (S : SRel R G s₁ s₂) :
    Rd.Reads (· = .fuel) R (fun _ => True) (fun _ => True) s₁ s₂ where
  line := S.line
  lineMax := S.lineMax
  refs := S.refs
  up := fun _ _ _ => trivial
  indent := fun n _ => S.lineIndent n
  text := S.getLine
  empty := S.isEmpty
  map := fun a b hne => frel_iff.mp (S.getMap C a b hne)
  lines := fun b e keep _ _ => by rw [S.blkIndent]; exact frel_iff.mp (S.getLines b e _ keep)
  off := fun n _ => (frel_iff.mp (S.off n)).mono fun o₁ o₂ he => ⟨by rw [he.indent], fun x hx => he.first_add x hx⟩

theorem SRel.step (S : SRel R G s₁ s₂) {t₁ t₂ : BState} (T : Rd.Step R s₁ s₂ t₁ t₂) : SRel R G t₁ t₂ := by
  obtain ⟨c₁, c₂, h1, h2, hc⟩ := T.kids
  refine S.upd ⟨T.fr₁.src, T.fr₁.offs⟩ ⟨T.fr₂.src, T.fr₂.offs⟩ ?_ T.line ?_ ?_ ?_ ?_ ?_ T.refs ?_
  · rw [T.fr₂.blkIndent, T.fr₁.blkIndent, S.blkIndent]
  · rw [T.fr₂.lineMax, T.fr₁.lineMax, S.lineMax]
  · rw [T.tight₂, T.tight₁, S.tight]
  · rw [T.fr₂.listIndent, T.fr₁.listIndent, S.listIndent]
  · rw [T.fr₂.level, T.fr₁.level, S.level]
  · rw [T.fr₂.nodeKind, T.fr₁.nodeKind, S.nodeKind]
  · rw [h1, h2]; exact S.children.append hc

/-- a result of a walk of `Lemmas/BlockReads.lean` read back -/
theorem res {x y : Res} (h : XRel (· = .fuel) (Rd.RRelS (SRel R G) R) x y) : FRel (ResRel R G) x y :=
  frel_iff.mpr (h.mono fun _ _ hr => let ⟨_, _, S, T⟩ := hr.2; ⟨hr.1, S.step T⟩)

theorem hr_sim (C : Ctx R G) (S : SRel R G s₁ s₂) (silent : Bool) (hne : R.strict → silent = false → Live s₁) :
    FRel (ResRel R G) (hrRule s₁ silent) (hrRule s₂ silent) :=
  res ((Rd.hr_reads (.of_kok C.toKOk) (S.reads C) trivial silent hne).mono fun _ _ => Rd.RRel.toS S)

theorem heading_sim (C : Ctx R G) (S : SRel R G s₁ s₂) (silent : Bool) (hne : R.strict → silent = false → Live s₁) :
    FRel (ResRel R G) (headingRule s₁ silent) (headingRule s₂ silent) :=
  res ((Rd.heading_reads (.of_kok C.toKOk) (S.reads C) trivial silent hne).mono fun _ _ => Rd.RRel.toS S)

theorem fence_sim (C : Ctx R G) (S : SRel R G s₁ s₂) (silent : Bool) (hne : R.strict → silent = false → Live s₁) :
    FRel (ResRel R G) (fenceRule s₁ silent) (fenceRule s₂ silent) :=
  res ((Rd.fence_reads (.of_kok C.toKOk) (S.reads C) trivial silent hne fun _ _ e _ o₁ o₂ _ ho₁ ho₂ => by
    obtain ⟨o, ho, he⟩ := S.off_ok ho₁
    cases ho₂.symm.trans ho
    rw [he.indent]
    exact (frel_iff.mp (S.getLines _ e _ true)).mono fun _ _ h => h.1).mono fun _ _ => Rd.RRel.toS S)

/-! ## indented code -/

/-- the table passed through the loop of `get_lines` keeps what it already holds -/
theorem getLinesGo_prefix (src : List Char) (offs : List LineOffset) (e indent : Nat) (keep : Bool) :
    ∀ (k line : Nat) (result : List Char) (m : List (Nat × Nat)) (c : List Char) (m' : List (Nat × Nat)),
      e - line = k → Lines.getLinesGo src offs e indent keep line result m = .ok (c, m') → ∃ t, m' = m ++ t := by
  intro k
  induction k with
  | zero =>
    intro line result m c m' hk h
    rw [Lines.getLinesGo, if_neg (by omega)] at h
    cases h; exact ⟨[], by simp⟩
  | succ k ih =>
    intro line result m c m' hk h
    rw [Lines.getLinesGo, if_pos (by omega)] at h
    cases ho : offs[line]? with
    | none => rw [ho] at h; cases h
    | some o =>
      rw [ho] at h; simp only at h
      cases hws : Lines.slice src o.lineStart o.firstNonspace with
      | error e => rw [hws] at h; cases h
      | ok ws =>
        rw [hws] at h; simp only at h
        generalize Lines.calcRightWs ws (o.indentNonspace - Lines.usizeAsI32 indent) = p at h
        obtain ⟨ns, first⟩ := p
        simp only at h
        cases ht : Lines.slice src (o.lineStart + first) o.lineEnd with
        | error e => rw [ht] at h; cases h
        | ok t =>
          rw [ht] at h; simp only at h
          obtain ⟨t', ht'⟩ := ih (line + 1) _ _ _ _ (by omega) h
          by_cases hns : ns > 0
          · rw [if_pos hns] at ht'
            exact ⟨[(Lines.byteLen result, o.lineStart + first)] ++
              [(Lines.byteLen (result ++ List.replicate ns ' '), o.lineStart + first)] ++ t', by
                rw [ht']; simp only [List.append_assoc]⟩
          · rw [if_neg hns] at ht'
            exact ⟨[(Lines.byteLen result, o.lineStart + first)] ++ t', by
              rw [ht']; simp only [List.append_assoc]⟩

/-- the `debug_assert!` of `get_map_from_offsets` in `code.rs` cannot fire on a table whose lines are
    in increasing order: an offset not behind `first_nonspace` of line `b` is not behind the end of a
    line `e - 1 ≥ b` -/
theorem code_assert_ok {T : List (Nat × Nat)} (hT : IncT T) {s : BState} (hg : s.offs.map geom = T)
    (hord : ∀ (n : Nat) (o : LineOffset), s.offs[n]? = some o → o.lineStart ≤ o.firstNonspace ∧ o.firstNonspace ≤ o.lineEnd)
    {b e : Nat} (hbe : b < e) {ob o : LineOffset} (hob : s.offs[b]? = some ob) (ho : s.offs[e - 1]? = some o)
    {m : Nat} (hm : m ≤ ob.firstNonspace) : ¬ m > o.lineEnd := by
  have hb := hord b ob hob
  have he := hord (e - 1) o ho
  by_cases hlt : b < e - 1
  · have g1 : T[b]? = some (geom ob) := by rw [← hg]; simp [hob]
    have g2 : T[e - 1]? = some (geom o) := by rw [← hg]; simp [ho]
    have := hT b (e - 1) _ _ hlt g1 g2
    simp only [geom] at this
    omega
  · have : b = e - 1 := by omega
    rw [← this, hob] at ho
    cases ho
    omega

/-- the first entries of the tables `get_lines` returns on two related states: the same distance
    `first` from the two line starts, not behind `first_nonspace`, on a character boundary -/
theorem getLines_head_sim (S : SRel R G s₁ s₂) {b e indent : Nat} {keep : Bool}
    {c₁ c₂ : List Char} {x y : Nat × Nat} {r₁ r₂ : List (Nat × Nat)}
    (h₁ : s₁.getLines b e indent keep = .ok (c₁, x :: r₁)) (h₂ : s₂.getLines b e indent keep = .ok (c₂, y :: r₂)) :
    b < e ∧ ∃ o₁ o₂ first, s₁.offs[b]? = some o₁ ∧ s₂.offs[b]? = some o₂ ∧
      x.2 = o₁.lineStart + first ∧ y.2 = o₂.lineStart + first ∧
      o₁.lineStart + first ≤ o₁.firstNonspace ∧ Lines.onBoundary G.src₁ (o₁.lineStart + first) = true := by
  have h₁ := liftL_eq_ok h₁
  have h₂ := liftL_eq_ok h₂
  unfold Lines.getLines at h₁ h₂
  split at h₁
  · cases h₁
  rw [if_neg (by assumption)] at h₂
  by_cases hbe : b < e
  · refine ⟨hbe, ?_⟩
    rw [Lines.getLinesGo, if_pos hbe] at h₁ h₂
    rcases S.get b with ⟨g1, _⟩ | ⟨o₁, o₂, g1, g2, he⟩
    · rw [g1] at h₁; cases h₁
    · rw [g1] at h₁; rw [g2] at h₂
      simp only at h₁ h₂
      rw [S.src₁] at h₁; rw [S.src₂] at h₂
      rw [he.ws, he.indent] at h₂
      refine ⟨o₁, o₂, ?_⟩
      cases hws : Lines.slice G.src₁ o₁.lineStart o₁.firstNonspace with
      | error e => rw [hws] at h₁; cases h₁
      | ok ws =>
        rw [hws] at h₁ h₂; simp only at h₁ h₂
        have hle := Lines.calc_right_le ws (o₁.indentNonspace - Lines.usizeAsI32 indent)
        generalize Lines.calcRightWs ws (o₁.indentNonspace - Lines.usizeAsI32 indent) = p at h₁ h₂ hle
        obtain ⟨ns, first⟩ := p
        simp only at h₁ h₂ hle
        rw [he.from_ first] at h₂
        refine ⟨first, g1, g2, ?_⟩
        cases ht : Lines.slice G.src₁ (o₁.lineStart + first) o₁.lineEnd with
        | error e => rw [ht] at h₁; cases h₁
        | ok t =>
          rw [ht] at h₁ h₂; simp only at h₁ h₂
          obtain ⟨t₁, ht₁⟩ := getLinesGo_prefix _ _ e indent keep _ (b + 1) _ _ _ _ rfl h₁
          obtain ⟨t₂, ht₂⟩ := getLinesGo_prefix _ _ e indent keep _ (b + 1) _ _ _ _ rfl h₂
          have hx : x = (Lines.byteLen ([] : List Char), o₁.lineStart + first) := by
            by_cases hns : ns > 0
            · rw [if_pos hns] at ht₁; simp at ht₁; exact ht₁.1
            · rw [if_neg hns] at ht₁; simp at ht₁; exact ht₁.1
          have hy : y = (Lines.byteLen ([] : List Char), o₂.lineStart + first) := by
            by_cases hns : ns > 0
            · rw [if_pos hns] at ht₂; simp at ht₂; exact ht₂.1
            · rw [if_neg hns] at ht₂; simp at ht₂; exact ht₂.1
          obtain ⟨p, q, _, hp1, hp2⟩ := Lines.slice_eq_ok_iff.mp hws
          obtain ⟨p', q', e', hp1', _⟩ := Lines.slice_eq_ok_iff.mp ht
          refine ⟨by rw [hx], by rw [hy], by omega, ?_⟩
          exact Lines.onBoundary_iff.mpr ⟨p', t ++ q', by rw [e']; simp, hp1'⟩
  · rw [Lines.getLinesGo, if_neg hbe] at h₁
    cases h₁

theorem SRel.ord₁ (S : SRel R G s₁ s₂) :
    ∀ (n : Nat) (o : LineOffset), s₁.offs[n]? = some o → o.lineStart ≤ o.firstNonspace ∧ o.firstNonspace ≤ o.lineEnd := by
  intro n o ho
  rcases S.get n with ⟨h1, _⟩ | ⟨o₁, o₂, h1, _, he⟩
  · rw [h1] at ho; cases ho
  · rw [h1] at ho; cases ho
    have := he.nums; omega

theorem SRel.ord₂ (S : SRel R G s₁ s₂) :
    ∀ (n : Nat) (o : LineOffset), s₂.offs[n]? = some o → o.lineStart ≤ o.firstNonspace ∧ o.firstNonspace ≤ o.lineEnd := by
  intro n o ho
  rcases S.get n with ⟨_, h2⟩ | ⟨o₁, o₂, _, h2, he⟩
  · rw [h2] at ho; cases ho
  · rw [h2] at ho; cases ho
    have := he.nums; omega

theorem code_sim (C : Ctx R G) (S : SRel R G s₁ s₂) (silent : Bool) (hne : R.strict → silent = false → Live s₁) :
    FRel (ResRel R G) (codeRule s₁ silent) (codeRule s₂ silent) := by
  unfold codeRule
  refine frel_ite (fun _ => frel_pure ⟨rfl, S⟩) (fun _ => ?_)
  rw [S.line, S.lineIndent]
  refine frel_bind_same _ ?_
  intro ind _
  refine frel_ite (fun _ => frel_pure ⟨rfl, S⟩) (fun _ => ?_)
  rw [Rd.codeScan_reads (S.reads C) _ _ _ rfl fun _ => trivial]
  refine frel_bind_same _ ?_
  intro last _
  simp only
  rw [S.blkIndent]
  have S' : SRel R G { s₁ with line := last } { s₂ with line := last, blkIndent := s₁.blkIndent } := by
    srel_fields S
    exact S.children
  refine frel_bind_ok (S'.getLines _ _ _ _) ?_
  intro p₁ p₂ hp₁ hp₂ hp
  obtain ⟨c₁, m₁⟩ := p₁
  obtain ⟨c₂, m₂⟩ := p₂
  obtain ⟨hc, hm⟩ := hp
  simp only at hc hm ⊢
  subst hc
  match m₁, m₂, hm, hp₁, hp₂ with
  | [], [], _, _, _ => exact frel_err _
  | [], _ :: _, hm, _, _ => exact hm.elim
  | _ :: _, [], hm, _, _ => exact hm.elim
  | x :: r₁, y :: r₂, hm, hp₁, hp₂ =>
    simp only
    refine frel_bind_same _ ?_
    intro l1 hl1
    refine frel_bind_ok (S'.off _) ?_
    intro o₁ o₂ ho₁ ho₂ he
    obtain ⟨hbe, p₁, p₂, first, hp1, hp2, hx, hy, hfirst, hbd⟩ := getLines_head_sim S' hp₁ hp₂
    obtain ⟨_, rfl⟩ := psub_ok hl1
    have hord := S'.ord₁ _ _ hp1
    have hn := (S'.ent _ _ _ hp1 hp2).nums
    have a₁ := code_assert_ok C.inc₁ S'.geo₁ S'.ord₁ hbe hp1 (off_ok ho₁) (show x.2 ≤ p₁.firstNonspace by omega)
    have a₂ := code_assert_ok C.inc₂ S'.geo₂ S'.ord₂ hbe hp2 (off_ok ho₂) (show y.2 ≤ p₂.firstNonspace by omega)
    rw [if_neg a₁, if_neg a₂]
    refine frel_pure ⟨rfl, ?_⟩
    srel_fields S'
    have := S'.rng C (show s₁.line ≤ last - 1 by omega) hp1 hp2 (off_ok ho₁) (off_ok ho₂) first (by omega)
      (fun hs => ⟨by have := lt_of_isEmpty_false (s := s₁) (hne hs (Bool.eq_false_iff.mpr ‹¬ silent = true›)).2 hp1; omega, hbd⟩)
    rw [← hx, ← hy] at this
    exact S'.children.push (NRel.mk (C.of_ne (by intro c m h; cases h)) this NRelL.nil)

end MdIt.Block.LX.Sim
