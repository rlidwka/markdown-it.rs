/-
  For `Props/MemoSafe.lean` (C01, inline pass: the guard of the guarded tokenizer never trips):
  WINDOW INDEPENDENCE of the flat rules (the rules without look-ahead recursion) in look-ahead mode.

  The `skip_token` memo is shared between frames with different `pos_max`: a verdict computed under
  `posMax = M` is reused in a nested label frame whose `posMax = M' ≤ M` is the position of the
  label's closing `]`.  For every flat rule `R` the verdict at `pos` does not change when `posMax`
  shrinks from `M` to `M'`, provided the verdict ends at or before `M'` and the character AT `M'` is
  `]` (or `M' = M`):

      ((∃ s1, R st true = .ok (some n, s1)) ∧ st.pos + n ≤ M') ↔ (∃ s2, R (st.shrink M') true = .ok (some n, s2))

    * `WinHyp st M'`            — the common hypotheses;
    * `Cut w' w`                — the two windows: `w = w'` or `w = w' ++ ']' :: r`;
    * `window_split`            — `WinHyp` gives the two windows in this shape;
    * `window_plan`             — the plumbing shared by all rules: a rule in plan form (`rule<X>_eq`,
                                  Lemmas/InlinePlan.lean) inherits its window lemma from the answers of its
                                  plans on the two windows;
    * `ruleText_window`, `ruleNewline_window`, `ruleEscape_window`, `ruleAutolink_window`
      (`ruleAutolink_window'`: no hypothesis on the character at `M'` is needed),
      `ruleEntity_window` (needs `EntStop st.src st.posMax`: the regexes read `src[pos..]`).

  Beside each lemma an `example` showing the equivalence fail without the `cut` hypothesis.
-/
import MdIt.Lemmas.MemoSafeDef

namespace MdIt.Inline
open MdIt.InlineOps (byteLen slice)
open MdIt.C05 (WFMap byteLen_append slice_ok_iff)

/-! ## the two windows -/

/-- the common hypotheses: `pos < M' ≤ posMax`, and `M'` is `posMax` or the position of a `]` -/
structure WinHyp (st : IState) (M' : Nat) : Prop where
  bpos : Boundary st.src st.pos
  bmax : Boundary st.src st.posMax
  lt : st.pos < M'
  le : M' ≤ st.posMax
  cut : M' = st.posMax ∨ ∃ r, slice st.src M' st.posMax = .ok (']' :: r)

/-- the small window `w'` against the big window `w` -/
def Cut (w' w : List Char) : Prop := w = w' ∨ ∃ r, w = w' ++ ']' :: r

theorem shrink_window (st : IState) (M' : Nat) :
    (st.shrink M').window = liftOps (slice st.src st.pos M') := rfl

/-- `M'` is a character boundary -/
theorem WinHyp.bcut {st : IState} {M' : Nat} (h : WinHyp st M') : Boundary st.src M' := by
  rcases h.cut with e | ⟨r, hr⟩
  · rw [e]; exact h.bmax
  · exact (slice_boundaries hr).1

/-- **the decomposition of the two windows** -/
theorem window_split {st : IState} {M' : Nat} (h : WinHyp st M') :
    ∃ w' w, (st.shrink M').window = .ok w' ∧ st.window = .ok w ∧ w' ≠ [] ∧
      st.pos + byteLen w' = M' ∧ Cut w' w := by
  obtain ⟨pre, w', post, hs, hp, hw, hsl⟩ := slice_of_boundaries h.bpos h.bcut (Nat.le_of_lt h.lt)
  have hne : w' ≠ [] := by
    intro e; subst e; have := h.lt; simp only [byteLen] at hw; omega
  rcases h.cut with e | ⟨r, hr⟩
  · refine ⟨w', w', ?_, ?_, hne, hw, .inl rfl⟩
    · rw [shrink_window, hsl]; rfl
    · unfold IState.window; rw [← e, hsl]; rfl
  · refine ⟨w', w' ++ ']' :: r, ?_, ?_, hne, hw, .inr ⟨r, rfl⟩⟩
    · rw [shrink_window, hsl]; rfl
    · unfold IState.window; rw [C05.slice_append _ _ _ _ _ _ hsl hr]; rfl

/-- the text behind the window start (what the entity regexes see) -/
theorem window_suffix {st : IState} {w : List Char} (hw : st.window = .ok w) :
    ∃ post, slice st.src st.pos (byteLen st.src) = .ok (w ++ post) ∧
      ∃ pre, st.src = pre ++ w ++ post ∧ byteLen pre = st.pos := by
  obtain ⟨p, q, e, l1, l2⟩ := (slice_ok_iff _ _ _ _).mp (window_eq hw)
  refine ⟨q, (slice_ok_iff _ _ _ _).mpr ⟨p, [], by rw [e]; simp, l1, ?_⟩, p, e, l1⟩
  rw [e, byteLen_append, byteLen_append, byteLen_append]; omega

/-! ## the shared plumbing -/

/-- a rule in plan form inherits its window lemma from the answers of its plans on the two windows (the plan
    function is the same at `st` and `st.shrink M'`: `shrink` changes `posMax` only) -/
theorem window_plan {plan : List Char → Except RPanic Plan} {st : IState} {M' : Nat} {w' w : List Char}
    (hw' : (st.shrink M').window = .ok w') (hw : st.window = .ok w) (n : Nat)
    (hV : ((∃ p, plan w = .ok p ∧ p.answer st.pos = some n) ∧ st.pos + n ≤ M') ↔
      ∃ p, plan w' = .ok p ∧ p.answer st.pos = some n) :
    ((∃ s1, runPlan st true plan = .ok (some n, s1)) ∧ st.pos + n ≤ M') ↔
      (∃ s2, runPlan (st.shrink M') true plan = .ok (some n, s2)) := by
  simp only [runPlan_silent_iff hw, runPlan_silent_iff hw', exists_eq_left]
  exact hV

/-- what the examples look at: the verdict of a rule call -/
def verdictOf : SRes → Option (Option Nat)
  | .ok (o, _) => some o
  | .error _ => none

/-- a state for the examples: `src`, `pos`, `posMax` (everything else empty) -/
def exState (src : List Char) (pos posMax : Nat) : IState :=
  { src := src, srcmap := [(0, 0)], pos := pos, posMax := posMax, level := 0, linkLevel := 0,
    cache := [], backticks := CodePair.Cache.empty, children := [], bottoms := [] }

/-! ## text -/

/-- a stop character ends the run: what follows it is not looked at -/
theorem splitRun_append_stop (p : Char → Bool) (a : List Char) (c : Char) (r : List Char)
    (hc : p c = false) : (Entity.splitRun p (a ++ c :: r)).1 = (Entity.splitRun p a).1 := by
  induction a with
  | nil => simp [Entity.splitRun, hc]
  | cons x a ih =>
    simp only [List.cons_append, Entity.splitRun]
    split
    · simp only [ih]
    · rfl

theorem textLen_le (w : List Char) : textLen w ≤ byteLen w := by
  obtain ⟨u, v, huv, hu⟩ := textLen_prefix w
  rw [← hu, huv, byteLen_append]; omega

theorem textLen_cut {w' w : List Char} (h : Cut w' w) : textLen w = textLen w' := by
  rcases h with rfl | ⟨r, rfl⟩
  · rfl
  · unfold textLen
    rw [splitRun_append_stop _ _ _ _ (by decide)]

/-- **window independence of the text rule**: `]` is a stop character, a run never crosses `M'` -/
theorem ruleText_window {st : IState} {M' : Nat} (h : WinHyp st M') (n : Nat) :
    ((∃ s1, ruleText st true = .ok (some n, s1)) ∧ st.pos + n ≤ M') ↔
      (∃ s2, ruleText (st.shrink M') true = .ok (some n, s2)) := by
  obtain ⟨w', w, hw', hw, _, hlen, hcut⟩ := window_split h
  rw [ruleText_eq, ruleText_eq]
  refine window_plan hw' hw n ?_
  have hle := textLen_le w'
  simp only [Except.ok.injEq, exists_eq_left', planText_answer, textLen_cut hcut]
  refine ⟨fun h => h.1, fun hv => ⟨hv, ?_⟩⟩
  split at hv
  · cases hv
  · cases hv; omega

/-- without the `cut` hypothesis: `ab` with `M' = 1` — the run crosses `M'`; the big window answers 2,
    the small one 1 -/
example :
    verdictOf (ruleText (exState ['a', 'b'] 0 2) true) = some (some 2) ∧
    verdictOf (ruleText ((exState ['a', 'b'] 0 2).shrink 1) true) = some (some 1) := by
  decide +kernel

/-- with it (`a]`, `M' = 1`): both answer 1 -/
example :
    verdictOf (ruleText (exState ['a', ']'] 0 2) true) = some (some 1) ∧
    verdictOf (ruleText ((exState ['a', ']'] 0 2).shrink 1) true) = some (some 1) := by
  decide +kernel

/-! ## newline -/

theorem takeWhile_append_stop {α : Type} (p : α → Bool) (a : List α) (c : α) (r : List α)
    (hc : p c = false) : (a ++ c :: r).takeWhile p = a.takeWhile p := by
  induction a with
  | nil => simp [List.takeWhile, hc]
  | cons x a ih =>
    simp only [List.cons_append, List.takeWhile_cons]
    split
    · rw [ih]
    · rfl

theorem byteLen_takeWhile_le (p : Char → Bool) (l : List Char) :
    byteLen (l.takeWhile p) ≤ byteLen l := by
  have := congrArg byteLen (List.takeWhile_append_dropWhile (p := p) (l := l))
  rw [byteLen_append] at this; omega

/-- **window independence of the newline rule** (look-ahead mode reads nothing of the tree):
    `]` is not a blank, the blanks behind the line feed never cross `M'` -/
theorem ruleNewline_window {st : IState} {M' : Nat} (h : WinHyp st M') (n : Nat) :
    ((∃ s1, ruleNewline st true = .ok (some n, s1)) ∧ st.pos + n ≤ M') ↔
      (∃ s2, ruleNewline (st.shrink M') true = .ok (some n, s2)) := by
  obtain ⟨w', w, hw', hw, hne, hlen, hcut⟩ := window_split h
  rw [ruleNewline_eq, ruleNewline_eq]
  refine window_plan hw' hw n ?_
  cases w' with
  | nil => exact absurd rfl hne
  | cons c rest' =>
    -- the big window starts with the same character, and the blanks behind it are the same
    have hw2 : ∃ rest, w = c :: rest ∧ newlineLen rest = newlineLen rest' := by
      rcases hcut with rfl | ⟨r, rfl⟩
      · exact ⟨rest', rfl, rfl⟩
      · refine ⟨rest' ++ ']' :: r, rfl, ?_⟩
        unfold newlineLen
        rw [takeWhile_append_stop _ _ _ _ (by decide)]
    obtain ⟨rest, rfl, hnl⟩ := hw2
    rw [planNewline_some, planNewline_some, hnl]
    refine ⟨fun h => h.1, fun hv => ⟨hv, ?_⟩⟩
    split at hv
    · cases hv
    · next hc =>
      have hc' : c = '\n' := by simpa using hc
      subst hc'
      cases hv
      have e1 : ('\n' : Char).utf8Size = 1 := by decide
      have := byteLen_takeWhile_le isSpTab rest'
      rw [byteLen_takeWhile_spTab] at this
      unfold newlineLen
      simp only [byteLen, e1] at hlen
      omega

/-- without the `cut` hypothesis: line feed + two blanks with `M' = 2` — the big window answers 3, the
    small one 2 -/
example :
    verdictOf (ruleNewline (exState ['\n', ' ', ' '] 0 3) true) = some (some 3) ∧
    verdictOf (ruleNewline ((exState ['\n', ' ', ' '] 0 3).shrink 2) true) = some (some 2) := by
  decide +kernel

/-! ## escape -/

theorem length_le_byteLen (l : List Char) : l.length ≤ byteLen l := by
  induction l with
  | nil => simp [byteLen]
  | cons c r ih => have := Char.utf8Size_pos c; simp only [byteLen, List.length_cons]; omega

theorem byteLen_splitRun_le (p : Char → Bool) (l : List Char) :
    byteLen (Entity.splitRun p l).1 ≤ byteLen l := by
  have := congrArg byteLen (Entity.splitRun_sound p l).2.1
  rw [byteLen_append] at this; omega

/-- the escape rule on the two windows -/
theorem escapeLen_cut {w' w : List Char} (hcut : Cut w' w) (hne : w' ≠ []) (n : Nat) :
    (escapeLen w = some n ∧ n ≤ byteLen w') ↔ escapeLen w' = some n := by
  have e1 : ('\\' : Char).utf8Size = 1 := by decide
  have e2 : (']' : Char).utf8Size = 1 := by decide
  have e3 : ('\n' : Char).utf8Size = 1 := by decide
  cases w' with
  | nil => exact absurd rfl hne
  | cons c t =>
    by_cases hc : c = '\\'
    · subst hc
      cases t with
      | nil =>
        -- the window ends behind the backslash: no verdict; the big window takes `\]`, too long
        rcases hcut with rfl | ⟨r, rfl⟩
        · simp [escapeLen, Entity.escapeCore]
        · simp [escapeLen, Entity.escapeCore, byteLen, e1, e2]
          intro hv; omega
      | cons chr t' =>
        by_cases hn : chr = '\n'
        · subst hn
          have hrun : ∀ r, (Entity.splitRun (fun x => x == ' ' || x == '\t') (t' ++ ']' :: r)).1
              = (Entity.splitRun (fun x => x == ' ' || x == '\t') t').1 :=
            fun r => splitRun_append_stop _ _ _ _ (by decide)
          have hle := byteLen_splitRun_le (fun x => x == ' ' || x == '\t') t'
          have hll := length_le_byteLen (Entity.splitRun (fun x => x == ' ' || x == '\t') t').1
          rcases hcut with rfl | ⟨r, rfl⟩
          · simp only [escapeLen, Entity.escapeCore, byteLen, e1, e3]
            simp
            intro hv; omega
          · simp only [escapeLen, Entity.escapeCore, byteLen, e1, e3, List.cons_append, hrun]
            simp
            intro hv; omega
        · have := Char.utf8Size_pos chr
          rcases hcut with rfl | ⟨r, rfl⟩
          · simp only [escapeLen, Entity.escapeCore, byteLen, e1]
            simp [hn, byteLen, e1]
            intro hv; omega
          · simp only [escapeLen, Entity.escapeCore, byteLen, e1, List.cons_append]
            simp [hn, byteLen, e1]
            intro hv; omega
    · rcases hcut with rfl | ⟨r, rfl⟩
      · simp [escapeLen, Entity.escapeCore, hc]
      · simp [escapeLen, Entity.escapeCore, hc]

/-- **window independence of the escape rule**: `\` + one character (`pos + n ≤ M'` decides), or
    `\` + line feed + blanks (`]` is not a blank) -/
theorem ruleEscape_window {st : IState} {M' : Nat} (h : WinHyp st M') (n : Nat) :
    ((∃ s1, ruleEscape st true = .ok (some n, s1)) ∧ st.pos + n ≤ M') ↔
      (∃ s2, ruleEscape (st.shrink M') true = .ok (some n, s2)) := by
  obtain ⟨w', w, hw', hw, hne, hlen, hcut⟩ := window_split h
  rw [ruleEscape_eq, ruleEscape_eq]
  refine window_plan hw' hw n ?_
  rw [planEscape_some, planEscape_some]
  have := escapeLen_cut hcut hne n
  rw [← this]
  constructor
  · exact fun ⟨a, b⟩ => ⟨a, by omega⟩
  · exact fun ⟨a, b⟩ => ⟨a, by omega⟩

/-- without the `cut` hypothesis: `\` + line feed + blank with `M' = 2` — the big window answers 3, the
    small one 2 -/
example :
    verdictOf (ruleEscape (exState ['\\', '\n', ' '] 0 3) true) = some (some 3) ∧
    verdictOf (ruleEscape ((exState ['\\', '\n', ' '] 0 3).shrink 2) true) = some (some 2) := by
  decide +kernel

/-- the `pos + n ≤ M'` part of the left side is needed even with it: `\]` with `M' = 1` — the big window
    answers 2 (an escaped bracket), the small one nothing -/
example :
    verdictOf (ruleEscape (exState ['\\', ']'] 0 2) true) = some (some 2) ∧
    verdictOf (ruleEscape ((exState ['\\', ']'] 0 2).shrink 1) true) = some none := by
  decide +kernel

/-! ## autolink -/

/-- the hypotheses without the condition on the character at `M'` (enough for the autolink rule) -/
structure WinHyp0 (st : IState) (M' : Nat) : Prop where
  bpos : Boundary st.src st.pos
  bcut : Boundary st.src M'
  bmax : Boundary st.src st.posMax
  lt : st.pos < M'
  le : M' ≤ st.posMax

theorem WinHyp.toWinHyp0 {st : IState} {M' : Nat} (h : WinHyp st M') : WinHyp0 st M' :=
  ⟨h.bpos, h.bcut, h.bmax, h.lt, h.le⟩

/-- the two windows when nothing is known about the character at `M'` -/
theorem window_split0 {st : IState} {M' : Nat} (h : WinHyp0 st M') :
    ∃ w' s, (st.shrink M').window = .ok w' ∧ st.window = .ok (w' ++ s) ∧ w' ≠ [] ∧
      st.pos + byteLen w' = M' := by
  obtain ⟨pre, w', post, hs, hp, hw, hsl⟩ := slice_of_boundaries h.bpos h.bcut (Nat.le_of_lt h.lt)
  obtain ⟨_, s, _, _, _, _, hsl2⟩ := slice_of_boundaries h.bcut h.bmax h.le
  have hne : w' ≠ [] := by
    intro e; subst e; have := h.lt; simp only [byteLen] at hw; omega
  refine ⟨w', s, ?_, ?_, hne, hw⟩
  · rw [shrink_window, hsl]; rfl
  · unfold IState.window; rw [C05.slice_append _ _ _ _ _ _ hsl hsl2]; rfl

/-- the scan is monotone in the window -/
theorem autolinkScan_append {l : List Char} {p0 p : Nat} (h : autolinkScan l p0 = some p)
    (s : List Char) : autolinkScan (l ++ s) p0 = some p := by
  induction l generalizing p0 with
  | nil => simp [autolinkScan] at h
  | cons c r ih =>
    unfold autolinkScan at h
    simp only [List.cons_append]
    unfold autolinkScan
    split at h
    · simp at h
    · next h1 =>
      rw [if_neg h1]
      split at h
      · next h2 => rw [if_pos h2]; exact h
      · next h2 => rw [if_neg h2]; exact ih h

/-- a `>` found in the big window strictly before the end of the small one is found there -/
theorem autolinkScan_of_append {l s : List Char} {p0 p : Nat}
    (h : autolinkScan (l ++ s) p0 = some p) (hlt : p < p0 + byteLen l) :
    autolinkScan l p0 = some p := by
  induction l generalizing p0 with
  | nil =>
    obtain ⟨_, _, _, hp⟩ := autolinkScan_spec h
    simp only [byteLen] at hlt; omega
  | cons c r ih =>
    simp only [List.cons_append] at h
    unfold autolinkScan at h
    unfold autolinkScan
    split at h
    · simp at h
    · next h1 =>
      rw [if_neg h1]
      split at h
      · next h2 => rw [if_pos h2]; exact h
      · next h2 =>
        rw [if_neg h2]
        exact ih h (by simp only [byteLen] at hlt; omega)

/-- the autolink rule on a window and a longer one -/
theorem planAutolink_append (src : List Char) (pos n : Nat) {w' : List Char} (hne : w' ≠ [])
    (s : List Char) :
    ((∃ p, planAutolink src pos (w' ++ s) = .ok p ∧ p.answer pos = some n) ∧ n ≤ byteLen w') ↔
      ∃ p, planAutolink src pos w' = .ok p ∧ p.answer pos = some n := by
  cases w' with
  | nil => exact absurd rfl hne
  | cons c rest =>
    have e1 : ('<' : Char).utf8Size = 1 := by decide
    simp only [List.cons_append, byteLen]
    constructor
    · rintro ⟨⟨p, hp, hv⟩, hle⟩
      obtain ⟨rfl, q, hq, hn⟩ := planAutolink_some hp hv
      obtain ⟨_, _, _, hpu⟩ := autolinkScan_spec hq
      rw [planAutolink_scan (rest' := rest)
        (hq.trans (autolinkScan_of_append hq (by omega)).symm)] at hp
      exact ⟨p, hp, hv⟩
    · rintro ⟨p, hp, hv⟩
      obtain ⟨rfl, q, hq, hn⟩ := planAutolink_some hp hv
      obtain ⟨u, v, hr, hpu⟩ := autolinkScan_spec hq
      rw [planAutolink_scan (rest' := rest ++ s) (hq.trans (autolinkScan_append hq s).symm)] at hp
      refine ⟨⟨p, hp, hv⟩, ?_⟩
      have e2 : ('>' : Char).utf8Size = 1 := by decide
      rw [hr, byteLen_append]
      simp only [byteLen, e2]
      omega

/-- **window independence of the autolink rule, without any condition on the character at `M'`**:
    the scan stops at the first `>` or `<`; a `>` beyond `M'` means `pos + n > M'`; the url is cut from
    `src`, the regexes see only it -/
theorem ruleAutolink_window' {st : IState} {M' : Nat} (h : WinHyp0 st M') (n : Nat) :
    ((∃ s1, ruleAutolink st true = .ok (some n, s1)) ∧ st.pos + n ≤ M') ↔
      (∃ s2, ruleAutolink (st.shrink M') true = .ok (some n, s2)) := by
  obtain ⟨w', s, hw', hw, hne, hlen⟩ := window_split0 h
  rw [ruleAutolink_eq, ruleAutolink_eq]
  refine window_plan hw' hw n ?_
  rw [← planAutolink_append st.src st.pos n hne s]
  constructor
  · exact fun ⟨a, b⟩ => ⟨a, by omega⟩
  · exact fun ⟨a, b⟩ => ⟨a, by omega⟩

/-- **window independence of the autolink rule** -/
theorem ruleAutolink_window {st : IState} {M' : Nat} (h : WinHyp st M') (n : Nat) :
    ((∃ s1, ruleAutolink st true = .ok (some n, s1)) ∧ st.pos + n ≤ M') ↔
      (∃ s2, ruleAutolink (st.shrink M') true = .ok (some n, s2)) :=
  ruleAutolink_window' h.toWinHyp0 n

/-- no `cut` hypothesis is needed, but `pos + n ≤ M'` is: `<ab:c>` with `M' = 4` — the big window answers
    6, the small one nothing (no `>` in sight) -/
example :
    verdictOf (ruleAutolink (exState ['<', 'a', 'b', ':', 'c', '>'] 0 6) true) = some (some 6) ∧
    verdictOf (ruleAutolink ((exState ['<', 'a', 'b', ':', 'c', '>'] 0 6).shrink 4) true) = some none := by
  decide +kernel

/-- `]` inside the url: `<ab:]>` with `M' = 4` (the position of the `]`) satisfies `WinHyp`; the big window
    answers 6 > 4 -/
example :
    verdictOf (ruleAutolink (exState ['<', 'a', 'b', ':', ']', '>'] 0 6) true) = some (some 6) ∧
    verdictOf (ruleAutolink ((exState ['<', 'a', 'b', ':', ']', '>'] 0 6).shrink 4) true) = some none := by
  decide +kernel

/-! ## entity -/

/-- the entity rule looks at the first two characters of the window only, and `]` is not `#` -/
theorem entityCore_cut (lookup : List Char → Option (List Char)) {w' w : List Char} (hcut : Cut w' w)
    (hne : w' ≠ []) (suffix : List Char) :
    Entity.entityCore lookup w suffix = Entity.entityCore lookup w' suffix := by
  rcases hcut with rfl | ⟨r, rfl⟩
  · rfl
  · cases w' with
    | nil => exact absurd rfl hne
    | cons c t =>
      cases t with
      | nil => simp [Entity.entityCore]
      | cons x t' =>
        by_cases hx : x = '#'
        · subst hx; simp [Entity.entityCore]
        · simp [Entity.entityCore, hx]

/-- a reference matched in `src[pos..]` ends inside the window when the character at the window's end
    cannot continue a reference -/
theorem entity_fits {lookup : List Char → Option (List Char)} {w suffix : List Char}
    {sp : Entity.Special} (hcore : Entity.entityCore lookup w suffix = .ok (some sp))
    {src pre w' post : List Char} (hsrc : src = pre ++ w' ++ post) (hsuf : suffix = w' ++ post)
    (hne : w' ≠ []) (hstop : EntStop src (byteLen pre + byteLen w')) :
    byteLen sp.markup ≤ byteLen w' := by
  obtain ⟨t, rest, hmk, hsf, hall⟩ := entityCore_some hcore
  rcases Nat.lt_or_ge (byteLen w') (byteLen sp.markup) with hlt | hge
  · exfalso
    rw [hsuf] at hsf
    obtain ⟨x, hx1, hx2⟩ := append_prefix w' post sp.markup rest hsf (by omega)
    cases x with
    | nil => simp at hx1; rw [hx1] at hlt; omega
    | cons p x' =>
      cases w' with
      | nil => exact absurd rfl hne
      | cons c0 w1 =>
        have hp : isEntChar p = true := by
          apply hall
          have : '&' :: t = c0 :: w1 ++ p :: x' := by rw [← hmk, hx1]
          simp only [List.cons_append, List.cons.injEq] at this
          rw [this.2]; simp
        have := hstop (pre ++ c0 :: w1) p (x' ++ rest) (by rw [hsrc, hx2]; simp)
          (by rw [byteLen_append])
        rw [hp] at this; cases this
  · exact hge

/-- the character at `M'` cannot continue a reference: it is `]`, or `M'` is the outer `posMax` -/
theorem WinHyp.entStop {st : IState} {M' : Nat} (h : WinHyp st M')
    (hstop : EntStop st.src st.posMax) : EntStop st.src M' := by
  rcases h.cut with e | ⟨r, hr⟩
  · rw [e]; exact hstop
  · intro pre c post hsrc hpre
    obtain ⟨p, q, e, l1, _⟩ := (slice_ok_iff _ _ _ _).mp hr
    have := C05.append_inj_byteLen pre (c :: post) p (']' :: r ++ q)
      (by rw [← hsrc, e]; simp) (by omega)
    simp only [List.cons_append, List.cons.injEq] at this
    rw [this.2.1]; decide

/-- **window independence of the entity rule.**  The regexes read `src[pos..]`, not the window; the
    window decides only whether the numeric or the named pattern is tried (`]` is not `#`).  The match
    cannot run over a `]`; when `M'` is the outer `posMax` this is the hypothesis `EntStop`. -/
theorem ruleEntity_window (cfg : Cfg) {st : IState} {M' : Nat} (h : WinHyp st M')
    (hstop : EntStop st.src st.posMax) (n : Nat) :
    ((∃ s1, ruleEntity cfg st true = .ok (some n, s1)) ∧ st.pos + n ≤ M') ↔
      (∃ s2, ruleEntity cfg (st.shrink M') true = .ok (some n, s2)) := by
  obtain ⟨w', w, hw', hw, hne, hlen, hcut⟩ := window_split h
  rw [ruleEntity_eq, ruleEntity_eq]
  refine window_plan hw' hw n ?_
  -- the two windows give the same plan
  have hV : planEntity cfg st.src st.pos w = planEntity cfg st.src st.pos w' := by
    cases w' with
    | nil => exact absurd rfl hne
    | cons c t =>
      have hw2 : ∃ t2, w = c :: t2 := by
        rcases hcut with rfl | ⟨r, rfl⟩
        · exact ⟨t, rfl⟩
        · exact ⟨t ++ ']' :: r, rfl⟩
      obtain ⟨t2, rfl⟩ := hw2
      unfold planEntity
      simp only [entityCore_cut cfg.entity hcut hne]
  rw [hV]
  refine ⟨fun h => h.1, fun hv => ⟨hv, ?_⟩⟩
  -- the match fits into the small window
  obtain ⟨p, hp, hv⟩ := hv
  obtain ⟨post, hsuf, pre, hsrc, hpre⟩ := window_suffix hw'
  change slice st.src st.pos (byteLen st.src) = .ok (w' ++ post) at hsuf
  change st.src = pre ++ w' ++ post at hsrc
  change byteLen pre = st.pos at hpre
  cases w' with
  | nil => exact absurd rfl hne
  | cons c t =>
    unfold planEntity at hp
    simp only at hp
    split at hp
    · cases hp; cases hv
    · rw [hsuf] at hp
      simp only [liftOps] at hp
      split at hp
      · cases hp
      · cases hp; cases hv
      · next sp hcore =>
        cases hp
        cases hv
        have := entity_fits hcore hsrc rfl hne
          (by rw [hpre, hlen]; exact h.entStop hstop)
        omega

/-- a configuration for the examples (no named references) -/
def exWinCfg : Cfg :=
  { maxNesting := 100, chain := [], fns := fun _ _ => none, refs := none, normRef := id,
    entity := fun _ => none, isWhite := fun _ => false, isPunctChar := fun _ => false }

/-- without the `cut` hypothesis: `&#35;` with `M' = 4` (in front of the `;`) — both windows answer 5,
    the match runs over `M'`: the right side holds, the left side does not -/
example :
    verdictOf (ruleEntity exWinCfg (exState ['&', '#', '3', '5', ';'] 0 5) true) = some (some 5) ∧
    verdictOf (ruleEntity exWinCfg ((exState ['&', '#', '3', '5', ';'] 0 5).shrink 4) true) = some (some 5) := by
  decide +kernel

/-- the window decides the branch: `&#35;` with `M' = 1` (in front of the `#`) — the big window answers 5,
    the small one nothing (it tries the NAMED pattern on `&#35;`) -/
example :
    verdictOf (ruleEntity exWinCfg (exState ['&', '#', '3', '5', ';'] 0 5) true) = some (some 5) ∧
    verdictOf (ruleEntity exWinCfg ((exState ['&', '#', '3', '5', ';'] 0 5).shrink 1) true) = some none := by
  decide +kernel

end MdIt.Inline
