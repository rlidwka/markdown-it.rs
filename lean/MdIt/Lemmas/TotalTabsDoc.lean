/-
  Totality of the whole pipeline for ALL sources (split tabs included), reduced to the totality of the
  inline parser on `C05T.MapT` tables: the document-level lift of `MemoSafeLamDoc.lean` without the
  `NoSplitTab` hypothesis, via `Block.PTabsF` (Lemmas/C05TabsFaith.lean, Props/C05Tabs.lean).
-/
import MdIt.Props.C05Tabs
import MdIt.Lemmas.MemoSafeLamDoc

namespace MdIt.Pipeline
open MdIt

/-- the content of a placeholder is a faithful excerpt of the document for ANY `get_lines` table
    (`C05T.PFthV`): a backslash-backtick-backtick of the content is one of the source (the stretch
    starts with the solid character backslash and holds no line feed, so `copy` applies to it) -/
theorem noEscTickTick_of_pfthV {src c : List Char} {m : InlineOps.Srcmap} (hf : C05T.PFthV src c m)
    (hw : C05.WFMap m) (hne : Inline.CS.NoEscTickTick src) : Inline.CS.NoEscTickTick c := by
  rintro ⟨s, t, e⟩
  obtain ⟨a, ha⟩ := C05.translate_total m hw (InlineOps.byteLen s)
  obtain ⟨b, hb⟩ := C05.translate_total m hw (InlineOps.byteLen s + InlineOps.byteLen ['\\', '`', '`'])
  have hcut : C05R.Cut c (InlineOps.byteLen s)
      (InlineOps.byteLen s + InlineOps.byteLen ['\\', '`', '`']) ['\\', '`', '`'] :=
    ⟨s, t, e.symm, rfl, rfl⟩
  obtain ⟨p, q, hsrc, _, _⟩ := hf.copy _ _ '\\' ['`', '`'] _ _ _ a b hcut (by decide) (by decide)
    (by decide) (Nat.le_refl _) (Nat.le_refl _) hcut ha hb
  exact hne ⟨p, q, hsrc.symm⟩

theorem doc_placeholder_ptabsF (cfg : DocCfg) (src : List Char)
    (hsmall : 4 * Lines.byteLen src + 8 < 2147483648) (hpara : cfg.hasPara = true)
    {root : Block.BNode} {refs : Refs.RefMap}
    (hb : Block.parseBlocks cfg.blockCfg src = .ok (root, refs)) :
    Block.AllInl (fun c m => ∃ a b, Block.PTabsF src c m a b) root := by
  obtain ⟨hr, hg⟩ := Block.parseBlocks_geo3 (cfg := cfg.blockCfg) hpara (Block.inlSpec3_ptabsF src) hsmall hb
  exact hg.allInl (fun c m a b h => ⟨a, b, h⟩) (by
    intro c m _ hnone
    rw [hr] at hnone
    cases hnone)

theorem doc_tables_mapT (cfg : DocCfg) (src : List Char)
    (hsmall : 4 * Lines.byteLen src + 8 < 2147483648) (hpara : cfg.hasPara = true)
    {root : Block.BNode} {refs : Refs.RefMap}
    (hb : Block.parseBlocks cfg.blockCfg src = .ok (root, refs)) :
    Block.AllInl (fun c m => C05T.MapT c m) root :=
  allInl_and (fun _ _ ⟨_, _, h⟩ _ => mapT_of_ptabs h.1)
    (doc_placeholder_ptabsF cfg src hsmall hpara hb) (doc_placeholder_ptabsF cfg src hsmall hpara hb)

theorem docNoEscTickTick_all (cfg : DocCfg) (src : List Char)
    (hsmall : 4 * Lines.byteLen src + 8 < 2147483648) (hpara : cfg.hasPara = true)
    (hne : Inline.CS.NoEscTickTick src) : DocNoEscTickTick cfg src := by
  intro root refs hb
  have hall := doc_placeholder_ptabsF cfg src hsmall hpara hb
  exact allInl_and (fun c m ⟨_, _, h⟩ _ => noEscTickTick_of_pfthV h.2.1 h.1.1.1 hne) hall hall

/-- the whole pipeline is total as soon as the inline parser is total on the `MapT` tables whose text
    satisfies `P`, a property of every paragraph content of the document -/
theorem doc_total_of_inline_mapT' (cfg : DocCfg) (src : List Char)
    (hsmall : 4 * Lines.byteLen src + 8 < 2147483648) (hpara : cfg.hasPara = true) {P : List Char → Prop}
    (hP : ∀ root refs, Block.parseBlocks cfg.blockCfg src = .ok (root, refs) →
      Block.AllInl (fun c _ => P c) root)
    (H : ∀ (refs : Refs.RefMap) (c : List Char) (m : InlineOps.Srcmap), C05T.MapT c m →
      P c → ∃ cs, Inline.parseInline (cfg.inlineCfg refs) c m = .ok cs) :
    (∃ t, parseDoc cfg src = .ok t) ∧ ∀ x, ∃ html, renderDoc x cfg src = .ok html := by
  apply doc_total_of_inline
  intro root refs hb
  have hall : Block.AllInl (fun c m => ∃ cs, Inline.parseInline (cfg.inlineCfg refs) c m = .ok cs) root :=
    allInl_and (H refs) (doc_tables_mapT cfg src hsmall hpara hb) (hP root refs hb)
  exact placeholders_of_allInl hall
    (Block.parseBlocks_inlNoRange hb)

theorem doc_total_of_inline_mapT (cfg : DocCfg) (src : List Char)
    (hsmall : 4 * Lines.byteLen src + 8 < 2147483648) (hpara : cfg.hasPara = true)
    (hne : Inline.CS.NoEscTickTick src)
    (H : ∀ (refs : Refs.RefMap) (c : List Char) (m : InlineOps.Srcmap), C05T.MapT c m →
      Inline.CS.NoEscTickTick c → ∃ cs, Inline.parseInline (cfg.inlineCfg refs) c m = .ok cs) :
    (∃ t, parseDoc cfg src = .ok t) ∧ ∀ x, ∃ html, renderDoc x cfg src = .ok html :=
  doc_total_of_inline_mapT' cfg src hsmall hpara (docNoEscTickTick_all cfg src hsmall hpara hne) H

end MdIt.Pipeline
