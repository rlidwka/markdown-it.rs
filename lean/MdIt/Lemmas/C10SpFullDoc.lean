/-
  C10 with the sourcepos plugin, full version: from the exact simulations to the hypotheses of
  `doc_final_newline_invariant_sp` / `doc_crlf_sp_of_blocks_q`.

    * `xl_rmap`     `C10SP.XL` (the result of the exact inline simulation) under a segmented table and
                    its shifted copy is `InlineExact`;
    * `xl_every`    … under ONE table: every attribute-rendering inline node starts at a byte of the
                    document that is not a line feed;
    * `joinNode_everyKR`, `spliceList_everyKR`, `spPure_everyKR`   a claim about (kind, range) that holds of
                    every value that renders no attributes survives the three passes.
-/
import MdIt.Lemmas.C10SourceposDoc
import MdIt.Lemmas.C10SpFullTables

namespace MdIt.Pipeline
open MdIt
open MdIt.InlineOps (Srcmap getSourcePosFor byteLen)
open MdIt.C05I (NoVirt)

theorem rendersAttrs_inl (v : Inline.Val) : (Kind.inl v).rendersAttrs = C10SP.attrVal v := by
  cases v <;> rfl

/-! ## A: `XL` under a table and its shifted copy -/

mutual
theorem xn_rmap {src c : List Char} {m : Srcmap} (h : TabOK src c m) :
    ∀ (n₁ n₂ : Inline.Node), C10SP.XN c m (shiftMap src m) n₁ n₂ →
      rmap id true (ofInline n₂) = rmap (shiftOf src) true (ofInline n₁)
  | ⟨v₁, r₁, cs₁⟩, ⟨v₂, r₂, cs₂⟩, hx => by
    simp only [C10SP.XN] at hx
    obtain ⟨hv, hs, hl⟩ := hx
    subst hv
    simp only [ofInline, rmap, xl_rmap h cs₁ cs₂ hl, Node.mk.injEq, true_and, and_true]
    unfold rangeOf
    rw [rendersAttrs_inl]
    cases hav : C10SP.attrVal v₁ with
    | false => simp
    | true =>
      obtain ⟨p, q, a₁, b₁, a₂, b₂, e₁, e₂, hpq, hq, _, t1, t2, t3, t4⟩ := hs hav
      subst e₁ e₂
      have s1 := tr_shift h (by omega) t1
      have s2 := tr_shift h hq t2
      rw [t3] at s1; rw [t4] at s2
      simp only [Except.ok.injEq] at s1 s2
      simp [mapRange, shiftOf, s1, s2]
theorem xl_rmap {src c : List Char} {m : Srcmap} (h : TabOK src c m) :
    ∀ (l₁ l₂ : List Inline.Node), C10SP.XL c m (shiftMap src m) l₁ l₂ →
      rmapList id true (ofInlineList l₂) = rmapList (shiftOf src) true (ofInlineList l₁)
  | [], [], _ => rfl
  | [], _ :: _, hx => by simp only [C10SP.XL] at hx
  | _ :: _, [], hx => by simp only [C10SP.XL] at hx
  | a :: as, b :: bs, hx => by
    simp only [C10SP.XL] at hx
    simp only [ofInlineList, rmapList, xn_rmap h a b hx.1, xl_rmap h as bs hx.2]
end

/-! ## B: `XL` under one table: where the attribute-rendering inline nodes start -/

/-- a character other than the line feed starts at byte `a` of `src` -/
def OnByteLf (src : List Char) (a : Nat) : Prop := ∃ u ch w, src = u ++ ch :: w ∧ byteLen u = a ∧ ch ≠ '\n'

/-- the claim about a node: if its value renders attributes, its range starts at such a byte -/
def AnchK (src : List Char) (k : Kind) (r : Option (Nat × Nat)) : Prop :=
  k.rendersAttrs = true → ∀ a b, r = some (a, b) → OnByteLf src a

theorem anchK_nr (src : List Char) (k : Kind) (r : Option (Nat × Nat)) (h : k.rendersAttrs = false) :
    AnchK src k r := by
  intro h'; rw [h] at h'; cases h'

mutual
theorem xn_every {src c : List Char} {m : Srcmap} (h : TabOK src c m) :
    ∀ (n₁ n₂ : Inline.Node), C10SP.XN c m m n₁ n₂ → Every (fun n => AnchK src n.kind n.range) (ofInline n₁)
  | ⟨v₁, r₁, cs₁⟩, ⟨v₂, r₂, cs₂⟩, hx => by
    simp only [C10SP.XN] at hx
    obtain ⟨_, hs, hl⟩ := hx
    simp only [ofInline]
    refine .mk _ ?_ (xl_every h cs₁ cs₂ hl)
    intro hk a b hr
    simp only at hk hr
    rw [rendersAttrs_inl] at hk
    obtain ⟨p, q, a₁, b₁, a₂, b₂, e₁, _, _, _, hc, t1, _, _, _⟩ := hs hk
    rw [e₁] at hr
    simp only [Option.some.injEq, Prod.mk.injEq] at hr
    obtain ⟨rfl, rfl⟩ := hr
    exact tr_onByte h hc t1
theorem xl_every {src c : List Char} {m : Srcmap} (h : TabOK src c m) :
    ∀ (l₁ l₂ : List Inline.Node), C10SP.XL c m m l₁ l₂ →
      ∀ n ∈ ofInlineList l₁, Every (fun n => AnchK src n.kind n.range) n
  | [], _, _ => by simp [ofInlineList]
  | _ :: _, [], hx => by simp only [C10SP.XL] at hx
  | a :: as, b :: bs, hx => by
    simp only [C10SP.XL] at hx
    intro n hn
    simp only [ofInlineList, List.mem_cons] at hn
    rcases hn with rfl | hn
    · exact xn_every h a b hx.1
    · exact xl_every h as bs hx.2 n hn
end

section passes
variable {Q : Kind → Option (Nat × Nat) → Prop} (hnr : ∀ k r, k.rendersAttrs = false → Q k r)
include hnr

theorem joinNode_everyKR {n : Node} (he : Every (fun n => Q n.kind n.range) n) :
    Every (fun n => Q n.kind n.range) (joinNode n) :=
  (joinStable_of_kr (P := fun n => Q n.kind n.range) (fun _ _ hk hr h => by rw [← hk, ← hr]; exact h)
    (fun _ ht => hnr _ _ (kind_of_isText ht))).every he

theorem joined_everyK (cfg : DocCfg) {n : Node} (he : Every (fun n => Q n.kind n.range) n) :
    Every (fun n => Q n.kind n.range) (joined cfg n) := by
  unfold joined
  split
  · exact joinNode_everyKR hnr he
  · exact he

end passes

theorem spPure_everyKR {Q : Kind → Option (Nat × Nat) → Prop} (src : List Char) :
    ∀ t : Node, Every (fun n => Q n.kind n.range) t → Every (fun n => Q n.kind n.range) (spPure src t) := by
  intro t he
  rw [spPure_eq_mapAttrs]
  exact mapAttrs_every _ (fun _ h => h) he

theorem spPureList_everyK {Q : Kind → Option (Nat × Nat) → Prop} (src : List Char) :
    ∀ cs : List Node, (∀ c ∈ cs, Every (fun n => Q n.kind n.range) c) →
      ∀ c ∈ spPureList src cs, Every (fun n => Q n.kind n.range) c := by
  intro cs he x hx
  rw [spPureList_eq_mapAttrs, mapAttrsList_eq_map] at hx
  obtain ⟨c, hc, rfl⟩ := List.mem_map.mp hx
  rw [← spPure_eq_mapAttrs]
  exact spPure_everyKR src c (he c hc)


mutual
/-- `Pb` at every ranged block node, `Pi` at every placeholder the splice walk visits -/
def BOk (Pb : Block.Kind → Option (Nat × Nat) → Prop) (Pi : List Char → Srcmap → Prop) : Block.BNode → Prop
  | ⟨_, _, cs⟩ => BOkL Pb Pi cs
def BOkL (Pb : Block.Kind → Option (Nat × Nat) → Prop) (Pi : List Char → Srcmap → Prop) : List Block.BNode → Prop
  | [] => True
  | c :: rest =>
    (match c.kind with
     | .inlineRoot ct m => Pi ct m
     | k => Pb k c.range ∧ BOk Pb Pi c) ∧ BOkL Pb Pi rest
end

/-- what `BOkL` says of one member -/
def BOkAt (Pb : Block.Kind → Option (Nat × Nat) → Prop) (Pi : List Char → Srcmap → Prop) (b : Block.BNode) : Prop :=
  (∀ ct m, b.kind = .inlineRoot ct m → Pi ct m) ∧ (¬ IsInl b.kind → Pb b.kind b.range ∧ BOkL Pb Pi b.children)

theorem bokL_mem {Pb : Block.Kind → Option (Nat × Nat) → Prop} {Pi : List Char → Srcmap → Prop} :
    ∀ {cs : List Block.BNode}, BOkL Pb Pi cs → ∀ c ∈ cs, BOkAt Pb Pi c
  | [], _, c, hc => by simp at hc
  | x :: r, h, c, hc => by
    simp only [BOkL] at h
    rcases List.mem_cons.mp hc with rfl | hc
    · have h1 := h.1
      constructor
      · intro ct m hk; rw [hk] at h1; exact h1
      · intro hni
        split at h1
        · next ct m hk => exact absurd ⟨ct, m, hk⟩ hni
        · obtain ⟨k, rg, cs⟩ := c; simpa only [BOk] using h1
    · exact bokL_mem h.2 c hc

/-- the splice walk, for a claim about (kind, range): `spliceList_every_of` at `BOkAt` -/
theorem spliceList_everyKR {icfg : Inline.Cfg} {Q : Kind → Option (Nat × Nat) → Prop}
    {Pb : Block.Kind → Option (Nat × Nat) → Prop} {Pi : List Char → Srcmap → Prop}
    (hb : ∀ k r, Pb k r → Q (.blk k) r)
    (hi : ∀ ct m ns, Pi ct m → Inline.parseInline icfg ct m = .ok ns →
      ∀ n ∈ ofInlineList ns, Every (fun n => Q n.kind n.range) n) :
    ∀ (cs : List Block.BNode) (out : List Node), BOkL Pb Pi cs → spliceList icfg cs = .ok out →
      ∀ n ∈ out, Every (fun n => Q n.kind n.range) n := by
  intro cs out hok h
  rw [← spliceListG_parseInline] at h
  exact spliceList_every_of (B := BOkAt Pb Pi) (fun b hB hk => bokL_mem (hB.2 hk).2)
    (fun c ct m ns hB hk hns => hi ct m ns (hB.1 ct m hk) hns)
    (fun b _ hB hk _ _ => hb _ _ (hB.2 hk).1) cs (bokL_mem hok) out h

/-! ## F: from the claims to the Boolean checks of `final_stage` -/

mutual
theorem allN_of_every {P : Node → Prop} {p : Node → Bool} (hp : ∀ n, P n → p n = true) :
    ∀ t : Node, Every P t → allN p t = true
  | ⟨k, r, a, cs⟩, he => by
    simp only [allN, Bool.and_eq_true]
    exact ⟨hp _ he.here, allNList_of_every hp cs he.child⟩
theorem allNList_of_every {P : Node → Prop} {p : Node → Bool} (hp : ∀ n, P n → p n = true) :
    ∀ cs : List Node, (∀ c ∈ cs, Every P c) → allNList p cs = true
  | [], _ => rfl
  | c :: r, he => by
    simp only [allNList, Bool.and_eq_true]
    exact ⟨allN_of_every hp c (he c (by simp)), allNList_of_every hp r (fun y hy => he y (List.mem_cons_of_mem _ hy))⟩
end

theorem charAt_of_split : ∀ (u : List Char) (ch : Char) (w : List Char),
    SourceMap.charAt (u ++ ch :: w) (SourceMap.byteLen u) = some ch
  | [], ch, w => by simp [SourceMap.charAt, SourceMap.byteLen]
  | x :: u, ch, w => by
    have hp := Char.utf8Size_pos x
    simp only [List.cons_append, SourceMap.charAt, SourceMap.byteLen]
    rw [if_neg (by omega), if_neg (by omega)]
    have : x.utf8Size + SourceMap.byteLen u - x.utf8Size = SourceMap.byteLen u := by omega
    rw [this]
    exact charAt_of_split u ch w

theorem onByteLf_facts {src : List Char} {a : Nat} (h : OnByteLf src a) :
    C10SP.NotLf src a ∧ a < SourceMap.byteLen src := by
  obtain ⟨u, ch, w, rfl, hu, hch⟩ := h
  rw [← C05I.linesLen_eq, ← SourceMap.byteLen_eq_lines] at hu
  subst hu
  refine ⟨?_, ?_⟩
  · unfold C10SP.NotLf
    rw [charAt_of_split]
    intro e; cases e; exact hch rfl
  · have hp := Char.utf8Size_pos ch
    have : SourceMap.byteLen (u ++ ch :: w) = SourceMap.byteLen u + (ch.utf8Size + SourceMap.byteLen w) := by
      rw [SourceMap.byteLen_append]; rfl
    omega

/-- the range starts at a byte that is not a line feed and does not end before it starts -/
def anchLeB (src : List Char) (r : Nat × Nat) : Bool := decide (C10SP.NotLf src r.1 ∧ r.1 ≤ r.2)

theorem posAttr_crlf_le (src : List Char) (hcr : '\r' ∉ src) (r : Nat × Nat) (h : anchLeB src r = true) :
    posAttr (Lines.lfToCrlf src) (shiftOf src r.1, shiftOf src r.2) = posAttr src r := by
  have ha : C10SP.NotLf src r.1 ∧ r.1 ≤ r.2 := by simpa [anchLeB] using h
  by_cases hb : 0 < r.2
  · exact posAttr_crlf src hcr r (by simp [anchoredB, C10SP.Anchored, ha.1, hb])
  · have h2 : r.2 = 0 := by omega
    have h1 : r.1 = 0 := by omega
    have hs := C10SP.getPosition_crlf_start src hcr 0 (h1 ▸ ha.1)
    rw [C10SP.getPosition_run, C10SP.getPosition_run] at hs
    simp only [Except.ok.injEq, C10SP.lfBelow_zero, Nat.add_zero] at hs
    simp only [posAttr, shiftOf, h1, h2, C10SP.lfBelow_zero, Nat.add_zero, C10SP.endOff, Nat.lt_irrefl,
      if_false, hs]

/-- the two checks, from the anchoring claim and C05 -/
theorem checks_of_every {src : List Char} {t : Node}
    (h1 : Every (fun n => AnchK src n.kind n.range) t) (h2 : Every (NodeOk src) t) :
    allN (rendered (insideB src)) t = true ∧ allN (rendered (anchLeB src)) t = true := by
  have h := Every.and h1 h2
  constructor
  · refine allN_of_every ?_ t h
    intro n ⟨ha, a, b, hr, hab, hb, _⟩
    unfold rendered
    cases hk : n.kind.rendersAttrs with
    | false => rfl
    | true =>
      obtain ⟨_, hlt⟩ := onByteLf_facts (ha hk a b hr)
      rw [← SourceMap.byteLen_eq_lines] at hb
      simp [hr, insideB, C10SP.Inside, hlt, hb]
  · refine allN_of_every ?_ t h
    intro n ⟨ha, a, b, hr, hab, hb, _⟩
    unfold rendered
    cases hk : n.kind.rendersAttrs with
    | false => rfl
    | true =>
      obtain ⟨hn, _⟩ := onByteLf_facts (ha hk a b hr)
      simp [hr, anchLeB, hn, hab]

end MdIt.Pipeline
