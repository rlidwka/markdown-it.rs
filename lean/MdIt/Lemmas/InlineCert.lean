/-
  The inline tree in INLINE-TEXT coordinates.

  Every range the inline parser writes is `(tr p, tr q)` for two positions `p ≤ q` of the inline text
  `c` (`tr = get_source_pos_for m`).  `ICN c m W ex p q n` — "node `n` covers `c[p..q]`" — says what the
  parser builds with no document and no property of the table in it: boundaries of `c`, what a
  `Text` / `TextSpecial` / `EmphMarker` spells in `c`, children covering consecutive stretches of
  `[p, q]`.  `ICF` is the invariant of one frame of the tokenizer.  Of the table the walk needs one
  fact, `Shift`: at the two places where the code does arithmetic on SOURCE offsets
  (`trailing_text_pop`, the delimiter matcher) the translation is a shift.  Order, character
  boundaries and the text clause in the document are LOWERINGS of the certificate
  (Lemmas/InlineCertLower.lean) through the table interface `Low`; the table classes (no
  virtual-space entry / any `get_lines` table) are instances of `Stretch`, `Shift`, `Markers`, `Low`.
  The file opens with the four notions of `MdIt.C05T` the certificate is stated with (`CharAt`,
  `isCode`, `NoTextLast`, `tv_NlAct`; the source-coordinate invariants of Lemmas/C05TabsDefs*.lean use
  them too); the certificate itself is in `MdIt.IC`.  Name prefixes: `icn_` / `icf_` build an `ICN` /
  `ICF`, `ic_` is the certificate walk, `tv_` is the order development for any `get_lines` table
  (Lemmas/C05TabsRanges.lean).
-/
import MdIt.Lemmas.C05RestDefs

namespace MdIt.C05T
open MdIt.InlineOps (byteLen)
open MdIt.Inline (Node Val)

/-- the character `x` starts at byte `p` of `s` -/
def CharAt (s : List Char) (p : Nat) (x : Char) : Prop :=
  ∃ pre post, s = pre ++ x :: post ∧ byteLen pre = p

/-- the value is a code span -/
def isCode : Val → Bool
  | .codeInline _ _ => true
  | _ => false

/-- the last child (if any) is not a `Text` -/
def NoTextLast (cs : List Node) : Prop := ∀ init last, cs = init ++ [last] → last.isText = false

/-- the newline rule is active in a frame at nesting level `lvl` -/
def tv_NlAct (cfg : Inline.Cfg) (lvl : Nat) : Prop :=
  Inline.RuleId.newline ∈ cfg.chain ∧ lvl < cfg.maxNesting

end MdIt.C05T

namespace MdIt.IC
open MdIt.Inline
open MdIt.InlineOps (Srcmap getSourcePosFor byteLen)
open MdIt.C05R (Cut Bdy Sel Adjd StrictTop TextLike)
open MdIt.C05T (CharAt NoTextLast isCode)

/-! ## stretches a text may be claimed on -/

/-- `W p q`: the translation behaves on `c[p..q]` (no virtual space inside); `S p`: a stretch that
    starts at `p` with a blank is still `W`.  Two instances: `(C05T.Within c, C05T.Anchored c)` when
    tabs may be split (Lemmas/C05TabsCert.lean), `(True, True)` when the table has no virtual-space
    entry. -/
structure Stretch (c : List Char) (W : Nat → Nat → Prop) (S : Nat → Prop) : Prop where
  sub : ∀ {p1 p2 q1 q2}, W p1 p2 → p1 ≤ q1 → q1 ≤ q2 → q2 ≤ p2 → W q1 q2
  extend : ∀ {s e e' piece}, W s e → Cut c e e' piece → '\n' ∉ piece → W s e'
  solid : ∀ {p q ch w}, Cut c p q (ch :: w) → ch ≠ ' ' → ch ≠ '\n' → '\n' ∉ w → W p q
  start : ∀ {p q w}, S p → Cut c p q w → '\n' ∉ w → W p q
  after : ∀ {p q ch w}, Cut c p q (ch :: w) → ch ≠ ' ' → ch ≠ '\n' → '\n' ∉ w → S q

theorem stretch_true (c : List Char) : Stretch c (fun _ _ => True) (fun _ => True) :=
  ⟨fun _ _ _ _ => trivial, fun _ _ _ => trivial, fun _ _ _ _ => trivial, fun _ _ _ => trivial,
    fun _ _ _ _ => trivial⟩

/-- ALL the inline walk asks of the table: it is total, and a shift on a `W` stretch without line
    feed (used where `trailing_text_pop` and the delimiter matcher subtract from SOURCE offsets) -/
structure Shift (c : List Char) (m : Srcmap) (W : Nat → Nat → Prop) : Prop where
  wf : C05.WFMap m
  shift : ∀ p q w p1 p2 x1 x2, Cut c p q w → '\n' ∉ w → W p q → p ≤ p1 → p1 ≤ p2 → p2 ≤ q →
    getSourcePosFor m p1 = .ok x1 → getSourcePosFor m p2 = .ok x2 → x2 = x1 + (p2 - p1)

/-- what the emphasis markers of the chain must be (`AsciiMarkers` for `W = True`, `SolidMarkers`
    for `W = Within c`) -/
def Markers (c : List Char) (W : Nat → Nat → Prop) (S : Nat → Prop) (chain : List RuleId) : Prop :=
  ∀ mk csw, RuleId.emph mk csw ∈ chain → mk.utf8Size = 1 ∧ mk ≠ '\n' ∧
    ∀ p q n, 0 < n → Cut c p q (List.replicate n mk) → W p q ∧ S q

/-! ## the certificate -/

section
variable (c : List Char) (m : Srcmap) (W : Nat → Nat → Prop)

mutual
/-- node `n` covers `c[p..q]`; `ex`: `n` is the child of a code span (whose content is normalised) -/
def ICN (ex : Bool) : Nat → Nat → Node → Prop
  | p, q, ⟨v, r, cs⟩ =>
    (∃ a b, r = some (a, b) ∧ getSourcePosFor m p = .ok a ∧ getSourcePosFor m q = .ok b) ∧
    Bdy c p ∧ Bdy c q ∧ p ≤ q ∧
    (∀ t, v = .text t → cs = [] ∧
      (ex = false → p < q ∧ Cut c p q t ∧ ('\n' ∉ t → W p q)) ∧
      (ex = true → ∃ w, Cut c p q w ∧ ('\n' ∉ w → w = t))) ∧
    (∀ ct mu info, v = .special ct mu info → Cut c p q mu ∧ '\n' ∉ mu ∧ W p q) ∧
    (∀ mk l rem o cl, v = .emphMarker mk l rem o cl → cs = [] ∧ 0 < rem ∧
      Cut c p q (List.replicate rem mk) ∧ mk.utf8Size = 1 ∧ mk ≠ '\n' ∧ W p q) ∧
    Adjd cs ∧ ICL (isCode v) p q cs
/-- the nodes of `l` cover consecutive stretches inside `c[lo..hi]` -/
def ICL (ex : Bool) : Nat → Nat → List Node → Prop
  | lo, hi, [] => lo ≤ hi
  | lo, hi, n :: rest => ∃ p q, lo ≤ p ∧ ICN ex p q n ∧ ICL ex q hi rest
end

theorem ICN_eq (ex : Bool) (p q : Nat) (n : Node) :
    ICN c m W ex p q n ↔
    (∃ a b, n.range = some (a, b) ∧ getSourcePosFor m p = .ok a ∧ getSourcePosFor m q = .ok b) ∧
    Bdy c p ∧ Bdy c q ∧ p ≤ q ∧
    (∀ t, n.val = .text t → n.children = [] ∧
      (ex = false → p < q ∧ Cut c p q t ∧ ('\n' ∉ t → W p q)) ∧
      (ex = true → ∃ w, Cut c p q w ∧ ('\n' ∉ w → w = t))) ∧
    (∀ ct mu info, n.val = .special ct mu info → Cut c p q mu ∧ '\n' ∉ mu ∧ W p q) ∧
    (∀ mk l rem o cl, n.val = .emphMarker mk l rem o cl → n.children = [] ∧ 0 < rem ∧
      Cut c p q (List.replicate rem mk) ∧ mk.utf8Size = 1 ∧ mk ≠ '\n' ∧ W p q) ∧
    Adjd n.children ∧ ICL c m W (isCode n.val) p q n.children := by
  cases n; simp [ICN]

theorem ICL_nil (ex : Bool) (lo hi : Nat) : ICL c m W ex lo hi [] ↔ lo ≤ hi := by simp [ICL]

theorem ICL_cons (ex : Bool) (lo hi : Nat) (n : Node) (rest : List Node) :
    ICL c m W ex lo hi (n :: rest) ↔
      ∃ p q, lo ≤ p ∧ ICN c m W ex p q n ∧ ICL c m W ex q hi rest := by simp [ICL]

/-! ### sibling lists -/

variable {c m W}

theorem ICL.le {ex : Bool} {lo hi : Nat} {l : List Node} (h : ICL c m W ex lo hi l) : lo ≤ hi := by
  induction l generalizing lo with
  | nil => exact (ICL_nil ..).mp h
  | cons n r ih =>
    obtain ⟨p, q, h1, h2, h3⟩ := (ICL_cons ..).mp h
    have := ih h3
    have := ((ICN_eq ..).mp h2).2.2.2.1
    omega

theorem ICL.widen {ex : Bool} {lo hi lo' hi' : Nat} {l : List Node} (h : ICL c m W ex lo hi l)
    (h1 : lo' ≤ lo) (h2 : hi ≤ hi') : ICL c m W ex lo' hi' l := by
  induction l generalizing lo lo' with
  | nil => rw [ICL_nil] at h ⊢; omega
  | cons n r ih =>
    obtain ⟨p, q, q1, q2, q3⟩ := (ICL_cons ..).mp h
    exact (ICL_cons ..).mpr ⟨p, q, by omega, q2, ih q3 (Nat.le_refl _)⟩

theorem ICL.append {ex : Bool} {lo mid hi : Nat} {l1 l2 : List Node} (h1 : ICL c m W ex lo mid l1)
    (h2 : ICL c m W ex mid hi l2) : ICL c m W ex lo hi (l1 ++ l2) := by
  induction l1 generalizing lo with
  | nil => exact h2.widen ((ICL_nil ..).mp h1) (Nat.le_refl _)
  | cons n r ih =>
    obtain ⟨p, q, q1, q2, q3⟩ := (ICL_cons ..).mp h1
    exact (ICL_cons ..).mpr ⟨p, q, q1, q2, ih q3⟩

theorem ICL.single {ex : Bool} {lo hi p q : Nat} {n : Node} (h : ICN c m W ex p q n) (h1 : lo ≤ p)
    (h2 : q ≤ hi) : ICL c m W ex lo hi [n] :=
  (ICL_cons ..).mpr ⟨p, q, h1, h, (ICL_nil ..).mpr h2⟩

theorem ICL.snoc {ex : Bool} {lo mid hi p q : Nat} {l : List Node} {n : Node}
    (h : ICL c m W ex lo mid l) (hn : ICN c m W ex p q n) (h1 : mid ≤ p) (h2 : q ≤ hi) :
    ICL c m W ex lo hi (l ++ [n]) :=
  h.append (ICL.single hn h1 h2)

theorem ICL.split {ex : Bool} {lo hi : Nat} {l1 l2 : List Node} (h : ICL c m W ex lo hi (l1 ++ l2)) :
    ∃ mid, ICL c m W ex lo mid l1 ∧ ICL c m W ex mid hi l2 := by
  induction l1 generalizing lo with
  | nil => exact ⟨lo, (ICL_nil ..).mpr (Nat.le_refl _), h⟩
  | cons n r ih =>
    obtain ⟨p, q, q1, q2, q3⟩ := (ICL_cons ..).mp h
    obtain ⟨mid, m1, m2⟩ := ih q3
    exact ⟨mid, (ICL_cons ..).mpr ⟨p, q, q1, q2, m1⟩, m2⟩

theorem ICL.mem {ex : Bool} {lo hi : Nat} {l : List Node} (h : ICL c m W ex lo hi l) {n : Node}
    (hn : n ∈ l) : ∃ p q, ICN c m W ex p q n := by
  induction l generalizing lo with
  | nil => cases hn
  | cons x r ih =>
    obtain ⟨p, q, _, q2, q3⟩ := (ICL_cons ..).mp h
    rcases List.mem_cons.mp hn with rfl | hr
    · exact ⟨p, q, q2⟩
    · exact ih q3 hr

variable (c m W)

/-- **the frame invariant of the one walk**: the children cover consecutive stretches of
    `c[lo..pos]`; mergeable neighbours are adjacent (`adj`, `tail`: equations between stored
    offsets, no property of the table); a trailing `Text` ends AT the cursor (`trail`); in a frame
    where the newline rule is active (`A`) it holds no line feed; where a new text could start with
    a blank, that blank is `S`. -/
structure ICF (S : Nat → Prop) (A : Prop) (lo pm pos : Nat) (cs : List Node) : Prop where
  bpos : Bdy c pos
  tiles : ICL c m W false lo pos cs
  adj : Adjd cs
  tail : ∀ init last, cs = init ++ [last] → TextLike last →
    ∃ a b, last.range = some (a, b) ∧ getSourcePosFor m pos = .ok b
  trail : ∀ init last, cs = init ++ [last] → last.isText = true →
    ∃ mid p, ICL c m W false lo mid init ∧ mid ≤ p ∧ ICN c m W false p pos last
  nolf : A → ∀ init last, cs = init ++ [last] → last.isText = true → '\n' ∉ last.content
  anch : NoTextLast cs → pos < pm → CharAt c pos ' ' → S pos

variable {c m W}

/-! ## certificates of single nodes -/

/-- a node that is neither `Text`, `TextSpecial` nor `EmphMarker`; its children are judged under the
    exemption flag of its value -/
theorem icn_plain {ex : Bool} {p q a b : Nat} {v : Val} {cs : List Node}
    (ha : getSourcePosFor m p = .ok a) (hb : getSourcePosFor m q = .ok b) (hp : Bdy c p)
    (hq : Bdy c q) (hle : p ≤ q) (h1 : ∀ t, v ≠ .text t) (h2 : ∀ x y z, v ≠ .special x y z)
    (h3 : ∀ mk l rem o cl, v ≠ .emphMarker mk l rem o cl) (hadj : Adjd cs)
    (hl : ICL c m W (isCode v) p q cs) : ICN c m W ex p q (Node.mk v (some (a, b)) cs) := by
  rw [ICN_eq]
  exact ⟨⟨a, b, rfl, ha, hb⟩, hp, hq, hle, fun t e => absurd e (h1 t),
    fun x y z e => absurd e (h2 x y z), fun mk l rem o cl e => absurd e (h3 mk l rem o cl), hadj, hl⟩

theorem icn_special {ex : Bool} {p q a b : Nat} {ct mu info : List Char}
    (ha : getSourcePosFor m p = .ok a) (hb : getSourcePosFor m q = .ok b) (hcut : Cut c p q mu)
    (hn : '\n' ∉ mu) (hw : W p q) :
    ICN c m W ex p q (Node.leaf (.special ct mu info) (some (a, b))) := by
  unfold Node.leaf
  rw [ICN_eq]
  refine ⟨⟨a, b, rfl, ha, hb⟩, hcut.bdy_left, hcut.bdy_right, hcut.le, (fun t e => by cases e), ?_,
    (fun mk l rem o cl e => by cases e), trivial, (ICL_nil ..).mpr hcut.le⟩
  intro x y z e
  simp only [Val.special.injEq] at e
  obtain ⟨_, rfl, _⟩ := e
  exact ⟨hcut, hn, hw⟩

theorem icn_newText {ex : Bool} {p q a b : Nat} {t : List Char}
    (ha : getSourcePosFor m p = .ok a) (hb : getSourcePosFor m q = .ok b) (hp : Bdy c p)
    (hq : Bdy c q) (hle : p ≤ q)
    (h0 : ex = false → p < q ∧ Cut c p q t ∧ ('\n' ∉ t → W p q))
    (h1 : ex = true → ∃ w, Cut c p q w ∧ ('\n' ∉ w → w = t)) :
    ICN c m W ex p q (Node.newText t (some (a, b))) := by
  unfold Node.newText
  rw [ICN_eq]
  refine ⟨⟨a, b, rfl, ha, hb⟩, hp, hq, hle, ?_, (fun ct mu info e => by cases e),
    (fun mk l rem o cl e => by cases e), trivial, (ICL_nil ..).mpr hle⟩
  intro t' e
  simp only [Val.text.injEq] at e; subst e
  exact ⟨rfl, h0, h1⟩

theorem icn_oneText {p q a b p1 q1 x y : Nat} {v : Val} {t : List Char}
    (ha : getSourcePosFor m p = .ok a) (hb : getSourcePosFor m q = .ok b) (hp : Bdy c p)
    (hq : Bdy c q) (h1 : ∀ t, v ≠ .text t) (h2 : ∀ x y z, v ≠ .special x y z)
    (h3 : ∀ mk l rem o cl, v ≠ .emphMarker mk l rem o cl)
    (hx : getSourcePosFor m p1 = .ok x) (hy : getSourcePosFor m q1 = .ok y) (hp1 : Bdy c p1)
    (hq1 : Bdy c q1) (l1 : p ≤ p1) (l2 : p1 ≤ q1) (l3 : q1 ≤ q)
    (t0 : isCode v = false → p1 < q1 ∧ Cut c p1 q1 t ∧ ('\n' ∉ t → W p1 q1))
    (t1 : isCode v = true → ∃ w, Cut c p1 q1 w ∧ ('\n' ∉ w → w = t)) :
    ICN c m W false p q (Node.mk v (some (a, b)) [Node.newText t (some (x, y))]) :=
  icn_plain ha hb hp hq (by omega) h1 h2 h3 trivial
    (ICL.single (icn_newText hx hy hp1 hq1 l2 t0 t1) l1 l3)

theorem icn_text {p q a b : Nat} {n : Node} (ht : n.isText = true) (hc : n.children = [])
    (hr : n.range = some (a, b)) (ha : getSourcePosFor m p = .ok a)
    (hb : getSourcePosFor m q = .ok b) (hlt : p < q) (hcut : Cut c p q n.content)
    (hw : '\n' ∉ n.content → W p q) : ICN c m W false p q n := by
  have hv := C05R.fi_val_of_isText ht
  rw [ICN_eq]
  refine ⟨⟨a, b, hr, ha, hb⟩, hcut.bdy_left, hcut.bdy_right, Nat.le_of_lt hlt, ?_, ?_, ?_, ?_, ?_⟩
  · intro t e; rw [hv] at e; cases e
    exact ⟨hc, fun _ => ⟨hlt, hcut, hw⟩, fun h => by cases h⟩
  · intro ct mu info e; rw [hv] at e; cases e
  · intro mk l rem o cl e; rw [hv] at e; cases e
  · rw [hc]; trivial
  · rw [hc]; exact (ICL_nil ..).mpr (Nat.le_of_lt hlt)

theorem ICN.text_inv {p q : Nat} {n : Node} (h : ICN c m W false p q n) (ht : n.isText = true) :
    n.children = [] ∧
    (∃ a b, n.range = some (a, b) ∧ getSourcePosFor m p = .ok a ∧ getSourcePosFor m q = .ok b) ∧
    p < q ∧ Cut c p q n.content ∧ ('\n' ∉ n.content → W p q) := by
  obtain ⟨hr, _, _, _, htx, _⟩ := (ICN_eq ..).mp h
  obtain ⟨hc, h1, _⟩ := htx _ (C05R.fi_val_of_isText ht)
  obtain ⟨hlt, hcut, hw⟩ := h1 rfl
  exact ⟨hc, hr, hlt, hcut, hw⟩

/-! ### runs of a marker -/

theorem ic_asMarker_val {n : Node} {k : Marker} (h : n.asMarker = some k) : n.val = k.toVal := by
  unfold Node.asMarker at h
  split at h
  · next hv =>
    simp only [Option.some.injEq] at h; subst h; rw [hv]; rfl
  · cases h

/-- the marker `k` spells its `remaining` delimiters at `c[p..q]`, a `W` stretch whose ends
    translate to `a`, `b` -/
structure Run (c : List Char) (m : Srcmap) (W : Nat → Nat → Prop) (p q a b : Nat) (k : Marker) :
    Prop where
  tp : getSourcePosFor m p = .ok a
  tq : getSourcePosFor m q = .ok b
  cut : Cut c p q (List.replicate k.remaining k.marker)
  size : k.marker.utf8Size = 1
  nolf : k.marker ≠ '\n'
  w : W p q

theorem ICN.run {ex : Bool} {p q : Nat} {n : Node} {k : Marker} (h : ICN c m W ex p q n)
    (hk : n.asMarker = some k) :
    n.children = [] ∧ 0 < k.remaining ∧ ∃ a b, n.range = some (a, b) ∧ Run c m W p q a b k := by
  obtain ⟨⟨a, b, hr, ha, hb⟩, _, _, _, _, _, hm, _⟩ := (ICN_eq ..).mp h
  obtain ⟨hc, hrem, hcut, hu, hn, hw⟩ := hm _ _ _ _ _ (ic_asMarker_val hk)
  exact ⟨hc, hrem, a, b, hr, ha, hb, hcut, hu, hn, hw⟩

theorem Run.icn {ex : Bool} {p q a b : Nat} {k : Marker} (h : Run c m W p q a b k)
    (hrem : 0 < k.remaining) : ICN c m W ex p q (Node.mk k.toVal (some (a, b)) []) := by
  rw [ICN_eq]
  refine ⟨⟨a, b, rfl, h.tp, h.tq⟩, h.cut.bdy_left, h.cut.bdy_right, h.cut.le, (fun t e => by cases e),
    (fun ct mu info e => by cases e), ?_, trivial, (ICL_nil ..).mpr h.cut.le⟩
  intro mk l rem o cl e
  simp only [Marker.toVal, Val.emphMarker.injEq] at e
  obtain ⟨rfl, _, rfl, _, _⟩ := e
  exact ⟨rfl, hrem, h.cut, h.size, h.nolf, h.w⟩

/-! ## pushing a node that is not text-like -/

/-- pushing a node that is not text-like, covering `c[p..q]` behind the list, and moving the cursor
    to a boundary `p'` where a blank (if any) is `S`.  Only the list clauses `tiles`, `adj` of the
    invariant are asked: after `trailing_text_pop` nothing else is left of it. -/
theorem icf_push {S : Nat → Prop} {A : Prop} {lo pm mid : Nat} {cs : List Node}
    (ht : ICL c m W false lo mid cs) (hadj : Adjd cs) {n : Node} {p q p' : Nat}
    (hn : ICN c m W false p q n) (hp : mid ≤ p) (hq : q ≤ p') (hb : Bdy c p') (hnt : ¬ TextLike n)
    (ha : p' < pm → CharAt c p' ' ' → S p') : ICF c m W S A lo pm p' (cs ++ [n]) := by
  have hnt' : n.isText = false := by
    cases ht : n.isText with
    | false => rfl
    | true => exact absurd (C05R.fi_textLike_of_isText ht) hnt
  refine ⟨hb, ht.snoc hn hp hq, (C05R.fi_adjd_snoc _ _).mpr ⟨hadj, fun y _ _ ht => absurd ht hnt⟩,
    ?_, ?_, ?_, fun _ => ha⟩
  · intro init last hcs hlt
    obtain ⟨_, rfl⟩ := snoc_inj hcs
    exact absurd hlt hnt
  · intro init last hcs hlt
    obtain ⟨_, rfl⟩ := snoc_inj hcs
    rw [hnt'] at hlt; cases hlt
  · intro _ init last hcs hlt
    obtain ⟨_, rfl⟩ := snoc_inj hcs
    rw [hnt'] at hlt; cases hlt

theorem ICF.push {S : Nat → Prop} {A : Prop} {lo pm pos : Nat} {cs : List Node}
    (h : ICF c m W S A lo pm pos cs) {n : Node} {p q p' : Nat} (hn : ICN c m W false p q n)
    (hp : pos ≤ p) (hq : q ≤ p') (hb : Bdy c p') (hnt : ¬ TextLike n)
    (ha : p' < pm → CharAt c p' ' ' → S p') : ICF c m W S A lo pm p' (cs ++ [n]) :=
  icf_push h.tiles h.adj hn hp hq hb hnt ha

theorem icf_nil {A : Prop} {pm pos : Nat} (hb : Bdy c pos)
    (ha : pos < pm → CharAt c pos ' ' → S pos) : ICF c m W S A pos pm pos [] :=
  ⟨hb, (ICL_nil ..).mpr (Nat.le_refl _), trivial, by intro init last hcs; simp at hcs,
    by intro init last hcs; simp at hcs, by intro _ init last hcs; simp at hcs, fun _ => ha⟩

theorem ic_none {S : Nat → Prop} {A : Prop} {lo pm pos : Nat} {cs : List Node}
    (hf : ICF c m W S A lo pm pos cs) :
    ICF c m W S A lo pm (pos + (none : Option Nat).getD 0) cs := by
  simp only [Option.getD_none, Nat.add_zero]; exact hf

theorem cut_of_charAt {p : Nat} {x : Char} (h : CharAt c p x) (hx : x.utf8Size = 1) :
    Cut c p (p + 1) [x] := by
  obtain ⟨pre, post, e, hl⟩ := h
  exact ⟨pre, post, by rw [e]; simp, hl, by simp only [byteLen, hx]⟩

theorem lf_not_mem_cons {x : Char} {w : List Char} (hx : x ≠ '\n') (hw : '\n' ∉ w) :
    '\n' ∉ x :: w := by
  intro h
  rcases List.mem_cons.mp h with h | h
  · exact hx h.symm
  · exact hw h

end

/-! ## what lowering asks of the table and the document -/

/-- the table interface of the lowering lemmas: `Ctx` gives it with `W = True`, `CtxV` with
    `W = Within c` -/
structure Low (src c : List Char) (m : Srcmap) (W : Nat → Nat → Prop) : Prop where
  mono : ∀ p p' x x', p ≤ p' → getSourcePosFor m p = .ok x → getSourcePosFor m p' = .ok x' → x ≤ x'
  bdy : ∀ p a, Bdy c p → getSourcePosFor m p = .ok a → Bdy src a
  copy : ∀ p q w a b, Cut c p q w → '\n' ∉ w → W p q → getSourcePosFor m p = .ok a →
    getSourcePosFor m q = .ok b → Cut src a b w
  brk : ∀ p q w a b w', Cut c p q w → '\n' ∈ w → getSourcePosFor m p = .ok a →
    getSourcePosFor m q = .ok b → Cut src a b w' → ¬ C05R.NoBrk w'

end MdIt.IC
