/-
  C13 tied to SOURCE LINES, the invariant of the instrumented tokenizer (namespace `MdIt.Block.Tr`).

    `tokenize_calls`   for every fuel: a successful `tokenize cfg fuel s` on a state whose table cuts
                       lines out of the source (`SOk`) yields calls `engineCalls cfg fuel s` that form a
                       `Seg`: the reference map is threaded through the `reference` calls (`Thread`),
                       the line ranges are laminar within `[s.line, s'.line]` (`Lam`), every call is a
                       successful `ruleAt` call on a state over the same source whose table has the
                       geometry of the source's own line table (`Good`).
-/
import MdIt.Lemmas.C13TraceDefs

namespace MdIt.Block.Tr
open MdIt.Lines (LineOffset)
open MdIt.Block

/-! ## the geometry of the table -/

/-- `line_start`, `line_end` of an entry; the same function as `Block.LE.geom` of Lemmas/C10DocCore.lean -/
def geo (o : LineOffset) : Nat × Nat := (o.lineStart, o.lineEnd)

/-- line `k` of the table starts and ends where line `k` of the source's own table does (containers
    move `first_nonspace` / `indent_nonspace` only) -/
def GeoOk (s : BState) : Prop := s.offs.map geo = (Lines.splitLines s.src).map geo

/-- the state invariant the trace theorems need: every entry cuts a piece of a line out of the source
    (`TableOk`), and it is the line of that index -/
structure SOk (s : BState) : Prop where
  table : TableOk s
  geo : GeoOk s

theorem SOk.congr {s s' : BState} (h : SOk s) (h1 : s'.src = s.src) (h2 : s'.offs = s.offs) : SOk s' := by
  refine ⟨?_, ?_⟩
  · intro k o ho
    rw [h2] at ho; rw [h1]
    exact h.table k o ho
  · unfold GeoOk; rw [h1, h2]; exact h.geo

theorem SOk.of_frame {s s' : BState} (h : SOk s) (hf : Frame s s') : SOk s' := h.congr hf.src hf.offs

theorem sOk_fresh (src : List Char) (k : Kind) (refs : Refs.RefMap) : SOk (BState.fresh src k refs) :=
  ⟨tableOk_fresh src k refs, rfl⟩

theorem geo_set {offs : List LineOffset} {m : Nat} {o x : LineOffset} (ho : offs[m]? = some o)
    (hx : geo x = geo o) : (offs.set m x).map geo = offs.map geo := by
  apply List.ext_getElem?
  intro i
  simp only [List.getElem?_map, List.getElem?_set]
  split
  · rename_i h
    subst h
    obtain ⟨hm, hv⟩ := List.getElem?_eq_some_iff.mp ho
    simp [hm, hx, hv]
  · rfl

theorem bqRewrite_geo {src : List Char} {o o' : LineOffset} {rest : List Char} {le : Bool}
    (h : bqRewrite src o rest = .ok (o', le)) : geo o' = geo o := by
  obtain ⟨_, _, _, _, -, -, -, -, -, rfl⟩ := bqRewrite_ok h
  rfl

theorem itemRewrite_geo {src : List Char} {o o' : LineOffset} {pos indent : Nat} {re : Bool}
    (h : itemRewrite src o pos = .ok (o', indent, re)) : geo o' = geo o := by
  obtain ⟨_, _, _, -, -, -, -, -, -, -, rfl⟩ := itemRewrite_ok h
  rfl

theorem setOff_geo {S S1 : BState} {m : Nat} {o x : LineOffset} (hset : S.setOff m x = .ok S1)
    (ho : S.off m = .ok o) (hx : geo x = geo o) : S1.offs.map geo = S.offs.map geo := by
  obtain ⟨_, rfl⟩ := setOff_ok hset
  exact geo_set (off_ok ho) hx

theorem bqScan_geo {test : Test} (ht : TestPure test) :
    ∀ (fuel : Nat) (S : BState) (m : Nat) (old : List LineOffset) (le : Bool)
      (n : Nat) (old' : List LineOffset) (S' : BState),
      bqScan test fuel S m old le = .ok (n, old', S') → S'.offs.map geo = S.offs.map geo := by
  intro fuel
  induction fuel with
  | zero => intro S m old le n old' S' h; simp [bqScan] at h
  | succ f ih =>
    intro S m old le n old' S' h
    rcases bqScan_ok h with ⟨_, _, _, rfl⟩ | ⟨ind, line, _, _, _, hcase⟩
    · rfl
    rcases hcase with ⟨_, _, _, rfl⟩ | ⟨c, rest, _, hq⟩
    · rfl
    rcases hq with ⟨_, _, o, o', le', S1, ho, hrw, hset, h⟩ | ⟨_, hq⟩
    · rw [ih _ _ _ _ _ _ _ h]
      exact setOff_geo hset ho (bqRewrite_geo hrw)
    rcases hq with ⟨_, _, _, rfl⟩ | ⟨t, S1, _, htest, hq⟩
    · rfl
    cases ht _ _ htest
    rcases hq with ⟨_, _, _, _, rfl⟩ | ⟨_, _, o, ho, hset, _⟩ | ⟨_, o, S2, ho, hset, h⟩
    · rfl
    · exact (setOff_geo hset ho rfl :)
    · rw [ih _ _ _ _ _ _ _ h]
      exact (setOff_geo hset ho rfl :)

/-! ## what holds of every call; segments -/

/-- what holds of every call of a trace over the source `src` -/
structure Good (cfg : Cfg) (src : List Char) (c : Call) : Prop where
  /-- it is a successful real-mode call of the rule, as the tokenizer of some budget makes it -/
  fired : ∃ f, ruleAt cfg f c.rule c.pre false = .ok (true, c.post)
  src : c.pre.src = src
  /-- the state it got sees lines of the source: entry `k` of its table cuts a piece out of line `k` -/
  ok : SOk c.pre
  lt : c.pre.line < c.pre.lineMax
  le : c.post.line ≤ c.pre.lineMax
  frame : Frame c.pre c.post

/-- the calls `cs` lead from the map `m` to the map `m'`, lie laminar in the lines `[a, b]`, and are
    all `Good` -/
structure Seg (cfg : Cfg) (src : List Char) (m m' : Refs.RefMap) (a b : Nat) (cs : Calls) : Prop where
  thread : Thread cfg m m' cs
  lam : Lam a b cs
  good : ∀ c ∈ cs, Good cfg src c

theorem Seg.nil {cfg : Cfg} {src : List Char} {m : Refs.RefMap} {a b : Nat} (h : a ≤ b) :
    Seg cfg src m m a b [] := ⟨rfl, Lam.nil h, by simp⟩

theorem Seg.append {cfg : Cfg} {src : List Char} {m m₁ m₂ : Refs.RefMap} {a b b' c : Nat} {cs₁ cs₂ : Calls}
    (h₁ : Seg cfg src m m₁ a b cs₁) (h₂ : Seg cfg src m₁ m₂ b' c cs₂) (hb : b ≤ b') :
    Seg cfg src m m₂ a c (cs₁ ++ cs₂) := by
  refine ⟨h₁.thread.append h₂.thread, h₁.lam.append h₂.lam hb, ?_⟩
  intro x hx
  rcases List.mem_append.mp hx with hx | hx
  · exact h₁.good x hx
  · exact h₂.good x hx

theorem Seg.widen {cfg : Cfg} {src : List Char} {m m' : Refs.RefMap} {a b a' b' : Nat} {cs : Calls}
    (h : Seg cfg src m m' a b cs) (ha : a' ≤ a) (hb : b ≤ b') : Seg cfg src m m' a' b' cs :=
  ⟨h.thread, h.lam.widen ha hb, h.good⟩

/-- a call of a rule other than `reference`, with its nested calls -/
theorem Seg.call {cfg : Cfg} {src : List Char} {c : Call} {cs : Calls}
    (hg : Good cfg src c) (hlt : c.start < c.stop) (hr : c.rule ≠ .reference)
    (hcs : cs = [] ∨ isContainer c.rule = true)
    (h : Seg cfg src c.pre.refs c.post.refs c.start c.stop cs) :
    Seg cfg src c.pre.refs c.post.refs c.start c.stop (c :: cs) := by
  refine ⟨h.thread.cons_other hr, Lam.cons (Nat.le_refl _) hlt (Nat.le_refl _) hcs h.lam, ?_⟩
  intro x hx
  rcases List.mem_cons.mp hx with rfl | hx
  · exact hg
  · exact h.good x hx

/-- the nested tokenizer, with the calls `tokTr` ascribes to it -/
def TokInv (cfg : Cfg) (tok : Tok) (tokTr : TokTr) : Prop :=
  ∀ s s', tok s = .ok s' → SOk s → s.line ≤ s.lineMax →
    Seg cfg s.src s.refs s'.refs s.line s'.line (tokTr s)

/-! ## the reference rule -/

/-- **the reference rule, located**: a successful call read the lines `s.line .. n` (`n` = where the
    paragraph-continuation scan stopped) through the view of its container, `refParse` made the
    definition `d` of the trimmed text, the rule consumed the `lines + 1` lines of the definition
    itself, and performed exactly one `Refs.addDef` with `d` -/
theorem reference_located {cfg : Cfg} {test : Test} (ht : TestPure test) {fuel : Nat} {s s' : BState}
    (h : referenceRule cfg test fuel s false = .ok (true, s')) (hl : s.line < s.lineMax)
    (hT : TableOk s) :
    ∃ d : Refs.Def, IsDefAt cfg s s' d ∧ s'.refs = Refs.addDef cfg.N s.refs d := by
  rcases referenceRule_ok h with
    ⟨hb, _⟩ | ⟨_, _, n, _, S, str, _, raw, href, title, lines, _, _, _, _, _, hscan, hgl, hparse, hne, _, rfl⟩
  · cases hb
  obtain ⟨h1, h2, h3, _⟩ := lazyScan_spec ht hscan
  subst h1
  have hn := getLines_nl hT hgl
  have hlines := refParse_lines hparse
  have htrim := nl_trimStr str
  have hne' : (Refs.normalize cfg.L cfg.U raw).isEmpty = false := by simpa using hne
  refine ⟨⟨raw, ⟨href, title⟩⟩, ⟨n, str, _, lines, rfl, ?_, h3 hl, hgl, hparse, ?_⟩, ?_⟩
  · show S.line + lines + 1 ≤ n
    omega
  · simpa [Cfg.N] using hne'
  · simp [Refs.addDef, Cfg.N, hne']

/-! ## one call -/

theorem good_call {cfg : Cfg} {r : RuleId} {s s' : BState}
    (hf : ∃ f, ruleAt cfg f r s false = .ok (true, s')) (hS : SOk s) (hl : s.line < s.lineMax)
    (ha : Advanced s s') : Good cfg s.src (r, s, s') :=
  ⟨hf, rfl, hS, hl, ha.le hS.table, ha.frame⟩

/-- a call of a rule that neither nests nor touches the map -/
theorem seg_leaf {cfg : Cfg} {r : RuleId} {s s' : BState} (hg : Good cfg s.src (r, s, s'))
    (hlt : s.line < s'.line) (hr : r ≠ .reference) (hrefs : s'.refs = s.refs) :
    Seg cfg s.src s.refs s'.refs s.line s'.line [(r, s, s')] := by
  have h0 : Seg cfg s.src s.refs s'.refs s.line s'.line [] := by
    rw [hrefs]; exact Seg.nil (by omega)
  exact Seg.call (c := (r, s, s')) hg hlt hr (.inl rfl) h0

theorem seg_reference {cfg : Cfg} {s s' : BState} (hg : Good cfg s.src (.reference, s, s'))
    (hlt : s.line < s'.line)
    (hd : ∃ d : Refs.Def, IsDefAt cfg s s' d ∧ s'.refs = Refs.addDef cfg.N s.refs d) :
    Seg cfg s.src s.refs s'.refs s.line s'.line [(.reference, s, s')] := by
  refine ⟨?_, ?_, ?_⟩
  · rw [Thread, if_pos (by rfl)]
    exact ⟨rfl, hd, rfl⟩
  · exact Lam.cons (c := (.reference, s, s')) (Nat.le_refl _) hlt (Nat.le_refl _) (.inl rfl)
      (Lam.nil (by simp; omega))
  · intro x hx
    simp only [List.mem_singleton] at hx
    subst hx
    exact hg

/-! ## block quote -/

theorem blockquote_inner {cfg : Cfg} {tok : Tok} {tokTr : TokTr} {test : Test} (hinv : TokInv cfg tok tokTr)
    (ht : TestPure test) {fuel : Nat} {s s' : BState}
    (h : blockquoteRule tok test fuel s false = .ok (true, s')) (hS : SOk s) :
    Seg cfg s.src s.refs s'.refs s.line s'.line (bqCalls tokTr test fuel s) := by
  rcases blockquoteRule_ok h with ⟨hb, _⟩ | ⟨_, _, _, _, _, _, _, hs⟩
  · cases hb
  rcases hs with ⟨hs, _⟩ | ⟨_, n, old', S', s2, _, _, hscan, htok, _, _, _, _, rfl⟩
  · cases hs
  obtain ⟨hsb, hmn, hup, _, hT, add, hadd, hrest⟩ := bqScan_spec ht _ _ _ _ _ _ _ _ hscan
  have hgeo := bqScan_geo ht _ _ _ _ _ _ _ _ hscan
  have hcalls : bqCalls tokTr test fuel s = tokTr (bqNest S' s.line n) := by
    simp only [bqCalls, hscan]
  rw [hcalls]
  have hin : SOk (bqNest S' s.line n) := by
    refine ⟨fun k o ho => hT hS.table k o ho, ?_⟩
    unfold GeoOk
    simp only
    rw [hgeo, hsb.src]
    exact hS.geo
  have P := hinv _ _ htok hin (by simpa using hmn)
  generalize tokTr (bqNest S' s.line n) = cs at P ⊢
  simp only [hsb.src, hsb.refs] at P
  exact P

/-! ## list -/

theorem listItemBody_inner {cfg : Cfg} {tok : Tok} {tokTr : TokTr} (hinv : TokInv cfg tok tokTr)
    {S2 S3 : BState} {m : Nat} {re : Bool} (h : listItemBody tok S2 m re = .ok S3) (hS2 : SOk S2)
    (hle : m ≤ S2.lineMax) (hprog : m ≤ S3.line) :
    Seg cfg S2.src S2.refs S3.refs m S3.line
      (if re = true ∧ S2.isEmpty (m + 1) = true then []
       else tokTr { S2 with line := m, level := S2.level + 1 }) := by
  rcases listItemBody_ok h with ⟨hre, hemp, rfl⟩ | ⟨hcond, s2, htok, _, rfl⟩
  · rw [if_pos (And.intro hre hemp)]
    exact Seg.nil hprog
  · rw [if_neg hcond]
    exact hinv _ _ htok (hS2.congr rfl rfl) hle

theorem listItem_inner {cfg : Cfg} {tok : Tok} {tokTr : TokTr} (hk : TokSpec tok) (hinv : TokInv cfg tok tokTr)
    {S S' : BState} {m pos : Nat} {pee tight pee' tight' : Bool}
    (h : listItem tok S m pos pee tight = .ok (S', tight', pee')) (hline : S.line = m)
    (hlt : m < S.lineMax) (hS : SOk S) :
    Seg cfg S.src S.refs S'.refs m S'.line (itemCalls tokTr S m pos) := by
  obtain ⟨_, hprog, _⟩ := listItem_spec hk h hline hlt
  obtain ⟨o, o', indent, re, S3, li, r, ho, hrw, hm, hbody, _, _, _, _, _, _, rfl⟩ := listItem_ok h
  have hS2 : (itemNest S indent).setOff m o' = .ok { itemNest S indent with offs := S.offs.set m o' } :=
    if_pos hm
  generalize hS2eq : ({ itemNest S indent with offs := S.offs.set m o' } : BState) = S2 at hS2
  have hok2 : SOk S2 := by
    refine ⟨?_, ?_⟩
    · refine TableOk.setOff (s := itemNest S indent) (fun k o ho => hS.table k o ho) hS2 ?_
      exact (itemRewrite_spec hrw).1 (hS.table _ _ (off_ok ho))
    · unfold GeoOk
      rw [← hS2eq]
      simp only
      rw [geo_set (off_ok ho) (itemRewrite_geo hrw)]
      exact hS.geo
  have hcalls : itemCalls tokTr S m pos =
      (if re = true ∧ S2.isEmpty (m + 1) = true then []
       else tokTr { S2 with line := m, level := S2.level + 1 }) := by
    simp only [itemCalls, ho, hrw, hS2]
  rw [hcalls]
  have hbody' : listItemBody tok S2 m re = .ok S3 := hS2eq ▸ hbody
  have P := listItemBody_inner hinv hbody' hok2 (by rw [← hS2eq]; exact Nat.le_of_lt hlt)
    (Nat.le_of_lt hprog)
  have hsrc2 : S2.src = S.src := by rw [← hS2eq]
  have hrefs2 : S2.refs = S.refs := by rw [← hS2eq]
  rw [← hsrc2, ← hrefs2]
  exact P

theorem listLoop_inner {cfg : Cfg} {tok : Tok} {tokTr : TokTr} {test : Test} (hk : TokSpec tok)
    (hinv : TokInv cfg tok tokTr) (ht : TestPure test) {ordered : Bool} {mc : Char} :
    ∀ (fuel : Nat) (S : BState) (m pos : Nat) (pee tight : Bool) (n : Nat) (tight' : Bool) (S' : BState),
      listLoop tok test ordered mc fuel S m pos pee tight = .ok (n, tight', S') →
      S.line = m → m < S.lineMax → SOk S →
      Seg cfg S.src S.refs S'.refs m n (listLoopCalls tokTr tok test ordered mc fuel S m pos pee tight) := by
  intro fuel
  induction fuel with
  | zero => intro S m pos pee tight n tight' S' h; simp [listLoop] at h
  | succ f ih =>
    intro S m pos pee tight n tight' S' h hline hlt hS
    subst hline
    rcases listLoop_ok h with ⟨hc, _⟩ | ⟨S1, t1, p1, c, S2, _, hitem, hc, hq⟩
    · exact absurd hlt hc
    obtain ⟨hfr, h1, h2⟩ := listItem_spec hk hitem rfl hlt
    obtain ⟨rfl, hc2⟩ := listContinue_spec ht hc
    have P1 := listItem_inner hk hinv hitem rfl hlt hS
    rcases hq with ⟨rfl, rfl, _, rfl⟩ | ⟨p, rfl, h⟩
    · have hcalls : listLoopCalls tokTr tok test ordered mc (f + 1) S S.line pos pee tight =
          itemCalls tokTr S S.line pos ++ [] := by
        simp only [listLoopCalls, hitem, hc]
        rw [if_neg (by omega)]
      rw [hcalls, List.append_nil]
      exact P1
    · have hcalls : listLoopCalls tokTr tok test ordered mc (f + 1) S S.line pos pee tight =
          itemCalls tokTr S S.line pos ++
            listLoopCalls tokTr tok test ordered mc f S2 S2.line p p1 t1 := by
        simp only [listLoopCalls, hitem, hc]
        rw [if_neg (by omega)]
      rw [hcalls]
      have P2 := ih _ _ _ _ _ _ _ _ h rfl (hc2 (by simp)) (hS.of_frame hfr)
      rw [hfr.src] at P2
      exact P1.append P2 (Nat.le_refl _)

theorem list_inner {cfg : Cfg} {tok : Tok} {tokTr : TokTr} {test : Test} (hk : TokSpec tok)
    (hinv : TokInv cfg tok tokTr) (ht : TestPure test) {fuel : Nat} {s s' : BState}
    (h : listRule tok test fuel s false = .ok (true, s')) (hl : s.line < s.lineMax) (hS : SOk s) :
    Seg cfg s.src s.refs s'.refs s.line s'.line (listCalls tokTr tok test fuel s) := by
  rcases listRule_ok h with ⟨hb, _⟩ | ⟨_, cur, pos, mv, _, _, _, _, hcur, hdet, _, _, _, hs⟩
  · cases hb
  rcases hs with ⟨hs, _⟩ | ⟨_, mc, n, t, S', _, _, hmc, hloop, _, _, _, _, rfl⟩
  · cases hs
  obtain ⟨_, h1, _, _⟩ := listLoop_spec hk ht _ _ _ _ _ _ _ _ _ hloop rfl hl
  have P := listLoop_inner hk hinv ht _ _ _ _ _ _ _ _ _ hloop rfl hl (hS.congr rfl rfl)
  simp only [listCalls, hcur, hdet, hmc]
  simp only [h1]
  exact P

/-! ## one rule of the chain -/

/-- the head call of a chain is a call of `ruleAt` -/
def FiredBy (cfg : Cfg) (run : RuleId → BState → Bool → Res) : Prop :=
  ∀ r s s', run r s false = .ok (true, s') → ∃ f, ruleAt cfg f r s false = .ok (true, s')

/-- what the tokenizer loop needs of the chain it runs and of the calls ascribed to it -/
def RuleSeg (cfg : Cfg) (run : RuleId → BState → Bool → Res) (inner : RuleId → BState → Calls) : Prop :=
  ∀ r s s', run r s false = .ok (true, s') → s.line < s.lineMax → IndentOk s → SOk s →
    Seg cfg s.src s.refs s'.refs s.line s'.line ((r, s, s') :: inner r s)

theorem runRule_seg {cfg : Cfg} {tok : Tok} {tokTr : TokTr} {test : Test} (hk : TokSpec tok)
    (hinv : TokInv cfg tok tokTr) (ht : TestPure test) (fuel : Nat)
    (hfired : FiredBy cfg (runRule cfg tok test fuel)) :
    RuleSeg cfg (runRule cfg tok test fuel) (ruleCalls tokTr tok test fuel) := by
  intro r s s' h hl hi hS
  have ha := (runRule_spec (cfg := cfg) hk ht fuel).advanced r s s' h hl hi
  have hg : Good cfg s.src (r, s, s') := good_call (hfired r s s' h) hS hl ha
  cases r <;> simp only [runRule] at h <;> simp only [ruleCalls]
  · exact seg_leaf hg ha.lt (by decide) (code_refs h)
  · exact seg_leaf hg ha.lt (by decide) (fence_refs h)
  · exact Seg.call (c := (.blockquote, s, s')) hg ha.lt (by simp) (.inr rfl)
      (blockquote_inner hinv ht h hS)
  · exact seg_leaf hg ha.lt (by decide) (hr_refs h)
  · exact Seg.call (c := (.list, s, s')) hg ha.lt (by simp) (.inr rfl)
      (list_inner hk hinv ht h hl hS)
  · exact seg_reference hg ha.lt (reference_located ht h hl hS.table)
  · exact seg_leaf hg ha.lt (by decide) (heading_refs h)
  · exact seg_leaf hg ha.lt (by decide) (lheading_refs ht h)
  · exact seg_leaf hg ha.lt (by decide) (paragraph_refs ht h)

/-! ## the chain -/

theorem chain_seg {cfg : Cfg} {run : RuleId → BState → Bool → Res} {inner : RuleId → BState → Calls}
    (hr : RunSpec run) (hrule : RuleSeg cfg run inner) :
    ∀ (chain : List RuleId) (s : BState) (b : Bool) (s' : BState),
      runChain run chain s false = .ok (b, s') → s.line < s.lineMax → IndentOk s → SOk s →
      (b = false → chainCalls run inner chain s = []) ∧
      (b = true → Seg cfg s.src s.refs s'.refs s.line s'.line (chainCalls run inner chain s)) := by
  intro chain
  induction chain with
  | nil =>
    intro s b s' h _ _ _
    simp [runChain] at h
    simp [h.1, chainCalls]
  | cons r rs ih =>
    intro s b s' h hl hi hS
    simp only [runChain] at h
    split at h
    · cases h
    · rename_i s1 h1
      cases h
      refine ⟨by simp, fun _ => ?_⟩
      simp only [chainCalls, h1]
      exact hrule _ _ _ h1 hl hi hS
    · rename_i s1 h1
      have := hr.false_same _ _ _ h1
      subst this
      simp only [chainCalls, h1]
      exact ih _ _ _ h hl hi hS

/-! ## the tokenizer loop -/

/-- `tokLoopCalls` along the path on which the chain runs -/
theorem tokLoopCalls_iter {cfg : Cfg} {run : RuleId → BState → Bool → Res}
    {inner : RuleId → BState → Calls} {fuel : Nat} {he : Bool} {s : BState} {l' : Nat}
    (hl' : Lines.skipEmptyLines s.offs s.lineMax s.line = l') (h1 : s.line < s.lineMax)
    (h2 : ¬ l' ≥ s.lineMax) {ind : Int}
    (h3 : BState.lineIndent { s with line := l' } l' = .ok ind) (h4 : ¬ ind < 0)
    (h5 : ¬ s.level ≥ cfg.maxNesting) {w : Bool × BState}
    (h6 : runChain run cfg.chain { s with line := l' } false = .ok w) {s3 : BState}
    (h7 : afterChain w.1 w.2 l' = .ok s3) {l1 : Nat} (h8 : psub s3.line 1 = .ok l1) :
    tokLoopCalls cfg run inner (fuel + 1) he s =
      chainCalls run inner cfg.chain { s with line := l' } ++
        (if s3.line < s3.lineMax ∧ BState.isEmpty { s3 with tight := !he } s3.line = true then
          tokLoopCalls cfg run inner fuel true { s3 with tight := !he, line := s3.line + 1 }
        else tokLoopCalls cfg run inner fuel (he || BState.isEmpty { s3 with tight := !he } l1)
          { s3 with tight := !he }) := by
  obtain ⟨ok, s2⟩ := w
  simp only at h7
  simp only [tokLoopCalls, hl']
  rw [if_neg (by omega), if_neg h2]
  simp only [h3]
  rw [if_neg h4, if_neg h5]
  simp only [h6, h7, h8]

theorem tokLoopCalls_nil1 {cfg : Cfg} {run : RuleId → BState → Bool → Res}
    {inner : RuleId → BState → Calls} {fuel : Nat} {he : Bool} {s : BState}
    (h1 : ¬ s.line < s.lineMax) : tokLoopCalls cfg run inner (fuel + 1) he s = [] := by
  simp [tokLoopCalls, h1]

theorem tokLoopCalls_nil2 {cfg : Cfg} {run : RuleId → BState → Bool → Res}
    {inner : RuleId → BState → Calls} {fuel : Nat} {he : Bool} {s : BState} {l' : Nat}
    (hl' : Lines.skipEmptyLines s.offs s.lineMax s.line = l')
    (h2 : l' ≥ s.lineMax) : tokLoopCalls cfg run inner (fuel + 1) he s = [] := by
  simp [tokLoopCalls, hl', h2]

theorem tokLoopCalls_nil3 {cfg : Cfg} {run : RuleId → BState → Bool → Res}
    {inner : RuleId → BState → Calls} {fuel : Nat} {he : Bool} {s : BState} {l' : Nat}
    (hl' : Lines.skipEmptyLines s.offs s.lineMax s.line = l') {ind : Int}
    (h3 : BState.lineIndent { s with line := l' } l' = .ok ind)
    (h4 : ind < 0 ∨ s.level ≥ cfg.maxNesting) : tokLoopCalls cfg run inner (fuel + 1) he s = [] := by
  simp only [tokLoopCalls, hl', h3]
  rcases h4 with h4 | h4 <;> simp [h4]

/-- one iteration in which the chain runs -/
theorem iter_seg {cfg : Cfg} {run : RuleId → BState → Bool → Res} {inner : RuleId → BState → Calls}
    (hr : RunSpec run) (hrule : RuleSeg cfg run inner) {chain : List RuleId} {s1 : BState}
    {w : Bool × BState} {s3 : BState} (hchain : runChain run chain s1 false = .ok w)
    (hafter : afterChain w.1 w.2 s1.line = .ok s3) (hlt : s1.line < s1.lineMax) (hi : IndentOk s1)
    (hS1 : SOk s1) :
    Seg cfg s1.src s1.refs s3.refs s1.line s3.line (chainCalls run inner chain s1) := by
  obtain ⟨b, s2⟩ := w
  have hc := chain_seg hr hrule _ _ _ _ hchain hlt hi hS1
  obtain ⟨hf1, _⟩ := runChain_real hr _ _ _ _ hchain
  obtain ⟨_, ht3, hf3⟩ := afterChain_spec hafter
  have hrefs := afterChain_refs hafter
  simp only at hafter ht3 hf3 hrefs
  cases b with
  | true =>
    obtain ⟨rfl, _⟩ := ht3 rfl
    exact hc.2 rfl
  | false =>
    have e := hf1 rfl
    subst e
    rw [hc.1 rfl, hrefs]
    exact Seg.nil (by have := hf3 rfl; omega)

theorem tokLoop_seg {cfg : Cfg} {run : RuleId → BState → Bool → Res} {inner : RuleId → BState → Calls}
    (hr : RunSpec run) (hrule : RuleSeg cfg run inner) :
    ∀ (fuel : Nat) (he : Bool) (s s' : BState), tokLoop cfg run fuel he s = .ok s' → SOk s →
      s.line ≤ s.lineMax →
      Seg cfg s.src s.refs s'.refs s.line s'.line (tokLoopCalls cfg run inner fuel he s) := by
  intro fuel
  induction fuel with
  | zero => intro he s s' h; simp [tokLoop] at h
  | succ f ih =>
    intro he s s' h hS hle
    obtain ⟨hs1, hs2, hs3, hs4⟩ := skipEmpty_spec s.offs s.lineMax s.line
    rcases tokLoop_ok h with ⟨hc, rfl⟩ | ⟨l', hlt, hl', hq⟩
    · rw [tokLoopCalls_nil1 hc]
      exact Seg.nil (Nat.le_refl _)
    rw [← hl'] at hs1 hs2 hs3 hs4
    rcases hq with ⟨hge, rfl⟩ | ⟨ind, hnl, hind, hq⟩
    · rw [tokLoopCalls_nil2 hl'.symm hge]
      exact Seg.nil hs1
    rcases hq with ⟨hneg, rfl⟩ | ⟨_, hlv, rfl⟩ |
      ⟨ok, S1, s3, he', S3, hind0, hlvl, hchain, hafter, h1, hloop, hS3⟩
    · rw [tokLoopCalls_nil3 hl'.symm hind (.inl hneg)]
      exact Seg.nil hs1
    · rw [tokLoopCalls_nil3 hl'.symm hind (.inr hlv)]
      exact Seg.nil (by simp only; omega)
    have hS1 : SOk { s with line := l' } := hS.congr rfl rfl
    have hi1 : IndentOk { s with line := l' } := ⟨_, hind, hind0⟩
    obtain ⟨h13, hlt3, hle3⟩ := tok_iter hr (s1 := { s with line := l' }) rfl (by simp only; omega)
      hi1 hchain hafter
    have seg1 := iter_seg (inner := inner) hr hrule hchain hafter (by simp only; omega) hi1 hS1
    have hpsub : psub s3.line 1 = .ok (s3.line - 1) := by unfold psub; rw [if_pos h1]
    rw [tokLoopCalls_iter hl'.symm hlt (by omega) hind (by omega) (by omega) hchain hafter hpsub]
    have e3 : s3.src = s.src := h13.src
    rcases hS3 with ⟨hc1, hc2, rfl, rfl⟩ | ⟨hcond, hhe, rfl⟩
    · have hcond : s3.line < s3.lineMax ∧ BState.isEmpty { s3 with tight := !he } s3.line = true :=
        ⟨hc1, hc2⟩
      rw [if_pos hcond]
      have P2 := ih _ _ _ hloop ((hS1.of_frame h13).congr rfl rfl) (by simp only; omega)
      generalize tokLoopCalls cfg run inner f true _ = cs2 at P2 ⊢
      simp only [e3] at P2
      exact (seg1.append P2 (by omega)).widen hs1 (Nat.le_refl _)
    · have hcond' : ¬ (s3.line < s3.lineMax ∧ BState.isEmpty { s3 with tight := !he } s3.line = true) :=
        hcond
      rw [if_neg hcond', show (he || BState.isEmpty { s3 with tight := !he } (s3.line - 1)) = he' from hhe.symm]
      have hle4 := hle3 hS1.table
      have e4 : s3.lineMax = s.lineMax := h13.lineMax
      have P2 := ih _ _ _ hloop ((hS1.of_frame h13).congr rfl rfl) (by simp only at hle4 ⊢; omega)
      generalize tokLoopCalls cfg run inner f _ _ = cs2 at P2 ⊢
      simp only [e3] at P2
      exact (seg1.append P2 (Nat.le_refl _)).widen hs1 (Nat.le_refl _)

/-! ## the tokenizer, for every fuel -/

theorem tokenize_calls (cfg : Cfg) : ∀ fuel : Nat, TokInv cfg (tokenize cfg fuel) (engineCalls cfg fuel) := by
  intro fuel
  induction fuel with
  | zero => intro s s' h; simp [tokenize, engine] at h
  | succ f ih =>
    intro s s' h hS hle
    simp only [tokenize, engine] at h
    have hk := tokenize_tokSpec cfg f
    have ht := testRules_pure cfg f
    exact tokLoop_seg (runRule_spec hk ht _)
      (runRule_seg hk ih ht (f + 1) (fun r s s' h => ⟨f, h⟩)) _ _ _ _ h hS hle

end MdIt.Block.Tr
