/-
  C11, code SPANS, BLOCK level: the first character of a paragraph.  A character no block rule but `paragraph`
  claims (`ParaFirst`): `code` needs indent 4, `fence` a backtick or tilde, `blockquote` `>`, `hr` one of `* - _`,
  `list` a bullet or a digit, `reference` `[`, `heading` `#`.
-/
import MdIt.Lemmas.C14DocVerbatim

namespace MdIt.Block
open MdIt.Lines (LineOffset NoTerm lead)

/-- a first character that no block rule but `paragraph` claims: not a blank, none of `` ` ~ > * - _ + # [ ``,
    not a digit -/
def ParaFirst (c : Char) : Prop :=
  c ≠ ' ' ∧ c ≠ '\t' ∧ c ≠ '`' ∧ c ≠ '~' ∧ c ≠ '>' ∧ c ≠ '*' ∧ c ≠ '-' ∧ c ≠ '_' ∧ c ≠ '+' ∧ c ≠ '#' ∧ c ≠ '[' ∧
    isDigit c = false

instance (c : Char) : Decidable (ParaFirst c) := by unfold ParaFirst; infer_instance

theorem ParaFirst.notBlank {c : Char} (h : ParaFirst c) : Lines.isBlank c = false := by
  simp [Lines.isBlank, h.1, h.2.1]

/-- … in particular none a thematic break is made of -/
theorem ParaFirst.notBreak {c : Char} (h : ParaFirst c) : c ≠ ' ' ∧ c ≠ '\t' ∧ c ≠ '-' ∧ c ≠ '*' ∧ c ≠ '_' :=
  ⟨h.1, h.2.1, h.2.2.2.2.2.2.1, h.2.2.2.2.2.1, h.2.2.2.2.2.2.2.1⟩

/-- no rule but `lheading` / `paragraph` takes a line that starts with such a character -/
theorem ParaFirst.declines {c : Char} (h : ParaFirst c) (rest : List Char) {r : RuleId} (hr : r ≠ .paragraph)
    (hr' : r ≠ .lheading) : Declines r c rest := by
  obtain ⟨h1, h2, h3, h4, h5, h6, h7, h8, h9, h10, h11, h12⟩ := h
  cases r with
  | code => trivial
  | fence => exact ⟨h3, h4⟩
  | blockquote => exact h5
  | hr => exact ⟨h6, h7, h8⟩
  | list => exact ⟨by simp [skipBullet, h6, h7, h9], by simp [skipOrdered, h12]⟩
  | reference => exact .inl h11
  | heading => exact h10
  | lheading => exact absurd rfl hr'
  | paragraph => exact absurd rfl hr

end MdIt.Block
