/-
  For `Props/MemoSafe.lean`: the definitions of the namespace `MdIt.Inline.CS` ("code spans") — `TopInv`,
  `Just`, `BackOK` and the statements `EndHyp`, `MarksHyp`, `AgreeHyp`, `BackL2` for contents with runs of
  backticks.  `MemoSafeLamCSFinal.lean` (top frame, an instance of `Lemmas/MemoSafeLamTopKit.lean`) and
  `MemoSafeLamCSNest.lean` (nested frames, an instance of `Lemmas/MemoSafeLamFrameKit.lean`) use the names of
  `MdIt.Inline` (`Lemmas/MemoSafeLamDef.lean`, `MemoSafeLamNest.lean`) inside this
  namespace for the stronger notions.

  What the invariants have beyond those of `MdIt.Inline` (all conditional on the code-span rule being in
  the chain; brute-force checks K1, K2 on an instrumented native copy found no exception):
    * `IFP s`  — a state whose position is strictly inside a backtick run (`Interior`) has its position
                 in `inside_failed`;
    * `MK s`   — every unit memo entry `p ↦ p+1` whose end is strictly inside a backtick run has `p+1` in
                 the CURRENT `inside_failed`;
    * the witness of a memo entry (`Just`) additionally knows `IFP` of its state;
    * `BackOK` has the premise that the `pos_max` of the call does not cut a backtick run (`NoCut`), so
      that run-complete marks (`InsideFull`) can be part of the cache invariant.
  With `IFP` of the witness state and of the nested real state, `back_L2` applies at every position:
  strictly inside a run both `inside_failed` contain it, elsewhere neither does
  (`inside_agree_of_not_interior`).
  The text hypothesis: `NoEscTickTick` — no backslash-backtick-backtick — makes the unit step at a backtick
  the ONLY token that ends strictly inside a run (`EndHyp`).
-/
import MdIt.Lemmas.MemoSafeLamFinal
import MdIt.Lemmas.MemoSafeLamBack2

namespace MdIt.Inline.CS
open MdIt.Inline
open MdIt.InlineOps (byteLen slice)

/-- `p` is strictly inside a backtick run: a backtick before it and a backtick at it -/
def Interior (src : List Char) (p : Nat) : Prop :=
  0 < p ∧ CodePair.charAt src (p - 1) = some '`' ∧ CodePair.charAt src p = some '`'

/-- a state at a position strictly inside a backtick run has the position in `inside_failed` -/
def IFP (s : IState) : Prop :=
  Interior s.src s.pos → s.backticks.insideFailed.contains s.pos = true

/-- every unit memo entry whose end is strictly inside a backtick run is marked in the current cache -/
def MK (s : IState) : Prop :=
  ∀ p, (p, p + 1) ∈ s.cache → Interior s.src (p + 1) → s.backticks.insideFailed.contains (p + 1) = true

/-- `inside_failed` only grows -/
def InsideSub (c c' : CodePair.Cache) : Prop :=
  ∀ q, c.insideFailed.contains q = true → c'.insideFailed.contains q = true

theorem InsideSub.refl (c : CodePair.Cache) : InsideSub c c := fun _ h => h
theorem InsideSub.trans {a b c : CodePair.Cache} (h1 : InsideSub a b) (h2 : InsideSub b c) :
    InsideSub a c := fun q h => h2 q (h1 q h)

/-- `MK` survives a step that leaves text and memo alone and only grows `inside_failed` -/
theorem MK.of_sub {s s' : IState} (h : MK s) (hsrc : s'.src = s.src) (hc : s'.cache = s.cache)
    (hsub : InsideSub s.backticks s'.backticks) : MK s' := by
  intro p hp hi
  rw [hc] at hp
  rw [hsrc] at hi
  exact hsub _ (h p hp hi)

/-- one more memo entry: a unit entry that ends strictly inside a backtick run has its end marked -/
theorem MK.insert {s s' : IState} {k v : Nat} (h : MK s) (hsrc : s'.src = s.src)
    (hb : s'.backticks = s.backticks) (hc : s'.cache = cacheInsert s.cache k v)
    (hnew : v = k + 1 → Interior s.src (k + 1) → s'.backticks.insideFailed.contains (k + 1) = true) :
    MK s' := by
  intro p hp hint
  rw [hc] at hp
  rw [hsrc] at hint
  unfold cacheInsert at hp
  simp only [List.mem_cons, Prod.mk.injEq] at hp
  rcases hp with ⟨rfl, hv'⟩ | hp
  · exact hnew hv'.symm hint
  · rw [hb]
    exact h p hp hint

/-- no backslash-backtick-backtick in the text -/
def NoEscTickTick (src : List Char) : Prop := ¬ ['\\', '`', '`'] <:+: src

instance (src : List Char) : Decidable (NoEscTickTick src) := by unfold NoEscTickTick; infer_instance

/-- the code-span cache invariant used for `B`: the closer table is sound, `inside_failed` holds only
    positions strictly inside runs, and marks are run-complete -/
def BC (src : List Char) (c : CodePair.Cache) : Prop := BInv src c ∧ InsideFull src c

theorem BC.empty (src : List Char) : BC src CodePair.Cache.empty := ⟨BInv.empty src, InsideFull.empty src⟩

/-- `B` is preserved by the code-span rule at states whose `pos_max` does not cut a backtick run -/
def BackOK (B : List Char → CodePair.Cache → Prop) : Prop :=
  ∀ (st : IState) (silent : Bool) (o : Option Nat) (st' : IState),
    ruleBackticks st silent = .ok (o, st') → CodePair.NoCut '`' st.src st.posMax →
    B st.src st.backticks → B st'.src st'.backticks

theorem backOK_BC : BackOK BC := by
  intro st silent o st' h hnc hb
  exact ⟨backOK_BInv st silent o st' h hb.1, insideFull_ruleBackticks h hnc hb.2⟩

/-- the code-span rule only grows `inside_failed` -/
theorem insideSub_ruleBackticks {st st' : IState} {silent : Bool} {o : Option Nat}
    (h : ruleBackticks st silent = .ok (o, st')) : InsideSub st.backticks st'.backticks := by
  intro q hq
  have := ruleBackticks_inside_mono h q (by simpa using hq)
  simpa using this

/-- **the only token that ends strictly inside a backtick run is the unit step at a backtick**
    (statement; proved in `Lemmas/MemoSafeLamCSEnd.lean` for texts with `NoEscTickTick` and a top
    `pos_max` that does not cut a run) -/
def EndHyp (cfg : Cfg) (B : List Char → CodePair.Cache → Prop) (src : List Char) (Mtop : Nat) : Prop :=
  ∀ m p k, Inline.Just cfg B src Mtop m p k → Interior src k → k = p + 1

/-! ## the witness of a memo entry, with `IFP` of its state -/

/-- `Inline.Just` plus: the witness state satisfies `IFP` (when the code-span rule is in the chain) -/
def Just (cfg : Cfg) (B : List Char → CodePair.Cache → Prop) (src : List Char) (Mtop : Nat)
    (m : List (Nat × Nat)) (k v : Nat) : Prop :=
  ∃ (skip0 tok0 : IState → Except Panic IState) (f0 : Nat) (st0 st0' : IState),
    CalmFn skip0 ∧ SkipHypT skip0 ∧ SkipGrowHyp skip0 ∧
    LInv st0 ∧ st0.src = src ∧ st0.posMax = Mtop ∧ st0.pos = k ∧ st0.pos < st0.posMax ∧
    B st0.src st0.backticks ∧ st0.cache.lookup k = none ∧
    skipStep cfg skip0 tok0 f0 st0 = .ok st0' ∧ st0'.pos = v ∧ LookupMono st0'.cache m ∧
    (RuleId.backticks ∈ cfg.chain → IFP st0)

theorem Just.toJust {cfg : Cfg} {B : List Char → CodePair.Cache → Prop} {src : List Char} {Mtop : Nat}
    {m : List (Nat × Nat)} {k v : Nat} (h : Just cfg B src Mtop m k v) :
    Inline.Just cfg B src Mtop m k v := by
  obtain ⟨skip0, tok0, f0, st0, st0', hq0, hs0, hg0, hi0, hsrc0, hmax0, hpos0,
    hlt0, hB0, hmiss, hstep, hv, hmono, _⟩ := h
  exact ⟨skip0, tok0, f0, st0, st0', hq0, hs0, hg0, hi0, hsrc0, hmax0, hpos0,
    hlt0, hB0, hmiss, hstep, hv, hmono⟩

theorem Just.mono {cfg : Cfg} {B : List Char → CodePair.Cache → Prop} {src : List Char} {Mtop : Nat}
    {m m' : List (Nat × Nat)} {k v : Nat} (h : Just cfg B src Mtop m k v) (hm : LookupMono m m') :
    Just cfg B src Mtop m' k v := by
  obtain ⟨skip0, tok0, f0, st0, st0', hq0, hs0, hg0, hi0, hsrc0, hmax0, hpos0,
    hlt0, hB0, hmiss, hstep, hv, hmono, hifp⟩ := h
  exact ⟨skip0, tok0, f0, st0, st0', hq0, hs0, hg0, hi0, hsrc0, hmax0, hpos0,
    hlt0, hB0, hmiss, hstep, hv, hmono.trans hm, hifp⟩

/-- every memo entry is an over-limit entry (`v = Mtop`) or has its witness -/
def JustAll (cfg : Cfg) (B : List Char → CodePair.Cache → Prop) (src : List Char) (Mtop : Nat)
    (m : List (Nat × Nat)) : Prop :=
  ∀ k v, (k, v) ∈ m → v = Mtop ∨ Just cfg B src Mtop m k v

theorem JustAll.toJustAll {cfg : Cfg} {B : List Char → CodePair.Cache → Prop} {src : List Char}
    {Mtop : Nat} {m : List (Nat × Nat)} (h : JustAll cfg B src Mtop m) :
    Inline.JustAll cfg B src Mtop m :=
  fun k v hkv => (h k v hkv).imp id Just.toJust

theorem JustAll.nil (cfg : Cfg) (B : List Char → CodePair.Cache → Prop) (src : List Char) (Mtop : Nat) :
    JustAll cfg B src Mtop [] := by
  intro k v h; simp at h

/-- the invariant of the states of the TOP frame: `Inline.TopInv` with the new witnesses, `MK`, and a top
    `pos_max` that does not cut a backtick run -/
structure TopInv (cfg : Cfg) (B : List Char → CodePair.Cache → Prop) (src : List Char) (Mtop : Nat)
    (s : IState) : Prop where
  hsrc : s.src = src
  hmax : s.posMax = Mtop
  back : B s.src s.backticks
  le : ∀ k v, (k, v) ∈ s.cache → v ≤ Mtop
  just : JustAll cfg B src Mtop s.cache
  nocut : CodePair.NoCut '`' src Mtop
  hmk : RuleId.backticks ∈ cfg.chain → MK s

theorem TopInv.closed {cfg : Cfg} {B : List Char → CodePair.Cache → Prop} {src : List Char} {Mtop : Nat}
    {s : IState} (h : TopInv cfg B src Mtop s) : Closed s.cache 0 s.posMax := by
  intro k v hkv _ _
  rw [h.hmax]; exact h.le k v hkv

/-- **`IFP` of the state a `skip_token` call returns**, from the entry it followed or made: the end of
    an entry strictly inside a run is the end of a unit step (`EndHyp`), which is marked (`MK`); the top
    `pos_max` itself is not strictly inside a run -/
theorem ifp_of_entry {cfg : Cfg} {B : List Char → CodePair.Cache → Prop} {src : List Char} {Mtop : Nat}
    (hend : EndHyp cfg B src Mtop) {s' : IState} (ht : TopInv cfg B src Mtop s')
    (hbt : RuleId.backticks ∈ cfg.chain) {p : Nat} (hp : (p, s'.pos) ∈ s'.cache) : IFP s' := by
  intro hi
  rw [ht.hsrc] at hi
  rcases ht.just p s'.pos hp with hv | hj
  · exact absurd (show Interior src Mtop by rw [← hv]; exact hi) ht.nocut
  · have hk := hend _ _ _ hj.toJust hi
    rw [hk] at hp
    have := ht.hmk hbt p hp (by rw [ht.hsrc, ← hk]; exact hi)
    rw [hk]; exact this

/-- behind a `[` no position is strictly inside a backtick run -/
theorem not_interior_after_bracket {src : List Char} {p M : Nat} {r : List Char}
    (h : slice src p M = .ok ('[' :: r)) : ¬ Interior src (p + 1) := by
  rintro ⟨_, h1, _⟩
  have hc : CodePair.charAt src p = some '[' := by
    have := charAt_next (u := []) (b := '[') (v := r) (a := p) (q := M) (by simpa using h)
    simpa [byteLen] using this
  rw [Nat.add_sub_cancel, hc] at h1
  cases h1

/-- **the look-ahead step that makes a unit entry at a backtick inside a run marks its end** (statement;
    proved in `Lemmas/MemoSafeLamCSEnd.lean` for `B := BC`) -/
def MarksHyp (cfg : Cfg) (B : List Char → CodePair.Cache → Prop) : Prop :=
  ∀ (skip tok : IState → Except Panic IState) (fuel : Nat) (st st' : IState),
    B st.src st.backticks → RuleId.backticks ∈ cfg.chain → Interior st.src (st.pos + 1) →
    st.pos + 1 < st.posMax → skipStep cfg skip tok fuel st = .ok st' → st'.pos = st.pos + 1 →
    st'.backticks.insideFailed.contains (st.pos + 1) = true

/-- the code-span comparison WITH the agreement of the two `inside_failed` at the position
    (`back_L2_runRule` for `B := BC`) -/
def BackL2 (cfg : Cfg) (B : List Char → CodePair.Cache → Prop) (src : List Char) (Mtop : Nat) : Prop :=
  ∀ (skip tok skip' tok' : IState → Except Panic IState) (fuel fuel' : Nat) (st0 s : IState),
    WinHyp st0 s.posMax → st0.src = src → st0.posMax = Mtop → s.src = st0.src → s.pos = st0.pos →
    B st0.src st0.backticks → B s.src s.backticks →
    st0.backticks.insideFailed.contains st0.pos = s.backticks.insideFailed.contains s.pos →
    ∀ o0 st0' o s', runRule cfg skip tok fuel .backticks st0 true = .ok (o0, st0') →
      runRule cfg skip' tok' fuel' .backticks s false = .ok (o, s') →
      (o0 = none → o = none) ∧ (∀ n, o0 = some n → st0.pos + n ≤ s.posMax → o = some n)

/-- outside backtick runs the caches agree on `inside_failed` (`inside_agree_of_not_interior` for
    `B := BC`) -/
def AgreeHyp (B : List Char → CodePair.Cache → Prop) (src : List Char) : Prop :=
  ∀ (c d : CodePair.Cache) (pos : Nat), B src c → B src d → ¬ Interior src pos →
    c.insideFailed.contains pos = d.insideFailed.contains pos

end MdIt.Inline.CS
