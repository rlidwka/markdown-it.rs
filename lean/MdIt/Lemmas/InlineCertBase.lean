/-
  What the rules of the inline parser read and build, in terms of the inline text alone: the content
  of a code span is the (normalised) text between its inner offsets, the escaped character, the
  blanks behind a hard break, the trimmed window of `InlineState::new`, characters at positions.
  Used by Lemmas/InlineCertRules.lean and the walks of Lemmas/C05Rest*.lean, C05Tabs*.lean.
  Name prefixes: `tx_` characters and stretches of the inline text, `tv_` shared with the order
  development for any `get_lines` table (Lemmas/C05TabsRanges.lean), `fi_` the content of a code span.
-/
import MdIt.Lemmas.InlineCert

namespace MdIt.C05R
open MdIt.Inline
open MdIt.InlineOps (Srcmap getSourcePosFor getMap byteLen slice)

/-! ## code spans -/

/-- the content of the code span is the (normalised) text between the inner offsets -/
theorem fi_run_cut {v : CodePair.Variant} {m : Char} (hm1 : m.utf8Size = 1) {src : List Char}
    {pos posMax : Nat} {prev silent : Bool} {c c' : CodePair.Cache} {o : CodePair.Outcome}
    {nd : CodePair.Node}
    (h : CodePair.run v m src pos posMax prev silent c = .ok (some o, c')) (hn : o.node = some nd) :
    ∃ w, Cut src nd.innerStart nd.innerEnd w ∧ ('\n' ∉ w → w = nd.content) := by
  obtain ⟨P, x, w, z, Q, rfl, _, _, _, h1, h2, _, hw⟩ := run_node hm1 h hn
  exact ⟨w, ⟨P ++ x, z ++ Q, by simp, by rw [C05.byteLen_append, h1], h2.symm⟩,
    fun hn => (hw hn).symm⟩

end MdIt.C05R

namespace MdIt.C05T
open MdIt.Inline
open MdIt.InlineOps (Srcmap getSourcePosFor getMap byteLen slice)
open MdIt.C05R (Cut Bdy Sel Adj Adjd StrictTop TextLike textOf)

/-! ## characters at positions, escapes, the trimmed window -/

theorem tv_textStop_lf : Entity.textStop.contains '\n' = true := by decide

theorem tx_charAt_of_cut {c : List Char} {p q : Nat} {x : Char} {w : List Char}
    (h : Cut c p q (x :: w)) : CharAt c p x := by
  obtain ⟨pre, post, e, hp, _⟩ := h
  exact ⟨pre, w ++ post, by rw [e]; simp, hp⟩

theorem tx_charAt_unique {c : List Char} {p : Nat} {x y : Char} (h1 : CharAt c p x)
    (h2 : CharAt c p y) : x = y := by
  obtain ⟨p1, q1, e1, l1⟩ := h1
  obtain ⟨p2, q2, e2, l2⟩ := h2
  have := (C05R.prefix_unique (show p1 ++ x :: q1 = p2 ++ y :: q2 by rw [← e1, ← e2])
    (by omega)).2
  simp only [List.cons.injEq] at this
  exact this.1

theorem tx_no_space_at {c : List Char} {a b : Nat} {u v : List Char}
    (h : slice c a b = .ok (u ++ v)) (hv : ∀ x r, v = x :: r → x ≠ ' ')
    (hlt : a + byteLen u < b) : ¬ CharAt c (a + byteLen u) ' ' := by
  intro hca
  obtain ⟨p, q, e, l1, l2⟩ := (C05.slice_ok_iff _ _ _ _).mp h
  obtain ⟨pre, post, e', l'⟩ := hca
  have he : (p ++ u) ++ (v ++ q) = pre ++ (' ' :: post) := by rw [← e', e]; simp
  obtain ⟨_, hr⟩ := C05R.prefix_unique he (by rw [C05.byteLen_append]; omega)
  cases v with
  | nil =>
    rw [C05.byteLen_append] at l2
    simp only [byteLen] at l2; omega
  | cons x r =>
    simp only [List.cons_append, List.cons.injEq] at hr
    exact hv x r rfl hr.1

theorem tx_charAt_of_slice {c : List Char} {a b : Nat} {u v : List Char} {x : Char}
    (h : slice c a b = .ok (u ++ x :: v)) : CharAt c (a + byteLen u) x := by
  obtain ⟨P, Q, e, l1, _⟩ := (C05.slice_ok_iff _ _ _ _).mp h
  exact ⟨P ++ u, v ++ Q, by rw [e]; simp, by rw [C05.byteLen_append]; omega⟩

/-- `Inline.escapeCore_special` plus: the escaped character is not the line feed -/
theorem tx_escapeCore_special {w : List Char} {sp : Entity.Special}
    (h : Entity.escapeCore w = .ok (some (.special sp))) :
    ∃ chr w', w = '\\' :: chr :: w' ∧ sp.markup = ['\\', chr] ∧ chr ≠ '\n' := by
  unfold Entity.escapeCore at h
  split at h
  · simp at h
  · next c w1 =>
    split at h
    · simp at h
    · next hc =>
      split at h
      · simp at h
      · next chr w' =>
        split at h
        · simp at h
        · next hn =>
          simp only [Except.ok.injEq, Option.some.injEq, Entity.EscOut.special.injEq] at h
          have hc' : c = '\\' := by simpa using hc
          subst hc'
          exact ⟨chr, w', rfl, by rw [← h], by simpa using hn⟩

/-- the extent of `\` + line feed + blanks: the blanks are ALL the blanks behind the line feed -/
theorem tx_hardbreak_split {w : List Char} {len : Nat}
    (h : Entity.escapeCore w = .ok (some (.hardbreak len))) :
    ∃ run rest, w = ('\\' :: '\n' :: run) ++ rest ∧ byteLen ('\\' :: '\n' :: run) = len ∧
      (∀ x r, rest = x :: r → x ≠ ' ') := by
  obtain ⟨w', hw', hlen⟩ := escapeCore_hardbreak h
  obtain ⟨hall, hsplit, hhead⟩ := Entity.splitRun_sound (fun x => x == ' ' || x == '\t') w'
  refine ⟨(Entity.splitRun (fun x => x == ' ' || x == '\t') w').1,
    (Entity.splitRun (fun x => x == ' ' || x == '\t') w').2, ?_, ?_, ?_⟩
  · rw [hw']
    simp only [List.cons_append]
    exact congrArg (fun l => '\\' :: '\n' :: l) hsplit
  · have hsz : ∀ c ∈ (Entity.splitRun (fun x => x == ' ' || x == '\t') w').1, c.utf8Size = 1 := by
      intro c hc
      have := hall c hc
      simp only [Bool.or_eq_true, beq_iff_eq] at this
      rcases this with rfl | rfl <;> decide
    have e1 : ('\\' : Char).utf8Size = 1 := by decide
    have e2 : ('\n' : Char).utf8Size = 1 := by decide
    simp only [byteLen, e1, e2, byteLen_ascii _ hsz]
    omega
  · intro x r hr hx
    have := hhead x (by rw [hr]; simp)
    subst hx
    simp at this

theorem tx_entChar_not_lf {t : List Char} (h : ∀ c ∈ t, isEntChar c = true) : '\n' ∉ t := by
  intro hm
  have := h _ hm
  revert this; decide

theorem tx_dropWhile_head {p : Char → Bool} {l : List Char} {x : Char} {r : List Char}
    (h : l.dropWhile p = x :: r) : p x = false := by
  induction l with
  | nil => simp at h
  | cons a t ih =>
    rw [List.dropWhile_cons] at h
    split at h
    · exact ih h
    · next hp =>
      simp only [List.cons.injEq] at h
      rw [← h.1]; simpa using hp

/-- `Inline.trimSrc_spec` plus: the middle part does not start with a blank (`trim_src` stops in
    front of a non-blank, or the window is empty) -/
theorem tx_trimSrc_spec (src : List Char) :
    ∃ front mid back, src = front ++ mid ++ back ∧ (∀ c ∈ front, isSpTab c = true) ∧
      (∀ c ∈ back, isSpTab c = true) ∧ (trimSrc src).1 = front.length ∧
      (trimSrc src).2 = byteLen src - back.length ∧ (∀ x r, mid = x :: r → isSpTab x = false) := by
  have hrev : src = (src.reverse.dropWhile isSpTab).reverse ++ (src.reverse.takeWhile isSpTab).reverse := by
    rw [← List.reverse_append, List.takeWhile_append_dropWhile, List.reverse_reverse]
  have hmid : (src.reverse.dropWhile isSpTab).reverse
      = ((src.reverse.dropWhile isSpTab).drop 1).reverse ++ ((src.reverse.dropWhile isSpTab).take 1).reverse := by
    rw [← List.reverse_append, List.take_append_drop]
  have hrest := (List.takeWhile_append_dropWhile (p := isSpTab)
    (l := ((src.reverse.dropWhile isSpTab).drop 1).reverse)).symm
  refine ⟨(((src.reverse.dropWhile isSpTab).drop 1).reverse).takeWhile isSpTab,
    (((src.reverse.dropWhile isSpTab).drop 1).reverse).dropWhile isSpTab
      ++ ((src.reverse.dropWhile isSpTab).take 1).reverse,
    (src.reverse.takeWhile isSpTab).reverse, ?_, ?_, ?_, ?_, ?_, ?_⟩
  · calc src = (src.reverse.dropWhile isSpTab).reverse ++ (src.reverse.takeWhile isSpTab).reverse := hrev
      _ = _ := by rw [hmid]
      _ = _ := by rw [hrest]
      _ = _ := by simp only [List.append_assoc]
  · intro c hc; exact Lines.mem_takeWhile_imp hc
  · intro c hc; exact Lines.mem_takeWhile_imp (List.mem_reverse.mp hc)
  · unfold trimSrc; rfl
  · unfold trimSrc; simp
  · intro x r hxr
    cases hd : (((src.reverse.dropWhile isSpTab).drop 1).reverse).dropWhile isSpTab with
    | cons y t =>
      rw [hd] at hxr
      simp only [List.cons_append, List.cons.injEq] at hxr
      rw [← hxr.1]; exact tx_dropWhile_head hd
    | nil =>
      rw [hd] at hxr
      simp only [List.nil_append] at hxr
      cases hD : src.reverse.dropWhile isSpTab with
      | nil => rw [hD] at hxr; simp at hxr
      | cons d D' =>
        rw [hD] at hxr
        simp only [List.take_succ_cons, List.take_zero, List.reverse_cons, List.reverse_nil,
          List.nil_append, List.cons.injEq] at hxr
        rw [← hxr.1]; exact tx_dropWhile_head hD

theorem tv_newline_declines {cfg : Cfg} {skip tok : IState → Except Panic IState} {fuel : Nat}
    {s s' : IState} (h : runRule cfg skip tok fuel .newline s false = .ok (none, s'))
    {c : Char} {rest : List Char} (hw : s.window = .ok (c :: rest)) : c ≠ '\n' := by
  unfold runRule at h
  have h' := liftR_ok.mp h
  have hv := ruleNewline_verdict hw h'
  intro hc
  rw [if_neg (by simpa using hc)] at hv
  cases hv

end MdIt.C05T
