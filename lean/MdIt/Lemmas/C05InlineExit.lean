/-
  C05, inline half — where the inline tokenizer STOPS.

  `Inline.inline_children_ordered` (Props/Inline.lean §3) places the children `parseInline` returns
  inside `[tr pos₀, tr pos_end]` with `pos₀ = (trimSrc content).1` and `pos_end` the cursor of the
  final state, but says nothing about `pos_end`.  Here:

  `parseInline_ranges_exact`: `pos_end = (trimSrc content).2` EXACTLY (the loop stops at or behind `pos_max`,
  and the cursor of the top-level frame never runs past it), for EVERY configuration and every successful run
  (no no-panic hypothesis, no fuel bound, multi-byte emphasis markers included).

  How the bound is obtained (`tokLoop_stops`): `pos ≤ posMax` together with `EntStop` at `posMax` is
  a frame predicate that every rule and the fall-back keep (`tokLoop_keeps`, Lemmas/InlineFrame.lean;
  rule by rule: helpers `c05x_*`), with no other invariant.  One iteration keeps `pos ≤ posMax`,
  because
    * a rule without look-ahead recursion that answers `some len` has sliced
      `src[pos..posMax]` successfully, and `len` is at most the byte length of that window
      (`inline_rule_progress_<rule>`; for the emphasis marker rule `len` is a number of CHARACTERS
      of the window, `≤` its byte length whatever the width of the marker);
    * the entity rule matches against `src[pos..]`, NOT the window — it can overshoot `posMax` in
      general (`example` below) — but behind the `posMax` of the top-level frame there are only
      blanks (`trim_src`), which cannot continue a reference (`EntStop`, from `init_good`);
    * the link / image rule continues at `result.end`, which is behind a `)` / `]` the label / tail
      scan has sliced out of `src[..posMax]` (`linkRule_bounds`), whatever the nested `tokenize`
      run on the label did to `pos` — so NO statement about the nested frames (where the memo of
      `skip_token` may hold positions computed under another `posMax`) is needed;
    * the fall-back pushes the first character of the window.
  `posMax`, `src`, `srcmap` of the frame are restored by every rule.
  (Prefix `c05x_`: the per-rule helpers of this file.)
-/
import MdIt.Props.Inline
import MdIt.Lemmas.C05InlineDefs

namespace MdIt.Inline
open MdIt.InlineOps (Srcmap getSourcePosFor getMap byteLen slice)
open MdIt.C05 (WFMap MonoMap byteLen_append slice_ok_iff)

theorem c05x_runLen_le (m : Char) (l : List Char) : CodePair.runLen m l ≤ byteLen l := by
  induction l with
  | nil => simp [CodePair.runLen, byteLen]
  | cons c r ih =>
    have := Char.utf8Size_pos c
    unfold CodePair.runLen
    split <;> simp only [byteLen] <;> omega

/-- a successfully sliced window gives the invariant the per-rule progress lemmas need -/
theorem c05x_inv_of_slice {st : IState} {w : List Char}
    (hw : slice st.src st.pos st.posMax = .ok w) (hlt : st.pos < st.posMax)
    (hwf : WFMap st.srcmap) : InlineInv st := by
  obtain ⟨b1, b2, _⟩ := slice_boundaries hw
  exact ⟨hlt, b1, b2, hwf⟩

theorem c05x_text_end {st st' : IState} {silent : Bool} {len : Nat} (hlt : st.pos < st.posMax)
    (hwf : WFMap st.srcmap) (h : ruleText st silent = .ok (some len, st')) :
    st'.pos + len ≤ st.posMax := by
  rw [(ruleText_simple h).pos]
  cases hw : st.window with
  | error e => unfold ruleText at h; rw [hw] at h; simp at h
  | ok w =>
    exact end_of_advances (window_eq hw) hlt hwf (fun inv => inline_rule_progress_text inv silent) h

theorem c05x_escape_end {st st' : IState} {silent : Bool} {len : Nat} (hlt : st.pos < st.posMax)
    (hwf : WFMap st.srcmap) (h : ruleEscape st silent = .ok (some len, st')) :
    st'.pos + len ≤ st.posMax := by
  rw [(ruleEscape_simple h).pos]
  cases hw : st.window with
  | error e => unfold ruleEscape at h; rw [hw] at h; simp at h
  | ok w =>
    exact end_of_advances (window_eq hw) hlt hwf (fun inv => inline_rule_progress_escape inv silent) h

/-- the entity rule: needs `EntStop` (its regexes see `src[pos..]`) -/
theorem c05x_entity_end {cfg : Cfg} {st st' : IState} {silent : Bool} {len : Nat}
    (hlt : st.pos < st.posMax) (hwf : WFMap st.srcmap) (hstop : EntStop st.src st.posMax)
    (h : ruleEntity cfg st silent = .ok (some len, st')) : st'.pos + len ≤ st.posMax := by
  rw [(ruleEntity_simple h).pos]
  cases hw : st.window with
  | error e => unfold ruleEntity at h; rw [hw] at h; simp at h
  | ok w =>
    exact end_of_advances (window_eq hw) hlt hwf (fun inv => inline_rule_progress_entity cfg inv hstop silent) h

/-- the newline rule: the verdict is a function of the window, so the look-ahead progress lemma
    (which needs no `TrailOK`) bounds the real-mode answer too -/
theorem c05x_newline_end {st st' : IState} {silent : Bool} {len : Nat} (hlt : st.pos < st.posMax)
    (hwf : WFMap st.srcmap) (h : ruleNewline st silent = .ok (some len, st')) :
    st'.pos + len ≤ st.posMax := by
  rw [(ruleNewline_simple h).pos]
  cases hw : st.window with
  | error e => unfold ruleNewline at h; rw [hw] at h; simp at h
  | ok w =>
    cases w with
    | nil => unfold ruleNewline at h; rw [hw] at h; simp at h
    | cons c rest =>
      have hi := c05x_inv_of_slice (window_eq hw) hlt hwf
      obtain ⟨o2, st2, h2, hadv⟩ := inline_rule_progress_newline hi true (by simp)
      have v1 := ruleNewline_verdict hw h
      have v2 := ruleNewline_verdict hw h2
      have e : o2 = some len := by rw [v2, ← v1]
      exact (hadv len e).2.1

/-- the emphasis-marker rule, ANY marker: the answer is the number of characters of the run, which
    is at most the byte length of the window (for a multi-byte marker the cursor may land inside a
    character, but never behind `posMax`) -/
theorem c05x_emph_end {cfg : Cfg} {mk : Char} {csw : Bool} {st st' : IState} {silent : Bool}
    {len : Nat} (h : ruleEmph cfg mk csw st silent = .ok (some len, st')) :
    st'.pos + len ≤ st.posMax := by
  rw [(ruleEmph_simple h).pos]
  unfold ruleEmph at h
  split at h
  · simp at h
  · split at h
    · simp at h
    · simp at h
    · next c w1 hw =>
      split at h
      · simp at h
      · split at h
        · simp at h
        · next scanned hsc =>
          obtain ⟨mk', rest, hsl, _, hlen⟩ := scanDelims_length hsc
          have hsl' : slice st.src st.pos st.posMax = .ok (mk' :: rest) := liftOps_ok.mp hsl
          have hfin : len = scanned.length := by
            split at h
            · simp at h
            · simp only at h
              split at h
              · split at h
                · simp at h
                · simp only [Except.ok.injEq, Prod.mk.injEq, Option.some.injEq] at h; exact h.1.symm
              · simp only [Except.ok.injEq, Prod.mk.injEq, Option.some.injEq] at h; exact h.1.symm
          obtain ⟨_, _, hlen2⟩ := slice_boundaries hsl'
          have h1 := c05x_runLen_le mk' rest
          have h2 := Char.utf8Size_pos mk'
          simp only [byteLen] at hlen2
          omega

theorem c05x_linkRule_posMax {cfg : Cfg} {skip tok : IState → Except Panic IState} (hq : CalmFn skip)
    {fuel : Nat} {mk : List Nat → Option (List Char) → Val} {en : Bool} {offset : Nat} {st : IState}
    {silent : Bool} {o : Option Nat} {st' : IState}
    (h : linkRule cfg skip tok fuel mk en offset st silent = .ok (o, st')) : st'.posMax = st.posMax := by
  rcases hp : parseLink cfg skip fuel st (st.pos + offset) en with _ | ⟨_ | res, st1⟩
  · rw [linkRule_error hp] at h; cases h
  · rw [linkRule_none hp] at h; cases h; exact (parseLink_calm hq hp).posMax
  · have hc := parseLink_calm hq hp
    cases silent with
    | true => rw [linkRule_silent hp] at h; split at h <;> cases h; exact hc.posMax
    | false =>
      rcases linkRule_inv h with ⟨_, h'⟩ | ⟨_, _, _, _, h', _, _, _, _, _, rfl⟩ <;>
        rw [hp] at h' <;> cases h'
      exact hc.posMax

/-- what one rule call (or the chain) leaves: the same `posMax`, and a continuation inside it -/
structure C05xStep (st : IState) (o : Option Nat) (st' : IState) : Prop where
  posMax : st'.posMax = st.posMax
  fin : ∀ len, o = some len → st'.pos + len ≤ st.posMax

theorem c05x_xstep_simple {st st' : IState} {silent : Bool} {o : Option Nat}
    (hs : Simple st silent o st') (hfin : ∀ len, o = some len → st'.pos + len ≤ st.posMax) :
    C05xStep st o st' := ⟨hs.frame.posMax, hfin⟩

theorem c05x_runRule_end {cfg : Cfg} {skip tok : IState → Except Panic IState} (hq : CalmFn skip)
    {fuel : Nat} {id : RuleId} {st : IState} {silent : Bool} {o : Option Nat} {st' : IState}
    (hlt : st.pos < st.posMax) (hwf : WFMap st.srcmap) (hstop : EntStop st.src st.posMax)
    (h : runRule cfg skip tok fuel id st silent = .ok (o, st')) : C05xStep st o st' := by
  unfold runRule at h
  cases id with
  | text =>
    have h' := liftR_ok.mp h
    exact c05x_xstep_simple (ruleText_simple h') (by intro len hl; subst hl; exact c05x_text_end hlt hwf h')
  | newline =>
    have h' := liftR_ok.mp h
    exact c05x_xstep_simple (ruleNewline_simple h')
      (by intro len hl; subst hl; exact c05x_newline_end hlt hwf h')
  | escape =>
    have h' := liftR_ok.mp h
    exact c05x_xstep_simple (ruleEscape_simple h')
      (by intro len hl; subst hl; exact c05x_escape_end hlt hwf h')
  | backticks =>
    have h' := liftR_ok.mp h
    exact c05x_xstep_simple (ruleBackticks_simple h')
      (by intro len hl; subst hl; exact ruleBackticks_end hlt hwf h')
  | emph mk csw =>
    have h' := liftR_ok.mp h
    exact c05x_xstep_simple (ruleEmph_simple h') (by intro len hl; subst hl; exact c05x_emph_end h')
  | link =>
    rcases ruleLink_ok h with ⟨rfl, rfl⟩ | ⟨_, _, h⟩
    · exact ⟨rfl, by intro len hl; cases hl⟩
    · exact ⟨c05x_linkRule_posMax hq h, by intro len hl; subst hl; exact (linkRule_bounds hq h).1⟩
  | image =>
    rcases ruleImage_ok h with ⟨rfl, rfl⟩ | ⟨_, _, h⟩
    · exact ⟨rfl, by intro len hl; cases hl⟩
    · exact ⟨c05x_linkRule_posMax hq h, by intro len hl; subst hl; exact (linkRule_bounds hq h).1⟩
  | linkEnd =>
    simp only [Except.ok.injEq, Prod.mk.injEq] at h; obtain ⟨rfl, rfl⟩ := h
    exact ⟨rfl, by intro len hl; simp at hl⟩
  | autolink =>
    have h' := liftR_ok.mp h
    exact c05x_xstep_simple (ruleAutolink_simple h')
      (by intro len hl; subst hl; exact ruleAutolink_end hlt hwf h')
  | entity =>
    have h' := liftR_ok.mp h
    exact c05x_xstep_simple (ruleEntity_simple h')
      (by intro len hl; subst hl; exact c05x_entity_end hlt hwf hstop h')

theorem c05x_tokLoop_exit (cfg : Cfg) : ∀ fuel : Nat, ∀ (e : Nat) (st st' : IState),
    tokLoop cfg fuel e st = .ok st' → e ≤ st'.pos := by
  intro fuel
  induction fuel with
  | zero =>
    intro e st st' h
    unfold tokLoop at h
    split at h
    · simp at h
    · simp only [Except.ok.injEq] at h; subst h; omega
  | succ f ih =>
    intro e st st' h
    unfold tokLoop at h
    split at h
    · simp only at h
      split at h
      · simp at h
      · exact ih _ _ _ h
    · simp only [Except.ok.injEq] at h; subst h; omega

/-- the cursor stays inside the window: a frame predicate for `tokLoop_keeps` (whose frame index is not
    needed here: `Unit`) -/
def JEnd (_ : Unit) (s : IState) (p : Nat) (_ : List Node) : Prop :=
  p ≤ s.posMax ∧ EntStop s.src s.posMax ∧ C05.WFMap s.srcmap

theorem tokLoop_stops (cfg : Cfg) {fuel : Nat} {st st' : IState} (hw : C05.WFMap st.srcmap)
    (hle : st.pos ≤ st.posMax) (hstop : EntStop st.src st.posMax)
    (h : tokLoop cfg fuel st.posMax st = .ok st') : st'.pos = st.posMax := by
  have hJ : ∀ i a b p cs, Frame a b → JEnd i a p cs → JEnd i b p cs := by
    rintro i a b p cs f ⟨h1, h2, h3⟩
    unfold JEnd; rw [f.posMax, f.src, f.srcmap]; exact ⟨h1, h2, h3⟩
  have hk := tokLoop_keeps hJ cfg
    (fun f skip tok hq _ _ i id _ s o s' _ hlt hs hr => by
      have x := c05x_runRule_end hq hlt hs.2.2 hs.2.1 hr
      refine ⟨⟨?_, hs.2.1, hs.2.2⟩, fun ho => by subst ho; exact runRule_pos_none hq hr⟩
      cases o with
      | none =>
        simp only [Option.getD_none, Nat.add_zero]
        rw [runRule_pos_none hq hr]; exact hs.1
      | some len => exact x.fin len rfl)
    (fun f skip tok i s ch s' hs _ _ hch hp => by
      obtain ⟨cs, _, rfl⟩ := pushText_eq hp
      refine ⟨?_, hs.2.1, hs.2.2⟩
      unfold firstChar at hch
      split at hch
      · simp at hch
      · simp at hch
      · next x rest hw =>
        simp only [Except.ok.injEq] at hch; subst hch
        obtain ⟨_, _, hl⟩ := slice_boundaries (window_eq (liftR_ok.mp hw))
        simp only [byteLen] at hl
        show s.pos + x.utf8Size ≤ s.posMax
        omega)
    fuel st.posMax st st' (Nat.le_refl _) h () ⟨hle, hstop, hw⟩
  have f := tokLoop_frame cfg fuel _ st st' h
  have h1 : st'.pos ≤ st.posMax := by rw [← f.posMax]; exact hk.1
  exact Nat.le_antisymm h1 (c05x_tokLoop_exit cfg fuel _ st st' h)

/-- **`parseInline`: the cursor stops exactly at `pos_max`, and the children are ordered inside the
    translated trimmed window.**  For a per-line table that is `MapOK` and EVERY successful run of
    the inline parser (any configuration): the final state has `pos = posMax = (trimSrc content).2`,
    and the children lie, in order and without overlap, inside
    `[tr (trimSrc content).1, tr (trimSrc content).2]`, every node well ranged. -/
theorem parseInline_ranges_exact (cfg : Cfg) {content : List Char} {mapping : Srcmap}
    (hm : MapOK content mapping) {cs : List Node} (h : parseInline cfg content mapping = .ok cs) :
    (trimSrc content).1 ≤ (trimSrc content).2 ∧
    ∃ lo hi, getSourcePosFor mapping (trimSrc content).1 = .ok lo ∧
      getSourcePosFor mapping (trimSrc content).2 = .ok hi ∧
      OrderedN lo hi cs ∧ WellRangedList cs ∧
      ∃ st, tokenize cfg (topFuel cfg content) (IState.init content mapping) = .ok st ∧
        st.children = cs ∧ st.pos = (trimSrc content).2 ∧ st.posMax = (trimSrc content).2 := by
  unfold parseInline at h
  split at h
  · simp at h
  · next st hst0 =>
    have hst := hst0
    unfold tokenize at hst
    simp only [Except.ok.injEq] at h; subst h
    obtain ⟨lo, hlo, hg⟩ := init_good hm
    obtain ⟨_, q4, hri⟩ := ranges_induction cfg _ _ lo _ _ hg.map hst hg.ri
    have epos : st.pos = (trimSrc content).2 :=
      tokLoop_stops cfg (st := IState.init content mapping) hm.wf hg.le hg.stop hst
    have q2 : st.posMax = (trimSrc content).2 := (tokLoop_frame cfg _ _ _ _ hst).posMax
    obtain ⟨hi, hhi, hord⟩ := hri.ord
    have e1 : st.srcmap = mapping := q4
    rw [e1, epos] at hhi
    exact ⟨hg.le, lo, hi, hlo, hhi, hord, hri.deep, st, hst0, rfl, epos, q2⟩

/-- **`parseInline`: ordered ranges inside the translated trimmed window, and where the cursor
    stops.**  For a per-line table that is `MapOK` and EVERY successful run of the inline parser
    (any configuration): with `pos₀ = (trimSrc content).1`, `posMax = (trimSrc content).2` there is
    `posEnd` (the cursor of the final state; in fact `posEnd = posMax`, see
    `parseInline_ranges_exact`) with `pos₀ ≤ posEnd ≤ posMax` such that the children lie, in order
    and without overlap, inside `[tr pos₀, tr posEnd]`, every node well ranged. -/
theorem parseInline_ranges (cfg : Cfg) {content : List Char} {mapping : Srcmap}
    (hm : MapOK content mapping) {cs : List Node} (h : parseInline cfg content mapping = .ok cs) :
    ∃ lo hi posEnd, getSourcePosFor mapping (trimSrc content).1 = .ok lo ∧
      getSourcePosFor mapping posEnd = .ok hi ∧
      (trimSrc content).1 ≤ posEnd ∧ posEnd ≤ (trimSrc content).2 ∧
      OrderedN lo hi cs ∧ WellRangedList cs := by
  obtain ⟨hle, lo, hi, h1, h2, h3, h4, _⟩ := parseInline_ranges_exact cfg hm h
  exact ⟨lo, hi, (trimSrc content).2, h1, h2, hle, Nat.le_refl _, h3, h4⟩

/-- **The children `parseInline` returns lie inside every interval that contains the translated
    trimmed window.**  (`A`, `B`: e.g. the content stretch of the block the inline text was cut
    from.) -/
theorem parseInline_within (cfg : Cfg) {content : List Char} {mapping : Srcmap}
    (hm : MapOK content mapping) {A B : Nat}
    (hAB : ∀ pos x, (trimSrc content).1 ≤ pos → pos ≤ (trimSrc content).2 →
      getSourcePosFor mapping pos = .ok x → A ≤ x ∧ x ≤ B)
    {cs : List Node} (h : parseInline cfg content mapping = .ok cs) :
    OrderedN A B cs ∧ WellRangedList cs := by
  obtain ⟨lo, hi, pe, h1, h2, h3, h4, h5, h6⟩ := parseInline_ranges cfg hm h
  exact ⟨h5.widen (hAB _ _ (Nat.le_refl _) (by omega) h1).1 (hAB _ _ h3 h4 h2).2, h6⟩

/-- the same in the form the splice walk of the pipeline consumes (`Lemmas/C05InlineDefs.lean`) -/
theorem pinl_of_mapOK (cfg : Cfg) {content : List Char} {mapping : Srcmap}
    (hm : MapOK content mapping) {A B : Nat}
    (hAB : ∀ pos x, (trimSrc content).1 ≤ pos → pos ≤ (trimSrc content).2 →
      getSourcePosFor mapping pos = .ok x → A ≤ x ∧ x ≤ B) :
    MdIt.Pipeline.PInl cfg content mapping A B :=
  fun _ h => parseInline_within cfg hm hAB h

/-- the same for the output of `finish` (the post pass keeps order and enclosure) -/
theorem parseFinish_within (cfg : Cfg) {content : List Char} {mapping : Srcmap}
    (hm : MapOK content mapping) {A B : Nat}
    (hAB : ∀ pos x, (trimSrc content).1 ≤ pos → pos ≤ (trimSrc content).2 →
      getSourcePosFor mapping pos = .ok x → A ≤ x ∧ x ≤ B)
    {cs : List Node} (h : parseFinish cfg content mapping = .ok cs) :
    OrderedN A B cs ∧ WellRangedList cs := by
  unfold parseFinish at h
  split at h
  · simp at h
  · next cs0 hp =>
    simp only [Except.ok.injEq] at h; subst h
    have h0 := parseInline_within cfg hm hAB hp
    unfold finish
    split
    · exact od_finish_join h0
    · exact h0

/-! ## non-vacuity, and why `EntStop` is needed for a frame -/

/-- (for the example) a translated offset, if any, is `≤ B` -/
def c05x_okLe (r : Except InlineOps.Panic Nat) (B : Nat) : Bool :=
  match r with
  | .ok y => decide (y ≤ B)
  | .error _ => true

-- `parseInline_within` on the two-line text of `exMapOK` (second line behind a 2-byte block-quote
-- marker in the source: inline offsets 0..7, source offsets 0..9): the run succeeds with four
-- children, which lie in order inside `[0, 9]`
example : ∃ cs, parseInline (exCfg 100) "a *b*\nc".toList [(0, 0), (6, 8)] = .ok cs ∧
    cs.length = 4 ∧ OrderedN 0 9 cs ∧ WellRangedList cs := by
  have hrun : (match parseInline (exCfg 100) "a *b*\nc".toList [(0, 0), (6, 8)] with
      | .ok cs => cs.length == 4
      | .error _ => false) = true := by decide +kernel
  split at hrun
  · next cs hcs =>
    refine ⟨cs, hcs, by simpa using hrun, parseInline_within (exCfg 100) exMapOK ?_ hcs⟩
    intro pos x _ h2 hx
    have e2 : (trimSrc "a *b*\nc".toList).2 = 7 := by decide +kernel
    rw [e2] at h2
    have key : ∀ p, p < 8 → c05x_okLe (getSourcePosFor [(0, 0), (6, 8)] p) 9 = true := by
      decide +kernel
    have hk := key pos (by omega)
    rw [hx] at hk
    simp only [c05x_okLe, decide_eq_true_eq] at hk
    omega
  · simp at hrun

-- the trimmed window really is smaller than the text: blanks at both ends are outside
-- `[pos₀, posMax]`, and the entity reference directly before the trailing blanks ends AT `posMax`
example : trimSrc " a&amp; \t".toList = (1, 7) ∧
    (parseInline (exCfg 100) " a&amp; \t".toList [(0, 0)]).map (fun cs => cs.map (·.range)) =
      .ok [some (1, 2), some (2, 7)] := by decide_lits

-- `EntStop` is needed for the frame-level statement `tokLoop_stops`: a frame whose `posMax`
-- lies INSIDE a reference (not producible by `trim_src`, whose `posMax` is followed by blanks only,
-- nor by a link label, whose `posMax` is a `]`) ends with the cursor behind `posMax`, because the
-- entity rule matches against `src[pos..]`
example : (tokenize (exCfg 100) 50 { IState.init "a&amp;b".toList [(0, 0)] with posMax := 3 }).map
    (fun s => (s.pos, s.posMax)) = .ok (6, 3) := by decide_lits

end MdIt.Inline
