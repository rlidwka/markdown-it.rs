/-
  Ingredients of `docH_html_inline_ranges` (`Props/PipelineH.lean`) — two facts about the INLINE parser with
  the html rule (namespace `MdIt.InlineH`), one about the BLOCK pass (namespaces `MdIt.Block`, `MdIt.BlockH`):
  * `InlineH.parseInlineH_ranges_window_raw` — `Props/InlineH.parseInlineH_ranges_window` BEFORE the post pass (the
    document pipeline runs the join pass at document level): both read `InlineH.parseInlineH_window_raw`;
  * `InlineH.memoSafeH_flat` — for chains without link / image the memo check passes on every `MapOK` content
    within the size bound;
  * `Block.PUp` / `BlockH.parseBlocksH_upToAll` — every placeholder table of the ten-rule block pass maps
    `[0, |content|]` into `[0, |src|]` (`C05I.UpToAll`; tabs or not).
-/
import MdIt.Lemmas.PipelineHLen
import MdIt.Props.InlineH

namespace MdIt.InlineH
open MdIt.Inline
open MdIt.InlineOps (Srcmap getSourcePosFor getMap byteLen slice)

theorem parseInlineH_ranges_window_raw (cfg : CfgH)
    (hsz : ∀ mk csw, RuleIdH.base (.emph mk csw) ∈ cfg.chain → mk.utf8Size = 1) {content : List Char}
    {mapping : Srcmap} (hm : MapOK content mapping)
    (hsize : 2 * byteLen content + cfg.maxNesting < 2 ^ 31 - 1)
    (hs : memoSafeH cfg content mapping = true) {cs : List Node}
    (h : parseInlineH cfg content mapping = .ok cs) :
    ∃ lo hi, getSourcePosFor mapping (trimSrc content).1 = .ok lo ∧
      getSourcePosFor mapping (trimSrc content).2 = .ok hi ∧
      ∀ n, Desc n cs → ∃ a b, n.range = some (a, b) ∧ lo ≤ a ∧ a ≤ b ∧ b ≤ hi := by
  obtain ⟨lo, hi, hlo, hhi, hord, hdeep⟩ := parseInlineH_window_raw cfg hsz hm hsize hs h
  exact ⟨lo, hi, hlo, hhi, fun n hd => desc_ranges hd lo hi hord hdeep⟩

theorem memoSafeH_flat (cfg : CfgH)
    (hfl : RuleIdH.base .link ∉ cfg.chain ∧ RuleIdH.base .image ∉ cfg.chain)
    (hsz : ∀ mk csw, RuleIdH.base (.emph mk csw) ∈ cfg.chain → mk.utf8Size = 1) {content : List Char}
    {mapping : Srcmap} (hm : MapOK content mapping)
    (hsize : 2 * byteLen content + cfg.maxNesting < 2 ^ 31 - 1) : memoSafeH cfg content mapping = true := by
  have heq : parseInlineHG cfg content mapping = parseInlineH cfg content mapping := by
    unfold parseInlineHG parseInlineH tokenizeH
    rw [tokLoopHG_flat cfg.base cfg.chain hfl]
    rfl
  obtain ⟨cs, hcs⟩ := parseInlineH_total_flat cfg hfl hsz hm hsize
  unfold memoSafeH
  rw [heq, hcs]

end MdIt.InlineH

namespace MdIt.Block
open MdIt.Lines (LineOffset)

/-- the claim about a placeholder: its table translates every position of the content into the source -/
def PUp (src0 : List Char) : InlP := fun c m _ _ => C05I.UpToAll c m (Lines.byteLen src0)

theorem inlSpec2_pup (src0 : List Char) : InlSpec2 src0 (PUp src0) := by
  refine ⟨?_, ?_⟩
  · intro s b e c m ob oe hg hgl hbe hob hoe hkept
    have hgl' := C05I.getLines_lift hgl
    obtain ⟨hs, h0⟩ := C05I.getLines_seg hg.geo.table hg.strict hbe hgl' hoe
    have hup := C05I.seg_upToAll hs (C05I.seg_wf hs h0)
    have hb := (hg.geo.table _ _ hoe).bounds
    rw [hg.srcEq] at hb
    intro pos x hp hx
    have := hup pos x hp hx
    omega
  · intro s o line content textPos textMax hg ho hline hcontent
    have hup := C05I.seg_upToAll (C05I.heading_seg (hg.geo.table _ _ ho) ho hline hcontent)
      (C05I.single_table content _).1
    have hb := (hg.geo.table _ _ ho).bounds
    rw [hg.srcEq] at hb
    intro pos x hp hx
    have := hup pos x hp hx
    omega

end MdIt.Block

namespace MdIt.BlockH
open MdIt.Block

/-- every placeholder table of the ten-rule block pass translates `[0, |content|]` into `[0, |src|]` -/
theorem parseBlocksH_upToAll (cfg : CfgH) (src : List Char)
    (hsmall : 4 * Lines.byteLen src + 8 < 2147483648) (hpara : hasParaH cfg.chain = true)
    {root : BNode} {refs : Refs.RefMap} (hb : parseBlocksH cfg src = .ok (root, refs)) :
    AllInl (fun c m => C05I.UpToAll c m (Lines.byteLen src)) root := by
  obtain ⟨hr, hg⟩ := parseBlocksH_geo2 hpara (inlSpec2_pup src) hsmall hb
  refine hg.allInl (Q := fun c m => C05I.UpToAll c m (Lines.byteLen src)) (fun c m a b (h : PUp src c m a b) => h) ?_
  intro c m _ hnone
  rw [hr] at hnone
  cases hnone

end MdIt.BlockH
