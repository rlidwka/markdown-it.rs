/-
  C06 — the general container simulation `Li.Nest.Sim`, of which the block quote (`Props/C06.lean`) and the list
  item (`Lemmas/C06ListSim.lean`) are instances.

  Every line of a tab-free document D carries a prefix of `w` one-byte, tab-free characters (`"> "`; the marker and a
  space, or `w` spaces).  `Li.Nest.Sim N lo d te s s'` relates a state of the run on D to a state of the run nested
  in the container on the prefixed document: same `line`, `line_max`; entry `i` of `s'` = `shiftE w d i` of entry `i`
  of `s` (line `i` starts `w i` bytes later, text and end `w i + w` bytes later, indent `d` columns larger) with
  `blk_indent' = blk_indent + d`, so the `blk_indent`-relative view of a line is the same; `level' = level + N.lv`;
  children related by `relocNodes (tau w L)`; equal reference maps.  `d` is not constant along a run (`w` under a
  list item, `0` inside a block quote, which rewrites its lines in absolute columns), so the indent part holds on a
  window `[lo, line_max)` of the table (`Win`), the geometric part on all lines (`QRel.geo`).  Every rule in real
  mode preserves it, in the form `ORel R (rule s) (rule s')` (if the run on D returns a value, the prefixed run
  returns an `R`-related one: `Lemmas/ExceptRel.lean` with every panic escaping).

    tab-free    `Spaces`, `indentWidth_tabfree`, `findIndent_tabfree`, `calcRight_tabfree`, `viewPiece_tabfree`,
                `findIndent_prefix_tabfree`: what the line-table primitives compute in front of / behind a
                tab-free run
    documents   `DLines`, `startOf`, `LinesOk`, `EntryOk` (an entry of the run on D cuts its line at
                `first_nonspace`), `relocNodes` (a tree with every position moved), the states the two containers
                hand to the nested tokenizer (`nestBq`, `nestItem`, `afterItem`, `nestList`), `MarkerW` (list
                markers are ASCII)
    content     `entry_shows` (the two entries of a line as views, `Lines.Shows`) and `Tbl.getLines` (one iteration
                of the loop per view, `Lines.getLinesGo_step`)
    look-ahead  `Sim.sameLook` into `testRules_same_view` (`Lemmas/BlockLook.lean`)
    rules       those that neither nest nor write the table (`hrRule_sim`, `heading_sim`, `fence_sim`,
                `paragraph_sim`, `lheading_sim`, `reference_sim`, `afterChain_sim`) and `runChain_sim` are the walks
                of `Lemmas/BlockReads.lean` (`Sim.reads`, `Sim.step`); walked here, both `do` blocks together
                (`bind_map`, `bind_same`, `ite`): `code_sim`, `blockquote_sim` (with `bqScan_sim`), `list_sim` (with
                `listItem_sim`, `listLoop_sim`), `tokLoop_sim`, then `tokenize_sim_any` for every fuel
-/
import MdIt.Props.Block
import MdIt.Lemmas.BlockLook
import MdIt.Lemmas.BlockReads
set_option linter.unusedSimpArgs false

namespace MdIt.Block
open MdIt.Lines (LineOffset NoTerm AllBlank lead mkOff)

/-! ## one run: what the model computes on a line, a table entry, a state -/

/-! ### tab-free blank runs -/

/-- a run of U+0020 only -/
def Spaces (w : List Char) : Prop := ∀ c ∈ w, c = ' '

theorem Spaces.allBlank {w : List Char} (h : Spaces w) : AllBlank w := fun c hc => .inl (h c hc)

theorem Spaces.tail {c : Char} {w : List Char} (h : Spaces (c :: w)) : Spaces w :=
  fun d hd => h d (List.mem_cons_of_mem _ hd)

theorem Spaces.append {a b : List Char} (ha : Spaces a) (hb : Spaces b) : Spaces (a ++ b) := by
  intro c hc
  rcases List.mem_append.mp hc with h | h
  · exact ha c h
  · exact hb c h

theorem spaces_replicate (n : Nat) : Spaces (List.replicate n ' ') := by
  intro c hc; exact (List.mem_replicate.mp hc).2

theorem lead_spaces {l : List Char} (h : '\t' ∉ l) : Spaces (lead l) := by
  intro c hc
  have hb := Lines.lead_allBlank l c hc
  rcases hb with rfl | rfl
  · rfl
  · exact absurd ((List.takeWhile_sublist _).subset hc) h

/-- without tabs every character is one column -/
theorem widthFrom_tabfree : ∀ (w : List Char) (col : Nat), '\t' ∉ w → Lines.widthFrom col w = col + w.length
  | [], col, _ => by simp [Lines.widthFrom]
  | c :: r, col, h => by
    have hc : c ≠ '\t' := fun e => h (by simp [e])
    have hr : '\t' ∉ r := fun e => h (List.mem_cons_of_mem _ e)
    have := widthFrom_tabfree r (col + 1) hr
    simp only [Lines.widthFrom, List.foldl_cons, Lines.colStep, if_neg hc, List.length_cons] at this ⊢
    omega

theorem indentWidth_tabfree (w : List Char) (h : '\t' ∉ w) : Lines.indentWidth w = w.length := by
  simpa [Lines.indentWidth] using widthFrom_tabfree w 0 h

/-- `find_indent_of` in a tab-free prefix: the indent is the number of blanks skipped -/
theorem findIndent_tabfree (p run rest : List Char) (hp : '\t' ∉ p) (hrun : Spaces run)
    (hrest : ∀ c r, rest = c :: r → ¬ (c = ' ' ∨ c = '\t')) :
    Lines.findIndentOf (p ++ run ++ rest) (Lines.byteLen p) = .ok (run.length, Lines.byteLen p + run.length) := by
  rw [Lines.find_indent_spec p run rest hrun.allBlank hrest]
  have h1 : '\t' ∉ p ++ run := by
    intro hc
    rcases List.mem_append.mp hc with h | h
    · exact hp h
    · have := hrun _ h; cases this
  rw [indentWidth_tabfree _ h1, indentWidth_tabfree _ hp]
  simp

/-! ### what `get_lines` cuts in front of a tab-free tail -/

theorem Spaces.byteLen {w : List Char} (h : Spaces w) : Lines.byteLen w = w.length := h.allBlank.byteLen

theorem Spaces.tabfree {w : List Char} (h : Spaces w) : '\t' ∉ w := fun hc => by cases h _ hc

/-- `calc_right_whitespace_with_tabstops` on a tab-free tail `w`: asking for `k ≤ |w|` columns cuts
    `k` characters before the end, whatever precedes `w` -/
theorem calcRight_tabfree (a w : List Char) (hw : '\t' ∉ w) (k : Int) (hk : k ≤ w.length) :
    Lines.calcRightWs (a ++ w) k = (0, Lines.byteLen a + Lines.byteLen (w.take (w.length - k.toNat))) := by
  by_cases h0 : k ≤ 0
  · rw [Lines.cut_zero _ _ h0]
    have : k.toNat = 0 := by omega
    simp [this]
  · have hkn : k.toNat ≤ w.length := by omega
    have hsplit : w = w.take (w.length - k.toNat) ++ w.drop (w.length - k.toNat) := (List.take_append_drop _ _).symm
    have hw2 : '\t' ∉ w.drop (w.length - k.toNat) := fun hc => hw ((List.drop_sublist _ _).subset hc)
    have hcut := Lines.cut_prefix (a ++ w.take (w.length - k.toNat)) (w.drop (w.length - k.toNat))
    rw [Lines.indentWidth_append, widthFrom_tabfree _ _ hw2] at hcut
    have hlen : (w.drop (w.length - k.toNat)).length = k.toNat := by simp; omega
    rw [hlen] at hcut
    have e : (((Lines.indentWidth (a ++ w.take (w.length - k.toNat)) + k.toNat : Nat) : Int)
        - (Lines.indentWidth (a ++ w.take (w.length - k.toNat)) : Int)) = k := by omega
    rw [e, List.append_assoc, ← hsplit] at hcut
    rw [hcut]
    simp

theorem dropB_append_left (a w : List Char) (n : Nat) :
    Lines.dropB (a ++ w) (Lines.byteLen a + n) = Lines.dropB w n := by
  induction a with
  | nil => simp
  | cons c r ih =>
    have := Char.utf8Size_pos c
    simp only [List.cons_append, Lines.byteLen_cons, Lines.dropB]
    rw [if_neg (by omega), show c.utf8Size + Lines.byteLen r + n - c.utf8Size = Lines.byteLen r + n by omega]
    exact ih

/-- the piece `get_lines` copies for a line does not depend on what precedes a tab-free tail `w` of the
    characters in front of its text, as long as the request stays within `w` -/
theorem viewPiece_tabfree (a w t : List Char) (hw : '\t' ∉ w) (indent : Nat) (ind : Int)
    (hk : ind - Lines.usizeAsI32 indent ≤ w.length) :
    Lines.viewPiece indent (a ++ w, t, ind) = Lines.viewPiece indent (w, t, ind) := by
  have h1 := calcRight_tabfree a w hw _ hk
  have h2 := calcRight_tabfree [] w hw _ hk
  simp only [List.nil_append, Lines.byteLen_nil, Nat.zero_add] at h2
  simp only [Lines.viewPiece, h1, h2, dropB_append_left]

/-- `find_indent_of` behind a tab-free prefix -/
theorem findIndent_prefix_tabfree (pre l : List Char) (hpre : '\t' ∉ pre) (hl : '\t' ∉ l) {r i f : Nat}
    (h : Lines.findIndentOf l r = .ok (i, f)) :
    Lines.findIndentOf (pre ++ l) (Lines.byteLen pre + r) = .ok (i, Lines.byteLen pre + f) ∧
    ∃ p run rest, l = p ++ run ++ rest ∧ Lines.byteLen p = r ∧ Lines.byteLen (p ++ run) = f ∧
      i = run.length ∧ AllBlank run := by
  have hb := (Lines.find_indent_total l r).mp ⟨_, h⟩
  obtain ⟨p, t, rfl, rfl⟩ := Lines.onBoundary_iff.mp hb
  obtain ⟨run, rest, rfl, hrun, hrest⟩ := Lines.blank_run_split t
  have htp : '\t' ∉ p := fun hc => hl (by simp [hc])
  have htr : '\t' ∉ run := fun hc => hl (by simp [hc])
  have hspec := Lines.find_indent_spec p run rest hrun hrest
  rw [← List.append_assoc] at h
  rw [hspec] at h
  simp only [Except.ok.injEq, Prod.mk.injEq] at h
  obtain ⟨rfl, rfl⟩ := h
  have hspec' := Lines.find_indent_spec (pre ++ p) run rest hrun hrest
  have e1 : Lines.indentWidth (p ++ run) - Lines.indentWidth p = run.length := by
    rw [indentWidth_tabfree _ (by simp [htp, htr]), indentWidth_tabfree _ htp]; simp
  have e2 : Lines.indentWidth (pre ++ p ++ run) - Lines.indentWidth (pre ++ p) = run.length := by
    rw [indentWidth_tabfree _ (by simp [hpre, htp, htr]), indentWidth_tabfree _ (by simp [hpre, htp])]; simp; omega
  refine ⟨?_, p, run, rest, by simp, rfl, by simp [hrun.byteLen], e1, hrun⟩
  rw [e1]
  rw [e2] at hspec'
  have : pre ++ (p ++ (run ++ rest)) = pre ++ p ++ run ++ rest := by simp
  rw [this, show Lines.byteLen pre + Lines.byteLen p = Lines.byteLen (pre ++ p) by simp, hspec']
  simp [Nat.add_assoc]

/-! ### list markers are ASCII: `pos_after_marker` counts characters and bytes alike -/

/-- the first `p` bytes of `cur` are `p` one-byte characters -/
def MarkerW (cur : List Char) (p : Nat) : Prop :=
  ∃ mk rest, cur = mk ++ rest ∧ mk.length = p ∧ Lines.byteLen mk = p

theorem ordLoop_spec : ∀ (cs : List Char) (pos p : Nat) (rest : List Char), ordLoop cs pos = some (p, rest) →
    ∃ mk, cs = mk ++ rest ∧ pos + mk.length = p ∧ pos + Lines.byteLen mk = p
  | [], _, _, _, h => by simp [ordLoop] at h
  | c :: r, pos, p, rest, h => by
    simp only [ordLoop] at h
    split at h
    · rename_i hd
      split at h
      · cases h
      · obtain ⟨mk, h1, h2, h3⟩ := ordLoop_spec r (pos + 1) p rest h
        exact ⟨c :: mk, by simp [h1], by simp; omega, by simp [isDigit_size hd]; omega⟩
    · split at h
      · rename_i hc
        simp at h
        obtain ⟨rfl, rfl⟩ := h
        have : c.utf8Size = 1 := by rcases hc with rfl | rfl <;> decide
        exact ⟨[c], by simp, by simp, by simp [this]⟩
      · cases h

theorem skipOrdered_marker {cur : List Char} {p : Nat} (h : skipOrdered cur = some p) : MarkerW cur p := by
  cases cur with
  | nil => simp [skipOrdered] at h
  | cons c r =>
    simp only [skipOrdered] at h
    split at h
    · rename_i hd
      cases hl : ordLoop r 1 with
      | none => simp [hl] at h
      | some v =>
        obtain ⟨q, rest⟩ := v
        obtain ⟨mk, h1, h2, h3⟩ := ordLoop_spec r 1 q rest hl
        have hq : q = p := by
          simp only [hl] at h
          split at h
          · simpa using h
          · split at h
            · simpa using h
            · cases h
        subst hq
        exact ⟨c :: mk, rest, by simp [h1], by simp; omega, by simp [isDigit_size hd]; omega⟩
    · cases h

theorem skipBullet_marker {cur : List Char} {p : Nat} (h : skipBullet cur = some p) : MarkerW cur p := by
  cases cur with
  | nil => simp [skipBullet] at h
  | cons c r =>
    simp only [skipBullet] at h
    split at h
    · rename_i hc
      have hs : c.utf8Size = 1 := by rcases hc with rfl | rfl | rfl <;> decide
      have hp : p = 1 := by
        split at h
        · simpa using h.symm
        · split at h
          · simpa using h.symm
          · cases h
      subst hp
      exact ⟨[c], r, by simp, by simp, by simp [hs]⟩
    · cases h

theorem detectMarker_marker {cur : List Char} {p : Nat} {v : Option Nat}
    (h : detectMarker cur = .ok (some (p, v))) : MarkerW cur p :=
  (detectMarker_ok h).elim skipOrdered_marker skipBullet_marker

/-! ### accessors and casts -/

@[simp] theorem map_ok' {α β : Type} (f : α → β) (a : α) : Except.map f (Except.ok a : Except Panic α) = .ok (f a) := rfl

@[simp] theorem liftL_ok' {α : Type} (a : α) : liftL (.ok a : Except Lines.Panic α) = .ok a := rfl

namespace Li

theorem i32AsUsize_add {x : Int} (hx : 0 ≤ x) (d : Nat) : i32AsUsize (x + (d : Int)) = i32AsUsize x + d := by
  simp only [i32AsUsize, hx, ge_iff_le, if_true, show 0 ≤ x + (d : Int) by omega]
  omega

theorem lineIndent_lt {s : BState} {n : Nat} {i : Int} (h : s.lineIndent n = .ok i) : n < s.offs.length := by
  unfold BState.lineIndent Lines.lineIndent at h
  cases ho : s.offs[n]? with
  | none => simp [ho, liftL] at h
  | some o => exact (List.getElem?_eq_some_iff.mp ho).1

theorem off_lt {s : BState} {n : Nat} {o : LineOffset} (h : s.off n = .ok o) : n < s.offs.length :=
  (List.getElem?_eq_some_iff.mp (off_ok h)).1

theorem setOff_eq (t : BState) {m : Nat} (hm : m < t.offs.length) (x : LineOffset) :
    t.setOff m x = .ok { t with offs := t.offs.set m x } := by simp [BState.setOff, hm]

end Li

/-! ## the document as lines, the entries of the run on it -/

/-- the lines of a document with their terminators (`Lines.linesT`) -/
abbrev DLines := List (List Char × List Char)

/-- byte offset at which line `i` starts -/
def startOf (L : DLines) (i : Nat) : Nat := Lines.byteLen (Lines.flat (L.take i))

theorem startOf_zero (L : DLines) : startOf L 0 = 0 := by simp [startOf]

theorem startOf_succ (L : DLines) (i : Nat) (h : i < L.length) :
    startOf L (i + 1) = startOf L i + Lines.byteLen L[i].1 + Lines.byteLen L[i].2 := by
  unfold startOf
  rw [List.take_add_one, List.getElem?_eq_getElem h]
  simp only [Option.toList_some, Lines.flat_append, Lines.flat_cons, Lines.flat_nil, Lines.byteLen_append,
    List.append_nil]
  omega

theorem flat_split (L : DLines) (i : Nat) (h : i < L.length) :
    Lines.flat L = Lines.flat (L.take i) ++ L[i].1 ++ (L[i].2 ++ Lines.flat (L.drop (i + 1))) := by
  conv => lhs; rw [← List.take_append_drop i L]
  rw [List.drop_eq_getElem_cons h]
  simp only [Lines.flat_append, Lines.flat_cons, List.append_assoc]

theorem slice_in_line (L : DLines) (i : Nat) (h : i < L.length) (a b c : List Char) (hl : L[i].1 = a ++ b ++ c) :
    Lines.slice (Lines.flat L) (startOf L i + Lines.byteLen a) (startOf L i + Lines.byteLen a + Lines.byteLen b)
      = .ok b := by
  refine Lines.slice_eq_ok_iff.mpr ⟨Lines.flat (L.take i) ++ a, c ++ (L[i].2 ++ Lines.flat (L.drop (i + 1))), ?_, ?_, rfl⟩
  · rw [flat_split L i h, hl]; simp [List.append_assoc]
  · simp [startOf]

/-- what the lines of a document (`Lines.linesT`) satisfy, plus tab-freeness -/
structure LinesOk (L : DLines) : Prop where
  noTerm : ∀ lt ∈ L, NoTerm lt.1
  tabfree : ∀ lt ∈ L, '\t' ∉ lt.1
  term : ∀ i (h : i + 1 < L.length), 1 ≤ Lines.byteLen (L[i]'(by omega)).2
  /-- the model's `i32` / `usize` casts are exact below 2³¹ bytes -/
  size : Lines.byteLen (Lines.flat L) + 8 < 2147483648

/-- entry `i` of the run on `D` cuts line `i` into `a ++ b` at `first_nonspace`, and its indent does
    not exceed the number of characters in front of the cut -/
def EntryOk (L : DLines) (i : Nat) (o : LineOffset) : Prop :=
  ∃ l t a b, L[i]? = some (l, t) ∧ l = a ++ b ∧ o.lineStart = startOf L i ∧
    o.firstNonspace = startOf L i + Lines.byteLen a ∧
    o.lineEnd = startOf L i + Lines.byteLen a + Lines.byteLen b ∧ o.indentNonspace ≤ (a.length : Int)

section entries
variable {L : DLines} {s : BState}

theorem entry_bounds {i : Nat} {o : LineOffset} (h : EntryOk L i o) :
    o.lineStart ≤ o.firstNonspace ∧ o.firstNonspace ≤ o.lineEnd := by
  obtain ⟨l, t, a, b, hi, hl, hs, hf, he, _⟩ := h
  omega

theorem entry_le_size {i : Nat} {o : LineOffset} (h : EntryOk L i o) :
    o.lineEnd ≤ Lines.byteLen (Lines.flat L) ∧ o.indentNonspace ≤ (Lines.byteLen (Lines.flat L) : Int) := by
  obtain ⟨l, t, a, b, hi, hl, hs, hf, he, hind⟩ := h
  have hlt : i < L.length := (List.getElem?_eq_some_iff.mp hi).1
  have hLi : L[i] = (l, t) := (List.getElem?_eq_some_iff.mp hi).2
  have := congrArg Lines.byteLen (flat_split L i hlt)
  rw [hLi, hl] at this
  simp only [Lines.byteLen_append] at this
  have h2 := Lines.length_le_byteLen a
  unfold startOf at hs he
  constructor <;> omega

end entries

section entry
variable {L : DLines}

theorem EntryOk.indent {i : Nat} {o : LineOffset} (h : EntryOk L i o) {x : Int} (hx : x ≤ o.indentNonspace) :
    EntryOk L i { o with indentNonspace := x } := by
  obtain ⟨l, t, a, b, hi, hl, hs, hf, he, hind⟩ := h
  exact ⟨l, t, a, b, hi, hl, hs, hf, he, by simp only; omega⟩

theorem EntryOk.indent_neg {i : Nat} {o : LineOffset} (h : EntryOk L i o) {x : Int} (hx : x ≤ 0) :
    EntryOk L i { o with indentNonspace := x } := by
  obtain ⟨l, t, a, b, hi, hl, hs, hf, he, hind⟩ := h
  exact ⟨l, t, a, b, hi, hl, hs, hf, he, by simp only; omega⟩

end entry

/-! ## relocation of trees -/

def relocKind (σ : Nat → Nat) : Kind → Kind
  | .inlineRoot c m => .inlineRoot c (m.map fun kv => (kv.1, σ kv.2))
  | k => k

mutual
/-- every range and every mapping target of the tree through `σ` -/
def relocNode (σ : Nat → Nat) : BNode → BNode
  | ⟨k, r, cs⟩ => ⟨relocKind σ k, r.map fun p => (σ p.1, σ p.2), relocNodes σ cs⟩
def relocNodes (σ : Nat → Nat) : List BNode → List BNode
  | [] => []
  | n :: r => relocNode σ n :: relocNodes σ r
end

theorem relocNodes_append (σ : Nat → Nat) (a b : List BNode) :
    relocNodes σ (a ++ b) = relocNodes σ a ++ relocNodes σ b := by
  induction a with
  | nil => rfl
  | cons n r ih => simp [relocNodes, ih]

theorem relocNodes_eq_map (σ : Nat → Nat) (cs : List BNode) : relocNodes σ cs = cs.map (relocNode σ) := by
  induction cs with
  | nil => rfl
  | cons n r ih => simp [relocNodes, ih]

theorem relocNode_kind (σ : Nat → Nat) (n : BNode) : (relocNode σ n).kind = relocKind σ n.kind := by
  cases n; rfl

theorem relocKind_paragraph (σ : Nat → Nat) (k : Kind) : (relocKind σ k = .paragraph) ↔ (k = .paragraph) := by
  cases k <;> simp [relocKind]

theorem relocKind_listItem (σ : Nat → Nat) (k : Kind) : (relocKind σ k = .listItem) ↔ (k = .listItem) := by
  cases k <;> simp [relocKind]

theorem markTight_reloc (σ : Nat → Nat) : ∀ cs : List BNode,
    markTight (relocNodes σ cs) = relocNodes σ (markTight cs)
  | [] => rfl
  | n :: r => by
    have ih := markTight_reloc σ r
    obtain ⟨k, rg, cs⟩ := n
    simp only [relocNodes, markTight, relocNode, relocKind_paragraph]
    split
    · rw [ih, relocNodes_append]
    · rw [ih]; simp [relocNodes, relocNode]

theorem tightenItems_reloc (σ : Nat → Nat) : ∀ cs : List BNode,
    tightenItems (relocNodes σ cs) = Except.map (relocNodes σ) (tightenItems cs)
  | [] => rfl
  | n :: r => by
    have ih := tightenItems_reloc σ r
    obtain ⟨k, rg, cs⟩ := n
    simp only [relocNodes, tightenItems, relocNode, ne_eq, relocKind_listItem]
    split
    · rfl
    · rw [ih]
      cases tightenItems r with
      | error e => rfl
      | ok r' =>
        simp only [Except.map, relocNodes, relocNode, markTight_reloc]

/-! ## the states the two containers hand to the nested tokenizer -/

/-- the state the block-quote rule hands to the nested tokenizer -/
abbrev nestBq (S1 : BState) (line n : Nat) : BState :=
  { S1 with blkIndent := 0, nodeKind := .blockquote, children := [], line := line, lineMax := n, level := S1.level + 1 }

/-- the state the list rule hands to an item -/
abbrev nestItem (s : BState) (indent : Nat) : BState :=
  { s with nodeKind := .listItem, children := [], listIndent := some s.blkIndent, blkIndent := indent, tight := true }

/-- …and the state after the item, before its entry is restored -/
abbrev afterItem (S3 : BState) (li : Nat) (old : Option Nat) : BState :=
  { S3 with blkIndent := li, listIndent := old }

/-- the state the list rule iterates on -/
abbrev nestList (s : BState) (k : Kind) : BState :=
  { s with nodeKind := k, children := [], level := s.level + 1 }

/-! ## a simulation between the run on `D` and the run nested in a container on prefixed `D` -/

namespace Li

/-! ### the prefixed lines, the byte map -/

/-- width, per-line prefixes, lines of `D` -/
structure Ctx where
  w : Nat
  pre : Nat → List Char
  L : DLines

/-- every prefix consists of `w` one-byte characters, none a tab -/
structure PreOk (w : Nat) (pre : Nat → List Char) : Prop where
  len : ∀ i, (pre i).length = w
  bytes : ∀ i, Lines.byteLen (pre i) = w
  tabfree : ∀ i, '\t' ∉ pre i

/-- `pre i` in front of line `i` -/
def indentLines (pre : Nat → List Char) (L : DLines) : DLines := L.mapIdx fun i lt => (pre i ++ lt.1, lt.2)

@[simp] theorem indentLines_length (pre : Nat → List Char) (L : DLines) : (indentLines pre L).length = L.length := by
  simp [indentLines]

theorem indentLines_getElem (pre : Nat → List Char) (L : DLines) (i : Nat) (h : i < L.length) :
    (indentLines pre L)[i]'(by rw [indentLines_length]; exact h) = (pre i ++ L[i].1, L[i].2) := by
  simp [indentLines]

theorem startOf_indent {w : Nat} {pre : Nat → List Char} (hp : PreOk w pre) (L : DLines) :
    ∀ i, i ≤ L.length → startOf (indentLines pre L) i = startOf L i + w * i := by
  intro i
  induction i with
  | zero => intro _; simp [startOf_zero]
  | succ i ih =>
    intro h
    have hi : i < L.length := by omega
    rw [startOf_succ _ _ (by rw [indentLines_length]; exact hi), startOf_succ _ _ hi, ih (by omega),
      indentLines_getElem pre L i hi]
    simp only [Lines.byteLen_append, hp.bytes]
    rw [Nat.mul_succ]
    omega

/-- where byte `p` of `D` lands in the prefixed document: `w (i + 1)` further, `i` the line it belongs to -/
def tauGo (w : Nat) : DLines → Nat → Nat → Nat
  | [], _, p => p
  | lt :: r, start, p =>
    if p ≤ start + Lines.byteLen lt.1 then p + w
    else w + tauGo w r (start + Lines.byteLen lt.1 + Lines.byteLen lt.2) p

def tau (w : Nat) (L : DLines) (p : Nat) : Nat := tauGo w L 0 p

theorem tauGo_in_line (w : Nat) : ∀ (L : DLines) (start : Nat) (i : Nat) (h : i < L.length) (x : Nat),
    (∀ j (hj : j + 1 < L.length), 1 ≤ Lines.byteLen (L[j]'(by omega)).2) → x ≤ Lines.byteLen L[i].1 →
    tauGo w L start (start + startOf L i + x) = start + startOf L i + w * i + w + x
  | [], _, i, h, _, _, _ => by simp at h
  | lt :: r, start, 0, _, x, _, hx => by
    simp only [tauGo, startOf_zero, List.getElem_cons_zero] at hx ⊢
    rw [if_pos (by omega)]
    omega
  | lt :: r, start, i + 1, h, x, ht, hx => by
    have hi : i < r.length := by simpa using h
    have h1 := ht 0 (by simp; omega)
    simp only [List.getElem_cons_zero] at h1
    have hs : startOf (lt :: r) (i + 1) = Lines.byteLen lt.1 + Lines.byteLen lt.2 + startOf r i := by
      simp [startOf, Lines.flat, Nat.add_assoc]
    simp only [tauGo, hs, List.getElem_cons_succ] at hx ⊢
    rw [if_neg (by omega)]
    have := tauGo_in_line w r (start + Lines.byteLen lt.1 + Lines.byteLen lt.2) i hi x
      (fun j hj => by have := ht (j + 1) (by simp; omega); simpa using this) hx
    rw [show start + (Lines.byteLen lt.1 + Lines.byteLen lt.2 + startOf r i) + x
        = start + Lines.byteLen lt.1 + Lines.byteLen lt.2 + startOf r i + x by omega, this, Nat.mul_succ]
    omega

theorem tau_in_line (w : Nat) {L : DLines} (hL : LinesOk L) {i : Nat} (h : i < L.length) {x : Nat}
    (hx : x ≤ Lines.byteLen L[i].1) : tau w L (startOf L i + x) = startOf L i + w * i + w + x := by
  have := tauGo_in_line w L 0 i h x hL.term hx
  simpa [tau] using this

theorem tauGo_ge (w : Nat) : ∀ (L : DLines) (start p : Nat), p ≤ tauGo w L start p
  | [], _, _ => Nat.le_refl _
  | lt :: r, start, p => by
    simp only [tauGo]
    split
    · omega
    · have := tauGo_ge w r (start + Lines.byteLen lt.1 + Lines.byteLen lt.2) p; omega

theorem tauGo_mono (w : Nat) : ∀ (L : DLines) (start p q : Nat), p ≤ q → tauGo w L start p ≤ tauGo w L start q
  | [], _, _, _, h => h
  | lt :: r, start, p, q, h => by
    simp only [tauGo]
    split
    · split
      · omega
      · have := tauGo_ge w r (start + Lines.byteLen lt.1 + Lines.byteLen lt.2) q; omega
    · split
      · omega
      · have := tauGo_mono w r (start + Lines.byteLen lt.1 + Lines.byteLen lt.2) p q h; omega

theorem tau_mono (w : Nat) (L : DLines) {p q : Nat} (h : p ≤ q) : tau w L p ≤ tau w L q := tauGo_mono w L 0 p q h

/-! ### entries and tables -/

/-- the entry of line `i` in the run on the prefixed document, from the entry `o` of the run on `D` -/
def shiftE (w : Nat) (d : Int) (i : Nat) (o : LineOffset) : LineOffset :=
  ⟨o.lineStart + w * i, o.lineEnd + w * i + w, o.firstNonspace + w * i + w, o.indentNonspace + d⟩

@[simp] theorem shiftE_indent (w : Nat) (d : Int) (i : Nat) (o : LineOffset) :
    (shiftE w d i o).indentNonspace = o.indentNonspace + d := rfl

/-- the two tables: the geometry of every line -/
structure QRel (w : Nat) (L : DLines) (offs offs' : List LineOffset) : Prop where
  len : offs.length = L.length
  ok : ∀ (i : Nat) (o : LineOffset), offs[i]? = some o → EntryOk L i o
  geo : ∀ i : Nat, ∃ di : Int, offs'[i]? = (offs[i]?).map (shiftE w di i)

theorem QRel.len' {w : Nat} {L : DLines} {offs offs' : List LineOffset} (q : QRel w L offs offs') :
    offs'.length = L.length := by
  obtain ⟨d1, h1⟩ := q.geo offs.length
  obtain ⟨d2, h2⟩ := q.geo (offs.length - 1)
  rw [← q.len]
  by_cases h : offs'.length ≤ offs.length
  · by_cases h0 : offs.length = 0
    · simp [h0] at h ⊢; exact h
    · have : offs.length - 1 < offs.length := by omega
      rw [List.getElem?_eq_getElem this] at h2
      simp at h2
      have := (List.getElem?_eq_some_iff.mp h2).1
      omega
  · have : offs.length < offs'.length := by omega
    rw [List.getElem?_eq_getElem this] at h1
    simp at h1

/-- the window: on lines `a ≤ i < b` the indent of the primed entry is `d` columns larger; if `d > 0`
    those entries have a non-negative indent -/
def Win (w d a b : Nat) (offs offs' : List LineOffset) : Prop :=
  ∀ i, a ≤ i → i < b → offs'[i]? = (offs[i]?).map (shiftE w (d : Int) i) ∧
    (0 < d → ∀ o, offs[i]? = some o → 0 ≤ o.indentNonspace)

theorem Win.mono {w d a b a' b' : Nat} {offs offs' : List LineOffset} (h : Win w d a b offs offs')
    (ha : a ≤ a') (hb : b' ≤ b) : Win w d a' b' offs offs' :=
  fun i h1 h2 => h i (by omega) (by omega)


/-- entry `i` of the run on `D` and its image in the run on the prefixed document, as views (`Lines.Shows`): the
    characters in front of the cut, with the prefix in front of them on the prefixed side; the same text; the
    indent, shifted -/
theorem entry_shows {w : Nat} {pre : Nat → List Char} {L : DLines} (hp : PreOk w pre) (hL : LinesOk L) {i : Nat}
    {o : LineOffset} (h : EntryOk L i o) (di : Int) :
    ∃ a b, '\t' ∉ a ∧ o.indentNonspace ≤ (a.length : Int) ∧ o.firstNonspace = o.lineStart + Lines.byteLen a ∧
      Lines.Shows (Lines.flat L) o (a, b, o.indentNonspace) ∧
      Lines.Shows (Lines.flat (indentLines pre L)) (shiftE w di i o) (pre i ++ a, b, o.indentNonspace + di) := by
  obtain ⟨l, t, a, b, hLi, hl, hs, hf, he, hind⟩ := h
  have hlt : i < L.length := (List.getElem?_eq_some_iff.mp hLi).1
  have hLe : L[i] = (l, t) := (List.getElem?_eq_some_iff.mp hLi).2
  have hlt' : i < (indentLines pre L).length := by rw [indentLines_length]; exact hlt
  have hLe' : (indentLines pre L)[i].1 = pre i ++ (a ++ b) := by
    rw [indentLines_getElem pre L i hlt]; simp [hLe, hl]
  have hst := startOf_indent hp L i (Nat.le_of_lt hlt)
  have hpb := hp.bytes i
  have htab : '\t' ∉ a := fun hc =>
    hL.tabfree (l, t) (by rw [← hLe]; exact List.getElem_mem hlt) (by rw [hl]; simp [hc])
  refine ⟨a, b, htab, hind, by omega, ⟨?_, ?_, rfl⟩, ⟨?_, ?_, rfl⟩⟩
  · have := slice_in_line L i hlt [] a b (by rw [hLe, hl]; simp)
    simpa [Lines.lineWs, hs, hf] using this
  · simp only [Lines.lineText, hf, he]
    exact slice_in_line L i hlt a b [] (by rw [hLe, hl]; simp)
  · have := slice_in_line (indentLines pre L) i hlt' [] (pre i ++ a) b (by rw [hLe']; simp)
    rw [hst, Lines.byteLen_append, hpb] at this
    simp only [Lines.byteLen_nil, Nat.add_zero] at this
    simp only [Lines.lineWs, shiftE, hs, hf]
    rw [← this]; congr 1; omega
  · have := slice_in_line (indentLines pre L) i hlt' (pre i ++ a) b [] (by rw [hLe']; simp)
    rw [hst, Lines.byteLen_append, hpb] at this
    simp only [Lines.lineText, shiftE, hf, he]
    rw [← this]
    congr 1 <;> omega

/-- a byte of line `i` (between the entry's `line_start` and `line_end`) moves by `w i + w` -/
theorem tau_of_entry (w : Nat) {L : DLines} (hL : LinesOk L) {i : Nat} {o : LineOffset} (h : EntryOk L i o) {p : Nat}
    (h1 : o.lineStart ≤ p) (h2 : p ≤ o.lineEnd) : tau w L p = p + w * i + w := by
  obtain ⟨l, t, a, b, hi, hl, hs, hf, he, _⟩ := h
  have hlt : i < L.length := (List.getElem?_eq_some_iff.mp hi).1
  have hLi : L[i] = (l, t) := (List.getElem?_eq_some_iff.mp hi).2
  have hx : p - startOf L i ≤ Lines.byteLen L[i].1 := by
    rw [hLi, hl]; simp; omega
  have := tau_in_line w hL hlt hx
  rw [show startOf L i + (p - startOf L i) = p by omega] at this
  rw [this]; omega

def tau2 (w : Nat) (L : DLines) (r : Nat × Nat) : Nat × Nat := (tau w L r.1, tau w L r.2)

/-- the mapping `get_lines` returns, relocated -/
def mapTau (w : Nat) (L : DLines) (m : List (Nat × Nat)) : List (Nat × Nat) := m.map fun kv => (kv.1, tau w L kv.2)

/-- `list_indent` on the two sides: `d` apart — or, where the block indent of `D`'s run is 0 (top level,
    or directly inside a block quote), anything against anything when `d = 0` and `None` against
    `Some(0)` (the top of the item) -/
def LIRel (d blk : Nat) (li li' : Option Nat) : Prop :=
  li' = li.map (· + d) ∨ (blk = 0 ∧ d = 0 ∧ li'.isSome = true) ∨ (blk = 0 ∧ li = none ∧ li' = some 0)

/-- `tight` on the two sides: equal, if `te` (the flag is write-only garbage for the rules — the
    tokenizer overwrites it after every block, the list item reads what its own nested run left — so the
    relation is allowed to start without it: the list item starts its run with `tight := true`, the run on
    `D` starts with `false`) -/
def TRel (te : Bool) (a b : Bool) : Prop := te = true → b = a

section rewrite
variable {w : Nat} {pre : Nat → List Char} {L : DLines}

theorem entry_line (hp : PreOk w pre) (hL : LinesOk L) {i : Nat} {o : LineOffset} (h : EntryOk L i o) (di : Int) :
    ∃ l, (∃ t, L[i]? = some (l, t)) ∧ '\t' ∉ l ∧
      Lines.slice (Lines.flat L) o.lineStart o.lineEnd = .ok l ∧
      Lines.slice (Lines.flat (indentLines pre L)) (shiftE w di i o).lineStart (shiftE w di i o).lineEnd
        = .ok (pre i ++ l) := by
  obtain ⟨l, t, a, b, hi, hl, hs, hf, he, _⟩ := h
  have hlt : i < L.length := (List.getElem?_eq_some_iff.mp hi).1
  have hLi : L[i] = (l, t) := (List.getElem?_eq_some_iff.mp hi).2
  have hlt' : i < (indentLines pre L).length := by rw [indentLines_length]; exact hlt
  refine ⟨l, ⟨t, hi⟩, ?_, ?_, ?_⟩
  · exact hL.tabfree (l, t) (by rw [← hLi]; exact List.getElem_mem hlt)
  · have := slice_in_line L i hlt [] l [] (by rw [hLi]; simp)
    simp only [Lines.byteLen_nil, Nat.add_zero] at this
    have hbl : Lines.byteLen l = Lines.byteLen a + Lines.byteLen b := by rw [hl]; simp
    rw [hs, he, show startOf L i + Lines.byteLen a + Lines.byteLen b = startOf L i + Lines.byteLen l by omega]
    exact this
  · have := slice_in_line (indentLines pre L) i hlt' [] (pre i ++ l) []
      (by rw [indentLines_getElem pre L i hlt]; simp [hLi])
    simp only [Lines.byteLen_nil, Nat.add_zero] at this
    rw [startOf_indent hp L i (by omega), Lines.byteLen_append, hp.bytes] at this
    have hbl : Lines.byteLen l = Lines.byteLen a + Lines.byteLen b := by rw [hl]; simp
    simp only [shiftE, hs, he]
    rw [show startOf L i + Lines.byteLen a + Lines.byteLen b + w * i + w
        = startOf L i + w * i + (w + Lines.byteLen l) by omega]
    exact this

theorem psub_shiftE_first (w : Nat) (d : Int) (i : Nat) {o : LineOffset} {k : Nat} (h : o.lineStart ≤ k + o.firstNonspace) :
    psub (k + (shiftE w d i o).firstNonspace) (shiftE w d i o).lineStart
      = .ok (w + (k + o.firstNonspace - o.lineStart)) := by
  rw [psub_eq (by simp only [shiftE]; omega)]
  congr 1; simp only [shiftE]; omega

theorem psub_shiftE_end (w : Nat) (d : Int) (i : Nat) {o : LineOffset} (h : o.lineStart ≤ o.lineEnd) :
    psub (shiftE w d i o).lineEnd (shiftE w d i o).lineStart = .ok (o.lineEnd - o.lineStart + w) := by
  rw [psub_eq (by simp only [shiftE]; omega)]
  congr 1; simp only [shiftE]; omega

theorem beq_shift (w a b : Nat) : (w + a == b + w) = (a == b) := by
  apply Bool.eq_iff_iff.mpr
  simp only [beq_iff_eq]
  omega

theorem toNat_add_cast {x : Int} (h : ¬ x < 0) (d : Nat) : ¬ (x + (d : Int) < 0) ∧ (x + (d : Int)).toNat = x.toNat + d := by
  omega

theorem bqRewrite_sim (hp : PreOk w pre) (hL : LinesOk L) {i : Nat} {o o₂ : LineOffset} {rest : List Char} {le : Bool}
    (eo : EntryOk L i o) (di : Int) (h : bqRewrite (Lines.flat L) o rest = .ok (o₂, le)) :
    bqRewrite (Lines.flat (indentLines pre L)) (shiftE w di i o) rest = .ok (shiftE w ((0 : Nat) : Int) i o₂, le) ∧
      EntryOk L i o₂ := by
  obtain ⟨l, ⟨t, hLi⟩, htab, hsl, hsl'⟩ := entry_line hp hL eo di
  obtain ⟨l0, t0, a, b, hi, hl, hs, hf, he, hind⟩ := eo
  rw [hLi] at hi
  simp only [Option.some.injEq, Prod.mk.injEq] at hi
  obtain ⟨rfl, rfl⟩ := hi
  obtain ⟨_, ind, fn, ind2, hsl0, hr1, hfi', hr2, hopt, rfl, rfl⟩ := bqRewrite_inv h
  cases hsl.symm.trans hsl0
  obtain ⟨hpre, p, run, rest2, hdec, hp2, hpr, hir, hrun⟩ :=
    findIndent_prefix_tabfree (pre i) l (hp.tabfree i) htab hfi'
  simp only [hp.bytes] at hpre
  -- the primed run
  have hrel' : psub ((shiftE w di i o).firstNonspace + 1) (shiftE w di i o).lineStart
      = .ok (w + (o.firstNonspace + 1 - o.lineStart)) := by
    rw [Nat.add_comm _ 1, Nat.add_comm _ 1]
    exact psub_shiftE_first w di i (by rwa [Nat.add_comm])
  have hlen' := psub_shiftE_end w di i hr2
  unfold bqRewrite
  simp only [hsl', hrel', hpre, liftL_ok', hlen', ok_bind, hopt, pure, Except.pure]
  refine ⟨?_, ?_⟩
  · simp only [Except.ok.injEq, Prod.mk.injEq]
    refine ⟨?_, ?_⟩
    · simp only [shiftE]
      congr 1 <;> omega
    · exact beq_shift w _ _
  · -- the new cut
    refine ⟨l, t, p ++ run, rest2, hLi, by rw [hdec], hs, ?_, ?_, ?_⟩
    · simp only; rw [hpr, hs, Nat.add_comm]
    · simp only
      have := congrArg Lines.byteLen hdec
      simp only [Lines.byteLen_append] at this hpr ⊢
      have hbl : Lines.byteLen l = Lines.byteLen a + Lines.byteLen b := by rw [hl]; simp
      omega
    · simp only
      have := bqOptSpace_ok hopt
      simp only [List.length_append]
      omega
end rewrite

/-! ### writing entries -/

theorem QRel.set {w : Nat} {L : DLines} {offs offs' : List LineOffset} (q : QRel w L offs offs') {m : Nat}
    {o₂ : LineOffset} (eo : EntryOk L m o₂) (di : Int) :
    QRel w L (offs.set m o₂) (offs'.set m (shiftE w di m o₂)) := by
  refine ⟨by simp [q.len], ?_, ?_⟩
  · intro i o ho
    simp only [List.getElem?_set] at ho
    split at ho
    · split at ho
      · simp at ho; subst ho; rename_i h _; subst h; exact eo
      · cases ho
    · exact q.ok i o ho
  · intro i
    by_cases him : m = i
    · subst him
      refine ⟨di, ?_⟩
      simp only [List.getElem?_set, if_true, q.len', q.len]
      split <;> rfl
    · obtain ⟨dj, hj⟩ := q.geo i
      exact ⟨dj, by simp only [List.getElem?_set, if_neg him]; exact hj⟩

theorem Win.set_out {w d a b : Nat} {offs offs' : List LineOffset} (h : Win w d a b offs offs') {m : Nat}
    (hm : m < a ∨ b ≤ m) (x y : LineOffset) : Win w d a b (offs.set m x) (offs'.set m y) := by
  intro i h1 h2
  have : ¬ m = i := by omega
  simp only [List.getElem?_set, if_neg this]
  exact h i h1 h2

theorem Win.set_in {w d a b : Nat} {offs offs' : List LineOffset} (h : Win w d a b offs offs') {m : Nat}
    (hlen : offs'.length = offs.length) {o₂ : LineOffset} (hnn : 0 < d → 0 ≤ o₂.indentNonspace) :
    Win w d a b (offs.set m o₂) (offs'.set m (shiftE w (d : Int) m o₂)) := by
  intro i h1 h2
  by_cases him : m = i
  · subst him
    simp only [List.getElem?_set, if_true, hlen]
    split
    · exact ⟨rfl, fun hd o ho => by simp at ho; subst ho; exact hnn hd⟩
    · exact ⟨rfl, fun hd o ho => by simp at ho⟩
  · simp only [List.getElem?_set, if_neg him]
    exact h i h1 h2

theorem Win.snoc {w a m : Nat} {offs offs' : List LineOffset} (h : Win w 0 a m offs offs')
    (hlen : offs'.length = offs.length) (o₂ : LineOffset) :
    Win w 0 a (m + 1) (offs.set m o₂) (offs'.set m (shiftE w ((0 : Nat) : Int) m o₂)) := by
  intro i h1 h2
  by_cases him : m = i
  · subst him
    simp only [List.getElem?_set, if_true, hlen]
    split
    · exact ⟨rfl, fun hd => absurd hd (by omega)⟩
    · exact ⟨rfl, fun hd => absurd hd (by omega)⟩
  · simp only [List.getElem?_set, if_neg him]
    exact h i h1 (by omega)

theorem shiftE_with_indent (w : Nat) (di : Int) (i : Nat) (o : LineOffset) (x : Int) :
    ({ shiftE w di i o with indentNonspace := x } : LineOffset)
      = shiftE w ((0 : Nat) : Int) i { o with indentNonspace := x } := by
  simp only [shiftE]
  congr 1
  push_cast
  omega

/-- inside a block quote (`blk_indent = 0` on both sides, `d = 0`) -/
theorem LIRel.nest {d blk : Nat} {li li' : Option Nat} (h : LIRel d blk li li') : LIRel 0 0 li li' := by
  rcases h with h | ⟨_, _, h⟩ | ⟨_, h1, h2⟩
  · cases li with
    | none => left; simp [h]
    | some k => right; left; simp [h]
  · right; left; exact ⟨rfl, rfl, h⟩
  · right; left; simp [h2]

theorem add_shift (t d pos k : Nat) : t + d + pos + k = t + pos + k + d := by omega

theorem shiftE_cut (w d i : Nat) (o : LineOffset) (fn y : Nat) :
    (⟨(shiftE w (d : Int) i o).lineStart, (shiftE w (d : Int) i o).lineEnd,
        w + fn + (shiftE w (d : Int) i o).lineStart, ((y + d : Nat) : Int)⟩ : LineOffset)
      = shiftE w (d : Int) i ⟨o.lineStart, o.lineEnd, fn + o.lineStart, (y : Int)⟩ := by
  simp only [shiftE]
  congr 1 <;> (try push_cast) <;> omega

theorem itemRewrite_sim {w : Nat} {pre : Nat → List Char} {L : DLines} (hp : PreOk w pre) (hL : LinesOk L)
    {i : Nat} {o o₂ : LineOffset} {pos indent : Nat} {re : Bool}
    (eo : EntryOk L i o) (d : Nat) {cur : List Char}
    (hcur : Lines.slice (Lines.flat L) o.firstNonspace o.lineEnd = .ok cur) (hm : MarkerW cur pos)
    (h : itemRewrite (Lines.flat L) o pos = .ok (o₂, indent, re)) :
    itemRewrite (Lines.flat (indentLines pre L)) (shiftE w (d : Int) i o) pos
        = .ok (shiftE w (d : Int) i o₂, indent + d, re) ∧
      EntryOk L i o₂ ∧ indent ≤ Lines.byteLen (Lines.flat L) + 1 ∧ 0 ≤ o₂.indentNonspace := by
  obtain ⟨l, ⟨t, hLi⟩, htab, hsl, hsl'⟩ := entry_line hp hL eo (d : Int)
  have hsz := (entry_le_size eo).1
  obtain ⟨l0, t0, a, b, hi, hl, hs, hf, he, hind⟩ := eo
  rw [hLi] at hi
  simp only [Option.some.injEq, Prod.mk.injEq] at hi
  obtain ⟨rfl, rfl⟩ := hi
  -- `cur = b`
  have hlt : i < L.length := (List.getElem?_eq_some_iff.mp hLi).1
  have hLe : L[i] = (l, t) := (List.getElem?_eq_some_iff.mp hLi).2
  have hcb : cur = b := by
    have := slice_in_line L i hlt a b [] (by rw [hLe, hl]; simp)
    rw [← hf, show o.firstNonspace + Lines.byteLen b = o.lineEnd by omega, hcur] at this
    exact Except.ok.inj this
  subst hcb
  obtain ⟨mk, rest, hmk, hmkl, hmkb⟩ := hm
  unfold itemRewrite at h ⊢
  simp only [shiftE_indent, hsl, hsl', liftL_ok', ok_bind] at h ⊢
  rcases ite_ok h with ⟨_, h⟩ | ⟨hneg, h⟩
  · cases h
  obtain ⟨rel, hrel, h⟩ := bind_ok.mp h
  obtain ⟨⟨ind0, fn⟩, hfi, h⟩ := bind_ok.mp h
  obtain ⟨lineLen, hlen, h⟩ := bind_ok.mp h
  cases h
  obtain ⟨hr1, rfl⟩ := psub_ok hrel
  obtain ⟨hr2, rfl⟩ := psub_ok hlen
  have hfi' := liftL_eq_ok hfi
  obtain ⟨hpre, p, run, rest2, hdec, hp2, hpr, hir, hrun⟩ :=
    findIndent_prefix_tabfree (pre i) l (hp.tabfree i) htab hfi'
  simp only [hp.bytes] at hpre
  -- `p = a ++ mk`
  have hpa : p = a ++ mk := by
    have h1 : p ++ (run ++ rest2) = (a ++ mk) ++ rest := by rw [← List.append_assoc, ← hdec, hl, hmk]; simp
    exact (Lines.append_inj_byteLen h1 (by simp; omega)).1
  have hrel' := psub_shiftE_first w (d : Int) i hr1
  have hlen' := psub_shiftE_end w (d : Int) i hr2
  have hbeq := beq_shift w fn (o.lineEnd - o.lineStart)
  obtain ⟨hneg', htn⟩ := toNat_add_cast hneg d
  rw [if_neg hneg']
  simp only [hrel', hpre, liftL_ok', hlen', ok_bind, pure, Except.pure, hbeq, htn]
  refine ⟨?_, ?_, ?_, ?_⟩
  · simp only [Except.ok.injEq, Prod.mk.injEq, and_true]
    exact ⟨by rw [add_shift]; exact shiftE_cut w d i o fn _, add_shift _ _ _ _⟩
  · refine ⟨l, t, p ++ run, rest2, hLi, by rw [hdec], hs, ?_, ?_, ?_⟩
    · simp only; rw [hpr, hs, Nat.add_comm]
    · simp only
      have := congrArg Lines.byteLen hdec
      simp only [Lines.byteLen_append] at this hpr ⊢
      have hbl : Lines.byteLen l = Lines.byteLen a + Lines.byteLen cur := by rw [hl]; simp
      omega
    · simp only [List.length_append, hpa, hmkl, ← hir]
      exact Int.ofNat_le.mpr (Nat.add_le_add_right (Nat.add_le_add_right (Int.toNat_le.mpr hind) _) _)
  · -- the content indent stays within the line, plus one
    have h2 : (if (fn == o.lineEnd - o.lineStart) = true then 1 else if ind0 > 4 then 1 else ind0) ≤ ind0 + 1 := by
      split
      · omega
      · split <;> omega
    generalize (if (fn == o.lineEnd - o.lineStart) = true then 1 else if ind0 > 4 then 1 else ind0) = X at h2
    have hbl : Lines.byteLen l = Lines.byteLen a + Lines.byteLen cur := by rw [hl]; simp
    have h3 := Lines.length_le_byteLen a
    have h4 := hrun.byteLen
    have h5 : Lines.byteLen p = Lines.byteLen a + Lines.byteLen mk := by rw [hpa]; simp
    have h6 := congrArg Lines.byteLen hdec
    simp only [Lines.byteLen_append] at h6 hpr
    omega
  · exact Int.natCast_nonneg _


/-! ### the relation on states -/

/-- a container around `D`: the prefixed lines, the number of levels the container adds, the kind of
    its node (not a list) -/
structure Nest extends Ctx where
  lv : Nat
  top : Kind
  notList : isListKind top = false

namespace Nest

/-- the two states share a table relation: sources, tables, block indent -/
structure Tbl (N : Nest) (lo d : Nat) (s s' : BState) : Prop where
  pre : PreOk N.w N.pre
  lines : LinesOk N.L
  src : s.src = Lines.flat N.L
  src' : s'.src = Lines.flat (indentLines N.pre N.L)
  q : QRel N.w N.L s.offs s'.offs
  win : Win N.w d lo s.lineMax s.offs s'.offs
  blk : s'.blkIndent = s.blkIndent + d
  small : s.blkIndent ≤ Lines.byteLen (Lines.flat N.L) + 1
  /-- the model's `i32` / `usize` casts are exact on the shifted indents as well -/
  dsize : Lines.byteLen (Lines.flat N.L) + d + 8 < 2147483648

section accessors
variable {N : Nest} {lo d : Nat} {te : Bool} {s s' : BState}

theorem Tbl.off (T : Tbl N lo d s s') (n : Nat) (h1 : lo ≤ n) (h2 : n < s.lineMax) :
    s'.off n = Except.map (shiftE N.w (d : Int) n) (s.off n) := by
  simp only [BState.off, (T.win n h1 h2).1]
  cases s.offs[n]? <;> rfl

theorem Tbl.lineIndent (T : Tbl N lo d s s') (n : Nat) (h1 : lo ≤ n) (h2 : n < s.lineMax) :
    s'.lineIndent n = s.lineIndent n := by
  simp only [BState.lineIndent, Lines.lineIndent, (T.win n h1 h2).1, T.blk]
  cases s.offs[n]? with
  | none => rfl
  | some o =>
    simp only [Option.map_some, shiftE_indent, liftL]
    congr 1
    push_cast
    omega

theorem Tbl.isEmpty (T : Tbl N lo d s s') (n : Nat) : s'.isEmpty n = s.isEmpty n := by
  obtain ⟨di, h⟩ := T.q.geo n
  simp only [BState.isEmpty, Lines.isEmpty, h]
  cases s.offs[n]? with
  | none => rfl
  | some o => simp [shiftE]

theorem Tbl.getLine (T : Tbl N lo d s s') (n : Nat) : s'.getLine n = s.getLine n := by
  obtain ⟨di, hg⟩ := T.q.geo n
  simp only [BState.getLine, Lines.getLine, hg, T.src, T.src']
  cases h : s.offs[n]? with
  | none => rfl
  | some o =>
    obtain ⟨_, _, _, _, _, ⟨_, h1, _⟩, ⟨_, h2, _⟩⟩ := entry_shows T.pre T.lines (T.q.ok n o h) di
    simp only [Lines.lineText] at h1 h2
    simp [h1, h2]

theorem Tbl.getMap (T : Tbl N lo d s s') (a b : Nat) :
    s'.getMap a b = Except.map (tau2 N.w N.L) (s.getMap a b) := by
  obtain ⟨da, hga⟩ := T.q.geo a
  obtain ⟨db, hgb⟩ := T.q.geo b
  simp only [BState.getMap, Lines.getMap, hga, hgb]
  split
  · rfl
  · cases ha : s.offs[a]? with
    | none => rfl
    | some oa =>
      cases hb : s.offs[b]? with
      | none => rfl
      | some ob =>
        have ea := T.q.ok a oa ha
        have eb := T.q.ok b ob hb
        have ba := entry_bounds ea
        have bb := entry_bounds eb
        simp only [Option.map_some, liftL, Except.map, tau2, shiftE]
        rw [tau_of_entry N.w T.lines ea ba.1 ba.2, tau_of_entry N.w T.lines eb (by omega) (Nat.le_refl _)]

theorem Tbl.nonneg (T : Tbl N lo d s s') (hd : 0 < d) {n : Nat} (h1 : lo ≤ n) (h2 : n < s.lineMax) {o : LineOffset}
    (ho : s.offs[n]? = some o) : 0 ≤ o.indentNonspace := (T.win n h1 h2).2 hd o ho
end accessors

section getlines
variable {N : Nest} {lo d : Nat} {te : Bool} {s s' : BState}

/-- the loop of `get_lines` on the two tables, one iteration at a time through the views of the two entries
    (`Lines.getLinesGo_step`): the same piece is copied, the entry of the per-line table moves by `tau` -/
theorem getLinesGo_sim (T : Tbl N lo d s s') (end_ indent : Nat) (keep : Bool)
    (hend : end_ ≤ s.lineMax) (hi0 : 0 ≤ Lines.usizeAsI32 indent)
    (hcast : Lines.usizeAsI32 (indent + d) = Lines.usizeAsI32 indent + (d : Int)) :
    ∀ (n line : Nat) (result : List Char) (m : List (Nat × Nat)), end_ - line = n → lo ≤ line →
      Lines.getLinesGo s'.src s'.offs end_ (indent + d) keep line result (mapTau N.w N.L m)
        = Except.map (fun r => (r.1, mapTau N.w N.L r.2))
            (Lines.getLinesGo s.src s.offs end_ indent keep line result m) := by
  intro n
  induction n with
  | zero =>
    intro line result m hn _
    rw [Lines.getLinesGo, Lines.getLinesGo, if_neg (by omega), if_neg (by omega)]
    rfl
  | succ n ih =>
    intro line result m hn hlo
    have hlt : line < end_ := by omega
    have hwin := (T.win line hlo (by omega)).1
    cases ho : s.offs[line]? with
    | none =>
      rw [Lines.getLinesGo, Lines.getLinesGo, if_pos hlt, if_pos hlt, hwin, ho]
      rfl
    | some o =>
      rw [ho] at hwin
      have eo := T.q.ok line o ho
      obtain ⟨a, b, htab, hind, hfn, sh, sh'⟩ := entry_shows T.pre T.lines eo (d : Int)
      rw [T.src'] at *
      rw [T.src] at *
      rw [Lines.getLinesGo_step hlt hwin sh', Lines.getLinesGo_step hlt ho sh]
      have hk : o.indentNonspace - Lines.usizeAsI32 indent ≤ (a.length : Int) := by omega
      have hreq : o.indentNonspace + (d : Int) - (Lines.usizeAsI32 indent + (d : Int))
          = o.indentNonspace - Lines.usizeAsI32 indent := by omega
      have hvp : Lines.viewPiece (indent + d) (N.pre line ++ a, b, o.indentNonspace + (d : Int))
          = Lines.viewPiece indent (a, b, o.indentNonspace) := by
        rw [viewPiece_tabfree _ _ _ htab _ _ (by rw [hcast]; omega)]
        simp only [Lines.viewPiece, hcast, hreq]
      -- no tab is split: one entry of the per-line table per line, at the cut, which moves by `tau`
      have hc := calcRight_tabfree [] a htab _ hk
      have hc' := calcRight_tabfree (N.pre line) a htab _ hk
      simp only [List.nil_append, Lines.byteLen_nil, Nat.zero_add] at hc
      have hmp : mapTau N.w N.L (m ++ Lines.mapOf indent (Lines.byteLen result) [(o, (a, b, o.indentNonspace))])
          = mapTau N.w N.L m ++ Lines.mapOf (indent + d) (Lines.byteLen result)
              [(shiftE N.w (d : Int) line o, (N.pre line ++ a, b, o.indentNonspace + (d : Int)))] := by
        have hb : Lines.byteLen (a.take (a.length - (o.indentNonspace - Lines.usizeAsI32 indent).toNat))
            ≤ Lines.byteLen a := by
          have := congrArg Lines.byteLen (List.take_append_drop
            (a.length - (o.indentNonspace - Lines.usizeAsI32 indent).toNat) a)
          simp only [Lines.byteLen_append] at this; omega
        have hbd := entry_bounds eo
        simp only [mapTau, Lines.mapOf, List.map_append, hcast, hreq, hc, hc', T.pre.bytes,
          show ¬ (0 > 0) by omega, if_false, List.append_nil, List.map_cons, List.map_nil]
        rw [tau_of_entry N.w T.lines eo (by omega) (by omega)]
        simp only [shiftE]
        congr 3; omega
      rw [hvp, ← hmp]
      exact ih (line + 1) _ _ (by omega) (by omega)

/-- the request as the model casts it: non-negative, and shifted by `d` on the prefixed side -/
theorem Tbl.getLines' (T : Tbl N lo d s s') (b e indent : Nat) (keep : Bool) (hb : lo ≤ b) (he : e ≤ s.lineMax)
    (hi0 : 0 ≤ Lines.usizeAsI32 indent)
    (hcast : Lines.usizeAsI32 (indent + d) = Lines.usizeAsI32 indent + (d : Int)) :
    s'.getLines b e (indent + d) keep
      = Except.map (fun r => (r.1, mapTau N.w N.L r.2)) (s.getLines b e indent keep) := by
  simp only [BState.getLines, Lines.getLines]
  split
  · rfl
  · have := getLinesGo_sim T e indent keep he hi0 hcast (e - b) b [] [] rfl hb
    simp only [mapTau, List.map_nil] at this
    rw [this]
    cases Lines.getLinesGo s.src s.offs e indent keep b [] [] with
    | error er => cases er <;> rfl
    | ok v => rfl

theorem Tbl.getLines (T : Tbl N lo d s s') (b e indent : Nat) (keep : Bool) (hb : lo ≤ b) (he : e ≤ s.lineMax)
    (hi : indent + d < 2147483648) :
    s'.getLines b e (indent + d) keep
      = Except.map (fun r => (r.1, mapTau N.w N.L r.2)) (s.getLines b e indent keep) :=
  T.getLines' b e indent keep hb he (by rw [usizeAsI32_small (by omega)]; omega)
    (by rw [usizeAsI32_small hi, usizeAsI32_small (by omega)]; push_cast; rfl)
end getlines


/-- the kinds of the two current nodes: equal — or, at the top of the two runs, `Root` on the `D` side and
    the container on the other (no rule distinguishes the two) -/
def KRel (N : Nest) (k k' : Kind) : Prop := k' = k ∨ (k = .root ∧ k' = N.top)

theorem KRel.isList {N : Nest} {k k' : Kind} (h : KRel N k k') : isListKind k' = isListKind k := by
  rcases h with h | ⟨h1, h2⟩
  · rw [h]
  · rw [h1, h2, N.notList]; rfl

theorem KRel.eq_of_ne_root {N : Nest} {k k' : Kind} (h : KRel N k k') (hk : k ≠ .root) : k' = k := by
  rcases h with h | ⟨h1, _⟩
  · exact h
  · exact absurd h1 hk

/-- the run on `D` (state `s`) and the run nested in the container on the prefixed document (state `s'`) -/
structure Sim (N : Nest) (lo d : Nat) (te : Bool) (s s' : BState) : Prop where
  tbl : Tbl N lo d s s'
  line : s'.line = s.line
  lineMax : s'.lineMax = s.lineMax
  tight : TRel te s.tight s'.tight
  listIndent : LIRel d s.blkIndent s.listIndent s'.listIndent
  level : s'.level = s.level + N.lv
  nodeKind : KRel N s.nodeKind s'.nodeKind
  children : s'.children = relocNodes (tau N.w N.L) s.children
  refs : s'.refs = s.refs

section simbasics
variable {N : Nest} {lo d : Nat} {te : Bool} {s s' : BState}

theorem Tbl.indent_ok (T : Tbl N lo d s s') (k : Nat) (hk : k ≤ 4) : k + s.blkIndent + d < 2147483648 := by
  have := T.small
  have := T.dsize
  omega

theorem Tbl.getLines_blk (T : Tbl N lo d s s') (b e : Nat) (keep : Bool) (hb : lo ≤ b) (he : e ≤ s.lineMax) :
    s'.getLines b e s'.blkIndent keep
      = Except.map (fun r => (r.1, mapTau N.w N.L r.2)) (s.getLines b e s.blkIndent keep) := by
  rw [T.blk]
  exact T.getLines b e _ keep hb he (by have := T.indent_ok 0 (Nat.zero_le _); omega)

/-- a table relation does not depend on the other fields -/
theorem Tbl.of_eq {t t' : BState} (T : Tbl N lo d s s') (h1 : t.src = s.src) (h2 : t.offs = s.offs)
    (h3 : t.blkIndent = s.blkIndent) (h4 : t.lineMax = s.lineMax) (h1' : t'.src = s'.src) (h2' : t'.offs = s'.offs)
    (h3' : t'.blkIndent = s'.blkIndent) : Tbl N lo d t t' :=
  ⟨T.pre, T.lines, by rw [h1, T.src], by rw [h1', T.src'], by rw [h2, h2']; exact T.q,
   by rw [h2, h2', h4]; exact T.win, by rw [h3, h3', T.blk], by rw [h3]; exact T.small, T.dsize⟩

theorem Sim.setLine (S : Sim N lo d te s s') (l : Nat) : Sim N lo d te { s with line := l } { s' with line := l } :=
  ⟨S.tbl.of_eq rfl rfl rfl rfl rfl rfl rfl, rfl, S.lineMax, S.tight, S.listIndent, S.level, S.nodeKind,
   S.children, S.refs⟩

/-- both flags overwritten alike: the relation holds with `te := true` -/
theorem Sim.setLineTight (S : Sim N lo d te s s') {l l' : Nat} (hl : l' = l) (tg : Bool) :
    Sim N lo d true { s with tight := tg, line := l } { s' with tight := tg, line := l' } :=
  ⟨S.tbl.of_eq rfl rfl rfl rfl rfl rfl rfl, hl, S.lineMax, fun _ => rfl, S.listIndent, S.level, S.nodeKind, S.children, S.refs⟩

end simbasics

/-! ### lock-step results

`ORel R x y`: if the run on `D` returns a value, the run on the prefixed document returns a related one — the
lock-step relation of `Lemmas/ExceptRel.lean` with every panic of the run on `D` in the escape set.  A rule is walked
on the goal, both `do` blocks at once: the reads of the prefixed run are images of the reads of the run on `D`
(`bind_map`), pure steps are the same computation (`bind_same`), and both runs branch alike (`ite`). -/

abbrev ORel {α β : Type} (R : α → β → Prop) (x : Except Panic α) (y : Except Panic β) : Prop :=
  XRel (fun _ => True) R x y

theorem psub_rel (a k : Nat) : ORel (fun l l' => l' = l + k) (psub a 1) (psub (a + k) 1) := by
  refine .of_ok fun l h => ?_
  obtain ⟨h1, rfl⟩ := psub_ok h
  exact ⟨_, psub_eq (by omega), by omega⟩

/-- the results of a rule: the same verdict, related states -/
def RRel (N : Nest) (lo d : Nat) (te : Bool) (r r' : Bool × BState) : Prop := r'.1 = r.1 ∧ Sim N lo d te r.2 r'.2

theorem RRel.res {N : Nest} {lo d : Nat} {te : Bool} {x y : Res} (h : ORel (RRel N lo d te) x y) {b : Bool} {t : BState}
    (hx : x = .ok (b, t)) : ∃ t', y = .ok (b, t') ∧ Sim N lo d te t t' := by
  obtain ⟨⟨b', t'⟩, hy, hb, St⟩ := h.run hx
  cases hb
  exact ⟨t', hy, St⟩

theorem Sim.declined {N : Nest} {lo d : Nat} {te : Bool} {s s' : BState} (S : Sim N lo d te s s') :
    ORel (RRel N lo d te) (pure (false, s)) (pure (false, s')) := .pure ⟨rfl, S⟩

theorem Sim.guard {N : Nest} {lo d : Nat} {te : Bool} {s s' : BState} (S : Sim N lo d te s s') {c : Prop} [Decidable c]
    {y y' : Res} (he : ¬ c → ORel (RRel N lo d te) y y') :
    ORel (RRel N lo d te) (if c then pure (false, s) else y) (if c then pure (false, s') else y') :=
  .ite (fun _ => S.declined) he

section leaf
variable {N : Nest} {lo d : Nat} {te : Bool} {s s' : BState}

/-- in a window the sign test of `indent_nonspace` answers alike -/
theorem Tbl.neg_iff (T : Tbl N lo d s s') {n : Nat} (h1 : lo ≤ n) (h2 : n < s.lineMax) {o : LineOffset}
    (ho : s.offs[n]? = some o) : (o.indentNonspace + (d : Int) < 0) ↔ (o.indentNonspace < 0) := by
  by_cases hd : 0 < d
  · have := T.nonneg hd h1 h2 ho
    constructor <;> intro h <;> omega
  · have : d = 0 := by omega
    subst this
    simp

theorem Tbl.entry_of_off (T : Tbl N lo d s s') {n : Nat} {o : LineOffset} (h : s.off n = .ok o) :
    EntryOk N.L n o := T.q.ok n o (off_ok h)

/-! #### the two states as `Reads` (`Lemmas/BlockReads.lean`) -/

/-- offsets, ranges and node values through `tau` -/
def rels (N : Nest) : LX.Sim.Rels :=
  ⟨fun a b => b = tau N.w N.L a, fun r r' => r' = tau2 N.w N.L r, fun k k' => k' = relocKind (tau N.w N.L) k, False⟩

theorem mapTau_mrel : ∀ m : List (Nat × Nat), LE.MRel (rels N).ρ m (mapTau N.w N.L m)
  | [] => trivial
  | _ :: r => ⟨rfl, rfl, mapTau_mrel r⟩

theorem mrel_tau : ∀ {m m' : List (Nat × Nat)}, LE.MRel (rels N).ρ m m' → m' = mapTau N.w N.L m
  | [], [], _ => rfl
  | [], _ :: _, h => h.elim
  | _ :: _, [], h => h.elim
  | (k, v) :: _, (k', v') :: _, h => by
    have h1 : k = k' := h.1
    have h2 : v' = tau N.w N.L v := h.2.1
    rw [h1, h2, mrel_tau h.2.2]; rfl

theorem kpush (N : Nest) : Rd.KPush (rels N) where
  of_ne := fun {k} h => by
    show _ = relocKind _ k
    cases k <;> first | rfl | exact absurd rfl (h _ _)
  inl := fun c _ _ h => by
    show _ = relocKind _ _
    rw [mrel_tau h]; rfl

mutual
theorem nrel_tau : ∀ {n n' : BNode}, LX.Sim.NRel (rels N) n n' → n' = relocNode (tau N.w N.L) n
  | ⟨k, r, c⟩, ⟨k', r', c'⟩, h => by
    simp only [LX.Sim.NRel] at h
    obtain ⟨hk, hr, hc⟩ := h
    have hk : k' = relocKind _ k := hk
    rw [hk, nrelL_tau hc, relocNode]
    congr 1
    cases r <;> cases r' <;> first | rfl | exact hr.elim | (have hr : _ = tau2 _ _ _ := hr; rw [hr]; rfl)
theorem nrelL_tau : ∀ {c c' : List BNode}, LX.Sim.NRelL (rels N) c c' → c' = relocNodes (tau N.w N.L) c
  | [], [], _ => rfl
  | [], _ :: _, h => by simp only [LX.Sim.NRelL] at h
  | _ :: _, [], h => by simp only [LX.Sim.NRelL] at h
  | _ :: _, _ :: _, h => by
    obtain ⟨h1, h2⟩ := h.cons_inv
    rw [nrel_tau h1, nrelL_tau h2, relocNodes]
end

/-- what the two states answer: about the lines of the window, `get_lines` up to `line_max` -/
theorem Sim.reads {E : Panic → Prop} (S : Sim N lo d te s s') :
    Rd.Reads E (rels N) (fun n => lo ≤ n ∧ n < s.lineMax) (fun e => e ≤ s.lineMax) s s' where
  line := S.line
  lineMax := S.lineMax
  refs := S.refs
  up := fun n h h' => ⟨Nat.le_succ_of_le h.1, h'⟩
  indent := fun n h => S.tbl.lineIndent n h.1 h.2
  text := S.tbl.getLine
  empty := S.tbl.isEmpty
  map := fun a b _ => .of_map (S.tbl.getMap a b)
  lines := fun b e keep h he =>
    (XRel.of_map (S.tbl.getLines_blk b e keep h.1 he)).mono fun r r' hr => by
      subst hr; exact ⟨rfl, mapTau_mrel _⟩
  off := fun n h => by
    rw [S.tbl.off n h.1 h.2]
    cases ho : s.off n with
    | error e => exact .err e
    | ok o =>
      refine .ok ⟨S.tbl.neg_iff h.1 h.2 (off_ok ho), fun x hx => ?_⟩
      have eo := S.tbl.entry_of_off ho
      show _ = tau _ _ _
      rw [tau_of_entry N.w S.tbl.lines eo (by have := entry_bounds eo; omega) hx]
      simp only [shiftE]; omega

theorem Sim.step (S : Sim N lo d te s s') {t t' : BState} (T : Rd.Step (rels N) s s' t t') : Sim N lo d te t t' := by
  obtain ⟨c₁, c₂, h1, h2, hc⟩ := T.kids
  refine ⟨S.tbl.of_eq T.fr₁.src T.fr₁.offs T.fr₁.blkIndent T.fr₁.lineMax T.fr₂.src T.fr₂.offs T.fr₂.blkIndent, T.line, ?_,
    ?_, ?_, ?_, ?_, ?_, T.refs⟩
  · rw [T.fr₂.lineMax, T.fr₁.lineMax, S.lineMax]
  · rw [T.tight₂, T.tight₁]; exact S.tight
  · rw [T.fr₂.listIndent, T.fr₁.listIndent, T.fr₁.blkIndent]; exact S.listIndent
  · rw [T.fr₂.level, T.fr₁.level, S.level]
  · rw [T.fr₂.nodeKind, T.fr₁.nodeKind]; exact S.nodeKind
  · rw [h1, h2, S.children, relocNodes_append, nrelL_tau hc]

/-- a result of a walk of `Lemmas/BlockReads.lean` read back -/
theorem Sim.res (S : Sim N lo d te s s') {x y : Res} (h : XRel (fun _ => True) (Rd.RRel (rels N) s s') x y) :
    ORel (RRel N lo d te) x y := h.mono fun _ _ hr => ⟨hr.1.symm, S.step hr.2⟩

theorem hrRule_sim (S : Sim N lo d te s s') (hlo : lo ≤ s.line) (hlt : s.line < s.lineMax) :
    ORel (RRel N lo d te) (hrRule s false) (hrRule s' false) :=
  S.res (Rd.hr_reads (kpush N) S.reads ⟨hlo, hlt⟩ false fun h => h.elim)

theorem hr_sim (S : Sim N lo d te s s') (hlo : lo ≤ s.line) (hlt : s.line < s.lineMax) {b : Bool} {t : BState}
    (h : hrRule s false = .ok (b, t)) : ∃ t', hrRule s' false = .ok (b, t') ∧ Sim N lo d te t t' :=
  RRel.res (hrRule_sim S hlo hlt) h

theorem heading_sim (S : Sim N lo d te s s') (hlo : lo ≤ s.line) (hlt : s.line < s.lineMax) :
    ORel (RRel N lo d te) (headingRule s false) (headingRule s' false) :=
  S.res (Rd.heading_reads (kpush N) S.reads ⟨hlo, hlt⟩ false fun h => h.elim)

theorem code_sim (S : Sim N lo d te s s') (hlo : lo ≤ s.line) (hlt : s.line < s.lineMax) :
    ORel (RRel N lo d te) (codeRule s false) (codeRule s' false) := by
  unfold codeRule
  rw [if_neg Bool.false_ne_true, if_neg Bool.false_ne_true, S.line, S.tbl.lineIndent _ hlo hlt,
    Rd.codeScan_reads (E := fun _ => True) S.reads _ _ _ rfl fun h => ⟨Nat.le_succ_of_le hlo, h⟩]
  refine .bind_same fun ind _ => S.guard fun _ => .bind_same fun last hscan => ?_
  have hlast := (codeScan_spec _ _ _ _ hscan (Nat.le_refl _)).2 (by omega)
  have hlast1 := (codeScan_spec _ _ _ _ hscan (Nat.le_refl _)).1
  have T2 := (S.setLine last).tbl
  have e4 : 4 + s'.blkIndent = 4 + s.blkIndent + d := by rw [S.tbl.blk]; omega
  dsimp only
  rw [e4, T2.getLines s.line last (4 + s.blkIndent) false hlo hlast (S.tbl.indent_ok 4 (by omega))]
  refine .bind_map fun gl _ => ?_
  obtain ⟨content, mapping⟩ := gl
  rcases mapping with _ | ⟨m0, tl⟩
  · exact .error
  refine .bind_same fun l1 hl1 => ?_
  obtain ⟨hl1a, rfl⟩ := psub_ok hl1
  rw [T2.off (last - 1) (by omega) (show last - 1 < s.lineMax by omega)]
  refine .bind_map fun o hoff => ?_
  -- the debug assertion
  have eo := T2.entry_of_off hoff
  have hle : tau N.w N.L o.lineEnd = (shiftE N.w (d : Int) (last - 1) o).lineEnd := by
    rw [tau_of_entry N.w S.tbl.lines eo (by have := entry_bounds eo; omega) (Nat.le_refl _)]
    simp [shiftE]
  by_cases hgt : m0.2 > o.lineEnd
  · rw [if_pos hgt]
    exact .error
  have hmono := tau_mono N.w N.L (show m0.2 ≤ o.lineEnd by omega)
  rw [hle] at hmono
  rw [if_neg hgt, if_neg (Nat.not_lt.mpr hmono)]
  refine .pure ⟨rfl, Tbl.of_eq S.tbl rfl rfl rfl rfl rfl rfl rfl, ?_, ?_, ?_, ?_, ?_, ?_, ?_, ?_⟩ <;>
    simp [BState.push, S.line, S.lineMax, S.tight, S.listIndent, S.level, S.nodeKind, S.children, S.refs,
      relocNodes_append, relocNodes, relocNode, relocKind, tau2, mapTau]
  rw [← hle]

theorem fence_sim (S : Sim N lo d te s s') (hlo : lo ≤ s.line) (hlt : s.line < s.lineMax) (hi : IndentOk s) :
    ORel (RRel N lo d te) (fenceRule s false) (fenceRule s' false) := by
  refine S.res (Rd.fence_reads (kpush N) S.reads ⟨hlo, hlt⟩ false (fun h => h.elim) ?_)
  intro marker len e he o o' hscan hoff hoff'
  -- the request `indent_nonspace as usize` is exact on both sides
  rw [S.tbl.off _ hlo hlt, hoff] at hoff'
  cases hoff'
  obtain ⟨i, hi1, hi0⟩ := hi
  have hoi := lineIndent_of_off (off_ok hoff)
  rw [hi1] at hoi
  have hon : 0 ≤ o.indentNonspace := by
    simp only [Except.ok.injEq] at hoi; omega
  have hsz := entry_le_size (S.tbl.entry_of_off hoff)
  have hsize := S.tbl.dsize
  have hcast : i32AsUsize o.indentNonspace + d < 2147483648 := by
    simp only [i32AsUsize, hon, ge_iff_le, if_true]
    omega
  have hsc := fenceScan_spec _ _ _ _ _ _ hscan hlt
  rw [shiftE_indent, i32AsUsize_add hon]
  exact (XRel.of_map (S.tbl.getLines (s.line + 1) e (i32AsUsize o.indentNonspace) true (by omega) hsc.2.1 hcast)).mono
    fun r r' hr => by rw [hr]

theorem Sim.sameLook (S : Sim N lo d te s s') (hlo : lo ≤ s.line) (hlt : s.line < s.lineMax)
    (hex : s.line < s.offs.length) : SameLook s s' := by
  refine ⟨by rw [S.line, S.tbl.lineIndent _ hlo hlt], by rw [S.line, S.tbl.getLine], S.nodeKind.isList, ?_⟩
  unfold listSpecial
  rw [S.line, S.tbl.off _ hlo hlt, S.tbl.blk]
  have ho : s.off s.line = .ok s.offs[s.line] := by simp [BState.off, List.getElem?_eq_getElem hex]
  rw [ho]
  generalize s.offs[s.line] = o at ho
  rcases S.listIndent with h | ⟨hb, hd, hs⟩ | ⟨hb, hn, hs⟩
  · rw [h]
    cases s.listIndent with
    | none => rfl
    | some li =>
      simp only [Option.map_some, map_ok', ok_bind, shiftE_indent, pure, Except.pure, Except.ok.injEq]
      apply decide_eq_decide.mpr
      push_cast
      exact ⟨fun ⟨h1, h2⟩ => ⟨by omega, by omega⟩, fun ⟨h1, h2⟩ => ⟨by omega, by omega⟩⟩
  · cases hli' : s'.listIndent with
    | none => rw [hli'] at hs; cases hs
    | some k' =>
      subst hd
      cases s.listIndent with
      | none =>
        simp only [map_ok', ok_bind, shiftE_indent, pure, Except.pure, Except.ok.injEq]
        rw [hb]; push_cast; apply decide_eq_false; rintro ⟨h1, h2⟩; omega
      | some k =>
        simp only [map_ok', ok_bind, shiftE_indent, pure, Except.pure, Except.ok.injEq]
        apply decide_eq_decide.mpr
        rw [hb]; push_cast
        exact ⟨fun ⟨h1, h2⟩ => by omega, fun ⟨h1, h2⟩ => by omega⟩
  · rw [hn, hs]
    simp only [map_ok', ok_bind, shiftE_indent, pure, Except.pure, Except.ok.injEq]
    rw [hb]
    by_cases hd0 : 0 < d
    · have := S.tbl.nonneg hd0 hlo hlt (off_ok ho)
      push_cast; apply decide_eq_false; rintro ⟨h1, h2⟩; omega
    · have : d = 0 := by omega
      subst this
      push_cast; apply decide_eq_false; rintro ⟨h1, h2⟩; omega

/-- the two look-aheads: pure, and with the same verdict on related states -/
structure TestSim (N : Nest) (test test' : Test) : Prop where
  pure : TestPure test
  pure' : TestPure test'
  same : ∀ lo d te s s', Sim N lo d te s s' → lo ≤ s.line → s.line < s.lineMax → s.line < s.offs.length →
    verdict (test' s') = verdict (test s)

theorem TestSim.rel {test test' : Test} (TS : TestSim N test test') (S : Sim N lo d te s s')
    (hlo : lo ≤ s.line) (hlt : s.line < s.lineMax) (hex : s.line < s.offs.length) :
    ORel (fun w w' => w.2 = s ∧ w' = (w.1, s')) (test s) (test' s') := by
  refine .of_ok fun w h => ?_
  have h2 := TS.same _ _ _ _ _ S hlo hlt hex
  rw [h] at h2
  cases h3 : test' s' with
  | error e => rw [h3] at h2; simp [verdict, Except.map] at h2
  | ok w' =>
    have h4 := TS.pure' _ _ h3
    rw [h3] at h2
    simp [verdict, Except.map] at h2
    exact ⟨w', rfl, TS.pure _ _ h, by rw [← h2, ← h4]⟩

/-- the states the look-ahead loop passes through: `s`, `s'` at another line -/
def orbit (s s' : BState) (a b : BState) : Prop := ∃ l, a = { s with line := l } ∧ b = { s' with line := l }

theorem Sim.look {test test' : Test} (S : Sim N lo d te s s') (TS : TestSim N test test') :
    Rd.Look (fun _ => True) (rels N) (fun n => lo ≤ n ∧ n < s.lineMax) (fun e => e ≤ s.lineMax) (orbit s s') test test' where
  reads := by
    rintro _ _ ⟨l, rfl, rfl⟩
    exact (S.setLine l).reads
  line := by
    rintro _ _ l ⟨_, rfl, rfl⟩
    exact ⟨l, rfl, rfl⟩
  test := by
    rintro _ _ o ⟨l, rfl, rfl⟩ hok ho
    exact (TS.rel (S.setLine l) hok.1 hok.2 (off_lt ho)).mono fun w w' hw => ⟨by rw [hw.2], l, hw.1, by rw [hw.2]⟩

theorem Sim.resL (S : Sim N lo d te s s') {x y : Res}
    (h : XRel (fun _ => True) (Rd.RRelS (orbit s s') (rels N)) x y) : ORel (RRel N lo d te) x y :=
  h.mono fun _ _ hr => by
    obtain ⟨hv, _, _, ⟨l, rfl, rfl⟩, T⟩ := hr
    exact ⟨hv.symm, (S.setLine l).step T⟩

theorem TestSim.lim {test test' : Test} (TS : TestSim N test test') {setext : Bool} {fuel : Nat} (hlt : s.line < s.lineMax)
    (r : Nat × Nat × BState) (h : lazyScan test setext fuel s s.line = .ok r) : r.1 ≤ s.lineMax :=
  (lazyScan_spec TS.pure h).2.2.1 hlt

theorem paragraph_sim {test test' : Test} (TS : TestSim N test test') {fuel : Nat} (S : Sim N lo d te s s')
    (hlo : lo ≤ s.line) (hlt : s.line < s.lineMax) :
    ORel (RRel N lo d te) (paragraphRule test fuel s false) (paragraphRule test' fuel s' false) :=
  S.resL (Rd.paragraph_reads (kpush N) (S.look TS) (fun h => h.elim) trivial (Nat.le_refl _) ⟨s.line, rfl, by rw [← S.line]⟩
    ⟨hlo, hlt⟩ false (fun h => h.elim) (TS.lim hlt))

theorem lheading_sim {test test' : Test} (TS : TestSim N test test') {fuel : Nat} (S : Sim N lo d te s s')
    (hlo : lo ≤ s.line) (hlt : s.line < s.lineMax) :
    ORel (RRel N lo d te) (lheadingRule test fuel s false) (lheadingRule test' fuel s' false) :=
  S.resL (Rd.lheading_reads (kpush N) (S.look TS) (fun h => h.elim) trivial (Nat.le_refl _) ⟨s.line, rfl, by rw [← S.line]⟩
    ⟨hlo, hlt⟩ false (fun h => h.elim) (TS.lim hlt))

theorem reference_sim {cfg cfg' : Cfg} (hc : cfg'.lookup = cfg.lookup ∧ cfg'.L = cfg.L ∧ cfg'.U = cfg.U)
    {test test' : Test} (TS : TestSim N test test') {fuel : Nat} (S : Sim N lo d te s s')
    (hlo : lo ≤ s.line) (hlt : s.line < s.lineMax) :
    ORel (RRel N lo d te) (referenceRule cfg test fuel s false) (referenceRule cfg' test' fuel s' false) :=
  S.resL (Rd.reference_reads hc (S.look TS) trivial (Nat.le_refl _) ⟨s.line, rfl, by rw [← S.line]⟩ ⟨hlo, hlt⟩ false
    (TS.lim hlt))

end leaf

section bq
variable {N : Nest} {lo d : Nat} {te : Bool}

theorem Tbl.mono_lo {s s' : BState} (T : Tbl N lo d s s') {lo' : Nat} (h : lo ≤ lo') : Tbl N lo' d s s' :=
  ⟨T.pre, T.lines, T.src, T.src', T.q, T.win.mono h (Nat.le_refl _), T.blk, T.small, T.dsize⟩

theorem Sim.mono_lo {s s' : BState} (S : Sim N lo d te s s') {lo' : Nat} (h : lo ≤ lo') : Sim N lo' d te s s' :=
  ⟨S.tbl.mono_lo h, S.line, S.lineMax, S.tight, S.listIndent, S.level, S.nodeKind, S.children, S.refs⟩

theorem Sim.setOff_out {s s' s₂ : BState} (S : Sim N lo d te s s') {m : Nat} {o₂ : LineOffset} (hm : m < lo)
    (h : s.setOff m o₂ = .ok s₂) (eo : EntryOk N.L m o₂) (di : Int) :
    ∃ s₂', s'.setOff m (shiftE N.w di m o₂) = .ok s₂' ∧ Sim N lo d te s₂ s₂' ∧
      s₂.offs = s.offs.set m o₂ ∧ s₂'.offs = s'.offs.set m (shiftE N.w di m o₂) := by
  obtain ⟨hml, rfl⟩ := setOff_ok h
  have hm' : m < s'.offs.length := by rw [S.tbl.q.len', ← S.tbl.q.len]; exact hml
  refine ⟨{ s' with offs := s'.offs.set m (shiftE N.w di m o₂) }, by simp [BState.setOff, hm'], ?_, rfl, rfl⟩
  exact ⟨⟨S.tbl.pre, S.tbl.lines, S.tbl.src, S.tbl.src', S.tbl.q.set eo di, S.tbl.win.set_out (.inl hm) _ _,
    S.tbl.blk, S.tbl.small, S.tbl.dsize⟩,
    S.line, S.lineMax, S.tight, S.listIndent, S.level, S.nodeKind, S.children, S.refs⟩

theorem Sim.setOff_in {s s' s₂ : BState} (S : Sim N lo d te s s') {m : Nat} {o₂ : LineOffset}
    (h : s.setOff m o₂ = .ok s₂) (eo : EntryOk N.L m o₂) (hnn : 0 < d → 0 ≤ o₂.indentNonspace) :
    ∃ s₂', s'.setOff m (shiftE N.w (d : Int) m o₂) = .ok s₂' ∧ Sim N lo d te s₂ s₂' := by
  obtain ⟨hml, rfl⟩ := setOff_ok h
  have hlen : s'.offs.length = s.offs.length := by rw [S.tbl.q.len', ← S.tbl.q.len]
  have hm' : m < s'.offs.length := by rw [hlen]; exact hml
  refine ⟨{ s' with offs := s'.offs.set m (shiftE N.w (d : Int) m o₂) }, by simp [BState.setOff, hm'], ?_⟩
  exact ⟨⟨S.tbl.pre, S.tbl.lines, S.tbl.src, S.tbl.src', S.tbl.q.set eo _, S.tbl.win.set_in hlen hnn,
    S.tbl.blk, S.tbl.small, S.tbl.dsize⟩,
    S.line, S.lineMax, S.tight, S.listIndent, S.level, S.nodeKind, S.children, S.refs⟩

theorem bqScan_sim {test test' : Test} (TS : TestSim N test test') (start : Nat) :
    ∀ (fuel : Nat) (s s' : BState) (m : Nat) (old old' : List LineOffset) (le : Bool),
      Sim N m d te s s' → start ≤ m → Win N.w 0 start m s.offs s'.offs →
      ORel (fun r r' => r'.1 = r.1 ∧ QRel N.w N.L r.2.2.offs r'.2.2.offs ∧ Win N.w 0 start r.1 r.2.2.offs r'.2.2.offs)
        (bqScan test fuel s m old le) (bqScan test' fuel s' m old' le) := by
  intro fuel
  induction fuel with
  | zero => exact fun s s' m old old' le _ _ _ => .error
  | succ f ih =>
    intro s s' m old old' le S hsm hw
    simp only [bqScan]
    refine .ite_iff (by rw [S.lineMax]) (fun _ => .ok ⟨rfl, S.tbl.q, hw⟩) fun hge => ?_
    have hlt : m < s.lineMax := Classical.not_not.mp hge
    have hlen : s'.offs.length = s.offs.length := by rw [S.tbl.q.len', ← S.tbl.q.len]
    rw [S.tbl.lineIndent _ (Nat.le_refl m) hlt, S.tbl.getLine]
    refine .bind_same fun ind hind => .bind_same fun line _ => ?_
    rcases line with _ | ⟨c, rest⟩
    · exact .ok ⟨rfl, S.tbl.q, hw⟩
    have Sm := (S.setLine m).mono_lo (Nat.le_succ m)
    have hoffm := (S.setLine m).tbl.off m (Nat.le_refl m) hlt
    refine .ite (fun _ => ?_) fun _ => .ite (fun _ => .ok ⟨rfl, S.tbl.q, hw⟩) fun hle => ?_
    · -- inside the quote
      rw [S.tbl.off _ (Nat.le_refl m) hlt, S.tbl.src, S.tbl.src']
      refine .bind_map fun o hoff => ?_
      refine .bind (R := fun (rw rw' : LineOffset × Bool) =>
          rw' = (shiftE N.w ((0 : Nat) : Int) m rw.1, rw.2) ∧ EntryOk N.L m rw.1) (.of_ok fun rw hrw => ?_) fun rw rw' _ hr => ?_
      · obtain ⟨o₂, le₂⟩ := rw
        obtain ⟨hrw', eo₂⟩ := bqRewrite_sim S.tbl.pre S.tbl.lines (S.tbl.entry_of_off hoff) (d : Int) hrw
        exact ⟨_, hrw', rfl, eo₂⟩
      obtain ⟨o₂, le₂⟩ := rw
      obtain ⟨rfl, eo₂⟩ := hr
      refine .bind (.of_ok fun s₂ hset => (S.mono_lo (Nat.le_succ m)).setOff_out (Nat.lt_succ_self m) hset eo₂ ((0 : Nat) : Int))
        fun s₂ s₂' _ hs => ?_
      obtain ⟨S₂, ho1, ho2⟩ := hs
      exact ih _ _ _ _ _ _ S₂ (Nat.le_succ_of_le hsm) (by rw [ho1, ho2]; exact hw.snoc hlen o₂)
    -- the look-ahead on line `m`
    have hle' : le = false := by simpa using hle
    subst hle'
    refine .bind (TS.rel (S.setLine m) (Nat.le_refl m) hlt (lineIndent_lt hind)) fun wt wt' _ hwt => ?_
    obtain ⟨b, s1⟩ := wt
    obtain ⟨(h1 : s1 = { s with line := m }), rfl⟩ := hwt
    subst s1
    dsimp only
    have hblk : s'.blkIndent = s.blkIndent + d := S.tbl.blk
    cases b with
    | false =>
      -- no rule fires: lazy continuation text
      rw [if_neg Bool.false_ne_true, if_neg Bool.false_ne_true, hoffm]
      refine .bind_map fun o hoff => ?_
      rw [shiftE_with_indent]
      refine .bind (.of_ok fun s₂ hset => Sm.setOff_out (Nat.lt_succ_self m) hset
        (((S.setLine m).tbl.entry_of_off hoff).indent_neg (x := -1) (by omega)) ((0 : Nat) : Int)) fun s₂ s₂' _ hs => ?_
      obtain ⟨S₂, ho1, ho2⟩ := hs
      exact ih _ _ _ _ _ _ S₂ (Nat.le_succ_of_le hsm) (by rw [ho1, ho2]; exact hw.snoc hlen _)
    | true =>
      rw [if_pos rfl, if_pos rfl]
      by_cases hb0 : s.blkIndent ≠ 0
      · -- a terminating rule, `blk_indent ≠ 0`
        rw [if_pos hb0, if_pos (show s'.blkIndent ≠ 0 by rw [hblk]; omega), hoffm]
        refine .bind_map fun o hoff => ?_
        rw [shiftE_indent, show o.indentNonspace + (d : Int) - ((s'.blkIndent : Nat) : Int)
          = o.indentNonspace - (s.blkIndent : Int) by rw [hblk]; push_cast; omega, shiftE_with_indent]
        refine .bind (.of_ok fun s₂ hset => Sm.setOff_out (Nat.lt_succ_self m) hset
          (((S.setLine m).tbl.entry_of_off hoff).indent (x := o.indentNonspace - (s.blkIndent : Int)) (by omega))
          ((0 : Nat) : Int)) fun s₂ s₂' _ hs => ?_
        obtain ⟨S₂, ho1, ho2⟩ := hs
        refine .ok ⟨rfl, S₂.tbl.q, ?_⟩
        rw [ho1, ho2]
        exact hw.set_out (m := m) (.inr (Nat.le_refl m)) _ _
      · rw [if_neg hb0]
        have hb0' : s.blkIndent = 0 := Decidable.not_not.mp hb0
        by_cases hd0 : d = 0
        · rw [if_neg (show ¬ s'.blkIndent ≠ 0 by rw [hblk]; omega)]
          exact .ok ⟨rfl, S.tbl.q, hw⟩
        · -- `blk_indent = 0` on the `D` side only: the prefixed side rewrites the entry of line `m` to itself
          have hml : m < s.offs.length := lineIndent_lt hind
          obtain ⟨om, hom⟩ : ∃ om, s.offs[m]? = some om := ⟨_, List.getElem?_eq_getElem hml⟩
          have hoff0 : ({ s with line := m } : BState).off m = .ok om := by simp [BState.off, hom]
          have hself : s.offs.set m om = s.offs := by
            have := (List.getElem?_eq_some_iff.mp hom).2
            rw [← this]; exact List.set_getElem_self _
          rw [if_pos (show s'.blkIndent ≠ 0 by rw [hblk]; omega), hoffm, hoff0, map_ok', ok_bind, shiftE_indent,
            show om.indentNonspace + (d : Int) - ((s'.blkIndent : Nat) : Int) = om.indentNonspace by
              rw [hblk, hb0']; push_cast; omega,
            shiftE_with_indent, setOff_eq _ (show m < _ by simp only; omega), ok_bind]
          refine .ok ⟨rfl, ?_, ?_⟩
          · have := S.tbl.q.set (S.tbl.q.ok m _ hom) ((0 : Nat) : Int)
            rw [hself] at this
            exact this
          · have := hw.set_out (m := m) (.inr (Nat.le_refl m)) om
              (shiftE N.w ((0 : Nat) : Int) m { om with indentNonspace := om.indentNonspace })
            rw [hself] at this
            exact this

/-- the nested tokenizers correspond -/
def TokSim (N : Nest) (tok tok' : Tok) : Prop :=
  ∀ lo d te s s' t, Sim N lo d te s s' → lo ≤ s.line → tok s = .ok t → ∃ t', tok' s' = .ok t' ∧ Sim N lo d te t t'

theorem blockquote_sim {tok tok' : Tok} {test test' : Test} (hk : TokSpec tok) (hk' : TokSpec tok')
    (TK : TokSim N tok tok') (TS : TestSim N test test') {fuel : Nat} {s s' : BState} (S : Sim N lo d te s s')
    (hlo : lo ≤ s.line) (hlt : s.line < s.lineMax) :
    ORel (RRel N lo d te) (blockquoteRule tok test fuel s false) (blockquoteRule tok' test' fuel s' false) := by
  unfold blockquoteRule
  rw [show s'.lineIndent s'.line = s.lineIndent s.line by rw [S.line, S.tbl.lineIndent _ hlo hlt],
    show s'.getLine s'.line = s.getLine s.line by rw [S.line, S.tbl.getLine]]
  refine .bind_same fun ind _ => S.guard fun _ => .bind_same fun line _ =>
    S.guard fun _ => ?_
  rw [if_neg Bool.false_ne_true, if_neg Bool.false_ne_true]
  -- the scans
  refine .bind_both (R := fun (r r' : Nat × List LineOffset × BState) => r'.1 = r.1 ∧ QRel N.w N.L r.2.2.offs r'.2.2.offs ∧
      Win N.w 0 s.line r.1 r.2.2.offs r'.2.2.offs) ?_ fun scan scan' hscan hscan' hsc => ?_
  · show ORel _ (bqScan test fuel s s.line [] false) (bqScan test' fuel s' s'.line [] false)
    rw [S.line]
    exact bqScan_sim TS s.line _ _ _ _ [] [] false (S.mono_lo hlo) (Nat.le_refl _) (fun i h1 h2 => by omega)
  obtain ⟨n, old, S1⟩ := scan
  obtain ⟨n', old', S1'⟩ := scan'
  obtain ⟨(hn : n' = n), hq1, hw1⟩ := hsc
  subst n'
  obtain ⟨hsb, hmn, _, _, _, add, hadd, hrest⟩ := bqScan_spec TS.pure _ _ _ _ _ _ _ _ hscan
  replace hscan' : bqScan test' fuel s' s.line [] false = .ok (n, old', S1') := by
    rw [← S.line]; exact hscan'
  obtain ⟨hsb', _, _, _, _, add', hadd', hrest'⟩ := bqScan_spec TS.pure' _ _ _ _ _ _ _ _ hscan'
  simp only [List.nil_append] at hadd hadd'
  rw [← hadd] at hrest
  rw [← hadd'] at hrest'
  clear hadd hadd'
  dsimp only at hq1 hw1 ⊢
  -- the nested tokenizers
  have S1s : Sim N s.line 0 te (nestBq S1 s.line n) (nestBq S1' s.line n) :=
    ⟨⟨S.tbl.pre, S.tbl.lines, by simp [hsb.src, S.tbl.src], by simp [hsb'.src, S.tbl.src'], hq1, hw1, rfl,
        Nat.zero_le _, by have := S.tbl.dsize; omega⟩, rfl, rfl, by simp [hsb.tight, hsb'.tight, S.tight],
      by simpa [hsb.listIndent, hsb'.listIndent] using S.listIndent.nest,
      by simp only [hsb.level, hsb'.level, S.level]; omega, .inl rfl, rfl, by simp [hsb.refs, hsb'.refs, S.refs]⟩
  refine .bind_both (R := Sim N s.line 0 te) ?_ fun s2 s2' htok htok' S2 => ?_
  · show ORel _ (tok (nestBq S1 s.line n)) (tok' (nestBq S1' s'.line n))
    rw [S.line]
    exact .of_ok fun t h => TK _ _ _ _ _ t S1s (Nat.le_refl _) h
  have hfr := hk.frame _ _ htok
  have hmono := hk.mono _ _ htok
  rw [S2.level]
  refine .bind (psub_rel _ _) fun lvl _ hlvl hl' => ?_
  subst hl'
  obtain ⟨hl1, rfl⟩ := psub_ok hlvl
  -- the tables are restored
  refine .bind (R := fun offs offs' => offs = s.offs ∧ offs' = s'.offs) (.of_ok fun offs hoffs => ?_) fun offs offs' _ ho => ?_
  · have hfr' := hk'.frame _ _ htok'
    refine ⟨s'.offs, ?_, ?_, rfl⟩
    · show restoreOffs s2'.offs s'.line old' = _
      rw [hfr'.offs, S.line]
      exact hrest'
    · have : restoreOffs s2.offs s.line old = .ok offs := hoffs
      rw [hfr.offs] at this
      exact Except.ok.inj (this.symm.trans hrest)
  obtain ⟨rfl, rfl⟩ := ho
  have hfr' := hk'.frame _ _ htok'
  rw [show psub s2'.line 1 = psub s2.line 1 by rw [S2.line]]
  refine .bind_same fun e _ => ?_
  refine .bind (R := fun r r' => r' = tau2 N.w N.L r) (.of_ok fun r hr => ⟨_, ?_, rfl⟩) fun r r' _ hr' => ?_
  · have hr : s.getMap s.line e = .ok r := hr
    have := S.tbl.getMap s.line e
    rw [hr] at this
    show s'.getMap s'.line e = _
    rw [S.line]
    exact this
  subst hr'
  refine .pure ⟨rfl, ?_⟩
  refine ⟨S.tbl.of_eq (by simp [hfr.src, hsb.src]) rfl (by simp [hsb.blkIndent]) (by simp [hsb.lineMax])
      (by simp [hfr'.src, hsb'.src]) rfl (by simp [hsb'.blkIndent]), ?_, ?_, ?_, ?_, ?_, ?_, ?_, ?_⟩
  · simp [S2.line]
  · simp [hsb.lineMax, hsb'.lineMax, S.lineMax]
  · simp [S2.tight]
  · have h1 : s2.listIndent = s.listIndent := by rw [hfr.listIndent]; simp [hsb.listIndent]
    have h2 : s2'.listIndent = s'.listIndent := by rw [hfr'.listIndent]; simp [hsb'.listIndent]
    simpa [h1, h2, hsb.blkIndent] using S.listIndent
  · rfl
  · simpa [hsb.nodeKind, hsb'.nodeKind] using S.nodeKind
  · simp [hsb.children, hsb'.children, S.children, relocNodes_append, relocNodes, relocNode, S2.children,
      hfr'.nodeKind, hfr.nodeKind, relocKind, tau2]
  · simp [S2.refs]
end bq

/-! ### the list rule -/

section item
variable {N : Nest} {lo d : Nat} {te : Bool}

theorem listItemBody_sim {tok tok' : Tok} (TK : TokSim N tok tok') {S2 S2' : BState} (S : Sim N lo d te S2 S2')
    {m : Nat} (hlo : lo ≤ m) {re : Bool} :
    ORel (Sim N lo d te) (listItemBody tok S2 m re) (listItemBody tok' S2' m re) := by
  unfold listItemBody
  rw [S.tbl.isEmpty]
  refine .ite (fun _ => .pure ?_) fun _ => ?_
  · exact ⟨S.tbl.of_eq rfl rfl rfl rfl rfl rfl rfl, by simp [S.line, S.lineMax], S.lineMax, S.tight, S.listIndent,
      S.level, S.nodeKind, S.children, S.refs⟩
  have Sn : Sim N lo d te { S2 with line := m, level := S2.level + 1 } { S2' with line := m, level := S2'.level + 1 } :=
    ⟨S.tbl.of_eq rfl rfl rfl rfl rfl rfl rfl, rfl, S.lineMax, S.tight, S.listIndent, by simp only [S.level]; omega,
      S.nodeKind, S.children, S.refs⟩
  refine .bind (.of_ok fun t h => TK _ _ _ _ _ t Sn hlo h) fun s2 s2' _ S2s => ?_
  rw [S2s.level]
  refine .bind (psub_rel _ _) fun lvl lvl' _ hl => .pure ?_
  subst hl
  exact ⟨S2s.tbl.of_eq rfl rfl rfl rfl rfl rfl rfl, S2s.line, S2s.lineMax, S2s.tight, S2s.listIndent, rfl,
    S2s.nodeKind, S2s.children, S2s.refs⟩

theorem prevEmptyEndOf_sim {s s' : BState} (S : Sim N lo d te s s') (m : Nat) :
    prevEmptyEndOf s' m = prevEmptyEndOf s m := by
  unfold prevEmptyEndOf
  simp only [S.line, S.tbl.isEmpty]

theorem listItem_sim {tok tok' : Tok} (hk : TokSpec tok) (hk' : TokSpec tok') (TK : TokSim N tok tok')
    {s s' : BState} (S : Sim N lo d te s s') {m pos : Nat} {pee tight : Bool}
    (hmk : ∃ cur, s.getLine m = .ok cur ∧ MarkerW cur pos) (hline : s.line = m) (hlo : lo ≤ m) (hlt : m < s.lineMax) :
    ORel (fun w w' => w'.2 = w.2 ∧ Sim N lo d te w.1 w'.1) (listItem tok s m pos pee tight)
      (listItem tok' s' m pos pee tight) := by
  unfold listItem
  rw [S.tbl.off _ hlo hlt]
  refine .bind_map fun o ho => ?_
  obtain ⟨cur, hcur, hmw⟩ := hmk
  have eo := S.tbl.entry_of_off ho
  have hcur' : Lines.slice (Lines.flat N.L) o.firstNonspace o.lineEnd = .ok cur := by
    simp only [BState.getLine, Lines.getLine, off_ok ho, S.tbl.src] at hcur
    exact liftL_eq_ok hcur
  refine .bind_both (R := fun (rw rw' : LineOffset × Nat × Bool) => rw' = (shiftE N.w (d : Int) m rw.1, rw.2.1 + d, rw.2.2) ∧
      EntryOk N.L m rw.1 ∧ rw.2.1 ≤ Lines.byteLen (Lines.flat N.L) + 1 ∧ 0 ≤ rw.1.indentNonspace) (.of_ok fun rw hrw => ?_)
    fun rw rw' hrw hrw' hR => ?_
  · obtain ⟨o₂, indent, re⟩ := rw
    rw [S.tbl.src] at hrw
    obtain ⟨hrw', h2⟩ := itemRewrite_sim S.tbl.pre S.tbl.lines eo d hcur' hmw hrw
    rw [← S.tbl.src'] at hrw'
    exact ⟨_, hrw', rfl, h2⟩
  obtain ⟨o₂, indent, re⟩ := rw
  obtain ⟨rfl, eo₂, hbound, hnn₂⟩ := hR
  dsimp only
  -- the item's state
  have S1 : Sim N lo d true (nestItem s indent) (nestItem s' (indent + d)) :=
    ⟨⟨S.tbl.pre, S.tbl.lines, S.tbl.src, S.tbl.src', S.tbl.q, S.tbl.win, rfl, hbound, S.tbl.dsize⟩,
      S.line, S.lineMax, fun _ => rfl, .inl (by simp [S.tbl.blk]), S.level, .inl rfl, rfl, S.refs⟩
  refine .bind_both (.of_ok fun S2 hS2 => S1.setOff_in hS2 eo₂ (fun _ => hnn₂)) fun S2 S2' hS2 hS2' SS2 => ?_
  refine .bind_both (listItemBody_sim TK SS2 hlo) fun S3 S3' hbody hbody' SS3 => ?_
  rw [prevEmptyEndOf_sim SS3 m]
  refine .bind_same fun pe _ => ?_
  -- `li` is the list's own block indent, on both sides
  have hcond : ∀ {T2 : BState} {x : LineOffset} {ind2 : Nat} {re2 : Bool} {src : List Char} {y : LineOffset} {base : BState},
      itemRewrite src y pos = .ok (x, ind2, re2) → base.setOff m x = .ok T2 → base.blkIndent = ind2 →
      T2.isEmpty m = true ∨ IndentOk { T2 with line := m } := by
    intro T2 x ind2 re2 src y base hrwx hsetx hbx
    have := itemRewrite_spec hrwx
    refine item_cond (x := x) (by rw [(setOff_ok hsetx).2]; simp [(setOff_ok hsetx).1]) ?_
    rw [(setOff_ok hsetx).2]
    simp only [hbx]
    exact this.2
  obtain ⟨hfr3, _, _⟩ := listItemBody_spec hk hbody (by rw [(setOff_ok hS2).2]; exact hline)
    (by rw [(setOff_ok hS2).2]; exact hlt) (hcond hrw hS2 rfl)
  obtain ⟨hfr3', _, _⟩ := listItemBody_spec hk' hbody' (by rw [(setOff_ok hS2').2]; simp only [S.line]; exact hline)
    (by rw [(setOff_ok hS2').2]; simp only [S.lineMax]; exact hlt) (hcond hrw' hS2' rfl)
  have hli : S3.listIndent = some s.blkIndent := by rw [hfr3.listIndent, (setOff_ok hS2).2]
  have hli' : S3'.listIndent = some (s.blkIndent + d) := by
    rw [hfr3'.listIndent, (setOff_ok hS2').2]
    simp [S.tbl.blk]
  rw [hli, hli']
  dsimp only
  have S4 : Sim N lo d true (afterItem S3 s.blkIndent s.listIndent) (afterItem S3' (s.blkIndent + d) s'.listIndent) :=
    ⟨⟨SS3.tbl.pre, SS3.tbl.lines, SS3.tbl.src, SS3.tbl.src', SS3.tbl.q, SS3.tbl.win, rfl, S.tbl.small,
        SS3.tbl.dsize⟩, SS3.line,
      SS3.lineMax, SS3.tight, S.listIndent, SS3.level, SS3.nodeKind, SS3.children, SS3.refs⟩
  refine .bind (.of_ok fun S5 hS5 => S4.setOff_in hS5 eo (fun hd => S.tbl.nonneg hd hlo hlt (off_ok ho))) fun S5 S5' hS5 SS5 => ?_
  rw [show psub S5'.line 1 = psub S5.line 1 by rw [SS5.line]]
  refine .bind_same fun e _ => ?_
  refine .bind (R := fun r r' => r' = tau2 N.w N.L r) (.of_ok fun r hr => ⟨_, ?_, rfl⟩) fun r r' _ hr' => ?_
  · have hr : S5.getMap m e = .ok r := hr
    have := SS5.tbl.getMap m e
    rw [hr] at this
    exact this
  subst hr'
  -- the kind of the node pushed
  have hkind : S5.nodeKind = .listItem := by
    rw [(setOff_ok hS5).2]
    simp only
    rw [hfr3.nodeKind, (setOff_ok hS2).2]
  refine .pure ⟨by rw [SS3.tight rfl], ?_⟩
  refine ⟨SS5.tbl.of_eq rfl rfl rfl rfl rfl rfl rfl, SS5.line, SS5.lineMax, by simp [S.tight], SS5.listIndent, SS5.level,
    by simpa using S.nodeKind, ?_, SS5.refs⟩
  have hkind' : S5'.nodeKind = .listItem := by
    rw [SS5.nodeKind.eq_of_ne_root (by rw [hkind]; simp), hkind]
  simp [S.children, relocNodes_append, relocNodes, relocNode, hkind', SS5.children, hkind, relocKind, tau2]

theorem listContinue_sim {test test' : Test} (TS : TestSim N test test') {ordered : Bool} {mc : Char}
    {s s' : BState} (S : Sim N lo d te s s') (hlo : lo ≤ s.line) :
    ORel (fun r r' => r.2 = s ∧ r' = (r.1, s') ∧ ∀ p, r.1 = some p → ∃ cur, s.getLine s.line = .ok cur ∧ MarkerW cur p)
      (listContinue test ordered mc s s.line) (listContinue test' ordered mc s' s.line) := by
  have hnone : ∀ p, (none : Option Nat) = some p → ∃ cur, s.getLine s.line = .ok cur ∧ MarkerW cur p :=
    fun _ hp => nomatch hp
  unfold listContinue
  refine .ite_iff (by rw [S.lineMax]) (fun _ => .pure ⟨rfl, rfl, hnone⟩) fun hge => ?_
  have hlt : s.line < s.lineMax := Nat.not_le.mp hge
  rw [S.tbl.lineIndent _ hlo hlt]
  refine .bind_same fun ind hind => .ite (fun _ => .pure ⟨rfl, rfl, hnone⟩) fun _ =>
    .ite (fun _ => .pure ⟨rfl, rfl, hnone⟩) fun _ => ?_
  refine .bind (TS.rel S hlo hlt (lineIndent_lt hind)) fun w w' _ hw => ?_
  obtain ⟨b, s1⟩ := w
  obtain ⟨(h1 : s1 = s), rfl⟩ := hw
  subst s1
  dsimp only
  refine .ite (fun _ => .pure ⟨rfl, rfl, hnone⟩) fun _ => ?_
  have hgl : ∀ l, l = s.line → ({ s' with line := l } : BState).getLine l = ({ s with line := s.line } : BState).getLine s.line :=
    fun l hl => hl ▸ (S.setLine s.line).tbl.getLine s.line
  rw [hgl s'.line S.line]
  refine .bind_same fun cur hcur => ?_
  cases hskip : (if ordered = true then skipOrdered cur else skipBullet cur) with
  | none => exact .pure ⟨rfl, rfl, hnone⟩
  | some p =>
    refine .bind_same fun mc' _ => .ite (fun _ => .pure ⟨rfl, rfl, hnone⟩) fun _ =>
      .pure ⟨rfl, rfl, fun p' hp => ⟨cur, hcur, ?_⟩⟩
    cases hp
    cases ordered
    · exact skipBullet_marker hskip
    · exact skipOrdered_marker hskip

theorem listLoop_sim {tok tok' : Tok} {test test' : Test} (hk : TokSpec tok) (hk' : TokSpec tok')
    (TK : TokSim N tok tok') (TS : TestSim N test test') {ordered : Bool} {mc : Char} :
    ∀ (fuel : Nat) (s s' : BState) (m pos : Nat) (pee tight : Bool),
      Sim N lo d te s s' → s.line = m → lo ≤ m → m < s.lineMax → (∃ cur, s.getLine m = .ok cur ∧ MarkerW cur pos) →
      ORel (fun r r' => r'.1 = r.1 ∧ r'.2.1 = r.2.1 ∧ Sim N lo d te r.2.2 r'.2.2)
        (listLoop tok test ordered mc fuel s m pos pee tight) (listLoop tok' test' ordered mc fuel s' m pos pee tight) := by
  intro fuel
  induction fuel with
  | zero => exact fun s s' m pos pee tight _ _ _ _ _ => .error
  | succ f ih =>
    intro s s' m pos pee tight S hline hlo hlt hmk
    simp only [listLoop]
    rw [S.lineMax, if_neg fun h => h hlt, if_neg fun h => h hlt]
    refine .bind (listItem_sim hk hk' TK S hmk hline hlo hlt) fun w w' hitem hw => ?_
    obtain ⟨S1, t1, p1⟩ := w
    obtain ⟨S1', t1', p1'⟩ := w'
    obtain ⟨hw, SS1⟩ := hw
    cases hw
    obtain ⟨_, h1, _⟩ := listItem_spec hk hitem hline hlt
    dsimp only at h1 SS1 ⊢
    rw [SS1.line]
    refine .bind (listContinue_sim TS SS1 (by omega)) fun wc wc' hc hwc => ?_
    obtain ⟨c, S2⟩ := wc
    obtain ⟨(h2 : S2 = S1), rfl, hmk2⟩ := hwc
    subst S2
    rcases c with _ | p
    · exact .ok ⟨rfl, rfl, SS1⟩
    · exact ih _ _ _ _ _ _ SS1 rfl (by omega) ((listContinue_spec TS.pure hc).2 (by simp)) (hmk2 p rfl)

theorem Sim.nestList {s s' : BState} (S : Sim N lo d te s s') (k : Kind) : Sim N lo d te (nestList s k) (nestList s' k) :=
  ⟨S.tbl.of_eq rfl rfl rfl rfl rfl rfl rfl, S.line, S.lineMax, S.tight, S.listIndent, by simp only [nestList, S.level]; omega, .inl rfl,
    rfl, S.refs⟩

theorem list_sim {tok tok' : Tok} {test test' : Test} (hk : TokSpec tok) (hk' : TokSpec tok')
    (TK : TokSim N tok tok') (TS : TestSim N test test') {fuel : Nat} {s s' : BState} (S : Sim N lo d te s s')
    (hlo : lo ≤ s.line) (hl : s.line < s.lineMax) :
    ORel (RRel N lo d te) (listRule tok test fuel s false) (listRule tok' test' fuel s' false) := by
  unfold listRule
  rw [if_neg fun h => Bool.false_ne_true h.1, if_neg fun h => Bool.false_ne_true h.1,
    show s'.lineIndent s'.line = s.lineIndent s.line by rw [S.line, S.tbl.lineIndent _ hlo hl],
    show s'.getLine s'.line = s.getLine s.line by rw [S.line, S.tbl.getLine]]
  refine .bind_same fun ind hind => S.guard fun _ => ?_
  rw [(S.sameLook hlo hl (lineIndent_lt hind)).special]
  refine .bind_same fun special _ => S.guard fun _ => ?_
  refine .bind_same fun cur hcur => .bind_same fun detected hdet => ?_
  rcases detected with _ | ⟨pos, mv⟩
  · exact S.declined
  refine S.guard fun _ => .bind_same fun emptyItem _ => S.guard fun _ => ?_
  rw [if_neg Bool.false_ne_true, if_neg Bool.false_ne_true]
  refine .bind_same fun mc _ => ?_
  -- the items
  refine .bind (R := fun (r r' : Nat × Bool × BState) => r'.1 = r.1 ∧ r'.2.1 = r.2.1 ∧ Sim N lo d te r.2.2 r'.2.2) ?_
    fun r r' hloop hr => ?_
  · show ORel _ (listLoop tok test _ _ fuel (nestList s _) s.line pos false true)
      (listLoop tok' test' _ _ fuel (nestList s' _) s'.line pos false true)
    rw [S.line]
    exact listLoop_sim hk hk' TK TS _ _ _ _ _ _ _ (S.nestList _) rfl hlo hl ⟨_, hcur, detectMarker_marker hdet⟩
  obtain ⟨n, tg, S1⟩ := r
  obtain ⟨n', tg', S1'⟩ := r'
  obtain ⟨(h1 : n' = n), (h2 : tg' = tg), SS1⟩ := hr
  subst n' tg'
  obtain ⟨hfr, _⟩ := listLoop_spec hk TS.pure _ _ _ _ _ _ _ _ _ hloop rfl hl
  dsimp only at SS1 ⊢
  rw [SS1.children, show (if tg = true then tightenItems (relocNodes (tau N.w N.L) S1.children)
        else pure (relocNodes (tau N.w N.L) S1.children))
      = Except.map (relocNodes (tau N.w N.L)) (if tg = true then tightenItems S1.children else pure S1.children) by
    cases tg
    · rfl
    · exact tightenItems_reloc _ _]
  refine .bind_map fun cs _ => ?_
  rw [SS1.level]
  refine .bind (psub_rel _ _) fun lvl _ _ hlvl => .bind_same fun e _ => ?_
  subst hlvl
  rw [S.line, SS1.tbl.getMap]
  refine .bind_map fun r _ => .pure ⟨rfl, ?_⟩
  refine ⟨SS1.tbl.of_eq rfl rfl rfl rfl rfl rfl rfl, SS1.line, SS1.lineMax, SS1.tight, SS1.listIndent,
    rfl, S.nodeKind, ?_, SS1.refs⟩
  have hk1 : S1.nodeKind ≠ .root := by rw [hfr.nodeKind]; cases mv <;> simp
  simp [S.children, relocNodes_append, relocNodes, relocNode, SS1.nodeKind.eq_of_ne_root hk1, hfr.nodeKind,
    relocKind, tau2]
  split <;> rfl
end item

/-! ### the tokenizers correspond -/

section tok
variable {N : Nest}

/-- a chain rule on `D` and on the prefixed document -/
def RunSim (N : Nest) (run run' : RuleId → BState → Bool → Res) : Prop :=
  ∀ r lo d te s s', Sim N lo d te s s' → lo ≤ s.line → s.line < s.lineMax → IndentOk s →
    ORel (RRel N lo d te) (run r s false) (run' r s' false)

theorem runChain_sim {run run' : RuleId → BState → Bool → Res} (hr : RunSpec run) (R : RunSim N run run') {lo d : Nat} {te : Bool}
    (chain : List RuleId) (s s' : BState) (S : Sim N lo d te s s') (hlo : lo ≤ s.line) (hl : s.line < s.lineMax)
    (hi : IndentOk s) : ORel (RRel N lo d te) (runChain run chain s false) (runChain run' chain s' false) :=
  (runChain_rel2 (S := Sim N lo d te) (P := fun a => lo ≤ a.line ∧ a.line < a.lineMax ∧ IndentOk a)
    (fun r a b S h => (R r _ _ _ a b S h.1 h.2.1 h.2.2).mono fun _ _ hr => ⟨hr.1.symm, hr.2⟩)
    (fun r a a' h h1 => by rw [hr.false_same _ _ _ h1]; exact h) chain S ⟨hlo, hl, hi⟩).mono
      fun _ _ hr => ⟨hr.1.symm, hr.2⟩

theorem afterChain_sim {lo d : Nat} {te : Bool} {ok : Bool} {s s' : BState} {prev : Nat} (S : Sim N lo d te s s')
    (hw : ok = false → lo ≤ s.line ∧ s.line < s.lineMax) :
    ORel (Sim N lo d te) (afterChain ok s prev) (afterChain ok s' prev) :=
  (Rd.afterChain_reads (kpush N) S.reads hw prev).mono fun _ _ => S.step

theorem Sim.downgrade {lo d : Nat} {s s' : BState} (S : Sim N lo d true s s') (te : Bool) : Sim N lo d te s s' :=
  ⟨S.tbl, S.line, S.lineMax, fun _ => S.tight rfl, S.listIndent, S.level, S.nodeKind, S.children, S.refs⟩

/-- the tokenizer loop from any related pair of states: related final states, and either the `tight` flags
    agree at the end (the loop ran the chain at least once and overwrote them) or the run on `D` parsed no
    block.  After the first block both flags are `!has_empty`, so the induction continues with `te := true`. -/
theorem tokLoop_sim {cfg cfg' : Cfg} (hc : cfg'.chain = cfg.chain) (hm : cfg'.maxNesting = cfg.maxNesting + N.lv)
    {run run' : RuleId → BState → Bool → Res} (hr : RunSpec run) (R : RunSim N run run') {lo d : Nat} :
    ∀ (fuel : Nat) (he te : Bool) (s s' : BState), Sim N lo d te s s' → lo ≤ s.line →
      ORel (fun t t' => Sim N lo d te t t' ∧ (t'.tight = t.tight ∨ t.children = s.children))
        (tokLoop cfg run fuel he s) (tokLoop cfg' run' fuel he s') := by
  intro fuel
  induction fuel with
  | zero => exact fun he te s s' _ _ => .error
  | succ f ih =>
    intro he te s s' S hlo
    simp only [tokLoop]
    rw [show Lines.skipEmptyLines s'.offs s'.lineMax s'.line = Lines.skipEmptyLines s.offs s.lineMax s.line by
      rw [S.lineMax, S.line]; exact skipEmpty_congr (fun n => S.tbl.isEmpty n) _ _]
    have hl'lo : s.line ≤ Lines.skipEmptyLines s.offs s.lineMax s.line := (skipEmpty_spec _ _ _).1
    generalize Lines.skipEmptyLines s.offs s.lineMax s.line = l' at hl'lo ⊢
    have Sl := S.setLine l'
    have hlo' : lo ≤ l' := Nat.le_trans hlo hl'lo
    refine .ite_iff (by rw [S.line, S.lineMax]) (fun _ => .ok ⟨S, .inr rfl⟩) fun _ => ?_
    refine .ite_iff (by rw [S.lineMax]) (fun _ => .ok ⟨Sl, .inr rfl⟩) fun hge => ?_
    have hlt' : l' < s.lineMax := Nat.not_le.mp hge
    rw [Sl.tbl.lineIndent l' hlo' hlt']
    refine .bind_same fun ind hind => .ite (fun _ => .ok ⟨Sl, .inr rfl⟩) fun hneg => ?_
    refine .ite_iff (by rw [S.level, hm]; exact Nat.add_le_add_iff_right) (fun _ => .ok ⟨?_, .inr rfl⟩) fun _ => ?_
    · exact ⟨S.tbl.of_eq rfl rfl rfl rfl rfl rfl rfl, S.lineMax, S.lineMax, S.tight, S.listIndent, S.level, S.nodeKind,
        S.children, S.refs⟩
    have hiok : IndentOk ({ s with line := l' } : BState) := ⟨_, hind, Int.not_lt.mp hneg⟩
    rw [hc]
    refine .bind (runChain_sim hr R _ _ _ Sl hlo' hlt' hiok) fun w w' hchain hw => ?_
    obtain ⟨b, s2⟩ := w
    obtain ⟨b', s2'⟩ := w'
    obtain ⟨hb, Sw⟩ := hw
    cases hb
    obtain ⟨hfs, _⟩ := runChain_real hr _ _ _ _ hchain
    refine .bind (afterChain_sim Sw fun hb => ?_) fun s3 s3' hafter S3 => ?_
    · cases hfs hb
      exact ⟨hlo', hlt'⟩
    obtain ⟨_, hadv, _⟩ := tok_iter hr (s1 := { s with line := l' }) (w := (b, s2)) rfl hlt' hiok hchain hafter
    have hlo3 : lo ≤ s3.line := Nat.le_of_lt (Nat.lt_of_le_of_lt hlo' hadv)
    have T3 : Tbl N lo d { s3 with tight := !he } { s3' with tight := !he } := S3.tbl.of_eq rfl rfl rfl rfl rfl rfl rfl
    rw [show psub s3'.line 1 = psub s3.line 1 by rw [S3.line]]
    refine .bind_same fun l1 _ => .ite_iff (by rw [T3.isEmpty, S3.line, S3.lineMax]) (fun _ => ?_) fun _ => ?_
    · exact (ih true true _ _ (S3.setLineTight (congrArg (· + 1) S3.line) (!he)) (Nat.le_succ_of_le hlo3)).mono
        fun t t' St => ⟨St.1.downgrade te, .inl (St.1.tight rfl)⟩
    · rw [T3.isEmpty]
      exact (ih _ true _ _ (S3.setLineTight S3.line (!he)) hlo3).mono
        fun t t' St => ⟨St.1.downgrade te, .inl (St.1.tight rfl)⟩

/-- the two configurations: the same chain and tables, `N.lv` more levels of nesting allowed -/
structure CfgRel (N : Nest) (cfg cfg' : Cfg) : Prop where
  chain : cfg'.chain = cfg.chain
  nesting : cfg'.maxNesting = cfg.maxNesting + N.lv
  lookup : cfg'.lookup = cfg.lookup
  lower : cfg'.L = cfg.L
  upper : cfg'.U = cfg.U

theorem testRules_sim {cfg cfg' : Cfg} (R : CfgRel N cfg cfg') (fuel : Nat) :
    TestSim N (testRules cfg fuel) (testRules cfg' fuel) :=
  ⟨testRules_pure cfg fuel, testRules_pure cfg' fuel,
   fun _ _ _ _ _ S hlo hlt hex => testRules_same_view cfg cfg' R.chain fuel (S.sameLook hlo hlt hex)⟩

theorem runRule_sim {cfg cfg' : Cfg} (R : CfgRel N cfg cfg') {tok tok' : Tok} {test test' : Test}
    (hk : TokSpec tok) (hk' : TokSpec tok') (TK : TokSim N tok tok') (TS : TestSim N test test') (fuel : Nat) :
    RunSim N (runRule cfg tok test fuel) (runRule cfg' tok' test' fuel) := by
  intro r lo d te s s' S hlo hl hi
  cases r
  · exact code_sim S hlo hl
  · exact fence_sim S hlo hl hi
  · exact blockquote_sim hk hk' TK TS S hlo hl
  · exact hrRule_sim S hlo hl
  · exact list_sim hk hk' TK TS S hlo hl
  · exact reference_sim ⟨R.lookup, R.lower, R.upper⟩ TS S hlo hl
  · exact heading_sim S hlo hl
  · exact lheading_sim TS S hlo hl
  · exact paragraph_sim TS S hlo hl

/-- **the tokenizer nested in the container on the prefixed document simulates the tokenizer on `D`**,
    for every fuel and from any related pair of states -/
theorem tokenize_sim_any {cfg cfg' : Cfg} (R : CfgRel N cfg cfg') :
    ∀ (fuel lo d : Nat) (te : Bool) (s s' t : BState), Sim N lo d te s s' → lo ≤ s.line →
      tokenize cfg fuel s = .ok t →
      ∃ t', tokenize cfg' fuel s' = .ok t' ∧ Sim N lo d te t t' ∧ (t'.tight = t.tight ∨ t.children = s.children) := by
  intro fuel
  induction fuel with
  | zero => intro lo d te s s' t _ _ h; simp [tokenize, engine] at h
  | succ f ih =>
    intro lo d te s s' t S hlo h
    simp only [tokenize, engine] at h ⊢
    have hk := tokenize_tokSpec cfg f
    have hk' := tokenize_tokSpec cfg' f
    have TS := testRules_sim (N := N) R f
    have TK : TokSim N (tokenize cfg f) (tokenize cfg' f) := fun lo d te s s' t S hlo h =>
      let ⟨t', h', St, _⟩ := ih lo d te s s' t S hlo h
      ⟨t', h', St⟩
    exact (tokLoop_sim R.chain R.nesting (runRule_spec hk TS.pure _) (runRule_sim R hk hk' TK TS _) _ _ _ _ _ S hlo).run h

theorem tokenize_sim {cfg cfg' : Cfg} (R : CfgRel N cfg cfg') (fuel : Nat) :
    TokSim N (tokenize cfg fuel) (tokenize cfg' fuel) := fun lo d te s s' t S hlo h =>
  let ⟨t', h', St, _⟩ := tokenize_sim_any R fuel lo d te s s' t S hlo h
  ⟨t', h', St⟩
end tok
end Nest


end Li

end MdIt.Block
