/-
  Two runs of the block parser, result by result.

  `XRel E R x y`: the two computations run in lock step UP TO THE ESCAPE SET `E`: the left one failed with a panic
  of `E` (then nothing is claimed), or both returned, with `R`-related values, or both failed with the same panic.
  Instances:

      LE.FRel R            ↔  XRel (· = .fuel) R          side 2 may have more fuel (C10; `frel_iff`, `Lemmas/BlockReads.lean`)
      Li.Nest.ORel R       =  XRel (fun _ => True) R       nothing is claimed of a run on `D` that fails (C06)
      y = Except.map g x   →  XRel E (fun a b => b = g a)  for every `E` (`XRel.of_map`)

  (`OkLe x y` of `Props/Block.lean` §12, "more fuel never changes a result", says what `XRel (fun _ => True) Eq x y`
  says; it is used there as an implication.)

  Which is used where: the walks shared by C10 and C06 (`Lemmas/BlockReads.lean`) and all of C06 are written with
  `XRel.*`; the walks of C10 alone (`code_sim`, block quote, list, tokenizer loop in `Lemmas/C10Sim*.lean`, and the
  instance files behind them) with `LE.FRel` and its own rules `frel_*` (`Lemmas/C10DocCore.lean`); `frel_iff` is the
  one bridge.

  A `do` block is walked on the goal, both sides at once: `bind` / `bind_both` (related reads), `bind_map` (side 2
  reads the image of what side 1 reads), `bind_same` (the same pure step), `ite` / `ite_iff` (both sides branch
  alike).  The last section is about the chain of rules: `runChain_eq_G` (`runChain` is `BlockH.runChainG` at the nine
  rule ids; `Props/Block.lean` §2 states its chain lemmas for `runChainG` and uses it) and `runChainG_rel2` /
  `runChain_rel2` (two runs, for any relation on states that the rules keep).
-/
import MdIt.Model.BlockH

namespace MdIt.Block

def XRel {α β : Type} (E : Panic → Prop) (R : α → β → Prop) (x : Except Panic α) (y : Except Panic β) : Prop :=
  (∃ e, x = .error e ∧ E e) ∨ (∃ a b, x = .ok a ∧ y = .ok b ∧ R a b) ∨ (∃ e, x = .error e ∧ y = .error e)

namespace XRel
variable {α α' β γ δ : Type} {E : Panic → Prop} {R : α → β → Prop} {S : γ → δ → Prop}

theorem ok {a : α} {b : β} (h : R a b) : XRel E R (.ok a) (.ok b) := .inr (.inl ⟨a, b, rfl, rfl, h⟩)

theorem pure {a : α} {b : β} (h : R a b) : XRel E R (pure a) (pure b) := ok h

theorem err (e : Panic) : XRel E R (.error e : Except Panic α) (.error e : Except Panic β) :=
  .inr (.inr ⟨e, rfl, rfl⟩)

theorem esc {e : Panic} (he : E e) (y : Except Panic β) : XRel E R (.error e : Except Panic α) y :=
  .inl ⟨e, rfl, he⟩

theorem error {e : Panic} {y : Except Panic β} : XRel (fun _ => True) R (.error e : Except Panic α) y := esc trivial y

/-- `bind`, handing on where the two values came from -/
theorem bind_both {x : Except Panic α} {y : Except Panic β} {f : α → Except Panic γ} {g : β → Except Panic δ}
    (h : XRel E R x y) (hfg : ∀ a b, x = .ok a → y = .ok b → R a b → XRel E S (f a) (g b)) :
    XRel E S (x >>= f) (y >>= g) := by
  rcases h with ⟨e, rfl, he⟩ | ⟨a, b, rfl, rfl, hab⟩ | ⟨e, rfl, rfl⟩
  · exact .inl ⟨e, rfl, he⟩
  · exact hfg a b rfl rfl hab
  · exact .inr (.inr ⟨e, rfl, rfl⟩)

theorem bind {x : Except Panic α} {y : Except Panic β} {f : α → Except Panic γ} {g : β → Except Panic δ}
    (h : XRel E R x y) (hfg : ∀ a b, x = .ok a → R a b → XRel E S (f a) (g b)) : XRel E S (x >>= f) (y >>= g) :=
  h.bind_both fun a b hx _ hab => hfg a b hx hab

theorem bind_same {x : Except Panic α} {f : α → Except Panic γ} {g : α → Except Panic δ}
    (hfg : ∀ a, x = .ok a → XRel E S (f a) (g a)) : XRel E S (x >>= f) (x >>= g) := by
  cases x with
  | error e => exact err e
  | ok a => exact hfg a rfl

theorem bind_map {x : Except Panic α} {m : α → α'} {f : α → Except Panic γ} {g : α' → Except Panic δ}
    (hfg : ∀ a, x = .ok a → XRel E S (f a) (g (m a))) : XRel E S (x >>= f) (Except.map m x >>= g) := by
  cases x with
  | error e => exact err e
  | ok a => exact hfg a rfl

theorem ite_iff {c c' : Prop} [Decidable c] [Decidable c'] {x y : Except Panic α} {x' y' : Except Panic β}
    (hc : c' ↔ c) (ht : c → XRel E R x x') (he : ¬ c → XRel E R y y') :
    XRel E R (if c then x else y) (if c' then x' else y') := by
  by_cases h : c
  · rw [if_pos h, if_pos (hc.mpr h)]; exact ht h
  · rw [if_neg h, if_neg (mt hc.mp h)]; exact he h

theorem ite {c : Prop} [Decidable c] {x y : Except Panic α} {x' y' : Except Panic β}
    (ht : c → XRel E R x x') (he : ¬ c → XRel E R y y') :
    XRel E R (if c then x else y) (if c then x' else y') := ite_iff .rfl ht he

theorem mono {R' : α → β → Prop} {x : Except Panic α} {y : Except Panic β} (h : XRel E R x y)
    (hr : ∀ a b, R a b → R' a b) : XRel E R' x y := by
  rcases h with h | ⟨a, b, h1, h2, hab⟩ | h
  · exact .inl h
  · exact .inr (.inl ⟨a, b, h1, h2, hr a b hab⟩)
  · exact .inr (.inr h)

theorem of_map {g : α → β} {x : Except Panic α} {y : Except Panic β} (h : y = Except.map g x) :
    XRel E (fun a b => b = g a) x y := by
  subst h
  cases x with
  | error e => exact err e
  | ok a => exact ok rfl

theorem run {x : Except Panic α} {y : Except Panic β} (h : XRel E R x y) {a : α} (hx : x = .ok a) :
    ∃ b, y = .ok b ∧ R a b := by
  subst hx
  rcases h with ⟨e, h, _⟩ | ⟨a', b, h1, h2, hab⟩ | ⟨e, h, _⟩
  · cases h
  · cases h1; exact ⟨b, h2, hab⟩
  · cases h

theorem of_ok {x : Except Panic α} {y : Except Panic β} (h : ∀ a, x = .ok a → ∃ b, y = .ok b ∧ R a b) :
    XRel (fun _ => True) R x y := by
  cases x with
  | error e => exact error
  | ok a =>
    obtain ⟨b, rfl, hab⟩ := h a rfl
    exact ok hab

end XRel

/-! ## the chain of rules -/

/-- **the chain in two runs.**  `S` relates the states of the two runs, `P` is what is known of side 1 besides;
    the rules keep `S` and answer alike, and `P` still holds behind a rule of side 1 that answers `false`. -/
theorem runChainG_rel2 {ι : Type} {E : Panic → Prop} {S : BState → BState → Prop} {P : BState → Prop}
    {run₁ run₂ : ι → BState → Bool → Res} {b : Bool}
    (hrun : ∀ r s₁ s₂, S s₁ s₂ → P s₁ → XRel E (fun x y => x.1 = y.1 ∧ S x.2 y.2) (run₁ r s₁ b) (run₂ r s₂ b))
    (hP : ∀ r s s', P s → run₁ r s b = .ok (false, s') → P s') :
    ∀ (chain : List ι) (s₁ s₂ : BState), S s₁ s₂ → P s₁ →
      XRel E (fun x y => x.1 = y.1 ∧ S x.2 y.2) (BlockH.runChainG run₁ chain s₁ b) (BlockH.runChainG run₂ chain s₂ b) := by
  intro chain
  induction chain with
  | nil => exact fun s₁ s₂ hS _ => .ok ⟨rfl, hS⟩
  | cons r rs ih =>
    intro s₁ s₂ hS hp
    simp only [BlockH.runChainG]
    rcases hrun r s₁ s₂ hS hp with ⟨e, h, he⟩ | ⟨⟨v₁, t₁⟩, ⟨v₂, t₂⟩, h1, h2, hv, ht⟩ | ⟨e, h1, h2⟩
    · rw [h]; exact .esc he _
    · rw [h1, h2]
      cases (hv : v₁ = v₂)
      cases v₁ with
      | true => exact .ok ⟨rfl, ht⟩
      | false => exact ih _ _ ht (hP r s₁ t₁ hp h1)
    · rw [h1, h2]; exact .err e

theorem runChain_eq_G (run : RuleId → BState → Bool → Res) (chain : List RuleId) (s : BState) (b : Bool) :
    runChain run chain s b = BlockH.runChainG run chain s b := by
  induction chain generalizing s with
  | nil => rfl
  | cons r rs ih =>
    simp only [runChain, BlockH.runChainG]
    cases run r s b with
    | error e => rfl
    | ok v =>
      obtain ⟨v, t⟩ := v
      cases v
      · exact ih t
      · rfl

theorem runChain_rel2 {E : Panic → Prop} {S : BState → BState → Prop} {P : BState → Prop}
    {run₁ run₂ : RuleId → BState → Bool → Res} {b : Bool}
    (hrun : ∀ r s₁ s₂, S s₁ s₂ → P s₁ → XRel E (fun x y => x.1 = y.1 ∧ S x.2 y.2) (run₁ r s₁ b) (run₂ r s₂ b))
    (hP : ∀ r s s', P s → run₁ r s b = .ok (false, s') → P s') (chain : List RuleId) {s₁ s₂ : BState}
    (hS : S s₁ s₂) (hp : P s₁) :
    XRel E (fun x y => x.1 = y.1 ∧ S x.2 y.2) (runChain run₁ chain s₁ b) (runChain run₂ chain s₂ b) := by
  rw [runChain_eq_G, runChain_eq_G]
  exact runChainG_rel2 hrun hP chain s₁ s₂ hS hp

end MdIt.Block
