/-
  For `Props/MemoSafe.lean`, namespace `MdIt.Inline.ES` (the definitions of `Lemmas/MemoSafeLamESDef.lean`:
  `BackOK cfg B` with the premise `EPc` — the state is not at an escaped character —, witnesses `Just` with
  `IFP cfg` and `EPc` of their state): THE TOP FRAME and the assembly.

  `ES.TopInv` meets the closure properties of `Lemmas/MemoSafeLamTopKit.lean` (`topKit`), with
    * `W`: a state from which `skip_token` is called satisfies `IFP` and is not at an escaped character —
      re-established along a label walk by `ifp_of_entry` (from `EndHyp`) and `ep_of_entry` (from
      `EndEP`); walks start behind a `[` (`not_interior_after_bracket`, `esc_after_bracket`);
    * `E := EPc cfg src`: the look-ahead chain inside `skip_token` and the real chain run at non-escaped
      characters (the rules that decline keep the position) — it is the premise of `BackOK`;
    * `L`: the real loop stays below the nesting limit, so that `StepEP` applies (the top frame runs at
      level 0, so the parser theorems ask for `0 < cfg.maxNesting`);
    * a new unit entry that ends strictly inside a backtick run is marked (`MarksHyp`).

  The assembly:
    * `entryP_NF`          — a nested frame entered from the top frame satisfies `ES.NF`;
    * `nestHyps_all`       — the hypotheses of the nested induction for `B := BE cfg`, NO hypothesis on the
                             text;
    * `parseInlineG_eq_zero` — `max_nesting = 0` (which `ES.top_total` leaves out: `StepEP` speaks of steps
                             below the limit): no rule runs, `Inline.over_limit`;
    * `epc_init`           — the start position of the top frame (behind the leading blanks) is not escaped;
    * `parseInlineG_eq_all` — the guard of the guarded parser never trips (guarded run = model run);
    * `parseInline_total`  — **`md.inline.parse` is total for EVERY `ChainCoherent` chain (link / image rule at
                             most once) on EVERY content**;
    * `parseInline_total_link`, `…_nocode`, `…_nodouble`, `CS.parseInline_total_noesc` — the statements with
                             a hypothesis on the chain or on the text, which is not used.
-/
import MdIt.Lemmas.MemoSafeLamESNest
import MdIt.Lemmas.MemoSafeLamESEnd
import MdIt.Lemmas.MemoSafeLamCSFinal

namespace MdIt.Inline.ES
open MdIt.Inline
open MdIt.Inline.CS (Interior InsideSub InsideSub.refl MarksHyp insideSub_ruleBackticks
  not_interior_after_bracket)
open MdIt.InlineOps (Srcmap getSourcePosFor getMap byteLen slice)

variable {cfg : Cfg} {B : List Char → CodePair.Cache → Prop} {src : List Char} {Mtop : Nat}

/-! ## `TopInv` reads `src`, `posMax`, `backticks`, `cache` only -/

theorem TopInv.transfer {s s' : IState} (h : TopInv cfg B src Mtop s) (hsrc : s'.src = s.src)
    (hmax : s'.posMax = s.posMax) (hc : s'.cache = s.cache)
    (hsub : InsideSub s.backticks s'.backticks) (hb : B s'.src s'.backticks) :
    TopInv cfg B src Mtop s' :=
  ⟨hsrc.trans h.hsrc, hmax.trans h.hmax, hb, by rw [hc]; exact h.le, by rw [hc]; exact h.just,
    h.nocut, fun hbt => (h.hmk hbt).of_sub hsrc hc hsub⟩

theorem TopInv.of_eq {s s' : IState} (h : TopInv cfg B src Mtop s) (hsrc : s'.src = s.src)
    (hmax : s'.posMax = s.posMax) (hc : s'.cache = s.cache) (hb : s'.backticks = s.backticks) :
    TopInv cfg B src Mtop s' :=
  h.transfer hsrc hmax hc (by rw [hb]; exact InsideSub.refl _) (by rw [hsrc, hb]; exact h.back)

/-- the `NoCut` premise of `BackOK` at a state of the top frame -/
theorem TopInv.nocut_st {s : IState} (h : TopInv cfg B src Mtop s) :
    CodePair.NoCut '`' s.src s.posMax := by
  rw [h.hsrc, h.hmax]; exact h.nocut

/-- one more memo entry behind a failed `lookup`: ends inside the frame, is an over-limit entry or has
    its witness, and — if it is a unit entry ending strictly inside a backtick run — its end is marked -/
theorem TopInv.insert {s s' : IState} {k v : Nat} (h : TopInv cfg B src Mtop s)
    (hmiss : s.cache.lookup k = none) (hsrc : s'.src = s.src) (hmax : s'.posMax = s.posMax)
    (hb : s'.backticks = s.backticks) (hc : s'.cache = cacheInsert s.cache k v) (hv : v ≤ Mtop)
    (hj : v = Mtop ∨ Just cfg B src Mtop (cacheInsert s.cache k v) k v)
    (hnew : RuleId.backticks ∈ cfg.chain → v = k + 1 → Interior src (k + 1) →
      s'.backticks.insideFailed.contains (k + 1) = true) :
    TopInv cfg B src Mtop s' := by
  obtain ⟨l, j⟩ := insert_le_just (J := Just cfg B src Mtop) Just.mono h.le h.just hmiss hv hj
  exact ⟨hsrc.trans h.hsrc, hmax.trans h.hmax, by rw [hsrc, hb]; exact h.back, by rw [hc]; exact l,
    by rw [hc]; exact j, h.nocut, fun hbt => (h.hmk hbt).insert hsrc hb hc fun hv hi =>
      hnew hbt hv (by rw [← h.hsrc]; exact hi)⟩

/-- `skip` keeps `TopInv`, from states that satisfy `IFP` and are not at an escaped character -/
def SkipTopHyp (cfg : Cfg) (B : List Char → CodePair.Cache → Prop) (src : List Char) (Mtop : Nat)
    (skip : IState → Except Panic IState) : Prop :=
  ∀ s, LInv s → s.pos < s.posMax → TopInv cfg B src Mtop s →
    (RuleId.backticks ∈ cfg.chain → IFP cfg s) → EPc cfg src s.pos →
    ∀ s', skip s = .ok s' → TopInv cfg B src Mtop s'

/-- at `P`-states the guarded nested run is the model's, leaves memo and text alone, only grows
    `inside_failed`, and keeps the code-span cache invariant -/
def TokEqAt (B : List Char → CodePair.Cache → Prop) (P : IState → Prop)
    (tokG tokM : IState → Except Panic IState) : Prop :=
  ∀ s, P s → tokG s = tokM s ∧
    ∀ s', tokG s = .ok s' → s'.cache = s.cache ∧ s'.src = s.src ∧
      InsideSub s.backticks s'.backticks ∧ (B s.src s.backticks → B s'.src s'.backticks)

/-- a label found by `parse_link` at a `[` from a state of the top frame starts a frame at a `P`-state -/
def EntryP (cfg : Cfg) (B : List Char → CodePair.Cache → Prop) (src : List Char) (Mtop : Nat)
    (skipG : IState → Except Panic IState) (P : IState → Prop) : Prop :=
  ∀ (lo : Nat) (st : IState) (offset : Nat) (en : Bool) (fuel : Nat) (res : LinkRes) (st1 : IState),
    Good lo st → MemoB st → TopInv cfg B src Mtop st →
    Boundary st.src (st.pos + offset + 1) → st.pos + offset + 1 ≤ st.posMax →
    (∃ r, slice st.src (st.pos + offset) st.posMax = .ok ('[' :: r)) →
    parseLink cfg skipG fuel st (st.pos + offset) en = .ok (some res, st1) →
    TopInv cfg B src Mtop st1 → P (nestedState st1 res)


/-! ## the closure properties of `TopInv` -/

/-- `ES.TopInv` as the invariant of `Lemmas/MemoSafeLamTopKit.lean` -/
def topKit (hB : BackOK cfg B) (hend : EndHyp cfg B src Mtop) (hep : EndEP cfg B src Mtop) :
    TopKit cfg Mtop where
  T := TopInv cfg B src Mtop
  W := fun s => (RuleId.backticks ∈ cfg.chain → IFP cfg s) ∧ EPc cfg src s.pos
  E := EPc cfg src
  L := fun s => s.level < cfg.maxNesting
  Q := fun s s' => s'.cache = s.cache ∧ s'.src = s.src ∧ InsideSub s.backticks s'.backticks ∧
    (B s.src s.backticks → B s'.src s'.backticks)
  hmax := fun h => h.hmax
  closed := fun h => h.closed
  of_eq := fun h a b c d => h.of_eq a b c d
  W_E := fun h => h.2
  W_entry := fun ht hp hlt => ⟨fun hbt => ifp_of_entry hend ht hbt hp, ep_of_entry hep ht hp hlt⟩
  W_bracket := fun ht hr =>
    ⟨fun _ hint _ => absurd hint (not_interior_after_bracket hr),
     fun _ => by rw [← ht.hsrc]; exact esc_after_bracket hr⟩
  back := fun {st silent o st'} ht hE h =>
    have hs := ruleBackticks_simple h
    ht.transfer hs.frame.src hs.frame.posMax hs.cache (insideSub_ruleBackticks h)
      (hB st silent o st' h ht.nocut_st (by rw [ht.hsrc]; exact hE) ht.back)
  nested := fun ht1 hQ a b c d =>
    ht1.transfer (a.trans hQ.2.1) b (c.trans hQ.1) (by rw [d]; exact hQ.2.2.1)
      (by rw [a, d]; exact hQ.2.2.2 ht1.back)

theorem topKit_steps (hB : BackOK cfg B) (hend : EndHyp cfg B src Mtop) (hep : EndEP cfg B src Mtop)
    (hmarks : MarksHyp cfg B) : (topKit hB hend hep).Steps where
  step := fun {skip tok fuel st st' _} hq hs hg hi hlt hmiss ht hW h ht1 hmiss1 e1 e2 e3 e4 hle =>
    ht1.insert hmiss1 e1 e2 e3 e4 hle
      (.inr ⟨skip, tok, fuel, st, st', hq, hs, hg, hi, ht.hsrc, ht.hmax, rfl, hlt, ht.back, hmiss, h,
        rfl, by rw [e4]; exact LookupMono.refl _, hW.1, hW.2⟩)
      (CS.mark_of_step hmarks ht.nocut ht.hsrc ht.hmax ht.back hlt h)
  limit := fun ht hmiss a b c d =>
    ht.insert hmiss a b c d (Nat.le_of_eq ht.hmax) (.inl ht.hmax)
      (fun _ hv hint => absurd (by rw [← ht.hmax, hv]; exact hint) ht.nocut)

/-- the real loop stays below the nesting limit and at non-escaped characters (`StepEP`) -/
theorem topKit_loop (hB : BackOK cfg B) (hend : EndHyp cfg B src Mtop) (hep : EndEP cfg B src Mtop)
    (hstep : StepEP cfg) : (topKit hB hend hep).LoopOK := by
  intro skip tok fuel st st' hq h ht hL hlt hE hlev
  refine ⟨show st'.level < cfg.maxNesting by rw [hlev]; exact hL, fun hl => ?_⟩
  have := hstep skip tok fuel st st' hq h hL hlt (by rw [ht.hsrc]; exact hE) hl
  rwa [ht.hsrc] at this

theorem SkipTopHyp.toKit (hB : BackOK cfg B) (hend : EndHyp cfg B src Mtop)
    (hep : EndEP cfg B src Mtop) {skip : IState → Except Panic IState}
    (h : SkipTopHyp cfg B src Mtop skip) : (topKit hB hend hep).SkipOK skip :=
  fun s hi hlt ht hW => h s hi hlt ht hW.1 hW.2

/-! ## look-ahead and the real chain in the top frame -/


/-- **the guarded `skip_token` keeps the invariant of the top frame**, at every fuel -/
theorem skip_top (hB : BackOK cfg B) (hend : EndHyp cfg B src Mtop) (hep : EndEP cfg B src Mtop)
    (hmarks : MarksHyp cfg B) :
    ∀ fuel : Nat, SkipTopHyp cfg B src Mtop (fun s => skipTokenG cfg true fuel s) :=
  fun fuel s hi hlt ht hifp hepos =>
    (topKit hB hend hep).skip_top (topKit_steps hB hend hep hmarks) fuel s hi hlt ht ⟨hifp, hepos⟩


/-- `parse_link` over the guarded `skip_token` at a fuel keeps the invariant of the top frame -/
theorem parseLink_top_G (hB : BackOK cfg B) (hend : EndHyp cfg B src Mtop)
    (hep : EndEP cfg B src Mtop) (hmarks : MarksHyp cfg B)
    (f fuel : Nat) (st : IState) (pos : Nat) (en : Bool)
    (hi : LInv st) (hb : Boundary st.src (pos + 1)) (hle : pos + 1 ≤ st.posMax)
    (hch : ∃ r, slice st.src pos st.posMax = .ok ('[' :: r))
    (ht : TopInv cfg B src Mtop st) :
    ∀ o st', parseLink cfg (fun s => skipTokenG cfg true f s) fuel st pos en = .ok (o, st') →
      TopInv cfg B src Mtop st' :=
  (topKit hB hend hep).parseLink_top (skipTokenG_calm cfg true f) (skipTokenG_T cfg f)
    (TopKit.SkipW.of_grow _ (skip_grow cfg f)) ((skip_top hB hend hep hmarks f).toKit hB hend hep) fuel
    st pos en hi hb hle ((topKit hB hend hep).W_bracket ht hch.choose_spec) ht

theorem runRule_real_top (hB : BackOK cfg B) (hend : EndHyp cfg B src Mtop)
    (hep : EndEP cfg B src Mtop) {skipG skipM tokG tokM : IState → Except Panic IState}
    {P : IState → Prop} (hq : CalmFn skipG) (hs : SkipHypT skipG) (hgr : SkipGrowHyp skipG)
    (hT : SkipTopHyp cfg B src Mtop skipG) (he : SkipEqHyp skipG skipM)
    (hte : TokEqAt B P tokG tokM) (hP : EntryP cfg B src Mtop skipG P) (fuel : Nat) (id : RuleId)
    {lo : Nat} (st : IState) (hg : Good lo st) (hm : MemoB st) (hlt : st.pos < st.posMax)
    (htop : TopInv cfg B src Mtop st) (hepos : EPc cfg src st.pos) :
    runRule cfg skipG tokG fuel id st false = runRule cfg skipM tokM fuel id st false ∧
    ∀ o st', runRule cfg skipG tokG fuel id st false = .ok (o, st') → TopInv cfg B src Mtop st' :=
  (topKit hB hend hep).runRule_real_top hq hs (TopKit.SkipW.of_grow _ hgr) (hT.toKit hB hend hep) he
    hte hP fuel id st hg hm hlt htop hepos


/-- **in the top frame one iteration of the guarded tokenizer loop is one iteration of the model's** -/
theorem tokStep_top (hB : BackOK cfg B) (hend : EndHyp cfg B src Mtop)
    (hep : EndEP cfg B src Mtop)
    (hsz : ∀ mk csw, RuleId.emph mk csw ∈ cfg.chain → mk.utf8Size = 1)
    {skipG skipM tokG tokM : IState → Except Panic IState} {P : IState → Prop}
    (hq : CalmFn skipG) (hs : SkipHypT skipG) (hgr : SkipGrowHyp skipG)
    (hT : SkipTopHyp cfg B src Mtop skipG)
    (he : SkipEqHyp skipG skipM) (ht : TokHypT tokG) (hr : RangesFn tokG)
    (hte : TokEqAt B P tokG tokM) (hP : EntryP cfg B src Mtop skipG P) (fuel : Nat) {lo : Nat}
    (st : IState) (hg : Good lo st) (hm : MemoB st) (hlt : st.pos < st.posMax)
    (htop : TopInv cfg B src Mtop st) (hepos : EPc cfg src st.pos) :
    tokStep cfg skipG tokG fuel st = tokStep cfg skipM tokM fuel st ∧
    ∀ st', tokStep cfg skipG tokG fuel st = .ok st' → TopInv cfg B src Mtop st' :=
  (topKit hB hend hep).tokStep_top hsz hq hs (TopKit.SkipW.of_grow _ hgr) (hT.toKit hB hend hep) he ht
    hr hte hP fuel st hg hm hlt htop hepos

/-! ## the loop and the parser -/

/-- **in the top frame the guarded tokenizer IS the model tokenizer**, at every fuel, provided the
    nested label runs agree at the `P`-states and the link rule enters nested frames only there -/
theorem top_total (hB : BackOK cfg B) (hend : EndHyp cfg B src Mtop) (hep : EndEP cfg B src Mtop)
    (hstep : StepEP cfg) (hmarks : MarksHyp cfg B)
    (hsz : ∀ mk csw, RuleId.emph mk csw ∈ cfg.chain → mk.utf8Size = 1) {P : IState → Prop}
    (hNE : ∀ f, TokEqAt B P (fun s => tokLoopG cfg true f s.posMax s)
      (fun s => tokLoop cfg f s.posMax s))
    (hP : ∀ f, EntryP cfg B src Mtop (fun s => skipTokenG cfg true f s) P) :
    ∀ (fuel lo : Nat) (st : IState), Good lo st → MemoB st → TopInv cfg B src Mtop st →
      (st.pos < st.posMax → EPc cfg src st.pos) → st.level < cfg.maxNesting →
      tokLoopG cfg true fuel st.posMax st = tokLoop cfg fuel st.posMax st ∧
      ∀ st', tokLoopG cfg true fuel st.posMax st = .ok st' → TopInv cfg B src Mtop st' :=
  (topKit hB hend hep).top_total (topKit_steps hB hend hep hmarks)
    (topKit_loop hB hend hep hstep) hsz hNE hP

theorem topInv_init {content : List Char} {mapping : Srcmap}
    (hB0 : B content CodePair.Cache.empty)
    (hnc : CodePair.NoCut '`' content (IState.init content mapping).posMax) :
    TopInv cfg B content (IState.init content mapping).posMax (IState.init content mapping) :=
  ⟨rfl, rfl, hB0, by intro k v h; simp [IState.init] at h, by
    intro k v h; simp [IState.init] at h, hnc, by intro _ p hp; simp [IState.init] at hp⟩

/-- **the guarded inline parser IS the model inline parser** (same tree, same error), under the
    hypotheses on the nested frames and the statements of `Lemmas/MemoSafeLamESDef.lean` -/
theorem parseInlineG_eq (hB : BackOK cfg B)
    (hsz : ∀ mk csw, RuleId.emph mk csw ∈ cfg.chain → mk.utf8Size = 1) {P : IState → Prop}
    {content : List Char} {mapping : Srcmap} (hm : MapOK content mapping)
    (hB0 : B content CodePair.Cache.empty)
    (hnc : CodePair.NoCut '`' content (IState.init content mapping).posMax)
    (hend : EndHyp cfg B content (IState.init content mapping).posMax)
    (hep : EndEP cfg B content (IState.init content mapping).posMax) (hstep : StepEP cfg)
    (hep0 : EPc cfg content (IState.init content mapping).pos) (hlev0 : 0 < cfg.maxNesting)
    (hmarks : MarksHyp cfg B)
    (hNE : ∀ f, TokEqAt B P (fun s => tokLoopG cfg true f s.posMax s)
      (fun s => tokLoop cfg f s.posMax s))
    (hP : ∀ f, EntryP cfg B content (IState.init content mapping).posMax
      (fun s => skipTokenG cfg true f s) P) :
    parseInlineG cfg content mapping = parseInline cfg content mapping :=
  (topKit hB hend hep).parseInlineG_eq (topKit_steps hB hend hep hmarks)
    (topKit_loop hB hend hep hstep) hsz hm
    (topInv_init hB0 hnc) hep0 hlev0 hNE hP

/-- **`parseInline` is total** under the same hypotheses -/
theorem parseInline_total_of_nested (hB : BackOK cfg B)
    (hsz : ∀ mk csw, RuleId.emph mk csw ∈ cfg.chain → mk.utf8Size = 1) {P : IState → Prop}
    {content : List Char} {mapping : Srcmap} (hm : MapOK content mapping)
    (hB0 : B content CodePair.Cache.empty)
    (hnc : CodePair.NoCut '`' content (IState.init content mapping).posMax)
    (hend : EndHyp cfg B content (IState.init content mapping).posMax)
    (hep : EndEP cfg B content (IState.init content mapping).posMax) (hstep : StepEP cfg)
    (hep0 : EPc cfg content (IState.init content mapping).pos) (hlev0 : 0 < cfg.maxNesting)
    (hmarks : MarksHyp cfg B)
    (hNE : ∀ f, TokEqAt B P (fun s => tokLoopG cfg true f s.posMax s)
      (fun s => tokLoop cfg f s.posMax s))
    (hP : ∀ f, EntryP cfg B content (IState.init content mapping).posMax
      (fun s => skipTokenG cfg true f s) P) :
    ∃ cs, parseInline cfg content mapping = .ok cs :=
  parseInline_total_of_eq hsz hm
    (parseInlineG_eq hB hsz hm hB0 hnc hend hep hstep hep0 hlev0 hmarks hNE hP)

/-! ## examples -/

/-- `skip_top` is not vacuous: the initial state of every inline run whose `pos_max` does not cut a
    backtick run meets `TopInv`, and so does the state behind the first guarded look-ahead step — `IFP`
    and `EPc` of the initial state hold when the run starts neither strictly inside a backtick run nor
    at an escaped character -/
example (cfg : Cfg) (B : List Char → CodePair.Cache → Prop) (hB : BackOK cfg B) (fuel : Nat)
    {content : List Char} {mapping : Srcmap} (hm : MapOK content mapping)
    (hB0 : B content CodePair.Cache.empty)
    (hnc : CodePair.NoCut '`' content (IState.init content mapping).posMax)
    (hend : EndHyp cfg B content (IState.init content mapping).posMax)
    (hep : EndEP cfg B content (IState.init content mapping).posMax) (hmarks : MarksHyp cfg B)
    (hni : ¬ Interior content (IState.init content mapping).pos)
    (hep0 : EPc cfg content (IState.init content mapping).pos)
    (hlt : (IState.init content mapping).pos < (IState.init content mapping).posMax) :
    ∀ s1, skipTokenG cfg true fuel (IState.init content mapping) = .ok s1 →
      TopInv cfg B content (IState.init content mapping).posMax s1 := by
  obtain ⟨lo, _, hg⟩ := init_good hm
  have hi := hg.linv (memoB_init' content mapping)
  intro s1 h1
  exact skip_top hB hend hep hmarks fuel _ hi hlt (topInv_init hB0 hnc)
    (fun _ hint _ => absurd hint hni) hep0 s1 h1

open MdIt.Inline.CS (not_interior_after_bracket)

/-- **a nested frame entered from the top frame satisfies `ES.NF`** -/
theorem entryP_NF (f : Nat) :
    EntryP cfg B src Mtop (fun s => skipTokenG cfg true f s) (NF cfg B src Mtop) := by
  intro lo st offset en fuel res st1 hg hm htop hb hle hch hpl htop1
  obtain ⟨r, hr⟩ := hch
  rw [htop.hsrc] at hr
  exact (Inline.NF.enter_top f hg hm htop.hsrc htop.hmax hb hle hpl htop1.hsrc htop1.back
    htop1.just.toJustAll).toES htop1.just htop1.nocut (fun hbt => htop1.hmk hbt) hr (parseLink_labelStart hpl)

/-- the hypotheses of the nested induction for `B := BE cfg` — no hypothesis on the text -/
theorem nestHyps_all (cfg : Cfg) (src : List Char) (Mtop : Nat) (hc : ChainCoherent cfg = true)
    (hone : cfg.chain.count .link ≤ 1 ∧ cfg.chain.count .image ≤ 1)
    (hnc : CodePair.NoCut '`' src Mtop) : NestHyps cfg (BE cfg) src Mtop :=
  { coh := hc
    hB := backOK_BE cfg
    flat := flatL2_holds cfg
    back := fun _ => backL2_BE cfg hnc
    keep := realKeeps_holds cfg
    emph := emphL2_holds cfg
    plLink := fun _ => parseLinkL2Part_link cfg _ src Mtop
    plImage := fun _ => parseLinkL2Part_image cfg _ src Mtop
    one := hone
    hend := endHyp_holds cfg (BE cfg) hnc
    hendep := endEP_holds cfg (BE cfg)
    agree := agreeHyp_BE cfg src
    land := landHyp_holds cfg src }

/-! ## `max_nesting = 0`: no rule runs (`Inline.over_limit`) -/

/-- `max_nesting = 0`: the guarded parser is the model parser -/
theorem parseInlineG_eq_zero (cfg : Cfg) (h0 : ¬ 0 < cfg.maxNesting) (content : List Char)
    (mapping : Srcmap) : parseInlineG cfg content mapping = parseInline cfg content mapping := by
  have := (over_limit cfg true (topFuel cfg content) (IState.init content mapping).posMax
    (IState.init content mapping) h0).1
  unfold parseInlineG parseInline tokenize
  rw [this]
  generalize tokLoop cfg _ _ _ = r
  cases r <;> rfl

/-! ## the main theorem -/

/-- behind a prefix of blanks the position is not escaped -/
theorem esc_prefix_blanks (bl t : List Char) (h : ∀ c ∈ bl, isSpTab c = true) :
    esc (bl ++ t) bl.length = false := by
  rcases List.eq_nil_or_concat bl with rfl | ⟨ini, c, rfl⟩
  · rfl
  · simp only [List.concat_eq_append] at h ⊢
    rw [List.length_append, List.length_singleton]
    apply esc_succ_of_ne
    have hb : byteLen ini = ini.length :=
      CS.byteLen_blanks ini (fun x hx => h x (List.mem_append_left _ hx))
    have := CodePair.charAt_append_add ini ([c] ++ t) 0
    rw [CodePair.charAt_zero, codeByteLen_eq, hb, Nat.add_zero] at this
    rw [List.append_assoc, this]
    have hc := h c (by simp)
    intro e
    simp only [List.singleton_append, List.head?_cons, Option.some.injEq] at e
    rw [e] at hc
    simp [isSpTab] at hc

/-- the start position of the top frame (`trim_src`: behind the leading blanks) is not escaped -/
theorem epc_init (cfg : Cfg) (content : List Char) (mapping : Srcmap) :
    EPc cfg content (IState.init content mapping).pos := by
  obtain ⟨bl, tl, rfl, hbl, hp⟩ := CS.init_pos_blanks content mapping
  intro _
  rw [hp]
  exact esc_prefix_blanks bl tl hbl

/-- **the guarded inline parser IS the model inline parser** — the guard (a `skip_token` memo hit beyond
    the current `pos_max`) never trips — for every `ChainCoherent` chain that lists the link and the image
    rule at most once, on every content -/
theorem parseInlineG_eq_all (cfg : Cfg) (hc : ChainCoherent cfg = true)
    (hone : cfg.chain.count .link ≤ 1 ∧ cfg.chain.count .image ≤ 1) {content : List Char}
    {mapping : Srcmap} (hm : MapOK content mapping) :
    parseInlineG cfg content mapping = parseInline cfg content mapping := by
  by_cases hlev0 : 0 < cfg.maxNesting
  · have hnc := CS.nocut_init content mapping
    have H := nestHyps_all cfg content (IState.init content mapping).posMax hc hone hnc
    exact parseInlineG_eq (B := BE cfg) (backOK_BE cfg) (coherent_hsz hc) hm
      (BE.empty cfg content) hnc (endHyp_holds cfg (BE cfg) hnc) (endEP_holds cfg (BE cfg))
      (stepEP_holds cfg hc) (epc_init cfg content mapping) hlev0 (marksHyp_BE cfg)
      (fun f s hs => nested_tokEq H f s hs) (fun f => entryP_NF f)
  · exact parseInlineG_eq_zero cfg hlev0 content mapping

/-- **`md.inline.parse` is total for EVERY `ChainCoherent` chain with the link and the image rule at most
    once — the stock CommonMark chain with strikethrough included — on EVERY content** (code spans with any
    backtick runs, escaped backticks anywhere), every `max_nesting`, every reference map, every `MapOK` table. -/
theorem parseInline_total (cfg : Cfg) (hc : ChainCoherent cfg = true)
    (hone : cfg.chain.count .link ≤ 1 ∧ cfg.chain.count .image ≤ 1) {content : List Char}
    {mapping : Srcmap} (hm : MapOK content mapping) :
    ∃ cs, parseInline cfg content mapping = .ok cs :=
  parseInline_total_of_eq (coherent_hsz hc) hm (parseInlineG_eq_all cfg hc hone hm)

end MdIt.Inline.ES

/-! ## special cases: the extra hypothesis on the chain or on the text is not used -/

namespace MdIt.Inline
open MdIt.InlineOps (Srcmap getSourcePosFor getMap byteLen slice)

/-- chains without the code-span rule and without the image rule (link rule at most once) -/
theorem parseInline_total_link (cfg : Cfg) (hc : ChainCoherent cfg = true)
    (hnb : RuleId.backticks ∉ cfg.chain) (hni : RuleId.image ∉ cfg.chain)
    (hone : cfg.chain.count .link ≤ 1) {content : List Char} {mapping : Srcmap}
    (hm : MapOK content mapping) : ∃ cs, parseInline cfg content mapping = .ok cs :=
  ES.parseInline_total cfg hc ⟨hone, by rw [List.count_eq_zero_of_not_mem hni]; exact Nat.zero_le _⟩ hm

/-- chains without the code-span rule — links AND images (each rule at most once) -/
theorem parseInline_total_nocode (cfg : Cfg) (hc : ChainCoherent cfg = true)
    (hnb : RuleId.backticks ∉ cfg.chain)
    (hone : cfg.chain.count .link ≤ 1 ∧ cfg.chain.count .image ≤ 1) {content : List Char}
    {mapping : Srcmap} (hm : MapOK content mapping) : ∃ cs, parseInline cfg content mapping = .ok cs :=
  ES.parseInline_total cfg hc hone hm

/-- contents without two adjacent backticks (single-backtick code spans only) -/
theorem parseInline_total_nodouble (cfg : Cfg) (hc : ChainCoherent cfg = true)
    (hone : cfg.chain.count .link ≤ 1 ∧ cfg.chain.count .image ≤ 1) {content : List Char}
    {mapping : Srcmap} (hm : MapOK content mapping) (hnd : NoDoubleTick content) :
    ∃ cs, parseInline cfg content mapping = .ok cs :=
  ES.parseInline_total cfg hc hone hm

/-- contents without backslash-backtick-backtick (code spans with any backtick runs) -/
theorem CS.parseInline_total_noesc (cfg : Cfg) (hc : ChainCoherent cfg = true)
    (hone : cfg.chain.count .link ≤ 1 ∧ cfg.chain.count .image ≤ 1) {content : List Char}
    {mapping : Srcmap} (hm : MapOK content mapping) (hne : CS.NoEscTickTick content) :
    ∃ cs, parseInline cfg content mapping = .ok cs :=
  ES.parseInline_total cfg hc hone hm

end MdIt.Inline
