/-
  The block rules that do not nest, walked ONCE for two runs.

  A rule that neither nests nor writes the line table reads its state through a handful of questions
  (`line_indent`, `get_line`, `is_empty`, `get_map`, `get_lines` at the block indent, one table entry) and answers by
  pushing nodes and moving `line`.  `Reads E R ok lim s₁ s₂` says how the answers of two states are related (`R : Rels`
  relates offsets, ranges and node values; `ok n`: line `n` may be asked about; in lock step up to the escape set
  `E`, `Lemmas/ExceptRel.lean`); `Step R s₁ s₂ t₁ t₂` says `t₁`, `t₂` are `s₁`, `s₂` with `R`-related nodes pushed,
  `line` and the reference map moved alike.  The walks: `hr_reads`, `heading_reads`, `fence_reads` (with
  `fenceScan_reads`), `codeScan_reads`, `afterChain_reads`, and — with the look-ahead call-back, for any relation `S`
  on states that gives `Reads`, survives a change of `line` and is kept by the two look-aheads (`Look`) —
  `lazyScan_reads`, `paragraph_reads`, `lheading_reads`, `reference_reads`.

  Two developments use them, each supplying `Reads` from the accessors it has and reading `Step` back into its state
  relation: the lock-step simulation of C10 (`LX.Sim.SRel`: `SRel.reads`, `LX.Sim.res`, `Lemmas/C10SimLeaf.lean`) and
  the container simulation of C06 (`Li.Nest.Sim`: `rels N`, `Sim.reads`, `Sim.res`, `Lemmas/C06Nest.lean`).

  Not here: indented code, block quote, list and the tokenizer loop, which each development walks itself (`code_sim`,
  `blockquote_sim`, `list_sim`, `tokLoop_sim` in `Lemmas/C10Sim*.lean` and in `Lemmas/C06Nest.lean`).

  `Rels`, `NRel`, `KOk`, `RgRel`, `Live`, `MRel` are those of the C10 simulation (`Lemmas/C10SimCore.lean`,
  `Lemmas/C10DocCore.lean`), which this file imports; C06 instantiates them at `Li.Nest.rels`.
-/
import MdIt.Lemmas.ExceptRel
import MdIt.Lemmas.C10SimCore

namespace MdIt.Block

theorem frel_iff {α β : Type} {R : α → β → Prop} {x : Except Panic α} {y : Except Panic β} :
    LE.FRel R x y ↔ XRel (· = .fuel) R x y := by
  constructor
  · rintro (h | h | h)
    · exact .inl ⟨_, h, rfl⟩
    · exact .inr (.inl h)
    · exact .inr (.inr h)
  · rintro (⟨e, h, rfl⟩ | h | h)
    · exact .inl h
    · exact .inr (.inl h)
    · exact .inr (.inr h)

theorem skipEmpty_congr {offs offs' : List Lines.LineOffset} (h : ∀ n, Lines.isEmpty offs' n = Lines.isEmpty offs n)
    (lm line : Nat) : Lines.skipEmptyLines offs' lm line = Lines.skipEmptyLines offs lm line := by
  fun_induction Lines.skipEmptyLines offs lm line with
  | case1 line hc ih =>
    rw [Lines.skipEmptyLines, dif_pos (by rw [h]; exact hc)]
    exact ih
  | case2 line hc =>
    rw [Lines.skipEmptyLines, dif_neg (by rw [h]; exact hc)]

namespace Rd
open MdIt.Lines (LineOffset)
open MdIt.Block.LE (MRel MRel.single)
open MdIt.Block.LX.Sim (Rels NRel NRelL KOk)
open MdIt.Block.LX.Y (RgRel Live)

/-! ## one state -/

theorem getLine_len {s : BState} {n : Nat} {line : List Char} {o : LineOffset}
    (hl : s.getLine n = .ok line) (ho : s.off n = .ok o) : o.firstNonspace + Lines.byteLen line = o.lineEnd := by
  unfold BState.getLine Lines.getLine at hl
  unfold BState.off at ho
  cases h : s.offs[n]? with
  | none => rw [h] at ho; cases ho
  | some o' =>
    rw [h] at hl ho
    cases ho
    obtain ⟨_, _, _, _, hq⟩ := Lines.slice_eq_ok_iff.mp (liftL_eq_ok hl)
    exact hq

/-- an offset at which the rule slices the text of the line lies inside the line -/
theorem heading_bound {s : BState} {n : Nat} {line content : List Char} {o : LineOffset} {x y : Nat}
    (hl : s.getLine n = .ok line) (hc : liftL (Lines.slice line x y) = .ok content) (ho : s.off n = .ok o) :
    o.firstNonspace + x ≤ o.lineEnd := by
  have h1 := getLine_len hl ho
  obtain ⟨p, q, e, hp, _⟩ := Lines.slice_eq_ok_iff.mp (liftL_eq_ok hc)
  have := congrArg Lines.byteLen e
  simp only [Lines.byteLen_append] at this
  omega

theorem skipEmpty_live (offs : List LineOffset) (lm line : Nat) :
    Lines.skipEmptyLines offs lm line ≠ lm → Lines.isEmpty offs (Lines.skipEmptyLines offs lm line) = false := by
  fun_induction Lines.skipEmptyLines offs lm line with
  | case1 line h ih => exact ih
  | case2 line h =>
    intro hne
    cases he : Lines.isEmpty offs line with
    | false => rfl
    | true => exact absurd ⟨hne, he⟩ h

/-! ## what the rules read, what they do -/

/-- what the walks need of the relation on node values: the value of a block the rules push is related to itself,
    an `InlineRoot` to the `InlineRoot` with the same text and a related per-line table -/
structure KPush (R : Rels) : Prop where
  of_ne : ∀ {k : Kind}, (∀ c m, k ≠ .inlineRoot c m) → R.K k k
  inl : ∀ (c : List Char) {m₁ m₂ : List (Nat × Nat)}, MRel R.ρ m₁ m₂ → R.K (.inlineRoot c m₁) (.inlineRoot c m₂)

theorem KPush.of_kok {R : Rels} (H : KOk R) : KPush R := ⟨H.of_ne, H.inl⟩

theorem KPush.inline {R : Rels} (H : KPush R) {c : List Char} {m₁ m₂ : List (Nat × Nat)} (h : MRel R.ρ m₁ m₂) :
    NRel R ⟨.inlineRoot c m₁, none, []⟩ ⟨.inlineRoot c m₂, none, []⟩ :=
  NRel.mk (H.inl c h) trivial NRelL.nil


/-- how two states answer what a rule that does not nest asks: about the lines `ok`, `get_lines` up to an end line
    `lim`; under `R.strict` a range is only known to be related when its first line is not empty -/
structure Reads (E : Panic → Prop) (R : Rels) (ok lim : Nat → Prop) (s₁ s₂ : BState) : Prop where
  line : s₂.line = s₁.line
  lineMax : s₂.lineMax = s₁.lineMax
  refs : s₂.refs = s₁.refs
  up : ∀ n, ok n → n + 1 < s₁.lineMax → ok (n + 1)
  indent : ∀ n, ok n → s₂.lineIndent n = s₁.lineIndent n
  text : ∀ n, s₂.getLine n = s₁.getLine n
  empty : ∀ n, s₂.isEmpty n = s₁.isEmpty n
  map : ∀ a b, (R.strict → s₁.isEmpty a = false) →
    XRel E (fun r₁ r₂ => RgRel R.τ (some r₁) (some r₂)) (s₁.getMap a b) (s₂.getMap a b)
  lines : ∀ b e keep, ok b → lim e →
    XRel E (fun r₁ r₂ => r₁.1 = r₂.1 ∧ MRel R.ρ r₁.2 r₂.2)
      (s₁.getLines b e s₁.blkIndent keep) (s₂.getLines b e s₂.blkIndent keep)
  off : ∀ n, ok n → XRel E (fun o₁ o₂ => (o₂.indentNonspace < 0 ↔ o₁.indentNonspace < 0) ∧
      ∀ x, o₁.firstNonspace + x ≤ o₁.lineEnd → R.ρ (o₁.firstNonspace + x) (o₂.firstNonspace + x))
    (s₁.off n) (s₂.off n)

/-- `t₁`, `t₂` are `s₁`, `s₂` with related nodes pushed, `line` and the reference map moved alike -/
structure Step (R : Rels) (s₁ s₂ t₁ t₂ : BState) : Prop where
  fr₁ : Frame s₁ t₁
  fr₂ : Frame s₂ t₂
  tight₁ : t₁.tight = s₁.tight
  tight₂ : t₂.tight = s₂.tight
  line : t₂.line = t₁.line
  refs : t₂.refs = t₁.refs
  kids : ∃ c₁ c₂, t₁.children = s₁.children ++ c₁ ∧ t₂.children = s₂.children ++ c₂ ∧ NRelL R c₁ c₂

def RRel (R : Rels) (s₁ s₂ : BState) (r₁ r₂ : Bool × BState) : Prop := r₁.1 = r₂.1 ∧ Step R s₁ s₂ r₁.2 r₂.2

/-- verdict and state of a call of a rule that may have exchanged its states for `S`-related ones on the way -/
def RRelS (S : BState → BState → Prop) (R : Rels) (r₁ r₂ : Bool × BState) : Prop :=
  r₁.1 = r₂.1 ∧ ∃ t₁ t₂, S t₁ t₂ ∧ Step R t₁ t₂ r₁.2 r₂.2

theorem RRel.toS {S : BState → BState → Prop} {R : Rels} {s₁ s₂ : BState} (hS : S s₁ s₂) {r₁ r₂ : Bool × BState}
    (h : RRel R s₁ s₂ r₁ r₂) : RRelS S R r₁ r₂ := ⟨h.1, s₁, s₂, hS, h.2⟩

section leaf
variable {E : Panic → Prop} {R : Rels} {ok lim : Nat → Prop} {s₁ s₂ : BState}

theorem Reads.same (V : Reads E R ok lim s₁ s₂) : Step R s₁ s₂ s₁ s₂ :=
  ⟨.refl _, .refl _, rfl, rfl, V.line, V.refs, [], [], by simp, by simp, NRelL.nil⟩

theorem Reads.declined (V : Reads E R ok lim s₁ s₂) : XRel E (RRel R s₁ s₂) (pure (false, s₁)) (pure (false, s₂)) :=
  .pure ⟨rfl, V.same⟩

theorem Reads.pushed (V : Reads E R ok lim s₁ s₂) {n₁ n₂ : BNode} (hn : NRel R n₁ n₂) (l : Nat) :
    Step R s₁ s₂ { s₁ with line := l, children := s₁.children ++ [n₁] }
      { s₂ with line := l, children := s₂.children ++ [n₂] } :=
  ⟨⟨rfl, rfl, rfl, rfl, rfl, rfl, rfl⟩, ⟨rfl, rfl, rfl, rfl, rfl, rfl, rfl⟩, rfl, rfl, rfl, V.refs, [n₁], [n₂], rfl, rfl,
    NRelL.single hn⟩

theorem hr_reads (K : KPush R) (V : Reads E R ok lim s₁ s₂) (hok : ok s₁.line) (b : Bool)
    (hne : R.strict → b = false → Live s₁) : XRel E (RRel R s₁ s₂) (hrRule s₁ b) (hrRule s₂ b) := by
  unfold hrRule
  rw [V.line, V.indent _ hok, V.text]
  refine .bind_same fun ind _ => .ite (fun _ => V.declined) fun _ => .bind_same fun line _ => ?_
  split
  · exact V.declined
  refine .ite (fun _ => V.declined) fun _ => ?_
  split
  · exact V.declined
  refine .ite (fun _ => V.declined) fun _ => .ite (fun _ => .pure ⟨rfl, V.same⟩) fun hs => ?_
  refine .bind (V.map _ _ fun h => (hne h (Bool.eq_false_iff.mpr hs)).2) fun r₁ r₂ _ hr => .pure ⟨rfl, ?_⟩
  simp only [BState.push, V.line]
  refine V.pushed (NRel.mk (K.of_ne ?_) hr NRelL.nil) _
  intro c m h; cases h

theorem heading_reads (K : KPush R) (V : Reads E R ok lim s₁ s₂) (hok : ok s₁.line) (b : Bool)
    (hne : R.strict → b = false → Live s₁) : XRel E (RRel R s₁ s₂) (headingRule s₁ b) (headingRule s₂ b) := by
  unfold headingRule
  rw [V.line, V.indent _ hok, V.text]
  refine .bind_same fun ind _ => .ite (fun _ => V.declined) fun _ => .bind_same fun line hline => ?_
  refine .ite (fun _ => V.declined) fun _ => ?_
  split
  · exact V.declined
  refine .ite (fun _ => .pure ⟨rfl, V.same⟩) fun hs => .bind_same fun content hcontent => ?_
  refine .bind (V.off _ hok) fun o₁ o₂ ho₁ he => ?_
  refine .bind (V.map _ _ fun h => (hne h (Bool.eq_false_iff.mpr hs)).2) fun r₁ r₂ _ hr => .pure ⟨rfl, ?_⟩
  simp only [BState.push, V.line]
  refine V.pushed (NRel.mk (K.of_ne ?_) hr
    (NRelL.single (K.inline (MRel.single (he.2 _ (heading_bound hline hcontent ho₁)))))) _
  intro c m h; cases h

theorem codeScan_reads (V : Reads E R ok lim s₁ s₂) :
    ∀ (k n last : Nat), s₁.lineMax - n = k → (n < s₁.lineMax → ok n) → codeScan s₂ n last = codeScan s₁ n last := by
  intro k
  induction k with
  | zero =>
    intro n last hk _
    rw [codeScan.eq_1 s₂, codeScan.eq_1 s₁, V.lineMax, if_neg (by omega), if_neg (by omega)]
  | succ k ih =>
    intro n last hk hok
    have hlt : n < s₁.lineMax := by omega
    rw [codeScan.eq_1 s₂, codeScan.eq_1 s₁, V.lineMax, V.empty, V.indent _ (hok hlt), if_pos hlt, if_pos hlt,
      ih (n + 1) last (by omega) (V.up n (hok hlt)), ih (n + 1) (n + 1) (by omega) (V.up n (hok hlt))]

theorem fenceScan_reads (V : Reads E R ok lim s₁ s₂) (marker : Char) (len : Nat) :
    ∀ (k n : Nat), s₁.lineMax - n = k → ok n → fenceScan s₂ marker len n = fenceScan s₁ marker len n := by
  intro k
  induction k with
  | zero =>
    intro n hk _
    rw [fenceScan.eq_1 s₂, fenceScan.eq_1 s₁, V.lineMax, if_pos (by omega), if_pos (by omega)]
  | succ k ih =>
    intro n hk hok
    rw [fenceScan.eq_1 s₂, fenceScan.eq_1 s₁, V.lineMax, V.text]
    by_cases hlt : n + 1 ≥ s₁.lineMax
    · rw [if_pos hlt, if_pos hlt]
    · have hok' := V.up n hok (Nat.not_le.mp hlt)
      rw [if_neg hlt, if_neg hlt, V.indent _ hok', ih (n + 1) (by omega) hok']

/-- the fence asks `get_lines` at the indent of its own first line: `hreq` is the answer of the two states -/
theorem fence_reads (K : KPush R) (V : Reads E R ok lim s₁ s₂) (hok : ok s₁.line) (b : Bool)
    (hne : R.strict → b = false → Live s₁)
    (hreq : ∀ marker len e he o₁ o₂, fenceScan s₁ marker len s₁.line = .ok (e, he) → s₁.off s₁.line = .ok o₁ →
      s₂.off s₁.line = .ok o₂ →
      XRel E (fun r₁ r₂ => r₁.1 = r₂.1) (s₁.getLines (s₁.line + 1) e (i32AsUsize o₁.indentNonspace) true)
        (s₂.getLines (s₁.line + 1) e (i32AsUsize o₂.indentNonspace) true)) :
    XRel E (RRel R s₁ s₂) (fenceRule s₁ b) (fenceRule s₂ b) := by
  unfold fenceRule
  rw [V.line, V.indent _ hok, V.text]
  refine .bind_same fun ind _ => .ite (fun _ => V.declined) fun _ => .bind_same fun line _ => ?_
  split
  · exact V.declined
  refine .ite (fun _ => V.declined) fun _ => ?_
  simp only
  refine .ite (fun _ => V.declined) fun _ => .bind_same fun params _ => ?_
  refine .ite (fun _ => V.declined) fun _ => .ite (fun _ => .pure ⟨rfl, V.same⟩) fun hs => ?_
  rw [fenceScan_reads V _ _ _ _ rfl hok]
  refine .bind_same fun p hp => ?_
  obtain ⟨nextLine, haveEnd⟩ := p
  simp only
  refine .bind_both (V.off _ hok) fun o₁ o₂ ho₁ ho₂ _ => ?_
  refine .bind (hreq _ _ _ _ _ _ hp ho₁ ho₂) fun q₁ q₂ _ hq => ?_
  obtain ⟨c₁, m₁⟩ := q₁
  obtain ⟨c₂, m₂⟩ := q₂
  cases (hq : c₁ = c₂)
  refine .bind_same fun e _ => ?_
  refine .bind (V.map _ _ fun h => (hne h (Bool.eq_false_iff.mpr hs)).2) fun r₁ r₂ _ hr => .pure ⟨rfl, ?_⟩
  simp only [BState.push]
  refine V.pushed (NRel.mk (K.of_ne ?_) hr NRelL.nil) _
  intro c m h; cases h

theorem afterChain_reads (K : KPush R) (V : Reads E R ok lim s₁ s₂) (hok : okb = false → ok s₁.line) (prev : Nat) :
    XRel E (Step R s₁ s₂) (afterChain okb s₁ prev) (afterChain okb s₂ prev) := by
  unfold afterChain
  rw [V.line, V.text]
  cases okb with
  | true =>
    rw [if_pos rfl, if_pos rfl]
    exact .ite (fun _ => .pure V.same) fun _ => .err _
  | false =>
    rw [if_neg Bool.false_ne_true, if_neg Bool.false_ne_true]
    refine .bind_same fun l hl => .bind (V.off _ (hok rfl)) fun o₁ o₂ ho₁ he => .pure ?_
    simp only [BState.push, V.line]
    refine V.pushed (K.inline (MRel.single ?_)) _
    have := getLine_len hl ho₁
    simpa using he.2 0 (by omega)

end leaf

/-! ## the rules that look ahead -/

/-- a relation `S` on the states of two runs under which the look-ahead loop can be walked: it gives `Reads`,
    survives a change of `line`, and the two look-aheads answer alike and keep it -/
structure Look (E : Panic → Prop) (R : Rels) (ok lim : Nat → Prop) (S : BState → BState → Prop) (test₁ test₂ : Test) :
    Prop where
  reads : ∀ a b, S a b → Reads E R ok lim a b
  line : ∀ a b l, S a b → S { a with line := l } { b with line := l }
  test : ∀ a b o, S a b → ok a.line → a.off a.line = .ok o →
    XRel E (fun r₁ r₂ => r₁.1 = r₂.1 ∧ S r₁.2 r₂.2) (test₁ a) (test₂ b)

section look
variable {E : Panic → Prop} {R : Rels} {ok lim : Nat → Prop} {S : BState → BState → Prop} {test₁ test₂ : Test}

theorem lazyScan_reads (L : Look E R ok lim S test₁ test₂) (hE : E .fuel) (setext : Bool) :
    ∀ (f₁ f₂ : Nat) (s₁ s₂ : BState) (n : Nat), f₁ ≤ f₂ → S s₁ s₂ → ok n →
      XRel E (fun r₁ r₂ => r₁.1 = r₂.1 ∧ r₁.2.1 = r₂.2.1 ∧ S r₁.2.2 r₂.2.2)
        (lazyScan test₁ setext f₁ s₁ n) (lazyScan test₂ setext f₂ s₂ n) := by
  intro f₁
  induction f₁ with
  | zero => intro f₂ s₁ s₂ n _ _ _; exact .esc hE _
  | succ f ih =>
    intro f₂ s₁ s₂ n hf hS hok
    obtain ⟨g, rfl⟩ : ∃ g, f₂ = g + 1 := ⟨f₂ - 1, by omega⟩
    have V := L.reads _ _ hS
    simp only [lazyScan]
    refine .ite_iff (by rw [V.lineMax, V.empty]) (fun _ => .ok ⟨rfl, rfl, hS⟩) fun hc => ?_
    have hok' : ok (n + 1) := V.up n hok (Nat.not_le.mp fun h => hc (.inl h))
    rw [V.indent _ hok']
    refine .bind_same fun ind _ => .ite (fun _ => ih g _ _ _ (by omega) hS hok') fun _ => ?_
    rw [show setextCheck setext s₂ ind (n + 1) = setextCheck setext s₁ ind (n + 1) by
      unfold setextCheck; rw [V.text]]
    refine .bind_same fun lvl _ => .ite (fun _ => .ok ⟨rfl, rfl, hS⟩) fun _ => ?_
    refine .bind (V.off _ hok') fun o₁ o₂ ho₁ ho => .ite_iff ho.1 (fun _ => ih g _ _ _ (by omega) hS hok') fun _ => ?_
    rw [V.line]
    refine .bind (L.test _ _ o₁ (L.line _ _ (n + 1) hS) hok' ho₁) ?_
    rintro ⟨v₁, t₁⟩ ⟨v₂, t₂⟩ _ ⟨hv, hT⟩
    cases (hv : v₁ = v₂)
    have hT' := L.line _ _ s₁.line hT
    exact .ite (fun _ => .ok ⟨rfl, rfl, hT'⟩) fun _ => ih g _ _ _ (by omega) hT' hok'

theorem paragraph_reads (K : KPush R) (L : Look E R ok lim S test₁ test₂) (hp : R.strict → TestPure test₁)
    (hE : E .fuel) {f₁ f₂ : Nat} (hf : f₁ ≤ f₂)
    {s₁ s₂ : BState} (hS : S s₁ s₂) (hok : ok s₁.line) (b : Bool) (hne : R.strict → b = false → Live s₁)
    (hlim : ∀ r, lazyScan test₁ false f₁ s₁ s₁.line = .ok r → lim r.1) :
    XRel E (RRelS S R) (paragraphRule test₁ f₁ s₁ b) (paragraphRule test₂ f₂ s₂ b) := by
  have V := L.reads _ _ hS
  unfold paragraphRule
  refine .ite (fun _ => .pure (RRel.toS hS ⟨rfl, V.same⟩)) fun hs => ?_
  rw [V.line]
  refine .bind (lazyScan_reads L hE false _ _ _ _ _ hf hS hok) ?_
  rintro ⟨n₁, l₁, t₁⟩ ⟨n₂, l₂, t₂⟩ hz₁ ⟨hn, hl, hT⟩
  simp only at hn hl hT ⊢
  subst hn hl
  have W := L.reads _ _ hT
  have hback : R.strict → t₁ = s₁ := fun h => (lazyScan_spec (hp h) hz₁).1
  have hlive : R.strict → Live t₁ := fun h => by rw [hback h]; exact hne h (Bool.eq_false_iff.mpr hs)
  have hline : R.strict → t₁.line = s₁.line := fun h => by rw [hback h]
  refine .bind (W.lines _ _ _ hok (hlim _ hz₁)) ?_
  rintro ⟨c₁, m₁⟩ ⟨c₂, m₂⟩ _ ⟨hc, hm⟩
  simp only at hc hm ⊢
  subst hc
  refine .bind_same fun e _ => ?_
  refine .bind (W.map _ _ fun h => by rw [← hline h]; exact (hlive h).2) fun r₁ r₂ _ hr => .pure ⟨rfl, t₁, t₂, hT, ?_⟩
  simp only [BState.push]
  refine W.pushed (NRel.mk (K.of_ne ?_) hr (NRelL.single (K.inline hm))) _
  intro c m h; cases h

theorem lheading_reads (K : KPush R) (L : Look E R ok lim S test₁ test₂) (hp : R.strict → TestPure test₁)
    (hE : E .fuel) {f₁ f₂ : Nat} (hf : f₁ ≤ f₂)
    {s₁ s₂ : BState} (hS : S s₁ s₂) (hok : ok s₁.line) (b : Bool) (hne : R.strict → b = false → Live s₁)
    (hlim : ∀ r, lazyScan test₁ true f₁ s₁ s₁.line = .ok r → lim r.1) :
    XRel E (RRelS S R) (lheadingRule test₁ f₁ s₁ b) (lheadingRule test₂ f₂ s₂ b) := by
  have V := L.reads _ _ hS
  unfold lheadingRule
  refine .ite (fun _ => .pure (RRel.toS hS ⟨rfl, V.same⟩)) fun hs => ?_
  rw [V.line, V.indent _ hok]
  refine .bind_same fun ind _ => .ite (fun _ => .pure (RRel.toS hS ⟨rfl, V.same⟩)) fun _ => ?_
  refine .bind (lazyScan_reads L hE true _ _ _ _ _ hf hS hok) ?_
  rintro ⟨n₁, l₁, t₁⟩ ⟨n₂, l₂, t₂⟩ hz₁ ⟨hn, hl, hT⟩
  simp only at hn hl hT ⊢
  subst hn hl
  have W := L.reads _ _ hT
  have hback : R.strict → t₁ = s₁ := fun h => (lazyScan_spec (hp h) hz₁).1
  have hlive : R.strict → Live t₁ := fun h => by rw [hback h]; exact hne h (Bool.eq_false_iff.mpr hs)
  have hline : R.strict → t₁.line = s₁.line := fun h => by rw [hback h]
  refine .ite (fun _ => .pure (RRel.toS hT ⟨rfl, W.same⟩)) fun _ => ?_
  refine .bind (W.lines _ _ _ hok (hlim _ hz₁)) ?_
  rintro ⟨c₁, m₁⟩ ⟨c₂, m₂⟩ _ ⟨hc, hm⟩
  simp only at hc hm ⊢
  subst hc
  refine .bind_same fun e _ => ?_
  refine .bind (W.map _ _ fun h => by rw [← hline h]; exact (hlive h).2) fun r₁ r₂ _ hr => .pure ⟨rfl, t₁, t₂, hT, ?_⟩
  simp only [BState.push]
  refine W.pushed (NRel.mk (K.of_ne ?_) hr (NRelL.single (K.inline hm))) _
  intro c m h; cases h

/-- the reference rule pushes nothing: it moves `line` and writes the reference map; the two configurations need
    the same tables -/
theorem reference_reads {cfg₁ cfg₂ : Cfg} (hc : cfg₂.lookup = cfg₁.lookup ∧ cfg₂.L = cfg₁.L ∧ cfg₂.U = cfg₁.U)
    (L : Look E R ok lim S test₁ test₂) (hE : E .fuel) {f₁ f₂ : Nat} (hf : f₁ ≤ f₂) {s₁ s₂ : BState} (hS : S s₁ s₂)
    (hok : ok s₁.line) (b : Bool) (hlim : ∀ r, lazyScan test₁ false f₁ s₁ s₁.line = .ok r → lim r.1) :
    XRel E (RRelS S R) (referenceRule cfg₁ test₁ f₁ s₁ b) (referenceRule cfg₂ test₂ f₂ s₂ b) := by
  have V := L.reads _ _ hS
  have hparse : ∀ str, refParse cfg₂ str = refParse cfg₁ str := by
    intro str
    simp only [refParse, refTitle, hc.1]
  unfold referenceRule
  refine .ite (fun _ => .pure (RRel.toS hS ⟨rfl, V.same⟩)) fun _ => ?_
  rw [V.line, V.indent _ hok, V.text]
  refine .bind_same fun ind _ => .ite (fun _ => .pure (RRel.toS hS ⟨rfl, V.same⟩)) fun _ => .bind_same fun line _ => ?_
  split
  · exact .pure (RRel.toS hS ⟨rfl, V.same⟩)
  refine .ite (fun _ => .pure (RRel.toS hS ⟨rfl, V.same⟩)) fun _ =>
    .ite (fun _ => .pure (RRel.toS hS ⟨rfl, V.same⟩)) fun _ => ?_
  refine .bind (lazyScan_reads L hE false _ _ _ _ _ hf hS hok) ?_
  rintro ⟨n₁, l₁, t₁⟩ ⟨n₂, l₂, t₂⟩ hz₁ ⟨hn, hl, hT⟩
  simp only at hn hl hT ⊢
  subst hn hl
  have W := L.reads _ _ hT
  refine .bind (W.lines _ _ _ hok (hlim _ hz₁)) ?_
  rintro ⟨c₁, m₁⟩ ⟨c₂, m₂⟩ _ ⟨hc', _⟩
  simp only at hc' ⊢
  subst hc'
  rw [hparse]
  refine .bind_same fun parsed _ => ?_
  split
  · exact .pure (RRel.toS hT ⟨rfl, W.same⟩)
  rw [hc.2.1, hc.2.2, W.refs]
  refine .ite (fun _ => .pure (RRel.toS hT ⟨rfl, W.same⟩)) fun _ => .pure ⟨rfl, t₁, t₂, hT, ?_⟩
  exact ⟨⟨rfl, rfl, rfl, rfl, rfl, rfl, rfl⟩, ⟨rfl, rfl, rfl, rfl, rfl, rfl, rfl⟩, rfl, rfl, rfl, rfl, [], [], by simp,
    by simp, NRelL.nil⟩

end look
end Rd
end MdIt.Block
