/-
  Lemmas for `MdIt/Props/PipelineH.lean`: two invariants of the html-free development lifted to the
  parsers with the raw-HTML rules.  Both are facts about ONE side — the block pass (namespace `MdIt.BlockH`),
  the inline parser (namespace `MdIt.InlineH`) —, kept here as what the html pipeline needs of that side.

  1. `BlockH.parseBlocksH_wf` — the well-formedness of the block tree (`Block.WFB`, `Props/Pipeline.lean`
     part A) for the ten-rule engine: its trees are generated by the same grammar
     (`BlockH.parseBlocksH_emits`, `Lemmas/BlockH.lean`), and what the grammar generates is well formed
     (`Block.Emits.goodB`).
  2. `InlineH.parseInlineH_vals` — the value invariant of the inline parser (`Inline.vals_induction`,
     `Lemmas/InlineVals2.lean`): every value of the returned nodes satisfies any `P` that holds of the
     values the configured rules create (`GoodP`); the html rule creates a `special`.  It is the instance
     `keeps_vals` of `InlineH.tokLoopH_kept` (`Lemmas/PipelineHShape.lean`).
-/
import MdIt.Props.BlockH
import MdIt.Props.InlineH
import MdIt.Props.Pipeline
import MdIt.Lemmas.PipelineHShape

/-! ## 1. the block tree is well formed -/

namespace MdIt.BlockH
open MdIt.Block

/-- **`parseBlocksH_wf`**: every tree the ten-rule block parser returns is well formed (`Block.WFB` at
    every node; an html block is a childless leaf): the top is `Root`, ATX levels in `1..6`, setext
    levels in `1..2`, a paragraph / heading has exactly one `InlineRoot` child, … (`Block.parseBlocks_wf`) -/
theorem parseBlocksH_wf {cfg : CfgH} {src : List Char} {root : BNode} {refs : Refs.RefMap}
    (h : parseBlocksH cfg src = .ok (root, refs)) : root.kind = .root ∧ WFB (hasParaH cfg.chain) root := by
  obtain ⟨cs, rfl, hcs⟩ := parseBlocksH_emits h
  exact ⟨rfl, wfb_container (.inl rfl) fun c hc => (hcs c hc).goodB⟩

/-- `list_shape` with html: in every tree `parseBlocksH` returns a list node has only list items as
    children and a list item occurs only under a list node -/
theorem list_shapeH {cfg : CfgH} {src : List Char} {root : BNode} {refs : Refs.RefMap}
    (h : parseBlocksH cfg src = .ok (root, refs)) : Shaped root :=
  (parseBlocksH_wf h).2.shaped

end MdIt.BlockH

/-! ## 2. the value invariant of the inline parser -/

namespace MdIt.InlineH
open MdIt.Inline
open MdIt.InlineOps (Srcmap)

/-- **the value invariant through the tokenizer with the html rule** (any fuel) -/
theorem vals_inductionH (cfg : Cfg) (chain : List RuleIdH) (hch : ∀ r, RuleIdH.base r ∈ chain → r ∈ cfg.chain)
    {P : Val → Prop} (g : GoodP cfg P) (fuel e : Nat) (st st' : IState)
    (h : tokLoopH cfg chain fuel e st = .ok st') (hc : ValsOK P st) : ValsOK P st' :=
  (tokLoopH_kept hch (keeps_vals g) fuel e st st' h hc).2

/-- **`parseInlineH_vals`**: every value in the trees `parseInlineH` returns satisfies `P`, for every
    `P` that holds of the values the configured rules create (the html rule creates a `special`) -/
theorem parseInlineH_vals (cfg : CfgH) {P : Val → Prop} (g : GoodP cfg.base P) {content : List Char}
    {mapping : Srcmap} {cs : List Node} (h : parseInlineH cfg content mapping = .ok cs) :
    AllValsList P cs := by
  unfold parseInlineH tokenizeH at h
  split at h
  · cases h
  · rename_i st hst
    cases h
    exact vals_inductionH cfg.base cfg.chain (fun _ => base_mem) g _ _ _ _ hst
      (by unfold ValsOK IState.init; exact trivial)

end MdIt.InlineH
