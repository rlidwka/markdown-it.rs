/-
  C11 inside containers, code SPANS, block level: a paragraph wrapped in containers keeps its inline text.  The
  instance of `wrapAll_commutes` (`Lemmas/C11Wrap.lean`) for the leaf `Paragraph[InlineRoot c m]`: the paragraph
  stays, or — in a list item — is unwrapped by `mark_tight_paragraphs` (`paraLeaf`), and the entries of the table `m`
  go where `posMap` sends them (`reloc_paraLeaf`).  For a document of ONE line every position of the tree lies on
  line 0 and moves by the width of the prefixes (`parseBlocks_para_nested`); the `n`-line paragraph with its per-line
  table is in `Lemmas/C11SpanCtxBlock.lean`.
-/
import MdIt.Lemmas.C11Wrap

namespace MdIt.C11N
open MdIt.Block MdIt.Block.Li
open MdIt.Lines (NoTerm lead IsTerminator)

/-- the placeholder the inline pass replaces: inline text `c`, the per-line table `m` moved by `W` bytes -/
def inlineRootAt (c : List Char) (m : List (Nat × Nat)) (W : Nat) : BNode :=
  ⟨.inlineRoot c (m.map fun kv => (kv.1, kv.2 + W)), none, []⟩

/-- the paragraph (from byte `W + a` to `E`) over the placeholder — or, unwrapped by
    `mark_tight_paragraphs` (`tg`), the placeholder alone -/
def paraLeaf (c : List Char) (m : List (Nat × Nat)) (a W E : Nat) (tg : Bool) : List BNode :=
  if tg then [inlineRootAt c m W] else [⟨.paragraph, some (W + a, E), [inlineRootAt c m W]⟩]

/-- the paragraph leaf of a tight run, relocated: the table entries go where `σ` sends them -/
theorem reloc_paraLeaf (σ : Nat → Nat) (c : List Char) (m m' : List (Nat × Nat)) (a W E E' : Nat) (tg : Bool)
    (ha : σ a = a + W) (hE : σ E = E')
    (hm : (m.map fun kv => (kv.1, σ kv.2)) = m'.map fun kv => (kv.1, kv.2 + W)) :
    relocNodes σ (if tg && true then markTight [⟨.paragraph, some (a, E), [⟨.inlineRoot c m, none, []⟩]⟩]
      else [⟨.paragraph, some (a, E), [⟨.inlineRoot c m, none, []⟩]⟩]) = paraLeaf c m' a W E' tg := by
  have hir : relocNodes σ [⟨.inlineRoot c m, none, []⟩] = [inlineRootAt c m' W] := by
    simp only [relocNodes, relocNode, relocKind, inlineRootAt, Option.map_none, hm]
  cases tg
  · simp only [Bool.false_and, Bool.false_eq_true, if_false, relocNodes]
    rw [relocNode, hir]
    simp only [Option.map_some, ha, hE, paraLeaf, Nat.add_comm a, Bool.false_eq_true, if_false]
    rfl
  · simp only [Bool.true_and, if_true, markTight, List.append_nil, hir, paraLeaf]

theorem wrapAllLines_single (w : List Wrapper) (l : List Char) : wrapAllLines w [l] = [firstLine w l] := by
  obtain ⟨r', h, hl⟩ := wrapAllLines_cons w l []
  have : r' = [] := List.length_eq_zero_iff.mp (by simpa using hl)
  rw [h, this]

/-- **a one-line paragraph inside containers, block level.**  `l` a tab-free, terminator-free line that
    starts with a character other than a blank and that, as a document, parses to one paragraph
    (`Root[Paragraph[InlineRoot c m]]`, the paragraph from byte `a`).  Inside any list `w` of wrappers
    (conditions as in `parseBlocks_nested`) the block tree is the chain of wrapper nodes around that paragraph
    — or, exactly when the innermost wrapper is a list item (`tightOf w`: the run on the one-paragraph document
    ends `tight`, hypothesis `htight`), around the bare placeholder, the paragraph unwrapped by
    `mark_tight_paragraphs` — and the placeholder holds the
    SAME inline text `c`; its per-line table is `m` moved by the width of the prefixes.  The inline rules
    (`CodePair.span_verbatim_ctx` for a code span) therefore see the text they see at top level. -/
theorem parseBlocks_para_nested (cfg : Cfg) (hmn : 0 < cfg.maxNesting) (c : List Char) (m : List (Nat × Nat)) (a : Nat)
    (l : List Char) (g : Good [l]) (hf : FirstLineOk l) (ha : a ≤ Lines.byteLen l)
    (hm : ∀ kv ∈ m, kv.2 ≤ Lines.byteLen l)
    (hbase : parseBlocks cfg (docOf [l]) =
      .ok (⟨.root, some (0, Lines.byteLen (docOf [l])),
            [⟨.paragraph, some (a, Lines.byteLen (docOf [l])), [⟨.inlineRoot c m, none, []⟩]⟩]⟩, []))
    (htight : ∀ t, tokenize cfg (fuelFor cfg (docOf [l])) (BState.fresh (docOf [l]) .root []) = .ok t → t.tight = true) :
    ∀ (w : List Wrapper), (∀ x ∈ w, x.Ok) → ChainFor cfg.chain w →
      (.hr ∈ cfg.chain.takeWhile (· ≠ .list) → HrFree w l) →
      Lines.byteLen (docOf [firstLine w l]) + 20 < 2147483648 →
      parseBlocks { cfg with maxNesting := cfg.maxNesting + depthCost w } (docOf [firstLine w l]) =
        .ok (⟨.root, some (0, Lines.byteLen (docOf [firstLine w l])),
              wrapForest (Lines.byteLen (docOf [firstLine w l])) w 0
                (paraLeaf c m a (widthAll w) (Lines.byteLen (docOf [firstLine w l])) (tightOf w))⟩, []) := by
  intro w hw hch hhr hsize
  rw [← wrapAllLines_single] at hsize ⊢
  rw [wrapAll_commutes cfg hmn l [] g hf _ [] true hbase htight w hw hch hhr hsize]
  have hfst : ∀ p, p ≤ Lines.byteLen l → posMap w [l] p = p + widthAll w := fun p hp => posMap_first g hw (by omega) hp
  rw [reloc_paraLeaf _ c m m a (widthAll w) _ _ (tightOf w) (hfst a ha) (posMap_end g hw (by omega))
    (List.map_congr_left fun kv hkv => by rw [hfst _ (hm kv hkv)])]

end MdIt.C11N
