/-
  For `Props/MemoSafe.lean`: THE NESTED FRAMES, namespace `MdIt.Inline` (no invariant on `inside_failed`).

  Inside a nested label frame (the `tokenize` call the real link rule makes on `[labelStart, labelEnd)`)
  the memo `m` is constant and `skip_token` never misses it: the real tokenizer walks along the memo
  entries of the label walk that found `labelEnd` (`NF.outer`, `Lemmas/MemoSafeLamDef.lean`), and each of
  its steps at a position `k` with entry `k ↦ v` is the step the look-ahead took when it MADE the entry
  (the witness `Just`, `Lemmas/MemoSafeLamDef.lean`).  Consequently the guarded nested run EQUALS the
  model's nested run and leaves the memo alone (`nested_eq`), under the per-rule comparison statements
  (L2) of `Lemmas/MemoSafeLamDef.lean`, bundled in `NestHyps`.

  The argument itself is `Lemmas/MemoSafeLamFrameKit.lean`; here `NF` is shown to meet its closure
  properties (`nestKit`, `nestKit_loop`), and `chain_L2`, `nested_eq` are its `chain_L2`, `nested_eq` read
  in the structures of this namespace (`nested_tokEq`: in the `TokEqAt` shape of
  `Lemmas/MemoSafeLamFinal.lean`).

  NOTE on `B` (the code-span cache invariant): the witness `Just` gives `B` for
  the state the look-ahead step started from, and nothing says the witness's `skip_token` preserves `B`,
  so `B` of the INTERMEDIATE witness states (behind a declining look-ahead link / image call, which ran
  `skip_token`) is not available in general.  It is only needed at a backtick (`BackL2`), where the
  link / image rules decline on the first character and every other flat look-ahead rule returns the
  state it was given (`wit_back`); at any other character the code-span rule declines with the state
  unchanged in both modes (`backticks_other`) and `BackL2` is not used.
-/
import MdIt.Lemmas.MemoSafeLamFrameKit
import MdIt.Lemmas.KernelEval

namespace MdIt.Inline

/-- the hypotheses of the nested induction: a coherent chain with at most one link / image rule, and
    the per-rule comparison statements of `Lemmas/MemoSafeLamDef.lean` -/
structure NestHyps (cfg : Cfg) (B : List Char → CodePair.Cache → Prop) (src : List Char) (Mtop : Nat) :
    Prop where
  coh : ChainCoherent cfg = true
  hB : BackOK B
  flat : FlatL2 cfg
  back : RuleId.backticks ∈ cfg.chain → BackL2 cfg B src Mtop
  keep : RealKeeps cfg
  emph : EmphL2 cfg
  plLink : RuleId.link ∈ cfg.chain → ParseLinkL2Part cfg B src Mtop 0 false
  plImage : RuleId.image ∈ cfg.chain → ParseLinkL2Part cfg B src Mtop 1 true
  one : cfg.chain.count .link ≤ 1 ∧ cfg.chain.count .image ≤ 1

/-! ## the fixed data of one real step -/

/-- a witness state `w` (look-ahead, top `pos_max`) and a real state `x` of the nested frame at the same
    position.  `B` of the witness state is only needed (and only available) at a backtick. -/
structure Pair (cfg : Cfg) (B : List Char → CodePair.Cache → Prop) (src : List Char) (Mtop : Nat)
    (m : List (Nat × Nat)) (k le : Nat) (ch : Char) (w x : IState) : Prop where
  wi : LInv w
  wsrc : w.src = src
  wmax : w.posMax = Mtop
  wpos : w.pos = k
  wB : ch = '`' → B w.src w.backticks
  nf : NF cfg B src Mtop x
  xpos : x.pos = k
  xmax : x.posMax = le
  xcache : x.cache = m

/-- one real rule call (verdict `o`, state `x'`) against its witness call (verdict `o1`): the memo, the
    text, `pos_max` are kept, `B` is kept, and the verdicts are in step — both decline; or the real
    rule answers and ends where the memo entry ends; or the real rule is the emphasis rule at a run of
    its marker (the witness declined: look-ahead never answers there) -/
def RulePost (cfg : Cfg) (B : List Char → CodePair.Cache → Prop) (src : List Char) (ch : Char)
    (v k le : Nat) (o1 : Option Nat) (x : IState) (o : Option Nat) (x' : IState) : Prop :=
  x'.cache = x.cache ∧ x'.src = x.src ∧ x'.posMax = x.posMax ∧ B x'.src x'.backticks ∧
  ((o = none ∧ o1 = none ∧ x'.pos = x.pos ∧ ∃ lo, Good lo x') ∨
   (∃ len, o = some len ∧ (∃ n, o1 = some n) ∧ x'.pos + len = v) ∨
   (∃ n, o = some n ∧ x'.pos = x.pos ∧ MarkerRun cfg src ch k le n))

/-- the callees of one real step: the guarded pair and the model pair -/
structure Callees (cfg : Cfg) (B : List Char → CodePair.Cache → Prop) (src : List Char) (Mtop : Nat)
    (f : Nat) (skipG skipM tokG tokM : IState → Except Panic IState) : Prop where
  calm : CalmFn skipG
  skT : SkipHypT skipG
  tokT : TokHypT tokG
  rng : RangesFn tokG
  hits : f = 0 ∨ (FollowsHits skipG ∧ FollowsHits skipM)
  tokEq : ∀ s, NF cfg B src Mtop s → tokG s = tokM s ∧
    ∀ s', tokG s = .ok s' → s'.cache = s.cache ∧ B s'.src s'.backticks

section
variable {cfg : Cfg} {B : List Char → CodePair.Cache → Prop} {src : List Char} {Mtop : Nat}

/-- `NF` reads `src`, `posMax`, `pos`, `cache`, `backticks` and `Good` only -/
theorem NF.of_same {x x' : IState} (h : NF cfg B src Mtop x) (hc : x'.cache = x.cache)
    (hs : x'.src = x.src) (hm : x'.posMax = x.posMax) (hp : x'.pos = x.pos)
    (hb : B x'.src x'.backticks) (hg : ∃ lo, Good lo x') : NF cfg B src Mtop x' :=
  ⟨by rw [hc]; exact h.ctx, hs.trans h.hsrc, hb, hg, by rw [hm]; exact h.cut,
    by rw [hc, hm, hp]; exact h.outer⟩

variable {m : List (Nat × Nat)} {k le v : Nat} {ch : Char} {rest : List Char} {w x : IState}

theorem Pair.real (P : Pair cfg B src Mtop m k le ch w x) {x' : IState} (hc : x'.cache = x.cache)
    (hs : x'.src = x.src) (hm : x'.posMax = x.posMax) (hp : x'.pos = x.pos)
    (hb : B x'.src x'.backticks) (hg : ∃ lo, Good lo x') : Pair cfg B src Mtop m k le ch w x' :=
  ⟨P.wi, P.wsrc, P.wmax, P.wpos, P.wB, P.nf.of_same hc hs hm hp hb hg, hp.trans P.xpos,
    hm.trans P.xmax, hc.trans P.xcache⟩

end

/-- at a backtick every look-ahead rule call keeps the code-span cache invariant: only the code-span
    rule touches the cache there (the link / image rules decline on the first character) -/
theorem wit_back {cfg : Cfg} {B : List Char → CodePair.Cache → Prop} (hB : BackOK B)
    {skip tok : IState → Except Panic IState} {fuel : Nat} {id : RuleId} {w w1 : IState}
    {rest : List Char} (hw : w.window = .ok ('`' :: rest)) (hb : B w.src w.backticks)
    {o1 : Option Nat} (h : silentBumped (runRule cfg skip tok fuel id) w = .ok (o1, w1)) :
    B w1.src w1.backticks := by
  obtain ⟨wb, hwb, rfl⟩ := silentBumped_ok h
  show B wb.src wb.backticks
  rcases wit_at_backtick (w := { w with level := w.level + 1 }) hw hwb with hr | e
  · exact hB _ true _ _ hr hb
  · rw [e]; exact hb

/-! ## `NF` meets the closure properties of `Lemmas/MemoSafeLamFrameKit.lean` -/

section
variable {cfg : Cfg} {B : List Char → CodePair.Cache → Prop} {src : List Char} {Mtop : Nat}

/-- the strand of this namespace: `N := NF`; a rule call keeps the memo and `B`; nothing is known of a
    witness state besides `B` -/
def nestKit (H : NestHyps cfg B src Mtop) : NestKit cfg B src Mtop where
  N := NF cfg B src Mtop
  R := fun s s' => s'.cache = s.cache ∧ B s'.src s'.backticks
  W := fun _ => True
  coh := H.coh
  flat := H.flat
  keep := H.keep
  emph := H.emph
  one := H.one
  toNF := id
  R_trans := fun a b => ⟨b.1.trans a.1, b.2⟩
  R_cache := fun h => h.1
  R_congr := fun h a1 _ _ b1 b2 b3 => ⟨by rw [b1, h.1, a1], by rw [b2, b3]; exact h.2⟩

theorem nestKit_loop (H : NestHyps cfg B src Mtop) : (nestKit H).Loop where
  frame :=
    { hsrc := fun h => h.hsrc
      back := fun h => h.back
      good := fun h => h.good
      memo := fun h => h.memoB
      ctx := fun h => h.ctx
      win := fun h => .inr ⟨h.top_lt, h.cut⟩
      refl := fun h => ⟨rfl, h.back⟩
      same := fun hn r hs hm hp hg => hn.of_same r.1 hs hm hp r.2 hg
      enter := fun _ hy _ _ _ _ _ => hy
      witBack := fun _ _ _ _ _ _ _ _ hw hb _ h => ⟨wit_back H.hB hw hb h, trivial⟩
      backL2 := fun {skip tok skip' tok' fuel fuel' w x o0 wb o x'} hid hn _ hs hm hp hW _ hb _ hwb
          hreal => by
        obtain ⟨l1, l2⟩ := H.back hid skip tok skip' tok' fuel fuel' { w with level := w.level + 1 } x
          hW.bump hs hm (hn.hsrc.trans hs.symm) hp.symm hb hn.back o0 wb o x' hwb hreal
        have hreal' : liftR (ruleBackticks x false) = .ok (o, x') := hreal
        exact ⟨l1, l2, (H.keep skip' tok' fuel' .backticks rfl x o x' hreal).2.1,
          H.hB x false o x' (liftR_ok.mp hreal') hn.back⟩
      pl := PLPart.of_nf id H.plLink H.plImage }
  wit := fun hn hlk hv hsl => by
    rcases hn.ctx.just _ _ (lookup_mem hlk) with h | hJ
    · omega
    · obtain ⟨skip0, tok0, f0, st0, st0', hq0, hs0, hg0, hi0, hsrc0, hmax0, hpos0, hlt0, hB0, hmiss, hstep,
        hv, hmono⟩ := hJ
      obtain ⟨o0, w', h⟩ :=
        skipStep_chain hq0 hs0 hg0 hi0 hsrc0 hmax0 hpos0 hlt0 hmiss hstep hv hmono hsl
      exact ⟨skip0, tok0, f0, st0, o0, w', hq0, hs0, hg0, hi0, hsrc0, hmax0, hpos0, hB0, trivial, h⟩
  next := fun hn _ _ r hs hm hg hO _ =>
    ⟨by rw [r.1]; exact hn.ctx, hs.trans hn.hsrc, r.2, hg, by rw [hm]; exact hn.cut,
      by rw [r.1, hm]; exact hO⟩

end

/-! ## the chain -/

section
variable {cfg : Cfg} {B : List Char → CodePair.Cache → Prop} {src : List Char} {Mtop : Nat}
  {f : Nat} {skipG skipM tokG tokM : IState → Except Panic IState}
  {skip0 tok0 : IState → Except Panic IState} {f0 : Nat}
  {m : List (Nat × Nat)} {k le v : Nat} {ch : Char} {rest : List Char}

/-- **the chain comparison**: the witness chain (look-ahead, from `w`, final verdict `o0`, whose memo
    the nested memo `m` extends) against the real chain at the nested state `x`, over a suffix of
    `cfg.chain` — the guarded side equals the model side, and the real chain keeps the memo / `B` and
    ends where the memo entry `k ↦ v` ends, or in a delimiter run of an emphasis marker -/
theorem chain_L2 (H : NestHyps cfg B src Mtop) (C : Callees cfg B src Mtop f skipG skipM tokG tokM)
    (S : StepCtx src Mtop m k le v ch rest)
    (hq0 : CalmFn skip0) (hs0 : SkipHypT skip0) (hg0 : SkipGrowHyp skip0) :
    ∀ (rules : List RuleId), (∀ id ∈ rules, id ∈ cfg.chain) → rules.count .link ≤ 1 →
      rules.count .image ≤ 1 →
      ∀ (w x : IState), Pair cfg B src Mtop m k le ch w x →
      ∀ o0 w', firstRule (fun id s => silentBumped (runRule cfg skip0 tok0 f0 id) s) rules w
          = .ok (o0, w') →
        LookupMono w'.cache m → (o0 = none → v = k + ch.utf8Size) → (∀ n, o0 = some n → v = k + n) →
        firstRule (fun id s => runRule cfg skipG tokG f id s false) rules x =
          firstRule (fun id s => runRule cfg skipM tokM f id s false) rules x ∧
        ∀ o x', firstRule (fun id s => runRule cfg skipG tokG f id s false) rules x = .ok (o, x') →
          RulePost cfg B src ch v k le o0 x o x' := by
  intro rules hall hcl hci w x P o0 w' hwit hmono hn0 hs0'
  obtain ⟨e, post, _⟩ := NestKit.chain_L2 (K := nestKit H) (nestKit_loop H).frame
    ⟨C.calm, C.skT, C.tokT, C.rng, C.hits, C.tokEq⟩ S hq0 hs0 hg0 rules hall hcl hci w x
    ⟨P.wi, P.wsrc, P.wmax, P.wpos, P.wB, fun _ => trivial, P.nf, P.xpos, P.xmax, P.xcache⟩ o0 w' hwit
    hmono hn0 hs0'
  exact ⟨e, fun o x' h => have ⟨b, c, r, d⟩ := post o x' h; ⟨r.1, b, c, r.2, d⟩⟩

end

/-! ## the induction on fuel -/

section
variable {cfg : Cfg} {B : List Char → CodePair.Cache → Prop} {src : List Char} {Mtop : Nat}

/-- **inside a nested label frame the guarded tokenizer IS the model tokenizer**, at every fuel, and it
    leaves the memo alone and keeps the code-span cache invariant -/
theorem nested_eq (H : NestHyps cfg B src Mtop) : ∀ (f : Nat) (s : IState), NF cfg B src Mtop s →
    tokLoopG cfg true f s.posMax s = tokLoop cfg f s.posMax s ∧
    ∀ s', tokLoopG cfg true f s.posMax s = .ok s' → s'.cache = s.cache ∧ B s'.src s'.backticks :=
  NestKit.nested_eq (nestKit_loop H)

/-- `nested_eq` in the form the top-frame development consumes (`TokEqAt` of
    `Lemmas/MemoSafeLamFinal.lean`, with `P := NF cfg B src Mtop`) -/
theorem nested_tokEq (H : NestHyps cfg B src Mtop) (f : Nat) (s : IState)
    (hnf : NF cfg B src Mtop s) :
    (fun s : IState => tokLoopG cfg true f s.posMax s) s = (fun s : IState => tokLoop cfg f s.posMax s) s ∧
    ∀ s', (fun s : IState => tokLoopG cfg true f s.posMax s) s = .ok s' →
      s'.cache = s.cache ∧ (B s.src s.backticks → B s'.src s'.backticks) :=
  ⟨(nested_eq H f s hnf).1, fun s' h => ⟨((nested_eq H f s hnf).2 s' h).1,
    fun _ => ((nested_eq H f s hnf).2 s' h).2⟩⟩

end

/-! ## examples

`NF` is an invariant of a RUN (its `JustAll` component quantifies over the look-ahead steps that made the
memo), so the examples check the CONCLUSION of `nested_eq` on the nested frame a real run enters, and
show that it fails for a frame entered with a crossing memo entry (where `NF.outer` is false). -/

/-- the nested frame `[1, 7)` of the outer link of `[[a](b)](c)`, as the real link rule enters it: the
    look-ahead of the top frame left the memo `2 ↦ 3`, `1 ↦ 7` -/
def exNested : IState :=
  { src := "[[a](b)](c)".toList, srcmap := [(0, 0)], pos := 1, posMax := 7, level := 1, linkLevel := 1,
    cache := [(1, 7), (2, 3)], backticks := CodePair.Cache.empty, children := [], bottoms := [] }

-- guarded run = model run on the nested frame (same memo, same end, one child: the inner link), and
-- the memo is left alone although the frame contains a link whose rule calls `parse_link` again
example :
    (tokLoopG (entryCfg 100) true 20 exNested.posMax exNested).toOption.map
        (fun s => (s.cache, s.pos, s.children.length)) = some ([(1, 7), (2, 3)], 7, 1) ∧
    (tokLoop (entryCfg 100) 20 exNested.posMax exNested).toOption.map
        (fun s => (s.cache, s.pos, s.children.length)) = some ([(1, 7), (2, 3)], 7, 1) := by
  decide +kernel

/-- `0` a value, `1` out of fuel / guard, `2` a Rust panic -/
def outcome : Except Panic IState → Nat
  | .ok _ => 0
  | .error .fuel => 1
  | .error (.rust _) => 2

/-- the label frame `[3, 7)` of the finding `witness_panics` (`Props/InlineTotal.lean`; incoherent chain:
    an emphasis pair on the backtick in front of the code-span rule), entered with the crossing entry
    `6 ↦ 13`: no label walk over this memo finds the frame end (`NF.outer` fails), the guard trips, the
    model panics — the conclusion of `nested_eq` is false there -/
example :
    outcome (tokLoopG { exCfg 100 with chain := [.emph '`' true, .backticks, .link] } true 20 7
      { src := "[`[a`[`](u) `".toList, srcmap := [(0, 0)], pos := 3, posMax := 7, level := 1,
        linkLevel := 1, cache := [(6, 13)], backticks := CodePair.Cache.empty, children := [],
        bottoms := [] }) = 1 ∧
    outcome (tokLoop { exCfg 100 with chain := [.emph '`' true, .backticks, .link] } 20 7
      { src := "[`[a`[`](u) `".toList, srcmap := [(0, 0)], pos := 3, posMax := 7, level := 1,
        linkLevel := 1, cache := [(6, 13)], backticks := CodePair.Cache.empty, children := [],
        bottoms := [] }) = 2 := by
  decide_lits

end MdIt.Inline
