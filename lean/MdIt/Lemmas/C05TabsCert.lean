/-
  The inline-coordinate certificate (Lemmas/InlineCert.lean) for ANY `get_lines` table: stretches
  are the sub-stretches of line-feed-free stretches that start with a solid character
  (`stretch_within`: `W = Within c`, `S = Anchored c`); `MapT`, `SolidMarkers` and `CtxV` give the
  table interfaces `Shift`, `Markers`, `Low`; the certificate lowers to boundaries and the text
  clause with the code-span exemption (`ICN.fthNV`, the instance of `ICN.lower` for `FthNV`).
  Name prefix `tx_`: laws of `Within` / `Anchored` (the stretches of the text clause).
-/
import MdIt.Lemmas.InlineCertLower
import MdIt.Lemmas.InlineCertBase
import MdIt.Lemmas.C05TabsDefs3

namespace MdIt.C05T
open MdIt.Inline
open MdIt.InlineOps (Srcmap getSourcePosFor getMap byteLen slice)
open MdIt.C05R (Cut Bdy Sel Adj Adjd StrictTop TextLike textOf)

theorem MapT.mapMono {src : List Char} {m : Srcmap} (h : MapT src m) : MapMono m :=
  ⟨h.wf, h.mono⟩

/-! ## `Within`, `Anchored` -/

theorem tx_within_of_solid {c : List Char} {p q : Nat} {ch : Char} {w : List Char}
    (hc : Cut c p q (ch :: w)) (h1 : ch ≠ ' ') (h2 : ch ≠ '\n') (h3 : '\n' ∉ w) : Within c p q :=
  ⟨p, q, ch, w, hc, h1, h2, h3, Nat.le_refl _, hc.le, Nat.le_refl _⟩

theorem tx_within_of_anchored {c : List Char} {pos stop : Nat} {w : List Char}
    (ha : Anchored c pos) (hc : Cut c pos stop w) (hn : '\n' ∉ w) : Within c pos stop := by
  obtain ⟨p, ch0, w0, hcut, h1, h2, h3⟩ := ha
  refine ⟨p, stop, ch0, w0 ++ w, ?_, h1, h2, ?_, hcut.le, hc.le, Nat.le_refl _⟩
  · have := hcut.append hc; simpa using this
  · intro hm
    rcases List.mem_append.mp hm with h | h
    · exact h3 h
    · exact hn h

theorem tx_within_sub {c : List Char} {p1 p2 q1 q2 : Nat} (h : Within c p1 p2) (h1 : p1 ≤ q1)
    (h2 : q1 ≤ q2) (h3 : q2 ≤ p2) : Within c q1 q2 := by
  obtain ⟨p, q, ch0, w0, hcut, k1, k2, k3, hp1, _, hp2⟩ := h
  exact ⟨p, q, ch0, w0, hcut, k1, k2, k3, by omega, h2, by omega⟩

theorem tx_within_extend {c : List Char} {s e e' : Nat} {piece : List Char} (h : Within c s e)
    (hc : Cut c e e' piece) (hn : '\n' ∉ piece) : Within c s e' := by
  obtain ⟨p, q, ch0, w0, hcut, h1, h2, h3, hps, hse, heq⟩ := h
  have hle := hc.le
  by_cases hq : e' ≤ q
  · exact ⟨p, q, ch0, w0, hcut, h1, h2, h3, hps, by omega, hq⟩
  · obtain ⟨u, v, huv, _, c2⟩ := hc.split hcut.bdy_right heq (by omega)
    have hcat := hcut.append c2
    refine ⟨p, e', ch0, w0 ++ v, by simpa using hcat, h1, h2, ?_, hps, by omega, Nat.le_refl _⟩
    intro hm
    rcases List.mem_append.mp hm with h | h
    · exact h3 h
    · exact hn (by rw [huv]; exact List.mem_append_right _ h)

theorem tx_anchored_of_cut {c : List Char} {p q : Nat} {ch : Char} {w : List Char}
    (hc : Cut c p q (ch :: w)) (h1 : ch ≠ ' ') (h2 : ch ≠ '\n') (h3 : '\n' ∉ w) : Anchored c q :=
  ⟨p, ch, w, hc, h1, h2, h3⟩

/-! ## `BdN` is a projection of `FthNV` -/

theorem BdN.of_fthNV {src : List Char} {ex : Bool} {n : Node} (h : FthNV src ex n) : BdN src n := by
  induction n using Inline.node_induct generalizing ex with
  | step n ih =>
    rw [FthNV_eq] at h
    rw [BdN_eq]
    obtain ⟨⟨a, b, hr, ha, hb, _, _, hm, _⟩, hd⟩ := h
    exact ⟨⟨a, b, hr, ha, hb, hm⟩, (bdL_iff _ _).mpr fun x hx => ih x hx ((fthLV_iff _ _ _).mp hd x hx)⟩

/-- `BdN` keeps of `FthNV` the range, the two boundaries and the marker clause -/
theorem BdL.of_fthLV {src : List Char} {ex : Bool} {l : List Node} (h : FthLV src ex l) : BdL src l :=
  (bdL_iff _ _).mpr fun x hx => .of_fthNV ((fthLV_iff _ _ _).mp h x hx)

end MdIt.C05T

namespace MdIt.IC
open MdIt.Inline
open MdIt.InlineOps (Srcmap getSourcePosFor byteLen)
open MdIt.C05R (Cut Bdy Sel Adjd StrictTop TextLike)
open MdIt.C05T (CharAt Within Anchored NoTextLast isCode)

theorem stretch_within (c : List Char) : Stretch c (Within c) (Anchored c) where
  sub := C05T.tx_within_sub
  extend := C05T.tx_within_extend
  solid := C05T.tx_within_of_solid
  start := C05T.tx_within_of_anchored
  after := C05T.tx_anchored_of_cut


theorem low_of_ctxV {src c : List Char} {m : Srcmap} (h : C05T.CtxV src c m) :
    Low src c m (Within c) where
  mono := h.map.mono
  bdy := h.fth.bdy
  copy := by
    intro p q w a b hc _ hw ha hb
    obtain ⟨p0, q0, ch0, w0, hcut, h1, h2, h3, hp1, _, hp2⟩ := hw
    exact h.fth.copy p0 q0 ch0 w0 p q w a b hcut h1 h2 h3 hp1 hp2 hc ha hb
  brk := h.fth.brk

theorem shift_of_mapT {c : List Char} {m : Srcmap} (h : C05T.MapT c m) : Shift c m (Within c) where
  wf := h.wf
  shift := by
    intro p q w p1 p2 x1 x2 _ _ hw h1 h12 h2 e1 e2
    obtain ⟨p0, q0, ch0, w0, hcut, k1, k2, k3, hp1, _, hp2⟩ := hw
    exact h.shift p0 q0 ch0 w0 p1 p2 x1 x2 hcut k1 k2 k3 (by omega) h12 (by omega) e1 e2

theorem markers_of_solid {c : List Char} {chain : List RuleId} (h : C05T.SolidMarkers chain) :
    Markers c (Within c) (Anchored c) chain := by
  intro mk csw hm
  obtain ⟨h1, h2, h3⟩ := h mk csw hm
  refine ⟨h1, h2, ?_⟩
  intro p q n hn hc
  obtain ⟨k, rfl⟩ : ∃ k, n = k + 1 := ⟨n - 1, by omega⟩
  rw [List.replicate_succ] at hc
  have hlf := C05R.em_not_mem_replicate h2 k
  exact ⟨C05T.tx_within_of_solid hc h3 h2 hlf, C05T.tx_anchored_of_cut hc h3 h2 hlf⟩


section
variable {src c : List Char} {m : Srcmap} {W : Nat → Nat → Prop}

/-! ## boundaries and text clause, all sources -/

/-- **all sources**: boundaries at every node, the text clause at every `Text` that is not the child
    of a code span -/
theorem ICN.fthNV (hl : Low src c m W) {ex : Bool} {p q : Nat} {n : Node}
    (h : ICN c m W ex p q n) : C05T.FthNV src ex n :=
  h.lower hl (P := C05T.FthNV src) fun _ _ a b hr ha hb ht hs he hadj hch =>
    (C05T.FthNV_eq _ _ _).mpr ⟨⟨a, b, hr, ha, hb, fun hex t hv => ht t hv (.inl hex), hs, he, hadj⟩,
      (C05T.fthLV_iff _ _ _).mpr hch⟩

theorem ICL.fthLV (hl : Low src c m W) {ex : Bool} {lo hi : Nat} {l : List Node}
    (h : ICL c m W ex lo hi l) : C05T.FthLV src ex l :=
  (C05T.fthLV_iff _ _ _).mpr fun x hx => by obtain ⟨_, _, hx'⟩ := h.mem hx; exact hx'.fthNV hl

/-! ## the frame invariants in source coordinates are images of `ICF` -/

theorem ICF.riv {S : Nat → Prop} {A : Prop} {lo pm pos lo' : Nat} {cs : List Node}
    (hm : C05T.MapT c m) (hf : ICF c m (Within c) S A lo pm pos cs)
    (hlo : getSourcePosFor m lo = .ok lo') : C05T.RIv A c m lo' pos cs :=
  ⟨hf.ri hm.mapMono (shift_of_mapT hm) hlo, hf.nolf⟩

theorem ICF.fiv {A : Prop} {lo pm pos : Nat} {cs : List Node} (hl : Low src c m (Within c))
    (hf : ICF c m (Within c) (Anchored c) A lo pm pos cs) : C05T.FIV src c m pm pos cs := by
  refine ⟨hf.bpos, hf.tiles.fthLV hl, hf.adj, hf.tiles.strictTop hl, hf.tail, ?_, hf.anch⟩
  intro init last hcs hlt hn
  obtain ⟨_, p, _, _, hicn⟩ := hf.trail init last hcs hlt
  obtain ⟨_, _, _, hcut, hw⟩ := hicn.text_inv hlt
  exact ⟨p, hcut, hw hn⟩

theorem ICF.bi {S : Nat → Prop} {A : Prop} {lo pm pos : Nat} {cs : List Node}
    (hl : Low src c m (Within c)) (hf : ICF c m (Within c) S A lo pm pos cs) :
    C05T.BI src c m pos cs :=
  ⟨hf.bpos, .of_fthLV (hf.tiles.fthLV hl)⟩

end

end MdIt.IC
