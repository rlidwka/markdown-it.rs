/-
  The geometry of the block tokenizer (C05, block side): what a state's line table and the nodes a rule
  pushes have to do with byte positions of the source.

    `Geo`           the table invariant: every entry cuts a line out of the source (`TableOk`), the lines are in
                    source order, the indent is at most 4 columns per blank byte, the source is below the
                    `i32` bound of `indent_nonspace` / `blk_indent`.
    `Refines`       containers keep the line spans of the table and move `first_nonspace` to the right only;
                    `Lines.calcRightWs_ge` with `bqRewrite_cut` / `itemRewrite_cut`: an indented code block
                    on the first line of a quote / list item starts behind the marker.
    `RangedB P`     a block node: proper range on character boundaries, the spans of its children consecutive
                    inside it (`OrderedB`); `P content mapping a b` is what is claimed of an `InlineRoot`
                    placeholder whose text is placed in `[a, b]`.
    `KidsOk`, `StartsGe`, `KeepsGeo`   the invariant of the children under construction.
    `InlSpec`       what the producers of placeholders must establish from `Geo` alone.
  The walk over the nine rules is in Lemmas/C05InlineGeo.lean, for the stronger state invariant the claims
  about placeholder tables need.
-/
import MdIt.Props.Block

/-! ## two facts about columns -/

namespace MdIt.Lines

/-- asking for at most the columns `b` occupies behind `a` never cuts into `a` -/
theorem calcGo_ge (a : List Char) (rb : List Char) (k : Int) (start : Nat)
    (hs : start = byteLen a + byteLen rb)
    (hk : k ≤ (widthFrom (indentWidth a) rb.reverse : Int) - (indentWidth a : Int)) :
    byteLen a ≤ (calcGo k start (rb ++ a.reverse)).2 := by
  induction rb generalizing start k with
  | nil =>
    simp only [List.reverse_nil, widthFrom, List.foldl_nil, Int.sub_self, List.nil_append] at hk ⊢
    subst hs
    cases a.reverse with
    | nil => simp only [calcGo]; rw [if_neg (by omega)]; simp
    | cons c r => simp only [calcGo]; rw [if_neg (by omega)]; simp
  | cons c rb' ih =>
    have hcong : countUntil '\t' (rb' ++ a.reverse) % 4
        = widthFrom (indentWidth a) rb'.reverse % 4 := by
      have := countUntil_tab_mod (rb' ++ a.reverse)
      rw [List.reverse_append, List.reverse_reverse, indentWidth_append] at this
      exact this
    have hge := widthFrom_ge (indentWidth a) rb'.reverse
    rw [List.reverse_cons, widthFrom_append] at hk
    generalize widthFrom (indentWidth a) rb'.reverse = w' at *
    simp only [widthFrom, List.foldl_cons, List.foldl_nil] at hk
    simp only [List.cons_append, calcGo]
    have hstart : byteLen a ≤ start := by omega
    by_cases hpos : k > 0
    · rw [if_pos hpos]
      by_cases hc : c = '\t'
      · subst hc
        simp only [colStep, if_true] at hk
        simp only [if_true]
        rw [hcong]
        split
        · exact hstart
        · exact ih _ _ (by simp; omega) (by omega)
      · simp only [colStep, if_neg hc] at hk
        rw [if_neg hc]
        exact ih _ _ (by simp; omega) (by omega)
    · rw [if_neg hpos]; exact hstart

theorem calcRightWs_ge (a b : List Char) (k : Int)
    (hk : k ≤ (indentWidth (a ++ b) : Int) - (indentWidth a : Int)) :
    byteLen a ≤ (calcRightWs (a ++ b) k).2 := by
  unfold calcRightWs
  rw [List.reverse_append]
  rw [indentWidth_append] at hk
  have := calcGo_ge a b.reverse k (byteLen (a ++ b)) (by simp) (by rw [List.reverse_reverse]; exact hk)
  exact this

theorem widthFrom_le (col : Nat) (l : List Char) : widthFrom col l ≤ col + 4 * l.length := by
  induction l generalizing col with
  | nil => simp [widthFrom]
  | cons c r ih =>
    have h2 := ih (colStep col c)
    simp only [widthFrom, List.foldl_cons, List.length_cons] at h2 ⊢
    have : colStep col c ≤ col + 4 := by unfold colStep; split <;> omega
    omega

end MdIt.Lines

namespace MdIt.Block
open MdIt.Lines (LineOffset)

/-- `x` is a character boundary of `src` (hence `x ≤ |src|`) -/
def Bd (src : List Char) (x : Nat) : Prop := ∃ p q, src = p ++ q ∧ Lines.byteLen p = x

theorem Bd.le {src : List Char} {x : Nat} (h : Bd src x) : x ≤ Lines.byteLen src := by
  obtain ⟨p, q, rfl, rfl⟩ := h
  simp

theorem Bd.onBoundary {src : List Char} {x : Nat} (h : Bd src x) : Lines.onBoundary src x = true :=
  Lines.onBoundary_iff.mpr h

theorem LineOk.bounds {src : List Char} {o : LineOffset} (h : LineOk src o) :
    o.lineStart ≤ o.firstNonspace ∧ o.firstNonspace ≤ o.lineEnd ∧ o.lineEnd ≤ Lines.byteLen src := by
  obtain ⟨p, a, b, q, hsrc, hp, hfn, hle, _, _⟩ := h
  have := congrArg Lines.byteLen hsrc
  simp at this
  omega

theorem LineOk.bd {src : List Char} {o : LineOffset} (h : LineOk src o) :
    Bd src o.lineStart ∧ Bd src o.firstNonspace ∧ Bd src o.lineEnd := by
  obtain ⟨p, a, b, q, hsrc, hp, hfn, hle, _, _⟩ := h
  refine ⟨⟨p, a ++ b ++ q, by rw [hsrc]; simp, hp⟩, ⟨p ++ a, b ++ q, by rw [hsrc]; simp, ?_⟩,
    ⟨p ++ a ++ b, q, by rw [hsrc], ?_⟩⟩
  · simp; omega
  · simp; omega

theorem LineOk.ws {src : List Char} {o : LineOffset} (h : LineOk src o) :
    ∃ p a r, src = p ++ a ++ r ∧ Lines.byteLen p = o.lineStart ∧
      Lines.slice src o.lineStart o.firstNonspace = .ok a := by
  obtain ⟨p, a, b, q, hsrc, hp, hfn, hle, _, _⟩ := h
  refine ⟨p, a, b ++ q, by rw [hsrc]; simp, hp, ?_⟩
  exact Lines.slice_eq_ok_iff.mpr ⟨p, b ++ q, by rw [hsrc]; simp, hp, by omega⟩

/-- the tab-expanded indent of an entry is at most four columns per blank byte before `first_nonspace` -/
def IndOk (o : LineOffset) : Prop := o.indentNonspace ≤ ((4 * (o.firstNonspace - o.lineStart) : Nat) : Int)

def TableInd (offs : List LineOffset) : Prop := ∀ (k : Nat) (o : LineOffset), offs[k]? = some o → IndOk o

theorem TableInd.set {offs : List LineOffset} (h : TableInd offs) (m : Nat) {x : LineOffset} (hx : IndOk x) :
    TableInd (offs.set m x) := by
  intro k o ho
  simp only [List.getElem?_set] at ho
  split at ho
  · split at ho
    · cases ho; exact hx
    · cases ho
  · exact h k o ho

/-- the lines of the table follow each other in the source -/
def Sorted (offs : List LineOffset) : Prop :=
  ∀ (i j : Nat) (o o' : LineOffset), i < j → offs[i]? = some o → offs[j]? = some o' →
    o.lineEnd ≤ o'.lineStart

/-- the geometric invariant of a state: every entry cuts a line out of the source, and the lines
    are in source order -/
structure Geo (s : BState) : Prop where
  table : TableOk s
  sorted : Sorted s.offs
  ind : TableInd s.offs
  /-- `indent_nonspace`, `blk_indent` are `i32` in the Rust: the model's `usizeAsI32` is exact below -/
  small : 4 * Lines.byteLen s.src + 8 < 2147483648

theorem Geo.of_eq {s s' : BState} (h : Geo s) (h1 : s'.src = s.src) (h2 : s'.offs = s.offs) : Geo s' :=
  ⟨fun k o ho => by rw [h1]; exact h.table k o (by rw [← h2]; exact ho), by rw [h2]; exact h.sorted,
    by rw [h2]; exact h.ind, by rw [h1]; exact h.small⟩

theorem geo_fresh (src : List Char) (hsmall : 4 * Lines.byteLen src + 8 < 2147483648) (k : Kind)
    (refs : Refs.RefMap) : Geo (BState.fresh src k refs) := by
  refine ⟨tableOk_fresh src k refs, ?_, ?_, hsmall⟩
  · intro i j o o' hij hi hj
    have := Lines.offsets_increasing (Lines.split_offsets_valid src) i j o o' hij hi hj
    omega
  · intro i o ho
    simp only [BState.fresh] at ho
    obtain ⟨A, lt, B, _, _, rfl, _, _, _⟩ := Lines.split_entry ho
    have := Lines.widthFrom_le 0 (Lines.lead lt.1)
    unfold IndOk
    simp only [Lines.mkOff, Lines.indentWidth] at this ⊢
    omega

theorem Geo.end_mono {s : BState} (h : Geo s) {i j : Nat} {o o' : LineOffset} (hij : i ≤ j)
    (hi : s.offs[i]? = some o) (hj : s.offs[j]? = some o') : o.lineEnd ≤ o'.lineEnd := by
  rcases Nat.lt_or_ge i j with hlt | hge
  · have h1 := h.sorted i j o o' hlt hi hj
    have h2 := (h.table j o' hj).bounds
    omega
  · have : i = j := by omega
    subst this
    rw [hi] at hj; cases hj
    exact Nat.le_refl _

/-- `offs'` has the same line spans as `offs`, with `first_nonspace` moved to the right at most -/
structure Refines (offs offs' : List LineOffset) : Prop where
  len : offs'.length = offs.length
  entry : ∀ (k : Nat) (o o' : LineOffset), offs[k]? = some o → offs'[k]? = some o' →
    o'.lineStart = o.lineStart ∧ o'.lineEnd = o.lineEnd ∧ o.firstNonspace ≤ o'.firstNonspace

theorem Refines.refl (offs : List LineOffset) : Refines offs offs :=
  ⟨rfl, fun k o o' h h' => by rw [h] at h'; cases h'; exact ⟨rfl, rfl, Nat.le_refl _⟩⟩

theorem Refines.get {offs offs' : List LineOffset} (h : Refines offs offs') {k : Nat} {o : LineOffset}
    (ho : offs[k]? = some o) : ∃ o', offs'[k]? = some o' := by
  have hk := (List.getElem?_eq_some_iff.mp ho).1
  exact ⟨offs'[k]'(by rw [h.len]; exact hk), List.getElem?_eq_getElem _⟩

theorem Refines.get' {offs offs' : List LineOffset} (h : Refines offs offs') {k : Nat} {o' : LineOffset}
    (ho : offs'[k]? = some o') : ∃ o, offs[k]? = some o := by
  have hk := (List.getElem?_eq_some_iff.mp ho).1
  exact ⟨offs[k]'(by rw [← h.len]; exact hk), List.getElem?_eq_getElem _⟩

theorem Refines.trans {a b c : List LineOffset} (h1 : Refines a b) (h2 : Refines b c) : Refines a c := by
  refine ⟨h2.len.trans h1.len, ?_⟩
  intro k o o'' ho ho''
  obtain ⟨o', ho'⟩ := h1.get ho
  have e1 := h1.entry k o o' ho ho'
  have e2 := h2.entry k o' o'' ho' ho''
  omega

theorem Refines.set {offs : List LineOffset} {m : Nat} {o x : LineOffset} (ho : offs[m]? = some o)
    (h1 : x.lineStart = o.lineStart) (h2 : x.lineEnd = o.lineEnd) (h3 : o.firstNonspace ≤ x.firstNonspace) :
    Refines offs (offs.set m x) := by
  refine ⟨by simp, ?_⟩
  intro k a a' ha ha'
  simp only [List.getElem?_set] at ha'
  split at ha'
  · rename_i hmk
    subst hmk
    split at ha'
    · cases ha'
      rw [ho] at ha; cases ha
      exact ⟨h1, h2, h3⟩
    · cases ha'
  · rw [ha] at ha'; cases ha'
    exact ⟨rfl, rfl, Nat.le_refl _⟩

theorem Refines.sorted {offs offs' : List LineOffset} (h : Refines offs offs') (hs : Sorted offs) :
    Sorted offs' := by
  intro i j o o' hij hi hj
  obtain ⟨a, ha⟩ := h.get' hi
  obtain ⟨b, hb⟩ := h.get' hj
  have e1 := h.entry i a o ha hi
  have e2 := h.entry j b o' hb hj
  have := hs i j a b hij ha hb
  omega

/-! ## ordered sibling lists

  `P content mapping a b` is what is claimed of an `InlineRoot` placeholder ("its text lies in
  `[a, b]` of the source"); the induction over the tokenizer is done once, for every `P` that the
  rules producing placeholders establish (`InlSpec`). -/

abbrev InlP := List Char → List (Nat × Nat) → Nat → Nat → Prop

/-- the span of a node: its range — or, for a placeholder (which has none), a stretch `P` accepts -/
def SpanB (P : InlP) (n : BNode) (a b : Nat) : Prop :=
  match n.range with
  | some r => r = (a, b)
  | none => ∃ c m, n.kind = .inlineRoot c m ∧ n.children = [] ∧ P c m a b

/-- consecutive spans inside `[lo, hi]` -/
def OrderedB (P : InlP) : Nat → Nat → List BNode → Prop
  | lo, hi, [] => lo ≤ hi
  | lo, hi, n :: rest => ∃ a b, SpanB P n a b ∧ lo ≤ a ∧ a ≤ b ∧ OrderedB P b hi rest

theorem OrderedB.le {P : InlP} {lo hi : Nat} {l : List BNode} (h : OrderedB P lo hi l) : lo ≤ hi := by
  induction l generalizing lo with
  | nil => exact h
  | cons n r ih =>
    obtain ⟨a, b, _, h2, h3, h4⟩ := h
    have := ih h4; omega

theorem OrderedB.widen {P : InlP} {lo hi lo' hi' : Nat} {l : List BNode} (h : OrderedB P lo hi l)
    (h1 : lo' ≤ lo) (h2 : hi ≤ hi') : OrderedB P lo' hi' l := by
  induction l generalizing lo lo' with
  | nil => simp only [OrderedB] at h ⊢; omega
  | cons x r ih =>
    obtain ⟨a, b, q1, q2, q3, q4⟩ := h
    exact ⟨a, b, q1, by omega, q3, ih q4 (Nat.le_refl _)⟩

theorem OrderedB.append {P : InlP} {lo mid hi : Nat} {l1 l2 : List BNode} (h1 : OrderedB P lo mid l1)
    (h2 : OrderedB P mid hi l2) : OrderedB P lo hi (l1 ++ l2) := by
  induction l1 generalizing lo with
  | nil => exact h2.widen h1 (Nat.le_refl _)
  | cons x r ih =>
    obtain ⟨a, b, q1, q2, q3, q4⟩ := h1
    exact ⟨a, b, q1, q2, q3, ih q4⟩

theorem OrderedB.snoc {P : InlP} {lo mid hi a b : Nat} {l : List BNode} {n : BNode}
    (h : OrderedB P lo mid l) (hr : SpanB P n a b) (h1 : mid ≤ a) (h2 : a ≤ b) (h3 : b ≤ hi) :
    OrderedB P lo hi (l ++ [n]) :=
  h.append ⟨a, b, hr, h1, h2, h3⟩

theorem spanB_range {P : InlP} {k : Kind} {a b : Nat} {cs : List BNode} :
    SpanB P ⟨k, some (a, b), cs⟩ a b := rfl

/-- every node with a range: proper, on character boundaries, its children's spans consecutive
    inside it; a node without range is a childless placeholder -/
inductive RangedB (P : InlP) (src : List Char) : BNode → Prop
  | mk (n : BNode) :
    (∀ a b, n.range = some (a, b) → a ≤ b ∧ Bd src a ∧ Bd src b ∧ OrderedB P a b n.children) →
    (n.range = none → ∃ c m, n.kind = .inlineRoot c m ∧ n.children = []) →
    (∀ c ∈ n.children, RangedB P src c) → RangedB P src n

theorem RangedB.at {P : InlP} {src : List Char} {n : BNode} (h : RangedB P src n) :
    ∀ a b, n.range = some (a, b) → a ≤ b ∧ Bd src a ∧ Bd src b ∧ OrderedB P a b n.children := by
  cases h; assumption
theorem RangedB.child {P : InlP} {src : List Char} {n : BNode} (h : RangedB P src n) :
    ∀ c ∈ n.children, RangedB P src c := by
  cases h; assumption

theorem rangedB_inl {P : InlP} {src : List Char} (c : List Char) (m : List (Nat × Nat)) :
    RangedB P src ⟨.inlineRoot c m, none, []⟩ :=
  .mk _ (fun a b h => by cases h) (fun _ => ⟨c, m, rfl, rfl⟩) (by simp)

theorem rangedB_leaf {P : InlP} {src : List Char} (k : Kind) {a b : Nat} (hab : a ≤ b) (ha : Bd src a)
    (hb : Bd src b) : RangedB P src ⟨k, some (a, b), []⟩ :=
  .mk _ (fun a' b' h => by cases h; exact ⟨hab, ha, hb, hab⟩) (fun h => by cases h) (by simp)

theorem rangedB_text {P : InlP} {src : List Char} (k : Kind) {a b : Nat} (hab : a ≤ b) (ha : Bd src a)
    (hb : Bd src b) {c : List Char} {m : List (Nat × Nat)} {a' b' : Nat} (hp : P c m a' b')
    (h1 : a ≤ a') (h2 : a' ≤ b') (h3 : b' ≤ b) :
    RangedB P src ⟨k, some (a, b), [⟨.inlineRoot c m, none, []⟩]⟩ := by
  refine .mk _ (fun x y h => ?_) (fun h => by cases h) ?_
  · cases h
    exact ⟨hab, ha, hb, a', b', ⟨c, m, rfl, rfl, hp⟩, h1, h2, h3⟩
  · intro x hx
    simp at hx; subst hx
    exact rangedB_inl c m

/-- a block around one ranged block -/
theorem rangedB_wrap {P : InlP} {src : List Char} (k : Kind) {a b a' b' : Nat} {c : BNode}
    (hc : RangedB P src c) (hr : c.range = some (a', b')) (ha : Bd src a) (hb : Bd src b) (h1 : a ≤ a')
    (h3 : b' ≤ b) : RangedB P src ⟨k, some (a, b), [c]⟩ := by
  have h2 := (hc.at _ _ hr).1
  refine .mk _ (fun x y h => ?_) (fun h => by cases h) ?_
  · cases h
    exact ⟨by omega, ha, hb, a', b', by simp [SpanB, hr], h1, h2, h3⟩
  · intro x hx
    simp at hx; subst hx
    exact hc

/-- the children of the node under construction: consecutive spans from `lo` on, ending at the end
    of a line the tokenizer has already consumed; each of them `RangedB` -/
structure KidsOk (P : InlP) (s : BState) (lo : Nat) : Prop where
  ord : ∃ hi, OrderedB P lo hi s.children ∧
    (hi = lo ∨ ∃ e o, e < s.line ∧ s.offs[e]? = some o ∧ hi ≤ o.lineEnd)
  deep : ∀ c ∈ s.children, RangedB P s.src c

/-- the position at which `get_lines(.., 4 + blk_indent, ..)` starts copying line `o` (the start of
    an indented code block on that line) is at or behind `lo` -/
def CutGe (src : List Char) (blk : Nat) (o : LineOffset) (lo : Nat) : Prop :=
  ∀ ws, Lines.slice src o.lineStart o.firstNonspace = .ok ws →
    lo ≤ o.lineStart + (Lines.calcRightWs ws (o.indentNonspace - Lines.usizeAsI32 (4 + blk))).2

/-- where the next node may start: on every line still to come, `first_nonspace` and the start of
    an indented code block are at or behind `lo` -/
def StartsGe (s : BState) (lo : Nat) : Prop :=
  ∀ (k : Nat) (o : LineOffset), s.line ≤ k → s.offs[k]? = some o →
    lo ≤ o.firstNonspace ∧ CutGe s.src s.blkIndent o lo

theorem KidsOk.of_eq {P : InlP} {s s' : BState} {lo : Nat} (h : KidsOk P s lo) (h1 : s'.src = s.src)
    (h2 : s'.offs = s.offs) (h3 : s'.children = s.children) (h4 : s.line ≤ s'.line) : KidsOk P s' lo := by
  obtain ⟨⟨hi, ho, hb⟩, hd⟩ := h
  refine ⟨⟨hi, by rw [h3]; exact ho, ?_⟩, by rw [h3, h1]; exact hd⟩
  rcases hb with hb | ⟨e, o, he, hoe, hle⟩
  · exact .inl hb
  · exact .inr ⟨e, o, by omega, by rw [h2]; exact hoe, hle⟩

theorem StartsGe.of_eq {s s' : BState} {lo : Nat} (h : StartsGe s lo) (h1 : s'.src = s.src)
    (h2 : s'.offs = s.offs) (h3 : s'.blkIndent = s.blkIndent) (h4 : s.line ≤ s'.line) : StartsGe s' lo :=
  fun k o hk ho => by rw [h1, h3]; exact h k o (by omega) (by rw [← h2]; exact ho)

theorem StartsGe.of_frame {s s' : BState} {lo : Nat} (h : StartsGe s lo) (hf : Frame s s')
    (h4 : s.line ≤ s'.line) : StartsGe s' lo :=
  h.of_eq hf.src hf.offs hf.blkIndent h4

/-- pushing a node that starts on the current line `l = s.line` and ends with line `e`, the
    tokenizer moving behind `e` -/
theorem KidsOk.push {P : InlP} {s s' : BState} {lo : Nat} (h : KidsOk P s lo) (hg : Geo s) {n : BNode}
    {a b e : Nat} {ol oe : LineOffset} (hol : s.offs[s.line]? = some ol) (hoe : s.offs[e]? = some oe)
    (hle : s.line ≤ e) (hsp : SpanB P n a b) (hn : RangedB P s.src n) (hlo : lo ≤ a)
    (ha : ol.lineStart ≤ a) (hab : a ≤ b) (hb : b ≤ oe.lineEnd)
    (h1 : s'.src = s.src) (h2 : s'.offs = s.offs) (h3 : s'.children = s.children ++ [n])
    (h4 : e < s'.line) : KidsOk P s' lo := by
  obtain ⟨⟨hi, ho, hbd⟩, hd⟩ := h
  have hia : hi ≤ a := by
    rcases hbd with hbd | ⟨e0, o0, he0, ho0, hle0⟩
    · omega
    · have := hg.sorted e0 s.line o0 ol he0 ho0 hol
      omega
  refine ⟨⟨b, by rw [h3]; exact ho.snoc hsp hia hab (Nat.le_refl _), .inr ⟨e, oe, h4, by rw [h2]; exact hoe, hb⟩⟩, ?_⟩
  intro c hc
  rw [h3] at hc
  rw [h1]
  rcases List.mem_append.mp hc with hc | hc
  · exact hd c hc
  · simp at hc; subst hc; exact hn

theorem Geo.map_ok {s : BState} (hg : Geo s) {a b : Nat} {oa ob : LineOffset} (hab : a ≤ b)
    (ha : s.offs[a]? = some oa) (hb : s.offs[b]? = some ob) :
    oa.lineStart ≤ oa.firstNonspace ∧ oa.firstNonspace ≤ ob.lineEnd ∧ Bd s.src oa.firstNonspace ∧
      Bd s.src ob.lineEnd := by
  have h1 := (hg.table a oa ha).bounds
  have h2 := hg.end_mono hab ha hb
  exact ⟨h1.1, by omega, (hg.table a oa ha).bd.2.1, (hg.table b ob hb).bd.2.2⟩

/-! ## what the rules that make placeholders must establish -/

structure InlSpec (para : Bool) (P : InlP) : Prop where
  /-- paragraph, setext heading: `get_lines(b, e, blk_indent, false)` -/
  lines : ∀ (s : BState) (b e : Nat) (c : List Char) (m : List (Nat × Nat)) (ob oe : LineOffset),
    Geo s → s.getLines b e s.blkIndent false = .ok (c, m) → b < e →
    s.offs[b]? = some ob → s.offs[e - 1]? = some oe → P c m ob.firstNonspace oe.lineEnd
  /-- ATX heading: a slice of the line -/
  heading : ∀ (s : BState) (o : LineOffset) (line content : List Char) (textPos textMax : Nat),
    Geo s → s.offs[s.line]? = some o → s.getLine s.line = .ok line →
    liftL (Lines.slice line textPos textMax) = .ok content →
    P content [(0, o.firstNonspace + textPos)] o.firstNonspace o.lineEnd
  /-- the no-paragraph fallback: the line and a line feed (dead code with the paragraph rule in the
      chain, `runChain_para`; and NOT inside the line's range otherwise: witness at the end of
      Props/C05Doc.lean) -/
  fallback : para = false → ∀ (s : BState) (o : LineOffset) (l : List Char),
    Geo s → s.offs[s.line]? = some o → s.getLine s.line = .ok l →
    P (l ++ ['\n']) [(0, o.firstNonspace)] o.firstNonspace o.lineEnd

/-- the step of a rule: invariant in, invariant out -/
def KeepsGeo (P : InlP) (s s' : BState) : Prop :=
  ∀ lo, Geo s → StartsGe s lo → KidsOk P s lo → KidsOk P s' lo

theorem KeepsGeo.refl (P : InlP) (s : BState) : KeepsGeo P s s := fun _ _ _ h => h

/-- a childless block over the lines `s.line .. e` is pushed, the tokenizer moving behind line `e` -/
theorem leaf_geo {P : InlP} {s : BState} (k : Kind) {e l : Nat} {oa ob : LineOffset}
    (ha : s.offs[s.line]? = some oa) (hb : s.offs[e]? = some ob) (hab : s.line ≤ e) (hel : e < l) :
    KeepsGeo P s { s with line := l, children := s.children ++ [⟨k, some (oa.firstNonspace, ob.lineEnd), []⟩] } := by
  intro lo hg hs hk
  obtain ⟨g1, g2, g3, g4⟩ := hg.map_ok hab ha hb
  exact hk.push hg ha hb hab spanB_range (rangedB_leaf _ g2 g3 g4) (hs _ _ (Nat.le_refl _) ha).1
    g1 g2 (Nat.le_refl _) rfl rfl rfl hel

theorem hr_geo {P : InlP} {s s' : BState} {b : Bool} (h : hrRule s false = .ok (b, s')) :
    KeepsGeo P s s' := by
  rcases hrRule_ok h with ⟨-, rfl⟩ | ⟨_, _, _, _, -, -, -, -, -, -, -, ⟨⟨⟩, -⟩ | ⟨-, r, hr, rfl⟩⟩
  · exact KeepsGeo.refl _ _
  obtain ⟨hab, oa, ob, ha, hb, rfl⟩ := getMap_ok5 hr
  exact leaf_geo _ ha hb hab (Nat.lt_succ_self _)

theorem fence_geo {P : InlP} {s s' : BState} {b : Bool} (h : fenceRule s false = .ok (b, s')) :
    KeepsGeo P s s' := by
  rcases fenceRule_ok h with ⟨-, rfl⟩ | ⟨_, _, _, _, -, -, -, -, -, -, -, -, ⟨⟨⟩, -⟩ |
    ⟨-, nextLine, haveEnd, _, _, _, r, -, -, -, hle, hr, rfl⟩⟩
  · exact KeepsGeo.refl _ _
  obtain ⟨hab, oa, ob, ha, hb, rfl⟩ := getMap_ok5 hr
  refine leaf_geo _ ha hb hab ?_
  show nextLine - (if haveEnd = true then 0 else 1) < nextLine + (if haveEnd = true then 1 else 0)
  cases haveEnd <;> simp at hle ⊢ <;> omega

theorem reference_geo {P : InlP} {cfg : Cfg} {test : Test} (ht : TestPure test) {fuel : Nat}
    {s s' : BState} {b : Bool} (h : referenceRule cfg test fuel s false = .ok (b, s')) :
    KeepsGeo P s s' := by
  rcases referenceRule_ok h with ⟨-, rfl | ⟨_, _, hscan⟩⟩ |
    ⟨_, _, _, _, S, _, _, _, _, _, lines, -, -, -, -, -, hscan, -, -, -, -, rfl⟩
  · exact KeepsGeo.refl _ _
  · cases (lazyScan_spec ht hscan).1
    exact KeepsGeo.refl _ _
  · cases (lazyScan_spec ht hscan).1
    exact fun lo hg hs hk => hk.of_eq rfl rfl rfl (by simp; omega)

/-! ## indented code: the range starts where `get_lines` starts copying -/

theorem getLinesGo_prefix (src : List Char) (offs : List LineOffset) (end_ indent : Nat) (keep : Bool)
    (line : Nat) (result : List Char) (mapping : List (Nat × Nat)) (c : List Char) (m : List (Nat × Nat))
    (h : Lines.getLinesGo src offs end_ indent keep line result mapping = .ok (c, m)) :
    ∃ t, m = mapping ++ t := by
  fun_induction Lines.getLinesGo src offs end_ indent keep line result mapping with
  | case1 => simp_all
  | case2 => simp_all
  | case3 => simp_all
  | case4 line result mapping hlt o ho addLastLf ws hws numSpaces first hc mapping1 result1 mapping2 t ht result2 result3 ih =>
    obtain ⟨t', ht'⟩ := ih h
    rw [ht']
    simp only [mapping2, mapping1]
    split
    · exact ⟨_, by simp only [List.append_assoc]; rfl⟩
    · exact ⟨_, by simp only [List.append_assoc]; rfl⟩
  | case5 => simp_all

theorem getLines_first {src : List Char} {offs : List LineOffset} {b e indent : Nat} {keep : Bool}
    {c : List Char} {m0 : Nat × Nat} {rest : List (Nat × Nat)}
    (h : Lines.getLines src offs b e indent keep = .ok (c, m0 :: rest)) :
    ∃ o ws, offs[b]? = some o ∧ Lines.slice src o.lineStart o.firstNonspace = .ok ws ∧
      m0.2 = o.lineStart + (Lines.calcRightWs ws (o.indentNonspace - Lines.usizeAsI32 indent)).2 := by
  unfold Lines.getLines at h
  split at h
  · cases h
  · rw [Lines.getLinesGo] at h
    split at h
    · split at h
      · cases h
      · rename_i o ho
        split at h
        · cases h
        · rename_i ws hws
          simp only at h
          split at h
          · cases h
          · obtain ⟨t, ht⟩ := getLinesGo_prefix _ _ _ _ _ _ _ _ _ _ h
            refine ⟨o, ws, ho, hws, ?_⟩
            split at ht <;> simp only [List.nil_append, List.cons_append, List.cons.injEq] at ht <;> rw [ht.1]
    · simp at h

theorem liftL_ok5 {α : Type} {x : Except Lines.Panic α} {a : α} (h : liftL x = .ok a) : x = .ok a :=
  liftL_eq_ok h

theorem code_geo {P : InlP} {s s' : BState} {b : Bool} (h : codeRule s false = .ok (b, s')) :
    KeepsGeo P s s' := by
  rcases codeRule_ok h with ⟨-, rfl⟩ | ⟨_, last, content, m0, ms, o, -, -, -, hscan, hgl, hle, hoff, hchk, -, rfl⟩
  · exact KeepsGeo.refl _ _
  · have ho := off_ok hoff
    intro lo hg hs hk
    have hsc := codeScan_spec _ _ _ _ hscan (Nat.le_refl _)
    obtain ⟨ol, ws, hol, hws, hm0⟩ := getLines_first
      (liftL_ok5 (show liftL (Lines.getLines s.src s.offs s.line last (4 + s.blkIndent) false) = _ from hgl))
    have hcut := (hs _ _ (Nat.le_refl _) hol).2 ws hws
    have hbd : Bd s.src (ol.lineStart + (Lines.calcRightWs ws (ol.indentNonspace - Lines.usizeAsI32 (4 + s.blkIndent))).2) := by
      obtain ⟨p, a, r, hsrc, hp, hsl⟩ := (hg.table _ _ hol).ws
      rw [hws] at hsl; cases hsl
      obtain ⟨w0, w', hww, hb⟩ := Lines.calc_right_bounds ws (ol.indentNonspace - Lines.usizeAsI32 (4 + s.blkIndent))
      refine ⟨p ++ w0, w' ++ r, by rw [hsrc, hww]; simp, ?_⟩
      simp; omega
    rw [← hm0] at hcut hbd
    refine hk.push hg hol ho (by omega) spanB_range
      (rangedB_leaf _ hchk hbd (hg.table _ _ ho).bd.2.2) hcut (by omega) hchk (Nat.le_refl _)
      rfl rfl rfl ?_
    simp [BState.push]; omega

theorem rewrite_ws {src : List Char} {o : LineOffset} (hl : LineOk src o) {ltxt : List Char}
    (hlt : Lines.slice src o.lineStart o.lineEnd = .ok ltxt) {rel ind fn : Nat}
    (hf : Lines.findIndentOf ltxt rel = .ok (ind, fn)) :
    ∃ p run, Lines.byteLen p = rel ∧ Lines.slice src o.lineStart (fn + o.lineStart) = .ok (p ++ run) ∧
      Lines.AllBlank run ∧ ind = Lines.indentWidth (p ++ run) - Lines.indentWidth p ∧
      Lines.indentWidth p ≤ Lines.indentWidth (p ++ run) ∧ fn = rel + run.length := by
  obtain ⟨P, a, b, q, hsrc, hp, hfn, hle, ha, hb⟩ := hl
  have hab : Lines.slice src o.lineStart o.lineEnd = .ok (a ++ b) := by
    refine Lines.slice_eq_ok_iff.mpr ⟨P, q, by rw [hsrc]; simp, hp, ?_⟩
    simp; omega
  rw [hab] at hlt
  cases hlt
  have hbd := (Lines.find_indent_total (a ++ b) rel).mp ⟨_, hf⟩
  obtain ⟨p, t, hpt, hrel⟩ := Lines.onBoundary_iff.mp hbd
  obtain ⟨run, rest, rfl, hrun, hrest⟩ := Lines.blank_run_split t
  rw [hpt, ← List.append_assoc, ← hrel, Lines.find_indent_spec p run rest hrun hrest] at hf
  simp only [Except.ok.injEq, Prod.mk.injEq] at hf
  obtain ⟨rfl, rfl⟩ := hf
  refine ⟨p, run, hrel, ?_, hrun, rfl, ?_, by rw [hrel]⟩
  · refine Lines.slice_eq_ok_iff.mpr ⟨P, rest ++ q, ?_, hp, ?_⟩
    · rw [hsrc, List.append_assoc P a b, hpt]; simp
    · simp [hrun.byteLen]; omega
  · rw [Lines.indentWidth_append]; exact Lines.widthFrom_ge _ _

theorem rewrite_cut {src : List Char} {o : LineOffset} (hl : LineOk src o) {ltxt : List Char}
    (hlt : Lines.slice src o.lineStart o.lineEnd = .ok ltxt) {rel ind fn : Nat}
    (hf : Lines.findIndentOf ltxt rel = .ok (ind, fn)) (x : Int) (hx : x ≤ (ind : Int)) :
    ∀ ws, Lines.slice src o.lineStart (fn + o.lineStart) = .ok ws → rel ≤ (Lines.calcRightWs ws x).2 := by
  obtain ⟨p, run, hp, hs, -, hind, hle, _⟩ := rewrite_ws hl hlt hf
  intro ws hws
  rw [hs] at hws
  cases hws
  rw [← hp]
  exact Lines.calcRightWs_ge p run x (by omega)

theorem bqRewrite_cut {src : List Char} {o o' : LineOffset} {rest : List Char} {le : Bool}
    (h : bqRewrite src o rest = .ok (o', le)) (hl : LineOk src o) : CutGe src 0 o' o.firstNonspace := by
  obtain ⟨ltxt, ind, fn, ia, hlt, hle, hf, h1, h2, rfl⟩ := bqRewrite_ok h
  intro ws hws
  simp only at hws ⊢
  have hx : ((ia : Nat) : Int) - Lines.usizeAsI32 (4 + 0) ≤ (ind : Int) := by
    have : Lines.usizeAsI32 (4 + 0) = 4 := by decide
    rw [this]
    omega
  have := rewrite_cut hl hlt hf _ hx ws hws
  omega

theorem lineOk_slice_len {src : List Char} {o : LineOffset} (hl : LineOk src o) {ltxt : List Char}
    (hlt : Lines.slice src o.lineStart o.lineEnd = .ok ltxt) :
    Lines.byteLen ltxt = o.lineEnd - o.lineStart := by
  obtain ⟨p, q, _, hp, hq⟩ := Lines.slice_eq_ok_iff.mp hlt
  omega

theorem bqRewrite_ind {src : List Char} {o o' : LineOffset} {rest : List Char} {le : Bool}
    (h : bqRewrite src o rest = .ok (o', le)) : IndOk o' := by
  obtain ⟨ltxt, ind, fn, ia, -, hle, hf, h1, h2, rfl⟩ := bqRewrite_ok h
  have hf := Lines.find_indent_bounds _ _ _ _ hf
  unfold IndOk
  simp only
  omega

theorem itemRewrite_ind {src : List Char} {o o' : LineOffset} {pos indent : Nat} {re : Bool}
    (h : itemRewrite src o pos = .ok (o', indent, re)) (hi : IndOk o) (hb : o.lineStart ≤ o.firstNonspace) :
    IndOk o' := by
  obtain ⟨ltxt, ind, fn, -, -, hle, -, hf, -, -, rfl⟩ := itemRewrite_ok h
  have hf := Lines.find_indent_bounds _ _ _ _ hf
  unfold IndOk at hi ⊢
  simp only
  omega

theorem itemRewrite_cut {src : List Char} {o o' : LineOffset} {pos indent : Nat} {re : Bool}
    (h : itemRewrite src o pos = .ok (o', indent, re)) (hl : LineOk src o) (hi : IndOk o)
    (hsmall : 4 * Lines.byteLen src + 8 < 2147483648) :
    CutGe src indent o' o.firstNonspace := by
  obtain ⟨ltxt, f1, f2, h0, hlt, hle, hle2, hf, rfl, rfl, rfl⟩ := itemRewrite_ok h
  have hfb := Lines.find_indent_bounds _ _ _ _ hf
  have hlen := lineOk_slice_len hl hlt
  have hb := hl.bounds
  unfold IndOk at hi
  intro ws hws
  simp only at hws ⊢
  have hind4 : (if f2 == o.lineEnd - o.lineStart then 1 else if f1 > 4 then 1 else f1) ≤ 4 := by
    split
    · omega
    · split <;> omega
  generalize (if f2 == o.lineEnd - o.lineStart then 1 else if f1 > 4 then 1 else f1) = ia at *
  have hsm : 4 + (o.indentNonspace.toNat + pos + ia) < 2147483648 := by omega
  rw [usizeAsI32_small hsm]
  have := rewrite_cut hl hlt hf
    (((o.indentNonspace.toNat + pos + f1 : Nat) : Int) - ((4 + (o.indentNonspace.toNat + pos + ia) : Nat) : Int))
    (by omega) ws hws
  omega

theorem bqRewrite_geo {src : List Char} {o o' : LineOffset} {rest : List Char} {le : Bool}
    (h : bqRewrite src o rest = .ok (o', le)) :
    o'.lineStart = o.lineStart ∧ o'.lineEnd = o.lineEnd ∧ o.firstNonspace + 1 ≤ o'.firstNonspace := by
  obtain ⟨ltxt, ind, fn, ia, -, hle, hf, -, -, rfl⟩ := bqRewrite_ok h
  have := Lines.find_indent_bounds _ _ _ _ hf
  exact ⟨rfl, rfl, by simp only; omega⟩

theorem setOff_refines {S S1 : BState} {m : Nat} {o x : LineOffset} (hset : S.setOff m x = .ok S1)
    (ho : S.off m = .ok o) (h1 : x.lineStart = o.lineStart) (h2 : x.lineEnd = o.lineEnd)
    (h3 : o.firstNonspace ≤ x.firstNonspace) : Refines S.offs S1.offs := by
  obtain ⟨_, rfl⟩ := setOff_ok hset
  exact Refines.set (off_ok ho) h1 h2 h3

theorem bqScan_refines {test : Test} (ht : TestPure test) :
    ∀ (fuel : Nat) (S : BState) (m : Nat) (old : List LineOffset) (le : Bool)
      (n : Nat) (old' : List LineOffset) (S' : BState),
      bqScan test fuel S m old le = .ok (n, old', S') → Refines S.offs S'.offs := by
  intro fuel
  induction fuel with
  | zero => intro S m old le n old' S' h; simp [bqScan] at h
  | succ f ih =>
    intro S m old le n old' S' h
    rcases bqScan_ok h with ⟨-, -, -, rfl⟩ | ⟨ind, line, -, -, -, ⟨-, -, -, rfl⟩ | ⟨c, rest, -,
      ⟨-, -, o, o', le', S1, hoff, hrw, hset, hrec⟩ | ⟨-, ⟨-, -, -, rfl⟩ | ⟨t, S1, -, htest, hcase⟩⟩⟩⟩
    · exact Refines.refl _
    · exact Refines.refl _
    · obtain ⟨g1, g2, g3⟩ := bqRewrite_geo hrw
      exact (setOff_refines hset hoff g1 g2 (by omega)).trans (ih _ _ _ _ _ _ _ hrec)
    · exact Refines.refl _
    · cases ht _ _ htest
      rcases hcase with ⟨-, -, -, -, rfl⟩ | ⟨-, -, o, hoff, hset, -, -⟩ | ⟨-, o, S2, hoff, hset, hrec⟩
      · exact Refines.refl _
      · have := setOff_refines hset hoff rfl rfl (Nat.le_refl _)
        exact this
      · have := setOff_refines hset hoff rfl rfl (Nat.le_refl _)
        exact this.trans (ih _ _ _ _ _ _ _ hrec)

theorem setOff_ind {S S1 : BState} {m : Nat} {x : LineOffset} (hset : S.setOff m x = .ok S1)
    (h : TableInd S.offs) (hx : IndOk x) : TableInd S1.offs := by
  obtain ⟨_, rfl⟩ := setOff_ok hset
  exact h.set m hx

theorem bqScan_ind {test : Test} (ht : TestPure test) :
    ∀ (fuel : Nat) (S : BState) (m : Nat) (old : List LineOffset) (le : Bool)
      (n : Nat) (old' : List LineOffset) (S' : BState),
      bqScan test fuel S m old le = .ok (n, old', S') → TableInd S.offs → TableInd S'.offs := by
  intro fuel
  induction fuel with
  | zero => intro S m old le n old' S' h; simp [bqScan] at h
  | succ f ih =>
    intro S m old le n old' S' h hT
    rcases bqScan_ok h with ⟨-, -, -, rfl⟩ | ⟨ind, line, -, -, -, ⟨-, -, -, rfl⟩ | ⟨c, rest, -,
      ⟨-, -, o, o', le', S1, hoff, hrw, hset, hrec⟩ | ⟨-, ⟨-, -, -, rfl⟩ | ⟨t, S1, -, htest, hcase⟩⟩⟩⟩
    · exact hT
    · exact hT
    · exact ih _ _ _ _ _ _ _ hrec (setOff_ind hset hT (bqRewrite_ind hrw))
    · exact hT
    · cases ht _ _ htest
      rcases hcase with ⟨-, -, -, -, rfl⟩ | ⟨-, -, o, hoff, hset, -, -⟩ | ⟨-, o, S2, hoff, hset, hrec⟩
      · exact hT
      · have hi := hT _ _ (off_ok hoff)
        refine setOff_ind hset hT ?_
        unfold IndOk at hi ⊢
        simp only
        omega
      · refine ih _ _ _ _ _ _ _ hrec (setOff_ind hset hT ?_)
        unfold IndOk
        simp only
        omega

theorem bqScan_first_entry {test : Test} (ht : TestPure test) {fuel : Nat} {S : BState} {m : Nat}
    {old : List LineOffset} {le : Bool} {n : Nat} {old' : List LineOffset} {S' : BState}
    (h : bqScan test fuel S m old le = .ok (n, old', S')) (hlt : m < S.lineMax)
    {i : Int} (hi : S.lineIndent m = .ok i) (hi0 : 0 ≤ i) {line : List Char}
    (hline : S.getLine m = .ok line) (hhead : line.head? = some '>') :
    ∃ o o' rest le', S.offs[m]? = some o ∧ bqRewrite S.src o rest = .ok (o', le') ∧
      S'.offs[m]? = some o' := by
  obtain ⟨f, rest, o, o', le', S1, -, -, ho, hrw, hS1, hrec⟩ := bqScan_head h hlt hi hi0 hline hhead
  obtain ⟨hm, rfl⟩ := setOff_ok hS1
  obtain ⟨_, h2, _, h4, _, _⟩ := bqScan_spec ht _ _ _ _ _ _ _ _ hrec
  refine ⟨_, _, _, _, off_ok ho, hrw, ?_⟩
  rw [h4 m (by omega)]
  simp [hm]

theorem startsGe_nested {S : BState} (hg : Geo S) {m : Nat} {x : LineOffset} {lo : Nat}
    (hline : S.line = m) (hx : S.offs[m]? = some x) (h1 : lo ≤ x.firstNonspace)
    (h2 : CutGe S.src S.blkIndent x lo) : StartsGe S lo := by
  intro k o hk ho
  rcases Nat.lt_or_ge m k with hlt | hge
  · have hs := hg.sorted m k x o hlt hx ho
    have hb := (hg.table m x hx).bounds
    have hb' := (hg.table k o ho).bounds
    exact ⟨by omega, fun ws _ => by omega⟩
  · have : k = m := by omega
    subst this
    rw [hx] at ho; cases ho
    exact ⟨h1, h2⟩

theorem kidsOk_nil {P : InlP} {S : BState} (h : S.children = []) (lo : Nat) : KidsOk P S lo :=
  ⟨⟨lo, by rw [h]; exact Nat.le_refl _, .inl rfl⟩, by rw [h]; simp⟩

theorem rangedB_container {P : InlP} {S2 : BState} {a : Nat} (hk : KidsOk P S2 a) {src : List Char}
    (hsrc : S2.src = src) {b : Nat} (hab : a ≤ b) (ha : Bd src a) (hb : Bd src b)
    (hend : ∀ e o, e < S2.line → S2.offs[e]? = some o → o.lineEnd ≤ b) (k : Kind) :
    RangedB P src ⟨k, some (a, b), S2.children⟩ := by
  obtain ⟨⟨hi, ho, hbd⟩, hd⟩ := hk
  refine .mk _ (fun x y h => ?_) (fun h => by cases h) (fun c hc => by rw [← hsrc]; exact hd c hc)
  cases h
  refine ⟨hab, ha, hb, ho.widen (Nat.le_refl _) ?_⟩
  rcases hbd with hbd | ⟨e, o, he, hoe, hle⟩
  · omega
  · have := hend e o he hoe
    omega

/-- `first_nonspace` of every line still to come is at or behind `lo` -/
def FnGe (s : BState) (lo : Nat) : Prop :=
  ∀ (k : Nat) (o : LineOffset), s.line ≤ k → s.offs[k]? = some o → lo ≤ o.firstNonspace

theorem StartsGe.fn {s : BState} {lo : Nat} (h : StartsGe s lo) : FnGe s lo :=
  fun k o hk ho => (h k o hk ho).1

theorem itemRewrite_geo {src : List Char} {o o' : LineOffset} {pos indent : Nat} {re : Bool}
    (h : itemRewrite src o pos = .ok (o', indent, re)) :
    o'.lineStart = o.lineStart ∧ o'.lineEnd = o.lineEnd ∧ o.firstNonspace ≤ o'.firstNonspace := by
  obtain ⟨ltxt, ind, fn, -, -, hle, -, hf, -, -, rfl⟩ := itemRewrite_ok h
  have := Lines.find_indent_bounds _ _ _ _ hf
  exact ⟨rfl, rfl, by simp only; omega⟩

theorem spanB_kind {P : InlP} {n : BNode} {a b : Nat} (h : SpanB P n a b)
    (hk : ∀ c m, n.kind ≠ .inlineRoot c m) : n.range = some (a, b) := by
  unfold SpanB at h
  split at h
  · rename_i r hr; rw [hr, h]
  · obtain ⟨c, m, hc, _⟩ := h
    exact absurd hc (hk c m)

theorem markTight_geo {P : InlP} {src : List Char} : ∀ (cs : List BNode) (lo hi : Nat),
    OrderedB P lo hi cs → (∀ c ∈ cs, RangedB P src c) →
    OrderedB P lo hi (markTight cs) ∧ ∀ c ∈ markTight cs, RangedB P src c
  | [], lo, hi, h, _ => by simp [markTight]; exact h
  | n :: r, lo, hi, h, hd => by
    obtain ⟨a, b, hsp, h1, h2, h3⟩ := h
    obtain ⟨ih1, ih2⟩ := markTight_geo r b hi h3 (fun c hc => hd c (List.mem_cons_of_mem _ hc))
    have hn := hd n (by simp)
    simp only [markTight]
    split
    · rename_i hp
      have hr := spanB_kind hsp (by rw [hp]; simp)
      obtain ⟨_, _, _, hord⟩ := hn.at a b hr
      refine ⟨(hord.widen h1 (Nat.le_refl _)).append ih1, ?_⟩
      intro c hc
      rcases List.mem_append.mp hc with hc | hc
      · exact hn.child c hc
      · exact ih2 c hc
    · refine ⟨⟨a, b, hsp, h1, h2, ih1⟩, ?_⟩
      intro c hc
      simp at hc
      rcases hc with rfl | hc
      · exact hn
      · exact ih2 c hc

theorem tightenItems_geo {P : InlP} {src : List Char} : ∀ (cs cs' : List BNode) (lo hi : Nat),
    tightenItems cs = .ok cs' → OrderedB P lo hi cs → (∀ c ∈ cs, RangedB P src c) →
    OrderedB P lo hi cs' ∧ ∀ c ∈ cs', RangedB P src c
  | [], cs', lo, hi, h, ho, _ => by simp [tightenItems] at h; subst h; exact ⟨ho, by simp⟩
  | c :: r, cs', lo, hi, h, ho, hd => by
    simp only [tightenItems] at h
    split at h
    · cases h
    · split at h
      · cases h
      · rename_i hk _ r' hr
        cases h
        obtain ⟨a, b, hsp, h1, h2, h3⟩ := ho
        obtain ⟨ih1, ih2⟩ := tightenItems_geo r r' b hi hr h3 (fun x hx => hd x (List.mem_cons_of_mem _ hx))
        have hck : c.kind = .listItem := Classical.not_not.mp hk
        have hrange := spanB_kind hsp (by rw [hck]; simp)
        have hc := hd c (by simp)
        obtain ⟨q1, q2, q3, q4⟩ := hc.at a b hrange
        obtain ⟨m1, m2⟩ := markTight_geo c.children a b q4 hc.child
        refine ⟨⟨a, b, ?_, h1, h2, ih1⟩, ?_⟩
        · unfold SpanB; simp only [hrange]
        · intro x hx
          simp at hx
          rcases hx with rfl | hx
          · refine .mk _ (fun x y h => ?_) (fun h => ?_) m2
            · simp only [hrange, Option.some.injEq, Prod.mk.injEq] at h
              obtain ⟨rfl, rfl⟩ := h
              exact ⟨q1, q2, q3, m1⟩
            · simp [hrange] at h
          · exact ih2 x hx

theorem runChain_frame {run : RuleId → BState → Bool → Res} (hr : RunSpec run) {chain : List RuleId}
    {s1 : BState} {w : Bool × BState} (hc : runChain run chain s1 false = .ok w)
    (hlt : s1.line < s1.lineMax) (hi : IndentOk s1) : Frame s1 w.2 ∧ s1.line ≤ w.2.line := by
  obtain ⟨b, s2⟩ := w
  obtain ⟨h1, h2⟩ := runChain_real hr _ _ _ _ hc
  cases b with
  | false => have := h1 rfl; subst this; exact ⟨Frame.refl _, Nat.le_refl _⟩
  | true => have := h2 rfl hlt hi; exact ⟨this.frame, Nat.le_of_lt this.lt⟩

end MdIt.Block
