/-
  Lemmas for `MdIt/Props/BlockH.lean`: the block pass with the raw-HTML rule in the chain.

  The per-rule lemmas of the nine cmark rules (`Props/Block.lean`, `Lemmas/BlockTotal*.lean`,
  `Lemmas/BlockGrammar.lean`) are stated for arbitrary call-backs `tok` / `test` under contracts (`TokSpec`,
  `TokEmits`, `TestPure`, `TestOK`, `TokOK`, `TokNF`, `TestNF`), so they apply to `tokenizeH` / `testRulesH`
  as they stand.  The tokenizer-loop lemmas (`tokLoop_spec`, `tokLoop_keeps`, `tokLoop_np`, `tokLoop_nf`) are
  stated for an arbitrary runner `run : RuleId → …` and apply through a re-indexing:

      tokLoopG maxNesting chain run  =  Block.tokLoop (one cfg) (fun _ => runChainG run chain)

  — the WHOLE ten-rule chain is ONE rule of a one-element `Block` chain (`tokLoopG_eq`); the chain as
  a single rule satisfies `RunSpec` / `RunNP` / `RunNF` / any relation its members keep
  (`chain_runSpec`, `chain_np`, `chain_nf`, `runChainG_rel`, read off `runChainG_first` — the first rule of a
  chain that does not decline, `Props/Block.lean` section 2 — and `runChainG_err`, `BlockTotalEngine.lean`).

  The html rule meets each per-rule contract (`htmlRule_*`, from `Props/Html.lean`).  The node it pushes is a
  leaf of the grammar of block trees (`htmlNode_leaf`), so the trees of the ten-rule engine are generated by the
  grammar `gramH` (`tokenizeH_emits`): `Block.Gram` with `plast := False`.  What is proved of `Emits G` for every
  `G` transfers — well-formedness with the list shape (`Emits.goodB`), depth (`Emits.depth`), placeholders without
  range (`Emits.all`); what needs `G.plast` does not: no `tokenizeH_tight` is proved, so the clause of `EmitsItem`
  about tight items is empty here and `Block.parseBlocks_noAdjInl` has no ten-rule counterpart.
-/
import MdIt.Model.BlockH
import MdIt.Props.BlockTotal
import MdIt.Lemmas.BlockGrammar
import MdIt.Props.Html

namespace MdIt.BlockH
open MdIt.Block
open MdIt.Lines (LineOffset)

/-! ## 1. the html rule as a chain member -/

theorem htmlRule_ok {s s' : BState} {silent b : Bool} (h : htmlRule s silent = .ok (b, s')) :
    ∃ s1 nd, Html.htmlBlockRule s silent = .ok (b, s1, nd) ∧
      ((nd = none ∧ s' = s1) ∨ (∃ n, nd = some n ∧ s' = s1.push (htmlNode n))) := by
  unfold htmlRule at h
  split at h
  · cases h
  · rename_i b1 s1 he
    simp only [Except.ok.injEq, Prod.mk.injEq] at h
    obtain ⟨rfl, rfl⟩ := h
    exact ⟨_, _, he, .inl ⟨rfl, rfl⟩⟩
  · rename_i b1 s1 n he
    simp only [Except.ok.injEq, Prod.mk.injEq] at h
    obtain ⟨rfl, rfl⟩ := h
    exact ⟨_, _, he, .inr ⟨n, rfl, rfl⟩⟩

theorem htmlRule_silent_pure {s s' : BState} {b : Bool} (h : htmlRule s true = .ok (b, s')) : s' = s := by
  obtain ⟨s1, nd, he, hc⟩ := htmlRule_ok h
  obtain ⟨rfl, rfl⟩ := Html.html_block_silent_quiet he
  rcases hc with ⟨_, rfl⟩ | ⟨n, hn, _⟩
  · rfl
  · cases hn

theorem htmlRule_false_same {s s' : BState} (h : htmlRule s false = .ok (false, s')) : s' = s := by
  obtain ⟨s1, nd, he, hc⟩ := htmlRule_ok h
  rcases Html.htmlBlockRule_ok he with ⟨_, rfl, rfl, _⟩ | ⟨_, _, _, _, _, _, _, _, hmode⟩
  · rcases hc with ⟨_, rfl⟩ | ⟨n, hn, _⟩
    · rfl
    · cases hn
  · rcases hmode with ⟨hs, _⟩ | ⟨_, hb, _⟩
    · cases hs
    · cases hb

/-- real success: exactly one node is pushed, `line` moves forward and not beyond `line_max`, nothing
    else changes -/
theorem htmlRule_true {s s' : BState} (h : htmlRule s false = .ok (true, s')) :
    ∃ (n : Html.BlockNode) (l : Nat), Html.htmlBlockRule s false = .ok (true, { s with line := l }, some n) ∧
      s' = { s with line := l, children := s.children ++ [htmlNode n] } ∧ s.line < l ∧
      (s.line < s.lineMax → l ≤ s.lineMax) := by
  obtain ⟨s1, nd, he, hc⟩ := htmlRule_ok h
  obtain ⟨hlt, hle, hs1, n, rfl⟩ := Html.block_rule_progress_html he
  rcases hc with ⟨hn, _⟩ | ⟨n', hn, rfl⟩
  · cases hn
  · cases hn
    refine ⟨n, s1.line, ?_, ?_, hlt, hle⟩
    · rw [← hs1]; exact he
    · conv => lhs; rw [hs1]
      rfl

theorem htmlRule_np {s : BState} (hI : BInv s) (hl : s.line < s.lineMax) (silent : Bool) :
    NoPanic (htmlRule s silent) := by
  obtain ⟨b, s1, nd, he⟩ := Html.htmlBlock_no_panic hI hl silent
  refine NoPanic.of_total ?_
  unfold htmlRule
  rw [he]
  cases nd <;> exact ⟨_, rfl⟩

@[blockNF] theorem blockScan_nf (s : BState) (i n : Nat) : Html.blockScan s i n = .error .fuel ↔ False := by
  fun_induction Html.blockScan s i n <;> simp_all [blockNF]
  all_goals (rintro rfl; simp_all [blockNF])

theorem htmlBlockRule_nf (s : BState) (silent : Bool) : Html.htmlBlockRule s silent ≠ .error .fuel := by
  intro h
  unfold Html.htmlBlockRule at h
  split at h
  · rename_i e he; injection h with h; subst h; exact (lineIndent_nf _ _).mp he
  · split at h
    · cases h
    · split at h
      · rename_i e he; injection h with h; subst h; exact (getLine_nf _ _).mp he
      · split at h
        · cases h
        · split at h
          · cases h
          · split at h
            · cases h
            · simp only at h
              split at h
              · rename_i e he; injection h with h; subst h
                split at he
                · cases he
                · exact (blockScan_nf _ _ _).mp he
              · split at h
                · rename_i e he; injection h with h; subst h; exact (getLines_nf _ _ _ _ _).mp he
                · split at h
                  · rename_i e he; injection h with h; subst h; exact (psub_nf _ _).mp he
                  · split at h
                    · rename_i e he; injection h with h; subst h; exact (getMap_nf _ _ _).mp he
                    · cases h

theorem htmlRule_nf (s : BState) (silent : Bool) : htmlRule s silent ≠ .error .fuel := by
  intro h
  unfold htmlRule at h
  split at h
  · rename_i e he
    simp only [Except.error.injEq] at h
    subst h
    exact htmlBlockRule_nf s silent he
  · cases h
  · cases h

/-- the pushed node is a leaf: in the encoding of the model, a fence with marker `<` -/
theorem htmlNode_leaf (n : Html.BlockNode) : LeafNode (htmlNode n) := .fence _ _ _ _ _

/-- the html rule in real mode is a flat step (`Props/Block.lean` section 7), under the id of the rule whose
    node kind it borrows: it declines, or pushes one leaf and moves `line` forward, not beyond `line_max` -/
theorem htmlRule_step {cfg : Cfg} {s s' : BState} {b : Bool} (h : htmlRule s false = .ok (b, s')) :
    FlatStep cfg .fence s b s' := by
  cases b with
  | false => rw [htmlRule_false_same h]; exact .decline
  | true =>
    obtain ⟨n, l, _, rfl, hlt, hle⟩ := htmlRule_true h
    exact .push _ l (htmlNode_leaf n) (by simp [htmlNode, htmlKind]) (by simp) fun hl => ⟨hlt, hle hl⟩

/-! ## 2. the ten rules meet the contracts of the nine -/

theorem silent_pure_ruleH {cfg : Cfg} {tok : Tok} {test : Test} {fuel : Nat} {r : RuleIdH}
    {s s' : BState} {b : Bool} (h : runRuleH cfg tok test fuel r s true = .ok (b, s')) : s' = s := by
  cases r with
  | base r => exact silent_pure_rule h
  | html => exact htmlRule_silent_pure h

/-- `RunSpec` over an arbitrary id type -/
structure RunSpecG {ι : Type} (run : ι → BState → Bool → Res) : Prop where
  false_same : ∀ r s s', run r s false = .ok (false, s') → s' = s
  advanced : ∀ r s s', run r s false = .ok (true, s') → s.line < s.lineMax → IndentOk s → Advanced s s'

theorem runRuleH_spec {cfg : Cfg} {tok : Tok} {test : Test} (hk : TokSpec tok) (ht : TestPure test)
    (fuel : Nat) : RunSpecG (runRuleH cfg tok test fuel) := by
  have h9 := runRule_spec (cfg := cfg) hk ht fuel
  constructor
  · intro r s s' h
    cases r with
    | base r => exact h9.false_same r s s' h
    | html => exact htmlRule_false_same h
  · intro r s s' h hl hi
    cases r with
    | base r => exact h9.advanced r s s' h hl hi
    | html => exact (htmlRule_step (cfg := cfg) h).advanced hl

theorem runRuleH_np {cfg : Cfg} {tok : Tok} {test : Test} {fuel : Nat} (hk : TokSpec tok)
    (ht : TestPure test) (hto : TestOK test) (hko : TokOK tok) : RunNP (runRuleH cfg tok test fuel) := by
  intro r s silent hI hl hi
  cases r with
  | base r => exact rulesNP cfg tok test fuel hk ht hto hko r s silent hI hl hi
  | html => exact htmlRule_np hI hl silent

theorem runRuleH_silent_nf (cfg : Cfg) (tok : Tok) (test : Test) (fuel : Nat) (r : RuleIdH) (s : BState) :
    runRuleH cfg tok test fuel r s true ≠ .error .fuel := by
  cases r with
  | base r => exact runRule_silent_nf cfg tok test fuel r s
  | html => exact htmlRule_nf s true

theorem runRuleH_nf {cfg : Cfg} {tok : Tok} {test : Test} {N : Nat} (hk : TokSpec tok) (ht : TestPure test)
    (htf : TestNF test) (hkf : TokNF cfg tok N) {fuel : Nat} (r : RuleIdH) {s : BState} {silent : Bool}
    (hl : s.line < s.lineMax) (hf : s.lineMax < s.line + fuel) (hi : IndentOk s)
    (hn : need cfg s ≤ N + 1) (hlv : s.level < cfg.maxNesting) :
    runRuleH cfg tok test fuel r s silent ≠ .error .fuel := by
  cases r with
  | base r => exact runRule_nf hk ht htf hkf r hl hf hi hn hlv
  | html => exact htmlRule_nf s silent

/-! ## 3. the chain as ONE rule -/

theorem chain_runSpec {ι : Type} {run : ι → BState → Bool → Res} (hr : RunSpecG run) (chain : List ι) :
    RunSpec (fun _ => runChainG run chain) := by
  constructor
  · intro _ s s' h
    rcases runChainG_ok hr.false_same chain h with ⟨-, hs⟩ | ⟨r, -, ⟨⟩, -⟩
    exact hs
  · intro _ s s' h hl hi
    rcases runChainG_ok hr.false_same chain h with ⟨⟨⟩, -⟩ | ⟨r, -, -, hrule⟩
    exact hr.advanced _ _ _ hrule hl hi

theorem runChainG_silent_pure {ι : Type} {run : ι → BState → Bool → Res}
    (hp : ∀ r s b s', run r s true = .ok (b, s') → s' = s)
    (chain : List ι) (s : BState) (b : Bool) (s' : BState) (h : runChainG run chain s true = .ok (b, s')) :
    s' = s := by
  rcases runChainG_ok (fun r s s' h => hp r s false s' h) chain h with ⟨-, hs⟩ | ⟨r, -, -, hrule⟩
  · exact hs
  · exact hp _ _ _ _ hrule

/-- a relation that holds of every real-mode step of a rule (under a condition `Pre` on the state the rule
    gets) holds of the chain: a rule that declines hands back the state it got -/
theorem runChainG_rel {ι : Type} {run : ι → BState → Bool → Res} (hr : RunSpecG run)
    {Pre : BState → Prop} {R : BState → BState → Prop} (hrefl : ∀ s, R s s)
    (hrule : ∀ r s b s', run r s false = .ok (b, s') → Pre s → R s s')
    (chain : List ι) (s : BState) (b : Bool) (s' : BState) (h : runChainG run chain s false = .ok (b, s'))
    (hp : Pre s) : R s s' := by
  rcases runChainG_ok hr.false_same chain h with ⟨-, rfl⟩ | ⟨r, -, -, h1⟩
  · exact hrefl _
  · exact hrule _ _ _ _ h1 hp

theorem chain_np {ι : Type} {run : ι → BState → Bool → Res} (hr : RunSpecG run)
    (hp : ∀ r s b s', run r s true = .ok (b, s') → s' = s) (hrun : RunNP run) (chain : List ι) :
    RunNP (fun (_ : RuleId) => runChainG run chain) := by
  intro _ s silent hI hl hi
  refine runChainG_err (fun r s s' h => ?_) (fun r => hrun r s silent hI hl hi) chain
  cases silent with
  | true => exact hp _ _ _ _ h
  | false => exact hr.false_same _ _ _ h

theorem chain_nf {ι : Type} {run : ι → BState → Bool → Res} {silent : Bool}
    (hsame : ∀ r s s', run r s silent = .ok (false, s') → s' = s) {s : BState}
    (hrun : ∀ r, run r s silent ≠ .error .fuel) (chain : List ι) :
    runChainG run chain s silent ≠ .error .fuel :=
  errIn_ne_fuel.mp (runChainG_err hsame (fun r => errIn_ne_fuel.mpr (hrun r)) chain)

/-! ## 4. `tokLoopG` is `Block.tokLoop` over the one-rule chain -/

/-- a `Block.Cfg` whose chain has one element (which one does not matter: the runner ignores it) -/
def oneCfg (cfg : Cfg) : Cfg := { cfg with chain := [.code] }

theorem need_oneCfg (cfg : Cfg) (s : BState) : need (oneCfg cfg) s = need cfg s := rfl

theorem runChain_one (R : BState → Bool → Res) (s : BState) (silent : Bool) :
    runChain (fun _ => R) [.code] s silent = R s silent := by
  simp only [runChain]
  cases R s silent with
  | error e => rfl
  | ok w =>
    obtain ⟨b, s'⟩ := w
    cases b <;> rfl

theorem tokLoopG_eq {ι : Type} (cfg : Cfg) (chain : List ι) (run : ι → BState → Bool → Res) :
    ∀ (k : Nat) (he : Bool) (s : BState),
      tokLoopG cfg.maxNesting chain run k he s = tokLoop (oneCfg cfg) (fun _ => runChainG run chain) k he s := by
  intro k
  induction k with
  | zero => intro he s; rfl
  | succ k ih =>
    intro he s
    simp only [tokLoopG, tokLoop, oneCfg, runChain_one, ih]

/-! ## 5. the engine: structural contracts -/

theorem testRulesH_pure (cfg : Cfg) (chain : List RuleIdH) (fuel : Nat) : TestPure (testRulesH cfg chain fuel) := by
  intro s r h
  cases fuel with
  | zero => simp [testRulesH, engineH] at h
  | succ f =>
    simp only [testRulesH, engineH] at h
    exact runChainG_silent_pure (fun r s b s' h => silent_pure_ruleH h) _ _ _ _ h

theorem tokenizeH_spec (cfg : Cfg) (chain : List RuleIdH) :
    ∀ (fuel : Nat) (s s' : BState), tokenizeH cfg chain fuel s = .ok s' → TokPost s s' := by
  intro fuel
  induction fuel with
  | zero => intro s s' h; simp [tokenizeH, engineH] at h
  | succ f ih =>
    intro s s' h
    simp only [tokenizeH, engineH] at h
    rw [tokLoopG_eq] at h
    exact tokLoop_spec
      (chain_runSpec (runRuleH_spec (TokSpec.of_post ih) (testRulesH_pure cfg chain f) _) chain) _ _ _ _ h

theorem tokenizeH_tokSpec (cfg : Cfg) (chain : List RuleIdH) (fuel : Nat) : TokSpec (tokenizeH cfg chain fuel) :=
  TokSpec.of_post (tokenizeH_spec cfg chain fuel)

/-- what a successful `parseBlocksH` went through (`Block.parseBlocks_ok`): one tokenizer run on the fresh
    state, which hands the node under construction back as `Root` -/
theorem parseBlocksH_ok {cfg : CfgH} {src : List Char} {root : BNode} {refs : Refs.RefMap}
    (h : parseBlocksH cfg src = .ok (root, refs)) :
    ∃ s, tokenizeH cfg.base cfg.chain (fuelFor cfg.base src) (BState.fresh src .root []) = .ok s ∧
      root = ⟨.root, some (0, Lines.byteLen src), s.children⟩ ∧ refs = s.refs := by
  unfold parseBlocksH at h
  split at h
  · cases h
  · next s hs =>
    cases h
    refine ⟨s, hs, ?_, rfl⟩
    rw [(tokenizeH_spec cfg.base cfg.chain _ _ _ hs).frame.nodeKind]
    rfl

/-- … and a failing one: the tokenizer run failed -/
theorem parseBlocksH_err {cfg : CfgH} {src : List Char} {e : Panic} (h : parseBlocksH cfg src = .error e) :
    tokenizeH cfg.base cfg.chain (fuelFor cfg.base src) (BState.fresh src .root []) = .error e := by
  unfold parseBlocksH at h
  split at h
  · next e' he => cases h; exact he
  · cases h

/-! ### the grammar of the trees the tokenizer with the html rule builds (`Lemmas/BlockGrammar.lean`) -/

/-- is the default block rule in the ten-rule chain -/
def hasParaH (chain : List RuleIdH) : Bool := chain.contains (.base .paragraph)

theorem runChainG_para {cfg : Cfg} {tok : Tok} {test : Test} {fuel : Nat} :
    ∀ (chain : List RuleIdH) (s : BState) (b : Bool) (s' : BState), RuleIdH.base .paragraph ∈ chain →
      runChainG (runRuleH cfg tok test fuel) chain s false = .ok (b, s') → b = true :=
  runChainG_claims (r0 := RuleIdH.base .paragraph) fun _ _ h => absurd (real_true_paragraph h) (by simp)

/-- the grammar of the ten-rule engine (no claim about tight items) -/
def gramH (cfg : Cfg) (chain : List RuleIdH) : Gram := ⟨hasParaH chain, False, cfg.maxNesting⟩

theorem runRuleH_appends {G : Gram} {cfg : Cfg} {tok : Tok} {test : Test} (hk : TokSpec tok)
    (hE : TokEmits G tok) (ht : TestPure test) {fuel : Nat} {r : RuleIdH} {s s' : BState} {b : Bool}
    (h : runRuleH cfg tok test fuel r s false = .ok (b, s')) (hl : s.line < s.lineMax) (hi : IndentOk s)
    (hlv : s.level < G.N) : Appends G s s' := by
  cases r with
  | base r => exact runRule_appends hk hE ht h hl hi hlv
  | html =>
    cases htmlRule_step (cfg := cfg) h with
    | decline => exact .refl _ _
    | push n l hn => exact .push rfl rfl (.leaf hlv hn)
    | define _ _ _ _ _ hr => cases hr

/-- **what the tokenizer with the html rule builds** (`Block.tokenize_emits`) -/
theorem tokenizeH_emits (cfg : Cfg) (chain : List RuleIdH) :
    ∀ fuel : Nat, TokEmits (gramH cfg chain) (tokenizeH cfg chain fuel) := by
  intro fuel
  refine ⟨?_, fun hp => hp.elim⟩
  induction fuel with
  | zero => intro s s' h; simp [tokenizeH, engineH] at h
  | succ f ih =>
    intro s s' h
    simp only [tokenizeH, engineH] at h
    rw [tokLoopG_eq] at h
    have hk := tokenizeH_tokSpec cfg chain f
    have ht := testRulesH_pure cfg chain f
    have hspec := runRuleH_spec (cfg := cfg) hk ht (f + 1)
    refine tokLoop_keeps (cfg := oneCfg cfg) (K := Appends (gramH cfg chain)) (fun s l t _ => .refl _ _)
      (fun _ _ _ => .trans) ?_ _ _ _ _ h
    intro s ok S1 S2 hl hi hlv hchain hafter
    simp only [oneCfg, runChain_one] at hchain
    have h1 : Appends (gramH cfg chain) s S1 :=
      runChainG_rel hspec (Pre := fun s => s.line < s.lineMax ∧ IndentOk s ∧ s.level < cfg.maxNesting)
        (.refl _) (fun r s b s' h hp => runRuleH_appends hk ⟨ih, fun hp => hp.elim⟩ ht h hp.1 hp.2.1 hp.2.2)
        chain s ok S1 hchain ⟨hl, hi, hlv⟩
    refine h1.trans (afterChain_appends hafter (h1.1 ▸ hlv) fun hok => ?_)
    cases hp : hasParaH chain with
    | false => exact hp
    | true =>
      exact absurd (runChainG_para _ _ _ _ (by simpa [hasParaH] using hp) hchain) (by rw [hok]; simp)

theorem parseBlocksH_emits {cfg : CfgH} {src : List Char} {root : BNode} {refs : Refs.RefMap}
    (h : parseBlocksH cfg src = .ok (root, refs)) :
    ∃ cs, root = ⟨.root, some (0, Lines.byteLen src), cs⟩ ∧
      ∀ c ∈ cs, Emits (gramH cfg.base cfg.chain) 0 c := by
  obtain ⟨s, hs, rfl, -⟩ := parseBlocksH_ok h
  exact ⟨_, rfl, (tokenizeH_emits cfg.base cfg.chain _).kids hs rfl⟩

/-! ## 6. the engine: no panic -/

theorem engineH_np (cfg : Cfg) (chain : List RuleIdH) :
    ∀ (f : Nat), TokOK (tokenizeH cfg chain f) ∧ TestOK (testRulesH cfg chain f) := by
  intro f
  induction f with
  | zero =>
    refine ⟨fun s _ e h => ?_, fun s _ _ e h => ?_⟩ <;>
      simp [tokenizeH, testRulesH, engineH] at h <;> exact h.symm
  | succ f ih =>
    have hk := tokenizeH_tokSpec cfg chain f
    have ht := testRulesH_pure cfg chain f
    have hspec := runRuleH_spec (cfg := cfg) hk ht (f + 1)
    have hrun : RunNP (runRuleH cfg (tokenizeH cfg chain f) (testRulesH cfg chain f) (f + 1)) :=
      runRuleH_np hk ht ih.2 ih.1
    have hnp := chain_np hspec (fun r s b s' h => silent_pure_ruleH h) hrun chain
    refine ⟨fun s hI => ?_, fun s hI hl => ?_⟩
    · simp only [tokenizeH, engineH]
      rw [tokLoopG_eq]
      exact tokLoop_np (chain_runSpec hspec chain) hnp _ _ _ hI
    · simp only [testRulesH, engineH]
      exact hnp .code s true hI hl (fun h => by cases h)

/-! ## 7. the engine: fuel -/

theorem testRulesH_nf (cfg : Cfg) (chain : List RuleIdH) (fuel : Nat) (s : BState) :
    testRulesH cfg chain (fuel + 1) s ≠ .error .fuel := by
  simp only [testRulesH, engineH]
  exact chain_nf (fun r s s' h => silent_pure_ruleH h) (fun r => runRuleH_silent_nf cfg _ _ _ r s) _

/-- **fuel sufficiency of the tokenizer**: the measure `need` of `Lemmas/BlockTotalFuel.lean` is
    unchanged (the html rule neither nests nor loops on fuel) -/
theorem tokenizeH_nf (cfg : Cfg) (chain : List RuleIdH) : ∀ (f : Nat), TokNF cfg (tokenizeH cfg chain f) f := by
  intro f
  induction f with
  | zero => intro s hn; unfold need at hn; omega
  | succ f ih =>
    intro s hn
    simp only [tokenizeH, engineH]
    have hf : 1 ≤ f := by unfold need at hn; omega
    obtain ⟨g, rfl⟩ : ∃ g, f = g + 1 := ⟨f - 1, by omega⟩
    rw [tokLoopG_eq]
    have hk := tokenizeH_tokSpec cfg chain (g + 1)
    have ht := testRulesH_pure cfg chain (g + 1)
    have hspec := runRuleH_spec (cfg := cfg) hk ht (g + 1 + 1)
    refine tokLoop_nf (cfg := oneCfg cfg) (N := g + 1) (F := g + 1 + 1) (chain_runSpec hspec chain) ?_ _ _ _ ?_ ?_ hn
    · intro _ s' hl hF hi hn' hlv
      exact chain_nf hspec.false_same
        (fun r => runRuleH_nf hk ht (fun s => testRulesH_nf cfg chain g s) ih r hl hF hi hn' hlv) chain
    · unfold need at hn; omega
    · unfold need at hn; omega

/-! ## 8. conservativity: a chain without the html rule -/

theorem runChainG_map_base (cfg : Cfg) (tok : Tok) (test : Test) (fuel : Nat) :
    ∀ (chain : List RuleId) (s : BState) (silent : Bool),
      runChainG (runRuleH cfg tok test fuel) (chain.map .base) s silent =
        runChain (runRule cfg tok test fuel) chain s silent := by
  intro chain
  induction chain with
  | nil => intro s silent; rfl
  | cons r rs ih =>
    intro s silent
    simp only [List.map_cons, runChainG, runChain, runRuleH]
    cases runRule cfg tok test fuel r s silent with
    | error e => rfl
    | ok w =>
      obtain ⟨b, s'⟩ := w
      cases b
      · exact ih _ _
      · rfl

theorem tokLoopG_map_base (cfg : Cfg) (tok : Tok) (test : Test) (fuel : Nat) :
    ∀ (k : Nat) (he : Bool) (s : BState),
      tokLoopG cfg.maxNesting (cfg.chain.map .base) (runRuleH cfg tok test fuel) k he s =
        tokLoop cfg (runRule cfg tok test fuel) k he s := by
  intro k
  induction k with
  | zero => intro he s; rfl
  | succ k ih =>
    intro he s
    simp only [tokLoopG, tokLoop, runChainG_map_base, ih]

theorem engineH_conservative (cfg : Cfg) : ∀ (f : Nat), engineH cfg (cfg.chain.map .base) f = engine cfg f := by
  intro f
  induction f with
  | zero => rfl
  | succ f ih =>
    simp only [engineH, engine, ih]
    refine Prod.ext ?_ ?_
    · funext s
      exact tokLoopG_map_base cfg _ _ _ _ _ s
    · funext s
      exact runChainG_map_base cfg _ _ _ _ s true

theorem filterMap_base_map (l : List RuleId) : (l.map RuleIdH.base).filterMap RuleIdH.base? = l := by
  induction l with
  | nil => rfl
  | cons r rs ih => simp [RuleIdH.base?, ih]

theorem map_base_filterMap : ∀ (l : List RuleIdH), RuleIdH.html ∉ l → (l.filterMap RuleIdH.base?).map .base = l
  | [], _ => rfl
  | .html :: _, h => by simp at h
  | .base r :: rs, h => by
    have := map_base_filterMap rs (fun hm => h (List.mem_cons_of_mem _ hm))
    simp [RuleIdH.base?, this]

theorem base_ofCfg (cfg : Cfg) : (CfgH.ofCfg cfg).base = cfg := by
  cases cfg
  simp only [CfgH.ofCfg, CfgH.base, filterMap_base_map]

end MdIt.BlockH
