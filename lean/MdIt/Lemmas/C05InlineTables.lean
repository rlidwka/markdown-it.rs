/-
  C05, block side (the tables the inline half starts from): the `mapping` tables the block rules attach to their `InlineRoot`
  placeholders (`get_lines(b, e, blk_indent, false)` for paragraphs / setext headings, the one-entry
  table of an ATX heading), as far as keys and source offsets go.

  `Seg` is what `LSeg` (Lemmas/C05LineTable.lean) says of an entry, without the text; `getLines_table` reads
  the facts about the whole table off it, for any line table whose entries cut lines out of the source
  (`LineOk`), STRICTLY separated (`SortedS`: `lineEnd < next lineStart`, true of every real table, a
  terminator lies between two lines).  `getLines_first` is where the lower bound of
  Lemmas/C05InlineLower.lean starts.

  FINDING (about the interface `Block.InlSpec` of Lemmas/C05BlockGeo.lean, not about the crate): `Geo` is
  too weak for the full claim.  (a) `Geo.sorted` is `lineEnd ≤ next lineStart`; `MonoMap(V)` needs
  `<` (first witness `example` at the end: lines `(0,1)`, `(1,2)` of `"ab"`).  (b) nothing in `Geo` says that
  the columns of the leading "blanks" beyond `blk_indent` ARE blanks (after a container rewrote the entry
  the slice `line_start .. first_nonspace` contains the markers): second witness `example` — `"ab c"` with
  `first_nonspace = 3`, `indent_nonspace = 3`, `blk_indent = 0` is `Geo`, and `get_lines` maps the
  trimmed start to 0 `< first_nonspace`.  Both are true of every state the parser reaches; they need
  the strengthened invariant of `Lemmas/C05InlineGeo.lean`.
-/
import MdIt.Lemmas.C05LineTable

namespace MdIt.C05I
open MdIt.Lines
open MdIt.InlineOps (getSourcePosFor Srcmap)

/-- `k` is directly behind a line feed of `c` -/
def AfterLF (c : List Char) (k : Nat) : Prop :=
  ∃ pre post, c = pre ++ '\n' :: post ∧ byteLen pre + 1 = k

/-- entry `x`, followed by `y` (or last): the keys, the source offsets and the line feeds of the
    content, not its text.  `hi` bounds the ends of all lines; `V` holds if some line has a split
    tab. -/
def Seg (V : Prop) (c : List Char) (hi : Nat) (x : Nat × Nat) : Option (Nat × Nat) → Prop
  | some y => x.1 < y.1 ∧ x.2 ≤ hi ∧
      ((V ∧ y.2 = x.2) ∨ (x.2 + (y.1 - x.1) ≤ y.2 ∧ x.2 + (y.1 - 1 - x.1) ≤ hi ∧ AfterLF c y.1))
  | none => x.1 ≤ byteLen c ∧ x.2 + (byteLen c - x.1) ≤ hi

theorem LSeg.seg {T : Prop} {src c : List Char} {hi : Nat} (x : Nat × Nat) (n : Option (Nat × Nat))
    (h : LSeg T src c hi x n) : Seg ('\t' ∈ src) c hi x n := by
  rcases h with ⟨k', hn, _, hle, htab, pre, m, post, hc, hp, hk, hm, _⟩ |
    ⟨pre, t, post, hc, hp, hnt, hcut, hle, hnext⟩
  · subst hn
    exact ⟨by simp only; omega, hle, .inl ⟨htab, rfl⟩⟩
  · cases n with
    | none =>
      subst hnext
      have : byteLen c = x.1 + InlineOps.byteLen t := by
        rw [linesLen_eq, hc]; simp [C05.byteLen_append, hp]
      exact ⟨by omega, by omega⟩
    | some y =>
      obtain ⟨post', rfl, h2, h3, _⟩ := hnext
      refine ⟨by omega, by omega, .inr ⟨by omega, by omega, pre ++ t, post', by rw [hc], ?_⟩⟩
      rw [linesLen_eq, C05.byteLen_append]; omega

/-- keys other than the first: directly behind a line feed of the content, or behind the virtual
    spaces of a split tab (the entry before has the same source offset) -/
def KeysLFV (c : List Char) (m : Srcmap) : Prop :=
  ∀ i k v, m[i + 1]? = some (k, v) → AfterLF c k ∨ ∃ k0, m[i]? = some (k0, v)

/-- no virtual-space entry: no two consecutive entries with the same source offset -/
def NoVirt (m : Srcmap) : Prop :=
  ∀ i k1 v1 k2 v2, m[i]? = some (k1, v1) → m[i + 1]? = some (k2, v2) → v1 ≠ v2

/-- positions of the content that are not strictly inside virtual spaces are translated to `≤ hi` -/
def UpTo (c : List Char) (m : Srcmap) (hi : Nat) : Prop :=
  ∀ pos x, pos ≤ byteLen c → C05.NotInsideVirtual m pos → getSourcePosFor m pos = .ok x → x ≤ hi

theorem seg_wf {V : Prop} {c : List Char} {hi : Nat} {m : Srcmap} (hs : SegAll (Seg V c hi) m)
    (h0 : ∃ v rest, m = (0, v) :: rest) : C05.WFMap m :=
  ⟨h0, pairwise_of_segAll (fun _ _ h => h.1) m hs⟩

theorem seg_monoV {V : Prop} {c : List Char} {hi : Nat} {m : Srcmap} (hs : SegAll (Seg V c hi) m) :
    C05.MonoMapV m := by
  intro i k1 v1 k2 v2 h1 h2
  have := segAll_get hs h1
  rw [h2] at this
  obtain ⟨_, _, ⟨_, h⟩ | ⟨h, _, _⟩⟩ := this
  · exact .inr h.symm
  · exact .inl (by simpa using h)

theorem seg_keys {V : Prop} {c : List Char} {hi : Nat} {m : Srcmap} (hs : SegAll (Seg V c hi) m) :
    KeysLFV c m := by
  intro i k v h2
  obtain ⟨⟨k0, v0⟩, h1⟩ := C05.getElem?_some_of_lt m i (i + 1) _ h2 (by omega)
  have := segAll_get hs h1
  rw [h2] at this
  obtain ⟨_, _, ⟨_, h⟩ | ⟨_, _, h⟩⟩ := this
  · simp only at h; subst h; exact .inr ⟨k0, h1⟩
  · exact .inl h

/-- `UpTo` without the restriction to positions outside virtual segments: because `get_source_pos_for` clamps
    to the next entry's source offset, EVERY position of the content is translated to `≤ hi` (inside a
    virtual segment: to the source offset the segment sits on) -/
def UpToAll (c : List Char) (m : Srcmap) (hi : Nat) : Prop :=
  ∀ pos x, pos ≤ byteLen c → getSourcePosFor m pos = .ok x → x ≤ hi

theorem seg_upToAll {V : Prop} {c : List Char} {hi : Nat} {m : Srcmap} (hs : SegAll (Seg V c hi) m)
    (hw : C05.WFMap m) : UpToAll c m hi := by
  intro pos x hpos hx
  obtain ⟨i, k, v, h1, h2, h3, h4⟩ := C05.lineOf_spec m hw pos
  rw [C05.getSourcePosFor_of_line_clamp m pos i k v h1 h2 h3] at hx
  simp only [Except.ok.injEq] at hx
  subst hx
  have hseg := segAll_get hs h2
  cases hn : m[i + 1]? with
  | none =>
    rw [hn] at hseg
    obtain ⟨_, h⟩ := hseg
    simp only at h
    have := C05.clampNext_le m i (v + (pos - k)); omega
  | some y =>
    obtain ⟨k', v'⟩ := y
    rw [hn] at hseg
    obtain ⟨hk, hv, ⟨_, h⟩ | ⟨_, h, _⟩⟩ := hseg
    · simp only at h hk hv
      have := C05.clampNext_le_next m i (v + (pos - k)) k' v' hn
      omega
    · have := h4 _ _ _ (Nat.lt_succ_self i) hn
      simp only at h
      have := C05.clampNext_le m i (v + (pos - k)); omega

theorem UpToAll.upTo {c : List Char} {m : Srcmap} {hi : Nat} (h : UpToAll c m hi) : UpTo c m hi :=
  fun pos x hp _ hx => h pos x hp hx

theorem seg_upTo {V : Prop} {c : List Char} {hi : Nat} {m : Srcmap} (hs : SegAll (Seg V c hi) m)
    (hw : C05.WFMap m) : UpTo c m hi :=
  (seg_upToAll hs hw).upTo

/-- a table without virtual-space entries is what the inline range theorems ask for -/
theorem mapOK_of_noVirt {c : List Char} {m : Srcmap} (hw : C05.WFMap m) (hv : C05.MonoMapV m)
    (hk : KeysLFV c m) (hn : NoVirt m) : Inline.MapOK c m := by
  refine ⟨hw, ?_, ?_⟩
  · intro i k1 v1 k2 v2 h1 h2
    rcases hv i k1 v1 k2 v2 h1 h2 with h | h
    · exact h
    · exact absurd h (hn i k1 v1 k2 v2 h1 h2)
  · intro i k v hi hpos
    cases i with
    | zero =>
      obtain ⟨v0, rest, hm⟩ := hw.first
      rw [hm] at hi
      simp at hi
      omega
    | succ j =>
      rcases hk j k v hi with ⟨pre, post, h1, h2⟩ | ⟨k0, h0⟩
      · exact ⟨pre, post, h1, by rw [← h2, linesLen_eq]⟩
      · exact absurd rfl (hn j k0 v k v h0 hi)

theorem seg_noVirt {c : List Char} {hi : Nat} {m : Srcmap} (hs : SegAll (Seg False c hi) m) :
    NoVirt m := by
  intro i k1 v1 k2 v2 h1 h2
  have := segAll_get hs h1
  rw [h2] at this
  obtain ⟨hk, _, ⟨h, _⟩ | ⟨h, _, _⟩⟩ := this
  · exact h.elim
  · simp only at h hk; omega

theorem getLines_seg {src : List Char} {offs : List LineOffset}
    (hT : ∀ (k : Nat) (o : LineOffset), offs[k]? = some o → Block.LineOk src o)
    (hord : Block.SortedS offs) {b e indent : Nat} {c : List Char} {m : Srcmap} (hbe : b < e)
    (h : getLines src offs b e indent false = .ok (c, m)) {oe : LineOffset} (hoe : offs[e - 1]? = some oe) :
    SegAll (Seg ('\t' ∈ src) c oe.lineEnd) m ∧ ∃ v rest, m = (0, v) :: rest :=
  (getLines_lseg (T := False) hT hord (fun f => f.elim) hbe h hoe).imp (SegAll.imp LSeg.seg) id

theorem Seg.noV {V : Prop} (hV : ¬ V) {c : List Char} {hi : Nat} (x : Nat × Nat) (n : Option (Nat × Nat))
    (h : Seg V c hi x n) : Seg False c hi x n := by
  cases n with
  | none => exact h
  | some y =>
    obtain ⟨h1, h2, ⟨h, _⟩ | h3⟩ := h
    · exact absurd h hV
    · exact ⟨h1, h2, .inr h3⟩

/-- **The `mapping` of `get_lines(b, e, indent, false)`** on a table whose entries cut lines out of
    the source, the lines strictly separated (`SortedS`): well formed, monotone up to virtual-space
    entries, keys behind line feeds (or virtual spaces), nothing translated beyond the end of the
    last line; `MapOK` when there is no virtual-space entry; and there is none in a tab-free source. -/
theorem getLines_table {src : List Char} {offs : List LineOffset}
    (hT : ∀ (k : Nat) (o : LineOffset), offs[k]? = some o → Block.LineOk src o)
    (hord : Block.SortedS offs) {b e indent : Nat} {c : List Char} {m : Srcmap} (hbe : b < e)
    (h : getLines src offs b e indent false = .ok (c, m)) {oe : LineOffset} (hoe : offs[e - 1]? = some oe) :
    C05.WFMap m ∧ C05.MonoMapV m ∧ KeysLFV c m ∧ UpTo c m oe.lineEnd ∧
      (NoVirt m → Inline.MapOK c m) ∧ ('\t' ∉ src → NoVirt m) := by
  obtain ⟨hs, h0⟩ := getLines_seg hT hord hbe h hoe
  have hw := seg_wf hs h0
  refine ⟨hw, seg_monoV hs, seg_keys hs, seg_upTo hs hw, mapOK_of_noVirt hw (seg_monoV hs) (seg_keys hs), ?_⟩
  intro hno
  exact seg_noVirt (SegAll.imp (Seg.noV hno) hs)

/-- **the first line**: the content starts with the spaces of its split tab and the blanks it keeps
    beyond `indent`; the position behind them is translated to `first_nonspace` -/
theorem getLines_first {src : List Char} {offs : List LineOffset}
    (hT : ∀ (k : Nat) (o : LineOffset), offs[k]? = some o → Block.LineOk src o)
    (hord : Block.SortedS offs) {b e indent : Nat} {c : List Char} {m : Srcmap} (hbe : b < e)
    (h : getLines src offs b e indent false = .ok (c, m)) {ob : LineOffset} (hob : offs[b]? = some ob)
    {ws : List Char} (hws : slice src ob.lineStart ob.firstNonspace = .ok ws) {cc : Nat × Nat}
    (hcc : calcRightWs ws (ob.indentNonspace - usizeAsI32 indent) = cc) :
    ∃ tail, c = List.replicate cc.1 ' ' ++ dropB ws cc.2 ++ tail ∧
      getSourcePosFor m (cc.1 + byteLen (dropB ws cc.2)) = .ok ob.firstNonspace := by
  obtain ⟨oe, hoe⟩ := getLines_last hbe h
  have hw := (getLines_table hT hord hbe h hoe).1
  obtain ⟨ovs, hvl, hv, rfl, rfl⟩ := getLines_views hT hbe h
  cases ovs with
  | nil => simp at hvl; omega
  | cons ov rest =>
    obtain ⟨o, v⟩ := ov
    obtain ⟨ho, hsh, hn1, hn2⟩ := hv 0 (by simp)
    simp only [Nat.add_zero, List.getElem_cons_zero] at ho hsh hn1 hn2
    rw [hob] at ho
    cases ho
    have hv1 : v.1 = ws := by
      have := hsh.1
      unfold lineWs at this
      rw [hws] at this
      cases this; rfl
    have hi : ob.indentNonspace = v.2.2 := hsh.2.2
    rw [hi, ← hv1] at hcc
    subst hv1
    obtain ⟨hcut, hend, hnt, hvp⟩ := line_piece (indent := indent) hsh hn1 hn2 hcc rfl
    obtain ⟨_, _, _, _, hq⟩ := slice_eq_ok_iff.mp hsh.2.1
    rw [← linesLen_eq, byteLen_append] at hend
    have hbl : byteLen (viewPiece indent v) = cc.1 + (byteLen (dropB v.1 cc.2) + byteLen v.2.1) := by
      rw [hvp, byteLen_append, byteLen_replicate_space, byteLen_append]
    rw [mapOf_cons, hcc, ← linesLen_eq (viewPiece indent v)] at hw ⊢
    simp only [Nat.zero_add] at hw ⊢
    -- the entries of the following lines: keys behind the first line, offsets behind its end
    have hM : ∀ k' v', (mapOf indent (byteLen (viewPiece indent v) + 1) rest)[0]? = some (k', v') →
        cc.1 + byteLen (dropB v.1 cc.2) < k' ∧ ob.lineEnd < v' := by
      intro k' v' hk
      cases rest with
      | nil => simp [mapOf] at hk
      | cons ov2 r =>
        rw [← List.head?_eq_getElem?, mapOf_head] at hk
        cases hk
        have h2 := (hv 1 (by simp)).1
        simp only [List.getElem_cons_succ, List.getElem_cons_zero] at h2
        have := hord b (b + 1) _ _ (by omega) hob h2
        constructor <;> omega
    refine ⟨v.2.1 ++ (if rest.isEmpty then [] else '\n' :: joinLines false (rest.map fun ov => viewPiece indent ov.2)), ?_, ?_⟩
    · cases rest <;> simp [joinLines, hvp, List.append_assoc]
    · have hgoal : ob.firstNonspace = ob.lineStart + cc.2 + (cc.1 + byteLen (dropB v.1 cc.2) - cc.1) := by omega
      rw [hgoal]
      by_cases hn : cc.1 > 0
      · rw [if_pos hn] at hw ⊢
        exact C05.translate_segment_free _ hw _ 1 _ _ rfl (by omega)
          (fun k' v' hk => (hM k' v' hk).1) (fun k' v' hk => by have := (hM k' v' hk).2; omega)
      · rw [if_neg hn] at hw ⊢
        have h0 : cc.1 = 0 := by omega
        exact C05.translate_segment_free _ hw _ 0 _ _ (by rw [h0]; rfl) (by omega)
          (fun k' v' hk => (hM k' v' hk).1) (fun k' v' hk => by have := (hM k' v' hk).2; omega)

/-- a one-entry table (ATX heading, no-paragraph fallback) -/
theorem single_table (c : List Char) (x : Nat) :
    C05.WFMap [(0, x)] ∧ C05.MonoMapV [(0, x)] ∧ KeysLFV c [(0, x)] ∧ NoVirt [(0, x)] ∧
      Inline.MapOK c [(0, x)] := by
  have hw : C05.WFMap [(0, x)] := ⟨⟨x, [], rfl⟩, by simp⟩
  have hv : C05.MonoMapV [(0, x)] := by intro i k1 v1 k2 v2 _ h2; simp at h2
  have hk : KeysLFV c [(0, x)] := by intro i k v h; simp at h
  have hn : NoVirt [(0, x)] := by intro i k1 v1 k2 v2 _ h2; simp at h2
  exact ⟨hw, hv, hk, hn, mapOK_of_noVirt hw hv hk hn⟩

theorem single_translate (x pos : Nat) : getSourcePosFor [(0, x)] pos = .ok (x + pos) := by
  have hw : C05.WFMap [(0, x)] := ⟨⟨x, [], rfl⟩, by simp⟩
  have := C05.translate_segment_free [(0, x)] hw pos 0 0 x rfl (Nat.zero_le _) (by intro k' v' h; simp at h)
    (by intro k' v' h; simp at h)
  simpa using this

theorem heading_seg {s : Block.BState} {o : LineOffset} (hl : Block.LineOk s.src o)
    (ho : s.offs[s.line]? = some o) {line content : List Char} {textPos textMax : Nat}
    (hline : s.getLine s.line = .ok line)
    (hcontent : Block.liftL (Lines.slice line textPos textMax) = .ok content) :
    SegAll (Seg ('\t' ∈ s.src) content o.lineEnd) [(0, o.firstNonspace + textPos)] :=
  SegAll.imp LSeg.seg (heading_lseg (T := False) hl ho hline hcontent)

theorem getLines_lift {s : Block.BState} {b e indent : Nat} {keep : Bool} {r : List Char × List (Nat × Nat)}
    (h : s.getLines b e indent keep = .ok r) : getLines s.src s.offs b e indent keep = .ok r :=
  Block.liftL_ok5 h

/-! ## witnesses: `Block.Geo` is too weak for the full claim -/

/-- `exWeak`: two "lines" `(0,1)`, `(1,2)` of `"ab"` that touch (`lineEnd = next lineStart`: allowed
    by `Block.Sorted`, every entry `LineOk`): the table of `get_lines` is `[(0,0),(2,1)]` — the second
    line starts, in the source, BEFORE the end of the inline text of the first (`0 + 2 > 1`):
    neither `MonoMapV` nor `MonoMap`.  Real tables have a terminator between two lines (`SortedS`). -/
example : getLines ['a', 'b'] [⟨0, 1, 0, 0⟩, ⟨1, 2, 1, 0⟩] 0 2 0 false
      = .ok (['a', '\n', 'b'], [(0, 0), (2, 1)]) ∧ ¬ (0 + (2 - 0) ≤ 1 ∨ 0 = 1) := by decide +kernel

/-- `exLead`: `"ab c"` as ONE line with `first_nonspace = 3`, `indent_nonspace = 3` (a `Block.Geo`
    entry: `indent ≤ 4 · 3`), `blk_indent = 0`: `get_lines` walks back three columns over `"ab "`,
    the content is `"ab c"` mapped at 0, `trim_src` starts at 0, and `tr 0 = 0 < 3 = first_nonspace`.
    In a real state the columns beyond `blk_indent` are blanks (`C05I.KeptBlank`). -/
example : getLines ['a', 'b', ' ', 'c'] [⟨0, 4, 3, 3⟩] 0 1 0 false = .ok (['a', 'b', ' ', 'c'], [(0, 0)]) ∧
    Inline.trimSrc ['a', 'b', ' ', 'c'] = (0, 4) ∧ getSourcePosFor [(0, 0)] 0 = .ok 0 := by decide +kernel

/-- non-vacuity of `getLines_table`: the table of `"- a\n\n \tb"`, line 2 at indent 2 (split tab) -/
example : C05.WFMap (mapOf 2 0 [(⟨5, 8, 7, 4⟩, ([' ', '\t'], ['b'], 4))]) ∧
    ¬ NoVirt (mapOf 2 0 [(⟨5, 8, 7, 4⟩, ([' ', '\t'], ['b'], 4))]) := by
  refine ⟨⟨⟨7, [(2, 7)], by decide⟩, by decide⟩, ?_⟩
  intro h
  exact h 0 0 7 2 7 (by decide) (by decide) rfl

end MdIt.C05I
