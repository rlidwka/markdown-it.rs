/-
  C13 tied to SOURCE LINES, the template (namespace `MdIt.Block.Tr`): the symbolic first iteration of
  the block pass on a document that begins with two adjacent definition lines

        D₁ ⏎ D₂ ⏎ ⏎ R…          (`D₁`, `D₂` begin with `[`; `R` = any further lines)

    `leading_definition_stored`   the reference rule fires on line 0: it reads the lines 0‥1 (the scan
                                  runs through `D₂`, which no rule terminates, up to the blank line),
                                  stores what `refParse` makes of `D₁ ⏎ D₂`; since a present key keeps
                                  its entry (`Extends.get_stable`), the FINAL map has that entry
                                  whatever `D₂` and `R` are.
-/
import MdIt.Lemmas.C13TraceInv
import MdIt.Lemmas.C12CtxBlockDef

namespace MdIt.Block.Tr
open MdIt.Lines (LineOffset NoTerm lead lead_bracket)
open MdIt.Block

/-! ## a line that begins with `[` -/

/-- on a line `[…` of indent 0 (no pending list indent) the six rules that look at the first line only
    decline in either mode; in look-ahead mode the other three decline at once -/
theorem runRule_bracket_decline (cfg : Cfg) (tok : Tok) (test : Test) (fuel : Nat) (s : BState)
    (rest : List Char) (hind : s.lineIndent s.line = .ok 0) (hline : s.getLine s.line = .ok ('[' :: rest))
    (hli : s.listIndent = none) (silent : Bool) (r : RuleId)
    (hr : silent = true ∨ (r ≠ .paragraph ∧ r ≠ .reference ∧ r ≠ .lheading)) :
    runRule cfg tok test fuel r s silent = .ok (false, s) := by
  by_cases hp : r = .lheading ∨ r = .paragraph
  · rcases hr with rfl | ⟨h1, _, h3⟩
    · exact runRule_silent_scan hp s
    · exact absurd hp (by simp [h1, h3])
  · by_cases href : r = .reference
    · rcases hr with rfl | ⟨_, h2, _⟩
      · subst href; simp [runRule, referenceRule, pure, Except.pure]
      · exact absurd href h2
    · exact runRule_declines hind (by omega) hline hli
        (declines_bracket rest (fun e => hp (.inr e)) (fun e => hp (.inl e)) (.inl href)) silent

theorem runChain_silent_false (run : RuleId → BState → Bool → Res) (s : BState) :
    ∀ chain : List RuleId, (∀ r ∈ chain, run r s true = .ok (false, s)) →
      runChain run chain s true = .ok (false, s)
  | [], _ => rfl
  | r :: rs, h => by
    simp only [runChain, h r (by simp)]
    exact runChain_silent_false run s rs (fun r' hr' => h r' (List.mem_cons_of_mem _ hr'))

/-! ## a state at line 0 of  D₁ ⏎ D₂ ⏎ ⏎ R… -/

theorem dropWhile_bracket (rest : List Char) : ('[' :: rest).dropWhile Lines.isBlank = '[' :: rest := by
  simp [Lines.isBlank]

theorem indentWidth_nil : (Lines.indentWidth [] : Int) = 0 := rfl
theorem indentWidth_nil' : Lines.indentWidth [] = 0 := rfl

/-- the facts about the first three lines the rules read -/
structure TwoDefs (s : BState) (rest₁ rest₂ : List Char) : Prop where
  line : s.line = 0
  max : 3 < s.lineMax
  li : s.listIndent = none
  ind0 : s.lineIndent 0 = .ok 0
  ind1 : s.lineIndent 1 = .ok 0
  get0 : s.getLine 0 = .ok ('[' :: rest₁)
  get1 : s.getLine 1 = .ok ('[' :: rest₂)
  emp0 : s.isEmpty 0 = false
  emp1 : s.isEmpty 1 = false
  emp2 : s.isEmpty 2 = true
  off1 : ∃ o, s.off 1 = .ok o ∧ o.indentNonspace = 0
  lines : ∃ m, s.getLines 0 2 s.blkIndent false = .ok ('[' :: (rest₁ ++ '\n' :: '[' :: rest₂), m)

theorem twoDefs_of_onDoc {s : BState} {rest₁ rest₂ : List Char} {R : List (List Char)}
    (hs : OnDoc (('[' :: rest₁) :: ('[' :: rest₂) :: [] :: R) s) (hl : s.line = 0)
    (hmax : s.lineMax = (('[' :: rest₁) :: ('[' :: rest₂) :: [] :: R).length) (hR : R ≠ [])
    (hli : s.listIndent = none) : TwoDefs s rest₁ rest₂ := by
  have hlen : 3 < (('[' :: rest₁) :: ('[' :: rest₂) :: [] :: R).length := by
    cases R with
    | nil => exact absurd rfl hR
    | cons a r => simp
  have h0 : 0 < (('[' :: rest₁) :: ('[' :: rest₂) :: [] :: R).length := by omega
  have h1 : 1 < (('[' :: rest₁) :: ('[' :: rest₂) :: [] :: R).length := by omega
  have h2 : 2 < (('[' :: rest₁) :: ('[' :: rest₂) :: [] :: R).length := by omega
  refine ⟨hl, by omega, hli, ?_, ?_, ?_, ?_, ?_, ?_, ?_, ?_, ?_⟩
  · have := hs.lineIndent h0
    simpa [lead_bracket, indentWidth_nil'] using this
  · have := hs.lineIndent h1
    simpa [lead_bracket, indentWidth_nil'] using this
  · have := hs.getLine h0
    simpa [dropWhile_bracket] using this
  · have := hs.getLine h1
    simpa [dropWhile_bracket] using this
  · have := hs.isEmpty h0
    simpa [dropWhile_bracket] using this
  · have := hs.isEmpty h1
    simpa [dropWhile_bracket] using this
  · have := hs.isEmpty h2
    simpa using this
  · obtain ⟨o, ho, _, _, hi⟩ := hs.entry h1
    refine ⟨o, by simp [BState.off, ho], ?_⟩
    simp only [List.getElem_cons_succ, List.getElem_cons_zero, lead_bracket] at hi
    rw [hi]; rfl
  · obtain ⟨m, hm⟩ := hs.getLines 0 2 0 false (by omega) (by omega)
    refine ⟨m, ?_⟩
    rw [hs.blk, hm]
    simp [Lines.joinLines, viewPiece_zero]

/-- the paragraph-continuation scan from line 0: `D₂` terminates nothing, line 2 is blank -/
theorem lazyScan_twoDefs {test : Test} {s : BState} {rest₁ rest₂ : List Char} (h : TwoDefs s rest₁ rest₂)
    (htest : test { s with line := 1 } = .ok (false, { s with line := 1 })) (k : Nat) :
    lazyScan test false (k + 2) s 0 = .ok (2, 0, s) := by
  obtain ⟨o, ho, hoi⟩ := h.off1
  have hm1 : ¬ (1 ≥ s.lineMax) := by have := h.max; omega
  have hback : ({ ({ s with line := 1 } : BState) with line := s.line } : BState) = s := set_line_back s 1
  simp [lazyScan, hm1, h.emp1, h.emp2, h.ind1, setextCheck, ho, hoi, htest, hback, pure, Except.pure,
    bind, Except.bind]

theorem reference_twoDefs {cfg : Cfg} {tok : Tok} {test : Test} {s : BState} {rest₁ rest₂ : List Char}
    (h : TwoDefs s rest₁ rest₂)
    (htest : test { s with line := 1 } = .ok (false, { s with line := 1 })) (k : Nat)
    (hq : refQuick false rest₁ = true) (raw href : List Nat) (title : Option (List Nat))
    (hparse : refParse cfg (trimStr ('[' :: (rest₁ ++ '\n' :: '[' :: rest₂))) =
      .ok (some (raw, href, title, 0)))
    (hlab : (Refs.normalize cfg.L cfg.U raw).isEmpty = false) :
    runRule cfg tok test (k + 2) .reference s false =
      .ok (true, { s with
        refs := Refs.insertFirst s.refs (Refs.normalize cfg.L cfg.U (Refs.normalize cfg.L cfg.U raw))
                  ⟨href, title⟩,
        line := 1 }) := by
  obtain ⟨m, hm⟩ := h.lines
  have hscan := lazyScan_twoDefs h htest k
  have hlab' : Refs.normalize cfg.L cfg.U raw ≠ [] := by simpa using hlab
  simp [runRule, referenceRule, h.line, h.ind0, h.get0, hq, hscan, hm, hparse, hlab', pure, Except.pure,
    bind, Except.bind]

/-! ## the first iteration of the tokenizer loop -/

theorem set_line_self (s : BState) : ({ s with line := s.line } : BState) = s := by cases s; rfl

/-- an iteration on a non-blank line of non-negative indent on which the chain answers `(true, s1)`:
    the final map extends the map of `s1` -/
theorem tokLoop_first_refs {cfg : Cfg} {run : RuleId → BState → Bool → Res}
    (hsh : ∀ r s b s', run r s false = .ok (b, s') → KeepsRefs cfg s s')
    (k : Nat) (he : Bool) (s s1 s' : BState) (i : Int) (hlt : s.line < s.lineMax)
    (hne : s.isEmpty s.line = false) (hind : s.lineIndent s.line = .ok i) (hi : ¬ i < 0)
    (hlvl : s.level < cfg.maxNesting) (hchain : runChain run cfg.chain s false = .ok (true, s1))
    (h : tokLoop cfg run (k + 1) he s = .ok s') : Extends cfg s1.refs s'.refs := by
  rcases tokLoop_ok h with ⟨hc, _⟩ | ⟨l, _, hl, hq⟩
  · exact absurd hlt hc
  rw [(skipEmpty_spec s.offs s.lineMax s.line).2.2.1 hne] at hl
  subst hl
  rcases hq with ⟨hge, _⟩ | ⟨ind, _, hind', hq⟩
  · omega
  cases hind.symm.trans hind'
  rcases hq with ⟨hneg, _⟩ | ⟨_, hge, _⟩ | ⟨ok, S1, S2, he', S3, _, _, hch, hafter, _, hloop, hS3⟩
  · exact absurd hneg hi
  · omega
  rw [set_line_self s, hchain] at hch
  cases hch
  have h3 : Extends cfg S3.refs s'.refs := tokLoop_refs hsh _ _ _ _ hloop
  have h2 : S3.refs = s1.refs := by
    rcases hS3 with ⟨_, _, _, rfl⟩ | ⟨_, _, rfl⟩ <;> exact (afterChain_refs hafter :)
  exact h2 ▸ h3

/-- **the leading definition is stored, and stays.**  `parseBlocks` on  D₁ ⏎ D₂ ⏎ ⏎ R…  (`D₁`, `D₂`
    begin with `[`, `R ≠ []` any lines, the last one not empty), the reference rule in the chain
    behind rules that look at the first line only: the final map has, under the key of `D₁`'s label,
    the entry `refParse` makes of the text `D₁ ⏎ D₂` — whatever `D₂` and `R` define. -/
theorem leading_definition_stored (cfg : Cfg) (pre post : List RuleId)
    (hchain : cfg.chain = pre ++ RuleId.reference :: post)
    (hpre : RuleId.paragraph ∉ pre) (hpre' : RuleId.reference ∉ pre) (hpre'' : RuleId.lheading ∉ pre)
    (hmax : 0 < cfg.maxNesting)
    (rest₁ rest₂ : List Char) (R : List (List Char)) (hR : R ≠ [])
    (hnt : ∀ l ∈ ('[' :: rest₁) :: ('[' :: rest₂) :: [] :: R, NoTerm l)
    (hlast : (('[' :: rest₁) :: ('[' :: rest₂) :: [] :: R).getLast? ≠ some [])
    (hq : refQuick false rest₁ = true) (raw href : List Nat) (title : Option (List Nat))
    (hparse : refParse cfg (trimStr ('[' :: (rest₁ ++ '\n' :: '[' :: rest₂))) =
      .ok (some (raw, href, title, 0)))
    (hlab : (Refs.normalize cfg.L cfg.U raw).isEmpty = false)
    (root : BNode) (refs : Refs.RefMap)
    (h : parseBlocks cfg (docOf (('[' :: rest₁) :: ('[' :: rest₂) :: [] :: R)) = .ok (root, refs)) :
    refs.get (cfg.N (cfg.N raw)) = some ⟨href, title⟩ := by
  obtain ⟨f, hf⟩ : ∃ f, fuelFor cfg (docOf (('[' :: rest₁) :: ('[' :: rest₂) :: [] :: R)) = f + 3 :=
    ⟨(Lines.splitLines (docOf (('[' :: rest₁) :: ('[' :: rest₂) :: [] :: R))).length +
      min cfg.maxNesting (Lines.byteLen (docOf (('[' :: rest₁) :: ('[' :: rest₂) :: [] :: R))) + 5,
      by unfold fuelFor; omega⟩
  unfold parseBlocks at h
  split at h
  · cases h
  · rename_i s' hs'
    simp only [Except.ok.injEq, Prod.mk.injEq] at h
    obtain ⟨_, rfl⟩ := h
    rw [hf] at hs'
    have hon := OnDoc.fresh (Ls := ('[' :: rest₁) :: ('[' :: rest₂) :: [] :: R) (by simp) hnt hlast .root []
    have hlen := hon.length
    have h2 := twoDefs_of_onDoc hon rfl (by simp only [BState.fresh]; exact hlen) hR rfl
    have hrefs0 : (BState.fresh (docOf (('[' :: rest₁) :: ('[' :: rest₂) :: [] :: R)) .root []).refs = [] := rfl
    have hlevel0 : (BState.fresh (docOf (('[' :: rest₁) :: ('[' :: rest₂) :: [] :: R)) .root []).level = 0 := rfl
    generalize BState.fresh (docOf (('[' :: rest₁) :: ('[' :: rest₂) :: [] :: R)) .root [] = s0
      at hs' h2 hon hrefs0 hlevel0
    -- the silent chain at line 1
    have htest : (engine cfg (f + 2)).2 { s0 with line := 1 } = .ok (false, { s0 with line := 1 }) := by
      show runChain (runRule cfg (engine cfg (f + 1)).1 (engine cfg (f + 1)).2 (f + 2)) cfg.chain
        { s0 with line := 1 } true = _
      exact runChain_silent_false _ _ _ (fun r _ =>
        runRule_bracket_decline cfg _ _ _ { s0 with line := 1 } rest₂ h2.ind1 h2.get1 h2.li true r (.inl rfl))
    -- the chain at line 0
    have hfire := reference_twoDefs (tok := (engine cfg (f + 2)).1) h2 htest (f + 1) hq raw href title
      hparse hlab
    have hdecl : ∀ r ∈ pre, runRule cfg (engine cfg (f + 2)).1 (engine cfg (f + 2)).2 (f + 3) r s0 false =
        .ok (false, s0) := fun r hr =>
      runRule_bracket_decline cfg _ _ _ s0 rest₁ (by rw [h2.line]; exact h2.ind0)
        (by rw [h2.line]; exact h2.get0) h2.li false r
        (.inr ⟨fun e => hpre (e ▸ hr), fun e => hpre' (e ▸ hr), fun e => hpre'' (e ▸ hr)⟩)
    have hc := runChain_reach (post := post) hdecl hfire
    rw [← hchain] at hc
    have hext := tokLoop_first_refs
      (fun r s b s' h => runRule_refs (tokenize_refs cfg (f + 2)) (testRules_pure cfg (f + 2)) _ r h)
      (f + 2) false s0 _ s' 0 (by rw [h2.line]; have := h2.max; omega)
      (by rw [h2.line]; exact h2.emp0) (by rw [h2.line]; exact h2.ind0) (by omega) ?_ hc hs'
    · refine hext.get_stable ?_
      show (Refs.insertFirst s0.refs _ _).get _ = _
      rw [hrefs0]
      simp [Refs.insertFirst, Refs.RefMap.get, List.lookup, Cfg.N]
    · rw [hlevel0]; exact hmax

end MdIt.Block.Tr
