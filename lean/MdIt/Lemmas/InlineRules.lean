/-
  Helper development for `Props/Inline.lean`: the rules without look-ahead recursion
  (text, newline, escape, entity, backticks; autolink and emphasis markers: `Lemmas/InlineRules2.lean`).
  For each rule:
    * `rule<X>_out`               what a successful call returns, whatever the state (`RuleOut`: the
                                  shape `Built` of the new state, look-ahead touches only the code-span
                                  cache, `some len ⇒ 1 ≤ len`); `rule<X>_simple` and the value / text /
                                  `OpenersBottom` invariants of the later files are read off it
    * `inline_rule_progress_<x>`  under `InlineInv`: no panic, `pos + len` a boundary `≤ posMax`
    * `silent_real_<x>`           look-ahead and real mode agree on the extent
-/
import MdIt.Lemmas.InlineBase
import MdIt.Lemmas.InlinePlan
import MdIt.Props.C12

namespace MdIt.Inline
open MdIt.InlineOps (Srcmap getSourcePosFor getMap byteLen slice)
open MdIt.C05 (WFMap byteLen_append slice_ok_iff)

/-- unconditional facts about a rule without look-ahead recursion -/
structure Simple (st : IState) (silent : Bool) (o : Option Nat) (st' : IState) : Prop where
  frame : Frame st st'
  pos : st'.pos = st.pos
  cache : st'.cache = st.cache
  quiet : silent = true → Quiet st st'
  prog : ∀ len, o = some len → 1 ≤ len

/-- what `inline_rule_progress_<rule>` states about a successful rule -/
def Advances (st : IState) (o : Option Nat) : Prop :=
  ∀ len, o = some len → 1 ≤ len ∧ st.pos + len ≤ st.posMax ∧ Boundary st.src (st.pos + len)

/-! ## `trailing_text_push` -/

theorem popLast_spec {α : Type} (l : List α) :
    (popLast l = none ∧ l = []) ∨ (∃ init last, popLast l = some (init, last) ∧ l = init ++ [last]) := by
  induction l with
  | nil => left; simp [popLast]
  | cons x r ih =>
    right
    cases r with
    | nil => exact ⟨[], x, rfl, rfl⟩
    | cons y r' =>
      rcases ih with ⟨_, h⟩ | ⟨i, l, h1, h2⟩
      · cases h
      · exact ⟨x :: i, l, by simp [popLast, h1], by rw [h2]; rfl⟩

theorem popLast_snoc {α : Type} (init : List α) (x : α) : popLast (init ++ [x]) = some (init, x) := by
  rcases popLast_spec (init ++ [x]) with ⟨_, h⟩ | ⟨i, l, h1, h2⟩
  · simp at h
  · have := List.append_inj' h2 rfl
    simp only [List.cons.injEq, and_true] at this
    rw [h1, this.1, this.2]

theorem popLast_some {α : Type} {l init : List α} {x : α} (h : popLast l = some (init, x)) :
    l = init ++ [x] := by
  rcases popLast_spec l with ⟨hp, _⟩ | ⟨i, y, hp, hl⟩
  · rw [hp] at h; cases h
  · rw [hp] at h; cases h; exact hl

theorem pushText_eq {st st' : IState} {a b : Nat} (h : st.pushText a b = .ok st') :
    ∃ cs, trailingTextPush st.src st.srcmap st.children a b = .ok cs ∧
      st' = { st with children := cs } := by
  unfold IState.pushText at h
  split at h
  · simp at h
  · next cs hc => simp only [Except.ok.injEq] at h; exact ⟨cs, hc, h.symm⟩

theorem trailingTextPush_ok {src : List Char} {m : InlineOps.Srcmap} {cs out : List Node} {a b : Nat} :
    trailingTextPush src m cs a b = .ok out →
    (∃ piece r, out = cs ++ [Node.newText piece (some r)]) ∨
    ∃ init last c r, cs = init ++ [last] ∧ last.isText = true ∧
      out = init ++ [{ last with val := .text c, range := r }] := by
  have hfresh : (match liftOps (InlineOps.slice src a b) with
      | .error e => (.error e : Except RPanic (List Node))
      | .ok piece =>
        match liftOps (InlineOps.getMap m a b) with
        | .error e => .error e
        | .ok r => .ok (cs ++ [Node.newText piece (some r)])) = .ok out →
      ∃ piece r, out = cs ++ [Node.newText piece (some r)] := by
    intro h
    split at h
    · cases h
    · split at h
      · cases h
      · cases h; exact ⟨_, _, rfl⟩
  fun_cases trailingTextPush src m cs a b with
  | case1 | case6 => intro h; exact .inl (hfresh h)
  | case2 | case4 => intro h; cases h
  | case3 init last hpop ht =>
    intro h; cases h; exact .inr ⟨init, last, _, _, popLast_some hpop, ht, rfl⟩
  | case5 init last hpop ht =>
    intro h; cases h; exact .inr ⟨init, last, _, _, popLast_some hpop, ht, rfl⟩

/-- the ways a rule other than emphasis, link and image changes the state: only the code-span
    cache (always so in look-ahead mode), or one trailing-text run, one break behind the trimmed
    trailing text, one leaf, one node around one text -/
inductive Built (st : IState) : IState → Prop
  | cache (c : CodePair.Cache) : Built st { st with backticks := c }
  | text {a b : Nat} {st' : IState} (hab : a < b) (h : st.pushText a b = .ok st') : Built st st'
  | brk {cs : List Node} (n : Nat) (r : Nat × Nat)
      (hpop : trailingTextPop st.children (tailSpaces (trailingTextGet st.children)) = .ok cs) :
      Built st { st with children :=
        cs ++ [Node.leaf (if n ≥ 2 then Val.hardbreak else Val.softbreak) (some r)] }
  | hard (r : Nat × Nat) : Built st (st.push (Node.leaf .hardbreak (some r)))
  | special (c m i : List Char) (r : Nat × Nat) :
      Built st (st.push (Node.leaf (.special c m i) (some r)))
  | code {o : CodePair.Outcome} {nd : CodePair.Node} (c : CodePair.Cache) (r ri : Nat × Nat)
      (hrun : CodePair.run CodePair.Variant.current '`' st.src st.pos st.posMax false false
        st.backticks = .ok (some o, c))
      (hnd : o.node = some nd) :
      Built st { st with backticks := c, children := st.children ++
        [{ val := .codeInline '`' nd.markerLen, range := some r,
           children := [Node.newText nd.content (some ri)] }] }
  | auto {isA : Bool} {url : List Char} {full : List Nat} (r ri : Nat × Nat) (hne : url ≠ [])
      (hd : Link.autolinkDest isA url = some full) :
      Built st (st.push { val := .autolink full, range := some r,
                          children := [Node.newText url (some ri)] })

theorem Built.refl (st : IState) : Built st st := Built.cache st.backticks

/-- what a successful call of such a rule guarantees whatever the state: the shape of the new
    state, nothing but the cache touched in look-ahead mode, a non-empty extent -/
def RuleOut (st : IState) (silent : Bool) (o : Option Nat) (st' : IState) : Prop :=
  Built st st' ∧ (silent = true → ∃ c, st' = { st with backticks := c }) ∧
    ∀ len, o = some len → 1 ≤ len

theorem RuleOut.none (st : IState) (silent : Bool) : RuleOut st silent none st :=
  ⟨.refl _, fun _ => ⟨_, rfl⟩, nofun⟩

theorem RuleOut.silent (st : IState) {len : Nat} (h : 1 ≤ len) : RuleOut st true (some len) st :=
  ⟨.refl _, fun _ => ⟨_, rfl⟩, fun _ hl => by cases hl; exact h⟩

theorem RuleOut.real {st st' : IState} (hb : Built st st') {len : Nat} (h : 1 ≤ len) :
    RuleOut st false (some len) st' :=
  ⟨hb, nofun, fun _ hl => by cases hl; exact h⟩

theorem RuleOut.simple {st st' : IState} {silent : Bool} {o : Option Nat}
    (h : RuleOut st silent o st') : Simple st silent o st' := by
  obtain ⟨hb, hq, hp⟩ := h
  refine ⟨?_, ?_, ?_, fun hs => ?_, hp⟩
  · cases hb with
    | text _ hp => obtain ⟨cs, _, rfl⟩ := pushText_eq hp; exact ⟨rfl, rfl, rfl, rfl, rfl⟩
    | _ => exact ⟨rfl, rfl, rfl, rfl, rfl⟩
  · cases hb with
    | text _ hp => obtain ⟨cs, _, rfl⟩ := pushText_eq hp; rfl
    | _ => rfl
  · cases hb with
    | text _ hp => obtain ⟨cs, _, rfl⟩ := pushText_eq hp; rfl
    | _ => rfl
  · obtain ⟨c, rfl⟩ := hq hs; exact ⟨rfl, rfl⟩

/-- `trailing_text_push(a, b)` cannot fail on a well-formed table when `a..b` is a valid slice -/
theorem trailingTextPush_total (src : List Char) (m : Srcmap) (hm : WFMap m) (cs : List Node)
    (a b : Nat) (piece : List Char) (hs : slice src a b = .ok piece) :
    ∃ out, trailingTextPush src m cs a b = .ok out := by
  have hab : a ≤ b := by have := (slice_boundaries hs).2.2; omega
  obtain ⟨x, hx⟩ := C05.translate_total m hm a
  obtain ⟨y, hy⟩ := C05.translate_total m hm b
  have hmap : liftOps (getMap m a b) = .ok (x, y) := by
    unfold InlineOps.getMap; rw [if_neg (by omega), hx, hy]; rfl
  have hsl : liftOps (slice src a b) = .ok piece := by rw [hs]; rfl
  have hy' : liftOps (getSourcePosFor m b) = .ok y := by rw [hy]; rfl
  unfold trailingTextPush
  simp only [hsl, hmap, hy']
  split
  · exact ⟨_, rfl⟩
  · split
    · split <;> exact ⟨_, rfl⟩
    · exact ⟨_, rfl⟩

theorem pushText_total {st : IState} (hm : WFMap st.srcmap) {a b : Nat} {piece : List Char}
    (hs : slice st.src a b = .ok piece) : ∃ st', st.pushText a b = .ok st' := by
  obtain ⟨out, ho⟩ := trailingTextPush_total st.src st.srcmap hm st.children a b piece hs
  exact ⟨_, by unfold IState.pushText; rw [ho]⟩

/-! ## text -/

/-- the length `TextScanner` would take from a window -/
def textLen (w : List Char) : Nat := byteLen (Entity.splitRun (fun c => !Entity.textStop.contains c) w).1

theorem ruleText_out {st st' : IState} {silent : Bool} {o : Option Nat} :
    ruleText st silent = .ok (o, st') → RuleOut st silent o st' := by
  fun_cases ruleText st silent with
  | case1 | case4 => intro h; cases h
  | case2 => intro h; cases h; exact .none _ _
  | case3 _ _ _ hlen hs => intro h; cases h; cases hs; exact .silent _ (by omega)
  | case5 _ _ _ hlen hs _ hp =>
    intro h; cases h
    cases silent with
    | true => exact absurd rfl hs
    | false => exact .real (.text (by omega) hp) (by omega)

theorem ruleText_simple {st st' : IState} {silent : Bool} {o : Option Nat}
    (h : ruleText st silent = .ok (o, st')) : Simple st silent o st' :=
  (ruleText_out h).simple

theorem planText_answer (w : List Char) (pos : Nat) :
    (planText w).answer pos = if textLen w = 0 then none else some (textLen w) := by
  unfold planText textLen
  simp only
  split <;> rfl

/-- the verdict of the text rule is a function of the window -/
theorem ruleText_verdict {st st' : IState} {silent : Bool} {o : Option Nat} {w : List Char}
    (hw : st.window = .ok w) (h : ruleText st silent = .ok (o, st')) :
    o = if textLen w = 0 then none else some (textLen w) := by
  rw [ruleText_eq] at h
  obtain ⟨_, hp, ho⟩ := runPlan_answer hw h
  cases hp
  exact ho.trans (planText_answer w _)

theorem textLen_prefix (w : List Char) :
    ∃ u v, w = u ++ v ∧ byteLen u = textLen w :=
  ⟨_, _, (Entity.splitRun_sound _ w).2.1, rfl⟩

theorem inline_rule_progress_text {st : IState} (hi : InlineInv st) (silent : Bool) :
    ∃ o st', ruleText st silent = .ok (o, st') ∧ Advances st o := by
  obtain ⟨pre, w, post, hsrc, hpre, hlen, hw, hne⟩ := window_ok hi
  obtain ⟨u, v, huv, hu⟩ := textLen_prefix w
  have hsl := window_eq hw
  have hb : Boundary st.src (st.pos + textLen w) := by
    rw [← hu]; exact boundary_in_slice (by rw [← huv]; exact hsl)
  have hle : st.pos + textLen w ≤ st.posMax := by
    rw [← hlen, ← hu, huv, byteLen_append]; omega
  have hadv : ∀ (o : Option Nat), (o = if textLen w = 0 then none else some (textLen w)) → Advances st o := by
    intro o ho len hl
    subst ho
    split at hl
    · simp at hl
    · simp only [Option.some.injEq] at hl; subst hl; exact ⟨by omega, hle, hb⟩
  have hpush : ∃ st', st.pushText st.pos (st.pos + textLen w) = .ok st' := by
    obtain ⟨_, _, _, _, _, _, hs2⟩ := slice_of_boundaries hi.bpos hb (by omega)
    exact pushText_total hi.wf hs2
  obtain ⟨st2, hst2⟩ := hpush
  have hex : ∃ o st', ruleText st silent = .ok (o, st') := by
    unfold ruleText
    rw [hw]
    simp only
    unfold textLen at hst2
    split
    · exact ⟨_, _, rfl⟩
    · split
      · exact ⟨_, _, rfl⟩
      · rw [hst2]; exact ⟨_, _, rfl⟩
  obtain ⟨o, st', h⟩ := hex
  exact ⟨o, st', h, hadv o (ruleText_verdict hw h)⟩

/-- **silent = real (text).**  Same verdict in both modes; look-ahead changes nothing at all. -/
theorem silent_real_text {st : IState} {n : Nat} {st1 : IState}
    (hs : ruleText st true = .ok (some n, st1)) :
    st1 = st ∧ ∀ o st2, ruleText st false = .ok (o, st2) → o = some n ∧ st2.pos = st.pos := by
  rw [ruleText_eq] at hs ⊢
  exact runPlan_silent_real hs

/-! ## newline -/

theorem byteLen_ascii (l : List Char) (h : ∀ c ∈ l, c.utf8Size = 1) : byteLen l = l.length := by
  rw [C05.byteLen_eq_lines]; exact Lines.byteLen_ascii l h

theorem isSpTab_size {c : Char} (h : isSpTab c = true) : c.utf8Size = 1 := by
  unfold isSpTab at h
  simp only [Bool.or_eq_true, beq_iff_eq] at h
  rcases h with rfl | rfl <;> decide

theorem byteLen_takeWhile_spTab (l : List Char) :
    byteLen (l.takeWhile isSpTab) = (l.takeWhile isSpTab).length :=
  byteLen_ascii _ (fun _ hc => isSpTab_size (Lines.mem_takeWhile_imp hc))

/-- the extent of a line break in a window that starts with a line feed -/
def newlineLen (rest : List Char) : Nat := 1 + (rest.takeWhile isSpTab).length

theorem ruleNewline_out {st st' : IState} {silent : Bool} {o : Option Nat} :
    ruleNewline st silent = .ok (o, st') → RuleOut st silent o st' := by
  fun_cases ruleNewline st silent with
  | case1 | case2 | case5 | case6 | case7 => intro h; cases h
  | case3 => intro h; cases h; exact .none _ _
  | case4 _ _ _ _ _ hs => intro h; cases h; cases hs; exact .silent _ (by omega)
  | case8 _ _ _ _ _ hs _ _ hpop =>
    intro h; cases h
    cases silent with
    | true => exact absurd rfl hs
    | false => exact .real (.brk _ _ hpop) (by omega)

theorem ruleNewline_simple {st st' : IState} {silent : Bool} {o : Option Nat}
    (h : ruleNewline st silent = .ok (o, st')) : Simple st silent o st' :=
  (ruleNewline_out h).simple

theorem planNewline_answer {pos : Nat} {c : Char} {rest tr : List Char} {p : Plan}
    (h : planNewline pos tr (c :: rest) = .ok p) :
    p.answer pos = if c ≠ '\n' then none else some (newlineLen rest) := by
  unfold planNewline at h
  simp only at h
  split at h <;> cases h
  · next hc => rw [if_pos hc]; rfl
  · next hc => rw [if_neg hc]; simp only [Plan.answer, newlineLen]; congr 1; omega

theorem planNewline_some {pos : Nat} {tr : List Char} {c : Char} {r : List Char} {o : Option Nat} :
    (∃ p, planNewline pos tr (c :: r) = .ok p ∧ p.answer pos = o) ↔
      (if c ≠ '\n' then none else some (newlineLen r)) = o := by
  obtain ⟨p, hp⟩ : ∃ p, planNewline pos tr (c :: r) = .ok p := by
    unfold planNewline; simp only; split <;> exact ⟨_, rfl⟩
  rw [hp, ← planNewline_answer hp]
  simp only [Except.ok.injEq, exists_eq_left']

theorem ruleNewline_verdict {st st' : IState} {silent : Bool} {o : Option Nat} {c : Char}
    {rest : List Char} (hw : st.window = .ok (c :: rest)) (h : ruleNewline st silent = .ok (o, st')) :
    o = if c ≠ '\n' then none else some (newlineLen rest) := by
  rw [ruleNewline_eq] at h
  obtain ⟨_, hp, ho⟩ := runPlan_answer hw h
  exact ho.trans (planNewline_answer hp)

/-- success of `trailing_text_pop`: nothing to cut, or the last child is a text node that goes
    away or keeps a prefix of its text (with its range shortened) -/
theorem trailingTextPop_ok {cs out : List Node} {count : Nat} :
    trailingTextPop cs count = .ok out →
    out = cs ∨ ∃ init last, cs = init ++ [last] ∧ last.isText = true ∧
      (out = init ∨ ∃ content' range',
        out = init ++ [{ last with val := .text content', range := range' }]) := by
  fun_cases trailingTextPop cs count with
  | case1 => intro h; cases h; exact .inl rfl
  | case2 | case3 | case5 | case6 | case8 => intro h; cases h
  | case4 _ _ _ hpop ht =>
    intro h; cases h
    exact .inr ⟨_, _, popLast_some hpop, by simpa using ht, .inl rfl⟩
  | case7 _ _ _ hpop ht =>
    intro h; cases h
    exact .inr ⟨_, _, popLast_some hpop, by simpa using ht, .inr ⟨_, _, rfl⟩⟩
  | case9 _ _ _ hpop ht =>
    intro h; cases h
    exact .inr ⟨_, _, popLast_some hpop, by simpa using ht, .inr ⟨_, _, rfl⟩⟩

/-- what the newline rule needs from the tree in real mode: the blanks it cuts off the trailing
    text lie before `pos`, also in source offsets -/
def TrailOK (st : IState) : Prop :=
  ∀ init last, st.children = init ++ [last] → last.isText = true →
    tailSpaces last.content ≤ st.pos ∧ ∀ a b, last.range = some (a, b) → tailSpaces last.content ≤ b

theorem tailSpaces_split (s : List Char) :
    ∃ pre, s = pre ++ List.replicate (tailSpaces s) ' ' := by
  unfold tailSpaces
  have h := List.takeWhile_append_dropWhile (p := (· == ' ')) (l := s.reverse)
  refine ⟨(s.reverse.dropWhile (· == ' ')).reverse, ?_⟩
  have hall : s.reverse.takeWhile (· == ' ') = List.replicate (s.reverse.takeWhile (· == ' ')).length ' ' := by
    apply List.eq_replicate_iff.mpr
    refine ⟨rfl, ?_⟩
    intro c hc
    have := Lines.mem_takeWhile_imp hc
    simpa using this
  have : s = (s.reverse.dropWhile (· == ' ')).reverse ++ (s.reverse.takeWhile (· == ' ')).reverse := by
    rw [← List.reverse_append, h, List.reverse_reverse]
  rw [hall, List.reverse_replicate] at this
  first | exact this | (rw [List.length_replicate] at this; exact this)

theorem byteLen_replicate_space (n : Nat) : byteLen (List.replicate n ' ') = n := by
  rw [byteLen_ascii _ (by intro c hc; rw [List.eq_of_mem_replicate hc]; decide), List.length_replicate]

namespace TT

/-- what the newline rule needs from the tree in real mode: `Inline.TrailOK`, the source-offset clause
    only when blanks are cut off a LONGER text (when the whole text goes, `trailing_text_pop` removes
    the node and subtracts nothing) -/
def TrailOKw (st : IState) : Prop :=
  ∀ init last, st.children = init ++ [last] → last.isText = true →
    tailSpaces last.content ≤ st.pos ∧
      ∀ a b, last.range = some (a, b) → tailSpaces last.content < byteLen last.content →
        tailSpaces last.content ≤ b

/-- `trailing_text_pop(tail)` does not panic when the blanks cut off a LONGER trailing text lie
    before its source end -/
theorem trailingTextPop_tail_total_w (cs : List Node)
    (h : ∀ init last, cs = init ++ [last] → last.isText = true →
      ∀ a b, last.range = some (a, b) → tailSpaces last.content < byteLen last.content →
        tailSpaces last.content ≤ b) :
    ∃ out, trailingTextPop cs (tailSpaces (trailingTextGet cs)) = .ok out := by
  unfold trailingTextPop trailingTextGet
  rcases popLast_spec cs with ⟨hp, _⟩ | ⟨init, last, hp, hcs⟩
  · rw [hp]; simp [tailSpaces]
  · rw [hp]
    simp only
    by_cases ht : last.isText = true
    · simp only [ht, if_true, Bool.not_true, Bool.false_eq_true, if_false]
      by_cases h0 : tailSpaces last.content = 0
      · rw [if_pos h0]; exact ⟨_, rfl⟩
      · rw [if_neg h0]
        obtain ⟨pre, hpre⟩ := tailSpaces_split last.content
        have hbl : byteLen last.content = byteLen pre + tailSpaces last.content := by
          conv => lhs; rw [hpre]
          rw [byteLen_append, byteLen_replicate_space]
        by_cases he : byteLen last.content = tailSpaces last.content
        · rw [if_pos he]; exact ⟨_, rfl⟩
        · rw [if_neg he, if_neg (by omega)]
          have htr : liftOps (InlineOps.truncate last.content (byteLen last.content - tailSpaces last.content))
              = .ok pre := by
            have : byteLen last.content - tailSpaces last.content = byteLen pre := by omega
            rw [this]
            unfold InlineOps.truncate
            conv => lhs; rw [hpre]
            rw [C05.splitAtByte_append]; rfl
          rw [htr]
          simp only
          cases hr : last.range with
          | none => exact ⟨_, rfl⟩
          | some ab =>
            have := h init last hcs ht ab.1 ab.2 hr (by omega)
            simp only
            rw [if_neg (by omega)]; exact ⟨_, rfl⟩
    · simp only [ht, Bool.false_eq_true, if_false]
      simp [tailSpaces]

/-- the newline rule does not panic, and `pos + len` is a boundary `≤ posMax` -/
theorem newline_total_w {st : IState} (hi : InlineInv st) (silent : Bool)
    (ht : silent = false → TrailOKw st) :
    ∃ o st', ruleNewline st silent = .ok (o, st') ∧ Advances st o := by
  obtain ⟨pre, w, post, hsrc, hpre, hlen, hw, hne⟩ := window_ok hi
  cases w with
  | nil => exact absurd rfl hne
  | cons c rest =>
    have hsl := window_eq hw
    -- the extent, when the window starts with a line feed
    have hext : c = '\n' → st.pos + newlineLen rest ≤ st.posMax ∧ Boundary st.src (st.pos + newlineLen rest) := by
      intro hc
      subst hc
      have hsplit : '\n' :: rest = ('\n' :: rest.takeWhile isSpTab) ++ rest.dropWhile isSpTab := by
        simp [List.takeWhile_append_dropWhile]
      have hbl : byteLen ('\n' :: rest.takeWhile isSpTab) = newlineLen rest := by
        simp only [byteLen, byteLen_takeWhile_spTab, newlineLen]
        have : ('\n' : Char).utf8Size = 1 := by decide
        omega
      constructor
      · rw [← hlen, hsplit, byteLen_append, hbl]; omega
      · rw [← hbl]; exact boundary_in_slice (by rw [← hsplit]; exact hsl)
    have hadv : ∀ (o : Option Nat), (o = if c ≠ '\n' then none else some (newlineLen rest)) → Advances st o := by
      intro o ho len hl
      subst ho
      split at hl
      · simp at hl
      · next hc =>
        simp only [Option.some.injEq] at hl; subst hl
        have := hext (by simpa using hc)
        exact ⟨by unfold newlineLen; omega, this.1, this.2⟩
    have hex : ∃ o st', ruleNewline st silent = .ok (o, st') := by
      rw [ruleNewline, hw]
      dsimp only
      by_cases hc : c ≠ '\n'
      · rw [if_pos hc]; exact ⟨_, _, rfl⟩
      · rw [if_neg hc]
        cases silent with
        | true => exact ⟨_, _, rfl⟩
        | false =>
          rw [if_neg Bool.false_ne_true]
          have hto := ht rfl
          obtain ⟨out, hout⟩ := trailingTextPop_tail_total_w st.children
            (fun init last h1 h2 a b hr hlt => (hto init last h1 h2).2 a b hr hlt)
          rw [hout]
          simp only
          have hle : tailSpaces (trailingTextGet st.children) ≤ st.pos := by
            unfold trailingTextGet
            rcases popLast_spec st.children with ⟨hp, _⟩ | ⟨init, last, hp, hcs⟩
            · rw [hp]; simp [tailSpaces]
            · rw [hp]; simp only
              by_cases htx : last.isText = true
              · simp only [htx, if_true]; exact (hto init last hcs htx).1
              · simp [htx, tailSpaces]
          rw [if_neg (by omega)]
          obtain ⟨x, y, hm, _, _⟩ := getMap_ok (st := st) hi.wf
            (a := st.pos - tailSpaces (trailingTextGet st.children))
            (b := st.pos + 1 + (List.takeWhile isSpTab rest).length) (by omega)
          rw [hm]
          exact ⟨_, _, rfl⟩
    obtain ⟨o, st', h⟩ := hex
    exact ⟨o, st', h, hadv o (ruleNewline_verdict hw h)⟩

end TT

theorem TrailOK.weak {st : IState} (h : TrailOK st) : TT.TrailOKw st :=
  fun init last h1 h2 => ⟨(h init last h1 h2).1, fun a b hr _ => (h init last h1 h2).2 a b hr⟩

theorem inline_rule_progress_newline {st : IState} (hi : InlineInv st) (silent : Bool)
    (ht : silent = false → TrailOK st) :
    ∃ o st', ruleNewline st silent = .ok (o, st') ∧ Advances st o :=
  TT.newline_total_w hi silent fun h => (ht h).weak

/-- **silent = real (newline).** -/
theorem silent_real_newline {st : IState} {n : Nat} {st1 : IState}
    (hs : ruleNewline st true = .ok (some n, st1)) :
    st1 = st ∧ ∀ o st2, ruleNewline st false = .ok (o, st2) → o = some n ∧ st2.pos = st.pos := by
  rw [ruleNewline_eq] at hs ⊢
  exact runPlan_silent_real hs

/-! ## escape -/

/-- the verdict of the escape rule as a function of the window -/
def escapeLen (w : List Char) : Option Nat :=
  match Entity.escapeCore w with
  | .ok (some (.hardbreak len)) => some len
  | .ok (some (.special sp)) => some (byteLen sp.markup)
  | _ => none

theorem escapeCore_hardbreak {w : List Char} {len : Nat}
    (h : Entity.escapeCore w = .ok (some (.hardbreak len))) :
    ∃ w', w = '\\' :: '\n' :: w' ∧
      len = 2 + (Entity.splitRun (fun x => x == ' ' || x == '\t') w').1.length := by
  unfold Entity.escapeCore at h
  split at h
  · simp at h
  · next c w1 =>
    split at h
    · simp at h
    · next hc =>
      split at h
      · simp at h
      · next chr w' =>
        split at h
        · next hn =>
          simp only [Except.ok.injEq, Option.some.injEq, Entity.EscOut.hardbreak.injEq] at h
          have hc' : c = '\\' := by simpa using hc
          have hn' : chr = '\n' := by simpa using hn
          subst hc' hn'
          exact ⟨w', rfl, h.symm⟩
        · simp at h

theorem escapeCore_special {w : List Char} {sp : Entity.Special}
    (h : Entity.escapeCore w = .ok (some (.special sp))) :
    ∃ chr w', w = '\\' :: chr :: w' ∧ sp.markup = ['\\', chr] := by
  unfold Entity.escapeCore at h
  split at h
  · simp at h
  · next c w1 =>
    split at h
    · simp at h
    · next hc =>
      split at h
      · simp at h
      · next chr w' =>
        split at h
        · simp at h
        · simp only [Except.ok.injEq, Option.some.injEq, Entity.EscOut.special.injEq] at h
          have hc' : c = '\\' := by simpa using hc
          subst hc'
          exact ⟨chr, w', rfl, by rw [← h]⟩

theorem escapeCore_total {w : List Char} (hne : w ≠ []) : ∃ r, Entity.escapeCore w = .ok r := by
  unfold Entity.escapeCore
  cases w with
  | nil => exact absurd rfl hne
  | cons c w1 =>
    simp only
    split
    · exact ⟨_, rfl⟩
    · split
      · exact ⟨_, rfl⟩
      · split <;> exact ⟨_, rfl⟩

theorem special_markup_pos {w : List Char} {sp : Entity.Special}
    (h : Entity.escapeCore w = .ok (some (.special sp))) : 1 ≤ byteLen sp.markup := by
  obtain ⟨chr, _, _, hmk⟩ := escapeCore_special h
  rw [hmk]; have := Char.utf8Size_pos chr; simp only [byteLen]; omega

theorem ruleEscape_out {st st' : IState} {silent : Bool} {o : Option Nat} :
    ruleEscape st silent = .ok (o, st') → RuleOut st silent o st' := by
  fun_cases ruleEscape st silent with
  | case1 | case2 | case5 | case8 => intro h; cases h
  | case3 => intro h; cases h; exact .none _ _
  | case4 _ _ _ hc hs =>
    intro h; cases h; cases hs
    obtain ⟨_, _, hlen⟩ := escapeCore_hardbreak hc
    exact .silent _ (by omega)
  | case6 _ _ _ hc hs =>
    intro h; cases h
    obtain ⟨_, _, hlen⟩ := escapeCore_hardbreak hc
    cases silent with
    | true => exact absurd rfl hs
    | false => exact .real (.hard _) (by omega)
  | case7 _ _ sp hc _ hs =>
    intro h; cases h; cases hs
    exact .silent _ (special_markup_pos hc)
  | case9 _ _ sp hc _ hs =>
    intro h; cases h
    cases silent with
    | true => exact absurd rfl hs
    | false => exact .real (.special _ _ _ _) (special_markup_pos hc)

theorem ruleEscape_simple {st st' : IState} {silent : Bool} {o : Option Nat}
    (h : ruleEscape st silent = .ok (o, st')) : Simple st silent o st' :=
  (ruleEscape_out h).simple

theorem planEscape_answer {w : List Char} {p : Plan} (pos : Nat) (h : planEscape w = .ok p) :
    p.answer pos = escapeLen w := by
  unfold planEscape at h
  unfold escapeLen
  split at h <;> cases h <;> next hc => rw [hc]; rfl

theorem planEscape_some {w : List Char} {pos n : Nat} :
    (∃ p, planEscape w = .ok p ∧ p.answer pos = some n) ↔ escapeLen w = some n := by
  unfold planEscape escapeLen
  split <;> simp [Plan.answer, *]

theorem ruleEscape_verdict {st st' : IState} {silent : Bool} {o : Option Nat} {w : List Char}
    (hw : st.window = .ok w) (h : ruleEscape st silent = .ok (o, st')) : o = escapeLen w := by
  rw [ruleEscape_eq] at h
  obtain ⟨_, hp, ho⟩ := runPlan_answer hw h
  exact ho.trans (planEscape_answer _ hp)

theorem escapeLen_prefix {w : List Char} {len : Nat} (h : escapeLen w = some len) :
    2 ≤ len ∧ ∃ u v, w = u ++ v ∧ byteLen u = len := by
  unfold escapeLen at h
  split at h
  · next l hc =>
    simp only [Option.some.injEq] at h; subst h
    obtain ⟨w', rfl, hl⟩ := escapeCore_hardbreak hc
    have hs := Entity.splitRun_sound (fun x => x == ' ' || x == '\t') w'
    refine ⟨by omega, '\\' :: '\n' :: (Entity.splitRun (fun x => x == ' ' || x == '\t') w').1,
      (Entity.splitRun (fun x => x == ' ' || x == '\t') w').2, ?_, ?_⟩
    · simp only [List.cons_append, List.cons.injEq, true_and]; exact hs.2.1
    · have hasc : byteLen (Entity.splitRun (fun x => x == ' ' || x == '\t') w').1
          = (Entity.splitRun (fun x => x == ' ' || x == '\t') w').1.length :=
        byteLen_ascii _ (fun c hc => isSpTab_size (by have := hs.1 c hc; simpa [isSpTab] using this))
      have e1 : ('\\' : Char).utf8Size = 1 := by decide
      have e2 : ('\n' : Char).utf8Size = 1 := by decide
      simp only [byteLen, hasc, e1, e2]; omega
  · next sp hc =>
    simp only [Option.some.injEq] at h; subst h
    obtain ⟨chr, w', rfl, hmk⟩ := escapeCore_special hc
    have e1 : ('\\' : Char).utf8Size = 1 := by decide
    have := Char.utf8Size_pos chr
    refine ⟨by rw [hmk]; simp only [byteLen, e1]; omega, ['\\', chr], w', by simp, by rw [hmk]⟩
  · simp at h

theorem inline_rule_progress_escape {st : IState} (hi : InlineInv st) (silent : Bool) :
    ∃ o st', ruleEscape st silent = .ok (o, st') ∧ Advances st o := by
  obtain ⟨pre, w, post, hsrc, hpre, hlen, hw, hne⟩ := window_ok hi
  have hsl := window_eq hw
  have hadv : ∀ (o : Option Nat), o = escapeLen w → Advances st o := by
    intro o ho len hl
    subst ho
    obtain ⟨h2, u, v, huv, hu⟩ := escapeLen_prefix hl
    refine ⟨by omega, ?_, ?_⟩
    · rw [← hlen, ← hu, huv, byteLen_append]; omega
    · rw [← hu]; exact boundary_in_slice (by rw [← huv]; exact hsl)
  have hex : ∃ o st', ruleEscape st silent = .ok (o, st') := by
    obtain ⟨r, hr⟩ := escapeCore_total hne
    unfold ruleEscape
    rw [hw]
    simp only [hr]
    match r with
    | none => exact ⟨_, _, rfl⟩
    | some (.hardbreak len) =>
      simp only
      split
      · exact ⟨_, _, rfl⟩
      · obtain ⟨x, y, hm, _, _⟩ := getMap_ok (st := st) hi.wf (a := st.pos) (b := st.pos + 2) (by omega)
        rw [hm]; exact ⟨_, _, rfl⟩
    | some (.special sp) =>
      simp only
      split
      · exact ⟨_, _, rfl⟩
      · obtain ⟨x, y, hm, _, _⟩ := getMap_ok (st := st) hi.wf (a := st.pos)
          (b := st.pos + byteLen sp.markup) (by omega)
        rw [hm]; exact ⟨_, _, rfl⟩
  obtain ⟨o, st', h⟩ := hex
  exact ⟨o, st', h, hadv o (ruleEscape_verdict hw h)⟩

/-- **silent = real (escape).** -/
theorem silent_real_escape {st : IState} {n : Nat} {st1 : IState}
    (hs : ruleEscape st true = .ok (some n, st1)) :
    st1 = st ∧ ∀ o st2, ruleEscape st false = .ok (o, st2) → o = some n ∧ st2.pos = st.pos := by
  rw [ruleEscape_eq] at hs ⊢
  exact runPlan_silent_real hs

/-! ## entity -/

/-- the characters a character reference consists of behind its `&` -/
def isEntChar (c : Char) : Bool := c == '#' || c == ';' || Entity.isAlnumI c

theorem isAlnum_isAlnumI {c : Char} (h : Entity.isAlnum c = true) : Entity.isAlnumI c = true := by
  unfold Entity.isAlnum at h
  unfold Entity.isAlnumI Entity.isAlphaI
  simp only [Bool.or_eq_true] at h ⊢
  rcases h with h | h
  · exact Or.inl (Or.inl (Or.inl h))
  · exact Or.inr h

/-- what a successful `entityCore` matched: a prefix `&…;` of the suffix it was shown, made of
    reference characters -/
theorem entityCore_some {lookup : List Char → Option (List Char)} {w suffix : List Char}
    {sp : Entity.Special} (h : Entity.entityCore lookup w suffix = .ok (some sp)) :
    ∃ t rest, sp.markup = '&' :: t ∧ suffix = sp.markup ++ rest ∧ ∀ c ∈ t, isEntChar c = true := by
  unfold Entity.entityCore at h
  split at h
  · simp at h
  · next c w1 =>
    split at h
    · simp at h
    · split at h
      · -- digital
        unfold Entity.parseDigitalEntity at h
        split at h
        · simp at h
        · next cap rest hm =>
          simp only at h
          split at h
          · simp at h
          · next content hd =>
            simp only [Except.ok.injEq, Option.some.injEq] at h
            subst h
            unfold Entity.matchDigitalRe at hm
            split at hm
            · next s' =>
              obtain ⟨hb, hs'⟩ := Entity.matchDigitalBody_sound _ _ _ hm
              obtain ⟨hal, _, _⟩ := Entity.numericBody_alnum cap hb
              refine ⟨'#' :: (cap ++ [';']), rest, rfl, ?_, ?_⟩
              · simp [hs']
              · intro x hx
                simp only [List.mem_cons, List.mem_append, List.mem_nil_iff, or_false] at hx
                rcases hx with rfl | hx | rfl
                · decide
                · unfold isEntChar; simp [isAlnum_isAlnumI (hal x hx)]
                · decide
            · simp at hm
      · -- named
        unfold Entity.parseNamedEntity at h
        split at h
        · simp at h
        · next whole rest hm =>
          split at h
          · simp at h
          · next str hl =>
            simp only [Except.ok.injEq, Option.some.injEq] at h
            subst h
            unfold Entity.matchNamedRe at hm
            split at hm
            · next c2 s' =>
              split at hm
              · next hc2 =>
                split at hm
                · next run rest' hr =>
                  simp only [Option.some.injEq, Prod.mk.injEq] at hm
                  obtain ⟨rfl, rfl⟩ := hm
                  obtain ⟨hall, _, _, hs'⟩ := Entity.runThenSemi_sound _ _ _ _ _ hr
                  refine ⟨c2 :: (run ++ [';']), rest', rfl, ?_, ?_⟩
                  · simp [hs']
                  · intro x hx
                    simp only [List.mem_cons, List.mem_append, List.mem_nil_iff, or_false] at hx
                    rcases hx with rfl | hx | rfl
                    · unfold isEntChar Entity.isAlnumI; simp [hc2]
                    · unfold isEntChar; simp [hall x hx]
                    · decide
                · simp at hm
              · simp at hm
            · simp at hm

theorem entityCore_total (lookup : List Char → Option (List Char)) {w : List Char} (hne : w ≠ [])
    (suffix : List Char) : ∃ r, Entity.entityCore lookup w suffix = .ok r := by
  unfold Entity.entityCore
  cases w with
  | nil => exact absurd rfl hne
  | cons c w1 =>
    simp only
    split
    · exact ⟨_, rfl⟩
    · split
      · unfold Entity.parseDigitalEntity
        split
        · exact ⟨_, rfl⟩
        · next cap rest hm =>
          have hb : Entity.numericBody cap = true := by
            unfold Entity.matchDigitalRe at hm
            split at hm
            · exact (Entity.matchDigitalBody_sound _ _ _ hm).1
            · simp at hm
          simp only [Entity.numeric_parse_total cap hb]
          exact ⟨_, rfl⟩
      · unfold Entity.parseNamedEntity
        split
        · exact ⟨_, rfl⟩
        · split <;> exact ⟨_, rfl⟩

theorem entity_markup_pos {lookup : List Char → Option (List Char)} {w suffix : List Char}
    {sp : Entity.Special} (h : Entity.entityCore lookup w suffix = .ok (some sp)) :
    1 ≤ byteLen sp.markup := by
  obtain ⟨t, _, hmk, _, _⟩ := entityCore_some h
  rw [hmk]; have := Char.utf8Size_pos '&'; simp only [byteLen]; omega

theorem ruleEntity_out {cfg : Cfg} {st st' : IState} {silent : Bool} {o : Option Nat} :
    ruleEntity cfg st silent = .ok (o, st') → RuleOut st silent o st' := by
  fun_cases ruleEntity cfg st silent with
  | case1 | case2 | case4 => intro h; cases h
  | case3 => intro h; cases h; exact .none _ _
  | case5 _ _ _ _ _ _ _ hc => rw [hc]; intro h; cases h
  | case6 _ _ _ _ _ _ hc => rw [hc]; intro h; cases h; exact .none _ _
  | case7 _ _ _ _ _ sp hs _ hc =>
    rw [hc]; dsimp only; rw [if_pos hs]
    intro h; cases h; cases hs
    exact .silent _ (entity_markup_pos hc)
  | case8 _ _ _ _ _ sp _ hs _ hm _ hc => rw [hc]; dsimp only; rw [if_neg hs, hm]; intro h; cases h
  | case9 _ _ _ _ _ sp _ hs _ hm _ hc =>
    rw [hc]; dsimp only; rw [if_neg hs, hm]
    intro h; cases h
    cases silent with
    | true => exact absurd rfl hs
    | false => exact .real (.special _ _ _ _) (entity_markup_pos hc)

theorem ruleEntity_simple {cfg : Cfg} {st st' : IState} {silent : Bool} {o : Option Nat}
    (h : ruleEntity cfg st silent = .ok (o, st')) : Simple st silent o st' :=
  (ruleEntity_out h).simple

/-- the verdict of the entity rule as a function of window and suffix -/
def entityLen (cfg : Cfg) (w suffix : List Char) : Option Nat :=
  match w with
  | [] => none
  | c :: _ =>
    if c ≠ '&' then none
    else
      match Entity.entityCore cfg.entity w suffix with
      | .ok (some sp) => some (byteLen sp.markup)
      | _ => none

theorem planEntity_answer {cfg : Cfg} {src : List Char} {pos : Nat} {w suffix : List Char}
    {p : Plan} (hsuf : slice src pos (byteLen src) = .ok suffix)
    (h : planEntity cfg src pos w = .ok p) : p.answer pos = entityLen cfg w suffix := by
  unfold planEntity at h
  unfold entityLen
  split at h
  · cases h
  · simp only
    split at h
    · next hc => cases h; rw [if_pos hc]; rfl
    · next hc =>
      rw [if_neg hc]
      rw [hsuf] at h
      simp only [liftOps] at h
      split at h <;> cases h <;> next hcore => rw [hcore]; rfl

theorem ruleEntity_verdict {cfg : Cfg} {st st' : IState} {silent : Bool} {o : Option Nat}
    {w suffix : List Char} (hw : st.window = .ok w)
    (hsuf : slice st.src st.pos (byteLen st.src) = .ok suffix)
    (h : ruleEntity cfg st silent = .ok (o, st')) : o = entityLen cfg w suffix := by
  rw [ruleEntity_eq] at h
  obtain ⟨_, hp, ho⟩ := runPlan_answer hw h
  exact ho.trans (planEntity_answer hsuf hp)

/-- the hypothesis the entity rule needs about `posMax` (its regexes look at `src[pos..]`, not at
    the window): the character AT `posMax`, if there is one, cannot continue a reference -/
def EntStop (src : List Char) (posMax : Nat) : Prop :=
  ∀ pre c post, src = pre ++ c :: post → byteLen pre = posMax → isEntChar c = false

theorem inline_rule_progress_entity (cfg : Cfg) {st : IState} (hi : InlineInv st)
    (hstop : EntStop st.src st.posMax) (silent : Bool) :
    ∃ o st', ruleEntity cfg st silent = .ok (o, st') ∧ Advances st o := by
  obtain ⟨pre, w, post, hsrc, hpre, hlen, hw, hne⟩ := window_ok hi
  have hsl := window_eq hw
  have hsuf : slice st.src st.pos (byteLen st.src) = .ok (w ++ post) :=
    (slice_ok_iff _ _ _ _).mpr ⟨pre, [], by rw [hsrc]; simp, hpre, by
      rw [hsrc, byteLen_append, byteLen_append, byteLen_append]; omega⟩
  have hadv : ∀ (o : Option Nat), o = entityLen cfg w (w ++ post) → Advances st o := by
    intro o ho len hl
    subst ho
    unfold entityLen at hl
    split at hl
    · simp at hl
    · next c w1 =>
      split at hl
      · simp at hl
      · next hc =>
        split at hl
        · next sp hcore =>
          simp only [Option.some.injEq] at hl; subst hl
          obtain ⟨t, rest, hmk, hsf, hall⟩ := entityCore_some hcore
          have hc' : c = '&' := by simpa using hc
          subst hc'
          -- the match does not reach beyond the window
          have hfit : byteLen sp.markup ≤ byteLen ('&' :: w1) := by
            rcases Nat.lt_or_ge (byteLen ('&' :: w1)) (byteLen sp.markup) with hlt | hge
            · exfalso
              obtain ⟨x, hx1, hx2⟩ := append_prefix ('&' :: w1) post sp.markup rest hsf (by omega)
              -- `x` is the part of the match behind the window; it is not empty
              cases x with
              | nil => simp at hx1; rw [hx1] at hlt; omega
              | cons p x' =>
                have hp : isEntChar p = true := by
                  apply hall
                  have : '&' :: t = '&' :: w1 ++ p :: x' := by rw [← hmk, hx1]
                  simp only [List.cons_append, List.cons.injEq, true_and] at this
                  rw [this]; simp
                have := hstop (pre ++ '&' :: w1) p (x' ++ rest) (by rw [hsrc, hx2]; simp)
                  (by rw [byteLen_append]; omega)
                rw [hp] at this; cases this
            · exact hge
          have hpre2 : ∃ v, '&' :: w1 = sp.markup ++ v := by
            obtain ⟨x, hx1, _⟩ := append_prefix sp.markup rest ('&' :: w1) post hsf.symm hfit
            exact ⟨x, hx1⟩
          obtain ⟨v, hv⟩ := hpre2
          refine ⟨?_, ?_, ?_⟩
          · rw [hmk]; have := Char.utf8Size_pos '&'; simp only [byteLen]; omega
          · omega
          · exact boundary_in_slice (by rw [← hv]; exact hsl)
        · simp at hl
  have hex : ∃ o st', ruleEntity cfg st silent = .ok (o, st') := by
    obtain ⟨r, hr⟩ := entityCore_total cfg.entity hne (w ++ post)
    unfold ruleEntity
    rw [hw]
    simp only
    cases w with
    | nil => exact absurd rfl hne
    | cons c w1 =>
      simp only
      split
      · exact ⟨_, _, rfl⟩
      · rw [hsuf]
        simp only [liftOps, hr]
        match r with
        | none => exact ⟨_, _, rfl⟩
        | some sp =>
          simp only
          split
          · exact ⟨_, _, rfl⟩
          · obtain ⟨x, y, hm, _, _⟩ := getMap_ok (st := st) hi.wf (a := st.pos)
              (b := st.pos + byteLen sp.markup) (by omega)
            rw [hm]; exact ⟨_, _, rfl⟩
  obtain ⟨o, st', h⟩ := hex
  exact ⟨o, st', h, hadv o (ruleEntity_verdict hw hsuf h)⟩

/-- **silent = real (entity).** -/
theorem silent_real_entity {cfg : Cfg} {st : IState} {n : Nat} {st1 : IState}
    (hs : ruleEntity cfg st true = .ok (some n, st1)) :
    st1 = st ∧ ∀ o st2, ruleEntity cfg st false = .ok (o, st2) → o = some n ∧ st2.pos = st.pos := by
  rw [ruleEntity_eq] at hs ⊢
  exact runPlan_silent_real hs

/-! ## code spans (through `MdIt.CodePair`) -/

export MdIt.CodePair (backtick_size)

theorem scan_silent_node (v : CodePair.Variant) (m : Char) (src : List Char)
    (pos posMax n p matchEnd : Nat) (c : CodePair.Cache) (o : CodePair.Outcome) (c' : CodePair.Cache)
    (h : CodePair.scan v m src pos posMax n p true matchEnd c = .ok (some o, c')) : o.node = none := by
  fun_induction CodePair.scan v m src pos posMax n p true matchEnd c <;> simp_all
  all_goals (try (obtain ⟨rfl, _⟩ := h; rfl))

/-- an answer `some o` of the code-span rule comes from the scan for the closing run behind the
    opening run of markers at `pos` -/
theorem run_some_scan {v : CodePair.Variant} {m : Char} {src : List Char} {pos posMax : Nat}
    {prev silent : Bool} {c c' : CodePair.Cache} {o : CodePair.Outcome} :
    CodePair.run v m src pos posMax prev silent c = .ok (some o, c') →
    ∃ rest, CodePair.slice src pos posMax = some (m :: rest) ∧
      CodePair.scan v m src pos posMax (1 + CodePair.runLen m rest) (pos + 1 + CodePair.runLen m rest)
        silent (pos + 1 + CodePair.runLen m rest) c = .ok (some o, c') := by
  fun_cases CodePair.run v m src pos posMax prev silent c with
  | case1 | case2 | case3 | case4 | case5 | case6 | case7 => intro h; cases h
  | case8 ch rest hw hc | case9 ch rest hw hc =>
    intro h
    have hcm : ch = m := Decidable.not_not.mp hc
    subst hcm
    exact ⟨rest, hw, h⟩

theorem run_silent_node (v : CodePair.Variant) (m : Char) (src : List Char) (pos posMax : Nat)
    (prev : Bool) (c : CodePair.Cache) (o : CodePair.Outcome) (c' : CodePair.Cache)
    (h : CodePair.run v m src pos posMax prev true c = .ok (some o, c')) : o.node = none := by
  obtain ⟨_, _, hs⟩ := run_some_scan h
  exact scan_silent_node _ _ _ _ _ _ _ _ _ _ _ hs

/-- a call of the code-span rule answers what `CodePair.run` answers and leaves the cache `run` leaves;
    nothing else but the children is touched -/
theorem ruleBackticks_ok {st st' : IState} {silent : Bool} {o : Option Nat}
    (h : ruleBackticks st silent = .ok (o, st')) :
    ∃ oc c, CodePair.run CodePair.Variant.current '`' st.src st.pos st.posMax false silent st.backticks
        = .ok (oc, c) ∧ o = oc.map (·.len) ∧ ∃ cs, st' = { st with backticks := c, children := cs } := by
  rw [ruleBackticks_eq] at h
  split at h
  · cases h
  · next oc c hrun =>
    obtain ⟨rfl, cs, rfl⟩ := exec_ok h
    exact ⟨oc, c, hrun, planBackticks_answer _ _, cs, rfl⟩

/-- look-ahead mode of the code-span rule writes nothing -/
theorem planBackticks_quiet {src : List Char} {pos posMax : Nat} {c c' : CodePair.Cache}
    {oc : Option CodePair.Outcome}
    (h : CodePair.run CodePair.Variant.current '`' src pos posMax false true c = .ok (oc, c')) :
    (planBackticks oc).quiet = true := by
  cases oc with
  | none => rfl
  | some o => simp only [planBackticks, run_silent_node _ _ _ _ _ _ _ _ _ h]; rfl

theorem ruleBackticks_out {st st' : IState} {silent : Bool} {o : Option Nat} :
    ruleBackticks st silent = .ok (o, st') → RuleOut st silent o st' := by
  fun_cases ruleBackticks st silent with
  | case1 | case4 | case5 => intro h; cases h
  | case2 => intro h; cases h; exact ⟨.cache _, fun _ => ⟨_, rfl⟩, nofun⟩
  | case3 _ _ hrun =>
    intro h; cases h
    have hprog := (CodePair.codepair_progress _ _ backtick_size _ _ _ _ _ _ _ _ hrun).1
    exact ⟨.cache _, fun _ => ⟨_, rfl⟩, fun _ hl => by cases hl; omega⟩
  | case6 _ _ hrun _ hnd =>
    intro h; cases h
    have hprog := (CodePair.codepair_progress _ _ backtick_size _ _ _ _ _ _ _ _ hrun).1
    cases silent with
    | true => rw [run_silent_node _ _ _ _ _ _ _ _ _ hrun] at hnd; cases hnd
    | false => exact .real (.code _ _ _ hrun hnd) (by omega)

theorem ruleBackticks_simple {st st' : IState} {silent : Bool} {o : Option Nat}
    (h : ruleBackticks st silent = .ok (o, st')) : Simple st silent o st' :=
  (ruleBackticks_out h).simple

theorem inline_rule_progress_backticks {st : IState} (hi : InlineInv st) (silent : Bool) :
    ∃ o st', ruleBackticks st silent = .ok (o, st') ∧ Advances st o := by
  have hb1 := (codeBoundary_iff st.src st.pos).mpr hi.bpos
  have hb2 := (codeBoundary_iff st.src st.posMax).mpr hi.bmax
  obtain ⟨r, hr⟩ := CodePair.codepair_no_panic CodePair.Variant.current rfl '`' backtick_size st.src
    st.pos st.posMax false silent st.backticks hb1 hb2 hi.lt
  obtain ⟨oc, c⟩ := r
  have hadv : ∀ (o : CodePair.Outcome), oc = some o → Advances st (some o.len) := by
    intro o ho len hl
    subst ho
    simp only [Option.some.injEq] at hl; subst hl
    obtain ⟨h2, h3, h4⟩ := CodePair.codepair_progress _ _ backtick_size _ _ _ _ _ _ _ _ hr
    exact ⟨by omega, h3, (codeBoundary_iff _ _).mp h4⟩
  unfold ruleBackticks
  rw [hr]
  match oc, hadv with
  | none, _ => exact ⟨_, _, rfl, by intro len hl; simp at hl⟩
  | some o, hadv =>
    simp only
    cases hnd : o.node with
    | none => exact ⟨_, _, rfl, hadv o rfl⟩
    | some nd =>
      simp only
      obtain ⟨r1, r2, _, r4, _⟩ := run_node_shape backtick_size hr hnd
      obtain ⟨x, y, hm, _, _⟩ := getMap_ok (st := st) hi.wf (a := nd.rangeStart) (b := nd.rangeEnd) (by omega)
      obtain ⟨x', y', hm', _, _⟩ := getMap_ok (st := st) hi.wf r4
      rw [hm, hm']
      exact ⟨_, _, rfl, hadv o rfl⟩

/-- **silent = real (code spans)**, from `CodePair.codepair_silent_real`: same verdict, same cache
    afterwards; look-ahead changes the code-span cache and nothing else. -/
theorem silent_real_backticks {st : IState} {n : Nat} {st1 : IState}
    (hs : ruleBackticks st true = .ok (some n, st1)) :
    st1 = { st with backticks := st1.backticks } ∧
    ∀ o st2, ruleBackticks st false = .ok (o, st2) →
      o = some n ∧ st2.pos = st.pos ∧ st2.backticks = st1.backticks := by
  have hsr := CodePair.codepair_silent_real CodePair.Variant.current '`' backtick_size st.src st.pos
    st.posMax false st.backticks
  rw [ruleBackticks_eq] at hs
  split at hs
  · cases hs
  · next oc c hrun =>
    rw [exec_quiet (planBackticks_quiet hrun), planBackticks_answer] at hs
    obtain ⟨hn, rfl⟩ := Prod.mk.inj (Except.ok.inj hs)
    refine ⟨rfl, fun o st2 hr => ?_⟩
    obtain ⟨oc2, c2, hrun2, rfl, cs, rfl⟩ := ruleBackticks_ok hr
    rw [hrun, hrun2] at hsr
    simp only [Except.map, CodePair.strip, Except.ok.injEq, Prod.mk.injEq] at hsr
    exact ⟨hsr.1.symm.trans hn, rfl, hsr.2.symm⟩

end MdIt.Inline
