/-
  Helper development for `Props/InlineTotal.lean`: no Rust panic of ONE rule call in either mode, of
  the chain, and of one step of each tokenizer loop, against callees meeting `SkipHypT` / `TokHypT`.
  The contracts are `Tri NotRust _` (`silT_iff`, `skipT_iff`): chain and steps are read off
  the layer lemmas of `Lemmas/InlineTri.lean`.  Chain and steps are stated over any rule runner
  (`firstRuleG_silent_T`, `skipStepG_T`; in real mode `firstRuleG_realX`, `tokStepG_T` over a frame relation
  `F` and a state invariant `J`: `StepX`, `RealX`, `TokHypX`), the model's are their instances.
-/
import MdIt.Lemmas.InlineTotalFrame

namespace MdIt.Inline
open MdIt.InlineOps (Srcmap getSourcePosFor getMap byteLen slice)
open MdIt.C05 (WFMap MonoMap byteLen_append slice_ok_iff)
open MdIt.InlineH (firstRuleG tokStepG skipStepG firstRuleG_induct firstRuleG_eq)

/-! ## look-ahead mode -/

/-- what a rule call in look-ahead mode guarantees -/
structure SilT (st : IState) (r : RuleRes) : Prop where
  noRust : NoRust r
  ok : ∀ o st', r = .ok (o, st') → LInv st' ∧ Calm st st' ∧ st'.pos = st.pos ∧ Advances st o

theorem SilT.declined {st : IState} (hi : LInv st) : SilT st (.ok (none, st)) :=
  ⟨NoRust.ok _, by
    intro o st' h
    simp only [Except.ok.injEq, Prod.mk.injEq] at h; obtain ⟨rfl, rfl⟩ := h
    exact ⟨hi, Calm.refl _, rfl, by intro len h; simp at h⟩⟩

theorem silT_iff {st : IState} {r : RuleRes} :
    SilT st r ↔ Tri NotRust (fun x => LInv x.2 ∧ Calm st x.2 ∧ x.2.pos = st.pos ∧ Advances st x.1) r := by
  rw [tri_iff]
  exact ⟨fun h => ⟨fun e he p hp => h.noRust p (hp ▸ he), fun x hx => h.ok x.1 x.2 hx⟩,
    fun h => ⟨fun p hp => h.1 _ hp p rfl, fun o st' hx => h.2 (o, st') hx⟩⟩

theorem silT_of_simple {st : IState} (hi : LInv st) {r : SRes}
    (htot : ∃ o st', r = .ok (o, st') ∧ Advances st o)
    (hsimp : ∀ o st', r = .ok (o, st') → Simple st true o st') : SilT st (liftR r) := by
  obtain ⟨o, st', hr, hadv⟩ := htot
  refine ⟨by rw [hr]; exact NoRust.ok _, ?_⟩
  intro o2 st2 h
  have h' := liftR_ok.mp h
  rw [hr] at h'
  simp only [Except.ok.injEq, Prod.mk.injEq] at h'; obtain ⟨rfl, rfl⟩ := h'
  have hs := hsimp _ _ hr
  have hm : MemoB st' := by
    intro k v hkv
    rw [hs.cache] at hkv
    rw [hs.frame.src]; exact hi.memo k v hkv
  exact ⟨hi.same hs.calm hm hs.pos, hs.calm, hs.pos, hadv⟩

/-- the position behind a one-byte first character of the window -/
theorem after_first {st : IState} {c : Char} {rest : List Char} (hc : c.utf8Size = 1)
    (h : slice st.src st.pos st.posMax = .ok (c :: rest)) :
    Boundary st.src (st.pos + 1) ∧ st.pos + 1 ≤ st.posMax :=
  (after_one hc h).symm

theorem slice_tail_of_cons {src : List Char} {p M : Nat} {c : Char} {r : List Char}
    (hc : c.utf8Size = 1) (h : slice src p M = .ok (c :: r)) : slice src (p + 1) M = .ok r := by
  obtain ⟨a, b, e, l1, l2⟩ := (C05.slice_ok_iff _ _ _ _).mp h
  refine (C05.slice_ok_iff _ _ _ _).mpr ⟨a ++ [c], b, by rw [e]; simp, ?_, ?_⟩
  · rw [C05.byteLen_append]; simp [byteLen, hc]; omega
  · simp only [byteLen, hc] at l2; omega

theorem after_second {st : IState} {c d : Char} {rest : List Char} (hc : c.utf8Size = 1)
    (hd : d.utf8Size = 1) (h : slice st.src st.pos st.posMax = .ok (c :: d :: rest)) :
    Boundary st.src (st.pos + 1 + 1) ∧ st.pos + 1 + 1 ≤ st.posMax :=
  (after_one hd (slice_tail_of_cons hc h)).symm

/-- **what a call of a rule is**, in either mode, from a state with a non-empty window on boundaries: a flat rule
    (which looks at no callee), nothing (the marker of the link / image rule is not there), or the link rule
    behind its marker — the same for every pair of callees -/
theorem runRule_call {cfg : Cfg} (fuel : Nat) (id : RuleId) (silent : Bool) {st : IState} (hi : LInv st)
    (hlt : st.pos < st.posMax) :
    id.isFlat = true ∨ (∀ skip tok, runRule cfg skip tok fuel id st silent = .ok (none, st)) ∨
    ∃ mk en offset,
      (∀ skip tok, runRule cfg skip tok fuel id st silent = linkRule cfg skip tok fuel mk en offset st silent) ∧
      (∀ u t c, mk u t ≠ .text c) ∧ (∀ u t r cs, (Node.mk (mk u t) r cs).asMarker = none) ∧
      Boundary st.src (st.pos + offset + 1) ∧ st.pos + offset + 1 ≤ st.posMax ∧
      ∃ r, slice st.src (st.pos + offset) st.posMax = .ok ('[' :: r) := by
  obtain ⟨w, hw, hsl, hlen⟩ := hi.window
  cases id with
  | link =>
    cases w with
    | nil => simp only [byteLen] at hlen; omega
    | cons c rest =>
      by_cases hc : c = '['
      · subst hc
        exact .inr (.inr ⟨Val.link, false, 0, fun skip tok => by simp [runRule, ruleLink, hw, liftR],
          (fun _ _ _ h => nomatch h), fun _ _ _ _ => rfl,
          (after_first (by decide) hsl).1, (after_first (by decide) hsl).2, rest, hsl⟩)
      · exact .inr (.inl fun skip tok => by simp [runRule, ruleLink, hw, liftR, hc])
  | image =>
    by_cases h2 : ∃ rest, w = '!' :: '[' :: rest
    · obtain ⟨rest, rfl⟩ := h2
      exact .inr (.inr ⟨Val.image, true, 1, fun skip tok => by simp [runRule, ruleImage, hw, liftR],
        (fun _ _ _ h => nomatch h), fun _ _ _ _ => rfl, (after_second (by decide) (by decide) hsl).1,
        (after_second (by decide) (by decide) hsl).2, rest, slice_tail_of_cons (by decide) hsl⟩)
    · refine .inr (.inl fun skip tok => ?_)
      simp only [runRule, ruleImage, hw, liftR]
      split
      · next heq => cases heq
      · next rest heq => cases heq; exact absurd ⟨rest, rfl⟩ h2
      · rfl
  | _ => exact .inl rfl

theorem runRule_silent_T {cfg : Cfg} {skip tok : IState → Except Panic IState} (hq : CalmFn skip)
    (hs : SkipHypT skip) (fuel : Nat) (id : RuleId) (st : IState) (hi : LInv st)
    (hlt : st.pos < st.posMax) : SilT st (runRule cfg skip tok fuel id st true) := by
  have hinv := hi.inv hlt
  rcases runRule_call (cfg := cfg) fuel id true hi hlt with hflat | hn | ⟨mk, en, offset, e, _, _, hb, hle, _⟩
  · unfold runRule
    cases id with
    | text =>
      exact silT_of_simple hi (inline_rule_progress_text hinv true) (fun _ _ h => ruleText_simple h)
    | newline =>
      exact silT_of_simple hi (inline_rule_progress_newline hinv true (by intro h; simp at h))
        (fun _ _ h => ruleNewline_simple h)
    | escape =>
      exact silT_of_simple hi (inline_rule_progress_escape hinv true) (fun _ _ h => ruleEscape_simple h)
    | backticks =>
      exact silT_of_simple hi (inline_rule_progress_backticks hinv true)
        (fun _ _ h => ruleBackticks_simple h)
    | emph mk csw =>
      simp only [ruleEmph_silent, liftR]
      exact SilT.declined hi
    | link => cases hflat
    | image => cases hflat
    | linkEnd => exact SilT.declined hi
    | autolink =>
      exact silT_of_simple hi (inline_rule_progress_autolink hinv true)
        (fun _ _ h => ruleAutolink_simple h)
    | entity =>
      exact silT_of_simple hi (inline_rule_progress_entity cfg hinv hi.stop true)
        (fun _ _ h => ruleEntity_simple h)
  · rw [hn]; exact SilT.declined hi
  · rw [e]
    have := linkRule_silent_T (cfg := cfg) (tok := tok) hq hs fuel mk en offset st hi hb hle
    exact ⟨this.1, this.2⟩

theorem silentBumped_T {run : IState → Bool → RuleRes} {st : IState}
    (h : SilT { st with level := st.level + 1 } (run { st with level := st.level + 1 } true)) :
    SilT st (silentBumped run st) := by
  unfold silentBumped
  split
  · next e he =>
    refine ⟨?_, by intro o st' h; simp at h⟩
    intro p hp; simp only [Except.error.injEq] at hp; subst hp; exact h.noRust p he
  · next r st1 he =>
    obtain ⟨a, b, c, d⟩ := h.ok _ _ he
    have hlev : st1.level = st.level + 1 := b.level
    rw [if_neg (by omega)]
    refine ⟨NoRust.ok _, ?_⟩
    intro o st' hh
    simp only [Except.ok.injEq, Prod.mk.injEq] at hh; obtain ⟨rfl, rfl⟩ := hh
    exact ⟨⟨a.le, a.bpos, a.bmax, a.wf, a.stop, a.memo⟩, b.unbump, c, d⟩

/-- the chain in look-ahead mode, over any rule runner: a member that declines leaves `pos` and the frame
    where they were -/
theorem firstRuleG_silent_T {ι : Type} {run : ι → IState → RuleRes}
    (hrun : ∀ id s, LInv s → s.pos < s.posMax → SilT s (run id s)) :
    ∀ (rules : List ι) (st : IState), LInv st → st.pos < st.posMax →
      SilT st (firstRuleG run rules st) := by
  intro rules st hi hlt
  refine firstRuleG_induct (Pre := fun s => LInv s ∧ s.pos < s.posMax) (Post := fun s r => SilT s r)
    (fun s hs => .declined hs.1) ?_ rules (fun id _ s hs => hrun id s hs.1 hs.2) st ⟨hi, hlt⟩
  rintro s s1 r ⟨_, hlt⟩ h1
  obtain ⟨a, b, c, _⟩ := h1.ok _ _ rfl
  refine ⟨⟨a, by rw [c, b.posMax]; exact hlt⟩, fun h2 => ⟨h2.noRust, fun o st' h => ?_⟩⟩
  obtain ⟨a', b', c', d'⟩ := h2.ok _ _ h
  refine ⟨a', b.trans b', c'.trans c, fun len hl => ?_⟩
  have := d' len hl
  rwa [c, b.posMax, b.src] at this

/-- inside a non-empty window under the invariant the first character can be read, and the position
    behind it is a boundary inside the window -/
theorem firstChar_ok {st : IState} (hi : InlineInv st) :
    ∃ ch, firstChar st = .ok ch ∧ Boundary st.src (st.pos + ch.utf8Size) ∧
      st.pos + ch.utf8Size ≤ st.posMax := by
  obtain ⟨pre, w, post, hsrc, hpre, hlen, hw, hne⟩ := window_ok hi
  cases w with
  | nil => exact absurd rfl hne
  | cons ch rest =>
    refine ⟨ch, by unfold firstChar; rw [hw]; rfl, ?_, ?_⟩
    · have := boundary_in_slice (u := [ch]) (v := rest) (window_eq hw)
      simpa [byteLen] using this
    · simp only [byteLen] at hlen; omega

/-- one run of the chain in look-ahead mode inside `skip_token`, over any rule runner -/
theorem skipStepG_T {ι : Type} {chain : List ι} {run : ι → IState → Bool → RuleRes}
    (hrun : ∀ r s, LInv s → s.pos < s.posMax → SilT s (run r s true)) (st : IState) (hi : LInv st)
    (hlt : st.pos < st.posMax) : SkipT st (skipStepG chain run st) := by
  refine skipT_iff.mpr (skipStepG_tri (silT_iff.mp (firstRuleG_silent_T
    (fun id s his hls => silentBumped_T (hrun id _
      ⟨his.le, his.bpos, his.bmax, his.wf, his.stop, his.memo⟩ hls)) chain st hi hlt)) ?_ ?_)
  · rintro len st1 ⟨a, b, c, d⟩
    obtain ⟨d1, d2, d3⟩ := d len rfl
    simp only at c
    rw [c]
    exact ⟨MemoB.insert a.memo (by omega) (by rw [b.src]; exact d3), by simp only; omega, d2, d3⟩
  · rintro st1 ⟨a, b, c, _⟩
    simp only at c
    obtain ⟨ch, hfc, hb, hle⟩ := firstChar_ok (a.inv (by rw [c, b.posMax]; exact hlt))
    rw [hfc]
    have hc := Char.utf8Size_pos ch
    exact ⟨MemoB.insert a.memo (by rw [c]; omega) hb, by simp only; rw [c]; omega,
      by simp only; rw [← b.posMax]; exact hle, by simp only; rw [← b.src]; exact hb⟩

theorem skipStep_T {cfg : Cfg} {skip tok : IState → Except Panic IState} (hq : CalmFn skip)
    (hs : SkipHypT skip) (fuel : Nat) (st : IState) (hi : LInv st) (hlt : st.pos < st.posMax) :
    SkipT st (skipStep cfg skip tok fuel st) :=
  skipStep_eq_G cfg skip tok fuel st ▸
    skipStepG_T (fun id s his hls => runRule_silent_T hq hs fuel id s his hls) st hi hlt

/-! ## real mode -/

theorem Good.of_add_zero {lo : Nat} {st : IState} (h : Good lo { st with pos := st.pos + 0 }) :
    Good lo st := h

theorem RealX.declined {F : IState → IState → Prop} {J : IState → Prop} (hrefl : ∀ s, F s s) {lo : Nat}
    {st : IState} (hg : Good lo st) (hm : MemoB st) (hJ : J st) : RealX F J lo st (.ok (none, st)) :=
  ⟨NoRust.ok _, by
    intro o st' h
    cases h
    exact ⟨hg, hm, hrefl _, fun _ => rfl, fun _ h => (nomatch h), hJ⟩⟩

/-- flat rules leave the memo alone -/
theorem runRule_flat_cache {cfg : Cfg} {skip tok : IState → Except Panic IState} {fuel : Nat}
    {id : RuleId} (hflat : id.isFlat = true) {st : IState} {silent : Bool} {o : Option Nat}
    {st' : IState} (h : runRule cfg skip tok fuel id st silent = .ok (o, st')) :
    st'.cache = st.cache := by
  unfold runRule at h
  cases id with
  | text => exact (ruleText_simple (liftR_ok.mp h)).cache
  | newline => exact (ruleNewline_simple (liftR_ok.mp h)).cache
  | escape => exact (ruleEscape_simple (liftR_ok.mp h)).cache
  | backticks => exact (ruleBackticks_simple (liftR_ok.mp h)).cache
  | emph mk csw => exact (ruleEmph_simple (liftR_ok.mp h)).cache
  | link => simp [RuleId.isFlat] at hflat
  | image => simp [RuleId.isFlat] at hflat
  | linkEnd => simp only [Except.ok.injEq, Prod.mk.injEq] at h; rw [← h.2]
  | autolink => exact (ruleAutolink_simple (liftR_ok.mp h)).cache
  | entity => exact (ruleEntity_simple (liftR_ok.mp h)).cache

theorem flat_real_T {cfg : Cfg} (hsz : ∀ mk csw, RuleId.emph mk csw ∈ cfg.chain → mk.utf8Size = 1)
    {skip tok : IState → Except Panic IState} (fuel : Nat) {id : RuleId} (hid : id ∈ cfg.chain)
    (hflat : id.isFlat = true) {lo : Nat} {st : IState} (hg : Good lo st) (hm : MemoB st)
    (hlt : st.pos < st.posMax) : RealT lo st (runRule cfg skip tok fuel id st false) := by
  obtain ⟨o, st', h, f⟩ := flat_rule_step hsz (skip := skip) (tok := tok) (fuel := fuel) hid hflat hg hlt
  refine ⟨noRust_of_eq h, ?_⟩
  intro o2 st2 h2
  rw [h] at h2
  simp only [Except.ok.injEq, Prod.mk.injEq] at h2; obtain ⟨rfl, rfl⟩ := h2
  have hc := runRule_flat_cache hflat h
  refine ⟨f.good hg, ?_, f.frame, fun _ => f.pos, ?_, trivial⟩
  · intro k v hkv
    rw [hc] at hkv
    rw [f.frame.src]; exact hm k v hkv
  · intro len hl
    have := (f.adv len hl).1
    rw [f.pos]; omega

theorem runRule_real_T {cfg : Cfg} (hsz : ∀ mk csw, RuleId.emph mk csw ∈ cfg.chain → mk.utf8Size = 1)
    {skip tok : IState → Except Panic IState} (hq : CalmFn skip) (hs : SkipHypT skip)
    (ht : TokHypT tok) (hr : RangesFn tok) (fuel : Nat) {id : RuleId} (hid : id ∈ cfg.chain)
    {lo : Nat} (st : IState) (hg : Good lo st) (hm : MemoB st) (hlt : st.pos < st.posMax) :
    RealT lo st (runRule cfg skip tok fuel id st false) := by
  rcases runRule_call (cfg := cfg) fuel id false (hg.linv hm) hlt with
    hflat | hn | ⟨mk, en, offset, e, h1, h2, hb, hle, _⟩
  · exact flat_real_T hsz fuel hid hflat hg hm hlt
  · rw [hn]; exact .declined Frame.refl hg hm trivial
  · rw [e]
    have := linkRule_real_T (cfg := cfg) hq hs ht hr fuel mk h1 h2 en offset st hg hm hb hle
    exact ⟨this.1, this.2⟩

theorem StepX.none_inv {F : IState → IState → Prop} {J : IState → Prop} {lo : Nat} {st st1 : IState}
    (s1 : StepX F J lo st none st1) : Good lo st1 ∧ J st1 ∧ st1.pos = st.pos :=
  ⟨s1.good, s1.inv, s1.nonePos rfl⟩

/-- the chain in real mode: a member that declines leaves the state good, where it was -/
theorem firstRuleG_realX {ι : Type} {mx : Nat} {run : ι → IState → Bool → RuleRes}
    {F : IState → IState → Prop} {J : IState → Prop} (hrefl : ∀ s, F s s)
    (htrans : ∀ {a b c}, F a b → F b c → F a c)
    (hkeep : ∀ {a b : IState}, F a b → b.posMax = a.posMax ∧ b.level = a.level) {lo : Nat} :
    ∀ (rules : List ι),
      (∀ r ∈ rules, ∀ s, Good lo s → MemoB s → J s → s.pos < s.posMax → s.level < mx →
        RealX F J lo s (run r s false)) →
      ∀ st, Good lo st → MemoB st → J st → st.pos < st.posMax → st.level < mx →
        RealX F J lo st (firstRuleG (fun id s => run id s false) rules st) :=
  fun rules hrun st hg hm hJ hlt hlev =>
    firstRuleG_induct
      (Pre := fun s => Good lo s ∧ MemoB s ∧ s.pos < s.posMax ∧ J s ∧ s.level < mx)
      (Post := RealX F J lo)
      (fun s hs => RealX.declined hrefl hs.1 hs.2.1 hs.2.2.2.1)
      (fun s s1 r hs h1 => by
        have s1' := h1.2 _ _ rfl
        obtain ⟨hg1, hJ1, hp1⟩ := s1'.none_inv
        have fl := hkeep s1'.frame
        refine ⟨⟨hg1, s1'.memo, by rw [hp1, fl.1]; exact hs.2.2.1, hJ1,
          by rw [fl.2]; exact hs.2.2.2.2⟩, fun h2 => ⟨h2.1, ?_⟩⟩
        intro o st' h
        have s2 := h2.2 _ _ h
        exact ⟨s2.good, s2.memo, htrans s1'.frame s2.frame, fun ho => by rw [s2.nonePos ho, hp1],
          by intro len hl; have := s2.adv len hl; rw [hp1] at this; exact this, s2.inv⟩)
      rules (fun id hid s hp => hrun id hid s hp.1 hp.2.1 hp.2.2.2.1 hp.2.2.1 hp.2.2.2.2)
      st ⟨hg, hm, hlt, hJ, hlev⟩

/-- the fall-back of the loop from a good state inside its window: a good state further on, the same
    frame, the same memo -/
theorem charStep_T {lo : Nat} {st : IState} (hg : Good lo st) (hlt : st.pos < st.posMax) :
    ∃ st', charStep st = .ok st' ∧ Good lo st' ∧ st'.cache = st.cache ∧ Frame st st' ∧ st.pos < st'.pos := by
  obtain ⟨ch, hfc, hb, hle⟩ := firstChar_ok (hg.inv hlt)
  obtain ⟨_, _, _, _, _, _, hs2⟩ := slice_of_boundaries hg.bpos hb (by omega)
  obtain ⟨st2, hp⟩ := pushText_total hg.map.wf hs2
  have hri := fallback_ranges hg.map hg.ri hp
  obtain ⟨cs, _, rfl⟩ := pushText_eq hp
  have hc := Char.utf8Size_pos ch
  refine ⟨{ st with children := cs, pos := st.pos + ch.utf8Size },
    by unfold charStep; rw [hfc]; simp only [hp, liftR],
    ⟨hle, hb, hg.bmax, hg.map, hg.stop, hri, hg.bottoms⟩, rfl, ⟨rfl, rfl, rfl, rfl, rfl⟩, ?_⟩
  simp only; omega

/-- **one iteration of the tokenizer loop does not panic**, over any rule runner -/
theorem tokStepG_T {ι : Type} {mx : Nat} {chain : List ι} {run : ι → IState → Bool → RuleRes}
    {F : IState → IState → Prop} {J : IState → Prop} (hrefl : ∀ s, F s s)
    (htrans : ∀ {a b c}, F a b → F b c → F a c)
    (hkeep : ∀ {a b : IState}, F a b → b.posMax = a.posMax ∧ b.level = a.level)
    (hcomp : ∀ {a b c}, F a b → Frame b c → F a c)
    (hup : ∀ {s s'}, J s → s'.src = s.src → s'.level = s.level → s'.linkLevel = s.linkLevel →
      s.pos ≤ s'.pos → J s')
    {lo : Nat}
    (hrun : ∀ r ∈ chain, ∀ s, Good lo s → MemoB s → J s → s.pos < s.posMax → s.level < mx →
      RealX F J lo s (run r s false))
    (st : IState) (hg : Good lo st) (hm : MemoB st) (hJ : J st) (hlt : st.pos < st.posMax) :
    NoRust (tokStepG mx chain run st) ∧
    ∀ st', tokStepG mx chain run st = .ok st' →
      Good lo st' ∧ MemoB st' ∧ F st st' ∧ st.pos < st'.pos ∧ J st' := by
  have key : Tri NotRust (fun st' => Good lo st' ∧ MemoB st' ∧ F st st' ∧ st.pos < st'.pos ∧ J st')
      (tokStepG mx chain run st) := by
    refine tokStepG_tri (C := fun x => StepX F J lo st x.1 x.2) (fun hlev => ?_)
      (fun _ => (RealX.declined hrefl hg hm hJ).2 _ _ rfl) ?_ ?_
    · have h := firstRuleG_realX hrefl htrans hkeep chain hrun st hg hm hJ hlt hlev
      exact tri_iff.mpr ⟨fun e he p hp => h.1 p (hp ▸ he), fun x hx => h.2 x.1 x.2 hx⟩
    · intro len st1 s1
      exact ⟨by simpa using s1.good, s1.memo, hcomp s1.frame ⟨rfl, rfl, rfl, rfl, rfl⟩, s1.adv len rfl,
        by simpa using s1.inv⟩
    · intro st1 s1
      obtain ⟨hg1, hJ1, hp1⟩ := s1.none_inv
      obtain ⟨st2, h2, hg2, hc2, f2, hp2⟩ :=
        charStep_T hg1 (by rw [hp1, (hkeep s1.frame).1]; exact hlt)
      rw [h2]
      refine ⟨hg2, fun k v hkv => ?_, hcomp s1.frame f2, by rw [← hp1]; exact hp2,
        hup hJ1 f2.src f2.level f2.linkLevel (Nat.le_of_lt hp2)⟩
      rw [hc2] at hkv; rw [f2.src]; exact s1.memo k v hkv
  obtain ⟨k1, k2⟩ := tri_iff.mp key
  exact ⟨fun p hp => k1 _ hp p rfl, k2⟩

theorem realX_iff {lo : Nat} {st : IState} {r : RuleRes} :
    RealX Frame (fun _ => True) lo st r ↔ RealT lo st r := Iff.rfl

/-- **one iteration of the tokenizer loop does not panic** -/
theorem tokStep_T {cfg : Cfg} (hsz : ∀ mk csw, RuleId.emph mk csw ∈ cfg.chain → mk.utf8Size = 1)
    {skip tok : IState → Except Panic IState} (hq : CalmFn skip) (hs : SkipHypT skip)
    (ht : TokHypT tok) (hr : RangesFn tok) (fuel : Nat) {lo : Nat} (st : IState) (hg : Good lo st)
    (hm : MemoB st) (hlt : st.pos < st.posMax) :
    NoRust (tokStep cfg skip tok fuel st) ∧
    ∀ st', tokStep cfg skip tok fuel st = .ok st' →
      Good lo st' ∧ MemoB st' ∧ Frame st st' ∧ st.pos < st'.pos := by
  rw [tokStep_eq_G]
  have h := tokStepG_T (mx := cfg.maxNesting) (J := fun _ => True) Frame.refl Frame.trans
    (fun h => ⟨h.posMax, h.level⟩) Frame.trans (fun _ _ _ _ _ => trivial)
    (fun id hid s hg hm _ hlt _ => runRule_real_T hsz hq hs ht hr fuel hid s hg hm hlt)
    st hg hm trivial hlt
  exact ⟨h.1, fun st' hs => ⟨(h.2 st' hs).1, (h.2 st' hs).2.1, (h.2 st' hs).2.2.1, (h.2 st' hs).2.2.2.1⟩⟩

end MdIt.Inline
