/-
  Helper development for the no-panic theorems of the inline parser: what they maintain along a run
  (`Good`), one call of a rule without look-ahead recursion in real mode from a good state
  (`flat_rule_step`: the per-rule totality results composed), the initial state (`init_good`).
-/
import MdIt.Lemmas.InlineEmphTotal

namespace MdIt.Inline
open MdIt.InlineOps (Srcmap getSourcePosFor getMap byteLen slice)
open MdIt.C05 (WFMap MonoMap byteLen_append slice_ok_iff)

/-- the rule neither looks ahead with `skip_token` nor recurses -/
def RuleId.isFlat : RuleId → Bool
  | .link => false
  | .image => false
  | _ => true

/-- what the composed no-panic theorem maintains along a run (frame started at source `lo`) -/
structure Good (lo : Nat) (st : IState) : Prop where
  le : st.pos ≤ st.posMax
  bpos : Boundary st.src st.pos
  bmax : Boundary st.src st.posMax
  map : MapOK st.src st.srcmap
  stop : EntStop st.src st.posMax
  ri : RInv lo st
  bottoms : BottomsOK st.bottoms

theorem Good.inv {lo : Nat} {st : IState} (h : Good lo st) (hlt : st.pos < st.posMax) : InlineInv st :=
  ⟨hlt, h.bpos, h.bmax, h.map.wf⟩

/-- the translation never maps below the inline offset -/
theorem tr_ge {src : List Char} {m : Srcmap} (hm : MapOK src m) {p x : Nat}
    (hx : getSourcePosFor m p = .ok x) : p ≤ x := by
  obtain ⟨x0, hx0⟩ := C05.translate_total m hm.wf 0
  have := translate_expand m hm.wf hm.mono 0 p (by omega) x0 x hx0 hx
  omega

theorem tailSpaces_le (s : List Char) : tailSpaces s ≤ byteLen s := by
  obtain ⟨pre, hpre⟩ := tailSpaces_split s
  have : byteLen s = byteLen pre + tailSpaces s := by
    conv => lhs; rw [hpre]
    rw [byteLen_append, byteLen_replicate_space]
  omega

theorem Good.trailOK {lo : Nat} {st : IState} (h : Good lo st) : TrailOK st := by
  intro init last hcs hlt
  obtain ⟨_, start, xs, xe, hsl, _, hxe, hrange⟩ := h.ri.trail init last hcs hlt
  obtain ⟨_, _, hse⟩ := slice_boundaries hsl
  have h1 := tailSpaces_le last.content
  refine ⟨by omega, ?_⟩
  intro a b hr
  rw [hrange] at hr; simp only [Option.some.injEq, Prod.mk.injEq] at hr
  obtain ⟨_, rfl⟩ := hr
  have := tr_ge h.map hxe
  omega

/-- a successful flat rule in real mode: what the state looks like afterwards -/
structure FlatStep (lo : Nat) (st : IState) (o : Option Nat) (st' : IState) : Prop where
  frame : Frame st st'
  pos : st'.pos = st.pos
  adv : Advances st o
  ri : StepRI lo st o st'
  bottoms : BottomsOK st'.bottoms

theorem FlatStep.good {lo : Nat} {st st' : IState} {o : Option Nat} (hg : Good lo st)
    (h : FlatStep lo st o st') : Good lo { st' with pos := st'.pos + o.getD 0 } := by
  have hsrc := h.frame.src
  have hmap := h.frame.srcmap
  have hpm := h.frame.posMax
  have hb : st'.pos + o.getD 0 ≤ st.posMax ∧ Boundary st.src (st'.pos + o.getD 0) := by
    rw [h.pos]
    cases o with
    | none => exact ⟨hg.le, hg.bpos⟩
    | some len => exact (h.adv len rfl).2
  refine ⟨?_, ?_, ?_, ?_, ?_, ?_, h.bottoms⟩
  · show _ ≤ st'.posMax; rw [hpm]; exact hb.1
  · show Boundary st'.src _; rw [hsrc]; exact hb.2
  · show Boundary st'.src st'.posMax; rw [hsrc, hpm]; exact hg.bmax
  · show MapOK st'.src st'.srcmap; rw [hsrc, hmap]; exact hg.map
  · show EntStop st'.src st'.posMax; rw [hsrc, hpm]; exact hg.stop
  · show RI st'.src st'.srcmap lo _ st'.children; rw [hsrc, hmap]; exact h.ri

/-! ## the rules leave `OpenersBottom` alone (all but emphasis) -/

theorem Built.bottoms {st st' : IState} (h : Built st st') : st'.bottoms = st.bottoms := by
  cases h with
  | text _ hp => obtain ⟨cs, _, rfl⟩ := pushText_eq hp; rfl
  | _ => rfl

/-! ## one rule -/

theorem flat_rule_step {cfg : Cfg} (hsz : ∀ mk csw, RuleId.emph mk csw ∈ cfg.chain → mk.utf8Size = 1)
    {skip tok : IState → Except Panic IState} {fuel : Nat} {id : RuleId} (hid : id ∈ cfg.chain)
    (hflat : id.isFlat = true) {lo : Nat} {st : IState} (hg : Good lo st) (hlt : st.pos < st.posMax) :
    ∃ o st', runRule cfg skip tok fuel id st false = .ok (o, st') ∧ FlatStep lo st o st' := by
  have hi := hg.inv hlt
  -- a rule that builds one of the shapes `Built`
  have flat : ∀ {r : SRes} {o : Option Nat} {st' : IState}, r = .ok (o, st') → Advances st o →
      RuleOut st false o st' → StepRI lo st o st' →
      ∃ o st', liftR r = .ok (o, st') ∧ FlatStep lo st o st' := fun h hadv hout hri =>
    ⟨_, _, by rw [h]; rfl, hout.simple.frame, hout.simple.pos, hadv, hri,
      by rw [hout.1.bottoms]; exact hg.bottoms⟩
  unfold runRule
  cases id with
  | text =>
    obtain ⟨o, st', h, hadv⟩ := inline_rule_progress_text hi false
    exact flat h hadv (ruleText_out h) (ruleText_ranges hg.map hg.ri h)
  | newline =>
    obtain ⟨o, st', h, hadv⟩ := inline_rule_progress_newline hi false (fun _ => hg.trailOK)
    exact flat h hadv (ruleNewline_out h) (ruleNewline_ranges hg.map hg.ri h)
  | escape =>
    obtain ⟨o, st', h, hadv⟩ := inline_rule_progress_escape hi false
    exact flat h hadv (ruleEscape_out h) (ruleEscape_ranges hg.map hg.ri h)
  | backticks =>
    obtain ⟨o, st', h, hadv⟩ := inline_rule_progress_backticks hi false
    exact flat h hadv (ruleBackticks_out h) (ruleBackticks_ranges hg.map hg.ri h)
  | emph mk csw =>
    obtain ⟨o, st', h, hb⟩ := ruleEmph_total (cfg := cfg) (mk := mk) (csw := csw) false hi hg.map hg.ri
      hg.bottoms
    have hs := ruleEmph_simple h
    exact ⟨o, st', by simp only [h, liftR], hs.frame, hs.pos,
      inline_rule_progress_emph (hsz mk csw hid) h, ruleEmph_ranges hg.map hg.ri h, hb⟩
  | link => simp [RuleId.isFlat] at hflat
  | image => simp [RuleId.isFlat] at hflat
  | linkEnd =>
    refine ⟨none, st, rfl, Frame.refl _, rfl, by intro len hl; simp at hl, stepRI_same hg.ri, hg.bottoms⟩
  | autolink =>
    obtain ⟨o, st', h, hadv⟩ := inline_rule_progress_autolink hi false
    exact flat h hadv (ruleAutolink_out h) (ruleAutolink_ranges hg.map hg.ri h)
  | entity =>
    obtain ⟨o, st', h, hadv⟩ := inline_rule_progress_entity cfg hi hg.stop false
    exact flat h hadv (ruleEntity_out h) (ruleEntity_ranges hg.map hg.ri h)

/-! ## the initial state -/

theorem trimSrc_spec (src : List Char) :
    ∃ front mid back, src = front ++ mid ++ back ∧ (∀ c ∈ front, isSpTab c = true) ∧
      (∀ c ∈ back, isSpTab c = true) ∧ (trimSrc src).1 = front.length ∧
      (trimSrc src).2 = byteLen src - back.length := by
  have hrev : src = (src.reverse.dropWhile isSpTab).reverse ++ (src.reverse.takeWhile isSpTab).reverse := by
    rw [← List.reverse_append, List.takeWhile_append_dropWhile, List.reverse_reverse]
  have hmid : (src.reverse.dropWhile isSpTab).reverse
      = ((src.reverse.dropWhile isSpTab).drop 1).reverse ++ ((src.reverse.dropWhile isSpTab).take 1).reverse := by
    rw [← List.reverse_append, List.take_append_drop]
  have hrest := (List.takeWhile_append_dropWhile (p := isSpTab)
    (l := ((src.reverse.dropWhile isSpTab).drop 1).reverse)).symm
  refine ⟨(((src.reverse.dropWhile isSpTab).drop 1).reverse).takeWhile isSpTab,
    (((src.reverse.dropWhile isSpTab).drop 1).reverse).dropWhile isSpTab
      ++ ((src.reverse.dropWhile isSpTab).take 1).reverse,
    (src.reverse.takeWhile isSpTab).reverse, ?_, ?_, ?_, ?_, ?_⟩
  · calc src = (src.reverse.dropWhile isSpTab).reverse ++ (src.reverse.takeWhile isSpTab).reverse := hrev
      _ = _ := by rw [hmid]
      _ = _ := by rw [hrest]
      _ = _ := by simp only [List.append_assoc]
  · intro c hc; exact Lines.mem_takeWhile_imp hc
  · intro c hc; exact Lines.mem_takeWhile_imp (List.mem_reverse.mp hc)
  · unfold trimSrc; rfl
  · unfold trimSrc; simp

theorem isSpTab_not_ent {c : Char} (h : isSpTab c = true) : isEntChar c = false := by
  unfold isSpTab at h
  simp only [Bool.or_eq_true, beq_iff_eq] at h
  rcases h with rfl | rfl <;> decide

/-- the state `InlineState::new` makes is good -/
theorem init_good {content : List Char} {mapping : Srcmap} (hm : MapOK content mapping) :
    ∃ lo, getSourcePosFor mapping (trimSrc content).1 = .ok lo ∧ Good lo (IState.init content mapping) := by
  obtain ⟨lo, hlo⟩ := C05.translate_total mapping hm.wf (trimSrc content).1
  obtain ⟨front, mid, back, hsrc, hfront, hback, h1, h2⟩ := trimSrc_spec content
  have hbf : byteLen front = front.length := byteLen_ascii _ (fun c hc => isSpTab_size (hfront c hc))
  have hbb : byteLen back = back.length := byteLen_ascii _ (fun c hc => isSpTab_size (hback c hc))
  have hlen : byteLen content = byteLen front + byteLen mid + byteLen back := by
    conv => lhs; rw [hsrc]
    rw [byteLen_append, byteLen_append]
  refine ⟨lo, hlo, ?_, ?_, ?_, hm, ?_, ?_, ?_⟩
  · show (trimSrc content).1 ≤ (trimSrc content).2
    rw [h1, h2]; omega
  · show Boundary content (trimSrc content).1
    exact ⟨front, mid ++ back, by rw [hsrc]; simp, by rw [h1, hbf]⟩
  · show Boundary content (trimSrc content).2
    exact ⟨front ++ mid, back, hsrc, by rw [h2, byteLen_append]; omega⟩
  · show EntStop content (trimSrc content).2
    intro pre c post hs hl
    have hl' : byteLen pre = byteLen (front ++ mid) := by rw [hl, h2, byteLen_append]; omega
    have := C05.append_inj_byteLen pre (c :: post) (front ++ mid) back (by rw [← hs, hsrc]) hl'
    exact isSpTab_not_ent (hback c (by rw [← this.2]; simp))
  · exact ⟨⟨lo, hlo, Nat.le_refl _⟩, trivial, markersOK_nil,
      by intro init last hcs; simp [IState.init] at hcs⟩
  · intro k l hkl; simp [IState.init] at hkl

end MdIt.Inline
