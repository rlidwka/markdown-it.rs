/-
  C05 for ALL sources (split tabs included) — one inline run on ANY `get_lines` table:
  `parseInline_fthV` (boundaries and the text clause with the code-span exemption at every node) and
  `bd_parseInline_all` (boundaries alone: `BdN` is a projection of `FthNV`).  The inline parser is
  certified in inline-text coordinates (`IC.parseInline_ic`, Lemmas/InlineCertParse.lean); `CtxV` and
  `SolidMarkers` give the table interfaces for the stretches `Within c` (Lemmas/C05TabsCert.lean).
  The frame invariants `FIV`, `BI` (Lemmas/C05TabsDefs3.lean, C05TabsDefs2.lean) are images of
  `IC.ICF` (`IC.ICF.fiv`, `IC.ICF.bi`).

  Worked instances, in this order: the identity-table context and the state in front of the closer
  of `*a*` in `BI` (`be_ex_hyps`) and in `FIV` (`te_ex_hyps`; the rule fires there and `FIV` holds
  behind it; a SPACE as marker breaks the invariant); every rule on an identity table, the split-tab
  placeholder of `"-    ` a\n\t\t`"`, why the code-span exemption is needed; boundaries: a code span
  across three virtual spaces, emphasis and a hard break in front of a split tab, and that `CtxV`
  and `SolidMarkers` are needed.
  Name prefixes: `be_` / `bd_` boundaries (the emphasis state / whole runs), `te_` / `tx_` the text
  clause (the emphasis state / whole runs).
-/
import MdIt.Lemmas.InlineCertParse
import MdIt.Lemmas.C05TabsCert
import MdIt.Lemmas.C05TabsShift
import MdIt.Lemmas.C05TabsRanges
import MdIt.Lemmas.C05TabsClosers
import MdIt.Lemmas.C05TabsFaith

namespace MdIt.C05T
open MdIt.Inline
open MdIt.InlineOps (Srcmap getSourcePosFor getMap byteLen slice)
open MdIt.C05R (Cut Bdy Sel Adj Adjd StrictTop TextLike textOf)

/-- **the deliverable**: for a content `c` with per-line table `m` that is an excerpt of the
    document `src0` in the sense of `CtxV` (`MapT` ∧ `PFthV`: ANY `get_lines` table, virtual-space
    entries of split tabs included) and solid single-byte emphasis markers: whatever `parseInline`
    returns is `FthNV` at every node — range ends on character boundaries of `src0`; a `Text` that
    is not the child of a code span selects its content, a `TextSpecial` its markup, an
    `EmphMarker` covers its delimiters —, mergeable neighbours are adjacent, and text-like members
    have non-empty ranges -/
theorem parseInline_fthV (cfg : Inline.Cfg) {src0 c : List Char} {m : Srcmap} (hctx : CtxV src0 c m)
    (hmk : SolidMarkers cfg.chain) {ns : List Inline.Node} (h : Inline.parseInline cfg c m = .ok ns) :
    FthLV src0 false ns ∧ Adjd ns ∧ StrictTop ns := by
  have hl := IC.low_of_ctxV hctx
  obtain ⟨h1, h2⟩ := IC.parseInline_ic cfg (IC.stretch_within c) (IC.shift_of_mapT hctx.map)
    (IC.markers_of_solid hmk) h
  exact ⟨h1.fthLV hl, h2, h1.strictTop hl⟩

end MdIt.C05T

namespace MdIt.C05T
open MdIt.Inline
open MdIt.InlineOps (Srcmap getSourcePosFor getMap byteLen slice)
open MdIt.C05R (Cut Bdy)

/-- a content that is its own document (identity table) -/
theorem be_ctx_id (c : List Char) : CtxV c c [(0, 0)] := by
  refine ⟨mapT_of_mapOK (C05R.fi_ctx_id c).map, ?_, ?_, ?_⟩
  · intro p a hp ha
    rw [C05R.fi_tr_id] at ha
    simp only [Except.ok.injEq] at ha; subst ha; exact hp
  · intro p q ch0 w p1 p2 w' a b _ _ _ _ _ _ hc ha hb
    rw [C05R.fi_tr_id] at ha hb
    simp only [Except.ok.injEq] at ha hb; subst ha hb; exact hc
  · intro p q w a b w' hc hn ha hb hc' hnb
    rw [C05R.fi_tr_id] at ha hb
    simp only [Except.ok.injEq] at ha hb; subst ha hb
    rw [hc'.unique hc] at hnb
    exact hnb.1 hn

/-- the state `C05R.em_exSt` in inline-text coordinates: `*` and `a` are solid stretches -/
theorem te_ex_icf : IC.ICF ['*', 'a', '*'] [(0, 0)] (Within ['*', 'a', '*'])
    (Anchored ['*', 'a', '*']) True 0 3 2 C05R.em_exSt.children :=
  C05R.em_ex_icf
    (tx_within_of_solid (ch := '*') (w := []) ⟨[], ['a', '*'], rfl, rfl, rfl⟩ (by decide) (by decide) (by simp))
    (tx_within_of_solid (ch := 'a') (w := []) ⟨['*'], ['*'], rfl, rfl, rfl⟩ (by decide) (by decide) (by simp))

-- the state `C05R.em_exSt` (`*a` has been read from `*a*`, the cursor is in front of the closing `*`;
-- the rule fires, matches the opener and wraps the text) satisfies the boundary invariant `BI`
-- under the identity table
theorem be_ex_hyps : ('*' : Char).utf8Size = 1 ∧ ('*' : Char) ≠ '\n' ∧ ('*' : Char) ≠ ' ' ∧
    CtxV ['*', 'a', '*'] C05R.em_exSt.src C05R.em_exSt.srcmap ∧
    BInv ['*', 'a', '*'] C05R.em_exSt :=
  ⟨by decide, by decide, by decide, be_ctx_id _, te_ex_icf.bi (IC.low_of_ctxV (be_ctx_id _))⟩

example : C05R.em_step (ruleEmph (exCfg 100) '*' true C05R.em_exSt false) = some (some 1, 2) ∧
    C05R.em_show (ruleEmph (exCfg 100) '*' true C05R.em_exSt false) =
      [(.wrap .em '*', some (0, 3), [.text ['a']])] := by decide +kernel

end MdIt.C05T

namespace MdIt.C05T
open MdIt.Inline
open MdIt.InlineOps (Srcmap getSourcePosFor getMap byteLen slice)
open MdIt.C05R (Cut Bdy Sel Adj Adjd StrictTop TextLike textOf)

/-! ## a worked state -/

-- the state `C05R.em_exSt` (`*a` has been read from `*a*`, the cursor is in front of the closing
-- `*`; the rule fires, matches the opener and wraps the text — see the `example` below) satisfies
-- `CtxV` and `FIV` under the identity table: the trailing `Text` `a` is `Within` the solid stretch
-- `a` (`tanch`), and `anch` is vacuous there (the last child IS a `Text`)
theorem te_ex_hyps : ('*' : Char).utf8Size = 1 ∧ ('*' : Char) ≠ '\n' ∧ ('*' : Char) ≠ ' ' ∧
    CtxV ['*', 'a', '*'] C05R.em_exSt.src C05R.em_exSt.srcmap ∧
    FIV ['*', 'a', '*'] C05R.em_exSt.src C05R.em_exSt.srcmap C05R.em_exSt.posMax C05R.em_exSt.pos
      C05R.em_exSt.children :=
  ⟨by decide, by decide, by decide, be_ctx_id _, te_ex_icf.fiv (IC.low_of_ctxV (be_ctx_id _))⟩

example : C05R.em_step (ruleEmph (exCfg 100) '*' true C05R.em_exSt false) = some (some 1, 2) ∧
    C05R.em_show (ruleEmph (exCfg 100) '*' true C05R.em_exSt false) =
      [(.wrap .em '*', some (0, 3), [.text ['a']])] := by decide +kernel

-- behind the rule (cursor at `2 + 1 = 3`, one `wrap` child) `FIV` holds: the rule keeps `IC.ICF`
-- (`IC.ic_ruleEmph`), whose image through the identity table is `FIV` (`IC.ICF.fiv`)
example (st' : IState) (o : Option Nat)
    (h : ruleEmph (exCfg 100) '*' true C05R.em_exSt false = .ok (o, st')) :
    FIV ['*', 'a', '*'] C05R.em_exSt.src C05R.em_exSt.srcmap C05R.em_exSt.posMax
      (st'.pos + o.getD 0) st'.children :=
  (IC.ic_ruleEmph (A := True) (lo := 0) (IC.stretch_within _)
    (IC.shift_of_mapT (be_ctx_id ['*', 'a', '*']).map)
    ⟨by decide, by decide, fun p q n hn hc =>
      (IC.markers_of_solid (c := ['*', 'a', '*']) (chain := [.emph '*' true])
        (fun mk csw hm => by
          simp only [List.mem_singleton, RuleId.emph.injEq] at hm
          obtain ⟨rfl, _⟩ := hm; exact ⟨by decide, by decide, by decide⟩)
        '*' true (by simp)).2.2 p q n hn hc⟩
    te_ex_icf h).fiv (IC.low_of_ctxV (be_ctx_id _))

-- `mk ≠ ' '` is needed (beside `mk.utf8Size = 1` and `mk ≠ '\n'` of `AsciiMarkers`, see the witnesses at
-- the end of Lemmas/C05RestInline.lean): with a virtual-space entry `(0, 1)`, `(2, 1)` in the table the two
-- spaces `c[0..2)` have no bytes in the source, the translation is constant on `[0, 2]`, and the
-- range `(1, 1)` of a "marker" leaf made of them selects nothing — no `FthNV` of the pushed leaf,
-- in whatever document
example : C05R.em_step (ruleEmph (exCfg 100) ' ' true
        { IState.init [' ', ' ', 'a'] [(0, 1), (2, 1)] with pos := 0 } false) = some (some 2, 0) ∧
    C05R.em_show (ruleEmph (exCfg 100) ' ' true
        { IState.init [' ', ' ', 'a'] [(0, 1), (2, 1)] with pos := 0 } false) =
      [(.emphMarker ' ' 2 2 true false, some (1, 1), [])] ∧
    ∀ src0, ¬ Cut src0 1 1 (List.replicate 2 ' ') := by
  refine ⟨by decide +kernel, by decide +kernel, ?_⟩
  rintro src0 ⟨p, q, _, _, hb⟩
  have : (' ' : Char).utf8Size = 1 := by decide
  simp only [List.replicate, byteLen, this] at hb; omega

end MdIt.C05T

namespace MdIt.C05T
open MdIt.Inline
open MdIt.InlineOps (Srcmap getSourcePosFor getMap byteLen slice)
open MdIt.C05R (Cut Bdy Sel NoBrk Adj Adjd StrictTop TextLike textOf)

theorem tx_parseInline_fthV_closed (cfg : Inline.Cfg) {src0 c : List Char} {m : Srcmap}
    (hctx : CtxV src0 c m) (hmk : SolidMarkers cfg.chain) {ns : List Inline.Node}
    (h : Inline.parseInline cfg c m = .ok ns) : FthLV src0 false ns ∧ Adjd ns ∧ StrictTop ns :=
  parseInline_fthV cfg hctx hmk h

/-- the example configuration (`*` emphasis) has solid markers -/
theorem tx_exSolid (n : Nat) : SolidMarkers (exCfg n).chain := tv_exSolid n

/-- what the examples show of a result: value, range and number of children of every top-level
    node -/
def tx_show (r : Except Panic (List Node)) : List (Val × Option (Nat × Nat) × Nat) :=
  match r with
  | .ok cs => cs.map (fun (n : Node) => (n.val, n.range, n.children.length))
  | .error _ => []

/-- … and value and range of the children of the top-level nodes (flattened) -/
def tx_showKids (r : Except Panic (List Node)) : List (Val × Option (Nat × Nat)) :=
  match r with
  | .ok cs => (cs.map (fun (n : Node) => n.children.map (fun (k : Node) => (k.val, k.range)))).flatten
  | .error _ => []

/-! ## every rule, identity table -/

def tx_exSrc : List Char := "a  \n` b `[c](d)<xx:y>&amp;\\*é *e* ![i](u)".toList

-- text, hard break with popped blanks, padded code span, link with a nested run, autolink, entity,
-- escape, fall-back / multi-byte text, an emphasis pair, an image: the run succeeds with eleven
-- children, and they satisfy the conclusion
example : ∃ ns, parseInline (exCfg 100) tx_exSrc [(0, 0)] = .ok ns ∧ ns.length = 11 ∧
    FthLV tx_exSrc false ns ∧ Adjd ns ∧ StrictTop ns := by
  have hrun : (match parseInline (exCfg 100) tx_exSrc [(0, 0)] with
      | .ok cs => cs.length == 11
      | .error _ => false) = true := by decide +kernel
  split at hrun
  · next cs hcs =>
    exact ⟨cs, hcs, by simpa using hrun,
      tx_parseInline_fthV_closed (exCfg 100) (be_ctx_id tx_exSrc) (tx_exSolid 100) hcs⟩
  · simp at hrun

/-! ## the split-tab placeholder of `"-    ` a\n\t\t`"`

  content `tb_exC = "` a\n   `"`, table `[(0,5),(4,11),(7,11)]`: the entries `(4,11)`, `(7,11)` are a
  virtual-space pair (the three spaces `c[4..7)` have no bytes in the source). -/

theorem tx_ex_ctx : CtxV tb_exSrc tb_exC [(0, 5), (4, 11), (7, 11)] :=
  ⟨mapT_of_virt sh_exM_wf sh_exM_monoV sh_exM_keys sh_exM_virt, tf_ex_pfthV⟩

theorem tx_ex_run : ∃ ns, parseInline (exCfg 100) tb_exC [(0, 5), (4, 11), (7, 11)] = .ok ns ∧
    ns.length = 1 := by
  have hrun : (match parseInline (exCfg 100) tb_exC [(0, 5), (4, 11), (7, 11)] with
      | .ok cs => cs.length == 1
      | .error _ => false) = true := by decide +kernel
  split at hrun
  · next cs hcs => exact ⟨cs, hcs, by simpa using hrun⟩
  · simp at hrun

-- the code span `(5,12)` with its `Text` child `"a   "` `(7,11)` — under the exemption: the child
-- holds the three virtual spaces; (here its range happens to hold the line break as well)
example : tx_show (parseInline (exCfg 100) tb_exC [(0, 5), (4, 11), (7, 11)]) =
      [(.codeInline '`' 1, some (5, 12), 1)] ∧
    tx_showKids (parseInline (exCfg 100) tb_exC [(0, 5), (4, 11), (7, 11)]) =
      [(.text ['a', ' ', ' ', ' '], some (7, 11))] := by
  refine ⟨by decide +kernel, by decide +kernel⟩

example : ∃ ns, parseInline (exCfg 100) tb_exC [(0, 5), (4, 11), (7, 11)] = .ok ns ∧
    ns.length = 1 ∧ FthLV tb_exSrc false ns ∧ Adjd ns ∧ StrictTop ns := by
  obtain ⟨cs, hcs, hl⟩ := tx_ex_run
  exact ⟨cs, hcs, hl, tx_parseInline_fthV_closed (exCfg 100) tx_ex_ctx (tx_exSolid 100) hcs⟩

/-! ## why the exemption is needed: `"-    `\n\t\ta `"`

  The code span starts on line 1, its content starts with the line feed; `normalise` turns the line
  feed into a space and the padding rule strips it, so the inner range starts BEHIND the line feed,
  on the first virtual space.  The child's content is `"   a"`, its range `(9, 10)` selects `a`. -/

def tx_exSrc2 : List Char := ['-', ' ', ' ', ' ', ' ', '`', '\n', '\t', '\t', 'a', ' ', '`']

def tx_exC2 : List Char := ['`', '\n', ' ', ' ', ' ', 'a', ' ', '`']

-- the placeholder the block parser makes
example : (Block.parseBlocks (Pipeline.exCfg false 100).blockCfg tx_exSrc2).toOption.map
      (fun r => Pipeline.inlOf r.1) = some [(tx_exC2, [(0, 5), (2, 9), (5, 9)])] := by
  decide +kernel

-- what the inline parser makes of it
example : tx_show (parseInline (exCfg 100) tx_exC2 [(0, 5), (2, 9), (5, 9)]) =
      [(.codeInline '`' 1, some (5, 12), 1)] ∧
    tx_showKids (parseInline (exCfg 100) tx_exC2 [(0, 5), (2, 9), (5, 9)]) =
      [(.text [' ', ' ', ' ', 'a'], some (9, 10))] := by
  refine ⟨by decide +kernel, by decide +kernel⟩

-- the text clause is false of that child: no line break in `src[9..10] = "a"`, and `"a" ≠ "   a"`
example : Cut tx_exSrc2 9 10 ['a'] ∧ ¬ Sel tx_exSrc2 9 10 [' ', ' ', ' ', 'a'] := by
  have hc : Cut tx_exSrc2 9 10 ['a'] :=
    ⟨['-', ' ', ' ', ' ', ' ', '`', '\n', '\t', '\t'], [' ', '`'], by decide, by decide, by decide⟩
  refine ⟨hc, ?_⟩
  intro hs
  have := hs ['a'] hc ⟨by decide, by decide⟩
  exact absurd this (by decide)

end MdIt.C05T

namespace MdIt.C05T
open MdIt.Inline
open MdIt.InlineOps (Srcmap getSourcePosFor getMap byteLen slice)
open MdIt.C05R (Cut Bdy)

/-- **the boundary clause of C05 for one inline run**: for ANY `get_lines` table
    (`CtxV`) and solid single-byte emphasis markers, at every node of whatever `parseInline`
    returns both range ends are character boundaries of the document -/
theorem bd_parseInline_all (cfg : Inline.Cfg) {src0 c : List Char} {m : Srcmap}
    (hctx : CtxV src0 c m) (hmk : SolidMarkers cfg.chain) {ns : List Inline.Node}
    (h : Inline.parseInline cfg c m = .ok ns) : BdL src0 ns :=
  .of_fthLV (tx_parseInline_fthV_closed cfg hctx hmk h).1

theorem bd_ex_solid (n : Nat) : SolidMarkers (exCfg n).chain := tv_exSolid n

/-! ## instance 1: a code span across the virtual spaces of a split tab -/

/-- what the examples show of the children of the top-level nodes: value and range -/
def bd_showKids (r : Except Panic (List Node)) :
    Except Panic (List (List (Val × Option (Nat × Nat)))) :=
  r.map (fun cs => cs.map (fun n => n.children.map (fun k => (k.val, k.range))))

/-- the placeholder of `"-    ` a\n\t\t`"`: content `"` a\n   `"`, table `[(0,5),(4,11),(7,11)]` -/
theorem bd_ex1_ctx : CtxV tb_exSrc tb_exC [(0, 5), (4, 11), (7, 11)] := tx_ex_ctx

example : ∃ ns, parseInline (exCfg 100) tb_exC [(0, 5), (4, 11), (7, 11)] = .ok ns ∧
    ns.length = 1 ∧ BdL tb_exSrc ns := by
  obtain ⟨cs, hcs, hl⟩ := tx_ex_run
  exact ⟨cs, hcs, hl, bd_parseInline_all _ bd_ex1_ctx (bd_ex_solid _) hcs⟩

-- the code span `src[5..12]`; its text child (one padding blank stripped on either side) is the
-- content stretch `[2, 6]`, which ends INSIDE the virtual spaces (content offsets 4 … 7 all sit on
-- the source offset 11 of the closing backtick): `src[7..11] = "a\n\t\t"`
example : C05R.fi_show (parseInline (exCfg 100) tb_exC [(0, 5), (4, 11), (7, 11)])
    = .ok [(.codeInline '`' 1, some (5, 12), 1)] := by
  decide +kernel

example : bd_showKids (parseInline (exCfg 100) tb_exC [(0, 5), (4, 11), (7, 11)])
    = .ok [[(.text ['a', ' ', ' ', ' '], some (7, 11))]] := by
  decide +kernel

/-! ## instance 2: emphasis, popped blanks, skipped virtual spaces, a two-byte character -/

/-- `"-    *a*  \n\t\té"`: item content at column 5; the two tabs of the continuation line reach
    column 8 and leave three virtual spaces in front of the `é` -/
def bd_ex2Src : List Char :=
  ['-', ' ', ' ', ' ', ' ', '*', 'a', '*', ' ', ' ', '\n', '\t', '\t', 'é']

def bd_ex2C : List Char := ['*', 'a', '*', ' ', ' ', '\n', ' ', ' ', ' ', 'é']

def bd_ex2M : Srcmap := [(0, 5), (6, 13), (9, 13)]

example : (Block.parseBlocks (Pipeline.exCfg false 100).blockCfg bd_ex2Src).toOption.map
      (fun r => Pipeline.inlOf r.1) = some [(bd_ex2C, bd_ex2M)] := by
  decide +kernel

/-- every entry of the table in the terms of `get_lines`: a real one (line 1, `src[5..10]`, line
    break at 10), a virtual one (3 spaces on the source offset 13), a real one
    (`src[13..15] = "é"`) -/
theorem bd_ex2_lseg : C05I.SegAll (C05I.LSeg True bd_ex2Src bd_ex2C 15) bd_ex2M :=
  ⟨.inr ⟨[], ['*', 'a', '*', ' ', ' '], ['\n', ' ', ' ', ' ', 'é'], by decide, by decide, by decide,
      ⟨['-', ' ', ' ', ' ', ' '], ['\n', '\t', '\t', 'é'], by decide, by decide, by decide⟩, by decide,
      [' ', ' ', ' ', 'é'], rfl, by decide, by decide,
      fun _ => ⟨['-', ' ', ' ', ' ', ' ', '*', 'a', '*', ' ', ' '], '\n', ['\t', '\t', 'é'], by decide,
        by decide, .inl rfl⟩⟩,
    .inl ⟨9, rfl,
      ⟨['-', ' ', ' ', ' ', ' ', '*', 'a', '*', ' ', ' ', '\n', '\t', '\t'], ['é'], by decide, by decide⟩,
      by decide, by decide, ['*', 'a', '*', ' ', ' ', '\n'], 3, ['é'], by decide, by decide, by decide,
      by decide, .inr ⟨['*', 'a', '*', ' ', ' '], rfl⟩⟩,
    .inr ⟨['*', 'a', '*', ' ', ' ', '\n', ' ', ' ', ' '], ['é'], [], by decide, by decide, by decide,
      ⟨['-', ' ', ' ', ' ', ' ', '*', 'a', '*', ' ', ' ', '\n', '\t', '\t'], [], by decide, by decide,
        by decide⟩,
      by decide, rfl⟩,
    trivial⟩

theorem bd_ex2_ctx : CtxV bd_ex2Src bd_ex2C bd_ex2M :=
  have hs := C05I.SegAll.imp C05I.LSeg.seg bd_ex2_lseg
  have hw := C05I.seg_wf hs ⟨_, _, rfl⟩
  ⟨mapT_of_virt hw (C05I.seg_monoV hs) (C05I.seg_keys hs) (tb_virtSp_of_seg bd_ex2_lseg),
    tf_pfthV_of_seg hw (C05I.seg_monoV hs) (tb_virtSp_of_seg bd_ex2_lseg)
      (C05I.SegAll.imp C05I.LSeg.tf bd_ex2_lseg)⟩

example : ∃ ns, parseInline (exCfg 100) bd_ex2C bd_ex2M = .ok ns ∧ ns.length = 3 ∧
    BdL bd_ex2Src ns := by
  have hrun : (match parseInline (exCfg 100) bd_ex2C bd_ex2M with
      | .ok cs => cs.length == 3
      | .error _ => false) = true := by decide +kernel
  split at hrun
  · next cs hcs =>
    exact ⟨cs, hcs, by simpa using hrun, bd_parseInline_all _ bd_ex2_ctx (bd_ex_solid _) hcs⟩
  · simp at hrun

-- `<em>` = `src[5..8]`; the hard break covers the two popped blanks, the line feed and the two
-- tabs: `src[8..13]` (its left end is `8 = 10 − 2`: the translation is a shift on the popped blanks);
-- `é` = `src[13..15]`
example : C05R.fi_show (parseInline (exCfg 100) bd_ex2C bd_ex2M) = .ok
    [(.wrap .em '*', some (5, 8), 1), (.hardbreak, some (8, 13), 0),
     (.text ['é'], some (13, 15), 0)] := by
  decide +kernel

/-! ## the hypotheses are needed -/

-- `CtxV`: against a document the content is NOT an excerpt of, a range end falls inside a character
example : ∃ ns, parseInline (exCfg 100) ['a'] [(0, 0)] = .ok ns ∧ ¬ BdL ['é'] ns := by
  have hrun : C05R.fi_show (parseInline (exCfg 100) ['a'] [(0, 0)])
      = .ok [(.text ['a'], some (0, 1), 0)] := by decide +kernel
  unfold C05R.fi_show at hrun
  cases hp : parseInline (exCfg 100) ['a'] [(0, 0)] with
  | error e => rw [hp] at hrun; simp [Except.map] at hrun
  | ok ns =>
    rw [hp] at hrun
    simp only [Except.map, Except.ok.injEq] at hrun
    refine ⟨ns, rfl, ?_⟩
    intro hbd
    obtain ⟨n, rfl, hn⟩ := List.map_eq_singleton_iff.mp hrun
    simp only [Prod.mk.injEq] at hn
    obtain ⟨_, hr, _⟩ := hn
    obtain ⟨⟨a, b, hab, _, hb, _⟩, _⟩ := (BdN_eq _ _).mp hbd.1
    rw [hr] at hab
    simp only [Option.some.injEq, Prod.mk.injEq] at hab
    obtain ⟨rfl, rfl⟩ := hab
    obtain ⟨p, q, e, hl⟩ := hb
    cases p with
    | nil => simp [byteLen] at hl
    | cons x p' =>
      cases p' with
      | nil =>
        simp only [List.cons_append, List.nil_append, List.cons.injEq] at e
        obtain ⟨rfl, _⟩ := e
        exact absurd hl (by decide)
      | cons y p'' => simp at e

/-- a chain whose only rule takes the SPACE as emphasis marker -/
def bd_spCfg : Cfg := { exCfg 100 with chain := [.emph ' ' false], fns := fun _ _ => none }

-- `SolidMarkers` (`mk ≠ ' '`): on the split-tab placeholder of instance 1 the three virtual spaces
-- become an `EmphMarker` with `remaining = 3` whose range `(11, 11)` is EMPTY (the translation is
-- constant on virtual spaces) — the marker clause of `BdN` fails
example : ∃ ns, parseInline bd_spCfg tb_exC [(0, 5), (4, 11), (7, 11)] = .ok ns ∧
    ¬ BdL tb_exSrc ns := by
  have hrun : C05R.fi_show (parseInline bd_spCfg tb_exC [(0, 5), (4, 11), (7, 11)]) = .ok
      [(.text ['`'], some (5, 6), 0), (.emphMarker ' ' 1 1 true false, some (6, 7), 0),
       (.text ['a', '\n'], some (7, 11), 0), (.emphMarker ' ' 3 3 true false, some (11, 11), 0),
       (.text ['`'], some (11, 12), 0)] := by decide +kernel
  unfold C05R.fi_show at hrun
  cases hp : parseInline bd_spCfg tb_exC [(0, 5), (4, 11), (7, 11)] with
  | error e => rw [hp] at hrun; simp [Except.map] at hrun
  | ok ns =>
    rw [hp] at hrun
    simp only [Except.map, Except.ok.injEq] at hrun
    refine ⟨ns, rfl, ?_⟩
    intro hbd
    have hlen : ns.length = 5 := by simpa using congrArg List.length hrun
    match ns, hlen with
    | [n0, n1, n2, n3, n4], _ =>
      simp only [List.map_cons, List.map_nil, List.cons.injEq, Prod.mk.injEq, and_true] at hrun
      obtain ⟨_, _, _, ⟨hv, hr, _⟩, _⟩ := hrun
      have h3 : BdN tb_exSrc n3 := (bdL_iff _ _).mp hbd n3 (by simp)
      obtain ⟨⟨a, b, hab, _, _, hmk⟩, _⟩ := (BdN_eq _ _).mp h3
      rw [hr] at hab
      simp only [Option.some.injEq, Prod.mk.injEq] at hab
      obtain ⟨rfl, rfl⟩ := hab
      obtain ⟨⟨_, _, _, _, hl⟩, _⟩ := hmk _ _ _ _ _ hv
      simp [byteLen] at hl
      exact absurd hl (by decide)

end MdIt.C05T
