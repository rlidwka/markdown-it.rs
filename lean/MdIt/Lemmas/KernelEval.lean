/-
  Evaluation of test vectors that mention string literals.
-/

/-- `decide +kernel` for goals that mention string literals: the kernel evaluates `"…".toList` through
    `String.ofList` and UTF-8 decoding in time quadratic in the length of the literal, which for the test vectors of
    this development is often more than the parse they feed.  A literal is `String.ofList […]` by definition, so
    rewriting with `String.toList_ofList` hands the kernel the character list instead.  (A `def` that holds the
    literal is unfolded first, `++` of literals goes by `String.toList_append` first; an instance of a theorem on a
    literal document rewrites the same way before the theorem is applied.) -/
macro "decide_lits" : tactic => `(tactic| ((repeat rw [String.toList_ofList]); decide +kernel))
