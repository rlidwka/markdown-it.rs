/-
  The inline parser in inline-text coordinates, whole runs: the initial state of `InlineState::new`
  satisfies the frame invariant `ICF` (`ic_init`), the tokenizer stops with the cursor at `pos_max`
  (`tokLoop_stops` of Lemmas/C05InlineExit.lean), and whatever `parseInline` returns is certified
  (`parseInline_ic`): the loop
  layer is `Inline.tokLoop_keeps` (Lemmas/InlineFrame.lean) with the rule lemmas of
  Lemmas/InlineCertRules.lean, InlineCertEmph.lean, InlineCertLink.lean.
  Name prefix `ic_`: a lemma of the certificate walk.
-/
import MdIt.Lemmas.InlineCertLink
import MdIt.Lemmas.C05InlineExit

namespace MdIt.IC
open MdIt.Inline
open MdIt.InlineOps (Srcmap getSourcePosFor getMap byteLen slice)
open MdIt.C05R (Cut Bdy Adjd TextLike)
open MdIt.C05T (CharAt NoTextLast isCode tv_NlAct)

variable {c : List Char} {m : Srcmap} {W : Nat → Nat → Prop} {S : Nat → Prop}

/-! ## the initial state -/

/-- the window `InlineState::new` sets: not inverted, and no entity character stands at its end -/
theorem init_window (c : List Char) : (trimSrc c).1 ≤ (trimSrc c).2 ∧ EntStop c (trimSrc c).2 := by
  obtain ⟨front, mid, back, hsrc, hfront, hback, h1, h2⟩ := trimSrc_spec c
  have hbf : byteLen front = front.length := byteLen_ascii _ (fun c hc => isSpTab_size (hfront c hc))
  have hbb : byteLen back = back.length := byteLen_ascii _ (fun c hc => isSpTab_size (hback c hc))
  have hlen : byteLen c = byteLen front + byteLen mid + byteLen back := by
    conv => lhs; rw [hsrc]
    rw [C05.byteLen_append, C05.byteLen_append]
  refine ⟨by rw [h1, h2]; omega, ?_⟩
  intro pre x post hs hl
  have hl' : byteLen pre = byteLen (front ++ mid) := by rw [hl, h2, C05.byteLen_append]; omega
  have := C05.append_inj_byteLen pre (x :: post) (front ++ mid) back (by rw [← hs, hsrc]) hl'
  exact isSpTab_not_ent (hback x (by rw [← this.2]; simp))

/-- the state `InlineState::new` makes: the cursor is a boundary, and a non-empty window does not
    start with a blank -/
theorem ic_init (cfg : Cfg) (c : List Char) (m : Srcmap) (W : Nat → Nat → Prop) (S : Nat → Prop) :
    JInv (ICJ cfg c m W S) (trimSrc c).1 (IState.init c m) := by
  obtain ⟨front, mid, back, hsrc, hfront, hback, h1, h2, hmid⟩ := C05T.tx_trimSrc_spec c
  have hbf : byteLen front = front.length := byteLen_ascii _ (fun c hc => isSpTab_size (hfront c hc))
  have hbb : byteLen back = back.length := byteLen_ascii _ (fun c hc => isSpTab_size (hback c hc))
  have hlen : byteLen c = byteLen front + byteLen mid + byteLen back := by
    conv => lhs; rw [hsrc]
    rw [C05.byteLen_append, C05.byteLen_append]
  refine ⟨rfl, rfl, icf_nil ⟨front, mid ++ back, by rw [hsrc]; simp, by rw [h1, hbf]⟩ ?_⟩
  intro hlt hca
  change (trimSrc c).1 < (trimSrc c).2 at hlt
  change CharAt c (trimSrc c).1 ' ' at hca
  exfalso
  obtain ⟨pre, post, e', l'⟩ := hca
  have he : pre ++ (' ' :: post) = front ++ (mid ++ back) := by
    rw [← e']; conv => lhs; rw [hsrc]
    simp
  obtain ⟨_, hr⟩ := C05R.prefix_unique he (by omega)
  cases mid with
  | nil => simp only [byteLen] at hlen; omega
  | cons x r =>
    simp only [List.cons_append, List.cons.injEq] at hr
    have := hmid x r rfl
    rw [← hr.1] at this
    simp [isSpTab] at this

/-! ## one iteration, the nested runs -/

theorem ic_tokStep {cfg : Cfg} {skip tok : IState → Except Panic IState} (hs : Stretch c W S)
    (hsh : Shift c m W) (hmk : Markers c W S cfg.chain) (hq : CalmFn skip)
    (hfr : ∀ s s', tok s = .ok s' → Frame s s') (hk : TokKeeps (ICJ cfg c m W S) tok) {fuel lo : Nat}
    {st st' : IState} (h : tokStep cfg skip tok fuel st = .ok st')
    (hi : JInv (ICJ cfg c m W S) lo st) : JInv (ICJ cfg c m W S) lo st' :=
  tokStep_keeps (icj_congr cfg) hq hfr
    (fun _ hid _ _ _ hlv _ hf hr => ic_runRule hq hk hs hsh hmk hid hlv hf hr)
    (fun _ _ _ hf _ hd hch hp => ic_fallStep hs hf hd hch hp) h hi

theorem ic_tokKeeps (cfg : Cfg) (hs : Stretch c W S) (hsh : Shift c m W)
    (hmk : Markers c W S cfg.chain) (f : Nat) :
    TokKeeps (ICJ cfg c m W S) (fun s => tokLoop cfg f s.posMax s) :=
  fun i s s' h hi => tokLoop_keeps (icj_congr cfg) cfg
    (fun _ _ _ hq _ hk _ _ hid _ _ _ hlv _ hf hr => ic_runRule hq hk hs hsh hmk hid hlv hf hr)
    (fun _ _ _ _ _ _ _ hf _ hd hch hp => ic_fallStep hs hf hd hch hp)
    f s.posMax s s' (Nat.le_refl _) h i hi

/-! ## `parseInline` -/

/-- **the walk**: whatever `parseInline` returns covers consecutive stretches of the trimmed window
    of the inline text, every node certified in inline coordinates (`ICN`), mergeable neighbours
    adjacent — for any stretch predicate with the closure laws of `Stretch`, a table that is a shift
    on such stretches, and markers whose runs are such stretches -/
theorem parseInline_ic (cfg : Cfg) (hs : Stretch c W S) (hsh : Shift c m W)
    (hmk : Markers c W S cfg.chain) {ns : List Node} (h : parseInline cfg c m = .ok ns) :
    ICL c m W false (trimSrc c).1 (trimSrc c).2 ns ∧ Adjd ns := by
  unfold parseInline at h
  split at h
  · cases h
  · next st hst =>
    cases h
    unfold tokenize at hst
    have hk := ic_tokKeeps cfg hs hsh hmk _ (trimSrc c).1 _ _ hst (ic_init cfg c m W S)
    obtain ⟨hle, hstop⟩ := init_window c
    have hp : st.pos = (trimSrc c).2 := tokLoop_stops cfg (st := IState.init c m) hsh.wf hle hstop hst
    obtain ⟨_, _, hf⟩ := hk
    have ht := hf.tiles
    rw [hp] at ht
    exact ⟨ht, hf.adj⟩

end MdIt.IC
