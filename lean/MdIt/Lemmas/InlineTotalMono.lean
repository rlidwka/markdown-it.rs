/-
  AGREEMENT of the guarded tokenizer (`Lemmas/InlineTotalDef.lean`) with the model, for `Props/InlineTotal.lean`
  (nothing here is about monotonicity).

  * partial-correctness facts of the guarded tokenizer `tokLoopG` / `skipTokenG` (calm `skip_token`,
    the frame invariant): `Eng.skipToken_calm` / `Eng.ranges` (`Lemmas/InlineCalm.lean`,
    `InlineRanges6.lean`) at `engG`;
  * the AGREEMENT of a guarded tokenizer with its model: the guarded run returns the model's result
    or stops with `Panic.fuel` — for every copy (`Eng.agree`), and at the html-free rules
    (`parseInlineG_agree`, `parseInlineG_ok`);
  * with the guard off the guarded functions are the model functions (`tokLoopG_false`,
    `skipTokenG_false`); so they are for a chain without the link / image rules, which never calls
    `skip_token` (`tokLoopG_flat`).
-/
import MdIt.Lemmas.InlineTotalDef

namespace MdIt.Inline
open MdIt.InlineOps (Srcmap getSourcePosFor getMap byteLen slice)
open MdIt.InlineH (firstRuleG tokStepG skipStepG)

/-! ## partial correctness of the guarded functions -/

/-- **the guarded `skip_token` is calm**, at every fuel -/
theorem skipTokenG_calm (cfg : Cfg) (g : Bool) :
    ∀ fuel : Nat, CalmFn (fun s => skipTokenG cfg g fuel s) := fun fuel => by
  have := (Eng.base cfg).skipToken_calm g (fun hq h => runRule_silent_calm hq h) fuel
  simpa only [(engG cfg g fuel).2] using this

/-- **the frame invariant through the guarded tokenizer** -/
theorem rangesFnG (cfg : Cfg) (g : Bool) (fuel : Nat) :
    RangesFn (fun s => tokLoopG cfg g fuel s.posMax s) :=
  fun lo s s' hms hr his => (Eng.base cfg).ranges g rfl (fun hq h => runRule_silent_calm hq h)
    (fun hq ht hm hi h => runRule_ranges hq ht hm hi h) fuel _ lo s s' hms (((engG cfg g fuel).1 _ _).symm.trans hr) his

/-! ## agreement: the guarded result is the model's result, or the guarded run stopped (`Panic.fuel`)

`Agree a b`: `a` is the result over guarded callees, `b` over the model's.  Every function of the
link machinery takes `skip_token` / `tokenize` as parameters and threads their errors through
unchanged, so agreement of the callees gives agreement of the results. -/

def Agree {α : Type} (a b : Except Panic α) : Prop := a = b ∨ a = .error .fuel
def AgreeFn (f f' : IState → Except Panic IState) : Prop := ∀ s, Agree (f s) (f' s)

theorem Agree.rfl' {α : Type} {a : Except Panic α} : Agree a a := .inl rfl

/-- use the agreement `h` of a callee that is the scrutinee of the outermost `match` on the guarded
    side: either the callee results are equal (rewrite, go on), or the guarded one is out of fuel -/
macro "agree_call " h:term : tactic =>
  `(tactic| (refine Or.elim $h (fun hh => ?_) (fun hh => by rw [hh]; exact Or.inr rfl); rw [hh]))

theorem labelLoop_agree {skip skip' : IState → Except Panic IState} (hs : AgreeFn skip skip')
    (en : Bool) : ∀ (n : Nat) (level : Int) (st : IState),
    Agree (labelLoop skip en n level st) (labelLoop skip' en n level st) := by
  intro n
  induction n with
  | zero => intro level st; exact .inl rfl
  | succ n ih =>
    intro level st
    rw [labelLoop, labelLoop]
    cases liftR st.window with
    | error e => exact .inl rfl
    | ok w =>
      cases w with
      | nil => exact .inl rfl
      | cons ch r =>
        dsimp only
        by_cases hc : ch = ']' ∧ level - 1 = 0
        · rw [if_pos hc, if_pos hc]; exact .inl rfl
        · rw [if_neg hc, if_neg hc]
          agree_call hs st
          cases skip' st with
          | error e => exact .inl rfl
          | ok st1 =>
            dsimp only
            by_cases h1 : ch = '['
            · rw [if_pos h1, if_pos h1]
              by_cases h2 : st1.pos = 0
              · rw [if_pos h2, if_pos h2]; exact .inl rfl
              · rw [if_neg h2, if_neg h2]
                by_cases h3 : st.pos = st1.pos - 1
                · rw [if_pos h3, if_pos h3]; exact ih _ _
                · rw [if_neg h3, if_neg h3]
                  cases en
                  · exact .inl rfl
                  · exact ih _ _
            · rw [if_neg h1, if_neg h1]; exact ih _ _

theorem parseLinkLabel_agree {skip skip' : IState → Except Panic IState} (hs : AgreeFn skip skip')
    (fuel : Nat) (st : IState) (start : Nat) (en : Bool) :
    Agree (parseLinkLabel skip fuel st start en) (parseLinkLabel skip' fuel st start en) := by
  unfold parseLinkLabel
  simp only
  agree_call labelLoop_agree hs en fuel 1 _
  exact .inl rfl

theorem parseLinkRef_agree (cfg : Cfg) {skip skip' : IState → Except Panic IState}
    (hs : AgreeFn skip skip') (fuel : Nat) (st : IState) (ls le : Nat) :
    Agree (parseLinkRef cfg skip fuel st ls le) (parseLinkRef cfg skip' fuel st ls le) := by
  unfold parseLinkRef
  simp only
  split
  · exact .inl rfl
  · next w _ =>
    rcases w with _ | ⟨c, tail⟩
    · exact .inl rfl
    · by_cases hc : c = '['
      · subst hc
        simp only []
        agree_call parseLinkLabel_agree hs fuel st (le + 1) false
        exact .inl rfl
      · exact .inl (by simp [hc])

theorem parseLink_agree (cfg : Cfg) {skip skip' : IState → Except Panic IState}
    (hs : AgreeFn skip skip') (fuel : Nat) (st : IState) (pos : Nat) (en : Bool) :
    Agree (parseLink cfg skip fuel st pos en) (parseLink cfg skip' fuel st pos en) := by
  unfold parseLink
  simp only
  agree_call parseLinkLabel_agree hs fuel st pos en
  split
  · exact .inl rfl
  · exact .inl rfl
  · split
    · exact .inl rfl
    · exact .inl rfl
    · exact parseLinkRef_agree cfg hs _ _ _ _

theorem linkRule_agree (cfg : Cfg) {skip skip' tok tok' : IState → Except Panic IState}
    (hs : AgreeFn skip skip') (ht : AgreeFn tok tok') (fuel : Nat)
    (mk : List Nat → Option (List Char) → Val) (en : Bool) (offset : Nat) (st : IState)
    (silent : Bool) :
    Agree (linkRule cfg skip tok fuel mk en offset st silent)
      (linkRule cfg skip' tok' fuel mk en offset st silent) := by
  unfold linkRule
  simp only
  agree_call parseLink_agree cfg hs fuel st (st.pos + offset) en
  split
  · exact .inl rfl
  · exact .inl rfl
  · split
    · exact .inl rfl
    · agree_call ht _
      exact .inl rfl

theorem ruleLink_agree (cfg : Cfg) {skip skip' tok tok' : IState → Except Panic IState}
    (hs : AgreeFn skip skip') (ht : AgreeFn tok tok') (fuel : Nat) (st : IState) (silent : Bool) :
    Agree (ruleLink cfg skip tok fuel st silent) (ruleLink cfg skip' tok' fuel st silent) := by
  unfold ruleLink
  split
  · exact .inl rfl
  · exact .inl rfl
  · split
    · exact .inl rfl
    · exact linkRule_agree cfg hs ht _ _ _ _ _ _

theorem ruleImage_agree (cfg : Cfg) {skip skip' tok tok' : IState → Except Panic IState}
    (hs : AgreeFn skip skip') (ht : AgreeFn tok tok') (fuel : Nat) (st : IState) (silent : Bool) :
    Agree (ruleImage cfg skip tok fuel st silent) (ruleImage cfg skip' tok' fuel st silent) := by
  unfold ruleImage
  split
  · exact .inl rfl
  · exact linkRule_agree cfg hs ht _ _ _ _ _ _
  · exact .inl rfl

theorem runRule_agree (cfg : Cfg) {skip skip' tok tok' : IState → Except Panic IState}
    (hs : AgreeFn skip skip') (ht : AgreeFn tok tok') (fuel : Nat) (id : RuleId) (st : IState)
    (silent : Bool) :
    Agree (runRule cfg skip tok fuel id st silent) (runRule cfg skip' tok' fuel id st silent) := by
  unfold runRule
  cases id
  case link => exact ruleLink_agree cfg hs ht _ _ _
  case image => exact ruleImage_agree cfg hs ht _ _ _
  all_goals exact .inl rfl

theorem firstRuleG_agree {ι : Type} {run run' : ι → IState → RuleRes}
    (h : ∀ id s, Agree (run id s) (run' id s)) : ∀ (rules : List ι) (st : IState),
    Agree (firstRuleG run rules st) (firstRuleG run' rules st) := by
  intro rules
  induction rules with
  | nil => intro st; exact .inl rfl
  | cons r rs ih =>
    intro st
    simp only [firstRuleG]
    agree_call h r st
    split
    · exact .inl rfl
    · exact .inl rfl
    · exact ih _


theorem silentBumped_agree {run run' : IState → Bool → RuleRes}
    (h : ∀ s b, Agree (run s b) (run' s b)) (st : IState) :
    Agree (silentBumped run st) (silentBumped run' st) := by
  unfold silentBumped
  agree_call h _ true
  exact .inl rfl

theorem tokStepG_agree {ι : Type} {mx : Nat} {chain : List ι} {run run' : ι → IState → Bool → RuleRes}
    (h : ∀ r s b, Agree (run r s b) (run' r s b)) (st : IState) :
    Agree (tokStepG mx chain run st) (tokStepG mx chain run' st) := by
  unfold tokStepG
  simp only
  by_cases hl : st.level < mx
  · simp only [hl, ↓reduceIte]
    agree_call firstRuleG_agree (run := fun r s => run r s false) (run' := fun r s => run' r s false)
      (fun r s => h r s false) chain st
    exact .inl rfl
  · simp only [hl, ↓reduceIte]
    exact .inl rfl

theorem skipStepG_agree {ι : Type} {chain : List ι} {run run' : ι → IState → Bool → RuleRes}
    (h : ∀ r s b, Agree (run r s b) (run' r s b)) (st : IState) :
    Agree (skipStepG chain run st) (skipStepG chain run' st) := by
  unfold skipStepG
  simp only
  agree_call firstRuleG_agree (run := fun r s => silentBumped (run r) s)
    (run' := fun r s => silentBumped (run' r) s)
    (fun r s => silentBumped_agree (fun s b => h r s b) s) chain st
  exact .inl rfl

/-! ## the guarded tokenizer agrees with the model -/

namespace Eng

/-- **the guarded run is the unguarded run, or it stopped** -/
theorem agree {ι : Type} (E : Eng ι) (hid : E.enter = id)
    (hrun : ∀ {skip skip' tok tok'}, AgreeFn skip skip' → AgreeFn tok tok' → ∀ fuel r st silent,
      Agree (E.run skip tok fuel r st silent) (E.run skip' tok' fuel r st silent)) :
    ∀ fuel : Nat,
      (∀ s, Agree (E.skipToken true fuel s) (E.skipToken false fuel s)) ∧
      (∀ e s, Agree (E.tokLoop true fuel e s) (E.tokLoop false fuel e s)) := by
  have hr : ∀ f, (∀ s, Agree (E.skipToken true f s) (E.skipToken false f s)) →
      (∀ e s, Agree (E.tokLoop true f e s) (E.tokLoop false f e s)) →
      ∀ r s b, Agree (E.runAt true f r s b) (E.runAt false f r s b) := by
    intro f ihS ihT r s b
    simp only [Eng.runAt, hid, id_eq]
    exact hrun (skip := fun s => E.skipToken true f s) (skip' := fun s => E.skipToken false f s)
      (tok := fun s => E.tokLoop true f s.posMax s) (tok' := fun s => E.tokLoop false f s.posMax s)
      ihS (fun s => ihT _ s) f r s b
  exact E.induct true (S := fun f st r => Agree r (E.skipToken false f st))
    (T := fun f e st r => Agree r (E.tokLoop false f e st))
    (fun _ => .inl rfl)
    (fun f st x hx => by
      rw [Eng.skipToken_succ, hx]
      split
      · exact .inr rfl
      · simp; exact .inl rfl)
    (fun f st hx hl => by rw [Eng.skipToken_succ, hx]; simp only [if_neg hl]; exact .inl rfl)
    (fun f st ihS ihT hx hl => by
      rw [Eng.skipToken_succ, hx]; simp only [if_pos hl]
      exact skipStepG_agree (hr f ihS ihT) st)
    (fun f e st h => by
      cases f with
      | zero => rw [Eng.tokLoop_zero, if_neg h]; exact .inl rfl
      | succ f => rw [Eng.tokLoop_succ, if_neg h]; exact .inl rfl)
    (fun e st h => by rw [Eng.tokLoop_zero, if_pos h]; exact .inl rfl)
    (fun f e st ihS ihT h => by
      have ha := tokStepG_agree (mx := E.maxNesting) (chain := E.chain) (hr f ihS ihT) st
      rw [Eng.tokLoop_succ, if_pos h]
      rcases ha with ha | ha
      · rw [← ha]
        cases tokStepG E.maxNesting E.chain (E.runAt true f) st with
        | error err => exact .inl rfl
        | ok st1 => exact fun r hr => hr
      · rw [ha]; exact .inr rfl)

end Eng

theorem parseInlineG_agree (cfg : Cfg) (content : List Char) (mapping : Srcmap) :
    Agree (parseInlineG cfg content mapping) (parseInline cfg content mapping) := by
  unfold parseInlineG parseInline tokenize
  rw [(engG cfg true _).1, (engM cfg _).1]
  agree_call ((Eng.base cfg).agree rfl (fun hs ht => runRule_agree cfg hs ht) (topFuel cfg content)).2 _ _
  exact .inl rfl

theorem parseInlineG_ok {cfg : Cfg} {content : List Char} {mapping : Srcmap} {cs : List Node}
    (h : parseInlineG cfg content mapping = .ok cs) : parseInline cfg content mapping = .ok cs := by
  rcases parseInlineG_agree cfg content mapping with h' | h'
  · rw [← h', h]
  · rw [h] at h'; cases h'

/-! ## with the guard off: the model functions -/

theorem skipTokenG_false (cfg : Cfg) (fuel : Nat) (s : IState) :
    skipTokenG cfg false fuel s = skipToken cfg fuel s :=
  ((engG cfg false fuel).2 s).trans ((engM cfg fuel).2 s).symm

theorem tokLoopG_false (cfg : Cfg) (fuel e : Nat) (s : IState) :
    tokLoopG cfg false fuel e s = tokLoop cfg fuel e s :=
  ((engG cfg false fuel).1 e s).trans ((engM cfg fuel).1 e s).symm

/-! ## without link / image: the guard is never consulted -/

/-- a flat rule does not look at `skip` / `tok` -/
theorem runRule_flat_indep {cfg : Cfg} {skip tok skip' tok' : IState → Except Panic IState} {fuel : Nat}
    {id : RuleId} (hflat : id.isFlat = true) (st : IState) (silent : Bool) :
    runRule cfg skip tok fuel id st silent = runRule cfg skip' tok' fuel id st silent := by
  cases id <;> first | rfl | cases hflat

theorem tokLoopG_flat {cfg : Cfg} (hflat : ∀ id ∈ cfg.chain, id.isFlat = true) (g : Bool) :
    ∀ fuel e st, tokLoopG cfg g fuel e st = tokLoop cfg fuel e st := by
  intro fuel e st
  rw [(engG cfg g fuel).1, (engM cfg fuel).1]
  exact (Eng.base cfg).tokLoop_indep (fun id hid _ _ _ _ _ s b => runRule_flat_indep (hflat id hid) s b)
    g false fuel e st

end MdIt.Inline
