/-
  For `Props/MemoSafe.lean` (C01, inline pass: the guard of the guarded tokenizer never trips):
  LOOK-AHEAD CODE INSIDE A CLOSED FRAME NEVER TRIPS THE GUARD, AND ONLY GROWS THE MEMO.

  Everything under `skip_token` (label walks, silent rules) runs inside ONE frame: `posMax` never
  changes, and the state is touched in four ways only — a call of `skip_token`, a move of `pos`, the
  `level` bump around a rule, the code-span rule rewriting its cache.  So a property of states that reads
  text, `pos_max`, memo and code-span cache only, and that every `skip_token` call keeps, is kept by the
  whole walk, and two callees that agree at every call give the same result.  This is proved ONCE, along
  the call chain `labelLoop` … `skipStep`, over a `LookKit`:

    * `I` — the property carried from call to call; `A` — what holds of the states FROM WHICH
      `skip_token` is called (they are the states a previous call returned, or stand behind a `[`);
      `E` — the positions at which the code-span rule may run;
    * two callees `skip` / `skip'` that agree wherever `I` and `A` hold (`LookKit.call`); all contracts
      (`CalmFn`, `SkipHypT`) are about the FIRST callee, the second is only compared.

  Instances here.
    `LookKit.ofNew`: `I` = "the memo is `Closed · lo M` and every entry added since the walk began ends
      `≤ M`".  Every memo hit at a visited position ends inside the frame (`closed_hit`), the guard of
      `skipTokenG cfg true` is never taken, and the guarded look-ahead equals the model's:
      `skip_guard_free` (by induction on fuel; no side condition on the chain), `parseLink_guard_free`,
      `skipStep_guard_free`.
    `LookKit.ofGrow`, `skip' = skip`: new entries end ≤ M, old `lookup` answers stay, keys below the
      start position untouched: `skip_grow`, `parseLink_guard_grow`.
  The invariant of the top frame is a third one (`TopKit.look`, `Lemmas/MemoSafeLamTopKit.lean`).

  `parse_link_ref` is read once: where it calls back (`parseLinkRef_callback`) and where its final state
  comes from (`parseLinkRef_from`).
-/
import MdIt.Lemmas.MemoSafeDef

namespace MdIt.Inline
open MdIt.InlineOps (Srcmap byteLen slice)
open MdIt.C05 (WFMap MonoMap byteLen_append slice_ok_iff)

/-- two `skip_token`s that agree on the closed states of a frame and only add entries that end
    inside it -/
def SkipEqHyp (skip skip' : IState → Except Panic IState) : Prop :=
  ∀ s lo, LInv s → s.pos < s.posMax → Closed s.cache lo s.posMax → lo ≤ s.pos →
    skip s = skip' s ∧ ∀ s', skip s = .ok s' → New s.posMax s.cache s'.cache

/-- a `skip_token` that only grows the memo at or above its position, and leaves its own jump in it -/
def SkipGrowHyp (skip : IState → Except Panic IState) : Prop :=
  ∀ s, LInv s → s.pos < s.posMax → ∀ s', skip s = .ok s' →
    Grow s.pos s.posMax s.cache s'.cache ∧ s'.cache.lookup s.pos = some s'.pos


/-! ## `parse_link_ref`, read once -/

/-- the reference form calls back once: `parse_link_label` at the `[` behind the label -/
theorem parseLinkRef_callback {cfg : Cfg} {skip skip' : IState → Except Panic IState} {fuel : Nat}
    {st : IState} {ls le : Nat}
    (h : ∀ r, slice st.src (le + 1) st.posMax = .ok ('[' :: r) →
      parseLinkLabel skip fuel st (le + 1) false = parseLinkLabel skip' fuel st (le + 1) false) :
    parseLinkRef cfg skip fuel st ls le = parseLinkRef cfg skip' fuel st ls le := by
  unfold parseLinkRef
  cases hw : slice st.src (le + 1) st.posMax with
  | error e => rfl
  | ok w =>
    simp only [liftOps, liftR]
    rcases w with _ | ⟨c, r⟩
    · rfl
    · by_cases hc : c = '['
      · subst hc; simp only [h r hw]
      · simp [hc]

/-- the state a successful reference form returns: the one given, or the one the second
    `parse_link_label` (at a `[`) left -/
theorem parseLinkRef_from {cfg : Cfg} {skip : IState → Except Panic IState} {fuel : Nat} {st : IState}
    {ls le : Nat} {o : Option LinkRes} {st' : IState}
    (h : parseLinkRef cfg skip fuel st ls le = .ok (o, st')) :
    st' = st ∨ ∃ r x, slice st.src (le + 1) st.posMax = .ok ('[' :: r) ∧
      parseLinkLabel skip fuel st (le + 1) false = .ok (x, st') := by
  obtain ⟨x, hx | ⟨r, hw, hx⟩, _⟩ := parseLinkRef_ok h
  · exact .inl hx.1
  · exact .inr ⟨r, x, liftOps_ok.mp (liftR_ok.mp hw), hx⟩

/-! ## flat rules: the code-span cache is touched by the code-span rule only -/

theorem ruleText_backticks {st st' : IState} {silent : Bool} {o : Option Nat}
    (h : ruleText st silent = .ok (o, st')) : st'.backticks = st.backticks := by
  rw [ruleText_eq] at h
  obtain ⟨_, rfl⟩ := runPlan_children h
  rfl

theorem ruleNewline_backticks {st st' : IState} {silent : Bool} {o : Option Nat}
    (h : ruleNewline st silent = .ok (o, st')) : st'.backticks = st.backticks := by
  rw [ruleNewline_eq] at h
  obtain ⟨_, rfl⟩ := runPlan_children h
  rfl

theorem ruleEscape_backticks {st st' : IState} {silent : Bool} {o : Option Nat}
    (h : ruleEscape st silent = .ok (o, st')) : st'.backticks = st.backticks := by
  rw [ruleEscape_eq] at h
  obtain ⟨_, rfl⟩ := runPlan_children h
  rfl

/-- close `st'.backticks = st.backticks` from `h : rule … = .ok (o, st')` when every successful branch
    returns `st` with other fields updated -/
macro "rule_bt " h:ident : tactic =>
  `(tactic| (
    repeat' (first | split at $h:ident | (simp only at $h:ident; split at $h:ident))
    all_goals first
      | (simp at $h:ident; done)
      | (simp only [Except.ok.injEq, Prod.mk.injEq] at $h:ident
         have h2 := And.right $h
         subst h2
         rfl)))

theorem ruleEntity_backticks {cfg : Cfg} {st st' : IState} {silent : Bool} {o : Option Nat}
    (h : ruleEntity cfg st silent = .ok (o, st')) : st'.backticks = st.backticks := by
  unfold ruleEntity at h
  rule_bt h

theorem ruleAutolink_backticks {st st' : IState} {silent : Bool} {o : Option Nat}
    (h : ruleAutolink st silent = .ok (o, st')) : st'.backticks = st.backticks := by
  rw [ruleAutolink_eq] at h
  obtain ⟨_, rfl⟩ := runPlan_children h
  rfl

theorem ruleEmph_backticks {cfg : Cfg} {mk : Char} {csw : Bool} {st st' : IState} {silent : Bool}
    {o : Option Nat} (h : ruleEmph cfg mk csw st silent = .ok (o, st')) :
    st'.backticks = st.backticks := by
  revert h
  fun_cases ruleEmph cfg mk csw st silent <;> intro h
  -- the one branch that pushes a node binds the new state by `let`
  case case9 => simp only [Except.ok.injEq, Prod.mk.injEq] at h; rw [← h.2]; rfl
  all_goals cases h <;> rfl

/-- flat rules other than the code-span rule leave `st.backticks` alone (both modes) -/
theorem runRule_backticks_unchanged {cfg : Cfg} {skip tok : IState → Except Panic IState}
    {fuel : Nat} {id : RuleId} (hid : id ≠ .backticks) (hflat : id.isFlat = true) {st : IState}
    {silent : Bool} {o : Option Nat} {st' : IState}
    (h : runRule cfg skip tok fuel id st silent = .ok (o, st')) : st'.backticks = st.backticks := by
  unfold runRule at h
  cases id with
  | text => exact ruleText_backticks (liftR_ok.mp h)
  | newline => exact ruleNewline_backticks (liftR_ok.mp h)
  | escape => exact ruleEscape_backticks (liftR_ok.mp h)
  | backticks => exact absurd rfl hid
  | emph mk csw => exact ruleEmph_backticks (liftR_ok.mp h)
  | link => simp [RuleId.isFlat] at hflat
  | image => simp [RuleId.isFlat] at hflat
  | linkEnd => simp only [Except.ok.injEq, Prod.mk.injEq] at h; rw [← h.2]
  | autolink => exact ruleAutolink_backticks (liftR_ok.mp h)
  | entity => exact ruleEntity_backticks (liftR_ok.mp h)


/-! ## the walk -/

/-- what look-ahead code that calls `skip_token` at positions `≥ p` inside one frame carries along;
    `skip'` is a second callee that is only compared -/
structure LookKit (skip skip' : IState → Except Panic IState) (p : Nat) where
  /-- kept from call to call -/
  I : IState → Prop
  /-- holds of the states from which `skip_token` is called -/
  A : IState → Prop
  /-- the positions at which the code-span rule may run -/
  E : Nat → Prop
  /-- `I` reads `src`, `posMax`, `cache`, `backticks` only -/
  of_eq : ∀ {s s'}, I s → s'.src = s.src → s'.posMax = s.posMax → s'.cache = s.cache →
    s'.backticks = s.backticks → I s'
  /-- one call -/
  call : ∀ s, LInv s → s.pos < s.posMax → I s → A s →
    skip s = skip' s ∧ ∀ s', skip s = .ok s' → I s' ∧ (s'.pos < s'.posMax → A s')
  /-- label walks start behind a `[` -/
  bracket : ∀ {st start r}, I st → p ≤ start + 1 → slice st.src start st.posMax = .ok ('[' :: r) →
    A { st with pos := start + 1 }
  /-- the code-span rule, the one flat rule that touches the code-span cache -/
  back : ∀ {st silent o st'}, I st → E st.pos → ruleBackticks st silent = .ok (o, st') → I st'

namespace LookKit
variable {skip skip' : IState → Except Panic IState} {p : Nat} (K : LookKit skip skip' p)

/-- two kits over the same callees, side by side -/
def and (K' : LookKit skip skip' p) : LookKit skip skip' p where
  I := fun s => K.I s ∧ K'.I s
  A := fun s => K.A s ∧ K'.A s
  E := fun q => K.E q ∧ K'.E q
  of_eq := fun h a b c d => ⟨K.of_eq h.1 a b c d, K'.of_eq h.2 a b c d⟩
  call := fun s hi hlt hI hA =>
    ⟨(K.call s hi hlt hI.1 hA.1).1, fun s' hs' =>
      ⟨⟨((K.call s hi hlt hI.1 hA.1).2 s' hs').1, ((K'.call s hi hlt hI.2 hA.2).2 s' hs').1⟩,
       fun h => ⟨((K.call s hi hlt hI.1 hA.1).2 s' hs').2 h, ((K'.call s hi hlt hI.2 hA.2).2 s' hs').2 h⟩⟩⟩
  bracket := fun h hp hr => ⟨K.bracket h.1 hp hr, K'.bracket h.2 hp hr⟩
  back := fun h hE hr => ⟨K.back h.1 hE.1 hr, K'.back h.2 hE.2 hr⟩

/-! ### `parse_link_label`, `parse_link` -/

theorem labelLoop_look (hq : CalmFn skip) (hs : SkipHypT skip) (en : Bool) :
    ∀ (n : Nat) (level : Int) (st : IState), LInv st → K.I st → (st.pos < st.posMax → K.A st) →
      labelLoop skip en n level st = labelLoop skip' en n level st ∧
      ∀ res st', labelLoop skip en n level st = .ok (res, st') → K.I st' := by
  intro n
  induction n with
  | zero => intro level st _ _ _; exact ⟨rfl, by intro res st' h; simp [labelLoop] at h⟩
  | succ n ih =>
    intro level st hi hI hA
    obtain ⟨w, hw, hsl, hlen⟩ := hi.window
    cases w with
    | nil =>
      rw [labelLoop_nil hw, labelLoop_nil hw]
      exact ⟨rfl, by intro res st' h; cases h; exact hI⟩
    | cons ch rest =>
      have hlt : st.pos < st.posMax := by
        have := Char.utf8Size_pos ch
        simp only [byteLen] at hlen; omega
      rw [labelLoop_cons hw, labelLoop_cons hw]
      by_cases h1 : ch = ']' ∧ level - 1 = 0
      · rw [if_pos h1, if_pos h1]
        exact ⟨rfl, by intro res st' h; cases h; exact hI⟩
      · rw [if_neg h1, if_neg h1]
        obtain ⟨heq, hnext⟩ := K.call st hi hlt hI (hA hlt)
        rw [← heq]
        cases hst1 : skip st with
        | error e => exact ⟨rfl, by intro res st' h; cases h⟩
        | ok st1 =>
          simp only
          obtain ⟨hm1, hp1, hle1, hb1⟩ := (hs st hi hlt).ok st1 hst1
          obtain ⟨hI1, hA1⟩ := hnext st1 hst1
          have hrec := fun level' => ih level' st1 (hi.step (hq st st1 hst1) hm1 hle1 hb1) hI1 hA1
          refine ⟨labelAfter_congr (fun l => (hrec l).1), ?_⟩
          intro res st' h
          rcases labelAfter_cases en ch level st.pos st1 (labelLoop skip en n) with e | e | ⟨l, e⟩
          · rw [e] at h; cases h
          · rw [e] at h; cases h; exact hI1
          · rw [e] at h; exact (hrec l).2 res st' h

/-- `parse_link_label` from a `[` at `start` -/
theorem parseLinkLabel_look (hq : CalmFn skip) (hs : SkipHypT skip) (en : Bool) (fuel : Nat)
    (st : IState) (start : Nat) (hi : LInv st) (hb : Boundary st.src (start + 1))
    (hle : start + 1 ≤ st.posMax) (hI : K.I st) (hA : K.A { st with pos := start + 1 }) :
    parseLinkLabel skip fuel st start en = parseLinkLabel skip' fuel st start en ∧
    ∀ o st', parseLinkLabel skip fuel st start en = .ok (o, st') → K.I st' := by
  have hl := K.labelLoop_look hq hs en fuel 1 { st with pos := start + 1 }
    ⟨hle, hb, hi.bmax, hi.wf, hi.stop, hi.memo⟩ (K.of_eq hI rfl rfl rfl rfl) (fun _ => hA)
  unfold parseLinkLabel
  simp only
  rw [← hl.1]
  refine ⟨rfl, ?_⟩
  intro o st'
  split
  · intro h; cases h
  · next st1 hll => intro h; cases h; exact K.of_eq (hl.2 _ st1 hll) rfl rfl rfl rfl
  · next found st1 hll => intro h; cases h; exact K.of_eq (hl.2 _ st1 hll) rfl rfl rfl rfl

theorem parseLinkRef_look {cfg : Cfg} (hq : CalmFn skip) (hs : SkipHypT skip) (fuel : Nat) (st : IState)
    (labelStart labelEnd : Nat) (hi : LInv st) (hp : p ≤ labelEnd + 1 + 1) (hI : K.I st) :
    parseLinkRef cfg skip fuel st labelStart labelEnd =
      parseLinkRef cfg skip' fuel st labelStart labelEnd ∧
    ∀ o st', parseLinkRef cfg skip fuel st labelStart labelEnd = .ok (o, st') → K.I st' := by
  have hlab : ∀ r, slice st.src (labelEnd + 1) st.posMax = .ok ('[' :: r) →
      parseLinkLabel skip fuel st (labelEnd + 1) false = parseLinkLabel skip' fuel st (labelEnd + 1) false ∧
      ∀ o st', parseLinkLabel skip fuel st (labelEnd + 1) false = .ok (o, st') → K.I st' := by
    intro r hr
    obtain ⟨hb, hle⟩ := after_first (st := { st with pos := labelEnd + 1 }) (by decide) hr
    exact K.parseLinkLabel_look hq hs false fuel st (labelEnd + 1) hi hb hle hI (K.bracket hI hp hr)
  refine ⟨parseLinkRef_callback fun r hr => (hlab r hr).1, fun o st' h => ?_⟩
  rcases parseLinkRef_from h with rfl | ⟨r, x, hr, hx⟩
  · exact hI
  · exact (hlab r hr).2 _ _ hx

theorem parseLink_look {cfg : Cfg} (hq : CalmFn skip) (hs : SkipHypT skip) (fuel : Nat) (st : IState)
    (pos : Nat) (en : Bool) (hi : LInv st) (hb : Boundary st.src (pos + 1)) (hle : pos + 1 ≤ st.posMax)
    (hp : p ≤ pos + 1) (hI : K.I st) (hA : K.A { st with pos := pos + 1 }) :
    parseLink cfg skip fuel st pos en = parseLink cfg skip' fuel st pos en ∧
    ∀ o st', parseLink cfg skip fuel st pos en = .ok (o, st') → K.I st' := by
  have hlabT := parseLinkLabel_T hq hs en fuel st pos hi hb hle
  have hlab := K.parseLinkLabel_look hq hs en fuel st pos hi hb hle hI hA
  unfold parseLink
  rw [← hlab.1]
  cases hpl : parseLinkLabel skip fuel st pos en with
  | error e => exact ⟨rfl, by intro o st' h; simp at h⟩
  | ok q =>
    obtain ⟨o1, st1⟩ := q
    have hn1 := hlab.2 _ _ hpl
    obtain ⟨hi1, _, _, hx⟩ := hlabT.2 _ _ hpl
    cases o1 with
    | none =>
      simp only
      exact ⟨trivial, by intro o st' h; cases h; exact hn1⟩
    | some labelEnd =>
      simp only
      have href := K.parseLinkRef_look (cfg := cfg) hq hs fuel st1 (pos + 1) labelEnd hi1
        (by have := (hx labelEnd rfl).1; omega) hn1
      generalize Link.parseInlineTail _ _ _ _ = r
      cases r with
      | error e => exact ⟨rfl, by intro o st' h; simp at h⟩
      | ok oi =>
        cases oi with
        | some il =>
          simp only
          exact ⟨trivial, by intro o st' h; cases h; exact hn1⟩
        | none =>
          simp only
          exact href

/-! ### the link rule, one rule, the chain — look-ahead mode -/

/-- silent mode never calls `tokenize`: the two sides may even differ in it -/
theorem linkRule_silent_look {cfg : Cfg} {tok tok' : IState → Except Panic IState}
    (hq : CalmFn skip) (hs : SkipHypT skip) (fuel : Nat)
    (mk : List Nat → Option (List Char) → Val) (en : Bool) (offset : Nat) (st : IState)
    (hi : LInv st) (hb : Boundary st.src (st.pos + offset + 1))
    (hle : st.pos + offset + 1 ≤ st.posMax) (hp : p ≤ st.pos + offset + 1) (hI : K.I st)
    (hA : K.A { st with pos := st.pos + offset + 1 }) :
    linkRule cfg skip tok fuel mk en offset st true = linkRule cfg skip' tok' fuel mk en offset st true ∧
    ∀ o st', linkRule cfg skip tok fuel mk en offset st true = .ok (o, st') → K.I st' := by
  obtain ⟨heq, hn⟩ := K.parseLink_look (cfg := cfg) hq hs fuel st (st.pos + offset) en hi hb hle hp hI hA
  cases hpl : parseLink cfg skip fuel st (st.pos + offset) en with
  | error e =>
    rw [linkRule_error hpl, linkRule_error (heq ▸ hpl)]
    exact ⟨rfl, by intro o st' h; cases h⟩
  | ok q =>
    obtain ⟨_ | res, st1⟩ := q
    · rw [linkRule_none hpl, linkRule_none (heq ▸ hpl)]
      exact ⟨rfl, by intro o st' h; cases h; exact hn _ _ hpl⟩
    · rw [linkRule_silent hpl, linkRule_silent (heq ▸ hpl)]
      exact ⟨rfl, by intro o st' h; split at h <;> cases h; exact hn _ _ hpl⟩

theorem runRule_silent_look {cfg : Cfg} {tok tok' : IState → Except Panic IState}
    (hq : CalmFn skip) (hs : SkipHypT skip) (fuel : Nat) (id : RuleId) (st : IState) (hi : LInv st)
    (hlt : st.pos < st.posMax) (hp : p ≤ st.pos + 1) (hI : K.I st) (hE : K.E st.pos) :
    runRule cfg skip tok fuel id st true = runRule cfg skip' tok' fuel id st true ∧
    ∀ o st', runRule cfg skip tok fuel id st true = .ok (o, st') → K.I st' := by
  have hdecl : ∀ o st', (Except.ok (none, st) : RuleRes) = .ok (o, st') → K.I st' := by
    intro o st' h; cases h; exact hI
  by_cases hflat : id.isFlat = true
  · constructor
    · unfold runRule
      cases id with
      | link => simp [RuleId.isFlat] at hflat
      | image => simp [RuleId.isFlat] at hflat
      | _ => rfl
    · intro o st' h
      by_cases hid : id = .backticks
      · subst hid
        unfold runRule at h
        exact K.back hI hE (liftR_ok.mp h)
      · have hc := ((runRule_silent_T (cfg := cfg) (tok := tok) hq hs fuel id st hi hlt).ok o st' h).2.1
        exact K.of_eq hI hc.src hc.posMax (runRule_flat_cache hflat h)
          (runRule_backticks_unchanged hid hflat h)
  · obtain ⟨w, hw, hsl, hlen⟩ := hi.window
    cases id with
    | link =>
      unfold runRule
      simp only
      cases w with
      | nil => simp only [byteLen] at hlen; omega
      | cons c rest =>
        by_cases hcb : c = '['
        · subst hcb
          rw [ruleLink_eq hw, ruleLink_eq hw]
          obtain ⟨hb, hle⟩ := after_first (by decide) hsl
          exact K.linkRule_silent_look hq hs fuel Val.link false 0 st hi hb hle (by omega) hI
            (K.bracket hI (by omega) hsl)
        · have e : ∀ sk tk, ruleLink cfg sk tk fuel st true = .ok (none, st) := by
            intro sk tk; simp [ruleLink, hw, liftR, hcb]
          rw [e, e]
          exact ⟨rfl, hdecl⟩
    | image =>
      unfold runRule
      simp only
      by_cases him : ∃ r, w = '!' :: '[' :: r
      · obtain ⟨r, rfl⟩ := him
        rw [ruleImage_eq hw, ruleImage_eq hw]
        obtain ⟨hb, hle⟩ := after_second (by decide) (by decide) hsl
        exact K.linkRule_silent_look hq hs fuel Val.image true 1 st hi hb hle (by omega) hI
          (K.bracket hI (by omega) (slice_tail_of_cons (by decide) hsl))
      · have e : ∀ sk tk, ruleImage cfg sk tk fuel st true = .ok (none, st) := by
          intro sk tk
          unfold ruleImage
          rw [hw]
          simp only [liftR]
          split
          · next heq => cases heq
          · next r heq => cases heq; exact absurd ⟨r, rfl⟩ him
          · rfl
        rw [e, e]
        exact ⟨rfl, hdecl⟩
    | _ => simp [RuleId.isFlat] at hflat

end LookKit

/-- a rule between `level += 1` / `level -= 1`, for a property that does not read `level` -/
theorem silentBumped_look {run run' : IState → Bool → RuleRes} {I : IState → Prop}
    (hlev : ∀ s l, I s → I { s with level := l }) {st : IState}
    (h : run { st with level := st.level + 1 } true = run' { st with level := st.level + 1 } true ∧
      ∀ o s', run { st with level := st.level + 1 } true = .ok (o, s') → I s') :
    silentBumped run st = silentBumped run' st ∧
    ∀ o st', silentBumped run st = .ok (o, st') → I st' := by
  obtain ⟨h1, h2⟩ := h
  unfold silentBumped
  rw [← h1]
  cases hr : run { st with level := st.level + 1 } true with
  | error e => exact ⟨rfl, by intro o st' h; cases h⟩
  | ok q =>
    obtain ⟨r, st1⟩ := q
    refine ⟨rfl, ?_⟩
    intro o st'
    simp only
    split
    · intro h; cases h
    · intro h; cases h; exact hlev _ _ (h2 r st1 hr)

/-- the chain in look-ahead mode: a rule that declines leaves `pos` and the frame where they were -/
theorem firstRule_silent_look {run run' : RuleId → IState → RuleRes} {I : IState → Prop} {p0 : Nat}
    (hT : ∀ id s, LInv s → s.pos < s.posMax → SilT s (run id s))
    (hrun : ∀ id s, LInv s → s.pos < s.posMax → s.pos = p0 → I s →
      run id s = run' id s ∧ ∀ o s', run id s = .ok (o, s') → I s') :
    ∀ (rules : List RuleId) (st : IState), LInv st → st.pos < st.posMax → st.pos = p0 → I st →
      firstRule run rules st = firstRule run' rules st ∧
      ∀ o st', firstRule run rules st = .ok (o, st') → I st' := by
  intro rules
  induction rules with
  | nil => intro st _ _ _ hI; exact ⟨rfl, by intro o st' h; cases h; exact hI⟩
  | cons r rs ih =>
    intro st hi hlt hp hI
    obtain ⟨e1, n1⟩ := hrun r st hi hlt hp hI
    unfold firstRule
    rw [← e1]
    cases hr : run r st with
    | error e => exact ⟨rfl, by intro o st' h; cases h⟩
    | ok q =>
      obtain ⟨_ | n, st1⟩ := q
      · obtain ⟨a, b, c, _⟩ := (hT r st hi hlt).ok _ _ hr
        exact ih st1 a (by rw [c, b.posMax]; exact hlt) (c.trans hp) (n1 _ _ hr)
      · exact ⟨rfl, by intro o st' h; cases h; exact n1 _ _ hr⟩

/-- one run of the chain in look-ahead mode inside `skip_token`: the walk up to a state `st1`, then the
    entry for the position it started from -/
theorem LookKit.skipStep_look {skip skip' : IState → Except Panic IState} {p : Nat}
    (K : LookKit skip skip' p) {cfg : Cfg} {tok tok' : IState → Except Panic IState}
    (hq : CalmFn skip) (hs : SkipHypT skip) (fuel : Nat) (st : IState)
    (hi : LInv st) (hlt : st.pos < st.posMax) (hp : p ≤ st.pos + 1) (hI : K.I st) (hE : K.E st.pos) :
    skipStep cfg skip tok fuel st = skipStep cfg skip' tok' fuel st ∧
    ∀ st', skipStep cfg skip tok fuel st = .ok st' →
      st'.pos ≤ st.posMax ∧ ∃ st1, K.I st1 ∧ st'.src = st1.src ∧ st'.posMax = st1.posMax ∧
        st'.backticks = st1.backticks ∧ st'.cache = cacheInsert st1.cache st.pos st'.pos := by
  have hT : ∀ id s, LInv s → s.pos < s.posMax →
      SilT s (silentBumped (runRule cfg skip tok fuel id) s) := by
    intro id s his hls
    apply silentBumped_T
    exact runRule_silent_T hq hs fuel id _ ⟨his.le, his.bpos, his.bmax, his.wf, his.stop, his.memo⟩ hls
  obtain ⟨e1, n1⟩ := firstRule_silent_look (I := K.I) (p0 := st.pos)
    (run := fun id s => silentBumped (runRule cfg skip tok fuel id) s)
    (run' := fun id s => silentBumped (runRule cfg skip' tok' fuel id) s) hT
    (by
      intro id s his hls hps hIs
      apply silentBumped_look (fun s l h => K.of_eq h rfl rfl rfl rfl)
      exact K.runRule_silent_look hq hs fuel id _
        ⟨his.le, his.bpos, his.bmax, his.wf, his.stop, his.memo⟩ hls (by simp only; omega)
        (K.of_eq hIs rfl rfl rfl rfl) (by simp only; rw [hps]; exact hE))
    cfg.chain st hi hlt rfl hI
  refine ⟨by unfold skipStep; simp only; rw [← e1], fun st' h => ?_⟩
  refine ⟨((skipStep_T (cfg := cfg) (tok := tok) hq hs fuel st hi hlt).ok st' h).2.2.1, ?_⟩
  unfold skipStep at h
  simp only at h
  split at h
  · cases h
  · next len st1 hfr1 => cases h; exact ⟨st1, n1 _ _ hfr1, rfl, rfl, rfl, rfl⟩
  · next st1 hfr1 =>
    split at h
    · cases h
    · cases h; exact ⟨st1, n1 _ _ hfr1, rfl, rfl, rfl, rfl⟩

/-! ## the two memo contracts as kits -/

/-- the frame `[lo, M)` stays closed, and every entry added since the memo `c0` ends `≤ M` -/
def LookKit.ofNew {skip skip' : IState → Except Panic IState} (hq : CalmFn skip) (hs : SkipHypT skip)
    (he : SkipEqHyp skip skip') (lo M : Nat) (c0 : List (Nat × Nat)) : LookKit skip skip' lo where
  I := fun s => s.posMax = M ∧ Closed s.cache lo M ∧ New M c0 s.cache
  A := fun s => lo ≤ s.pos
  E := fun _ => True
  of_eq := fun h _ b c _ => ⟨b.trans h.1, by rw [c]; exact h.2.1, by rw [c]; exact h.2.2⟩
  call := fun s hi hlt hI hA => by
    obtain ⟨heq, hG⟩ := he s lo hi hlt (by rw [hI.1]; exact hI.2.1) hA
    refine ⟨heq, fun s' hs' => ?_⟩
    have hg := hG s' hs'
    rw [hI.1] at hg
    have := ((hs s hi hlt).ok s' hs').2.1
    exact ⟨⟨(hq s s' hs').posMax.trans hI.1, hI.2.1.of_new hg, hI.2.2.trans hg⟩, fun _ => by omega⟩
  bracket := fun _ hp _ => hp
  back := fun h _ hr =>
    have hs := ruleBackticks_simple hr
    ⟨hs.frame.posMax.trans h.1, by rw [hs.cache]; exact h.2.1, by rw [hs.cache]; exact h.2.2⟩

/-- since the memo `c0` the memo only grew, above `p`, inside the frame that ends at `M` -/
def LookKit.ofGrow {skip : IState → Except Panic IState} (hq : CalmFn skip) (hs : SkipHypT skip)
    (hg : SkipGrowHyp skip) (p M : Nat) (c0 : List (Nat × Nat)) : LookKit skip skip p where
  I := fun s => s.posMax = M ∧ Grow p M c0 s.cache
  A := fun s => p ≤ s.pos
  E := fun _ => True
  of_eq := fun h _ b c _ => ⟨b.trans h.1, by rw [c]; exact h.2⟩
  call := fun s hi hlt hI hA => by
    refine ⟨rfl, fun s' hs' => ?_⟩
    have hgr := (hg s hi hlt s' hs').1
    rw [hI.1] at hgr
    have := ((hs s hi hlt).ok s' hs').2.1
    exact ⟨⟨(hq s s' hs').posMax.trans hI.1, hI.2.trans (hgr.mono_lo hA)⟩, fun _ => by omega⟩
  bracket := fun _ hp _ => hp
  back := fun h _ hr =>
    have hs := ruleBackticks_simple hr
    ⟨hs.frame.posMax.trans h.1, by rw [hs.cache]; exact h.2⟩

/-! ## closed frames: the guarded `skip_token` against the model's -/

theorem parseLink_eq {cfg : Cfg} {skip skip' : IState → Except Panic IState} (hq : CalmFn skip)
    (hs : SkipHypT skip) (he : SkipEqHyp skip skip') (fuel : Nat) (st : IState) (pos lo : Nat)
    (en : Bool) (hi : LInv st) (hb : Boundary st.src (pos + 1)) (hle : pos + 1 ≤ st.posMax)
    (hc : Closed st.cache lo st.posMax) (hlo : lo ≤ pos + 1) :
    parseLink cfg skip fuel st pos en = parseLink cfg skip' fuel st pos en ∧
    ∀ o st', parseLink cfg skip fuel st pos en = .ok (o, st') →
      New st.posMax st.cache st'.cache :=
  let h := (LookKit.ofNew hq hs he lo st.posMax st.cache).parseLink_look (cfg := cfg) hq hs fuel st pos
    en hi hb hle hlo ⟨rfl, hc, New.refl _ _⟩ hlo
  ⟨h.1, fun o st' hr => (h.2 o st' hr).2.2⟩

theorem skipStep_eq {cfg : Cfg} {skip skip' tok tok' : IState → Except Panic IState}
    (hq : CalmFn skip) (hs : SkipHypT skip) (he : SkipEqHyp skip skip') (fuel : Nat) (st : IState)
    (lo : Nat) (hi : LInv st) (hlt : st.pos < st.posMax) (hc : Closed st.cache lo st.posMax)
    (hlo : lo ≤ st.pos) :
    skipStep cfg skip tok fuel st = skipStep cfg skip' tok' fuel st ∧
    ∀ st', skipStep cfg skip tok fuel st = .ok st' → New st.posMax st.cache st'.cache := by
  obtain ⟨e, n⟩ := (LookKit.ofNew hq hs he lo st.posMax st.cache).skipStep_look (cfg := cfg) (tok := tok)
    (tok' := tok') hq hs fuel st hi hlt (by omega) ⟨rfl, hc, New.refl _ _⟩ trivial
  refine ⟨e, fun st' h => ?_⟩
  obtain ⟨hle, st1, hI, _, _, _, hc1⟩ := n st' h
  rw [hc1]
  exact New.insert hI.2.2 hle

/-- look-ahead never reaches the nested `tokenize`: on the closed states of a frame the guarded
    `skip_token` is the unguarded `skip_token` of the engine (`Lemmas/InlineEngine.lean`), whatever stands
    between its rules and `tokenize` -/
theorem skip_guard_free_any (cfg : Cfg)
    (enter : (IState → Except Panic IState) → IState → Except Panic IState) : ∀ fuel : Nat,
    SkipEqHyp (fun s => skipTokenG cfg true fuel s)
      (fun s => (Eng.base cfg enter).skipToken false fuel s) := by
  intro fuel
  induction fuel with
  | zero =>
    intro s lo _ _ _ _
    exact ⟨by simp only [skipTokenG, Eng.skipToken], by intro s' h; simp [skipTokenG] at h⟩
  | succ f ih =>
    intro s lo hi hlt hc hlo
    simp only [Eng.skipToken_succ]
    rw [skipTokenG]
    cases hx : s.cache.lookup s.pos with
    | some x =>
      have hxle : x ≤ s.posMax := closed_hit hc hlo hlt hx
      simp only
      rw [if_neg (by simp only [true_and, Nat.not_lt]; exact hxle), if_neg (by simp)]
      exact ⟨rfl, by intro s' h; cases h; exact New.refl _ _⟩
    | none =>
      simp only
      by_cases hl : s.level < cfg.maxNesting
      · rw [if_pos hl, if_pos (by simpa [Eng.base] using hl)]
        simp only [Eng.runAt, Eng.base]
        rw [← skipStep_eq_G]
        exact skipStep_eq (skipTokenG_calm cfg true f) (skipTokenG_T cfg f) ih f s lo hi hlt hc hlo
      · rw [if_neg hl, if_neg (by simpa [Eng.base] using hl)]
        exact ⟨rfl, by intro s' h; cases h; exact (New.refl _ _).insert (Nat.le_refl _)⟩

/-- **inside a closed frame the guard is never taken**: from a state whose memo is closed on
    `[lo, posMax)` and whose position lies in that range, the guarded `skip_token` IS the model's
    `skip_token` (same value, same error), and it only adds memo entries that end inside the frame -/
theorem skip_guard_free (cfg : Cfg) : ∀ fuel : Nat,
    SkipEqHyp (fun s => skipTokenG cfg true fuel s) (fun s => skipToken cfg fuel s) := fun fuel => by
  simpa only [(engM cfg fuel).2] using skip_guard_free_any cfg id fuel

/-! ## corollaries for the real-mode caller -/

/-- `parse_link` as the link rule calls it in REAL mode: over the guarded `skip_token` it is
    `parse_link` over the model's, provided the memo is closed from the label on -/
theorem parseLink_guard_free (cfg : Cfg) (f fuel : Nat) (st : IState) (pos lo : Nat) (en : Bool)
    (hi : LInv st) (hb : Boundary st.src (pos + 1)) (hle : pos + 1 ≤ st.posMax)
    (hc : Closed st.cache lo st.posMax) (hlo : lo ≤ pos + 1) :
    parseLink cfg (fun s => skipTokenG cfg true f s) fuel st pos en =
      parseLink cfg (fun s => skipToken cfg f s) fuel st pos en ∧
    ∀ o st', parseLink cfg (fun s => skipTokenG cfg true f s) fuel st pos en = .ok (o, st') →
      New st.posMax st.cache st'.cache :=
  parseLink_eq (skipTokenG_calm cfg true f) (skipTokenG_T cfg f) (skip_guard_free cfg f) fuel st pos lo
    en hi hb hle hc hlo

/-- the whole `skip_token` step (one chain run in look-ahead mode) at a fuel -/
theorem skipStep_guard_free (cfg : Cfg) (f fuel : Nat) (st : IState) (lo : Nat) (hi : LInv st)
    (hlt : st.pos < st.posMax) (hc : Closed st.cache lo st.posMax) (hlo : lo ≤ st.pos) :
    skipStep cfg (fun s => skipTokenG cfg true f s) (fun s => tokLoopG cfg true f s.posMax s) fuel st =
      skipStep cfg (fun s => skipToken cfg f s) (fun s => tokLoop cfg f s.posMax s) fuel st ∧
    ∀ st', skipStep cfg (fun s => skipTokenG cfg true f s) (fun s => tokLoopG cfg true f s.posMax s)
        fuel st = .ok st' → New st.posMax st.cache st'.cache :=
  skipStep_eq (skipTokenG_calm cfg true f) (skipTokenG_T cfg f) (skip_guard_free cfg f) fuel st lo hi
    hlt hc hlo

/-! ## the memo only GROWS, above the position the look-ahead started from -/

theorem parseLinkRef_grow {cfg : Cfg} {skip : IState → Except Panic IState} (hq : CalmFn skip)
    (hs : SkipHypT skip) (hg : SkipGrowHyp skip) (fuel : Nat) (st : IState)
    (labelStart labelEnd : Nat) (hi : LInv st) :
    ∀ o st', parseLinkRef cfg skip fuel st labelStart labelEnd = .ok (o, st') →
      Grow (labelEnd + 1 + 1) st.posMax st.cache st'.cache :=
  fun o st' h => (((LookKit.ofGrow hq hs hg (labelEnd + 1 + 1) st.posMax st.cache).parseLinkRef_look
    (cfg := cfg) hq hs fuel st labelStart labelEnd hi (Nat.le_refl _) ⟨rfl, Grow.refl _ _ _⟩).2 o st' h).2

theorem runRule_silent_grow {cfg : Cfg} {skip tok : IState → Except Panic IState}
    (hq : CalmFn skip) (hs : SkipHypT skip) (hg : SkipGrowHyp skip) (fuel : Nat) (id : RuleId)
    (st : IState) (hi : LInv st) (hlt : st.pos < st.posMax) :
    ∀ o st', runRule cfg skip tok fuel id st true = .ok (o, st') →
      Grow (st.pos + 1) st.posMax st.cache st'.cache :=
  fun o st' h => (((LookKit.ofGrow hq hs hg (st.pos + 1) st.posMax st.cache).runRule_silent_look
    (cfg := cfg) (tok := tok) (tok' := tok) hq hs fuel id st hi hlt (Nat.le_refl _)
    ⟨rfl, Grow.refl _ _ _⟩ trivial).2 o st' h).2

theorem silentBumped_grow {run : IState → Bool → RuleRes} {st : IState} {p : Nat}
    (h : ∀ o st', run { st with level := st.level + 1 } true = .ok (o, st') →
      Grow p st.posMax st.cache st'.cache) :
    ∀ o st', silentBumped run st = .ok (o, st') → Grow p st.posMax st.cache st'.cache :=
  (silentBumped_look (run' := run) (I := fun s => Grow p st.posMax st.cache s.cache)
    (fun _ _ h => h) ⟨rfl, h⟩).2

theorem firstRule_silent_grow {run : RuleId → IState → RuleRes}
    (hT : ∀ id s, LInv s → s.pos < s.posMax → SilT s (run id s))
    (hrun : ∀ id s, LInv s → s.pos < s.posMax → ∀ o s', run id s = .ok (o, s') →
      Grow (s.pos + 1) s.posMax s.cache s'.cache) :
    ∀ (rules : List RuleId) (st : IState), LInv st → st.pos < st.posMax →
      ∀ o st', firstRule run rules st = .ok (o, st') →
        Grow (st.pos + 1) st.posMax st.cache st'.cache :=
  fun rules st hi hlt o st' h =>
    ((firstRule_silent_look (run' := run) (p0 := st.pos)
      (I := fun s => s.posMax = st.posMax ∧ Grow (st.pos + 1) st.posMax st.cache s.cache) hT
      (fun id s his hls hp hI => ⟨rfl, fun o s' hr => by
        have hg := hrun id s his hls o s' hr
        rw [hp, hI.1] at hg
        exact ⟨((hT id s his hls).ok o s' hr).2.1.posMax.trans hI.1, hI.2.trans hg⟩⟩)
      rules st hi hlt rfl ⟨rfl, Grow.refl _ _ _⟩).2 o st' h).2

/-- one run of the chain in look-ahead mode inside `skip_token`, behind a failed `lookup` -/
theorem skipStep_grow {cfg : Cfg} {skip tok : IState → Except Panic IState}
    (hq : CalmFn skip) (hs : SkipHypT skip) (hg : SkipGrowHyp skip) (fuel : Nat) (st : IState)
    (hi : LInv st) (hlt : st.pos < st.posMax) (hmiss : st.cache.lookup st.pos = none) :
    ∀ st', skipStep cfg skip tok fuel st = .ok st' →
      Grow st.pos st.posMax st.cache st'.cache ∧ st'.cache.lookup st.pos = some st'.pos := by
  intro st' h
  obtain ⟨hle, st1, hI, _, _, _, hc1⟩ := ((LookKit.ofGrow hq hs hg (st.pos + 1) st.posMax
    st.cache).skipStep_look (cfg := cfg) (tok := tok) (tok' := tok) hq hs fuel st hi hlt (Nat.le_refl _)
    ⟨rfl, Grow.refl _ _ _⟩ trivial).2 st' h
  rw [hc1]
  exact ⟨hI.2.insert hle hmiss, lookup_cacheInsert_self _ _ _⟩

/-- **the guarded `skip_token` only grows the memo**, at or above its position and inside its frame,
    and its own jump is in the memo afterwards -/
theorem skip_grow (cfg : Cfg) : ∀ fuel : Nat, SkipGrowHyp (fun s => skipTokenG cfg true fuel s) := by
  intro fuel
  induction fuel with
  | zero => intro s _ _ s' h; simp [skipTokenG] at h
  | succ f ih =>
    intro s hi hlt s' h
    simp only at h
    unfold skipTokenG at h
    split at h
    · next x hx =>
      split at h
      · simp at h
      · simp only [Except.ok.injEq] at h; subst h
        exact ⟨Grow.refl _ _ _, hx⟩
    · next hmiss =>
      split at h
      · exact skipStep_grow (skipTokenG_calm cfg true f) (skipTokenG_T cfg f) ih f s hi hlt hmiss s' h
      · simp only [Except.ok.injEq] at h; subst h
        exact ⟨(Grow.refl (s.pos + 1) _ _).insert (Nat.le_refl _) hmiss, lookup_cacheInsert_self _ _ _⟩


/-- `parse_link` over the guarded `skip_token` at a fuel only grows the memo, from the label on -/
theorem parseLink_guard_grow (cfg : Cfg) (f fuel : Nat) (st : IState) (pos : Nat) (en : Bool)
    (hi : LInv st) (hb : Boundary st.src (pos + 1)) (hle : pos + 1 ≤ st.posMax) :
    ∀ o st', parseLink cfg (fun s => skipTokenG cfg true f s) fuel st pos en = .ok (o, st') →
      Grow (pos + 1) st.posMax st.cache st'.cache :=
  fun o st' h => (((LookKit.ofGrow (skipTokenG_calm cfg true f) (skipTokenG_T cfg f) (skip_grow cfg f)
    (pos + 1) st.posMax st.cache).parseLink_look (cfg := cfg) (skipTokenG_calm cfg true f)
    (skipTokenG_T cfg f) fuel st pos en hi hb hle (Nat.le_refl _) ⟨rfl, Grow.refl _ _ _⟩
    (Nat.le_refl _)).2 o st' h).2

/-! ## examples: the hypotheses are satisfiable, and `Closed` is necessary -/

/-- the `Closed` hypothesis is NECESSARY: one memo entry at the position that ends beyond `pos_max`
    separates the guarded `skip_token` from the model's, at every configuration -/
example (cfg : Cfg) (s : IState) (x : Nat) (hx : s.cache.lookup s.pos = some x)
    (hbig : s.posMax < x) :
    skipTokenG cfg true 1 s = .error .fuel ∧ skipToken cfg 1 s = .ok { s with pos := x } := by
  constructor
  · unfold skipTokenG; rw [hx]; simp [hbig]
  · unfold skipToken; rw [hx]

example : ¬ Closed [(0, 5)] 0 2 := by
  intro h; have := h 0 5 (by simp) (by omega) (by omega); omega

/-- the initial state of EVERY inline run (empty memo) meets the hypotheses of `skip_guard_free`
    with `lo = 0`; so does the state behind the first `skip_token` (non-empty memo, still closed):
    two consecutive guarded look-ahead steps from the start of a paragraph are the model's -/
example (cfg : Cfg) (fuel : Nat) {content : List Char} {mapping : Srcmap}
    (hm : MapOK content mapping)
    (hlt : (IState.init content mapping).pos < (IState.init content mapping).posMax) :
    skipTokenG cfg true fuel (IState.init content mapping) =
      skipToken cfg fuel (IState.init content mapping) ∧
    ∀ s1, skipTokenG cfg true fuel (IState.init content mapping) = .ok s1 → s1.pos < s1.posMax →
      skipTokenG cfg true fuel s1 = skipToken cfg fuel s1 := by
  obtain ⟨lo, _, hg⟩ := init_good hm
  have hmB : MemoB (IState.init content mapping) := by intro k v h; simp [IState.init] at h
  have hi := hg.linv hmB
  have hcl : Closed (IState.init content mapping).cache 0 (IState.init content mapping).posMax :=
    Closed.nil _ _
  obtain ⟨e0, n0⟩ := skip_guard_free cfg fuel _ 0 hi hlt hcl (Nat.zero_le _)
  refine ⟨e0, ?_⟩
  intro s1 h1 hlt1
  obtain ⟨hm1, _, hle1, hb1⟩ := (skipTokenG_T cfg fuel _ hi hlt).ok s1 h1
  have hc1 := skipTokenG_calm cfg true fuel _ s1 h1
  have hi1 : LInv s1 := hi.step hc1 hm1 hle1 hb1
  exact (skip_guard_free cfg fuel s1 0 hi1 hlt1
    (by rw [hc1.posMax]; exact hcl.of_new (n0 s1 h1)) (Nat.zero_le _)).1

/-- … and the memo entry of that first step is there (`skip_grow`) -/
example (cfg : Cfg) (fuel : Nat) {content : List Char} {mapping : Srcmap}
    (hm : MapOK content mapping)
    (hlt : (IState.init content mapping).pos < (IState.init content mapping).posMax) :
    ∀ s1, skipTokenG cfg true fuel (IState.init content mapping) = .ok s1 →
      s1.cache.lookup (IState.init content mapping).pos = some s1.pos := by
  obtain ⟨lo, _, hg⟩ := init_good hm
  have hmB : MemoB (IState.init content mapping) := by intro k v h; simp [IState.init] at h
  intro s1 h1
  exact (skip_grow cfg fuel _ (hg.linv hmB) hlt s1 h1).2

end MdIt.Inline
