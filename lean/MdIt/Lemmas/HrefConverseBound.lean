/-
  Attribute boundaries, on the
  attribute part `pattrsStr a` / `attrsStr a` of a tag piece as the serializer writes it:

    `parseAttrs_pattrsStr`, `parseAttrs_attrsStr`
        the tokenizer of `Lemmas/HrefConverseTok.lean`, reading the attribute part left to right,
        recovers exactly the attribute list (for `attrsStr`: names and values through `escape_html`)
    `attr_boundaries`
        by POSITION: every occurrence of ` name=` (blank, name, equals sign) in the attribute part
        either starts an attribute called `name` of the list — at the boundary between two
        attributes — or lies wholly between the quotes of ONE attribute's value
    `tag_piece_occurrence`
        the same inside a whole tag piece `<tag … >` / `<tag … />`: an occurrence can only lie in
        the attribute part
-/
import MdIt.Lemmas.HrefConverseTok
import MdIt.Lemmas.KernelEval

set_option autoImplicit false

namespace MdIt.HtmlTok
open MdIt.Render (Piece pattrsStr flattenP flatten Escaped escapeHtml escapeChar attrStr attrsStr
  escAttrs Event pattrsStr_escAttrs)

/-! ## 1. `parseAttrs` recovers the list -/

/-- **`parseAttrs_pattrsStr`.**  The attribute part as written (names non-empty and readable, values
    without `"` and U+0000) is read back, attribute by attribute, as exactly the list. -/
theorem parseAttrs_pattrsStr (a : List (List Char × List Char)) (h : ∀ nv ∈ a, AttrTok nv) :
    parseAttrs (pattrsStr a) = some a := by
  obtain ⟨st', hst', e2⟩ := run_attrs a h _ ⟨false, [], [], false⟩ (.inl rfl)
  have e3 := run_close_gt hst'
  have := run_trans e2 e3
  simp only [List.nil_append] at this
  unfold parseAttrs
  rw [this]

theorem escapeChar_ne_nil (c : Char) : escapeChar c ≠ [] := by
  unfold escapeChar
  repeat' split
  all_goals simp

theorem escapeHtml_ne_nil {n : List Char} (h : n ≠ []) : escapeHtml n ≠ [] := by
  cases n with
  | nil => exact absurd rfl h
  | cons c r =>
    simp only [escapeHtml, ne_eq, List.append_eq_nil_iff, not_and]
    intro hc; exact absurd hc (escapeChar_ne_nil c)

/-- a character of `escape_html s` is a character of `s` or a letter of the four entities -/
theorem escapeHtml_mem {s : List Char} {d : Char} (h : d ∈ escapeHtml s) :
    d ∈ s ∨ d ∈ ['&', 'a', 'm', 'p', ';', 'l', 't', 'g', 'q', 'u', 'o'] := by
  induction s with
  | nil => cases h
  | cons c r ih =>
    simp only [escapeHtml, List.mem_append] at h
    rcases h with h | h
    · rcases Render.escapeChar_cases c with ⟨-, e⟩ | ⟨-, e⟩ | ⟨-, e⟩ | ⟨-, e⟩ | ⟨-, e⟩ <;> rw [e] at h <;>
        simp only [List.mem_cons, List.not_mem_nil, or_false] at h ⊢ <;> grind
    · exact (ih h).imp_left (List.mem_cons_of_mem _)

theorem escapeHtml_nameTok {n : List Char} (h : NameTok n) : NameTok (escapeHtml n) := fun d hd =>
  (escapeHtml_mem hd).elim (h d) ((by decide : NameTok ['&', 'a', 'm', 'p', ';', 'l', 't', 'g', 'q', 'u', 'o']) d)

theorem escapeHtml_nul {v : List Char} (h : '\x00' ∉ v) : '\x00' ∉ escapeHtml v := fun hm =>
  (escapeHtml_mem hm).elim h (by decide)
theorem escapeHtml_valTok {v : List Char} (h : '\x00' ∉ v) : ValTok (escapeHtml v) := by
  intro c hc
  refine ⟨((Render.escapeHtml_escaped v).no_delim c hc).2.2, ?_⟩
  rintro rfl
  exact escapeHtml_nul h hc

/-- **`parseAttrs_attrsStr`.**  What `make_attrs` writes for ANY attribute list whose names are
    non-empty and free of white space, `/`, `>`, `=`, ASCII upper case and U+0000, and whose values
    are free of U+0000 — values are otherwise ARBITRARY: quotes, blanks, `href=`, `>` … — is read
    back by the tokenizer as exactly that list, names and values as `escape_html` wrote them. -/
theorem parseAttrs_attrsStr (attrs : List (List Char × List Char))
    (h : ∀ nv ∈ attrs, nv.1 ≠ [] ∧ NameTok nv.1 ∧ '\x00' ∉ nv.2) :
    parseAttrs (attrsStr attrs) = some (escAttrs attrs) := by
  rw [← pattrsStr_escAttrs]
  apply parseAttrs_pattrsStr
  intro nv hnv
  obtain ⟨nv0, h0, rfl⟩ := List.mem_map.mp hnv
  obtain ⟨h1, h2, h3⟩ := h nv0 h0
  exact ⟨escapeHtml_ne_nil h1, escapeHtml_nameTok h2, escapeHtml_valTok h3⟩

/-- the conditions on the names: with a blank, an `=`, an upper case letter in a NAME, or an empty NAME, the
    browser reads another list; a `>` is written `&gt;` and read back as written (the conclusion holds, for the
    escaped name).  The shipped names are literals. -/
example : parseAttrs (attrsStr [("x onclick".toList, "y".toList)]) =
    some [("x".toList, []), ("onclick".toList, "y".toList)] := by decide_lits
example : parseAttrs (attrsStr [("a=b".toList, "y".toList)]) =
    some [("a".toList, "b=\"y\"".toList)] := by decide +kernel
example : parseAttrs (attrsStr [("a>".toList, "y".toList)]) =
    some [("a&gt;".toList, "y".toList)] ∧ escAttrs [("a>".toList, "y".toList)] = [("a&gt;".toList, "y".toList)] := by
  decide +kernel
example : parseAttrs (attrsStr [("Href".toList, "y".toList)]) = some [("href".toList, "y".toList)] := by
  decide +kernel
example : parseAttrs (attrsStr [([], "y".toList)]) = some [("=\"y\"".toList, [])] := by decide +kernel
/-- … and a hostile VALUE changes nothing -/
example : parseAttrs (attrsStr [("title".toList, "x\" href=\"javascript:x\" y=\"".toList)]) =
    some [("title".toList, "x&quot; href=&quot;javascript:x&quot; y=&quot;".toList)] := by decide_lits

/-! ## 2. occurrences of ` name=` by position -/

/-- where an element of `a ++ b` lies -/
theorem split_mem {α : Type} {a b pre rest : List α} {c : α} (h : a ++ b = pre ++ c :: rest) :
    (∃ a2, a = pre ++ c :: a2 ∧ rest = a2 ++ b) ∨ (∃ b1, pre = a ++ b1 ∧ b = b1 ++ c :: rest) := by
  rcases List.append_eq_append_iff.mp h with ⟨a', h1, h2⟩ | ⟨c', h1, h2⟩
  · exact .inr ⟨a', h1, h2⟩
  · cases c' with
    | nil =>
      refine .inr ⟨[], by simpa using h1.symm, ?_⟩
      simpa using h2.symm
    | cons d c'' =>
      simp only [List.cons_append, List.cons.injEq] at h2
      obtain ⟨rfl, rfl⟩ := h2
      exact .inl ⟨c'', h1, rfl⟩

/-- a word without `q` that starts `a ++ q :: b` is a prefix of `a` -/
theorem prefix_of_not_mem {α : Type} {p post a b : List α} {q : α} (h : p ++ post = a ++ q :: b)
    (hq : q ∉ p) : ∃ a2, a = p ++ a2 ∧ post = a2 ++ q :: b := by
  rcases List.append_eq_append_iff.mp h.symm with ⟨a', h1, h2⟩ | ⟨c', h1, h2⟩
  · cases a' with
    | nil => exact ⟨[], by simpa using h1.symm, by simpa using h2.symm⟩
    | cons d a'' =>
      simp only [List.cons_append, List.cons.injEq] at h2
      exact absurd (by rw [h1, h2.1]; simp) hq
  · exact ⟨c', h1, h2⟩

theorem name_unique {α : Type} {n nm post rest : List α} {x : α} (h : n ++ x :: post = nm ++ x :: rest)
    (h1 : x ∉ n) (h2 : x ∉ nm) : n = nm ∧ post = rest := by
  obtain ⟨a2, e1, e2⟩ := prefix_of_not_mem h h1
  cases a2 with
  | nil => simp at e1 e2; exact ⟨e1.symm, e2⟩
  | cons y a2' =>
    simp only [List.cons_append, List.cons.injEq] at e2
    exact absurd (by rw [e1, ← e2.1]; simp) h2

/-- where a blank of ` name="value"` ++ `B` lies: it is the leading one, it is inside the value, or
    it is in `B` -/
theorem space_in_attr {nm v B pre rest : List Char} (hnm : ' ' ∉ nm)
    (h : (' ' :: (nm ++ ('=' :: '"' :: (v ++ ['"'])))) ++ B = pre ++ ' ' :: rest) :
    (pre = [] ∧ rest = nm ++ ('=' :: '"' :: (v ++ '"' :: B))) ∨
    (∃ v1 v2, v = v1 ++ ' ' :: v2 ∧ pre = ' ' :: (nm ++ ('=' :: '"' :: v1)) ∧ rest = v2 ++ '"' :: B) ∨
    (∃ b1, pre = (' ' :: (nm ++ ('=' :: '"' :: (v ++ ['"'])))) ++ b1 ∧ B = b1 ++ ' ' :: rest) := by
  have h' : [' '] ++ (nm ++ (['=', '"'] ++ (v ++ (['"'] ++ B)))) = pre ++ ' ' :: rest := by
    simpa using h
  rcases split_mem h' with ⟨a2, e1, e2⟩ | ⟨b1, e1, h1⟩
  · cases pre with
    | nil =>
      simp only [List.nil_append, List.cons.injEq, true_and] at e1
      subst e1
      exact .inl ⟨rfl, by simpa using e2⟩
    | cons d pre' => simp at e1
  rcases split_mem h1 with ⟨a2, e2, _⟩ | ⟨b2, e2, h2⟩
  · exact absurd (by rw [e2]; simp) hnm
  rcases split_mem h2 with ⟨a2, e3, _⟩ | ⟨b3, e3, h3⟩
  · exfalso
    rcases b2 with _ | ⟨x, _ | ⟨y, b2⟩⟩ <;> simp at e3
  rcases split_mem h3 with ⟨a2, e4, r4⟩ | ⟨b4, e4, h4⟩
  · refine .inr (.inl ⟨b3, a2, e4, ?_, by simpa using r4⟩)
    rw [e1, e2, e3]; simp
  rcases split_mem h4 with ⟨a2, e5, _⟩ | ⟨b5, e5, h5⟩
  · exfalso
    rcases b4 with _ | ⟨x, b4⟩ <;> simp at e5
  · refine .inr (.inr ⟨b5, ?_, h5⟩)
    rw [e1, e2, e3, e4, e5]; simp

/-- **`attr_boundaries`.**  In the attribute part of a tag piece (names without blank and `=`,
    values without `"` — escaped values have none), EVERY occurrence of the characters ` name=`
    (a blank, then `name` — any word without blank, `=`, `"` — then the equals sign) is of one of two kinds:
    * it starts an attribute of the list whose name is exactly `name`: what precedes it is the
      attribute part of the attributes before, what follows is `"value"` and the attributes after;
    * it lies wholly inside the value of ONE attribute, strictly between its quotes. -/
theorem attr_boundaries (n : List Char) (hn : ' ' ∉ n ∧ '=' ∉ n ∧ '"' ∉ n)
    (a : List (List Char × List Char)) (ha : ∀ nv ∈ a, ' ' ∉ nv.1 ∧ '=' ∉ nv.1 ∧ '"' ∉ nv.2) :
    ∀ (pre post : List Char), pattrsStr a = pre ++ (' ' :: (n ++ ['='])) ++ post →
      (∃ a1 v a2, a = a1 ++ (n, v) :: a2 ∧ pre = pattrsStr a1 ∧
        post = '"' :: (v ++ '"' :: pattrsStr a2)) ∨
      (∃ a1 nm v1 v2 a2, a = a1 ++ (nm, v1 ++ (' ' :: (n ++ ['='])) ++ v2) :: a2 ∧
        pre = pattrsStr a1 ++ (' ' :: (nm ++ ('=' :: '"' :: v1))) ∧
        post = v2 ++ '"' :: pattrsStr a2) := by
  induction a with
  | nil => intro pre post h; simp [pattrsStr] at h
  | cons nv r ih =>
    intro pre post h
    obtain ⟨nm, v⟩ := nv
    have hnv := ha (nm, v) (by simp)
    simp only at hnv
    have ihr := ih (fun x hx => ha x (by simp [hx]))
    have h' : (' ' :: (nm ++ ('=' :: '"' :: (v ++ ['"'])))) ++ pattrsStr r =
        pre ++ ' ' :: (n ++ '=' :: post) := by
      simpa [pattrsStr] using h
    rcases space_in_attr hnv.1 h' with ⟨rfl, e⟩ | ⟨v1, v2, ev, epre, e⟩ | ⟨b1, epre, e⟩
    · -- the leading blank: the names agree
      obtain ⟨rfl, rfl⟩ := name_unique e hn.2.1 hnv.2.1
      exact .inl ⟨[], v, r, rfl, rfl, rfl⟩
    · -- inside the value
      have e' : (n ++ ['=']) ++ post = v2 ++ '"' :: pattrsStr r := by simpa using e
      have hq : '"' ∉ n ++ ['='] := by
        simp only [List.mem_append, List.mem_singleton, not_or]
        exact ⟨hn.2.2, by decide⟩
      obtain ⟨w, ew, epost⟩ := prefix_of_not_mem e' hq
      refine .inr ⟨[], nm, v1, w, r, ?_, by simpa [pattrsStr] using epre, epost⟩
      rw [ev, ew]; simp
    · -- in the rest
      rcases ihr b1 post (by simpa using e) with ⟨a1, v', a2, e1, e2, e3⟩ | ⟨a1, nm', v1, v2, a2, e1, e2, e3⟩
      · refine .inl ⟨(nm, v) :: a1, v', a2, by rw [e1]; rfl, ?_, e3⟩
        rw [epre, e2]; simp [pattrsStr]
      · refine .inr ⟨(nm, v) :: a1, nm', v1, v2, a2, by rw [e1]; rfl, ?_, e3⟩
        rw [epre, e2]; simp [pattrsStr]

/-- **Inside a whole tag piece** `<tag attrs>` / `<tag attrs />` (element name without blank) an
    occurrence of ` name=` can only lie in the attribute part — to which `attr_boundaries` applies. -/
theorem tag_piece_occurrence (n : List Char) (tag : List Char) (htag : ' ' ∉ tag)
    (a : List (List Char × List Char)) (close : List Char)
    (hclose : close = ['>'] ∨ close = [' ', '/', '>']) (pre post : List Char)
    (h : '<' :: (tag ++ (pattrsStr a ++ close)) = pre ++ (' ' :: (n ++ ['='])) ++ post) :
    ∃ pre' post', pre = '<' :: (tag ++ pre') ∧ post = post' ++ close ∧
      pattrsStr a = pre' ++ (' ' :: (n ++ ['='])) ++ post' := by
  have h' : ['<'] ++ (tag ++ (pattrsStr a ++ close)) = pre ++ ' ' :: (n ++ '=' :: post) := by
    simpa using h
  rcases split_mem h' with ⟨a2, e1, _⟩ | ⟨b1, e1, h1⟩
  · exfalso
    rcases pre with _ | ⟨x, pre⟩ <;> simp at e1
  rcases split_mem h1 with ⟨a2, e2, _⟩ | ⟨b2, e2, h2⟩
  · exact absurd (by rw [e2]; simp) htag
  have heq : ∀ c ∈ close, c ≠ '=' := by
    rcases hclose with rfl | rfl <;> decide
  rcases split_mem h2 with ⟨a2, e3, r3⟩ | ⟨b3, e3, h3⟩
  · -- the blank is in the attribute part; so is the `=`
    rcases split_mem r3.symm with ⟨x, e4, r4⟩ | ⟨b4, _, e4⟩
    · refine ⟨b2, x, by rw [e1, e2]; simp, r4, ?_⟩
      rw [e3, e4]; simp
    · exact absurd rfl (heq '=' (by rw [e4]; simp))
  · -- the blank is in ` />`: no `=` follows
    exfalso
    have : '=' ∈ close := by rw [h3]; simp
    exact heq _ this rfl

end MdIt.HtmlTok
