/-
  Sibling-list invariants of the inline parser with the raw-HTML rule (`Model/InlineH.lean`).

  Its tokenizer is a copy of the engine (`Eng.html`, `Lemmas/InlineEngine.lean`) whose rule calls are
  `Eng.Did`: a rule of the html-free chain, or the html rule, which (on the children) pushes a childless
  `special` leaf.  So every family of invariants with the closure properties `Keeps`
  (`Lemmas/InlineWalk.lean`) goes through it (`tokLoopH_kept`); here the node shapes
  (`Lemmas/C14DocShape.lean`), in `Lemmas/PipelineH.lean` the node values.
-/
import MdIt.Props.InlineH
import MdIt.Lemmas.C14DocShape

namespace MdIt.InlineH
open MdIt.Inline
open MdIt.InlineOps (Srcmap)

theorem html_did (cfg : Cfg) (chain : List RuleIdH) (hch : ∀ r, RuleIdH.base r ∈ chain → r ∈ cfg.chain) :
    (Eng.html cfg chain).Did cfg := by
  intro skip tok fuel id st silent o st' hq hid h
  cases id with
  | base r => exact .inl ⟨r, hch r hid, runRule_did hq h⟩
  | html =>
    refine .inr ?_
    rcases htmlRule_cases h with ⟨_, rfl⟩ | ⟨n, _, _, rfl⟩ | ⟨n, ll, nd, _, _, _, rfl⟩
    · exact ⟨rfl, _, .refl _, rfl⟩
    · exact ⟨rfl, _, .refl _, rfl⟩
    · exact ⟨rfl, _, .special [] nd.content htmlInfo nd.range, rfl⟩

/-- **`Inline.tokLoop_kept` for the tokenizer with the html rule** -/
theorem tokLoopH_kept {cfg : Cfg} {chain : List RuleIdH} (hch : ∀ r, RuleIdH.base r ∈ chain → r ∈ cfg.chain)
    {L : Nat → List Node → Prop} (K : Keeps cfg L) (fuel e : Nat) :
    TokKept cfg L (fun s => tokLoopH cfg chain fuel e s) := by
  have := (Eng.html cfg chain).tokLoop_kept false rfl rfl
    (fun f => by simpa only [← (engH cfg chain f).2] using skipTokenH_calm cfg chain f)
    (html_did cfg chain hch) K fuel e
  simpa only [← (engH cfg chain fuel).1] using this

theorem shape_inductionH (cfg : Cfg) (chain : List RuleIdH) (hch : ∀ r, RuleIdH.base r ∈ chain → r ∈ cfg.chain)
    (fuel e : Nat) (st st' : IState) (h : tokLoopH cfg chain fuel e st = .ok st')
    (hc : AllShapeList st.children) : AllShapeList st'.children :=
  (tokLoopH_kept hch (keeps_shape cfg) fuel e st st' h hc).2

/-- every node the inline parser with the html rule hands out has the shape its value demands (an
    `HtmlInline` — a `special` — is childless) -/
theorem parseInlineH_shapes (cfg : CfgH) {content : List Char} {mapping : Srcmap} {ns : List Node}
    (h : parseInlineH cfg content mapping = .ok ns) : AllShapeList ns := by
  unfold parseInlineH tokenizeH at h
  split at h
  · simp at h
  · next st hst =>
    simp only [Except.ok.injEq] at h; subst h
    exact shape_inductionH cfg.base cfg.chain (fun _ => base_mem) _ _ _ _ hst (by unfold IState.init; trivial)

end MdIt.InlineH

