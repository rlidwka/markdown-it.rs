/-
  Two runs of the block parser in lock step: the list rule on `SRel`-related states.  Under
  `R.strict` an item's first line is not empty — the first item starts on the line the tokenizer loop
  stopped on (`Live s₁`), every further item on a line on which `listContinue` has just read a marker
  (`listContinue_nonempty`); `get_map` of an item is called right after the item's first-line entry
  has been written back; `get_map` of the list is called on the table the rule started with
  (`listLoop_spec`); the kinds of the new nodes are `.listItem` / the list kind (frames), not
  `InlineRoot`s.
-/
import MdIt.Lemmas.C10SimLeaf

namespace MdIt.Block.LX.Sim
open MdIt.Block.LE (FRel frel_ok frel_pure frel_err frel_fuel frel_bind frel_bind_ok frel_bind_same frel_ite frel_of_eq geom Geo)
open MdIt.Lines (LineOffset)
open MdIt.Block.LX.Y (RgRel Live)
variable {R : Rels} {G : Geo}

/-! ## one run: facts about the model -/

theorem isEmpty_false_of_getLine {s : BState} {n : Nat} {c : Char} {r : List Char}
    (h : s.getLine n = .ok (c :: r)) : s.isEmpty n = false := by
  have h' := liftL_eq_ok h
  unfold Lines.getLine at h'
  unfold BState.isEmpty Lines.isEmpty
  cases ho : s.offs[n]? with
  | none => rfl
  | some o =>
    rw [ho] at h'
    obtain ⟨_, _, _, _, hq⟩ := Lines.slice_eq_ok_iff.mp h'
    have := Lines.utf8Size_pos' c
    simp only [Lines.byteLen_cons] at hq
    simp; omega

theorem skip_nonempty {ordered : Bool} {cur : List Char} {p : Nat}
    (h : (if ordered = true then skipOrdered cur else skipBullet cur) = some p) : ∃ c r, cur = c :: r := by
  cases cur with
  | nil => exfalso; split at h <;> simp [skipOrdered, skipBullet] at h
  | cons c r => exact ⟨c, r, rfl⟩

theorem listContinue_nonempty {test : Test} {ordered : Bool} {mc : Char} {S S' : BState} {n p : Nat}
    (h : listContinue test ordered mc S n = .ok (some p, S')) : S'.isEmpty S.line = false := by
  rcases listContinue_ok h with ⟨hc, _⟩ | ⟨_, T, cur, _, _, _, _, _, _, hl, hm, _, _, rfl⟩
  · cases hc
  obtain ⟨c, r, rfl⟩ := skip_nonempty hm
  exact isEmpty_false_of_getLine hl

theorem listItemBody_kind {tok : Tok} (hk : TokSpec tok) {S2 S3 : BState} {m : Nat} {re : Bool}
    (h : listItemBody tok S2 m re = .ok S3) : S3.nodeKind = S2.nodeKind := by
  rcases listItemBody_ok h with ⟨_, _, rfl⟩ | ⟨_, T, htok, _, rfl⟩
  · rfl
  · exact (hk.frame _ _ htok).nodeKind

theorem geom_eq_of_map {offs offs' : List LineOffset} {T : List (Nat × Nat)} (h : offs.map geom = T)
    (h' : offs'.map geom = T) {n : Nat} {o o' : LineOffset} (ho : offs[n]? = some o)
    (ho' : offs'[n]? = some o') : geom o = geom o' := by
  have h1 := geom_of_map h ho
  have h2 := geom_of_map h' ho'
  rw [h1] at h2
  exact Option.some.inj h2

/-! ## the entry the list rule writes -/

/-- `&state.line_offsets[n]`, remembering where the entries sit -/
theorem SRel.off_at {s₁ s₂ : BState} (S : SRel R G s₁ s₂) (n : Nat) :
    FRel (fun o₁ o₂ => ERel R.ρ G.src₁ G.src₂ o₁ o₂ ∧ s₁.offs[n]? = some o₁ ∧ s₂.offs[n]? = some o₂)
      (s₁.off n) (s₂.off n) := by
  unfold BState.off
  rcases S.get n with ⟨h1, h2⟩ | ⟨o₁, o₂, h1, h2, he⟩
  · rw [h1, h2]; exact frel_err _
  · rw [h1, h2]; exact frel_ok ⟨he, rfl, rfl⟩

theorem itemRewrite_sim {ρ : Nat → Nat → Prop} {o₁ o₂ : LineOffset} (he : ERel ρ G.src₁ G.src₂ o₁ o₂) (pos : Nat) :
    FRel (fun r₁ r₂ => ERel ρ G.src₁ G.src₂ r₁.1 r₂.1 ∧ r₁.2 = r₂.2 ∧ geom r₁.1 = geom o₁ ∧ geom r₂.1 = geom o₂)
      (itemRewrite G.src₁ o₁ pos) (itemRewrite G.src₂ o₂ pos) := by
  unfold itemRewrite
  obtain ⟨L, hL1, hL2, hl1, hl2⟩ := he.line
  have hn := he.nums
  have hp1 : psub (pos + o₂.firstNonspace) o₂.lineStart = psub (pos + o₁.firstNonspace) o₁.lineStart := by
    unfold psub
    rw [if_pos (by omega), if_pos (by omega)]
    congr 1; omega
  have hp2 : psub o₂.lineEnd o₂.lineStart = psub o₁.lineEnd o₁.lineStart := by
    unfold psub
    rw [if_pos (by omega), if_pos (by omega)]
    congr 1; omega
  rw [he.indent, hL1, hL2, hp1, hp2]
  refine frel_ite (fun _ => frel_err _) (fun _ => ?_)
  refine frel_bind_same _ ?_
  intro ltxt hlt
  cases hlt
  refine frel_bind_same _ ?_
  intro rel _
  refine frel_bind_same _ ?_
  intro p hp
  obtain ⟨ind, fn⟩ := p
  have hb := (Lines.find_indent_bounds _ _ _ _ (liftL_eq_ok hp)).2.2.1
  refine frel_bind_same _ ?_
  intro lineLen _
  exact frel_pure ⟨he.rewrite hL1 hb _, rfl, rfl, rfl⟩

/-! ## one list item -/

theorem listItemBody_sim {tok₁ tok₂ : Tok} (TK : TokSim R G tok₁ tok₂) {s₁ s₂ : BState} (S : SRel R G s₁ s₂)
    (nextLine : Nat) (reachedEnd : Bool) :
    FRel (SRel R G) (listItemBody tok₁ s₁ nextLine reachedEnd) (listItemBody tok₂ s₂ nextLine reachedEnd) := by
  unfold listItemBody
  rw [S.isEmpty, S.line, S.lineMax, S.level]
  split
  · refine frel_pure ?_
    srel_fields S
    exact S.children
  · refine frel_bind (TK _ _ ?_) ?_
    · srel_fields S
      exact S.children
    intro a b hab
    rw [hab.level]
    refine frel_bind_same _ ?_
    intro lvl _
    refine frel_pure ?_
    srel_fields hab
    exact hab.children

theorem prevEmptyEndOf_eq {s₁ s₂ : BState} (S : SRel R G s₁ s₂) (n : Nat) :
    prevEmptyEndOf s₂ n = prevEmptyEndOf s₁ n := by
  unfold prevEmptyEndOf
  rw [S.line]
  simp only [S.isEmpty]

theorem listItem_sim (C : Ctx R G) {tok₁ tok₂ : Tok} (TK : TokSim R G tok₁ tok₂) (hk : R.strict → TokSpec tok₁)
    {s₁ s₂ : BState} (S : SRel R G s₁ s₂) (nextLine pos : Nat) (pe tight : Bool)
    (hne : R.strict → s₁.isEmpty nextLine = false) :
    FRel (fun r₁ r₂ => r₁.2 = r₂.2 ∧ SRel R G r₁.1 r₂.1)
      (listItem tok₁ s₁ nextLine pos pe tight) (listItem tok₂ s₂ nextLine pos pe tight) := by
  unfold listItem
  refine frel_bind (S.off_at nextLine) ?_
  rintro o₁ o₂ ⟨he, ho1, ho2⟩
  have hir : FRel (fun r₁ r₂ => ERel R.ρ G.src₁ G.src₂ r₁.1 r₂.1 ∧ r₁.2 = r₂.2 ∧ geom r₁.1 = geom o₁ ∧
      geom r₂.1 = geom o₂) (itemRewrite s₁.src o₁ pos) (itemRewrite s₂.src o₂ pos) := by
    rw [S.src₁, S.src₂]; exact itemRewrite_sim he pos
  refine frel_bind hir ?_
  rintro ⟨o₁', ind₁, re₁⟩ ⟨o₂', ind₂, re₂⟩ ⟨he', h2, hg1, hg2⟩
  simp only [Prod.mk.injEq] at h2
  obtain ⟨rfl, rfl⟩ := h2
  dsimp only
  have SA : SRel R G
      { s₁ with nodeKind := .listItem, children := [], listIndent := some s₁.blkIndent, blkIndent := ind₁,
                tight := true }
      { s₂ with nodeKind := .listItem, children := [], listIndent := some s₂.blkIndent, blkIndent := ind₁,
                tight := true } := by
    srel_fields S
    exact NRelL.nil
  refine frel_bind_ok (SA.setOff nextLine he' ?_ ?_) ?_
  · intro o ho
    have : o = o₁ := Option.some.inj (ho.symm.trans ho1)
    rw [this]; exact hg1
  · intro o ho
    have : o = o₂ := Option.some.inj (ho.symm.trans ho2)
    rw [this]; exact hg2
  intro b₁ b₂ hsetB _ SB
  refine frel_bind_ok (listItemBody_sim TK SB nextLine re₁) ?_
  intro c₁ c₂ hbody _ SC
  have hkind : R.strict → c₁.nodeKind = .listItem := fun hs => by
    rw [listItemBody_kind (hk hs) hbody, (setOff_ok hsetB).2]
  rw [prevEmptyEndOf_eq SC, SC.listIndent]
  refine frel_bind_same _ ?_
  intro pe' _
  cases hli : c₁.listIndent with
  | none => exact frel_err _
  | some li =>
    dsimp only
    have SD : SRel R G { c₁ with blkIndent := li, listIndent := s₁.listIndent }
        { c₂ with blkIndent := li, listIndent := s₂.listIndent } := by
      srel_fields SC
      · exact S.listIndent
      · exact SC.children
    refine frel_bind_ok (SD.setOff nextLine he ?_ ?_) ?_
    · intro o ho
      exact geom_eq_of_map S.geo₁ SC.geo₁ ho1 ho
    · intro o ho
      exact geom_eq_of_map S.geo₂ SC.geo₂ ho2 ho
    intro e₁ e₂ hsetE _ SE
    obtain ⟨hlen, he₁⟩ := setOff_ok hsetE
    -- the item's first line is again the entry the item started with
    have hent : e₁.offs[nextLine]? = some o₁ := by
      rw [he₁]; simp only [List.getElem?_set]; simp [hlen]
    have hne₁ : R.strict → e₁.isEmpty nextLine = false := by
      intro hs
      have := lt_of_isEmpty_false (hne hs) ho1
      unfold BState.isEmpty Lines.isEmpty
      rw [hent]; simp; omega
    have hkind₁ : R.strict → e₁.nodeKind = .listItem := fun hs => by rw [he₁]; exact hkind hs
    rw [SE.line]
    refine frel_bind_same _ ?_
    intro e _
    refine frel_bind (SE.getMap C nextLine e hne₁) ?_
    intro r₁ r₂ hr
    refine frel_pure ⟨by rw [SC.tight], ?_⟩
    srel_fields SE
    · exact S.tight
    · exact S.nodeKind
    · exact S.children.push (NRel.mk (C.self _ (fun hs => by rw [hkind₁ hs]; intro c m h; cases h)) hr SE.children)

/-! ## is the list continued? -/

theorem listContinue_sim {test₁ test₂ : Test} (TS : TestSim R G test₁ test₂) (ordered : Bool) (mc : Char)
    {s₁ s₂ : BState} (S : SRel R G s₁ s₂) (nextLine : Nat) :
    FRel (fun r₁ r₂ => r₁.1 = r₂.1 ∧ SRel R G r₁.2 r₂.2)
      (listContinue test₁ ordered mc s₁ nextLine) (listContinue test₂ ordered mc s₂ nextLine) := by
  unfold listContinue
  rw [S.lineMax, S.lineIndent, S.line]
  refine frel_ite (fun _ => frel_pure ⟨rfl, S⟩) (fun _ => ?_)
  refine frel_bind_same _ ?_
  intro ind _
  refine frel_ite (fun _ => frel_pure ⟨rfl, S⟩) (fun _ => ?_)
  refine frel_ite (fun _ => frel_pure ⟨rfl, S⟩) (fun _ => ?_)
  refine frel_bind (TS _ _ S) ?_
  rintro ⟨t₁, a₁⟩ ⟨t₂, a₂⟩ ⟨ht, SA⟩
  dsimp only at ht SA ⊢
  subst ht
  have SB : SRel R G { a₁ with line := s₁.line } { a₂ with line := s₁.line } := SA.withLine _
  refine frel_ite (fun _ => frel_pure ⟨rfl, SB⟩) (fun _ => ?_)
  refine frel_bind (frel_of_eq (SB.getLine _)) ?_
  rintro cur _ rfl
  split
  · exact frel_pure ⟨rfl, SB⟩
  refine frel_bind_same _ ?_
  intro mc' _
  refine frel_ite (fun _ => frel_pure ⟨rfl, SB⟩) (fun _ => ?_)
  · exact frel_pure ⟨rfl, SB⟩

/-! ## the item loop -/

theorem listLoop_sim (C : Ctx R G) {tok₁ tok₂ : Tok} (TK : TokSim R G tok₁ tok₂) (hk : R.strict → TokSpec tok₁)
    {test₁ test₂ : Test} (TS : TestSim R G test₁ test₂) (ordered : Bool) (mc : Char) :
    ∀ (f₁ f₂ : Nat), f₁ ≤ f₂ → ∀ {s₁ s₂ : BState}, SRel R G s₁ s₂ → ∀ (nextLine pos : Nat) (pe tight : Bool),
      (R.strict → s₁.isEmpty nextLine = false) →
      FRel (fun r₁ r₂ => r₁.1 = r₂.1 ∧ r₁.2.1 = r₂.2.1 ∧ SRel R G r₁.2.2 r₂.2.2)
        (listLoop tok₁ test₁ ordered mc f₁ s₁ nextLine pos pe tight)
        (listLoop tok₂ test₂ ordered mc f₂ s₂ nextLine pos pe tight) := by
  intro f₁
  induction f₁ with
  | zero =>
    intro f₂ _ s₁ s₂ _ nextLine pos pe tight _
    rw [listLoop]; exact frel_fuel _
  | succ f ih =>
    intro f₂ hf s₁ s₂ S nextLine pos pe tight hne
    obtain ⟨f₂', rfl⟩ : ∃ k, f₂ = k + 1 := ⟨f₂ - 1, by omega⟩
    rw [listLoop, listLoop, S.lineMax]
    refine frel_ite (fun _ => frel_ok ⟨rfl, rfl, S⟩) (fun _ => ?_)
    refine frel_bind (listItem_sim C TK hk S nextLine pos pe tight hne) ?_
    rintro ⟨a₁, t₁, p₁⟩ ⟨a₂, t₂, p₂⟩ ⟨h, SA⟩
    simp only [Prod.mk.injEq] at h
    obtain ⟨rfl, rfl⟩ := h
    dsimp only at SA ⊢
    rw [SA.line]
    refine frel_bind_ok (listContinue_sim TS ordered mc SA _) ?_
    rintro ⟨c₁, b₁⟩ ⟨c₂, b₂⟩ hcont _ ⟨h, SB⟩
    dsimp only at h SB ⊢
    subst h
    cases c₁ with
    | none => exact frel_ok ⟨rfl, rfl, SB⟩
    | some p => exact ih f₂' (by omega) SB _ _ _ _ (fun _ => listContinue_nonempty hcont)

/-! ## tight lists -/

theorem markTight_rel (H : KOk R) : ∀ {l₁ l₂ : List BNode}, NRelL R l₁ l₂ → NRelL R (markTight l₁) (markTight l₂)
  | [], [], _ => by simp only [markTight]; exact NRelL.nil
  | [], _ :: _, h => by simp only [NRelL] at h
  | _ :: _, [], h => by simp only [NRelL] at h
  | a :: as, b :: bs, h => by
    obtain ⟨h1, h2⟩ := h.cons_inv
    have ih := markTight_rel H h2
    have hk := H.eq_iff h1.kind .paragraph (by intro c m h; cases h)
    simp only [markTight]
    by_cases hp : a.kind = .paragraph
    · rw [if_pos hp, if_pos (hk.mp hp)]; exact h1.children.append ih
    · rw [if_neg hp, if_neg (mt hk.mpr hp)]; exact NRelL.cons h1 ih

theorem tightenItems_sim (H : KOk R) : ∀ {l₁ l₂ : List BNode}, NRelL R l₁ l₂ →
    FRel (NRelL R) (tightenItems l₁) (tightenItems l₂)
  | [], [], _ => by simp only [tightenItems]; exact frel_ok NRelL.nil
  | [], _ :: _, h => by simp only [NRelL] at h
  | _ :: _, [], h => by simp only [NRelL] at h
  | a :: as, b :: bs, h => by
    obtain ⟨h1, h2⟩ := h.cons_inv
    have ih := tightenItems_sim H h2
    have hk := H.eq_iff h1.kind .listItem (by intro c m h; cases h)
    simp only [tightenItems]
    by_cases hp : a.kind = .listItem
    · rw [if_neg (fun h => h hp), if_neg (fun h => h (hk.mp hp))]
      rcases ih with hx | ⟨x, y, hx, hy, hxy⟩ | ⟨e, hx, hy⟩
      · rw [hx]; exact frel_fuel _
      · rw [hx, hy]; exact frel_ok (NRelL.cons (NRel.mk h1.kind h1.range (markTight_rel H h1.children)) hxy)
      · rw [hx, hy]; exact frel_err _
    · rw [if_pos hp, if_pos (mt hk.mpr hp)]; exact frel_err _


/-! ## the rule -/

theorem listSpecial_eq {s₁ s₂ : BState} (S : SRel R G s₁ s₂) : listSpecial s₂ = listSpecial s₁ := by
  unfold listSpecial
  rw [S.listIndent, S.line, S.blkIndent]
  cases s₁.listIndent with
  | none => rfl
  | some li =>
    dsimp only
    unfold BState.off
    rcases S.get s₁.line with ⟨h1, h2⟩ | ⟨o₁, o₂, h1, h2, he⟩
    · rw [h1, h2]
    · rw [h1, h2]
      simp only [bind, Except.bind, he.indent]

/-- the rule behind the marker checks, for any kind `nk` of the new list node (side 2 with the scalar
    fields it shares with side 1 already replaced) -/
theorem listBody_sim (C : Ctx R G) {tok₁ tok₂ : Tok} (TK : TokSim R G tok₁ tok₂) (hk : R.strict → TokSpec tok₁)
    {test₁ test₂ : Test} (TS : TestSim R G test₁ test₂) (hp : R.strict → TestPure test₁) {f₁ f₂ : Nat} (hf : f₁ ≤ f₂)
    {s₁ s₂ : BState} (S : SRel R G s₁ s₂) (hlive : R.strict → Live s₁) (ordered : Bool) (mc : Char) (pos : Nat)
    (nk : Kind) (hnk : ∀ c m, nk ≠ .inlineRoot c m) :
    FRel (ResRel R G)
      (do
        let x ← listLoop tok₁ test₁ ordered mc f₁ { s₁ with nodeKind := nk, children := [], level := s₁.level + 1 }
          s₁.line pos false true
        let children ← (if x.2.1 = true then tightenItems x.2.2.children else pure x.2.2.children)
        let lvl ← psub x.2.2.level 1
        let e ← psub x.1 1
        let r ← x.2.2.getMap s₁.line e
        pure (true, { x.2.2 with level := lvl, nodeKind := s₁.nodeKind,
                                 children := s₁.children ++ [⟨x.2.2.nodeKind, some r, children⟩] }))
      (do
        let x ← listLoop tok₂ test₂ ordered mc f₂ { s₂ with nodeKind := nk, children := [], level := s₁.level + 1, line := s₁.line }
          s₁.line pos false true
        let children ← (if x.2.1 = true then tightenItems x.2.2.children else pure x.2.2.children)
        let lvl ← psub x.2.2.level 1
        let e ← psub x.1 1
        let r ← x.2.2.getMap s₁.line e
        pure (true, { x.2.2 with level := lvl, nodeKind := s₁.nodeKind,
                                 children := s₂.children ++ [⟨x.2.2.nodeKind, some r, children⟩] })) := by
  refine frel_bind_ok (listLoop_sim C TK hk TS ordered mc f₁ f₂ hf (s₁ := _) (s₂ := _) ?_ _ _ _ _
    (fun hs => (hlive hs).2)) ?_
  · srel_fields S
    exact NRelL.nil
  rintro ⟨n₁, t₁, a₁⟩ ⟨n₂, t₂, a₂⟩ hloop _ ⟨h1, h2, SA⟩
  dsimp only at h1 h2 SA ⊢
  subst h1 h2
  have hfr := fun hs =>
    (listLoop_spec (hk hs) (hp hs) _ _ _ _ _ _ _ _ _ hloop rfl (hlive hs).1).1
  have hne₁ : R.strict → a₁.isEmpty s₁.line = false := by
    intro hs
    have hoffs := (hfr hs).offs
    dsimp only at hoffs
    unfold BState.isEmpty; rw [hoffs]; exact (hlive hs).2
  have hch : FRel (NRelL R) (if t₁ = true then tightenItems a₁.children else pure a₁.children)
      (if t₁ = true then tightenItems a₂.children else pure a₂.children) := by
    refine frel_ite (fun _ => tightenItems_sim C.toKOk SA.children) (fun _ => ?_)
    · exact frel_pure SA.children
  refine frel_bind hch ?_
  intro ch₁ ch₂ hc
  rw [SA.level]
  refine frel_bind_same _ ?_
  intro lvl _
  refine frel_bind_same _ ?_
  intro e _
  refine frel_bind (SA.getMap C _ e hne₁) ?_
  intro r₁ r₂ hr
  refine frel_pure ⟨rfl, ?_⟩
  srel_fields SA
  · exact S.children.push (NRel.mk (C.self _ (fun hs => by
      have hkind := (hfr hs).nodeKind; dsimp only at hkind; rw [hkind]; exact hnk)) hr hc)


theorem list_sim (C : Ctx R G) {tok₁ tok₂ : Tok} (TK : TokSim R G tok₁ tok₂) (hk : R.strict → TokSpec tok₁)
    {test₁ test₂ : Test} (TS : TestSim R G test₁ test₂) (hp : R.strict → TestPure test₁) {f₁ f₂ : Nat} (hf : f₁ ≤ f₂)
    {s₁ s₂ : BState} (S : SRel R G s₁ s₂) (silent : Bool) (hne : R.strict → silent = false → Live s₁) :
    FRel (ResRel R G) (listRule tok₁ test₁ f₁ s₁ silent) (listRule tok₂ test₂ f₂ s₂ silent) := by
  unfold listRule
  rw [listSpecial_eq S, S.nodeKind, S.line, S.lineIndent, S.getLine, S.level]
  refine frel_ite (fun _ => frel_pure ⟨rfl, S⟩) (fun _ => ?_)
  refine frel_bind_same _ ?_
  intro ind _
  refine frel_ite (fun _ => frel_pure ⟨rfl, S⟩) (fun _ => ?_)
  refine frel_bind_same _ ?_
  intro special _
  refine frel_ite (fun _ => frel_pure ⟨rfl, S⟩) (fun _ => ?_)
  refine frel_bind_same _ ?_
  intro cur _
  refine frel_bind_same _ ?_
  intro detected _
  rcases detected with _ | ⟨pos, mv⟩
  · exact frel_pure ⟨rfl, S⟩
  rcases mv with _ | v
  all_goals
    dsimp only
    refine frel_ite (fun _ => frel_pure ⟨rfl, S⟩) (fun _ => ?_)
    refine frel_bind_same _ ?_
    intro emptyItem _
    refine frel_ite (fun _ => frel_pure ⟨rfl, S⟩) (fun _ => ?_)
    refine frel_ite (fun _ => frel_pure ⟨rfl, S⟩) (fun _ => ?_)
    refine frel_bind_same _ ?_
    intro mc _
    refine listBody_sim C TK hk TS hp hf S (fun hs => hne hs (Bool.eq_false_iff.mpr ‹¬ silent = true›)) _ mc pos _ ?_
    intro c m h; cases h

end MdIt.Block.LX.Sim
