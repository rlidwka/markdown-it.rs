/-
  C10 with the sourcepos plugin, ALL sources: the per-line tables, virtual-space entries included.

    * `inlSpec3_psegT`, `doc_placeholder_segsT`  EVERY placeholder `(c, m)` of the block
      tree is segmented by `C05T.tf_Seg` (a REAL entry: a LF-free stretch of `c` that is a copy of source
      bytes; a VIRTUAL entry: a run of spaces of `c` sitting on ONE source offset, that of its successor);
    * `tr_shiftT`   under such a table and its shifted copy EVERY position `p ≤ |c|` is translated to `a` and
                    `a + #LF before a` (inside a virtual segment both translations are clamped to the offset
                    the segment sits on);
    * `tr_onByteT`  a position at which a character other than LF and space starts lies in a real segment and
                    is translated to a byte that is not a line feed.
  That the shifted table is as good a table (`C05T.MapT`) is `mapT_shift` of Lemmas/C10SpTabsFinal.lean.
-/
import MdIt.Props.C05Tabs
import MdIt.Lemmas.C10SpFullTables
import MdIt.Lemmas.C10SpTabsDefs

namespace MdIt.Block
open MdIt.Lines (LineOffset)

/-- `PTabsF`, and the table is segmented -/
def PSegT (src0 : List Char) : InlP := fun c m a b =>
  PTabsF src0 c m a b ∧ C05I.SegAll (C05T.tf_Seg src0 c) m

theorem inlSpec3_psegT (src0 : List Char) : InlSpec3 src0 (PSegT src0) := by
  refine ⟨?_, ?_⟩
  · intro s b e c m ob oe hg hgl hbe hob hoe hkept
    refine ⟨(inlSpec3_ptabsF src0).lines s b e c m ob oe hg hgl hbe hob hoe hkept, ?_⟩
    have := C05T.tf_getLines_seg hg.g2.geo.table hg.g2.strict hg.term hbe (C05I.getLines_lift hgl)
    rw [hg.g2.srcEq] at this
    exact this
  · intro s o line content textPos textMax hg ho hline hcontent
    refine ⟨(inlSpec3_ptabsF src0).heading s o line content textPos textMax hg ho hline hcontent, ?_⟩
    have := C05I.heading_lseg (T := True) (hg.g2.geo.table _ _ ho) ho hline hcontent
    rw [hg.g2.srcEq] at this
    exact C05I.SegAll.imp C05I.LSeg.tf this

end MdIt.Block

namespace MdIt.Pipeline
open MdIt.InlineOps (Srcmap getSourcePosFor byteLen)
open MdIt.C05R (Cut Bdy fa_Seg)
open MdIt.C05T
open MdIt.C05I (SegAll segAll_get KeysLFV)

/-- what is known of EVERY placeholder -/
structure TabT (src c : List Char) (m : Srcmap) : Prop where
  wf : C05.WFMap m
  monoV : C05.MonoMapV m
  keys : KeysLFV c m
  virt : VirtSp c m
  seg : SegAll (tf_Seg src c) m

theorem TabT.mapT {src c : List Char} {m : Srcmap} (h : TabT src c m) : MapT c m :=
  mapT_of_virt h.wf h.monoV h.keys h.virt

/-- **every placeholder of the block tree has a segmented table**, for every source -/
theorem doc_placeholder_segsT (cfg : DocCfg) (src : List Char)
    (hsmall : 4 * Lines.byteLen src + 8 < 2147483648) (hpara : cfg.hasPara = true)
    {root : Block.BNode} {refs : Refs.RefMap} (hb : Block.parseBlocks cfg.blockCfg src = .ok (root, refs)) :
    Block.AllInl (fun c m => TabT src c m) root := by
  obtain ⟨hr, hg⟩ := Block.parseBlocks_geo3 (cfg := cfg.blockCfg) hpara (Block.inlSpec3_psegT src) hsmall hb
  refine hg.allInl (Q := fun c m => TabT src c m) ?_ ?_
  · intro c m a b ⟨⟨⟨⟨hw, hv, hk, _⟩, _, hvs⟩, _, _⟩, hs⟩
    exact ⟨hw, hv, hk, hvs, hs⟩
  · intro c m hk hrg
    rw [hr] at hrg; cases hrg

/-- the two cases of `tf_locate`, for a position inside the text, with what each gives -/
theorem segT_locate {src c : List Char} {m : Srcmap} (h : TabT src c m) {p : Nat} (hp : p ≤ byteLen c) :
    ∃ i k v, InlineOps.lineOf m p = .ok i ∧ m[i]? = some (k, v) ∧ k ≤ p ∧
      ((∃ k', m[i + 1]? = some (k', v) ∧ p < k' ∧ getSourcePosFor m p = .ok v ∧
          ∃ pre n post, c = pre ++ List.replicate n ' ' ++ post ∧ byteLen pre = k ∧ k' = k + n) ∨
       (∃ t, p - k ≤ byteLen t ∧ getSourcePosFor m p = .ok (v + (p - k)) ∧ '\n' ∉ t ∧
          Cut src v (v + byteLen t) t ∧ (∀ k' v', m[i + 1]? = some (k', v') → v + byteLen t < v') ∧
          ∃ pre post, c = pre ++ t ++ post ∧ byteLen pre = k ∧ (post = [] ∨ ∃ post', post = '\n' :: post'))) := by
  obtain ⟨i, k, v, h1, h2, h3, h4⟩ := C05.lineOf_spec m h.wf p
  have hcl := C05.getSourcePosFor_of_line_clamp m p i k v h1 h2 h3
  refine ⟨i, k, v, h1, h2, h3, ?_⟩
  rcases segAll_get h.seg h2 with ⟨k', hn, _, hdata⟩ | hseg
  · left
    simp only at hn hdata
    have hpk := h4 (i + 1) k' v (by omega) hn
    refine ⟨k', hn, hpk, ?_, hdata⟩
    rw [hcl]
    unfold C05.clampNext
    rw [hn]
    simp only [Except.ok.injEq]
    omega
  · right
    obtain ⟨pre, t, post, hcc, hpre, hnt, hsrc, hnext⟩ := hseg
    simp only at hpre hsrc hnext
    have hd : p - k ≤ byteLen t := by
      cases hn : m[i + 1]? with
      | none =>
        rw [hn] at hnext
        subst hnext
        rw [hcc] at hp
        simp only [C05.byteLen_append, List.append_nil] at hp
        omega
      | some y =>
        rw [hn] at hnext
        obtain ⟨post', _, hk, _, _⟩ := hnext
        have := h4 (i + 1) y.1 y.2 (by omega) hn
        omega
    have hnx : ∀ k' v', m[i + 1]? = some (k', v') → v + byteLen t < v' := by
      intro k' v' hn
      rw [hn] at hnext
      obtain ⟨post', _, _, hv, _⟩ := hnext
      exact hv
    have hpost : post = [] ∨ ∃ post', post = '\n' :: post' := by
      cases hn : m[i + 1]? with
      | none => rw [hn] at hnext; exact .inl hnext
      | some y =>
        rw [hn] at hnext
        obtain ⟨post', hp', _⟩ := hnext
        exact .inr ⟨post', hp'⟩
    refine ⟨t, hd, ?_, hnt, hsrc, hnx, ⟨pre, post, hcc, hpre, hpost⟩⟩
    rw [hcl, C05.clampNext_eq]
    intro k' v' hn
    have := hnx k' v' hn
    omega

/-- **every position of the inline text is translated exactly**, virtual segments included -/
theorem tr_shiftT {src c : List Char} {m : Srcmap} (h : TabT src c m) {p a : Nat} (hp : p ≤ byteLen c)
    (ha : getSourcePosFor m p = .ok a) :
    getSourcePosFor (shiftMap src m) p = .ok (a + C10SP.lfBelow src a) := by
  obtain ⟨i, k, v, h1, h2, h3, hcase⟩ := segT_locate h hp
  have hl2 : InlineOps.lineOf (shiftMap src m) p = .ok i := by
    unfold InlineOps.lineOf at h1 ⊢
    rw [shiftMap_keys]; exact h1
  have hg2 : (shiftMap src m)[i]? = some (k, v + C10SP.lfBelow src v) := by
    rw [shiftMap_get, h2]; rfl
  have hcl := C05.getSourcePosFor_of_line_clamp (shiftMap src m) p i k _ hl2 hg2 h3
  rcases hcase with ⟨k', hn, hpk, htr, _⟩ | ⟨t, hd, htr, hnt, hcut, hnx, _⟩
  · rw [htr] at ha
    simp only [Except.ok.injEq] at ha
    subst ha
    rw [hcl]
    unfold C05.clampNext
    rw [shiftMap_get, hn]
    simp only [Option.map_some, Except.ok.injEq]
    omega
  · rw [htr] at ha
    simp only [Except.ok.injEq] at ha
    subst ha
    have hlf := lfBelow_cut hcut hnt (p - k) hd
    rw [hcl, C05.clampNext_eq, hlf]
    · congr 1; omega
    · intro k' v' hn
      rw [shiftMap_get] at hn
      cases hm : m[i + 1]? with
      | none => rw [hm] at hn; simp at hn
      | some y =>
        rw [hm] at hn
        simp only [Option.map_some, Option.some.injEq, Prod.mk.injEq] at hn
        obtain ⟨_, rfl⟩ := hn
        have := hnx y.1 y.2 (by rw [hm])
        have hmono := lfBelow_mono src (a := v) (b := y.2) (by omega)
        omega

theorem charSolid_lt {c : List Char} {p : Nat} (h : C10SP.CharSolid c p) : p < byteLen c := by
  obtain ⟨u, ch, w, rfl, rfl, _⟩ := h
  have := Char.utf8Size_pos ch
  simp only [C05.byteLen_append, byteLen]; omega

/-- a solid character is not one of the spaces of a virtual segment: it is translated to a byte of the
    document that is not a line feed -/
theorem tr_onByteT {src c : List Char} {m : Srcmap} (h : TabT src c m) {p a : Nat}
    (hc : C10SP.CharSolid c p) (ha : getSourcePosFor m p = .ok a) :
    ∃ u ch w, src = u ++ ch :: w ∧ byteLen u = a ∧ ch ≠ '\n' := by
  have hp := charSolid_lt hc
  obtain ⟨u, ch, w, hcc, hu, hch, hsp⟩ := hc
  obtain ⟨i, k, v, h1, h2, h3, hcase⟩ := segT_locate h (Nat.le_of_lt hp)
  rcases hcase with ⟨k', hn, hpk, _, pre, n, post, hcc', hpre, hk'⟩ |
    ⟨t, hd, htr, hnt, hcut, _, pre, post, hcc', hpre, hpost⟩
  · -- inside a run of spaces: impossible
    exfalso
    have hj : p - k < n := by omega
    have h1 : CharAt c p ' ' := by
      have := tb_charAt_replicate (pre := pre) (post := post) hj
      rw [← hcc', hpre] at this
      rwa [show k + (p - k) = p by omega] at this
    exact hsp (tx_charAt_unique ⟨u, w, hcc, hu⟩ h1)
  · rw [htr] at ha
    simp only [Except.ok.injEq] at ha
    subst ha
    -- split `c = pre ++ t ++ post = u ++ ch :: w` at `u = pre ++ x`
    have e : pre ++ (t ++ post) = u ++ (ch :: w) := by rw [← List.append_assoc, ← hcc', hcc]
    obtain ⟨x, hx1, hx2⟩ := Inline.append_prefix pre (t ++ post) u (ch :: w) e (by omega)
    have hxl : byteLen x = p - k := by
      have := congrArg byteLen hx1
      rw [C05.byteLen_append] at this; omega
    have hsub : ∃ t2, t = x ++ ch :: t2 := by
      by_cases hlt : byteLen x < byteLen t
      · obtain ⟨y, hy1, hy2⟩ := Inline.append_prefix x (ch :: w) t post hx2.symm (by omega)
        cases y with
        | nil =>
          simp only [List.append_nil] at hy1
          rw [hy1] at hlt; omega
        | cons y0 ys =>
          simp only [List.cons_append, List.cons.injEq] at hy2
          obtain ⟨rfl, _⟩ := hy2
          exact ⟨ys, hy1⟩
      · exfalso
        have hxt : byteLen x = byteLen t := by omega
        obtain ⟨_, e2⟩ := C05R.prefix_unique hx2.symm hxt
        rcases hpost with rfl | ⟨post', rfl⟩
        · cases e2
        · simp only [List.cons.injEq] at e2
          exact hch e2.1
    obtain ⟨t2, ht⟩ := hsub
    obtain ⟨P, Q, hs, hP, _⟩ := hcut
    refine ⟨P ++ x, ch, t2 ++ Q, ?_, ?_, hch⟩
    · rw [hs, ht]; simp [List.append_assoc]
    · rw [C05.byteLen_append]; omega

end MdIt.Pipeline
