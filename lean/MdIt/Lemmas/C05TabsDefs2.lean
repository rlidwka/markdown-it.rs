/-
  C05 for ALL sources: character boundaries at every node.  Shared definitions — the
  interfaces between
    * the table side (Lemmas/C05TabsFaith.lean: `PFthV`, what `get_lines` guarantees about the
      CONTENT for any table, virtual-space entries included; `Block.PTabsF`),
    * the inline side (`BI`, an image of the certificate's frame invariant, and the node predicate `BdN`, a projection of
      `FthNV` of Lemmas/C05TabsDefs3.lean: Lemmas/C05TabsText.lean),
    * the transport (Lemmas/C05TabsBdSplice.lean: `PInlB`, `PostBd`).
-/
import MdIt.Lemmas.C05TabsDefs

namespace MdIt.C05T
open MdIt.InlineOps (Srcmap getSourcePosFor byteLen)
open MdIt.Inline (Node Val IState)
open MdIt.C05R (Cut Bdy NoBrk BrkAt)

/-- the content of a placeholder is a faithful excerpt of the document — for ANY `get_lines` table
    (`C05R.PFth` is the special case without virtual-space entries):
    `bdy`   the translation of a character boundary of the inline text is a character boundary of
            the document (a position inside the virtual spaces of a split tab is translated to the
            source offset the segment sits on);
    `copy`  inside a stretch `c[p..q]` that starts with a character other than space and line feed
            and holds no line feed, every sub-stretch is a copy of the source bytes between the
            translated offsets;
    `brk`   across a line feed of the inline text the translated range holds a line break. -/
structure PFthV (src c : List Char) (m : Srcmap) : Prop where
  bdy : ∀ p a, Bdy c p → getSourcePosFor m p = .ok a → Bdy src a
  copy : ∀ p q ch0 w p1 p2 w' a b, Cut c p q (ch0 :: w) → ch0 ≠ ' ' → ch0 ≠ '\n' → '\n' ∉ w →
    p ≤ p1 → p2 ≤ q → Cut c p1 p2 w' → getSourcePosFor m p1 = .ok a → getSourcePosFor m p2 = .ok b →
    Cut src a b w'
  brk : ∀ p q w a b w', Cut c p q w → '\n' ∈ w → getSourcePosFor m p = .ok a →
    getSourcePosFor m q = .ok b → Cut src a b w' → ¬ NoBrk w'

mutual
/-- C05 clause 2 at every node of an inline tree: both range ends are character boundaries of the
    document; an `EmphMarker` covers exactly its `remaining` single-byte delimiters (what the
    delimiter matching needs to cut ranges in source coordinates) -/
def BdN (src : List Char) : Node → Prop
  | ⟨v, r, cs⟩ =>
    (∃ a b, r = some (a, b) ∧ Bdy src a ∧ Bdy src b ∧
      (∀ mk l rem o c, v = .emphMarker mk l rem o c →
        Cut src a b (List.replicate rem mk) ∧ mk.utf8Size = 1)) ∧ BdL src cs
def BdL (src : List Char) : List Node → Prop
  | [] => True
  | c :: cs => BdN src c ∧ BdL src cs
end

theorem BdN_eq (src : List Char) (n : Node) :
    BdN src n ↔ (∃ a b, n.range = some (a, b) ∧ Bdy src a ∧ Bdy src b ∧
      (∀ mk l rem o c, n.val = .emphMarker mk l rem o c →
        Cut src a b (List.replicate rem mk) ∧ mk.utf8Size = 1)) ∧ BdL src n.children := by
  cases n; simp [BdN]

theorem bdL_iff (src : List Char) (l : List Node) : BdL src l ↔ ∀ n ∈ l, BdN src n := by
  induction l with
  | nil => simp [BdL]
  | cons c cs ih => simp [BdL, ih]

/-- what one inline run works in, for any source -/
structure CtxV (src0 c : List Char) (m : Srcmap) : Prop where
  map : MapT c m
  fth : PFthV src0 c m

/-- the boundary part of `IC.ICF` in source coordinates, for any `get_lines` table (`IC.ICF.bi`): the cursor
    is on a character boundary of the inline text, every child is `BdN` -/
structure BI (src0 c : List Char) (m : Srcmap) (pos : Nat) (cs : List Node) : Prop where
  bpos : Bdy c pos
  deep : BdL src0 cs

def BInv (src0 : List Char) (st : IState) : Prop := BI src0 st.src st.srcmap st.pos st.children

/-- the claim about a placeholder the splice walk consumes, with boundaries -/
def PInlB (icfg : Inline.Cfg) (src : List Char) : Block.InlP := fun c m a b =>
  ∀ ns, Inline.parseInline icfg c m = .ok ns →
    Inline.OrderedN a b ns ∧ Inline.WellRangedList ns ∧ BdL src ns

/-- a node of the finished tree: both range ends on character boundaries -/
def PostBd (src : List Char) (n : Pipeline.Node) : Prop :=
  ∃ a b, n.range = some (a, b) ∧ Bdy src a ∧ Bdy src b

end MdIt.C05T

namespace MdIt.Block

/-- the full claim about a placeholder for ALL sources -/
def PTabsF (src0 : List Char) : InlP := fun c m a b =>
  PTabs src0 c m a b ∧ C05T.PFthV src0 c m ∧ (b = InlineOps.byteLen src0 ∨ C05R.BrkAt src0 b)

end MdIt.Block
