/-
  C10 with the sourcepos plugin, ALL sources (split tabs included) — the EXACT lock-step simulation of the
  inline parser under two per-line tables that are only `C05T.MapT`: from the internal relation
  (`XT.LRel K true`, Lemmas/C10SpTabsInlineBase.lean) to the interface relation `C10SP.XLT`
  (Lemmas/C10SpTabsDefs.lean), and the theorem

      C10SP.parseInline_exactT :
        MapT c m₁ → MapT c m₂ → MLe m₁ m₂ → SolidMarkers cfg.chain → parseInline cfg c m₁ = .ok ns₁ →
          ∃ ns₂, parseInline cfg c m₂ = .ok ns₂ ∧ XLT c m₁ m₂ ns₁ ns₂

  (side 2 does not panic; same shape and values; every attribute-rendering node — `CodeInline`,
  `Em` / `Strong` / `Strikethrough`, `Link`, `Image`, `Autolink` — has on both sides the translation of
  ONE stretch `[p, q]` of the inline text, `q ≤ |c|`, a SOLID character (not LF, not space) starting at `p`).

  Unlike the `MapOK` version (Lemmas/C10SpFullInline.lean) nothing is taken from the single-run range
  theorems: `q ≤ |c|` is carried by the simulation (`posMax ≤ |src|` in the state relation, every
  `get_map(p, q)` of an attribute-rendering node has `q ≤ posMax`: `ruleBackticks_end`,
  `ruleAutolink_end`, `parseLink_end`; `p + rem ≤ |c|` in the token invariant), and `p ≤ q` is not part
  of `SameSpanT`.
-/
import MdIt.Lemmas.C10SpTabsInlineBase
import MdIt.Lemmas.C05TabsShift

namespace MdIt.Inline.XT
open MdIt.InlineOps (Srcmap getSourcePosFor getMap byteLen slice)
open MdIt.Pipeline (MLe)
open MdIt.C10SP (CharSolid SameSpanT attrValT XNT XLT)

theorem span_of_attr {K : Ctx} {v : Val} {r₁ r₂ : Option (Nat × Nat)} (ha : attrValT v = true)
    (h : Extra K v r₁ r₂) : Span K r₁ r₂ := by
  cases v <;> first | exact h | (simp [attrValT] at ha)

theorem sameSpanT_of_span {K : Ctx} {r₁ r₂ : Option (Nat × Nat)} (h : Span K r₁ r₂) :
    SameSpanT K.c K.m₁ K.m₂ r₁ r₂ := h

mutual
theorem XN_of (K : Ctx) : ∀ (a b : Node), NRel K true a b → XNT K.c K.m₁ K.m₂ a b
  | ⟨v₁, r₁, cs₁⟩, ⟨v₂, r₂, cs₂⟩, h => by
    simp only [NRel] at h
    obtain ⟨rfl, hr, hx, hc⟩ := h
    simp only [XNT]
    exact ⟨trivial, fun ha => sameSpanT_of_span (span_of_attr ha (hx rfl)), XL_of K cs₁ cs₂ hc⟩
theorem XL_of (K : Ctx) : ∀ (l₁ l₂ : List Node), LRel K true l₁ l₂ → XLT K.c K.m₁ K.m₂ l₁ l₂
  | [], [], _ => by simp only [XLT]
  | [], _ :: _, h => absurd h (LRel_nil_cons _ _ _)
  | _ :: _, [], h => absurd h (LRel_cons_nil _ _ _)
  | a :: as, b :: bs, h => by
    rw [LRel_cons_cons] at h
    simp only [XLT]
    exact ⟨XN_of K a b h.1, XL_of K as bs h.2⟩
end

end MdIt.Inline.XT

namespace MdIt.C10SP
open MdIt.Inline.XT
open MdIt.Inline

/-- **the exact inline simulation for `MapT` tables** (tables of `get_lines` with or without split
    tabs).  Two per-line tables for the same inline text, both `MapT`, same keys, values pointwise `≤`;
    every emphasis marker of the chain a single byte other than LF and space.  If the run under the
    first table succeeds so does the run under the second, with the same tree up to ranges, and the
    ranges of every attribute-rendering node are on both sides the translations of ONE stretch of the
    inline text that ends inside the text and starts at a solid character. -/
theorem parseInline_exactT (cfg : Inline.Cfg) (c : List Char) (m₁ m₂ : InlineOps.Srcmap)
    (h₁ : C05T.MapT c m₁) (h₂ : C05T.MapT c m₂) (hle : Pipeline.MLe m₁ m₂)
    (hmk : C05T.SolidMarkers cfg.chain)
    {ns₁ : List Inline.Node} (h : Inline.parseInline cfg c m₁ = .ok ns₁) :
    ∃ ns₂, Inline.parseInline cfg c m₂ = .ok ns₂ ∧ C10SP.XLT c m₁ m₂ ns₁ ns₂ := by
  have sim := parseInline_sim ⟨c, m₁, m₂, h₁, h₂⟩ true cfg hmk (fun _ => hle) h
  cases h2 : Inline.parseInline cfg c m₂ with
  | error e => simp only [h2] at sim; cases sim
  | ok ns₂ =>
    simp only [h2] at sim
    exact ⟨ns₂, rfl, XL_of ⟨c, m₁, m₂, h₁, h₂⟩ ns₁ ns₂ sim⟩

/-- the ∀-form for the consumers -/
theorem parseInline_exactT' (cfg : Inline.Cfg) (hmk : C05T.SolidMarkers cfg.chain) :
    ∀ (c : List Char) (m₁ m₂ : InlineOps.Srcmap), C05T.MapT c m₁ → C05T.MapT c m₂ →
      Pipeline.MLe m₁ m₂ → ∀ ns₁, Inline.parseInline cfg c m₁ = .ok ns₁ →
        ∃ ns₂, Inline.parseInline cfg c m₂ = .ok ns₂ ∧ C10SP.XLT c m₁ m₂ ns₁ ns₂ :=
  fun c m₁ m₂ h₁ h₂ hle _ h => parseInline_exactT cfg c m₁ m₂ h₁ h₂ hle hmk h

namespace InlineWitnessT

theorem mapOK_one (c : List Char) (v : Nat) : Inline.MapOK c [(0, v)] := by
  refine ⟨⟨⟨v, [], rfl⟩, by simp⟩, ?_, ?_⟩
  · intro i k1 v1 k2 v2 h1 h2
    simp at h2
  · intro i k v' h hk
    match i, h with
    | 0, h => simp at h; omega
    | n + 1, h => simp at h

theorem mle_one {v w : Nat} (h : v ≤ w) : Pipeline.MLe [(0, v)] [(0, w)] := by
  refine ⟨rfl, ?_⟩
  intro i k₁ v₁ k₂ v₂ h₁ h₂
  match i, h₁, h₂ with
  | 0, h₁, h₂ => simp at h₁ h₂; omega
  | n + 1, h₁, _ => simp at h₁

theorem mle_refl (m : InlineOps.Srcmap) : Pipeline.MLe m m :=
  ⟨rfl, fun i k₁ v₁ k₂ v₂ h1 h2 => by
    rw [h1] at h2; simp only [Option.some.injEq, Prod.mk.injEq] at h2; omega⟩

theorem solidMarkers_exCfg (n : Nat) : C05T.SolidMarkers (Inline.exCfg n).chain := by
  intro mk csw h
  simp only [Inline.exCfg, List.mem_cons, List.mem_nil_iff, reduceCtorEq, Inline.RuleId.emph.injEq, false_or,
    or_false] at h
  obtain ⟨rfl, _⟩ := h
  exact ⟨rfl, by decide, by decide⟩

/-- every text, two single-line tables with different offsets -/
example (cfg : Inline.Cfg) (hmk : C05T.SolidMarkers cfg.chain) (c : List Char) {v w : Nat} (hvw : v ≤ w)
    {ns₁ : List Inline.Node} (h : Inline.parseInline cfg c [(0, v)] = .ok ns₁) :
    ∃ ns₂, Inline.parseInline cfg c [(0, w)] = .ok ns₂ ∧ XLT c [(0, v)] [(0, w)] ns₁ ns₂ :=
  parseInline_exactT cfg c _ _ (C05T.mapT_of_mapOK (mapOK_one c v)) (C05T.mapT_of_mapOK (mapOK_one c w))
    (mle_one hvw) hmk h

/-- a table WITH a split tab (the paragraph of "-    ` a\n\t\t`", `C05T.sh_exTab_mapT`; it is not
    `MapOK`: `C05T.sh_exTab_not_mapOK`): the hypotheses of the theorem hold … -/
example {ns₁ : List Inline.Node}
    (h : Inline.parseInline (Inline.exCfg 100) "` a\n   `".toList [(0, 5), (4, 11), (7, 11)] = .ok ns₁) :
    ∃ ns₂, Inline.parseInline (Inline.exCfg 100) "` a\n   `".toList [(0, 5), (4, 11), (7, 11)] = .ok ns₂ ∧
      XLT "` a\n   `".toList [(0, 5), (4, 11), (7, 11)] [(0, 5), (4, 11), (7, 11)] ns₁ ns₂ :=
  parseInline_exactT (Inline.exCfg 100) _ _ _ C05T.sh_exTab_mapT C05T.sh_exTab_mapT (mle_refl _)
    (solidMarkers_exCfg 100) h

/-- … and the run succeeds: one code span whose range `(5, 12)` is the translation of `[0, 8]` -/
example :
    (Inline.parseInline (Inline.exCfg 100) "` a\n   `".toList [(0, 5), (4, 11), (7, 11)]).toOption.map
      (fun ns => ns.map (fun n => (attrValT n.val, n.range))) = some [(true, some (5, 12))] := by
  decide +kernel

end InlineWitnessT

end MdIt.C10SP
