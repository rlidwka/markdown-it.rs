/-
  Helper development for `Props/InlineTotal.lean`: the inline tokenizer with a GUARDED memo.

  `tokLoopG cfg g` / `skipTokenG cfg g` are `tokLoop cfg` / `skipToken cfg` (`Model/Inline.lean`) with
  ONE extra test when `g = true`: a memo hit of `skip_token` whose stored end position lies BEYOND
  the current `pos_max` stops the run (reported as `Panic.fuel`, the non-Rust outcome) instead of
  being followed.  With `g = false` they are the model functions (`tokLoopG_false`,
  `skipTokenG_false` in `InlineTotalMono.lean`).  They are a specification device only (never run
  against the crate): `Props/InlineTotal.lean` proves that the guarded tokenizer never panics, i.e.
  that a memo hit beyond `pos_max` is the ONLY way the inline pass can panic.

  At the end: `ChainCoherent`, the hypothesis on the chain under which no memo hit lies beyond `pos_max`
  (`Props/MemoSafe.lean`), with `RuleId.firesAt` and `Cfg.emphMarkers`.
-/
import MdIt.Props.Inline
import MdIt.Lemmas.InlineEngine

namespace MdIt.Inline
open MdIt.InlineOps (Srcmap getSourcePosFor getMap byteLen slice)

mutual
/-- `tokLoop` over the guarded `skip_token` -/
def tokLoopG (cfg : Cfg) (g : Bool) : Nat → Nat → IState → Except Panic IState
  | fuel, end_, st =>
    if st.pos < end_ then
      match fuel with
      | 0 => .error .fuel
      | fuel + 1 =>
        match tokStep cfg (fun s => skipTokenG cfg g fuel s) (fun s => tokLoopG cfg g fuel s.posMax s)
            fuel st with
        | .error e => .error e
        | .ok st' => tokLoopG cfg g fuel end_ st'
    else .ok st
/-- `skipToken` with the guard on memo hits -/
def skipTokenG (cfg : Cfg) (g : Bool) : Nat → IState → Except Panic IState
  | 0, _ => .error .fuel
  | fuel + 1, st =>
    match st.cache.lookup st.pos with
    | some x =>
      -- the guard: a memoised end beyond the current `pos_max`
      if g = true ∧ st.posMax < x then .error .fuel else .ok { st with pos := x }
    | none =>
      if st.level < cfg.maxNesting then
        skipStep cfg (fun s => skipTokenG cfg g fuel s) (fun s => tokLoopG cfg g fuel s.posMax s) fuel st
      else
        .ok { st with pos := st.posMax, cache := cacheInsert st.cache st.pos st.posMax }
end

/-- the guarded tokenizer is the engine of `Lemmas/InlineEngine.lean` at the html-free rules -/
theorem engG (cfg : Cfg) (g : Bool) (f : Nat) :
    (∀ e st, tokLoopG cfg g f e st = (Eng.base cfg).tokLoop g f e st) ∧
    (∀ st, skipTokenG cfg g f st = (Eng.base cfg).skipToken g f st) :=
  (Eng.base cfg).unique g (fun e st => by rw [tokLoopG])
    (fun f e st => by rw [tokLoopG]; simp only [tokStep_eq_G]; rfl) (fun st => by rw [skipTokenG])
    (fun f st => by rw [skipTokenG]; simp only [skipStep_eq_G]; rfl) f

/-- `parseInline` over the guarded tokenizer -/
def parseInlineG (cfg : Cfg) (content : List Char) (mapping : Srcmap) : Except Panic (List Node) :=
  match tokLoopG cfg true (topFuel cfg content) (IState.init content mapping).posMax
      (IState.init content mapping) with
  | .error e => .error e
  | .ok st => .ok st.children

/-- the executable memo check: the guarded run completes (no memo hit beyond `pos_max` on the way) -/
def memoSafe (cfg : Cfg) (content : List Char) (mapping : Srcmap) : Bool :=
  match parseInlineG cfg content mapping with
  | .ok _ => true
  | .error _ => false

/-- the result is not a Rust panic (it is a value, or the non-Rust outcome `Panic.fuel`): `Tri NotRust (fun _ => True) r`
    with the predicates `NotRust e` / `NoFuel e` on an error of `Lemmas/InlineTri.lean`; the fuel walk writes
    `r ≠ .error .fuel` for the other half -/
def NoRust {α : Type} (r : Except Panic α) : Prop := ∀ p, r ≠ .error (.rust p)

theorem NoRust.ok {α : Type} (a : α) : NoRust (Except.ok a : Except Panic α) := by intro p h; cases h

theorem NoRust.fuel {α : Type} : NoRust (Except.error Panic.fuel : Except Panic α) := by
  intro p h; cases h

/-! ## the chain hypothesis of the theorem for coherent chains -/

/-- first characters at which a rule can answer `Some` in look-ahead mode -/
def RuleId.firesAt (id : RuleId) (c : Char) : Bool :=
  match id with
  | .text => !Entity.textStop.contains c
  | .newline => c == '\n'
  | .escape => c == '\\'
  | .backticks => c == '`'
  | .emph _ _ => false
  | .link => c == '['
  | .image => c == '!'
  | .linkEnd => false
  | .autolink => c == '<'
  | .entity => c == '&'

/-- the emphasis markers of the chain -/
def Cfg.emphMarkers (cfg : Cfg) : List Char :=
  cfg.chain.filterMap fun id => match id with | .emph m _ => some m | _ => none

/-- **the real tokenizer follows the look-ahead tiling**: every emphasis marker is a single byte at
    which no rule of the chain answers in look-ahead mode (in particular it is a text-stop
    character) — the emphasis rules are the only rules that answer in real mode but not in look-ahead
    mode, so under this condition a real delimiter run covers single-character look-ahead tokens -/
def ChainCoherent (cfg : Cfg) : Bool :=
  cfg.emphMarkers.all fun m => m.utf8Size == 1 && cfg.chain.all fun id => !id.firesAt m

end MdIt.Inline
