/-
  For `Props/MemoSafe.lean`: the memo entry `skip_token` makes at a `[` is either the single character or comes with its RECORDED label walk.

  At a `[` only the link rule can answer in look-ahead mode (`firesAt_bracket` + `silent_declines`), and
  it answers through `parse_link`, whose label walk is recorded (`parseLink_records`).  So a completed
  `skipStep` at `pos` with `src[pos] = '['` either declined everywhere (entry `pos ↦ pos + 1`) or leaves
  a memo on which — and on every extension of which — the walk over the memo alone from `pos + 1` finds
  a `]` strictly inside the new entry (`skipStep_records_link`).  With `labelLoop_replay` /
  `pwalk_shrink_found` this is what lets the real link rule, later and under a smaller `pos_max`,
  re-run `parse_link_label` over hits only.
-/
import MdIt.Lemmas.MemoSafeLabel
import MdIt.Lemmas.MemoSafeFires
import MdIt.Lemmas.MemoSafeWindow2

namespace MdIt.Inline
open MdIt.InlineOps (byteLen)

/-- at a `[` only the link rule is listed -/
theorem firesAt_bracket (id : RuleId) (h : id ≠ .link) : id.firesAt '[' = false := by
  cases id with
  | link => exact absurd rfl h
  | text => decide
  | newline => decide
  | escape => decide
  | backticks => decide
  | emph m c => rfl
  | image => decide
  | linkEnd => rfl
  | autolink => decide
  | entity => decide

/-- what the chain in look-ahead mode leaves at a `[`: it declines, or the link rule answered and
    its label walk is recorded -/
def BracketPost (fuel : Nat) (st : IState) (o : Option Nat) (st' : IState) : Prop :=
  o = none ∨ ∃ len lq, o = some len ∧ st.pos + 1 ≤ lq ∧ lq < st.pos + len ∧
    ∀ c', LookupMono st'.cache c' →
      pwalk st.src st.posMax c' false fuel 1 (st.pos + 1) = .done (some true) lq

theorem lt_of_window_cons {st : IState} (hi : LInv st) {c : Char} {rest : List Char}
    (hw : st.window = .ok (c :: rest)) : st.pos < st.posMax := by
  obtain ⟨w, hw2, _, hlen⟩ := hi.window
  rw [hw] at hw2
  simp only [Except.ok.injEq] at hw2
  subst hw2
  have := Char.utf8Size_pos c
  simp only [byteLen] at hlen; omega

/-- one rule of the chain at a `[`, between `level += 1` / `level -= 1` -/
theorem bumped_at_bracket {cfg : Cfg} {skip tok : IState → Except Panic IState} (hq : CalmFn skip)
    (hs : SkipHypT skip) (hg : SkipGrowHyp skip) (fuel : Nat) (id : RuleId) (st : IState)
    (hi : LInv st) {rest : List Char} (hw : st.window = .ok ('[' :: rest)) :
    ∀ o st', silentBumped (runRule cfg skip tok fuel id) st = .ok (o, st') →
      LInv st' ∧ st'.window = .ok ('[' :: rest) ∧ st'.pos = st.pos ∧ st'.src = st.src ∧
      st'.posMax = st.posMax ∧ BracketPost fuel st o st' := by
  intro o st' hb
  have hlt := lt_of_window_cons hi hw
  have hiB : LInv { st with level := st.level + 1 } :=
    ⟨hi.le, hi.bpos, hi.bmax, hi.wf, hi.stop, hi.memo⟩
  have hwB : ({ st with level := st.level + 1 } : IState).window = .ok ('[' :: rest) := hw
  have hT := runRule_silent_T (cfg := cfg) (tok := tok) hq hs fuel id _ hiB hlt
  unfold silentBumped at hb
  split at hb
  · simp at hb
  · next r0 s0 he =>
    split at hb
    · simp at hb
    · simp only [Except.ok.injEq, Prod.mk.injEq] at hb
      obtain ⟨rfl, rfl⟩ := hb
      obtain ⟨a, b, c, _⟩ := hT.ok _ _ he
      refine ⟨⟨a.le, a.bpos, a.bmax, a.wf, a.stop, a.memo⟩, ?_, c, b.src, b.posMax, ?_⟩
      · rw [← hw]; exact window_congr b.src c b.posMax
      · by_cases hid : id = .link
        · -- the link rule: through `parse_link`
          subst hid
          unfold runRule at he
          simp only at he
          unfold ruleLink at he
          rw [hwB] at he
          simp only [liftR] at he
          rw [if_neg (by simp)] at he
          obtain ⟨hb1, hle1⟩ := after_first (st := { st with level := st.level + 1 }) (by decide)
            (window_eq hwB)
          unfold linkRule at he
          simp only at he
          split at he
          · simp at he
          · simp only [Except.ok.injEq, Prod.mk.injEq] at he
            exact .inl he.1.symm
          · next res s1 hpl =>
            simp only [if_true] at he
            split at he
            · simp at he
            · next hnu =>
              simp only [Except.ok.injEq, Prod.mk.injEq] at he
              obtain ⟨rfl, rfl⟩ := he
              have hrec := parseLink_records (cfg := cfg) hq hs hg fuel _ _ false hiB hb1 hle1 _ _ hpl
              have hres := ((parseLink_T (cfg := cfg) hq hs fuel _ _ false hiB hb1 hle1).2 _ _ hpl).2.2.2
                res rfl
              have h1 := hres.labelStart; have h2 := hres.labelLe; have h3 := hres.endGt
              simp only at h1 hrec
              refine .inr ⟨_, res.labelEnd, rfl, by omega, ?_, ?_⟩
              · simp only at c hnu ⊢; omega
              · intro c' hc'
                exact hrec.2 c' hc'
        · exact .inl (silent_declines hwB (firesAt_bracket id hid) _ _ he)

/-- the whole chain in look-ahead mode at a `[` -/
theorem chain_at_bracket {cfg : Cfg} {skip tok : IState → Except Panic IState} (hq : CalmFn skip)
    (hs : SkipHypT skip) (hg : SkipGrowHyp skip) (fuel : Nat) {rest : List Char} :
    ∀ (rules : List RuleId) (st : IState), LInv st → st.window = .ok ('[' :: rest) →
      ∀ o st', firstRule (fun id s => silentBumped (runRule cfg skip tok fuel id) s) rules st
          = .ok (o, st') →
        st'.window = .ok ('[' :: rest) ∧ st'.pos = st.pos ∧ BracketPost fuel st o st' := by
  intro rules
  induction rules with
  | nil =>
    intro st _ hw o st' h
    simp only [firstRule, Except.ok.injEq, Prod.mk.injEq] at h
    obtain ⟨rfl, rfl⟩ := h
    exact ⟨hw, rfl, .inl rfl⟩
  | cons r rs ih =>
    intro st hi hw o st' h
    unfold firstRule at h
    split at h
    · simp at h
    · next n st1 he =>
      simp only [Except.ok.injEq, Prod.mk.injEq] at h
      obtain ⟨rfl, rfl⟩ := h
      obtain ⟨_, a, b, _, _, c⟩ := bumped_at_bracket hq hs hg fuel r st hi hw _ _ he
      exact ⟨a, b, c⟩
    · next st1 he =>
      obtain ⟨hi1, hw1, hp1, hs1, hm1, _⟩ := bumped_at_bracket hq hs hg fuel r st hi hw _ _ he
      obtain ⟨a, b, c⟩ := ih st1 hi1 hw1 o st' h
      refine ⟨a, by rw [b, hp1], ?_⟩
      rcases c with c | ⟨len, lq, c1, c2, c3, c4⟩
      · exact .inl c
      · refine .inr ⟨len, lq, c1, by omega, by omega, ?_⟩
        intro c' hc'
        have := c4 c' hc'
        rw [hs1, hm1, hp1] at this
        exact this

/-- **at creation**: the entry a completed look-ahead step makes at a `[` (memo miss, below the
    nesting limit) is the single character, or the memo it returns — and every extension of it —
    records a label walk from `pos + 1` that finds a `]` strictly inside the entry. -/
theorem skipStep_records_link {cfg : Cfg} {skip tok : IState → Except Panic IState} (hq : CalmFn skip)
    (hs : SkipHypT skip) (hg : SkipGrowHyp skip) (fuel : Nat) (st : IState) (hi : LInv st)
    {rest : List Char} (hw : st.window = .ok ('[' :: rest)) (hmiss : st.cache.lookup st.pos = none) :
    ∀ st', skipStep cfg skip tok fuel st = .ok st' →
      st'.cache.lookup st.pos = some st'.pos ∧
      (st'.pos = st.pos + 1 ∨
       ∃ lq, st.pos + 1 ≤ lq ∧ lq < st'.pos ∧ ∀ c', LookupMono st'.cache c' →
         pwalk st.src st.posMax c' false fuel 1 (st.pos + 1) = .done (some true) lq) := by
  have hlt := lt_of_window_cons hi hw
  intro st' h
  refine ⟨(skipStep_grow (tok := tok) hq hs hg fuel st hi hlt hmiss st' h).2, ?_⟩
  -- the chain
  have hTrun : ∀ id s, LInv s → s.pos < s.posMax →
      SilT s (silentBumped (runRule cfg skip tok fuel id) s) := by
    intro id s his hls
    apply silentBumped_T
    exact runRule_silent_T hq hs fuel id _ ⟨his.le, his.bpos, his.bmax, his.wf, his.stop, his.memo⟩ hls
  have hGrun : ∀ id s, LInv s → s.pos < s.posMax → ∀ o s',
      silentBumped (runRule cfg skip tok fuel id) s = .ok (o, s') →
      Grow (s.pos + 1) s.posMax s.cache s'.cache := by
    intro id s his hls
    apply silentBumped_grow
    exact runRule_silent_grow hq hs hg fuel id _
      ⟨his.le, his.bpos, his.bmax, his.wf, his.stop, his.memo⟩ hls
  unfold skipStep at h
  simp only at h
  split at h
  · simp at h
  · next len st1 he =>
    simp only [Except.ok.injEq] at h
    subst h
    obtain ⟨_, hp1, hpost⟩ := chain_at_bracket hq hs hg fuel cfg.chain st hi hw _ _ he
    have hgrow := firstRule_silent_grow hTrun hGrun cfg.chain st hi hlt _ _ he
    rcases hpost with hn | ⟨len', lq, c1, c2, c3, c4⟩
    · simp at hn
    · simp only [Option.some.injEq] at c1
      subst c1
      right
      refine ⟨lq, c2, by simp only; omega, ?_⟩
      intro c' hc'
      apply c4 c'
      refine LookupMono.trans ?_ hc'
      -- the insertion at `pos` does not shadow anything: the key was missing and is untouched
      intro k v hk
      simp only
      rw [lookup_cacheInsert]
      by_cases hkp : k = st.pos
      · subst hkp
        rw [hgrow.low _ (by omega), hmiss] at hk
        cases hk
      · rw [if_neg hkp]; exact hk
  · next st1 he =>
    obtain ⟨hw1, hp1, _⟩ := chain_at_bracket hq hs hg fuel cfg.chain st hi hw _ _ he
    unfold firstChar at h
    rw [hw1] at h
    simp only [liftR, Except.ok.injEq] at h
    subst h
    left
    simp only
    rw [hp1]
    rfl

/-- **L2 for link entries, the label part**: where the memo records a label walk from `k + 1` that
    found `lq` (under the `pos_max = M` of the look-ahead that made it), `parse_link_label` of the real
    link rule at `k` — in a nested frame with a smaller `pos_max` that still contains `lq`, at any
    level, with less fuel, over the model's or the guarded `skip_token` — finds the same `lq`, by memo
    hits only: the state it returns is the state it was given. -/
theorem parseLinkLabel_replay {skip : IState → Except Panic IState} (hs : FollowsHits skip)
    (s : IState) (k : Nat) {M lq n : Nat}
    (hrec : pwalk s.src M s.cache false n 1 (k + 1) = .done (some true) lq)
    (hf : MemoInv s) (hb : Boundary s.src s.posMax) (hle : s.posMax ≤ M) (hlt : lq < s.posMax)
    (fuel : Nat) (hfuel : lq - (k + 1) + 1 ≤ fuel) :
    parseLinkLabel skip fuel s k false = .ok (some lq, s) := by
  have h1 := pwalk_shrink_found hf hb hle false _ _ _ _ hrec hlt
  have h2 := pwalk_fuel hf false _ _ _ _ _ h1 fuel hfuel
  have h3 := labelLoop_replay hs false fuel 1 { s with pos := k + 1 } (some true) lq h2
  unfold parseLinkLabel
  simp only
  rw [h3]
  cases s
  rfl

/-- **link entries, inline form**: a successful `parse_link` of the inline form
    `[label](dest "title")`, made by a look-ahead under `pos_max = M`, is REPLAYED IDENTICALLY by the
    link rule in every later state of a frame with a smaller `pos_max` that still contains the link
    (same text, memo an extension, `pos_max` on a boundary, enough fuel for the label): same label,
    same destination, same end — by memo hits only (`labelLoop_replay`) and window independence of the
    tail (`parseInlineTail_window`); the state is returned unchanged. -/
theorem parseLink_replay_inline {cfg : Cfg} {skip0 skip : IState → Except Panic IState}
    (hq : CalmFn skip0) (hs0 : SkipHypT skip0) (hg : SkipGrowHyp skip0) (fuel0 : Nat) (st0 : IState)
    (k : Nat) (hi : LInv st0) (hb0 : Boundary st0.src (k + 1)) (hle0 : k + 1 ≤ st0.posMax)
    {res : LinkRes} {st0' : IState}
    (h0 : parseLink cfg skip0 fuel0 st0 k false = .ok (some res, st0'))
    {il : Link.InlineLink}
    (htail : Link.parseInlineTail (Entity.unescapeAll cfg.entity) st0.src (res.labelEnd + 1) st0.posMax
      = .ok (some il))
    (hs : FollowsHits skip) (s : IState) (hsrc : s.src = st0.src) (hext : LookupMono st0'.cache s.cache)
    (hf : MemoInv s) (hb : Boundary s.src s.posMax) (hle : s.posMax ≤ st0.posMax)
    (hend : res.endPos ≤ s.posMax) (fuel : Nat) (hfuel : res.labelEnd - (k + 1) + 1 ≤ fuel) :
    parseLink cfg skip fuel s k false = .ok (some res, s) := by
  obtain ⟨_, hrec⟩ := parseLink_records (cfg := cfg) hq hs0 hg fuel0 st0 k false hi hb0 hle0 res st0' h0
  have hres := ((parseLink_T (cfg := cfg) hq hs0 fuel0 st0 k false hi hb0 hle0).2 _ _ h0).2.2.2 res rfl
  -- the shape of `res`
  have hshape : res = (⟨k + 1, res.labelEnd, il.href, il.title, il.endPos⟩ : LinkRes) := by
    have hc := (parseLink_T (cfg := cfg) hq hs0 fuel0 st0 k false hi hb0 hle0).2 _ _ h0
    unfold parseLink at h0
    split at h0
    · simp at h0
    · simp at h0
    · next labelEnd st1 hl =>
      have hc1 := parseLinkLabel_calm hq hl
      simp only at h0
      split at h0
      · simp at h0
      · next il' hil' =>
        simp only [Except.ok.injEq, Prod.mk.injEq, Option.some.injEq] at h0
        obtain ⟨h0r, _⟩ := h0
        have hle' : res.labelEnd = labelEnd := by rw [← h0r]
        rw [hc1.src, hc1.posMax, ← hle', htail] at hil'
        simp only [Except.ok.injEq, Option.some.injEq] at hil'
        subst hil'
        rw [← h0r]
      · next hnone =>
        exfalso
        have hc1' := parseLinkLabel_calm hq hl
        have href := (parseLinkRef_T (cfg := cfg) hq hs0 fuel0 st1 (k + 1) labelEnd
          ((parseLinkLabel_T hq hs0 false fuel0 st0 k hi hb0 hle0).2 _ _ hl).1
          (by rw [hc1'.src]; exact hb0)
          (((parseLinkLabel_T hq hs0 false fuel0 st0 k hi hb0 hle0).2 _ _ hl).2.2.2 labelEnd rfl).1
          (by
            rw [hc1'.src, hc1'.posMax]
            exact (((parseLinkLabel_T hq hs0 false fuel0 st0 k hi hb0 hle0).2 _ _ hl).2.2.2
              labelEnd rfl).2)).2 _ _ h0
        have hle' : res.labelEnd = labelEnd := (href.2 res rfl).2.1
        rw [hc1'.src, hc1'.posMax, ← hle', htail] at hnone
        simp at hnone
  have hend' : il.endPos ≤ s.posMax := by
    have : res.endPos = il.endPos := by rw [hshape]
    omega
  have hlq : res.labelEnd < s.posMax := by have := hres.endGt; omega
  -- the label: memo hits only
  have hlab := parseLinkLabel_replay hs s k
    (by rw [hsrc]; exact hrec s.cache hext) hf hb hle hlq fuel hfuel
  -- the tail: window independence
  have hbM : Boundary s.src st0.posMax := by rw [hsrc]; exact hi.bmax
  have htail' := (parseInlineTail_window (decOk_unescapeAll cfg.entity) hb hbM hle il).mp
    ⟨by rw [hsrc]; exact htail, hend'⟩
  unfold parseLink
  rw [hlab]
  simp only
  rw [htail']
  simp only
  rw [hshape]

end MdIt.Inline
