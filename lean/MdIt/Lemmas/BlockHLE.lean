/-
  The lock-step simulation of `MdIt.Block.LE` (`Lemmas/C10Doc*.lean`: two runs of the block parser on
  two sources whose line tables are entrywise related) extended to the ten-rule engine of
  `Model/BlockH.lean`.

  Reused verbatim: the nine rule simulations (`runRule_sim`, stated for arbitrary `TokSim` / `TestSim`
  call-backs) and `tokLoop_sim` (through `tokLoopG_eq`: the ten-rule chain is ONE rule of a `Block`
  chain).  New: the html rule — it reads the state through `line_indent` / `get_line` / `line_max` only
  (`Html.blockScan_congr`), and builds its node with `get_lines` / `get_map`.  `html_simR` states this for every
  instance of the block simulation of `Lemmas/C10Sim*.lean`, `html_sim` reads it off for `LE`.
-/
import MdIt.Lemmas.BlockH
import MdIt.Lemmas.C10DocEngine
import MdIt.Lemmas.BlockReads

namespace MdIt.BlockH
open MdIt.Block MdIt.Block.LE
open MdIt.Lines (LineOffset)
variable {ρ : Nat → Nat → Prop} {G : Geo}

/-- `htmlRule` written as a `do` block (the form the lock-step toolkit works on) -/
def htmlRuleDo (s : BState) (silent : Bool) : Res := do
  let ind ← s.lineIndent s.line
  if ind ≥ 4 then pure (false, s) else do
  let lt ← s.getLine s.line
  if lt.head? ≠ some '<' then pure (false, s) else
  match Html.openSeq lt with
  | none => pure (false, s)
  | some i =>
    if silent then pure (Html.canTerminate i, s) else do
    let nextLine ← (if Html.closeMatch i lt then (.ok (s.line + 1) : Except Panic Nat) else Html.blockScan s i (s.line + 1))
    let q ← ({ s with line := nextLine } : BState).getLines s.line nextLine s.blkIndent true
    let e1 ← psub nextLine 1
    let r ← ({ s with line := nextLine } : BState).getMap s.line e1
    pure (true, ({ s with line := nextLine } : BState).push (htmlNode ⟨q.1, r⟩))

theorem htmlRule_eq_do (s : BState) (silent : Bool) : htmlRule s silent = htmlRuleDo s silent := by
  unfold htmlRule Html.htmlBlockRule htmlRuleDo
  cases h1 : s.lineIndent s.line with
  | error e => rfl
  | ok ind =>
    simp only [bind, Except.bind, pure, Except.pure]
    by_cases h4 : ind ≥ 4
    · simp only [if_pos h4]
    · simp only [if_neg h4]
      cases h2 : s.getLine s.line with
      | error e => rfl
      | ok lt =>
        simp only
        by_cases hh : lt.head? ≠ some '<'
        · simp only [if_pos hh]
        · simp only [if_neg hh]
          cases h3 : Html.openSeq lt with
          | none => rfl
          | some i =>
            simp only
            by_cases hs : silent = true
            · simp only [if_pos hs]
            · simp only [if_neg hs]
              cases h5 : (if Html.closeMatch i lt = true then (Except.ok (s.line + 1) : Except Panic Nat)
                  else Html.blockScan s i (s.line + 1)) with
              | error e => rfl
              | ok nl =>
                simp only
                cases h6 : ({ s with line := nl } : BState).getLines s.line nl s.blkIndent true with
                | error e => rfl
                | ok q =>
                  obtain ⟨content, mp⟩ := q
                  simp only
                  cases h7 : psub nl 1 with
                  | error e => rfl
                  | ok e1 =>
                    simp only
                    cases h8 : ({ s with line := nl } : BState).getMap s.line e1 with
                    | error e => rfl
                    | ok r => rfl

section html
open MdIt.Block.LX (Sim.SRel Sim.ResRel Sim.Ctx Sim.Rels)
open MdIt.Block.LX.Y (Live)
variable {R : Sim.Rels}

theorem blockScan_sim {s₁ s₂ : BState} (S : Sim.SRel R G s₁ s₂) (i n : Nat) :
    Html.blockScan s₂ i n = Html.blockScan s₁ i n :=
  Html.blockScan_congr S.lineMax (fun n => S.lineIndent n) (fun n => S.getLine n) i _ n (Nat.le_refl _)

/-- the html rule in lock step, for every instance of the block simulation: same verdict, same `line`, nodes
    with EQUAL content and `R.τ`-related range -/
theorem html_simR (C : Sim.Ctx R G) {s₁ s₂ : BState} (S : Sim.SRel R G s₁ s₂) (silent : Bool)
    (hne : R.strict → silent = false → Live s₁) :
    FRel (Sim.ResRel R G) (htmlRule s₁ silent) (htmlRule s₂ silent) := by
  rw [htmlRule_eq_do, htmlRule_eq_do]
  unfold htmlRuleDo
  rw [S.line, S.lineIndent, S.getLine]
  refine frel_bind_same _ ?_
  intro ind _
  split
  · exact frel_pure ⟨rfl, S⟩
  refine frel_bind_same _ ?_
  intro lt _
  split
  · exact frel_pure ⟨rfl, S⟩
  split
  · exact frel_pure ⟨rfl, S⟩
  split
  · exact frel_pure ⟨rfl, S⟩
  next hsil =>
  rw [blockScan_sim S, S.blkIndent]
  refine frel_bind_same _ ?_
  intro nl _
  refine frel_bind ((S.withLine nl).getLines _ _ _ _) ?_
  intro q₁ q₂ hq
  obtain ⟨c₁, m₁⟩ := q₁
  obtain ⟨c₂, m₂⟩ := q₂
  obtain ⟨hc, _⟩ := hq
  simp only at hc ⊢
  subst hc
  refine frel_bind_same _ ?_
  intro e1 _
  refine frel_bind ((S.withLine nl).getMap C _ _ fun hs => (hne hs (by simpa using hsil)).2) ?_
  intro r₁ r₂ hr
  refine frel_pure ⟨rfl, ?_⟩
  srel_fields S
  exact S.children.push (LX.Sim.NRel.mk (C.toKOk.of_ne (by intro c m h; cases h)) hr LX.Sim.NRelL.nil)

end html

theorem html_sim (C : Ctx ρ G) {s₁ s₂ : BState} (S : SRel ρ G s₁ s₂) (silent : Bool) :
    FRel (ResRel ρ G) (htmlRule s₁ silent) (htmlRule s₂ silent) := by
  rw [srel_eq C.shift] at S; rw [resRel_eq C.shift]
  exact html_simR C.sim S silent (fun h => h.elim)

theorem runRuleH_sim (cfg : Cfg) (C : Ctx ρ G) {tok₁ tok₂ : Tok} (TK : TokSim ρ G tok₁ tok₂) {test₁ test₂ : Test}
    (TS : TestSim ρ G test₁ test₂) {f₁ f₂ : Nat} (hf : f₁ ≤ f₂) (r : RuleIdH) {s₁ s₂ : BState}
    (S : SRel ρ G s₁ s₂) (silent : Bool) :
    FRel (ResRel ρ G) (runRuleH cfg tok₁ test₁ f₁ r s₁ silent) (runRuleH cfg tok₂ test₂ f₂ r s₂ silent) := by
  cases r with
  | base r => exact runRule_sim cfg C TK TS hf r S silent
  | html => exact html_sim C S silent

theorem runChainG_sim {ι : Type} {run₁ run₂ : ι → BState → Bool → Res}
    (R : ∀ r s₁ s₂ b, SRel ρ G s₁ s₂ → FRel (ResRel ρ G) (run₁ r s₁ b) (run₂ r s₂ b)) :
    ∀ (chain : List ι) (s₁ s₂ : BState) (b : Bool), SRel ρ G s₁ s₂ →
      FRel (ResRel ρ G) (runChainG run₁ chain s₁ b) (runChainG run₂ chain s₂ b) :=
  fun chain s₁ s₂ b S =>
    frel_iff.mpr (runChainG_rel2 (P := fun _ => True) (fun r _ _ S _ => frel_iff.mp (R r _ _ b S))
      (fun _ _ _ _ _ => trivial) chain s₁ s₂ S trivial)

theorem engineH_sim (cfg : Cfg) (chain : List RuleIdH) (C : Ctx ρ G) : ∀ (f₁ f₂ : Nat), f₁ ≤ f₂ →
    TokSim ρ G (tokenizeH cfg chain f₁) (tokenizeH cfg chain f₂) ∧
    TestSim ρ G (testRulesH cfg chain f₁) (testRulesH cfg chain f₂) := by
  intro f₁
  induction f₁ with
  | zero =>
    intro f₂ _
    exact ⟨fun s₁ s₂ _ => frel_fuel _, fun s₁ s₂ _ => frel_fuel _⟩
  | succ f ih =>
    intro f₂ hf
    obtain ⟨g, rfl⟩ : ∃ g, f₂ = g + 1 := ⟨f₂ - 1, by omega⟩
    obtain ⟨TK, TS⟩ := ih g (by omega)
    have R := runChainG_sim (ρ := ρ) (G := G)
      (run₁ := runRuleH cfg (tokenizeH cfg chain f) (testRulesH cfg chain f) (f + 1))
      (run₂ := runRuleH cfg (tokenizeH cfg chain g) (testRulesH cfg chain g) (g + 1))
      (fun r s₁ s₂ b S => runRuleH_sim cfg C TK TS (by omega) r S b) chain
    constructor
    · intro s₁ s₂ S
      simp only [tokenizeH, engineH]
      rw [tokLoopG_eq, tokLoopG_eq]
      exact tokLoop_sim (oneCfg cfg) C (fun _ s₁ s₂ b S => R s₁ s₂ b S) _ _ _ _ _ (by omega) S
    · intro s₁ s₂ S
      simp only [testRulesH, engineH]
      exact R _ _ _ S

/-- **the ten-rule tokenizer on related states, side 2 with at least as much fuel** -/
theorem tokenizeH_sim (cfg : Cfg) (chain : List RuleIdH) (C : Ctx ρ G) {f₁ f₂ : Nat} (hf : f₁ ≤ f₂)
    {s₁ s₂ : BState} (S : SRel ρ G s₁ s₂) :
    FRel (SRel ρ G) (tokenizeH cfg chain f₁ s₁) (tokenizeH cfg chain f₂ s₂) :=
  (engineH_sim cfg chain C f₁ f₂ hf).1 s₁ s₂ S

end MdIt.BlockH
