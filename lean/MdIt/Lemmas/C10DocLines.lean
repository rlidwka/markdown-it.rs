/-
  C10 without the sourcepos plugin: the line lists of `src`, `lfToCrlf src`, `lfToCr src`,
  `src ++ "\n"` are `StartRel`: the same lines, starts moved right (`≤`, CR LF) or not at all (`=`, CR and
  the final newline).  That the tables are then entrywise `ERel` and the fresh parser states related is
  `erel_of_startRel`, `srel_fresh` of Lemmas/C10SourceposSimLines.lean.
  The line list of each rewritten text is the line list of `src` with other terminators
  (`Lines.linesT_lfToCrlf`, `linesT_lfToCr`, `linesT_snoc_lf`), so `StartRel` is a fact about the byte
  lengths of the terminators (`startRel_le_reTerm`, `startRel_eq_reTerm`).
-/
import MdIt.Lemmas.C10DocEngine

namespace MdIt.Block.LE
open MdIt.Lines (LineOffset linesT flat mkOff offsetsOf lfToCrlf lfToCr reTerm)

/-- two lists of (line, terminator) pairs laid out from `st₁` / `st₂`: the same lines, and every
    line start `ρ`-related -/
def StartRel (ρ : Nat → Nat → Prop) : Nat → Nat → List (List Char × List Char) → List (List Char × List Char) → Prop
  | _, _, [], [] => True
  | st₁, st₂, x :: r₁, y :: r₂ =>
    x.1 = y.1 ∧ ρ st₁ st₂ ∧
      StartRel ρ (st₁ + Lines.byteLen x.1 + Lines.byteLen x.2) (st₂ + Lines.byteLen y.1 + Lines.byteLen y.2) r₁ r₂
  | _, _, [], _ :: _ => False
  | _, _, _ :: _, [] => False

theorem StartRel.length {ρ : Nat → Nat → Prop} : ∀ {st₁ st₂ : Nat} {L₁ L₂ : List (List Char × List Char)},
    StartRel ρ st₁ st₂ L₁ L₂ → L₁.length = L₂.length
  | _, _, [], [], _ => rfl
  | _, _, [], _ :: _, h => by simp [StartRel] at h
  | _, _, _ :: _, [], h => by simp [StartRel] at h
  | _, _, _ :: _, _ :: _, h => by
    simp only [StartRel] at h
    simp [StartRel.length h.2.2]

theorem startRel_le_reTerm {g : List Char → List Char} (hg : ∀ t, Lines.byteLen t ≤ Lines.byteLen (g t)) :
    ∀ (L : List (List Char × List Char)) (st₁ st₂ : Nat), st₁ ≤ st₂ → StartRel (· ≤ ·) st₁ st₂ L (reTerm g L)
  | [], _, _, _ => trivial
  | x :: r, st₁, st₂, h => by
    simp only [reTerm, List.map_cons, StartRel]
    exact ⟨trivial, h, startRel_le_reTerm hg r _ _ (by have := hg x.2; omega)⟩

theorem startRel_eq_reTerm {g : List Char → List Char} :
    ∀ (L : List (List Char × List Char)) (st : Nat),
      (∀ A lt B, L = A ++ lt :: B → B ≠ [] → Lines.byteLen (g lt.2) = Lines.byteLen lt.2) →
      StartRel Eq st st L (reTerm g L)
  | [], _, _ => trivial
  | [x], _, _ => by simp [reTerm, StartRel]
  | x :: y :: r, st, h => by
    have e := h [] x (y :: r) rfl (by simp)
    have ih := startRel_eq_reTerm (g := g) (y :: r) (st + Lines.byteLen x.1 + Lines.byteLen x.2)
      (fun A lt B hL hB => h (x :: A) lt B (by rw [hL]; rfl) hB)
    simp only [reTerm, List.map_cons, StartRel] at ih ⊢
    rw [e]
    exact ⟨trivial, trivial, trivial, rfl, ih.2.2⟩

theorem byteLen_lfToCrlf (s : List Char) : Lines.byteLen s ≤ Lines.byteLen (lfToCrlf s) := by
  induction s with
  | nil => simp [lfToCrlf]
  | cons c r ih =>
    simp only [lfToCrlf]
    split
    · rename_i h; subst h
      simp only [Lines.byteLen_cons]; omega
    · simp only [Lines.byteLen_cons]; omega

theorem byteLen_lfToCr (s : List Char) : Lines.byteLen (lfToCr s) = Lines.byteLen s := by
  induction s with
  | nil => simp [lfToCr]
  | cons c r ih =>
    simp only [lfToCr]
    split
    · rename_i h; subst h
      simp only [Lines.byteLen_cons, ih]
      have : '\r'.utf8Size = '\n'.utf8Size := by decide
      omega
    · simp only [Lines.byteLen_cons, ih]

theorem linesT_crlf {s : List Char} (h : '\r' ∉ s) : StartRel (· ≤ ·) 0 0 (linesT s) (linesT (lfToCrlf s)) := by
  rw [Lines.linesT_lfToCrlf h]
  exact startRel_le_reTerm byteLen_lfToCrlf _ 0 0 (Nat.le_refl 0)

theorem linesT_cr {s : List Char} (h : '\r' ∉ s) : StartRel Eq 0 0 (linesT s) (linesT (lfToCr s)) := by
  rw [Lines.linesT_lfToCr h]
  exact startRel_eq_reTerm _ 0 fun _ lt _ _ _ => byteLen_lfToCr lt.2

theorem linesT_final {s : List Char} (h : s.getLast? ≠ some '\n' ∧ s.getLast? ≠ some '\r') :
    StartRel Eq 0 0 (linesT s) (linesT (s ++ ['\n'])) := by
  rw [Lines.linesT_snoc_lf h]
  exact startRel_eq_reTerm _ 0 fun _ _ _ hL hB => by rw [if_neg (Lines.linesT_term_ne_nil hL hB)]

theorem fuelFor_mono (cfg : Cfg) {s₁ s₂ : List Char} (hl : (linesT s₁).length = (linesT s₂).length)
    (hb : Lines.byteLen s₁ ≤ Lines.byteLen s₂) : fuelFor cfg s₁ ≤ fuelFor cfg s₂ := by
  unfold fuelFor
  rw [Lines.splitLines_eq, Lines.splitLines_eq, Lines.offsetsOf_length, Lines.offsetsOf_length, hl]
  omega

def geoOf (s₁ s₂ : List Char) : Geo :=
  ⟨s₁, s₂, (Lines.splitLines s₁).map geom, (Lines.splitLines s₂).map geom⟩

theorem incT_split (s : List Char) : IncT ((Lines.splitLines s).map geom) := by
  intro i j a b hij ha hb
  simp only [List.getElem?_map, Option.map_eq_some_iff] at ha hb
  obtain ⟨o, ho, rfl⟩ := ha
  obtain ⟨o', ho', rfl⟩ := hb
  have := Lines.offsets_increasing (Lines.split_offsets_valid s) i j o o' hij ho ho'
  simp only [geom]; omega

theorem ctx_of {ρ : Nat → Nat → Prop} (hs : Shift ρ) (s₁ s₂ : List Char) : Ctx ρ (geoOf s₁ s₂) :=
  ⟨hs, incT_split s₁, incT_split s₂⟩

end MdIt.Block.LE
