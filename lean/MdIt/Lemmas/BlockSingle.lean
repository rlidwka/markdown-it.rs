/-
  The block pass on a document that ONE rule consumes on the first line: the chain reaches the rule through rules
  that decline (`runChain_reach`), the tokenizer loop runs one iteration and the exit test (`tokLoop_single`), the
  budget `parseBlocks` starts with suffices (`tokenize_single_at`, `parseBlocks_single_at`: the chain's answer is
  asked at the one budget the run uses, `fuelFor cfg src - 1`).  Users: the documents `Props/C06.lean` /
  `Props/C06List.lean` wrap in a container, the one-block documents of C11, C12, C13, C14.
-/
import MdIt.Props.Block

namespace MdIt.Block

theorem runChain_reach {run : RuleId → BState → Bool → Res} {pre post : List RuleId} {r : RuleId}
    {s s' : BState} (hpre : ∀ q ∈ pre, run q s false = .ok (false, s))
    (hr : run r s false = .ok (true, s')) :
    runChain run (pre ++ r :: post) s false = .ok (true, s') := by
  rw [runChain_eq_G, runChainG_declined hpre]
  simp only [BlockH.runChainG, hr]

/-- the same when `r0` is the one member of the chain that does not decline -/
theorem C12.runChain_only (run : RuleId → BState → Bool → Res) (chain : List RuleId) (s s' : BState)
    (r0 : RuleId) (hmem : r0 ∈ chain) (hfire : run r0 s false = .ok (true, s'))
    (hq : ∀ r ∈ chain, r ≠ r0 → run r s false = .ok (false, s)) :
    runChain run chain s false = .ok (true, s') := by
  obtain ⟨pre, post, rfl, hn⟩ := List.eq_append_cons_of_mem hmem
  exact runChain_reach (fun q hq' => hq q (by simp [hq']) (fun e => hn (e ▸ hq'))) hfire

/-- the tokenizer loop on a state whose current line is not empty, at a non-negative indent, below
    the nesting limit: when the chain answers `true` and leaves `line = line_max`, the loop ends
    after this one iteration (`fuel ≥ 2`: the iteration and the exit test) -/
theorem tokLoop_single {cfg : Cfg} {run : RuleId → BState → Bool → Res} (f : Nat) (he : Bool)
    {s s' : BState} {i : Int} (hlt : s.line < s.lineMax) (hne : s.isEmpty s.line = false)
    (hind : s.lineIndent s.line = .ok i) (hi : 0 ≤ i) (hlvl : s.level < cfg.maxNesting)
    (hchain : runChain run cfg.chain s false = .ok (true, s'))
    (hprog : s.line < s'.line) (hend : s'.line = s'.lineMax) :
    tokLoop cfg run (f + 2) he s = .ok { s' with tight := !he } := by
  have hskip : Lines.skipEmptyLines s.offs s.lineMax s.line = s.line :=
    (skipEmpty_spec s.offs s.lineMax s.line).2.2.1 hne
  have h1 : 1 ≤ s'.line := by omega
  rw [tokLoop]
  simp only [hlt, not_true_eq_false, if_false, hskip, hind, ok_bind, hchain, afterChain, if_true,
    hprog, pure, Except.pure, psub, h1]
  rw [if_neg (by omega), if_neg (by omega), if_neg (by omega), if_neg (by omega), tokLoop,
    if_pos (by simp only []; omega)]

section
variable {cfg : Cfg} {src : List Char} {s' : BState} {i : Int} (hmn : 0 < cfg.maxNesting)
  (hlt : 0 < (BState.fresh src .root []).lineMax) (hne : (BState.fresh src .root []).isEmpty 0 = false)
  (hind : (BState.fresh src .root []).lineIndent 0 = .ok i) (hi : 0 ≤ i)
include hmn hlt hne hind hi

theorem tokenize_single_at {f : Nat} (hf : fuelFor cfg src = f + 2)
    (hchain : runChain (ruleAt cfg (f + 1)) cfg.chain (BState.fresh src .root []) false = .ok (true, s'))
    (hprog : 0 < s'.line) (hend : s'.line = s'.lineMax) :
    tokenize cfg (fuelFor cfg src) (BState.fresh src .root []) = .ok { s' with tight := true } := by
  rw [hf, tokenize_succ,
    tokLoop_single (cfg := cfg) f false (s := BState.fresh src .root []) hlt hne hind hi hmn hchain hprog hend]
  rfl

theorem parseBlocks_single_at {f : Nat} (hf : fuelFor cfg src = f + 2)
    (hchain : runChain (ruleAt cfg (f + 1)) cfg.chain (BState.fresh src .root []) false = .ok (true, s'))
    (hprog : 0 < s'.line) (hend : s'.line = s'.lineMax) (hk : s'.nodeKind = .root) :
    parseBlocks cfg src = .ok (⟨.root, some (0, Lines.byteLen src), s'.children⟩, s'.refs) := by
  unfold parseBlocks
  rw [tokenize_single_at hmn hlt hne hind hi hf hchain hprog hend]
  simp [hk]
end

/-- the run when the chain, on the first line, reaches a rule that consumes the document.  The chain's answer is
    asked only at budgets `f ≥ #lines`, `f ≥ 1` (the run has `fuelFor cfg src = f + 1` with
    `f = #lines + min max_nesting |src| + 7`): a rule that scans several lines burns one unit per line, and
    `testRules cfg 0` is out of fuel -/
theorem tokenize_single {cfg : Cfg} {src : List Char} {s' : BState} {i : Int}
    (hmn : 0 < cfg.maxNesting)
    (hlt : 0 < (BState.fresh src .root []).lineMax)
    (hne : (BState.fresh src .root []).isEmpty 0 = false)
    (hind : (BState.fresh src .root []).lineIndent 0 = .ok i) (hi : 0 ≤ i)
    (hchain : ∀ f, (Lines.splitLines src).length ≤ f → 1 ≤ f →
      runChain (ruleAt cfg f) cfg.chain (BState.fresh src .root []) false = .ok (true, s'))
    (hprog : 0 < s'.line) (hend : s'.line = s'.lineMax) :
    tokenize cfg (fuelFor cfg src) (BState.fresh src .root []) = .ok { s' with tight := true } :=
  tokenize_single_at hmn hlt hne hind hi (f := (Lines.splitLines src).length + min cfg.maxNesting (Lines.byteLen src) + 6)
    (by unfold fuelFor; omega) (hchain _ (by omega) (by omega)) hprog hend

theorem parseBlocks_single {cfg : Cfg} {src : List Char} {s' : BState} {i : Int}
    (hmn : 0 < cfg.maxNesting)
    (hlt : 0 < (BState.fresh src .root []).lineMax)
    (hne : (BState.fresh src .root []).isEmpty 0 = false)
    (hind : (BState.fresh src .root []).lineIndent 0 = .ok i) (hi : 0 ≤ i)
    (hchain : ∀ f, runChain (ruleAt cfg f) cfg.chain (BState.fresh src .root []) false = .ok (true, s'))
    (hprog : 0 < s'.line) (hend : s'.line = s'.lineMax) (hk : s'.nodeKind = .root) :
    parseBlocks cfg src = .ok (⟨.root, some (0, Lines.byteLen src), s'.children⟩, s'.refs) :=
  parseBlocks_single_at hmn hlt hne hind hi (f := (Lines.splitLines src).length + min cfg.maxNesting (Lines.byteLen src) + 6)
    (by unfold fuelFor; omega) (hchain _) hprog hend hk

end MdIt.Block
