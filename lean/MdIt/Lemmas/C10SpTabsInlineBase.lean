/-
  C10 with the sourcepos plugin, ALL sources (split tabs included) — the exact lock-step simulation of the
  inline parser under two per-line tables that are only `C05T.MapT`: the instance `MdIt.Inline.XT` of the
  simulation of `Lemmas/C10SpInlineBase.lean` / `Emph` / `Link` (read the header of the first).

  The relations are written out for a context `K` (the inline text and the two tables):
    * the start character of a span is SOLID (`C10SP.CharSolid`: neither line feed nor space);
    * `Span` records `q ≤ |c|` (the translation is no longer strictly monotone, so the end of a stretch
      cannot be recovered from the single-run range theorem); for that the state relation carries
      `posMax ≤ |src|` (`KS`);
    * `TokInv` records `p + rem ≤ |c|`.
  `Ctx.par` are the parameters of the general development, `nrel_iff` … `irel_iff` say that the relations
  are its relations.
-/
import MdIt.Lemmas.C10SpInlineLink
import MdIt.Lemmas.C10SpTabsDefs
import MdIt.Lemmas.C05TabsDefs

namespace MdIt.Inline.XT
open MdIt.InlineOps (Srcmap getSourcePosFor getMap byteLen slice)
open MdIt.Pipeline (MLe)
open MdIt.C10SP (CharSolid)

/-- the context of one simulation: the inline text and the two tables -/
structure Ctx where
  c : List Char
  m₁ : Srcmap
  m₂ : Srcmap
  ok₁ : C05T.MapT c m₁
  ok₂ : C05T.MapT c m₂

variable {K : Ctx}

/-- the two ranges are the translations of ONE stretch `[p, q]` of the inline text that starts at a solid
    character and ends inside the text (`C10SP.SameSpanT`) -/
def Span (K : Ctx) (r₁ r₂ : Option (Nat × Nat)) : Prop :=
  ∃ p q a₁ b₁ a₂ b₂, r₁ = some (a₁, b₁) ∧ r₂ = some (a₂, b₂) ∧ q ≤ byteLen K.c ∧ CharSolid K.c p ∧
    getSourcePosFor K.m₁ p = .ok a₁ ∧ getSourcePosFor K.m₁ q = .ok b₁ ∧
    getSourcePosFor K.m₂ p = .ok a₂ ∧ getSourcePosFor K.m₂ q = .ok b₂

/-- THE TOKEN INVARIANT of an `EmphMarker` with `rem` delimiters left: both ranges are the translations
    of ONE stretch `[p, p + rem]` inside the text on which both translations are shifts, and a solid
    character starts at each of `p, …, p + rem - 1` -/
def TokInv (K : Ctx) (rem : Nat) (r₁ r₂ : Option (Nat × Nat)) : Prop :=
  ∃ p a₁ a₂, r₁ = some (a₁, a₁ + rem) ∧ r₂ = some (a₂, a₂ + rem) ∧
    (∀ j, j ≤ rem → getSourcePosFor K.m₁ (p + j) = .ok (a₁ + j) ∧
      getSourcePosFor K.m₂ (p + j) = .ok (a₂ + j)) ∧
    (∀ j, j < rem → CharSolid K.c (p + j)) ∧ p + rem ≤ byteLen K.c

/-- what the two ranges of a node with value `v` satisfy beyond `ROrd` -/
def Extra (K : Ctx) : Val → Option (Nat × Nat) → Option (Nat × Nat) → Prop
  | .codeInline _ _, r₁, r₂ => Span K r₁ r₂
  | .wrap _ _, r₁, r₂ => Span K r₁ r₂
  | .link _ _, r₁, r₂ => Span K r₁ r₂
  | .image _ _, r₁, r₂ => Span K r₁ r₂
  | .autolink _, r₁, r₂ => Span K r₁ r₂
  | .emphMarker _ _ rem _ _, r₁, r₂ => TokInv K rem r₁ r₂
  | _, _, _ => True

/-- `Extra` in strict mode -/
def XRel (K : Ctx) (s : Bool) (v : Val) (r₁ r₂ : Option (Nat × Nat)) : Prop := s = true → Extra K v r₁ r₂

theorem XRel.false (v : Val) (r₁ r₂ : Option (Nat × Nat)) : XRel K false v r₁ r₂ := fun h => by cases h

mutual
/-- same value, related ranges, `Extra`, related children -/
def NRel (K : Ctx) (s : Bool) : Node → Node → Prop
  | ⟨v₁, r₁, cs₁⟩, n₂ => v₁ = n₂.val ∧ RRel s r₁ n₂.range ∧ XRel K s v₁ r₁ n₂.range ∧ LRel K s cs₁ n₂.children
def LRel (K : Ctx) (s : Bool) : List Node → List Node → Prop
  | [], l₂ => l₂ = []
  | a :: as, l₂ =>
    match l₂ with
    | [] => False
    | b :: bs => NRel K s a b ∧ LRel K s as bs
end

theorem NRel_iff (s : Bool) (a b : Node) :
    NRel K s a b ↔ a.val = b.val ∧ RRel s a.range b.range ∧ XRel K s a.val a.range b.range ∧
      LRel K s a.children b.children := by
  cases a; simp [NRel]

@[simp] theorem LRel_nil_nil (s : Bool) : LRel K s [] [] := by simp [LRel]
@[simp] theorem LRel_cons_cons (s : Bool) (a b : Node) (as bs : List Node) :
    LRel K s (a :: as) (b :: bs) ↔ NRel K s a b ∧ LRel K s as bs := by simp [LRel]
@[simp] theorem LRel_nil_cons (s : Bool) (b : Node) (bs : List Node) : ¬ LRel K s [] (b :: bs) := by
  simp [LRel]
@[simp] theorem LRel_cons_nil (s : Bool) (a : Node) (as : List Node) : ¬ LRel K s (a :: as) [] := by
  simp [LRel]

/-! ## the states -/
/-- the two states work on the text and the tables of the context -/
def KS (K : Ctx) (a b : IState) : Prop :=
  a.src = K.c ∧ a.srcmap = K.m₁ ∧ b.srcmap = K.m₂ ∧ a.posMax ≤ byteLen K.c

/-- everything equal except the table and the ranges in the tree under construction -/
structure IRel (K : Ctx) (s : Bool) (a b : IState) : Prop where
  eq : b = { a with srcmap := b.srcmap, children := b.children }
  map : MRel s a.srcmap b.srcmap
  ch : LRel K s a.children b.children
  ks : KS K a b


/-! ## the parameters -/
/-- WITHIN a stretch that starts with a solid character and holds no line feed the translation is a shift
    (`C05T.MapT.shift`) -/
theorem tr_shift {src : List Char} {m : Srcmap} (hm : C05T.MapT src m) {a b : Nat} {ch0 : Char}
    {w : List Char} (hs : slice src a b = .ok (ch0 :: w)) (hsp : ch0 ≠ ' ') (hne : ch0 ≠ '\n')
    (hn : '\n' ∉ w) {x : Nat} (hx : getSourcePosFor m a = .ok x) (j : Nat)
    (hj : a + j ≤ b) : getSourcePosFor m (a + j) = .ok (x + j) := by
  obtain ⟨y, hy⟩ := C05.translate_total m hm.wf (a + j)
  have := hm.shift a b ch0 w a (a + j) x y ((C05.slice_ok_iff _ _ _ _).mp hs) hsp hne hn
    (Nat.le_refl _) (by omega) hj hx hy
  rw [hy, this]; congr 2; omega

/-- start character solid, the end inside the text -/
def Ctx.par (K : Ctx) : XG.Par where
  c := K.c
  m₁ := K.m₁
  m₂ := K.m₂
  track := True
  good := fun ch => ch ≠ '\n' ∧ ch ≠ ' '
  lim := fun q => q ≤ byteLen K.c
  good_solid := fun h h' => ⟨h, h'⟩
  good_nl := fun h => h.1
  lim_mono := fun h h' => Nat.le_trans h h'
  lim_len := Nat.le_refl _
  wf₁ := fun _ => K.ok₁.wf
  shift₁ := fun _ => fun hs hg hn hx j hj => tr_shift K.ok₁ hs hg.2 hg.1 hn hx j hj
  shift₂ := fun _ => fun hs hg hn hx j hj => tr_shift K.ok₂ hs hg.2 hg.1 hn hx j hj

theorem xrel_iff {s : Bool} {v : Val} {r₁ r₂ : Option (Nat × Nat)} : XRel K s v r₁ r₂ ↔ XG.XRel K.par s v r₁ r₂ := by
  have : Extra K v r₁ r₂ ↔ XG.Extra K.par v r₁ r₂ := by cases v <;> exact Iff.rfl
  exact ⟨fun h hs _ => this.mp (h hs), fun h hs => this.mpr (h hs trivial)⟩

mutual
theorem nrel_iff {s : Bool} : ∀ (a b : Node), NRel K s a b ↔ XG.NRel K.par s a b
  | ⟨v, r, cs⟩, b => by
    simp only [NRel, XG.NRel, xrel_iff, lrel_iff cs b.children]
theorem lrel_iff {s : Bool} : ∀ (l₁ l₂ : List Node), LRel K s l₁ l₂ ↔ XG.LRel K.par s l₁ l₂
  | [], l₂ => by simp only [LRel, XG.LRel]
  | a :: as, [] => by simp only [LRel, XG.LRel]
  | a :: as, b :: bs => by
    simp only [LRel_cons_cons, XG.LRel_cons_cons, nrel_iff a b, lrel_iff as bs]
end

theorem irel_iff {s : Bool} {a b : IState} : IRel K s a b ↔ XG.IRel K.par s a b :=
  ⟨fun h => ⟨h.eq, h.map, (lrel_iff _ _).mp h.ch, h.ks⟩,
   fun h => ⟨h.eq, h.map, (lrel_iff _ _).mpr h.ch, h.ks⟩⟩

/-! ## what the relations transport -/
theorem LRel.length {s : Bool} : ∀ {l₁ l₂ : List Node}, LRel K s l₁ l₂ → l₁.length = l₂.length :=
  fun h => ((lrel_iff _ _).mp h).length

theorem LRel.single {s : Bool} {a b : Node} (h : NRel K s a b) : LRel K s [a] [b] := by simp [h]

theorem LRel.take {s : Bool} : ∀ {l₁ l₂ : List Node} (k : Nat), LRel K s l₁ l₂ → LRel K s (l₁.take k) (l₂.take k) :=
  fun k h => (lrel_iff _ _).mpr (((lrel_iff _ _).mp h).take k)

theorem LRel.drop {s : Bool} : ∀ {l₁ l₂ : List Node} (k : Nat), LRel K s l₁ l₂ → LRel K s (l₁.drop k) (l₂.drop k) :=
  fun k h => (lrel_iff _ _).mpr (((lrel_iff _ _).mp h).drop k)

theorem LRel.set {s : Bool} : ∀ {l₁ l₂ : List Node} (k : Nat) {x y : Node}, LRel K s l₁ l₂ → NRel K s x y →
    LRel K s (l₁.set k x) (l₂.set k y) :=
  fun k _ _ h hx => (lrel_iff _ _).mpr (((lrel_iff _ _).mp h).set k ((nrel_iff _ _).mp hx))

theorem NRel.children {s : Bool} {a b : Node} (h : NRel K s a b) : LRel K s a.children b.children :=
  (lrel_iff _ _).mpr ((nrel_iff _ _).mp h).children

theorem NRel.content {s : Bool} {a b : Node} (h : NRel K s a b) : b.content = a.content :=
  ((nrel_iff _ _).mp h).content

theorem LRel.wrapDepthList_eq {s : Bool} :
    ∀ (l₁ l₂ : List Node), LRel K s l₁ l₂ → wrapDepthList l₂ = wrapDepthList l₁ :=
  fun l₁ l₂ h => XG.LRel.wrapDepthList_eq l₁ l₂ ((lrel_iff _ _).mp h)

theorem IRel.posMax {s : Bool} {a b : IState} (h : IRel K s a b) : b.posMax = a.posMax :=
  (irel_iff.mp h).posMax
theorem IRel.bottoms {s : Bool} {a b : IState} (h : IRel K s a b) : b.bottoms = a.bottoms :=
  (irel_iff.mp h).bottoms
theorem IRel.window {s : Bool} {a b : IState} (h : IRel K s a b) : b.window = a.window :=
  (irel_iff.mp h).window
theorem IRel.backticks {s : Bool} {a b : IState} (h : IRel K s a b) : b.backticks = a.backticks :=
  (irel_iff.mp h).backticks

/-! ## `md.inline.parse` -/
theorem parseInline_sim (K : Ctx) (s : Bool) (cfg : Cfg)
    (hmk : ∀ mk csw, RuleId.emph mk csw ∈ cfg.chain → mk.utf8Size = 1 ∧ mk ≠ '\n' ∧ mk ≠ ' ')
    (hm : MRel s K.m₁ K.m₂) {ns₁ : List Node} (h : parseInline cfg K.c K.m₁ = .ok ns₁) :
    Sim s (LRel K s) ns₁ (parseInline cfg K.c K.m₂) :=
  (XG.parseInline_sim K.par s cfg (fun _ => hmk) hm h).mono fun _ => (lrel_iff _ _).mpr

end MdIt.Inline.XT
