/-
  C16 on the block side: WHAT THE RULES READ IN LOOK-AHEAD MODE.

  * `SameRow s t`: `t` has the source, the current line with its row of the line table, `blkIndent` and
    `listIndent` of `s`.  `runRuleH_silent_row`: a rule of the ten in look-ahead mode
    gives on `t` the verdict (or the panic) it gives on `s` and hands back the state it was given — the
    list rule provided the node kind is the same too (a list does not interrupt a paragraph inside a
    list); the nine cmark rules by `silent_look` (`Lemmas/BlockLook.lean`: `SameRow` gives the same three
    reads, `SameRow.lookEq`), the html rule by `silent_row_html`.  So look-ahead reads `src`, ONE row of
    `offs`, `blkIndent`, `line`, `listIndent` (list rule, "special case"), `nodeKind` (list rule) and
    nothing else: not the tree under construction, not `tight`, not the reference map, not the level, not
    the other rows.
  * `upd s c b m` = `s` with other `children`, another `tight` flag and another reference map;
    `runRuleH_silent_congr` is the instance for it.  THREE such instances exist, each with its state
    transformer, its map on results and its clause of the contract, because the three kinds of callers hand
    the loop a state that differs from the sweep's in three ways: the paragraph-like rules in tree / `tight`
    / reference map (`upd`, `mp`, `Eng.OK.silent_congr`); the list rule also in node kind and level (`upd2`,
    `mp2`, `Eng.OK2`, Lemmas/C16BlockList.lean — false of the list rule itself, which reads the node kind);
    the blockquote rule also in the rows of the table in front of `line` (`upd3`, `mp3`, `Eng.OK3`,
    Lemmas/C16BlockQuote.lean).
  * `runRuleH_silent_indep`: in look-ahead mode a rule does not use the two call-backs nor the budget —
    the sweep `test_rules_at_line` at budget `f` and the look-ahead run of the rules the tokenizer at
    budget `f + 1` uses are the same function.
  * `real_implies_silent_*`: for hr / heading / fence / blockquote the converse of `silent_implies_real`:
    they accept in real mode ONLY where they say yes in look-ahead mode.  (False for code — never says yes
    —, list — the paragraph-interruption restrictions —, html — start condition 7 —, and for
    reference / lheading / paragraph, which never say yes.)
-/
import MdIt.Props.BlockH
import MdIt.Lemmas.BlockLook

namespace MdIt.BlockH.C16
open MdIt.Block
open MdIt.Lines (LineOffset)

/-- `upd` for "update": `s` with another tree under construction, another `tight` flag and another
    reference map -/
def upd (s : BState) (c : List BNode) (b : Bool) (m : Refs.RefMap) : BState :=
  { s with children := c, tight := b, refs := m }

@[simp] theorem upd_lineIndent (s c b m n) : (upd s c b m).lineIndent n = s.lineIndent n := rfl
@[simp] theorem upd_getLine (s c b m n) : (upd s c b m).getLine n = s.getLine n := rfl
@[simp] theorem upd_line (s c b m) : (upd s c b m).line = s.line := rfl
@[simp] theorem upd_off (s c b m n) : (upd s c b m).off n = s.off n := rfl
@[simp] theorem upd_listIndent (s c b m) : (upd s c b m).listIndent = s.listIndent := rfl
@[simp] theorem upd_blkIndent (s c b m) : (upd s c b m).blkIndent = s.blkIndent := rfl
@[simp] theorem upd_nodeKind (s c b m) : (upd s c b m).nodeKind = s.nodeKind := rfl
@[simp] theorem upd_listSpecial (s c b m) : listSpecial (upd s c b m) = listSpecial s := rfl
theorem upd_self (s : BState) : upd s s.children s.tight s.refs = s := by cases s; rfl
theorem upd_upd (s c b m c' b' m') : upd (upd s c b m) c' b' m' = upd s c' b' m' := rfl
theorem upd_setLine (s : BState) (c b m) (l : Nat) : upd { s with line := l } c b m = { upd s c b m with line := l } := rfl

/-- `mp` for "map": `upd` applied to the state in the result `(verdict, state)` of a look-ahead call -/
abbrev mp (c : List BNode) (b : Bool) (m : Refs.RefMap) : Bool × BState → Bool × BState := fun r => (r.1, upd r.2 c b m)

/-- `t` shows a rule in look-ahead mode what `s` shows: the same source, the same current line with the
    same row of the line table, the same two indents -/
structure SameRow (s t : BState) : Prop where
  src : t.src = s.src
  line : t.line = s.line
  row : t.offs[s.line]? = s.offs[s.line]?
  blkIndent : t.blkIndent = s.blkIndent
  listIndent : t.listIndent = s.listIndent

theorem SameRow.refl (s : BState) : SameRow s s := ⟨rfl, rfl, rfl, rfl, rfl⟩
theorem sameRow_upd (s c b m) : SameRow s (upd s c b m) := ⟨rfl, rfl, rfl, rfl, rfl⟩

section reads
variable {s t : BState} (h : SameRow s t)
include h
theorem SameRow.lineIndent : t.lineIndent t.line = s.lineIndent s.line := by
  simp only [BState.lineIndent, Lines.lineIndent, h.line, h.row, h.blkIndent]
theorem SameRow.getLine : t.getLine t.line = s.getLine s.line := by
  simp only [BState.getLine, Lines.getLine, h.line, h.row, h.src]
theorem SameRow.listSpecial : listSpecial t = listSpecial s := by
  simp only [Block.listSpecial, BState.off, h.line, h.row, h.listIndent, h.blkIndent]
end reads

theorem SameRow.lookEq {s t : BState} (h : SameRow s t) : LookEq s t := ⟨h.lineIndent, h.getLine, h.listSpecial⟩

section rules
variable {s t : BState} (h : SameRow s t)
include h

theorem silent_row_htmlBlock :
    Html.htmlBlockRule t true = Except.map (fun r => (r.1, t, r.2.2)) (Html.htmlBlockRule s true) := by
  unfold Html.htmlBlockRule
  rw [h.lineIndent, h.getLine]
  cases s.lineIndent s.line with
  | error e => rfl
  | ok ind =>
    refine map_ite_congr rfl ?_
    cases s.getLine s.line with
    | error e => rfl
    | ok lineText =>
      refine map_ite_congr rfl ?_
      cases Html.openSeq lineText <;> rfl

theorem silent_row_html : htmlRule t true = Except.map (fun r => (r.1, t)) (htmlRule s true) := by
  unfold htmlRule
  rw [silent_row_htmlBlock h]
  cases h' : Html.htmlBlockRule s true with
  | error e => rfl
  | ok r =>
    obtain ⟨v, s', o⟩ := r
    obtain ⟨rfl, rfl⟩ := Html.html_block_silent_quiet h'
    rfl

theorem runRuleH_silent_row (cfg : Cfg) (tok tok' : Tok) (test test' : Test) (fuel fuel' : Nat)
    (r : RuleIdH) (hk : r = .base .list → t.nodeKind = s.nodeKind) :
    runRuleH cfg tok' test' fuel' r t true =
      Except.map (fun x => (x.1, t)) (runRuleH cfg tok test fuel r s true) := by
  cases r with
  | html => exact silent_row_html h
  | base r => exact silent_look h.lookEq cfg cfg tok tok' test test' fuel fuel' r fun hr => by rw [hk (by rw [hr])]
end rules

/-- from "same verdict, hands back what it was given" to the form with a state transformer `f` -/
theorem silent_map_of_row {R : BState → Res} {s : BState} (f : BState → BState)
    (hs : R s = Except.map (fun x => (x.1, s)) (R s))
    (hf : R (f s) = Except.map (fun x => (x.1, f s)) (R s)) :
    R (f s) = Except.map (fun x => (x.1, f x.2)) (R s) := by
  rw [hf]
  cases hR : R s with
  | error e => rfl
  | ok x =>
    obtain ⟨b, s'⟩ := x
    rw [hR] at hs
    cases hs
    rfl

/-- **what look-ahead reads**: each of the ten rules, in look-ahead mode, answers on `upd s c b m` what it
    answers on `s` -/
theorem runRuleH_silent_congr (cfg : Cfg) (tok : Tok) (test : Test) (fuel : Nat) (r : RuleIdH) (s c b m) :
    runRuleH cfg tok test fuel r (upd s c b m) true = Except.map (mp c b m) (runRuleH cfg tok test fuel r s true) :=
  silent_map_of_row (R := fun s => runRuleH cfg tok test fuel r s true) (upd · c b m)
    (runRuleH_silent_row (.refl s) cfg tok tok test test fuel fuel r fun _ => rfl)
    (runRuleH_silent_row (sameRow_upd s c b m) cfg tok tok test test fuel fuel r fun _ => rfl)

/-- **look-ahead does not use the call-backs nor the budget** -/
theorem runRuleH_silent_indep (cfg : Cfg) (tok tok' : Tok) (test test' : Test) (fuel fuel' : Nat) (r : RuleIdH)
    (s : BState) : runRuleH cfg tok test fuel r s true = runRuleH cfg tok' test' fuel' r s true :=
  (runRuleH_silent_row (.refl s) cfg tok tok test test fuel fuel r fun _ => rfl).trans
    (runRuleH_silent_row (.refl s) cfg tok tok' test test' fuel fuel' r fun _ => rfl).symm

/-! ## real ⇒ look-ahead for the four rules whose look-ahead is complete -/

theorem real_implies_silent_hr {s s' : BState} (h : hrRule s false = .ok (true, s')) :
    hrRule s true = .ok (true, s) := by
  rcases hrRule_ok h with ⟨hb, _⟩ | ⟨ind, marker, rest, cnt, hind, hlt, hline, hm, hc, h3, _⟩
  · cases hb
  simp only [hrRule, hind, hline, hc, ok_bind, if_neg (Int.not_le.mpr hlt), Decidable.not_not.mpr hm,
    if_false, if_neg (Nat.not_lt.mpr h3), if_true]
  rfl

theorem real_implies_silent_heading {s s' : BState} (h : headingRule s false = .ok (true, s')) :
    headingRule s true = .ok (true, s) := by
  rcases headingRule_ok h with
    ⟨hb, _⟩ | ⟨ind, line, level, textPos, rest, hind, hlt, hline, hhead, hopen, _⟩
  · cases hb
  simp only [headingRule, hind, hline, hopen, ok_bind, if_neg (Int.not_le.mpr hlt),
    if_neg (not_not_intro hhead), if_true]
  rfl

theorem real_implies_silent_fence {s s' : BState} (h : fenceRule s false = .ok (true, s')) :
    fenceRule s true = .ok (true, s) := by
  rcases fenceRule_ok h with ⟨hb, _⟩ | ⟨ind, marker, rest, params, hind, hlt, hline, hm, h3, hp, hn, _⟩
  · cases hb
  simp only [fenceRule, hind, hline, hp, ok_bind, if_neg (Int.not_le.mpr hlt), Decidable.not_not.mpr hm,
    if_false, if_neg (Nat.not_lt.mpr h3), if_neg hn, if_true]
  rfl

theorem real_implies_silent_blockquote {tok : Tok} {test : Test} {fuel : Nat} {s s' : BState}
    (h : blockquoteRule tok test fuel s false = .ok (true, s')) :
    blockquoteRule tok test fuel s true = .ok (true, s) := by
  rcases blockquoteRule_ok h with ⟨hb, _⟩ | ⟨ind, line, hind, hlt, hline, hhead, _⟩
  · cases hb
  simp only [blockquoteRule, hind, hline, ok_bind, if_neg (Int.not_le.mpr hlt),
    if_neg (not_not_intro hhead), if_true]
  rfl

end MdIt.BlockH.C16
