/-
  C05 for ALL sources, the table side: a table with the facts `get_lines` guarantees
  (`WFMap`, `MonoMapV`, `KeysLFV`) whose virtual-space entries are spaces at line starts (`VirtSp`)
  is `MapT`: the clamped translation is monotone everywhere and a SHIFT on every stretch of the
  inline text that starts with a solid character (neither space nor line feed) and holds no line
  feed.

  `sh_exTab_mapT`: the split-tab table `[(0,5),(4,11),(7,11)]` of the content "` a\n   `" (document
  "-    ` a\n\t\t`") is `MapT`; it is not `MapOK`, and the solid start is necessary.
  (Prefix `sh_`: this file.)
-/
import MdIt.Lemmas.C05TabsTable
import MdIt.Lemmas.InlineCertBase

namespace MdIt.C05T
open MdIt.InlineOps (Srcmap getSourcePosFor byteLen)
open MdIt.C05R (Cut Bdy)
open MdIt.C05I (KeysLFV AfterLF)

theorem sh_charAt_mem_cut {c : List Char} {p q g : Nat} {w : List Char} {x : Char}
    (h : Cut c p q w) (hx : CharAt c g x) (h1 : p ≤ g) (h2 : g < q) : x ∈ w := by
  obtain ⟨pre, post, e, hp⟩ := hx
  subst hp
  exact C05R.fa_mem_cut h e h1 h2

theorem sh_no_lf {c : List Char} {p q g : Nat} {ch0 : Char} {w : List Char}
    (h : Cut c p q (ch0 :: w)) (h0 : ch0 ≠ '\n') (hw : '\n' ∉ w) (hx : CharAt c g '\n')
    (h1 : p ≤ g) (h2 : g < q) : False := by
  have := sh_charAt_mem_cut h hx h1 h2
  simp only [List.mem_cons] at this
  rcases this with e | e
  · exact h0 e.symm
  · exact hw e

/-- a position directly behind a line feed: the line feed sits one byte before it -/
theorem sh_afterLF_charAt {c : List Char} {k : Nat} (h : AfterLF c k) :
    1 ≤ k ∧ CharAt c (k - 1) '\n' := by
  obtain ⟨pre, post, e, hk⟩ := h
  rw [C05I.linesLen_eq] at hk
  exact ⟨by omega, pre, post, e, by omega⟩

/-! ## a solid stretch meets no virtual segment and no later key -/

/-- a position of a solid stretch is not in a virtual-space segment -/
theorem sh_not_virtual {c : List Char} {m : Srcmap} (hs : VirtSp c m) {p q : Nat} {ch0 : Char}
    {w : List Char} (hc : Cut c p q (ch0 :: w)) (h0 : ch0 ≠ ' ') (h0' : ch0 ≠ '\n') (hw : '\n' ∉ w)
    {i k v k' pos : Nat} (hi : m[i]? = some (k, v)) (hn : m[i + 1]? = some (k', v))
    (hp : p ≤ pos) (hq : pos ≤ q) (hk : k ≤ pos) (hk' : pos < k') : False := by
  rcases Nat.lt_or_ge p k with hlt | hge
  · -- the segment starts behind `p`: a line feed sits in front of it, inside the stretch
    rcases hs.ls i k v k' hi hn with h | h
    · omega
    · exact sh_no_lf hc h0' hw h (by omega) (by omega)
  · -- the stretch starts inside the segment, with a space
    have h1 := hs.sp i k v k' hi hn p hge (by omega)
    exact h0 (tx_charAt_unique (tx_charAt_of_cut hc) h1)

/-- the entry behind the one a position of a solid stretch belongs to lies beyond the stretch, and
    is a real line start: the clamp is inactive on the whole segment -/
theorem sh_next_far {c : List Char} {m : Srcmap} (hv : C05.MonoMapV m) (hk : KeysLFV c m)
    (hs : VirtSp c m) {p q : Nat} {ch0 : Char} {w : List Char} (hc : Cut c p q (ch0 :: w))
    (h0 : ch0 ≠ ' ') (h0' : ch0 ≠ '\n') (hw : '\n' ∉ w)
    {i k v k' v' pos : Nat} (hi : m[i]? = some (k, v)) (hn : m[i + 1]? = some (k', v'))
    (hp : p ≤ pos) (hq : pos ≤ q) (hkp : k ≤ pos) (hk' : pos < k') :
    q < k' ∧ v + (k' - k) ≤ v' := by
  have hreal : v ≠ v' := by
    intro e; subst e
    exact sh_not_virtual hs hc h0 h0' hw hi hn hp hq hkp hk'
  refine ⟨?_, ?_⟩
  · rcases hk i k' v' hn with h | ⟨k0, h⟩
    · obtain ⟨h1, h2⟩ := sh_afterLF_charAt h
      rcases Nat.lt_or_ge q k' with hlt | hge
      · exact hlt
      · exact (sh_no_lf hc h0' hw h2 (by omega) (by omega)).elim
    · rw [hi] at h
      simp only [Option.some.injEq, Prod.mk.injEq] at h
      exact absurd h.2 hreal
  · rcases hv i k v k' v' hi hn with h | h
    · exact h
    · exact absurd h hreal

/-- **the shift**: on a stretch of the inline text that starts with a solid character and holds no
    line feed, the clamped translation is affine with the entry of any of its positions -/
theorem sh_shift {c : List Char} {m : Srcmap} (hm : C05.WFMap m) (hv : C05.MonoMapV m)
    (hk : KeysLFV c m) (hs : VirtSp c m) {p q : Nat} {ch0 : Char} {w : List Char}
    (hc : Cut c p q (ch0 :: w)) (h0 : ch0 ≠ ' ') (h0' : ch0 ≠ '\n') (hw : '\n' ∉ w)
    {p1 p2 x1 x2 : Nat} (h1 : p ≤ p1) (h12 : p1 ≤ p2) (h2 : p2 ≤ q)
    (e1 : getSourcePosFor m p1 = .ok x1) (e2 : getSourcePosFor m p2 = .ok x2) :
    x2 = x1 + (p2 - p1) := by
  obtain ⟨i, k, v, _, hi, hkp, hlater⟩ := C05.lineOf_spec m hm p1
  have hfar : ∀ k' v', m[i + 1]? = some (k', v') → q < k' ∧ v + (k' - k) ≤ v' := by
    intro k' v' hn
    exact sh_next_far hv hk hs hc h0 h0' hw hi hn h1 (by omega) hkp
      (hlater (i + 1) k' v' (by omega) hn)
  have t1 := C05.translate_segment_free m hm p1 i k v hi hkp
    (by intro k' v' hn; have := hfar k' v' hn; omega)
    (by intro k' v' hn; have := hfar k' v' hn; omega)
  have t2 := C05.translate_segment_free m hm p2 i k v hi (by omega)
    (by intro k' v' hn; have := hfar k' v' hn; omega)
    (by intro k' v' hn; have := hfar k' v' hn; omega)
  rw [t1] at e1
  rw [t2] at e2
  simp only [Except.ok.injEq] at e1 e2
  omega

/-- **`MapT` from the table facts**: what `get_lines` guarantees of its table (`WFMap`, `MonoMapV`,
    `KeysLFV`) plus "virtual spaces are spaces at line starts" gives the interface of the inline
    range induction -/
theorem mapT_of_virt {c : List Char} {m : Srcmap} (hw : C05.WFMap m) (hv : C05.MonoMapV m)
    (hk : C05I.KeysLFV c m) (hs : VirtSp c m) : MapT c m where
  wf := hw
  mono := fun p p' x x' hle hx hx' => C05.translate_mono_all m hw hv p p' hle x x' hx hx'
  shift := fun _ _ _ _ _ _ _ _ hc h0 h0' hn h1 h12 h2 e1 e2 =>
    sh_shift hw hv hk hs hc h0 h0' hn h1 h12 h2 e1 e2

theorem sh_keys_lt {m : Srcmap} (hw : C05.WFMap m) {i k0 v0 k v : Nat} (h0 : m[i]? = some (k0, v0))
    (h1 : m[i + 1]? = some (k, v)) : k0 < k := by
  obtain ⟨a, ea⟩ := C05.getElem?_key m i k0 v0 h0
  obtain ⟨b, eb⟩ := C05.getElem?_key m (i + 1) k v h1
  have := MdIt.SourceMap.sorted_strict hw.sorted a b (by omega)
  omega

/-- a table without virtual-space entries (`MapOK`) is `MapT` -/
theorem mapT_of_mapOK {c : List Char} {m : Srcmap} (h : Inline.MapOK c m) : MapT c m := by
  have hw := h.wf
  apply mapT_of_virt hw h.mono.toV
  · intro i k v hi
    obtain ⟨⟨k0, v0⟩, h0⟩ := C05.getElem?_some_of_lt m i (i + 1) _ hi (by omega)
    have := sh_keys_lt hw h0 hi
    obtain ⟨pre, post, e, hl⟩ := h.lf (i + 1) k v hi (by omega)
    exact .inl ⟨pre, post, e, by rw [C05I.linesLen_eq]; exact hl⟩
  · have hno : ∀ i k0 v k, m[i]? = some (k0, v) → m[i + 1]? = some (k, v) → False := by
      intro i k0 v k h0 h1
      have := sh_keys_lt hw h0 h1
      have := h.mono i k0 v k v h0 h1
      omega
    exact ⟨fun i k0 v k h0 h1 => (hno i k0 v k h0 h1).elim,
      fun i k0 v k h0 h1 => (hno i k0 v k h0 h1).elim⟩

/-- the content of the paragraph of "-    ` a\n\t\t`": the second line is cut at column 5 inside the
    second tab, 3 virtual spaces (positions 4, 5, 6) stand for its rest -/
def sh_exC : List Char := ['`', ' ', 'a', '\n', ' ', ' ', ' ', '`']

/-- its table: line 1 at source 5; line 2 and the position behind its virtual spaces both at the
    source offset 11 of the split tab -/
def sh_exM : Srcmap := [(0, 5), (4, 11), (7, 11)]

theorem sh_exC_eq : "` a\n   `".toList = sh_exC := by decide +kernel

/-- every entry of the table described in the terms of `get_lines` (`tb_ex_lseg`) -/
theorem sh_exM_seg : C05I.SegAll (C05I.Seg ('\t' ∈ tb_exSrc) sh_exC 12) sh_exM :=
  C05I.SegAll.imp C05I.LSeg.seg tb_ex_lseg

theorem sh_exM_wf : C05.WFMap sh_exM := C05I.seg_wf sh_exM_seg ⟨_, _, rfl⟩

theorem sh_exM_monoV : C05.MonoMapV sh_exM := C05I.seg_monoV sh_exM_seg

theorem sh_exM_keys : KeysLFV sh_exC sh_exM := C05I.seg_keys sh_exM_seg

theorem sh_exM_virt : VirtSp sh_exC sh_exM := tb_virtSp_of_seg tb_ex_lseg

/-- the split-tab table of "-    ` a\n\t\t`" is `MapT` … -/
theorem sh_exTab_mapT : MapT "` a\n   `".toList [(0, 5), (4, 11), (7, 11)] := by
  rw [sh_exC_eq]
  exact mapT_of_virt sh_exM_wf sh_exM_monoV sh_exM_keys sh_exM_virt

/-- … the translation is constant `= 11` on the virtual segment `[4, 7]` and a shift behind … -/
example : (List.range 10).map (getSourcePosFor sh_exM) =
    [.ok 5, .ok 6, .ok 7, .ok 8, .ok 11, .ok 11, .ok 11, .ok 11, .ok 12, .ok 13] := by
  decide +kernel

/-- … and it is not `MapOK` (the entries `(4,11)`, `(7,11)` break `MonoMap`) -/
theorem sh_exTab_not_mapOK : ¬ Inline.MapOK sh_exC sh_exM := by
  intro h
  have := h.mono 1 4 11 7 11 rfl rfl
  omega

/-- `MapT.shift` at work: the closing backtick (position 7, `ch0 = '`'`) up to the end -/
example : ∀ x1 x2, getSourcePosFor sh_exM 7 = .ok x1 → getSourcePosFor sh_exM 8 = .ok x2 →
    x2 = x1 + (8 - 7) := fun x1 x2 e1 e2 =>
  (sh_exC_eq ▸ sh_exTab_mapT).shift 7 8 '`' [] 7 8 x1 x2
    ⟨['`', ' ', 'a', '\n', ' ', ' ', ' '], [], rfl, by decide, by decide⟩ (by decide) (by decide)
    (by simp) (by omega) (by omega) (by omega) e1 e2

/-- the hypothesis `ch0 ≠ ' '` of `MapT.shift` is necessary: the stretch `c[5..8] = "  `"` holds no
    line feed, but starts with a (virtual) space — positions 5 and 8 are 3 bytes apart in the inline
    text and only 1 byte apart in the source -/
theorem sh_exTab_space_start_no_shift :
    Cut sh_exC 5 8 [' ', ' ', '`'] ∧ '\n' ∉ [' ', ' ', '`'] ∧
      getSourcePosFor sh_exM 5 = .ok 11 ∧ getSourcePosFor sh_exM 8 = .ok 12 ∧ 12 ≠ 11 + (8 - 5) :=
  ⟨⟨['`', ' ', 'a', '\n', ' '], [], rfl, by decide, by decide⟩, by decide, by decide +kernel,
    by decide +kernel, by decide⟩

end MdIt.C05T
