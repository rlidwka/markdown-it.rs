/-
  C11, code SPANS, multi-line paragraphs inside containers: what the per-line table of
  `C11X.parseBlocks_para_nested_lines` TRANSLATES to.  The table of the paragraph `Ls` inside prefixes of total width
  `W` per line (`Ls'` the wrapped lines, `|Ls'[i]| = W + |Ls[i]|`) is `(lineTable Ls Ls')` moved by `W`; it is
  well-formed (`wf_nestTable`), so `get_source_pos_for` is total on it (`trOf`, `trOf_ok`), and byte `x` of line `i`
  of the inline text is byte `x` of line `i` of the source behind that line's prefixes:
      `trOf W Ls Ls' (start of line i in docOf Ls + x) = start of line i in docOf Ls + (i + 1) · W + x`
  (`trOf_spec`): every line's prefix shifts the source offset once more.  At top level the table is `Block.idTable 0 Ls`
  and translates every offset to itself (`C11M.idTable_translate`).
-/
import MdIt.Lemmas.C11SpanCtxBlock

namespace MdIt.C11X
open MdIt.Block MdIt.Block.Li MdIt.C11N
open MdIt.Lines (NoTerm lead)

theorem starts_succ : ∀ (Ls : List (List Char)) (p i : Nat) (h : i + 1 < (starts p Ls).length),
    (starts p Ls)[i + 1] = (starts p Ls)[i]'(by omega) + Lines.byteLen (Ls[i]'(by rw [starts_length] at h; omega)) + 1
  | [], _, _, h => by simp [starts] at h
  | l :: ls, p, 0, h => by
    cases ls with
    | nil => simp [starts] at h
    | cons l2 ls => simp [starts]
  | l :: ls, p, i + 1, h => by
    have h' : i + 1 < (starts (p + Lines.byteLen l + 1) ls).length := by
      simp only [starts, List.length_cons] at h; omega
    have := starts_succ ls (p + Lines.byteLen l + 1) i h'
    simpa [starts] using this

theorem starts_zero (Ls : List (List Char)) (p : Nat) (h : 0 < (starts p Ls).length) : (starts p Ls)[0] = p := by
  cases Ls with
  | nil => simp [starts] at h
  | cons l ls => rfl

theorem starts_lower : ∀ (Ls : List (List Char)) (p : Nat), ∀ k ∈ starts p Ls, p ≤ k
  | [], _, k, h => by simp [starts] at h
  | l :: ls, p, k, h => by
    simp only [starts, List.mem_cons] at h
    rcases h with rfl | h
    · exact Nat.le_refl _
    · have := starts_lower ls _ k h; omega

theorem starts_sorted : ∀ (Ls : List (List Char)) (p : Nat), (starts p Ls).Pairwise (· < ·)
  | [], _ => by simp [starts]
  | l :: ls, p => by
    simp only [starts, List.pairwise_cons]
    refine ⟨?_, starts_sorted ls _⟩
    intro k hk
    have := starts_lower ls _ k hk
    omega

/-- the lines `Ls'` are the lines `Ls` behind prefixes of `W` bytes each -/
structure Prefixed (W : Nat) (Ls Ls' : List (List Char)) : Prop where
  len : Ls'.length = Ls.length
  bytes : ∀ i (h : i < Ls'.length), Lines.byteLen Ls'[i] = W + Lines.byteLen (Ls[i]'(by rw [len] at h; exact h))

/-- every prefix shifts the line start once more: line `i` of the wrapped document starts `i · W` bytes later -/
theorem starts_prefixed {W : Nat} {Ls Ls' : List (List Char)} (hp : Prefixed W Ls Ls') :
    ∀ i (h : i < (starts 0 Ls).length) (h' : i < (starts 0 Ls').length),
      (starts 0 Ls')[i] = (starts 0 Ls)[i] + i * W := by
  intro i
  induction i with
  | zero => intro h h'; simp [starts_zero]
  | succ i ih =>
    intro h h'
    have hl' : i < Ls'.length := by rw [starts_length] at h'; omega
    rw [starts_succ _ _ _ h, starts_succ _ _ _ h', ih (by omega) (by omega), hp.bytes i hl', Nat.succ_mul]
    omega

/-- the table of the n-line paragraph inside the containers: one entry per line, start in the inline text and start
    of the line's content in the source -/
def nestTable (W : Nat) (Ls Ls' : List (List Char)) : List (Nat × Nat) :=
  (lineTable Ls Ls').map fun kv => (kv.1, kv.2 + W)

theorem nestTable_keys {W : Nat} {Ls Ls' : List (List Char)} (hlen : Ls'.length = Ls.length) :
    (nestTable W Ls Ls').map Prod.fst = starts 0 Ls := by
  unfold nestTable lineTable
  rw [List.map_map]
  have : (Prod.fst ∘ fun kv : Nat × Nat => (kv.1, kv.2 + W)) = Prod.fst := by funext kv; rfl
  rw [this]
  exact List.map_fst_zip (by simp [starts_length, hlen])

theorem wf_nestTable {W : Nat} {Ls Ls' : List (List Char)} (hlen : Ls'.length = Ls.length) (hne : Ls ≠ []) :
    C05.WFMap (nestTable W Ls Ls') := by
  refine ⟨?_, by rw [nestTable_keys hlen]; exact starts_sorted Ls 0⟩
  cases Ls with
  | nil => exact absurd rfl hne
  | cons l r =>
    cases Ls' with
    | nil => simp at hlen
    | cons l' r' => exact ⟨0 + W, _, rfl⟩

theorem nestTable_getElem? {W : Nat} {Ls Ls' : List (List Char)} (hlen : Ls'.length = Ls.length) (i : Nat)
    (h : i < Ls.length) :
    (nestTable W Ls Ls')[i]? =
      some ((starts 0 Ls)[i]'(by rw [starts_length]; exact h),
        (starts 0 Ls')[i]'(by rw [starts_length, hlen]; exact h) + W) := by
  unfold nestTable lineTable
  rw [List.getElem?_map, List.getElem?_eq_getElem (by simp [starts_length, hlen]; exact h)]
  simp

/-- the translation the table defines (total: `trOf_ok`) -/
def trOf (W : Nat) (Ls Ls' : List (List Char)) (a : Nat) : Nat :=
  match InlineOps.getSourcePosFor (nestTable W Ls Ls') a with
  | .ok x => x
  | .error _ => 0

theorem trOf_ok {W : Nat} {Ls Ls' : List (List Char)} (hlen : Ls'.length = Ls.length) (hne : Ls ≠ []) (a : Nat) :
    InlineOps.getSourcePosFor (nestTable W Ls Ls') a = .ok (trOf W Ls Ls' a) := by
  obtain ⟨x, hx⟩ := C05.translate_total _ (wf_nestTable (W := W) hlen hne) a
  simp [trOf, hx]

/-- **where the bytes of the paragraph text come from**: byte `x` of line `i` of the inline text (the position of the
    line's end included) is byte `W + x` of line `i` of the wrapped source -/
theorem trOf_line {W : Nat} {Ls Ls' : List (List Char)} (hp : Prefixed W Ls Ls') (hne : Ls ≠ []) (i : Nat)
    (h : i < Ls.length) (x : Nat) (hx : x ≤ Lines.byteLen Ls[i]) :
    trOf W Ls Ls' ((starts 0 Ls)[i]'(by rw [starts_length]; exact h) + x) =
      (starts 0 Ls')[i]'(by rw [starts_length, hp.len]; exact h) + W + x := by
  have hwf := wf_nestTable (W := W) hp.len hne
  have hsl := starts_length Ls 0
  have hsl' := starts_length Ls' 0
  have hlen := hp.len
  have := C05.translate_segment_free _ hwf ((starts 0 Ls)[i]'(by omega) + x) i _ _
    (nestTable_getElem? hp.len i h) (by omega)
    (fun k' v' hn => by
      by_cases h1 : i + 1 < Ls.length
      · rw [nestTable_getElem? hp.len (i + 1) h1] at hn
        simp only [Option.some.injEq, Prod.mk.injEq] at hn
        rw [← hn.1, starts_succ _ _ _ (by omega)]
        omega
      · rw [List.getElem?_eq_none (by simp [nestTable, lineTable, starts_length, hlen]; omega)] at hn
        cases hn)
    (fun k' v' hn => by
      by_cases h1 : i + 1 < Ls.length
      · rw [nestTable_getElem? hp.len (i + 1) h1] at hn
        simp only [Option.some.injEq, Prod.mk.injEq] at hn
        rw [← hn.2, starts_succ _ _ _ (by omega), hp.bytes i (by omega)]
        omega
      · rw [List.getElem?_eq_none (by simp [nestTable, lineTable, starts_length, hlen]; omega)] at hn
        cases hn)
  simp only [trOf, this]
  omega

/-- … in closed form: the source offset is the inline offset plus `(i + 1) · W` — the prefixes of the lines
    `0 … i` stand in front of it -/
theorem trOf_spec {W : Nat} {Ls Ls' : List (List Char)} (hp : Prefixed W Ls Ls') (hne : Ls ≠ []) (i : Nat)
    (h : i < Ls.length) (x : Nat) (hx : x ≤ Lines.byteLen Ls[i]) :
    trOf W Ls Ls' ((starts 0 Ls)[i]'(by rw [starts_length]; exact h) + x) =
      (starts 0 Ls)[i]'(by rw [starts_length]; exact h) + x + (i + 1) * W := by
  rw [trOf_line hp hne i h x hx, starts_prefixed hp i (by rw [starts_length]; exact h)
    (by rw [starts_length, hp.len]; exact h), Nat.succ_mul]
  omega

theorem prefixed_wrapAllLines {w : List Wrapper} (hw : ∀ x ∈ w, x.Ok) (Ls : List (List Char)) :
    Prefixed (widthAll w) Ls (wrapAllLines w Ls) :=
  ⟨wrapAllLines_length w Ls, fun i h => byteLen_wrapAllLines hw Ls i h⟩

end MdIt.C11X

namespace MdIt.C11M
open MdIt.Block MdIt.C11X

theorem diag_translate (m : InlineOps.Srcmap) (hm : C05.WFMap m) (hd : ∀ kv ∈ m, kv.2 = kv.1) (pos : Nat) :
    InlineOps.getSourcePosFor m pos = .ok pos := by
  obtain ⟨i, k, v, hl, hi, hk, hn⟩ := C05.lineOf_spec m hm pos
  have hv : v = k := hd (k, v) (List.mem_of_getElem? hi)
  subst hv
  have := C05.getSourcePosFor_of_line m pos i v v hl hi hk (by
    intro k' v' h'
    have h1 : v' = k' := hd (k', v') (List.mem_of_getElem? h')
    have := hn (i + 1) k' v' (by omega) h'
    omega)
  rw [this]
  congr 1
  omega

/-- **the table of a top-level paragraph is the identity**: every inline offset is its own source offset -/
theorem idTable_translate (l : List Char) (Ls : List (List Char)) (pos : Nat) :
    InlineOps.getSourcePosFor (idTable 0 (l :: Ls)) pos = .ok pos := by
  have hself : ∀ (a : List Nat) (kv : Nat × Nat), kv ∈ a.zip a → kv.2 = kv.1 := by
    intro a
    induction a with
    | nil => simp
    | cons x r ih =>
      intro kv h
      rcases List.mem_cons.mp h with rfl | h
      · rfl
      · exact ih kv h
  have hz := idTable_eq_zip (l :: Ls) 0
  refine diag_translate (idTable 0 (l :: Ls)) ⟨⟨0, idTable (0 + Lines.byteLen l + 1) Ls, rfl⟩, ?_⟩
    (fun kv h => hself _ kv (by rw [hz] at h; exact h)) pos
  rw [hz, List.map_fst_zip (by simp)]
  exact starts_sorted _ 0

theorem map_add_zero (m : List (Nat × Nat)) : (m.map fun kv => (kv.1, kv.2 + 0)) = m := by
  induction m with
  | nil => rfl
  | cons a r ih => simp

end MdIt.C11M
