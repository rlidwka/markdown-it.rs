/-
  Two runs of the block parser in lock step: paragraph, setext heading and reference
  definition on `SRel`-related states — the walks of `Lemmas/BlockReads.lean` at `S := SRel R G` (`look`: related
  states give `Reads`, survive a change of `line`, and related look-aheads keep them).  Under `R.strict` the
  look-ahead is `TestPure`, so the look-ahead loop hands back the state it was given and the start line is still the
  non-empty line the tokenizer loop stopped on when `get_map` is called.
-/
import MdIt.Lemmas.C10SimLeaf

namespace MdIt.Block.LX.Sim
open MdIt.Block.LE (FRel Geo)
open MdIt.Block.LX.Y (Live)
variable {R : Rels} {G : Geo}

theorem look (C : Ctx R G) {test₁ test₂ : Test} (TS : TestSim R G test₁ test₂) :
    Rd.Look (· = .fuel) R (fun _ => True) (fun _ => True) (SRel R G) test₁ test₂ where
  reads := fun _ _ S => S.reads C
  line := fun _ _ l S => S.withLine l
  test := fun a b _ S _ _ => frel_iff.mp (TS a b S)

theorem paragraph_sim (C : Ctx R G) {test₁ test₂ : Test} (TS : TestSim R G test₁ test₂) (hp : R.strict → TestPure test₁)
    {f₁ f₂ : Nat} (hf : f₁ ≤ f₂)
    {s₁ s₂ : BState} (S : SRel R G s₁ s₂) (silent : Bool) (hne : R.strict → silent = false → Live s₁) :
    FRel (ResRel R G) (paragraphRule test₁ f₁ s₁ silent) (paragraphRule test₂ f₂ s₂ silent) :=
  res (Rd.paragraph_reads (.of_kok C.toKOk) (look C TS) hp rfl hf S trivial silent hne fun _ _ => trivial)

theorem lheading_sim (C : Ctx R G) {test₁ test₂ : Test} (TS : TestSim R G test₁ test₂) (hp : R.strict → TestPure test₁)
    {f₁ f₂ : Nat} (hf : f₁ ≤ f₂)
    {s₁ s₂ : BState} (S : SRel R G s₁ s₂) (silent : Bool) (hne : R.strict → silent = false → Live s₁) :
    FRel (ResRel R G) (lheadingRule test₁ f₁ s₁ silent) (lheadingRule test₂ f₂ s₂ silent) :=
  res (Rd.lheading_reads (.of_kok C.toKOk) (look C TS) hp rfl hf S trivial silent hne fun _ _ => trivial)

theorem reference_sim (cfg : Cfg) (C : Ctx R G) {test₁ test₂ : Test} (TS : TestSim R G test₁ test₂) {f₁ f₂ : Nat}
    (hf : f₁ ≤ f₂) {s₁ s₂ : BState} (S : SRel R G s₁ s₂) (silent : Bool) :
    FRel (ResRel R G) (referenceRule cfg test₁ f₁ s₁ silent) (referenceRule cfg test₂ f₂ s₂ silent) :=
  res (Rd.reference_reads ⟨rfl, rfl, rfl⟩ (look C TS) rfl hf S trivial silent fun _ _ => trivial)

end MdIt.Block.LX.Sim
