/-
  C05 for ALL sources, table side, the CONTENT: `get_lines` is faithful for ANY table, the
  virtual-space entries of split tabs included (`C05T.PFthV`).  An abstract part (`tf_pfthV_of_seg`: a table
  all of whose entries are `tf_Seg`, virtual or real), then the instantiation: `tf_Seg` is `C05I.LSeg`
  (Lemmas/C05LineTable.lean) with line terminators known.
  Name prefix `tf_`: faithfulness of the table, any table.
-/
import MdIt.Lemmas.C05TabsTable
import MdIt.Lemmas.C05TabsShift
import MdIt.Lemmas.C05TabsDefs2

namespace MdIt.C05T
open MdIt.InlineOps (Srcmap getSourcePosFor byteLen)
open MdIt.Lines (LineOffset)
open MdIt.C05I (SegAll segAll_get LSeg)
open MdIt.C05R (Cut Bdy NoBrk BrkAt PFth fa_Seg)

theorem tf_cut_sub_mem {c W w' : List Char} {p q p1 p2 : Nat} (hW : Cut c p q W)
    (hw : Cut c p1 p2 w') (h1 : p ≤ p1) (h2 : p2 ≤ q) : ∀ x ∈ w', x ∈ W := by
  have := hw.le
  obtain ⟨W1, W2, rfl, _, c2⟩ := hW.split hw.bdy_left h1 (by omega)
  obtain ⟨W3, W4, rfl, c3, _⟩ := c2.split hw.bdy_right (by omega) h2
  have := c3.unique hw
  subst this
  intro x hx
  simp [hx]

/-- a sub-stretch of a stretch `ch0 :: w` without line feed holds no line feed -/
theorem tf_sub_nolf {c w w' : List Char} {ch0 : Char} {p q p1 p2 : Nat} (hW : Cut c p q (ch0 :: w))
    (h0 : ch0 ≠ '\n') (hn : '\n' ∉ w) (hw : Cut c p1 p2 w') (h1 : p ≤ p1) (h2 : p2 ≤ q) :
    '\n' ∉ w' := by
  intro hm
  have := tf_cut_sub_mem hW hw h1 h2 _ hm
  simp only [List.mem_cons] at this
  rcases this with e | e
  · exact h0 e.symm
  · exact hn e

/-- **`PFth` is the special case**: a faithful table in the sense of `C05R.PFth` is `PFthV` -/
theorem tf_pfthV_of_pfth {src c : List Char} {m : Srcmap} (h : PFth src c m) : PFthV src c m where
  bdy := fun _ _ hp ha => h.bdy hp ha
  copy := fun _ _ _ _ p1 p2 w' a b hc _ h0' hn h1 h2 hc' ha hb =>
    h.copy p1 p2 w' a b hc' (tf_sub_nolf hc h0' hn hc' h1 h2) ha hb
  brk := h.brk

/-- entry `x` of the table, followed by `next`: VIRTUAL (the successor carries the same source
    offset; the two keys frame a run of spaces of the content; the offset is a character boundary of
    the source) or REAL (`C05R.fa_Seg`) -/
def tf_Seg (src c : List Char) (x : Nat × Nat) (next : Option (Nat × Nat)) : Prop :=
  (∃ k', next = some (k', x.2) ∧ Bdy src x.2 ∧
    ∃ pre n post, c = pre ++ List.replicate n ' ' ++ post ∧ byteLen pre = x.1 ∧ k' = x.1 + n) ∨
  fa_Seg src c x next

/-- **where a position is translated to**: inside a virtual segment to the source offset the
    segment sits on (the clamp), inside a real one by the shift of its entry -/
theorem tf_locate {src c : List Char} {m : Srcmap} (hw : C05.WFMap m)
    (hs : SegAll (tf_Seg src c) m) {p a : Nat} (ha : getSourcePosFor m p = .ok a) :
    (∃ i k v k', m[i]? = some (k, v) ∧ m[i + 1]? = some (k', v) ∧ k ≤ p ∧ p < k' ∧ a = v ∧
      Bdy src v ∧ ∃ pre n post, c = pre ++ List.replicate n ' ' ++ post ∧ byteLen pre = k ∧
        k' = k + n) ∨
    (∃ i k v, m[i]? = some (k, v) ∧ k ≤ p ∧ a = v + (p - k) ∧ fa_Seg src c (k, v) m[i + 1]? ∧
      ∀ y, m[i + 1]? = some y → p < y.1) := by
  obtain ⟨i, k, v, h1, h2, h3, h4⟩ := C05.lineOf_spec m hw p
  rw [C05.getSourcePosFor_of_line_clamp m p i k v h1 h2 h3] at ha
  simp only [Except.ok.injEq] at ha
  rcases segAll_get hs h2 with ⟨k', hn, hb, hdata⟩ | hseg
  · left
    simp only at hn hb hdata
    refine ⟨i, k, v, k', h2, hn, h3, h4 (i + 1) k' v (by omega) hn, ?_, hb, hdata⟩
    unfold C05.clampNext at ha
    rw [hn] at ha
    simp only at ha
    omega
  · right
    refine ⟨i, k, v, h2, h3, ?_, hseg, fun y hy => h4 (i + 1) y.1 y.2 (by omega) hy⟩
    rw [C05.clampNext_eq] at ha
    · exact ha.symm
    · intro k' v' hn
      have hp := h4 (i + 1) k' v' (by omega) hn
      obtain ⟨pre, t, post, _, _, _, _, hnext⟩ := hseg
      rw [hn] at hnext
      obtain ⟨post', _, hy1, hy2, _⟩ := hnext
      simp only at hy1 hy2
      omega

/-- a table all of whose entries are `tf_Seg` is faithful in the sense of `PFthV` -/
theorem tf_pfthV_of_seg {src c : List Char} {m : Srcmap} (hw : C05.WFMap m) (hv : C05.MonoMapV m)
    (hvs : VirtSp c m) (hs : SegAll (tf_Seg src c) m) : PFthV src c m := by
  refine ⟨?_, ?_, ?_⟩
  · -- bdy
    intro p a hp ha
    rcases tf_locate hw hs ha with ⟨i, k, v, k', _, _, _, _, rfl, hb, _⟩ | ⟨i, k, v, hi, hk, ha', hseg, hlt⟩
    · exact hb
    · exact (C05R.fa_copy_real hw hi hk ha' hseg hlt hp.cut_nil (by simp) ha).bdy_left
  · -- copy
    intro p q ch0 w p1 p2 w' a b hc h0 h0' hn h1 h2 hc' ha hb
    have hle := hc'.le
    rcases tf_locate hw hs ha with ⟨i, k, v, k', hi, hnx, hk, hk', _, _, _⟩ | ⟨i, k, v, hi, hk, ha', hseg, hlt⟩
    · exact (sh_not_virtual hvs hc h0 h0' hn hi hnx h1 (by omega) hk hk').elim
    · exact C05R.fa_copy_real hw hi hk ha' hseg hlt hc' (tf_sub_nolf hc h0' hn hc' h1 h2) hb
  · -- brk: a line feed does not sit in a virtual segment
    refine C05R.fa_brk_of_locate hw hv fun g ag hg hag => ?_
    rcases tf_locate hw hs hag with ⟨i, k, v, k', hi, hnx, hk, hk', _, _, pre, n, post, hcc, hpre, hkn⟩ |
      ⟨i, k, v, hi, hk, hag', hseg, hlt⟩
    · exfalso
      have := tb_charAt_replicate (pre := pre) (post := post) (n := n) (j := g - k) (by omega)
      rw [← hcc, show byteLen pre + (g - k) = g by omega] at this
      exact absurd (tx_charAt_unique hg this) (by decide)
    · exact ⟨i, k, v, hi, hk, hag', hseg, hlt⟩

theorem _root_.MdIt.C05I.LSeg.tf {src c : List Char} {hi : Nat} (x : Nat × Nat) (n : Option (Nat × Nat))
    (h : LSeg True src c hi x n) : tf_Seg src c x n := by
  rcases h with ⟨k', hn, hb, _, _, pre, m, post, hc, hp, hk, _, _⟩ | ⟨pre, t, post, hc, hp, hnt, hcut, _, hnext⟩
  · exact .inl ⟨k', hn, hb, pre, m, post, hc, hp, hk⟩
  · refine .inr ⟨pre, t, post, hc, hp, hnt, hcut, ?_⟩
    cases n with
    | none => exact hnext
    | some y =>
      obtain ⟨post', h1, h2, h3, h4⟩ := hnext
      exact ⟨post', h1, h2, h3, h4 trivial⟩

/-- **the table of `get_lines(b, e, indent, false)`, tabs split or not**, on a table whose entries
    cut line-feed-free lines out of the source (`LineOk`), strictly separated (`SortedS`), each ending
    in front of a line break or at the end of the source (`TermOk`): every entry is `tf_Seg` -/
theorem tf_getLines_seg {src : List Char} {offs : List LineOffset}
    (hT : ∀ (k : Nat) (o : LineOffset), offs[k]? = some o → Block.LineOk src o)
    (hord : Block.SortedS offs) (hterm : C05R.TermOk src offs)
    {b e indent : Nat} {c : List Char} {m : Srcmap} (hbe : b < e)
    (h : Lines.getLines src offs b e indent false = .ok (c, m)) : SegAll (tf_Seg src c) m := by
  obtain ⟨oe, hoe⟩ := C05I.getLines_last hbe h
  exact C05I.SegAll.imp C05I.LSeg.tf
    (C05I.getLines_lseg (T := True) hT hord (fun _ => hterm) hbe h hoe).1

theorem tf_getLines_pfthV {src : List Char} {offs : List LineOffset}
    (hT : ∀ (k : Nat) (o : LineOffset), offs[k]? = some o → Block.LineOk src o)
    (hord : Block.SortedS offs) (hterm : C05R.TermOk src offs)
    {b e indent : Nat} {c : List Char} {m : Srcmap} (hbe : b < e)
    (h : Lines.getLines src offs b e indent false = .ok (c, m)) : PFthV src c m := by
  obtain ⟨oe, hoe⟩ := C05I.getLines_last hbe h
  obtain ⟨hs, h0⟩ := C05I.getLines_lseg (T := True) hT hord (fun _ => hterm) hbe h hoe
  have hs1 := C05I.SegAll.imp C05I.LSeg.seg hs
  exact tf_pfthV_of_seg (C05I.seg_wf hs1 h0) (C05I.seg_monoV hs1)
    (tb_virtSp_of_seg hs) (C05I.SegAll.imp C05I.LSeg.tf hs)

end MdIt.C05T

namespace MdIt.Block
open MdIt.Lines (LineOffset)

/-- **the block pass establishes `PTabsF` at every placeholder**, for ALL sources: `PTabs`, the
    content is a faithful excerpt of the document (`PFthV`), the stretch ends at the end of a line -/
theorem inlSpec3_ptabsF (src0 : List Char) : InlSpec3 src0 (PTabsF src0) := by
  refine ⟨?_, ?_⟩
  · intro s b e c m ob oe hg hgl hbe hob hoe hkept
    refine ⟨(inlSpec2_ptabs src0).lines s b e c m ob oe hg.g2 hgl hbe hob hoe hkept, ?_, ?_⟩
    · have := C05T.tf_getLines_pfthV hg.g2.geo.table hg.g2.strict hg.term hbe (C05I.getLines_lift hgl)
      rw [hg.g2.srcEq] at this
      exact this
    · have := hg.term (e - 1) oe hoe
      rw [hg.g2.srcEq] at this
      exact this
  · intro s o line content textPos textMax hg ho hline hcontent
    have hfull := (inlSpec3_pfull src0).heading s o line content textPos textMax hg ho hline hcontent
    refine ⟨(inlSpec2_ptabs src0).heading s o line content textPos textMax hg.g2 ho hline hcontent,
      ?_, hfull.2.2⟩
    have := C05R.fa_heading_pfth (hg.g2.geo.table _ _ ho) ho hline hcontent
    rw [hg.g2.srcEq] at this
    exact C05T.tf_pfthV_of_pfth this

end MdIt.Block

/-! ## non-vacuity: the split-tab placeholder of `"-    ` a\n\t\t`"` -/

namespace MdIt.C05T
open MdIt.C05R (Cut Bdy)

/-- every entry of the table `[(0,5),(4,11),(7,11)]` of the content `"` a\n   `"` (`tb_exC`, the
    placeholder of `tb_exSrc`, see Lemmas/C05TabsTable.lean) is `tf_Seg` … -/
theorem tf_ex_seg : C05I.SegAll (tf_Seg tb_exSrc tb_exC) [(0, 5), (4, 11), (7, 11)] :=
  C05I.SegAll.imp C05I.LSeg.tf tb_ex_lseg

/-- … hence `PFthV` -/
theorem tf_ex_pfthV : PFthV tb_exSrc tb_exC [(0, 5), (4, 11), (7, 11)] :=
  tf_pfthV_of_seg sh_exM_wf sh_exM_monoV (tb_virtSp_of_seg tb_ex_lseg) tf_ex_seg

/-- `bdy` inside the virtual spaces (byte 5 of the content ↦ source offset 11, the backtick behind
    the two tabs), `copy` of the closing backtick `c[7..8]` to `src[11..12]` -/
example : Bdy tb_exSrc 11 ∧ Cut tb_exSrc 11 12 ['`'] :=
  ⟨tf_ex_pfthV.bdy 5 11 ⟨['`', ' ', 'a', '\n', ' '], [' ', ' ', '`'], by decide, by decide⟩
      (by decide +kernel),
    tf_ex_pfthV.copy 7 8 '`' [] 7 8 ['`'] 11 12
      ⟨['`', ' ', 'a', '\n', ' ', ' ', ' '], [], by decide, by decide, by decide⟩ (by decide) (by decide)
      (by simp) (Nat.le_refl _) (Nat.le_refl _)
      ⟨['`', ' ', 'a', '\n', ' ', ' ', ' '], [], by decide, by decide, by decide⟩
      (by decide +kernel) (by decide +kernel)⟩

/-- the solid start of `copy` is needed: `c[5..8] = "  `"` (two virtual spaces and the backtick, no
    line feed) is translated to `src[11..12] = "`"` — not a copy -/
example : Cut tb_exC 5 8 [' ', ' ', '`'] ∧ InlineOps.getSourcePosFor [(0, 5), (4, 11), (7, 11)] 5 = .ok 11 ∧
    InlineOps.getSourcePosFor [(0, 5), (4, 11), (7, 11)] 8 = .ok 12 ∧ ¬ Cut tb_exSrc 11 12 [' ', ' ', '`'] := by
  refine ⟨⟨['`', ' ', 'a', '\n', ' '], [], by decide, by decide, by decide⟩, by decide +kernel,
    by decide +kernel, ?_⟩
  rintro ⟨_, _, _, _, h⟩
  simp only [InlineOps.byteLen, show ' '.utf8Size = 1 by decide, show '`'.utf8Size = 1 by decide] at h
  omega

end MdIt.C05T
