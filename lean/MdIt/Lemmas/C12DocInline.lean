/-
  Helper development for `Props/C12Doc.lean` (C12 at whole-document level), INLINE side:
  a symbolic run of `Inline.tokLoop` on a window that holds `Entity.escapeAllPunct s`.

    * `trigger` / `runRule_quiet`   every rule of the html-free chain looks at the first character of
                                    the window and answers `None` without touching the state unless it
                                    is "its" character
    * `Only`, `skipToken_run`, `step_text_run`, `parseLinkLabel_run`
                                    the steps over a plain stretch (look-ahead token, one iteration, label walk)
                                    for ANY chain in which every rule but the text rule is quiet at its first
                                    character; the link / reference developments instantiate them
    * `step_escape`, `step_text`    one iteration of `tokenize` at `\c` (the escape rule pushes the
                                    `TextSpecial`) and at a punctuation-free run (the text rule takes
                                    all of it)
    * `tokLoop_escaped`             the loop: the children are `Text` / `TextSpecial` leaves that show `s`
    * `trimSrc_mid`                 `InlineState::new` on  blanks ++ mid ++ blanks
    * `parseInline_escaped`         `md.inline.parse` on  blanks ++ escapeAllPunct m ++ blanks

  Nothing here unfolds the emphasis matcher (`matchInner` / `matchOuter` / `scanAndMatch`): an
  emphasis rule is only ever met at a character that is not its marker.
-/
import MdIt.Lemmas.InlineRules
import MdIt.Props.C12

namespace MdIt.Inline.C12
open MdIt.InlineOps (Srcmap getSourcePosFor getMap byteLen slice)
open MdIt.C05 (WFMap byteLen_append slice_ok_iff)
open MdIt.Entity (escapeAllPunct isAsciiPunct nonStop notPunct splitRun)

/-! ## what the children look like -/

/-- a `Text` leaf, or the `TextSpecial` leaf the escape rule makes for an escapable character -/
def TS (n : Node) : Prop :=
  n.children = [] ∧
  ((∃ c, n.val = .text c) ∨ (∃ ch, n.val = .special [ch] ['\\', ch] infoEscape))

/-- the characters a node shows: `Text.content`, `TextSpecial.content` -/
def showNode (n : Node) : List Char :=
  match n.val with
  | .text c => c
  | .special c _ _ => c
  | _ => []

def showList (l : List Node) : List Char := l.flatMap showNode

theorem showList_append (a b : List Node) : showList (a ++ b) = showList a ++ showList b := by
  simp [showList]

theorem showList_single (n : Node) : showList [n] = showNode n := by simp [showList]

/-! ## `trailing_text_push` on such children -/

theorem wf_single : WFMap [(0, 0)] := ⟨⟨0, [], rfl⟩, by simp⟩

theorem trailingTextPush_show (src : List Char) (m : Srcmap) (hm : WFMap m) (cs : List Node)
    (a b : Nat) (piece : List Char) (hs : slice src a b = .ok piece) (hcs : ∀ n ∈ cs, TS n) :
    ∃ out, trailingTextPush src m cs a b = .ok out ∧ (∀ n ∈ out, TS n) ∧
      showList out = showList cs ++ piece := by
  have hab : a ≤ b := by have := (slice_boundaries hs).2.2; omega
  obtain ⟨x, hx⟩ := C05.translate_total m hm a
  obtain ⟨y, hy⟩ := C05.translate_total m hm b
  have hmap : liftOps (getMap m a b) = .ok (x, y) := by
    unfold InlineOps.getMap; rw [if_neg (by omega), hx, hy]; rfl
  have hsl : liftOps (slice src a b) = .ok piece := by rw [hs]; rfl
  have hy' : liftOps (getSourcePosFor m b) = .ok y := by rw [hy]; rfl
  have hfresh : (∀ n ∈ cs ++ [Node.newText piece (some (x, y))], TS n) ∧
      showList (cs ++ [Node.newText piece (some (x, y))]) = showList cs ++ piece := by
    constructor
    · intro n hn
      rcases List.mem_append.mp hn with h | h
      · exact hcs n h
      · simp only [List.mem_singleton] at h; subst h
        exact ⟨rfl, .inl ⟨piece, rfl⟩⟩
    · rw [showList_append, showList_single]; rfl
  unfold trailingTextPush
  simp only [hsl, hmap, hy']
  rcases popLast_spec cs with ⟨hp, _⟩ | ⟨init, last, hp, hcs'⟩
  · rw [hp]; exact ⟨_, rfl, hfresh.1, hfresh.2⟩
  · rw [hp]
    simp only
    by_cases ht : last.isText = true
    · rw [if_pos ht]
      have hlast : TS last := hcs last (by rw [hcs']; simp)
      have hinit : ∀ n ∈ init, TS n := fun n hn => hcs n (by rw [hcs']; simp [hn])
      obtain ⟨c, hc⟩ : ∃ c, last.val = .text c := by
        unfold Node.isText at ht
        split at ht
        · exact ⟨_, by assumption⟩
        · cases ht
      have hcont : last.content = c := by unfold Node.content; rw [hc]
      have hshow : showList cs = showList init ++ c := by
        rw [hcs', showList_append, showList_single]; unfold showNode; rw [hc]
      split
      · refine ⟨_, rfl, ?_, ?_⟩
        · intro n hn
          rcases List.mem_append.mp hn with h | h
          · exact hinit n h
          · simp only [List.mem_singleton] at h; subst h
            exact ⟨hlast.1, .inl ⟨_, rfl⟩⟩
        · rw [showList_append, showList_single, hshow, hcont]; simp [showNode]
      · refine ⟨_, rfl, ?_, ?_⟩
        · intro n hn
          rcases List.mem_append.mp hn with h | h
          · exact hinit n h
          · simp only [List.mem_singleton] at h; subst h
            exact ⟨hlast.1, .inl ⟨_, rfl⟩⟩
        · rw [showList_append, showList_single, hshow, hcont]; simp [showNode]
    · rw [if_neg ht]; exact ⟨_, rfl, hfresh.1, hfresh.2⟩

/-! ## every rule looks at the first character -/

/-- the first characters a rule can answer `Some(..)` at -/
def trigger : RuleId → Char → Bool
  | .text, c => nonStop c
  | .newline, c => c == '\n'
  | .escape, c => c == '\\'
  | .backticks, c => c == '`'
  | .emph mk _, c => c == mk
  | .link, c => c == '['
  | .image, c => c == '!'
  | .linkEnd, _ => false
  | .autolink, c => c == '<'
  | .entity, c => c == '&'

/-- at the character `c` every rule of the chain but `r0` answers `None` and hands the state back (`runRule_quiet`) -/
def Only (chain : List RuleId) (r0 : RuleId) (c : Char) : Prop := ∀ r ∈ chain, r ≠ r0 → trigger r c = false

/-- `\`, `!`, `[`, `&` belong to one rule each, unless an emphasis-like rule of the chain has that marker -/
theorem only_own {chain : List RuleId} {r0 : RuleId} {c : Char}
    (hown : (r0, c) ∈ [(RuleId.escape, '\\'), (.image, '!'), (.link, '['), (.entity, '&')])
    (he : ∀ mk csw, RuleId.emph mk csw ∈ chain → mk ≠ c) : Only chain r0 c := by
  intro r hr hne
  cases r with
  | emph mk csw => simp only [trigger, beq_eq_false_iff_ne]; exact fun h => he mk csw hr h.symm
  | _ =>
    simp only [List.mem_cons, Prod.mk.injEq, List.not_mem_nil, or_false] at hown
    rcases hown with ⟨rfl, rfl⟩ | ⟨rfl, rfl⟩ | ⟨rfl, rfl⟩ | ⟨rfl, rfl⟩ <;> first | exact absurd rfl hne | rfl | decide

theorem window_slice {st : IState} {w : List Char} (hw : st.window = .ok w) :
    slice st.src st.pos st.posMax = .ok w := window_eq hw

/-- at a character that is not "its own", a rule answers `None` and leaves the state alone, in both modes -/
theorem runRule_quiet (cfg : Cfg) (skip tok : IState → Except Panic IState) (fuel : Nat)
    (r : RuleId) (st : IState) (c : Char) (w : List Char) {silent : Bool}
    (hw : st.window = .ok (c :: w)) (ht : trigger r c = false) :
    runRule cfg skip tok fuel r st silent = .ok (none, st) := by
  cases r with
  | text =>
    simp only [trigger] at ht
    have hs' : (splitRun nonStop (c :: w)).1 = [] := by simp [splitRun, ht]
    have hs : (splitRun (fun c => !Entity.textStop.contains c) (c :: w)).1 = [] := hs'
    simp only [runRule, ruleText, hw, hs, byteLen]
    rfl
  | newline =>
    simp only [trigger, beq_eq_false_iff_ne, ne_eq] at ht
    simp only [runRule, ruleNewline, hw, ht, not_false_eq_true, if_true, liftR]
    simp [ht]
  | escape =>
    simp only [trigger, beq_eq_false_iff_ne, ne_eq] at ht
    have : Entity.escapeCore (c :: w) = .ok none := by simp [Entity.escapeCore, ht]
    simp only [runRule, ruleEscape, hw, this, liftR]
  | backticks =>
    simp only [trigger, beq_eq_false_iff_ne, ne_eq] at ht
    have hs := (codeSlice_eq _ _ _ _).mpr (window_slice hw)
    simp only [runRule, ruleBackticks, CodePair.run, hs, ht, not_false_eq_true, if_true, liftR]
    simp [ht]
  | emph mk csw =>
    simp only [trigger, beq_eq_false_iff_ne, ne_eq] at ht
    simp only [runRule, ruleEmph, hw]
    simp [ht, liftR]
  | link =>
    simp only [trigger, beq_eq_false_iff_ne, ne_eq] at ht
    simp only [runRule, ruleLink, hw, liftR]
    simp [ht]
  | image =>
    simp only [trigger, beq_eq_false_iff_ne, ne_eq] at ht
    simp only [runRule, ruleImage, hw, liftR]
    split <;> first
      | rfl
      | (rename_i heq; simp only [Except.ok.injEq, List.cons.injEq] at heq; exact absurd heq.1 ht)
      | (rename_i heq; cases heq)
  | linkEnd => rfl
  | autolink =>
    simp only [trigger, beq_eq_false_iff_ne, ne_eq] at ht
    simp only [runRule, ruleAutolink, hw, liftR]
    simp [ht]
  | entity =>
    simp only [trigger, beq_eq_false_iff_ne, ne_eq] at ht
    simp only [runRule, ruleEntity, hw, liftR]
    simp [ht]

/-! ## the chain condition -/

/-- what the round trip needs of the inline chain: the text scanner and the escape rule are in it
    (anywhere), and every emphasis-like rule has an ASCII punctuation marker other than `\` (true of
    `*`, `_`, `~`).  No condition on order; any of the other rules may be present or absent. -/
structure ChainOK (chain : List RuleId) : Prop where
  text : RuleId.text ∈ chain
  escape : RuleId.escape ∈ chain
  emph : ∀ mk csw, RuleId.emph mk csw ∈ chain → isAsciiPunct mk = true ∧ mk ≠ '\\'

theorem firstRule_only (run : RuleId → IState → RuleRes) (chain : List RuleId) (st : IState)
    (r0 : RuleId) (n : Nat) (st' : IState) (hmem : r0 ∈ chain)
    (hfire : run r0 st = .ok (some n, st'))
    (hq : ∀ r ∈ chain, r ≠ r0 → run r st = .ok (none, st)) :
    firstRule run chain st = .ok (some n, st') := by
  induction chain with
  | nil => cases hmem
  | cons r rs ih =>
    by_cases hr : r = r0
    · subst hr; simp only [firstRule, hfire]
    · have h1 := hq r (by simp) hr
      simp only [firstRule, h1]
      refine ih ?_ (fun r' hr' hne => hq r' (List.mem_cons_of_mem _ hr') hne)
      rcases List.mem_cons.mp hmem with h | h
      · exact absurd h.symm hr
      · exact h

theorem trigger_plain {chain : List RuleId} (hc : ChainOK chain) {c : Char}
    (hp : isAsciiPunct c = false) (hn : c ≠ '\n') : Only chain .text c := by
  have key : ∀ d : Char, isAsciiPunct d = true → (c == d) = false := by
    intro d hd
    rw [beq_eq_false_iff_ne]
    intro h; subst h; rw [hp] at hd; cases hd
  intro r hr hne
  cases r with
  | text => exact absurd rfl hne
  | newline => simp only [trigger, beq_eq_false_iff_ne]; exact hn
  | escape => exact key _ (by decide)
  | backticks => exact key _ (by decide)
  | emph mk csw => exact key _ (hc.emph mk csw hr).1
  | link => exact key _ (by decide)
  | image => exact key _ (by decide)
  | linkEnd => rfl
  | autolink => exact key _ (by decide)
  | entity => exact key _ (by decide)

theorem trigger_backslash {chain : List RuleId} (hc : ChainOK chain) : Only chain .escape '\\' :=
  only_own (by simp) fun mk csw h => (hc.emph mk csw h).2

/-! ## one iteration of `tokenize` -/

theorem window_of_src {st : IState} {P W B : List Char} (hsrc : st.src = P ++ W ++ B)
    (hpos : st.pos = byteLen P) (hmax : st.posMax = byteLen P + byteLen W) :
    st.window = .ok W := by
  have : slice st.src st.pos st.posMax = .ok W :=
    (slice_ok_iff _ _ _ _).mpr ⟨P, B, hsrc, hpos.symm, by omega⟩
  unfold IState.window; rw [this]; rfl

/-! ## steps over a plain stretch, for any chain

  The chain classes of this development (`ChainOK` here, `C12X.TextChain`, `C13D.ChainOK`, …) are used for one thing:
  at a given character every rule of the chain but one is quiet.  The steps below take that as their hypothesis. -/

theorem nonStop_of_not_mem {c : Char} (h : c ∉ Entity.textStop) : nonStop c = true := by
  simp [nonStop, h]

theorem nonStop_of_mem {c : Char} (h : c ∈ Entity.textStop) : nonStop c = false := by
  simp [nonStop, h]

theorem silentBumped_same (run : IState → Bool → RuleRes) (st : IState) (r : Option Nat)
    (h : run { st with level := st.level + 1 } true = .ok (r, { st with level := st.level + 1 })) :
    silentBumped run st = .ok (r, st) := by
  unfold silentBumped
  rw [h]
  simp only [Nat.add_eq_zero_iff, Nat.succ_ne_self, and_false, if_false]
  cases st; simp

/-- **the look-ahead token over a plain stretch** `p :: P` (in front of a stop character or the end of the
    window): the memo answers — with the end of the stretch —, or the text rule takes the stretch in look-ahead
    mode and the answer is recorded -/
theorem skipToken_run {cfg : Cfg} (htext : RuleId.text ∈ cfg.chain) (f : Nat) {st : IState} (p : Char)
    (P b : List Char) (hw : st.window = .ok (p :: P ++ b)) (hP : ∀ x ∈ p :: P, nonStop x = true)
    (hb : ∀ x ∈ b.head?, nonStop x = false) (hq : Only cfg.chain .text p) (hl : st.level < cfg.maxNesting)
    (hcache : ∀ v, st.cache.lookup st.pos = some v → v = st.pos + byteLen (p :: P)) :
    skipToken cfg (f + 1) st = .ok { st with
      pos := st.pos + byteLen (p :: P),
      cache := if (st.cache.lookup st.pos).isSome then st.cache
               else (st.pos, st.pos + byteLen (p :: P)) :: st.cache } := by
  rw [skipToken.eq_def]
  simp only
  cases hlk : st.cache.lookup st.pos with
  | some v =>
    have := hcache v hlk
    subst this
    cases st; rfl
  | none =>
    have hwb : ({ st with level := st.level + 1 } : IState).window = .ok ((p :: P) ++ b) := hw
    have hlen : byteLen (p :: P) ≠ 0 := by
      have := Char.utf8Size_pos p; simp only [byteLen]; omega
    have hrun : splitRun (fun c => !Entity.textStop.contains c) ((p :: P) ++ b) = (p :: P, b) :=
      Entity.splitRun_append nonStop (p :: P) b hP hb
    have htextr : silentBumped (runRule cfg (fun s => skipToken cfg f s) (fun s => tokLoop cfg f s.posMax s) f .text)
        st = .ok (some (byteLen (p :: P)), st) := by
      apply silentBumped_same
      simp only [runRule, ruleText, hwb, hrun, if_neg hlen, if_true, liftR]
    have hfirst := firstRule_only
      (fun id s => silentBumped (runRule cfg (fun s => skipToken cfg f s) (fun s => tokLoop cfg f s.posMax s) f id) s)
      cfg.chain st .text _ _ htext htextr
      (fun r hr hne => silentBumped_same _ st none
        (runRule_quiet cfg _ _ f r _ p (P ++ b) hwb (hq r hr hne)))
    simp only [hl, if_true, skipStep, hfirst, cacheInsert, Option.isSome_none, Bool.false_eq_true, if_false]

/-- **one iteration of `tokenize` at a plain stretch**: the text rule takes exactly the stretch and hands it to
    `trailing_text_push` -/
theorem step_text_run {cfg : Cfg} (htext : RuleId.text ∈ cfg.chain) (skip tok : IState → Except Panic IState)
    (fuel : Nat) (st : IState) (p : Char) (P E : List Char) (hw : st.window = .ok (p :: P ++ E))
    (hP : ∀ x ∈ p :: P, nonStop x = true) (hE : ∀ x ∈ E.head?, nonStop x = false)
    (hq : Only cfg.chain .text p) (hlv : st.level < cfg.maxNesting) (out : List Node)
    (hout : trailingTextPush st.src st.srcmap st.children st.pos (st.pos + byteLen (p :: P)) = .ok out) :
    tokStep cfg skip tok fuel st = .ok { st with children := out, pos := st.pos + byteLen (p :: P) } := by
  have hrun : splitRun (fun c => !Entity.textStop.contains c) ((p :: P) ++ E) = (p :: P, E) :=
    Entity.splitRun_append nonStop (p :: P) E hP hE
  have hlen : byteLen (p :: P) ≠ 0 := by
    have := Char.utf8Size_pos p; simp only [byteLen]; omega
  have hw' : st.window = .ok ((p :: P) ++ E) := hw
  have hrule : runRule cfg skip tok fuel .text st false =
      .ok (some (byteLen (p :: P)), { st with children := out }) := by
    simp only [runRule, ruleText, hw', hrun, if_neg hlen, IState.pushText, hout, liftR]
    rfl
  have hfirst := firstRule_only (fun id s => runRule cfg skip tok fuel id s false) cfg.chain st
    .text _ _ htext hrule
    (fun r hr hne => runRule_quiet cfg skip tok fuel r st _ _ hw (hq r hr hne))
  unfold tokStep
  simp only [if_pos hlv, hfirst]

theorem labelLoop_close (skip : IState → Except Panic IState) (en : Bool) (fuel : Nat) {st : IState}
    {rest : List Char} (hw : st.window = .ok (']' :: rest)) :
    labelLoop skip en (fuel + 1) 1 st = .ok (some true, st) := by
  rw [labelLoop.eq_def]
  simp only [hw, liftR]
  simp

/-- the memo behind the label walk over the stretch `P` that starts at byte `k` and ends at `v` -/
def labelCache (cache : List (Nat × Nat)) (P : List Char) (k v : Nat) : List (Nat × Nat) :=
  if P.isEmpty || (cache.lookup k).isSome then cache else (k, v) :: cache

/-- **`parse_link_label` at a `[` (byte `|a|`) that is followed by a plain stretch `P` and `]`**: the walk calls
    `skip_token` once (when `P ≠ []`) and stops at the `]`; the label ends behind `P`, `state.pos` is restored -/
theorem parseLinkLabel_run {cfg : Cfg} (htext : RuleId.text ∈ cfg.chain) (f fuel : Nat) (en : Bool) {st : IState}
    (a P rest : List Char) (hsrc : st.src = a ++ '[' :: (P ++ ']' :: rest)) (hm : st.posMax = byteLen st.src)
    (hP : ∀ x ∈ P, nonStop x = true) (hq : ∀ p ∈ P.head?, Only cfg.chain .text p)
    (hl : st.level < cfg.maxNesting)
    (hcache : ∀ v, st.cache.lookup (byteLen a + 1) = some v → v = byteLen a + 1 + byteLen P) :
    parseLinkLabel (fun s => skipToken cfg (f + 1) s) (fuel + 2) st (byteLen a) en =
      .ok (some (byteLen a + 1 + byteLen P),
        { st with cache := labelCache st.cache P (byteLen a + 1) (byteLen a + 1 + byteLen P) }) := by
  have hb1 : byteLen ['['] = 1 := by decide
  have hlen : byteLen st.src = byteLen a + 1 + byteLen P + 1 + byteLen rest := by
    have h1 : ('[' : Char).utf8Size = 1 := by decide
    have h2 : (']' : Char).utf8Size = 1 := by decide
    rw [hsrc]
    simp only [byteLen_append, byteLen, h1, h2]
    omega
  have hw : ({ st with pos := byteLen a + 1 } : IState).window = .ok (P ++ ']' :: rest) :=
    window_of_src (P := a ++ ['[']) (W := P ++ ']' :: rest) (B := []) (by simp [hsrc])
      (by simp [byteLen_append, hb1])
      (by show st.posMax = _
          have h1 : ('[' : Char).utf8Size = 1 := by decide
          have h2 : (']' : Char).utf8Size = 1 := by decide
          rw [hm, hlen]
          simp only [byteLen_append, byteLen, h1, h2]; omega)
  unfold parseLinkLabel
  cases P with
  | nil =>
    rw [labelLoop_close _ _ _ hw]
    simp only [labelCache, List.isEmpty_nil, Bool.true_or, if_true, byteLen, Nat.add_zero]
  | cons p P' =>
    have hp1 : p ≠ ']' := by intro e; subst e; exact absurd (hP ']' (by simp)) (by decide)
    have hp2 : p ≠ '[' := by intro e; subst e; exact absurd (hP '[' (by simp)) (by decide)
    have hsk := skipToken_run htext f p P' (']' :: rest) hw hP
      (by intro ch hch; simp at hch; subst hch; decide) (hq p (by simp)) hl hcache
    obtain ⟨cache', hcv⟩ : ∃ cache', cache' =
        labelCache st.cache (p :: P') (byteLen a + 1) (byteLen a + 1 + byteLen (p :: P')) := ⟨_, rfl⟩
    have hsk' : skipToken cfg (f + 1) { st with pos := byteLen a + 1 } =
        .ok { st with pos := byteLen a + 1 + byteLen (p :: P'), cache := cache' } := by
      rw [hsk, hcv]; rfl
    rw [← hcv]
    have hw2 : ({ st with pos := byteLen a + 1 + byteLen (p :: P'), cache := cache' } : IState).window =
        .ok (']' :: rest) :=
      window_of_src (P := a ++ '[' :: (p :: P')) (W := ']' :: rest) (B := []) (by simp [hsrc])
        (by have h1 : ('[' : Char).utf8Size = 1 := by decide
            simp only [byteLen_append, byteLen, h1]; omega)
        (by show st.posMax = _
            have h1 : ('[' : Char).utf8Size = 1 := by decide
            have h2 : (']' : Char).utf8Size = 1 := by decide
            rw [hm, hlen]
            simp only [byteLen_append, byteLen, h1, h2]
            omega)
    rw [labelLoop.eq_def]
    simp only [hw, List.cons_append, liftR, hp1, false_and, if_false, hsk', hp2]
    rw [labelLoop_close _ _ _ hw2]
    rfl

/-- at `\c` with `c` ASCII punctuation: the escape rule pushes `TextSpecial { content: c }` and the
    loop moves behind the two characters -/
theorem step_escape {cfg : Cfg} (hc : ChainOK cfg.chain) (skip tok : IState → Except Panic IState)
    (fuel : Nat) (st : IState) (P E B : List Char) (c : Char) (hp : isAsciiPunct c = true)
    (hsrc : st.src = P ++ ('\\' :: c :: E) ++ B) (hpos : st.pos = byteLen P)
    (hmax : st.posMax = byteLen P + byteLen ('\\' :: c :: E))
    (hwf : WFMap st.srcmap) (hlv : st.level < cfg.maxNesting) (hts : ∀ n ∈ st.children, TS n) :
    ∃ st', tokStep cfg skip tok fuel st = .ok st' ∧ st'.src = st.src ∧ st'.srcmap = st.srcmap ∧
      st'.posMax = st.posMax ∧ st'.level = st.level ∧ st'.pos = byteLen (P ++ ['\\', c]) ∧
      (∀ n ∈ st'.children, TS n) ∧ showList st'.children = showList st.children ++ [c] := by
  have hw := window_of_src hsrc hpos hmax
  have hcore := Entity.escapeCore_escapable c E ((Entity.escapable_is_ascii_punct c).2 hp)
  obtain ⟨x, y, hmap, -, -⟩ := getMap_ok (st := st) hwf
    (show st.pos ≤ st.pos + byteLen ['\\', c] by omega)
  have hrule : runRule cfg skip tok fuel .escape st false =
      .ok (some (byteLen ['\\', c]),
        st.push (Node.leaf (.special [c] ['\\', c] infoEscape) (some (x, y)))) := by
    simp only [runRule, ruleEscape, hw, hcore, hmap, liftR]
    rfl
  have hfirst := firstRule_only (fun id s => runRule cfg skip tok fuel id s false) cfg.chain st
    .escape _ _ hc.escape hrule
    (fun r hr hne => runRule_quiet cfg skip tok fuel r st _ _ hw (trigger_backslash hc r hr hne))
  refine ⟨{ st with children := st.children ++ [Node.leaf (.special [c] ['\\', c] infoEscape) (some (x, y))],
                    pos := st.pos + byteLen ['\\', c] }, ?_, rfl, rfl, rfl, rfl, ?_, ?_, ?_⟩
  · unfold tokStep
    simp only [if_pos hlv, hfirst]
    rfl
  · simp only [hpos, byteLen_append]
  · intro n hn
    simp only at hn
    rcases List.mem_append.mp hn with h | h
    · exact hts n h
    · simp only [List.mem_singleton] at h; subst h
      exact ⟨rfl, .inr ⟨c, rfl⟩⟩
  · simp only [showList_append, showList_single]; rfl

theorem slice_run {st : IState} {P a E B : List Char} (hsrc : st.src = P ++ (a ++ E) ++ B)
    (hpos : st.pos = byteLen P) : slice st.src st.pos (st.pos + byteLen a) = .ok a :=
  (slice_ok_iff _ _ _ _).mpr ⟨P, E ++ B, by rw [hsrc]; simp, hpos.symm, rfl⟩

/-- at a run `a` of characters that are neither ASCII punctuation nor a line feed, followed by the end
    of the window or a stop character: the text scanner takes exactly `a` and hands it to
    `trailing_text_push` -/
theorem step_text_push {cfg : Cfg} (hc : ChainOK cfg.chain) (skip tok : IState → Except Panic IState)
    (fuel : Nat) (st : IState) (P a E B : List Char) (hane : a ≠ [])
    (ha : ∀ x ∈ a, isAsciiPunct x = false ∧ x ≠ '\n') (hE : ∀ x ∈ E.head?, nonStop x = false)
    (hsrc : st.src = P ++ (a ++ E) ++ B) (hpos : st.pos = byteLen P)
    (hmax : st.posMax = byteLen P + byteLen (a ++ E)) (hlv : st.level < cfg.maxNesting) (out : List Node)
    (hout : trailingTextPush st.src st.srcmap st.children st.pos (st.pos + byteLen a) = .ok out) :
    tokStep cfg skip tok fuel st = .ok { st with children := out, pos := st.pos + byteLen a } := by
  obtain ⟨c, a', rfl⟩ := List.exists_cons_of_ne_nil hane
  exact step_text_run hc.text skip tok fuel st c a' E (window_of_src hsrc hpos hmax)
    (fun x hx => Entity.nonStop_of_notPunct x (ha x hx).1 (ha x hx).2) hE
    (trigger_plain hc (ha c (by simp)).1 (ha c (by simp)).2) hlv out hout

theorem step_text {cfg : Cfg} (hc : ChainOK cfg.chain) (skip tok : IState → Except Panic IState)
    (fuel : Nat) (st : IState) (P a E B : List Char) (hane : a ≠ [])
    (ha : ∀ x ∈ a, isAsciiPunct x = false ∧ x ≠ '\n') (hE : ∀ x ∈ E.head?, nonStop x = false)
    (hsrc : st.src = P ++ (a ++ E) ++ B) (hpos : st.pos = byteLen P)
    (hmax : st.posMax = byteLen P + byteLen (a ++ E))
    (hwf : WFMap st.srcmap) (hlv : st.level < cfg.maxNesting) (hts : ∀ n ∈ st.children, TS n) :
    ∃ st', tokStep cfg skip tok fuel st = .ok st' ∧ st'.src = st.src ∧ st'.srcmap = st.srcmap ∧
      st'.posMax = st.posMax ∧ st'.level = st.level ∧ st'.pos = byteLen (P ++ a) ∧
      (∀ n ∈ st'.children, TS n) ∧ showList st'.children = showList st.children ++ a := by
  obtain ⟨out, hout, hts', hshow⟩ :=
    trailingTextPush_show st.src st.srcmap hwf st.children _ _ _ (slice_run hsrc hpos) hts
  exact ⟨_, step_text_push hc skip tok fuel st P a E B hane ha hE hsrc hpos hmax hlv out hout, rfl, rfl, rfl, rfl,
    by simp only [hpos, byteLen_append], hts', hshow⟩

/-! ## the loop -/

theorem byteLen_cons2 (a b : Char) (E : List Char) : byteLen (a :: b :: E) = byteLen [a, b] + byteLen E := by
  simp only [byteLen]; omega

theorem escapeAllPunct_head_stop (s : List Char) (h : ∀ c ∈ s.head?, notPunct c = false) :
    ∀ x ∈ (escapeAllPunct s).head?, nonStop x = false := by
  cases s with
  | nil => simp [escapeAllPunct]
  | cons c t =>
    have hc : isAsciiPunct c = true := by simpa [notPunct] using h c (by simp)
    intro x hx
    simp only [escapeAllPunct, hc, if_true, List.head?_cons, Option.mem_def, Option.some.injEq] at hx
    subst hx; decide

/-- **the inline loop on an escaped string.**  `st.src = P ++ escapeAllPunct s ++ B`, the window is
    exactly the middle part, the children so far are `Text` / `TextSpecial` leaves: the loop runs to
    the end of the window without panic, the children stay such leaves and show `s` more. -/
theorem tokLoop_escaped {cfg : Cfg} (hc : ChainOK cfg.chain) :
    ∀ (n : Nat) (s : List Char), s.length ≤ n → '\n' ∉ s → ∀ fuel, n ≤ fuel →
    ∀ (st : IState) (P B : List Char), st.src = P ++ escapeAllPunct s ++ B → st.pos = byteLen P →
      st.posMax = byteLen P + byteLen (escapeAllPunct s) → WFMap st.srcmap →
      st.level < cfg.maxNesting → (∀ n ∈ st.children, TS n) →
      ∃ st', tokLoop cfg fuel st.posMax st = .ok st' ∧ (∀ n ∈ st'.children, TS n) ∧
        showList st'.children = showList st.children ++ s := by
  intro n
  induction n with
  | zero =>
    intro s hs _ fuel _ st P B hsrc hpos hmax _ _ hts
    have : s = [] := List.length_eq_zero_iff.mp (by omega)
    subst this
    refine ⟨st, ?_, hts, by simp⟩
    unfold tokLoop
    rw [if_neg (by simp [escapeAllPunct, byteLen] at hmax; omega)]
  | succ n ih =>
    intro s hs hn fuel hf st P B hsrc hpos hmax hwf hlv hts
    match s, hs, hn with
    | [], _, _ =>
      refine ⟨st, ?_, hts, by simp⟩
      unfold tokLoop
      rw [if_neg (by simp [escapeAllPunct, byteLen] at hmax; omega)]
    | c :: t, hs, hn =>
      obtain ⟨f, rfl⟩ : ∃ f, fuel = f + 1 := ⟨fuel - 1, by omega⟩
      have hnt : '\n' ∉ t := fun h => hn (by simp [h])
      by_cases hp : isAsciiPunct c = true
      · have hesc : escapeAllPunct (c :: t) = '\\' :: c :: escapeAllPunct t := by
          simp [escapeAllPunct, hp]
        rw [hesc] at hsrc hmax
        obtain ⟨st1, h1, e1, e2, e3, e4, e5, hts1, hshow1⟩ :=
          step_escape hc (fun s => skipToken cfg f s) (fun s => tokLoop cfg f s.posMax s) f st P
            (escapeAllPunct t) B c hp hsrc hpos hmax hwf hlv hts
        obtain ⟨st2, h2, hts2, hshow2⟩ := ih t (by simpa using hs) hnt f (by omega) st1
          (P ++ ['\\', c]) B (by rw [e1, hsrc]; simp) e5
          (by rw [e3, hmax, byteLen_append, byteLen_cons2 '\\' c]; omega) (by rw [e2]; exact hwf)
          (by rw [e4]; exact hlv) hts1
        refine ⟨st2, ?_, hts2, by rw [hshow2, hshow1]; simp⟩
        have hlt : st.pos < st.posMax := by
          have := byteLen_pos_of_ne_nil (l := '\\' :: c :: escapeAllPunct t) (by simp)
          rw [hpos, hmax]; omega
        unfold tokLoop
        rw [if_pos hlt]
        simp only [h1]
        rw [← e3]; exact h2
      · have hp' : isAsciiPunct c = false := by simpa using hp
        have hsound := Entity.splitRun_sound notPunct (c :: t)
        generalize ha : (splitRun notPunct (c :: t)).1 = a at hsound
        generalize hs' : (splitRun notPunct (c :: t)).2 = s' at hsound
        have hane : a ≠ [] := by
          intro he; rw [← ha] at he; simp [splitRun, notPunct, hp'] at he
        have hlen : (c :: t).length = a.length + s'.length := by rw [hsound.2.1]; simp
        have hapos : 0 < a.length := List.length_pos_iff.2 hane
        have hns' : '\n' ∉ s' := fun h => hn (by rw [hsound.2.1]; simp [h])
        have hesc : escapeAllPunct (c :: t) = a ++ escapeAllPunct s' := by
          rw [hsound.2.1]; exact Entity.escapeAllPunct_append_notPunct a s' hsound.1
        have haP : ∀ x ∈ a, isAsciiPunct x = false ∧ x ≠ '\n' := by
          intro x hx
          refine ⟨by simpa [notPunct] using hsound.1 x hx, ?_⟩
          intro he; subst he; exact hn (by rw [hsound.2.1]; simp [hx])
        rw [hesc] at hsrc hmax
        obtain ⟨st1, h1, e1, e2, e3, e4, e5, hts1, hshow1⟩ :=
          step_text hc (fun s => skipToken cfg f s) (fun s => tokLoop cfg f s.posMax s) f st P a
            (escapeAllPunct s') B hane haP (escapeAllPunct_head_stop s' hsound.2.2) hsrc hpos hmax
            hwf hlv hts
        obtain ⟨st2, h2, hts2, hshow2⟩ := ih s' (by simp at hs hlen; omega) hns' f (by omega) st1
          (P ++ a) B (by rw [e1, hsrc]; simp) e5
          (by rw [e3, hmax]; simp only [byteLen_append]; omega) (by rw [e2]; exact hwf)
          (by rw [e4]; exact hlv) hts1
        refine ⟨st2, ?_, hts2, ?_⟩
        · have hlt : st.pos < st.posMax := by
            have := byteLen_pos_of_ne_nil hane
            rw [hpos, hmax]; simp only [byteLen_append]; omega
          unfold tokLoop
          rw [if_pos hlt]
          simp only [h1]
          rw [← e3]; exact h2
        · rw [hshow2, hshow1, hsound.2.1]; simp

/-! ## `InlineState::new`: the trimmed window -/

theorem takeWhile_append_stop {α : Type} (p : α → Bool) (a b : List α) (ha : ∀ x ∈ a, p x = true)
    (hb : ∀ x ∈ b.head?, p x = false) : (a ++ b).takeWhile p = a ∧ (a ++ b).dropWhile p = b := by
  induction a with
  | nil =>
    cases b with
    | nil => simp
    | cons x r => have := hb x (by simp); simp [List.takeWhile_cons, List.dropWhile_cons, this]
  | cons x r ih =>
    have hx := ha x (by simp)
    have := ih (fun y hy => ha y (by simp [hy]))
    simp [List.takeWhile_cons, List.dropWhile_cons, hx, this.1, this.2]

/-- `trim_src` on  blanks ++ mid ++ blanks  where `mid` is non-empty and neither starts nor ends
    with a blank: the window is exactly `mid` -/
theorem trimSrc_mid (w m w' : List Char) (hw : ∀ c ∈ w, isSpTab c = true)
    (hw' : ∀ c ∈ w', isSpTab c = true) (hne : m ≠ [])
    (hh : ∀ c ∈ m.head?, isSpTab c = false) (hl : ∀ c ∈ m.getLast?, isSpTab c = false) :
    trimSrc (w ++ m ++ w') = (byteLen w, byteLen w + byteLen m) := by
  obtain ⟨mi, l, rfl⟩ : ∃ mi l, m = mi ++ [l] := ⟨m.dropLast, m.getLast hne, (List.dropLast_concat_getLast hne).symm⟩
  have hlb : isSpTab l = false := hl l (by simp)
  have hrev : (w ++ (mi ++ [l]) ++ w').reverse = w'.reverse ++ (l :: (mi.reverse ++ w.reverse)) := by simp
  have h1 := takeWhile_append_stop isSpTab w'.reverse (l :: (mi.reverse ++ w.reverse))
    (fun x hx => hw' x (List.mem_reverse.mp hx)) (by intro x hx; simp at hx; subst hx; exact hlb)
  have hmi : ∀ x ∈ mi.head?, isSpTab x = false := by
    intro x hx
    cases mi with
    | nil => simp at hx
    | cons y r => simp at hx; subst hx; exact hh _ (by simp)
  have h2 := takeWhile_append_stop isSpTab w mi hw hmi
  have hbw : byteLen w = w.length := byteLen_ascii _ (fun c hc => isSpTab_size (hw c hc))
  have hbw' : byteLen w' = w'.length := byteLen_ascii _ (fun c hc => isSpTab_size (hw' c hc))
  unfold trimSrc
  simp only [hrev, h1.1, h1.2, List.drop_succ_cons, List.drop_zero, List.reverse_append,
    List.reverse_reverse, h2.1, List.length_reverse]
  simp only [byteLen_append, hbw, hbw']
  congr 1
  omega

theorem escapeAllPunct_length (l : List Char) : l.length ≤ (escapeAllPunct l).length := by
  induction l with
  | nil => simp [escapeAllPunct]
  | cons c t ih => simp only [escapeAllPunct]; split <;> simp <;> omega

/-- **`md.inline.parse` on an escaped line** (with any blanks around it, any well-formed per-line
    table): no panic, the children are `Text` / `TextSpecial` leaves and show exactly `m`. -/
theorem parseInline_escaped {cfg : Cfg} (hc : ChainOK cfg.chain) (hmax : 0 < cfg.maxNesting)
    (w m w' : List Char) (mapping : Srcmap) (hmap : WFMap mapping)
    (hw : ∀ c ∈ w, isSpTab c = true) (hw' : ∀ c ∈ w', isSpTab c = true) (hne : m ≠ [])
    (hh : ∀ c ∈ m.head?, isSpTab c = false) (hl : ∀ c ∈ m.getLast?, isSpTab c = false)
    (hn : '\n' ∉ m) :
    ∃ ns, parseInline cfg (w ++ escapeAllPunct m ++ w') mapping = .ok ns ∧ (∀ n ∈ ns, TS n) ∧
      showList ns = m := by
  have hwE : ∀ c ∈ (escapeAllPunct m).head?, isSpTab c = false := by
    cases m with
    | nil => exact absurd rfl hne
    | cons c t =>
      intro x hx
      simp only [escapeAllPunct] at hx
      split at hx
      · simp at hx; subst hx; decide
      · simp at hx; subst hx; exact hh _ (by simp)
  have hlE : ∀ c ∈ (escapeAllPunct m).getLast?, isSpTab c = false := by
    obtain ⟨mi, l, rfl⟩ : ∃ mi l, m = mi ++ [l] :=
      ⟨m.dropLast, m.getLast hne, (List.dropLast_concat_getLast hne).symm⟩
    have hlb : isSpTab l = false := hl l (by simp)
    have happ : ∀ a b : List Char, escapeAllPunct (a ++ b) = escapeAllPunct a ++ escapeAllPunct b := by
      intro a b
      induction a with
      | nil => rfl
      | cons c t ih => simp only [List.cons_append, escapeAllPunct]; split <;> simp [ih]
    intro x hx
    rw [happ] at hx
    simp only [escapeAllPunct] at hx
    split at hx
    · simp at hx; subst hx; exact hlb
    · simp at hx; subst hx; exact hlb
  have hneE : escapeAllPunct m ≠ [] := by
    intro he
    have := escapeAllPunct_length m
    rw [he] at this
    exact hne (List.length_eq_zero_iff.mp (by simpa using this))
  have htrim := trimSrc_mid w (escapeAllPunct m) w' hw hw' hneE hwE hlE
  let st0 : IState := IState.init (w ++ escapeAllPunct m ++ w') mapping
  have hfuel : m.length ≤ topFuel cfg (w ++ escapeAllPunct m ++ w') := by
    have h1 := escapeAllPunct_length m
    have h2 : ∀ l : List Char, l.length ≤ byteLen l := by
      intro l
      induction l with
      | nil => simp
      | cons c t ih => have := Char.utf8Size_pos c; simp only [byteLen, List.length_cons]; omega
    have h2 := h2 (escapeAllPunct m)
    unfold topFuel
    simp only [byteLen_append]
    have : byteLen w + byteLen (escapeAllPunct m) + byteLen w' + 2 ≤
        (byteLen w + byteLen (escapeAllPunct m) + byteLen w' + 2) * (cfg.maxNesting + 2) :=
      Nat.le_mul_of_pos_right _ (by omega)
    omega
  obtain ⟨st', h, hts, hshow⟩ := tokLoop_escaped hc m.length m (Nat.le_refl _) hn
    (topFuel cfg (w ++ escapeAllPunct m ++ w')) hfuel st0 w w' rfl
    (by show (trimSrc _).1 = _; rw [htrim]) (by show (trimSrc _).2 = _; rw [htrim]) hmap
    (by show 0 < _; exact hmax) (by intro n hn; cases hn)
  refine ⟨st'.children, ?_, hts, by rw [hshow]; rfl⟩
  unfold parseInline tokenize
  have : (IState.init (w ++ escapeAllPunct m ++ w') mapping) = st0 := rfl
  rw [this, h]

/-! ## exact steps (for the templated documents of the context-agreement part) -/

theorem tokLoop_step (cfg : Cfg) (fuel end_ : Nat) {st st' : IState} (hlt : st.pos < end_)
    (hstep : tokStep cfg (fun s => skipToken cfg fuel s) (fun s => tokLoop cfg fuel s.posMax s) fuel st = .ok st') :
    tokLoop cfg (fuel + 1) end_ st = tokLoop cfg fuel end_ st' := by
  rw [tokLoop.eq_def]
  simp only [hlt, if_true, hstep]

theorem tokLoop_done (cfg : Cfg) (fuel end_ : Nat) {st : IState} (h : ¬ st.pos < end_) :
    tokLoop cfg fuel end_ st = .ok st := by
  rw [tokLoop.eq_def]
  simp only [h, if_false]

/-- the text scanner on a plain run when the last child is not a `Text`: a fresh `Text` node -/
theorem step_text_fresh {cfg : Cfg} (hc : ChainOK cfg.chain) (skip tok : IState → Except Panic IState)
    (fuel : Nat) (st : IState) (P a E B : List Char) (hane : a ≠ [])
    (ha : ∀ x ∈ a, isAsciiPunct x = false ∧ x ≠ '\n') (hE : ∀ x ∈ E.head?, nonStop x = false)
    (hsrc : st.src = P ++ (a ++ E) ++ B) (hpos : st.pos = byteLen P)
    (hmax : st.posMax = byteLen P + byteLen (a ++ E))
    (hwf : WFMap st.srcmap) (hlv : st.level < cfg.maxNesting)
    (hlast : ∀ init l, st.children = init ++ [l] → l.isText = false) :
    ∃ st' rg, tokStep cfg skip tok fuel st = .ok st' ∧ st'.src = st.src ∧ st'.srcmap = st.srcmap ∧
      st'.posMax = st.posMax ∧ st'.level = st.level ∧ st'.pos = byteLen (P ++ a) ∧
      st'.children = st.children ++ [Node.newText a (some rg)] := by
  obtain ⟨x, y, hmap, -, -⟩ := getMap_ok (st := st) hwf (show st.pos ≤ st.pos + byteLen a by omega)
  have hmap' : liftOps (getMap st.srcmap st.pos (st.pos + byteLen a)) = .ok (x, y) := hmap
  have hsl' : liftOps (slice st.src st.pos (st.pos + byteLen a)) = .ok a := by
    rw [slice_run hsrc hpos]; rfl
  have hpush : trailingTextPush st.src st.srcmap st.children st.pos (st.pos + byteLen a) =
      .ok (st.children ++ [Node.newText a (some (x, y))]) := by
    unfold trailingTextPush
    simp only [hsl', hmap']
    rcases popLast_spec st.children with ⟨hp, _⟩ | ⟨init, last, hp, hcs⟩
    · rw [hp]
    · rw [hp]; simp only [hlast init last hcs]; rfl
  exact ⟨_, (x, y), step_text_push hc skip tok fuel st P a E B hane ha hE hsrc hpos hmax hlv _ hpush, rfl, rfl, rfl,
    rfl, by simp only [hpos, byteLen_append], rfl⟩

/-- a rule `r0` that answers at the first character `c0` of `R` with the `TextSpecial`
    `{ content: X, markup: R, info }` of length `|R|`, all other rules of the chain being quiet at `c0` -/
theorem step_special {cfg : Cfg} (skip tok : IState → Except Panic IState) (fuel : Nat) (st : IState)
    (P R E B X info : List Char) (r0 : RuleId) (c0 : Char) (R' : List Char) (hR : R = c0 :: R')
    (hmem : r0 ∈ cfg.chain) (hq : ∀ r ∈ cfg.chain, r ≠ r0 → trigger r c0 = false)
    (hfire : ∀ rg, st.getMap st.pos (st.pos + byteLen R) = .ok rg →
      runRule cfg skip tok fuel r0 st false =
        .ok (some (byteLen R), st.push (Node.leaf (.special X R info) (some rg))))
    (hsrc : st.src = P ++ (R ++ E) ++ B) (hpos : st.pos = byteLen P)
    (hmax : st.posMax = byteLen P + byteLen (R ++ E))
    (hwf : WFMap st.srcmap) (hlv : st.level < cfg.maxNesting) :
    ∃ st' rg, tokStep cfg skip tok fuel st = .ok st' ∧ st'.src = st.src ∧ st'.srcmap = st.srcmap ∧
      st'.posMax = st.posMax ∧ st'.level = st.level ∧ st'.pos = byteLen (P ++ R) ∧
      st'.children = st.children ++ [Node.leaf (.special X R info) (some rg)] := by
  have hw := window_of_src hsrc hpos hmax
  have hw' : st.window = .ok (c0 :: (R' ++ E)) := by rw [hw, hR]; rfl
  obtain ⟨x, y, hmap, -, -⟩ := getMap_ok (st := st) hwf (show st.pos ≤ st.pos + byteLen R by omega)
  have hrule := hfire (x, y) hmap
  have hfirst := firstRule_only (fun id s => runRule cfg skip tok fuel id s false) cfg.chain st
    r0 _ _ hmem hrule
    (fun r hr hne => runRule_quiet cfg skip tok fuel r st _ _ hw' (hq r hr hne))
  refine ⟨{ st with children := st.children ++ [Node.leaf (.special X R info) (some (x, y))],
                    pos := st.pos + byteLen R }, (x, y), ?_, rfl, rfl, rfl, rfl, ?_, rfl⟩
  · unfold tokStep
    simp only [if_pos hlv, hfirst]
    rfl
  · simp only [hpos, byteLen_append]

theorem fire_escape (cfg : Cfg) (skip tok : IState → Except Panic IState) (fuel : Nat) (st : IState)
    (c : Char) (E : List Char) (hc : c ∈ Entity.escapable) (hw : st.window = .ok ('\\' :: c :: E))
    (rg : Nat × Nat) (hmap : st.getMap st.pos (st.pos + byteLen ['\\', c]) = .ok rg) :
    runRule cfg skip tok fuel .escape st false =
      .ok (some (byteLen ['\\', c]), st.push (Node.leaf (.special [c] ['\\', c] infoEscape) (some rg))) := by
  have hcore := Entity.escapeCore_escapable c E hc
  simp only [runRule, ruleEscape, hw, hcore, hmap, liftR]
  rfl

/-- the entity rule when the window reaches to the end of the source (`window = suffix`) -/
theorem fire_entity (cfg : Cfg) (skip tok : IState → Except Panic IState) (fuel : Nat) (st : IState)
    (P R E X : List Char) (R' : List Char) (hR : R = '&' :: R')
    (hcore : Entity.entityCore cfg.entity (R ++ E) (R ++ E) = .ok (some ⟨R.length, X, R⟩))
    (hsrc : st.src = P ++ (R ++ E)) (hpos : st.pos = byteLen P)
    (hmax : st.posMax = byteLen P + byteLen (R ++ E))
    (rg : Nat × Nat) (hmap : st.getMap st.pos (st.pos + byteLen R) = .ok rg) :
    runRule cfg skip tok fuel .entity st false =
      .ok (some (byteLen R), st.push (Node.leaf (.special X R infoEntity) (some rg))) := by
  have hw : st.window = .ok ('&' :: (R' ++ E)) := by
    have := window_of_src (B := []) (by rw [hsrc]; simp) hpos hmax
    rw [this, hR]; rfl
  have hsuf : liftOps (slice st.src st.pos (byteLen st.src)) = .ok (R ++ E) := by
    have : slice st.src st.pos (byteLen st.src) = .ok (R ++ E) :=
      (slice_ok_iff _ _ _ _).mpr ⟨P, [], by rw [hsrc]; simp, hpos.symm, by rw [hsrc, hpos]; simp only [byteLen_append]⟩
    rw [this]; rfl
  have hcore' : Entity.entityCore cfg.entity ('&' :: (R' ++ E)) (R ++ E) = .ok (some ⟨R.length, X, R⟩) := by
    rw [← hcore, hR]; rfl
  simp only [runRule, ruleEntity, hw, hsuf, hcore', liftR]
  simp [hmap]

/-- **`md.inline.parse("a" ++ R ++ "b")`** for a reference / escape `R` handled by rule `r0`:
    exactly `[Text "a", TextSpecial { content: X, markup: R, info }, Text "b"]` -/
theorem parseInline_aRb {cfg : Cfg} (hc : ChainOK cfg.chain) (hmax : 0 < cfg.maxNesting)
    (R X info : List Char) (r0 : RuleId) (c0 : Char) (R' : List Char) (hR : R = c0 :: R')
    (hstop : nonStop c0 = false) (hmem : r0 ∈ cfg.chain)
    (hq : ∀ r ∈ cfg.chain, r ≠ r0 → trigger r c0 = false)
    (hfire : ∀ (skip tok : IState → Except Panic IState) (fuel : Nat) (st : IState),
      st.src = ['a'] ++ (R ++ ['b']) → st.pos = byteLen ['a'] →
      st.posMax = byteLen ['a'] + byteLen (R ++ ['b']) →
      ∀ rg, st.getMap st.pos (st.pos + byteLen R) = .ok rg →
      runRule cfg skip tok fuel r0 st false =
        .ok (some (byteLen R), st.push (Node.leaf (.special X R info) (some rg)))) :
    ∃ r1 r2 r3, parseInline cfg ('a' :: (R ++ ['b'])) [(0, 0)] =
      .ok [Node.newText ['a'] (some r1), Node.leaf (.special X R info) (some r2),
           Node.newText ['b'] (some r3)] := by
  have htrim : trimSrc ('a' :: (R ++ ['b'])) = (0, byteLen ('a' :: (R ++ ['b']))) := by
    have := trimSrc_mid [] ('a' :: (R ++ ['b'])) [] (by simp) (by simp) (by simp)
      (by intro c hc; simp at hc; subst hc; decide)
      (by intro c hc
          rw [show 'a' :: (R ++ ['b']) = ('a' :: R) ++ ['b'] by simp, List.getLast?_append] at hc
          simp at hc; subst hc; decide)
    simpa [byteLen] using this
  obtain ⟨f, hf⟩ : ∃ f, topFuel cfg ('a' :: (R ++ ['b'])) = f + 3 := by
    refine ⟨topFuel cfg ('a' :: (R ++ ['b'])) - 3, ?_⟩
    unfold topFuel
    have : 1 * 3 ≤ (byteLen ('a' :: (R ++ ['b'])) + 2) * (cfg.maxNesting + 2) :=
      Nat.mul_le_mul (by omega) (by omega)
    omega
  let st0 : IState := IState.init ('a' :: (R ++ ['b'])) [(0, 0)]
  have hb : ∀ x ∈ ['b'], isAsciiPunct x = false ∧ x ≠ '\n' := by
    intro x hx; simp at hx; subst hx; exact ⟨by decide, by decide⟩
  have ha : ∀ x ∈ ['a'], isAsciiPunct x = false ∧ x ≠ '\n' := by
    intro x hx; simp at hx; subst hx; exact ⟨by decide, by decide⟩
  -- step 1: "a"
  obtain ⟨st1, r1, h1, s1, m1, p1, l1, q1, c1⟩ := step_text_fresh hc (fun s => skipToken cfg (f + 2) s)
    (fun s => tokLoop cfg (f + 2) s.posMax s) (f + 2) st0 [] ['a'] (R ++ ['b']) [] (by simp) ha
    (by intro x hx; rw [hR] at hx; simp at hx; subst hx; exact hstop)
    (by show 'a' :: (R ++ ['b']) = _; simp) (by show (trimSrc _).1 = _; rw [htrim]; rfl)
    (by show (trimSrc _).2 = _; rw [htrim]; simp [byteLen]) wf_single (by show 0 < _; exact hmax)
    (by intro init l h; exact absurd h (by simp [st0, IState.init]))
  -- step 2: R
  obtain ⟨st2, r2, h2, s2, m2, p2, l2, q2, c2⟩ := step_special (fun s => skipToken cfg (f + 1) s)
    (fun s => tokLoop cfg (f + 1) s.posMax s) (f + 1) st1 ['a'] R ['b'] [] X info r0 c0 R' hR hmem hq
    (fun rg hrg => hfire _ _ _ st1 (by rw [s1]; rfl) (by rw [q1]; rfl)
      (by rw [p1]; show (trimSrc _).2 = _; rw [htrim]; simp [byteLen]) rg hrg)
    (by rw [s1]; show 'a' :: (R ++ ['b']) = _; simp) (by rw [q1]; rfl)
    (by rw [p1]; show (trimSrc _).2 = _; rw [htrim]; simp [byteLen]) (by rw [m1]; exact wf_single)
    (by rw [l1]; show 0 < _; exact hmax)
  -- step 3: "b"
  obtain ⟨st3, r3, h3, s3, m3, p3, l3, q3, c3⟩ := step_text_fresh hc (fun s => skipToken cfg f s)
    (fun s => tokLoop cfg f s.posMax s) f st2 (['a'] ++ R) ['b'] [] [] (by simp) hb (by simp)
    (by rw [s2, s1]; show 'a' :: (R ++ ['b']) = _; simp) q2
    (by rw [p2, p1]; show (trimSrc _).2 = _; rw [htrim]; simp [byteLen, byteLen_append]; omega)
    (by rw [m2, m1]; exact wf_single) (by rw [l2, l1]; show 0 < _; exact hmax)
    (by intro init l h
        rw [c2] at h
        have := List.append_inj' h rfl
        simp only [List.cons.injEq, and_true] at this
        rw [← this.2]; rfl)
  have hlen : byteLen ('a' :: (R ++ ['b'])) = byteLen ['a'] + byteLen R + byteLen ['b'] := by
    simp [byteLen, byteLen_append]; omega
  have hRpos : 0 < byteLen R := byteLen_pos_of_ne_nil (by rw [hR]; simp)
  have e0 : st0.posMax = byteLen ('a' :: (R ++ ['b'])) := by show (trimSrc _).2 = _; rw [htrim]
  have e0' : st0.pos = 0 := by show (trimSrc _).1 = _; rw [htrim]
  have hbpos : 0 < byteLen ['b'] := byteLen_pos_of_ne_nil (by simp)
  have hapos : 0 < byteLen ['a'] := byteLen_pos_of_ne_nil (by simp)
  refine ⟨r1, r2, r3, ?_⟩
  unfold parseInline tokenize
  show (match tokLoop cfg (topFuel cfg ('a' :: (R ++ ['b']))) st0.posMax st0 with
    | .error e => (Except.error e : Except Panic (List Node)) | .ok st => .ok st.children) = _
  rw [hf, tokLoop_step cfg _ _ (by rw [e0', e0, hlen]; omega) h1,
    tokLoop_step cfg _ _ (by rw [q1, e0, hlen]; simp only [List.nil_append]; omega) h2,
    tokLoop_step cfg _ _ (by rw [q2, e0, hlen, byteLen_append]; omega) h3,
    tokLoop_done cfg _ _ (by rw [q3, e0, hlen]; simp only [byteLen_append]; omega)]
  simp only [c3, c2, c1]
  rfl

end MdIt.Inline.C12
