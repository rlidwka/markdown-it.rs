/-
  Two runs of the block parser in lock step.  The two sources show the same lines at different byte
  offsets; the states of the two runs are related by `SRel R G`: tables entrywise `LX.ERel R.ρ`,
  geometry fixed by `G`, scalar fields equal, children `NRelL R`.  The relations between the two
  trees are parameters (`Rels`):

      R.ρ        offsets (table entries, the per-line tables of `InlineRoot`s)
      R.τ        ranges, as whole pairs
      R.K        node values
      R.strict   whether a range is only known to be `R.τ`-related when it starts strictly inside its
                 first line, on a character boundary

  `Ctx R G` says what the rule simulations need of them.  With `R.strict` every rule simulation asks
  that the line it starts on is not empty (`Live`) and that the call-backs hand back the table they
  were given (`TokSpec`, `TestPure`); without it those hypotheses are void.

  Namespace `MdIt.Block.LX.Sim` (this file to `MdIt/Lemmas/C10SimEngine.lean`) holds this simulation
  over `Rels`.  Three state relations are written out as structures of their own; each is `Sim.SRel`
  at an instance of `Rels` (`srel_eq` in its namespace) and gets its rule simulations and its
  `tokenize_sim` from here through that equation:

      LE.SRel ρ G     `ρ` invariant under translation (`Shift ρ`), entries `LE.ERel`; at `LX.rels ρ`
                      (`C10DocEngine.lean`).  C10 without sourcepos: `LE.parseBlocks_rel`, `_crlf`,
                      `_cr`, `_final_newline` (`MdIt/Props/C10Doc.lean`)
      LX.SRel ρ G     any `ρ`; at `LX.rels ρ = ⟨ρ, ρ on both ends, LE.KRel ρ, not strict⟩`
                      (`C10SourceposSimEngine.lean`).  C10 with sourcepos, exact offsets:
                      `LX.parseBlocks_crlf_exact`, `LX.parseBlocks_in_lines` (`C10SourceposSim.lean`)
      Y.SRel τ ρ G    ranges related as pairs; at `Y.rels τ ρ = ⟨ρ, τ, Y.KRelS ρ, strict⟩`
                      (`C10SpFullBlockCore.lean`).  C10 with sourcepos under a final newline and
                      LF ↦ CR LF: `parseBlocks_anchored`, `Y.parseBlocks_crlf_strict`
                      (`C10SpFullBlock.lean`)

  Import order (the reverse of what the file names suggest): `C10DocCore` (vocabulary: `FRel`, `geom`, `IncT`,
  `MRel`, `Geo`, and the relations of the `LE` instance) → `C10SourceposSimCore` (the entry relation `LX.ERel`) →
  this file → `BlockReads` → `C10SimLeaf` … `C10SimEngine` → the instance files `C10DocEngine`,
  `C10SourceposSimEngine`, `C10SpFullBlockCore`.  `NRel` / `NRelL` below are the trees over `Rels`; `LE.NRel ρ`
  (`C10DocCore`) is their instance at `LX.rels ρ` (`LX.nrelL_iff`).  The file opens with the two definitions of the
  `LX.Y` instance that `Ctx` and the rule simulations are stated with (`RgRel`, `Live`).
-/
import MdIt.Lemmas.C10SourceposSimCore

namespace MdIt.Block.LX.Y

/-- `r₁ = none ∧ r₂ = none`, or both present and `τ`-related as pairs -/
def RgRel (τ : Nat × Nat → Nat × Nat → Prop) : Option (Nat × Nat) → Option (Nat × Nat) → Prop
  | none, none => True
  | some x, some y => τ x y
  | _, _ => False

/-- the line a rule starts on exists and is not empty (what `tokLoop` guarantees in real mode) -/
def Live (s : BState) : Prop := s.line < s.lineMax ∧ s.isEmpty s.line = false

end MdIt.Block.LX.Y

namespace MdIt.Block.LX.Sim
open MdIt.Lines (LineOffset)
open MdIt.Block.LE (FRel frel_ok frel_err frel_ok_left geom IncT Geo MRel MRel.nil MRel.append MRel.single)
open MdIt.Block.LX.Y (RgRel Live)

/-! ## trees -/

structure Rels where
  ρ : Nat → Nat → Prop
  τ : Nat × Nat → Nat × Nat → Prop
  K : Kind → Kind → Prop
  strict : Prop

mutual
/-- two block trees that differ in source offsets only: values `R.K`, ranges `R.τ` -/
def NRel (R : Rels) : BNode → BNode → Prop
  | ⟨k₁, r₁, c₁⟩, ⟨k₂, r₂, c₂⟩ => R.K k₁ k₂ ∧ RgRel R.τ r₁ r₂ ∧ NRelL R c₁ c₂
def NRelL (R : Rels) : List BNode → List BNode → Prop
  | [], [] => True
  | a :: as, b :: bs => NRel R a b ∧ NRelL R as bs
  | [], _ :: _ => False
  | _ :: _, [] => False
end

section trees
variable {R : Rels}

theorem NRel.mk {k₁ k₂ : Kind} {r₁ r₂ : Option (Nat × Nat)} {c₁ c₂ : List BNode}
    (hk : R.K k₁ k₂) (hr : RgRel R.τ r₁ r₂) (hc : NRelL R c₁ c₂) : NRel R ⟨k₁, r₁, c₁⟩ ⟨k₂, r₂, c₂⟩ := by
  simp only [NRel]; exact ⟨hk, hr, hc⟩

theorem NRel.kind {n₁ n₂ : BNode} (h : NRel R n₁ n₂) : R.K n₁.kind n₂.kind := by
  cases n₁; cases n₂; simp only [NRel] at h; exact h.1

theorem NRel.range {n₁ n₂ : BNode} (h : NRel R n₁ n₂) : RgRel R.τ n₁.range n₂.range := by
  cases n₁; cases n₂; simp only [NRel] at h; exact h.2.1

theorem NRel.children {n₁ n₂ : BNode} (h : NRel R n₁ n₂) : NRelL R n₁.children n₂.children := by
  cases n₁; cases n₂; simp only [NRel] at h; exact h.2.2

theorem NRelL.nil : NRelL R [] [] := by simp only [NRelL]

theorem NRelL.cons {a b : BNode} {as bs : List BNode} (h : NRel R a b)
    (ht : NRelL R as bs) : NRelL R (a :: as) (b :: bs) := by simp only [NRelL]; exact ⟨h, ht⟩

theorem NRelL.cons_inv {a b : BNode} {as bs : List BNode}
    (h : NRelL R (a :: as) (b :: bs)) : NRel R a b ∧ NRelL R as bs := by simpa only [NRelL] using h

theorem NRelL.append : ∀ {a b c d : List BNode}, NRelL R a b → NRelL R c d →
    NRelL R (a ++ c) (b ++ d)
  | [], [], _, _, _, h => h
  | [], _ :: _, _, _, h, _ => by simp only [NRelL] at h
  | _ :: _, [], _, _, h, _ => by simp only [NRelL] at h
  | _ :: _, _ :: _, _, _, h, h' => by
    obtain ⟨h1, h2⟩ := h.cons_inv
    exact NRelL.cons h1 (NRelL.append h2 h')

theorem NRelL.single {a b : BNode} (h : NRel R a b) : NRelL R [a] [b] :=
  NRelL.cons h NRelL.nil

theorem NRelL.push {as bs : List BNode} {a b : BNode} (h : NRelL R as bs)
    (hn : NRel R a b) : NRelL R (as ++ [a]) (bs ++ [b]) := h.append (NRelL.single hn)

/-- what the rule simulations need of the relation on node values -/
structure KOk (R : Rels) : Prop where
  /-- a value is related to itself; under `R.strict` only if it is not an `InlineRoot` -/
  self : ∀ k, (R.strict → ∀ c m, k ≠ .inlineRoot c m) → R.K k k
  inl : ∀ (c : List Char) {m₁ m₂ : List (Nat × Nat)}, MRel R.ρ m₁ m₂ → R.K (.inlineRoot c m₁) (.inlineRoot c m₂)
  eq_iff : ∀ {k₁ k₂ : Kind}, R.K k₁ k₂ → ∀ k, (∀ c m, k ≠ .inlineRoot c m) → (k₁ = k ↔ k₂ = k)

theorem KOk.of_ne (H : KOk R) {k : Kind} (h : ∀ c m, k ≠ .inlineRoot c m) : R.K k k := H.self k fun _ => h

end trees

/-! ## states -/

structure SRel (R : Rels) (G : Geo) (s₁ s₂ : BState) : Prop where
  src₁ : s₁.src = G.src₁
  src₂ : s₂.src = G.src₂
  len : s₂.offs.length = s₁.offs.length
  ent : ∀ (i : Nat) (o₁ o₂ : LineOffset), s₁.offs[i]? = some o₁ → s₂.offs[i]? = some o₂ → ERel R.ρ G.src₁ G.src₂ o₁ o₂
  geo₁ : s₁.offs.map geom = G.T₁
  geo₂ : s₂.offs.map geom = G.T₂
  blkIndent : s₂.blkIndent = s₁.blkIndent
  line : s₂.line = s₁.line
  lineMax : s₂.lineMax = s₁.lineMax
  tight : s₂.tight = s₁.tight
  listIndent : s₂.listIndent = s₁.listIndent
  level : s₂.level = s₁.level
  nodeKind : s₂.nodeKind = s₁.nodeKind
  refs : s₂.refs = s₁.refs
  children : NRelL R s₁.children s₂.children

/-- what the rule simulations assume about the two runs: the tables are in source order, the value
    relation is `KOk`, and the range relation holds of every pair (offset `d` into line `i`, end of
    line `j ≥ i`) read off two related tables -/
structure Ctx (R : Rels) (G : Geo) : Prop extends KOk R where
  inc₁ : IncT G.T₁
  inc₂ : IncT G.T₂
  rng : ∀ (i j : Nat) (o₁ o₂ o₁' o₂' : LineOffset), i ≤ j →
    ERel R.ρ G.src₁ G.src₂ o₁ o₂ → ERel R.ρ G.src₁ G.src₂ o₁' o₂' →
    G.T₁[i]? = some (geom o₁) → G.T₁[j]? = some (geom o₁') → G.T₂[i]? = some (geom o₂) → G.T₂[j]? = some (geom o₂') →
    ∀ d, o₁.lineStart + d ≤ o₁.lineEnd →
    (R.strict → o₁.lineStart + d < o₁.lineEnd ∧ Lines.onBoundary G.src₁ (o₁.lineStart + d) = true) →
    R.τ (o₁.lineStart + d, o₁'.lineEnd) (o₂.lineStart + d, o₂'.lineEnd)

/-- verdict and state of a rule call -/
def ResRel (R : Rels) (G : Geo) (r₁ r₂ : Bool × BState) : Prop :=
  r₁.1 = r₂.1 ∧ SRel R G r₁.2 r₂.2

/-- the nested tokenizers of the two runs -/
def TokSim (R : Rels) (G : Geo) (tok₁ tok₂ : Tok) : Prop :=
  ∀ s₁ s₂, SRel R G s₁ s₂ → FRel (SRel R G) (tok₁ s₁) (tok₂ s₂)

/-- the look-aheads of the two runs -/
def TestSim (R : Rels) (G : Geo) (test₁ test₂ : Test) : Prop :=
  ∀ s₁ s₂, SRel R G s₁ s₂ → FRel (ResRel R G) (test₁ s₁) (test₂ s₂)

section state
variable {R : Rels} {G : Geo} {s₁ s₂ : BState}

/-! ### the table -/

theorem SRel.get (S : SRel R G s₁ s₂) (n : Nat) :
    (s₁.offs[n]? = none ∧ s₂.offs[n]? = none) ∨
    ∃ o₁ o₂, s₁.offs[n]? = some o₁ ∧ s₂.offs[n]? = some o₂ ∧ ERel R.ρ G.src₁ G.src₂ o₁ o₂ := by
  by_cases hn : n < s₁.offs.length
  · right
    have hn2 : n < s₂.offs.length := by rw [S.len]; exact hn
    exact ⟨s₁.offs[n], s₂.offs[n], List.getElem?_eq_getElem hn, List.getElem?_eq_getElem hn2,
      S.ent n _ _ (List.getElem?_eq_getElem hn) (List.getElem?_eq_getElem hn2)⟩
  · left
    exact ⟨List.getElem?_eq_none (by omega), List.getElem?_eq_none (by rw [S.len]; omega)⟩

/-- `&state.line_offsets[n]` -/
theorem SRel.off (S : SRel R G s₁ s₂) (n : Nat) :
    FRel (ERel R.ρ G.src₁ G.src₂) (s₁.off n) (s₂.off n) := by
  unfold BState.off
  rcases S.get n with ⟨h1, h2⟩ | ⟨o₁, o₂, h1, h2, he⟩
  · rw [h1, h2]; exact frel_err _
  · rw [h1, h2]; exact frel_ok he

theorem SRel.off_ok (S : SRel R G s₁ s₂) {n : Nat} {o₁ : LineOffset} (h : s₁.off n = .ok o₁) :
    ∃ o₂, s₂.off n = .ok o₂ ∧ ERel R.ρ G.src₁ G.src₂ o₁ o₂ := by
  have := S.off n
  rw [h] at this
  exact frel_ok_left this

theorem SRel.lineIndent (S : SRel R G s₁ s₂) (n : Nat) : s₂.lineIndent n = s₁.lineIndent n := by
  unfold BState.lineIndent Lines.lineIndent
  rcases S.get n with ⟨h1, h2⟩ | ⟨o₁, o₂, h1, h2, he⟩
  · rw [h1, h2]
  · rw [h1, h2]; simp only; rw [he.indent, S.blkIndent]

theorem SRel.isEmpty (S : SRel R G s₁ s₂) (n : Nat) : s₂.isEmpty n = s₁.isEmpty n := by
  unfold BState.isEmpty Lines.isEmpty
  rcases S.get n with ⟨h1, h2⟩ | ⟨o₁, o₂, h1, h2, he⟩
  · rw [h1, h2]
  · rw [h1, h2]
    have := he.empty
    simp only [ge_iff_le, decide_eq_decide]
    exact this

theorem SRel.getLine (S : SRel R G s₁ s₂) (n : Nat) : s₂.getLine n = s₁.getLine n := by
  unfold BState.getLine Lines.getLine
  rcases S.get n with ⟨h1, h2⟩ | ⟨o₁, o₂, h1, h2, he⟩
  · rw [h1, h2]
  · rw [h1, h2]; simp only; rw [S.src₁, S.src₂, he.text]

theorem geom_of_map {offs : List LineOffset} {T : List (Nat × Nat)} (h : offs.map geom = T) {n : Nat}
    {o : LineOffset} (ho : offs[n]? = some o) : T[n]? = some (geom o) := by
  rw [← h, List.getElem?_map, ho]; rfl

theorem SRel.geoAt₁ (S : SRel R G s₁ s₂) {n : Nat} {o : LineOffset}
    (h : s₁.offs[n]? = some o) : G.T₁[n]? = some (geom o) := geom_of_map S.geo₁ h

theorem SRel.geoAt₂ (S : SRel R G s₁ s₂) {n : Nat} {o : LineOffset}
    (h : s₂.offs[n]? = some o) : G.T₂[n]? = some (geom o) := geom_of_map S.geo₂ h

/-- the range relation of the context, read off two related tables -/
theorem SRel.rng (C : Ctx R G) (S : SRel R G s₁ s₂) {i j : Nat} (hij : i ≤ j) {o₁ o₂ o₁' o₂' : LineOffset}
    (h1 : s₁.offs[i]? = some o₁) (h2 : s₂.offs[i]? = some o₂) (h1' : s₁.offs[j]? = some o₁')
    (h2' : s₂.offs[j]? = some o₂') (d : Nat) (hd : o₁.lineStart + d ≤ o₁.lineEnd)
    (hb : R.strict → o₁.lineStart + d < o₁.lineEnd ∧ Lines.onBoundary G.src₁ (o₁.lineStart + d) = true) :
    R.τ (o₁.lineStart + d, o₁'.lineEnd) (o₂.lineStart + d, o₂'.lineEnd) :=
  C.rng i j o₁ o₂ o₁' o₂' hij (S.ent i _ _ h1 h2) (S.ent j _ _ h1' h2') (S.geoAt₁ h1) (S.geoAt₁ h1') (S.geoAt₂ h2)
    (S.geoAt₂ h2') d hd hb

theorem erel_first_boundary {src₁ src₂ : List Char} {o₁ o₂ : LineOffset} (h : ERel R.ρ src₁ src₂ o₁ o₂) :
    Lines.onBoundary src₁ o₁.firstNonspace = true := by
  obtain ⟨a, b, p₁, q₁, p₂, q₂, e1, _, hp1, _, h1, _, _, _, _, _⟩ := h
  exact Lines.onBoundary_iff.mpr ⟨p₁ ++ a, b ++ q₁, by rw [e1]; simp, by simp; omega⟩

theorem lt_of_isEmpty_false {s : BState} {n : Nat} {o : LineOffset} (h : s.isEmpty n = false) (ho : s.offs[n]? = some o) :
    o.firstNonspace < o.lineEnd := by
  unfold BState.isEmpty Lines.isEmpty at h
  rw [ho] at h
  simpa using h

/-- `get_map` (under `R.strict`: of a range whose first line is not empty): the same verdict,
    `R.τ`-related ranges -/
theorem SRel.getMap (C : Ctx R G) (S : SRel R G s₁ s₂) (a b : Nat) (hne : R.strict → s₁.isEmpty a = false) :
    FRel (fun r₁ r₂ => RgRel R.τ (some r₁) (some r₂)) (s₁.getMap a b) (s₂.getMap a b) := by
  unfold BState.getMap Lines.getMap
  by_cases hab : a > b
  · rw [if_pos hab, if_pos hab]; exact frel_err _
  · rw [if_neg hab, if_neg hab]
    rcases S.get a with ⟨h1, h2⟩ | ⟨o₁, o₂, h1, h2, he⟩
    · rw [h1, h2]; exact frel_err _
    · rcases S.get b with ⟨h1', h2'⟩ | ⟨o₁', o₂', h1', h2', he'⟩
      · rw [h1, h2, h1', h2']; exact frel_err _
      · rw [h1, h2, h1', h2']
        refine frel_ok ?_
        have hn := he.nums
        have hfn : o₁.lineStart + (o₁.firstNonspace - o₁.lineStart) = o₁.firstNonspace := by omega
        have := S.rng C (Nat.le_of_not_gt hab) h1 h2 h1' h2' (o₁.firstNonspace - o₁.lineStart) (by omega)
          (fun hs => by rw [hfn]; exact ⟨lt_of_isEmpty_false (hne hs) h1, erel_first_boundary he⟩)
        rw [hfn, ← hn.2.2.1] at this
        exact this

theorem map_geom_set {offs : List LineOffset} {n : Nat} {o : LineOffset} (hn : n < offs.length)
    (hg : geom o = geom offs[n]) : (offs.set n o).map geom = offs.map geom := by
  rw [List.map_set, hg]
  apply List.ext_getElem?
  intro i
  simp only [List.getElem?_set, List.getElem?_map]
  split
  · rename_i h; subst h; simp [List.getElem?_eq_getElem hn]; exact hn
  · rfl

theorem SRel.setOff (S : SRel R G s₁ s₂) (n : Nat) {o₁ o₂ : LineOffset}
    (he : ERel R.ρ G.src₁ G.src₂ o₁ o₂)
    (hg₁ : ∀ o, s₁.offs[n]? = some o → geom o₁ = geom o)
    (hg₂ : ∀ o, s₂.offs[n]? = some o → geom o₂ = geom o) :
    FRel (SRel R G) (s₁.setOff n o₁) (s₂.setOff n o₂) := by
  unfold BState.setOff
  by_cases hn : n < s₁.offs.length
  · have hn2 : n < s₂.offs.length := by rw [S.len]; exact hn
    rw [if_pos hn, if_pos hn2]
    refine frel_ok ⟨S.src₁, S.src₂, by simp [S.len], ?_, ?_, ?_, S.blkIndent, S.line, S.lineMax, S.tight, S.listIndent,
      S.level, S.nodeKind, S.refs, S.children⟩
    · intro i x y hx hy
      simp only [List.getElem?_set] at hx hy
      by_cases hi : n = i
      · subst hi
        simp only [hn, hn2, if_true] at hx hy
        cases hx; cases hy; exact he
      · simp only [hi, if_false] at hx hy
        exact S.ent i x y hx hy
    · rw [← S.geo₁]; exact map_geom_set hn (hg₁ _ (List.getElem?_eq_getElem hn))
    · rw [← S.geo₂]; exact map_geom_set hn2 (hg₂ _ (List.getElem?_eq_getElem hn2))
  · have hn2 : ¬ n < s₂.offs.length := by rw [S.len]; exact hn
    rw [if_neg hn, if_neg hn2]; exact frel_err _

/-! ### `get_lines` -/

/-- the loop of `get_lines` on related tables: the same text, related per-line tables, or the same
    panic -/
theorem getLinesGo_sim (S : SRel R G s₁ s₂) (end_ indent : Nat) (keep : Bool) :
    ∀ (k line : Nat) (result : List Char) (m₁ m₂ : List (Nat × Nat)), end_ - line = k → MRel R.ρ m₁ m₂ →
      (∃ c m₁' m₂', Lines.getLinesGo s₁.src s₁.offs end_ indent keep line result m₁ = .ok (c, m₁') ∧
        Lines.getLinesGo s₂.src s₂.offs end_ indent keep line result m₂ = .ok (c, m₂') ∧ MRel R.ρ m₁' m₂') ∨
      (∃ e, Lines.getLinesGo s₁.src s₁.offs end_ indent keep line result m₁ = .error e ∧
        Lines.getLinesGo s₂.src s₂.offs end_ indent keep line result m₂ = .error e) := by
  intro k
  induction k with
  | zero =>
    intro line result m₁ m₂ hk hm
    left
    rw [Lines.getLinesGo, Lines.getLinesGo, if_neg (by omega), if_neg (by omega)]
    exact ⟨_, _, _, rfl, rfl, hm⟩
  | succ k ih =>
    intro line result m₁ m₂ hk hm
    rw [S.src₁, S.src₂] at *
    rw [Lines.getLinesGo, Lines.getLinesGo, if_pos (by omega), if_pos (by omega)]
    rcases S.get line with ⟨h1, h2⟩ | ⟨o₁, o₂, h1, h2, he⟩
    · right; rw [h1, h2]; exact ⟨_, rfl, rfl⟩
    · rw [h1, h2]
      simp only
      rw [he.ws, he.indent]
      cases hws : Lines.slice G.src₁ o₁.lineStart o₁.firstNonspace with
      | error e => right; exact ⟨_, rfl, rfl⟩
      | ok ws =>
        simp only
        generalize Lines.calcRightWs ws (o₁.indentNonspace - Lines.usizeAsI32 indent) = p
        obtain ⟨ns, first⟩ := p
        simp only
        rw [he.from_ first]
        cases ht : Lines.slice G.src₁ (o₁.lineStart + first) o₁.lineEnd with
        | error e => right; exact ⟨_, rfl, rfl⟩
        | ok t =>
          simp only
          apply ih (line + 1) _ _ _ (by omega)
          -- the slice `src[line_start + first .. line_end]` exists: the offset is inside the line
          have hin : o₁.lineStart + first ≤ o₁.lineEnd := by
            obtain ⟨_, _, _, _, hq⟩ := Lines.slice_eq_ok_iff.mp ht
            omega
          have h1 : MRel R.ρ (m₁ ++ [(Lines.byteLen result, o₁.lineStart + first)])
              (m₂ ++ [(Lines.byteLen result, o₂.lineStart + first)]) :=
            hm.append (MRel.single (he.at_ first hin))
          split
          · exact h1.append (MRel.single (he.at_ first hin))
          · exact h1

theorem SRel.getLines (S : SRel R G s₁ s₂) (b e indent : Nat) (keep : Bool) :
    FRel (fun r₁ r₂ => r₁.1 = r₂.1 ∧ MRel R.ρ r₁.2 r₂.2) (s₁.getLines b e indent keep)
      (s₂.getLines b e indent keep) := by
  unfold BState.getLines Lines.getLines
  by_cases hbe : b > e
  · rw [if_pos hbe, if_pos hbe]; exact frel_err _
  · rw [if_neg hbe, if_neg hbe]
    rcases getLinesGo_sim S e indent keep _ b [] [] [] rfl MRel.nil with
      ⟨c, m₁', m₂', h1, h2, hm⟩ | ⟨e', h1, h2⟩
    · rw [h1, h2]; exact frel_ok ⟨rfl, hm⟩
    · rw [h1, h2]; cases e' <;> exact frel_err _

/-! ### updates that keep the relation -/

theorem SRel.withLine (S : SRel R G s₁ s₂) (l : Nat) :
    SRel R G { s₁ with line := l } { s₂ with line := l } :=
  ⟨S.src₁, S.src₂, S.len, S.ent, S.geo₁, S.geo₂, S.blkIndent, rfl, S.lineMax, S.tight, S.listIndent, S.level, S.nodeKind,
    S.refs, S.children⟩

theorem SRel.push (S : SRel R G s₁ s₂) {n₁ n₂ : BNode} (hn : NRel R n₁ n₂) :
    SRel R G (s₁.push n₁) (s₂.push n₂) :=
  ⟨S.src₁, S.src₂, S.len, S.ent, S.geo₁, S.geo₂, S.blkIndent, S.line, S.lineMax, S.tight, S.listIndent, S.level, S.nodeKind,
    S.refs, S.children.push hn⟩

/-- any update of the fields the table relation does not mention -/
theorem SRel.upd (S : SRel R G s₁ s₂) {t₁ t₂ : BState}
    (h1 : t₁.src = s₁.src ∧ t₁.offs = s₁.offs) (h2 : t₂.src = s₂.src ∧ t₂.offs = s₂.offs)
    (hb : t₂.blkIndent = t₁.blkIndent) (hl : t₂.line = t₁.line) (hm : t₂.lineMax = t₁.lineMax)
    (ht : t₂.tight = t₁.tight) (hli : t₂.listIndent = t₁.listIndent) (hlv : t₂.level = t₁.level)
    (hk : t₂.nodeKind = t₁.nodeKind) (hr : t₂.refs = t₁.refs) (hc : NRelL R t₁.children t₂.children) :
    SRel R G t₁ t₂ := by
  refine ⟨h1.1.trans S.src₁, h2.1.trans S.src₂, by rw [h1.2, h2.2]; exact S.len, ?_, by rw [h1.2]; exact S.geo₁,
    by rw [h2.2]; exact S.geo₂, hb, hl, hm, ht, hli, hlv, hk, hr, hc⟩
  rw [h1.2, h2.2]; exact S.ent

/-- `srel_fields S`: prove `SRel … t₁ t₂` for states `t₁`, `t₂` that are record updates of `s₁`, `s₂`
    (with `S : SRel … s₁ s₂`, through `SRel.upd`) leaving `src` and `offs`
    alone; the scalar fields are closed with `S`'s equations, what remains (typically the `children`
    goal) is left to the caller -/
syntax "srel_fields " ident : tactic
macro_rules
| `(tactic| srel_fields $S:ident) => `(tactic|
    (refine ($S).upd ⟨rfl, rfl⟩ ⟨rfl, rfl⟩ ?_ ?_ ?_ ?_ ?_ ?_ ?_ ?_ ?_ <;>
     (try simp only [BState.push, ($S).blkIndent, ($S).line, ($S).lineMax, ($S).tight,
        ($S).listIndent, ($S).level, ($S).nodeKind, ($S).refs])))

end state

end MdIt.Block.LX.Sim
