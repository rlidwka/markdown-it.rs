/-
  Helper development for `Props/C12Doc.lean` / `Props/C12Ctx.lean` (C12 at whole-document level), BLOCK side
  (namespace `MdIt.Block.C12`): symbolic runs of `Block.parseBlocks` on a ONE-LINE source `w ++ body`
  (`w` = leading blanks of width < 4, `body` without line terminator).  A state on that line (`OneLine`) is a
  state over the document `docOf [w ++ body]` (`OneLine.onDoc`), so the line facts are those of `Block.OnDoc`.

    * `parseBlocks_of_decline`  `Line w body` (the text starts with a non-blank): if every rule of the chain other
                                than the paragraph rule declines the line and hands the state back, the block
                                pass yields
        Root[ Paragraph[ InlineRoot(content = the whole line, mapping = [(0, 0)]) ] ],  no references;
    * `parseBlocks_one_line`    `Plain w body` (the first non-blank character starts no block construct, the text
                                does not begin with an ordered-list marker): every other rule does decline
                                (`runRule_other`: `runRule_declines`), in whatever order the chain lists them;
    * `parseBlocks_fence_line`  `body = "~~~" ++ info` (`PlainG true`), the fence rule in front of the
                                paragraph rule:  Root[ CodeFence{info (raw), '~', 3, content ""} ].
-/
import MdIt.Lemmas.BlockDeclines
import MdIt.Lemmas.C14DocVerbatim

namespace MdIt.Block.C12
open MdIt.Lines (LineOffset byteLen NoTerm AllBlank indentWidth lead)

/-! ## the state at the only line -/

/-- the line table of a one-line source -/
def oneOff (w body : List Char) : LineOffset :=
  ⟨0, byteLen (w ++ body), w.length, (indentWidth w : Int)⟩

/-- a state that sits on the only line of `w ++ body` at top level -/
structure OneLine (s : BState) (w body : List Char) : Prop where
  src : s.src = w ++ body
  offs : s.offs = [oneOff w body]
  blk : s.blkIndent = 0
  line : s.line = 0
  lineMax : s.lineMax = 1
  li : s.listIndent = none

/-- what the line table and the paragraph rule need of the line: blanks of width < 4, then a
    non-empty terminator-free text whose first character is no blank -/
structure Line (w body : List Char) : Prop where
  blank : AllBlank w
  width : indentWidth w < 4
  noTerm : NoTerm body
  first : ∃ f rest, body = f :: rest ∧ f ≠ ' ' ∧ f ≠ '\t'

/-- what the rules need of the line: blanks of width < 4, then a terminator-free text whose first
    character is none of the block markers, and which is no ordered-list marker either -/
structure PlainG (fenceOK : Bool) (w body : List Char) : Prop where
  blank : AllBlank w
  width : indentWidth w < 4
  noTerm : NoTerm body
  first : ∃ f rest, body = f :: rest ∧
    f ∉ [' ', '\t', '>', '*', '-', '_', '+', '[', '#'] ∧ (fenceOK = false → f ≠ '~' ∧ f ≠ '`')
  ord : skipOrdered body = none

/-- … and no fence marker either: only the paragraph rule takes such a line -/
abbrev Plain (w body : List Char) : Prop := PlainG false w body

theorem PlainG.line {b : Bool} {w body : List Char} (h : PlainG b w body) : Line w body := by
  obtain ⟨f, rest, hb, hf, _⟩ := h.first
  simp only [List.mem_cons, List.not_mem_nil, or_false, not_or] at hf
  exact ⟨h.blank, h.width, h.noTerm, f, rest, hb, hf.1, hf.2.1⟩

theorem Line.headNotBlank {w body : List Char} (hl : Line w body) :
    ∀ c ∈ body.head?, Lines.isBlank c = false := by
  obtain ⟨f, rest, hb, h1, h2⟩ := hl.first
  intro c hc
  rw [hb] at hc
  simp only [List.head?_cons, Option.mem_def, Option.some.injEq] at hc
  subst hc
  cases h : Lines.isBlank f
  · rfl
  · rcases Lines.isBlank_iff.mp h with e | e
    · exact absurd e h1
    · exact absurd e h2

theorem Line.lead {w body : List Char} (hl : Line w body) :
    lead (w ++ body) = w ∧ (w ++ body).dropWhile Lines.isBlank = body := by
  have hb := hl.headNotBlank
  have hw := hl.blank
  clear hl
  induction w with
  | nil =>
    cases body with
    | nil => exact ⟨rfl, rfl⟩
    | cons c r => have := hb c (by simp); simp [Lines.lead, this]
  | cons c t ih =>
    have hc : Lines.isBlank c = true := Lines.isBlank_iff.mpr (hw c (by simp))
    obtain ⟨i1, i2⟩ := ih hw.tail
    unfold Lines.lead at i1 ⊢
    simp [hc, i1, i2]

theorem Line.noTermAll {w body : List Char} (hl : Line w body) : NoTerm (w ++ body) := by
  intro c hc
  rcases List.mem_append.mp hc with h1 | h1
  · exact hl.blank.noTerm c h1
  · exact hl.noTerm c h1

theorem splitLines_one {w body : List Char} (h : Line w body) :
    Lines.splitLines (w ++ body) = [oneOff w body] := by
  obtain ⟨fl, hsp⟩ := Lines.splitGo_line (w ++ body) h.noTermAll 0 []
  unfold Lines.splitLines
  rw [List.append_nil] at hsp
  rw [hsp, Lines.splitGo_nil, h.lead.1]
  simp [oneOff]

variable {s : BState} {w body : List Char} {b : Bool}

theorem OneLine.onDoc (hs : OneLine s w body) (hl : Line w body) : OnDoc [w ++ body] s := by
  refine ⟨hs.src, ?_, hs.blk, by simp, by simpa using hl.noTermAll, ?_⟩
  · rw [hs.offs]; exact (splitLines_one hl).symm
  · obtain ⟨f, rest, hb, _⟩ := hl.first
    simp [hb]

theorem OneLine.off (hs : OneLine s w body) : s.off s.line = .ok (oneOff w body) := by
  simp [BState.off, hs.offs, hs.line]

theorem OneLine.lineIndent (hs : OneLine s w body) : s.lineIndent s.line = .ok (indentWidth w : Int) := by
  simp [BState.lineIndent, Lines.lineIndent, hs.offs, hs.line, hs.blk, oneOff, liftL]

theorem OneLine.getLine (hs : OneLine s w body) (hl : Line w body) : s.getLine s.line = .ok body := by
  have := (hs.onDoc hl).getLine (j := 0) (by simp)
  rw [hs.line]
  simpa [hl.lead.2] using this

theorem OneLine.isEmpty (hs : OneLine s w body) (hl : Line w body) : s.isEmpty 0 = false := by
  obtain ⟨f, rest, hb, _⟩ := hl.first
  have := (hs.onDoc hl).isEmpty (j := 0) (by simp)
  simp only [List.getElem_cons_zero, hl.lead.2] at this
  rw [this, hb]; simp

theorem OneLine.getMap (hs : OneLine s w body) :
    s.getMap 0 0 = .ok (w.length, byteLen (w ++ body)) := by
  simp [BState.getMap, Lines.getMap, hs.offs, oneOff, liftL]

theorem OneLine.getLines_line (hs : OneLine s w body) (hl : Line w body) :
    s.getLines 0 1 0 false = .ok (w ++ body, [(0, 0)]) := by
  obtain ⟨o, ho, h⟩ := (hs.onDoc hl).getLines_one (j := 0) (by simp)
  simp only [hs.offs, List.getElem?_cons_zero, Option.some.injEq] at ho
  subst ho
  exact h

theorem OneLine.getLines (hs : OneLine s w body) (hp : PlainG b w body) :
    s.getLines 0 1 0 false = .ok (w ++ body, [(0, 0)]) :=
  hs.getLines_line hp.line

/-! ## the paragraph rule, and the other rules when they decline -/

theorem lazyScan_one (hs : OneLine s w body) (test : Test) (setext : Bool) (fuel : Nat) :
    lazyScan test setext (fuel + 1) s s.line = .ok (1, 0, s) := by
  simp [lazyScan, hs.line, hs.lineMax]

/-- the paragraph node the block pass makes of the line -/
def oneParagraph (w body : List Char) : BNode :=
  ⟨.paragraph, some (w.length, byteLen (w ++ body)), [⟨.inlineRoot (w ++ body) [(0, 0)], none, []⟩]⟩

theorem runRule_paragraph (cfg : Cfg) (tok : Tok) (test : Test) (fuel : Nat) (hs : OneLine s w body)
    (hl : Line w body) :
    runRule cfg tok test (fuel + 1) .paragraph s false =
      .ok (true, { s with line := 1, children := s.children ++ [oneParagraph w body] }) := by
  have h1 := lazyScan_one hs test false fuel
  have h2 := hs.getLines_line hl
  have h3' : liftL (Lines.getMap s.offs 0 0) = .ok (w.length, byteLen (w ++ body)) := hs.getMap
  simp only [runRule, paragraphRule, h1, ok_bind]
  simp only [hs.line, hs.blk, h2, ok_bind, psub, BState.push]
  simp only [BState.getMap, Bool.false_eq_true, if_false, Nat.le_refl, if_true, Nat.sub_self, ok_bind]
  rw [h3']
  rfl

theorem fresh_oneLine (hl : Line w body) (k : Kind) (refs : Refs.RefMap) :
    OneLine (BState.fresh (w ++ body) k refs) w body := by
  refine ⟨rfl, ?_, rfl, rfl, ?_, rfl⟩
  · simp [BState.fresh, splitLines_one hl]
  · simp [BState.fresh, splitLines_one hl]

/-- the tokenizer loop on the line when a rule of the chain takes it: one iteration, then the end -/
theorem tokLoop_line (cfg : Cfg) (run : RuleId → BState → Bool → Res) (f : Nat) (hs : OneLine s w body)
    (hl : Line w body) (hlv : s.level < cfg.maxNesting) (n : BNode)
    (hchain : runChain run cfg.chain s false = .ok (true, { s with line := 1, children := s.children ++ [n] })) :
    tokLoop cfg run (f + 2) false s =
      .ok { s with line := 1, children := s.children ++ [n], tight := true } :=
  tokLoop_single f false (by rw [hs.line, hs.lineMax]; omega) (by rw [hs.line]; exact hs.isEmpty hl)
    hs.lineIndent (by omega) hlv hchain (by rw [hs.line]; exact Nat.zero_lt_one) hs.lineMax.symm

/-- **the block pass on a one-line source that only the paragraph rule takes**: if every other rule
    of the chain declines the line (on every state that sits on it, with whatever engine below),
    the result is one paragraph holding the whole line, no reference definitions -/
theorem parseBlocks_of_decline (cfg : Cfg) (hpar : RuleId.paragraph ∈ cfg.chain)
    (hmax : 0 < cfg.maxNesting) (w body : List Char) (hl : Line w body)
    (hother : ∀ (tok : Tok) (test : Test) (fuel : Nat) (s : BState), OneLine s w body →
      ∀ r ∈ cfg.chain, r ≠ .paragraph → runRule cfg tok test (fuel + 1) r s false = .ok (false, s)) :
    parseBlocks cfg (w ++ body) =
      .ok (⟨.root, some (0, byteLen (w ++ body)), [oneParagraph w body]⟩, []) := by
  obtain ⟨f, hf⟩ : ∃ f, fuelFor cfg (w ++ body) = f + 2 :=
    ⟨(Lines.splitLines (w ++ body)).length + min cfg.maxNesting (byteLen (w ++ body)) + 6, by
      unfold fuelFor; omega⟩
  have hs := fresh_oneLine hl .root []
  have htok := tokLoop_line cfg (ruleAt cfg (f + 1)) f hs hl (by show 0 < _; exact hmax) _
    (runChain_only _ cfg.chain _ _ .paragraph hpar
      (runRule_paragraph cfg (tokenize cfg (f + 1)) (testRules cfg (f + 1)) (f + 1) hs hl)
      (hother _ _ (f + 1) _ hs))
  unfold parseBlocks
  rw [hf, tokenize_succ, htok]
  rfl

/-- every rule but the paragraph rule (and, on a line that may open a fence, the fence rule)
    declines the line and hands the state back -/
theorem runRule_other (cfg : Cfg) (tok : Tok) (test : Test) (fuel : Nat) (hs : OneLine s w body)
    (hp : PlainG b w body) (r : RuleId) (hr : r ≠ .paragraph) (hrf : b = true → r ≠ .fence) :
    runRule cfg tok test (fuel + 1) r s false = .ok (false, s) := by
  obtain ⟨f, rest, hb, hf, hff⟩ := hp.first
  have hind := hs.lineIndent
  have hline := hs.getLine hp.line
  have hw4 : (indentWidth w : Int) < 4 := by have := hp.width; omega
  rw [hb] at hline
  simp only [List.mem_cons, List.not_mem_nil, or_false, not_or] at hf
  obtain ⟨_, _, f3, f4, f5, f6, f7, f8, f9⟩ := hf
  by_cases hl : r = .lheading
  · subst hl
    simp [runRule, lheadingRule, hind, lazyScan_one hs, pure, Except.pure]
  · refine runRule_declines hind hw4 hline hs.li ?_ false
    cases r with
    | code => trivial
    | fence =>
      cases b with
      | true => exact absurd rfl (hrf rfl)
      | false => exact ⟨(hff rfl).2, (hff rfl).1⟩
    | blockquote => exact f3
    | hr => exact ⟨f4, f5, f6⟩
    | list => exact ⟨by simp [skipBullet, f4, f5, f7], by rw [← hb]; exact hp.ord⟩
    | reference => exact .inl f8
    | heading => exact f9
    | lheading => exact absurd rfl hl
    | paragraph => exact absurd rfl hr

/-- **the block pass on a one-line plain source**: one paragraph holding the whole line, no
    reference definitions; for every chain that contains the paragraph rule, every `max_nesting > 0` -/
theorem parseBlocks_one_line (cfg : Cfg) (hpar : RuleId.paragraph ∈ cfg.chain) (hmax : 0 < cfg.maxNesting)
    (w body : List Char) (hp : Plain w body) :
    parseBlocks cfg (w ++ body) =
      .ok (⟨.root, some (0, byteLen (w ++ body)), [oneParagraph w body]⟩, []) :=
  parseBlocks_of_decline cfg hpar hmax w body hp.line
    (fun tok test fuel _ hs r _ hne => runRule_other cfg tok test fuel hs hp r hne (by simp))

/-! ## a one-line source that opens a `~~~` fence -/

/-- the fence node of a one-line source  blanks ++ `~~~` ++ info -/
def oneFence (w body info : List Char) : BNode :=
  ⟨.codeFence info '~' 3 [], some (w.length, byteLen (w ++ body)), []⟩

theorem countRun_stop (m : Char) (l : List Char) (h : ∀ c ∈ l.head?, c ≠ m) : countRun m l = 0 := by
  cases l with
  | nil => rfl
  | cons c r => simp [countRun, h c (by simp)]

/-- the fence rule on `~~~info` (no closing fence: the block runs to the end of the document) -/
theorem runRule_fence (cfg : Cfg) (tok : Tok) (test : Test) (fuel : Nat) (hs : OneLine s w body)
    (hp : PlainG true w body) (info : List Char) (hb : body = '~' :: '~' :: '~' :: info)
    (hi : ∀ c ∈ info.head?, c ≠ '~') :
    runRule cfg tok test fuel .fence s false =
      .ok (true, { s with line := 1, children := s.children ++ [oneFence w body info] }) := by
  have hind := hs.lineIndent
  have hline := hs.getLine hp.line
  have hoff : s.off 0 = .ok (oneOff w body) := by have := hs.off; rwa [hs.line] at this
  have hmap : liftL (Lines.getMap s.offs 0 0) = .ok (w.length, byteLen (w ++ body)) := hs.getMap
  have hw4 : ¬ ((indentWidth w : Int) ≥ 4) := by have := hp.width; omega
  have hcr : countRun '~' ('~' :: '~' :: info) = 2 := by
    simp [countRun, countRun_stop '~' info hi]
  have hsl : Lines.slice ('~' :: '~' :: '~' :: info) 3 (byteLen ('~' :: '~' :: '~' :: info)) = .ok info :=
    Lines.slice_eq_ok_iff.mpr ⟨['~', '~', '~'], [], by simp, by decide, by
      simp only [Lines.byteLen_cons]
      have : ('~' : Char).utf8Size = 1 := by decide
      omega⟩
  have hscan : fenceScan s '~' 3 0 = .ok (1, false) := by
    rw [fenceScan]; simp [hs.lineMax]
  have hgl : s.getLines 1 1 (i32AsUsize (oneOff w body).indentNonspace) true = .ok ([], []) := by
    simp [BState.getLines, Lines.getLines, liftL]
    rw [Lines.getLinesGo]; simp
  simp only [runRule, fenceRule, hind, ok_bind, hw4, if_false, hline, hb]
  simp only [hcr, hsl, liftL, ok_bind]
  have hb' : '~' :: '~' :: '~' :: info = body := hb.symm
  simp only [hb', hscan, hoff, hgl, ok_bind, psub, BState.getMap, hs.line]
  simp [pure, Except.pure, hmap, BState.push, oneFence, bind, Except.bind]

/-- **the block pass on a one-line source  blanks ++ `~~~` ++ info**: one `CodeFence` with that info
    string (raw), empty content; for every chain in which the fence rule comes before the paragraph
    rule -/
theorem parseBlocks_fence_line (cfg : Cfg) (pre post : List RuleId)
    (hchain : cfg.chain = pre ++ .fence :: post) (hpre : RuleId.paragraph ∉ pre)
    (hnf : RuleId.fence ∉ pre) (hmax : 0 < cfg.maxNesting)
    (w body : List Char) (hp : PlainG true w body) (info : List Char)
    (hb : body = '~' :: '~' :: '~' :: info) (hi : ∀ c ∈ info.head?, c ≠ '~') :
    parseBlocks cfg (w ++ body) =
      .ok (⟨.root, some (0, byteLen (w ++ body)), [oneFence w body info]⟩, []) := by
  obtain ⟨f, hf⟩ : ∃ f, fuelFor cfg (w ++ body) = f + 2 :=
    ⟨(Lines.splitLines (w ++ body)).length + min cfg.maxNesting (byteLen (w ++ body)) + 6, by
      unfold fuelFor; omega⟩
  have hs := fresh_oneLine hp.line .root []
  have hreach : runChain (ruleAt cfg (f + 1)) cfg.chain (BState.fresh (w ++ body) .root []) false =
      .ok (true, { BState.fresh (w ++ body) .root [] with
        line := 1, children := (BState.fresh (w ++ body) .root []).children ++ [oneFence w body info] }) := by
    rw [hchain]
    exact runChain_reach
      (fun r hr => runRule_other cfg _ _ (f + 1) hs hp r (fun h => hpre (h ▸ hr)) (fun _ h => hnf (h ▸ hr)))
      (runRule_fence cfg _ _ (f + 2) hs hp info hb hi)
  have htok := tokLoop_line cfg (ruleAt cfg (f + 1)) f hs hp.line (by show 0 < _; exact hmax) _ hreach
  unfold parseBlocks
  rw [hf, tokenize_succ, htok]
  rfl

end MdIt.Block.C12
