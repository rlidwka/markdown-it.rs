/-
  For `Props/MemoSafe.lean`: what `ChainCoherent` (`Lemmas/InlineTotalDef.lean`) MEANS.

  `RuleId.firesAt id c` lists the first characters at which rule `id` can answer `Some` in look-ahead
  mode.  Here: the list is SOUND — at any other first character the rule declines, whatever
  `skip_token` / `tokenize` it is given (`silent_declines`) — hence, for a `ChainCoherent` chain, no
  rule fires at an emphasis marker (`coherent_marker`: what the proofs of the nested frames use, through
  `chain_declines_of` and `just_unit` of `Lemmas/MemoSafeLamChain.lean`): EVERY rule of the chain declines
  there in look-ahead mode (`chain_declines_at_marker`) and `skip_token` makes the single-character entry
  `pos ↦ pos + 1` (`skipStep_unit_at_marker`) — the real delimiter run covers single-character look-ahead
  tokens.
-/
import MdIt.Lemmas.MemoSafeDef

namespace MdIt.Inline
open MdIt.InlineOps (byteLen)

theorem splitRun_head_false {p : Char → Bool} {c : Char} {r : List Char} (h : p c = false) :
    (Entity.splitRun p (c :: r)).1 = [] := by
  simp [Entity.splitRun, h]

/-- **`firesAt` is sound**: a rule declines in look-ahead mode at a first character not in its list -/
theorem silent_declines {cfg : Cfg} {skip tok : IState → Except Panic IState} {fuel : Nat}
    {id : RuleId} {st : IState} {c : Char} {rest : List Char} (hw : st.window = .ok (c :: rest))
    (hf : id.firesAt c = false) :
    ∀ o st', runRule cfg skip tok fuel id st true = .ok (o, st') → o = none := by
  intro o st' h
  have hsl := window_eq hw
  unfold runRule at h
  cases id with
  | text =>
    have e : textLen (c :: rest) = 0 := by
      rw [textLen, splitRun_head_false (p := fun c => !Entity.textStop.contains c) hf]; rfl
    rw [ruleText_verdict hw (liftR_ok.mp h), if_pos e]
  | newline =>
    rw [ruleNewline_verdict hw (liftR_ok.mp h), if_pos (by intro e; subst e; simp [RuleId.firesAt] at hf)]
  | escape =>
    have hc : (c != '\\') = true := by simpa [RuleId.firesAt] using hf
    rw [ruleEscape_verdict hw (liftR_ok.mp h)]
    simp only [escapeLen, Entity.escapeCore, hc, if_true]
  | backticks =>
    have h' := liftR_ok.mp h
    unfold ruleBackticks at h'
    have hc : c ≠ '`' := by
      intro e; subst e; simp [RuleId.firesAt] at hf
    rw [CodePair.run_other CodePair.Variant.current '`' false true st.backticks
      ((codeSlice_eq _ _ _ _).mpr hsl) hc] at h'
    simp only [Except.ok.injEq, Prod.mk.injEq] at h'
    exact h'.1.symm
  | emph mk csw =>
    have h' := liftR_ok.mp h
    rw [ruleEmph_silent] at h'
    simp only [Except.ok.injEq, Prod.mk.injEq] at h'
    exact h'.1.symm
  | link =>
    simp only at h
    unfold ruleLink at h
    rw [hw] at h
    simp only [liftR] at h
    have hc : c ≠ '[' := by
      intro e; subst e; simp [RuleId.firesAt] at hf
    rw [if_pos hc] at h
    simp only [Except.ok.injEq, Prod.mk.injEq] at h
    exact h.1.symm
  | image =>
    simp only at h
    unfold ruleImage at h
    rw [hw] at h
    simp only [liftR] at h
    have hc : c ≠ '!' := by
      intro e; subst e; simp [RuleId.firesAt] at hf
    split at h
    · simp at h
    · next r heq =>
      simp only [Except.ok.injEq, List.cons.injEq] at heq
      exact absurd heq.1 hc
    · simp only [Except.ok.injEq, Prod.mk.injEq] at h
      exact h.1.symm
  | linkEnd =>
    simp only [Except.ok.injEq, Prod.mk.injEq] at h
    exact h.1.symm
  | autolink =>
    obtain ⟨p, hp, rfl⟩ := runPlan_answer hw (ruleAutolink_eq _ _ ▸ liftR_ok.mp h)
    unfold planAutolink at hp
    simp only at hp
    rw [if_pos (by intro e; subst e; simp [RuleId.firesAt] at hf)] at hp
    cases hp; rfl
  | entity =>
    obtain ⟨p, hp, rfl⟩ := runPlan_answer hw (ruleEntity_eq _ _ _ ▸ liftR_ok.mp h)
    unfold planEntity at hp
    simp only at hp
    rw [if_pos (by intro e; subst e; simp [RuleId.firesAt] at hf)] at hp
    cases hp; rfl

/-- what `ChainCoherent` says about one marker -/
theorem coherent_marker {cfg : Cfg} (hc : ChainCoherent cfg = true) {m : Char} {csw : Bool}
    (hm : RuleId.emph m csw ∈ cfg.chain) :
    m.utf8Size = 1 ∧ ∀ id ∈ cfg.chain, id.firesAt m = false := by
  unfold ChainCoherent at hc
  rw [List.all_eq_true] at hc
  have hmem : m ∈ cfg.emphMarkers := by
    unfold Cfg.emphMarkers
    rw [List.mem_filterMap]
    exact ⟨_, hm, rfl⟩
  have := hc m hmem
  simp only [Bool.and_eq_true, beq_iff_eq, List.all_eq_true, Bool.not_eq_true'] at this
  exact this

theorem coherent_hsz {cfg : Cfg} (hc : ChainCoherent cfg = true) :
    ∀ mk csw, RuleId.emph mk csw ∈ cfg.chain → mk.utf8Size = 1 :=
  fun _ _ h => (coherent_marker hc h).1

theorem window_congr {a b : IState} (h1 : b.src = a.src) (h2 : b.pos = a.pos) (h3 : b.posMax = a.posMax) :
    b.window = a.window := by
  unfold IState.window; rw [h1, h2, h3]

/-- **at an emphasis marker of a coherent chain every rule declines in look-ahead mode** -/
theorem chain_declines_at_marker {cfg : Cfg} (hc : ChainCoherent cfg = true)
    {skip tok : IState → Except Panic IState} (hq : CalmFn skip) (hs : SkipHypT skip) (fuel : Nat)
    {m : Char} {csw : Bool} (hm : RuleId.emph m csw ∈ cfg.chain) {rest : List Char} :
    ∀ (rules : List RuleId), (∀ id ∈ rules, id ∈ cfg.chain) →
      ∀ (st : IState), LInv st → st.window = .ok (m :: rest) →
      ∀ o st', firstRule (fun id s => silentBumped (runRule cfg skip tok fuel id) s) rules st
          = .ok (o, st') →
        o = none ∧ LInv st' ∧ st'.window = .ok (m :: rest) ∧ st'.pos = st.pos := by
  obtain ⟨hsz, hfire⟩ := coherent_marker hc hm
  intro rules
  induction rules with
  | nil =>
    intro _ st hi hw o st' h
    simp only [firstRule, Except.ok.injEq, Prod.mk.injEq] at h
    obtain ⟨rfl, rfl⟩ := h
    exact ⟨rfl, hi, hw, rfl⟩
  | cons r rs ih =>
    intro hall st hi hw o st' h
    have hlt : st.pos < st.posMax := by
      obtain ⟨w, hw2, _, hlen⟩ := hi.window
      rw [hw] at hw2
      simp only [Except.ok.injEq] at hw2
      subst hw2
      simp only [byteLen] at hlen; omega
    -- the call of rule `r`
    have hr : ∀ o1 s1, silentBumped (runRule cfg skip tok fuel r) st = .ok (o1, s1) →
        o1 = none ∧ LInv s1 ∧ s1.window = .ok (m :: rest) ∧ s1.pos = st.pos := by
      intro o1 s1 hb
      have hiB : LInv { st with level := st.level + 1 } :=
        ⟨hi.le, hi.bpos, hi.bmax, hi.wf, hi.stop, hi.memo⟩
      have hwB : ({ st with level := st.level + 1 } : IState).window = .ok (m :: rest) := hw
      have hT := runRule_silent_T (cfg := cfg) (tok := tok) hq hs fuel r _ hiB hlt
      unfold silentBumped at hb
      split at hb
      · simp at hb
      · next r0 s0 he =>
        split at hb
        · simp at hb
        · simp only [Except.ok.injEq, Prod.mk.injEq] at hb
          obtain ⟨rfl, rfl⟩ := hb
          have hnone := silent_declines hwB (hfire r (hall r (by simp))) _ _ he
          obtain ⟨a, b, c, _⟩ := hT.ok _ _ he
          refine ⟨hnone, ⟨a.le, a.bpos, a.bmax, a.wf, a.stop, a.memo⟩, ?_, c⟩
          rw [← hw]
          exact window_congr b.src c b.posMax
    unfold firstRule at h
    split at h
    · simp at h
    · next n st1 he =>
      have := (hr _ _ he).1
      simp at this
    · next st1 he =>
      obtain ⟨_, hi1, hw1, hp1⟩ := hr _ _ he
      obtain ⟨a, b, c, d⟩ := ih (fun id hid => hall id (List.mem_cons_of_mem _ hid)) st1 hi1 hw1 o st' h
      exact ⟨a, b, c, by rw [d, hp1]⟩

/-- **the look-ahead token at an emphasis marker of a coherent chain is the single character**:
    `skip_token` (on a memo miss below the nesting limit) records `pos ↦ pos + 1` -/
theorem skipStep_unit_at_marker {cfg : Cfg} (hc : ChainCoherent cfg = true)
    {skip tok : IState → Except Panic IState} (hq : CalmFn skip) (hs : SkipHypT skip) (fuel : Nat)
    (st : IState) (hi : LInv st) {m : Char} {csw : Bool} (hm : RuleId.emph m csw ∈ cfg.chain)
    {rest : List Char} (hw : st.window = .ok (m :: rest)) :
    ∀ st', skipStep cfg skip tok fuel st = .ok st' →
      st'.pos = st.pos + 1 ∧ st'.cache.lookup st.pos = some (st.pos + 1) := by
  have hsz := (coherent_marker hc hm).1
  intro st' h
  unfold skipStep at h
  simp only at h
  split at h
  · simp at h
  · next len st1 he =>
    have := (chain_declines_at_marker hc hq hs fuel hm cfg.chain (fun _ h => h) st hi hw _ _ he).1
    simp at this
  · next st1 he =>
    obtain ⟨_, _, hw1, hp1⟩ :=
      chain_declines_at_marker hc hq hs fuel hm cfg.chain (fun _ h => h) st hi hw _ _ he
    unfold firstChar at h
    rw [hw1] at h
    simp only [liftR] at h
    simp only [Except.ok.injEq] at h
    subst h
    simp only
    rw [hsz, hp1]
    exact ⟨rfl, lookup_cacheInsert_self _ _ _⟩

end MdIt.Inline
