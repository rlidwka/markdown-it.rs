/-
  The chain and `tokLoop`: where their errors come from (`runChainG_err`, `tokLoop_err`, the latter over
  an invariant `J` of the loop head), and the induction on the fuel that ties the no-panic knot through
  the nested tokenizer and the look-ahead — parameterised by the per-rule lemmas (`RunNP`).
-/
import MdIt.Lemmas.BlockTotalLeaf

namespace MdIt.Block
open MdIt.Lines (LineOffset)

/-- a chain runner whose rules do not panic on a line that exists (real mode: at a non-negative
    indent, which is where the tokenizer runs them) -/
def RunNP {ι : Type} (run : ι → BState → Bool → Res) : Prop :=
  ∀ r s silent, BInv s → s.line < s.lineMax → (silent = false → IndentOk s) → NoPanic (run r s silent)

/-- the chain fails with one of its rules (`hsame`: a rule that answers `false` hands the state back), for
    any type of rule ids -/
theorem runChainG_err {ι : Type} {E : Panic → Prop} {run : ι → BState → Bool → Res} {silent : Bool}
    (hsame : ∀ r s s', run r s silent = .ok (false, s') → s' = s) {s : BState}
    (hrun : ∀ r, ErrIn E (run r s silent)) (chain : List ι) : ErrIn E (BlockH.runChainG run chain s silent) := by
  intro e h
  rcases runChainG_first hsame chain s with ⟨-, h0⟩ | ⟨-, r, -, -, -, h1, -⟩
  · cases h0.symm.trans h
  · exact hrun r e (h1 ▸ h)

/-- The loop of the tokenizer fails with a rule of the chain, with a statement of its own, or by running
    out of fuel.  `J` is what is known of the state at the head of every iteration: it survives a step
    that keeps the frame and does not move `line` back. -/
theorem tokLoop_err {E : Panic → Prop} {cfg : Cfg} {run : RuleId → BState → Bool → Res} (hr : RunSpec run)
    {J : BState → Prop} (hJ : ∀ s s', J s → Frame s s' → s.line ≤ s'.line → J s')
    (hP : ∀ s, J s → PrimIn E (BInv s))
    (hrun : ∀ r s, J s → s.line < s.lineMax → IndentOk s → s.level < cfg.maxNesting → ErrIn E (run r s false)) :
    ∀ (k : Nat) (he : Bool) (s : BState), J s → E .fuel ∨ s.lineMax - s.line < k →
      ErrIn E (tokLoop cfg run k he s) := by
  intro k
  induction k with
  | zero =>
    intro he s _ hF
    exact .lit (hF.elim id fun hb => by omega)
  | succ k ih =>
    intro he s hJs hF
    unfold tokLoop
    refine .ite (fun _ => .ok _) fun _ => ?_
    -- the blank lines are skipped: the head invariant holds at the line the chain runs at
    have hs1 := (skipEmpty_spec s.offs s.lineMax s.line).1
    generalize Lines.skipEmptyLines s.offs s.lineMax s.line = l at hs1 ⊢
    have hJ1 : J { s with line := l } := hJ _ _ hJs (frame_line_tight s l s.tight) hs1
    have hP1 := hP _ hJ1
    refine .ite (fun _ => .ok _) fun hge => ?_
    have hlt : l < s.lineMax := Nat.not_le.mp hge
    have hm : BInv { s with line := l } → l < s.offs.length := fun hI => Nat.lt_of_lt_of_le hlt hI.lineMax
    refine .bind (hP1.prim fun hI => lineIndent_total (hm hI)) fun ind hind => ?_
    refine .ite (fun _ => .ok _) fun hneg => ?_
    have hi1 : IndentOk { s with line := l } := ⟨ind, hind, Int.not_lt.mp hneg⟩
    refine .ite (fun _ => .ok _) fun hlv => ?_
    refine .bind (runChain_eq_G _ _ _ _ ▸ runChainG_err hr.false_same
      (fun r => hrun r _ hJ1 hlt hi1 (Nat.not_le.mp hlv)) _)
      fun ⟨b, s2⟩ hchain => ?_
    obtain ⟨hc1, hc2⟩ := runChain_real hr _ _ _ _ hchain
    refine .bind ?_ fun s3 hafter => ?_
    · -- `afterChain`: the progress `assert!`, or the no-paragraph fallback
      unfold afterChain
      refine .ite (fun hb => .ite (fun _ => .pure _) fun hnp => ?_) fun hb => ?_
      · exact absurd (hc2 hb hlt hi1).lt hnp
      · obtain rfl : s2 = { s with line := l } := hc1 (Bool.eq_false_iff.mpr hb)
        refine .bind (hP1.prim fun hI => getLine_total hI.table (hm hI)) fun _ _ => ?_
        refine .bind (hP1.prim fun hI => off_total (hm hI)) fun _ _ => ?_
        exact .pure _
    -- one iteration keeps the frame and moves `line` forward
    obtain ⟨h13, hlt3, -⟩ := tok_iter hr (s1 := { s with line := l }) rfl hlt hi1 hchain hafter
    have hlt3 : l < s3.line := hlt3
    refine .bind (.total (psub_total (by show 1 ≤ s3.line; omega))) fun _ _ => ?_
    have hmax : s3.lineMax = s.lineMax := h13.lineMax
    refine .ite (fun _ => ?_) fun _ => ?_
    · refine ih _ _ (hJ _ _ hJ1 (h13.trans (frame_line_tight _ _ _)) (by show l ≤ s3.line + 1; omega))
        (hF.imp id fun _ => ?_)
      show s3.lineMax - (s3.line + 1) < k
      omega
    · refine ih _ _ (hJ _ _ hJ1 (h13.trans (frame_line_tight _ _ _)) (by show l ≤ s3.line; omega))
        (hF.imp id fun _ => ?_)
      show s3.lineMax - s3.line < k
      omega

theorem tokLoop_np {cfg : Cfg} {run : RuleId → BState → Bool → Res} (hr : RunSpec run) (hrun : RunNP run)
    (k : Nat) (he : Bool) (s : BState) (hI : BInv s) : NoPanic (tokLoop cfg run k he s) :=
  tokLoop_err hr (J := BInv) (fun _ _ hI hf _ => hI.of_frame hf) (fun _ hI => .inl hI)
    (fun r s hI hl hi _ => hrun r s false hI hl fun _ => hi) k he s hI (.inl rfl)

/-- what the induction on the fuel needs of the nine rules -/
def RulesNP (cfg : Cfg) : Prop :=
  ∀ (tok : Tok) (test : Test) (fuel : Nat), TokSpec tok → TestPure test → TestOK test →
    TokOK tok → RunNP (runRule cfg tok test fuel)

theorem engine_np {cfg : Cfg} (hrules : RulesNP cfg) :
    ∀ (f : Nat), TokOK (tokenize cfg f) ∧ TestOK (testRules cfg f) := by
  intro f
  induction f with
  | zero =>
    refine ⟨fun s _ e h => ?_, fun s _ _ e h => ?_⟩ <;> simp [tokenize, testRules, engine] at h <;> exact h.symm
  | succ f ih =>
    have hrun := hrules (tokenize cfg f) (testRules cfg f) (f + 1) (tokenize_tokSpec cfg f)
      (testRules_pure cfg f) ih.2 ih.1
    refine ⟨fun s hI => ?_, fun s hI hl => ?_⟩
    · rw [tokenize_succ]
      exact tokLoop_np (runRule_spec (tokenize_tokSpec cfg f) (testRules_pure cfg f) _) hrun _ _ _ hI
    · simp only [testRules, engine]
      exact runChain_eq_G _ _ _ _ ▸
        runChainG_err (fun r s s' h => silent_pure_rule h) (fun r => hrun r s true hI hl fun h => nomatch h) _

end MdIt.Block
