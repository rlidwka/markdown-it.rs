/-
  For `Props/MemoSafe.lean`: what a successful `parse_link` leaves in the memo.

    * `parseLinkLabel_records`, `parseLink_records` — after `parse_link` has found the label
      `[labelStart, labelEnd)`, the label walk is RECORDED: on the memo it returns, and on every
      extension of it, the walk over the memo alone (`pwalk`, `Lemmas/MemoSafeWalk.lean`) from
      `labelStart` finds `labelEnd` (no position without entry, no entry beyond `pos_max`), even when
      the reference form ran a second label walk afterwards;
    * `parseLink_path`      — so the memo has a path `labelStart → … → labelEnd`;
    * `parseLink_entry_closed` — over a LAMINAR memo the nested frame starts `Closed`:
      the entry condition of `Lemmas/MemoSafeEntry.lean` (`entrySafe`);
    * `parseLink_frame_replay` — under `pos_max = labelEnd` (the nested frame) the walk from
      `labelStart` is replayed up to `labelEnd` and stops there on the empty window.
-/
import MdIt.Lemmas.MemoSafeWalk
import MdIt.Lemmas.MemoSafeClosed

namespace MdIt.Inline
open MdIt.InlineOps (slice)

theorem SkipGrowHyp.toRec {skip : IState → Except Panic IState} (hg : SkipGrowHyp skip) :
    SkipRecHyp skip :=
  fun s hi hlt s' h => ⟨(hg s hi hlt s' h).1.mono, (hg s hi hlt s' h).2⟩

/-- the label walk of a successful `parse_link_label` is recorded -/
theorem parseLinkLabel_records {skip : IState → Except Panic IState} (hq : CalmFn skip)
    (hs : SkipHypT skip) (hg : SkipGrowHyp skip) (en : Bool) (fuel : Nat) (st : IState)
    (start : Nat) (hi : LInv st) (hb : Boundary st.src (start + 1)) (hle : start + 1 ≤ st.posMax) :
    ∀ e st', parseLinkLabel skip fuel st start en = .ok (some e, st') →
      ∀ c', LookupMono st'.cache c' →
        pwalk st.src st.posMax c' en fuel 1 (start + 1) = .done (some true) e := by
  have hi0 : LInv { st with pos := start + 1 } :=
    ⟨hle, hb, hi.bmax, hi.wf, hi.stop, hi.memo⟩
  have hl := labelLoop_records hq hs hg.toRec en fuel 1 { st with pos := start + 1 } hi0
  intro e st' h c' hc'
  unfold parseLinkLabel at h
  simp only at h
  split at h
  · simp at h
  · simp at h
  · next found st1 he =>
    simp only [Except.ok.injEq, Prod.mk.injEq] at h
    obtain ⟨h1, rfl⟩ := h
    obtain ⟨_, hw⟩ := hl _ _ he
    cases found with
    | false => simp at h1
    | true =>
      simp only [if_true, Option.some.injEq] at h1
      subst h1
      exact hw c' hc'

/-- **the label walk of a successful `parse_link` is recorded** (inline form and reference form) -/
theorem parseLink_records {cfg : Cfg} {skip : IState → Except Panic IState} (hq : CalmFn skip)
    (hs : SkipHypT skip) (hg : SkipGrowHyp skip) (fuel : Nat) (st : IState) (pos : Nat) (en : Bool)
    (hi : LInv st) (hb : Boundary st.src (pos + 1)) (hle : pos + 1 ≤ st.posMax) :
    ∀ res st', parseLink cfg skip fuel st pos en = .ok (some res, st') →
      res.labelStart = pos + 1 ∧
      ∀ c', LookupMono st'.cache c' →
        pwalk st.src st.posMax c' en fuel 1 (pos + 1) = .done (some true) res.labelEnd := by
  have hlabT := parseLinkLabel_T hq hs en fuel st pos hi hb hle
  have hlab := parseLinkLabel_records hq hs hg en fuel st pos hi hb hle
  intro res st' h
  refine ⟨parseLink_labelStart h, ?_⟩
  unfold parseLink at h
  cases hpl : parseLinkLabel skip fuel st pos en with
  | error e => rw [hpl] at h; simp at h
  | ok r =>
    obtain ⟨o, st1⟩ := r
    rw [hpl] at h
    cases o with
    | none => simp at h
    | some labelEnd =>
      simp only at h
      obtain ⟨hi1, hc1, hp1, hx⟩ := hlabT.2 _ _ hpl
      obtain ⟨hx1, rx, hrx⟩ := hx labelEnd rfl
      have hrec := hlab labelEnd st1 hpl
      split at h
      · simp at h
      · next il hil =>
        simp only [Except.ok.injEq, Prod.mk.injEq, Option.some.injEq] at h
        obtain ⟨rfl, rfl⟩ := h
        exact hrec
      · have hend : ∃ r, slice st1.src labelEnd st1.posMax = .ok (']' :: r) := by
          rw [hc1.src, hc1.posMax]; exact ⟨rx, hrx⟩
        have hgrow := parseLinkRef_grow (cfg := cfg) hq hs hg fuel st1 (pos + 1) labelEnd hi1 _ _ h
        have href := (parseLinkRef_T (cfg := cfg) hq hs fuel st1 (pos + 1) labelEnd hi1
          (by rw [hc1.src]; exact hb) hx1 hend).2 _ _ h
        obtain ⟨_, hle2, _⟩ := href.2 res rfl
        rw [hle2]
        intro c' hc'
        exact hrec c' (hgrow.mono.trans hc')

/-- the memo path over the label a successful `parse_link` has found -/
theorem parseLink_path {cfg : Cfg} {skip : IState → Except Panic IState} (hq : CalmFn skip)
    (hs : SkipHypT skip) (hg : SkipGrowHyp skip) (fuel : Nat) (st : IState) (pos : Nat) (en : Bool)
    (hi : LInv st) (hb : Boundary st.src (pos + 1)) (hle : pos + 1 ≤ st.posMax)
    {res : LinkRes} {st' : IState} (h : parseLink cfg skip fuel st pos en = .ok (some res, st')) :
    Path st'.cache res.labelStart res.labelEnd := by
  obtain ⟨h1, h2⟩ := parseLink_records hq hs hg fuel st pos en hi hb hle res st' h
  rw [h1]
  exact pwalk_path en _ _ _ _ _ (h2 _ (LookupMono.refl _))

/-- **the nested frame starts closed over a laminar memo**: every memo entry that starts inside the
    label `[labelStart, labelEnd)` found by `parse_link` ends at or before `labelEnd` -/
theorem parseLink_entry_closed {cfg : Cfg} {skip : IState → Except Panic IState} (hq : CalmFn skip)
    (hs : SkipHypT skip) (hg : SkipGrowHyp skip) (fuel : Nat) (st : IState) (pos : Nat) (en : Bool)
    (hi : LInv st) (hb : Boundary st.src (pos + 1)) (hle : pos + 1 ≤ st.posMax)
    {res : LinkRes} {st' : IState} (h : parseLink cfg skip fuel st pos en = .ok (some res, st'))
    (hlam : Laminar st'.cache) : Closed st'.cache res.labelStart res.labelEnd := by
  have hm : MemoB st' := ((parseLink_T (cfg := cfg) hq hs fuel st pos en hi hb hle).2 _ _ h).1.memo
  exact closed_of_path hlam (fun k v hkv => (hm k v hkv).1)
    (parseLink_path hq hs hg fuel st pos en hi hb hle h)

/-- **inside the nested frame the label walk is a pure replay**: under `pos_max = labelEnd`, on every
    extension of the memo, the walk from `labelStart` follows recorded entries up to `labelEnd` and
    stops there on the empty window — no rule runs, no entry beyond `pos_max` is met -/
theorem parseLink_frame_replay {cfg : Cfg} {skip : IState → Except Panic IState} (hq : CalmFn skip)
    (hs : SkipHypT skip) (hg : SkipGrowHyp skip) (fuel : Nat) (st : IState) (pos : Nat) (en : Bool)
    (hi : LInv st) (hb : Boundary st.src (pos + 1)) (hle : pos + 1 ≤ st.posMax)
    {res : LinkRes} {st' : IState} (h : parseLink cfg skip fuel st pos en = .ok (some res, st'))
    {c' : List (Nat × Nat)} (hc' : LookupMono st'.cache c') (hf : ∀ k v, (k, v) ∈ c' → k < v) :
    pwalk st.src res.labelEnd c' en fuel 1 res.labelStart = .done (some false) res.labelEnd := by
  obtain ⟨h1, h2⟩ := parseLink_records hq hs hg fuel st pos en hi hb hle res st' h
  rw [h1]
  exact pwalk_frame hf en _ _ _ _ (h2 c' hc')

/-! ## the instances for the guarded `skip_token` -/

theorem parseLink_entry_closed_G (cfg : Cfg) (f fuel : Nat) (st : IState) (pos : Nat) (en : Bool)
    (hi : LInv st) (hb : Boundary st.src (pos + 1)) (hle : pos + 1 ≤ st.posMax)
    {res : LinkRes} {st' : IState}
    (h : parseLink cfg (fun s => skipTokenG cfg true f s) fuel st pos en = .ok (some res, st'))
    (hlam : Laminar st'.cache) : Closed st'.cache res.labelStart res.labelEnd :=
  parseLink_entry_closed (skipTokenG_calm cfg true f) (skipTokenG_T cfg f) (skip_grow cfg f)
    fuel st pos en hi hb hle h hlam

theorem parseLink_path_G (cfg : Cfg) (f fuel : Nat) (st : IState) (pos : Nat) (en : Bool)
    (hi : LInv st) (hb : Boundary st.src (pos + 1)) (hle : pos + 1 ≤ st.posMax)
    {res : LinkRes} {st' : IState}
    (h : parseLink cfg (fun s => skipTokenG cfg true f s) fuel st pos en = .ok (some res, st')) :
    Path st'.cache res.labelStart res.labelEnd :=
  parseLink_path (skipTokenG_calm cfg true f) (skipTokenG_T cfg f) (skip_grow cfg f)
    fuel st pos en hi hb hle h

end MdIt.Inline
