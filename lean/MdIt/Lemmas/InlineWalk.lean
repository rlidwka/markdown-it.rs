/-
  Sibling-list invariants through the inline tokenizer (partial correctness: any fuel, any state).

  `Keeps cfg L` lists the closure properties of a family `L room siblings` of invariants of the children
  of the current node, `room` being `max_nesting - level` of the tokenizer that owns the list: the empty
  list, what a rule without look-ahead recursion builds (`Built`), the one-character fall-back, the
  emphasis-marker rule with the delimiter matching behind it, and a link / image around what the
  tokenizer one level deeper left.  `Eng.tokLoop_kept` walks the chain (through `RuleDid`), the loop and the
  fuel once for all of them and for every copy of the tokenizer (`Lemmas/InlineEngine.lean`) whose rule
  calls are `Eng.Did`: `tokenize` returns at the level it was entered with and keeps `L`.  `tokLoop_kept` is
  the model's tokenizer, `InlineH.tokLoopH_kept` (`Lemmas/PipelineHShape.lean`) the one with the raw-HTML
  rule.  Instances: node values (`Lemmas/InlineVals2`), the text normal form without emphasis
  (`Lemmas/InlineText2`), node shapes (`Lemmas/C14DocShape`), the depth not counting wrappers
  (`Lemmas/C02DocInline`), the `EmphDepth` invariants (`Props/EmphDepth`).
-/
import MdIt.Lemmas.InlineCalm

namespace MdIt.Inline
open MdIt.InlineOps (Srcmap getSourcePosFor getMap byteLen slice)
open MdIt.InlineH (tokStepG)

/-- **closure properties of a family of sibling-list invariants** `L room siblings`, `room` being
    `max_nesting - level` of the tokenizer that owns the list -/
structure Keeps (cfg : Cfg) (L : Nat → List Node → Prop) : Prop where
  /-- the nested tokenizer of a link starts from an empty list -/
  nil : ∀ r, L r []
  /-- the rules without look-ahead recursion (they run below the nesting limit only) -/
  built : ∀ {r : Nat} {st st' : IState}, 1 ≤ r → Built st st' → L r st.children → L r st'.children
  /-- the one-character fall-back of the loop (at any level) -/
  text : ∀ {r : Nat} {st st' : IState} {a b : Nat}, a < b → st.pushText a b = .ok st' → L r st.children →
    L r st'.children
  /-- the emphasis-marker rule with the delimiter matching behind it -/
  emph : ∀ {mk : Char} {csw : Bool} {st st' : IState} {o : Option Nat}, RuleId.emph mk csw ∈ cfg.chain →
    ruleEmph cfg mk csw st false = .ok (o, st') →
    L (cfg.maxNesting - st.level) st.children → L (cfg.maxNesting - st.level) st'.children
  /-- a link / image around what the tokenizer one level deeper left -/
  link : ∀ {r : Nat} {cs inner : List Node} {mkv : List Nat → Option (List Char) → Val} {href : Option (List Nat)}
    {t : Option (List Char)} {rg : Nat × Nat}, (mkv = Val.link ∨ mkv = Val.image) → HrefOK cfg href →
    L (r + 1) cs → L r inner → L (r + 1) (cs ++ [{ val := mkv (href.getD []) t, range := some rg, children := inner }])

/-- what `tokenize` entered at level `l` maintains -/
def Kept (cfg : Cfg) (L : Nat → List Node → Prop) (l : Nat) (s : IState) : Prop :=
  s.level = l ∧ L (cfg.maxNesting - l) s.children

/-- what the generic walk proves of `tokenize` (and asks of the nested one) -/
def TokKept (cfg : Cfg) (L : Nat → List Node → Prop) (tok : IState → Except Panic IState) : Prop :=
  ∀ s s', tok s = .ok s' → L (cfg.maxNesting - s.level) s.children →
    s'.level = s.level ∧ L (cfg.maxNesting - s.level) s'.children

theorem RuleDid.kept {cfg : Cfg} {L : Nat → List Node → Prop} (K : Keeps cfg L)
    {tok : IState → Except Panic IState} (ht : TokKept cfg L tok) {l : Nat} (hl : l < cfg.maxNesting)
    {id : RuleId} (hid : id ∈ cfg.chain) {st : IState} {o : Option Nat} {st' : IState}
    (h : RuleDid cfg tok id st false o st') (hc : Kept cfg L l st) : Kept cfg L l st' := by
  obtain ⟨hlev, hL⟩ := hc
  cases h with
  | flat h => exact ⟨h.simple.frame.level.trans hlev, K.built (by omega) h.1 hL⟩
  | emph hm h =>
    refine ⟨(ruleEmph_simple h).frame.level.trans hlev, ?_⟩
    have := K.emph (hm ▸ hid) h (by rw [hlev]; exact hL)
    rwa [hlev] at this
  | look _ hq _ => exact ⟨hq.level.trans hlev, by rw [hq.children]; exact hL⟩
  | @link mkv res st1 st3 r hmk hq _ hh htok _ _ _ =>
    obtain ⟨h3, L3⟩ := ht _ _ htok (K.nil _)
    simp only at h3 L3
    have e : cfg.maxNesting - l = (cfg.maxNesting - (st1.level + 1)) + 1 := by rw [hq.level, hlev]; omega
    refine ⟨?_, ?_⟩
    · simp only; rw [h3, Nat.add_sub_cancel]; exact hq.level.trans hlev
    · simp only
      rw [e]
      exact K.link (hmk.imp And.right And.right) hh (by rw [← e, hq.children]; exact hL) L3

namespace Eng
variable {ι : Type}

/-- a successful rule call of a copy of the tokenizer, as a sibling-list invariant sees it: a call of a rule
    of `cfg.chain` (`RuleDid`), or a call that keeps the level and leaves the children one of the shapes
    `Built` leaves (the raw-HTML rule: it moves `link_level`, so it is not `RuleOut`) -/
def Did (E : Eng ι) (cfg : Cfg) : Prop :=
  ∀ {skip tok : IState → Except Panic IState} {fuel : Nat} {id : ι} {st : IState} {silent : Bool} {o : Option Nat}
    {st' : IState}, CalmFn skip → id ∈ E.chain → E.run skip tok fuel id st silent = .ok (o, st') →
    (∃ r ∈ cfg.chain, RuleDid cfg tok r st silent o st') ∨
    (st'.level = st.level ∧ ∃ st1, Built st st1 ∧ st'.children = st1.children)

/-- **every sibling-list invariant with the closure properties `Keeps` goes through every copy of the
    tokenizer** whose rule calls are `Did` (partial correctness: any fuel, any state); `tokenize` returns at
    the level it was entered with -/
theorem tokLoop_kept (E : Eng ι) (g : Bool) {cfg : Cfg} (hen : E.enter = id) (hmx : E.maxNesting = cfg.maxNesting)
    (hq : ∀ f, CalmFn fun s => E.skipToken g f s) (hd : E.Did cfg) {L : Nat → List Node → Prop}
    (K : Keeps cfg L) (fuel e : Nat) : TokKept cfg L (fun s => E.tokLoop g fuel e s) :=
  fun st st' h => E.tokLoop_rel g (R := fun _ s s' => L (cfg.maxNesting - s.level) s.children →
      s'.level = s.level ∧ L (cfg.maxNesting - s.level) s'.children)
    (fun _ _ hc => ⟨rfl, hc⟩)
    (fun h1 h2 hc => by
      obtain ⟨l1, c1⟩ := h1 hc
      obtain ⟨l2, c2⟩ := h2 (by rw [l1]; exact c1)
      exact ⟨l2.trans l1, by rw [l1] at c2; exact c2⟩)
    (fun f _ st st1 ih _ hs hc => by
      have ht : TokKept cfg L (E.enter fun s => E.tokLoop g f s.posMax s) := by
        rw [hen]; exact fun s s' h => ih _ s s' h
      refine tokStepG_rel (R := fun s s' => Kept cfg L st.level s → Kept cfg L st.level s') (fun _ h => h)
        (fun h1 h2 h => h2 (h1 h)) (fun hlt id hid s o s' hr hcs => ?_) (fun _ _ h => h)
        (fun s _ _ s' hab hp hcs => by
          obtain ⟨cs, _, hs'⟩ := pushText_eq hp
          exact ⟨by rw [hs']; exact hcs.1, K.text hab hp hcs.2⟩) hs ⟨rfl, hc⟩
      rcases hd (hq f) hid hr with ⟨r, hr, hdid⟩ | ⟨hl, st1, hb, hch⟩
      · exact hdid.kept K ht (hmx ▸ hlt) hr hcs
      · exact ⟨hl.trans hcs.1, hch ▸ K.built (by have := hmx ▸ hlt; omega) hb hcs.2⟩)
    fuel e st st' h

end Eng

/-- `Eng.tokLoop_kept` at the model's tokenizer -/
theorem tokLoop_kept {cfg : Cfg} {L : Nat → List Node → Prop} (K : Keeps cfg L) (fuel e : Nat) :
    TokKept cfg L (fun s => tokLoop cfg fuel e s) := by
  have := (Eng.base cfg).tokLoop_kept false rfl rfl
    (fun f => by simpa only [← (engM cfg f).2] using skipToken_calm cfg f)
    (fun hq hid h => .inl ⟨_, hid, runRule_did hq h⟩) K fuel e
  simpa only [← (engM cfg fuel).1] using this

theorem parseInline_kept {cfg : Cfg} {L : Nat → List Node → Prop} (K : Keeps cfg L) {content : List Char}
    {mapping : Srcmap} {cs : List Node} (h : parseInline cfg content mapping = .ok cs) :
    L cfg.maxNesting cs := by
  unfold parseInline tokenize at h
  split at h
  · cases h
  · next st hst =>
    cases h
    exact (tokLoop_kept K _ _ _ _ hst (K.nil _)).2

end MdIt.Inline
