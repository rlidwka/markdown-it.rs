/-
  Helper development for `Props/C12Ctx.lean` (C12 context agreement for link destination, link title,
  reference definition), INLINE side: a symbolic run of `Inline.linkRule` — and of the whole inline
  parser — on a source  `[` c `]` tail  whose label is ONE plain character `c`:

    * `parseLinkLabel_char`  `parse_link_label`: the loop calls `skip_token` once (the text scanner takes the
                             label character in silent mode; one memo entry) and stops at `]`
    * `tokStep_char`         the nested `tokenize` on the label window: one `Text` node — through the
                             text scanner when `level + 1 < max_nesting`, through the loop's
                             one-character fall-back otherwise (`max_nesting = 1`)
    * `parseInline_bracket`  `md.inline.parse("[c]" ++ tail)` is `[Link{href, title}[Text c]]` whenever
                             the part of `parse_link` behind the label (`afterLabel`: inline tail
                             `(…)`, else reference lookup) returns `href`, `title` and consumes
                             everything

  Nothing here unfolds the emphasis matcher: an emphasis rule is only met at characters that are not
  its marker.
-/
import MdIt.Lemmas.C12DocInline

set_option linter.unusedSimpArgs false

namespace MdIt.Inline.C12X
open MdIt.InlineOps (Srcmap getSourcePosFor getMap byteLen slice)
open MdIt.C05 (WFMap byteLen_append slice_ok_iff)
open MdIt.Entity (isAsciiPunct nonStop splitRun)
open MdIt.Inline.C12 (trigger Only only_own runRule_quiet firstRule_only window_of_src wf_single tokLoop_step
  tokLoop_done trimSrc_mid window_slice skipToken_run step_text_run parseLinkLabel_run)

/-! ## the chain condition -/

/-- what the label needs: the text scanner is in the chain, emphasis-like rules have ASCII
    punctuation markers -/
structure TextChain (chain : List RuleId) : Prop where
  text : RuleId.text ∈ chain
  emph : ∀ mk csw, RuleId.emph mk csw ∈ chain → isAsciiPunct mk = true

/-- what the link contexts need of the inline chain: the text scanner and the link rule are in it
    (anywhere, any order, any other rules), and every emphasis-like rule has an ASCII punctuation
    marker other than `[` (true of `*`, `_`, `~`) -/
structure LinkChain (chain : List RuleId) : Prop where
  text : RuleId.text ∈ chain
  link : RuleId.link ∈ chain
  emph : ∀ mk csw, RuleId.emph mk csw ∈ chain → isAsciiPunct mk = true ∧ mk ≠ '['

theorem LinkChain.toText {chain : List RuleId} (h : LinkChain chain) : TextChain chain :=
  ⟨h.text, fun mk csw hm => (h.emph mk csw hm).1⟩

/-- the same for images: the image rule instead of the link rule, no emphasis-like rule on `!` -/
structure ImageChain (chain : List RuleId) : Prop where
  text : RuleId.text ∈ chain
  image : RuleId.image ∈ chain
  emph : ∀ mk csw, RuleId.emph mk csw ∈ chain → isAsciiPunct mk = true ∧ mk ≠ '!'

theorem ImageChain.toText {chain : List RuleId} (h : ImageChain chain) : TextChain chain :=
  ⟨h.text, fun mk csw hm => (h.emph mk csw hm).1⟩

/-- a label character: not ASCII punctuation, not a line feed (a letter, a digit, …) -/
structure LabelChar (c : Char) : Prop where
  np : isAsciiPunct c = false
  nl : c ≠ '\n'

theorem LabelChar.ne {c : Char} (h : LabelChar c) {d : Char} (hd : isAsciiPunct d = true) : c ≠ d := by
  intro e; subst e; rw [h.np] at hd; cases hd

theorem trigger_label {chain : List RuleId} (hc : TextChain chain) {c : Char} (h : LabelChar c) :
    Only chain .text c := by
  have key : ∀ d : Char, isAsciiPunct d = true → (c == d) = false := by
    intro d hd; rw [beq_eq_false_iff_ne]; exact h.ne hd
  intro r hr hne
  cases r with
  | text => exact absurd rfl hne
  | newline => simp only [trigger, beq_eq_false_iff_ne]; exact h.nl
  | escape => exact key _ (by decide)
  | backticks => exact key _ (by decide)
  | emph mk csw => exact key _ (hc.emph mk csw hr)
  | link => exact key _ (by decide)
  | image => exact key _ (by decide)
  | linkEnd => rfl
  | autolink => exact key _ (by decide)
  | entity => exact key _ (by decide)

theorem trigger_bang {chain : List RuleId} (hc : ImageChain chain) : Only chain .image '!' :=
  only_own (by simp) fun mk csw h => (hc.emph mk csw h).2

theorem trigger_bracket {chain : List RuleId} (hc : LinkChain chain) : Only chain .link '[' :=
  only_own (by simp) fun mk csw h => (hc.emph mk csw h).2

theorem unbump (st : IState) :
    ({ ({ st with level := st.level + 1 } : IState) with level := st.level + 1 - 1 } : IState) = st :=
  Inline.unbump st

/-! ## `parse_link_label` on `pre[c]…` (`pre` = nothing for a link, `!` for an image) -/

theorem byteLen_bracket : byteLen ['['] = 1 := by decide
theorem byteLen_rbracket : byteLen [']'] = 1 := by decide
theorem byteLen_cons1 (c : Char) (l : List Char) : byteLen (c :: l) = byteLen [c] + byteLen l := by
  simp only [byteLen]; omega

theorem byteLen_label (pre : List Char) (c : Char) (T : List Char) :
    byteLen (pre ++ '[' :: c :: ']' :: T) = byteLen pre + 1 + byteLen [c] + 1 + byteLen T := by
  have e1 := byteLen_cons1 c (']' :: T)
  have e2 := byteLen_cons1 ']' T
  have e3 := byteLen_cons1 '[' (c :: ']' :: T)
  rw [byteLen_rbracket] at e2
  rw [byteLen_bracket] at e3
  rw [byteLen_append]
  omega

/-- `parse_link_label(state, |pre|, enable_nested)` on a source `pre[c]…` (window up to the end of
    the source, empty memo): the loop calls `skip_token` at `c`, stops at `]`; label end =
    `|pre| + 1 + |c|`, `state.pos` restored, one memo entry -/
theorem parseLinkLabel_char {cfg : Cfg} (hc : TextChain cfg.chain) (f g : Nat) (st : IState)
    (pre : List Char) (c : Char) (T : List Char) (en : Bool) (hlc : LabelChar c)
    (hsrc : st.src = pre ++ '[' :: c :: ']' :: T)
    (hmax : st.posMax = byteLen st.src) (hcache : st.cache = []) (hlv : st.level < cfg.maxNesting) :
    parseLinkLabel (fun s => skipToken cfg (f + 1) s) (g + 2) st (byteLen pre) en =
      .ok (some (byteLen pre + 1 + byteLen [c]),
        { st with cache := [(byteLen pre + 1, byteLen pre + 1 + byteLen [c])] }) := by
  rw [parseLinkLabel_run hc.text f g en pre [c] T hsrc hmax
    (by simpa using Entity.nonStop_of_notPunct c hlc.np hlc.nl)
    (fun p hp => by simp only [List.head?_cons, Option.mem_def, Option.some.injEq] at hp; subst hp
                    exact trigger_label hc hlc) hlv
    (fun v hv => by rw [hcache] at hv; cases hv), hcache]
  rfl

/-! ## the nested `tokenize` on the label window -/

theorem byteLen_single (c : Char) : byteLen [c] = c.utf8Size := by simp [byteLen]

/-- one iteration of `tokenize` on a window that holds exactly the label character `c`, no children
    yet: one fresh `Text` node — whether the chain runs (`level < max_nesting`: the text scanner takes
    `c`) or not (the loop's one-character fall-back) -/
theorem tokStep_char {cfg : Cfg} (hc : TextChain cfg.chain) (skip tok : IState → Except Panic IState)
    (fuel : Nat) (st : IState) (P B : List Char) (c : Char) (hlc : LabelChar c)
    (hsrc : st.src = P ++ [c] ++ B) (hpos : st.pos = byteLen P) (hmax : st.posMax = byteLen P + byteLen [c])
    (hwf : WFMap st.srcmap) (hkids : st.children = []) :
    ∃ rg, tokStep cfg skip tok fuel st =
      .ok { st with children := [Node.newText [c] (some rg)], pos := st.pos + byteLen [c] } := by
  have hw : st.window = .ok [c] := window_of_src hsrc hpos hmax
  have hsl : slice st.src st.pos (st.pos + byteLen [c]) = .ok [c] :=
    (slice_ok_iff _ _ _ _).mpr ⟨P, B, hsrc, hpos.symm, rfl⟩
  obtain ⟨x, y, hmap, -, -⟩ := getMap_ok (st := st) hwf (show st.pos ≤ st.pos + byteLen [c] by omega)
  have hmap' : liftOps (getMap st.srcmap st.pos (st.pos + byteLen [c])) = .ok (x, y) := hmap
  have hsl' : liftOps (slice st.src st.pos (st.pos + byteLen [c])) = .ok [c] := by rw [hsl]; rfl
  have hout : trailingTextPush st.src st.srcmap st.children st.pos (st.pos + byteLen [c]) =
      .ok [Node.newText [c] (some (x, y))] := by
    unfold trailingTextPush
    simp only [hsl', hmap', hkids, popLast, List.nil_append]
  refine ⟨(x, y), ?_⟩
  by_cases hlv : st.level < cfg.maxNesting
  · exact step_text_run hc.text skip tok fuel st c [] [] hw
      (by simpa using Entity.nonStop_of_notPunct c hlc.np hlc.nl) (by simp) (trigger_label hc hlc) hlv _ hout
  · have hfc : firstChar st = .ok c := by simp only [firstChar, hw, liftR]
    have hb := byteLen_single c
    unfold tokStep
    simp only [if_neg hlv, hfc, ← hb, IState.pushText, hout, liftR]

/-! ## `rule(state, silent = false, …)` of `full_link.rs` on `pre[c]…` -/

/-- the part of `parse_link` behind the label: the inline form `(<dest> "title")`
    (`Link.parseInlineTail` with `unescape_all` as decoder), else the reference lookup -/
def afterLabel (cfg : Cfg) (skip : IState → Except Panic IState) (fuel : Nat) (st1 : IState)
    (labelStart labelEnd : Nat) : Except Panic (Option LinkRes × IState) :=
  match Link.parseInlineTail (Entity.unescapeAll cfg.entity) st1.src (labelEnd + 1) st1.posMax with
  | .error e => .error (.rust (RPanic.ofLink e))
  | .ok (some il) =>
    .ok (some { labelStart := labelStart, labelEnd := labelEnd, href := il.href, title := il.title,
                endPos := il.endPos }, st1)
  | .ok none => parseLinkRef cfg skip fuel st1 labelStart labelEnd

theorem parseLink_eq (cfg : Cfg) (skip : IState → Except Panic IState) (fuel : Nat) (st : IState)
    (pos : Nat) (en : Bool) :
    parseLink cfg skip fuel st pos en =
      match parseLinkLabel skip fuel st pos en with
      | .error e => .error e
      | .ok (none, st1) => .ok (none, st1)
      | .ok (some labelEnd, st1) => afterLabel cfg skip fuel st1 (pos + 1) labelEnd := rfl

/-- **the link / image rule body (real mode) on `pre[c]` ++ tail** at the start of a fresh state
    whose window is the whole source, when the part of `parse_link` behind the label yields `href`,
    `title` and the end of the source: it pushes `mk href title [Text c]` and answers a length that
    reaches the end -/
theorem linkRule_bracket {cfg : Cfg} (hc : TextChain cfg.chain) (f : Nat) (st : IState)
    (pre : List Char) (c : Char) (T : List Char) (mk : List Nat → Option (List Char) → Val) (en : Bool)
    (hlc : LabelChar c) (hsrc : st.src = pre ++ '[' :: c :: ']' :: T) (hpos : st.pos = 0)
    (hmax : st.posMax = byteLen st.src) (hcache : st.cache = []) (hkids : st.children = [])
    (hlv : st.level < cfg.maxNesting) (hwf : WFMap st.srcmap)
    (href : Option (List Nat)) (title : Option (List Char))
    (hafter : ∀ st1 : IState, st1.src = st.src → st1.posMax = st.posMax →
      afterLabel cfg (fun s => skipToken cfg (f + 2) s) (f + 2) st1 (byteLen pre + 1)
          (byteLen pre + 1 + byteLen [c]) =
        .ok (some ⟨byteLen pre + 1, byteLen pre + 1 + byteLen [c], href, title, byteLen st.src⟩, st1)) :
    ∃ n st4 r r', linkRule cfg (fun s => skipToken cfg (f + 2) s) (fun s => tokLoop cfg (f + 2) s.posMax s)
        (f + 2) mk en (byteLen pre) st false = .ok (some n, st4) ∧ st4.pos + n = byteLen st.src ∧
      st4.posMax = st.posMax ∧
      st4.children = [⟨mk (href.getD []) title, some r, [Node.newText [c] (some r')]⟩] := by
  obtain ⟨src, srcmap, pos, posMax, level, linkLevel, cache, bt, ch, bo⟩ := st
  simp only at hsrc hpos hmax hcache hkids hlv hwf hafter
  subst hcache hkids hpos
  have hlen : byteLen src = byteLen pre + 1 + byteLen [c] + 1 + byteLen T := by
    rw [hsrc]; exact byteLen_label pre c T
  have hlabel := parseLinkLabel_char hc (f + 1) f ⟨src, srcmap, 0, posMax, level, linkLevel, [], bt, [], bo⟩
    pre c T en hlc hsrc hmax rfl hlv
  simp only at hlabel
  have haft := hafter ⟨src, srcmap, 0, posMax, level, linkLevel,
    [(byteLen pre + 1, byteLen pre + 1 + byteLen [c])], bt, [], bo⟩ rfl rfl
  -- the nested tokenizer on the label window
  obtain ⟨r', hstep⟩ := tokStep_char hc (fun s => skipToken cfg (f + 1) s)
    (fun s => tokLoop cfg (f + 1) s.posMax s) (f + 1)
    ⟨src, srcmap, byteLen pre + 1, byteLen pre + 1 + byteLen [c], level + 1, linkLevel + 1,
      [(byteLen pre + 1, byteLen pre + 1 + byteLen [c])], bt, [], []⟩
    (pre ++ ['[']) (']' :: T) c hlc (by simp [hsrc]) (by simp [byteLen_append, byteLen_bracket])
    (by simp [byteLen_append, byteLen_bracket]) hwf rfl
  simp only at hstep
  have htok : tokLoop cfg (f + 2) (byteLen pre + 1 + byteLen [c])
      ⟨src, srcmap, byteLen pre + 1, byteLen pre + 1 + byteLen [c], level + 1, linkLevel + 1,
        [(byteLen pre + 1, byteLen pre + 1 + byteLen [c])], bt, [], []⟩ =
      .ok ⟨src, srcmap, byteLen pre + 1 + byteLen [c], byteLen pre + 1 + byteLen [c], level + 1,
        linkLevel + 1, [(byteLen pre + 1, byteLen pre + 1 + byteLen [c])],
        bt, [Node.newText [c] (some r')], []⟩ := by
    have hcpos : 0 < byteLen [c] := by rw [byteLen_single]; exact Char.utf8Size_pos c
    rw [tokLoop_step cfg (f + 1) _ (by show byteLen pre + 1 < byteLen pre + 1 + byteLen [c]; omega) hstep]
    exact tokLoop_done cfg _ _ (by simp)
  obtain ⟨x, y, hmap, -, -⟩ := getMap_ok
    (st := ⟨src, srcmap, byteLen pre + 1 + byteLen [c], byteLen pre + 1 + byteLen [c], level + 1,
        linkLevel + 1, [(byteLen pre + 1, byteLen pre + 1 + byteLen [c])],
        bt, [Node.newText [c] (some r')], []⟩) hwf (show 0 ≤ byteLen src by omega)
  refine ⟨byteLen src - (byteLen pre + 1 + byteLen [c]),
    ⟨src, srcmap, byteLen pre + 1 + byteLen [c], posMax, level + 1 - 1, linkLevel + 1 - 1,
      [(byteLen pre + 1, byteLen pre + 1 + byteLen [c])], bt,
      [⟨mk (href.getD []) title, some (x, y), [Node.newText [c] (some r')]⟩], bo⟩, (x, y), r', ?_, ?_, rfl, rfl⟩
  · simp only [linkRule, Nat.zero_add, parseLink_eq, hlabel, haft, Bool.false_eq_true, if_false, htok,
      Nat.add_eq_zero_iff, Nat.succ_ne_self, and_false, hmap, List.nil_append, liftR]
    rw [if_neg (by omega)]
  · show byteLen pre + 1 + byteLen [c] + (byteLen src - (byteLen pre + 1 + byteLen [c])) = byteLen src
    omega

/-! ## the whole inline parser on `pre[c]` ++ tail -/

/-- **`md.inline.parse(pre ++ "[c]" ++ tail)`** for a rule `r0` of the chain that, on this window,
    is `rule(.., enable_nested, |pre|, mk)` while every other rule of the chain is quiet at the first
    character `c0` (any well-formed per-line table; the source neither starts nor ends with a
    blank): `[mk href title [Text c]]` whenever the part of `parse_link` behind the label yields
    `href` / `title` and consumes the source to its end -/
theorem parseInline_pre {cfg : Cfg} (hc : TextChain cfg.chain) (hmaxn : 0 < cfg.maxNesting)
    (pre : List Char) (c : Char) (T : List Char) (mk : List Nat → Option (List Char) → Val) (en : Bool)
    (r0 : RuleId) (c0 : Char) (W' : List Char) (hW : pre ++ '[' :: c :: ']' :: T = c0 :: W')
    (hc0 : isSpTab c0 = false) (hmem : r0 ∈ cfg.chain) (hq : ∀ r ∈ cfg.chain, r ≠ r0 → trigger r c0 = false)
    (hr0 : ∀ (skip tok : IState → Except Panic IState) (fuel : Nat) (st : IState),
      st.window = .ok (pre ++ '[' :: c :: ']' :: T) →
      runRule cfg skip tok fuel r0 st false = linkRule cfg skip tok fuel mk en (byteLen pre) st false)
    (hlc : LabelChar c)
    (hlast : ∀ x ∈ (pre ++ '[' :: c :: ']' :: T).getLast?, isSpTab x = false)
    (mapping : Srcmap) (hwf : WFMap mapping) (href : Option (List Nat)) (title : Option (List Char))
    (hafter : ∀ (skip : IState → Except Panic IState) (fuel : Nat) (st1 : IState),
      st1.src = pre ++ '[' :: c :: ']' :: T → st1.posMax = byteLen (pre ++ '[' :: c :: ']' :: T) →
      afterLabel cfg skip fuel st1 (byteLen pre + 1) (byteLen pre + 1 + byteLen [c]) =
        .ok (some ⟨byteLen pre + 1, byteLen pre + 1 + byteLen [c], href, title,
          byteLen (pre ++ '[' :: c :: ']' :: T)⟩, st1)) :
    ∃ r r', parseInline cfg (pre ++ '[' :: c :: ']' :: T) mapping =
      .ok [⟨mk (href.getD []) title, some r, [Node.newText [c] (some r')]⟩] := by
  generalize hS : pre ++ '[' :: c :: ']' :: T = S at *
  have hSne : S ≠ [] := by rw [hW]; simp
  have htrim : trimSrc S = (0, byteLen S) := by
    have := trimSrc_mid [] S [] (by simp) (by simp) hSne
      (by intro x hx; rw [hW] at hx; simp at hx; subst hx; exact hc0) hlast
    simpa [byteLen] using this
  have h3 : 3 ≤ byteLen S := by
    have := Char.utf8Size_pos c
    rw [← hS, byteLen_label, byteLen_single]; omega
  obtain ⟨f, hf⟩ : ∃ f, topFuel cfg S = f + 3 := by
    refine ⟨topFuel cfg S - 3, ?_⟩
    unfold topFuel
    have : 1 * 3 ≤ (byteLen S + 2) * (cfg.maxNesting + 2) := Nat.mul_le_mul (by omega) (by omega)
    omega
  let st0 : IState := IState.init S mapping
  have e0 : st0.posMax = byteLen S := by show (trimSrc _).2 = _; rw [htrim]
  have e0' : st0.pos = 0 := by show (trimSrc _).1 = _; rw [htrim]
  have hw0 : st0.window = .ok S :=
    window_of_src (P := []) (W := S) (B := []) (by simp [st0, IState.init]) e0'
      (by rw [e0]; simp [byteLen])
  obtain ⟨n, st4, r, r', hrule, hn, hpm, hkids⟩ := linkRule_bracket hc f st0 pre c T mk en hlc hS.symm e0' e0
    rfl rfl (by show 0 < _; exact hmaxn) hwf href title
    (fun st1 h1 h2 => by
      have := hafter (fun s => skipToken cfg (f + 2) s) (f + 2) st1 h1 (by rw [h2, e0])
      exact this)
  rw [← hr0 _ _ _ st0 hw0] at hrule
  have hw0' : st0.window = .ok (c0 :: W') := by rw [hw0, hW]
  have hfirst := firstRule_only
    (fun id s => runRule cfg (fun s => skipToken cfg (f + 2) s) (fun s => tokLoop cfg (f + 2) s.posMax s)
      (f + 2) id s false) cfg.chain st0 r0 _ _ hmem hrule
    (fun r hr hne => runRule_quiet cfg _ _ (f + 2) r st0 _ _ hw0' (hq r hr hne))
  have hstep : tokStep cfg (fun s => skipToken cfg (f + 2) s) (fun s => tokLoop cfg (f + 2) s.posMax s)
      (f + 2) st0 = .ok { st4 with pos := st4.pos + n } := by
    unfold tokStep
    rw [if_pos (show st0.level < cfg.maxNesting from hmaxn)]
    simp only [hfirst]
  refine ⟨r, r', ?_⟩
  unfold parseInline tokenize
  show (match tokLoop cfg (topFuel cfg S) st0.posMax st0 with
    | .error e => (Except.error e : Except Panic (List Node)) | .ok st => .ok st.children) = _
  rw [hf, tokLoop_step cfg _ _ (by rw [e0', e0]; omega) hstep,
    tokLoop_done cfg _ _ (by show ¬ st4.pos + n < st0.posMax; rw [e0]; simp only [st0, IState.init] at hn; omega)]
  simp only [hkids]

/-- **`md.inline.parse("[c]" ++ tail)`**: `[Link{href, title}[Text c]]` -/
theorem parseInline_bracket {cfg : Cfg} (hc : LinkChain cfg.chain) (hmaxn : 0 < cfg.maxNesting)
    (c : Char) (T : List Char) (hlc : LabelChar c)
    (hlast : ∀ x ∈ ('[' :: c :: ']' :: T).getLast?, isSpTab x = false)
    (mapping : Srcmap) (hwf : WFMap mapping) (href : Option (List Nat)) (title : Option (List Char))
    (hafter : ∀ (skip : IState → Except Panic IState) (fuel : Nat) (st1 : IState),
      st1.src = '[' :: c :: ']' :: T → st1.posMax = byteLen ('[' :: c :: ']' :: T) →
      afterLabel cfg skip fuel st1 1 (1 + byteLen [c]) =
        .ok (some ⟨1, 1 + byteLen [c], href, title, byteLen ('[' :: c :: ']' :: T)⟩, st1)) :
    ∃ r r', parseInline cfg ('[' :: c :: ']' :: T) mapping =
      .ok [⟨.link (href.getD []) title, some r, [Node.newText [c] (some r')]⟩] := by
  have := parseInline_pre hc.toText hmaxn [] c T Val.link false .link '[' (c :: ']' :: T) rfl (by decide)
    hc.link (trigger_bracket hc)
    (fun skip tok fuel st hw => by
      have hw' : st.window = .ok ('[' :: c :: ']' :: T) := hw
      simp only [runRule, ruleLink, hw', liftR, ne_eq, not_true_eq_false, if_false]
      rfl)
    hlc hlast mapping hwf href title
    (fun skip fuel st1 h1 h2 => by
      have := hafter skip fuel st1 h1 h2
      simpa [byteLen] using this)
  simpa using this

/-- **`md.inline.parse("![c]" ++ tail)`**: `[Image{href, title}[Text c]]` -/
theorem parseInline_image {cfg : Cfg} (hc : ImageChain cfg.chain) (hmaxn : 0 < cfg.maxNesting)
    (c : Char) (T : List Char) (hlc : LabelChar c)
    (hlast : ∀ x ∈ ('!' :: '[' :: c :: ']' :: T).getLast?, isSpTab x = false)
    (mapping : Srcmap) (hwf : WFMap mapping) (href : Option (List Nat)) (title : Option (List Char))
    (hafter : ∀ (skip : IState → Except Panic IState) (fuel : Nat) (st1 : IState),
      st1.src = '!' :: '[' :: c :: ']' :: T → st1.posMax = byteLen ('!' :: '[' :: c :: ']' :: T) →
      afterLabel cfg skip fuel st1 2 (2 + byteLen [c]) =
        .ok (some ⟨2, 2 + byteLen [c], href, title, byteLen ('!' :: '[' :: c :: ']' :: T)⟩, st1)) :
    ∃ r r', parseInline cfg ('!' :: '[' :: c :: ']' :: T) mapping =
      .ok [⟨.image (href.getD []) title, some r, [Node.newText [c] (some r')]⟩] := by
  have hb : byteLen ['!'] = 1 := by decide
  have := parseInline_pre hc.toText hmaxn ['!'] c T Val.image true .image '!' ('[' :: c :: ']' :: T) rfl
    (by decide) hc.image (trigger_bang hc)
    (fun skip tok fuel st hw => by
      have hw' : st.window = .ok ('!' :: '[' :: c :: ']' :: T) := hw
      simp only [runRule, ruleImage, hw', liftR, hb])
    hlc hlast mapping hwf href title
    (fun skip fuel st1 h1 h2 => by
      have := hafter skip fuel st1 h1 h2
      rw [hb]
      simpa using this)
  simpa using this

/-! ## what comes behind the label -/

/-- the inline form: `Link.parseInlineTail` (positions in `Link.byteLen`) finds `(…)` reaching to
    the end of the source -/
theorem afterLabel_inline (cfg : Cfg) (skip : IState → Except Panic IState) (fuel : Nat) (st1 : IState)
    (pre : List Char) (c : Char) (T : List Char) (href : Option (List Nat)) (title : Option (List Char))
    (hsrc : st1.src = pre ++ '[' :: c :: ']' :: T) (hpm : st1.posMax = byteLen (pre ++ '[' :: c :: ']' :: T))
    (htail : Link.parseInlineTail (Entity.unescapeAll cfg.entity) ((pre ++ ['[', c, ']']) ++ T)
      (Link.byteLen (pre ++ ['[', c, ']'])) (Link.byteLen ((pre ++ ['[', c, ']']) ++ T)) =
        .ok (some ⟨href, title, Link.byteLen ((pre ++ ['[', c, ']']) ++ T)⟩)) :
    afterLabel cfg skip fuel st1 (byteLen pre + 1) (byteLen pre + 1 + byteLen [c]) =
      .ok (some ⟨byteLen pre + 1, byteLen pre + 1 + byteLen [c], href, title,
        byteLen (pre ++ '[' :: c :: ']' :: T)⟩, st1) := by
  have h1 : Link.byteLen (pre ++ ['[', c, ']']) = byteLen pre + 1 + byteLen [c] + 1 := by
    rw [linkByteLen_eq]; have := byteLen_label pre c []; simp only [byteLen] at this ⊢; omega
  have hs : (pre ++ ['[', c, ']']) ++ T = pre ++ '[' :: c :: ']' :: T := by simp
  have h2 : Link.byteLen ((pre ++ ['[', c, ']']) ++ T) = byteLen (pre ++ '[' :: c :: ']' :: T) := by
    rw [linkByteLen_eq, hs]
  rw [h1, h2, hs] at htail
  unfold afterLabel
  rw [hsrc, hpm]
  simp only [htail]

/-- the reference form on the source `[c]` alone: no `(`, no second label; the label `c` is looked
    up in the reference map -/
theorem afterLabel_ref (cfg : Cfg) (skip : IState → Except Panic IState) (fuel : Nat) (st1 : IState)
    (c : Char) (refs : Refs.RefMap) (e : Refs.Entry)
    (hsrc : st1.src = ['[', c, ']']) (hpm : st1.posMax = byteLen ['[', c, ']'])
    (hrefs : cfg.refs = some refs) (hlook : Refs.lookup cfg.normRef refs [c.toNat] = some e) :
    afterLabel cfg skip fuel st1 1 (1 + byteLen [c]) =
      .ok (some ⟨1, 1 + byteLen [c], some e.dest, e.title.map (fun t => t.map Char.ofNat),
        byteLen ['[', c, ']']⟩, st1) := by
  have hl := byteLen_label [] c []
  simp only [show byteLen ([] : List Char) = 0 from rfl, Nat.add_zero, Nat.zero_add, List.nil_append] at hl
  have h1 : Link.byteLen ['[', c, ']'] = 1 + byteLen [c] + 1 := by rw [linkByteLen_eq, hl]
  have hs : Link.slice ['[', c, ']'] (1 + byteLen [c] + 1) (1 + byteLen [c] + 1) = .ok [] :=
    (Link.slice_ok_iff _ _ _ _).mpr ⟨['[', c, ']'], [], by simp, h1, by simp [Link.byteLen]⟩
  have hs2 : slice ['[', c, ']'] (1 + byteLen [c] + 1) (1 + byteLen [c] + 1) = .ok [] :=
    (slice_ok_iff _ _ _ _).mpr ⟨['[', c, ']'], [], by simp, hl, by simp [byteLen]⟩
  have hs3 : slice ['[', c, ']'] 1 (1 + byteLen [c]) = .ok [c] :=
    (slice_ok_iff _ _ _ _).mpr ⟨['['], [']'], by simp, byteLen_bracket, rfl⟩
  unfold afterLabel
  rw [hsrc, hpm, hl]
  simp only [Link.parseInlineTail, hs, parseLinkRef, hsrc, hpm, hl, hs2, liftOps, liftR, hrefs, hs3,
    List.map_cons, List.map_nil, hlook]

end MdIt.Inline.C12X
