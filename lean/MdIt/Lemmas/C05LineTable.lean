/-
  C05, the offset table of a placeholder: what `get_lines(b, e, blk_indent, false)` builds.

  `Cut`, `Bdy`, `BrkAt`    selections of a string by byte offsets, character boundaries, line breaks;
                           `Cut s a b w` is "`s[a..b] = w`" independent of the two `slice` functions of
                           the models (`cut_iff_lines`, `cut_iff_ops`).
  `LSeg T src c hi x next` what ONE entry `x` of the table means in the content `c`, `next` the entry
                           behind it.  VIRTUAL: `next` carries the same source offset and the two keys
                           frame a run of spaces at a line start of `c` — the columns of a tab that
                           `blk_indent` splits; only with a tab in the source.  REAL: `c` holds at the
                           key a line-feed-free copy `t` of `src[v .. v + |t|]`, `v + |t| ≤ hi`, behind it
                           the end of `c`, or ONE line feed behind which the next key points, the next
                           offset strictly behind `v + |t|`; `T` (line terminators are known,
                           `TermOk`) puts a line break of the source at `v + |t|`.
  `mapOf_lseg` is the induction over the lines read, `getLines_lseg` and `heading_lseg` the two tables.

  What the later files say about these tables is an entry-wise weakening of `LSeg`: `C05I.Seg`
  (Lemmas/C05InlineTables.lean: `WFMap`, `MonoMapV`, `KeysLFV`, `UpTo`, `NoVirt`), `LSeg.virt`
  (Lemmas/C05TabsTable.lean: `VirtSp`), `C05R.fa_Seg` (Lemmas/C05RestFaith.lean: `PFth`), `C05T.tf_Seg`
  (Lemmas/C05TabsFaith.lean: `PFthV`).

  All byte lengths of the notions defined here are `InlineOps.byteLen` (`C05I.linesLen_eq` converts).
-/
import MdIt.Lemmas.C05BlockGeo
import MdIt.Props.Pipeline
import MdIt.Props.C05

namespace MdIt.C05I

theorem linesLen_eq (l : List Char) : Lines.byteLen l = InlineOps.byteLen l :=
  (congrFun C05.byteLen_eq_lines l).symm

end MdIt.C05I

namespace MdIt.C05R
open MdIt.InlineOps (Srcmap getSourcePosFor byteLen)
open MdIt.Lines (LineOffset)

/-- `s[a..b] = w` -/
def Cut (s : List Char) (a b : Nat) (w : List Char) : Prop :=
  ∃ p q, s = p ++ w ++ q ∧ byteLen p = a ∧ a + byteLen w = b

/-- `x` is a character boundary of `s` (`= Inline.Boundary`, `Block.Bd` up to `linesLen_eq`) -/
def Bdy (s : List Char) (x : Nat) : Prop := ∃ p q, s = p ++ q ∧ byteLen p = x

/-- no line break character -/
def NoBrk (w : List Char) : Prop := '\n' ∉ w ∧ '\r' ∉ w

/-- a line break character starts at byte `g` of `s` -/
def BrkAt (s : List Char) (g : Nat) : Prop :=
  ∃ p c q, s = p ++ c :: q ∧ byteLen p = g ∧ (c = '\n' ∨ c = '\r')

/-- clause 3 of C05 for the range `(a, b)` and the text `t`: if the range selects something without
    a line break, it selects `t` -/
def Sel (src : List Char) (a b : Nat) (t : List Char) : Prop :=
  ∀ w, Cut src a b w → NoBrk w → w = t

theorem cut_iff_ops (s : List Char) (a b : Nat) (w : List Char) :
    InlineOps.slice s a b = .ok w ↔ Cut s a b w := C05.slice_ok_iff s a b w

theorem cut_iff_lines (s : List Char) (a b : Nat) (w : List Char) :
    Lines.slice s a b = .ok w ↔ Cut s a b w := by
  rw [Lines.slice_eq_ok_iff]
  unfold Cut
  constructor
  · rintro ⟨p, q, h1, h2, h3⟩
    exact ⟨p, q, h1, by rw [← C05I.linesLen_eq]; exact h2, by rw [← C05I.linesLen_eq]; exact h3⟩
  · rintro ⟨p, q, h1, h2, h3⟩
    exact ⟨p, q, h1, by rw [C05I.linesLen_eq]; exact h2, by rw [C05I.linesLen_eq]; exact h3⟩

theorem bdy_iff_boundary (s : List Char) (x : Nat) : Bdy s x ↔ Inline.Boundary s x := Iff.rfl

theorem bdy_iff_bd (s : List Char) (x : Nat) : Bdy s x ↔ Block.Bd s x := by
  unfold Bdy Block.Bd
  constructor
  · rintro ⟨p, q, h1, h2⟩; exact ⟨p, q, h1, by rw [C05I.linesLen_eq]; exact h2⟩
  · rintro ⟨p, q, h1, h2⟩; exact ⟨p, q, h1, by rw [← C05I.linesLen_eq]; exact h2⟩

theorem Bdy.onBoundary {s : List Char} {x : Nat} (h : Bdy s x) : Lines.onBoundary s x = true :=
  ((bdy_iff_bd s x).mp h).onBoundary

theorem Bdy.le {s : List Char} {x : Nat} (h : Bdy s x) : x ≤ byteLen s := by
  obtain ⟨p, q, rfl, rfl⟩ := h
  rw [C05.byteLen_append]; omega

theorem prefix_unique {p p' r r' : List Char} (h : p ++ r = p' ++ r') (hl : byteLen p = byteLen p') :
    p = p' ∧ r = r' := by
  rw [C05.byteLen_eq_lines] at hl; exact Lines.append_inj_byteLen h hl

theorem Cut.unique {s : List Char} {a b : Nat} {w w' : List Char} (h : Cut s a b w) (h' : Cut s a b w') :
    w = w' := by
  obtain ⟨p, q, e, hp, hb⟩ := h
  obtain ⟨p', q', e', hp', hb'⟩ := h'
  have e2 : p ++ (w ++ q) = p' ++ (w' ++ q') := by
    rw [← List.append_assoc, ← List.append_assoc, ← e, ← e']
  obtain ⟨rfl, e3⟩ := prefix_unique e2 (by omega)
  exact (prefix_unique e3 (by omega)).1

theorem Cut.bdy_left {s : List Char} {a b : Nat} {w : List Char} (h : Cut s a b w) : Bdy s a := by
  obtain ⟨p, q, e, hp, _⟩ := h
  exact ⟨p, w ++ q, by rw [e, List.append_assoc], hp⟩

theorem Cut.bdy_right {s : List Char} {a b : Nat} {w : List Char} (h : Cut s a b w) : Bdy s b := by
  obtain ⟨p, q, e, hp, hb⟩ := h
  exact ⟨p ++ w, q, e, by rw [C05.byteLen_append]; omega⟩

theorem Cut.len {s : List Char} {a b : Nat} {w : List Char} (h : Cut s a b w) : a + byteLen w = b := by
  obtain ⟨_, _, _, _, hb⟩ := h; exact hb

theorem Cut.le {s : List Char} {a b : Nat} {w : List Char} (h : Cut s a b w) : a ≤ b := by
  obtain ⟨_, _, _, _, hb⟩ := h; omega

theorem Bdy.cut_nil {s : List Char} {x : Nat} (h : Bdy s x) : Cut s x x [] := by
  obtain ⟨p, q, e, hp⟩ := h
  exact ⟨p, q, by simpa using e, hp, by simp [byteLen]⟩

theorem Bdy.cut {s : List Char} {a b : Nat} (ha : Bdy s a) (hb : Bdy s b) (hab : a ≤ b) :
    ∃ w, Cut s a b w := by
  obtain ⟨p, q, e, hp⟩ := ha
  obtain ⟨p', q', e', hp'⟩ := hb
  obtain ⟨w, hw1, hw2⟩ := Inline.append_prefix p q p' q' (by rw [← e, ← e']) (by omega)
  refine ⟨w, p, q', ?_, hp, ?_⟩
  · rw [e', hw1]
  · have := congrArg byteLen hw1
    rw [C05.byteLen_append] at this; omega

theorem Sel.of_cut {src : List Char} {a b : Nat} {t : List Char} (h : Cut src a b t) : Sel src a b t :=
  fun _ hw _ => hw.unique h

theorem Cut.split {s : List Char} {a m b : Nat} {w : List Char} (h : Cut s a b w) (hm : Bdy s m)
    (h1 : a ≤ m) (h2 : m ≤ b) : ∃ w1 w2, w = w1 ++ w2 ∧ Cut s a m w1 ∧ Cut s m b w2 := by
  obtain ⟨w1, c1⟩ := h.bdy_left.cut hm h1
  obtain ⟨w2, c2⟩ := hm.cut h.bdy_right h2
  refine ⟨w1, w2, ?_, c1, c2⟩
  obtain ⟨p, q, e, hp, hb⟩ := c1
  obtain ⟨p', q', e', hp', hb'⟩ := c2
  -- `p' = p ++ w1`
  have e2 : (p ++ w1) ++ q = p' ++ (w2 ++ q') := by rw [← e, e', List.append_assoc]
  obtain ⟨e3, e4⟩ := prefix_unique e2 (by rw [C05.byteLen_append]; omega)
  have c3 : Cut s a b (w1 ++ w2) :=
    ⟨p, q', by rw [e', ← e3]; simp [List.append_assoc], hp, by rw [C05.byteLen_append]; omega⟩
  exact h.unique c3

theorem Cut.append {s : List Char} {a m b : Nat} {w1 w2 : List Char} (h1 : Cut s a m w1)
    (h2 : Cut s m b w2) : Cut s a b (w1 ++ w2) := by
  obtain ⟨w, hw⟩ := h1.bdy_left.cut h2.bdy_right (by have := h1.le; have := h2.le; omega)
  obtain ⟨x1, x2, e, c1, c2⟩ := hw.split h1.bdy_right h1.le h2.le
  rw [h1.unique c1, h2.unique c2, ← e]; exact hw

theorem BrkAt.mem_cut {s : List Char} {a b g : Nat} {w : List Char} (hg : BrkAt s g) (h : Cut s a b w)
    (h1 : a ≤ g) (h2 : g < b) : ¬ NoBrk w := by
  obtain ⟨p, c, q, e, hp, hc⟩ := hg
  have hb : Bdy s g := ⟨p, c :: q, e, hp⟩
  obtain ⟨w1, w2, rfl, c1, c2⟩ := h.split hb h1 (by omega)
  obtain ⟨p', q', e', hp', hb'⟩ := c2
  have e2 : p ++ (c :: q) = p' ++ (w2 ++ q') := by rw [← e, e', List.append_assoc]
  obtain ⟨_, e3⟩ := prefix_unique e2 (by omega)
  cases w2 with
  | nil => simp [byteLen] at hb'; omega
  | cons d w2' =>
    simp only [List.cons_append, List.cons.injEq] at e3
    obtain ⟨rfl, _⟩ := e3
    intro ⟨n1, n2⟩
    rcases hc with rfl | rfl
    · exact n1 (by simp)
    · exact n2 (by simp)

theorem BrkAt.lt {s : List Char} {g : Nat} (h : BrkAt s g) : g < byteLen s := by
  obtain ⟨p, c, q, rfl, rfl, _⟩ := h
  have := Char.utf8Size_pos c
  rw [C05.byteLen_append]; simp only [byteLen]; omega

theorem fa_cut_sub {s t w : List Char} {a x y : Nat} (h : Cut s a (a + byteLen t) t) (h2 : Cut t x y w) :
    Cut s (a + x) (a + y) w := by
  obtain ⟨p, q, e, hp, _⟩ := h
  obtain ⟨p', q', e', hp', hy⟩ := h2
  refine ⟨p ++ p', q' ++ q, ?_, ?_, ?_⟩
  · rw [e, e']; simp [List.append_assoc]
  · rw [C05.byteLen_append]; omega
  · omega

theorem fa_cut_subset {s w : List Char} {a b : Nat} (h : Cut s a b w) : ∀ ch ∈ w, ch ∈ s := by
  obtain ⟨p, q, e, _, _⟩ := h
  intro ch hc
  rw [e]; simp [hc]

theorem fa_cut_inside {pre t post w : List Char} {p q : Nat} (h : Cut (pre ++ t ++ post) p q w)
    (h1 : byteLen pre ≤ p) (h2 : q ≤ byteLen pre + byteLen t) :
    ∃ x y, p = byteLen pre + x ∧ q = byteLen pre + y ∧ Cut t x y w := by
  obtain ⟨P, Q, e, hP, hq⟩ := h
  have e1 : pre ++ (t ++ post) = P ++ (w ++ Q) := by
    rw [← List.append_assoc, ← List.append_assoc, ← e]
  obtain ⟨u, hu1, hu2⟩ := Inline.append_prefix pre (t ++ post) P (w ++ Q) e1 (by omega)
  have hlu : byteLen P = byteLen pre + byteLen u := by rw [hu1, C05.byteLen_append]
  have e2 : (u ++ w) ++ Q = t ++ post := by rw [hu2]; simp [List.append_assoc]
  obtain ⟨z, hz1, _⟩ := Inline.append_prefix (u ++ w) Q t post e2 (by rw [C05.byteLen_append]; omega)
  refine ⟨byteLen u, byteLen u + byteLen w, by omega, by omega, u, z, hz1, rfl, rfl⟩

theorem fa_mem_cut {s w P Q : List Char} {ch : Char} {a b : Nat} (h : Cut s a b w)
    (e : s = P ++ ch :: Q) (h1 : a ≤ byteLen P) (h2 : byteLen P < b) : ch ∈ w := by
  have hb : Bdy s (byteLen P) := ⟨P, ch :: Q, e, rfl⟩
  obtain ⟨w1, w2, rfl, c1, c2⟩ := h.split hb h1 (by omega)
  obtain ⟨p', q', e', hp', hb'⟩ := c2
  have e2 : P ++ (ch :: Q) = p' ++ (w2 ++ q') := by rw [← e, e', List.append_assoc]
  obtain ⟨_, e3⟩ := prefix_unique e2 (by omega)
  cases w2 with
  | nil => simp [byteLen] at hb'; omega
  | cons d w2' =>
    simp only [List.cons_append, List.cons.injEq] at e3
    obtain ⟨rfl, _⟩ := e3
    simp

/-- every line of the table ends at the end of the document or in front of a line break -/
def TermOk (src : List Char) (offs : List LineOffset) : Prop :=
  ∀ (k : Nat) (o : LineOffset), offs[k]? = some o → o.lineEnd = byteLen src ∨ BrkAt src o.lineEnd

end MdIt.C05R

namespace MdIt.Block
open MdIt.Lines (LineOffset)

/-- the lines of the table are strictly separated -/
def SortedS (offs : List LineOffset) : Prop :=
  ∀ (i j : Nat) (o o' : LineOffset), i < j → offs[i]? = some o → offs[j]? = some o' →
    o.lineEnd < o'.lineStart

end MdIt.Block

namespace MdIt.C05I
open MdIt.Lines
open MdIt.InlineOps (getSourcePosFor Srcmap)

/-- `R x next` at every entry `x` of the list, `next` the entry behind it -/
def SegAll (R : Nat × Nat → Option (Nat × Nat) → Prop) : Srcmap → Prop
  | [] => True
  | x :: r => R x r.head? ∧ SegAll R r

theorem segAll_get {R : Nat × Nat → Option (Nat × Nat) → Prop} :
    ∀ {l : Srcmap} {i : Nat} {x : Nat × Nat}, SegAll R l → l[i]? = some x → R x l[i + 1]?
  | [], i, x, _, h => by simp at h
  | y :: r, 0, x, hs, h => by
    simp only [List.getElem?_cons_zero, Option.some.injEq] at h
    subst h
    have : (y :: r)[0 + 1]? = r.head? := by simp [List.head?_eq_getElem?]
    rw [this]
    exact hs.1
  | y :: r, i + 1, x, hs, h => by
    simp only [List.getElem?_cons_succ] at h ⊢
    exact segAll_get hs.2 h

theorem segAll_append_nil {R : Nat × Nat → Option (Nat × Nat) → Prop} (l : Srcmap) :
    SegAll R (l ++ []) ↔ SegAll R l := by simp

theorem pairwise_of_segAll {R : Nat × Nat → Option (Nat × Nat) → Prop}
    (hR : ∀ x y, R x (some y) → x.1 < y.1) :
    ∀ (l : Srcmap), SegAll R l → (l.map Prod.fst).Pairwise (· < ·)
  | [], _ => by simp
  | [x], _ => by simp
  | x :: y :: r, hs => by
    have ih := pairwise_of_segAll hR (y :: r) hs.2
    have hxy : x.1 < y.1 := hR x y (by simpa using hs.1)
    simp only [List.map_cons, List.pairwise_cons] at ih ⊢
    refine ⟨?_, ih⟩
    intro a ha
    simp only [List.mem_cons] at ha
    rcases ha with rfl | ha
    · exact hxy
    · have := ih.1 a ha
      omega

theorem SegAll.imp {R R' : Nat × Nat → Option (Nat × Nat) → Prop} (h : ∀ x n, R x n → R' x n) :
    ∀ {l : Srcmap}, SegAll R l → SegAll R' l
  | [], _ => trivial
  | _ :: _, hs => ⟨h _ _ hs.1, SegAll.imp h hs.2⟩

theorem mapOf_head (indent p : Nat) (o : LineOffset) (v : List Char × List Char × Int)
    (r : List (LineOffset × (List Char × List Char × Int))) :
    (mapOf indent p ((o, v) :: r)).head?
      = some (p, o.lineStart + (calcRightWs v.1 (v.2.2 - usizeAsI32 indent)).2) := by
  simp [mapOf]

theorem calcGo_fst_zero (k : Int) (start : Nat) (l : List Char) (h : '\t' ∉ l) : (calcGo k start l).1 = 0 := by
  induction l generalizing k start with
  | nil => simp only [calcGo]; split <;> rfl
  | cons c r ih =>
    simp only [List.mem_cons, not_or] at h
    simp only [calcGo]
    split
    · rw [if_neg (fun e => h.1 e.symm)]
      exact ih _ _ h.2
    · rfl

theorem calcRightWs_fst_zero (ws : List Char) (k : Int) (h : '\t' ∉ ws) : (calcRightWs ws k).1 = 0 :=
  calcGo_fst_zero _ _ _ (by simpa using h)

end MdIt.C05I

-- from here on `byteLen` is `InlineOps.byteLen` (above: `Lines.byteLen`, as in `Lines.mapOf`)
namespace MdIt.C05I
open MdIt.InlineOps (Srcmap byteLen)
open MdIt.Lines (LineOffset Shows mapOf viewPiece joinLines calcRightWs usizeAsI32 dropB)
open MdIt.C05R (Cut Bdy BrkAt TermOk)

theorem byteLen_spaces (n : Nat) : byteLen (List.replicate n ' ') = n := by
  exact C05.byteLen_replicate (by decide) n

/-- what one line contributes: `replicate virt ' ' ++ t`, `t` a line-feed-free copy of the source
    bytes from the table's offset to the end of the line -/
theorem line_piece {src : List Char} {o : LineOffset} {v : List Char × List Char × Int} {indent : Nat}
    {cc : Nat × Nat} {t : List Char} (hs : Shows src o v) (hn1 : '\n' ∉ v.1) (hn2 : '\n' ∉ v.2.1)
    (hcc : calcRightWs v.1 (v.2.2 - usizeAsI32 indent) = cc) (ht : dropB v.1 cc.2 ++ v.2.1 = t) :
    Cut src (o.lineStart + cc.2) (o.lineStart + cc.2 + byteLen t) t ∧
      o.lineStart + cc.2 + byteLen t = o.lineEnd ∧ '\n' ∉ t ∧
      viewPiece indent v = List.replicate cc.1 ' ' ++ t := by
  subst hcc ht
  have h1 := Lines.slice_from_view hs.1 hs.2.1 (v.2.2 - usizeAsI32 indent)
  have h2 := (C05R.cut_iff_lines _ _ _ _).mp h1
  have h3 : o.lineStart + (calcRightWs v.1 (v.2.2 - usizeAsI32 indent)).2
      + byteLen (dropB v.1 (calcRightWs v.1 (v.2.2 - usizeAsI32 indent)).2 ++ v.2.1) = o.lineEnd := by
    obtain ⟨_, _, _, _, h⟩ := h2
    exact h
  refine ⟨by rw [h3]; exact h2, h3, ?_, by simp [viewPiece, List.append_assoc]⟩
  intro hm
  rcases List.mem_append.mp hm with hm | hm
  · exact hn1 ((Lines.dropB_suffix _ _).subset hm)
  · exact hn2 hm

theorem mapOf_cons (indent p : Nat) (o : LineOffset) (v : List Char × List Char × Int)
    (r : List (LineOffset × (List Char × List Char × Int))) :
    mapOf indent p ((o, v) :: r)
      = ((p, o.lineStart + (calcRightWs v.1 (v.2.2 - usizeAsI32 indent)).2) ::
          (if (calcRightWs v.1 (v.2.2 - usizeAsI32 indent)).1 > 0 then
            [(p + (calcRightWs v.1 (v.2.2 - usizeAsI32 indent)).1,
              o.lineStart + (calcRightWs v.1 (v.2.2 - usizeAsI32 indent)).2)] else []))
        ++ mapOf indent (p + byteLen (viewPiece indent v) + 1) r := by
  rw [← linesLen_eq]; rfl

theorem shows_tab {src : List Char} {o : LineOffset} {v : List Char × List Char × Int} (hs : Shows src o v)
    {k : Int} (h : (calcRightWs v.1 k).1 > 0) : '\t' ∈ src := by
  by_cases ht : '\t' ∈ v.1
  · obtain ⟨p, q, hsrc, _, _⟩ := Lines.slice_eq_ok_iff.mp hs.1
    rw [hsrc]; simp [ht]
  · rw [calcRightWs_fst_zero _ _ ht] at h; omega

/-- entry `x` of the table of `get_lines` in the content `c`, `next` the entry behind it: virtual or
    real -/
def LSeg (T : Prop) (src c : List Char) (hi : Nat) (x : Nat × Nat) (next : Option (Nat × Nat)) : Prop :=
  (∃ k', next = some (k', x.2) ∧ Bdy src x.2 ∧ x.2 ≤ hi ∧ '\t' ∈ src ∧
    ∃ pre n post, c = pre ++ List.replicate n ' ' ++ post ∧ byteLen pre = x.1 ∧ k' = x.1 + n ∧ 0 < n ∧
      (pre = [] ∨ ∃ pre', pre = pre' ++ ['\n'])) ∨
  (∃ pre t post, c = pre ++ t ++ post ∧ byteLen pre = x.1 ∧ '\n' ∉ t ∧
    Cut src x.2 (x.2 + byteLen t) t ∧ x.2 + byteLen t ≤ hi ∧
    match next with
    | none => post = []
    | some y => ∃ post', post = '\n' :: post' ∧ y.1 = x.1 + byteLen t + 1 ∧ x.2 + byteLen t < y.2 ∧
        (T → BrkAt src (x.2 + byteLen t)))

/-- the entries of ONE line (a real one, preceded by a virtual one iff `n > 0`) in front of the
    entries `M` of the following lines -/
theorem lseg_line {T : Prop} {src C pre TT POST : List Char} {n V hi : Nat} {M : Srcmap}
    (hC : C = pre ++ List.replicate n ' ' ++ TT ++ POST) (hcut : Cut src V (V + byteLen TT) TT)
    (hle : V + byteLen TT ≤ hi) (htab : n > 0 → '\t' ∈ src)
    (hpre : pre = [] ∨ ∃ pre', pre = pre' ++ ['\n'])
    (hreal : LSeg T src C hi (byteLen pre + n, V) M.head?) (hM : SegAll (LSeg T src C hi) M) :
    SegAll (LSeg T src C hi)
      (((byteLen pre, V) :: (if n > 0 then [(byteLen pre + n, V)] else [])) ++ M) := by
  by_cases hn : n > 0
  · simp only [hn, if_true, List.cons_append, List.nil_append, SegAll, List.head?_cons]
    exact ⟨.inl ⟨byteLen pre + n, rfl, hcut.bdy_left, by omega, htab hn, pre, n, TT ++ POST,
      by rw [hC]; simp [List.append_assoc], rfl, rfl, hn, hpre⟩, hreal, hM⟩
  · have h0 : n = 0 := by omega
    subst h0
    simp only [Nat.lt_irrefl, if_false, List.cons_append, List.nil_append, SegAll, gt_iff_lt]
    exact ⟨by simpa using hreal, hM⟩

/-- consecutive lines are strictly separated and (if `T`) every line but the last ends in front of a
    line break -/
def LChain (T : Prop) (src : List Char) : List LineOffset → Prop
  | [] => True
  | [_] => True
  | a :: b :: r => a.lineEnd < b.lineStart ∧ (T → BrkAt src a.lineEnd) ∧ LChain T src (b :: r)

theorem lchain_of {T : Prop} {src : List Char} : ∀ (l : List LineOffset),
    (∀ j a a', l[j]? = some a → l[j + 1]? = some a' → a.lineEnd < a'.lineStart ∧ (T → BrkAt src a.lineEnd)) →
    LChain T src l
  | [], _ => trivial
  | [_], _ => trivial
  | a :: a' :: r, h =>
    ⟨(h 0 a a' rfl rfl).1, (h 0 a a' rfl rfl).2,
      lchain_of (a' :: r) (fun j x y hx hy => h (j + 1) x y (by simpa using hx) (by simpa using hy))⟩

/-- **every entry of the table of `get_lines` is `LSeg`**: the table `mapOf indent |pre| ovs` in the
    content `pre ++ joinLines …`, `pre` what was read before (empty, or ending with the line feed) -/
theorem mapOf_lseg (T : Prop) (src : List Char) (indent hi : Nat) :
    ∀ (ovs : List (LineOffset × (List Char × List Char × Int))) (pre : List Char),
      (∀ ov ∈ ovs, Shows src ov.1 ov.2 ∧ '\n' ∉ ov.2.1 ∧ '\n' ∉ ov.2.2.1 ∧ ov.1.lineEnd ≤ hi) →
      LChain T src (ovs.map (·.1)) → (pre = [] ∨ ∃ pre', pre = pre' ++ ['\n']) →
      SegAll (LSeg T src (pre ++ joinLines false (ovs.map fun ov => viewPiece indent ov.2)) hi)
        (mapOf indent (byteLen pre) ovs) := by
  intro ovs
  induction ovs with
  | nil => intro pre _ _ _; simp [mapOf, SegAll]
  | cons ov rest ih =>
    intro pre hs hc hpre
    obtain ⟨o, v⟩ := ov
    obtain ⟨hsh, hn1, hn2, hhi⟩ := hs (o, v) (by simp)
    simp only at hsh hn1 hn2 hhi
    obtain ⟨hcut, hend, hnt, hvp⟩ := line_piece (indent := indent) hsh hn1 hn2 rfl rfl
    have htab := shows_tab hsh (k := v.2.2 - usizeAsI32 indent)
    have hbl : byteLen (viewPiece indent v) = (calcRightWs v.1 (v.2.2 - usizeAsI32 indent)).1
        + byteLen (dropB v.1 (calcRightWs v.1 (v.2.2 - usizeAsI32 indent)).2 ++ v.2.1) := by
      rw [hvp, C05.byteLen_append, byteLen_spaces]
    rw [mapOf_cons]
    generalize hcc : calcRightWs v.1 (v.2.2 - usizeAsI32 indent) = cc at *
    generalize ht : dropB v.1 cc.2 ++ v.2.1 = TT at *
    have hpre' : byteLen (pre ++ List.replicate cc.1 ' ') = byteLen pre + cc.1 := by
      rw [C05.byteLen_append, byteLen_spaces]
    have hle : o.lineStart + cc.2 + byteLen TT ≤ hi := by omega
    cases rest with
    | nil =>
      have hC : pre ++ joinLines false ([(o, v)].map fun ov => viewPiece indent ov.2)
          = pre ++ List.replicate cc.1 ' ' ++ TT ++ [] := by
        simp [joinLines, hvp, List.append_assoc]
      have := lseg_line (T := T) (M := []) hC hcut hle htab hpre
        (.inr ⟨pre ++ List.replicate cc.1 ' ', TT, [], hC, hpre', hnt, hcut, hle, rfl⟩) trivial
      simpa [mapOf] using this
    | cons ov2 rest' =>
      obtain ⟨o2, v2⟩ := ov2
      obtain ⟨hc1, hc2, hc3⟩ := hc
      simp only at hc1 hc2
      have ih' := ih (pre ++ viewPiece indent v ++ ['\n'])
        (fun ov h => hs ov (List.mem_cons_of_mem _ h)) hc3 (.inr ⟨pre ++ viewPiece indent v, rfl⟩)
      have hcontent : pre ++ joinLines false (((o, v) :: (o2, v2) :: rest').map fun ov => viewPiece indent ov.2)
          = (pre ++ viewPiece indent v ++ ['\n']) ++
            joinLines false (((o2, v2) :: rest').map fun ov => viewPiece indent ov.2) := by
        simp [joinLines, List.append_assoc]
      have hpos : byteLen (pre ++ viewPiece indent v ++ ['\n'])
          = byteLen pre + byteLen (viewPiece indent v) + 1 := by
        simp only [C05.byteLen_append, byteLen, show '\n'.utf8Size = 1 by decide]
      have hC : pre ++ joinLines false (((o, v) :: (o2, v2) :: rest').map fun ov => viewPiece indent ov.2)
          = pre ++ List.replicate cc.1 ' ' ++ TT ++
            '\n' :: joinLines false (((o2, v2) :: rest').map fun ov => viewPiece indent ov.2) := by
        simp [joinLines, hvp, List.append_assoc]
      rw [hpos, ← hcontent] at ih'
      have hhead := mapOf_head indent (byteLen pre + byteLen (viewPiece indent v) + 1) o2 v2 rest'
      have hst2 := (Lines.calc_right_le v2.1 (v2.2.2 - usizeAsI32 indent))
      apply lseg_line hC hcut hle htab hpre _ ih'
      rw [hhead]
      refine .inr ⟨pre ++ List.replicate cc.1 ' ', TT, _, hC, hpre', hnt, hcut, hle, _, rfl, ?_, ?_, ?_⟩
      · simp only; omega
      · simp only; omega
      · simp only; rw [hend]; exact hc2

theorem shows_of_tableOk {src : List Char} {offs : List LineOffset}
    (hT : ∀ (k : Nat) (o : LineOffset), offs[k]? = some o → Block.LineOk src o) :
    ∀ (n b : Nat), b + n ≤ offs.length →
      ∃ ovs : List (LineOffset × (List Char × List Char × Int)), ovs.length = n ∧
        ∀ j (h : j < ovs.length), offs[b + j]? = some ovs[j].1 ∧ Shows src ovs[j].1 ovs[j].2 ∧
          '\n' ∉ ovs[j].2.1 ∧ '\n' ∉ ovs[j].2.2.1 := by
  intro n
  induction n with
  | zero => intro b _; exact ⟨[], rfl, fun j h => by simp at h⟩
  | succ n ih =>
    intro b hb
    have hk : b < offs.length := by omega
    obtain ⟨v, hv, hn1, hn2⟩ := Block.shows_of_lineOk (hT b offs[b] (List.getElem?_eq_getElem hk))
    obtain ⟨ovs, hvl, hvs⟩ := ih (b + 1) (by omega)
    refine ⟨(offs[b], v) :: ovs, by simp [hvl], ?_⟩
    intro j hj
    cases j with
    | zero => exact ⟨by simp, hv, hn1, hn2⟩
    | succ j =>
      obtain ⟨ho, hs⟩ := hvs j (by simp at hj; omega)
      exact ⟨by rw [show b + (j + 1) = b + 1 + j by omega, ho]; simp, by simpa using hs⟩

theorem getLines_last {src : List Char} {offs : List LineOffset} {b e indent : Nat} {keep : Bool}
    {r : List Char × Srcmap} (hbe : b < e) (h : Lines.getLines src offs b e indent keep = .ok r) :
    ∃ oe, offs[e - 1]? = some oe := by
  unfold Lines.getLines at h
  rw [if_neg (by omega)] at h
  have := Lines.getLinesGo_ok_len h hbe
  exact ⟨_, List.getElem?_eq_getElem (show e - 1 < offs.length by omega)⟩

theorem getLines_views {src : List Char} {offs : List LineOffset}
    (hT : ∀ (k : Nat) (o : LineOffset), offs[k]? = some o → Block.LineOk src o)
    {b e indent : Nat} {c : List Char} {m : Srcmap} (hbe : b < e)
    (h : Lines.getLines src offs b e indent false = .ok (c, m)) :
    ∃ ovs : List (LineOffset × (List Char × List Char × Int)), b + ovs.length = e ∧
      (∀ j (h : j < ovs.length), offs[b + j]? = some ovs[j].1 ∧ Shows src ovs[j].1 ovs[j].2 ∧
        '\n' ∉ ovs[j].2.1 ∧ '\n' ∉ ovs[j].2.2.1) ∧
      c = joinLines false (ovs.map fun ov => viewPiece indent ov.2) ∧ m = mapOf indent 0 ovs := by
  obtain ⟨oe, hoe⟩ := getLines_last hbe h
  have hlen := (List.getElem?_eq_some_iff.mp hoe).1
  obtain ⟨ovs, hvl, hv⟩ := shows_of_tableOk hT (e - b) b (by omega)
  obtain ⟨content, hget, hcontent, _⟩ :=
    Lines.get_lines_faithful src offs b indent false ovs (fun j hj => ⟨(hv j hj).1, (hv j hj).2.1⟩)
  rw [hvl, show b + (e - b) = e by omega, h] at hget
  simp only [Except.ok.injEq, Prod.mk.injEq] at hget
  exact ⟨ovs, by omega, hv, hget.1.trans hcontent, hget.2⟩

/-- **the table of `get_lines(b, e, indent, false)`**, entry by entry, on a table whose entries cut
    line-feed-free lines out of the source (`LineOk`), strictly separated; with `T`: each ending in
    front of a line break or at the end of the source (`TermOk`) -/
theorem getLines_lseg {T : Prop} {src : List Char} {offs : List LineOffset}
    (hT : ∀ (k : Nat) (o : LineOffset), offs[k]? = some o → Block.LineOk src o)
    (hord : Block.SortedS offs) (hterm : T → TermOk src offs)
    {b e indent : Nat} {c : List Char} {m : Srcmap} (hbe : b < e)
    (h : Lines.getLines src offs b e indent false = .ok (c, m)) {oe : LineOffset}
    (hoe : offs[e - 1]? = some oe) :
    SegAll (LSeg T src c oe.lineEnd) m ∧ ∃ v rest, m = (0, v) :: rest := by
  obtain ⟨ovs, hvl, hv, rfl, rfl⟩ := getLines_views hT hbe h
  have hseg := mapOf_lseg T src indent oe.lineEnd ovs [] (by
    intro ov hov
    obtain ⟨j, hj, rfl⟩ := List.getElem_of_mem hov
    refine ⟨(hv j hj).2.1, (hv j hj).2.2.1, (hv j hj).2.2.2, ?_⟩
    rcases Nat.lt_or_ge (b + j) (e - 1) with hlt | hge
    · have := hord _ _ _ _ hlt (hv j hj).1 hoe
      have := (hT _ _ hoe).bounds
      omega
    · have ho := (hv j hj).1
      rw [show b + j = e - 1 by omega, hoe] at ho
      cases ho
      exact Nat.le_refl _) (by
    apply lchain_of
    intro j a a' ha ha'
    simp only [List.getElem?_map, Option.map_eq_some_iff] at ha ha'
    obtain ⟨x, hx, rfl⟩ := ha
    obtain ⟨y, hy, rfl⟩ := ha'
    obtain ⟨hj, rfl⟩ := List.getElem?_eq_some_iff.mp hx
    obtain ⟨hj', rfl⟩ := List.getElem?_eq_some_iff.mp hy
    have h1 := hord (b + j) (b + (j + 1)) _ _ (by omega) (hv j hj).1 (hv (j + 1) hj').1
    refine ⟨h1, fun ht => ?_⟩
    rcases hterm ht _ _ (hv j hj).1 with h2 | h2
    · exfalso
      have := (hT _ _ (hv (j + 1) hj').1).bounds
      rw [linesLen_eq] at this
      omega
    · exact h2) (.inl rfl)
  simp only [List.nil_append, byteLen] at hseg
  refine ⟨hseg, ?_⟩
  cases ovs with
  | nil => simp at hvl; omega
  | cons ov r => exact ⟨_, _, rfl⟩

end MdIt.C05I

namespace MdIt.C05R
open MdIt.InlineOps (byteLen)
open MdIt.Lines (LineOffset)

theorem fa_heading_cut {src : List Char} {o : LineOffset} (hl : Block.LineOk src o)
    {line content : List Char} {textPos textMax : Nat}
    (hline : Lines.slice src o.firstNonspace o.lineEnd = .ok line)
    (hcontent : Lines.slice line textPos textMax = .ok content) :
    Cut src (o.firstNonspace + textPos) (o.firstNonspace + textPos + byteLen content) content ∧
      '\n' ∉ content := by
  have h1 := (cut_iff_lines _ _ _ _).mp hline
  have h2 := (cut_iff_lines _ _ _ _).mp hcontent
  have h1' : Cut src o.firstNonspace (o.firstNonspace + byteLen line) line := by
    have hh := h1
    obtain ⟨_, _, _, _, h⟩ := hh
    rw [h]; exact h1
  have h3 := fa_cut_sub h1' h2
  have h4 : textPos + byteLen content = textMax := by
    have hh := h2
    obtain ⟨_, _, _, _, h⟩ := hh
    exact h
  refine ⟨by rw [Nat.add_assoc, h4]; exact h3, ?_⟩
  -- the line text is the `b` of `LineOk`
  obtain ⟨p, a, b, q, hsrc, hp, hfn, hle, _, hb⟩ := hl
  have h5 : Cut src o.firstNonspace o.lineEnd b :=
    ⟨p ++ a, q, hsrc, by rw [C05.byteLen_append, ← C05I.linesLen_eq, ← C05I.linesLen_eq]; omega,
      by rw [← C05I.linesLen_eq]; omega⟩
  have h6 : line = b := h1.unique h5
  intro hm
  exact hb (h6 ▸ fa_cut_subset h2 _ hm)

end MdIt.C05R

namespace MdIt.C05I
open MdIt.InlineOps (Srcmap byteLen)
open MdIt.Lines (LineOffset)

/-- **the table `[(0, first_nonspace + text_pos)]` of an ATX heading**: one real entry, the content a
    line-feed-free slice of the line -/
theorem heading_lseg {T : Prop} {s : Block.BState} {o : LineOffset} (hl : Block.LineOk s.src o)
    (ho : s.offs[s.line]? = some o) {line content : List Char} {textPos textMax : Nat}
    (hline : s.getLine s.line = .ok line)
    (hcontent : Block.liftL (Lines.slice line textPos textMax) = .ok content) :
    SegAll (LSeg T s.src content o.lineEnd) [(0, o.firstNonspace + textPos)] := by
  have h1 : Lines.getLine s.src s.offs s.line = .ok line := Block.liftL_ok5 hline
  unfold Lines.getLine at h1
  rw [ho] at h1
  simp only at h1
  obtain ⟨hc, hn⟩ := C05R.fa_heading_cut hl h1 (Block.liftL_ok5 hcontent)
  obtain ⟨_, _, _, _, h2⟩ := Lines.slice_eq_ok_iff.mp h1
  obtain ⟨p, q, h3, h4, h5⟩ := Lines.slice_eq_ok_iff.mp (Block.liftL_ok5 hcontent)
  have hlen := congrArg Lines.byteLen h3
  simp only [linesLen_eq, C05.byteLen_append] at hlen h2 h4 h5
  exact ⟨.inr ⟨[], content, [], by simp, rfl, hn, hc, by omega, rfl⟩, trivial⟩

end MdIt.C05I
