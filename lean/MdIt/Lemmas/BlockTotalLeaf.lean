/-
  Error lemmas (`<rule>_err`, see `BlockTotalErr.lean`) and their no-panic instances `<rule>_np` of the
  rules that do not nest: hr, heading, code, fence, and (given the errors of the shared `lazyScan`)
  paragraph and lheading.
-/
import MdIt.Lemmas.BlockTotalCore

namespace MdIt.Block
open MdIt.Lines (LineOffset)

theorem hr_err {E : Panic → Prop} {s : BState} {silent : Bool} (hP : PrimIn E (AtLine s)) :
    ErrIn E (hrRule s silent) := by
  unfold hrRule
  refine .bind (hP.prim fun hC => lineIndent_total hC.lt) fun ind _ => ?_
  refine .orElse fun _ => ?_
  refine .bind (hP.prim fun hC => getLine_total hC.1.table hC.lt) fun line _ => ?_
  rcases line with _ | ⟨marker, rest⟩
  · exact .pure _
  refine .orElse fun _ => ?_
  cases hrCount marker rest 1 with
  | none => exact .pure _
  | some cnt =>
    refine .orElse fun _ => ?_
    refine .orElse fun _ => ?_
    refine .bind (hP.prim fun hC => getMap_total (Nat.le_refl _) hC.lt) fun r _ => ?_
    exact .pure _

theorem hr_np {s : BState} {silent : Bool} (hI : BInv s) (hl : s.line < s.lineMax) :
    NoPanic (hrRule s silent) := hr_err (.inl ⟨hI, hl⟩)

/-! ### heading -/

theorem byteLen_hashes (hs : List Char) (h : ∀ c ∈ hs, c = '#') : Lines.byteLen hs = hs.length :=
  Lines.byteLen_ascii hs fun c hc => by rw [h c hc]; decide

theorem atxOpen_shape : ∀ (l : List Char) (lvl level textPos : Nat) (rest : List Char),
    atxOpen l lvl = some (level, textPos, rest) →
    ∃ hs : List Char, (∀ c ∈ hs, c = '#') ∧ textPos = lvl + hs.length ∧
      ((l = hs ∧ rest = []) ∨ ∃ b, (b = ' ' ∨ b = '\t') ∧ l = hs ++ b :: rest)
  | [], lvl, level, textPos, rest, h => by
    simp [atxOpen] at h
    exact ⟨[], by simp, by simp [h.2.1.symm], .inl ⟨rfl, h.2.2⟩⟩
  | c :: r, lvl, level, textPos, rest, h => by
    simp only [atxOpen] at h
    split at h
    · split at h
      · cases h
      · obtain ⟨hs, h1, h2, h3⟩ := atxOpen_shape r (lvl + 1) level textPos rest h
        rename_i hc _
        subst hc
        refine ⟨'#' :: hs, ?_, by simp; omega, ?_⟩
        · intro x hx; simp at hx; rcases hx with rfl | hx; rfl; exact h1 x hx
        · rcases h3 with ⟨rfl, rfl⟩ | ⟨b, hb, rfl⟩
          · exact .inl ⟨rfl, rfl⟩
          · exact .inr ⟨b, hb, rfl⟩
    · split at h
      · rename_i hb
        simp at h
        obtain ⟨_, rfl, rfl⟩ := h
        exact ⟨[], by simp, by simp, .inr ⟨c, hb, rfl⟩⟩
      · cases h

theorem heading_slice_total {line rest : List Char} {level textPos : Nat}
    (h : atxOpen line 0 = some (level, textPos, rest)) :
    ∃ r, Lines.slice line textPos (atxTextMax line rest textPos) = .ok r := by
  obtain ⟨hs, hhs, htp, hcase⟩ := atxOpen_shape _ _ _ _ _ h
  have hbl := byteLen_hashes hs hhs
  have htp' : textPos = Lines.byteLen hs := by omega
  unfold atxTextMax
  split
  · -- nothing behind the closing sequence
    rcases hcase with ⟨rfl, rfl⟩ | ⟨b, hb, rfl⟩
    · exact ⟨[], by rw [htp']; exact Lines.slice_eq_ok_iff.mpr ⟨line, [], by simp, rfl, by simp⟩⟩
    · exact ⟨[], by rw [htp']; exact Lines.slice_eq_ok_iff.mpr ⟨hs, b :: rest, by simp, rfl, by simp⟩⟩
  · rename_i c r' hR
    split
    · rename_i hc
      rcases hcase with ⟨rfl, rfl⟩ | ⟨b, hb, rfl⟩
      · simp at hR
      · have hsuf : (c :: r') <:+ rest.reverse := by
          rw [← hR]
          exact (List.dropWhile_suffix _).trans (List.dropWhile_suffix _)
        obtain ⟨X, hX⟩ := hsuf
        have hrest : rest = r'.reverse ++ [c] ++ X.reverse := by
          have := congrArg List.reverse hX
          simp at this
          rw [← this]; simp
        have hc1 : c.utf8Size = 1 := by
          simp [isBlank] at hc; rcases hc with rfl | rfl <;> decide
        have hb1 : b.utf8Size = 1 := by rcases hb with rfl | rfl <;> decide
        refine ⟨[b] ++ r'.reverse ++ [c], ?_⟩
        rw [htp']
        refine Lines.slice_eq_ok_iff.mpr ⟨hs, X.reverse, by rw [hrest]; simp, rfl, ?_⟩
        simp [hc1, hb1]; omega
    · refine ⟨line.drop hs.length, ?_⟩
      rw [htp']
      refine Lines.slice_eq_ok_iff.mpr ⟨hs, [], ?_, rfl, ?_⟩
      · rcases hcase with ⟨rfl, rfl⟩ | ⟨b, hb, rfl⟩ <;> simp
      · rcases hcase with ⟨rfl, rfl⟩ | ⟨b, hb, rfl⟩ <;> simp

theorem heading_err {E : Panic → Prop} {s : BState} {silent : Bool}
    (hP : PrimIn E (AtLine s)) : ErrIn E (headingRule s silent) := by
  unfold headingRule
  refine .bind (hP.prim fun hC => lineIndent_total hC.lt) fun ind _ => ?_
  refine .orElse fun _ => ?_
  refine .bind (hP.prim fun hC => getLine_total hC.1.table hC.lt) fun line _ => ?_
  refine .orElse fun _ => ?_
  cases ha : atxOpen line 0 with
  | none => exact .pure _
  | some a =>
    obtain ⟨level, textPos, rest⟩ := a
    refine .orElse fun _ => ?_
    refine .bind (hP.prim fun _ => liftL_total (heading_slice_total ha)) fun content _ => ?_
    refine .bind (hP.prim fun hC => off_total hC.lt) fun o _ => ?_
    refine .bind (hP.prim fun hC => getMap_total (Nat.le_refl _) hC.lt) fun r _ => ?_
    exact .pure _

theorem heading_np {s : BState} {silent : Bool} (hI : BInv s) (hl : s.line < s.lineMax) :
    NoPanic (headingRule s silent) := heading_err (.inl ⟨hI, hl⟩)

/-! ### code -/

theorem codeScan_total (s : BState) (n last : Nat) (hlen : s.lineMax ≤ s.offs.length) :
    ∃ r, codeScan s n last = .ok r := by
  fun_induction codeScan s n last with
  | case1 n last h1 h2 ih => exact ih
  | case2 n last h1 h2 e he =>
    exact absurd_err he (lineIndent_total (by omega))
  | case3 n last h1 h2 ind hind h3 ih => exact ih
  | case4 n last h1 h2 ind hind h3 => exact ⟨_, rfl⟩
  | case5 n last h1 => exact ⟨_, rfl⟩

/-- `get_lines` only appends to the mapping it was given -/
theorem getLinesGo_mapping_prefix (src : List Char) (offs : List LineOffset) (e indent : Nat) (keep : Bool)
    (line : Nat) (result : List Char) (mapping : List (Nat × Nat)) (c : List Char) (m : List (Nat × Nat))
    (h : Lines.getLinesGo src offs e indent keep line result mapping = .ok (c, m)) :
    ∃ rest, m = mapping ++ rest := by
  fun_induction Lines.getLinesGo src offs e indent keep line result mapping with
  | case4 line result mapping hlt o ho addLastLf ws hws numSpaces first hcalc mapping1 result1 mapping2 t ht
      result2 result3 ih =>
    obtain ⟨rest, hrest⟩ := ih h
    subst hrest
    by_cases hn : numSpaces > 0
    · exact ⟨[(Lines.byteLen result, o.lineStart + first)] ++
        [(Lines.byteLen result1, o.lineStart + first)] ++ rest, by simp [mapping2, mapping1, hn]⟩
    · exact ⟨[(Lines.byteLen result, o.lineStart + first)] ++ rest, by simp [mapping2, mapping1, hn]⟩
  | case5 line result mapping hlt =>
    simp at h; exact ⟨[], by simp [h.2]⟩
  | _ => simp_all

/-- the first entry of the mapping of `get_lines` points into the leading blanks of the first line -/
theorem getLines_first_map {s : BState} {b e indent : Nat} {keep : Bool} {c : List Char}
    {m : List (Nat × Nat)} (h : s.getLines b e indent keep = .ok (c, m)) (hbe : b < e)
    {o : LineOffset} (ho : s.offs[b]? = some o) (hl : LineOk s.src o) :
    ∃ m0 rest, m = m0 :: rest ∧ m0.2 ≤ o.firstNonspace := by
  have h := liftL_eq_ok h
  obtain ⟨a, b', _, _, h3, h4, _⟩ := hl.slices
  unfold Lines.getLines at h
  rw [if_neg (by omega), Lines.getLinesGo] at h
  simp only [hbe, if_true, ho, h3] at h
  have hle := Lines.calc_right_le a (o.indentNonspace - Lines.usizeAsI32 indent)
  generalize Lines.calcRightWs a (o.indentNonspace - Lines.usizeAsI32 indent) = r at h hle
  obtain ⟨n, first⟩ := r
  simp only at h hle
  split at h
  · cases h
  · obtain ⟨rest, hrest⟩ := getLinesGo_mapping_prefix _ _ _ _ _ _ _ _ _ _ h
    subst hrest
    split
    · exact ⟨(0, o.lineStart + first), _, by simp; rfl, by simp only; omega⟩
    · exact ⟨(0, o.lineStart + first), rest, by simp, by simp only; omega⟩

theorem code_err {E : Panic → Prop} {s : BState} {silent : Bool} (hP : PrimIn E (AtLine s)) :
    ErrIn E (codeRule s silent) := by
  unfold codeRule
  refine .orElse fun _ => ?_
  refine .bind (hP.prim fun hC => lineIndent_total hC.lt) fun ind _ => ?_
  refine .orElse fun _ => ?_
  refine .bind (hP.prim fun hC => codeScan_total _ _ _ hC.1.lineMax) fun last hlast => ?_
  have hscan := codeScan_spec _ _ _ _ hlast (Nat.le_refl _)
  refine .bind (hP.prim fun hC => getLines_total (s := { s with line := last }) hC.1.table
    (by show s.line ≤ last; omega) (by have := hC.1.lineMax; have := hC.2; show last ≤ s.offs.length; omega))
    fun ⟨content, mapping⟩ hgl => ?_
  -- under the invariant the mapping starts in the leading blanks of the first line
  have key := fun (hC : AtLine s) => getLines_first_map (s := { s with line := last }) hgl
    (by show s.line < last; omega) (List.getElem?_eq_getElem hC.lt)
    (hC.1.table _ _ (List.getElem?_eq_getElem hC.lt))
  rcases mapping with _ | ⟨m0, ms⟩
  · refine hP.never fun hC => ?_
    obtain ⟨_, _, hm, _⟩ := key hC
    cases hm
  refine .bind (hP.prim fun _ => psub_total (by show 1 ≤ last; omega)) fun l1 hl1 => ?_
  obtain ⟨_, rfl⟩ := psub_ok hl1
  refine .bind (hP.prim fun hC => off_total
    (by have := hC.1.lineMax; have := hC.2; show last - 1 < s.offs.length; omega)) fun o ho => ?_
  refine .ite (fun hgt => ?_) fun _ => .pure _
  -- `debug_assert!(start_pos <= end_pos)` of `get_map_from_offsets`
  refine hP.never fun hC => ?_
  obtain ⟨_, _, hm, hm0⟩ := key hC
  cases hm
  have h1 := hC.1.mono _ _ _ _ (by show s.line ≤ last - 1; omega) (List.getElem?_eq_getElem hC.lt) (off_ok ho)
  have h2 := (hC.1.table _ _ (List.getElem?_eq_getElem hC.lt)).order
  omega

theorem code_np {s : BState} {silent : Bool} (hI : BInv s) (hl : s.line < s.lineMax) :
    NoPanic (codeRule s silent) := code_err (.inl ⟨hI, hl⟩)

/-! ### fence -/

theorem countRun_split (m : Char) : ∀ (l : List Char),
    l = List.replicate (countRun m l) m ++ l.drop (countRun m l)
  | [] => by simp [countRun]
  | c :: r => by
    simp only [countRun]
    split
    · rename_i hc
      subst hc
      have := countRun_split c r
      rw [Nat.add_comm, List.replicate_succ]
      simp only [List.cons_append, List.drop_succ_cons]
      rw [← this]
    · simp

theorem fence_params_total {marker : Char} {rest : List Char} (hm : marker.utf8Size = 1) :
    ∃ r, Lines.slice (marker :: rest) (1 + countRun marker rest) (Lines.byteLen (marker :: rest)) = .ok r := by
  have hsplit := countRun_split marker rest
  refine ⟨rest.drop (countRun marker rest), ?_⟩
  refine Lines.slice_eq_ok_iff.mpr ⟨marker :: List.replicate (countRun marker rest) marker, [], ?_, ?_, ?_⟩
  · simp; exact hsplit
  · simp [Lines.byteLen_replicate hm, hm]
  · conv => rhs; rw [hsplit]
    simp [Lines.byteLen_replicate hm, hm]
    omega

theorem fenceScan_total (s : BState) (marker : Char) (len n : Nat) (hI : BInv s) :
    ∃ r, fenceScan s marker len n = .ok r := by
  have hlen := hI.lineMax
  fun_induction fenceScan s marker len n with
  | case1 n h => exact ⟨_, rfl⟩
  | case2 n e h he => exact absurd_err he (getLine_total hI.table (by omega))
  | case3 n e h he _ => exact absurd_err he (lineIndent_total (by omega))
  | _ => first | assumption | exact ⟨_, rfl⟩

theorem fence_err {E : Panic → Prop} {s : BState} {silent : Bool} (hP : PrimIn E (AtLine s)) :
    ErrIn E (fenceRule s silent) := by
  unfold fenceRule
  refine .bind (hP.prim fun hC => lineIndent_total hC.lt) fun ind _ => ?_
  refine .orElse fun _ => ?_
  refine .bind (hP.prim fun hC => getLine_total hC.1.table hC.lt) fun line _ => ?_
  rcases line with _ | ⟨marker, rest⟩
  · exact .pure _
  refine .orElse fun hm => ?_
  refine .orElse fun _ => ?_
  have hm1 : marker.utf8Size = 1 := by
    rcases Classical.not_not.mp hm with rfl | rfl
    · decide
    · decide
  refine .bind (hP.prim fun _ => liftL_total (fence_params_total hm1)) fun params _ => ?_
  refine .orElse fun _ => ?_
  refine .orElse fun _ => ?_
  refine .bind (hP.prim fun hC => fenceScan_total _ _ _ _ hC.1) fun ⟨n, he⟩ hscan => ?_
  refine .bind (hP.prim fun hC => off_total hC.lt) fun o _ => ?_
  -- behind the scan: `s.line < n ≤ lineMax`, and `n < lineMax` when the closing fence was found
  have key := fun (hC : AtLine s) => fenceScan_spec _ _ _ _ _ _ hscan hC.2
  refine .bind (hP.prim fun hC => getLines_total hC.1.table (by have := key hC; omega)
    (by have := key hC; have := hC.1.lineMax; omega)) fun ⟨content, _⟩ _ => ?_
  refine .bind (hP.prim fun hC => psub_total ?_) fun e he' => ?_
  · have := key hC
    split
    · exact Nat.zero_le _
    · omega
  obtain ⟨_, rfl⟩ := psub_ok he'
  refine .bind (hP.prim fun hC => ?_) fun r _ => .pure _
  obtain ⟨h1, h2, h3⟩ := key hC
  have := hC.1.lineMax
  refine getMap_total ?_ ?_
  · split
    · omega
    · omega
  · split
    · have := h3 ‹_›
      omega
    · omega

theorem fence_np {s : BState} {silent : Bool} (hI : BInv s) (hl : s.line < s.lineMax) :
    NoPanic (fenceRule s silent) := fence_err (.inl ⟨hI, hl⟩)

/-! ### paragraph, lheading: the shared scan -/

/-- The scan fails with a statement of its own, with the look-ahead (`hT`), or by running out of fuel:
    `hF` is what `E` or the budget has to satisfy for that. -/
theorem lazyScan_err {E : Panic → Prop} {test : Test} (ht : TestPure test) (setext : Bool) {s : BState}
    (hP : PrimIn E (BInv s)) (hT : ∀ n, n < s.lineMax → ErrIn E (test { s with line := n })) :
    ∀ (fuel n : Nat), E .fuel ∨ (n < s.lineMax ∧ s.lineMax ≤ n + fuel) →
      ErrIn E (lazyScan test setext fuel s n) := by
  intro fuel
  induction fuel with
  | zero =>
    intro n hF
    exact .lit (hF.elim id fun hb => by omega)
  | succ f ih =>
    intro n hF
    unfold lazyScan
    refine .ite (fun _ => .ok _) fun hc => ?_
    have hlt : n + 1 < s.lineMax := Nat.not_le.mp fun h => hc (.inl h)
    have hm : BInv s → n + 1 < s.offs.length := fun hI => Nat.lt_of_lt_of_le hlt hI.lineMax
    have hF' : E .fuel ∨ (n + 1 < s.lineMax ∧ s.lineMax ≤ n + 1 + f) := hF.imp id fun _ => by omega
    refine .bind (hP.prim fun hI => lineIndent_total (hm hI)) fun ind _ => ?_
    refine .ite (fun _ => ih _ hF') fun _ => ?_
    refine .bind ?_ fun lvl _ => ?_
    · unfold setextCheck
      exact .ite (fun _ => .bind (hP.prim fun hI => getLine_total hI.table (hm hI)) fun _ _ => .pure _)
        fun _ => .pure _
    refine .ite (fun _ => .ok _) fun _ => ?_
    refine .bind (hP.prim fun hI => off_total (hm hI)) fun o _ => ?_
    refine .ite (fun _ => ih _ hF') fun _ => ?_
    refine .bind (hT _ hlt) fun ⟨b, s1⟩ htest => ?_
    -- the look-ahead hands the state back
    cases (ht _ _ htest : s1 = { s with line := n + 1 })
    exact .ite (fun _ => .ok _) fun _ => ih _ hF'

theorem lazyScan_np {test : Test} (ht : TestPure test) (hto : TestOK test) (setext : Bool)
    (fuel : Nat) (s : BState) (n : Nat) (hI : BInv s) : NoPanic (lazyScan test setext fuel s n) :=
  lazyScan_err ht setext (.inl hI) (fun n hn => hto _ (hI.line n) hn) fuel n (.inl rfl)

theorem paragraph_err {E : Panic → Prop} {test : Test} (ht : TestPure test) {fuel : Nat} {s : BState}
    {silent : Bool} (hP : PrimIn E (AtLine s))
    (hscan : ErrIn E (lazyScan test false fuel s s.line)) : ErrIn E (paragraphRule test fuel s silent) := by
  unfold paragraphRule
  refine .orElse fun _ => ?_
  refine .bind hscan fun ⟨n, _, S⟩ hs => ?_
  -- the scan hands the state back and stops behind `s.line`, not beyond `lineMax`
  obtain ⟨h1, h2, h3, -⟩ := lazyScan_spec ht hs
  obtain rfl : s = S := h1.symm
  refine .bind (hP.prim fun hC => getLines_total hC.1.table (Nat.le_of_lt h2)
    (Nat.le_trans (h3 hC.2) hC.1.lineMax)) fun ⟨content, mapping⟩ _ => ?_
  refine .bind (hP.prim fun _ => psub_total (by show 1 ≤ n; omega)) fun e he => ?_
  obtain ⟨_, rfl⟩ := psub_ok he
  refine .bind (hP.prim fun hC => getMap_total (by show s.line ≤ n - 1; omega) ?_) fun r _ => .pure _
  have := h3 hC.2
  have := hC.1.lineMax
  show n - 1 < s.offs.length
  omega

theorem paragraph_np {test : Test} (ht : TestPure test) (hto : TestOK test) {fuel : Nat} {s : BState}
    {silent : Bool} (hI : BInv s) (hl : s.line < s.lineMax) :
    NoPanic (paragraphRule test fuel s silent) :=
  paragraph_err ht (.inl ⟨hI, hl⟩) (lazyScan_np ht hto _ _ _ _ hI)

theorem lheading_err {E : Panic → Prop} {test : Test} (ht : TestPure test) {fuel : Nat} {s : BState}
    {silent : Bool} (hP : PrimIn E (AtLine s))
    (hscan : ErrIn E (lazyScan test true fuel s s.line)) : ErrIn E (lheadingRule test fuel s silent) := by
  unfold lheadingRule
  refine .orElse fun _ => ?_
  refine .bind (hP.prim fun hC => lineIndent_total hC.lt) fun ind _ => ?_
  refine .orElse fun _ => ?_
  refine .bind hscan fun ⟨n, level, S⟩ hs => ?_
  refine .orElse fun hlv => ?_
  -- an underline was found at line `n`, which lies behind `s.line` and below `lineMax`
  obtain ⟨h1, h2, -, h4⟩ := lazyScan_spec ht hs
  obtain rfl : s = S := h1.symm
  have h4 : n < s.lineMax := h4 hlv
  refine .bind (hP.prim fun hC => getLines_total hC.1.table (Nat.le_of_lt h2)
    (Nat.le_trans (Nat.le_of_lt h4) hC.1.lineMax)) fun ⟨content, mapping⟩ _ => ?_
  refine .bind (hP.prim fun _ => psub_total (Nat.le_add_left 1 n)) fun e he => ?_
  have he : e = n + 1 - 1 := (psub_ok he).2
  refine .bind (hP.prim fun hC => getMap_total (by show s.line ≤ e; omega) ?_) fun r _ => .pure _
  have := hC.1.lineMax
  show e < s.offs.length
  omega

theorem lheading_np {test : Test} (ht : TestPure test) (hto : TestOK test) {fuel : Nat} {s : BState}
    {silent : Bool} (hI : BInv s) (hl : s.line < s.lineMax) :
    NoPanic (lheadingRule test fuel s silent) :=
  lheading_err ht (.inl ⟨hI, hl⟩) (lazyScan_np ht hto _ _ _ _ hI)

end MdIt.Block
