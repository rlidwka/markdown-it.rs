/-
  The tag matchers of `HTML_TAG_RE` (`MdIt/Model/Html.lean`), each read once.

  One characterisation per matcher — what a success means (`_ok`), and back (`_mk`), or an equation
  (`_eq`) — for any continuation `k`:
      `closeTagK_ok` / `_mk`, `declRest_ok` / `_mk`, `commentBody_eq`, `commentRest_ok` (+ `_dash`, `_other`),
      `specialRest_ok`, `closeK_ok` / `_mk`, `attrsK_eq`, `openTagK_ok` / `openTagK_eq`, `tagRest_ok`.
  From them: what a matcher leaves is a SUFFIX of its text (`closeK_spec`, `attrsK_spec`, `openTagK_spec`,
  `closeTagK_spec`, `commentBody_suffix`, `commentRest_suffix`, `declRest_suffix`, `specialRest_spec`,
  `tagRest_spec`).  The window lemmas of `Lemmas/InlineHWindow` read the same characterisations.
-/
import MdIt.Model.Html

namespace MdIt.Html

/-! ## literals -/

theorem stripPrefix_eq {pat s r : List Char} (h : stripPrefix pat s = some r) : s = pat ++ r := by
  induction pat generalizing s with
  | nil => simp [stripPrefix] at h; simp [h]
  | cons p ps ih =>
    cases s with
    | nil => simp [stripPrefix] at h
    | cons c t =>
      simp only [stripPrefix] at h
      split at h
      · rename_i hc; subst hc; rw [ih h]; rfl
      · cases h

theorem findSub_suffix {pat s r : List Char} (h : findSub pat s = some r) : ∃ pre, s = pre ++ pat ++ r := by
  induction s with
  | nil =>
    simp only [findSub] at h
    exact ⟨[], by simpa using stripPrefix_eq h⟩
  | cons c t ih =>
    simp only [findSub] at h
    split at h
    · rename_i rest hs
      injection h with h; subst h
      exact ⟨[], by simpa using stripPrefix_eq hs⟩
    · obtain ⟨pre, hp⟩ := ih h
      exact ⟨c :: pre, by rw [hp]; simp⟩

/-! ## the close tag `</name\s*>` -/

theorem closeTagK_ok {k : List Char → Bool} {s r : List Char} (h : closeTagK k s = some r) :
    ∃ c t, s = '<' :: '/' :: c :: t ∧ isAlpha c = true ∧
      (t.dropWhile isTagChar).dropWhile isWs = '>' :: r ∧ k r = true := by
  unfold closeTagK at h
  split at h
  · next c t =>
    split at h
    · next hc =>
      split at h
      · next r' hd =>
        split at h
        · next hk => cases h; exact ⟨c, t, rfl, hc, hd, hk⟩
        · cases h
      · cases h
    · cases h
  · cases h

theorem closeTagK_mk {k : List Char → Bool} {c : Char} {t r : List Char} (hc : isAlpha c = true)
    (hd : (t.dropWhile isTagChar).dropWhile isWs = '>' :: r) (hk : k r = true) :
    closeTagK k ('<' :: '/' :: c :: t) = some r := by
  simp [closeTagK, hc, hd, hk]

theorem closeTagK_spec {k : List Char → Bool} {s r : List Char} (h : closeTagK k s = some r) :
    ∃ mid, s = '<' :: mid ++ r ∧ k r = true := by
  obtain ⟨c, t, rfl, _, hd, hk⟩ := closeTagK_ok h
  obtain ⟨m1, hm1⟩ := List.dropWhile_suffix (l := t.dropWhile isTagChar) isWs
  obtain ⟨m2, hm2⟩ := List.dropWhile_suffix (l := t) isTagChar
  exact ⟨'/' :: c :: (m2 ++ m1 ++ ['>']), by rw [← hm2, ← hm1, hd]; simp, hk⟩

/-! ## the declaration `<![A-Z]+\s+[^>]*>` (behind `<!`) -/

theorem declRest_ok {s r : List Char} (h : declRest s = some r) :
    ∃ c t v u a, s = c :: t ∧ isUpper c = true ∧ t.dropWhile isUpper = v :: u ∧ isWs v = true ∧
      u.dropWhile (· != '>') = a :: r := by
  unfold declRest at h
  split at h
  · cases h
  · next c t =>
    split at h
    · next hc =>
      split at h
      · next v u hd =>
        split at h
        · next hv =>
          split at h
          · next a r' hd2 => cases h; exact ⟨c, t, v, u, a, rfl, hc, hd, hv, hd2⟩
          · cases h
        · cases h
      · cases h
    · cases h

theorem declRest_mk {c v a : Char} {t u r : List Char} (hc : isUpper c = true)
    (hd : t.dropWhile isUpper = v :: u) (hv : isWs v = true) (hd2 : u.dropWhile (· != '>') = a :: r) :
    declRest (c :: t) = some r := by
  simp [declRest, hc, hd, hv, hd2]

theorem declRest_suffix {s r : List Char} (h : declRest s = some r) : ∃ mid, s = mid ++ r := by
  obtain ⟨c, t, v, u, a, rfl, _, hd, _, hd2⟩ := declRest_ok h
  obtain ⟨m1, hm1⟩ := List.dropWhile_suffix (l := t) isUpper
  obtain ⟨m2, hm2⟩ := List.dropWhile_suffix (l := u) (fun x => x != '>')
  exact ⟨c :: (m1 ++ v :: (m2 ++ [a])), by rw [← hm1, hd, ← hm2, hd2]; simp⟩

/-! ## the comment body `(?:-?[^-])*-->` -/

/-- the scan over units `-?[^-]` stops at the first `--`: the body is "find the first `--`, then `>`" -/
theorem commentBody_eq (s : List Char) :
    commentBody s = (findSub ['-', '-'] s).bind (stripPrefix ['>']) := by
  fun_induction commentBody s with
  | case1 => rfl
  | case2 => rfl
  | case3 r => simp [findSub, stripPrefix]
  | case4 r hr =>
    cases r with
    | nil => simp [findSub, stripPrefix]
    | cons e r' =>
      have : e ≠ '>' := fun he => hr r' (by rw [he])
      simp [findSub, stripPrefix, this]
  | case5 d r hd ih => rw [ih]; simp [findSub, stripPrefix, hd]
  | case6 c r hc ih => rw [ih]; simp [findSub, stripPrefix, hc]

theorem commentBody_suffix {s r : List Char} (h : commentBody s = some r) : r <:+ s := by
  rw [commentBody_eq] at h
  cases hf : findSub ['-', '-'] s with
  | none => rw [hf] at h; cases h
  | some r1 =>
    rw [hf] at h
    obtain ⟨pre, rfl⟩ := findSub_suffix hf
    rw [stripPrefix_eq h]
    exact ⟨pre ++ ['-', '-'] ++ ['>'], by simp⟩

/-! ## the comment behind `<!--` -/

theorem commentRest_dash {d : Char} {t : List Char} (h1 : d ≠ '>') (h2 : d ≠ '-') :
    commentRest ('-' :: d :: t) = commentBody t := by
  simp [commentRest, h1, h2]

theorem commentRest_other {c : Char} {t : List Char} (h1 : c ≠ '-') (h2 : c ≠ '>') :
    commentRest (c :: t) = commentBody t := by
  simp [commentRest, h1, h2]

/-- the three ways `commentRest` succeeds: `<!---->`, `<!---c…-->`, `<!--c…-->` -/
theorem commentRest_ok {s r : List Char} (h : commentRest s = some r) :
    s = '-' :: '-' :: '>' :: r ∨
    (∃ d t, s = '-' :: d :: t ∧ d ≠ '>' ∧ d ≠ '-' ∧ commentBody t = some r) ∨
    (∃ c t, s = c :: t ∧ c ≠ '-' ∧ c ≠ '>' ∧ commentBody t = some r) := by
  unfold commentRest at h
  split at h
  · cases h; exact .inl rfl
  · split at h
    · cases h
    · next c t _ =>
      split at h
      · next hc =>
        subst hc
        split at h
        · cases h
        · next d t' _ =>
          split at h
          · next hd => exact .inr (.inl ⟨d, t', rfl, hd.1, hd.2, h⟩)
          · cases h
      · next hc =>
        split at h
        · next hc2 => exact .inr (.inr ⟨c, t, rfl, hc, hc2, h⟩)
        · cases h

theorem commentRest_suffix {s r : List Char} (h : commentRest s = some r) : r <:+ s := by
  rcases commentRest_ok h with rfl | ⟨d, t, rfl, _, _, hb⟩ | ⟨c, t, rfl, _, _, hb⟩
  · exact ⟨['-', '-', '>'], rfl⟩
  · exact (commentBody_suffix hb).trans ⟨['-', d], rfl⟩
  · exact (commentBody_suffix hb).trans ⟨[c], rfl⟩

/-! ## the four alternatives that start with `<!` or `<?` -/

theorem specialRest_ok {s r : List Char} (h : specialRest s = some r) :
    (∃ t, s = '<' :: '!' :: '-' :: '-' :: t ∧ commentRest t = some r) ∨
    (∃ t, s = '<' :: '?' :: t ∧ findSub ['?', '>'] t = some r) ∨
    (∃ t, s = '<' :: '!' :: '[' :: 'C' :: 'D' :: 'A' :: 'T' :: 'A' :: '[' :: t ∧
      findSub [']', ']', '>'] t = some r) ∨
    (∃ t, s = '<' :: '!' :: t ∧ declRest t = some r) := by
  unfold specialRest at h
  split at h
  · exact .inl ⟨_, rfl, h⟩
  · exact .inr (.inl ⟨_, rfl, h⟩)
  · exact .inr (.inr (.inl ⟨_, rfl, h⟩))
  · exact .inr (.inr (.inr ⟨_, rfl, h⟩))
  · cases h

theorem specialRest_spec {s r : List Char} (h : specialRest s = some r) : ∃ mid, s = '<' :: mid ++ r := by
  rcases specialRest_ok h with ⟨t, rfl, h'⟩ | ⟨t, rfl, h'⟩ | ⟨t, rfl, h'⟩ | ⟨t, rfl, h'⟩
  · obtain ⟨m, hm⟩ := commentRest_suffix h'
    exact ⟨'!' :: '-' :: '-' :: m, by rw [← hm]; simp⟩
  · obtain ⟨m, hm⟩ := findSub_suffix h'
    exact ⟨'?' :: (m ++ ['?', '>']), by rw [hm]; simp⟩
  · obtain ⟨m, hm⟩ := findSub_suffix h'
    exact ⟨'!' :: '[' :: 'C' :: 'D' :: 'A' :: 'T' :: 'A' :: '[' :: (m ++ [']', ']', '>']), by rw [hm]; simp⟩
  · obtain ⟨m, hm⟩ := declRest_suffix h'
    exact ⟨'!' :: m, by rw [hm]; simp⟩

/-! ## the open tag: attribute values, `\s*/?>`, and the backtracking over attributes -/

theorem mem_splits_suffix {p : Char → Bool} {s r : List Char} (h : r ∈ splits p s) : r <:+ s := by
  induction s with
  | nil => simp [splits] at h; subst h; exact List.suffix_refl _
  | cons c t ih =>
    simp only [splits] at h
    split at h
    · simp only [List.mem_append, List.mem_singleton] at h
      rcases h with h | h
      · exact (ih h).trans (List.suffix_cons _ _)
      · subst h; exact List.suffix_refl _
    · simp at h; subst h; exact List.suffix_refl _

theorem mem_quotedEnd_suffix {q : Char} {t r : List Char} (h : r ∈ quotedEnd q t) : r <:+ t := by
  unfold quotedEnd at h
  split at h
  · rename_i x r' hd
    simp at h; subst h
    have := List.dropWhile_suffix (l := t) (fun x => x != q)
    rw [hd] at this
    exact (List.suffix_cons _ _).trans this
  · simp at h

theorem mem_valueAt_suffix {s r : List Char} (h : r ∈ valueAt s) : r <:+ s := by
  cases s with
  | nil => simp [valueAt] at h
  | cons c t =>
    simp only [valueAt] at h
    split at h
    · exact (mem_splits_suffix h).trans (List.suffix_cons _ _)
    · split at h
      · exact (mem_quotedEnd_suffix h).trans (List.suffix_cons _ _)
      · split at h
        · exact (mem_quotedEnd_suffix h).trans (List.suffix_cons _ _)
        · simp at h

theorem mem_valueEnds_suffix {s r : List Char} (h : r ∈ valueEnds s) : r <:+ s := by
  unfold valueEnds at h
  split at h
  · rename_i c t hd
    split at h
    · simp only [List.mem_flatMap] at h
      obtain ⟨m, hm, hr⟩ := h
      have h3 := List.dropWhile_suffix (l := s) isWs
      rw [hd] at h3
      exact (mem_valueAt_suffix hr).trans ((mem_splits_suffix hm).trans ((List.suffix_cons _ _).trans h3))
    · simp at h
  · simp at h

theorem attrHead_suffix {s r : List Char} (h : attrHead s = some r) : r <:+ s := by
  cases s with
  | nil => simp [attrHead] at h
  | cons w t =>
    simp only [attrHead] at h
    split at h
    · split at h
      · rename_i c r' hd
        split at h
        · injection h with h; subst h
          have h2 := List.dropWhile_suffix (l := t) isWs
          rw [hd] at h2
          exact (List.dropWhile_suffix _).trans ((List.suffix_cons _ _).trans (h2.trans (List.suffix_cons _ _)))
        · cases h
      · cases h
    · cases h

theorem closeK_ok {k : List Char → Bool} {s r : List Char} (h : closeK k s = some r) :
    (s.dropWhile isWs = '>' :: r ∨ s.dropWhile isWs = '/' :: '>' :: r) ∧ k r = true := by
  unfold closeK at h
  split at h
  · next r' hd =>
    split at h
    · next hk => cases h; exact ⟨.inl hd, hk⟩
    · cases h
  · next r' hd =>
    split at h
    · next hk => cases h; exact ⟨.inr hd, hk⟩
    · cases h
  · cases h

theorem closeK_mk {k : List Char → Bool} {s r : List Char}
    (hd : s.dropWhile isWs = '>' :: r ∨ s.dropWhile isWs = '/' :: '>' :: r) (hk : k r = true) :
    closeK k s = some r := by
  unfold closeK
  rcases hd with hd | hd <;> simp [hd, hk]

/-- `closeK` consumed `\s*/?>`: a proper suffix, and the continuation accepted it -/
theorem closeK_spec {k : List Char → Bool} {s r : List Char} (h : closeK k s = some r) :
    r <:+ s ∧ r.length < s.length ∧ k r = true := by
  obtain ⟨hd, hk⟩ := closeK_ok h
  have hs := List.dropWhile_suffix (l := s) isWs
  have hl := length_dropWhile_le isWs s
  rcases hd with hd | hd <;> rw [hd] at hs hl
  · exact ⟨(List.suffix_cons _ _).trans hs, by simp at hl; omega, hk⟩
  · exact ⟨(List.suffix_cons _ _).trans ((List.suffix_cons _ _).trans hs), by simp at hl; omega, hk⟩

theorem findSome_attach {α β : Type} (l : List α) (f : α → Option β) :
    l.attach.findSome? (fun ⟨r, _⟩ => f r) = l.findSome? f := by
  conv => rhs; rw [← List.attach_map_subtype_val l]
  rw [List.findSome?_map]
  rfl

/-- `attrsK` without the termination plumbing: the first success, in priority order -/
theorem attrsK_eq (k : List Char → Bool) (s : List Char) :
    attrsK k s =
      match attrHead s with
      | none => closeK k s
      | some s2 => ((valueEnds s2).findSome? (attrsK k)).or ((attrsK k s2).or (closeK k s)) := by
  rw [attrsK]
  simp only [findSome_attach]
  split <;> rename_i hh <;> split at hh
  all_goals first
    | (rename_i s2 hs2
       rw [hs2]; dsimp only
       cases h1 : List.findSome? (attrsK k) (valueEnds s2) with
       | some r => rw [h1] at hh; dsimp only at hh ⊢; first | exact hh.symm | cases hh
       | none => rw [h1] at hh; dsimp only at hh ⊢; rw [hh]; rfl)
    | simp_all

theorem attrsK_spec (k : List Char → Bool) : ∀ (n : Nat) (s r : List Char), s.length ≤ n →
    attrsK k s = some r → r <:+ s ∧ r.length < s.length ∧ k r = true := by
  intro n
  induction n with
  | zero =>
    intro s r hn h
    obtain rfl := List.length_eq_zero_iff.mp (Nat.le_zero.mp hn)
    exact closeK_spec ((attrsK_eq k []).symm.trans h)
  | succ n ih =>
    intro s r hn h
    rw [attrsK_eq] at h
    split at h
    · exact closeK_spec h
    · next s2 hs2 =>
      have hs2s := attrHead_suffix hs2
      have hs2l := attrHead_lt hs2
      rcases Option.or_eq_some_iff.mp h with hf | ⟨_, h⟩
      · obtain ⟨x, hx, hfx⟩ := List.exists_of_findSome?_eq_some hf
        have hxl := mem_valueEnds_lt hx
        obtain ⟨a, b, c⟩ := ih x _ (by omega) hfx
        exact ⟨a.trans ((mem_valueEnds_suffix hx).trans hs2s), by omega, c⟩
      · rcases Option.or_eq_some_iff.mp h with hv | ⟨_, h⟩
        · obtain ⟨a, b, c⟩ := ih s2 _ (by omega) hv
          exact ⟨a.trans hs2s, by omega, c⟩
        · exact closeK_spec h

theorem openTagK_ok {k : List Char → Bool} {s r : List Char} (h : openTagK k s = some r) :
    ∃ c t, s = '<' :: c :: t ∧ isAlpha c = true ∧ attrsK k (t.dropWhile isTagChar) = some r := by
  unfold openTagK at h
  split at h
  · next c t =>
    split at h
    · next hc => exact ⟨c, t, rfl, hc, h⟩
    · cases h
  · cases h

theorem openTagK_eq {k : List Char → Bool} {c : Char} (t : List Char) (hc : isAlpha c = true) :
    openTagK k ('<' :: c :: t) = attrsK k (t.dropWhile isTagChar) := by
  simp [openTagK, hc]

/-- a match of `open_tag` followed by `k`: `<`, at least one more character, then what is left -/
theorem openTagK_spec {k : List Char → Bool} {s r : List Char} (h : openTagK k s = some r) :
    ∃ mid, s = '<' :: mid ++ r ∧ k r = true := by
  obtain ⟨c, t, rfl, _, h⟩ := openTagK_ok h
  obtain ⟨⟨m1, hm1⟩, _, hk⟩ := attrsK_spec k _ _ _ (Nat.le_refl _) h
  obtain ⟨m2, hm2⟩ := List.dropWhile_suffix (l := t) isTagChar
  exact ⟨c :: (m2 ++ m1), by rw [← hm2, ← hm1]; simp, hk⟩

/-! ## the whole pattern -/

theorem tagRest_ok {s r : List Char} (h : tagRest s = some r) :
    openTagK always s = some r ∨ closeTagK always s = some r ∨ specialRest s = some r := by
  unfold tagRest at h
  split at h
  · next ho => cases h; exact .inl ho
  · split at h
    · next hc => cases h; exact .inr (.inl hc)
    · exact .inr (.inr h)

/-- **`HTML_TAG_RE`**: a match is a prefix `<…` of the text, what `tagRest` returns is the rest -/
theorem tagRest_spec {s r : List Char} (h : tagRest s = some r) : ∃ mid, s = '<' :: mid ++ r := by
  rcases tagRest_ok h with h | h | h
  · exact let ⟨m, hm, _⟩ := openTagK_spec h; ⟨m, hm⟩
  · exact let ⟨m, hm, _⟩ := closeTagK_spec h; ⟨m, hm⟩
  · exact specialRest_spec h

end MdIt.Html
