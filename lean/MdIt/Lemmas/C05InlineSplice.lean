/-
  C05, inline half: transport of the geometry (`NodeOrd`) through the three passes behind the block pass, on
  the full `Pipeline.Node` tree (`afterBlocks_nodeOrd`); `parseDoc_assemble` puts block pass and the rest
  together, for this and the later invariants.  (Prefix `c05s_`: this file.)  The splice walk is an induction
  of its own, not an instance of `spliceNode_every_of` (Props/Pipeline.lean): `OrderedD` of the spliced
  children is a fact about the whole output list in terms of the `OrderedB` of the input list.

  The one extra hypothesis of `afterBlocks_nodeOrd` is `InlNoRange root`: a node of the block tree
  whose VALUE is the `InlineRoot` placeholder carries no range.  `spliceList` replaces a child by its
  KIND alone, whereas `RangedB` / `SpanB` speak about the placeholder claim `P` only for a node
  WITHOUT range (for a node with a range `SpanB` is just that range), so `RangedB` says nothing about
  the text of a ranged node whose kind is `inlineRoot` — and the hypothesis is needed (witness
  `c05s_badRoot` below).  Neither `RangedB` nor `WFB` (Props/Pipeline.lean: `LocB` never mentions a
  range; the children of a list item are only `≠ listItem`) excludes such a node; it holds of
  `parseBlocks` because every producer builds placeholders as `⟨.inlineRoot c m, none, []⟩`
  (`parseBlocks_inlNoRange`, by recursion over the grammar of block trees).
-/
import MdIt.Lemmas.C05InlineDefs
import MdIt.Lemmas.KernelEval

namespace MdIt.Pipeline
open MdIt.Block (Bd)

/-- `NodeOrd` with the bound as a number -/
def NodeOrdB (B : Nat) (n : Node) : Prop :=
  ∃ a b, n.range = some (a, b) ∧ a ≤ b ∧ b ≤ B ∧ OrderedD a b n.children

theorem nodeOrd_iff (src : List Char) (n : Node) : NodeOrd src n ↔ NodeOrdB (Lines.byteLen src) n :=
  Iff.rfl

/-- a node of the block tree whose value is the `InlineRoot` placeholder has no range; at every
    node -/
inductive InlNoRange : Block.BNode → Prop
  | mk (n : Block.BNode) : (∀ c m, n.kind = .inlineRoot c m → n.range = none) →
    (∀ c ∈ n.children, InlNoRange c) → InlNoRange n

theorem InlNoRange.at {n : Block.BNode} (h : InlNoRange n) :
    ∀ c m, n.kind = .inlineRoot c m → n.range = none := by
  cases h; assumption
theorem InlNoRange.child {n : Block.BNode} (h : InlNoRange n) : ∀ c ∈ n.children, InlNoRange c := by
  cases h; assumption

mutual
/-- `InlNoRange`, as a test -/
def inlNoRangeB : Block.BNode → Bool
  | ⟨k, r, cs⟩ => (match k, r with | .inlineRoot _ _, some _ => false | _, _ => true) && inlNoRangeBL cs
def inlNoRangeBL : List Block.BNode → Bool
  | [] => true
  | c :: r => inlNoRangeB c && inlNoRangeBL r
end

mutual
theorem inlNoRangeB_sound : ∀ n, inlNoRangeB n = true → InlNoRange n
  | ⟨k, r, cs⟩, h => by
    simp only [inlNoRangeB, Bool.and_eq_true] at h
    refine .mk _ (fun c m hk => ?_) (inlNoRangeBL_sound cs h.2)
    simp only at hk ⊢
    subst hk
    cases r with
    | none => rfl
    | some _ => simp at h
theorem inlNoRangeBL_sound : ∀ l, inlNoRangeBL l = true → ∀ c ∈ l, InlNoRange c
  | [], _, _, hc => by cases hc
  | x :: r, h, c, hc => by
    simp only [inlNoRangeBL, Bool.and_eq_true] at h
    rcases List.mem_cons.mp hc with e | hc
    · exact e ▸ inlNoRangeB_sound x h.1
    · exact inlNoRangeBL_sound r h.2 c hc
end

theorem OrderedD.le {lo hi : Nat} {l : List Node} (h : OrderedD lo hi l) : lo ≤ hi := by
  induction l generalizing lo with
  | nil => exact h
  | cons n r ih =>
    obtain ⟨a, b, _, h2, h3, h4⟩ := h
    have := ih h4; omega

theorem OrderedD.append {lo mid hi : Nat} {l1 l2 : List Node} (h1 : OrderedD lo mid l1)
    (h2 : OrderedD mid hi l2) : OrderedD lo hi (l1 ++ l2) := by
  induction l1 generalizing lo with
  | nil => exact h2.widen h1 (Nat.le_refl _)
  | cons x r ih =>
    obtain ⟨a, b, q1, q2, q3, q4⟩ := h1
    exact ⟨a, b, q1, q2, q3, ih q4⟩

theorem OrderedD.mem {lo hi : Nat} {l : List Node} (h : OrderedD lo hi l) :
    ∀ c ∈ l, ∃ a b, c.range = some (a, b) ∧ lo ≤ a ∧ a ≤ b ∧ b ≤ hi := by
  induction l generalizing lo with
  | nil => simp
  | cons n r ih =>
    obtain ⟨a, b, h1, h2, h3, h4⟩ := h
    intro c hc
    rcases List.mem_cons.mp hc with rfl | hc
    · exact ⟨a, b, h1, h2, h3, h4.le⟩
    · obtain ⟨a', b', q1, q2, q3, q4⟩ := ih h4 c hc
      exact ⟨a', b', q1, by omega, q3, q4⟩

theorem OrderedD.filter {lo hi : Nat} {l : List Node} (p : Node → Bool) (h : OrderedD lo hi l) :
    OrderedD lo hi (l.filter p) := by
  induction l generalizing lo with
  | nil => exact h
  | cons n r ih =>
    obtain ⟨a, b, h1, h2, h3, h4⟩ := h
    simp only [List.filter_cons]
    split
    · exact ⟨a, b, h1, h2, h3, ih h4⟩
    · exact (ih h4).widen (by omega) (Nat.le_refl _)

theorem c05s_ordered_map {f : Node → Node} (hf : ∀ n, (f n).range = n.range) {lo hi : Nat}
    {l : List Node} : OrderedD lo hi (l.map f) ↔ OrderedD lo hi l := by
  induction l generalizing lo with
  | nil => exact Iff.rfl
  | cons n r ih => simp only [List.map_cons, OrderedD, hf, ih]

/-- a claim about a node that reads its range only and holds of the hull of two texts: the walk below carries
    such a `Q` beside `NodeOrdB` (`True`; both range ends are character boundaries: Lemmas/C05TabsBdSplice.lean) -/
structure RangeOnly (Q : Node → Prop) : Prop where
  congr : ∀ {n n' : Node}, n'.range = n.range → Q n → Q n'
  hull : ∀ {cur nxt : Node}, Q cur → Q nxt → Q (merged cur nxt)

theorem rangeOnly_true : RangeOnly fun _ => True := ⟨fun _ _ => trivial, fun _ _ => trivial⟩

theorem every_and_true {P : Node → Prop} {n : Node} : Every (fun x => P x ∧ True) n ↔ Every P n :=
  ⟨Every.imp fun _ h => h.1, Every.imp fun _ h => ⟨h, trivial⟩⟩

/-- `Every (NodeOrdB B ∧ Q)` reads range and children only -/
theorem c05s_every_congr {Q : Node → Prop} (hQ : RangeOnly Q) {B : Nat} {n n' : Node} (hr : n'.range = n.range)
    (hc : n'.children = n.children) (h : Every (fun x => NodeOrdB B x ∧ Q x) n) :
    Every (fun x => NodeOrdB B x ∧ Q x) n' := by
  refine .mk _ ?_ (by rw [hc]; exact h.child)
  obtain ⟨⟨a, b, h1, h2, h3, h4⟩, hq⟩ := h.here
  exact ⟨⟨a, b, by rw [hr]; exact h1, h2, h3, by rw [hc]; exact h4⟩, hQ.congr hr hq⟩

/-- a wider range over the same children -/
theorem c05s_every_hull {Q : Node → Prop} {B : Nat} {n n' : Node} {a b a' b' : Nat} (hr : n.range = some (a, b))
    (hr' : n'.range = some (a', b')) (h1 : a' ≤ a) (h2 : b ≤ b') (h3 : b' ≤ B)
    (hc : n'.children = n.children) (hq : Q n') (h : Every (fun x => NodeOrdB B x ∧ Q x) n) :
    Every (fun x => NodeOrdB B x ∧ Q x) n' := by
  refine .mk _ ?_ (by rw [hc]; exact h.child)
  obtain ⟨x, y, q1, q2, q3, q4⟩ := h.here.1
  rw [hr] at q1
  simp only [Option.some.injEq, Prod.mk.injEq] at q1
  obtain ⟨rfl, rfl⟩ := q1
  exact ⟨⟨a', b', hr', by omega, h3, by rw [hc]; exact q4.widen h1 h2⟩, hq⟩

theorem c05s_ofInline_range (n : Inline.Node) : (ofInline n).range = n.range := by
  cases n; simp [ofInline]

theorem c05s_ofInline_children (n : Inline.Node) : (ofInline n).children = ofInlineList n.children := by
  cases n; simp [ofInline]

theorem c05s_ofInlineList_ordered {lo hi : Nat} {ns : List Inline.Node} (h : Inline.OrderedN lo hi ns) :
    OrderedD lo hi (ofInlineList ns) := by
  induction ns generalizing lo with
  | nil => simp only [ofInlineList, OrderedD]; exact h
  | cons n r ih =>
    obtain ⟨a, b, h1, h2, h3, h4⟩ := h
    simp only [ofInlineList]
    exact ⟨a, b, by rw [c05s_ofInline_range]; exact h1, h2, h3, ih h4⟩

mutual
theorem c05s_ofInline_every {B : Nat} (n : Inline.Node) (h : Inline.WellRanged n) (a b : Nat)
    (hr : n.range = some (a, b)) (hb : b ≤ B) : Every (NodeOrdB B) (ofInline n) := by
  match n with
  | ⟨v, r, cs⟩ =>
    rw [Inline.WellRanged_eq] at h
    obtain ⟨⟨a', b', q1, q2, q3⟩, hcs⟩ := h
    simp only at hr q1 q3 hcs
    rw [hr] at q1
    simp only [Option.some.injEq, Prod.mk.injEq] at q1
    obtain ⟨rfl, rfl⟩ := q1
    unfold ofInline
    exact .mk _ ⟨a, b, hr, q2, hb, c05s_ofInlineList_ordered q3⟩
      (c05s_ofInlineList_every cs hcs a b q3 hb)
theorem c05s_ofInlineList_every {B : Nat} (ns : List Inline.Node) (h : Inline.WellRangedList ns)
    (lo hi : Nat) (ho : Inline.OrderedN lo hi ns) (hb : hi ≤ B) :
    ∀ c ∈ ofInlineList ns, Every (NodeOrdB B) c := by
  match ns with
  | [] => simp [ofInlineList]
  | n :: r =>
    simp only [Inline.WellRangedList] at h
    obtain ⟨a, b, h1, h2, h3, h4⟩ := ho
    intro x hx
    simp only [ofInlineList, List.mem_cons] at hx
    rcases hx with rfl | hx
    · exact c05s_ofInline_every n h.1 a b h1 (Nat.le_trans h4.le hb)
    · exact c05s_ofInlineList_every r h.2 b hi h4 hb x hx
end

mutual
theorem c05s_spliceNode_ord {icfg : Inline.Cfg} {src : List Char} (b : Block.BNode) (t : Node)
    (hg : Block.RangedB (PInl icfg) src b) (hn : InlNoRange b) (a z : Nat) (hr : b.range = some (a, z))
    (h : spliceNode icfg b = .ok t) : t.range = some (a, z) ∧ Every (NodeOrd src) t := by
  match b with
  | ⟨k, r, cs⟩ =>
    simp only [spliceNode] at h
    split at h
    · cases h
    · rename_i cs' hcs
      cases h
      obtain ⟨h1, _, h3, h4⟩ := hg.at a z hr
      obtain ⟨l1, l2⟩ := c05s_spliceList_ord cs cs' a z h4 h3.le hg.child hn.child hcs
      exact ⟨hr, .mk _ ⟨a, z, hr, h1, h3.le, l1⟩ l2⟩
theorem c05s_spliceList_ord {icfg : Inline.Cfg} {src : List Char} (cs : List Block.BNode) (out : List Node)
    (lo hi : Nat) (ho : Block.OrderedB (PInl icfg) lo hi cs) (hhi : hi ≤ Lines.byteLen src)
    (hg : ∀ c ∈ cs, Block.RangedB (PInl icfg) src c) (hn : ∀ c ∈ cs, InlNoRange c)
    (h : spliceList icfg cs = .ok out) :
    OrderedD lo hi out ∧ ∀ x ∈ out, Every (NodeOrd src) x := by
  match cs with
  | [] => simp [spliceList] at h; subst h; exact ⟨ho, by simp⟩
  | c :: rest =>
    obtain ⟨a, b, hsp, h1, h2, h3⟩ := ho
    have hgr : ∀ x ∈ rest, Block.RangedB (PInl icfg) src x := fun x hx => hg x (List.mem_cons_of_mem _ hx)
    have hnr : ∀ x ∈ rest, InlNoRange x := fun x hx => hn x (List.mem_cons_of_mem _ hx)
    simp only [spliceList] at h
    split at h
    · -- a placeholder: it has no range, its span is a stretch `PInl` accepts
      rename_i content mapping hk
      split at h
      · cases h
      · rename_i ns hns
        split at h
        · cases h
        · rename_i rest' hrest
          cases h
          obtain ⟨i1, i2⟩ := c05s_spliceList_ord rest rest' b hi h3 hhi hgr hnr hrest
          have hnone : c.range = none := (hn c (by simp)).at content mapping hk
          unfold Block.SpanB at hsp
          rw [hnone] at hsp
          obtain ⟨c', m', hk', _, hp⟩ := hsp
          rw [hk] at hk'
          cases hk'
          obtain ⟨p1, p2⟩ := hp ns hns
          refine ⟨((c05s_ofInlineList_ordered p1).widen h1 (Nat.le_refl _)).append i1, ?_⟩
          intro x hx
          rcases List.mem_append.mp hx with hx | hx
          · exact c05s_ofInlineList_every ns p2 a b p1 (Nat.le_trans i1.le hhi) x hx
          · exact i2 x hx
    · -- any other child: walked, it keeps its range
      rename_i hk
      split at h
      · cases h
      · rename_i c' hc'
        split at h
        · cases h
        · rename_i rest' hrest
          cases h
          obtain ⟨i1, i2⟩ := c05s_spliceList_ord rest rest' b hi h3 hhi hgr hnr hrest
          have hrange := Block.spanB_kind hsp (fun c' m hc => hk c' m hc)
          obtain ⟨j1, j2⟩ := c05s_spliceNode_ord c c' (hg c (by simp)) (hn c (by simp)) a b hrange hc'
          refine ⟨⟨a, b, j1, h1, h2, i1⟩, ?_⟩
          intro x hx
          rcases List.mem_cons.mp hx with rfl | hx
          · exact j2
          · exact i2 x hx
end

theorem c05s_markerToText_range (n : Node) : (markerToText n).range = n.range := by
  unfold markerToText; split <;> rfl

theorem c05s_markerToText_children (n : Node) : (markerToText n).children = n.children := by
  unfold markerToText; split <;> rfl

theorem c05s_keep_emptied (n : Node) : keep (emptied n) = false := rfl

/-- pass 2 + `retain`: the list stays ordered inside the same bounds (a merged text takes the hull
    of two adjacent members; the emptied second text is dropped), and every member — the emptied
    ones included, which keep their old range until they are filtered — is still `NodeOrdB` -/
theorem c05s_mergeLoop_ord {Q : Node → Prop} (hQ : RangeOnly Q) {B : Nat} (hi : Nat) (rest : List Node) : ∀ (cur : Node) (lo : Nat),
    OrderedD lo hi (cur :: rest) → (∀ x ∈ cur :: rest, Every (fun n => NodeOrdB B n ∧ Q n) x) →
    OrderedD lo hi ((mergeLoop cur rest).filter keep) ∧ ∀ x ∈ mergeLoop cur rest, Every (fun n => NodeOrdB B n ∧ Q n) x := by
  induction rest with
  | nil =>
    intro cur lo ho he
    simp only [mergeLoop]
    exact ⟨ho.filter keep, he⟩
  | cons nxt rest ih =>
    intro cur lo ho he
    obtain ⟨a, b, q1, q2, q3, c, d, r1, r2, r3, r4⟩ := ho
    simp only [mergeLoop]
    split
    · -- two adjacent texts
      have hm : (merged cur nxt).range = some (a, d) := by simp [merged, q1, r1]
      have hcur := he cur (by simp)
      have hnxt := he nxt (by simp)
      have hd : d ≤ B := by
        obtain ⟨x, y, s1, _, s3, _⟩ := hnxt.here.1
        rw [r1] at s1; cases s1; exact s3
      have hmer : Every (fun n => NodeOrdB B n ∧ Q n) (merged cur nxt) :=
        c05s_every_hull q1 hm (Nat.le_refl _) (by omega) hd rfl (hQ.hull hcur.here.2 hnxt.here.2) hcur
      obtain ⟨i1, i2⟩ := ih (merged cur nxt) lo ⟨a, d, hm, q2, by omega, r4⟩ (by
        intro x hx
        rcases List.mem_cons.mp hx with rfl | hx
        · exact hmer
        · exact he x (by simp [hx]))
      refine ⟨?_, ?_⟩
      · rw [List.filter_cons, c05s_keep_emptied]
        exact i1
      · intro x hx
        rcases List.mem_cons.mp hx with rfl | hx
        · exact c05s_every_congr hQ (n := nxt) rfl rfl hnxt
        · exact i2 x hx
    · obtain ⟨i1, i2⟩ := ih nxt b ⟨c, d, r1, r2, r3, r4⟩ (fun x hx => he x (List.mem_cons_of_mem _ hx))
      refine ⟨?_, ?_⟩
      · simp only [List.filter_cons]
        split
        · exact ⟨a, b, q1, q2, q3, i1⟩
        · exact i1.widen (by omega) (Nat.le_refl _)
      · intro x hx
        rcases List.mem_cons.mp hx with rfl | hx
        · exact he _ (by simp)
        · exact i2 x hx

theorem c05s_fragmentsJoin_ord {Q : Node → Prop} (hQ : RangeOnly Q) {B lo hi : Nat} {cs : List Node} (ho : OrderedD lo hi cs)
    (he : ∀ x ∈ cs, Every (fun n => NodeOrdB B n ∧ Q n) x) :
    OrderedD lo hi (fragmentsJoin cs) ∧ ∀ x ∈ fragmentsJoin cs, Every (fun n => NodeOrdB B n ∧ Q n) x := by
  have ho1 : OrderedD lo hi (pass1 cs) := (c05s_ordered_map c05s_markerToText_range).mpr ho
  have he1 : ∀ x ∈ pass1 cs, Every (fun n => NodeOrdB B n ∧ Q n) x := by
    intro x hx
    obtain ⟨c, hc, rfl⟩ := List.mem_map.mp hx
    exact c05s_every_congr hQ (c05s_markerToText_range c) (c05s_markerToText_children c) (he c hc)
  unfold fragmentsJoin
  cases hp : pass1 cs with
  | nil => simp only [mergeAll, List.filter_nil]; rw [hp] at ho1; exact ⟨ho1, by simp⟩
  | cons c r =>
    rw [hp] at ho1 he1
    obtain ⟨i1, i2⟩ := c05s_mergeLoop_ord hQ hi r c lo ho1 he1
    exact ⟨i1, fun x hx => i2 x (List.mem_filter.mp hx).1⟩

theorem nodeOrdQ_joinStable {Q : Node → Prop} (hQ : RangeOnly Q) (B : Nat) :
    JoinStable fun n => NodeOrdB B n ∧ Q n :=
  ⟨fun _ he => by
    obtain ⟨_, _, _, _, _, h4⟩ := he.here.1
    exact (c05s_fragmentsJoin_ord hQ h4 he.child).2,
   fun n he => by
    obtain ⟨⟨a, b, h1, h2, h3, h4⟩, hq⟩ := he.here
    rw [joinNode_eq, joinList_eq_map]
    exact ⟨⟨a, b, h1, h2, h3,
      (c05s_ordered_map joinNode_range).mpr (c05s_fragmentsJoin_ord hQ h4 he.child).1⟩, hQ.congr (n := n) rfl hq⟩⟩

theorem nodeOrdQ_attrBlind {Q : Node → Prop} (hQ : RangeOnly Q) (B : Nat) : AttrBlind fun n => NodeOrdB B n ∧ Q n :=
  fun f n ⟨⟨a, b, h1, h2, h3, h4⟩, hq⟩ =>
    ⟨⟨a, b, h1, h2, h3, (c05s_ordered_map (mapAttrs_range f)).mpr h4⟩, hQ.congr (n := n) rfl hq⟩

theorem nodeOrdB_joinStable (B : Nat) : JoinStable (NodeOrdB B) :=
  ⟨fun n he x hx => every_and_true.mp ((nodeOrdQ_joinStable rangeOnly_true B).keep n (every_and_true.mpr he) x hx),
   fun n he => ((nodeOrdQ_joinStable rangeOnly_true B).node n (every_and_true.mpr he)).1⟩

theorem nodeOrdB_attrBlind (B : Nat) : AttrBlind (NodeOrdB B) :=
  fun f n h => (nodeOrdQ_attrBlind rangeOnly_true B f n ⟨h, trivial⟩).1

theorem c05s_sourceposList_every {B : Nat} {src : List Char} {marks : List SourceMap.Mark}
    (cs cs' : List Node) (lo hi : Nat) (ho : OrderedD lo hi cs) (he : ∀ c ∈ cs, Every (NodeOrdB B) c)
    (h : sourceposList src marks cs = .ok cs') :
    OrderedD lo hi cs' ∧ ∀ c ∈ cs', Every (NodeOrdB B) c := by
  refine ⟨?_, sourceposList_every_of (nodeOrdB_attrBlind B _) he h⟩
  rw [sourceposList_eq_map h]
  exact (c05s_ordered_map (mapAttrs_range _)).mpr ho

/-- **`afterBlocks_nodeOrd`.**  If the tree of the block pass is `RangedB` for the claim `PInl`
    (every placeholder's inline run yields well-ranged nodes in order inside the placeholder's
    stretch), its root has a range inside the source and no ranged node is a placeholder, then in the
    tree the core chain returns EVERY node — block or inline level — has a range `(a, b)`,
    `a ≤ b ≤ |src|`, and its children's ranges lie inside `[a, b]`, in source order, without overlap;
    the root keeps its range. -/
theorem afterBlocks_nodeOrd {cfg : DocCfg} {src : List Char} {root : Block.BNode} {refs : Refs.RefMap}
    {t : Node} {a z : Nat} (hroot : root.range = some (a, z))
    (hg : Block.RangedB (PInl (cfg.inlineCfg refs)) src root) (hn : InlNoRange root)
    (h : afterBlocks cfg src root refs = .ok t) : t.range = some (a, z) ∧ Every (NodeOrd src) t := by
  obtain ⟨t0, hs, hf⟩ := afterBlocks_ok h
  obtain ⟨r0, e0⟩ := c05s_spliceNode_ord root t0 hg hn a z hroot hs
  exact ⟨(finish_root hf).2.trans r0,
    finish_stable (fun _ => nodeOrdB_joinStable _) (fun _ => nodeOrdB_attrBlind _) hf e0⟩

/-! ## non-vacuity and witnesses -/

mutual
/-- a document tree in pre-order: (depth, start, end) of every node — block and inline level
    (`(0, 0)` would stand for a missing range: none occurs below) -/
def c05s_flat (d : Nat) : Node → List (Nat × Nat × Nat)
  | ⟨_, r, _, cs⟩ => (d, (r.getD (0, 0)).1, (r.getD (0, 0)).2) :: c05s_flatList (d + 1) cs
def c05s_flatList (d : Nat) : List Node → List (Nat × Nat × Nat)
  | [] => []
  | k :: ks => c05s_flat d k ++ c05s_flatList d ks
end

/-- the shape of the conclusion on a parsed document: root, paragraph, `Text "a "`, `Em` with its
    `Text "b"` inside the delimiters, and ONE `Text " c*d"` at `(5, 9)` … -/
example : (parseDoc (exCfg false 100) "a *b* c*d".toList).toOption.map (c05s_flat 0) =
    some [(0, 0, 9), (1, 0, 9), (2, 0, 2), (2, 2, 5), (3, 3, 4), (2, 5, 9)] := by decide_lits

/-- … which the join pass made of three adjacent members `Text " c"` `(5, 7)`, the left-over
    delimiter `EmphMarker` `(7, 8)` and `Text "d"` `(8, 9)` of the tree the splice walk returns: the
    merged node takes the hull, the emptied ones are dropped -/
example : (match Block.parseBlocks (exCfg false 100).blockCfg "a *b* c*d".toList with
      | .ok (root, refs) => (spliceNode ((exCfg false 100).inlineCfg refs) root).toOption.map (c05s_flat 0)
      | .error _ => none) =
    some [(0, 0, 9), (1, 0, 9), (2, 0, 2), (2, 2, 5), (3, 3, 4), (2, 5, 7), (2, 7, 8), (2, 8, 9)] := by
  decide +kernel

/-- a tight list: the inline nodes hang directly under the items (their paragraphs are dissolved) -/
example : (parseDoc (exCfg false 100) "- a\n- *b*".toList).toOption.map (c05s_flat 0) =
    some [(0, 0, 9), (1, 0, 9), (2, 0, 3), (3, 2, 3), (2, 4, 9), (3, 6, 9), (4, 7, 8)] := by decide_lits

/-! ### the hypotheses of `afterBlocks_nodeOrd` are satisfiable -/

/-- `Inline.OrderedN`, as a test -/
def c05s_ordNb (hi : Nat) : Nat → List Inline.Node → Bool
  | lo, [] => decide (lo ≤ hi)
  | lo, n :: r =>
    match n.range with
    | some (a, b) => decide (lo ≤ a) && decide (a ≤ b) && c05s_ordNb hi b r
    | none => false

mutual
/-- `Inline.WellRanged`, as a test -/
def c05s_wrb : Inline.Node → Bool
  | ⟨_, r, cs⟩ =>
    (match r with
     | some (a, b) => decide (a ≤ b) && c05s_ordNb b a cs
     | none => false) && c05s_wrbList cs
def c05s_wrbList : List Inline.Node → Bool
  | [] => true
  | c :: cs => c05s_wrb c && c05s_wrbList cs
end

theorem c05s_ordNb_sound {hi : Nat} : ∀ (l : List Inline.Node) (lo : Nat), c05s_ordNb hi lo l = true →
    Inline.OrderedN lo hi l
  | [], lo, h => by simp only [c05s_ordNb, decide_eq_true_eq] at h; exact h
  | n :: r, lo, h => by
    simp only [c05s_ordNb] at h
    split at h
    · rename_i a b hr
      simp only [Bool.and_eq_true, decide_eq_true_eq] at h
      exact ⟨a, b, hr, h.1.1, h.1.2, c05s_ordNb_sound r b h.2⟩
    · cases h

mutual
theorem c05s_wrb_sound (n : Inline.Node) (h : c05s_wrb n = true) : Inline.WellRanged n := by
  match n with
  | ⟨v, r, cs⟩ =>
    simp only [c05s_wrb, Bool.and_eq_true] at h
    obtain ⟨h1, h2⟩ := h
    simp only [Inline.WellRanged]
    refine ⟨?_, c05s_wrbList_sound cs h2⟩
    split at h1
    · rename_i a b
      simp only [Bool.and_eq_true, decide_eq_true_eq] at h1
      exact ⟨a, b, rfl, h1.1, c05s_ordNb_sound cs a h1.2⟩
    · cases h1
theorem c05s_wrbList_sound (l : List Inline.Node) (h : c05s_wrbList l = true) : Inline.WellRangedList l := by
  match l with
  | [] => trivial
  | c :: cs =>
    simp only [c05s_wrbList, Bool.and_eq_true] at h
    exact ⟨c05s_wrb_sound c h.1, c05s_wrbList_sound cs h.2⟩
end

/-- `PInl` for one placeholder, by evaluation -/
theorem c05s_pinl_of_check {icfg : Inline.Cfg} {c : List Char} {m : List (Nat × Nat)} {a b : Nat}
    (h : (match Inline.parseInline icfg c m with
          | .ok ns => c05s_ordNb b a ns && c05s_wrbList ns
          | .error _ => true) = true) : PInl icfg c m a b := by
  intro ns hns
  rw [hns] at h
  simp only [Bool.and_eq_true] at h
  exact ⟨c05s_ordNb_sound ns a h.1, c05s_wrbList_sound ns h.2⟩

/-- the block tree of `"a *b* c*d"` -/
def c05s_exSrc : List Char := "a *b* c*d".toList
def c05s_exRoot : Block.BNode :=
  ⟨.root, some (0, 9), [⟨.paragraph, some (0, 9), [⟨.inlineRoot c05s_exSrc [(0, 0)], none, []⟩]⟩]⟩

mutual
/-- a block tree in pre-order, with every field -/
def c05s_flatB (d : Nat) : Block.BNode → List (Nat × Block.Kind × Option (Nat × Nat))
  | ⟨k, r, cs⟩ => (d, k, r) :: c05s_flatBList (d + 1) cs
def c05s_flatBList (d : Nat) : List Block.BNode → List (Nat × Block.Kind × Option (Nat × Nat))
  | [] => []
  | k :: ks => c05s_flatB d k ++ c05s_flatBList d ks
end

/-- … is what the block pass returns for it -/
example : (Block.parseBlocks (exCfg false 100).blockCfg c05s_exSrc).toOption.map
      (fun x => c05s_flatB 0 x.1) = some (c05s_flatB 0 c05s_exRoot) ∧
    (Block.parseBlocks (exCfg false 100).blockCfg c05s_exSrc).toOption.map (fun x => x.2.isEmpty) =
      some true := by
  unfold c05s_exSrc
  decide_lits

theorem c05s_bd_zero (src : List Char) : Bd src 0 := ⟨[], src, rfl, rfl⟩
theorem c05s_bd_len (src : List Char) : Bd src (Lines.byteLen src) := ⟨src, [], by simp, rfl⟩

theorem c05s_exRoot_ranged : Block.RangedB (PInl ((exCfg false 100).inlineCfg [])) c05s_exSrc c05s_exRoot :=
  Block.rangedB_wrap .root
    (Block.rangedB_text .paragraph (a := 0) (b := 9) (by omega) (c05s_bd_zero _) (c05s_bd_len c05s_exSrc)
      (c05s_pinl_of_check (by decide +kernel)) (Nat.le_refl _) (by omega) (Nat.le_refl _))
    rfl (c05s_bd_zero _) (c05s_bd_len c05s_exSrc) (Nat.le_refl _) (Nat.le_refl _)

theorem c05s_exRoot_noRange : InlNoRange c05s_exRoot := inlNoRangeB_sound _ (by decide)

theorem c05s_ex_runs : ∃ t, afterBlocks (exCfg false 100) c05s_exSrc c05s_exRoot [] = .ok t :=
  ok_of_isSome (by decide +kernel)

/-- all hypotheses of `afterBlocks_nodeOrd` hold of the block tree of `"a *b* c*d"` (with the join
    pass: the configuration has emphasis rules) -/
example : ∃ t, afterBlocks (exCfg false 100) c05s_exSrc c05s_exRoot [] = .ok t ∧
    t.range = some (0, 9) ∧ Every (NodeOrd c05s_exSrc) t :=
  ok_and c05s_ex_runs fun _ hp => afterBlocks_nodeOrd rfl c05s_exRoot_ranged c05s_exRoot_noRange hp

/-- **`InlNoRange` is needed** (for an arbitrary tree; the trees of `parseBlocks` have it): a node with
    a range whose VALUE is the placeholder satisfies `RangedB` for every claim `P` — nothing is
    claimed about its text — and the splice walk replaces it all the same: here by a `Text` at
    `(5, 7)`, outside the root `(0, 1)` and the one-byte source -/
def c05s_badRoot : Block.BNode :=
  ⟨.root, some (0, 1), [⟨.inlineRoot ['a', 'b'] [(0, 5)], some (0, 1), []⟩]⟩

example : Block.RangedB (PInl ((exCfg false 100).inlineCfg [])) ['x'] c05s_badRoot := by
  have h1 : Bd ['x'] 1 := c05s_bd_len ['x']
  refine .mk _ (fun a b h => ?_) (fun h => by cases h) ?_
  · cases h
    exact ⟨by omega, c05s_bd_zero _, h1, 0, 1, rfl, Nat.le_refl _, by omega, Nat.le_refl 1⟩
  · intro c hc
    simp only [c05s_badRoot, List.mem_singleton] at hc
    subst hc
    exact Block.rangedB_leaf _ (by omega) (c05s_bd_zero _) h1

example : (afterBlocks (exCfg false 100) ['x'] c05s_badRoot []).toOption.map (c05s_flat 0) =
    some [(0, 0, 1), (1, 5, 7)] := by decide +kernel

end MdIt.Pipeline

/-! # `InlNoRange` holds of every tree of the block pass

  Every node that the grammar of block trees generates (`Lemmas/BlockGrammar.lean`) is a ranged node
  whose value is not the placeholder, or the placeholder `⟨.inlineRoot c m, none, []⟩`
  (`Block.Emits.all`); `mark_tight_paragraphs` only lifts the children of a paragraph into its item. -/

namespace MdIt.Block
open MdIt.Pipeline (InlNoRange)

theorem inlNoRange_of_all {n : BNode}
    (h : BNode.All (fun n => ∀ c m, n.kind = .inlineRoot c m → n.range = none) n) : InlNoRange n := by
  induction h with
  | mk n hn _ ih => exact .mk n hn ih

theorem Emits.inlNoRange {G : Gram} {L : Nat} {n : BNode} (h : Emits G L n) : InlNoRange n :=
  inlNoRange_of_all (h.all (fun k _ _ hk c m e => by cases (e : k = .inlineRoot c m); cases hk)
    fun _ _ _ _ _ => rfl)

/-- **`parseBlocks_inlNoRange`.**  In every tree the block parser returns, a node whose value is the
    `InlineRoot` placeholder has no range (whatever the chain: the no-paragraph fallback included). -/
theorem parseBlocks_inlNoRange {cfg : Cfg} {src : List Char} {root : BNode} {refs : Refs.RefMap}
    (h : parseBlocks cfg src = .ok (root, refs)) : InlNoRange root := by
  obtain ⟨cs, rfl, hcs⟩ := parseBlocks_emits h
  exact .mk _ (fun c m e => nomatch e) fun c hc => (hcs c hc).inlNoRange

end MdIt.Block

namespace MdIt.Pipeline

/-- **how a document theorem of C05 is assembled**: the block pass establishes a claim about every placeholder
    (`hblk`: `Block.parseBlocks_geo` / `_geo2` / `_geo3`, then `RangedB.imp` with what the inline parser
    makes of such a table), the passes behind it carry the claim to the finished tree (`htr`: one of the
    `afterBlocks_*` theorems) -/
theorem parseDoc_assemble {cfg : DocCfg} {src : List Char} {t : Node} {PI : Refs.RefMap → Block.InlP}
    {G : Prop}
    (hblk : ∀ root refs, Block.parseBlocks cfg.blockCfg src = .ok (root, refs) →
      root.range = some (0, Lines.byteLen src) ∧ Block.RangedB (PI refs) src root)
    (htr : ∀ root refs, root.range = some (0, Lines.byteLen src) → Block.RangedB (PI refs) src root →
      InlNoRange root → afterBlocks cfg src root refs = .ok t → G)
    (h : parseDoc cfg src = .ok t) : G := by
  unfold parseDoc at h
  split at h
  · cases h
  · next root refs hb =>
    obtain ⟨hr, hg⟩ := hblk root refs hb
    exact htr root refs hr hg (Block.parseBlocks_inlNoRange hb) h

/-- **`parseDoc_nodeOrd`.**  The two results together, for `parseDoc`: if the rules that make
    placeholders establish the claim `PInl` (`InlSpec`: what the tables of `get_lines` / the ATX rule
    and the inline range theorems have to provide — independent of this file), then EVERY node of the
    parsed tree has a range `(a, b)` with `a ≤ b ≤ |src|`, its children's ranges inside `[a, b]`, in
    source order, without overlap; the root has `(0, |src|)`.  The size bound is that of
    `doc_block_ranges` (the `i32` fields of the block state). -/
theorem parseDoc_nodeOrd {cfg : DocCfg} {src : List Char} {t : Node}
    (hsmall : 4 * Lines.byteLen src + 8 < 2147483648)
    (hP : ∀ refs, Block.InlSpec cfg.blockCfg.hasPara (PInl (cfg.inlineCfg refs)))
    (h : parseDoc cfg src = .ok t) : t.range = some (0, Lines.byteLen src) ∧ Every (NodeOrd src) t :=
  parseDoc_assemble (fun _ refs hb => Block.parseBlocks_geo (hP refs) hsmall hb)
    (fun _ _ hr hg hn h => afterBlocks_nodeOrd hr hg hn h) h

/-- the hypothesis `InlNoRange` of `afterBlocks_nodeOrd` on a parsed block tree -/
example : ∃ root refs, Block.parseBlocks (exCfg false 100).blockCfg "- a\n  # *b*\n".toList = .ok (root, refs) ∧
    InlNoRange root :=
  (ok_of_isSome (by decide_lits)).elim fun (x : Block.BNode × Refs.RefMap) hp =>
    ⟨x.1, x.2, hp, Block.parseBlocks_inlNoRange hp⟩

end MdIt.Pipeline
