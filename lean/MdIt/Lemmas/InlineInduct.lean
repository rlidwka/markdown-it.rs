/-
  Case analyses and induction principles of the recursive functions of the inline model
  (`Model/Inline.lean`), in the form the lemma files use them: one case per way a call can end,
  with what was read on the way as hypotheses.

  Partial correctness has one shape throughout: a reflexive, transitive relation `R` between the state
  before and after (an invariant `I` is the relation `I s → I s'`).  `labelLoop_rel` … `parseLink_rel`
  carry `R` from `skip` through `parse_link`; the chain, one iteration of the tokenizer loop and the fuel
  induction follow in `Lemmas/InlineTri.lean` (`tokStep_rel`, `tokLoop_rel`).
-/
import MdIt.Model.Inline

namespace MdIt.Inline

theorem liftR_ok {α : Type} {x : Except RPanic α} {a : α} : liftR x = .ok a ↔ x = .ok a := by
  cases x <;> simp [liftR]

theorem liftR_error {α : Type} {x : Except RPanic α} {e : Panic} (h : liftR x = .error e) :
    ∃ r, e = .rust r := by
  cases x with
  | error r => cases h; exact ⟨r, rfl⟩
  | ok a => cases h

/-- **the label loop** (`parse_link_label`): a call ends in an error (`fuel`, `window`, `skipErr`,
    `under`), at the end of the window, at the closing bracket, behind a nested `[..]` that `skip`
    did not take in one step (`stop`), or goes on behind one `skip` step (`step`). -/
theorem labelLoop_induct {skip : IState → Except Panic IState} {en : Bool}
    {motive : Nat → Int → IState → Except Panic (Option Bool × IState) → Prop}
    (fuel : ∀ level st, motive 0 level st (.error .fuel))
    (window : ∀ n level st e, liftR st.window = .error e → motive (n + 1) level st (.error e))
    (eof : ∀ n level st, liftR st.window = .ok [] → motive (n + 1) level st (.ok (some false, st)))
    (close : ∀ n level st r, liftR st.window = .ok (']' :: r) →
      motive (n + 1) level st (.ok (some true, st)))
    (skipErr : ∀ n level st ch r e, liftR st.window = .ok (ch :: r) → skip st = .error e →
      motive (n + 1) level st (.error e))
    (under : ∀ n level st r st1, liftR st.window = .ok ('[' :: r) → skip st = .ok st1 →
      st1.pos = 0 → motive (n + 1) level st (.error (.rust .underflow)))
    (stop : ∀ n level st r st1, liftR st.window = .ok ('[' :: r) → skip st = .ok st1 →
      motive (n + 1) level st (.ok (none, st1)))
    (step : ∀ n level level' st ch r st1, liftR st.window = .ok (ch :: r) → skip st = .ok st1 →
      motive n level' st1 (labelLoop skip en n level' st1) →
      motive (n + 1) level st (labelLoop skip en n level' st1)) :
    ∀ n level st, motive n level st (labelLoop skip en n level st) := by
  intro n level st
  fun_induction labelLoop skip en n level st with
  | case1 => exact fuel _ _
  | case2 _ _ _ _ hw => exact window _ _ _ _ hw
  | case3 _ _ _ hw => exact eof _ _ _ hw
  | case4 _ _ _ _ _ hw hc => rw [hc.1] at hw; exact close _ _ _ _ hw
  | case5 _ _ _ _ _ hw _ _ hs => exact skipErr _ _ _ _ _ _ hw hs
  | case6 _ _ _ _ _ hs h0 hw => exact under _ _ _ _ _ hw hs h0
  | case8 _ _ _ _ _ _ hs _ _ _ hw => exact stop _ _ _ _ _ hw hs
  | case7 _ _ _ _ _ _ hs _ _ hw _ _ ih | case9 _ _ _ _ _ _ hs _ _ _ hw _ _ ih =>
    exact step _ _ _ _ _ _ _ hw hs ih
  | case10 _ _ _ _ _ hw _ _ _ hs _ ih => exact step _ _ _ _ _ _ _ hw hs ih

/-- success of `parse_link_label`: the label loop ran from `start + 1`, then `pos` was restored;
    a label end is the position where the loop stopped -/
theorem parseLinkLabel_ok {skip : IState → Except Panic IState} {fuel : Nat} {st : IState}
    {start : Nat} {en : Bool} {o : Option Nat} {st' : IState} :
    parseLinkLabel skip fuel st start en = .ok (o, st') →
    ∃ res st1, labelLoop skip en fuel 1 { st with pos := start + 1 } = .ok (res, st1) ∧
      st' = { st1 with pos := st.pos } ∧ ∀ e, o = some e → res = some true ∧ e = st1.pos := by
  fun_cases parseLinkLabel skip fuel st start en with
  | case1 => intro h; cases h
  | case2 _ st1 hl => intro h; cases h; exact ⟨_, _, hl, rfl, fun _ h => nomatch h⟩
  | case3 _ found st1 hl =>
    intro h; cases h
    refine ⟨_, _, hl, rfl, fun e he => ?_⟩
    cases found with
    | true => cases he; exact ⟨rfl, rfl⟩
    | false => cases he

/-- failure of `parse_link_label` is failure of the label loop -/
theorem parseLinkLabel_error {skip : IState → Except Panic IState} {fuel : Nat} {st : IState}
    {start : Nat} {en : Bool} {e : Panic} :
    parseLinkLabel skip fuel st start en = .error e →
    labelLoop skip en fuel 1 { st with pos := start + 1 } = .error e := by
  fun_cases parseLinkLabel skip fuel st start en with
  | case1 _ hl => intro h; cases h; exact hl
  | case2 | case3 => intro h; cases h

/-- success of the reference form of `parse_link`: the state is the one given, or the text behind the first
    label starts with `[` and a second `parse_link_label` (no nesting) left the state; a result keeps the
    given label, ends behind the last label read, and has its destination from the reference map -/
theorem parseLinkRef_ok {cfg : Cfg} {skip : IState → Except Panic IState} {fuel : Nat} {st : IState}
    {ls le : Nat} {o : Option LinkRes} {st' : IState} :
    parseLinkRef cfg skip fuel st ls le = .ok (o, st') →
    ∃ x, (st' = st ∧ x = none ∨
        ∃ r1, liftR (liftOps (InlineOps.slice st.src (le + 1) st.posMax)) = .ok ('[' :: r1) ∧
          parseLinkLabel skip fuel st (le + 1) false = .ok (x, st')) ∧
      ∀ res, o = some res → res.labelStart = ls ∧ res.labelEnd = le ∧ res.endPos = x.getD le + 1 ∧
        ∃ refs label r, cfg.refs = some refs ∧ Refs.lookup cfg.normRef refs label = some r ∧
          res.href = some r.dest := by
  fun_cases parseLinkRef cfg skip fuel st ls le with
  | case1 | case2 | case4 => intro h; cases h
  | case3 w hw second ml pos st1 hsec | case5 w hw second ml pos st1 hsec | case6 w hw second ml pos st1 hsec =>
    intro h; cases h
    have hx : ∃ x, (st' = st ∧ x = none ∨
        ∃ r1, liftR (liftOps (InlineOps.slice st.src (le + 1) st.posMax)) = .ok ('[' :: r1) ∧
          parseLinkLabel skip fuel st (le + 1) false = .ok (x, st')) ∧ pos = x.getD le + 1 := by
      dsimp only [second] at hsec
      split at hsec
      · split at hsec
        · cases hsec
        · next x _ hl =>
          split at hsec
          · cases hsec
          · cases hsec; exact ⟨some x, .inr ⟨_, hw, hl⟩, rfl⟩
        · next hl => cases hsec; exact ⟨none, .inr ⟨_, hw, hl⟩, rfl⟩
      · cases hsec; exact ⟨none, .inl ⟨rfl, rfl⟩, rfl⟩
    obtain ⟨x, hx, hp⟩ := hx
    refine ⟨x, hx, fun res hr => ?_⟩
    cases hr <;> exact ⟨rfl, rfl, hp, _, _, _, ‹_›, ‹_›, rfl⟩

/-- failure of the reference form of `parse_link`: the slice behind the first label failed; or that text starts
    with `[` and the second `parse_link_label` failed, or the slice of the label it found did; or the slice of
    the first label failed -/
theorem parseLinkRef_error {cfg : Cfg} {skip : IState → Except Panic IState} {fuel : Nat} {st : IState}
    {ls le : Nat} {e : Panic} :
    parseLinkRef cfg skip fuel st ls le = .error e →
    liftR (liftOps (InlineOps.slice st.src (le + 1) st.posMax)) = .error e ∨
    (∃ r1, liftR (liftOps (InlineOps.slice st.src (le + 1) st.posMax)) = .ok ('[' :: r1) ∧
      (parseLinkLabel skip fuel st (le + 1) false = .error e ∨
        ∃ x st1, parseLinkLabel skip fuel st (le + 1) false = .ok (some x, st1) ∧
          liftR (liftOps (InlineOps.slice st.src (le + 1 + 1) x)) = .error e)) ∨
    liftR (liftOps (InlineOps.slice st.src ls le)) = .error e := by
  fun_cases parseLinkRef cfg skip fuel st ls le with
  | case3 | case5 | case6 => intro h; cases h
  | case1 _ he => intro h; cases h; exact .inl he
  | case2 w hw second _ hsec =>
    intro h; cases h
    dsimp only [second] at hsec
    split at hsec
    · split at hsec
      · next hl => cases hsec; exact .inr (.inl ⟨_, hw, .inl hl⟩)
      · next hl =>
        split at hsec
        · next he => cases hsec; exact .inr (.inl ⟨_, hw, .inr ⟨_, _, hl, he⟩⟩)
        · cases hsec
      · cases hsec
    · cases hsec
  | case4 _ _ _ ml _ _ _ _ _ labelE _ he =>
    intro h; cases h
    dsimp only [labelE] at he
    split at he
    · exact .inr (.inr he)
    · exact .inr (.inr he)
    · cases he
/-! ## relations every `skip` step keeps are kept by `parse_link`

`R` is a reflexive, transitive relation between states. -/

section
variable {R : IState → IState → Prop} (refl : ∀ s, R s s) (trans : ∀ {a b c}, R a b → R b c → R a c)
include refl trans

theorem labelLoop_rel {skip : IState → Except Panic IState} (hskip : ∀ s s', skip s = .ok s' → R s s')
    (en : Bool) : ∀ (n : Nat) (level : Int) (st : IState) (res : Option Bool) (st' : IState),
      labelLoop skip en n level st = .ok (res, st') → R st st' := by
  intro n level st
  induction n, level, st using labelLoop_induct (skip := skip) (en := en) with
  | fuel | window | skipErr | under => intro _ _ h; cases h
  | eof | close => intro _ _ h; cases h; exact refl _
  | stop _ _ _ _ _ _ hs => intro _ _ h; cases h; exact hskip _ _ hs
  | step _ _ _ _ _ _ _ _ hs ih => intro _ _ h; exact trans (hskip _ _ hs) (ih _ _ h)

/-- `R` does not look at `pos` -/
theorem parseLinkLabel_rel {skip : IState → Except Panic IState} (hskip : ∀ s s', skip s = .ok s' → R s s')
    (hpos : ∀ s p, R s { s with pos := p }) {fuel : Nat} {st : IState} {start : Nat} {en : Bool}
    {o : Option Nat} {st' : IState} (h : parseLinkLabel skip fuel st start en = .ok (o, st')) :
    R st st' := by
  obtain ⟨_, _, hl, rfl, _⟩ := parseLinkLabel_ok h
  exact trans (trans (hpos _ _) (labelLoop_rel refl trans hskip en _ _ _ _ _ hl)) (hpos _ _)

omit refl in
theorem parseLink_rel {cfg : Cfg} {skip : IState → Except Panic IState} {fuel : Nat}
    (hl : ∀ st start en o st', parseLinkLabel skip fuel st start en = .ok (o, st') → R st st')
    {st : IState} {pos : Nat} {en : Bool} {o : Option LinkRes} {st' : IState} :
    parseLink cfg skip fuel st pos en = .ok (o, st') → R st st' := by
  fun_cases parseLink cfg skip fuel st pos en with
  | case1 | case3 => intro h; cases h
  | case2 _ h1 | case4 _ _ h1 => intro h; cases h; exact hl _ _ _ _ _ h1
  | case5 _ _ h1 =>
    intro h
    obtain ⟨_, hx | ⟨_, _, hx⟩, _⟩ := parseLinkRef_ok h
    · rw [hx.1]; exact hl _ _ _ _ _ h1
    · exact trans (hl _ _ _ _ _ h1) (hl _ _ _ _ _ hx)
end

/-- the fall-back of the tokenizer loop: one character goes to the pending text -/
def charStep (st : IState) : Except Panic IState :=
  match firstChar st with
  | .error e => .error e
  | .ok ch =>
    match liftR (st.pushText st.pos (st.pos + ch.utf8Size)) with
    | .error e => .error e
    | .ok st'' => .ok { st'' with pos := st''.pos + ch.utf8Size }

/-- what the fall-back keeps -/
theorem fallback_keeps {st1 st' : IState} (h : charStep st1 = .ok st') :
    ∃ ch, firstChar st1 = .ok ch ∧ st'.pos = st1.pos + ch.utf8Size ∧ st'.cache = st1.cache ∧
      st'.backticks = st1.backticks ∧ st'.src = st1.src ∧ st'.posMax = st1.posMax ∧
      st'.level = st1.level := by
  unfold charStep at h
  split at h
  · simp at h
  · next ch hch =>
    split at h
    · simp at h
    · next st2 hp =>
      simp only [Except.ok.injEq] at h; subst h
      have hp' := liftR_ok.mp hp
      unfold IState.pushText at hp'
      split at hp'
      · cases hp'
      · cases hp'; exact ⟨ch, hch, rfl, rfl, rfl, rfl, rfl, rfl⟩

end MdIt.Inline
