/-
  C12 "context agreement", link contexts: what the link scanners (`Link.angleLoop`, `Link.titleLoop`,
  `Link.parseInlineTail`, `Block.refParse`) make of a valid character reference / backslash escape
  `R` (`Entity.Denotes lookup R X`) placed in

    (b) an inline destination   `(</R>)`
    (c) an inline title         `(/u "R")`
    (d) a definition line       `[k]: </R> "R"`

  `R` is a token string of the grammar of each scanner (`denotes_toks`; `Props/C04.lean`: `AngleToks`, `BareToks`,
  `TitleToks` — the escapes `\<`, `\>`, `\"`, `\\` are the grammars' backslash tokens), the scanners accept every
  token string (`AngleToks.scan`, …, `dest_of_angle`, `dest_of_bare`, `title_of_toks`), and `unescape_all` of the raw
  slice is `X` resp. `/X`.
-/
import MdIt.Props.C12
import MdIt.Props.C04
import MdIt.Model.Block

namespace MdIt.Link.C12X
open MdIt.Entity (Denotes)

variable {lookup : List Char → Option (List Char)} {R X : List Char}

/-! ## the characters of a reference -/

/-- the characters a character reference is made of -/
def entCh (c : Char) : Bool := Entity.isAlnum c || c == '&' || c == '#' || c == ';'

theorem entCh_cases {c : Char} (h : entCh c = true) :
    Entity.isAlnum c = true ∨ c = '&' ∨ c = '#' ∨ c = ';' := by
  simpa [entCh, or_assoc] using h

theorem entCh_ne {c : Char} (h : entCh c = true) (d : Char) (hd : entCh d = false) : c ≠ d := by
  intro he; subst he; rw [h] at hd; cases hd

/-- `R` is a run of reference characters, or one escape -/
theorem denotes_shape (h : Denotes lookup R X) :
    (∀ c ∈ R, entCh c = true) ∨ ∃ c, c ∈ Entity.escapable ∧ R = ['\\', c] := by
  cases h with
  | named n cs hn hl =>
    obtain ⟨c, t, rfl, hc, ht, _, _⟩ := Entity.namedSyntax_parts n hn
    left
    intro x hx
    simp only [List.cons_append, List.mem_cons, List.mem_append, List.not_mem_nil, or_false] at hx
    rcases hx with rfl | rfl | hx | rfl
    · decide
    · simp [entCh, Entity.isAlnum, hc]
    · simp [entCh, ht x hx]
    · decide
  | numeric cap hcap =>
    obtain ⟨ha, _, _⟩ := Entity.numericBody_alnum cap hcap
    left
    intro x hx
    simp only [List.mem_cons, List.mem_append, List.not_mem_nil, or_false] at hx
    rcases hx with rfl | rfl | hx | rfl
    · decide
    · decide
    · simp [entCh, ha x hx]
    · decide
  | escape c hc => exact .inr ⟨c, hc, rfl⟩

theorem escapable_ne_nl {c : Char} (h : c ∈ Entity.escapable) : c ≠ '\n' := by
  intro he; subst he; revert h; decide

/-! ## `unescape_all` -/

theorem denotes_head (h : Denotes lookup R X) : ∃ c0 R', R = c0 :: R' ∧ (c0 = '&' ∨ c0 = '\\') := by
  cases h with
  | named n cs hn hl => exact ⟨_, _, rfl, .inl rfl⟩
  | numeric cap hcap => exact ⟨_, _, rfl, .inl rfl⟩
  | escape c hc => exact ⟨_, _, rfl, .inr rfl⟩

theorem unescapeAll_denotes (h : Denotes lookup R X) (hno : ∀ s, lookup ('&' :: '#' :: s) = none) :
    Entity.unescapeAll lookup R = X := by
  obtain ⟨c0, R', hR, hc0⟩ := denotes_head h
  have hcont : (!R.contains '\\' && !R.contains '&') = false := by
    rcases hc0 with rfl | rfl <;> simp [hR]
  have := h.unescape hno []
  rw [List.append_nil, Entity.unescapeScan_nil, List.append_nil] at this
  unfold Entity.unescapeAll
  rw [hcont]
  simpa using this

theorem unescapeAll_slash_denotes (h : Denotes lookup R X) (hno : ∀ s, lookup ('&' :: '#' :: s) = none) :
    Entity.unescapeAll lookup ('/' :: R) = '/' :: X := by
  obtain ⟨c0, R', hR, hc0⟩ := denotes_head h
  have hcont : (!('/' :: R).contains '\\' && !('/' :: R).contains '&') = false := by
    rcases hc0 with rfl | rfl <;> simp [hR]
  have hnm : Entity.matchUnescapeAllRe ('/' :: R) = none := by
    simp [Entity.matchUnescapeAllRe, Entity.matchEscapeRe, Entity.matchEntityRe]
  have := h.unescape hno []
  rw [List.append_nil, Entity.unescapeScan_nil, List.append_nil] at this
  unfold Entity.unescapeAll
  rw [hcont]
  simp only [Bool.false_eq_true, if_false]
  rw [Entity.unescapeScan_nomatch _ _ _ hnm, this]

/-! ## `validate_link` -/

theorem utf8_slash (Y : List Char) : Link.utf8 ('/' :: Y) = 47 :: Link.utf8 Y := by
  simp [Link.utf8, Link.utf8Char]

theorem normalize_slash (bs : List Nat) : ∃ t, Link.normalizeLink (47 :: bs) = 47 :: t := by
  unfold Link.normalizeLink
  rw [Url.encodeL_keep_plain _ _ _ (by omega)]
  have : Url.encByte Link.linkSafe 47 = [47] := by decide +kernel
  rw [this]
  exact ⟨_, rfl⟩

theorem validate_slash (Y : List Char) :
    Link.validateLink (Link.normalizeLink (Link.utf8 ('/' :: Y))) = true := by
  rw [utf8_slash]
  obtain ⟨t, ht⟩ := normalize_slash (Link.utf8 Y)
  rw [ht]
  simp [Link.validateLink, Link.badProto, Link.startsCI, Link.sVbscript, Link.sJavascript, Link.sFile,
    Link.sData, Link.lower]

/-! ## `R` is a token string of every scanner's grammar (`Props/C04.lean`) -/

theorem entCh_notStop {c : Char} (h : entCh c = true) : Link.isBareStop c = false := by
  rcases entCh_cases h with h | rfl | rfl | rfl
  · simp [Entity.isAlnum, Entity.isAlpha, Entity.isDigit] at h
    simp [Link.isBareStop]; omega
  · decide
  · decide
  · decide

theorem escapable_notStop {c : Char} (h : c ∈ Entity.escapable) : Link.isBareStop c = false := by
  revert c; decide

/-- a run of reference characters is plain for every scanner -/
theorem entCh_toks {R : List Char} (hR : ∀ c ∈ R, entCh c = true) (l : Nat) (m : Char) (hm : entCh m = false) :
    AngleToks R ∧ BareToks l R l ∧ TitleToks m R 0 := by
  induction R with
  | nil => exact ⟨.nil, .nil _, .nil⟩
  | cons c r ih =>
    obtain ⟨i1, i2, i3⟩ := ih (fun x hx => hR x (by simp [hx]))
    have hc := hR c (by simp)
    exact ⟨.plain c r (entCh_ne hc _ (by decide)) (entCh_ne hc _ (by decide)) (entCh_ne hc _ (by decide))
        (entCh_ne hc _ (by decide)) i1,
      .plain _ _ c r (entCh_notStop hc) (entCh_ne hc _ (by decide)) (entCh_ne hc _ (by decide))
        (entCh_ne hc _ (by decide)) i2,
      .plain c r 0 (entCh_ne hc _ hm) (fun h => entCh_ne hc _ (by decide) h.1) (entCh_ne hc _ (by decide))
        (entCh_ne hc _ (by decide)) i3⟩

/-- **the one context lemma**: `R` is a token string of the `<…>` grammar, of the bare grammar (at any depth,
    depth unchanged) and of the title grammar of each closing marker (no line feed) -/
theorem denotes_toks (h : Denotes lookup R X) (l : Nat) (m : Char) (hm : m = '"' ∨ m = '\'' ∨ m = ')') :
    AngleToks R ∧ BareToks l R l ∧ TitleToks m R 0 := by
  rcases denotes_shape h with hR | ⟨c, hc, rfl⟩
  · exact entCh_toks hR l m (by rcases hm with rfl | rfl | rfl <;> decide)
  · exact ⟨.esc c [] (escapable_ne_nl hc) .nil, .esc _ _ c [] (escapable_notStop hc) (.nil _),
      by simpa [escapable_ne_nl hc] using TitleToks.esc (m := m) c [] 0 .nil⟩

theorem slash_angle (h : Denotes lookup R X) : AngleToks ('/' :: R) :=
  .plain '/' R (by decide) (by decide) (by decide) (by decide) (denotes_toks h 0 '"' (.inl rfl)).1

theorem slash_bare (h : Denotes lookup R X) : BareToks 0 ('/' :: R) 0 :=
  .plain 0 0 '/' R (by decide) (by decide) (by decide) (by decide) (denotes_toks h 0 '"' (.inl rfl)).2.1

/-! ## evaluation of the link parsers

  Every slice the parsers take is cut out of the window they start with (`Link.slice_cut`,
  `Link.slice_drop`), so positions stay sums of `byteLen`s and are never computed. -/

theorem slice_tail (P W : List Char) :
    Link.slice (P ++ W) (Link.byteLen P) (Link.byteLen (P ++ W)) = .ok W :=
  (Link.slice_ok_iff _ _ _ _).mpr ⟨P, [], (List.append_nil _).symm, rfl, Link.byteLen_append P W⟩

theorem slice_end {src t : List Char} {a max : Nat} (h : Link.slice src a max = .ok t) :
    max = a + Link.byteLen t := by
  obtain ⟨_, _, _, rfl, hb⟩ := (Link.slice_ok_iff _ _ _ _).mp h
  exact hb

theorem toks_u : BareToks 0 ['/', 'u'] 0 :=
  .plain 0 0 '/' _ (by decide) (by decide) (by decide) (by decide)
    (.plain 0 0 'u' _ (by decide) (by decide) (by decide) (by decide) (.nil 0))

theorem dest_u : Link.inlineDest (Entity.unescapeAll lookup) ['/', 'u'] = some [47, 117] := by
  have h1 : Entity.unescapeAll lookup ['/', 'u'] = ['/', 'u'] := by simp [Entity.unescapeAll]
  have h2 : Link.normalizeLink (Link.utf8 ['/', 'u']) = [47, 117] := by decide +kernel
  have h3 : Link.validateLink [47, 117] = true := by decide
  simp [Link.inlineDest, h1, h2, h3]

theorem dest_slash (h : Denotes lookup R X) (hno : ∀ s, lookup ('&' :: '#' :: s) = none) :
    Link.inlineDest (Entity.unescapeAll lookup) ('/' :: R) =
      some (Link.normalizeLink (Link.utf8 ('/' :: X))) := by
  simp only [Link.inlineDest, unescapeAll_slash_denotes h hno, validate_slash, if_true]

theorem skipWs_stop (c : Char) (cs : List Char) (pos : Nat) (h : Link.isWs c = false) :
    Link.skipWs (c :: cs) pos = pos := by
  simp [Link.skipWs, h]

/-! generic evaluation lemmas: every slice is a hypothesis -/

theorem plt_none (src rest : List Char) (c : Char) (start max : Nat)
    (h1 : Link.slice src start max = .ok (c :: rest)) (h2 : Link.titleMarker c = none) :
    Link.parseLinkTitle src start max = .ok none := by
  unfold Link.parseLinkTitle
  rw [h1]
  simp only [h2]

theorem itp_title (dec : List Char → List Char) (src chars chars' raw : List Char)
    (href : Option (List Nat)) (max pos p1 p2 p3 l : Nat)
    (h1 : Link.slice src pos max = .ok chars) (h2 : Link.skipWs chars pos = p1)
    (h3 : Link.parseLinkTitle src p1 max = .ok (some ⟨p2, l, raw⟩))
    (h4 : Link.slice src p2 max = .ok chars') (h5 : Link.skipWs chars' p2 = p3) :
    Link.inlineTitlePart dec src max href pos = .ok (href, some (dec raw), p3) := by
  unfold Link.inlineTitlePart
  rw [h1]
  simp only [h2, h3, h4, h5]

theorem itp_none (dec : List Char → List Char) (src chars : List Char)
    (href : Option (List Nat)) (max pos p1 : Nat)
    (h1 : Link.slice src pos max = .ok chars) (h2 : Link.skipWs chars pos = p1)
    (h3 : Link.parseLinkTitle src p1 max = .ok none) :
    Link.inlineTitlePart dec src max href pos = .ok (href, none, p1) := by
  unfold Link.inlineTitlePart
  rw [h1]
  simp only [h2, h3]

theorem pit_ok (dec : List Char → List Char) (src rest tl : List Char) (res : Link.Frag)
    (href : Option (List Nat)) (title : Option (List Char)) (pos max p1 p2 : Nat)
    (h0 : Link.slice src pos max = .ok ('(' :: rest)) (h1 : Link.skipWs rest (pos + 1) = p1)
    (h2 : Link.parseLinkDestination src p1 max = .ok (some res))
    (h3 : Link.inlineAfterDest dec src p1 max res = .ok (href, title, p2))
    (h4 : Link.slice src p2 max = .ok (')' :: tl)) :
    Link.parseInlineTail dec src pos max = .ok (some ⟨href, title, p2 + 1⟩) := by
  unfold Link.parseInlineTail
  rw [h0]
  simp only [h1, h2, h3, h4]

/-- an inline tail `(D)` with a destination and nothing else, `D` not starting with a blank -/
theorem tail_notitle (dec : List Char → List Char) (src rest raw : List Char) (c : Char)
    (href : List Nat) (pos max p : Nat)
    (h0 : Link.slice src pos max = .ok ('(' :: c :: rest)) (hc : Link.isWs c = false)
    (hdest : Link.parseLinkDestination src (pos + 1) max = .ok (some ⟨p, 0, raw⟩))
    (hhref : Link.inlineDest dec raw = some href) (h6 : Link.slice src p max = .ok [')']) :
    Link.parseInlineTail dec src pos max = .ok (some ⟨some href, none, max⟩) := by
  have hmax := slice_end h6
  subst hmax
  have hafter : Link.inlineAfterDest dec src (pos + 1) (p + Link.byteLen [')']) ⟨p, 0, raw⟩ =
      .ok (some href, none, p) := by
    unfold Link.inlineAfterDest
    simp only [hhref]
    exact itp_none _ src _ _ _ _ _ h6 (skipWs_stop _ _ _ (by decide)) (plt_none src _ _ _ _ h6 (by decide))
  exact pit_ok _ src _ _ _ _ _ _ _ _ _ h0 (skipWs_stop _ _ _ hc) hdest hafter h6

/-! ## (c) the inline title -/

/-- (c) inline link tail `(/u oRm)` in a window of the source, for the delimiter pairs
    (o, m) = (", "), (', '), ((, )) -/
theorem tail_title (h : Denotes lookup R X) (hno : ∀ s, lookup ('&' :: '#' :: s) = none)
    (o m : Char) (hom : (o = '"' ∧ m = '"') ∨ (o = '\'' ∧ m = '\'') ∨ (o = '(' ∧ m = ')'))
    (src : List Char) (pos max : Nat)
    (h0 : Link.slice src pos max = .ok ('(' :: '/' :: 'u' :: ' ' :: o :: (R ++ [m, ')']))) :
    Link.parseInlineTail (Entity.unescapeAll lookup) src pos max =
      .ok (some ⟨some [47, 117], some X, max⟩) := by
  have ho : Link.byteLen [o] = 1 := by rcases hom with ⟨rfl, _⟩ | ⟨rfl, _⟩ | ⟨rfl, _⟩ <;> decide
  have hmc : Link.byteLen [m] = 1 := by rcases hom with ⟨_, rfl⟩ | ⟨_, rfl⟩ | ⟨_, rfl⟩ <;> decide
  have hows : Link.isWs o = false := by rcases hom with ⟨rfl, _⟩ | ⟨rfl, _⟩ | ⟨rfl, _⟩ <;> decide
  have hmk : Link.titleMarker o = some m := by
    rcases hom with ⟨rfl, rfl⟩ | ⟨rfl, rfl⟩ | ⟨rfl, rfl⟩ <;> decide
  have hm : m = '"' ∨ m = '\'' ∨ m = ')' := by
    rcases hom with ⟨_, rfl⟩ | ⟨_, rfl⟩ | ⟨_, rfl⟩ <;> simp
  have S1 := Link.slice_drop src ['('] _ pos max h0
  obtain ⟨S2, S3, -, -⟩ := Link.slice_cut (x := ['/', 'u']) (y := ' ' :: o :: (R ++ [m, ')'])) S1
  have S4 := Link.slice_drop src [' '] _ _ max S3
  obtain ⟨S5, S5', -, -⟩ := Link.slice_cut (x := R) (y := [m, ')']) (Link.slice_drop src [o] _ _ max S4)
  have S6 := Link.slice_drop src [m] _ _ max S5'
  rw [ho] at S5 S5' S6
  rw [hmc] at S6
  have hsk : Link.skipWs (' ' :: o :: (R ++ [m, ')'])) (pos + 1 + 2) = pos + 1 + 2 + 1 := by
    rw [Link.skipWs, if_pos (by decide), skipWs_stop _ _ _ hows]
  have hafter : Link.inlineAfterDest (Entity.unescapeAll lookup) src (pos + 1) max
      ⟨pos + 1 + 2, 0, ['/', 'u']⟩ = .ok (some [47, 117], some X, pos + 1 + 2 + 1 + 1 + Link.byteLen R + 1) := by
    unfold Link.inlineAfterDest
    simp only [dest_u]
    rw [← unescapeAll_denotes h hno]
    exact itp_title _ src _ _ R _ _ _ _ _ _ _ S3 hsk
      (Link.title_of_toks hmk (denotes_toks h 0 m hm).2.2 S4) S6 (skipWs_stop _ _ _ (by decide))
  exact (pit_ok _ src _ _ _ _ _ _ _ _ _ h0 (skipWs_stop _ _ _ (by decide))
    (Link.dest_of_bare toks_u (.inr (.inl ⟨' ', _, rfl, by decide⟩)) (by intro r hr; cases hr) S1) hafter
    S6).trans (by rw [slice_end S6]; rfl)

theorem parseInlineTail_title_any (h : Denotes lookup R X) (hno : ∀ s, lookup ('&' :: '#' :: s) = none)
    (o m : Char) (hom : (o = '"' ∧ m = '"') ∨ (o = '\'' ∧ m = '\'') ∨ (o = '(' ∧ m = ')'))
    (P : List Char) :
    Link.parseInlineTail (Entity.unescapeAll lookup)
      (P ++ '(' :: '/' :: 'u' :: ' ' :: o :: (R ++ [m, ')'])) (Link.byteLen P)
      (Link.byteLen (P ++ '(' :: '/' :: 'u' :: ' ' :: o :: (R ++ [m, ')']))) =
    .ok (some ⟨some [47, 117], some X,
      Link.byteLen (P ++ '(' :: '/' :: 'u' :: ' ' :: o :: (R ++ [m, ')']))⟩) :=
  tail_title h hno o m hom _ _ _ (slice_tail P _)

/-- (c) inline link tail `(/u "R")` behind any prefix P (P = "[x]" in the use) -/
theorem parseInlineTail_title (h : Denotes lookup R X) (hno : ∀ s, lookup ('&' :: '#' :: s) = none)
    (P : List Char) :
    Link.parseInlineTail (Entity.unescapeAll lookup)
      (P ++ '(' :: '/' :: 'u' :: ' ' :: '"' :: (R ++ ['"', ')'])) (Link.byteLen P)
      (Link.byteLen (P ++ '(' :: '/' :: 'u' :: ' ' :: '"' :: (R ++ ['"', ')']))) =
    .ok (some ⟨some [47, 117], some X, Link.byteLen (P ++ '(' :: '/' :: 'u' :: ' ' :: '"' :: (R ++ ['"', ')']))⟩) :=
  parseInlineTail_title_any h hno '"' '"' (.inl ⟨rfl, rfl⟩) P

example : Link.parseInlineTail
    (Entity.unescapeAll (fun s => if s = ['&', 'a', 'm', 'p', ';'] then some ['&'] else none))
    ['[', 'x', ']', '(', '/', 'u', ' ', '"', '&', 'a', 'm', 'p', ';', '"', ')'] 3 15 =
    .ok (some ⟨some [47, 117], some ['&'], 15⟩) := by decide +kernel

example : Link.parseInlineTail (Entity.unescapeAll (fun _ => none))
    ['[', 'x', ']', '(', '/', 'u', ' ', '"', '\\', '"', '"', ')'] 3 12 =
    .ok (some ⟨some [47, 117], some ['"'], 12⟩) := by decide +kernel

/-! ## (b) the inline destination -/

/-- (b) inline link tail `(</R>)` -/
theorem parseInlineTail_dest (h : Denotes lookup R X) (hno : ∀ s, lookup ('&' :: '#' :: s) = none)
    (P : List Char) :
    Link.parseInlineTail (Entity.unescapeAll lookup)
      (P ++ '(' :: '<' :: '/' :: (R ++ ['>', ')'])) (Link.byteLen P)
      (Link.byteLen (P ++ '(' :: '<' :: '/' :: (R ++ ['>', ')']))) =
    .ok (some ⟨some (Link.normalizeLink (Link.utf8 ('/' :: X))), none,
      Link.byteLen (P ++ '(' :: '<' :: '/' :: (R ++ ['>', ')']))⟩) := by
  have h0 := slice_tail P ('(' :: '<' :: '/' :: (R ++ ['>', ')']))
  have S1 : Link.slice _ (Link.byteLen P + 1) _ = .ok ('<' :: (('/' :: R) ++ '>' :: [')'])) :=
    Link.slice_drop _ ['('] _ _ _ h0
  obtain ⟨-, S3, -, -⟩ := Link.slice_cut (x := '<' :: (('/' :: R) ++ ['>'])) (y := [')']) (by simpa using S1)
  refine tail_notitle _ _ _ _ '<' _ _ _ _ h0 (by decide) (Link.dest_of_angle (slash_angle h) S1)
    (dest_slash h hno) ?_
  have e : Link.byteLen P + 1 + 1 + Link.byteLen ('/' :: R) + 1 =
      Link.byteLen P + 1 + Link.byteLen ('<' :: (('/' :: R) ++ ['>'])) := by
    simp only [Link.byteLen, Link.byteLen_append, Link.clen_lt, Link.clen_gt, List.cons_append, List.nil_append]
    omega
  rw [e]; exact S3

example : Link.parseInlineTail
    (Entity.unescapeAll (fun s => if s = ['&', 'a', 'm', 'p', ';'] then some ['&'] else none))
    ['[', 'x', ']', '(', '<', '/', '&', 'a', 'm', 'p', ';', '>', ')'] 3 13 =
    .ok (some ⟨some [47, 38], none, 13⟩) := by decide +kernel

example : Link.parseInlineTail (Entity.unescapeAll (fun _ => none))
    ['[', 'x', ']', '(', '<', '/', '\\', '>', '>', ')'] 3 10 =
    .ok (some ⟨some [47, 37, 51, 69], none, 10⟩) := by decide +kernel

/-! ## (b') the bare destination -/

/-- (b') inline link tail `(/R)` : bare destination -/
theorem parseInlineTail_bare (h : Denotes lookup R X) (hno : ∀ s, lookup ('&' :: '#' :: s) = none)
    (P : List Char) :
    Link.parseInlineTail (Entity.unescapeAll lookup)
      (P ++ '(' :: '/' :: (R ++ [')'])) (Link.byteLen P)
      (Link.byteLen (P ++ '(' :: '/' :: (R ++ [')']))) =
    .ok (some ⟨some (Link.normalizeLink (Link.utf8 ('/' :: X))), none,
      Link.byteLen (P ++ '(' :: '/' :: (R ++ [')']))⟩) := by
  have h0 := slice_tail P ('(' :: '/' :: (R ++ [')']))
  have S1 := Link.slice_drop _ ['('] _ _ _ h0
  obtain ⟨S2, S3, -, -⟩ := Link.slice_cut (x := '/' :: R) (y := [')']) S1
  exact tail_notitle _ _ _ _ '/' _ _ _ _ h0 (by decide)
    (Link.dest_of_bare (slash_bare h) (.inr (.inr (.inr (.inr ⟨rfl, [], rfl⟩)))) (by intro r hr; cases hr) S1)
    (dest_slash h hno) S3

/-- `[x](/u (\)))`: the escaped `)` inside a parenthesised title -/
example : Link.parseInlineTail (Entity.unescapeAll (fun _ => none))
    ['[', 'x', ']', '(', '/', 'u', ' ', '(', '\\', ')', ')', ')'] 3 12 =
    .ok (some ⟨some [47, 117], some [')'], 12⟩) := by decide +kernel

/-- `[x](/\()`: the escaped `(` in a bare destination does not open a level -/
example : Link.parseInlineTail (Entity.unescapeAll (fun _ => none))
    ['[', 'x', ']', '(', '/', '\\', '(', ')'] 3 8 =
    .ok (some ⟨some [47, 40], none, 8⟩) := by decide +kernel

/-- `[x](/u '&amp;')` and `[x](/&amp;)` -/
example : Link.parseInlineTail
    (Entity.unescapeAll (fun s => if s = ['&', 'a', 'm', 'p', ';'] then some ['&'] else none))
    ['[', 'x', ']', '(', '/', 'u', ' ', '\'', '&', 'a', 'm', 'p', ';', '\'', ')'] 3 15 =
    .ok (some ⟨some [47, 117], some ['&'], 15⟩) := by decide +kernel

example : Link.parseInlineTail
    (Entity.unescapeAll (fun s => if s = ['&', 'a', 'm', 'p', ';'] then some ['&'] else none))
    ['[', 'x', ']', '(', '/', '&', 'a', 'm', 'p', ';', ')'] 3 11 =
    .ok (some ⟨some [47, 38], none, 11⟩) := by decide +kernel

/-! ## (d) the definition line -/

/-- (d) the definition line  [k]: </R> "R"  -/
def defLine (R : List Char) : List Char :=
  '[' :: 'k' :: ']' :: ':' :: ' ' :: '<' :: '/' :: (R ++ '>' :: ' ' :: '"' :: (R ++ ['"']))

/-- `refParse` on a string whose label ends in `]:`: every scan and slice is a hypothesis -/
theorem refParse_eval (cfg : Block.Cfg) (str : List Char) (max : Nat) (c0 : Char) (t rest2 tail raw : List Char)
    (res : Link.Frag) (labelEnd l0 pos l1 pos2 l2 pos3 l3 l4 : Nat) (title title' : Option (List Char))
    (hs : str = c0 :: t) (hmax : Link.byteLen str = max)
    (hlabel : Block.labelScan false t (Link.clen c0) 0 = some (labelEnd, l0, ':' :: rest2))
    (hws1 : Block.wsScan rest2 (labelEnd + 2) l0 = (pos, l1))
    (hdest : Link.parseLinkDestination str pos max = .ok (some res))
    (hne : pos ≠ res.pos)
    (hval : Link.validateLink (Link.normalizeLink (Link.utf8 (Entity.unescapeAll cfg.lookup res.raw))) = true)
    (htail : Link.slice str res.pos max = .ok tail)
    (hws2 : Block.wsScan tail res.pos (l1 + res.lines) = (pos2, l2))
    (hrt : Block.refTitle cfg str max res.pos pos2 l2 res.pos (l1 + res.lines) = .ok (title, pos3, l3))
    (htr : Block.refTrail str max title pos3 l3 res.pos (l1 + res.lines) = .ok (some (title', l4)))
    (hraw : Link.slice str 1 labelEnd = .ok raw) :
    Block.refParse cfg str =
      .ok (some (raw.map Char.toNat, Link.normalizeLink (Link.utf8 (Entity.unescapeAll cfg.lookup res.raw)),
        title'.map (·.map Char.toNat), l4)) := by
  subst hs hmax
  unfold Block.refParse
  simp only [List.tail_cons, hlabel, hws1, hdest, Block.liftK, bind, Except.bind, if_neg hne, hval,
    not_true_eq_false, if_false, htail, hws2, hrt, htr, hraw, pure, Except.pure]

theorem refTitle_some (cfg : Block.Cfg) (str : List Char) (max start pos lines a b : Nat) (res : Link.Frag)
    (hne : pos ≠ start) (ht : Link.parseLinkTitle str pos max = .ok (some res)) :
    Block.refTitle cfg str max start pos lines a b =
      .ok (some (Entity.unescapeAll cfg.lookup res.raw), res.pos, lines + res.lines) := by
  unfold Block.refTitle
  rw [if_pos hne, ht]
  rfl

theorem refTrail_end (str : List Char) (max : Nat) (title : Option (List Char)) (pos lines a b : Nat)
    (h : Link.slice str pos max = .ok []) :
    Block.refTrail str max title pos lines a b = .ok (some (title, lines)) := by
  unfold Block.refTrail
  rw [h]
  rfl

theorem refParse_defLine (cfg : Block.Cfg) (h : Denotes cfg.lookup R X)
    (hno : ∀ s, cfg.lookup ('&' :: '#' :: s) = none) :
    Block.refParse cfg (defLine R) =
      .ok (some ([107], Link.normalizeLink (Link.utf8 ('/' :: X)), some (X.map Char.toNat), 0)) := by
  have h0 : Link.slice (defLine R) 0 (Link.byteLen (defLine R)) =
      .ok ('[' :: 'k' :: ']' :: ':' :: ' ' :: '<' :: '/' :: (R ++ '>' :: ' ' :: '"' :: (R ++ ['"']))) :=
    slice_tail [] _
  generalize hmax : Link.byteLen (defLine R) = max at h0
  generalize hs : defLine R = str at h0 hmax ⊢
  have S1 := Link.slice_drop str ['[', 'k', ']', ':', ' '] _ 0 max h0
  obtain ⟨S2, S3, -, -⟩ := Link.slice_cut (x := '/' :: R) (y := '>' :: ' ' :: '"' :: (R ++ ['"']))
    (Link.slice_drop str ['<'] _ _ max S1)
  have S4 := Link.slice_drop str ['>'] _ _ max S3
  have S5 := Link.slice_drop str [' '] _ _ max S4
  obtain ⟨S6, S7, -, -⟩ := Link.slice_cut (x := R) (y := ['"']) (Link.slice_drop str ['"'] _ _ max S5)
  obtain ⟨S8, -, -, -⟩ := Link.slice_cut (x := ['k'])
    (y := ']' :: ':' :: ' ' :: '<' :: '/' :: (R ++ '>' :: ' ' :: '"' :: (R ++ ['"'])))
    (Link.slice_drop str ['['] _ 0 max h0)
  have hlabel : Block.labelScan false
      ('k' :: ']' :: ':' :: ' ' :: '<' :: '/' :: (R ++ '>' :: ' ' :: '"' :: (R ++ ['"']))) (Link.clen '[') 0 =
      some (2, 0, ':' :: ' ' :: '<' :: '/' :: (R ++ '>' :: ' ' :: '"' :: (R ++ ['"']))) := by
    simp [Block.labelScan, Link.clen]
  have hws1 : Block.wsScan (' ' :: '<' :: '/' :: (R ++ '>' :: ' ' :: '"' :: (R ++ ['"']))) (2 + 2) 0 =
      (5, 0) := by
    simp [Block.wsScan]
  have hws2 : ∀ p, Block.wsScan (' ' :: '"' :: (R ++ ['"'])) p 0 = (p + 1, 0) := by
    simp [Block.wsScan]
  rw [refParse_eval cfg str max '[' _ _ _ ['k'] ⟨_, 0, '/' :: R⟩ 2 0 5 0 _ 0 _ 0 0 _ _ hs.symm hmax hlabel hws1
    (Link.dest_of_angle (slash_angle h) S1) (by simp only [ne_eq]; omega)
    (by simp only [unescapeAll_slash_denotes h hno, validate_slash]) S4 (hws2 _)
    (refTitle_some cfg str max _ _ _ _ _ _ (Nat.succ_ne_self _)
      (Link.title_of_toks (o := '"') rfl (denotes_toks h 0 '"' (.inl rfl)).2.2 S5))
    (refTrail_end str max _ _ _ _ _ (Link.slice_drop str ['"'] _ _ max S7)) S8,
    unescapeAll_slash_denotes h hno, unescapeAll_denotes h hno]
  rfl

theorem defLine_noTerm (h : Denotes lookup R X) : Lines.NoTerm (defLine R) := by
  have hR := h.noTerm
  intro c hc
  simp only [defLine, List.mem_cons, List.mem_append, List.not_mem_nil, or_false] at hc
  rcases hc with rfl | rfl | rfl | rfl | rfl | rfl | rfl | hc | rfl | rfl | rfl | hc | rfl
  all_goals first | exact hR c hc | exact ⟨by decide, by decide⟩

theorem defLine_quick (R : List Char) : Block.refQuick false (defLine R).tail = true := by
  simp [defLine, Block.refQuick]

theorem dropWhile_head {α : Type} (p : α → Bool) (c : α) (l : List α) (h : p c = false) :
    (c :: l).dropWhile p = c :: l := by
  simp [h]

theorem defLine_trim (R : List Char) : Block.trimStr (defLine R) = defLine R := by
  have h1 : Block.isWsChar '[' = false := by decide
  have h2 : Block.isWsChar '"' = false := by decide
  have hrev : (defLine R).reverse =
      '"' :: ('[' :: 'k' :: ']' :: ':' :: ' ' :: '<' :: '/' :: (R ++ '>' :: ' ' :: '"' :: R)).reverse := by
    simp [defLine]
  unfold Block.trimStr
  rw [show (defLine R).dropWhile Block.isWsChar = defLine R from dropWhile_head _ _ _ h1, hrev,
    dropWhile_head _ _ _ h2, ← hrev, List.reverse_reverse]

example : Block.refParse ⟨100, [], fun s => if s = ['&', 'a', 'm', 'p', ';'] then some ['&'] else none,
      fun n => [n], fun n => [n]⟩ (defLine ['&', 'a', 'm', 'p', ';']) =
    .ok (some ([107], [47, 38], some [38], 0)) := by decide +kernel

example : Block.refParse ⟨100, [], fun _ => none, fun n => [n], fun n => [n]⟩ (defLine ['\\', '"']) =
    .ok (some ([107], [47, 37, 50, 50], some [34], 0)) := by decide +kernel

end MdIt.Link.C12X
