/-
  Every block range starts at a byte of its own.

      parseBlocks_anchored   parseBlocks cfg src = .ok (root, refs)  →
          AllRangesL (fun a b => a < b ∧ OnByte src a) root.children

  for EVERY configuration (any chain, any `max_nesting`) and every source: each node below the root
  that carries a range `(a, b)` has `a < b`, and a character that is neither LF nor CR starts at byte
  offset `a` of `src` (placeholders `⟨.inlineRoot c m, none, []⟩` carry no range; the root's own range
  `(0, |src|)` is not covered — it is empty for the empty document).

  How (`MdIt/Lemmas/C10SpFullBlockCore.lean`, namespace `MdIt.Block.LX.Y`): the instance of the lock-step
  simulation `MdIt/Lemmas/C10Sim*.lean` in which the ranges of the two trees are related AS PAIRS by a
  relation `τ` that the context supplies from the geometry of the two line tables — `Ctx.rng`: for
  lines `i ≤ j`, `τ` holds of `(line_startᵢ + d, line_endⱼ)` on both sides for every `d` strictly inside
  line `i` on a character boundary.
  Every range the nine rules build has this form, provided its START LINE IS NOT EMPTY:
    * all ranges but one are `get_map(start, e) = (first_nonspace(start), line_end(e))`, `start ≤ e`;
      the indented code block starts at `line_start + first` with `first ≤ first_nonspace - line_start`
      (`Sim.getLines_head_sim`);
    * a rule runs in real mode only from `tokLoop`, behind `skip_empty_lines` and below `line_max`
      (`Rd.skipEmpty_live`), rules that answer `false` hand the state back (`RunSpec.false_same`), so the
      line a rule starts on is not empty (`Live`); the containers call `get_map` on the table they
      started with (block quote: `bqScan_spec` + frame of the nested tokenizer; list: `listLoop_spec`;
      list item: right after writing the item's first-line entry back), and every list item but the
      first starts on a line on which `listContinue` has just read a marker.
  Instantiated with both sides equal, `τ x y := x = y ∧ x.1 < x.2 ∧ OnByte src x.1` (lines of
  `linesT src` contain neither LF nor CR: `Lines.split_entry`).  NO rule that can produce an empty
  range or a range starting at a line terminator was found.

  Second instance (two documents, STRICT on placeholders): `parseBlocks_crlf_strict` — the trees of
  `src` and `lfToCrlf src` are related with `C10SP.crlfRel src` on both ends of every range AND on every
  value of every placeholder table (`KRelS`: unlike `LE.KRel`, two placeholders are related only
  through `MRel` of their tables).
-/
import MdIt.Lemmas.C10SpFullBlockCore
import MdIt.Lemmas.BlockTotalCore
import MdIt.Lemmas.KernelEval

namespace MdIt.Block

/-- a character that is neither LF nor CR starts at byte offset `a` of `src` -/
def OnByte (src : List Char) (a : Nat) : Prop :=
  ∃ p c q, src = p ++ c :: q ∧ Lines.byteLen p = a ∧ c ≠ '\n' ∧ c ≠ '\r'

mutual
def AllRanges (P : Nat → Nat → Prop) : BNode → Prop
  | ⟨_, r, cs⟩ => (∀ a b, r = some (a, b) → P a b) ∧ AllRangesL P cs
def AllRangesL (P : Nat → Nat → Prop) : List BNode → Prop
  | [] => True
  | c :: cs => AllRanges P c ∧ AllRangesL P cs
end

end MdIt.Block

namespace MdIt.Block.LX.Y
open MdIt.Lines (LineOffset linesT lfToCrlf)
open MdIt.Block.LE

/-- what `parseBlocks_rel` says of two successful block passes -/
def BlocksRel (τ : Nat × Nat → Nat × Nat → Prop) (ρ : Nat → Nat → Prop) (r₁ r₂ : BNode × Refs.RefMap) : Prop :=
  r₁.1.kind = r₂.1.kind ∧ NRelL τ ρ r₁.1.children r₂.1.children ∧ r₁.2 = r₂.2

/-- **the block pass in lock step, ranges related as pairs** -/
theorem parseBlocks_rel {τ : Nat × Nat → Nat × Nat → Prop} {ρ : Nat → Nat → Prop} (cfg : Cfg) {s₁ s₂ : List Char}
    (h : StartRel ρ 0 0 (linesT s₁) (linesT s₂)) (C : Ctx τ ρ (geoOf s₁ s₂))
    (hf : fuelFor cfg s₁ ≤ fuelFor cfg s₂) :
    FRel (BlocksRel τ ρ) (parseBlocks cfg s₁) (parseBlocks cfg s₂) :=
  frel_mono (Sim.parseBlocks_rel cfg C.sim h hf) fun _ _ hr => ⟨hr.1, nrelL_iff.mp hr.2.1, hr.2.2⟩

/-- related results or the same panic -/
def BRes (τ : Nat × Nat → Nat × Nat → Prop) (ρ : Nat → Nat → Prop) (p₁ p₂ : Except Panic (BNode × Refs.RefMap)) : Prop :=
  (∃ a b, p₁ = .ok a ∧ p₂ = .ok b ∧ BlocksRel τ ρ a b) ∨ (∃ e, p₁ = .error e ∧ p₂ = .error e)

theorem parseBlocks_res {τ : Nat × Nat → Nat × Nat → Prop} {ρ : Nat → Nat → Prop} (cfg : Cfg) {s₁ s₂ : List Char}
    (h : StartRel ρ 0 0 (linesT s₁) (linesT s₂)) (C : Ctx τ ρ (geoOf s₁ s₂))
    (hb : Lines.byteLen s₁ ≤ Lines.byteLen s₂) : BRes τ ρ (parseBlocks cfg s₁) (parseBlocks cfg s₂) :=
  Or.resolve_left (parseBlocks_rel cfg h C (LE.fuelFor_mono cfg h.length hb)) (parseBlocks_fuel cfg s₁)

theorem geo_entry {s : List Char} {i : Nat} {g : Nat × Nat} (h : ((Lines.splitLines s).map geom)[i]? = some g) :
    ∃ o, (Lines.splitLines s)[i]? = some o ∧ g = geom o := by
  simp only [List.getElem?_map, Option.map_eq_some_iff] at h
  obtain ⟨o, ho, rfl⟩ := h
  exact ⟨o, ho, rfl⟩

theorem char_at_boundary {P L Q : List Char} {d : Nat} (hd : d < Lines.byteLen L)
    (hb : Lines.onBoundary (P ++ L ++ Q) (Lines.byteLen P + d) = true) :
    ∃ u c v, L = u ++ c :: v ∧ Lines.byteLen u = d := by
  obtain ⟨x, y, hxy, hx⟩ := Lines.onBoundary_iff.mp hb
  rw [List.append_assoc] at hxy
  obtain ⟨u, hu, hR⟩ := Lines.prefix_of_byteLen P (L ++ Q) x y hxy (by omega)
  have hud : Lines.byteLen u = d := by
    have := congrArg Lines.byteLen hu
    simp only [Lines.byteLen_append] at this; omega
  obtain ⟨w, hw, _⟩ := Lines.prefix_of_byteLen u y L Q hR.symm (by omega)
  cases w with
  | nil =>
    have := congrArg Lines.byteLen hw
    simp at this; omega
  | cons c v => exact ⟨u, c, v, hw, hud⟩

/-- an offset strictly inside a line of the table of `src`, on a character boundary: a character other
    than LF and CR starts there -/
theorem onByte_in_line {src : List Char} {i : Nat} {o : LineOffset} (ho : (Lines.splitLines src)[i]? = some o)
    {d : Nat} (hd : o.lineStart + d < o.lineEnd) (hb : Lines.onBoundary src (o.lineStart + d) = true) :
    OnByte src (o.lineStart + d) := by
  obtain ⟨A, lt, B, _, _, rfl, hsrc, hnt, _⟩ := Lines.split_entry ho
  simp only [Lines.mkOff] at hd hb ⊢
  rw [hsrc] at hb
  obtain ⟨u, c, v, hl, hu⟩ := char_at_boundary (by omega) hb
  have hc := hnt c (by rw [hl]; simp)
  refine ⟨Lines.flat A ++ u, c, v ++ (lt.2 ++ Lines.flat B), ?_, by simp [hu], hc.1, hc.2⟩
  conv => lhs; rw [hsrc, hl]
  simp [List.append_assoc]

/-- equal ranges, not empty, starting at a byte of their own -/
def anchRel (src : List Char) (x y : Nat × Nat) : Prop := x = y ∧ x.1 < x.2 ∧ OnByte src x.1

theorem ctx_self (src : List Char) : Ctx (anchRel src) (fun _ _ => True) (geoOf src src) := by
  refine ⟨incT_split src, incT_split src, ?_⟩
  intro i j g₁ h₁ g₂ h₂ hij hg₁ hh₁ hg₂ hh₂ d hd hb
  simp only [geoOf] at hg₁ hh₁ hg₂ hh₂ hb
  rw [hg₁] at hg₂; cases hg₂
  rw [hh₁] at hh₂; cases hh₂
  obtain ⟨o, ho, rfl⟩ := geo_entry hg₁
  obtain ⟨o', ho', rfl⟩ := geo_entry hh₁
  have hmono := endsMono_of_valid (Lines.split_offsets_valid src) i j o o' hij ho ho'
  simp only [geom] at hd hb ⊢
  exact ⟨rfl, by omega, onByte_in_line ho hd hb⟩

mutual
theorem allRanges_of_nrel {τ : Nat × Nat → Nat × Nat → Prop} {ρ : Nat → Nat → Prop} {P : Nat → Nat → Prop}
    (hτ : ∀ x y, τ x y → P x.1 x.2) {n₁ n₂ : BNode} (h : NRel τ ρ n₁ n₂) : AllRanges P n₁ := by
  match n₁, n₂ with
  | ⟨k₁, r₁, c₁⟩, ⟨k₂, r₂, c₂⟩ =>
    simp only [NRel] at h
    simp only [AllRanges]
    refine ⟨?_, allRangesL_of_nrelL hτ h.2.2⟩
    intro a b hr
    subst hr
    match r₂, h.2.1 with
    | some y, hr => exact hτ _ _ hr
theorem allRangesL_of_nrelL {τ : Nat × Nat → Nat × Nat → Prop} {ρ : Nat → Nat → Prop} {P : Nat → Nat → Prop}
    (hτ : ∀ x y, τ x y → P x.1 x.2) {a b : List BNode} (h : NRelL τ ρ a b) : AllRangesL P a := by
  match a, b with
  | [], _ => simp only [AllRangesL]
  | _ :: _, [] => simp only [NRelL] at h
  | x :: xs, y :: ys =>
    obtain ⟨h1, h2⟩ := h.cons_inv
    simp only [AllRangesL]
    exact ⟨allRanges_of_nrel hτ h1, allRangesL_of_nrelL hτ h2⟩
end

/-- both ends of a range moved by the exact offset translation -/
def crlfRg (src : List Char) (x y : Nat × Nat) : Prop := C10SP.crlfRel src x.1 y.1 ∧ C10SP.crlfRel src x.2 y.2

theorem ctx_crlf (src : List Char) (h : '\r' ∉ src) :
    Ctx (crlfRg src) (C10SP.crlfRel src) (geoOf src (lfToCrlf src)) := by
  refine ⟨incT_split _, incT_split _, ?_⟩
  intro i j g₁ h₁ g₂ h₂ _ hg₁ hh₁ hg₂ hh₂ d hd _
  simp only [geoOf] at hg₁ hh₁ hg₂ hh₂
  obtain ⟨o₁, ho₁, rfl⟩ := geo_entry hg₁
  obtain ⟨o₁', ho₁', rfl⟩ := geo_entry hh₁
  obtain ⟨o₂, ho₂, rfl⟩ := geo_entry hg₂
  obtain ⟨o₂', ho₂', rfl⟩ := geo_entry hh₂
  have he := erel_of_startRel (linesT_crlf_exact src h) ho₁ ho₂
  have he' := erel_of_startRel (linesT_crlf_exact src h) ho₁' ho₂'
  simp only [geom] at hd ⊢
  exact ⟨he.at_ d (by omega), he'.end_⟩

/-- **LF ↦ CR LF at the block level, exact and strict**: both passes panic alike, or both succeed with
    roots of the same kind, the same reference map, and children related by `NRelL`: equal kinds and
    payloads (`KRelS`), both ends of every range and EVERY value of every placeholder table moved by
    `a ↦ a + #LF of src before a` -/
theorem parseBlocks_crlf_strict (cfg : Cfg) (src : List Char) (h : '\r' ∉ src) :
    BRes (crlfRg src) (C10SP.crlfRel src) (parseBlocks cfg src) (parseBlocks cfg (lfToCrlf src)) :=
  parseBlocks_res cfg (linesT_crlf_exact src h) (ctx_crlf src h) (byteLen_lfToCrlf src)

/-- back to the relations of `LE` (for the consumers of `LE.BRes`) -/
theorem BRes.toLE {τ : Nat × Nat → Nat × Nat → Prop} {ρ ρ' : Nat → Nat → Prop}
    (hτ : ∀ x y, τ x y → ρ' x.1 y.1 ∧ ρ' x.2 y.2) (hρ : ∀ a b, ρ a b → ρ' a b)
    {p₁ p₂ : Except Panic (BNode × Refs.RefMap)} (h : BRes τ ρ p₁ p₂) : LE.BRes ρ' p₁ p₂ := by
  rcases h with ⟨a, b, h1, h2, hk, hc, hr⟩ | herr
  · exact .inl ⟨a, b, h1, h2, hk, hc.toLE hτ hρ, hr⟩
  · exact .inr herr

end MdIt.Block.LX.Y

namespace MdIt.Block
open MdIt.Block.LX.Y

/-- **every block range starts at a byte of its own**: each node below the root of the tree
    `parseBlocks` returns that carries a range `(a, b)` has `a < b`, and a character other than LF and
    CR starts at byte `a` of the source — for every configuration and every source -/
theorem parseBlocks_anchored (cfg : Cfg) (src : List Char) {root : BNode} {refs : Refs.RefMap}
    (h : parseBlocks cfg src = .ok (root, refs)) :
    AllRangesL (fun a b => a < b ∧ OnByte src a) root.children := by
  have hs : LX.StartRel (fun _ _ => True) 0 0 (Lines.linesT src) (Lines.linesT src) :=
    LX.startRel_self _ _ (fun _ _ _ _ _ => trivial)
  have := LX.Y.parseBlocks_rel cfg hs (ctx_self src) (Nat.le_refl _)
  rw [h] at this
  obtain ⟨b, hb, hr⟩ := LE.frel_ok_left this
  cases hb
  exact allRangesL_of_nrelL (fun x y hxy => hxy.2) hr.2.1

/-- heading, block quote with a lazy line, list with two items, indented code in an item, fence: the
    ranges of the tree (depth first) -/
example :
    let src := "# a\n> b\nc\n\n- d\n\n      e\n- f\n```\ng".toList
    let cfg := (MdIt.Pipeline.exCfg false 100).blockCfg
    (parseBlocks cfg src).toOption.map (fun r => r.1.children.map (·.range)) =
      some [some (0, 3), some (4, 9), some (11, 27), some (28, 33)] := by
  decide_lits

/-- the ranges of a tree, depth first -/
def c10fb_ranges : Nat → BNode → List (Nat × Nat)
  | 0, _ => []
  | k + 1, n => (match n.range with | some r => [r] | none => []) ++ n.children.flatMap (c10fb_ranges k)

/-- … all of them, nested ones included (item `(11, 23)` with paragraph `(13, 14)` and the indented code
    block `(22, 23)`, which starts behind the six blanks at the `e`) -/
example :
    let src := "# a\n> b\nc\n\n- d\n\n      e\n- f\n```\ng".toList
    let cfg := (MdIt.Pipeline.exCfg false 100).blockCfg
    (parseBlocks cfg src).toOption.map (fun r => r.1.children.flatMap (c10fb_ranges 6)) =
      some [(0, 3), (4, 9), (6, 9), (11, 27), (11, 23), (13, 14), (22, 23), (24, 27), (26, 27), (28, 33)] := by
  decide_lits

/-- why the root is excluded: its range is `(0, |src|)`, empty for the empty document and starting at
    a line feed for a document that begins with a blank line -/
example :
    let cfg := (MdIt.Pipeline.exCfg false 100).blockCfg
    (parseBlocks cfg []).toOption.map (fun r => r.1.range) = some (some (0, 0)) ∧
    (parseBlocks cfg ['\n']).toOption.map (fun r => r.1.range) = some (some (0, 1)) := by
  decide +kernel

end MdIt.Block
