/-
  Helper development for `Props/C02Doc.lean` (property C02 on the real parser models), recursion
  part: how deep the two tokenizers nest their own calls.

  The models drive every loop AND every nested call with one `fuel`.  To separate the two, each
  tokenizer gets an instrumented twin with a second counter `d` that is spent ONLY by nested calls
  (the sequential loop keeps it): `Block.tokD`, `Inline.tokLoopD` / `Inline.skipTokenD`.  Running
  out of `d` is an error.  The theorems say that a budget depending on `max_nesting` alone is never
  exhausted — every result of the real function is reproduced by the twin:

    `Block.block_call_depth`     `tokenize cfg f s = .ok s'` ⇒ `tokD cfg d f s = .ok s'` whenever
                                 `d ≥ 1` and `d + s.level ≥ N + 1`  (top level: `d = N + 1`)
    `Inline.inline_call_depth`   the same for `tokLoop` with `d + level ≥ N + 2` (below the limit)
                                 and for `skipToken` with `d + level ≥ N + 1`  (top level: `N + 2`)

  The reason is the level discipline, proved as level-restricted monotonicity lemmas for the block
  side (`*_monoL` of `Props/Block.lean` §12: results, i.e. `.ok`, are preserved) and as
  level-restricted congruence lemmas for the inline side (`*_congr`: full equality, panics included):
  a rule run at `state.level = l` calls the nested tokenizer only at levels `> l` (block quote
  `l + 1`, list item `l + 2`, link text `l + 1`; `skip_token` is called at `l` from a real rule and at
  `l + 1` from a silent one), a silent rule never calls `tokenize`, and both tokenizers refuse to run
  any rule at `level ≥ max_nesting` (`tokLoop_monoL`, `tokStep_congr`, the guard of `skipToken`).
-/
import MdIt.Props.Block
import MdIt.Lemmas.C02DocInline

set_option linter.unusedVariables false

/-! # Block -/

namespace MdIt.Block
open MdIt.Lines (LineOffset)

/-- `tokenize` with a nesting budget: `d` is spent by the nested tokenizer calls of the block quote
    and list rules only; `f` is the fuel of the model (spent by loops and nesting alike) -/
def tokD (cfg : Cfg) : Nat → Nat → Tok
  | _, 0 => fun _ => .error .fuel
  | 0, _ + 1 => fun _ => .error .fuel
  | d + 1, f + 1 => tokLoop cfg (runRule cfg (tokD cfg d f) (testRules cfg f) (f + 1)) (f + 1) false

/-- **`block_call_depth`.**  Every result of the block tokenizer entered at level `l` is reproduced
    with a nesting budget of `max (N + 1 − l) 1` simultaneously active tokenizer calls: every
    recursive call site passes a strictly larger level (`blockquote_monoL`, `list_monoL`) and the
    tokenizer runs no rule at `level ≥ N` (`tokLoop_monoL`). -/
theorem block_call_depth (cfg : Cfg) : ∀ (f d : Nat) (s s' : BState), tokenize cfg f s = .ok s' →
    cfg.maxNesting + 1 ≤ d + s.level → 1 ≤ d → tokD cfg d f s = .ok s' := by
  intro f
  induction f with
  | zero => intro d s s' h; simp [tokenize, engine] at h
  | succ f ih =>
    intro d s s' h hd hd1
    obtain ⟨d', rfl⟩ : ∃ d', d = d' + 1 := ⟨d - 1, by omega⟩
    simp only [tokenize, engine] at h
    simp only [tokD]
    have hk := tokenize_tokSpec cfg f
    have ht := testRules_pure cfg f
    refine tokLoop_monoL (runRule_spec hk ht _) (L := s.level) ?_ _ _ _ _ (Nat.le_refl _) rfl _ h
    intro r s1 hL hlt _
    refine runRule_mono hk ht (fun _ => .refl _) (Nat.le_refl _) r ?_
    intro a hab b htok
    exact ih d' a b htok (by omega) (by omega)

/-- the whole block pass with `N + 1` nested tokenizer calls -/
theorem parseBlocks_call_depth {cfg : Cfg} {src : List Char} {s : BState}
    (h : tokenize cfg (fuelFor cfg src) (BState.fresh src .root []) = .ok s) :
    tokD cfg (cfg.maxNesting + 1) (fuelFor cfg src) (BState.fresh src .root []) = .ok s :=
  block_call_depth cfg _ _ _ _ h (by omega) (by omega)

end MdIt.Block

/-! # Inline -/

namespace MdIt.Inline
open MdIt.InlineOps (Srcmap getSourcePosFor getMap byteLen slice)

mutual
/-- `tokLoop` with a nesting budget: `d` is spent by the calls a RULE makes back into the parser
    (`skip_token` from the label look-ahead, `tokenize` for the link text), not by the iterations of
    the `while` loop; `fuel` is the fuel of the model -/
def tokLoopD (cfg : Cfg) : Nat → Nat → Nat → IState → Except Panic IState
  | d, fuel, end_, st =>
    if st.pos < end_ then
      match fuel with
      | 0 => .error .fuel
      | fuel + 1 =>
        match d with
        | 0 => .error .fuel
        | d + 1 =>
          match tokStep cfg (fun s => skipTokenD cfg d fuel s) (fun s => tokLoopD cfg d fuel s.posMax s) fuel st with
          | .error e => .error e
          | .ok st' => tokLoopD cfg (d + 1) fuel end_ st'
    else .ok st
/-- `skipToken` with a nesting budget -/
def skipTokenD (cfg : Cfg) : Nat → Nat → IState → Except Panic IState
  | _, 0, _ => .error .fuel
  | d, fuel + 1, st =>
    match d with
    | 0 => .error .fuel
    | d + 1 =>
      match st.cache.lookup st.pos with
      | some x => .ok { st with pos := x }
      | none =>
        if st.level < cfg.maxNesting then
          skipStep cfg (fun s => skipTokenD cfg d fuel s) (fun s => tokLoopD cfg d fuel s.posMax s) fuel st
        else
          .ok { st with pos := st.posMax, cache := cacheInsert st.cache st.pos st.posMax }
end

/-- `f` and `f'` agree (errors included) on states at level `L` -/
def AgreeAt (L : Nat) (f f' : IState → Except Panic IState) : Prop := ∀ a, a.level = L → f a = f' a

theorem labelLoop_congr {skip skip' : IState → Except Panic IState} {L : Nat} (hq : CalmFn skip)
    (hk : AgreeAt L skip skip') (en : Bool) :
    ∀ (n : Nat) (level : Int) (st : IState), st.level = L →
      labelLoop skip en n level st = labelLoop skip' en n level st := by
  intro n
  induction n with
  | zero => intro level st _; rfl
  | succ n ih =>
    intro level st hL
    unfold labelLoop
    rw [← hk st hL]
    cases hs : skip st with
    | error e => rfl
    | ok st' =>
      have hl1 : st'.level = L := (hq _ _ hs).level.trans hL
      simp only [fun lv => ih lv st' hl1]

theorem parseLinkLabel_congr {skip skip' : IState → Except Panic IState} {L : Nat} (hq : CalmFn skip)
    (hk : AgreeAt L skip skip') {fuel : Nat} {st : IState} {start : Nat} {en : Bool} (hL : st.level = L) :
    parseLinkLabel skip fuel st start en = parseLinkLabel skip' fuel st start en := by
  unfold parseLinkLabel
  rw [labelLoop_congr hq hk en fuel 1 _ (by exact hL)]

theorem parseLinkRef_congr {cfg : Cfg} {skip skip' : IState → Except Panic IState} {L : Nat}
    (hq : CalmFn skip) (hk : AgreeAt L skip skip') {fuel : Nat} {st : IState} {ls le : Nat}
    (hL : st.level = L) :
    parseLinkRef cfg skip fuel st ls le = parseLinkRef cfg skip' fuel st ls le := by
  unfold parseLinkRef
  simp only [parseLinkLabel_congr hq hk hL]

theorem parseLink_congr {cfg : Cfg} {skip skip' : IState → Except Panic IState} {L : Nat}
    (hq : CalmFn skip) (hk : AgreeAt L skip skip') {fuel : Nat} {st : IState} {pos : Nat} {en : Bool}
    (hL : st.level = L) :
    parseLink cfg skip fuel st pos en = parseLink cfg skip' fuel st pos en := by
  unfold parseLink
  rw [← parseLinkLabel_congr hq hk hL]
  cases hpl : parseLinkLabel skip fuel st pos en with
  | error e => rfl
  | ok r =>
    obtain ⟨o, st1⟩ := r
    cases o with
    | none => rfl
    | some labelEnd =>
      have hl1 : st1.level = L := (parseLinkLabel_calm hq hpl).level.trans hL
      simp only [parseLinkRef_congr hq hk hl1]

theorem linkRule_congr {cfg : Cfg} {skip skip' tok tok' : IState → Except Panic IState} {L : Nat}
    (hq : CalmFn skip) (hk : AgreeAt L skip skip') {silent : Bool}
    (ht : silent = false → AgreeAt (L + 1) tok tok') {fuel : Nat}
    {mk : List Nat → Option (List Char) → Val} {en : Bool} {offset : Nat} {st : IState}
    (hL : st.level = L) :
    linkRule cfg skip tok fuel mk en offset st silent = linkRule cfg skip' tok' fuel mk en offset st silent := by
  unfold linkRule
  simp only
  rw [← parseLink_congr hq hk hL]
  cases hpl : parseLink cfg skip fuel st (st.pos + offset) en with
  | error e => rfl
  | ok r =>
    obtain ⟨o, st1⟩ := r
    cases o with
    | none => rfl
    | some res =>
      cases silent with
      | true => rfl
      | false =>
        have hl1 : st1.level = L := (parseLink_calm hq hpl).level.trans hL
        have key := ht rfl
          { st1 with children := [], bottoms := [], linkLevel := st1.linkLevel + 1, level := st1.level + 1, pos := res.labelStart, posMax := res.labelEnd }
          (by simp only; omega)
        simp only [Bool.false_eq_true, ↓reduceIte, key]

theorem runRule_congr {cfg : Cfg} {skip skip' tok tok' : IState → Except Panic IState} {L : Nat}
    (hq : CalmFn skip) (hk : AgreeAt L skip skip') {silent : Bool}
    (ht : silent = false → AgreeAt (L + 1) tok tok') {fuel : Nat} (id : RuleId) {st : IState}
    (hL : st.level = L) :
    runRule cfg skip tok fuel id st silent = runRule cfg skip' tok' fuel id st silent := by
  unfold runRule
  cases id with
  | link => simp only [ruleLink, linkRule_congr hq hk ht hL]
  | image => simp only [ruleImage, linkRule_congr hq hk ht hL]
  | _ => rfl

theorem firstRule_congr {run run' : RuleId → IState → RuleRes} {L : Nat}
    (hag : ∀ id a, a.level = L → run id a = run' id a)
    (hlv : ∀ id a o b, a.level = L → run id a = .ok (o, b) → b.level = L) :
    ∀ (rules : List RuleId) (st : IState), st.level = L →
      firstRule run rules st = firstRule run' rules st := by
  intro rules
  induction rules with
  | nil => intro st _; rfl
  | cons r rs ih =>
    intro st hL
    unfold firstRule
    rw [← hag r st hL]
    cases hr : run r st with
    | error e => rfl
    | ok x =>
      obtain ⟨o, st1⟩ := x
      cases o with
      | some n => rfl
      | none => simp only [ih st1 (hlv _ _ _ _ hL hr)]

theorem silentBumped_congr {run run' : IState → Bool → RuleRes} {st : IState}
    (hag : run { st with level := st.level + 1 } true = run' { st with level := st.level + 1 } true) :
    silentBumped run st = silentBumped run' st := by
  unfold silentBumped
  rw [hag]

/-- one iteration of `tokenize` hands the level back when the nested runs do -/
theorem tokStep_level {cfg : Cfg} {skip tok : IState → Except Panic IState}
    (hq : CalmFn skip) (ht : ∀ s s', tok s = .ok s' → s'.level = s.level) {fuel : Nat} {st st' : IState}
    (h : tokStep cfg skip tok fuel st = .ok st') : st'.level = st.level :=
  tokStep_rel (R := fun a b => b.level = a.level) (fun _ => rfl) (fun h1 h2 => h2.trans h1)
    (fun _ _ _ _ _ _ hr => (runRule_did hq hr).level ht) (fun _ _ => rfl)
    (fun _ _ _ _ _ hp => by obtain ⟨cs, _, rfl⟩ := pushText_eq hp; rfl) h

/-- one iteration of `tokenize` at level `L`: below the limit it depends on `skip_token` at level `L`
    and on `tokenize` at level `L + 1` only; at or beyond the limit on neither -/
theorem tokStep_congr {cfg : Cfg} {skip skip' tok tok' : IState → Except Panic IState} {L : Nat}
    (hq : CalmFn skip) (htd : ∀ s s', tok s = .ok s' → s'.level = s.level)
    (hk : L < cfg.maxNesting → AgreeAt L skip skip')
    (ht : L < cfg.maxNesting → AgreeAt (L + 1) tok tok') {fuel : Nat} {st : IState} (hL : st.level = L) :
    tokStep cfg skip tok fuel st = tokStep cfg skip' tok' fuel st := by
  unfold tokStep
  simp only
  by_cases hlt : st.level < cfg.maxNesting
  · have hlt' : L < cfg.maxNesting := hL ▸ hlt
    have hfr := firstRule_congr (run := fun id s => runRule cfg skip tok fuel id s false)
      (run' := fun id s => runRule cfg skip' tok' fuel id s false) (L := L)
      (fun id a ha => runRule_congr hq (hk hlt') (fun _ => ht hlt') id ha)
      (fun id a o b ha hr => ((runRule_did hq hr).level htd).trans ha) cfg.chain st hL
    rw [if_pos hlt, if_pos hlt, hfr]
  · rw [if_neg hlt, if_neg hlt]

/-- the body of `skip_token` at level `L` depends on `skip_token` at level `L + 1` only (every rule
    runs silently between `level += 1` and `level -= 1`; a silent rule never calls `tokenize`) -/
theorem skipStep_congr {cfg : Cfg} {skip skip' tok tok' : IState → Except Panic IState} {L : Nat}
    (hq : CalmFn skip) (hk : AgreeAt (L + 1) skip skip') {fuel : Nat} {st : IState} (hL : st.level = L) :
    skipStep cfg skip tok fuel st = skipStep cfg skip' tok' fuel st := by
  unfold skipStep
  simp only
  have hfr := firstRule_congr (run := fun id s => silentBumped (runRule cfg skip tok fuel id) s)
    (run' := fun id s => silentBumped (runRule cfg skip' tok' fuel id) s) (L := L)
    (fun id a ha => silentBumped_congr
      (runRule_congr hq hk (fun h => by cases h) id (by simp only; omega)))
    (fun id a o b ha hr =>
      (silentBumped_calm (fun s2 o2 s2' hr2 => runRule_silent_calm hq hr2) hr).level.trans ha)
    cfg.chain st hL
  rw [hfr]

/-- **`inline_call_depth`.**  With a nesting budget that depends on `max_nesting` and the entry level
    alone the instrumented twins compute exactly what `skip_token` / `tokenize` compute (errors
    included): `skip_token` entered at level `l` needs `max (N + 1 − l) 1` simultaneously active
    calls, `tokenize` `N + 2 − l` below the limit and 1 at or beyond it. -/
theorem inline_call_depth (cfg : Cfg) : ∀ fuel : Nat,
    (∀ (d : Nat) (st : IState), 1 ≤ d → cfg.maxNesting + 1 ≤ d + st.level →
      skipTokenD cfg d fuel st = skipToken cfg fuel st) ∧
    (∀ (d e : Nat) (st : IState), 1 ≤ d → (st.level < cfg.maxNesting → cfg.maxNesting + 2 ≤ d + st.level) →
      tokLoopD cfg d fuel e st = tokLoop cfg fuel e st) := by
  intro fuel
  induction fuel with
  | zero =>
    constructor
    · intro d st _ _; rfl
    · intro d e st _ _
      unfold tokLoopD tokLoop
      split <;> rfl
  | succ f ih =>
    obtain ⟨ihS, ihT⟩ := ih
    have hq := skipToken_calm cfg f
    have htd : ∀ s s', tokLoop cfg f s.posMax s = .ok s' → s'.level = s.level :=
      fun s s' h => (tokLoop_frame cfg f _ s s' h).level
    constructor
    · intro d st hd1 hd
      obtain ⟨d', rfl⟩ : ∃ d', d = d' + 1 := ⟨d - 1, by omega⟩
      unfold skipTokenD skipToken
      simp only
      cases hlk : List.lookup st.pos st.cache with
      | some x => rfl
      | none =>
        simp only
        by_cases hlt : st.level < cfg.maxNesting
        · rw [if_pos hlt, if_pos hlt]
          exact (skipStep_congr (skip := fun s => skipToken cfg f s)
            (skip' := fun s => skipTokenD cfg d' f s) (L := st.level) hq
            (fun a ha => (ihS d' a (by omega) (by omega)).symm) rfl).symm
        · rw [if_neg hlt, if_neg hlt]
    · intro d e st hd1 hd
      obtain ⟨d', rfl⟩ : ∃ d', d = d' + 1 := ⟨d - 1, by omega⟩
      unfold tokLoopD tokLoop
      by_cases hpos : st.pos < e
      · simp only [hpos, ↓reduceIte]
        rw [← tokStep_congr (skip := fun s => skipToken cfg f s)
          (skip' := fun s => skipTokenD cfg d' f s) (tok := fun s => tokLoop cfg f s.posMax s)
          (tok' := fun s => tokLoopD cfg d' f s.posMax s) (L := st.level) hq htd
          (fun hlt a ha => (ihS d' a (by omega) (by omega)).symm)
          (fun hlt a ha => (ihT d' _ a (by omega) (by omega)).symm) rfl]
        cases hstep : tokStep cfg (fun s => skipToken cfg f s) (fun s => tokLoop cfg f s.posMax s) f st with
        | error e => rfl
        | ok st1 =>
          have hl1 := tokStep_level hq htd hstep
          exact ihT (d' + 1) e st1 hd1 (by rw [hl1]; exact hd)
      · simp only [hpos, ↓reduceIte]

/-- the top-level inline run with `N + 2` nested calls -/
theorem tokenize_call_depth (cfg : Cfg) (fuel : Nat) (st : IState) :
    tokLoopD cfg (cfg.maxNesting + 2) fuel st.posMax st = tokenize cfg fuel st :=
  (inline_call_depth cfg fuel).2 _ _ st (by omega) (by omega)

end MdIt.Inline
