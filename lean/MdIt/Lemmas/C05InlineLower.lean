/-
  C05, block side (the tables the inline half starts from), the LOWER bound: positions at or behind the cursor `trim_src` sets are
  translated by the `get_lines` table to source offsets at or behind `first_nonspace` of the first
  line — provided the columns `get_lines` keeps of that line beyond `blk_indent` are blanks
  (`KeptBlank`; an invariant of the block parser, `Lemmas/C05InlineGeo.lean`).

  Also here: `calcRightWs` is antitone in the number of columns asked for (`calcRightWs_anti`), what is kept
  when asking for at most the width of a trailing blank run is part of that run (`kept_of_run`).
-/
import MdIt.Lemmas.C05InlineTables

namespace MdIt.C05I
open MdIt.Lines
open MdIt.InlineOps (getSourcePosFor Srcmap)

theorem app_prefix : ∀ (a b c d : List Char), a ++ b = c ++ d → byteLen a ≤ byteLen c →
    ∃ w, c = a ++ w ∧ b = w ++ d
  | [], b, c, d, h, _ => ⟨c, rfl, by simpa using h⟩
  | x :: a, b, [], d, _, hl => by
    have := Char.utf8Size_pos x
    simp only [byteLen_cons, byteLen_nil] at hl; omega
  | x :: a, b, y :: c, d, h, hl => by
    simp only [List.cons_append, List.cons.injEq] at h
    obtain ⟨rfl, h⟩ := h
    simp only [byteLen_cons] at hl
    obtain ⟨w, h1, h2⟩ := app_prefix a b c d h (by omega)
    exact ⟨w, by rw [h1]; simp, h2⟩

theorem allBlank_len {l : List Char} (h : AllBlank l) : byteLen l = l.length :=
  byteLen_ascii l fun c hc => by rcases h c hc with rfl | rfl <;> decide

theorem calcGo_snd_le (k : Int) (start : Nat) (l : List Char) (h : byteLen l ≤ start) :
    (calcGo k start l).2 ≤ start := by
  induction l generalizing k start with
  | nil => simp only [calcGo]; split <;> simp
  | cons c r ih =>
    simp only [byteLen_cons] at h
    simp only [calcGo]
    split
    · split
      · split
        · exact Nat.le_refl _
        · exact Nat.le_trans (ih _ _ (Nat.le_refl _)) (by omega)
      · exact Nat.le_trans (ih _ _ (Nat.le_refl _)) (by omega)
    · exact Nat.le_refl _

/-- asking for fewer columns cuts further right -/
theorem calcGo_mono (k k' : Int) (hk : k' ≤ k) (start : Nat) (l : List Char) (h : byteLen l ≤ start) :
    (calcGo k start l).2 ≤ (calcGo k' start l).2 := by
  induction l generalizing k k' start with
  | nil =>
    simp only [calcGo]
    split <;> split <;> simp <;> omega
  | cons c r ih =>
    simp only [byteLen_cons] at h
    by_cases hk' : k' > 0
    · have hk0 : k > 0 := by omega
      simp only [calcGo, hk', hk0, if_true]
      split
      · split
        · rw [if_pos (by omega)]; exact Nat.le_refl _
        · split
          · exact Nat.le_trans (calcGo_snd_le _ _ _ (Nat.le_refl _)) (by omega)
          · exact ih _ _ (by omega) _ (Nat.le_refl _)
      · exact ih _ _ (by omega) _ (Nat.le_refl _)
    · have : (calcGo k' start (c :: r)).2 = start := by simp only [calcGo, if_neg hk']
      rw [this]
      exact calcGo_snd_le _ _ _ (by simp only [byteLen_cons]; omega)

theorem calcRightWs_anti (ws : List Char) (k k' : Int) (hk : k' ≤ k) :
    (calcRightWs ws k).2 ≤ (calcRightWs ws k').2 := by
  unfold calcRightWs
  exact calcGo_mono k k' hk _ _ (by simp)

/-- what `get_lines` keeps of the blanks `ws` when asked for `k` columns -/
theorem kept_spec (ws : List Char) (k : Int) :
    ∃ w0, ws = w0 ++ dropB ws (calcRightWs ws k).2 ∧ byteLen w0 = (calcRightWs ws k).2 := by
  obtain ⟨w0, w', hww, hb⟩ := calc_right_bounds ws k
  have hd : dropB ws (calcRightWs ws k).2 = w' := by
    apply dropB_of_dropBytes
    rw [← hb]; conv => lhs; rw [hww]
    exact dropBytes_append w0 w'
  exact ⟨w0, by rw [hd]; exact hww, hb⟩

theorem kept_mono (ws : List Char) (k k' : Int) (hk : k' ≤ k) :
    dropB ws (calcRightWs ws k').2 <:+ dropB ws (calcRightWs ws k).2 := by
  obtain ⟨w0, h0, l0⟩ := kept_spec ws k
  obtain ⟨w1, h1, l1⟩ := kept_spec ws k'
  have := calcRightWs_anti ws k k' hk
  obtain ⟨w, _, e2⟩ := app_prefix w0 _ w1 _ (h0.symm.trans h1) (by omega)
  exact ⟨w, e2.symm⟩

/-- asked for at most the columns of the trailing run, `get_lines` keeps part of the run -/
theorem kept_of_run (p run : List Char) (x : Int)
    (hx : x ≤ (indentWidth (p ++ run) : Int) - (indentWidth p : Int)) :
    dropB (p ++ run) (calcRightWs (p ++ run) x).2 <:+ run := by
  obtain ⟨w0, h0, l0⟩ := kept_spec (p ++ run) x
  have := calcRightWs_ge p run x hx
  obtain ⟨w, _, e2⟩ := app_prefix p run w0 _ h0 (by omega)
  exact ⟨w, e2.symm⟩

theorem AllBlank.suffix {a b : List Char} (h : AllBlank b) (hs : a <:+ b) : AllBlank a :=
  fun c hc => h c (hs.subset hc)

/-! ## the columns kept beyond `blk_indent` are blanks -/

/-- of line `o`, `get_lines(.., indent, ..)` keeps blanks only -/
def KeptBlank (src : List Char) (indent : Nat) (o : LineOffset) : Prop :=
  ∀ ws, slice src o.lineStart o.firstNonspace = .ok ws →
    AllBlank (dropB ws (calcRightWs ws (o.indentNonspace - usizeAsI32 indent)).2)

/-- nothing is kept of a line that is not indented beyond `indent` -/
theorem keptBlank_of_le {src : List Char} {indent : Nat} {o : LineOffset}
    (h : o.indentNonspace - usizeAsI32 indent ≤ 0) : KeptBlank src indent o := by
  intro ws _
  have : (calcRightWs ws (o.indentNonspace - usizeAsI32 indent)).2 = byteLen ws := by
    unfold calcRightWs
    cases hr : ws.reverse with
    | nil => simp only [calcGo]; rw [if_neg (by omega)]
    | cons c r => simp only [calcGo]; rw [if_neg (by omega)]
  obtain ⟨w0, h0, l0⟩ := kept_spec ws (o.indentNonspace - usizeAsI32 indent)
  rw [this] at l0
  have hl := congrArg byteLen h0
  simp only [byteLen_append] at hl
  have : dropB ws (calcRightWs ws (o.indentNonspace - usizeAsI32 indent)).2 = [] :=
    byteLen_eq_zero (by omega)
  rw [this]
  intro c hc; simp at hc

theorem KeptBlank.mono {src : List Char} {i i' : Nat} {o : LineOffset} (h : KeptBlank src i o)
    (hi : usizeAsI32 i ≤ usizeAsI32 i') : KeptBlank src i' o :=
  fun ws hws => AllBlank.suffix (h ws hws) (kept_mono ws _ _ (by omega))

open MdIt.Inline (trimSrc isSpTab) in
/-- `trim_src`'s start is the number of ALL leading blanks when there is something between the two
    cursors -/
theorem trimSrc_front (c : List Char) (B tail : List Char) (hc : c = B ++ tail)
    (hB : ∀ x ∈ B, isSpTab x = true) (hlt : (trimSrc c).1 < (trimSrc c).2) :
    B.length ≤ (trimSrc c).1 := by
  -- the model's own decomposition
  let rest0 := ((c.reverse.dropWhile isSpTab).drop 1).reverse
  let lastc := ((c.reverse.dropWhile isSpTab).take 1).reverse
  let back := (c.reverse.takeWhile isSpTab).reverse
  have hrev : c = (c.reverse.dropWhile isSpTab).reverse ++ back := by
    show c = _ ++ (c.reverse.takeWhile isSpTab).reverse
    rw [← List.reverse_append, List.takeWhile_append_dropWhile, List.reverse_reverse]
  have hmid : (c.reverse.dropWhile isSpTab).reverse = rest0 ++ lastc := by
    show _ = ((c.reverse.dropWhile isSpTab).drop 1).reverse ++ ((c.reverse.dropWhile isSpTab).take 1).reverse
    rw [← List.reverse_append, List.take_append_drop]
  have hfront : (trimSrc c).1 = (rest0.takeWhile isSpTab).length := rfl
  have hend : (trimSrc c).2 = InlineOps.byteLen c - back.length := by
    show _ = InlineOps.byteLen c - (c.reverse.takeWhile isSpTab).reverse.length
    unfold trimSrc; simp
  -- `c = front ++ mid' ++ back` where `mid'` does not start with a blank
  have hsplit : c = rest0.takeWhile isSpTab ++ (rest0.dropWhile isSpTab ++ lastc) ++ back := by
    conv => lhs; rw [hrev, hmid]
    have := List.takeWhile_append_dropWhile (p := isSpTab) (l := rest0)
    rw [← List.append_assoc (rest0.takeWhile isSpTab), this]
  have hbackB : ∀ x ∈ back, isSpTab x = true := fun x hx =>
    mem_takeWhile_imp (List.mem_reverse.mp hx)
  -- the middle is not empty
  have hmidne : rest0.dropWhile isSpTab ++ lastc ≠ [] := by
    intro he
    rw [he] at hsplit
    have hl := congrArg InlineOps.byteLen hsplit
    simp only [List.append_nil, C05.byteLen_append] at hl
    have h1 := Inline.byteLen_ascii _ (fun x hx => Inline.isSpTab_size (hbackB x hx))
    have h2 := Inline.byteLen_ascii (rest0.takeWhile isSpTab)
      (fun x hx => Inline.isSpTab_size (mem_takeWhile_imp hx))
    omega
  -- its head is not a blank
  obtain ⟨x, tl, hx, hnb⟩ : ∃ x tl, rest0.dropWhile isSpTab ++ lastc = x :: tl ∧ isSpTab x = false := by
    cases hd : rest0.dropWhile isSpTab with
    | cons y r => exact ⟨y, r ++ lastc, by simp, head_dropWhile hd⟩
    | nil =>
      rw [hd] at hmidne
      simp only [List.nil_append] at hmidne ⊢
      cases hdw : c.reverse.dropWhile isSpTab with
      | nil => exact absurd (by show ((c.reverse.dropWhile isSpTab).take 1).reverse = []; rw [hdw]; rfl) hmidne
      | cons z r =>
        refine ⟨z, [], ?_, head_dropWhile hdw⟩
        show ((c.reverse.dropWhile isSpTab).take 1).reverse = [z]
        rw [hdw]; rfl
  rw [hfront]
  -- compare the two decompositions
  have he : B ++ tail = rest0.takeWhile isSpTab ++ (x :: (tl ++ back)) := by
    rw [← hc]; conv => lhs; rw [hsplit, hx]
    simp [List.append_assoc]
  rcases List.append_eq_append_iff.mp he with ⟨a', h1, _⟩ | ⟨c', h1, h2⟩
  · rw [h1]; simp
  · cases c' with
    | nil => simp at h1; rw [h1]; exact Nat.le_refl _
    | cons y r =>
      simp only [List.cons_append, List.cons.injEq] at h2
      have : isSpTab x = true := hB x (by rw [h1, ← h2.1]; simp)
      rw [hnb] at this; cases this

open MdIt.Inline (trimSrc isSpTab) in
/-- **the lower bound**: behind `trim_src`'s start nothing is translated to the left of
    `first_nonspace` of the first line, when that line keeps blanks only -/
theorem getLines_lower {src : List Char} {offs : List LineOffset}
    (hT : ∀ (k : Nat) (o : LineOffset), offs[k]? = some o → Block.LineOk src o)
    (hord : Block.SortedS offs) {b e indent : Nat} {c : List Char} {m : Srcmap} (hbe : b < e)
    (h : getLines src offs b e indent false = .ok (c, m)) {ob : LineOffset} (hob : offs[b]? = some ob)
    (hkept : KeptBlank src indent ob) (hlt : (trimSrc c).1 < (trimSrc c).2) :
    ∀ pos x, (trimSrc c).1 ≤ pos → getSourcePosFor m pos = .ok x → ob.firstNonspace ≤ x := by
  obtain ⟨oe, hoe⟩ := getLines_last hbe h
  obtain ⟨hw, hmv, _⟩ := getLines_table hT hord hbe h hoe
  obtain ⟨v, hsh, _, _⟩ := Block.shows_of_lineOk (hT _ _ hob)
  obtain ⟨tail, hc, htr⟩ := getLines_first hT hord hbe h hob hsh.1 rfl
  have hk := hkept v.1 hsh.1
  generalize calcRightWs v.1 (ob.indentNonspace - usizeAsI32 indent) = cc at hc htr hk
  -- `trim_src` skips the virtual spaces and the kept blanks
  have hB : ∀ x ∈ List.replicate cc.1 ' ' ++ dropB v.1 cc.2, isSpTab x = true := by
    intro x hx
    simp only [List.mem_append, List.mem_replicate] at hx
    rcases hx with ⟨_, rfl⟩ | hx
    · decide
    · rcases hk x hx with rfl | rfl <;> decide
  have hfront := trimSrc_front c _ tail hc hB hlt
  simp only [List.length_append, List.length_replicate, ← allBlank_len hk] at hfront
  intro pos x hpos hx
  exact C05.translate_mono_all m hw hmv _ pos (by omega) _ _ htr hx

end MdIt.C05I
