/-
  Helper development for C15 (`MdIt/Props/C15.lean`).

  1. `marksFrom`   — the marks pushed by the construction loop, as a structural recursion.
  2. `runSt`       — operational reading of the specification (a fold of `(line, column)` over the
                     characters that start before a byte position).
  3. marks invariant: sound (`(line, column)` = fold state at a boundary), cover (the byte after every
     line ending carries a mark), strictly increasing offsets.
  4. `bsearch` contract.
  5. the two counting functions of the specification equal the fold (`spec_is_fold`).
-/
import MdIt.Model.SourceMap
import MdIt.Lemmas.Lines

namespace MdIt.SourceMap

/-! ### 1. structural view of the construction loop -/

/-- the marks pushed by `newLoop` on `src`, in push order -/
def marksFrom (off line col : Nat) : List Char → List Mark
  | [] => []
  | c :: r =>
    if c = '\r' ∧ r.head? = some '\n' then marksFrom (off + c.utf8Size) line (col + 1) r
    else if c = '\r' ∨ c = '\n' then
      ⟨off + 1, line + 1, 0⟩ :: marksFrom (off + c.utf8Size) (line + 1) 0 r
    else
      (if col % checkpointEvery = 0 ∧ col > 0 then [⟨off, line, col⟩] else [])
        ++ marksFrom (off + c.utf8Size) line (col + 1) r

theorem newLoop_eq (off line col : Nat) (marks : List Mark) (src : List Char) :
    newLoop off line col marks src = marks ++ marksFrom off line col src := by
  fun_induction newLoop off line col marks src
  case case1 => rw [marksFrom, List.append_nil]
  case case2 h ih => rw [marksFrom, if_pos h]; exact ih
  case case3 h1 h2 ih => rw [marksFrom, if_neg h1, if_pos h2, ih, List.append_assoc]; rfl
  case case4 h1 h2 marks' ih =>
    rw [marksFrom, if_neg h1, if_neg h2, ih, ← List.append_assoc]
    congr 1
    simp only [marks']
    split <;> simp

theorem mkMarks_eq (src : List Char) : mkMarks src = ⟨0, 1, 0⟩ :: marksFrom 0 1 0 src := by
  simp [mkMarks, newLoop_eq]

theorem utf8Size_cr : '\r'.utf8Size = 1 := by decide
theorem utf8Size_lf : '\n'.utf8Size = 1 := by decide

/-! ### 2. the operational fold -/

/-- the character `ch`, followed by `next`, ends a line -/
def isEnd (ch : Char) (next : Option Char) : Prop :=
  ch = '\n' ∨ (ch = '\r' ∧ next ≠ some '\n')

instance (ch : Char) (next : Option Char) : Decidable (isEnd ch next) := by
  unfold isEnd; infer_instance

/-- `(line, column)` after the characters of `src` that start at a byte position `< n`,
    starting from `(l, c)` -/
def runSt (l c : Nat) : List Char → Nat → Nat × Nat
  | [], _ => (l, c)
  | ch :: r, n =>
    if n = 0 then (l, c)
    else if isEnd ch r.head? then runSt (l + 1) 0 r (n - ch.utf8Size)
    else runSt l (c + 1) r (n - ch.utf8Size)

@[simp] theorem runSt_zero (l c : Nat) (src : List Char) : runSt l c src 0 = (l, c) := by
  cases src <;> simp [runSt]

/-- the three arms of the construction loop in terms of `isEnd` -/
theorem isEnd_iff (c : Char) (nx : Option Char) :
    isEnd c nx ↔ ¬ (c = '\r' ∧ nx = some '\n') ∧ (c = '\r' ∨ c = '\n') := by
  unfold isEnd
  constructor
  · rintro (rfl | ⟨rfl, h⟩)
    · exact ⟨fun h => absurd h.1 (by decide), Or.inr rfl⟩
    · exact ⟨fun h' => h h'.2, Or.inl rfl⟩
  · rintro ⟨h1, rfl | rfl⟩
    · exact Or.inr ⟨rfl, fun h => h1 ⟨rfl, h⟩⟩
    · exact Or.inl rfl

theorem runSt_cons_add (l c : Nat) (ch : Char) (r : List Char) (k : Nat) :
    runSt l c (ch :: r) (ch.utf8Size + k) =
      if isEnd ch r.head? then runSt (l + 1) 0 r k else runSt l (c + 1) r k := by
  rw [runSt, if_neg (by have := Char.utf8Size_pos ch; omega), Nat.add_sub_cancel_left]

/-- number of characters of `b` starting at a position `< n` -/
def startsBelow : List Char → Nat → Nat
  | [], _ => 0
  | ch :: r, n => if n = 0 then 0 else 1 + startsBelow r (n - ch.utf8Size)

/-- no line ending among the characters of `b` that start at a position `< n` -/
def noEnd : List Char → Nat → Prop
  | [], _ => True
  | ch :: r, n => n = 0 ∨ (¬ isEnd ch r.head? ∧ noEnd r (n - ch.utf8Size))

theorem runSt_append (l c : Nat) (a b : List Char) (n : Nat) (h : byteLen a ≤ n) :
    runSt l c (a ++ b) n =
      runSt (runSt l c (a ++ b) (byteLen a)).1 (runSt l c (a ++ b) (byteLen a)).2 b
        (n - byteLen a) := by
  induction a generalizing l c n with
  | nil => rw [byteLen, runSt_zero]; rfl
  | cons ch a ih =>
    obtain ⟨k, rfl⟩ : ∃ k, n = ch.utf8Size + k := ⟨n - ch.utf8Size, by rw [byteLen] at h; omega⟩
    rw [byteLen, Nat.add_le_add_iff_left] at h
    rw [byteLen, List.cons_append, runSt_cons_add, runSt_cons_add, Nat.add_sub_add_left]
    split
    · exact ih _ _ _ h
    · exact ih _ _ _ h

theorem runSt_noEnd (l c : Nat) (b : List Char) (n : Nat) (h : noEnd b n) :
    runSt l c b n = (l, c + startsBelow b n) := by
  induction b generalizing c n with
  | nil => simp [runSt, startsBelow]
  | cons ch r ih =>
    simp only [runSt, startsBelow]
    by_cases hn : n = 0
    · simp [hn]
    · simp only [hn, if_false]
      simp only [noEnd, hn, false_or] at h
      rw [if_neg h.1, ih _ _ h.2]
      simp; omega

theorem colLoop_eq (base bo off : Nat) (b : List Char) (c : Nat) :
    colLoop base bo off b c = c + startsBelow b (bo - (base + off)) := by
  fun_induction colLoop base bo off b c
  case case1 => rfl
  case case2 off ch r c h => rw [Nat.sub_eq_zero_of_le h]; rfl
  case case3 off ch r c h ih =>
    rw [ih, startsBelow, if_neg (by omega),
      show bo - (base + (off + ch.utf8Size)) = bo - (base + off) - ch.utf8Size by omega]
    omega
/-- a line ending below `n` in `b`, exhibited as a split of `b` -/
theorem exists_end_of_not_noEnd (b : List Char) (n : Nat) (h : ¬ noEnd b n) :
    ∃ x ch y, b = x ++ ch :: y ∧ byteLen x < n ∧ isEnd ch y.head? := by
  induction b generalizing n with
  | nil => simp [noEnd] at h
  | cons ch r ih =>
    simp only [noEnd, not_or, not_and] at h
    by_cases he : isEnd ch r.head?
    · exact ⟨[], ch, r, rfl, by simp [byteLen]; omega, he⟩
    · have := h.2 he
      obtain ⟨x, ch', y, hxy, hlt, hend⟩ := ih _ this
      refine ⟨ch :: x, ch', y, by simp [hxy], ?_, hend⟩
      simp only [byteLen]; omega

theorem byteLen_eq_lines : byteLen = Lines.byteLen := by
  funext s
  induction s with
  | nil => rfl
  | cons c r ih => simp only [byteLen, Lines.byteLen, ih]

theorem sliceFrom_eq_lines : sliceFrom = Lines.dropBytes := by
  funext s n
  fun_induction Lines.dropBytes s n with
  | case5 c r n h0 hge ih => rw [sliceFrom, if_neg h0, if_neg (by omega), ih]
  | _ => simp_all [sliceFrom]

theorem sliceFrom_append (a b : List Char) : sliceFrom (a ++ b) (byteLen a) = some b := by
  rw [sliceFrom_eq_lines, byteLen_eq_lines]; exact Lines.dropBytes_append a b

theorem byteLen_append (a b : List Char) : byteLen (a ++ b) = byteLen a + byteLen b := by
  rw [byteLen_eq_lines]; exact Lines.byteLen_append a b

/-! ### 3. marks invariant -/

theorem mem_checkpoint {off line col : Nat} {m : Mark}
    (hm : m ∈ (if col % checkpointEvery = 0 ∧ col > 0 then [(⟨off, line, col⟩ : Mark)] else [])) :
    m = ⟨off, line, col⟩ ∧ 0 < col := by
  split at hm
  · next h => exact ⟨List.mem_singleton.mp hm, h.2⟩
  · cases hm

/-- every pushed mark sits on a character boundary and records the fold state there -/
theorem marksFrom_sound (off line col : Nat) (rest : List Char) (m : Mark)
    (hm : m ∈ marksFrom off line col rest) :
    ∃ a b, rest = a ++ b ∧ m.offset = off + byteLen a ∧
      (m.line, m.column) = runSt line col rest (byteLen a) := by
  revert hm
  fun_induction marksFrom off line col rest
  case case1 => intro hm; cases hm
  case case2 off line col c r h ih =>
    intro hm
    obtain ⟨a, b, rfl, ho, hs⟩ := ih hm
    have he : ¬ isEnd c (a ++ b).head? := fun he => ((isEnd_iff _ _).mp he).1 h
    exact ⟨c :: a, b, rfl, by rw [ho, byteLen, Nat.add_assoc], by
      rw [byteLen, runSt_cons_add, if_neg he]; exact hs⟩
  case case3 off line col c r h1 h2 ih =>
    intro hm
    have he : isEnd c r.head? := (isEnd_iff _ _).mpr ⟨h1, h2⟩
    rcases List.mem_cons.mp hm with rfl | hm
    · have hs : c.utf8Size = 1 := by rcases h2 with rfl | rfl <;> rfl
      exact ⟨[c], r, rfl, by simp only [byteLen]; omega, by
        rw [byteLen, byteLen, runSt_cons_add, if_pos he, runSt_zero]⟩
    · obtain ⟨a, b, rfl, ho, hs⟩ := ih hm
      exact ⟨c :: a, b, rfl, by rw [ho, byteLen, Nat.add_assoc], by
        rw [byteLen, runSt_cons_add, if_pos he]; exact hs⟩
  case case4 off line col c r h1 h2 ih =>
    intro hm
    rcases List.mem_append.mp hm with hm | hm
    · obtain ⟨rfl, _⟩ := mem_checkpoint hm
      exact ⟨[], c :: r, rfl, rfl, by rw [byteLen, runSt_zero]⟩
    · obtain ⟨a, b, rfl, ho, hs⟩ := ih hm
      have he : ¬ isEnd c (a ++ b).head? := fun he => h2 ((isEnd_iff _ _).mp he).2
      exact ⟨c :: a, b, rfl, by rw [ho, byteLen, Nat.add_assoc], by
        rw [byteLen, runSt_cons_add, if_neg he]; exact hs⟩
/-- the marks of the tail (for the state after `c`) are marks of `c :: r` -/
theorem marksFrom_tail (off line col : Nat) (c : Char) (r : List Char) :
    ∃ l' c', ∀ m, m ∈ marksFrom (off + c.utf8Size) l' c' r → m ∈ marksFrom off line col (c :: r) := by
  generalize hs : c :: r = s
  fun_cases marksFrom off line col s
  · cases hs
  · cases hs; exact ⟨_, _, fun m hm => hm⟩
  · cases hs; exact ⟨_, _, fun m hm => List.mem_cons_of_mem _ hm⟩
  · cases hs; exact ⟨_, _, fun m hm => List.mem_append_right _ hm⟩

/-- the byte after every line ending carries a mark -/
theorem marksFrom_cover (off line col : Nat) (a : List Char) (ch : Char) (b : List Char)
    (hend : isEnd ch b.head?) :
    ∃ m ∈ marksFrom off line col (a ++ ch :: b), m.offset = off + byteLen a + 1 := by
  induction a generalizing off line col with
  | nil =>
    rw [List.nil_append, marksFrom, if_neg ((isEnd_iff _ _).mp hend).1,
      if_pos ((isEnd_iff _ _).mp hend).2]
    exact ⟨_, List.mem_cons_self, rfl⟩
  | cons c a ih =>
    obtain ⟨l', c', hsub⟩ := marksFrom_tail off line col c (a ++ ch :: b)
    obtain ⟨m, hm, ho⟩ := ih (off + c.utf8Size) l' c'
    exact ⟨m, hsub m hm, by rw [ho, byteLen]; omega⟩

/-- pushed marks lie at or after the running offset, strictly after when the column is 0 -/
theorem marksFrom_lower (off line col : Nat) (rest : List Char) (m : Mark)
    (hm : m ∈ marksFrom off line col rest) : off ≤ m.offset ∧ (col = 0 → off < m.offset) := by
  revert hm
  fun_induction marksFrom off line col rest
  case case1 => intro hm; cases hm
  case case2 c _ _ ih => intro hm; have := ih hm; have := Char.utf8Size_pos c; omega
  case case3 c _ _ _ ih =>
    intro hm
    rcases List.mem_cons.mp hm with rfl | hm
    · exact ⟨Nat.le_succ _, fun _ => Nat.lt_succ_self _⟩
    · have := ih hm; have := Char.utf8Size_pos c; omega
  case case4 c _ _ _ ih =>
    intro hm
    rcases List.mem_append.mp hm with hm | hm
    · obtain ⟨rfl, hc⟩ := mem_checkpoint hm
      exact ⟨Nat.le_refl _, fun h => absurd hc (by omega)⟩
    · have := ih hm; have := Char.utf8Size_pos c; omega

theorem marksFrom_pairwise (off line col : Nat) (rest : List Char) :
    (marksFrom off line col rest).Pairwise (fun m m' => m.offset < m'.offset) := by
  fun_induction marksFrom off line col rest
  case case1 => exact List.Pairwise.nil
  case case2 ih => exact ih
  case case3 c _ _ h2 ih =>
    have hs : c.utf8Size = 1 := by rcases h2 with rfl | rfl <;> rfl
    refine List.pairwise_cons.mpr ⟨fun m' hm' => ?_, ih⟩
    have := (marksFrom_lower _ _ _ _ _ hm').2 rfl
    simp only; omega
  case case4 c _ _ _ ih =>
    refine List.pairwise_append.mpr ⟨?_, ih, fun m hm m' hm' => ?_⟩
    · split
      · exact List.pairwise_singleton _ _
      · exact List.Pairwise.nil
    · obtain ⟨rfl, _⟩ := mem_checkpoint hm
      have := (marksFrom_lower _ _ _ _ _ hm').1
      have := Char.utf8Size_pos c
      simp only; omega

theorem mkMarks_pairwise (src : List Char) :
    (mkMarks src).Pairwise (fun m m' => m.offset < m'.offset) := by
  rw [mkMarks_eq, List.pairwise_cons]
  exact ⟨fun m' hm' => (marksFrom_lower _ _ _ _ _ hm').2 rfl, marksFrom_pairwise ..⟩

/-- soundness for the whole mark vector (absolute positions, fold from `(1, 0)`) -/
theorem mkMarks_sound (src : List Char) (m : Mark) (hm : m ∈ mkMarks src) :
    ∃ a b, src = a ++ b ∧ m.offset = byteLen a ∧ (m.line, m.column) = runSt 1 0 src (byteLen a) := by
  rw [mkMarks_eq] at hm
  rcases List.mem_cons.mp hm with hm | hm
  · exact ⟨[], src, rfl, by simp [hm, byteLen], by simp [hm, byteLen]⟩
  · obtain ⟨a, b, h1, h2, h3⟩ := marksFrom_sound _ _ _ _ _ hm
    exact ⟨a, b, h1, by omega, h3⟩

theorem mkMarks_cover (a : List Char) (ch : Char) (b : List Char) (hend : isEnd ch b.head?) :
    ∃ m ∈ mkMarks (a ++ ch :: b), m.offset = byteLen a + 1 := by
  obtain ⟨m, hm, ho⟩ := marksFrom_cover 0 1 0 a ch b hend
  exact ⟨m, by rw [mkMarks_eq]; exact List.mem_cons_of_mem _ hm, by omega⟩

/-! ### 4. bisection -/

/-- The contract of Rust's `binary_search_by` for the comparator `|k| k.cmp(&probe)`:
    `Ok(i)` — `keys[i]` equals the probe; `Err(i)` — everything before `i` is smaller, everything
    from `i` on is greater. -/
def BsContract (keys : List Nat) (probe : Nat) : Nat ⊕ Nat → Prop
  | .inl i => ∃ h : i < keys.length, keys[i] = probe
  | .inr i => i ≤ keys.length ∧ (∀ j (h : j < keys.length), j < i → keys[j] < probe) ∧
      (∀ j (h : j < keys.length), i ≤ j → probe < keys[j])

theorem sorted_mono {keys : List Nat} (hs : keys.Pairwise (· < ·)) {i j : Nat}
    (hi : i < keys.length) (hj : j < keys.length) (hij : i ≤ j) : keys[i] ≤ keys[j] := by
  rcases Nat.lt_or_eq_of_le hij with h | h
  · exact Nat.le_of_lt (List.pairwise_iff_getElem.mp hs i j hi hj h)
  · subst h; exact Nat.le_refl _

theorem sorted_strict {keys : List Nat} (hs : keys.Pairwise (· < ·)) {i j : Nat}
    (hi : i < keys.length) (hj : j < keys.length) (hij : i < j) : keys[i] < keys[j] :=
  List.pairwise_iff_getElem.mp hs i j hi hj hij

theorem bsearchGo_contract (keys : List Nat) (probe lo hi : Nat) (hhi : hi ≤ keys.length)
    (hs : keys.Pairwise (· < ·)) (hle : lo ≤ hi)
    (hlo : ∀ j (h : j < keys.length), j < lo → keys[j] < probe)
    (hup : ∀ j (h : j < keys.length), hi ≤ j → probe < keys[j]) :
    BsContract keys probe (bsearchGo keys probe lo hi hhi) := by
  fun_induction bsearchGo keys probe lo hi hhi with
  | case1 lo hi hhi h mid hm k hk ih =>
    apply ih (by omega)
    · intro j hj hjm
      have := sorted_mono hs hj hm (by omega : j ≤ mid)
      omega
    · exact hup
  | case2 lo hi hhi h mid hm k hk1 hk2 ih =>
    apply ih (by omega) hlo
    intro j hj hjm
    have := sorted_mono hs hm hj hjm
    omega
  | case3 lo hi hhi h mid hm k hk1 hk2 =>
    exact ⟨hm, by omega⟩
  | case4 lo hi hhi h =>
    have : lo = hi := by omega
    subst this
    exact ⟨hhi, hlo, hup⟩

theorem bsearch_contract (keys : List Nat) (probe : Nat) (hs : keys.Pairwise (· < ·)) :
    BsContract keys probe (bsearch keys probe) := by
  unfold bsearch
  apply bsearchGo_contract keys probe 0 keys.length _ hs (Nat.zero_le _)
  · intro j _ h; omega
  · intro j h h'; omega

/-- On strictly increasing keys the contract determines the answer: every conforming
    implementation of `binary_search_by` returns what `bsearch` returns. -/
theorem bsearch_unique (keys : List Nat) (probe : Nat) (hs : keys.Pairwise (· < ·))
    (r : Nat ⊕ Nat) (hr : BsContract keys probe r) : r = bsearch keys probe := by
  have hb := bsearch_contract keys probe hs
  generalize bsearch keys probe = r' at hb
  rcases r with i | i <;> rcases r' with i' | i' <;> simp only [BsContract] at hr hb
  · obtain ⟨h, e⟩ := hr; obtain ⟨h', e'⟩ := hb
    congr 1
    rcases Nat.lt_trichotomy i i' with hlt | heq | hgt
    · have := sorted_strict hs h h' hlt; omega
    · exact heq
    · have := sorted_strict hs h' h hgt; omega
  · obtain ⟨h, e⟩ := hr; obtain ⟨_, h1, h2⟩ := hb
    exfalso
    by_cases hc : i < i'
    · have := h1 i h hc; omega
    · have := h2 i h (by omega); omega
  · obtain ⟨h, e⟩ := hb; obtain ⟨_, h1, h2⟩ := hr
    exfalso
    by_cases hc : i' < i
    · have := h1 i' h hc; omega
    · have := h2 i' h (by omega); omega
  · obtain ⟨hl, h1, h2⟩ := hr; obtain ⟨hl', h1', h2'⟩ := hb
    congr 1
    rcases Nat.lt_trichotomy i i' with hlt | heq | hgt
    · have a := h1' i (by omega) hlt; have b := h2 i (by omega) (Nat.le_refl _); omega
    · exact heq
    · have a := h1 i' (by omega) hgt; have b := h2' i' (by omega) (Nat.le_refl _); omega

/-- first key `≤ probe`: the search ends at the last key `≤ probe`, reported as `Ok(f)` or as
    `Err(f + 1)` -/
theorem bsearch_last_le (keys : List Nat) (probe : Nat) (hs : keys.Pairwise (· < ·))
    (h0 : ∃ h : 0 < keys.length, keys[0] ≤ probe) :
    ∃ f, (bsearch keys probe = .inl f ∨ bsearch keys probe = .inr (f + 1)) ∧
      ∃ h : f < keys.length, keys[f] ≤ probe ∧
        ∀ j (hj : j < keys.length), f < j → probe < keys[j] := by
  have hb := bsearch_contract keys probe hs
  generalize bsearch keys probe = r at hb
  obtain ⟨hpos, hk0⟩ := h0
  rcases r with i | i
  · obtain ⟨h, e⟩ := hb
    exact ⟨i, Or.inl rfl, h, Nat.le_of_eq e, fun j hj hij => e ▸ sorted_strict hs h hj hij⟩
  · obtain ⟨hl, h1, h2⟩ := hb
    cases i with
    | zero => exact absurd (h2 0 hpos (Nat.le_refl _)) (Nat.not_lt.mpr hk0)
    | succ f =>
      exact ⟨f, Or.inr rfl, hl, Nat.le_of_lt (h1 f hl (Nat.lt_succ_self f)), fun j hj hij => h2 j hj hij⟩

/-- … so `Err(x) => x - 1` does not underflow -/
theorem foundOf_bsearch (keys : List Nat) (probe : Nat) (hs : keys.Pairwise (· < ·))
    (h0 : ∃ h : 0 < keys.length, keys[0] ≤ probe) :
    ∃ f, foundOf (bsearch keys probe) = .ok f ∧ ∃ h : f < keys.length, keys[f] ≤ probe ∧
      ∀ j (hj : j < keys.length), f < j → probe < keys[j] := by
  obtain ⟨f, hf | hf, h⟩ := bsearch_last_le keys probe hs h0
  · exact ⟨f, by rw [hf]; rfl, h⟩
  · exact ⟨f, by rw [hf]; rfl, h⟩

/-! ### 5. the specification is the fold -/

theorem charAt_cons_zero (ch : Char) (r : List Char) : charAt (ch :: r) 0 = some ch := by
  simp [charAt]

theorem charAt_cons_mid (ch : Char) (r : List Char) (k : Nat) (h0 : 0 < k) (h1 : k < ch.utf8Size) :
    charAt (ch :: r) k = none := by
  have : k ≠ 0 := by omega
  simp [charAt, this, h1]

theorem charAt_cons_add (ch : Char) (r : List Char) (k : Nat) :
    charAt (ch :: r) (ch.utf8Size + k) = charAt r k := by
  have hp := Char.utf8Size_pos ch
  have h1 : ch.utf8Size + k ≠ 0 := by omega
  have h2 : ¬ (ch.utf8Size + k < ch.utf8Size) := by omega
  have h3 : ch.utf8Size + k - ch.utf8Size = k := by omega
  rw [charAt, if_neg h1, if_neg h2, h3]

theorem charAt_zero (r : List Char) : charAt r 0 = r.head? := by
  cases r <;> simp [charAt]

theorem lineEnd_cons_zero (ch : Char) (r : List Char) :
    lineEnd (ch :: r) 0 = decide (isEnd ch r.head?) := by
  unfold lineEnd isEnd
  rw [charAt_cons_zero]
  by_cases h1 : ch = '\n'
  · simp [h1]
  · by_cases h2 : ch = '\r'
    · have : charAt (ch :: r) (0 + 1) = r.head? := by
        have := charAt_cons_add ch r 0
        rw [h2, utf8Size_cr] at this
        rw [h2, ← charAt_zero]; exact this
      rw [this]
      subst h2
      cases hh : r.head? with
      | none => simp
      | some v => by_cases hv : v = '\n' <;> simp [hv]
    · simp [h1, h2]

theorem lineEnd_cons_mid (ch : Char) (r : List Char) (k : Nat) (h0 : 0 < k) (h1 : k < ch.utf8Size) :
    lineEnd (ch :: r) k = false := by
  simp [lineEnd, charAt_cons_mid ch r k h0 h1]

theorem lineEnd_cons_add (ch : Char) (r : List Char) (k : Nat) :
    lineEnd (ch :: r) (ch.utf8Size + k) = lineEnd r k := by
  unfold lineEnd
  rw [charAt_cons_add, Nat.add_assoc, charAt_cons_add]

theorem lineEnd_nil (k : Nat) : lineEnd [] k = false := by simp [lineEnd, charAt]

/-- `afterLastEnd` with an exclusive bound (so that the empty range is expressible) -/
def noEndFrom (src : List Char) (n k : Nat) : Bool :=
  (List.range n).all fun j => j < k || !lineEnd src j

theorem afterLastEnd_eq (src : List Char) (o k : Nat) :
    afterLastEnd src o k = noEndFrom src (o + 1) k := rfl

theorem noEndFrom_iff (src : List Char) (n k : Nat) :
    noEndFrom src n k = true ↔ ∀ j, j < n → k ≤ j → lineEnd src j = false := by
  simp only [noEndFrom, List.all_eq_true, List.mem_range, Bool.or_eq_true, decide_eq_true_eq,
    Bool.not_eq_true']
  constructor
  · intro h j hj hk
    rcases h j hj with h' | h'
    · omega
    · exact h'
  · intro h j hj
    by_cases hk : j < k
    · exact Or.inl hk
    · exact Or.inr (h j hj (by omega))

/-- #{ j < n | line ending at j } -/
def cntL (src : List Char) (n : Nat) : Nat := (List.range n).countP (lineEnd src)

/-- #{ k < n | a character starts at k and no line ending lies in [k, n) } -/
def cntC (src : List Char) (n : Nat) : Nat :=
  (List.range n).countP fun k => startsAt src k && noEndFrom src n k

theorem countP_range_zero (P : Nat → Bool) (n : Nat) (h : ∀ k, k < n → P k = false) :
    (List.range n).countP P = 0 := by
  rw [List.countP_eq_zero]
  intro a ha
  simp [h a (List.mem_range.mp ha)]

theorem countP_range_congr (P Q : Nat → Bool) (n : Nat) (h : ∀ k, k < n → P k = Q k) :
    (List.range n).countP P = (List.range n).countP Q := by
  apply List.countP_congr
  intro x hx
  rw [h x (List.mem_range.mp hx)]

theorem countP_range_add (P : Nat → Bool) (a b : Nat) :
    (List.range (a + b)).countP P =
      (List.range a).countP P + (List.range b).countP (fun k => P (a + k)) := by
  rw [List.range_add, List.countP_append, List.countP_map]
  rfl

/-- splitting a count over the positions of `ch :: r`: position 0, the interior of `ch` (nothing),
    and the positions of `r` shifted by the size `s` of `ch` -/
theorem countP_range_split (P : Nat → Bool) (s n : Nat) (hs : 0 < s) (hn : 0 < n)
    (hmid : ∀ k, 0 < k → k < s → P k = false) :
    (List.range n).countP P =
      (if P 0 then 1 else 0) + (List.range (n - s)).countP (fun k => P (s + k)) := by
  have one : ∀ m, 0 < m → m ≤ s → (List.range m).countP P = if P 0 then 1 else 0 := by
    intro m hm hms
    have : m = 1 + (m - 1) := by omega
    rw [this, countP_range_add]
    have z : (List.range (m - 1)).countP (fun k => P (1 + k)) = 0 :=
      countP_range_zero _ _ (fun k hk => hmid (1 + k) (by omega) (by omega))
    rw [z]
    simp [List.range_succ]
  by_cases h : n ≤ s
  · have : n - s = 0 := by omega
    rw [this, one n hn h]; simp
  · obtain ⟨m, rfl⟩ : ∃ m, n = s + m := ⟨n - s, by omega⟩
    have e : s + m - s = m := by omega
    rw [e, countP_range_add, one s hs (Nat.le_refl _)]

theorem cntL_nil (n : Nat) : cntL [] n = 0 :=
  countP_range_zero _ _ (fun k _ => lineEnd_nil k)

theorem cntC_nil (n : Nat) : cntC [] n = 0 :=
  countP_range_zero _ _ (fun k _ => by simp [startsAt, charAt])

theorem cntL_cons (ch : Char) (r : List Char) (n : Nat) (hn : 0 < n) :
    cntL (ch :: r) n = (if isEnd ch r.head? then 1 else 0) + cntL r (n - ch.utf8Size) := by
  unfold cntL
  rw [countP_range_split (lineEnd (ch :: r)) ch.utf8Size n (Char.utf8Size_pos ch) hn
    (fun k h0 h1 => lineEnd_cons_mid ch r k h0 h1)]
  rw [lineEnd_cons_zero]
  congr 1
  · simp
  · exact countP_range_congr _ _ _ (fun k _ => lineEnd_cons_add ch r k)

theorem cntL_eq_zero_iff (src : List Char) (n : Nat) :
    cntL src n = 0 ↔ ∀ j, j < n → lineEnd src j = false := by
  unfold cntL
  rw [List.countP_eq_zero]
  simp [List.mem_range]

theorem cntC_cons (ch : Char) (r : List Char) (n : Nat) (hn : 0 < n) :
    cntC (ch :: r) n =
      (if cntL (ch :: r) n = 0 then 1 else 0) + cntC r (n - ch.utf8Size) := by
  have hp := Char.utf8Size_pos ch
  unfold cntC
  rw [countP_range_split _ ch.utf8Size n hp hn
    (fun k h0 h1 => by simp [startsAt, charAt_cons_mid ch r k h0 h1])]
  congr 1
  · -- position 0: a character starts there; it counts iff there is no line ending below `n`
    have h1 : startsAt (ch :: r) 0 = true := by simp [startsAt, charAt_cons_zero]
    rw [h1, Bool.true_and]
    by_cases hz : cntL (ch :: r) n = 0
    · have : noEndFrom (ch :: r) n 0 = true := by
        rw [noEndFrom_iff]; intro j hj _; exact (cntL_eq_zero_iff _ _).mp hz j hj
      simp [hz, this]
    · have : noEndFrom (ch :: r) n 0 = false := by
        rw [Bool.eq_false_iff]; intro hc
        rw [noEndFrom_iff] at hc
        exact hz ((cntL_eq_zero_iff _ _).mpr (fun j hj => hc j hj (Nat.zero_le _)))
      simp [hz, this]
  · apply countP_range_congr
    intro k hk
    have h1 : startsAt (ch :: r) (ch.utf8Size + k) = startsAt r k := by
      simp [startsAt, charAt_cons_add]
    rw [h1]
    congr 1
    -- no line ending in [s + k, n) of `ch :: r`  ⇔  none in [k, n - s) of `r`
    rw [Bool.eq_iff_iff, noEndFrom_iff, noEndFrom_iff]
    constructor
    · intro h j hj hkj
      have := h (ch.utf8Size + j) (by omega) (by omega)
      rwa [lineEnd_cons_add] at this
    · intro h j hj hkj
      have := h (j - ch.utf8Size) (by omega) (by omega)
      rw [← lineEnd_cons_add ch r] at this
      have e : ch.utf8Size + (j - ch.utf8Size) = j := by omega
      rwa [e] at this

/-- the fold computes the two counts -/
theorem runSt_eq_counts (l c : Nat) (src : List Char) (n : Nat) :
    runSt l c src n = (l + cntL src n, (if cntL src n = 0 then c else 0) + cntC src n) := by
  induction src generalizing l c n with
  | nil => rw [cntL_nil, cntC_nil]; rfl
  | cons ch r ih =>
    by_cases hn : n = 0
    · subst hn; rw [runSt_zero]; rfl
    · have hn' : 0 < n := Nat.pos_of_ne_zero hn
      rw [cntC_cons ch r n hn', cntL_cons ch r n hn', runSt, if_neg hn]
      by_cases he : isEnd ch r.head?
      · rw [if_pos he, if_pos he, ih]
        generalize cntL r (n - ch.utf8Size) = a
        have h1 : 1 + a ≠ 0 := by omega
        rw [if_neg h1, if_neg h1, ite_self]
        exact Prod.mk.injEq .. ▸ ⟨by omega, by omega⟩
      · rw [if_neg he, if_neg he, ih, Nat.zero_add]
        exact Prod.mk.injEq .. ▸ ⟨rfl, by split <;> omega⟩

theorem runSt_ge_len (l c : Nat) (src : List Char) (n : Nat) (h : byteLen src ≤ n) :
    runSt l c src n = runSt l c src (byteLen src) := by
  induction src generalizing l c n with
  | nil => rfl
  | cons ch r ih =>
    obtain ⟨k, rfl⟩ : ∃ k, n = ch.utf8Size + k := ⟨n - ch.utf8Size, by rw [byteLen] at h; omega⟩
    rw [byteLen, Nat.add_le_add_iff_left] at h
    rw [byteLen, runSt_cons_add, runSt_cons_add]
    split
    · exact ih _ _ _ h
    · exact ih _ _ _ h

/-- `spec_is_fold`: the two counting functions of the specification are the fold state after the
    characters starting at positions `≤ o` -/
theorem spec_is_fold (src : List Char) (o : Nat) :
    (specLine src o, specCol src o) = runSt 1 0 src (o + 1) := by
  have h1 : (specLine src o, specCol src o) = runSt 1 0 src (clamp src o + 1) := by
    rw [runSt_eq_counts]
    simp only [specLine, specCol, cntL, cntC, afterLastEnd_eq]
    simp
  rw [h1]
  unfold clamp
  by_cases h : o ≤ byteLen src - 1
  · rw [Nat.min_eq_left h]
  · rw [Nat.min_eq_right (by omega)]
    cases src with
    | nil => simp [runSt]
    | cons ch r =>
      have hp := Char.utf8Size_pos ch
      have hl : byteLen (ch :: r) - 1 + 1 = byteLen (ch :: r) := by simp only [byteLen]; omega
      rw [hl, runSt_ge_len 1 0 (ch :: r) (o + 1) (by omega)]

end MdIt.SourceMap
