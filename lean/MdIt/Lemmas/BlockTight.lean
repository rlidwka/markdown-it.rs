/-
  Tight lists: when the paragraph rule is the LAST rule of the block chain (what `after_all()` in
  `paragraph::add` makes of every plugin order), a tokenizer run that starts on an empty child vector and
  ends with `state.tight` set has pushed no two adjacent `Paragraph` nodes (`tokenize_tight`).  This is
  the one fact about the tokenizer loop that the grammar of block trees (`Lemmas/BlockGrammar.lean`)
  needs beyond what the single rules push: `mark_tight_paragraphs` dissolves the paragraphs of a tight
  item, and two dissolved neighbours would leave two adjacent `InlineRoot` placeholders.

  Two paragraphs with nothing in between are separated by a blank line — then `has_empty_lines` clears
  `tight` — or the first one was ended by the look-ahead `test_rules_at_line`; then a rule fires
  silently at that line, and in real mode the chain claims the line with a rule in front of the
  paragraph rule: `chain_at_term`, from silent ⇒ real across the different `children` / `tight` of the
  two states (`sr_rule`), the fact that no line on which a silent rule fires starts a reference
  definition (`fn_rule`, `reference_firstNot` — the reference rule pushes no node), and `rule_pushes`.

  The hypothesis is necessary: with the chain `[list, paragraph, hr]` the source `"- a\n  ***"` gives a
  tight item with two adjacent placeholders (example in `Props/C14Doc.lean`).
-/
import MdIt.Lemmas.BlockLook

namespace MdIt.Block
open MdIt.Lines (LineOffset)

/-- the state with other children and another `tight` flag -/
def reset (s : BState) (c : List BNode) (t : Bool) : BState := { s with children := c, tight := t }

@[simp] theorem reset_lineIndent (s : BState) (c : List BNode) (t : Bool) (l : Nat) :
    (reset s c t).lineIndent l = s.lineIndent l := rfl
@[simp] theorem reset_getLine (s : BState) (c : List BNode) (t : Bool) (l : Nat) :
    (reset s c t).getLine l = s.getLine l := rfl
@[simp] theorem reset_listSpecial (s : BState) (c : List BNode) (t : Bool) :
    listSpecial (reset s c t) = listSpecial s := rfl
@[simp] theorem reset_line (s : BState) (c : List BNode) (t : Bool) : (reset s c t).line = s.line := rfl
@[simp] theorem reset_nodeKind (s : BState) (c : List BNode) (t : Bool) : (reset s c t).nodeKind = s.nodeKind := rfl

/-- the line under the cursor is not empty and does not start with `[` -/
def FirstNot (s : BState) : Prop := ∃ c rest, s.getLine s.line = .ok (c :: rest) ∧ c ≠ '['

theorem head_first {l : List Char} {x : Char} (h : l.head? = some x) (hx : x ≠ '[') :
    ∃ c rest, l = c :: rest ∧ c ≠ '[' := by
  cases l with
  | nil => cases h
  | cons c rest =>
    cases h
    exact ⟨_, rest, rfl, hx⟩

theorem skipOrdered_first {l : List Char} {p : Nat} (h : skipOrdered l = some p) :
    ∃ c rest, l = c :: rest ∧ c ≠ '[' := by
  cases l with
  | nil => simp [skipOrdered] at h
  | cons c rest =>
    refine ⟨c, rest, rfl, ?_⟩
    rintro rfl
    simp [skipOrdered, isDigit] at h

theorem skipBullet_first {l : List Char} {p : Nat} (h : skipBullet l = some p) :
    ∃ c rest, l = c :: rest ∧ c ≠ '[' := by
  cases l with
  | nil => simp [skipBullet] at h
  | cons c rest =>
    refine ⟨c, rest, rfl, ?_⟩
    rintro rfl
    simp [skipBullet] at h

theorem detectMarker_first {l : List Char} {r : Nat × Option Nat} (h : detectMarker l = .ok (some r)) :
    ∃ c rest, l = c :: rest ∧ c ≠ '[' :=
  (detectMarker_ok h).elim skipOrdered_first skipBullet_first

/-- a line on which some rule fires silently is not empty and does not start with `[` -/
theorem fn_rule {cfg : Cfg} {tok : Tok} {test : Test} {fuel : Nat} {r : RuleId} {s s1 : BState}
    (hs : runRule cfg tok test fuel r s true = .ok (true, s1)) : FirstNot s := by
  cases r <;> simp only [runRule] at hs
  · simp [silent_false_code] at hs
  · rcases fenceRule_ok hs with ⟨⟨⟩, -⟩ | ⟨_, marker, rest, _, -, -, hl, hm, -⟩
    exact ⟨marker, rest, hl, by rcases hm with rfl | rfl <;> decide⟩
  · rcases blockquoteRule_ok hs with ⟨⟨⟩, -⟩ | ⟨_, line, -, -, hl, hm, -⟩
    obtain ⟨c, rest, rfl, hc⟩ := head_first hm (by decide)
    exact ⟨c, rest, hl, hc⟩
  · rcases hrRule_ok hs with ⟨⟨⟩, -⟩ | ⟨_, marker, rest, _, -, -, hl, hm, -⟩
    exact ⟨marker, rest, hl, by rcases hm with rfl | rfl | rfl <;> decide⟩
  · rcases listRule_ok hs with ⟨⟨⟩, -⟩ | ⟨_, cur, _, _, -, -, -, -, hl, hd, -⟩
    obtain ⟨c, rest, rfl, hc⟩ := detectMarker_first hd
    exact ⟨c, rest, hl, hc⟩
  · simp [silent_false_reference] at hs
  · rcases headingRule_ok hs with ⟨⟨⟩, -⟩ | ⟨_, line, _, _, _, -, -, hl, hm, -⟩
    obtain ⟨c, rest, rfl, hc⟩ := head_first hm (by decide)
    exact ⟨c, rest, hl, hc⟩
  · simp [silent_false_lheading] at hs
  · simp [silent_false_paragraph] at hs

theorem reference_firstNot {cfg : Cfg} {test : Test} {fuel : Nat} {s s2 : BState} {b : Bool}
    {c : List BNode} {t : Bool} (hf : FirstNot s)
    (hr : referenceRule cfg test fuel (reset s c t) false = .ok (b, s2)) : b = false := by
  obtain ⟨ch, rest, hl, hne⟩ := hf
  rcases referenceRule_ok hr with ⟨hb, -⟩ | ⟨_, _, _, _, _, _, _, _, _, _, _, -, -, -, hl', -⟩
  · exact hb
  · rw [reset_getLine, reset_line, hl] at hl'
    cases hl'
    exact absurd rfl hne


def BNode.isPara (n : BNode) : Bool :=
  match n.kind with
  | .paragraph => true
  | _ => false

/-- exactly one node was pushed, and it is not a paragraph -/
def PushedOther (s s' : BState) : Prop := ∃ n, s'.children = s.children ++ [n] ∧ n.isPara = false

theorem isPara_iff (n : BNode) : n.isPara = true ↔ n.kind = .paragraph := by
  unfold BNode.isPara
  split
  · next h => simp [h]
  · next h => simp; exact h

theorem rule_pushes {cfg : Cfg} {tok : Tok} {test : Test} (hk : TokSpec tok) (ht : TestPure test)
    {fuel : Nat} {r : RuleId} {s s' : BState} {b : Bool}
    (h : runRule cfg tok test fuel r s false = .ok (b, s')) (h1 : r ≠ .paragraph) :
    ((b = false ∨ r = .reference) ∧ s'.children = s.children) ∨
    (b = true ∧ r ≠ .reference ∧ PushedOther s s') := by
  rcases r.nests_cases with rfl | rfl | ⟨hq, hli⟩
  · rcases blockquote_children hk ht h with ⟨hb, rfl⟩ | ⟨_, _, _, hb, -, -, -, hc⟩
    · exact .inl ⟨.inl hb, rfl⟩
    · exact .inr ⟨hb, by simp, _, hc, rfl⟩
  · rcases list_children hk ht h with ⟨hb, rfl⟩ | ⟨k, _, _, _, hb, hkind, -, hc⟩
    · exact .inl ⟨.inl hb, rfl⟩
    · exact .inr ⟨hb, by simp, _, hc, by rcases isListKind_cases hkind with ⟨m, rfl⟩ | ⟨st, m, rfl⟩ <;> rfl⟩
  · rcases flatRule_children ht h hq hli with hc | ⟨n, hb, hc, -, hkp, hne⟩
    · exact .inl hc
    · refine .inr ⟨hb, hne, _, hc, ?_⟩
      cases hp : BNode.isPara _ with
      | false => rfl
      | true => exact absurd (hkp.mp ((isPara_iff _).mp hp)) h1

/-- the paragraph that starts in `s` ends before line `L`: at the end of the block, at a blank
    line, or because the look-ahead answered `true` there -/
def ParaExit (test : Test) (s : BState) (L : Nat) : Prop :=
  L ≥ s.lineMax ∨ s.isEmpty L = true ∨ ∃ x, test { s with line := L } = .ok (true, x)

theorem lazyScan_exit {test : Test} (ht : TestPure test) :
    ∀ (fuel : Nat) (s : BState) (n : Nat) (r : Nat × Nat × BState),
      lazyScan test false fuel s n = .ok r → ParaExit test s r.1 := by
  intro fuel
  induction fuel with
  | zero => intro s n r h; simp [lazyScan] at h
  | succ f ih =>
    intro s n r h
    obtain ⟨n', lvl, s'⟩ := r
    rcases lazyScan_ok h with ⟨hc, rfl, -, -⟩ | ⟨ind, -, -, ⟨-, h⟩ | ⟨l, -, hsx, ⟨hl, -⟩ |
      ⟨o, rfl, -, ⟨-, h⟩ | ⟨t, S, -, htest, ⟨rfl, rfl, -, -⟩ | ⟨-, h⟩⟩⟩⟩⟩
    · rcases hc with hc | hc
      · exact .inl hc
      · exact .inr (.inl hc)
    · exact ih _ _ _ h
    · simp [setextCheck, pure, Except.pure] at hsx
      exact absurd hsx.symm hl
    · exact ih _ _ _ h
    · exact .inr (.inr ⟨S, htest⟩)
    · cases ht _ _ htest
      exact ih _ _ _ h

theorem paragraph_push {test : Test} (ht : TestPure test) {fuel : Nat} {s s' : BState} {b : Bool}
    (h : paragraphRule test fuel s false = .ok (b, s')) :
    ∃ n, n.isPara = true ∧ s' = { s with line := s'.line, children := s.children ++ [n] } ∧
      ParaExit test s s'.line := by
  rcases paragraphRule_ok h with ⟨⟨⟩, -⟩ | ⟨nextLine, lvl, S, content, mapping, r, -, hscan, -, -, -, -, rfl⟩
  cases (lazyScan_spec ht hscan).1
  exact ⟨⟨.paragraph, some r, [⟨.inlineRoot content mapping, none, []⟩]⟩, rfl, rfl,
    lazyScan_exit ht _ _ _ _ hscan⟩


/-- no two adjacent elements both satisfy `p` -/
def NoAdj {α : Type} (p : α → Bool) : List α → Prop
  | [] => True
  | x :: r => (∀ y, r.head? = some y → ¬ (p x = true ∧ p y = true)) ∧ NoAdj p r

theorem noAdj_snoc {α : Type} (p : α → Bool) (l : List α) (x : α) :
    NoAdj p (l ++ [x]) ↔ NoAdj p l ∧ ∀ y, l.getLast? = some y → ¬ (p y = true ∧ p x = true) := by
  induction l with
  | nil => simp [NoAdj]
  | cons a r ih =>
    cases r with
    | nil => simp [NoAdj]
    | cons b r' =>
      have e : (a :: b :: r') ++ [x] = a :: ((b :: r') ++ [x]) := rfl
      rw [e]
      simp only [NoAdj] at ih ⊢
      rw [ih]
      simp only [List.cons_append, List.head?_cons, Option.some.injEq, forall_eq',
        List.getLast?_cons_cons]
      constructor
      · rintro ⟨h1, ⟨h2, h3⟩, h4⟩; exact ⟨⟨h1, h2, h3⟩, h4⟩
      · rintro ⟨⟨h1, h2, h3⟩, h4⟩; exact ⟨h1, ⟨h2, h3⟩, h4⟩

theorem noAdj_of_none {α : Type} (p : α → Bool) : ∀ (l : List α), (∀ x ∈ l, p x = false) → NoAdj p l
  | [], _ => trivial
  | x :: r, h => ⟨fun y _ hc => by rw [h x (by simp)] at hc; exact absurd hc.1 (by simp),
      noAdj_of_none p r (fun y hy => h y (List.mem_cons_of_mem _ hy))⟩

theorem noAdj_snoc_not {α : Type} {p : α → Bool} {l : List α} {x : α} (h : NoAdj p l) (hx : p x = false) :
    NoAdj p (l ++ [x]) :=
  (noAdj_snoc p l x).mpr ⟨h, fun y _ hc => by rw [hx] at hc; exact absurd hc.2 (by simp)⟩

/-- some rule of the chain answers `true` in silent mode at `u` (whatever the call-backs are: a silent
    run never reaches them) -/
def SilentFires (cfg : Cfg) (u : BState) : Prop :=
  ∃ (tok0 : Tok) (test0 : Test) (fuel0 : Nat) (r : RuleId) (x : BState),
    r ∈ cfg.chain ∧ runRule cfg tok0 test0 fuel0 r u true = .ok (true, x)

/-- the look-ahead answers `true` only where a rule of the chain fires silently -/
def TestFires (cfg : Cfg) (test : Test) : Prop := ∀ s x, test s = .ok (true, x) → SilentFires cfg s

/-- a paragraph was ended here by the look-ahead: up to `children` and `tight` (which the paragraph rule
    has changed since) the state is one at which a rule of the chain fires silently -/
def Term (cfg : Cfg) (s : BState) : Prop := ∃ u c t, s = reset u c t ∧ SilentFires cfg u

/-- the paragraph rule is the last rule of the chain (and occurs only there): what `after_all()` in
    `paragraph::add` makes of every plugin order -/
def ParaLast (chain : List RuleId) : Prop := ∃ pre, chain = pre ++ [.paragraph] ∧ RuleId.paragraph ∉ pre

/-- silent `true` ⇒ real mode does not answer `false`, across different `children` / `tight`: look-ahead
    reads neither (`silent_look`), so the silent run on `reset u c t` answers `true` as well -/
theorem sr_rule {cfg : Cfg} {tok0 tok : Tok} {test0 test : Test} {fuel0 fuel : Nat} {r : RuleId}
    {u s1 s2 : BState} {b : Bool} {c : List BNode} {t : Bool}
    (hs : runRule cfg tok0 test0 fuel0 r u true = .ok (true, s1))
    (hr : runRule cfg tok test fuel r (reset u c t) false = .ok (b, s2)) : b = true := by
  have h := silent_look (s := u) (t := reset u c t) ⟨rfl, rfl, rfl⟩ cfg cfg tok0 tok test0 test fuel0 fuel r
    (fun _ => rfl)
  rw [hs] at h
  exact silent_implies_real_rule h hr

/-- `chain_at_term` for a chain `pre ++ rest` whose front `pre` holds the rule that fires and no paragraph
    rule -/
theorem chain_term {cfg : Cfg} {tok : Tok} {test : Test} (hk : TokSpec tok) (ht : TestPure test) {fuel : Nat}
    {tok0 : Tok} {test0 : Test} {fuel0 : Nat} {r0 : RuleId} {x u : BState} {c : List BNode} {t : Bool}
    (hs : runRule cfg tok0 test0 fuel0 r0 u true = .ok (true, x)) :
    ∀ (pre rest : List RuleId), RuleId.paragraph ∉ pre → r0 ∈ pre → ∀ (b : Bool) (s2 : BState),
      runChain (runRule cfg tok test fuel) (pre ++ rest) (reset u c t) false = .ok (b, s2) →
      PushedOther (reset u c t) s2 := by
  intro pre
  induction pre with
  | nil => intro rest _ hm; simp at hm
  | cons r pre' ih =>
    intro rest hnp hm b s2 h
    have hrp : r ≠ .paragraph := fun e => hnp (by simp [e])
    simp only [List.cons_append, runChain] at h
    split at h
    · cases h
    · rename_i s1 h1
      cases h
      rcases rule_pushes hk ht h1 hrp with ⟨⟨⟨⟩⟩ | rfl, -⟩ | ⟨-, -, hc⟩
      · simp only [runRule] at h1
        cases reference_firstNot (fn_rule hs) h1
      · exact hc
    · rename_i s1 h1
      have e := (runRule_spec hk ht fuel).false_same _ _ _ h1
      subst e
      by_cases hr0 : r0 = r
      · subst hr0
        have := sr_rule hs h1
        cases this
      · have hm' : r0 ∈ pre' := by
          rcases List.mem_cons.mp hm with e | e
          · exact absurd e hr0
          · exact e
        exact ih rest (fun hp => hnp (List.mem_cons_of_mem _ hp)) hm' _ _ h

/-- where the look-ahead ended a paragraph, the chain (paragraph rule last) pushes one node that is not a
    paragraph: the rule that fired silently, or one in front of it, claims the line -/
theorem chain_at_term {cfg : Cfg} {tok : Tok} {test : Test} (hk : TokSpec tok) (ht : TestPure test)
    {fuel : Nat} (hlast : ParaLast cfg.chain) {s s2 : BState} {b : Bool} (hterm : Term cfg s)
    (h : runChain (runRule cfg tok test fuel) cfg.chain s false = .ok (b, s2)) : PushedOther s s2 := by
  obtain ⟨u, c, t, rfl, tok0, test0, fuel0, r0, x, hmem, hs⟩ := hterm
  obtain ⟨pre, hch, hnp⟩ := hlast
  have hr0 : r0 ∈ pre := by
    rw [hch] at hmem
    rcases List.mem_append.mp hmem with e | e
    · exact e
    · simp only [List.mem_singleton] at e
      subst e
      simp [runRule, silent_false_paragraph] at hs
  rw [hch] at h
  exact chain_term hk ht hs pre _ hnp hr0 _ _ h

/-- the three things a real-mode run of the chain does to `children`: nothing, one node that is not a
    paragraph, or one paragraph that ends for one of the reasons of `ParaExit` -/
def ChainRes (test : Test) (s s2 : BState) : Prop :=
  s2.children = s.children ∨ PushedOther s s2 ∨
    ∃ n, n.isPara = true ∧ s2 = { s with line := s2.line, children := s.children ++ [n] } ∧
      ParaExit test s s2.line

theorem runChain_result {cfg : Cfg} {tok : Tok} {test : Test} (hk : TokSpec tok) (ht : TestPure test)
    {fuel : Nat} {chain : List RuleId} {s s2 : BState} {b : Bool}
    (h : runChain (runRule cfg tok test fuel) chain s false = .ok (b, s2)) : ChainRes test s s2 := by
  rcases runChain_ok (runRule_spec hk ht fuel).false_same _ h with ⟨-, rfl⟩ | ⟨r, -, -, h1⟩
  · exact .inl rfl
  · by_cases hp : r = .paragraph
    · subst hp
      exact .inr (.inr (paragraph_push ht h1))
    · rcases rule_pushes hk ht h1 hp with ⟨-, hc⟩ | ⟨-, -, hc⟩
      · exact .inl hc
      · exact .inr (.inl hc)


/-- the loop invariant (`he` = `has_empty_lines`) -/
structure TInv (cfg : Cfg) (he : Bool) (s : BState) : Prop where
  noAdj : (he = false ∨ s.tight = true) → NoAdj BNode.isPara s.children
  term : he = false → ∀ p, s.children.getLast? = some p → p.isPara = true → s.line < s.lineMax →
    s.isEmpty s.line = false ∧ Term cfg s

theorem set_line_self (s : BState) : { s with line := s.line } = s := by cases s; rfl

theorem append_singleton_ne {α : Type} (l : List α) (x : α) : l ≠ l ++ [x] := by
  intro h
  have := congrArg List.length h
  simp at this

theorem iter_tight {cfg : Cfg} {tok : Tok} {test : Test} (hk : TokSpec tok) (ht : TestPure test)
    (htf : TestFires cfg test) {fuel : Nat} (hlast : ParaLast cfg.chain) {s1 s3 : BState}
    {w : Bool × BState} (hinv : TInv cfg false s1) (hlt : s1.line < s1.lineMax)
    (hc : runChain (runRule cfg tok test fuel) cfg.chain s1 false = .ok w)
    (ha : afterChain w.1 w.2 s1.line = .ok s3) :
    NoAdj BNode.isPara s3.children ∧
    (∀ t p, s3.children.getLast? = some p → p.isPara = true → s3.line < s3.lineMax →
      s3.isEmpty s3.line = false → Term cfg { s3 with tight := t }) := by
  obtain ⟨ok, s2⟩ := w
  have hna := hinv.noAdj (.inl rfl)
  have hres := runChain_result hk ht hc
  obtain ⟨hfalse, _⟩ := runChain_real (runRule_spec hk ht fuel) _ _ _ _ hc
  -- the last child is a paragraph: the look-ahead fired here, the chain pushes something else
  have hlastpara : ∀ p, s1.children.getLast? = some p → p.isPara = true → PushedOther s1 s2 := by
    intro p hp hpp
    exact chain_at_term hk ht hlast (hinv.term rfl p hp hpp hlt).2 hc
  cases ok with
  | false =>
    have e := hfalse rfl
    subst e
    rcases afterChain_ok ha with ⟨⟨⟩, -⟩ | ⟨l, o, -, -, -, rfl⟩
    simp only [BState.push]
    refine ⟨noAdj_snoc_not hna rfl, ?_⟩
    intro t p hp hpp
    simp only [List.getLast?_append, List.getLast?_singleton, Option.some_or, Option.some.injEq] at hp
    subst hp
    cases hpp
  | true =>
    obtain ⟨e, _⟩ := (afterChain_spec ha).2.1 rfl
    simp only at e
    subst e
    have hcase : (∃ p, s1.children.getLast? = some p ∧ p.isPara = true) ∨
        (∀ p, s1.children.getLast? = some p → p.isPara = false) := by
      cases hl : s1.children.getLast? with
      | none => exact .inr (fun p hp => by cases hp)
      | some p =>
        cases hpp : p.isPara with
        | true => exact .inl ⟨p, rfl, hpp⟩
        | false => exact .inr (fun q hq => by cases hq; exact hpp)
    have other : PushedOther s1 s3 → NoAdj BNode.isPara s3.children ∧
        (∀ t p, s3.children.getLast? = some p → p.isPara = true → s3.line < s3.lineMax →
          s3.isEmpty s3.line = false → Term cfg { s3 with tight := t }) := by
      rintro ⟨n, hn, hnp⟩
      rw [hn]
      refine ⟨noAdj_snoc_not hna hnp, ?_⟩
      intro t p hp hpp
      simp only [List.getLast?_append, List.getLast?_singleton, Option.some_or, Option.some.injEq] at hp
      subst hp
      rw [hnp] at hpp
      cases hpp
    rcases hcase with ⟨p, hp, hpp⟩ | hnot
    · exact other (hlastpara p hp hpp)
    · rcases hres with hsame | hother | ⟨n, hn, hs3, hexit⟩
      · rw [hsame]
        refine ⟨hna, ?_⟩
        intro t p hp hpp
        rw [hnot p hp] at hpp
        cases hpp
      · exact other hother
      · have hch : s3.children = s1.children ++ [n] := by rw [hs3]
        refine ⟨?_, ?_⟩
        · rw [hch]
          refine (noAdj_snoc _ _ _).mpr ⟨hna, ?_⟩
          intro y hy hc
          rw [hnot y hy] at hc
          exact absurd hc.1 (by simp)
        · intro t p _ _ hl3 he3
          have hmax : s3.lineMax = s1.lineMax := by rw [hs3]
          have hemp : s3.isEmpty s3.line = s1.isEmpty s3.line := by rw [hs3]; rfl
          rcases hexit with h1 | h1 | ⟨x, hx⟩
          · omega
          · rw [hemp, h1] at he3; cases he3
          · refine ⟨{ s1 with line := s3.line }, s1.children ++ [n], t, ?_, htf _ _ hx⟩
            rw [hs3]
            rfl


theorem tokLoop_tight {cfg : Cfg} {tok : Tok} {test : Test} (hk : TokSpec tok) (ht : TestPure test)
    (htf : TestFires cfg test) {fuel : Nat} (hlast : ParaLast cfg.chain) :
    ∀ (f : Nat) (he : Bool) (s s' : BState),
      tokLoop cfg (runRule cfg tok test fuel) f he s = .ok s' → TInv cfg he s →
      s'.tight = true → NoAdj BNode.isPara s'.children := by
  intro f
  induction f with
  | zero => intro he s s' h; simp [tokLoop] at h
  | succ f ih =>
    intro he s s' h hinv
    have hs3 := (skipEmpty_spec s.offs s.lineMax s.line).2.2.1
    rcases tokLoop_ok h with ⟨-, rfl⟩ | ⟨l', hlt, hl', hcase⟩
    · exact fun htight => hinv.noAdj (.inr htight)
    rw [← hl'] at hs3
    -- the invariant at the line the chain runs at
    have hinv1 : TInv cfg he { s with line := l' } := by
      refine ⟨hinv.noAdj, ?_⟩
      intro hhe p hp hpp _
      obtain ⟨h1, h2⟩ := hinv.term hhe p hp hpp hlt
      have e : l' = s.line := hs3 h1
      rw [e]
      exact ⟨h1, h2⟩
    rcases hcase with ⟨-, rfl⟩ | ⟨ind, hlt', hind, ⟨-, rfl⟩ | ⟨-, -, rfl⟩ |
      ⟨ok, S1, S2, he', S3, h0, hlev, hchain, hafter, -, hloop, hS3⟩⟩
    · exact fun htight => hinv.noAdj (.inr htight)
    · exact fun htight => hinv.noAdj (.inr htight)
    · exact fun htight => hinv.noAdj (.inr htight)
    apply ih _ _ _ hloop
    cases he with
    | true =>
      refine ⟨?_, fun hc => by rcases hS3 with ⟨-, -, rfl, -⟩ | ⟨-, rfl, -⟩ <;> simp at hc⟩
      rcases hS3 with ⟨-, -, rfl, rfl⟩ | ⟨-, rfl, rfl⟩ <;> rintro (hc | hc) <;> simp at hc
    | false =>
      obtain ⟨hA, hB⟩ := iter_tight hk ht htf hlast (w := (ok, S1)) hinv1 hlt' hchain hafter
      rcases hS3 with ⟨-, -, rfl, rfl⟩ | ⟨hcond, rfl, rfl⟩
      · exact ⟨fun _ => hA, fun hc => by simp at hc⟩
      · refine ⟨fun _ => hA, ?_⟩
        intro hhe p hp hpp hl5
        simp only [Bool.false_or] at hhe
        simp only [Bool.not_false] at hp hl5 hcond ⊢
        exact ⟨Bool.eq_false_iff.mpr (fun hc => hcond ⟨hl5, hc⟩),
          hB true p hp hpp hl5 (Bool.eq_false_iff.mpr (fun hc => hcond ⟨hl5, hc⟩))⟩


theorem testRules_fires (cfg : Cfg) (fuel : Nat) : TestFires cfg (testRules cfg fuel) := by
  intro s x h
  cases fuel with
  | zero => simp [testRules, engine] at h
  | succ f =>
    simp only [testRules, engine] at h
    rcases runChain_ok (fun _ _ _ h => silent_pure_rule h) _ h with ⟨⟨⟩, -⟩ | ⟨r, hr, -, hx⟩
    exact ⟨_, _, _, r, x, hr, hx⟩

/-- the nested tokenizer, started on an empty child vector: `tight` at the end means that no two
    paragraphs are adjacent -/
def TokTight (tok : Tok) : Prop :=
  ∀ s s', tok s = .ok s' → s.children = [] → s'.tight = true → NoAdj BNode.isPara s'.children

theorem tokenize_tight (cfg : Cfg) (hlast : ParaLast cfg.chain) (fuel : Nat) : TokTight (tokenize cfg fuel) := by
  intro s s' h hnil
  cases fuel with
  | zero => simp [tokenize, engine] at h
  | succ f =>
    rw [tokenize_succ] at h
    refine tokLoop_tight (tokenize_tokSpec cfg f) (testRules_pure cfg f) (testRules_fires cfg f) hlast
      _ _ _ _ h ⟨fun _ => by rw [hnil]; trivial, fun _ p hp => by rw [hnil] at hp; cases hp⟩

end MdIt.Block
