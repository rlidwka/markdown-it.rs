/-
  Which block rules pass over a line.  A rule other than `lheading` / `paragraph` looks at the line's indent and at
  its first characters only; `Declines r c rest` says what these must be for `r` to answer `false` on the line
  `c :: rest` and hand the state back (`runRule_declines`), given an indent below 4 and `listIndent = none` (inside a
  list item the list rule first runs `listSpecial`, which reads the offset table and compares with the item's indent).
  In silent mode `lheading`, `paragraph` (and `code`, `reference`) answer `false` on any line.
-/
import MdIt.Props.Block

namespace MdIt.Block

/-- what keeps the rule from taking a line `c :: rest` that starts at an indent below 4 -/
def Declines : RuleId → Char → List Char → Prop
  | .code, _, _ => True
  | .fence, c, _ => c ≠ '`' ∧ c ≠ '~'
  | .blockquote, c, _ => c ≠ '>'
  | .hr, c, _ => c ≠ '*' ∧ c ≠ '-' ∧ c ≠ '_'
  | .list, c, rest => skipBullet (c :: rest) = none ∧ skipOrdered (c :: rest) = none
  | .reference, c, rest => c ≠ '[' ∨ refQuick false rest = false
  | .heading, c, _ => c ≠ '#'
  | .lheading, _, _ => False
  | .paragraph, _, _ => False

theorem runRule_declines {cfg : Cfg} {tok : Tok} {test : Test} {fuel : Nat} {r : RuleId} {s : BState} {i : Int}
    {c : Char} {rest : List Char} (hind : s.lineIndent s.line = .ok i) (hi4 : i < 4)
    (hgl : s.getLine s.line = .ok (c :: rest)) (hli : s.listIndent = none) (hd : Declines r c rest)
    (silent : Bool) : runRule cfg tok test fuel r s silent = .ok (false, s) := by
  have hn4 : ¬ i ≥ 4 := by omega
  cases r with
  | code => cases silent <;> simp [runRule, codeRule, hind, hi4, pure, Except.pure]
  | fence =>
    obtain ⟨h1, h2⟩ := hd
    simp [runRule, fenceRule, hind, hn4, hgl, h1, h2, pure, Except.pure, bind, Except.bind]
  | blockquote => simp [runRule, blockquoteRule, hind, hn4, hgl, show c ≠ '>' from hd, pure, Except.pure, bind, Except.bind]
  | hr =>
    obtain ⟨h1, h2, h3⟩ := hd
    simp [runRule, hrRule, hind, hn4, hgl, h1, h2, h3, pure, Except.pure, bind, Except.bind]
  | list =>
    obtain ⟨hsb, hord⟩ := hd
    by_cases hk : silent = true ∧ isListKind s.nodeKind = true
    · simp [runRule, listRule, hk, pure, Except.pure]
    · simp [runRule, listRule, hk, hind, hn4, hgl, hli, listSpecial, detectMarker, hord, hsb, pure, Except.pure, bind,
        Except.bind]
  | reference =>
    cases silent
    · rcases hd with h | h <;>
        simp [runRule, referenceRule, hind, hn4, hgl, h, pure, Except.pure, bind, Except.bind]
    · simp [runRule, referenceRule, pure, Except.pure]
  | heading => simp [runRule, headingRule, hind, hn4, hgl, show c ≠ '#' from hd, pure, Except.pure, bind, Except.bind]
  | lheading => exact hd.elim
  | paragraph => exact hd.elim

/-- a line that starts with `[`: only the reference rule may look further -/
theorem declines_bracket (rest : List Char) {r : RuleId} (hr : r ≠ .paragraph) (hr' : r ≠ .lheading)
    (href : r ≠ .reference ∨ refQuick false rest = false) : Declines r '[' rest := by
  cases r with
  | code => trivial
  | fence => exact ⟨by decide, by decide⟩
  | blockquote => exact (by decide : '[' ≠ '>')
  | hr => exact ⟨by decide, by decide, by decide⟩
  | list => exact ⟨by simp [skipBullet], by simp [skipOrdered, isDigit]⟩
  | reference => exact .inr (href.resolve_left (fun h => h rfl))
  | heading => exact (by decide : '[' ≠ '#')
  | lheading => exact absurd rfl hr'
  | paragraph => exact absurd rfl hr

theorem runRule_silent_scan {cfg : Cfg} {tok : Tok} {test : Test} {fuel : Nat} {r : RuleId}
    (hr : r = .lheading ∨ r = .paragraph) (s : BState) : runRule cfg tok test fuel r s true = .ok (false, s) := by
  rcases hr with rfl | rfl
  · exact silent_false_lheading
  · exact silent_false_paragraph

end MdIt.Block
