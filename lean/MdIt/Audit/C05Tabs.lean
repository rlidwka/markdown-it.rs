import MdIt.Props.C05Tabs
import MdIt.Lemmas.C05TabsBdSplice
import MdIt.Lemmas.C05TabsText

#check @MdIt.Pipeline.doc_ranges_ordered_all
#check @MdIt.Pipeline.doc_child_within_all
#check @MdIt.Pipeline.doc_boundaries_all
#check @MdIt.Pipeline.doc_ranges_ok_all
#check @MdIt.Pipeline.doc_text_faithful_all
#check @MdIt.Pipeline.doc_special_markup_all
#check @MdIt.Pipeline.afterBlocks_postBd
#check @MdIt.Pipeline.afterBlocks_nodeOkX
#check @MdIt.Block.inlSpec2_ptabs
#check @MdIt.Block.inlSpec3_ptabsF
#check @MdIt.C05T.mapT_of_virt
#check @MdIt.C05T.pinl_of_mapT
#check @MdIt.C05T.bd_parseInline_all
#check @MdIt.C05T.BdL.of_fthLV
#check @MdIt.C05T.parseInline_fthV
#check @MdIt.IC.parseInline_ic
#check @MdIt.C05T.codeCloserOK
#check @MdIt.C05T.linkCloserOK

#print axioms MdIt.Pipeline.doc_ranges_ordered_all
#print axioms MdIt.Pipeline.doc_child_within_all
#print axioms MdIt.Pipeline.doc_boundaries_all
#print axioms MdIt.Pipeline.doc_ranges_ok_all
#print axioms MdIt.Pipeline.doc_text_faithful_all
#print axioms MdIt.Pipeline.doc_special_markup_all
#print axioms MdIt.Pipeline.afterBlocks_postBd
#print axioms MdIt.Pipeline.afterBlocks_nodeOkX
#print axioms MdIt.Block.inlSpec2_ptabs
#print axioms MdIt.Block.inlSpec3_ptabsF
#print axioms MdIt.C05T.mapT_of_virt
#print axioms MdIt.C05T.pinl_of_mapT
#print axioms MdIt.C05T.bd_parseInline_all
#print axioms MdIt.C05T.BdL.of_fthLV
#print axioms MdIt.C05T.parseInline_fthV
#print axioms MdIt.IC.parseInline_ic
#print axioms MdIt.C05T.codeCloserOK
#print axioms MdIt.C05T.linkCloserOK
