import MdIt.Props.Block
import MdIt.Props.Pipeline
open MdIt.Block
-- silent mode is pure
#check @silent_pure_hr
#check @silent_pure_heading
#check @silent_pure_code
#check @silent_pure_fence
#check @silent_pure_paragraph
#check @silent_pure_lheading
#check @silent_pure_reference
#check @silent_pure_blockquote
#check @silent_pure_list
#check @silent_pure_rule
#check @testRules_pure
-- silent true ⇒ real true
#check @silent_implies_real_hr
#check @silent_implies_real_heading
#check @silent_implies_real_fence
#check @silent_implies_real_blockquote
#check @silent_implies_real_list
#check @silent_implies_real_rule
-- a rule answering false leaves the state alone
#check @real_false_same_hr
#check @real_false_same_heading
#check @real_false_same_code
#check @real_false_same_fence
#check @real_false_same_blockquote
#check @real_false_same_list
#check @real_false_same_lheading
#check @real_false_same_reference
#check @real_true_paragraph
-- progress
#check @block_rule_progress_hr
#check @block_rule_progress_heading
#check @block_rule_progress_code
#check @block_rule_progress_fence
#check @block_rule_progress_paragraph
#check @block_rule_progress_lheading
#check @block_rule_progress_reference
#check @block_rule_progress_blockquote
#check @block_rule_progress_list
#check @blockquote_advanced
#check @list_advanced
#check @reference_advanced
#check @bqScan_spec
#check @refParse_lines
#check @tableOk_fresh
#check @tokenize_spec
#check @tokenize_progress
#check @tokenize_tokSpec
#check @ruleAt_progress
#check @ruleAt_false_same
-- C11, C14
#check @fence_verbatim
#check @indented_verbatim
#check @fenceScan_verbatim
#check @codeScan_verbatim
#check @viewPiece_zero
#check @viewPiece_four
#check @docOf_shows
#check @list_shape
#check @Shaped.list_children
#check @Shaped.item_parent
-- fuel, exit
#check @lazyScan_mono
#check @bqScan_mono
#check @listLoop_mono
#check @runRule_mono
#check @engine_mono
#check @tokenize_mono
#check @tokLoop_exit
#check @tokenize_exit
#print axioms silent_pure_hr
#print axioms silent_pure_heading
#print axioms silent_pure_code
#print axioms silent_pure_fence
#print axioms silent_pure_paragraph
#print axioms silent_pure_lheading
#print axioms silent_pure_reference
#print axioms silent_pure_blockquote
#print axioms silent_pure_list
#print axioms silent_pure_rule
#print axioms testRules_pure
#print axioms silent_implies_real_hr
#print axioms silent_implies_real_heading
#print axioms silent_implies_real_fence
#print axioms silent_implies_real_blockquote
#print axioms silent_implies_real_list
#print axioms silent_implies_real_rule
#print axioms real_false_same_hr
#print axioms real_false_same_heading
#print axioms real_false_same_code
#print axioms real_false_same_fence
#print axioms real_false_same_blockquote
#print axioms real_false_same_list
#print axioms real_false_same_lheading
#print axioms real_false_same_reference
#print axioms real_true_paragraph
#print axioms block_rule_progress_hr
#print axioms block_rule_progress_heading
#print axioms block_rule_progress_code
#print axioms block_rule_progress_fence
#print axioms block_rule_progress_paragraph
#print axioms block_rule_progress_lheading
#print axioms block_rule_progress_reference
#print axioms block_rule_progress_blockquote
#print axioms block_rule_progress_list
#print axioms blockquote_advanced
#print axioms list_advanced
#print axioms reference_advanced
#print axioms bqScan_spec
#print axioms refParse_lines
#print axioms tableOk_fresh
#print axioms tokenize_spec
#print axioms tokenize_progress
#print axioms tokenize_tokSpec
#print axioms ruleAt_progress
#print axioms ruleAt_false_same
#print axioms fence_verbatim
#print axioms indented_verbatim
#print axioms fenceScan_verbatim
#print axioms codeScan_verbatim
#print axioms viewPiece_zero
#print axioms viewPiece_four
#print axioms docOf_shows
#print axioms list_shape
#print axioms Shaped.list_children
#print axioms Shaped.item_parent
#print axioms lazyScan_mono
#print axioms bqScan_mono
#print axioms listLoop_mono
#print axioms runRule_mono
#print axioms engine_mono
#print axioms tokenize_mono
#print axioms tokLoop_exit
#print axioms tokenize_exit
