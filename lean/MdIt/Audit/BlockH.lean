import MdIt.Props.BlockH
import MdIt.Lemmas.PipelineH
open MdIt.BlockH

#check @parseBlocksH_conservative
#check @parseBlocksH_conservative'
#check @tokenizeH_conservative
#check @testRulesH_conservative
#check @parseBlocksH_fuel
#check @parseBlocksH_noPanic
#check @parseBlocksH_total
#check @parseBlocksH_total_i32
#check @tokenizeH_total
#check @testRulesH_total
#check @ruleAtH_total
#check @tokenizeH_progress
#check @ruleAtH_progress
#check @ruleAtH_false_same
#check @tokenizeH_progress_assert
#check @silent_implies_real_ruleH
#check @testRulesH_true_real
#check @list_shapeH
#check @fence_not_html
#check @parseBlocksH_rel
#check @parseBlocksH_related
#check @parseBlocksH_crlf
#check @parseBlocksH_cr
#check @parseBlocksH_final_newline
#check @parseBlocksH_views

#print axioms parseBlocksH_conservative
#print axioms parseBlocksH_conservative'
#print axioms tokenizeH_conservative
#print axioms testRulesH_conservative
#print axioms parseBlocksH_fuel
#print axioms parseBlocksH_noPanic
#print axioms parseBlocksH_total
#print axioms parseBlocksH_total_i32
#print axioms tokenizeH_total
#print axioms testRulesH_total
#print axioms ruleAtH_total
#print axioms tokenizeH_progress
#print axioms ruleAtH_progress
#print axioms ruleAtH_false_same
#print axioms tokenizeH_progress_assert
#print axioms silent_implies_real_ruleH
#print axioms testRulesH_true_real
#print axioms list_shapeH
#print axioms fence_not_html
#print axioms parseBlocksH_rel
#print axioms parseBlocksH_related
#print axioms parseBlocksH_crlf
#print axioms parseBlocksH_cr
#print axioms parseBlocksH_final_newline
#print axioms parseBlocksH_views
