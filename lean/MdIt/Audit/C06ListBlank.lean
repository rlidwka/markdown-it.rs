import MdIt.Props.C06ListBlank
#check @MdIt.Block.Li.tokenize_sim_any
#check @MdIt.Block.Li.itemRewrite_first_blank
#check @MdIt.Block.Li.second_not_empty
#check @MdIt.Block.Li.first_rewrite
#check @MdIt.Block.Li.list_on_prefixed2
#check @MdIt.Block.Li.item_commutes_gen2
#check @MdIt.Block.Li.item_commutes_gen2_parse
#check @MdIt.Block.Li.hrLook_blank
#check @MdIt.Block.Li.item_commutes_blank
#check @MdIt.Block.Li.item_commutes_blank_bullet
#check @MdIt.Block.Li.item_commutes_blank_ordered
#print axioms MdIt.Block.Li.tokenize_sim_any
#print axioms MdIt.Block.Li.itemRewrite_first_blank
#print axioms MdIt.Block.Li.second_not_empty
#print axioms MdIt.Block.Li.first_rewrite
#print axioms MdIt.Block.Li.list_on_prefixed2
#print axioms MdIt.Block.Li.item_commutes_gen2
#print axioms MdIt.Block.Li.item_commutes_gen2_parse
#print axioms MdIt.Block.Li.hrLook_blank
#print axioms MdIt.Block.Li.item_commutes_blank
#print axioms MdIt.Block.Li.item_commutes_blank_bullet
#print axioms MdIt.Block.Li.item_commutes_blank_ordered
