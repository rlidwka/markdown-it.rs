import MdIt.Props.C05Inline

#check @MdIt.Pipeline.doc_ranges_ordered
#check @MdIt.Pipeline.doc_child_within
#check @MdIt.Pipeline.doc_placeholder_tables
#check @MdIt.Pipeline.pinl_of_pmapF
#check @MdIt.Pipeline.afterBlocks_nodeOrd
#check @MdIt.Block.parseBlocks_inlNoRange
#check @MdIt.Block.parseBlocks_geo2
#check @MdIt.Block.inlSpec2_pmapF
#check @MdIt.C05I.getLines_table
#check @MdIt.C05I.getLines_lseg
#check @MdIt.C05I.getLines_lower
#check @MdIt.C05I.single_table
#check @MdIt.C05I.heading_lseg
#check @MdIt.Inline.parseInline_ranges_exact
#check @MdIt.Inline.parseInline_ranges
#check @MdIt.Inline.parseInline_within
#check @MdIt.Inline.parseFinish_within
#check @MdIt.Inline.parseInline_empty_window

#print axioms MdIt.Pipeline.doc_ranges_ordered
#print axioms MdIt.Pipeline.doc_child_within
#print axioms MdIt.Pipeline.doc_placeholder_tables
#print axioms MdIt.Pipeline.pinl_of_pmapF
#print axioms MdIt.Pipeline.afterBlocks_nodeOrd
#print axioms MdIt.Block.parseBlocks_inlNoRange
#print axioms MdIt.Block.parseBlocks_geo2
#print axioms MdIt.Block.inlSpec2_pmapF
#print axioms MdIt.C05I.getLines_table
#print axioms MdIt.C05I.getLines_lseg
#print axioms MdIt.C05I.getLines_lower
#print axioms MdIt.C05I.single_table
#print axioms MdIt.C05I.heading_lseg
#print axioms MdIt.Inline.parseInline_ranges_exact
#print axioms MdIt.Inline.parseInline_ranges
#print axioms MdIt.Inline.parseInline_within
#print axioms MdIt.Inline.parseFinish_within
#print axioms MdIt.Inline.parseInline_empty_window
