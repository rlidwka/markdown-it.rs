import MdIt.Props.InlineTotal
open MdIt.Inline MdIt.Pipeline

#check @guarded_no_panic
#check @guarded_skip_no_panic
#check @parseInlineG_no_panic
#check @parseInline_no_panic_flat
#check @parseInlineG_agree
#check @parseInlineG_ok
#check @parseInline_panic_memo_only
#check @parseInline_total_of_memoSafe
#check @parseInline_ok_or_guard
#check @witness_panics
#check @tokLoopG_false
#check @skipTokenG_false
#check @doc_total_of_inline
#check @doc_total_of_memoSafe
#check @doc_total_of_docMemoSafe

#print axioms guarded_no_panic
#print axioms guarded_skip_no_panic
#print axioms parseInlineG_no_panic
#print axioms parseInline_no_panic_flat
#print axioms parseInlineG_agree
#print axioms parseInlineG_ok
#print axioms parseInline_panic_memo_only
#print axioms parseInline_total_of_memoSafe
#print axioms parseInline_ok_or_guard
#print axioms witness_panics
#print axioms tokLoopG_false
#print axioms skipTokenG_false
#print axioms doc_total_of_inline
#print axioms doc_total_of_memoSafe
#print axioms doc_total_of_docMemoSafe
