import MdIt.Props.C05Rest

#check @MdIt.Pipeline.doc_ranges_ok
#check @MdIt.Pipeline.doc_ranges_ok_tabFree
#check @MdIt.Pipeline.doc_boundaries
#check @MdIt.Pipeline.doc_text_faithful
#check @MdIt.Pipeline.doc_special_markup
#check @MdIt.Pipeline.doc_ord_post
#check @MdIt.Pipeline.noSplitTab_of_tabFree
#check @MdIt.Pipeline.noSplitTab_of_check
#check @MdIt.Pipeline.ranges_ordered_exTab
#check @MdIt.Pipeline.afterBlocks_postOk
#check @MdIt.Block.parseBlocks_geo3
#check @MdIt.Block.inlSpec3_pfull
#check @MdIt.Block.inlSpec3_pfullV
#check @MdIt.C05R.fa_getLines_pfth_nv
#check @MdIt.C05R.parseInline_fth
#check @MdIt.IC.parseInline_ic

#print axioms MdIt.Pipeline.doc_ranges_ok
#print axioms MdIt.Pipeline.doc_ranges_ok_tabFree
#print axioms MdIt.Pipeline.doc_boundaries
#print axioms MdIt.Pipeline.doc_text_faithful
#print axioms MdIt.Pipeline.doc_special_markup
#print axioms MdIt.Pipeline.doc_ord_post
#print axioms MdIt.Pipeline.noSplitTab_of_tabFree
#print axioms MdIt.Pipeline.noSplitTab_of_check
#print axioms MdIt.Pipeline.ranges_ordered_exTab
#print axioms MdIt.Pipeline.afterBlocks_postOk
#print axioms MdIt.Block.parseBlocks_geo3
#print axioms MdIt.Block.inlSpec3_pfull
#print axioms MdIt.Block.inlSpec3_pfullV
#print axioms MdIt.C05R.fa_getLines_pfth_nv
#print axioms MdIt.C05R.parseInline_fth
#print axioms MdIt.IC.parseInline_ic
