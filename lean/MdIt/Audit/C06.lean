import MdIt.Props.C06
open MdIt.Block
#check @findIndent_tabfree
#check @quote_view
#check @quote_view_shift
#check @item_view
#check @calcRight_spaces
#check @viewPiece_prefix
#check @viewPiece_item
#check @get_lines_same_pieces
#check @get_lines_quote
#check @get_lines_item
#check @look_hr
#check @look_heading
#check @look_fence
#check @look_blockquote
#check @look_list
#check @silent_same_view_rule
#check @runChain_same_view
#check @testRules_same_view
#check @hr_sim
#check @markTight_reloc
#check @tightenItems_reloc
#check @tokenize_sim
#check @linesT_flat_of_shape
#check @fresh_prefixed_reads
#check @bqScan_prefixed
#check @front_rejects
#check @runChain_reach
#check @tokenize_fresh_end
#check @linesOk_linesT
#check @linesT_prefixQuote
#check @splitLines_prefixQuote
#check @byteLen_prefixQuote
#check @blockquote_on_prefixed
#check @sigma_spec
#check @tokLoop_single
#check @quote_commutes
#print axioms findIndent_tabfree
#print axioms quote_view
#print axioms quote_view_shift
#print axioms item_view
#print axioms calcRight_spaces
#print axioms viewPiece_prefix
#print axioms viewPiece_item
#print axioms get_lines_same_pieces
#print axioms get_lines_quote
#print axioms get_lines_item
#print axioms look_hr
#print axioms look_heading
#print axioms look_fence
#print axioms look_blockquote
#print axioms look_list
#print axioms silent_same_view_rule
#print axioms runChain_same_view
#print axioms testRules_same_view
#print axioms hr_sim
#print axioms markTight_reloc
#print axioms tightenItems_reloc
#print axioms tokenize_sim
#print axioms linesT_flat_of_shape
#print axioms fresh_prefixed_reads
#print axioms bqScan_prefixed
#print axioms front_rejects
#print axioms runChain_reach
#print axioms tokenize_fresh_end
#print axioms linesOk_linesT
#print axioms linesT_prefixQuote
#print axioms splitLines_prefixQuote
#print axioms byteLen_prefixQuote
#print axioms blockquote_on_prefixed
#print axioms sigma_spec
#print axioms tokLoop_single
#print axioms quote_commutes

-- the container simulation `Li.Nest` of which the quote relation and the item relation are instances
section
open MdIt.Block.Li MdIt.Block.Li.Nest
#check @afterChain_sim
#check @blockquote_sim
#check @bqRewrite_sim
#check @bqScan_sim
#check @code_sim
#check @fence_sim
#check @getLinesGo_sim
#check @heading_sim
#check @itemRewrite_sim
#check @Sim.look
#check @lheading_sim
#check @listContinue_sim
#check @listItemBody_sim
#check @listItem_sim
#check @listLoop_sim
#check @list_sim
#check @paragraph_sim
#check @reference_sim
#check @runChain_sim
#check @runRule_sim
#check @testRules_sim
#check @tokLoop_sim
#print axioms afterChain_sim
#print axioms blockquote_sim
#print axioms bqRewrite_sim
#print axioms bqScan_sim
#print axioms code_sim
#print axioms fence_sim
#print axioms getLinesGo_sim
#print axioms heading_sim
#print axioms itemRewrite_sim
#print axioms Sim.look
#print axioms lheading_sim
#print axioms listContinue_sim
#print axioms listItemBody_sim
#print axioms listItem_sim
#print axioms listLoop_sim
#print axioms list_sim
#print axioms paragraph_sim
#print axioms reference_sim
#print axioms runChain_sim
#print axioms runRule_sim
#print axioms testRules_sim
#print axioms tokLoop_sim
end
