import MdIt.Props.C16Block
open MdIt.BlockH.C16

#check @block_lookahead_quiet_run
#check @block_lookahead_quiet_run_shipped
#check @honoured_of_sweep
#check @paragraph_end_is_real_start
#check @paragraph_end_is_real_start_run
#check @preempting_rule
#check @custom_rule_invoked_at_claimed_line
#check @custom_rule_invoked_first
#check @engH_ok
#check @engX_ok
#check @runRuleH_silent_congr
#check @runRuleH_silent_indep
#check @lazyScan_stop
#check @tokLoopG_succ
#check @reach_quote_called
#check @frameTrace_reach

#print axioms block_lookahead_quiet_run
#print axioms block_lookahead_quiet_run_shipped
#print axioms honoured_of_sweep
#print axioms paragraph_end_is_real_start
#print axioms paragraph_end_is_real_start_run
#print axioms preempting_rule
#print axioms custom_rule_invoked_at_claimed_line
#print axioms custom_rule_invoked_first
#print axioms engH_ok
#print axioms engX_ok
#print axioms runRuleH_silent_congr
#print axioms runRuleH_silent_indep
#print axioms lazyScan_stop
#print axioms tokLoopG_succ
#print axioms reach_quote_called
#print axioms frameTrace_reach

-- the lheading and reference callers, list item termination
#check @lazyScan_false_of_true
#check @lheading_declines_at_sweep_stop
#check @reference_ok
#check @reference_end_is_real_start
#check @lheading_end_is_real_start
#check @runRuleH_silent_congr2
#check @listLoop_exit
#check @listRule_ok
#check @list_end_is_real_start
#check @list_end_is_real_start_shipped
#check @custom_rule_after_list
#check @engH_ok2
#check @engX_ok2

#print axioms lazyScan_false_of_true
#print axioms lheading_declines_at_sweep_stop
#print axioms reference_ok
#print axioms reference_end_is_real_start
#print axioms lheading_end_is_real_start
#print axioms runRuleH_silent_congr2
#print axioms listLoop_exit
#print axioms listRule_ok
#print axioms list_end_is_real_start
#print axioms list_end_is_real_start_shipped
#print axioms custom_rule_after_list
#print axioms engH_ok2
#print axioms engX_ok2

-- the lazy-continuation test of the blockquote rule
#check @runRuleH_silent_congr3
#check @engH_ok3
#check @engX_ok3
#check @bqScan_exit
#check @blockquote_scans
#check @quote_end_is_real_start
#check @quote_end_is_real_start_shipped
#check @custom_rule_after_quote

#print axioms runRuleH_silent_congr3
#print axioms engH_ok3
#print axioms engX_ok3
#print axioms bqScan_exit
#print axioms blockquote_scans
#print axioms quote_end_is_real_start
#print axioms quote_end_is_real_start_shipped
#print axioms custom_rule_after_quote
