import MdIt.Props.Inline
open MdIt.Inline
#check @inline_rule_progress_text
#check @inline_rule_progress_newline
#check @inline_rule_progress_escape
#check @inline_rule_progress_entity
#check @inline_rule_progress_backticks
#check @inline_rule_progress_autolink
#check @inline_rule_progress_emph
#check @inline_rule_progress_link
#check @inline_rule_bounds_link
#check @tokenize_progress
#check @fuel_suffices
#check @parseInline_fuel
#check @contracts
#check @silent_real_text
#check @silent_real_newline
#check @silent_real_escape
#check @silent_real_entity
#check @silent_real_autolink
#check @silent_real_backticks
#check @silent_real_linkRule
#check @silent_real_link
#check @silent_real_image
#check @ruleEmph_silent
#check @silent_rule_quiet
#check @skip_token_quiet
#check @skip_token_memo_hit
#check @skip_token_memo_entry
#check @memo_level_dependent
#check @normalForm_fragmentsJoinN
#check @allNF_joinAllN
#check @no_placeholder_after_finish
#check @vals_induction
#check @link_url_from_pipeline
#check @fromPipeline_safe
#check @inline_children_ordered
#check @finish_children_ordered
#check @ranges_induction
#check @scanAndMatch_ranges
#check @skipToken_calm
#check @translate_expand
#check @translate_same_line
#check @text_induction
#check @run_content_ne
#check @erase_trailingTextPush
#check @erase_trailingTextPop
#check @linkRule_bounds
#check @ruleEmph_total
#check @scanAndMatch_total
#check @init_good
#print axioms inline_rule_progress_text
#print axioms inline_rule_progress_newline
#print axioms inline_rule_progress_escape
#print axioms inline_rule_progress_entity
#print axioms inline_rule_progress_backticks
#print axioms inline_rule_progress_autolink
#print axioms inline_rule_progress_emph
#print axioms inline_rule_progress_link
#print axioms tokenize_progress
#print axioms fuel_suffices
#print axioms parseInline_fuel
#print axioms contracts
#print axioms silent_real_text
#print axioms silent_real_newline
#print axioms silent_real_escape
#print axioms silent_real_entity
#print axioms silent_real_autolink
#print axioms silent_real_backticks
#print axioms silent_real_linkRule
#print axioms silent_real_link
#print axioms silent_real_image
#print axioms ruleEmph_silent
#print axioms silent_rule_quiet
#print axioms skip_token_quiet
#print axioms skip_token_memo_hit
#print axioms skip_token_memo_entry
#print axioms memo_level_dependent
#print axioms normalForm_fragmentsJoinN
#print axioms allNF_joinAllN
#print axioms no_placeholder_after_finish
#print axioms vals_induction
#print axioms link_url_from_pipeline
#print axioms fromPipeline_safe
#print axioms inline_children_ordered
#print axioms finish_children_ordered
#print axioms ranges_induction
#print axioms scanAndMatch_ranges
#print axioms skipToken_calm
#print axioms translate_expand
#print axioms translate_same_line
#print axioms inline_rule_bounds_link
#print axioms text_induction
#print axioms run_content_ne
#print axioms erase_trailingTextPush
#print axioms erase_trailingTextPop
#print axioms linkRule_bounds
#print axioms ruleEmph_total
#print axioms scanAndMatch_total
#print axioms init_good
