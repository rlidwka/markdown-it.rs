import MdIt.Props.EmphDepth
open MdIt.Inline MdIt.EmphDepth
#check @matchOuter_q
#check @scanAndMatch_q
#check @ruleEmph_q
#check @depth_induction
#check @parseInline_q
#check @goodQ_QW
#check @goodQ_QA
#check @goodQ_QT
#check @matchOuter_depth
#check @scanAndMatch_depth
#check @ruleEmph_depth
#check @tokenize_depth
#check @parseInline_depth
#check @inline_emph_depth_bounded
#check @baseBound_closed
#check @depthBound_closed
#check @inline_tree_depth_bounded
#check @tokenize_tree_depth
#check @Meas.joinNodeN_le
#check @Meas.finish_le
#check @finish_depth_bounded
#print axioms matchOuter_q
#print axioms scanAndMatch_q
#print axioms ruleEmph_q
#print axioms depth_induction
#print axioms parseInline_q
#print axioms goodQ_QW
#print axioms goodQ_QA
#print axioms goodQ_QT
#print axioms matchOuter_depth
#print axioms scanAndMatch_depth
#print axioms ruleEmph_depth
#print axioms tokenize_depth
#print axioms parseInline_depth
#print axioms inline_emph_depth_bounded
#print axioms baseBound_closed
#print axioms depthBound_closed
#print axioms inline_tree_depth_bounded
#print axioms tokenize_tree_depth
#print axioms Meas.joinNodeN_le
#print axioms Meas.finish_le
#print axioms finish_depth_bounded
