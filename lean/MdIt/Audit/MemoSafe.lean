import MdIt.Props.MemoSafe
open MdIt.Inline MdIt.Pipeline

#check @lookahead_guard_free
#check @skip_guard_free
#check @parseLink_guard_free
#check @skip_grow
#check @parseLink_guard_grow
#check @skip_entry_free
#check @entry_total
#check @parseInlineE_ok
#check @entrySafe_memoSafe
#check @parseInline_total_of_entrySafe
#check @parseInline_total_of_entrySafe_coherent
#check @closedB_iff
#check @labelLoop_replay
#check @labelLoop_records
#check @pwalk_mono
#check @pwalk_path
#check @pwalk_shrink_found
#check @pwalk_frame
#check @pwalk_level_le
#check @pwalk_fuel
#check @parseLink_records
#check @parseLink_path
#check @parseLink_frame_replay
#check @nested_walk_replay
#check @closed_of_path
#check @parseLink_entry_closed
#check @frame_entry_closed_of_laminar
#check @laminarB_iff
#check @laminar_needs_coherence
#check @ruleText_window
#check @ruleNewline_window
#check @ruleEscape_window
#check @ruleAutolink_window
#check @ruleEntity_window
#check @ruleBackticks_window
#check @runRule_flat_window
#check @parseInlineTail_window
#check @decOk_unescapeAll
#check @silent_declines
#check @chain_declines_at_marker
#check @skipStep_unit_at_marker
#check @skipStep_records_link
#check @parseLinkLabel_replay
#check @parseLink_replay_inline
#check @skip_top
#check @tokStep_top
#check @top_total
#check @parseInlineG_eq
#check @parseInline_total_of_nested
#check @entryP_NF
#check @flat_L2
#check @real_silent_verdict
#check @real_declines
#check @emph_real_L2
#check @back_L2
#check @back_L2_none
#check @parseLinkL2_link
#check @parseLinkL2Part_link
#check @witness_summary
#check @walk_below_bracket
#check @just_unit_at_closer
#check @just_at_bracket
#check @outer_step
#check @pwalk_below
#check @pwalk_through
#check @pwalk_shrink
#check @pwalk_det
#check @pwalk_en
#check @labelLoop_hits
#check @parseLinkLabel_hits
#check @parseLink_hits
#check @nested_eq
#check @chain_L2
#check @over_limit
#check @parseInline_total_link
#check @parseInline_total_of_nestHyps
#check @parseInline_total_coherent_link
#check @nestHyps_of
#check @parseLinkL2_core
#check @just_link_call
#check @parseLinkL2_image
#check @parseLinkL2Part_image
#check @parseInline_total_nocode
#check @parseInline_total_coherent_nocode
#check @backL2_of_noDouble
#check @parseInline_total_nodouble
#check @parseInline_total_coherent_nodouble
#check @doc_tables_mapOK
#check @doc_total_nocode
#check @doc_total_nodouble
#check @docNoDoubleTick_of_check
#check @noDoubleTick_of_pfth
#check @docNoDoubleTick_of_src
#check @doc_total_src
#check @doc_total_stock
#check @insideFull_ruleBackticks
#check @back_decline_marks
#check @text_end_not_inside
#check @newline_end_not_inside
#check @autolink_end_not_inside
#check @entity_end_not_inside
#check @backticks_end_not_inside
#check @escape_end_inside_iff
#check @CS.endHyp_holds
#check @CS.marksHyp_holds
#check @CS.backL2_holds
#check @CS.agreeHyp_holds
#check @CS.rule_end_not_interior
#check @CS.linkRule_closedAt
#check @CS.skip_top
#check @CS.top_total
#check @CS.parseInline_total_of_nested
#check @CS.nested_eq
#check @CS.nocut_init
#check @CS.entryP_NF
#check @CS.nestHyps_noesc
#check @CS.parseInline_total_noesc
#check @parseInline_total_noesctick
#check @noEscTickTick_of_pfth
#check @docNoEscTickTick_of_src
#check @doc_total_noesctick
#check @doc_total_src_noesc
#check @doc_total_stock_nodouble

#print axioms lookahead_guard_free
#print axioms skip_guard_free
#print axioms parseLink_guard_free
#print axioms skip_grow
#print axioms parseLink_guard_grow
#print axioms skip_entry_free
#print axioms entry_total
#print axioms parseInlineE_ok
#print axioms entrySafe_memoSafe
#print axioms parseInline_total_of_entrySafe
#print axioms parseInline_total_of_entrySafe_coherent
#print axioms closedB_iff
#print axioms labelLoop_replay
#print axioms labelLoop_records
#print axioms pwalk_mono
#print axioms pwalk_path
#print axioms pwalk_shrink_found
#print axioms pwalk_frame
#print axioms pwalk_level_le
#print axioms pwalk_fuel
#print axioms parseLink_records
#print axioms parseLink_path
#print axioms parseLink_frame_replay
#print axioms nested_walk_replay
#print axioms closed_of_path
#print axioms parseLink_entry_closed
#print axioms frame_entry_closed_of_laminar
#print axioms laminarB_iff
#print axioms laminar_needs_coherence
#print axioms ruleText_window
#print axioms ruleNewline_window
#print axioms ruleEscape_window
#print axioms ruleAutolink_window
#print axioms ruleEntity_window
#print axioms ruleBackticks_window
#print axioms runRule_flat_window
#print axioms parseInlineTail_window
#print axioms decOk_unescapeAll
#print axioms silent_declines
#print axioms chain_declines_at_marker
#print axioms skipStep_unit_at_marker
#print axioms skipStep_records_link
#print axioms parseLinkLabel_replay
#print axioms parseLink_replay_inline
#print axioms skip_top
#print axioms tokStep_top
#print axioms top_total
#print axioms parseInlineG_eq
#print axioms parseInline_total_of_nested
#print axioms entryP_NF
#print axioms flat_L2
#print axioms real_silent_verdict
#print axioms real_declines
#print axioms emph_real_L2
#print axioms back_L2
#print axioms back_L2_none
#print axioms parseLinkL2_link
#print axioms parseLinkL2Part_link
#print axioms witness_summary
#print axioms walk_below_bracket
#print axioms just_unit_at_closer
#print axioms just_at_bracket
#print axioms outer_step
#print axioms pwalk_below
#print axioms pwalk_through
#print axioms pwalk_shrink
#print axioms pwalk_det
#print axioms pwalk_en
#print axioms labelLoop_hits
#print axioms parseLinkLabel_hits
#print axioms parseLink_hits
#print axioms nested_eq
#print axioms chain_L2
#print axioms over_limit
#print axioms parseInline_total_link
#print axioms parseInline_total_of_nestHyps
#print axioms parseInline_total_coherent_link
#print axioms nestHyps_of
#print axioms parseLinkL2_core
#print axioms just_link_call
#print axioms parseLinkL2_image
#print axioms parseLinkL2Part_image
#print axioms parseInline_total_nocode
#print axioms parseInline_total_coherent_nocode
#print axioms backL2_of_noDouble
#print axioms parseInline_total_nodouble
#print axioms parseInline_total_coherent_nodouble
#print axioms doc_tables_mapOK
#print axioms doc_total_nocode
#print axioms doc_total_nodouble
#print axioms docNoDoubleTick_of_check
#print axioms noDoubleTick_of_pfth
#print axioms docNoDoubleTick_of_src
#print axioms doc_total_src
#print axioms doc_total_stock
#print axioms insideFull_ruleBackticks
#print axioms back_decline_marks
#print axioms text_end_not_inside
#print axioms newline_end_not_inside
#print axioms autolink_end_not_inside
#print axioms entity_end_not_inside
#print axioms backticks_end_not_inside
#print axioms escape_end_inside_iff
#print axioms CS.endHyp_holds
#print axioms CS.marksHyp_holds
#print axioms CS.backL2_holds
#print axioms CS.agreeHyp_holds
#print axioms CS.rule_end_not_interior
#print axioms CS.linkRule_closedAt
#print axioms CS.skip_top
#print axioms CS.top_total
#print axioms CS.parseInline_total_of_nested
#print axioms CS.nested_eq
#print axioms CS.nocut_init
#print axioms CS.entryP_NF
#print axioms CS.nestHyps_noesc
#print axioms CS.parseInline_total_noesc
#print axioms parseInline_total_noesctick
#print axioms noEscTickTick_of_pfth
#print axioms docNoEscTickTick_of_src
#print axioms doc_total_noesctick
#print axioms doc_total_src_noesc
#print axioms doc_total_stock_nodouble

-- every content (no hypothesis on the text)
#check @parseInline_total
#check @memoSafe_of_coherent
#check @parseInline_total_stock
#check @doc_total_coherent_all
#check @doc_total_src_all
#check @doc_total_stock_notab
#print axioms ES.endHyp_holds
#print axioms ES.endEP_holds
#print axioms ES.stepEP_holds
#print axioms ES.backOK_BE
#print axioms ES.landHyp_holds
#print axioms ES.top_total
#print axioms ES.nested_eq
#print axioms ES.entryP_NF
#print axioms ES.nestHyps_all
#print axioms ES.epc_init
#print axioms ES.parseInlineG_eq_all
#print axioms ES.parseInline_total
#print axioms parseInline_total
#print axioms memoSafe_of_coherent
#print axioms parseInline_total_stock
#print axioms doc_total_coherent
#print axioms doc_total_coherent_src
#print axioms doc_total_stock_all
#print axioms doc_total_coherent_all
#print axioms doc_total_src_all
#print axioms doc_total_stock_notab
