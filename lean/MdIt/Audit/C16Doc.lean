import MdIt.Props.C16Doc

open MdIt.Inline.ES.C16Doc MdIt.Pipeline

#check @lookahead_quiet_run
#check @declined_quiet_run
#check @reach_frame_shape
#check @lookahead_real_agree_nested
#check @lookahead_real_agree_nested_link
#check @memo_entries_are_lookahead_steps
#check @lookahead_real_agree_top_partial
#check @reach_total
#check @reach_step_ok
#check @doc_lookahead_real_agree
#check @doc_lookahead_real_agree_stock
#check @trace_reach
#check @runTrace_reach
#check @enters_called
#check @arrives_called
#check @tokLoop_succ
#check @nested_agree_instance
#check @emphasis_run_instance
#check @top_agree_instance
#check @overlimit_entry_disagrees
#check @incoherent_lookahead_real_disagree

#print axioms lookahead_quiet_run
#print axioms declined_quiet_run
#print axioms reach_frame_shape
#print axioms lookahead_real_agree_nested
#print axioms lookahead_real_agree_nested_link
#print axioms memo_entries_are_lookahead_steps
#print axioms lookahead_real_agree_top_partial
#print axioms reach_total
#print axioms reach_step_ok
#print axioms doc_lookahead_real_agree
#print axioms doc_lookahead_real_agree_stock
#print axioms trace_reach
#print axioms runTrace_reach
#print axioms enters_called
#print axioms arrives_called
#print axioms tokLoop_succ
#print axioms nested_agree_instance
#print axioms emphasis_run_instance
#print axioms top_agree_instance
#print axioms overlimit_entry_disagrees
#print axioms incoherent_lookahead_real_disagree

-- section 7: the top frame
#check @reach_top_ifp
#check @lookahead_real_agree_top
#check @top_agree_codespan_instance
#check @doc_lookahead_real_agree_top
#check @doc_lookahead_real_agree_top_stock
#print axioms reach_top_ifp
#print axioms lookahead_real_agree_top
#print axioms top_agree_codespan_instance
#print axioms doc_lookahead_real_agree_top
#print axioms doc_lookahead_real_agree_top_stock
