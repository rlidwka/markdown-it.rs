import MdIt.Props.C06List
#check @MdIt.Block.Li.tau_in_line
#check @MdIt.Block.Li.tau_of_entry
#check @MdIt.Block.Li.tau_mono
#check @MdIt.Block.Li.tau_spec
#check @MdIt.Block.Li.hr_sim
#check @MdIt.Block.Li.bqRewrite_sim
#check @MdIt.Block.Li.itemRewrite_sim
#check @MdIt.Block.Li.tokenize_sim
#check @MdIt.Block.Li.linesT_itemDoc
#check @MdIt.Block.Li.byteLen_itemDoc
#check @MdIt.Block.Li.itemRewrite_first
#check @MdIt.Block.Li.item_commutes_gen
#check @MdIt.Block.Li.item_commutes_gen_parse
#check @MdIt.Block.Li.item_commutes_bullet
#check @MdIt.Block.Li.item_commutes_ordered
#print axioms MdIt.Block.Li.tau_in_line
#print axioms MdIt.Block.Li.tau_of_entry
#print axioms MdIt.Block.Li.tau_mono
#print axioms MdIt.Block.Li.tau_spec
#print axioms MdIt.Block.Li.hr_sim
#print axioms MdIt.Block.Li.bqRewrite_sim
#print axioms MdIt.Block.Li.itemRewrite_sim
#print axioms MdIt.Block.Li.tokenize_sim
#print axioms MdIt.Block.Li.linesT_itemDoc
#print axioms MdIt.Block.Li.byteLen_itemDoc
#print axioms MdIt.Block.Li.itemRewrite_first
#print axioms MdIt.Block.Li.item_commutes_gen
#print axioms MdIt.Block.Li.item_commutes_gen_parse
#print axioms MdIt.Block.Li.item_commutes_bullet
#print axioms MdIt.Block.Li.item_commutes_ordered
